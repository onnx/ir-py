/-
C16 — property theorems (symbolic dimension expressions).

* Expressions, evaluation, the parser, the printer, the tokenizer (Model/SymExpr.lean): `C16_partial`,
  `C16_eval_free`, `C16_int_ops`, `C16_int_eval`, `C16_parser_sound_complete`, `C16_print_parse`,
  `C16_print_parse_text`, `C16_fast_path`, `C16_tokenize_spec`, `C16_tokenize_render`, and totality with
  the linear fuel bound: `C16_parser_total`.
* The glue between Python operators and expressions (Model/SymDim.lean): `C16_overload_sem`,
  `C16_overload_dispatch`, `C16_overload_dispatch_bool` (bool operands, `isinstance(True, int)`),
  `C16_shape_evaluate`, `C16_simplify_guard`, `C16_eq_hash`.
* The tokenizer over an arbitrary character classification (Model/SymLexU.lean): `C16_tokenize_classes`.
* SymPy's surface forms (Model/SymExprSympy.lean): `C16_print_parse_sympy` (parse half alone:
  `C16_print_parse_sympy_partial`); symbolic negative exponents in a denominator (`M/K**N`):
  `C16_print_parse_sympy_symexp`, `C16_print_parse_sympy_refines`.

The predicates the statements use are defined beside their lemmas: `Lex`, `WfTok` (Lemmas/SymExprLex.lean,
SymExprToken.lean), `IdentStr` (SymExprText.lean), `BOp.den`, `pyIntOp`, `Operand.accepted`, `EvalSpec`
(Lemmas/SymDim.lean); the grammar `D`, `SWf`, `SWfX`, `denNZ` are in the models.

Outside every theorem (tested on every run): SymPy's construction / automatic simplification /
`subs` / `simplify` (that the object SymPy holds means what the operator tree means), CPython's
Unicode tables and operator dispatch.
-/
import IrVerif.Model.SymExpr
import IrVerif.Lemmas.SymExprArith
import IrVerif.Lemmas.SymExprSound
import IrVerif.Lemmas.SymExprPrint
import IrVerif.Lemmas.SymExprText
import IrVerif.Lemmas.SymExprInt
import IrVerif.Lemmas.SymExprLex
import IrVerif.Lemmas.SymDim
import IrVerif.Lemmas.SymLexU
import IrVerif.Lemmas.SymExprSympy
import IrVerif.Lemmas.SymExprSympyEval
namespace IrVerif.SymExpr

/-- **C16_partial**: binding some symbols first and the rest later gives the value of binding
    all of them at once (`b1` wins on overlap), for every expression and all bindings; and the
    residual's free symbols are exactly the free symbols of `e` that `b1` does not bind. -/
theorem C16_partial (b1 b2 : Env) (e : Expr) :
    eval (Env.union b1 b2) e = eval b2 (subst b1 e) ∧
    ∀ s, s ∈ free (subst b1 e) ↔ (s ∈ free e ∧ b1 s = none) :=
  ⟨eval_subst b1 b2 e, free_subst b1 e⟩

/-- **C16_eval_free**: evaluation looks at the bindings of the free symbols only (extra or
    different bindings of other names never matter) — `evaluate` substitutes by symbol name. -/
theorem C16_eval_free (env1 env2 : Env) (e : Expr) (h : ∀ s ∈ free e, env1 s = env2 s) :
    eval env1 e = eval env2 e :=
  eval_congr env1 env2 e h

/-- **C16_int_ops**: the evaluator's `//`, `%`, floor, ceiling, trunc, max, min have Python's integer
    semantics.  For integers `a`, `b` (`b ≠ 0`): `a // b` and `a % b` are floor division and its
    remainder (`Int.fdiv` / `Int.fmod`), characterised by `a = b * q + r` with the remainder taking
    the sign of the divisor; a zero divisor has no value.  For every rational `x`: `floor x ≤ x <
    floor x + 1`, `ceiling x - 1 < x ≤ ceiling x`, `trunc` is `floor` for `x ≥ 0` and `ceiling` for
    `x ≤ 0` and equals the `sign(x) * floor(Abs(x))` the code builds; all three are the identity on
    integers; `max` / `min` are the integer maximum / minimum. -/
theorem C16_int_ops (a b : Int) (x : Rat) :
    (b ≠ 0 →
      evalBin .fdiv a b = some ((Int.fdiv a b : Int) : Rat) ∧
      evalBin .mod a b = some ((Int.fmod a b : Int) : Rat) ∧
      a = b * Int.fdiv a b + Int.fmod a b ∧
      (0 < b → 0 ≤ Int.fmod a b ∧ Int.fmod a b < b) ∧
      (b < 0 → b < Int.fmod a b ∧ Int.fmod a b ≤ 0)) ∧
    (evalBin .fdiv x 0 = none ∧ evalBin .mod x 0 = none ∧ evalBin .div x 0 = none) ∧
    (∃ n : Int, evalUn .floor x = some (n : Rat) ∧ (n : Rat) ≤ x ∧ x < (n : Rat) + 1) ∧
    (∃ n : Int, evalUn .ceil x = some (n : Rat) ∧ (n : Rat) - 1 < x ∧ x ≤ (n : Rat)) ∧
    (∃ n : Int, evalUn .trunc x = some (n : Rat) ∧
      (0 ≤ x → evalUn .floor x = some (n : Rat)) ∧ (x ≤ 0 → evalUn .ceil x = some (n : Rat))) ∧
    evalUn .trunc x = some (ratSign x * (((ratAbs x).floor : Int) : Rat)) ∧
    (evalUn .floor a = some (a : Rat) ∧ evalUn .ceil a = some (a : Rat) ∧
      evalUn .trunc a = some (a : Rat)) ∧
    (evalBin .max a b = some ((max a b : Int) : Rat) ∧
      evalBin .min a b = some ((min a b : Int) : Rat)) := by
  refine ⟨?_, ?_, ?_, ?_, ?_, ?_, ?_, ?_⟩
  · intro hb
    exact ⟨evalBin_int_fdiv a b hb, evalBin_int_mod a b hb, (Int.mul_fdiv_add_fmod a b).symm,
      fun hpos => ⟨Int.fmod_nonneg_of_pos a hpos, Int.fmod_lt_of_pos a hpos⟩,
      fun hneg => fmod_bounds_neg a hneg⟩
  · simp [evalBin]
  · exact ⟨x.floor, rfl, Rat.floor_le x, lt_floor_add_one' x⟩
  · refine ⟨-((-x).floor), rfl, ?_, ?_⟩
    · have := lt_floor_add_one' (-x); push_cast; linarith
    · have := Rat.floor_le (-x); push_cast; linarith
  · refine ⟨ratTrunc x, rfl, ?_, ?_⟩
    · intro h; simp [evalUn, ratTrunc_of_nonneg h]
    · intro h; simp [evalUn, ratTrunc_of_nonpos h]
  · simp [evalUn, sign_mul_floor_abs]
  · exact ⟨evalUn_int .floor a (by decide), evalUn_int .ceil a (by decide),
      evalUn_int .trunc a (by decide)⟩
  · exact ⟨by simp only [evalBin, ite_le_cast, max_def], by simp only [evalBin, ite_le_cast, min_def]⟩


/-- **C16_int_eval**: integer semantics at the level of whole expressions.  For every expression of
    the integer fragment (dimensions and integers combined with `+ - * // %`, negation, floor, ceil,
    trunc, abs, sign, max, min — any depth, any mix) and every integer binding, the exact rational
    evaluator returns precisely what Python integer arithmetic returns (`//` = floor division
    `Int.fdiv`, `%` = `Int.fmod`, floor / ceil / trunc the identity), and has no value exactly when
    Python raises `ZeroDivisionError` or a symbol is unbound. -/
theorem C16_int_eval (env : Env) (e : Expr) (h : intFrag e = true) :
    eval env e = (evalInt env e).map (fun (z : Int) => (z : Rat)) :=
  eval_eq_evalInt env e h

/-- the fragment is not empty and contains the sign-sensitive cases: `(-7) // 2 = -4`, `-7 % 2 = 1`,
    `7 % -2 = -1` -/
example : evalInt Env.empty (.bin .fdiv (.num (-7)) (.num 2)) = some (-4) := by decide
example : evalInt Env.empty (.bin .mod (.num (-7)) (.num 2)) = some 1 := by decide
example : evalInt Env.empty (.bin .mod (.num 7) (.num (-2))) = some (-1) := by decide
example : intFrag (.bin .mod (.un .trunc (.bin .fdiv (.sym "N") (.num (-2)))) (.sym "M")) = true := by decide

/-- **C16_parser_sound_complete**: the parser decides exactly the documented grammar and gives
    every sentence its standard meaning.  For every derivation tree `d` of

        expr -> term (('+'|'-') term)*        term -> unary (('*'|'/'|'//'|'%') unary)*
        unary -> '-' unary | power            power -> primary ('**' unary)?
        primary -> NUMBER | IDENT | '(' expr ')' | f '(' args ')'     (function table with arities)

    `parseTokens (flatten d) = some (sem d)`, where `sem` is the standard reading (iterations
    associate to the left, `**` to the right and binds tighter than unary minus); and a token
    list with no derivation is rejected.  No bound on size or depth: the fuel `parseTokens`
    starts with is proved sufficient. -/
theorem C16_parser_sound_complete :
    (∀ d : D .expr, parseTokens d.flatten = some (d.sem : Expr)) ∧
    (∀ ts : List Tok, (¬ ∃ d : D .expr, d.flatten = ts) → parseTokens ts = none) ∧
    (∀ (ts : List Tok) (e : Expr), parseTokens ts = some e ↔
      ∃ d : D .expr, d.flatten = ts ∧ (d.sem : Expr) = e) := by
  refine ⟨parseTokens_complete, ?_, ?_⟩
  · intro ts hno
    cases h : parseTokens ts with
    | none => rfl
    | some e =>
      obtain ⟨d, hd, _⟩ := parseTokens_sound h
      exact absurd ⟨d, hd⟩ hno
  · intro ts e
    exact ⟨parseTokens_sound, Derives.parse⟩

/-- precedence and associativity are the standard ones: concrete readings of the grammar -/
example : parseTokens [.op .minus, .ident "x", .op .dstar, .num 2]
    = some (.un .neg (.bin .pow (.sym "x") (.num 2))) := by decide
example : parseTokens [.num 2, .op .dstar, .num 3, .op .dstar, .num 2]
    = some (.bin .pow (.num 2) (.bin .pow (.num 3) (.num 2))) := by decide
example : parseTokens [.ident "a", .op .minus, .ident "b", .op .minus, .ident "c"]
    = some (.bin .sub (.bin .sub (.sym "a") (.sym "b")) (.sym "c")) := by decide
example : parseTokens [.ident "a", .op .dslash, .ident "b", .op .percent, .ident "c"]
    = some (.bin .mod (.bin .fdiv (.sym "a") (.sym "b")) (.sym "c")) := by decide
/-- non-vacuity of the rejection half: a token list without derivation exists -/
example : parseTokens [.ident "a", .ident "b"] = none := by decide
example : ¬ ∃ d : D .expr, d.flatten = [.ident "a", .ident "b"] := by
  rintro ⟨d, hd⟩
  have h := parseTokens_complete d
  rw [hd] at h
  have hn : parseTokens [.ident "a", .ident "b"] = none := by decide
  rw [hn] at h
  cases h

/-- **C16_print_parse**: printing with minimal parentheses and parsing back preserves every
    evaluation.  `parseTokens (pp e)` succeeds for every expression, returns `norm e` (negative
    literals read back as negations, `trunc` as `sign * floor(Abs)`), and `norm e` evaluates like
    `e` under every binding (complete or partial: unbound symbols give "no value" on both sides).
    `pp` is a reference printer of the model (every tree has a text the parser reads back), not a
    transcription: the library prints through SymPy's `str`, which is `ppSympy` below. -/
theorem C16_print_parse (e : Expr) :
    parseTokens (pp e) = some (norm e) ∧ ∀ env : Env, eval env (norm e) = eval env e :=
  ⟨parseTokens_pp e, fun env => eval_norm env e⟩

/-- parentheses are really minimal where it matters: `-(x**2)` prints without, `(-x)**2` with -/
example : pp (.un .neg (.bin .pow (.sym "x") (.num 2))) = [.op .minus, .ident "x", .op .dstar, .num 2] := by
  decide
example : pp (.bin .pow (.un .neg (.sym "x")) (.num 2))
    = [.lparen, .op .minus, .ident "x", .rparen, .op .dstar, .num 2] := by decide


/-- **C16_print_parse_text**: the same at the level of text, through the tokenizer and
    `parse_symbolic_expression` itself: for every expression whose symbol names are identifier
    texts (a letter or `_`, then letters, digits, `_`, `.`), the printed text (tokens separated by
    single spaces) parses back to `norm e`, which evaluates like `e` under every binding. -/
theorem C16_print_parse_text (e : Expr) (h : ∀ s ∈ free e, IdentStr s) :
    parseChars (render (pp e)) = some (norm e) ∧ ∀ env : Env, eval env (norm e) = eval env e :=
  ⟨parseChars_render_pp e h, fun env => eval_norm env e⟩

/-- the hypothesis is satisfiable by the names the code base uses (dots included) -/
example : IdentStr "a.b_1" := ⟨'a', ['.', 'b', '_', '1'], by decide, by decide, by decide⟩
example : parseChars (render (pp (.un .neg (.bin .pow (.sym "N") (.num 2)))))
    = some (.un .neg (.bin .pow (.sym "N") (.num 2))) :=
  (C16_print_parse_text _ (by
    intro s hs
    simp [free] at hs
    subst hs
    exact ⟨'N', [], by decide, by decide, by decide⟩)).1

/-- **C16_fast_path**: the `isidentifier` shortcut of `parse_symbolic_expression` never changes the
    result: on every text it returns what tokenizing and parsing would return. -/
theorem C16_fast_path (cs : List Char) : parseChars cs = (tokenize cs).bind parseTokens :=
  parseChars_eq cs

/-- **C16_tokenize_spec**: the tokenizer is exactly the longest-match lexer `Lex` (an inductive
    specification that does not mention the implementation: blanks are dropped, a number / an
    identifier is a MAXIMAL run of its character class, `//` and `**` win over `/` and `*`, every other
    token is one character, nothing else is a token) — for every ASCII text, with any whitespace and
    any adjacency; a text the specification gives no token list raises. -/
theorem C16_tokenize_spec (cs : List Char) :
    (∀ ts, tokenize cs = some ts ↔ Lex cs ts) ∧ (tokenize cs = none ↔ ¬ ∃ ts, Lex cs ts) := by
  refine ⟨tokenize_iff_lex cs, ?_⟩
  constructor
  · rintro h ⟨ts, hl⟩
    rw [(tokenize_iff_lex cs ts).mpr hl] at h
    cases h
  · intro h
    cases ht : tokenize cs with
    | none => rfl
    | some ts => exact absurd ⟨ts, (tokenize_iff_lex cs ts).mp ht⟩ h

/-- maximal munch, concretely: `N//M` is one `//`; `N***M` is `**` then `*`; `N/ /M` is two `/`;
    digits glue (`12 3` vs `123`); a dot continues an identifier but cannot start one -/
example : tokenize ['N', '/', '/', 'M'] = some [.ident "N", .op .dslash, .ident "M"] := by decide
example : tokenize ['N', '*', '*', '*', 'M'] = some [.ident "N", .op .dstar, .op .star, .ident "M"] := by
  decide
example : tokenize ['N', '/', ' ', '/', 'M'] = some [.ident "N", .op .slash, .op .slash, .ident "M"] := by
  decide
example : tokenize ['1', '2', ' ', '3'] = some [.num 12, .num 3] := by decide
example : tokenize ['a', '.', '1'] = some [.ident "a.1"] := by decide
example : tokenize ['.', '5'] = none := by decide
example : ¬ ∃ ts, Lex ['.', '5'] ts := (C16_tokenize_spec ['.', '5']).2.mp (by decide)

/-- **C16_tokenize_render**: the tokenizer reads back every token list written with single spaces
    (numbers in decimal, identifier tokens carrying identifier texts). -/
theorem C16_tokenize_render (ts : List Tok) (h : ∀ t ∈ ts, WfTok t) : tokenize (render ts) = some ts :=
  tokenize_render ts h


/-- **C16_parser_total**: the parser never gets stuck.  The fuel `parseTokens` starts with is
    linear in the input (`5 * length + 8`: five grammar levels per token, the constant is slack) and is enough for EVERY
    token list, not only for sentences: no larger (or smaller) amount of fuel makes the recursive
    descent accept anything `parseTokens` rejects, or return a different tree — so `none` always
    means a parse error of the text, never exhaustion; and from that bound on the answer no longer
    depends on the fuel.  Likewise the tokenizer with any fuel above the text length. -/
theorem C16_parser_total (ts : List Tok) (cs : List Char) :
    (∀ g e, parseExpr g ts = some (e, []) → parseTokens ts = some e) ∧
    (∀ g, fuelFor ts ≤ g →
      (match parseExpr g ts with | some (e, []) => some e | _ => none) = parseTokens ts) ∧
    (∀ g toks, tokenizeAux g cs = some toks → tokenize cs = some toks) ∧
    (∀ g, cs.length < g → tokenizeAux g cs = tokenize cs) :=
  ⟨fun _ _ h => parseTokens_of_parseExpr h, fun _ hg => parseExpr_fuel_indep hg,
    fun _ _ h => tokenize_of_tokenizeAux h, fun _ hg => tokenizeAux_eq_tokenize hg⟩

/-- a rejected text stays rejected with a thousand times the fuel; an accepted one keeps its tree -/
example : parseExpr 5000 [.ident "a", .ident "b"] = some (.sym "a", [.ident "b"]) := by decide
example : parseTokens [.lparen, .ident "a"] = none := by decide

/-! ## The operator overloads, `evaluate`, `Shape` -/

/-- **C16_overload_sem**: every operator overload of `SymbolicDim` denotes the integer operation it
    is named after.  For a dimension with expression `a`, any accepted right operand `y` (an `int`
    literal or a dimension, standing for the expression `b`), any `int` left operand `n` and every
    operator `o` other than `**` (which has no overload):
    * the forward method `a.__o__(y)` (= the Python expression `a o y`) returns a dimension whose
      tree evaluates, under every binding, like `a o b` with the model's `+ - * / // %` — in
      particular `floor(a / b)` built for `//` is floor division, `Rational(1, n) * a` built for
      `a / n` is true division — and on integer values `x`, `z` gives exactly Python's own result
      `x o z` (`Int.fdiv` / `Int.fmod` with the divisor's sign, `ZeroDivisionError` = no value);
    * the reflected method `a.__ro__(n)` (= `n o a`) likewise denotes `n o a` — `n + a` and `n * a`,
      which the code computes as `a + n` and `a * n`, included;
    * `-a`, `math.floor(a)`, `math.ceil(a)`, `math.trunc(a)` evaluate to `-q`, `floor q`,
      `ceiling q = -floor(-q)` and `trunc q` (toward zero) of the exact value `q` of `a`; the
      `sign(a) * floor(Abs(a))` tree built for trunc is that truncation. -/
theorem C16_overload_sem (o : BOp) (ho : o ≠ .pow) (u : UOp) (a : Expr) (n : Int) (y : Operand)
    (b : Expr) (hy : y.asExpr = some b) :
    (∃ t, dunder o (.expr a) y = .ok (.expr t) ∧ binop o (.dim (.expr a)) y = .ok (.expr t) ∧
      ∀ env, eval env t = eval env (.bin o.den a b) ∧
        ∀ x z : Int, eval env a = some (x : Rat) → eval env b = some (z : Rat) →
          eval env t = pyIntOp o x z) ∧
    (∃ t, rdunder o (.expr a) (.int n) = .ok (.expr t) ∧
      binop o (.int n) (.dim (.expr a)) = .ok (.expr t) ∧
      ∀ env, eval env t = eval env (.bin o.den (.num n) a) ∧
        ∀ x : Int, eval env a = some (x : Rat) → eval env t = pyIntOp o n x) ∧
    (∃ t, unop u (.expr a) = .ok (.expr t) ∧ pyUnop u (.expr a) = .ok (.expr t) ∧
      ∀ env, eval env t = eval env (.un u.den a) ∧
        ∀ q : Rat, eval env a = some q → eval env t = some (match u with
          | .neg => -q
          | .floor => ((q.floor : Int) : Rat)
          | .ceil => ((-((-q).floor) : Int) : Rat)
          | .trunc => ((ratTrunc q : Int) : Rat))) := by
  refine ⟨?_, ?_, ?_⟩
  · obtain ⟨t, ht, hsem⟩ := dunder_expr_ok o ho a y b hy
    refine ⟨t, ht, by simp [binop, ht, Out.toPy], fun env => ⟨hsem env, ?_⟩⟩
    intro x z hx hz
    rw [hsem env]
    simp only [eval, hx, hz]
    exact evalBin_den_int o x z ho
  · obtain ⟨t, ht, hsem⟩ := rdunder_expr_ok o ho a n
    refine ⟨t, ht, by simp [binop, ht, Out.toPy], fun env => ⟨hsem env, ?_⟩⟩
    intro x hx
    rw [hsem env]
    simp only [eval, hx]
    exact evalBin_den_int o n x ho
  · refine ⟨unTree u a, rfl, rfl, fun env => ⟨eval_unTree env u a, ?_⟩⟩
    intro q hq
    rw [eval_unTree env u a]
    simp only [eval, hq]
    cases u <;> rfl

/-- the hypotheses are satisfiable and the trees are the ones the code builds -/
example : dunder .floordiv (.expr (.sym "N")) (.int 2) =
    .ok (.expr (.un .floor (.bin .div (.sym "N") (.num 2)))) := rfl
example : dunder .truediv (.expr (.sym "N")) (.int 2) =
    .ok (.expr (.bin .mul (.bin .div (.num 1) (.num 2)) (.sym "N"))) := rfl
example : binop .add (.int 3) (.dim (.expr (.sym "N"))) = .ok (.expr (.bin .add (.sym "N") (.num 3))) := rfl
example : binop .mod (.int 7) (.dim (.expr (.sym "N"))) = .ok (.expr (.bin .mod (.num 7) (.sym "N"))) := rfl
example : pyIntOp .floordiv (-7) 2 = some (-4 : Int) := by decide
example : (Operand.dim (.expr (.sym "M"))).asExpr = some (.sym "M") := rfl

/-- **C16_overload_dispatch**: which operand mixes the operators accept and which raise.  Every
    operator except `**` accepts every mix of `int` and dimension operands on either side (at least
    one dimension, texts that parse) and returns a dimension, which is the unknown dimension exactly
    when an operand is; `**` (no `__pow__` / `__rpow__`) is a TypeError for all operands; a foreign
    operand (float, str, None ...) next to a known dimension is a TypeError on either side; a text
    the parser rejects raises ValueError out of every overload that needs its expression. -/
theorem C16_overload_dispatch (o : BOp) (x y : Operand) (a : Expr) (u : UOp) :
    (o ≠ .pow → x.accepted = true → y.accepted = true → (x.isDim = true ∨ y.isDim = true) →
      ∃ d, binop o x y = .ok d ∧ d ≠ .bad ∧
        (d = .unknown ↔ (x.isUnknown = true ∨ y.isUnknown = true))) ∧
    binop .pow x y = .typeError ∧
    (binop o (.dim (.expr a)) .other = .typeError ∧ binop o .other (.dim (.expr a)) = .typeError) ∧
    (o ≠ .pow → binop o (.dim .bad) y = .valueError ∧
      binop o (.dim (.expr a)) (.dim .bad) = .valueError) ∧
    (pyUnop u .unknown = .ok .unknown ∧ pyUnop u .bad = .valueError) := by
  refine ⟨fun ho hx hy hd => binop_accepts o ho x y hx hy hd, binop_pow x y, binop_other o a, ?_, ?_⟩
  · intro ho
    constructor
    · cases o <;> first | exact absurd rfl ho | rfl
    · cases o <;> first | exact absurd rfl ho | rfl
  · exact ⟨rfl, rfl⟩

/-- the quirk the transcription keeps: an unknown dimension on the LEFT absorbs even a foreign
    operand, and so do the reflected `- / // %`; the reflected `+` and `*` test the type first -/
example : binop .add (.dim .unknown) .other = .ok .unknown := rfl
example : binop .sub .other (.dim .unknown) = .ok .unknown := rfl
example : binop .add .other (.dim .unknown) = .typeError := rfl

/-- **C16_overload_dispatch_bool**: Python's bool-as-int in the overload dispatch.  `True` / `False`
    are `int`s for `isinstance(other, int)`, so a bool operand goes down the `int` branches of every
    overload, on either side (`True + N` reaches `__radd__`, which delegates to `__add__`): the
    unknown dimension absorbs it, an unparseable text raises ValueError, exactly as with an `int`;
    next to a known dimension SymPy's own operator refuses the bool - TypeError for every operator on
    either side - except `dim / bool`, which the code computes as `Rational(1, other) * expr`: the
    tree of `dim / 1` resp. `dim / 0`, evaluating like the dimension itself resp. never.  Hence:
    wherever a bool operand is accepted at all, the result is the result for the `int` it is
    (together with `C16_overload_dispatch`, whose `Operand` ranges over bools too, this decides
    every mix of int / bool / dimension / foreign operands). -/
theorem C16_overload_dispatch_bool (o : BOp) (b : Bool) (a : Expr) (x : Operand) (d : Dim) :
    (o ≠ .pow →
      binop o (.dim .unknown) (.bool b) = .ok .unknown ∧
      binop o (.bool b) (.dim .unknown) = .ok .unknown ∧
      binop o (.dim .bad) (.bool b) = .valueError ∧
      binop o (.bool b) (.dim .bad) = .valueError) ∧
    (o ≠ .truediv → binop o (.dim (.expr a)) (.bool b) = .typeError) ∧
    binop o (.bool b) (.dim (.expr a)) = .typeError ∧
    (binop .truediv (.dim (.expr a)) (.bool b) =
        binop .truediv (.dim (.expr a)) (.int (boolInt b)) ∧
      binop .truediv (.dim (.expr a)) (.bool b) =
        .ok (.expr (fwdTreeInt .truediv a (boolInt b))) ∧
      ∀ env, eval env (fwdTreeInt .truediv a (boolInt true)) = eval env a ∧
        eval env (fwdTreeInt .truediv a (boolInt false)) = none) ∧
    (binop o x (.bool b) = .ok d → binop o x (.int (boolInt b)) = .ok d) ∧
    (binop o (.bool b) x = .ok d → binop o (.int (boolInt b)) x = .ok d) ∧
    (Operand.bool b).accepted = false := by
  refine ⟨fun ho => binop_bool_absorb o ho b, (binop_bool_refused o b a).1, (binop_bool_refused o b a).2,
    ⟨binop_bool_truediv b a, rfl, fun env => eval_truediv_bool env a⟩,
    (binop_bool_as_int o b x d).1, (binop_bool_as_int o b x d).2, rfl⟩

/-- both behaviours occur: `N / True` is a dimension, `N + True` and `True - N` raise TypeError,
    `SymbolicDim(None) + True` is the unknown dimension -/
example : binop .truediv (.dim (.expr (.sym "N"))) (.bool true) =
    .ok (.expr (.bin .mul (.bin .div (.num 1) (.num 1)) (.sym "N"))) := rfl
example : binop .add (.dim (.expr (.sym "N"))) (.bool true) = .typeError := rfl
example : binop .sub (.bool true) (.dim (.expr (.sym "N"))) = .typeError := rfl
example : binop .add (.bool true) (.dim .unknown) = .ok .unknown := rfl

/-- **C16_shape_evaluate**: `Shape.evaluate` is dimension-wise `evaluate`.  The loop returns a shape
    exactly when every dimension evaluates (it raises exactly when some dimension holds a text the
    parser rejects), and then position by position: an `int` stays, the unknown dimension stays, and
    a dimension with expression `e` becomes the `int` `z` exactly when all its symbols are bound
    and its exact value is the integer `z`; otherwise it becomes a residual dimension that
    evaluates later like `e` under the joined bindings and whose free symbols are exactly the
    unbound symbols of `e`.  Consequently the result has the same rank, its `free_symbols()` are
    exactly the unbound ones of the original shape, and a static shape is returned unchanged;
    `is_dynamic` is the negation of `is_static` (= every dimension is an `int`). -/
theorem C16_shape_evaluate (b : Env) (sh : Shape) :
    (∀ sh', Shape.evaluate b sh = some sh' ↔
      List.Forall₂ (fun d d' => SDim.evaluate b d = some d') sh sh') ∧
    (Shape.evaluate b sh = none ↔ SDim.dim .bad ∈ sh) ∧
    (∀ n, SDim.evaluate b (.int n) = some (.int n)) ∧
    SDim.evaluate b (.dim .unknown) = some (.dim .unknown) ∧
    (∀ e, EvalSpec b e ((Dim.expr e).evaluate b)) ∧
    (∀ sh', Shape.evaluate b sh = some sh' → sh'.length = sh.length ∧
      ∃ l l', Shape.freeSymbols sh = some l ∧ Shape.freeSymbols sh' = some l' ∧
        ∀ s, s ∈ l' ↔ (s ∈ l ∧ b s = none)) ∧
    (Shape.isStatic sh = true → Shape.evaluate b sh = some sh) ∧
    Shape.isDynamic sh = sh.any (fun d => !d.isInt) := by
  refine ⟨shape_evaluate_iff b sh, shape_evaluate_none b sh, fun _ => rfl, rfl,
    evaluate_spec b, ?_, ?_, ?_⟩
  · intro sh' h
    have hf := (shape_evaluate_iff b sh sh').mp h
    obtain ⟨h1, h2, h3⟩ := forall2_evaluate_free b hf
    obtain ⟨l, hl, hlm⟩ := shape_freeSymbols_spec sh h1
    obtain ⟨l', hl', hlm'⟩ := shape_freeSymbols_spec sh' h2
    refine ⟨hf.length_eq.symm, l, l', hl, hl', fun s => ?_⟩
    rw [hlm' s, hlm s, h3 s]
  · intro hs
    exact (shape_evaluate_iff b sh sh).mpr (shape_evaluate_static b sh hs)
  · simp only [Shape.isDynamic, Shape.isStatic, List.not_all_eq_any_not]

/-- both outcomes of a dimension occur: complete with an integer value, and residual -/
example : (Dim.expr (.bin .add (.sym "N") (.num 1))).evaluate (Env.ofList [("N", 10)]) = .int 11 := by
  decide +kernel
example : (Dim.expr (.bin .add (.sym "N") (.sym "M"))).evaluate (Env.ofList [("N", 3)]) =
    .dim (.expr (.bin .add (.num 3) (.sym "M"))) := by decide +kernel
example : Shape.evaluate (Env.ofList [("N", 3)]) [.int 7, .dim .unknown, .dim (.expr (.sym "N"))] =
    some [.int 7, .dim .unknown, .int 3] := by decide +kernel
example : Shape.evaluate Env.empty [.dim .bad] = none := by decide

/-- **C16_simplify_guard**: `SymbolicDim.simplify()` keeps every evaluation whenever SymPy's
    `simplify` does (`simp`, external — tested on every run), whatever the printability test of its
    result says: the fallback to the original expression is value-preserving by construction. -/
theorem C16_simplify_guard (simp : Expr → Expr) (printable : Expr → Bool)
    (hsimp : ∀ e env, eval env (simp e) = eval env e) (d d' : Dim)
    (h : Dim.simplify simp printable d = some d') :
    (d = .unknown ∧ d' = .unknown) ∨
      ∃ e e', d = .expr e ∧ d' = .expr e' ∧ ∀ env, eval env e' = eval env e := by
  cases d with
  | unknown => left; simp [Dim.simplify] at h; exact ⟨rfl, h.symm⟩
  | bad => simp [Dim.simplify] at h
  | expr e =>
    right
    simp only [Dim.simplify] at h
    by_cases hp : printable (simp e) = true
    · simp only [hp, if_true, Option.some.injEq] at h
      exact ⟨e, simp e, rfl, h.symm, fun env => hsimp e env⟩
    · simp only [hp, Bool.false_eq_true, if_false, Option.some.injEq] at h
      exact ⟨e, e, rfl, h.symm, fun _ => rfl⟩

/-- the hypothesis is satisfiable (the identity) and the guard can take either branch -/
example : Dim.simplify id (fun _ => false) (.expr (.sym "N")) = some (.expr (.sym "N")) := rfl

/-- **C16_eq_hash**: equality of dimensions is equality of their texts, hence an equivalence
    relation consistent with `__hash__` (equal dimensions hash the same key), with comparing to a
    `str` (`SymbolicDim(s) == s`, same hash key as `s`) and to `None`. -/
theorem C16_eq_hash (v w x : Option String) (s : String) :
    dimEq v (.dim v) = true ∧
    (dimEq v (.dim w) = dimEq w (.dim v)) ∧
    (dimEq v (.dim w) = true → dimEq w (.dim x) = true → dimEq v (.dim x) = true) ∧
    (dimEq v (.dim w) = true → dimHashKey v = dimHashKey w) ∧
    (dimEq v (.str s) = true ↔ dimHashKey v = some s) ∧
    (dimEq v .none = true ↔ dimHashKey v = none) ∧
    dimEq v .other = false := by
  refine ⟨by simp [dimEq], ?_, ?_, ?_, ?_, ?_, rfl⟩
  · simp only [dimEq]; exact Bool.eq_iff_iff.mpr ⟨fun h => by simpa using (by simpa using h : v = w).symm,
      fun h => by simpa using (by simpa using h : w = v).symm⟩
  · simp only [dimEq, beq_iff_eq]; intro h1 h2; exact h1.trans h2
  · simp only [dimEq, beq_iff_eq, dimHashKey]; exact id
  · simp only [dimEq, beq_iff_eq, dimHashKey]
  · simp only [dimEq, dimHashKey, Option.isNone_iff_eq_none]

/-! ## The tokenizer over a character classification -/

/-- **C16_tokenize_classes**: the tokenizer transcribed over an arbitrary classification of
    characters (CPython's `str.isspace / isdigit / isalpha / isalnum / isidentifier`, `int()` of a
    digit run and `str.isidentifier` of the whole text as parameters — the form that is compared with the real tokenizer on
    non-ASCII text) is, for the ASCII classification, exactly the ASCII tokenizer and
    `parse_symbolic_expression` model that every other C16 theorem is about. -/
theorem C16_tokenize_classes (cs : List Char) :
    tokenizeK asciiClass cs = tokenize cs ∧
    parseCharsK asciiClass (isIdentifier cs) cs = parseChars cs := by
  refine ⟨tokenizeK_ascii cs, ?_⟩
  by_cases h : isIdentifier cs = true
  · simp [parseCharsK, parseChars, h]
  · simp only [parseCharsK, parseChars, h, tokenizeK_ascii]
    cases tokenize cs <;> rfl

/-- a classification under which the parametric tokenizer differs from the ASCII reading: a digit
    `int()` refuses makes the number token raise; a numeric character continues an identifier -/
example : tokenizeK (fun c => if c = '²' then .digit none else asciiClass c) ['N', '+', '²'] = none := by
  decide +kernel
example : tokenizeK (fun c => if c = '½' then .numeric else asciiClass c) ['N', '½'] =
    some [.ident "N½"] := by decide +kernel
example : tokenizeK (fun c => if c = '½' then .numeric else asciiClass c) ['½'] = none := by decide +kernel

/-! ## SymPy's surface text -/

/-- **C16_print_parse_sympy_partial**: the exact surface text SymPy's `str()` emits for this
    fragment parses.  `ppSympy` transcribes SymPy's StrPrinter token by token (`_print_Add` with
    sign extraction `N - 1`, `-N**2 + M`; `_print_Mul` with sign, rational coefficient split
    `3*N/4`, `N/2 + 1/2`, denominators `N/(2*M)`, `M/N**2`, parentheses at precedence <= 50
    `2*(Mod(N, 3))`; `_print_Pow` `1/N`, `2**(-N)`, `(N + 1)**2`; `floor ceiling Abs sign Mod Max Min`
    calls) from the SymPy object `s` (external; `SWf` = the canonical-form facts used, decidable,
    evaluated on every generated case).  Proved: the model parser accepts that text and returns
    exactly the tree `surf s`.  This is the parse half only; with the value half,
    `∀ env, eval env (surf s) = eval env (sden s)` (`Lemmas/SymExprSympyEval.lean`), it is
    `C16_print_parse_sympy` below.  Token-exactness of `ppSympy` against the real `str()` is
    compared on every run (driver `sym.sympy_pp`). -/
theorem C16_print_parse_sympy_partial (s : SExpr) (h : SWf s) :
    parseTokens (ppSympy s) = some (surf s) :=
  parse_ppSympy_surf s h

/-- the hypothesis holds on SymPy's canonical forms, e.g. `-N**2`, `N/2 + 1/2`, `2*(Mod(N, 3))` -/
example : SWf (.mul [.int (-1), .pow (.sym "N") (.int 2)]) := by decide
example : ppSympy (.mul [.int (-1), .pow (.sym "N") (.int 2)]) =
    [.op .minus, .ident "N", .op .dstar, .num 2] := by decide
example : SWf (.add [.mul [.rat 1 2, .sym "N"], .rat 1 2]) := by decide
example : ppSympy (.add [.mul [.rat 1 2, .sym "N"], .rat 1 2]) =
    [.ident "N", .op .slash, .num 2, .op .plus, .num 1, .op .slash, .num 2] := by decide
example : ppSympy (.mul [.int 2, .fn .mod [.sym "N", .int 3]]) =
    [.num 2, .op .star, .lparen, .ident "Mod", .lparen, .ident "N", .comma, .num 3, .rparen, .rparen] := by
  decide

/-- **C16_print_parse_sympy**: the exact surface text
    SymPy's `str()` emits for this fragment parses back to an expression with the same evaluations.
    For every well-formed SymPy tree `s` (`SWf`, `ppSympy`: see `C16_print_parse_sympy_partial`) the
    model parser accepts the text `ppSympy s` and the tree it returns evaluates, under EVERY binding - complete, partial (unbound symbols: no value on both
    sides), zero and negative values included - exactly like the meaning `sden s` of the SymPy
    object: reading `-3*N/4` as `((-3)*N)/4`, `a - b` for `a + (-b)`, `x/(c*d)` for
    `x * c**-1 * d**-1`, `1/N` for `N**-1`, `M/N**2` for `M * N**-2` (no value on both sides at
    `N = 0`) preserves the exact value.  `SWf` includes the `sqrt` spellings and Rational
    exponents: `sqrt(N)`, `1/sqrt(N)`, `M/sqrt(N)`, `N**(1/3)`, `M/N**(2/3)`
    (`Pow(b, 1/2)` means the model's `sqrt`, exact when the value is a rational square). -/
theorem C16_print_parse_sympy (s : SExpr) (h : SWf s) :
    ∃ t, parseTokens (ppSympy s) = some t ∧ ∀ env : Env, eval env t = eval env (sden s) :=
  ⟨surf s, parse_ppSympy_surf s h, fun env => eval_surf s h env⟩

/-- the hypothesis holds on the `sqrt` shapes; the meaning of `1/sqrt(N)` at `N = 4` is `1/2`, and
    `M/N**2` has no value at `N = 0` on either side -/
example : SWf (.mul [.sym "M", .pow (.sym "N") (.rat (-1) 2)]) := by decide
example : ppSympy (.mul [.sym "M", .pow (.sym "N") (.rat (-1) 2)]) =
    [.ident "M", .op .slash, .ident "sqrt", .lparen, .ident "N", .rparen] := by decide
example : sden (.pow (.sym "N") (.rat (-1) 2)) = .bin .div (.num 1) (.un .sqrt (.sym "N")) := by decide
example : eval (Env.ofList [("N", 0), ("M", 3)]) (surf (.mul [.sym "M", .pow (.sym "N") (.int (-2))]))
    = none := by decide +kernel
example : eval (Env.ofList [("N", 0), ("M", 3)]) (sden (.mul [.sym "M", .pow (.sym "N") (.int (-2))]))
    = none := by decide +kernel

/-- **C16_print_parse_sympy_symexp**: symbolic negative exponents in a denominator.  SymPy prints
    `M * K**(-N)` as `M/K**N` (`apow` in `_print_Mul`: every power whose exponent has a negative
    coefficient goes below the fraction bar with the exponent negated: `M/K**(2*N)`, `M/K**(N/2)`);
    `SWfX` is `SWf` without the restriction to literal exponents there.  The parser accepts these
    texts as well and returns `surf s`, and the tree evaluates like the SymPy object's meaning under
    every binding that makes no such denominator's BASE zero (`denNZ env s`, decidable, evaluated per
    case and binding): `0**(positive)` is `0` but `1/0**(negative)` has no value, so at a zero base
    the strict evaluator distinguishes the two readings (last example below) - for the symbols the
    parser creates (positive integers) a base that is a symbol, product or power of symbols is never
    zero.  With literal exponents (`SWf`) the side condition holds under every binding, which gives
    `C16_print_parse_sympy` back. -/
theorem C16_print_parse_sympy_symexp (s : SExpr) (h : SWfX s) :
    ∃ t, parseTokens (ppSympy s) = some t ∧
      (∀ env : Env, denNZ env s = true → eval env t = eval env (sden s)) ∧
      (SWf s → ∀ env : Env, denNZ env s = true) ∧
      (SWf s → SWfX s) :=
  ⟨surf s, parse_ppSympy_surfX s h, fun env hnz => eval_surfX s h env hnz,
    fun hs env => swf_denNZ env s hs, swf_imp_swfX s⟩

/-- `M * K**(-N)`: outside `SWf`, inside `SWfX`, printed `M/K**N`; the side condition holds for
    `K = 3` and fails for `K = 0`, where (with `N = -2`) the meaning is `M * 0**2 = 0` and the text
    `M/0**(-2)` has no value -/
example : swf (.mul [.sym "M", .pow (.sym "K") (.mul [.int (-1), .sym "N"])]) = false := by decide
example : SWfX (.mul [.sym "M", .pow (.sym "K") (.mul [.int (-1), .sym "N"])]) := by decide
example : ppSympy (.mul [.sym "M", .pow (.sym "K") (.mul [.int (-1), .sym "N"])]) =
    [.ident "M", .op .slash, .ident "K", .op .dstar, .ident "N"] := by decide
example : denNZ (Env.ofList [("M", 5), ("K", 3), ("N", 2)])
    (.mul [.sym "M", .pow (.sym "K") (.mul [.int (-1), .sym "N"])]) = true := by decide +kernel
example : denNZ (Env.ofList [("M", 5), ("K", 0), ("N", -2)])
    (.mul [.sym "M", .pow (.sym "K") (.mul [.int (-1), .sym "N"])]) = false := by decide +kernel
example : eval (Env.ofList [("M", 5), ("K", 0), ("N", -2)])
    (sden (.mul [.sym "M", .pow (.sym "K") (.mul [.int (-1), .sym "N"])])) = some 0 := by
  decide +kernel
example : eval (Env.ofList [("M", 5), ("K", 0), ("N", -2)])
    (surf (.mul [.sym "M", .pow (.sym "K") (.mul [.int (-1), .sym "N"])])) = none := by
  decide +kernel

/-- **C16_print_parse_sympy_refines**: the text is never MIS-read.  For every tree `s` in `SWfX`
    (symbolic negative exponents in denominators included) and EVERY binding - no side condition -
    whenever the tree the parser returns on SymPy's text has a value, it is the value of the SymPy
    object's meaning.  Together with `C16_print_parse_sympy_symexp`: the two readings agree unless a
    denominator with a symbolic exponent has a zero base, and there the text can only lose its
    value, never take another one. -/
theorem C16_print_parse_sympy_refines (s : SExpr) (h : SWfX s) :
    ∃ t, parseTokens (ppSympy s) = some t ∧
      ∀ (env : Env) (v : Rat), eval env t = some v → eval env (sden s) = some v :=
  ⟨surf s, parse_ppSympy_surfX s h, fun env v hv => surf_refines s h env v hv⟩

end IrVerif.SymExpr
