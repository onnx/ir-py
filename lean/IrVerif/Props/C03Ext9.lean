/-
C03: IR -> proto (IR version < 10 format) -> IR in the EXTENDED model
(`Model/ScopeExt9.lean`).  Proofs in `Lemmas/ScopeExt9*.lean`.  `C03_roundtrip_ext_model`, `IsoME` and
`C17_idempotent_ir9`, referred to below, are in `Props/C03.lean` / `Props/C17.lean`, which import this file;
`C03_roundtrip_ext_ir9` names the full statement, which is not stated in Lean.
-/
import IrVerif.Lemmas.ScopeExt9Top
namespace IrVerif.Scope

/-- **C03_roundtrip_ext_ir9_partial**: what is PROVED of the round trip IR -> proto (IR < 10 format) -> IR of
    extended models with functions.  Hypothesis: the certificate `ReloadableME` of `C03_roundtrip_ext_model` (decided
    for the main graph by `reloadableEB`; every deserialized model satisfies it).  Then `serializeME9` raises only in
    a device configuration, or it returns `Q`, which is the proto `q` that `serializeME` writes (IR >= 10 format)
    with the functions' value_info removed and the entries `E`, each `ExpEntryOK`, appended to the main graph's
    value_info.  With `D` the reload of `q` (to which `C03_roundtrip_ext_model` applies: `IsoME w D σ`), the MAIN
    GRAPH of `Q` deserializes to the main graph of `D` - store, merged metadata, annotations, device configurations
    and tree, `(st, x)` being the state in which `deserializeME q` starts its functions - so the main-graph half of
    the round trip is that of the IR >= 10 format; the entries are inert in every store / scope stack, and `D`
    serializes to `q` again.
    The full statement `C03_roundtrip_ext_ir9` (`deserializeME9 Q = .ok D9 ∧ IsoME w D9 σ`, under the hypothesis that
    every truthy-named function value that has something to say can be written) is not proved: the function half is
    missing, as for `C17_idempotent_ext_ir9_partial`. -/
theorem C03_roundtrip_ext_ir9_partial (ver : Option Int) (w : MWorldE) (h : ReloadableME w) :
    (∃ e, serializeME9 ver w = .error (.dev e)) ∨
    ∃ (w1 : MWorldE) (Q q : ModelE) (E : List VInfoE) (D : MWorldE) (st : Store) (x : Ext),
      serializeME9 ver w = .ok (w1, Q) ∧ serializeME ver w = .ok (w1, q) ∧
      Q.funcs = (q.funcs.map fun f => { f with vinfo := [] }) ∧ Q.graph.vinfo = q.graph.vinfo ++ E ∧
      (∀ e ∈ E, ExpEntryOK w e) ∧
      (∀ (st : Store) (x : Ext) (outer : List Table), deserGraphE st x outer Q.graph = deserGraphE st x outer q.graph) ∧
      deserializeME q = .ok D ∧ deserGraphE {} {} [] Q.graph = .ok (st, x, D.root) ∧
      deserFuncsE st x [] q.funcs = .ok (D.st, D.ext, D.funcs) ∧ ∃ w2, serializeME ver D = .ok (w2, q) :=
  roundtrip_ext_ir9_partial ver w h

/-- the hypothesis is satisfiable: a model with one function, as `deserializeME` returns it -/
example : ∃ w, deserializeME ⟨.mk [⟨"x", {}, []⟩] [] [] [ .mk ["x"] ["y"] [] [] ] [⟨"y", {}, []⟩] [],
      [⟨⟨"custom", "f", ""⟩, ["a"], ["c"], [⟨"c", {}, [("z", "0")]⟩], [ .mk ["a"] ["c"] [] [] ]⟩]⟩ = .ok w ∧
    ReloadableME w := by
  suffices H : ∀ P : ModelE, (match deserializeME P with | .ok _ => true | .error _ => false) = true →
      ∃ w, deserializeME P = .ok w ∧ ReloadableME w from H _ (by decide +kernel)
  intro P h
  cases hd : deserializeME P with
  | ok w => exact ⟨w, rfl, deserializeME_reloadableME _ w hd⟩
  | error e => rw [hd] at h; cases h

/-- main graph `Identity(x) -> "custom::f/c"`, `Identity("custom::f/c") -> y`, where the main-graph value
    `custom::f/c` has a value_info entry of its own (type `f32`, metadata `k=1`); function `custom::f`:
    `Identity(a) -> c`, whose values carry NO info and NO metadata.  (Given in the IR >= 10 format and loaded with
    `deserializeME`, so the IR model is exactly this.) -/
def exampleLeak9 : ModelE :=
  ⟨.mk [⟨"x", { ty := some "f32" }, []⟩] [] [⟨"custom::f/c", { ty := some "f32" }, [("k", "1")]⟩]
      [ .mk ["x"] ["custom::f/c"] [] [], .mk ["custom::f/c"] ["y"] [] [] ] [⟨"y", { ty := some "f32" }, []⟩] [],
    [⟨⟨"custom", "f", ""⟩, ["a"], ["c"], [], [ .mk ["a"] ["c"] [] [] ]⟩]⟩

/-- info and merged metadata of the function values of a model, function by function: inputs, then node outputs
    (positional: invariant under the renumbering of a round trip) -/
def funcValues (w : MWorldE) : List (Info × List (String × String)) :=
  w.funcs.flatMap fun f => (f.2.inputs ++ f.2.nodes.flatMap NodeT.outputs).map fun v => ((w.st.vals v).info, w.ext.vmeta v)

/-- IR model -> proto in the IR < 10 format -> IR model: are the function values `before` and `after` those given? -/
def leak9 (P : ModelE) (before after : List (Info × List (String × String))) : Bool :=
  match deserializeME P with
  | .error _ => false
  | .ok w =>
    match serializeME9 (some 9) w with
    | .error _ => false
    | .ok (_, Q) =>
      match deserializeME9 Q with
      | .error _ => false
      | .ok D => decide (funcValues w = before) && decide (funcValues D = after)

/-- **C03_ext_ir9_not_roundtrip** (finding D321): for the IR version < 10
    format the round trip IR -> proto -> IR is NOT an isomorphism under the certificate `ReloadableME` alone.  There is
    an IR model `w` that satisfies `ReloadableME` (it is a deserialized model), serializes (`serializeME9 (some 9) w =
    .ok (_, Q)`) and reloads (`deserializeME9 Q = .ok D`), but the function value `c`, which carries no info and no
    metadata in `w`, carries the type `f32` AND the metadata `k=1` in `D`: the post-pass of `deserialize_model` reads
    the value_info entry of the MAIN-GRAPH value named `custom::f/c` as an experimental entry of the function
    `custom::f` as well.  (Such names are reserved when experimental entries are WRITTEN, not when they are read; the
    fix-point `C17_idempotent_ir9` is not affected: the leaked info is written and read again consistently.)
    Reproduced on the real code (proposed_fixes/D321.md); check signature
    `roundtrip:not-isomorphic:ir9-main-graph-value-info-leaks-onto-function-value`.  So a full `C03_roundtrip_ext_ir9`
    needs more than `ReloadableME`: no value the main graph's value_info is written for may be named like an
    experimental entry of a function of the model. -/
theorem C03_ext_ir9_not_roundtrip :
    ∃ (w w1 : MWorldE) (Q : ModelE) (D : MWorldE), ReloadableME w ∧ serializeME9 (some 9) w = .ok (w1, Q) ∧
      deserializeME9 Q = .ok D ∧ funcValues w ≠ funcValues D := by
  have h : leak9 exampleLeak9 [({}, []), ({}, [])] [({}, []), ({ ty := some "f32" }, [("k", "1")])] = true := by
    decide +kernel
  unfold leak9 at h
  split at h
  · simp at h
  · rename_i w hw
    split at h
    · simp at h
    · rename_i w1 Q hq
      split at h
      · simp at h
      · rename_i D hD
        simp only [Bool.and_eq_true, decide_eq_true_eq] at h
        refine ⟨w, w1, Q, D, deserializeME_reloadableME _ w hw, hq, hD, ?_⟩
        rw [h.1, h.2]
        decide

end IrVerif.Scope
