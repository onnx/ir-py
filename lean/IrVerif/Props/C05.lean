/-
C05 — every built-in pass, alone or composed, preserves what the model computes.
The property theorems; the developments are in Lemmas/Sem*.lean, Lemmas/Inline*.lean and Lemmas/AddDefaults.lean
(validity of the deleting / substituting passes also uses Lemmas/PassFlagsOrderedDelete.lean, PassFlagsOrderedSubst.lean of C14).

`validModel m = true` (evaluated by the driver on every generated model): value ids are bound once in the
whole nest (SSA; they are object identities in Python), every graph's outputs are bound at the top level of
that graph, node lists are topologically ordered and every value a node reads is in scope.
All theorems hold for EVERY operator interpretation `I` (any `sem`, any `tv`) and every input list.
-/
import IrVerif.Lemmas.SemDce
import IrVerif.Lemmas.SemIdentity
import IrVerif.Lemmas.SemCse
import IrVerif.Lemmas.SemInputs
import IrVerif.Lemmas.SemLift
import IrVerif.Lemmas.SemDedup
import IrVerif.Lemmas.SemOutputFix
import IrVerif.Lemmas.SemLsi
import IrVerif.Lemmas.SemPerm
import IrVerif.Lemmas.InlineModel
import IrVerif.Lemmas.SemValidCse
import IrVerif.Lemmas.InlineCoh
import IrVerif.Lemmas.InlineDepth
import IrVerif.Lemmas.AddDefaults
namespace IrVerif.Passes
open IrVerif.Sem
variable {Val : Type}

/-- a pass on models preserves what the model computes, the output list length and the
    non-initializer inputs (count and order); likewise for every model-local function body
    (function bodies are denoted under an arbitrary environment and call sites are interpreted by
    `sem`, which is universally quantified) -/
def Preserves (pass : Model → Model) (m : Model) : Prop :=
  (∀ (Val : Type) (I : Interp Val) (xs : List Val), denote I (pass m) xs = denote I m xs) ∧
  (∀ (Val : Type) (I : Interp Val) (k : Nat) (ρ : Env Val) (xs : List Val),
      denoteFunc I (pass m) k ρ xs = denoteFunc I m k ρ xs) ∧
  (pass m).graph.outputs.length = m.graph.outputs.length ∧
  (pass m).graph.freeInputs = m.graph.freeInputs ∧
  (pass m).funcs.length = m.funcs.length

/-- **C05_dce** — RemoveUnusedNodesPass (node removal in every scope, trailing empty inputs,
    unused main-graph initializers, function bodies; without the schema-driven output trimming). -/
theorem C05_dce (m : Model) (hv : validModel m = true) : Preserves dceModel m := by
  obtain ⟨g, fs⟩ := m
  simp only [validModel_iff] at hv
  obtain ⟨hg, hfs⟩ := hv
  cases g with
  | mk inputs outputs inits nodes =>
  have hsg := hg.1
  rw [ssaG_iff] at hsg
  obtain ⟨⟨⟨_, hndi⟩, hdisj⟩, hsn⟩ := hsg
  have hcn : closedNodes nodes = true := by
    have := hg.2.1; simp only [closedG, Bool.and_eq_true] at this; exact this.2
  refine ⟨?_, ?_, ?_, ?_, ?_⟩
  · intro Val I xs
    simp only [denote, dceModel, dceG, Graph.inputs, Graph.outputs, Graph.inits, Graph.nodes]
    rw [evalG_filter_inits I inputs outputs inits _ _ hndi]
    · exact congrFun (dceG_sound I (.mk inputs outputs inits nodes) hg.1 hg.2.1 Env.empty) xs
    · intro q hq hp
      simp only [Bool.or_eq_false_iff, List.contains_eq_mem, decide_eq_false_iff_not,
        List.mem_append, usesG, not_or] at hp
      refine ⟨hp.2, fun hr => ?_⟩
      have hr' := (mem_refsG q.1 _).1 hr
      simp only [usesG, boutsG, List.mem_append] at hr'
      rcases hr' with hr' | hr' | hr'
      · exact hp.1.1.1 hr'
      · exact hp.1.2 hr'
      · have h1 := (dce_syn.2.1 _ _ _).2.1 q.1 hr'
        exact hdisj q.1 (by simp [List.mem_map]; exact Or.inr ⟨q.2, hq⟩)
          (bouts_sub_defsNodes nodes hcn h1)
  · intro Val I k ρ xs
    simp only [denoteFunc, dceModel, List.getElem?_map]
    cases hk : fs[k]? with
    | none => rfl
    | some f =>
      have hf := hfs f (List.mem_of_getElem? hk)
      simp only [Option.map_some]
      exact congrFun (dceG_sound I f hf.1 hf.2.1 ρ) xs
  · simp [dceModel, dceG, Graph.outputs]
  · simp only [dceModel, dceG, Graph.freeInputs, Graph.inputs, Graph.inits]
    refine filter_not_contains_congr (fun v hv => ?_)
    simp only [List.mem_map, List.mem_filter]
    constructor
    · rintro ⟨q, ⟨hq, _⟩, rfl⟩; exact ⟨q, hq, rfl⟩
    · rintro ⟨q, hq, rfl⟩
      exact ⟨q, ⟨hq, by simp [hv]⟩, rfl⟩
  · simp [dceModel]

/-- **C05_identity** — IdentityEliminationPass in every scope (main graph, subgraphs with captured
    values, function bodies), with its keep rule. -/
theorem C05_identity (m : Model) (hv : validModel m = true) : Preserves ieModel m := by
  obtain ⟨g, fs⟩ := m
  simp only [validModel_iff] at hv
  obtain ⟨hg, hfs⟩ := hv
  have hnil : ∀ D, SubstOK [] D := fun D p hp => by simp at hp
  have hrel : ∀ (Val : Type) (ρ : Env Val), Rel [] ρ ρ := fun _ ρ v => by rw [Subst.app_nil]
  refine ⟨?_, ?_, ?_, ?_, ?_⟩
  · intro Val I xs
    simp only [denote, ieModel]
    exact (congrFun (ieG_sound I _ g [] Env.empty Env.empty (hrel _ _) (hnil _) hg.1 hg.2.1 hg.2.2.1) xs).symm
  · intro Val I k ρ xs
    simp only [denoteFunc, ieModel, List.getElem?_map]
    cases hk : fs[k]? with
    | none => rfl
    | some f =>
      have hf := hfs f (List.mem_of_getElem? hk)
      simp only [Option.map_some]
      exact (congrFun (ieG_sound I _ f [] ρ ρ (hrel _ _) (hnil _) hf.1 hf.2.1 hf.2.2.1) xs).symm
  · cases g with
    | mk inputs outputs inits nodes =>
      simp only [ieModel, ieG, Graph.outputs]
      exact ieNodes_outs_length _ _ nodes [] outputs
  · cases g with
    | mk inputs outputs inits nodes => simp only [ieModel, ieG, Graph.freeInputs, Graph.inputs, Graph.inits]
  · simp [ieModel]

/-- **C05_cse_skips** — the determinism assumption of `C05_cse` made explicit.  In the semantics every
    operator is a function of (operator, attributes, bodies, arguments) EXCEPT the stochastic operators
    (`isStochasticOp`: RandomUniform, RandomNormal, RandomUniformLike, RandomNormalLike, Multinomial,
    Bernoulli), whose interpretation also receives the node's output ids, so two such nodes may differ on
    equal arguments.  CSE never removes or merges a node of a stochastic operator: every such node of the
    main graph is still there afterwards, with its operator, attributes and outputs.  (`C05_cse` itself
    is proved for this semantics: its proof needs that the skip list covers `isStochasticOp`.) -/
theorem C05_cse_skips (limit : Nat) (m : Model) (n : Node) (hn : n ∈ m.graph.nodes)
    (hst : isStochasticOp n.op = true) :
    ∃ n' ∈ (cseModel limit m).graph.nodes, n'.op = n.op ∧ n'.outs = n.outs ∧ n'.attrs = n.attrs := by
  obtain ⟨g, fs⟩ := m
  cases g with
  | mk inputs outputs inits nodes =>
    simp only [Graph.nodes] at hn
    simp only [cseModel, Graph.nodes]
    exact (PassFlags.cseRun limit inputs nodes [] [] outputs).keeps_stochastic n hn hst

/-- **C05_cse** — CommonSubexpressionEliminationPass (any size limit): dictionary key = operator id,
    number of outputs, input identities, attribute values (fixed key of D50); control-flow nodes,
    large tensors and random operators are skipped; graph outputs are rewired directly or through a
    new Identity node; uses inside subgraphs are replaced.  What the proof needs of the operators: `sem` is a
    function of operator, attributes, bodies and arguments for every operator that the pass does not skip
    (the stochastic ones also receive the node's output ids and are skipped, `C05_cse_skips`). -/
theorem C05_cse (limit : Nat) (m : Model) (hv : validModel m = true) : Preserves (cseModel limit) m := by
  obtain ⟨g, fs⟩ := m
  simp only [validModel_iff] at hv
  obtain ⟨hg, _⟩ := hv
  cases g with
  | mk inputs outputs inits nodes =>
  obtain ⟨hs, hc, hf, _⟩ := hg
  simp only [ssaG, Bool.and_eq_true] at hs
  simp only [closedG, Bool.and_eq_true] at hc
  simp only [noFwdG] at hf
  refine ⟨?_, ?_, ?_, ?_, ?_⟩
  · intro Val I xs
    simp only [denote, cseModel, evalG]
    symm
    refine cseNodes_sound I limit inputs nodes [] [] outputs outputs _ _
      (fun v _ => by rw [Subst.app_nil]) (fun p hp => by simp at hp) hs.2 hc.2 hf
      (fun n1 h1 => by simp at h1) (forall2_refl (R := OutOK [] _ _) (fun a => Or.inl (Subst.app_nil a).symm) outputs)
  · intro Val I k ρ xs
    simp [denoteFunc, cseModel]
  · simp only [cseModel, Graph.outputs]
    exact (PassFlags.cseRun limit inputs nodes [] [] outputs).outs_length
  · simp only [cseModel, Graph.freeInputs, Graph.inputs, Graph.inits]
  · simp [cseModel]

theorem preserves_mapInputs (f : List VId → List VId → List VId) (hf : KeepsFree f) (m : Model) :
    Preserves (fun m => { graph := mapInputsTop f m.graph, funcs := m.funcs }) m := by
  obtain ⟨g, fs⟩ := m
  refine ⟨?_, ?_, ?_, ?_, ?_⟩
  · intro Val I xs
    simp only [denote]
    exact congrFun (mapInputsTop_sound I f hf g Env.empty) xs
  · intro Val I k ρ xs; rfl
  · cases g with
    | mk inputs outputs inits nodes => simp [mapInputsTop, Graph.outputs]
  · cases g with
    | mk inputs outputs inits nodes =>
      simp only [mapInputsTop, Graph.freeInputs, Graph.inputs, Graph.inits]
      exact hf inputs (inits.map Prod.fst)
  · rfl

/-- **C05_rm_init_inputs** — RemoveInitializersFromInputsPass (main graph). -/
theorem C05_rm_init_inputs (m : Model) : Preserves rmInitInputsModel m :=
  preserves_mapInputs removeInitsFromInputs keepsFree_remove m

/-- **C05_add_init_inputs** — AddInitializersToInputsPass (main graph): the
    initializer-backed inputs it appends are not inputs a caller has to supply. -/
theorem C05_add_init_inputs (m : Model) : Preserves addInitInputsModel m :=
  preserves_mapInputs addInitsToInputs keepsFree_add m

/-- **C05_lift_const** — LiftConstantsToInitializersPass (any `lift_all_constants`, any `size_limit`):
    Constant nodes of every attribute form in the main graph and in subgraphs become initializers of
    the graph they are in; the tensor is `constTensor`, the meaning the semantics fixes for Constant. -/
theorem C05_lift_const (liftAll : Bool) (limit : Nat) (m : Model) (hv : validModel m = true) :
    Preserves (liftConstModel liftAll limit) m := by
  obtain ⟨g, fs⟩ := m
  simp only [validModel_iff] at hv
  obtain ⟨hg, _⟩ := hv
  refine ⟨?_, ?_, ?_, ?_, ?_⟩
  · intro Val I xs
    simp only [denote, liftConstModel]
    exact congrFun (liftG_sound I liftAll limit g hg.1 hg.2.2.1 Env.empty) xs
  · intro Val I k ρ xs; rfl
  · cases g with
    | mk inputs outputs inits nodes => simp [liftConstModel, liftG, Graph.outputs]
  · cases g with
    | mk inputs outputs inits nodes =>
      have hs := hg.1
      simp only [ssaG, Bool.and_eq_true, disj_iff] at hs
      simp only [liftConstModel, liftG, Graph.freeInputs, Graph.inputs, Graph.inits]
      exact filter_not_contains_map_append (fun v hv h =>
        absurd (outsTop_sub_defsNodes nodes (liftNodes_ids_sub liftAll limit outputs v nodes h)) (hs.1.2 v (by simp [hv])))
  · rfl

/-- **C05_dedup** — DeduplicateInitializersPass / DeduplicateHashedInitializersPass (any size limit; main
    graph and subgraphs, uses inside subgraphs replaced; initializers that are graph inputs or outputs are
    left alone).  The key (dtype, shape, bytes / strings) is the tensor (fixed key of D37). -/
theorem C05_dedup (limit : Nat) (m : Model) (hv : validModel m = true) : Preserves (dedupModel limit) m := by
  obtain ⟨g, fs⟩ := m
  simp only [validModel_iff] at hv
  obtain ⟨hg, _⟩ := hv
  refine ⟨?_, ?_, ?_, ?_, ?_⟩
  · intro Val I xs
    simp only [denote, dedupModel]
    exact (congrFun (dedupG_sound I limit g [] Env.empty Env.empty (fun v => by rw [Subst.app_nil])
      (fun p hp => by simp at hp) hg.1 hg.2.1) xs).symm
  · intro Val I k ρ xs; rfl
  · cases g with
    | mk inputs outputs inits nodes => simp [dedupModel, dedupG, Graph.outputs]
  · cases g with
    | mk inputs outputs inits nodes =>
      simp only [dedupModel, dedupG, Graph.freeInputs, Graph.inputs, Graph.inits]
      exact dedupInits_free limit inputs outputs inits
  · rfl

/-- **C05_output_fix** — OutputFixPass (main graph, functions and all subgraphs): values listed twice
    as outputs and graph inputs used directly as outputs get an Identity node with a fresh output. -/
theorem C05_output_fix (m : Model) (hv : validModel m = true) : Preserves ofixModel m := by
  have hv' := hv
  simp only [validModel, Bool.and_eq_true, List.all_eq_true] at hv'
  obtain ⟨hg, hfs⟩ := hv'
  have hsg := ((validG_iff m.graph).1 hg).1
  refine ⟨?_, ?_, ?_, ?_, ?_⟩
  · intro Val I xs
    simp only [denote, ofixModel]
    refine congrFun (ofixG_sound I _ m.graph (freshId m) hsg (fun v hv => lt_freshId_of_mem m ?_) Env.empty) xs
    have := (mem_refsG v m.graph).2 (Or.inr hv)
    simp [this]
  · intro Val I k ρ xs
    simp only [denoteFunc, ofixModel]
    have h := ofixBodies_getElem? (ginsG m.graph ++ ginsBodies m.funcs) m.funcs
      (ofixG (ginsG m.graph ++ ginsBodies m.funcs) (freshId m) m.graph).2 k
    cases hk : m.funcs[k]? with
    | none => simp only [hk] at h; rw [h]
    | some f =>
      simp only [hk] at h
      obtain ⟨n', hn, hget⟩ := h
      rw [hget]
      simp only
      have hsf := ((validG_iff f).1 (hfs f (List.mem_of_getElem? hk))).1
      refine congrFun (ofixG_sound I _ f n' hsf (fun v hv => ?_) ρ) xs
      refine Nat.lt_of_lt_of_le (lt_freshId_of_mem m ?_) (Nat.le_trans (ofixG_mono _ m.graph _) hn)
      have hmem : v ∈ refsBodies m.funcs :=
        mem_refsBodies_of_mem (List.mem_of_getElem? hk) ((mem_refsG v f).2 (Or.inr hv))
      simp [hmem]
  · cases hg' : m.graph with
    | mk inputs outputs inits nodes =>
      simp [ofixModel, hg', ofixG, Graph.outputs, (ofixDirect_aliased _ _ _).length, (ofixMulti_aliased _ _ _).length]
  · cases hg' : m.graph with
    | mk inputs outputs inits nodes =>
      rw [hg'] at hsg
      simp only [ssaG, Bool.and_eq_true, nodupB_iff] at hsg
      simp only [ofixModel, hg', ofixG, Graph.freeInputs, Graph.inputs, Graph.inits]
      obtain ⟨_, hmem1⟩ := foldl_moveToEnd
        (fixedInputs (ofixDirect (ginsG (Graph.mk inputs outputs inits nodes) ++ ginsBodies m.funcs)
          (ofixMulti [] outputs (ofixNodes (ginsG (Graph.mk inputs outputs inits nodes) ++ ginsBodies m.funcs)
            (freshId m) nodes).2).1
          (ofixMulti [] outputs (ofixNodes (ginsG (Graph.mk inputs outputs inits nodes) ++ ginsBodies m.funcs)
            (freshId m) nodes).2).2.2).2.1) inits hsg.1.1.2
      refine filter_not_contains_congr (fun v _ => ?_)
      simp only [List.mem_map]
      constructor
      · rintro ⟨p, hp, rfl⟩; exact ⟨p, (hmem1 p).1 hp, rfl⟩
      · rintro ⟨p, hp, rfl⟩; exact ⟨p, (hmem1 p).2 hp, rfl⟩
  · simp [ofixModel, ofixBodies_length]

/-- **C05_lift_sub_inits** — LiftSubgraphInitializersToMainGraphPass: initializers of subgraphs (at
    any depth) that are neither inputs nor outputs of their graph move to the main graph. -/
theorem C05_lift_sub_inits (m : Model) (hv : validModel m = true) : Preserves lsiModel m := by
  obtain ⟨g, fs⟩ := m
  simp only [validModel_iff] at hv
  obtain ⟨hg, _⟩ := hv
  cases g with
  | mk inputs outputs inits nodes =>
  refine ⟨?_, ?_, ?_, ?_, ?_⟩
  · intro Val I xs
    simp only [denote, lsiModel]
    exact congrFun (lsiMain_sound I inputs outputs inits nodes hg.1 hg.2.1 hg.2.2.2 Env.empty) xs
  · intro Val I k ρ xs; rfl
  · simp [lsiModel, Graph.outputs]
  · have hs := hg.1
    simp only [ssaG, Bool.and_eq_true, disj_iff] at hs
    simp only [lsiModel, Graph.freeInputs, Graph.inputs, Graph.inits]
    exact filter_not_contains_map_append (fun v hv h => absurd ((lsi_ids.2.1 nodes hs.2).2 v h) (hs.1.2 v (by simp [hv])))
  · rfl

/-- **C05_toposort** — TopologicalSortPass as a permutation: if `m'` is `m` with the node list of
    every graph (main graph, subgraphs at any depth, function bodies) permuted (`reorderModel`), and
    both are valid (SSA, no node reads a value bound by itself or later), then they compute the same:
    the denotation does not depend on which dependency-respecting order the nodes are listed in.
    That the real pass returns such a model is checked on every generated case (`passes.reorder`);
    that `Graph.sort` orders any acyclic graph and is stable is C12. -/
theorem C05_toposort (m m' : Model) (hv : validModel m = true) (hv' : validModel m' = true)
    (hr : reorderModel m m' = true) :
    (∀ (Val : Type) (I : Interp Val) (xs : List Val), denote I m' xs = denote I m xs) ∧
    (∀ (Val : Type) (I : Interp Val) (k : Nat) (ρ : Env Val) (xs : List Val),
      denoteFunc I m' k ρ xs = denoteFunc I m k ρ xs) ∧
    m'.graph.outputs.length = m.graph.outputs.length ∧ m'.graph.freeInputs = m.graph.freeInputs := by
  obtain ⟨g, fs⟩ := m
  obtain ⟨g', fs'⟩ := m'
  simp only [validModel, Bool.and_eq_true, List.all_eq_true] at hv hv'
  simp only [reorderModel, Bool.and_eq_true] at hr
  have hg := (validG_iff g).1 hv.1
  have hg' := (validG_iff g').1 hv'.1
  have hfs : ∀ b ∈ fs, GraphOK b := fun b hb => by
    have := (validG_iff b).1 (hv.2 b hb); exact ⟨this.1, this.2.2.1⟩
  have hfs' : ∀ b ∈ fs', GraphOK b := fun b hb => by
    have := (validG_iff b).1 (hv'.2 b hb); exact ⟨this.1, this.2.2.1⟩
  refine ⟨?_, ?_, ?_, ?_⟩
  · intro Val I xs
    simp only [denote]
    exact (congrFun (reorderG_sound I g g' hr.1 ⟨hg.1, hg.2.2.1⟩ ⟨hg'.1, hg'.2.2.1⟩ Env.empty) xs).symm
  · intro Val I k ρ xs
    simp only [denoteFunc]
    have := reorderBodies_getElem? I fs fs' hr.2 hfs hfs' k ρ
    cases h1 : fs[k]? <;> cases h2 : fs'[k]? <;> simp only [h1, h2] at this ⊢
    exact (congrFun this xs).symm
  · cases g; cases g'
    simp only [reorderG, Bool.and_eq_true, beq_iff_eq] at hr
    simp only [Graph.outputs] at hr ⊢
    rw [hr.1.1.1.2]
  · cases g; cases g'
    simp only [reorderG, Bool.and_eq_true, beq_iff_eq, Graph.inputs, Graph.inits] at hr
    simp only [Graph.freeInputs, Graph.inputs, Graph.inits]
    rw [hr.1.1.1.1, hr.1.1.2]

theorem Preserves.trans {p q : Model → Model} {m : Model} (hp : Preserves p m) (hq : Preserves q (p m)) :
    Preserves (fun m => q (p m)) m := by
  obtain ⟨p1, p2, p3, p4, p5⟩ := hp
  obtain ⟨q1, q2, q3, q4, q5⟩ := hq
  exact ⟨fun V I xs => (q1 V I xs).trans (p1 V I xs), fun V I k ρ xs => (q2 V I k ρ xs).trans (p2 V I k ρ xs),
    q3.trans p3, q4.trans p4, q5.trans p5⟩

/-- every modelled pass preserves what the model computes on the models that satisfy its assumptions.
    The last three cases are definitional: metadata, doc strings and names are not part of the IR the denotation is
    defined on (values are identities), so ClearMetadataAndDocStringPass and NameFixPass are the identity on it
    (checked for them: the correspondence and the evaluation oracle); in a pass sequence TopologicalSortPass meets
    a valid, hence ordered model, on which it is the identity by stability of the sort (C12). -/
theorem C05_pass (p : PassId) (m : Model) (h : p.pre m = true) : Preserves p.run m := by
  cases p with
  | dce => exact C05_dce m h
  | identity => exact C05_identity m h
  | cse limit => exact C05_cse limit m h
  | dedup limit => exact C05_dedup limit m h
  | liftConst a l => exact C05_lift_const a l m h
  | liftSubInits => exact C05_lift_sub_inits m h
  | rmInitInputs => exact C05_rm_init_inputs m
  | addInitInputs => exact C05_add_init_inputs m
  | outputFix => exact C05_output_fix m h
  | clearMeta | nameFix | topoSort => exact ⟨fun _ _ _ => rfl, fun _ _ _ _ _ => rfl, rfl, rfl, rfl⟩

/-- **C05_compose** — any sequence (any length) of the modelled passes preserves what the model
    computes, the number of outputs and the non-initializer inputs, provided every pass of the
    sequence meets a model satisfying its assumptions (`chainOK`, evaluated by the driver on every
    generated sequence: every intermediate model is SSA, closed, topologically ordered and scoped). -/
theorem C05_compose : ∀ (ps : List PassId) (m : Model), chainOK ps m = true → Preserves (runPasses ps) m
  | [], m, _ => ⟨fun _ _ _ => rfl, fun _ _ _ _ _ => rfl, rfl, rfl, rfl⟩
  | p :: ps, m, h => by
    simp only [chainOK, Bool.and_eq_true] at h
    have := Preserves.trans (p := p.run) (q := runPasses ps) (C05_pass p m h.1) (C05_compose ps (p.run m) h.2)
    exact this

/-- **C05_pass_valid** — every modelled pass returns a valid model when it is given one: value ids stay bound
    once in the whole nest (SSA), every graph's outputs stay bound at the top level of that graph (closed), node
    lists stay topologically ordered, and every value a node reads stays in scope.  For the passes that delete
    (RemoveUnusedNodes, LiftConstants, LiftSubgraphInitializers), that substitute values (IdentityElimination,
    Deduplicate, CSE incl. its Identity nodes at the place of the removed node) and that add Identity nodes with
    fresh outputs (OutputFix); orderedness of the deleting / substituting passes is C14's. -/
theorem C05_pass_valid (p : PassId) (m : Model) (hv : validModel m = true) : validModel (p.run m) = true := by
  cases p with
  | dce => exact dceModel_valid m hv
  | identity => exact ieModel_valid m hv
  | cse limit => exact cseModel_valid limit m hv
  | dedup limit => exact dedupModel_valid limit m hv
  | liftConst a l => exact liftConstModel_valid a l m hv
  | liftSubInits => exact lsiModel_valid m hv
  | rmInitInputs => exact rmInitInputsModel_valid m hv
  | addInitInputs => exact addInitInputsModel_valid m hv
  | outputFix => exact ofixModel_valid m hv
  | clearMeta => exact hv
  | nameFix => exact hv
  | topoSort => exact hv

theorem chainOK_of_valid : ∀ (ps : List PassId) (m : Model), validModel m = true → chainOK ps m = true
  | [], _, _ => rfl
  | p :: ps, m, hv => by
    simp only [chainOK, Bool.and_eq_true]
    refine ⟨?_, chainOK_of_valid ps (p.run m) (C05_pass_valid p m hv)⟩
    -- `PassId.pre`: the input-list passes and the two identity passes assume nothing, the others validity
    cases p with
    | rmInitInputs | addInitInputs | clearMeta | nameFix => rfl
    | _ => exact hv

theorem runPasses_valid : ∀ (ps : List PassId) (m : Model), validModel m = true → validModel (runPasses ps m) = true
  | [], _, hv => hv
  | p :: ps, m, hv => runPasses_valid ps (p.run m) (C05_pass_valid p m hv)

/-- **C05_compose_valid** — `C05_compose` without its hypothesis about the intermediate models: ANY sequence (any
    length) of the modelled passes applied to a valid model preserves what the model computes, the number of
    outputs and the non-initializer inputs, and returns a valid model (so that the result can be handed to the next
    sequence).  (`C05_compose` also covers sequences started on a model that only satisfies the assumptions of its
    first passes.) -/
theorem C05_compose_valid (ps : List PassId) (m : Model) (hv : validModel m = true) :
    Preserves (runPasses ps) m ∧ validModel (runPasses ps m) = true :=
  ⟨C05_compose ps m (chainOK_of_valid ps m hv), runPasses_valid ps m hv⟩

/-- non-vacuity of the hypothesis: a valid model with a dead node (`Abs`, which dead-code elimination removes) -/
example : validModel ⟨.mk [0] [1] [] [.mk ⟨"", "Neg", ""⟩ [] [some 0] [1] [], .mk ⟨"", "Abs", ""⟩ [] [some 0] [2] []], []⟩ = true := by
  decide +kernel

/-- non-vacuity: the pass eliminates `2 = Identity(1)` and rewires the graph output -/
example : (ieModel ⟨.mk [0] [2] [] [.mk ⟨"", "Neg", ""⟩ [] [some 0] [1] [], .mk ⟨"", "Identity", ""⟩ [] [some 1] [2] []], []⟩).graph.outputs = [1] := by
  decide +kernel

/-- non-vacuity: CSE merges the second `Neg(0)`; its output 2 is a graph output next to the kept
    node's output 1, so an Identity node producing it is inserted -/
example : (cseModel 10 ⟨.mk [0] [1, 2] [] [.mk ⟨"", "Neg", ""⟩ [] [some 0] [1] [], .mk ⟨"", "Neg", ""⟩ [] [some 0] [2] []], []⟩).graph.nodes.length = 2 := by
  decide +kernel

/-- non-vacuity: dedup merges the second of two equal initializers and rewires its use -/
example : (dedupModel 1024 ⟨.mk [0] [3] [(1, ⟨1, [1], [0, 0, 128, 63], []⟩), (2, ⟨1, [1], [0, 0, 128, 63], []⟩)]
    [.mk ⟨"", "Add", ""⟩ [] [some 1, some 2] [3] []], []⟩).graph.inits.length = 1 := by decide +kernel

/-- non-vacuity: a Constant node becomes an initializer of its graph -/
example : (liftConstModel true 0 ⟨.mk [0] [2] [] [.mk ⟨"", "Constant", ""⟩ [("value_int", .int 7)] [] [1] [],
    .mk ⟨"", "Add", ""⟩ [] [some 0, some 1] [2] []], []⟩).graph.inits.length = 1 := by decide +kernel

/-- non-vacuity: a graph input used directly as output gets an Identity node -/
example : (ofixModel ⟨.mk [0] [0, 0] [] [], []⟩).graph.nodes.length = 2 := by decide +kernel

/-- non-vacuity: the initializer of an If branch moves to the main graph -/
example : (lsiModel ⟨.mk [0] [2] [] [.mk ⟨"", "If", ""⟩ [] [some 0] [2]
    [.mk [] [3] [(1, ⟨1, [], [0, 0, 0, 0], []⟩)] [.mk ⟨"", "Neg", ""⟩ [] [some 1] [3] []]]], []⟩).graph.inits.length = 1 := by
  decide +kernel

/-- non-vacuity of `C05_compose`: a three-pass chain on a valid model satisfies `chainOK` -/
example : chainOK [.outputFix, .identity, .dce]
    ⟨.mk [0] [2, 2] [] [.mk ⟨"", "Neg", ""⟩ [] [some 0] [1] [], .mk ⟨"", "Identity", ""⟩ [] [some 1] [2] []], []⟩ = true := by
  decide +kernel

end IrVerif.Passes

/-! ## model-local functions: InlinePass, RemoveUnusedFunctionsPass, RemoveUnusedOpsetsPass

The IR of Model/Inline.lean: nodes may call model-local functions; a call denotes the body of the function
under the call's inputs and attribute bindings (`evalGF`, `funcDen`), unrolled to a depth (`denoteAt d`);
`denoteF` = depth `number of functions`. -/
namespace IrVerif.Inline
open IrVerif.Sem IrVerif.Passes

/-- **C05_call_depth** — for a valid model (non-recursive call graph) the unrolling depth is irrelevant from
    the number of functions on: every deeper unrolling denotes the same function. -/
theorem C05_call_depth (m : FModel) (hv : validF m = true) {Val : Type} (I : Interp Val) (d : Nat)
    (hd : m.funcs.length ≤ d) (xs : List Val) : denoteAt d I m xs = denoteF I m xs :=
  denoteAt_of_depthOK m (depthOK_of_valid (.of hv)) I d hd xs

/-- **C05_inline_partial** — `C05_inline` below on models whose function bodies contain no calls to model-local
    functions (`flatFuncs`: single-level calls), where it holds from unrolling depth 1 on (not only from the
    number of functions on). -/
theorem C05_inline_partial (crit : OpId → Bool) (m : FModel) (hv : validF m = true) (hflat : flatFuncs m = true) :
    (∀ (Val : Type) (I : Interp Val) (d : Nat), 1 ≤ d → ∀ xs : List Val,
      denoteAt d I (inlineModel crit m) xs = denoteAt d I m xs) ∧
    (inlineModel crit m).graph.outputs.length = m.graph.outputs.length ∧
    (inlineModel crit m).graph.inputs = m.graph.inputs ∧ (inlineModel crit m).graph.inits = m.graph.inits := by
  refine inline_sound_at crit m hv 1 (fun f hf => ?_)
  -- a function whose body calls no function has call depth 1
  simp only [flatFuncs, List.all_eq_true] at hflat
  rw [lvl]
  split
  · rfl
  · rename_i f' hf'
    have := hflat f' (findFunc_some hf').1
    simpa [lvl] using this

/-- **C05_inline** — InlinePass (any `criteria`) on valid models whose functions call functions to any depth.
    Covered: any number of calls, in the main graph and in subgraphs at any depth; attribute parameters with and
    without defaults, reference attributes (resolved, kept as references to outer parameters, or dropped); calls
    that supply fewer inputs than the function has (the inputs stay absent through every level); control-flow
    subgraphs with captured values inside function bodies (cloned with fresh inputs and initializers); the nodes
    cloned for a call are processed in turn (`inlAt`, one level of the unrolling budget per level of nesting);
    function inputs that a function returns are forwarded through Identity nodes (D300); outputs of the call
    rewired in later nodes, in subgraphs and in the graph outputs; a criterion may keep functions (and calls to
    them, in the main graph and in other kept functions): the bodies of the functions that are left are rewritten
    in place in dictionary order (`inlFuncs`), later clones copy the rewritten bodies, functions inlined anywhere
    are deleted.  Excluded by `validF`: stochastic operators in function bodies.
    The depth `d ≥ number of functions` is the depth at which every call tree is unrolled (`C05_call_depth`).
    `inlineModel` answers with the unchanged model when `runOK` fails; by `C05_inline_total` that happens on a valid
    model only when the real pass raises (`raised`: a call does not supply a function input that the function
    returns): every other conjunct of `runOK` is proved there. -/
theorem C05_inline (crit : OpId → Bool) (m : FModel) (hv : validF m = true) :
    (∀ (Val : Type) (I : Interp Val) (d : Nat), m.funcs.length ≤ d → ∀ xs : List Val,
      denoteAt d I (inlineModel crit m) xs = denoteAt d I m xs) ∧
    (inlineModel crit m).graph.outputs.length = m.graph.outputs.length ∧
    (inlineModel crit m).graph.inputs = m.graph.inputs ∧ (inlineModel crit m).graph.inits = m.graph.inits :=
  inline_sound_at crit m hv m.funcs.length (ValidF.of hv).depth

/-- **C05_inline_nested_partial** — `C05_inline` for `criteria=None`: the criterion that accepts every operator. -/
theorem C05_inline_nested_partial (m : FModel) (hv : validF m = true) :
    (∀ (Val : Type) (I : Interp Val) (d : Nat), m.funcs.length ≤ d → ∀ xs : List Val,
      denoteAt d I (inlineModel (fun _ => true) m) xs = denoteAt d I m xs) ∧
    (inlineModel (fun _ => true) m).graph.outputs.length = m.graph.outputs.length ∧
    (inlineModel (fun _ => true) m).graph.inputs = m.graph.inputs ∧
    (inlineModel (fun _ => true) m).graph.inits = m.graph.inits :=
  C05_inline (fun _ => true) m hv

/-- **C05_inline_total** — on a valid model the model of the pass falls back to the unchanged model ONLY when the
    real pass raises (`raised`: a call does not supply a function input that the function returns).  Everything else
    that `inlineModel` checks on its own result (`runOK`) is proved: the unrolling budget (number of functions)
    suffices for a non-recursive call graph, no call that the criterion accepts is left in the main graph, no call
    to a deleted function remains in the main graph or in a remaining function, the function bodies that the pass
    rewrote in place are again closed, call-well-formed and free of stochastic operators, and the call trees of the
    remaining functions are not deeper than the number of functions of the model.  So `C05_inline` speaks about the
    run itself: `inlineModel crit m = (inlineRun crit m).model` whenever the run does not raise. -/
theorem C05_inline_total (crit : OpId → Bool) (m : FModel) (hv : validF m = true)
    (hr : (inlineRun crit m).st.raised = false) :
    runOK crit m = true ∧ inlineModel crit m = (inlineRun crit m).model := by
  have V := ValidF.of hv
  obtain ⟨m1, m2, _⟩ := inline_main_run crit V
  have L := inline_loop_syn crit V
  have hgraph := inlineRun_graph crit m
  have hdang : noDangling m.funcs (inlineRun crit m) = true := by
    simp only [noDangling, Bool.and_eq_true, List.all_eq_true]
    exact ⟨by rw [hgraph]; exact opsAllG_mono (kept_of_notAcc crit V) _ m2, inlineRun_kept crit V⟩
  have hsynfin : synOK m.funcs (inlineRun crit m).tbl = true := by
    simp only [synOK, Bool.and_eq_true, List.all_eq_true]
    intro g hg
    obtain ⟨⟨a, b, c⟩, d⟩ := L.syn g hg
    exact ⟨⟨⟨a, b⟩, d⟩, c⟩
  have hdepth : depthOK m.funcs.length (inlineRun crit m).model.funcs = true := by
    simp only [depthOK, List.all_eq_true]
    intro g hg
    exact inlineRun_lvl crit V _ g.id (lvl_of_funcs V.depth g.id)
  have hrun : runOK crit m = true := by
    simp only [runOK, Bool.and_eq_true, Bool.not_eq_true', Bool.or_eq_true]
    refine ⟨⟨⟨⟨⟨?_, hr⟩, hdang⟩, ?_⟩, Or.inr hsynfin⟩, Or.inr hdepth⟩
    · rw [show (inlineRun crit m).st.stuck = _ from L.stuck]; exact m1
    · simp only [noAccepted]
      rw [hgraph]
      exact m2
  exact ⟨hrun, inlineModel_pos hrun⟩

/-- non-vacuity of `C05_inline_total`: the run of the valid nested model below does not raise ... -/
example : (inlineRun (fun _ => true) ⟨.mk [0] [2, 3] [] [.mk ⟨"l", "F", ""⟩ [] [some 0] [2, 3] []],
    [⟨⟨"l", "F", ""⟩, [], [10], [11, 12], [.mk ⟨"l", "G", ""⟩ [] [some 10] [11, 12] []], []⟩,
     ⟨⟨"l", "G", ""⟩, [], [20], [21, 20], [.mk ⟨"", "Neg", ""⟩ [] [some 20] [21] []], []⟩], []⟩).st.raised = false := by
  decide +kernel

/-- ... and `raised` is not vacuous: G returns its second input, F calls G without it (a valid model: the real pass
    raises on it, the model of the pass predicts that and answers with the unchanged model) -/
example : (validF ⟨.mk [0] [2] [] [.mk ⟨"l", "G", ""⟩ [] [some 0] [2, 3] []],
    [⟨⟨"l", "G", ""⟩, [], [20, 22], [21, 22], [.mk ⟨"", "Neg", ""⟩ [] [some 20] [21] []], []⟩], []⟩ &&
    (inlineRun (fun _ => true) ⟨.mk [0] [2] [] [.mk ⟨"l", "G", ""⟩ [] [some 0] [2, 3] []],
    [⟨⟨"l", "G", ""⟩, [], [20, 22], [21, 22], [.mk ⟨"", "Neg", ""⟩ [] [some 20] [21] []], []⟩], []⟩).st.raised) = true := by
  decide +kernel

/-- ... also for the second cause: the call uses one of the two outputs of G; the model is valid (`callOK`
    admits fewer outputs), the real pass raises ValueError in `replace_all_uses_with`, the run of the model is `raised` -/
example : (validF ⟨.mk [0] [2] [] [.mk ⟨"l", "G", ""⟩ [] [some 0] [2] []],
    [⟨⟨"l", "G", ""⟩, [], [20], [21, 22], [.mk ⟨"", "Neg", ""⟩ [] [some 20] [21] [], .mk ⟨"", "Abs", ""⟩ [] [some 20] [22] []], []⟩], []⟩ &&
    (inlineRun (fun _ => true) ⟨.mk [0] [2] [] [.mk ⟨"l", "G", ""⟩ [] [some 0] [2] []],
    [⟨⟨"l", "G", ""⟩, [], [20], [21, 22], [.mk ⟨"", "Neg", ""⟩ [] [some 20] [21] [], .mk ⟨"", "Abs", ""⟩ [] [some 20] [22] []], []⟩], []⟩).st.raised) = true := by
  decide +kernel

/-- non-vacuity of `C05_inline`: the criterion keeps F and accepts G; F (kept) calls G, the main graph calls F and G.
    The run has a result (`runOK`), G is inlined into the main graph and into the body of F and deleted, the call to
    F stays -/
example : (validF ⟨.mk [0] [2] [] [.mk ⟨"l", "F", ""⟩ [] [some 0] [1] [], .mk ⟨"l", "G", ""⟩ [] [some 1] [2] []],
    [⟨⟨"l", "F", ""⟩, [], [10], [11], [.mk ⟨"l", "G", ""⟩ [] [some 10] [11] []], []⟩,
     ⟨⟨"l", "G", ""⟩, [], [20], [21], [.mk ⟨"", "Neg", ""⟩ [] [some 20] [21] []], []⟩], []⟩ &&
    runOK (fun op => op.name == "G") ⟨.mk [0] [2] [] [.mk ⟨"l", "F", ""⟩ [] [some 0] [1] [], .mk ⟨"l", "G", ""⟩ [] [some 1] [2] []],
    [⟨⟨"l", "F", ""⟩, [], [10], [11], [.mk ⟨"l", "G", ""⟩ [] [some 10] [11] []], []⟩,
     ⟨⟨"l", "G", ""⟩, [], [20], [21], [.mk ⟨"", "Neg", ""⟩ [] [some 20] [21] []], []⟩], []⟩) = true := by decide +kernel

example : ((inlineModel (fun op => op.name == "G") ⟨.mk [0] [2] [] [.mk ⟨"l", "F", ""⟩ [] [some 0] [1] [], .mk ⟨"l", "G", ""⟩ [] [some 1] [2] []],
    [⟨⟨"l", "F", ""⟩, [], [10], [11], [.mk ⟨"l", "G", ""⟩ [] [some 10] [11] []], []⟩,
     ⟨⟨"l", "G", ""⟩, [], [20], [21], [.mk ⟨"", "Neg", ""⟩ [] [some 20] [21] []], []⟩], []⟩).funcs.map
      (fun f => (f.id.name, f.nodes.map (·.op.name)))) = [("F", ["Neg"])] := by decide +kernel

/-- non-vacuity of `C05_inline_partial`: a valid model with a call whose function has an attribute parameter
    with a default, a reference attribute and an input the call does not supply; the pass replaces the call -/
example : validF ⟨.mk [0] [2] [] [.mk ⟨"local", "F", ""⟩ [] [some 0] [2] []],
    [⟨⟨"local", "F", ""⟩, [("alpha", some (.float 1056964608))], [10, 12], [11],
      [.mk ⟨"", "Selu", ""⟩ [("alpha", .ref "alpha")] [some 10] [11] []], [""]⟩], ["", "local"]⟩ = true := by
  decide +kernel

example : flatFuncs ⟨.mk [0] [2] [] [.mk ⟨"local", "F", ""⟩ [] [some 0] [2] []],
    [⟨⟨"local", "F", ""⟩, [("alpha", some (.float 1056964608))], [10, 12], [11],
      [.mk ⟨"", "Selu", ""⟩ [("alpha", .ref "alpha")] [some 10] [11] []], [""]⟩], ["", "local"]⟩ = true := by
  decide +kernel

/-- non-vacuity of `C05_inline_nested_partial` and of the forwarding of returned inputs (D300): F calls G, G returns its own input next to
    a computed value; the model is valid, the run has a result (`runOK`), both calls are inlined (no function is
    left) and the returned input reaches the graph output through an Identity node -/
example : validF ⟨.mk [0] [2, 3] [] [.mk ⟨"l", "F", ""⟩ [] [some 0] [2, 3] []],
    [⟨⟨"l", "F", ""⟩, [], [10], [11, 12], [.mk ⟨"l", "G", ""⟩ [] [some 10] [11, 12] []], []⟩,
     ⟨⟨"l", "G", ""⟩, [], [20], [21, 20], [.mk ⟨"", "Neg", ""⟩ [] [some 20] [21] []], []⟩], []⟩ = true := by
  decide +kernel

example : (inlineModel (fun _ => true) ⟨.mk [0] [2, 3] [] [.mk ⟨"l", "F", ""⟩ [] [some 0] [2, 3] []],
    [⟨⟨"l", "F", ""⟩, [], [10], [11, 12], [.mk ⟨"l", "G", ""⟩ [] [some 10] [11, 12] []], []⟩,
     ⟨⟨"l", "G", ""⟩, [], [20], [21, 20], [.mk ⟨"", "Neg", ""⟩ [] [some 20] [21] []], []⟩], []⟩).graph.nodes.map (·.op.name)
    = ["Neg", "Identity"] := by decide +kernel

/-- **C05_inline_canonical** — `C05_inline` at the canonical depth of BOTH models: the call trees of the functions that
    InlinePass leaves are not deeper than the number of functions that are left (they are not deeper than the number of
    functions before, `C05_inline_total`; a call tree over `n` functions without recursion has depth at most `n`,
    `lvl_le_length`: a chain of calls of strictly decreasing depth consists of distinct functions), the result has
    at most as many functions as the model, so `denoteF` of the result - unrolling to ITS number of functions - is
    its denotation at the depth of the model before, and that is `denoteF` of the model before. -/
theorem C05_inline_canonical (crit : OpId → Bool) (m : FModel) (hv : validF m = true) :
    depthOK (inlineModel crit m).funcs.length (inlineModel crit m).funcs = true ∧
    (inlineModel crit m).funcs.length ≤ m.funcs.length ∧
    ∀ (Val : Type) (I : Interp Val) (xs : List Val), denoteF I (inlineModel crit m) xs = denoteF I m xs := by
  have hdepth0 := depthOK_of_valid (.of hv)
  by_cases hfall : runOK crit m = true
  · have hm := inlineModel_pos hfall
    have hdepth := hfall
    simp only [runOK, Bool.and_eq_true, hdepth0, Bool.not_true, Bool.false_or] at hdepth
    have hcan := depthOK_canonical _ _ hdepth.2
    have hlen : (inlineRun crit m).model.funcs.length ≤ m.funcs.length := by
      have h2 := congrArg List.length (inlineRun_ids crit m)
      rw [List.length_map, List.length_map] at h2
      rw [inlineRun_funcs, ← h2]
      exact List.length_filter_le _ _
    rw [hm]
    refine ⟨hcan, hlen, fun Val I xs => ?_⟩
    rw [← denoteAt_of_depthOK _ hcan I m.funcs.length hlen xs, ← hm]
    exact (C05_inline crit m hv).1 Val I m.funcs.length (Nat.le_refl _) xs
  · rw [inlineModel_neg hfall]
    exact ⟨hdepth0, Nat.le_refl _, fun _ _ _ => rfl⟩

/-- non-vacuity of `C05_inline_canonical`: the model before has two functions (canonical depth 2), the result has one
    (canonical depth 1): the two `denoteF` unroll to different depths -/
example : (inlineModel (fun op => op.name == "G") ⟨.mk [0] [2] [] [.mk ⟨"l", "F", ""⟩ [] [some 0] [1] [], .mk ⟨"l", "G", ""⟩ [] [some 1] [2] []],
    [⟨⟨"l", "F", ""⟩, [], [10], [11], [.mk ⟨"l", "G", ""⟩ [] [some 10] [11] []], []⟩,
     ⟨⟨"l", "G", ""⟩, [], [20], [21], [.mk ⟨"", "Neg", ""⟩ [] [some 20] [21] []], []⟩], []⟩).funcs.length = 1 := by decide +kernel

/-- a function reachable from the main graph or from a reachable function -/
inductive Reach (m : FModel) : OpId → Prop where
  | main {op : OpId} : op ∈ opsG m.graph → (findFunc m.funcs op).isSome = true → Reach m op
  | step {g op : OpId} {f : Func} : Reach m g → findFunc m.funcs g = some f → op ∈ opsNodes f.nodes →
      (findFunc m.funcs op).isSome = true → Reach m op

/-- **C05_unused_functions** — RemoveUnusedFunctionsPass: at every unrolling depth the model denotes the same
    outputs (for every operator interpretation and input), the main graph is unchanged, and every function
    reachable from the main graph or from a reachable function is kept.  No validity assumption. -/
theorem C05_unused_functions (m : FModel) :
    (∀ (Val : Type) (I : Interp Val) (d : Nat) (xs : List Val), denoteAt d I (rufModel m) xs = denoteAt d I m xs) ∧
    (rufModel m).graph = m.graph ∧
    (∀ f ∈ m.funcs, Reach m f.id → f ∈ (rufModel m).funcs) := by
  by_cases hc : closedUsed m.funcs (usedFuncs m) = true
  · have hm : rufModel m = { m with funcs := m.funcs.filter (fun f => (usedFuncs m).contains f.id) } := by
      unfold rufModel; rw [if_pos hc]
    simp only [closedUsed, List.all_eq_true, Bool.or_eq_true, Bool.not_eq_true', callees, List.mem_filter,
      and_imp] at hc
    have hmain : ∀ op ∈ opsG m.graph, (findFunc m.funcs op).isSome = true → (usedFuncs m).contains op = true := by
      intro op hop hs
      simp only [usedFuncs, List.contains_eq_mem, decide_eq_true_eq]
      exact reachIter_subset _ _ _ _ (by simp [callees, hop, hs])
    have hcl : ∀ op f, findFunc m.funcs op = some f → (usedFuncs m).contains op = true →
        opsAllNodes (fun o => (usedFuncs m).contains o || (findFunc m.funcs o).isNone) f.nodes = true := by
      intro op f hf hk
      obtain ⟨hmem, hid⟩ := findFunc_some hf
      rw [opsAllNodes_iff]
      intro o ho
      rcases hc f hmem with h | h
      · rw [hid, hk] at h; cases h
      · cases hs : findFunc m.funcs o with
        | none => simp
        | some f' =>
          have := h o ho (by simp [hs])
          simp only [Bool.or_eq_true]; exact Or.inl this
    rw [hm]
    refine ⟨fun Val I d xs => ?_, rfl, fun f hf hr => ?_⟩
    · simp only [denoteAt]
      refine congrFun (evalGF_congrΦ I _ _ (fun o => (usedFuncs m).contains o || (findFunc m.funcs o).isNone)
        (fun op hop => ?_) [] m.graph Env.empty ?_) xs
      · refine fenv_filter_closed I m.funcs _ hcl d op ?_
        simp only [Bool.or_eq_true, Option.isNone_iff_eq_none] at hop
        exact hop
      · rw [opsAllG_iff]
        intro o ho
        cases hs : findFunc m.funcs o with
        | none => simp
        | some f' =>
          have := hmain o ho (by simp [hs])
          simp only [Bool.or_eq_true]; exact Or.inl this
    · simp only [List.mem_filter]
      refine ⟨hf, ?_⟩
      have : ∀ op, Reach m op → (usedFuncs m).contains op = true := by
        intro op hr
        induction hr with
        | main ho hs => exact hmain _ ho hs
        | step _ hg ho hs ih =>
          obtain ⟨hmem, hid⟩ := findFunc_some hg
          rcases hc _ hmem with h | h
          · rw [hid, ih] at h; cases h
          · exact h _ ho hs
      exact this f.id hr
  · have hm : rufModel m = m := by unfold rufModel; rw [if_neg hc]
    rw [hm]
    exact ⟨fun _ _ _ _ => rfl, rfl, fun f hf _ => hf⟩

/-- **C05_unused_opsets** — RemoveUnusedOpsetsPass (either setting of `process_functions`): the denotation at
    every unrolling depth, the main graph and the function bodies are unchanged (only opset imports are
    touched), and the model keeps every imported domain that is the default domain, the domain of a function
    or the domain of a node of the main graph (at any depth). -/
theorem C05_unused_opsets (pf : Bool) (m : FModel) :
    (∀ (Val : Type) (I : Interp Val) (d : Nat) (xs : List Val), denoteAt d I (ruoModel pf m) xs = denoteAt d I m xs) ∧
    (ruoModel pf m).graph = m.graph ∧
    (∀ dm ∈ m.domains, (dm = "" ∨ dm ∈ domsG m.graph ∨ ∃ f ∈ m.funcs, f.id.domain = dm) →
      dm ∈ (ruoModel pf m).domains) := by
  refine ⟨fun Val I d xs => ?_, rfl, fun dm hdm h => ?_⟩
  · simp only [denoteAt, ruoModel]
    cases pf with
    | false => rfl
    | true => simp only [if_true, fenv_map_domains]
  · simp only [ruoModel, List.mem_filter, List.contains_eq_mem, decide_eq_true_eq, List.mem_cons, List.mem_append,
      List.mem_map]
    refine ⟨hdm, ?_⟩
    rcases h with h | h | ⟨f, hf, h⟩
    · exact Or.inl (Or.inl h)
    · exact Or.inr h
    · exact Or.inl (Or.inr ⟨f, hf, h⟩)

/-- non-vacuity: the unused function G is removed, F (called) and H (called by F) are kept -/
example : ((rufModel ⟨.mk [0] [1] [] [.mk ⟨"l", "F", ""⟩ [] [some 0] [1] []],
    [⟨⟨"l", "F", ""⟩, [], [10], [11], [.mk ⟨"l", "H", ""⟩ [] [some 10] [11] []], []⟩,
     ⟨⟨"l", "G", ""⟩, [], [20], [21], [.mk ⟨"", "Neg", ""⟩ [] [some 20] [21] []], []⟩,
     ⟨⟨"l", "H", ""⟩, [], [30], [31], [.mk ⟨"", "Abs", ""⟩ [] [some 30] [31] []], []⟩], []⟩).funcs.map (·.id.name))
    = ["F", "H"] := by decide +kernel

/-- **C05_coherent** — the two groups of theorems speak about one semantics.  On a model of the function-call IR
    whose main graph calls no model-local function, has no reference attribute and whose Identity nodes have one
    input (`pureMain`, evaluated by the driver on every generated model), the function-aware denotation at EVERY
    unrolling depth (so also `denoteF`) under an interpretation `I` is the denotation of Model/Sem.lean (`denote`,
    the semantics of `C05_dce` ... `C05_compose`) of the erased model under `trimI I`, the interpretation that
    ignores trailing absent arguments.  The pass theorems hold for every interpretation, in particular for
    `trimI I`; so they speak about `denoteF` of function-free models. -/
theorem C05_coherent (m : FModel) (h : pureMain m = true) {Val : Type} (I : Interp Val) (d : Nat) (xs : List Val) :
    denoteAt d I m xs = denote (trimI I) (eraseModel m) xs := by
  simp only [pureMain, Bool.and_eq_true] at h
  simp only [denoteAt, denote, eraseModel]
  refine congrFun (evalGF_pure I _ [] m.graph Env.empty ?_ h.1.2 h.2) xs
  refine opsAllG_mono (fun op hop => ?_) m.graph h.1.1
  simp only [Option.isNone_iff_eq_none] at hop ⊢
  exact fenv_none I m.funcs d hop

/-- **C05_coherent_lift** — every model `m` of the pass IR (Model/Sem.lean) whose Identity nodes have one input,
    read as a model without functions of the function-call IR (`liftModel`), has the denotation `denoteF I` =
    `denote (trimI I) m`; and for an interpretation that ignores trailing absent arguments (ONNX: an omitted
    trailing optional input and an empty one are the same) the two denotations are EQUAL: `denoteF I = denote I`. -/
theorem C05_coherent_lift (m : Model) (h : identOKG (liftG m.graph) = true) {Val : Type} (I : Interp Val) (xs : List Val) :
    denoteF I (liftModel m) xs = denote (trimI I) m xs ∧
    ((∀ op a b args t, I.sem op a b (trimV args) t = I.sem op a b args t) →
      denoteF I (liftModel m) xs = denote I m xs) := by
  have hp : pureMain (liftModel m) = true := by
    simp only [pureMain, liftModel, Bool.and_eq_true]
    refine ⟨⟨?_, noRefs_liftG m.graph⟩, h⟩
    exact opsAllG_mono (fun op _ => by simp [findFunc]) _ (opsAllG_true _)
  have h1 : denoteF I (liftModel m) xs = denote (trimI I) m xs := by
    have := C05_coherent (liftModel m) hp I (liftModel m).funcs.length xs
    simp only [denoteF]
    rw [this]
    simp only [denote, eraseModel, liftModel, erase_liftG]
  refine ⟨h1, fun hI => ?_⟩
  rw [h1]
  have : trimI I = I := by
    cases I with
    | mk sem tv =>
      simp only [trimI, Interp.mk.injEq, and_true]
      funext op a b args t
      exact hI op a b args t
  rw [this]

/-- non-vacuity of `C05_coherent`: a model with a function that the main graph does not call -/
example : pureMain ⟨.mk [0] [1] [] [.mk ⟨"", "Identity", ""⟩ [] [some 0] [1] []],
    [⟨⟨"l", "G", ""⟩, [], [20], [21], [.mk ⟨"", "Neg", ""⟩ [] [some 20] [21] []], []⟩], []⟩ = true := by decide +kernel

/-! ## AddDefaultAttributesPass (Model/AddDefaults.lean) -/

/-- **C05_add_defaults** — AddDefaultAttributesPass, with ONNX's schema tables as a parameter `T` (domain, operator
    type, opset version ↦ attribute declarations with `required` flag and default), the versions of the main graph's
    opset imports and the per-node versions (`ir.Node.version`): the pass adds to every node - of the main graph, of
    subgraphs at any depth and of every function body - the defaults of the schema it looks up for the node
    (`node.version`, else the MAIN graph's import of the node's domain, else nothing) that are not required, have a
    valid default and are absent from the node.
    ASSUMPTION `DefaultRespecting I T imports nver m`: the operator interpretation is default-respecting for that
    table on this model - at every node that is not a call of a model-local function, for every default `(k, d)` the
    looked-up schema declares, `I` gives the same results with and without `(k, d)` whenever `k` is absent
    (`RespectsDefault`; ONNX: an absent optional attribute means its default) - and a node that calls a
    model-local function gets no new attribute (`callsUntouched` of Model/AddDefaults.lean computes this and is evaluated
    on every generated case; no theorem connects the Boolean with `NodeRespects`, the two are compared by reading them).
    Then for every unrolling depth and every input the model after the pass denotes the same outputs (also at its
    canonical depth, `denoteF`), and the main graph keeps its inputs, outputs and initializers and the model its
    functions' identifiers, signatures and opset domains.  No validity assumption.
    `respectsDefault_of_sem` derives `RespectsDefault` from the same statement about `I.sem` for every operator
    other than Constant.  The ReferenceEvaluator oracle of the harness checks the instances of the assumption
    (outputs before = outputs after on the generated models); the table handed to the driver is dumped from
    `onnx.defs` for every operator, domain and version that occurs in the generated case. -/
theorem C05_add_defaults (T : SchemaTable) (imports : List (String × Nat)) (nver : FNode → Option Nat) (m : FModel)
    {Val : Type} (I : Interp Val) (hI : DefaultRespecting I T imports nver m) :
    (∀ (d : Nat) (xs : List Val), denoteAt d I (addDefaultsModel T imports nver m) xs = denoteAt d I m xs) ∧
    (∀ xs : List Val, denoteF I (addDefaultsModel T imports nver m) xs = denoteF I m xs) ∧
    (addDefaultsModel T imports nver m).graph.outputs = m.graph.outputs ∧
    (addDefaultsModel T imports nver m).graph.inputs = m.graph.inputs ∧
    (addDefaultsModel T imports nver m).graph.inits = m.graph.inits ∧
    (addDefaultsModel T imports nver m).funcs.map (fun f => (f.id, f.params, f.inputs, f.outputs, f.domains)) =
      m.funcs.map (fun f => (f.id, f.params, f.inputs, f.outputs, f.domains)) := by
  obtain ⟨hg, hf⟩ := hI
  have hat : ∀ (d : Nat) (xs : List Val), denoteAt d I (addDefaultsModel T imports nver m) xs = denoteAt d I m xs := by
    intro d xs
    simp only [denoteAt, addDefaultsModel]
    rw [fenv_addDef I m.funcs _ hf d,
      evalGF_addDef I (fenv I m.funcs d) m.funcs _ (fenv_isSome I m.funcs d) [] m.graph Env.empty hg]
  refine ⟨hat, fun xs => ?_, ?_, ?_, ?_, ?_⟩
  · have := hat m.funcs.length xs
    simpa only [denoteF, addDefaultsModel, List.length_map] using this
  · cases hgr : m.graph with
    | mk i o t n => simp [addDefaultsModel, hgr, addDefG, FGraph.outputs]
  · cases hgr : m.graph with
    | mk i o t n => simp [addDefaultsModel, hgr, addDefG, FGraph.inputs]
  · cases hgr : m.graph with
    | mk i o t n => simp [addDefaultsModel, hgr, addDefG, FGraph.inits]
  · simp [addDefaultsModel, addDefFunc, List.map_map, Function.comp_def]

/-- non-vacuity: the table declares `alpha` (default 0.5... as bits) for Selu at version 18 and a required attribute;
    the node has no `alpha`: the pass adds it, to the node in the main graph and to the one in the function body -/
example : ((addDefaultsModel (fun d t v => if d == "" && t == "Selu" && v == 18 then
      some [⟨"alpha", false, some (.float 1056964608)⟩, ⟨"gamma", true, some (.float 0)⟩, ⟨"beta", false, none⟩] else none)
    [("", 18)] (fun _ => none)
    ⟨.mk [0] [2] [] [.mk ⟨"", "Selu", ""⟩ [] [some 0] [1] [], .mk ⟨"l", "F", ""⟩ [] [some 1] [2] []],
     [⟨⟨"l", "F", ""⟩, [], [10], [11], [.mk ⟨"", "Selu", ""⟩ [("alpha", .ref "a")] [some 10] [11] []], []⟩], []⟩).graph.nodes.map
      (fun n => n.attrs.map Prod.fst)) = [["alpha"], []] := by decide +kernel

/-- the assumption is satisfiable by an interpretation that looks at attributes: `sem` reads the attribute list after
    filling in the default, so it cannot tell an absent `alpha` from the default one -/
example : RespectsDefault (Val := Nat)
    ⟨fun _ attrs _ _ _ => [match (attrs ++ [("alpha", AttrData.float 5)]).lookup "alpha" with
      | some (.float b) => b | _ => 0], fun _ => 0⟩ ⟨"", "Selu", ""⟩ "alpha" (.float 5) := by
  refine respectsDefault_of_sem _ _ _ _ (by decide) (fun attrs bodies args t hk => ?_)
  have hnone : attrs.lookup "alpha" = none := by
    rw [List.lookup_eq_none_iff]
    intro p hp
    simp only [bne_iff_ne, ne_eq]
    intro hpe
    exact hk (List.mem_map.2 ⟨p, hp, hpe.symm⟩)
  simp [List.lookup_append, hnone]

/-- ... and it is a real restriction: an interpretation that counts attributes does not respect any default -/
example : ¬ RespectsDefault (Val := Nat) ⟨fun _ attrs _ _ _ => [attrs.length], fun _ => 0⟩ ⟨"", "Selu", ""⟩ "alpha" (.float 5) := by
  intro h
  have := h [] [1] [] [] (by simp)
  simp [nodeResultsF, nodeResults, isIdentityOp, constOf, isConstantOp] at this

end IrVerif.Inline
