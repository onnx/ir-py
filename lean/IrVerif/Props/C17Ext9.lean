/-
C17: function bodies BELOW IR version 10 in the EXTENDED model
(`Model/ScopeExt9.lean`: `deserializeME9` / `serializeME9`; type / shape / doc_string AND metadata_props of function
values stored in the main graph's value_info under `domain::function/value`).  Proofs in `Lemmas/ScopeExt9*.lean`.
`C17_idempotent_ir9`, `C03_roundtrip_ext_model` and `C03_roundtrip_ext`, referred to below, are in `Props/C17.lean` /
`Props/C03.lean`, which import this file; `C17_idempotent_ext_ir9` names the full statement, which is not stated
in Lean.
-/
import IrVerif.Lemmas.ScopeExt9Cert
namespace IrVerif.Scope

/-- **C17_ext9_erasure**: on EVERY extended model proto the IR < 10 run of the extended model (`deserializeME9`:
    `deserializeME`, then the post-pass that applies the experimental `domain::function/value` entries of the main
    graph's value_info to the function inputs and node outputs - info overwritten, metadata merged, last entry per
    name wins) and the core IR < 10 run `deserializeM9` on the erased proto return the same store and the same tree
    (main graph and functions), or the same error.  So `C17_idempotent_ir9`'s certificate, consistency and the kernel
    invariant carry over: the metadata never influences resolution, allocation, use-def links or ownership. -/
theorem C17_ext9_erasure (p : ModelE) :
    (match deserializeME9 p with
      | .ok w => deserializeM9 (eraseM p) = .ok w.core
      | .error e => deserializeM9 (eraseM p) = .error e) :=
  deserializeME9_erase p

/-- **C17_ext9_entries_inert** (the main-graph half of the extended IR < 10 fix-point, metadata included): for every
    model `w` that `deserializeME9` returns and every IR version, the experimental entries that `serializeME9`
    appends to the main graph's value_info - each with the emitted info AND the sorted metadata of a function value -
    are INERT for the main graph's extended run: `Q.graph` (with the entries) and `q.graph` (the main graph
    `serializeME` writes, without them) deserialize with `deserGraphE` to the same store, the same extension state
    (merged metadata, quantization annotations, device configurations) and the same tree, or the same error, in every
    store / extension state / scope stack.  In particular no metadata of an experimental entry leaks onto a
    main-graph value of the reloaded model.  (Reading is by name: a PROTO whose main graph has a value named like an
    experimental entry does attach the entry's info and metadata to that value - that is `deserGraphE` and
    `C17_ext9_erasure`; the reserved names make sure `serializeME9` never writes such a proto.)
    No hypothesis beyond "deserialization succeeded": the initializers of a deserialized model are keyed by the name
    of their value (`deserializeME9_keys`, from the certificate `deserializeM9_reloadable`). -/
theorem C17_ext9_entries_inert (ver : Option Int) (p : ModelE) (w : MWorldE) (hd : deserializeME9 p = .ok w)
    (w1 : MWorldE) (Q : ModelE) (h : serializeME9 ver w = .ok (w1, Q)) :
    ∃ q, serializeME ver w = .ok (w1, q) ∧
      ∀ (st : Store) (x : Ext) (outer : List Table), deserGraphE st x outer Q.graph = deserGraphE st x outer q.graph :=
  ext9_entries_inert ver w w1 Q h (deserializeME9_keys p w hd)

/-- **C17_ext9_reloadable**: every model that `deserializeME9` returns - for EVERY extended model proto, whatever its
    experimental entries (repeated, with or without type, with metadata, under names of main-graph values, for
    overloaded or missing functions) and whatever value_info its functions carry below IR 10 - satisfies the
    certificate `ReloadableME` of the extended round-trip theorems: the resolution certificate of the core (the
    post-pass writes infos that are a function of the name among a function's values: `post_reloadable`), the
    certificates `extG` / `extF` of the extension state (they read the store through names only and the extension
    state through the annotations only: `extG_info`; equally named inputs of a function get the SAME metadata
    merged into the same metadata: `foldE_vmeta_at`) and `ExtWF`.  Consequences: `C03_roundtrip_ext_model`,
    `C03_roundtrip_ext` and `C03_roundtrip_ext_ir9_partial` apply to it; serializing it in either format raises
    only in a device configuration. -/
theorem C17_ext9_reloadable (p : ModelE) (w : MWorldE) (hd : deserializeME9 p = .ok w) : ReloadableME w :=
  deserializeME9_reloadableME p w hd

/-- **C17_idempotent_ext_ir9_partial**: what is PROVED of the fix-point of the IR < 10 format in the extended model,
    for EVERY model proto `p` with `deserializeME9 p = .ok w` (no hypothesis) and every IR version:
    `serializeME9 ver w` raises only in a device configuration (never for lack of a name), or it returns `Q`, which
    is the proto `q` that `serializeME` writes for `w` (IR >= 10 format) with the functions' value_info removed and
    the entries `E` appended to the main graph's value_info.  Every entry of `E` is `ExpEntryOK`; with or without `E`
    the main graph deserializes identically (`C17_ext9_entries_inert`), so the MAIN-GRAPH half of `deserializeME9 Q`
    is that of `deserializeME q`, whose result `D` serializes to `q` again.
    The full statement `C17_idempotent_ext_ir9` (`deserializeME9 Q = .ok D9 ∧ serializeME9 ver D9 = .ok (_, Q)`) is not
    proved: the FUNCTION half of the reload is missing.  The driver evaluates it on every generated IR < 10 case with
    functions (`reload_fixpoint`; the harness counts `ext9_model_fixpoint`), the oracle evaluates it on the real code. -/
theorem C17_idempotent_ext_ir9_partial (ver : Option Int) (p : ModelE) (w : MWorldE) (hd : deserializeME9 p = .ok w) :
    (∃ e, serializeME9 ver w = .error (.dev e)) ∨
    ∃ (w1 : MWorldE) (Q q : ModelE) (E : List VInfoE) (D : MWorldE) (st : Store) (x : Ext),
      serializeME9 ver w = .ok (w1, Q) ∧ serializeME ver w = .ok (w1, q) ∧
      Q.funcs = (q.funcs.map fun f => { f with vinfo := [] }) ∧ Q.graph.vinfo = q.graph.vinfo ++ E ∧
      (∀ e ∈ E, ExpEntryOK w e) ∧
      (∀ (st : Store) (x : Ext) (outer : List Table), deserGraphE st x outer Q.graph = deserGraphE st x outer q.graph) ∧
      deserializeME q = .ok D ∧ deserGraphE {} {} [] Q.graph = .ok (st, x, D.root) ∧
      deserFuncsE st x [] q.funcs = .ok (D.st, D.ext, D.funcs) ∧ ∃ w2, serializeME ver D = .ok (w2, q) :=
  roundtrip_ext_ir9_partial ver w (deserializeME9_reloadableME p w hd)

/-- main graph `Identity(x) -> y` with TWO experimental entries for the value `c` of function `custom::f` (metadata
    `k=1`, then `b=2`: the last one is applied); the function carries a value_info for `c` with metadata `z=0` of
    its own (read first, the experimental entry is MERGED into it) -/
def exampleExt9 : ModelE :=
  ⟨.mk [⟨"x", {}, []⟩] [] [⟨"custom::f/c", {}, [("k", "1")]⟩, ⟨"custom::f/c", { ty := some "f32" }, [("b", "2")]⟩]
      [ .mk ["x"] ["y"] [] [] ] [⟨"y", {}, []⟩] [],
    [⟨⟨"custom", "f", ""⟩, ["a"], ["c"], [⟨"c", {}, [("z", "0")]⟩], [ .mk ["a"] ["c"] [] [] ]⟩]⟩

/-- the names of the main graph's value_info entries after deserialize-then-serialize, and the merged metadata of
    the function values (inputs, then node outputs) of the deserialized model -/
def first9E (ver : Option Int) (P : ModelE) : Option (List Name × List SS) :=
  match deserializeME9 P with
  | .error _ => none
  | .ok m =>
    match serializeME9 ver m with
    | .error _ => none
    | .ok (_, Q) =>
      some (Q.graph.vinfo.map (·.name), m.funcs.flatMap fun f => (f.2.inputs ++ f.2.nodes.flatMap NodeT.outputs).map m.ext.vmeta)

/-- the hypotheses are satisfiable, the second alternative of `C17_idempotent_ext_ir9_partial` occurs with one entry
    written, and the metadata is MERGED: `z=0` of the function's own entry survives next to `b=2` of the LAST
    experimental entry; `k=1` of the overwritten experimental entry does not.  (The fix-point itself is evaluated by
    the driver on every generated case: `List.mergeSort` does not reduce in the kernel.) -/
example : first9E (some 9) exampleExt9 = some (["custom::f/c"], [[], [("z", "0"), ("b", "2")]]) := by decide +kernel

end IrVerif.Scope
