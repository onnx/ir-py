/-
C01 — use-def and ownership links stay consistent under every edit history.
Model: `IrVerif/Model/Kernel.lean`; the six clauses of the invariant: `Lemmas/KernelBase.lean`; `WF` and its
preservation: `KernelOps.lean`; per-primitive lemmas: `Kernel*.lean`.

The alphabet `Op` / `ConvOp` over which `C01_step`, `C01_step_conv`, `C01_history`, `C01_mutation_faithful` (and
`C06_atomic`) quantify contains, beside the edits of the use-def and ownership links, `Node.name =`, `Node.op_type =`,
`Value.const_value = None`, `list.sort(key=, reverse=)` of the tracked lists, every edit of a node's attribute
dict (`attrSet` / `attrDel` / `attrClear`, attributes being model state: `C01_attr_frame`), `Graph.sort` decided
by the model itself through C12's sort model (`Op.sort`, `C01_sort_step`, `Lemmas/KernelSort.lean`), and the
composites `Tape.initializer` and `Builder.<Op>(…)`.  Which public members of /repo map to which operation is
the table `API_TABLE` in `harness/kernel_ops.py`, compared with the introspected classes on every run.

`C01_sort_exact` / `C01_sort_accepted_iff`: an accepted sort leaves every graph of the nest with EXACTLY the entry
C12's sort model returned; acceptance criterion.  `GraphView` (`Model/KernelView.lean`: views next to the kernel world):
`C01_view_frame`, `C01_views_erasable`, `C01_history_views`.
-/
import IrVerif.Lemmas.KernelOps
import IrVerif.Lemmas.KernelSeq
import IrVerif.Props.C11
import IrVerif.Lemmas.KernelFaithful
import IrVerif.Lemmas.KernelSort
import IrVerif.Lemmas.KernelReject
import IrVerif.Model.KernelView
namespace IrVerif.Kernel

theorem C01_init : WF World.empty := WF_empty

/-- **C01_step**: every operation of the alphabet preserves the invariant — for every argument
(also invalid ones) and whatever the outcome (`ok` or `raised`). -/
theorem C01_step (w : World) (op : Op) (h : WF w) : WF (step w op).1 := step_WF w op h

/-- **C01_mutation_faithful**: on a well-formed world no call of the alphabet ever reaches a failing
check inside its mutation phase: once the up-front validation has passed, every guarded primitive
(`setInput`, `attachOutput`, `detachLast`, `ioInsert`, `ioRemoveAt`, `initPut`, `initDel`, `nodeLink`,
`nodeUnlink`, the naming steps) takes its effect branch — the model's mutation is the sequence of the
Python's unguarded writes.  `late` counts the checks that fail after a write; `guardOp` turns a moved
`late` into a raise that keeps the partially written world (so `C01_step` also covers such states, and
`C06_atomic` is this theorem's corollary). -/
theorem C01_mutation_faithful (w : World) (hw : WF w) (op : Op) : (step w op).1.late = w.late :=
  step_late w hw op

theorem C01_rename_faithful (w : World) (hw : WF w) (vs : List Nat) (names : List String) :
    (renameValues w vs names).1.late = w.late := renameValues_late w hw vs names

/-- **C01_step_conv**: the composite calls (`Tape.initializer`, `Builder.<Op>(…)`, `convenience.replace_all_uses_with`,
`rename_values`, `replace_nodes_and_values`; the `…Exact` forms of `ConvOp` too) preserve the invariant as well —
including the intermediate state they leave behind when one of their sub-calls raises. -/
theorem C01_step_conv (w : World) (op : ConvOp) (h : WF w) : WF (stepConv w op).1 := stepConv_WF w op h

theorem C01_step_any (w : World) (op : AnyOp) (h : WF w) : WF (stepAny w op).1 := stepAny_WF w op h

/-- **C01_history**: the invariant holds after every finite history of calls. -/
theorem C01_history (ops : List AnyOp) : WF (runAny ops) := runAny_WF ops

theorem C01_history_from (w : World) (ops : List AnyOp) (h : WF w) :
    WF (ops.foldl (fun w o => (stepAny w o).1) w) := runFrom_WF ops w h

/-! ### attribute edits and `Graph.sort`

Node attributes are part of the model state (`NodeS.attrs`: every key in dict order with the graphs its
attribute holds).  No `Graph` / `Attr` object carries a back pointer to the node that holds it
(`_core.py` `Graph.__slots__`, `Attr.__slots__`; `Attributes._owner` points from the dict to its node, which is
the direction the model has), so no ownership link depends on attributes — proved, not assumed:
`C01_attr_frame`.  What does depend on them is the traversal `Graph.sort` performs; `Op.sort g` reads the
object tree off the world (`treeOf`) and lets C12's `sortModel` decide. -/

/-- **C01_attr_frame**: every edit of a node's attribute dict — `attrSet` (`attributes[k] = a`, `add`, `update`,
`setdefault` on an absent key), `attrDel` (`del`, `pop`), `attrClear`, and any replacement of the dict by `setAttrs`
(which is how `Node(…, attributes=…)` installs the dict a node is created with: `withAttrs`) — changes at most the
attribute dicts: all value records, all graph records, every other field of every node, the tensor names and the name
authority are what they were — and such a change keeps the invariant in both directions. -/
theorem C01_attr_frame (w : World) (n : Nat) (key : String) (gs : List Nat) (strict : Bool)
    (as : List (String × List Nat)) :
    AttrFrame w (step w (.attrSet n key gs)).1 ∧ AttrFrame w (step w (.attrDel n key strict)).1 ∧
    AttrFrame w (step w (.attrClear n)).1 ∧ AttrFrame w (setAttrs w n as) ∧
    (∀ w', AttrFrame w w' → (WF w' ↔ WF w)) :=
  ⟨guardOp_attrFrame _ _ _ _ (setAttrs_attrFrame _ _ _), guardOp_attrFrame _ _ _ _ (setAttrs_attrFrame _ _ _),
   guardOp_attrFrame _ _ _ _ (setAttrs_attrFrame _ _ _), setAttrs_attrFrame _ _ _, fun _ h => h.wf_iff⟩

/-- **C01_sort_step**: `C01_step` for the real sort.  `Op.sort g` builds the object tree
`RecursiveGraphIterator` walks from the world itself (`treeOf`: node sequences, producers of node inputs,
graph-valued attributes in dict order) and runs C12's `Sort.sortModel` on it.  The tree is tied to the world
(every graph of the nest is listed with exactly the node sequence the world records); under C12's well-formedness of
the tree (distinct node ids and graph ids, i.e. no `Graph` object reachable through two attributes) every order the
sort model returns is a permutation of that graph's current sequence: the
permutation guard of `sortOk` ("some permutation", a model totalisation) is never what rejects (`sortBad` reduces to
the naming probe), a cycle / shared graph (`sortModel = none`) raises, and the invariant is preserved.  That these are
the only ways to be rejected is `C01_sort_accepted_iff`. -/
theorem C01_sort_step (w : World) (g : Nat) (hw : WF w) (ht : Sort.WF (treeOf w g)) :
    WF (step w (.sort g)).1 ∧
    (∀ h ∈ Sort.allGraphs (treeOf w g), h.2.map Sort.MNode.id = (w.gr h.1).nodes) ∧
    (∀ r, Sort.sortModel (treeOf w g) = some r →
      (∀ p ∈ r, p.2.Perm (w.gr p.1).nodes) ∧
      sortBad w r = r.any (fun p => !p.2.all (nodeAcceptable w p.1)) ∧
      (step w (.sort g)).1 = (step w (.sortOk r)).1) ∧
    (Sort.sortModel (treeOf w g) = none → step w (.sort g) = (w, .raised "ValueError")) := by
  refine ⟨step_WF w _ hw, treeOf_tied w g, ?_, ?_⟩
  · intro r hr
    refine ⟨sortModel_perm_world w g ht r hr, sortBad_of_sortModel w g ht r hr, ?_⟩
    simp only [step, graphSort, hr, guardOp]
    split <;> rfl
  · intro hn
    simp only [step, graphSort, hn]

/-- **C01_sort_exact**: after an ACCEPTED `Graph.sort` / `Function.sort` — under the hypotheses of `C01_sort_step` — the sort
model returned a list `r`
with exactly one entry per graph of the nest (in the order `RecursiveGraphIterator` meets them), and afterwards the
node sequence of every graph of the nest EQUALS its entry (not just some permutation the code supplied), every graph
outside the nest keeps its node sequence, and every node names the graph it named before. -/
theorem C01_sort_exact (w : World) (g : Nat) (hw : WF w) (ht : Sort.WF (treeOf w g))
    (hok : (step w (.sort g)).2 = .ok) :
    ∃ r, Sort.sortModel (treeOf w g) = some r ∧
      r.map Prod.fst = (Sort.allGraphs (treeOf w g)).map Prod.fst ∧
      (∀ p ∈ r, ((step w (.sort g)).1.gr p.1).nodes = p.2) ∧
      (∀ h, h ∉ r.map Prod.fst → ((step w (.sort g)).1.gr h).nodes = (w.gr h).nodes) ∧
      (∀ n, ((step w (.sort g)).1.node n).graph = (w.node n).graph) := by
  cases hr : Sort.sortModel (treeOf w g) with
  | none =>
    have := (C01_sort_step w g hw ht).2.2.2 hr
    rw [this] at hok; cases hok
  | some r =>
    have hids := sortModel_graph_ids _ ht r hr
    have hbad : sortBad w r = false := by
      cases hb : sortBad w r with
      | false => rfl
      | true =>
        simp only [step, graphSort, hr, guardOp, hb, if_true] at hok
        cases hok
    have hfst : (step w (.sort g)).1 = sortApply w r := by
      simp only [step, graphSort, hr]
      exact guardOp_fst _ _ _ _ hbad
    have hall : ∀ p ∈ r, p.2.isPerm (w.gr p.1).nodes = true ∧ p.2.all (nodeAcceptable w p.1) = true := by
      intro p hp
      have := List.any_eq_false.1 hbad p hp
      simpa using this
    have hnd : (r.map Prod.fst).Nodup := by rw [hids]; exact ht.gids
    obtain ⟨e1, e2, e3⟩ := sortApply_exact r w hw hnd (fun p hp => List.isPerm_iff.1 (hall p hp).1)
      (fun p hp n hn => List.all_eq_true.1 (hall p hp).2 n hn)
    rw [hfst]
    exact ⟨r, rfl, hids, e1, e2, e3.graph⟩

/-- **C01_sort_accepted_iff**: on a well-formed world `sort` is accepted exactly when the sort model returns an order
(no cycle, no shared graph) that `sortBad` lets pass: no node of the nest fails the naming probe (the other half of `sortBad`,
the permutation guard, never fails on a well-formed tree: `sortBad_of_sortModel`).  `C01_mutation_faithful` rules out the
third way the model can raise (a check failing after a write). -/
theorem C01_sort_accepted_iff (w : World) (g : Nat) (hw : WF w) :
    (step w (.sort g)).2 = .ok ↔ ∃ r, Sort.sortModel (treeOf w g) = some r ∧ sortBad w r = false := by
  have hl := C01_mutation_faithful w hw (.sort g)
  cases hr : Sort.sortModel (treeOf w g) with
  | none => simp [step, graphSort, hr]
  | some r =>
    simp only [step, graphSort, hr] at hl ⊢
    cases hb : sortBad w r with
    | true => simp [guardOp, hb]
    | false =>
      have h1 : (guardOp false "ValueError|AttributeError" w (sortApply w r)).1 = sortApply w r :=
        guardOp_fst _ _ _ _ rfl
      rw [hb, h1] at hl
      simp [guardOp, hl, hb]

/-! non-vacuity of `C01_sort_step` / `C01_attr_frame`: a child graph `g0 = [b, a]` (out of order) held by an
attribute of `o ∈ g1`; `sort` on `g1` re-orders the child.  With the same graph held by two attributes the
hypothesis fails (and the library raises). -/

def exSortHistory : List Op :=
  [ .newValue (some "x"),                                                    -- v0
    .newNode "Id" (some "a") [some 0] none none none,                     -- n0 -> v1
    .newNode "Id" (some "b") [some 1] none none none,                     -- n1 -> v2
    .newGraph [] [] [1, 0] [],                                               -- g0 = [b, a]
    .newNodeAttrs "If" (some "o") [] none none none [("then", [0])],              -- n2 -> v3
    .newGraph [] [] [2] [] ]                                                 -- g1 = [o]

theorem run_exSortHistory : run exSortHistory =
    { vals := [{ name := some "x", uses := [(0, 0)] },
               { name := some "val_1", producer := some 0, index := some 0, uses := [(1, 0)] },
               { name := some "val_0", producer := some 1, index := some 0 },
               { name := some "val_0", producer := some 2, index := some 0 }],
      nodes := [{ inputs := [some 0], outputs := [1], graph := some 0, name := some "a", opType := "Id" },
                { inputs := [some 1], outputs := [2], graph := some 0, name := some "b", opType := "Id" },
                { outputs := [3], graph := some 1, name := some "o", opType := "If", attrs := [("then", [0])] }],
      graphs := [{ nodes := [1, 0], vCtr := 2, vNames := ["val_1", "val_0"], nNames := ["a", "b"] },
                 { nodes := [2], vCtr := 1, vNames := ["val_0"], nNames := ["o"] }] } := by decide +kernel

example : treeOf (run exSortHistory) 1 =
    (1, [.mk 2 [] [(0, [.mk 1 [some 0] [], .mk 0 [none] []])]]) := run_exSortHistory ▸ rfl
example : Sort.WF (treeOf (run exSortHistory) 1) := by rw [run_exSortHistory]; exact ⟨by decide, by decide⟩
example : Sort.sortModel (treeOf (run exSortHistory) 1) = some [(1, [2]), (0, [0, 1])] := run_exSortHistory ▸ rfl
example : ((step (run exSortHistory) (.sort 1)).1.gr 0).nodes = [0, 1] ∧
    (step (run exSortHistory) (.sort 1)).2 = .ok :=
  run_exSortHistory ▸ ⟨rfl, rfl⟩
/-- `C01_sort_exact` on the example: the accepted sort leaves every graph of the nest with exactly its entry -/
example : (step (run exSortHistory) (.sort 1)).2 = .ok ∧
    ((step (run exSortHistory) (.sort 1)).1.gr 1).nodes = [2] ∧
    ((step (run exSortHistory) (.sort 1)).1.gr 0).nodes = [0, 1] :=
  run_exSortHistory ▸ ⟨rfl, rfl, rfl⟩
/-- the hypothesis can fail: the child held by two attributes of the same node -/
example : ¬ Sort.WF (treeOf (step (run exSortHistory) (.attrSet 2 "else" [0])).1 1) := fun h => by
  have := h.ids; revert this; rw [run_exSortHistory]; decide
example : (step (step (run exSortHistory) (.attrSet 2 "else" [0])).1 (.sort 1)).2 = .raised "ValueError" :=
  run_exSortHistory ▸ rfl
/-- attribute edits do change the model state (they are not no-ops), only not what `WF` reads -/
example : (step (run exSortHistory) (.attrDel 2 "then" true)).1 ≠ run exSortHistory ∧
    (step (run exSortHistory) (.attrDel 2 "zz" true)).2 = .raised "KeyError" :=
  run_exSortHistory ▸ by decide

/-! ### `GraphView`

A `GraphView` stores plain tuples and a plain dict (`Model/KernelView.lean`); the views live next to the kernel world.
The model of a view operation is compared with the real `GraphView` on every run (content of the view, and the deep
snapshot of every value / node / graph before vs after the call: `view-frame`). -/

theorem onView_w (vw : VWorld) (i : Nat) (f : ViewS → ViewS) : (onView vw i f).1.w = vw.w := by
  unfold onView; split <;> rfl

theorem viewStep_w (vw : VWorld) (op : ViewOp) : (viewStep vw op).1.w = vw.w := by
  cases op with
  | newView inputs outputs nodes inits => simp only [viewStep]; split <;> rfl
  | initDel i key =>
    simp only [viewStep]; split
    · rfl
    · exact onView_w _ _ _
  | _ => exact onView_w _ _ _

/-- **C01_view_frame**: creating a view (also a rejected creation), re-assigning its slots, editing its plain
initializer dict and dropping it return the WHOLE kernel world they were given — no value, node or graph record, no
reference counter, no name-authority state changes, a fortiori no field the invariant reads; conversely a kernel call
returns the views it was given (a view lists object ids, it holds no copy of a record). -/
theorem C01_view_frame (vw : VWorld) :
    (∀ op : ViewOp, (vstep vw (.view op)).1.w = vw.w) ∧
    (∀ op : AnyOp, (vstep vw (.kernel op)).1.views = vw.views ∧ (vstep vw (.kernel op)).1.w = (stepAny vw.w op).1 ∧
      (vstep vw (.kernel op)).2 = (stepAny vw.w op).2) :=
  ⟨fun op => viewStep_w vw op, fun _ => ⟨rfl, rfl, rfl⟩⟩

/-- **C01_views_erasable**: the kernel world after a history in which view operations are interleaved with the
editing calls is the kernel world of the same history with the view operations erased: no view operation, whatever
its arguments and outcome, has any influence on the IR state — now or later. -/
theorem C01_views_erasable (ops : List VOp) : (runV ops).w = runAny (kernelOps ops) := by
  unfold runV runAny
  suffices ∀ (s : VWorld) (w : World), s.w = w →
      (ops.foldl (fun s o => (vstep s o).1) s).w = (kernelOps ops).foldl (fun w o => (stepAny w o).1) w from
    this {} World.empty rfl
  induction ops with
  | nil => intro s w e; exact e
  | cons o ops ih =>
    intro s w e
    cases o with
    | kernel op => exact ih _ _ (by subst e; rfl)
    | view op => exact ih _ _ (by rw [← e]; exact viewStep_w s op)

/-- **C01_history_views**: the invariant holds after every finite history of editing calls and view operations -/
theorem C01_history_views (ops : List VOp) : WF (runV ops).w := by
  rw [C01_views_erasable]; exact C01_history _

/-! ### what `WF` says, spelled out on the accessors (so that the statement can be read off) -/

/-- a value lists `(n, i)` as a use exactly when node `n` holds it at input index `i` -/
theorem C01_use_iff (w : World) (h : WF w) (v n i : Nat) :
    (n, i) ∈ (w.val v).uses ↔ (w.node n).inputs[i]? = some (some v) := h.use.1 v n i

theorem C01_uses_nodup (w : World) (h : WF w) (v : Nat) : (w.val v).uses.Nodup := h.use.2 v

/-- every node output names that node and position as its producer, and conversely -/
theorem C01_producer_iff (w : World) (h : WF w) (n i v : Nat) :
    (w.node n).outputs[i]? = some v ↔
      ((w.val v).producer = some n ∧ (w.val v).index = some (i : Int)) := h.prod.1 n i v

/-- a node names a graph exactly when that graph's node sequence contains it — once -/
theorem C01_node_iff (w : World) (h : WF w) (n g : Nat) :
    (w.node n).graph = some g ↔ n ∈ (w.gr g).nodes := h.node.mem n g

theorem C01_nodes_nodup (w : World) (h : WF w) (g : Nat) : (w.gr g).nodes.Nodup := h.node.nodup g

/-- a value reports being an input of a graph exactly when it is in that graph's input list -/
theorem C01_input_iff (w : World) (h : WF w) (g v : Nat) :
    v ∈ (w.gr g).inputs ↔ ((w.val v).isIn = true ∧ (w.val v).graph = some g) :=
  h.own.io_iff .inp g v

theorem C01_output_iff (w : World) (h : WF w) (g v : Nat) :
    v ∈ (w.gr g).outputs ↔ ((w.val v).isOut = true ∧ (w.val v).graph = some g) :=
  h.own.io_iff .out g v

/-- a value is an initializer of a graph exactly when the graph stores it — under its current name -/
theorem C01_initializer_iff (w : World) (h : WF w) (g v : Nat) :
    (∃ key, (key, v) ∈ (w.gr g).inits) ↔ ((w.val v).isInit = true ∧ (w.val v).graph = some g) :=
  h.own.init_iff g v

theorem C01_initializer_key (w : World) (h : WF w) (g : Nat) (key : String) (v : Nat)
    (hm : (key, v) ∈ (w.gr g).inits) : (w.val v).name = some key := (h.key.name g key v hm).1

/-- graph inputs and initializers have no producing node -/
theorem C01_roots (w : World) (h : WF w) (v : Nat)
    (hv : (w.val v).isIn = true ∨ (w.val v).isInit = true) : (w.val v).producer = none := h.root v hv

/-- the reference counters equal the multiplicities (values listed several times) -/
theorem C01_counters (w : World) (h : WF w) (g v : Nat) :
    lget (w.gr g).inCnt v = (w.gr g).inputs.count v ∧ lget (w.gr g).outCnt v = (w.gr g).outputs.count v :=
  ⟨h.own.cnt .inp g v, h.own.cnt .out g v⟩

/-! ### the node sequence at pointer level (tie to C11)

The kernel keeps a graph's node sequence as a duplicate-free list and edits it with `linkAfter` /
`erase` (`seqApply` = these edits as a function of the operation).  `Model/LinkedSet.lean` is the
pointer-faithful model of `_linked_list.py`; C11 proves that it refines an abstract list machine. -/

/-- **C01_node_sequence_refined**: for every pointer-level state satisfying C11's representation
invariant and every node-sequence operation (`append`, `extend`, `insert_after`, `insert_before`,
`remove`, with arbitrary arguments — present, absent, repeated, the anchor itself: "already
present ⇒ moved", "same as the anchor ⇒ no-op"), the sequence read off the pointer structure after
the operation is the kernel's list function applied to the sequence read off before, and the
operation raises exactly when the kernel's function rejects. -/
theorem C01_node_sequence_refined {s : LinkedSet.LSet} (h : LinkedSet.WF s) (op : LinkedSet.Op) :
    LinkedSet.toList (LinkedSet.apply s op).1 = (seqApply (LinkedSet.toList s) op).1 ∧
    (LinkedSet.apply s op).2 = (seqApply (LinkedSet.toList s) op).2 := by
  obtain ⟨h1, h2⟩ := LinkedSet.C11_rep_toList h op
  obtain ⟨e1, e2⟩ := seqApply_eq_spec (LinkedSet.toList s) (LinkedSet.toList_nodup h) op
  exact ⟨h1.trans e1, h2.trans e2⟩

/-- the same along any history of node-sequence operations, starting from the empty container -/
theorem C01_node_sequence_history (ops : List LinkedSet.Op) :
    LinkedSet.toList (ops.foldl (fun s o => (LinkedSet.apply s o).1) LinkedSet.empty) =
      ops.foldl (fun l o => (seqApply l o).1) [] :=
  (List.foldl_rel (r := fun s l => LinkedSet.WF s ∧ LinkedSet.toList s = l) LinkedSet.C11_rep_empty
    (fun o _ s l h => by
      obtain ⟨hs, rfl⟩ := h
      exact ⟨LinkedSet.C11_rep_step hs o, (C01_node_sequence_refined hs o).1⟩)).2

/-- **C01_graph_calls_use_seq**: `seqApply` is what the kernel's graph calls do to
`(w.gr g).nodes` whenever they are not rejected (names are assigned on the way, which does not touch
the sequence) — so `I_node`, proved of the abstract list, holds of the pointer-level container that
simulates it step by step. -/
theorem C01_graph_calls_use_seq (w : World) (hw : WF w) (g : Nat) :
    (∀ n, nodeAcceptable w g n = true →
      ((graphAppend w g n).1.gr g).nodes = (seqApply (w.gr g).nodes (.append n)).1) ∧
    (∀ ns, ns.all (nodeAcceptable w g) = true →
      ((graphExtend w g ns).1.gr g).nodes = (seqApply (w.gr g).nodes (.extend ns)).1) ∧
    (∀ a ns, (w.node a).graph = some g → ns.all (nodeAcceptable w g) = true →
      ((graphInsertAfter w g a ns).1.gr g).nodes = (seqApply (w.gr g).nodes (.insertAfter a ns)).1) ∧
    (∀ a ns, (w.node a).graph = some g → ns.all (nodeAcceptable w g) = true →
      ((graphInsertBefore w g a ns).1.gr g).nodes = (seqApply (w.gr g).nodes (.insertBefore a ns)).1) ∧
    (∀ n, (w.node n).graph = some g →
      ((graphRemove w g [n] false).1.gr g).nodes = (seqApply (w.gr g).nodes (.remove n)).1) :=
  ⟨fun n h => nodes_graphAppend w g n h, fun ns h => nodes_graphExtend w g ns h,
   fun a ns ha h => nodes_graphInsertAfter w hw.node g a ns ha h,
   fun a ns ha h => nodes_graphInsertBefore w hw.node g a ns ha h,
   fun n h => nodes_graphRemove_one w hw.node g n h⟩

example : (seqApply [1, 2, 3] (.insertBefore 2 [3, 2, 1])).1 = [3, 2, 1] := by decide
example : (seqApply [1, 2, 3] (.append 1)).1 = [2, 3, 1] ∧ (seqApply [1, 2, 3] (.remove 7)).2 = false := by decide

/-! ### non-vacuity: a reachable two-graph world with a value that is input + output + initializer
and listed twice -/

def exHistory : List Op :=
  [ .newValue (some "x"),
    .newValue (some "w"),
    .newNode "Add" (some "n0") [some 0, some 0, none] (some 2) none none,
    .newGraph [1, 1] [1] [] [1],
    .newGraph [] [] [] [],
    .append 0 0,
    .setName 2 (some "y"),
    .replaceInput 0 2 (some 1) ]

theorem run_exHistory : run exHistory =
    { vals := [{ name := some "x", uses := [(0, 0), (0, 1)] },
               { name := some "w", uses := [(0, 2)], graph := some 0, isIn := true, isOut := true, isInit := true },
               { name := some "y", producer := some 0, index := some 0 },
               { name := some "val_1", producer := some 0, index := some 1 }],
      nodes := [{ inputs := [some 0, some 0, some 1], outputs := [2, 3], graph := some 0, name := some "n0",
                  opType := "Add" }],
      graphs := [{ inputs := [1, 1], outputs := [1], inCnt := [0, 2], outCnt := [0, 1], inits := [("w", 1)], nodes := [0],
                   vCtr := 2, vNames := ["val_1", "val_0", "w"], nNames := ["n0"] }, {}],
      extra := [["y", "w"]] } := by decide +kernel

example : (run exHistory).val 1 =
    { name := some "w", uses := [(0, 2)], graph := some 0, isIn := true, isOut := true, isInit := true } :=
  run_exHistory ▸ rfl
example : ((run exHistory).gr 0).inputs = [1, 1] ∧ ((run exHistory).gr 0).inits = [("w", 1)] ∧
    ((run exHistory).gr 0).nodes = [0] :=
  run_exHistory ▸ ⟨rfl, rfl, rfl⟩
example : (step (run exHistory) (.io 1 .inp (.append 1))).2 = .raised "ValueError" := run_exHistory ▸ rfl

/-! non-vacuity of the `GraphView` theorems -/

/-- non-vacuity: a view that lists `w` (an initializer and input of `g0`) as its OUTPUT and `x` (free) as input and
initializer `"x"`; nothing about `w` / `x` changed, and the view's own dict takes any value under any key -/
def exViewHistory : List VOp :=
  exHistory.map (fun o => VOp.kernel (.one o)) ++
    [ .kernel (.one (.newValue none)),                                      -- v4: no name
      .view (.newView [0] [1] [0] [0]), .view (.initPut 0 "zz" 2), .view (.newView [] [] [] [4]) ]

theorem runV_exViewHistory : runV exViewHistory =
    { w := (step (run exHistory) (.newValue none)).1,
      views := [{ inputs := [0], outputs := [1], inits := [("x", 0), ("zz", 2)], nodes := [0] }] } := by decide +kernel

example : (runV exViewHistory).views =
    [{ inputs := [0], outputs := [1], inits := [("x", 0), ("zz", 2)], nodes := [0] }] := by rw [runV_exViewHistory]
example : (runV exViewHistory).w = (step (run exHistory) (.newValue none)).1 := by rw [runV_exViewHistory]
example : ((runV exViewHistory).w.val 1).isOut = true ∧ ((runV exViewHistory).w.val 0).isIn = false ∧
    ((runV exViewHistory).w.val 0).graph = none :=
  runV_exViewHistory ▸ run_exHistory ▸ ⟨rfl, rfl, rfl⟩
/-- an initializer without a name is refused (`ValueError`) -/
example : (vstep (runV exViewHistory) (.view (.newView [] [] [] [4]))).2 = .raised "ValueError" :=
  runV_exViewHistory ▸ run_exHistory ▸ rfl

end IrVerif.Kernel
