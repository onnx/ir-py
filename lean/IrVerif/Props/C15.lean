/-
C15 — names: property theorems.  Model: `IrVerif/Model/Names.lean`; helper lemmas: `IrVerif/Lemmas/Names*.lean`.
Part A: the name authority (`_name_authority.py`) under arbitrary histories of `register_or_name_value` /
`register_or_name_node` calls, i.e. everything `Graph.__init__/append/extend/insert_before/insert_after` do to names.
Part B / B': `NameFixPass` with the default generator, one `_fix_graph_names` call and the whole pass; part C:
`convenience.rename_values`; part B+: `NameFixPass` with an arbitrary `NameGenerator` and backing tensors.
The hypotheses (`InitsOk`, `Closed`, `scopedB`, `PassWF`) are evaluated by the harness on concrete models; that the
model computes what onnx_ir does is checked differentially, not proved.
-/
import IrVerif.Model.Names
import IrVerif.Lemmas.Names
import IrVerif.Lemmas.NamesGraph
import IrVerif.Lemmas.NamesIdem
import IrVerif.Lemmas.NamesModel
import IrVerif.Lemmas.NamesOwned
import IrVerif.Lemmas.NamesRename
import IrVerif.Lemmas.NamesGen
import IrVerif.Lemmas.NamesGenPost
import IrVerif.Lemmas.NamesRecOrd
namespace IrVerif.Names

/-! ### C15_loop_terminates -/

/-- **C15_loop_terminates**: the `while True` loops of `_unique_value_name` and
`_unique_node_name`, and the `while` loop of NameFixPass's `_find_and_record_next_unique_name`
(candidates `base_k`), end after at most `|seen| + 1` iterations, for every seen set (explicit names
shaped like generated ones included), every counter value, every `op_type` and every base name; a
larger budget returns the same name and counter (so the budgeted loop *is* the unbounded one). -/
theorem C15_loop_terminates (seen : List String) (c : Nat) (op : String) :
    (∃ r, uniqueLoop valName seen (seen.length + 1) c = some r
        ∧ ∀ fuel, seen.length + 1 ≤ fuel → uniqueLoop valName seen fuel c = some r)
    ∧ (∃ r, uniqueLoop (nodeName op) seen (seen.length + 1) c = some r
        ∧ ∀ fuel, seen.length + 1 ≤ fuel → uniqueLoop (nodeName op) seen fuel c = some r)
    ∧ (∃ r, uniqueLoop (sufName op) seen (seen.length + 1) c = some r
        ∧ ∀ fuel, seen.length + 1 ≤ fuel → uniqueLoop (sufName op) seen fuel c = some r) := by
  refine ⟨?_, ?_, ?_⟩
  · obtain ⟨r, hr⟩ := uniqueLoop_total valName (fun _ _ => valName_inj) seen c
    exact ⟨r, hr, fun fuel h => uniqueLoop_mono _ _ _ _ _ hr _ h⟩
  · obtain ⟨r, hr⟩ := uniqueLoop_total (nodeName op) (fun _ _ => nodeName_inj op) seen c
    exact ⟨r, hr, fun fuel h => uniqueLoop_mono _ _ _ _ _ hr _ h⟩
  · obtain ⟨r, hr⟩ := uniqueLoop_total (sufName op) (fun _ _ => sufName_inj_k op) seen c
    exact ⟨r, hr, fun fuel h => uniqueLoop_mono _ _ _ _ _ hr _ h⟩

/-! ### C15_fresh -/

/-- **C15_fresh**: along *any* history of naming calls on one graph's authority, starting from
*any* authority state, a name the authority generates (the object's name was `None`) is
(1) not in the seen set of its namespace at that moment — in particular not in the initial one —
and (2) different from the name of every earlier call of the same namespace, generated *or
explicitly given* (explicit names may be shaped like generated ones: "val_7").  Together with
`C15_monotone` this is "never equal to a name registered or assigned before, for the life of the
graph". -/
theorem C15_fresh (ops : List Op) : ∀ (a : Auth) (pre post : List Ev) (e : Ev),
    (run ops a).2 = pre ++ e :: post → e.generated = true →
      e.name ∉ a.seen e.isNode ∧ ∀ e' ∈ pre, e'.isNode = e.isNode → e'.name ≠ e.name := by
  induction ops with
  | nil => intro a pre post e h; simp [run] at h
  | cons op ops ih =>
    intro a pre post e h hg
    rw [run_cons] at h
    cases pre with
    | nil =>
      simp only [List.nil_append, List.cons.injEq] at h
      obtain ⟨h1, _⟩ := h
      subst h1
      exact ⟨step_fresh a op hg, by simp⟩
    | cons e0 pre' =>
      simp only [List.cons_append, List.cons.injEq] at h
      obtain ⟨h0, hrest⟩ := h
      obtain ⟨i1, i2⟩ := ih (step a op).1 pre' post e hrest hg
      refine ⟨fun hin => i1 ((step_mono a op).1 _ _ hin), ?_⟩
      intro e' he' hk
      rcases List.mem_cons.mp he' with h' | h'
      · subst h'; subst h0
        intro heq
        apply i1
        rw [← heq, ← hk]
        exact step_registers a op
      · exact i2 e' h' hk

/-- **C15_monotone** (second half of DESIGN's `C15_fresh`): seen sets and counters are monotone
along any history, and every name handed out or registered stays in the seen set for ever
(removing a node does not call the authority at all). -/
theorem C15_monotone (ops : List Op) (a : Auth) :
    (∀ b x, x ∈ a.seen b → x ∈ (run ops a).1.seen b)
    ∧ a.vc ≤ (run ops a).1.vc ∧ a.nc ≤ (run ops a).1.nc
    ∧ ∀ e ∈ (run ops a).2, e.name ∈ (run ops a).1.seen e.isNode :=
  ⟨(run_mono ops a).1, (run_mono ops a).2.1, (run_mono ops a).2.2, run_registers ops a⟩

/-! ### the graph level: every way a name reaches or leaves the graph -/

/-- **C15_carried**: along any history of attaching (`register_or_name_*`, joining inputs / outputs
/ initializers), detaching, and renaming (`value.name = …`, `node.name = …`) objects, every name
carried by a value or node the graph currently owns is in the authority's seen set. -/
theorem C15_carried (ops : List GOp) (st : GSt) (h : Carried st) : Carried (grun ops st) :=
  grun_carried ops st h

/-- **C15_graph_fresh**: a name the graph generates for an unnamed value (node) differs from the
name carried by *any* value (node) the graph owned at *any* earlier moment of the history (after any
prefix `pre1`) — whether that name came through the constructor, an added node, the
inputs / outputs / initializers containers or a rename — and from every name the authority knew
initially. -/
theorem C15_graph_fresh (pre1 pre2 : List GOp) (st0 : GSt) (h0 : Carried st0) :
    (∀ v, (grun pre2 (grun pre1 st0)).vname v = none →
        (∀ u ∈ (grun pre1 st0).vown, (gstep (grun pre2 (grun pre1 st0)) (.regValue v)).vname v ≠ (grun pre1 st0).vname u)
        ∧ ∀ s ∈ st0.auth.vnames, (gstep (grun pre2 (grun pre1 st0)) (.regValue v)).vname v ≠ some s)
    ∧ (∀ n op, (grun pre2 (grun pre1 st0)).nname n = none →
        (∀ m ∈ (grun pre1 st0).nown, (gstep (grun pre2 (grun pre1 st0)) (.regNode n op)).nname n ≠ (grun pre1 st0).nname m)
        ∧ ∀ s ∈ st0.auth.nnames, (gstep (grun pre2 (grun pre1 st0)) (.regNode n op)).nname n ≠ some s) := by
  have c1 := grun_carried pre1 st0 h0
  have m01 := grun_mono pre1 st0
  have m12 := grun_mono pre2 (grun pre1 st0)
  constructor
  · intro v hv
    have hf := step_fresh (grun pre2 (grun pre1 st0)).auth (.value none) (by simp [step])
    have hk : (step (grun pre2 (grun pre1 st0)).auth (.value none)).2.isNode = false := by simp [step]
    rw [hk] at hf
    have hname : (gstep (grun pre2 (grun pre1 st0)) (.regValue v)).vname v
        = some (step (grun pre2 (grun pre1 st0)).auth (.value none)).2.name := by
      simp [gstep, hv]
    rw [hname]
    constructor
    · intro u hu he
      exact hf (by simpa [Auth.seen] using m12.1 _ (c1.values u hu _ he.symm))
    · intro s hs he
      cases he
      exact hf (by simpa [Auth.seen] using m12.1 _ (m01.1 _ hs))
  · intro n op hn
    have hf := step_fresh (grun pre2 (grun pre1 st0)).auth (.node none op) (by simp [step])
    have hk : (step (grun pre2 (grun pre1 st0)).auth (.node none op)).2.isNode = true := by simp [step]
    rw [hk] at hf
    have hname : (gstep (grun pre2 (grun pre1 st0)) (.regNode n op)).nname n
        = some (step (grun pre2 (grun pre1 st0)).auth (.node none op)).2.name := by
      simp [gstep, hn]
    rw [hname]
    constructor
    · intro m hm he
      exact hf (by simpa [Auth.seen] using m12.2 _ (c1.nodes m hm _ he.symm))
    · intro s hs he
      cases he
      exact hf (by simpa [Auth.seen] using m12.2 _ (m01.2 _ hs))

/-- **C15_explicit_kept**: along any history, a value (node) that has a name — the empty string
included — keeps exactly that name unless the *user* assigns to it: constructing the graph, adding,
re-adding, inserting nodes, joining inputs / outputs / initializers, and naming *other* objects
never alter it, whatever has been seen before. -/
theorem C15_explicit_kept : ∀ (ops : List GOp) (st : GSt),
    (∀ v s, st.vname v = some s → (∀ name, GOp.setValue v name ∉ ops) → (grun ops st).vname v = some s)
    ∧ (∀ n s, st.nname n = some s → (∀ name, GOp.setNode n name ∉ ops) → (grun ops st).nname n = some s)
  | [], st => ⟨fun _ _ h _ => h, fun _ _ h _ => h⟩
  | op :: ops, st => by
    obtain ⟨a, b⟩ := C15_explicit_kept ops (gstep st op)
    constructor
    · intro v s h hno
      rw [grun_cons]
      exact a v s (gstep_keeps_value st op v s h (fun name e => hno name (e ▸ List.mem_cons_self)))
        (fun name hm => hno name (List.mem_cons_of_mem _ hm))
    · intro n s h hno
      rw [grun_cons]
      exact b n s (gstep_keeps_node st op n s h (fun name e => hno name (e ▸ List.mem_cons_self)))
        (fun name hm => hno name (List.mem_cons_of_mem _ hm))

/-! ### non-vacuity -/

/-- a value named "val_0" joins the inputs (`noteValue`), or an owned value is
renamed to "val_0" — the next unnamed value gets "val_1" -/
example : (grun [.noteValue 0, .regNode 0 "Add", .regValue 1]
    { vname := fun i => if i = 0 then some "val_0" else none, nname := fun _ => none }).vname 1 = some "val_1" := by
  decide
example : ((List.range 3).map (grun [.regValue 0, .setValue 0 (some "val_1"), .regValue 1, .dropValue 0, .regValue 2]
    { vname := fun _ => none, nname := fun _ => none }).vname) = [some "val_1", some "val_2", some "val_3"] := by
  decide

/-- the explicit name "val_1" makes the generator skip 1: val_0, (explicit val_1), val_2 -/
example : ((run [.value none, .value (some "val_1"), .value none] {}).2.map (·.name))
    = ["val_0", "val_1", "val_2"] := by decide

/-- an explicit "val_0" given *after* val_0 was generated is kept (duplicates are the user's
responsibility, cf. the class docstring), and later generated names still avoid it -/
example : ((run [.value none, .value (some "val_0"), .value none] {}).2.map (·.name))
    = ["val_0", "val_0", "val_1"] := by decide

example : ((run [.node none "Add", .node (some "node_Add_1") "Mul", .node none "Add"] {}).2.map (·.name))
    = ["node_Add_0", "node_Add_1", "node_Add_2"] := by decide


/-! ## Part B — NameFixPass, one `_fix_graph_names` call (`fixTop`: the main graph or one function)

Hypotheses used below, all decidable on a concrete model and reported by the harness:
* `InitsOk w` — every initializer dictionary is keyed by the current names of its values, names
  non-empty, `is_initializer()/graph` consistent (the kernel invariant `I_key`);
* `Closed w.initOf t` — initializers mentioned under `t` belong to graphs under `t`;
* `scopedB w.inits t.tr [] [] = true` — **the scoping rule**: a value is only used in the graph that
  first mentions it or in graphs nested in it after that first mention (DESIGN, C15 **P**);
* `(allNodes t.body).Nodup` — a node object occurs once in the tree.
`allScopes w.inits t.tr []` lists, for every graph under `t`, the values recorded in enclosing
scopes before the graph was entered followed by the graph's own values (inputs, outputs,
initializers, node inputs and outputs); `allNodeScopes t.tr` lists every graph's nodes. -/

/-- **C15_namefix_call_total**: on a world whose initializers are keyed by their names the call never
raises — whatever the scoping — and keeps the dictionaries keyed by names. -/
theorem C15_namefix_call_total (w : World) (t : Top) (hok : InitsOk w) (hcl : Closed w.initOf t) :
    (fixTop w t).raised = false ∧ InitsOk (fixTop w t).toWorld :=
  ⟨(fixTop_TInv hok hcl).nr, (fixTop_TInv hok hcl).ok⟩

/-- **C15_namefix_call_post**: after the call
(1) every value visible in any graph has a non-empty name, and the names are pairwise different
    within every graph and different from the names recorded in enclosing scopes on entry;
(2) every node has a non-empty name, pairwise different within every graph;
(3) every initializer dictionary is keyed by the current names (`InitsOk`);
(4) nothing but names changed as far as the model can tell: the `is_initializer`/graph links are
    the same, every dictionary holds the same values, and values the call cannot meet keep their
    names (graph structure, node inputs/outputs etc. are not outputs of the model at all: the tree
    `t` is read-only). -/
theorem C15_namefix_call_post (w : World) (t : Top) (hok : InitsOk w) (hcl : Closed w.initOf t)
    (hsc : scopedB w.inits t.tr [] [] = true) (hnd : (allNodes t.body).Nodup) :
    (∀ L ∈ allScopes w.inits t.tr [], InjT (fixTop w t).vname L)
    ∧ (∀ L ∈ allNodeScopes t.tr, InjT (fixTop w t).nname L)
    ∧ InitsOk (fixTop w t).toWorld
    ∧ (fixTop w t).initOf = w.initOf
    ∧ (∀ g u, u ∈ (fixTop w t).toWorld.inits g ↔ u ∈ w.inits g)
    ∧ (∀ u, u ∉ mentioned t.tr → (∀ g ∈ graphsOf t.tr, w.initOf u ≠ some g) → (fixTop w t).vname u = w.vname u)
    ∧ (∀ m, m ∉ allNodes t.body → (fixTop w t).nname m = w.nname m) := by
  have inv := fixTop_TInv hok hcl
  have hiv : ∀ g u, u ∈ w.inits g ↔ w.initOf u = some g := fun g u => hok.mem_iff g u
  have sc := fixTop_scopes hok hcl w.inits hiv hsc
  have nd := fixTop_nodes inv.nr hnd
  refine ⟨fun L hL => (sc L hL).injT, fun L hL => (nd.1 L hL).injT, inv.ok, inv.io, ?_, ?_, nd.2⟩
  · intro g u
    show u ∈ ((fixTop w t).dicts g).map (·.2) ↔ _
    rw [inv.ok.mem_iff g u, inv.io, hiv g u]; rfl
  · intro u h1 h2
    refine inv.outside u ?_
    rintro (h | ⟨g, hg, h⟩)
    · exact h1 h
    · exact h2 g hg h

/-- **C15_namefix_call_keeps_unique**: a value whose name was non-empty and different from the names
of all other values visible together with it (any list of `allScopes` that contains it) keeps its
name; a node whose name was non-empty and unique among the nodes of its graph keeps its name.
(False before the fix of D31: `t, t, t_1`.) -/
theorem C15_namefix_call_keeps_unique (w : World) (t : Top) (hok : InitsOk w) (hcl : Closed w.initOf t)
    (hsc : scopedB w.inits t.tr [] [] = true) (hnd : (allNodes t.body).Nodup) :
    (∀ L ∈ allScopes w.inits t.tr [], ∀ v ∈ L, truthy (w.vname v) = true →
        (∀ u ∈ L, u ≠ v → w.vname u ≠ w.vname v) → (fixTop w t).vname v = w.vname v)
    ∧ (∀ L ∈ allNodeScopes t.tr, ∀ n ∈ L, truthy (w.nname n) = true →
        (∀ m ∈ L, m ≠ n → w.nname m ≠ w.nname n) → (fixTop w t).nname n = w.nname n) := by
  have inv := fixTop_TInv hok hcl
  have hiv : ∀ g u, u ∈ w.inits g ↔ w.initOf u = some g := fun g u => hok.mem_iff g u
  exact ⟨fun L hL v hv h1 h2 => (fixTop_scopes hok hcl w.inits hiv hsc L hL).kept v hv h1 h2,
    fun L hL n hn h1 h2 => ((fixTop_nodes inv.nr hnd).1 L hL).kept n hn h1 h2⟩

/-- **C15_namefix_call_idempotent**: running the call again on its own result changes no name and no
dictionary, reports `modified = False` and does not raise.  (The scoping hypothesis is not used: `fixTop_idempotent`.) -/
theorem C15_namefix_call_idempotent (w : World) (t : Top) (hok : InitsOk w) (hcl : Closed w.initOf t)
    (hsc : scopedB w.inits t.tr [] [] = true) (hnd : (allNodes t.body).Nodup) :
    (fixTop (fixTop w t).toWorld t).toWorld = (fixTop w t).toWorld
    ∧ (fixTop (fixTop w t).toWorld t).modified = false
    ∧ (fixTop (fixTop w t).toWorld t).raised = false :=
  fixTop_idempotent hok hcl hnd


/-! ## Part B' — the whole pass (`NameFixPass.call` = `fixModel`: main graph, then every function) -/

/-- what the pass-level theorems assume about the model: initializers keyed by names; every
top-level graph closed, well scoped, without repeated node objects; top-level graphs share
neither values nor nodes -/
structure PassWF (w : World) (tops : List Top) : Prop where
  inits : InitsOk w
  each : ∀ t ∈ tops, Closed w.initOf t ∧ scopedB w.inits t.tr [] [] = true ∧ (allNodes t.body).Nodup
  disj : tops.Pairwise (TopDisj w.initOf)

/-- **C15_namefix_total**: the pass never raises on a model whose initializers are keyed by their
names and are not shared between top-level graphs — whatever the names and whatever the scoping
(false before the fix of D30) — and the dictionaries stay keyed by the names. -/
theorem C15_namefix_total (w : World) (tops : List Top) (hok : InitsOk w) (hcl : ∀ t ∈ tops, Closed w.initOf t) :
    (fixModel w tops).2.2 = false ∧ InitsOk (fixModel w tops).1 ∧ (fixModel w tops).1.initOf = w.initOf :=
  fixModel_total tops w hok hcl

/-- **C15_namefix_post**: after the pass, for every top-level graph and every graph nested in it:
all visible values have non-empty, pairwise different names (within the graph and against the
names recorded in enclosing scopes on entry); all nodes have non-empty names, pairwise different
per graph; initializer dictionaries are keyed by the current names; `is_initializer`/graph links
and the value sets of the dictionaries are unchanged; names of values and nodes the pass cannot
reach are unchanged. -/
theorem C15_namefix_post (w : World) (tops : List Top) (wf : PassWF w tops) :
    (∀ t ∈ tops, (∀ L ∈ allScopes w.inits t.tr [], InjT (fixModel w tops).1.vname L)
                ∧ (∀ L ∈ allNodeScopes t.tr, InjT (fixModel w tops).1.nname L))
    ∧ (fixModel w tops).2.2 = false
    ∧ InitsOk (fixModel w tops).1
    ∧ (fixModel w tops).1.initOf = w.initOf
    ∧ (∀ g u, u ∈ (fixModel w tops).1.inits g ↔ u ∈ w.inits g)
    ∧ (∀ u, (∀ t ∈ tops, ¬ TopC w.initOf t u) → (fixModel w tops).1.vname u = w.vname u)
    ∧ (∀ m, (∀ t ∈ tops, m ∉ allNodes t.body) → (fixModel w tops).1.nname m = w.nname m) := by
  have hiv : ∀ g u, u ∈ w.inits g ↔ w.initOf u = some g := fun g u => wf.inits.mem_iff g u
  obtain ⟨t1, t2, t3⟩ := fixModel_total tops w wf.inits (fun t ht => (wf.each t ht).1)
  obtain ⟨f1, f2⟩ := fixModel_frame tops w wf.inits (fun t ht => ⟨(wf.each t ht).1, (wf.each t ht).2.2⟩)
  refine ⟨fun t ht => ?_, t1, t2, t3, ?_, f1, f2⟩
  · have := fixModel_post w.inits tops w wf.inits hiv wf.each wf.disj t ht
    exact ⟨fun L hL => (this.1 L hL).1, fun L hL => (this.2 L hL).1⟩
  · intro g u
    show u ∈ ((fixModel w tops).1.dicts g).map (·.2) ↔ _
    rw [t2.mem_iff g u, t3, hiv g u]

/-- **C15_namefix_keeps_unique**: a value whose name was non-empty and different from the names of
all other values visible together with it keeps its name through the whole pass; likewise a node
whose name was non-empty and unique among the nodes of its graph. (False before the fix of D31.) -/
theorem C15_namefix_keeps_unique (w : World) (tops : List Top) (wf : PassWF w tops) :
    ∀ t ∈ tops, (∀ L ∈ allScopes w.inits t.tr [], KeptOn w.vname (fixModel w tops).1.vname L)
              ∧ (∀ L ∈ allNodeScopes t.tr, KeptOn w.nname (fixModel w tops).1.nname L) := by
  have hiv : ∀ g u, u ∈ w.inits g ↔ w.initOf u = some g := fun g u => wf.inits.mem_iff g u
  intro t ht
  have := fixModel_post w.inits tops w wf.inits hiv wf.each wf.disj t ht
  exact ⟨fun L hL => (this.1 L hL).2.keptOn, fun L hL => (this.2 L hL).2.keptOn⟩

/-- **C15_namefix_idempotent**: running the pass on its own result changes nothing, reports
`modified = False` and does not raise.  (Of `PassWF` the scoping rule is not used: `fixModel_idempotent`.) -/
theorem C15_namefix_idempotent (w : World) (tops : List Top) (wf : PassWF w tops) :
    fixModel (fixModel w tops).1 tops = ((fixModel w tops).1, false, false) :=
  fixModel_idempotent w tops wf.inits (fun t ht => ⟨(wf.each t ht).1, (wf.each t ht).2.2⟩) wf.disj

/-- **C15_scoped_of_well_owned**: the scoping hypothesis of the theorems above follows from a
declarative *ownership rule* that does not mention traversal order: every value a node mentions is
owned (as input, output, initializer or node output) by the node's graph or by an enclosing graph,
and different graphs own different values.  In particular unsorted graphs, forward references and
forward captures (a subgraph using a value that an enclosing graph defines *later*) are covered. -/
theorem C15_scoped_of_well_owned (iv : Nat → List Nat) (t : Top) (hw : wellOwnedB iv t.tr [] = true)
    (hd : (ownedLists iv t.tr).Pairwise DisjointL) : scopedB iv t.tr [] [] = true :=
  (scoped_of_wellOwned iv t.tr [] [] [] (fun _ h => h) (fun _ h => h) hw (fun _ _ _ _ h => by simp at h) hd).1

/-- **C15_first_holder_keeps**: which of several values (nodes) carrying the same name keeps it.  Every list `L`
of `allScopes` (values visible together) and of `allNodeScopes` (the nodes of one graph) is in the order in which
NameFixPass visits its members (initializers of one graph never share a name, so their mutual order is
immaterial).  Split `L` at any occurrence of `v`, `L = A ++ v :: B`, where `v` has a non-empty name:
(1) if no member in front of `v` carried that name, `v` keeps it — the *first* holder is never renamed, whatever
comes later; (2) if a member in front of `v` carried it (and this is `v`'s first occurrence), `v` is renamed.
Together with `C15_namefix_keeps_unique` and `C15_namefix_post` this pins exactly which names change: those of
unnamed objects and of every holder of a name but the first. -/
theorem C15_first_holder_keeps (w : World) (tops : List Top) (wf : PassWF w tops) :
    ∀ t ∈ tops,
      (∀ L ∈ allScopes w.inits t.tr [], ∀ A v B, L = A ++ v :: B → truthy (w.vname v) = true →
          ((∀ u ∈ A, w.vname u ≠ w.vname v) → (fixModel w tops).1.vname v = w.vname v)
          ∧ (v ∉ A → (∃ u ∈ A, w.vname u = w.vname v) → (fixModel w tops).1.vname v ≠ w.vname v))
      ∧ (∀ L ∈ allNodeScopes t.tr, ∀ A n B, L = A ++ n :: B → truthy (w.nname n) = true →
          ((∀ m ∈ A, w.nname m ≠ w.nname n) → (fixModel w tops).1.nname n = w.nname n)
          ∧ (n ∉ A → (∃ m ∈ A, w.nname m = w.nname n) → (fixModel w tops).1.nname n ≠ w.nname n)) := by
  have hiv : ∀ g u, u ∈ w.inits g ↔ w.initOf u = some g := fun g u => wf.inits.mem_iff g u
  intro t ht
  have hp := fixModel_post w.inits tops w wf.inits hiv wf.each wf.disj t ht
  exact ⟨fun L hL A v B e h1 => first_exact (hp.1 L hL).2 (hp.1 L hL).1.inj A v B e h1,
    fun L hL A n B e h1 => first_exact (hp.2 L hL).2 (hp.2 L hL).1.inj A n B e h1⟩

/-- **C15_namefix_call_first_holder_keeps**: the same for one `_fix_graph_names` call. -/
theorem C15_namefix_call_first_holder_keeps (w : World) (t : Top) (hok : InitsOk w) (hcl : Closed w.initOf t)
    (hsc : scopedB w.inits t.tr [] [] = true) (hnd : (allNodes t.body).Nodup) :
    (∀ L ∈ allScopes w.inits t.tr [], ∀ A v B, L = A ++ v :: B → truthy (w.vname v) = true →
        ((∀ u ∈ A, w.vname u ≠ w.vname v) → (fixTop w t).vname v = w.vname v)
        ∧ (v ∉ A → (∃ u ∈ A, w.vname u = w.vname v) → (fixTop w t).vname v ≠ w.vname v))
    ∧ (∀ L ∈ allNodeScopes t.tr, ∀ A n B, L = A ++ n :: B → truthy (w.nname n) = true →
        ((∀ m ∈ A, w.nname m ≠ w.nname n) → (fixTop w t).nname n = w.nname n)
        ∧ (n ∉ A → (∃ m ∈ A, w.nname m = w.nname n) → (fixTop w t).nname n ≠ w.nname n)) := by
  have inv := fixTop_TInv hok hcl
  have hiv : ∀ g u, u ∈ w.inits g ↔ w.initOf u = some g := fun g u => hok.mem_iff g u
  have sc := fixTop_scopes hok hcl w.inits hiv hsc
  have nd := fixTop_nodes inv.nr hnd
  exact ⟨fun L hL A v B e h1 => first_exact (sc L hL).first (sc L hL).inj A v B e h1,
    fun L hL A n B e h1 => first_exact (nd.1 L hL).first (nd.1 L hL).inj A n B e h1⟩

/-- first holder: `t, t, t_1, t` — the first `t` stays, the later ones move past the reserved `t_1` -/
example : ((List.range 4).map (fixModel
      { vname := fun i => if i = 2 then some "t_1" else some "t", nname := fun _ => none, initOf := fun _ => none, dicts := fun _ => [] }
      [{ gid := 0, isGraph := true, ins := [], outs := [],
         body := .node 0 [] [0] .nil (.node 1 [] [1] .nil (.node 2 [] [2] .nil (.node 3 [] [3] .nil .nil))) }]).1.vname)
    = [some "t", some "t_2", some "t_1", some "t_3"] := by decide

/-! ## Part C — `convenience.rename_values` (with the backing tensors) -/

/-- **C15_rename_values_atomic**: for *every* assignment (repeated values, swaps, cycles,
initializers of several graphs, empty targets, targets colliding with initializers inside or
outside the renamed set, backing tensors shared between values, tensors that refuse a name) on a
world whose initializers are keyed by their names, the call either raises and leaves the world —
names, dictionaries *and tensor names* (the rollback) — exactly as it was, or it does not raise and
then the assignment is applied completely: every listed value has its target name, no other value
changed its name, node names and `is_initializer()`/graph links are untouched, every initializer
dictionary holds the same values and is keyed by the current names, a backing tensor carries the
target of the values it backs (when they agree) and all other tensors keep their names. -/
theorem C15_rename_values_atomic (w : TWorld) (pairs : List (Nat × String)) (hok : InitsOk w.toWorld) :
    ((renameValuesT w pairs).2 = true → (renameValuesT w pairs).1 = w)
    ∧ ((renameValuesT w pairs).2 = false →
        (∀ p ∈ pairs, (renameValuesT w pairs).1.vname p.1 = some p.2)
        ∧ (∀ u, u ∉ pairs.map (·.1) → (renameValuesT w pairs).1.vname u = w.vname u)
        ∧ (renameValuesT w pairs).1.nname = w.nname
        ∧ (renameValuesT w pairs).1.initOf = w.initOf
        ∧ InitsOk (renameValuesT w pairs).1.toWorld
        ∧ (∀ g u, u ∈ (renameValuesT w pairs).1.toWorld.inits g ↔ u ∈ w.toWorld.inits g)
        ∧ (renameValuesT w pairs).1.constOf = w.constOf
        ∧ (∀ p ∈ pairs, ∀ t, renTensor w p = some t → (∀ q ∈ pairs, renTensor w q = some t → q.2 = p.2) →
              (renameValuesT w pairs).1.tname t = some p.2)
        ∧ (∀ t, (∀ q ∈ pairs, renTensor w q ≠ some t) → (renameValuesT w pairs).1.tname t = w.tname t)) :=
  renameValuesT_spec w pairs hok

/-- **C15_rename_values_succeeds**: the call does *not* raise (so, by `C15_rename_values_atomic`,
it applies the whole assignment) whenever no value is given two different targets, initializers
get non-empty targets that are pairwise different within their graph and are not held by an
initializer outside the renamed set, and no backing tensor refuses its new name.  Every swap,
cycle or other permutation of the names of a set of values — initializers included — satisfies
these conditions. -/
theorem C15_rename_values_succeeds (w : TWorld) (pairs : List (Nat × String)) (hok : InitsOk w.toWorld)
    (hcons : ∀ p ∈ pairs, ∀ q ∈ pairs, p.1 = q.1 → p.2 = q.2)
    (hne : ∀ p ∈ pairs, w.initOf p.1 ≠ none → p.2 ≠ "")
    (hdist : ∀ p ∈ pairs, ∀ q ∈ pairs, w.initOf p.1 ≠ none → w.initOf p.1 = w.initOf q.1 → p.2 = q.2 → p.1 = q.1)
    (hout : ∀ p ∈ pairs, ∀ g, w.initOf p.1 = some g → ∀ u, (p.2, u) ∈ w.dicts g → u ∈ pairs.map (·.1))
    (hfz : ∀ p ∈ pairs, ∀ t, renTensor w p = some t → w.frozen t = false) :
    (renameValuesT w pairs).2 = false :=
  renameValuesT_succeeds w pairs hok hcons hne hdist hout hfz

/-! ## non-vacuity of the hypotheses of parts B and C -/

/-- the D30 witness: output `w`, initializers `w`, `w_1` of graph 0 -/
def exW : World :=
  { vname := fun i => if i = 0 then some "w" else if i = 1 then some "w" else if i = 2 then some "w_1" else none
    nname := fun i => if i = 0 then some "a" else none
    initOf := fun i => if i = 1 then some 0 else if i = 2 then some 0 else none
    dicts := fun g => if g = 0 then [("w", 1), ("w_1", 2)] else [] }

def exT : Top := { gid := 0, isGraph := true, ins := [], outs := [0], body := .node 0 [] [0] .nil .nil }

theorem exW_ok : InitsOk exW := by
  refine ⟨?_, ?_, ?_⟩
  · intro g k v h
    by_cases hg : g = 0
    · subst hg
      simp only [exW, if_true, List.mem_cons, Prod.mk.injEq, List.not_mem_nil, or_false] at h
      rcases h with ⟨rfl, rfl⟩ | ⟨rfl, rfl⟩ <;> simp [exW]
    · simp [exW, hg] at h
  · intro g
    by_cases hg : g = 0
    · subst hg; simp [exW]
    · simp [exW, hg]
  · intro v g h
    simp only [exW] at h
    split at h
    · rename_i hv; subst hv; cases h; exact ⟨"w", by simp [exW]⟩
    · split at h
      · rename_i hv; subst hv; cases h; exact ⟨"w_1", by simp [exW]⟩
      · cases h

/-- `PassWF` is satisfiable, by a model on which the pass has work to do -/
theorem exWF : PassWF exW [exT] := by
  refine ⟨exW_ok, ?_, by simp⟩
  intro t ht
  simp only [List.mem_singleton] at ht
  subst ht
  refine ⟨?_, by decide, by decide⟩
  intro v hv g hg
  simp [exT, Top.tr, mentioned, nodeVals] at hv
  subst hv
  simp [exW] at hg

/-- ... the initializer `w` is renamed past the not-yet-visited `w_1` (D30), and re-keyed -/
example : (fixModel exW [exT]).1.vname 1 = some "w_2" ∧ (fixModel exW [exT]).1.vname 2 = some "w_1"
    ∧ (fixModel exW [exT]).1.dicts 0 = [("w_1", 2), ("w_2", 1)] ∧ (fixModel exW [exT]).2 = (true, false) := by
  decide

/-- the D31 witness `t, t, t_1` (values) and `n, n, n_1` (nodes) in one graph, plus a function
whose subgraph captures an outer value: the unique names `t_1` / `n_1` are kept -/
def exW2 : World :=
  { vname := fun i => if i = 0 then some "t" else if i = 1 then some "t" else if i = 2 then some "t_1"
                      else if i = 3 then some "t" else if i = 4 then none else none
    nname := fun i => if i = 0 then some "n" else if i = 1 then some "n" else if i = 2 then some "n_1" else none
    initOf := fun _ => none
    dicts := fun _ => [] }

def exT2 : Top := { gid := 0, isGraph := true, ins := [], outs := [],
                    body := .node 0 [] [0] .nil (.node 1 [] [1] .nil (.node 2 [] [2] .nil .nil)) }
/-- function `f(x3)`: node 3 holds a subgraph whose node 4 reads `x3` and produces the unnamed `v4` -/
def exT3 : Top := { gid := 1, isGraph := false, ins := [3], outs := [],
                    body := .node 3 [some 3] [] (.graph 2 true [] [4] (.node 4 [some 3] [4] .nil .nil) .nil) .nil }

theorem exWF2 : PassWF exW2 [exT2, exT3] := by
  refine ⟨⟨fun g k v h => by simp [exW2] at h, fun g => by simp [exW2], fun v g h => by simp [exW2] at h⟩, ?_, ?_⟩
  · intro t ht
    simp only [List.mem_cons, List.not_mem_nil, or_false] at ht
    rcases ht with rfl | rfl
    · exact ⟨fun v _ g hg => by simp [exW2] at hg, by decide, by decide⟩
    · exact ⟨fun v _ g hg => by simp [exW2] at hg, by decide, by decide⟩
  · simp only [List.pairwise_cons, List.mem_singleton, forall_eq, List.not_mem_nil, false_imp_iff, implies_true,
      List.Pairwise.nil, and_true]
    refine ⟨?_, by decide⟩
    intro u h1 h2
    rcases h1 with h1 | ⟨g, _, hg⟩
    · rcases h2 with h2 | ⟨g, _, hg⟩
      · have a : u ∈ [0, 1, 2] := by simpa [exT2, Top.tr, mentioned, nodeVals] using h1
        have b : u = 3 ∨ u = 4 ∨ u = 3 ∨ u = 4 := by simpa [exT3, Top.tr, mentioned, nodeVals] using h2
        simp only [List.mem_cons, List.not_mem_nil, or_false] at a
        omega
      · simp [exW2] at hg
    · simp [exW2] at hg

example : ((List.range 5).map (fixModel exW2 [exT2, exT3]).1.vname)
      = [some "t", some "t_2", some "t_1", some "t", some "v"]
    ∧ ((List.range 5).map (fixModel exW2 [exT2, exT3]).1.nname)
      = [some "n", some "n_2", some "n_1", some "node", some "node"] := by
  decide

/-- the D30 world with tensors: values 1 and 2 share tensor 0 ("w"), tensor 1 refuses names -/
def exTW : TWorld :=
  { toWorld := exW
    constOf := fun v => if v = 1 then some 0 else if v = 2 then some 0 else if v = 0 then some 1 else none
    tname := fun t => if t = 0 then some "w" else if t = 1 then some "frozen" else none
    frozen := fun t => t = 1 }

/-- `rename_values`: a swap of two initializers goes through (the shared tensor ends with the
last target); a target held by an initializer outside the renamed set is rejected with nothing
changed; a refusing tensor makes the call raise *after* tensor 0 was renamed, and the rollback
restores it -/
example : (renameValuesT exTW [(1, "w_1"), (2, "w")]).2 = false
    ∧ (renameValuesT exTW [(1, "w_1"), (2, "w")]).1.dicts 0 = [("w_1", 1), ("w", 2)]
    ∧ (renameValuesT exTW [(1, "w_1"), (2, "w")]).1.tname 0 = some "w"
    ∧ (renameValuesT exTW [(0, "z"), (1, "w_1")]).2 = true
    ∧ (renameValuesT exTW [(1, "q"), (0, "z")]).2 = true
    ∧ (renameValuesT exTW [(1, "q"), (0, "z")]).1.tname 0 = some "w" := by
  decide

/-- the hypotheses of `C15_rename_values_succeeds` hold for the swap -/
example : (∀ p ∈ [(1, "w_1"), (2, "w")], ∀ t, renTensor exTW p = some t → exTW.frozen t = false) := by decide

/-- forward capture (D221): main graph `[A{body: I(x)}, B -> x, C -> x]`: the subgraph of `A` uses
`B`'s output, defined later; the model is well scoped for the fixed traversal and `C`'s output is
renamed -/
def exW4 : World :=
  { vname := fun i => if i = 0 then some "a" else if i = 1 then some "x" else if i = 2 then some "x"
                      else if i = 3 then some "i" else none
    nname := fun i => if i = 0 then some "A" else if i = 1 then some "B" else if i = 2 then some "C"
                      else if i = 3 then some "I" else none
    initOf := fun _ => none
    dicts := fun _ => [] }
def exBody4 : Tr :=
  .node 0 [] [0] (.graph 1 true [] [3] (.node 3 [some 1] [3] .nil .nil) .nil)
    (.node 1 [] [1] .nil (.node 2 [] [2] .nil .nil))
def exT4 : Top := { gid := 0, isGraph := true, ins := [], outs := [], body := exBody4 }
example : scopedB exW4.inits exT4.tr [] [] = true
    ∧ ((List.range 4).map (fixModel exW4 [exT4]).1.vname) = [some "a", some "x", some "x_1", some "i"] := by
  decide

/-! ## Part B+ — NameFixPass with an arbitrary name generator and with backing tensors (`fixModelX`)

`fixModelX gen w [] tops` is the pass run with the generator `gen` on a world with tensors (`constOf`, `tname`,
`frozen` = the tensor refuses a new name).  The theorems of this part hold for **every** generator, every
scoping and **every outcome** — also when the pass stops in the middle with an exception (a refusing tensor, an
empty generated name for an initializer, a constant generator on an ill-scoped model).  The postcondition
theorems of part B / B' apply to `fixModelX` through `C15_gen_refines_default`. -/

/-- **C15_gen_step_fresh**: whatever base name `p` a generator answers, the name
`_find_and_record_next_unique_name` derives from it is neither in the used set nor reserved (the loop terminates
for every `p`: `C15_loop_terminates`), and it is empty exactly when the generator answered the empty string and
the empty string is not taken.  So "the generator never answers the empty string" is the one hypothesis on a
generator that "every object gets a non-empty name" needs, and it is necessary (`C15_gen_nonempty_necessary`);
no hypothesis is needed for termination or freshness — a constant generator gives `c, c_1, c_2, …`. -/
theorem C15_gen_step_fresh (p : String) (used res : List String) (c : Nat) :
    (findUnique p used res c).1 ∉ used ∧ (findUnique p used res c).1 ∉ res
    ∧ ((findUnique p used res c).1 = "" ↔ (p = "" ∧ "" ∉ used ∧ "" ∉ res)) := by
  obtain ⟨h1, h2, h3⟩ := findUnique_spec p used res c
  refine ⟨h1, h2, ?_⟩
  rcases h3 with ⟨e, a, b⟩ | ⟨k, _, e, hin⟩
  · rw [e]
    constructor
    · intro h; subst h; exact ⟨rfl, a, b⟩
    · exact fun h => h.1
  · rw [e]
    constructor
    · intro h; exact absurd h (sufName_ne_empty p k)
    · rintro ⟨rfl, a, b⟩; exact absurd hin (by simp [a, b])

/-- **C15_gen_ikey_preserved**: the initializer-key invariant is *preserved* by the pass — for every generator,
every scoping, with or without refusing tensors, whether or not the pass raises: if every initializer dictionary
is keyed by the current non-empty names on entry (the only place `InitsOk` is assumed) then so it is on exit,
every value is an initializer of the same graph as before, every dictionary holds the same values, and the
value-to-tensor links are untouched. -/
theorem C15_gen_ikey_preserved (gen : NameGen) (w : TWorld) (tops : List Top) (hok : InitsOk w.toWorld) :
    InitsOk (fixModelX gen w [] tops).w.toWorld
    ∧ (fixModelX gen w [] tops).w.initOf = w.initOf
    ∧ (∀ g u, u ∈ (fixModelX gen w [] tops).w.toWorld.inits g ↔ u ∈ w.toWorld.inits g)
    ∧ (fixModelX gen w [] tops).w.constOf = w.constOf
    ∧ (fixModelX gen w [] tops).w.frozen = w.frozen := by
  obtain ⟨h1, h2, h3, h4⟩ := fixModelX_inv (KeyInv.step gen w) tops w [] ⟨hok, rfl, rfl, rfl⟩
  refine ⟨h1, h2, ?_, h3, h4⟩
  intro g u
  show u ∈ ((fixModelX gen w [] tops).w.dicts g).map (·.2) ↔ u ∈ (w.dicts g).map (·.2)
  rw [h1.mem_iff g u, hok.mem_iff g u]
  show (fixModelX gen w [] tops).w.initOf u = some g ↔ _
  rw [h2]

/-- **C15_gen_tensor_follows**: the write-through of `Value.name` to the backing tensor, through the whole pass,
for every generator and every outcome: each tensor either is untouched together with the names of all values it
backs, or carries the current name of one of the values it backs; hence a tensor that backs a single value and
carried that value's name on entry carries the value's name on exit (also after a partial run). -/
theorem C15_gen_tensor_follows (gen : NameGen) (w : TWorld) (tops : List Top) (hok : InitsOk w.toWorld) :
    (∀ t, ((fixModelX gen w [] tops).w.tname t = w.tname t
            ∧ ∀ v, w.constOf v = some t → (fixModelX gen w [] tops).w.vname v = w.vname v)
          ∨ ∃ v, w.constOf v = some t ∧ (fixModelX gen w [] tops).w.tname t = (fixModelX gen w [] tops).w.vname v)
    ∧ (∀ v t, w.constOf v = some t → (∀ u, w.constOf u = some t → u = v) → w.tname t = w.vname v →
        (fixModelX gen w [] tops).w.tname t = (fixModelX gen w [] tops).w.vname v) := by
  obtain ⟨⟨_, h⟩, _⟩ := fixModelX_inv (Q := fun x => TensorInv w x ∧ InitsOk x.toWorld) (TensorInv.step gen w) tops w []
    ⟨TensorInv.refl w, hok⟩
  refine ⟨h, ?_⟩
  intro v t hv huniq hsync
  rcases h t with ⟨a, b⟩ | ⟨u, hu, e⟩
  · rw [a, hsync, b v hv]
  · rw [e, huniq u hu]

/-- **C15_gen_refines_default**: with the default `SimpleNameGenerator` and no refusing tensor the general model
is the model of parts B / B' (so every theorem about `fixModel` is a theorem about `fixModelX simpleGen`). -/
theorem C15_gen_refines_default (w : TWorld) (tops : List Top) (hf : ∀ t, w.frozen t = false) :
    (fixModelX simpleGen w [] tops).w.toWorld = (fixModel w.toWorld tops).1
    ∧ (fixModelX simpleGen w [] tops).modified = (fixModel w.toWorld tops).2.1
    ∧ (fixModelX simpleGen w [] tops).raised = (fixModel w.toWorld tops).2.2 :=
  fixModelX_sim tops w [] (fun _ t _ => hf t)

/-- the generator that answers the same string `c` for every object (`constGen ""`: the one that answers the empty string) -/
def constGen (c : String) : NameGen := { v := fun _ _ => c, n := fun _ _ => c }

/-- **C15_gen_nonempty_necessary**: the hypothesis "the generator never answers the empty string" cannot be
dropped: on the D31 world (`t, t, t_1, t` + the unnamed value 4 of the function) the generator that answers `""`
leaves value 4 and nodes 3, 4 … with the empty name without raising; on the D30 world (an initializer that must be
renamed) the setter's guard raises.  A *constant* generator is fine: `t, c, t_1, …` then `c_1`. -/
theorem C15_gen_nonempty_necessary :
    (fixModelX (constGen "") (twOf exW2) [] [exT2, exT3]).raised = false
    ∧ (fixModelX (constGen "") (twOf exW2) [] [exT2, exT3]).w.vname 4 = some ""
    ∧ (fixModelX (constGen "") (twOf exW) [] [exT]).raised = true
    ∧ ((List.range 5).map (fixModelX (constGen "c") (twOf exW2) [] [exT2, exT3]).w.vname)
        = [some "t", some "c", some "t_1", some "t", some "c"]
    ∧ ((List.range 5).map (fixModelX (constGen "c") (twOf exW2) [] [exT2, exT3]).w.nname)
        = [some "n", some "c", some "n_1", some "c", some "c"] := by
  decide

/-- two sibling subgraphs `1`, `2` of node 0; graph 2 has the initializers `k1` (value 1) and `k2` (value 2) and an
input named `k2`; graph 1 uses value 1 next to its own `k1` (ill-scoped) -/
def exWX : World :=
  { vname := fun i => if i = 0 then some "k1" else if i = 1 then some "k1" else if i = 2 then some "k2"
                      else if i = 3 then some "k2" else if i = 4 then some "o" else none
    nname := fun i => if i = 0 then some "A" else if i = 1 then some "I1" else if i = 2 then some "I2" else none
    initOf := fun i => if i = 1 then some 2 else if i = 2 then some 2 else none
    dicts := fun g => if g = 2 then [("k1", 1), ("k2", 2)] else [] }
def exTX : Top :=
  { gid := 0, isGraph := true, ins := [], outs := [],
    body := .node 0 [] [4] (.graph 1 true [] [] (.node 1 [some 1] [0] .nil .nil)
                            (.graph 2 true [3] [] (.node 2 [] [] .nil .nil) .nil)) .nil }

/-- **C15_gen_total_needs_scoping**: `C15_namefix_total` (no exception whatever the scoping) is a property of the
default generator, whose `base_k` counters are global: a *constant* generator gives the bare name `c` to one
initializer in the scope of the first sibling and to the other in the scope of the second, and the setter's guard
raises — with the dictionaries still keyed by names (`C15_gen_ikey_preserved`). -/
theorem C15_gen_total_needs_scoping :
    scopedB exWX.inits exTX.tr [] [] = false
    ∧ (fixModelX simpleGen (twOf exWX) [] [exTX]).raised = false
    ∧ (fixModelX (constGen "c") (twOf exWX) [] [exTX]).raised = true
    ∧ (fixModelX (constGen "c") (twOf exWX) [] [exTX]).w.dicts 2 = [("k2", 2), ("c", 1)] := by
  decide

/-- the D30 world with value 1 backed by tensor 0 (named `w`); `fz` = the tensor refuses a new name -/
def exTWx (fz : Bool) : TWorld :=
  { toWorld := exW, constOf := fun v => if v = 1 then some 0 else none, tname := fun _ => some "w", frozen := fun _ => fz }

/-- a tensor that refuses its new name stops the pass in the middle: the value keeps its name and key (earlier
renames would stay); a willing tensor follows its value -/
example :
    (fixModelX simpleGen (exTWx true) [] [exT]).raised = true
    ∧ (fixModelX simpleGen (exTWx true) [] [exT]).w.dicts 0 = [("w", 1), ("w_1", 2)]
    ∧ (fixModelX simpleGen (exTWx true) [] [exT]).w.tname 0 = some "w"
    ∧ (fixModelX simpleGen (exTWx false) [] [exT]).raised = false
    ∧ (fixModelX simpleGen (exTWx false) [] [exT]).w.tname 0 = some "w_2" := by
  decide

/-! ## Part B' without the scoping rule — values owned by no graph / shared between sibling graphs

A value owned by no graph that is used in one graph only (and in graphs nested in it afterwards) satisfies
`scopedB`, so all theorems apply to it.  A value (owned by no graph, or by one of the siblings) that is used in two
*sibling* subgraphs does not: the pass records its name in the scope of the first sibling only, skips it in the
second (`seen_values`), and a value of the second sibling that carries the same name is not renamed. -/

/-- node 0 holds the sibling subgraphs 1 and 2; both use the free value 0 `x`; subgraph 2 also defines its own `x`
(value 2) -/
def exWS : World :=
  { vname := fun i => if i = 0 then some "x" else if i = 1 then some "a" else if i = 2 then some "x" else if i = 3 then some "o" else none
    nname := fun i => if i = 0 then some "A" else if i = 1 then some "I1" else if i = 2 then some "I2" else none
    initOf := fun _ => none
    dicts := fun _ => [] }
def exTS : Top :=
  { gid := 0, isGraph := true, ins := [], outs := [],
    body := .node 0 [] [3] (.graph 1 true [] [] (.node 1 [some 0] [1] .nil .nil)
                            (.graph 2 true [] [] (.node 2 [some 0] [2] .nil .nil) .nil)) .nil }
/-- the same with the free value used in subgraph 2 only -/
def exTS1 : Top :=
  { gid := 0, isGraph := true, ins := [], outs := [],
    body := .node 0 [] [3] (.graph 1 true [] [] (.node 1 [] [1] .nil .nil)
                            (.graph 2 true [] [] (.node 2 [some 0] [2] .nil .nil) .nil)) .nil }

/-- **C15_scoping_necessary**: the scoping hypothesis of `C15_namefix_post` cannot be dropped.  With the free value
`x` shared by two sibling subgraphs (`scopedB = false`) the pass does not raise and leaves the second sibling with
its own `x` next to the shared `x`; with the free value used in one subgraph only (`scopedB = true`) the two
get different names (the subgraph's own outputs are named first, so the free value moves to `x_1`). -/
theorem C15_scoping_necessary :
    scopedB exWS.inits exTS.tr [] [] = false
    ∧ (fixModel exWS [exTS]).2.2 = false
    ∧ (fixModel exWS [exTS]).1.vname 0 = some "x" ∧ (fixModel exWS [exTS]).1.vname 2 = some "x"
    ∧ scopedB exWS.inits exTS1.tr [] [] = true
    ∧ (fixModel exWS [exTS1]).1.vname 0 = some "x_1" ∧ (fixModel exWS [exTS1]).1.vname 2 = some "x" := by
  decide


/-! ## Part B+ (continued) — the full postcondition for an arbitrary generator; untouched objects -/

/-- **C15_gen_post**: the *full* postcondition of the pass for **every** `NameGenerator` that never answers the empty
string (necessary: `C15_gen_nonempty_necessary`), on a model that satisfies `PassWF` (initializers keyed by their
names, closed, **well scoped** — necessary for a custom generator even for "does not raise":
`C15_gen_total_needs_scoping` — node objects occurring once, top-level graphs disjoint) and in which no tensor that
backs a value refuses a new name: the pass does not raise; for every graph under every top-level graph the visible
values have pairwise different non-empty names (within the graph and against the names recorded in enclosing scopes
on entry), names that were unique are kept, and of several holders of a name exactly the first one (in visiting
order) keeps it; the same for the nodes of every graph; the initializer dictionaries are keyed by the current names
and hold the same values; objects the pass cannot reach keep their names.  (Why the setter's guard stays silent for a
generator whose names have no known shape: `TInvG`, `VisAt` in `Lemmas/NamesGenStep.lean`.) -/
theorem C15_gen_post (gen : NameGen) (hgen : gen.NonEmpty) (w : TWorld) (tops : List Top) (wf : PassWF w.toWorld tops)
    (hfz : ∀ v t, w.constOf v = some t → w.frozen t = false) :
    (fixModelX gen w [] tops).raised = false
    ∧ (∀ t ∈ tops,
        (∀ L ∈ allScopes w.toWorld.inits t.tr [],
            InjT (fixModelX gen w [] tops).w.vname L ∧ KeptOn w.vname (fixModelX gen w [] tops).w.vname L
            ∧ ∀ A v B, L = A ++ v :: B → truthy (w.vname v) = true →
                ((∀ u ∈ A, w.vname u ≠ w.vname v) → (fixModelX gen w [] tops).w.vname v = w.vname v)
                ∧ (v ∉ A → (∃ u ∈ A, w.vname u = w.vname v) → (fixModelX gen w [] tops).w.vname v ≠ w.vname v))
        ∧ (∀ L ∈ allNodeScopes t.tr,
            InjT (fixModelX gen w [] tops).w.nname L ∧ KeptOn w.nname (fixModelX gen w [] tops).w.nname L
            ∧ ∀ A n B, L = A ++ n :: B → truthy (w.nname n) = true →
                ((∀ m ∈ A, w.nname m ≠ w.nname n) → (fixModelX gen w [] tops).w.nname n = w.nname n)
                ∧ (n ∉ A → (∃ m ∈ A, w.nname m = w.nname n) → (fixModelX gen w [] tops).w.nname n ≠ w.nname n)))
    ∧ InitsOk (fixModelX gen w [] tops).w.toWorld
    ∧ (fixModelX gen w [] tops).w.initOf = w.initOf
    ∧ (∀ g u, u ∈ (fixModelX gen w [] tops).w.toWorld.inits g ↔ u ∈ w.toWorld.inits g)
    ∧ (∀ u, (∀ t ∈ tops, ¬ TopC w.initOf t u) → (fixModelX gen w [] tops).w.vname u = w.vname u)
    ∧ (∀ m, (∀ t ∈ tops, m ∉ allNodes t.body) → (fixModelX gen w [] tops).w.nname m = w.nname m) := by
  have hiv : ∀ g u, u ∈ w.toWorld.inits g ↔ w.initOf u = some g := fun g u => wf.inits.mem_iff g u
  obtain ⟨r, fv, fn, per⟩ := fixModelX_post hgen w.toWorld.inits tops w [] wf.inits hfz hiv wf.each wf.disj
  obtain ⟨k1, k2, k3, _, _⟩ := C15_gen_ikey_preserved gen w tops wf.inits
  refine ⟨r, ?_, k1, k2, k3, fv, fn⟩
  intro t ht
  obtain ⟨pv, pn⟩ := per t ht
  exact ⟨fun L hL => ⟨(pv L hL).1, (pv L hL).2.keptOn, fun A v B e h1 => first_exact (pv L hL).2 (pv L hL).1.inj A v B e h1⟩,
    fun L hL => ⟨(pn L hL).1, (pn L hL).2.keptOn, fun A n B e h1 => first_exact (pn L hL).2 (pn L hL).1.inj A n B e h1⟩⟩

theorem constGen_c_nonEmpty : (constGen "c").NonEmpty :=
  fun _ _ => ⟨by show "c" ≠ ""; decide, by show "c" ≠ ""; decide⟩
/-- the hypotheses of `C15_gen_post` are satisfiable by a generator other than the default one on a model on which
the pass has work to do (the D31 world with a function; results in `C15_gen_nonempty_necessary`) -/
example : (fixModelX (constGen "c") (twOf exW2) [] [exT2, exT3]).raised = false :=
  (C15_gen_post (constGen "c") constGen_c_nonEmpty (twOf exW2) [exT2, exT3] exWF2 (fun _ _ h => by simp [twOf] at h)).1
/-- `NonEmpty` is a real restriction -/
example : ¬ (constGen "").NonEmpty := fun h => (h 0 none).1 rfl

/-- **C15_gen_untouched**: what the pass does *not* touch, for every generator, every scoping and every outcome
(also the exceptional exit).  `glog` is the log of generator calls (`(false, v)` = `generate_value_name(v)`,
`(true, n)` = `generate_node_name(n)`); a name is only ever assigned after the generator was asked.  A value (node)
the generator was never asked about keeps its name, and **a tensor none of whose values was handed to the generator
keeps its name** (the write-through of `Value.name` is the only way the pass renames a tensor). -/
theorem C15_gen_untouched (gen : NameGen) (w : TWorld) (tops : List Top) :
    (∀ v, (false, v) ∉ (fixModelX gen w [] tops).glog → (fixModelX gen w [] tops).w.vname v = w.vname v)
    ∧ (∀ t, (∀ v, w.constOf v = some t → (false, v) ∉ (fixModelX gen w [] tops).glog) →
        (fixModelX gen w [] tops).w.tname t = w.tname t)
    ∧ (∀ n, (true, n) ∉ (fixModelX gen w [] tops).glog → (fixModelX gen w [] tops).w.nname n = w.nname n) := by
  obtain ⟨h1, _, h3, h4⟩ := fixModelX_inv_log (LogInv.step gen w) tops w []
    ⟨fun _ _ => rfl, rfl, fun _ _ => rfl, fun _ _ => rfl⟩
  exact ⟨h1, h3, h4⟩

/-- on the D30 world with tensors (value 1 backed by tensor 0): only value 1 is handed to the generator -/
example : (fixModelX simpleGen (exTWx false) [] [exT]).glog = [(false, 1)] := by decide

/-- **C15_gen_default_raises_only_on_refusal**: with the default `SimpleNameGenerator`, on a model whose initializers
are keyed by their names (whatever the scoping), the pass raises *only* because a tensor that backs a value refuses
its new name: if it raises, such a tensor exists.  (Equivalently: when no backing tensor refuses, the general model
is the plain model, which never raises — `C15_gen_refines_default` under the weaker hypothesis, `C15_namefix_total`.) -/
theorem C15_gen_default_raises_only_on_refusal (w : TWorld) (tops : List Top) (hok : InitsOk w.toWorld)
    (hcl : ∀ t ∈ tops, Closed w.initOf t) :
    ((fixModelX simpleGen w [] tops).raised = true → ∃ v t, w.constOf v = some t ∧ w.frozen t = true)
    ∧ ((∀ v t, w.constOf v = some t → w.frozen t = false) →
        (fixModelX simpleGen w [] tops).w.toWorld = (fixModel w.toWorld tops).1
        ∧ (fixModelX simpleGen w [] tops).modified = (fixModel w.toWorld tops).2.1
        ∧ (fixModelX simpleGen w [] tops).raised = false) := by
  have key : (∀ v t, w.constOf v = some t → w.frozen t = false) →
      (fixModelX simpleGen w [] tops).w.toWorld = (fixModel w.toWorld tops).1
      ∧ (fixModelX simpleGen w [] tops).modified = (fixModel w.toWorld tops).2.1
      ∧ (fixModelX simpleGen w [] tops).raised = false := by
    intro hf
    obtain ⟨a, b, c⟩ := fixModelX_sim tops w [] hf
    exact ⟨a, b, c.trans (C15_namefix_total w.toWorld tops hok hcl).1⟩
  refine ⟨?_, key⟩
  intro hr
  apply Classical.byContradiction
  intro hne
  have hf : ∀ v t, w.constOf v = some t → w.frozen t = false := by
    intro v t hv
    cases hfz : w.frozen t with
    | false => rfl
    | true => exact absurd ⟨v, t, hv, hfz⟩ hne
  rw [(key hf).2.2] at hr
  cases hr

/-- the refusing tensor of the example above is the reason the pass raises there -/
example : (fixModelX simpleGen (exTWx true) [] [exT]).raised = true ∧ (exTWx true).constOf 1 = some 0 ∧ (exTWx true).frozen 0 = true := by
  decide

/-! ## Part B' without the scoping rule (continued) — what the pass still guarantees (default generator) -/

/-- **C15_illscoped_nodes**: what the pass guarantees on **ill-scoped** models (values shared by sibling subgraphs,
by the main graph and a function, ...).  No scoping hypothesis: on every model whose initializers are keyed by their
names (closed, node objects occurring once, top-level graphs sharing no nodes) the pass does not raise, the
initializer dictionaries stay keyed by the current non-empty names — so the initializers of one graph always end
with pairwise different non-empty names — and in **every** graph all nodes have pairwise different non-empty names,
unique node names are kept and the first holder of a node name keeps it.  (For value names the scoping rule is
necessary: `C15_scoping_necessary`.) -/
theorem C15_illscoped_nodes (w : World) (tops : List Top) (hok : InitsOk w)
    (hyp : ∀ t ∈ tops, Closed w.initOf t ∧ (allNodes t.body).Nodup)
    (hdisj : tops.Pairwise (fun a b => ∀ n ∈ allNodes a.body, n ∉ allNodes b.body)) :
    (fixModel w tops).2.2 = false
    ∧ InitsOk (fixModel w tops).1
    ∧ (∀ g, ((fixModel w tops).1.dicts g).Pairwise (fun a b => a.2 ≠ b.2 → (fixModel w tops).1.vname a.2 ≠ (fixModel w tops).1.vname b.2))
    ∧ ∀ t ∈ tops, ∀ L ∈ allNodeScopes t.tr,
        InjT (fixModel w tops).1.nname L ∧ KeptOn w.nname (fixModel w tops).1.nname L
        ∧ FirstB w.nname (fixModel w tops).1.nname L := by
  obtain ⟨t1, t2, _⟩ := fixModel_total tops w hok (fun t ht => (hyp t ht).1)
  refine ⟨t1, t2, ?_, fun t ht L hL => (fun h => ⟨h.1, h.2.keptOn, h.2⟩) (fixModel_nodes tops w hok hyp hdisj t ht L hL)⟩
  intro g
  have hnd := t2.keys_nodup g
  rw [List.pairwise_iff_forall_sublist]
  intro a b hab _ heq
  have ha : a ∈ (fixModel w tops).1.dicts g := hab.subset (by simp)
  have hb : b ∈ (fixModel w tops).1.dicts g := hab.subset (by simp)
  have e1 := (t2.key_name g a.1 a.2 ha).1
  have e2 := (t2.key_name g b.1 b.2 hb).1
  rw [e1, e2] at heq
  have hk : a.1 = b.1 := Option.some.inj heq
  have hsub : [a.1, b.1].Sublist (((fixModel w tops).1.dicts g).map (·.1)) := by
    simpa using hab.map (·.1)
  have := hsub.nodup hnd
  simp [hk] at this

/-- the ill-scoped witness of `C15_scoping_necessary`: its node names still come out unique per graph -/
example : ((List.range 3).map (fixModel exWS [exTS]).1.nname) = [some "A", some "I1", some "I2"] := by decide


/-- **C15_illscoped_values**: what the pass guarantees for **value names** on ill-scoped models — no scoping
hypothesis (initializers keyed by names, closed, node objects occurring once, top-level graphs disjoint).  (1) Every
value the pass can meet (mentioned under a top-level graph, or an initializer of a graph under it) ends with a
non-empty name.  (2) For every graph, the values *recorded* in its scope — those recorded in the enclosing scopes
before the graph was entered, followed by the values **first met** in the graph itself (`recScopes`) — end with
pairwise different names.  What is lost without the scoping rule is exactly the comparison with a value that is used
in the graph but was first met in a scope that is not visible from it (`C15_scoping_necessary`: it is skipped, its
name is not in the used set).  On a well-scoped model every value met in a graph is recorded in its scope chain and
this is `C15_namefix_post`. -/
theorem C15_illscoped_values (w : World) (tops : List Top) (hok : InitsOk w)
    (hyp : ∀ t ∈ tops, Closed w.initOf t ∧ (allNodes t.body).Nodup) (hdisj : tops.Pairwise (TopDisj w.initOf)) :
    ∀ t ∈ tops,
      (∀ L ∈ recScopes w.inits t.tr [] [], InjT (fixModel w tops).1.vname L)
      ∧ (∀ u, TopC w.initOf t u → truthy ((fixModel w tops).1.vname u) = true) :=
  fun t ht => ⟨fun L hL => ((fixModel_recPost w.inits tops w hok (fun g u => hok.mem_iff g u) hyp hdisj t ht).1 L hL).1,
    (fixModel_recPost w.inits tops w hok (fun g u => hok.mem_iff g u) hyp hdisj t ht).2⟩

/-- the ill-scoped witness: the free value 0 is recorded in the scope of the first sibling only; the second sibling's
list does not contain it -/
example : recScopes exWS.inits exTS.tr [] [] = [[3], [3, 1, 0], [3, 2]] := by decide

/-- **C15_illscoped_first_holder**: 'kept' and 'first holder' for **value names** on ill-scoped models — no scoping
hypothesis (same hypotheses as `C15_illscoped_values`), default generator.  Every list `L` of `recScopes` — the
values recorded in the enclosing scopes when the graph was entered, followed by the values **first met** in the graph
itself — is in the order in which NameFixPass records its members (initializers of one graph never share a name, so
their mutual order is immaterial).  (1) A non-empty name carried by exactly one member of `L` is kept.  (2) Split `L`
at any occurrence of `v`, `L = A ++ v :: B`, where `v` has a non-empty name: if no member in front of `v` carried
that name, `v` keeps it — the *first* holder recorded in a scope is never renamed; if a member in front of `v`
carried it (and this is `v`'s first occurrence), `v` is renamed.  Together with `C15_illscoped_values` this pins,
per recorded scope, exactly which names change: those of unnamed values and of every holder of a name but the
first.  (A value met in the graph but first met in a scope that is not visible is not a member of `L`:
`C15_scoping_necessary`.) -/
theorem C15_illscoped_first_holder (w : World) (tops : List Top) (hok : InitsOk w)
    (hyp : ∀ t ∈ tops, Closed w.initOf t ∧ (allNodes t.body).Nodup) (hdisj : tops.Pairwise (TopDisj w.initOf)) :
    ∀ t ∈ tops, ∀ L ∈ recScopes w.inits t.tr [] [],
      KeptOn w.vname (fixModel w tops).1.vname L
      ∧ FirstB w.vname (fixModel w tops).1.vname L
      ∧ ∀ A v B, L = A ++ v :: B → truthy (w.vname v) = true →
          ((∀ u ∈ A, w.vname u ≠ w.vname v) → (fixModel w tops).1.vname v = w.vname v)
          ∧ (v ∉ A → (∃ u ∈ A, w.vname u = w.vname v) → (fixModel w tops).1.vname v ≠ w.vname v) := by
  intro t ht L hL
  have hiv : ∀ g u, u ∈ w.inits g ↔ w.initOf u = some g := fun g u => hok.mem_iff g u
  obtain ⟨hinj, hf⟩ := (fixModel_recPost w.inits tops w hok hiv hyp hdisj t ht).1 L hL
  exact ⟨hf.keptOn, hf, fun A v B e h1 => first_exact hf hinj.inj A v B e h1⟩

/-- the ill-scoped witness of `C15_scoping_necessary` (names x, a, x, o): in the recorded lists `[3]`, `[3, 1, 0]`,
`[3, 2]` every name is unique, so every value keeps its name — also value 2 of the second sibling, whose name is
carried by the free value 0 that is met there but not recorded there -/
example : (List.range 4).map (fixModel exWS [exTS]).1.vname = [some "x", some "a", some "x", some "o"] := by decide

end IrVerif.Names
