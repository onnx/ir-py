/-
C18 — region extraction and capture analysis are exact: property theorems about the model
`IrVerif.Extract` (Model/Extract.lean).  Helper development: Lemmas/Extract*.lean, Lemmas/Implicit.lean.

Six topics, each with its examples: the region search; the whole `extract` call (by-name arguments, every kind of
source, when it returns and what it raises, the ownership checks, the pipeline after D460); evaluation, with the
hypotheses shown necessary; capture analysis, likewise; sources built through the C01 kernel; the clone stage against
C13's heap-level cloner.  `C18_eval` / `C18_extract_eval` are `C18_eval_strong` / `C18_extract_eval_strong` with
hypotheses the proofs do not use (see their docstrings).  Hypothesis without a necessity theorem: consistent `.graph` back pointers on
nested graphs.
-/
import IrVerif.Lemmas.Extract
import IrVerif.Lemmas.Implicit
import IrVerif.Lemmas.ExtractEval
import IrVerif.Lemmas.ExtractClone
import IrVerif.Lemmas.ExtractHyp
import IrVerif.Lemmas.ExtractView
import IrVerif.Lemmas.ExtractNames
import IrVerif.Lemmas.ExtractAttrs
import IrVerif.Lemmas.ExtractKernel
import IrVerif.Lemmas.ExtractSucceeds
import IrVerif.Lemmas.ExtractC13
import IrVerif.Lemmas.ExtractKernelN
import IrVerif.Lemmas.ExtractOwn
import IrVerif.Lemmas.ExtractPipeline
import IrVerif.Props.C13
namespace IrVerif.Extract

/-! ## the region search (`findSubgraph`) -/

/-- the state in which the `while value_stack:` loop ends -/
def walkFinal (W : World) (fn : Bool) (I O : List VId) (p : GId) : WS :=
  walk W p (walkInit W fn I O)

theorem walkFinal_inv (W : World) (fn : Bool) (I O : List VId) (p : GId) :
    Inv W p fn I O (walkFinal W fn I O p) :=
  walk_inv _ (walkInit_inv W p fn I O)

/-- **C18_external_free**: when the `.graph` back pointers are consistent with the structure on the subtree of
    the nested graph `b` and the region's graph is not nested in `b`, `_collect_all_external_values(parent, b)`
    (with the D47 fix) is exactly the set of free variables of `b` in the structural sense: read by a node of
    `b` or of a graph nested in `b`, and defined (graph input, initializer, node output) neither in `b` nor in
    a graph nested in `b`.  The right-hand side consults no back pointer. -/
theorem C18_external_free (W : World) (p : GId) (b : GraphT) (v : VId)
    (hb : BackPtrOK W b) (hp : ¬ NestedIn b p) :
    v ∈ externalValues W p b ↔ FreeOf b v := by
  rw [mem_externalValues]
  unfold FreeOf
  constructor
  · rintro ⟨h1, h2⟩; exact ⟨h1, (outside_iff_not_def hb hp).mp h2⟩
  · rintro ⟨h1, h2⟩; exact ⟨h1, (outside_iff_not_def hb hp).mpr h2⟩

/-- **C18_values_exact**: the walk visits exactly the boundary inputs and the required values (the least
    set containing the uncut outputs and closed under "needed by the producer of a required value, unless
    cut by a boundary input"; needed = direct input, or value used at any depth inside a graph attribute of
    the node and owned by none of the graphs nested there, see `Needs`). -/
theorem C18_values_exact (W : World) (fn : Bool) (I O : List VId) (p : GId) (v : VId) :
    v ∈ (walkFinal W fn I O p).valsV ↔ v ∈ I ∨ Reach W p I O v := by
  have h := walkFinal_inv W fn I O p
  constructor
  · exact h.sVals v
  · rintro (hv | hv)
    · exact h.cIns v hv
    · exact reach_visited h (walk_stack _ _ _) hv

theorem walkFinal_nodes (W : World) (fn : Bool) (I O : List VId) (p : GId) (n : NId) :
    n ∈ (walkFinal W fn I O p).nodesV ↔ NeedN W p I O n := by
  have h := walkFinal_inv W fn I O p
  constructor
  · exact h.sNodes n
  · rintro ⟨v, hr, hp⟩
    exact (h.cVals v (reach_visited h (walk_stack _ _ _) hr) hr.not_mem).2 n hp

theorem walkFinal_inited (W : World) (fn : Bool) (I O : List VId) (p : GId) (v : VId) :
    v ∈ (walkFinal W fn I O p).inited ↔
      W.isInit v = true ∧ ((v ∈ I ∧ fn = false) ∨ Reach W p I O v) := by
  have h := walkFinal_inv W fn I O p
  constructor
  · exact h.sInited v
  · rintro ⟨hi, (⟨hv, hfn⟩ | hr)⟩
    · exact h.cInsInit hfn v hv hi
    · exact (h.cVals v (reach_visited h (walk_stack _ _ _) hr) hr.not_mem).1 hi

theorem findSubgraph_eq (W : World) (fn : Bool) (g I O : List VId) (p : GId) :
    findSubgraph W fn g I O p =
      if (unspecified W I (walkFinal W fn I O p).nodesV).isEmpty then
        if (walkFinal W fn I O p).nodesV.all (fun n => g.contains n) then
          .ok (sortByKey (fun n => lastIdx g n) (walkFinal W fn I O p).nodesV, (walkFinal W fn I O p).inited)
        else .error .sortKey
      else .error .unbounded := rfl

theorem findSubgraph_ok {W : World} {fn : Bool} {g I O : List VId} {p : GId} {ns : List NId}
    {ws : List VId} (h : findSubgraph W fn g I O p = .ok (ns, ws)) :
    (unspecified W I (walkFinal W fn I O p).nodesV).isEmpty = true ∧
    (walkFinal W fn I O p).nodesV.all (fun n => g.contains n) = true ∧
    ns = sortByKey (fun n => lastIdx g n) (walkFinal W fn I O p).nodesV ∧
    ws = (walkFinal W fn I O p).inited := by
  rw [findSubgraph_eq] at h
  split at h
  · rename_i h1
    split at h
    · rename_i h2
      injection h with h
      injection h with h3 h4
      exact ⟨h1, h2, h3.symm, h4.symm⟩
    · cases h
  · cases h

/-- **C18_nodes_exact**: when `_find_subgraph_bounded_by_values` returns, its node list contains exactly the
    required nodes: the producers of required values (see `Reach`); in particular no unneeded node is kept
    and no producer of a value captured by a nested body at any depth is missed. -/
theorem C18_nodes_exact {W : World} {fn : Bool} {g I O : List VId} {p : GId} {ns : List NId}
    {ws : List VId} (h : findSubgraph W fn g I O p = .ok (ns, ws)) (n : NId) :
    n ∈ ns ↔ NeedN W p I O n := by
  obtain ⟨_, _, h3, _⟩ := findSubgraph_ok h
  rw [h3, mem_sortByKey, walkFinal_nodes]

/-- **C18_nodes_exact_free**: the same with the required set defined from the structure alone (`ReachS`:
    a node needs its inputs and the free variables of its graph attributes; no `.graph` back pointer), when
    the back pointers of the graph attributes of the table's nodes are consistent (`BodiesPtrOK`, decidable:
    `backPtrB`) — so a wrong owner filter in the code would make this theorem fail for the model. -/
theorem C18_nodes_exact_free {W : World} {fn : Bool} {g I O : List VId} {p : GId} {ns : List NId}
    {ws : List VId} (h : findSubgraph W fn g I O p = .ok (ns, ws)) (hptr : ∀ n, BodiesPtrOK W p n)
    (n : NId) : n ∈ ns ↔ NeedNS W I O n := by
  rw [C18_nodes_exact h n, needN_iff_struct hptr n]

/-- **C18_order_view**: the order of the extracted nodes with no hypothesis on the node list — the node
    list of a `GraphView` may be any list (a strict subset of the nodes of the graph the values live in,
    another order, repeats).  The extracted nodes are duplicate free and are the LAST occurrences of the
    listed nodes (`node_index` is a dict comprehension: a node listed twice is ordered by its last position),
    restricted to the required ones; in particular a sublist of the source's node list. -/
theorem C18_order_view {W : World} {fn : Bool} {g I O : List VId} {p : GId} {ns : List NId}
    {ws : List VId} (h : findSubgraph W fn g I O p = .ok (ns, ws)) :
    ns = (dedupLast g).filter (fun n => decide (n ∈ ns)) ∧ ns.Sublist g ∧ ns.Nodup := by
  obtain ⟨_, h2, h3, _⟩ := findSubgraph_ok h
  have hsub : ∀ x, x ∈ (walkFinal W fn I O p).nodesV → x ∈ g := by
    intro x hx
    have := List.all_eq_true.mp h2 x hx
    simpa using this
  have hnd : (walkFinal W fn I O p).nodesV.Nodup := walk_nodup _ (by simp [walkInit])
  have e := sortByKey_lastIdx_eq_filter (g := g) hnd hsub
  have hmem : ∀ n, decide (n ∈ ns) = decide (n ∈ (walkFinal W fn I O p).nodesV) := by
    intro n
    rw [h3, decide_eq_decide, mem_sortByKey]
  have e' : ns = (dedupLast g).filter (fun n => decide (n ∈ ns)) := by
    rw [show (fun n => decide (n ∈ ns)) = (fun n => decide (n ∈ (walkFinal W fn I O p).nodesV)) from
      funext hmem]
    rw [h3]; exact e
  refine ⟨e', ?_, ?_⟩
  · rw [e']; exact List.filter_sublist.trans (dedupLast_sublist g)
  · rw [h3]; exact sortByKey_nodup hnd

/-- **C18_order**: the extracted nodes are the nodes of the graph-like object restricted to the required
    ones, in their original order (so the result is a sublist of the source's node list). -/
theorem C18_order {W : World} {fn : Bool} {g I O : List VId} {p : GId} {ns : List NId}
    {ws : List VId} (h : findSubgraph W fn g I O p = .ok (ns, ws)) (hg : g.Nodup) :
    ns = g.filter (fun n => decide (n ∈ ns)) ∧ ns.Sublist g := by
  obtain ⟨h1, h2, _⟩ := C18_order_view h
  rw [dedupLast_of_nodup hg] at h1
  exact ⟨h1, h2⟩

/-- **C18_inits**: the initializers handed to the result are exactly the required values that are
    initializers, plus (unless extracting from a `Function`) the boundary inputs that are initializers. -/
theorem C18_inits {W : World} {fn : Bool} {g I O : List VId} {p : GId} {ns : List NId}
    {ws : List VId} (h : findSubgraph W fn g I O p = .ok (ns, ws)) (v : VId) :
    v ∈ ws ↔ W.isInit v = true ∧ ((v ∈ I ∧ fn = false) ∨ Reach W p I O v) := by
  obtain ⟨_, _, _, h4⟩ := findSubgraph_ok h
  rw [h4, walkFinal_inited]

/-- an input of a required node that no boundary input covers: not a boundary input, not an initializer,
    not produced by any node -/
def Uncovered (W : World) (p : GId) (I O : List VId) : Prop :=
  ∃ n u, NeedN W p I O n ∧ some u ∈ (W.nodeD n).inputs ∧ ¬ u ∈ I ∧ W.isInit u = false ∧ W.prod u = none

theorem unspecified_iff (W : World) (fn : Bool) (I O : List VId) (p : GId) :
    (unspecified W I (walkFinal W fn I O p).nodesV).isEmpty = false ↔ Uncovered W p I O := by
  rw [List.isEmpty_eq_false_iff_exists_mem]
  unfold unspecified Uncovered
  constructor
  · rintro ⟨u, hu⟩
    rw [List.mem_filter, List.mem_flatMap] at hu
    obtain ⟨⟨n, hn, hun⟩, hc⟩ := hu
    simp only [Bool.and_eq_true, Bool.not_eq_eq_eq_not, Bool.not_true, List.contains_eq_mem,
      decide_eq_false_iff_not] at hc
    obtain ⟨⟨hp, hI⟩, hinit⟩ := hc
    have hN := (walkFinal_nodes W fn I O p n).mp hn
    refine ⟨n, u, hN, mem_ins.mp hun, hI, hinit, ?_⟩
    cases hpu : W.prod u with
    | none => rfl
    | some m =>
      exfalso
      rw [hpu] at hp
      simp only [Bool.not_eq_eq_eq_not, Bool.not_true,
        decide_eq_false_iff_not] at hp
      obtain ⟨v, hr, hpv⟩ := hN
      have hru : Reach W p I O u := Reach.step hr hpv (Or.inl (mem_ins.mp hun)) hI
      exact hp ((walkFinal_nodes W fn I O p m).mpr ⟨u, hru, hpu⟩)
  · rintro ⟨n, u, hN, hun, hI, hinit, hp⟩
    refine ⟨u, ?_⟩
    rw [List.mem_filter, List.mem_flatMap]
    refine ⟨⟨n, (walkFinal_nodes W fn I O p n).mpr hN, mem_ins.mpr hun⟩, ?_⟩
    simp [hp, hI, hinit]

/-- **C18_raises_iff**: `_find_subgraph_bounded_by_values` raises "not properly bounded" exactly when some
    input of a required node is neither a boundary input, nor an initializer, nor produced by a node;
    otherwise it raises (KeyError) exactly when a required node is not a node of the graph-like object;
    otherwise it returns. -/
theorem C18_raises_iff (W : World) (fn : Bool) (g I O : List VId) (p : GId) :
    (findSubgraph W fn g I O p = .error .unbounded ↔ Uncovered W p I O) ∧
    (findSubgraph W fn g I O p = .error .sortKey ↔
      ¬ Uncovered W p I O ∧ ∃ n, NeedN W p I O n ∧ ¬ n ∈ g) ∧
    ((∃ r, findSubgraph W fn g I O p = .ok r) ↔
      ¬ Uncovered W p I O ∧ ∀ n, NeedN W p I O n → n ∈ g) := by
  have hU := unspecified_iff W fn I O p
  have hall : (walkFinal W fn I O p).nodesV.all (fun n => g.contains n) = true ↔
      ∀ n, NeedN W p I O n → n ∈ g := by
    rw [List.all_eq_true]
    constructor
    · intro h n hn
      simpa using h n ((walkFinal_nodes W fn I O p n).mpr hn)
    · intro h n hn
      simpa using h n ((walkFinal_nodes W fn I O p n).mp hn)
  rw [findSubgraph_eq]
  by_cases h1 : (unspecified W I (walkFinal W fn I O p).nodesV).isEmpty = true
  · have hnU : ¬ Uncovered W p I O := by
      intro hu
      have := hU.mpr hu
      rw [h1] at this
      cases this
    rw [if_pos h1]
    by_cases h2 : (walkFinal W fn I O p).nodesV.all (fun n => g.contains n) = true
    · have h2' := hall.mp h2
      rw [if_pos h2]
      refine ⟨⟨fun h => (by cases h), fun h => absurd h hnU⟩, ⟨fun h => (by cases h), ?_⟩,
        ⟨fun _ => ⟨hnU, h2'⟩, fun _ => ⟨_, rfl⟩⟩⟩
      rintro ⟨_, n, hn, hng⟩
      exact absurd (h2' n hn) hng
    · have h2' : ¬ ∀ n, NeedN W p I O n → n ∈ g := fun h => h2 (hall.mpr h)
      rw [if_neg h2]
      refine ⟨⟨fun h => (by cases h), fun h => absurd h hnU⟩, ⟨fun _ => ⟨hnU, ?_⟩, fun _ => rfl⟩,
        ⟨fun ⟨r, h⟩ => (by cases h), fun h => absurd h.2 h2'⟩⟩
      apply Classical.byContradiction
      intro hne
      apply h2'
      intro n hn
      apply Classical.byContradiction
      intro hng
      exact hne ⟨n, hn, hng⟩
  · have hUn : Uncovered W p I O := hU.mp (by simpa using h1)
    rw [if_neg h1]
    exact ⟨⟨fun _ => hUn, fun _ => rfl⟩, ⟨fun h => (by cases h), fun h => absurd hUn h.1⟩,
      ⟨fun ⟨r, h⟩ => (by cases h), fun h => absurd hUn h.1⟩⟩

theorem scope_of_B {W : World} {fn : Bool} {I O : List VId} {p : GId} {ns : List NId}
    (h : scopeB W fn I O p ns = true) :
    ∀ u, Reach W p I O u → ∀ n, n ∈ ns → ∀ b, b ∈ (W.nodeD n).bodies → ¬ DefInG b u := by
  intro u hu n hn b hb hd
  have hv := (C18_values_exact W fn I O p u).mpr (Or.inr hu)
  have := List.all_eq_true.mp h u hv
  simp only [Bool.or_eq_true, List.contains_eq_mem, decide_eq_true_eq] at this
  rcases this with h1 | h1
  · exact hu.not_mem h1
  · have := List.all_eq_true.mp (List.all_eq_true.mp h1 n hn) b hb
    simp only [Bool.not_eq_eq_eq_not, Bool.not_true, decide_eq_false_iff_not] at this
    exact this ((mem_defsG b u).mpr hd)

/-! ### examples: a concrete world on which every hypothesis and every branch is realised

graph 0: input `x` (0), initializer `w` (1); node 0: `a (2) = f(x, w)`; node 1: `b (3) = g(a, None)` with a
nested graph (id 1) whose node reads `x`. -/

deriving instance DecidableEq for Except

def exW : World :=
  { vals := [ { name := "x", graph := some 0 }, { name := "w", graph := some 0, isInit := true },
              { name := "a", producer := some 0, graph := some 0 },
              { name := "b", producer := some 1, graph := some 0 },
              { name := "i", producer := some 2, graph := some 1 } ],
    nodes := [ .mk [some 0, some 1] [2] [],
               .mk [some 2, none] [3] [.mk 1 [] [] [4] [.mk [some 0] [4] []]],
               .mk [some 0] [4] [] ] }

/-- hypothesis of C18_nodes_exact / C18_order / C18_inits: a successful run with both nodes and the initializer -/
example : findSubgraph exW false [0, 1] [0] [3] 0 = .ok ([0, 1], [1]) := by decide +kernel

/-- a cut in the middle: only node 1 is needed; `x` is needed only through the nested graph -/
example : findSubgraph exW false [0, 1] [2, 0] [3] 0 = .ok ([1], []) := by decide +kernel

example : ([0, 1] : List Nat).Nodup := by decide

/-- every branch of C18_raises_iff is realised -/
example : findSubgraph exW false [0, 1] [] [3] 0 = .error .unbounded := by decide +kernel

example : findSubgraph exW false [1] [0] [3] 0 = .error .sortKey := by decide +kernel

example : Uncovered exW 0 [] [3] := (C18_raises_iff exW false [0, 1] [] [3] 0).1.mp (by decide +kernel)

example : ¬ Uncovered exW 0 [0] [3] := by
  have h : ∃ r, findSubgraph exW false [0, 1] [0] [3] 0 = .ok r := ⟨([0, 1], [1]), by decide +kernel⟩
  exact ((C18_raises_iff exW false [0, 1] [0] [3] 0).2.2.mp h).1

/-- a value captured by the nested graph is required although it is no direct input of a kept node -/
example : Reach exW 0 [2] [3] 0 :=
  ((C18_values_exact exW false [2] [3] 0 0).mp (by decide +kernel)).resolve_left (by decide)

/-- C18_order_view: a view that lists node 1 twice and node 0 in between: node 1 counts at its last position -/
example : findSubgraph exW false [1, 0, 1] [0] [3] 0 = .ok ([0, 1], [1]) := by decide +kernel

/-- ... and a view that lists the consumer last-but-first: the order follows the view, not the graph -/
example : findSubgraph exW false [1, 0] [0] [3] 0 = .ok ([1, 0], [1]) := by decide +kernel

example : dedupLast [1, 0, 1] = [0, 1] := by decide

/-! ## the whole `extract` call: by-name arguments, every kind of source, when it returns and what it raises -/

/-- a value of the source as `create_value_mapping(graph, include_subgraphs=False)` sees it: a graph input, or
    an input or output of a node of the graph-like object (values defined only inside nested graphs are not
    seen; a value of an enclosing graph that a node of the source reads directly is) -/
def SourceVal (W : World) (T : Target) (v : VId) : Prop :=
  v ∈ T.inputs ∨ ∃ n, n ∈ T.nodes ∧ (some v ∈ (W.nodeD n).inputs ∨ v ∈ (W.nodeD n).outputs)

/-- `s` names `v` in the source: `s` is the key of `v` in the initializer dict, or `v` is a source value whose
    name is the non-empty string `s` -/
def NamedBy (W : World) (T : Target) (s : String) (v : VId) : Prop :=
  (s, v) ∈ T.inits ∨ (SourceVal W T v ∧ (W.val v).name = s ∧ s ≠ "")

theorem mem_nameCandidates {W : World} {T : Target} {s : String} {v : VId} :
    (s, v) ∈ nameCandidates W T ↔ NamedBy W T s v := by
  unfold nameCandidates NamedBy SourceVal
  rw [List.mem_append, mem_named, List.mem_append, List.mem_flatMap]
  constructor
  · rintro (h | ⟨(h | ⟨n, hn, h⟩), h2⟩)
    · exact Or.inl h
    · exact Or.inr ⟨Or.inl h, h2⟩
    · refine Or.inr ⟨Or.inr ⟨n, hn, ?_⟩, h2⟩
      rcases List.mem_append.mp h with h | h
      · exact Or.inl (mem_ins.mp h)
      · exact Or.inr h
  · rintro (h | ⟨(h | ⟨n, hn, h⟩), h2⟩)
    · exact Or.inl h
    · exact Or.inr ⟨Or.inl h, h2⟩
    · refine Or.inr ⟨Or.inr ⟨n, hn, ?_⟩, h2⟩
      rcases h with h | h
      · exact List.mem_append_left _ (mem_ins.mpr h)
      · exact List.mem_append_right _ h

/-- **C18_by_name_resolves**: how `extract` resolves a boundary value given as the name `s`
    (`create_value_mapping(graph, include_subgraphs=False)`, then `values[s]`), for every source (graph,
    function graph, view), with duplicate, empty and missing names:
    1. *documented precedence* ("the first value with that name is returned"): the lookup is the lookup in
       the flat list of (name, value) pairs in the order initializer dict, graph inputs, then node by node
       inputs before outputs — an initializer key beats a graph input of that name, which beats any node value;
       among node values the earliest node wins, an input of a node before an output of the same node;
    2. the name is accepted exactly when something in the source is named `s`, and is otherwise rejected with
       `ValueError` "not found" (values defined only in nested graphs do not count; `""` names nothing but a
       possible initializer key);
    3. *unique names*: when a name denotes at most one value among the candidates (decidable:
       `namesUniqueB`), `s` resolves to THE value of the source named `s`. -/
theorem C18_by_name_resolves (W : World) (T : Target) (s : String) :
    ((valueMapping W T).lookup s = (nameCandidates W T).lookup s ∧
     (nameCandidates W T).lookup s =
       (T.inits.lookup s).or (((named W T.inputs).lookup s).or
         ((named W (T.nodes.flatMap (fun n => (W.nodeD n).ins ++ (W.nodeD n).outputs))).lookup s))) ∧
    ((checkArg W T (valueMapping W T) (.name s) = .ok () ↔ ∃ v, NamedBy W T s v) ∧
     (checkArg W T (valueMapping W T) (.name s) = .error .nameNotFound ↔ ¬ ∃ v, NamedBy W T s v)) ∧
    ((∀ k v v', NamedBy W T k v → NamedBy W T k v' → v = v') →
      ∀ v, NamedBy W T s v → resolveArg (valueMapping W T) (.name s) = v) := by
  have hl := lookup_valueMapping W T s
  have hsome : ((valueMapping W T).lookup s).isSome ↔ ∃ v, NamedBy W T s v := by
    rw [hl, lookup_isSome_iff]
    exact ⟨fun ⟨v, hv⟩ => ⟨v, mem_nameCandidates.mp hv⟩, fun ⟨v, hv⟩ => ⟨v, mem_nameCandidates.mpr hv⟩⟩
  refine ⟨⟨hl, ?_⟩, ⟨?_, ?_⟩, ?_⟩
  · unfold nameCandidates
    rw [named_append, List.lookup_append, List.lookup_append]
  · rw [← hsome]
    unfold checkArg
    by_cases h : ((valueMapping W T).lookup s).isSome = true <;> simp [h]
  · rw [← hsome]
    unfold checkArg
    by_cases h : ((valueMapping W T).lookup s).isSome = true <;> simp [h]
  · intro huniq v hv
    have hf : ∀ k v v', (k, v) ∈ nameCandidates W T → (k, v') ∈ nameCandidates W T → v = v' :=
      fun k v v' h h' => huniq k v v' (mem_nameCandidates.mp h) (mem_nameCandidates.mp h')
    have := (lookup_eq_some_iff_of_functional hf s v).mpr (mem_nameCandidates.mpr hv)
    show ((valueMapping W T).lookup s).getD 0 = v
    rw [hl, this]
    rfl

/-- **C18_by_name_missing**: which error a missing name gives, and when.  `extract` raises "Value with name
    ... not found" exactly when the FIRST argument of `inputs` followed by `outputs` that fails its check is
    a name that nothing in the source carries (every argument before it is a known name or a value owned by
    the source); it raises "does not belong" exactly when that first failing argument is a value object that
    the source (not a view) does not own.  Both errors precede every other failure of `extract`. -/
theorem C18_by_name_missing (W : World) (T : Target) (ins outs : List Arg) :
    (extract W T ins outs = .error .nameNotFound ↔
      ∃ pre s post, ins ++ outs = pre ++ Arg.name s :: post ∧
        (∀ b, b ∈ pre → checkArg W T (valueMapping W T) b = .ok ()) ∧ ¬ ∃ v, NamedBy W T s v) ∧
    (extract W T ins outs = .error .notOwned ↔
      ∃ pre v post, ins ++ outs = pre ++ Arg.obj v :: post ∧
        (∀ b, b ∈ pre → checkArg W T (valueMapping W T) b = .ok ()) ∧
        T.kind ≠ Kind.view ∧ W.graphOf v ≠ T.gid) := by
  constructor
  · rw [extract_arg_error W T ins outs _ (Or.inl rfl), checkArgs_error_iff]
    constructor
    · rintro ⟨pre, a, post, hl, hpre, ha⟩
      cases a with
      | obj v => simp only [checkArg] at ha; split at ha <;> cases ha
      | name s => exact ⟨pre, s, post, hl, hpre, (C18_by_name_resolves W T s).2.1.2.mp ha⟩
    · rintro ⟨pre, s, post, hl, hpre, hs⟩
      exact ⟨pre, .name s, post, hl, hpre, (C18_by_name_resolves W T s).2.1.2.mpr hs⟩
  · rw [extract_arg_error W T ins outs _ (Or.inr rfl), checkArgs_error_iff]
    constructor
    · rintro ⟨pre, a, post, hl, hpre, ha⟩
      cases a with
      | obj v =>
        refine ⟨pre, v, post, hl, hpre, ?_⟩
        simp only [checkArg] at ha
        split at ha
        · rename_i hc
          simp only [Bool.and_eq_true, bne_iff_ne, ne_eq] at hc
          exact hc
        · cases ha
      | name s => simp only [checkArg] at ha; split at ha <;> cases ha
    · rintro ⟨pre, v, post, hl, hpre, hk, hg⟩
      refine ⟨pre, .obj v, post, hl, hpre, ?_⟩
      simp only [checkArg]
      have : (T.kind != Kind.view && W.graphOf v != T.gid) = true := by
        simp only [Bool.and_eq_true, bne_iff_ne, ne_eq]
        exact ⟨hk, hg⟩
      rw [if_pos this]

/-- **C18_nodes_exact_source**: `C18_nodes_exact` for the whole `extract` call on every kind of source — a
    `Graph`, a `Function` (fields of `function.graph`) or a `GraphView` whose node list is any list.  Whenever
    `extract` returns, its boundary is the resolved arguments and its node set is exactly the set of required
    nodes for that boundary, relative to the graph `p` that owns the first requested output. -/
theorem C18_nodes_exact_source {W : World} (S : Source) {ins outs : List Arg} {view : View}
    (h : extract W S.target ins outs = .ok view) :
    view.inputs = ins.map (resolveArg (valueMapping W S.target)) ∧
    view.outputs = outs.map (resolveArg (valueMapping W S.target)) ∧
    ∃ p, (∃ o rest, view.outputs = o :: rest ∧ W.graphOf o = some p) ∧
      ∀ n, n ∈ view.nodes ↔ NeedN W p view.inputs view.outputs n := by
  obtain ⟨p, inited, m', hp, hfind, _, _, _, _, hi, ho⟩ := extract_ok h
  exact ⟨hi, ho, p, hp, fun n => C18_nodes_exact hfind n⟩

/-- **C18_order_source**: `C18_order` for the whole `extract` call on every kind of source, with no
    hypothesis on the node list: the extracted nodes are duplicate free, a sublist of the source's node list,
    and ordered as the last occurrences of the listed nodes (for a `Graph` or `Function`, whose node list is
    duplicate free: the original order).  A view that lists a node twice therefore contributes the node once,
    at its last position — if that puts it after a consumer, the clone stage raises (`Err.cloneOuter`). -/
theorem C18_order_source {W : World} (S : Source) {ins outs : List Arg} {view : View}
    (h : extract W S.target ins outs = .ok view) :
    view.nodes = (dedupLast S.nodes).filter (fun n => decide (n ∈ view.nodes)) ∧
    view.nodes.Sublist S.nodes ∧ view.nodes.Nodup ∧
    (S.nodes.Nodup → view.nodes = S.nodes.filter (fun n => decide (n ∈ view.nodes))) := by
  obtain ⟨p, inited, m', hp, hfind, _, _, _⟩ := extract_ok h
  obtain ⟨h1, h2, h3⟩ := C18_order_view hfind
  refine ⟨h1, h2, h3, fun hnd => ?_⟩
  have := h1
  unfold Source.nodes at this hnd
  rw [dedupLast_of_nodup hnd] at this
  exact this

/-- **C18_inits_source**: `C18_inits` for the whole `extract` call on every kind of source: every initializer
    of the result is an initializer that is required or (source not a `Function`) a boundary input; and when
    the recorded initializers have pairwise distinct names (`GraphView` keys its initializers by name), every
    such value is an initializer of the result. -/
theorem C18_inits_source {W : World} (S : Source) {ins outs : List Arg} {view : View}
    (h : extract W S.target ins outs = .ok view) :
    ∃ p, (∃ o rest, view.outputs = o :: rest ∧ W.graphOf o = some p) ∧
      (∀ v, v ∈ view.inits → W.isInit v = true ∧
        ((v ∈ view.inputs ∧ S.isFunction = false) ∨ Reach W p view.inputs view.outputs v)) ∧
      ((∀ u u', W.isInit u = true → W.isInit u' = true → (W.val u).name = (W.val u').name → u = u') →
        ∀ v, W.isInit v = true →
          ((v ∈ view.inputs ∧ S.isFunction = false) ∨ Reach W p view.inputs view.outputs v) →
          v ∈ view.inits) := by
  obtain ⟨p, inited, m', hp, hfind, hsub, _, ⟨im, him, hinits⟩, _⟩ := extract_ok h
  refine ⟨p, hp, ?_, ?_⟩
  · intro v hv
    exact (C18_inits hfind v).mp (hsub v hv)
  · intro hnames v hv hreq
    have hinitOK : ∀ v, v ∈ inited → W.isInit v = true := fun v hv => ((C18_inits hfind v).mp hv).1
    have hcomplete := viewInits_complete_nil him
      (fun u u' hu hu' => hnames u u' (hinitOK u hu) (hinitOK u' hu'))
    rw [hinits]
    exact hcomplete v ((C18_inits hfind v).mpr ⟨hv, hreq⟩)

/-- **C18_extract_unbounded_iff** (composition of the argument checks with `C18_raises_iff`): `extract` raises
    "not properly bounded" exactly when the arguments pass the checks, there is a first output with an owning
    graph `p`, and some input of a required node is neither a boundary input, nor an initializer, nor produced
    by a node. -/
theorem C18_extract_unbounded_iff (W : World) (T : Target) (ins outs : List Arg) :
    extract W T ins outs = .error .unbounded ↔
      checkArgs W T (valueMapping W T) (ins ++ outs) = .ok () ∧
      ∃ o rest p, outs.map (resolveArg (valueMapping W T)) = o :: rest ∧ W.graphOf o = some p ∧
        Uncovered W p (ins.map (resolveArg (valueMapping W T))) (outs.map (resolveArg (valueMapping W T))) := by
  unfold extract
  simp only []
  constructor
  · intro h
    split at h
    · rename_i e he
      cases h
      rcases checkArgs_err he with h' | h' <;> cases h'
    · rename_i hok
      refine ⟨hok, ?_⟩
      split at h
      · cases h
      · rename_i o0 rest hout
        split at h
        · cases h
        · rename_i parent hpar
          refine ⟨o0, rest, parent, hout, hpar, ?_⟩
          split at h
          · rename_i e he
            cases h
            exact (C18_raises_iff W _ T.nodes _ _ parent).1.mp he
          · split at h
            · rename_i e he
              cases h
              cases (viewInits_err_named _ _ _ he).1
            · split at h
              · rename_i e he
                cases h
                exfalso
                rcases cloneG_err _ _ _ he with h' | h' <;> cases h'
              · cases h
  · rintro ⟨hok, o0, rest, parent, hout, hpar, hunc⟩
    rw [hok]
    simp only []
    rw [hout]
    simp only [hpar]
    rw [← hout]
    rw [(C18_raises_iff W _ T.nodes _ _ parent).1.mpr hunc]

/-- a required value that no node produces is, after a successful clone of the view, one of the view's
    initializers: every required value ends up in the cloner's value map, and what is in the map was put there as
    input, initializer, output of a kept node or value of a nested graph -/
theorem reach_unproduced_in_inits {W : World} {fn : Bool} {g I O : List VId} {p : GId} {ns : List NId}
    {ws inits m' : List VId} (h : findSubgraph W fn g I O p = .ok (ns, ws))
    (hc : cloneG [] (.mk 0 I inits O (ns.map W.nodeD)) = .ok m')
    (hprod : ∀ n, n ∈ ns → ∀ o, o ∈ (W.nodeD n).outputs → W.prod o = some n)
    (hscope : ∀ u, Reach W p I O u → ∀ n, n ∈ ns → ∀ b, b ∈ (W.nodeD n).bodies → ¬ DefInG b u) :
    ∀ u, Reach W p I O u → W.prod u = none → u ∈ inits := by
  intro u hu hp
  have hspec := cloneG_spec _ _ _ hc
  have hmem : u ∈ m' := by
    cases hu with
    | out ho _ => exact hspec.2.2.2 u ho
    | @step v _ n hr hpv hn _ =>
      have hnn : n ∈ ns := (C18_nodes_exact h n).mpr ⟨v, hr, hpv⟩
      have hnode : W.nodeD n ∈ (GraphT.mk 0 I inits O (ns.map W.nodeD)).nodes := by
        simp only [GraphT.nodes_mk, List.mem_map]; exact ⟨n, hnn, rfl⟩
      apply hspec.2.2.1 u
      rcases hn with hd | ⟨b, hb, hub, _⟩
      · exact UsedInG.node hnode (UsedInN.direct hd)
      · exact UsedInG.node hnode (UsedInN.nested hb hub)
  rcases hspec.2.1 u hmem with h0 | hd
  · cases h0
  · cases hd with
    | input hi => exact absurd (by simpa using hi) hu.not_mem
    | init hi => simpa using hi
    | node hn hdn =>
      simp only [GraphT.nodes_mk, List.mem_map] at hn
      obtain ⟨n, hnn, rfl⟩ := hn
      cases hdn with
      | out ho => have := hprod n hnn u ho; rw [hp] at this; cases this
      | nested hb hdb => exact absurd hdb (hscope u hu n hnn _ hb)

/-- **C18_cover_of_clone**: if the region search succeeded and the clone of the view did not raise, then
    every required value that no node produces is an initializer — also the values captured by nested
    graphs and the requested outputs, which the frontier validation does not look at.  (Equivalently: if a
    required non-initializer value is covered neither by a boundary input nor by a producer, then either the
    validation or the clone raises.)  Hypotheses: `producer()` of an output of a kept node is that node, the
    view's initializers are initializers, and no required value is defined inside a graph nested in a kept
    node (scoping). -/
theorem C18_cover_of_clone {W : World} {fn : Bool} {g I O : List VId} {p : GId} {ns : List NId}
    {ws inits m' : List VId} (h : findSubgraph W fn g I O p = .ok (ns, ws))
    (hinits : ∀ v, v ∈ inits → W.isInit v = true)
    (hc : cloneG [] (.mk 0 I inits O (ns.map W.nodeD)) = .ok m')
    (hprod : ∀ n, n ∈ ns → ∀ o, o ∈ (W.nodeD n).outputs → W.prod o = some n)
    (hscope : ∀ u, Reach W p I O u → ∀ n, n ∈ ns → ∀ b, b ∈ (W.nodeD n).bodies → ¬ DefInG b u) :
    ∀ u, Reach W p I O u → W.prod u = none → W.isInit u = true :=
  fun u hu hp => hinits u (reach_unproduced_in_inits h hc hprod hscope u hu hp)

/-- **C18_raises_of_uncovered**: for the whole `extract` pipeline — if some required value (an uncut output,
    an input of a required node, or a value captured from outside at any depth by a nested graph of a
    required node) is neither a boundary input, nor an initializer, nor produced by a node, then `extract`
    raises (in the argument checks, the frontier validation, or the clone). -/
theorem C18_raises_of_uncovered {W : World} {T : Target} {ins outs : List Arg} {view : View}
    (h : extract W T ins outs = .ok view)
    (hinit : ∀ v, v ∈ view.inits → W.isInit v = true)
    (hprod : ∀ n, n ∈ view.nodes → ∀ o, o ∈ (W.nodeD n).outputs → W.prod o = some n) :
    ∃ p, (∃ o rest, view.outputs = o :: rest ∧ W.graphOf o = some p) ∧
      ((∀ u, Reach W p view.inputs view.outputs u → ∀ n, n ∈ view.nodes →
          ∀ b, b ∈ (W.nodeD n).bodies → ¬ DefInG b u) →
        ∀ u, Reach W p view.inputs view.outputs u → W.prod u = none → W.isInit u = true) := by
  obtain ⟨p, inited, m', hp, hfind, _, hclone, _⟩ := extract_ok h
  exact ⟨p, hp, fun hscope => C18_cover_of_clone hfind hinit hclone hprod hscope⟩

/-- every required value is covered: a required value (an uncut output, an input of a required node, a value
    captured at any depth by a nested graph of a required node; boundary inputs cut the search) that no node
    produces is an initializer -/
def Covered (W : World) (p : GId) (I O : List VId) : Prop :=
  ∀ u, Reach W p I O u → W.prod u = none → W.isInit u = true

/-- `Covered` is decided on the values the walk visits (what the driver evaluates on every generated cut) -/
theorem covered_iff_B {W : World} {fn : Bool} {I O : List VId} {p : GId} :
    coveredB W fn I O p = true ↔ Covered W p I O := by
  unfold coveredB Covered
  rw [List.all_eq_true]
  constructor
  · intro h u hu hp
    have := h u ((C18_values_exact W fn I O p u).mpr (Or.inr hu))
    simp only [Bool.or_eq_true, List.contains_eq_mem, decide_eq_true_eq, hp, Option.isSome_none,
      Bool.false_eq_true, or_false] at this
    rcases this with h' | h'
    · exact absurd h' hu.not_mem
    · exact h'
  · intro h u hu
    simp only [Bool.or_eq_true, List.contains_eq_mem, decide_eq_true_eq]
    rcases (C18_values_exact W fn I O p u).mp hu with h' | h'
    · exact Or.inl (Or.inl h')
    · cases hp : W.prod u with
      | none => exact Or.inr (h u h' hp)
      | some k => exact Or.inl (Or.inr rfl)

/-- **C18_clone_succeeds**: the clone of the view built from a successful region search returns as soon as every
    required value that no node produces is one of the view's initializers.  Hypotheses: the source list is
    single assignment, topologically sorted with consistent `producer()` pointers (`SourceOK`), and what the
    lexical scoping lets a kept node read is what the code collects for it (`CapturesCover`: closed, well scoped
    nested graphs with consistent back pointers; this also says that every nested graph is sorted, a use
    before its definition being a free variable that the graph defines). -/
theorem C18_clone_succeeds {W : World} {fn : Bool} {g I O : List VId} {p : GId} {ns : List NId}
    {ws inits : List VId} (h : findSubgraph W fn g I O p = .ok (ns, ws))
    (hS : SourceOK W p g)
    (hcap : ∀ n, n ∈ ns → CapturesCover W p n)
    (hcov : ∀ u, Reach W p I O u → W.prod u = none → u ∈ inits) :
    ∃ m', cloneG [] (.mk 0 I inits O (ns.map W.nodeD)) = .ok m' := by
  have hord := C18_order h hS.nodup
  have hkeep : ∀ n, decide (n ∈ ns) = true ↔ NeedN W p I O n := by
    intro n; rw [decide_eq_true_eq]; exact C18_nodes_exact h n
  have hgoodI : ∀ u, (u ∈ I ∨ Reach W p I O u) →
      u ∈ [] ++ I ++ inits ∨ ∃ k, decide (k ∈ ns) = true ∧ k ∈ g ∧ u ∈ (W.nodeD k).outputs := by
    intro u hu
    rcases hu with hu | hu
    · left; simp [hu]
    · cases hp : W.prod u with
      | none => left; have := hcov u hu hp; simp [this]
      | some k =>
        right
        have hk : k ∈ ns := (C18_nodes_exact h k).mpr ⟨u, hu, hp⟩
        exact ⟨k, by simpa using hk, hord.2.subset hk, hS.outProd u k hp⟩
  obtain ⟨m1, h1, hsub, hout⟩ := cloneNs_filter_ok (W := W) (p := p) (fun n => decide (n ∈ ns))
    (fun u => u ∈ I ∨ Reach W p I O u) g ([] ++ I ++ inits) hS.sorted
    (fun n _ hk => hcap n (by simpa using hk))
    (fun n _ hk u hN => ((hkeep n).mp hk).reach hN)
    hgoodI
  rw [← hord.1] at h1
  rw [cloneG, h1]
  simp only []
  have hall : O.all (fun v => m1.contains v) = true := by
    rw [List.all_eq_true]
    intro o ho
    simp only [List.contains_eq_mem, decide_eq_true_eq]
    rcases hgoodI o (reach_of_out ho) with h' | ⟨k, hkk, hkg, hko⟩
    · exact hsub o h'
    · exact hout k hkg hkk o hko
  rw [if_pos hall]
  exact ⟨m1, rfl⟩

/-- the hypotheses of `C18_extract_succeeds_iff` for a region of graph `p` (all decidable: `sourceOKB`,
    `bodiesOKB`, `scopeB`, `initNamedB`, `initNamesB`; evaluated by the driver on every generated cut) -/
structure RegionHyp (W : World) (T : Target) (p : GId) (I O : List VId) : Prop where
  source : SourceOK W p T.nodes
  cap : ∀ n, n ∈ T.nodes → CapturesCover W p n
  scope : ∀ u, Reach W p I O u → ∀ n, NeedN W p I O n → ∀ b, b ∈ (W.nodeD n).bodies → ¬ DefInG b u
  named : ∀ u, W.isInit u = true → (W.val u).name ≠ ""
  names : ∀ u u', W.isInit u = true → W.isInit u' = true → (W.val u).name = (W.val u').name → u = u'

/-- **C18_extract_succeeds_iff**: `extract` returns a graph EXACTLY when the arguments pass the checks, there is
    a first output with an owning graph `p`, every required value is covered (`Covered`: what no boundary
    input cuts off and no node produces is an initializer) and every required node is a node of the
    graph-like object.  Together with `C18_by_name_missing` (argument errors) and `C18_raises_iff` (which of
    "not bounded" / KeyError the region search raises) this is the full outcome table of `extract`; in
    particular a bounded, well scoped, sorted region makes the clone stage succeed (`C18_clone_succeeds`).
    Hypotheses: `RegionHyp` for the graph of the first output. -/
theorem C18_extract_succeeds_iff (W : World) (T : Target) (ins outs : List Arg)
    (hyp : ∀ o rest p, outs.map (resolveArg (valueMapping W T)) = o :: rest → W.graphOf o = some p →
      RegionHyp W T p (ins.map (resolveArg (valueMapping W T))) (outs.map (resolveArg (valueMapping W T)))) :
    (∃ view, extract W T ins outs = .ok view) ↔
      checkArgs W T (valueMapping W T) (ins ++ outs) = .ok () ∧
      ∃ o rest p, outs.map (resolveArg (valueMapping W T)) = o :: rest ∧ W.graphOf o = some p ∧
        Covered W p (ins.map (resolveArg (valueMapping W T))) (outs.map (resolveArg (valueMapping W T))) ∧
        ∀ n, NeedN W p (ins.map (resolveArg (valueMapping W T))) (outs.map (resolveArg (valueMapping W T))) n →
          n ∈ T.nodes := by
  constructor
  · rintro ⟨view, h⟩
    obtain ⟨p, inited, m', ⟨o, rest, hout, hp⟩, hfind, hsub, hclone, ⟨im, him, hinits⟩, hargs, hI, hO⟩ := extract_ok h
    refine ⟨hargs, o, rest, p, by rw [← hO]; exact hout, hp, ?_, ?_⟩
    · have H := hyp o rest p (by rw [← hO]; exact hout) hp
      rw [← hI, ← hO] at H ⊢
      have hnodes : ∀ n, n ∈ view.nodes → n ∈ T.nodes :=
        fun n hn => (C18_order hfind H.source.nodup).2.subset hn
      exact C18_cover_of_clone hfind
        (fun v hv => ((C18_inits hfind v).mp (hsub v hv)).1) hclone
        (fun n hn => H.source.prodOut n (hnodes n hn))
        (fun u hu n hn => H.scope u hu n ((C18_nodes_exact hfind n).mp hn))
    · rw [← hI, ← hO]
      exact ((C18_raises_iff W _ T.nodes _ _ p).2.2.mp ⟨_, hfind⟩).2
  · rintro ⟨hargs, o, rest, p, hout, hp, hcov, hneed⟩
    have H := hyp o rest p hout hp
    have hnU : ¬ Uncovered W p (ins.map (resolveArg (valueMapping W T)))
        (outs.map (resolveArg (valueMapping W T))) := by
      rintro ⟨n, u, ⟨v, hr, hpv⟩, hun, hI, hinit, hpu⟩
      have := hcov u (Reach.step hr hpv (Or.inl hun) hI) hpu
      rw [hinit] at this
      cases this
    obtain ⟨⟨ns, ws⟩, hfind⟩ := (C18_raises_iff W (T.kind == Kind.function) T.nodes _ _ p).2.2.mpr ⟨hnU, hneed⟩
    have hinitOK : ∀ v, v ∈ ws → W.isInit v = true := fun v hv => ((C18_inits hfind v).mp hv).1
    obtain ⟨im, him⟩ := viewInits_ok (W := W) ws [] (fun v hv => H.named v (hinitOK v hv))
    have hcomplete := viewInits_complete_nil him
      (fun u u' hu hu' => H.names u u' (hinitOK u hu) (hinitOK u' hu'))
    have hnodes : ∀ n, n ∈ ns → n ∈ T.nodes := fun n hn => (C18_order hfind H.source.nodup).2.subset hn
    obtain ⟨m', hclone⟩ := C18_clone_succeeds (inits := im.map (·.2)) hfind H.source
      (fun n hn => H.cap n (hnodes n hn))
      (fun u hu hpu => hcomplete u ((C18_inits hfind u).mpr ⟨hcov u hu hpu, Or.inr hu⟩))
    refine ⟨{ inputs := ins.map (resolveArg (valueMapping W T)),
              outputs := outs.map (resolveArg (valueMapping W T)), nodes := ns, inits := im.map (·.2) }, ?_⟩
    unfold extract
    simp only []
    rw [hargs]
    simp only []
    rw [hout]
    simp only [hp]
    rw [← hout, hfind]
    simp only []
    rw [him]
    simp only []
    rw [hclone]

/-- the ownership checks of the clone's `Graph(...)` constructors pass on the view `extract` builds -/
def OwnPass (W : World) (T : Target) (ins outs : List Arg) : Prop :=
  ∀ view, extract W T ins outs = .ok view →
    ∃ s, cloneGO {} (.mk 0 view.inputs view.inits view.outputs (view.nodes.map W.nodeD)) = .ok s

/-- **C18_extract_owned**: `extractO` — the pipeline with the ownership checks that the `Graph(...)` constructor
    performs on the clones (a value listed by two graphs of the clone, e.g. the input of a nested graph given
    as boundary input of a view; an input or initializer of a nested graph that an earlier node produces) —
    against `extract`, the pipeline every other theorem is about: whenever `extractO` returns, `extract` returns
    the same view (so every `C18_*` theorem about a returned view holds for `extractO`); `extractO` returns
    exactly when `extract` returns and the ownership checks pass; and when `extractO` raises anything but the
    ownership error, `extract` raises the same error. -/
theorem C18_extract_owned (W : World) (T : Target) (ins outs : List Arg) :
    (∀ view, extractO W T ins outs = .ok view ↔ (extract W T ins outs = .ok view ∧ OwnPass W T ins outs)) ∧
    (∀ e, extractO W T ins outs = .error e → e = .cloneOwned ∨ extract W T ins outs = .error e) := by
  obtain ⟨h1, h2⟩ := extractO_rel W T ins outs
  refine ⟨fun view => (h1 view).trans ⟨fun ⟨hv, hs⟩ => ⟨hv, fun v' hv' => ?_⟩, fun ⟨hv, hown⟩ => ⟨hv, hown view hv⟩⟩, h2⟩
  rw [hv] at hv'
  cases hv'
  exact hs

theorem neededIn_iff_B {W : World} {fn : Bool} {g I O : List VId} {p : GId} :
    neededInB W fn g I O p = true ↔ ∀ n, NeedN W p I O n → n ∈ g := by
  unfold neededInB
  rw [List.all_eq_true]
  constructor
  · intro h n hn
    simpa using h n ((walkFinal_nodes W fn I O p n).mpr hn)
  · intro h n hn
    simpa using h n ((walkFinal_nodes W fn I O p n).mp hn)

theorem regionHyp_of_B {W : World} {T : Target} {p : GId} {I O : List VId}
    (h : regionHypB W T p I O = true) : RegionHyp W T p I O := by
  unfold regionHypB at h
  simp only [Bool.and_eq_true] at h
  obtain ⟨⟨⟨⟨h1, h2⟩, h3⟩, h4⟩, h5⟩ := h
  refine ⟨(sourceOK_of_B h1).1, cover_of_B h2, ?_, ?_, initNames_of_B h5⟩
  · intro u hu n hn
    exact scope_of_B h3 u hu n ((walkFinal_nodes W _ I O p n).mpr hn)
  · intro u hu hn
    simpa [hn] using forall_isInit h4 u hu

/-- **C18_own_pass**: the ownership checks of the clone's `Graph(...)` constructors pass whenever no value is
    listed (as input, initializer or output) by two graphs of the view's tree and no graph input / initializer
    of the tree is a node output of the tree (`ownStaticB`, decidable, evaluated on every generated cut).  For
    the graphs nested in the kept nodes both facts follow from C01 for every source built through the public
    API (a value is owned by at most one graph; inputs and initializers have no producer), so what the
    hypothesis asks of a call is: no boundary value is listed by a graph nested in a kept node, and no boundary
    input is an output of a kept node (the D153 shape passes too, but is outside this sufficient condition). -/
theorem C18_own_pass {W : World} {T : Target} {ins outs : List Arg}
    (hst : ∀ view, extract W T ins outs = .ok view →
      ownStaticB (.mk 0 view.inputs view.inits view.outputs (view.nodes.map W.nodeD)) = true) :
    OwnPass W T ins outs := by
  intro view hv
  obtain ⟨_, _, m', _, _, _, hclone, _⟩ := extract_ok hv
  exact cloneGO_of_static (hst view hv) hclone

/-- **C18_extractO_succeeds_iff**: the outcome of the pipeline AS THE CODE RUNS IT (`extractO`, with the ownership
    checks of the clone): under `RegionHyp` and `ownStaticB` it returns a graph exactly when the arguments pass
    the checks, the first output has an owning graph, every required value is covered and every required node
    is listed — `C18_extract_succeeds_iff` + `C18_extract_owned` + `C18_own_pass`. -/
theorem C18_extractO_succeeds_iff (W : World) (T : Target) (ins outs : List Arg)
    (hyp : ∀ o rest p, outs.map (resolveArg (valueMapping W T)) = o :: rest → W.graphOf o = some p →
      RegionHyp W T p (ins.map (resolveArg (valueMapping W T))) (outs.map (resolveArg (valueMapping W T))))
    (hst : ∀ view, extract W T ins outs = .ok view →
      ownStaticB (.mk 0 view.inputs view.inits view.outputs (view.nodes.map W.nodeD)) = true) :
    (∃ view, extractO W T ins outs = .ok view) ↔
      checkArgs W T (valueMapping W T) (ins ++ outs) = .ok () ∧
      ∃ o rest p, outs.map (resolveArg (valueMapping W T)) = o :: rest ∧ W.graphOf o = some p ∧
        Covered W p (ins.map (resolveArg (valueMapping W T))) (outs.map (resolveArg (valueMapping W T))) ∧
        ∀ n, NeedN W p (ins.map (resolveArg (valueMapping W T))) (outs.map (resolveArg (valueMapping W T))) n →
          n ∈ T.nodes := by
  rw [← C18_extract_succeeds_iff W T ins outs hyp]
  constructor
  · rintro ⟨view, h⟩
    exact ⟨view, (((C18_extract_owned W T ins outs).1 view).mp h).1⟩
  · rintro ⟨view, h⟩
    exact ⟨view, ((C18_extract_owned W T ins outs).1 view).mpr ⟨h, C18_own_pass hst⟩⟩

/-- **C18_extract_D460**: `extractOF` — the pipeline with the argument check of the proposed fix D460 (a
    boundary INPUT given by object is also accepted when a node of the graph-like object reads it directly) —
    agrees with the pipeline as it is on every call that passes the current argument checks: the fix only turns
    `notOwned` refusals into the result of the rest of the pipeline (`extractRest`), so every theorem about
    `extractO` / `extract` holds for the fixed code on those calls, and on a call the fix newly accepts the
    result is what `extractRest` computes — the same region search, view and clone. -/
theorem C18_extract_D460 (W : World) (T : Target) (ins outs : List Arg) :
    (checkArgs W T (valueMapping W T) (ins ++ outs) = .ok () →
      extractOF W T ins outs = extractO W T ins outs) ∧
    (∀ view, extractOF W T ins outs = .ok view → extractRest W T ins outs = .ok view) := by
  constructor
  · intro h
    obtain ⟨h1, h2⟩ := checkArgs_append_ok h
    rw [extractO_eq_rest, h]
    unfold extractOF
    simp only [checkArgsF_of_checkArgs true h1, checkArgsF_of_checkArgs false h2]
  · intro view h
    unfold extractOF at h
    simp only [] at h
    split at h
    · cases h
    · split at h
      · cases h
      · exact h

/-! ### examples -/

def exT : Target := { kind := .graph, gid := some 0, inputs := [0], inits := [("w", 1)], nodes := [0, 1] }

/-- hypothesis of C18_raises_of_uncovered: a successful `extract` (cut at `a`, `x` given by name) -/
example : extract exW exT [.obj 2, .name "x"] [.name "b"]
    = .ok { inputs := [2, 0], outputs := [3], nodes := [1], inits := [] } := by decide +kernel

/-- the clone stage is what rejects a captured value that the boundary does not cover -/
example : extract exW exT [.obj 2] [.name "b"] = .error .cloneOuter := by decide +kernel

example : extract exW exT [] [.name "x"] = .error .cloneOutput := by decide +kernel

example : extract exW exT [] [.name "b"] = .error .unbounded := by decide +kernel

example : extract exW exT [.obj 4] [.name "b"] = .error .notOwned := by decide +kernel

example : extract exW exT [] [.name "zz"] = .error .nameNotFound := by decide +kernel

example : extract exW exT [.name "x"] [] = .error .noOutputs := by decide +kernel

/-- the cut at `a` with `x` given by name: what `extract` returns, the graph of its output, nothing rewired -/
theorem exCut_ok : extract exW exT [.obj 2, .name "x"] [.name "b"]
    = .ok { inputs := [2, 0], outputs := [3], nodes := [1], inits := [] } := by decide +kernel

theorem exCut_graph {o : VId} {rest : List VId} {p : GId} (ho : [3] = o :: rest) (hp : exW.graphOf o = some p) :
    o = 3 ∧ p = 0 := by
  obtain ⟨rfl, _⟩ := List.cons.inj ho
  have : exW.graphOf 3 = some 0 := by decide
  rw [this] at hp
  exact ⟨rfl, (Option.some.inj hp).symm⟩

/-- C18_extract_unbounded_iff: nothing given as boundary -/
example : Uncovered exW 0 [] [3] :=
  (((C18_extract_unbounded_iff exW exT [] [.name "b"]).mp (by decide +kernel)).2).elim
    (fun o h => by
      obtain ⟨rest, p, ho, hp, hu⟩ := h
      have h2 : List.map (resolveArg (valueMapping exW exT)) [Arg.name "b"] = [3] := by decide
      rw [h2] at ho hu
      obtain ⟨rfl, rfl⟩ := exCut_graph ho hp
      exact hu)

/-- C18_by_name_resolves, uniqueness clause: names are unique on the example and `"a"` resolves to value 2 -/
example : resolveArg (valueMapping exW exT) (.name "a") = 2 :=
  (C18_by_name_resolves exW exT "a").2.2
    (fun k v v' h h' => namesUnique_of_B (W := exW) (T := exT) (by decide) k v v'
      (mem_nameCandidates.mpr h) (mem_nameCandidates.mpr h'))
    2 (mem_nameCandidates.mp (by decide))

/-- duplicate names: an initializer key wins over a graph input and a node output of the same name -/
def exDup : World :=
  { vals := [ { name := "a", graph := some 0 }, { name := "a", graph := some 0, isInit := true },
              { name := "a", producer := some 0, graph := some 0 } ],
    nodes := [ .mk [some 0, some 1] [2] [] ] }

def exDupT : Target := { kind := .graph, gid := some 0, inputs := [0], inits := [("a", 1)], nodes := [0] }

example : namesUniqueB exDup exDupT = false := by decide

example : resolveArg (valueMapping exDup exDupT) (.name "a") = 1 := by decide

/-- without the initializer the graph input wins over the node output -/
example : resolveArg (valueMapping exDup { exDupT with inits := [] }) (.name "a") = 0 := by decide

/-- C18_by_name_missing: both sides of both equivalences are realised -/
example : extract exW exT [.name "x"] [.name "zz", .obj 4] = .error .nameNotFound := by decide +kernel

example : extract exW exT [.name "x"] [.obj 4, .name "zz"] = .error .notOwned := by decide +kernel

example : ∃ pre s post, [Arg.name "x"] ++ [Arg.name "zz", Arg.obj 4] = pre ++ Arg.name s :: post ∧
    (∀ b, b ∈ pre → checkArg exW exT (valueMapping exW exT) b = .ok ()) ∧ ¬ ∃ v, NamedBy exW exT s v :=
  (C18_by_name_missing exW exT [.name "x"] [.name "zz", .obj 4]).1.mp (by decide +kernel)

/-- hypothesis of the `_source` theorems for each kind of source -/
example : extract exW (Source.view [0] [("w", 1)] [1, 0, 1]).target [.name "x"] [.name "b"]
    = .ok { inputs := [0], outputs := [3], nodes := [0, 1], inits := [1] } := by decide +kernel

example : extract exW (Source.function 0 [0] [("w", 1)] [0, 1]).target [.obj 0] [.obj 3]
    = .ok { inputs := [0], outputs := [3], nodes := [0, 1], inits := [1] } := by decide +kernel

example : extract exW (Source.graph 0 [0] [("w", 1)] [0, 1]).target [.obj 0] [.obj 3]
    = .ok { inputs := [0], outputs := [3], nodes := [0, 1], inits := [1] } := by decide +kernel

/-- a view in consumer-first order passes the region search but not the clone -/
example : extract exW (Source.view [0] [("w", 1)] [1, 0]).target [.name "x"] [.name "b"]
    = .error .cloneOuter := by decide +kernel

/-- the hypotheses of `C18_extract_succeeds_iff` hold on the example world, and both outcomes occur: with the
    boundary input `x` the region is covered and `extract` returns, without it `x` is uncovered and it raises -/
example : regionHypB exW exT 0 [0] [3] = true ∧ coveredB exW false [0] [3] 0 = true ∧
    neededInB exW false exT.nodes [0] [3] 0 = true ∧
    extract exW exT [.obj 0] [.obj 3] = .ok { inputs := [0], outputs := [3], nodes := [0, 1], inits := [1] } := by
  decide +kernel

example : regionHypB exW exT 0 [] [3] = true ∧ coveredB exW false [] [3] 0 = false ∧
    extract exW exT [] [.obj 3] = .error .unbounded := by decide +kernel

example : RegionHyp exW exT 0 [0] [3] := regionHyp_of_B (by decide +kernel)

example : ∃ view, extract exW exT [.obj 0] [.obj 3] = .ok view :=
  (C18_extract_succeeds_iff exW exT [.obj 0] [.obj 3] (by
    intro o rest p ho hp
    obtain ⟨rfl, rfl⟩ := exCut_graph (rest := rest) ho hp
    exact regionHyp_of_B (by decide +kernel))).mpr
    ⟨by decide +kernel, 3, [], 0, rfl, by decide, covered_iff_B.mp (by decide +kernel : coveredB exW false _ _ 0 = true),
      neededIn_iff_B.mp (by decide +kernel : neededInB exW false _ _ _ 0 = true)⟩

/-- a view whose boundary contains the INPUT `i` of a graph nested in the kept node: the pipeline without the
    constructor checks returns, the real pipeline raises the ownership error (the nested clone graph already
    owns the clone of `i` when the outer `Graph(...)` is built); a nested NODE OUTPUT given as input is
    harmless (the node makes a new clone); the nested input given as OUTPUT raises too -/
def exOwnW : World :=
  { vals := [ { name := "x", graph := some 0 }, { name := "i", graph := some 1 },
              { name := "y", producer := some 1, graph := some 1 },
              { name := "z", producer := some 0, graph := some 0 } ],
    nodes := [ .mk [some 0] [3] [.mk 1 [1] [] [2] [.mk [some 0, some 1] [2] []]],
               .mk [some 0, some 1] [2] [] ] }

def exOwnT : Target := { kind := .view, gid := none, inputs := [0], inits := [], nodes := [0] }

example : extract exOwnW exOwnT [.obj 0, .obj 1] [.obj 3] =
      .ok { inputs := [0, 1], outputs := [3], nodes := [0], inits := [] } ∧
    extractO exOwnW exOwnT [.obj 0, .obj 1] [.obj 3] = .error .cloneOwned ∧
    extractO exOwnW exOwnT [.obj 0, .obj 2] [.obj 3] =
      .ok { inputs := [0, 2], outputs := [3], nodes := [0], inits := [] } ∧
    extractO exOwnW exOwnT [.obj 0] [.obj 3, .obj 1] = .error .cloneOwned ∧
    extractO exOwnW exOwnT [.obj 0] [.obj 3] = .ok { inputs := [0], outputs := [3], nodes := [0], inits := [] } := by
  decide +kernel

example : ¬ OwnPass exOwnW exOwnT [.obj 0, .obj 1] [.obj 3] := by
  intro h
  have := ((C18_extract_owned exOwnW exOwnT [.obj 0, .obj 1] [.obj 3]).1
    { inputs := [0, 1], outputs := [3], nodes := [0], inits := [] }).mpr ⟨by decide +kernel, h⟩
  rw [show extractO exOwnW exOwnT [.obj 0, .obj 1] [.obj 3] = .error .cloneOwned from by decide +kernel] at this
  cases this

/-- non-vacuity: the static hypothesis holds on the example view and fails on the view whose boundary contains
    the input of a nested graph -/
example : ownStaticB (.mk 0 [0] [1] [3] ([0, 1].map exW.nodeD)) = true := by decide +kernel

example : ownStaticB (.mk 0 [0, 1] [] [3] ([0].map exOwnW.nodeD)) = false := by decide +kernel

/-- non-vacuity (the failing input of D460 in the model): graph 1 nested in node 0 reads the outer value `x`;
    by object the repository's check refuses it, the fixed check accepts it and returns the region -/
def d460W : World :=
  { vals := [ { name := "x", graph := some 0 }, { name := "i", graph := some 1 },
              { name := "y", producer := some 1, graph := some 1 },
              { name := "z", producer := some 0, graph := some 0 } ],
    nodes := [ .mk [some 0] [3] [.mk 1 [1] [] [2] [.mk [some 0, some 1] [2] []]],
               .mk [some 0, some 1] [2] [] ] }

def d460T : Target := { kind := .graph, gid := some 1, inputs := [1], inits := [], nodes := [1] }

example : extractO d460W d460T [.obj 0, .obj 1] [.obj 2] = .error .notOwned ∧
    extractO d460W d460T [.name "x", .name "i"] [.name "y"] =
      .ok { inputs := [0, 1], outputs := [2], nodes := [1], inits := [] } ∧
    extractOF d460W d460T [.obj 0, .obj 1] [.obj 2] =
      .ok { inputs := [0, 1], outputs := [2], nodes := [1], inits := [] } ∧
    extractOF d460W d460T [.obj 1] [.obj 2, .obj 0] = .error .notOwned := by decide +kernel

/-! ## evaluation: the extracted graph computes the source's values -/

/-- **C18_eval_strong**: for every type of values and every semantics `S` (an arbitrary function per node of the
    denotations of its graph attributes and of its input values, plus the constants of the initializers; a
    nested graph is evaluated under the environment of its enclosing scopes), every initial environment `env0`
    of the source in which initializers hold their constants, and every environment `env1` of the extracted
    graph that holds the source's values at the boundary inputs and the constants at the required values that
    no node produces (`hW`; anything elsewhere): running the extracted node list — never overwriting the
    rewired boundary inputs `fz ⊆ I` — gives at every requested output the value the source computes there.
    Hypotheses: the source list is single-assignment, topologically sorted, with consistent `producer()`
    pointers (`SourceOK`; decidable: `sourceOKB`; order is necessary: `C18_eval_needs_sorted`); what the
    lexical scoping of the semantics lets a node read is covered by what the code collects (`CapturesCover`;
    follows from closed, well-scoped bodies with consistent back pointers: `capturesCover_of_bodiesOK`,
    decidable: `bodiesOKB`; necessary: `C18_eval_needs_closed`) — a capture missed by the code falsifies it;
    and every required value without a producer is an initializer (`hcov`, discharged from the success of
    validation + clone by `C18_cover_of_clone`, composed in `C18_extract_eval_strong`). -/
theorem C18_eval_strong {α : Type} {W : World} {fn : Bool} {g I O : List VId} {p : GId} {ns : List NId}
    {ws : List VId} (S : Sem α) (env0 env1 : Env α) (fz : List VId)
    (h : findSubgraph W fn g I O p = .ok (ns, ws))
    (hS : SourceOK W p g)
    (hcap : ∀ n, n ∈ g → CapturesCover W p n)
    (hcov : ∀ u, Reach W p I O u → W.prod u = none → W.isInit u = true)
    (hK : ∀ u, W.isInit u = true → env0 u = S.const u)
    (hfz : ∀ u, u ∈ fz → u ∈ I)
    (hI : ∀ u, u ∈ I → env1 u = evalTop S W g env0 u)
    (hW : ∀ u, Reach W p I O u → W.prod u = none → env1 u = S.const u) :
    ∀ o, o ∈ O → evalRegion S W fz ns env1 o = evalTop S W g env0 o := by
  intro o ho
  rw [evalRegion_eq, evalTop_eq]
  have hI' : ∀ u, u ∈ I → env1 u = evalNodes W (S.interp W) g env0 u := by
    intro u hu; rw [← evalTop_eq]; exact hI u hu
  have hord := (C18_order h hS.nodup).1
  have hkeep : ∀ n, n ∈ g → (decide (n ∈ ns) = true ↔ NeedN W p I O n) := by
    intro n _
    rw [decide_eq_true_eq]
    exact C18_nodes_exact h n
  have hgood : o ∈ I ∨ Reach W p I O o := reach_of_out ho
  rw [hord]
  refine evalNodesFz_filter_agree (fun n => decide (n ∈ ns)) fz env0 env1
    (fun n hn => interp_localAt S (hcap n hn)) hS hkeep hfz hI' g [] rfl ?_ o hgood
  intro u hu hnp
  simp only [List.filter_nil, evalNodesFz, List.foldl_nil]
  rcases hu with hu | hu
  · exact hI' u hu
  · cases hp : W.prod u with
    | none =>
      have hinit : W.isInit u = true := hcov u hu hp
      rw [hW u hu hp]
      rw [evalNodes_not_produced _ _ (notProduced_of_prod_none hS hp)]
      exact (hK u hinit).symm
    | some m =>
      exfalso
      have hm : m ∈ ns := (C18_nodes_exact h m).mpr ⟨u, hu, hp⟩
      have hmg : m ∈ g := (C18_order h hS.nodup).2.subset hm
      exact hnp m hmg (hS.outProd u m hp)

/-- **C18_eval**: `C18_eval_strong` with a hypothesis the proof does not use (`hInit`: the source produces no
    initializer; it follows from the producer pointers, `notProduced_of_prod_none`) and with `hW` asked at every
    initializer handed to the result (`ws`) instead of only at the required values without producer (the two agree
    by `C18_inits`). -/
theorem C18_eval {α : Type} {W : World} {fn : Bool} {g I O : List VId} {p : GId} {ns : List NId}
    {ws : List VId} (S : Sem α) (env0 env1 : Env α) (fz : List VId)
    (h : findSubgraph W fn g I O p = .ok (ns, ws))
    (hS : SourceOK W p g) (hInit : ∀ u, W.isInit u = true → NotProducedIn W g u)
    (hcap : ∀ n, n ∈ g → CapturesCover W p n)
    (hcov : ∀ u, Reach W p I O u → W.prod u = none → W.isInit u = true)
    (hK : ∀ u, W.isInit u = true → env0 u = S.const u)
    (hfz : ∀ u, u ∈ fz → u ∈ I)
    (hI : ∀ u, u ∈ I → env1 u = evalTop S W g env0 u)
    (hW : ∀ u, u ∈ ws → env1 u = S.const u) :
    ∀ o, o ∈ O → evalRegion S W fz ns env1 o = evalTop S W g env0 o :=
  C18_eval_strong S env0 env1 fz h hS hcap hcov hK hfz hI
    (fun u hu hp => hW u ((C18_inits h u).mpr ⟨hcov u hu hp, Or.inr hu⟩))

/-- **C18_extract_eval_strong** (composition): whenever the whole `extract` pipeline returns — argument
    checks, region search, frontier validation, view construction, clone — the extracted graph computes the
    source's values at the requested outputs, for every semantics `S` (nested graphs evaluated under the
    environment of their enclosing scopes) and every environment of the extracted graph that holds the source's
    values at its inputs and the constants at its initializers.  The extracted graph is run with its rewired
    boundary inputs (`rewired`, D153) never overwritten.  `p` is the graph of the first requested output.
    Hypotheses (decidable, reported per generated case by the driver): `SourceOK` (sorted single-assignment
    source with consistent producer pointers, `sourceOKB`; all but order follow from C01, `C18_source_of_C01`;
    order is necessary, `C18_eval_needs_sorted`), `CapturesCover` (`bodiesOKB`; necessary:
    `C18_eval_needs_closed`) and no required value is defined inside a graph nested in a kept node (`hscope`;
    necessary: `C18_extract_eval_needs_scope`).  Distinct initializer names are not needed: if two required
    initializers shared a name the `GraphView` would keep one of them, and the clone of the view — which
    succeeded — would have rejected the other; so every required initializer is an initializer of the result. -/
theorem C18_extract_eval_strong {α : Type} {W : World} {T : Target} {ins outs : List Arg} {view : View}
    (S : Sem α) (env0 env1 : Env α) (h : extract W T ins outs = .ok view) :
    ∃ p, (∃ o rest, view.outputs = o :: rest ∧ W.graphOf o = some p) ∧
      (SourceOK W p T.nodes →
       (∀ n, n ∈ T.nodes → CapturesCover W p n) →
       (∀ u, Reach W p view.inputs view.outputs u → ∀ n, n ∈ view.nodes →
          ∀ b, b ∈ (W.nodeD n).bodies → ¬ DefInG b u) →
       (∀ u, W.isInit u = true → env0 u = S.const u) →
       (∀ u, u ∈ view.inputs → env1 u = evalTop S W T.nodes env0 u) →
       (∀ u, u ∈ view.inits → env1 u = S.const u) →
       ∀ o, o ∈ view.outputs →
         evalRegion S W (rewired W view) view.nodes env1 o = evalTop S W T.nodes env0 o) := by
  obtain ⟨p, inited, m', hp, hfind, hsub, hclone, ⟨im, him, hinits⟩, _⟩ := extract_ok h
  refine ⟨p, hp, ?_⟩
  intro hS hcap hscope hK hI hW
  have hinitOK : ∀ v, v ∈ inited → W.isInit v = true := fun v hv => ((C18_inits hfind v).mp hv).1
  have hnodes : ∀ n, n ∈ view.nodes → n ∈ T.nodes := fun n hn => (C18_order hfind hS.nodup).2.subset hn
  have hprod := fun n hn => hS.prodOut n (hnodes n hn)
  have hcov := C18_cover_of_clone hfind (fun v hv => hinitOK v (hsub v hv)) hclone hprod hscope
  have hin := reach_unproduced_in_inits hfind hclone hprod hscope
  refine C18_eval_strong S env0 env1 (rewired W view) hfind hS hcap hcov hK ?_ hI ?_
  · intro u hu; exact (List.mem_filter.mp hu).1
  · intro u hu hpu
    exact hW u (hin u hu hpu)

/-- **C18_extract_eval**: `C18_extract_eval_strong` with two hypotheses the proof does not use: "the source
    produces no initializer" (`hInit`) and "initializer names are pairwise distinct" (`hnames`). -/
theorem C18_extract_eval {α : Type} {W : World} {T : Target} {ins outs : List Arg} {view : View}
    (S : Sem α) (env0 env1 : Env α) (h : extract W T ins outs = .ok view) :
    ∃ p, (∃ o rest, view.outputs = o :: rest ∧ W.graphOf o = some p) ∧
      (SourceOK W p T.nodes → (∀ u, W.isInit u = true → NotProducedIn W T.nodes u) →
       (∀ n, n ∈ T.nodes → CapturesCover W p n) →
       (∀ u, Reach W p view.inputs view.outputs u → ∀ n, n ∈ view.nodes →
          ∀ b, b ∈ (W.nodeD n).bodies → ¬ DefInG b u) →
       (∀ u u', W.isInit u = true → W.isInit u' = true → (W.val u).name = (W.val u').name → u = u') →
       (∀ u, W.isInit u = true → env0 u = S.const u) →
       (∀ u, u ∈ view.inputs → env1 u = evalTop S W T.nodes env0 u) →
       (∀ u, u ∈ view.inits → env1 u = S.const u) →
       ∀ o, o ∈ view.outputs →
         evalRegion S W (rewired W view) view.nodes env1 o = evalTop S W T.nodes env0 o) := by
  obtain ⟨p, hp, H⟩ := C18_extract_eval_strong S env0 env1 h
  exact ⟨p, hp, fun hS _ hcap hscope _ hK hI hW => H hS hcap hscope hK hI hW⟩

/-! ### examples -/

/-- the nested graph of node 1 -/
def exBody : GraphT := .mk 1 [] [] [4] [.mk [some 0] [4] []]

/-- the decidable hypothesis checkers hold on the example (so `BodiesOK`, `SourceOK`, `BackPtrOK` are
    satisfiable together) -/
example : bodiesOKB exW 0 0 = true ∧ bodiesOKB exW 0 1 = true ∧ bodiesOKB exW 0 2 = true := by decide

example : sourceOKB exW 0 [0, 1] = true := by decide

theorem exBody_ptr : BackPtrOK exW exBody :=
  backPtrB_sound (by decide)

theorem exBody_notNested : ¬ NestedIn exBody 0 := fun h => by
  have := (mem_gidsG exBody 0).mpr h
  revert this; decide

/-- C18_external_free: `x` (0) is a free variable of the nested graph, and that is what the code collects -/
example : FreeOf exBody 0 :=
  (C18_external_free exW 0 exBody 0 exBody_ptr exBody_notNested).mp (by decide)

theorem exW_ptrs : ∀ n, BodiesPtrOK exW 0 n := by
  intro n
  match n with
  | 0 => exact (bodiesOK_of_B (by decide)).ptr
  | 1 => exact (bodiesOK_of_B (by decide)).ptr
  | 2 => exact (bodiesOK_of_B (by decide)).ptr
  | n + 3 =>
    intro b hb
    have : exW.nodeD (n + 3) = .mk [] [] [] := by
      simp [World.nodeD, exW]
    rw [this] at hb
    simp at hb

/-- C18_nodes_exact_free: node 0 is required for `b` from `x` by the structural definition -/
example : NeedNS exW [0] [3] 0 :=
  (C18_nodes_exact_free (W := exW) (fn := false) (g := [0, 1]) (I := [0]) (O := [3]) (p := 0)
    (ns := [0, 1]) (ws := [1]) (by decide +kernel) exW_ptrs 0).mp (by decide)

/-- a semantics that really uses its arguments and the denotations of its graph attributes -/
def exS : Sem Nat :=
  { op := fun _ bodies args _ => (args.map (fun a => a.getD 0)).sum + ((bodies.map (fun f => (f []).sum)).sum),
    const := fun _ => 7 }

theorem exW_sourceOK : SourceOK exW 0 [0, 1] ∧ (∀ u, exW.isInit u = true → NotProducedIn exW [0, 1] u) :=
  sourceOK_of_B (by decide)

theorem exW_cover : ∀ n, n ∈ [0, 1] → CapturesCover exW 0 n := cover_of_B (by decide)

theorem exW_init_eq : ∀ u, exW.isInit u = true → u = 1 :=
  fun u hu => of_decide_eq_true (forall_isInit (q := fun u => decide (u = 1)) (by decide) u hu)

/-- C18_eval with all its hypotheses met at once (boundary input `x`, output `b`); the source environment
    holds the constant at the initializer -/
example (env0 : Env Nat) (h0 : env0 1 = 7) : ∀ o, o ∈ [3] →
    evalRegion exS exW [] [0, 1] (evalTop exS exW [0, 1] env0) o = evalTop exS exW [0, 1] env0 o :=
  C18_eval (W := exW) (fn := false) (g := [0, 1]) (I := [0]) (O := [3]) (p := 0) (ns := [0, 1]) (ws := [1])
    exS env0 _ [] (by decide +kernel) exW_sourceOK.1 exW_sourceOK.2 exW_cover
    ((covered_iff_B (fn := false)).mp (by decide +kernel))
    (by intro u hu; rw [exW_init_eq u hu]; exact h0)
    (by intro u hu; cases hu)
    (fun _ _ => rfl)
    (by
      intro u hu
      have : u = 1 := by simpa using hu
      subst this
      have hnp : NotProducedIn exW [0, 1] 1 := exW_sourceOK.2 1 (by decide)
      rw [evalTop_eq, evalNodes_not_produced _ _ hnp]
      exact h0)

/-- C18_cover_of_clone with all its hypotheses met (the scoping hypothesis included) -/
example : ∀ u, Reach exW 0 [2, 0] [3] u → exW.prod u = none → exW.isInit u = true :=
  C18_cover_of_clone (W := exW) (fn := false) (g := [0, 1]) (ns := [1]) (ws := []) (inits := [])
    (m' := [2, 0, 4, 3]) (by decide +kernel) (by intro v hv; cases hv) (by decide)
    (by
      intro n hn o ho
      have : n = 1 := by simpa using hn
      subst this
      have : o = 3 := by simpa [World.nodeD, exW] using ho
      subst this; decide)
    (scope_of_B (fn := false) (by decide +kernel))

theorem exCut_rewired : rewired exW { inputs := [2, 0], outputs := [3], nodes := [1], inits := [] } = [] := by
  decide

/-- C18_extract_eval with all its hypotheses met: region cut at `a`, `x` given by name, output `b` -/
example (env0 : Env Nat) (h0 : env0 1 = 7) : ∀ o, o ∈ [3] →
    evalRegion exS exW [] [1] (evalTop exS exW [0, 1] env0) o = evalTop exS exW [0, 1] env0 o := by
  obtain ⟨p, ⟨o, rest, ho, hp⟩, himp⟩ := C18_extract_eval exS env0 (evalTop exS exW [0, 1] env0) exCut_ok
  obtain ⟨_, rfl⟩ := exCut_graph ho hp
  rw [exCut_rewired] at himp
  exact himp exW_sourceOK.1 exW_sourceOK.2 exW_cover (scope_of_B (fn := false) (by decide +kernel))
    (initNames_of_B (by decide)) (by intro u hu; rw [exW_init_eq u hu]; exact h0) (fun _ _ => rfl)
    (by intro u hu; cases hu)

/-- C18_extract_eval_strong with all its hypotheses met (same cut as for C18_extract_eval) -/
example (env0 : Env Nat) (h0 : env0 1 = 7) : ∀ o, o ∈ [3] →
    evalRegion exS exW [] [1] (evalTop exS exW [0, 1] env0) o = evalTop exS exW [0, 1] env0 o := by
  obtain ⟨p, ⟨o, rest, ho, hp⟩, himp⟩ := C18_extract_eval_strong exS env0 (evalTop exS exW [0, 1] env0) exCut_ok
  obtain ⟨_, rfl⟩ := exCut_graph ho hp
  rw [exCut_rewired] at himp
  exact himp exW_sourceOK.1 exW_cover (scope_of_B (fn := false) (by decide +kernel))
    (by intro u hu; rw [exW_init_eq u hu]; exact h0) (fun _ _ => rfl)
    (by intro u hu; cases hu)

/-! ### the hypotheses are necessary: counterexamples in the model

Each theorem exhibits a concrete world in which every OTHER hypothesis of the named theorem holds, the region
search (or `extract`) returns, and the conclusion fails.  The same shapes are replayed on the real code on
every run (`corpus/C18/necessity.jsonl`, stream `necessity`), where they must raise or be reported. -/

/-- unsorted source: node 0 computes `b` from `a`, node 1 computes `a` from `x` -/
def necW1 : World :=
  { vals := [ { name := "x", graph := some 0 }, { name := "a", producer := some 1, graph := some 0 },
              { name := "b", producer := some 0, graph := some 0 } ],
    nodes := [ .mk [some 1] [2] [], .mk [some 0] [1] [] ] }

/-- **C18_eval_needs_sorted**: topological order of the source (the `sorted` clause of `SourceOK`) is necessary
    for `C18_eval` / `C18_eval_strong`.  In `necW1` every other hypothesis holds (duplicate-free list,
    consistent producer pointers, covered captures, no uncovered value, environments as required), the region
    search returns both nodes in their original (unsorted) order, and the extracted list computes a value that
    depends on what its environment holds at `a` — not the source's value.  (On the real code the clone stage
    raises for such a region: stream `necessity`.) -/
theorem C18_eval_needs_sorted :
    ∃ (W : World) (g I O : List VId) (p : GId) (ns : List NId) (env0 env1 : Env Nat),
      findSubgraph W false g I O p = .ok (ns, []) ∧
      g.Nodup ∧ (∀ n, n ∈ g → ∀ o, o ∈ (W.nodeD n).outputs → W.prod o = some n) ∧
      (∀ v n, W.prod v = some n → v ∈ (W.nodeD n).outputs) ∧
      (∀ n, n ∈ g → CapturesCover W p n) ∧
      (∀ u, Reach W p I O u → W.prod u = none → W.isInit u = true) ∧
      (∀ u, W.isInit u = true → env0 u = exS.const u) ∧
      (∀ u, u ∈ I → env1 u = evalTop exS W g env0 u) ∧
      ¬ TopoSorted W p g ∧
      ¬ (∀ o, o ∈ O → evalRegion exS W [] ns env1 o = evalTop exS W g env0 o) := by
  refine ⟨necW1, [0, 1], [0], [2], 0, [0, 1], fun _ => 0, fun u => if u = 1 then 5 else 0,
    by decide +kernel, by decide, (ptrOK_of_B (g := [0, 1]) (by decide)).1, (ptrOK_of_B (g := [0, 1]) (by decide)).2, ?_, ?_, ?_, ?_, ?_, ?_⟩
  · exact cover_of_B (by decide)
  · exact (covered_iff_B (fn := false)).mp (by decide +kernel)
  · exact fun u hu => nomatch forall_isInit (W := necW1) (q := fun _ => false) (by decide) u hu
  · intro u hu
    have : u = 0 := by simpa using hu
    subst this
    decide
  · intro h
    exact h.1 1 (Or.inl (by decide)) 1 (by decide) (by decide)
  · intro h
    have := h 2 (by decide)
    revert this
    decide

/-- a nested graph whose output is a value of the enclosing graph, returned directly: node 0 computes `c`
    from `x`; node 1 holds a graph (id 1) without nodes whose output is `c` -/
def necW2 : World :=
  { vals := [ { name := "x", graph := some 0 }, { name := "c", producer := some 0, graph := some 0 },
              { name := "y", producer := some 1, graph := some 0 } ],
    nodes := [ .mk [some 0] [1] [], .mk [] [2] [.mk 1 [] [] [1] []] ] }

/-- **C18_eval_needs_closed**: `CapturesCover` is necessary for `C18_eval` / `C18_eval_strong`.  The code
    collects the captured values of a nested graph from the INPUTS of its nodes only; a nested graph that
    returns an outer value directly reads that value without any node reading it.  In `necW2` the source is
    sorted, single-assignment, with consistent pointers, the nested graph is well scoped with consistent back
    pointers (what fails of `bodiesOKB` is its `closedG` clause: the output `c` is bound nowhere inside; the
    statement does not record this), the region search returns node 1 alone, and the extracted list computes `y` from whatever its
    environment holds at `c`.  (On the real code the clone stage raises: stream `necessity`.  Such a source is
    not valid ONNX — onnx.checker: "Graph output is not an output of any node in graph" — so that
    `analyze_implicit_usage` does not list `c` for the nested graph is recorded, not reported as a defect.) -/
theorem C18_eval_needs_closed :
    ∃ (W : World) (g I O : List VId) (p : GId) (ns : List NId) (env0 env1 : Env Nat),
      findSubgraph W false g I O p = .ok (ns, []) ∧
      SourceOK W p g ∧
      (∀ n, n ∈ g → ∀ b, b ∈ (W.nodeD n).bodies →
        wellScopedB b = true ∧ backPtrB W b = true ∧ (gidsG b).contains p = false) ∧
      (∀ u, Reach W p I O u → W.prod u = none → W.isInit u = true) ∧
      (∀ u, W.isInit u = true → env0 u = exS.const u) ∧
      (∀ u, u ∈ I → env1 u = evalTop exS W g env0 u) ∧
      ¬ (∀ n, n ∈ g → CapturesCover W p n) ∧
      ¬ (∀ o, o ∈ O → evalRegion exS W [] ns env1 o = evalTop exS W g env0 o) := by
  refine ⟨necW2, [0, 1], [0], [2], 0, [1], fun _ => 0, fun u => if u = 1 then 5 else 0,
    by decide +kernel, (sourceOK_of_B (by decide)).1, by decide, ?_, ?_, ?_, ?_, ?_⟩
  · exact (covered_iff_B (fn := false)).mp (by decide +kernel)
  · exact fun u hu => nomatch forall_isInit (W := necW2) (q := fun _ => false) (by decide) u hu
  · intro u hu
    have : u = 0 := by simpa using hu
    subst this
    decide
  · intro h
    have h1 := h 1 (by decide) 1 (by decide)
    rcases h1 with h1 | ⟨b, hb, hu, _⟩
    · revert h1; decide
    · have hb' : b = .mk 1 [] [] [1] [] := by simpa [necW2, World.nodeD] using hb
      subst hb'
      have := (mem_usedG _ 1).mpr hu
      revert this; decide
  · intro h
    have := h 2 (by decide)
    revert this
    decide

/-- a graph nested in node 1 reads the INPUT `u` of a sibling graph nested in node 0 (ill scoped) -/
def necW3 : World :=
  { vals := [ { name := "x", graph := some 0 }, { name := "u", graph := some 1 },
              { name := "y0", producer := some 0, graph := some 0 },
              { name := "t", producer := some 2, graph := some 2 },
              { name := "y1", producer := some 1, graph := some 0 } ],
    nodes := [ .mk [some 0] [2] [.mk 1 [1] [] [1] []],
               .mk [some 2] [4] [.mk 2 [] [] [3] [.mk [some 1] [3] []]],
               .mk [some 1] [3] [] ] }

def necT3 : Target := { kind := .graph, gid := some 0, inputs := [0], inits := [], nodes := [0, 1] }

/-- **C18_extract_eval_needs_scope**: the scoping hypothesis of `C18_cover_of_clone` / `C18_extract_eval`
    (`hscope`, decidable `scopeB`: no required value is defined inside a graph nested in a kept node) is
    necessary.  In `necW3` a nested graph of node 1 reads the input of a nested graph of node 0.  The whole
    `extract` pipeline returns (the clone's value map is global, so the sibling's input is already mapped),
    the source is sorted with consistent pointers, every nested graph is closed, well scoped with consistent
    back pointers — and the extracted graph computes `y1` from whatever its environment holds at `u`.  (The
    source is not valid ONNX; the real code also returns: stream `necessity`.) -/
theorem C18_extract_eval_needs_scope :
    ∃ (W : World) (T : Target) (ins outs : List Arg) (view : View) (env0 env1 : Env Nat),
      extract W T ins outs = .ok view ∧
      (∃ o rest, view.outputs = o :: rest ∧ W.graphOf o = some 0) ∧
      SourceOK W 0 T.nodes ∧
      (∀ n, n ∈ T.nodes → CapturesCover W 0 n) ∧
      (∀ u, W.isInit u = true → env0 u = exS.const u) ∧
      (∀ u, u ∈ view.inputs → env1 u = evalTop exS W T.nodes env0 u) ∧
      (∀ u, u ∈ view.inits → env1 u = exS.const u) ∧
      ¬ (∀ u, Reach W 0 view.inputs view.outputs u → ∀ n, n ∈ view.nodes →
          ∀ b, b ∈ (W.nodeD n).bodies → ¬ DefInG b u) ∧
      ¬ (∀ o, o ∈ view.outputs →
          evalRegion exS W (rewired W view) view.nodes env1 o = evalTop exS W T.nodes env0 o) := by
  refine ⟨necW3, necT3, [.obj 0], [.obj 4], { inputs := [0], outputs := [4], nodes := [0, 1], inits := [] },
    fun _ => 0, fun u => if u = 1 then 5 else 0, by decide +kernel, ⟨4, [], rfl, by decide⟩,
    (sourceOK_of_B (by decide)).1, ?_, ?_, ?_, ?_, ?_, ?_⟩
  · exact cover_of_B (g := [0, 1]) (by decide)
  · exact fun u hu => nomatch forall_isInit (W := necW3) (q := fun _ => false) (by decide) u hu
  · intro u hu
    have : u = 0 := by simpa using hu
    subst this
    decide
  · intro u hu; cases hu
  · intro h
    have hr : Reach necW3 0 [0] [4] 1 :=
      ((C18_values_exact necW3 false [0] [4] 0 1).mp (by decide +kernel)).resolve_left (by decide)
    exact h 1 hr 0 (by decide) (.mk 1 [1] [] [1] []) (by simp [necW3, World.nodeD])
      ((mem_defsG _ 1).mp (by decide))
  · intro h
    have := h 4 (by decide)
    revert this
    decide

/-! ## capture analysis: exact, for every root and every attribute kind, at any depth -/

/-- **C18_captures_keys**: `analyze_implicit_usage(g)` (with the D34 fix) has an entry exactly for the graphs
    nested in `g` at any depth (and none for `g` itself unless its id repeats below). -/
theorem C18_captures_keys (W : World) (g : GraphT) (k : GId) :
    (analyze W g).HasKey k ↔ ∃ n, n ∈ g.nodes ∧ ∃ b, b ∈ n.bodies ∧ NestedIn b k :=
  (captures_path W g k).2

/-- **C18_captures_complete**: every free variable of a nested graph is reported.  If `s` is nested in `g` (at
    any depth), `v` is a free variable of `s` in the structural sense (`FreeOf`: read by a node of `s` or of a
    graph nested in `s`; defined neither in `s` nor in a graph nested in `s`), and the back pointers are
    consistent on the subtree of `s`, then `v` is in the entry of `s`. -/
theorem C18_captures_complete (W : World) (g : GraphT) {n : NodeT} {b s : GraphT} {v : VId}
    (hn : n ∈ g.nodes) (hb : b ∈ n.bodies) (hs : SubG b s) (hptr : BackPtrOK W s) (hfree : FreeOf s v) :
    v ∈ (analyze W g).get s.gid := by
  have hno : ∀ j, NestedIn s j → W.graphOf v ≠ some j :=
    fun j hj e => hfree.2 ((hptr v).mpr ⟨j, hj, e⟩)
  rw [(captures_path W g s.gid).1 v]
  obtain ⟨path, hp⟩ := capG_lift (W := W) hs
  refine ⟨n, hn, b, hb, hp [] s.gid v ?_⟩
  exact capG_of_used W v s.gid s (path ++ []) hfree.1 hno (addsTo_self (hno s.gid NestedIn.self))

/-- **C18_captures_sound**: everything reported is a free variable.  If uses are scoped by owner and graph ids
    do not repeat along a path (`scopedGB`, decidable: every value a node reads is owned by the node's graph,
    one of its ancestors, or a graph that is not in `all`; `all` is any list of graph ids, meant: the ids of the
    graphs nested in `g`, as in `C18_captures_needs_scoped`) and the back pointers are consistent, then a value in the
    entry `k` is a free variable (`FreeOf`, structural) of a graph `s` nested in `g` whose id is `k`. -/
theorem C18_captures_sound (W : World) (g : GraphT) (all : List GId) {k : GId} {v : VId}
    (hscoped : ∀ n b, n ∈ g.nodes → b ∈ n.bodies → scopedGB W all [] b = true)
    (hptr : ∀ n b s, n ∈ g.nodes → b ∈ n.bodies → SubG b s → BackPtrOK W s)
    (h : v ∈ (analyze W g).get k) :
    ∃ n b s, n ∈ g.nodes ∧ b ∈ n.bodies ∧ SubG b s ∧ s.gid = k ∧ FreeOf s v := by
  obtain ⟨n, hn, b, hb, hcap⟩ := ((captures_path W g k).1 v).mp h
  obtain ⟨_, hrec⟩ := capG_free hcap (hscoped n b hn hb)
  rcases hrec with ⟨hk, _⟩ | ⟨s, hs, hk, hu, hno⟩
  · cases hk
  · refine ⟨n, b, s, hn, hb, hs, hk, hu, ?_⟩
    intro hd
    obtain ⟨j, hj, e⟩ := (hptr n b s hn hb hs v).mp hd
    exact hno j ((mem_gidsG s j).mpr hj) e

/-- **C18_captures_exact**: the entry of a nested graph is EXACTLY its set of free variables.  For every graph
    `s` nested at any depth (no bound) in the analysed root — reached through `GRAPH` attributes, through any
    member of a `GRAPHS` attribute, never through a reference attribute (`C18_attrs_bodies`) — the entry
    `analyze_implicit_usage(root)[s]` contains `v` iff `v` is read by a node of `s` or of a graph nested in
    `s` and defined (input, initializer, node output) neither in `s` nor in a graph nested in `s`.
    Hypotheses (decidable, evaluated on every generated case): uses are scoped by owner (`scopedGB`), the
    `.graph` back pointers are consistent on the nested graphs (`backPtrB`), and distinct nested graphs have
    distinct identities (`uniqueGidsB`).  Combines `C18_captures_complete` and `C18_captures_sound`. -/
theorem C18_captures_exact (W : World) (g : GraphT) (all : List GId)
    (hscoped : ∀ n b, n ∈ g.nodes → b ∈ n.bodies → scopedGB W all [] b = true)
    (hptr : ∀ n b s, n ∈ g.nodes → b ∈ n.bodies → SubG b s → BackPtrOK W s)
    (huniq : uniqueGidsB g.nodes = true)
    {n : NodeT} {b s : GraphT} (hn : n ∈ g.nodes) (hb : b ∈ n.bodies) (hs : SubG b s) (v : VId) :
    v ∈ (analyze W g).get s.gid ↔ FreeOf s v := by
  constructor
  · intro h
    obtain ⟨n', b', s', hn', hb', hs', hk, hfree⟩ := C18_captures_sound W g all hscoped hptr h
    have : s' = s := uniqueGids_of_B huniq hn' hb' hs' hn hb hs hk
    rw [← this]; exact hfree
  · intro h
    exact C18_captures_complete W g hn hb hs (hptr n b s hn hb hs) h

/-- **C18_captures_any_root**: `analyze_implicit_usage` only iterates its argument and never looks at
    `graph_stack[0]`, so the result is the same for every root that has these nodes: a `Graph`, the graph of a
    `Function`, or the `Function` object itself (`root` is the identity of whatever was passed).  Hence all
    `C18_captures_*` theorems hold verbatim for function bodies. -/
theorem C18_captures_any_root (W : World) (root : GId) (g : GraphT) (k : GId) :
    (∀ v, v ∈ (analyzeNodes W root g.nodes).get k ↔ v ∈ (analyze W g).get k) ∧
    ((analyzeNodes W root g.nodes).HasKey k ↔ (analyze W g).HasKey k) := by
  unfold analyzeNodes analyze
  constructor
  · intro v
    rw [mem_get, mem_get, (foldl_procN_spec W root k v g.nodes []).1,
      (foldl_procN_spec W g.gid k v g.nodes []).1]
  · rw [(foldl_procN_spec W root k 0 g.nodes []).2 k, (foldl_procN_spec W g.gid k 0 g.nodes []).2 k]

/-- **C18_attrs_bodies**: how the two traversals read graph-valued attributes (extractor 88-102, analysis
    58-79; after D152): branch by branch over `node.attributes.values()` — a reference attribute (also one
    declared GRAPH / GRAPHS) is skipped, a `GRAPH` attribute contributes its graph, a `GRAPHS` attribute each
    of its graphs in order, anything else nothing — they do exactly what the model does on the flattened list
    `attrBodies`, which is what `NodeT.bodies` holds.  So every theorem stated on `bodies` covers `GRAPHS`
    members and excludes reference attributes. -/
theorem C18_attrs_bodies (W : World) (p : GId) (stack : List GId) (u : Usages)
    (ins : List (Option VId)) (outs : List VId) (as : List AttrT) :
    procAttrs W stack u as = procN W stack u (.mk ins outs (attrBodies as)) ∧
    capturedAttrs W p as = captured W p (.mk ins outs (attrBodies as)) :=
  ⟨by rw [procAttrs_eq]; rfl, capturedAttrs_eq W p ins outs as⟩

/-! ### examples -/

/-- the nested graph 1 of node 1 captures `x` (value 0), and nothing else -/
example : (analyze exW (.mk 0 [0] [1] [3] exW.nodes)).get 1 = [0] := by decide

def exRoot : GraphT := .mk 0 [0] [1] [3] exW.nodes

/-- hypotheses of C18_captures_complete are met by the nested graph of node 1 and the value `x` -/
example : 0 ∈ (analyze exW exRoot).get 1 :=
  C18_captures_complete exW exRoot (n := .mk [some 2, none] [3] [exBody]) (b := exBody) (s := exBody)
    (by simp [exRoot, exW, exBody]) (by simp) SubG.self exBody_ptr
    ((C18_external_free exW 0 exBody 0 exBody_ptr exBody_notNested).mp (by decide))

theorem exRoot_scoped : ∀ n b, n ∈ exRoot.nodes → b ∈ n.bodies → scopedGB exW [1] [] b = true := by
  intro n b hn hb
  have hn' : n = .mk [some 0, some 1] [2] [] ∨ n = .mk [some 2, none] [3] [exBody] ∨
      n = .mk [some 0] [4] [] := by simpa [exRoot, exW, exBody] using hn
  rcases hn' with rfl | rfl | rfl
  · simp at hb
  · have : b = exBody := by simpa using hb
    subst this; decide
  · simp at hb

theorem exRoot_ptr : ∀ n b s, n ∈ exRoot.nodes → b ∈ n.bodies → SubG b s → BackPtrOK exW s := by
  intro n b s hn hb hs
  have hn' : n = .mk [some 0, some 1] [2] [] ∨ n = .mk [some 2, none] [3] [exBody] ∨
      n = .mk [some 0] [4] [] := by simpa [exRoot, exW, exBody] using hn
  have hbe : b = exBody := by
    rcases hn' with rfl | rfl | rfl
    · simp at hb
    · simpa using hb
    · simp at hb
  subst hbe
  cases hs with
  | self => exact exBody_ptr
  | @deeper _ c _ nd hn2 hc2 _ =>
    have : nd = NodeT.mk [some 0] [4] [] := by simpa [exBody] using hn2
    subst this
    simp at hc2

/-- hypotheses of C18_captures_sound are met on the example (scoping by owner + consistent back pointers) -/
example : ∃ n b s, n ∈ exRoot.nodes ∧ b ∈ n.bodies ∧ SubG b s ∧ s.gid = 1 ∧ FreeOf s 0 :=
  C18_captures_sound exW exRoot [1] (k := 1) (v := 0) exRoot_scoped exRoot_ptr (by decide)

/-- C18_captures_exact with all its hypotheses met: the entry of the nested graph is `{x}` exactly -/
example : ∀ v, v ∈ (analyze exW exRoot).get exBody.gid ↔ FreeOf exBody v :=
  C18_captures_exact exW exRoot [1] exRoot_scoped exRoot_ptr (by decide)
    (n := .mk [some 2, none] [3] [exBody]) (b := exBody) (s := exBody)
    (by simp [exRoot, exW, exBody]) (by simp) SubG.self

/-- C18_captures_any_root: analysing the same nodes under another root identity (a Function object) -/
example : 0 ∈ (analyzeNodes exW 99 exRoot.nodes).get 1 :=
  ((C18_captures_any_root exW 99 exRoot 1).1 0).mpr (by decide)

/-- C18_attrs_bodies: a reference attribute and a non-graph attribute contribute nothing, a GRAPHS attribute
    its members -/
example : attrBodies [.ref, .graphs [exBody, exBody], .other, .graph exBody] = [exBody, exBody, exBody] := rfl

example : (analyze exW exRoot).HasKey 1 :=
  (C18_captures_keys exW exRoot 1).mpr ⟨.mk [some 2, none] [3] [exBody], by simp [exRoot, exW, exBody],
    exBody, by simp, NestedIn.self⟩

/-! ### scoping of uses by owner is necessary -/

/-- a node of graph 1 (nested in node 0 of the root) reads the INPUT `c` of its own nested graph 2: the use is
    not scoped by owner (the owner of `c` is below the reader, not above) -/
def scW : World :=
  { vals := [ { name := "x", graph := some 0 }, { name := "c", graph := some 2 },
              { name := "d", producer := some 1, graph := some 1 },
              { name := "z", producer := some 0, graph := some 0 } ],
    nodes := [ .mk [some 0] [3] [.mk 1 [] [] [2] [.mk [some 1] [2] [.mk 2 [1] [] [1] []]]],
               .mk [some 1] [2] [.mk 2 [1] [] [1] []] ] }

def scC : GraphT := .mk 2 [1] [] [1] []

def scA : GraphT := .mk 1 [] [] [2] [.mk [some 1] [2] [scC]]

def scRoot : GraphT := .mk 0 [0] [] [3] [.mk [some 0] [3] [scA]]

/-- **C18_captures_needs_scoped**: scoping of uses by owner (`scopedGB`) is necessary for
    `C18_captures_sound` / `C18_captures_exact`.  In `scW` the back pointers are consistent on every nested graph,
    nested graphs have distinct identities, every graph is closed — only the scoping hypothesis fails: a node of
    graph 1 reads a value that a graph nested in that very node defines.  `analyze_implicit_usage` then puts
    the value in the entry of graph 1 (it walks up from the reader and never meets the owner), although graph 1
    defines it below: it is no free variable of any nested graph with that identity.  (The real analysis does the
    same: harness stream `necessity`, shape `reader-above-owner`.) -/
theorem C18_captures_needs_scoped :
    ∃ (W : World) (g : GraphT) (k : GId) (v : VId),
      (∀ n b s, n ∈ g.nodes → b ∈ n.bodies → SubG b s → BackPtrOK W s) ∧
      uniqueGidsB g.nodes = true ∧ closedG g = true ∧
      (∃ n b, n ∈ g.nodes ∧ b ∈ n.bodies ∧ scopedGB W (g.nodes.flatMap (fun n => n.bodies.flatMap gidsG)) [] b = false) ∧
      v ∈ (analyze W g).get k ∧
      ¬ ∃ n b s, n ∈ g.nodes ∧ b ∈ n.bodies ∧ SubG b s ∧ s.gid = k ∧ FreeOf s v := by
  have hsubA : ∀ s, SubG scA s → s = scA ∨ s = scC := by
    intro s hs
    cases hs with
    | self => exact Or.inl rfl
    | deeper hn hc hs' =>
      simp only [scA, GraphT.nodes_mk, List.mem_singleton] at hn
      subst hn
      simp only [NodeT.bodies_mk, List.mem_singleton] at hc
      subst hc
      cases hs' with
      | self => exact Or.inr rfl
      | deeper hn' _ _ => simp [scC] at hn'
  refine ⟨scW, scRoot, 1, 1, ?_, by decide, by decide, ?_, by decide +kernel, ?_⟩
  · intro n b s hn hb hs
    simp only [scRoot, GraphT.nodes_mk, List.mem_singleton] at hn
    subst hn
    simp only [NodeT.bodies_mk, List.mem_singleton] at hb
    subst hb
    rcases hsubA s hs with rfl | rfl
    · exact backPtrB_sound (by decide)
    · exact backPtrB_sound (by decide)
  · exact ⟨.mk [some 0] [3] [scA], scA, by simp [scRoot], by simp, by decide⟩
  · rintro ⟨n, b, s, hn, hb, hs, hk, hfree⟩
    simp only [scRoot, GraphT.nodes_mk, List.mem_singleton] at hn
    subst hn
    simp only [NodeT.bodies_mk, List.mem_singleton] at hb
    subst hb
    rcases hsubA s hs with rfl | rfl
    · exact hfree.2 ((mem_defsG scA 1).mp (by decide))
    · revert hk; decide

/-! ## sources built through the C01 kernel -/

/-- **C18_source_of_C01**: for a graph built by ANY history of the C01 editing alphabet (`C01_history`: the
    kernel invariant `Kernel.WF` holds), read as a world of this model (`ofKernel`: same creation indices; graph
    attributes of kernel nodes are dropped, so this speaks about graphs whose nodes hold no subgraph), every hypothesis of
    `C18_eval` / `C18_extract_eval` about the source is discharged except topological order: the node list is
    duplicate free, `producer()` pointers and node outputs agree in both directions, no initializer is
    produced, captures are covered and no required value is defined in a nested graph (vacuously).  Order is
    not implied by `WF` (a `Graph` may hold its nodes in any order) and is necessary: `C18_eval_needs_sorted`. -/
theorem C18_source_of_C01 (w : Kernel.World) (h : Kernel.WF w) (gid p : Nat) :
    (w.gr gid).nodes.Nodup ∧
    (∀ n, n ∈ (w.gr gid).nodes → ∀ o, o ∈ ((ofKernel w).nodeD n).outputs → (ofKernel w).prod o = some n) ∧
    (∀ v n, (ofKernel w).prod v = some n → v ∈ ((ofKernel w).nodeD n).outputs) ∧
    (∀ u, (ofKernel w).isInit u = true → NotProducedIn (ofKernel w) (w.gr gid).nodes u) ∧
    (∀ n, CapturesCover (ofKernel w) p n) ∧
    (∀ u n b, b ∈ ((ofKernel w).nodeD n).bodies → ¬ DefInG b u) ∧
    (TopoSorted (ofKernel w) p (w.gr gid).nodes → SourceOK (ofKernel w) p (w.gr gid).nodes) := by
  have hprodOut : ∀ n o, o ∈ ((ofKernel w).nodeD n).outputs → (ofKernel w).prod o = some n := by
    intro n o ho
    rw [ofKernel_nodeD] at ho
    rw [ofKernel_prod h]
    exact producer_of_mem_outputs h ho
  have houtProd : ∀ v n, (ofKernel w).prod v = some n → v ∈ ((ofKernel w).nodeD n).outputs := by
    intro v n hp
    rw [ofKernel_prod h] at hp
    rw [ofKernel_nodeD]
    exact mem_outputs_of_producer h hp
  refine ⟨h.node.nodup gid, fun n _ o ho => hprodOut n o ho, houtProd, ?_, ?_, ?_, ?_⟩
  · intro u hu m _ ho
    have hp := hprodOut m u ho
    rw [ofKernel_prod h] at hp
    have hinit : (w.val u).isInit = true := by
      unfold World.isInit at hu
      rw [ofKernel_val] at hu
      exact hu
    rw [h.root u (Or.inr hinit)] at hp
    cases hp
  · intro n u hu
    rw [ofKernel_nodeD] at hu
    simp only [freeN, freeGs, List.append_nil] at hu
    left
    rw [ofKernel_nodeD]
    simpa [List.mem_filterMap] using hu
  · intro u n b hb
    rw [ofKernel_nodeD] at hb
    simp at hb
  · intro hsorted
    exact ⟨h.node.nodup gid, fun n _ o ho => hprodOut n o ho, houtProd, hsorted⟩

/-- **C18_source_of_C01_nested** (`C18_source_of_C01` for nodes holding subgraphs): a graph built by ANY
    history of the C01 editing alphabet (`Kernel.WF`; the kernel carries `NodeS.attrs`), read as a world of
    this model WITH the graphs its node attributes hold (`ofKernelN` / `kGraph`: unfolded to any depth `fuel`,
    the `.graph` back pointer being the `Value.graph` property: `_graph` when set, else the producer's graph),
    and whose graphs are closed (`KClosed`: every graph output is defined at the top level of its graph — what
    onnx.checker demands; necessary, see the example below): the `.graph` back pointers are CONSISTENT with the
    structure on every subtree (`BackPtrOK`, the hypothesis `backPtrB` of `C18_external_free`,
    `C18_nodes_exact_free`, `C18_captures_*`), every unfolded tree is closed (`closedG`), also for the bodies of
    every node of the embedded table; and the facts of `C18_source_of_C01` about the source list hold for the
    embedding with subgraphs.  Not implied by `WF` (a `Graph` lets a node read any value): topological order,
    well-scopedness of the nested graphs, scoping of uses by owner (`scopedGB`: necessary,
    `C18_captures_needs_scoped`), distinct identities of nested graphs. -/
theorem C18_source_of_C01_nested (w : Kernel.World) (h : Kernel.WF w) (hc : KClosed w) (F fuel gid : Nat) :
    BackPtrOK (ofKernelN w F) (kGraph w fuel gid) ∧ closedG (kGraph w fuel gid) = true ∧
    (∀ n b, b ∈ ((ofKernelN w F).nodeD n).bodies → BackPtrOK (ofKernelN w F) b ∧ closedG b = true) ∧
    (w.gr gid).nodes.Nodup ∧
    (∀ n o, o ∈ ((ofKernelN w F).nodeD n).outputs → (ofKernelN w F).prod o = some n) ∧
    (∀ v n, (ofKernelN w F).prod v = some n → v ∈ ((ofKernelN w F).nodeD n).outputs) ∧
    (∀ u, (ofKernelN w F).isInit u = true → (ofKernelN w F).prod u = none) := by
  refine ⟨backPtrOK_kGraph h hc F fuel gid, closedG_kGraph hc fuel gid, ?_, h.node.nodup gid, ?_, ?_, ?_⟩
  · intro n b hb
    rw [ofKernelN_nodeD] at hb
    obtain ⟨f, g, _, rfl⟩ := kNode_bodies w F n b hb
    exact ⟨backPtrOK_kGraph h hc F f g, closedG_kGraph hc f g⟩
  · intro n o ho
    rw [ofKernelN_nodeD, kNode_outputs] at ho
    rw [ofKernelN_prod h]
    exact producer_of_mem_outputs h ho
  · intro v n hp
    rw [ofKernelN_prod h] at hp
    rw [ofKernelN_nodeD, kNode_outputs]
    exact mem_outputs_of_producer h hp
  · intro u hu
    rw [ofKernelN_prod h]
    have hinit : (w.val u).isInit = true := by
      unfold World.isInit at hu
      rw [ofKernelN_val] at hu
      exact hu
    exact h.root u (Or.inr hinit)

/-! ### examples -/

/-- C18_source_of_C01: the hypothesis is the C01 invariant, which holds initially and after every history
    (`C01_init`, `C01_history`) -/
example : ([] : List Nat).Nodup := (C18_source_of_C01 Kernel.World.empty Kernel.WF_empty 0 0).1

/-- the kernel hypothesis `KClosed` is needed for the back pointers: a nested graph (id 1) that returns the
    value `c` computed by a node of the enclosing graph — `c._graph` is then the NESTED graph (the output list
    owns it), although the enclosing graph defines it: `backPtrB` fails on the nested graph -/
example : backPtrB
    { vals := [ { name := "x", graph := some 0 }, { name := "c", producer := some 0, graph := some 1 },
                { name := "y", producer := some 1, graph := some 0 } ],
      nodes := [ .mk [some 0] [1] [], .mk [] [2] [.mk 1 [] [] [1] []] ] }
    (.mk 1 [] [] [1] []) = false := by decide

/-! ## the clone stage against C13's heap-level cloner -/

/-- **C18_independent** (C13's `C13_fresh`, `C13_closed`, `C13_clone_pure` side by side): the last statement of
    `extract` is `graph_view.clone()`, i.e. C13's `graphClone` with a fresh value map and
    `allow_outer_scope_values=False`.  For every heap `w` of C13's model (objects = cells: values, nodes, graphs,
    type / shape objects, metadata containers, attributes), every graph cell `gv` and every run of that clone
    that returns `g'`: every object the result owns at any depth is new, every node input of the result is a new
    value, and no pre-existing cell changed.  The statement is about C13 heaps only (`_hview` is not used); that
    the heap-level clone of a heap representing the view `extract` built returns at all is
    `C18_extract_clone_C13`.  Tensors are shared by design and are not cells. -/
theorem C18_independent {w w' : Clone.World} {fuel gv g' : Nat} {gs : Clone.GraphS}
    (_hview : w[gv]? = some (Clone.Cell.graph gs) ∧ gs.view = true)
    (h : Clone.run (Clone.graphClone fuel false gv) w = (.ok g', w')) :
    (∀ i, Clone.Owned w' g' i → w.length ≤ i ∧ i < w'.length) ∧
    (∀ i, Clone.Owned w' g' i → ∀ n, w'[i]? = some (Clone.Cell.node n) →
        ∀ v, some v ∈ n.inputs → w.length ≤ v ∧ v < w'.length) ∧
    (∀ (i : Nat) (c : Clone.Cell), w[i]? = some c → w'[i]? = some c) := by
  refine ⟨Clone.C13_fresh h, ?_, (Clone.C13_clone_pure h).1 rfl⟩
  intro i hi n hn v hv
  exact ((Clone.C13_closed h i hi).1 n hn).1 rfl v hv

/-- **C18_clone_stage_C13** (from C13, `C13_clone_succeeds`): the clone stage of `extract` as this model has it
    (`cloneGO`: keys of the value map, generations of the clones, ownership) against C13's model of the cloner
    (heap of cells, `graphClone`) — for EVERY C13 heap `w` and graph cell `gv` that represents the tree `t`
    (`RepG`: same value ids in the input / initializer / output lists, node cells in order, the graph-valued
    attributes GRAPH / GRAPHS of a node cell are in order the cells of its bodies, other attributes ignored),
    that is regular (`RegG`: inputs, initializers and node outputs are value cells with their metadata
    containers and a non-empty name; initializer names of a graph distinct) and in which no node output is
    already a key of the value map when its node is cloned (`nrG`; C13's walker makes no claim there: the D153
    shape), with enough fuel for the nesting depth: if `cloneGO` accepts, C13's scope walker accepts, hence
    (`C13_clone_succeeds`) the heap-level `GraphView.clone()` RETURNS a graph `g'`, every object `g'` owns is
    new, every node input of `g'` is a new value and no pre-existing cell changed (`C13_fresh`, `C13_closed`,
    `C13_clone_pure`).  C13's correspondence ties `graphClone` / `cloneVerdict` to the real cloner. -/
theorem C18_clone_stage_C13 {w : Clone.World} {t : GraphT} {gv fuel : Nat} {s : CSt}
    (hrep : RepG w t gv) (hreg : RegG w t) (hfuel : depthG t ≤ fuel) (hnr : nrG [] t)
    (h : cloneGO {} t = .ok s) :
    (∃ A, Clone.cloneVerdict fuel false w gv = .ok A) ∧
    ∃ g' w', Clone.run (Clone.graphClone fuel false gv) w = (.ok g', w') ∧
      (∀ i, Clone.Owned w' g' i → w.length ≤ i ∧ i < w'.length) ∧
      (∀ i, Clone.Owned w' g' i → ∀ n, w'[i]? = some (Clone.Cell.node n) →
          ∀ v, some v ∈ n.inputs → w.length ≤ v ∧ v < w'.length) ∧
      (∀ (i : Nat) (c : Clone.Cell), w[i]? = some c → w'[i]? = some c) := by
  have hstep := stepG w t fuel gv {} {} hrep hreg hfuel hnr SimSt.empty
  rw [h] at hstep
  obtain ⟨A, hA, _, _⟩ := hstep
  have hv : Clone.cloneVerdict fuel false w gv = .ok A := hA
  obtain ⟨g', w', hrun⟩ := Clone.C13_clone_succeeds hv
  refine ⟨⟨A, hv⟩, g', w', hrun, Clone.C13_fresh hrun, ?_, (Clone.C13_clone_pure hrun).1 rfl⟩
  intro i hi n hn v hvn
  exact ((Clone.C13_closed hrun i hi).1 n hn).1 rfl v hvn

/-- **C18_extract_clone_C13**: whenever the pipeline returns a view, on every regular C13 heap that represents
    that view the heap-level clone returns a graph of new objects and leaves the heap as it was (composition of `C18_extract_owned` with
    `C18_clone_stage_C13`; with `C18_extract_succeeds_iff`: a covered region of a sorted, well scoped source
    whose boundary no nested graph lists is cloned). -/
theorem C18_extract_clone_C13 {W : World} {T : Target} {ins outs : List Arg} {view : View}
    (hx : extractO W T ins outs = .ok view)
    {w : Clone.World} {gv fuel : Nat}
    (hrep : RepG w (.mk 0 view.inputs view.inits view.outputs (view.nodes.map W.nodeD)) gv)
    (hreg : RegG w (.mk 0 view.inputs view.inits view.outputs (view.nodes.map W.nodeD)))
    (hfuel : depthG (.mk 0 view.inputs view.inits view.outputs (view.nodes.map W.nodeD)) ≤ fuel)
    (hnr : nrG [] (.mk 0 view.inputs view.inits view.outputs (view.nodes.map W.nodeD))) :
    ∃ g' w', Clone.run (Clone.graphClone fuel false gv) w = (.ok g', w') ∧
      (∀ i, Clone.Owned w' g' i → w.length ≤ i ∧ i < w'.length) ∧
      (∀ (i : Nat) (c : Clone.Cell), w[i]? = some c → w'[i]? = some c) := by
  obtain ⟨_, s, hs⟩ := ((extractO_rel W T ins outs).1 view).1 hx
  obtain ⟨_, g', w', hrun, h1, _, h3⟩ := C18_clone_stage_C13 hrep hreg hfuel hnr hs
  exact ⟨g', w', hrun, h1, h3⟩

/-- **C18_clone_stage_C13_exact** (from C13, `C13_clone_succeeds` + `C13_clone_error_exact`): on every C13 heap
    that represents the tree, is regular and has no re-bound node output (hypotheses of `C18_clone_stage_C13`),
    this model's clone stage and C13's heap-level cloner agree on the OUTCOME: `cloneGO` returns exactly when
    `GraphView.clone()` of the heap model returns, and when `cloneGO` raises (`cloneOuter`: a node input that is
    no key of the value map; `cloneOutput`: a graph output that is no key; `cloneOwned`: the `Graph(...)`
    constructor refuses a clone) C13's scope walker answers a clear error and the heap-level clone ends with
    exactly that error.  So the "raises" half of the property is tied to C13's model of the cloner by proof as
    well, not only the "returns" half. -/
theorem C18_clone_stage_C13_exact {w : Clone.World} {t : GraphT} {gv fuel : Nat}
    (hrep : RepG w t gv) (hreg : RegG w t) (hfuel : depthG t ≤ fuel) (hnr : nrG [] t) :
    ((∃ s, cloneGO {} t = .ok s) ↔
      ∃ g' w', Clone.run (Clone.graphClone fuel false gv) w = (.ok g', w')) ∧
    (∀ e, cloneGO {} t = .error e →
      ∃ why, Clone.cloneVerdict fuel false w gv = .err (.raised why) ∧
        (Clone.run (Clone.graphClone fuel false gv) w).1 = .error (.raised why)) := by
  have herr : ∀ e, cloneGO {} t = .error e →
      ∃ why, Clone.cloneVerdict fuel false w gv = .err (.raised why) ∧
        (Clone.run (Clone.graphClone fuel false gv) w).1 = .error (.raised why) := by
    intro e he
    have hstep := stepG w t fuel gv {} {} hrep hreg hfuel hnr SimSt.empty
    rw [he] at hstep
    obtain ⟨why, hw⟩ := hstep
    have hv : Clone.cloneVerdict fuel false w gv = .err (.raised why) := hw
    exact ⟨why, hv, Clone.C13_clone_error_exact hv⟩
  refine ⟨⟨?_, ?_⟩, herr⟩
  · rintro ⟨s, hs⟩
    obtain ⟨_, g', w', hrun, _⟩ := C18_clone_stage_C13 hrep hreg hfuel hnr hs
    exact ⟨g', w', hrun⟩
  · rintro ⟨g', w', hrun⟩
    cases hc : cloneGO {} t with
    | ok s => exact ⟨s, rfl⟩
    | error e =>
      exfalso
      obtain ⟨why, _, hr⟩ := herr e hc
      rw [hrun] at hr
      cases hr

/-! ### examples: C13 heaps representing a view with one node that holds a nested graph -/

def exHeap : Clone.World := [
  .graph { name := some "v", inputs := [3], outputs := [6], nodes := [9], props := 1, mstore := 2, view := true },
  .dict {}, .dict {},
  .val { name := some "x", graph := some 0, isIn := true, props := 4, mstore := 5 }, .dict {}, .dict {},
  .val { name := some "y", producer := some 9, index := some 0, props := 7, mstore := 8 }, .dict {}, .dict {},
  .node { name := some "n", opType := "Loopy", inputs := [some 3], outputs := [6], attrs := [("body", 12)],
          props := 10, mstore := 11 }, .dict {}, .dict {},
  .attr { name := "body", v := .graph 13 },
  .graph { name := some "b", inputs := [16], outputs := [19], nodes := [22], props := 14, mstore := 15 },
  .dict {}, .dict {},
  .val { name := some "i", graph := some 13, isIn := true, props := 17, mstore := 18 }, .dict {}, .dict {},
  .val { name := some "j", producer := some 22, index := some 0, graph := some 13, isOut := true,
         props := 20, mstore := 21 }, .dict {}, .dict {},
  .node { name := some "m", opType := "Add", inputs := [some 3, some 16], outputs := [19], graph := some 13,
          props := 23, mstore := 24 }, .dict {}, .dict {} ]

def exTree : GraphT :=
  .mk 0 [3] [] [6] [.mk [some 3] [6] [.mk 1 [16] [] [19] [.mk [some 3, some 16] [19] []]]]

/- the cells are found by unification with the heap; each remaining conjunct is a lookup in the heap -/
theorem exHeap_rep : RepG exHeap exTree 0 := by
  simp only [exTree, RepG, RepNs, RepN, RepGs]
  exact ⟨_, rfl, rfl, rfl, rfl, rfl, rfl, _, _, rfl,
    ⟨_, _, rfl, rfl, rfl, rfl, rfl, rfl, rfl, _, _, rfl,
      ⟨_, rfl, rfl, rfl, rfl, rfl, rfl, _, _, rfl, ⟨_, _, rfl, rfl, rfl, rfl, rfl, rfl, rfl, rfl⟩, rfl⟩, rfl⟩, rfl⟩

theorem exHeap_reg : RegG exHeap exTree := by
  simp only [exTree, RegG, RegNs, RegN, RegGs, List.append_nil, List.mem_cons, List.not_mem_nil, or_false,
    forall_eq, and_true]
  refine ⟨?_, rfl, ?_, ?_, rfl, ?_⟩ <;> exact ⟨_, rfl, rfl, rfl, rfl, rfl, _, rfl, by decide⟩

theorem exHeap_nr : nrG [] exTree := nrG_of_B exTree [] (by decide +kernel)

theorem exHeap_clone : ∃ s, cloneGO {} exTree = .ok s := ⟨_, rfl⟩

/-- the instance: C13's walker accepts the heap and the heap-level clone returns -/
example : ∃ g' w', Clone.run (Clone.graphClone 4 false 0) exHeap = (.ok g', w') := by
  obtain ⟨s, hs⟩ := exHeap_clone
  obtain ⟨_, g', w', h, _⟩ := C18_clone_stage_C13 (fuel := 4) exHeap_rep exHeap_reg (by decide) exHeap_nr hs
  exact ⟨g', w', h⟩

/-- non-vacuity of the error half: the view of `exOwnW` whose boundary contains the input `i` of the nested
    graph, as a C13 heap: `cloneGO` raises the ownership error and C13's heap-level clone raises the
    constructor's error -/
def exOwnHeap : Clone.World := [
  .graph { name := some "v", inputs := [3, 16], outputs := [6], nodes := [9], props := 1, mstore := 2, view := true },
  .dict {}, .dict {},
  .val { name := some "x", graph := some 0, isIn := true, props := 4, mstore := 5 }, .dict {}, .dict {},
  .val { name := some "y", producer := some 9, index := some 0, props := 7, mstore := 8 }, .dict {}, .dict {},
  .node { name := some "n", opType := "Loopy", inputs := [some 3], outputs := [6], attrs := [("body", 12)],
          props := 10, mstore := 11 }, .dict {}, .dict {},
  .attr { name := "body", v := .graph 13 },
  .graph { name := some "b", inputs := [16], outputs := [19], nodes := [22], props := 14, mstore := 15 },
  .dict {}, .dict {},
  .val { name := some "i", graph := some 13, isIn := true, props := 17, mstore := 18 }, .dict {}, .dict {},
  .val { name := some "j", producer := some 22, index := some 0, graph := some 13, isOut := true,
         props := 20, mstore := 21 }, .dict {}, .dict {},
  .node { name := some "m", opType := "Add", inputs := [some 3, some 16], outputs := [19], graph := some 13,
          props := 23, mstore := 24 }, .dict {}, .dict {} ]

def exOwnTree : GraphT :=
  .mk 0 [3, 16] [] [6] [.mk [some 3] [6] [.mk 1 [16] [] [19] [.mk [some 3, some 16] [19] []]]]

example : ∃ why, (Clone.run (Clone.graphClone 4 false 0) exOwnHeap).1 = .error (.raised why) := by
  have hrep : RepG exOwnHeap exOwnTree 0 := by
    simp only [exOwnTree, RepG, RepNs, RepN, RepGs]
    exact ⟨_, rfl, rfl, rfl, rfl, rfl, rfl, _, _, rfl,
      ⟨_, _, rfl, rfl, rfl, rfl, rfl, rfl, rfl, _, _, rfl,
        ⟨_, rfl, rfl, rfl, rfl, rfl, rfl, _, _, rfl, ⟨_, _, rfl, rfl, rfl, rfl, rfl, rfl, rfl, rfl⟩, rfl⟩, rfl⟩, rfl⟩
  have hreg : RegG exOwnHeap exOwnTree := by
    simp only [exOwnTree, RegG, RegNs, RegN, RegGs, List.append_nil, List.mem_cons, List.not_mem_nil, or_false,
      forall_eq_or_imp, forall_eq, and_true]
    refine ⟨⟨?_, ?_⟩, rfl, ?_, ?_, rfl, ?_⟩ <;> exact ⟨_, rfl, rfl, rfl, rfl, rfl, _, rfl, by decide⟩
  have hnr : nrG [] exOwnTree := nrG_of_B exOwnTree [] (by decide +kernel)
  have herr : cloneGO {} exOwnTree = .error .cloneOwned := rfl
  obtain ⟨why, _, h⟩ := (C18_clone_stage_C13_exact (fuel := 4) hrep hreg (by decide) hnr).2 _ herr
  exact ⟨why, h⟩

end IrVerif.Extract
