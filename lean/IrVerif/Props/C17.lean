/-
C17 — deserializing any proto terminates with an error or a consistent IR (model `IrVerif.Scope`).

Graphs (`Model/Scope.lean`; the invariant `Consistent` is defined in `Lemmas/ScopeKernel.lean`), functions (`ScopeFunc`), decorations (`ScopeMeta`),
the IR version < 10 format (`ScopeFunc9`), the extended model (`ScopeExt`), node attributes (`ScopeAttr`), examples.
`C17Ext9` is imported only so that `import IrVerif.Props.C17` reaches it.
-/
import IrVerif.Lemmas.ScopeTree
import IrVerif.Lemmas.ScopeIdem
import IrVerif.Lemmas.ScopeSerRepl
import IrVerif.Lemmas.ScopeKernel
import IrVerif.Lemmas.ScopeReplDeser
import IrVerif.Lemmas.ScopeModel
import IrVerif.Lemmas.ScopeModelDup
import IrVerif.Lemmas.ScopeMeta
import IrVerif.Lemmas.ScopeAttrProps
import IrVerif.Model.ScopeFunc9
import IrVerif.Lemmas.ScopeExt
import IrVerif.Lemmas.ScopeExtInv
import IrVerif.Lemmas.ScopeExtLocal
import IrVerif.Lemmas.ScopeFunc9Inert
import IrVerif.Lemmas.ScopeFunc9Idem
import IrVerif.Lemmas.ScopeExtTop
import IrVerif.Lemmas.ScopeExtSerOk
import IrVerif.Lemmas.ScopeExtModelTop
import IrVerif.Lemmas.ScopeExtDevCert
import IrVerif.Props.C17Ext9
namespace IrVerif.Scope

/-- **C17_total**: `deserialize` is a total function on every `GraphP`, with no well-formedness
    hypothesis.  The definition (`deserGraph` / `deserNodes` / `deserNode` / `deserSubs`) is accepted
    by Lean's termination checker as a structural recursion on the proto: no fuel, no `partial`.
    Every proto therefore yields an error or an IR.
    The proof is a case split on `Except` — a tautology for any Lean function; the evidence for
    "deserialization terminates" is that Lean accepted the definition, not this proof.  The input space is
    the abstract `GraphP` (names plus opaque tokens): invalid UTF-8, unknown enum values, inconsistent
    tensor fields, recursion depth and wall-clock behaviour of the real code are covered by the harness
    only (byte-level and field-level mutation streams, CPU-time limit). -/
theorem C17_total (p : GraphP) :
    (∃ w, deserialize p = .ok w) ∨ (∃ e, deserialize p = .error e) := by
  cases h : deserialize p with
  | ok w => exact .inl ⟨w, rfl⟩
  | error e => exact .inr ⟨e, rfl⟩

/-- **C17_consistent**: whenever deserialization returns an IR, its use-def and ownership links are
    consistent — for every proto, with no well-formedness hypothesis. -/
theorem C17_consistent (p : GraphP) (w : World) (h : deserialize p = .ok w) : Consistent w := by
  have hg := deserialize_inv h
  exact (deserGraph_links p {} [] _ _ [] [] Fresh.empty (TablesLt.nil _) Inv.empty hg).consistent
    (deserGraph_tree p {} [] _ _ Fresh.empty (TablesLt.nil _) hg)

/-- **C17_consistent_is_WF**: the consistency invariant of this model IS the kernel invariant of C01.
    Under the embedding `toKernel` (value `v` ↦ kernel value `v`; node / graph with creation index `i` ↦
    kernel node / graph `i`; the tree is flattened, reference counters are the multiplicities) the 12
    fields of `Consistent` give the six clauses `I_use`, `I_prod`, `I_root`, `I_own`, `I_key`, `I_node` of
    `Kernel.WF` (clause-by-clause correspondence: see `consistent_toKernel_WF`).  `Bounded w` says that
    the store is blank above its allocation counters and that node / graph indices are below theirs; it is
    what makes the list-based kernel world a faithful copy of the function-based stores.
    The converse is not claimed: `Consistent` is stronger (`index_iff_producer`, tree-shaped nesting,
    distinct creation indices) than `WF`. -/
theorem C17_consistent_is_WF (w : World) (hc : Consistent w) (hb : Bounded w) : Kernel.WF (toKernel w) :=
  consistent_toKernel_WF w hc hb

/-- **C17_deserialize_WF**: every IR that deserialization returns satisfies the kernel invariant of C01
    (so every theorem of C01 about `WF` worlds applies to freshly deserialized models). -/
theorem C17_deserialize_WF (p : GraphP) (w : World) (h : deserialize p = .ok w) : Kernel.WF (toKernel w) :=
  C17_consistent_is_WF w (C17_consistent p w h) (deserialize_bounded p w h)

/-- **C17_idempotent**: for every proto, whenever deserialization returns
    an IR `w`, serializing `w` succeeds and gives a proto `q` that is a fix-point:
    `serialize (deserialize q) = q`.
    Covered shapes include everything `deserialize` accepts: dangling input names (placeholder values,
    shared by later references in the same scope and in graphs nested in later nodes), graph outputs
    that nothing produces (fresh values, one per entry), duplicate graph-input names, an initializer
    for a graph input, duplicate initializer tensors, names shadowed in nested scopes, nodes in any
    order, empty-named optional inputs and outputs, trailing empty outputs (dropped by the first
    serialization), value_info entries that nothing refers to (dropped), a shape without a type (dropped).
    Proof: `deserialize_reloadable` (what the deserializer builds satisfies the certificate `replG`:
    its name resolution, re-run on the model's own names, reproduces the model) and
    `reloadable_fixpoint` (a reloadable model round-trips to a model with the same tree up to renaming,
    same names, same emitted type / shape / documentation, same initializer tensors, and that model
    serializes to the same proto). -/
theorem C17_idempotent (p : GraphP) (w : World) (hd : deserialize p = .ok w) :
    ∃ (w1 : World) (q : GraphP) (D : World) (w2 : World),
      serialize w = .ok (w1, q) ∧ deserialize q = .ok D ∧ serialize D = .ok (w2, q) :=
  reloadable_fixpoint w (deserialize_reloadable p w hd)

/-- **C17_total_model**: `C17_total` for models with functions (same note) -/
theorem C17_total_model (P : ModelP) :
    (∃ m, deserializeM P = .ok m) ∨ (∃ e, deserializeM P = .error e) := by
  cases h : deserializeM P with
  | ok m => exact .inl ⟨m, rfl⟩
  | error e => exact .inr ⟨e, rfl⟩

/-- **C17_idempotent_model_partial**: idempotence for MODELS WITH FUNCTIONS (IR version >= 10 format).
    Excluded shape, spelled out: two `FunctionProto`s of the model carry the same identifier
    (domain, name, overload) — `hid` requires the identifiers of the proto to be distinct.  (With a
    duplicate the real code keeps the last function at the position of the first; the first serialization
    then drops the others, and the store still holds their values.  `C17_idempotent_model` covers that case
    too and implies this theorem.)  Everything else is as in `C17_idempotent`: dangling,
    duplicate, shadowed names in the main graph and inside functions, function outputs that are inputs or
    placeholders, value_info entries for function inputs. -/
theorem C17_idempotent_model_partial (P : ModelP) (m : MWorld) (hd : deserializeM P = .ok m)
    (hid : (P.funcs.map (·.id)).Nodup) :
    ∃ (m1 : MWorld) (Q : ModelP) (D : MWorld) (m2 : MWorld),
      serializeM m = .ok (m1, Q) ∧ deserializeM Q = .ok D ∧ serializeM D = .ok (m2, Q) :=
  reloadableM_fixpoint m (deserializeM_reloadable_all P m hd)

/-- **C17_idempotent_model**: `C17_idempotent` for models with functions, with NO hypothesis beyond `deserializeM P = .ok m`.  In particular several
    `FunctionProto`s may carry the same identifier (domain, name, overload): `deserialize_model` deserializes
    every one of them (their values stay in the store), `{func.identifier(): func}` keeps for each identifier
    the position of the first and the graph of the last, the first serialization writes the kept functions
    only, and that proto is a fix-point.  Serialization of what `deserializeM` returns never raises in the
    model (every value it creates has a name), so "raises or is a fix-point" holds in its stronger form.
    Proof: `deserializeM_reloadable_all` (the kept functions are a sub-family of the deserialized ones, each
    certified, with pairwise disjoint values; the keys of the dict are distinct) and `reloadableM_fixpoint`. -/
theorem C17_idempotent_model (P : ModelP) (m : MWorld) (hd : deserializeM P = .ok m) :
    ∃ (m1 : MWorld) (Q : ModelP) (D : MWorld) (m2 : MWorld),
      serializeM m = .ok (m1, Q) ∧ deserializeM Q = .ok D ∧ serializeM D = .ok (m2, Q) :=
  reloadableM_fixpoint m (deserializeM_reloadable_all P m hd)

/-! ### the decoration layer (`Model/ScopeMeta.lean`): metadata_props of model / graph / node / function, opset
imports, the `_get_field` fields (doc_string, graph name, producer ...), model and node device configurations,
function attributes -/

/-- **C17_meta_idempotent**: for EVERY decorated proto `X` (duplicate metadata keys, duplicate opset domains,
    duplicate function identifiers, duplicate / valueless function attributes, device configurations with an
    empty configuration_id or an empty tensor_name, any IR version): if serializing the deserialized
    decorations does not raise, the proto `Q` it writes is a fix-point of deserialize-then-serialize.
    (Serialization does raise in the model: a node device configuration without configuration, a sharding
    spec without value, at IR version >= 11 — `serDev` / `serSpecs`; below 11 they are dropped silently.)
    Content of the proof: `{k: v}` keeps first position / last value and has distinct keys; `sorted` is
    idempotent and a dict with distinct keys is read back unchanged; a falsy optional field stays absent;
    the valued / valueless partition of the function attributes is stable; what `serDev` accepts is read
    back as it was. -/
theorem C17_meta_idempotent (X Q : ModelDP) (h : serModelD (deserModelD X) = .ok Q) :
    serModelD (deserModelD Q) = .ok Q :=
  (rtModelD _ Q (wfDeserModelD X) h).2

/-- **C17_idempotent_decorated**: core model (main graph, functions: `C17_idempotent_model`) and decorations
    together: whenever `deserializeX X = .ok W`, serializing `W` raises — and then only in the decorations (the
    device-configuration checks) — or yields a proto that deserializes and serializes to itself.  No
    hypothesis on `X`. -/
theorem C17_idempotent_decorated (X : XModelP) (W : XWorld) (hd : deserializeX X = .ok W) :
    (∃ e, serializeX W = .error (.deco e)) ∨
    ∃ (W1 : XWorld) (Q : XModelP) (D : XWorld) (W2 : XWorld),
      serializeX W = .ok (W1, Q) ∧ deserializeX Q = .ok D ∧ serializeX D = .ok (W2, Q) := by
  simp only [deserializeX] at hd
  split at hd
  · simp at hd
  · rename_i m hm
    simp only [Except.ok.injEq] at hd
    subst hd
    obtain ⟨m1, Qc, Dc, m2, h1, h2, h3⟩ := C17_idempotent_model X.core m hm
    cases hq : serModelD (deserModelD X.deco) with
    | error e => exact .inl ⟨e, by simp only [serializeX, h1, hq]⟩
    | ok Qd =>
      have hfix := C17_meta_idempotent X.deco Qd hq
      exact .inr ⟨⟨m1, deserModelD X.deco⟩, ⟨Qc, Qd⟩, ⟨Dc, deserModelD Qd⟩, ⟨m2, deserModelD Qd⟩,
        by simp only [serializeX, h1, hq], by simp only [deserializeX, h2], by simp only [serializeX, h3, hfix]⟩

/-- **C17_meta_aligned**: the decorations stay on their carrier also where the carrier is chosen by a dict:
    when the decorated functions of the proto carry the identifiers of the core functions (same order), the
    functions dict of the decorations has the keys of the functions dict of the core, in the same order —
    with duplicate identifiers too (both keep the first position; `C17_idempotent_decorated` shows both keep
    a fix-point). -/
theorem C17_meta_aligned (X : XModelP) (W : XWorld) (hd : deserializeX X = .ok W)
    (hid : X.deco.funcs.map (·.id) = X.core.funcs.map (·.id)) :
    W.deco.funcs.map (·.1) = W.core.funcs.map (·.1) := by
  simp only [deserializeX] at hd
  split at hd
  · simp at hd
  · rename_i m hm
    simp only [Except.ok.injEq] at hd
    subst hd
    simp only [deserializeM] at hm
    split at hm
    · simp at hm
    · rename_i st g _
      split at hm
      · simp at hm
      · rename_i st1 fs hfs
        simp only [Except.ok.injEq] at hm
        subst hm
        show (deserFuncsD [] X.deco.funcs).map (·.1) = fs.map (·.1)
        rw [deserFuncsD_keys, deserFuncs_keys _ _ _ _ _ hfs, hid]
        rfl

/-! ### the IR version < 10 format of function value info (`Model/ScopeFunc9.lean`) -/

/-- main graph: `Identity(x) -> "custom::f/c"`, `Identity("custom::f/c") -> y`; function `custom::f`:
    `Identity(a) -> c` with `value_info [c : f32]`.  The name of the main-graph value has the form under which
    the IR < 10 format stores the value info of the function value `c` in the main graph. -/
def exampleIR9 : ModelP :=
  ⟨.mk [⟨"x", { ty := some "f32" }⟩] [] []
      [ .mk ["x"] ["custom::f/c"] [], .mk ["custom::f/c"] ["y"] [] ] [⟨"y", { ty := some "f32" }⟩],
    [⟨⟨"custom", "f", ""⟩, ["a"], ["c"], [⟨"c", { ty := some "f32" }⟩], [ .mk ["a"] ["c"] [] ]⟩]⟩

/-- the lengths of the main graph's value_info after the first and after the second
    deserialize-then-serialize -/
def vinfoLens9 (fixed : Bool) (P : ModelP) : Option (Nat × Nat) :=
  match deserializeM9 P with
  | .error _ => none
  | .ok m =>
    match serializeM9 fixed m with
    | .error _ => none
    | .ok (_, Q) =>
      match deserializeM9 Q with
      | .error _ => none
      | .ok D =>
        match serializeM9 fixed D with
        | .error _ => none
        | .ok (_, Q2) => some (Q.graph.vinfo.length, Q2.graph.vinfo.length)

/-- **C17_ir9_not_idempotent** (finding D320, repaired in /repo f0d2984): for the IR version < 10 format the
    fix-point statement was FALSE — in the model of the code before the repair (`serializeM9 false`) there is a
    proto `P` that deserializes, whose serialization `Q` deserializes, and whose second serialization `Q2` is not
    `Q` (the main graph's value_info has one entry in `Q` and two in `Q2`).  The witness `exampleIR9` reproduced
    on the real code (corpus/C17 `D320`, proposed_fixes/D320.md).  The model of the repaired code is
    `serializeM9 true`; the correspondence check compares its `Q` AND `Q2` with the real ones on every generated
    IR < 10 model with functions; the fix-point THEOREM for `serializeM9 true` is `C17_idempotent_ir9`. -/
theorem C17_ir9_not_idempotent :
    ∃ (P : ModelP) (m m1 : MWorld) (Q : ModelP) (D m2 : MWorld) (Q2 : ModelP),
      deserializeM9 P = .ok m ∧ serializeM9 false m = .ok (m1, Q) ∧ deserializeM9 Q = .ok D ∧
      serializeM9 false D = .ok (m2, Q2) ∧ Q2.graph.vinfo.length ≠ Q.graph.vinfo.length := by
  have h : vinfoLens9 false exampleIR9 = some (1, 2) := by decide +kernel
  unfold vinfoLens9 at h
  split at h
  · simp at h
  · rename_i m hm
    split at h
    · simp at h
    · rename_i m1 Q hq
      split at h
      · simp at h
      · rename_i D hD
        split at h
        · simp at h
        · rename_i m2 Q2 hq2
          simp only [Option.some.injEq, Prod.mk.injEq] at h
          exact ⟨exampleIR9, m, m1, Q, D, m2, Q2, hm, hq, hD, hq2, by omega⟩

/-- with the repair of D320 (`serializeM9 true`: no experimental entry under the name of a main-graph value) the
    witness is a fix-point: no entry is written at all -/
example : vinfoLens9 true exampleIR9 = some (0, 0) := by decide +kernel

/-- and without a name collision the format works as intended (one entry, stable) -/
example : vinfoLens9 false ⟨.mk [⟨"x", {}⟩] [] [] [ .mk ["x"] ["y"] [] ] [⟨"y", {}⟩], exampleIR9.funcs⟩ = some (1, 1) := by
  decide +kernel

/-- **C17_ir9_entries_inert** (the repaired IR version < 10 format, `serializeM9 true`): the
    experimental `domain::function/value` entries that serialization appends to the MAIN graph's value_info are
    inert for the main graph — with or without them the main graph deserializes to the same store and tree (or
    the same error), in every store and under every scope stack.  This is exactly what was false before the
    repair of D320 (`C17_ir9_not_idempotent`: an entry named like a main-graph value was attached to that value
    on load); it holds for EVERY model `m` whose main-graph initializers are keyed by the name of their value
    (`hkeys`: decidable, a clause of `C17_consistent`'s `tree` for every deserialized model; evaluated by the
    driver on every IR < 10 case, counter ir9_init_keys_named).  Proof: `_deserialize_graph` reads its value_info
    table only at the names of its initializer tensors and of the inputs / outputs of its own nodes
    (`deserGraph_vinfo_congr`); every such non-empty name of the serialized main graph is one of the reserved
    names of the repair (`lookupNames_reserved`); an experimental entry is written only under a name that is not
    reserved and parses back, hence is not empty (`expOfFunc_mem`).
    The full fix-point (the entries are read back into the FUNCTION values they were written for and written again
    unchanged) is `C17_idempotent_ir9`, which uses this lemma for the main graph. -/
theorem C17_ir9_entries_inert (m w1 : MWorld) (Q : ModelP) (h : serializeM9 true m = .ok (w1, Q))
    (hkeys : ∀ kv ∈ m.root.inits, (m.st.vals kv.2).name = some kv.1) :
    ∃ q, serializeM m = .ok (w1, q) ∧
      (∀ (st : Store) (outer : List Table), deserGraph st outer Q.graph = deserGraph st outer q.graph) ∧
      deserialize Q.graph = deserialize q.graph := by
  obtain ⟨q, hq, he⟩ := ir9_entries_inert m w1 Q h hkeys
  exact ⟨q, hq, he, by simp only [deserialize, he]⟩

/-- **C17_idempotent_ir9** (the fix-point of the repaired IR version < 10 format): for EVERY model proto `P`
    (duplicate function identifiers, overloads, domains / names containing `::`
    or `/`, main-graph values or value_info entries named like experimental entries, duplicate input names,
    empty-named outputs included): if `deserializeM9 P` returns an IR `m`, serializing it with the repaired code
    (`serializeM9 true`) succeeds and gives a proto `Q` that deserializes and serializes to itself.  No hypothesis
    beyond "deserialization succeeded".  With `C17_ir9_not_idempotent` this is the exact status of the format: the
    fix-point is false before the repair of D320 and a theorem after it.
    Proof (`Lemmas/ScopeFunc9*.lean`): `m` is a `ReloadableM` model `m0` whose function-value infos were replaced by
    the post-pass by an info that is a function of the NAME among a function's inputs and node outputs
    (`ir9_core`); clearing the infos of the truthy-named function values keeps the certificate (`clear_reloadable`:
    `replF` / `replG` read infos only where stated), that model round-trips (`reloadableM_roundtrip`), the
    experimental entries are inert for the main graph (`ir9_entries_inert`), every entry parses back to the name it
    was written under (`parseExp_eq`, `canParseBack`), and the post-pass of the reloaded model applies by name
    exactly the entries that were written by name, so the second serialization writes the same entries. -/
theorem C17_idempotent_ir9 (P : ModelP) (m : MWorld) (hd : deserializeM9 P = .ok m) :
    ∃ (m1 : MWorld) (Q : ModelP) (D m2 : MWorld),
      serializeM9 true m = .ok (m1, Q) ∧ deserializeM9 Q = .ok D ∧ serializeM9 true D = .ok (m2, Q) :=
  idempotent_ir9 P m hd

/-! ### the extended model (`Model/ScopeExt.lean`): merged value metadata, quantization annotations, sharding
values of node device configurations -/

/-- **C17_ext_erasure**: the extended deserializer (which threads the merged `metadata_props` of every value, its
    quantization annotation and the resolved sharding values of every node next to the store) run on ANY
    extended proto, and the core deserializer run on the erased proto (value infos without their metadata, no
    annotations, no device configurations), return the same store and the same tree, or the same error: none
    of the three features influences name resolution, allocation, use-def links or ownership. -/
theorem C17_ext_erasure (p : GraphE) :
    (match deserializeE p with
      | .ok w => deserialize (eraseG p) = .ok w.core
      | .error e => deserialize (eraseG p) = .error e) :=
  deserializeE_erase p

/-- **C17_consistent_ext**: `C17_consistent` and `C17_deserialize_WF` for the extended model: whatever the
    metadata entries, quantization annotations and device configurations of the proto (dangling / repeated /
    empty tensor names included), an IR that the extended deserializer returns has consistent use-def and
    ownership links and satisfies the kernel invariant of C01. -/
theorem C17_consistent_ext (p : GraphE) (w : WorldE) (h : deserializeE p = .ok w) :
    Consistent w.core ∧ Kernel.WF (toKernel w.core) := by
  have he := deserializeE_erase p
  rw [h] at he
  exact ⟨C17_consistent _ _ he, C17_deserialize_WF _ _ he⟩

/-- **C17_ext_sharding_named**: in every IR the extended deserializer returns, every value a sharding spec of a
    node device configuration was RESOLVED to (`ShardV.val v`: the innermost binding of the spec's tensor_name in
    the scopes visible at the node, placeholders of earlier and of this node included) is an allocated value of
    the model and carries a non-empty name — the reference never dangles, and serializing the spec never raises
    for lack of a value or of a name.  (Unresolved names become `ShardV.fresh`: a value entered nowhere.)  No
    hypothesis on the proto.  Proof: induction over the four mutually recursive deserializers with the
    invariants `Named` / `TablesLt` of every visible scope, imported from the core model through the erasure. -/
theorem C17_ext_sharding_named (p : GraphE) (w : WorldE) (h : deserializeE p = .ok w) :
    ∀ n d, d ∈ w.ext.devs n → ∀ s ∈ d.specs, ∀ v, s.1 = ShardV.val v →
      v < w.st.nv ∧ ∃ t, t ≠ "" ∧ (w.st.vals v).name = some t :=
  deserializeE_devsOK p w h

/-- **C17_ext_erasure_model**: `C17_ext_erasure` for models with functions (IR version >= 10 format): main graph
    and function bodies; the functions dict of the extended run is the functions dict of the core run. -/
theorem C17_ext_erasure_model (p : ModelE) :
    (match deserializeME p with
      | .ok w => deserializeM (eraseM p) = .ok w.core
      | .error e => deserializeM (eraseM p) = .error e) :=
  deserializeME_erase p

/-- **C17_ext_sharding_named_model**: `C17_ext_sharding_named` for models with functions: also in function bodies
    (whose scope is the function's own: inputs, node outputs, placeholders) every resolved sharding value is an
    allocated, named value. -/
theorem C17_ext_sharding_named_model (p : ModelE) (w : MWorldE) (h : deserializeME p = .ok w) :
    ∀ n d, d ∈ w.ext.devs n → ∀ s ∈ d.specs, ∀ v, s.1 = ShardV.val v →
      v < w.st.nv ∧ ∃ t, t ≠ "" ∧ (w.st.vals v).name = some t :=
  deserializeME_devsOK p w h

/-- **C17_total_ext**: `C17_total` for the extended deserializer (same note) -/
theorem C17_total_ext (p : GraphE) :
    (∃ w, deserializeE p = .ok w) ∨ (∃ e, deserializeE p = .error e) := by
  cases h : deserializeE p with
  | ok w => exact .inl ⟨w, rfl⟩
  | error e => exact .inr ⟨e, rfl⟩

/-- **C17_ext_payload_fixpoint** (the PAYLOAD half of the extended model's fix-point).  The
    fix-point `serializeE (deserializeE q) = q` of the extended model has two halves: the FLOW (which entry of
    the re-serialized proto reaches which value of the reloaded model) and the PAYLOAD (what an entry written by
    the serializer becomes when it is read and written again).  This theorem is the payload half, for EVERY
    model the extended deserializer returns, with no hypothesis on the proto:
    (1) merged `metadata_props` have distinct keys, so what `serialize_value_into` writes (sorted by key) is read
    back by the creation entry of the reloaded value as it was written, a graph-output entry carrying the same
    metadata merged over it (`metadata_props.update`) changes nothing, and the result is written again unchanged;
    (2) a quantization annotation is a non-empty dict with distinct keys: it is written, read back as a non-empty
    dict and written again as it was;
    (3) the device configurations that serialization writes for a node are read back — their sharding values
    resolved in ANY scope stack whose tables bind names to values carrying them (the invariant `Named` that holds
    of every scope of the deserializer) — as configurations that are written again as they were.
    The flow half for the extension state — that the entries carrying a value's metadata / annotation are the ones
    that reach its reloaded image — is `C17_idempotent_ext` / `C17_idempotent_ext_model`,
    which use this theorem's lemmas for the payload. -/
theorem C17_ext_payload_fixpoint (p : GraphE) (w : WorldE) (h : deserializeE p = .ok w) :
    (∀ v, ssUpdate [] (ssSorted (w.ext.vmeta v)) = ssSorted (w.ext.vmeta v) ∧
      ssUpdate (ssUpdate [] (ssSorted (w.ext.vmeta v))) (ssSorted (w.ext.vmeta v)) =
        ssUpdate [] (ssSorted (w.ext.vmeta v)) ∧
      ssSorted (ssUpdate [] (ssSorted (w.ext.vmeta v))) = ssSorted (w.ext.vmeta v)) ∧
    (∀ v ps, w.ext.quant v = some ps →
      (ssSorted ps).isEmpty = false ∧ ssOfEntries (ssSorted ps) ≠ [] ∧
      ssSorted (ssOfEntries (ssSorted ps)) = ssSorted ps) ∧
    (∀ n ps, serDevRs w.st.vals (w.ext.devs n) = .ok ps →
      ∀ (st' : Store) (scopes : List Table), (∀ t ∈ scopes, Named st' t) →
        serDevRs st'.vals (ps.map (deserDevR scopes)) = .ok ps) := by
  have hw := deserializeE_wf p w h
  refine ⟨fun v => meta_payload_fix _ (hw v).1, fun v ps hq => ?_, fun n ps hs st' scopes hn => ?_⟩
  · obtain ⟨h1, h2⟩ := (hw v).2 ps hq
    exact quant_payload_fix ps h1 h2
  · exact devs_payload_fix w.st.vals st'.vals scopes hn _ ps hs

/-- **C17_idempotent_ext** (the FLOW half, hence the full fix-point of the extended model of
    graphs): for EVERY extended proto `p` (value_info / input / output entries with metadata_props, quantization
    annotations with dangling / repeated / empty tensor names, node device configurations; dangling, duplicate,
    shadowed names, placeholders, unproduced outputs as in `C17_idempotent`) and every IR version `ver`: if
    `deserializeE p` returns `w`, then serializing `w` raises - and then only in a device configuration (a
    configuration without id, a sharding spec without value, at IR version >= 11; never for lack of a name:
    `reloadableE_ser`) -, or it yields a proto `q` that deserializes
    (`deserializeE q = .ok D`) and serializes to itself (`serializeE ver D = .ok (_, q)`): value_info entries
    with their metadata, the quantization_annotation list and the device configurations of every node included.
    No hypothesis beyond "deserialization succeeded".
    Proof: every deserialized model satisfies the certificate `ReloadableE` (`deserializeE_reloadableE`:
    `Reloadable` of the core, the representation invariant `ExtWF`, and `extG`: equally named values of one graph
    carry the same annotation, unbound graph outputs and empty-named node outputs carry none); `rtE_graph`
    (`Lemmas/ScopeExtRT.lean`) is the lock-step induction for `deserGraphE` on the proto written by `serGraphE`
    (built from the phase lemmas of the core induction `rt2_graph`, with the extension state added): every entry that reaches the image of a value was written for that
    value (inputs / outputs positionally, value_info and annotations by the uniqueness of the bindings of a
    name), so the images of the emitted values carry `normM` / `normQ` of the source payload
    (`C17_ext_payload_fixpoint`: merging = overwriting); `img2E_serGraph` (`Lemmas/ScopeExtIdem.lean`) is the
    congruence of `serGraphE` under the resulting isomorphism, the `seen` lists of the annotation loops mapped
    through the injective renaming; the device configurations are read back in name-preserving scopes
    (`deserializeE_devSpec`) and written again as they were (`devs_payload_fix`).
    Models with FUNCTIONS: `C17_idempotent_ext_model`. -/
theorem C17_idempotent_ext (ver : Option Int) (p : GraphE) (w : WorldE) (hd : deserializeE p = .ok w) :
    (∃ e, serializeE ver w = .error (.dev e)) ∨
    ∃ (w1 : WorldE) (q : GraphE) (D : WorldE) (w2 : WorldE),
      serializeE ver w = .ok (w1, q) ∧ deserializeE q = .ok D ∧ serializeE ver D = .ok (w2, q) := by
  rcases reloadableE_ser ver w (deserializeE_reloadableE p w hd) with ⟨q, ws, hs⟩ | ⟨e, hs⟩
  · obtain ⟨D, ws', hD, hq'⟩ := reloadableE_fixpoint ver w (deserializeE_reloadableE p w hd) q ws hs
    exact .inr ⟨⟨w.st.writes ws, w.ext, w.root⟩, q, D, ⟨D.st.writes ws', D.ext, D.root⟩,
      by simp only [serializeE, hs], hD, by simp only [serializeE, hq']⟩
  · exact .inl ⟨e, by simp only [serializeE, hs]⟩

/-- **C17_idempotent_ext_model**: `C17_idempotent_ext` for MODELS WITH FUNCTIONS (IR version
    >= 10 format, `deserializeME` / `serializeME`): main graph, nested graphs and function bodies with the metadata
    of their value_info entries and the device configurations of their nodes; several inputs of one name, duplicate
    function identifiers, placeholders inside functions included.  Whenever `deserializeME p = .ok w`, serializing `w`
    raises in a device configuration or yields a model proto `Q` that deserializes and serializes to itself.  No
    hypothesis beyond "deserialization succeeded".  Proof: `deserializeME_reloadableME` (certificate `ReloadableME`),
    `rtE_func` / `rtE_funcs` (the lock-step induction for function bodies, on top of `rtE_nodes`),
    `img2E_serFunction`, `deserializeME_devSpec`. -/
theorem C17_idempotent_ext_model (ver : Option Int) (p : ModelE) (w : MWorldE) (hd : deserializeME p = .ok w) :
    (∃ e, serializeME ver w = .error (.dev e)) ∨
    ∃ (w1 : MWorldE) (Q : ModelE) (D w2 : MWorldE),
      serializeME ver w = .ok (w1, Q) ∧ deserializeME Q = .ok D ∧ serializeME ver D = .ok (w2, Q) :=
  idempotent_extM ver p w hd

/-- **C17_ext_sharding_resolved**: in every IR the extended deserializer returns, every sharding value is the value
    its name resolves to in the scopes visible at its node (the certificate `DevCertG`, along the tables of the
    resolution certificate): the hypothesis under which the round trip preserves sharding values by identity
    (`C03_roundtrip_ext_devices`) holds for every deserialized model.  Strengthens `C17_ext_sharding_named`
    (allocated and named) to "is the innermost binding of its name at that node". -/
theorem C17_ext_sharding_resolved (p : GraphE) (w : WorldE) (h : deserializeE p = .ok w) :
    DevCertG w.st.vals w.ext [] w.root :=
  deserializeE_devCert p w h

/-- **C17_ext_sharding_resolved_model**: `C17_ext_sharding_resolved` for models with functions: also inside function
    bodies (whose scope is the function's own) every sharding value is the innermost binding of its name at its node
    (`DevCertM`: the hypothesis of `C03_roundtrip_ext`), duplicate function identifiers included. -/
theorem C17_ext_sharding_resolved_model (p : ModelE) (w : MWorldE) (h : deserializeME p = .ok w) : DevCertM w :=
  deserializeME_devCert p w h

/-- **C17_idempotent_partial**: if deserialization returns an IR `w` that is `Serializable` (the names
    of the proto were SSA per scope chain, every reference resolved to a definition of an enclosing
    scope, graph outputs were produced in their graph, no empty / duplicate names needed for
    references; decidable: `serializableB`), then serializing `w` gives a proto `q` that deserializes
    and serializes to itself.
    A special case of `C17_idempotent`, which needs no `Serializable` (protos with duplicate or dangling names,
    placeholders, graph outputs without producer, an initializer shadowing another are covered there); this
    one goes through the round trip of serializable models (`serialize_roundtrip_fixpoint`) and does not use
    that `w` was deserialized. -/
theorem C17_idempotent_partial (p : GraphP) (w : World) (_hd : deserialize p = .ok w) (hs : Serializable w) :
    ∃ (w1 : World) (q : GraphP) (D : World) (w2 : World),
      serialize w = .ok (w1, q) ∧ deserialize q = .ok D ∧ serialize D = .ok (w2, q) :=
  serialize_roundtrip_fixpoint w hs

/-! ### non-vacuity -/

/-- input `x`, initializer `w` (with an empty value_info entry), node `A(x, w, "", ghost) -> y, ""`
    with a subgraph using `y`, the later-declared `t` and the unknown `q`; node `B() -> t`. -/
def exampleProto : GraphP :=
  .mk [⟨"x", { ty := some "f32", sh := some "[2]" }⟩] [⟨"w", "d0", "f32", "[2]"⟩]
    [⟨"y", { ty := some "f32" }⟩, ⟨"w", {}⟩]
    [ .mk ["x", "w", "", "ghost"] ["y", ""]
        [ .mk [] [] [] [ .mk ["y", "t", "q"] ["r"] [] ] [⟨"r", {}⟩] ],
      .mk [] ["t"] [] ]
    [⟨"y", { ty := some "f32" }⟩]

def isOkB {ε α : Type} : Except ε α → Bool
  | .ok _ => true
  | .error _ => false

/-- the hypothesis of `C17_consistent` is satisfiable (placeholders, nested scope, unsorted order) -/
example : isOkB (deserialize exampleProto) = true := by decide +kernel

/-- and deserialization does reject: an output name declared twice in one scope -/
example : isOkB (deserialize (.mk [] [] [] [.mk [] ["a", "a"] []] [])) = false := by decide +kernel

/-- SSA variant of `exampleProto` (no dangling names): nested scope, unsorted order, an omitted input,
    a trailing empty output, an initializer with an empty value_info entry -/
def exampleSSA : GraphP :=
  .mk [⟨"x", { ty := some "f32", sh := some "[2]" }⟩] [⟨"w", "d0", "f32", "[2]"⟩]
    [⟨"y", { ty := some "f32" }⟩, ⟨"w", {}⟩]
    [ .mk ["x", "w", ""] ["y", ""]
        [ .mk [] [] [] [ .mk ["y", "t"] ["r"] [] ] [⟨"r", {}⟩] ],
      .mk [] ["t"] [] ]
    [⟨"y", { ty := some "f32" }⟩]

def deserSerializableB (p : GraphP) : Bool :=
  match deserialize p with
  | .ok w => serializableB w
  | .error _ => false

/-- the hypotheses of `C17_idempotent_partial` are satisfiable -/
example : ∃ w, deserialize exampleSSA = .ok w ∧ Serializable w := by
  have h : deserSerializableB exampleSSA = true := by decide +kernel
  unfold deserSerializableB at h
  split at h
  · next w hw => exact ⟨w, hw, serializableB_sound _ h⟩
  · exact absurd h (by simp)

/-- and they exclude something: the deserialization of `exampleProto` (dangling `ghost`, `q`) is not
    `serializableB` -/
example : deserSerializableB exampleProto = false := by decide +kernel

/-- a model with a function: input `a` with a value_info entry, a dangling name `zz`, a trailing empty
    output, the function output `c` produced by the node -/
def exampleModel : ModelP :=
  ⟨exampleSSA,
    [⟨⟨"dom", "f", ""⟩, ["a", "b"], ["c", "a"], [⟨"c", { ty := some "f32" }⟩, ⟨"a", { ty := some "f32", sh := some "[2]" }⟩],
      [ .mk ["a", "zz"] ["c", ""] [] ]⟩]⟩

/-- the hypotheses of the model-level theorems are satisfiable … -/
example : isOkB (deserializeM exampleModel) = true := by decide +kernel

/-- … and `deserializeM` does reject: a function output that nothing in the function binds -/
example : isOkB (deserializeM ⟨exampleSSA, [⟨⟨"dom", "f", ""⟩, ["a"], ["nowhere"], [], []⟩]⟩) = false := by
  decide +kernel

/-- a model in which two functions carry the same identifier (the case `C17_idempotent_model_partial`
    excludes): it deserializes, so `C17_idempotent_model` applies to it … -/
def exampleDupModel : ModelP :=
  ⟨exampleSSA,
    [⟨⟨"dom", "f", ""⟩, ["a"], ["c"], [], [ .mk ["a", "zz"] ["c"] [] ]⟩,
     ⟨⟨"dom", "g", ""⟩, [], [], [], []⟩,
     ⟨⟨"dom", "f", ""⟩, ["a", "b"], ["a"], [⟨"a", { ty := some "f32" }⟩], [ .mk ["b"] ["d", ""] [] ]⟩]⟩

example : isOkB (deserializeM exampleDupModel) = true := by decide +kernel

/-- … its identifiers are indeed not distinct, and the dict keeps two of the three functions -/
example : decide ((exampleDupModel.funcs.map (·.id)).Nodup) = false := by decide +kernel

example : (match deserializeM exampleDupModel with | .ok m => m.funcs.length | .error _ => 0) = 2 := by
  decide +kernel

/-- decorations: metadata with a duplicate key (`b` twice: the last value wins at the first position, then
    sorted), an opset domain twice, a node device configuration without configuration_id, a function with
    the attribute `alpha` twice (valued, then valueless: it ends in `attribute`) -/
def exampleDeco (ver : Int) : ModelDP :=
  ⟨ver, [some "producer", some "", none], [("", "18"), ("custom", "1"), ("", "19")],
    [("b", "1"), ("a", "2"), ("b", "3")], ["cfg0"],
    .mk (some "main") (some "") [("k", "v")]
      [ .mk "Add" none [("nk", "1"), ("nk", "2")] [⟨"", some "0", [("x", "spec")]⟩] [ .mk none none [] [] ] ],
    [⟨⟨"dom", "f", ""⟩, some "doc", [("", "18")], [], [("alpha", true, "i:1"), ("beta", true, "s:x")], ["alpha"], []⟩]⟩

/-- at IR version 10 the device configurations are dropped and the hypothesis of `C17_meta_idempotent` holds … -/
example : isOkB (serModelD (deserModelD (exampleDeco 10))) = true := by decide +kernel

/-- … at IR version 11 serialization raises (no configuration_id): the first alternative of
    `C17_idempotent_decorated` is taken -/
example : isOkB (serModelD (deserModelD (exampleDeco 11))) = false := by decide +kernel

/-- the hypothesis of `C17_meta_aligned` is satisfiable (and `deserializeX` succeeds) -/
example : isOkB (deserializeX ⟨exampleModel, exampleDeco 10⟩) = true ∧
    (exampleDeco 10).funcs.map (·.id) = exampleModel.funcs.map (·.id) := by decide +kernel

/-- an extended proto: input `x` with metadata, also a graph output with other metadata (merged), two
    annotations for `x` (the last wins), an annotation for the dangling name `ghost`, a node whose device
    configuration names `x` (resolved), `nowhere` (fresh value) and "" (no value) -/
def exampleExt : GraphE :=
  .mk [⟨"x", { ty := some "f32" }, [("k", "1"), ("a", "0")]⟩] [] []
    [ .mk ["x", "ghost"] ["y"] [⟨"cfg0", none, [("x", "s0"), ("nowhere", "s1"), ("", "s2")]⟩] [] ]
    [⟨"x", {}, [("k", "2")]⟩, ⟨"y", {}, []⟩]
    [⟨"x", [("SCALE_TENSOR", "s")]⟩, ⟨"x", [("SCALE_TENSOR", "t")]⟩, ⟨"ghost", [("ZERO_POINT_TENSOR", "z")]⟩]

/-- the hypothesis of `C17_consistent_ext` is satisfiable; the metadata of `x` is merged (`k` keeps its
    position and takes the last value), the last annotation wins, the placeholder `ghost` is annotated, the
    sharding values are resolved / fresh / absent -/
def exampleExtChk : Bool :=
  match deserializeE exampleExt with
  | .ok w => w.ext.vmeta 0 == [("k", "2"), ("a", "0")] && w.ext.quant 0 == some [("SCALE_TENSOR", "t")] &&
      w.ext.quant 2 == some [("ZERO_POINT_TENSOR", "z")] &&
      (w.ext.devs 0).map (·.specs.map (·.1)) == [[ShardV.val 0, ShardV.fresh "nowhere", ShardV.none]]
  | .error _ => false

example : exampleExtChk = true := by decide +kernel

/-- a model with a function whose node carries a device configuration naming the function input `a` (resolved),
    the placeholder `zz` (resolved: created by the node's own input list) and `other` (fresh) -/
def exampleExtModel : ModelE :=
  ⟨exampleExt, [⟨⟨"dom", "f", ""⟩, ["a"], ["c"], [⟨"c", { ty := some "f32" }, [("m", "1")]⟩],
    [ .mk ["a", "zz"] ["c"] [⟨"cfg0", none, [("a", "t0"), ("zz", "t1"), ("other", "t2")]⟩] [] ]⟩]⟩

def exampleExtModelChk : Bool :=
  match deserializeME exampleExtModel with
  | .ok w => (w.ext.devs 1).map (·.specs.map (·.1)) == [[ShardV.val 3, ShardV.val 5, ShardV.fresh "other"]] &&
      w.ext.vmeta 4 == [("m", "1")]
  | .error _ => false

example : exampleExtModelChk = true := by decide +kernel

/-- the hypotheses of `C17_ext_payload_fixpoint` are satisfiable with non-trivial payloads: `exampleExt` has merged
    metadata, an annotation, and (below IR version 11 nothing is written; from 11 on the spec without a value is
    refused, so the third clause is exercised on a variant without it) device configurations -/
def exampleExt2 : GraphE :=
  .mk [⟨"x", { ty := some "f32" }, [("k", "1"), ("a", "0")]⟩] [] []
    [ .mk ["x", "ghost"] ["y"] [⟨"cfg0", none, [("x", "s0"), ("nowhere", "s1")]⟩] [] ]
    [⟨"x", {}, [("k", "2")]⟩, ⟨"y", {}, []⟩]
    [⟨"x", [("SCALE_TENSOR", "s")]⟩]

example : (match deserializeE exampleExt2 with
    | .ok w => w.ext.vmeta 0 == [("k", "2"), ("a", "0")] && w.ext.quant 0 == some [("SCALE_TENSOR", "s")] &&
        (match serDevRs w.st.vals (w.ext.devs 0) with | .ok ps => ps.length == 1 | .error _ => false)
    | .error _ => false) = true := by decide +kernel

/-- the hypotheses of `C17_ir9_entries_inert` are satisfiable: an IR < 10 model with an initializer and a function
    whose value has something to say (one experimental entry is written) -/
def exampleIR9b : ModelP :=
  ⟨.mk [⟨"x", {}⟩] [⟨"w", "d0", "f32", "[2]"⟩] [] [ .mk ["x", "w"] ["y"] [] ] [⟨"y", {}⟩], exampleIR9.funcs⟩

example : (match deserializeM9 exampleIR9b with
    | .ok m => (match serializeM9 true m with
        | .ok (_, Q) => Q.graph.vinfo.length == 2
        | .error _ => false) && m.root.inits.all (fun kv => (m.st.vals kv.2).name == some kv.1)
    | .error _ => false) = true := by decide +kernel

/-- the hypothesis of `C17_idempotent_ext` is satisfiable and both alternatives occur: at IR version 10 the
    serialization of `exampleExt` succeeds (second alternative, with metadata, annotations and a placeholder), at IR
    version 11 it raises (the sharding spec without a value) -/
example : (match deserializeE exampleExt with
    | .ok w => isOkB (serializeE (some 10) w) && !isOkB (serializeE (some 11) w)
    | .error _ => false) = true := by decide +kernel

/-- the hypothesis of `C17_idempotent_ir9` is satisfiable with an experimental entry written (`exampleIR9b`) -/
example : isOkB (deserializeM9 exampleIR9b) = true := by decide +kernel

/-- the hypothesis of `C17_idempotent_ext_model` is satisfiable (a function whose node carries a device configuration,
    metadata on a function value) and the second alternative occurs at IR version 10 -/
example : (match deserializeME exampleExtModel with
    | .ok w => isOkB (serializeME (some 10) w)
    | .error _ => false) = true := by decide +kernel


/-! ### the attribute layer (`Model/ScopeAttr.lean`, theorems `C17_attr_*` in `Lemmas/ScopeAttrProps.lean`) -/

/-- **C17_idempotent_attrs**: `C17_idempotent_decorated` and `C17_attr_idempotent` together — core model,
    decorations and NODE ATTRIBUTES (scalar / list kinds, tensors, type protos, reference attributes, GRAPH /
    GRAPHS, doc strings, duplicate names) of one proto: whenever `deserializeY X = .ok W`, serializing `W` raises —
    in the decorations (device-configuration checks) or with the TypeError of a surviving UNDEFINED attribute — or
    yields a proto that deserializes and serializes to itself.  No hypothesis on `X`. -/
theorem C17_idempotent_attrs (X : YModelP) (W : YWorld) (hd : deserializeY X = .ok W) :
    (∃ e, serializeY W = .error (.x (.deco e))) ∨ serializeY W = .error (.attr .unsupported) ∨
    ∃ (W1 : YWorld) (Q : YModelP) (D : YWorld) (W2 : YWorld),
      serializeY W = .ok (W1, Q) ∧ deserializeY Q = .ok D ∧ serializeY D = .ok (W2, Q) := by
  simp only [deserializeY] at hd
  split at hd
  · simp at hd
  · rename_i w hx
    split at hd
    · simp at hd
    · rename_i a ha
      simp only [Except.ok.injEq] at hd
      subst hd
      rcases C17_idempotent_decorated X.x w hx with ⟨e, he⟩ | ⟨W1, Q, D, W2, h1, h2, h3⟩
      · exact .inl ⟨e, by simp only [serializeY, he]⟩
      · rcases C17_attr_idempotent X.attrs a ha with hq | ⟨Qa, hq, d1, d2⟩
        · exact .inr (.inl (by simp only [serializeY, h1, hq]))
        · exact .inr (.inr ⟨⟨W1, a⟩, ⟨Q, Qa⟩, ⟨D, canonModelA a⟩, ⟨W2, canonModelA a⟩,
            by simp only [serializeY, h1, hq], by simp only [deserializeY, h2, d1],
            by simp only [serializeY, h3, d2]⟩)

end IrVerif.Scope
