/-
C20 — journaling observes without interfering and always restores the classes.
Property theorems about `IrVerif.Journal` (Model/Journal.lean); lemmas in Lemmas/Journal*.lean.  Core Lean only.

The general theorems quantify over: every behaviour of the instrumented operations (`cfg.impl`: arbitrary
interaction trees that read/write the IR state, call other instrumented operations through the
class table, see their results and may catch their exceptions), every nesting bound `fuel`, every
block of user code (`Block`: any nesting of `with journal:` blocks to any depth, `try` blocks,
operations that raise), and every start world (restore: any class table; transparent / entries: any class table
that consists of wrapper chains, i.e. already inside any stack of journals).  The kernel theorems start from the
initial world.

/repo's wrappers look at `journal._active` (commit 1a1144b).  `runBlockG` / `runFlatG` / `dispatchG` are that
code; `C20_table_wrappers_active` proves the invariant "every wrapper installed in the class table belongs to an active
journal" along every properly nested history and that the checked code is state-for-state the unchecked one, and the
`*_guarded` theorems restate restore / transparent / entries / kernel for the checked code.  What the checked code does
outside "properly nested": `C20_inactive_journal_silent`, `C20_stale_wrapper_forwards`,
`C20_exit_restores_own_snapshot_guarded`, `C20_improper_nesting_general_guarded`.
-/
import IrVerif.Lemmas.Journal
import IrVerif.Lemmas.JournalKernel
import IrVerif.Lemmas.JournalGuard
namespace IrVerif.Journal

variable {σ : Type}

/-! ## restore -/

/-- **C20_restore**: for every block of user code — any nesting of `with journal:` blocks (also
    with the same journal object used again, nested or in sequence), any instrumented operations
    inside, exits taken normally or by an exception (`runBlock` runs `__exit__` on both paths),
    exceptions swallowed by `try` or not — started from *any* class table, any current journal and
    any set of already active journals: after the block the class table and the current journal
    are exactly what they were before it.  No hypothesis. -/
theorem C20_restore (cfg : Cfg σ) (fuel : Nat) (b : Block σ) (w : World σ) :
    (runBlock cfg fuel b w).1.table = w.table ∧ (runBlock cfg fuel b w).1.current = w.current :=
  ⟨(block_restore cfg fuel b w).1, (block_restore cfg fuel b w).2.1⟩

/-- every journal's `active` flag is restored as well -/
theorem C20_restore_active (cfg : Cfg σ) (fuel : Nat) (b : Block σ) (w : World σ) (i : Nat) :
    ((runBlock cfg fuel b w).1.journals i).active = (w.journals i).active :=
  (block_restore cfg fuel b w).2.2 i

/-- entering a journal object that is already active is refused: RuntimeError, the body does not
    run, nothing changes -/
theorem C20_reentry_refused (cfg : Cfg σ) (fuel j : Nat) (body : Block σ) (w : World σ)
    (h : (w.journals j).active = true) :
    runBlock cfg fuel (.withJ j body) w = (w, some enterExn) :=
  runBlock_withJ_refused cfg fuel j body w h

/-- The guard in `__enter__` is what makes `C20_restore` unconditional: without it (`enterRaw` is
    `__enter__` after the guard; this was defect D71 of /repo) entering the same journal object
    twice leaves its wrappers installed and leaves it as the current journal after both exits. -/
theorem C20_guard_needed :
    let w := exit 0 (exit 0 (enterRaw 0 (enterRaw 0 (initialWorld ()))))
    w.table 0 = .wrap 0 0 (.orig 0) ∧ w.current = some 0 := by
  simp [enterRaw, exit, upd, initialWorld, pristine]

/-- non-vacuity of `NoReentry`: three nested distinct journals, the same journal used twice in
    sequence, an exception inside -/
example : NoReentry (σ := Unit)
    (.seq (.withJ 0 (.withJ 1 (.withJ 2 (.op (.done (.raise 7))))))
          (.attempt (.withJ 0 (.op (.call 1 0 .none fun _ => .done (.ret .none)))))) := by
  simp [NoReentry, journalsOf]

/-! ## transparent -/

/-- **C20_transparent**: run any block of user code with its journals, from any world whose class
    table consists of wrapper chains (so: inside any stack of already active journals), and run the
    same code with every `with journal:` removed on the un-wrapped table.  The IR state, the outcome
    (return value or exception) of every operation, the exception leaving the block and the
    sequence of original functions executed (with their receivers and outcomes) are equal.
    Hypotheses, each shown to be needed by a counterexample below:
    * `ProcNone`: constructors and property setters return None (their wrappers discard the result);
    * `DetailsOk`: the wrappers' `details` expressions do not raise (it was false of /repo for
      `Node(..., graph=g)`: defect D70);
    * `DetailsPure`: evaluating a `details` expression does not change the state — in particular it
      does not consume a one-shot iterable argument;
    * no `__enter__` of the block is refused: no journal object is entered again while active
      (`NoReentry`) and the block's journals are not active when it starts. -/
theorem C20_transparent (cfg : Cfg σ) (hproc : ProcNone cfg) (hdet : DetailsOk cfg)
    (hpure : DetailsPure cfg) (fuel : Nat)
    (b : Block σ) (w : World σ) (hchain : Chain w.table) (hcap : CapturedOk w) (hn : NoReentry b)
    (hfresh : ∀ j ∈ journalsOf b, (w.journals j).active = false) :
    let r := runBlock cfg fuel b w
    let r0 := runBlock cfg fuel (strip b) { w with table := pristine }
    r.1.ir = r0.1.ir ∧ r.1.log = r0.1.log ∧ r.2 = r0.2 ∧
      r.1.trace.filter isCall = r0.1.trace.filter isCall := by
  have hrel : Rel w { w with table := pristine } := ⟨rfl, rfl, rfl, hchain, rfl⟩
  have h := block_rel cfg hproc (details_eq hdet hpure) fuel b w _ hrel hn hfresh
  exact ⟨h.1.ir, h.1.log, h.2, h.1.calls⟩

/-- the start of a program: nothing wrapped, no journal ever entered -/
theorem C20_transparent_from_start (cfg : Cfg σ) (hproc : ProcNone cfg) (hdet : DetailsOk cfg)
    (hpure : DetailsPure cfg) (fuel : Nat) (b : Block σ) (s : σ) (hn : NoReentry b) :
    let r := runBlock cfg fuel b (initialWorld s)
    let r0 := runBlock cfg fuel (strip b) (initialWorld s)
    r.1.ir = r0.1.ir ∧ r.1.log = r0.1.log ∧ r.2 = r0.2 ∧
      r.1.trace.filter isCall = r0.1.trace.filter isCall := by
  have hcap : CapturedOk (initialWorld s) := by intro j t ht; simp [initialWorld] at ht
  exact C20_transparent cfg hproc hdet hpure fuel b (initialWorld s) chain_pristine hcap hn
    (fun _ _ => rfl)

/-- `DetailsOk` is needed: if the `details` expression of one wrapper raises (as `repr(node)` did
    in the wrapper of `Graph.append` when `Node.__init__` appended the half-built node), the
    operation raises inside a journal and succeeds outside. -/
theorem C20_transparent_needs_DetailsOk :
    let cfg : Cfg Unit := { impl := fun _ _ _ => .done (.ret .none), owner := id,
                            details := fun k _ _ s => if k = 21 then none else some s }
    let b : Block Unit := .withJ 0 (.op (.call 21 5 .none fun o => .done o))
    (runBlock cfg 3 b (initialWorld ())).1.log = [.raise detailsExn] ∧
    (runBlock cfg 3 (strip b) (initialWorld ())).1.log = [.ret .none] := by
  simp [runBlock, strip, runProg, dispatch, runImpl, runOrig, enter, enterRaw, exit, upd, initialWorld,
    pristine, emit, kindOf, slots]

/-- `DetailsPure` is needed: a `details` expression that changes the state (here: counts up, as
    consuming one element of a generator argument would) makes the operation see, and leave, a
    different state inside a journal. -/
theorem C20_transparent_needs_DetailsPure :
    let cfg : Cfg Nat := { impl := fun _ _ _ => .get fun s => .done (.ret (.int s)), owner := id,
                           details := fun _ _ _ s => some (s + 1) }
    let b : Block Nat := .withJ 0 (.op (.call 22 5 .none fun o => .done o))
    (runBlock cfg 3 b (initialWorld 0)).1.log = [.ret (.int 1)] ∧
    (runBlock cfg 3 (strip b) (initialWorld 0)).1.log = [.ret (.int 0)] ∧
    (runBlock cfg 3 b (initialWorld 0)).1.ir = 1 ∧
    (runBlock cfg 3 (strip b) (initialWorld 0)).1.ir = 0 := by
  simp [runBlock, strip, runProg, dispatch, runImpl, runOrig, enter, enterRaw, exit, upd, initialWorld,
    pristine, emit, kindOf, slots, record]

/-- `NoReentry` is needed: the nested `__enter__` of an active journal raises. -/
theorem C20_transparent_needs_NoReentry :
    let cfg : Cfg Unit := { impl := fun _ _ _ => .done (.ret .none), owner := id,
                            details := fun _ _ _ s => some s }
    let b : Block Unit := .withJ 0 (.withJ 0 (.op (.done (.ret .none))))
    (runBlock cfg 3 b (initialWorld ())).2 = some enterExn ∧
    (runBlock cfg 3 (strip b) (initialWorld ())).2 = none := by
  simp [runBlock, strip, runProg, enter, enterRaw, exit, upd, initialWorld]

/-- `ProcNone` is needed: `_init_wrapper` (and `_setter_wrapper`) discard what the original returned. -/
theorem C20_transparent_needs_ProcNone :
    let cfg : Cfg Unit := { impl := fun _ _ _ => .done (.ret (.int 5)), owner := id,
                            details := fun _ _ _ s => some s }
    let b : Block Unit := .withJ 0 (.op (.call 1 5 .none fun o => .done o))
    (runBlock cfg 3 b (initialWorld ())).1.log = [.ret .none] ∧
    (runBlock cfg 3 (strip b) (initialWorld ())).1.log = [.ret (.int 5)] := by
  simp [runBlock, strip, runProg, dispatch, runImpl, runOrig, enter, enterRaw, exit, upd, initialWorld,
    pristine, emit, kindOf, slots, record]

/-- non-vacuity of `ProcNone`, `DetailsOk`, `DetailsPure`: constructors and setters that call a
    method and return None, methods that return a value or raise depending on the state -/
example : ProcNone (σ := Nat)
    { impl := fun k self _ =>
        if kindOf k = .init ∨ kindOf k = .setter then .call 11 self .none (fun _ => .done (.ret .none))
        else .get (fun s => if s = 0 then .done (.raise 9) else .done (.ret (.int 1))),
      owner := id, details := fun _ _ _ s => some s } := by
  intro k hk disp self arg w v hv
  simp [hk, runProg] at hv
  exact hv.symm

example : DetailsOk (σ := Nat)
    { impl := fun _ _ _ => .done (.ret .none), owner := id, details := fun _ _ _ s => some s } :=
  fun _ _ _ s => ⟨s, rfl⟩

example : DetailsPure (σ := Nat)
    { impl := fun _ _ _ => .done (.ret .none), owner := id, details := fun _ _ _ s => some s } := by
  intro k self arg s s' h
  simp at h
  exact h.symm

/-- non-vacuity of `Chain` / `CapturedOk`: they hold at program start and inside two journals -/
example : Chain (enterRaw 1 (enterRaw 0 (initialWorld ()))).table ∧
    CapturedOk (enterRaw 1 (enterRaw 0 (initialWorld ()))) := by
  refine ⟨fun k => ⟨rfl, rfl, rfl⟩, ?_⟩
  intro j t ht
  by_cases h1 : j = 1
  · subst h1
    simp [enterRaw, upd] at ht
    subst ht
    exact fun k => ⟨rfl, rfl⟩
  · by_cases h0 : j = 0
    · subst h0
      simp [enterRaw, upd, initialWorld] at ht
      subst ht
      exact chain_pristine
    · simp [enterRaw, upd, initialWorld, h1, h0] at ht

/-! ## entries -/

/-- **C20_entries**: for every journal `j` that is not active at the start and has no wrapper left in the class table
    (`hchain`, `hj`; what fails in the world `C20_improper_nesting_general` leaves behind) and every block (no
    hypothesis on the block: a refused re-entry just raises): the entries that `j` gains are
    exactly `expectedFor` of the events of the run — one entry per instrumented operation that
    *completed* (returned) while `j` was entered, in order of completion; an operation that raises
    contributes nothing (operations that completed inside it keep their entries); the entry
    designates `self`, or the owning graph / node for container methods; operations outside the
    `with` block contribute nothing.  This holds simultaneously for every journal of a nest (the
    theorem is for arbitrary `j`).  Hypothesis `DetailsOk` (a raising details expression aborts the
    call); `DetailsPure` is not needed. -/
theorem C20_entries (cfg : Cfg σ) (hdet : DetailsOk cfg) (fuel : Nat) (j : Nat) (b : Block σ)
    (w : World σ) (hchain : Chain w.table) (hj : ∀ k, (w.table k).cnt j = 0)
    (hact : (w.journals j).active = false) :
    ∃ evs, (runBlock cfg fuel b w).1.trace = w.trace ++ evs ∧
      ((runBlock cfg fuel b w).1.journals j).entries =
        (w.journals j).entries ++ expectedFor cfg.owner j false evs := by
  obtain ⟨evs, htr, he, _⟩ := block_entries cfg hdet fuel j b w false hchain hj hact
  exact ⟨evs, htr, he⟩

/-- a journal that is already entered around the block records the block's operations in the same way -/
theorem C20_entries_active (cfg : Cfg σ) (hdet : DetailsOk cfg) (fuel : Nat) (j : Nat) (b : Block σ)
    (w : World σ) (hchain : Chain w.table) (hj : ∀ k, (w.table k).cnt j = 1)
    (hact : (w.journals j).active = true) :
    ∃ evs, (runBlock cfg fuel b w).1.trace = w.trace ++ evs ∧
      ((runBlock cfg fuel b w).1.journals j).entries =
        (w.journals j).entries ++ expectedFor cfg.owner j true evs := by
  obtain ⟨evs, htr, he, _⟩ := block_entries cfg hdet fuel j b w true hchain hj hact
  exact ⟨evs, htr, he⟩

/-- a method that raises is not recorded -/
example : expectedFor id 0 true [.start 21 5, .finish 21 5 (.raise 3)] = [] := by
  simp [expectedFor]

/-- a constructor that raises is not recorded; the constructor it had completed inside is; order
    is order of completion (the inner constructor before the method that called it) -/
example : expectedFor id 0 true
    [.start 1 5, .start 12 6, .finish 12 6 (.ret .none), .finish 1 5 (.raise 3),
     .start 21 7, .start 11 8, .finish 11 8 (.ret .none), .finish 21 7 (.ret .none)] =
    [mkEntry 12 6, mkEntry 11 8, mkEntry 21 7] := by
  simp [expectedFor, kindOf, slots, targetOf]

/-- a container method is recorded on its owner; operations before `enter` are not recorded -/
example : expectedFor (fun o => o + 100) 0 false
    [.start 21 5, .finish 21 5 (.ret .none), .enter 0, .start 33 7, .finish 33 7 (.ret .none), .exit 0,
     .start 26 5, .finish 26 5 (.ret .none)] = [mkEntry 33 107] := by
  simp [expectedFor, kindOf, slots, targetOf]

/-! ### the installed table and the order of effects in a wrapper -/

/-- the two tables describe the same 43 slots: a constructor slot is installed by assigning
    `__init__`, a setter wrapper (and the `Node.graph` setter, which uses the method wrapper) through a
    new `property`, everything else by plain assignment; only `TensorBase.__init__` and `Graph.sort`
    have a `details` expression that is `None`.  (That the keys, classes, attributes and `details`
    texts are those of _wrappers.py is checked on every run: `journal.meta` / `journal.details`.) -/
theorem C20_slot_table :
    slotMeta.length = nSlots ∧ nSlots = 43 ∧
    (∀ k : Fin 43, ((metaOf k).install = .ctor ↔ kindOf k = .init) ∧
      (kindOf k = .setter → (metaOf k).install = .propSetter) ∧
      (kindOf k = .container → (metaOf k).install = .method) ∧
      ((metaOf k).details = .none ↔ (k.val = 0 ∨ k.val = 26))) := by
  refine ⟨by decide, by decide, ?_⟩
  decide

/-- **order of effects, for every slot** (computed by running `runImpl`, the function all other
    theorems are about, on a probe configuration): the `details` expression is evaluated before the
    original for every wrapper except the constructor wrapper; the entry is written after the
    original returned, so an original that raises leaves no entry; method and container wrappers hand
    the result back, constructor and setter wrappers return None; the entry is about `self` except for
    container wrappers (owner). -/
theorem C20_wrapper_order (k : Nat) :
    detailsBefore k = (kindOf k != .init) ∧ recordAfter k = true ∧
    returnsResult k = (kindOf k == .method || kindOf k == .container) ∧
    recordsSelf k = (kindOf k != .container) := by
  -- the probe run depends on `k` only through `kindOf k` (the observed projections do not see `opOf k`)
  cases h : kindOf k <;>
    simp [detailsBefore, recordAfter, returnsResult, recordsSelf, probeRun, probeCfg, dispatch, runImpl,
      runOrig, runProg, enterRaw, initialWorld, pristine, emit, record, upd, mkEntry, targetOf, h]

/-! ### no strong reference -/

/-- **C20_no_strong_ref**: a statement about the model's transcription of `Journal.record` (`recordFull`, all eight
    fields of the dataclass): for every slot, target, class, clock value, stack and environment of `repr`s the
    `details` expression is evaluated on, no field is an instance (`FVal.inst`) — the object is designated by the weak
    reference and by its integer id only, `details` is a string (or None), `class_` a class, the stack frames strings
    and line numbers.  True by the way `recordFull` is written; that the real `record` builds this entry is what the
    harness compares (dataclass introspection, the 43 `details` strings, `gc.get_referents` of every entry). -/
theorem C20_no_strong_ref (k : Nat) (t : Obj) (className : String) (clock : Nat) (stack : List Frame)
    (e : DEnv) :
    (recordSlot k t className clock stack e).fields.flatMap (fun p => p.2.strong) = [] := by
  simp [recordSlot, recordFull, EntryFull.fields, FVal.strong]

/-- the same for any call of `record`, including `record(None, ...)` -/
theorem C20_no_strong_ref_record (operation : String) (obj : Option Obj) (className : String)
    (clock : Nat) (stack : List Frame) (details : Option String) :
    (recordFull operation obj className clock stack details).fields.flatMap (fun p => p.2.strong) = [] := by
  simp [recordFull, EntryFull.fields, FVal.strong]

/-- the full entry projects onto the `Entry` of the run theorems (`mkEntry`), whose handle is weak -/
theorem C20_entry_core (k : Nat) (t : Obj) (className : String) (clock : Nat) (stack : List Frame)
    (e : DEnv) :
    (recordSlot k t className clock stack e).core k = some (mkEntry k t) ∧ (mkEntry k t).strong = [] := by
  simp [recordSlot, recordFull, EntryFull.core, mkEntry, Entry.strong]

/-- and no run adds anything else: after any block of user code, from a world whose entries are all
    weak, every entry of every journal is weak -/
theorem C20_no_strong_ref_run (cfg : Cfg σ) (fuel : Nat) (b : Block σ) (w : World σ)
    (h : ∀ i, heldBy (w.journals i) = []) :
    ∀ i, heldBy ((runBlock cfg fuel b w).1.journals i) = [] :=
  block_allWeak cfg fuel b w h

/-- a field that did hold an instance would be seen by `strong` (non-vacuity of the statements above) -/
example : (FVal.inst 7).strong = [7] ∧ (FVal.weak (some 7)).strong = [] := by simp [FVal.strong]

/-- the `details` strings are what the lambdas of _wrappers.py print -/
example : detailsOf 17 { argRepr := fun i => if i = 0 then some "Value(x)" else none } =
    some "replacement=Value(x), replace_graph_outputs=False" := by
  simp [detailsOf, metaOf, slotMeta, DSpec.eval, Piece.eval, String.join]

/-! ### `__exit__` interrupted by a failing restore step (observation D470; outside the property) -/

/-- `C20_restore` assumes that the 43 assignments of `restore_ir_classes` do not raise.  If step `n`
    does, exactly the slots before `n` are restored; the others, the current journal and the active
    flag stay. -/
theorem C20_exit_fault (j n : Nat) (w : World σ) (t : Table) (h : (w.journals j).captured = some t) :
    (∀ k, k < n → (exitFail j n w).table k = t k) ∧
    (∀ k, n ≤ k → (exitFail j n w).table k = w.table k) ∧
    (exitFail j n w).current = w.current ∧ (exitFail j n w).journals = w.journals := by
  refine ⟨fun k hk => by simp [exitFail, h, hk], fun k hk => ?_, by simp [exitFail, h], by simp [exitFail, h]⟩
  have : ¬ k < n := by omega
  simp [exitFail, h, this]

/-- the concrete hazard: a journal whose `__exit__` failed at step 20 leaves slots 20.. wrapped and
    stays the current, active journal -/
theorem C20_exit_fault_leaves_wrapped :
    let w := exitFail 0 20 (enterRaw 0 (initialWorld ()))
    w.table 19 = .orig 19 ∧ w.table 20 = .wrap 0 20 (.orig 20) ∧ w.current = some 0 ∧
      (w.journals 0).active = true := by
  simp [exitFail, enterRaw, initialWorld, pristine, upd]

/-- calling `__exit__` again completes the restoration: the state is the one a successful exit
    would have produced -/
theorem C20_exit_retry (j n : Nat) (w : World σ) : exit j (exitFail j n w) = exit j w := by
  unfold exit exitFail
  cases h : (w.journals j).captured with
  | none => simp [h]
  | some t => simp [h]

/-- a journal held open by a generator that is closed (GeneratorExit thrown at the `yield`),
    collected, or thrown into: an exit by exception, restored like every other (instance of
    `C20_restore`) -/
theorem C20_restore_generator_close (cfg : Cfg σ) (fuel j e : Nat) (body : Block σ) (w : World σ) :
    (runBlock cfg fuel (.withJ j (.seq body (.op (.done (.raise e))))) w).1.table = w.table :=
  (C20_restore cfg fuel _ w).1

/-- ... but a generator lets exits happen out of order: journal 0 entered (generator suspended),
    journal 1 entered, generator closed (exit 0), exit 1.  The classes are left wrapped by the
    wrappers of journal 0, which is no longer active.  This is not "properly nested" and outside the
    property; `__exit__` does not check that it leaves the innermost journal. -/
theorem C20_improper_nesting_not_restored :
    let w := runCtl [(0, true), (1, true), (0, false), (1, false)] (initialWorld ())
    w.table 0 = .wrap 0 0 (.orig 0) ∧ (w.journals 0).active = false ∧ (w.journals 1).active = false := by
  simp [runCtl, enter, enterRaw, exit, initialWorld, pristine, upd]

/-! ### the journal model instantiated with the C01 kernel -/

/-- generic form (any list of public calls given by their call trees and kernel transitions): the plain run -/
theorem kernel_plain_g (f : Nat) (kb : GBlk) :
    let r := runBlock kCfg (f + 3) (strip kb.toBlock) (initialWorld { w := Kernel.World.empty })
    r.1.ir.w = gWorld Kernel.World.empty kb.allOps ∧ r.1.log = gLog Kernel.World.empty kb.allOps ∧
      r.1.trace = gEvs Kernel.World.empty kb.allOps ∧ r.2 = none := by
  obtain ⟨reg', last', h⟩ := run_gblk_plain f kb (initialWorld { w := Kernel.World.empty }) rfl
  simp only [h]
  simp [advH, initialWorld]

/-- generic form: the journaled run -/
theorem transparent_kernel_g (f : Nat) (kb : GBlk) (hn : NoReentry kb.toBlock) :
    let r := runBlock kCfg (f + 3) kb.toBlock (initialWorld { w := Kernel.World.empty })
    r.1.ir.w = gWorld Kernel.World.empty kb.allOps ∧ r.1.log = gLog Kernel.World.empty kb.allOps ∧
      r.2 = none ∧ r.1.trace.filter isCall = gEvs Kernel.World.empty kb.allOps ∧
      (∀ j, (r.1.journals j).entries = expectedFor kOwner j false r.1.trace) ∧
      r.1.table = pristine ∧ r.1.current = none := by
  intro r
  have ht := C20_transparent_from_start kCfg procNone_kCfg detailsOk_kCfg detailsPure_kCfg (f + 3)
    kb.toBlock { w := Kernel.World.empty } hn
  have hp := kernel_plain_g f kb
  simp only [] at ht hp
  obtain ⟨hir, hlog, hexc, hcalls⟩ := ht
  obtain ⟨pw, plog, ptr, pexc⟩ := hp
  refine ⟨by rw [← pw]; exact congrArg KState.w hir, by rw [← plog]; exact hlog, by rw [← pexc]; exact hexc,
    ?_, ?_, ?_, ?_⟩
  · rw [hcalls, ptr, isCall_gEvs]
  · intro j
    obtain ⟨evs, htr, he⟩ := C20_entries kCfg detailsOk_kCfg (f + 3) j kb.toBlock
      (initialWorld { w := Kernel.World.empty }) chain_pristine (fun _ => rfl) rfl
    have hevs : evs = r.1.trace := htr.symm
    rw [hevs] at he
    exact he
  · exact (C20_restore kCfg (f + 3) kb.toBlock _).1
  · exact (C20_restore kCfg (f + 3) kb.toBlock _).2

/-- without any journal, the instantiated configuration computes the kernel semantics: the world is
    `Kernel.runAny`, the outcomes are the kernel's, and the original functions executed are the
    call trees `callTree` of the successive calls, in order -/
theorem C20_kernel_plain (f : Nat) (kb : KBlk) :
    let r := runBlock kCfg (f + 3) (strip kb.toBlock) (initialWorld { w := Kernel.World.empty })
    r.1.ir.w = Kernel.runAny kb.allOps ∧ r.1.log = histLog Kernel.World.empty kb.allOps ∧
      r.1.trace = histEvs Kernel.World.empty kb.allOps ∧ r.2 = none := by
  have h := kernel_plain_g f kb.toG
  rw [← KBlk.toBlock_eq, KBlk.allOps_toG, gWorld_gOf] at h
  exact h

/-- **C20_transparent_kernel**: every history of the C01 kernel alphabet (single and composite
    calls, accepted or rejected), with `with journal:` blocks around any parts of it, nested to any
    depth (no journal object entered again while active), run with nesting bound at least 3 — the
    depth of the deepest call tree — from the start of the program:
    * leaves exactly the kernel world of the un-journaled history (`Kernel.runAny`),
    * every call has the kernel's outcome, no exception leaves the history,
    * the original functions executed are the instantiated call trees `callTree`, in program order,
    * every journal's entries are exactly `expectedFor` of what executed: one entry per instrumented
      call that completed while the journal was entered, in order of completion (a callee before its
      caller: the wrappers record after the original returned), nothing for a rejected call,
    * and the class table and the current journal are as at the start.
    (`histLog` carries the value a direct call returns, e.g. `graph.inputs.pop()`.) -/
theorem C20_transparent_kernel (f : Nat) (kb : KBlk) (hn : NoReentry kb.toBlock) :
    let r := runBlock kCfg (f + 3) kb.toBlock (initialWorld { w := Kernel.World.empty })
    r.1.ir.w = Kernel.runAny kb.allOps ∧ r.1.log = histLog Kernel.World.empty kb.allOps ∧
      r.2 = none ∧ r.1.trace.filter isCall = histEvs Kernel.World.empty kb.allOps ∧
      (∀ j, (r.1.journals j).entries = expectedFor kOwner j false r.1.trace) ∧
      r.1.table = pristine ∧ r.1.current = none := by
  have h := transparent_kernel_g f kb.toG (by rw [← KBlk.toBlock_eq]; exact hn)
  rw [← KBlk.toBlock_eq, KBlk.allOps_toG, gWorld_gOf] at h
  exact h

/-- **C20_transparent_kernel_spelled**: `C20_transparent_kernel` for histories of SPELLED calls — a kernel op together with how it is written on
    the real objects (through an `ir.Function` created on first use, through `Node.append` / `Node.prepend`, with
    `Attr` objects built for it, with `|=`): the kernel world is that of the underlying kernel ops; the outcomes
    are the kernel's with the value a direct call returns (`histLogX`); the originals executed are the spelled call
    trees `callTreeX` (with `Function.__init__` / `Attr.__init__` / `Node.append` in them); every journal has
    exactly one entry per instrumented call that completed while it was entered; classes restored. -/
theorem C20_transparent_kernel_spelled (f : Nat) (kb : KBlkX) (hn : NoReentry kb.toBlock) :
    let r := runBlock kCfg (f + 3) kb.toBlock (initialWorld { w := Kernel.World.empty })
    r.1.ir.w = Kernel.runAny kb.allOps ∧ r.1.log = histLogX Kernel.World.empty kb.allCalls ∧
      r.2 = none ∧ r.1.trace.filter isCall = histEvsX Kernel.World.empty kb.allCalls ∧
      (∀ j, (r.1.journals j).entries = expectedFor kOwner j false r.1.trace) ∧
      r.1.table = pristine ∧ r.1.current = none := by
  have h := transparent_kernel_g f kb.toG hn
  rw [KBlkX.allOps_toG, gWorld_gOfX] at h
  exact h

/-- the plain run of a spelled history computes the kernel semantics of the underlying ops and executes the
    spelled call trees -/
theorem C20_kernel_plain_spelled (f : Nat) (kb : KBlkX) :
    let r := runBlock kCfg (f + 3) (strip kb.toBlock) (initialWorld { w := Kernel.World.empty })
    r.1.ir.w = Kernel.runAny kb.allOps ∧ r.1.log = histLogX Kernel.World.empty kb.allCalls ∧
      r.1.trace = histEvsX Kernel.World.empty kb.allCalls ∧ r.2 = none := by
  have h := kernel_plain_g f kb.toG
  rw [KBlkX.allOps_toG, gWorld_gOfX] at h
  exact h

/-- non-vacuity: a history (a value, a node, a graph that takes the node and names it and its
    output, a rejected call) from its second call on inside two nested journals: the inner journal
    gets the eleven entries, callee before caller -/
example :
    let kb : KBlk := .seq (.ops [.one (.newValue (some "x"))])
      (.withJ 0 (.withJ 1 (.ops [.one (.newNode "Add" none [some 0] none none none),
        .one (.newGraph [0] [1] [0] []), .one (.append 0 0), .one (.resizeInputs 0 (-1))])))
    NoReentry kb.toBlock ∧
    ((runBlock kCfg 3 kb.toBlock (initialWorld { w := Kernel.World.empty })).1.journals 1).entries.map
      (fun e => (e.slot, e.objectId)) =
      [(12, 16), (1, 1), (34, 2), (34, 2), (2, 1), (13, 16), (11, 1), (22, 2), (19, 2), (11, 1), (21, 2)] := by
  intro kb
  refine ⟨by simp [kb, KBlk.toBlock, histBlock, NoReentry, journalsOf], by decide⟩

/-- return values: `graph.inputs.pop()` hands back the popped value inside two journals as outside (the log of a
    direct call carries what came back through the wrappers), and the journals record `pop_io` on the graph -/
example :
    let kb : KBlk := .seq (.ops [.one (.newValue (some "x")), .one (.newGraph [0] [] [] [])])
      (.withJ 0 (.withJ 1 (.ops [.one (.io 0 .inp (.pop (-1)))])))
    (runBlock kCfg 3 kb.toBlock (initialWorld { w := Kernel.World.empty })).1.log.getLast? = some (.ret (.ref 0)) ∧
    ((runBlock kCfg 3 kb.toBlock (initialWorld { w := Kernel.World.empty })).1.journals 1).entries.map
      (fun e => (e.operation, e.objectId)) = [("pop_io", 2)] := by
  decide

/-- spelled calls: `anchor.append([n])` on a node of the graph, through a function created for it, and an
    attribute written with a new `Attr`: the inner journal sees `Function.__init__`, `Node.append` around
    `Graph.insert_after`, `Attr.__init__`, `set_attribute` on the node -/
example :
    let kb : KBlkX := .seq (.ops [⟨.one (.newNode "A" none [] (some 0) none none), {}⟩,
        ⟨.one (.newNode "B" none [] (some 0) none none), {}⟩, ⟨.one (.newGraph [] [] [0] []), {}⟩])
      (.withJ 0 (.ops [⟨.one (.insertAfter 0 0 [1]), { newFunction := some 0, viaNode := true }⟩,
        ⟨.one (.attrSet 1 "k" []), { newAttrs := [0] }⟩]))
    NoReentry kb.toBlock ∧
    ((runBlock kCfg 3 kb.toBlock (initialWorld { w := Kernel.World.empty })).1.journals 0).entries.map
      (fun e => (e.slot, e.objectId)) = [(28, 9), (2, 17), (11, 17), (24, 2), (9, 1), (32, 8), (42, 17)] := by
  intro kb
  refine ⟨by simp [kb, KBlkX.toBlock, KBlkX.toG, GBlk.toBlock, gBlock, NoReentry, journalsOf], by decide⟩

/-! ### flat histories: any properly nested word of enter / exit / operations restores -/

/-- **C20_restore_flat**: for every flat history — raw `__enter__` / `__exit__` calls (exits taken
    normally or with an exception propagating) and user code that calls instrumented operations, in
    any order that is properly nested (`WellBracketed`: every exit leaves the innermost open journal,
    no journal object is entered while open, nothing is left open) — started from ANY class table and
    current journal, the journals of the word not being active: after the word the class table, the
    current journal and every journal's active flag are exactly what they were before it.  This is
    the form in which `contextlib.ExitStack`, generators and hand-written `__enter__`/`__exit__`
    calls use a journal; the block form `C20_restore` is the special case of `with` statements. -/
theorem C20_restore_flat (cfg : Cfg σ) (fuel : Nat) (u : List (FEv σ)) (w : World σ)
    (hwb : WellBracketed u) (hfresh : ∀ j ∈ flatEnters u, (w.journals j).active = false) :
    (runFlat cfg fuel u w).table = w.table ∧ (runFlat cfg fuel u w).current = w.current ∧
      ∀ i, ((runFlat cfg fuel u w).journals i).active = (w.journals i).active := by
  simp only [runFlat_eq_by]; exact restore_WB (runProg_frame cfg fuel) (WB.of_wellBracketed hwb) w hfresh

/-- non-vacuity: three journals, journal 0 used twice in sequence, an operation that raises, an
    exit taken with an exception propagating -/
example : WellBracketed (σ := Unit)
    [.enter 0, .op (.done (.raise 7)), .enter 1, .enter 2, .exit 2 true, .exit 1 true, .exit 0 false,
     .enter 0, .op (.call 1 0 .none fun _ => .done (.ret .none)), .exit 0 false] := by decide

/-- `hfresh` is needed: a word that enters a journal which is already active does not enter it (the
    `__enter__` is refused) and its exit then closes the OUTER use of that journal -/
theorem C20_restore_flat_needs_fresh :
    let w0 := enterRaw 0 (initialWorld ())
    let cfg : Cfg Unit := { impl := fun _ _ _ => .done (.ret .none), owner := id, details := fun _ _ _ s => some s }
    WellBracketed (σ := Unit) [.enter 0, .exit 0 false] ∧
      (runFlat cfg 1 [.enter 0, .exit 0 false] w0).table 0 ≠ w0.table 0 := by
  refine ⟨by decide, ?_⟩
  simp [runFlat, enter, enterRaw, exit, initialWorld, pristine, upd]

/-- **what `__exit__` does in ANY history** (properly nested or not): journal `j`, entered at world
    `w`, and exited after an arbitrary word `u` that does not exit it — whatever else is entered,
    exited (in any order) or executed in between — puts back exactly the class table and current
    journal of the moment it was entered, and is inactive.  (`__exit__` does not look at what is
    installed now.) -/
theorem C20_exit_restores_own_snapshot (cfg : Cfg σ) (fuel j : Nat) (u : List (FEv σ)) (x : Bool)
    (w : World σ) (hj : (w.journals j).active = false) (hu : j ∉ flatExits u) :
    let w' := runFlat cfg fuel (.enter j :: u ++ [.exit j x]) w
    w'.table = w.table ∧ w'.current = w.current ∧ (w'.journals j).active = false := by
  simp only [runFlat_eq_by]; exact exit_snapshot_flatBy (runProg_frame cfg fuel) j u x w hj hu

/-- **C20_improper_nesting_general** (generalises `C20_improper_nesting_not_restored`): journal `i`
    is entered, any properly nested history `u` runs, journal `j` is entered, any history `v` that does
    not exit `j` runs, and then `i` is exited BEFORE `j` (e.g. `i` is held by a generator that is
    closed, or an `ExitStack` is misused).  After both exits every slot of the class table carries the
    wrapper of the exited journal `i` around what was installed at the start, `get_current_journal()`
    is the exited journal `i`, and both journals are inactive: the classes stay wrapped for ever.
    Outside "properly nested"; `__exit__` does not check that it leaves the innermost journal. -/
theorem C20_improper_nesting_general (cfg : Cfg σ) (fuel i j : Nat) (hij : i ≠ j)
    (u v : List (FEv σ)) (x y : Bool) (w : World σ)
    (hu : WellBracketed u) (hui : i ∉ flatEnters u) (huj : j ∉ flatEnters u)
    (hfresh : ∀ a ∈ flatEnters u, (w.journals a).active = false)
    (hi : (w.journals i).active = false) (hj : (w.journals j).active = false)
    (hvj : j ∉ flatExits v) (hvi : i ∉ flatExits v) :
    let w' := runFlat cfg fuel (.enter i :: u ++ .enter j :: v ++ [.exit i x, .exit j y]) w
    (∀ k, w'.table k = .wrap i k (w.table k)) ∧ w'.current = some i ∧
      (w'.journals i).active = false ∧ (w'.journals j).active = false := by
  simp only [runFlat_eq_by]
  exact improper_nesting_flatBy (runProg_frame cfg fuel) i j hij u v x y w hu hui hfresh hi hj hvj hvi

/-- the instance `i = 0`, `j = 1`, nothing in between (`C20_improper_nesting_not_restored`) -/
example : (runFlat (σ := Unit) { impl := fun _ _ _ => .done (.ret .none), owner := id, details := fun _ _ _ s => some s }
    1 [.enter 0, .enter 1, .exit 0 false, .exit 1 false] (initialWorld ())).table 0 = .wrap 0 0 (.orig 0) := by
  simp [runFlat, enter, enterRaw, exit, initialWorld, pristine, upd]

/-! ### callables captured across a journal boundary -/

/-- **C20_captured_before_not_recorded**: a callable taken (from an instance or from the class) at a
    moment when no wrapper of journal `j` was installed in its slot, and called while `j` is entered:
    the original runs and its nested instrumented calls go through the class table (they ARE recorded,
    like every call inside the journal), but the call itself leaves no entry in `j` — whereas
    `expectedFor` of what executed has one more entry when the call returned.  The class table is
    untouched.  (The monkey-patching design cannot see such a call; outside the model of the run
    theorems, which look every operation up on the class.) -/
theorem C20_captured_before_not_recorded (cfg : Cfg σ) (hdet : DetailsOk cfg) (f j k : Nat) (self : Obj)
    (arg : Val) (w0 w : World σ) (hc0 : ChainFor k (w0.table k)) (h0 : (w0.table k).cnt j = 0)
    (hch : Chain w.table) (hcnt : ∀ k, (w.table k).cnt j = 1) :
    let r := callCaptured cfg (f + 1) (capture k self w0) arg w
    r.1.table = w.table ∧
    ∃ evs o, r.1.trace = w.trace ++ [.start k self] ++ evs ++ [.finish k self o] ∧ isRet r.2 = isRet o ∧
      (r.1.journals j).entries = (w.journals j).entries ++ expectedFor cfg.owner j true evs ∧
      expectedFor cfg.owner j true (.start k self :: (evs ++ [.finish k self o])) =
        expectedFor cfg.owner j true evs ++
          (if isRet o = true then [mkEntry k (targetOf cfg.owner k self)] else []) := by
  obtain ⟨ht, evs, o, htr, hcalls, hret, he⟩ :=
    callCaptured_spec cfg hdet j true f k (capture k self w0) hc0 arg w hch (by simpa [b2n] using hcnt)
  refine ⟨ht, evs, o, htr, hret, ?_, ?_⟩
  · have : post cfg.owner k (capture k self w0).self ((capture k self w0).impl.cnt j) o = [] := by
      simp [capture, h0, post]
    simpa [ent, this] using he
  · rw [expected_call cfg.owner j true k self o evs hcalls]
    cases o <;> simp [post, b2n, isRet]

/-- **C20_captured_inside_records_after_exit**: a callable taken while journal `j` was entered (one
    wrapper of `j` in its slot) and called when `j` is not entered any more (no wrapper of `j` in the
    class table): the stale wrapper still runs — when the call returns, the EXITED journal gains one
    entry (and nothing for the nested calls, which go through the restored table).  The class table
    is untouched: the classes do behave as before; it is the object the user kept that still records.
    (Defect D471 of /repo: the journal receives entries for operations executed after it was left; the wrappers with
    the `_active` check forward without recording: `C20_captured_inside_guarded`.) -/
theorem C20_captured_inside_records_after_exit (cfg : Cfg σ) (hdet : DetailsOk cfg) (f j k : Nat)
    (self : Obj) (arg : Val) (w0 w : World σ) (hc0 : ChainFor k (w0.table k))
    (h1 : (w0.table k).cnt j = 1) (hch : Chain w.table) (hcnt : ∀ k, (w.table k).cnt j = 0) :
    let r := callCaptured cfg (f + 1) (capture k self w0) arg w
    r.1.table = w.table ∧
      (r.1.journals j).entries = (w.journals j).entries ++
        (if isRet r.2 = true then [mkEntry k (targetOf cfg.owner k self)] else []) := by
  obtain ⟨ht, evs, o, _, hcalls, hret, he⟩ :=
    callCaptured_spec cfg hdet j false f k (capture k self w0) hc0 arg w hch (by simpa [b2n] using hcnt)
  refine ⟨ht, ?_⟩
  rw [expectedFor_inactive_calls cfg.owner j evs hcalls] at he
  simp only [ent, List.append_nil] at he
  rw [he, hret]
  simp [capture, h1, post]

/-- the concrete scenario: `with j0: m = g.append` then `m(n)` after the block — journal 0 is
    inactive, the class table is pristine, and journal 0 has an entry for the call -/
theorem C20_captured_inside_witness :
    let cfg : Cfg Unit := { impl := fun _ _ _ => .done (.ret .none), owner := id, details := fun _ _ _ s => some s }
    let w1 := enterRaw 0 (initialWorld ())
    let c := capture 21 5 w1
    let w2 := exit 0 w1
    let r := callCaptured cfg 2 c .none w2
    (w2.journals 0).active = false ∧ w2.table = pristine ∧ r.1.table = pristine ∧
      (r.1.journals 0).entries = [mkEntry 21 5] := by
  refine ⟨by simp [exit, enterRaw, initialWorld, upd], by simp [exit, enterRaw, initialWorld, upd], ?_, ?_⟩
  · simp [callCaptured, capture, runImpl, runOrig, runProg, enterRaw, exit, initialWorld, upd, emit, record, kindOf, slots,
      pristine]
  · simp [callCaptured, capture, runImpl, runOrig, runProg, enterRaw, exit, initialWorld, upd, emit, record, kindOf,
      slots, targetOf, pristine]

/-- with the `_active` check (a wrapper of an inactive journal only forwards) the same call leaves the
    exited journal as it is and has the outcome of the un-wrapped call -/
theorem C20_captured_inside_guarded :
    let cfg : Cfg Unit := { impl := fun _ _ _ => .done (.ret .none), owner := id, details := fun _ _ _ s => some s }
    let w1 := enterRaw 0 (initialWorld ())
    let c := capture 21 5 w1
    let w2 := exit 0 w1
    let r := callCapturedGuarded cfg 2 c .none w2
    (r.1.journals 0).entries = [] ∧ r.2 = .ret .none ∧ r.1.table = pristine := by
  simp [callCapturedGuarded, capture, runImplGuarded, runOrig, runProg, enterRaw, exit, initialWorld, upd, emit,
    pristine, kindOf, slots]

/-- non-vacuity of the hypotheses of the two captured-callable theorems: the table inside one journal
    has exactly one wrapper of that journal per slot, the pristine one none -/
example : (∀ k, ((enterRaw 0 (initialWorld ())).table k).cnt 0 = 1) ∧ (∀ k, (pristine k).cnt 0 = 0) ∧
    ChainFor 21 ((enterRaw 0 (initialWorld ())).table 21) ∧ Chain (enterRaw 0 (initialWorld ())).table :=
  ⟨fun _ => rfl, fun _ => rfl, ⟨rfl, rfl⟩, fun _ => ⟨rfl, rfl⟩⟩

/-- **C20_guard_noop_when_active**: a wrapper that first looks at
    `journal._active` behaves exactly like the wrapper without that check whenever the journals of all its layers are
    active — which is the case for every wrapper reachable through the class table of a properly nested history.  So
    the run theorems above, stated for `runImpl`, describe the guarded wrappers too. -/
theorem C20_guard_noop_when_active (cfg : Cfg σ) (f : Nat) (c : Captured) (arg : Val) (w : World σ)
    (hact : ∀ j ∈ c.impl.layers, (w.journals j).active = true) :
    callCapturedGuarded cfg (f + 1) c arg w = callCaptured cfg (f + 1) c arg w :=
  runImplGuarded_eq_of_active cfg (fun k s a w' => runOrig_frame cfg f k s a w') c.impl c.self arg w hact

/-- **C20_captured_after_exit_guarded**: with the `_active` check, a callable taken inside journals that
    have all been exited is a pure pass-through — the world after the call is exactly the world after calling the
    original function directly (no `details` evaluated, NO ENTRY in any journal: the trace, the IR and every journal
    are those of the direct call), and it completes iff the original does. -/
theorem C20_captured_after_exit_guarded (cfg : Cfg σ) (f : Nat) (c : Captured) (arg : Val) (w : World σ)
    (hinact : ∀ j ∈ c.impl.layers, (w.journals j).active = false) :
    (callCapturedGuarded cfg (f + 1) c arg w).1 = (runOrig cfg (dispatch cfg f) c.impl.base c.self arg w).1 ∧
      isRet (callCapturedGuarded cfg (f + 1) c arg w).2 =
        isRet (runOrig cfg (dispatch cfg f) c.impl.base c.self arg w).2 :=
  runImplGuarded_inactive cfg (fun k s a w' => runOrig_frame cfg f k s a w') c.impl c.self arg w hinact

/-- non-vacuity: after `with j0:` the layer of a callable taken inside is inactive; inside it is active -/
example : (∀ j ∈ (capture 21 5 (enterRaw 0 (initialWorld ()))).impl.layers,
      ((exit 0 (enterRaw 0 (initialWorld ()))).journals j).active = false) ∧
    (∀ j ∈ (capture 21 5 (enterRaw 0 (initialWorld ()))).impl.layers,
      ((enterRaw 0 (initialWorld ())).journals j).active = true) := by
  simp [capture, enterRaw, exit, initialWorld, pristine, upd, Impl.layers]

/-! ## the code as /repo has it: every wrapper checks `journal._active` -/

/-! ### the invariant: every wrapper reachable through the class table belongs to an active journal -/

/-- **C20_table_wrappers_active**: run the code as /repo has it (`runFlatG`: every wrapper, also those reached by
    nested calls, first looks at `journal._active`) along any properly nested flat history `u` - raw enters, exits
    (normal or with an exception propagating), user code calling instrumented operations - from a world whose
    installed wrappers all belong to active journals (e.g. the start of the program, or inside any stack of open
    journals), the word's journals not being active.  Then at EVERY moment of the history (after every prefix
    `u1`): every wrapper installed in any slot of the class table - every layer of it - belongs to a journal that
    is active; and the state is exactly the state of the unchecked semantics `runFlat` (the one the run theorems
    are stated for). -/
theorem C20_table_wrappers_active (cfg : Cfg σ) (fuel : Nat) (u : List (FEv σ)) (w : World σ)
    (hwb : WellBracketed u) (hfresh : ∀ j ∈ flatEnters u, (w.journals j).active = false)
    (h0 : TableActive w) (u1 u2 : List (FEv σ)) (hu : u = u1 ++ u2) :
    TableActive (runFlatG cfg fuel u1 w) ∧ runFlatG cfg fuel u1 w = runFlat cfg fuel u1 w := by
  have h := guard_WB cfg fuel (WB.of_wellBracketed hwb) w hfresh h0 u1 u2 hu
  rw [runFlatG_eq_by, runFlat_eq_by]
  exact ⟨by rw [h.1]; exact h.2, h.1⟩

/-- the whole word: on properly nested histories the checked code IS the unchecked one -/
theorem C20_flat_guarded (cfg : Cfg σ) (fuel : Nat) (u : List (FEv σ)) (w : World σ)
    (hwb : WellBracketed u) (hfresh : ∀ j ∈ flatEnters u, (w.journals j).active = false)
    (h0 : TableActive w) : runFlatG cfg fuel u w = runFlat cfg fuel u w :=
  (C20_table_wrappers_active cfg fuel u w hwb hfresh h0 u [] (by simp)).2

/-- the block form (`with` statements are properly nested by construction; a refused re-entry changes nothing):
    from a world whose installed wrappers belong to active journals, any block run by the checked code does
    exactly what the unchecked code does, and the invariant holds again afterwards -/
theorem C20_block_guarded (cfg : Cfg σ) (fuel : Nat) (b : Block σ) (w : World σ) (h0 : TableActive w) :
    runBlockG cfg fuel b w = runBlock cfg fuel b w ∧ TableActive (runBlockG cfg fuel b w).1 := by
  have h := runBlockG_eq cfg fuel b w h0
  exact ⟨h, by rw [h]; exact tableActive_block cfg fuel b w h0⟩

/-- one lookup on the class: the call and all its nested calls -/
theorem C20_dispatch_guarded (cfg : Cfg σ) (f slot : Nat) (s : Obj) (a : Val) (w : World σ) (h0 : TableActive w) :
    dispatchG cfg f slot s a w = dispatch cfg f slot s a w := dispatchG_eq cfg f slot s a w h0

/-- non-vacuity of `TableActive`: the start of the program, inside two journals, and (negative) the state that
    exits out of order leave behind -/
example : TableActive (initialWorld ()) ∧ TableActive (enterRaw 1 (enterRaw 0 (initialWorld ()))) ∧
    ¬ TableActive (runFlatG (σ := Unit) { impl := fun _ _ _ => .done (.ret .none), owner := id, details := fun _ _ _ s => some s }
      1 [.enter 0, .enter 1, .exit 0 false, .exit 1 false] (initialWorld ())) := by
  refine ⟨tableActive_pristine _ rfl, tableActive_enterRaw 1 _ (tableActive_enterRaw 0 _ (tableActive_pristine _ rfl)), ?_⟩
  intro h
  have := h 0 0 (by simp [runFlatG, enter, enterRaw, exit, initialWorld, pristine, upd, Impl.layers])
  simp [runFlatG, enter, enterRaw, exit, initialWorld, pristine, upd] at this

/-! ### the run theorems, about the checked code -/

/-- **C20_transparent_guarded**: `C20_transparent` for the checked code (both runs - with the journals and
    with every `with journal:` removed - executed by the checked wrappers).  Additional hypothesis: the wrappers
    installed at the start belong to active journals (`TableActive`; true at program start and inside any stack of
    open journals). -/
theorem C20_transparent_guarded (cfg : Cfg σ) (hproc : ProcNone cfg) (hdet : DetailsOk cfg)
    (hpure : DetailsPure cfg) (fuel : Nat)
    (b : Block σ) (w : World σ) (hchain : Chain w.table) (hcap : CapturedOk w) (h0 : TableActive w)
    (hn : NoReentry b) (hfresh : ∀ j ∈ journalsOf b, (w.journals j).active = false) :
    let r := runBlockG cfg fuel b w
    let r0 := runBlockG cfg fuel (strip b) { w with table := pristine }
    r.1.ir = r0.1.ir ∧ r.1.log = r0.1.log ∧ r.2 = r0.2 ∧
      r.1.trace.filter isCall = r0.1.trace.filter isCall := by
  intro r r0
  have e1 : r = runBlock cfg fuel b w := runBlockG_eq cfg fuel b w h0
  have e0 : r0 = runBlock cfg fuel (strip b) { w with table := pristine } :=
    runBlockG_eq cfg fuel (strip b) _ (tableActive_pristine _ rfl)
  rw [e1, e0]
  exact C20_transparent cfg hproc hdet hpure fuel b w hchain hcap hn hfresh

theorem C20_transparent_from_start_guarded (cfg : Cfg σ) (hproc : ProcNone cfg) (hdet : DetailsOk cfg)
    (hpure : DetailsPure cfg) (fuel : Nat) (b : Block σ) (s : σ) (hn : NoReentry b) :
    let r := runBlockG cfg fuel b (initialWorld s)
    let r0 := runBlockG cfg fuel (strip b) (initialWorld s)
    r.1.ir = r0.1.ir ∧ r.1.log = r0.1.log ∧ r.2 = r0.2 ∧
      r.1.trace.filter isCall = r0.1.trace.filter isCall := by
  intro r r0
  have e1 : r = runBlock cfg fuel b (initialWorld s) := runBlockG_eq cfg fuel b _ (tableActive_pristine _ rfl)
  have e0 : r0 = runBlock cfg fuel (strip b) (initialWorld s) :=
    runBlockG_eq cfg fuel (strip b) _ (tableActive_pristine _ rfl)
  rw [e1, e0]
  exact C20_transparent_from_start cfg hproc hdet hpure fuel b s hn

/-- **C20_entries_guarded**: `C20_entries` for the checked code -/
theorem C20_entries_guarded (cfg : Cfg σ) (hdet : DetailsOk cfg) (fuel : Nat) (j : Nat) (b : Block σ)
    (w : World σ) (hchain : Chain w.table) (h0 : TableActive w) (hj : ∀ k, (w.table k).cnt j = 0)
    (hact : (w.journals j).active = false) :
    ∃ evs, (runBlockG cfg fuel b w).1.trace = w.trace ++ evs ∧
      ((runBlockG cfg fuel b w).1.journals j).entries =
        (w.journals j).entries ++ expectedFor cfg.owner j false evs := by
  rw [runBlockG_eq cfg fuel b w h0]
  exact C20_entries cfg hdet fuel j b w hchain hj hact

theorem C20_entries_active_guarded (cfg : Cfg σ) (hdet : DetailsOk cfg) (fuel : Nat) (j : Nat) (b : Block σ)
    (w : World σ) (hchain : Chain w.table) (h0 : TableActive w) (hj : ∀ k, (w.table k).cnt j = 1)
    (hact : (w.journals j).active = true) :
    ∃ evs, (runBlockG cfg fuel b w).1.trace = w.trace ++ evs ∧
      ((runBlockG cfg fuel b w).1.journals j).entries =
        (w.journals j).entries ++ expectedFor cfg.owner j true evs := by
  rw [runBlockG_eq cfg fuel b w h0]
  exact C20_entries_active cfg hdet fuel j b w hchain hj hact

/-- **C20_restore_guarded**: the checked code restores the class table, the current journal and every active flag
    after any block, from ANY world (no hypothesis, as `C20_restore`; proved directly for `runBlockG`) -/
theorem C20_restore_guarded (cfg : Cfg σ) (fuel : Nat) (b : Block σ) (w : World σ) :
    (runBlockG cfg fuel b w).1.table = w.table ∧ (runBlockG cfg fuel b w).1.current = w.current ∧
      ∀ i, ((runBlockG cfg fuel b w).1.journals i).active = (w.journals i).active := by
  rw [runBlockG_eq_by]; exact blockBy_restore (runProgG_frame cfg fuel) b w

/-- **C20_restore_flat_guarded**: `C20_restore_flat` for the checked code, from ANY class table -/
theorem C20_restore_flat_guarded (cfg : Cfg σ) (fuel : Nat) (u : List (FEv σ)) (w : World σ)
    (hwb : WellBracketed u) (hfresh : ∀ j ∈ flatEnters u, (w.journals j).active = false) :
    (runFlatG cfg fuel u w).table = w.table ∧ (runFlatG cfg fuel u w).current = w.current ∧
      ∀ i, ((runFlatG cfg fuel u w).journals i).active = (w.journals i).active := by
  simp only [runFlatG_eq_by]; exact restore_WB (runProgG_frame cfg fuel) (WB.of_wellBracketed hwb) w hfresh

/-- no strong reference, for the checked code -/
theorem C20_no_strong_ref_run_guarded (cfg : Cfg σ) (fuel : Nat) (b : Block σ) (w : World σ) (h0 : TableActive w)
    (h : ∀ i, heldBy (w.journals i) = []) :
    ∀ i, heldBy ((runBlockG cfg fuel b w).1.journals i) = [] := by
  rw [runBlockG_eq cfg fuel b w h0]
  exact C20_no_strong_ref_run cfg fuel b w h

/-- **C20_transparent_kernel_guarded**: `C20_transparent_kernel_spelled` (every spelled history of the C01 kernel
    alphabet inside any nest of journals) for the checked code -/
theorem C20_transparent_kernel_guarded (f : Nat) (kb : KBlkX) (hn : NoReentry kb.toBlock) :
    let r := runBlockG kCfg (f + 3) kb.toBlock (initialWorld { w := Kernel.World.empty })
    r.1.ir.w = Kernel.runAny kb.allOps ∧ r.1.log = histLogX Kernel.World.empty kb.allCalls ∧
      r.2 = none ∧ r.1.trace.filter isCall = histEvsX Kernel.World.empty kb.allCalls ∧
      (∀ j, (r.1.journals j).entries = expectedFor kOwner j false r.1.trace) ∧
      r.1.table = pristine ∧ r.1.current = none := by
  intro r
  have e1 : r = runBlock kCfg (f + 3) kb.toBlock (initialWorld { w := Kernel.World.empty }) :=
    runBlockG_eq kCfg (f + 3) kb.toBlock _ (tableActive_pristine _ rfl)
  rw [e1]
  exact C20_transparent_kernel_spelled f kb hn

theorem C20_kernel_plain_guarded (f : Nat) (kb : KBlkX) :
    let r := runBlockG kCfg (f + 3) (strip kb.toBlock) (initialWorld { w := Kernel.World.empty })
    r.1.ir.w = Kernel.runAny kb.allOps ∧ r.1.log = histLogX Kernel.World.empty kb.allCalls ∧
      r.1.trace = histEvsX Kernel.World.empty kb.allCalls ∧ r.2 = none := by
  intro r
  have e1 : r = runBlock kCfg (f + 3) (strip kb.toBlock) (initialWorld { w := Kernel.World.empty }) :=
    runBlockG_eq kCfg (f + 3) _ _ (tableActive_pristine _ rfl)
  rw [e1]
  exact C20_kernel_plain_spelled f kb

/-- a kept callable called where the installed wrappers are all active: the checked code (nested lookups checked
    too) is `callCapturedGuarded`, which `C20_guard_noop_when_active` / `C20_captured_after_exit_guarded` describe -/
theorem C20_captured_guarded_full (cfg : Cfg σ) (f : Nat) (c : Captured) (arg : Val) (w : World σ)
    (h0 : TableActive w) : callCapturedG cfg f c arg w = callCapturedGuarded cfg f c arg w :=
  callCapturedG_eq cfg f c arg w h0

/-! ### the checked code in ANY history (properly nested or not) -/

/-- **C20_inactive_journal_silent**: with the `_active` check a journal that is not entered receives NO entry,
    in any flat history whatsoever that does not enter it - improperly nested, with its stale wrappers still
    installed in the class table (exits out of order), whatever is entered, exited or executed.  (Without the
    check this is false: `C20_captured_inside_records_after_exit`, and the stale wrappers of
    `C20_improper_nesting_general` record for ever.) -/
theorem C20_inactive_journal_silent (cfg : Cfg σ) (fuel j : Nat) (u : List (FEv σ)) (w : World σ)
    (hj : (w.journals j).active = false) (hu : j ∉ flatEnters u) :
    ((runFlatG cfg fuel u w).journals j).entries = (w.journals j).entries ∧
      ((runFlatG cfg fuel u w).journals j).active = false := by
  have h := runFlatG_silent cfg fuel j (w.journals j).entries u w hu ⟨hj, rfl⟩
  exact ⟨h.2, h.1⟩

/-- the unchecked wrappers did record in that situation: journal 0 is exited out of order, its wrappers stay
    installed, and an operation executed afterwards lands in the exited journal; with the check it does not -/
theorem C20_inactive_journal_silent_needs_guard :
    let cfg : Cfg Unit := { impl := fun _ _ _ => .done (.ret .none), owner := id, details := fun _ _ _ s => some s }
    let u : List (FEv Unit) := [.enter 0, .enter 1, .exit 0 false, .exit 1 false,
      .op (.call 21 5 .none fun o => .done o)]
    ((runFlat cfg 2 u (initialWorld ())).journals 0).entries = [mkEntry 21 5] ∧
    ((runFlatG cfg 2 u (initialWorld ())).journals 0).entries = [] ∧
    (runFlatG cfg 2 u (initialWorld ())).log = [.ret .none] := by
  simp [runFlat, runFlatG, runProg, dispatch, dispatchG, runImpl, runImplGuarded, runOrig, enter, enterRaw, exit,
    initialWorld, pristine, upd, emit, record, kindOf, slots, targetOf]

/-- a stale layer only forwards: a wrapper whose journal is not active, in front of any chain - the world after
    the call is the world after calling what is behind it, it completes iff that does, and for methods / container
    methods the two calls are literally equal (the constructor and the setter wrapper return None) -/
theorem C20_stale_wrapper_forwards (cfg : Cfg σ) (f j k : Nat) (inner : Impl) (s : Obj) (a : Val) (w : World σ)
    (hj : (w.journals j).active = false) :
    let body := runOrig cfg (dispatchG cfg f)
    (runImplGuarded cfg body (.wrap j k inner) s a w).1 = (runImplGuarded cfg body inner s a w).1 ∧
    isRet (runImplGuarded cfg body (.wrap j k inner) s a w).2 = isRet (runImplGuarded cfg body inner s a w).2 ∧
    (kindOf k = .method ∨ kindOf k = .container →
      runImplGuarded cfg body (.wrap j k inner) s a w = runImplGuarded cfg body inner s a w) := by
  intro body
  rw [runImplGuarded_stale cfg (runOrigG_frame cfg f) j k inner s a w hj]
  exact ⟨rfl, fwd_isRet k _, fun hk => fwd_of_result k _ hk⟩

/-- **the `_active` check, for every slot** (computed by running `runImplGuarded` on the probe configuration with the
    wrapper's journal NOT active): the original runs exactly once, the `details` expression is not evaluated, nothing
    is recorded; method and container wrappers hand the original's result back, constructor and setter wrappers
    return None; an exception of the original propagates.  Compared slot by slot with the real wrapper code objects
    run around a stub journal whose `_active` is False. -/
theorem C20_wrapper_guard (k : Nat) :
    guardForwards k = true ∧ guardReturnsResult k = (kindOf k == .method || kindOf k == .container) ∧
      guardPropagates k = true := by
  cases h : kindOf k <;>
    simp [guardForwards, guardReturnsResult, guardPropagates, probeRunG, probeWorldInactive, probeCfg, runImplGuarded,
      enterRaw, initialWorld, pristine, upd, h]

/-- **what `__exit__` does in any history, checked code** (`C20_exit_restores_own_snapshot` for `runFlatG`) -/
theorem C20_exit_restores_own_snapshot_guarded (cfg : Cfg σ) (fuel j : Nat) (u : List (FEv σ)) (x : Bool)
    (w : World σ) (hj : (w.journals j).active = false) (hu : j ∉ flatExits u) :
    let w' := runFlatG cfg fuel (.enter j :: u ++ [.exit j x]) w
    w'.table = w.table ∧ w'.current = w.current ∧ (w'.journals j).active = false := by
  simp only [runFlatG_eq_by]; exact exit_snapshot_flatBy (runProgG_frame cfg fuel) j u x w hj hu

/-- **C20_improper_nesting_general_guarded**: what exits out of order leave behind, for the checked code: the same
    control state as `C20_improper_nesting_general` (every slot carries the wrapper of the exited journal `i`,
    `get_current_journal()` is `i`, both inactive) - the classes stay wrapped, but by `C20_inactive_journal_silent`
    and `C20_stale_wrapper_forwards` those wrappers only forward and `i` receives nothing any more. -/
theorem C20_improper_nesting_general_guarded (cfg : Cfg σ) (fuel i j : Nat) (hij : i ≠ j)
    (u v : List (FEv σ)) (x y : Bool) (w : World σ)
    (hu : WellBracketed u) (hui : i ∉ flatEnters u) (huj : j ∉ flatEnters u)
    (hfresh : ∀ a ∈ flatEnters u, (w.journals a).active = false)
    (hi : (w.journals i).active = false) (hj : (w.journals j).active = false)
    (hvj : j ∉ flatExits v) (hvi : i ∉ flatExits v) :
    let w' := runFlatG cfg fuel (.enter i :: u ++ .enter j :: v ++ [.exit i x, .exit j y]) w
    (∀ k, w'.table k = .wrap i k (w.table k)) ∧ w'.current = some i ∧
      (w'.journals i).active = false ∧ (w'.journals j).active = false := by
  simp only [runFlatG_eq_by]
  exact improper_nesting_flatBy (runProgG_frame cfg fuel) i j hij u v x y w hu hui hfresh hi hj hvj hvi

end IrVerif.Journal
