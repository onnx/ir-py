/-
C08 — an interrupted single-file external-data save never damages an existing data file.
The save is a list of file-system effects run under a fault assignment; every visited state is a crash point.
Models: `Model/AtomicSave.lean` (single file, `unload_from_model`, sequential shards), `Model/AtomicSaveLinks.lean`
(symbolic links, schedules of the parallel writer), `Model/AtomicSaveConc.lean` (concurrent shard drivers),
`Model/AtomicSaveNest.lean` (inner parallel writers inside concurrent shards); lemmas in the `Lemmas/` files of the
same names. The four models of the sharded save are independent: no theorem carries a result from one to another.
Core Lean only.
-/
import IrVerif.Lemmas.AtomicSave
import IrVerif.Lemmas.AtomicSaveLinks
import IrVerif.Lemmas.AtomicSaveConc
import IrVerif.Lemmas.AtomicSaveNest
namespace IrVerif.AtomicSave

/-- Every crash point, incl. mid-write and crashes while the exception handlers run.
`body`: any effects other than `os.replace`/`invalidate`/`loadSmall`: the serial writer's list for any tensors
(`C08_crash_serial`), any interleaving of the parallel writer's effects (`C08_crash_writer`; after one worker fails the
model leaves the block while the real workers run on, touching only the temporary file).
`f`: which effects fail, and after how many bytes a failing write stops.
`st`: every state the run visits; these are the file-system states a crash can leave behind.
The destination path holds exactly the bytes it held before the save or exactly the bytes a fault-free save produces. -/
theorem C08_crash (env : Env) (body post : List Eff) (hb : ∀ e ∈ body, e.tmpOnly = true)
    (hp : ∀ e ∈ post, e.noData = true) (s0 : St) (h0 : WF s0) (n0 : Nat) (f : Nat → Option Nat) :
    ∀ st ∈ (saveWith env body post f n0 s0).steps,
      content st.st (.user env.dest) = content s0 (.user env.dest) ∨
      content st.st (.user env.dest) =
        content (saveWith env body post (fun _ => none) n0 s0).final (.user env.dest) := by
  intro st hst
  have hnew := saveWith_none_frozen env body post hb hp s0 h0 n0
  rcases (saveWith_two_phase (twoPhase_old_frozen env body post hb hp s0 h0 n0) f).steps st hst with h | h
  · left; exact old_content h0 h _
  · right; rw [frozen_content h, frozen_content hnew]

/-- If exactly one effect fails with an exception and it is `mkdtemp`, any
effect of the writer (incl. a tensor or call-back raising, a short write), the release loop,
`copymode` or `os.replace` itself (index `k ≤ n0 + 1 + body.length`), then when the exception
leaves the function: the destination names the same inode with the same bytes and mode as before
(so do all other caller paths), neither the temporary file nor the temporary directory exists,
no tensor was invalidated, and every external tensor still reads the bytes it read before. -/
theorem C08_exception (env : Env) (body post : List Eff) (hb : ∀ e ∈ body, e.tmpOnly = true)
    (s0 : St) (h0 : WF s0) (hdir : s0.fs.isDir .tmpDir = false) (n0 : Nat) (f : Nat → Option Nat)
    (k p : Nat) (hk : f k = some p) (hone : ∀ n, n ≠ k → f n = none)
    (hlo : n0 ≤ k) (hhi : k ≤ n0 + 1 + body.length) :
    let r := saveWith env body post f n0 s0
    r.faulted = true ∧
    (∀ n, r.final.fs.file (.user n) = s0.fs.file (.user n) ∧
          content r.final (.user n) = content s0 (.user n) ∧
          (r.final.fs.file (.user n)).map r.final.fs.mode = (s0.fs.file (.user n)).map s0.fs.mode) ∧
    r.final.fs.file .tmpFile = none ∧ r.final.fs.isDir .tmpDir = false ∧
    r.final.valid = s0.valid ∧
    (∀ i e, (∀ m, s0.mapped i = some m → s0.fs.file (.user e.path) = some m) →
      readT r.final i e = readT s0 i e) := by
  intro r
  have h := saveWith_handlers_clean env body post hb s0 h0 hdir n0 f k p hk (fun n _ h => hone n (by omega))
    (hone _ (by omega)) (hone _ (by omega)) hlo hhi
  have hv := h.2.1.view h0
  exact ⟨h.1, hv.1, h.2.2.1, h.2.2.2, hv.2⟩



/-- Fault sequences: if *some* effect at or before `os.replace` fails —
whatever else fails, earlier or later, including while the exception handlers run — then the
exception leaves the function and in every visited state (any crash point) and at the end every
caller path names the same inode with the same bytes and mode as before, no tensor was
invalidated and every external tensor still reads what it read before. (Only the removal of the
temporary paths can then be prevented, by a failure in the handlers: `saveWith_handlers_clean`.) -/
theorem C08_exception_multi (env : Env) (body post : List Eff) (hb : ∀ e ∈ body, e.tmpOnly = true)
    (s0 : St) (h0 : WF s0) (n0 : Nat) (f : Nat → Option Nat) (k p : Nat) (hk : f k = some p)
    (hlo : n0 ≤ k) (hhi : k ≤ n0 + 1 + body.length) :
    let r := saveWith env body post f n0 s0
    r.faulted = true ∧
    ∀ s, (s = r.final ∨ ∃ st ∈ r.steps, s = st.st) →
      (∀ n, s.fs.file (.user n) = s0.fs.file (.user n) ∧ content s (.user n) = content s0 (.user n) ∧
            (s.fs.file (.user n)).map s.fs.mode = (s0.fs.file (.user n)).map s0.fs.mode) ∧
      s.valid = s0.valid ∧
      (∀ i e, (∀ m, s0.mapped i = some m → s0.fs.file (.user e.path) = some m) →
        readT s i e = readT s0 i e) := by
  intro r
  have h := saveWith_early_fault env body post hb s0 h0 n0 f k p hk hlo hhi
  refine ⟨h.1, ?_⟩
  intro s hs
  have ho : Old s0 s := by
    rcases hs with rfl | ⟨st, hst, rfl⟩
    · exact h.2.1
    · exact h.2.2 st hst
  exact ho.view h0

/-- `C08_crash` for a save whose writer is *any* list of temporary-file
effects — in particular every interleaving of the parallel writer's `truncate`, `openW`, `seekW`,
`writeW`, `closeW`, call-backs — followed by the release loop, `copymode`, `os.replace`. -/
theorem C08_crash_writer (cfg : Cfg) (writer : List Eff) (hw : ∀ e ∈ writer, e.tmpOnly = true)
    (s0 : St) (h0 : WF s0) (n0 : Nat) (f : Nat → Option Nat) :
    ∀ st ∈ (saveWriter cfg writer f n0 s0).steps,
      content st.st (.user cfg.env.dest) = content s0 (.user cfg.env.dest) ∨
      content st.st (.user cfg.env.dest) =
        content (saveWriter cfg writer (fun _ => none) n0 s0).final (.user cfg.env.dest) :=
  C08_crash cfg.env (tryBodyWith cfg s0 writer) (postEffs cfg s0) (tryBodyWith_tmpOnly cfg s0 writer hw)
    (postEffs_noData cfg s0) s0 h0 n0 f

/-- "the complete new bytes" are what the tensors say — after a fault-free
serial save the destination holds every tensor's bytes at its offset (gaps zero-filled), for
every tensor list, chunking and prior content. -/
theorem C08_new_is_image (cfg : Cfg) (s0 : St) (h0 : WF s0) (n0 : Nat) :
    content (save cfg (fun _ => none) n0 s0).final (.user cfg.env.dest) = some (image cfg.tensors) := by
  have hr := save_afterReplace cfg s0 h0 n0
  unfold save
  rw [frozen_content (saveWith_none_frozen cfg.env (tryBody cfg s0) (postEffs cfg s0) (tryBody_tmpOnly cfg s0)
    (postEffs_noData cfg s0) s0 h0 n0)]
  simp [content, hr.dest, hr.bytes]

/-- `C08_crash` for the serial writer, with the new bytes spelled out. -/
theorem C08_crash_serial (cfg : Cfg) (s0 : St) (h0 : WF s0) (n0 : Nat) (f : Nat → Option Nat) :
    ∀ st ∈ (save cfg f n0 s0).steps,
      content st.st (.user cfg.env.dest) = content s0 (.user cfg.env.dest) ∨
      content st.st (.user cfg.env.dest) = some (image cfg.tensors) := by
  intro st hst
  rw [← C08_new_is_image cfg s0 h0 n0]
  exact C08_crash cfg.env (tryBody cfg s0) (postEffs cfg s0) (tryBody_tmpOnly cfg s0)
    (postEffs_noData cfg s0) s0 h0 n0 f st hst

/-- `C08_exception` for the serial writer. -/
theorem C08_exception_serial (cfg : Cfg) (s0 : St) (h0 : WF s0) (hdir : s0.fs.isDir .tmpDir = false)
    (n0 : Nat) (f : Nat → Option Nat) (k p : Nat) (hk : f k = some p) (hone : ∀ n, n ≠ k → f n = none)
    (hlo : n0 ≤ k) (hhi : k ≤ n0 + 1 + (tryBody cfg s0).length) :
    let r := save cfg f n0 s0
    r.faulted = true ∧
    (∀ n, r.final.fs.file (.user n) = s0.fs.file (.user n) ∧
          content r.final (.user n) = content s0 (.user n) ∧
          (r.final.fs.file (.user n)).map r.final.fs.mode = (s0.fs.file (.user n)).map s0.fs.mode) ∧
    r.final.fs.file .tmpFile = none ∧ r.final.fs.isDir .tmpDir = false ∧
    r.final.valid = s0.valid ∧
    (∀ i e, (∀ m, s0.mapped i = some m → s0.fs.file (.user e.path) = some m) →
      readT r.final i e = readT s0 i e) :=
  C08_exception cfg.env (tryBody cfg s0) (postEffs cfg s0) (tryBody_tmpOnly cfg s0) s0 h0 hdir n0 f k p
    hk hone hlo hhi

/-- The dynamic test of the loop at 503-511: in the state right after the
successful `os.replace`, for every external tensor (in particular the collected ones),
`samefile(tensor.path, destination_path)` holds iff the tensor's path is the destination name —
another hard link of the old inode still names the old inode, so the test fails for it. This is
what `invalidated` filters on. -/
theorem C08_post_samefile (cfg : Cfg) (s0 : St) (h0 : WF s0) (n0 : Nat) (e : Ext) :
    sameFile (afterReplace cfg.env (tryBody cfg s0) n0 s0).fs (.user e.path) (.user cfg.env.dest)
      = (e.path == cfg.env.dest) := by
  have hr := save_afterReplace cfg s0 h0 n0
  by_cases hp : e.path = cfg.env.dest
  · simp [sameFile, hp, hr.dest]
  · have hb : (e.path == cfg.env.dest) = false := by simpa using hp
    rw [hb]
    simp only [sameFile, hr.others e.path hp, hr.dest]
    cases hf : s0.fs.file (.user e.path) with
    | none => rfl
    | some a =>
      have := h0.named _ _ hf
      have hne : a ≠ s0.fs.next := by omega
      simp [hne]

/-- Every fault assignment, every visited state: a tensor that was
valid before the save is invalid only if it is in `invalidated` — external, the same file as the
destination before the save, reached through the destination name — *and* `os.replace` has been
executed: the destination, hence the tensor's own path, now names the fresh inode, not the one it
named before (its backing file was actually replaced). -/
theorem C08_invalidate_only_if (cfg : Cfg) (s0 : St) (h0 : WF s0) (n0 : Nat) (f : Nat → Option Nat) :
    ∀ st ∈ (save cfg f n0 s0).steps, ∀ i, st.st.valid i = false →
      s0.valid i = false ∨
      (i ∈ invalidated cfg s0 ∧ st.st.replaced = true ∧
        st.st.fs.file (.user cfg.env.dest) = some s0.fs.next ∧
        st.st.fs.file (.user cfg.env.dest) ≠ s0.fs.file (.user cfg.env.dest) ∧
        ∃ t e, cfg.tensors[i]? = some t ∧ t.ext = some e ∧
          st.st.fs.file (.user e.path) = some s0.fs.next ∧
          st.st.fs.file (.user e.path) ≠ s0.fs.file (.user e.path)) := by
  intro st hst i hi
  have hr := save_afterReplace cfg s0 h0 n0
  rcases (saveWith_two_phase (twoPhase_save cfg s0 h0 n0) f).steps st hst with h | h
  · left; rw [← h.valid]; exact hi
  · rcases h.only i hi with h1 | h1
    · exact Or.inl h1
    · right
      have hd : st.st.fs.file (.user cfg.env.dest) = some s0.fs.next := by
        rw [h.frozen.user, hr.dest]
      have hne : st.st.fs.file (.user cfg.env.dest) ≠ s0.fs.file (.user cfg.env.dest) := by
        rw [hd]
        intro heq
        have := h0.named _ _ heq.symm
        omega
      refine ⟨h1, by rw [h.frozen.replaced, hr.replaced], hd, hne, ?_⟩
      rcases (invalidated_iff cfg s0 i).mp h1 with ⟨_, t, e, ht, he, hp⟩
      exact ⟨t, e, ht, he, by rw [hp]; exact hd, by rw [hp]; exact hne⟩

/-- If no effect after `os.replace` fails (clean-up and the invalidation
loop run), then when the save ends — normally or with an exception — a tensor is invalid iff it
was already invalid, or it is in `invalidated` (backed by the destination through the destination
name) and the destination was replaced. In particular a tensor reading the old inode through
another hard link stays valid. (Failure of `os.rmdir` after a successful replace is excluded: see
the example "the clean-up gap" below.) -/
theorem C08_invalidate_iff (cfg : Cfg) (s0 : St) (h0 : WF s0) (hrep : s0.replaced = false) (n0 : Nat)
    (f : Nat → Option Nat) (hlate : ∀ m, n0 + 1 + (tryBody cfg s0).length < m → f m = none) (i : Nat) :
    (save cfg f n0 s0).final.valid i = false ↔
      (s0.valid i = false ∨ (i ∈ invalidated cfg s0 ∧ (save cfg f n0 s0).final.replaced = true)) := by
  have hr := save_afterReplace cfg s0 h0 n0
  rcases save_final_cases cfg s0 h0 n0 f hlate with ⟨_, ho⟩ | ⟨_, hp, hall⟩
  · rw [ho.valid, ho.replaced, hrep]; simp
  · constructor
    · intro hi
      rcases hp.only i hi with h1 | h1
      · exact Or.inl h1
      · exact Or.inr ⟨h1, by rw [hp.frozen.replaced, hr.replaced]⟩
    · rintro (h1 | ⟨h1, _⟩)
      · exact hp.keep i h1
      · exact hall i h1

/-- Lines 453-456: the path the save works on is not itself a symlink
of the table — `os.replace` therefore never replaces a link, it replaces what the chain ends in —
unless the chain is longer than the fuel (a cycle); and a request that is not a symlink is used as
it is. -/
theorem C08_destination_resolved (links : List (String × String)) :
    ∀ (fuel : Nat) (p : String),
      (links.lookup (resolveLink links fuel p) = none ∨
        ∀ k, k ≤ fuel → links.lookup (resolveLink links k p) ≠ none) ∧
      (links.lookup p = none → resolveLink links fuel p = p)
  | 0, p => by
    refine ⟨?_, fun _ => rfl⟩
    cases h : links.lookup p with
    | none => left; simpa [resolveLink] using h
    | some t =>
      right
      intro k hk
      have : k = 0 := by omega
      subst this
      simp [resolveLink, h]
  | fuel + 1, p => by
    cases h : links.lookup p with
    | none => simp [resolveLink, h]
    | some t =>
      refine ⟨?_, fun h' => by simp at h'⟩
      simp only [resolveLink, h]
      rcases (C08_destination_resolved links fuel t).1 with h1 | h1
      · exact Or.inl h1
      · right
        intro k hk
        cases k with
        | zero => simp [resolveLink, h]
        | succ k => simp only [resolveLink, h]; exact h1 k (by omega)

example : destinationOf [("model.data", "current.data"), ("current.data", "sub/w.bin")] "model.data" = "sub/w.bin" := by
  decide +kernel
example : destinationOf [("model.data", "current.data")] "plain.data" = "plain.data" := by decide +kernel

/-- A (sequential) sharded save never changes a file that existed
before — in every visited state (any crash point) and at the end, for every fault assignment,
every pre-existing caller path names the same inode with the same bytes and mode; and if any shard
destination exists, the pre-flight check raises before a single effect is performed. -/
theorem C08_sharded_no_touch (newMode : Nat) (cb : Bool) (jobs : List (String × List Tensor))
    (f : Nat → Option Nat) (s0 : St) (h0 : WF s0) :
    (jobs.any (fun j => existsP s0.fs (.user j.1)) = true →
      (saveSharded newMode cb jobs f s0).steps = [] ∧ (saveSharded newMode cb jobs f s0).faulted = true) ∧
    (∀ st ∈ (saveSharded newMode cb jobs f s0).steps, ∀ n i, s0.fs.file (.user n) = some i →
      st.st.fs.file (.user n) = some i ∧ st.st.fs.data i = s0.fs.data i ∧ st.st.fs.mode i = s0.fs.mode i) ∧
    (∀ n i, s0.fs.file (.user n) = some i →
      (saveSharded newMode cb jobs f s0).final.fs.file (.user n) = some i ∧
      (saveSharded newMode cb jobs f s0).final.fs.data i = s0.fs.data i ∧
      (saveSharded newMode cb jobs f s0).final.fs.mode i = s0.fs.mode i) := by
  unfold saveSharded
  cases hany : jobs.any (fun j => existsP s0.fs (.user j.1)) with
  | true => simp
  | false =>
    have h := shardLoop_kept newMode cb f s0 jobs (absent_of_preflight jobs Prod.fst s0.fs hany) 0 s0 h0 (Kept.refl s0)
    simp only [Bool.false_eq_true, if_false, false_implies, true_and]
    exact ⟨fun st hst => (h.1 st hst).read h0, h.2.read h0⟩


/-- `C08_exception` for `unload_from_model` (the entry point `ir.save`
uses; without the `readT` clause: `Old.mapped` does not hold inside the load phase): exactly one effect fails, while the small external tensors are loaded or in the save up to
and including `os.replace`; then the exception leaves, every caller path has the same inode, bytes
and mode as before, the temporary file and directory are gone and no tensor was invalidated. -/
theorem C08_unload_exception (cfg : Cfg) (small : List (Nat × Ext)) (s0 : St) (h0 : WF s0)
    (hdir : s0.fs.isDir .tmpDir = false) (f : Nat → Option Nat) (k p : Nat) (hk : f k = some p)
    (hone : ∀ n, n ≠ k → f n = none)
    (hhi : k ≤ (loadEffs small).length + 1 + (tryBody cfg s0).length) :
    (unload cfg small f s0).faulted = true ∧
    (∀ n, (unload cfg small f s0).final.fs.file (.user n) = s0.fs.file (.user n) ∧
          content (unload cfg small f s0).final (.user n) = content s0 (.user n) ∧
          ((unload cfg small f s0).final.fs.file (.user n)).map (unload cfg small f s0).final.fs.mode
            = (s0.fs.file (.user n)).map s0.fs.mode) ∧
    (unload cfg small f s0).final.fs.file .tmpFile = none ∧
    (unload cfg small f s0).final.fs.isDir .tmpDir = false ∧
    (unload cfg small f s0).final.valid = s0.valid := by
  obtain ⟨l, _, hs, ⟨hlf, he⟩ | ⟨hwf, htb, hkL, he⟩⟩ := unload_cases cfg small f s0 h0 <;> rw [he]
  · refine ⟨hlf, fun n => ?_, by rw [hs.fs]; exact h0.fresh, by rw [hs.fs]; exact hdir, hs.valid⟩
    simp [content, hs.fs]
  · have hx := C08_exception_serial cfg l.final hwf (by rw [hs.fs]; exact hdir) (loadEffs small).length f k p hk hone
      (hkL k p hk) (by rw [htb]; exact hhi)
    simp only [] at hx
    -- the save started in `l.final`, which has the file system and the flags of `s0`
    exact ⟨hx.1, fun n => by simpa only [content, hs.fs] using hx.2.1 n, hx.2.2.1, hx.2.2.2.1,
      by rw [hx.2.2.2.2.1, hs.valid]⟩

/-- Fault sequences for `unload_from_model`: if some effect at or
before `os.replace` fails (whatever else fails), the exception leaves, every caller path has the
same inode, bytes and mode as before and no tensor was invalidated. -/
theorem C08_unload_exception_multi (cfg : Cfg) (small : List (Nat × Ext)) (s0 : St) (h0 : WF s0)
    (f : Nat → Option Nat) (k p : Nat) (hk : f k = some p)
    (hhi : k ≤ (loadEffs small).length + 1 + (tryBody cfg s0).length) :
    (unload cfg small f s0).faulted = true ∧
    (∀ n, (unload cfg small f s0).final.fs.file (.user n) = s0.fs.file (.user n) ∧
          content (unload cfg small f s0).final (.user n) = content s0 (.user n) ∧
          ((unload cfg small f s0).final.fs.file (.user n)).map (unload cfg small f s0).final.fs.mode
            = (s0.fs.file (.user n)).map s0.fs.mode) ∧
    (unload cfg small f s0).final.valid = s0.valid := by
  obtain ⟨l, _, hs, ⟨hlf, he⟩ | ⟨hwf, htb, hkL, he⟩⟩ := unload_cases cfg small f s0 h0 <;> rw [he]
  · refine ⟨hlf, fun n => ?_, hs.valid⟩
    simp [content, hs.fs]
  · have hx := C08_exception_multi cfg.env (tryBody cfg l.final) (postEffs cfg l.final) (tryBody_tmpOnly cfg _) l.final hwf
      (loadEffs small).length f k p hk (hkL k p hk) (by rw [htb]; exact hhi)
    simp only [] at hx
    have hfin := hx.2 _ (Or.inl rfl)
    refine ⟨hx.1, fun n => ?_, hfin.2.1.trans hs.valid⟩
    have hn := hfin.1 n
    simp only [content, hs.fs] at hn
    exact hn

/-- The same crash guarantee for `unload_from_model` (what `ir.save` calls):
small external tensors are first copied to memory, then the single-file save runs; in every
visited state, under every fault assignment, the destination holds its previous bytes or the
complete new bytes. -/
theorem C08_unload_crash (cfg : Cfg) (small : List (Nat × Ext)) (s0 : St) (h0 : WF s0)
    (f : Nat → Option Nat) :
    ∀ st ∈ (unload cfg small f s0).steps,
      content st.st (.user cfg.env.dest) = content s0 (.user cfg.env.dest) ∨
      content st.st (.user cfg.env.dest) = some (image cfg.tensors) := by
  obtain ⟨l, hls, hs, ⟨_, he⟩ | ⟨hwf, _, _, he⟩⟩ := unload_cases cfg small f s0 h0 <;> rw [he] <;> intro st hst
  · exact Or.inl (sameFS_content (hls st hst) _)
  · rcases List.mem_append.mp hst with hst | hst
    · exact Or.inl (sameFS_content (hls st hst) _)
    · rw [← sameFS_content hs]
      exact C08_crash_serial cfg _ hwf _ f st hst

/-- Whatever fails, `unload_from_model` never changes a caller path other
than the destination, nor the bytes or mode of any file that existed. -/
theorem C08_unload_fs_frame (cfg : Cfg) (small : List (Nat × Ext)) (s0 : St) (h0 : WF s0)
    (f : Nat → Option Nat) :
    ∀ st ∈ (unload cfg small f s0).steps,
      (∀ n, n ≠ cfg.env.dest → st.st.fs.file (.user n) = s0.fs.file (.user n)) ∧
      (∀ j, j < s0.fs.next → st.st.fs.data j = s0.fs.data j ∧ st.st.fs.mode j = s0.fs.mode j) := by
  have hsame : ∀ s, SameFS s0 s →
      (∀ n, n ≠ cfg.env.dest → s.fs.file (.user n) = s0.fs.file (.user n)) ∧
      (∀ j, j < s0.fs.next → s.fs.data j = s0.fs.data j ∧ s.fs.mode j = s0.fs.mode j) := by
    intro s hs; rw [hs.fs]; exact ⟨fun _ _ => rfl, fun _ _ => ⟨rfl, rfl⟩⟩
  obtain ⟨l, hls, hs, ⟨_, he⟩ | ⟨hwf, _, _, he⟩⟩ := unload_cases cfg small f s0 h0 <;> rw [he] <;> intro st hst
  · exact hsame _ (hls st hst)
  · rcases List.mem_append.mp hst with hst | hst
    · exact hsame _ (hls st hst)
    · have hk := (save_kept cfg _ hwf (loadEffs small).length f).1 st hst
      have hfs := hs.fs
      refine ⟨fun n hn => ?_, fun j hj => ?_⟩
      · rw [hk.file n hn, hfs]
      · have hj' : j < l.final.fs.next := by rw [hfs]; exact hj
        rw [hk.data j hj', hk.mode j hj', hfs]
        exact ⟨rfl, rfl⟩


/-! ### Non-vacuity: a concrete well-formed state and concrete runs -/

/-- a directory with `m.data` = inode 0 holding `[1,2,3,4]` (mode 0o600) -/
def exFS : FS :=
  ⟨fun p => if p = .user "m.data" then some 0 else none, fun _ => false,
   fun i => if i = 0 then [1, 2, 3, 4] else [], fun _ => 384, 1⟩

def exSt : St := ⟨exFS, none, 0, fun _ => true, fun _ => none, fun _ => none, false, fun _ => none⟩

/-- tensor 0 is in memory (two chunks), tensor 1 is external, backed by the destination -/
def exCfg : Cfg :=
  ⟨⟨"m.data", 420⟩, [⟨0, [[9, 9], [8]], none⟩, ⟨3, [[1, 2]], some ⟨"m.data", 0, 2⟩⟩], true⟩

theorem exSt_wf : WF exSt :=
  ⟨fun p i h => by
      simp only [exSt, exFS] at h ⊢
      split at h
      · simp at h; omega
      · simp at h,
   rfl, rfl, fun _ => rfl⟩

/-- the hypotheses of the theorems are satisfiable, and the run really replaces the file -/
example : WF exSt ∧ exSt.fs.isDir .tmpDir = false ∧ exSt.replaced = false := ⟨exSt_wf, rfl, rfl⟩
example : overwritten exCfg exSt = [1] ∧ invalidated exCfg exSt = [1] := by decide +kernel
example : (save exCfg (fun _ => none) 0 exSt).faulted = false := by decide +kernel
example : content (save exCfg (fun _ => none) 0 exSt).final (.user "m.data") = some [9, 9, 8, 1, 2] := by
  decide +kernel
example : image exCfg.tensors = [9, 9, 8, 1, 2] := by decide +kernel
example : (save exCfg (fun _ => none) 0 exSt).final.valid 1 = false ∧
    (save exCfg (fun _ => none) 0 exSt).final.valid 0 = true := by decide +kernel
/-- a single fault in the middle of a write (effect 5 = second chunk, one byte gets through):
raised, destination as before, temporary paths gone, tensor still valid and readable -/
example :
    let r := save exCfg (fun n => if n = 5 then some 1 else none) 0 exSt
    r.faulted = true ∧ content r.final (.user "m.data") = some [1, 2, 3, 4] ∧
    r.final.fs.file .tmpFile = none ∧ r.final.fs.isDir .tmpDir = false ∧ r.final.valid 1 = true ∧
    readT r.final 1 ⟨"m.data", 0, 2⟩ = some [1, 2] := by decide +kernel
/-- the crash state of that run (the state right after the failed step) has a half-written
temporary file, and the destination untouched -/
example :
    let r := save exCfg (fun n => if n = 5 then some 0 else none) 0 exSt
    (r.steps.find? (·.failed)).map (fun st => (content st.st .tmpFile, content st.st (.user "m.data")))
      = some (some [9, 9], some [1, 2, 3, 4]) := by decide +kernel

/-- The clean-up gap (D131; why `C08_invalidate_iff` excludes faults after the replace): if
`os.rmdir` fails *after* a successful `os.replace`, the exception skips the invalidation loop —
the destination already holds the new bytes, the tensor backed by it is still marked valid and
now reads bytes of the new file. (Observed on the real code too; the English property only asks
for the "only when" direction, `C08_invalidate_only_if`.) -/
example :
    let r := save exCfg (fun n => if n = 14 then some 0 else none) 0 exSt
    r.faulted = true ∧ r.final.replaced = true ∧
    content r.final (.user "m.data") = some [9, 9, 8, 1, 2] ∧ r.final.valid 1 = true ∧
    readT r.final 1 ⟨"m.data", 0, 2⟩ = some [9, 9] := by decide +kernel

/-- hard link (D133): tensor 1 reads the old inode through `hard.data`; it is collected (released)
but not invalidated, and still reads the old bytes after the destination was replaced -/
example :
    let fs : FS := { exFS with file := fun p => if p = .user "m.data" ∨ p = .user "hard.data" then some 0 else none }
    let s : St := { exSt with fs := fs }
    let cfg : Cfg := ⟨⟨"m.data", 420⟩, [⟨0, [[9, 9, 8]], none⟩, ⟨3, [[1, 2]], some ⟨"hard.data", 0, 2⟩⟩], false⟩
    overwritten cfg s = [1] ∧ invalidated cfg s = [] ∧
    (save cfg (fun _ => none) 0 s).final.valid 1 = true ∧
    readT (save cfg (fun _ => none) 0 s).final 1 ⟨"hard.data", 0, 2⟩ = some [1, 2] ∧
    content (save cfg (fun _ => none) 0 s).final (.user "m.data") = some [9, 9, 8, 1, 2] := by decide +kernel

/-- unload: tensor 7 is small and external (backed by the destination); its copy holds the old bytes
although the destination has been replaced -/
example :
    let r := unload exCfg [(7, ⟨"m.data", 1, 2⟩)] (fun _ => none) exSt
    r.faulted = false ∧ r.final.mem 7 = some [2, 3] ∧
    content r.final (.user "m.data") = some [9, 9, 8, 1, 2] := by decide +kernel

/-- the parallel writer's effects: two workers with their own handles write out of order into the
preallocated temporary file; the result is the same image, and a fault on worker 1's write leaves
the destination as it was -/
def exWriter : List Eff :=
  [.openTmp, .truncate 5, .closeTmp, .openW 0, .openW 1, .seekW 1 3, .writeW 1 [1, 2], .seekW 0 0,
   .writeW 0 [9, 9, 8], .closeW 0, .closeW 1]
example : (∀ e ∈ exWriter, e.tmpOnly = true) ∧
    content (saveWriter exCfg exWriter (fun _ => none) 0 exSt).final (.user "m.data") = some [9, 9, 8, 1, 2] ∧
    (saveWriter exCfg exWriter (fun n => if n = 7 then some 1 else none) 0 exSt).faulted = true ∧
    content (saveWriter exCfg exWriter (fun n => if n = 7 then some 1 else none) 0 exSt).final (.user "m.data")
      = some [1, 2, 3, 4] := by decide +kernel

/-- sharded: the pre-flight refuses when a shard name exists, and otherwise runs -/
example : (saveSharded 420 false [("m.data", [])] (fun _ => none) exSt).steps.length = 0 := by decide +kernel
example : (saveSharded 420 false [("a-1", [⟨0, [[7]], none⟩]), ("a-2", [⟨0, [[8]], none⟩])]
    (fun _ => none) exSt).faulted = false ∧
    content (saveSharded 420 false [("a-1", [⟨0, [[7]], none⟩]), ("a-2", [⟨0, [[8]], none⟩])]
      (fun _ => none) exSt).final (.user "a-2") = some [8] := by decide +kernel

/-! ## Symbolic links, every schedule of the parallel writer, the sequential sharded save as a whole -/

/-- Lines 453-457, 467-471, 496: for every link table (chains of any length,
relative or absolute texts, `..`, links in the middle of a path = symlinked directories, dangling
links), every request whose last component is a proper file name and every amount of gas: if the
destination can be resolved at all, the directory entry `os.replace` overwrites is *not* the location
of a symbolic link; it is exactly what the requested path reaches when every link is followed (or
the kernel cannot follow the request at all, then nothing is reachable through it); and the
temporary directory is created in that entry's own (real) directory. (`C08_destination_resolved` is the same statement for links as a
name-to-name table.) -/
theorem C08_destination_entry (L : Links) (gas : Nat) (requested entry : Comps)
    (hb : properBase requested = true) (h : destEntryL L gas requested = some entry) :
    L.lookup entry = none ∧
    (realpathL L gas requested = none ∨ realpathL L gas requested = some entry) ∧
    ∃ d, destinationPathL L gas requested = some d ∧ tmpParentL L gas d = some entry.dropLast := by
  unfold destEntryL at h
  cases hd : destinationPathL L gas requested with
  | none => simp [hd] at h
  | some d =>
    simp only [hd, Option.bind_some] at h
    unfold destinationPathL at hd
    cases hlast : requested.getLast? with
    | none => simp [properBase, hlast] at hb
    | some b =>
      have hpb : Proper b := by
        simp only [properBase, hlast] at hb
        exact proper_of_properName hb
      split at hd
      · -- the request is a link: `realpath` yields a real path, and the entry a real path names is the path itself
        obtain ⟨g', hw⟩ := realpathL_eq_some.mp hd
        have hreal := walk_real L gas [] requested g' d (Real.nil L) hw
        cases hdl : d.getLast? with
        | none => simp [entryOf, hdl] at h
        | some b' =>
          have hlen : d.dropLast.length ≤ gas := by
            have := hreal.2
            simp at this ⊢
            omega
          rw [entryOf_of_real hreal.1 hdl hlen] at h
          obtain rfl := Option.some.inj h
          have hne : d ≠ [] := by intro hh; rw [hh] at hdl; simp at hdl
          exact ⟨hreal.1.pref d (List.prefix_refl _) hne, Or.inr hd, d, rfl,
            by rw [tmpParentL, realpathL_of_real hreal.1.dropLast hlen]⟩
      · -- the request is not a link: used as it is
        rename_i hnl
        simp only [Option.some.injEq] at hd
        subst hd
        have hlk : L.lookup entry = none := by
          simp only [isLinkL, h] at hnl
          cases hl : L.lookup entry with
          | none => rfl
          | some l => simp [hl] at hnl
        cases hrp : realpathL L gas requested.dropLast with
        | none => simp [entryOf, hlast, hrp] at h
        | some ri =>
          simp only [entryOf, hlast, hrp, Option.map_some, Option.some.injEq] at h
          subst h
          refine ⟨hlk, ?_, requested, rfl, by rw [tmpParentL, hrp, List.dropLast_concat]⟩
          -- following the request: parents, then the last component, which is no link
          obtain ⟨g', hw⟩ := realpathL_eq_some.mp hrp
          have := realpathL_concat hw hpb hlk
          rwa [← getLast?_dropLast_concat requested b hlast] at this

/-- The entry is no link (`C08_destination_entry`), so `os.replace` erases nothing from the table. -/
theorem saveL_eq {L0 : Links} {c : LCfg} (hb : properBase c.requested = true) {f : Nat → Option Nat} {n0 : Nat}
    {s0 : St} {r : LRes} (h : saveL L0 c f n0 s0 = some r) :
    ∃ entry, destEntryL L0 c.gas c.requested = some entry ∧ r = liftL L0 (save (lower L0 c entry) f n0 s0) := by
  unfold saveL at h
  split at h
  · simp at h
  · rename_i entry he
    have hk := eraseKey_of_lookup_none entry L0 (C08_destination_entry L0 c.gas c.requested entry hb he).1
    simp only [Option.some.injEq] at h
    exact ⟨entry, he, by rw [← h, saveWithL_eq _ _ _ _ _ _ _ _ hk]; rfl⟩

/-- Whatever fails and wherever the process dies, the save never changes a
symbolic link: in every visited state and at the end the link table is the initial one — in
particular the requested path, if it was a symbolic link, still is the same link with the same text,
and so is every link of the chain and every symlinked directory on the way. (`os.replace` overwrites
the resolved entry, never a link: `C08_destination_entry`.) -/
theorem C08_symlink_kept (L0 : Links) (c : LCfg) (hb : properBase c.requested = true)
    (f : Nat → Option Nat) (n0 : Nat) (s0 : St) (r : LRes) (h : saveL L0 c f n0 s0 = some r) :
    (∀ st ∈ r.steps, st.st.links = L0) ∧ r.final.links = L0 := by
  rcases saveL_eq hb h with ⟨entry, _, rfl⟩
  refine ⟨fun st hst => ?_, rfl⟩
  rcases List.mem_map.mp hst with ⟨x, _, rfl⟩
  rfl

/-- `C08_crash` through the requested path: for every link table, request,
tensor list, fault assignment and every visited state (= every crash point, incl. mid-write and while
the handlers run), the bytes reachable *through the requested path* — following the whole chain of
links as it is in that state — are exactly the bytes reachable before the save, or exactly the
complete new bytes. -/
theorem C08_crash_links (L0 : Links) (c : LCfg) (hb : properBase c.requested = true)
    (f : Nat → Option Nat) (n0 : Nat) (s0 : St) (h0 : WF s0) (r : LRes)
    (h : saveL L0 c f n0 s0 = some r) :
    ∀ st ∈ r.steps,
      reachL st.st.links c.gas st.st.st c.requested = reachL L0 c.gas s0 c.requested ∨
      reachL st.st.links c.gas st.st.st c.requested = some (image (c.tensors.map (toTensor L0 c.gas))) := by
  rcases saveL_eq hb h with ⟨entry, he, rfl⟩
  intro st hst
  rcases List.mem_map.mp hst with ⟨x, hx, rfl⟩
  show reachL L0 c.gas x.st c.requested = _ ∨ reachL L0 c.gas x.st c.requested = _
  rcases (C08_destination_entry L0 c.gas c.requested entry hb he).2.1 with hnone | hsome
  · left; simp [reachL, hnone]
  · have hc := C08_crash_serial (lower L0 c entry) s0 h0 n0 f x hx
    simp only [reachL, hsome, Option.bind_some]
    simpa [content, lower] using hc

/-- `C08_exception` with links: exactly one effect fails, at or before
`os.replace`; then the exception leaves, no symbolic link changed, *every* path (spelled any way)
reaches the bytes it reached before, the temporary file and directory are gone and no tensor was
invalidated. -/
theorem C08_exception_links (L0 : Links) (c : LCfg) (hb : properBase c.requested = true)
    (s0 : St) (h0 : WF s0) (hdir : s0.fs.isDir .tmpDir = false) (n0 : Nat) (f : Nat → Option Nat)
    (entry : Comps) (he : destEntryL L0 c.gas c.requested = some entry) (r : LRes)
    (h : saveL L0 c f n0 s0 = some r) (k p : Nat) (hk : f k = some p)
    (hone : ∀ n, n ≠ k → f n = none) (hlo : n0 ≤ k)
    (hhi : k ≤ n0 + 1 + (tryBody (lower L0 c entry) s0).length) :
    r.faulted = true ∧ r.final.links = L0 ∧
    (∀ q, reachL r.final.links c.gas r.final.st q = reachL L0 c.gas s0 q) ∧
    r.final.st.fs.file .tmpFile = none ∧ r.final.st.fs.isDir .tmpDir = false ∧
    r.final.st.valid = s0.valid := by
  rcases saveL_eq hb h with ⟨entry', he', rfl⟩
  obtain rfl : entry' = entry := by rw [he] at he'; exact (Option.some.inj he').symm
  have hx := C08_exception_serial (lower L0 c entry') s0 h0 hdir n0 f k p hk hone hlo hhi
  refine ⟨hx.1, rfl, fun q => ?_, hx.2.2.1, hx.2.2.2.1, hx.2.2.2.2.1⟩
  show reachL L0 c.gas (save (lower L0 c entry') f n0 s0).final q = _
  simp only [reachL]
  cases realpathL L0 c.gas q with
  | none => rfl
  | some rq => simpa [content] using (hx.2.1 (nameOf rq)).2.1

/-- `C08_invalidate_iff` with symbolic-link aliases and hard links (the test at 504): if no effect after `os.replace` fails, then at the end a tensor is invalid iff
it was invalid before, or the destination was replaced, the destination entry named a file, and the
tensor is an external tensor whose path — spelled any way: the requested name, any link of the
chain, a path through a symlinked directory, the real name — resolves to that very entry. A tensor
that reads the old inode through another *hard link* (a different entry) stays valid, and so does
every tensor when the save fails. -/
theorem C08_invalidate_iff_links (L0 : Links) (c : LCfg) (s0 : St) (h0 : WF s0) (hb : properBase c.requested = true)
    (hrep : s0.replaced = false) (n0 : Nat) (f : Nat → Option Nat)
    (entry : Comps) (he : destEntryL L0 c.gas c.requested = some entry) (r : LRes)
    (h : saveL L0 c f n0 s0 = some r)
    (hlate : ∀ m, n0 + 1 + (tryBody (lower L0 c entry) s0).length < m → f m = none) (i : Nat) :
    r.final.st.valid i = false ↔
      (s0.valid i = false ∨
        (r.final.st.replaced = true ∧ (s0.fs.file (.user (nameOf entry))).isSome = true ∧
          ∃ t e, c.tensors[i]? = some t ∧ t.ext = some e ∧
            followName L0 c.gas e.path = nameOf entry)) := by
  rcases saveL_eq hb h with ⟨entry', he', rfl⟩
  obtain rfl : entry' = entry := by rw [he] at he'; exact (Option.some.inj he').symm
  show (save (lower L0 c entry') f n0 s0).final.valid i = false ↔
    (s0.valid i = false ∨ ((save (lower L0 c entry') f n0 s0).final.replaced = true ∧ _))
  -- left side by the link-free theorem; what remains is membership in `invalidated` against the spelling of the path
  rw [C08_invalidate_iff (lower L0 c entry') s0 h0 hrep n0 f hlate i, invalidated_iff]
  -- the lowered tensor spells the destination name iff the tensor's own path resolves to the entry
  have hex : (∃ t e, (lower L0 c entry').tensors[i]? = some t ∧ t.ext = some e ∧ e.path = nameOf entry') ↔
      ∃ t e, c.tensors[i]? = some t ∧ t.ext = some e ∧ followName L0 c.gas e.path = nameOf entry' := by
    simp only [lower, List.getElem?_map, Option.map_eq_some_iff]
    constructor
    · rintro ⟨_, _, ⟨lt, hlt, rfl⟩, hext, hp⟩
      simp only [toTensor, Option.map_eq_some_iff] at hext
      rcases hext with ⟨le, hle, rfl⟩
      exact ⟨lt, le, hlt, hle, hp⟩
    · rintro ⟨lt, le, hlt, hle, hp⟩
      exact ⟨toTensor L0 c.gas lt, ⟨followName L0 c.gas le.path, le.off, le.len⟩, ⟨lt, hlt, rfl⟩,
        by simp [toTensor, hle], hp⟩
  show _ ∨ (_ ∧ ∃ t e, (lower L0 c entry').tensors[i]? = some t ∧ t.ext = some e ∧ e.path = nameOf entry') ∧ _ ↔ _
  rw [hex]
  exact or_congr Iff.rfl and_comm

/-- Every trace of the language of `_write_parallel` (`parValid`: the
prelude, any interleaving of the workers' `openW/seekW/writeW` and the call-backs, the closing of
the handles) consists of effects on the temporary file only. The harness checks on every run that
the traces of the real parallel writer belong to this language. -/
theorem C08_parallel_language (cfg : Cfg) (maxWorkers : Nat) (trace : List Eff)
    (h : parValid cfg maxWorkers trace = true) : ∀ e ∈ trace, e.tmpOnly = true := by
  unfold parValid at h
  split at h
  · rename_i n rest
    simp only [Bool.and_eq_true] at h
    obtain ⟨⟨⟨⟨⟨⟨⟨_, hmid⟩, hcl⟩, _⟩, _⟩, _⟩, _⟩, _⟩ := h
    intro e he
    simp only [List.mem_cons] at he
    rcases he with rfl | rfl | rfl | he
    · rfl
    · rfl
    · rfl
    · rw [← List.takeWhile_append_dropWhile (p := fun e => !isCloseW e) (l := rest)] at he
      simp only [List.mem_append] at he
      rcases he with he | he
      · have := List.all_eq_true.mp hmid e he
        cases e <;> first | rfl | simp [isMid] at this
      · have := List.all_eq_true.mp hcl e he
        cases e <;> first | rfl | simp [isCloseW] at this
  · simp at h

/-- Every schedule of the parallel writer, with failures inside the block.
`m`: any sequence of effects on the temporary file in which any subset failed while the block went on (the other
workers running on after a failure, the handles being closed in the `finally`); every interleaving of the workers of
`_write_parallel` is such a sequence (`C08_parallel_language`; no more of the language is needed).
`f`: the failures outside the block.
In every visited state the destination holds exactly its previous bytes or exactly the bytes of the fault-free save,
and as long as `os.replace` has not been executed every caller path shows exactly the bytes it showed before. -/
theorem C08_crash_schedule (cfg : Cfg) (m : List Marked) (hm : ∀ x ∈ m, x.1.tmpOnly = true)
    (s0 : St) (h0 : WF s0) (n0 : Nat) (f : Nat → Option Nat) :
    ∀ st ∈ (saveMarked cfg m f n0 s0).steps,
      (content st.st (.user cfg.env.dest) = content s0 (.user cfg.env.dest) ∨
        content st.st (.user cfg.env.dest) =
          content (saveWriter cfg (m.map (·.1)) (fun _ => none) n0 s0).final (.user cfg.env.dest)) ∧
      (st.st.replaced = false → ∀ n, content st.st (.user n) = content s0 (.user n)) := by
  intro st hst
  cases hok : allOk m with
  | true =>
    -- nothing failed in the block: `saveWriter` with the block's indices fault free. The writer is left to
    -- unification: written out as `m.map (·.1)` its body is elaborated late and the unifier unfolds `saveWith`.
    have hw : ∀ e ∈ m.map (·.1), e.tmpOnly = true := by
      intro e he
      rcases List.mem_map.mp he with ⟨x, hx, rfl⟩
      exact hm x hx
    simp only [saveMarked, hok, if_true, saveWriter] at hst
    exact ⟨C08_crash _ _ _ (tryBodyWith_tmpOnly cfg s0 _ hw) (postEffs_noData cfg s0) s0 h0 n0 _ st hst,
      saveWith_unreplaced_old _ _ _ (tryBodyWith_tmpOnly cfg s0 _ hw) (postEffs_noData cfg s0) s0 h0 n0 _ st hst⟩
  | false =>
    have hold := (saveMarked_failed cfg m hm hok s0 h0 n0 f).2.2 st hst
    exact ⟨Or.inl (old_content h0 hold _), fun _ n => old_content h0 hold n⟩

/-- If some effect of the writer block failed — under any schedule,
whatever the other workers still did, whatever else fails — the exception leaves the function and in
every visited state and at the end every caller path names the same inode with the same bytes and
mode as before, no tensor was invalidated and every external tensor reads what it read before. -/
theorem C08_exception_schedule (cfg : Cfg) (m : List Marked) (hm : ∀ x ∈ m, x.1.tmpOnly = true)
    (hfail : allOk m = false) (s0 : St) (h0 : WF s0) (n0 : Nat) (f : Nat → Option Nat) :
    let r := saveMarked cfg m f n0 s0
    r.faulted = true ∧
    ∀ s, (s = r.final ∨ ∃ st ∈ r.steps, s = st.st) →
      (∀ n, s.fs.file (.user n) = s0.fs.file (.user n) ∧ content s (.user n) = content s0 (.user n) ∧
            (s.fs.file (.user n)).map s.fs.mode = (s0.fs.file (.user n)).map s0.fs.mode) ∧
      s.valid = s0.valid ∧
      (∀ i e, (∀ mm, s0.mapped i = some mm → s0.fs.file (.user e.path) = some mm) →
        readT s i e = readT s0 i e) := by
  intro r
  have key := saveMarked_failed cfg m hm hfail s0 h0 n0 f
  refine ⟨key.1, fun s hs => ?_⟩
  have ho : Old s0 s := by
    rcases hs with rfl | ⟨st, hst, rfl⟩
    · exact key.2.1
    · exact key.2.2 st hst
  exact ho.view h0

theorem save_final_content (cfg : Cfg) (s0 : St) (h0 : WF s0) (n0 : Nat) (f : Nat → Option Nat) :
    content (save cfg f n0 s0).final (.user cfg.env.dest) = content s0 (.user cfg.env.dest) ∨
    content (save cfg f n0 s0).final (.user cfg.env.dest) = some (image cfg.tensors) := by
  rw [← C08_new_is_image cfg s0 h0 n0]
  unfold save
  have hnew := saveWith_none_frozen cfg.env (tryBody cfg s0) (postEffs cfg s0) (tryBody_tmpOnly cfg s0)
    (postEffs_noData cfg s0) s0 h0 n0
  rcases (saveWith_two_phase (twoPhase_old_frozen cfg.env (tryBody cfg s0) (postEffs cfg s0) (tryBody_tmpOnly cfg s0)
    (postEffs_noData cfg s0) s0 h0 n0) f).final with h | h
  · left; exact old_content h0 h _
  · right; rw [frozen_content h, frozen_content hnew]

/-- "Old, or the complete image of a shard that is written there." -/
def ShardInv (jobs : List (String × List Tensor)) (s0 s : St) : Prop :=
  ∀ n, content s (.user n) = content s0 (.user n) ∨
    ∃ ts, (n, ts) ∈ jobs ∧ content s (.user n) = some (image ts)

theorem shardLoop_crash (newMode : Nat) (cb : Bool) (f : Nat → Option Nat)
    (all : List (String × List Tensor)) (s0 : St) (n : Nat) (s : St) (hs : WF s) (hi : ShardInv all s0 s) :
    (∀ st ∈ (shardLoop newMode cb f all n s).steps, ShardInv all s0 st.st) ∧
      ShardInv all s0 (shardLoop newMode cb f all n s).final := by
  refine shardLoop_inv newMode cb f all (I := ShardInv all s0) ?_ all n s (fun _ h => h) hs hi
  intro d ts n s hmem hs hi
  have hk := save_kept ⟨⟨d, newMode⟩, ts, cb⟩ s hs n f
  have step : ∀ st : St, KeptBut d s st →
      (content st (.user d) = content s (.user d) ∨ content st (.user d) = some (image ts)) →
      ShardInv all s0 st := by
    intro st hkb hd x
    by_cases hx : x = d
    · subst hx
      rcases hd with hd | hd
      · rw [hd]; exact hi x
      · exact Or.inr ⟨ts, hmem, hd⟩
    · rw [keptBut_content hs.named hkb x hx]; exact hi x
  exact ⟨fun st hst => step st.st (hk.1 st hst) (C08_crash_serial ⟨⟨d, newMode⟩, ts, cb⟩ s hs n f st hst),
    step _ hk.2 (save_final_content ⟨⟨d, newMode⟩, ts, cb⟩ s hs n f)⟩

/-- `C08_crash` across the whole multi-file save: in every visited state of a
sequential sharded save — every crash point inside any shard's save and between shard i and shard
i+1 — and at the end, under every fault assignment, *every* caller path holds exactly the bytes it
held before the save, or it is the destination of a shard and holds exactly that shard's complete
bytes; never a mixture, never a truncation, of any file. (With `C08_sharded_no_touch`: a path that
existed before always is in the first case.) -/
theorem C08_sharded_crash (newMode : Nat) (cb : Bool) (jobs : List (String × List Tensor))
    (f : Nat → Option Nat) (s0 : St) (h0 : WF s0) :
    (∀ st ∈ (saveSharded newMode cb jobs f s0).steps, ∀ n,
      content st.st (.user n) = content s0 (.user n) ∨
      ∃ ts, (n, ts) ∈ jobs ∧ content st.st (.user n) = some (image ts)) ∧
    (∀ n, content (saveSharded newMode cb jobs f s0).final (.user n) = content s0 (.user n) ∨
      ∃ ts, (n, ts) ∈ jobs ∧
        content (saveSharded newMode cb jobs f s0).final (.user n) = some (image ts)) := by
  unfold saveSharded
  split
  · simp
  · exact shardLoop_crash newMode cb f jobs s0 0 s0 h0 (fun _ => Or.inl rfl)

/-! ### Non-vacuity of the link, schedule and sharded theorems -/

/-- `model.data -> current.data -> (absolute) store/w.bin`, a symlinked directory `ld -> sub`, a link with
`..` in its text, a dangling link and a cycle -/
def exLinks : Links :=
  [(["model.data"], ⟨false, ["current.data"]⟩), (["current.data"], ⟨true, ["store", "w.bin"]⟩),
   (["ld"], ⟨false, ["sub"]⟩), (["sub", "up"], ⟨false, ["..", "store", "w.bin"]⟩),
   (["dangling"], ⟨false, ["store", "new.bin"]⟩), (["a"], ⟨false, ["b"]⟩), (["b"], ⟨false, ["a"]⟩)]

/-- `store/w.bin` = inode 0 `[1,2,3,4]`, `hard.data` another name of inode 0 -/
def exFSL : FS :=
  ⟨fun p => if p = .user "store/w.bin" ∨ p = .user "hard.data" then some 0 else none, fun _ => false,
   fun i => if i = 0 then [1, 2, 3, 4] else [], fun _ => 384, 1⟩

def exStL : St := ⟨exFSL, none, 0, fun _ => true, fun _ => none, fun _ => none, false, fun _ => none⟩

theorem exStL_wf : WF exStL :=
  ⟨fun p i h => by
      simp only [exStL, exFSL] at h ⊢
      split at h
      · simp at h; omega
      · simp at h,
   rfl, rfl, fun _ => rfl⟩

/-- tensor 0 in memory; 1 reads the file through the symlinked directory and a `..` link; 2 through
the hard link; 3 through the requested name -/
def exCfgL : LCfg :=
  ⟨40, ["model.data"], 420,
   [⟨0, [[9, 9, 8]], none⟩, ⟨3, [[1, 2]], some ⟨["ld", "up"], 0, 2⟩⟩, ⟨5, [[3]], some ⟨["hard.data"], 2, 1⟩⟩,
    ⟨6, [[4]], some ⟨["model.data"], 3, 1⟩⟩], false⟩

example : properBase exCfgL.requested = true := by decide +kernel
example : destEntryL exLinks 40 ["model.data"] = some ["store", "w.bin"] := by decide +kernel
example : destEntryL exLinks 40 ["ld", "m.data"] = some ["sub", "m.data"] := by decide +kernel
example : destEntryL exLinks 40 ["dangling"] = some ["store", "new.bin"] := by decide +kernel
example : destEntryL exLinks 40 ["a"] = none := by decide +kernel
example : isLinkL exLinks 40 ["ld", "up"] = true ∧ realpathL exLinks 40 ["ld", "up"] = some ["store", "w.bin"] := by
  decide +kernel
/-- the two-hop chain is kept, the bytes behind the requested name are replaced, the aliases (1, 3) are
invalidated, the hard-link reader (2) is not and still reads the old byte -/
def exResL : Option LRes := saveL exLinks exCfgL (fun _ => none) 0 exStL
example : exResL.map (·.faulted) = some false := by decide +kernel
example : exResL.map (·.final.links) = some exLinks := by decide +kernel
example : exResL.map (fun r => reachL r.final.links 40 r.final.st ["model.data"]) = some (some [9, 9, 8, 1, 2, 3, 4]) := by
  decide +kernel
example : exResL.map (fun r => [0, 1, 2, 3].map r.final.st.valid) = some [true, false, true, false] := by decide +kernel
example : exResL.map (fun r => readT r.final.st 2 ⟨"hard.data", 2, 1⟩) = some (some [3]) := by decide +kernel
/-- a replace that targeted the *requested* entry would destroy the link (what `applyL` can express
and `C08_symlink_kept` excludes) -/
example : eraseKey ["model.data"] exLinks ≠ exLinks := by decide +kernel
/-- a fault in the middle (one byte of the first write gets through): old bytes through every alias -/
def exResLF : Option LRes := saveL exLinks exCfgL (fun n => if n = 3 then some 1 else none) 0 exStL
example : exResLF.map (·.faulted) = some true := by decide +kernel
example : exResLF.map (fun r => reachL r.final.links 40 r.final.st ["model.data"]) = some (some [1, 2, 3, 4]) := by decide +kernel
example : exResLF.map (fun r => reachL r.final.links 40 r.final.st ["ld", "up"]) = some (some [1, 2, 3, 4]) := by decide +kernel
example : exResLF.map (fun r => r.final.st.valid 1) = some true := by decide +kernel

/-- the parallel writer's example trace is in the language; a trace that skips a tensor is not -/
example : parValid exCfg 2 [.openTmp, .truncate 5, .closeTmp, .openW 0, .callback 1, .openW 1, .callback 0, .seekW 1 0,
    .seekW 0 3, .writeW 1 [9, 9], .writeW 0 [1, 2], .writeW 1 [8], .closeW 0, .closeW 1] = true := by decide +kernel
example : parValid { exCfg with cb := false } 2 [.openTmp, .truncate 5, .closeTmp, .openW 0, .seekW 0 0, .writeW 0 [9, 9], .writeW 0 [8], .closeW 0] = false := by
  decide +kernel
/-- worker 1's write fails after one byte, worker 0 runs on, the handles are closed: the exception
leaves, the destination is as before -/
def exMarked : List Marked :=
  [(.openTmp, none), (.truncate 5, none), (.closeTmp, none), (.openW 0, none), (.openW 1, none), (.seekW 1 3, none),
   (.writeW 1 [1, 2], some 1), (.seekW 0 0, none), (.writeW 0 [9, 9, 8], none), (.closeW 0, none), (.closeW 1, none)]
example : allOk exMarked = false ∧ (∀ x ∈ exMarked, x.1.tmpOnly = true) ∧
    (saveMarked exCfg exMarked (fun _ => none) 0 exSt).faulted = true ∧
    (saveMarked exCfg exMarked (fun _ => none) 0 exSt).steps.length = 14 ∧
    content (saveMarked exCfg exMarked (fun _ => none) 0 exSt).final (.user "m.data") = some [1, 2, 3, 4] ∧
    (saveMarked exCfg exMarked (fun _ => none) 0 exSt).final.fs.isDir .tmpDir = false := by decide +kernel
/-- sharded: a crash between shard 1 and shard 2 (the second `mkdtemp` fails): shard 1 complete, shard 2 absent -/
example :
    let r := saveSharded 420 false [("a-1", [⟨0, [[7]], none⟩]), ("a-2", [⟨0, [[8]], none⟩])]
      (fun n => if n = 9 then some 0 else none) exSt
    r.faulted = true ∧ content r.final (.user "a-1") = some [7] ∧ content r.final (.user "a-2") = none ∧
    content r.final (.user "m.data") = some [1, 2, 3, 4] := by decide +kernel


/-! ## Concurrent shard drivers, interleaved effect by effect -/

/-- What a crash can leave behind / what the caller sees: the pre-flight refused and nothing happened, or
the state is one the interleaved run visits (or ends in). -/
def CVisited (r : CRes) (c : CSt) : Prop := c = r.final ∨ ∃ st ∈ r.steps, c = st.st

theorem conc_visited_inv (newMode : Nat) (jobs : List Job) (sched : List Pick) (s0 : St) (h0 : WF s0) :
    ∀ c, CVisited (saveShardedConc newMode jobs sched s0) c → CInv newMode jobs s0 c := by
  intro c hc
  unfold saveShardedConc at hc
  split at hc
  · rcases hc with rfl | ⟨st, hst, _⟩
    · exact cinv_init newMode jobs s0 h0
    · simp at hst
  · have h := crun_inv newMode (P := CInv newMode jobs s0) (fun _ _ => true)
      (fun c k o e hc he _ => cinv_step newMode jobs s0 c k o e hc he) sched _ (cinv_init newMode jobs s0 h0)
      (fun _ _ => rfl)
    rcases hc with rfl | ⟨st, hst, rfl⟩
    · exact h.1
    · exact h.2 st hst

/-- The concurrent shard drivers of `_write_external_tensors`, 874-911,
interleaved at the granularity of single file-system effects.  For every list of shards (destination +
any writer effects: a serial writer, or any interleaving of an inner parallel writer), every schedule —
which driver performs its next effect, in any order, each effect succeeding or failing (a write after any
number of bytes), the exception handlers of a failed driver being interleaved with the other drivers like
everything else — and every state `c` the run visits (= every crash point) or ends in:

* the pre-flight refuses iff a shard destination exists, and then not a single effect is performed;
* every file that existed before still has its name, its inode, its bytes and its mode;
* every caller path holds exactly what it held before, or it is the destination of a shard, did not exist
  before, and holds exactly the complete bytes of that shard (`newBytes`: what the shard's writer produces
  when it runs to its end undisturbed) — so every shard destination is absent or complete, whatever the
  other drivers were doing at that moment;
* the tensors' flags and mappings are untouched (in this model the drivers act on their private worlds and `publish`
  copies `valid`/`mapped`: there is no release or invalidation loop, the pre-flight having found no destination). -/
theorem C08_sharded_concurrent_crash (newMode : Nat) (jobs : List Job) (sched : List Pick) (s0 : St)
    (h0 : WF s0) :
    ((saveShardedConc newMode jobs sched s0).refused = jobs.any (fun j => existsP s0.fs (.user j.dest))) ∧
    ((saveShardedConc newMode jobs sched s0).refused = true →
      (saveShardedConc newMode jobs sched s0).steps = [] ∧ (saveShardedConc newMode jobs sched s0).final.sh = s0) ∧
    ∀ c, CVisited (saveShardedConc newMode jobs sched s0) c →
      (∀ n i, s0.fs.file (.user n) = some i →
        c.sh.fs.file (.user n) = some i ∧ c.sh.fs.data i = s0.fs.data i ∧ c.sh.fs.mode i = s0.fs.mode i) ∧
      (∀ n, content c.sh (.user n) = content s0 (.user n) ∨
        ∃ j ∈ jobs, j.dest = n ∧ content s0 (.user n) = none ∧ (newBytes newMode j).isSome = true ∧
          content c.sh (.user n) = newBytes newMode j) ∧
      c.sh.valid = s0.valid ∧ c.sh.mapped = s0.mapped := by
  refine ⟨?_, ?_, ?_⟩
  · unfold saveShardedConc; split <;> simp_all
  · unfold saveShardedConc; split <;> simp
  · intro c hc
    have hi := conc_visited_inv newMode jobs sched s0 h0 c hc
    cases hany : jobs.any (fun j => existsP s0.fs (.user j.dest)) with
    | true =>
      have hc' : c.sh = s0 := by
        unfold saveShardedConc at hc
        simp only [hany, if_true] at hc
        rcases hc with rfl | ⟨st, hst, _⟩
        · rfl
        · simp at hst
      rw [hc']
      exact ⟨fun n i hn => ⟨hn, rfl, rfl⟩, fun n => Or.inl rfl, rfl, rfl⟩
    | false =>
      have hr := hi.shared.read h0 (absent_of_preflight jobs Job.dest s0.fs hany)
      refine ⟨hr.1.read h0, fun n => (hr.2 n).imp id ?_, hi.valid, hi.mapped⟩
      rintro ⟨j, hjm, hjd, hnone, b, hb, hB⟩
      exact ⟨j, hjm, hjd, hnone, by rw [← hB]; rfl, by rw [hb, hB]⟩

/-- `C08_sharded_concurrent_crash` for shards that are written
serially (the form of `C08_sharded_crash`, for every interleaving of the shard drivers): in every
visited state and at the end every caller path holds exactly its previous bytes, or it is a shard
destination that did not exist and holds exactly the image of that shard's tensors. -/
theorem C08_sharded_concurrent_crash_serial (newMode : Nat) (cb : Bool) (js : List (String × List Tensor))
    (sched : List Pick) (s0 : St) (h0 : WF s0) :
    ∀ c, CVisited (saveShardedConc newMode (js.map (serialJob cb)) sched s0) c → ∀ n,
      content c.sh (.user n) = content s0 (.user n) ∨
      ∃ ts, (n, ts) ∈ js ∧ content s0 (.user n) = none ∧ content c.sh (.user n) = some (image ts) := by
  intro c hc n
  rcases ((C08_sharded_concurrent_crash newMode (js.map (serialJob cb)) sched s0 h0).2.2 c hc).2.1 n with
    h | ⟨j, hjm, hjd, hnone, _, hb⟩
  · exact Or.inl h
  · right
    simp only [List.mem_map] at hjm
    rcases hjm with ⟨⟨d, ts⟩, hmem, rfl⟩
    simp only [serialJob] at hjd
    subst hjd
    exact ⟨ts, hmem, hnone, by rw [hb]; exact newBytes_serial newMode cb d ts⟩

/-- The pre-flight passed, the drivers ran under any schedule with any
failures — in one shard or in several, at `mkdtemp`, anywhere in a writer, at `os.replace` — except that no
clean-up call (`os.remove`, `os.rmdir`) failed, and every driver has finished, i.e. the
`with ThreadPoolExecutor(...)` block is left and `_write_external_tensors` returns or re-raises. Then:

* it raises iff some effect failed;
* no temporary directory and no temporary file of any shard remains — also of the shards that were in the
  middle of their writer when another shard failed;
* every file that existed before has its name, inode, bytes and mode (the model has no invalidation loop here;
  `C08_sharded_concurrent_crash` says what the shard destinations hold). -/
theorem C08_sharded_concurrent_exception (newMode : Nat) (jobs : List Job) (sched : List Pick) (s0 : St)
    (h0 : WF s0) (hpre : jobs.any (fun j => existsP s0.fs (.user j.dest)) = false)
    (hdone : allDone jobs.length (saveShardedConc newMode jobs sched s0).final = true)
    (hclean : ∀ st ∈ (saveShardedConc newMode jobs sched s0).steps, st.failed = true →
      st.eff ≠ .removeTmp ∧ st.eff ≠ .rmdirTmp) :
    (anyRaised jobs.length (saveShardedConc newMode jobs sched s0).final = true ↔
      ∃ st ∈ (saveShardedConc newMode jobs sched s0).steps, st.failed = true) ∧
    (∀ k, ((saveShardedConc newMode jobs sched s0).final.procs k).loc.fs.isDir .tmpDir = false ∧
          ((saveShardedConc newMode jobs sched s0).final.procs k).loc.fs.file .tmpFile = none) ∧
    (∀ n i, s0.fs.file (.user n) = some i →
      (saveShardedConc newMode jobs sched s0).final.sh.fs.file (.user n) = some i ∧
      (saveShardedConc newMode jobs sched s0).final.sh.fs.data i = s0.fs.data i ∧
      (saveShardedConc newMode jobs sched s0).final.sh.fs.mode i = s0.fs.mode i) ∧
    (saveShardedConc newMode jobs sched s0).final.sh.valid = s0.valid := by
  have hcr := (C08_sharded_concurrent_crash newMode jobs sched s0 h0).2.2 _ (Or.inl rfl)
  have hinv := conc_visited_inv newMode jobs sched s0 h0 _ (Or.inl rfl)
  have hrun : saveShardedConc newMode jobs sched s0 =
      ⟨(crun newMode sched ⟨s0, initProcs jobs⟩).1, (crun newMode sched ⟨s0, initProcs jobs⟩).2, false⟩ := by
    simp [saveShardedConc, hpre]
  rw [hrun] at hdone hclean hcr hinv ⊢
  dsimp only at hdone hclean hcr hinv ⊢
  have hinit : ∀ k, Clean (initProcs jobs k) ∧ ¬ Exc (initProcs jobs k).pc := by
    intro k
    simp only [initProcs]
    cases jobs[k]? <;> simp [Clean, Exc, noTmp_empty]
  refine ⟨⟨fun hr => ?_, ?_⟩, fun k => ?_, hcr.1, hcr.2.2.1⟩
  · -- raised -> some effect failed
    apply Classical.byContradiction
    intro hno
    have h := crun_noexc newMode sched _ (fun k => (hinit k).2) (fun st hst => by
      cases hf : st.failed with
      | false => rfl
      | true => exact absurd ⟨st, hst, hf⟩ hno)
    simp only [anyRaised, List.any_eq_true, List.mem_range, beq_iff_eq] at hr
    rcases hr with ⟨k, _, hk⟩
    exact h k (by rw [hk]; rfl)
  · -- some effect failed -> raised
    rintro ⟨st, hst, hf⟩
    have he := crun_failed_exc newMode sched _ st hst hf
    have hk : st.k < jobs.length := by
      apply Nat.lt_of_not_le
      intro hle
      simp [Exc, hinv.out st.k hle] at he
    rcases allDone_spec hdone st.k hk with ⟨b, hb⟩
    simp only [Exc, hb] at he
    simp only [anyRaised, List.any_eq_true, List.mem_range, beq_iff_eq]
    exact ⟨st.k, hk, by rw [hb, he]⟩
  · -- no temporary path remains
    have hc := crun_clean newMode sched _ (fun k => (hinit k).1) hclean k
    by_cases hk : k < jobs.length
    · rcases allDone_spec hdone k hk with ⟨b, hb⟩
      simpa [Clean, hb, noTmp] using hc
    · simpa [Clean, hinv.out k (Nat.le_of_not_lt hk), noTmp] using hc

/-! ### Non-vacuity of the concurrent theorems -/

/-- two shards written serially -/
def exJobs : List Job :=
  [serialJob false ("a-1", [⟨0, [[7, 7]], none⟩]), serialJob false ("a-2", [⟨0, [[8]], none⟩, ⟨1, [[9]], none⟩])]

/-- round robin between the two drivers; shard 1's second write (its 6th effect) fails -/
def exSched (fail : Bool) : List Pick :=
  (List.range 24).map fun i => ⟨i % 2, if fail && i == 11 then some 0 else none⟩

example : WF exSt ∧ exJobs.any (fun j => existsP exSt.fs (.user j.dest)) = false := ⟨exSt_wf, by decide +kernel⟩
example : ∀ j ∈ exJobs, ∀ e ∈ j.body, e.isWriter = true := by decide +kernel
example : exJobs.map (newBytes 420) = [some [7, 7], some [8, 9]] := by decide +kernel
/-- fault free: both shards complete, everything finished, nothing raised, nothing left -/
example :
    let r := saveShardedConc 420 exJobs (exSched false) exSt
    r.refused = false ∧ allDone 2 r.final = true ∧ anyRaised 2 r.final = false ∧ r.steps.length = 18 ∧
    content r.final.sh (.user "a-1") = some [7, 7] ∧ content r.final.sh (.user "a-2") = some [8, 9] ∧
    content r.final.sh (.user "m.data") = some [1, 2, 3, 4] := by decide +kernel
/-- the interleaving is effect by effect: the first six steps alternate between the drivers -/
example : ((saveShardedConc 420 exJobs (exSched false) exSt).steps.take 6).map (·.k) = [0, 1, 0, 1, 0, 1] := by decide +kernel
/-- shard 1 fails in the middle of its writer right after shard 0's `os.replace` (shard 0's clean-up is
still to come): shard 0 is complete at the end, shard 1 absent, the function raises, no temporary path
remains; at the crash point right after the failure shard 0's file is complete, shard 1's destination
does not exist and its temporary file is half written -/
example :
    let r := saveShardedConc 420 exJobs (exSched true) exSt
    allDone 2 r.final = true ∧ anyRaised 2 r.final = true ∧
    (∀ st ∈ r.steps, st.failed = true → st.eff ≠ .removeTmp ∧ st.eff ≠ .rmdirTmp) ∧
    content r.final.sh (.user "a-1") = some [7, 7] ∧ content r.final.sh (.user "a-2") = none ∧
    content r.final.sh (.user "m.data") = some [1, 2, 3, 4] ∧
    (r.final.procs 1).loc.fs.isDir .tmpDir = false ∧ (r.final.procs 0).loc.fs.isDir .tmpDir = false := by decide +kernel
def exCrashStep : Option CStep := (saveShardedConc 420 exJobs (exSched true) exSt).steps.find? (·.failed)
example : exCrashStep.map (·.k) = some 1 := by decide +kernel
example : exCrashStep.map (fun st => (content st.st.sh (.user "a-1"), content st.st.sh (.user "a-2")))
    = some (some [7, 7], none) := by decide +kernel
example : exCrashStep.map (fun st => (content (st.st.procs 0).loc .tmpFile, content (st.st.procs 1).loc .tmpFile))
    = some (none, some [8]) := by decide +kernel
/-- a failing clean-up call leaves the temporary directory behind (why the hypothesis is there) -/
example :
    let r := saveShardedConc 420 exJobs ((List.range 24).map fun i => ⟨i % 2, if i == 14 then some 0 else none⟩) exSt
    allDone 2 r.final = true ∧ (r.final.procs 0).loc.fs.isDir .tmpDir = true := by decide +kernel
/-- the pre-flight refuses when a shard name is taken -/
example : (saveShardedConc 420 [serialJob false ("m.data", [])] (exSched false) exSt).refused = true := by decide +kernel


/-! ## Inner parallel writers inside concurrent shards (two levels) -/

def NVisited (r : NRes) (c : NCSt) : Prop := c = r.final ∨ ∃ st ∈ r.steps, c = st.st

theorem nest_visited_inv (newMode : Nat) (jobs : List NJob) (sched : List NPick) (s0 : St) (h0 : WF s0)
    (hok : ∀ j ∈ jobs, jobOk newMode j = true) :
    ∀ c, NVisited (saveShardedNest newMode jobs sched s0) c → NCInv newMode jobs s0 c := by
  intro c hc
  unfold saveShardedNest at hc
  split at hc
  · rcases hc with rfl | ⟨st, hst, _⟩
    · exact ncinv_init newMode jobs s0 h0
    · simp at hst
  · have h := nrun_inv newMode jobs s0 hok sched _ (ncinv_init newMode jobs s0 h0)
    rcases hc with rfl | ⟨st, hst, rfl⟩
    · exact h.1
    · exact h.2 st hst

/-- Shard drivers x inner workers, 874-911 around 606-666.  The
shard saves run concurrently AND a shard's writer may be the parallel writer: every shard has a driver thread
(`mkdtemp`, prelude, waiting for its pool, closing the handles, `os.replace`, clean-up) and any number of inner
workers (take a queued task, open a handle, call-back, seek, write chunk by chunk — all on
that shard's own temporary file).  For every list of shards whose jobs are well formed (`jobOk`, decidable,
evaluated on every compared run: the driver's own effects create the file, every task's range lies inside the
preallocated file, overlapping ranges agree), every two-level schedule — which thread of which shard performs
its next effect, in any order, each effect succeeding or failing (a write after any number of bytes), a
failed task's siblings running on, queued tasks being started or dropped, the handlers interleaved like
everything else — and every state `c` the run visits (= every crash point) or ends in: the four clauses of
`C08_sharded_concurrent_crash`, the complete bytes of a shard being `nBytes` (every tensor's bytes at its offset in a
file of the preallocated size — a function of the job alone, whatever the interleaving of the inner workers was;
`= image` of the tensors for a serially written shard, `C08_nested_bytes_serial`). -/
theorem C08_sharded_concurrent_nested_crash (newMode : Nat) (jobs : List NJob) (sched : List NPick) (s0 : St)
    (h0 : WF s0) (hok : ∀ j ∈ jobs, jobOk newMode j = true) :
    ((saveShardedNest newMode jobs sched s0).refused = jobs.any (fun j => existsP s0.fs (.user j.dest))) ∧
    ((saveShardedNest newMode jobs sched s0).refused = true →
      (saveShardedNest newMode jobs sched s0).steps = [] ∧ (saveShardedNest newMode jobs sched s0).final.sh = s0) ∧
    ∀ c, NVisited (saveShardedNest newMode jobs sched s0) c →
      (∀ n i, s0.fs.file (.user n) = some i →
        c.sh.fs.file (.user n) = some i ∧ c.sh.fs.data i = s0.fs.data i ∧ c.sh.fs.mode i = s0.fs.mode i) ∧
      (∀ n, content c.sh (.user n) = content s0 (.user n) ∨
        ∃ j ∈ jobs, j.dest = n ∧ content s0 (.user n) = none ∧
          content c.sh (.user n) = some (nBytes newMode j)) ∧
      c.sh.valid = s0.valid ∧ c.sh.mapped = s0.mapped := by
  refine ⟨?_, ?_, ?_⟩
  · unfold saveShardedNest; split <;> simp_all
  · unfold saveShardedNest; split <;> simp
  · intro c hc
    have hi := nest_visited_inv newMode jobs sched s0 h0 hok c hc
    cases hany : jobs.any (fun j => existsP s0.fs (.user j.dest)) with
    | true =>
      have hc' : c.sh = s0 := by
        unfold saveShardedNest at hc
        simp only [hany, if_true] at hc
        rcases hc with rfl | ⟨st, hst, _⟩
        · rfl
        · simp at hst
      rw [hc']
      exact ⟨fun n i hn => ⟨hn, rfl, rfl⟩, fun n => Or.inl rfl, rfl, rfl⟩
    | false =>
      have hr := hi.shared.read h0 (absent_of_preflight jobs NJob.dest s0.fs hany)
      refine ⟨hr.1.read h0, fun n => (hr.2 n).imp id ?_, hi.valid, hi.mapped⟩
      rintro ⟨j, hjm, hjd, hnone, b, hb, hB⟩
      exact ⟨j, hjm, hjd, hnone, by rw [hb, hB]⟩

/-- A serially written shard is a well-formed job of the two-level model and its
complete bytes are the image of its tensors (the "complete new bytes" of `C08_new_is_image`). -/
theorem C08_nested_bytes_serial (newMode : Nat) (cb : Bool) (d : String) (ts : List Tensor) :
    jobOk newMode (serNJob cb (d, ts)) = true ∧ nBytes newMode (serNJob cb (d, ts)) = image ts := by
  have h := newBytes_serial newMode cb d ts
  have hpe : preEnd newMode (serNJob cb (d, ts)) = bodyEnd newMode (serialJob cb (d, ts)) := rfl
  simp only [newBytes] at h
  cases hf : (bodyEnd newMode (serialJob cb (d, ts))).fs.file .tmpFile with
  | none => simp [hf] at h
  | some t =>
    simp only [hf, Option.map_some, Option.some.injEq] at h
    have hpb : preBytes newMode (serNJob cb (d, ts)) = image ts := by
      simp only [preBytes, hpe, hf]
      exact h
    constructor
    · have : ((preEnd newMode (serNJob cb (d, ts))).fs.file .tmpFile).isSome = true := by rw [hpe, hf]; rfl
      simp only [jobOk, this, Bool.true_and]
      simp [serNJob]
    · apply bytes_ext
      · rw [nBytes_length, hpb]
      · intro x hx
        rw [nBytes_length] at hx
        rw [nBytes_getD _ _ x hx, tgt_uncovered _ _ x (by intro tk htk; simp [serNJob] at htk), hpb]

/-- The complete bytes of a shard with an inner parallel writer: a file of the
preallocated size (`total_size` 617-620) that holds, at every position, the byte of the tensor whose range
contains the position, and zero in the holes. -/
theorem C08_nested_bytes_parallel (newMode : Nat) (cb : Bool) (d : String) (ts : List Tensor) :
    (nBytes newMode (parNJob cb (d, ts))).length = totalSize ts ∧
    ∀ x, x < totalSize ts → (nBytes newMode (parNJob cb (d, ts))).getD x 0 =
      match (tasksFrom 0 ts).find? (fun t => t.covers x) with
      | some t => t.bytes.getD (x - t.off) 0
      | none => 0 := by
  -- the prelude on the empty world: `open` makes inode 0 with no bytes, `truncate` extends it with zeros, `close` keeps it
  have hfile : (preEnd newMode (parNJob cb (d, ts))).fs.file .tmpFile = some 0 := by
    simp [preEnd, parNJob, apply, emptySt, emptyFS, upd]
  have hdata : (preEnd newMode (parNJob cb (d, ts))).fs.data 0 = resize [] (totalSize ts) := by
    simp [preEnd, parNJob, apply, emptySt, emptyFS, upd]
  have hpb : preBytes newMode (parNJob cb (d, ts)) = List.replicate (totalSize ts) 0 := by
    simp [preBytes, hfile, hdata, resize]
  constructor
  · rw [nBytes_length, hpb]; simp
  · intro x hx
    rw [nBytes_getD _ _ x (by rw [hpb]; simpa using hx)]
    simp only [tgtByte, hpb]
    show (match (tasksFrom 0 ts).find? (fun t => t.covers x) with
      | some t => t.bytes.getD (x - t.off) 0
      | none => (List.replicate (totalSize ts) 0).getD x 0) = _
    split <;> simp [List.getD_eq_getElem?_getD, hx]

/-! ### Non-vacuity of the two-level theorem -/

/-- shard 0 has an inner parallel writer (two tensors, the second in two chunks), shard 1 is written serially -/
def exNJobs : List NJob :=
  [parNJob false ("a-1", [⟨0, [[7, 7]], none⟩, ⟨2, [[8], [9]], none⟩]), serNJob false ("a-2", [⟨0, [[5]], none⟩])]

example : ∀ j ∈ exNJobs, jobOk 420 j = true := by decide +kernel
example : exNJobs.map (nBytes 420) = [[7, 7, 8, 9], [5]] := by decide +kernel

/-- both levels interleaved: the two drivers alternate; inside shard 0 the workers with handles 0 and 1 alternate
(handle 1 writes the second tensor's first chunk before handle 0 has written anything); `fail`: that first chunk
fails after 0 bytes -/
def exNSched (fail : Bool) : List NPick :=
  [⟨0, none, 0, none⟩, ⟨1, none, 0, none⟩, ⟨0, none, 0, none⟩, ⟨1, none, 0, none⟩, ⟨0, none, 0, none⟩, ⟨0, none, 0, none⟩,
   ⟨0, some 0, 0, none⟩, ⟨0, some 1, 1, none⟩, ⟨1, none, 0, none⟩, ⟨0, some 1, 0, none⟩, ⟨0, some 0, 0, none⟩,
   ⟨0, some 1, 0, if fail then some 0 else none⟩, ⟨0, none, 0, none⟩, ⟨0, some 0, 0, none⟩, ⟨1, none, 0, none⟩,
   ⟨0, some 1, 0, none⟩] ++
  (List.range 12).map (fun i => ⟨i % 2, none, 0, none⟩)

example :
    let r := saveShardedNest 420 exNJobs (exNSched false) exSt
    r.refused = false ∧ nAllDone 2 r.final = true ∧ nAnyRaised 2 r.final = false ∧
    content r.final.sh (.user "a-1") = some [7, 7, 8, 9] ∧ content r.final.sh (.user "a-2") = some [5] ∧
    content r.final.sh (.user "m.data") = some [1, 2, 3, 4] := by decide +kernel
/-- the driver of shard 0 cannot close the handles while an inner worker is in the middle of its task: its pick
(the 13th) is skipped, so the trace has one step less than the schedule has picks that could move -/
example : ((saveShardedNest 420 exNJobs (exNSched false) exSt).steps.map (fun s => (s.k, s.w))).take 14 =
    [(0, none), (1, none), (0, none), (1, none), (0, none), (0, none), (0, some 0), (0, some 1), (1, none),
     (0, some 1), (0, some 0), (0, some 1), (0, some 0), (1, none)] := by decide +kernel
/-- handle 1's write fails: its sibling (handle 0) runs on to the end of its task, then the handles are closed, the
exception leaves, shard 0's destination stays absent, no temporary path remains; shard 1 is complete -/
example :
    let r := saveShardedNest 420 exNJobs (exNSched true) exSt
    nAllDone 2 r.final = true ∧ nAnyRaised 2 r.final = true ∧
    content r.final.sh (.user "a-1") = none ∧ content r.final.sh (.user "a-2") = some [5] ∧
    (r.final.procs 0).loc.fs.isDir .tmpDir = false ∧ (r.final.procs 0).loc.fs.file .tmpFile = none ∧
    (r.steps.filter (fun s => s.k == 0 && s.w == some 0)).length = 3 := by decide +kernel
example : (saveShardedNest 420 [serNJob false ("m.data", [])] (exNSched false) exSt).refused = true := by decide +kernel


/-! ## The exception path of the two-level run -/

/-- The two-level counterpart of `C08_sharded_concurrent_exception`:
shard drivers x inner workers, ANY jobs (`jobOk` of `C08_sharded_concurrent_nested_crash` is not needed here).  The
pre-flight passed, the threads ran under any two-level schedule with any failures — in one shard or in several,
at `mkdtemp`, in the prelude, in a task of an inner worker (its siblings running on, the queue being dropped), at
the `close` of a handle, at `os.replace` — except that no clean-up call (`os.remove`, `os.rmdir`) failed, and
every driver thread has finished, i.e. the `with ThreadPoolExecutor(...)` block is left and
`_write_external_tensors` returns or re-raises.  Then the three clauses of `C08_sharded_concurrent_exception` hold, the
failed effect being one of a driver thread or of an inner worker. -/
theorem C08_sharded_concurrent_nested_exception (newMode : Nat) (jobs : List NJob) (sched : List NPick) (s0 : St)
    (h0 : WF s0) (hpre : jobs.any (fun j => existsP s0.fs (.user j.dest)) = false)
    (hdone : nAllDone jobs.length (saveShardedNest newMode jobs sched s0).final = true)
    (hclean : ∀ st ∈ (saveShardedNest newMode jobs sched s0).steps, st.failed = true →
      st.eff ≠ .removeTmp ∧ st.eff ≠ .rmdirTmp) :
    (nAnyRaised jobs.length (saveShardedNest newMode jobs sched s0).final = true ↔
      ∃ st ∈ (saveShardedNest newMode jobs sched s0).steps, st.failed = true) ∧
    (∀ k, ((saveShardedNest newMode jobs sched s0).final.procs k).loc.fs.isDir .tmpDir = false ∧
          ((saveShardedNest newMode jobs sched s0).final.procs k).loc.fs.file .tmpFile = none) ∧
    (∀ n i, s0.fs.file (.user n) = some i →
      (saveShardedNest newMode jobs sched s0).final.sh.fs.file (.user n) = some i ∧
      (saveShardedNest newMode jobs sched s0).final.sh.fs.data i = s0.fs.data i ∧
      (saveShardedNest newMode jobs sched s0).final.sh.fs.mode i = s0.fs.mode i) ∧
    (saveShardedNest newMode jobs sched s0).final.sh.valid = s0.valid := by
  have hrun : saveShardedNest newMode jobs sched s0 =
      ⟨(nrun newMode sched ⟨s0, initNProcs jobs⟩).1, (nrun newMode sched ⟨s0, initNProcs jobs⟩).2, false⟩ := by
    simp [saveShardedNest, hpre]
  rw [hrun] at hdone hclean ⊢
  dsimp only at hdone hclean ⊢
  have hinv := nrun_shinv newMode jobs s0 h0 sched
  have hinit : ∀ k, NClean (initNProcs jobs k) ∧ NNoExc (initNProcs jobs k) := by
    intro k
    simp only [initNProcs]
    cases jobs[k]? <;> simp [NClean, NNoExc, noTmp_empty]
  have hkept := (hinv.shared.read h0 (absent_of_preflight jobs NJob.dest s0.fs hpre)).1.read h0
  refine ⟨⟨fun hr => ?_, ?_⟩, fun k => ?_, hkept, hinv.valid⟩
  · -- raised -> some effect failed
    apply Classical.byContradiction
    intro hno
    have h := nrun_nnoexc newMode sched _ (fun k => (hinit k).2) (fun st hst => by
      cases hf : st.failed with
      | false => rfl
      | true => exact absurd ⟨st, hst, hf⟩ hno)
    simp only [nAnyRaised, List.any_eq_true, List.mem_range, beq_iff_eq] at hr
    rcases hr with ⟨k, _, hk⟩
    have := (h k).2
    rw [hk] at this
    cases this
  · -- some effect failed -> raised
    rintro ⟨st, hst, hf⟩
    have he := nrun_failed_exc newMode sched _ st hst hf
    have hk : st.k < jobs.length := by
      apply Nat.lt_of_not_le
      intro hle
      simp [NExc, hinv.out st.k hle] at he
    rcases nAllDone_spec hdone st.k hk with ⟨b, hb⟩
    simp only [NExc, hb] at he
    simp only [nAnyRaised, List.any_eq_true, List.mem_range, beq_iff_eq]
    exact ⟨st.k, hk, by rw [hb, he]⟩
  · -- no temporary path remains
    have hc := nrun_nclean newMode sched _ (fun k => (hinit k).1) hclean k
    by_cases hk : k < jobs.length
    · rcases nAllDone_spec hdone k hk with ⟨b, hb⟩
      simpa [NClean, hb, noTmp] using hc
    · simpa [NClean, hinv.out k (Nat.le_of_not_lt hk), noTmp] using hc

/-! ### Non-vacuity of the hypotheses of `C08_sharded_concurrent_nested_exception` -/

example : WF exSt ∧ (∀ j ∈ exNJobs, jobOk 420 j = true) ∧
    exNJobs.any (fun j => existsP exSt.fs (.user j.dest)) = false := ⟨exSt_wf, by decide +kernel, by decide +kernel⟩
/-- an inner worker's write fails: every hypothesis holds, the save raises, nothing is left -/
example :
    let r := saveShardedNest 420 exNJobs (exNSched true) exSt
    nAllDone exNJobs.length r.final = true ∧
    (∀ st ∈ r.steps, st.failed = true → st.eff ≠ .removeTmp ∧ st.eff ≠ .rmdirTmp) ∧
    (r.steps.filter (fun s => s.failed)).map (fun s => (s.k, s.w)) = [(0, some 1)] ∧
    nAnyRaised exNJobs.length r.final = true ∧
    (∀ k ∈ [0, 1], (r.final.procs k).loc.fs.isDir .tmpDir = false ∧ (r.final.procs k).loc.fs.file .tmpFile = none) ∧
    content r.final.sh (.user "m.data") = some [1, 2, 3, 4] := by decide +kernel
/-- fault free: every hypothesis holds, nothing raises -/
example :
    let r := saveShardedNest 420 exNJobs (exNSched false) exSt
    nAllDone exNJobs.length r.final = true ∧ (∀ st ∈ r.steps, st.failed = false) ∧
    nAnyRaised exNJobs.length r.final = false := by decide +kernel
/-- a failing `os.rmdir` leaves the temporary directory of shard 1 behind (why the hypothesis is there) -/
example :
    let r := saveShardedNest 420 exNJobs
      ((List.range 10).map (fun i => (⟨1, none, 0, if i == 7 then some 0 else none⟩ : NPick))) exSt
    (r.final.procs 1).pc = .done true ∧ (r.final.procs 1).loc.fs.isDir .tmpDir = true ∧
    (r.steps.filter (fun s => s.failed)).map (fun s => s.eff) = [.rmdirTmp] := by decide +kernel

end IrVerif.AtomicSave
