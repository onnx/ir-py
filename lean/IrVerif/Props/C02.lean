import IrVerif.Lemmas.SerdeClosed
import IrVerif.Lemmas.SerdeFields
import IrVerif.Lemmas.SerdeWideSub
import IrVerif.Lemmas.SerdeMergeSub
import IrVerif.Lemmas.SerdeOutdupSub
import IrVerif.Lemmas.SerdeScalar
import IrVerif.Lemmas.SerdeIR9
/-!
C02 — ONNX proto -> IR -> proto is lossless (DESIGN.md section 5, C02).

The theorems are about the model `IrVerif/Model/Serde.lean` (a transcription of
`src/onnx_ir/serde.py`, tied to it by `harness/c02.py` on every run).  `des*` = deserialize,
`ser*` = serialize, `norm*` = the documented normalisations (a canonical form), `wf*` = the
decidable `WFproto`.  The claim is `WFproto p -> serialize (deserialize p) = norm p`, with `norm`
idempotent, for leaf messages, nodes and graphs with nested subgraphs, functions, models and the
stand-alone entry points; then the same read field by field, without `norm` (vocabulary
`ModelKeeps`, `FnKeeps`, `NodeKeeps`, `GraphKeeps`, `TensorKeeps`, `VIKeeps` in
`IrVerif/Lemmas/SerdeFields.lean`).

Facts that hold by construction of the model (bytes payloads are opaque tokens, floats are bit
patterns, a proto-backed tensor keeps its TensorProto; float32 <-> double conversion and UTF-8
decoding live in the trusted renderer of `harness/c02.py`) are stated below for the reader but are
NOT claimed as property theorems: `dim_by_construction`, `attr_scalar_by_construction`,
`tensor_proto_backed_by_construction`; their proved forms are `C02_dim_fields`,
`C02_attr_scalar_fields` (model `IrVerif/Model/SerdeScalar.lean`) and `C02_tensor_fields`.

The domain is widened in three steps (model `IrVerif/Model/SerdeWide.lean`), each by a pre-form
`T` with `deserialize (T p) = deserialize p` and the round trip for `WFproto (T p)`, canonical form
`norm (T p)`; each domain contains the one before (`*_subsumes`):
- `fold` removes what `deserialize` never reads: repeated `value_info` names (last wins),
  `value_info` entries naming a graph input, repeated opset domains, `external_data` entries that are
  shadowed or carry an unspecified key (`wfModelW`, theorems `*_wide`);
- `merge` unites a `value_info` entry naming a graph output that the graph produces into the output
  entry; `canon = merge ∘ fold` (`wfModelX`, theorems `*_canon`);
- `outdup` replaces every graph output entry of a declared name by the union of the entries of that
  name, which is what `_deserialize_graph` does to the one `Value` they address;
  `canonD = merge ∘ outdup ∘ fold` (`wfModelD`, theorems `*_outdup`, and `C02_node_alone_wide`,
  `C02_node_wide`, `C02_attr_wide`).
Below IR version 10 a value of the main graph may be named like the experimental entry
`domain::name/value` of a function value (finding D320): `wfModel9*` drop the hypothesis of `wfModel`
that excludes it (theorems `C02_model_ir9*`).
-/
namespace IrVerif.Serde
open IrVerif.Proto

/-- deserialize then serialize an attribute -/
def rtAttr (scopes : Scopes) (a : AttrP) : Except Err AttrP := desAttr scopes a >>= serAttr scopes none

/-! ## leaf messages -/

/-- (by construction, not claimed) a dimension round-trips exactly -/
theorem dim_by_construction (d : DimP) : serDim (desDim d) = d := serDim_desDim d

/-- a shape of any rank round-trips exactly -/
theorem C02_shape (s : ShapeP) : serShape (desShape s) = s := serShape_desShape s

/-- string-string maps (metadata_props, quantization parameter names): the round trip
`sortEntries (dictOfEntries es)` (a dict, written back sorted by key) is idempotent and, for distinct
keys, a permutation of the entries (no entry lost, duplicated or altered) -/
theorem C02_maps (es : List Entry) :
    sortEntries (dictOfEntries (sortEntries (dictOfEntries es))) = sortEntries (dictOfEntries es)
    ∧ (wfEntries es = true → (sortEntries (dictOfEntries es)).Perm es) :=
  ⟨normEntries_idem es, perm_normEntries⟩

/-- a TypeProto of arbitrary nesting round-trips exactly: element types, denotations at every
level, and the shape, which lands on the leaf tensor type again -/
theorem C02_type (t : TypeP) (h : wfType t = true) :
    ∃ ty sh, desTypeAndShape t = .ok (ty, sh) ∧ serTypeAndShape ty sh = t :=
  typeAndShape_roundtrip t h

example : wfType (.optional (.sequence (.tensor (some 1) (some [⟨.param "N", "DATA_BATCH"⟩, ⟨.unset, ""⟩]) "t") "s") "o") = true := by
  decide

/-- a ValueInfoProto round-trips up to the order of its metadata entries -/
theorem C02_value_info (vi : ValueInfoP) (h : wfVI vi = true) :
    ∃ v, applyInfo (IRValue.blank vi.name) vi = .ok v ∧ serValue v = normValueInfo vi := by
  simp only [wfVI, Bool.and_eq_true] at h
  obtain ⟨ty, sh, h3, _, hok⟩ := applyInfo_ok (IRValue.blank vi.name) vi h.1
  exact ⟨_, hok, serValue_of_info vi ty sh [] none h3⟩

/-- (by construction, not claimed) proto-backed tensors: the whole TensorProto is kept; only the
metadata entries are reordered -/
theorem tensor_proto_backed_by_construction (p : TensorP) (hloc : p.dataLocation ≠ 1) (hs : p.dataType ≠ 8) :
    ∃ t, desTensor p = .ok t ∧ serTensor t = normTensor p :=
  tensor_roundtrip_proto_backed p hloc hs

/-- string tensors -/
theorem C02_tensor_string (p : TensorP) (h : wfTensor p = true) (_hloc : p.dataLocation ≠ 1)
    (_hs : p.dataType = 8) : ∃ t, desTensor p = .ok t ∧ serTensor t = normTensor p := by
  obtain ⟨t, h1, h2, _⟩ := tensor_roundtrip p h
  exact ⟨t, h1, h2⟩

/-- external tensors (which entries are kept is said by `C02_tensor_fields` / `C02_fold_external`) -/
theorem C02_tensor_external (p : TensorP) (h : wfTensor p = true) (_hloc : p.dataLocation = 1) :
    ∃ t, desTensor p = .ok t ∧ serTensor t = normTensor p := by
  obtain ⟨t, h1, h2, _⟩ := tensor_roundtrip p h
  exact ⟨t, h1, h2⟩

example : wfTensor
    { emptyTensorP with
      dataLocation := 1, dataType := 1,
      externalData := [⟨"checksum", "ab"⟩, ⟨"location", "w.bin"⟩, ⟨"length", "16"⟩, ⟨"offset", "4096"⟩] }
    = true := by
  decide +kernel

/-- device configurations: model-level configurations round-trip exactly; node-level
configurations (configuration id, sharding specs with tensor references, device groups, sharded
dimensions, pipeline stage) round-trip exactly whenever ids and tensor names are non-empty -/
theorem C02_devcfg :
    (∀ c : DevCfgP, serModelCfg (desModelCfg c) = c) ∧
    (∀ (scopes : Scopes) (cs : List NodeDevCfgP), cs.all wfNodeDevCfg = true →
      serNodeDevCfgs scopes (cs.map (desNodeDevCfg scopes)) = .ok cs) :=
  ⟨fun c => by cases c; rfl, nodeDevCfgs_roundtrip⟩

/-- (by construction, not claimed) INT / FLOAT / STRING attributes round-trip exactly -/
theorem attr_scalar_by_construction (scopes : Scopes) (n d : String) :
    (∀ i, rtAttr scopes (.int n d i) = .ok (.int n d i)) ∧
    (∀ b, rtAttr scopes (.float n d b) = .ok (.float n d b)) ∧
    (∀ s, rtAttr scopes (.string n d s) = .ok (.string n d s)) := by
  refine ⟨?_, ?_, ?_⟩ <;> intro x <;> simp [rtAttr, desAttr, serAttr, bind, Except.bind]

/-- INTS / FLOATS / STRINGS attributes round-trip exactly -/
theorem C02_attr_list (scopes : Scopes) (n d : String) :
    (∀ xs, rtAttr scopes (.ints n d xs) = .ok (.ints n d xs)) ∧
    (∀ xs, rtAttr scopes (.floats n d xs) = .ok (.floats n d xs)) ∧
    (∀ xs, xs.all bstrIsUtf8 = true → rtAttr scopes (.strings n d xs) = .ok (.strings n d xs)) := by
  refine ⟨?_, ?_, ?_⟩
  · intro xs; simp [rtAttr, desAttr, serAttr, bind, Except.bind]
  · intro xs; simp [rtAttr, desAttr, serAttr, bind, Except.bind]
  · intro xs h
    obtain ⟨ys, h1, h2⟩ := desBStrs_utf8 xs h
    simp [rtAttr, desAttr, serAttr, bind, Except.bind, h1, h2]

/-- TENSOR / TENSORS attributes: every tensor round-trips (see `C02_tensor_*`) -/
theorem C02_attr_tensor (scopes : Scopes) (n d : String) :
    (∀ t, wfTensor t = true → rtAttr scopes (.tensor n d t) = .ok (.tensor n d (normTensor t))) ∧
    (∀ ts, ts.all wfTensor = true →
      rtAttr scopes (.tensors n d ts) = .ok (.tensors n d (ts.map normTensor))) := by
  refine ⟨?_, ?_⟩
  · intro t h
    obtain ⟨x, g1, g2, _⟩ := tensor_roundtrip t h
    simp [rtAttr, desAttr, serAttr, bind, Except.bind, g1, g2]
  · intro ts h
    obtain ⟨xs, h1, h2⟩ := desTensors_roundtrip ts h
    simp [rtAttr, desAttr, serAttr, bind, Except.bind, h1, h2]

/-- TYPE_PROTO / TYPE_PROTOS attributes round-trip exactly -/
theorem C02_attr_type (scopes : Scopes) (n d : String) :
    (∀ tp, wfType tp = true → rtAttr scopes (.typeProto n d tp) = .ok (.typeProto n d tp)) ∧
    (∀ tps, tps.all wfType = true → rtAttr scopes (.typeProtos n d tps) = .ok (.typeProtos n d tps)) := by
  refine ⟨?_, ?_⟩
  · intro tp h
    obtain ⟨ty, sh, g1, g2⟩ := C02_type tp h
    simp [rtAttr, desAttr, serAttr, bind, Except.bind, g1, g2]
  · intro tps h
    obtain ⟨xs, h1, h2⟩ := desTypeAndShapes_roundtrip tps h
    simp [rtAttr, desAttr, serAttr, bind, Except.bind, h1, h2]

/-- reference attributes (name, referenced name, declared type, doc string) round-trip exactly -/
theorem C02_attr_ref (scopes : Scopes) (n d r : String) (t : Int) (h : 0 ≤ t ∧ t ≤ 14) :
    rtAttr scopes (.ref n d r t) = .ok (.ref n d r t) := by
  simp [rtAttr, desAttr, serAttr, bind, Except.bind, h]

/-! ## nodes, graphs, functions, models -/

/-- every attribute, including GRAPH / GRAPHS attributes whose subgraphs (nested to any depth)
capture values of the enclosing scopes `scopes`: the round trip is the canonical form -/
theorem C02_attr (scopes : Scopes) (a : AttrP) (h : wfAttr scopes a = true) :
    rtAttr scopes a = .ok (normAttr a) := by
  obtain ⟨x, h1, h2, _⟩ := attr_rt scopes none a h (Or.inl rfl)
  simp [rtAttr, h1, h2, bind, Except.bind]

/-- a node inside the scope whose table is `tbl` (enclosing scopes `outer`): inputs resolve to the
declared values and serialize back to the same names, outputs likewise (trailing unnamed outputs
trimmed), every attribute and subgraph, metadata, multi-device configuration round-trip; the table
is not changed (no placeholder is created). -/
theorem C02_node (outer : Scopes) (vis : List ValueInfoP) (q : List AnnotP) (ver : Option Int)
    (tbl : List IRValue) (n : NodeP) (h : wfNode (tableNames tbl :: outer) n = true)
    (hver : verAllows ver = true ∨ nodeHasDevCfg n = false) :
    ∃ x, desNode outer vis q tbl n = .ok (x, tbl) ∧
      serNode (tableNames tbl :: outer) ver x = .ok (normNode n) := by
  obtain ⟨x, h1, h2, _⟩ := node_rt outer vis q ver tbl n h hver
  exact ⟨x, h1, h2⟩

/-- a graph in any scope chain `outer` (so: any subgraph, at any nesting depth, capturing outer
values): `serialize (deserialize g) = norm g` -/
theorem C02_graph (outer : Scopes) (ver : Option Int) (g : GraphP) (h : wfGraph outer g = true)
    (hver : verAllows ver = true ∨ graphHasDevCfg g = false) :
    ∃ x, desGraph outer g = .ok x ∧ serGraph outer ver x = .ok (normGraph g) :=
  graph_rt outer ver g h hver

/-- non-vacuity: a graph with an input, an initializer that is also an input, an initializer with
value_info, a quantization annotation, metadata, and an `If`-like node whose `then_branch` subgraph
captures the outer value `x`, uses an outer initializer, carries a reference attribute and a
multi-device configuration, returns an outer value and passes its own input `p` through with an
output entry that differs from the input entry (see `examplePassThrough`). -/
def exampleGraph : GraphP :=
  .mk "main" "doc"
    [ .mk ["x", "w", ""] ["y", ""] "n0" "If" "ai.onnx" "" "" 
        [ .graph "then_branch" ""
            (.mk "then" "" 
              [ .mk ["x", "b"] ["t"] "n1" "Add" "" "ov" "d"
                  [.ref "alpha" "" "alpha_outer" 1, .ints "axes" "" [0, -1]]
                  [⟨"k", "v"⟩]
                  [⟨"cfg0", [⟨"x", [0, 1], [⟨0, [0, 1]⟩], [⟨0, [⟨.value 2, 2⟩]⟩]⟩], some 1⟩] ]
              [] [⟨"p", .tensor (some 9) (some []) "", "", [⟨"m", "1"⟩]⟩]
              [⟨"t", .tensor (some 1) none "", "", []⟩, ⟨"x", .unset "", "", []⟩,
               ⟨"p", .tensor (some 9) (some [⟨.value 1, ""⟩]) "", "out doc", [⟨"o", "3"⟩, ⟨"m", "2"⟩]⟩] [] [] []),
          .int "flag" "" 1 ]
        [⟨"b", "2"⟩, ⟨"a", "1"⟩] [] ]
    [ { emptyTensorP with name := "w", dataType := 1, dims := [2], floatData := [0, 1065353216] },
      { emptyTensorP with name := "b", dataType := 7, dims := [], rawData := some "0100000000000000" } ]
    [ ⟨"x", .tensor (some 1) (some [⟨.param "N", ""⟩, ⟨.value 2, "C"⟩]) "", "", []⟩,
      ⟨"w", .tensor (some 1) (some [⟨.value 2, ""⟩]) "", "", []⟩ ]
    [ ⟨"y", .sequence (.tensor (some 1) (some []) "") "SEQ", "out", [⟨"m", "1"⟩]⟩ ]
    [ ⟨"b", .tensor (some 7) (some []) "", "", []⟩, ⟨"unreferenced", .tensor (some 1) none "", "", []⟩ ]
    [ ⟨"x", [⟨"SCALE_TENSOR", "s"⟩]⟩ ]
    [⟨"z", "1"⟩, ⟨"a", "2"⟩]

example : wfGraph [] exampleGraph = true := by decide +kernel

/-- the documented normalisation "one Value carries one type": a value that is both a graph input
and a graph output has ONE type / shape / doc string / metadata dict in the IR, so the two proto
entries are merged: the output entry's type, shape and doc win, the metadata dicts are united
(output entry wins per key) — and BOTH entries read that afterwards (`mergeVI`). -/
def examplePassThrough : GraphP :=
  .mk "g" "" [] []
    [ ⟨"x", .tensor (some 1) (some [⟨.param "N", ""⟩]) "", "in doc", [⟨"k", "i"⟩, ⟨"a", "1"⟩]⟩ ]
    [ ⟨"x", .tensor (some 1) (some [⟨.param "M", ""⟩]) "", "out doc", [⟨"k", "o"⟩, ⟨"b", "2"⟩]⟩ ]
    [] [] []

example : wfGraph [] examplePassThrough = true := by decide

example : (normGraph examplePassThrough).inputs
    = [ ⟨"x", .tensor (some 1) (some [⟨.param "M", ""⟩]) "", "out doc",
          [⟨"a", "1"⟩, ⟨"b", "2"⟩, ⟨"k", "o"⟩]⟩ ]
    ∧ (normGraph examplePassThrough).outputs = (normGraph examplePassThrough).inputs := by decide +kernel

/-- a model-local function (with overload, attribute declarations and defaults, reference
attributes in its nodes, value_info for inputs and intermediate values from IR version 10 on):
`serialize (deserialize f) = norm f` -/
theorem C02_function (ver : Int) (f : FunctionP) (h : wfFunction ver f = true)
    (hver : 11 ≤ ver ∨ nodesHaveDevCfg f.nodes = false) :
    ∃ x, desFunction f = .ok x ∧
      serFunction (some ver) (decide (ver ≥ 10)) x = .ok (normFunction (decide (ver ≥ 10)) f) := by
  obtain ⟨x, h1, h2, _⟩ := function_rt ver f h hver
  exact ⟨x, h1, h2⟩

/-- a whole model, any IR version: `WFproto m -> serialize (deserialize m) = norm m`.
(`wfModel` contains the IR-version gates: multi-device fields only from IR 11, function
value_info only from IR 10.) -/
theorem C02_model (m : ModelP) (h : wfModel m = true) :
    ∃ x, desModel m = .ok x ∧ serModel x = .ok (normModel m) :=
  model_rt m h

/-- the same in the form of the property statement: `norm (serialize (deserialize m)) = norm m`
(`norm` is idempotent on well-formed models, `normModel_idem`) -/
theorem C02_model_norm (m : ModelP) (h : wfModel m = true) :
    ∃ x y, desModel m = .ok x ∧ serModel x = .ok y ∧ normModel y = normModel m := by
  obtain ⟨x, h1, h2⟩ := model_rt m h
  exact ⟨x, normModel m, h1, h2, normModel_idem m h⟩

/-- `norm` is a canonical form: applying it twice changes nothing (graphs in any scope chain) -/
theorem C02_norm_idempotent (outer : Scopes) (g : GraphP) (h : wfGraph outer g = true) :
    normGraph (normGraph g) = normGraph g :=
  normGraph_idem outer g h

/-- quantization annotations are a map keyed by tensor name (serde.py does not keep their order):
after the round trip every annotation of the input is present exactly once (a permutation of the
input's annotations, parameter maps sorted), and tensor names stay pairwise distinct — none lost,
none duplicated.  For graphs in any scope chain. -/
theorem C02_annotations (outer : Scopes) (ver : Option Int) (g : GraphP) (h : wfGraph outer g = true)
    (hver : verAllows ver = true ∨ graphHasDevCfg g = false) :
    ∃ x y, desGraph outer g = .ok x ∧ serGraph outer ver x = .ok y ∧
      y.quant.Perm (g.quant.map normAnnot) ∧ (y.quant.map (·.tensorName)).Nodup := by
  obtain ⟨x, h1, h2⟩ := graph_rt outer ver g h hver
  have hp := normGraph_quant outer g h
  refine ⟨x, normGraph g, h1, h2, hp, ?_⟩
  have hnd : (g.quant.map (·.tensorName)).Nodup := (GraphWF.of_wf h).nodupQuant
  have : ((g.quant.map normAnnot).map (·.tensorName)) = g.quant.map (·.tensorName) := by
    simp [List.map_map, Function.comp_def, normAnnot]
  exact (List.Perm.nodup_iff (hp.map _)).2 (this ▸ hnd)

/-- no name is lost or invented: the value names (graph inputs, initializers, node inputs and
outputs, graph outputs, at every nesting depth, and of every function), the node names and the
function identifiers of `serialize (deserialize m)` are those of `m`, in the same order (hence as
multisets). -/
theorem C02_no_loss_names (m : ModelP) (h : wfModel m = true) :
    ∃ x y, desModel m = .ok x ∧ serModel x = .ok y ∧
      modelValueNames y = modelValueNames m ∧ modelNodeNames y = modelNodeNames m ∧
      modelFunctionIds y = modelFunctionIds m := by
  obtain ⟨x, h1, h2⟩ := model_rt m h
  obtain ⟨n1, n2, n3⟩ := normModel_names m
  exact ⟨x, normModel m, h1, h2, n1, n2, n3⟩

/-! ## field by field, and the stand-alone entry points -/

/-- the model-level fields (IR version, producer, domain, model version, doc string, opset imports,
device configurations) are equal, the metadata entries are the same entries; every function is
kept (`FnKeeps`: identifier, doc string, inputs, outputs, attribute declarations and defaults,
opset imports, metadata, value_info); below IR version 10 the experimental `domain::name/value`
entries of function values are kept -/
theorem C02_keeps_model (m : ModelP) (h : wfModel m = true) :
    ∃ x q, desModel m = .ok x ∧ serModel x = .ok q ∧ ModelKeeps q m := by
  obtain ⟨x, q, h1, h2, h3, _, _⟩ := model_keeps m h
  exact ⟨x, q, h1, h2, h3⟩

/-- every node of the model — main graph, function bodies, subgraphs at any depth — is kept, in
order (`NodeKeeps`: name, operator identifier up to `normDomain`, overload, doc string, inputs,
outputs up to `trimTrailingEmpty`, the attribute list with every scalar / list / type / reference
value, multi-device configurations; metadata entries; every tensor attribute by `TensorKeeps`) -/
theorem C02_keeps_nodes (m : ModelP) (h : wfModel m = true) :
    ∃ x q, desModel m = .ok x ∧ serModel x = .ok q ∧
      Pointwise NodeKeeps (modelNodes q) (modelNodes m) := by
  obtain ⟨x, q, h1, h2, _, h3, _⟩ := model_keeps m h
  exact ⟨x, q, h1, h2, h3⟩

/-- every graph of the model — the main graph and every subgraph at any depth — is kept, in order
(`GraphKeeps`: name, doc string, metadata entries; every initializer by `TensorKeeps`: payload and
storage fields equal; every input / output entry: type with element type, shape and denotations, doc
string, metadata — for a pass-through value both entries read `mergeVI input output`; the
value_info of every intermediate value that carries information; the value_info of every
initializer, completed from its tensor by `fillFromTensor`; every quantization annotation) -/
theorem C02_keeps_values (m : ModelP) (h : wfModel m = true) :
    ∃ x q, desModel m = .ok x ∧ serModel x = .ok q ∧
      Pointwise GraphKeeps (modelGraphs q) (modelGraphs m) := by
  obtain ⟨x, q, h1, h2, _, _, h3⟩ := model_keeps m h
  exact ⟨x, q, h1, h2, h3⟩

/-- `from_proto(NodeProto)` / `to_proto`: a stand-alone node (free inputs become placeholder values,
its subgraphs may capture them) round-trips to its canonical form -/
theorem C02_node_alone (n : NodeP) (h : wfNodeAlone n = true) :
    ∃ x tbl, desNodeAlone n = .ok (x, tbl) ∧ serNode [tableNames tbl] none x = .ok (normNode n) := by
  obtain ⟨x, tbl, h1, _, h2⟩ := node_alone_rt n h
  exact ⟨x, tbl, h1, h2⟩

/-- `from_proto(FunctionProto)` / `to_proto`: a stand-alone function is serialized without a
`model_ir_version` and with its value_info -/
theorem C02_function_alone (f : FunctionP) (h : wfFunctionAlone f = true) :
    ∃ x, desFunction f = .ok x ∧ serFunction none true x = .ok (normFunction true f) := by
  obtain ⟨x, h1, h2, _⟩ := function_rt_gen none 10 f h (Or.inl rfl)
  exact ⟨x, h1, by simpa using h2⟩

example : wfNodeAlone (.mk ["a", "", "b", "a"] ["y", ""] "n" "If" "" "" ""
    [.graph "then_branch" "" (.mk "g" "" [.mk ["a", "y"] ["t"] "" "Add" "" "" "" [] [] []] [] []
      [⟨"t", .unset "", "", []⟩] [] [] [])] [] []) = true := by decide +kernel

/-- non-vacuity of `wfModel`: IR version 11, the graph above (nested subgraph capturing an outer
value), two functions `custom::f` that differ only in their overload, the second with a reference
attribute, value_info and a node calling the first overload. -/
def exampleModel : ModelP :=
  { irVersion := 11, producerName := "p", producerVersion := "", domain := "", modelVersion := 3,
    doc := "m", opsetImport := [⟨"", 18⟩, ⟨"custom", 1⟩], metadata := [⟨"k", "v"⟩],
    graph := exampleGraph,
    functions :=
      [ { name := "f", domain := "custom", overload := "", doc := "", inputs := ["a"], outputs := ["r"],
          attrNames := ["alpha"], attrProtos := [.int "beta" "" 2],
          nodes := [.mk ["a"] ["r"] "" "Relu" "" "" "" [] [] []],
          opsetImport := [⟨"", 18⟩], valueInfo := [], metadata := [] },
        { name := "f", domain := "custom", overload := "ov1", doc := "d", inputs := ["a", "b"],
          outputs := ["r"], attrNames := ["alpha"], attrProtos := [],
          nodes := [ .mk ["a", "b"] ["t", ""] "n" "f" "custom" "" "" [.ref "alpha" "" "alpha" 1] [] [],
                     .mk ["t"] ["r"] "" "Identity" "" "" "" [] [] [] ],
          opsetImport := [⟨"", 18⟩, ⟨"custom", 1⟩],
          valueInfo := [⟨"a", .tensor (some 1) (some [⟨.param "N", ""⟩]) "", "", []⟩,
                        ⟨"t", .tensor (some 1) none "", "doc", [⟨"m", "1"⟩]⟩],
          metadata := [⟨"z", "1"⟩] } ],
    configuration := [⟨"cfg0", 2, ["CPU", "GPU"]⟩] }

example : wfModel exampleModel = true := by decide +kernel

/-- non-vacuity of the IR < 10 branch: function value info in the experimental
`domain::name/value` encoding (value name containing "/"), and a graph whose output is an
initializer -/
def exampleModelIR9 : ModelP :=
  { irVersion := 9, producerName := "", producerVersion := "", domain := "", modelVersion := 0,
    doc := "", opsetImport := [⟨"", 17⟩, ⟨"pkg", 1⟩], metadata := [],
    graph := .mk "g" ""
      [.mk ["x"] ["y"] "call" "fn" "pkg" "" "" [] [] []]
      [{ emptyTensorP with name := "c", dataType := 1, dims := [1], floatData := [0] }]
      [⟨"x", .tensor (some 1) (some [⟨.value 1, ""⟩]) "", "", []⟩]
      [⟨"y", .tensor (some 1) none "", "", []⟩, ⟨"c", .tensor (some 1) (some [⟨.param "N", ""⟩]) "", "k", []⟩]
      [⟨"pkg::fn//blk/out", .tensor (some 1) (some []) "", "", [⟨"b", "2"⟩, ⟨"a", "1"⟩]⟩,
       ⟨"pkg::fn/a", .tensor (some 1) none "", "", []⟩,
       ⟨"pkg::nothing/x", .tensor (some 1) none "", "", []⟩]
      [] [],
    functions :=
      [ { name := "fn", domain := "pkg", overload := "", doc := "", inputs := ["a"], outputs := ["/blk/out"],
          attrNames := [], attrProtos := [],
          nodes := [.mk ["a"] ["/blk/out"] "" "Relu" "" "" "" [] [] []],
          opsetImport := [⟨"", 17⟩], valueInfo := [], metadata := [] } ],
    configuration := [] }

example : wfModel exampleModelIR9 = true := by decide +kernel

/-! ## `fold`: the widened `WFproto` -/

/-- what the fold drops is never read: `deserialize (fold g) = deserialize g` for EVERY graph, in any
scope chain (so: every subgraph at any depth) — no well-formedness hypothesis -/
theorem C02_fold_unread_graph (outer : Scopes) (g : GraphP) :
    desGraph outer (foldGraph g) = desGraph outer g :=
  desGraph_fold outer g

/-- the same for every function -/
theorem C02_fold_unread_function (f : FunctionP) : desFunction (foldFunction f) = desFunction f :=
  desFunction_fold f

/-- the same for every model from IR version 10 on; below, the main graph's `value_info` list is read
a second time by the experimental function value-info decoding, which selects entries by parsing
their names as `domain::name/value`: there no graph input may have a name of that form
(`inputsPlain`; `wfModel` says so of every value of the main graph) -/
theorem C02_fold_unread (m : ModelP) (h : m.irVersion ≥ 10 ∨ inputsPlain m.graph = true) :
    desModel (foldModel m) = desModel m :=
  desModel_fold m h

/-- what the fold keeps of a `value_info` list (`I` = the graph's input names): for every name that
is not a graph input the entry `deserialize` reads (the last one) is still the one it reads; nothing
is invented; names are distinct afterwards -/
theorem C02_fold_value_info (I : List String) (vis : List ValueInfoP) :
    (∀ n, n ∉ I → findVI (foldVIs I vis) n = findVI vis n) ∧
    (∀ v ∈ foldVIs I vis, v ∈ vis ∧ v.name ∉ I) ∧
    ((foldVIs I vis).map (·.name)).Nodup := by
  refine ⟨fun n hn => findVI_foldVIs I vis hn, ?_, ?_⟩
  · intro v hv
    simp only [foldVIs, List.mem_filter] at hv
    exact ⟨dedupLastBy_subset _ hv.1, by simpa using hv.2⟩
  · unfold foldVIs dedupLastVI
    exact ((List.filter_sublist).map _).nodup (dedupLastBy_nodup (fun v : ValueInfoP => v.name) vis)

/-- what the fold keeps of `external_data`: for each of the four specified keys the value
`ExternalDataInfo` reads (the last entry) is unchanged; only entries of the input remain; keys are
distinct afterwards -/
theorem C02_fold_external (es : List Entry) :
    (∀ k ∈ extKeys, extGet (foldExternal es) k = extGet es k) ∧
    (∀ e ∈ foldExternal es, e ∈ es ∧ e.key ∈ extKeys) ∧
    ((foldExternal es).map (·.key)).Nodup := by
  refine ⟨fun k hk => extGet_foldExternal es hk, ?_, foldExternal_nodup es⟩
  intro e he
  simp only [foldExternal, List.mem_filter] at he
  exact ⟨dedupLastBy_subset _ he.1, by simpa using he.2⟩

/-- a whole model in the widened domain: `WFproto (fold m) -> serialize (deserialize m) = norm (fold m)` -/
theorem C02_model_wide (m : ModelP) (h : wfModelW m = true) :
    ∃ x, desModel m = .ok x ∧ serModel x = .ok (normModelW m) :=
  (desModel_fold m (inputsPlain_of_wfW m h)) ▸ model_rt (foldModel m) h

/-- in the form of the property statement: `norm (serialize (deserialize m)) = norm (fold m)` -/
theorem C02_model_norm_wide (m : ModelP) (h : wfModelW m = true) :
    ∃ x y, desModel m = .ok x ∧ serModel x = .ok y ∧ normModel y = normModelW m := by
  obtain ⟨x, h1, h2⟩ := C02_model_wide m h
  exact ⟨x, normModelW m, h1, h2, normModel_idem (foldModel m) h⟩

theorem C02_graph_wide (outer : Scopes) (ver : Option Int) (g : GraphP) (h : wfGraphW outer g = true)
    (hver : verAllows ver = true ∨ graphHasDevCfg (foldGraph g) = false) :
    ∃ x, desGraph outer g = .ok x ∧ serGraph outer ver x = .ok (normGraphW g) :=
  desGraph_fold outer g ▸ graph_rt outer ver (foldGraph g) h hver

theorem C02_function_alone_wide (f : FunctionP) (h : wfFunctionAloneW f = true) :
    ∃ x, desFunction f = .ok x ∧ serFunction none true x = .ok (normFunctionW true f) :=
  desFunction_fold f ▸ C02_function_alone (foldFunction f) h

/-- tensors, widened (external entries with repeated or unspecified keys) -/
theorem C02_tensor_wide (p : TensorP) (h : wfTensorW p = true) :
    ∃ t, desTensor p = .ok t ∧ serTensor t = normTensorW p := by
  obtain ⟨t, h1, h2, _⟩ := tensor_roundtrip (foldTensor p) h
  rw [desTensor_foldTensor] at h1
  exact ⟨t, h1, h2⟩

/-- the widened theorems contain those for `WFproto`: on `WFproto` the fold is the identity -/
theorem C02_wide_subsumes (m : ModelP) (h : wfModel m = true) :
    foldModel m = m ∧ wfModelW m = true ∧ normModelW m = normModel m := by
  have hf := foldModel_of_wf m h
  exact ⟨hf, by rw [wfModelW, hf]; exact h, by rw [normModelW, hf]⟩

/-- field by field in the widened domain: everything `ModelKeeps` / `NodeKeeps` / `GraphKeeps` name is
kept of `fold m` (and `C02_fold_value_info` / `C02_fold_external` say what `fold` keeps of `m`) -/
theorem C02_keeps_wide (m : ModelP) (h : wfModelW m = true) :
    ∃ x q, desModel m = .ok x ∧ serModel x = .ok q ∧ ModelKeeps q (foldModel m) ∧
      Pointwise NodeKeeps (modelNodes q) (modelNodes (foldModel m)) ∧
      Pointwise GraphKeeps (modelGraphs q) (modelGraphs (foldModel m)) :=
  (desModel_fold m (inputsPlain_of_wfW m h)) ▸ model_keeps (foldModel m) h

/-- every field of a TensorProto, one by one, for all three tensor classes (`serTensorF` is
`serialize_tensor_into` written out per class and per field; it agrees with `serTensor` on everything
`deserialize_tensor` returns): name, doc string, element type, dims, data location, and the payload
in exactly the storage field it came in (`raw_data`, `float_data`, `int32_data`, `string_data`,
`int64_data`, `double_data`, `uint64_data`: nothing is re-encoded); the external entries as
`C02_fold_external` describes; `metadata_props` as the same finite map.  The proved form of
`tensor_proto_backed_by_construction`. -/
theorem C02_tensor_fields (p : TensorP) (h : wfTensorW p = true) :
    ∃ t, desTensor p = .ok t ∧ serTensorF t = serTensor t ∧ tensorFieldsKept (serTensorF t) p = true := by
  obtain ⟨t, h1, h2⟩ := tensor_fields p h
  exact ⟨t, h1, serTensorF_eq p t h1, h2⟩

/-- non-vacuity: a proto-backed tensor with every storage field populated at once (no hypothesis
beyond distinct metadata keys), and an external tensor with a shadowed `offset`, an unspecified key
and entries out of order -/
example : wfTensorW
    { emptyTensorP with
      name := "t", doc := "d", dataType := 1, dims := [2], rawData := some "0000803f00000040",
      floatData := [1], int32Data := [2], int64Data := [3], doubleData := [4], uint64Data := [5],
      stringData := ["ff"], metadata := [⟨"b", "1"⟩, ⟨"a", "2"⟩] } = true := by decide

def exampleExternalWide : TensorP :=
  { emptyTensorP with
    name := "wext", dataType := 1, dims := [4], dataLocation := 1,
    externalData := [⟨"offset", "0"⟩, ⟨"basepath", "/x"⟩, ⟨"location", "w.bin"⟩, ⟨"offset", "4096"⟩] }

example : wfTensorW exampleExternalWide = true ∧ wfTensor exampleExternalWide = false := by decide +kernel

example : (normTensorW exampleExternalWide).externalData = [⟨"location", "w.bin"⟩, ⟨"offset", "4096"⟩] := by
  decide +kernel

/-- non-vacuity of the widened domain: `exampleModel` with two `value_info` entries for `b` in the
main graph, a `value_info` entry naming the graph input `x`, the opset domain `custom`
imported twice, the external initializer above — outside `wfModel`, inside `wfModelW` -/
def exampleModelWide : ModelP :=
  { exampleModel with
    opsetImport := [⟨"", 18⟩, ⟨"custom", 1⟩, ⟨"custom", 2⟩],
    graph := match exampleGraph with
      | .mk name doc nodes inits inputs outputs vis quant md =>
        .mk name doc nodes (inits ++ [exampleExternalWide]) inputs outputs
          ([⟨"b", .tensor (some 7) none "", "shadowed", []⟩, ⟨"x", .tensor (some 9) none "", "", []⟩] ++ vis)
          quant md }

example : wfModelW exampleModelWide = true ∧ wfModel exampleModelWide = false := by decide +kernel

example : (normModelW exampleModelWide).opsetImport = [⟨"", 18⟩, ⟨"custom", 2⟩] := by decide

/-- non-vacuity below IR version 10: `exampleModelIR9` with a shadowed experimental entry for the
function value `pkg::fn/a` and a `value_info` entry naming the graph input `x` -/
def exampleModelIR9Wide : ModelP :=
  { exampleModelIR9 with
    graph := match exampleModelIR9.graph with
      | .mk name doc nodes inits inputs outputs vis quant md =>
        .mk name doc nodes inits inputs outputs
          ([⟨"pkg::fn/a", .tensor (some 7) none "", "shadowed", []⟩, ⟨"x", .tensor (some 9) none "", "", []⟩] ++ vis)
          quant md }

example : wfModelW exampleModelIR9Wide = true ∧ wfModel exampleModelIR9Wide = false := by decide +kernel

/-! ## `merge` and the canonical pre-form `canon = merge ∘ fold` -/

/-- a `value_info` entry naming an output produced in the graph may be united into the output entry:
for every graph (any scope chain, so any nesting depth) with `WFproto (merge g)` the merged graph
deserializes to the same IR -/
theorem C02_merge_deserialize_graph (outer : Scopes) (g : GraphP) (h : wfGraph outer (mergeGraph g) = true) :
    desGraph outer (mergeGraph g) = desGraph outer g :=
  desGraph_merge outer g h

/-- the same for whole models (below IR version 10 the experimental function value-info decoding
finds the same entries: the dropped ones name values of the main graph, and those names are not of
the experimental form) -/
theorem C02_merge_deserialize (m : ModelP) (h : wfModel (mergeModel m) = true) :
    desModel (mergeModel m) = desModel m :=
  desModel_merge m h

/-- what `merge` does to an output entry: nothing, or — there is a well-formed `value_info` entry `vi`
(the last one of that name) for this declared, non-input value — name, type, shape and doc string
stay and the canonical form of the entry is `mergeVI vi vo`, the very normalisation of a value that
is both graph input and output (`examplePassThrough`): metadata united, output entry wins per key -/
theorem C02_merge_output (D I : List String) (vis : List ValueInfoP) (vo : ValueInfoP) :
    mergeOutVI D I vis vo = vo ∨
    ∃ vi, findVI vis vo.name = some vi ∧ wfVI vi = true ∧ D.contains vo.name = true ∧
      I.contains vo.name = false ∧ normValueInfo (mergeOutVI D I vis vo) = mergeVI vi vo := by
  unfold mergeOutVI
  split
  · rename_i ha
    simp only [mergeApplies, Bool.and_eq_true, Bool.not_eq_true'] at ha
    cases hf : findVI vis vo.name with
    | none => left; rfl
    | some vi =>
      simp only []
      split
      · rename_i hwf
        right
        refine ⟨vi, rfl, hwf, ha.1.1, ha.1.2, ?_⟩
        have hnd : (dkeys (dictUpdate (dictOfEntries vi.metadata) (dictOfEntries vo.metadata))).Nodup :=
          nodup_dkeys_dictUpdate (nodup_dkeys_dictOfEntries _) _
        simp only [normValueInfo, mergeVI, normEntries, dictOfEntries_entriesOfDict _ hnd]
      · left; rfl
  · left; rfl

/-- a whole model in the domain of `canon`: `WFproto (canon m) -> serialize (deserialize m) =
norm (canon m)`, `canon = merge ∘ fold` -/
theorem C02_model_canon (m : ModelP) (h : wfModelX m = true) :
    ∃ x, desModel m = .ok x ∧ serModel x = .ok (normModelX m) :=
  (desModel_canon m h) ▸ model_rt (canonModel m) h

theorem C02_model_norm_canon (m : ModelP) (h : wfModelX m = true) :
    ∃ x y, desModel m = .ok x ∧ serModel x = .ok y ∧ normModel y = normModelX m := by
  obtain ⟨x, h1, h2⟩ := C02_model_canon m h
  exact ⟨x, normModelX m, h1, h2, normModel_idem (canonModel m) h⟩

theorem C02_graph_canon (outer : Scopes) (ver : Option Int) (g : GraphP) (h : wfGraphX outer g = true)
    (hver : verAllows ver = true ∨ graphHasDevCfg (canonGraph g) = false) :
    ∃ x, desGraph outer g = .ok x ∧ serGraph outer ver x = .ok (normGraphX g) := by
  obtain ⟨x, h1, h2⟩ := graph_rt outer ver (canonGraph g) h hver
  unfold canonGraph at h1
  rw [desGraph_merge outer _ h, desGraph_fold] at h1
  exact ⟨x, h1, h2⟩

theorem C02_function_alone_canon (f : FunctionP) (h : wfFunctionAloneX f = true) :
    ∃ x, desFunction f = .ok x ∧ serFunction none true x = .ok (normFunctionX true f) := by
  obtain ⟨x, h1, h2⟩ := C02_function_alone (canonFunction f) h
  unfold canonFunction at h1
  rw [desFunction_merge 10 _ h, desFunction_fold] at h1
  exact ⟨x, h1, h2⟩

/-- the domain of `canon` contains that of `fold` and `WFproto` itself: on `WFproto` (of the folded
model) `merge` is the identity -/
theorem C02_canon_subsumes (m : ModelP) :
    (wfModel m = true → canonModel m = m ∧ wfModelX m = true ∧ normModelX m = normModel m) ∧
    (wfModelW m = true → canonModel m = foldModel m ∧ wfModelX m = true ∧ normModelX m = normModelW m) := by
  refine ⟨fun h => ?_, fun h => ?_⟩
  · have hc := canonModel_of_wf m h
    exact ⟨hc, by rw [wfModelX, hc]; exact h, by rw [normModelX, hc]⟩
  · have hc : canonModel m = foldModel m := mergeModel_of_wf _ h
    exact ⟨hc, by rw [wfModelX, hc]; exact h, by rw [normModelX, hc, normModelW]⟩

/-- field by field in the domain of `canon` -/
theorem C02_keeps_canon (m : ModelP) (h : wfModelX m = true) :
    ∃ x q, desModel m = .ok x ∧ serModel x = .ok q ∧ ModelKeeps q (canonModel m) ∧
      Pointwise NodeKeeps (modelNodes q) (modelNodes (canonModel m)) ∧
      Pointwise GraphKeeps (modelGraphs q) (modelGraphs (canonModel m)) :=
  (desModel_canon m h) ▸ model_keeps (canonModel m) h

/-- non-vacuity: `exampleModelWide` with a `value_info` entry for the graph output `y` (a node
output) whose metadata is united into the output entry — outside `wfModelW`, inside `wfModelX` -/
def exampleModelCanon : ModelP :=
  { exampleModelWide with
    graph := match exampleModelWide.graph with
      | .mk name doc nodes inits inputs outputs vis quant md =>
        .mk name doc nodes inits inputs outputs
          (vis ++ [⟨"y", .tensor (some 7) none "", "vi doc", [⟨"v", "1"⟩, ⟨"m", "0"⟩]⟩]) quant md }

example : wfModelX exampleModelCanon = true ∧ wfModelW exampleModelCanon = false := by decide +kernel

example : (normModelX exampleModelCanon).graph.outputs
    = [⟨"y", .sequence (.tensor (some 1) (some []) "") "SEQ", "out", [⟨"m", "1"⟩, ⟨"v", "1"⟩]⟩] := by decide +kernel

/-! ## `outdup`, `canonD = merge ∘ outdup ∘ fold`, stand-alone nodes and attributes widened -/

/-- `WFproto` admits several graph output entries with one name exactly when they are identical; pairwise
distinct output names is the special case -/
theorem C02_wf_outputs (l : List ValueInfoP) :
    (consOutputs l = true ↔ ∀ a ∈ l, ∀ b ∈ l, a.name = b.name → a = b) ∧
    (nodupStr (l.map (·.name)) = true → consOutputs l = true) :=
  ⟨consOutputs_iff, fun h => consOutputs_iff.2 (consOut_of_nodup (nodupStr_iff.1 h))⟩

/-- non-vacuity: a graph whose output `y` is listed twice with identical entries is inside `WFproto` -/
example : wfGraph [] (.mk "g" "" [.mk ["x"] ["y"] "" "Relu" "" "" "" [] [] []] []
    [⟨"x", .tensor (some 1) none "", "", []⟩]
    [⟨"y", .tensor (some 1) none "", "d", [⟨"k", "v"⟩]⟩, ⟨"y", .tensor (some 1) none "", "d", [⟨"k", "v"⟩]⟩]
    [] [] []) = true := by decide +kernel

/-- what `outdup` does to an output entry `vo` (`S` = the names the graph declares, `outputs` = all output
entries): nothing, or — the name is declared and every entry of that name is well formed — the entry
becomes the union of the entries of its name: name kept, type / shape / doc string of the LAST entry
of the name (serde.py:881-883 overwrites them entry by entry), the metadata dict = the dicts of the
entries united by `dict.update` in order (later entry wins per key), and every entry of the name
becomes that same entry (so their number and positions are kept) -/
theorem C02_outdup_output (S : List String) (outputs : List ValueInfoP) (vo : ValueInfoP) :
    outdupVI S outputs vo = vo ∨
    (S.contains vo.name = true ∧ (sameName outputs vo).all wfVI = true ∧
      ∃ last, findVI outputs vo.name = some last ∧
        (outdupVI S outputs vo).name = vo.name ∧ (outdupVI S outputs vo).type = last.type ∧
        (outdupVI S outputs vo).doc = last.doc ∧
        dictOfEntries (outdupVI S outputs vo).metadata = unionMd (sameName outputs vo) ∧
        ∀ w ∈ outputs, w.name = vo.name → outdupVI S outputs w = outdupVI S outputs vo) := by
  by_cases ha : outdupApplies S outputs vo = true
  · cases hf : findVI outputs vo.name with
    | none => left; simp only [outdupVI, ha, if_true, hf]
    | some last =>
      right
      have ha' := ha
      simp only [outdupApplies, Bool.and_eq_true] at ha'
      refine ⟨ha'.1, ha'.2, last, rfl, outdupVI_name S outputs vo, ?_, ?_, ?_, ?_⟩
      · simp only [outdupVI, ha, if_true, hf]
      · simp only [outdupVI, ha, if_true, hf]
      · simp only [outdupVI, ha, if_true, hf, dictOfEntries_entriesOfDict _ (nodup_unionMd _)]
      · exact fun w _ hn => outdupVI_congr hn ha (by rw [hf]; rfl)
  · left; simp only [outdupVI, ha]; rfl

/-- for every graph (any scope chain, so any nesting depth) with `WFproto (merge (outdup g))` the graph
whose repeated output entries are united deserializes to the same IR -/
theorem C02_outdup_deserialize_graph (outer : Scopes) (g : GraphP)
    (h : wfGraph outer (mergeGraph (outdupGraph g)) = true) :
    desGraph outer (outdupGraph g) = desGraph outer g :=
  desGraph_outdup outer g h

/-- the same for whole models -/
theorem C02_outdup_deserialize (m : ModelP) (h : wfModel (mergeModel (outdupModel m)) = true) :
    desModel (outdupModel m) = desModel m :=
  desModel_outdup m h

/-- a whole model in the domain of `canonD`: `WFproto (canonD m) -> serialize (deserialize m) =
norm (canonD m)`, `canonD = merge ∘ outdup ∘ fold` -/
theorem C02_model_outdup (m : ModelP) (h : wfModelD m = true) :
    ∃ x, desModel m = .ok x ∧ serModel x = .ok (normModelD m) :=
  (desModel_canonD m h) ▸ model_rt (canonDModel m) h

theorem C02_model_norm_outdup (m : ModelP) (h : wfModelD m = true) :
    ∃ x y, desModel m = .ok x ∧ serModel x = .ok y ∧ normModel y = normModelD m := by
  obtain ⟨x, h1, h2⟩ := C02_model_outdup m h
  exact ⟨x, normModelD m, h1, h2, normModel_idem (canonDModel m) h⟩

theorem C02_graph_outdup (outer : Scopes) (ver : Option Int) (g : GraphP) (h : wfGraphD outer g = true)
    (hver : verAllows ver = true ∨ graphHasDevCfg (canonDGraph g) = false) :
    ∃ x, desGraph outer g = .ok x ∧ serGraph outer ver x = .ok (normGraphD g) :=
  (desGraph_canonD outer g h) ▸ graph_rt outer ver (canonDGraph g) h hver

theorem C02_function_alone_outdup (f : FunctionP) (h : wfFunctionAloneD f = true) :
    ∃ x, desFunction f = .ok x ∧ serFunction none true x = .ok (normFunctionD true f) :=
  (desFunction_canonD 10 f h) ▸ C02_function_alone (canonDFunction f) h

/-- `from_proto(NodeProto)` / `to_proto` in the domain of `canonD` (`wfNodeAloneD`): a stand-alone node whose subgraphs (at
any depth) carry repeated value_info / output entries, value_info for inputs or outputs, external
tensors with shadowed keys -/
theorem C02_node_alone_wide (n : NodeP) (h : wfNodeAloneD n = true) :
    ∃ x tbl, desNodeAlone n = .ok (x, tbl) ∧
      serNode [tableNames tbl] none x = .ok (normNode (canonDNode n)) := by
  obtain ⟨x, tbl, h1, _, h2⟩ := node_alone_rt (canonDNode n) h
  rw [desNodeAlone_canonD n h] at h1
  exact ⟨x, tbl, h1, h2⟩

/-- a node inside a scope (`C02_node`) in the domain of `canonD` -/
theorem C02_node_wide (outer : Scopes) (vis : List ValueInfoP) (q : List AnnotP) (ver : Option Int)
    (tbl : List IRValue) (n : NodeP) (h : wfNode (tableNames tbl :: outer) (canonDNode n) = true)
    (hver : verAllows ver = true ∨ nodeHasDevCfg (canonDNode n) = false) :
    ∃ x, desNode outer vis q tbl n = .ok (x, tbl) ∧
      serNode (tableNames tbl :: outer) ver x = .ok (normNode (canonDNode n)) := by
  obtain ⟨x, h1, h2, _⟩ := node_rt outer vis q ver tbl (canonDNode n) h hver
  rw [desNode_canonD outer vis q tbl n h] at h1
  exact ⟨x, h1, h2⟩

/-- every attribute (`C02_attr`) in the domain of `canonD` (`wfAttrD`): GRAPH / GRAPHS attributes whose subgraphs
are in that domain, TENSOR(S) attributes with external entries that are shadowed or unspecified -/
theorem C02_attr_wide (scopes : Scopes) (a : AttrP) (h : wfAttrD scopes a = true) :
    rtAttr scopes a = .ok (normAttr (canonDAttr a)) := by
  obtain ⟨x, h1, h2, _⟩ := attr_rt scopes none (canonDAttr a) h (Or.inl rfl)
  rw [desAttr_canonD scopes a h] at h1
  simp [rtAttr, h1, h2, bind, Except.bind]

/-- the domain of `canonD` contains that of `canon` and `WFproto` itself: on `WFproto` `canonD` is the
identity, on `WFproto (merge (fold m))` it is `canon` -/
theorem C02_outdup_subsumes (m : ModelP) :
    (wfModel m = true → canonDModel m = m ∧ wfModelD m = true ∧ normModelD m = normModel m) ∧
    (wfModelX m = true → canonDModel m = canonModel m ∧ wfModelD m = true ∧ normModelD m = normModelX m) := by
  refine ⟨fun h => ?_, fun h => ?_⟩
  · have hc := canonDModel_of_wf m h
    exact ⟨hc, by rw [wfModelD, hc]; exact h, by rw [normModelD, hc]⟩
  · have hc := canonDModel_of_wfX m h
    exact ⟨hc, by rw [wfModelD, hc]; exact h, by rw [normModelD, hc, normModelX]⟩

/-- field by field in the domain of `canonD` -/
theorem C02_keeps_outdup (m : ModelP) (h : wfModelD m = true) :
    ∃ x q, desModel m = .ok x ∧ serModel x = .ok q ∧ ModelKeeps q (canonDModel m) ∧
      Pointwise NodeKeeps (modelNodes q) (modelNodes (canonDModel m)) ∧
      Pointwise GraphKeeps (modelGraphs q) (modelGraphs (canonDModel m)) :=
  (desModel_canonD m h) ▸ model_keeps (canonDModel m) h

/-- non-vacuity: `exampleModelCanon` with a second, different output entry for `y` —
outside `wfModelX`, inside `wfModelD`; both entries come back as the union: type / doc of the last one,
metadata of the `value_info` entry, the first and the second output entry united -/
def exampleModelOutdup : ModelP :=
  { exampleModelCanon with
    graph := match exampleModelCanon.graph with
      | .mk name doc nodes inits inputs outputs vis quant md =>
        .mk name doc nodes inits inputs
          (outputs ++ [⟨"y", .tensor (some 7) (some [⟨.value 3, ""⟩]) "", "again", [⟨"z", "9"⟩, ⟨"m", "5"⟩]⟩])
          vis quant md }

example : wfModelD exampleModelOutdup = true ∧ wfModelX exampleModelOutdup = false := by decide +kernel

example : (normModelD exampleModelOutdup).graph.outputs
    = [⟨"y", .tensor (some 7) (some [⟨.value 3, ""⟩]) "", "again", [⟨"m", "5"⟩, ⟨"v", "1"⟩, ⟨"z", "9"⟩]⟩,
       ⟨"y", .tensor (some 7) (some [⟨.value 3, ""⟩]) "", "again", [⟨"m", "5"⟩, ⟨"v", "1"⟩, ⟨"z", "9"⟩]⟩] := by
  decide +kernel

/-- non-vacuity of the stand-alone forms: a node whose subgraph lists its output twice and carries a
repeated value_info name -/
def exampleNodeWide : NodeP :=
  .mk ["a", ""] ["y"] "n" "If" "" "" ""
    [.graph "then_branch" "" (.mk "g" "" [.mk ["a"] ["t"] "" "Relu" "" "" "" [] [] []] [] []
      [⟨"t", .tensor (some 1) none "", "one", [⟨"k", "1"⟩]⟩, ⟨"t", .tensor (some 1) none "", "two", [⟨"j", "2"⟩]⟩]
      [⟨"u", .tensor (some 1) none "", "", []⟩, ⟨"u", .tensor (some 7) none "", "", []⟩] [] [])] [] []

example : wfNodeAloneD exampleNodeWide = true ∧ wfNodeAlone exampleNodeWide = false := by decide +kernel

example : wfAttrD [["a", "y"]] (.graph "then_branch" "" (.mk "g" "" [.mk ["a"] ["t"] "" "Relu" "" "" "" [] [] []] [] []
      [⟨"t", .tensor (some 1) none "", "one", [⟨"k", "1"⟩]⟩, ⟨"t", .tensor (some 1) none "", "two", [⟨"j", "2"⟩]⟩]
      [] [] [])) = true := by decide +kernel

/-! ## IR version < 10 with a graph value named like an experimental entry (finding D320) -/

/-- a whole model WITHOUT the hypothesis "no value of the main graph is named like `domain::name/value`"
(`wfModel9` = `wfModel` minus that conjunct): below IR version 10 the entry of a function value whose formatted
name is the name of a value of the main graph (an input / output of a top-level node, an initializer:
`reservedP`) is not written — it would be attached to the graph value too when the model is loaded
(serde.py:1593-1615) — everything else as in `C02_model` (`normModel9`) -/
theorem C02_model_ir9 (m : ModelP) (h : wfModel9 m = true) :
    ∃ x, desModel m = .ok x ∧ serModel x = .ok (normModel9 m) :=
  model_rt9 m h

/-- the same in front of the fold -/
theorem C02_model_ir9_wide (m : ModelP) (h : wfModel9W m = true) :
    ∃ x, desModel m = .ok x ∧ serModel x = .ok (normModel9W m) :=
  model_rt9W m h

/-- the same in front of `canonD = merge ∘ outdup ∘ fold`: below IR version 10 no graph
input and no declared graph output may have a name of the experimental form (`wfModel9D`); the values inside
the graph may -/
theorem C02_model_ir9_outdup (m : ModelP) (h : wfModel9D m = true) :
    ∃ x, desModel m = .ok x ∧ serModel x = .ok (normModel9D m) :=
  model_rt9D m h

/-- these contain `C02_model` / `C02_model_wide` / `C02_model_outdup`: where no value of the main graph has a
name of the experimental form nothing is reserved -/
theorem C02_ir9_subsumes (m : ModelP) :
    (wfModel m = true → wfModel9 m = true ∧ normModel9 m = normModel m) ∧
    (wfModelW m = true → wfModel9W m = true ∧ normModel9W m = normModelW m) ∧
    (wfModelD m = true → wfModel9D m = true ∧ normModel9D m = normModelD m) := by
  refine ⟨wfModel9_of_wf m, fun h => ?_, wfModel9D_of_wfD m⟩
  obtain ⟨h1, h2⟩ := wfModel9_of_wf (foldModel m) h
  refine ⟨?_, h2⟩
  simp only [wfModel9W, h1, Bool.true_and, Bool.or_eq_true, decide_eq_true_eq]
  exact inputsPlain_of_wfW m h

/-- non-vacuity: `exampleModelIR9` with a node of the main graph whose output is named `pkg::fn/a`, the
experimental name of the input `a` of `pkg::fn`; the `value_info` entry of that name describes the graph value
and is written once -/
def exampleModelIR9E8 : ModelP :=
  { exampleModelIR9 with
    graph := match exampleModelIR9.graph with
      | .mk name doc nodes inits inputs outputs vis quant md =>
        .mk name doc (nodes ++ [.mk ["x"] ["pkg::fn/a"] "e8" "Custom" "" "" "" [] [] []]) inits inputs outputs
          vis quant md }

example : wfModel9 exampleModelIR9E8 = true ∧ wfModel exampleModelIR9E8 = false := by decide +kernel

example : (normModel9 exampleModelIR9E8).graph.valueInfo.map (·.name)
    = ["c", "pkg::fn/a", "pkg::fn//blk/out"] := by decide +kernel

/-- non-vacuity of `wfModel9D`: the same with the graph output `y` listed twice with differing entries -/
def exampleModelIR9E8D : ModelP :=
  { exampleModelIR9E8 with
    graph := match exampleModelIR9E8.graph with
      | .mk name doc nodes inits inputs outputs vis quant md =>
        .mk name doc nodes inits inputs (outputs ++ [⟨"y", .tensor (some 7) none "", "again", [⟨"k", "1"⟩]⟩])
          vis quant md }

example : wfModel9D exampleModelIR9E8D = true ∧ wfModel9W exampleModelIR9E8D = false
    ∧ wfModelD exampleModelIR9E8D = false := by decide +kernel

/-! ## the typed scalar level (`IrVerif/Model/SerdeScalar.lean`, `IrVerif/Lemmas/SerdeScalar.lean`)

What holds "by construction of the rendering" in `Model/Serde.lean` (`dim_by_construction`, `attr_scalar_by_construction`: int64
payloads as unbounded JSON numbers, float32 <-> double conversion and UTF-8 decoding inside the trusted renderer
of harness/c02.py) as typed theorems: `dim_value` / `i` are int64 and the checked serializers raise exactly outside
that range, `f` is a float32 bit pattern and the IR holds the double it widens to, `s` is bytes and the IR holds the
decoded code points.  Compared with the real code on every run by `harness/c02_scalar.py` (ops `serdescalar.*`). -/

/-- a dimension, field by field.  (1) proto -> IR -> proto, for every Dimension protobuf can hold (`wfDimF`:
`dim_value` in int64): the checked serializer succeeds; the selected member of the `value` oneof and its payload
(`dim_value`, `dim_param` - also the empty string -, or neither) are equal; the denotation is the same string and
keeps its presence bit unless it is empty; this agrees with the unchecked `serDim (desDim _)` of `Model/Serde.lean`
(the proved form of `dim_by_construction`).  (2) IR -> proto for IR dimensions that did not come from a proto: `.ok` exactly
when an `int` dimension is in the int64 range, `ValueError` (root cause; re-raised as SerdeError) otherwise - it
never wraps; and what is written deserializes to the same dimension. -/
theorem C02_dim_fields :
    (∀ d : DimF, wfDimF d = true →
      ∃ r, serDimC (desDimF d) = .ok r ∧ r.val = d.val ∧ r.den = normDen d.den ∧
        r.den.getD "" = d.den.getD "" ∧ (d.den ≠ some "" → r.den = d.den) ∧
        r.toP = serDim (desDim d.toP) ∧ r.toP = d.toP) ∧
    (∀ d : IRDimF, ((∃ r, serDimC d = .ok r) ↔ irShapeInRange [d] = true) ∧
      (irShapeInRange [d] = false → serDimC d = .error "ValueError") ∧
      (∀ r, serDimC d = .ok r → desDimF r = ⟨d.dim, normDen d.den⟩ ∧ wfDimF r = true)) :=
  ⟨dim_fields, fun d => ⟨serDimC_ok_iff d, serDimC_error d, desDimF_serDimC d⟩⟩

example : wfDimF ⟨.value (-9223372036854775808), some ""⟩ = true ∧ wfDimF ⟨.param "", none⟩ = true ∧
    wfDimF ⟨.value 9223372036854775808, none⟩ = false := by decide
example : irShapeInRange [⟨.int 9223372036854775808, some "a"⟩] = false ∧
    irShapeInRange [⟨.int 9223372036854775807, none⟩, ⟨.sym none, none⟩] = true := by decide
example : serDimC ⟨.int (-9223372036854775809), none⟩ = .error "ValueError" ∧
    serDimC ⟨.sym (some ""), some ""⟩ = .ok ⟨.param "", none⟩ := ⟨rfl, rfl⟩

/-- a whole shape (any rank, denotations per dimension): the same two statements for the loop of
`serialize_shape_into` - the first dimension outside int64 aborts with ValueError -/
theorem C02_shape_fields :
    (∀ s : ShapeF, s.all wfDimF = true →
      serShapeC (desShapeF s) = .ok (s.map normDimF) ∧
      (s.map normDimF).map DimF.toP = serShape (desShape (s.map DimF.toP))) ∧
    (∀ s : IRShapeF, ((∃ r, serShapeC s = .ok r) ↔ irShapeInRange s = true) ∧
      (irShapeInRange s = false → serShapeC s = .error "ValueError")) :=
  ⟨fun s h => ⟨serShapeC_desShapeF s h, toP_shape s⟩, fun s => ⟨serShapeC_ok_iff s, serShapeC_error s⟩⟩

example : [(⟨.param "N", some "DATA_BATCH"⟩ : DimF), ⟨.unset, none⟩, ⟨.value 3, some ""⟩].all wfDimF = true := by decide
example : irShapeInRange [⟨.int 1, none⟩, ⟨.int 9223372036854775808, none⟩, ⟨.int 3, none⟩] = false := by decide

/-- INT / FLOAT / STRING attributes, every field (the proved form of `attr_scalar_by_construction`).
(1) the whole attribute, proto -> IR -> proto: name equal, `doc_string` equal (absent when empty), the payload
field present afterwards with `i` equal / `f` the same BITS except that a signalling NaN comes back quiet (`quiet32`)
/ `s` the same bytes whether they are UTF-8 or not.  (2) INT: every int64 comes back; a Python int serializes iff it
is in `[-2^63, 2^63)`, ValueError otherwise (no wrapping).  (3) FLOAT: for every float32 pattern the bits written
back are `quiet32 b`, i.e. `b` itself for zeros, subnormals, normals, infinities and quiet NaNs.  (4) STRING: all
byte strings come back; a `str` serializes iff it has no lone surrogate, UnicodeEncodeError otherwise.
(5) the rendering `r_attr` of the same attribute round-trips in the unchecked model (`rtAttr`). -/
theorem C02_attr_scalar_fields :
    (∀ a : AttrScalarP, wfScalarP a.val = true → serAttrScalarC (desAttrScalar a) = .ok (normAttrScalarP a)) ∧
    (∀ i : Int, inInt64 i = true → serAttrIntC (desAttrInt (some i)) = .ok i) ∧
    (∀ n : Int, ((∃ r, serAttrIntC n = .ok r) ↔ inInt64 n = true) ∧
      (inInt64 n = false → serAttrIntC n = .error "ValueError") ∧
      (inInt64 n = true ↔ -(2 : Int) ^ 63 ≤ n ∧ n < (2 : Int) ^ 63)) ∧
    (∀ b : Nat, b < 2 ^ 32 → serAttrFloatC (desAttrFloat (some b)) = .ok (quiet32 b) ∧
      ((isNaN32 b = false ∨ 2 ^ 22 ≤ f32Man b) → serAttrFloatC (desAttrFloat (some b)) = .ok b)) ∧
    (∀ bs : List Nat, serAttrStringC (desAttrString (some bs)) = .ok bs) ∧
    (∀ cps : List Nat, ((∃ bs, serAttrStringC (.str cps) = .ok bs) ↔ cps.all (fun c => !isSurrogate c) = true) ∧
      (cps.all (fun c => !isSurrogate c) = false → serAttrStringC (.str cps) = .error "UnicodeEncodeError")) ∧
    (∀ (scopes : Scopes) (a : AttrScalarP), rtAttr scopes a.toAttrP = .ok a.toAttrP) :=
  ⟨serAttrScalarC_desAttrScalar,
   fun i h => by simp [serAttrIntC, desAttrInt, h],
   fun n => ⟨serAttrIntC_ok_iff n, serAttrIntC_error n, inInt64_iff n⟩,
   fun b hb => ⟨by simp [serAttrFloatC, desAttrFloat, f64ToF32_f32ToF64 b hb],
                fun h => by simp [serAttrFloatC, desAttrFloat, f64ToF32_f32ToF64_exact b hb h]⟩,
   fun bs => serAttrStringC_desAttrString (some bs),
   fun cps => ⟨utf8Enc_ok_iff cps, utf8Enc_error cps⟩,
   toAttrP_roundtrip⟩

example : wfScalarP (.int (some (-9223372036854775808))) = true ∧ wfScalarP (.float (some 0x7F800001)) = true ∧
    wfScalarP (.string (some [0xFF, 0xC3, 0xA9])) = true ∧ wfScalarP (.int none) = true ∧
    wfScalarP (.int (some 9223372036854775808)) = false := by decide
example : inInt64 9223372036854775807 = true ∧ inInt64 9223372036854775808 = false ∧
    inInt64 (-9223372036854775809) = false := by decide
example : isNaN32 0x7F800001 = true ∧ f32Man 0x7F800001 < 2 ^ 22 ∧ quiet32 0x7F800001 = 0x7FC00001 ∧
    isNaN32 0xFF800000 = false ∧ (isNaN32 0x7FC00001 = true ∧ 2 ^ 22 ≤ f32Man 0x7FC00001) := by decide
example : [0x61, 0xDC80].all (fun c => !isSurrogate c) = false ∧
    [0x61, 0x1F600].all (fun c => !isSurrogate c) = true := by decide
example : normAttrScalarP ⟨"a", some "", .float (some 0x7F800001)⟩ = ⟨"a", none, .float (some 0x7FC00001)⟩ := by decide

/-- float32 -> double -> float32 on bit patterns, for ALL 2^32 patterns (case analysis on the exponent and
mantissa fields, no enumeration): the bits come back, a signalling NaN with the quiet bit set; both conversions
stay inside their formats -/
theorem C02_float32_widen_narrow :
    (∀ b : Nat, b < 2 ^ 32 → f64ToF32 (f32ToF64 b) = quiet32 b) ∧
    (∀ b : Nat, b < 2 ^ 32 → (isNaN32 b = false ∨ 2 ^ 22 ≤ f32Man b) → f64ToF32 (f32ToF64 b) = b) ∧
    (∀ b : Nat, b < 2 ^ 32 → f32ToF64 b < 2 ^ 64) ∧
    (∀ x : Nat, x < 2 ^ 64 → f64ToF32 x < 2 ^ 32) :=
  ⟨f64ToF32_f32ToF64, f64ToF32_f32ToF64_exact, f32ToF64_lt, f64ToF32_lt⟩

/-- double -> float32 -> double is the identity on every double that is a float32 value (the image of the
widening, all classes incl. NaNs): narrowing loses nothing that is representable -/
theorem C02_float32_representable (x : Nat) (h : ∃ b, b < 2 ^ 32 ∧ x = f32ToF64 b) :
    f32ToF64 (f64ToF32 x) = x :=
  f32ToF64_f64ToF32_of_representable x h

example : ∃ b, b < 2 ^ 32 ∧ 0x36A0000000000000 = f32ToF64 b := ⟨1, by decide, by decide⟩
example : f64ToF32 0x47EFFFFFEFFFFFFF = 0x7F7FFFFF ∧ f64ToF32 0x47EFFFFFF0000000 = 0x7F800000 ∧
    f64ToF32 0x3FB999999999999A = 0x3DCCCCCD ∧ f64ToF32 0x3690000000000000 = 0 ∧
    f64ToF32 0x3690000000000001 = 1 ∧ f64ToF32 0x7FF0000000000001 = 0x7FC00000 := by decide

/-- what is proved about the rounding of `attribute_proto.f = x` (double -> float32):
(1) it is monotone on the non-negative doubles up to +inf (bit-pattern order is value order there) and (2)
commutes with the sign bit; hence (3) faithful: a double between two adjacent float32 values goes to one of the
two; (4) in the NORMAL range it is round-to-nearest, ties-to-even, stated on bit patterns: the doubles strictly
between the normal float32 `b` and its successor are `f32ToF64 b + d`, `0 < d < 2^29`; the successor of the largest
finite float32 is the pattern of infinity, so this contains the overflow threshold 0x47EFFFFFF0000000.
MISSING (compared with the real code on every run, exhaustive scope around 8192 float32 values, not proved): that
the choice between the two neighbours is nearest / ties-to-even also below the least normal float32 (subnormal
results and underflow to zero; there only (3) is proved). -/
theorem C02_float32_rounding_partial :
    (∀ x y : Nat, x ≤ y → y ≤ 2047 * 2 ^ 52 → f64ToF32 x ≤ f64ToF32 y) ∧
    (∀ x : Nat, x < 2 ^ 63 → f64ToF32 (2 ^ 63 + x) = 2 ^ 31 + f64ToF32 x) ∧
    (∀ b x : Nat, b + 1 ≤ inf32 → f32ToF64 b ≤ x → x ≤ f32ToF64 (b + 1) → f64ToF32 x = b ∨ f64ToF32 x = b + 1) ∧
    (∀ b d : Nat, b < inf32 → f32Exp b ≠ 0 → d < 2 ^ 29 →
      f64ToF32 (f32ToF64 b + d) = if d < 2 ^ 28 ∨ (d = 2 ^ 28 ∧ b % 2 = 0) then b else b + 1) :=
  ⟨f64ToF32_mono, f64ToF32_neg, f64ToF32_faithful, f64ToF32_nearest_normal⟩

example : (0x3DCCCCCD : Nat) < inf32 ∧ f32Exp 0x3DCCCCCD ≠ 0 ∧ 0x7F7FFFFF + 1 ≤ inf32 ∧
    f32ToF64 0x7F7FFFFF + 2 ^ 28 = 0x47EFFFFFF0000000 := by decide

/-- UTF-8 as CPython's strict codec, on bytes and code points: (1) bytes -> str -> bytes (the direction of C02):
whatever decodes, encodes back to the same bytes (decoding accepts shortest forms only); (2) str -> bytes -> str:
what encodes, decodes back to the same code points; (3) encoding succeeds iff there is no lone surrogate. -/
theorem C02_utf8_roundtrip :
    (∀ bs cps : List Nat, utf8Dec bs = some cps → utf8Enc cps = .ok bs) ∧
    (∀ cps bs : List Nat, cps.all (fun c => decide (c < 0x110000)) = true → utf8Enc cps = .ok bs →
      utf8Dec bs = some cps) ∧
    (∀ cps : List Nat, (∃ bs, utf8Enc cps = .ok bs) ↔ cps.all (fun c => !isSurrogate c) = true) :=
  ⟨utf8Enc_of_dec, utf8Dec_of_enc, utf8Enc_ok_iff⟩

example : utf8Dec [0x68, 0xC3, 0xA9, 0xF0, 0x9F, 0x98, 0x80] = some [0x68, 0xE9, 0x1F600] ∧
    utf8Dec [0xC0, 0x80] = none ∧ utf8Dec [0xED, 0xA0, 0x80] = none ∧ utf8Dec [0xF4, 0x90, 0x80, 0x80] = none ∧
    [0x68, 0xE9, 0x1F600].all (fun c => decide (c < 0x110000)) = true := by decide +kernel

end IrVerif.Serde
