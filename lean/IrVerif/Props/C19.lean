/-
C19 — device annotations follow object identity and never dangle: property theorems about the
model `IrVerif.Device` (`Model/Device.lean`); helper development in `Lemmas/Device*.lean`.

`DevOK w` (defined next to the model, it is also evaluated by the driver): every spec on a node
targets a current input or output of that node, every node configuration of a node in a model's
graph refers (by identity) to a configuration registered on that model, axes are in range for a
known rank and not repeated after normalisation, `num_shards >= 1`, stages `>= 0`, device indices
inside the configuration, one record per configuration and one spec per (configuration, value).

Round trips are taken of models whose names are unique along every scope chain (`NamesChain`); `C19_step_any` /
`C19_history_any` cover every IR version; `C19_inline_pass` / `C19_inline_pass_axes` are about the complete
`InlinePass` (`Model/DeviceInl.lean`), after which only the weaker invariant `WeakOK` holds; `C19_step_weak` /
`C19_history_weak` / `C19_weak_checker` are the step and history theorems that start from the weak invariant
(`WeakDev`, helper development in `Lemmas/DeviceWk*.lean`): `InlinePass` followed by any in-alphabet history.
-/
import IrVerif.Lemmas.DeviceNames
import IrVerif.Lemmas.DeviceRTLegacy
import IrVerif.Lemmas.DeviceInline
import IrVerif.Lemmas.DeviceInlPass
import IrVerif.Lemmas.DeviceInlAxes
import IrVerif.Lemmas.DeviceInlModels
import IrVerif.Lemmas.DeviceWkStep
namespace IrVerif.Device

/-! ### C19_step -/

/-- **C19_step**: every operation of the alphabet — annotate (`shard`,
    `set_pipeline_stage`, valid or rejected), register / remove a configuration with cascade, rename,
    replace an input, resize inputs / outputs, append a node to a root graph or a subgraph, attach a
    subgraph to a node, register an initializer, remove a node (with everything nested under it),
    re-attach a removed node (also to another model), edit a shape, assign the annotation tuple of a
    node or the configuration tuple of a model directly, clone (recursively, value map shared across
    scopes, initializers included, the functions of the model each with a cloner of its own), serialize
    -> deserialize (names resolved through all enclosing scopes; functions with a scope of their own), add
    a function to a model (its body is edited and annotated like any other graph), `Function.clone`
    (registered on the model under a new name), `Graph.clone(allow_outer_scope_values=True)` of a subgraph
    (attached to a node as a further GRAPH attribute; specs on outer-scope values stay on those values)
    — preserves `DevOK`, provided the in-alphabet condition `Pre` holds for it: ids exist; the
    configuration of an annotation request is registered on the node's model (`shard` cannot check
    that: a node does not reach its model; known finding D192); `cascade=True`; a node is re-attached
    only where the configurations it references are registered; a shape is edited only on a value that
    is not sharded; a directly assigned tuple is itself well formed; clone / round trip of a model
    whose node and graph lists are closed under nesting; a round
    trip at IR version >= 11 of a model whose named values have unique names along every scope chain
    (`NamesChain`: for every graph, the values of the graph and of its enclosing graphs - what the deserializer
    resolves by, innermost scope first; sibling subgraphs, function bodies and the main graph may reuse names,
    a subgraph may not shadow a name of an enclosing graph, which is also what ONNX asks for).  (A clone needs
    nothing beyond `Closed`: `clone_node` remaps a node's specs through the node-local io map, fix D350.) -/
theorem C19_step (w : World) (op : Op) (h : DevOK w) (hpre : Pre w op) : DevOK (step w op).1 := by
  rw [step_eq_stepD]
  exact DevOK_iff.2 (Inv.stepD_ok w op (DevOK_iff.1 h) hpre)

/-- `Pre` holds for every operation of the history at the world it is applied to -/
def PreAll : World → List Op → Prop
  | _, [] => True
  | w, op :: rest => Pre w op ∧ PreAll (step w op).1 rest

def PreAll.dec : (ops : List Op) → (w : World) → Decidable (PreAll w ops)
  | [], _ => isTrue trivial
  | op :: rest, w =>
    have := PreAll.dec rest (step w op).1
    by unfold PreAll; infer_instance

instance (w : World) (ops : List Op) : Decidable (PreAll w ops) := PreAll.dec ops w

/-- **C19_history**: after every finite in-alphabet history from a world satisfying `DevOK`
    (in particular from the empty world) `DevOK` holds — by induction on the history. -/
theorem C19_history (ops : List Op) : ∀ (w : World), DevOK w → PreAll w ops → DevOK (run w ops).1 := by
  induction ops with
  | nil => intro w h _; exact h
  | cons op rest ih =>
    intro w h hp
    exact ih (step w op).1 (C19_step w op h hp.1) hp.2

/-- non-vacuity of `Pre`/`DevOK`: a history with a subgraph whose node uses and shards an
    outer-scope value, annotations, a rename, a detach, a cascade removal, a clone and a round trip
    satisfies `PreAll`; the cloned and the deserialized nested nodes (4 and 7) carry
    annotations. -/
example :
    let ops : List Op := [.newModel 11, .newInput 0 "x" (some [.int 2, .int 3]), .newInput 0 "y" none,
      .newNode 0 [some 0, some 1] [("o", some [.int 2])], .newNode 0 [some 2] [("p", none)],
      .newSubgraph 1, .newInput 1 "si" none, .newNode 1 [some 0, some 4, some 2] [("t", some [.int 4])],
      .addCfg 0 "c" (some 2) [], .addCfg 0 "d" (some 1) [],
      .shard 0 0 0 (-1) 2 [0, 1] (some 1), .shard 0 2 0 0 2 [1] none, .setStage 0 1 0,
      .shard 2 0 0 1 2 [0] none, .shard 2 5 1 0 4 [] (some 2),   -- a nested node shards an outer-scope value
      .rename 0 "x2", .clone 0, .roundTrip 0, .removeCfg 0 (.byName "d") true,
      .replaceInput 0 0 (some 1), .resizeOutputs 1 0]
    PreAll {} ops ∧ (run {} ops).2.all (· = .ok) ∧
    ((run {} ops).1.node 4).dev ≠ [] ∧ ((run {} ops).1.node 7).dev ≠ [] ∧
    DevOK (run {} ops).1 := by
  decide

/-- `Pre` is not vacuous the other way either: without it the invariant can be lost (documented
    behaviour of `remove_device_configuration(cascade=False)`: dangling references remain). -/
example :
    let ops : List Op := [.newModel 11, .newInput 0 "x" none, .newNode 0 [some 0] [("o", none)],
      .addCfg 0 "c" (some 2) [], .shard 0 0 0 0 2 [] none, .removeCfg 0 (.byObj 0) false]
    ¬ DevOK (run {} ops).1 ∧ check (run {} ops).1 0 = [Err.cfgNotDeclared] := by
  decide

/-! #### the remaining clauses of `Pre` are necessary

Each clause of `Pre` that restricts a call of the public API is shown necessary by a counterexample:
the history satisfies `PreAll` up to its last operation, the last operation violates exactly that
clause, and `DevOK` is lost (the model of the internal checker reports it).  The same histories are in
`corpus/C19/pre-necessary.jsonl`: every run replays them on the real objects and compares the checker
output with the model's.  None of them is in the alphabet of the property's statement (shape edits,
moving a node to another model, hand-built tuples, duplicate value names are not "annotating, renaming,
replacing inputs, resizing outputs, cloning, cascade removal, round trip").

A clone needs no clause of its own: `clone_node` remaps a node's specs through that node's own input / output
correspondence (`ioMap`, fix D350), and `DevOK_clone` asks for nothing but `Closed`. -/

/-- a shape is edited only on unsharded values: shrinking the rank of a sharded value leaves an axis out
    of range -/
example :
    let w := (run {} [.newModel 11, .newInput 0 "x" (some [.int 2, .int 3]), .newNode 0 [some 0] [("o", none)],
      .addCfg 0 "c" (some 2) [], .shard 0 0 0 1 2 [] none]).1
    DevOK w ∧ ¬ Pre w (.setShape 0 (some [.int 2])) ∧ ¬ DevOK (step w (.setShape 0 (some [.int 2]))).1 ∧
    check (step w (.setShape 0 (some [.int 2]))).1 0 = [Err.axisRange] := by
  decide

/-- a node is re-attached only where its configurations are registered: an annotated node moved to
    another model references a configuration that model does not declare -/
example :
    let w := (run {} [.newModel 11, .newModel 11, .newInput 0 "x" none, .newNode 0 [some 0] [("o", none)],
      .addCfg 0 "c" (some 2) [], .shard 0 0 0 0 2 [] none, .removeNode 0 0 false]).1
    DevOK w ∧ ¬ Pre w (.attachNode 1 0) ∧ ¬ DevOK (step w (.attachNode 1 0)).1 ∧
    check (step w (.attachNode 1 0)).1 1 = [Err.cfgNotDeclared] := by
  decide

/-- a directly assigned tuple is well formed: a hand-built spec on a value that is not on the node -/
example :
    let w := (run {} [.newModel 11, .newInput 0 "x" none, .newInput 0 "y" none, .newNode 0 [some 0] [("o", none)],
      .addCfg 0 "c" (some 2) [], .shard 0 0 0 0 2 [] none]).1
    DevOK w ∧ ¬ Pre w (.setDev 0 [⟨0, [⟨1, [], []⟩], none⟩]) ∧
    ¬ DevOK (step w (.setDev 0 [⟨0, [⟨1, [], []⟩], none⟩])).1 ∧
    check (step w (.setDev 0 [⟨0, [⟨1, [], []⟩], none⟩])).1 0 = [Err.valNotIO] := by
  decide

/-- a round trip is taken of a model whose named values have unique names: two graph inputs of the same
    name are one value after the reload, so the two specs of the node target the same value, one of them
    with an axis that is out of range for it -/
example :
    let w := (run {} [.newModel 11, .newInput 0 "a" (some [.int 2, .int 3]), .newInput 0 "a" (some [.int 4]),
      .newNode 0 [some 0, some 1] [("o", none)], .addCfg 0 "c" (some 2) [],
      .shard 0 0 0 1 2 [] none, .shard 0 1 0 0 2 [] none]).1
    DevOK w ∧ ¬ Pre w (.roundTrip 0) ∧ (step w (.roundTrip 0)).2 = .ok ∧ ¬ DevOK (step w (.roundTrip 0)).1 ∧
    check (step w (.roundTrip 0)).1 1 = [Err.axisRange] := by
  decide

theorem DevOK_empty : DevOK {} := by
  constructor <;> intro x hx <;> cases hx

/-! ### C19_checker_silent -/

/-- **C19_checker_only_names**: on a world satisfying `DevOK` the model of
    `_check_device_configurations` can only report "shards a value with an empty name", and only
    when some sharded value really has an empty name. -/
theorem C19_checker_only_names (w : World) (h : DevOK w) (m : MId) :
    ∀ e ∈ check w m, e = Err.valEmptyName ∧
      ∃ nd ∈ w.nodes, ∃ nc ∈ nd.dev, ∃ s ∈ nc.specs, (w.value s.value).name = "" :=
  check_only_names h m

/-- **C19_checker_silent**: `DevOK` and named sharded values: the internal check returns `[]`. -/
theorem C19_checker_silent (w : World) (h : DevOK w) (hn : Named w) (m : MId) : check w m = [] := by
  apply List.eq_nil_iff_forall_not_mem.mpr
  intro e he
  obtain ⟨_, nd, hnd, nc, hnc, s, hs, hempty⟩ := check_only_names h m e he
  exact hn nd hnd nc hnc s hs hempty

/-! ### C19_drop -/

/-- **C19_drop**: after an operation that can detach a value from node `n`
    (`replace_input_with`, `resize_inputs`, `resize_outputs`, `Graph.remove`) the annotations of `n`
    are the old ones restricted to *exactly* the specs whose target is still an input or output of
    `n` (`keepIO`: same records, same order, same stages; a spec is gone iff its value left the
    node), and no other node is touched. -/
theorem C19_drop (w : World) (h : DevOK w) (op : Op) (n : NId) (hop : op.detaches = some n) :
    ((step w op).1.node n).dev = keepIO ((step w op).1.node n) (w.node n).dev ∧
    ∀ k, k ≠ n → (step w op).1.node k = w.node k := by
  rw [step_eq_stepD]
  exact drop_exact (fun n => h.specs_io n) op n hop

/-- `keepIO` spelled out -/
example (nd' : NodeS) (dev : List NodeCfg) : keepIO nd' dev =
    dev.map (fun nc => { nc with specs := nc.specs.filter (fun s => decide (InIO nd' s.value)) }) := rfl

/-- non-vacuity: a detach really drops a spec -/
example :
    let w := (run {} [.newModel 11, .newInput 0 "x" none, .newInput 0 "y" none,
      .newNode 0 [some 0] [("o", none)], .addCfg 0 "c" (some 2) [],
      .shard 0 0 0 0 2 [0] none, .shard 0 2 0 0 2 [1] none]).1
    DevOK w ∧ (w.node 0).dev = [⟨0, [⟨0, [0], [⟨0, .unk, 2⟩]⟩, ⟨2, [1], [⟨0, .unk, 2⟩]⟩], none⟩] ∧
    ((step w (.replaceInput 0 0 (some 1))).1.node 0).dev = [⟨0, [⟨2, [1], [⟨0, .unk, 2⟩]⟩], none⟩] := by
  decide

/-! ### C19_reject_atomic -/

/-- **C19_checks_precede_writes**: every operation that can raise after touching an existing
    object (`shard`, `set_pipeline_stage`, `add_/remove_device_configuration`, `replace_input_with`,
    `resize_outputs`, `Graph.remove`, `Graph.append` of an existing node, `register_initializer`,
    `Value.name=`) is modelled as the Python-ordered sequence of its checks and writes (`progOf`), run
    by `runMicro` *without roll-back*: a failing check returns the state reached so far.  In every such
    program no check comes after a write. -/
theorem C19_checks_precede_writes (op : Op) (p : List Micro) (h : progOf op = some p) : ChecksFirst p :=
  progOf_checksFirst op p h

/-- **C19_reject_atomic**: (1) whenever an operation of the alphabet raises, the world is
    unchanged — for the micro-step programs because of `C19_checks_precede_writes` (the interpreter
    itself does not restore anything); the remaining operations that can raise, clone and round
    trip, only ever create new objects and return the untouched world on a raise; (2) `shard` raises
    exactly for the invalid requests (value not on the node, fewer than one shard, negative stage,
    a device index outside the configuration,
    axis out of range for a known rank, axis repeated after normalisation for the same
    (configuration, value), conflicting stage); (3) `set_pipeline_stage` raises exactly for a
    negative stage. -/
theorem C19_reject_atomic (w : World) (h : DevOK w) :
    (∀ op, (step w op).2 = .raised → (step w op).1 = w) ∧
    (∀ n v c axis k devs stage,
      (step w (.shard n v c axis k devs stage)).2 = .raised ↔ ShardInvalid w n v c axis k devs stage) ∧
    (∀ n c stage, (step w (.setStage n c stage)).2 = .raised ↔ stage < 0) := by
  refine ⟨?_, ?_, ?_⟩
  · intro op hr
    rw [step_eq_stepD] at hr ⊢
    exact stepD_raised_same w op hr
  · intro n v c axis k devs stage
    rw [step_eq_stepD]
    exact shard_raised_iff n v c axis k devs stage (h.node n)
  · intro n c stage
    rw [step_eq_stepD]
    -- `set_pipeline_stage` tests `stage < 0` before anything else
    simp only [stepD, setStage]
    by_cases hs : stage < 0 <;> simp [hs]

/-- non-vacuity: each kind of invalid request occurs and is rejected -/
example :
    let w := (run {} [.newModel 11, .newInput 0 "x" (some [.int 2, .int 3]),
      .newNode 0 [some 0] [("o", none)], .addCfg 0 "c" (some 2) [],
      .shard 0 0 0 (-1) 2 [0] (some 1)]).1
    DevOK w ∧
    (step w (.shard 0 0 0 1 2 [] none)).2 = .raised ∧      -- axis 1 = axis -1 of a rank-2 value
    (step w (.shard 0 0 0 2 2 [] none)).2 = .raised ∧      -- out of range
    (step w (.shard 0 0 0 0 0 [] none)).2 = .raised ∧      -- no shard
    (step w (.shard 0 0 0 0 2 [] (some 2))).2 = .raised ∧  -- conflicting stage
    (step w (.shard 1 0 0 0 2 [] none)).2 = .raised ∧      -- not a value of the node
    (step w (.shard 0 0 0 0 2 [1] none)).2 = .ok := by
  decide

/-! ### serialization

The serializer of the model reads `tensor_name` / `configuration_id` from the value / configuration
objects at serialization time (`serSpec`, `serCfg`, as `serde.py` 1620-1664 does); the annotation holds
the object.  What makes "serialized references carry the current names" a statement about *histories*
is that between the annotation and the serialization anything of the alphabet may happen, renames
included: `C19_name_frame` (only `Value.name = s` changes the name of an existing value, every other
operation - clone, round trip, Function.clone, Graph.clone included - only appends objects) and
`C19_names_current`. -/

/-- **C19_name_frame**: an in-alphabet operation that is not an assignment to the name of `v` keeps
    the value `v` and its name. -/
theorem C19_name_frame (w : World) (op : Op) (h : DevOK w) (hpre : Pre w op) (v : VId)
    (hv : v < w.values.length) (hnr : ¬ op.renames v) :
    v < (step w op).1.values.length ∧ ((step w op).1.value v).name = (w.value v).name := by
  rw [step_eq_stepD]
  exact stepD_name w op h hpre v hv hnr

/-- the name of `v` survives every in-alphabet history without an assignment to it -/
theorem run_name_kept (v : VId) (ops : List Op) : ∀ (w : World), DevOK w → PreAll w ops →
    (∀ op ∈ ops, ¬ op.renames v) → v < w.values.length →
    v < (run w ops).1.values.length ∧ ((run w ops).1.value v).name = (w.value v).name := by
  induction ops with
  | nil => intro w _ _ _ hv; exact ⟨hv, rfl⟩
  | cons op rest ih =>
    intro w h hp hnr hv
    obtain ⟨h1, h2⟩ := C19_name_frame w op h hp.1 v hv (hnr op (by simp))
    obtain ⟨h3, h4⟩ := ih (step w op).1 (C19_step w op h hp.1) hp.2 (fun o ho => hnr o (by simp [ho])) h1
    exact ⟨h3, by rw [← h2]; exact h4⟩

/-- **C19_names_current**: take any world satisfying the invariant (annotations on `v` included), a
    successful `v.name = s`, and then ANY in-alphabet history `post` that does not assign to the name of
    `v` again (edits, further annotations, renames of other values, clones, round trips ...).  In the
    world reached, `s` is the name of `v`, and whenever the device fields of a model serialize (IR
    version >= 11) they are, node by node and record by record, the protos built from the *current*
    names (`cfgProto`: `configuration_id` = name of the configuration object, `tensor_name` = name of
    the value object) - in particular every serialized spec that targets `v` carries `s`, whatever
    name `v` had when the annotation was made. -/
theorem C19_names_current (w : World) (h : DevOK w) (v : VId) (s : String) (post : List Op)
    (hv : v < w.values.length) (hok : (step w (.rename v s)).2 = .ok)
    (hpre : PreAll (step w (.rename v s)).1 post) (hnr : ∀ op ∈ post, ¬ op.renames v) :
    ((run (step w (.rename v s)).1 post).1.value v).name = s ∧
    ∀ m protos, serModelDev (run (step w (.rename v s)).1 post).1 m = some protos →
      11 ≤ ((run (step w (.rename v s)).1 post).1.model m).irVersion →
      protos = ((run (step w (.rename v s)).1 post).1.model m).nodes.map (fun n =>
        ((run (step w (.rename v s)).1 post).1.node n).dev.map (cfgProto (run (step w (.rename v s)).1 post).1)) ∧
      ∀ n ∈ ((run (step w (.rename v s)).1 post).1.model m).nodes,
        ∀ nc ∈ ((run (step w (.rename v s)).1 post).1.node n).dev, ∀ sp ∈ nc.specs, sp.value = v →
          (specProto (run (step w (.rename v s)).1 post).1 sp).tensor = s := by
  have h1 : DevOK (step w (.rename v s)).1 := C19_step w _ h trivial
  have hr : v < (step w (.rename v s)).1.values.length ∧ ((step w (.rename v s)).1.value v).name = s := by
    rw [step_eq_stepD] at hok ⊢
    exact rename_name w v s hv hok
  obtain ⟨_, hk⟩ := run_name_kept v post _ h1 hpre hnr hr.1
  have hname : ((run (step w (.rename v s)).1 post).1.value v).name = s := by rw [hk]; exact hr.2
  refine ⟨hname, ?_⟩
  intro m protos hser hir
  refine ⟨serModelDev_eq hser hir, ?_⟩
  intro n _ nc _ sp _ hsv
  simp only [specProto, hsv]
  exact hname

/-- non-vacuity: annotate under the name "x", rename to "x2", edit / clone / round trip, rename another
    value: the serialized spec of node 0 carries "x2" -/
example :
    let w := (run {} [.newModel 11, .newInput 0 "x" (some [.int 2, .int 3]), .newInput 0 "y" none,
      .newNode 0 [some 0, some 1] [("o", none)], .addCfg 0 "c" (some 2) [],
      .shard 0 0 0 1 2 [0] none]).1
    let post : List Op := [.shard 0 1 0 0 2 [] none, .clone 0, .rename 1 "y2", .roundTrip 0, .newNode 0 [some 0] [("p", none)]]
    DevOK w ∧ (step w (.rename 0 "x2")).2 = .ok ∧ PreAll (step w (.rename 0 "x2")).1 post ∧
    (∀ op ∈ post, ¬ op.renames 0) ∧
    ((serModelDev (run (step w (.rename 0 "x2")).1 post).1 0).map (fun l => (l.getD 0 []).map (fun p => p.specs.map (·.tensor))))
      = some [["x2", "y2"]] := by
  decide

/-- **C19_roundtrip_faithful**: a successful in-alphabet round trip (`DevOK`, IR version >= 11, closed
    lists, unique names of named values; serialization succeeding means every sharded value is named)
    reproduces every annotation field by field on fresh objects.  The correspondence between old and
    new ids: the new model is the last model; its configuration objects are record-for-record copies
    (name, num_devices, device names) of the source model's, in order; its nodes are the second
    components of a list of pairs (source node, new node) — nested nodes included, every source node
    of the model occurs as a first component (nothing is lost) — and for every pair the annotation records correspond position by position (`NodeRel`): the copy refers to the
    copy of the same configuration, has the same stage, and its specs, in the same order, target
    existing values of the *same name* with the same device list and the same sharded axes (axis,
    dimension, number of shards).  (`C19_step` adds that those values are inputs/outputs of the new
    node and that the configurations are registered on the new model.) -/
theorem C19_roundtrip_faithful (w : World) (h : DevOK w) (m : MId) (hpre : Pre w (.roundTrip m))
    (hok : (roundTrip w m).2 = .ok) :
    (roundTrip w m).1.models.length = w.models.length + 1 ∧
    (((roundTrip w m).1.model w.models.length).cfgs.map (roundTrip w m).1.cfg = (w.model m).cfgs.map w.cfg) ∧
    ((roundTrip w m).1.model w.models.length).irVersion = (w.model m).irVersion ∧
    ∃ ps : List (NId × NId), ((roundTrip w m).1.model w.models.length).nodes = ps.map (·.2) ∧
      (∀ n ∈ (w.model m).nodes, n ∈ ps.map (·.1)) ∧
      ∀ p ∈ ps, p.1 ∈ (w.model m).nodes ∧
        NodeRel w (roundTrip w m).1 (w.node p.1) ((roundTrip w m).1.node p.2) :=
  roundTrip_faithful h m hpre hok

/-- **C19_roundtrip_legacy**: a round trip *below* IR version 11 (closed lists, unique names of named
    values; the IR-version gate of the serializer writes no device field and no model configuration):
    the world reached satisfies `DevOK`, and when the round trip succeeds the new model - the last one -
    has no configurations and none of its nodes (nested ones and function bodies included) has an
    annotation: nothing dangles after the reload.  (`Pre` of `C19_step` keeps round trips at IR
    version >= 11, where `C19_roundtrip_faithful` says the annotations are reproduced; this theorem is the
    other half.) -/
theorem C19_roundtrip_legacy (w : World) (h : DevOK w) (m : MId) (hir : (w.model m).irVersion < 11)
    (hcl : Closed w (w.model m)) (hU : NamesUnique w (w.model m)) :
    DevOK (roundTrip w m).1 ∧
    ((roundTrip w m).2 = .ok →
      (roundTrip w m).1.models.length = w.models.length + 1 ∧
      ((roundTrip w m).1.model w.models.length).cfgs = [] ∧
      ∀ n ∈ ((roundTrip w m).1.model w.models.length).nodes, ((roundTrip w m).1.node n).dev = []) :=
  roundTrip_legacy h m hir hcl hU

/-- the round-trip hypothesis is per scope chain: main graph and function body both call their values "x" / "o" and
    shard them; global uniqueness fails, `Pre` holds, the reload is faithful: the function-body node of the new
    model (node 3) shards the new function input (value 6), not the main graph's "x" -/
example :
    let w := (run {} [.newModel 11, .newInput 0 "x" (some [.int 2, .int 3]), .newNode 0 [some 0] [("o", none)],
      .addCfg 0 "c" (some 2) [], .shard 0 0 0 1 2 [0] none, .newFunction 0, .newInput 1 "x" (some [.int 4]),
      .newNode 1 [some 2] [("o", none)], .shard 1 2 0 0 2 [] none, .shard 1 3 0 0 2 [] none]).1
    DevOK w ∧ ¬ NamesUnique w (w.model 0) ∧ NamesChain w (w.model 0) ∧ Pre w (.roundTrip 0) ∧
    (roundTrip w 0).2 = .ok ∧ ((roundTrip w 0).1.model 1).nodes = [2, 3] ∧
    (((roundTrip w 0).1.node 3).dev.map (fun nc => nc.specs.map (·.value))) = [[6, 7]] ∧
    ((roundTrip w 0).1.node 3).inputs = [some 6] ∧ ((roundTrip w 0).1.node 3).outputs = [7] := by
  decide

/-- sibling subgraphs (the branches of an `If`) may use the same names: both branches call their node output "h"
    and shard it; `Pre` holds, the reload is faithful (the nodes 4 and 5 of the new model shard their own outputs 8
    and 9).  A subgraph that SHADOWS a name of its enclosing graph is outside `Pre` (last line: the first branch
    renamed to the outer "x"). -/
example :
    let w := (run {} [.newModel 11, .newInput 0 "x" none, .newNode 0 [some 0] [("o", none)],
      .addCfg 0 "c" (some 2) [], .newSubgraph 0, .newSubgraph 0,
      .newNode 1 [some 0] [("h", none)], .newNode 2 [some 0] [("h", none)],
      .shard 1 2 0 0 2 [] none, .shard 2 3 0 1 2 [] none]).1
    DevOK w ∧ ¬ NamesUnique w (w.model 0) ∧ NamesChain w (w.model 0) ∧ Pre w (.roundTrip 0) ∧
    (roundTrip w 0).2 = .ok ∧
    (((roundTrip w 0).1.model 1).nodes.map (fun n => ((roundTrip w 0).1.node n).dev.map (fun nc => nc.specs.map (·.value)))) =
      [[[6]], [[7]], []] ∧
    ((roundTrip w 0).1.model 1).nodes.map (fun n => ((roundTrip w 0).1.node n).outputs) = [[6], [7], [5]] ∧
    ¬ Pre (step w (.rename 2 "x")).1 (.roundTrip 0) := by
  decide

/-- non-vacuity: an annotated IR-10 model (a main-graph node, a nested node and a function-body node carry
    annotations) is reloaded without them -/
example :
    let w := (run {} [.newModel 10, .newInput 0 "x" (some [.int 2, .int 3]), .newNode 0 [some 0] [("o", none)],
      .addCfg 0 "c" (some 2) [], .shard 0 0 0 1 2 [0] (some 1), .newSubgraph 0, .newNode 1 [some 0] [("t", none)],
      .shard 1 0 0 0 2 [] none, .newFunction 0, .newInput 2 "fx" none, .newNode 2 [some 3] [("fo", none)],
      .setStage 2 0 2]).1
    DevOK w ∧ (w.model 0).irVersion < 11 ∧ Closed w (w.model 0) ∧ NamesUnique w (w.model 0) ∧
    (w.node 0).dev ≠ [] ∧ (w.node 1).dev ≠ [] ∧ (w.node 2).dev ≠ [] ∧
    (roundTrip w 0).2 = .ok ∧ ((roundTrip w 0).1.model 1).nodes.length = 3 := by
  decide

/-- `NodeRel` spelled out -/
example (w w' : World) (nd nd' : NodeS) : NodeRel w w' nd nd' =
    All2 (fun nc nc' => w'.cfg nc'.cfg = w.cfg nc.cfg ∧ nc'.stage = nc.stage ∧
      All2 (fun s s' => s'.value < w'.values.length ∧ (w'.value s'.value).name = (w.value s.value).name ∧
        s'.device = s.device ∧ s'.dims = s.dims) nc.specs nc'.specs) nd.dev nd'.dev := rfl

/-- **C19_serializable**: with `DevOK` and named sharded values, serialization of the device fields
    does not raise. -/
theorem C19_serializable (w : World) (h : DevOK w) (hn : Named w) (m : MId) :
    ∃ protos, serModelDev w m = some protos :=
  serModelDev_some h hn m

/-! ### InlinePass: annotations of an instantiated body node -/

/-- **C19_inline_remap**: the step of `InlinePass` that handles annotations - `Cloner.clone_node` of a
    function-body node with the inliner's value map (formal parameter -> actual argument of the call
    node, or `None` for a missing / `None` argument; body value -> its clone).  For a body node of a world
    satisfying `DevOK` (only "every spec targets an input or output of the node" is used) whose
    instantiation succeeds: the new inputs are the images of the old ones, the outputs are fresh, the
    records keep their configuration objects and stages in order, **every spec of the new node targets an
    input or output of the new node** (nothing dangles into the function body or elsewhere), and every
    new spec comes from a spec of the same configuration with the same devices and sharded axes whose
    value was an output (now the corresponding new output) or an input whose image is the new target;
    in particular a spec on a formal parameter mapped to `None` is dropped, never kept with a dangling
    target.  (The complete pass is `C19_inline_pass`: after inlining axes may be out of
    range for the actual arguments and two specs may coincide, so the full `DevOK` is not claimed there.) -/
theorem C19_inline_remap (w : World) (h : DevOK w) (k : NId) (vm : OMap) (base : Nat) (nd' : NodeS)
    (hi : instNode vm (w.node k) base = some nd') :
    nd'.inputs = (w.node k).inputs.map (fun o => o.bind (oimg vm)) ∧
    nd'.outputs = List.range' base (w.node k).outputs.length ∧
    nd'.dev.map (·.cfg) = (w.node k).dev.map (·.cfg) ∧ nd'.dev.map (·.stage) = (w.node k).dev.map (·.stage) ∧
    (∀ nc' ∈ nd'.dev, ∀ s' ∈ nc'.specs, InIO nd' s'.value) ∧
    (∀ nc' ∈ nd'.dev, ∀ s' ∈ nc'.specs, ∃ nc ∈ (w.node k).dev, nc.cfg = nc'.cfg ∧ ∃ s ∈ nc.specs,
      s'.device = s.device ∧ s'.dims = s.dims ∧
      ((s.value ∈ (w.node k).outputs ∧ s'.value ∈ nd'.outputs) ∨
       (s.value ∉ (w.node k).outputs ∧ oimg vm s.value = some s'.value))) :=
  instNode_spec (h.specs_io k) hi

/-- non-vacuity: a body node `Add(fx, fy) -> fo` sharded on `fx`, `fy` and `fo`, instantiated for a call
    that passes only the first argument: the spec on `fx` follows the actual argument (value 7), the spec
    on `fy` is dropped, the spec on `fo` follows the new output (value 9) -/
example :
    let w := (run {} [.newModel 11, .newFunction 0, .newInput 1 "fx" none, .newInput 1 "fy" none,
      .newNode 1 [some 0, some 1] [("fo", none)], .addCfg 0 "c" (some 2) [],
      .shard 0 0 0 0 2 [] none, .shard 0 1 0 0 2 [] none, .shard 0 2 0 1 2 [] none]).1
    DevOK w ∧ (instNode [(0, some 7), (1, none)] (w.node 0) 9).map (fun nd => (nd.inputs, nd.outputs, nd.dev)) =
      some ([some 7, none], [9], [⟨0, [⟨7, [], [⟨0, .unk, 2⟩]⟩, ⟨9, [], [⟨1, .unk, 2⟩]⟩], none⟩]) := by
  decide

/-! ### one history theorem for every IR version -/

/-- the in-alphabet condition without the IR-version bound on round trips: a round trip is taken of a model
    whose node / graph lists are closed under nesting and whose named values have unique names along every scope
    chain, at ANY IR version; every other operation as in `Pre` -/
def PreAny (w : World) (op : Op) : Prop :=
  match op with
  | .roundTrip m => Closed w (w.model m) ∧ NamesChain w (w.model m)
  | _ => Pre w op

instance (w : World) (op : Op) : Decidable (PreAny w op) := by
  unfold PreAny; split <;> infer_instance

/-- `Pre` implies `PreAny` (so the theorems below contain `C19_step` / `C19_history`) -/
theorem PreAny_of_Pre (w : World) (op : Op) (h : Pre w op) : PreAny w op := by
  cases op with
  | roundTrip m => exact ⟨h.2.1, h.2.2⟩
  | _ => exact h

/-- what a successful round trip below IR version 11 leaves: one more model, without configurations, and none
    of its nodes (nested ones and function bodies included) annotated -/
def LegacyClean (w : World) (op : Op) : Prop :=
  ∀ m, op = .roundTrip m → (w.model m).irVersion < 11 → (step w op).2 = .ok →
    (step w op).1.models.length = w.models.length + 1 ∧
    ((step w op).1.model w.models.length).cfgs = [] ∧
    ∀ n ∈ ((step w op).1.model w.models.length).nodes, ((step w op).1.node n).dev = []

/-- **C19_step_any**: `C19_step` with round trips at every IR version: an operation satisfying `PreAny` keeps
    `DevOK`, and a round trip below IR version 11 (where the serializer's gate writes no device field) yields a
    model without configurations and without annotations - nothing dangles after the reload. -/
theorem C19_step_any (w : World) (op : Op) (h : DevOK w) (hpre : PreAny w op) :
    DevOK (step w op).1 ∧ LegacyClean w op := by
  cases op with
  | roundTrip m =>
    obtain ⟨hcl, hS⟩ := hpre
    by_cases hir : 11 ≤ (w.model m).irVersion
    · refine ⟨C19_step w _ h ⟨hir, hcl, hS⟩, ?_⟩
      intro m' hm' hlt
      cases hm'
      omega
    · have hlt : (w.model m).irVersion < 11 := by omega
      have := roundTrip_legacy_core h m hlt hS
      rw [step_eq_stepD]
      refine ⟨this.1, ?_⟩
      intro m' hm' _ hok
      cases hm'
      rw [step_eq_stepD] at hok ⊢
      exact this.2 hok
  | _ => exact ⟨C19_step w _ h hpre, fun m hm => by cases hm⟩

def PreAnyAll : World → List Op → Prop
  | _, [] => True
  | w, op :: rest => PreAny w op ∧ PreAnyAll (step w op).1 rest

def PreAnyAll.dec : (ops : List Op) → (w : World) → Decidable (PreAnyAll w ops)
  | [], _ => isTrue trivial
  | op :: rest, w =>
    have := PreAnyAll.dec rest (step w op).1
    by unfold PreAnyAll; infer_instance

instance (w : World) (ops : List Op) : Decidable (PreAnyAll w ops) := PreAnyAll.dec ops w

/-- `LegacyClean` for every operation of a history, at the world it is applied to -/
def LegacyCleanAll : World → List Op → Prop
  | _, [] => True
  | w, op :: rest => LegacyClean w op ∧ LegacyCleanAll (step w op).1 rest

/-- **C19_history_any**: the history theorem with round trips at every IR version threaded through: after every
    finite history whose operations satisfy `PreAny`, `DevOK` holds, and every successful round trip below IR
    version 11 inside the history produced a model without configurations and annotations.  Contains
    `C19_history` (`PreAny_of_Pre`) and `C19_roundtrip_legacy`. -/
theorem C19_history_any (ops : List Op) : ∀ (w : World), DevOK w → PreAnyAll w ops →
    DevOK (run w ops).1 ∧ LegacyCleanAll w ops := by
  induction ops with
  | nil => intro w h _; exact ⟨h, trivial⟩
  | cons op rest ih =>
    intro w h hp
    obtain ⟨h1, h2⟩ := C19_step_any w op h hp.1
    obtain ⟨h3, h4⟩ := ih (step w op).1 h1 hp.2
    exact ⟨h3, h2, h4⟩

/-- non-vacuity: an annotated IR-10 model with a function is reloaded (annotations gone), the reload is annotated
    again and edited; the two roots reuse the name "x" (uniqueness per scope chain holds, global uniqueness does not);
    the history is not in the alphabet of `C19_history` (`Pre` wants IR version >= 11) but satisfies `PreAnyAll` -/
example :
    let ops : List Op := [.newModel 10, .newInput 0 "x" (some [.int 2, .int 3]), .newNode 0 [some 0] [("o", none)],
      .addCfg 0 "c" (some 2) [], .shard 0 0 0 1 2 [0] (some 1), .newFunction 0, .newInput 1 "x" none,
      .newNode 1 [some 2] [("fo", none)], .shard 1 2 0 0 2 [] none,
      .roundTrip 0, .addCfg 1 "d" (some 2) [], .shard 2 4 1 0 2 [] none, .replaceInput 2 0 none]
    PreAnyAll {} ops ∧ ¬ PreAll {} ops ∧ (run {} ops).2.all (· = .ok) ∧
    ¬ NamesUnique (run {} (ops.take 9)).1 ((run {} (ops.take 9)).1.model 0) ∧
    ((run {} (ops.take 10)).1.model 1).nodes.length = 2 ∧ DevOK (run {} ops).1 := by
  decide

/-! ### InlinePass: the whole pass -/

/-- **C19_inline_pass**: the complete `InlinePass` (`inlinePass`, `Model/DeviceInl.lean`: the loop over the nodes
    of the main graph and of every subgraph, visiting the nodes inserted for a call; the instantiation of a call -
    formal parameters bound to the actual arguments or to `None`, every body node cloned by `clone_node`, the
    subgraphs of body nodes by `clone_graph`, every new output renamed by `_make_unique_name`, a returned
    function input forwarded through an `Identity` node -; `replace_nodes_and_values` - shape and name of the
    call outputs copied onto the replacement values, every use re-wired through `replace_input_with`, graph /
    function outputs replaced, the new nodes inserted, the call node removed with `safe=True` -; the loop over
    the functions that were not inlined; the deletion of the inlined functions).  From a world satisfying
    `DevOK` in which every node of the heap is annotated with configurations of model `m` only (`HeapReg`),
    whenever the pass does not raise: the configuration objects and the registrations of `m` are untouched, and
    EVERY node of the heap - in particular every node of `m` after the pass: the re-wired users, the inlined
    nodes at every nesting depth, the nodes of the functions that are left - satisfies `NodeWeak`: one record per
    configuration, every record refers to a configuration registered on `m` (by identity), stages are
    non-negative, **every spec targets an input or output of its node**, has at least one shard per axis and
    device indices inside its configuration.  What is NOT claimed after inlining (and does fail, see the
    example): the axis clauses of `SpecWF` for a spec whose target was substituted (an actual argument has
    another rank than the formal parameter; the replacement of a call output takes the call output's shape) and
    "one spec per value" (two formal parameters bound to the same argument).  Consequently the model of the
    library's checker reports after the pass at most: a sharded value with an empty name (the replacement value
    takes the call output's name, which may be empty), an axis out of range, an axis repeated - never a spec
    outside its node, an undeclared / foreign configuration, `num_shards < 1` or a device index out of range. -/
theorem C19_inline_pass (w : World) (h : DevOK w) (m : MId) (hreg : HeapReg w m) (t : ITab) (fuel : Nat)
    (r : IOut) (hr : inlinePass fuel w m t = some r) :
    (r.w.model m).cfgs = (w.model m).cfgs ∧ r.w.cfgs = w.cfgs ∧
    (∀ n, NodeWeak (r.w.model m).cfgs r.w.cfgs (r.w.node n)) ∧
    (∀ n ∈ (r.w.model m).nodes, ∀ nc ∈ (r.w.node n).dev,
      nc.cfg ∈ (r.w.model m).cfgs ∧ ∀ s ∈ nc.specs, InIO (r.w.node n) s.value) ∧
    (∀ e ∈ check r.w m, e = Err.valEmptyName ∨ e = Err.axisRange ∨ e = Err.axisRepeat) := by
  have hj := inlinePass_WJ hr h hreg
  have hn : ∀ n, NodeWeak (r.w.model m).cfgs r.w.cfgs (r.w.node n) := by
    intro n
    rw [hj.hreg, hj.hcfgs]
    exact hj.weak n
  have hL := getD_map_cfgs w.models m
  refine ⟨hj.hreg.trans hL, hj.hcfgs, hn, ?_, ?_⟩
  · intro n _ nc hnc
    obtain ⟨a, _, c⟩ := (hn n).2 nc hnc
    exact ⟨a, fun s hs => (c s hs).1⟩
  · obtain ⟨_, b, c⟩ := h.model m
    refine check_weak (fun n _ => hn n) ?_ ?_
    · rw [hj.hreg, hL]
      intro x hx
      simp only [World.cfg, hj.hcfgs]
      exact b x hx
    · rw [hj.hreg, hL]
      simp only [World.cfg, hj.hcfgs]
      exact c

/-- **C19_inline_pass_axes**: the rank-dependent half.  The model of the pass records in `subst` (ghost state)
    the values whose rank-dependent checks are given up: the actual arguments of every inlined call, the values
    that replace call outputs (they take the call output's shape) and the clones of such values.  If, in
    addition to the hypotheses of `C19_inline_pass`, the inputs and initializers of every graph of the heap exist
    (`GraphIds`), then after the pass `WeakOK` holds in full: every node satisfies `NodeWeak`, and every spec whose
    target is NOT in `subst` still has all its axes in range for a known rank and none repeated after
    normalisation - so for such a spec the checker's axis loop reports nothing: `axisRange` / `axisRepeat` can
    only be reported for substituted targets. -/
theorem C19_inline_pass_axes (w : World) (h : DevOK w) (m : MId) (hreg : HeapReg w m) (hg : GraphIds w) (t : ITab)
    (fuel : Nat) (r : IOut) (hr : inlinePass fuel w m t = some r) :
    WeakOK r.w m r.subst ∧
    ∀ n, ∀ nc ∈ (r.w.node n).dev, ∀ s ∈ nc.specs, s.value ∉ r.subst →
      checkDims (rankOf (r.w.value s.value)) [] s.dims = [] := by
  have ha := inlinePass_AInv hr h hreg hg
  have hw : WeakOK r.w m r.subst := by
    refine ⟨?_, fun nd hnd nc hnc s hs hns => ha.axes hnd hnc hs hns⟩
    rw [ha.hreg, ha.hcfgs]
    exact fun nd hnd => NodeWeak_of_NodeOK (ha.nodes nd hnd).1 ha.hcfgs (ha.nodes nd hnd).2
  refine ⟨hw, ?_⟩
  intro n nc hnc s hs hns
  rcases node_mem_or_default r.w n with h1 | h1
  · obtain ⟨a1, a2⟩ := ha.axes h1 hnc hs hns
    have hsh := (((ha.nodes _ h1).1.2.2 nc hnc).2.2.2 s hs).2.2.2.1
    exact checkDims_nil _ _ [] a1 a2 hsh (by simp)
  · rw [h1] at hnc; simp at hnc

/-- non-vacuity, and the weaker invariant is the right one: a function `F(fx) = Body(fx) -> fo` whose body node
    shards `fx` (unknown rank) along axis 1 and `fo` along axis 0; a call `F(x)` with `x` of rank 1; a user of the
    call output that shards it.  After the pass: the inlined node (node 3) targets `x` and its own output, the
    user lost its spec on the call output, the function is gone, the hypotheses held - and the checker reports
    `axisRange` for the substituted argument: `DevOK` itself is lost. -/
example :
    let w := (run {} [.newModel 11, .addCfg 0 "c" (some 2) [], .newFunction 0, .newInput 1 "fx" none,
      .newNode 1 [some 0] [("fo", some [.int 2])], .shard 0 0 0 1 2 [] none, .shard 0 1 0 0 2 [] none,
      .newInput 0 "x" (some [.int 4]), .newNode 0 [some 2] [("c", none)], .newNode 0 [some 3] [("u", none)],
      .shard 2 3 0 0 2 [] none]).1
    let t : ITab := { callee := [(1, 1)], outs := [(1, [1]), (0, [4])] }
    DevOK w ∧ HeapReg w 0 ∧ GraphIds w ∧ (w.node 2).dev ≠ [] ∧
    (inlinePass 10 w 0 t).map (·.subst) = some [2, 5] ∧
    (inlinePass 10 w 0 t).map (fun r => ((r.w.model 0).nodes, (r.w.model 0).funcs, (r.w.node 3).inputs)) =
      some ([2, 3], [], [some 2]) ∧
    (inlinePass 10 w 0 t).map (fun r => ((r.w.node 3).dev, (r.w.node 2).inputs, (r.w.node 2).dev)) =
      some ([⟨0, [⟨2, [], [⟨1, .unk, 2⟩]⟩, ⟨5, [], [⟨0, .int 2, 2⟩]⟩], none⟩], [some 5], [⟨0, [], none⟩]) ∧
    (inlinePass 10 w 0 t).map (fun r => (check r.w 0, decide (DevOK r.w))) = some ([Err.axisRange], false) := by
  decide

/-! ### after InlinePass: the weak invariant is inductive

`C19_inline_pass` / `C19_inline_pass_axes` leave a world in which only `WeakOK` holds, and `C19_step` starts from
`DevOK`.  `WeakDev G` is the inductive form of `WeakOK`: `DevOK` without "one spec per value" and with the axis
clauses only for the specs whose target is outside the ghost predicate `G`; configurations are, as in `DevOK`,
registered per model (`ModelOK`), not on one distinguished model (`WeakOK w m S` says "every node of the heap refers
to configurations of model `m`", which `newModel` + `addCfg` + `shard`, or a clone of `m` - the copy gets configuration
objects of its own - do not preserve).  The ghost predicate never changes: `Ghost S N` = the substituted targets `S`
of the pass and every value id from `N` (the size of the value heap right after the pass) on; so nothing is ever
added to the set of old values whose specs may have bad axes, and the values created later (their copies by clone /
round trip in particular, whose axes are as good or bad as those of the originals) are not claimed. -/

/-- the ghost predicate: the substituted targets `S` and every value id from `N` on -/
def Ghost (S : List VId) (N : Nat) (v : VId) : Prop := v ∈ S ∨ N ≤ v

instance (S : List VId) (N : Nat) (v : VId) : Decidable (Ghost S N v) := by unfold Ghost; infer_instance

/-- one node under the weak invariant: `NodeOK` without "one spec per value", the axis clauses (`AxesOK`) only for
    the specs whose target is outside `G` -/
def NodeWeakOK (G : VId → Prop) (w : World) (nd : NodeS) : Prop :=
  NodeIds w nd ∧
  (nd.dev.map (·.cfg)).Nodup ∧
  ∀ nc ∈ nd.dev,
    nc.cfg < w.cfgs.length ∧
    (∀ st, nc.stage = some st → 0 ≤ st) ∧
    ∀ s ∈ nc.specs, InIO nd s.value ∧ (∀ d ∈ s.dims, 1 ≤ d.numShards) ∧
      (∀ d ∈ s.device, 0 ≤ d ∧ d < (w.cfg nc.cfg).numDevices) ∧ (¬ G s.value → AxesOK w s)

/-- **WeakDev**: every node of the heap `NodeWeakOK`, every model `ModelOK` (its nodes exist and refer only to
    configurations registered on it, by identity) -/
def WeakDev (G : VId → Prop) (w : World) : Prop :=
  (∀ nd ∈ w.nodes, NodeWeakOK G w nd) ∧ (∀ ms ∈ w.models, ModelOK w ms)

instance (G : VId → Prop) [DecidablePred G] (w : World) (nd : NodeS) : Decidable (NodeWeakOK G w nd) := by
  unfold NodeWeakOK
  have : ∀ o : Option Int, Decidable (∀ st, o = some st → 0 ≤ st) := by
    intro o
    cases o with
    | none => exact isTrue (by simp)
    | some x => exact decidable_of_iff (0 ≤ x) (by simp)
  infer_instance

instance (G : VId → Prop) [DecidablePred G] (w : World) : Decidable (WeakDev G w) := by unfold WeakDev; infer_instance

instance (S : List VId) (N : Nat) : DecidablePred (Ghost S N) := fun v => by unfold Ghost; infer_instance

/-- `WeakDev` is the predicate of the helper development (`Lemmas/DeviceWk.lean`) -/
theorem WeakDev_iff (G : VId → Prop) (w : World) : WeakDev G w ↔ Wk.DevOK G w := by
  constructor
  · intro h
    refine ⟨?_, h.2⟩
    intro nd hnd
    obtain ⟨a, b, c⟩ := h.1 nd hnd
    refine ⟨a, b, ?_⟩
    intro nc hnc
    obtain ⟨c1, c2, c3⟩ := c nc hnc
    refine ⟨c1, c2, trivial, ?_⟩
    intro s hs
    obtain ⟨d1, d2, d3, d4⟩ := c3 s hs
    exact ⟨d1, fun g => (d4 g).1, fun g => (d4 g).2, d2, d3⟩
  · intro h
    refine ⟨?_, h.2⟩
    intro nd hnd
    obtain ⟨a, b, c⟩ := h.1 nd hnd
    refine ⟨a, b, ?_⟩
    intro nc hnc
    obtain ⟨c1, c2, _, c3⟩ := c nc hnc
    refine ⟨c1, c2, ?_⟩
    intro s hs
    obtain ⟨d1, e1, e2, d2, d3⟩ := c3 s hs
    exact ⟨d1, d2, d3, fun g => ⟨e1 g, e2 g⟩⟩

/-- `DevOK` implies `WeakDev`, whatever the ghost predicate -/
theorem WeakDev_of_DevOK (G : VId → Prop) (w : World) (h : DevOK w) : WeakDev G w := by
  rw [WeakDev_iff]
  exact ⟨fun nd hnd => Wk.NodeOK_of_strong (h.1 nd hnd), h.2⟩

/-- **C19_step_weak**: the step theorem that starts from the weak invariant.  Every operation of the alphabet of
    `C19_step`, under the same in-alphabet condition `Pre`, preserves `WeakDev (Ghost S N)` - for a fixed ghost
    predicate: nothing is added to `S`, and `N` is any bound not above the current size of the value heap (the
    operations that create copies - clone, round trip, `Function.clone`, `Graph.clone` - copy specs onto values that
    do not exist yet, hence onto ghost values) - and does not shrink the value heap, so the bound stays below it.
    In particular after the operation every spec still targets a current input or output of its node (a spec whose
    target leaves a node is dropped, `C19_drop`), every record refers to a configuration registered on each model
    that lists the node, and a spec on a non-ghost value still has its axes in range and not repeated. -/
theorem C19_step_weak (S : List VId) (N : Nat) (w : World) (op : Op) (hN : N ≤ w.values.length)
    (h : WeakDev (Ghost S N) w) (hpre : Pre w op) :
    WeakDev (Ghost S N) (step w op).1 ∧ N ≤ (step w op).1.values.length := by
  haveI : Wk.Fresh (Ghost S N) w.values.length := ⟨fun v hv => Or.inr (Nat.le_trans hN hv)⟩
  rw [step_eq_stepD]
  have h' := (WeakDev_iff _ _).1 h
  exact ⟨(WeakDev_iff _ _).2 (Wk.stepD_ok w op h' hpre), Nat.le_trans hN (Wk.stepD_vlen w op h' hpre)⟩

/-- histories from a world satisfying the weak invariant -/
theorem run_weak (S : List VId) (N : Nat) (ops : List Op) : ∀ (w : World), N ≤ w.values.length →
    WeakDev (Ghost S N) w → PreAll w ops →
    WeakDev (Ghost S N) (run w ops).1 ∧ N ≤ (run w ops).1.values.length := by
  induction ops with
  | nil => intro w hN h _; exact ⟨h, hN⟩
  | cons op rest ih =>
    intro w hN h hp
    obtain ⟨h1, h2⟩ := C19_step_weak S N w op hN h hp.1
    exact ih (step w op).1 h2 h1 hp.2

/-- **C19_weak_checker**: what the weak invariant says about every model `m` of the world (whatever the ghost
    predicate): every node listed on `m` satisfies `NodeWeak` relative to the registrations of `m` - one record per
    configuration, every record refers to a configuration registered on `m` (by identity), stages non-negative,
    **every spec targets a current input or output of its node**, at least one shard per axis, device indices inside
    the configuration -; a spec on a non-ghost value passes the checker's axis loop; and the model of the library's
    checker reports at most: a sharded value with an empty name, an axis out of range, an axis repeated - never a
    spec outside its node, an undeclared / foreign configuration, `num_shards < 1` or a device index out of range. -/
theorem C19_weak_checker (G : VId → Prop) (w : World) (h : WeakDev G w) (m : MId) :
    (∀ n ∈ (w.model m).nodes, NodeWeak (w.model m).cfgs w.cfgs (w.node n)) ∧
    (∀ n, ∀ nc ∈ (w.node n).dev, ∀ s ∈ nc.specs, ¬ G s.value →
      AxesOK w s ∧ checkDims (rankOf (w.value s.value)) [] s.dims = []) ∧
    (∀ e ∈ check w m, e = Err.valEmptyName ∨ e = Err.axisRange ∨ e = Err.axisRepeat) := by
  have hmo : ModelOK w (w.model m) := ((WeakDev_iff G w).1 h).model m
  have hnode : ∀ n, NodeWeakOK G w (w.node n) := by
    intro n
    rcases node_mem_or_default w n with h1 | h1
    · exact h.1 _ h1
    · rw [h1]; exact ⟨⟨by simp, by simp⟩, by simp, by simp⟩
  have hweak : ∀ n ∈ (w.model m).nodes, NodeWeak (w.model m).cfgs w.cfgs (w.node n) := by
    intro n hn
    obtain ⟨_, b, c⟩ := hnode n
    refine ⟨b, ?_⟩
    intro nc hnc
    obtain ⟨_, c2, c3⟩ := c nc hnc
    refine ⟨((hmo.1 n hn).2 nc hnc), c2, ?_⟩
    intro s hs
    obtain ⟨d1, d2, d3, _⟩ := c3 s hs
    exact ⟨d1, d2, d3⟩
  refine ⟨hweak, ?_, ?_⟩
  · intro n nc hnc s hs hg
    obtain ⟨_, _, c⟩ := hnode n
    obtain ⟨_, d2, _, d4⟩ := (c nc hnc).2.2 s hs
    exact ⟨d4 hg, checkDims_nil _ _ [] (d4 hg).1 (d4 hg).2 d2 (by simp)⟩
  · exact check_weak hweak hmo.2.1 hmo.2.2

/-- **C19_history_weak**: `InlinePass` and then ANY in-alphabet history.  From a world satisfying `DevOK` in which
    every node of the heap is annotated with configurations of model `m` only (`HeapReg`), these configurations are
    registered on every model of the world (`RegShared`; trivially so in a world with one model; without it the pass
    itself breaks "registered on its model": the nodes created for a call are listed on every model that owns the
    graph) and the graph inputs / initializers exist (`GraphIds`): whenever the pass does not raise, the world it
    leaves satisfies the weak invariant with the ghost predicate "substituted by the pass (`r.subst`), or created
    after the pass", and so does the world reached by every history `ops` of operations of the alphabet of
    `C19_step` (annotate - valid or rejected -, edit, rename, detach, cascade removal, clone, round trip, ...) under
    the same in-alphabet condition (`PreAll`).  With `C19_weak_checker`: after inline + arbitrary further edits every
    annotation of every model still targets a current input or output of its node and a configuration registered on
    that model, and every spec whose target existed after the pass and was not substituted by it still has its axes
    in range and not repeated. -/
theorem C19_history_weak (w : World) (h : DevOK w) (m : MId) (hreg : HeapReg w m) (hsh : RegShared w m)
    (hg : GraphIds w) (t : ITab) (fuel : Nat) (r : IOut) (hr : inlinePass fuel w m t = some r)
    (ops : List Op) (hpre : PreAll r.w ops) :
    WeakDev (Ghost r.subst r.w.values.length) r.w ∧
    WeakDev (Ghost r.subst r.w.values.length) (run r.w ops).1 ∧
    r.w.values.length ≤ (run r.w ops).1.values.length := by
  have ha := inlinePass_AInv hr h hreg hg
  have hm := inlinePass_models h m hreg hsh t fuel r hr
  -- the invariant of the pass is the weak invariant of the operations, with fewer ghosts
  have h0 : WeakDev (Ghost r.subst r.w.values.length) r.w :=
    (WeakDev_iff _ _).2 (Wk.DevOK_iff.2
      ⟨fun nd hnd => (ha.nodes nd hnd).1.mono (fun _ g => g.elim False.elim Or.inl), hm⟩)
  obtain ⟨h1, h2⟩ := run_weak r.subst r.w.values.length ops r.w (Nat.le_refl _) h0 hpre
  exact ⟨h0, h1, h2⟩

/-- non-vacuity: the world of the `InlinePass` example above (after the pass `DevOK` is lost: the substituted
    argument `x` is sharded along an axis it does not have); then annotate the inlined node again (on the substituted
    value), rename, clone the model, round-trip it, detach an input, set a stage.  The hypotheses hold, every operation
    succeeds, the weak invariant holds after the history, `DevOK` does not, and the checker of every model (the
    original, the clone, the reload) reports nothing but `axisRange`. -/
example :
    let w := (run {} [.newModel 11, .addCfg 0 "c" (some 2) [], .newFunction 0, .newInput 1 "fx" none,
      .newNode 1 [some 0] [("fo", some [.int 2])], .shard 0 0 0 1 2 [] none, .shard 0 1 0 0 2 [] none,
      .newInput 0 "x" (some [.int 4]), .newNode 0 [some 2] [("c", none)], .newNode 0 [some 3] [("u", none)],
      .shard 2 3 0 0 2 [] none]).1
    let t : ITab := { callee := [(1, 1)], outs := [(1, [1]), (0, [4])] }
    let ops : List Op := [.shard 3 2 0 0 2 [1] (some 1), .rename 2 "x2", .clone 0, .roundTrip 0,
      .replaceInput 2 0 none, .setStage 3 0 1]
    DevOK w ∧ HeapReg w 0 ∧ RegShared w 0 ∧ GraphIds w ∧
    (inlinePass 10 w 0 t).map (fun r => decide (PreAll r.w ops ∧ (run r.w ops).2.all (· = .ok) ∧
      ¬ DevOK r.w ∧ ¬ DevOK (run r.w ops).1 ∧ (run r.w ops).1.models.length = 3 ∧
      WeakDev (Ghost r.subst r.w.values.length) (run r.w ops).1 ∧
      [0, 1, 2].map (check (run r.w ops).1) = [[Err.axisRange], [Err.axisRange], [Err.axisRange]])) = some true := by
  decide

/-- the hypothesis `RegShared` is needed: a second model that shares the main graph (and lists the call node) but
    does not register the configuration: after the pass it lists the inlined node, which refers to a configuration
    it does not declare -/
example :
    let w : World := {
      values := [{ name := "a" }, { name := "b" }, { name := "x" }, { name := "y" }],
      cfgs := [{ name := "c", numDevices := 1 }],
      nodes := [{ inputs := [some 0], outputs := [1] },
                { inputs := [some 2], outputs := [3], dev := [{ cfg := 0, specs := [], stage := none }] }],
      graphs := [{ inputs := [0], nodes := [0] }, { inputs := [2], nodes := [1] }],
      models := [{ graph := 0, graphs := [0, 1], nodes := [0, 1], cfgs := [0], funcs := [1] },
                 { graph := 0, graphs := [0], nodes := [0], cfgs := [] }] }
    let t : ITab := { callee := [(0, 1)], outs := [(1, [3]), (0, [1])] }
    DevOK w ∧ HeapReg w 0 ∧ GraphIds w ∧ ¬ RegShared w 0 ∧
    (inlinePass 5 w 0 t).map (fun r => decide (WeakDev (Ghost r.subst r.w.values.length) r.w)) = some false := by
  decide

end IrVerif.Device
