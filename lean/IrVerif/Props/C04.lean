/-
C04 — all tensor representations agree on values and bytes: the property theorems, by model:
`Model/Pack.lean` and `Model/TensorRepr.lean` (packing, element-type tables, the representations,
destination files, serialize), `Model/ExtLife.lean` (`C04_ext_*`: one `ExternalTensor` over call
histories), `Model/Strided.lean` (`C04_strided_*`), `Model/StrTensor.lean` (`C04_string_*`),
`Model/PyTensor.lean` (`C04_pytensor_*`, `C04_ctor_accepts`: `ir.tensor` on Python data).
The specification predicates are defined beside their lemmas: `Legal`, `Agrees`, `WF`, `memOf`,
`splitParts`, `fileOf` in `Lemmas/TensorReprSpec.lean`, `clearPad` in `Lemmas/Pack.lean`, `indices` /
`unravel` in `Lemmas/RowMajor.lean`, `addr` / `itemAt` / `valueAt` in `Lemmas/Strided.lean`, the
format parameters `F8.mbits` / `qmin` / `maxFinite` / `zeroOf` in `Lemmas/F8Round.lean`; `Tables` and
`SLegal` (and the witnesses `wExt`, `wT`) in this file.  Core Lean only.
-/
import IrVerif.Lemmas.Pack
import IrVerif.Lemmas.TensorReprAgree
import IrVerif.Lemmas.ExtLife
import IrVerif.Lemmas.Strided
import IrVerif.Lemmas.StridedBounds
import IrVerif.Lemmas.PyTensor
import IrVerif.Lemmas.F8Round
import IrVerif.Model.StrTensor

namespace IrVerif.Pack

/-- **C04_unpack_pack4**: unpacking what was packed returns every element masked to 4 bits,
    for every length (odd lengths exercise the padding rule). -/
theorem C04_unpack_pack4 (xs : List Nat) : unpack4 (pack4 xs) xs.length = xs.map (· % 16) :=
  unpack4_pack4_mod xs

/-- **C04_unpack_pack2**: the same for 2-bit elements (lengths that are not multiples of 4
    exercise the padding rule). -/
theorem C04_unpack_pack2 (xs : List Nat) : unpack2 (pack2 xs) xs.length = xs.map (· % 4) :=
  unpack2_pack2_mod xs

theorem C04_pack4_len (xs : List Nat) : (pack4 xs).length = nbytes xs.length 4 := pack4_length xs

theorem C04_pack2_len (xs : List Nat) : (pack2 xs).length = nbytes xs.length 2 := pack2_length xs

/-- **C04_pack_unpack4**: packing what was unpacked from a buffer of exactly `nbytes n 4` bytes
    returns the buffer with the padding bits cleared (so a buffer with zero padding round-trips
    exactly). -/
theorem C04_pack_unpack4 (bs : List Nat) (n : Nat) (hb : ∀ b ∈ bs, b < 256)
    (hn : bs.length = nbytes n 4) : pack4 (unpack4 bs n) = clearPad 4 n bs :=
  pack4_unpack4 bs n hb hn

/-- **C04_pack_unpack2** -/
theorem C04_pack_unpack2 (bs : List Nat) (n : Nat) (hb : ∀ b ∈ bs, b < 256)
    (hn : bs.length = nbytes n 2) : pack2 (unpack2 bs n) = clearPad 2 n bs :=
  pack2_unpack2 bs n hb hn

/-- **C04_le_roundtrip**: little-endian item bytes decode back to the bit pattern. -/
theorem C04_le_roundtrip (w x : Nat) (h : x < 256 ^ w) : ofLeBytes (leBytes w x) = x :=
  ofLeBytes_leBytes w x h

/-- **C04_nbytes**: the canonical byte form has exactly `nbytes = ceil(size * bitwidth / 8)` bytes
    for the packed widths and for every whole-byte width. -/
theorem C04_nbytes (bw : Nat) (xs : List Nat) (h : bw = 2 ∨ bw = 4 ∨ bw % 8 = 0) :
    (tobytes bw xs).length = nbytes xs.length bw :=
  tobytes_length bw xs h

/-- **C04_pack_bitstream**: the canonical byte form IS the specified layout.  Read as one
    little-endian bit stream (bit 0 of byte 0 first), the bytes `tobytes bw xs` consist of the
    elements' `bw` low bits in element order, the FIRST element in the LOWEST bits, followed by
    zero bits up to `8 * nbytes`; for the 4- and 2-bit packings and for every whole-byte width
    (little-endian items), for all lengths.  `elemStream` / `natBits` do not mention `pack4`,
    `pack2` or `leBytes`: swapping the nibble order in the packer (even consistently with the
    unpacker) falsifies this theorem. -/
theorem C04_pack_bitstream (bw : Nat) (xs : List Nat) (h : bw = 2 ∨ bw = 4 ∨ bw % 8 = 0) :
    bitStream (tobytes bw xs) = elemStream bw xs (nbytes xs.length bw) :=
  bitStream_tobytes bw xs h

-- the specification is concrete: element 0 sits in the low bits
example : bitStream (pack4 [1, 2, 3]) =
    [true, false, false, false,  false, true, false, false,  true, true, false, false,  false, false, false, false] := by
  decide
example : bitStream (pack2 [1, 2]) = [true, false, false, true, false, false, false, false] := by decide
example : bitStream (leBytes 2 0x0102) = natBits 16 0x0102 := by decide

-- non-vacuity: odd lengths, out-of-range elements, non-zero padding bits
example : unpack4 (pack4 [1, 2, 31]) 3 = [1, 2, 15] := by decide
example : unpack2 (pack2 [0, 1, 2, 3, 5]) 5 = [0, 1, 2, 3, 1] := by decide
example : pack4 (unpack4 [0x21, 0xF3] 3) = [0x21, 0x03] := by decide
example : pack2 (unpack2 [0xE4, 0xFD] 5) = [0xE4, 0x01] := by decide
-- defect D20 (2-bit data unpacked with the 4-bit routine) is not the 2-bit decoding
example : unpack4 [0xE4, 0x01] 5 ≠ unpack2 [0xE4, 0x01] 5 := by decide

end IrVerif.Pack

namespace IrVerif.TensorRepr
open IrVerif.Pack

/-- what `C04_tables` states about the element-type tables of `_enums` -/
structure Tables : Prop where
  /-- 27 members with the codes 0..26 -/
  count : DType.all.length = 27
  code_inv : ∀ d : DType, DType.ofCode d.code = some d
  code_inv' : ∀ n, n < 27 → (DType.ofCode n).map DType.code = some n
  code_range : ∀ n, 27 ≤ n → DType.ofCode n = none
  /-- bit widths exist for every member except UNDEFINED and STRING -/
  bitwidth_total : ∀ d : DType, d.bitwidth = none ↔ (d = .undefined ∨ d = .string)
  /-- short names: total, and `from_short_name` / `short_name` are mutually inverse -/
  short_total : ∀ d : DType, (d.shortName.bind DType.ofShortName) = some d
  short_inv : ∀ (s : String) (d : DType), DType.ofShortName s = some d → d.shortName = some s
  /-- numpy types: total except UNDEFINED, `from_numpy` / `numpy()` mutually inverse -/
  np_total : ∀ d : DType, d ≠ .undefined → (d.npName.bind DType.ofNpName) = some d
  np_undefined : DType.undefined.npName = none
  np_inv : ∀ (s : String) (d : DType), DType.ofNpName s = some d → d.npName = some s
  /-- `itemsize * 8 = bitwidth` against the numpy item size: whole-byte types occupy bitwidth/8
      bytes, 2- and 4-bit types one byte per element -/
  itemsize : ∀ (d : DType) (bw : Nat), d.bitwidth = some bw →
    (8 ≤ bw → 8 * npItemBytes d = bw) ∧ (bw < 8 → npItemBytes d = 1)
  /-- the literal type sets used by the byte builders coincide with the bit-width table -/
  sets : ∀ (d : DType) (bw : Nat), d.bitwidth = some bw →
    (d.bytePack4 = true ↔ bw = 4) ∧ (d.bytePack2 = true ↔ bw = 2) ∧
    (d.extSubByte = true ↔ (bw = 4 ∨ bw = 2)) ∧
    (d.int32Legal = true → bw ≤ 32 ∧ (d.int32Bytes16 = true ↔ bw = 16) ∧
      (d.int32Bytes8 = true ↔ (bw = 8 ∨ bw = 4 ∨ bw = 2)) ∧ (d = .int32 ↔ bw = 32))
  /-- integer and floating-point classifications are disjoint and have a bit width -/
  classes : ∀ d : DType, ¬ (d.isInteger = true ∧ d.isFloatingPoint = true) ∧
    ((d.isInteger = true ∨ d.isFloatingPoint = true) → d.bitwidth.isSome = true)

/-- **C04_tables**: the element-type tables are total where claimed, mutually inverse, and
    consistent with each other (finite: by evaluation of the literals, which the check compares
    with the real `_enums` tables on every run). -/
theorem C04_tables : Tables where
  count := by decide
  code_inv := ofCode_code
  code_inv' := by decide +kernel
  code_range := by
    intro n hn
    simp only [DType.ofCode]
    exact List.getElem?_eq_none (by simpa [DType.all] using hn)
  bitwidth_total := DType.forall_of_all (by decide +kernel)
  short_total := by
    intro d
    obtain ⟨s, hs⟩ := Option.isSome_iff_exists.mp (DType.named d).1
    rw [hs]; exact (shortName_iff d s).mp hs
  short_inv := fun s d h => (shortName_iff d s).mpr h
  np_total := by
    intro d h
    obtain ⟨s, hs⟩ := Option.isSome_iff_exists.mp ((DType.named d).2 h)
    rw [hs]; exact (ofNpName_iff s d).mpr hs
  np_undefined := by decide
  np_inv := fun s d h => (ofNpName_iff s d).mp h
  itemsize := by
    intro d bw h
    have F := facts d bw h
    rw [F.item]
    rcases F.range with rfl | rfl | rfl | rfl | rfl | rfl | rfl <;> decide
  sets := by
    intro d bw h
    have F := facts d bw h
    exact ⟨F.pack4, F.pack2, F.sub, F.i32⟩
  classes := DType.forall_of_all (by decide +kernel)

/-- **C04_field_agree**: every legal representation of a logical tensor (element type `d` of `bw`
    bits, shape `dims`, element bit patterns `xs`) — array-backed with any storage form (also
    given as memory in either byte order behind an array-compatible object), torch adapter (also
    over a contiguous view at any storage offset of a larger storage), packed, proto-backed
    through `raw_data`, `int32_data` (any congruent int32 values, at 32/16/8 bits and packed at
    4/2 bits), `int64_data`, `uint64_data` (also for UINT32), `float_data` / `double_data` (also as
    complex pairs), external at any offset inside any file, and a lazy wrapper around any of
    these — reports `d` and `dims`, has `nbytes = ceil(size * bw / 8)`, decodes (`numpy()`, bits
    masked to the width) to exactly `xs`, and returns exactly the canonical little-endian packed
    bytes from `tobytes()` and `tofile()`. -/
theorem C04_field_agree {d : DType} {dims : List Nat} {bw : Nat} {xs : List Nat}
    (wf : WF d dims bw xs) {r : Rep} (h : Legal d dims bw xs r) : Agrees d dims bw xs r :=
  legal_agrees wf h

/-- **C04_all_agree**: any two legal representations of the same logical tensor are
    observationally equal. -/
theorem C04_all_agree {d : DType} {dims : List Nat} {bw : Nat} {xs : List Nat}
    (wf : WF d dims bw xs) {r₁ r₂ : Rep} (h₁ : Legal d dims bw xs r₁) (h₂ : Legal d dims bw xs r₂) :
    r₁.dtype = r₂.dtype ∧ r₁.shape = r₂.shape ∧ r₁.nbytes = r₂.nbytes ∧
    r₁.tobytes = r₂.tobytes ∧ r₁.tofile = r₂.tofile ∧
    (∃ u₁ u₂, r₁.numpy = .ok u₁ ∧ r₂.numpy = .ok u₂ ∧ obsBits bw u₁ = obsBits bw u₂) := by
  have A := legal_agrees wf h₁
  have B := legal_agrees wf h₂
  obtain ⟨u₁, hu₁, e₁⟩ := A.numpy
  obtain ⟨u₂, hu₂, e₂⟩ := B.numpy
  exact ⟨A.dtype.trans B.dtype.symm, A.shape.trans B.shape.symm, A.nbytes.trans B.nbytes.symm,
    A.tobytes.trans B.tobytes.symm, A.tofile.trans B.tofile.symm,
    u₁, u₂, hu₁, hu₂, e₁.trans e₂.symm⟩

/-- **C04_bytes_len**: the bytes every legal representation returns have length `nbytes`. -/
theorem C04_bytes_len {d : DType} {dims : List Nat} {bw : Nat} {xs : List Nat}
    (wf : WF d dims bw xs) : (packLE bw xs).length = nbytes (prod dims) bw :=
  wf.packLE_length

/-- **C04_tofile_at**: a non-empty write at position `p` (the end in append mode) keeps every
    byte before `p` (zero-filling a gap past the old end), puts exactly the data at `[p, p+len)`,
    keeps every byte from `p+len` on, and leaves the position at `p+len`; an empty write changes
    nothing. -/
theorem C04_tofile_at (f : Dest) (data : List Nat) :
    (data = [] → f.write data = f) ∧
    (data ≠ [] →
      (f.write data).pos = (if f.append then f.img.length else f.pos) + data.length ∧
      (f.write data).img.take (if f.append then f.img.length else f.pos)
        = f.img.take (if f.append then f.img.length else f.pos)
          ++ List.replicate ((if f.append then f.img.length else f.pos) - f.img.length) 0 ∧
      ((f.write data).img.drop (if f.append then f.img.length else f.pos)).take data.length = data ∧
      (f.write data).img.drop ((if f.append then f.img.length else f.pos) + data.length)
        = f.img.drop ((if f.append then f.img.length else f.pos) + data.length)) :=
  ⟨fun h => by subst h; exact write_nil f, write_spec f data⟩

/-- **C04_tofile_paths**: the three ways `tofile` delivers bytes to a destination perform the
    same write (fourth conjunct: two writes compose, what the chunk loop rests on).  They are
    `ndarray.tofile(file)` (write through a duplicated descriptor at `file.tell()`,
    then seek the file object behind the data), the `copy_file_range` path of `ExternalTensor.tofile`
    (any number of kernel rounds copying any amounts at `destination_offset + copied` without
    moving the position, `file.seek(destination_offset + copied)`, then the rest through the chunk
    loop; nothing kernel-copied in append mode) and a chunk loop with any chunk size; all leave
    exactly the image and the position of a single `file.write(data)` — at any position, past the
    end of the file, and in append mode. -/
theorem C04_tofile_paths (f : Dest) (data : List Nat) :
    f.ndTofile data = f.write data ∧
    (∀ rounds : List Nat, f.copyRange data rounds = f.write data) ∧
    (∀ size : Nat, 0 < size → f.writeAll (chunk size data) = f.write data) ∧
    (∀ a b : List Nat, (f.write a).write b = f.write (a ++ b)) :=
  ⟨ndTofile_eq_write f data, copyRange_eq_write f data,
   fun size h => by rw [writeAll_eq, chunk_flatten size h], write_write f⟩

/-- **C04_tofile_repr**: `tofile` of any legal representation into any destination (regular
    file or buffer, any position, append mode), through whichever mechanism the representation
    uses for that kind of destination, performs exactly the write of the canonical bytes and does
    not raise. -/
theorem C04_tofile_repr {d : DType} {dims : List Nat} {bw : Nat} {xs : List Nat}
    (wf : WF d dims bw xs) {r : Rep} (h : Legal d dims bw xs r) (f : Dest) :
    r.tofileAt f = .ok (f.write (packLE bw xs), false) := by
  simp [Rep.tofileAt, (legal_agrees wf h).tofile, deliver_eq_write]

/-- **C04_serialize_roundtrip**: serializing any legal representation and deserializing the
    proto (with the same data file for an external tensor) yields a legal representation of the
    same logical tensor (so, by `C04_field_agree`, the same values and bytes). -/
theorem C04_serialize_roundtrip {d : DType} {dims : List Nat} {bw : Nat} {xs : List Nat}
    (wf : WF d dims bw xs) {r : Rep} (h : Legal d dims bw xs r) :
    ∃ p r', serialize r = .ok p ∧ deserialize p (fileOf r) = .ok r' ∧ Legal d dims bw xs r' :=
  serialize_roundtrip wf h

/-! non-vacuity: the hypotheses are satisfiable by concrete tensors of every kind -/

example : WF .int4 [3] 4 [15, 7, 8] := ⟨by decide, by decide, by decide⟩
example : WF .uint2 [5] 2 [0, 1, 2, 3, 1] := ⟨by decide, by decide, by decide⟩
example : WF .float [] 32 [0x7FC00000] := ⟨by decide, by decide, by decide⟩
example : WF .double [0] 64 [] := ⟨by decide, by decide, by decide⟩
-- odd-length 4-bit data in int32_data, one byte stored as a negative int32
example : Legal .int4 [3] 4 [15, 7, 8] (.proto { dataType := 22, dims := [3], int32Data := [127, -248] }) :=
  Legal.protoInt32 [127, -248] (by decide) (by decide)
-- a sign-extended int8 storage byte for a 4-bit element
example : Legal .int4 [3] 4 [15, 7, 8] (.array .int4 [3] [0xFF, 7, 0xF8]) :=
  Legal.array [0xFF, 7, 0xF8] (by decide) (by decide)
-- 2-bit data at the end of a file, behind one unrelated byte, offset given, length omitted
example : Legal .uint2 [5] 2 [0, 1, 2, 3, 1]
    (.external { dtype := .uint2, dims := [5], offset := some 1, length := none } (some ([7] ++ packLE 2 [0, 1, 2, 3, 1] ++ []))) :=
  Legal.external _ [7] [] rfl rfl rfl (by intro l h; cases h)
example : Legal .uint2 [5] 2 [0, 1, 2, 3, 1] (.lazy .uint2 [5] (.packed { dtype := .uint2, dims := [5], raw := packLE 2 [0, 1, 2, 3, 1] })) :=
  Legal.lazy _ (Legal.packed (Or.inl rfl))
example : Legal .complex64 [1] 64 [0x3F80000040000000]
    (.proto { dataType := 14, dims := [1], floatData := splitParts 32 [0x3F80000040000000] }) :=
  Legal.protoComplex64 rfl
example : Legal .uint32 [2] 32 [1, 0xFFFFFFFF] (.proto { dataType := 12, dims := [2], uint64Data := [0x100000001, 0xFFFFFFFF] }) :=
  Legal.protoUint64as32 _ rfl (by decide)
example : Legal .uint2 [5] 2 [0, 1, 2, 3, 1] (.torch .uint2 [5] [0, 1, 2, 3, 1]) :=
  Legal.torch _ (by decide) (by decide) (by decide)
-- a torch view at storage offset 2 of a 7-element storage
example : Legal .uint8 [3] 8 [5, 6, 7] (.torch .uint8 [3] (torchView ([1, 2] ++ [5, 6, 7] ++ [9, 9]) 2 3)) :=
  Legal.torchView [1, 2] [5, 6, 7] [9, 9] (by decide) (by decide) (by decide)
-- big-endian memory: a real ndarray is rejected, any other array-compatible holder is legal and is
-- serialised little-endian (never in memory order)
example : Legal .float [1] 32 [0x3F800000] (.arrayMem .float [1] (memOf (32 / 8) true [0x3F800000]) true false) :=
  Legal.arrayMem true false rfl (by decide) (by decide)
example : memOf 4 true [0x3F800000] = [0x3F, 0x80, 0x00, 0x00] := by decide
example : (Rep.arrayMem .float [1] (memOf (32 / 8) true [0x3F800000]) true false).tobytes
    = .ok (packLE 32 [0x3F800000]) :=
  (C04_field_agree ⟨by decide, by decide, by decide⟩ (Legal.arrayMem true false rfl (by decide) (by decide))).tobytes
example : packLE 32 [0x3F800000] = [0x00, 0x00, 0x80, 0x3F] := by decide
example : (Rep.arrayMem .float [1] [0x3F, 0x80, 0x00, 0x00] true true).tobytes = .error "TypeError" := rfl
example : (Rep.array .float [1] [0x3F800000]).tobytes = .ok [0x00, 0x00, 0x80, 0x3F] := rfl
-- the kernel-copy path with a short first round, in the middle of a file
example : (copyRounds { img := [1, 2, 3, 4, 5, 6], pos := 2, regular := true } 2 [7, 8, 9] [2, 0] 0).1.img
    = [1, 2, 7, 8, 5, 6] := by decide
example : (copyRounds { img := [1, 2, 3, 4, 5, 6], pos := 2, regular := true } 2 [7, 8, 9] [2, 0] 0).2 = 2 := by
  decide
-- and the conclusions are not trivially true: the model answers concrete bytes
example : (Rep.proto { dataType := 22, dims := [3], int32Data := [127, -248] }).numpy = .ok [15, 7, 8] := rfl
example : (Rep.external { dtype := .uint2, dims := [5], offset := some 1, length := none } (some [7, 0xE4, 0x01])).numpy
    = .ok [0, 1, 2, 3, 1] := rfl
example : (Dest.write { img := [1, 2, 3], pos := 5 } [9, 8]).img = [1, 2, 3, 0, 0, 9, 8] := by decide
example : (Dest.write { img := [1, 2, 3], pos := 1, append := true } [9]).img = [1, 2, 3, 9] := by decide

end IrVerif.TensorRepr

/-! ## Call histories of one `ExternalTensor` object (`Model/ExtLife.lean`)

The object keeps a mapping and an array between calls.  The theorems below quantify over ALL call
histories (reads through `numpy()`, `__array__`, `tobytes()`, `tofile()` with or without keeping
the returned array alive, `release()`, `invalidate()`, `base_dir` re-assignment, and the environment
creating, atomically replacing or removing the data file in any directory) from the constructor.
`fresh e en file` is what a newly constructed tensor answers through entry point `en` for the file
content `file`; `C04_field_agree` says what that is for a legal file. -/

namespace IrVerif.ExtLife
open IrVerif.Pack IrVerif.TensorRepr

/-- **C04_ext_history_read** (unconditional): after ANY history, a read either raises `ValueError`
    (the object was invalidated) or answers exactly what a FRESH object answers -- `tofile()` on
    the file the path currently names, the mapping-based entry points (`numpy()`, `__array__`,
    `tobytes()`) on the file they have seen: the mapped file while a complete load is held,
    otherwise the file the path currently names.  In particular `numpy()`, `__array__` and
    `tobytes()` always answer from the SAME file content, and a failed load (file missing, empty or
    too short) leaves nothing behind that a later read would answer from. -/
theorem C04_ext_history_read (e : Ext) (fs : FS) (d : Nat) (ops : List Op) (en : Entry) (hold : Bool) :
    (step e (run e (init fs d) ops).1 (.read en hold)).2 =
      if (run e (init fs d) ops).1.st.valid = true then
        fresh e en (if en = .tofile then cur (run e (init fs d) ops).1 else seen (run e (init fs d) ops).1)
      else .raised "ValueError" :=
  read_any (inv_reach e fs d ops) en hold

/-- **C04_ext_history_agree**: in a coherent state (no complete load is held, or the mapped file is
    still the file the path names) every entry point of a valid object answers what a fresh object
    answers for the file CURRENTLY named by `(base_dir, location)` -- the same file through every
    entry point.  `coherent` is decidable; the check evaluates it after every call of every
    generated history and publishes the share. -/
theorem C04_ext_history_agree (e : Ext) (fs : FS) (d : Nat) (ops : List Op)
    (hc : coherent (run e (init fs d) ops).1 = true)
    (hv : (run e (init fs d) ops).1.st.valid = true) (en : Entry) (hold : Bool) :
    (step e (run e (init fs d) ops).1 (.read en hold)).2 = fresh e en (cur (run e (init fs d) ops).1) := by
  rw [C04_ext_history_read, if_pos hv, seen_of_coherent hc]
  split <;> rfl

/-- **C04_ext_quiet_coherent**: coherence can only be lost by the environment: a history in which
    the named file is never replaced or removed WHILE the object holds a complete load of it
    (`quiet`, decidable on the history) ends in a coherent state -- whatever reads, failed loads,
    releases (also failing ones), invalidations, `base_dir` re-assignments and file replacements at
    other times or in other directories it contains. -/
theorem C04_ext_quiet_coherent (e : Ext) (fs : FS) (d : Nat) (ops : List Op)
    (hq : quiet e (init fs d) ops = true) : coherent (run e (init fs d) ops).1 = true :=
  coherent_run ops (inv_init e fs d) rfl hq

/-- **C04_ext_invalidated**: once `invalidate()` was called, every read raises `ValueError`, after
    any further history. -/
theorem C04_ext_invalidated (e : Ext) (fs : FS) (d : Nat) (before after : List Op) (en : Entry)
    (hold : Bool) :
    (step e (run e (init fs d) (before ++ Op.invalidate :: after)).1 (.read en hold)).2
      = .raised "ValueError" := by
  apply read_obs_invalid
  rw [run_append]
  simp only [run]
  exact run_valid_false after rfl

/-- **C04_ext_release_fresh**: after `release()` -- also one that raised `BufferError` because the
    caller still holds an exported array -- every read of a valid object answers what a fresh
    object answers for the file currently named (unconditionally: `release()` is what restores
    coherence). -/
theorem C04_ext_release_fresh (e : Ext) (fs : FS) (d : Nat) (ops : List Op) (en : Entry) (hold : Bool)
    (hv : (run e (init fs d) ops).1.st.valid = true) :
    (step e (step e (run e (init fs d) ops).1 .release).1 (.read en hold)).2
      = fresh e en (cur (run e (init fs d) ops).1) :=
  read_after_release (inv_reach e fs d ops) hv en hold

/-- **C04_ext_release_neutral**: in a coherent state `release()` never changes what the next read
    returns, through any entry point, valid or not. -/
theorem C04_ext_release_neutral (e : Ext) (fs : FS) (d : Nat) (ops : List Op) (en : Entry) (hold : Bool)
    (hc : coherent (run e (init fs d) ops).1 = true) :
    (step e (step e (run e (init fs d) ops).1 .release).1 (.read en hold)).2
      = (step e (run e (init fs d) ops).1 (.read en hold)).2 := by
  by_cases hv : (run e (init fs d) ops).1.st.valid = true
  · rw [C04_ext_release_fresh e fs d ops en hold hv, C04_ext_history_agree e fs d ops hc hv]
  · have hv' : (run e (init fs d) ops).1.st.valid = false := by simpa using hv
    rw [read_obs_invalid e _ hv', read_obs_invalid e _ (step_valid_false hv' .release)]

/-- **C04_ext_basedir**: assigning a DIFFERENT `base_dir` either succeeds, and then every read
    answers what a fresh object answers for the file in the NEW directory, or raises `BufferError`
    (an exported array is still held), and then `base_dir` is unchanged and every read answers what
    a fresh object answers for the file currently in the OLD directory; never anything read under
    the other directory. -/
theorem C04_ext_basedir (e : Ext) (fs : FS) (d : Nat) (ops : List Op) (d' : Nat)
    (hne : d' ≠ (run e (init fs d) ops).1.st.baseDir)
    (hv : (run e (init fs d) ops).1.st.valid = true) :
    (((step e (run e (init fs d) ops).1 (.setBaseDir d')).2 = .done ∧
        (step e (run e (init fs d) ops).1 (.setBaseDir d')).1.st.baseDir = d') ∨
      ((step e (run e (init fs d) ops).1 (.setBaseDir d')).2 = .raised "BufferError" ∧
        (step e (run e (init fs d) ops).1 (.setBaseDir d')).1.st.baseDir
          = (run e (init fs d) ops).1.st.baseDir)) ∧
    ∀ (en : Entry) (hold : Bool),
      (step e (step e (run e (init fs d) ops).1 (.setBaseDir d')).1 (.read en hold)).2
        = fresh e en (fsGet (run e (init fs d) ops).1.fs
            (step e (run e (init fs d) ops).1 (.setBaseDir d')).1.st.baseDir) :=
  read_after_setBaseDir (inv_reach e fs d ops) hne hv

/-- **C04_ext_history_legal**: the agreement theorem for histories.  When the file currently named
    holds the canonical bytes of a logical tensor at the offset (between arbitrary other content)
    and the state is coherent, then after ANY history the valid object returns exactly the logical
    elements from `numpy()` and `__array__`, exactly the canonical little-endian packed bytes from
    `tobytes()`, and delivers exactly those bytes through `tofile()` without raising. -/
theorem C04_ext_history_legal {dt : DType} {dims : List Nat} {bw : Nat} {xs : List Nat}
    (wf : WF dt dims bw xs) (e : Ext) (pre post : List Nat) (hd : e.dtype = dt) (hdims : e.dims = dims)
    (hoff : e.offset.getD 0 = pre.length)
    (hlen : ∀ l, e.length = some l → l = 0 ∨ l = nbytes (prod dims) bw)
    (fs : FS) (d : Nat) (ops : List Op)
    (hc : coherent (run e (init fs d) ops).1 = true)
    (hv : (run e (init fs d) ops).1.st.valid = true)
    (hfile : cur (run e (init fs d) ops).1 = some (pre ++ packLE bw xs ++ post)) (hold : Bool) :
    (∃ u, (step e (run e (init fs d) ops).1 (.read .numpy hold)).2 = .units u ∧ obsBits bw u = xs) ∧
    (∃ u, (step e (run e (init fs d) ops).1 (.read .asarray hold)).2 = .units u ∧ obsBits bw u = xs) ∧
    (step e (run e (init fs d) ops).1 (.read .tobytes hold)).2 = .bytes (packLE bw xs) ∧
    (step e (run e (init fs d) ops).1 (.read .tofile hold)).2 = .wrote (packLE bw xs) false := by
  have A := C04_field_agree wf (Legal.external e pre post hd hdims hoff hlen)
  obtain ⟨u, hu, hx⟩ := A.numpy
  have hn : e.numpy (some (pre ++ packLE bw xs ++ post)) = .ok u := hu
  have hb : e.tobytes (some (pre ++ packLE bw xs ++ post)) = .ok (packLE bw xs) := A.tobytes
  have hf : e.tofile (some (pre ++ packLE bw xs ++ post)) = .ok (packLE bw xs, false) := A.tofile
  refine ⟨⟨u, ?_, hx⟩, ⟨u, ?_, hx⟩, ?_, ?_⟩
  · rw [C04_ext_history_agree e fs d ops hc hv, hfile]; simp only [fresh, hn]
  · rw [C04_ext_history_agree e fs d ops hc hv, hfile]; simp only [fresh, hn]
  · rw [C04_ext_history_agree e fs d ops hc hv, hfile]; simp only [fresh, hb]
  · rw [C04_ext_history_agree e fs d ops hc hv, hfile]; simp only [fresh, hf]

/-- the tensor of the witnesses: four UINT4 elements (two bytes) at offset 1 of a four-byte file -/
def wExt : Ext := { dtype := .uint4, dims := [4], offset := some 1, length := some 2 }

/-- **C04_ext_stale_witness** (observation D380, why `coherent` is a hypothesis): the code serves
    `tobytes()` / `numpy()` from the mapping made by the first read, `tofile()` from the path.  After
    the data file is atomically replaced under a live mapping the entry points of ONE object
    disagree (old bytes vs new bytes), the state is not coherent, and `release()` changes what the
    next `tobytes()` returns. -/
theorem C04_ext_stale_witness :
    coherent (run wExt (init [(0, [1, 0x21, 0x43, 9])] 0)
        [Op.read .tobytes false, Op.put 0 [9, 0x65, 0x87, 9]]).1 = false ∧
    quiet wExt (init [(0, [1, 0x21, 0x43, 9])] 0) [Op.read .tobytes false, Op.put 0 [9, 0x65, 0x87, 9]] = false ∧
    (run wExt (init [(0, [1, 0x21, 0x43, 9])] 0)
        [.read .tobytes false, .put 0 [9, 0x65, 0x87, 9], .read .tobytes false, .read .numpy false,
         .read .tofile false, .release, .read .tobytes false]).2
      = [.bytes [0x21, 0x43], .done, .bytes [0x21, 0x43], .units [1, 2, 3, 4], .wrote [0x65, 0x87] false,
         .done, .bytes [0x65, 0x87]] := by
  decide

/-! non-vacuity and concreteness of the history theorems -/

-- a history with a failed load (file too short), a replacement, a release while an array is held and
-- a base_dir change (UINT8 would pin the mapping; the 4-bit array is an unpacked copy and does not, so
-- the release succeeds)
example : (run wExt (init [(0, [1, 2])] 0)
    [.read .tobytes false, .put 0 [1, 0x21, 0x43, 9], .read .tobytes false, .read .numpy true, .release,
     .read .tofile false, .setBaseDir 1, .read .numpy false, .invalidate, .read .tofile false]).2
    = [.raised "ValueError", .done, .bytes [0x21, 0x43], .units [1, 2, 3, 4], .done,
       .wrote [0x21, 0x43] false, .done, .raised "FileNotFoundError", .done, .raised "ValueError"] := by decide
-- a zero-size tensor touches no file from numpy() / tobytes(); tofile() needs the file
example : (run { dtype := .uint8, dims := [0], offset := none, length := none } (init [] 0)
    [.read .numpy true, .release, .read .tobytes false, .read .tofile false]).2
    = [.units [], .done, .bytes [], .raised "FileNotFoundError"] := by decide
-- a held array of a whole-byte type pins the mapping: release() and the base_dir setter raise, base_dir stays
example : doRelease { baseDir := 0, raw := some [1], arr := some [1], pinned := true }
    = ({ baseDir := 0, raw := some [1], arr := none, pinned := true }, .raised "BufferError") := by decide
example : doSetBaseDir { baseDir := 0, raw := some [1], arr := some [1], pinned := true } 5
    = ({ baseDir := 0, raw := some [1], arr := none, pinned := true }, .raised "BufferError") := by decide
-- that history is quiet, so it ends coherent
example : quiet wExt (init [(0, [1, 2])] 0)
    [.read .tobytes false, .put 0 [1, 0x21, 0x43, 9], .read .tobytes false, .read .numpy true, .release] = true := by
  decide
-- after the failed load the mapping exists without an array (D143): the state is coherent and the next
-- tobytes loads again instead of slicing the short mapping
example : (run wExt (init [(0, [1, 2])] 0) [.read .tobytes false]).1.st
    = { baseDir := 0, raw := some [1, 2], arr := none } := by decide
-- the hypotheses of C04_ext_history_legal are satisfiable: 2-bit data behind one unrelated byte
example : WF .uint2 [5] 2 [0, 1, 2, 3, 1] := ⟨by decide, by decide, by decide⟩
example : cur (run { dtype := .uint2, dims := [5], offset := some 1, length := none }
      (init [(3, [7] ++ packLE 2 [0, 1, 2, 3, 1] ++ [])] 3) [.read .numpy false, .release]).1
    = some ([7] ++ packLE 2 [0, 1, 2, 3, 1] ++ []) := by decide

end IrVerif.ExtLife

/-! ## Strided array memory (`Model/Strided.lean`)

An array-backed tensor keeps the array it was given -- any strides (negative, zero, overlapping),
any storage offset, zero-size dims, either byte order behind an array-compatible object -- and a
torch adapter keeps the torch tensor.  `gather` is the C-order copy walk that `ravel`, `astype`,
`tobytes`, `tofile` and `contiguous` perform; `indices` / `addr` / `unravel` say, independently of
that walk, which logical element is where. -/

namespace IrVerif.Strided
open IrVerif.Pack IrVerif.TensorRepr

/-- **C04_strided_rowmajor**: the copy walk over ANY strided array (any rank, any strides including
    negative and zero, any offset, zero-size dims) enumerates exactly the logical elements in
    row-major order of their multi-indices, each read at `offset + Σ index_k * stride_k`; there are
    `prod shape` of them. -/
theorem C04_strided_rowmajor (a : Arr) (h : a.strides.length = a.shape.length) :
    a.items = (indices a.shape).map a.itemAt ∧ a.units = (indices a.shape).map a.valueAt ∧
    a.items.length = prod a.shape ∧ a.units.length = prod a.shape := by
  refine ⟨items_eq a h, units_eq a h, ?_, ?_⟩
  · rw [items_eq a h, List.length_map, indices_length]
  · rw [units_eq a h, List.length_map, indices_length]

/-- **C04_strided_index**: the `k`-th item of the walk is the logical element whose multi-index is
    the mixed-radix expansion of `k` (`np.unravel_index(k, shape)`): last axis fastest. -/
theorem C04_strided_index (a : Arr) (h : a.strides.length = a.shape.length) (k : Nat)
    (hk : k < prod a.shape) :
    a.items[k]? = some (a.itemAt (unravel a.shape k)) ∧ a.units[k]? = some (a.valueAt (unravel a.shape k)) := by
  rw [items_eq a h, units_eq a h, List.getElem?_map, List.getElem?_map, indices_getElem a.shape k hk]
  exact ⟨rfl, rfl⟩

/-- **C04_strided_agree**: an array-backed tensor over strided memory is a legal representation of
    its logical elements (the values at the multi-indices, row-major, masked to the bit width):
    `tobytes()` as the code computes it (`numpy()`, pack or itemsize assert, `astype('<')`,
    `tobytes()` in C order) returns exactly their canonical little-endian packed bytes, whatever
    the strides, offset and byte order of the memory; and by `C04_field_agree` / `C04_tofile_repr`
    / `C04_serialize_roundtrip` it agrees with every other representation of those elements.
    The hypotheses are decidable and evaluated by the driver on every generated array; a real
    ndarray of a big-endian dtype is rejected by the constructor (then `tobytes` raises TypeError
    like the representation). -/
theorem C04_strided_agree (d : DType) (bw : Nat) (a : Arr) (nd : Bool) (hbw : d.bitwidth = some bw)
    (hisz : a.itemsize = npItemBytes d) (hib : a.inBounds = true)
    (hbytes : ∀ b ∈ a.storage, b < 256) :
    a.tobytes d nd = (a.toRep d nd).tobytes ∧
    ((nd && a.bigEndian) = true → a.tobytes d nd = .error "TypeError") ∧
    ((nd && a.bigEndian) = false →
      WF d a.shape bw (obsBits bw a.units) ∧ Legal d a.shape bw (obsBits bw a.units) (a.toRep d nd) ∧
      a.tobytes d nd = .ok (packLE bw (obsBits bw a.units))) := by
  have E := tobytes_eq_rep d a nd hisz hib hbytes
  refine ⟨E, ?_, ?_⟩
  · intro h; simp [Arr.tobytes, h]
  · intro hnb
    obtain ⟨wf, lg⟩ := legal_strided d bw a nd hbw hisz hnb hib hbytes
    exact ⟨wf, lg, E.trans (C04_field_agree wf lg).tobytes⟩

/-- **C04_strided_torch**: the same for the torch adapter over a strided torch tensor
    (`contiguous()` then the raw memory; the 2-bit types through the packer). -/
theorem C04_strided_torch (d : DType) (bw : Nat) (a : Arr) (hbw : d.bitwidth = some bw)
    (hisz : a.itemsize = npItemBytes d) (ht : d.torchMapped = true) (hle : a.bigEndian = false)
    (hib : a.inBounds = true) (hbytes : ∀ b ∈ a.storage, b < 256) :
    Legal d a.shape bw (obsBits bw a.units) (a.toTorchRep d) ∧
    a.torchTobytes d = .ok (packLE bw (obsBits bw a.units)) := by
  have lg := legal_strided_torch d bw a hisz ht hib hbytes
  exact ⟨lg, (torchTobytes_eq_rep d bw a hbw hisz hle hib hbytes).trans
    (C04_field_agree (wf_strided hbw hib) lg).tobytes⟩

/-! non-vacuity: a transposed view, a reversed view, a broadcast, big-endian memory, a zero-size dim -/

-- a 2x3 int16 array transposed (shape [3,2], strides [2,6]) over 12 bytes
def wT : Arr := { shape := [3, 2], strides := [2, 6], offset := 0,
                  storage := [1, 0, 2, 0, 3, 0, 4, 0, 5, 0, 6, 0], itemsize := 2 }
example : wT.inBounds = true := by decide
example : wT.units = [1, 4, 2, 5, 3, 6] := by decide
example : wT.tobytes .int16 true = .ok [1, 0, 4, 0, 2, 0, 5, 0, 3, 0, 6, 0] := rfl
example : unravel [3, 2] 3 = [1, 1] ∧ wT.valueAt [1, 1] = 5 := by decide
-- reversed with a negative stride, starting at the last element
example : ({ shape := [3], strides := [-1], offset := 2, storage := [7, 8, 9], itemsize := 1 } : Arr).units = [9, 8, 7] := by
  decide
-- a broadcast (stride 0) and a zero-size dim
example : ({ shape := [2, 2], strides := [0, 1], offset := 1, storage := [7, 8, 9], itemsize := 1 } : Arr).units
    = [8, 9, 8, 9] := by decide
example : ({ shape := [2, 0], strides := [0, 1], offset := 0, storage := [], itemsize := 4 } : Arr).inBounds = true := by
  decide
-- big-endian float32 memory behind an array-compatible object is serialised little-endian; a real
-- ndarray of that dtype is rejected
example : ({ shape := [1], strides := [4], offset := 0, storage := [0x3F, 0x80, 0, 0], itemsize := 4,
             bigEndian := true } : Arr).tobytes .float false = .ok [0, 0, 0x80, 0x3F] := rfl
example : ({ shape := [1], strides := [4], offset := 0, storage := [0x3F, 0x80, 0, 0], itemsize := 4,
             bigEndian := true } : Arr).tobytes .float true = .error "TypeError" := rfl
-- an out-of-bounds description is detected by the hypothesis
example : ({ shape := [2], strides := [2], offset := 0, storage := [1, 2, 3], itemsize := 2 } : Arr).inBounds = false := by
  decide
-- sign-extended int8 storage of INT4 elements, every second one (stride 2)
example : ({ shape := [3], strides := [2], offset := 0, storage := [0xFF, 0, 7, 0, 0xF8], itemsize := 1 } : Arr).tobytes
    .int4 true = .ok [0x7F, 0x08] := rfl

/-! ### the constructors' bounds checks discharge `inBounds` -/

/-- **C04_strided_npcheck**: `inBounds`, the hypothesis of `C04_strided_agree` / `C04_strided_torch`,
    follows from the bounds check the constructors themselves perform: numpy's
    `ndarray(shape, dtype, buffer, offset, strides)` (`PyArray_CheckStrides`) over a NON-EMPTY
    buffer, and `torch.as_strided`.  `npCheck` / `torchCheck` are compared
    with the installed numpy / torch on random descriptions (half of them out of bounds) on every
    run.  The buffer must be non-empty because numpy substitutes the array's own nominal size for
    an empty buffer (`C04_strided_npcheck_empty_witness`). -/
theorem C04_strided_npcheck (a : Arr) :
    (a.npCheck = true → a.storage ≠ [] → a.inBounds = true) ∧
    (a.torchCheck = true → a.inBounds = true) ∧
    (a.strides.length = a.shape.length → a.spanOk = true → a.inBounds = true) :=
  ⟨npCheck_inBounds a, torchCheck_inBounds a, spanOk_inBounds a⟩

/-- **C04_strided_npcheck_empty_witness** (observation D383, why `storage ≠ []` is a hypothesis):
    over an EMPTY buffer numpy's check passes for strides that reach outside it. -/
theorem C04_strided_npcheck_empty_witness :
    ({ shape := [2], strides := [1], offset := 0, storage := [], itemsize := 1 } : Arr).npCheck = true ∧
    ({ shape := [2], strides := [1], offset := 0, storage := [], itemsize := 1 } : Arr).inBounds = false ∧
    ({ shape := [2], strides := [1], offset := 0, storage := [], itemsize := 1 } : Arr).torchCheck = false := by
  decide

/-- the strided agreement theorem with the constructor's own check as hypothesis -/
theorem C04_strided_agree_npcheck (d : DType) (bw : Nat) (a : Arr) (nd : Bool) (hbw : d.bitwidth = some bw)
    (hisz : a.itemsize = npItemBytes d) (hck : a.npCheck = true) (hne : a.storage ≠ [])
    (hbytes : ∀ b ∈ a.storage, b < 256) (hnb : (nd && a.bigEndian) = false) :
    Legal d a.shape bw (obsBits bw a.units) (a.toRep d nd) ∧
    a.tobytes d nd = .ok (packLE bw (obsBits bw a.units)) := by
  have R := (C04_strided_agree d bw a nd hbw hisz (npCheck_inBounds a hck hne) hbytes).2.2 hnb
  exact ⟨R.2.1, R.2.2⟩

-- the checks are not trivially true: a transposed view passes, a too short buffer fails
example : wT.npCheck = true ∧ wT.torchCheck = true := by decide
example : ({ shape := [2], strides := [2], offset := 0, storage := [1, 2, 3], itemsize := 2 } : Arr).npCheck = false := by
  decide
example : ({ shape := [3], strides := [-1], offset := 2, storage := [7, 8, 9], itemsize := 1 } : Arr).npCheck = true := by
  decide
example : ({ shape := [3], strides := [-1], offset := 1, storage := [7, 8, 9], itemsize := 1 } : Arr).npCheck = false := by
  decide

end IrVerif.Strided

/-! ## STRING tensors (`Model/StrTensor.lean`) -/

namespace IrVerif.StrTensor
open IrVerif.TensorRepr

/-- the legal representations of the string tensor with elements `vals` (C order) and shape `dims` -/
inductive SLegal (vals : List Elem) (dims : List Nat) : SRep → Prop
  | seq : SLegal vals dims (.seq vals dims)
  | objArr : SLegal vals dims (.objArr vals dims)
  | proto : SLegal vals dims (.proto vals dims false)
  | lazy (inner : SRep) (h : SLegal vals dims inner) : SLegal vals dims (.lazy inner dims)

/-- **C04_string_bytes_raise**: EVERY string tensor representation -- legal or ill-formed, at any
    depth of lazy wrapping -- raises from `tobytes()` and from `tofile()`: a string tensor has no byte
    form and no representation invents one. -/
theorem C04_string_bytes_raise (r : SRep) : (∃ e, r.tobytes = .error e) ∧ (∃ e, r.tofile = .error e) := by
  induction r with
  | seq vals dims => exact ⟨⟨_, rfl⟩, ⟨_, rfl⟩⟩
  | objArr vals dims => exact ⟨⟨_, rfl⟩, ⟨_, rfl⟩⟩
  | proto vals dims raw => exact ⟨⟨_, rfl⟩, ⟨_, rfl⟩⟩
  | lazy inner dims ih => exact ih

/-- **C04_string_agree**: every legal representation of the string tensor with elements `vals` and
    shape `dims` -- `StringTensor` over a sequence or over an object array, `TensorProtoTensor` over
    `string_data`, what `deserialize_tensor` builds, and a lazy wrapper around any of these -- reports
    `STRING` and `dims`, returns exactly `vals` from `numpy()` (whole byte strings: trailing NUL bytes
    included), serializes to `string_data = vals` with `dims`, which deserializes to a legal
    representation again; `string_data()` and `nbytes`, where the class has them, are `vals` and the
    sum of the element lengths. -/
theorem C04_string_agree (vals : List Elem) (dims : List Nat) (hlen : vals.length = prod dims) {r : SRep}
    (h : SLegal vals dims r) :
    r.dtype = .string ∧ r.shape = dims ∧ r.numpy = .ok vals ∧
    serialize r = .ok { dims := dims, stringData := vals } ∧
    SLegal vals dims (deserialize { dims := dims, stringData := vals }) ∧
    (∀ sd, r.stringData = .ok sd → sd = vals) ∧
    (∀ n, r.nbytes = .ok n → n = (vals.map List.length).sum) := by
  induction h with
  | seq => simp [SRep.dtype, SRep.shape, SRep.numpy, SRep.reshapeObj, hlen, serialize, deserialize, SLegal.seq, SRep.stringData, SRep.nbytes]
  | objArr => simp [SRep.dtype, SRep.shape, SRep.numpy, serialize, deserialize, SLegal.seq, SRep.stringData, SRep.nbytes]
  | proto => simp [SRep.dtype, SRep.shape, SRep.numpy, SRep.reshapeObj, hlen, serialize, deserialize, SLegal.seq, SRep.stringData, SRep.nbytes]
  | lazy inner _ ih =>
    obtain ⟨_, _, hn, _, hd, _, _⟩ := ih
    simp [SRep.dtype, SRep.shape, SRep.numpy, hn, serialize, hd, SRep.stringData, SRep.nbytes]

/-- **C04_string_pytensor**: `ir.tensor` on text / bytes data (non-empty, or with
    `dtype=STRING`) is a legal representation of the elements' byte strings -- `bytes` as they are,
    `str` as their UTF-8 encoding -- with the shape `dims` it is GIVEN (shape discovery is in
    `C04_pytensor_string`); so by `C04_string_agree` it agrees with every other representation of
    those byte strings. -/
theorem C04_string_pytensor (elems : List PyElem) (dims : List Nat) (dtypeString : Bool)
    (h : elems ≠ [] ∨ dtypeString = true) :
    ∃ r, pyTensor elems dims dtypeString = .str r ∧ SLegal (elems.map PyElem.encode) dims r := by
  refine ⟨.objArr (elems.map PyElem.encode) dims, ?_, SLegal.objArr⟩
  unfold pyTensor
  rcases h with h | h
  · simp [h]
  · simp [h]

example : SLegal [[97, 0], []] [2] (.lazy (.seq [[97, 0], []] [2]) [2]) := SLegal.lazy _ SLegal.seq
example : (SRep.seq [[97, 0], []] [2]).numpy = .ok [[97, 0], []] := rfl
example : (SRep.seq [[97, 0]] [2]).numpy = .error "ValueError" := rfl
example : (SRep.proto [[1]] [1] true).numpy = .error "TypeError" := rfl
example : pyTensor [] [0] false = .valueError := rfl
example : pyTensor [] [1, 0] false = .numeric := rfl
example : PyElem.encode (.bytes [97, 0]) = [97, 0] := rfl
end IrVerif.StrTensor

/-! ## `ir.tensor` on plain Python data (`Model/PyTensor.lean`)

`pyTensor v dt` is what `ir.tensor(value, dtype)` returns for a tree `v` of Python scalars (None, bool,
int, float, complex, str, bytes) in nested lists / tuples.  `castLeaf d` is the conversion of one
scalar into one element of the numpy type of `d` (numpy / ml_dtypes rules, compared with the
installed packages on every run); `npShape` the shape numpy discovers. -/

namespace IrVerif.PyTensor
open IrVerif.Pack IrVerif.TensorRepr IrVerif.Strided

/-- **C04_pytensor_declared**: whenever `ir.tensor(value, dtype=d)` returns an array-backed tensor
    it reports exactly the DECLARED dtype `d`, the shape is the nesting of the value, and the
    elements are the value's scalars converted one by one to the numpy type of `d`. -/
theorem C04_pytensor_declared (v : PyVal) (d d' : DType) (dims : List Nat) (elems : List Nat)
    (h : pyTensor v (some d) = .numeric d' dims elems) :
    d' = d ∧ npShape v = some dims ∧ castAll d (leaves v) = .ok elems := by
  obtain ⟨hb, hd⟩ := pyTensor_numeric h
  have := hd d rfl
  subst this
  exact build_numeric hb

/-- **C04_pytensor_rowmajor**: with or without a dtype, the array-backed tensor `ir.tensor` returns
    has the shape numpy discovers from the nesting, `prod shape` elements, and its `k`-th element
    (C order) is the conversion of the scalar at the multi-index `unravel shape k` of the nested
    value, `value[i0][i1]...`: the specification side (`getAt`, `unravel`) does not mention the
    depth-first assignment walk of the model. -/
theorem C04_pytensor_rowmajor (v : PyVal) (dt : Option DType) (d : DType) (dims : List Nat)
    (elems : List Nat) (h : pyTensor v dt = .numeric d dims elems) :
    npShape v = some dims ∧ elems.length = prod dims ∧
    ∀ k, k < prod dims → ∃ l x, getAt v (unravel dims k) = some l ∧ elems[k]? = some x ∧ castLeaf d l = .ok x := by
  obtain ⟨_, hs, hc⟩ := build_numeric (pyTensor_numeric h).1
  obtain ⟨hl, hk⟩ := castAll_ok d (leaves v) elems hc
  refine ⟨hs, by rw [hl, leaves_length hs], ?_⟩
  intro k hklt
  obtain ⟨l, hlk, hg⟩ := leaves_getElem hs k hklt
  obtain ⟨x, hx, hcx⟩ := hk k l hlk
  exact ⟨l, x, hg, hx, hcx⟩

/-- **C04_pytensor_agree**: the agreement theorem.  The tensor `ir.tensor(value, dtype)` returns for
    numeric Python data is a LEGAL array-backed representation of the logical tensor (element type
    `d`, the discovered shape, the converted scalars masked to the bit width): it reports `d` and the
    shape, has `nbytes = ceil(size * bw / 8)`, decodes to those elements and returns their canonical
    little-endian packed bytes from `tobytes()` / `tofile()` -- so by `C04_all_agree` it agrees
    with every other representation of the same elements, in particular with
    `ir.Tensor(np.array(value, dtype))`, which is the same representation. -/
theorem C04_pytensor_agree (v : PyVal) (dt : Option DType) (d : DType) (dims : List Nat) (elems : List Nat)
    (bw : Nat) (h : pyTensor v dt = .numeric d dims elems) (hw : ∀ l ∈ leaves v, l.wf = true)
    (hbw : d.bitwidth = some bw) :
    WF d dims bw (obsBits bw elems) ∧ Legal d dims bw (obsBits bw elems) (.array d dims elems) ∧
    Agrees d dims bw (obsBits bw elems) (.array d dims elems) := by
  obtain ⟨_, hs, hc⟩ := build_numeric (pyTensor_numeric h).1
  obtain ⟨hl, _⟩ := castAll_ok d (leaves v) elems hc
  have hu : ∀ e ∈ elems, e < 256 ^ npItemBytes d := by
    intro e he
    obtain ⟨l, hlm, hcl⟩ := castAll_mem d hc e he
    exact castLeaf_lt (hw l hlm) hcl hbw
  exact array_units_agree hbw (by rw [hl, leaves_length hs]) hu

/-- **C04_pytensor_float_depth** (observation D381, the inference quirk as a theorem): without a
    dtype, Python floats become FLOAT when they are given as one scalar (binary32, the value
    ROUNDED) or as one flat sequence (stated: dtype and shape; `C04_pytensor_rowmajor` gives
    each element as the conversion of its scalar), but DOUBLE (binary64, the bit patterns unchanged) as
    soon as they are nested two or more levels deep -- the explicit `float32` default of the
    inference chain only looks at the items of the outermost sequence. -/
theorem C04_pytensor_float_depth :
    (∀ b, pyTensor (.leaf (.float b)) none = .numeric .float [] [encodeF 8 23 (decode64 b)]) ∧
    (∀ (xs : PyList), xs ≠ .nil → xs.toList.all PyVal.isFloatLeaf = true →
      ∃ elems, pyTensor (.seq xs) none = .numeric .float [xs.toList.length] elems) ∧
    (∀ (v : PyVal) (n m : Nat) (rest : List Nat), npShape v = some (n :: m :: rest) →
      leaves v ≠ [] → allFloat (leaves v) = true →
      pyTensor v none = .numeric .double (n :: m :: rest) ((leaves v).map Leaf.floatBits)) :=
  ⟨pyTensor_scalar_float, pyTensor_flat_float, pyTensor_nested_float⟩

/-- **C04_pytensor_int_depth**: Python ints (inside the int64 range) become INT64 at ANY nesting
    depth -- the explicit default and numpy's own discovery coincide for them -- and the elements
    are their two's complements. -/
theorem C04_pytensor_int_depth (v : PyVal) (dims : List Nat) (hs : npShape v = some dims)
    (hne : leaves v ≠ []) (hi : allInt64 (leaves v) = true) :
    pyTensor v none = .numeric .int64 dims ((leaves v).map (fun l => wrap 64 l.intValue)) :=
  pyTensor_int64 v dims hs hne hi

/-- **C04_pytensor_errors**: an empty top-level sequence without a dtype raises `ValueError`
    (nothing to infer from); an inhomogeneous nesting raises `ValueError` for every dtype except
    STRING and UNDEFINED (numpy's shape discovery, before any scalar is converted); `dtype=UNDEFINED` raises
    `TypeError`. -/
theorem C04_pytensor_errors :
    pyTensor (.seq .nil) none = .raised "ValueError" ∧
    (∀ (v : PyVal) (dt : Option DType), npShape v = none → dt ≠ some .string → dt ≠ some .undefined →
      pyTensor v dt = .raised "ValueError") ∧
    (∀ v : PyVal, (∀ r, maybeString v (some .undefined) ≠ some r) ∧ pyTensor v (some .undefined) = .raised "TypeError") :=
  ⟨rfl, pyTensor_ragged, fun v => ⟨by simp [maybeString], by simp [pyTensor, maybeString]⟩⟩

/-- **C04_pytensor_string**: text / bytes data (every scalar a `str` or `bytes`, a homogeneous
    nesting, and either at least one scalar or `dtype=STRING`) becomes the `StringTensor` of the
    UTF-8 / byte strings with the discovered shape: a legal string representation
    (`C04_string_agree` applies). -/
theorem C04_pytensor_string (v : PyVal) (dt : Option DType) (dims : List Nat) (hs : npShape v = some dims)
    (ht : (leaves v).all Leaf.isText = true) (hdt : dt = none ∨ dt = some .string)
    (hne : leaves v ≠ [] ∨ dt = some .string) :
    pyTensor v dt = .str (.objArr ((leaves v).map Leaf.encode) dims) ∧
    StrTensor.SLegal ((leaves v).map Leaf.encode) dims (.objArr ((leaves v).map Leaf.encode) dims) :=
  ⟨pyTensor_text v dt dims hs ht hdt hne, StrTensor.SLegal.objArr⟩

/-! non-vacuity and concreteness: the observed quirk, conversions, errors -/

-- ir.tensor([1.0]) is FLOAT, ir.tensor([[1.0]]) is DOUBLE, ir.tensor([[]]) is DOUBLE of shape [1, 0]
example : pyTensor (.seq (.cons (.leaf (.float 0x3FF0000000000000)) .nil)) none = .numeric .float [1] [0x3F800000] :=
  rfl
example : pyTensor (.seq (.cons (.seq (.cons (.leaf (.float 0x3FF0000000000000)) .nil)) .nil)) none
    = .numeric .double [1, 1] [0x3FF0000000000000] := rfl
example : pyTensor (.seq (.cons (.seq .nil) .nil)) none = .numeric .double [1, 0] [] := rfl
example : pyTensor (.seq .nil) (some .float) = .numeric .float [0] [] := rfl
-- 0.1 rounds to 0x3DCCCCCD in binary32, 0x2E66 in binary16, 0x3DCD in bfloat16 (through float32)
example : castLeaf .float (.float 0x3FB999999999999A) = .ok 0x3DCCCCCD := by decide
example : castLeaf .float16 (.float 0x3FB999999999999A) = .ok 0x2E66 := by decide
example : castLeaf .bfloat16 (.float 0x3FB999999999999A) = .ok 0x3DCD := by decide
-- double rounding: 2^60 + 2^36 + 1 goes through binary64 on its way to binary32 (ties to even: down)
example : castLeaf .float (.int (2 ^ 60 + 2 ^ 36 + 1)) = .ok 0x5D800000 := by decide
-- bfloat16 takes a Python int through float32 directly
example : castLeaf .bfloat16 (.int (2 ^ 60 + 2 ^ 52 + 2 ^ 36 + 1)) = .ok 0x5D81 := by decide
-- numpy integer types reject what does not fit, the ml_dtypes 4-bit types wrap
example : castLeaf .int8 (.int 128) = .err "OverflowError" := by decide
example : castLeaf .int4 (.int (-9)) = .ok 7 := by decide
example : castLeaf .int2 (.float 0x3FF8000000000000) = .err "OverflowError" := by decide
example : castLeaf .int8 (.float 0x3FFB333333333333) = .ok 1 := by decide
-- mixed nesting: bool + int + float promote to DOUBLE; an int beyond int64 becomes UINT64
example : pyTensor (.seq (.cons (.leaf (.bool true)) (.cons (.leaf (.int 2)) (.cons (.leaf (.float 0x4004000000000000)) .nil)))) none
    = .numeric .double [3] [0x3FF0000000000000, 0x4000000000000000, 0x4004000000000000] := rfl
example : pyTensor (.seq (.cons (.seq (.cons (.leaf (.int (2 ^ 63))) .nil)) .nil)) none = .numeric .uint64 [1, 1] [2 ^ 63] :=
  rfl
-- inhomogeneous nesting; None becomes the degenerate STRING tensor (observation D382)
example : pyTensor (.seq (.cons (.leaf (.int 1)) (.cons (.seq (.cons (.leaf (.int 2)) .nil)) .nil))) none
    = .raised "ValueError" := rfl
example : pyTensor (.leaf .none) none = .degenerate (some []) := rfl
-- the hypotheses of C04_pytensor_agree are satisfiable
example : ∀ l ∈ leaves (.seq (.cons (.leaf (.float 0x3FF0000000000000)) .nil)), l.wf = true := by decide
example : getAt (.seq (.cons (.seq (.cons (.leaf (.int 5)) (.cons (.leaf (.int 6)) .nil))) .nil)) [0, 1] = some (.int 6) := by
  decide

/-! ## Conversion INTO the 8-bit and 4-bit float types

`encF8 k` is the model of ml_dtypes' `T(double)` for the six narrow float types, compared on every
run with the installed ml_dtypes through `ir.tensor` on ALL 65,536 binary16 values per type;
`decF8 k` is the VALUE of a bit pattern as the ONNX documentation defines it (compared with
ml_dtypes' `float(pattern)`). -/

/-- **C04_pytensor_f8_total**: for the six narrow float types the conversion is TOTAL on the
    scalars ml_dtypes accepts (bool, an int inside the C long range, float: any of the 2^64 bit
    patterns) and the element fits the BIT WIDTH of the type (8, and 4 for FLOAT4E2M1: the array
    element is already the packed nibble, masking loses nothing); every other scalar (None,
    complex, text, bytes, an int beyond 64 bits) raises `TypeError`; a Python float converts with
    ONE rounding, an int through float32. -/
theorem C04_pytensor_f8_total (k : F8) (l : Leaf) :
    k.dtype.bitwidth = some k.bits ∧
    (l.isReal64 = true → ∃ x, castLeaf k.dtype l = .ok x ∧ x < 2 ^ k.bits) ∧
    (l.isReal64 = false → castLeaf k.dtype l = .err "TypeError") ∧
    (∀ b, castLeaf k.dtype (.float b) = .ok (encF8 k (decode64 b))) ∧
    (∀ i : Int, -(2 ^ 63 : Int) ≤ i → i < 2 ^ 63 →
      castLeaf k.dtype (.int i) = .ok (encF8 k (decode32 (encodeF 8 23 (ofInt i))))) := by
  refine ⟨by cases k <;> decide, fun h => ?_, fun h => ?_, fun b => ?_, fun i h1 h2 => ?_⟩
  · obtain ⟨f, hf⟩ := (castF8_total k l).1 h
    exact ⟨encF8 k f, by rw [castLeaf_f8, hf], encF8_lt_bits k f⟩
  · rw [castLeaf_f8]; exact (castF8_total k l).2 h
  · rw [castLeaf_f8]; rfl
  · rw [castLeaf_f8]; simp only [castF8, h1, h2, and_self, if_true]

/-- **C04_pytensor_f8_roundtrip**: the conversion is a left inverse of the value specification:
    for EVERY bit pattern `p` of every narrow float type, converting the exact value of `p` gives
    `p` back (the three NaNs per sign of FLOAT8E5M2 collapse into the quiet NaN) -- so the model's
    bias, subnormal range, special values and signed zeros are those of the ONNX formats, every
    representable value is a fixed point of the rounding, and every pattern except the
    non-canonical FLOAT8E5M2 NaNs is reachable through `ir.tensor`. -/
theorem C04_pytensor_f8_roundtrip (k : F8) (p : Nat) (hp : p < 2 ^ k.bits) :
    encF8 k (decF8 k p) = canonF8 k p := by
  revert p
  cases k <;> decide +kernel

/-- **C04_pytensor_f8_sign**: saturation versus NaN / infinity per type, for ALL inputs.
    The signed types (E4M3FN, E5M2, E2M1) are sign-magnitude: the sign bit of a finite input is
    copied and the magnitude is converted independently of it.  FLOAT8E5M2 never turns a finite
    input into a NaN (overflow is infinity `0x7C`); FLOAT8E4M3FN turns overflow into its NaN
    `0x7F`; FLOAT4E2M1 saturates (magnitude at most 7 = 6.0); the FNUZ types have no negative zero:
    a negative input gives `0x80` (NaN) only by overflow, never as a rounded-to-zero value; E8M0
    maps every zero, negative, infinite and NaN input to `0xFF`. -/
theorem C04_pytensor_f8_sign (neg : Bool) (m : Nat) (e : Int) :
    (encF8 .e4m3fn (.fin neg m e) = sgn8 neg + encF8 .e4m3fn (.fin false m e) ∧ encF8 .e4m3fn (.fin false m e) ≤ 0x7F) ∧
    (encF8 .e5m2 (.fin neg m e) = sgn8 neg + encF8 .e5m2 (.fin false m e) ∧ encF8 .e5m2 (.fin false m e) ≤ 0x7C) ∧
    (encF8 .e2m1 (.fin neg m e) = (if neg then 8 else 0) + encF8 .e2m1 (.fin false m e) ∧ encF8 .e2m1 (.fin false m e) ≤ 7) ∧
    (encF8 .e4m3fnuz (.fin neg m e) = 0x80 ↔ roundU 3 (-10) m e > 0x7F) ∧
    (encF8 .e5m2fnuz (.fin neg m e) = 0x80 ↔ roundU 2 (-17) m e > 0x7F) ∧
    (encF8 .e4m3fnuz (.zero neg) = 0 ∧ encF8 .e5m2fnuz (.zero neg) = 0) ∧
    (encF8 .e8m0 (.zero neg) = 0xFF ∧ encF8 .e8m0 (.fin true m e) = 0xFF ∧ encF8 .e8m0 (.inf neg) = 0xFF ∧
      encF8 .e8m0 (.nan neg) = 0xFF) := by
  -- each claim is read off the branch of `encF8`: one `split` per guard, then linear arithmetic
  refine ⟨⟨?_, ?_⟩, ⟨?_, ?_⟩, ⟨?_, ?_⟩, ?_, ?_, ⟨rfl, rfl⟩, ⟨rfl, rfl, rfl, rfl⟩⟩ <;> cases neg <;>
    simp only [encF8, sgn8, Bool.false_eq_true, if_false, if_true, Nat.zero_add] <;>
    (try (repeat' split)) <;> (try omega)

/-- **C04_pytensor_f8_halfulp**: the rounding core of `encF8` against a specification that does not
    mention the algorithm (no division, no remainder, no case split on the discarded bits).  For
    EVERY format (`mb` fraction bits, smallest subnormal `2^qmin`) and every positive `m * 2^e`:
    `roundU = (q - qmin) * 2^mb + r` where `q >= qmin` is the exponent of the unit in the last place
    and `r` the rounded significand; if `2^q` divides the input the result is EXACT
    (`r = m * 2^(e-q)`); otherwise, with `P = 2^(q-e)`, `|m - r * P| <= P / 2` (written without
    subtraction and doubled: `2 r P <= 2 m + P` and `2 m <= (2 r + 1) P`) -- `r * 2^q` is a NEAREST
    multiple of `2^q` to `m * 2^e` -- and when the input lies exactly halfway (either side) `r` is
    EVEN: round to nearest, ties to even. -/
theorem C04_pytensor_f8_halfulp (mb : Nat) (qmin : Int) (m : Nat) (e : Int) :
    qmin ≤ roundQ mb qmin m e ∧
    (roundQ mb qmin m e ≤ e → roundR mb qmin m e = m * 2 ^ (e - roundQ mb qmin m e).toNat) ∧
    (e < roundQ mb qmin m e →
      (2 * roundR mb qmin m e * 2 ^ (roundQ mb qmin m e - e).toNat ≤ 2 * m + 2 ^ (roundQ mb qmin m e - e).toNat ∧
       2 * m ≤ (2 * roundR mb qmin m e + 1) * 2 ^ (roundQ mb qmin m e - e).toNat ∧
       (2 * m = (2 * roundR mb qmin m e + 1) * 2 ^ (roundQ mb qmin m e - e).toNat → roundR mb qmin m e % 2 = 0) ∧
       (2 * m + 2 ^ (roundQ mb qmin m e - e).toNat = 2 * roundR mb qmin m e * 2 ^ (roundQ mb qmin m e - e).toNat →
          roundR mb qmin m e % 2 = 0))) := by
  refine ⟨by simp only [roundQ]; omega, ?_, ?_⟩
  · intro h; simp only [roundR, h, if_true]
  · intro h
    have hn : ¬ roundQ mb qmin m e ≤ e := by omega
    obtain ⟨t, ht⟩ : ∃ t, (roundQ mb qmin m e - e).toNat = t + 1 :=
      ⟨(roundQ mb qmin m e - e).toNat - 1, by omega⟩
    simp only [roundR, hn, if_false, ht, Nat.add_sub_cancel]
    exact rne_halfulp m t _ rfl

/-- **C04_pytensor_f8_decode_encode**: the NORMALISATION half of the rounding specification, for
    ALL inputs (no table).  For every one of the six formats and every finite input
    `(-1)^neg * m * 2^e` (`m > 0`, as `decode64` / `decode32` produce: `decode64_fin_pos`) that the
    conversion does not send to NaN / infinity / saturation (`roundU <= maxFinite`: decidable; E8M0
    has no sign, a negative input is NaN there), DECODING the pattern `encF8` produces (`decF8`:
    the value specification of the ONNX formats) gives a finite value `(-1)^neg * m' * 2^e'` with
    `e' >= q` and `m' * 2^(e' - q) = r`, i.e. EXACTLY `r * 2^q`, where `q = roundQ` and `r = roundR`
    are the exponent and significand of `C04_pytensor_f8_halfulp` -- so encode followed by decode IS
    the nearest representable value, ties to even; when `r = 0` the result is the zero of the format
    (sign kept; the one zero of the FNUZ types; `2^-127` for E8M0, which has no zero: observation
    in the comment of `encF8`). -/
theorem C04_pytensor_f8_decode_encode (k : F8) (neg : Bool) (m : Nat) (e : Int) (hm : 0 < m)
    (hfin : roundU k.mbits k.qmin m e ≤ k.maxFinite) (hneg : k = .e8m0 → neg = false) :
    (roundR k.mbits k.qmin m e = 0 → decF8 k (encF8 k (.fin neg m e)) = k.zeroOf neg) ∧
    (roundR k.mbits k.qmin m e ≠ 0 →
      ∃ m' e', decF8 k (encF8 k (.fin neg m e)) = .fin neg m' e' ∧
        roundQ k.mbits k.qmin m e ≤ e' ∧
        m' * 2 ^ (e' - roundQ k.mbits k.qmin m e).toNat = roundR k.mbits k.qmin m e) := by
  -- per format: the guards of `encF8` / `decF8` do not fire below `maxFinite`; then `decFields_roundU`
  cases k <;> simp only [F8.mbits, F8.qmin, F8.maxFinite, F8.zeroOf] at hfin ⊢
  case e4m3fn =>
    have hnn : ¬ (sgn8 neg + roundU 3 (-9) m e) % 128 = 0x7F := by rw [sgn8_mod]; omega
    simp only [encF8, if_pos hfin, decF8, if_neg hnn]
    exact decFields_roundU 4 3 7 (-9) rfl neg m e hm (by omega)
  case e5m2 =>
    have hmin : min (roundU 2 (-16) m e) 0x7C = roundU 2 (-16) m e := by omega
    have hn1 : ¬ (sgn8 neg + roundU 2 (-16) m e) % 128 = 0x7C := by rw [sgn8_mod]; omega
    have hn2 : ¬ (sgn8 neg + roundU 2 (-16) m e) % 128 > 0x7C := by rw [sgn8_mod]; omega
    simp only [encF8, hmin, decF8, if_neg hn1, if_neg hn2]
    exact decFields_roundU 5 2 15 (-16) rfl neg m e hm (by omega)
  case e2m1 =>
    have hmin : min (roundU 1 (-1) m e) 7 = roundU 1 (-1) m e := by omega
    simp only [encF8, hmin, decF8]
    exact decFields_roundU 2 1 1 (-1) rfl neg m e hm (by omega)
  case e4m3fnuz => exact dec_enc_fnuz 4 3 8 (-10) rfl rfl neg m e hm hfin _ rfl
  case e5m2fnuz => exact dec_enc_fnuz 5 2 16 (-17) rfl rfl neg m e hm hfin _ rfl
  case e8m0 =>
    obtain rfl := hneg rfl
    exact dec_enc_e8m0 m e hm hfin

-- 1.0 -> 0x38 -> 8 * 2^-3; 17 rounds to 16 = 8 * 2^1 (r = 8 at q = 1); 31 carries: r = 16 at q = 1, decoded as 8 * 2^2
example : decF8 .e4m3fn (encF8 .e4m3fn (.fin false 1 0)) = .fin false 8 (-3) := by rfl
example : roundQ 3 (-9) 31 0 = 1 ∧ roundR 3 (-9) 31 0 = 16 ∧ decF8 .e4m3fn (encF8 .e4m3fn (.fin false 31 0)) = .fin false 8 2 :=
  ⟨by decide, by decide, by rfl⟩
-- the hypotheses are satisfiable in every format, and fail exactly on overflow
example : ∀ k : F8, roundU k.mbits k.qmin 1 0 ≤ k.maxFinite := by intro k; cases k <;> decide
example : ¬ roundU F8.e4m3fn.mbits F8.e4m3fn.qmin 465 0 ≤ F8.e4m3fn.maxFinite := by decide

/-- **C04_pytensor_f8_agree**: `ir.tensor(value, dtype=T)` for a narrow float type `T` and ANY
    homogeneous nesting of bool / int64 / float scalars never raises and never leaves the model:
    it returns the array-backed tensor that reports `T` and the discovered shape, whose elements
    are bit patterns of `T` (below `2^bits`, so they ARE the logical elements: masking is the
    identity), and that tensor is a legal representation -- it agrees with every other
    representation of those elements (`C04_all_agree`). -/
theorem C04_pytensor_f8_agree (k : F8) (v : PyVal) (dims : List Nat) (hs : npShape v = some dims)
    (hr : (leaves v).all Leaf.isReal64 = true) :
    ∃ elems, pyTensor v (some k.dtype) = .numeric k.dtype dims elems ∧ (∀ x ∈ elems, x < 2 ^ k.bits) ∧
      obsBits k.bits elems = elems ∧
      WF k.dtype dims k.bits elems ∧ Legal k.dtype dims k.bits elems (.array k.dtype dims elems) ∧
      Agrees k.dtype dims k.bits elems (.array k.dtype dims elems) := by
  obtain ⟨xs, hxs, hb⟩ := castAll_f8 k (leaves v) hr
  have hpt : pyTensor v (some k.dtype) = .numeric k.dtype dims xs := by
    have hm : maybeString v (some k.dtype) = none := by cases k <;> simp [maybeString, F8.dtype]
    have hbuild : build v k.dtype = .numeric k.dtype dims xs := by simp [build, hs, hxs]
    rw [pyTensor_some v (by cases k <;> decide) (by cases k <;> decide) hm, hbuild]
  have hobs : obsBits k.bits xs = xs := obsBits_id k.bits xs hb
  have hbw : k.dtype.bitwidth = some k.bits := by cases k <;> decide
  obtain ⟨hl, _⟩ := castAll_ok k.dtype (leaves v) xs hxs
  have hu : ∀ e ∈ xs, e < 256 ^ npItemBytes k.dtype := fun e he =>
    Nat.lt_of_lt_of_le (hb e he) (facts _ _ hbw).units_le
  have A := array_units_agree (dims := dims) hbw (by rw [hl, leaves_length hs]) hu
  rw [hobs] at A
  exact ⟨xs, hpt, hb, hobs, A⟩

-- 1.0 in each type; 448 is the largest E4M3FN value, 464 ties to even (448), 465 overflows to NaN
example : castLeaf .float8e4m3fn (.float 0x3FF0000000000000) = .ok 0x38 := by decide
example : castLeaf .float8e4m3fn (.float 0x407D000000000000) = .ok 0x7E := by decide
example : castLeaf .float8e4m3fn (.float 0x407D100000000000) = .ok 0x7F := by decide
example : castLeaf .float8e5m2 (.float 0x7FF0000000000000) = .ok 0x7C := by decide
example : castLeaf .float8e4m3fnuz (.float 0x8000000000000000) = .ok 0 := by decide
example : castLeaf .float8e5m2fnuz (.float 0xFFF0000000000000) = .ok 0x80 := by decide
example : castLeaf .float4e2m1 (.float 0x7FF0000000000000) = .ok 7 := by decide
example : castLeaf .float4e2m1 (.float 0x3FD0000000000000) = .ok 0 := by decide   -- 0.25 ties to 0
example : castLeaf .float8e8m0 (.float 0) = .ok 0xFF := by decide
-- an int goes through float32: 2^40 + 2^39 - 1 rounds to 1.5 * 2^40 there and then up to 2^41
example : castLeaf .float8e8m0 (.int (2 ^ 40 + 2 ^ 39 - 1)) = .ok 168 := by decide
-- observation D384: 1.75 * 2^128 wraps to the pattern of 2^-127
example : castLeaf .float8e8m0 (.float 0x47FC000000000000) = .ok 0 := by decide
example : castLeaf .float8e5m2 .none = .err "TypeError" := by decide
example : castLeaf .float .none = .ok 0x7FC00000 := by decide
example : castLeaf .bool (.str "0") = .ok 1 := by decide
-- the hypotheses of C04_pytensor_f8_agree are satisfiable
example : (leaves (.seq (.cons (.leaf (.float 0x3FF0000000000000)) (.cons (.leaf (.int 3)) .nil)))).all Leaf.isReal64 = true := by
  decide

/-- **C04_ctor_accepts**: `Tensor(array, dtype=d)` validation (`_check_numpy_representation_type`),
    two independent statements.  (1) For every array dtype of the 26-row numpy / ml_dtypes
    item-size table and every `d`: if the constructor ACCEPTS the pair, the array's item size is
    that of `d`'s own numpy type and `d` is not UNDEFINED (kernel evaluation over 26 x 27 pairs), so
    the reinterpreting `view` of `_maybe_view_np_array_with_ml_dtypes` keeps count and units.
    (2) Without reference to `ctorAccepts` (`array_units_agree`): any list of the right number of units
    that fit the item size is a legal `Rep.array d dims units` of its own masked elements.  That an accepted array IS such a `Rep.array`
    is the modelling step between the two; the theorem does not state it. -/
theorem C04_ctor_accepts :
    (∀ p ∈ DType.npItemsizeTable, ∀ d ∈ DType.all, ctorAccepts p.1 d = true →
      p.2 = npItemBytes d ∧ d ≠ .undefined ∧ (d.bitwidth.isSome ∨ d = .string)) ∧
    (∀ (d : DType) (dims : List Nat) (bw : Nat) (units : List Nat), d.bitwidth = some bw →
      units.length = prod dims → (∀ u ∈ units, u < 256 ^ npItemBytes d) →
      Legal d dims bw (obsBits bw units) (.array d dims units) ∧
      Agrees d dims bw (obsBits bw units) (.array d dims units)) := by
  refine ⟨by decide +kernel, ?_⟩
  intro d dims bw units hbw hl hu
  exact (array_units_agree hbw hl hu).2

-- the lenient cases: raw bits, and ANY 8-bit ml_dtypes float for any 8-bit float type
example : ctorAccepts "uint8" .float8e5m2 = true := by decide
example : ctorAccepts "float8_e5m2" .float8e4m3fn = true := by decide
example : ctorAccepts "int8" .uint4 = false := by decide
example : ctorAccepts "uint8" .bool = false := by decide
example : ctorAccepts "float32" .int32 = false := by decide

end IrVerif.PyTensor
