/-
C11 — graph iteration stays well defined while the graph is edited.

Property theorems about the pointer-faithful model `Model/LinkedSet.lean` of
`src/onnx_ir/_linked_list.py` (boxes with prev/next/value, root box, id->box dict, length;
generators as cursors) and of `traversal.RecursiveGraphIterator` (`Model/Traversal.lean`).  Helper
developments: `Lemmas/LinkedSet*.lean`, `Lemmas/StackRun.lean`, `Lemmas/Traversal*.lean`.

How the English clauses reach the pointer structure.  `C11_refine_step` is an *equation*: for every
operation (any arguments: present / absent / repeated values, the anchor itself, several elements)
and every cursor, `abs (apply s op).1 d c = (Spec.apply (abs s d c) op).1`; `C11_refine_rest` says
`rest s d c = Spec.rest` of that abstraction.  So whatever is proved about `Spec.apply` — whose
public operations are by definition sequences of the two primitive events `removeIdx` /
`insertIdx` of `C11_spec_rest_remove` / `C11_spec_rest_insert` (a present value is removed first,
multi-element inserts are one primitive pair per element) — holds verbatim for `apply`/`rest`.
Stated directly on `apply`/`rest`/`toList` are: `C11_untouched_step` and
`C11_untouched_exactly_once_in_order` (all operations, all argument shapes), `C11_resume_current`
(the current node is removed or moved anywhere, by any operation), `C11_next_rest`.  The
"inserted after is seen / before is skipped" clause is stated on the primitive insert
(`C11_spec_rest_insert`, `Spec.seen`) and transfers through `C11_refine_step`; it is not restated
per public operation.
-/
import IrVerif.Lemmas.LinkedSetWF
import IrVerif.Lemmas.LinkedSetRec
import IrVerif.Lemmas.LinkedSetTree
import IrVerif.Lemmas.TraversalRun
import IrVerif.Lemmas.LinkedSetSlice
import IrVerif.Lemmas.TraversalLocal
import IrVerif.Lemmas.LinkedSetCycle
import IrVerif.Lemmas.TraversalRefine
import IrVerif.Lemmas.TraversalTree
import IrVerif.Lemmas.TraversalMeth
import IrVerif.Lemmas.TraversalUntouched
import IrVerif.Lemmas.TraversalStatic
namespace IrVerif.LinkedSet

/-! ### representation invariant -/

theorem C11_rep_empty : WF empty ∧ toList empty = [] :=
  ⟨wf_empty, toList_empty⟩

/-- **C11_rep_step**: every public operation (`append extend insert_after insert_before remove`,
with arbitrary arguments: present, absent, repeated, the anchor itself) preserves the invariant,
whether it returns or raises. -/
theorem C11_rep_step {s : LSet} (h : WF s) (op : Op) : WF (apply s op).1 :=
  h.apply op

/-- **C11_rep_history**: the invariant holds after every finite history. -/
theorem C11_rep_history (ops : List Op) : WF (ops.foldl (fun s o => (apply s o).1) empty) :=
  ListFacts.foldl_inv WF _ (fun _ o h => C11_rep_step h o) ops _ C11_rep_empty.1

/-! ### refinement to the list with gaps -/

/-- **C11_refine_step**: one public operation on the pointer structure is the same operation on
the abstract machine — for the sequence (`toList`), for the outcome (returned / raised) and for
*every* cursor, wherever it is parked (on a live box, on an erased box, not started, finished).
Cursors are transformed independently of each other: the statement holds for all `d`, `c`
simultaneously. -/
theorem C11_refine_step {s : LSet} (h : WF s) (op : Op) (d : Dir) (c : Cursor) (hc : c.Valid s) :
    abs (apply s op).1 d c = (Spec.apply (abs s d c) op).1 ∧
    (apply s op).2 = (Spec.apply (abs s d c) op).2 ∧
    c.Valid (apply s op).1 := by
  obtain ⟨bs, hi⟩ := h
  have hv := (sim_apply hi op d c hc).valid hc
  obtain ⟨bs', hi', hs, ho, _⟩ := sim_apply hi op d c hc
  rw [abs_eq hi', abs_eq hi]
  exact ⟨hs, ho, hv⟩

/-- **C11_rep_toList** (the refinement the IR kernel of C01 relies on): the effect of every
operation on the sequence is the abstract list operation (`append` = move-to-end; `insert_after` /
`insert_before` = insert after the anchor / its predecessor, removing a present value first;
`remove`), and it raises exactly when the abstract operation does. -/
theorem C11_rep_toList {s : LSet} (h : WF s) (op : Op) :
    toList (apply s op).1 = (Spec.apply ⟨toList s, .fwd, .done⟩ op).1.L ∧
    (apply s op).2 = (Spec.apply ⟨toList s, .fwd, .done⟩ op).2 := by
  obtain ⟨bs, hi⟩ := h
  have hc : Cursor.done.Valid s := hi.size_pos
  obtain ⟨r1, r2, _⟩ := C11_refine_step ⟨bs, hi⟩ op .fwd .done hc
  have e : abs s .fwd .done = ⟨toList s, .fwd, .done⟩ := by
    simp [abs, absCur]
  rw [e] at r1 r2
  exact ⟨by rw [← r1]; rfl, r2⟩

/-- **C11_refine_next**: one `next()` on a generator is one `Spec.step`: same element (or
StopIteration), and the new concrete cursor abstracts to the new abstract cursor. -/
theorem C11_refine_next {s : LSet} (h : WF s) (d : Dir) (c : Cursor) (hc : c.Valid s) :
    abs s d (iterNext s d c).1 = (Spec.step (abs s d c)).1 ∧
    (iterNext s d c).2 = (match (Spec.step (abs s d c)).2 with
      | some v => Res.yield v
      | none => Res.stop) ∧
    (iterNext s d c).1.Valid s := by
  obtain ⟨bs, hi⟩ := h
  have := hi.next_eq d c hc
  simp only at this
  obtain ⟨h1, h2, h3⟩ := this
  rw [abs_eq hi, abs_eq hi]
  refine ⟨?_, ?_, h2⟩
  · simp only [absSt, Spec.step, h1]
  · simp only [absSt, Spec.step]
    revert h3
    cases (Spec.next (bs.map (vl s)) d (acur s bs d c)).2 <;> exact id

/-- **C11_refine_start**: `iter()` / `reversed()` create the abstract start cursor. -/
theorem C11_refine_start {s : LSet} (h : WF s) (d : Dir) :
    absCur s d .notStarted = Spec.start (toList s) d := by
  obtain ⟨bs, hi⟩ := h
  rw [hi.absCur_eq, hi.toList_eq]
  cases d <;> simp [acur, IsNode, Cursor.pos, posAtt, posR, posF, Spec.start, List.idxOf_eq_length hi.zero_notin]

/-- **C11_refine_rest**: what a cursor would still yield is what its abstraction still yields:
a suffix of the sequence (forward) or the reverse of a prefix (reverse). -/
theorem C11_refine_rest {s : LSet} (h : WF s) (d : Dir) (c : Cursor) (hc : c.Valid s) :
    rest s d c = Spec.rest (toList s) d (absCur s d c) := by
  obtain ⟨bs, hi⟩ := h
  rw [hi.absCur_eq, hi.toList_eq]
  exact (hi.rest_eq d c hc).1

/-! ### termination, membership, indexing -/

/-- **C11_terminates**: in any reachable state, with no further edits, every generator —
wherever it is parked — runs to StopIteration: no `RuntimeError` (the `owning_list` check cannot
fire), no `next()` needs more than `size + 1` hops, and at most `len` further elements are
yielded. -/
theorem C11_terminates {s : LSet} (h : WF s) (d : Dir) (c : Cursor) (hc : c.Valid s) :
    (drain s d (size s + 1) c).2 = .stop ∧ (rest s d c).length ≤ s.length ∧
    ((iterNext s d c).2 = .stop ∨ ∃ v, (iterNext s d c).2 = .yield v) := by
  obtain ⟨bs, hi⟩ := h
  obtain ⟨h1, h2⟩ := hi.rest_eq d c hc
  refine ⟨h2, ?_, hi.iterNext_ok d c hc⟩
  rw [h1, hi.len]
  simpa using Spec.rest_length_le (bs.map (vl s)) d (acur s bs d c)

/-- **C11_only_members**: whatever a generator yields is an element of the sequence at that
moment (and the generator is then parked on that element's live box). -/
theorem C11_only_members {s : LSet} (h : WF s) (d : Dir) (c c' : Cursor) (v : Nat) (hc : c.Valid s)
    (hy : iterNext s d c = (c', .yield v)) : v ∈ toList s ∧ c'.Valid s := by
  obtain ⟨bs, hi⟩ := h
  obtain ⟨t, ht, rfl, hv⟩ := hi.iterNext_yield d hc hy
  exact ⟨(hi.mem_toList v).2 ⟨t, ht, hv⟩, (hi.live t ht).2.1⟩

/-- **C11_getitem_len_contains**: `len`, `x[i]` for every integer `i` (negative from the end,
out of range raises) and `in` describe the current sequence. -/
theorem C11_getitem_len_contains {s : LSet} (h : WF s) :
    len s = some (toList s).length ∧
    (∀ i : Int, getItem s i =
      if 0 ≤ i ∧ i < (toList s).length then (toList s)[i.toNat]?
      else if -((toList s).length : Int) ≤ i ∧ i < 0 then (toList s)[(i + (toList s).length).toNat]?
      else none) ∧
    (∀ v, contains s v = true ↔ v ∈ toList s) ∧
    toListRev s = (toList s).reverse := by
  obtain ⟨bs, hi⟩ := id h
  have hL := hi.toList_eq
  have hR : toListRev s = (toList s).reverse := by rw [hi.toListRev_eq, hL]
  have hn : (toList s).length = s.length := by rw [hL, hi.len]; simp
  refine ⟨by simp [len, hi.ilen, hi.len, hL], fun i => ?_, fun v => by simp [contains], hR⟩
  rw [getItem_eq h, hR, hn]
  by_cases h1 : i ≥ (s.length : Int) ∨ i < -(s.length : Int)
  · rw [if_pos h1, if_neg (by omega), if_neg (by omega)]
  · rw [if_neg h1]
    by_cases h2 : i < 0
    · rw [if_pos h2, if_neg (by omega), if_pos (by omega), List.getElem?_reverse (by rw [hn]; omega)]
      congr 1
      rw [hn]; omega
    · rw [if_neg h2, if_pos (by omega)]

/-! ### slices -/

/-- **C11_getslice**: `x[start:stop:step]` (any combination of missing, negative and out-of-range
bounds, any step) is `tuple(x)[start:stop:step]` of the current sequence (first conjunct: so the model
defines it): it raises exactly for step
0, and otherwise is `[L[a + j * k] | j < cnt]` where `(a, k, cnt)` is `slice.indices(len(x))` with
its count - every selected position lies inside the sequence, nothing is dropped or repeated. -/
theorem C11_getslice {s : LSet} (h : WF s) (st sp step : Option Int) :
    getSlice s st sp step = pySlice (toList s) st sp step ∧
    len s = some (toList s).length ∧
    (getSlice s st sp step = none ↔ step = some 0) ∧
    ∀ a k cnt, sliceIndices (toList s).length st sp step = some (a, k, cnt) →
      ∃ res, getSlice s st sp step = some res ∧ res.length = cnt ∧
        ∀ j, j < cnt → res[j]? = (toList s)[(a + j * k).toNat]? ∧ (a + j * k).toNat < (toList s).length :=
  ⟨rfl, (C11_getitem_len_contains h).1, (pySlice_spec (toList s) st sp step).1,
    (pySlice_spec (toList s) st sp step).2⟩

/-! ### tombstones -/

/-- **C11_tombstone_frozen**: an erased box is never written again, by any operation (so a
generator parked on it keeps reading the pointers the box had when it was erased). -/
theorem C11_tombstone_frozen {s : LSet} (h : WF s) (op : Op) (b : Nat) (hb0 : b ≠ 0)
    (hb : b < size s) (hv : val s b = none) : box (apply s op).1 b = box s b := by
  obtain ⟨bs, hi⟩ := h
  exact (frozen_apply hi op).2 b hb0 hb hv

/-- **C11_tombstone_order**: the stored `next` / `prev` of an erased box is the root, a live box,
or a box erased strictly later (ghost erase stamps) — the well-founded order behind
`C11_terminates`. -/
theorem C11_tombstone_order {s : LSet} (h : WF s) (b : Nat) (hb0 : b ≠ 0) (hb : b < size s)
    (hv : val s b = none) :
    (nx s b = 0 ∨ (val s (nx s b)).isSome ∨ stp s b < stp s (nx s b)) ∧
    (pv s b = 0 ∨ (val s (pv s b)).isSome ∨ stp s b < stp s (pv s b)) ∧
    nx s b < size s ∧ pv s b < size s := by
  obtain ⟨bs, hi⟩ := h
  have hbs : b ∉ bs := by
    intro hm; have := (hi.live b hm).2.2; rw [hv] at this; simp at this
  obtain ⟨t1, t2⟩ := hi.tomb b hb hb0 hbs
  have hbd := hi.bound b hb
  refine ⟨?_, ?_, hbd.1, hbd.2.1⟩
  · rcases t1 with t | t | t
    · exact Or.inl t
    · exact Or.inr (Or.inl (hi.live _ t).2.2)
    · exact Or.inr (Or.inr t)
  · rcases t2 with t | t | t
    · exact Or.inl t
    · exact Or.inr (Or.inl (hi.live _ t).2.2)
    · exact Or.inr (Or.inr t)

/-! ### the English clauses -/

/-- **C11_next_rest**: a `next()` yields the first element of what the generator had left and
leaves the remainder; StopIteration exactly when nothing is left. -/
theorem C11_next_rest {s : LSet} (h : WF s) (d : Dir) (c : Cursor) (hc : c.Valid s) :
    rest s d c = match (iterNext s d c).2 with
      | .yield v => v :: rest s d (iterNext s d c).1
      | _ => [] := by
  obtain ⟨bs, hi⟩ := h
  exact hi.next_rest d c hc

/-- **C11_untouched_step**: an edit leaves every element it does not touch (insert / move /
remove) where it was in what *any* generator still has to yield: same multiplicity, same order. -/
theorem C11_untouched_step {s : LSet} (h : WF s) (op : Op) (d : Dir) (c : Cursor) (hc : c.Valid s) :
    untouched (touched op) (rest (apply s op).1 d c) = untouched (touched op) (rest s d c) :=
  untouched_step h op d c hc

/-- **C11_resume_current**: when the node a generator is parked on is removed or moved — by any
operation that touches only that node: `remove x`, `append x` (move to the end),
`insert_after(a, [x])` / `insert_before(a, [x])` (move next to any anchor) — then, apart from
possibly meeting `x` again at its new place, the generator still yields exactly what followed
`x` at its original place, in the same order. -/
theorem C11_resume_current {s : LSet} (h : WF s) (d : Dir) (b x : Nat) (hb : val s b = some x)
    (hbv : (Cursor.at b).Valid s) (op : Op) (ht : touched op = [x]) :
    untouched [x] (rest (apply s op).1 d (.at b)) = rest s d (.at b) := by
  have u := C11_untouched_step h op d (.at b) hbv
  rw [ht] at u
  rw [u]
  obtain ⟨bs, hi⟩ := h
  have hx := hi.current_not_in_rest d hb
  simp only [untouched]
  apply List.filter_eq_self.2
  intro y hy
  have : y ≠ x := by rintro rfl; exact hx hy
  simpa using this

/-- **C11_untouched_exactly_once_in_order**: over any history of edits and `next()` calls, what a
generator has yielded followed by what it still has to yield, restricted to the elements no edit
touched, is what it had to yield at the start restricted in the same way.  For a generator
created by `iter()` (`c = notStarted`, `rest = toList`) and run to exhaustion (`rest = []` at the
end) this is: every node present at the start and never touched is yielded exactly once, in
graph order (reversed order for `reversed()`). -/
theorem C11_untouched_exactly_once_in_order (d : Dir) (es : List Ev) :
    ∀ {s : LSet} (_ : WF s) (c : Cursor) (_ : c.Valid s),
      let r := runHist d s c es
      WF r.1 ∧ r.2.1.Valid r.1 ∧
      untouched (touchedRun d s c es) (r.2.2 ++ rest r.1 d r.2.1) =
        untouched (touchedRun d s c es) (rest s d c) := by
  induction es with
  | nil => intro s h c hc; exact ⟨h, hc, by simp [runHist]⟩
  | cons e es ih =>
    intro s h c hc
    cases e with
    | op o =>
      obtain ⟨_, _, r3⟩ := C11_refine_step h o d c hc
      obtain ⟨w, v, u⟩ := ih (C11_rep_step h o) c r3
      refine ⟨w, v, ?_⟩
      simp only [runHist, touchedRun] at u ⊢
      cases hfl : (apply s o).2 with
      | true =>
        simp only [if_true]
        have u1 := untouched_mono (T' := touched o ++ touchedRun d (apply s o).1 c es)
          (fun x hx => by simp [hx]) u
        have u2 := untouched_mono (T' := touched o ++ touchedRun d (apply s o).1 c es)
          (fun x hx => by simp [hx]) (C11_untouched_step h o d c hc)
        rw [u1, u2]
      | false =>
        have e := apply_raised_unchanged h o hfl
        simp only [Bool.false_eq_true, if_false, List.nil_append]
        rw [e] at u ⊢
        exact u
    | next =>
      simp only [touchedRun]
      rcases h.iterNext_cases d hc with ⟨hres, hnr⟩ | ⟨c', x, hres, hnr, -, hv', -⟩
      · obtain ⟨w, v, u⟩ := ih h .done h.root_valid
        simp only [runHist, hres] at u ⊢
        exact ⟨w, v, by rw [u, hnr, rest_done]⟩
      · obtain ⟨w, v, u⟩ := ih h c' hv'
        simp only [runHist, hres] at u ⊢
        refine ⟨w, v, ?_⟩
        rw [hnr, List.cons_append]
        simp only [untouched, List.filter_cons] at u ⊢
        rw [u]

/-- **C11_spec_rest_remove / insert / resume** (abstract machine, split form `A ++ x :: B`):
removing `x` removes exactly `x` from what every cursor still yields; inserting a new `x` adds at
most `x`, and it is seen exactly when it lands after the cursor's position (`Spec.seen`); a
cursor whose current element is removed continues with the element that followed it. -/
theorem C11_spec_rest_remove (A B : List Nat) (x : Nat) (hnd : (A ++ x :: B).Nodup) (d : Dir)
    (c : Spec.ACur) (hc : c.InRange (A ++ x :: B)) :
    Spec.rest (A ++ B) d (Spec.curRemove d A.length c) = (Spec.rest (A ++ x :: B) d c).erase x :=
  (Spec.rest_removeIdx A B x hnd d c hc).1

theorem C11_spec_rest_insert (A B : List Nat) (x : Nat) (hx : x ∉ A ++ B) (d : Dir) (c : Spec.ACur)
    (hc : c.InRange (A ++ B)) :
    (Spec.rest (A ++ x :: B) d (Spec.curInsert d A.length c)).erase x = Spec.rest (A ++ B) d c ∧
    (x ∈ Spec.rest (A ++ x :: B) d (Spec.curInsert d A.length c) ↔ Spec.seen d A.length c) :=
  ⟨(Spec.rest_insertIdx A B x hx d c hc).1, (Spec.rest_insertIdx A B x hx d c hc).2.2⟩

theorem C11_spec_resume (A B : List Nat) :
    Spec.rest (A ++ B) .fwd (Spec.curRemove .fwd A.length (.att (A.length + 1))) = B ∧
    Spec.rest (A ++ B) .rev (Spec.curRemove .rev A.length (.att A.length)) = A.reverse := by
  simp [Spec.curRemove, Spec.rest]

/-! ### recursive iteration (`traversal.RecursiveGraphIterator`)

`WorldWF w`: every node container satisfies `WF`.  `Ranked w d rk`: the nesting is well founded —
`rk` decreases from a graph to every subgraph entered from one of its nodes ("a graph is not
nested in itself").  `StackOK w d rk st`: every frame's cursor refers to a box of its graph and
the subgraphs it still has to enter have smaller rank; it holds for a fresh iterator and is
preserved by `next()` and by edits of the node sequences (attributes are not edited). -/

theorem C11_rec_start {w : RWorld} (hw : WorldWF w) (d : Dir) (rk : Nat → Nat) (g : Nat) :
    StackOK w d rk (recStart g) := by
  intro fr hfr
  simp only [recStart, List.mem_singleton] at hfr
  subst hfr
  exact frameOK_fresh w d rk g hw

/-- **C11_rec_only_members**: every node a `next()` on the recursive iterator yields is, at that
moment, a member of the graph it is yielded from (the graph whose generator produced it); the
stack stays consistent. -/
theorem C11_rec_only_members {w : RWorld} {d : Dir} {rk : Nat → Nat} (hw : WorldWF w)
    (hr : Ranked w d rk) {st : List RFrame} (ok : StackOK w d rk st) (f : Nat) :
    StackOK w d rk (recNext w d f st).1 ∧
    ∀ g v, Out.yield g v ∈ (recNext w d f st).2.1 → v ∈ toList (w.setOf g) :=
  recNext_ok hw hr f st ok

/-- **C11_rec_terminates**: with no further edits and a well-founded nesting, the recursive
iterator — in any consistent state, however its frames are parked — runs to StopIteration: there
is one output stream `outs` such that the drain returns `(outs, stop)` (never `raised`) for every
step bound `f ≥ 2 * outs.length + st.length + 1`, and every single `next()` with such a bound
returns a yield or StopIteration. -/
theorem C11_rec_terminates {w : RWorld} {d : Dir} {rk : Nat → Nat} (hw : WorldWF w)
    (hr : Ranked w d rk) {st : List RFrame} (ok : StackOK w d rk st) :
    ∃ outs, ∀ f, 2 * outs.length + st.length + 1 ≤ f →
      recDrain w d f st = (outs, .stop) ∧
      ((recNext w d f st).2.2 = .stop ∨ ∃ v, (recNext w d f st).2.2 = .yield v) := by
  obtain ⟨K, hK⟩ := exists_rank_bound rk st
  obtain ⟨outs, hs⟩ := steps_stack_exhausts hw hr K st ok hK
  obtain ⟨n, hn⟩ := hs.drain_stop rfl
  refine ⟨outs, fun f hf => ?_⟩
  rw [recDrain_eq, recNext_eq]
  have hb := recDrain_bound w d n st outs (hn n (Nat.le_refl _))
  have hf' := drainBy_mono hb (by have := lastCount_le st; omega : 2 * outs.length + lastCount st + 1 ≤ f)
  exact ⟨hf', nextBy_of_drain f st outs hf'⟩

/-- **C11_rec_preorder**: with no edits, a fresh `RecursiveGraphIterator(g)` produces exactly the
pre-order stream `specTop` — `enter g`, then each node of `g` in order (reverse order for
`reverse=True`) immediately followed by the predicate call and, unless it returns False, by the
complete visit of each of its subgraphs in attribute order (`GRAPHS` lists reversed for
`reverse=True`), then `exit g` — within `2 * (length of that stream) + 2` steps. -/
theorem C11_rec_preorder {w : RWorld} {d : Dir} {rk : Nat → Nat} (hw : WorldWF w)
    (hr : Ranked w d rk) (k g : Nat) (hk : rk g ≤ k) :
    ∀ f, 2 * (specTop w d k g).length + 2 ≤ f → recDrain w d f (recStart g) = (specTop w d k g, .stop) := by
  obtain ⟨n, hn⟩ := (steps_top hw hr k g hk).drain_stop rfl
  intro f hf
  rw [recDrain_eq]
  have hb := recDrain_bound w d n _ _ (hn n (Nat.le_refl _))
  have hl : lastCount (recStart g) ≤ 1 := by
    have := lastCount_le (recStart g)
    simpa [recStart] using this
  exact drainBy_mono hb (by omega)

/-- **C11_rec_history**: over any history of `next()` calls and edits of the node sequences of the
graphs (nesting fixed: attributes are not edited; every inserted node belongs to the graph it is
inserted into, `home`), starting from any consistent state (e.g. a fresh iterator,
`C11_rec_start`): every `next()` yields only current members of the graph it yields from, and at
the end the world and the iterator are consistent again and the nesting is still well founded
(`Ranked` is re-established — it follows from the static `StaticRanked` and `Homed`, which edits
preserve), so `C11_rec_terminates` applies to the final state. -/
theorem C11_rec_history (d : Dir) (fuel : Nat) (rk home : Nat → Nat) (es : List REv) (w : RWorld)
    (st : List RFrame) (hw : WorldWF w) (hh : Homed w home) (hs : StaticRanked w d rk home)
    (ok : StackOK w d rk st) (adm : Admissible w.sets.length home es) :
    RecHistInv d fuel rk home w st es :=
  rec_history d fuel rk home es w st hw hh hs ok adm

/-- **C11_rec_refine_step**: an edit of the node sequence of graph `g` keeps the world and every
iterator stack consistent, and every frame parked in `g` — at any depth of any recursive
iterator — follows the list-with-gaps machine (`C11_refine_step` per level); frames of other
graphs are untouched. -/
theorem C11_rec_refine_step {w : RWorld} {d : Dir} {rk : Nat → Nat} (hw : WorldWF w)
    {st : List RFrame} (ok : StackOK w d rk st) (g : Nat) (op : Op) (hg : g < w.sets.length) :
    WorldWF (w.applyAt g op).1 ∧ StackOK (w.applyAt g op).1 d rk st ∧
    ∀ fr ∈ st,
      (fr.g = g → abs ((w.applyAt g op).1.setOf g) d fr.c = (Spec.apply (abs (w.setOf g) d fr.c) op).1) ∧
      (fr.g ≠ g → (w.applyAt g op).1.setOf fr.g = w.setOf fr.g) := by
  have hsame := setOf_applyAt_same w g op hg
  obtain ⟨hw', ok'⟩ := applyAt_ok hw ok g op
  refine ⟨hw', ok', ?_⟩
  · intro fr hfr
    have okf := ok fr hfr
    refine ⟨?_, fun hne => setOf_applyAt_other w g fr.g op hne⟩
    intro hfg
    rw [hsame]
    exact (C11_refine_step (hw.setOf g) op d fr.c (by rw [← hfg]; exact okf.valid)).1


/-! ### the rank function is derived from a decidable predicate on the nesting

`RWorld.acyclic w d` (Model/LinkedSet.lean, a `Bool`, evaluated by the driver on every generated
case): the height of every graph in the nesting through the present members does not change when
one more level is explored, i.e. no graph is nested in itself.  `RWorld.acyclicStatic w d home`:
the same for the static nesting (subgraphs hanging under the nodes whose home graph is `g`, member
or not), `RWorld.homedOk w home`: every node is a member of its home graph only.  The theorems
below are `C11_rec_terminates` / `C11_rec_preorder` / `C11_rec_history` with the rank function
instantiated by the height and the `Ranked` / `StaticRanked` / `Homed` hypotheses discharged, so
that no rank function is assumed.  A subgraph shared by two nodes does not violate `acyclic`: it
is visited once per attribute position (the `example` below); a graph nested in itself violates it
and the model then never finishes (`C11_rec_selfnest_diverges`). -/

/-- **C11_rec_acyclic_ranked**: the height is a rank function for the current nesting. -/
theorem C11_rec_acyclic_ranked {w : RWorld} {d : Dir} (ha : w.acyclic d = true) :
    Ranked w d (w.hgt d) ∧ ∀ g, w.hgt d g ≤ w.sets.length :=
  ⟨ranked_of_acyclic ha, fun g => hgtG_le _ _ g⟩

/-- **C11_rec_static_ranked**: the same for the static nesting and the home-graph assignment. -/
theorem C11_rec_static_ranked {w : RWorld} {d : Dir} {home : Nat → Nat}
    (ha : w.acyclicStatic d home = true) (hh : w.homedOk home = true) :
    StaticRanked w d (w.shgt d home) home ∧ Homed w home ∧ Ranked w d (w.shgt d home) :=
  ⟨static_ranked_of_acyclic ha, homed_of_ok hh,
    ranked_of_static (homed_of_ok hh) (static_ranked_of_acyclic ha)⟩

/-- **C11_rec_terminates_acyclic** (`C11_rec_terminates` without an assumed rank function):
when no graph is nested in itself, a fresh recursive iterator on any graph, with no further edits,
runs to StopIteration within the stated number of steps and every `next()` returns a yield or
StopIteration. -/
theorem C11_rec_terminates_acyclic {w : RWorld} {d : Dir} (hw : WorldWF w) (ha : w.acyclic d = true)
    (g : Nat) :
    ∃ outs, ∀ f, 2 * outs.length + 2 ≤ f →
      recDrain w d f (recStart g) = (outs, .stop) ∧
      ((recNext w d f (recStart g)).2.2 = .stop ∨ ∃ v, (recNext w d f (recStart g)).2.2 = .yield v) := by
  obtain ⟨outs, h⟩ := C11_rec_terminates hw (ranked_of_acyclic ha) (C11_rec_start hw d (w.hgt d) g)
  exact ⟨outs, fun f hf => h f (by simpa [recStart] using hf)⟩

/-- the same from any consistent state of the iterator (frames parked anywhere) -/
theorem C11_rec_terminates_acyclic_any {w : RWorld} {d : Dir} (hw : WorldWF w) (ha : w.acyclic d = true)
    {st : List RFrame} (ok : StackOK w d (w.hgt d) st) :
    ∃ outs, ∀ f, 2 * outs.length + st.length + 1 ≤ f →
      recDrain w d f st = (outs, .stop) ∧
      ((recNext w d f st).2.2 = .stop ∨ ∃ v, (recNext w d f st).2.2 = .yield v) :=
  C11_rec_terminates hw (ranked_of_acyclic ha) ok

/-- **C11_rec_preorder_acyclic** (`C11_rec_preorder` without an assumed rank function): when no graph is nested in itself,
a fresh iterator with no edits produces exactly the pre-order stream, explored to depth
`number of graphs`. -/
theorem C11_rec_preorder_acyclic {w : RWorld} {d : Dir} (hw : WorldWF w) (ha : w.acyclic d = true)
    (g : Nat) :
    ∀ f, 2 * (specTop w d w.sets.length g).length + 2 ≤ f →
      recDrain w d f (recStart g) = (specTop w d w.sets.length g, .stop) :=
  C11_rec_preorder hw (ranked_of_acyclic ha) w.sets.length g (hgtG_le _ _ g)

/-- **C11_rec_history_acyclic** (`C11_rec_history` without an assumed rank function): the hypotheses on the nesting are
the two decidable predicates. -/
theorem C11_rec_history_acyclic (d : Dir) (fuel : Nat) (home : Nat → Nat) (es : List REv) (w : RWorld)
    (st : List RFrame) (hw : WorldWF w) (hh : w.homedOk home = true)
    (ha : w.acyclicStatic d home = true) (ok : StackOK w d (w.shgt d home) st)
    (adm : Admissible w.sets.length home es) :
    RecHistInv d fuel (w.shgt d home) home w st es :=
  C11_rec_history d fuel _ home es w st hw (homed_of_ok hh) (static_ranked_of_acyclic ha) ok adm

/-- a graph nested in itself: graph 0 = [1], node 1 carries graph 0 as an attribute -/
def selfWorld : RWorld := ⟨[(extend empty [1]).1], [(1, [.graph 0])], none⟩

/-- **C11_rec_selfnest_diverges**: on a graph nested in itself the predicate is false and the model
of the iterator never finishes: whatever the step bound, the drain ends by exhausting it (the real
iterator yields the same node again and again until CPython's recursion limit is hit: the harness
observes RecursionError after 332 yields with the default limit). -/
theorem C11_rec_selfnest_diverges :
    selfWorld.acyclic .fwd = false ∧ ∀ f, (recDrain selfWorld .fwd f (recStart 0)).2 = .fuel := by
  refine ⟨by decide, ?_⟩
  have key : ∀ f (rest : List RFrame) (fr : RFrame),
      (fr = RFrame.fresh 0 ∨ fr = ⟨0, .at 1, some 1, []⟩ ∨ fr = ⟨0, .at 1, none, [0]⟩) →
      (recDrain selfWorld .fwd f (fr :: rest)).2 = .fuel := by
    intro f
    induction f with
    | zero => intro rest fr _; rfl
    | succ f ih =>
      intro rest fr h
      rcases h with rfl | rfl | rfl
      · have e : recStep selfWorld .fwd (RFrame.fresh 0 :: rest) =
            (⟨0, .at 1, some 1, []⟩ :: rest, [Out.enter 0, Out.yield 0 1], some (.yield 1)) := by
          have : iterNext (selfWorld.setOf 0) .fwd .notStarted = (.at 1, .yield 1) := by decide
          simp [recStep, RFrame.fresh, this]
        simp only [recDrain, e]
        exact ih rest _ (Or.inr (Or.inl rfl))
      · have e : recStep selfWorld .fwd (⟨0, .at 1, some 1, []⟩ :: rest) =
            (⟨0, .at 1, none, [0]⟩ :: rest, [], none) := by
          simp [recStep, selfWorld, RWorld.recurse, RWorld.visit, RWorld.attrsOf]
        simp only [recDrain, e]
        exact ih rest _ (Or.inr (Or.inr rfl))
      · have e : recStep selfWorld .fwd (⟨0, .at 1, none, [0]⟩ :: rest) =
            (RFrame.fresh 0 :: ⟨0, .at 1, none, []⟩ :: rest, [Out.enter 0], none) := by
          simp [recStep]
        simp only [recDrain, e]
        exact ih _ _ (Or.inl rfl)
  intro f
  exact key f [] _ (Or.inl rfl)


/-! ### recursive iteration while node attributes are edited (`Model/Traversal.lean`)

The finer model of `RecursiveGraphIterator`: `_iterate_subgraphs(node)` walks a CPython dict
iterator over `node.attributes`, created when the generator is resumed after `yield node`; every
attribute is read only when the previous subgraph has been iterated to its end.  Events of a
history: `next()`, edits of node sequences, `node.attributes[k] = attr`, `del node.attributes[k]`. -/

/-- **C11_trav_start**: a fresh iterator is consistent and in step. -/
theorem C11_trav_start {w : TWorld} (hw : TWorldWF w) (g : Nat) :
    TStackOK w (tStart g) ∧ ∀ fr ∈ tStart g, fr.synced w = true := by
  constructor
  · intro fr hfr
    simp only [tStart, List.mem_singleton] at hfr
    subst hfr; exact tframeOK_fresh hw g
  · intro fr hfr
    simp only [tStart, List.mem_singleton] at hfr
    subst hfr; rfl

/-- **C11_trav_only_members**: whatever the nesting (cyclic, shared) and whatever the state of the
attribute dicts, every node a `next()` yields is at that moment a member of the graph it is yielded
from, and the stack stays consistent. -/
theorem C11_trav_only_members {w : TWorld} {d : Dir} (hw : TWorldWF w) {st : List TFrame}
    (ok : TStackOK w st) (f : Nat) :
    TStackOK w (tNext w d f st).1 ∧
    ∀ g v, Out.yield g v ∈ (tNext w d f st).2.1 → v ∈ toList (w.setOf g) :=
  tNext_ok hw f st ok

/-- **C11_trav_history**: along every history of `next()` calls, edits of node sequences and edits
of node attributes (any node: before, at or after the position of the iterator), every `next()`
yields only current members, and world and stack stay consistent. -/
theorem C11_trav_history (d : Dir) (fuel : Nat) (es : List TEv) (w : TWorld) (st : List TFrame)
    (hw : TWorldWF w) (ok : TStackOK w st) : THistInv d fuel w st es :=
  thistory d fuel es w st hw ok

/-- **C11_trav_remaining** (termination and the exact remaining stream, attribute edits included):
no graph nested in itself, every dict iterator in step: the iterator - parked anywhere, after any
history - runs to StopIteration and produces exactly `tStackSpec`. -/
theorem C11_trav_remaining {w : TWorld} {d : Dir} (hw : TWorldWF w) (ha : w.acyclic d = true)
    {st : List TFrame} (ok : TStackOK w st) (hs : ∀ fr ∈ st, fr.synced w = true) :
    ∃ n, ∀ f, n ≤ f →
      tDrain w d f st = (tStackSpec (tVisit w d (w.sets.length + 1)) w d st, .stop) :=
  (tsteps_stack hw ha st ok hs).drain_all

/-- **C11_trav_preorder**: a fresh iterator with no edits produces the pre-order stream over the
current attributes. -/
theorem C11_trav_preorder {w : TWorld} {d : Dir} (hw : TWorldWF w) (ha : w.acyclic d = true) (g : Nat) :
    ∃ n, ∀ f, n ≤ f → tDrain w d f (tStart g) =
      (Out.enter g :: tLoop (tVisit w d (w.sets.length + 1)) w d g (rest (w.setOf g) d .notStarted), .stop) := by
  obtain ⟨n, h⟩ := C11_trav_remaining hw ha (C11_trav_start hw g).1 (C11_trav_start hw g).2
  refine ⟨n, fun f hf => ?_⟩
  rw [h f hf]
  simp [tStart, tStackSpec, tFrameSpec, TFrame.fresh, tPop]

/-- **C11_trav_attached_later_visited**: a subgraph attached (`node.attributes[k] = attr`, `attr` a
GRAPH or GRAPHS attribute naming `h`) to a node `v` that the frame `fr` of the iterator has not
yielded yet - or has just yielded, its attributes not read yet - is visited: the complete visit
`V h` is a contiguous part of the specification stream `tStackSpec` of the edited world.  This is a
statement about that stream only: that the iterator then produces it is `C11_trav_remaining` in the
edited world, whose hypotheses (`acyclic`, every frame `synced`) the reader still has to discharge
there. -/
theorem C11_trav_attached_later_visited (V : Nat → List Out) (w : TWorld) (d : Dir) (st : List TFrame)
    (fr : TFrame) (hfr : fr ∈ st) (v k h : Nat) (a : AVal) (ha : h ∈ a.graphsOf d)
    (hv : v ∈ rest (w.setOf fr.g) d fr.c ∨ fr.mode = .last v) (hr : w.recurse v = true) :
    V h <:+: tStackSpec V (w.setAttr v k a) d st := by
  let w' := w.setAttr v k a
  have hvis : h ∈ w'.visit d v := by
    simp only [TWorld.visit, List.mem_flatMap]
    refine ⟨(k, a), ?_, ha⟩
    show (k, a) ∈ (w'.dictOf v).live
    rw [show w'.dictOf v = (w.dictOf v).set k a from dictOf_setDict_self w v _]
    exact mem_live_set _ k a
  have hr' : w'.recurse v = true := hr
  have hfrm : V h <:+: tFrameSpec V w' d fr := by
    rcases hv with hv | hv
    · have h2 : V h <:+: Out.yield fr.g v :: tAfter V w' d v := by
        obtain ⟨s, t, e⟩ := infix_tAfter V w' d v h hr' hvis
        exact ⟨Out.yield fr.g v :: s, t, by simp [← e]⟩
      unfold tFrameSpec
      exact (h2.trans (infix_tLoop_of_mem V w' d fr.g hv)).trans (List.suffix_append _ _).isInfix
    · have h2 := infix_tAfter V w' d v h hr' hvis
      unfold tFrameSpec
      simp only [hv]
      exact h2.trans ((List.prefix_append _ _).trans (List.prefix_append _ _)).isInfix
  exact hfrm.trans (infix_tStackSpec V w' d hfr)

/-- **C11_trav_attr_edit_agree**: an attribute edit changes nothing but the attribute dict of the
edited node. -/
theorem C11_trav_attr_edit_agree (w : TWorld) (v k : Nat) (a : AVal) :
    AgreeOff v w (w.setAttr v k a) ∧ AgreeOff v w (w.delAttr v k).1 :=
  ⟨agreeOff_setAttr w v k a, agreeOff_delAttr w v k⟩

/-- **C11_trav_finished_not_visited**: whatever is done to the attributes of a node `v0` that no
frame of the iterator is going to resume or yield any more (it is not the node a frame has just
yielded or is expanding, not among the nodes a frame still has to yield, and not yielded inside any
subgraph still to be visited: all decidable on the remaining stream) - attaching subgraphs to it,
replacing, deleting - leaves the remaining stream exactly as it was: a subgraph attached to an
already finished node is not visited. -/
theorem C11_trav_finished_not_visited {v0 : Nat} {w w' : TWorld} (h : AgreeOff v0 w w') (d : Dir) (k : Nat) :
    ∀ (st : List TFrame), (∀ fr ∈ st, v0 ∉ fr.ownNodes w d) →
      (∀ g, Out.yield g v0 ∉ tStackSpec (tVisit w d k) w d st) →
      tStackSpec (tVisit w' d k) w' d st = tStackSpec (tVisit w d k) w d st := by
  intro st hown hno
  simp only [← tPrefixSpec_nil] at hno ⊢
  exact tPrefixSpec_local h d k [] st hown hno

/-- **C11_trav_detached_runs_to_end**: let the innermost frames `top` of the stack be iterating a
subgraph (and what is nested in it) that hangs under node `v0` of a frame further down, and let the
attributes of `v0` be edited in any way - the subgraph detached by deleting or replacing the
attribute.  Then in the edited world the frames `top` run to the end of their generators and
produce exactly the stream they would have produced without the edit, and control returns to the
frames below (where the dict iterator over `v0`'s attributes continues - or raises, if a key was
added or deleted). -/
theorem C11_trav_detached_runs_to_end {v0 : Nat} {w w' : TWorld} (h : AgreeOff v0 w w') (d : Dir)
    (hw : TWorldWF w) (ha : w'.acyclic d = true) (top below : List TFrame) (ok : TStackOK w top)
    (hs : ∀ fr ∈ top, fr.synced w = true) (hown : ∀ fr ∈ top, v0 ∉ fr.ownNodes w d)
    (hno : ∀ g, Out.yield g v0 ∉ tPrefixSpec (tVisit w d (w.sets.length + 1)) w d below top) :
    TSteps w' d (top ++ below) (tPrefixSpec (tVisit w d (w.sets.length + 1)) w d below top) below := by
  have := tsteps_prefix (h.wf hw) ha below top (h.stackOK ok)
    (fun fr hfr => h.synced d (hown fr hfr) (hs fr hfr))
  rw [h.sets, tPrefixSpec_local h d _ below top hown hno] at this
  exact this

/-! ### the acyclicity predicates are complete

`C11_rec_acyclic_ranked` / `C11_rec_static_ranked` / `C11_trav_remaining` use the decidable predicates
as *sufficient* conditions.  They are also necessary: a predicate is false exactly when some graph is
nested in itself (`Nested kids g g`: `g` is entered, through one or more levels, from one of its own
nodes).  Pigeonhole: an unstable height means a nesting chain with more links than there are graphs
that have subgraphs at all (Lemmas/LinkedSetCycle.lean). -/

/-- **C11_rec_acyclic_complete**: `RWorld.acyclic` is false iff a graph is nested in itself through
present members. -/
theorem C11_rec_acyclic_complete (w : RWorld) (d : Dir) :
    w.acyclic d = false ↔ ∃ g, Nested (w.kids d) g g :=
  racyclic_complete w d

/-- **C11_rec_static_complete**: the same for the static nesting (home graphs). -/
theorem C11_rec_static_complete (w : RWorld) (d : Dir) (home : Nat → Nat) :
    w.acyclicStatic d home = false ↔ ∃ g, Nested (w.skids d home) g g :=
  sstatic_complete w d home

/-- **C11_trav_acyclic_complete**: the same for the world with editable attributes. -/
theorem C11_trav_acyclic_complete (w : TWorld) (d : Dir) :
    w.acyclic d = false ↔ ∃ g, Nested (w.kids d) g g :=
  tacyclic_complete w d

/-! ### the two models of the recursive iterator agree while attributes are not edited

`TFrame.toR` maps a frame of the lazily reading machine to the frame of the machine that reads all
attributes of a node at once (`pending` = rest of the `GRAPHS` tuple being walked, then the subgraphs
of the dict entries not reached yet).  Under this map every `next()` and every drain of the fine
model - with in-step dict iterators, which is what a history without attribute edits maintains, and
as long as the step bound is not exhausted - is literally the same `next()` / drain of the coarse
model on `w.toR` with the same step bound: same events, same result, corresponding stacks.  Hence
every theorem about `recNext` / `recDrain` on `w.toR` (`C11_rec_only_members`, `C11_rec_history`,
`C11_rec_preorder_acyclic`, ...) is a theorem about `tNext` / `tDrain` on such histories, and the
hypotheses and specifications coincide (`C11_trav_rec_same_spec`). -/

theorem C11_trav_refines_rec_next (w : TWorld) (d : Dir) (f : Nat) (st : List TFrame)
    (hs : ∀ fr ∈ st, fr.synced w = true) (hf : (tNext w d f st).2.2 ≠ .fuel) :
    (∀ fr ∈ (tNext w d f st).1, fr.synced w = true) ∧
    recNext w.toR d f (st.map (TFrame.toR w d)) =
      ((tNext w d f st).1.map (TFrame.toR w d), (tNext w d f st).2.1, (tNext w d f st).2.2) :=
  tNext_refines w d f st hs hf

theorem C11_trav_refines_rec_drain (w : TWorld) (d : Dir) (f : Nat) (st : List TFrame)
    (hs : ∀ fr ∈ st, fr.synced w = true) (hf : (tDrain w d f st).2 ≠ .fuel) :
    recDrain w.toR d f (st.map (TFrame.toR w d)) = tDrain w d f st :=
  tDrain_refines w d f st hs hf

/-- **C11_trav_refines_rec**: along every history of `next()` calls and edits of node sequences (no
attribute edits), from any state whose dict iterators are in step (e.g. a fresh iterator), the
answers of all `next()` calls - events and result - are those of the coarse model run on the
corresponding history, provided no call exhausts the step bound. -/
theorem C11_trav_refines_rec (d : Dir) (fuel : Nat) (es : List TEv) (w : TWorld) (st : List TFrame)
    (hn : ∀ e ∈ es, e.noAttr = true) (hs : ∀ fr ∈ st, fr.synced w = true)
    (hf : ∀ a ∈ tRunHist d fuel w st es, a.2 ≠ .fuel) :
    recRunHist d fuel w.toR (st.map (TFrame.toR w d)) (es.filterMap TEv.toREv) = tRunHist d fuel w st es :=
  trav_refines_rec d fuel es w st hn hs hf

/-- **C11_trav_rec_same_spec**: the hypotheses and the specifications of the two developments
coincide: same acyclicity predicate, same complete-visit stream, same pre-order stream, and (by
definition of `TFrame.toR`) a fresh iterator maps to a fresh iterator. -/
theorem C11_trav_rec_same_spec (w : TWorld) (d : Dir) (k g : Nat) :
    w.toR.acyclic d = w.acyclic d ∧ specVisit w.toR d k g = tVisit w d k g ∧
    specTop w.toR d k g = Out.enter g :: tLoop (tVisit w d k) w d g (rest (w.setOf g) d .notStarted) ∧
    (tStart g).map (TFrame.toR w d) = recStart g := by
  refine ⟨toR_acyclic w d, toR_specVisit w d k g, ?_, rfl⟩
  have : specVisit w.toR d k = tVisit w d k := funext (toR_specVisit w d k)
  simp only [specTop, this, toR_specLoop, RWorld.nodesOf, toR_setOf]

/-! ### under tree shape every node of the nest is yielded exactly once

`TWorld.treeShape w d g0` (a `Bool`, evaluated by the driver): no graph nested in itself, no node a
member of two graphs, no graph under two attribute positions, the root under none. -/

/-- **C11_trav_nodup**: with no edits, a fresh recursive iterator on the root of a tree-shaped nest
runs to StopIteration and the nodes it yields are pairwise different and are exactly the present
members of the graphs of the nest (the root and every graph nested in it, at any depth, through
nodes on which the `recursive` predicate holds): every node of the nest exactly once. -/
theorem C11_trav_nodup {w : TWorld} {d : Dir} (hw : TWorldWF w) (g0 : Nat) (ht : w.treeShape d g0 = true) :
    ∃ outs n, (∀ f, n ≤ f → tDrain w d f (tStart g0) = (outs, .stop)) ∧ (yieldsOf outs).Nodup ∧
      ∀ v, v ∈ yieldsOf outs ↔ ∃ g, (g = g0 ∨ Nested (w.kids d) g0 g) ∧ v ∈ toList (w.setOf g) := by
  have ha : w.acyclic d = true := by
    simp only [TWorld.treeShape, Bool.and_eq_true] at ht
    exact ht.1.1.1
  have F := forest_of_treeShape hw g0 ht
  obtain ⟨n, hn⟩ := C11_trav_preorder hw ha g0
  refine ⟨_, n, hn, ?_, ?_⟩
  · rw [yieldsOf_top]
    exact preord_nodup F _ g0 (oneDepth_root F)
  · intro v
    rw [yieldsOf_top]
    constructor
    · intro hv
      obtain ⟨j, _, x, r, hx⟩ := mem_preord F.edge _ g0 v hv
      refine ⟨x, ?_, (mem_nodesD hw d x v).1 hx⟩
      cases j with
      | zero => exact Or.inl r.zero_eq
      | succ j => exact Or.inr r.nested
    · rintro ⟨g, hg, hv⟩
      have hx := (mem_nodesD hw d g v).2 hv
      rcases hg with rfl | hg
      · exact preord_mem F.edge _ 0 g g v (by omega) (.zero g) hx
      · obtain ⟨j, r⟩ := hg.reachN
        have hb := hgt_reachN ha r
        have := thgt_le w d g0
        exact preord_mem F.edge _ (j + 1) g0 g v (by omega) r hx

/-! ### the public methods of `node.attributes` are sequences of the two primitive edits

`AMeth` / `AMeth.prims` (Model/Traversal.lean) transcribe `Attributes.__setitem__` / `add` and the
`UserDict` / `MutableMapping` methods `__delitem__`, `update`, `pop`, `popitem`, `clear`, `setdefault`:
which primitive writes on `self.data` each performs, in which order, and when it raises. -/

/-- **C11_trav_meth_reduces**: a method call on the attributes of node `v` is (by definition of
`TWorld.applyMeth`) a sequence of events on `v`, each of which is a
`node.attributes[k] = a` / `del node.attributes[k]` (so `C11_trav_history` covers
histories with method calls, event by event), changes nothing but the attribute dict of `v`
(`AgreeOff`: so `C11_trav_finished_not_visited` / `C11_trav_detached_runs_to_end` apply to the whole
call), and has the documented effect on the dict seen as an insertion-ordered mapping
(`AMeth.effect`: an existing key keeps its place, a new key goes last, `popitem` removes the first
item, `clear` removes everything, `update` stops at the first value that is not an `Attr`,
`pop` / `del` / `popitem` raise `KeyError` and `setitem` / `setdefault` `TypeError` exactly when stated). -/
theorem C11_trav_meth_reduces (w : TWorld) (v : Nat) (m : AMeth) :
    (w.applyMeth v m).1 = ((m.prims (w.dictOf v)).1.map (APrim.toEv v)).foldl TWorld.applyEv w ∧
    (∀ e ∈ (m.prims (w.dictOf v)).1.map (APrim.toEv v), ∃ k, (∃ a, e = .setAttr v k a) ∨ e = .delAttr v k) ∧
    AgreeOff v w (w.applyMeth v m).1 ∧
    (w.applyMeth v m).1.dictOf v = (m.run (w.dictOf v)).1 ∧
    (((w.applyMeth v m).1.dictOf v).live, (w.applyMeth v m).2) = m.effect (w.dictOf v).live := by
  obtain ⟨h1, h2⟩ := foldl_prims_world v (m.prims (w.dictOf v)).1 w
  refine ⟨rfl, ?_, h2, h1, ?_⟩
  · intro e he
    obtain ⟨p, _, rfl⟩ := List.mem_map.1 he
    cases p with
    | set k a => exact ⟨k, Or.inl ⟨a, rfl⟩⟩
    | del k => exact ⟨k, Or.inr rfl⟩
  · have := meth_effect (w.dictOf v) m
    rw [← this]
    exact Prod.ext (congrArg PyDict.live h1) rfl

/-- an event of a history in which `node.attributes` is edited through its public methods -/
inductive TEvM
  | ev (e : TEv)
  | meth (v : Nat) (m : AMeth)

/-- the history of primitive events that a history with method calls is -/
def expandM : TWorld → List TEvM → List TEv
  | _, [] => []
  | w, .ev e :: es => e :: expandM (w.applyEv e) es
  | w, .meth v m :: es =>
      (m.prims (w.dictOf v)).1.map (APrim.toEv v) ++ expandM (w.applyMeth v m).1 es

/-- **C11_trav_meth_history**: along every history of `next()` calls, edits of node sequences and
calls of the public methods of `node.attributes` (any node), every `next()` yields only current
members and world and stack stay consistent. -/
theorem C11_trav_meth_history (d : Dir) (fuel : Nat) (es : List TEvM) (w : TWorld) (st : List TFrame)
    (hw : TWorldWF w) (ok : TStackOK w st) : THistInv d fuel w st (expandM w es) :=
  C11_trav_history d fuel _ w st hw ok

/-! ### with edits of node sequences: nothing outside the touched part is yielded twice

`tAdm X d fuel w st es` (a `Bool`, Model/Traversal.lean): the history `es` consists of `next()` calls
(each returning a node or StopIteration within the step bound) and edits of node sequences whose
touched nodes (inserted / moved / removed) all lie in `X`; in every world passed through no graph is
nested in itself and `X` is closed under "nested below" (`TWorld.closedB`: a complete visit of the
subgraphs of a node of `X` yields nodes of `X` only).  `X` = the nodes that were removed, inserted or
moved, together with everything nested below them. -/

/-- **C11_trav_untouched_once** (the recursive counterpart of `C11_untouched_exactly_once_in_order`):
along an admissible history, from any consistent state with in-step dict iterators, the nodes
yielded so far followed by the nodes still to be yielded (`TWorld.fut`, which by
`C11_trav_remaining` is what the iterator then does), both restricted to the nodes outside `X`, is
exactly what was to be yielded at the start, restricted in the same way: same nodes, same
multiplicity, same order. -/
theorem C11_trav_untouched_once (X : List Nat) (d : Dir) (fuel : Nat) (es : List TEv) (w : TWorld)
    (st : List TFrame) (hw : TWorldWF w) (ok : TStackOK w st) (hs : ∀ fr ∈ st, fr.synced w = true)
    (adm : tAdm X d fuel w st es = true) :
    untouched X ((tRunY d fuel w st es).2.2 ++ (tRunY d fuel w st es).1.fut d (tRunY d fuel w st es).2.1) =
      untouched X (w.fut d st) :=
  (trav_untouched X d fuel es w st hw ok hs adm).2.2.2

/-- **C11_trav_never_twice**: a fresh iterator on the root of a tree-shaped nest, any admissible
history of `next()` calls and edits of node sequences: no node outside `X` is yielded twice - a node
is yielded twice only if it, or a node it is nested below, was removed and inserted again (or
moved); and when the iterator has been run to its end, the nodes outside `X` have been yielded
exactly once each, in the pre-order of the initial nest. -/
theorem C11_trav_never_twice (X : List Nat) (d : Dir) (fuel : Nat) (es : List TEv) (w : TWorld) (g0 : Nat)
    (hw : TWorldWF w) (ht : w.treeShape d g0 = true) (adm : tAdm X d fuel w (tStart g0) es = true) :
    (untouched X (tRunY d fuel w (tStart g0) es).2.2).Nodup ∧
    ((tRunY d fuel w (tStart g0) es).2.1 = [] →
      untouched X (tRunY d fuel w (tStart g0) es).2.2 =
        untouched X (preord (w.nodesD d) (w.subD d) (w.sets.length + 2) g0)) := by
  have F := forest_of_treeShape hw g0 ht
  have hnd : (preord (w.nodesD d) (w.subD d) (w.sets.length + 2) g0).Nodup :=
    preord_nodup F _ g0 (oneDepth_root F)
  have key := C11_trav_untouched_once X d fuel es w (tStart g0) hw (C11_trav_start hw g0).1
    (C11_trav_start hw g0).2 adm
  rw [fut_fresh, untouched_app] at key
  constructor
  · have h2 : (untouched X (preord (w.nodesD d) (w.subD d) (w.sets.length + 2) g0)).Nodup :=
      (List.filter_sublist (l := preord (w.nodesD d) (w.subD d) (w.sets.length + 2) g0)).nodup hnd
    rw [← key] at h2
    exact (List.nodup_append.1 h2).1
  · intro he
    rw [he] at key
    simpa [TWorld.fut, tStackSpec, yieldsOf, untouched] using key

/-! ### the static tree-shape predicate implies the dynamic one

`RWorld.treeShape w.toR home g0` is the static predicate of the coarse model evaluated on the view
`w.toR` of a world with editable attributes: static and current nesting acyclic (forward), no graph
under two of ALL recorded attribute positions - `TWorld.attrs` is an association list read by first
match, an attribute edit prepends the new dict and leaves the old one behind as a stale entry, and
`w.toR` keeps them all -, the root under none, every member in its home graph.  It counts at least the
references `TWorld.treeShape` counts, so it implies it, for either direction, whatever stale entries
there are.  The converse needs the world to have NO stale entries (`TWorld.noStale`: every node recorded
once, so that every recorded attribute entry is a live entry of the node's current dict) and every
recorded dict that names a subgraph to belong to a present member on which the `recursive` predicate
holds (`TWorld.allHung`); then the two predicates are equal. -/

/-- **C11_treeShape_static_dynamic**: the static tree-shape predicate on `w.toR` implies the dynamic
one on `w`, in either direction (no hypothesis on stale entries: they only make the static predicate
stronger); and on a homed world without stale entries whose subgraph-naming dicts are hung the two are
equal. -/
theorem C11_treeShape_static_dynamic {w : TWorld} (hw : TWorldWF w) (home : Nat → Nat) (d : Dir) (g0 : Nat) :
    (w.toR.treeShape home g0 = true → w.treeShape d g0 = true) ∧
    (w.noStale = true → w.allHung = true → w.toR.homedOk home = true →
      w.toR.treeShape home g0 = w.treeShape d g0) :=
  ⟨treeShape_static_dynamic hw home d g0, treeShape_static_eq hw home d g0⟩

/-- **C11_noStale_current**: what `noStale` says: the dict recorded for a node is the node's current
dict, hence every recorded attribute entry is a live entry of it; and recording a dict for node `v`
(what an attribute edit does) keeps the world free of stale entries exactly when `v` was not recorded
before. -/
theorem C11_noStale_current {w : TWorld} (hns : w.noStale = true) :
    (∀ p ∈ w.attrs, w.dictOf p.1 = p.2) ∧
    (∀ p ∈ w.attrs, ∀ e ∈ p.2.live, e ∈ (w.dictOf p.1).live) ∧
    (∀ v dct, (w.setDict v dct).noStale = !(w.attrs.map (·.1)).contains v) := by
  refine ⟨fun p hp => noStale_dictOf hns hp, fun p hp e he => by rw [noStale_dictOf hns hp]; exact he, ?_⟩
  intro v dct
  have hk : (w.attrs.map (·.1)).Nodup := by simpa [TWorld.noStale] using hns
  by_cases hv : v ∈ w.attrs.map (·.1)
  · simp [TWorld.noStale, TWorld.setDict, hv]
  · simp [TWorld.noStale, TWorld.setDict, hv, hk]

/-- **C11_trav_nodup_static**: `C11_trav_nodup` from the static predicate. -/
theorem C11_trav_nodup_static {w : TWorld} {d : Dir} (hw : TWorldWF w) (home : Nat → Nat) (g0 : Nat)
    (ht : w.toR.treeShape home g0 = true) :
    ∃ outs n, (∀ f, n ≤ f → tDrain w d f (tStart g0) = (outs, .stop)) ∧ (yieldsOf outs).Nodup ∧
      ∀ v, v ∈ yieldsOf outs ↔ ∃ g, (g = g0 ∨ Nested (w.kids d) g0 g) ∧ v ∈ toList (w.setOf g) :=
  C11_trav_nodup hw g0 (treeShape_static_dynamic hw home d g0 ht)

/-- **C11_trav_static_admissible**: along a history of `next()` calls and edits of node sequences (no
attribute edits) from a homed world whose static nesting is acyclic, in which every edit addresses an
existing graph and names only nodes whose home graph it is (`tAdmS`, decidable), no graph is nested in
itself in any world passed through: the per-world acyclicity hypothesis of `C11_trav_untouched_once` /
`C11_trav_never_twice` (`tAdm`) follows from the static predicate on the INITIAL world. -/
theorem C11_trav_static_admissible (X : List Nat) (home : Nat → Nat) (d : Dir) (fuel : Nat) (es : List TEv)
    (w : TWorld) (st : List TFrame) (hw : TWorldWF w) (hho : w.toR.homedOk home = true)
    (has : w.toR.acyclicStatic .fwd home = true) (adm : tAdmS X home d fuel w st es = true) :
    tAdm X d fuel w st es = true :=
  tAdm_of_static X home _ d fuel es w st (staticInv_of_ok hw hho has) adm

/-- **C11_trav_untouched_once_static**: `C11_trav_untouched_once` with the acyclicity of the worlds passed
through derived from the static predicate on the initial world. -/
theorem C11_trav_untouched_once_static (X : List Nat) (home : Nat → Nat) (d : Dir) (fuel : Nat) (es : List TEv)
    (w : TWorld) (st : List TFrame) (hw : TWorldWF w) (ok : TStackOK w st) (hs : ∀ fr ∈ st, fr.synced w = true)
    (hho : w.toR.homedOk home = true) (has : w.toR.acyclicStatic .fwd home = true)
    (adm : tAdmS X home d fuel w st es = true) :
    untouched X ((tRunY d fuel w st es).2.2 ++ (tRunY d fuel w st es).1.fut d (tRunY d fuel w st es).2.1) =
      untouched X (w.fut d st) :=
  C11_trav_untouched_once X d fuel es w st hw ok hs (C11_trav_static_admissible X home d fuel es w st hw hho has adm)

/-- **C11_trav_never_twice_static**: `C11_trav_never_twice` from the static tree-shape predicate on the
initial world alone: tree shape of the initial nest and acyclicity of every world passed through both
follow from it. -/
theorem C11_trav_never_twice_static (X : List Nat) (home : Nat → Nat) (d : Dir) (fuel : Nat) (es : List TEv)
    (w : TWorld) (g0 : Nat) (hw : TWorldWF w) (ht : w.toR.treeShape home g0 = true)
    (adm : tAdmS X home d fuel w (tStart g0) es = true) :
    (untouched X (tRunY d fuel w (tStart g0) es).2.2).Nodup ∧
    ((tRunY d fuel w (tStart g0) es).2.1 = [] →
      untouched X (tRunY d fuel w (tStart g0) es).2.2 =
        untouched X (preord (w.nodesD d) (w.subD d) (w.sets.length + 2) g0)) := by
  have hst := ht
  simp only [RWorld.treeShape, Bool.and_eq_true] at hst
  exact C11_trav_never_twice X d fuel es w g0 hw (treeShape_static_dynamic hw home d g0 ht)
    (C11_trav_static_admissible X home d fuel es w (tStart g0) hw hst.2 hst.1.1.1 adm)

/-! ### non-vacuity of the hypotheses; insertion at the place of a removed current node -/

-- `WF` is inhabited by every reachable state (C11_rep_history); concretely, with a tombstone:
example : WF (apply (apply empty (.extend [7, 8, 9])).1 (.remove 8)).1 :=
  C11_rep_step (C11_rep_step C11_rep_empty.1 _) _
-- the executable form of the invariant on a state with a tombstone (box 2) and a moved value
example : invOk (apply (apply (apply empty (.extend [7, 8, 9])).1 (.remove 8)).1 (.append 7)).1 = true := by
  decide +kernel
-- `Valid`: fresh generators, and a generator parked on the tombstone (a `gap` cursor)
example : Cursor.notStarted.Valid empty ∧ (Cursor.at 2).Valid (apply (apply empty (.extend [7, 8, 9])).1 (.remove 8)).1 := by
  unfold Cursor.Valid; decide
example : absCur (apply (apply empty (.extend [7, 8, 9])).1 (.remove 8)).1 .fwd (.at 2) = .gap 1 := by
  decide +kernel
-- a node inserted exactly where the removed current node was is skipped by the generator parked
-- there (it resumes with the node that followed the removed one), but seen by a generator parked on
-- the live predecessor
example :
    rest (apply (apply (apply empty (.extend [7, 8, 9])).1 (.remove 8)).1 (.insertBefore 9 [5])).1 .fwd (.at 2) = [9] ∧
    rest (apply (apply (apply empty (.extend [7, 8, 9])).1 (.remove 8)).1 (.insertBefore 9 [5])).1 .fwd (.at 1) = [5, 9] := by
  decide +kernel
-- hypotheses of the abstract lemmas
example : ([1, 2] ++ 3 :: [4]).Nodup ∧ (Spec.ACur.gap 2).InRange ([1, 2] ++ 3 :: [4]) ∧ 5 ∉ [1, 2] ++ [4] := by
  simp [Spec.ACur.InRange]
example : Spec.seen .fwd 2 (.att 2) ∧ ¬ Spec.seen .fwd 2 (.gap 2) ∧ Spec.seen .rev 2 (.att 2) ∧ ¬ Spec.seen .rev 2 (.gap 2) := by
  simp [Spec.seen]

-- recursive iteration: a world with a nested graph (graph 1 under node 1 of graph 0) satisfies the
-- hypotheses, and the conclusion of C11_rec_preorder evaluated on it
def exWorld : RWorld := ⟨[(extend empty [1, 2]).1, (extend empty [11]).1], [(1, [.graph 1])], none⟩

example : WorldWF exWorld := by
  intro s hs
  simp only [exWorld, List.mem_cons, List.not_mem_nil, or_false] at hs
  rcases hs with rfl | rfl <;> exact C11_rep_step C11_rep_empty.1 (.extend _)

example : recDrain exWorld .fwd 100 (recStart 0) = (specTop exWorld .fwd 1 0, .stop) := by decide +kernel

-- the hypotheses of C11_rec_history: nodes 1, 2 live in graph 0, node 11 in graph 1
def exHome (v : Nat) : Nat := if v < 10 then 0 else 1

theorem exWorld_homed : Homed exWorld exHome := by
  intro g v
  rcases g with _ | _ | g <;> intro hv
  · have : toList (exWorld.setOf 0) = [1, 2] := by decide +kernel
    rw [this] at hv; simp at hv; rcases hv with rfl | rfl <;> rfl
  · have : toList (exWorld.setOf 1) = [11] := by decide +kernel
    rw [this] at hv; simp at hv; subst hv; rfl
  · have : exWorld.setOf (g + 2) = empty := by simp [RWorld.setOf, exWorld, List.getD]
    rw [this, C11_rep_empty.2] at hv; exact absurd hv (by simp)

theorem exWorld_staticRanked : StaticRanked exWorld .fwd (fun g => 1 - g) exHome := by
  intro v _ h hh
  have hv1 : v = 1 := by
    apply Classical.byContradiction
    intro hne
    have : (exWorld.attrs.lookup v) = none := by
      simp only [exWorld, List.lookup]
      have : (v == 1) = false := by simp [hne]
      simp [this]
    simp [RWorld.visit, RWorld.attrsOf, this] at hh
  subst hv1
  have hh1 : h = 1 := by simpa [RWorld.visit, RWorld.attrsOf, exWorld, List.lookup] using hh
  subst hh1
  decide

example : Homed exWorld exHome := exWorld_homed
example : StaticRanked exWorld .fwd (fun g => 1 - g) exHome := exWorld_staticRanked
example : Ranked exWorld .fwd (fun g => 1 - g) := ranked_of_static exWorld_homed exWorld_staticRanked

example : Admissible exWorld.sets.length exHome [.next, .edit 0 (.remove 1), .edit 1 (.append 12), .next] := by
  simp [Admissible, touched, exWorld, exHome]

-- the derived-rank theorems: the predicates hold on the example world; a shared subgraph (graph 1
-- under node 1 and under node 2) satisfies `acyclic` but not `unshared`, and is visited twice
example : exWorld.acyclic .fwd = true ∧ exWorld.acyclicStatic .fwd exHome = true ∧
    exWorld.homedOk exHome = true ∧ exWorld.unshared 0 = true ∧ exWorld.treeShape exHome 0 = true := by decide +kernel

def sharedWorld : RWorld :=
  ⟨[(extend empty [1, 2]).1, (extend empty [11]).1], [(1, [.graph 1]), (2, [.graphs [1]])], none⟩

example : sharedWorld.acyclic .fwd = true ∧ sharedWorld.unshared 0 = false ∧
    specTop sharedWorld .fwd 2 0 =
      [.enter 0, .yield 0 1, .enter 1, .enter 1, .yield 1 11, .exit 1, .exit 1,
       .yield 0 2, .enter 1, .enter 1, .yield 1 11, .exit 1, .exit 1, .exit 0] := by decide +kernel


-- slices on a state with a tombstone: [7, 9, 7->moved]: sequence [9, 7]
example :
    getSlice (apply (apply (apply empty (.extend [7, 8, 9])).1 (.remove 8)).1 (.append 7)).1 none none (some (-1)) = some [7, 9] ∧
    getSlice (apply empty (.extend [1, 2, 3, 4, 5])).1 (some (-2)) none none = some [4, 5] ∧
    getSlice (apply empty (.extend [1, 2, 3, 4, 5])).1 (some 4) (some (-9)) (some (-2)) = some [5, 3, 1] ∧
    getSlice (apply empty (.extend [1, 2, 3, 4, 5])).1 none none (some 0) = none ∧
    sliceIndices 5 (some 4) (some (-9)) (some (-2)) = some (4, -2, 3) := by decide +kernel

-- the recursive iterator with editable attributes: graph 1 under node 1 of graph 0
def exT : TWorld := (⟨[(extend empty [1, 2]).1, (extend empty [11, 12]).1], [], none⟩ : TWorld).setAttr 1 0 (.graph 1)

example : TWorldWF exT := by
  intro s hs
  simp only [exT, TWorld.setAttr, TWorld.setDict, List.mem_cons, List.not_mem_nil, or_false] at hs
  rcases hs with rfl | rfl <;> exact C11_rep_step C11_rep_empty.1 (.extend _)

-- hypotheses of C11_trav_remaining hold on a fresh iterator and inside the subgraph, and its conclusion evaluated
example : exT.acyclic .fwd = true ∧
    tDrain exT .fwd 60 (tStart 0) = (tStackSpec (tVisit exT .fwd 3) exT .fwd (tStart 0), .stop) := by decide +kernel

/-- the iterator after two `next()` calls: it has yielded node 1 and node 11 and is inside graph 1 -/
def exSt : List TFrame := (tNext exT .fwd 60 (tNext exT .fwd 60 (tStart 0)).1).1

example : exSt = [⟨1, .at 1, .last 11⟩, ⟨0, .at 1, .expand 1 ⟨1, 0, 1⟩ []⟩] := by decide +kernel

-- replacing the attribute (same key) of the node that is being expanded keeps the dict iterator in
-- step; the detached graph 1 is iterated to its end (node 12), then the iteration goes on with node 2
example : (exSt.all fun fr => fr.synced (exT.setAttr 1 0 .other)) = true ∧
    (tDrain (exT.setAttr 1 0 .other) .fwd 60 exSt) =
      ([.yield 1 12, .exit 1, .exit 1, .yield 0 2, .exit 0], .stop) := by decide +kernel

-- deleting it (or adding a key) puts the dict iterator out of step: graph 1 is still iterated to
-- its end, then `RuntimeError: dictionary changed size during iteration`
example : (exSt.all fun fr => fr.synced (exT.delAttr 1 0).1) = false ∧
    (tDrain (exT.delAttr 1 0).1 .fwd 60 exSt) = ([.yield 1 12, .exit 1, .exit 1], .raised) ∧
    (tDrain (exT.setAttr 1 1 (.graph 1)) .fwd 60 exSt) = ([.yield 1 12, .exit 1, .exit 1], .raised) := by decide +kernel

-- hypotheses of C11_trav_finished_not_visited / C11_trav_detached_runs_to_end: node 2 is still to be
-- yielded by the outer frame, node 1 is being expanded by it, node 11 is finished for no frame yet
example : 2 ∈ (exSt.getD 1 (TFrame.fresh 0)).ownNodes exT .fwd ∧ 1 ∈ (exSt.getD 1 (TFrame.fresh 0)).ownNodes exT .fwd ∧
    1 ∉ (exSt.getD 0 (TFrame.fresh 0)).ownNodes exT .fwd ∧
    tPrefixSpec (tVisit exT .fwd 3) exT .fwd (exSt.drop 1) (exSt.take 1) = [.yield 1 12, .exit 1, .exit 1] := by decide +kernel

-- completeness of the acyclicity predicate: the self-nested world has a witness, the example worlds have none
example : Nested (selfWorld.kids .fwd) 0 0 := .one (by decide)
example : ¬ ∃ g, Nested (exWorld.kids .fwd) g g := by
  intro h
  have := (C11_rec_acyclic_complete exWorld .fwd).2 h
  revert this; decide

-- the two recursive models on the example: hypotheses of C11_trav_refines_rec (no attribute edit, dict
-- iterators in step, step bound not exhausted) and its conclusion evaluated
example : (([.next, .edit 0 (.remove 2), .next, .next, .next] : List TEv).all TEv.noAttr) = true ∧
    ((tStart 0).all fun fr => fr.synced exT) = true ∧
    ((tRunHist .fwd 60 exT (tStart 0) [.next, .edit 0 (.remove 2), .next, .next, .next]).all fun a => a.2 != .fuel) = true ∧
    recRunHist .fwd 60 exT.toR ((tStart 0).map (TFrame.toR exT .fwd))
        (([.next, .edit 0 (.remove 2), .next, .next, .next] : List TEv).filterMap TEv.toREv) =
      tRunHist .fwd 60 exT (tStart 0) [.next, .edit 0 (.remove 2), .next, .next, .next] := by decide +kernel

-- tree shape: true on the example; a subgraph shared by two nodes makes it false and its nodes are yielded twice
example : exT.treeShape .fwd 0 = true ∧ exT.members = [1, 2, 11, 12] ∧ exT.refs .fwd = [1] := by decide +kernel

def sharedT : TWorld := exT.setAttr 2 0 (.graphs [1])

example : sharedT.treeShape .fwd 0 = false ∧ sharedT.acyclic .fwd = true ∧
    yieldsOf (tDrain sharedT .fwd 80 (tStart 0)).1 = [1, 11, 12, 2, 11, 12] := by decide +kernel

-- C11_trav_untouched_once / C11_trav_never_twice: node 1 is yielded, then moved behind the cursor (append): it is
-- yielded again and graph 1 below it is visited again; X = {1, 11, 12} is closed and contains the touched node;
-- node 2 (outside X) is yielded once
example : tAdm [1, 11, 12] .fwd 60 exT (tStart 0)
      [.next, .edit 0 (.append 1), .next, .next, .next, .next, .next, .next, .next] = true ∧
    (tRunY .fwd 60 exT (tStart 0)
      [.next, .edit 0 (.append 1), .next, .next, .next, .next, .next, .next, .next]).2.2 = [1, 11, 12, 2, 1, 11, 12] ∧
    exT.closedB .fwd [1, 11, 12] = true ∧ exT.closedB .fwd [1] = false := by decide +kernel

-- the methods of `node.attributes`: popitem removes the FIRST key, clear empties, update stops at a non-Attr value
example :
    (AMeth.run ((PyDict.empty.set 0 (.graph 1)).set 1 .other) .popitem).1.live = [(1, .other)] ∧
    (AMeth.run ((PyDict.empty.set 0 (.graph 1)).set 1 .other) .clear).1.live = [] ∧
    AMeth.prims ((PyDict.empty.set 0 (.graph 1)).set 1 .other) .clear = ([.del 0, .del 1], true) ∧
    AMeth.prims PyDict.empty (.update [(3, some .other), (4, none), (5, some .other)]) = ([.set 3 .other], false) ∧
    AMeth.prims PyDict.empty (.pop 3 true) = ([], true) ∧ AMeth.prims PyDict.empty (.pop 3 false) = ([], false) ∧
    AMeth.prims PyDict.empty (.setdefault 3 none) = ([], false) := by decide +kernel

-- the static predicate on the view of the example world, `noStale` / `allHung`, and a stale entry:
-- after replacing the attribute of node 1 the old dict stays recorded, the static predicate counts graph 1 twice
example : exT.toR.treeShape exHome 0 = true ∧ exT.noStale = true ∧ exT.allHung = true ∧
    (exT.setAttr 1 0 (.graph 1)).noStale = false ∧ (exT.setAttr 1 0 (.graph 1)).toR.treeShape exHome 0 = false ∧
    (exT.setAttr 1 0 (.graph 1)).treeShape .fwd 0 = true := by decide +kernel

-- hypotheses of C11_trav_never_twice_static on the history of the C11_trav_never_twice example
example : tAdmS [1, 11, 12] exHome .fwd 60 exT (tStart 0)
      [.next, .edit 0 (.append 1), .next, .next, .next, .next, .next, .next, .next] = true := by decide +kernel

end IrVerif.LinkedSet
