/-
C13 — clones are faithful and fully independent of their originals.
The heap is a `World` = list of cells; an object's id is its index, so "created by the clone" means
`w.length ≤ i` for the heap `w` before the call.  The statements below are written with two notions
defined in this file: `Owned w root i` (what a model / function / graph owns at any depth) and
`Protected w i` (the pre-existing cells except the tensors clone and original share); the proofs go
through `CloneResult w allow w'` (Lemmas/Clone.lean: what every clone entry point guarantees of the heap
it leaves: grown, pre-existing cells unchanged up to usage records by new nodes, new cells point to
new cells); the progress
theorems take the verdict of the decidable scope walker `cloneVerdict` (Model/Clone.lean) as hypothesis.
Property theorems about the executable model `IrVerif.Clone` (Model/Clone*.lean); the helper
developments are Lemmas/Clone*.lean.

Proved (all heaps, all graphs, all histories of the model): freshness, closedness (ownership, back
pointers, node inputs, device annotations), purity of cloning and of failed clones; the frame theorems
over the alphabets `Edit` (31 editing calls), `Edit2` (44), `Edit3` (55), `Edit4` (72) - the extended ones
for strict separation, i.e. clones made with `allow_outer_scope_values=False` - and `functionalize` of
one pass, of any pipeline, with hooks and `early_stop`; observational equality; progress and the exact
error from the verdict of the scope walker; the value map is a bijection and the clone's wiring its
image; the reasons for an `irregular` verdict; `deep_copy` of `meta` (the refinement
`IrVerif.Clone.Meta`) and its link to the `mstore` cells of this model.
Not proved (differential / oracle only): in-place state of shared `Attr` objects (D114) and shared
tensors (D113), `Attr.meta` / `Model.meta`, meta values that are not lists / dicts of atoms, editing
calls outside `Edit4`, the extended alphabets for clones made with `allow_outer_scope_values=True`
(false by design).
-/
import IrVerif.Lemmas.Clone
import IrVerif.Lemmas.CloneFrame
import IrVerif.Lemmas.CloneFrame2
import IrVerif.Lemmas.CloneFramePass
import IrVerif.Lemmas.CloneSim
import IrVerif.Lemmas.CloneSer
import IrVerif.Lemmas.CloneScope
import IrVerif.Lemmas.CloneResidue
import IrVerif.Lemmas.CloneTotal
import IrVerif.Lemmas.CloneWire
import IrVerif.Lemmas.CloneModelTotal
import IrVerif.Lemmas.CloneFrame3
import IrVerif.Lemmas.CloneWireFM
import IrVerif.Lemmas.CloneIrregular
import IrVerif.Lemmas.CloneMeta
import IrVerif.Lemmas.CloneFrame4
import IrVerif.Lemmas.CloneMetaLink
namespace IrVerif.Clone

/-! ### what "the objects of a clone" are -/

/-- attribute object `a` holds graph `j` -/
def GraphAttrOf (w : World) (a j : Nat) : Prop :=
  ∃ as, w[a]? = some (.attr as) ∧ (as.v = .graph j ∨ ∃ gs, as.v = .graphs gs ∧ j ∈ gs)

/-- ownership edges: a model owns its graph, functions and metadata containers; a function its
    body (and graph-valued attribute parameters); a graph its inputs, outputs, initializers, nodes
    and metadata containers; a node its outputs, metadata containers and the graphs held by its
    attributes; a value its type object, shape object and metadata containers. -/
def owns (w : World) (i j : Nat) : Prop :=
  match w[i]? with
  | some (.model m) => j = m.graph ∨ j ∈ m.funcs ∨ j = m.props ∨ j = m.mstore
  | some (.func f) => j = f.graph ∨ ∃ ka ∈ f.attrs, GraphAttrOf w ka.2 j
  | some (.graph g) => j ∈ g.inputs ∨ j ∈ g.outputs ∨ (∃ e ∈ g.inits, j = e.2) ∨ j ∈ g.nodes ∨
      j = g.props ∨ j = g.mstore
  | some (.node n) => j ∈ n.outputs ∨ j = n.props ∨ j = n.mstore ∨
      ∃ ka ∈ n.attrs, GraphAttrOf w ka.2 j
  | some (.val v) => v.type = some j ∨ v.shape = some j ∨ j = v.props ∨ j = v.mstore
  | _ => False

/-- everything a root (model, function or graph) owns, transitively: its graphs at every depth,
    nodes, values, type and shape objects, metadata containers -/
inductive Owned (w : World) (root : Nat) : Nat → Prop
  | root : Owned w root root
  | step {i j : Nat} : Owned w root i → owns w i j → Owned w root j

/-- in a heap produced by a clone, whatever a new object owns is new -/
theorem owns_new {w w' : World} {allow : Bool} (h : CloneResult w allow w') {i j : Nat}
    (hi : In w.length w'.length i) (ho : owns w' i j) : In w.length w'.length j := by
  unfold owns at ho
  have graphAttr : ∀ (attrs : List (String × Nat)),
      (∀ ka ∈ attrs, In w.length w'.length ka.2 ∨ SharedAttr w ka.2) →
      (∃ ka ∈ attrs, GraphAttrOf w' ka.2 j) → In w.length w'.length j := by
    intro attrs hat ⟨ka, hka, as, has, hj⟩
    rcases hat ka hka with hnew | hsh
    · exact cellOk_attr (h.cells ka.2 _ hnew.1 has) hj
    · obtain ⟨as', has', hg⟩ := old_attr_same h hsh
      rw [has] at has'
      cases has'
      rcases hj with hj | ⟨gs, hj, _⟩ <;> rw [hj] at hg <;> cases hg
  split at ho
  · next m hm =>
    obtain ⟨a, b, c, d⟩ := h.cells i _ hi.1 hm
    rcases ho with rfl | ho | rfl | rfl
    · exact a
    · exact b j ho
    · exact c
    · exact d
  · next f hf =>
    obtain ⟨a, b⟩ := h.cells i _ hi.1 hf
    rcases ho with rfl | ho
    · exact a
    · exact graphAttr f.attrs b ho
  · next g hg =>
    obtain ⟨a, b, c, d, e, f⟩ := h.cells i _ hi.1 hg
    rcases ho with ho | ho | ⟨x, hx, rfl⟩ | ho | rfl | rfl
    · exact a j ho
    · exact b j ho
    · exact c x hx
    · exact d j ho
    · exact e
    · exact f
  · next n hn =>
    obtain ⟨a, b, c, _, e, _⟩ := h.cells i _ hi.1 hn
    rcases ho with ho | rfl | rfl | ho
    · exact a j ho
    · exact b
    · exact c
    · exact graphAttr n.attrs e ho
  · next v hv =>
    obtain ⟨a, b, c, d, _, _⟩ := h.cells i _ hi.1 hv
    rcases ho with ho | ho | rfl | rfl
    · rw [ho] at a; exact a
    · rw [ho] at b; exact b
    · exact c
    · exact d
  · exact False.elim ho

theorem owned_new {w w' : World} {allow : Bool} (h : CloneResult w allow w') {root : Nat}
    (hr : In w.length w'.length root) {i : Nat} (ho : Owned w' root i) : In w.length w'.length i := by
  induction ho with
  | root => exact hr
  | step _ hij ih => exact owns_new h ih hij

/-! ### C13: freshness, closedness, no side effect on the original — `Graph.clone` /
`GraphView.clone`, `Function.clone`, `Model.clone` -/

/-- **C13_fresh** (graph / graph view).  Every object of the clone — its graphs at any depth,
    nodes, values, type objects, shape objects and metadata containers — is a new object: its id
    is not the id of any pre-existing object (`w.length ≤ i`), for every heap, every graph, both
    settings of `allow_outer_scope_values`. -/
theorem C13_fresh {w w' : World} {fuel : Nat} {allow : Bool} {g g' : Nat}
    (h : run (graphClone fuel allow g) w = (.ok g', w')) :
    ∀ i, Owned w' g' i → w.length ≤ i ∧ i < w'.length := by
  obtain ⟨hres, hroot⟩ := graphClone_result h
  exact fun i hi => owned_new hres (hroot g' rfl) hi

/-- **C13_fresh_function** (`Function.clone`). -/
theorem C13_fresh_function {w w' : World} {fuel : Nat} {f f' : Nat}
    (h : run (funcClone fuel f) w = (.ok f', w')) :
    ∀ i, Owned w' f' i → w.length ≤ i ∧ i < w'.length := by
  obtain ⟨hres, hroot⟩ := funcClone_result h
  exact fun i hi => owned_new hres (hroot f' rfl) hi

/-- **C13_fresh_model** (`Model.clone`, which is also what `functionalize` runs the pass on). -/
theorem C13_fresh_model {w w' : World} {fuel : Nat} {m m' : Nat}
    (h : run (modelClone fuel m) w = (.ok m', w')) :
    ∀ i, Owned w' m' i → w.length ≤ i ∧ i < w'.length := by
  obtain ⟨hres, hroot⟩ := modelClone_result h
  exact fun i hi => owned_new hres (hroot m' rfl) hi

/-- **C13_closed**.  Every reference held by an object of the clone points into the clone: the
    ownership pointers always (previous theorems), the back pointers (`Value.graph`,
    `Value.producer`, `Node.graph`) always, and every node input whenever
    `allow_outer_scope_values` is `False` — so with `allow = false` a result can only be returned
    when no reference escapes; otherwise the call does not return a clone (it raises).  For
    `allow_outer_scope_values=True` see `C13_closed_outer`. -/
theorem C13_closed {w w' : World} {fuel : Nat} {allow : Bool} {g g' : Nat}
    (h : run (graphClone fuel allow g) w = (.ok g', w')) (i : Nat) (hi : Owned w' g' i) :
    (∀ n, w'[i]? = some (.node n) →
        (allow = false → ∀ v, some v ∈ n.inputs → w.length ≤ v ∧ v < w'.length) ∧
        (∀ gr, n.graph = some gr → w.length ≤ gr ∧ gr < w'.length)) ∧
    (∀ v, w'[i]? = some (.val v) →
        (∀ gr, v.graph = some gr → w.length ≤ gr ∧ gr < w'.length) ∧
        (∀ p, v.producer = some p → w.length ≤ p ∧ p < w'.length)) := by
  obtain ⟨hres, hroot⟩ := graphClone_result h
  have hin := owned_new hres (hroot g' rfl) hi
  constructor
  · intro n hn
    have hok := hres.cells i _ hin.1 hn
    exact ⟨hok.node_inputs, fun gr hgr => by have d := hok.node_graph; rw [hgr] at d; exact d⟩
  · intro v hv
    have hok := hres.cells i _ hin.1 hv
    exact ⟨fun gr hgr => by have e := hok.val_graph; rw [hgr] at e; exact e,
      fun p hp => by have f := hok.val_producer; rw [hp] at f; exact f⟩

/-- **C13_closed_model**: a cloned model never refers to a value of the original. -/
theorem C13_closed_model {w w' : World} {fuel : Nat} {m m' : Nat}
    (h : run (modelClone fuel m) w = (.ok m', w')) (i : Nat) (hi : Owned w' m' i) :
    ∀ n, w'[i]? = some (.node n) → ∀ v, some v ∈ n.inputs → w.length ≤ v ∧ v < w'.length := by
  obtain ⟨hres, hroot⟩ := modelClone_result h
  have hin := owned_new hres (hroot m' rfl) hi
  intro n hn
  exact (hres.cells i _ hin.1 hn).node_inputs rfl

/-- **C13_clone_pure**.  Cloning never changes a pre-existing object, whether it returns or
    raises: with `allow_outer_scope_values=False` the old part of the heap is identical; with
    `True` the only change is in the usage lists of values: records by pre-existing nodes are
    unchanged (`OldSame`), records by nodes of the clone are added (and removed again when the
    clone is abandoned). -/
theorem C13_clone_pure {w w' : World} {fuel : Nat} {allow : Bool} {g : Nat} {r : Except Err Nat}
    (h : run (graphClone fuel allow g) w = (r, w')) :
    (allow = false → ∀ (i : Nat) (c : Cell), w[i]? = some c → w'[i]? = some c) ∧
    (∀ (i : Nat) (c : Cell), w[i]? = some c → ∃ c', w'[i]? = some c' ∧ OldSame w.length c c') := by
  obtain ⟨hres, _⟩ := graphClone_result h
  exact ⟨hres.oldEq, hres.old⟩

theorem C13_clone_pure_model {w w' : World} {fuel : Nat} {m : Nat} {r : Except Err Nat}
    (h : run (modelClone fuel m) w = (r, w')) :
    ∀ (i : Nat) (c : Cell), w[i]? = some c → w'[i]? = some c := by
  obtain ⟨hres, _⟩ := modelClone_result h
  exact hres.oldEq rfl


/-! ### C13_frame: edits of one copy leave the other copy's cells unchanged -/

/-- **C13_frame** (general form).  Let `B` be any set of cells of a heap `w` such that no cell
    outside `B` has a pointer into `B` among the pointers editing calls follow (type, shape,
    metadata containers, owning graph, constant tensor, node inputs, graph outputs).  Then for EVERY
    history of edits of the alphabet `Edit` whose arguments are outside `B` — whatever the edits
    are, however many, whether they succeed or raise half-way — every cell of `B` is afterwards
    exactly what it was.  The alphabet (Model/Clone.lean `Edit`, 31 editing calls): `Value.name=`
    (incl. initializer rename and the write-through to the tensor's name), `.type=`, `.dtype=`,
    `.type.denotation=`, `.shape=`, `.shape[i]=`, `.shape.set_denotation`, `.const_value=`,
    `.doc_string=`; `metadata_props[k]=` / `del`, `meta[k]=` / `del`, `meta.invalidate` on values,
    nodes, graphs, models; `Node.replace_input_with`, `.name=`, `.op_type=`, `.domain=`,
    `.overload=`, `.version=`, `.doc_string=`, `.attributes[k]=` / `del`, `.device_configurations=`;
    `Graph.name=`, `.doc_string=`, `.opset_imports[d]=`, `.remove(node)`, new node + `.append`,
    `.outputs.append` / `.pop`; `Function.name=`; model header fields.  Not in `Edit`: `graph.inputs` /
    initializer-dict edits, `sort`, `insert_before/after`, `replace_all_uses_with`,
    `resize_inputs/outputs`, `model.functions` edits (these are `Edit2`: `C13_frame_ext`; the larger
    alphabets: `C13_frame_ext3`, `C13_frame_ext4`); in no alphabet: in-place mutation of shared `Attr`
    objects (D114). -/
theorem C13_frame (B : Nat → Prop) (w : World) (es : List Edit)
    (hb : ∀ i, B i → i < w.length)
    (hsep : ∀ (i : Nat) (c : Cell), ¬ B i → w[i]? = some c → CellOut true B c)
    (hargs : ∀ e ∈ es, ∀ a ∈ e.args, ¬ B a) :
    ∀ i, B i → (runHistory es w).2[i]? = w[i]? :=
  Edit.framed B w es hb (fun i c hi hc => CellOutX.of_cellOut (hsep i c hi hc)) hargs

/-- **C13_frame_weak** (general form when nodes outside `B` may consume values of `B`, as a clone
    made with `allow_outer_scope_values=True` does).  `CellOut false` does not constrain node inputs.
    Then every cell of `B` is afterwards what it was except for usage records: its content with the
    users erased is unchanged, and so is the list of usage records made by nodes of `B`. -/
theorem C13_frame_weak (B : Nat → Prop) (w : World) (es : List Edit)
    (hb : ∀ i, B i → i < w.length)
    (hsep : ∀ (i : Nat) (c : Cell), ¬ B i → w[i]? = some c → CellOut false B c)
    (hargs : ∀ e ∈ es, ∀ a ∈ e.args, ¬ B a) :
    ∀ i, B i → OptRel false B (w[i]?) ((runHistory es w).2[i]?) := by
  rw [runHistory_eq]
  exact (runHist_inv (fun e _ hI ha => (applyEdit_frame e ha).frame hI) es w
    ⟨hb, fun _ _ => OptRel.refl _ _ _, fun i c hi hc => CellOutX.of_cellOut (hsep i c hi hc)⟩ hargs).same

/-- the pre-existing cells a clone must leave alone: all of them except the tensor objects, which
    clone and original share by design (`Value.name = ...` writes through to `const_value.name`:
    recorded finding D113) -/
def Protected (w : World) (i : Nat) : Prop := i < w.length ∧ ¬ ConstTarget w i

theorem cellOut_of_cellOk {w0 : World} {hi : Nat} {allow : Bool} {c : Cell}
    (h : CellOk w0 w0.length hi allow c) : CellOut (!allow) (Protected w0) c := by
  have opt : ∀ o, OptIn w0.length hi o → OptOut (Protected w0) o := by
    intro o ho
    cases o with
    | none => trivial
    | some x => exact fun hp => Nat.not_lt.mpr ho.1 hp.1
  have nin : ∀ x, In w0.length hi x → ¬ Protected w0 x := fun x hx hp => Nat.not_lt.mpr hx.1 hp.1
  cases c with
  | val v =>
    obtain ⟨a, b, c, d, e, _, k⟩ := h
    refine ⟨opt _ a, opt _ b, nin _ c, nin _ d, opt _ e, ?_⟩
    cases hc : v.const with
    | none => trivial
    | some t =>
      rw [hc] at k
      rcases k with k | k
      · exact fun hp => Nat.not_lt.mpr k hp.1
      · exact fun hp => hp.2 k
  | node n =>
    obtain ⟨_, b, c, _, _, f, _⟩ := h
    exact ⟨fun hs v hv => nin _ (f (by simpa using hs) v hv), nin _ b, nin _ c⟩
  | graph g =>
    obtain ⟨_, b, _, _, e, f⟩ := h
    exact ⟨fun v hv => nin _ (b v hv), nin _ e, nin _ f⟩
  | model m =>
    obtain ⟨_, _, c, d⟩ := h
    exact ⟨nin _ c, nin _ d⟩
  | _ => trivial

theorem cellOutX_of_cellOk {ex : Bool} {w0 : World} {hi : Nat} {c : Cell}
    (h : CellOk w0 w0.length hi false c) : CellOutX ex true (Protected w0) c := by
  have nin : ∀ x, In w0.length hi x → ¬ Protected w0 x := fun x hx hp => Nat.not_lt.mpr hx.1 hp.1
  have base := cellOut_of_cellOk (allow := false) h
  cases c with
  | val v =>
    obtain ⟨a, b, c, d, e, f⟩ := base
    obtain ⟨_, _, _, _, _, _, _, k⟩ := h
    exact ⟨a, b, c, d, e, f, fun _ x hx hp => Nat.not_lt.mpr (k x hx) hp.1⟩
  | node n =>
    obtain ⟨a, b, c⟩ := base
    obtain ⟨o, _⟩ := h
    exact ⟨a, b, c, fun _ x hx => nin _ (o x hx)⟩
  | graph g =>
    obtain ⟨a, b, c⟩ := base
    obtain ⟨i1, _, i3, _⟩ := h
    exact ⟨a, b, c, fun _ => ⟨fun x hx => nin _ (i1 x hx), fun e he => nin _ (i3 e he)⟩⟩
  | model m => exact base
  | _ => trivial

section
variable {ex : Bool} {E : Type} {runH : List E → World → List (Except Err Unit) × World} {args : E → List Nat}

/-- after cloning without outer-scope values the protected cells are a region that no new cell and no
    shared tensor points into: the frame invariant holds of the heap the clone left -/
theorem CloneResult.finv {w w' : World} (hres : CloneResult w false w') (hwf : wellFormed w = true) :
    FInv ex true (Protected w) w' { w := w' } := by
  refine ⟨fun i hi => Nat.lt_of_lt_of_le hi.1 hres.grows, fun _ _ => OptRel.refl _ _ _, ?_⟩
  intro i c hni hc
  rcases Nat.lt_or_ge i w.length with hlt | hge
  · -- a pre-existing tensor cell (the only unprotected pre-existing cells): unchanged by cloning
    have hct : ConstTarget w i := Classical.byContradiction (fun hn => hni ⟨hlt, hn⟩)
    obtain ⟨nm, hnm⟩ := constTarget_tensor hwf hct
    have := hres.oldEq rfl i _ hnm
    rw [hc] at this
    cases this
    trivial
  · exact cellOutX_of_cellOk (hres.cells i c hge hc)

theorem CloneResult.protected_same {w w1 w' : World} (hres : CloneResult w false w1)
    (h : FInv ex true (Protected w) w1 { w := w' }) : ∀ i, Protected w i → w'[i]? = w[i]? :=
  fun i hi => (h.same i hi).eq_of_strict.trans (hres.old_eq hi.1)

theorem Framed.clone_edited (hF : Framed ex runH args) {w w' : World} (hwf : wellFormed w = true)
    (hres : CloneResult w false w') (es : List E) (hargs : ∀ e ∈ es, ∀ a ∈ args e, ¬ Protected w a) :
    ∀ i, Protected w i → (runH es w').2[i]? = w[i]? := by
  intro i hi
  have hI := hres.finv (ex := ex) hwf
  rw [hF (Protected w) w' es hI.bound hI.sep hargs i hi]
  exact hres.old_eq hi.1

theorem Framed.functionalize (hF : Framed ex runH args) {w w' : World} {fuel m : Nat} {r : Except Err Nat}
    (pass : Nat → World → List E) (hwf : wellFormed w = true)
    (h : (match run (modelClone fuel m) w with
      | (.ok m', w1) => (Except.ok m', (runH (pass m' w1) w1).2)
      | (.error e, w1) => (.error e, w1)) = (r, w'))
    (hargs : ∀ m' w1, ∀ e ∈ pass m' w1, ∀ a ∈ args e, ¬ Protected w a) :
    ∀ i, Protected w i → w'[i]? = w[i]? := by
  rcases hrun : run (modelClone fuel m) w with ⟨r1, w1⟩
  rw [hrun] at h
  have hres := (modelClone_result hrun).1
  cases r1 with
  | ok m' =>
    simp only [Prod.mk.injEq] at h
    obtain ⟨_, rfl⟩ := h
    exact hF.clone_edited hwf hres (pass m' w1) (hargs m' w1)
  | error e =>
    simp only [Prod.mk.injEq] at h
    obtain ⟨_, rfl⟩ := h
    exact fun i hi => hres.old_eq hi.1

end

/-- **C13_frame_clone_edited** (`Graph.clone()`, `GraphView.clone()`).  After cloning, every
    history of edits applied to objects that did not exist before the clone (the clone's objects and
    whatever the edits create) leaves every pre-existing cell exactly as it was before cloning. -/
theorem C13_frame_clone_edited {w w' : World} {fuel g : Nat} {r : Except Err Nat}
    (hwf : wellFormed w = true)
    (h : run (graphClone fuel false g) w = (r, w')) (es : List Edit)
    (hargs : ∀ e ∈ es, ∀ a ∈ e.args, ¬ Protected w a) :
    ∀ i, Protected w i → (runHistory es w').2[i]? = w[i]? :=
  Edit.framed.clone_edited hwf (graphClone_result h).1 es hargs

/-- **C13_frame_function** (`Function.clone()`; `Edit3.framed.clone_edited` / `Edit4.framed.clone_edited`
    give the same for the larger alphabets). -/
theorem C13_frame_function {w w' : World} {fuel f : Nat} {r : Except Err Nat}
    (hwf : wellFormed w = true)
    (h : run (funcClone fuel f) w = (r, w')) (es : List Edit)
    (hargs : ∀ e ∈ es, ∀ a ∈ e.args, ¬ Protected w a) :
    ∀ i, Protected w i → (runHistory es w').2[i]? = w[i]? :=
  Edit.framed.clone_edited hwf (funcClone_result h).1 es hargs

/-- **C13_functionalize**.  `functionalize fuel pass m w` is the model of
    `passes.functionalize(p)(model)` = `p(model.clone())` (`_pass_infra.py` 331-353); the wrapped
    in-place pass `p` is ANY function from the clone it is handed (and the heap it finds) to the
    history of editing calls it performs.  If those calls are applied to objects that did not exist
    before the call (the clone's objects, objects the pass creates) — which is all a pass can reach
    from the model it is given, by `C13_closed_model` — then the input model and everything else that
    existed before is unchanged, cell for cell (except the name of shared tensor objects, D113),
    whether cloning succeeds or raises. -/
theorem C13_functionalize {w w' : World} {fuel m : Nat} {r : Except Err Nat}
    (pass : Nat → World → List Edit) (hwf : wellFormed w = true)
    (h : functionalize fuel pass m w = (r, w'))
    (hargs : ∀ m' w1, ∀ e ∈ pass m' w1, ∀ a ∈ e.args, ¬ Protected w a) :
    ∀ i, Protected w i → w'[i]? = w[i]? :=
  Edit.framed.functionalize pass hwf h hargs

theorem usesByB_of_oldSame {w : World} {c0 c : Cell} (h : OldSame w.length c0 c) :
    usesByB (Protected w) c = usesByB (Protected w) c0 := by
  have key : ∀ (l : List (Nat × Nat)),
      l.filter (fun u => @decide (Protected w u.1) (Classical.propDecidable _)) =
      (l.filter (fun u => decide (u.1 < w.length))).filter
        (fun u => @decide (Protected w u.1) (Classical.propDecidable _)) := by
    intro l
    rw [List.filter_filter]
    apply List.filter_congr
    intro u _
    by_cases hu : Protected w u.1
    · simp [hu, hu.1]
    · simp [hu]
  unfold usesByB
  rw [key c.usesOf, key c0.usesOf, h.2]

/-- **C13_frame_clone_edited_outer** (`Graph.clone(allow_outer_scope_values=True)`).  The clone
    consumes outer-scope values of the original's world, so editing it may add or remove ITS OWN
    usage records on those values — and nothing else: after cloning and any history of edits on
    objects that did not exist before, every protected pre-existing cell has the same content with
    the users erased, and the same usage records by pre-existing nodes, as before cloning. -/
theorem C13_frame_clone_edited_outer {w w' : World} {fuel g : Nat} {r : Except Err Nat}
    (hwf : wellFormed w = true)
    (h : run (graphClone fuel true g) w = (r, w')) (es : List Edit)
    (hargs : ∀ e ∈ es, ∀ a ∈ e.args, ¬ Protected w a) :
    ∀ (i : Nat) (c0 : Cell), Protected w i → w[i]? = some c0 →
      ∃ c, (runHistory es w').2[i]? = some c ∧ c.eraseUses = c0.eraseUses ∧
        usesByB (Protected w) c = usesByB (Protected w) c0 := by
  obtain ⟨hres, _⟩ := graphClone_result h
  intro i c0 hi hc0
  have hsep : ∀ (i : Nat) (c : Cell), ¬ Protected w i → w'[i]? = some c →
      CellOut false (Protected w) c := by
    intro i c hni hc
    rcases Nat.lt_or_ge i w.length with hlt | hge
    · have hct : ConstTarget w i := Classical.byContradiction (fun hn => hni ⟨hlt, hn⟩)
      obtain ⟨nm, hnm⟩ := constTarget_tensor hwf hct
      obtain ⟨c', h1, h2⟩ := hres.old i _ hnm
      rw [hc] at h1
      cases h1
      rw [eraseUses_other h2.1 (by intro v hv; cases hv)]
      trivial
    · exact cellOut_of_cellOk (allow := true) (hres.cells i c hge hc)
  have hrel := C13_frame_weak (Protected w) w' es (fun i hi => Nat.lt_of_lt_of_le hi.1 hres.grows)
    hsep hargs i hi
  obtain ⟨c1, hc1, hold⟩ := hres.old i c0 hc0
  rw [hc1] at hrel
  cases hfin : (runHistory es w').2[i]? with
  | none => rw [hfin] at hrel; exact hrel.elim
  | some c =>
    rw [hfin] at hrel
    have hrel' : c.eraseUses = c1.eraseUses ∧ usesByB (Protected w) c = usesByB (Protected w) c1 := by
      simpa [OptRel, CellRel] using hrel
    exact ⟨c, rfl, hrel'.1.trans hold.1, hrel'.2.trans (usesByB_of_oldSame hold)⟩

/-- **C13_frame_orig_edited**.  The symmetric direction, for both settings of
    `allow_outer_scope_values`: if the heap before cloning has no dangling pointers, every history
    of edits whose arguments are not objects created by the clone (the original's objects, the
    enclosing graphs, objects the edits create) leaves every cell created by the clone — the whole
    clone — exactly as it was. -/
theorem C13_frame_orig_edited {w w' : World} {fuel g : Nat} {allow : Bool} {r : Except Err Nat}
    (hwf : wellFormed w = true)
    (h : run (graphClone fuel allow g) w = (r, w')) (es : List Edit)
    (hargs : ∀ e ∈ es, ∀ a ∈ e.args, ¬ (w.length ≤ a ∧ a < w'.length)) :
    ∀ i, w.length ≤ i → i < w'.length → (runHistory es w').2[i]? = w'[i]? :=
  frame_orig_edited hwf (graphClone_result h).1 es hargs

theorem C13_frame_orig_edited_model {w w' : World} {fuel m : Nat} {r : Except Err Nat}
    (hwf : wellFormed w = true)
    (h : run (modelClone fuel m) w = (r, w')) (es : List Edit)
    (hargs : ∀ e ∈ es, ∀ a ∈ e.args, ¬ (w.length ≤ a ∧ a < w'.length)) :
    ∀ i, w.length ≤ i → i < w'.length → (runHistory es w').2[i]? = w'[i]? :=
  frame_orig_edited hwf (modelClone_result h).1 es hargs

/-! ### C13_faithful: the clone is observationally the original -/

/-- **C13_faithful** (`Graph.clone`, `GraphView.clone`; both settings of
    `allow_outer_scope_values`).  In the heap after cloning, the clone `g'` and the original `g` are
    related by `GraphSim`: same graph name, doc string, opset imports and metadata; inputs,
    initializers and outputs pairwise with the same observation (`VInfo`: name, doc string, constant
    tensor, content of the type and shape objects, of `metadata_props` and of `meta`); nodes pairwise
    with the same operator fields, metadata and device annotations, inputs that are either the same
    reference (`None`, an outer-scope value) or values with the same observation, outputs with the
    same observation, attributes that are the same (shared) objects or new attribute objects holding
    graphs that are again `GraphSim`-related — recursively at every depth.  Everything a serializer
    reads is covered by the relation (and more: `meta`), so original and clone serialize alike
    whenever the container keys are consistent (`dictOf` / `initDict` do not merge entries).
    Together with `C13_clone_pure` (cloning did not change the original) this is faithfulness. -/
theorem C13_faithful {w w' : World} {fuel : Nat} {allow : Bool} {g g' : Nat}
    (h : run (graphClone fuel allow g) w = (.ok g', w')) : GraphSim w' g g' := by
  obtain ⟨s', rfl, _, hq⟩ := sim_of_run (fun s hK => graphClone_sim fuel g hK) h
  exact hq

/-- **C13_faithful_function** (`Function.clone`). -/
theorem C13_faithful_function {w w' : World} {fuel : Nat} {f f' : Nat}
    (h : run (funcClone fuel f) w = (.ok f', w')) : FuncSim w' f f' := by
  obtain ⟨s', rfl, _, hq⟩ := sim_of_run (fun s hK => funcClone_sim fuel f hK) h
  exact hq

/-- **C13_faithful_model** (`Model.clone`; the model `functionalize` hands to the wrapped pass). -/
theorem C13_faithful_model {w w' : World} {fuel : Nat} {m m' : Nat}
    (h : run (modelClone fuel m) w = (.ok m', w')) : ModelSim w' m m' := by
  obtain ⟨s', rfl, _, hq⟩ := sim_of_run (fun s hK => modelClone_sim fuel m hK) h
  exact hq


/-- **C13_faithful_observe** (observational equality, graph / graph view).  `serGraph k w g` is this
    check's OWN observation function (Model/Clone.lean): the tree of everything a serializer can read
    of graph `g` in heap `w` — names, doc strings, opset imports, value infos with type / shape /
    metadata, initializers, nodes with input and output names, attributes incl. nested graphs, device
    annotations — defined when the containers are consistent (every attribute filed under its own
    name once, initializer names present and distinct, depth ≤ `k`).  It is NOT the model of
    `serde.py` (properties C02/C03 own that) and is not compared with it field by field; the run
    reports where its definedness differs from the real serializer's and why.  Whatever the original
    observes to BEFORE cloning, the clone observes to the same thing afterwards, and so does the
    original. -/
theorem C13_faithful_observe {w w' : World} {fuel : Nat} {allow : Bool} {g g' : Nat}
    (h : run (graphClone fuel allow g) w = (.ok g', w')) (k : Nat) (y : SGraph)
    (hy : serGraph k w g = some y) :
    serGraph k w' g' = some y ∧ serGraph k w' g = some y := by
  obtain ⟨s', rfl, hle, _⟩ := sim_of_run (fun s hK => graphClone_sim (allow := allow) fuel g hK) h
  have hy' := serGraph_mono hle k hy
  exact ⟨serGraph_sim k (C13_faithful h) hy', hy'⟩


/-! ### C13_closed_outer: with `allow_outer_scope_values=True`, what is passed through is outer -/

/-- **C13_closed_outer**.  `Graph.clone(allow_outer_scope_values=True)`: every input of every node
    created by the clone (at any depth) is either not a pre-existing object at all (`w.length ≤ v`:
    a value of the clone) or a pre-existing value that is NOT defined at the top level of the cloned
    graph — not one of its inputs, not one of its initializers, not an output of one of its nodes.
    So the clone never consumes a value of the graph it copies (D33); what it passes through is a
    genuine outer-scope value.  (This is `cloneGraph_cov` of Lemmas/CloneSpec.lean at the root; that
    lemma says the same of every nested graph and the nodes created while it is cloned.) -/
theorem C13_closed_outer {w w' : World} {fuel : Nat} {allow : Bool} {g g' : Nat} {gs : GraphS}
    (h : run (graphClone fuel allow g) w = (.ok g', w')) (hg : w[g]? = some (.graph gs)) :
    ∀ (i : Nat) (ns : NodeS), w.length ≤ i → w'[i]? = some (.node ns) → ∀ v, some v ∈ ns.inputs →
      w.length ≤ v ∨
      (v ∉ gs.inputs ∧ v ∉ gs.inits.map (·.2) ∧
        ∀ n ∈ gs.nodes, ∀ x, w[n]? = some (.node x) → v ∉ x.outputs) :=
  graphClone_closed_outer h hg


/-! ### C13_raises_iff_inputs: exactly when a node input makes the clone raise -/

/-- **C13_raises_iff_inputs**.  The node-input loop of `clone_node`, run on the inputs `l` of a
    node in cloner state `s`, (1) never changes the state; (2) raises if and only if some input is
    unresolved: unbound in the value map and (`allow_outer_scope_values` is `False`, or the value
    is a pending output of a graph being cloned: use before definition); (3) otherwise returns every
    input replaced by its binding, unbound ones passed through.  So the two "clear errors" of the
    cloner are raised exactly for the references it cannot resolve, and never otherwise. -/
theorem C13_raises_iff_inputs (allow : Bool) (s : St) (l : List (Option Nat)) :
    (mapInputs allow l s).2 = s ∧
    (Unresolved allow s l ↔ ∃ why, (mapInputs allow l s).1 = .error (.raised why)) ∧
    (¬ Unresolved allow s l →
      (mapInputs allow l s).1 = .ok (l.map (fun o => o.map (fun v => (s.vm.lookup v).getD v)))) := by
  rw [mapInputs_eq_pure]
  obtain ⟨h1, h2⟩ := mapInputsPure_spec allow s l
  refine ⟨rfl, ⟨h1, fun ⟨why, hw⟩ => Classical.byContradiction fun hu => ?_⟩, h2⟩
  rw [show (mapInputsPure allow s l, s).1 = _ from h2 hu] at hw
  cases hw


/-! ### C13_failed_clone_no_residue: a clone that raises leaves nothing behind -/

/-- **C13_failed_clone_no_residue**.  When `Graph.clone` / `GraphView.clone` raises — for either
    setting of `allow_outer_scope_values`, wherever and at whatever nesting depth it fails — every
    pre-existing cell is afterwards exactly what it was: in particular the users lists of all
    pre-existing values (the nodes the abandoned clone had created, which consumed outer-scope
    values, are detached again: D112).  Hypothesis: the usage records of the heap before
    cloning name existing cells (checked on every abstracted real heap by the driver). -/
theorem C13_failed_clone_no_residue {w w' : World} {fuel : Nat} {allow : Bool} {g : Nat} {e : Err}
    (hub : usesBounded w = true)
    (h : run (graphClone fuel allow g) w = (.error e, w')) :
    ∀ (i : Nat) (c : Cell), w[i]? = some c → w'[i]? = some c :=
  graphClone_no_residue hub h

/-! ### non-vacuity: the hypotheses are satisfiable and D33 is a real counterexample to the
unconditional statement for `allow = true` -/

/-- x --Relu--> y ; graph g0(x) -> y.  Cells: 0 graph, 1,2 its dicts, 3 x, 4,5 dicts, 6 node,
    7,8 dicts, 9 y, 10,11 dicts, 12 type object of x -/
def exWorld : World := [
  .graph { name := some "g", inputs := [3], outputs := [9], nodes := [6], props := 1, mstore := 2 },
  .dict {}, .dict {},
  .val { name := some "x", graph := some 0, isIn := true, uses := [(6, 0)], type := some 12,
         props := 4, mstore := 5 },
  .dict {}, .dict {},
  .node { name := some "n", opType := "Relu", inputs := [some 3], outputs := [9], graph := some 0,
          props := 7, mstore := 8 },
  .dict {}, .dict {},
  .val { name := some "y", producer := some 6, index := some 0, graph := some 0, isOut := true,
         props := 10, mstore := 11 },
  .dict {}, .dict {},
  .type { dtype := 1 } ]

/-- the hypothesis `serGraph k w g = some y` of C13_faithful_observe is satisfiable -/
example : (serGraph 3 exWorld 0).isSome = true := by decide +kernel

def typeOfDtype (w : World) : List Nat :=
  w.filterMap fun c => match c with
    | .type t => some t.dtype
    | _ => none

def isOk : Except Err Nat → Bool
  | .ok _ => true
  | .error _ => false

/-- the hypothesis `run (graphClone ..) w = (.ok g', w')` of the theorems is satisfiable -/
example : isOk (run (graphClone 4 false 0) exWorld).1 = true := by decide +kernel
example : isOk (run (graphClone 4 true 0) exWorld).1 = true := by decide +kernel

/-- the hypotheses of the frame theorems are satisfiable: the example heap is well formed, and
    there are histories whose arguments are objects of the clone -/
example : wellFormed exWorld = true := by decide +kernel

def exHistory : List Edit :=
  [.setDtype 16 7, .setName 16 (some "renamed"), .dictSet 25 .props "k" "v", .replaceInput 22 0 none,
   .setShape 16 (some { dims := [.int 2] }), .setDim 16 0 (.int 3)]

example : ∀ e ∈ exHistory, ∀ a ∈ e.args, exWorld.length ≤ a := by decide +kernel

/-- and such a history really changes the clone (so "the original is unchanged" is not vacuous) -/
example : typeOfDtype (runHistory exHistory (run (graphClone 4 false 0) exWorld).2).2 = [1, 7] ∧
    (runHistory exHistory (run (graphClone 4 false 0) exWorld).2).1.all
      (fun r => match r with | .ok _ => true | .error _ => false) = true := by
  decide +kernel

def typeOfValueNamed (w : World) (nm : String) : List (Option Nat) :=
  w.filterMap fun c => match c with
    | .val v => if v.name = some nm then some v.type else none
    | _ => none

-- the type object of the cloned input `x` is a new cell (13), not cell 12 (D32)
example : typeOfValueNamed (run (graphClone 4 false 0) exWorld).2 "x" = [some 12, some 13] := by
  decide +kernel

/-! D33: a graph that is not in def-before-use order is rejected for both settings of
`allow_outer_scope_values` (with `allow = true` a clone whose node consumed the ORIGINAL's value would
be the alternative).  Graph g(x): nodes [b, a], a = A(x) -> va, b = B(va) -> vb. -/
def exUnsorted : World := [
  .graph { name := some "g", inputs := [3], outputs := [15], nodes := [12, 6], props := 1, mstore := 2 },
  .dict {}, .dict {},
  .val { name := some "x", graph := some 0, isIn := true, uses := [(6, 0)], props := 4, mstore := 5 },
  .dict {}, .dict {},
  .node { name := some "a", opType := "A", inputs := [some 3], outputs := [9], graph := some 0,
          props := 7, mstore := 8 },
  .dict {}, .dict {},
  .val { name := some "va", producer := some 6, index := some 0, uses := [(12, 0)], props := 10, mstore := 11 },
  .dict {}, .dict {},
  .node { name := some "b", opType := "B", inputs := [some 9], outputs := [15], graph := some 0,
          props := 13, mstore := 14 },
  .dict {}, .dict {},
  .val { name := some "vb", producer := some 12, index := some 0, graph := some 0, isOut := true,
         props := 16, mstore := 17 },
  .dict {}, .dict {} ]

def inputsOfNodesNamed (w : World) (nm : String) : List (List (Option Nat)) :=
  w.filterMap fun c => match c with
    | .node n => if n.name = some nm then some n.inputs else none
    | _ => none

def usersOf (w : World) (nm : String) : List (List (Nat × Nat)) :=
  w.filterMap fun c => match c with
    | .val v => if v.name = some nm then some v.uses else none
    | _ => none

/-- rejected, and nothing is left behind: no node named `b` besides the original's, and the users of
    `va` are what they were -/
example : isOk (run (graphClone 4 true 0) exUnsorted).1 = false ∧
    inputsOfNodesNamed (run (graphClone 4 true 0) exUnsorted).2 "b" = [[some 9]] ∧
    usersOf (run (graphClone 4 true 0) exUnsorted).2 "va" = [[(12, 0)]] := by
  decide +kernel

example : isOk (run (graphClone 4 false 0) exUnsorted).1 = false := by decide +kernel

/-- the hypothesis of C13_failed_clone_no_residue holds of the example heaps -/
example : usesBounded exUnsorted = true ∧ usesBounded exWorld = true := by decide +kernel

/-- a graph that captures an outer-scope value `o` (cell 3): c = C(o) -> vc -/
def exCapture : World := [
  .graph { name := some "sub", inputs := [], outputs := [9], nodes := [6], props := 1, mstore := 2 },
  .dict {}, .dict {},
  .val { name := some "o", uses := [(6, 0)], props := 4, mstore := 5 },
  .dict {}, .dict {},
  .node { name := some "c", opType := "C", inputs := [some 3], outputs := [9], graph := some 0,
          props := 7, mstore := 8 },
  .dict {}, .dict {},
  .val { name := some "vc", producer := some 6, index := some 0, graph := some 0, isOut := true,
         props := 10, mstore := 11 },
  .dict {}, .dict {} ]

/-- C13_closed_outer is not vacuous: the clone is returned and its node consumes the outer value -/
example : isOk (run (graphClone 4 true 0) exCapture).1 = true ∧
    inputsOfNodesNamed (run (graphClone 4 true 0) exCapture).2 "c" = [[some 3], [some 3]] := by
  decide +kernel

/-! ### C13_frame over the extended alphabet `Edit2`

`Edit2` = the 31 calls of `Edit` plus `graph.inputs.append / pop`, `graph.initializers[k] = v`,
`del graph.initializers[k]`, `graph.register_initializer`, `graph.sort()` (graphs whose nodes hold no
subgraphs), `graph.insert_before / insert_after`, `Value.replace_all_uses_with` (with and without
`replace_graph_outputs`), `Node.resize_inputs / resize_outputs`, `model.functions[id] = f`,
`del model.functions[id]`.  These calls follow four more kinds of pointers (the users of a value, the
outputs of a node, the inputs and the initializers of a graph), so the separation hypothesis is
`CellOutX true` instead of `CellOut`. -/

/-- **C13_frame_ext** (general form, extended alphabet).  Let `B` be any set of cells of a heap `w`
    such that no cell outside `B` has a pointer into `B` among the pointers the 44 editing calls of
    `Edit2` follow (those of `C13_frame`, and: the users of a value, the outputs of a node, the
    inputs and initializers of a graph).  Then for EVERY history of such calls whose receivers and
    arguments are outside `B` — however long, whether the calls succeed or raise half-way — every
    cell of `B` is afterwards exactly what it was. -/
theorem C13_frame_ext (B : Nat → Prop) (w : World) (es : List Edit2)
    (hb : ∀ i, B i → i < w.length)
    (hsep : ∀ (i : Nat) (c : Cell), ¬ B i → w[i]? = some c → CellOutX true true B c)
    (hargs : ∀ e ∈ es, ∀ a ∈ e.args, ¬ B a) :
    ∀ i, B i → (runHistory2 es w).2[i]? = w[i]? :=
  Edit2.framed B w es hb hsep hargs

/-- **C13_frame_clone_edited_ext** (`Graph.clone()`, `GraphView.clone()`): after cloning, every
    history of the 44 editing calls applied to objects that did not exist before (the clone's
    objects, objects the edits create) leaves every pre-existing cell — the original and everything
    around it, except the shared tensor objects — exactly as it was before cloning. -/
theorem C13_frame_clone_edited_ext {w w' : World} {fuel g : Nat} {r : Except Err Nat}
    (hwf : wellFormed w = true)
    (h : run (graphClone fuel false g) w = (r, w')) (es : List Edit2)
    (hargs : ∀ e ∈ es, ∀ a ∈ e.args, ¬ Protected w a) :
    ∀ i, Protected w i → (runHistory2 es w').2[i]? = w[i]? :=
  Edit2.framed.clone_edited hwf (graphClone_result h).1 es hargs

/-- **C13_frame_function_ext** (`Function.clone()`). -/
theorem C13_frame_function_ext {w w' : World} {fuel f : Nat} {r : Except Err Nat}
    (hwf : wellFormed w = true)
    (h : run (funcClone fuel f) w = (r, w')) (es : List Edit2)
    (hargs : ∀ e ∈ es, ∀ a ∈ e.args, ¬ Protected w a) :
    ∀ i, Protected w i → (runHistory2 es w').2[i]? = w[i]? :=
  Edit2.framed.clone_edited hwf (funcClone_result h).1 es hargs

/-- **C13_functionalize_ext**: `C13_functionalize` for wrapped passes that use the extended
    alphabet (`functionalize2`). -/
theorem C13_functionalize_ext {w w' : World} {fuel m : Nat} {r : Except Err Nat}
    (pass : Nat → World → List Edit2) (hwf : wellFormed w = true)
    (h : functionalize2 fuel pass m w = (r, w'))
    (hargs : ∀ m' w1, ∀ e ∈ pass m' w1, ∀ a ∈ e.args, ¬ Protected w a) :
    ∀ i, Protected w i → w'[i]? = w[i]? :=
  Edit2.framed.functionalize pass hwf h hargs

/-- **C13_frame_orig_edited_ext** (`Graph.clone()` / `GraphView.clone()` with
    `allow_outer_scope_values=False`).  The symmetric direction for the extended alphabet: if the
    heap before cloning has no dangling pointers (`wellFormed2`: also usage records, node outputs,
    graph inputs and initializers name existing cells), every history of the 44 editing calls whose
    receivers and arguments are not objects created by the clone leaves every cell created by the
    clone exactly as it was.  (With `allow_outer_scope_values=True` the clone's nodes are users of
    outer values of the original, and `outer.replace_all_uses_with(..)` on the original's side is
    MEANT to rewire them: that case is covered by `C13_frame_orig_edited` for the first alphabet only.) -/
theorem C13_frame_orig_edited_ext {w w' : World} {fuel g : Nat} {r : Except Err Nat}
    (hwf : wellFormed2 w = true)
    (h : run (graphClone fuel false g) w = (r, w')) (es : List Edit2)
    (hargs : ∀ e ∈ es, ∀ a ∈ e.args, ¬ (w.length ≤ a ∧ a < w'.length)) :
    ∀ i, w.length ≤ i → i < w'.length → (runHistory2 es w').2[i]? = w'[i]? :=
  Edit2.framed.orig_edited hwf (graphClone_result h).1 es hargs

/-- **C13_frame_orig_edited_model_ext** (`Model.clone()`, hence `functionalize`). -/
theorem C13_frame_orig_edited_model_ext {w w' : World} {fuel m : Nat} {r : Except Err Nat}
    (hwf : wellFormed2 w = true)
    (h : run (modelClone fuel m) w = (r, w')) (es : List Edit2)
    (hargs : ∀ e ∈ es, ∀ a ∈ e.args, ¬ (w.length ≤ a ∧ a < w'.length)) :
    ∀ i, w.length ≤ i → i < w'.length → (runHistory2 es w').2[i]? = w'[i]? :=
  Edit2.framed.orig_edited hwf (modelClone_result h).1 es hargs

/-- **C13_frame_orig_edited_function_ext** (`Function.clone()`). -/
theorem C13_frame_orig_edited_function_ext {w w' : World} {fuel f : Nat} {r : Except Err Nat}
    (hwf : wellFormed2 w = true)
    (h : run (funcClone fuel f) w = (r, w')) (es : List Edit2)
    (hargs : ∀ e ∈ es, ∀ a ∈ e.args, ¬ (w.length ≤ a ∧ a < w'.length)) :
    ∀ i, w.length ≤ i → i < w'.length → (runHistory2 es w').2[i]? = w'[i]? :=
  Edit2.framed.orig_edited hwf (funcClone_result h).1 es hargs

/-! non-vacuity of the extended frame theorems -/

example : wellFormed2 exWorld = true := by decide +kernel

/-- a history of calls of `Edit2` that are not in `Edit`, on the clone of `exWorld` (clone cells: 16
    value `x`, 21 value `y`, 22 the node, 25 the graph): every call succeeds and really changes the clone -/
def exHistory2 : List Edit2 :=
  [.replaceAllUses 16 21 false, .resizeInputs 22 2, .resizeOutputs 22 2, .sort 25,
   .popInput 25, .appendInput 25 16, .setInit 25 "x" 16, .delInit 25 "x", .insertBefore 25 22 22]

example : ∀ e ∈ exHistory2, ∀ a ∈ e.args, exWorld.length ≤ a := by decide +kernel

/-- each new call succeeds on the clone and really changes it (one call per example: the kernel
    evaluates nested histories without sharing) -/
example : isOk ((runHistory2 [.replaceAllUses 16 21 false] (run (graphClone 4 false 0) exWorld).2).1.head!.map
      fun _ => 0) = true ∧
    inputsOfNodesNamed (runHistory2 [.replaceAllUses 16 21 false] (run (graphClone 4 false 0) exWorld).2).2 "n" =
      [[some 3], [some 21]] := by
  decide +kernel

example : inputsOfNodesNamed (runHistory2 [.resizeInputs 22 3] (run (graphClone 4 false 0) exWorld).2).2 "n" =
      [[some 3], [some 16, none, none]] := by
  decide +kernel

/-! ### C13_frame over the third alphabet `Edit3`

`Edit3` (Model/Clone2.lean) = the 44 calls of `Edit2` plus `graph.sort()` on graphs whose nodes hold
subgraphs (`sortDeep`: property C12's `Sort.sortModel` on the tree of the nest, every graph of the
nest re-linked), `graph.inputs[a:b] = vs`, `graph.outputs[a:b] = vs`, `graph.initializers.pop(k)`,
`.clear()`, `.update(items)`, `graph.extend(nodes)`, `graph.remove(nodes, safe=True)`,
`convenience.replace_all_uses_with(values, replacements, ..)` with several pairs (checks of all pairs
first, as after fix c936126), `convenience.rename_values(values, names)` and
`convenience.replace_nodes_and_values` (replacing one node by a freshly built one: the new outputs take
over type object, shape object, constant and name of the old ones, the users are rewired, the new node
is inserted after the old one, which is removed with `safe=True`): 55 calls. -/

/-- **C13_frame_ext3** (general form, third alphabet).  Let `B` be any set of cells of a heap `w`
    such that no cell outside `B` has a pointer into `B` among the pointers the editing calls follow
    (as in `C13_frame_ext`).  Then for EVERY history of the 55 calls of `Edit3` whose receivers and
    arguments are outside `B` (for `sort`: the graph and the graphs nested in it) — however long,
    whether the calls succeed or raise half-way — every cell of `B` is afterwards exactly what it
    was. -/
theorem C13_frame_ext3 (B : Nat → Prop) (w : World) (es : List Edit3)
    (hb : ∀ i, B i → i < w.length)
    (hsep : ∀ (i : Nat) (c : Cell), ¬ B i → w[i]? = some c → CellOutX true true B c)
    (hargs : ∀ e ∈ es, ∀ a ∈ e.args, ¬ B a) :
    ∀ i, B i → (runHistory3 es w).2[i]? = w[i]? :=
  Edit3.framed B w es hb hsep hargs

/-- **C13_frame_clone_edited_ext3** (`Graph.clone()`, `GraphView.clone()`): after cloning, every
    history of the 55 editing calls applied to objects that did not exist before leaves every
    pre-existing cell (except the shared tensor objects) exactly as it was before cloning. -/
theorem C13_frame_clone_edited_ext3 {w w' : World} {fuel g : Nat} {r : Except Err Nat}
    (hwf : wellFormed w = true)
    (h : run (graphClone fuel false g) w = (r, w')) (es : List Edit3)
    (hargs : ∀ e ∈ es, ∀ a ∈ e.args, ¬ Protected w a) :
    ∀ i, Protected w i → (runHistory3 es w').2[i]? = w[i]? :=
  Edit3.framed.clone_edited hwf (graphClone_result h).1 es hargs

/-- **C13_functionalize_ext3**: `C13_functionalize` for wrapped passes that use the third alphabet
    (`functionalize3`). -/
theorem C13_functionalize_ext3 {w w' : World} {fuel m : Nat} {r : Except Err Nat}
    (pass : Nat → World → List Edit3) (hwf : wellFormed w = true)
    (h : functionalize3 fuel pass m w = (r, w'))
    (hargs : ∀ m' w1, ∀ e ∈ pass m' w1, ∀ a ∈ e.args, ¬ Protected w a) :
    ∀ i, Protected w i → w'[i]? = w[i]? :=
  Edit3.framed.functionalize pass hwf h hargs

/-- **C13_frame_orig_edited_ext3** (`Graph.clone()` / `GraphView.clone()` with
    `allow_outer_scope_values=False`): every history of the 55 editing calls whose receivers and
    arguments are not objects created by the clone leaves every cell created by the clone exactly
    as it was. -/
theorem C13_frame_orig_edited_ext3 {w w' : World} {fuel g : Nat} {r : Except Err Nat}
    (hwf : wellFormed2 w = true)
    (h : run (graphClone fuel false g) w = (r, w')) (es : List Edit3)
    (hargs : ∀ e ∈ es, ∀ a ∈ e.args, ¬ (w.length ≤ a ∧ a < w'.length)) :
    ∀ i, w.length ≤ i → i < w'.length → (runHistory3 es w').2[i]? = w'[i]? :=
  Edit3.framed.orig_edited hwf (graphClone_result h).1 es hargs

/-- **C13_frame_orig_edited_model_ext3** (`Model.clone()`, hence `functionalize`). -/
theorem C13_frame_orig_edited_model_ext3 {w w' : World} {fuel m : Nat} {r : Except Err Nat}
    (hwf : wellFormed2 w = true)
    (h : run (modelClone fuel m) w = (r, w')) (es : List Edit3)
    (hargs : ∀ e ∈ es, ∀ a ∈ e.args, ¬ (w.length ≤ a ∧ a < w'.length)) :
    ∀ i, w.length ≤ i → i < w'.length → (runHistory3 es w').2[i]? = w'[i]? :=
  Edit3.framed.orig_edited hwf (modelClone_result h).1 es hargs

/-- non-vacuity: calls of the third alphabet succeed on the clone of `exWorld` (clone cells: 16 value
    `x`, 21 value `y`, 22 the node, 25 the graph) and really change it -/
example : ∀ e ∈ ([.setInputsSlice 25 0 1 [], .removeSafe 25 [], .sortDeep 25 [], .clearInits 25,
      .renameValues [(16, "z")], .rauwMulti [(16, 21)] false] : List Edit3), ∀ a ∈ e.args, exWorld.length ≤ a := by
  decide +kernel

example : isOk ((runHistory3 [.setInputsSlice 25 0 1 []] (run (graphClone 4 false 0) exWorld).2).1.head!.map
      fun _ => 0) = true := by
  decide +kernel

example : isOk ((runHistory3 [.renameValues [(16, "z")]] (run (graphClone 4 false 0) exWorld).2).1.head!.map
      fun _ => 0) = true ∧
    typeOfValueNamed (runHistory3 [.renameValues [(16, "z")]] (run (graphClone 4 false 0) exWorld).2).2 "z" =
      [some 13] := by
  decide +kernel

example : isOk ((runHistory3 [.sortDeep 25 []] (run (graphClone 4 false 0) exWorld).2).1.head!.map
      fun _ => 0) = true := by
  decide +kernel

/-- `replace_nodes_and_values` on the clone: the node `n` (22) is replaced by a new node `m` whose
    output takes over the name `y` and the place among the graph outputs -/
example : isOk ((runHistory3 [.replaceNode 25 22 "m" "Abs" [some 16] ["t"]]
      (run (graphClone 4 false 0) exWorld).2).1.head!.map fun _ => 0) = true ∧
    inputsOfNodesNamed (runHistory3 [.replaceNode 25 22 "m" "Abs" [some 16] ["t"]]
      (run (graphClone 4 false 0) exWorld).2).2 "m" = [[some 16]] := by
  decide +kernel

/-! ### C13_frame over the fourth alphabet `Edit4`

`Edit4` (Model/Clone4.lean) = the 55 calls of `Edit3` plus the item-level calls on `graph.inputs` and
`graph.outputs` (`insert(i, v)`, `remove(v)`, `del lst[i]`, `lst[i] = v`, `extend(vs)`, `clear()`, any
index, negative too), `graph.initializers.setdefault(k, v)`, slices with any bounds and any step
(`lst[a:b:s] = vs`, `del lst[a:b:s]`; CPython's `slice.indices`, the size check of extended slices, the
zero step) and `convenience.replace_nodes_and_values` with SEVERAL old nodes and SEVERAL freshly built
new nodes (a later new node may consume outputs of an earlier one; generalises `Edit3.replaceNode`):
72 calls.  The frame lemma is `applyEdit4_frame` (Lemmas/CloneFrame4.lean). -/

/-- **C13_frame_ext4** (general form, fourth alphabet).  Let `B` be any set of cells of a heap `w` such
    that no cell outside `B` has a pointer into `B` among the pointers the editing calls follow (as in
    `C13_frame_ext`).  Then for EVERY history of the calls of `Edit4` whose receivers and arguments
    are outside `B` — however long, whether the calls succeed or raise half-way — every cell of `B`
    is afterwards exactly what it was. -/
theorem C13_frame_ext4 (B : Nat → Prop) (w : World) (es : List Edit4)
    (hb : ∀ i, B i → i < w.length)
    (hsep : ∀ (i : Nat) (c : Cell), ¬ B i → w[i]? = some c → CellOutX true true B c)
    (hargs : ∀ e ∈ es, ∀ a ∈ e.args, ¬ B a) :
    ∀ i, B i → (runHistory4 es w).2[i]? = w[i]? :=
  Frame4.frame_ext4 B w es hb hsep hargs

/-- **C13_frame_clone_edited_ext4** (`Graph.clone()`, `GraphView.clone()`): after cloning, every
    history of the 72 editing calls applied to objects that did not exist before leaves every
    pre-existing cell (except the shared tensor objects) exactly as it was before cloning. -/
theorem C13_frame_clone_edited_ext4 {w w' : World} {fuel g : Nat} {r : Except Err Nat}
    (hwf : wellFormed w = true)
    (h : run (graphClone fuel false g) w = (r, w')) (es : List Edit4)
    (hargs : ∀ e ∈ es, ∀ a ∈ e.args, ¬ Protected w a) :
    ∀ i, Protected w i → (runHistory4 es w').2[i]? = w[i]? :=
  Edit4.framed.clone_edited hwf (graphClone_result h).1 es hargs

/-- **C13_functionalize_ext4**: `C13_functionalize` for wrapped passes that use the fourth alphabet
    (`functionalize4`). -/
theorem C13_functionalize_ext4 {w w' : World} {fuel m : Nat} {r : Except Err Nat}
    (pass : Nat → World → List Edit4) (hwf : wellFormed w = true)
    (h : functionalize4 fuel pass m w = (r, w'))
    (hargs : ∀ m' w1, ∀ e ∈ pass m' w1, ∀ a ∈ e.args, ¬ Protected w a) :
    ∀ i, Protected w i → w'[i]? = w[i]? :=
  Edit4.framed.functionalize pass hwf h hargs

/-- **C13_frame_orig_edited_ext4** (`Graph.clone()` / `GraphView.clone()` with
    `allow_outer_scope_values=False`): every history of the 72 editing calls whose receivers and
    arguments are not objects created by the clone leaves every cell created by the clone exactly
    as it was. -/
theorem C13_frame_orig_edited_ext4 {w w' : World} {fuel g : Nat} {r : Except Err Nat}
    (hwf : wellFormed2 w = true)
    (h : run (graphClone fuel false g) w = (r, w')) (es : List Edit4)
    (hargs : ∀ e ∈ es, ∀ a ∈ e.args, ¬ (w.length ≤ a ∧ a < w'.length)) :
    ∀ i, w.length ≤ i → i < w'.length → (runHistory4 es w').2[i]? = w'[i]? :=
  Edit4.framed.orig_edited hwf (graphClone_result h).1 es hargs

/-- **C13_frame_orig_edited_model_ext4** (`Model.clone()`, hence `functionalize`). -/
theorem C13_frame_orig_edited_model_ext4 {w w' : World} {fuel m : Nat} {r : Except Err Nat}
    (hwf : wellFormed2 w = true)
    (h : run (modelClone fuel m) w = (r, w')) (es : List Edit4)
    (hargs : ∀ e ∈ es, ∀ a ∈ e.args, ¬ (w.length ≤ a ∧ a < w'.length)) :
    ∀ i, w.length ≤ i → i < w'.length → (runHistory4 es w').2[i]? = w'[i]? :=
  Edit4.framed.orig_edited hwf (modelClone_result h).1 es hargs

/-- a history of calls of `Edit4` that are not in `Edit3`, on the clone of `exWorld` (clone cells: 16
    value `x`, 21 value `y`, 22 the node `n`, 25 the graph): every receiver and argument is a cell created by the clone -/
def exHistory4 : List Edit4 :=
  [.ioInsert true 25 (-1) 16, .ioSetStep true 25 none none (-1) [16, 16], .ioDelStep true 25 (some 0) none 2,
   .ioRemove true 25 16, .ioExtend true 25 [16], .ioSetAt false 25 (-1) 21, .ioDelAt false 25 0,
   .ioInsert false 25 5 21, .ioClear true 25, .setdefaultInit 25 "x" 16,
   .replaceNodes 25 22 [22] [⟨"m1", "Abs", [.old 16], ["t"]⟩, ⟨"m2", "Neg", [.fresh 0 0], ["u"]⟩] [21] [(1, 0)]]

example : ∀ e ∈ exHistory4, ∀ a ∈ e.args, exWorld.length ≤ a := by decide +kernel

/-- every call of the history succeeds on the clone ... -/
example : (runHistory4 exHistory4 (run (graphClone 4 false 0) exWorld).2).1.all
    (fun r => isOk (r.map fun _ => 0)) = true := by
  decide +kernel

/-- ... really changes the clone (the new node `m2` consumes the output of the new node `m1`, which
    consumes the clone's `x`; `x` is now an initializer of the clone) ... -/
example : (inputsOfNodesNamed (runHistory4 exHistory4 (run (graphClone 4 false 0) exWorld).2).2 "m1" = [[some 16]]) ∧
    (inputsOfNodesNamed (runHistory4 exHistory4 (run (graphClone 4 false 0) exWorld).2).2 "m2").length = 1 ∧
    (runHistory4 exHistory4 (run (graphClone 4 false 0) exWorld).2).2 ≠ (run (graphClone 4 false 0) exWorld).2 := by
  decide +kernel

/-- ... and leaves the original's cells as they were (the conclusion of `C13_frame_clone_edited_ext4`,
    evaluated) -/
example : (runHistory4 exHistory4 (run (graphClone 4 false 0) exWorld).2).2.take exWorld.length = exWorld := by
  decide +kernel

/-- the error points: a zero step, an extended slice of another size, an index out of range, a value
    that is not listed -/
example : (runHistory4 [.ioSetStep true 25 none none 0 [], .ioSetStep true 25 none none 2 [16, 16],
      .ioDelAt true 25 7, .ioRemove false 25 16] (run (graphClone 4 false 0) exWorld).2).1.map
      (fun r => isOk (r.map fun _ => 0)) = [false, false, false, false] := by
  decide +kernel

/-! ### C13_closed_sharding: device annotations of the clone point into the clone -/

/-- **C13_closed_sharding** (`Graph.clone`, `GraphView.clone`).  If every sharding spec of the heap
    before cloning targets an input or an output of its own node (`devLocalW`, decidable, checked on
    every abstracted real heap: `Node.replace_input_with` / `resize_outputs` drop the specs of values
    that leave the node), then every sharding spec of every node of the clone — at any depth —
    targets an input or an output of THAT cloned node (the remap goes through the node's own
    input/output correspondence: D350), and with `allow_outer_scope_values=False`
    that value is an object of the clone: no device annotation of the clone refers to a value of the
    original.  (With `True` the only spec values outside the clone are captured outer values the
    node itself consumes, cf. `C13_closed_outer`.) -/
theorem C13_closed_sharding {w w' : World} {fuel : Nat} {allow : Bool} {g g' : Nat}
    (hd : devLocalW w = true)
    (h : run (graphClone fuel allow g) w = (.ok g', w')) (i : Nat) (hi : Owned w' g' i) :
    ∀ n, w'[i]? = some (.node n) → ∀ c ∈ n.dev, ∀ sp ∈ c.specs, ∀ v, sp.value = some v →
      (some v ∈ n.inputs ∨ v ∈ n.outputs) ∧ (allow = false → w.length ≤ v ∧ v < w'.length) := by
  obtain ⟨hres, hroot⟩ := graphClone_result h
  exact closed_sharding_of_result hd hres (owned_new hres (hroot g' rfl) hi)

/-- **C13_closed_sharding_model** (`Model.clone`, hence `functionalize`; functions included). -/
theorem C13_closed_sharding_model {w w' : World} {fuel : Nat} {m m' : Nat}
    (hd : devLocalW w = true)
    (h : run (modelClone fuel m) w = (.ok m', w')) (i : Nat) (hi : Owned w' m' i) :
    ∀ n, w'[i]? = some (.node n) → ∀ c ∈ n.dev, ∀ sp ∈ c.specs, ∀ v, sp.value = some v →
      (some v ∈ n.inputs ∨ v ∈ n.outputs) ∧ (w.length ≤ v ∧ v < w'.length) := by
  obtain ⟨hres, hroot⟩ := modelClone_result h
  intro n hn c hc sp hsp v hv
  have := closed_sharding_of_result hd hres (owned_new hres (hroot m' rfl) hi) n hn c hc sp hsp v hv
  exact ⟨this.1, this.2 rfl⟩

/-- **C13_closed_sharding_any** (`Graph.clone()` / `GraphView.clone()` with
    `allow_outer_scope_values=False`; D340 / D341).  WITHOUT any hypothesis on
    where the source's sharding specs point: every sharding spec of every node of the clone, at any
    depth, targets an object of the clone.  A spec on an input or output of its node follows the
    node's own input / output correspondence; a spec on any other value follows the cloner's value
    map; a spec on a value outside the cloned region makes the clone raise (`checkSpecs`), like an
    outer-scope node input — so a returned clone never refers into the original through a device
    annotation.  (With `allow_outer_scope_values=True` such a spec is kept: an allowed captured
    outer value.) -/
theorem C13_closed_sharding_any {w w' : World} {fuel : Nat} {g g' : Nat}
    (h : run (graphClone fuel false g) w = (.ok g', w')) (i : Nat) (hi : Owned w' g' i) :
    ∀ n, w'[i]? = some (.node n) → ∀ c ∈ n.dev, ∀ sp ∈ c.specs, ∀ v, sp.value = some v →
      w.length ≤ v ∧ v < w'.length := by
  obtain ⟨hres, hroot⟩ := graphClone_result h
  intro n hn c hc sp hsp v hv
  exact (hres.cells i _ (owned_new hres (hroot g' rfl) hi).1 hn).node_devIn rfl c hc sp hsp v hv

/-- **C13_closed_sharding_any_model** (`Model.clone`, hence `functionalize`; functions included). -/
theorem C13_closed_sharding_any_model {w w' : World} {fuel : Nat} {m m' : Nat}
    (h : run (modelClone fuel m) w = (.ok m', w')) (i : Nat) (hi : Owned w' m' i) :
    ∀ n, w'[i]? = some (.node n) → ∀ c ∈ n.dev, ∀ sp ∈ c.specs, ∀ v, sp.value = some v →
      w.length ≤ v ∧ v < w'.length := by
  obtain ⟨hres, hroot⟩ := modelClone_result h
  intro n hn c hc sp hsp v hv
  exact (hres.cells i _ (owned_new hres (hroot m' rfl) hi).1 hn).node_devIn rfl c hc sp hsp v hv

/-- a node with a sharding spec on its input: the hypothesis of C13_closed_sharding holds and the
    spec of the cloned node targets the cloned input -/
def exSharded : World := [
  .graph { name := some "g", inputs := [3], outputs := [9], nodes := [6], props := 1, mstore := 2 },
  .dict {}, .dict {},
  .val { name := some "x", graph := some 0, isIn := true, uses := [(6, 0)], props := 4, mstore := 5 },
  .dict {}, .dict {},
  .node { name := some "n", opType := "Relu", inputs := [some 3], outputs := [9], graph := some 0,
          dev := [{ cfg := 0, specs := [{ value := some 3, payload := 0 }, { value := some 9, payload := 1 }] }],
          props := 7, mstore := 8 },
  .dict {}, .dict {},
  .val { name := some "y", producer := some 6, index := some 0, graph := some 0, isOut := true,
         props := 10, mstore := 11 },
  .dict {}, .dict {} ]

def devOfNodesNamed (w : World) (nm : String) : List (List (Option Nat)) :=
  w.filterMap fun c => match c with
    | .node n => if n.name = some nm then some (n.dev.flatMap fun c => c.specs.map (·.value)) else none
    | _ => none

example : devLocalW exSharded = true ∧ devLocalW exWorld = true := by decide +kernel
example : isOk (run (graphClone 4 false 0) exSharded).1 = true ∧
    devOfNodesNamed (run (graphClone 4 false 0) exSharded).2 "n" = [[some 3, some 9], [some 14, some 19]] := by
  decide +kernel

/-! ### C13_clone_succeeds / C13_clone_raises_iff: graph-level progress

`cloneVerdict fuel allow w g` (Model/Clone.lean, `wGraph`) is a decidable walk over the SOURCE heap
in the cloner's traversal order with four lists as its only state.  It is the decidable predicate
"well-formed, def-before-use sorted, well-scoped": `ok`, `err e` with the exact error, or `irregular`
(no claim) for a dangling pointer, a node output that is already bound, initializer names that are
not pairwise different.  The run evaluates it on every generated case and compares it with the real
outcome. -/

/-- **C13_clone_succeeds**.  If the walker accepts the source graph, `Graph.clone` /
    `GraphView.clone` returns a clone — for every heap, both settings of
    `allow_outer_scope_values`, every nesting depth within the fuel. -/
theorem C13_clone_succeeds {w : World} {fuel : Nat} {allow : Bool} {g : Nat} {A : Sc}
    (h : cloneVerdict fuel allow w g = .ok A) :
    ∃ g' w', run (graphClone fuel allow g) w = (.ok g', w') := by
  have := Total.graphClone_verdict fuel allow w g
  rw [h] at this
  obtain ⟨g', s', _, h2, _⟩ := this
  exact ⟨g', s'.w, h2⟩

/-- **C13_clone_error_exact**.  If the walker answers `err e`, the clone ends with exactly the
    error `e` (the two clear errors of the node-input loop, "graph output is not in the value map",
    the ownership / naming errors of the `Graph(...)` constructor; also the model's `unsupported`
    and `fuel` answers). -/
theorem C13_clone_error_exact {w : World} {fuel : Nat} {allow : Bool} {g : Nat} {e : Err}
    (h : cloneVerdict fuel allow w g = .err e) :
    (run (graphClone fuel allow g) w).1 = .error e := by
  have := Total.graphClone_verdict fuel allow w g
  rw [h] at this
  exact this

/-- **C13_clone_raises_iff**.  Whenever the walker makes a claim (its answer is not `irregular`),
    `Graph.clone` / `GraphView.clone` raises if and only if the walker answers `err (raised ..)`,
    and then with that very error: the exact graph-level characterisation of when cloning raises
    (`C13_raises_iff_inputs` is its node-input-loop instance). -/
theorem C13_clone_raises_iff {w : World} {fuel : Nat} {allow : Bool} {g : Nat}
    (hreg : ∀ why, cloneVerdict fuel allow w g ≠ .irregular why) (why : String) :
    (∃ w', run (graphClone fuel allow g) w = (.error (.raised why), w')) ↔
      cloneVerdict fuel allow w g = .err (.raised why) := by
  exact Iff.trans ⟨fun ⟨w', h⟩ => by rw [h], fun h => ⟨_, Prod.ext h rfl⟩⟩
    (Total.raises_iff_of_verdict (x := run (graphClone fuel allow g) w) (fun _ => C13_clone_succeeds)
      (fun _ => C13_clone_error_exact) hreg why)

/-- **C13_value_map_bijection**.  When the walker accepts the source graph, the cloner's value map
    at the end of `clone_graph` (`s'.vm`, source value ↦ clone) is a bijection between the values
    the cloned region defines and the value objects the cloner created: its keys are exactly the
    walker's bound list `A.bound` (the graph inputs, initializers and node outputs of the graph
    and of its nested graphs, in traversal order) without repetition; it is injective; every pair
    maps a value of the source heap to a NEW value cell; and every value cell created by the clone
    is the image of a pair.  (By `C13_fresh` every value the clone owns is a new value cell, hence in
    the range.) -/
theorem C13_value_map_bijection {w : World} {fuel : Nat} {allow : Bool} {g : Nat} {A : Sc}
    (h : cloneVerdict fuel allow w g = .ok A) :
    ∃ g' s', cloneGraph allow fuel g { w := w } = (.ok g', s') ∧
      run (graphClone fuel allow g) w = (.ok g', s'.w) ∧
      s'.vm.map (·.1) = A.bound ∧ A.bound.Nodup ∧
      (∀ p ∈ s'.vm, ∀ q ∈ s'.vm, p.2 = q.2 → p = q) ∧
      (∀ p ∈ s'.vm, (∃ vs, w[p.1]? = some (.val vs)) ∧ w.length ≤ p.2 ∧
        ∃ vs', s'.w[p.2]? = some (.val vs')) ∧
      (∀ (i : Nat) (vs : ValueS), w.length ≤ i → s'.w[i]? = some (.val vs) → ∃ p ∈ s'.vm, p.2 = i) := by
  have := Total.graphClone_verdict fuel allow w g
  rw [h] at this
  obtain ⟨g', s', h1, h2, hT⟩ := this
  exact ⟨g', s', h1, h2, hT.bijection⟩

/-- **C13_function_clone_succeeds** (`Function.clone`): if the walker accepts the body and the
    graph-valued defaults of the attribute declarations (one value map for all of them, as the
    code has), the function is cloned. -/
theorem C13_function_clone_succeeds {w : World} {fuel f : Nat} {A : Sc}
    (h : funcVerdict fuel w f = .ok A) : ∃ f' w', run (funcClone fuel f) w = (.ok f', w') := by
  have := Total.funcClone_verdict fuel w f
  rw [h] at this
  exact this

/-- **C13_function_clone_raises_iff** (`Function.clone`): whenever the walker makes a claim,
    `Function.clone` raises iff the walker answers `err (raised ..)`, with that very error. -/
theorem C13_function_clone_raises_iff {w : World} {fuel f : Nat}
    (hreg : ∀ why, funcVerdict fuel w f ≠ .irregular why) (why : String) :
    (run (funcClone fuel f) w).1 = .error (.raised why) ↔ funcVerdict fuel w f = .err (.raised why) := by
  have hv := Total.funcClone_verdict fuel w f
  exact Total.raises_iff_of_verdict (fun _ hc => by rw [hc] at hv; exact hv) (fun _ hc => by rw [hc] at hv; exact hv)
    hreg why

def verdictKind : WRes Sc → String
  | .ok _ => "ok"
  | .err (.raised why) => "raised: " ++ why
  | .err (.unsupported why) => "unsupported: " ++ why
  | .err .fuel => "fuel"
  | .irregular why => "irregular: " ++ why

/-- non-vacuity: the walker accepts the example graphs, rejects the unsorted one and the uncovered
    capture with the cloner's own messages -/
example : verdictKind (cloneVerdict 4 false exWorld 0) = "ok" := by decide +kernel
example : verdictKind (cloneVerdict 4 true exCapture 0) = "ok" := by decide +kernel
example : verdictKind (cloneVerdict 4 false exCapture 0) = "raised: outer-scope value" := by decide +kernel
example : verdictKind (cloneVerdict 4 true exUnsorted 0) =
    "raised: value defined by a later node of the graph being cloned" := by decide +kernel

/-! D340 / D341: node `b` carries a spec on `x`, which is neither its input nor its output.
Cloning the graph remaps it to the clone's `x`; cloning a view that does not contain `x` raises. -/
def exNonLocal : World := [
  .graph { name := some "g", inputs := [3], outputs := [15], nodes := [6, 12], props := 1, mstore := 2 },
  .dict {}, .dict {},
  .val { name := some "x", graph := some 0, isIn := true, uses := [(6, 0)], props := 4, mstore := 5 },
  .dict {}, .dict {},
  .node { name := some "a", opType := "A", inputs := [some 3], outputs := [9], graph := some 0,
          props := 7, mstore := 8 },
  .dict {}, .dict {},
  .val { name := some "va", producer := some 6, index := some 0, uses := [(12, 0)], props := 10, mstore := 11 },
  .dict {}, .dict {},
  .node { name := some "b", opType := "B", inputs := [some 9], outputs := [15], graph := some 0,
          dev := [{ cfg := 0, specs := [{ value := some 3, payload := 0 }] }], props := 13, mstore := 14 },
  .dict {}, .dict {},
  .val { name := some "vb", producer := some 12, index := some 0, graph := some 0, isOut := true,
         props := 16, mstore := 17 },
  .dict {}, .dict {},
  -- a view of node `b` alone: inputs [va], outputs [vb]
  .graph { name := some "v", inputs := [9], outputs := [15], nodes := [12], props := 19, mstore := 20, view := true },
  .dict {}, .dict {} ]

example : devLocalW exNonLocal = false := by decide +kernel
example : isOk (run (graphClone 4 false 0) exNonLocal).1 = true ∧
    devOfNodesNamed (run (graphClone 4 false 0) exNonLocal).2 "b" = [[some 3], [some 23]] := by
  decide +kernel
example : verdictKind (cloneVerdict 4 false exNonLocal 18) =
    "raised: sharding spec targets an outer-scope value" := by decide +kernel
example : verdictKind (cloneVerdict 4 true exNonLocal 18) = "ok" := by decide +kernel

/-! ### C13_model_clone_succeeds / C13_model_clone_raises_iff: `Model.clone`

`modelVerdict fuel w m` (Model/Clone2.lean) is the walker's verdict on `model.clone()`: the verdict
of `cloneVerdict` on the main graph, then of `funcVerdict` on every function in order, every one
read off the SOURCE heap `w` although each function is cloned on the heap the previous clones
left: those heaps extend `w` (`C13_clone_pure_model`), and the walker's verdict is the same on every
extension of the heap unless it is `irregular` (Lemmas/CloneLocal.lean). -/

/-- **C13_model_clone_succeeds**: if the walker accepts the model, `Model.clone` returns. -/
theorem C13_model_clone_succeeds {w : World} {fuel m : Nat} (h : modelVerdict fuel w m = .ok ()) :
    ∃ m' w', run (modelClone fuel m) w = (.ok m', w') := by
  have := Total.modelClone_verdict fuel w m
  rw [h] at this
  exact this

/-- **C13_model_clone_raises_iff**: whenever the walker makes a claim, `Model.clone` raises iff the
    walker answers `err (raised ..)`, and then with that very error (the first failing step in the
    order graph, functions). -/
theorem C13_model_clone_raises_iff {w : World} {fuel m : Nat}
    (hreg : ∀ why, modelVerdict fuel w m ≠ .irregular why) (why : String) :
    (run (modelClone fuel m) w).1 = .error (.raised why) ↔ modelVerdict fuel w m = .err (.raised why) := by
  have hv := Total.modelClone_verdict fuel w m
  exact Total.raises_iff_of_verdict (fun _ hc => by rw [hc] at hv; exact hv) (fun _ hc => by rw [hc] at hv; exact hv)
    hreg why

/-- a model with one function: main graph `exWorld`-like (cells 0..12), function body (cells 13..),
    the function (cell 25), the model (cell 28) -/
def exModel : World := exWorld ++ [
  .graph { name := some "fb", inputs := [16], outputs := [22], nodes := [19], props := 14, mstore := 15 },
  .dict {}, .dict {},
  .val { name := some "a", graph := some 13, isIn := true, uses := [(19, 0)], props := 17, mstore := 18 },
  .dict {}, .dict {},
  .node { name := some "fn", opType := "Neg", inputs := [some 16], outputs := [22], graph := some 13,
          props := 20, mstore := 21 },
  .dict {}, .dict {},
  .val { name := some "b", producer := some 19, index := some 0, graph := some 13, isOut := true,
         props := 23, mstore := 24 },
  .dict {}, .dict {},
  .func { domain := "d", name := "f", graph := 13 },
  .dict {}, .dict {},
  .model { graph := 0, funcs := [25], props := 26, mstore := 27 } ]

def verdictKindU : WRes Unit → String
  | .ok _ => "ok"
  | .err (.raised why) => "raised: " ++ why
  | .err (.unsupported why) => "unsupported: " ++ why
  | .err .fuel => "fuel"
  | .irregular why => "irregular: " ++ why

/-- non-vacuity: the walker accepts the model and `Model.clone` returns -/
example : verdictKindU (modelVerdict 4 exModel 28) = "ok" := by decide +kernel
example : isOk (run (modelClone 4 28) exModel).1 = true := by decide +kernel

/-! ### D342: a sharding spec on a value the value map does not bind yet

`clone_node` resolves a spec whose value is neither an input nor an output of its node through the
cloner's value map AT THE TIME THE NODE IS CLONED (`cloneNode`: `vm` is read right after the node's
outputs were cloned).  A value that a LATER node of the cloned region defines is not bound yet, so the
spec is `specOuter` although the graph is closed and def-before-use sorted.  The model is what the
code is (finding D342, proposed_fixes/D342.md, not applied). -/

/-- **C13_spec_unbound_D342**.  For every node `ns`, every value map `vm` and every sharding spec
    `sp` that is `specOuter ns vm` (decidable: its value is not an input of the node, not an output,
    and not bound in `vm` — in particular the output of a node that is cloned LATER): the remap of
    `clone_node` leaves the spec as it is, i.e. with `allow_outer_scope_values=True` the cloned
    node's annotation stays on the ORIGINAL's value, and with `False` the check of `clone_node`
    raises when the spec belongs to the node — also on a closed, sorted graph.  No hypothesis on the
    heap or the cloner state. -/
theorem C13_spec_unbound_D342 (ns : NodeS) (vm : List (Nat × Nat)) (ins : List (Option Nat)) (outs : List Nat)
    (sp : DevSpec) (s : St) (hsp : specOuter ns vm sp = true) :
    remapSpec (ioMap ns.inputs ins ns.outputs outs ++ vm) sp = sp ∧
    (checkSpecs true ns vm s).1 = .ok () ∧
    ((∃ c ∈ ns.dev, sp ∈ c.specs) →
      (checkSpecs false ns vm s).1 = .error (.raised "sharding spec targets an outer-scope value")) := by
  unfold specOuter at hsp
  cases hv : sp.value with
  | none => rw [hv] at hsp; cases hsp
  | some v =>
    rw [hv] at hsp
    simp only [Bool.and_eq_true, Bool.not_eq_true', Option.isNone_iff_eq_none] at hsp
    obtain ⟨⟨h1, h2⟩, h3⟩ := hsp
    refine ⟨?_, ?_, ?_⟩
    · unfold remapSpec
      rw [hv]
      simp only
      rw [ListFacts.lookup_append_none (ioMap_lookup_none h1 h2), h3]
    · simp [checkSpecs, Pure.pure, M.pure]
    · rintro ⟨c, hc, hspc⟩
      have : ns.dev.any (fun c => c.specs.any (specOuter ns vm)) = true := by
        rw [List.any_eq_true]
        refine ⟨c, hc, ?_⟩
        rw [List.any_eq_true]
        refine ⟨sp, hspc, ?_⟩
        simp only [specOuter, hv, h1, h2, h3]
        rfl
      simp [checkSpecs, this, raise, fail]

/-- D342 on a heap: g(x): a = A(x) -> va; b = B(va) -> vb with a spec on vc; c = C(va) -> vc.
    The graph is closed and def-before-use sorted; `b` is cloned before `c`. -/
def exLater : World := [
  .graph { name := some "g", inputs := [3], outputs := [15, 21], nodes := [6, 12, 18], props := 1, mstore := 2 },
  .dict {}, .dict {},
  .val { name := some "x", graph := some 0, isIn := true, uses := [(6, 0)], props := 4, mstore := 5 },
  .dict {}, .dict {},
  .node { name := some "a", opType := "A", inputs := [some 3], outputs := [9], graph := some 0,
          props := 7, mstore := 8 },
  .dict {}, .dict {},
  .val { name := some "va", producer := some 6, index := some 0, uses := [(12, 0), (18, 0)], props := 10, mstore := 11 },
  .dict {}, .dict {},
  .node { name := some "b", opType := "B", inputs := [some 9], outputs := [15], graph := some 0,
          dev := [{ cfg := 0, specs := [{ value := some 21, payload := 0 }] }], props := 13, mstore := 14 },
  .dict {}, .dict {},
  .val { name := some "vb", producer := some 12, index := some 0, graph := some 0, isOut := true,
         props := 16, mstore := 17 },
  .dict {}, .dict {},
  .node { name := some "c", opType := "C", inputs := [some 9], outputs := [21], graph := some 0,
          props := 19, mstore := 20 },
  .dict {}, .dict {},
  .val { name := some "vc", producer := some 18, index := some 0, graph := some 0, isOut := true,
         props := 22, mstore := 23 },
  .dict {}, .dict {} ]

/-- `allow=True` returns a clone whose node `b` keeps the spec on the
    ORIGINAL's `vc` (cell 21); `allow=False` raises although the graph is closed and sorted -/
example : isOk (run (graphClone 4 true 0) exLater).1 = true ∧
    devOfNodesNamed (run (graphClone 4 true 0) exLater).2 "b" = [[some 21], [some 21]] := by
  decide +kernel
example : verdictKind (cloneVerdict 4 false exLater 0) =
    "raised: sharding spec targets an outer-scope value" := by decide +kernel

/-! ### C13_wiring_image: the clone's wiring is the image of the source's wiring

`GraphWire allow w' vm g g'` (Lemmas/CloneWire.lean) relates the source graph and its clone in the heap
after cloning through the cloner's final value map `vm`.  Together with "every pair of `vm` relates
values with the same observation" and `C13_value_map_bijection` this says: the clone is the source
with every object renamed. -/

/-- **C13_wiring_image**.  When the walker accepts the source graph, the clone returned by
    `Graph.clone` / `GraphView.clone` is the image of the source under the cloner's final value map
    `s'.vm` (`GraphWire`, at every nesting depth), and every pair of that map relates values with
    the same observation (`ValSim`: name, doc string, constant tensor, content of type and shape
    objects, of `metadata_props` and of `meta`). -/
theorem C13_wiring_image {w : World} {fuel : Nat} {allow : Bool} {g : Nat} {A : Sc}
    (h : cloneVerdict fuel allow w g = .ok A) :
    ∃ g' s', cloneGraph allow fuel g { w := w } = (.ok g', s') ∧
      run (graphClone fuel allow g) w = (.ok g', s'.w) ∧
      GraphWire allow s'.w s'.vm g g' ∧ (∀ p ∈ s'.vm, ValSim s'.w p.1 p.2) := by
  obtain ⟨g', s', h1, h2, h3, h4, _⟩ := graphClone_wiring h
  exact ⟨g', s', h1, h2, h3, h4⟩

/-- **C13_wiring_refs_exact**: with `allow_outer_scope_values=False` "image" is exact — a
    reference of the clone IS the reference of the source mapped through the value map. -/
theorem C13_wiring_refs_exact (vm : List (Nat × Nat)) (r r' : Option Nat) :
    RefImg false vm r r' ↔ r' = r.map (img vm) := by
  constructor
  · rintro (h | ⟨h, _⟩)
    · exact h
    · cases h
  · exact fun h => .inl h

/-- **C13_faithful_of_wiring**.  The observational simulation of `C13_faithful`, and with it the
    equality of what serialization observes, FOLLOWS from the wiring image: in any heap, if `g'` is
    the image of `g` under a value map whose pairs relate equally observed values, then `g` and `g'`
    are `GraphSim`-related and `g'` serializes to whatever `g` serializes to. -/
theorem C13_faithful_of_wiring {allow : Bool} {w : World} {vm : List (Nat × Nat)} {g g' : Nat}
    (hW : GraphWire allow w vm g g') (hK : ∀ p ∈ vm, ValSim w p.1 p.2) :
    GraphSim w g g' ∧ ∀ (k : Nat) (y : SGraph), serGraph k w g = some y → serGraph k w g' = some y :=
  ⟨hW.toSim hK, fun k _ hy => serGraph_sim k (hW.toSim hK) hy⟩

/-- **C13_faithful_observe_wiring**: `C13_faithful_observe` obtained through the wiring image
    (hypothesis: the walker accepts): the clone is returned, it observes to what the original
    observed to before cloning, and so does the original afterwards. -/
theorem C13_faithful_observe_wiring {w : World} {fuel : Nat} {allow : Bool} {g : Nat} {A : Sc}
    (h : cloneVerdict fuel allow w g = .ok A) (k : Nat) (y : SGraph) (hy : serGraph k w g = some y) :
    ∃ g' w', run (graphClone fuel allow g) w = (.ok g', w') ∧
      serGraph k w' g' = some y ∧ serGraph k w' g = some y := by
  obtain ⟨g', s', _, h2, hW, hK, hle, _⟩ := graphClone_wiring h
  have hy' := serGraph_mono hle k hy
  exact ⟨g', s'.w, h2, (C13_faithful_of_wiring hW hK).2 k y hy', hy'⟩

/-! ### C13_wiring_image_function / C13_wiring_image_model

`Function.clone` runs `funcCloneCore` (Model/Clone2.lean) under a fresh cloner
(`funcClone = withFreshMap funcCloneCore`, by definition), so the cloner's FINAL value map of a
function clone is the `vm` component of the state `funcCloneCore` ends in; the whole function is
related under that ONE map (`FuncWire`).  `Model.clone` makes one cloner for the main graph and one
per function (`ModelWire`, each map `VmOk`). -/

/-- **C13_wiring_image_function** (`Function.clone`; hypothesis: the walker accepts, `funcVerdict`).
    The clone is the image of the function under the cloner's final value map `s'.vm` (body and
    graph-valued attribute declarations, every nesting depth), every pair of the map relates values
    with the same observation, and the map is a bijection between the values the function defines
    (the walker's bound list, once each) and the value objects the clone created. -/
theorem C13_wiring_image_function {w : World} {fuel f : Nat} {A : Sc} (h : funcVerdict fuel w f = .ok A) :
    ∃ f' s', funcCloneCore fuel f { w := w } = (.ok f', s') ∧
      run (funcClone fuel f) w = (.ok f', s'.w) ∧
      FuncWire s'.w s'.vm f f' ∧ (∀ p ∈ s'.vm, ValSim s'.w p.1 p.2) ∧
      s'.vm.map (·.1) = A.bound ∧ A.bound.Nodup ∧
      (∀ p ∈ s'.vm, ∀ q ∈ s'.vm, p.2 = q.2 → p = q) ∧
      (∀ p ∈ s'.vm, (∃ vs, w[p.1]? = some (.val vs)) ∧ w.length ≤ p.2 ∧
        ∃ vs', s'.w[p.2]? = some (.val vs')) ∧
      (∀ (i : Nat) (vs : ValueS), w.length ≤ i → s'.w[i]? = some (.val vs) → ∃ p ∈ s'.vm, p.2 = i) := by
  obtain ⟨f', s', h1, h2, hW, hK, _, hT⟩ := funcClone_wiring h
  exact ⟨f', s', h1, h2, hW, hK, hT.bijection⟩

/-- **C13_wiring_image_model** (`Model.clone`, hence the model `functionalize` hands to the wrapped
    pass; hypothesis: the walker accepts, `modelVerdict` on the SOURCE heap).  The clone is returned
    and is the image of the model (`ModelWire`): model-level fields equal, main graph and every
    function the image of its source under that clone step's own value map, every such map a
    bijection onto NEW value objects (`w.length ≤` target); nothing pre-existing changed (`CoreLe`
    here, cell by cell in `C13_clone_pure_model`). -/
theorem C13_wiring_image_model {w : World} {fuel m : Nat} (h : modelVerdict fuel w m = .ok ()) :
    ∃ m' w', run (modelClone fuel m) w = (.ok m', w') ∧ ModelWire w.length w' m m' ∧ CoreLe w w' :=
  modelClone_wiring h

/-- **C13_model_function_keys**: the functions of the cloned model are filed under the same
    identifiers in the same order as those of the source model. -/
theorem C13_model_function_keys {n0 : Nat} {w : World} {m m' : Nat} (h : ModelWire n0 w m m') :
    ∃ ms ms', cModel w m = some ms ∧ cModel w m' = some ms' ∧
      ms'.funcs.map (funcKey w) = ms.funcs.map (funcKey w) := h.keys

/-- **C13_faithful_function_of_wiring**: the observational simulation of `C13_faithful_function`
    FOLLOWS from the wiring image of a function. -/
theorem C13_faithful_function_of_wiring {w : World} {vm : List (Nat × Nat)} {f f' : Nat}
    (hW : FuncWire w vm f f') (hK : ∀ p ∈ vm, ValSim w p.1 p.2) : FuncSim w f f' := hW.toSim hK

/-- **C13_faithful_model_of_wiring**: model-level faithfulness (`ModelSim`, the conclusion of
    `C13_faithful_model`) DERIVED from the wiring image: whenever the walker accepts the model,
    `Model.clone` returns a model that is `ModelSim`-related to its source in the heap after cloning. -/
theorem C13_faithful_model_of_wiring {w : World} {fuel m : Nat} (h : modelVerdict fuel w m = .ok ()) :
    ∃ m' w', run (modelClone fuel m) w = (.ok m', w') ∧ ModelSim w' m m' := by
  obtain ⟨m', w', h1, hW, _⟩ := modelClone_wiring h
  exact ⟨m', w', h1, hW.toSim⟩

/-- non-vacuity: the walker accepts the function and the model of `exModel` -/
example : verdictKind (funcVerdict 4 exModel 25) = "ok" := by decide +kernel
example : verdictKindU (modelVerdict 4 exModel 28) = "ok" := by decide +kernel

/-! ### C13_functionalize_any: `functionalize` of ANY pass

`functionalizeAny fuel ps steps m w` (Model/Clone2.lean) is `functionalize(P)(model)` for a pipeline
`P = Sequential(*passes)` / `PassManager(passes, steps)`: `_FunctionalPassWrapper.call` clones the
model — always, it does not look at what `P` declares about itself — and runs `P` on the clone.  A
stage is ANY function from the model it is handed (and the heap it finds) to a history of the 44
editing calls, optionally followed by building a NEW `ir.Model` around the graph and functions of
the model it was handed; its declared flags (`in_place`, `changes_input`) are arbitrary, and so are
the flags `Sequential` derives from them (first pass only for `changes_input`).  The stages are
histories of `Edit2` because that is how `Stage` is defined (Model/Clone2.lean); nothing in the proof
depends on the alphabet beyond `runHistory2_inv`. -/

/-- **C13_functionalize_any**.  `functionalize(P)(model)` for ANY pipeline `P` of passes: whatever
    the stages do — any history of the 44 editing calls on objects that did not exist before the
    call (the clone's objects, which is all a pass can reach from the model it is handed, and the
    objects the passes create), each stage possibly returning a NEW `ir.Model` that shares the graph
    and the functions of the model it was handed — whatever flags the passes declare and `Sequential`
    / `PassManager` derive from them, however many steps, whether a stage or a `PassBase.__call__`
    check raises half-way: the input model and everything else that existed before the call is
    unchanged, cell for cell (except the name of shared tensor objects, D113); and it stays so under
    every later history `es2` of editing calls on the returned model's objects.  The reason is the
    unconditional `model.clone()` in `_FunctionalPassWrapper.call`. -/
theorem C13_functionalize_any {w w' : World} {fuel m steps : Nat} {r : Except Err Nat}
    (ps : List (Decl × Stage)) (hwf : wellFormed w = true)
    (h : functionalizeAny fuel ps steps m w = (r, w'))
    (hargs : ∀ p ∈ ps, ∀ m' w1, ∀ e ∈ p.2.edits m' w1, ∀ a ∈ e.args, ¬ Protected w a)
    (es2 : List Edit2) (hargs2 : ∀ e ∈ es2, ∀ a ∈ e.args, ¬ Protected w a) :
    ∀ i, Protected w i → (runHistory2 es2 w').2[i]? = w[i]? := by
  unfold functionalizeAny at h
  rcases hrun : run (modelClone fuel m) w with ⟨r1, w1⟩
  rw [hrun] at h
  have hres := (modelClone_result hrun).1
  have hI1 : FInv true true (Protected w) w1 { w := w1 } := hres.finv hwf
  have hfin : FInv true true (Protected w) w1 { w := w' } := by
    cases r1 with
    | error e =>
      simp only [Prod.mk.injEq] at h
      obtain ⟨_, rfl⟩ := h
      exact hI1
    | ok m' =>
      simp only at h
      have hw' : w' = (runStages (List.replicate steps ps).flatten m' w1).2 := by
        have := congrArg Prod.snd h
        simp only [callChecked_snd, runPipeline] at this
        exact this.symm
      rw [hw']
      refine runStages_inv _ m' w1 hI1 ?_
      intro p hp
      obtain ⟨l, hl, hpl⟩ := List.mem_flatten.mp hp
      have := List.eq_of_mem_replicate hl
      subst this
      exact hargs p hpl
  exact hres.protected_same (runHistory2_inv es2 w' hfin hargs2)

/-- the pipeline `Sequential(functional stamp, in-place pass)` DECLARES itself functional
    (`in_place = False`, `changes_input = False`) although it edits the graph of the model it is
    handed: the declaration is no reason to skip the clone -/
example : seqDecl [(⟨false, false⟩, .rewrap (fun _ _ => []) 0), (⟨true, true⟩, .inPlace (fun _ _ => []))] =
    ⟨false, false⟩ := by decide

/-- non-vacuity on `exModel`: the pipeline [stamp; in-place stage setting the doc string of the graph of
    the model it is handed, i.e. of the clone] runs, returns a new model object, and changes the clone -/
def exPipeline : List (Decl × Stage) :=
  [(⟨false, false⟩, .rewrap (fun _ _ => []) 7),
   (⟨true, true⟩, .inPlace (fun m w => match w[m]? with
      | some (.model ms) => [.base (.setGraphDoc ms.graph (some "edited"))]
      | _ => []))]

example : isOk (functionalizeAny 4 exPipeline 1 28 exModel).1 = true := by decide +kernel

def graphDocs (w : World) : List (Option String) :=
  w.filterMap fun c => match c with
    | .graph g => some g.doc
    | _ => none

example : graphDocs (functionalizeAny 4 exPipeline 1 28 exModel).2 = [none, none, some "edited", none] := by
  decide +kernel

/-! ### C13_functionalize_hooks: `requires()` / `ensures()` hooks and `early_stop`

`functionalizeHooks` (Model/Clone2.lean) extends `functionalizeAny`: every pass of the pipeline and
the pipeline object itself have `requires` / `ensures` hooks - user code that is handed the model and
may do to it whatever a pass may (any history of the 44 editing calls; a well-behaved hook does
nothing) and then returns or raises (`PreconditionError` / `PostconditionError`) -, every pass reports
a `modified` flag, and `PassManager(steps, early_stop)` stops after the first round that reports no
modification.  The hooks of the wrapped pipeline are called by `PassBase.__call__` of the INNER pass,
i.e. on the clone; `_FunctionalPassWrapper`'s own hooks are the no-op defaults of a private class. -/

/-- every editing call a pass makes - in `requires`, in `call`, in `ensures` - names objects outside `B` -/
def PassH.ArgsOut (B : Nat → Prop) (p : PassH) : Prop :=
  (∀ m w, ∀ e ∈ p.requires.edits m w, ArgsOut2 B e) ∧ (∀ m w, ∀ e ∈ p.stage.edits m w, ArgsOut2 B e) ∧
    ∀ m w, ∀ e ∈ p.ensures.edits m w, ArgsOut2 B e

theorem callPassH_inv {B : Nat → Prop} {wB : World} (p : PassH) (m : Nat) (w : World)
    (hI : FInv true true B wB { w := w }) (ha : p.ArgsOut B) :
    FInv true true B wB { w := (callPassH p m w).2 } := by
  unfold callPassH
  have i1 := runHook_inv "PreconditionError" p.requires m w hI (ha.1 m w)
  rcases h1 : runHook "PreconditionError" p.requires m w with ⟨x1, w1⟩
  rw [h1] at i1
  cases x1 with
  | error e => exact i1
  | ok u1 =>
    simp only
    have i2 := stageCall_inv p.stage m w1 i1 (ha.2.1 m w1)
    rcases h2 : stageCall p.stage m w1 with ⟨x2, w2⟩
    rw [h2] at i2
    cases x2 with
    | error e => exact i2
    | ok m1 =>
      simp only
      have i3 := runHook_inv "PostconditionError" p.ensures m1 w2 i2 (ha.2.2 m1 w2)
      rcases h3 : runHook "PostconditionError" p.ensures m1 w2 with ⟨x3, w3⟩
      rw [h3] at i3
      cases x3 with
      | error e => exact i3
      | ok u3 =>
        simp only
        have h4 := callChecked_snd p.decl m (.ok m1, w3)
        rcases h5 : callChecked p.decl m (.ok m1, w3) with ⟨x4, w4⟩
        rw [h5] at h4
        simp only at h4
        subst h4
        cases x4 <;> exact i3

theorem runStagesH_inv {B : Nat → Prop} {wB : World} :
    ∀ (ps : List PassH) (m : Nat) (md : Bool) (w : World), FInv true true B wB { w := w } →
      (∀ p ∈ ps, p.ArgsOut B) → FInv true true B wB { w := (runStagesH ps m md w).2 }
  | [], _, _, _, h, _ => h
  | p :: rest, m, md, w, h, ha => by
    have hst := callPassH_inv p m w h (ha p List.mem_cons_self)
    unfold runStagesH
    rcases hr : callPassH p m w with ⟨x, w1⟩
    rw [hr] at hst
    cases x with
    | error e => exact hst
    | ok r => exact runStagesH_inv rest r.1 (md || r.2) w1 hst (fun q hq => ha q (List.mem_cons_of_mem _ hq))

theorem runRoundsH_inv {B : Nat → Prop} {wB : World} (ps : List PassH) (earlyStop : Bool)
    (ha : ∀ p ∈ ps, p.ArgsOut B) :
    ∀ (k m : Nat) (md : Bool) (w : World), FInv true true B wB { w := w } →
      FInv true true B wB { w := (runRoundsH ps earlyStop k m md w).2 }
  | 0, _, _, _, h => h
  | k + 1, m, md, w, h => by
    have hst := runStagesH_inv ps m false w h ha
    unfold runRoundsH
    rcases hr : runStagesH ps m false w with ⟨x, w1⟩
    rw [hr] at hst
    cases x with
    | error e => exact hst
    | ok r =>
      simp only
      split
      · exact hst
      · exact runRoundsH_inv ps earlyStop ha k r.1 (md || r.2) w1 hst

/-- **C13_functionalize_hooks**.  `functionalize(P)(model)` for ANY pipeline `P` whose passes - and `P`
    itself - have `requires()` / `ensures()` hooks that may edit the model they are handed and may
    raise, with `PassManager`'s `steps` and `early_stop` driven by whatever `modified` flags the passes
    report: the input model and everything else that existed before the call is unchanged, cell for
    cell (except the name of shared tensor objects, D113), also when a hook, a stage or an identity
    check raises half-way, and it stays so under every later history `es2` of editing calls on the
    returned model's objects.  Generalises `C13_functionalize_any` (hooks that do nothing and never
    raise, `early_stop = false`). -/
theorem C13_functionalize_hooks {w w' : World} {fuel m steps : Nat} {earlyStop : Bool} {r : Except Err Nat}
    (ps : List PassH) (outerReq outerEns : Hook) (hwf : wellFormed w = true)
    (h : functionalizeHooks fuel ps outerReq outerEns steps earlyStop m w = (r, w'))
    (hargs : ∀ p ∈ ps, p.ArgsOut (Protected w))
    (hreq : ∀ m' w1, ∀ e ∈ outerReq.edits m' w1, ∀ a ∈ e.args, ¬ Protected w a)
    (hens : ∀ m' w1, ∀ e ∈ outerEns.edits m' w1, ∀ a ∈ e.args, ¬ Protected w a)
    (es2 : List Edit2) (hargs2 : ∀ e ∈ es2, ∀ a ∈ e.args, ¬ Protected w a) :
    ∀ i, Protected w i → (runHistory2 es2 w').2[i]? = w[i]? := by
  unfold functionalizeHooks at h
  rcases hrun : run (modelClone fuel m) w with ⟨r1, w1⟩
  rw [hrun] at h
  have hres := (modelClone_result hrun).1
  have hI1 : FInv true true (Protected w) w1 { w := w1 } := hres.finv hwf
  have hfin : FInv true true (Protected w) w1 { w := w' } := by
    cases r1 with
    | error e =>
      simp only [Prod.mk.injEq] at h
      obtain ⟨_, rfl⟩ := h
      exact hI1
    | ok m' =>
      simp only at h
      have i2 := runHook_inv "PreconditionError" outerReq m' w1 hI1 (hreq m' w1)
      rcases h2 : runHook "PreconditionError" outerReq m' w1 with ⟨x2, w2⟩
      rw [h2] at i2 h
      cases x2 with
      | error e =>
        simp only [Prod.mk.injEq] at h
        obtain ⟨_, rfl⟩ := h
        exact i2
      | ok u2 =>
        simp only at h
        have i3 := runRoundsH_inv ps earlyStop hargs steps m' false w2 i2
        rcases h3 : runRoundsH ps earlyStop steps m' false w2 with ⟨x3, w3⟩
        rw [h3] at i3 h
        cases x3 with
        | error e =>
          simp only [Prod.mk.injEq] at h
          obtain ⟨_, rfl⟩ := h
          exact i3
        | ok r3 =>
          simp only at h
          have i4 := runHook_inv "PostconditionError" outerEns r3.1 w3 i3 (hens r3.1 w3)
          rcases h4 : runHook "PostconditionError" outerEns r3.1 w3 with ⟨x4, w4⟩
          rw [h4] at i4 h
          cases x4 with
          | error e =>
            simp only [Prod.mk.injEq] at h
            obtain ⟨_, rfl⟩ := h
            exact i4
          | ok u4 =>
            simp only at h
            have := congrArg Prod.snd h
            simp only [callChecked_snd] at this
            rw [← this]
            exact i4
  exact hres.protected_same (runHistory2_inv es2 w' hfin hargs2)

/-- non-vacuity on `exModel`: a pipeline whose `requires` hook edits the model it is handed (the
    clone) and whose `ensures` hook raises: the call ends with `PostconditionError`, the clone's graph
    was edited, nothing else -/
def exReqEdits (m : Nat) (w : World) : List Edit2 :=
  match w[m]? with
  | some (.model ms) => [.base (.setGraphDoc ms.graph (some "seen by requires"))]
  | _ => []

def exHookPass : PassH where
  decl := ⟨true, true⟩
  requires := ⟨exReqEdits, fun _ _ => false⟩
  stage := .inPlace (fun _ _ => [])
  ensures := ⟨fun _ _ => [], fun _ _ => true⟩
  modified := fun _ _ => false

def noHook : Hook := ⟨fun _ _ => [], fun _ _ => false⟩


def errKind : Except Err Nat → String
  | .ok _ => "ok"
  | .error (.raised why) => "raised: " ++ why
  | .error (.unsupported why) => "unsupported: " ++ why
  | .error .fuel => "fuel"

example : errKind (functionalizeHooks 4 [exHookPass] noHook noHook 3 true 28 exModel).1 =
    "raised: PostconditionError" := by decide +kernel
example : graphDocs (functionalizeHooks 4 [exHookPass] noHook noHook 3 true 28 exModel).2 =
    [none, none, some "seen by requires", none] := by decide +kernel
/-- `early_stop`: a pass that reports `modified = False` ends `PassManager(steps=3)` after one round -/
example : isOk (functionalizeHooks 4 [{ exHookPass with ensures := noHook }] noHook noHook 3 true 28 exModel).1 = true := by
  decide +kernel

/-! ### C13_irregular_*: when the walker makes no claim

The walker answers `irregular` for exactly three reasons (Lemmas/CloneIrregular.lean): a pointer that
names no cell, a node output that the value map binds already when its node is cloned, initializer
names that are not pairwise different.  The first is impossible on a heap whose pointer fields all
name cells (`closedW`, decidable, evaluated on every abstracted heap).  The other two DO occur on
well-formed heaps - and with the real library, through the public API: a `GraphView` that lists the
output of one of its own nodes among its inputs, and a `GraphView` whose initializer keys went stale
because a value was renamed after the view was made.  There the clone is returned but the claims
the walker guards really fail (the value map is no bijection / the clone has fewer initializers):
`irregular` is not an artefact of the proof. -/

/-- **C13_irregular_reasons** (`Graph.clone` / `GraphView.clone`): the three reasons; no dangling
    pointer on a closed heap. -/
theorem C13_irregular_reasons {w : World} {fuel : Nat} {allow : Bool} {g : Nat} {why : String}
    (hg : g < w.length) (h : cloneVerdict fuel allow w g = .irregular why) :
    why = "node output is already bound in the value map" ∨ why = "initializer names not distinct" ∨
      (why = "dangling pointer" ∧ closedW w = false) :=
  Irr.irr_wGraph allow fuel g {} (fun _ => hg) why h

/-- **C13_irregular_reasons_function** (`Function.clone`). -/
theorem C13_irregular_reasons_function {w : World} {fuel f : Nat} {why : String}
    (hf : f < w.length) (h : funcVerdict fuel w f = .irregular why) :
    why = "node output is already bound in the value map" ∨ why = "initializer names not distinct" ∨
      (why = "dangling pointer" ∧ closedW w = false) :=
  Irr.irr_funcVerdict fuel f (fun _ => hf) why h

/-- **C13_irregular_reasons_model** (`Model.clone`). -/
theorem C13_irregular_reasons_model {w : World} {fuel m : Nat} {why : String}
    (hm : m < w.length) (h : modelVerdict fuel w m = .irregular why) :
    why = "node output is already bound in the value map" ∨ why = "initializer names not distinct" ∨
      (why = "dangling pointer" ∧ closedW w = false) :=
  Irr.irr_modelVerdict fuel m (fun _ => hm) why h

/-- a view (cell 18) of both nodes of `exNonLocal`'s graph that lists `va`, the output of its own
    node `a`, among its inputs: `GraphView([x, va], [vb], nodes=[a, b])` -/
def exOwnOutput : World := exNonLocal.take 18 ++ [
  .graph { name := some "v", inputs := [3, 9], outputs := [15], nodes := [6, 12], props := 19, mstore := 20, view := true },
  .dict {}, .dict {} ]

/-- a graph with initializer `w1` (cell 3) and a view (cell 15) made with initializers `[w1, w2]`
    whose second value (cell 6) was renamed to `w1` afterwards: the view's keys are stale -/
def exStaleKey : World := [
  .graph { name := some "g", outputs := [12], nodes := [9], inits := [("w1", 3)], props := 1, mstore := 2 },
  .dict {}, .dict {},
  .val { name := some "w1", graph := some 0, isInit := true, uses := [(9, 0)], props := 4, mstore := 5 },
  .dict {}, .dict {},
  .val { name := some "w1", uses := [(9, 1)], props := 7, mstore := 8 },
  .dict {}, .dict {},
  .node { name := some "n", opType := "Add", inputs := [some 3, some 6], outputs := [12], graph := some 0,
          props := 10, mstore := 11 },
  .dict {}, .dict {},
  .val { name := some "o", producer := some 9, index := some 0, graph := some 0, isOut := true,
         props := 13, mstore := 14 },
  .dict {}, .dict {},
  .graph { name := some "v", outputs := [12], nodes := [9], inits := [("w1", 3), ("w2", 6)], props := 16,
           mstore := 17, view := true },
  .dict {}, .dict {} ]

def initCounts (w : World) : List Nat :=
  w.filterMap fun c => match c with
    | .graph g => some g.inits.length
    | _ => none

/-- **C13_irregular_reachable**: `irregular` verdicts occur on heaps without any dangling pointer
    (`wellFormed2`, `closedW`), the clone is returned there, and the guarded claims fail: (1) a view
    listing an output of one of its own nodes among its inputs - the cloner's final value map binds
    that value twice (the graph-input clone is overwritten by the node-output clone: no bijection);
    (2) a view with stale initializer keys - the clone has ONE initializer where the source has two
    (finding D346: `Graph(initializers=...)` files the clones under their names). -/
theorem C13_irregular_reachable :
    (wellFormed2 exOwnOutput = true ∧ closedW exOwnOutput = true ∧
      verdictKind (cloneVerdict 4 false exOwnOutput 18) = "irregular: node output is already bound in the value map" ∧
      isOk (run (graphClone 4 false 18) exOwnOutput).1 = true ∧
      ¬ ((cloneGraph false 4 18 { w := exOwnOutput }).2.vm.map (·.1)).Nodup) ∧
    (wellFormed2 exStaleKey = true ∧ closedW exStaleKey = true ∧
      verdictKind (cloneVerdict 4 false exStaleKey 15) = "irregular: initializer names not distinct" ∧
      isOk (run (graphClone 4 false 15) exStaleKey).1 = true ∧
      initCounts (run (graphClone 4 false 15) exStaleKey).2 = [1, 2, 1]) := by
  decide +kernel

/-- non-vacuity of `closedW`: the example heaps are closed -/
example : closedW exWorld = true ∧ closedW exModel = true ∧ closedW exNonLocal = true := by decide +kernel

/-! ### C13_deep_copy_meta_*: `deep_copy=True` copies the objects stored in `meta`

In `IrVerif.Clone` the values stored in a `meta` store are opaque atoms, so `deep_copy` is invisible
there.  `IrVerif.Clone.Meta` (Model/CloneMeta.lean, Lemmas/CloneMeta.lean) refines exactly that:
the stored values are references into a heap of mutable Python containers (`list` / `dict` cells,
immutable leaves as atoms), `Cloner.clone_meta(old, new, deep_copy)` is transcribed with CPython's
`copy.deepcopy` (memo per call, i.e. per KEY), and `PyEdit` is the alphabet of in-place edits of
such objects.  On `deep_copy=False` (the default, also what `functionalize` uses): the
property statement demands that "metadata CONTAINERS are new objects" - containers, not contents.
The clone's `MetadataStore` is a new container (a new `dict` cell in `IrVerif.Clone`: `C13_fresh`),
`meta[k] = x` / `del` / `invalidate` on one copy never show in the other (`C13_frame`); that the
stored OBJECTS are shared is the documented meaning of `deep_copy=False` (like tensors), stated
as `C13_shallow_meta_shared` with a witness that an in-place edit through one store is then visible
through the other (the check counts it as `observation=meta-shared:*`, not as a violation). -/

/-- **C13_deep_copy_meta_fresh**: after `clone_meta(.., deep_copy=True)` - all heaps, stores, fuel -
    no pre-existing object changed, every object reachable from the clone's store is a NEW object,
    keys (in order) and invalid keys are the source's, atoms stay the same atoms. -/
theorem C13_deep_copy_meta_fresh (fuel : Nat) (st st' : Meta.Store) (h h' : Meta.PyHeap)
    (hc : Meta.cloneMeta true fuel st h = .ok (st', h')) :
    (∃ ext, h' = h ++ ext) ∧
    (∀ k i, (k, Meta.PyVal.ref i) ∈ st'.data → h.length ≤ i) ∧
    (∀ i o, h.length ≤ i → h'[i]? = some o → ∀ j, Meta.PyVal.ref j ∈ o.vals → h.length ≤ j) ∧
    (∀ i, Meta.Reach h' (st'.data.map (·.2)) i → h.length ≤ i) ∧
    st'.data.map (·.1) = st.data.map (·.1) ∧ st'.invalid = st.invalid ∧
    Meta.All2 (fun e e' => e'.1 = e.1 ∧ ∀ s, e.2 = .atom s ↔ e'.2 = .atom s) st.data st'.data :=
  Meta.deep_copy_meta_fresh fuel st st' h h' hc

/-- **C13_deep_copy_meta_fresh_all**: the same for all the `meta` stores of a cloned IR object, in the
    cloner's order, whatever aliasing there was between keys and between stores. -/
theorem C13_deep_copy_meta_fresh_all (fuel : Nat) (ss ss' : List Meta.Store) (h h' : Meta.PyHeap)
    (hc : Meta.cloneMetaAll true fuel ss h = .ok (ss', h')) :
    (∃ ext, h' = h ++ ext) ∧
    (∀ i o, h.length ≤ i → h'[i]? = some o → ∀ j, Meta.PyVal.ref j ∈ o.vals → h.length ≤ j) ∧
    (∀ i, Meta.Reach h' (Meta.rootsOf ss') i → h.length ≤ i) ∧
    Meta.All2 (fun s s' => s'.data.map (·.1) = s.data.map (·.1) ∧ s'.invalid = s.invalid ∧
      Meta.All2 (fun e e' => e'.1 = e.1 ∧ ∀ a, e.2 = .atom a ↔ e'.2 = .atom a) s.data s'.data) ss ss' :=
  Meta.deep_copy_meta_fresh_all fuel ss ss' h h' hc

/-- **C13_deep_copy_meta_frame**: every history of in-place edits of objects the deep clone created
    leaves every pre-existing object unchanged, so the original's stored values observe alike. -/
theorem C13_deep_copy_meta_frame (fuel : Nat) (st st' : Meta.Store) (h h' : Meta.PyHeap)
    (hc : Meta.cloneMeta true fuel st h = .ok (st', h')) (es : List Meta.PyEdit)
    (ht : ∀ e ∈ es, h.length ≤ e.target) :
    (∀ i, i < h.length → (Meta.runPyHistory es h')[i]? = h[i]?) ∧
    ∀ v, (∀ i, Meta.Reach h [v] i → i < h.length) → ∀ k,
      Meta.obs k (Meta.runPyHistory es h') v = Meta.obs k h v :=
  Meta.deep_copy_meta_frame fuel st st' h h' hc es ht

/-- **C13_deep_copy_meta_frame_reach**: the same with the edited objects given as "whatever is reachable
    from the clone's store at the time of the edit" (values written: atoms or such objects). -/
theorem C13_deep_copy_meta_frame_reach (fuel : Nat) (st st' : Meta.Store) (h h' : Meta.PyHeap)
    (hc : Meta.cloneMeta true fuel st h = .ok (st', h')) (es : List Meta.PyEdit)
    (hh : Meta.ReachHistory (st'.data.map (·.2)) es h') :
    (∀ i, i < h.length → (Meta.runPyHistory es h')[i]? = h[i]?) ∧
    ∀ v, (∀ i, Meta.Reach h [v] i → i < h.length) → ∀ k,
      Meta.obs k (Meta.runPyHistory es h') v = Meta.obs k h v :=
  Meta.deep_copy_meta_frame_reach fuel st st' h h' hc es hh

/-- **C13_deep_copy_meta_frame_all**: the same for all the stores of a cloned IR object. -/
theorem C13_deep_copy_meta_frame_all (fuel : Nat) (ss ss' : List Meta.Store) (h h' : Meta.PyHeap)
    (hc : Meta.cloneMetaAll true fuel ss h = .ok (ss', h')) (es : List Meta.PyEdit)
    (hh : Meta.ReachHistory (Meta.rootsOf ss') es h') :
    (∀ i, i < h.length → (Meta.runPyHistory es h')[i]? = h[i]?) ∧
    ∀ v, (∀ i, Meta.Reach h [v] i → i < h.length) → ∀ k,
      Meta.obs k (Meta.runPyHistory es h') v = Meta.obs k h v :=
  Meta.deep_copy_meta_frame_all fuel ss ss' h h' hc es hh

/-- **C13_deep_copy_meta_faithful**: the deep clone's store observes (to every depth) like the source
    store, on a heap without dangling references (decidable: `heapClosedB`, `storeOkB`; evaluated on
    every generated case). -/
theorem C13_deep_copy_meta_faithful (fuel : Nat) (st st' : Meta.Store) (h h' : Meta.PyHeap)
    (hwf : Meta.HeapClosed h) (hst : ∀ k j, (k, Meta.PyVal.ref j) ∈ st.data → j < h.length)
    (hc : Meta.cloneMeta true fuel st h = .ok (st', h')) :
    ∀ k, Meta.obsStore k h' st' = Meta.obsStore k h st :=
  Meta.deep_copy_meta_faithful fuel st st' h h' hwf hst hc

/-- **C13_shallow_meta_shared** (`deep_copy=False`): a new store with the same keys and invalid keys,
    the heap untouched, every stored object THE SAME object (see the decision above). -/
theorem C13_shallow_meta_shared (fuel : Nat) (st : Meta.Store) (h : Meta.PyHeap) :
    ∃ st', Meta.cloneMeta false fuel st h = .ok (st', h) ∧ st'.data = st.data ∧ st'.invalid = st.invalid :=
  Meta.shallow_meta_shared fuel st h

/-! ### C13_meta_refines: `IrVerif.Clone.Meta` and the `mstore` cells of this model

The values of a `meta` store are atoms (`String`) in this model: what the harness puts there is
`str(value)`, i.e. what printing sees of the stored object - never its identity.  `IrVerif.Clone.Meta`
keeps the identities.  Lemmas/CloneMetaLink.lean ties the two:
* `MetaLink.embStore d`: the EMBEDDING of a store of this model into `Meta.Store` (its atoms; no Python
  heap cell is needed);
* `MetaLink.absStore enc k h st`: the ABSTRACTION of a refined store `st` over the Python heap `h` to a
  `DictS` of this model: per key `enc` of the unfolding of the value to depth `k` (`Meta.obs`; `enc` and
  `k` are arbitrary - whatever printing function the harness uses factors through some unfolding);
  the embedding is a section of it (`C13_meta_embed`).
The commuting squares: `Meta.cloneMeta b` followed by the abstraction is `copyMeta` on the abstraction
(`C13_meta_refines_step`: the only call of the cloner where `deep_copy` acts), for both values of the
flag; and for a whole clone of this model (`C13_meta_refines`): for the `meta` stores of ANY family of
owner pairs of the wiring image (`MetaLink.WiredOwner`: pairs of the value map, `NodeWire`-related
nodes, `GraphWire`-related graphs - every owner of the clone is the second component of one), in ANY
order, `Meta.cloneMetaAll b` run on refined source stores that abstract to the source cells yields
refined clone stores that abstract (in the final Python heap) to exactly what this model's clone holds.
`C13_deep_copy_meta_fresh_main` then transfers freshness and the frame theorem of `IrVerif.Clone.Meta`
to the clones of this model.  Hypotheses on the refined side: `Meta.HeapClosed` and `MetaLink.StoreOk`
(the decidable `heapClosedB` / `storeOkB` the driver evaluates on every generated case). -/

open MetaLink in
/-- **C13_meta_embed**: the embedding is a section of the abstraction (in every Python heap, to every
    depth, for every encoding that prints an atom as itself), and on embedded stores `clone_meta` is
    the identity that allocates nothing, for both values of `deep_copy`: literally "clone in this
    model, then embed = embed, then clone in `IrVerif.Clone.Meta`" (`copyMeta` keeps `data` and `invalid`). -/
theorem C13_meta_embed (enc : Meta.Tree → String) (henc : ∀ s, enc (.atom s) = s) (k : Nat)
    (h : Meta.PyHeap) (b : Bool) (fuel : Nat) (ds : List DictS) :
    (∀ d, absStore enc k h (embStore d) = d) ∧
    Meta.cloneMetaAll b fuel (ds.map embStore) h = .ok (ds.map embStore, h) :=
  ⟨absStore_embStore enc henc k h, cloneMetaAll_embStore b fuel h ds⟩

open MetaLink in
/-- **C13_meta_refines_step**: one `Cloner.clone_meta(old, new, deep_copy=b)`.  If the source cell of this
    model holds the abstraction of the refined store `st` (closed Python heap `h`), then `copyMeta`
    allocates a cell holding the abstraction of `Meta.cloneMeta b`'s result in ITS heap `h'` - for
    `b = true` new objects, for `b = false` the same objects: the abstraction cannot tell, which is
    why `deep_copy` is invisible in this model. -/
theorem C13_meta_refines_step (b : Bool) (fuel : Nat) (enc : Meta.Tree → String) (k : Nat)
    (st st' : Meta.Store) (h h' : Meta.PyHeap) (hwf : Meta.HeapClosed h) (hst : StoreOk h st)
    (hc : Meta.cloneMeta b fuel st h = .ok (st', h')) (s : St) (old : Nat)
    (hold : s.w[old]? = some (.dict (absStore enc k h st))) :
    copyMeta old s = (.ok s.w.length, { s with w := s.w ++ [.dict (absStore enc k h' st')] }) :=
  copyMeta_refines b fuel enc k st st' h h' hwf hst hc s old hold

open MetaLink in
/-- **C13_meta_refines**: a whole clone.  When the walker accepts the source graph, for every list `os`
    of owner pairs of the wiring image there is the list `ps` of their `meta` store cells such that
    for both values of `deep_copy`, every refinement (`σ`, `h`) of the SOURCE cells that abstracts to
    the heap before cloning: `Meta.cloneMetaAll b` on the refined sources gives refined clone stores
    that abstract, in the final Python heap `h'`, to the cells of this model's clone; the source
    cells are still abstractions of their refined stores in `h'`; `h'` is closed and extends `h`. -/
theorem C13_meta_refines {w : World} {fuel : Nat} {allow : Bool} {g : Nat} {A : Sc}
    (hv : cloneVerdict fuel allow w g = .ok A) :
    ∃ (g' : Nat) (s' : St), run (graphClone fuel allow g) w = (.ok g', s'.w) ∧
      GraphWire allow s'.w s'.vm g g' ∧ (∀ p ∈ s'.vm, ValSim s'.w p.1 p.2) ∧
      ∀ os : List (Nat × Nat), (∀ o ∈ os, WiredOwner allow s'.w s'.vm o.1 o.2) →
      ∃ ps : List (Nat × Nat),
        All2 (fun o p => mstoreOf s'.w o.1 = some p.1 ∧ mstoreOf s'.w o.2 = some p.2) os ps ∧
        ∀ (b : Bool) (fuelM k : Nat) (enc : Meta.Tree → String) (σ : Nat → Meta.Store)
          (h : Meta.PyHeap) (ss' : List Meta.Store) (h' : Meta.PyHeap),
          Meta.HeapClosed h → (∀ p ∈ ps, StoreOk h (σ p.1)) →
          (∀ p ∈ ps, cDict w p.1 = some (absStore enc k h (σ p.1))) →
          Meta.cloneMetaAll b fuelM (ps.map fun p => σ p.1) h = .ok (ss', h') →
          All2 (fun p st' => cDict s'.w p.2 = some (absStore enc k h' st')) ps ss' ∧
          (∀ p ∈ ps, cDict s'.w p.1 = some (absStore enc k h' (σ p.1))) ∧
          Meta.HeapClosed h' ∧ (∀ s2 ∈ ss', StoreOk h' s2) ∧
          h.length ≤ h'.length ∧ (∀ i, i < h.length → h'[i]? = h[i]?) := by
  obtain ⟨g', s', _, h2, h3, h4, hle, _⟩ := graphClone_wiring hv
  refine ⟨g', s', h2, h3, h4, fun os hos => ?_⟩
  obtain ⟨ps, hp1, hp2⟩ := wired_pairs os hos
  exact ⟨ps, hp1, fun b fuelM k enc σ h ss' h' hwf hok hcons hc =>
    refines_all b fuelM enc k hle ps hp2 σ h hwf hok hcons ss' h' hc⟩

open MetaLink in
/-- **C13_deep_copy_meta_fresh_main**: `C13_deep_copy_meta_fresh_all` / `_frame_all` transferred to the clones
    of THIS model.  With `deep_copy=True`, for the `meta` stores `ps` of any family of owner pairs of
    the wiring image and any refinement of the source cells as in `C13_meta_refines`: the refined
    clone stores `ss'` abstract to the clone's cells AND no pre-existing Python object changed, new
    cells refer to new cells only, every object reachable from a clone store is NEW, keys / invalid
    keys / atoms are the source's; and after ANY history of in-place edits of objects reached from
    the clone's stores every pre-existing object is unchanged and every source cell of this model is
    still the abstraction of its refined store (what the original's `meta` shows did not change). -/
theorem C13_deep_copy_meta_fresh_main {w : World} {fuel : Nat} {allow : Bool} {g : Nat} {A : Sc}
    (hv : cloneVerdict fuel allow w g = .ok A) :
    ∃ (g' : Nat) (s' : St), run (graphClone fuel allow g) w = (.ok g', s'.w) ∧
      GraphWire allow s'.w s'.vm g g' ∧ (∀ p ∈ s'.vm, ValSim s'.w p.1 p.2) ∧
      ∀ os : List (Nat × Nat), (∀ o ∈ os, WiredOwner allow s'.w s'.vm o.1 o.2) →
      ∃ ps : List (Nat × Nat),
        All2 (fun o p => mstoreOf s'.w o.1 = some p.1 ∧ mstoreOf s'.w o.2 = some p.2) os ps ∧
        ∀ (fuelM k : Nat) (enc : Meta.Tree → String) (σ : Nat → Meta.Store)
          (h : Meta.PyHeap) (ss' : List Meta.Store) (h' : Meta.PyHeap),
          Meta.HeapClosed h → (∀ p ∈ ps, StoreOk h (σ p.1)) →
          (∀ p ∈ ps, cDict w p.1 = some (absStore enc k h (σ p.1))) →
          Meta.cloneMetaAll true fuelM (ps.map fun p => σ p.1) h = .ok (ss', h') →
          All2 (fun p st' => cDict s'.w p.2 = some (absStore enc k h' st')) ps ss' ∧
          (∃ ext, h' = h ++ ext) ∧
          (∀ i o, h.length ≤ i → h'[i]? = some o → ∀ j, Meta.PyVal.ref j ∈ o.vals → h.length ≤ j) ∧
          (∀ i, Meta.Reach h' (Meta.rootsOf ss') i → h.length ≤ i) ∧
          Meta.All2 (fun s s2 => s2.data.map (·.1) = s.data.map (·.1) ∧ s2.invalid = s.invalid ∧
            Meta.All2 (fun e e' => e'.1 = e.1 ∧ ∀ a, e.2 = .atom a ↔ e'.2 = .atom a) s.data s2.data)
            (ps.map fun p => σ p.1) ss' ∧
          ∀ es : List Meta.PyEdit, Meta.ReachHistory (Meta.rootsOf ss') es h' →
            (∀ i, i < h.length → (Meta.runPyHistory es h')[i]? = h[i]?) ∧
            ∀ p ∈ ps, cDict s'.w p.1 = some (absStore enc k (Meta.runPyHistory es h') (σ p.1)) := by
  obtain ⟨g', s', _, h2, h3, h4, hle, _⟩ := graphClone_wiring hv
  refine ⟨g', s', h2, h3, h4, fun os hos => ?_⟩
  obtain ⟨ps, hp1, hp2⟩ := wired_pairs os hos
  refine ⟨ps, hp1, fun fuelM k enc σ h ss' h' hwf hok hcons hc => ?_⟩
  obtain ⟨r1, _, _, _, _, _⟩ := refines_all true fuelM enc k hle ps hp2 σ h hwf hok hcons ss' h' hc
  obtain ⟨f1, f2, f3, f4⟩ := Meta.deep_copy_meta_fresh_all fuelM _ ss' h h' hc
  refine ⟨r1, f1, f2, f3, f4, fun es hh => ?_⟩
  refine ⟨(Meta.deep_copy_meta_frame_all fuelM _ ss' h h' hc es hh).1, fun p hp => ?_⟩
  rw [cDict_mono hle (hcons p hp), frame_all fuelM enc k _ ss' h h' hwf hc es hh (σ p.1) (hok p hp)]

/-- a printing function for the examples: an atom as itself, a container by its class -/
def exEnc : Meta.Tree → String
  | .atom s => s
  | .list _ => "<list>"
  | .dict _ _ => "<dict>"
  | _ => "?"

/-- `exWorld` with the objects of `Meta.exStore` (a cyclic list under two keys, an atom, an invalid
    key) in the `meta` store of the graph input `x` (cell 5) -/
def exMetaWorld : World := exWorld.set 5 (.dict (MetaLink.absStore exEnc 2 Meta.exHeap Meta.exStore))

/-- non-vacuity of `C13_meta_refines` / `C13_deep_copy_meta_fresh_main`: the walker accepts `exMetaWorld`,
    the store holds non-atoms, and the hypotheses on the refined side hold for `σ 5 = Meta.exStore`
    over `Meta.exHeap` (closed, no dangling store value, consistent, `cloneMetaAll` returns) -/
example : verdictKind (cloneVerdict 4 false exMetaWorld 0) = "ok" ∧
    cDict exMetaWorld 5 = some { data := [("a", "<list>"), ("b", "<list>"), ("c", "z")], invalid := ["c"] } ∧
    cDict exMetaWorld 5 = some (MetaLink.absStore exEnc 2 Meta.exHeap Meta.exStore) ∧
    Meta.heapClosedB Meta.exHeap = true ∧ Meta.storeOkB Meta.exHeap Meta.exStore = true ∧
    (Meta.cloneMetaAll true 3 [Meta.exStore] Meta.exHeap).toBool = true ∧
    (Meta.cloneMetaAll false 3 [Meta.exStore] Meta.exHeap).toBool = true := by decide +kernel

/-- the hypotheses of the refined side are satisfiable over EVERY heap of this model: the embedding
    of the cells' contents over the empty Python heap (for every encoding that prints atoms as
    themselves) -/
example (enc : Meta.Tree → String) (henc : ∀ s, enc (.atom s) = s) (k : Nat) (b : Bool) (fuelM : Nat)
    (w : World) (ps : List (Nat × Nat)) (hps : ∀ p ∈ ps, (cDict w p.1).isSome) :
    let σ : Nat → Meta.Store := fun c => MetaLink.embStore ((cDict w c).getD {})
    Meta.HeapClosed [] ∧ (∀ p ∈ ps, MetaLink.StoreOk [] (σ p.1)) ∧
    (∀ p ∈ ps, cDict w p.1 = some (MetaLink.absStore enc k [] (σ p.1))) ∧
    Meta.cloneMetaAll b fuelM (ps.map fun p => σ p.1) [] = .ok (ps.map fun p => σ p.1, []) := by
  refine ⟨fun i o ho => by simp at ho, ?_, ?_, ?_⟩
  · intro p _ e he j hj
    simp only [MetaLink.embStore, List.mem_map] at he
    obtain ⟨x, _, rfl⟩ := he
    cases hj
  · intro p hp
    rw [MetaLink.absStore_embStore enc henc]
    have := hps p hp
    cases hc : cDict w p.1 with
    | none => rw [hc] at this; cases this
    | some d => rfl
  · have := MetaLink.cloneMetaAll_embStore b fuelM [] (ps.map fun p => (cDict w p.1).getD {})
    simpa [List.map_map, Function.comp_def] using this

/-- non-vacuity of `C13_meta_refines_step` with a store of non-atoms, and what it computes -/
example :
    (Meta.cloneMeta true 3 Meta.exStore Meta.exHeap).toBool = true ∧
    (copyMeta 0 { w := [.dict (MetaLink.absStore exEnc 2 Meta.exHeap Meta.exStore)] }).2.w =
      [.dict { data := [("a", "<list>"), ("b", "<list>"), ("c", "z")], invalid := ["c"] },
       .dict { data := [("a", "<list>"), ("b", "<list>"), ("c", "z")], invalid := ["c"] }] := by
  decide +kernel

end IrVerif.Clone
