/-
C10 — external tensor reads never escape the model directory: property theorems.
Model: `IrVerif/Model/Path.lean`; helper lemmas: `IrVerif/Lemmas/Path*.lean`.

One read (`C10_lexical`, `C10_real`, `C10_all_entry_points`, `C10_read_safe`), the base directory `load()` assigns
(`C10_load_*`), sequences of calls on one tensor (`C10_session_safe`) and on several tensors with `base_dir` values of
type str / os.PathLike / bytes and every public way of re-basing - setter, `set_base_dir`, `load_to_model`,
`convert_tensors_from_external`; a clone shares the tensor objects - (`C10_world_safe`; with `os.chdir` between the
operations `C10_world_chdir_opens`, `C10_world_chdir_safe`), zero-size tensors (`C10_zero_size`: `bodyZ`), a bytes
location (`C10_bytes_location`), NUL characters (`C10_nul_rejected`: check 1 or check 2 raises).
The kernel walk counts ALL symbolic links followed in one resolution (Linux: MAXSYMLINKS = 40 in total, not a nesting
depth: `C10_eloop_counts_all_links`); a path the kernel does not resolve within that bound is never opened, whatever
`os.path.realpath` said (`C10_eloop_no_open`), and the recursion bound of the transcribed `realpath` is discharged by
the kernel's bound: every `fuel ≥ kfuel` gives the outcome of `fuel = kfuel` (`C10_fuel_discharged`).
Entry-point completeness (`body` lists ALL places where onnx_ir opens a location-derived path) is tied to /repo by the
static scan in harness/c10.py (FILE_SITES / PATH_USERS), not by a theorem.

System calls that fail where the kernel would resolve (ENAMETOOLONG, EACCES, ...; the cross-checks D451 - D454 of
`_check_path_containment`).  The non-strict `os.path.realpath` takes an entry it cannot lstat for a non-link and reports
a loop by returning its input, so a fixed point of it that the kernel resolves may still contain a symbolic link; the
check therefore walks the prefixes of both answers (`noLinkOn`).  `C10_blind_safe`: a pass of the check gives a safe
open for ANY restriction of `os.lstat` / `os.stat` / `open` (`Sys`, `SysOK`); `C10_pathmax_safe_full` is its instance
`sysP` (PATH_MAX only: `checkContainmentP_eq_V`), `C10_eacces_safe` the instance with per-directory search permissions
(`walkA`, `sysA`).  `C10_pathmax_verified_partial` lists what the samestat and fixed-point cross-checks alone give, and
`C10_pathmax_safe` is the safe open under the additional hypothesis, evaluated by the driver on every generated case,
that the two answers are link-free (`linkFreeAnswer`).
-/
import IrVerif.Lemmas.PathReal
import IrVerif.Lemmas.PathLoad
import IrVerif.Lemmas.PathCall
import IrVerif.Lemmas.PathWorld
import IrVerif.Lemmas.PathNoLink
import IrVerif.Lemmas.PathSys
namespace IrVerif.Path

/-- **C10_lexical**: when check 1 (_core.py:807-819) passes, the components of
`normpath(abspath(join(base, loc)))` extend those of `normpath(abspath(base))` *component-wise*
(so a sibling such as /a/bc of the base /a/b is excluded, and a root base is handled), and both
are made only of entry names (no "", ".", ".." and no separator inside a component): the path
stays lexically inside the base.  For every cwd, base spelling and location. -/
theorem C10_lexical (cwd base loc : Str) (hcwd : isabs cwd = true)
    (h : check1 cwd base loc = true) :
    comps (abspath cwd base) <+: comps (abspath cwd (tensorPath base loc)) ∧
    (∀ c ∈ comps (abspath cwd (tensorPath base loc)), Clean c) ∧
    (∀ c ∈ comps (abspath cwd base), Clean c) := by
  exact ⟨contained_comps _ _ h, comps_abspath_clean cwd _ hcwd, comps_abspath_clean cwd _ hcwd⟩

/- non-vacuity and the named corner cases of C10_lexical -/
example : check1 "/w".toList "/a/b".toList "d/f".toList = true := by decide
example : check1 "/w".toList "/a/b".toList "../bc/f".toList = false := by decide   -- prefix sibling
example : check1 "/w".toList "/a/b".toList "../b/f".toList = true := by decide
example : check1 "/w".toList "/".toList "etc/passwd".toList = true := by decide     -- root base
example : check1 "/w".toList "sub/".toList "/w/sub/f".toList = true := by decide   -- relative base
example : check1 "/w".toList "sub".toList "../f".toList = false := by decide
example : ¬ (comps "/a/b".toList <+: comps "/a/bc/f".toList) := by decide

/-- **C10_load_base_nonempty**: for every spelling of the model path (absolute, relative, "./x",
bare name, trailing separators, empty) and every load-time working directory, the base directory
`load()` assigns (_io.py:37-41) is non-empty, so the containment checks are never disabled for a
loaded model, and absolute, so a later chdir cannot change what it names. -/
theorem C10_load_base_nonempty (cwdS modelPath : Str) (hcwd : isabs cwdS = true) :
    loadBase cwdS modelPath ≠ [] ∧ isabs (loadBase cwdS modelPath) = true := by
  have h : isabs (loadBase cwdS modelPath) = true := by
    unfold loadBase pjoin
    by_cases ha : isabs (loadDir modelPath) = true
    · simp [ha]
    · have hne : cwdS ≠ [] := by intro e; rw [e] at hcwd; simp [isabs] at hcwd
      simp only [ha, Bool.false_eq_true, if_false, hne, false_or]
      split
      · rw [isabs_append _ _ hne]; exact hcwd
      · rw [isabs_append _ _ hne]; exact hcwd
  refine ⟨?_, h⟩
  intro e
  rw [e] at h
  simp [isabs] at h

/-- D23 on the derivation before the fix: a bare file name gives the empty base directory. -/
example : loadBaseUnfixed "model.onnx".toList = [] := by decide
example : loadBase "/w".toList "model.onnx".toList = "/w/.".toList := by decide
example : loadBase "/w".toList "dir/model.onnx".toList = "/w/dir".toList := by decide

/-- **C10_real**: when check 2 (_core.py:820-830) passes, the components of
`realpath(join(base, loc))` extend those of `realpath(base)` component-wise, and both consist of
entry names only.  For every file system, cwd string, base spelling and location. -/
theorem C10_real (fs : FS) (kfuel fuel : Nat) (cwdS : Str) (cwd : Loc) (base loc : Str)
    (hcwd : isabs cwdS = true) (h : check2 fs kfuel fuel cwdS cwd base loc = true) :
    comps (realpath fs kfuel fuel cwdS cwd base) <+:
      comps (realpath fs kfuel fuel cwdS cwd (tensorPath base loc)) ∧
    (∀ c ∈ comps (realpath fs kfuel fuel cwdS cwd (tensorPath base loc)), Clean c) ∧
    (∀ c ∈ comps (realpath fs kfuel fuel cwdS cwd base), Clean c) := by
  exact ⟨contained_comps _ _ (check2_true _ _ _ _ _ _ _ h).2, comps_abspath_clean cwdS _ hcwd,
    comps_abspath_clean cwdS _ hcwd⟩

/-- what is known about a file a call opened: it is the REGULAR file `i` at the location `l` the
kernel resolved `join(base, loc)` to; it has at most one link; `l` lies component-wise below
`realpath(base)` and below the kernel's own resolution `bl` of the base whenever the base resolves;
`l` is reached through real directories only; the path is also lexically inside -/
def SafeOpen (fs : FS) (kfuel fuel : Nat) (cwd : Loc) (base loc : Str) (i : Nat) : Prop :=
  ∃ l, kresolve fs kfuel cwd (tensorPath base loc) true = some l ∧
    fs.get l = some (Node.file i) ∧
    fs.nlink i ≤ 1 ∧
    comps (realpath fs kfuel fuel (render cwd) cwd base) <+: l ∧
    (∀ bl, kresolve fs kfuel cwd base true = some bl → bl <+: l) ∧
    Chain fs l ∧
    comps (abspath (render cwd) base) <+: comps (abspath (render cwd) (tensorPath base loc))

theorem safeOpen_of_pass (fs : FS) (kfuel fuel : Nat) (cwd : Loc) (hcwd : RealDir fs cwd)
    (hfuel : kfuel ≤ fuel) (base loc : Str) (i : Nat) (reg : Bool)
    (hv : checkContainment fs kfuel fuel (render cwd) cwd base loc = Verdict.pass)
    (ho : openFile fs kfuel cwd (tensorPath base loc) = some (i, reg)) :
    SafeOpen fs kfuel fuel cwd base loc i := by
  obtain ⟨_, hc1, hc2, hc3⟩ := checkContainment_pass _ _ _ _ _ _ _ hv
  obtain ⟨l, hk, hkind⟩ := openFile_some _ _ _ _ _ _ ho
  obtain ⟨hrp, hchain⟩ := realpath_of_kresolve fs kfuel fuel cwd hcwd _ kfuel l hk hfuel
  have hin : comps (realpath fs kfuel fuel (render cwd) cwd base) <+: l := by
    have := contained_comps _ _ (check2_true _ _ _ _ _ _ _ hc2).2
    rwa [hrp, comps_render l hchain.1] at this
  -- check 3 stats the very string the open uses: the same object, regular, at most one link
  have hreg : fs.get l = some (Node.file i) ∧ fs.nlink i ≤ 1 := by
    unfold check3 at hc3
    unfold statFile at hc3
    rw [hk] at hc3
    cases reg <;> simp only [Bool.false_eq_true, if_false, if_true] at hkind
    · simp only [hkind] at hc3
      split at hc3
      · simp at hc3
      · exact absurd hc3 (by simp)
    · simp only [hkind] at hc3
      split at hc3
      · simp only [Bool.and_eq_true, decide_eq_true_eq] at hc3
        exact ⟨hkind, hc3.1.2⟩
      · exact absurd hc3 (by simp)
  refine ⟨l, hk, hreg.1, hreg.2, hin, ?_, hchain, contained_comps _ _ hc1⟩
  intro bl hbl
  obtain ⟨hrb, hcb⟩ := realpath_of_kresolve fs kfuel fuel cwd hcwd _ kfuel bl hbl hfuel
  rwa [hrb, comps_render bl hcb.1] at hin

/-- an open event is preceded, in the same call, by the containment check with a verdict that does
not reject -/
def CheckedOpens (v : Verdict) (events : List Ev) : Prop :=
  ∀ pre p oi post, events = pre ++ Ev.openEv p oi :: post →
    Ev.check v ∈ pre ∧ rejecting v = false

theorem checkedOpens_guarded (fs : FS) (kfuel fuel : Nat) (cwdS : Str) (cwd : Loc) (base loc : Str) :
    CheckedOpens (checkContainment fs kfuel fuel cwdS cwd base loc)
      (guardedEvents fs kfuel fuel cwdS cwd base loc) := by
  intro pre p oi post h
  rcases guarded_cases fs kfuel fuel cwdS cwd base loc with ⟨_, e, _⟩ | ⟨hv, e, _⟩ <;> rw [e] at h
  · cases pre with
    | nil => simp at h
    | cons x t =>
      simp only [List.cons_append, List.cons.injEq] at h
      have := h.2
      cases t <;> simp at this
  · refine ⟨?_, hv⟩
    cases pre with
    | nil => simp at h
    | cons x t =>
      simp only [List.cons_append, List.cons.injEq] at h
      rw [← h.1]; simp

/-- **C10_all_entry_points**: the five read entry points are five statement lists (`body`:
numpy, `__array__`, tobytes, tofile, serialisation) run by an interpreter in which an open
statement opens the path whatever was checked before.  For each of them, from ANY cached state of
the tensor (mapped or not): every open event of the call is preceded, in that call, by the
containment check with a non-rejecting verdict; it opens `join(base, loc)` only; after a rejecting
check nothing is opened and the call raises; and a call that performs no event at all is a
non-`tofile` entry point served from state cached by an earlier call. -/
theorem C10_all_entry_points (fs : FS) (kfuel fuel : Nat) (cwdS : Str) (cwd : Loc) (base loc : Str)
    (offset length : Nat) (ep : EntryPoint) (st : TState) :
    CheckedOpens (checkContainment fs kfuel fuel cwdS cwd base loc)
      (call fs kfuel fuel cwdS cwd base loc offset length ep st).2.1 ∧
    (∀ p oi, Ev.openEv p oi ∈ (call fs kfuel fuel cwdS cwd base loc offset length ep st).2.1 →
      p = tensorPath base loc) ∧
    (rejecting (checkContainment fs kfuel fuel cwdS cwd base loc) = true →
      (∀ p oi, Ev.openEv p oi ∉ (call fs kfuel fuel cwdS cwd base loc offset length ep st).2.1) ∧
      ((call fs kfuel fuel cwdS cwd base loc offset length ep st).2.1 ≠ [] →
        (call fs kfuel fuel cwdS cwd base loc offset length ep st).1 = ReadResult.raised)) ∧
    ((call fs kfuel fuel cwdS cwd base loc offset length ep st).2.1 = [] →
      ep ≠ EntryPoint.tofile ∧ st ≠ TState.fresh) := by
  rw [call_eq_spec]
  cases hq : quiet ep st with
  | true =>
    rw [callSpec_of_quiet _ _ _ _ _ _ _ _ _ _ _ hq, cachedSpec_events]
    refine ⟨?_, by simp, fun _ => ⟨by simp, by simp⟩, fun _ => quiet_ne ep st hq⟩
    intro pre p oi post h
    cases pre <;> simp at h
  | false =>
    obtain ⟨he, hloud⟩ := callSpec_loud fs kfuel fuel cwdS cwd base loc offset length ep st hq
    refine ⟨by rw [he]; exact checkedOpens_guarded _ _ _ _ _ _ _, ?_, ?_, ?_⟩
    · intro p oi hm
      rw [he] at hm
      exact (guardedEvents_open _ _ _ _ _ _ _ _ _ hm).1
    · intro hrej
      rcases guarded_cases fs kfuel fuel cwdS cwd base loc with ⟨_, hge, hgo⟩ | ⟨hv, _⟩
      · refine ⟨?_, fun _ => (hloud hgo).1⟩
        intro p oi hm
        rw [he, hge] at hm
        simp at hm
      · rw [hrej] at hv; cases hv
    · intro hnil
      rw [he] at hnil
      exact absurd hnil (guardedEvents_ne_nil _ _ _ _ _ _ _)

/-- the seeded pattern "tofile skips the check when the tensor is already mapped" is a sixth body
that does NOT have the property: from a mapped state it opens the path with no check event -/
example (e : Env) (i : Nat) :
    (runBody e { raw := some i, arr := true }
      [Stmt.ifNoRaw [Prim.check], Stmt.prim Prim.openCopy]).2.1 =
      [Ev.openEv (tensorPath e.base e.loc) ((openFile e.fs e.kfuel e.cwd (tensorPath e.base e.loc)).map Prod.fst)] := by
  unfold runBody
  simp only [execStmts, execStmt, execPrim]
  cases openFile e.fs e.kfuel e.cwd (tensorPath e.base e.loc) with
  | none => simp
  | some ir =>
    obtain ⟨j, reg⟩ := ir
    by_cases h : 0 < e.length ∧ (e.fs.data j).length < e.offset + e.length <;> simp [h]

/-- **C10_call_events**: whatever the cached state, the events of one call are either none at all
(only a non-`tofile` entry point of a tensor with cached state: it is served from the mapping and
opens nothing), or exactly the events of a read of an unmapped tensor (check, then open unless the
check rejects): the check is made on EVERY call that opens the path; `tofile` always is such a
call. -/
theorem C10_call_events (fs : FS) (kfuel fuel : Nat) (cwdS : Str) (cwd : Loc) (base loc : Str)
    (offset length : Nat) (ep : EntryPoint) (st : TState) :
    ((call fs kfuel fuel cwdS cwd base loc offset length ep st).2.1 = [] ∧
        ep ≠ EntryPoint.tofile ∧ st ≠ TState.fresh) ∨
    (call fs kfuel fuel cwdS cwd base loc offset length ep st).2.1 =
        (read fs kfuel fuel cwdS cwd base loc offset length ep).2 := by
  rw [read_events, call_eq_spec]
  exact callSpec_events _ _ _ _ _ _ _ _ _ _ _

/-- **C10_call_open_safe**: with a non-empty base directory, every file opened by ANY call of any
entry point, whatever the tensor's cached state (mapped or not), is a safe open. -/
theorem C10_call_open_safe (fs : FS) (kfuel fuel : Nat) (cwd : Loc) (hcwd : RealDir fs cwd)
    (hfuel : kfuel ≤ fuel) (base loc : Str) (offset length : Nat) (ep : EntryPoint) (st : TState)
    (hb : base ≠ []) (p : Str) (i : Nat)
    (h : Ev.openEv p (some i) ∈ (call fs kfuel fuel (render cwd) cwd base loc offset length ep st).2.1) :
    p = tensorPath base loc ∧ SafeOpen fs kfuel fuel cwd base loc i := by
  rw [call_eq_spec] at h
  rcases callSpec_events fs kfuel fuel (render cwd) cwd base loc offset length ep st with ⟨he, _, _⟩ | he
  · rw [he] at h; simp at h
  · rw [he] at h
    obtain ⟨hp, hrej, hoi⟩ := guardedEvents_open _ _ _ _ _ _ _ _ _ h
    refine ⟨hp, ?_⟩
    cases hg : guardedOpen fs kfuel fuel (render cwd) cwd base loc with
    | none => rw [hg] at hoi; simp at hoi
    | some ir =>
      obtain ⟨j, reg⟩ := ir
      rw [hg] at hoi
      simp only [Option.map_some, Option.some.injEq] at hoi
      subst hoi
      obtain ⟨_, _, ho⟩ := guardedOpen_event _ _ _ _ _ _ _ _ _ hg
      exact safeOpen_of_pass fs kfuel fuel cwd hcwd hfuel base loc i reg
        (pass_of_not_rejecting _ _ _ _ _ _ _ hb hrej) ho

/-- **C10_open_safe**: the same for a read of an unmapped tensor: every file a read opens (whatever
it returns afterwards, e.g. it may still raise because the file is too short) is a safe open: no
byte of a file outside the resolved base directory, of a file with several links or of a
non-regular file is ever read. -/
theorem C10_open_safe (fs : FS) (kfuel fuel : Nat) (cwd : Loc) (hcwd : RealDir fs cwd)
    (hfuel : kfuel ≤ fuel) (base loc : Str) (offset length : Nat) (ep : EntryPoint) (hb : base ≠ [])
    (p : Str) (i : Nat)
    (h : Ev.openEv p (some i) ∈ (read fs kfuel fuel (render cwd) cwd base loc offset length ep).2) :
    p = tensorPath base loc ∧ SafeOpen fs kfuel fuel cwd base loc i :=
  C10_call_open_safe fs kfuel fuel cwd hcwd hfuel base loc offset length ep TState.fresh hb p i h

/-- **C10_call_result**: bytes returned by a call are the requested slice of the inode this call
opened (after its own check), or, when the call performed no event, of the inode the tensor had
mapped before; and the inode mapped after the call is the one mapped before or the one this call
opened. -/
theorem C10_call_result (fs : FS) (kfuel fuel : Nat) (cwdS : Str) (cwd : Loc) (base loc : Str)
    (offset length : Nat) (ep : EntryPoint) (st : TState) :
    (∀ bytes, (call fs kfuel fuel cwdS cwd base loc offset length ep st).1 = ReadResult.ok bytes →
      ∃ i, bytes = sliceOf (fs.data i) offset length ∧
        (Ev.openEv (tensorPath base loc) (some i) ∈
            (call fs kfuel fuel cwdS cwd base loc offset length ep st).2.1 ∨
          ((call fs kfuel fuel cwdS cwd base loc offset length ep st).2.1 = [] ∧ st.raw = some i))) ∧
    (∀ i, (call fs kfuel fuel cwdS cwd base loc offset length ep st).2.2.raw = some i →
      st.raw = some i ∨ Ev.openEv (tensorPath base loc) (some i) ∈
        (call fs kfuel fuel cwdS cwd base loc offset length ep st).2.1) := by
  rw [call_eq_spec]
  obtain ⟨h1, h2⟩ := callSpec_result fs kfuel fuel cwdS cwd base loc offset length ep st
  refine ⟨?_, ?_⟩
  · intro bytes hb
    obtain ⟨i, hi, hor⟩ := h1 bytes hb
    refine ⟨i, hi, ?_⟩
    rcases hor with ⟨reg, hg, he⟩ | h
    · left; rw [he]; exact (guardedOpen_event _ _ _ _ _ _ _ _ _ hg).1
    · exact Or.inr h
  · intro i hi
    rcases h2 i hi with h | ⟨hg, he⟩
    · exact Or.inl h
    · right; rw [he]; exact (guardedOpen_event _ _ _ _ _ _ _ _ _ hg).1

/-- **C10_read_safe**: with a non-empty base directory, whenever a read through any entry point
returns bytes, they are the requested slice of the content of a regular file `i` that is a safe
open (`SafeOpen`: regular, at most one link, resolved location below the fully resolved base
directory, reached through real directories only, lexically inside as well).  Any other location
does not return bytes (`ReadResult` is `raised` otherwise; see C10_open_safe /
C10_all_entry_points for "before any byte is read").  Hypotheses: the working directory is a chain
of real directories and `os.getcwd()` is its rendering; the Python recursion bound is at least the
kernel's ELOOP bound. -/
theorem C10_read_safe (fs : FS) (kfuel fuel : Nat) (cwd : Loc) (hcwd : RealDir fs cwd)
    (hfuel : kfuel ≤ fuel) (base loc : Str) (offset length : Nat) (ep : EntryPoint)
    (bytes : List Nat) (hb : base ≠ [])
    (h : (read fs kfuel fuel (render cwd) cwd base loc offset length ep).1 = ReadResult.ok bytes) :
    ∃ i, bytes = ((fs.data i).drop offset).take length ∧ SafeOpen fs kfuel fuel cwd base loc i := by
  unfold read at h
  simp only at h
  obtain ⟨hres, _⟩ := C10_call_result fs kfuel fuel (render cwd) cwd base loc offset length ep TState.fresh
  obtain ⟨i, hi, hor⟩ := hres bytes h
  refine ⟨i, hi, ?_⟩
  rcases hor with hev | ⟨_, hraw⟩
  · exact (C10_call_open_safe fs kfuel fuel cwd hcwd hfuel base loc offset length ep TState.fresh hb _ i hev).2
  · simp [TState.fresh] at hraw


/-- **C10_load_base_is_model_dir**: for every spelling of the model path `p` whose last piece is a
file name (bare name, relative, absolute, "./x", repeated or leading separators, through symbolic
links, with ".." after a symbolic link), if the kernel opens `p` from the load-time directory `cwd`
(resolves it to `ml`), then the base directory `join(getcwd(), dirname(p) or ".")` resolves, from
ANY later working directory `cwd'`, to a directory `d`, and `d` is exactly the directory in which
the kernel looked up the file name at load time: the model's directory. -/
theorem C10_load_base_is_model_dir (fs : FS) (f : Nat) (cwd cwd' : Loc) (hcwd : RealDir fs cwd)
    (p : Str) (ml : Loc) (hn : Clean (tailPart p)) (h : kresolve fs f cwd p true = some ml) :
    ∃ d, kresolve fs f cwd' (loadBase (render cwd) p) true = some d ∧
      fs.get d = some Node.dir ∧ walk fs f d [tailPart p] true = some ml := by
  obtain ⟨d, h1, h2, h3⟩ := load_base_is_model_dir fs f cwd p ml hn h
  refine ⟨d, ?_, h2, h3⟩
  unfold loadBase
  rw [kresolve_join_cwd fs f cwd cwd' hcwd _ (loadDir_ne_nil p)]
  exact h1

/-- **C10_load_read_safe**: end to end, with a chdir between load and read.  A model opened from
`p` (any spelling) in the working directory `cwd` gets the base directory
`join(getcwd(), dirname(p) or ".")`; every later read of one of its external tensors, made from
any working directory `cwd'`, that returns bytes returns the requested slice of a regular file
with at most one link whose resolved location `l` lies below the model's directory `d`. -/
theorem C10_load_read_safe (fs : FS) (kfuel fuel : Nat) (cwd cwd' : Loc) (hcwd : RealDir fs cwd)
    (hcwd' : RealDir fs cwd') (hfuel : kfuel ≤ fuel) (p : Str) (ml : Loc) (hn : Clean (tailPart p))
    (hopen : kresolve fs kfuel cwd p true = some ml)
    (loc : Str) (offset length : Nat) (ep : EntryPoint) (bytes : List Nat)
    (h : (read fs kfuel fuel (render cwd') cwd' (loadBase (render cwd) p) loc offset length ep).1 =
      ReadResult.ok bytes) :
    ∃ d l i, kresolve fs kfuel cwd' (loadBase (render cwd) p) true = some d ∧
      fs.get d = some Node.dir ∧ walk fs kfuel d [tailPart p] true = some ml ∧
      kresolve fs kfuel cwd' (tensorPath (loadBase (render cwd) p) loc) true = some l ∧ d <+: l ∧
      fs.get l = some (Node.file i) ∧ fs.nlink i ≤ 1 ∧
      bytes = ((fs.data i).drop offset).take length := by
  obtain ⟨d, hd1, hd2, hd3⟩ := C10_load_base_is_model_dir fs kfuel cwd cwd' hcwd p ml hn hopen
  have hne : loadBase (render cwd) p ≠ [] := pjoin_ne_nil _ _ (loadDir_ne_nil p)
  obtain ⟨i, hbytes, l, hk, hg, hnl, _, hbl, _, _⟩ :=
    C10_read_safe fs kfuel fuel cwd' hcwd' hfuel (loadBase (render cwd) p) loc offset length ep bytes
      hne h
  exact ⟨d, l, i, hd1, hd2, hd3, hk, hbl d hd1, hg, hnl, hbytes⟩

example : tailPart "a//m.onnx".toList = "m.onnx".toList ∧ loadDir "a//m.onnx".toList = "a".toList := by
  decide
/-- D183: the join form keeps "x/.." for the kernel to resolve; `abspath` collapsed it lexically -/
example : loadBase "/w".toList "x/../m.onnx".toList = "/w/x/..".toList ∧
    loadBaseAbs "/w".toList "x/../m.onnx".toList = "/w".toList := by decide

/-! ### link counts and the base directory of a safe open -/

/-- link counts are sound: an inode reachable under two different names reports at least 2 links
(`st_nlink` counts the names of the inode; the harness checks this on every described tree) -/
def LinkCountSound (fs : FS) : Prop :=
  ∀ l1 l2 i, l1 ≠ l2 → fs.get l1 = some (Node.file i) → fs.get l2 = some (Node.file i) →
    2 ≤ fs.nlink i

/-- **C10_single_name**: with sound link counts, the regular file of a safe open has no other name
anywhere in the tree: its only location is the one inside the resolved base directory (this is
what the link-count layer is for: no hard link from outside). -/
theorem C10_single_name (fs : FS) (kfuel fuel : Nat) (cwd : Loc) (base loc : Str) (i : Nat)
    (hs : LinkCountSound fs) (h : SafeOpen fs kfuel fuel cwd base loc i) :
    ∃ l, kresolve fs kfuel cwd (tensorPath base loc) true = some l ∧
      fs.get l = some (Node.file i) ∧ ∀ l', fs.get l' = some (Node.file i) → l' = l := by
  obtain ⟨l, hk, hg, hn, _⟩ := h
  refine ⟨l, hk, hg, ?_⟩
  intro l' hg'
  apply Classical.byContradiction
  intro hne
  have := hs l' l i hne hg' hg
  omega

/-- **C10_base_resolves**: when the kernel resolves `join(base, loc)` for a relative location, it
resolves the base directory itself too, so the clause "below the kernel's own resolution of the
base" of `SafeOpen` is not vacuous for relative locations. -/
theorem C10_base_resolves (fs : FS) (f : Nat) (cwd : Loc) (base loc : Str) (l : Loc)
    (hb : base ≠ []) (hrel : isabs loc = false)
    (h : kresolve fs f cwd (tensorPath base loc) true = some l) :
    ∃ bl, kresolve fs f cwd base true = some bl := by
  unfold kresolve at h ⊢
  simp only [hb, if_false]
  have hlne : splitSep loc ≠ [] := splitSep_ne_nil loc
  unfold tensorPath pjoin at h
  simp only [hrel, Bool.false_eq_true, if_false, hb, false_or] at h
  by_cases he : endsWithSep base = true
  · simp only [he, if_true] at h
    obtain ⟨q, hq⟩ := (endsWithSep_iff base).mp he
    have hne : base ++ loc ≠ [] := by simp [hb]
    simp only [hne, if_false] at h
    have hab : isabs (base ++ loc) = isabs base := isabs_append _ _ hb
    have hsp : splitSep (base ++ loc) = splitSep q ++ splitSep loc := by
      rw [hq, List.append_assoc, List.singleton_append, splitSep_append_sep]
    have hsb : splitSep base = splitSep q ++ [[]] := by
      rw [hq, splitSep_append_sep]; simp [splitSep]
    simp only [startLoc, hab] at h
    rw [hsp] at h
    obtain ⟨d, hd, hrest⟩ := walk_append_some fs f _ _ _ l h
    simp only [startLoc]
    rw [hsb]
    cases hl : splitSep loc with
    | nil => exact absurd hl hlne
    | cons c rest =>
      rw [hl] at hrest
      obtain ⟨hdir, _⟩ := walk_cons_inv fs f d c rest l hrest
      have h0 : walk fs 0 d [[]] true = some d := by
        rw [walk_step_skip fs 0 d [] [] true hdir (Or.inl rfl), walk_nil]
      exact ⟨d, by simpa using walk_append_of fs f _ _ d 0 [[]] d hd h0⟩
  · have he' : endsWithSep base = false := by simpa using he
    simp only [he', Bool.false_eq_true, if_false] at h
    have hne : base ++ '/' :: loc ≠ [] := by simp
    simp only [hne, if_false] at h
    have hab : isabs (base ++ '/' :: loc) = isabs base := isabs_append _ _ hb
    simp only [startLoc, hab] at h
    rw [splitSep_append_sep] at h
    obtain ⟨d, hd, _⟩ := walk_append_some fs f _ _ _ l h
    exact ⟨d, hd⟩

/-! ### non-vacuity: a tree /b/f, /b/m on which reads return bytes -/

def exFS : FS where
  node := fun l => if l = [['b']] then some Node.dir
    else if l = [['b'], ['f']] then some (Node.file 1)
    else if l = [['b'], ['m']] then some (Node.file 2) else none
  dnlink := fun _ => 2
  nlink := fun _ => 1
  data := fun _ => [10, 20, 30]

theorem exFS_b : RealDir exFS [['b']] :=
  ⟨by simpa using Chain.snoc (RealDir.root exFS) (c := ['b']) ⟨by decide, by decide, by decide, by decide⟩,
   by decide⟩

theorem exFS_bf : Chain exFS [['b'], ['f']] := by
  simpa using Chain.snoc exFS_b (c := ['f']) ⟨by decide, by decide, by decide, by decide⟩

theorem exFS_bm : Chain exFS [['b'], ['m']] := by
  simpa using Chain.snoc exFS_b (c := ['m']) ⟨by decide, by decide, by decide, by decide⟩

theorem exFS_kbf : kresolve exFS 40 [] "/b/f".toList true = some [['b'], ['f']] :=
  kresolve_render exFS 40 [] _ ⟨exFS_bf, Node.file 1, by decide, Node.file_ne_link 1⟩

theorem exFS_kb : kresolve exFS 40 [] "/b".toList true = some [['b']] :=
  kresolve_render exFS 40 [] _ exFS_b.realLoc

/-- on exFS, with cwd "/", the base "/b" and the location "f": check passes, the file is opened -/
theorem ex_guarded : guardedOpen exFS 40 40 (render []) [] "/b".toList "f".toList = some (1, true) := by
  have hk := exFS_kbf
  have hkb := exFS_kb
  have hp : tensorPath "/b".toList "f".toList = "/b/f".toList := by decide
  have r1 := (realpath_of_kresolve exFS 40 40 [] (RealDir.root exFS) _ 40 _ hk (Nat.le_refl _)).1
  have r2 := (realpath_of_kresolve exFS 40 40 [] (RealDir.root exFS) _ 40 _ hkb (Nat.le_refl _)).1
  have hv : checkContainment exFS 40 40 (render []) [] "/b".toList "f".toList = Verdict.pass := by
    have c1 : check1 (render []) "/b".toList "f".toList = true := by decide
    have c2 : check2 exFS 40 40 (render []) [] "/b".toList "f".toList = true := by
      unfold check2; rw [hp, r1, r2]; decide
    have c3 : check3 exFS 40 40 (render []) [] "/b".toList "f".toList = true := by
      have q1 := realpath_fixed_of_kresolve exFS 40 40 [] (RealDir.root exFS) _ _ hk (Nat.le_refl _)
      have q2 := realpath_fixed_of_kresolve exFS 40 40 [] (RealDir.root exFS) _ _ hkb (Nat.le_refl _)
      unfold check3 statFile statId
      rw [hp, r1, r2, q1, q2]
      have e1 : kresolve exFS 40 [] (render [['b'], ['f']]) true = some [['b'], ['f']] := hk
      have e2 : kresolve exFS 40 [] (render [['b']]) true = some [['b']] := hkb
      have n1 : noLinkOn (lstat exFS 40 []) (render [['b'], ['f']]) = true :=
        noLinkOn_complete exFS 40 [] _ ⟨exFS_bf, Node.file 1, by decide, Node.file_ne_link 1⟩
      have n2 : noLinkOn (lstat exFS 40 []) (render [['b']]) = true :=
        noLinkOn_complete exFS 40 [] _ ⟨exFS_b.1, Node.dir, by decide, Node.dir_ne_link⟩
      rw [hk, hkb, e1, e2, n1, n2]
      decide
    unfold checkContainment
    rw [if_neg (by decide), if_neg (by rw [c1]; simp), if_neg (by rw [c2]; simp),
      if_neg (by rw [c3]; simp)]
  have ho : openFile exFS 40 [] "/b/f".toList = some (1, true) := by
    unfold openFile; rw [if_neg (by decide), hk]; decide
  unfold guardedOpen
  rw [hv, hp, ho]
  simp [rejecting]

theorem ex_read (ep : EntryPoint) :
    (read exFS 40 40 (render []) [] "/b".toList "f".toList 0 3 ep).1 = ReadResult.ok [10, 20, 30] := by
  unfold read
  simp only
  rw [call_eq_spec]
  have hl : loadSpec exFS 40 40 (render []) [] "/b".toList "f".toList 0 3 TState.fresh =
      (true, { raw := some 1, arr := true }) := by
    unfold loadSpec
    rw [ex_guarded]
    decide
  unfold callSpec
  cases ep
  case tofile => rw [if_pos rfl]; unfold tofileSpec; rw [ex_guarded]; decide
  all_goals
    rw [if_neg (by decide), if_neg (by decide)]
    unfold viaLoad
    rw [hl]
    rfl

/-- C10_read_safe / C10_open_safe are not vacuous: all hypotheses hold on exFS and bytes come back -/
example : ∃ i, [10, 20, 30] = ((exFS.data i).drop 0).take 3 ∧
    SafeOpen exFS 40 40 [] "/b".toList "f".toList i :=
  C10_read_safe exFS 40 40 [] (RealDir.root exFS) (Nat.le_refl _) _ _ 0 3 EntryPoint.tofile _ (by decide)
    (ex_read EntryPoint.tofile)

example : Ev.openEv (tensorPath "/b".toList "f".toList) (some 1) ∈
    (read exFS 40 40 (render []) [] "/b".toList "f".toList 0 3 EntryPoint.numpy).2 := by
  rw [read_events]
  exact (guardedOpen_event _ _ _ _ _ _ _ _ _ ex_guarded).1

/-- C10_session_safe is not vacuous: a sequence whose log has an entry that returns bytes -/
example : ∃ pre e post,
    (runSess 40 40 (render []) [] "f".toList 0 3
      { fs := exFS, base := "/b".toList, st := TState.fresh }
      [Step.call EntryPoint.numpy, Step.call EntryPoint.tobytes]).2 = pre ++ e :: post ∧
    e.res = ReadResult.ok [10, 20, 30] := by
  refine ⟨[], _, _, rfl, ?_⟩
  have := ex_read EntryPoint.numpy
  unfold read at this
  exact this

/-- C10_load_read_safe is not vacuous: the model /b/m opened from cwd "/" gets the base "/b" -/
example : kresolve exFS 40 [] "/b/m".toList true = some [['b'], ['m']] ∧
    Clean (tailPart "/b/m".toList) ∧ loadBase (render []) "/b/m".toList = "/b".toList ∧
    (read exFS 40 40 (render []) [] (loadBase (render []) "/b/m".toList) "f".toList 0 3
      EntryPoint.tobytes).1 = ReadResult.ok [10, 20, 30] := by
  refine ⟨kresolve_render exFS 40 [] _ ⟨exFS_bm, Node.file 2, by decide, Node.file_ne_link 2⟩,
    ⟨by decide, by decide, by decide, by decide⟩, by decide, ?_⟩
  have : loadBase (render []) "/b/m".toList = "/b".toList := by decide
  rw [this]
  exact ex_read EntryPoint.tobytes

/-! ### `load()` gives EVERY external tensor of the model the base directory -/


/-- **C10_load_all_positions**: what `load()` assigns the base directory to (`set_base_dir` on the
main graph and on the body of every model-local function; the walker `_all_tensors` with
attributes over `RecursiveGraphIterator`) covers EVERY tensor position of the model: initializers
and TENSOR/TENSORS attribute tensors of the main graph, of every function body and of every graph
nested in them at any depth through GRAPH/GRAPHS attributes.  Hence after `load(p)` every external
tensor of the model has the base directory `loadBase cwd p`, which is never empty and absolute
(C10_load_base_nonempty). -/
theorem C10_load_all_positions (main : GTree) (funcs : List GTree) (p : Str) (x : String)
    (hx : x ∈ reachModel main funcs) :
    x ∈ loadTensors main funcs ∧
    (∀ (cwdS : Str), isabs cwdS = true → ∀ (baseOf : String → Str),
      (∀ y ∈ loadTensors main funcs, baseOf y = loadBase cwdS p) →
      baseOf x = loadBase cwdS p ∧ baseOf x ≠ []) := by
  have hmem : x ∈ loadTensors main funcs := by
    unfold loadTensors
    unfold reachModel at hx
    exact List.mem_append.mpr ((List.mem_append.mp hx).imp (reachGraph_allTensors main x) (reachFuncs_sub funcs x))
  refine ⟨hmem, ?_⟩
  intro cwdS hc baseOf hset
  have := hset x hmem
  exact ⟨this, by rw [this]; exact (C10_load_base_nonempty cwdS p hc).1⟩

/-- before D180 only the main graph was walked: a tensor attribute in a function body was missed -/
example : "f_attr" ∈ reachModel (GTree.mk [] []) [GTree.mk [] [NTree.mk ["f_attr"] []]] ∧
    "f_attr" ∉ allTensors (GTree.mk [] []) ∧
    "f_attr" ∈ loadTensors (GTree.mk [] []) [GTree.mk [] [NTree.mk ["f_attr"] []]] := by decide

/-- the seeded shallow walker (`for node in graph`) misses a tensor attribute of a node inside an
If branch and an initializer two levels down: the theorem is about the recursive walker -/
example :
    let inner := GTree.mk ["deep_init"] []
    let branch := GTree.mk ["d1_init"] [NTree.mk ["d1_attr"] [inner]]
    let g := GTree.mk ["main_init"] [NTree.mk ["main_attr"] [branch]]
    "d1_attr" ∈ reachGraph g ∧ "deep_init" ∈ reachGraph g ∧
    "d1_attr" ∉ allTensorsShallow g ∧ "deep_init" ∉ allTensorsShallow g ∧
    "d1_attr" ∈ allTensors g ∧ "deep_init" ∈ allTensors g := by
  decide

/-! ### NUL characters, ELOOP, and the recursion bound of `os.path.realpath` -/

/-- **C10_nul_rejected**: with a non-empty base directory, a NUL character anywhere in the base
directory or in the location makes the containment check raise (check 1 when the string is lexically
outside, otherwise check 2, whose `os.lstat` raises ValueError), for every tree; hence every call of
every entry point, from any cached state, opens nothing, and raises unless it is served from state
cached by an earlier call. -/
theorem C10_nul_rejected (fs : FS) (kfuel fuel : Nat) (cwdS : Str) (cwd : Loc) (base loc : Str)
    (offset length : Nat) (ep : EntryPoint) (st : TState) (hb : base ≠ [])
    (hn : hasNul base = true ∨ hasNul loc = true) :
    rejecting (checkContainment fs kfuel fuel cwdS cwd base loc) = true ∧
    (∀ p oi, Ev.openEv p oi ∉ (call fs kfuel fuel cwdS cwd base loc offset length ep st).2.1) ∧
    ((call fs kfuel fuel cwdS cwd base loc offset length ep st).2.1 ≠ [] →
      (call fs kfuel fuel cwdS cwd base loc offset length ep st).1 = ReadResult.raised) := by
  have h2 : check2 fs kfuel fuel cwdS cwd base loc = false := by
    unfold check2; rcases hn with h | h <;> simp [h]
  have hrej : rejecting (checkContainment fs kfuel fuel cwdS cwd base loc) = true := by
    unfold checkContainment
    simp only [hb, if_false]
    split
    · rfl
    · simp [rejecting]
  exact ⟨hrej, (C10_all_entry_points fs kfuel fuel cwdS cwd base loc offset length ep st).2.2.1 hrej⟩

example : hasNul ['f', Char.ofNat 0] = true ∧ hasNul "d/f".toList = false := by decide

/-- **C10_eloop_no_open**: when the kernel does not resolve `join(base, loc)` within its symlink
bound `kfuel` (ELOOP: a symbolic-link loop, or more links to follow - nested or one after the other -
than the bound; also ENOENT /
ENOTDIR), then whatever `os.path.realpath` computed for it (it has no such bound) and whatever the
three checks concluded, a call of any entry point from any cached state opens no file, and unless
it is served from state cached earlier (no event at all) it raises and leaves the cached state
unchanged. -/
theorem C10_eloop_no_open (fs : FS) (kfuel fuel : Nat) (cwdS : Str) (cwd : Loc) (base loc : Str)
    (offset length : Nat) (ep : EntryPoint) (st : TState)
    (h : kresolve fs kfuel cwd (tensorPath base loc) true = none) :
    (∀ p i, Ev.openEv p (some i) ∉ (call fs kfuel fuel cwdS cwd base loc offset length ep st).2.1) ∧
    ((call fs kfuel fuel cwdS cwd base loc offset length ep st).2.1 ≠ [] →
      (call fs kfuel fuel cwdS cwd base loc offset length ep st).1 = ReadResult.raised ∧
      (call fs kfuel fuel cwdS cwd base loc offset length ep st).2.2 = st) := by
  have ho := openFile_none_of_kresolve fs kfuel cwd _ h
  have hg : guardedOpen fs kfuel fuel cwdS cwd base loc = none := by
    rcases guarded_cases fs kfuel fuel cwdS cwd base loc with ⟨_, _, g⟩ | ⟨_, _, g⟩ <;> rw [g]
    exact ho
  rw [call_eq_spec]
  cases hq : quiet ep st with
  | true =>
    rw [callSpec_of_quiet _ _ _ _ _ _ _ _ _ _ _ hq, cachedSpec_events]
    exact ⟨by simp, fun hne => absurd rfl hne⟩
  | false =>
    obtain ⟨hev, hres⟩ := callSpec_loud fs kfuel fuel cwdS cwd base loc offset length ep st hq
    refine ⟨?_, fun _ => hres hg⟩
    intro p i hm
    rw [hev] at hm
    obtain ⟨_, _, hoi⟩ := guardedEvents_open _ _ _ _ _ _ _ _ _ hm
    rw [hg] at hoi
    simp at hoi

/-- a symbolic link met with an exhausted symlink bound: the kernel gives up (ELOOP) -/
example (fs : FS) (cur : Loc) (c t : Str) (hd : fs.get cur = some Node.dir)
    (h1 : ¬ (c = [] ∨ c = DOT)) (h2 : c ≠ DOTDOT) (hn : fs.get (cur ++ [c]) = some (Node.link t)) :
    walk fs 0 cur [c] true = none := walk_step_link_zero fs cur c [] t hd h1 h2 hn

/-- **C10_eloop_counts_all_links**: the kernel model counts EVERY symbolic link followed during one
resolution, not the depth of their nesting (Linux: `nd->total_link_count`, MAXSYMLINKS = 40): each
followed link costs one unit of the single budget of the resolution and the walk goes on, with what is
left, over the link's target followed by the remaining components; with nothing left it fails (ELOOP).
Consequence for links that are followed one after the other (nesting depth 1): for a directory `cur`
holding a link `s -> .`, the path `s/s/.../s/rest` with `n` times `s` is walked iff `n` does not
exceed the budget, and `rest` is then walked with `budget - n`. -/
theorem C10_eloop_counts_all_links (fs : FS) (cur : Loc) (c t : Str) (rest : List Str)
    (hd : fs.get cur = some Node.dir) (h1 : ¬ (c = [] ∨ c = DOT)) (h2 : c ≠ DOTDOT)
    (hl : fs.get (cur ++ [c]) = some (Node.link t)) :
    (∀ f, walk fs (f + 1) cur (c :: rest) true = walk fs f (startLoc cur t) (splitSep t ++ rest) true) ∧
    walk fs 0 cur (c :: rest) true = none ∧
    (t = DOT → ∀ n f, walk fs f cur (List.replicate n c ++ rest) true =
      if n ≤ f then walk fs (f - n) cur rest true else none) := by
  refine ⟨fun f => walk_step_link fs f cur c rest t hd h1 h2 hl,
    walk_step_link_zero fs cur c rest t hd h1 h2 hl, ?_⟩
  intro ht n
  subst ht
  induction n with
  | zero => intro f; simp
  | succ n ih =>
    intro f
    rw [List.replicate_succ, List.cons_append]
    cases f with
    | zero =>
      rw [walk_step_link_zero fs cur c _ DOT hd h1 h2 hl]
      simp
    | succ f =>
      rw [walk_step_link fs f cur c _ DOT hd h1 h2 hl]
      have hs : splitSep DOT = [DOT] := by decide
      have hst : startLoc cur DOT = cur := by simp [startLoc, isabs, DOT]
      rw [hs, hst, List.singleton_append, walk_step_skip fs f cur DOT _ true hd (Or.inr rfl), ih f]
      by_cases hnf : n ≤ f
      · have : n + 1 ≤ f + 1 := by omega
        simp only [hnf, this, if_true]
        congr 1
        omega
      · have : ¬ (n + 1 ≤ f + 1) := by omega
        simp only [hnf, this, if_false]

/-- sequential links are counted: on the tree /d with d/s -> . and the file d/f, forty `s` resolve
with the budget 40, forty-one do not (a bound on the nesting depth would accept any number) -/
example :
    let fs : FS := { node := fun l => if l = [['d']] then some Node.dir
                       else if l = [['d'], ['s']] then some (Node.link DOT)
                       else if l = [['d'], ['f']] then some (Node.file 1) else none,
                     dnlink := fun _ => 2, nlink := fun _ => 1, data := fun _ => [] }
    walk fs 40 [['d']] (List.replicate 40 ['s'] ++ [['f']]) true = some [['d'], ['f']] ∧
    walk fs 40 [['d']] (List.replicate 41 ['s'] ++ [['f']]) true = none := by
  intro fs
  have hd : fs.get [['d']] = some Node.dir := by decide
  have hl : fs.get ([['d']] ++ [['s']]) = some (Node.link DOT) := by decide
  have key := (C10_eloop_counts_all_links fs [['d']] ['s'] DOT [['f']] hd (by decide) (by decide) hl).2.2 rfl
  refine ⟨?_, ?_⟩
  · rw [key 40 40]
    have hf : fs.get ([['d']] ++ [['f']]) = some (Node.file 1) := by decide
    simp only [Nat.le_refl, if_true, Nat.sub_self]
    rw [walk_step_plain fs 0 [['d']] ['f'] [] true hd (by decide) (by decide) (Node.file 1) hf (Node.file_ne_link 1),
      walk_nil]
    rfl
  · rw [key 41 40]
    simp

/-- the verdict of the containment check is the same for every recursion bound at or above the
kernel's symlink bound, whenever the kernel resolves the path and (for an absolute location) the
base directory -/
theorem checkContainment_fuel (fs : FS) (kfuel fuel fuel' : Nat) (cwd : Loc) (hcwd : RealDir fs cwd)
    (hf : kfuel ≤ fuel) (hf' : kfuel ≤ fuel') (base loc : Str) (l : Loc)
    (hp : kresolve fs kfuel cwd (tensorPath base loc) true = some l)
    (hbase : isabs loc = true → base ≠ [] → ∃ bl, kresolve fs kfuel cwd base true = some bl) :
    checkContainment fs kfuel fuel (render cwd) cwd base loc =
      checkContainment fs kfuel fuel' (render cwd) cwd base loc := by
  by_cases hb : base = []
  · unfold checkContainment; simp [hb]
  · obtain ⟨bl, hbl⟩ : ∃ bl, kresolve fs kfuel cwd base true = some bl := by
      cases ha : isabs loc with
      | true => exact hbase ha hb
      | false => exact C10_base_resolves fs kfuel cwd base loc l hb ha hp
    have r1 := (realpath_of_kresolve fs kfuel fuel cwd hcwd _ kfuel l hp hf).1
    have r1' := (realpath_of_kresolve fs kfuel fuel' cwd hcwd _ kfuel l hp hf').1
    have r2 := (realpath_of_kresolve fs kfuel fuel cwd hcwd _ kfuel bl hbl hf).1
    have r2' := (realpath_of_kresolve fs kfuel fuel' cwd hcwd _ kfuel bl hbl hf').1
    have q1 := realpath_fixed_of_kresolve fs kfuel fuel cwd hcwd _ l hp hf
    have q1' := realpath_fixed_of_kresolve fs kfuel fuel' cwd hcwd _ l hp hf'
    have q2 := realpath_fixed_of_kresolve fs kfuel fuel cwd hcwd _ bl hbl hf
    have q2' := realpath_fixed_of_kresolve fs kfuel fuel' cwd hcwd _ bl hbl hf'
    unfold checkContainment check2 check3
    rw [r1, r1', r2, r2', q1, q1', q2, q2']

/-- **C10_fuel_discharged**: the recursion bound `fuel` of the transcribed `os.path.realpath` (a
model artefact standing for CPython's recursion limit) is discharged by the kernel's bound `kfuel` on
the number of links one resolution follows (the nesting depth never exceeds that number): for EVERY `fuel ≥ kfuel` a call of any entry point from any cached state has the same
result, leaves the same cached state and opens the same inodes as with `fuel = kfuel`, and performs
no event in the one case iff in the other.  Hypothesis: for an ABSOLUTE location the kernel resolves
the (non-empty) base directory; for relative locations nothing is assumed (`C10_base_resolves`).
So every statement of this file about `fuel ≥ kfuel` is a statement about the single bound
`kfuel`. -/
theorem C10_fuel_discharged (fs : FS) (kfuel fuel : Nat) (cwd : Loc) (hcwd : RealDir fs cwd)
    (hfuel : kfuel ≤ fuel) (base loc : Str) (offset length : Nat) (ep : EntryPoint) (st : TState)
    (hbase : isabs loc = true → base ≠ [] → ∃ bl, kresolve fs kfuel cwd base true = some bl) :
    (call fs kfuel fuel (render cwd) cwd base loc offset length ep st).1 =
      (call fs kfuel kfuel (render cwd) cwd base loc offset length ep st).1 ∧
    (call fs kfuel fuel (render cwd) cwd base loc offset length ep st).2.2 =
      (call fs kfuel kfuel (render cwd) cwd base loc offset length ep st).2.2 ∧
    (∀ p i, Ev.openEv p (some i) ∈ (call fs kfuel fuel (render cwd) cwd base loc offset length ep st).2.1 ↔
      Ev.openEv p (some i) ∈ (call fs kfuel kfuel (render cwd) cwd base loc offset length ep st).2.1) ∧
    ((call fs kfuel fuel (render cwd) cwd base loc offset length ep st).2.1 = [] ↔
      (call fs kfuel kfuel (render cwd) cwd base loc offset length ep st).2.1 = []) := by
  cases hp : kresolve fs kfuel cwd (tensorPath base loc) true with
  | some l =>
    have hv := checkContainment_fuel fs kfuel fuel kfuel cwd hcwd hfuel (Nat.le_refl _) base loc l hp hbase
    rw [call_eq_spec, call_eq_spec, callSpec_congr fs kfuel fuel kfuel _ _ _ _ _ _ _ _ hv]
    exact ⟨rfl, rfl, fun _ _ => Iff.rfl, Iff.rfl⟩
  | none =>
    obtain ⟨a1, a2⟩ := C10_eloop_no_open fs kfuel fuel (render cwd) cwd base loc offset length ep st hp
    obtain ⟨b1, b2⟩ := C10_eloop_no_open fs kfuel kfuel (render cwd) cwd base loc offset length ep st hp
    cases hq : quiet ep st with
    | true =>
      rw [call_eq_spec, call_eq_spec, callSpec_of_quiet _ _ _ _ _ _ _ _ _ _ _ hq,
        callSpec_of_quiet _ _ _ _ _ _ _ _ _ _ _ hq]
      exact ⟨rfl, rfl, fun _ _ => Iff.rfl, Iff.rfl⟩
    | false =>
      have e1 := (callSpec_loud fs kfuel fuel (render cwd) cwd base loc offset length ep st hq).1
      have e0 := (callSpec_loud fs kfuel kfuel (render cwd) cwd base loc offset length ep st hq).1
      have n1 : (call fs kfuel fuel (render cwd) cwd base loc offset length ep st).2.1 ≠ [] := by
        rw [call_eq_spec, e1]; exact guardedEvents_ne_nil _ _ _ _ _ _ _
      have n0 : (call fs kfuel kfuel (render cwd) cwd base loc offset length ep st).2.1 ≠ [] := by
        rw [call_eq_spec, e0]; exact guardedEvents_ne_nil _ _ _ _ _ _ _
      obtain ⟨r1, s1⟩ := a2 n1
      obtain ⟨r0, s0⟩ := b2 n0
      refine ⟨by rw [r1, r0], by rw [s1, s0], ?_, ?_⟩
      · intro p i
        exact ⟨fun h => absurd h (a1 p i), fun h => absurd h (b1 p i)⟩
      · exact ⟨fun h => absurd h n1, fun h => absurd h n0⟩

/-! ### zero-size tensors, `base_dir` of any type, histories of the public re-basing operations -/

/-- every file a call of `callT` opens: the base directory is not a `bytes` object, a zero-size
tensor opens only through `tofile`, and with a non-empty base directory (and `os.getcwd()` naming the working
directory) the open is a safe open -/
theorem callT_opens (fs : FS) (kfuel fuel : Nat) (cwdS : Str) (cwd : Loc) (hfuel : kfuel ≤ fuel) (p : TensorP)
    (b : BaseVal) (ep : EntryPoint) (st : TState) (q : Str) (i : Nat)
    (h : Ev.openEv q (some i) ∈ (callT fs kfuel fuel cwdS cwd p b ep st).2.1) :
    b.kind ≠ BaseKind.bytes ∧ (p.zero = true → ep = EntryPoint.tofile) ∧
    (b.s ≠ [] → RealDir fs cwd → cwdS = render cwd →
      q = tensorPath b.s p.loc ∧ SafeOpen fs kfuel fuel cwd b.s p.loc i) := by
  rcases callT_cases fs kfuel fuel cwdS cwd p b ep st with ⟨_, e⟩ | ⟨_, _, hep, e⟩ | ⟨hk, hz, e⟩ <;> rw [e] at h
  · simp at h
  · exact absurd h ((zero_nontofile _ st ep hep).1 q (some i))
  · refine ⟨hk, hz, fun hb hcwd hc => ?_⟩
    subst hc
    exact C10_call_open_safe fs kfuel fuel cwd hcwd hfuel b.s p.loc p.offset p.length ep st hb q i h

theorem callT_result (fs : FS) (kfuel fuel : Nat) (cwdS : Str) (cwd : Loc) (p : TensorP) (b : BaseVal)
    (ep : EntryPoint) (st : TState) :
    (∀ bytes, (callT fs kfuel fuel cwdS cwd p b ep st).1 = ReadResult.ok bytes →
      (bytes = [] ∧ p.zero = true ∧ ep ≠ EntryPoint.tofile) ∨
      ∃ i, bytes = sliceOf (fs.data i) p.offset p.length ∧
        (Ev.openEv (tensorPath b.s p.loc) (some i) ∈ (callT fs kfuel fuel cwdS cwd p b ep st).2.1 ∨
          ((callT fs kfuel fuel cwdS cwd p b ep st).2.1 = [] ∧ st.raw = some i))) ∧
    (∀ i, (callT fs kfuel fuel cwdS cwd p b ep st).2.2.raw = some i →
      st.raw = some i ∨
        Ev.openEv (tensorPath b.s p.loc) (some i) ∈ (callT fs kfuel fuel cwdS cwd p b ep st).2.1) := by
  rcases callT_cases fs kfuel fuel cwdS cwd p b ep st with ⟨_, e⟩ | ⟨_, hz, hep, e⟩ | ⟨_, _, e⟩ <;> rw [e]
  · refine ⟨?_, fun i h => Or.inl h⟩
    intro bytes h
    by_cases hc : p.zero = true ∧ ep = EntryPoint.tobytes
    · simp only [hc, and_self, if_true, ReadResult.ok.injEq] at h
      exact Or.inl ⟨h.symm, hc.1, by rw [hc.2]; simp⟩
    · simp [hc] at h
  · obtain ⟨_, hb, hr, _, _⟩ := zero_nontofile
      { fs := fs, kfuel := kfuel, fuel := fuel, cwdS := cwdS, cwd := cwd, base := b.s, loc := p.loc,
        offset := p.offset, length := p.length } st ep hep
    exact ⟨fun bytes h => Or.inl ⟨hb bytes h, hz, hep⟩, fun i h => Or.inl (hr i h)⟩
  · obtain ⟨h1, h2⟩ := C10_call_result fs kfuel fuel cwdS cwd b.s p.loc p.offset p.length ep st
    exact ⟨fun bytes h => Or.inr (h1 bytes h), h2⟩

/-- **C10_zero_size**: a tensor with `size == 0`, any base directory value (str, os.PathLike, bytes),
any entry point, any cached state: (1) numpy / `__array__` / tobytes / serialisation open nothing and
return no byte (tobytes does not even run the check); (2) the only entry point that opens the file
is `tofile`, and then the open is preceded by a non-rejecting containment check and, with a
non-empty base directory, is a safe open; (3) when the check rejects, nothing is opened. -/
theorem C10_zero_size (fs : FS) (kfuel fuel : Nat) (cwd : Loc) (hfuel : kfuel ≤ fuel) (p : TensorP)
    (hz : p.zero = true) (b : BaseVal) (ep : EntryPoint) (st : TState) :
    (ep ≠ EntryPoint.tofile →
      (∀ q oi, Ev.openEv q oi ∉ (callT fs kfuel fuel (render cwd) cwd p b ep st).2.1) ∧
      (∀ bytes, (callT fs kfuel fuel (render cwd) cwd p b ep st).1 = ReadResult.ok bytes → bytes = [])) ∧
    (∀ q i, Ev.openEv q (some i) ∈ (callT fs kfuel fuel (render cwd) cwd p b ep st).2.1 →
      ep = EntryPoint.tofile ∧ b.kind ≠ BaseKind.bytes ∧
      (b.s ≠ [] → RealDir fs cwd → q = tensorPath b.s p.loc ∧ SafeOpen fs kfuel fuel cwd b.s p.loc i)) ∧
    CheckedOpens (checkContainment fs kfuel fuel (render cwd) cwd b.s p.loc)
      (callT fs kfuel fuel (render cwd) cwd p b ep st).2.1 := by
  refine ⟨?_, ?_, ?_⟩
  · intro hep
    rcases callT_cases fs kfuel fuel (render cwd) cwd p b ep st with ⟨_, e⟩ | ⟨_, _, _, e⟩ | ⟨_, hz', _⟩
    · rw [e]
      refine ⟨by simp, ?_⟩
      intro bytes h
      by_cases hc : p.zero = true ∧ ep = EntryPoint.tobytes
      · simp only [hc, and_self, if_true, ReadResult.ok.injEq] at h; exact h.symm
      · simp [hc] at h
    · rw [e]
      obtain ⟨h1, h2, _⟩ := zero_nontofile _ st ep hep
      exact ⟨h1, h2⟩
    · exact absurd (hz' hz) hep
  · intro q i h
    obtain ⟨h1, h2, h3⟩ := callT_opens fs kfuel fuel (render cwd) cwd hfuel p b ep st q i h
    exact ⟨h2 hz, h1, fun hb hd => h3 hb hd rfl⟩
  · rcases callT_cases fs kfuel fuel (render cwd) cwd p b ep st with ⟨_, e⟩ | ⟨_, _, hep, e⟩ | ⟨_, _, e⟩ <;> rw [e]
    · intro pre q oi post h
      cases pre <;> simp at h
    · intro pre q oi post h
      have := (zero_nontofile
        { fs := fs, kfuel := kfuel, fuel := fuel, cwdS := render cwd, cwd := cwd, base := b.s, loc := p.loc,
          offset := p.offset, length := p.length } st ep hep).1 q oi
      rw [h] at this
      exact absurd (by simp) this
    · exact (C10_all_entry_points fs kfuel fuel (render cwd) cwd b.s p.loc p.offset p.length ep st).1

/-- a zero-size `tobytes()` on the tree /b/f returns no byte without any event (no check, no open) -/
example : (callT exFS 40 40 (render []) [] { loc := "f".toList, offset := 0, length := 0, zero := true }
      { kind := BaseKind.str, s := "/b".toList } EntryPoint.tobytes TState.fresh) =
    (ReadResult.ok [], [], TState.fresh) := by
  simp [callT, runBody, bodyZ, execStmts, execStmt, execPrim, TState.fresh]

/-! ### histories over several tensors: setter, `set_base_dir`, `load_to_model`, `convert_tensors_from_external` -/

/-- provenance of returned bytes; `P t b i`: inode `i` was mapped for tensor `t` under base `b` before the log started -/
def Prov (ps : Nat → TensorP) (P : Nat → BaseVal → Nat → Prop) (log : List WLog) : Prop :=
  ∀ (pre : List WLog) (e : WLog) (post : List WLog), log = pre ++ e :: post →
    ∀ bytes, e.res = ReadResult.ok bytes →
      (bytes = [] ∧ (ps e.t).zero = true ∧ e.ep ≠ EntryPoint.tofile) ∨
      ∃ i, bytes = sliceOf (e.fs.data i) (ps e.t).offset (ps e.t).length ∧
        (P e.t e.base i ∨ ∃ e' ∈ pre ++ [e], e'.t = e.t ∧ e'.base = e.base ∧
          Ev.openEv (tensorPath e.base.s (ps e.t).loc) (some i) ∈ e'.events)

/-- the invariant of `stepWorld_prov`: every inode some tensor has mapped is accounted for in `P` under that tensor's
CURRENT base value (so `rebase` to another value must empty the mapping); `Prov.cons` enlarges `P` by what the call at
the head opened -/
def Mapped (w : World) (P : Nat → BaseVal → Nat → Prop) : Prop :=
  ∀ t i, (w.ts t).st.raw = some i → P t (w.ts t).base i

theorem Prov.cons (fs : FS) (kfuel fuel : Nat) (cwdS : Str) (cwd : Loc) (ps : Nat → TensorP) (t : Nat)
    (ep : EntryPoint) (s : TSess) (rest : List WLog) (P : Nat → BaseVal → Nat → Prop)
    (hraw : ∀ i, s.st.raw = some i → P t s.base i)
    (ih : Prov ps (fun t' b' i => P t' b' i ∨ (t' = t ∧ b' = s.base ∧
      Ev.openEv (tensorPath s.base.s (ps t).loc) (some i) ∈
        (callT fs kfuel fuel cwdS cwd (ps t) s.base ep s.st).2.1)) rest) :
    Prov ps P ({ t := t, fs := fs, base := s.base, ep := ep,
                 res := (callT fs kfuel fuel cwdS cwd (ps t) s.base ep s.st).1,
                 events := (callT fs kfuel fuel cwdS cwd (ps t) s.base ep s.st).2.1 } :: rest) := by
  intro pre e post hlog bytes hb
  cases pre with
  | nil =>
    simp only [List.nil_append, List.cons.injEq] at hlog
    obtain ⟨he, _⟩ := hlog
    subst he
    rcases (callT_result fs kfuel fuel cwdS cwd (ps t) s.base ep s.st).1 bytes hb with hzero | ⟨i, hi, hor⟩
    · exact Or.inl hzero
    · refine Or.inr ⟨i, hi, ?_⟩
      rcases hor with hev | ⟨_, hr⟩
      · exact Or.inr ⟨_, List.mem_append_right _ (List.mem_singleton_self _), rfl, rfl, hev⟩
      · exact Or.inl (hraw i hr)
  | cons e0 pre' =>
    simp only [List.cons_append, List.cons.injEq] at hlog
    obtain ⟨he0, hrest⟩ := hlog
    rcases ih pre' e post hrest bytes hb with hzero | ⟨i, hi, hor⟩
    · exact Or.inl hzero
    · refine Or.inr ⟨i, hi, ?_⟩
      rcases hor with (hp | ⟨ht, hbase, hev⟩) | ⟨e', he', ht', hb', hev⟩
      · exact Or.inl hp
      · refine Or.inr ⟨e0, by simp, ?_, ?_, ?_⟩
        · rw [← he0]; exact ht.symm
        · rw [← he0]; exact hbase.symm
        · rw [← he0, ht, hbase]; exact hev
      · exact Or.inr ⟨e', by simp only [List.cons_append, List.mem_cons]; exact Or.inr he', ht', hb', hev⟩

theorem stepWorld_prov (kfuel fuel : Nat) (cwdS : Str) (cwd : Loc) (ps : Nat → TensorP) (w : World) (x : MOp)
    (rest : List WLog) (ih : ∀ P, Mapped (stepWorld kfuel fuel cwdS cwd ps w x).1 P → Prov ps P rest)
    (P : Nat → BaseVal → Nat → Prop) (hP : Mapped w P) :
    Prov ps P ((stepWorld kfuel fuel cwdS cwd ps w x).2.toList ++ rest) := by
  have hcall : ∀ (t : Nat) (ep : EntryPoint) (w' : World),
      w'.ts = (w.set t { (w.ts t) with
        st := (callT w.fs kfuel fuel cwdS cwd (ps t) (w.ts t).base ep (w.ts t).st).2.2 }).ts →
      (∀ P, Mapped w' P → Prov ps P rest) →
      Prov ps P ({ t := t, fs := w.fs, base := (w.ts t).base, ep := ep,
                   res := (callT w.fs kfuel fuel cwdS cwd (ps t) (w.ts t).base ep (w.ts t).st).1,
                   events := (callT w.fs kfuel fuel cwdS cwd (ps t) (w.ts t).base ep (w.ts t).st).2.1 } :: rest) := by
    intro t ep w' hts ih'
    refine Prov.cons w.fs kfuel fuel cwdS cwd ps t ep (w.ts t) rest P (hP t) (ih' _ ?_)
    intro t' i h
    rw [hts] at h ⊢
    simp only [World.set] at h ⊢
    by_cases htt : t' = t
    · subst htt
      simp only [if_true] at h ⊢
      rcases (callT_result w.fs kfuel fuel cwdS cwd (ps t') (w.ts t').base ep (w.ts t').st).2 i h with h' | h'
      · exact Or.inl (hP t' i h')
      · exact Or.inr ⟨trivial, trivial, h'⟩
    · simp only [htt, if_false] at h ⊢
      exact Or.inl (hP t' i h)
  cases x with
  | setFS fs => exact ih P hP
  | beginLoad => exact ih P hP
  | rebase t b =>
    refine ih P ?_
    intro t' i hi
    simp only [stepWorld, World.set] at hi ⊢
    by_cases htt : t' = t
    · subst htt
      simp only [if_true, TSess.rebase] at hi ⊢
      by_cases hbe : b = (w.ts t').base
      · simp only [hbe, if_true] at hi
        rw [hbe]; exact hP t' i hi
      · simp [hbe, TState.fresh] at hi
    · simp only [htt, if_false] at hi ⊢
      exact hP t' i hi
  | release t =>
    refine ih P ?_
    intro t' i hi
    simp only [stepWorld, World.set] at hi ⊢
    by_cases htt : t' = t
    · subst htt
      simp [TState.fresh] at hi
    · simp only [htt, if_false] at hi ⊢
      exact hP t' i hi
  | call t ep => exact hcall t ep _ rfl ih
  | loadOne t =>
    by_cases hab : w.aborted = true
    · simp only [stepWorld, hab, if_true] at ih ⊢
      exact ih P hP
    · simp only [stepWorld, hab, Bool.false_eq_true, if_false] at ih ⊢
      exact hcall t EntryPoint.serializeRaw _ rfl ih

theorem runMicro_bytes (kfuel fuel : Nat) (cwdS : Str) (cwd : Loc) (ps : Nat → TensorP) :
    ∀ (mops : List MOp) (w : World) (P : Nat → BaseVal → Nat → Prop), Mapped w P →
      Prov ps P (runMicro kfuel fuel cwdS cwd ps w mops)
  | [], w, P, _ => by intro pre e post hlog; simp [runMicro] at hlog
  | x :: xs, w, P, hP => by
    rw [runMicro_cons]
    exact stepWorld_prov kfuel fuel cwdS cwd ps w x _ (fun P' h => runMicro_bytes kfuel fuel cwdS cwd ps xs _ P' h) P hP


/-- **C10_world_safe** (contains C10_session_safe: several tensors, zero-size tensors, base
directory values of any type, and every public way of re-basing): for every history of public
operations on the external tensors of a model - arbitrary changes of the tree, `tensor.base_dir = v`,
`external_data.set_base_dir(graph, v)` (the setter on every tensor its walker reaches),
`release()`, calls of any entry point, `load_to_model` / `convert_tensors_from_external` (the
serialisation entry point on a list of tensors, stopping at the first raise); cloning a graph or
model shares the tensor objects and is no operation here - starting with nothing mapped, and for
every call `e` in the log (`pre` = the calls before it):
(1) every file `e` opens is opened under a base directory that is not a `bytes` object and, when that
    base directory is non-empty, is a safe open with respect to the tree and base directory at the
    time of `e`;
(2) the bytes `e` returns are either none at all (zero-size tensor, entry point other than
    `tofile`), or the slice of an inode opened by `e` itself or by an EARLIER call `e'` ON THE SAME
    TENSOR made under the SAME base directory value as `e`'s; that open was a safe open with respect
    to `e`'s base directory in the tree of that moment.  A mapping obtained under one base directory
    is never served under another. -/
theorem C10_world_safe (kfuel fuel : Nat) (cwd : Loc) (hfuel : kfuel ≤ fuel) (ps : Nat → TensorP)
    (w0 : World) (h0 : ∀ t, (w0.ts t).st.raw = none) (ops : List WOp)
    (pre : List WLog) (e : WLog) (post : List WLog)
    (hlog : runWorld kfuel fuel (render cwd) cwd ps w0 ops = pre ++ e :: post) :
    (∀ q i, Ev.openEv q (some i) ∈ e.events →
      e.base.kind ≠ BaseKind.bytes ∧ ((ps e.t).zero = true → e.ep = EntryPoint.tofile) ∧
      (e.base.s ≠ [] → RealDir e.fs cwd →
        q = tensorPath e.base.s (ps e.t).loc ∧ SafeOpen e.fs kfuel fuel cwd e.base.s (ps e.t).loc i)) ∧
    (∀ bytes, e.res = ReadResult.ok bytes →
      (bytes = [] ∧ (ps e.t).zero = true ∧ e.ep ≠ EntryPoint.tofile) ∨
      ∃ i, bytes = sliceOf (e.fs.data i) (ps e.t).offset (ps e.t).length ∧
        ∃ e' ∈ pre ++ [e], e'.t = e.t ∧ e'.base = e.base ∧
          Ev.openEv (tensorPath e.base.s (ps e.t).loc) (some i) ∈ e'.events ∧
          (e.base.s ≠ [] → RealDir e'.fs cwd → SafeOpen e'.fs kfuel fuel cwd e.base.s (ps e.t).loc i)) := by
  unfold runWorld at hlog
  have hsafe : ∀ x ∈ runMicro kfuel fuel (render cwd) cwd ps w0 (expandAll ops), ∀ q i,
      Ev.openEv q (some i) ∈ x.events →
      x.base.kind ≠ BaseKind.bytes ∧ ((ps x.t).zero = true → x.ep = EntryPoint.tofile) ∧
      (x.base.s ≠ [] → RealDir x.fs cwd →
        q = tensorPath x.base.s (ps x.t).loc ∧ SafeOpen x.fs kfuel fuel cwd x.base.s (ps x.t).loc i) := by
    intro x hx q i hm
    obtain ⟨st, hev, _⟩ := runMicro_entries kfuel fuel (render cwd) cwd ps _ w0 x hx
    rw [hev] at hm
    obtain ⟨h1, h2, h3⟩ := callT_opens x.fs kfuel fuel (render cwd) cwd hfuel (ps x.t) x.base x.ep st q i hm
    exact ⟨h1, h2, fun hb hd => h3 hb hd rfl⟩
  refine ⟨hsafe e (by rw [hlog]; simp), ?_⟩
  intro bytes hb
  rcases runMicro_bytes kfuel fuel (render cwd) cwd ps _ w0 (fun _ _ _ => False)
    (by intro t i h; rw [h0 t] at h; exact absurd h (by simp)) pre e post hlog bytes hb with hz | ⟨i, hi, hor⟩
  · exact Or.inl hz
  · refine Or.inr ⟨i, hi, ?_⟩
    rcases hor with hf | ⟨e', he', ht, hbase, hev⟩
    · exact absurd hf id
    · refine ⟨e', he', ht, hbase, hev, ?_⟩
      intro hne hcwd
      have hmem : e' ∈ runMicro kfuel fuel (render cwd) cwd ps w0 (expandAll ops) := by
        rw [hlog]; exact mem_upto he'
      have := (hsafe e' hmem (tensorPath e.base.s (ps e.t).loc) i hev).2.2
        (by rw [hbase]; exact hne) hcwd
      rw [ht, hbase] at this
      exact this.2


/-! ### sequences of calls on one tensor: a session is a history of the world with the single tensor 0 -/

/-- **C10_session_safe**: for every sequence of steps in the life of an external tensor (calls of
any entry point, arbitrary changes of the tree between calls, re-assignments of `base_dir` (which
drop the mapping, D184), `release()`), starting unmapped, and for every call `e` of the sequence
(`pre` = the calls before it): (1) every file `e` opens is a safe open with respect to the tree
and the base directory at the time of `e`; (2) every byte sequence `e` returns is the slice of an
inode opened by `e` itself or by an EARLIER call `e'` of the sequence made under the SAME base
directory as `e`'s, and that open was a safe open with respect to `e`'s base directory (in the
tree of that moment): a mapped tensor is served from a mapping obtained through an open checked
against the base directory the tensor has now. -/
theorem C10_session_safe (kfuel fuel : Nat) (cwd : Loc) (hfuel : kfuel ≤ fuel) (loc : Str)
    (offset length : Nat) (s0 : Sess) (h0 : s0.st.raw = none) (steps : List Step)
    (pre : List LogEntry) (e : LogEntry) (post : List LogEntry)
    (hlog : (runSess kfuel fuel (render cwd) cwd loc offset length s0 steps).2 = pre ++ e :: post) :
    (∀ p i, e.base ≠ [] → RealDir e.fs cwd → Ev.openEv p (some i) ∈ e.events →
      p = tensorPath e.base loc ∧ SafeOpen e.fs kfuel fuel cwd e.base loc i) ∧
    (∀ bytes, e.res = ReadResult.ok bytes →
      ∃ i, bytes = sliceOf (e.fs.data i) offset length ∧
        ∃ e' ∈ pre ++ [e], e'.base = e.base ∧
          Ev.openEv (tensorPath e.base loc) (some i) ∈ e'.events ∧
          (e.base ≠ [] → RealDir e'.fs cwd → SafeOpen e'.fs kfuel fuel cwd e.base loc i)) := by
  have hw := C10_world_safe kfuel fuel cwd hfuel
    (fun _ => { loc := loc, offset := offset, length := length, zero := false })
    { fs := s0.fs, ts := fun _ => { base := { kind := BaseKind.str, s := s0.base }, st := s0.st }, aborted := false }
    (fun _ => h0) (steps.map Step.toWOp) (pre.map LogEntry.toWLog) e.toWLog (post.map LogEntry.toWLog)
    (by
      unfold runWorld
      rw [runSess_sim kfuel fuel (render cwd) cwd loc offset length steps s0 _ rfl rfl, hlog]
      simp)
  refine ⟨fun p i hb hcwd hev => (hw.1 p i hev).2.2 hb hcwd, ?_⟩
  intro bytes hb
  rcases hw.2 bytes hb with ⟨_, hz, _⟩ | ⟨i, hi, e', he', _, hbase, hev, hsafe⟩
  · cases hz
  · have hm : pre.map LogEntry.toWLog ++ [e.toWLog] = (pre ++ [e]).map LogEntry.toWLog := by simp
    rw [hm] at he'
    obtain ⟨e'', he'', rfl⟩ := List.mem_map.mp he'
    have hb' : e''.base = e.base := by simpa [LogEntry.toWLog] using hbase
    exact ⟨i, hi, e'', he'', hb', hev, hsafe⟩

/-- C10_world_safe is not vacuous: `set_base_dir` with a pathlib value, then `load_to_model`, on the
tree /b/f: the log has an entry that returns bytes -/
example : ∃ pre e post,
    runWorld 40 40 (render []) [] (fun _ => { loc := "f".toList, offset := 0, length := 3, zero := false })
      { fs := exFS, ts := fun _ => { base := { kind := BaseKind.str, s := [] }, st := TState.fresh },
        aborted := false }
      [WOp.setBaseDir [0] { kind := BaseKind.pathlike, s := "/b".toList }, WOp.loadToModel [0]] =
        pre ++ e :: post ∧
    e.res = ReadResult.ok [10, 20, 30] := by
  refine ⟨[], _, _, rfl, ?_⟩
  have := ex_read EntryPoint.serializeRaw
  unfold read at this
  simpa [callT, stepWorld, World.set, TSess.rebase, TState.fresh] using this

/-! ### histories with `os.chdir` between the operations -/

/-- **C10_world_chdir_opens**: histories of public operations (as in `C10_world_safe`) with `os.chdir`
between them: every file a call opens is opened under a base directory that is not a `bytes` object,
by `tofile` if the tensor has size zero, and - when the base directory is non-empty and the working
directory of THAT call is a chain of real directories named by its `os.getcwd()` string - is a safe
open with respect to the tree, the base directory value and the working directory at the time of the
call: a relative base directory is resolved anew, from the current working directory, by every call
that opens the file.  (What a call serves from a mapping made earlier is the subject of
`C10_world_safe`; a change of directory, like a change of the tree, does not drop a mapping.) -/
theorem C10_world_chdir_opens (kfuel fuel : Nat) (hfuel : kfuel ≤ fuel) (ps : Nat → TensorP)
    (cwd0 : Str) (w0 : World) (ops : List COp) (c : Str) (e : WLog)
    (he : (c, e) ∈ runWorldC kfuel fuel ps cwd0 w0 ops) (q : Str) (i : Nat)
    (hq : Ev.openEv q (some i) ∈ e.events) :
    e.base.kind ≠ BaseKind.bytes ∧ ((ps e.t).zero = true → e.ep = EntryPoint.tofile) ∧
    (e.base.s ≠ [] → RealDir e.fs (comps c) → render (comps c) = c →
      q = tensorPath e.base.s (ps e.t).loc ∧ SafeOpen e.fs kfuel fuel (comps c) e.base.s (ps e.t).loc i) := by
  obtain ⟨st, hev, _⟩ := runMicroC_entries kfuel fuel ps _ cwd0 w0 (c, e) he
  simp only at hev
  rw [hev] at hq
  have := callT_opens e.fs kfuel fuel c (comps c) hfuel (ps e.t) e.base e.ep st q i hq
  exact ⟨this.1, this.2.1, fun hb hd hr => this.2.2 hb hd hr.symm⟩

/-- `runMicro_bytes` for histories with `os.chdir`: the provenance of returned bytes does not depend on
the working directories the calls were made in (stated on the log without them) -/
theorem runMicroC_bytes (kfuel fuel : Nat) (ps : Nat → TensorP) :
    ∀ (mops : List CMOp) (cwdS : Str) (w : World) (P : Nat → BaseVal → Nat → Prop), Mapped w P →
      Prov ps P ((runMicroC kfuel fuel ps cwdS w mops).map Prod.snd)
  | [], cwdS, w, P, _ => by intro pre e post hlog; simp [runMicroC] at hlog
  | CMOp.chdir c :: xs, cwdS, w, P, hP => by
    simp only [runMicroC]
    exact runMicroC_bytes kfuel fuel ps xs c w P hP
  | CMOp.m x :: xs, cwdS, w, P, hP => by
    rw [runMicroC_cons, List.map_append, List.map_map]
    have e : (Prod.snd ∘ fun e : WLog => (cwdS, e)) = id := rfl
    rw [e, List.map_id]
    exact stepWorld_prov kfuel fuel cwdS (comps cwdS) ps w x _
      (fun P' h => runMicroC_bytes kfuel fuel ps xs cwdS _ P' h) P hP


/-- **C10_world_chdir_safe** (the bytes-provenance half of `C10_world_safe` for histories with
`os.chdir`; contains `C10_world_chdir_opens`): for every history of public operations and changes of
the working directory, starting with nothing mapped, and for every call `e` in the log, made in the
working directory `c` (`pre` = the calls before it, each with the directory it was made in):
(1) every file `e` opens is opened under a base directory that is not a `bytes` object and, when the
    base directory is non-empty and `c` names a chain of real directories, is a safe open with respect
    to the tree, the base directory value and the working directory `c` of that call;
(2) the bytes `e` returns are either none at all (zero-size tensor, entry point other than `tofile`), or
    the slice of an inode opened by `e` itself or by an EARLIER call `e'` ON THE SAME TENSOR under the
    SAME base directory value; that open was a safe open with respect to that base directory value in
    the tree AND THE WORKING DIRECTORY `c'` OF THE CALL THAT MADE IT.  So with a relative base directory
    and a chdir between `e'` and `e` the bytes are those of a file inside what the base directory named
    when the mapping was made - by design a change of directory, like a change of the tree, does not
    drop a mapping - and never of a file that was outside the base directory as it resolved at the
    time of the open. -/
theorem C10_world_chdir_safe (kfuel fuel : Nat) (hfuel : kfuel ≤ fuel) (ps : Nat → TensorP)
    (cwd0 : Str) (w0 : World) (h0 : ∀ t, (w0.ts t).st.raw = none) (ops : List COp)
    (pre : List (Str × WLog)) (c : Str) (e : WLog) (post : List (Str × WLog))
    (hlog : runWorldC kfuel fuel ps cwd0 w0 ops = pre ++ (c, e) :: post) :
    (∀ q i, Ev.openEv q (some i) ∈ e.events →
      e.base.kind ≠ BaseKind.bytes ∧ ((ps e.t).zero = true → e.ep = EntryPoint.tofile) ∧
      (e.base.s ≠ [] → RealDir e.fs (comps c) → render (comps c) = c →
        q = tensorPath e.base.s (ps e.t).loc ∧ SafeOpen e.fs kfuel fuel (comps c) e.base.s (ps e.t).loc i)) ∧
    (∀ bytes, e.res = ReadResult.ok bytes →
      (bytes = [] ∧ (ps e.t).zero = true ∧ e.ep ≠ EntryPoint.tofile) ∨
      ∃ i, bytes = sliceOf (e.fs.data i) (ps e.t).offset (ps e.t).length ∧
        ∃ ce' ∈ pre ++ [(c, e)], ce'.2.t = e.t ∧ ce'.2.base = e.base ∧
          Ev.openEv (tensorPath e.base.s (ps e.t).loc) (some i) ∈ ce'.2.events ∧
          (e.base.s ≠ [] → RealDir ce'.2.fs (comps ce'.1) → render (comps ce'.1) = ce'.1 →
            SafeOpen ce'.2.fs kfuel fuel (comps ce'.1) e.base.s (ps e.t).loc i)) := by
  have hmemAll : ∀ x ∈ pre ++ [(c, e)], x ∈ runWorldC kfuel fuel ps cwd0 w0 ops := by
    intro x hx
    rw [hlog]; exact mem_upto hx
  refine ⟨fun q i hq => C10_world_chdir_opens kfuel fuel hfuel ps cwd0 w0 ops c e
    (hmemAll _ (by simp)) q i hq, ?_⟩
  intro bytes hb
  have hmap : (runMicroC kfuel fuel ps cwd0 w0 (expandAllC ops)).map Prod.snd =
      pre.map Prod.snd ++ e :: post.map Prod.snd := by
    unfold runWorldC at hlog
    rw [hlog]; simp
  rcases runMicroC_bytes kfuel fuel ps _ cwd0 w0 (fun _ _ _ => False)
    (by intro t i h; rw [h0 t] at h; exact absurd h (by simp)) _ e _ hmap bytes hb with hz | ⟨i, hi, hor⟩
  · exact Or.inl hz
  · refine Or.inr ⟨i, hi, ?_⟩
    rcases hor with hf | ⟨e', he', ht, hbase, hev⟩
    · exact absurd hf id
    · -- lift e' back to the entry with its working directory
      obtain ⟨ce', hce', hsnd⟩ : ∃ ce' ∈ pre ++ [(c, e)], ce'.2 = e' := by
        rcases List.mem_append.mp he' with h | h
        · obtain ⟨x, hx, hxe⟩ := List.mem_map.mp h
          exact ⟨x, List.mem_append.mpr (Or.inl hx), hxe⟩
        · have : e' = e := by simpa using h
          exact ⟨(c, e), by simp, this.symm⟩
      subst hsnd
      refine ⟨ce', hce', ht, hbase, hev, ?_⟩
      intro hne hrd hrender
      have := (C10_world_chdir_opens kfuel fuel hfuel ps cwd0 w0 ops ce'.1 ce'.2
        (hmemAll ce' hce') (tensorPath e.base.s (ps e.t).loc) i hev).2.2
        (by rw [hbase]; exact hne) hrd hrender
      rw [ht, hbase] at this
      exact this.2

/-! ### a location given as a bytes object -/

/-- **C10_bytes_location**: a tensor whose `location` is a `bytes` object: with a NON-EMPTY base directory
of any type (str, os.PathLike, bytes) a call of any entry point from any cached state performs no
event at all - nothing is checked, nothing is opened - and raises, except `tobytes` of a zero-size
tensor (which returns no byte); a file is opened only with an EMPTY base directory (checks off by
design), and then only when that base directory is the empty `bytes` object. -/
theorem C10_bytes_location (fs : FS) (kfuel fuel : Nat) (cwdS : Str) (cwd : Loc) (p : TensorP) (b : BaseVal)
    (ep : EntryPoint) (st : TState) :
    (b.s ≠ [] →
      (callTB fs kfuel fuel cwdS cwd p b ep st).2.1 = [] ∧
      (callTB fs kfuel fuel cwdS cwd p b ep st).2.2 = st ∧
      ((callTB fs kfuel fuel cwdS cwd p b ep st).1 = ReadResult.raised ∨
        ((callTB fs kfuel fuel cwdS cwd p b ep st).1 = ReadResult.ok [] ∧ p.zero = true ∧ ep = EntryPoint.tobytes))) ∧
    (∀ q oi, Ev.openEv q oi ∈ (callTB fs kfuel fuel cwdS cwd p b ep st).2.1 →
      b.s = [] ∧ (b.kind = BaseKind.bytes ∨ (p.zero = true ∧ ep ≠ EntryPoint.tofile))) := by
  refine ⟨?_, ?_⟩
  · intro hb
    unfold callTB
    simp only [hb, if_false]
    refine ⟨trivial, trivial, ?_⟩
    by_cases hc : p.zero = true ∧ ep = EntryPoint.tobytes
    · exact Or.inr ⟨by simp [hc], hc.1, hc.2⟩
    · exact Or.inl (by simp [hc])
  · intro q oi h
    unfold callTB at h
    by_cases hb : b.s = []
    · simp only [hb, if_true] at h
      refine ⟨hb, ?_⟩
      by_cases hk : b.kind = BaseKind.bytes
      · exact Or.inl hk
      · simp only [hk, if_false] at h
        by_cases hz : p.zero = true ∧ ep ≠ EntryPoint.tofile
        · exact Or.inr hz
        · simp [hz] at h
    · simp [hb] at h

/-- the empty bytes base directory with a bytes location is the unchecked read of the empty str base -/
example (fs : FS) (kfuel fuel : Nat) (cwdS : Str) (cwd : Loc) (p : TensorP) (ep : EntryPoint) (st : TState) :
    callTB fs kfuel fuel cwdS cwd p { kind := BaseKind.bytes, s := [] } ep st =
      callT fs kfuel fuel cwdS cwd p { kind := BaseKind.str, s := [] } ep st := by
  simp [callTB]

/-! ### whatever makes the system calls fail (ENAMETOOLONG, EACCES, ...): the check fails closed -/

/-- `rp`, `rb`: the two answers of `os.path.realpath`, each resolved by the kernel to the location it spells (`h1`, `h2`) -/
theorem safe_of_samestat (fs : FS) (kfuel : Nat) (cwd : Loc) (hs : LinkCountSound fs) (base rp rb : Str)
    (i : Nat) (l : Loc) (hn : fs.nlink i ≤ 1) (hg : fs.get l = some (Node.file i))
    (hsid : statId fs kfuel cwd rp = some (StatId.ino i))
    (c : StatId) (hcb : statId fs kfuel cwd base = some c) (hcbr : statId fs kfuel cwd rb = some c)
    (hcont : contained rb rp = true)
    (h1 : ∀ l', kresolve fs kfuel cwd rp true = some l' → l' = comps rp ∧ Chain fs l')
    (h2 : ∀ l', kresolve fs kfuel cwd rb true = some l' → l' = comps rb ∧ Chain fs l') :
    Chain fs l ∧ l = comps rp ∧
      (∀ bl, kresolve fs kfuel cwd base true = some bl → fs.get bl = some Node.dir → bl <+: l ∧ Chain fs bl) := by
  obtain ⟨lr, hkr, hgr⟩ := statId_ino fs kfuel cwd _ i hsid
  obtain ⟨hlr, hchain⟩ := h1 lr hkr
  have hll : lr = l := by
    apply Classical.byContradiction
    intro hne
    have := hs lr l i hne hgr hg
    omega
  subst hll
  refine ⟨hchain, hlr, ?_⟩
  intro bl hkb hdir
  rw [statId_of_dir fs kfuel cwd base bl hkb hdir] at hcb
  cases hcb
  obtain ⟨hbl, hbchain⟩ := h2 bl (statId_dir fs kfuel cwd _ bl hcbr).1
  refine ⟨?_, hbchain⟩
  rw [hlr, hbl]
  exact contained_comps _ _ hcont

theorem blind_safe_of (fs : FS) (kfuel : Nat) (cwd : Loc) (sys : Sys) (hsys : SysOK fs kfuel cwd sys)
    (fuel : Nat) (cwdS : Str) (base loc : Str) (i : Nat) (reg : Bool) (hs : LinkCountSound fs)
    (hv : checkContainmentV sys fuel cwdS base loc = Verdict.pass) (hb : base ≠ [])
    (ho : sys.openF (tensorPath base loc) = some (i, reg))
    (key : ∀ x, x = tensorPath base loc ∨ x = base → noLinkOn sys.lstat (realpathV sys fuel cwdS x) = true →
      ∀ l', kresolve fs kfuel cwd (realpathV sys fuel cwdS x) true = some l' →
        l' = comps (realpathV sys fuel cwdS x) ∧ Chain fs l') :
    ∃ l, kresolve fs kfuel cwd (tensorPath base loc) true = some l ∧ fs.get l = some (Node.file i) ∧
      fs.nlink i ≤ 1 ∧ Chain fs l ∧
      l = comps (realpathV sys fuel cwdS (tensorPath base loc)) ∧
      (∀ bl, kresolve fs kfuel cwd base true = some bl → fs.get bl = some Node.dir →
        bl <+: l ∧ Chain fs bl) := by
  obtain ⟨l, hk, hkind, hsf⟩ := hsys.open_file _ i reg ho
  obtain ⟨hreg, hn, ⟨a, ha, hb2⟩, ⟨c, hc, hd⟩, _, _, n1, n2, hcont⟩ :=
    checkContainmentV_pass sys fuel cwdS base loc _ reg hv hb hsf
  have hg := file_of_regular hkind hreg
  have hai : some a = some (StatId.ino i) := by
    rw [← hsys.statId_r _ _ ha, statId_of_file fs kfuel cwd _ l i hk hg]
  cases hai
  obtain ⟨h1, h2, h3⟩ := safe_of_samestat fs kfuel cwd hs base _ _ i l hn hg (hsys.statId_r _ _ hb2) c
    (hsys.statId_r _ _ hc) (hsys.statId_r _ _ hd) hcont (key _ (Or.inl rfl) n1) (key _ (Or.inr rfl) n2)
  exact ⟨l, hk, hg, hn, h1, h2, h3⟩

/-- **C10_blind_safe**: the containment check (with the cross-checks of D451 - D454) fails closed WHATEVER makes
the process's system calls fail.  `sys` is any restriction of the kernel's `os.lstat` / `os.stat` / `open`
on the tree (`SysOK`: a call may fail where the kernel would resolve the path - ENAMETOOLONG, EACCES on an
unsearchable directory, any other errno - but what it returns is what the kernel returns; an `open` that
succeeds implies that `os.stat` of the same string does).  `os.path.realpath` runs over these calls and
takes every entry it cannot examine for a non-link (and a loop it believes to see makes it return its
input).  When the check passes and the open that follows reaches the inode `i`, then with sound link
counts and an absolute `os.getcwd()`: `i` is a regular file with at most one link, its location `l` is
the one the kernel resolves `join(base, loc)` to and is spelled by the resolved path, `l` is reached
through real directories only, and `l` lies component-wise below the directory the kernel resolves the
base directory to.  Why: the prefix walk of check 3 succeeded with an `os.lstat` that is a restriction of
the kernel's (`noLinkOn_abspath_sound`), so the answers - absolute normal forms - are resolved by the
kernel to exactly the locations they spell; samestat and the link count tie those to what `open(path)` and
`stat(base_dir)` reach.  `C10_pathmax_safe_full` is the instance `sysP` (PATH_MAX only), `C10_eacces_safe`
the instance `sysA` (PATH_MAX and search permissions).  The conclusion is NOT the predicate `SafeOpen` of
`C10_read_safe`: there is no `RealDir cwd` and no `kfuel ≤ fuel` here, so nothing is said about `realpath base` and
the base clause holds for a base that resolves to a directory; in exchange `l` is what the answer spells. -/
theorem C10_blind_safe (fs : FS) (kfuel : Nat) (cwd : Loc) (sys : Sys) (hsys : SysOK fs kfuel cwd sys)
    (fuel : Nat) (cwdS : Str) (base loc : Str) (i : Nat) (reg : Bool)
    (hs : LinkCountSound fs) (hcwd : isabs cwdS = true)
    (hv : checkContainmentV sys fuel cwdS base loc = Verdict.pass) (hb : base ≠ [])
    (ho : sys.openF (tensorPath base loc) = some (i, reg)) :
    ∃ l, kresolve fs kfuel cwd (tensorPath base loc) true = some l ∧ fs.get l = some (Node.file i) ∧
      fs.nlink i ≤ 1 ∧ Chain fs l ∧
      l = comps (realpathV sys fuel cwdS (tensorPath base loc)) ∧
      (∀ bl, kresolve fs kfuel cwd base true = some bl → fs.get bl = some Node.dir →
        bl <+: l ∧ Chain fs bl) := by
  refine blind_safe_of fs kfuel cwd sys hsys fuel cwdS base loc i reg hs hv hb ho fun x _ hx l' hl' => ?_
  obtain ⟨hrl, hkx⟩ := noLinkOn_abspath_sound fs kfuel cwd _ hsys.lstat_r cwdS hcwd _ hx
  rw [show realpathV sys fuel cwdS x = abspath cwdS _ from rfl, hkx] at hl'
  cases hl'
  exact ⟨rfl, hrl.1⟩

/-- **C10_eacces_safe**: `C10_blind_safe` for an unprivileged process on a tree with unsearchable
directories (model `sysA`: PATH_MAX, and EACCES wherever a component is looked up in a directory the
current uid may not search - `chmod 000` / `0o600` directories on the way make `os.path.realpath` blind
exactly as ENAMETOOLONG does).  For every assignment `search` of search permissions to directories: when
the check passes and the open reaches the inode `i`, the open is safe.  The model `readV (sysA ..)` is
compared with the real code run by a process without privileges (harness family eacces). -/
theorem C10_eacces_safe (fs : FS) (search : Loc → Bool) (kfuel fuel : Nat) (cwdS : Str) (cwd : Loc)
    (base loc : Str) (i : Nat) (reg : Bool) (hs : LinkCountSound fs) (hcwd : isabs cwdS = true)
    (hv : checkContainmentV (sysA fs search kfuel cwd) fuel cwdS base loc = Verdict.pass) (hb : base ≠ [])
    (ho : (sysA fs search kfuel cwd).openF (tensorPath base loc) = some (i, reg)) :
    ∃ l, kresolve fs kfuel cwd (tensorPath base loc) true = some l ∧ fs.get l = some (Node.file i) ∧
      fs.nlink i ≤ 1 ∧ Chain fs l ∧
      l = comps (realpathV (sysA fs search kfuel cwd) fuel cwdS (tensorPath base loc)) ∧
      (∀ bl, kresolve fs kfuel cwd base true = some bl → fs.get bl = some Node.dir →
        bl <+: l ∧ Chain fs bl) :=
  C10_blind_safe fs kfuel cwd _ (sysA_ok fs search kfuel cwd) fuel cwdS base loc i reg hs hcwd hv hb ho

/-! ### PATH_MAX at every path operation of the check (model `checkContainmentP` = the instance `sysP`) -/

/-- **C10_pathmax_verified_partial**: the containment check with PATH_MAX at EVERY `os.lstat` / `os.stat`
(where `os.path.realpath` silently takes an entry it cannot lstat for a non-link, D451):
when it passes and the open that follows reaches the inode `i`, then `i` is a regular file with at most
one link; the strings `os.path.realpath` returned for the path and for the base directory are shorter
than PATH_MAX and the kernel resolves them; the resolved path names the very inode `i` and the resolved
base directory names the very object the base directory does (the `samestat` cross-check); both answers
are fixed points of `realpath` (D453); and the resolved path is, as a string, inside the resolved base
directory.
PARTIAL: these facts alone do not make the open safe: an answer that is a fixed point of this `realpath`,
shorter than PATH_MAX and resolved by the kernel may still contain a symbolic link (D454); the prefix walk
of the check rules that out (`C10_pathmax_safe_full`).  The P model is compared with the real code on every run
(family pathmax). -/
theorem C10_pathmax_verified_partial (fs : FS) (kfuel fuel : Nat) (cwdS : Str) (cwd : Loc) (base loc : Str)
    (i : Nat) (reg : Bool)
    (hv : checkContainmentP fs kfuel fuel cwdS cwd base loc = Verdict.pass) (hb : base ≠ [])
    (ho : openFile fs kfuel cwd (tensorPath base loc) = some (i, reg)) :
    reg = true ∧ fs.nlink i ≤ 1 ∧
    (realpathP fs kfuel fuel cwdS cwd (tensorPath base loc)).length < PATH_MAX ∧
    (realpathP fs kfuel fuel cwdS cwd base).length < PATH_MAX ∧
    statId fs kfuel cwd (realpathP fs kfuel fuel cwdS cwd (tensorPath base loc)) = some (StatId.ino i) ∧
    (∃ c, statId fs kfuel cwd base = some c ∧
      statId fs kfuel cwd (realpathP fs kfuel fuel cwdS cwd base) = some c) ∧
    realpathP fs kfuel fuel cwdS cwd (realpathP fs kfuel fuel cwdS cwd (tensorPath base loc)) =
      realpathP fs kfuel fuel cwdS cwd (tensorPath base loc) ∧
    realpathP fs kfuel fuel cwdS cwd (realpathP fs kfuel fuel cwdS cwd base) =
      realpathP fs kfuel fuel cwdS cwd base ∧
    contained (realpathP fs kfuel fuel cwdS cwd base)
      (realpathP fs kfuel fuel cwdS cwd (tensorPath base loc)) = true := by
  obtain ⟨l, hk, hkind, hsf⟩ := (sysP_ok fs kfuel cwd).open_file _ i reg ho
  rw [checkContainmentP_eq_V] at hv
  simp only [realpathP_eq_V]
  obtain ⟨hreg, hn, ⟨a, ha, hb2⟩, ⟨c, hc, hd⟩, hfp, hfb, _, _, hcont⟩ :=
    checkContainmentV_pass (sysP fs kfuel cwd) fuel cwdS base loc _ reg hv hb hsf
  have hg := file_of_regular hkind hreg
  have hai : some a = some (StatId.ino i) := by
    rw [← (statIdP_some fs kfuel cwd _ a ha).2, statId_of_file fs kfuel cwd _ l i hk hg]
  cases hai
  exact ⟨hreg, hn, (statIdP_some fs kfuel cwd _ _ hb2).1, (statIdP_some fs kfuel cwd _ _ hd).1,
    (statIdP_some fs kfuel cwd _ _ hb2).2,
    ⟨c, (statIdP_some fs kfuel cwd _ _ hc).2, (statIdP_some fs kfuel cwd _ _ hd).2⟩, hfp, hfb, hcont⟩

/-- **C10_pathmax_safe_full**: the check (with the cross-checks of D451 - D454) in the model with
PATH_MAX at every `os.lstat` / `os.stat` (an entry `os.path.realpath` cannot lstat is taken for a
non-link, and a loop it believes to see makes it return its input unresolved).  When the check passes
and the open that follows reaches the inode `i`, then with sound link counts and an absolute
`os.getcwd()`: `i` is a regular file with at most one link; its location `l` is the one the kernel
resolves `join(base, loc)` to and is spelled by the resolved path; `l` is reached through real
directories only; and `l` lies component-wise below the directory the kernel resolves the base
directory to, which is reached through real directories only as well.  This is `C10_blind_safe` for the
system calls `sysP`; `C10_pathmax_safe` has the same conclusion under the extra hypothesis `linkFreeAnswer` the
driver evaluates.  No assumption on lengths, on the recursion bound, or on what the working directory names. -/
theorem C10_pathmax_safe_full (fs : FS) (kfuel fuel : Nat) (cwdS : Str) (cwd : Loc) (base loc : Str)
    (i : Nat) (reg : Bool) (hs : LinkCountSound fs) (hcwd : isabs cwdS = true)
    (hv : checkContainmentP fs kfuel fuel cwdS cwd base loc = Verdict.pass) (hb : base ≠ [])
    (ho : openFile fs kfuel cwd (tensorPath base loc) = some (i, reg)) :
    ∃ l, kresolve fs kfuel cwd (tensorPath base loc) true = some l ∧ fs.get l = some (Node.file i) ∧
      fs.nlink i ≤ 1 ∧ Chain fs l ∧
      l = comps (realpathP fs kfuel fuel cwdS cwd (tensorPath base loc)) ∧
      (∀ bl, kresolve fs kfuel cwd base true = some bl → fs.get bl = some Node.dir →
        bl <+: l ∧ Chain fs bl) := by
  rw [checkContainmentP_eq_V] at hv
  rw [realpathP_eq_V]
  exact C10_blind_safe fs kfuel cwd _ (sysP_ok fs kfuel cwd) fuel cwdS base loc i reg hs hcwd hv hb ho

/-! ### from the cross-check to a safe open, under the hypothesis that the two answers are link-free -/


/-- **C10_pathmax_safe**: the check with PATH_MAX at every path operation (model
`checkContainmentP`: an entry `os.path.realpath` cannot lstat is a non-link).  When the check passes
and the open that follows reaches the inode `i`, and the two answers of `os.path.realpath` (for the
path and for the base directory) are link-free (`linkFreeAnswer`: canonical absolute strings of entry
names none of whose prefixes is a symbolic link in the tree - decidable, evaluated on every generated
case and published as pathmax_linkfree=*; it does not follow from the fixed-point condition of D453,
see `C10_pathmax_safe_full` for the statement without it), then with sound link counts: `i` is a regular file with at
most one link, its location `l` is the one the kernel resolves `join(base, loc)` to and is spelled by
the resolved path; `l` is reached through real directories only; and `l` lies component-wise below the
directory the kernel resolves the base directory to.  No assumption on the working directory, on
lengths or on the recursion bound. -/
theorem C10_pathmax_safe (fs : FS) (kfuel fuel : Nat) (cwdS : Str) (cwd : Loc) (base loc : Str)
    (i : Nat) (reg : Bool) (hs : LinkCountSound fs)
    (hv : checkContainmentP fs kfuel fuel cwdS cwd base loc = Verdict.pass) (hb : base ≠ [])
    (ho : openFile fs kfuel cwd (tensorPath base loc) = some (i, reg))
    (hlp : linkFreeAnswer fs (realpathP fs kfuel fuel cwdS cwd (tensorPath base loc)) = true)
    (hlb : linkFreeAnswer fs (realpathP fs kfuel fuel cwdS cwd base) = true) :
    ∃ l, kresolve fs kfuel cwd (tensorPath base loc) true = some l ∧ fs.get l = some (Node.file i) ∧
      fs.nlink i ≤ 1 ∧ Chain fs l ∧
      l = comps (realpathP fs kfuel fuel cwdS cwd (tensorPath base loc)) ∧
      (∀ bl, kresolve fs kfuel cwd base true = some bl → fs.get bl = some Node.dir →
        bl <+: l ∧ Chain fs bl) := by
  rw [checkContainmentP_eq_V] at hv
  rw [realpathP_eq_V] at hlp hlb ⊢
  refine blind_safe_of fs kfuel cwd _ (sysP_ok fs kfuel cwd) fuel cwdS base loc i reg hs hv hb ho fun x hor hx l' hl' => ?_
  exact noLinkOn_linkfree_sound fs kfuel cwd _ (sysP_ok fs kfuel cwd).lstat_r _ (by rcases hor with rfl | rfl <;> assumption)
    hx l' hl'

/-! ### non-vacuity of the fail-closed theorems: on exFS the check passes and the file is opened -/

/-- on exFS (cwd "/", base "/b", location "f") the check over the PATH_MAX system calls passes and the
open reaches inode 1: hypotheses `hv`, `ho` of `C10_blind_safe` / `C10_pathmax_safe_full` hold together -/
theorem exV_pass :
    checkContainmentV (sysP exFS 40 []) 40 (render []) "/b".toList "f".toList = Verdict.pass ∧
    (sysP exFS 40 []).openF (tensorPath "/b".toList "f".toList) = some (1, true) := by
  have hp : tensorPath "/b".toList "f".toList = render [['b'], ['f']] := by decide
  have hbs : "/b".toList = render [['b']] := by decide
  have l1 : (sysP exFS 40 []).lstat (render [['b']]) = some Node.dir := by
    rw [sysP_lstat, lstatP_short exFS 40 [] (by decide)]
    have := lstat_render_snoc exFS 40 [] [] ['b'] (RealDir.root exFS) ⟨by decide, by decide, by decide, by decide⟩
    simp only [List.nil_append] at this
    rw [this]; decide
  have l2 : (sysP exFS 40 []).lstat (render [['b'], ['f']]) = some (Node.file 1) := by
    rw [sysP_lstat, lstatP_short exFS 40 [] (by decide)]
    have := lstat_render_snoc exFS 40 [] [['b']] ['f'] exFS_b ⟨by decide, by decide, by decide, by decide⟩
    simp only [List.cons_append, List.nil_append] at this
    rw [this]; decide
  have r1 : realpathV (sysP exFS 40 []) 40 (render []) (render [['b'], ['f']]) = render [['b'], ['f']] := by
    refine realpathV_render _ 40 _ exFS_bf.1 ?_
    intro k hk t
    have : k = 0 ∨ k = 1 := by simp at hk; omega
    rcases this with rfl | rfl
    · simp only [Nat.zero_add, List.take_succ_cons, List.take_zero]; rw [l1]; simp
    · simp only [List.take_succ_cons, List.take_zero]; rw [l2]; simp
  have r2 : realpathV (sysP exFS 40 []) 40 (render []) (render [['b']]) = render [['b']] := by
    refine realpathV_render _ 40 _ exFS_b.1.1 ?_
    intro k hk t
    have : k = 0 := by simp at hk; omega
    subst this
    simp only [Nat.zero_add, List.take_succ_cons, List.take_zero]; rw [l1]; simp
  have n1 : noLinkOn (sysP exFS 40 []).lstat (render [['b'], ['f']]) = true :=
    noLinkOn_complete' exFS 40 [] _ _ ⟨exFS_bf, Node.file 1, by decide, Node.file_ne_link 1⟩
      (by
        intro j hj
        have hle : (render (List.take j [['b'], ['f']])).length < PATH_MAX := by
          have : j = 0 ∨ j = 1 ∨ j = 2 := by simp at hj; omega
          rcases this with rfl | rfl | rfl <;> decide
        rw [sysP_lstat, lstatP_short exFS 40 [] hle])
  have n2 : noLinkOn (sysP exFS 40 []).lstat (render [['b']]) = true :=
    noLinkOn_complete' exFS 40 [] _ _ ⟨exFS_b.1, Node.dir, by decide, Node.dir_ne_link⟩
      (by
        intro j hj
        have hle : (render (List.take j [['b']])).length < PATH_MAX := by
          have : j = 0 ∨ j = 1 := by simp at hj; omega
          rcases this with rfl | rfl <;> decide
        rw [sysP_lstat, lstatP_short exFS 40 [] hle])
  have e1 : kresolve exFS 40 [] (render [['b'], ['f']]) true = some [['b'], ['f']] := exFS_kbf
  have e2 : kresolve exFS 40 [] (render [['b']]) true = some [['b']] := exFS_kb
  have s1 : (sysP exFS 40 []).statFile (render [['b'], ['f']]) = some (1, true) := by
    simp only [sysP, statFileP, statFile]
    rw [if_neg (by decide), e1]; decide
  have i1 : (sysP exFS 40 []).statId (render [['b'], ['f']]) = some (StatId.ino 1) := by
    simp only [sysP, statIdP, statId]
    rw [if_neg (by decide), e1]; decide
  have i2 : (sysP exFS 40 []).statId (render [['b']]) = some (StatId.dir [['b']]) := by
    simp only [sysP, statIdP, statId]
    rw [if_neg (by decide), e2]; decide
  refine ⟨?_, ?_⟩
  · unfold checkContainmentV
    rw [hp, hbs, r1, r2, r1, r2, s1, i1, i2, n1, n2]
    have c1 : check1 (render []) (render [['b']]) "f".toList = true := by decide
    have cn : contained (render [['b']]) (render [['b'], ['f']]) = true := by decide
    have hn : (hasNul (render [['b']]) || hasNul "f".toList) = false := by decide
    rw [if_neg (by decide), if_neg (by rw [c1]; simp), if_neg (by rw [hn]; simp), if_neg (by rw [cn]; simp)]
    decide
  · rw [hp]
    simp only [sysP, openFile]
    rw [if_neg (by decide), e1]; decide

/-- the hypotheses of `C10_blind_safe`, `C10_pathmax_safe_full` on the check and the open hold together on exFS (an
absolute working directory, a passing check, a successful open, system calls that restrict the kernel's) -/
example : isabs (render []) = true ∧
    checkContainmentP exFS 40 40 (render []) [] "/b".toList "f".toList = Verdict.pass ∧
    openFile exFS 40 [] (tensorPath "/b".toList "f".toList) = some (1, true) ∧
    SysOK exFS 40 [] (sysP exFS 40 []) ∧ "/b".toList ≠ [] := by
  refine ⟨by decide, ?_, exV_pass.2, sysP_ok exFS 40 [], by decide⟩
  rw [checkContainmentP_eq_V]; exact exV_pass.1

/-- `C10_eacces_safe` is not vacuous in its permission argument: with the base directory unsearchable the open of
the tensor's path fails (EACCES) -/
example : (sysA exFS (fun l => l != [['b']]) 40 []).openF "/b/f".toList = none := by
  simp only [sysA, kresolveA]
  have e : splitSep "/b/f".toList = [[], ['b'], ['f']] := by decide
  have e3 : startLoc [] "/b/f".toList = [] := by decide
  rw [if_neg (by decide), e, e3]
  rw [walkA]; simp only [exFS.get_root, if_true]
  rw [walkA]
  have hb : exFS.get [] = some Node.dir := exFS.get_root
  have h1 : (['b'] : Str) ≠ [] := by decide
  have h2 : (['b'] : Str) ≠ DOT := by decide
  have h3 : (['b'] : Str) ≠ DOTDOT := by decide
  have hg : exFS.get ([] ++ [['b']]) = some Node.dir := exFS_b.2
  simp only [hb, h1, h2, h3, if_false, hg]
  have hs : ((fun l : Loc => l != [['b']]) [] = false) = False := by decide
  simp only [hs, if_false]
  rw [walkA]
  simp only [hg]
  have h1' : (['f'] : Str) ≠ [] := by decide
  simp only [h1', if_false]
  have hs2 : ((fun l : Loc => l != [['b']]) ([] ++ [['b']]) = false) = True := by decide
  simp only [hs2, if_true]

/-- `C10_world_chdir_safe` is not vacuous: a history with an `os.chdir` whose log has an entry that
returns bytes -/
example : ∃ pre c e post,
    runWorldC 40 40 (fun _ => { loc := "f".toList, offset := 0, length := 3, zero := false }) "/nowhere".toList
      { fs := exFS, ts := fun _ => { base := { kind := BaseKind.str, s := [] }, st := TState.fresh },
        aborted := false }
      [COp.op (WOp.setBaseDir [0] { kind := BaseKind.pathlike, s := "/b".toList }), COp.chdir (render []),
       COp.op (WOp.loadToModel [0])] = pre ++ (c, e) :: post ∧
    e.res = ReadResult.ok [10, 20, 30] := by
  refine ⟨[], _, _, _, rfl, ?_⟩
  have := ex_read EntryPoint.serializeRaw
  unfold read at this
  have hc : comps (render []) = [] := by decide
  simpa [callT, stepWorld, World.set, TSess.rebase, TState.fresh, hc] using this

end IrVerif.Path
