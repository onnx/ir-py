/-
C03 — IR -> proto -> IR preserves the model; serialization has no side effects (model `IrVerif.Scope`).

In order: graphs (`Model/Scope.lean`), functions (`ScopeFunc`), decorations (`ScopeMeta`), the
extended model (`ScopeExt`, `ScopeCert`), the write sites of serde.py (`ScopeEff`), node attributes (`ScopeAttr`), examples.
`C03Ext9` and `ScopeSerdeBridgeModel9` are imported only so that `import IrVerif.Props.C03` reaches them.
-/
import IrVerif.Lemmas.ScopeIdem
import IrVerif.Lemmas.ScopeSerRepl
import IrVerif.Lemmas.ScopeReplDeser
import IrVerif.Lemmas.ScopeModel
import IrVerif.Props.C17
import IrVerif.Model.ScopeExt
import IrVerif.Lemmas.ScopeEff
import IrVerif.Lemmas.ScopeExtTop
import IrVerif.Lemmas.ScopeExtSerOk
import IrVerif.Lemmas.ScopeExtDevCert
import IrVerif.Lemmas.ScopeCert
import IrVerif.Lemmas.ScopeExtModelTop
import IrVerif.Props.C03Ext9
import IrVerif.Lemmas.ScopeSerdeBridgeModel9
namespace IrVerif.Scope

/-- **C03_twice**: serializing the model left by a serialization returns the same proto and changes
    nothing any more (the tensor names are already aligned). -/
theorem C03_twice (w w1 : World) (p : GraphP) (h : serialize w = .ok (w1, p)) :
    serialize w1 = .ok (w1, p) := by
  unfold serialize at h ⊢
  split at h
  · simp at h
  · rename_i p' ws hs
    simp only [Except.ok.injEq, Prod.mk.injEq] at h
    obtain ⟨rfl, rfl⟩ := h
    have e1 : (w.st.writes ws).vals = w.st.vals := rfl
    simp only [e1, tdata_writes, hs, writes_idem]

/-- **C03_pure**: serialization leaves the whole IR model as it was — same graph tree, same value
    cells (names, infos, constants, producers, uses, ownership), same counters, same tensor payloads —
    except that a tensor's own name may have been overwritten, and then only with the name of an
    initializer value (of some graph of the model) whose `const_value` is that tensor.
    WHAT THIS THEOREM DOES AND DOES NOT SAY.  The model's serializer is a pure function of the stores that
    returns the proto and a LOG of effects, and the only kind of effect the model has is the tensor-name
    write of `serialize_graph_into` (`value.const_value.name = value.name`); `serialize` replays the log.
    The first six conjuncts (tree, value cells, counters unchanged) therefore hold by construction of the
    model — they restate that the model has no other effect and are not evidence about the real code.  The
    content of the theorem is in the last two conjuncts: along every path of `serGraph` (nested graphs
    included) the logged writes touch tensor names only, leave payload / dtype / shape alone, and every
    write is justified by an initializer whose tensor it renames.  That the REAL `to_proto` performs no
    other mutation (no renamed node, no changed value, no allocated object) rests entirely on the
    deep-snapshot oracle of `harness/c03.py` (before / after comparison of every value, node, graph,
    tensor and metadata field on every generated case). -/
theorem C03_pure (w w1 : World) (p : GraphP) (h : serialize w = .ok (w1, p)) :
    w1.root = w.root ∧ w1.st.vals = w.st.vals ∧ w1.st.nv = w.st.nv ∧ w1.st.nt = w.st.nt ∧
    w1.st.nn = w.st.nn ∧ w1.st.ng = w.st.ng ∧
    (∀ t, (w1.st.tens t).data = (w.st.tens t).data ∧ (w1.st.tens t).ty = (w.st.tens t).ty ∧
      (w1.st.tens t).sh = (w.st.tens t).sh) ∧
    (∀ t, (w1.st.tens t).name = (w.st.tens t).name ∨
      ∃ kv ∈ allInitsG w.root, (w.st.vals kv.2).const = some t ∧
        (w1.st.tens t).name = (w.st.vals kv.2).name) := by
  unfold serialize at h
  split at h
  · simp at h
  · rename_i p' ws hs
    simp only [Except.ok.injEq, Prod.mk.injEq] at h
    obtain ⟨rfl, rfl⟩ := h
    refine ⟨rfl, rfl, rfl, rfl, rfl, rfl, fun t => applyWrites_data ws w.st.tens t, fun t => ?_⟩
    rcases applyWrites_name ws w.st.tens t with ⟨h, _⟩ | ⟨n, hn, h⟩
    · exact .inl h
    · right
      obtain ⟨kv, hkv, hc, hname⟩ := serGraph_writes _ _ _ _ _ hs (t, n) hn
      exact ⟨kv, hkv, hc, by simp [Store.writes, h, hname]⟩

/-- **C03_roundtrip**: a serializable IR model can be serialized, the proto can be deserialized, and
    the result is the same model up to a renaming `σ` of the value objects: same graph tree (node
    order, inputs with optional `None` slots, outputs up to trailing empty-named ones, nested graphs,
    initializer keys, graph inputs and outputs), `σ` injective on the defined values (a value used
    in several places, in a nested graph or captured from an outer scope stays one value; distinct
    values stay distinct), every value keeps its name — whatever the order of the nodes (the model
    need not be topologically sorted).  The result is moreover consistent (`C17_consistent`). -/
theorem C03_roundtrip (w : World) (h : Serializable w) :
    ∃ (w1 : World) (p : GraphP) (D : World) (σ : Nat → Nat),
      serialize w = .ok (w1, p) ∧ deserialize p = .ok D ∧ Iso w D σ ∧ Consistent D := by
  obtain ⟨p, ws, D, σ, hp, hdes, hiso⟩ := roundtrip_core w h
  exact ⟨⟨w.st.writes ws, w.root⟩, p, D, σ, by simp only [serialize, hp], hdes, hiso, C17_consistent p _ hdes⟩

/-- the round trip relation for reloadable models: `D` is `w` up to the renaming `σ` of the values the
    model introduces (`(replG …).new`: graph inputs, initializers, named and live empty-named node outputs,
    placeholders, unproduced graph outputs, of every nested graph): same tree, `σ` injective, names kept;
    the values the proto carries information for (`emitG`: inputs, initializers, named node outputs, graph
    outputs) keep their serializable type / shape / documentation, initializers their tensor payload. -/
structure IsoR (w D : World) (σ : Nat → Nat) : Prop where
  tree : TreeIsoG w.st.vals σ w.root D.root
  inj : ∀ a ∈ (replG w.st.vals [] w.root).new, ∀ b ∈ (replG w.st.vals [] w.root).new, σ a = σ b → a = b
  names : ∀ v ∈ (replG w.st.vals [] w.root).new, (D.st.vals (σ v)).name = (w.st.vals v).name
  infos : ∀ v ∈ emitG w.st.vals w.root, (D.st.vals (σ v)).info = (w.st.vals v).info.emit
  consts : ∀ kv ∈ allInitsG w.root, ∀ t, (w.st.vals kv.2).const = some t →
    ∃ t', (D.st.vals (σ kv.2)).const = some t' ∧ (D.st.tens t').name = some kv.1 ∧ D.st.tdata t' = w.st.tdata t

theorem IsoR.of_rt {w D : World} {B : Assoc} (hrs : RS w.st.vals D.st B)
    (hk : B.map (·.1) = (replG w.st.vals [] w.root).new) (ht : TreeRelG w.st.vals B w.root D.root)
    (hio : InfoOK2 w.st.vals D.st B (emitG w.st.vals w.root))
    (hco : ConstOK2 w.st.vals w.st.tdata D.st B (allInitsG w.root)) : IsoR w D (sig B) :=
  ⟨TreeRelG.iso _ B _ _ ht,
    fun a ha b hb he => hrs.sig_inj (hk ▸ ha) (hk ▸ hb) he,
    fun v hv => hrs.sig_name (hk ▸ hv),
    fun v hv => (hio v hv).2, hco.payload⟩

/-- **C03_roundtrip_reloadable**: the round trip for every `Reloadable` model — the hypothesis is the
    certificate `replG` (every reference resolves, innermost scope first, to the value it refers to, or
    refers to a value introduced at that point; every value is introduced once).  It accepts what
    `Serializable` excludes: names shadowed in nested scopes, duplicate graph-input names, values that are
    used but defined nowhere (they come back as placeholder values), graph outputs nothing produces.
    Every model the deserializer returns is `Reloadable` (`deserialize_reloadable`). -/
theorem C03_roundtrip_reloadable (w : World) (h : Reloadable w) :
    ∃ (w1 : World) (p : GraphP) (D : World) (σ : Nat → Nat),
      serialize w = .ok (w1, p) ∧ deserialize p = .ok D ∧ IsoR w D σ ∧ Consistent D := by
  obtain ⟨p, ws, D, B, hp, hD, hrs, hk, ht, hio, hco⟩ := reloadable_roundtrip w h
  refine ⟨⟨w.st.writes ws, w.root⟩, p, D, sig B, by simp only [serialize, hp], hD, ?_, C17_consistent p _ hD⟩
  exact IsoR.of_rt hrs hk ht hio hco

/-- the round trip relation for models with functions: main graph and functions (same identifiers, same
    order) are the same trees up to `σ`; `σ` is injective on, and keeps the names of, every value the
    model introduces; the values the proto carries information for (`emitM`: for a function its named
    inputs and named node outputs) keep their serializable type / shape / documentation; initializers (of
    graphs nested anywhere) keep their tensor payload. -/
structure IsoM (w D : MWorld) (σ : Nat → Nat) : Prop where
  tree : TreeIsoG w.st.vals σ w.root D.root
  funcs : TreeIsoFs w.st.vals σ w.funcs D.funcs
  inj : ∀ a ∈ domM w, ∀ b ∈ domM w, σ a = σ b → a = b
  names : ∀ v ∈ domM w, (D.st.vals (σ v)).name = (w.st.vals v).name
  infos : ∀ v ∈ emitM w, (D.st.vals (σ v)).info = (w.st.vals v).info.emit
  consts : ∀ kv ∈ allInitsM w, ∀ t, (w.st.vals kv.2).const = some t →
    ∃ t', (D.st.vals (σ kv.2)).const = some t' ∧ (D.st.tens t').name = some kv.1 ∧ D.st.tdata t' = w.st.tdata t

theorem IsoM.of_rt {w D : MWorld} {B : Assoc} (hrs : RS w.st.vals D.st B) (hk : B.map (·.1) = domM w)
    (ht : TreeRelG w.st.vals B w.root D.root) (htf : TreeRelFs w.st.vals B w.funcs D.funcs)
    (hio : InfoOK2 w.st.vals D.st B (emitM w)) (hco : ConstOK2 w.st.vals w.st.tdata D.st B (allInitsM w)) :
    IsoM w D (sig B) :=
  ⟨TreeRelG.iso _ B _ _ ht, TreeRelFs.iso _ B _ _ htf,
    fun a ha b hb he => hrs.sig_inj (hk ▸ ha) (hk ▸ hb) he,
    fun v hv => hrs.sig_name (hk ▸ hv),
    fun v hv => (hio v hv).2, hco.payload⟩

/-- **C03_roundtrip_model**: the round trip for models WITH FUNCTIONS (`MWorld`: main graph + functions keyed
    by (domain, name, overload); `serializeM` / `deserializeM` model `serialize_model` / `deserialize_model`
    for IR version >= 10, where a function's value_info lives in the FunctionProto).  Hypothesis
    `ReloadableM`: main graph and every function satisfy their resolution certificate (`replG` / `replF`:
    a function is a graph without initializers, without enclosing scope, whose outputs are bound in its
    scope and whose equally named inputs carry the same information), every value is introduced once in the
    whole model, function identifiers are distinct. -/
theorem C03_roundtrip_model (w : MWorld) (h : ReloadableM w) :
    ∃ (w1 : MWorld) (P : ModelP) (D : MWorld) (σ : Nat → Nat),
      serializeM w = .ok (w1, P) ∧ deserializeM P = .ok D ∧ IsoM w D σ := by
  obtain ⟨w1, P, D, B, hP, hD, hrs, hk, ht, htf, hio, hco⟩ := reloadableM_roundtrip w h
  exact ⟨w1, P, D, sig B, hP, hD, .of_rt hrs hk ht htf hio hco⟩

/-! ### the decoration layer (`Model/ScopeMeta.lean`) -/

/-- **C03_meta_roundtrip**: IR -> proto -> IR on the decorations (metadata_props of model / graph / node /
    function, opset imports, doc strings and the other `_get_field` fields, model and node device
    configurations, function attributes).  Hypothesis `wfModelDB W`: the dicts of the IR side have distinct
    keys (a representation invariant: they are Python dicts; decidable, evaluated by the driver on every
    generated model).  If serialization does not raise (it raises for a node device configuration without
    configuration / a sharding spec without value at IR version >= 11), deserializing the proto gives
    `canonModelD W` — explicitly: every metadata dict sorted by key (equal as a finite map), opset imports
    and their order kept, a falsy doc string / name / producer field absent, model and node device
    configurations kept from IR version 11 and dropped below, function attributes with a value first and the
    valueless ones reduced to their name, functions under the same identifiers in the same order — and that
    model serializes to the same proto. -/
theorem C03_meta_roundtrip (W : ModelDS) (Q : ModelDP) (hw : wfModelDB W = true) (h : serModelD W = .ok Q) :
    deserModelD Q = canonModelD W ∧ serModelD (deserModelD Q) = .ok Q :=
  rtModelD W Q hw h

/-- **C03_roundtrip_decorated**: `C03_roundtrip_model` and `C03_meta_roundtrip` together, for a decorated IR
    model: serialization raises in the decorations, or the reloaded model is isomorphic to the original
    in its core (`IsoM`) and carries the canonical form of its decorations. -/
theorem C03_roundtrip_decorated (w : XWorld) (h : ReloadableM w.core) (hw : wfModelDB w.deco = true) :
    (∃ e, serializeX w = .error (.deco e)) ∨
    ∃ (w1 : XWorld) (P : XModelP) (D : XWorld) (σ : Nat → Nat),
      serializeX w = .ok (w1, P) ∧ deserializeX P = .ok D ∧ IsoM w.core D.core σ ∧
      D.deco = canonModelD w.deco := by
  obtain ⟨m1, Pc, Dc, σ, h1, h2, h3⟩ := C03_roundtrip_model w.core h
  cases hq : serModelD w.deco with
  | error e => exact .inl ⟨e, by simp only [serializeX, h1, hq]⟩
  | ok Qd =>
    exact .inr ⟨⟨m1, w.deco⟩, ⟨Pc, Qd⟩, ⟨Dc, deserModelD Qd⟩, σ, by simp only [serializeX, h1, hq],
      by simp only [deserializeX, h2], h3, (C03_meta_roundtrip w.deco Qd hw hq).1⟩

/-- **C03_pure_decorated**: `C03_pure` for decorated models with functions.  The decorations and the trees
    are returned unchanged BY CONSTRUCTION of the model (`serModelD` is a function of the decorations that
    returns a proto; it has no effect to log) — as for the first conjuncts of `C03_pure`, this restates that
    the model has no such effect and is not evidence about the real code; that `to_proto` leaves metadata,
    opset imports, attributes and device configurations of the real objects alone rests on the deep-snapshot
    oracle.  The value store is unchanged, tensors keep payload / dtype / shape. -/
theorem C03_pure_decorated (w w1 : XWorld) (P : XModelP) (h : serializeX w = .ok (w1, P)) :
    w1.deco = w.deco ∧ w1.core.root = w.core.root ∧ w1.core.funcs = w.core.funcs ∧
    w1.core.st.vals = w.core.st.vals ∧
    (∀ t, (w1.core.st.tens t).data = (w.core.st.tens t).data ∧ (w1.core.st.tens t).ty = (w.core.st.tens t).ty ∧
      (w1.core.st.tens t).sh = (w.core.st.tens t).sh) := by
  simp only [serializeX] at h
  split at h
  · simp at h
  · rename_i m1 q hm
    split at h
    · simp at h
    · simp only [Except.ok.injEq, Prod.mk.injEq] at h
      obtain ⟨rfl, _⟩ := h
      simp only [serializeM] at hm
      split at hm
      · simp at hm
      · split at hm
        · simp at hm
        · rename_i ws1 _ _ ws2 _
          simp only [Except.ok.injEq, Prod.mk.injEq] at hm
          obtain ⟨rfl, _⟩ := hm
          exact ⟨rfl, rfl, rfl, rfl, fun t => applyWrites_data _ w.core.st.tens t⟩

/-- **C03_pure_ext**: `C03_pure` for the extended model (`Model/ScopeExt.lean`: merged value metadata,
    quantization annotations, resolved sharding values): the extension state, the tree and the value cells are
    returned unchanged BY CONSTRUCTION of the model (`serGraphE` is a function of them that returns the proto and
    the log of tensor-name writes); tensors keep payload / dtype / shape.  As for `C03_pure`, that the REAL
    `to_proto` does not touch `Value.metadata_props`, `Value.meta` or the device configurations rests on the
    deep-snapshot oracle of `harness/c03.py`. -/
theorem C03_pure_ext (ver : Option Int) (w w1 : WorldE) (p : GraphE) (h : serializeE ver w = .ok (w1, p)) :
    w1.ext = w.ext ∧ w1.root = w.root ∧ w1.st.vals = w.st.vals ∧
    (∀ t, (w1.st.tens t).data = (w.st.tens t).data ∧ (w1.st.tens t).ty = (w.st.tens t).ty ∧
      (w1.st.tens t).sh = (w.st.tens t).sh) := by
  simp only [serializeE] at h
  split at h
  · simp at h
  · rename_i q ws _
    simp only [Except.ok.injEq, Prod.mk.injEq] at h
    obtain ⟨rfl, _⟩ := h
    exact ⟨rfl, rfl, rfl, fun t => applyWrites_data ws w.st.tens t⟩

/-! ### round trip of the extended model (`Model/ScopeExt.lean`) -/

/-- the round trip relation for extended models: the core relation `IsoR`, and on the values the proto carries
    metadata / annotations for, the reloaded extension state is the source one in canonical form: merged
    `metadata_props` sorted by key (equal as a finite map), a quantization annotation sorted by key -/
structure IsoE (w D : WorldE) (σ : Nat → Nat) : Prop where
  core : IsoR w.core D.core σ
  vmeta : ∀ v ∈ emitG w.st.vals w.root, D.ext.vmeta (σ v) = ssSorted (w.ext.vmeta v)
  quant : ∀ v ∈ emitQG w.st.vals w.root, D.ext.quant (σ v) = (w.ext.quant v).map ssSorted

/-- **C03_roundtrip_ext_graph**: IR -> proto -> IR for the EXTENDED model of graphs (main
    graph with nested graphs): value-level `metadata_props`, quantization annotations, node device configurations.
    Hypothesis `ReloadableE w`: the resolution certificate of the core (`Reloadable`), the representation invariant
    of the extension state (`ExtWF`: dicts with distinct keys, no empty annotation) and the certificate `extG`
    (equally named inputs / initializers / node outputs / outputs of one graph carry the same annotation; a graph
    output that nothing of the graph binds, and a node output without a name, carry none) — every model the extended
    deserializer returns satisfies it (`deserializeE_reloadableE`).  Then serialization raises (only in a device
    configuration: `reloadableE_ser`), or: the proto
    deserializes to a model `D` isomorphic to `w` (`IsoR`: same tree up to the renaming `σ`, names, emitted type /
    shape / doc, initializer payloads), in which every emitted value carries the source metadata sorted by key and
    every value whose annotation is written carries the source annotation sorted by key (`IsoE`); `D` is
    consistent; and `D` serializes to the SAME proto — in particular the device configurations of every node are
    written again as they were (sharding values are preserved BY NAME: the reloaded spec refers to the value the
    name resolves to at the node).
    Sharding values BY IDENTITY: `C03_roundtrip_ext_devices`; models with FUNCTIONS: `C03_roundtrip_ext_model`;
    function ATTRIBUTES are covered by `C03_meta_roundtrip`. -/
theorem C03_roundtrip_ext_graph (ver : Option Int) (w : WorldE) (h : ReloadableE w) :
    (∃ e, serializeE ver w = .error (.dev e)) ∨
    ∃ (w1 : WorldE) (q : GraphE) (D : WorldE) (σ : Nat → Nat) (w2 : WorldE),
      serializeE ver w = .ok (w1, q) ∧ deserializeE q = .ok D ∧ IsoE w D σ ∧ Consistent D.core ∧
      serializeE ver D = .ok (w2, q) := by
  rcases reloadableE_ser ver w h with ⟨q, ws, hs⟩ | ⟨e, hs⟩
  · obtain ⟨D, B, hD, hrs, hk, ht, hio, hco, hm, hq⟩ := reloadableE_roundtrip ver w h q ws hs
    obtain ⟨D', ws', hD', hq'⟩ := reloadableE_fixpoint ver w h q ws hs
    obtain rfl : D = D' := Except.ok.inj (hD.symm.trans hD')
    exact .inr ⟨⟨w.st.writes ws, w.ext, w.root⟩, q, D, sig B, ⟨D.st.writes ws', D.ext, D.root⟩,
      by simp only [serializeE, hs], hD, ⟨.of_rt hrs hk ht hio hco, h.2.2.vmeta_sorted hm, h.2.2.quant_sorted hq⟩,
      (C17_consistent_ext q D hD).1, by simp only [serializeE, hq']⟩
  · exact .inl ⟨e, by simp only [serializeE, hs]⟩

/-- **C03_roundtrip_ext_devices**: `C03_roundtrip_ext_graph` with the node device configurations
    BY IDENTITY.  Additional hypotheses: the IR-version gate is open (`ver = none` or `>= 11`: below 11 the
    configurations are not written at all) and `DevCertG`: every value a sharding spec refers to carries a
    non-empty name and is the value that name resolves to in the scopes visible at its node (innermost first, the
    node's own placeholders included), a spec without value object (`ShardV.fresh n`) names nothing visible — every
    deserialized model satisfies it (`deserializeE_devCert`).  Then, if serialization does not raise, every node of
    the reloaded model carries the source configurations with each sharding value replaced by its image under the
    renaming `σ` (`DevIsoG`): a value shared between a node input, an outer scope and a sharding spec stays one
    value.  Proof: the lock-step induction exports the scopes in which the reloaded names are resolved (`DevTrG`:
    the certificate's tables renamed by `σ`), `resolve_mapT` commutes resolution with the renaming. -/
theorem C03_roundtrip_ext_devices (ver : Option Int) (hgate : ver = none ∨ ∃ v, ver = some v ∧ ¬ v < 11) (w : WorldE)
    (h : ReloadableE w) (hdc : DevCertG w.st.vals w.ext [] w.root) :
    (∃ e, serializeE ver w = .error (.dev e)) ∨
    ∃ (w1 : WorldE) (q : GraphE) (D : WorldE) (σ : Nat → Nat) (w2 : WorldE),
      serializeE ver w = .ok (w1, q) ∧ deserializeE q = .ok D ∧ IsoE w D σ ∧
      DevIsoG w.ext D.ext σ w.root D.root ∧ Consistent D.core ∧ serializeE ver D = .ok (w2, q) := by
  rcases reloadableE_ser ver w h with ⟨q, ws, hs⟩ | ⟨e, hs⟩
  · obtain ⟨D, B, hD, hrs, hk, ht, hio, hco, hm, hq, hdi⟩ := reloadableE_roundtrip_devs ver hgate w h hdc q ws hs
    obtain ⟨D', ws', hD', hq'⟩ := reloadableE_fixpoint ver w h q ws hs
    obtain rfl : D = D' := Except.ok.inj (hD.symm.trans hD')
    exact .inr ⟨⟨w.st.writes ws, w.ext, w.root⟩, q, D, sig B, ⟨D.st.writes ws', D.ext, D.root⟩,
      by simp only [serializeE, hs], hD, ⟨.of_rt hrs hk ht hio hco, h.2.2.vmeta_sorted hm, h.2.2.quant_sorted hq⟩,
      hdi, (C17_consistent_ext q D hD).1, by simp only [serializeE, hq']⟩
  · exact .inl ⟨e, by simp only [serializeE, hs]⟩

/-- the round trip relation for extended models WITH FUNCTIONS: `IsoM` on the core, and the extension state of the
    emitted values (main graph `emitG` / `emitQG`; function bodies `emitF` / `emitQF`) in canonical form -/
structure IsoME (w D : MWorldE) (σ : Nat → Nat) : Prop where
  core : IsoM w.core D.core σ
  vmeta : ∀ v ∈ emitM w.core, D.ext.vmeta (σ v) = ssSorted (w.ext.vmeta v)
  quant : ∀ v ∈ emitQM w, D.ext.quant (σ v) = (w.ext.quant v).map ssSorted

/-- **C03_roundtrip_ext_model**: IR -> proto -> IR for extended models WITH FUNCTIONS
    (`MWorldE`; `serializeME` / `deserializeME`, IR version >= 10 format): main graph, nested graphs and function
    bodies.  Hypothesis `ReloadableME`: `ReloadableM` of the core, `extG` of the main graph, `extF` of every function
    (equally truthy-named function inputs carry the same merged metadata - they share ONE value_info entry; the node
    clause of `extG` for the body) and `ExtWF`; every model `deserializeME` returns satisfies it
    (`deserializeME_reloadableME`, duplicate function identifiers included).  Then serialization raises (only in a
    device configuration), or the proto deserializes to a model `D` with `IsoME w D σ` - same main graph and functions
    up to `σ` (`IsoM`), merged metadata of every emitted value (function inputs and node outputs included) sorted by
    key, annotations sorted by key - and `D` serializes to the SAME proto (so the device configurations of every
    node, in function bodies too, are written again as they were: sharding values BY NAME).
    Sharding values BY IDENTITY, function bodies included: `C03_roundtrip_ext`.  Function attributes: `C03_meta_roundtrip`. -/
theorem C03_roundtrip_ext_model (ver : Option Int) (w : MWorldE) (h : ReloadableME w) :
    (∃ e, serializeME ver w = .error (.dev e)) ∨
    ∃ (w1 : MWorldE) (Q : ModelE) (D : MWorldE) (σ : Nat → Nat) (w2 : MWorldE),
      serializeME ver w = .ok (w1, Q) ∧ deserializeME Q = .ok D ∧ IsoME w D σ ∧ serializeME ver D = .ok (w2, Q) := by
  rcases reloadableME_ser ver w h with ⟨w1, Q, hs⟩ | ⟨e, he⟩
  · obtain ⟨D, B, hD, hrs, hk, ht, htf, hio, hco, hm, hq⟩ := reloadableME_roundtrip ver w h w1 Q hs
    obtain ⟨D', w2, hD', hq'⟩ := reloadableME_fixpoint ver w h w1 Q hs
    obtain rfl : D = D' := Except.ok.inj (hD.symm.trans hD')
    exact .inr ⟨w1, Q, D, sig B, w2, hs, hD,
      ⟨.of_rt hrs hk ht htf hio hco, h.2.2.2.vmeta_sorted hm, h.2.2.2.quant_sorted hq⟩, hq'⟩
  · exact .inl ⟨e, he⟩

/-- **C03_roundtrip_ext**: IR -> proto -> IR for
    models with functions preserves value metadata, quantization annotations AND the sharding values of node device
    configurations BY IDENTITY, in the main graph, nested graphs and function bodies.  Hypotheses: the IR-version
    gate is open (`ver = none` or `>= 11`; below, device configurations are not written and `C03_roundtrip_ext_model`
    is the statement), `ReloadableME w` and `DevCertM w` (every sharding value carries a non-empty name and is what
    that name resolves to in the scopes visible at its node; in a function body the function's own scope) — both
    hold of every model `deserializeME` returns (`deserializeME_reloadableME`, `deserializeME_devCert`).  Then
    serialization raises in a device configuration (no configuration id / a spec without value), or the reloaded
    model `D` satisfies `IsoME w D σ` and `DevIsoM`: every node of `D` carries the configurations of its source
    node with each sharding value `v` replaced by `σ v`; and `D` serializes to the same proto. -/
theorem C03_roundtrip_ext (ver : Option Int) (hgate : ver = none ∨ ∃ v, ver = some v ∧ ¬ v < 11) (w : MWorldE)
    (h : ReloadableME w) (hdc : DevCertM w) :
    (∃ e, serializeME ver w = .error (.dev e)) ∨
    ∃ (w1 : MWorldE) (Q : ModelE) (D : MWorldE) (σ : Nat → Nat) (w2 : MWorldE),
      serializeME ver w = .ok (w1, Q) ∧ deserializeME Q = .ok D ∧ IsoME w D σ ∧ DevIsoM w.ext D.ext σ w D ∧
      serializeME ver D = .ok (w2, Q) := by
  rcases reloadableME_ser ver w h with ⟨w1, Q, hs⟩ | ⟨e, he⟩
  · obtain ⟨D, B, hD, hrs, hk, ht, htf, hio, hco, hm, hq, hdi⟩ := reloadableME_roundtrip_devs ver hgate w h hdc w1 Q hs
    obtain ⟨D', w2, hD', hq'⟩ := reloadableME_fixpoint ver w h w1 Q hs
    obtain rfl : D = D' := Except.ok.inj (hD.symm.trans hD')
    exact .inr ⟨w1, Q, D, sig B, w2, hs, hD,
      ⟨.of_rt hrs hk ht htf hio hco, h.2.2.2.vmeta_sorted hm, h.2.2.2.quant_sorted hq⟩, hdi, hq'⟩
  · exact .inl ⟨e, he⟩

/-- **C03_ext_certificate_decidable**: the hypothesis `ReloadableE` of `C03_roundtrip_ext_graph` (and with it the
    hypothesis `Reloadable` of `C03_roundtrip_reloadable` for the core) has a sound Boolean check: `reloadableEB`
    (`Model/ScopeCert.lean`: the scope discipline re-run with Boolean checks) is sound for every extended model whose
    extension state is blank above the allocation counter — which holds by construction of the worlds the driver builds
    from the real IR.  The driver evaluates `reloadableEB` on every generated IR model (scope.eser: counter
    hyp_reloadable_ext) and on every deserialized model (scope.edeser: counter ext_certificate_holds, where
    `deserializeE_reloadableE` says it must hold). -/
theorem C03_ext_certificate_decidable (w : WorldE) (h : reloadableEB w = true) (hf : ExtFresh w.st w.ext) :
    ReloadableE w ∧ Reloadable w.core := by
  have := reloadableEB_sound w h hf
  exact ⟨this, this.1⟩

/-! ### purity over the write sites of serde.py (`Model/ScopeEff.lean`) -/

/-- **C03_pure_sites**: `to_proto` modelled at the granularity of the attribute assignments that serde.py's
    `serialize_*` functions perform on IR objects.  `Effect` is a vocabulary in which EVERY observable slot of the
    extended IR model can be written (value name / info / const_value / metadata_props / quantization annotation,
    tensor name / payload, node device configurations) and `Effect.apply` implements all of them, so an impure
    serializer is expressible; `writeSites` is the list of (object kind, attribute) pairs at which the code assigns
    (one: `value.const_value.name = value.name`), recomputed from the AST of the imported `onnx_ir.serde` by
    `harness/c03.py` on every run and compared with this list.
    Statement: the effects that the extended serializer logs (nested graphs included), replayed on the heap,
    give exactly the heap `serializeE` returns; every one of them is at a site of `writeSites`; and every one is
    the assignment `tensor.name := value.name` for an initializer `value` (of some graph of the model) whose
    `const_value` is that tensor.  What is NOT by construction here: the log is a list of generic effects, and
    that none of them is a write to a value, a node or the extension state is proved from the serializer
    (`serGraphE_writes`), not read off a type.  What still rests on the deep-snapshot oracle: that the real
    functions have no effect through calls the AST scan does not see (it sees assignments, augmented assignments,
    `del` and calls of mutating container methods on objects that are not protos or locals). -/
theorem C03_pure_sites (ver : Option Int) (w w1 : WorldE) (p : GraphE) (h : serializeE ver w = .ok (w1, p)) :
    ∃ es : List Effect, serializeEff ver w = .ok (es, p) ∧ runEffects es w = w1 ∧
      (∀ e ∈ es, e.site ∈ writeSites) ∧
      (∀ e ∈ es, ∃ kv ∈ allInitsG w.root, (w.st.vals kv.2).const = some e.id ∧
        e.val = Payload.optName (w.st.vals kv.2).name) := by
  simp only [serializeE] at h
  split at h
  · simp at h
  · rename_i q ws hs
    simp only [Except.ok.injEq, Prod.mk.injEq] at h
    obtain ⟨rfl, rfl⟩ := h
    refine ⟨ws.map nameWrite, by simp only [serializeEff, hs], ?_, ?_, ?_⟩
    · obtain ⟨st, x, g⟩ := w
      exact runEffects_nameWrites ws st x g
    · intro e he
      simp only [List.mem_map] at he
      obtain ⟨tn, _, rfl⟩ := he
      simp [nameWrite, Effect.site, writeSites]
    · intro e he
      simp only [List.mem_map] at he
      obtain ⟨tn, htn, rfl⟩ := he
      obtain ⟨kv, hkv, hc, hname⟩ := serGraphE_writes _ _ _ _ _ _ _ hs tn htn
      exact ⟨kv, hkv, hc, by simp [nameWrite, hname]⟩

/-- **C03_pure_frame**: the frame of the write sites, for EVERY heap and EVERY log of effects (not only the logs
    the model's serializer produces): if every effect of the log is at a site of `writeSites`, replaying the log
    leaves the graph tree, every value cell (name, type / shape / doc, const_value, producer, uses, ownership),
    the extension state (merged metadata, quantization annotations, device configurations), the allocation
    counters and every tensor's payload / dtype / shape as they were, and a tensor that no effect of the log
    names keeps its name too.  Together with `C03_pure_sites` this is `C03_pure_ext` with the by-construction
    part replaced by a statement about the log; a new write site in serde.py (reported by the AST scan) needs
    a new entry in `writeSites`, and this theorem then has to be proved again for the longer list. -/
theorem C03_pure_frame (es : List Effect) (w : WorldE) (hs : ∀ e ∈ es, e.site ∈ writeSites) :
    (runEffects es w).root = w.root ∧ (runEffects es w).ext = w.ext ∧ (runEffects es w).st.vals = w.st.vals ∧
    (runEffects es w).st.nv = w.st.nv ∧ (runEffects es w).st.nt = w.st.nt ∧ (runEffects es w).st.nn = w.st.nn ∧
    (runEffects es w).st.ng = w.st.ng ∧
    (∀ t, ((runEffects es w).st.tens t).data = (w.st.tens t).data ∧
      ((runEffects es w).st.tens t).ty = (w.st.tens t).ty ∧ ((runEffects es w).st.tens t).sh = (w.st.tens t).sh) ∧
    (∀ t, (∀ e ∈ es, e.id ≠ t) → (runEffects es w).st.tens t = w.st.tens t) := by
  obtain ⟨f, g⟩ := runEffects_frame es w hs
  exact ⟨f.root, f.ext, f.vals, f.nv, f.nt, f.nn, f.ng, f.payload, g⟩


/-! ### non-vacuity -/

/-- an IR model with an input `x`, an initializer `w`, node `A(x, w, None) -> y, ""` (trailing
    empty-named output) whose attribute graph captures `y` and `t` from the outer graph, and node
    `B(y) -> t` placed AFTER `A` although `A`'s subgraph uses `t` (not topologically sorted);
    `y` is shared by `B` and the subgraph; `r` has no type or shape. -/
def exampleWorld : World :=
  let cells : List ValueS := [
    { name := some "x", info := { ty := some "f32", sh := some "[2]" }, isIn := true, graph := some 1 },
    { name := some "w", info := { ty := some "f32", sh := some "[2]" }, const := some 0, isInit := true,
      graph := some 1 },
    { name := some "y", info := { ty := some "f32" }, producer := some 1, index := some 0, isOut := true,
      graph := some 1 },
    { name := some "", producer := some 1, index := some 1 },
    { name := some "t", producer := some 2, index := some 0, isOut := true, graph := some 1 },
    { name := some "r", producer := some 0, index := some 0, isOut := true, graph := some 0 } ]
  { st := { vals := fun i => cells.getD i {}, nv := 6,
            tens := fun _ => { name := none, data := "d0", ty := "f32", sh := "[2]" }, nt := 1, nn := 3, ng := 2 },
    root := .mk 1 [0] [("w", 1)]
      [ .mk 1 (some 1) [some 0, some 1, none] [2, 3]
          [ .mk 0 [] [] [ .mk 0 (some 0) [some 2, some 4] [5] [] ] [5] ],
        .mk 2 (some 1) [some 2] [4] [] ]
      [2, 4] }

example : Serializable exampleWorld := serializableB_sound _ (by decide +kernel)

/-- a world that is not serializable: two values named `a` in one scope -/
example : serializableB ⟨{ vals := fun _ => { name := some "a" }, nv := 2 }, .mk 0 [0, 1] [] [] []⟩ = false := by
  decide +kernel

/-- the hypotheses of `C03_twice` / `C03_pure` are satisfiable: the example serializes -/
example : ∃ w1 p, serialize exampleWorld = .ok (w1, p) := by
  obtain ⟨w1, p, _, _, h, _⟩ := C03_roundtrip exampleWorld (serializableB_sound _ (by decide +kernel))
  exact ⟨w1, p, h⟩

/-- IR-side decorations with dicts in insertion order: the hypothesis of `C03_meta_roundtrip` holds … -/
def exampleDecoS : ModelDS := deserModelD (exampleDeco 10)

example : wfModelDB exampleDecoS = true ∧ isOkB (serModelD exampleDecoS) = true := by decide +kernel

/-- … and excludes a dict with a repeated key -/
example : wfModelDB { exampleDecoS with mprops := [("a", "1"), ("a", "2")] } = false := by decide +kernel

/-- the hypothesis of `C03_pure_ext` is satisfiable (below IR version 11 the device configurations are not
    written) and serialization does raise: at IR version 11 the sharding spec without a value is refused -/
example : (match deserializeE exampleExt with
    | .ok w => isOkB (serializeE (some 10) w) && !isOkB (serializeE (some 11) w)
    | .error _ => false) = true := by decide +kernel

/-- the vocabulary of `Model/ScopeEff.lean` does express impure writes: renaming a value is an effect, it is not
    at a write site of serde.py (the hypothesis of `C03_pure_frame` excludes it), and it changes the heap -/
example : (⟨.value, 0, "name", .optName (some "renamed")⟩ : Effect).site ∉ writeSites ∧
    (((⟨.value, 0, "name", .optName (some "renamed")⟩ : Effect).apply ⟨{}, {}, default⟩).st.vals 0).name = some "renamed" := by
  refine ⟨by decide, ?_⟩
  simp [Effect.apply, Store.modify]

/-- the hypotheses of `C03_pure_sites` are satisfiable with a non-empty log: a graph with an initializer -/
example : (match deserializeE (.mk [] [⟨"w", "d0", "f32", "[2]"⟩] [] [] [] []) with
    | .ok w => (match serializeEff none w with | .ok (es, _) => es.length | .error _ => 0)
    | .error _ => 0) = 1 := by decide +kernel

/-- the hypothesis of `C03_roundtrip_ext_graph` is satisfiable (a deserialized extended model with merged metadata,
    annotations, a placeholder and device configurations) and the second alternative occurs at IR version 10 -/
example : ∃ w, deserializeE exampleExt = .ok w ∧ ReloadableE w ∧ isOkB (serializeE (some 10) w) = true := by
  have h : (match deserializeE exampleExt with
    | .ok w => isOkB (serializeE (some 10) w)
    | .error _ => false) = true := by decide +kernel
  split at h
  · next w hw => exact ⟨w, hw, deserializeE_reloadableE _ _ hw, h⟩
  · exact absurd h (by simp)


/-! ### the attribute layer (`Model/ScopeAttr.lean`, theorems `C03_attr_*` in `Lemmas/ScopeAttrProps.lean`) -/

/-- **C03_roundtrip_attrs**: `C03_roundtrip_decorated` and `C03_attr_roundtrip` together, for an IR model with
    its decorations and its NODE ATTRIBUTES: serialization raises in the decorations or in the attributes, or
    the reloaded model is isomorphic to the original in its core (`IsoM`), carries the canonical form of its
    decorations, and carries the attributes of the original — same names in the same order, types, payload
    tokens, reference names, graphs at the same places; identical when no attribute doc_string is `""`.
    Hypotheses: `ReloadableM` (core), `wfModelDB`, `wfModelAB` (dicts with distinct keys; reference attributes
    with a non-empty name and a type that exists) — all decidable and evaluated on every generated model. -/
theorem C03_roundtrip_attrs (w : YWorld) (h : ReloadableM w.x.core) (hw : wfModelDB w.x.deco = true)
    (ha : wfModelAB w.attrs = true) :
    (∃ e, serializeY w = .error (.x (.deco e))) ∨ (∃ e, serializeY w = .error (.attr e)) ∨
    ∃ (w1 : YWorld) (P : YModelP) (D : YWorld) (σ : Nat → Nat),
      serializeY w = .ok (w1, P) ∧ deserializeY P = .ok D ∧ IsoM w.x.core D.x.core σ ∧
      D.x.deco = canonModelD w.x.deco ∧ D.attrs = canonModelA w.attrs ∧
      (normModelAB w.attrs = true → D.attrs = w.attrs) := by
  rcases C03_roundtrip_decorated w.x h hw with ⟨e, he⟩ | ⟨w1, P, D, σ, h1, h2, h3, h4⟩
  · exact .inl ⟨e, by simp only [serializeY, he]⟩
  · cases hq : serModelA w.attrs with
    | error e => exact .inr (.inl ⟨e, by simp only [serializeY, h1, hq]⟩)
    | ok Qa =>
      obtain ⟨r1, _, _⟩ := C03_attr_roundtrip w.attrs Qa ha hq
      exact .inr (.inr ⟨⟨w1, w.attrs⟩, ⟨P, Qa⟩, ⟨D, canonModelA w.attrs⟩, σ, by simp only [serializeY, h1, hq],
        by simp only [deserializeY, h2, r1], h3, h4, rfl, fun hn => canonModelA_id w.attrs hn⟩)

end IrVerif.Scope
