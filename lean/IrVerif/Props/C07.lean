/-
C07 — external-data layout is well formed; save restores the model (property theorems).
Models: `IrVerif/Model/Layout.lean`, `Model/LayoutSt.lean`, `Model/LayoutSeq.lean`, `Model/LayoutStSave.lean` (+ `Model/Pack.lean` and
`Props/C04.lean`); helper lemmas: `IrVerif/Lemmas/Layout*.lean`.  Core Lean only.

In the order of the file: offsets, sharding, shard names, the file image, threshold split and
re-pointing, the safetensors container, safetensors saves on initializer positions, restoration of the
model, call sequences.  The container format is the LIBRARY's: it is modelled (`Model/LayoutSt.lean`)
and compared with the real library byte for byte on every run, not verified.  `placeSt`/`unloadSt`
(offset 0) are the classification-level model behind `C07_threshold_st`; `unloadStV` / `stLoadedAt`
(`Model/LayoutStSave.lean`) are the position-level model with the real offsets.
`readAt`/`writeAt` are the model of file reads and writes; they are compared with real files and
with `ExternalTensor.tobytes()` of the reloaded model through `layout.image` / `layout.read`.
-/
import IrVerif.Lemmas.Layout
import IrVerif.Lemmas.LayoutNames
import IrVerif.Lemmas.LayoutUnload
import IrVerif.Lemmas.LayoutSave
import IrVerif.Lemmas.LayoutRestore
import IrVerif.Lemmas.LayoutSt
import IrVerif.Lemmas.LayoutSeq
import IrVerif.Lemmas.LayoutStSave
import IrVerif.Props.C04
namespace IrVerif.Layout

/-! ## Offsets in one data file -/

/-- **C07_disjoint** (which contains **C07_monotone**): in declaration order every recorded
    range ends before the next one starts — for every later tensor, not only the neighbour. -/
theorem C07_disjoint (al : Option Nat) (thr : Nat) (sizes : List Nat) :
    (computeInfos al thr sizes).Pairwise (fun a b => a.offset + a.length ≤ b.offset) :=
  computeInfosFrom_pairwise al thr 0 sizes

/-- **C07_monotone**: offsets follow declaration order. -/
theorem C07_monotone (al : Option Nat) (thr : Nat) (sizes : List Nat) :
    (computeInfos al thr sizes).Pairwise (fun a b => a.offset ≤ b.offset) :=
  (C07_disjoint al thr sizes).imp (by intro a b h; omega)

/-- every tensor is recorded with its own length, in order (nothing lost or duplicated) -/
theorem C07_lengths (al : Option Nat) (thr : Nat) (sizes : List Nat) :
    (computeInfos al thr sizes).map (·.length) = sizes :=
  computeInfosFrom_lengths _ _ _ _

/-- **C07_within**: every recorded range lies inside the file, and the file the serial writer
    produces is exactly as long as the end of the last range (`current_offset` after the loop). -/
theorem C07_within (al : Option Nat) (thr : Nat) (bs : List (List Nat)) :
    (serialImage (writesOf al thr bs)).length = layoutEnd al thr (bs.map List.length) ∧
    ∀ i ∈ computeInfos al thr (bs.map List.length),
      i.offset + i.length ≤ layoutEnd al thr (bs.map List.length) := by
  constructor
  · exact serial_length_from al thr bs 0 [] rfl
  · exact computeInfosFrom_le_end al thr 0 _

/-- **C07_aligned**: pair every recorded range with the end of the range before it (0 for the
    first).  With `alignment = some a` every tensor longer than `align_threshold` starts at a
    multiple of `max 4096 a` and the padding before it is shorter than that factor; every other
    tensor starts exactly where the previous one ended; with `alignment = none` the file is
    densely packed. -/
theorem C07_aligned (al : Option Nat) (thr : Nat) (sizes : List Nat) :
    ∀ p ∈ List.zip (0 :: (computeInfos al thr sizes).map Info.stop) (computeInfos al thr sizes),
      p.1 ≤ p.2.offset ∧
      (al = none ∨ p.2.length ≤ thr → p.2.offset = p.1) ∧
      (∀ a, al = some a → thr < p.2.length →
        p.2.offset % max 4096 a = 0 ∧ p.2.offset < p.1 + max 4096 a) := by
  unfold computeInfos
  rw [← withPrevEnd_eq_zip]
  exact aligned_from al thr 0 sizes

theorem C07_first_at_zero (al : Option Nat) (thr : Nat) (s : Nat) (rest : List Nat) :
    (computeInfos al thr (s :: rest)).head? = some ⟨0, s⟩ := by
  simp [computeInfos, computeInfosFrom, alignOffset_zero]

example : computeInfos (some 1) 100 [3, 5000, 0, 7] = [⟨0, 3⟩, ⟨4096, 5000⟩, ⟨9096, 0⟩, ⟨9096, 7⟩] := by
  decide

/-! ## Sharding (raw data files; the safetensors sharder as fixed by D62) -/

section Shard
variable {α : Type} (size : α → Nat)

/-- **C07_shards_partition**: concatenating the shards gives back the tensor list (every tensor
    in exactly one shard, declaration order kept) and no shard is empty unless there is nothing
    to write. -/
theorem C07_shards_partition (limit : Nat) (al : Option Nat) (thr : Nat) (ts : List α) :
    (shardRaw size limit al thr ts).flatten = ts ∧
    (ts ≠ [] → ∀ sh ∈ shardRaw size limit al thr ts, sh ≠ []) :=
  ⟨shardRaw_flatten size limit al thr ts,
    fun h => shardRawGo_nonempty size limit al thr [] 0 ts (Or.inr h)⟩

/-- **C07_shard_limit**: the on-disk size of a shard (its own running offset, padding included)
    exceeds `max_shard_size_bytes` only if the shard holds a single tensor. -/
theorem C07_shard_limit (limit : Nat) (al : Option Nat) (thr : Nat) (ts : List α) :
    ∀ sh ∈ shardRaw size limit al thr ts,
      limit < layoutEnd al thr (sh.map size) → sh.length = 1 := by
  intro sh hsh hbig
  have h1 := shardRawGo_limit size limit al thr [] 0 ts (by simp [layoutEnd, layoutEndFrom])
    (Or.inr (by simp)) sh hsh
  have hne : sh ≠ [] := by
    intro h; subst h; simp [layoutEnd, layoutEndFrom] at hbig
  have : 0 < sh.length := List.length_pos_iff.mpr hne
  omega

/-- **C07_shards_partition_st**: the safetensors sharder (with the emptiness test of D62.diff)
    partitions the tensors in order and never emits an empty shard for a non-empty input. -/
theorem C07_shards_partition_st (limit : Option Nat) (ts : List α) :
    (shardSt size limit ts).flatten = ts ∧
    (ts ≠ [] → ∀ sh ∈ shardSt size limit ts, sh ≠ []) := by
  cases limit with
  | none => simp [shardSt]
  | some l => rw [shardSt_some]; exact C07_shards_partition size l none 0 ts

/-- **C07_shard_limit_st**: a safetensors shard whose payload exceeds the limit holds a single
    tensor. -/
theorem C07_shard_limit_st (limit : Nat) (ts : List α) :
    ∀ sh ∈ shardSt size (some limit) ts, limit < (sh.map size).sum → sh.length = 1 := by
  intro sh hsh hbig
  rw [shardSt_some] at hsh
  exact C07_shard_limit size limit none 0 ts sh hsh (by rwa [layoutEnd_none])

end Shard

/-- the safetensors sharder as it was before fix D62 (`current_shard_size > 0` instead of an
    emptiness test); not part of the model, kept to show what the emptiness test is for -/
def shardStGoPreD62 (limit : Nat) : List Nat → Nat → List Nat → List (List Nat)
  | cur, _, [] => [cur]
  | cur, sz, t :: rest =>
    if sz + t > limit ∧ sz > 0 then cur :: shardStGoPreD62 limit [t] (0 + t) rest
    else shardStGoPreD62 limit (cur ++ [t]) (sz + t) rest

-- sizes [0, 100] with limit 10: one shard of 100 bytes holding two tensors (the statement of
-- `C07_shard_limit_st` fails for the pre-fix sharder)
example : ∃ sh ∈ shardStGoPreD62 10 [] 0 [0, 100], 10 < sh.sum ∧ sh.length ≠ 1 :=
  ⟨[0, 100], by decide, by decide, by decide⟩

example : shardRaw id 10 none 0 [3, 5, 9, 20, 1, 0] = [[3, 5], [9], [20], [1, 0]] := by decide

example : shardSt id (some 10) [0, 100, 1, 0, 9, 1] = [[0], [100], [1, 0, 9], [1]] := by decide

/-! ## Shard file names -/

/-- **C07_filename_dir**: a shard file lives in the directory of the base name, and its file
    name part is the stem/counter/extension string of `C07_filename_parts` (`posixpath.split`
    of the shard name returns the directory `posixpath.split` returns for the base name). -/
theorem C07_filename_dir (base : List Char) (idx total : Nat) (sc : Option Nat) (ht : total ≠ 1) :
    posixSplit (shardFilename base idx total sc) =
      ((posixSplit base).1, shardBasename (posixSplit base).2 idx total sc) := by
  have hslash : '/' ∉ (posixSplit base).2 := by
    simp only [posixSplit]; exact not_mem_drop_rfindSucc '/' base
  have hf := slash_not_mem_shardBasename (posixSplit base).2 idx total sc hslash
  have hfne : shardBasename (posixSplit base).2 idx total sc ≠ [] := by
    unfold shardBasename; simp
  rw [shardFilename_eq _ _ _ _ ht]
  split
  · rename_i hdir
    exact posixSplit_join base _ hf hfne hdir
  · rename_i hdir
    have hd : (posixSplit base).1 = [] := by simpa using hdir
    rw [hd]
    generalize shardBasename (posixSplit base).2 idx total sc = f at *
    unfold posixSplit
    simp [(rfindSucc_eq_zero '/' f).mpr hf]

/-- **C07_filename_inj**: for a fixed base name, distinct (shard index, shard count) pairs give
    distinct file names — also across different shard counts (a re-save with another count
    never reuses a name of the old layout), for both backends (`suffixCount = none` for raw data
    files, `some 1` for safetensors) and any base name (dotted stems, sub-directories). -/
theorem C07_filename_inj (base : List Char) (sc : Option Nat) (i j total total' : Nat)
    (ht : total ≠ 1) (ht' : total' ≠ 1)
    (h : shardFilename base i total sc = shardFilename base j total' sc) :
    i = j ∧ total = total' := by
  have h1 := congrArg posixSplit h
  rw [C07_filename_dir base i total sc ht, C07_filename_dir base j total' sc ht'] at h1
  exact shardBasename_injective2 _ _ (Prod.mk.inj h1).2

/-- a sharded name never equals the single-file name of the same base -/
theorem C07_filename_ne_base (base : List Char) (sc : Option Nat) (i j total : Nat) (ht : total ≠ 1) :
    shardFilename base i total sc ≠ shardFilename base j 1 sc := by
  intro h
  -- the file-name part of a shard name is longer than that of the base name: stem and extensions
  -- are all there, plus `-`, `-of-` and the two counters
  have h1 := congrArg (fun p => (posixSplit p).2.length) h
  simp only [C07_filename_dir base i total sc ht] at h1
  have hb : shardFilename base j 1 sc = base := by simp [shardFilename]
  rw [hb] at h1
  have hsplit := peelSuffixes_append sc (posixSplit base).2
  have hl := congrArg List.length hsplit
  simp only [shardBasename, List.length_append, List.length_cons] at h1 hl
  omega

/-- **C07_filename_parts**: a single shard keeps the base name; otherwise the name is the
    directory of the base name joined with `stem-XXXXX-of-YYYYY` followed by the extension
    chain, where
    * `stem ++ extensions` is exactly the original file name (nothing of a dotted stem is lost),
    * every extension starts with `.` and is an extension suffix in the sense of
      `_is_extension_suffix` (ASCII letter, then letters, digits or `_`),
    * at most `suffix_count` extensions are taken, and when that bound is not what stopped the
      loop the stem has no further extension suffix (the chain is maximal),
    * the two counters print back to the shard index and count. -/
theorem C07_filename_parts (base : List Char) (idx total : Nat) (sc : Option Nat) :
    shardFilename base idx 1 sc = base ∧
    (total ≠ 1 → ∃ (stem : List Char) (exts : List (List Char)),
      stem ++ exts.flatten = (posixSplit base).2 ∧
      (∀ e ∈ exts, e.head? = some '.' ∧ isExtensionSuffix e = true) ∧
      (∀ c, sc = some c → exts.length ≤ c) ∧
      ((∀ c, sc = some c → exts.length < c) →
        (splitext stem).2 = [] ∨ isExtensionSuffix (splitext stem).2 = false) ∧
      valOf (pad5 idx) = idx ∧ valOf (pad5 total) = total ∧
      shardFilename base idx total sc =
        (if (posixSplit base).1 ≠ [] then posixJoin (posixSplit base).1 else id)
          (stem ++ '-' :: pad5 idx ++ "-of-".toList ++ pad5 total ++ exts.flatten)) := by
  constructor
  · simp [shardFilename]
  · intro ht
    have hspec := peelSuffixes_spec ((posixSplit base).2.length + 1) sc (posixSplit base).2 []
      (by omega)
    obtain ⟨⟨new, hnew, hall⟩, hbound, hmax, _⟩ := hspec
    simp only [List.nil_append] at hnew
    refine ⟨(peelSuffixes ((posixSplit base).2.length + 1) sc (posixSplit base).2 []).1,
      (peelSuffixes ((posixSplit base).2.length + 1) sc (posixSplit base).2 []).2.reverse,
      ?_, ?_, ?_, ?_, valOf_pad5 _, valOf_pad5 _, ?_⟩
    · simpa using peelSuffixes_append sc (posixSplit base).2
    · intro e he
      rw [hnew] at he
      exact hall e (by simpa using he)
    · intro c hc; simpa using hbound c hc
    · intro h; exact hmax (fun c hc => by simpa using h c hc)
    · rw [shardFilename_eq _ _ _ _ ht]
      unfold shardBasename
      split <;> rfl

-- without `total ≠ 1` the name does not depend on the index (a single shard keeps the base name)
example : shardFilename "m.data".toList 1 1 none = shardFilename "m.data".toList 2 1 none := by decide

example : posixSplit (shardFilename "a/b//m.v1.data".toList 2 3 none) =
    ("a/b".toList, "m-00002-of-00003.v1.data".toList) := by decide +kernel

example : shardFilename "d/m.fp16.data".toList 3 12 none = "d/m-00003-of-00012.fp16.data".toList := by decide +kernel

/-! ## The file image: read-back, order of the writes, the data files of a save -/

/-- **C07_readback**: whatever the order in which the (pairwise disjoint) tensor writes are
    carried out and whatever the file contained before, reading `(offset, length)` of any
    written tensor afterwards returns exactly that tensor's bytes. -/
theorem C07_readback (img0 : List Nat) (ws ws' : List Write) (hperm : ws'.Perm ws)
    (hd : ws.Pairwise Write.disjoint) (w : Write) (hw : w ∈ ws) :
    readAt (applyWrites img0 ws') w.1 w.2.length = w.2 := by
  have hd' := Write.pairwise_disjoint_perm hperm hd
  have hw' : w ∈ ws' := hperm.mem_iff.mpr hw
  by_cases hne : w.2 = []
  · simp [readAt, hne]
  · exact readAt_eq_of_getD _ _ _ (applyWrites_length_written img0 ws' w hw' hne)
      (fun j hj => applyWrites_getD_written img0 ws' hd' w hw' j hj)

/-- **C07_readback_layout**: for the layout the code computes, serial writing, or preallocation to
    ANY size `total` followed by the writes in any order (any worker schedule), reads back every
    tensor. -/
theorem C07_readback_layout (al : Option Nat) (thr : Nat) (bs : List (List Nat))
    (ws' : List Write) (hperm : ws'.Perm (writesOf al thr bs)) (total : Nat)
    (w : Write) (hw : w ∈ writesOf al thr bs) :
    readAt (parallelImage total ws') w.1 w.2.length = w.2 ∧
    readAt (serialImage (writesOf al thr bs)) w.1 w.2.length = w.2 :=
  ⟨C07_readback _ _ _ hperm (writesOf_disjoint al thr bs) w hw,
   C07_readback _ _ _ (List.Perm.refl _) (writesOf_disjoint al thr bs) w hw⟩

/-- **C07_image_order_independent**: preallocating the file to `total_size` and carrying out
    the tensor writes in any order (any schedule of the worker threads) produces byte for byte
    the file the serial writer produces. -/
theorem C07_image_order_independent (al : Option Nat) (thr : Nat) (bs : List (List Nat))
    (ws' : List Write) (hperm : ws'.Perm (writesOf al thr bs)) :
    parallelImage (totalSize (computeInfos al thr (bs.map List.length))) ws' =
      serialImage (writesOf al thr bs) := by
  have hd := writesOf_disjoint al thr bs
  have hd' := Write.pairwise_disjoint_perm hperm hd
  have hL := (C07_within al thr bs).1
  rw [totalSize_eq_layoutEnd]
  generalize hLdef : layoutEnd al thr (bs.map List.length) = L at *
  have hstop := writesOf_stop_le al thr bs
  rw [hLdef] at hstop
  have hlen1 : (parallelImage L ws').length = L := by
    apply Nat.le_antisymm
    · exact applyWrites_length_le _ _ L (by simp) (fun w hw => hstop w (hperm.mem_iff.mp hw))
    · have := applyWrites_length_ge (List.replicate L 0) ws'
      simpa [parallelImage] using this
  apply List.ext_getElem (by rw [hlen1, hL])
  intro i h1 h2
  have hgetD : ∀ (l : List Nat) (h : i < l.length), l[i] = l.getD i 0 := by
    intro l h; simp [List.getD_eq_getElem?_getD, List.getElem?_eq_getElem h]
  rw [hgetD _ h1, hgetD _ h2]
  by_cases hcov : ∃ w ∈ writesOf al thr bs, w.1 ≤ i ∧ i < w.1 + w.2.length
  · obtain ⟨w, hw, hlo, hhi⟩ := hcov
    have e1 := applyWrites_getD_written (List.replicate L 0) ws' hd' w (hperm.mem_iff.mpr hw)
      (i - w.1) (by omega)
    have e2 := applyWrites_getD_written [] (writesOf al thr bs) hd w hw (i - w.1) (by omega)
    have hi : w.1 + (i - w.1) = i := by omega
    rw [hi] at e1 e2
    simp only [parallelImage, serialImage]
    rw [e1, e2]
  · have hnc : ∀ w ∈ writesOf al thr bs, ¬ (w.1 ≤ i ∧ i < w.1 + w.2.length) :=
      fun w hw hc => hcov ⟨w, hw, hc⟩
    simp only [parallelImage, serialImage]
    rw [applyWrites_getD_untouched _ _ _ (fun w hw => hnc w (hperm.mem_iff.mp hw)),
      applyWrites_getD_untouched _ _ _ hnc]
    simp [List.getD_eq_getElem?_getD, List.getElem?_replicate]
    split <;> rfl

/-- **C07_roundtrip**: for every shard limit, alignment and threshold, pairing the placements
    `unload_from_model` records (in the order it zips them onto the initializers) with the
    tensors' bytes: the data file named by the placement exists among the written files and
    reading `(offset, length)` from it returns exactly that tensor's bytes. -/
theorem C07_roundtrip (bs : List (List Nat)) (maxShard : Option Nat) (al : Option Nat)
    (athr : Nat) :
    ∀ pb ∈ (placeRaw (bs.map List.length) maxShard al athr).zip bs,
      ∃ img, (dataFiles bs maxShard al athr none)[pb.1.shard]? = some img ∧
        readAt img pb.1.offset pb.1.length = pb.2 := by
  intro pb hpb
  rw [dataFiles_serial]
  have hkey : ∀ (shards : List (List (List Nat))) (total : Nat),
      ∀ pb ∈ (shards.zipIdx 0).flatMap (fun (sh, i) =>
        ((computeInfos al athr (sh.map List.length)).zip sh).map fun q =>
          ((⟨i, total, q.1.offset, q.1.length⟩ : Placement), q.2)),
      ∃ img, (shards.map fun sh => serialImage (writesOf al athr sh))[pb.1.shard]? = some img ∧
        readAt img pb.1.offset pb.1.length = pb.2 := by
    intro shards total pb hpb
    simp only [List.mem_flatMap, List.mem_map] at hpb
    obtain ⟨⟨sh, i⟩, hsh, q, hq, rfl⟩ := hpb
    have hidx := List.mem_zipIdx hsh
    have hi : i < shards.length := by have := hidx.2.1; omega
    have hshi : sh = shards[i] := by have := hidx.2.2; simpa using this
    refine ⟨serialImage (writesOf al athr sh), by simp [hi, hshi], ?_⟩
    have hw : (q.1.offset, q.2) ∈ writesOf al athr sh := by
      simp only [writesOf, List.mem_map]
      exact ⟨q, hq, rfl⟩
    have hlen : q.1.length = q.2.length := computeInfosFrom_zip_length al athr 0 sh q hq
    have := (C07_readback_layout al athr sh (writesOf al athr sh) (List.Perm.refl _) 0
      (q.1.offset, q.2) hw).2
    simpa [hlen] using this
  have h1 := place_zip_from al athr (byteShards bs maxShard al athr).length (byteShards bs maxShard al athr) 0
  rw [byteShards_flatten] at h1
  rw [placeRaw_eq_placeShards, placeShards, List.length_map, h1] at hpb
  exact hkey _ _ pb hpb

/-- a worker schedule that is a permutation of each shard's writes gives the same data files
    as serial writing (so `C07_roundtrip` holds for the parallel writer too) -/
theorem C07_dataFiles_schedule (bs : List (List Nat)) (maxShard : Option Nat) (al : Option Nat)
    (athr : Nat) (order : List Nat)
    (hperm : ∀ sh ∈ byteShards bs maxShard al athr,
      (reorder (writesOf al athr sh) order).Perm (writesOf al athr sh)) :
    dataFiles bs maxShard al athr (some order) = dataFiles bs maxShard al athr none := by
  rw [dataFiles_eq, dataFiles_eq]
  exact List.map_congr_left fun sh hsh => C07_image_order_independent al athr sh _ (hperm sh hsh)

example : (reorder [(0, [1, 2]), (2, [3]), (3, [4])] [2, 0, 1]).Perm [(0, [1, 2]), (2, [3]), (3, [4])] := by
  decide

-- overlapping writes are order dependent: the disjointness hypothesis of C07_readback is needed
example : readAt (applyWrites [] [(0, [1, 1]), (1, [2])]) 0 2 ≠ [1, 1] := by decide

/-! ## Threshold split and re-pointing -/

/-- **C07_threshold** (raw data files).  For every initializer position `k`, every threshold,
    shard limit and alignment, after `unload_from_model`:
    * a value with a non-string tensor of more than `size_threshold_bytes` bytes holds a new
      external tensor whose record is the `c`-th placement computed for the sizes of exactly
      those tensors, where `c` is the number of such values before `k` (so each value is paired
      with its own record, in declaration order — not merely with one of the right length);
    * any other value whose (non-string) tensor was external holds an in-memory copy;
    * every other value (no tensor, string tensor, small in-memory tensor) holds the same object. -/
theorem C07_threshold (vs : List Init) (thr : Int) (maxShard : Option Nat) (al : Option Nat)
    (athr : Nat) (k : Nat) (hk : k < vs.length) :
    let res := unloadRaw vs thr maxShard al athr
    let places := placeRaw ((vs.filter (becomesExternalRaw thr)).map (·.nbytes)) maxShard al athr
    res.length = vs.length ∧
    (vs[k].hasConst = true → vs[k].isString = false → (vs[k].nbytes : Int) > thr →
      ∃ hc : (vs.take k).countP (becomesExternalRaw thr) < places.length,
        res[k]? = some (.external places[(vs.take k).countP (becomesExternalRaw thr)])) ∧
    (vs[k].hasConst = true → vs[k].isString = false → (vs[k].nbytes : Int) ≤ thr →
      vs[k].isExternal = true → res[k]? = some .memory) ∧
    (vs[k].hasConst = false ∨ vs[k].isString = true ∨
      ((vs[k].nbytes : Int) ≤ thr ∧ vs[k].isExternal = false) → res[k]? = some .same) := by
  intro res places
  have hget := unloadBy_get vs _ _ (becomesExternalRaw_excl thr) (places.map .external)
    (by rw [List.length_map, placeRaw_length, List.length_map]) k hk
  have hres : res = _ := unloadRaw_eq vs thr maxShard al athr
  rw [hres, hget]
  refine ⟨unloadBy_length .., fun h1 h2 h3 => ?_, fun h1 h2 h3 h4 => ?_, fun h => ?_⟩
  · have he : becomesExternalRaw thr vs[k] = true := by simp [becomesExternalRaw, h1, h2, h3]
    have hc : (vs.take k).countP (becomesExternalRaw thr) < places.length := by
      rw [placeRaw_length, List.length_map]; exact countP_take_lt _ vs k hk he
    exact ⟨hc, by simp [he, List.getD_eq_getElem?_getD, hc]⟩
  · have hne : ¬ (vs[k].nbytes : Int) > thr := by omega
    simp [becomesExternalRaw, memRaw, h1, h2, h4, hne]
  · rcases h with h | h | h
    · simp [becomesExternalRaw, memRaw, h]
    · simp [becomesExternalRaw, memRaw, h]
    · have hne : ¬ (vs[k].nbytes : Int) > thr := by omega
      simp [becomesExternalRaw, memRaw, hne, h.2]

/-- **C07_threshold_st** (safetensors): the same with "at least `size_threshold_bytes`"; the
    records carry shard and length only (offsets inside a safetensors file are the library's). -/
theorem C07_threshold_st (vs : List Init) (thr : Int) (maxShard : Option Nat)
    (k : Nat) (hk : k < vs.length) :
    let res := unloadSt vs thr maxShard
    let places := placeSt ((vs.filter (becomesExternalSt thr)).map (·.nbytes)) maxShard
    res.length = vs.length ∧
    (vs[k].hasConst = true → vs[k].isString = false → (vs[k].nbytes : Int) ≥ thr →
      ∃ hc : (vs.take k).countP (becomesExternalSt thr) < places.length,
        res[k]? = some (.external places[(vs.take k).countP (becomesExternalSt thr)])) ∧
    (vs[k].hasConst = true → vs[k].isString = false → (vs[k].nbytes : Int) < thr →
      vs[k].isExternal = true → res[k]? = some .memory) ∧
    (vs[k].hasConst = false ∨ vs[k].isString = true ∨
      ((vs[k].nbytes : Int) < thr ∧ vs[k].isExternal = false) → res[k]? = some .same) := by
  intro res places
  have hget := unloadBy_get vs _ _ (becomesExternalSt_excl thr) (places.map .external)
    (by rw [List.length_map, placeSt_length, List.length_map]) k hk
  have hres : res = _ := unloadSt_eq vs thr maxShard
  rw [hres, hget]
  refine ⟨unloadBy_length .., fun h1 h2 h3 => ?_, fun h1 h2 h3 h4 => ?_, fun h => ?_⟩
  · have he : becomesExternalSt thr vs[k] = true := by simp [becomesExternalSt, h1, h2, h3]
    have hc : (vs.take k).countP (becomesExternalSt thr) < places.length := by
      rw [placeSt_length, List.length_map]; exact countP_take_lt _ vs k hk he
    exact ⟨hc, by simp [he, List.getD_eq_getElem?_getD, hc]⟩
  · simp [becomesExternalSt, memSt, h1, h2, h3, h4, Int.not_le.2 h3]
  · rcases h with h | h | h
    · simp [becomesExternalSt, memSt, h]
    · simp [becomesExternalSt, memSt, h]
    · simp [becomesExternalSt, memSt, Int.not_le.2 h.1, h.2]

/-- `C07_roundtrip` by index -/
theorem roundtrip_get (bs : List (List Nat)) (mx al : Option Nat) (athr : Nat) (c : Nat) (hc : c < bs.length) :
    ∃ p, (placeRaw (bs.map List.length) mx al athr)[c]? = some p ∧
      Reads (dataFiles bs mx al athr none) p bs[c] := by
  have hpl : c < (placeRaw (bs.map List.length) mx al athr).length := by
    rw [placeRaw_length, List.length_map]; exact hc
  exact ⟨_, List.getElem?_eq_getElem hpl, C07_roundtrip bs mx al athr
    ((placeRaw (bs.map List.length) mx al athr)[c], bs[c])
    (List.mem_iff_getElem?.2 ⟨c, by
      rw [List.getElem?_zip_eq_some]; exact ⟨List.getElem?_eq_getElem hpl, List.getElem?_eq_getElem hc⟩⟩)⟩

/-- what the raw backend hands out: the `c`-th placement is a record from which the bytes of the
    `c`-th externalised tensor are read out of the written data files -/
theorem placeRaw_recordsFor (vb : List (Init × List Nat)) (hlen : ∀ x ∈ vb, x.1.nbytes = x.2.length)
    (thr : Int) (mx al : Option Nat) (athr : Nat) :
    RecordsFor (fun p x => Reads (saveRawFiles vb thr mx al athr none) p x.2)
      ((placeRaw (((vb.map (·.1)).filter (becomesExternalRaw thr)).map (·.nbytes)) mx al athr).map NewConst.external)
      (vb.filter fun x => becomesExternalRaw thr x.1) := by
  have hsizes : ((vb.map (·.1)).filter (becomesExternalRaw thr)).map (·.nbytes) = (extBytes vb thr).map List.length := by
    rw [extBytes_eq_filter, List.filter_map, List.map_map, List.map_map]
    exact List.map_congr_left fun x hx => hlen x (List.mem_filter.1 hx).1
  refine ⟨by simp only [List.length_map, placeRaw_length, List.filter_map]; rfl, fun c hc => ?_⟩
  have hcb : c < (extBytes vb thr).length := by rw [extBytes_eq_filter, List.length_map]; exact hc
  obtain ⟨p, hp, img, hf, hread⟩ := roundtrip_get (extBytes vb thr) mx al athr c hcb
  refine ⟨p, ?_, img, hf, ?_⟩
  · simp only [hsizes, List.getElem?_map, hp, Option.map_some]
  · rw [hread]; simp [extBytes_eq_filter]

/-- **C07_roundtrip_value**: initializer `k` reads back ITS OWN bytes.  Pair every initializer
    with its `tobytes()` (`nbytes` = number of bytes).  For every threshold, shard limit and
    alignment: if the value at position `k` has a non-string tensor above the threshold, then
    after the save it holds an external tensor whose record `(shard, offset, length)` names one
    of the written data files, and reading `(offset, length)` from that file returns exactly the
    bytes of tensor `k`. -/
theorem C07_roundtrip_value (vb : List (Init × List Nat))
    (hlen : ∀ x ∈ vb, x.1.nbytes = x.2.length)
    (thr : Int) (maxShard : Option Nat) (al : Option Nat) (athr : Nat)
    (k : Nat) (hk : k < vb.length)
    (h1 : vb[k].1.hasConst = true) (h2 : vb[k].1.isString = false)
    (h3 : (vb[k].1.nbytes : Int) > thr) :
    ∃ p img, (unloadRaw (vb.map (·.1)) thr maxShard al athr)[k]? = some (.external p) ∧
      (saveRawFiles vb thr maxShard al athr none)[p.shard]? = some img ∧
      readAt img p.offset p.length = vb[k].2 := by
  rw [unloadRaw_eq]
  obtain ⟨p, hp, img, hf, hread⟩ := (unloadBy_rel (·.1) _ _ (becomesExternalRaw_excl thr) vb _ _
    (placeRaw_recordsFor vb hlen thr maxShard al athr) k hk).1 (by simp [becomesExternalRaw, h1, h2, h3])
  exact ⟨p, img, hp, hf, hread⟩

/-- **C07_roundtrip_value_c04**: `C07_roundtrip_value` for tensors given by their element type
    width and elements: `nbytes` is `TensorBase.nbytes = ceil(size * bitwidth / 8)` and the bytes are
    the canonical packed little-endian `tobytes()` of C04.  The length hypothesis of
    `C07_roundtrip_value` is discharged by `C04_nbytes`, not assumed. -/
theorem C07_roundtrip_value_c04 (ts : List (Init × Nat × List Nat))
    (hbw : ∀ x ∈ ts, x.2.1 = 2 ∨ x.2.1 = 4 ∨ x.2.1 % 8 = 0)
    (hn : ∀ x ∈ ts, x.1.nbytes = IrVerif.Pack.nbytes x.2.2.length x.2.1)
    (thr : Int) (maxShard : Option Nat) (al : Option Nat) (athr : Nat)
    (k : Nat) (hk : k < ts.length)
    (h1 : ts[k].1.hasConst = true) (h2 : ts[k].1.isString = false)
    (h3 : (ts[k].1.nbytes : Int) > thr) :
    ∃ p img, (unloadRaw (ts.map (·.1)) thr maxShard al athr)[k]? = some (.external p) ∧
      (saveRawFiles (ts.map fun x => (x.1, IrVerif.Pack.tobytes x.2.1 x.2.2)) thr maxShard al athr none)[p.shard]?
        = some img ∧
      readAt img p.offset p.length = IrVerif.Pack.tobytes ts[k].2.1 ts[k].2.2 := by
  have hlen : ∀ x ∈ ts.map (fun x => (x.1, IrVerif.Pack.tobytes x.2.1 x.2.2)), x.1.nbytes = x.2.length := by
    intro x hx
    simp only [List.mem_map] at hx
    obtain ⟨y, hy, rfl⟩ := hx
    simp only
    rw [hn y hy, IrVerif.Pack.C04_nbytes _ _ (hbw y hy)]
  have := C07_roundtrip_value (ts.map fun x => (x.1, IrVerif.Pack.tobytes x.2.1 x.2.2)) hlen thr maxShard al athr
    k (by simpa using hk) (by simpa using h1) (by simpa using h2) (by simpa using h3)
  simpa [List.map_map, Function.comp_def] using this

/-- **C07_readback_shared**: initializers given by the tensor OBJECT they hold (`ids`; `obj` maps an
    object to its bytes).  Every position above the threshold gets its own record and reads back
    the bytes of its object — so two initializers sharing one tensor object (in one graph or in
    the main graph and a subgraph, under any names: the raw backend is positional) both read that
    object's bytes, from two different ranges. -/
theorem C07_readback_shared (flags : List Init) (ids : List Nat) (obj : Nat → List Nat)
    (hlen : flags.length = ids.length)
    (hn : ∀ x ∈ flags.zip ids, x.1.nbytes = (obj x.2).length)
    (thr : Int) (maxShard : Option Nat) (al : Option Nat) (athr : Nat)
    (k : Nat) (hk : k < flags.length)
    (h1 : flags[k].hasConst = true) (h2 : flags[k].isString = false)
    (h3 : (flags[k].nbytes : Int) > thr) :
    ∃ p img, (unloadRaw flags thr maxShard al athr)[k]? = some (.external p) ∧
      (saveRawFiles (flags.zip (bytesOfObjects obj ids)) thr maxShard al athr none)[p.shard]? = some img ∧
      readAt img p.offset p.length = obj (ids[k]'(by omega)) := by
  have hl : ∀ x ∈ flags.zip (bytesOfObjects obj ids), x.1.nbytes = x.2.length := by
    intro x hx
    simp only [bytesOfObjects, List.zip_map_right, List.mem_map] at hx
    obtain ⟨y, hy, rfl⟩ := hx
    exact hn y hy
  have hmap : (flags.zip (bytesOfObjects obj ids)).map (·.1) = flags := by
    rw [List.map_fst_zip]; simp [bytesOfObjects]; omega
  have hkz : k < (flags.zip (bytesOfObjects obj ids)).length := by
    simp [bytesOfObjects, List.length_zip]; omega
  have hget : (flags.zip (bytesOfObjects obj ids))[k] = (flags[k], obj (ids[k]'(by omega))) := by
    simp [bytesOfObjects, List.getElem_zip]
  have := C07_roundtrip_value (flags.zip (bytesOfObjects obj ids)) hl thr maxShard al athr k hkz
    (by rw [hget]; exact h1) (by rw [hget]; exact h2) (by rw [hget]; exact h3)
  rw [hmap, hget] at this
  exact this

/-- **C07_serialize_sees_unloaded**: when nothing raises, the store that serialization sees is
    the unload step's result: position `k` holds its new tensor object (`fresh + k`) exactly
    when the classification of `C07_threshold` / `C07_threshold_st` re-points it, and the
    original object otherwise — for both backends. -/
theorem C07_serialize_sees_unloaded (vs : List Init) (thr : Int) (maxShard : Option Nat)
    (al : Option Nat) (athr : Nat) (fresh : Nat) (st : Store) (k : Nat) (hk : k < vs.length) :
    (saveRun st (rawPlan vs thr fresh) none).1 k =
      (if (unloadRaw vs thr maxShard al athr)[k]? = some .same then st k else some (fresh + k)) ∧
    (saveRun st (stPlan vs thr fresh) none).1 k =
      (if (unloadSt vs thr maxShard)[k]? = some .same then st k else some (fresh + k)) := by
  constructor
  · rw [unloadRaw_eq]
    exact execSteps_unloadBy vs _ _ (becomesExternalRaw_excl thr) _
      (by rw [placeRaw_length, List.length_map]) fresh st _ (rawPlan_assigns vs thr fresh) k hk
  · rw [unloadSt_eq]
    exact execSteps_unloadBy vs _ _ (becomesExternalSt_excl thr) _
      (by rw [placeSt_length, List.length_map]) fresh st _ (stPlan_assigns vs thr fresh) k hk

/-- every placement names an existing shard (each tensor is in exactly one data file) -/
theorem C07_placement_shard (sizes : List Nat) (m : Nat) (al : Option Nat) (thr : Nat) :
    ∀ p ∈ placeRaw sizes (some m) al thr,
      p.shard < p.total ∧ p.total = (shardRaw id m al thr sizes).length := by
  intro p hp
  simp only [placeRaw, placeShards, List.mem_flatMap, List.mem_map] at hp
  obtain ⟨⟨sh, i⟩, hmem, inf, _, rfl⟩ := hp
  have := List.mem_zipIdx hmem
  exact ⟨by have := this.2.1; simpa using this, rfl⟩

example : (unloadRaw [⟨10, false, true, false⟩, ⟨300, false, true, false⟩, ⟨5, true, true, false⟩] 256 none none 0) =
    [.same, .external ⟨0, 1, 0, 300⟩, .memory] := by decide

example : (saveRun (fun v => some v) (rawPlan [⟨10, false, true, false⟩, ⟨300, false, true, false⟩] 256 100) none).1 1 = some 101 := by decide

/-! ## The safetensors container -/

open IrVerif.TensorRepr (DType)

/-- **C07_st_cover** (exact cover): in header order the `data_offsets` are contiguous — the first
    range starts at 0, every range starts where the previous one stopped, the last one stops at
    the end of the byte buffer — and entry `i` records the name and the byte count of tensor `i`
    of the writing order. -/
theorem C07_st_cover (vs : List StView) :
    (∀ p ∈ List.zip (0 :: (stEntries vs).map (·.stop)) (stEntries vs), p.2.start = p.1) ∧
    ((stEntries vs).map (·.stop)).getLast?.getD 0 = (stBuffer vs).length ∧
    (stEntries vs).map (fun e => e.stop - e.start) = vs.map (·.bytes.length) ∧
    (stEntries vs).map (·.name) = vs.map (·.name) := by
  refine ⟨entriesFrom_chain 0 vs, ?_, entriesFrom_lens 0 vs, entriesFrom_names 0 vs⟩
  have := entriesFrom_last 0 vs
  rw [List.getLast_eq_iff_getLast?_eq_some, List.getLast?_cons] at this
  simpa [stEntries] using this

/-- **C07_st_disjoint**: no two recorded ranges overlap (every range ends before every later one
    starts). -/
theorem C07_st_disjoint (vs : List StView) :
    (stEntries vs).Pairwise (fun a b => a.stop ≤ b.start) := entriesFrom_disjoint 0 vs

/-- **C07_st_within**: every recorded range lies inside the byte buffer, the file is exactly
    `8 + N + buffer` bytes long, and the `(offset, length)` `_read_safetensors` derives from an
    entry lies inside the file — for any header bytes (`N = hdr.length`). -/
theorem C07_st_within (vs : List StView) (hdr : List Nat) :
    (∀ e ∈ stEntries vs, e.start ≤ e.stop ∧ e.stop ≤ (stBuffer vs).length) ∧
    (stFileOf hdr (stBuffer vs)).length = 8 + hdr.length + (stBuffer vs).length ∧
    (∀ e ∈ stEntries vs, 8 + hdr.length ≤ (stRange hdr.length e).1 ∧
      (stRange hdr.length e).1 + (stRange hdr.length e).2 ≤ (stFileOf hdr (stBuffer vs)).length) := by
  refine ⟨fun e he => ⟨(entriesFrom_ge 0 vs e he).2, by simpa using entriesFrom_le_end 0 vs e he⟩,
    stFileOf_length _ _, ?_⟩
  intro e he
  have h1 := (entriesFrom_ge 0 vs e he).2
  have h2 := entriesFrom_le_end 0 vs e he
  rw [stFileOf_length]
  simp only [stRange]
  omega

/-- **C07_st_order**: the writing order of a shard is a permutation of its tensors (nothing lost
    or duplicated) sorted by descending format dtype and then ascending name. -/
theorem C07_st_order (ts : List StTensor) :
    (shardViewsD ts).Perm (ts.map viewOfD) ∧
    (shardViewsD ts).Pairwise (fun a b =>
      b.sd.rank ≤ a.sd.rank ∧ (a.sd.rank = b.sd.rank → bytesLe a.name b.name = true)) := by
  refine ⟨sortViews_perm _, (sortViews_sorted _).imp ?_⟩
  intro a b h
  simp only [viewLe, Bool.or_eq_true, Bool.and_eq_true, decide_eq_true_eq] at h
  rcases h with h | ⟨h1, h2⟩
  · exact ⟨by omega, fun e => by omega⟩
  · exact ⟨by omega, fun _ => h2⟩

/-- **C07_st_readback**: for any header bytes, reading the `(offset, length)` that
    `_read_safetensors` derives from entry `i` (`begin + N + 8`, `end - begin`) out of the written
    file returns exactly the bytes of tensor `i` of the writing order. -/
theorem C07_st_readback (vs : List StView) (hdr : List Nat) :
    ∀ p ∈ (stEntries vs).zip vs,
      readAt (stFileOf hdr (stBuffer vs)) (stRange hdr.length p.1).1 (stRange hdr.length p.1).2
        = p.2.bytes := by
  intro p hp
  have := entriesFrom_readback (8 + hdr.length) 0 vs (Pack.leBytes 8 hdr.length ++ hdr)
    (by simp [IrVerif.Pack.leBytes_length]) p hp
  simp only [stRange, stFileOf]
  rw [show p.1.start + hdr.length + 8 = p.1.start + (8 + hdr.length) by omega]
  exact this

/-- **C07_st_roundtrip**: a whole `_save_file` + `_replace_tensors`.  For every list of tensors to
    save whose (initializer) names are pairwise different — the check `save_safetensors` performs up
    front — every shard limit and every saved position `j`: after the files are written and the
    values are re-pointed BY NAME, value `j` holds a record `(shard, offset, length)` that names one
    of the written files, has the tensor's byte count, and reading `(offset, length)` from that file
    returns exactly the bytes of tensor `j`. -/
theorem C07_st_roundtrip (saved : List StTensor) (mx : Option Nat)
    (hd : (saved.map (·.name)).Nodup) (j : Nat) (hj : j < saved.length) :
    ∃ p img,
      (stReplace (saved.map (·.name)) (stAssignments (stShardViewsD saved mx)))[j]? = some (some p) ∧
      ((stShardViewsD saved mx).map stFile)[p.shard]? = some img ∧
      p.total = (stShardViewsD saved mx).length ∧
      p.length = saved[j].bytes.length ∧
      readAt img p.offset p.length = saved[j].bytes := by
  have hnames := stAssignments_names saved mx
  have hAnodup : ((stAssignments (stShardViewsD saved mx)).map (·.1)).Nodup :=
    (hnames.nodup_iff).mpr hd
  -- the shard holding tensor j, its view and entry
  obtain ⟨i, sh, e, hvs, hzip⟩ := saved_entry saved mx j hj
  have hemem : e ∈ stEntries (shardViewsD sh) := (List.of_mem_zip hzip).1
  have hz : e = ⟨saved[j].name, (viewOfD saved[j]).sd, (viewOfD saved[j]).hshape, e.start,
      e.start + saved[j].bytes.length⟩ := entriesFrom_zip 0 _ _ hzip
  have hread := C07_st_readback (shardViewsD sh) (stHeader (stEntries (shardViewsD sh))) _ hzip
  simp only at hread
  -- the assignment of that entry
  let pl : Placement := ⟨i, (stShardViewsD saved mx).length,
    (stRange (stHeader (stEntries (shardViewsD sh))).length e).1,
    (stRange (stHeader (stEntries (shardViewsD sh))).length e).2⟩
  have haA : (e.name, pl) ∈ stAssignments (stShardViewsD saved mx) := by
    unfold stAssignments
    rw [List.mem_flatMap]
    refine ⟨(shardViewsD sh, i), List.mem_zipIdx_iff_getElem?.mpr hvs, ?_⟩
    exact List.mem_map.mpr ⟨e, hemem, rfl⟩
  have hname : e.name = (saved.map (·.name))[j]'(by simpa using hj) := by
    rw [hz]; simp
  have hlast : lastIdxOf (saved.map (·.name)) e.name = some j := by
    rw [hname]; exact lastIdxOf_nodup _ hd j (by simpa using hj)
  have hget := foldl_replace_get (saved.map (·.name)) (stAssignments (stShardViewsD saved mx))
    (List.replicate (saved.map (·.name)).length none) j (by simpa using hj) pl
    ⟨_, haA, hlast⟩
    (by
      intro c hc hfc
      obtain ⟨_, hcn⟩ := lastIdxOf_some _ _ _ hfc
      have : c.1 = (e.name, pl).1 := by rw [← hcn, hname]
      have := ListFacts.inj_of_nodup_map hAnodup hc haA this
      rw [this])
  refine ⟨pl, stFile (shardViewsD sh), by rw [stReplace_eq]; exact hget, ?_, rfl, ?_, ?_⟩
  · have hpi : pl.shard = i := rfl
    rw [hpi, List.getElem?_map, hvs]; rfl
  · have hpl : pl.length = e.stop - e.start := rfl
    rw [hpl, hz]; exact Nat.add_sub_cancel_left ..
  · have hread' : readAt (stFile (shardViewsD sh)) pl.offset pl.length = (viewOfD saved[j]).bytes := hread
    simpa [viewOfD] using hread'

/-- **C07_st_dtype_roundtrip**: for every ONNX dtype that has an entry in the save table, the
    tensor a value holds after `_replace_tensors` reports the ORIGINAL dtype and shape: the header
    dtype string maps back to it and the header shape is the tensor's shape, or (FLOAT8E4M3FNUZ,
    FLOAT8E5M2FNUZ, FLOAT4E2M1, INT4, UINT4, INT2, UINT2: stored as bytes)
    `_migrate_tensor_shape_dtype` takes both from the model tensor.  The other dtypes (UNDEFINED,
    STRING, COMPLEX128) have no table entry: the save raises (`dtypesOk`). -/
theorem C07_st_dtype_roundtrip (t : StTensor) (sd : StDtype) (h : stDtypeOf t.dtype = some sd)
    (cur : Nat) :
    reloadedDtypeShape t ⟨t.name, sd, headerShape sd (storageShape t), cur, cur + t.bytes.length⟩
      = some (t.dtype, t.shape) := by
  have htab := st_dtype_table t.dtype sd h
  unfold reloadedDtypeShape
  rcases htab with hm | ⟨hl, hf4, hbw⟩
  · rw [if_pos hm]
  · by_cases hm : t.dtype ∈ migrated
    · rw [if_pos hm]
    · rw [if_neg hm]
      simp only [hl, Option.map_some]
      have : headerShape sd (storageShape t) = t.shape := by
        unfold headerShape storageShape
        rw [if_neg hf4]
        cases hb : t.dtype.bitwidth with
        | none => rfl
        | some bw =>
          rw [hb] at hbw
          simp only [Option.getD_some] at hbw
          simp only
          rw [if_neg (by omega)]
      rw [this]

example : (shardViewsD [⟨[0x62], .float, [1], [1, 2, 3, 4]⟩, ⟨[0x61], .uint8, [2], [9, 9]⟩,
    ⟨[0x61, 0x30], .float, [1], [5, 6, 7, 8]⟩]).map (·.name) = [[0x61, 0x30], [0x62], [0x61]] := by decide +kernel

example : stEntries (shardViewsD [⟨[0x62], .float, [1], [1, 2, 3, 4]⟩, ⟨[0x61], .uint8, [2], [9, 9]⟩]) =
    [⟨[0x62], .F32, [1], 0, 4⟩, ⟨[0x61], .U8, [2], 4, 6⟩] := by decide +kernel

-- the name hypothesis of C07_st_roundtrip is needed: with a duplicated name the first value is
-- never re-pointed (`value_map` keeps the last value of a name)
example : (stReplace [[0x61], [0x61]] (stAssignments (stShardViewsD
    [⟨[0x61], .uint8, [1], [1]⟩, ⟨[0x61], .uint8, [1], [2]⟩] none)))[0]? = some none := by decide +kernel

example : stNamesOk [[0x61], [0x61]] = false ∧ stNamesOk [asciiBytes "__metadata__"] = false ∧
    stNamesOk [[0x61], [0x62]] = true := by decide +kernel

example : stDtypeOf .complex128 = none ∧ stDtypeOf .string = none ∧ stDtypeOf .int4 = some .U8 := by decide +kernel

/-! ## Safetensors saves on initializer positions; dtypes without table entry -/

/-- what the safetensors backend hands out: the `c`-th record of `_replace_tensors` names one of the
    files moved into place, has the byte count of the `c`-th saved tensor and reads its bytes -/
theorem stReplace_recordsFor (vs : List StInit) (thr : Int) (mx : Option Nat)
    (hnames : stNamesOk ((vs.filter stSnapshotB).map (·.name)) = true) :
    RecordsFor (fun p x => Reads (stSaveFiles vs thr mx) p x.bytes ∧
        p.total = (stSaveFiles vs thr mx).length ∧ p.length = x.bytes.length)
      ((stReplace ((stSaved vs thr).map (·.name))
        (stAssignments (stShardViewsD (stSaved vs thr) mx))).map newConstOfRecord)
      (vs.filter fun v => becomesExternalSt thr v.init) := by
  have hsl : (stSaved vs thr).length = (vs.filter fun v => becomesExternalSt thr v.init).length := by
    rw [stSaved_eq_filter, List.length_map]
  refine ⟨by simp only [List.length_map, stReplace_length, hsl], fun c hc => ?_⟩
  obtain ⟨p, img, hp, hf, htot, hpl, hread⟩ :=
    C07_st_roundtrip (stSaved vs thr) mx (stSaved_names_nodup vs thr hnames) c (hsl ▸ hc)
  have hsc : (stSaved vs thr)[c]'(hsl ▸ hc) = ((vs.filter fun v => becomesExternalSt thr v.init)[c]).tensor := by
    simp [stSaved_eq_filter]
  rw [hsc] at hread hpl
  refine ⟨p, ?_, ⟨img, by simpa [stSaveFiles] using hf, hread⟩, by simpa [stSaveFiles] using htot, hpl⟩
  simp only [List.getElem?_map, hp, Option.map_some, newConstOfRecord]

/-- **C07_st_unload_values** (the safetensors counterpart of `C07_threshold` + `C07_roundtrip_value`,
    on INITIALIZER POSITIONS of the main graph and of every subgraph).  For every declaration-ordered
    initializer list whose names pass the up-front check of `save_safetensors` (pairwise different,
    not `__metadata__`, among the values that hold a non-string tensor), every threshold, shard limit
    and position `k`, after `_save_file` + `_replace_tensors` (what `ir.save` then serializes):
    * a value with a non-string tensor of at least `size_threshold_bytes` bytes holds a NEW external
      tensor whose record `(shard, shard count, offset, length)` names one of the files moved into
      place, has the tensor's byte count, and reading `(offset, length)` from that file returns
      exactly the bytes of tensor `k` (classification `splitSt`, sharding `shardSt`, the container
      `stFile`, re-pointing by name `stReplace` composed);
    * any other value whose non-string tensor was external holds an in-memory copy;
    * every other value (no tensor, string tensor, small in-memory tensor) holds the same object. -/
theorem C07_st_unload_values (vs : List StInit) (thr : Int) (mx : Option Nat)
    (hnames : stNamesOk ((vs.filter stSnapshotB).map (·.name)) = true)
    (k : Nat) (hk : k < vs.length) :
    (unloadStV vs thr mx).length = vs.length ∧
    (becomesExternalSt thr vs[k].init = true →
      ∃ p img, (unloadStV vs thr mx)[k]? = some (.external p) ∧
        (stSaveFiles vs thr mx)[p.shard]? = some img ∧
        p.total = (stSaveFiles vs thr mx).length ∧ p.length = vs[k].bytes.length ∧
        readAt img p.offset p.length = vs[k].bytes) ∧
    (becomesExternalSt thr vs[k].init = false → stSnapshotB vs[k] = true →
      vs[k].init.isExternal = true → (unloadStV vs thr mx)[k]? = some .memory) ∧
    (becomesExternalSt thr vs[k].init = false →
      (stSnapshotB vs[k] = false ∨ vs[k].init.isExternal = false) →
      (unloadStV vs thr mx)[k]? = some .same) := by
  obtain ⟨h1, h2⟩ := unloadBy_rel (·.init) (becomesExternalSt thr) (memSt thr) (becomesExternalSt_excl thr) vs _ _
    (stReplace_recordsFor vs thr mx hnames) k hk
  rw [unloadStV_eq]
  refine ⟨by rw [unloadBy_length, List.length_map], fun hb => ?_, fun hb hs hx => ?_, fun hb hs => ?_⟩
  · obtain ⟨p, hp, ⟨img, hf, hread⟩, htot, hpl⟩ := h1 hb
    exact ⟨p, img, hp, hf, htot, hpl, hread⟩
  · rw [h2 hb]
    simp only [stSnapshotB, Bool.and_eq_true, Bool.not_eq_true'] at hs
    simp only [becomesExternalSt, hs.1, hs.2, Bool.not_false, Bool.and_self, Bool.true_and,
      decide_eq_false_iff_not] at hb
    simp [memSt, hs.1, hs.2, hx]; omega
  · rw [h2 hb]
    rcases hs with hs | hs
    · simp only [stSnapshotB, Bool.and_eq_false_iff, Bool.not_eq_false'] at hs
      rcases hs with hs | hs <;> simp [memSt, hs]
    · simp [memSt, hs]

/-- **C07_st_roundtrip_values**: `save_safetensors` followed by `ir.load`, on initializer VALUES.
    For every declaration-ordered initializer list (main graph and every subgraph) whose names pass
    the up-front check and whose saved tensors all have a dtype of the save table (no `KeyError`:
    `stSaveOk`), every threshold and shard limit: every position `k` that holds a tensor is, in the
    loaded model, external EXACTLY when the tensor is not a string tensor and has at least
    `size_threshold_bytes` bytes, and holds its original dtype, shape and bytes (for an external
    position: dtype/shape as `_migrate_tensor_shape_dtype` restores them from the header, bytes as
    read through the record `(file, offset, length)` from the file moved into place).
    Composes `C07_st_unload_values` (classification, sharding, container, re-pointing by name) with
    `C07_st_dtype_roundtrip`. -/
theorem C07_st_roundtrip_values (vs : List StInit) (thr : Int) (mx : Option Nat)
    (hnames : stNamesOk ((vs.filter stSnapshotB).map (·.name)) = true)
    (hdt : stSaveOk vs thr = true)
    (k : Nat) (hk : k < vs.length) (hc : vs[k].init.hasConst = true) :
    stLoadedAt vs thr mx k =
      some ⟨becomesExternalSt thr vs[k].init, vs[k].dtype, vs[k].shape, vs[k].bytes⟩ := by
  have hU := C07_st_unload_values vs thr mx hnames k hk
  have hget : vs.getD k default = vs[k] := by
    simp [List.getD_eq_getElem?_getD, List.getElem?_eq_getElem hk]
  unfold stLoadedAt
  simp only [hget]
  by_cases hb : becomesExternalSt thr vs[k].init = true
  · obtain ⟨p, img, hp, hf, _, _, hread⟩ := hU.2.1 hb
    obtain ⟨hcl, hsc⟩ := List.getElem?_eq_some_iff.1
      (stSaved_index vs thr k hk hb)
    obtain ⟨cur, hent⟩ := stEntryFor_saved (stSaved vs thr) mx (stSaved_names_nodup vs thr hnames) _ hcl
    rw [hsc] at hent
    have hsome : (stDtypeOf vs[k].tensor.dtype).isSome = true := by
      exact hsc ▸ List.all_eq_true.mp hdt _ (List.getElem_mem hcl)
    obtain ⟨sd, hsd⟩ := Option.isSome_iff_exists.mp hsome
    have hview : (viewOfD vs[k].tensor) = ⟨vs[k].tensor.name, sd,
        headerShape sd (storageShape vs[k].tensor), vs[k].tensor.bytes⟩ := by
      simp [viewOfD, hsd]
    rw [hview] at hent
    have hds := C07_st_dtype_roundtrip vs[k].tensor sd hsd cur
    have hname : vs[k].tensor.name = vs[k].name := rfl
    rw [hname] at hent
    rw [hp]
    simp only [hent, Option.bind_some]
    have hds' : reloadedDtypeShape vs[k].tensor
        ⟨vs[k].name, sd, headerShape sd (storageShape vs[k].tensor), cur, cur + vs[k].tensor.bytes.length⟩
        = some (vs[k].dtype, vs[k].shape) := hds
    rw [hds']
    simp only [Option.map_some, hb]
    have himg : (stSaveFiles vs thr mx).getD p.shard [] = img := by
      simp [List.getD_eq_getElem?_getD, hf]
    rw [himg, hread]
  · have hb' : becomesExternalSt thr vs[k].init = false := by simpa using hb
    rw [unloadStV_eq, (unloadBy_rel (·.init) _ (memSt thr) (becomesExternalSt_excl thr) vs _ _
      (stReplace_recordsFor vs thr mx hnames) k hk).2 hb']
    cases memSt thr vs[k].init <;> simp [hc, hb']

-- a whole position-level save: float above the threshold, a small external uint8 tensor (loaded to memory), a
-- string tensor (untouched), an INT4 tensor stored as bytes: records into the one file (header 112 bytes), and
-- what the loaded model holds
example :
    let vs : List StInit := [⟨[0x62], ⟨4, false, true, false⟩, .float, [1], [1, 2, 3, 4]⟩,
      ⟨[0x61], ⟨2, true, true, false⟩, .uint8, [2], [9, 9]⟩, ⟨[0x63], ⟨1, false, true, true⟩, .string, [1], []⟩,
      ⟨[0x64], ⟨3, false, true, false⟩, .int4, [5], [7, 8, 9]⟩]
    stNamesOk ((vs.filter stSnapshotB).map (·.name)) = true ∧ stSaveOk vs 3 = true ∧
    unloadStV vs 3 none = [.external ⟨0, 1, 120, 4⟩, .memory, .same, .external ⟨0, 1, 124, 3⟩] ∧
    (List.range 4).map (stLoadedAt vs 3 none) =
      [some ⟨true, .float, [1], [1, 2, 3, 4]⟩, some ⟨false, .uint8, [2], [9, 9]⟩, some ⟨false, .string, [1], []⟩,
       some ⟨true, .int4, [5], [7, 8, 9]⟩] := by
  decide +kernel

-- the name hypothesis is needed: with a duplicated name the first value above the threshold is not re-pointed
-- and would be written inline
example :
    let vs : List StInit := [⟨[0x61], ⟨1, false, true, false⟩, .uint8, [1], [1]⟩,
      ⟨[0x61], ⟨1, false, true, false⟩, .uint8, [1], [2]⟩]
    stNamesOk ((vs.filter stSnapshotB).map (·.name)) = false ∧
    stLoadedAt vs 0 none 0 = some ⟨false, .uint8, [1], [1]⟩ ∧ becomesExternalSt 0 vs[0].init = true := by
  decide +kernel

/-- **C07_st_keyerror_iff**: `save_safetensors` gets past the dtype table exactly when no initializer
    that is saved (non-string tensor of at least `size_threshold_bytes` bytes) has a dtype without table
    entry — in practice COMPLEX128 (UNDEFINED is no tensor dtype, STRING tensors are skipped before).
    Below the threshold a COMPLEX128 initializer stays in the proto and the save succeeds; at or above it
    the save raises `KeyError` and the model says that NO file is written (`stFiles = none`: the shards
    written so far are in the temporary directory that the `finally` removes). -/
theorem C07_st_keyerror_iff (vs : List StInit) (thr : Int) (mx : Option Nat) :
    (stSaveOk vs thr = true ↔
      ∀ v ∈ vs, becomesExternalSt thr v.init = true →
        v.dtype ≠ .undefined ∧ v.dtype ≠ .string ∧ v.dtype ≠ .complex128) ∧
    (stSaveOk vs thr = false → stFiles (stSaved vs thr) mx = none) ∧
    (stSaveOk vs thr = true → stFiles (stSaved vs thr) mx = some (stSaveFiles vs thr mx)) := by
  refine ⟨?_, ?_, ?_⟩
  · unfold stSaveOk dtypesOk
    rw [stSaved_eq_filter, List.all_eq_true]
    constructor
    · intro h v hv hb
      exact stDtypeOf_isSome_iff.1
        (h v.tensor (List.mem_map.mpr ⟨v, List.mem_filter.mpr ⟨hv, hb⟩, rfl⟩))
    · intro h t ht
      obtain ⟨v, hv, rfl⟩ := List.mem_map.mp ht
      obtain ⟨hv1, hv2⟩ := List.mem_filter.mp hv
      exact stDtypeOf_isSome_iff.2 (h v hv1 hv2)
  · intro h
    simp only [stSaveOk] at h
    simp [stFiles, stShardViews, h]
  · intro h
    simp only [stSaveOk] at h
    simp [stFiles, stShardViews, h, stSaveFiles]

example : stSaveOk [⟨[0x61], ⟨16, false, true, false⟩, .complex128, [1], List.replicate 16 0⟩] 17 = true ∧
    stSaveOk [⟨[0x61], ⟨16, false, true, false⟩, .complex128, [1], List.replicate 16 0⟩] 16 = false := by decide

/-! ## `save` restores the model: the `finally` block plain, through the setter, stopped, cut -/

/-- **C07_model_restored**: the save is the effect sequence of the source — remember the
    tensors, (validate, load small external tensors, write, re-point, serialize, write the
    proto), and in `finally` put the remembered tensors back.  For every initializer list,
    threshold and store, and wherever an exception surfaces (`stop = some n`: after any number
    `n` of completed steps, in the safetensors backend also between the early re-pointing of
    small external tensors and the writes) or if none does (`stop = none`), every value cell
    holds afterwards the tensor object it held before — for both backends.  (The safetensors
    snapshot holds only values with a non-string tensor: the proof shows nothing else is ever
    re-pointed.) -/
theorem C07_model_restored (vs : List Init) (thr : Int) (fresh : Nat) (st : Store)
    (stop : Option Nat) :
    (saveRun st (rawPlan vs thr fresh) stop).2 = st ∧
    (saveRun st (stPlan vs thr fresh) stop).2 = st := by
  constructor
  · apply saveRun_restored
    intro v t hvt
    simpa [rawPlan] using splitBy_lt ((rawPlan_assigns vs thr fresh v t).mp hvt).1
  · apply saveRun_restored
    intro v t hvt
    have h := ((stPlan_assigns vs thr fresh v t).mp hvt).1
    have hlt := splitBy_lt h
    -- either loop selects only values that hold a non-string tensor
    have hp : vs[v].hasConst = true ∧ vs[v].isString = false := by
      rw [mem_splitBy_fst _ _ hlt, mem_splitBy_snd _ _ hlt] at h
      rcases h with hp | hp
      · simp only [becomesExternalSt, Bool.and_eq_true, Bool.not_eq_true'] at hp
        exact ⟨hp.1.1, hp.1.2⟩
      · simp only [memSt, Bool.and_eq_true, Bool.not_eq_true'] at hp
        exact ⟨hp.1.1.1, hp.1.1.2⟩
    simp only [stPlan, List.mem_filter, List.mem_range, Bool.and_eq_true, Bool.not_eq_true']
    simp [hlt, List.getD_eq_getElem?_getD, hp.1, hp.2]

/-- **C07_model_restored_checked**: the `finally` block modelled as the loop it is, every
    assignment going through the `const_value` setter (which in `onnx_ir.DEBUG` mode raises for an
    object that is not a `TensorProtocol` instance).  If every original `const_value` passes the
    setter's check — always true outside DEBUG mode (`C07_setter_nodebug`) — then for every
    initializer list, threshold, store and every point at which the `try` block is left, the
    `finally` does not raise and every value holds its original tensor object, for both backends. -/
theorem C07_model_restored_checked (vs : List Init) (thr : Int) (fresh : Nat) (st : Store)
    (stop : Option Nat) (debug : Bool) (isProto : Nat → Bool)
    (hok : ∀ v, setterOk debug isProto (st v) = true) :
    (saveRunChecked debug isProto st (rawPlan vs thr fresh) stop).2 = (st, false) ∧
    (saveRunChecked debug isProto st (stPlan vs thr fresh) stop).2 = (st, false) := by
  have h := C07_model_restored vs thr fresh st stop
  exact ⟨saveRunChecked_restored _ h.1 fun v _ => hok v, saveRunChecked_restored _ h.2 fun v _ => hok v⟩

theorem C07_setter_nodebug (isProto : Nat → Bool) (t : Option Nat) : setterOk false isProto t = true := rfl

/-- **C07_restore_stops**: what the `finally` does when the restore of an element raises: for
    EVERY position of the first original tensor the setter rejects (snapshot = `pre ++ v :: post`),
    the loop raises there, exactly the values of `pre` have been put back, and every other value
    cell holds what it held when the `try` block was left (so values of `v :: post` that the save
    re-pointed stay re-pointed: observation D430). -/
theorem C07_restore_stops (debug : Bool) (isProto : Nat → Bool) (st : Store) (plan : SavePlan)
    (stop : Option Nat) (pre : List Nat) (v : Nat) (post : List Nat)
    (hsnap : plan.snapshot = pre ++ v :: post)
    (hpre : ∀ w ∈ pre, setterOk debug isProto (st w) = true)
    (hbad : setterOk debug isProto (st v) = false) :
    (saveRunChecked debug isProto st plan stop).2 =
      (assignAll (saveRunChecked debug isProto st plan stop).1 (pre.map fun w => (w, st w)), true) := by
  simp only [saveRunChecked, hsnap, List.map_append, List.map_cons]
  exact restoreLoop_stops _ _ _ _ _ _ (List.forall_mem_map.2 hpre) hbad

-- the hypothesis of C07_model_restored_checked is needed: DEBUG mode, object 7 is duck-typed
example : (saveRunChecked true (fun o => o != 7) (fun v => some (v + 6))
    (rawPlan [⟨300, false, true, false⟩, ⟨300, false, true, false⟩, ⟨300, false, true, false⟩] 0 100) none).2.1 2
      = some 102 := by decide

example : (saveRunChecked true (fun o => o != 7) (fun v => some (v + 6))
    (rawPlan [⟨300, false, true, false⟩, ⟨300, false, true, false⟩, ⟨300, false, true, false⟩] 0 100) none).2.2
      = true := by decide

/-- **C07_restore_async**: what the `finally` block does when an ASYNCHRONOUS exception is delivered
    inside the restore loop after `n` assignments completed (every original tensor passing the setter's
    check, i.e. always outside DEBUG mode).  For every plan (both backends), every point `stop` at which
    the `try` block was left and every `n`: the `finally` is left by the exception iff
    `n < snapshot.length`; exactly the first `n` remembered values hold their original tensor again;
    every other value cell holds what it held when the `try` block was left (so a value the save had
    re-pointed STAYS re-pointed: the clause "same tensor objects afterwards" cannot be kept by a Python
    `finally` loop under asynchronous exceptions; outside the C07 statement, stated here exactly). -/
theorem C07_restore_async (debug : Bool) (isProto : Nat → Bool) (st : Store) (plan : SavePlan)
    (stop : Option Nat) (n : Nat)
    (hok : ∀ v ∈ plan.snapshot, setterOk debug isProto (st v) = true) :
    let r := saveRunAsync debug isProto st plan stop (some n)
    r.2.2 = decide (n < plan.snapshot.length) ∧
    (∀ v ∈ plan.snapshot.take n, r.2.1 v = st v) ∧
    (∀ v, v ∉ plan.snapshot.take n → r.2.1 v = r.1 v) ∧
    (plan.snapshot.length ≤ n → r = saveRunChecked debug isProto st plan stop) := by
  intro r
  have hloop := fun mid => restoreLoop_take debug isProto st mid plan.snapshot n hok
  refine ⟨?_, ?_, ?_, ?_⟩
  · simp only [r, saveRunAsync, restoreLoopCut, hloop, Bool.false_or, List.length_map]
  · intro v hv
    simp only [r, saveRunAsync, restoreLoopCut, hloop]
    exact assignAll_saved st _ _ v hv
  · intro v hv
    simp only [r, saveRunAsync, restoreLoopCut, hloop]
    exact assignAll_saved_not_mem _ _ hv
  · intro hn
    have htake : (plan.snapshot.map fun v => (v, st v)).take n = plan.snapshot.map fun v => (v, st v) :=
      List.take_of_length_le (by simpa using hn)
    have hdec : decide (n < (plan.snapshot.map fun v => (v, st v)).length) = false := by
      simp; omega
    simp only [r, saveRunAsync, saveRunChecked, restoreLoopCut, htake, hdec, Bool.or_false]
    cases stop <;> rfl

-- the asynchronous exception after 1 of 3 restores: value 0 is restored, values 1 and 2 stay re-pointed
example :
    let r := saveRunAsync false (fun _ => true) (fun v => some (v + 6))
      (rawPlan [⟨300, false, true, false⟩, ⟨300, false, true, false⟩, ⟨300, false, true, false⟩] 0 100) none (some 1)
    r.2.1 0 = some 6 ∧ r.2.1 1 = some 101 ∧ r.2.1 2 = some 102 ∧ r.2.2 = true := by decide

/-! ## Call sequences -/

/-- **C07_rawBackend_ok**: the raw backend (`ir.save(external_data=)` / `unload_from_model`, any
    threshold, shard limit, alignment) delivers what `C07_sequence_preserves` asks of a backend:
    one reference per initializer, and with the written files in place every reference reads
    its initializer's bytes (`placeRaw_recordsFor`, i.e. `C07_roundtrip` by index, through `keyed_of_reads`). -/
theorem C07_rawBackend_ok (base : Nat) (thr : Int) (mx : Option Nat) (al : Option Nat) (athr : Nat) :
    (rawBackend base thr mx al athr).Ok := by
  intro refs vals fs hl
  have hvbl : (rawVB refs vals).length = vals.length := by simp [rawVB, hl]
  have hlenvb : ∀ x ∈ rawVB refs vals, x.1.nbytes = x.2.length := by
    intro x hx
    obtain ⟨k, hk, rfl⟩ := List.getElem_of_mem hx
    simp [rawVB]
  have := keyed_of_reads (·.1) (·.2) _ _ (becomesExternalRaw_excl thr) (rawVB refs vals) _ _ vals hvbl
    (fun k h1 h2 => by simp [rawVB]) (placeRaw_recordsFor (rawVB refs vals) hlenvb thr mx al athr) base fs
  rw [← unloadRaw_eq] at this
  exact this

/-- **C07_stBackend_ok**: the safetensors backend (`save_safetensors`, any threshold and shard limit,
    shards staged and moved into place after the last one was written) delivers what
    `C07_sequence_preserves` asks of a backend, provided the initializer names pass the up-front
    check of `save_safetensors` (pairwise different, not `__metadata__`): one reference per
    initializer, and with the written files in place every reference reads its initializer's bytes
    (`stReplace_recordsFor`, i.e. `C07_st_roundtrip`, through `keyed_of_reads`).  There is NO
    hypothesis about the dtypes: `stBackend` never fails, a dtype without table entry is written as `U8` (`viewOfD`), whereas the real save then
    raises `KeyError` before any file is moved into place (`C07_st_keyerror_iff`).  The statement
    speaks about the real save only for `metas` whose saved dtypes all have a table entry
    (`stSaveOk`). -/
theorem C07_stBackend_ok (base : Nat) (thr : Int) (mx : Option Nat) (metas : List StMeta)
    (hn : stNamesOk (metas.map (·.name)) = true) : (stBackend base thr mx metas).Ok := by
  intro refs vals fs hl
  have hvl := stVS_length metas refs vals hl
  have hnames : stNamesOk (((stVS metas refs vals).filter stSnapshotB).map (·.name)) = true :=
    stNamesOk_sublist _ _ (stVS_names_sublist metas refs vals) hn
  have := keyed_of_reads (·.init) (·.bytes) _ _ (becomesExternalSt_excl thr) (stVS metas refs vals) _ _ vals hvl
    (fun k h1 h2 => by
      obtain ⟨v, hv, hvb⟩ := stVS_get metas refs vals hl k h2
      rw [List.getElem?_eq_getElem h1] at hv
      rw [Option.some.inj hv, hvb])
    ((stReplace_recordsFor (stVS metas refs vals) thr mx hnames).mono fun _ _ h => h.1) base fs
  rw [← unloadStV_eq] at this
  exact this

-- the sequence model on a concrete history: save (threshold 1), load, save again onto the SAME
-- file with a higher threshold, load: every initializer reads its value; the first loaded model's
-- external reference is stale after the second save
example :
    let s0 : SeqState FileKey := { fs := fun _ => none, mem := [.inline [1, 2, 3], .inline [4]], disk := none }
    ((seqRun s0 [.save (rawBackend 0 1 none none 0), .load, .save (rawBackend 0 5 none none 0)]).map
        (·.mem)) = some [.stale, .inline [4]] ∧
    ((seqRun s0 [.save (rawBackend 0 1 none none 0), .load, .save (rawBackend 0 5 none none 0), .load]).map
        fun s => s.mem.map (Ref.value s.fs)) = some [some [1, 2, 3], some [4]] := by
  decide

section Seq
variable {κ : Type} [DecidableEq κ]

/-- **C07_sequence_preserves**: for ANY sequence of `ir.save` / `save_safetensors` (any backend
    parameters, any destination, also onto the files the model's own tensors live in),
    `unload_from_model`, `ir.load`, `load_to_model` and `convert_tensors_from_external` calls that
    runs to the end (no call was handed a tensor that cannot be read), started from a model whose
    initializers hold the values `V`: every reference of the caller's model and of the saved
    proto is either STALE (it points into a data file that a later save replaced: the documented
    "use load to obtain a valid model") or reads exactly the value of its initializer.  The
    backends enter through `Backend.Ok`, which `C07_rawBackend_ok` proves for the raw backend. -/
theorem C07_sequence_preserves (V : List (List Nat)) (ops : List (SeqOp κ)) (s0 s : SeqState κ)
    (hops : ∀ op ∈ ops, op.BackendOk) (h0 : SeqInv V s0) (hrun : seqRun s0 ops = some s) :
    SeqInv V s := by
  induction ops generalizing s0 with
  | nil => simp only [seqRun] at hrun; exact (Option.some.inj hrun) ▸ h0
  | cons op rest ih =>
    simp only [seqRun, Option.bind_eq_some_iff] at hrun
    obtain ⟨s1, hs1, hrest⟩ := hrun
    exact ih s1 (fun o ho => hops o (List.mem_cons_of_mem _ ho))
      (seqStep_inv V s0 s1 op (hops op (List.mem_cons_self ..)) h0 hs1) hrest

/-- the start: a model whose initializers are all in memory -/
theorem C07_sequence_init (V : List (List Nat)) (fs : FS κ) :
    SeqInv V ({ fs := fs, mem := V.map Ref.inline, disk := none } : SeqState κ) := by
  exact ⟨refsOk_inline V fs, fun _ h => nomatch h⟩

/-- **C07_sequence_save_load**: whatever happened before, a save that runs to the end followed by
    `ir.load` yields a model in which NO reference is stale and every initializer reads its
    original value. -/
theorem C07_sequence_save_load (V : List (List Nat)) (ops : List (SeqOp κ)) (b : Backend κ) (hb : b.Ok)
    (s0 s : SeqState κ) (hops : ∀ op ∈ ops, op.BackendOk) (h0 : SeqInv V s0)
    (hrun : seqRun s0 (ops ++ [.save b, .load]) = some s) :
    s.mem.length = V.length ∧ ∀ k (hk : k < V.length), ∃ r, s.mem[k]? = some r ∧ r ≠ .stale ∧
      r.value s.fs = some V[k] := by
  rw [seqRun_append, Option.bind_eq_some_iff] at hrun
  obtain ⟨s1, h1, h2⟩ := hrun
  have hinv1 := C07_sequence_preserves V ops s0 s1 hops h0 h1
  simp only [seqRun, seqStep, Option.bind_eq_some_iff, Option.map_eq_some_iff] at h2
  obtain ⟨s2, ⟨vals, hvals, rfl⟩, s3, ⟨refs, hrefs, rfl⟩, hfin⟩ := h2
  have hv := readAll_eq V s1.fs s1.mem hinv1.1 vals hvals
  subst hv
  have : s = _ := (Option.some.inj hfin).symm
  subst this
  have hrefs' : refs = (b s1.mem vals).refs := (Option.some.inj hrefs).symm
  subst hrefs'
  have hok := hb s1.mem vals s1.fs hinv1.1.1
  exact ⟨hok.1, hok.2⟩

end Seq

theorem OpSpec.toOp_ok (metas : List StMeta) (hn : stNamesOk (metas.map (·.name)) = true) (o : OpSpec) :
    (o.toOp metas).BackendOk := by
  cases o <;> simp only [OpSpec.toOp, SeqOp.BackendOk]
  · exact C07_rawBackend_ok _ _ _ _ _
  · exact C07_rawBackend_ok _ _ _ _ _
  · exact C07_stBackend_ok _ _ _ _ hn

/-- **C07_sequence_mixed**: `C07_sequence_preserves` with BOTH backend instances discharged.  For
    any sequence of `ir.save(external_data=)`, `unload_from_model`, `ir.save_safetensors` (any
    parameters, any destinations, in any mixture), `ir.load`, `load_to_model` and
    `convert_tensors_from_external` calls that runs to the end IN THE MODEL (where a safetensors save
    never fails on a dtype, see `C07_stBackend_ok`) on a model whose initializer names pass the
    safetensors name check: every reference of the caller's model and of the saved proto is stale
    or reads exactly the value of its initializer. -/
theorem C07_sequence_mixed (metas : List StMeta) (hn : stNamesOk (metas.map (·.name)) = true)
    (V : List (List Nat)) (specs : List OpSpec) (s0 s : SeqState FileKey) (h0 : SeqInv V s0)
    (hrun : seqRun s0 (specs.map (OpSpec.toOp metas)) = some s) : SeqInv V s := by
  refine C07_sequence_preserves V _ s0 s ?_ h0 hrun
  intro op hop
  obtain ⟨o, _, rfl⟩ := List.mem_map.mp hop
  exact OpSpec.toOp_ok metas hn o

/-- **C07_sequence_mixed_save_load**: whatever mixture of calls happened before, a save with EITHER
    backend that runs to the end, followed by `ir.load`, yields a model in which no reference is stale
    and every initializer reads its original value. -/
theorem C07_sequence_mixed_save_load (metas : List StMeta) (hn : stNamesOk (metas.map (·.name)) = true)
    (V : List (List Nat)) (specs : List OpSpec) (last : OpSpec) (hlast : last.isSave = true)
    (s0 s : SeqState FileKey) (h0 : SeqInv V s0)
    (hrun : seqRun s0 ((specs ++ [last, .load]).map (OpSpec.toOp metas)) = some s) :
    s.mem.length = V.length ∧ ∀ k (hk : k < V.length), ∃ r, s.mem[k]? = some r ∧ r ≠ .stale ∧
      r.value s.fs = some V[k] := by
  have hops : ∀ op ∈ specs.map (OpSpec.toOp metas), op.BackendOk := by
    intro op hop
    obtain ⟨o, _, rfl⟩ := List.mem_map.mp hop
    exact OpSpec.toOp_ok metas hn o
  rw [List.map_append] at hrun
  cases last with
  | rawSave base thr mx al athr =>
    exact C07_sequence_save_load V _ _ (C07_rawBackend_ok base thr mx al athr) s0 s hops h0 hrun
  | stSave base thr mx =>
    exact C07_sequence_save_load V _ _ (C07_stBackend_ok base thr mx metas hn) s0 s hops h0 hrun
  | rawUnload => simp [OpSpec.isSave] at hlast
  | load => simp [OpSpec.isSave] at hlast
  | loadToModel => simp [OpSpec.isSave] at hlast
  | convert k => simp [OpSpec.isSave] at hlast

-- a mixed history on a concrete model: raw save, load, safetensors save with threshold 0 onto new files,
-- load, raw save onto the FIRST data file again, load: every initializer reads its value at the end and the
-- model loaded from the safetensors files is not stale (its files were not replaced)
example :
    let metas : List StMeta := [⟨[0x61], .uint8, [3]⟩, ⟨[0x62], .uint8, [1]⟩]
    let s0 : SeqState FileKey := { fs := fun _ => none, mem := [.inline [1, 2, 3], .inline [4]], disk := none }
    ((seqRun s0 ([OpSpec.rawSave 0 1 none none 0, .load, .stSave 1 0 none, .load,
        .rawSave 0 0 none none 0].map (OpSpec.toOp metas))).map fun s => s.mem.map (Ref.value s.fs))
      = some [some [1, 2, 3], some [4]] ∧
    ((seqRun s0 ([OpSpec.rawSave 0 1 none none 0, .load, .stSave 1 0 none, .load].map (OpSpec.toOp metas))).map
      fun s => s.mem.map Ref.isExt) = some [true, true] := by
  decide +kernel

end IrVerif.Layout
