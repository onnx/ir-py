/-
C06 — a rejected edit leaves every IR object exactly as it was.
Model: `IrVerif/Model/Kernel.lean`.  Every public call is `validate ; mutate`; `C06_atomic` says that `step` returns the
very world it was given whenever its outcome is `raised`.  Of the multi-pair `convenience.replace_all_uses_with`,
`ConvOp.rauwManyExact` is /repo (commit c936126, fix of D82) and `ConvOp.rauwMany` the loop before that commit.  The
`C06_rejects_*` hold for ANY world, well formed or not.  At the end: the partial fix proposed for D83 (`Model/KernelFix.lean`).
-/
import IrVerif.Lemmas.KernelFaithful
import IrVerif.Model.KernelView
import IrVerif.Model.KernelFix
import IrVerif.Lemmas.KernelOps
import IrVerif.Lemmas.KernelReject
namespace IrVerif.Kernel

/-- **C06_atomic**: on a well-formed world, a call that raises leaves the whole world equal to the
world before the call (every field of every object, reference counters, initializer keys and order,
name-authority counters and name sets).  Not by definition: a call also raises when a check fails
after the first write (`guardOp`), and then returns the partially written world; the theorem says this
never happens. -/
theorem C06_atomic (w : World) (op : Op) (k : String) (hw : WF w)
    (h : (step w op).2 = .raised k) : (step w op).1 = w :=
  (step_guarded w op).atomic (step_late w hw op) h

/-- **C06_rename_values_atomic**: `rename_values` is all or nothing for any assignment (swaps, cycles,
repeated values, mixed initializers / plain values, tensors that refuse their new name).  The model
runs the three phases of the code — take the renamed initializers out of their mappings, rename, put
them back — with their own checks; the theorem says that after the up-front validation none of these
checks fails. -/
theorem C06_rename_values_atomic (w : World) (hw : WF w) (vs : List Nat) (names : List String) (k : String)
    (h : (renameValues w vs names).2 = .raised k) : (renameValues w vs names).1 = w :=
  (renameValues_guarded w vs names).atomic (renameValues_late w hw vs names) h

/-- **C06_rauw_many_atomic**: `convenience.replace_all_uses_with` with several pairs, as /repo has it (commit c936126,
fix of D82: every pair is checked against the ownership the pairs before it will have produced, then the loop runs —
`rauwManyExact`), is all or nothing: a length mismatch or a rejected pair at ANY position k — also one that only the
interaction of the pairs makes unacceptable — leaves the whole world as it was. -/
theorem C06_rauw_many_atomic (w : World) (hw : WF w) (vs rs : List Nat) (rgo : Bool) (k : String)
    (h : (stepConv w (.rauwManyExact vs rs rgo)).2 = .raised k) :
    (stepConv w (.rauwManyExact vs rs rgo)).1 = w :=
  rauwManyExact_atomic w hw vs rs rgo k h

/-- **C06_view_atomic**: a rejected `GraphView(...)` (an initializer without a name) and a rejected edit of
a view's plain initializer dict (`del view.initializers[absent]`) leave the kernel world AND every existing view
exactly as they were. -/
theorem C06_view_atomic (vw : VWorld) (op : ViewOp) (k : String) (h : (viewStep vw op).2 = .raised k) :
    (viewStep vw op).1 = vw := by
  -- every edit of an existing view goes through `onView`
  have hon : ∀ i f, (onView vw i f).2 = .raised k → (onView vw i f).1 = vw := by
    intro i f h; unfold onView at h ⊢; split
    · rw [if_pos (by assumption)] at h; cases h
    · rfl
  cases op with
  | newView inputs outputs nodes inits =>
    simp only [viewStep] at h ⊢; split
    · rfl
    · rw [if_neg (by assumption)] at h; cases h
  | initDel i key =>
    simp only [viewStep] at h ⊢; split
    · rfl
    · rw [if_neg (by assumption)] at h; exact hon _ _ h
  | _ => exact hon _ _ h

/-- the hypothesis is needed: on an ill-formed world a check does fail after a write -/
example : ∃ w op k, (step w op).2 = .raised k ∧ (step w op).1 ≠ w :=
  ⟨{ vals := [{ uses := [(0, 0)] }] }, .rauw 0 0 false, "late-check", by decide⟩

/-! ### non-vacuity: every operation that can raise does raise on a reachable world -/

/-- two graphs; `v0` is input of `g0` and consumed by `n0`; `v1 = n0.out` is output of `g0` and consumed
by `n1`; `v3` is an initializer of `g0`; `n0 ∈ g0`, `n1 ∈ g1` -/
def exW : World := run
  [ .newValue (some "x"),                                        -- v0
    .newNode "A" (some "n0") [some 0] (some 1) none none,        -- n0, v1
    .newNode "B" (some "n1") [some 1] none none none,            -- n1, v2
    .newValue (some "w"),                                        -- v3
    .newGraph [0] [1] [0] [3],                                   -- g0
    .newGraph [] [] [1] [],                                      -- g1
    .newValue none ]                                             -- v4

theorem exW_eq : exW =
    { vals := [{ name := some "x", uses := [(0, 0)], graph := some 0, isIn := true },
               { name := some "val_0", producer := some 0, index := some 0, uses := [(1, 0)], graph := some 0, isOut := true },
               { name := some "val_0", producer := some 1, index := some 0 },
               { name := some "w", graph := some 0, isInit := true }, {}],
      nodes := [{ inputs := [some 0], outputs := [1], graph := some 0, name := some "n0", opType := "A" },
                { inputs := [some 1], outputs := [2], graph := some 1, name := some "n1", opType := "B" }],
      graphs := [{ inputs := [0], outputs := [1], inCnt := [1], outCnt := [0, 1], inits := [("w", 3)], nodes := [0],
                   vCtr := 1, vNames := ["val_0", "w", "x"], nNames := ["n0"] },
                 { nodes := [1], vCtr := 1, vNames := ["val_0"], nNames := ["n1"] }],
      extra := [["val_0", "w", "x"]] } := by decide +kernel

example : ((exW.gr 0).inputs, (exW.gr 0).outputs, (exW.gr 0).inits, (exW.gr 0).nodes, (exW.gr 1).nodes) =
    ([0], [1], [("w", 3)], [0], [1]) :=
  exW_eq ▸ rfl

example : (step exW (.newNode "C" none [] none (some [1]) none)).2 = .raised "ValueError" := exW_eq ▸ rfl
example : (step exW (.newNode "C" none [] (some 2) (some [4]) none)).2 = .raised "ValueError" := exW_eq ▸ rfl
example : (step exW (.newNode "C" none [] none (some [4, 4]) none)).2 = .raised "ValueError" := exW_eq ▸ rfl
example : (step exW (.newNode "C" none [] none (some [0]) none)).2 = .raised "ValueError" := exW_eq ▸ rfl
example : (step exW (.newGraph [4] [0] [] [])).2 = .raised "ValueError" := exW_eq ▸ rfl
example : (step exW (.newGraph [4] [] [0] [])).2 = .raised "ValueError" := exW_eq ▸ rfl
example : (step exW (.newGraph [4] [] [] [4])).2 = .raised "ValueError" := exW_eq ▸ rfl
example : (step exW (.replaceInput 1 5 none)).2 = .raised "ValueError" := exW_eq ▸ rfl
example : (step exW (.replaceInput 1 (-1) none)).2 = .raised "ValueError" := exW_eq ▸ rfl
example : (step exW (.resizeInputs 1 (-1))).2 = .raised "ValueError" := exW_eq ▸ rfl
example : (step exW (.resizeOutputs 0 0)).2 = .raised "ValueError" := exW_eq ▸ rfl
example : (step exW (.rauw 1 4 false)).2 = .raised "ValueError" := exW_eq ▸ rfl
example : (step exW (.io 1 .inp (.append 0))).2 = .raised "ValueError" := exW_eq ▸ rfl
example : (step exW (.io 0 .inp (.append 1))).2 = .raised "ValueError" := exW_eq ▸ rfl
example : (step exW (.io 1 .out (.extend [4, 0]))).2 = .raised "ValueError" := exW_eq ▸ rfl
example : (step exW (.io 1 .out (.insert 0 3))).2 = .raised "ValueError" := exW_eq ▸ rfl
example : (step exW (.io 1 .out (.pop (-1)))).2 = .raised "IndexError" := exW_eq ▸ rfl
example : (step exW (.io 0 .inp (.remove 4))).2 = .raised "ValueError" := exW_eq ▸ rfl
example : (step exW (.io 0 .inp (.setItem 0 1))).2 = .raised "IndexError|ValueError" := exW_eq ▸ rfl
example : (step exW (.io 0 .inp (.setItem 3 4))).2 = .raised "IndexError|ValueError" := exW_eq ▸ rfl
example : (step exW (.io 0 .inp (.setSlice none none none [4, 1]))).2 = .raised "ValueError" := exW_eq ▸ rfl
example : (step exW (.io 0 .inp (.setSlice none none (some 2) [4, 4]))).2 = .raised "ValueError" := exW_eq ▸ rfl
example : (step exW (.io 0 .inp (.setSlice none none (some 0) []))).2 = .raised "ValueError" := exW_eq ▸ rfl
example : (step exW (.io 0 .inp (.delItem 1))).2 = .raised "IndexError" := exW_eq ▸ rfl
example : (step exW (.io 0 .inp (.delSlice none none (some 0)))).2 = .raised "ValueError" := exW_eq ▸ rfl
example : (step exW (.io 0 .inp (.iadd [4]))).2 = .raised "RuntimeError" := exW_eq ▸ rfl
example : (step exW (.io 0 .inp (.imul 2))).2 = .raised "RuntimeError" := exW_eq ▸ rfl
example : (step exW (.init 1 (.setItem "w" 3))).2 = .raised "ValueError" := exW_eq ▸ rfl
example : (step exW (.init 0 (.setItem "k" 0))).2 = .raised "ValueError" := exW_eq ▸ rfl
example : (step exW (.init 0 (.setItem "" 4))).2 = .raised "ValueError" := exW_eq ▸ rfl
example : (step exW (.init 0 (.delItem "k"))).2 = .raised "KeyError" := exW_eq ▸ rfl
example : (step exW (.init 0 (.add 4))).2 = .raised "TypeError|ValueError" := exW_eq ▸ rfl
example : (step exW (.init 0 (.pop "k"))).2 = .raised "KeyError" := exW_eq ▸ rfl
example : (step exW (.init 1 .popitem)).2 = .raised "KeyError" := exW_eq ▸ rfl
example : (step exW (.init 0 (.update [("a", 4), ("b", 4)]))).2 = .raised "ValueError" := exW_eq ▸ rfl
example : (step exW (.init 0 (.setdefault "k" 1))).2 = .raised "ValueError" := exW_eq ▸ rfl
example : (step exW (.init 0 (.register 0))).2 = .raised "ValueError" := exW_eq ▸ rfl
example : (step exW (.setName 3 none)).2 = .raised "ValueError|AttributeError" := exW_eq ▸ rfl
example : (step exW (.setName 3 (some ""))).2 = .raised "ValueError|AttributeError" := exW_eq ▸ rfl
/-- a const tensor that refuses the rename: raised, nothing changed (also for a plain value) -/
example : (step (step exW (.setConst 4 true)).1 (.setName 4 (some "q"))).2 = .raised "ValueError|AttributeError" :=
  exW_eq ▸ rfl
example : (step exW (.append 0 1)).2 = .raised "ValueError" := exW_eq ▸ rfl
example : (step exW (.extend 0 [0, 1])).2 = .raised "ValueError" := exW_eq ▸ rfl
example : (step exW (.insertAfter 0 1 [0])).2 = .raised "ValueError" := exW_eq ▸ rfl
example : (step exW (.insertBefore 0 0 [1])).2 = .raised "ValueError" := exW_eq ▸ rfl
example : (step exW (.remove 0 [1] false)).2 = .raised "ValueError" := exW_eq ▸ rfl
example : (step exW (.remove 0 [0] true)).2 = .raised "ValueError" := exW_eq ▸ rfl
example : (step exW .sortCycle).2 = .raised "ValueError" := exW_eq ▸ rfl
/-- a dependency cycle `n0 <-> n1` in one graph: the real sort (C12's model on the tree read off the world) raises -/
def exCyc : World := run
  [ .newValue none,
    .newNode "A" (some "n0") [none] none none none,
    .newNode "B" (some "n1") [some 1] none none none,
    .replaceInput 0 0 (some 2),
    .newGraph [] [] [0, 1] [] ]

theorem exCyc_eq : exCyc =
    { vals := [{}, { name := some "val_0", producer := some 0, index := some 0, uses := [(1, 0)] },
               { name := some "val_1", producer := some 1, index := some 0, uses := [(0, 0)] }],
      nodes := [{ inputs := [some 2], outputs := [1], graph := some 0, name := some "n0", opType := "A" },
                { inputs := [some 1], outputs := [2], graph := some 0, name := some "n1", opType := "B" }],
      graphs := [{ nodes := [0, 1], vCtr := 2, vNames := ["val_1", "val_0"], nNames := ["n1", "n0"] }] } := by decide +kernel

example : (step exCyc (.sort 0)).2 = .raised "ValueError" := exCyc_eq ▸ rfl
example : (step exW (.attrDel 0 "k" true)).2 = .raised "KeyError" := exW_eq ▸ rfl
example : (step exW (.io 0 .inp (.sort [] false))).2 = .ok := exW_eq ▸ rfl
/-- `Tape.initializer` is a composite and NOT claimed atomic: the new value exists although the graph refused it -/
example : (tapeInitializer exW (some 0) (some "w") none false).2 = .raised "ValueError" ∧
    (tapeInitializer exW (some 0) (some "w") none false).1 ≠ exW :=
  exW_eq ▸ by decide
example : (renameValues exW [3, 4] ["a", "a", "b"]).2 = .raised "ValueError" := exW_eq ▸ rfl
example : (renameValues exW [3, 3] ["a", "b"]).2 = .raised "ValueError" := exW_eq ▸ rfl
example : (renameValues exW [4, 3] ["q", ""]).2 = .raised "ValueError|AttributeError" := exW_eq ▸ rfl
/-- the loop without the up-front check (`rauwMany`, /repo before c936126) is not atomic: a later pair is rejected after the
first was applied -/
example : (rauwMany exW [0, 1] [4, 4] false).2 = .raised "ValueError" ∧ (rauwMany exW [0, 1] [4, 4] false).1 ≠ exW :=
  exW_eq ▸ by decide
/-- with the up-front check (`rauwManyExact`, /repo) the same arguments leave everything as it was (`C06_rauw_many_atomic`) -/
example : (rauwManyExact exW [0, 1] [4, 4] false).2 = .raised "ValueError" ∧ (rauwManyExact exW [0, 1] [4, 4] false).1 = exW :=
  exW_eq ▸ by decide
/-- a rejected view creation / a `KeyError` on a view's plain dict (`C06_view_atomic`) -/
example : (viewStep { w := exW } (.newView [0] [1] [0] [4])).2 = .raised "ValueError" := exW_eq ▸ rfl
example : (viewStep (viewStep { w := exW } (.newView [0] [1] [0] [3])).1 (.initDel 0 "k")).2 = .raised "KeyError" :=
  exW_eq ▸ rfl
/-- the rejected bulk update really was going to change something before its second entry -/
example : (initUpdateSeq exW 0 [("a", 4), ("b", 4)]).1 ≠ exW := exW_eq ▸ by decide

/-! ### the rejection reasons of the statement, one corollary each

Every theorem: for ANY world (no well-formedness needed: these rejections are all decided by the up-front validation)
and any arguments meeting the decidable condition, the call raises and returns the very world it was given.  The
conditions (`offered`, `foreignTo`, `produced`, `offeredNodes`, `requiredMembers`, `foreignNode`, `notMember`) are in
`Lemmas/KernelReject.lean`.  Each is followed by a reachable world (`exW` / `exW2` / `exCyc`, histories from
`World.empty`) and arguments meeting the condition, checked by `decide`. -/

/-- **C06_rejects_foreign_value**: a call that offers — as graph input, graph output or initializer, at any position
of a multi-element argument — a value owned by ANOTHER graph raises and changes nothing.  Families (`offered`):
`append / extend / insert / [i]= / [a:b:c]=` of the tracked input and output lists, `[key]= / add / setdefault /
register_initializer` of the initializer mapping, `Graph(inputs, outputs, initializers=…)`, and
`Value.replace_all_uses_with` on a graph output (the replacement would become an output of that graph). -/
theorem C06_rejects_foreign_value (w : World) (op : Op)
    (h : (offered w op).any (fun p => foreignTo w p.1 p.2.2) = true) : ∃ k, step w op = (w, .raised k) := by
  rw [List.any_eq_true] at h
  obtain ⟨p, hp, hf⟩ := h
  exact step_rejects_offered w op ⟨p, hp, slotOK_foreign w _ _ _ hf⟩

/-- **C06_rejects_produced_value**: a call that offers the output of a node as graph INPUT or as INITIALIZER (same
families, any position) raises and changes nothing. -/
theorem C06_rejects_produced_value (w : World) (op : Op)
    (h : (offered w op).any (fun p => decide (p.2.1 ≠ Slot.out) && produced w p.2.2) = true) :
    ∃ k, step w op = (w, .raised k) := by
  rw [List.any_eq_true] at h
  obtain ⟨p, hp, hf⟩ := h
  simp only [Bool.and_eq_true, decide_eq_true_eq] at hf
  exact step_rejects_offered w op ⟨p, hp, slotOK_produced w _ _ _ hf.1 hf.2⟩

/-- **C06_rejects_foreign_node**: `append / extend / insert_after / insert_before / Graph(nodes=…)` with a node that
belongs to ANOTHER graph (any position), an insertion whose anchor is not in this graph, and `remove` of a node that is
not in this graph: `ValueError`, nothing changed. -/
theorem C06_rejects_foreign_node (w : World) (op : Op)
    (h : ((offeredNodes w op).any (fun p => foreignNode w p.1 p.2) ||
          (requiredMembers op).any (fun p => notMember w p.1 p.2)) = true) :
    step w op = (w, .raised "ValueError") := by
  rw [Bool.or_eq_true, List.any_eq_true, List.any_eq_true] at h
  exact step_rejects_node w op h

/-- **C06_rejects_unsafe_removal**: `graph.remove(nodes, safe=True)` where an output of one of the nodes is a graph
output or is still consumed by a node outside the removed set: `ValueError`, nothing changed (no input of any of the
nodes was detached). -/
theorem C06_rejects_unsafe_removal (w : World) (g : Nat) (ns : List Nat)
    (h : ns.any (fun n => unsafeToRemove w g ns n) = true) :
    step w (.remove g ns true) = (w, .raised "ValueError") := by
  rw [List.any_eq_true] at h
  obtain ⟨n, hn, hu⟩ := h
  have := any_true_of_mem ns (fun n => decide ((w.node n).graph ≠ some g) || (true && unsafeToRemove w g ns n)) n hn
    (by simp [hu])
  simp only [step, graphRemove, guardOp]
  rw [if_pos]
  simpa using this

/-- **C06_rejects_initializer_name_collision**: when `s` is the key of an initializer `other` of graph `g`,
(1) renaming a different-named initializer of `g` to `s`, (2) `register_initializer` of another value named `s`,
(3) `rename_values` sending two distinct initializers of one graph to one name — each raises, nothing changed. -/
theorem C06_rejects_initializer_name_collision (w : World) (g v : Nat) (s : String) :
    (∀ other, lookupInit (w.gr g).inits s = some other →
      ((w.val v).isInit = true → (w.val v).graph = some g → (w.val v).name ≠ some s →
        step w (.setName v (some s)) = (w, .raised "ValueError|AttributeError")) ∧
      ((w.val v).name = some s → other ≠ v → step w (.init g (.register v)) = (w, .raised "ValueError"))) ∧
    (∀ v2, v ≠ v2 → (w.val v).isInit = true → (w.val v2).isInit = true → (w.val v).graph = (w.val v2).graph →
      stepConv w (.renameValues [v, v2] [s, s]) = (w, .raised "ValueError|AttributeError")) := by
  refine ⟨fun other hk => ⟨fun hi hg hn => ?_, fun hn ho => ?_⟩, fun v2 hne hi hi2 hg => ?_⟩
  · simp only [step, setName, guardOp]
    rw [if_pos]
    cases hname : (w.val v).name <;> simp_all
  · simp only [step, initMut, guardOp]
    rw [if_pos]
    simp [hn, hk, ho]
  · have hd : dedupPairs [] ([v, v2].zip [s, s]) = some [(v, s), (v2, s)] := by
      simp [dedupPairs, hne]
    simp only [stepConv, renameValues, List.length_cons, List.length_nil, ne_eq, not_true_eq_false, if_false, hd,
      guardOp]
    rw [if_pos]
    simp [renameBad, hi, hi2, hg, hne, Ne.symm hne]

/-- **C06_rejects_missing_name**: an initializer needs a non-empty name.  For a value without one (`None` or `""`):
`initializers.add`, `register_initializer`, `Graph(initializers=[…, v, …])` and `GraphView(initializers=[…, v, …])`
raise; so do `initializers[""] = v'` for any `v'`, and un-naming an initializer (`value.name = None` / `""`).
Nothing changes. -/
theorem C06_rejects_missing_name (w : World) (g v : Nat) (h : falsy (w.val v).name = true) :
    step w (.init g (.add v)) = (w, .raised "TypeError|ValueError") ∧
    step w (.init g (.register v)) = (w, .raised "ValueError") ∧
    (∀ ins outs ns inits, v ∈ inits → step w (.newGraph ins outs ns inits) = (w, .raised "ValueError")) ∧
    (∀ (vw : VWorld) ins outs ns inits, vw.w = w → v ∈ inits →
      viewStep vw (.newView ins outs ns inits) = (vw, .raised "ValueError")) ∧
    (∀ v', step w (.init g (.setItem "" v')) = (w, .raised "ValueError")) ∧
    (∀ u s, (w.val u).isInit = true → (w.val u).name ≠ s → falsy s = true →
      step w (.setName u s) = (w, .raised "ValueError|AttributeError")) := by
  refine ⟨?_, ?_, fun ins outs ns inits hv => newGraph_rejects_unnamed w ins outs ns inits v hv h,
    fun vw ins outs ns inits hw hv => ?_, fun v' => ?_, fun u s hi hn hs => ?_⟩
  · simp only [step, initMut, guardOp]
    rw [if_pos]
    unfold falsy at h
    cases hn : (w.val v).name <;> simp_all [initOK]
  · simp only [step, initMut, guardOp]
    rw [if_pos]
    unfold falsy at h
    cases hn : (w.val v).name <;> simp_all
  · subst hw
    have := any_true_of_mem inits (fun v => falsy (vw.w.val v).name) v hv h
    simp only [viewStep, this, if_true]
  · simp [step, initMut, initSetItem, guardOp, initOK]
  · simp only [step, setName, guardOp]
    rw [if_pos]
    unfold falsy at hs
    cases s with
    | none => simp_all
    | some s' =>
      simp at hs
      subst hs
      cases hname : (w.val u).name <;> cases hgr : (w.val u).graph <;> simp_all

/-- **C06_rejects_index_out_of_range**: `replace_input_with(idx, …)` outside `0 ≤ idx < len(inputs)`, a negative
`resize_inputs`, and `pop(i)` / `del lst[i]` / `lst[i] = v` on a tracked list outside `-len ≤ i < len` raise; nothing
changed. -/
theorem C06_rejects_index_out_of_range (w : World) :
    (∀ n (idx : Int) nv, (idx < 0 ∨ idx ≥ (w.node n).inputs.length) →
      step w (.replaceInput n idx nv) = (w, .raised "ValueError")) ∧
    (∀ n (k : Int), k < 0 → step w (.resizeInputs n k) = (w, .raised "ValueError")) ∧
    (∀ g kd (i : Int), (i < -((ioList kd (w.gr g)).length : Int) ∨ i ≥ (ioList kd (w.gr g)).length) →
      step w (.io g kd (.pop i)) = (w, .raised "IndexError") ∧
      step w (.io g kd (.delItem i)) = (w, .raised "IndexError") ∧
      ∀ v, step w (.io g kd (.setItem i v)) = (w, .raised "IndexError|ValueError")) := by
  refine ⟨fun n idx nv h => ?_, fun n k h => ?_, fun g kd i h => ?_⟩
  · simp only [step, replaceInput, guardOp]
    rw [if_pos]
    simpa using h
  · simp only [step, resizeInputs, guardOp]
    rw [if_pos]
    simpa using h
  · have hn : normIndex (ioList kd (w.gr g)).length i = none := by
      unfold normIndex
      simp only
      split <;> rename_i hneg <;> rw [if_pos] <;> omega
    refine ⟨?_, ?_, fun v => ?_⟩ <;> simp [step, ioMut, guardOp, hn]

/-- **C06_rejects_sort_cycle**: when C12's sort model finds no order for the tree read off the world (a dependency
cycle anywhere in the nest — `C12_cycle_iff_lifted` — or a graph object shared between two attributes),
`graph.sort()` raises `ValueError` and no graph of the nest is re-linked. -/
theorem C06_rejects_sort_cycle (w : World) (g : Nat) (h : Sort.sortModel (treeOf w g) = none) :
    step w (.sort g) = (w, .raised "ValueError") := by
  simp only [step, graphSort, h]

/-- **C06_rejects_shrink_with_uses**: `resize_outputs(k)` that would drop an output which still has a consumer raises
`ValueError`; no output was detached (also not the unused ones after it). -/
theorem C06_rejects_shrink_with_uses (w : World) (n : Nat) (k : Int)
    (h : ((w.node n).outputs.drop
        (if k < 0 then (((w.node n).outputs.length : Int) + k).toNat else k.toNat)).any
          (fun v => decide ((w.val v).uses ≠ [])) = true) :
    step w (.resizeOutputs n k) = (w, .raised "ValueError") := by
  simp only [step, resizeOutputs, guardOp]
  rw [if_pos]
  exact h

/-- **C06_retry**: a history in which an all-or-nothing call (`atomicCall`: any single call, `rename_values`, the
multi-pair `replace_all_uses_with`) was rejected is the history without that call: the same final world, and the same
outcome for every other call — the outcome list is that of the shorter history with the rejection inserted at its
place.  So a caller that catches the exception can go on (retry, or do something else) exactly as if the rejected call
had never been made. -/
theorem C06_retry (ops1 ops2 : List AnyOp) (bad : AnyOp) (k : String) (hat : atomicCall bad = true)
    (h : (stepAny (runAny ops1) bad).2 = .raised k) :
    runAny (ops1 ++ [bad] ++ ops2) = runAny (ops1 ++ ops2) ∧
    outcomesAny (ops1 ++ [bad] ++ ops2) =
      (outcomesAny (ops1 ++ ops2)).take ops1.length ++ [.raised k] ++ (outcomesAny (ops1 ++ ops2)).drop ops1.length := by
  have hwf : WF (runAny ops1) := runAny_WF ops1
  have hsame : (stepAny (runAny ops1) bad).1 = runAny ops1 := by
    match bad, hat with
    | .one op, _ => exact C06_atomic _ op k hwf h
    | .conv (.renameValues vs names), _ => exact C06_rename_values_atomic _ hwf vs names k h
    | .conv (.rauwManyExact vs rs rgo), _ => exact C06_rauw_many_atomic _ hwf vs rs rgo k h
  have hrun : runFrom World.empty (ops1 ++ [bad]) = runFrom World.empty ops1 := by
    rw [runFrom_append]
    exact hsame
  have hlen : (outcomesFrom World.empty ops1).length = ops1.length := outcomesFrom_length _ _
  constructor
  · simp only [runAny_eq]
    rw [runFrom_append, hrun, ← runFrom_append]
  · simp only [outcomesAny]
    rw [outcomesFrom_append (ops1 ++ [bad]) ops2, hrun, outcomesFrom_append ops1 [bad], outcomesFrom_append ops1 ops2,
      List.take_left' hlen, List.drop_left' hlen]
    simp only [outcomesFrom]
    rw [← runAny_eq, h]

/-! #### non-vacuity of `C06_rejects_*` / `C06_retry`: reachable worlds and arguments meeting each condition -/

/-- `exW` plus a second initializer `k = v4` of `g0` and a free value `v5` named like the first one -/
def exW2 : World := run
  [ .newValue (some "x"),                                        -- v0
    .newNode "A" (some "n0") [some 0] (some 1) none none,        -- n0, v1
    .newNode "B" (some "n1") [some 1] none none none,            -- n1, v2
    .newValue (some "w"),                                        -- v3
    .newGraph [0] [1] [0] [3],                                   -- g0
    .newGraph [] [] [1] [],                                      -- g1
    .newValue none,                                              -- v4
    .init 0 (.setItem "k" 4),                                    -- g0.initializers = {w: v3, k: v4}
    .newValue (some "w"),                                        -- v5
    .newValue none ]                                             -- v6

theorem exW2_eq : exW2 =
    { vals := [{ name := some "x", uses := [(0, 0)], graph := some 0, isIn := true },
               { name := some "val_0", producer := some 0, index := some 0, uses := [(1, 0)], graph := some 0, isOut := true },
               { name := some "val_0", producer := some 1, index := some 0 },
               { name := some "w", graph := some 0, isInit := true }, { name := some "k", graph := some 0, isInit := true },
               { name := some "w" }, {}],
      nodes := [{ inputs := [some 0], outputs := [1], graph := some 0, name := some "n0", opType := "A" },
                { inputs := [some 1], outputs := [2], graph := some 1, name := some "n1", opType := "B" }],
      graphs := [{ inputs := [0], outputs := [1], inCnt := [1], outCnt := [0, 1], inits := [("w", 3), ("k", 4)], nodes := [0],
                   vCtr := 1, vNames := ["val_0", "w", "x"], nNames := ["n0"] },
                 { nodes := [1], vCtr := 1, vNames := ["val_0"], nNames := ["n1"] }],
      extra := [["k", "val_0", "w", "x"]] } := by decide +kernel

example : (exW2.gr 0).inits = [("w", 3), ("k", 4)] := exW2_eq ▸ rfl

-- foreign value: `v0` belongs to `g0`; offered to `g1` alone, inside an `extend`, as initializer, to a new graph
example : (offered exW (.io 1 .inp (.append 0))).any (fun p => foreignTo exW p.1 p.2.2) = true := exW_eq ▸ rfl
example : step exW (.io 1 .inp (.append 0)) = (exW, .raised "ValueError") := exW_eq ▸ rfl
example : (offered exW (.io 1 .out (.extend [4, 0]))).any (fun p => foreignTo exW p.1 p.2.2) = true :=
  exW_eq ▸ rfl
example : (offered exW (.init 1 (.setItem "x" 0))).any (fun p => foreignTo exW p.1 p.2.2) = true := exW_eq ▸ rfl
example : (offered exW (.newGraph [4] [0] [] [])).any (fun p => foreignTo exW p.1 p.2.2) = true := exW_eq ▸ rfl
-- produced value: `v1 = n0.out` offered as input of `g0`, as initializer, as input of a new graph
example : (offered exW (.io 0 .inp (.append 1))).any (fun p => decide (p.2.1 ≠ Slot.out) && produced exW p.2.2) = true :=
  exW_eq ▸ by decide
example : step exW (.io 0 .inp (.append 1)) = (exW, .raised "ValueError") := exW_eq ▸ rfl
example : (offered exW (.init 0 (.setItem "y" 2))).any (fun p => decide (p.2.1 ≠ Slot.out) && produced exW p.2.2) = true :=
  exW_eq ▸ by decide
example : (offered exW (.newGraph [4, 2] [] [] [])).any (fun p => decide (p.2.1 ≠ Slot.out) && produced exW p.2.2) = true :=
  exW_eq ▸ by decide
-- foreign node: `n1 ∈ g1` appended to `g0`; anchor `n1` not in `g0`; removal of `n1` from `g0`
example : ((offeredNodes exW (.append 0 1)).any (fun p => foreignNode exW p.1 p.2) ||
    (requiredMembers (.append 0 1)).any (fun p => notMember exW p.1 p.2)) = true :=
  exW_eq ▸ rfl
example : step exW (.append 0 1) = (exW, .raised "ValueError") := exW_eq ▸ rfl
example : ((offeredNodes exW (.insertAfter 0 1 [])).any (fun p => foreignNode exW p.1 p.2) ||
    (requiredMembers (.insertAfter 0 1 [])).any (fun p => notMember exW p.1 p.2)) = true :=
  exW_eq ▸ rfl
example : ((offeredNodes exW (.remove 0 [0, 1] false)).any (fun p => foreignNode exW p.1 p.2) ||
    (requiredMembers (.remove 0 [0, 1] false)).any (fun p => notMember exW p.1 p.2)) = true :=
  exW_eq ▸ rfl
-- unsafe removal: `n0.out = v1` is an output of `g0` and consumed by `n1`
example : [0].any (fun n => unsafeToRemove exW 0 [0] n) = true := exW_eq ▸ rfl
example : step exW (.remove 0 [0] true) = (exW, .raised "ValueError") := exW_eq ▸ rfl
-- initializer name collision: `w` is the key of `v3` in `g0`; `v4` is the initializer `k`; `v5` is named `w`
example : lookupInit (exW2.gr 0).inits "w" = some 3 ∧ (exW2.val 4).isInit = true ∧ (exW2.val 4).graph = some 0 ∧
    (exW2.val 4).name ≠ some "w" ∧ (exW2.val 5).name = some "w" ∧ 3 ≠ 5 ∧ (3 : Nat) ≠ 4 ∧ (exW2.val 3).isInit = true ∧
    (exW2.val 3).graph = (exW2.val 4).graph :=
  exW2_eq ▸ by decide
example : step exW2 (.setName 4 (some "w")) = (exW2, .raised "ValueError|AttributeError") := exW2_eq ▸ rfl
example : step exW2 (.init 0 (.register 5)) = (exW2, .raised "ValueError") := exW2_eq ▸ rfl
example : stepConv exW2 (.renameValues [3, 4] ["z", "z"]) = (exW2, .raised "ValueError|AttributeError") :=
  exW2_eq ▸ rfl
-- missing name: `v6` has none
example : falsy (exW2.val 6).name = true ∧ (exW2.val 4).isInit = true ∧ (exW2.val 4).name ≠ none :=
  exW2_eq ▸ by decide
example : step exW2 (.init 0 (.add 6)) = (exW2, .raised "TypeError|ValueError") := exW2_eq ▸ rfl
example : step exW2 (.newGraph [] [] [] [6]) = (exW2, .raised "ValueError") := exW2_eq ▸ rfl
example : step exW2 (.setName 4 none) = (exW2, .raised "ValueError|AttributeError") := exW2_eq ▸ rfl
-- index out of range: `n1` has one input; `g0` has one input
example : ((5 : Int) < 0 ∨ (5 : Int) ≥ (exW.node 1).inputs.length) ∧
    ((-2 : Int) < -((ioList .inp (exW.gr 0)).length : Int) ∨ (-2 : Int) ≥ (ioList .inp (exW.gr 0)).length) :=
  exW_eq ▸ by decide
example : step exW (.replaceInput 1 5 none) = (exW, .raised "ValueError") := exW_eq ▸ rfl
example : step exW (.io 0 .inp (.pop (-2))) = (exW, .raised "IndexError") := exW_eq ▸ rfl
-- sort cycle: `n0 <-> n1` in one graph
example : Sort.sortModel (treeOf exCyc 0) = none := exCyc_eq ▸ rfl
example : step exCyc (.sort 0) = (exCyc, .raised "ValueError") := exCyc_eq ▸ rfl
-- shrink with uses: `n0.out = v1` is consumed by `n1`
example : ((exW.node 0).outputs.drop (if (0 : Int) < 0 then (((exW.node 0).outputs.length : Int) + 0).toNat
    else (0 : Int).toNat)).any (fun v => decide ((exW.val v).uses ≠ [])) = true :=
  exW_eq ▸ by decide
example : step exW (.resizeOutputs 0 0) = (exW, .raised "ValueError") := exW_eq ▸ rfl
-- retry: the rejected `append` in the middle of a history; the same world, the outcome list with one more entry
example : atomicCall (.one (.io 1 .inp (.append 0))) = true ∧
    (stepAny (runAny [.one (.newValue (some "x")), .one (.newGraph [0] [] [] []), .one (.newGraph [] [] [] [])])
      (.one (.io 1 .inp (.append 0)))).2 = .raised "ValueError" := by decide
example : outcomesAny [.one (.newValue (some "x")), .one (.newGraph [0] [] [] []), .one (.newGraph [] [] [] []),
      .one (.io 1 .inp (.append 0)), .one (.io 1 .out (.append 0))] =
    [.ok, .ok, .ok, .raised "ValueError", .raised "ValueError"] := by decide

/-! ### the partial fix proposed for D83 (`proposed_fixes/D83-partial.diff`, model `Model/KernelFix.lean`)

Not property theorems (the function is compared with the code only once the patch is applied): the patched function
keeps the invariant, and each of the hoisted rejections leaves the world untouched.  What is NOT hoisted (a name that
cannot be copied, an unnamable output of a new node, an old node still in use) still raises after earlier writes:
D83 stays a known finding. -/

theorem replaceNodesAndValuesHoisted_WF (w : World) (g ip : Nat) (oldNodes newNodes oldVals newVals : List Nat)
    (h : WF w) : WF (replaceNodesAndValuesHoisted w g ip oldNodes newNodes oldVals newVals).1 := by
  unfold replaceNodesAndValuesHoisted
  split
  · exact h
  · exact replaceNodesAndValuesExact_WF _ _ _ _ _ _ _ h

theorem replaceNodesAndValuesHoisted_pre_atomic (w : World) (g ip : Nat) (oldNodes newNodes oldVals newVals : List Nat)
    (h : rnvPreBad w g ip oldNodes newNodes oldVals newVals = true) :
    replaceNodesAndValuesHoisted w g ip oldNodes newNodes oldVals newVals = (w, .raised "ValueError") := by
  unfold replaceNodesAndValuesHoisted; simp [h]

/-- the unpatched sequence raises at the insertion (`n1` is not in `g0`) AFTER the name was copied onto `v4`; the
patched one refuses the same call before anything is written -/
example : (replaceNodesAndValuesExact exW 0 1 [0] [] [1] [4]).2 = .raised "ValueError" ∧
    (replaceNodesAndValuesExact exW 0 1 [0] [] [1] [4]).1 ≠ exW ∧
    replaceNodesAndValuesHoisted exW 0 1 [0] [] [1] [4] = (exW, .raised "ValueError") :=
  exW_eq ▸ by decide

end IrVerif.Kernel
