/-
C15 part B+: NameFixPass with an arbitrary name generator and with backing tensors (`fixModelX`).
Step-local invariants (no scoping hypothesis, any generator, any outcome): the initializer dictionaries stay
keyed by the current names, tensors follow the values they back; refinement to the plain model `fixModel` for
the default generator when no tensor refuses.
-/
import IrVerif.Lemmas.NamesFix
namespace IrVerif.Names

/-! ### the setter -/

/-- nothing happens (equal name, a guard fires, the tensor refuses), or it is the setter of the world with the write-through -/
theorem setNameT_cases (w : TWorld) (v : Nat) (new : String) :
    ((w.setNameT v new).1 = w)
    ∨ (w.vname v ≠ some new ∧ w.toWorld.nameGuard v new = false
        ∧ (w.setNameT v new).1.toWorld = (w.toWorld.setName v new).1
        ∧ (w.setNameT v new).2 = (w.toWorld.setName v new).2
        ∧ (w.setNameT v new).1.constOf = w.constOf ∧ (w.setNameT v new).1.frozen = w.frozen
        ∧ (w.setNameT v new).1.tname = (match w.constOf v with | some t => upd w.tname t (some new) | none => w.tname)) := by
  unfold TWorld.setNameT
  by_cases h1 : w.vname v = some new
  · simp [h1]
  · rw [if_neg h1]
    by_cases h2 : w.toWorld.nameGuard v new = true
    · simp [h2]
    · rw [if_neg h2]
      have h2' : w.toWorld.nameGuard v new = false := by simpa using h2
      cases hc : w.constOf v with
      | none => exact Or.inr (by simp [h1, h2'])
      | some t =>
        simp only
        by_cases hf : w.frozen t = true
        · simp [hf]
        · rw [if_neg hf]
          exact Or.inr (by simp [h1, h2'])

theorem setNameT_set (w : TWorld) (v : Nat) (new : String) :
    (w.setNameT v new).2 = false → (w.setNameT v new).1.vname v = some new := by
  unfold TWorld.setNameT
  split
  · intro _; assumption
  · split
    · intro h; cases h
    · split
      · split
        · intro h; cases h
        · exact setName_set _ _ _
      · exact setName_set _ _ _

/-! ### predicates every elementary step preserves -/

/-- a predicate on pass states preserved by the two naming steps (the node step for the nodes in `A`) and indifferent to
the scope stacks -/
structure StepInv (gen : NameGen) (P : FixStX → Prop) (A : Nat → Prop := fun _ => True) : Prop where
  pv : ∀ st v, P st → P (processValueX gen st v)
  fn : ∀ st n, A n → P st → P (fixNodeNameX gen st n)
  stk : ∀ (st : FixStX) (vs ns : List (List String)), P st → P { st with vstack := vs, nstack := ns }

theorem StepInv.and {gen : NameGen} {P Q : FixStX → Prop} {A : Nat → Prop} (hp : StepInv gen P A) (hq : StepInv gen Q A) :
    StepInv gen (fun st => P st ∧ Q st) A :=
  ⟨fun st v h => ⟨hp.pv st v h.1, hq.pv st v h.2⟩, fun st n hA h => ⟨hp.fn st n hA h.1, hq.fn st n hA h.2⟩,
   fun st vs ns h => ⟨hp.stk st vs ns h.1, hq.stk st vs ns h.2⟩⟩

theorem processValuesX_cons (gen : NameGen) (st : FixStX) (v : Nat) (vs : List Nat) :
    processValuesX gen st (v :: vs) = processValuesX gen (processValueX gen st v) vs := rfl

theorem processValuesX_inv {gen : NameGen} {P : FixStX → Prop} {A : Nat → Prop} (h : StepInv gen P A) :
    ∀ (vs : List Nat) (st : FixStX), P st → P (processValuesX gen st vs)
  | [], _, hp => hp
  | v :: vs, st, hp => by
    rw [processValuesX_cons]
    exact processValuesX_inv h vs _ (h.pv st v hp)

theorem enterGraphX_inv {gen : NameGen} {P : FixStX → Prop} {A : Nat → Prop} (h : StepInv gen P A) (st : FixStX) (g : Nat) (isG : Bool)
    (ins outs bouts : List Nat) (hp : P st) : P (enterGraphX gen st g isG ins outs bouts) := by
  unfold enterGraphX
  split
  · exact hp
  · have h0 := h.stk st (topOf st.vstack :: st.vstack) ([] :: st.nstack) hp
    have h1 := processValuesX_inv h ins _ h0
    have h2 := processValuesX_inv h outs _ h1
    refine processValuesX_inv h bouts _ ?_
    cases isG with
    | false => simpa using h2
    | true => simpa using processValuesX_inv h _ _ h2

theorem exitGraphX_inv {gen : NameGen} {P : FixStX → Prop} {A : Nat → Prop} (h : StepInv gen P A) (st : FixStX) (hp : P st) :
    P (exitGraphX st) := by
  unfold exitGraphX
  split
  · exact hp
  · exact h.stk st _ _ hp

theorem runTrX_inv {gen : NameGen} {P : FixStX → Prop} {A : Nat → Prop} (h : StepInv gen P A) :
    ∀ (t : Tr) (st : FixStX), (∀ n ∈ allNodes t, A n) → P st → P (runTrX gen t st) := by
  intro t
  induction t with
  | nil => intro st _ hp; exact hp
  | node n ins outs subs rest ihs ihr =>
    intro st hA hp
    simp only [runTrX, visitNodeX]
    exact ihr _ (fun m hm => hA m (by simp [allNodes, hm])) (ihs _ (fun m hm => hA m (by simp [allNodes, hm]))
      (processValuesX_inv h _ _ (h.fn st n (hA n (by simp [allNodes])) hp)))
  | graph g isG ins outs body rest ihb ihr =>
    intro st hA hp
    simp only [runTrX]
    exact ihr _ (fun m hm => hA m (by simp [allNodes, hm])) (exitGraphX_inv h _ (exitGraphX_inv h _
      (ihb _ (fun m hm => hA m (by simp [allNodes, hm]))
        (enterGraphX_inv h _ g isG ins outs _ (enterGraphX_inv h st g isG ins outs _ hp)))))

theorem fixTopX_inv {gen : NameGen} {P : FixStX → Prop} {A : Nat → Prop} (h : StepInv gen P A) (w : TWorld) (t : Top)
    (glog : List (Bool × Nat)) (hA : ∀ n ∈ allNodes t.body, A n) (hp : P (initX w t glog)) :
    P (fixTopX gen w t glog) := by
  unfold fixTopX
  exact exitGraphX_inv h _ (runTrX_inv h _ _ hA (enterGraphX_inv h _ _ _ _ _ _ hp))

theorem initX_tw (w : TWorld) (t : Top) (glog : List (Bool × Nat)) : (initX w t glog).tw = w := rfl

/-- a property of the world and of the log of generator calls preserved by every step is preserved by the pass, in
every outcome -/
theorem fixModelX_inv_log {gen : NameGen} {Q : TWorld → List (Bool × Nat) → Prop} (h : StepInv gen (fun st => Q st.tw st.glog)) :
    ∀ (tops : List Top) (w : TWorld) (glog : List (Bool × Nat)), Q w glog →
      Q (fixModelX gen w glog tops).w (fixModelX gen w glog tops).glog
  | [], _, _, hq => hq
  | t :: ts, w, glog, hq => by
    have h1 : Q (fixTopX gen w t glog).tw (fixTopX gen w t glog).glog :=
      fixTopX_inv h w t glog (fun _ _ => trivial) hq
    simp only [fixModelX]
    split
    · exact h1
    · exact fixModelX_inv_log h ts _ _ h1

/-- a property of the world (names, dictionaries, tensors) preserved by every step is preserved by the pass, in
every outcome (also when the pass stops with an exception) -/
theorem fixModelX_inv {gen : NameGen} {Q : TWorld → Prop} (h : StepInv gen (fun st => Q st.tw))
    (tops : List Top) (w : TWorld) (glog : List (Bool × Nat)) (hq : Q w) : Q (fixModelX gen w glog tops).w :=
  fixModelX_inv_log (Q := fun w _ => Q w) h tops w glog hq

theorem renameToX_tw (st : FixStX) (v : Nat) (p : String) :
    (renameToX st v p).tw = (st.tw.setNameT v (findUnique p (topOf st.vstack) st.resV (st.vcnt p)).1).1 := by
  unfold renameToX
  simp only
  split <;> rfl

theorem renameToX_glog (st : FixStX) (v : Nat) (p : String) : (renameToX st v p).glog = (false, v) :: st.glog := by
  unfold renameToX; simp only []; split <;> rfl

theorem processValueX_cases (gen : NameGen) (st : FixStX) (v : Nat) :
    processValueX gen st v = st
    ∨ (∃ s, processValueX gen st v = { st with vstack := pushTop st.vstack s, seen := v :: st.seen })
    ∨ (st.raised = false ∧ processValueX gen st v = renameToX st v (gen.v v (st.vname v))) := by
  unfold processValueX
  by_cases h1 : st.raised = true
  · rw [if_pos h1]; exact Or.inl rfl
  rw [if_neg h1]
  have h1' : st.raised = false := by simpa using h1
  by_cases h2 : st.seen.contains v = true
  · rw [if_pos h2]; exact Or.inl rfl
  rw [if_neg h2]
  by_cases h3 : (!truthy (st.vname v)) = true
  · rw [if_pos h3]; exact Or.inr (Or.inr ⟨h1', rfl⟩)
  rw [if_neg h3]
  by_cases h4 : (!(topOf st.vstack).contains ((st.vname v).getD "")) = true
  · rw [if_pos h4]; exact Or.inr (Or.inl ⟨_, rfl⟩)
  · rw [if_neg h4]; exact Or.inr (Or.inr ⟨h1', rfl⟩)

theorem processValueX_tw (gen : NameGen) (st : FixStX) (v : Nat) :
    (processValueX gen st v).tw = st.tw ∨ ∃ new, (processValueX gen st v).tw = (st.tw.setNameT v new).1 := by
  rcases processValueX_cases gen st v with e | ⟨s, e⟩ | ⟨_, e⟩ <;> rw [e]
  · exact Or.inl rfl
  · exact Or.inl rfl
  · exact Or.inr ⟨_, renameToX_tw st v _⟩

theorem fixNodeNameX_cases (gen : NameGen) (st : FixStX) (n : Nat) :
    fixNodeNameX gen st n = st
    ∨ (∃ s, fixNodeNameX gen st n = { st with nstack := pushTop st.nstack s })
    ∨ fixNodeNameX gen st n =
        { st with ncnt := updS st.ncnt (gen.n n (st.nname n))
                    (findUnique (gen.n n (st.nname n)) (topOf st.nstack) st.resN (st.ncnt (gen.n n (st.nname n)))).2,
                  nstack := pushTop st.nstack
                    (findUnique (gen.n n (st.nname n)) (topOf st.nstack) st.resN (st.ncnt (gen.n n (st.nname n)))).1,
                  nname := upd st.nname n
                    (some (findUnique (gen.n n (st.nname n)) (topOf st.nstack) st.resN (st.ncnt (gen.n n (st.nname n)))).1),
                  modified := true, glog := (true, n) :: st.glog } := by
  unfold fixNodeNameX
  by_cases h1 : st.raised = true
  · rw [if_pos h1]; exact Or.inl rfl
  rw [if_neg h1]
  by_cases h3 : (!truthy (st.nname n)) = true
  · simp only [if_pos h3]; exact Or.inr (Or.inr trivial)
  simp only [if_neg h3]
  by_cases h4 : (!(topOf st.nstack).contains ((st.nname n).getD "")) = true
  · rw [if_pos h4]; exact Or.inr (Or.inl ⟨_, rfl⟩)
  · rw [if_neg h4]; exact Or.inr (Or.inr rfl)

theorem fixNodeNameX_tw (gen : NameGen) (st : FixStX) (n : Nat) :
    ∃ f, (fixNodeNameX gen st n).tw = { st.tw with nname := f } := by
  rcases fixNodeNameX_cases gen st n with e | ⟨s, e⟩ | e <;> rw [e]
  · exact ⟨st.nname, rfl⟩
  · exact ⟨st.nname, rfl⟩
  · exact ⟨_, rfl⟩

/-- world properties that one `Value.name = …` preserves and that do not mention node names -/
theorem StepInv.of_world {gen : NameGen} {Q : TWorld → Prop}
    (hset : ∀ w v new, Q w → Q (w.setNameT v new).1)
    (hn : ∀ (w : TWorld) f, Q w → Q { w with nname := f }) : StepInv gen (fun st => Q st.tw) where
  pv := fun st v hq => by
    rcases processValueX_tw gen st v with e | ⟨new, e⟩
    · show Q _; rw [e]; exact hq
    · show Q _; rw [e]; exact hset _ v new hq
  fn := fun st n _ hq => by
    obtain ⟨f, e⟩ := fixNodeNameX_tw gen st n
    show Q _; rw [e]; exact hn _ f hq
  stk := fun _ _ _ hq => hq

/-! ### the initializer dictionaries stay keyed by the current names -/

/-- `I_key` and the links the naming machinery must not touch -/
def KeyInv (w0 : TWorld) (w : TWorld) : Prop :=
  InitsOk w.toWorld ∧ w.initOf = w0.initOf ∧ w.constOf = w0.constOf ∧ w.frozen = w0.frozen

theorem KeyInv.step (gen : NameGen) (w0 : TWorld) : StepInv gen (fun st => KeyInv w0 st.tw) := by
  refine StepInv.of_world ?_ ?_
  · intro w v new ⟨h1, h2, h3, h4⟩
    rcases setNameT_cases w v new with e | ⟨_, hg, e, _, e3, e4, _⟩
    · rw [e]; exact ⟨h1, h2, h3, h4⟩
    · obtain ⟨_, k1, _, _, k5⟩ := setName_guard_ok h1 v new hg
      exact ⟨e ▸ k1, by rw [show (w.setNameT v new).1.initOf = (w.setNameT v new).1.toWorld.initOf from rfl, e, k5]; exact h2,
        e3.trans h3, e4.trans h4⟩
  · intro w f ⟨h1, h2, h3, h4⟩
    exact ⟨⟨h1.key_name, h1.keys_nodup, h1.complete⟩, h2, h3, h4⟩

/-! ### tensors follow the values they back -/

/-- every tensor is untouched (and so are the names of all values it backs), or carries the current name of
one of the values it backs -/
def TensorInv (w0 : TWorld) (w : TWorld) : Prop :=
  w.constOf = w0.constOf ∧
  ∀ t, (w.tname t = w0.tname t ∧ ∀ v, w0.constOf v = some t → w.vname v = w0.vname v)
       ∨ ∃ v, w0.constOf v = some t ∧ w.tname t = w.vname v

theorem TensorInv.refl (w : TWorld) : TensorInv w w := ⟨rfl, fun _ => Or.inl ⟨rfl, fun _ _ => rfl⟩⟩

theorem TensorInv.step (gen : NameGen) (w0 : TWorld) :
    StepInv gen (fun st => TensorInv w0 st.tw ∧ InitsOk st.tw.toWorld) := by
  refine StepInv.of_world (Q := fun w => TensorInv w0 w ∧ InitsOk w.toWorld) ?_ ?_
  · intro w v new ⟨⟨hc, ht⟩, hk⟩
    rcases setNameT_cases w v new with e | ⟨hne, hg, e, _, e3, _, e5⟩
    · rw [e]; exact ⟨⟨hc, ht⟩, hk⟩
    · obtain ⟨_, k1, k3, _, _⟩ := setName_guard_ok hk v new hg
      have hv : (w.setNameT v new).1.vname = upd w.vname v (some new) := by
        show (w.setNameT v new).1.toWorld.vname = _
        rw [e, k3]
      refine ⟨⟨e3.trans hc, ?_⟩, e ▸ k1⟩
      intro t
      rw [hv, e5]
      by_cases hvt : w0.constOf v = some t
      · -- the tensor of the renamed value now carries the new name
        refine Or.inr ⟨v, hvt, ?_⟩
        have : w.constOf v = some t := by rw [hc]; exact hvt
        simp [this]
      · have htn : (match w.constOf v with | some t' => upd w.tname t' (some new) | none => w.tname) t = w.tname t := by
          rw [hc]
          cases hcv : w0.constOf v with
          | none => rfl
          | some t' =>
            have : t ≠ t' := fun e => hvt (by rw [hcv, e])
            simp [upd, this]
        rw [htn]
        rcases ht t with ⟨a, b⟩ | ⟨u, hu, hb⟩
        · refine Or.inl ⟨a, fun u hu => ?_⟩
          have : u ≠ v := fun e => hvt (e ▸ hu)
          rw [upd_ne _ _ this]; exact b u hu
        · refine Or.inr ⟨u, hu, ?_⟩
          have : u ≠ v := fun e => hvt (e ▸ hu)
          rw [upd_ne _ _ this]; exact hb
  · intro w f ⟨⟨hc, ht⟩, hk⟩
    exact ⟨⟨hc, ht⟩, ⟨hk.key_name, hk.keys_nodup, hk.complete⟩⟩

/-! ### refinement: default generator, no refusing tensor = the plain model -/

/-- no tensor that backs a value refuses a new name -/
def TWorld.NoFz (w : TWorld) : Prop := ∀ u t, w.constOf u = some t → w.frozen t = false
def FixStX.NoFz (st : FixStX) : Prop := st.tw.NoFz

/-- the tensor links and refusals are the same in two states -/
def FzEq (st st' : FixStX) : Prop := st'.frozen = st.frozen ∧ st'.constOf = st.constOf

theorem FzEq.refl (st : FixStX) : FzEq st st := ⟨rfl, rfl⟩
theorem FzEq.trans {a b c : FixStX} (h1 : FzEq a b) (h2 : FzEq b c) : FzEq a c := ⟨h2.1.trans h1.1, h2.2.trans h1.2⟩
theorem FixStX.NoFz.of_eq {st st' : FixStX} (h : st.NoFz) (e : FzEq st st') : st'.NoFz :=
  fun u t hu => by
    show st'.frozen t = false
    rw [e.1]; exact h u t (by show st.constOf u = some t; rw [← e.2]; exact hu)

theorem setNameT_unfrozen (w : TWorld) (v : Nat) (new : String) (hf : ∀ t, w.constOf v = some t → w.frozen t = false) :
    (w.setNameT v new).1.toWorld = (w.toWorld.setName v new).1 ∧ (w.setNameT v new).2 = (w.toWorld.setName v new).2
    ∧ (w.setNameT v new).1.frozen = w.frozen ∧ (w.setNameT v new).1.constOf = w.constOf := by
  unfold TWorld.setNameT
  by_cases h1 : w.vname v = some new
  · have : w.toWorld.setName v new = (w.toWorld, false) := by unfold World.setName; rw [if_pos h1]
    simp [h1, this]
  · rw [if_neg h1]
    by_cases h2 : w.toWorld.nameGuard v new = true
    · rw [if_pos h2, nameGuard_raises h1 h2]; exact ⟨rfl, rfl, rfl, rfl⟩
    · rw [if_neg h2]
      cases hc : w.constOf v with
      | none => exact ⟨rfl, rfl, rfl, rfl⟩
      | some t => simp [hf t hc]

theorem renameToX_sim (st : FixStX) (v : Nat) (p : String) (hf : st.NoFz) :
    (renameToX st v p).toFixSt = renameTo st.toFixSt v p ∧ FzEq st (renameToX st v p) := by
  obtain ⟨h1, h2, h3, h4⟩ := setNameT_unfrozen st.tw v (findUnique p (topOf st.vstack) st.resV (st.vcnt p)).1 (hf v)
  unfold renameToX renameTo
  simp only []
  by_cases hr : (st.toWorld.setName v (findUnique p (topOf st.vstack) st.resV (st.vcnt p)).1).2 = true
  · have hr' : (st.tw.setNameT v (findUnique p (topOf st.vstack) st.resV (st.vcnt p)).1).2 = true := h2.trans hr
    rw [if_pos hr', if_pos hr]
    exact ⟨by simp only [h1]; rfl, h3, h4⟩
  · have hr' : ¬ (st.tw.setNameT v (findUnique p (topOf st.vstack) st.resV (st.vcnt p)).1).2 = true := by
      rw [h2]; exact hr
    rw [if_neg hr', if_neg hr]
    exact ⟨by simp only [h1]; rfl, h3, h4⟩

theorem simpleGen_v_falsy {i : Nat} {nm : Option String} (h : truthy nm = false) : simpleGen.v i nm = "v" := by
  simp [simpleGen, h]
theorem simpleGen_v_truthy {i : Nat} {nm : Option String} (h : truthy nm = true) : simpleGen.v i nm = nm.getD "" := by
  simp [simpleGen, h]
theorem simpleGen_n_falsy {i : Nat} {nm : Option String} (h : truthy nm = false) : simpleGen.n i nm = "node" := by
  simp [simpleGen, h]
theorem simpleGen_n_truthy {i : Nat} {nm : Option String} (h : truthy nm = true) : simpleGen.n i nm = nm.getD "" := by
  simp [simpleGen, h]

theorem processValueX_sim (st : FixStX) (v : Nat) (hf : st.NoFz) :
    (processValueX simpleGen st v).toFixSt = processValue st.toFixSt v
    ∧ FzEq st (processValueX simpleGen st v) := by
  unfold processValueX processValue
  by_cases hr : st.raised = true
  · simp only [if_pos hr]; exact ⟨trivial, FzEq.refl _⟩
  · simp only [if_neg hr]
    by_cases hs : st.seen.contains v = true
    · simp only [if_pos hs]; exact ⟨trivial, FzEq.refl _⟩
    · simp only [if_neg hs]
      by_cases ht : (!truthy (st.vname v)) = true
      · simp only [if_pos ht]
        rw [simpleGen_v_falsy (by simpa using ht)]
        exact renameToX_sim st v "v" hf
      · simp only [if_neg ht]
        by_cases hc : (!(topOf st.vstack).contains ((st.vname v).getD "")) = true
        · simp only [if_pos hc]; exact ⟨trivial, ⟨rfl, rfl⟩⟩
        · simp only [if_neg hc]
          rw [simpleGen_v_truthy (by simpa using ht)]
          exact renameToX_sim st v _ hf

theorem fixNodeNameX_sim (st : FixStX) (n : Nat) :
    (fixNodeNameX simpleGen st n).toFixSt = fixNodeName st.toFixSt n
    ∧ FzEq st (fixNodeNameX simpleGen st n) := by
  unfold fixNodeNameX fixNodeName
  by_cases hr : st.raised = true
  · simp only [if_pos hr]; exact ⟨trivial, FzEq.refl _⟩
  · simp only [if_neg hr]
    by_cases ht : (!truthy (st.nname n)) = true
    · simp only [if_pos ht]
      rw [simpleGen_n_falsy (by simpa using ht)]
      exact ⟨rfl, ⟨rfl, rfl⟩⟩
    · simp only [if_neg ht]
      by_cases hc : (!(topOf st.nstack).contains ((st.nname n).getD "")) = true
      · simp only [if_pos hc]; exact ⟨trivial, ⟨rfl, rfl⟩⟩
      · simp only [if_neg hc]
        rw [simpleGen_n_truthy (by simpa using ht)]
        exact ⟨rfl, ⟨rfl, rfl⟩⟩

theorem processValuesX_sim : ∀ (vs : List Nat) (st : FixStX), st.NoFz →
    (processValuesX simpleGen st vs).toFixSt = processValues st.toFixSt vs
    ∧ FzEq st (processValuesX simpleGen st vs)
  | [], _, _ => ⟨rfl, FzEq.refl _⟩
  | v :: vs, st, hf => by
    obtain ⟨a, b⟩ := processValueX_sim st v hf
    obtain ⟨c, d⟩ := processValuesX_sim vs (processValueX simpleGen st v) (hf.of_eq b)
    rw [processValuesX_cons, processValues_cons, c, a]
    exact ⟨rfl, b.trans d⟩

theorem enterGraphX_sim (st : FixStX) (g : Nat) (isG : Bool) (ins outs bouts : List Nat) (hf : st.NoFz) :
    (enterGraphX simpleGen st g isG ins outs bouts).toFixSt = enterGraph st.toFixSt g isG ins outs bouts
    ∧ FzEq st (enterGraphX simpleGen st g isG ins outs bouts) := by
  unfold enterGraphX enterGraph
  by_cases hr : st.raised = true
  · simp only [if_pos hr]; exact ⟨trivial, FzEq.refl _⟩
  · simp only [if_neg hr]
    generalize hs0 : ({ st with vstack := topOf st.vstack :: st.vstack, nstack := [] :: st.nstack } : FixStX) = s0
    have e0 : s0.toFixSt = { st.toFixSt with vstack := topOf st.vstack :: st.vstack, nstack := [] :: st.nstack } := by
      subst hs0; rfl
    have z0 : FzEq st s0 := by subst hs0; exact ⟨rfl, rfl⟩
    have f0 : s0.NoFz := hf.of_eq z0
    rw [← e0]
    obtain ⟨a1, b1⟩ := processValuesX_sim ins s0 f0
    have f1 := f0.of_eq b1
    obtain ⟨a2, b2⟩ := processValuesX_sim outs _ f1
    have f2 := f1.of_eq b2
    rw [← a1, ← a2]
    cases isG with
    | false =>
      simp only [Bool.false_eq_true, if_false]
      obtain ⟨a4, b4⟩ := processValuesX_sim bouts _ f2
      exact ⟨a4, z0.trans (b1.trans (b2.trans b4))⟩
    | true =>
      simp only [if_true]
      obtain ⟨a3, b3⟩ := processValuesX_sim
        (((processValuesX simpleGen (processValuesX simpleGen s0 ins) outs).dicts g).map (·.2)) _ f2
      have f3 := f2.of_eq b3
      obtain ⟨a4, b4⟩ := processValuesX_sim bouts _ f3
      refine ⟨?_, z0.trans (b1.trans (b2.trans (b3.trans b4)))⟩
      rw [a4, a3]

theorem exitGraphX_sim (st : FixStX) :
    (exitGraphX st).toFixSt = exitGraph st.toFixSt ∧ FzEq st (exitGraphX st) := by
  unfold exitGraphX exitGraph
  split <;> exact ⟨rfl, rfl, rfl⟩

theorem runTrX_sim : ∀ (t : Tr) (st : FixStX), st.NoFz →
    (runTrX simpleGen t st).toFixSt = runTr t st.toFixSt ∧ FzEq st (runTrX simpleGen t st) := by
  intro t
  induction t with
  | nil => intro st _; exact ⟨rfl, FzEq.refl _⟩
  | node n ins outs subs rest ihs ihr =>
    intro st hf
    simp only [runTrX, runTr, visitNodeX, visitNode]
    obtain ⟨a1, b1⟩ := fixNodeNameX_sim st n
    obtain ⟨a2, b2⟩ := processValuesX_sim (nodeVals ins outs) (fixNodeNameX simpleGen st n) (hf.of_eq b1)
    obtain ⟨a3, b3⟩ := ihs (processValuesX simpleGen (fixNodeNameX simpleGen st n) (nodeVals ins outs)) ((hf.of_eq b1).of_eq b2)
    obtain ⟨a4, b4⟩ := ihr _ (((hf.of_eq b1).of_eq b2).of_eq b3)
    rw [a4, a3, a2, a1]
    exact ⟨rfl, b1.trans (b2.trans (b3.trans b4))⟩
  | graph g isG ins outs body rest ihb ihr =>
    intro st hf
    simp only [runTrX, runTr]
    obtain ⟨a1, b1⟩ := enterGraphX_sim st g isG ins outs (bodyOuts body) hf
    obtain ⟨a2, b2⟩ := enterGraphX_sim (enterGraphX simpleGen st g isG ins outs (bodyOuts body)) g isG ins outs (bodyOuts body)
      (hf.of_eq b1)
    obtain ⟨a3, b3⟩ := ihb _ ((hf.of_eq b1).of_eq b2)
    obtain ⟨a4, b4⟩ := exitGraphX_sim (runTrX simpleGen body
      (enterGraphX simpleGen (enterGraphX simpleGen st g isG ins outs (bodyOuts body)) g isG ins outs (bodyOuts body)))
    obtain ⟨a5, b5⟩ := exitGraphX_sim (exitGraphX (runTrX simpleGen body
      (enterGraphX simpleGen (enterGraphX simpleGen st g isG ins outs (bodyOuts body)) g isG ins outs (bodyOuts body))))
    have z5 := b1.trans (b2.trans (b3.trans (b4.trans b5)))
    obtain ⟨a6, b6⟩ := ihr _ (hf.of_eq z5)
    rw [a6, a5, a4, a3, a2, a1]
    exact ⟨rfl, z5.trans b6⟩

theorem fixTopX_sim (w : TWorld) (t : Top) (glog : List (Bool × Nat)) (hf : w.NoFz) :
    (fixTopX simpleGen w t glog).toFixSt = fixTop w.toWorld t ∧ (fixTopX simpleGen w t glog).tw.NoFz := by
  unfold fixTopX fixTop
  simp only []
  have e0 : (initX w t glog).toFixSt =
      { toWorld := w.toWorld, resV := (collectTr w.toWorld t.tr ([], [])).1, resN := (collectTr w.toWorld t.tr ([], [])).2 } := rfl
  have f0 : (initX w t glog).NoFz := hf
  obtain ⟨a1, b1⟩ := enterGraphX_sim (initX w t glog) t.gid t.isGraph t.ins t.outs (bodyOuts t.body) f0
  obtain ⟨a2, b2⟩ := runTrX_sim t.body _ (f0.of_eq b1)
  obtain ⟨a3, b3⟩ := exitGraphX_sim (runTrX simpleGen t.body
    (enterGraphX simpleGen (initX w t glog) t.gid t.isGraph t.ins t.outs (bodyOuts t.body)))
  rw [a3, a2, a1, e0]
  exact ⟨rfl, ((f0.of_eq b1).of_eq b2).of_eq b3⟩

/-- `fixModelX` with the default generator on a world in which no tensor that backs a value refuses a name is
`fixModel` -/
theorem fixModelX_sim : ∀ (tops : List Top) (w : TWorld) (glog : List (Bool × Nat)), w.NoFz →
    (fixModelX simpleGen w glog tops).w.toWorld = (fixModel w.toWorld tops).1
    ∧ (fixModelX simpleGen w glog tops).modified = (fixModel w.toWorld tops).2.1
    ∧ (fixModelX simpleGen w glog tops).raised = (fixModel w.toWorld tops).2.2
  | [], _, _, _ => ⟨rfl, rfl, rfl⟩
  | t :: ts, w, glog, hf => by
    obtain ⟨a, b⟩ := fixTopX_sim w t glog hf
    have hr : (fixTopX simpleGen w t glog).raised = (fixTop w.toWorld t).raised := by rw [← a]
    have hm : (fixTopX simpleGen w t glog).modified = (fixTop w.toWorld t).modified := by rw [← a]
    have hw : (fixTopX simpleGen w t glog).tw.toWorld = (fixTop w.toWorld t).toWorld := by rw [← a]; rfl
    simp only [fixModelX, fixModel]
    by_cases h : (fixTop w.toWorld t).raised = true
    · have h' : (fixTopX simpleGen w t glog).raised = true := hr.trans h
      simp only [if_pos h, if_pos h']
      exact ⟨hw, hm, trivial⟩
    · have h' : ¬ (fixTopX simpleGen w t glog).raised = true := by rw [hr]; exact h
      simp only [if_neg h, if_neg h']
      obtain ⟨c1, c2, c3⟩ := fixModelX_sim ts (fixTopX simpleGen w t glog).tw (fixTopX simpleGen w t glog).glog b
      rw [hw] at c1 c2 c3
      exact ⟨c1, by rw [c2, hm], c3⟩

/-! ### objects the generator was never asked about are untouched -/

/-- `Value.name = new` touches the name of `v`, the name of the tensor backing `v`, and nothing else -/
theorem setNameT_frame (w : TWorld) (v : Nat) (new : String) :
    (∀ u, u ≠ v → (w.setNameT v new).1.vname u = w.vname u)
    ∧ (w.setNameT v new).1.constOf = w.constOf
    ∧ (∀ t, w.constOf v ≠ some t → (w.setNameT v new).1.tname t = w.tname t)
    ∧ (w.setNameT v new).1.nname = w.nname := by
  rcases setNameT_cases w v new with e | ⟨_, _, e, _, e3, _, e5⟩
  · rw [e]; exact ⟨fun _ _ => rfl, rfl, fun _ _ => rfl, rfl⟩
  · refine ⟨fun u h => ?_, e3, fun t ht => ?_, ?_⟩
    · show (w.setNameT v new).1.toWorld.vname u = _
      rw [e]; exact setName_vname_other _ new h
    · rw [e5]
      cases hc : w.constOf v with
      | none => rfl
      | some t' => exact upd_ne _ _ (fun e => ht (by rw [hc, e]))
    · show (w.setNameT v new).1.toWorld.nname = _
      rw [e]; exact setName_nname _ _ _

/-- a value (node) the generator was never asked about has its old name, and a tensor none of whose values was
handed to the generator has its old name -/
def LogInv (w0 : TWorld) (w : TWorld) (glog : List (Bool × Nat)) : Prop :=
  (∀ v, (false, v) ∉ glog → w.vname v = w0.vname v)
  ∧ w.constOf = w0.constOf
  ∧ (∀ t, (∀ v, w0.constOf v = some t → (false, v) ∉ glog) → w.tname t = w0.tname t)
  ∧ (∀ n, (true, n) ∉ glog → w.nname n = w0.nname n)

theorem LogInv.rename {w0 : TWorld} {st : FixStX} (h : LogInv w0 st.tw st.glog) (v : Nat) (p : String) :
    LogInv w0 (renameToX st v p).tw (renameToX st v p).glog := by
  obtain ⟨h1, h2, h3, h4⟩ := h
  obtain ⟨f1, f2, f3, f4⟩ := setNameT_frame st.tw v (findUnique p (topOf st.vstack) st.resV (st.vcnt p)).1
  have hw := renameToX_tw st v p
  rw [hw, renameToX_glog]
  refine ⟨?_, f2.trans h2, ?_, ?_⟩
  · intro u hu
    simp only [List.mem_cons, Prod.mk.injEq, true_and, not_or] at hu
    rw [f1 u hu.1]; exact h1 u hu.2
  · intro t ht
    have hne : st.tw.constOf v ≠ some t := by
      intro e
      exact ht v (h2 ▸ e) List.mem_cons_self
    rw [f3 t hne]
    exact h3 t (fun u hu hin => ht u hu (List.mem_cons_of_mem _ hin))
  · intro n hn
    rw [f4]
    exact h4 n (fun hin => hn (List.mem_cons_of_mem _ hin))

theorem LogInv.step (gen : NameGen) (w0 : TWorld) : StepInv gen (fun st => LogInv w0 st.tw st.glog) where
  pv := fun st v h => by
    show LogInv w0 (processValueX gen st v).tw (processValueX gen st v).glog
    rcases processValueX_cases gen st v with e | ⟨s, e⟩ | ⟨_, e⟩ <;> rw [e]
    · exact h
    · exact h
    · exact h.rename v _
  fn := fun st n _ h => by
    obtain ⟨h1, h2, h3, h4⟩ := h
    have key : ∀ (f : String), LogInv w0 { st.tw with nname := upd st.nname n (some f) } ((true, n) :: st.glog) := by
      intro f
      refine ⟨fun v hv => h1 v (fun hin => hv (List.mem_cons_of_mem _ hin)), h2,
        fun t ht => h3 t (fun v hv hin => ht v hv (List.mem_cons_of_mem _ hin)), ?_⟩
      intro m hm
      simp only [List.mem_cons, Prod.mk.injEq, true_and, not_or] at hm
      show upd st.nname n (some f) m = w0.nname m
      rw [upd_ne _ _ hm.1]; exact h4 m hm.2
    show LogInv w0 (fixNodeNameX gen st n).tw (fixNodeNameX gen st n).glog
    rcases fixNodeNameX_cases gen st n with e | ⟨s, e⟩ | e <;> rw [e]
    · exact ⟨h1, h2, h3, h4⟩
    · exact ⟨h1, h2, h3, h4⟩
    · exact key _
  stk := fun _ _ _ h => h

end IrVerif.Names
