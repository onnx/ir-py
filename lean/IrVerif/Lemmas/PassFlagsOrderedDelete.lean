/-
C14: passes that only delete (nodes, trailing empty inputs, initializers of nested graphs) leave a
topologically ordered model ordered.  "Ordered" = C05's `noFwdG` (no node reads a value that it or a later
node of its graph defines, nested graphs included).
`Shrink` records orderedness only; what each pass counts and what shrinks differ per pass (Lemmas/PassFlagsDeleting).
-/
import IrVerif.Model.PassFlags2
import IrVerif.Lemmas.SemSyntax
import IrVerif.Lemmas.NestKeeps
namespace IrVerif.PassFlags
open IrVerif.Sem IrVerif.Passes

/-- `x'` defines and reads nothing that `x` does not, and is ordered if `x` is: what a deleting pass does to a graph
    (`ShrinkG`) and to a list of graphs (`ShrinkBodies`) -/
abbrev Shrunk {α : Type} (defs refs : α → List VId) (ordered : α → Bool) (x' x : α) : Prop :=
  (∀ v ∈ defs x', v ∈ defs x) ∧ (∀ v ∈ refs x', v ∈ refs x) ∧ (ordered x = true → ordered x' = true)
abbrev ShrinkG : Graph → Graph → Prop := Shrunk defsG refsG noFwdG
abbrev ShrinkBodies : List Graph → List Graph → Prop := Shrunk defsBodies refsBodies noFwdBodies

theorem ShrinkBodies.nil : ShrinkBodies [] [] := ⟨fun _ h => h, fun _ h => h, fun h => h⟩

theorem ShrinkBodies.cons {g' g : Graph} {bs' bs : List Graph} (hg : ShrinkG g' g) (hb : ShrinkBodies bs' bs) :
    ShrinkBodies (g' :: bs') (g :: bs) := by
  obtain ⟨g1, g2, g3⟩ := hg
  obtain ⟨b1, b2, b3⟩ := hb
  simp only [ShrinkBodies, Shrunk, defsBodies, refsBodies, noFwdBodies, List.mem_append, Bool.and_eq_true]
  exact ⟨fun v hv => hv.elim (fun h => Or.inl (g1 v h)) (fun h => Or.inr (b1 v h)),
    fun v hv => hv.elim (fun h => Or.inl (g2 v h)) (fun h => Or.inr (b2 v h)),
    fun h => ⟨g3 h.1, b3 h.2⟩⟩

/-- `ns'` is `ns` with some nodes deleted; a kept node may have lost inputs and parts of its bodies -/
inductive Shrink : List Node → List Node → Prop
  | nil : Shrink [] []
  | drop {ns' ns : List Node} (n : Node) : Shrink ns' ns → Shrink ns' (n :: ns)
  | keep {ns' ns : List Node} {op : OpId} {attrs : List (String × AttrData)}
      {ins ins' : List (Option VId)} {outs : List VId} {b b' : List Graph} :
      Shrink ns' ns → (∀ x ∈ ins'.filterMap id, x ∈ ins.filterMap id) → ShrinkBodies b' b →
      Shrink (.mk op attrs ins' outs b' :: ns') (.mk op attrs ins outs b :: ns)

theorem Shrink.defs {ns' ns : List Node} (h : Shrink ns' ns) : ∀ v ∈ defsNodes ns', v ∈ defsNodes ns := by
  induction h with
  | nil => exact fun _ h => h
  | drop n _ ih => exact fun v hv => mem_defsNodes_cons.2 (.inr (ih v hv))
  | keep _ _ hb ih =>
    intro v hv
    simp only [defsNodes, defsN, List.mem_append] at hv ⊢
    rcases hv with (hv | hv) | hv
    · exact Or.inl (Or.inl hv)
    · exact Or.inl (Or.inr (hb.1 v hv))
    · exact Or.inr (ih v hv)

theorem Shrink.refs {ns' ns : List Node} (h : Shrink ns' ns) : ∀ v ∈ refsNodes ns', v ∈ refsNodes ns := by
  induction h with
  | nil => exact fun _ h => h
  | drop n _ ih => exact fun v hv => mem_refsNodes_cons.2 (.inr (ih v hv))
  | keep _ hi hb ih =>
    intro v hv
    simp only [refsNodes, refsN, List.mem_append] at hv ⊢
    rcases hv with (hv | hv) | hv
    · exact Or.inl (Or.inl (hi v hv))
    · exact Or.inl (Or.inr (hb.2.1 v hv))
    · exact Or.inr (ih v hv)

theorem Shrink.noFwd {ns' ns : List Node} (h : Shrink ns' ns) : noFwdNodes ns = true → noFwdNodes ns' = true := by
  induction h with
  | nil => exact fun h => h
  | drop n _ ih =>
    intro hf
    simp only [noFwdNodes, Bool.and_eq_true] at hf
    exact ih hf.2
  | keep hs hi hb ih =>
    intro hf
    have hf' := noFwdNodes_cons_iff.1 hf
    exact noFwdNodes_keep (X := fun _ => False) hf (fun _ h => h.elim) (fun w hw => Or.inl (hi w hw))
      (fun w hw => Or.inl (hb.2.1 w hw)) hb.1 hs.defs (hb.2.2 hf'.1.2) (ih hf'.2)

/-! ## RemoveUnusedNodes -/

theorem filterMap_trim {x : VId} {ins : List (Option VId)} (h : x ∈ (trimTrailingNone ins).filterMap id) :
    x ∈ ins.filterMap id := by
  simp only [List.mem_filterMap, id] at h ⊢
  obtain ⟨a, ha, e⟩ := h
  exact ⟨a, mem_of_mem_trimNone ha, e⟩

mutual
theorem dceG_shrink : ∀ g : Graph, ShrinkG (dceG g).1 g
  | .mk inputs outputs inits nodes => by
    have hs := dceNodes_shrink outputs [] nodes
    simp only [ShrinkG, Shrunk, dceG, defsG, refsG, noFwdG, List.mem_append]
    exact ⟨fun v hv => hv.imp id (hs.defs v), fun v hv => hv.imp id (hs.refs v), hs.noFwd⟩
theorem dceNodes_shrink (gouts : List VId) : ∀ (pre : List VId) (ns : List Node), Shrink (dceNodes gouts pre ns).1 ns
  | _, [] => Shrink.nil
  | pre, .mk op attrs ins outs bodies :: ns => by
    have ih := dceNodes_shrink gouts (pre ++ usesN (.mk op attrs ins outs bodies)) ns
    have hb := dceBodies_shrink bodies
    simp only [dceNodes]
    split
    · exact Shrink.drop _ ih
    · exact Shrink.keep ih (fun x hx => filterMap_trim hx) hb
theorem dceBodies_shrink : ∀ bs : List Graph, ShrinkBodies (dceBodies bs).1 bs
  | [] => ShrinkBodies.nil
  | b :: bs => ShrinkBodies.cons (dceG_shrink b) (dceBodies_shrink bs)
end

/-! ## LiftConstantsToInitializers -/

theorem liftCandidate_out {la : Bool} {lim : Nat} {gouts : List VId} {op : OpId} {attrs : List (String × AttrData)}
    {outs : List VId} {p : VId × Tensor} (h : liftCandidate la lim gouts op attrs outs = some p) : outs = [p.1] := by
  unfold liftCandidate at h
  split at h
  · next y t _ =>
    split at h
    · simp at h
    · simp only [Option.some.injEq] at h; rw [← h]
  · simp at h

mutual
theorem liftG_shrink (la : Bool) (lim : Nat) : ∀ g : Graph, ShrinkG (liftG la lim g) g
  | .mk inputs outputs inits nodes => by
    obtain ⟨hs, hl⟩ := liftNodes_shrink la lim outputs nodes
    simp only [ShrinkG, Shrunk, liftG, defsG, refsG, noFwdG, List.mem_append, List.map_append]
    refine ⟨fun v hv => ?_, fun v hv => hv.imp id (hs.refs v), hs.noFwd⟩
    rcases hv with (hv | hv | hv) | hv
    · exact Or.inl (Or.inl hv)
    · exact Or.inl (Or.inr hv)
    · exact Or.inr (hl v hv)
    · exact Or.inr (hs.defs v hv)
theorem liftNodes_shrink (la : Bool) (lim : Nat) (gouts : List VId) : ∀ ns : List Node,
    Shrink (liftNodes la lim gouts ns).1 ns ∧
    ∀ v ∈ (liftNodes la lim gouts ns).2.map Prod.fst, v ∈ defsNodes ns
  | [] => ⟨Shrink.nil, fun _ h => by simp [liftNodes] at h⟩
  | .mk op attrs ins outs bodies :: ns => by
    obtain ⟨ih, il⟩ := liftNodes_shrink la lim gouts ns
    have hb := liftBodies_shrink la lim bodies
    cases hc : liftCandidate la lim gouts op attrs outs with
    | some p =>
      simp only [liftNodes, hc]
      refine ⟨Shrink.drop _ ih, fun v hv => ?_⟩
      simp only [List.map_cons, List.mem_cons] at hv
      simp only [defsNodes, defsN, List.mem_append]
      rcases hv with hv | hv
      · exact Or.inl (Or.inl (by rw [liftCandidate_out hc, hv]; exact List.mem_cons_self))
      · exact Or.inr (il v hv)
    | none =>
      simp only [liftNodes, hc]
      refine ⟨Shrink.keep ih (fun x hx => hx) hb, fun v hv => ?_⟩
      exact mem_defsNodes_cons.2 (.inr (il v hv))
theorem liftBodies_shrink (la : Bool) (lim : Nat) : ∀ bs : List Graph, ShrinkBodies (liftBodies la lim bs) bs
  | [] => ShrinkBodies.nil
  | b :: bs => ShrinkBodies.cons (liftG_shrink la lim b) (liftBodies_shrink la lim bs)
end

/-! ## LiftSubgraphInitializers -/

mutual
theorem lsiG_shrink : ∀ g : Graph, ShrinkG (lsiG g).1 g
  | .mk inputs outputs inits nodes => by
    have hs := lsiNodes_shrink nodes
    simp only [ShrinkG, Shrunk, lsiG, defsG, refsG, noFwdG, List.mem_append]
    refine ⟨fun v hv => ?_, fun v hv => hv.imp id (hs.refs v), hs.noFwd⟩
    rcases hv with (hv | hv) | hv
    · exact Or.inl (Or.inl hv)
    · refine Or.inl (Or.inr ?_)
      simp only [List.mem_map] at hv ⊢
      obtain ⟨p, hp, e⟩ := hv
      exact ⟨p, (List.mem_filter.1 hp).1, e⟩
    · exact Or.inr (hs.defs v hv)
theorem lsiNodes_shrink : ∀ ns : List Node, Shrink (lsiNodes ns).1 ns
  | [] => Shrink.nil
  | .mk op attrs ins outs bodies :: ns => by
    have hb := lsiBodies_shrink bodies
    simp only [lsiNodes]
    exact Shrink.keep (lsiNodes_shrink ns) (fun x hx => hx) hb
theorem lsiBodies_shrink : ∀ bs : List Graph, ShrinkBodies (lsiBodies bs).1 bs
  | [] => ShrinkBodies.nil
  | b :: bs => ShrinkBodies.cons (lsiG_shrink b) (lsiBodies_shrink bs)
end

theorem all_noFwd_map (f : Graph → Graph) (hf : ∀ g, noFwdG g = true → noFwdG (f g) = true) :
    ∀ fs : List Graph, fs.all noFwdG = true → (fs.map f).all noFwdG = true
  | [], _ => rfl
  | g :: fs, h => by
    simp only [List.all_cons, Bool.and_eq_true] at h
    simp only [List.map_cons, List.all_cons, Bool.and_eq_true]
    exact ⟨hf g h.1, all_noFwd_map f hf fs h.2⟩

end IrVerif.PassFlags
