/-
Extended model, MODELS WITH FUNCTIONS (IR version >= 10 format): shared definitions.

* `extF`: the certificate of the extension state of one function body (next to `replF`): equally (truthy-)named
  inputs carry the same merged metadata (they were all created with the metadata of the one value_info entry of
  their name), and the node list satisfies `extNs` along the tables of `replF` (no enclosing scope);
* `ReloadableME`: the certificate of an extended model with functions;
* `emitQF` / `emitQM`: the values whose annotation the serializer of a function / a model looks at (a function
  writes no annotations of its own: only the graphs nested in its nodes do);
* `DevSpecFs`: the positional form of the device-configuration description of the function bodies.
-/
import IrVerif.Lemmas.ScopeExtTop
import IrVerif.Lemmas.ScopeExtSerOk
import IrVerif.Lemmas.ScopeModelDup
namespace IrVerif.Scope

/-- the certificate of the extension state of a function body -/
def extF (V : Nat → ValueS) (x : Ext) : GraphT → Prop
  | .mk _ ins _ nodes _ =>
    (∀ a ∈ ins, ∀ b ∈ ins, nameTruthy (V a).name = true → (V a).name = (V b).name → x.vmeta a = x.vmeta b) ∧
    extNs V x [] (replDecl V (tblIns V ins) (nodes.flatMap (liveOuts V))).tbl nodes

/-- the values of a function whose quantization annotation `serFunctionE` looks at: those of the nested graphs -/
def emitQF (V : Nat → ValueS) : GraphT → List Nat
  | .mk _ _ _ nodes _ => emitQSubNs V nodes

/-- the resolution certificate of the core model with functions, the certificates of the
    extension state of the main graph and of every function body, and the representation invariant -/
def ReloadableME (w : MWorldE) : Prop :=
  ReloadableM w.core ∧ extG w.st.vals w.ext [] w.root ∧ (∀ f ∈ w.funcs, extF w.st.vals w.ext f.2) ∧ ExtWF w.ext

/-- the values of a model whose annotation the serializer looks at -/
def emitQM (w : MWorldE) : List Nat :=
  emitQG w.st.vals w.root ++ w.funcs.flatMap fun f => emitQF w.st.vals f.2

/-- device configurations of the function bodies, function by function -/
def DevSpecFs (s : Store) (x : Ext) : List FuncE → List (FId × GraphT) → Prop
  | [], [] => True
  | f :: fs, g :: gs => DevSpecNs s x f.nodes g.2.nodes ∧ DevSpecFs s x fs gs
  | _, _ => False

end IrVerif.Scope
