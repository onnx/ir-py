import IrVerif.Lemmas.ScopeSerdeBridge
/-!
The C02/C03 bridge, deserialization with nested graphs (`C03_bridge_deserialize`).  A graph is entered at value counter
`b = P.length` (`P` = the cells that already exist) below a stack of enclosing scopes (`ScRel`).
-/
namespace IrVerif.Bridge
open IrVerif.Proto IrVerif.Serde

def TblRelB (tbl : Scope.Table) (names : List String) (b : Nat) : Prop :=
  tbl = (names.zip (List.range' b names.length)).reverse

theorem tblRelB_lookup {tbl : Scope.Table} {names : List String} {b : Nat} (h : TblRelB tbl names b) (x : String) :
    tbl.lookup x = (lookupLast names x).map (b + ·) := by
  rw [h]; exact lookup_zip_range' x names b

theorem tblRelB_snoc {tbl : Scope.Table} {names : List String} {b : Nat} (h : TblRelB tbl names b) (n : String) :
    TblRelB ((n, b + names.length) :: tbl) (names ++ [n]) b := by
  unfold TblRelB at *
  rw [h]
  simp only [List.length_append, List.length_singleton, List.range'_concat, Nat.one_mul]
  rw [List.zip_append (by simp)]
  simp

inductive ScRel : List Scope.Table → Scopes → List Nat → Prop
  | nil : ScRel [] [] []
  | cons {t : Scope.Table} {n : List String} {b : Nat} {ts : List Scope.Table} {ns : Scopes} {bs : List Nat} :
      TblRelB t n b → ScRel ts ns bs → ScRel (t :: ts) (n :: ns) (b :: bs)

theorem scRel_resolve (x : String) {S : List Scope.Table} {N : Scopes} {B : List Nat} (h : ScRel S N B) :
    Scope.resolve x S = (Serde.resolve N x).map (refId B) := by
  induction h with
  | nil => rfl
  | cons h1 _ ih =>
    simp only [Scope.resolve, Serde.resolve, tblRelB_lookup h1]
    cases lookupLast _ x with
    | some i => simp [refId]
    | none =>
      simp only [Option.map_none, ih]
      cases Serde.resolve _ x with
      | none => rfl
      | some r => simp [refId]

theorem set_append_add {α : Type} (P L : List α) (i : Nat) (c : α) :
    (P ++ L).set (P.length + i) c = P ++ L.set i c := by
  induction P with
  | nil => simp
  | cons x P ih =>
    have : (x :: P).length + i = (P.length + i) + 1 := by simp; omega
    rw [this]
    simp [ih]

theorem getD_PT (P : List Cell) (T : List IRValue) (X : List Cell) (i : Nat) (hi : i < T.length) :
    (P ++ T.map absCell ++ X).getD (P.length + i) default = absCell (T.getD i (IRValue.blank "")) := by
  rw [List.append_assoc]
  simp [List.getD, List.getElem?_append_right, List.getElem?_append_left, hi]

def initTensorS (p : TensorP) : Scope.TensorS :=
  ⟨some p.name, tensTok (irT p), tyTok (.tensor p.dataType ""), dimsTok p.dims⟩

/-- the initializer names a value that exists: it gets the tensor -/
theorem coreEq_setInit {st : Scope.Store} {P : List Cell} {T : List IRValue} (hc : CoreEq st (P ++ T.map absCell))
    (p : TensorP) (hw : wfTensor p = true) (hv : validDType p.dataType = true) (i : Nat) (hi : i < T.length) :
    CoreEq ((st.allocTensor (initTensorS p)).1.modify (P.length + i) fun c => { c with const := some st.nt })
      (P ++ (T.set i { T.getD i (IRValue.blank "") with const := some (irT p) }).map absCell) := by
  have hc2 := coreEq_modify (coreEq_allocTensor hc (initTensorS p)) (P.length + i)
    (fun c => { c with const := some st.nt })
    (by intro t ht'; simp only [Option.some.injEq] at ht'; subst ht'; simp [Scope.Store.allocTensor])
  have hcell := hc.cells (P.length + i) (by simp; omega)
  have hg := getD_PT P T [] i hi
  rw [List.append_nil] at hg
  rw [hg] at hcell
  rw [List.map_set, ← set_append_add]
  have hce : absCell { T.getD i (IRValue.blank "") with const := some (irT p) }
      = ⟨(st.vals (P.length + i)).name, (st.vals (P.length + i)).info, some (initTensorS p)⟩ := by
    simp only [cellAt, absCell, Cell.mk.injEq] at hcell
    simp only [absCell, Option.map_some, absTens_irT p hw hv, Cell.mk.injEq]
    exact ⟨hcell.1.symm, hcell.2.1.symm, rfl⟩
  rw [hce]
  simpa [Scope.Store.allocTensor] using hc2

/-- the initializer names no value yet: a value is created for it -/
theorem coreEq_newInit {st : Scope.Store} {P : List Cell} {T : List IRValue} (hc : CoreEq st (P ++ T.map absCell))
    (vis : List ValueInfoP) (q : List AnnotP) (p : TensorP) (hw : wfTensor p = true)
    (hv : validDType p.dataType = true) :
    CoreEq (Scope.newInit (st.allocTensor (initTensorS p)).1 (Scope.vinfoTable (vis.map absVI)) (absT p) st.nt)
        (P ++ (T ++ [initValT vis q p]).map absCell) ∧
      (Scope.newInit (st.allocTensor (initTensorS p)).1 (Scope.vinfoTable (vis.map absVI)) (absT p) st.nt).nn = st.nn ∧
      (Scope.newInit (st.allocTensor (initTensorS p)).1 (Scope.vinfoTable (vis.map absVI)) (absT p) st.nt).ng = st.ng := by
  have hnew : Scope.newInit (st.allocTensor (initTensorS p)).1 (Scope.vinfoTable (vis.map absVI)) (absT p) st.nt
      = ((st.allocTensor (initTensorS p)).1.alloc
          { name := some p.name, info := initInfoS vis p, const := some st.nt }).1 := by
    rw [Scope.newInit_eq_alloc, vinfoTable_lookup, show (absT p).name = p.name from rfl]
    unfold initInfoS
    cases findVI vis p.name <;> rfl
  have hc2 := coreEq_alloc (coreEq_allocTensor hc (initTensorS p))
    { name := some p.name, info := initInfoS vis p, const := some st.nt }
    (by intro t ht'; simp only [Option.some.injEq] at ht'; subst ht'; simp [Scope.Store.allocTensor])
  rw [hnew]
  refine ⟨?_, rfl, rfl⟩
  rw [List.map_append, ← List.append_assoc]
  simp only [List.map_cons, List.map_nil, absCell_initValT vis q p hw hv, absTens_irT p hw hv]
  simpa [Scope.Store.allocTensor, initTensorS] using hc2

theorem ph2B (vis : List ValueInfoP) (q : List AnnotP) (hvis : vis.all wfVI = true) (P : List Cell) :
    ∀ (ps : List TensorP) (T : List IRValue) (st : Scope.Store) (tblS : Scope.Table) (T' : List IRValue)
      (idxs : List Nat),
    (∀ p ∈ ps, wfTensor p = true ∧ validDType p.dataType = true) →
    CoreEq st (P ++ T.map absCell) → TblRelB tblS (tableNames T) P.length →
    desInitializers vis q (ps.map irT) T = .ok (T', idxs) →
    ∃ st' tblS', Scope.deserInits st tblS (Scope.vinfoTable (vis.map absVI)) (ps.map absT)
        = (st', tblS', idxs.map (P.length + ·)) ∧
      CoreEq st' (P ++ T'.map absCell) ∧ TblRelB tblS' (tableNames T') P.length ∧ st'.nn = st.nn ∧ st'.ng = st.ng
  | [], T, st, tblS, T', idxs, _, hc, ht, h => by
    simp only [List.map_nil, desInitializers, Except.ok.injEq, Prod.mk.injEq] at h
    obtain ⟨rfl, rfl⟩ := h
    exact ⟨st, tblS, rfl, hc, ht, rfl, rfl⟩
  | p :: ps, T, st, tblS, T', idxs, hwf, hc, ht, h => by
    obtain ⟨hw, hv⟩ := hwf p (by simp)
    have hwf' : ∀ p ∈ ps, wfTensor p = true ∧ validDType p.dataType = true :=
      fun x hx => hwf x (List.mem_cons_of_mem _ hx)
    have hname : (irT p).name = p.name := (irT_spec p hw).2.2.1
    have hdt := (irT_dtype p hw hv).1
    simp only [List.map_cons, desInitializers, hname] at h
    simp only [List.map_cons, Scope.deserInits]
    have hnm : (absT p).name = p.name := rfl
    rw [hnm]
    by_cases he : p.name = ""
    · simp only [he, if_true] at h ⊢
      exact ph2B vis q hvis P ps T st tblS T' idxs hwf' hc ht h
    · simp only [he, if_false, hdt, bind, Except.bind] at h ⊢
      rw [tblRelB_lookup ht]
      cases hl : lookupLast (tableNames T) p.name with
      | some i =>
        simp only [hl] at h
        simp only [Option.map_some]
        have hi : i < T.length := by simpa [tableNames] using lookupLast_lt hl
        split at h
        · cases h
        · rename_i r hr
          obtain ⟨T2, is2⟩ := r
          simp only [Except.ok.injEq, Prod.mk.injEq] at h
          obtain ⟨rfl, rfl⟩ := h
          rw [listSet_eq_map] at hr
          have ht3 : TblRelB tblS (tableNames (T.set i { T.getD i (IRValue.blank "") with const := some (irT p) }))
              P.length := by
            rw [tableNames_set T i { T.getD i (IRValue.blank "") with const := some (irT p) } rfl hi]; exact ht
          obtain ⟨st', tblS', e1, e2, e3, e4, e5⟩ :=
            ph2B vis q hvis P ps _ _ tblS T2 is2 hwf' (coreEq_setInit hc p hw hv i hi) ht3 hr
          refine ⟨st', tblS', ?_, e2, e3, e4, e5⟩
          simp only [absT_eq, initTensorS] at e1 ⊢
          rw [e1]; rfl
      | none =>
        simp only [hl, newInitValue_eq vis q hvis p hw hv] at h
        simp only [Option.map_none]
        split at h
        · cases h
        · rename_i r hr
          obtain ⟨T2, is2⟩ := r
          simp only [Except.ok.injEq, Prod.mk.injEq] at h
          obtain ⟨rfl, rfl⟩ := h
          have hnv : st.nv = P.length + T.length := by simpa using hc.nv
          obtain ⟨hc3, hnn, hng⟩ := coreEq_newInit hc vis q p hw hv
          have ht3 : TblRelB ((p.name, st.nv) :: tblS) (tableNames (T ++ [initValT vis q p])) P.length := by
            rw [tableNames_append, hnv]
            have := tblRelB_snoc ht p.name
            simpa [tableNames] using this
          obtain ⟨st', tblS', e1, e2, e3, e4, e5⟩ := ph2B vis q hvis P ps _ _ _ T2 is2 hwf' hc3 ht3 hr
          refine ⟨st', tblS', ?_, e2, e3, e4.trans hnn, e5.trans hng⟩
          simp only [absT_eq, initTensorS] at e1 ⊢
          rw [e1, hnv]; rfl

theorem ph3B_declareOutputs (vis : List ValueInfoP) (q : List AnnotP) (hvis : vis.all wfVI = true) (P : List Cell) :
    ∀ (xs : List String) (T : List IRValue) (st : Scope.Store) (tblS : Scope.Table) (T' : List IRValue),
    CoreEq st (P ++ T.map absCell) → TblRelB tblS (tableNames T) P.length →
    Serde.declareOutputs vis q xs T = .ok T' →
    ∃ st' tblS', Scope.declareOutputs st tblS (Scope.vinfoTable (vis.map absVI)) xs = .ok (st', tblS') ∧
      CoreEq st' (P ++ T'.map absCell) ∧ TblRelB tblS' (tableNames T') P.length ∧ st'.nn = st.nn ∧ st'.ng = st.ng
  | [], T, st, tblS, T', hc, ht, h => by
    simp only [Serde.declareOutputs, Except.ok.injEq] at h
    subst h
    exact ⟨st, tblS, rfl, hc, ht, rfl, rfl⟩
  | x :: xs, T, st, tblS, T', hc, ht, h => by
    simp only [Serde.declareOutputs] at h
    simp only [Scope.declareOutputs]
    by_cases he : x = ""
    · simp only [he, if_true] at h ⊢
      exact ph3B_declareOutputs vis q hvis P xs T st tblS T' hc ht h
    · simp only [he, if_false] at h ⊢
      rw [tblRelB_lookup ht]
      cases hl : lookupLast (tableNames T) x with
      | some i => simp [hl] at h
      | none =>
        simp only [hl, newValue_eq vis q x hvis, bind, Except.bind] at h
        simp only [Option.map_none]
        have hnv : st.nv = P.length + T.length := by simpa using hc.nv
        have hc2 := coreEq_alloc hc { name := some x, info := ((findVI vis x).map absInfo).getD {} }
          (by intro t ht'; cases ht')
        have hc3 : CoreEq (Scope.newNamed st (Scope.vinfoTable (vis.map absVI)) x)
            (P ++ (T ++ [newValueT vis q x]).map absCell) := by
          rw [newNamed_eq, List.map_append, ← List.append_assoc]
          simpa [absCell_newValueT] using hc2
        have ht3 : TblRelB ((x, st.nv) :: tblS) (tableNames (T ++ [newValueT vis q x])) P.length := by
          rw [tableNames_append, hnv]
          have := tblRelB_snoc ht x
          simpa [tableNames] using this
        obtain ⟨st', tblS', e1, e2, e3, e4, e5⟩ := ph3B_declareOutputs vis q hvis P xs _ _ _ T' hc3 ht3 h
        refine ⟨st', tblS', e1, e2, e3, ?_, ?_⟩
        · rw [e4, newNamed_eq]; rfl
        · rw [e5, newNamed_eq]; rfl

theorem absNFull_outputs (n : NodeP) : (absNFull n).outputs = n.outputs := by
  cases n; simp [absNFull, Scope.NodeP.outputs, NodeP.outputs]

theorem absNsFull_cons (n : NodeP) (ns : List NodeP) : absNsFull (n :: ns) = absNFull n :: absNsFull ns := by
  simp [absNsFull]

theorem ph3B_declareAll (vis : List ValueInfoP) (q : List AnnotP) (hvis : vis.all wfVI = true) (P : List Cell) :
    ∀ (ns : List NodeP) (T : List IRValue) (st : Scope.Store) (tblS : Scope.Table) (T' : List IRValue),
    CoreEq st (P ++ T.map absCell) → TblRelB tblS (tableNames T) P.length →
    declareAll vis q ns T = .ok T' →
    ∃ st' tblS', Scope.declareNodes st tblS (Scope.vinfoTable (vis.map absVI)) (absNsFull ns) = .ok (st', tblS') ∧
      CoreEq st' (P ++ T'.map absCell) ∧ TblRelB tblS' (tableNames T') P.length ∧ st'.nn = st.nn ∧ st'.ng = st.ng
  | [], T, st, tblS, T', hc, ht, h => by
    simp only [declareAll, Except.ok.injEq] at h
    subst h
    exact ⟨st, tblS, by simp [absNsFull, Scope.declareNodes], hc, ht, rfl, rfl⟩
  | n :: ns, T, st, tblS, T', hc, ht, h => by
    simp only [declareAll, bind, Except.bind] at h
    split at h
    · cases h
    · rename_i T1 h1
      obtain ⟨st1, tbl1, a1, a2, a3, a4, a5⟩ := ph3B_declareOutputs vis q hvis P n.outputs T st tblS T1 hc ht h1
      obtain ⟨st2, tbl2, b1, b2, b3, b4, b5⟩ := ph3B_declareAll vis q hvis P ns T1 st1 tbl1 T' a2 a3 h
      refine ⟨st2, tbl2, ?_, b2, b3, by rw [b4, a4], by rw [b5, a5]⟩
      rw [absNsFull_cons]
      simp only [Scope.declareNodes]
      rw [absNFull_outputs, a1]
      exact b1

theorem sameCore_mkNode (st : Scope.Store) (ins : List (Option Nat)) (outs : List Nat) (gs : List Scope.GraphT) :
    SameCore st (Scope.mkNode st ins outs gs).1 := by
  have h1 := sameCore_setProducers st.nn outs 0 st
  have h2 := sameCore_addUses st.nn ins 0 (Scope.setProducers st st.nn 0 outs)
  have h := h1.trans h2
  exact ⟨h.nv, h.nt, h.tens, h.name, h.info, h.const⟩

theorem resolveInputs_res (st : Scope.Store) (top : Scope.Table) (outer : List Scope.Table)
    (vi : List (Scope.Name × Scope.Info)) :
    ∀ xs : List String, (∀ x ∈ xs, x ≠ "" → (Scope.resolve x (top :: outer)).isSome = true) →
    Scope.resolveInputs st top outer vi xs
      = (st, top, xs.map fun x => if x = "" then none else Scope.resolve x (top :: outer))
  | [], _ => rfl
  | x :: xs, h => by
    have ih := resolveInputs_res st top outer vi xs (fun y hy => h y (List.mem_cons_of_mem _ hy))
    simp only [Scope.resolveInputs, List.map_cons]
    by_cases he : x = ""
    · simp [he, ih]
    · have hb := h x (by simp) he
      cases hl : Scope.resolve x (top :: outer) with
      | none => rw [hl] at hb; cases hb
      | some v => simp [he, ih]

theorem absOuts_shift (b : Nat) : ∀ (os : List (Option Nat)) (k : Nat),
    absOuts k (os.map fun o => o.map (b + ·)) = absOutsB b k os
  | [], _ => rfl
  | some j :: r, k => by simp [absOuts, absOutsB, absOuts_shift b r k]
  | none :: r, k => by simp [absOuts, absOutsB, absOuts_shift b r (k + 1)]

theorem numNone_shift (b : Nat) : ∀ (os : List (Option Nat)),
    numNone (os.map fun o => o.map (b + ·)) = numNone os
  | [] => rfl
  | some j :: r => by simp [numNone, numNone_shift b r]
  | none :: r => by simp [numNone, numNone_shift b r]

/-- a graph output that names a value of the table: the value gets the info of the output -/
theorem coreEq_outInfo {st : Scope.Store} {P X : List Cell} {T : List IRValue}
    (hc : CoreEq st (P ++ T.map absCell ++ X)) (vi : ValueInfoP) (i : Nat) (hi : i < T.length) :
    CoreEq (st.modify (P.length + i) fun c => { c with info := absInfo vi })
      (P ++ (T.set i (applyInfoT (T.getD i (IRValue.blank "")) vi)).map absCell ++ X) := by
  have hcell := hc.cells (P.length + i) (by simp; omega)
  rw [getD_PT P T X i hi] at hcell
  have hc2 := coreEq_modify hc (P.length + i) (fun c => { c with info := absInfo vi })
    (by intro t ht'; exact hc.tens (P.length + i) t ht')
  rw [List.map_set, absCell_applyInfoT]
  have : (P ++ T.map absCell ++ X).set (P.length + i)
        ⟨(st.vals (P.length + i)).name, absInfo vi, (st.vals (P.length + i)).const.map st.tens⟩
      = P ++ (T.map absCell).set i
        ⟨(st.vals (P.length + i)).name, absInfo vi, (st.vals (P.length + i)).const.map st.tens⟩ ++ X := by
    rw [List.append_assoc, set_append_add, List.set_append_left _ _ (by simpa using hi), List.append_assoc]
  simp only [cellAt, absCell, Cell.mk.injEq] at hcell
  rw [← hcell.1, ← hcell.2.2, ← this]
  exact hc2

theorem ph5B (tbl : Scope.Table) (P : List Cell) : ∀ (outs : List ValueInfoP) (T : List IRValue) (st : Scope.Store)
    (X : List Cell) (os : List IRGOut) (T' : List IRValue),
    CoreEq st (P ++ T.map absCell ++ X) → TblRelB tbl (tableNames T) P.length →
    desGraphOutputs outs T = .ok (os, T') →
    ∃ st', Scope.deserOutputs st tbl (outs.map absVI)
        = (st', absGOutsB P.length (P.length + T.length + X.length) os) ∧
      CoreEq st' (P ++ T'.map absCell ++ X ++ dangCells os) ∧ tableNames T' = tableNames T ∧
      st'.nn = st.nn ∧ st'.ng = st.ng
  | [], T, st, X, os, T', hc, _, h => by
    simp only [desGraphOutputs, Except.ok.injEq, Prod.mk.injEq] at h
    obtain ⟨rfl, rfl⟩ := h
    exact ⟨st, rfl, by simpa [dangCells] using hc, rfl, rfl, rfl⟩
  | vi :: outs, T, st, X, os, T', hc, ht, h => by
    simp only [desGraphOutputs] at h
    simp only [List.map_cons, Scope.deserOutputs]
    have hnm : (absVI vi).name = vi.name := rfl
    rw [hnm, tblRelB_lookup ht]
    cases hl : lookupLast (tableNames T) vi.name with
    | some i =>
      simp only [hl, bind, Except.bind] at h
      simp only [Option.map_some]
      have hi : i < T.length := by simpa [tableNames] using lookupLast_lt hl
      split at h
      · cases h
      · rename_i v' hv'
        have hv := applyInfo_ok_eq hv'
        subst hv
        split at h
        · cases h
        · rename_i r hr
          obtain ⟨os2, T2⟩ := r
          simp only [Except.ok.injEq, Prod.mk.injEq] at h
          obtain ⟨rfl, rfl⟩ := h
          rw [listSet_eq_map] at hr
          have hc3 := coreEq_outInfo hc vi i hi
          have hT : tableNames (T.set i (applyInfoT (T.getD i (IRValue.blank "")) vi)) = tableNames T :=
            tableNames_set T i _ rfl hi
          obtain ⟨st', e1, e2, e3, e4, e5⟩ := ph5B tbl P outs _ _ X os2 T2 hc3 (by rw [hT]; exact ht) hr
          refine ⟨st', ?_, ?_, e3.trans hT, e4, e5⟩
          · simp only [List.length_set] at e1
            simp only [absVI] at e1 ⊢
            rw [e1]; rfl
          · simpa [dangCells] using e2
    | none =>
      simp only [hl, bind, Except.bind] at h
      simp only [Option.map_none]
      split at h
      · cases h
      · rename_i v' hv'
        have hv := applyInfo_ok_eq hv'
        subst hv
        split at h
        · cases h
        · rename_i r hr
          obtain ⟨os2, T2⟩ := r
          simp only [Except.ok.injEq, Prod.mk.injEq] at h
          obtain ⟨rfl, rfl⟩ := h
          have hc2 := coreEq_alloc hc { name := some vi.name, info := absInfo vi } (by intro t ht'; cases ht')
          have hc3 : CoreEq (st.alloc { name := some vi.name, info := absInfo vi }).1
              (P ++ T.map absCell ++ (X ++ [absCell (applyInfoT (IRValue.blank vi.name) vi)])) := by
            rw [← List.append_assoc]
            simpa [absCell_applyInfoT, IRValue.blank] using hc2
          obtain ⟨st', e1, e2, e3, e4, e5⟩ := ph5B tbl P outs T _ _ os2 T2 hc3 ht hr
          have hnv : st.nv = P.length + T.length + X.length := by simpa [Nat.add_assoc] using hc.nv
          refine ⟨st', ?_, ?_, e3, by rw [e4]; rfl, by rw [e5]; rfl⟩
          · simp only [absVI] at e1 ⊢
            rw [e1]
            simp [absGOutsB, Scope.Store.alloc, hnv, Nat.add_assoc]
          · simpa [dangCells, List.append_assoc] using e2

theorem deserSubs_cons {sc : List Scope.Table} {g : Scope.GraphP} {gs : List Scope.GraphP} {st st1 st2 : Scope.Store}
    {gt : Scope.GraphT} {gts : List Scope.GraphT} (h1 : Scope.deserGraph st sc g = .ok (st1, gt))
    (h2 : Scope.deserSubs st1 sc gs = .ok (st2, gts)) : Scope.deserSubs st sc (g :: gs) = .ok (st2, gt :: gts) := by
  simp only [Scope.deserSubs, h1, h2]

theorem deserSubs_append (sc : List Scope.Table) : ∀ (a b : List Scope.GraphP) (st st1 st2 : Scope.Store)
    (g1 g2 : List Scope.GraphT),
    Scope.deserSubs st sc a = .ok (st1, g1) → Scope.deserSubs st1 sc b = .ok (st2, g2) →
    Scope.deserSubs st sc (a ++ b) = .ok (st2, g1 ++ g2)
  | [], b, st, st1, st2, g1, g2, h1, h2 => by
    simp only [Scope.deserSubs, Except.ok.injEq, Prod.mk.injEq] at h1
    obtain ⟨rfl, rfl⟩ := h1
    simpa using h2
  | x :: a, b, st, st1, st2, g1, g2, h1, h2 => by
    obtain ⟨sx, gx, ga, hx, ha, rfl⟩ := Scope.deserSubs_inv h1
    exact deserSubs_cons hx (deserSubs_append sc a b sx st1 st2 ga g2 ha h2)

theorem desAttr_graph {scN : Scopes} {n d : String} {g : GraphP} {x : IRGraph} (h : desGraph scN g = .ok x) :
    desAttr scN (.graph n d g) = .ok (.graph n d x) := by
  simp only [desAttr, h, bind, Except.bind]

theorem desAttr_graphs {scN : Scopes} {n d : String} {gs : List GraphP} {xs : List IRGraph}
    (h : desGraphs scN gs = .ok xs) : desAttr scN (.graphs n d gs) = .ok (.graphs n d xs) := by
  simp only [desAttr, h, bind, Except.bind]

theorem desGraphs_cons {scN : Scopes} {g : GraphP} {gs : List GraphP} {x : IRGraph} {xs : List IRGraph}
    (h1 : desGraph scN g = .ok x) (h2 : desGraphs scN gs = .ok xs) : desGraphs scN (g :: gs) = .ok (x :: xs) := by
  simp only [desGraphs, h1, h2, bind, Except.bind]

theorem desAttrs_cons {scN : Scopes} {a : AttrP} {as : List AttrP} {x : IRAttr} {xs : List IRAttr}
    (h1 : desAttr scN a = .ok x) (h2 : desAttrs scN as = .ok xs) : desAttrs scN (a :: as) = .ok (x :: xs) := by
  simp only [desAttrs, h1, h2, bind, Except.bind]

theorem desNodes_cons {outer : Scopes} {vis : List ValueInfoP} {q : List AnnotP} {n : NodeP} {ns : List NodeP}
    {tbl tbl1 tbl2 : List IRValue} {x : IRNode} {xs : List IRNode} (h1 : desNode outer vis q tbl n = .ok (x, tbl1))
    (h2 : desNodes outer vis q ns tbl1 = .ok (xs, tbl2)) :
    desNodes outer vis q (n :: ns) tbl = .ok (x :: xs, tbl2) := by
  simp only [desNodes, h1, h2, bind, Except.bind]

theorem deserNodes_cons {top top1 top2 : Scope.Table} {outer : List Scope.Table} {vi : List (Scope.Name × Scope.Info)}
    {n : Scope.NodeP} {ns : List Scope.NodeP} {st st1 st2 : Scope.Store} {nt : Scope.NodeT} {nts : List Scope.NodeT}
    (h1 : Scope.deserNode st top outer vi n = .ok (st1, top1, nt))
    (h2 : Scope.deserNodes st1 top1 outer vi ns = .ok (st2, top2, nts)) :
    Scope.deserNodes st top outer vi (n :: ns) = .ok (st2, top2, nt :: nts) := by
  simp only [Scope.deserNodes, h1, h2]


/-- what the mutual induction provides for the node list of a graph -/
def NodesBr (outerN : Scopes) (outerS : List Scope.Table) (bases : List Nat) (vis : List ValueInfoP)
    (q : List AnnotP) (nodes : List NodeP) : Prop :=
  ∀ (tbl : List IRValue) (st : Scope.Store) (P : List Cell) (top : Scope.Table) (b : Nat),
    wfNodes (tableNames tbl :: outerN) nodes = true → CoreEq st P → TblRelB top (tableNames tbl) b →
    ∃ xs st', desNodes outerN vis q nodes tbl = .ok (xs, tbl) ∧
      Scope.deserNodes st top outerS (Scope.vinfoTable (vis.map absVI)) (absNsFull nodes)
        = .ok (st', top, treeNodes (b :: bases) P.length st.nn st.ng xs) ∧
      CoreEq st' (P ++ cellsNodes xs) ∧ st'.nn = st.nn + nnNodes xs ∧ st'.ng = st.ng + ngNodes xs

def AttrsBr (scN : Scopes) (scS : List Scope.Table) (bases : List Nat) (attrs : List AttrP) : Prop :=
  wfAttrs scN attrs = true → ∀ (st : Scope.Store) (P : List Cell), CoreEq st P →
    ∃ xs st', desAttrs scN attrs = .ok xs ∧
      Scope.deserSubs st scS (subsAttrs attrs) = .ok (st', treeAttrs bases P.length st.nn st.ng xs) ∧
      CoreEq st' (P ++ cellsAttrs xs) ∧ st'.nn = st.nn + nnAttrs xs ∧ st'.ng = st.ng + ngAttrs xs ∧
      xs.map IRAttr.name = attrs.map AttrP.name

theorem desNode_wf (outer : Scopes) (vis : List ValueInfoP) (q : List AnnotP) (tbl : List IRValue)
    (inputs outputs : List String) (name opType domain overload doc : String)
    (attrs : List AttrP) (metadata : List Entry) (devcfgs : List NodeDevCfgP)
    (hw : wfNode (tableNames tbl :: outer)
      (.mk inputs outputs name opType domain overload doc attrs metadata devcfgs) = true)
    (xs : List IRAttr) (hxs : desAttrs (tableNames tbl :: outer) attrs = .ok xs)
    (hnames : xs.map IRAttr.name = attrs.map AttrP.name) :
    desNode outer vis q tbl (.mk inputs outputs name opType domain overload doc attrs metadata devcfgs)
      = .ok (IRNode.mk (normDomain domain) opType overload name doc
          (inputs.map (fun n => if n = "" then none else Serde.resolve (tableNames tbl :: outer) n))
          (outputs.map (fun n => if n = "" then none else lookupLast (tableNames tbl) n))
          xs (dictOfEntries metadata) (devcfgs.map (desNodeDevCfg (tableNames tbl :: outer))), tbl) := by
  simp only [wfNode, Bool.and_eq_true, List.headD_cons] at hw
  obtain ⟨⟨⟨⟨⟨hin, hout⟩, hnd⟩, _⟩, _⟩, _⟩ := hw
  have hnd' := nodupStr_iff.1 hnd
  have hord : orderByFirst (attrs.map AttrP.name) xs = xs := by
    rw [← hnames]; exact orderByFirst_self (by rw [hnames]; exact hnd')
  simp only [desNode, desNodeInputs_wf outer vis q tbl inputs hin, desNodeOutputs_wf _ outputs hout,
    desAttrsLast_eq hnd', hxs, bind, Except.bind, hord]

theorem desNode_shape (vis : List ValueInfoP) (q : List AnnotP) (T : List IRValue) :
    ∀ (n : NodeP) (x : IRNode) (T' : List IRValue),
    wfNode [tableNames T] n = true → desNode [] vis q T n = .ok (x, T') →
    T' = T ∧ x.inputs = n.inputs.map (fun s => if s = "" then none else Serde.resolve [tableNames T] s) ∧
      x.outputs = n.outputs.map (fun s => if s = "" then none else lookupLast (tableNames T) s)
  | .mk inputs outputs name opType domain overload doc attrs metadata devcfgs, x, T', hw, h => by
    have hwa : wfAttrs [tableNames T] attrs = true := by
      simp only [wfNode, Bool.and_eq_true] at hw; exact hw.1.1.2
    obtain ⟨xs, a1, _, a3⟩ := attrs_rt [tableNames T] none attrs hwa (Or.inl rfl)
    rw [desNode_wf [] vis q T inputs outputs name opType domain overload doc attrs metadata devcfgs hw xs a1 a3] at h
    cases h
    exact ⟨rfl, rfl, rfl⟩

theorem node_coreB (outerN : Scopes) (outerS : List Scope.Table) (bases : List Nat) (vis : List ValueInfoP)
    (q : List AnnotP) (tbl : List IRValue) (top : Scope.Table) (b : Nat)
    (hsc : ScRel outerS outerN bases) (ht : TblRelB top (tableNames tbl) b)
    (inputs outputs : List String) (name opType domain overload doc : String)
    (attrs : List AttrP) (metadata : List Entry) (devcfgs : List NodeDevCfgP)
    (hw : wfNode (tableNames tbl :: outerN)
      (.mk inputs outputs name opType domain overload doc attrs metadata devcfgs) = true)
    (hattrs : AttrsBr (tableNames tbl :: outerN) (top :: outerS) (b :: bases) attrs)
    (st : Scope.Store) (P : List Cell) (hc : CoreEq st P) :
    ∃ x st', desNode outerN vis q tbl (.mk inputs outputs name opType domain overload doc attrs metadata devcfgs)
        = .ok (x, tbl) ∧
      Scope.deserNode st top outerS (Scope.vinfoTable (vis.map absVI))
          (absNFull (.mk inputs outputs name opType domain overload doc attrs metadata devcfgs))
        = .ok (st', top, treeNode (b :: bases) P.length st.nn st.ng x) ∧
      CoreEq st' (P ++ cellsNode x) ∧ st'.nn = st.nn + nnNode x ∧ st'.ng = st.ng + ngNode x := by
  have hdes := desNode_wf outerN vis q tbl inputs outputs name opType domain overload doc attrs metadata devcfgs hw
  simp only [wfNode, Bool.and_eq_true, List.headD_cons] at hw
  obtain ⟨⟨⟨⟨⟨hin, hout⟩, _⟩, hattrsW⟩, _⟩, _⟩ := hw
  have hsc' : ScRel (top :: outerS) (tableNames tbl :: outerN) (b :: bases) := .cons ht hsc
  have hres : ∀ x, Scope.resolve x (top :: outerS)
      = (Serde.resolve (tableNames tbl :: outerN) x).map (refId (b :: bases)) := fun x => scRel_resolve x hsc'
  have b1 : ∀ x ∈ inputs, x ≠ "" → (Scope.resolve x (top :: outerS)).isSome = true := by
    intro x hx hne
    have := List.all_eq_true.1 hin x hx
    rcases Bool.or_eq_true_iff.1 this with h1 | h1
    · simp [String.isEmpty_iff] at h1; exact absurd h1 hne
    · rw [hres]; simpa using h1
  have b2 : AllBound top outputs := by
    intro x hx hne
    have := List.all_eq_true.1 hout x hx
    rcases Bool.or_eq_true_iff.1 this with h1 | h1
    · simp [String.isEmpty_iff] at h1; exact absurd h1 hne
    · rw [tblRelB_lookup ht]
      have := lookupLast_isSome (names := tableNames tbl) (n := x) (by simpa using h1)
      simpa using this
  obtain ⟨st2, l1, l2, l3, l4⟩ := lookupOutputs_bound top outputs st P hc b2
  have hshift : (outputs.map fun x => if x = "" then none else top.lookup x)
      = (outputs.map fun s => if s = "" then none else lookupLast (tableNames tbl) s).map
          (fun o => o.map (b + ·)) := by
    rw [List.map_map]
    apply List.map_congr_left
    intro s _
    by_cases he : s = ""
    · simp [he]
    · simp [he, tblRelB_lookup ht]
  rw [hshift, absOuts_shift] at l1
  rw [hshift, numNone_shift] at l2
  obtain ⟨xs, st3, a1, a2, a3, a4, a5, a6⟩ := hattrs hattrsW st2 _ l2
  have hins : (inputs.map fun x => if x = "" then none else Scope.resolve x (top :: outerS))
      = absInsB (b :: bases) (inputs.map fun n => if n = "" then none else resolve (tableNames tbl :: outerN) n) := by
    simp only [absInsB, List.map_map]
    apply List.map_congr_left
    intro s _
    by_cases he : s = ""
    · simp [he]
    · simp [he, hres]
  have hm := sameCore_mkNode st3
    (absInsB (b :: bases) (inputs.map fun n => if n = "" then none else resolve (tableNames tbl :: outerN) n))
    (absOutsB b P.length (outputs.map fun s => if s = "" then none else lookupLast (tableNames tbl) s))
    (treeAttrs (b :: bases)
      (P ++ List.replicate (numNone (outputs.map fun s => if s = "" then none else lookupLast (tableNames tbl) s))
        blankCell).length st2.nn st2.ng xs)
  refine ⟨_, _, hdes xs a1 a6, ?_, coreEq_same (by simpa [cellsNode, List.append_assoc] using a3) hm, ?_, ?_⟩
  · simp only [absNFull, Scope.deserNode, resolveInputs_res st top outerS _ inputs b1, l1, a2, hins,
      Scope.mkNode_snd, treeNode, List.headD_cons]
    simp [a4, l3, l4]
  · rw [Scope.mkNode_fst_nn, a4, l3]; simp [nnNode]; omega
  · rw [Scope.mkNode_fst_ng, a5, l4]; simp [ngNode]

/-- `Graph(...)` changes no cell; the graph object is `treeG` of the C02 graph -/
theorem mkGraph_treeG (bases : List Nat) (P : List Cell) (nn ng : Nat) (T : List IRValue) (n : Nat) (idxs : List Nat)
    (xs : List IRNode) (os : List IRGOut) (name doc : String) (ops : List OpsetP) (mp : Dict) (st5 : Scope.Store)
    (hc : CoreEq st5 (P ++ T.map absCell ++ cellsNodes xs ++ dangCells os))
    (hnn : st5.nn = nn + nnNodes xs) (hng : st5.ng = ng + ngNodes xs) (hlt : ∀ i ∈ idxs, i < T.length)
    (hnd : (idxs.map fun i => (T.getD i (IRValue.blank "")).name).Nodup) :
    ∃ st', Scope.mkGraph st5 (List.range' P.length n)
        (absGOutsB P.length (P.length + T.length + (cellsNodes xs).length) os)
        (treeNodes (P.length :: bases) (P.length + T.length) nn ng xs) (idxs.map (P.length + ·))
      = (st', treeG bases P.length nn ng (.mk T (List.range n) idxs xs os name doc ops mp)) ∧
    CoreEq st' (P ++ cellsG (.mk T (List.range n) idxs xs os name doc ops mp)) ∧
    st'.nn = nn + nnG (.mk T (List.range n) idxs xs os name doc ops mp) ∧
    st'.ng = ng + ngG (.mk T (List.range n) idxs xs os name doc ops mp) := by
  generalize hO : absGOutsB P.length (P.length + T.length + (cellsNodes xs).length) os = OUTS
  generalize hN : treeNodes (P.length :: bases) (P.length + T.length) nn ng xs = NS
  have hsame := mkGraph_same st5 (List.range' P.length n) OUTS NS (idxs.map (P.length + ·))
  have hcnt := Scope.mkGraph_fst_counters st5 (List.range' P.length n) OUTS NS (idxs.map (P.length + ·))
  have hname : ∀ i ∈ idxs, (st5.vals (P.length + i)).name = some (T.getD i (IRValue.blank "")).name := by
    intro i hi
    have hcell := hc.cells (P.length + i) (by simp; have := hlt i hi; omega)
    rw [List.append_assoc (P ++ T.map absCell), getD_PT P T _ i (hlt i hi)] at hcell
    simp only [cellAt, absCell, Cell.mk.injEq] at hcell
    exact hcell.1
  have hinits := mkGraphInits_names st5 (List.range' P.length n) OUTS P.length idxs
    (fun i => (T.getD i (IRValue.blank "")).name) hname hnd
  refine ⟨_, Prod.ext rfl ?_, coreEq_same (by simpa [cellsG, List.append_assoc] using hc) hsame, ?_, ?_⟩
  · rw [Scope.mkGraph_snd, hinits]
    simp only [treeG, hng, ← hO, ← hN]
    simp [List.range'_eq_map_range]
  · rw [hcnt.2.1, hnn]; simp [nnG]
  · rw [hcnt.2.2, hng]; simp [ngG]; omega


theorem graph_coreB (outerN : Scopes) (outerS : List Scope.Table) (bases : List Nat)
    (name doc : String) (nodes : List NodeP) (inits : List TensorP)
    (inputs outputs vis : List ValueInfoP) (quant : List AnnotP) (metadata : List Entry)
    (hwf : wfGraph outerN (.mk name doc nodes inits inputs outputs vis quant metadata) = true)
    (hnodes : NodesBr outerN outerS bases vis quant nodes)
    (st : Scope.Store) (P : List Cell) (hc : CoreEq st P) :
    ∃ x st', desGraph outerN (.mk name doc nodes inits inputs outputs vis quant metadata) = .ok x ∧
      Scope.deserGraph st outerS (absGFull (.mk name doc nodes inits inputs outputs vis quant metadata))
        = .ok (st', treeG bases P.length st.nn st.ng x) ∧
      CoreEq st' (P ++ cellsG x) ∧ st'.nn = st.nn + nnG x ∧ st'.ng = st.ng + ngG x := by
  have hw := (graphWF_of_wf outerN name doc nodes inits inputs outputs vis quant metadata hwf).1
  have hwfT2 : ∀ p ∈ inits, wfTensor p = true ∧ validDType p.dataType = true := by
    intro p hp
    have := List.all_eq_true.1 hw.wfInit p hp
    simpa [Bool.and_eq_true] using this
  obtain ⟨idxs, TB, hB, hC, hE, hwn, hidxlt, s3, hdes⟩ :=
    desGraph_wf outerN name doc nodes inits inputs outputs vis quant metadata hwf
  have hlenF : (tblFinal inits inputs outputs vis quant (nodeOutNames nodes)).length
      = (tblPre inits inputs vis quant (nodeOutNames nodes)).length := by simp [tblFinal]
  generalize tblPre inits inputs vis quant (nodeOutNames nodes) = TP at hC hE hwn hlenF hdes
  generalize tblFinal inits inputs outputs vis quant (nodeOutNames nodes) = TF at hE hidxlt s3 hlenF hdes
  -- the five phases of C02 in closed form (`desGraph_wf`) against the same five on the store
  obtain ⟨p1a, p1b, p1c, p1d⟩ := ph1_inputs quant inputs st P hc
  generalize hI : Scope.deserInputs st (inputs.map absVI) = rI at p1a p1b p1c p1d
  obtain ⟨st1, ins⟩ := rI
  simp only at p1a p1b p1c p1d
  subst p1a
  have ht1 : TblRelB (Scope.inputTable (inputs.map absVI) (List.range' P.length inputs.length))
      (tableNames (inputs.map (inputValT quant))) P.length := by
    rw [tableNames_inputVals]
    unfold TblRelB Scope.inputTable
    simp [List.map_map, Function.comp_def, absVI]
  obtain ⟨st2, tbl2, p2a, p2b, p2c, p2d, p2e⟩ := ph2B vis quant hw.wfVis P inits _ st1 _ _ idxs hwfT2 p1b ht1 hB
  obtain ⟨st3, tbl3, p3a, p3b, p3c, p3d, p3e⟩ :=
    ph3B_declareAll vis quant hw.wfVis P nodes _ st2 tbl2 _ p2b p2c hC
  obtain ⟨xs, st4, hD1, p4a, p4b, p4c, p4d⟩ := hnodes TP st3 (P ++ TP.map absCell) tbl3 P.length hwn p3b p3c
  obtain ⟨st5, p5a, p5b, _, p5d, p5e⟩ := ph5B tbl3 P outputs TP st4 (cellsNodes xs) _ _ p4b p3c hE
  have hnn3 : st3.nn = st.nn := by rw [p3d, p2d, p1c]
  have hng3 : st3.ng = st.ng := by rw [p3e, p2e, p1d]
  rw [List.length_append, List.length_map, hnn3, hng3] at p4a
  rw [← hlenF] at p4a p5a
  obtain ⟨st6, m1, m2, m3, m4⟩ := mkGraph_treeG bases P st.nn st.ng TF inputs.length idxs xs
    (outputs.map (gOutT (tableNames TP))) name doc [] (dictOfEntries metadata) st5 p5b
    (by rw [p5d, p4c, hnn3]) (by rw [p5e, p4d, hng3]) hidxlt (by rw [s3]; exact hw.nodupInit)
  refine ⟨_, st6, hdes xs hD1, ?_, m2, m3, m4⟩
  simp only [absGFull, Scope.deserGraph, hI, p2a, p3a, p4a, p5a, m1]


/-! attributes that hold no graph contribute nothing to the Scope world, on either side -/

theorem subsAttr_leaf (a : AttrP) (h : hasGraphAttr a = false) : subsAttr a = [] := by
  cases a with
  | graph | graphs => exact Bool.noConfusion h
  | _ => rfl

theorem leaf_ir (x : IRAttr) (h : irHasGraph x = false) :
    cellsAttr x = [] ∧ nnAttr x = 0 ∧ ngAttr x = 0 ∧ ∀ B k nn ng, treeAttr B k nn ng x = [] := by
  cases x with
  | graph | graphs => exact Bool.noConfusion h
  | _ => exact ⟨rfl, rfl, rfl, fun _ _ _ _ => rfl⟩

theorem okAttr_leaf (lens : List Nat) (x : IRAttr) (h : irHasGraph x = false) : okAttr lens x = true := by
  cases x with
  | graph | graphs => exact Bool.noConfusion h
  | _ => rfl

/-- `desAttr` maps every constructor to the constructor of the same name -/
theorem desAttr_kind {scN : Scopes} {a : AttrP} {x : IRAttr} (h : desAttr scN a = .ok x) :
    irHasGraph x = hasGraphAttr a := by
  cases a with
  | unknown | sparse => cases h
  | int | float | string | ints | floats | undefined => cases h; rfl
  | ref n d r t => simp only [desAttr] at h; split at h <;> cases h; rfl
  | strings | tensor | tensors | graph | graphs | typeProtos =>
    simp only [desAttr, bind, Except.bind] at h; split at h <;> cases h; rfl
  | typeProto n d tp => simp only [desAttr, bind, Except.bind] at h; split at h <;> cases h; rfl

theorem desAttr_leaf (scN : Scopes) (a : AttrP) (hl : hasGraphAttr a = false) (x : IRAttr)
    (hx : desAttr scN a = .ok x) : irHasGraph x = false :=
  (desAttr_kind hx).trans hl

theorem attr_br_leaf (scN : Scopes) (scS : List Scope.Table) (B : List Nat) (a : AttrP)
    (hl : hasGraphAttr a = false) (h : wfAttr scN a = true) (st : Scope.Store) (P : List Cell)
    (hc : CoreEq st P) :
    ∃ x st', desAttr scN a = .ok x ∧
      Scope.deserSubs st scS (subsAttr a) = .ok (st', treeAttr B P.length st.nn st.ng x) ∧
      CoreEq st' (P ++ cellsAttr x) ∧ st'.nn = st.nn + nnAttr x ∧ st'.ng = st.ng + ngAttr x ∧
      x.name = a.name := by
  obtain ⟨x, h1, _, h3⟩ := attr_rt scN none a h (Or.inl rfl)
  obtain ⟨e2, e3, e4, e5⟩ := leaf_ir x (desAttr_leaf scN a hl x h1)
  exact ⟨x, st, h1, by rw [subsAttr_leaf a hl, e5]; rfl, by rw [e2]; simpa using hc, by rw [e3]; rfl,
    by rw [e4]; rfl, h3⟩

mutual
theorem attr_br (scN : Scopes) (scS : List Scope.Table) (B : List Nat) (hsc : ScRel scS scN B) :
    ∀ a : AttrP, wfAttr scN a = true → ∀ (st : Scope.Store) (P : List Cell), CoreEq st P →
    ∃ x st', desAttr scN a = .ok x ∧
      Scope.deserSubs st scS (subsAttr a) = .ok (st', treeAttr B P.length st.nn st.ng x) ∧
      CoreEq st' (P ++ cellsAttr x) ∧ st'.nn = st.nn + nnAttr x ∧ st'.ng = st.ng + ngAttr x ∧
      x.name = a.name
  | a, h, st, P, hc => by
    cases a with
    | graph n d g =>
      obtain ⟨x, st', g1, g2, g3, g4, g5⟩ := graph_br scN scS B hsc g h st P hc
      exact ⟨.graph n d x, st', desAttr_graph g1, deserSubs_cons g2 rfl, g3, g4, g5, rfl⟩
    | graphs n d gs =>
      obtain ⟨xs, st', g1, g2, g3, g4, g5⟩ := graphs_br scN scS B hsc gs h st P hc
      exact ⟨.graphs n d xs, st', desAttr_graphs g1, g2, g3, g4, g5, rfl⟩
    | _ => exact attr_br_leaf scN scS B _ rfl h st P hc

theorem graphs_br (scN : Scopes) (scS : List Scope.Table) (B : List Nat) (hsc : ScRel scS scN B) :
    ∀ gs : List GraphP, wfGraphs scN gs = true → ∀ (st : Scope.Store) (P : List Cell), CoreEq st P →
    ∃ xs st', desGraphs scN gs = .ok xs ∧
      Scope.deserSubs st scS (absGsFull gs) = .ok (st', treeGs B P.length st.nn st.ng xs) ∧
      CoreEq st' (P ++ cellsGs xs) ∧ st'.nn = st.nn + nnGs xs ∧ st'.ng = st.ng + ngGs xs
  | [], _, st, P, hc => ⟨[], st, rfl, rfl, (List.append_nil P).symm ▸ hc, rfl, rfl⟩
  | g :: gs, h, st, P, hc => by
    obtain ⟨hg, hgs⟩ := Bool.and_eq_true_iff.1 h
    obtain ⟨x, st1, g1, g2, g3, g4, g5⟩ := graph_br scN scS B hsc g hg st P hc
    obtain ⟨xs, st2, h1, h2, h3, h4, h5⟩ := graphs_br scN scS B hsc gs hgs st1 _ g3
    rw [List.length_append, g4, g5] at h2
    refine ⟨x :: xs, st2, desGraphs_cons g1 h1, deserSubs_cons g2 h2, ?_, ?_, ?_⟩
    · rw [List.append_assoc] at h3; exact h3
    · rw [h4, g4, Nat.add_assoc]; rfl
    · rw [h5, g5, Nat.add_assoc]; rfl

theorem attrs_br (scN : Scopes) (scS : List Scope.Table) (B : List Nat) (hsc : ScRel scS scN B) :
    ∀ as : List AttrP, wfAttrs scN as = true → ∀ (st : Scope.Store) (P : List Cell), CoreEq st P →
    ∃ xs st', desAttrs scN as = .ok xs ∧
      Scope.deserSubs st scS (subsAttrs as) = .ok (st', treeAttrs B P.length st.nn st.ng xs) ∧
      CoreEq st' (P ++ cellsAttrs xs) ∧ st'.nn = st.nn + nnAttrs xs ∧ st'.ng = st.ng + ngAttrs xs ∧
      xs.map IRAttr.name = as.map AttrP.name
  | [], _, st, P, hc => ⟨[], st, rfl, rfl, (List.append_nil P).symm ▸ hc, rfl, rfl, rfl⟩
  | a :: as, h, st, P, hc => by
    obtain ⟨ha, has⟩ := Bool.and_eq_true_iff.1 h
    obtain ⟨x, st1, g1, g2, g3, g4, g5, g6⟩ := attr_br scN scS B hsc a ha st P hc
    obtain ⟨xs, st2, h1, h2, h3, h4, h5, h6⟩ := attrs_br scN scS B hsc as has st1 _ g3
    rw [List.length_append, g4, g5] at h2
    refine ⟨x :: xs, st2, desAttrs_cons g1 h1, deserSubs_append scS _ _ st st1 st2 _ _ g2 h2, ?_, ?_, ?_, ?_⟩
    · rw [List.append_assoc] at h3; exact h3
    · rw [h4, g4, Nat.add_assoc]; rfl
    · rw [h5, g5, Nat.add_assoc]; rfl
    · rw [List.map_cons, List.map_cons, g6, h6]

theorem node_br (outerN : Scopes) (outerS : List Scope.Table) (bases : List Nat) (hsc : ScRel outerS outerN bases)
    (vis : List ValueInfoP) (q : List AnnotP) :
    ∀ (n : NodeP) (tbl : List IRValue) (st : Scope.Store) (P : List Cell) (top : Scope.Table) (b : Nat),
    wfNode (tableNames tbl :: outerN) n = true → CoreEq st P → TblRelB top (tableNames tbl) b →
    ∃ x st', desNode outerN vis q tbl n = .ok (x, tbl) ∧
      Scope.deserNode st top outerS (Scope.vinfoTable (vis.map absVI)) (absNFull n)
        = .ok (st', top, treeNode (b :: bases) P.length st.nn st.ng x) ∧
      CoreEq st' (P ++ cellsNode x) ∧ st'.nn = st.nn + nnNode x ∧ st'.ng = st.ng + ngNode x
  | .mk inputs outputs name opType domain overload doc attrs metadata devcfgs, tbl, st, P, top, b, hw, hc, ht =>
    node_coreB outerN outerS bases vis q tbl top b hsc ht inputs outputs name opType domain overload doc attrs
      metadata devcfgs hw
      (attrs_br (tableNames tbl :: outerN) (top :: outerS) (b :: bases) (.cons ht hsc) attrs) st P hc

theorem nodes_br (outerN : Scopes) (outerS : List Scope.Table) (bases : List Nat)
    (hsc : ScRel outerS outerN bases) (vis : List ValueInfoP) (q : List AnnotP) :
    ∀ (nodes : List NodeP) (tbl : List IRValue) (st : Scope.Store) (P : List Cell) (top : Scope.Table) (b : Nat),
    wfNodes (tableNames tbl :: outerN) nodes = true → CoreEq st P → TblRelB top (tableNames tbl) b →
    ∃ xs st', desNodes outerN vis q nodes tbl = .ok (xs, tbl) ∧
      Scope.deserNodes st top outerS (Scope.vinfoTable (vis.map absVI)) (absNsFull nodes)
        = .ok (st', top, treeNodes (b :: bases) P.length st.nn st.ng xs) ∧
      CoreEq st' (P ++ cellsNodes xs) ∧ st'.nn = st.nn + nnNodes xs ∧ st'.ng = st.ng + ngNodes xs
  | [], tbl, st, P, top, b, _, hc, _ => ⟨[], st, rfl, rfl, (List.append_nil P).symm ▸ hc, rfl, rfl⟩
  | n :: ns, tbl, st, P, top, b, hw, hc, ht => by
    obtain ⟨hn, hns⟩ := Bool.and_eq_true_iff.1 hw
    obtain ⟨x, st1, g1, g2, g3, g4, g5⟩ := node_br outerN outerS bases hsc vis q n tbl st P top b hn hc ht
    obtain ⟨xs, st2, h1, h2, h3, h4, h5⟩ :=
      nodes_br outerN outerS bases hsc vis q ns tbl st1 _ top b hns g3 ht
    rw [List.length_append, g4, g5] at h2
    refine ⟨x :: xs, st2, desNodes_cons g1 h1, deserNodes_cons g2 h2, ?_, ?_, ?_⟩
    · rw [List.append_assoc] at h3; exact h3
    · rw [h4, g4, Nat.add_assoc]; rfl
    · rw [h5, g5, Nat.add_assoc]; rfl

theorem graph_br (outerN : Scopes) (outerS : List Scope.Table) (bases : List Nat)
    (hsc : ScRel outerS outerN bases) :
    ∀ g : GraphP, wfGraph outerN g = true → ∀ (st : Scope.Store) (P : List Cell), CoreEq st P →
    ∃ x st', desGraph outerN g = .ok x ∧
      Scope.deserGraph st outerS (absGFull g) = .ok (st', treeG bases P.length st.nn st.ng x) ∧
      CoreEq st' (P ++ cellsG x) ∧ st'.nn = st.nn + nnG x ∧ st'.ng = st.ng + ngG x
  | .mk name doc nodes inits inputs outputs vis quant metadata, h, st, P, hc =>
    graph_coreB outerN outerS bases name doc nodes inits inputs outputs vis quant metadata h
      (fun tbl st P top b hw hc ht => nodes_br outerN outerS bases hsc vis quant nodes tbl st P top b hw hc ht)
      st P hc
end

end IrVerif.Bridge

namespace IrVerif.Scope
open IrVerif.Proto

/-- **C02/C03 bridge, deserialization, nested graphs included**: on C02's well-formed graphs (`wfGraph []`, GRAPH /
    GRAPHS attributes at any depth) both models deserialize, and C02's IR, abstracted to the Scope world
    (`absIRFull`: values / nodes / graphs numbered in the creation order of the Scope deserializer, references
    `(up, idx)` turned into creation indices through the bases of the enclosing graphs), IS the world the Scope
    model deserializes from the abstracted proto. -/
theorem C03_bridge_deserialize (p : Proto.GraphP) (h : Bridge.sharedFull p = true) :
    ∃ g w, Serde.desGraph [] p = .ok g ∧ deserialize (Bridge.absGFull p) = .ok w ∧
      Bridge.coreOf w = Bridge.absIRFull g := by
  obtain ⟨x, st', g1, g2, g3, _, _⟩ := Bridge.graph_br [] [] [] .nil p h {} [] Bridge.coreEq_empty
  refine ⟨x, ⟨st', Bridge.treeG [] 0 0 0 x⟩, g1, ?_, ?_⟩
  · simp only [deserialize, g2]
    rfl
  · simp only [Bridge.coreOf, Bridge.absIRFull]
    rw [Bridge.coreEq_cells g3]
    simp

end IrVerif.Scope
