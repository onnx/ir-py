/-
Structural invariants of `deserGraph` / `deserNodes` / `deserNode` / `deserSubs`:
freshness of the unallocated part of the store, table invariants, monotone counters, and the frame
"cells allocated before a (sub)graph started keep every link field except `uses`".
-/
import IrVerif.Lemmas.ScopeLinks
import IrVerif.Lemmas.ScopeDict
namespace IrVerif.Scope

/-- counters grow; cells below `b` keep producer, index, owner and flags -/
structure Mono (b : Nat) (st st' : Store) : Prop where
  nv_le : st.nv ≤ st'.nv
  nn_le : st.nn ≤ st'.nn
  ng_le : st.ng ≤ st'.ng
  keep : ∀ v, v < b → (linksOf (st'.vals v)).2 = (linksOf (st.vals v)).2
  names : ∀ v, v < st.nv → (st'.vals v).name = (st.vals v).name

theorem Mono.refl (b : Nat) (st : Store) : Mono b st st :=
  ⟨Nat.le_refl _, Nat.le_refl _, Nat.le_refl _, fun _ _ => rfl, fun _ _ => rfl⟩

theorem Mono.trans {b : Nat} {s1 s2 s3 : Store} (h1 : Mono b s1 s2) (h2 : Mono b s2 s3) : Mono b s1 s3 :=
  ⟨Nat.le_trans h1.nv_le h2.nv_le, Nat.le_trans h1.nn_le h2.nn_le, Nat.le_trans h1.ng_le h2.ng_le,
    fun v hv => by rw [h2.keep v hv, h1.keep v hv],
    fun v hv => by rw [h2.names v (Nat.lt_of_lt_of_le hv h1.nv_le), h1.names v hv]⟩

theorem Mono.weaken {b b' : Nat} {s1 s2 : Store} (h : Mono b s1 s2) (hb : b' ≤ b) : Mono b' s1 s2 :=
  ⟨h.nv_le, h.nn_le, h.ng_le, fun v hv => h.keep v (Nat.lt_of_lt_of_le hv hb), h.names⟩

theorem Quiet.mono {st st' : Store} (q : Quiet st st') (hf : Fresh st) (b : Nat) : Mono b st st' :=
  ⟨q.nv_le, by rw [q.nn_eq]; exact Nat.le_refl _, by rw [q.ng_eq]; exact Nat.le_refl _,
    fun v _ => by rw [q.links hf v], q.names⟩

theorem mkNode_fresh (st : Store) (ins : List (Option Nat)) (outs : List Nat) (gs : List GraphT)
    (hf : Fresh st) (hi : ∀ v, some v ∈ ins → v < st.nv) (ho : ∀ v ∈ outs, v < st.nv) :
    Fresh (mkNode st ins outs gs).1 := by
  intro v hv
  rw [mkNode_fst_nv] at hv
  rw [mkNode_vals]
  have h1 : v ∉ outs := fun h => by have := ho v h; omega
  rw [setProducers_not_mem _ _ _ _ _ h1, hf v hv]
  have h2 : slotsOf v st.nn 0 ins = [] := by
    have key : ∀ (ins : List (Option Nat)) (i : Nat), (∀ w, some w ∈ ins → w < st.nv) →
        slotsOf v st.nn i ins = [] := by
      intro ins
      induction ins with
      | nil => intro i _; rfl
      | cons a r ih =>
        intro i h
        cases a with
        | none => simp only [slotsOf]; exact ih _ (fun w hw => h w (List.mem_cons_of_mem _ hw))
        | some w =>
          have hw := h w List.mem_cons_self
          have : w ≠ v := by omega
          simp only [slotsOf, this, if_false]
          exact ih _ (fun w hw => h w (List.mem_cons_of_mem _ hw))
    exact key ins 0 hi
  simp [h2]

theorem mkNode_mono (st : Store) (ins : List (Option Nat)) (outs : List Nat) (gs : List GraphT) (b : Nat)
    (ho : ∀ v ∈ outs, b ≤ v) : Mono b st (mkNode st ins outs gs).1 := by
  refine ⟨by rw [mkNode_fst_nv]; exact Nat.le_refl _, by rw [mkNode_fst_nn]; omega,
    by rw [mkNode_fst_ng]; exact Nat.le_refl _, ?_, fun v _ => (mkNode_keeps st ins outs gs v).1⟩
  intro v hv
  rw [mkNode_vals]
  have h1 : v ∉ outs := fun h => by have := ho v h; omega
  rw [setProducers_not_mem _ _ _ _ _ h1]
  rfl

theorem dictInsert_vals (d : List (Name × Nat)) (k : Name) (v : Nat) :
    ∀ e ∈ dictInsert d k v, e ∈ d ∨ e.2 = v := fun e he =>
  (kvSet_mem d k v e (dictInsert_eq_kvSet d k v ▸ he)).imp id fun h => by rw [h]

theorem initDict_vals (st : Store) (vs : List Nat) :
    ∀ (d : List (Name × Nat)), ∀ e ∈ initDict st d vs, e ∈ d ∨ e.2 ∈ vs := by
  induction vs with
  | nil => intro d e he; exact .inl he
  | cons a r ih =>
    intro d e he
    simp only [initDict] at he
    rcases ih _ e he with h | h
    · rcases dictInsert_vals _ _ _ e h with h | h
      · exact .inl h
      · exact .inr (by simp [h])
    · exact .inr (List.mem_cons_of_mem _ h)

def setIn (c : ValueS) : ValueS := { c with isIn := true }
def setOut (c : ValueS) : ValueS := { c with isOut := true }
def setInit (c : ValueS) : ValueS := { c with isInit := true }

theorem mkGraph_fst_counters (st : Store) (ins outs : List Nat) (ns : List NodeT) (iv : List Nat) :
    (mkGraph st ins outs ns iv).1.nv = st.nv ∧ (mkGraph st ins outs ns iv).1.nn = st.nn ∧
    (mkGraph st ins outs ns iv).1.ng = st.ng + 1 := by
  simp only [mkGraph]
  have h1 := setOwner_counters st st.ng (fun c => { c with isIn := true }) ins
  have h2 := setOwner_counters (setOwner st st.ng (fun c => { c with isIn := true }) ins) st.ng
    (fun c => { c with isOut := true }) outs
  have h3 := setOwner_counters (setOwner (setOwner st st.ng (fun c => { c with isIn := true }) ins) st.ng
    (fun c => { c with isOut := true }) outs) st.ng (fun c => { c with isInit := true })
    ((initDict (setOwner (setOwner st st.ng (fun c => { c with isIn := true }) ins) st.ng
      (fun c => { c with isOut := true }) outs) [] iv).map (·.2))
  refine ⟨?_, ?_, trivial⟩
  · show (setOwner _ _ _ _).nv = _
    rw [h3.1, h2.1, h1.1]
  · show (setOwner _ _ _ _).nn = _
    rw [h3.2.1, h2.2.1, h1.2.1]

theorem mkGraph_not_mem (st : Store) (ins outs : List Nat) (ns : List NodeT) (iv : List Nat) (v : Nat)
    (h1 : v ∉ ins) (h2 : v ∉ outs) (h3 : v ∉ iv) : (mkGraph st ins outs ns iv).1.vals v = st.vals v := by
  have h4 : v ∉ (mkGraphInits st ins outs iv).map (·.2) := fun hm => by
    obtain ⟨e, he, rfl⟩ := List.mem_map.mp hm
    exact h3 ((initDict_vals _ _ _ e he).resolve_left (by simp))
  rw [mkGraph_cell]
  simp [h1, h2, h4]

theorem mkGraph_fresh (st : Store) (ins outs : List Nat) (ns : List NodeT) (iv : List Nat) (hf : Fresh st)
    (h1 : ∀ v ∈ ins, v < st.nv) (h2 : ∀ v ∈ outs, v < st.nv) (h3 : ∀ v ∈ iv, v < st.nv) :
    Fresh (mkGraph st ins outs ns iv).1 := by
  intro v hv
  rw [(mkGraph_fst_counters st ins outs ns iv).1] at hv
  rw [mkGraph_not_mem _ _ _ _ _ _ (fun h => by have := h1 v h; omega) (fun h => by have := h2 v h; omega)
    (fun h => by have := h3 v h; omega)]
  exact hf v hv

theorem mkGraph_mono (st : Store) (ins outs : List Nat) (ns : List NodeT) (iv : List Nat) (b : Nat)
    (h1 : ∀ v ∈ ins, b ≤ v) (h2 : ∀ v ∈ outs, b ≤ v) (h3 : ∀ v ∈ iv, b ≤ v) :
    Mono b st (mkGraph st ins outs ns iv).1 := by
  obtain ⟨c1, c2, c3⟩ := mkGraph_fst_counters st ins outs ns iv
  refine ⟨by rw [c1]; exact Nat.le_refl _, by rw [c2]; exact Nat.le_refl _, by rw [c3]; omega, ?_, ?_⟩
  rotate_left
  · intro v _
    rw [mkGraph_cell]
  intro v hv
  rw [mkGraph_not_mem _ _ _ _ _ _ (fun h => by have := h1 v h; omega) (fun h => by have := h2 v h; omega)
    (fun h => by have := h3 v h; omega)]

structure GraphRun (st : Store) (outer : List Table) (inputs : List VInfoP) (inits : List TensorP)
    (vinfo : List VInfoP) (nodes : List NodeP) (outputs : List VInfoP)
    (st1 : Store) (ins : List Nat) (st2 : Store) (tbl2 : Table) (iv : List Nat)
    (st3 : Store) (tbl3 : Table) (st4 : Store) (tbl4 : Table) (ns : List NodeT)
    (st5 : Store) (outs : List Nat) : Prop where
  hin : deserInputs st inputs = (st1, ins)
  hinit : deserInits st1 (inputTable inputs ins) (vinfoTable vinfo) inits = (st2, tbl2, iv)
  hdecl : declareNodes st2 tbl2 (vinfoTable vinfo) nodes = .ok (st3, tbl3)
  hnodes : deserNodes st3 tbl3 outer (vinfoTable vinfo) nodes = .ok (st4, tbl4, ns)
  houts : deserOutputs st4 tbl4 outputs = (st5, outs)

structure NodeRun (st : Store) (top : Table) (outer : List Table) (vi : List (Name × Info))
    (inputs outputs : List Name) (subs : List GraphP)
    (st1 : Store) (top1 : Table) (ins : List (Option Nat)) (st2 : Store) (outs : List Nat)
    (st3 : Store) (gs : List GraphT) : Prop where
  hres : resolveInputs st top outer vi inputs = (st1, top1, ins)
  hlook : lookupOutputs st1 top1 outputs = .ok (st2, outs)
  hsubs : deserSubs st2 (top1 :: outer) subs = .ok (st3, gs)

theorem deserGraph_run {st : Store} {outer : List Table} {inputs : List VInfoP} {inits : List TensorP}
    {vinfo : List VInfoP} {nodes : List NodeP} {outputs : List VInfoP} {st' : Store} {g : GraphT}
    (h : deserGraph st outer (.mk inputs inits vinfo nodes outputs) = .ok (st', g)) :
    ∃ st1 ins st2 tbl2 iv st3 tbl3 st4 tbl4 ns st5 outs,
      GraphRun st outer inputs inits vinfo nodes outputs st1 ins st2 tbl2 iv st3 tbl3 st4 tbl4 ns st5 outs ∧
      st' = (mkGraph st5 ins outs ns iv).1 ∧ g = (mkGraph st5 ins outs ns iv).2 := by
  simp only [deserGraph] at h
  split at h
  · simp at h
  · rename_i st3 tbl3 h3
    split at h
    · simp at h
    · rename_i st4 tbl4 ns h4
      simp only [Except.ok.injEq] at h
      exact ⟨_, _, _, _, _, st3, tbl3, st4, tbl4, ns, _, _, ⟨rfl, rfl, h3, h4, rfl⟩, by rw [h], by rw [h]⟩

theorem deserialize_inv {p : GraphP} {w : World} (h : deserialize p = .ok w) :
    deserGraph {} [] p = .ok (w.st, w.root) := by
  unfold deserialize at h
  split at h
  · simp at h
  · rename_i st g hg
    simp only [Except.ok.injEq] at h
    subst h
    exact hg

theorem deserNodes_inv {st : Store} {top : Table} {outer : List Table} {vi : List (Name × Info)}
    {n : NodeP} {ns : List NodeP} {st' : Store} {top' : Table} {nts : List NodeT}
    (h : deserNodes st top outer vi (n :: ns) = .ok (st', top', nts)) :
    ∃ st1 top1 nt nts', deserNode st top outer vi n = .ok (st1, top1, nt) ∧
      deserNodes st1 top1 outer vi ns = .ok (st', top', nts') ∧ nts = nt :: nts' := by
  simp only [deserNodes] at h
  split at h
  · simp at h
  · rename_i st1 top1 nt h1
    split at h
    · simp at h
    · rename_i st2 top2 nts' h2
      simp only [Except.ok.injEq, Prod.mk.injEq] at h
      obtain ⟨rfl, rfl, rfl⟩ := h
      exact ⟨st1, top1, nt, nts', h1, h2, rfl⟩

theorem deserNode_run {st : Store} {top : Table} {outer : List Table} {vi : List (Name × Info)}
    {inputs outputs : List Name} {subs : List GraphP} {st' : Store} {top' : Table} {nt : NodeT}
    (h : deserNode st top outer vi (.mk inputs outputs subs) = .ok (st', top', nt)) :
    ∃ st1 top1 ins st2 outs st3 gs, NodeRun st top outer vi inputs outputs subs st1 top1 ins st2 outs st3 gs ∧
      st' = (mkNode st3 ins outs gs).1 ∧ top1 = top' ∧ nt = (mkNode st3 ins outs gs).2 := by
  simp only [deserNode] at h
  split at h
  · simp at h
  · rename_i st2 outs h2
    split at h
    · simp at h
    · rename_i st3 gs h3
      simp only [Except.ok.injEq, Prod.mk.injEq] at h
      obtain ⟨rfl, rfl, rfl⟩ := h
      exact ⟨_, _, _, st2, outs, st3, gs, ⟨rfl, h2, h3⟩, rfl, rfl, rfl⟩

theorem deserSubs_inv {st : Store} {scopes : List Table} {g : GraphP} {gs : List GraphP} {st' : Store}
    {gts : List GraphT} (h : deserSubs st scopes (g :: gs) = .ok (st', gts)) :
    ∃ st1 gt gts', deserGraph st scopes g = .ok (st1, gt) ∧ deserSubs st1 scopes gs = .ok (st', gts') ∧
      gts = gt :: gts' := by
  simp only [deserSubs] at h
  split at h
  · simp at h
  · rename_i st1 gt h1
    split at h
    · simp at h
    · rename_i st2 gts' h2
      simp only [Except.ok.injEq, Prod.mk.injEq] at h
      obtain ⟨rfl, rfl⟩ := h
      exact ⟨st1, gt, gts', h1, h2, rfl⟩

theorem TablesLt.cons {st : Store} {t : Table} {ts : List Table} (h1 : TableLt st t) (h2 : TablesLt st ts) :
    TablesLt st (t :: ts) := by
  intro t' ht'
  simp only [List.mem_cons] at ht'
  rcases ht' with rfl | ht'
  · exact h1
  · exact h2 t' ht'

/-- `b = st.nv` is the allocation counter the graph started at -/
structure GraphRun.Frame (st : Store) (outer : List Table) (inputs : List VInfoP) (nodes : List NodeP)
    (st1 : Store) (ins : List Nat) (st2 : Store) (tbl2 : Table) (iv : List Nat) (st3 : Store) (tbl3 : Table)
    (st4 : Store) (tbl4 : Table) (st5 : Store) (outs : List Nat) : Prop where
  q1 : Quiet st st1
  nv1 : st1.nv = st.nv + inputs.length
  hins : ins = List.range' st.nv inputs.length
  ok1 : TblOK st1 st.nv (inputTable inputs ins)
  f1 : Fresh st1
  q2 : Quiet st1 st2
  ok2 : TblOK st2 st.nv tbl2
  s2 : Stable st1.nv (inputTable inputs ins) tbl2
  miv : ∀ v ∈ iv, ∃ x, x ≠ "" ∧ (x, v) ∈ tbl2
  f2 : Fresh st2
  le2 : st.nv ≤ st2.nv
  q3 : Quiet st2 st3
  ok3 : TblOK st3 st.nv tbl3
  s3 : Stable st2.nv tbl2 tbl3
  m3 : ∀ x ∈ outNames nodes, tbl2.lookup x = none ∧ ∃ v, tbl3.lookup x = some v ∧ st2.nv ≤ v
  nd3 : (outNames nodes).Nodup
  f3 : Fresh st3
  ho3 : TablesLt st3 outer
  le3 : st.nv ≤ st3.nv
  f4 : Fresh st4
  m4 : Mono st.nv st3 st4
  ok4 : TblOK st4 st.nv tbl4
  s4 : Stable st3.nv tbl3 tbl4
  le4 : st.nv ≤ st4.nv
  q5 : Quiet st4 st5
  mo : ∀ w ∈ outs, (∃ x, (x, w) ∈ tbl4) ∨ (st4.nv ≤ w ∧ w < st5.nv)
  f5 : Fresh st5
  /-- the ids handed to `mkGraph` were allocated by this graph -/
  bins : ∀ v ∈ ins, st.nv ≤ v ∧ v < st5.nv
  bouts : ∀ v ∈ outs, st.nv ≤ v ∧ v < st5.nv
  biv : ∀ v ∈ iv, st.nv ≤ v ∧ v < st5.nv

/-- `hn`: what the run of the nodes does (the induction hypothesis, or `deserNodes_struct`) -/
theorem GraphRun.frame_of {st outer inputs inits vinfo nodes outputs st1 ins st2 tbl2 iv st3 tbl3 st4 tbl4 ns st5 outs}
    (r : GraphRun st outer inputs inits vinfo nodes outputs st1 ins st2 tbl2 iv st3 tbl3 st4 tbl4 ns st5 outs)
    (hf : Fresh st) (ho : TablesLt st outer)
    (hn : Fresh st3 → TblOK st3 st.nv tbl3 → TablesLt st3 outer → st.nv ≤ st3.nv →
      Fresh st4 ∧ Mono st.nv st3 st4 ∧ TblOK st4 st.nv tbl4 ∧ Stable st3.nv tbl3 tbl4) :
    GraphRun.Frame st outer inputs nodes st1 ins st2 tbl2 iv st3 tbl3 st4 tbl4 st5 outs := by
  obtain ⟨q1, nv1, hins⟩ := deserInputs_spec st inputs
  have ok1 := inputTable_ok st inputs
  simp only [r.hin] at q1 nv1 hins ok1
  have f1 := q1.fresh hf
  obtain ⟨q2, ok2, s2, miv⟩ := deserInits_spec (vinfoTable vinfo) inits _ _ st.nv ok1 q1.nv_le
  simp only [r.hinit] at q2 ok2 s2 miv
  have f2 := q2.fresh f1
  have le2 : st.nv ≤ st2.nv := Nat.le_trans q1.nv_le q2.nv_le
  obtain ⟨q3, ok3, s3, m3, nd3⟩ := declareNodes_spec (vinfoTable vinfo) nodes _ _ st.nv st3 tbl3 ok2 le2 r.hdecl
  have f3 := q3.fresh f2
  have le3 : st.nv ≤ st3.nv := Nat.le_trans le2 q3.nv_le
  obtain ⟨f4, m4, ok4, s4⟩ := hn f3 ok3 (ho.mono le3) le3
  have le4 : st.nv ≤ st4.nv := Nat.le_trans le3 m4.nv_le
  obtain ⟨q5, mo⟩ := deserOutputs_spec tbl4 outputs st4 st.nv ok4
  simp only [r.houts] at q5 mo
  have l25 : st2.nv ≤ st5.nv := Nat.le_trans q3.nv_le (Nat.le_trans m4.nv_le q5.nv_le)
  refine ⟨q1, nv1, hins, ok1, f1, q2, ok2, s2, miv, f2, le2, q3, ok3, s3, m3, nd3, f3, ho.mono le3, le3, f4, m4, ok4,
    s4, le4, q5, mo, q5.fresh f4, fun v hv => ?_, fun v hv => ?_, fun v hv => ?_⟩
  · rw [hins, List.mem_range'_1] at hv
    have := q2.nv_le
    omega
  · rcases mo v hv with ⟨x, hx⟩ | ⟨h1, h2⟩
    · exact ⟨ok4.ge _ hx, Nat.lt_of_lt_of_le (ok4.lt _ hx) q5.nv_le⟩
    · exact ⟨Nat.le_trans le4 h1, h2⟩
  · obtain ⟨x, _, hx⟩ := miv v hv
    exact ⟨ok2.ge _ hx, Nat.lt_of_lt_of_le (ok2.lt _ hx) l25⟩

/-- `b` is the allocation counter the graph of the node started at -/
structure NodeRun.Frame (b : Nat) (st : Store) (top : Table) (outer : List Table) (outputs : List Name)
    (st1 : Store) (top1 : Table) (ins : List (Option Nat)) (st2 : Store) (outs : List Nat) (st3 : Store) : Prop where
  q1 : Quiet st st1
  ok1 : TblOK st1 b top1
  s1 : Stable st.nv top top1
  mi : ∀ v, some v ∈ ins → v < st1.nv
  f1 : Fresh st1
  q2 : Quiet st1 st2
  len : outs.length = outputs.length
  mo : ∀ w ∈ outs, (∃ y ∈ outputs, y ≠ "" ∧ top1.lookup y = some w) ∨ (st1.nv ≤ w ∧ w < st2.nv)
  hc : ∀ y ∈ outputs, y ≠ "" → ∃ w ∈ outs, top1.lookup y = some w
  nd : ∀ b', TblOK st1 b' top1 → (outputs.filter (· ≠ "")).Nodup → outs.Nodup
  f2 : Fresh st2
  le1 : b ≤ st1.nv
  le2 : b ≤ st2.nv
  hts : TablesLt st2 (top1 :: outer)
  f3 : Fresh st3
  m3 : Mono st2.nv st2 st3
  bins : ∀ v, some v ∈ ins → v < st3.nv
  bouts : ∀ v ∈ outs, b ≤ v ∧ v < st3.nv

theorem NodeRun.frame_of {b st top outer vi inputs outputs subs st1 top1 ins st2 outs st3 gs}
    (r : NodeRun st top outer vi inputs outputs subs st1 top1 ins st2 outs st3 gs)
    (hf : Fresh st) (hok : TblOK st b top) (ho : TablesLt st outer) (hb : b ≤ st.nv)
    (hs : Fresh st2 → TablesLt st2 (top1 :: outer) → Fresh st3 ∧ Mono st2.nv st2 st3) :
    NodeRun.Frame b st top outer outputs st1 top1 ins st2 outs st3 := by
  obtain ⟨q1, ok1, s1, mi⟩ := resolveInputs_spec outer vi inputs st top b hok ho hb
  simp only [r.hres] at q1 ok1 s1 mi
  have f1 := q1.fresh hf
  obtain ⟨q2, len, mo, hc, nd⟩ := lookupOutputs_spec _ outputs _ _ _ r.hlook
  have f2 := q2.fresh f1
  have le1 : b ≤ st1.nv := Nat.le_trans hb q1.nv_le
  have hts : TablesLt st2 (top1 :: outer) :=
    TablesLt.cons (ok1.lt.mono q2.nv_le) (ho.mono (Nat.le_trans q1.nv_le q2.nv_le))
  obtain ⟨f3, m3⟩ := hs f2 hts
  have l13 : st1.nv ≤ st3.nv := Nat.le_trans q2.nv_le m3.nv_le
  refine ⟨q1, ok1, s1, mi, f1, q2, len, mo, hc, nd, f2, le1, Nat.le_trans le1 q2.nv_le, hts, f3, m3,
    fun v hv => Nat.lt_of_lt_of_le (mi v hv) l13, fun v hv => ?_⟩
  rcases mo v hv with ⟨y, _, _, hl⟩ | ⟨h1, h2⟩
  · have hm := lookup_mem _ _ _ hl
    exact ⟨ok1.ge _ hm, Nat.lt_of_lt_of_le (ok1.lt _ hm) l13⟩
  · exact ⟨Nat.le_trans le1 h1, Nat.lt_of_lt_of_le h2 m3.nv_le⟩

mutual
theorem deserGraph_struct :
    ∀ (p : GraphP) (st : Store) (outer : List Table) (st' : Store) (g : GraphT),
      Fresh st → TablesLt st outer → deserGraph st outer p = .ok (st', g) →
      Fresh st' ∧ Mono st.nv st st'
  | .mk inputs inits vinfo nodes outputs => by
    have ih := deserNodes_struct nodes
    intro st outer st' g hf ho h
    obtain ⟨st1, ins, st2, tbl2, iv, st3, tbl3, st4, tbl4, ns, st5, outs, r, rfl, _⟩ := deserGraph_run h
    have fr := r.frame_of hf ho (fun f3 ok3 ho3 le3 => ih st3 tbl3 outer _ st.nv st4 tbl4 ns f3 ok3 ho3 le3 r.hnodes)
    refine ⟨mkGraph_fresh _ _ _ _ _ fr.f5 (fun v hv => (fr.bins v hv).2) (fun v hv => (fr.bouts v hv).2)
      (fun v hv => (fr.biv v hv).2), ?_⟩
    have mg := mkGraph_mono st5 ins outs ns iv st.nv (fun v hv => (fr.bins v hv).1) (fun v hv => (fr.bouts v hv).1)
      (fun v hv => (fr.biv v hv).1)
    exact ((((fr.q1.mono hf st.nv).trans (fr.q2.mono fr.f1 st.nv)).trans (fr.q3.mono fr.f2 st.nv)).trans fr.m4).trans
      ((fr.q5.mono fr.f4 st.nv).trans mg)
theorem deserNodes_struct :
    ∀ (ns : List NodeP) (st : Store) (top : Table) (outer : List Table) (vi : List (Name × Info)) (b : Nat)
      (st' : Store) (top' : Table) (nts : List NodeT),
      Fresh st → TblOK st b top → TablesLt st outer → b ≤ st.nv →
      deserNodes st top outer vi ns = .ok (st', top', nts) →
      Fresh st' ∧ Mono b st st' ∧ TblOK st' b top' ∧ Stable st.nv top top'
  | [] => by
    intro st top outer vi b st' top' nts hf hok _ _ h
    simp only [deserNodes, Except.ok.injEq, Prod.mk.injEq] at h
    obtain ⟨rfl, rfl, rfl⟩ := h
    exact ⟨hf, Mono.refl _ _, hok, Stable.refl _ _⟩
  | n :: ns => by
    have ihn := deserNode_struct n
    have ihr := deserNodes_struct ns
    intro st top outer vi b st' top' nts hf hok ho hb h
    obtain ⟨st1, top1, nt, nts', h1, h2, _⟩ := deserNodes_inv h
    obtain ⟨f1, m1, ok1, s1⟩ := ihn st top outer vi b st1 top1 nt hf hok ho hb h1
    obtain ⟨f2, m2, ok2, s2⟩ := ihr st1 top1 outer vi b st' top' nts' f1 ok1
      (ho.mono m1.nv_le) (Nat.le_trans hb m1.nv_le) h2
    exact ⟨f2, m1.trans m2, ok2, s1.trans (s2.weaken m1.nv_le)⟩
theorem deserNode_struct :
    ∀ (n : NodeP) (st : Store) (top : Table) (outer : List Table) (vi : List (Name × Info)) (b : Nat)
      (st' : Store) (top' : Table) (nt : NodeT),
      Fresh st → TblOK st b top → TablesLt st outer → b ≤ st.nv →
      deserNode st top outer vi n = .ok (st', top', nt) →
      Fresh st' ∧ Mono b st st' ∧ TblOK st' b top' ∧ Stable st.nv top top'
  | .mk inputs outputs subs => by
    have ih := deserSubs_struct subs
    intro st top outer vi b st' top' nt hf hok ho hb h
    obtain ⟨st1, top1, ins, st2, outs, st3, gs, r, rfl, rfl, _⟩ := deserNode_run h
    have fr := r.frame_of hf hok ho hb (fun f2 hts => ih st2 _ st3 gs f2 hts r.hsubs)
    refine ⟨mkNode_fresh _ _ _ _ fr.f3 fr.bins (fun v hv => (fr.bouts v hv).2), ?_, ?_, fr.s1⟩
    · exact (((fr.q1.mono hf b).trans (fr.q2.mono fr.f1 b)).trans (fr.m3.weaken fr.le2)).trans
        (mkNode_mono _ _ _ _ b (fun v hv => (fr.bouts v hv).1))
    · refine fr.ok1.mono ?_
      rw [mkNode_fst_nv]
      exact Nat.le_trans fr.q2.nv_le fr.m3.nv_le
theorem deserSubs_struct :
    ∀ (gs : List GraphP) (st : Store) (scopes : List Table) (st' : Store) (gts : List GraphT),
      Fresh st → TablesLt st scopes → deserSubs st scopes gs = .ok (st', gts) →
      Fresh st' ∧ Mono st.nv st st'
  | [] => by
    intro st scopes st' gts hf _ h
    simp only [deserSubs, Except.ok.injEq, Prod.mk.injEq] at h
    obtain ⟨rfl, rfl⟩ := h
    exact ⟨hf, Mono.refl _ _⟩
  | g :: gs => by
    have ihg := deserGraph_struct g
    have ihr := deserSubs_struct gs
    intro st scopes st' gts hf hs h
    obtain ⟨st1, gt, gts', h1, h2, _⟩ := deserSubs_inv h
    obtain ⟨f1, m1⟩ := ihg st scopes st1 gt hf hs h1
    obtain ⟨f2, m2⟩ := ihr st1 scopes st' gts' f1 (hs.mono m1.nv_le) h2
    exact ⟨f2, m1.trans (m2.weaken m1.nv_le)⟩
end

theorem GraphRun.frame {st outer inputs inits vinfo nodes outputs st1 ins st2 tbl2 iv st3 tbl3 st4 tbl4 ns st5 outs}
    (r : GraphRun st outer inputs inits vinfo nodes outputs st1 ins st2 tbl2 iv st3 tbl3 st4 tbl4 ns st5 outs)
    (hf : Fresh st) (ho : TablesLt st outer) :
    GraphRun.Frame st outer inputs nodes st1 ins st2 tbl2 iv st3 tbl3 st4 tbl4 st5 outs :=
  r.frame_of hf ho (fun f3 ok3 ho3 le3 =>
    deserNodes_struct nodes st3 tbl3 outer (vinfoTable vinfo) st.nv st4 tbl4 ns f3 ok3 ho3 le3 r.hnodes)

theorem NodeRun.frame {b st top outer vi inputs outputs subs st1 top1 ins st2 outs st3 gs}
    (r : NodeRun st top outer vi inputs outputs subs st1 top1 ins st2 outs st3 gs)
    (hf : Fresh st) (hok : TblOK st b top) (ho : TablesLt st outer) (hb : b ≤ st.nv) :
    NodeRun.Frame b st top outer outputs st1 top1 ins st2 outs st3 :=
  r.frame_of hf hok ho hb (fun f2 hts => deserSubs_struct subs st2 _ st3 gs f2 hts r.hsubs)

end IrVerif.Scope
