/-
Kernel: `WF` (the conjunction of the six clauses) is preserved by every guarded primitive and hence
by every operation of the alphabet.
-/
import IrVerif.Lemmas.KernelNode
namespace IrVerif.Kernel

structure WF (w : World) : Prop where
  use : I_use w
  prod : I_prod w
  root : I_root w
  own : I_own w
  key : I_key w
  node : I_node w

theorem WF_empty : WF World.empty := by
  -- every record of the empty world is blank
  have hv : ∀ v, World.empty.val v = {} := fun v => lget_nil v
  have hn : ∀ n, World.empty.node n = {} := fun n => lget_nil n
  have hg : ∀ g, World.empty.gr g = {} := fun g => lget_nil g
  refine ⟨⟨?_, ?_⟩, ⟨?_, ?_⟩, ?_, ⟨?_, ?_, ?_, ?_, ?_, ?_⟩, ⟨?_, ?_⟩, ⟨?_, ?_⟩⟩ <;> intros <;>
    simp_all [I_root] <;> (try cases ‹IOKind› <;> simp_all [ioList, ioCnt, ioFlag, lget_nil])

theorem guardOp_WF (bad : Bool) (kind : String) (w w' : World) (h : WF w) (h' : WF w') :
    WF (guardOp bad kind w w').1 := by
  unfold guardOp; split
  · assumption
  · split <;> assumption

/-- `tensors`, `locked`, `extra` and `late` are read by no clause -/
theorem WF_of_stores {w w' : World} (h : WF w) (hv : w'.vals = w.vals) (hn : w'.nodes = w.nodes)
    (hg : w'.graphs = w.graphs) : WF w' := by
  have hv' : ∀ v, w'.val v = w.val v := fun v => by simp only [World.val, hv]
  have hn' : ∀ n, w'.node n = w.node n := fun n => by simp only [World.node, hn]
  have hg' : ∀ g, w'.gr g = w.gr g := fun g => by simp only [World.gr, hg]
  exact ⟨I_use_congr (fun v => by rw [hv']) (fun n => by rw [hn']) h.use,
    I_prod_congr (fun v => by rw [hv']; exact ⟨rfl, rfl⟩) (fun n => by rw [hn']) h.prod,
    I_root_congr (fun v => by rw [hv']; exact ⟨rfl, rfl, rfl⟩) h.root,
    I_own_congr (fun v => by rw [hv']; exact ⟨rfl, rfl, rfl, rfl⟩) (fun g => by rw [hg']; exact ⟨rfl, rfl, rfl, rfl, rfl⟩)
      h.own,
    I_key_congr (fun v => by rw [hv']) (fun g => by rw [hg']) h.key,
    I_node_congr (fun n => by rw [hn']) (fun g => by rw [hg']) h.node⟩

theorem bump_WF {w : World} (h : WF w) : WF (bump w) := WF_of_stores h rfl rfl rfl

/-! ### primitives on node inputs / outputs, allocation -/

theorem InputFrame.WF {w w' : World} (hf : InputFrame w w') (hu : I_use w') (h : WF w) : WF w' :=
  ⟨hu, hf.I_prod h.prod, hf.I_root h.root, hf.I_own h.own, hf.I_key h.key, hf.I_node h.node⟩

theorem OutputFrame.WF {w w' : World} (hf : OutputFrame w w') (hp : I_prod w') (hr : I_root w') (h : WF w) : WF w' :=
  ⟨hf.I_use h.use, hp, hr, hf.I_own h.own, hf.I_key h.key, hf.I_node h.node⟩

theorem setInput_WF (w : World) (n i : Nat) (nv : Option Nat) (h : WF w) : WF (setInput w n i nv) :=
  (setInput_inputFrame w n i nv).WF (setInput_I_use _ _ _ _ h.use) h

theorem popInput_WF (w : World) (n : Nat) (h : WF w) : WF (popInput w n) :=
  (popInput_inputFrame w n).WF (popInput_I_use _ _ h.use) h

theorem padInputs_WF (w : World) (n k : Nat) (h : WF w) :
    WF (w.setNode n { w.node n with inputs := (w.node n).inputs ++ List.replicate k none }) :=
  InputFrame.WF (Frame.setNode w n _) (padInputs_I_use _ _ _ h.use) h

theorem attachOutput_WF (w : World) (n v : Nat) (h : WF w) : WF (attachOutput w n v) :=
  (attachOutput_outputFrame w n v).WF (attachOutput_I_prod _ _ _ h.prod) (attachOutput_I_root _ _ _ h.root) h

theorem detachLast_WF (w : World) (n : Nat) (h : WF w) : WF (detachLast w n) :=
  (detachLast_outputFrame w n).WF (detachLast_I_prod _ _ h.prod) (detachLast_I_root _ _ h.root) h

/-- allocation of a value record that has at most a name and a const tensor -/
theorem allocVal_WF (w : World) (x : ValueS) (h : WF w)
    (hx : { x with name := none, const := none } = ({} : ValueS) := by rfl) : WF (allocVal w x).1 := by
  have hfresh := w.val_fresh w.vals.length (Nat.le_refl _)
  have hf := allocVal_frame (bn := id) (bg := id) w x hx
  refine ⟨hf.I_use h.use, hf.I_prod h.prod, hf.I_root h.root, hf.I_own h.own, ?_, hf.I_node h.node⟩
  · constructor
    · intro g key u hm
      have hm' : (key, u) ∈ (w.gr g).inits := hm
      have hne : u ≠ w.vals.length := by
        intro e; subst e
        have := (h.own.init_mem g key _ hm').1
        simp [hfresh] at this
      simp [allocVal, hne]
      exact h.key.name g key u hm'
    · intro g; exact h.key.keys g

theorem addOutput_WF (w : World) (n : Nat) (h : WF w) : WF (addOutput w n) :=
  attachOutput_WF _ _ _ (allocVal_WF w {} h)

theorem allocNode_WF (w : World) (k : Nat) (name : Option String) (opType : String) (h : WF w) :
    WF (w.setNode w.nodes.length { inputs := List.replicate k none, name := name, opType := opType }) := by
  have hf : Frame id (fun y => { y with inputs := [], name := none, opType := "" }) id w
      (w.setNode w.nodes.length { inputs := List.replicate k none, name := name, opType := opType }) :=
    Frame.setNode w _ _ (by rw [w.node_fresh _ (Nat.le_refl _)])
  exact ⟨allocNode_I_use _ _ _ _ h.use, hf.I_prod h.prod, hf.I_root h.root, hf.I_own h.own, hf.I_key h.key,
    hf.I_node h.node⟩

/-! ### tracked lists, initializers, node membership, naming -/

theorem ioInsert_WF (w : World) (g : Nat) (k : IOKind) (pos v : Nat) (h : WF w) : WF (ioInsert w g k pos v) :=
  have hf := ioInsert_ioFrame w g k pos v
  ⟨hf.I_use h.use, hf.I_prod h.prod, ioInsert_I_root _ _ _ _ _ h.root, ioInsert_I_own _ _ _ _ _ h.own, hf.I_key h.key,
   hf.I_node h.node⟩

theorem ioRemoveAt_WF (w : World) (g : Nat) (k : IOKind) (pos : Nat) (h : WF w) : WF (ioRemoveAt w g k pos) :=
  have hf := ioRemoveAt_ioFrame w g k pos
  ⟨hf.I_use h.use, hf.I_prod h.prod, ioRemoveAt_I_root _ _ _ _ h.root, ioRemoveAt_I_own _ _ _ _ h.own, hf.I_key h.key,
   hf.I_node h.node⟩

theorem ioPermute_WF (w : World) (g : Nat) (k : IOKind) (l : List Nat) (hp : l.Perm (ioList k (w.gr g)))
    (h : WF w) : WF (ioPermute w g k l) :=
  have hf := ioPermute_listFrame w g k l
  ⟨hf.I_use h.use, hf.I_prod h.prod, hf.I_root h.root, ioPermute_I_own _ _ _ _ hp h.own, hf.I_key h.key, hf.I_node h.node⟩

theorem ioReverse_WF (w : World) (g : Nat) (k : IOKind) (h : WF w) : WF (ioReverse w g k) :=
  ioPermute_WF w g k _ (List.reverse_perm _) h

theorem sortedBy_perm (keys : List Nat) (rev : Bool) (l : List Nat) : (sortedBy keys rev l).Perm l := by
  unfold sortedBy; split
  · exact (List.reverse_perm _).trans ((List.mergeSort_perm _ _).trans (List.reverse_perm _))
  · exact List.mergeSort_perm _ _

theorem initPut_WF (w : World) (g : Nat) (key : String) (v : Nat) (h : WF w) : WF (initPut w g key v) :=
  have hf := initPut_initFrame w g key v
  ⟨hf.I_use h.use, hf.I_prod h.prod,
   initPut_I_root _ _ _ _ h.root, initPut_I_own _ _ _ _ h.own h.key, initPut_I_key _ _ _ _ h.own h.key,
   hf.I_node h.node⟩

theorem initDel_WF (w : World) (g : Nat) (key : String) (h : WF w) : WF (initDel w g key) :=
  have hf := initDel_initFrame w g key
  ⟨hf.I_use h.use, hf.I_prod h.prod,
   initDel_I_root _ _ _ h.root, initDel_I_own _ _ _ h.own h.key, initDel_I_key _ _ _ h.key,
   hf.I_node h.node⟩

theorem setNamePlain_WF (w : World) (v : Nat) (s : Option String) (h : WF w)
    (hv : (w.val v).isInit = false) : WF (setNamePlain w v s) :=
  have hf := setNamePlain_nameFrame w v s
  ⟨hf.I_use h.use, hf.I_prod h.prod, hf.I_root h.root, hf.I_own h.own, setNamePlain_I_key _ _ _ h.own h.key hv,
   hf.I_node h.node⟩

theorem NodeFrame.WF {w w' : World} (hf : NodeFrame w w') (hn : I_node w') (h : WF w) : WF w' :=
  ⟨hf.I_use h.use, hf.I_prod h.prod, hf.I_root h.root, hf.I_own h.own, hf.I_key h.key, hn⟩

theorem nodeLink_WF (w : World) (g : Nat) (a : Option Nat) (n : Nat) (h : WF w) : WF (nodeLink w g a n) :=
  (nodeLink_nodeFrame w g a n).WF (nodeLink_I_node _ _ _ _ h.node) h

theorem nodeUnlink_WF (w : World) (g n : Nat) (h : WF w) : WF (nodeUnlink w g n) :=
  (nodeUnlink_nodeFrame w g n).WF (nodeUnlink_I_node _ _ _ h.node) h

/-- what no clause reads: const tensors, node names / op types / attribute dicts, the counters and name sets of the name
authority -/
abbrev CoreFrame :=
  Frame (fun x => { x with const := none }) (fun x => { x with name := none, opType := "", attrs := [] })
    (fun r => { r with vCtr := 0, nCtr := 0, vNames := [], nNames := [] })

theorem CoreFrame.WF {w w' : World} (hf : CoreFrame w w') (h : WF w) : WF w' :=
  ⟨hf.I_use h.use, hf.I_prod h.prod, hf.I_root h.root, hf.I_own h.own, hf.I_key h.key, hf.I_node h.node⟩

theorem registerValue_WF (w : World) (g v : Nat) (h : WF w) : WF (registerValue w g v) := by
  unfold registerValue
  split
  · exact CoreFrame.WF (Frame.setGr w g _) h
  · simp only []
    have h1 : ∀ c s, WF (w.setGr g { w.gr g with vCtr := c, vNames := s }) :=
      fun c s => CoreFrame.WF (Frame.setGr w g _) h
    split
    · exact bump_WF (h1 _ _)
    · rename_i hi
      exact setNamePlain_WF _ _ _ (h1 _ _) (by simp at hi; simpa using hi.1)

theorem registerNode_WF (w : World) (g n : Nat) (h : WF w) : WF (registerNode w g n) := by
  unfold registerNode
  split
  · exact CoreFrame.WF (Frame.setGr w g _) h
  · exact CoreFrame.WF ((Frame.setGr w g _).trans (Frame.setNode _ n _)) h

theorem assignNames_WF (w : World) (g n : Nat) (h : WF w) : WF (assignNames w g n) :=
  foldl_inv WF _ (fun a b ha => registerValue_WF a g b ha) _ _ (registerNode_WF w g n h)

theorem allocGraph_WF (w : World) (h : WF w) : WF (w.setGr w.graphs.length {}) :=
  CoreFrame.WF (Frame.setGr w _ _ (by rw [w.gr_fresh _ (Nat.le_refl _)])) h


/-! ### operations -/

theorem replaceInput_WF (w : World) (n : Nat) (idx : Int) (nv : Option Nat) (h : WF w) :
    WF (replaceInput w n idx nv).1 :=
  guardOp_WF _ _ _ _ h (setInput_WF _ _ _ _ h)

theorem resizeInputs_WF (w : World) (n : Nat) (k : Int) (h : WF w) : WF (resizeInputs w n k).1 := by
  apply guardOp_WF _ _ _ _ h
  split
  · exact iter_inv WF _ (fun a ha => popInput_WF a n ha) _ _ h
  · exact padInputs_WF _ _ _ h

theorem resizeOutputs_WF (w : World) (n : Nat) (k : Int) (h : WF w) : WF (resizeOutputs w n k).1 := by
  apply guardOp_WF _ _ _ _ h
  by_cases hle : (if k < 0 then (((w.node n).outputs.length : Int) + k).toNat else k.toNat) ≤ (w.node n).outputs.length
  · rw [if_pos hle]; exact iter_inv WF _ (fun a ha => detachLast_WF a n ha) _ _ h
  · rw [if_neg hle]; exact iter_inv WF _ (fun a ha => addOutput_WF a n ha) _ _ h

theorem newValue_WF (w : World) (name : Option String) (h : WF w) : WF (newValue w name).1 :=
  guardOp_WF _ _ _ _ h (allocVal_WF _ _ h)

theorem newNodeMut_WF (w : World) (opType : String) (name : Option String) (inputs : List (Option Nat))
    (numOutputs : Option Int) (outputs : Option (List Nat)) (h : WF w) :
    WF (newNodeMut w opType name inputs numOutputs outputs) := by
  unfold newNodeMut
  simp only []
  have h1 := allocNode_WF w inputs.length name opType h
  apply foldl_inv WF _ (fun a b ha => setInput_WF a _ _ _ ha)
  cases outputs with
  | some os => exact foldl_inv WF _ (fun a b ha => attachOutput_WF a _ b ha) _ _ h1
  | none => exact iter_inv WF _ (fun a ha => addOutput_WF a _ ha) _ _ h1

theorem newNodeCore_WF (w : World) (opType : String) (name : Option String) (inputs : List (Option Nat))
    (numOutputs : Option Int) (outputs : Option (List Nat)) (h : WF w) :
    WF (newNodeCore w opType name inputs numOutputs outputs).1 :=
  guardOp_WF _ _ _ _ h (newNodeMut_WF _ _ _ _ _ _ h)

theorem newNode_WF (w : World) (opType : String) (name : Option String) (inputs : List (Option Nat))
    (numOutputs : Option Int) (outputs : Option (List Nat)) (graph : Option Nat) (h : WF w) :
    WF (newNode w opType name inputs numOutputs outputs graph).1 := by
  apply guardOp_WF _ _ _ _ h
  have h1 := newNodeMut_WF w opType name inputs numOutputs outputs h
  cases graph with
  | none => exact h1
  | some g => exact nodeLink_WF _ _ _ _ (assignNames_WF _ _ _ h1)

theorem rauwUses_WF (w : World) (v r : Nat) (h : WF w) : WF (rauwUses w v r) :=
  foldl_inv WF _ (fun a _ ha => setInput_WF a _ _ _ ha) _ _ h

theorem ioInsertMany_WF (w : World) (g : Nat) (k : IOKind) (pos : Nat) (vs : List Nat) (h : WF w) :
    WF (ioInsertMany w g k pos vs) :=
  foldl_inv WF _ (fun a _ ha => ioInsert_WF a _ _ _ _ ha) _ _ h

theorem ioRemoveMany_WF (w : World) (g : Nat) (k : IOKind) (ps : List Nat) (h : WF w) :
    WF (ioRemoveMany w g k ps) :=
  foldl_inv WF _ (fun a _ ha => ioRemoveAt_WF a _ _ _ ha) _ _ h

theorem ioReplaceMany_WF (w : World) (g : Nat) (k : IOKind) (ps vs : List Nat) (h : WF w) :
    WF (ioReplaceMany w g k ps vs) :=
  foldl_inv WF _ (fun a _ ha => ioInsert_WF _ _ _ _ _ (ioRemoveAt_WF a _ _ _ ha)) _ _ h

theorem rauw_WF (w : World) (v r : Nat) (rgo : Bool) (h : WF w) : WF (rauw w v r rgo).1 := by
  apply guardOp_WF _ _ _ _ h
  apply rauwUses_WF
  split
  · exact ioReplaceMany_WF _ _ _ _ _ h
  · exact h

theorem atPos_WF (o : Option Nat) (f : Nat → World) (w : World) (h : WF w) (hf : ∀ p, WF (f p)) :
    WF (atPos o f w) := by
  unfold atPos; split
  · exact hf _
  · exact bump_WF h

theorem withName_WF (o : Option String) (f : String → World) (w : World) (h : WF w) (hf : ∀ p, WF (f p)) :
    WF (withName o f w) := by
  unfold withName; split
  · exact hf _
  · exact bump_WF h

theorem ioMut_WF (w : World) (g : Nat) (k : IOKind) (m : IOMut) (h : WF w) : WF (ioMut w g k m).1 := by
  cases m <;> simp only [ioMut]
  case append v => exact guardOp_WF _ _ _ _ h (ioInsert_WF _ _ _ _ _ h)
  case extend vs => exact guardOp_WF _ _ _ _ h (ioInsertMany_WF _ _ _ _ _ h)
  case insert i v => exact guardOp_WF _ _ _ _ h (ioInsert_WF _ _ _ _ _ h)
  case pop i => exact guardOp_WF _ _ _ _ h (atPos_WF _ _ _ h (fun p => ioRemoveAt_WF _ _ _ _ h))
  case remove v => exact guardOp_WF _ _ _ _ h (atPos_WF _ _ _ h (fun p => ioRemoveAt_WF _ _ _ _ h))
  case clear => exact guardOp_WF _ _ _ _ h (iter_inv WF _ (fun a ha => ioRemoveAt_WF a _ _ _ ha) _ _ h)
  case setItem i v =>
    exact guardOp_WF _ _ _ _ h (atPos_WF _ _ _ h (fun p => ioInsert_WF _ _ _ _ _ (ioRemoveAt_WF _ _ _ _ h)))
  case setSlice start stop step vs =>
    split
    · exact h
    · apply guardOp_WF _ _ _ _ h
      split
      · exact ioInsertMany_WF _ _ _ _ _ (iter_inv WF _ (fun a ha => ioRemoveAt_WF a _ _ _ ha) _ _ h)
      · exact ioReplaceMany_WF _ _ _ _ _ h
  case delItem i => exact guardOp_WF _ _ _ _ h (atPos_WF _ _ _ h (fun p => ioRemoveAt_WF _ _ _ _ h))
  case delSlice start stop step =>
    split <;> first | exact h | exact guardOp_WF _ _ _ _ h (ioRemoveMany_WF _ _ _ _ h)
  case reverse => exact guardOp_WF _ _ _ _ h (ioReverse_WF _ _ _ h)
  case iadd vs => exact h
  case imul k => exact h
  case sort keys rev => exact guardOp_WF _ _ _ _ h (ioPermute_WF _ _ _ _ (sortedBy_perm _ _ _) h)

theorem initSetItem_WF (w : World) (g : Nat) (key : String) (v : Nat) (h : WF w) :
    WF (initSetItem w g key v).1 :=
  guardOp_WF _ _ _ _ h (initPut_WF _ _ _ _ h)

theorem initUpdateSeq_WF (g : Nat) : ∀ (kvs : List (String × Nat)) (w : World), WF w → WF (initUpdateSeq w g kvs).1
  | [], w, h => h
  | (k, v) :: rest, w, h => by
    have h1 := initSetItem_WF w g k v h
    unfold initUpdateSeq
    split
    · rename_i w1 heq
      rw [heq] at h1
      exact initUpdateSeq_WF g rest w1 h1
    · rename_i r hne
      exact h1

theorem initUpdate_WF (w : World) (g : Nat) (kvs : List (String × Nat)) (h : WF w) : WF (initUpdate w g kvs).1 :=
  guardOp_WF _ _ _ _ h (initUpdateSeq_WF g kvs w h)

theorem initMut_WF (w : World) (g : Nat) (m : InitMut) (h : WF w) : WF (initMut w g m).1 := by
  cases m <;> simp only [initMut]
  case setItem key v => exact initSetItem_WF _ _ _ _ h
  case delItem key => exact guardOp_WF _ _ _ _ h (initDel_WF _ _ _ h)
  case add v => exact guardOp_WF _ _ _ _ h (withName_WF _ _ _ h (fun _ => initPut_WF _ _ _ _ h))
  case pop key => exact guardOp_WF _ _ _ _ h (initDel_WF _ _ _ h)
  case popitem => exact guardOp_WF _ _ _ _ h (withName_WF _ _ _ h (fun _ => initDel_WF _ _ _ h))
  case clear =>
    apply guardOp_WF _ _ _ _ h
    apply iter_inv WF _ _ _ _ h
    intro a ha; exact withName_WF _ _ _ ha (fun _ => initDel_WF _ _ _ ha)
  case update kvs => exact initUpdate_WF _ _ _ h
  case setdefault key v =>
    apply guardOp_WF _ _ _ _ h
    split
    · exact h
    · exact initPut_WF _ _ _ _ h
  case register v => exact guardOp_WF _ _ _ _ h (initPut_WF _ _ _ _ h)

theorem initDel_isInit (w : World) (g : Nat) (key : String) (v : Nat) (h : WF w)
    (hg : (w.val v).graph = some g) (hn : (w.val v).name = some key) (hi : (w.val v).isInit = true) :
    ((initDel w g key).val v).isInit = false := by
  rw [initDel_val _ _ _ _ (init_lookup w h.own h.key v g key hi hg hn)]; simp

theorem setName_WF (w : World) (v : Nat) (s : Option String) (h : WF w) : WF (setName w v s).1 := by
  unfold setName
  simp only []
  apply guardOp_WF _ _ _ _ h
  split
  · exact h
  · split
    · rename_i hi
      split
      · rename_i new g old heq
        have hq : s = some new ∧ (w.val v).graph = some g ∧ (w.val v).name = some old := by
          revert heq; split <;> simp_all
        apply initPut_WF
        apply setNamePlain_WF _ _ _ (initDel_WF _ _ _ h)
        exact initDel_isInit w g old v h hq.2.1 hq.2.2 hi
      · exact h
    · rename_i hi
      exact setNamePlain_WF _ _ _ h (by simpa using hi)

theorem extendMut_WF (w : World) (g : Nat) (ns : List Nat) (h : WF w) : WF (extendMut w g ns) :=
  foldl_inv WF _ (fun a _ ha => nodeLink_WF _ _ _ _ (assignNames_WF a _ _ ha)) _ _ h

theorem linkMany_WF (w : World) (g : Nat) (anchor : Option Nat) (ns : List Nat) (h : WF w) :
    WF (linkMany w g anchor ns) := by
  unfold linkMany
  exact foldl_inv (fun (p : World × Option Nat) => WF p.1) _
    (fun a _ ha => nodeLink_WF _ _ _ _ (assignNames_WF a.1 _ _ ha)) _ _ h

theorem graphAppend_WF (w : World) (g n : Nat) (h : WF w) : WF (graphAppend w g n).1 :=
  guardOp_WF _ _ _ _ h (nodeLink_WF _ _ _ _ (assignNames_WF _ _ _ h))

theorem graphExtend_WF (w : World) (g : Nat) (ns : List Nat) (h : WF w) : WF (graphExtend w g ns).1 :=
  guardOp_WF _ _ _ _ h (extendMut_WF _ _ _ h)

theorem graphInsertAfter_WF (w : World) (g a : Nat) (ns : List Nat) (h : WF w) :
    WF (graphInsertAfter w g a ns).1 :=
  guardOp_WF _ _ _ _ h (linkMany_WF _ _ _ _ h)

theorem graphInsertBefore_WF (w : World) (g a : Nat) (ns : List Nat) (h : WF w) :
    WF (graphInsertBefore w g a ns).1 :=
  guardOp_WF _ _ _ _ h (linkMany_WF _ _ _ _ h)

theorem detachInputs_WF (w : World) (n : Nat) (h : WF w) : WF (detachInputs w n) :=
  foldl_inv WF _ (fun a _ ha => setInput_WF a _ _ _ ha) _ _ h

theorem graphRemove_WF (w : World) (g : Nat) (ns : List Nat) (safe : Bool) (h : WF w) :
    WF (graphRemove w g ns safe).1 := by
  apply guardOp_WF _ _ _ _ h
  apply foldl_inv WF _ _ _ _ h
  intro a n ha
  apply nodeUnlink_WF
  split
  · exact detachInputs_WF _ _ ha
  · exact ha

theorem sortApply_WF (w : World) (orders : List (Nat × List Nat)) (h : WF w) : WF (sortApply w orders) := by
  apply foldl_inv WF _ _ _ _ h
  intro a p ha
  split
  · exact extendMut_WF _ _ _ ha
  · exact ha

theorem newGraph_WF (w : World) (inputs outputs nodes inits : List Nat) (h : WF w) :
    WF (newGraph w inputs outputs nodes inits).1 := by
  apply guardOp_WF _ _ _ _ h
  apply extendMut_WF
  apply foldl_inv WF _ (fun a _ ha => registerValue_WF a _ _ ha)
  apply foldl_inv WF _ (fun a _ ha => registerValue_WF a _ _ ha)
  apply foldl_inv WF _ (fun a _ ha => initPut_WF a _ _ _ ha)
  apply ioInsertMany_WF
  apply ioInsertMany_WF
  exact allocGraph_WF w h

/-! ### fields no clause reads: const tensors, attribute dicts -/

theorem setConst_WF (w : World) (v : Nat) (lk : Bool) (h : WF w) : WF (setConst w v lk).1 :=
  guardOp_WF _ _ _ _ h (CoreFrame.WF (Frame.setVal _ v _) (WF_of_stores h rfl rfl rfl))

theorem setAttrs_WF (w : World) (n : Nat) (as : List (String × List Nat)) (h : WF w) : WF (setAttrs w n as) :=
  CoreFrame.WF (Frame.setNode w n _) h

theorem withAttrs_WF (r : World × Outcome) (n : Nat) (as : List (String × List Nat)) (h : WF r.1) :
    WF (withAttrs r n as).1 := by
  unfold withAttrs; split
  · exact setAttrs_WF _ _ _ h
  · exact h

/-! ### attribute edits -/

/-- `w'` differs from `w` at most in the attribute dicts of nodes -/
structure AttrFrame (w w' : World) : Prop where
  vals : w'.vals = w.vals
  graphs : w'.graphs = w.graphs
  node : ∀ m, { w'.node m with attrs := (w.node m).attrs } = w.node m
  tensors : w'.tensors = w.tensors
  locked : w'.locked = w.locked
  extra : w'.extra = w.extra
  late : w'.late = w.late

theorem AttrFrame.refl (w : World) : AttrFrame w w := ⟨rfl, rfl, fun _ => rfl, rfl, rfl, rfl, rfl⟩

theorem setAttrs_attrFrame (w : World) (n : Nat) (as : List (String × List Nat)) : AttrFrame w (setAttrs w n as) := by
  refine ⟨rfl, rfl, ?_, rfl, rfl, rfl, rfl⟩
  intro m; simp only [setAttrs, World.node_setNode]; split
  · subst_vars; rfl
  · rfl

theorem guardOp_attrFrame (bad : Bool) (kind : String) (w w' : World) (h : AttrFrame w w') :
    AttrFrame w (guardOp bad kind w w').1 := by
  unfold guardOp; split
  · exact AttrFrame.refl w
  · split <;> exact h

theorem AttrFrame.coreFrame {w w' : World} (h : AttrFrame w w') : CoreFrame w w' :=
  ⟨fun v => by simp only [World.val, h.vals],
   fun m => (congrArg (fun x : NodeS => { x with name := none, opType := "", attrs := [] }) (h.node m) :),
   fun g => by simp only [World.gr, h.graphs], h.locked⟩

/-- an attribute frame keeps the invariant in both directions: no clause reads an attribute dict -/
theorem AttrFrame.wf_iff {w w' : World} (h : AttrFrame w w') : WF w' ↔ WF w :=
  ⟨CoreFrame.WF h.coreFrame.symm, h.coreFrame.WF⟩

/-! ### node name, op type, clearing a const tensor (no clause reads them); `Graph.sort` -/

theorem setNodeName_WF (w : World) (n : Nat) (s : Option String) (h : WF w) : WF (setNodeName w n s).1 := by
  apply guardOp_WF _ _ _ _ h
  have h1 : WF (w.setNode n { w.node n with name := s }) := CoreFrame.WF (Frame.setNode w n _) h
  simp only []
  split
  · exact CoreFrame.WF (Frame.setGr _ _ _) h1
  · exact h1

theorem setOpType_WF (w : World) (n : Nat) (s : String) (h : WF w) : WF (setOpType w n s).1 :=
  guardOp_WF _ _ _ _ h (CoreFrame.WF (Frame.setNode w n _) h)

theorem clearConst_WF (w : World) (v : Nat) (h : WF w) : WF (clearConst w v).1 :=
  guardOp_WF _ _ _ _ h (CoreFrame.WF (Frame.setVal w v _) h)

theorem graphSort_WF (w : World) (g : Nat) (h : WF w) : WF (graphSort w g).1 := by
  unfold graphSort; split
  · exact h
  · exact guardOp_WF _ _ _ _ h (sortApply_WF _ _ h)

theorem step_WF (w : World) (op : Op) (h : WF w) : WF (step w op).1 := by
  cases op <;> simp only [step]
  case newValue name => exact newValue_WF _ _ h
  case setConst v lk => exact setConst_WF _ _ _ h
  case newNode opType name inputs numOutputs outputs graph => exact newNode_WF _ _ _ _ _ _ _ h
  case newGraph inputs outputs nodes inits => exact newGraph_WF _ _ _ _ _ h
  case replaceInput n idx v => exact replaceInput_WF _ _ _ _ h
  case resizeInputs n k => exact resizeInputs_WF _ _ _ h
  case resizeOutputs n k => exact resizeOutputs_WF _ _ _ h
  case rauw v r rgo => exact rauw_WF _ _ _ _ h
  case io g k m => exact ioMut_WF _ _ _ _ h
  case init g m => exact initMut_WF _ _ _ h
  case setName v s => exact setName_WF _ _ _ h
  case append g n => exact graphAppend_WF _ _ _ h
  case extend g ns => exact graphExtend_WF _ _ _ h
  case insertAfter g a ns => exact graphInsertAfter_WF _ _ _ _ h
  case insertBefore g a ns => exact graphInsertBefore_WF _ _ _ _ h
  case remove g ns safe => exact graphRemove_WF _ _ _ _ h
  case sortOk orders => exact guardOp_WF _ _ _ _ h (sortApply_WF _ _ h)
  case sortCycle => exact guardOp_WF _ _ _ _ h h
  case attrEdit => exact guardOp_WF _ _ _ _ h h
  case newNodeAttrs opType name inputs numOutputs outputs graph attrs =>
    exact withAttrs_WF _ _ _ (newNode_WF _ _ _ _ _ _ _ h)
  case sort g => exact graphSort_WF _ _ h
  case setNodeName n s => exact setNodeName_WF _ _ _ h
  case setOpType n s => exact setOpType_WF _ _ _ h
  case clearConst v => exact clearConst_WF _ _ h
  case attrSet n key gs => exact guardOp_WF _ _ _ _ h (setAttrs_WF _ _ _ h)
  case attrDel n key strict => exact guardOp_WF _ _ _ _ h (setAttrs_WF _ _ _ h)
  case attrClear n => exact guardOp_WF _ _ _ _ h (setAttrs_WF _ _ _ h)


/-! ### composite calls -/

theorem andThen_WF (r : World × Outcome) (f : World → World × Outcome) (h : WF r.1)
    (hf : ∀ w, WF w → WF (f w).1) : WF (andThen r f).1 := by
  unfold andThen; split
  · exact hf _ h
  · exact h

theorem rauwSeq_WF (rgo : Bool) : ∀ (ps : List (Nat × Nat)) (w : World), WF w → WF (rauwSeq w rgo ps).1
  | [], _, h => h
  | (v, r) :: rest, w, h => by
    unfold rauwSeq
    exact andThen_WF _ _ (rauw_WF w v r rgo h) (fun w1 h1 => rauwSeq_WF rgo rest w1 h1)

theorem rauwMany_WF (w : World) (vs rs : List Nat) (rgo : Bool) (h : WF w) : WF (rauwMany w vs rs rgo).1 := by
  unfold rauwMany; split
  · exact h
  · exact rauwSeq_WF _ _ _ h

theorem rauwManyChecked_WF (w : World) (vs rs : List Nat) (rgo : Bool) (h : WF w) :
    WF (rauwManyChecked w vs rs rgo).1 := by
  unfold rauwManyChecked; split
  · exact h
  · split
    · exact h
    · exact rauwSeq_WF _ _ _ h

theorem rauwManyExact_WF (w : World) (vs rs : List Nat) (rgo : Bool) (h : WF w) :
    WF (rauwManyExact w vs rs rgo).1 := by
  unfold rauwManyExact; split
  · exact h
  · exact guardOp_WF _ _ _ _ h (rauwSeq_WF _ _ _ h)

theorem setNameIfPlain_WF (w : World) (v : Nat) (s : Option String) (h : WF w) : WF (setNameIfPlain w v s) := by
  unfold setNameIfPlain; split
  · exact h
  · split
    · exact bump_WF h
    · rename_i hc; exact setNamePlain_WF _ _ _ h (by simpa using hc)

theorem renameValues_WF (w : World) (vs : List Nat) (names : List String) (h : WF w) :
    WF (renameValues w vs names).1 := by
  unfold renameValues
  split
  · exact h
  · split
    · exact h
    · apply guardOp_WF _ _ _ _ h
      apply foldl_inv WF _ _ _ _ _
      · intro a p ha; unfold renamePutStep; split
        · exact initPut_WF _ _ _ _ ha
        · exact bump_WF ha
      · apply foldl_inv WF _ (fun a p ha => setNameIfPlain_WF a _ _ ha)
        apply foldl_inv WF _ _ _ _ h
        intro a p ha; unfold renameDelStep; split
        · exact initDel_WF _ _ _ ha
        · exact bump_WF ha

theorem copyInfo_WF : ∀ (ps : List (Nat × Nat)) (w : World), WF w → WF (copyInfo w ps).1
  | [], _, h => h
  | (o, n) :: rest, w, h => by
    unfold copyInfo
    simp only []
    have h1 : WF (match (w.val o).const with
        | some t => w.setVal n { w.val n with const := some t }
        | none => w) := by
      split
      · exact CoreFrame.WF (Frame.setVal w n _) h
      · exact h
    apply andThen_WF _ _ _ (fun w2 h2 => copyInfo_WF rest w2 h2)
    split
    · exact setName_WF _ _ _ h1
    · exact h1

theorem replaceNodesAndValues_WF (w : World) (g ip : Nat) (oldNodes newNodes oldVals newVals : List Nat)
    (h : WF w) : WF (replaceNodesAndValues w g ip oldNodes newNodes oldVals newVals).1 := by
  unfold replaceNodesAndValues
  apply andThen_WF _ _ (copyInfo_WF _ _ h)
  intro w1 h1
  apply andThen_WF _ _ (rauwMany_WF _ _ _ _ h1)
  intro w2 h2
  apply andThen_WF _ _ (graphInsertAfter_WF _ _ _ _ h2)
  intro w3 h3
  exact graphRemove_WF _ _ _ _ h3

theorem tapeInitializer_WF (w : World) (g : Option Nat) (name tname : Option String) (locked : Bool) (h : WF w) :
    WF (tapeInitializer w g name tname locked).1 := by
  unfold tapeInitializer
  split
  · exact h
  · rename_i nm _
    have h0 : WF { w with tensors := lset w.tensors w.tensors.length tname,
                          locked := lset w.locked w.tensors.length locked } := by
      exact WF_of_stores h rfl rfl rfl
    have h1 := allocVal_WF _ { name := some nm, const := some w.tensors.length } h0
    split
    · exact h1
    · exact initMut_WF _ _ _ h1

theorem setNameSeq_WF : ∀ (ps : List (Nat × String)) (w : World), WF w → WF (setNameSeq w ps).1
  | [], _, h => h
  | (v, s) :: rest, w, h => by
    unfold setNameSeq
    exact andThen_WF _ _ (setName_WF w v _ h) (fun w1 h1 => setNameSeq_WF rest w1 h1)

theorem builderNode_WF (w : World) (g : Option Nat) (opType : String) (inputs : List (Option Nat)) (k : Nat)
    (names : Option (List String)) (h : WF w) : WF (builderNode w g opType inputs k names).1 := by
  unfold builderNode
  apply andThen_WF _ _ (newNode_WF _ _ _ _ _ _ _ h)
  intro w1 h1
  split
  · exact h1
  · exact setNameSeq_WF _ _ h1

theorem replaceNodesAndValuesExact_WF (w : World) (g ip : Nat) (oldNodes newNodes oldVals newVals : List Nat)
    (h : WF w) : WF (replaceNodesAndValuesExact w g ip oldNodes newNodes oldVals newVals).1 := by
  unfold replaceNodesAndValuesExact
  apply andThen_WF _ _ (copyInfo_WF _ _ h)
  intro w1 h1
  apply andThen_WF _ _ (rauwManyExact_WF _ _ _ _ h1)
  intro w2 h2
  apply andThen_WF _ _ (graphInsertAfter_WF _ _ _ _ h2)
  intro w3 h3
  exact graphRemove_WF _ _ _ _ h3

theorem stepConv_WF (w : World) (op : ConvOp) (h : WF w) : WF (stepConv w op).1 := by
  cases op <;> simp only [stepConv]
  case tapeInitializer g name tname locked => exact tapeInitializer_WF _ _ _ _ _ h
  case builderNode g opType inputs k names => exact builderNode_WF _ _ _ _ _ _ h
  case rauwMany vs rs rgo => exact rauwMany_WF _ _ _ _ h
  case rauwManyExact vs rs rgo => exact rauwManyExact_WF _ _ _ _ h
  case renameValues vs names => exact renameValues_WF _ _ _ h
  case replaceNodesAndValues g ip a b c d => exact replaceNodesAndValues_WF _ _ _ _ _ _ _ h
  case replaceNodesAndValuesExact g ip a b c d => exact replaceNodesAndValuesExact_WF _ _ _ _ _ _ _ h

theorem stepAny_WF (w : World) (op : AnyOp) (h : WF w) : WF (stepAny w op).1 := by
  cases op with
  | one op => exact step_WF w op h
  | conv op => exact stepConv_WF w op h

end IrVerif.Kernel
