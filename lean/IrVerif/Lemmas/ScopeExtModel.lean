/-
Extended model, MODELS WITH FUNCTIONS: the round trip of the functions (`rtE_funcs_post`, over `rtE_func_post`), the round trip
and the fix-point of a `ReloadableME` model (`reloadableME_roundtrip`, `reloadableME_fixpoint`), in the shape of
`Lemmas/ScopeModel.lean` (core) and `Lemmas/ScopeExtTop.lean` (extended, graphs).
-/
import IrVerif.Lemmas.ScopeExtFunc
import IrVerif.Lemmas.ScopeExtFuncIdem
namespace IrVerif.Scope

theorem rtE_funcs_post (V : Nat → ValueS) (x : Ext) (td : TData) (ver : Option Int) (hwf : ExtWF x) :
    ∀ (fs : List (FId × GraphT)) (s : Store) (xs : Ext) (A : Assoc) (d0 : List (FId × GraphT)) (fps : List FuncE)
      (ws : Writes),
      serFuncsE V x td ver fs = .ok (fps, ws) → (∀ f ∈ fs, (replF V f.2).ok) → (∀ f ∈ fs, extF V x f.2) →
      (fs.flatMap fun f => (replF V f.2).new).Nodup →
      (∀ v ∈ fs.flatMap (fun f => (replF V f.2).new), v ∉ A.map (·.1)) →
      (fs.map (·.1)).Nodup → (∀ f ∈ fs, f.1 ∉ d0.map (·.1)) → RS V s A → Fresh s → ExtFresh s xs →
      ∃ (s' : Store) (x' : Ext) (gs : List (FId × GraphT)) (B : Assoc),
        deserFuncsE s xs d0 fps = .ok (s', x', d0 ++ gs) ∧
        RtEPost V x td s xs A B s' x' (fs.flatMap fun f => emitF V f.2) (fs.flatMap fun f => emitQF V f.2)
          (fs.flatMap fun f => allInitsG f.2) ∧
        B.map (·.1) = (fs.flatMap fun f => (replF V f.2).new) ∧ TreeRelFs V (A ++ B) fs gs ∧
        DevTrFs V x' s'.nn (A ++ B) fs fps gs
  | [] => fun s xs A d0 fps ws hser _ _ _ _ _ _ hrs hfr hxf => by
    simp only [serFuncsE, Except.ok.injEq, Prod.mk.injEq] at hser
    obtain ⟨rfl, _⟩ := hser
    exact ⟨s, xs, [], [], by simp [deserFuncsE], .nil hrs hfr, by simp, by simp [TreeRelFs], by simp only [DevTrFs]⟩
  | f :: fs => fun s xs A d0 fps ws hser hok hxok hnd hnew hids hd0 hrs hfr hxf => by
    obtain ⟨fp, ws1, fps', ws2, h1, h2, rfl, rfl⟩ := serFuncsE_inv hser
    obtain ⟨id, g⟩ := f
    simp only [List.flatMap_cons] at hnd hnew ⊢
    rw [List.nodup_append] at hnd
    simp only [List.map_cons, List.nodup_cons] at hids
    obtain ⟨s1, x1, g', B1, e1, eid, P1, k1, t1, dt1⟩ :=
      rtE_func_post V x td ver hwf id g s xs A fp ws1 h1 (hok _ (List.mem_cons_self ..)) hnd.1 (hxok _ (List.mem_cons_self ..))
        (fun v hv => hnew v (List.mem_append_left _ hv)) hrs hfr hxf
    have hidd : id ∉ d0.map (·.1) := hd0 _ (List.mem_cons_self ..)
    obtain ⟨s2, x2, gs, B2, e2, P2, k2, t2, dt2⟩ :=
      rtE_funcs_post V x td ver hwf fs s1 x1 (A ++ B1) (d0 ++ [(id, g')]) fps' ws2 h2
        (fun f hf => hok f (List.mem_cons_of_mem _ hf)) (fun f hf => hxok f (List.mem_cons_of_mem _ hf)) hnd.2.1
        (fun v hv hm => by
          rw [List.map_append, List.mem_append, k1] at hm
          rcases hm with hm | hm
          · exact hnew v (List.mem_append_right _ hv) hm
          · exact hnd.2.2 v hm v hv rfl)
        hids.2
        (fun f hf hm => by
          simp only [List.map_append, List.map_cons, List.map_nil, List.mem_append, List.mem_singleton] at hm
          rcases hm with hm | hm
          · exact hd0 f (List.mem_cons_of_mem _ hf) hm
          · exact hids.1 (hm ▸ List.mem_map_of_mem hf))
        P1.rs P1.fresh (P1.xfresh hxf)
    refine ⟨s2, x2, (id, g') :: gs, B1 ++ B2, ?_, P1.append P2, ?_, ?_, ?_⟩
    · simp only [deserFuncsE, e1, eid]
      rw [fdictInsert_fresh d0 id g' hidd, e2]
      simp [List.append_assoc]
    · simp [k1, k2]
    · simp only [TreeRelFs]
      rw [← List.append_assoc]
      exact ⟨trivial, TreeRelG.mono V (A ++ B1) B2 g g' t1, t2⟩
    · simp only [DevTrFs]
      rw [← List.append_assoc]
      exact ⟨DevTrF.mono B2 P2.nn P2.devs g fp g' dt1, dt2⟩

theorem rtE_funcs (V : Nat → ValueS) (x : Ext) (td : TData) (ver : Option Int) (hwf : ExtWF x) :
    ∀ (fs : List (FId × GraphT)) (s : Store) (xs : Ext) (A : Assoc) (d0 : List (FId × GraphT)) (fps : List FuncE)
      (ws : Writes),
      serFuncsE V x td ver fs = .ok (fps, ws) → (∀ f ∈ fs, (replF V f.2).ok) → (∀ f ∈ fs, extF V x f.2) →
      (fs.flatMap fun f => (replF V f.2).new).Nodup →
      (∀ v ∈ fs.flatMap (fun f => (replF V f.2).new), v ∉ A.map (·.1)) →
      (fs.map (·.1)).Nodup → (∀ f ∈ fs, f.1 ∉ d0.map (·.1)) → RS V s A → Fresh s → ExtFresh s xs →
      ∃ (s' : Store) (x' : Ext) (gs : List (FId × GraphT)) (B : Assoc),
        deserFuncsE s xs d0 fps = .ok (s', x', d0 ++ gs) ∧ RS V s' (A ++ B) ∧ s.nv ≤ s'.nv ∧
        B.map (·.1) = (fs.flatMap fun f => (replF V f.2).new) ∧ TreeRelFs V (A ++ B) fs gs ∧
        Fresh s' ∧ Prim s.nv s s' ∧ InfoOK2 V s' (A ++ B) (fs.flatMap fun f => emitF V f.2) ∧
        ConstOK2 V td s' (A ++ B) (fs.flatMap fun f => allInitsG f.2) ∧
        ExtFresh s' x' ∧ XKeep s.nv xs x' ∧
        MetaOKk x x' (A ++ B) (fs.flatMap fun f => emitF V f.2) ∧
        QuantOKk x x' (A ++ B) (fs.flatMap fun f => emitQF V f.2) ∧
        s.nn ≤ s'.nn ∧ (∀ k, k < s.nn → x'.devs k = xs.devs k) ∧ DevTrFs V x' s'.nn (A ++ B) fs fps gs :=
  fun fs s xs A d0 fps ws hser hok hxok hnd hnew hids hd0 hrs hfr hxf =>
  have ⟨s', x', gs, B, e, P, k, t, d⟩ := rtE_funcs_post V x td ver hwf fs s xs A d0 fps ws hser hok hxok hnd hnew hids hd0 hrs
    hfr hxf
  ⟨s', x', gs, B, e, P.rs, P.le, k, t, P.fresh, P.prim, P.infoOK, P.constOK, P.xfresh hxf, P.keep, P.metaOK, P.quantOK, P.nn,
    P.devs, d⟩

theorem serializeME_inv {ver : Option Int} {w w1 : MWorldE} {Q : ModelE} (h : serializeME ver w = .ok (w1, Q)) :
    ∃ p ws1 fps ws2, serGraphE w.st.vals w.ext w.st.tdata ver w.root = .ok (p, ws1) ∧
      serFuncsE w.st.vals w.ext w.st.tdata ver w.funcs = .ok (fps, ws2) ∧ Q = ⟨p, fps⟩ ∧
      w1 = ⟨w.st.writes (ws1 ++ ws2), w.ext, w.root, w.funcs⟩ := by
  simp only [serializeME] at h
  split at h
  · simp at h
  · rename_i p ws1 hp
    split at h
    · simp at h
    · rename_i fps ws2 hf
      simp only [Except.ok.injEq, Prod.mk.injEq] at h
      obtain ⟨rfl, rfl⟩ := h
      exact ⟨p, ws1, fps, ws2, hp, hf, rfl, rfl⟩

/-- the round trip of a `ReloadableME` model, together with the traces of the device configurations of the main
    graph and of the function bodies, in the FINAL extension state / node counter / association -/
theorem reloadableME_roundtrip_tr (ver : Option Int) (w : MWorldE) (h : ReloadableME w) (w1 : MWorldE) (Q : ModelE)
    (hser : serializeME ver w = .ok (w1, Q)) :
    ∃ (D : MWorldE) (B : Assoc),
      deserializeME Q = .ok D ∧ RS w.st.vals D.st B ∧ B.map (·.1) = domM w.core ∧
      TreeRelG w.st.vals B w.root D.root ∧ TreeRelFs w.st.vals B w.funcs D.funcs ∧
      InfoOK2 w.st.vals D.st B (emitM w.core) ∧ ConstOK2 w.st.vals w.st.tdata D.st B (allInitsM w.core) ∧
      MetaOKk w.ext D.ext B (emitM w.core) ∧ QuantOKk w.ext D.ext B (emitQM w) ∧
      DevTrG w.st.vals D.ext D.st.nn B [] w.root Q.graph D.root ∧
      DevTrFs w.st.vals D.ext D.st.nn B w.funcs Q.funcs D.funcs := by
  obtain ⟨p, ws1, fps, ws2, hp, hf, rfl, _⟩ := serializeME_inv hser
  simp only [ReloadableME, ReloadableM, MWorldE.core] at h
  obtain ⟨⟨hok, hfok, hnd, hids⟩, hext, hextF, hwf⟩ := h
  rw [List.nodup_append] at hnd
  obtain ⟨s1, x1, g', B1, hd, P1, hk, ht, htr⟩ := rtE_graph_top hwf hp hok hnd.1 hext
  obtain ⟨s2, x2, gs, B2, e2, P2, k2, t2, dt2⟩ :=
    rtE_funcs_post w.st.vals w.ext w.st.tdata ver hwf w.funcs s1 x1 B1 [] fps ws2 hf hfok hextF hnd.2.1
      (fun v hv hm => by rw [hk] at hm; exact hnd.2.2 v hm v hv rfl)
      hids (fun _ _ hm => by simp at hm) P1.rs P1.fresh (P1.xfresh extFresh_empty)
  simp only [List.nil_append] at e2
  have P := P1.append P2
  exact ⟨⟨s2, x2, g', gs⟩, B1 ++ B2, by simp only [deserializeME, hd, e2], P.rs,
    by simp [domM, MWorldE.core, hk, k2], TreeRelG.mono _ B1 B2 _ _ ht, t2, P.infoOK, P.constOK, P.metaOK, P.quantOK,
    DevTrG.mono B2 P2.nn P2.devs [] w.root p g' htr, dt2⟩

/-- **the round trip of a reloadable extended model with functions** whose serialization does not raise: the
    reloaded model is the source renamed by `sig B` (main graph and functions, same identifiers, same order), keeps
    names, emitted information and initializer payloads (the data of `IsoM`), and carries, on the images of the
    emitted values (`emitM`: main graph `emitG`, functions `emitF`), the source metadata written and read once
    (`normM`) and, on the values whose annotation the serializer looks at (`emitQM`), the source annotation written
    and read once (`normQ`). -/
theorem reloadableME_roundtrip (ver : Option Int) (w : MWorldE) (h : ReloadableME w) (w1 : MWorldE) (Q : ModelE)
    (hser : serializeME ver w = .ok (w1, Q)) :
    ∃ (D : MWorldE) (B : Assoc),
      deserializeME Q = .ok D ∧ RS w.st.vals D.st B ∧ B.map (·.1) = domM w.core ∧
      TreeRelG w.st.vals B w.root D.root ∧ TreeRelFs w.st.vals B w.funcs D.funcs ∧
      InfoOK2 w.st.vals D.st B (emitM w.core) ∧ ConstOK2 w.st.vals w.st.tdata D.st B (allInitsM w.core) ∧
      MetaOKk w.ext D.ext B (emitM w.core) ∧ QuantOKk w.ext D.ext B (emitQM w) := by
  obtain ⟨D, B, hD, hrs, hk, ht, htf, hio, hco, hm, hq, _⟩ := reloadableME_roundtrip_tr ver w h w1 Q hser
  exact ⟨D, B, hD, hrs, hk, ht, htf, hio, hco, hm, hq⟩

/-- the round trip in the form of `IsoM` (`Props/C03.lean`) plus the extension facts: `σ` renames the source into the
    reloaded model -/
theorem reloadableME_roundtrip_iso (ver : Option Int) (w : MWorldE) (h : ReloadableME w) (w1 : MWorldE) (Q : ModelE)
    (hser : serializeME ver w = .ok (w1, Q)) :
    ∃ (D : MWorldE) (σ : Nat → Nat),
      deserializeME Q = .ok D ∧
      TreeIsoG w.st.vals σ w.root D.root ∧ TreeIsoFs w.st.vals σ w.funcs D.funcs ∧
      (∀ a ∈ domM w.core, ∀ b ∈ domM w.core, σ a = σ b → a = b) ∧
      (∀ v ∈ domM w.core, (D.st.vals (σ v)).name = (w.st.vals v).name) ∧
      (∀ v ∈ emitM w.core, (D.st.vals (σ v)).info = (w.st.vals v).info.emit) ∧
      (∀ kv ∈ allInitsM w.core, ∀ t, (w.st.vals kv.2).const = some t →
        ∃ t', (D.st.vals (σ kv.2)).const = some t' ∧ (D.st.tens t').name = some kv.1 ∧
          D.st.tdata t' = w.st.tdata t) ∧
      (∀ v ∈ emitM w.core, D.ext.vmeta (σ v) = normM (w.ext.vmeta v)) ∧
      (∀ v ∈ emitQM w, D.ext.quant (σ v) = normQ (w.ext.quant v)) := by
  obtain ⟨D, B, hD, hrs, hk, ht, htf, hio, hco, hm, hq⟩ := reloadableME_roundtrip ver w h w1 Q hser
  have hkeys : ∀ v ∈ domM w.core, v ∈ B.map (·.1) := fun v hv => hk ▸ hv
  exact ⟨D, sig B, hD, TreeRelG.iso _ B _ _ ht, TreeRelFs.iso _ B _ _ htf,
    fun a ha b hb he => hrs.sig_inj (hkeys a ha) (hkeys b hb) he,
    fun v hv => hrs.sig_name (hkeys v hv),
    fun v hv => (hio v hv).2,
    fun kv hkv t htc => by
      obtain ⟨_, _, hc⟩ := hco kv hkv
      obtain ⟨t', h1, _, h3, h4⟩ := hc t htc
      exact ⟨t', h1, h3, h4⟩,
    fun v hv => (hm v hv).2, fun v hv => (hq v hv).2⟩

theorem extF_quiet (V : Nat → ValueS) (x : Ext) : ∀ (g : GraphT), extF V x g → QuietOutsNs V x g.nodes
  | .mk _ ins _ nodes _, h => by
    simp only [extF] at h
    exact extNs_quietOuts V x nodes [] _ h.2

/-- what the round trip shows of THE reloaded model `D` suffices: serializing `D` gives the proto it was read from -/
theorem reloadableME_reser (ver : Option Int) (w : MWorldE) (h : ReloadableME w) (w1 : MWorldE) (Q : ModelE)
    (hser : serializeME ver w = .ok (w1, Q)) (D : MWorldE) (B : Assoc) (hD : deserializeME Q = .ok D)
    (hrs : RS w.st.vals D.st B) (ht : TreeRelG w.st.vals B w.root D.root) (htf : TreeRelFs w.st.vals B w.funcs D.funcs)
    (hio : InfoOK2 w.st.vals D.st B (emitM w.core)) (hco : ConstOK2 w.st.vals w.st.tdata D.st B (allInitsM w.core))
    (hm : MetaOKk w.ext D.ext B (emitM w.core)) (hq : QuantOKk w.ext D.ext B (emitQM w)) :
    ∃ w2, serializeME ver D = .ok (w2, Q) := by
  obtain ⟨p, ws1, fps, ws2, hp, hf, rfl, _⟩ := serializeME_inv hser
  obtain ⟨hM, hext, hextF, hwf⟩ := h
  have hids : (w.funcs.map (·.1)).Nodup := hM.2.2.2
  have hn : ∀ v ∈ B.map (·.1), (D.st.vals (sig B v)).name = (w.st.vals v).name := fun v hv => hrs.sig_name hv
  have hinj : ∀ a ∈ B.map (·.1), ∀ b ∈ B.map (·.1), sig B a = sig B b → a = b := fun a ha b hb he => hrs.sig_inj ha hb he
  have himg := Img.of_rt hrs hio
  have hci := hco.constImg
  obtain ⟨hdev1, hdev2⟩ := deserializeME_devSpec ⟨p, fps⟩ D hD
  have hkeysD : D.funcs.map (·.1) = w.funcs.map (·.1) := TreeRelFs.keys _ _ _ _ htf
  have hdevF : DevSpecFs D.st D.ext fps D.funcs :=
    devSpecFs_of_mem D.st D.ext fps D.funcs (by rw [serFuncsE_ids hf, hkeysD]) (by rw [hkeysD]; exact hids) hdev2
  obtain ⟨ws1', e1⟩ := img2E_serGraph (td := w.st.tdata) (td' := D.st.tdata) D.st ver rfl himg hn hinj hm.ok2 hq.ok2 hwf
    w.root D.root p ws1 ht (fun _ hv => List.mem_append_left _ hv) (fun _ hv => List.mem_append_left _ hv)
    (extG_quiet _ _ _ _ hext) (fun kv hkv => hci kv (List.mem_append_left _ hkv)) hdev1 hp
  obtain ⟨ws2', e2⟩ := img2E_serFuncs (td := w.st.tdata) (td' := D.st.tdata) D.st ver rfl himg hn hinj hm.ok2 hq.ok2 hwf
    w.funcs D.funcs fps ws2 htf (fun _ hv => List.mem_append_right _ hv) (fun _ hv => List.mem_append_right _ hv) hextF
    (fun kv hkv => hci kv (List.mem_append_right _ hkv)) hdevF hf
  exact ⟨⟨D.st.writes (ws1' ++ ws2'), D.ext, D.root, D.funcs⟩, by simp only [serializeME, e1, e2]⟩

/-- **serializing the reloaded extended model with functions gives the proto it was read from** -/
theorem reloadableME_fixpoint (ver : Option Int) (w : MWorldE) (h : ReloadableME w) (w1 : MWorldE) (Q : ModelE)
    (hser : serializeME ver w = .ok (w1, Q)) :
    ∃ (D w2 : MWorldE), deserializeME Q = .ok D ∧ serializeME ver D = .ok (w2, Q) := by
  obtain ⟨D, B, hD, hrs, _, ht, htf, hio, hco, hm, hq⟩ := reloadableME_roundtrip ver w h w1 Q hser
  obtain ⟨w2, e⟩ := reloadableME_reser ver w h w1 Q hser D B hD hrs ht htf hio hco hm hq
  exact ⟨D, w2, hD, e⟩

end IrVerif.Scope
