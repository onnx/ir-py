/-
The IR version < 10 format: the experimental `domain::function/value` entries that `serializeM9 true` (the writer
with the reserved-name guard) appends to the main graph's value_info are INERT for the main graph: deserializing the
main graph with them gives what deserializing it without them gives.

Two ingredients: (1) `_deserialize_graph` depends on its value_info table only through the lookups it performs —
the names of the graph's initializer tensors and the input / output names of its OWN nodes (nested graphs use
their own table); (2) the names of the experimental entries are, by the guard, not among the
reserved names, and every non-empty name the serialized main graph is looked up with is reserved.
-/
import IrVerif.Model.ScopeFunc9
import IrVerif.Lemmas.ScopeRTMain
import IrVerif.Lemmas.ScopeFunc9Post
namespace IrVerif.Scope

theorem newNamed_congr {vi vi' : List (Name × Info)} (x : Name) (h : vi.lookup x = vi'.lookup x) (st : Store) :
    newNamed st vi x = newNamed st vi' x := by
  simp only [newNamed, h]

theorem newInit_congr {vi vi' : List (Name × Info)} (t : TensorP) (h : vi.lookup t.name = vi'.lookup t.name)
    (st : Store) (tid : Nat) : newInit st vi t tid = newInit st vi' t tid := by
  simp only [newInit, h]

theorem deserInits_congr {vi vi' : List (Name × Info)} : ∀ (ts : List TensorP) (st : Store) (tbl : Table),
    (∀ t ∈ ts, vi.lookup t.name = vi'.lookup t.name) → deserInits st tbl vi ts = deserInits st tbl vi' ts
  | [], _, _, _ => rfl
  | t :: ts, st, tbl, h => by
    have ih := fun st tbl => deserInits_congr ts st tbl (fun u hu => h u (List.mem_cons_of_mem _ hu))
    have hn := newInit_congr t (h t List.mem_cons_self)
    simp only [deserInits, ih, hn]

theorem declareOutputs_congr {vi vi' : List (Name × Info)} : ∀ (xs : List Name) (st : Store) (tbl : Table),
    (∀ x ∈ xs, vi.lookup x = vi'.lookup x) → declareOutputs st tbl vi xs = declareOutputs st tbl vi' xs
  | [], _, _, _ => rfl
  | x :: xs, st, tbl, h => by
    have ih := fun st tbl => declareOutputs_congr xs st tbl (fun u hu => h u (List.mem_cons_of_mem _ hu))
    have hn := newNamed_congr x (h x List.mem_cons_self)
    simp only [declareOutputs, ih, hn]

theorem declareNodes_congr {vi vi' : List (Name × Info)} : ∀ (ns : List NodeP) (st : Store) (tbl : Table),
    (∀ n ∈ ns, ∀ x ∈ n.outputs, vi.lookup x = vi'.lookup x) → declareNodes st tbl vi ns = declareNodes st tbl vi' ns
  | [], _, _, _ => rfl
  | n :: ns, st, tbl, h => by
    have ih := fun st tbl => declareNodes_congr ns st tbl (fun m hm => h m (List.mem_cons_of_mem _ hm))
    have hn := fun st tbl => declareOutputs_congr n.outputs st tbl (h n List.mem_cons_self)
    simp only [declareNodes, ih, hn]

theorem resolveInputs_congr {vi vi' : List (Name × Info)} (outer : List Table) :
    ∀ (xs : List Name) (st : Store) (top : Table),
      (∀ x ∈ xs, vi.lookup x = vi'.lookup x) → resolveInputs st top outer vi xs = resolveInputs st top outer vi' xs
  | [], _, _, _ => rfl
  | x :: xs, st, top, h => by
    have ih := fun st top => resolveInputs_congr outer xs st top (fun u hu => h u (List.mem_cons_of_mem _ hu))
    have hn := newNamed_congr x (h x List.mem_cons_self)
    simp only [resolveInputs, ih, hn]

theorem deserNode_congr {vi vi' : List (Name × Info)} (outer : List Table) (n : NodeP) (st : Store) (top : Table)
    (h : ∀ x ∈ n.inputs, vi.lookup x = vi'.lookup x) :
    deserNode st top outer vi n = deserNode st top outer vi' n := by
  obtain ⟨i, o, s⟩ := n
  simp only [deserNode, resolveInputs_congr outer i st top h]

theorem deserNodes_congr {vi vi' : List (Name × Info)} (outer : List Table) :
    ∀ (ns : List NodeP) (st : Store) (top : Table),
      (∀ n ∈ ns, ∀ x ∈ n.inputs, vi.lookup x = vi'.lookup x) →
      deserNodes st top outer vi ns = deserNodes st top outer vi' ns
  | [], _, _, _ => by simp only [deserNodes]
  | n :: ns, st, top, h => by
    have ih := fun st top => deserNodes_congr outer ns st top (fun m hm => h m (List.mem_cons_of_mem _ hm))
    have hn := fun st top => deserNode_congr outer n st top (h n List.mem_cons_self)
    simp only [deserNodes, ih, hn]

/-- the names the value_info table of a graph is looked up with -/
def lookupNames (its : List TensorP) (nodes : List NodeP) : List Name :=
  its.map (·.name) ++ nodes.flatMap fun n => n.inputs ++ n.outputs

theorem deserGraph_vinfo_congr (st : Store) (outer : List Table) (ins : List VInfoP) (its : List TensorP)
    (vi vi' : List VInfoP) (nodes : List NodeP) (outs : List VInfoP)
    (h : ∀ n ∈ lookupNames its nodes, (vinfoTable vi).lookup n = (vinfoTable vi').lookup n) :
    deserGraph st outer (.mk ins its vi nodes outs) = deserGraph st outer (.mk ins its vi' nodes outs) := by
  have h1 := fun st tbl => deserInits_congr (vi := vinfoTable vi) (vi' := vinfoTable vi') its st tbl
    (fun t ht => h _ (by simp only [lookupNames, List.mem_append, List.mem_map]; exact .inl ⟨t, ht, rfl⟩))
  have h2 := fun st tbl => declareNodes_congr (vi := vinfoTable vi) (vi' := vinfoTable vi') nodes st tbl
    (fun n hn x hx => h _ (by
      simp only [lookupNames, List.mem_append, List.mem_flatMap]
      exact .inr ⟨n, hn, .inr hx⟩))
  have h3 := fun st top => deserNodes_congr (vi := vinfoTable vi) (vi' := vinfoTable vi') outer nodes st top
    (fun n hn x hx => h _ (by
      simp only [lookupNames, List.mem_append, List.mem_flatMap]
      exact .inr ⟨n, hn, .inl hx⟩))
  simp only [deserGraph, h1, h2, h3]

/-- entries appended to the value_info of a graph under names the graph is never looked up with change nothing -/
theorem deserGraph_vinfo_extra (st : Store) (outer : List Table) (ins : List VInfoP) (its : List TensorP)
    (vi extra : List VInfoP) (nodes : List NodeP) (outs : List VInfoP)
    (h : ∀ e ∈ extra, e.name ∉ lookupNames its nodes) :
    deserGraph st outer (.mk ins its (vi ++ extra) nodes outs) = deserGraph st outer (.mk ins its vi nodes outs) := by
  apply deserGraph_vinfo_congr
  intro n hn
  simp only [vinfoTable, List.map_append, List.reverse_append]
  apply ListFacts.lookup_append_none
  rw [List.lookup_eq_none_iff]
  intro e he
  simp only [List.mem_reverse, List.mem_map] at he
  obtain ⟨x, hx, rfl⟩ := he
  simp only [bne_iff_ne, ne_eq]
  intro heq
  exact h x hx (by simpa [heq] using hn)

theorem expOfFunc_mem (vals : Nat → ValueS) (reserved : List Name) (f : FId × GraphT) :
    ∀ e ∈ expOfFunc vals reserved f, reserved.contains e.name = false ∧ parseExp e.name ≠ none := by
  intro e he
  obtain ⟨_, u, _, _, _, hc, rfl⟩ := (mem_expOfFunc vals reserved f e).mp he
  exact canParseBack_name reserved f.1 _ hc

theorem parseExp_empty : parseExp "" = none := by decide

theorem serInits_tensor_names (V : Nat → ValueS) (td : TData) (inames : List (Option Name)) :
    ∀ (its : List (Name × Nat)), ∀ t ∈ (serInits V td inames its).2.1, ∃ kv ∈ its, t.name = nm V kv.2
  | [], t, ht => by simp [serInits] at ht
  | (k, v) :: its, t, ht => by
    simp only [serInits] at ht
    split at ht
    · obtain ⟨kv, hkv, h⟩ := serInits_tensor_names V td inames its t ht
      exact ⟨kv, by simp [hkv], h⟩
    · simp only [List.mem_cons] at ht
      rcases ht with rfl | ht
      · exact ⟨(k, v), by simp, rfl⟩
      · obtain ⟨kv, hkv, h⟩ := serInits_tensor_names V td inames its t ht
        exact ⟨kv, by simp [hkv], h⟩

theorem serNodes_names (V : Nat → ValueS) (td : TData) (go : List Nat) :
    ∀ (nodes : List NodeT) (nps : List NodeP) (vis : List VInfoP) (ws : Writes),
      serNodes V td go nodes = .ok (nps, vis, ws) →
      ∀ np ∈ nps, ∃ n ∈ nodes, np.inputs = n.inputs.map (inName V) ∧ np.outputs = (stripTrailing V n.outputs).map (nm V)
  | [], nps, vis, ws, h => by
    simp only [serNodes, Except.ok.injEq, Prod.mk.injEq] at h
    obtain ⟨rfl, _, _⟩ := h
    simp
  | n :: ns, nps, vis, ws, h => by
    obtain ⟨np, vi1, ws1, nps', vis', ws2, h1, h2, rfl, _⟩ := serNodes_inv h
    obtain ⟨i, g, a, b, c⟩ := n
    obtain ⟨gps, ws', _, rfl, _⟩ := serNode_inv h1
    intro np hnp
    simp only [List.mem_cons] at hnp
    rcases hnp with rfl | hnp
    · exact ⟨.mk i g a b c, by simp, rfl, rfl⟩
    · obtain ⟨m, hm, e1, e2⟩ := serNodes_names V td go ns nps' vis' ws2 h2 np hnp
      exact ⟨m, by simp [hm], e1, e2⟩

/-- a non-empty name borne by an initializer value, or among the input names or the stripped output names of a node
    of the graph, is a reserved name of the graph -/
theorem mem_reservedNames (V : Nat → ValueS) (gid : Nat) (ins : List Nat) (inits : List (Name × Nat))
    (nodes : List NodeT) (outs : List Nat) (hkeys : ∀ kv ∈ inits, (V kv.2).name = some kv.1) (x : Name) (hne : x ≠ "")
    (hx : (∃ kv ∈ inits, x = nm V kv.2) ∨
      ∃ n ∈ nodes, x ∈ n.inputs.map (inName V) ∨ x ∈ (stripTrailing V n.outputs).map (nm V)) :
    x ∈ reservedNames V (.mk gid ins inits nodes outs) := by
  rw [reservedNames_eq]
  simp only [List.mem_append, List.mem_filterMap, List.mem_filter, List.mem_map, List.mem_flatMap]
  rcases hx with ⟨kv, hkv, hname⟩ | ⟨n, hnm, hx⟩
  · have hk := hkeys kv hkv
    have : x = kv.1 := by rw [hname]; simp [nm, hk]
    right
    exact ⟨⟨kv, hkv, this.symm⟩, by simpa [this] using hne⟩
  · left
    have key : ∀ v, (some v ∈ n.inputs ∨ v ∈ n.outputs) → nm V v = x →
        ∃ a, (∃ n ∈ nodes, (∃ o ∈ n.inputs, id o = some a) ∨ a ∈ n.outputs) ∧
          nameNE V a = some x := by
      intro v hv hvx
      refine ⟨v, ⟨n, hnm, ?_⟩, nameNE_of_nm V v x hvx hne⟩
      rcases hv with hv | hv
      · left; exact ⟨some v, hv, rfl⟩
      · right; exact hv
    rcases hx with hx | hx
    · rw [List.mem_map] at hx
      obtain ⟨o, ho, hox⟩ := hx
      cases o with
      | none => exact absurd hox.symm hne
      | some v => exact key v (.inl ho) hox
    · rw [List.mem_map] at hx
      obtain ⟨v, hv, hvx⟩ := hx
      exact key v (.inr (stripTrailing_sub V _ v hv)) hvx

theorem vinfo_reserved (V : Nat → ValueS) (td : TData) (g : GraphT) (p : GraphP) (ws : Writes)
    (hkeys : ∀ kv ∈ g.inits, (V kv.2).name = some kv.1) (hs : serGraph V td g = .ok (p, ws)) :
    ∀ e ∈ p.vinfo, e.name ∈ reservedNames V g := by
  obtain ⟨gid, ins, inits, nodes, outs⟩ := g
  obtain ⟨nps, vis2, ws2, hn, rfl, _⟩ := serGraph_inv hs
  intro e he
  have truthy : ∀ v, shouldCreate (V v) = true → nameTruthy (V v).name = true := fun v hsc => by
    simp only [shouldCreate, Bool.and_eq_true] at hsc; exact hsc.2
  simp only [GraphP.vinfo, List.mem_append] at he
  rcases he with he | he
  · obtain ⟨kv, hkv, hsc, _, rfl⟩ := (mem_serInits_vi V td _ e inits).mp he
    exact mem_reservedNames V gid ins inits nodes outs hkeys _ (name_some_of_truthy (truthy _ hsc)).2
      (.inl ⟨kv, hkv, rfl⟩)
  · obtain ⟨n, hn', he'⟩ := (mem_serNodes_vi V td outs e nodes nps vis2 ws2 hn).mp he
    obtain ⟨v, hv, _, hsc, rfl⟩ := (mem_outVInfo V outs e n.outputs).mp he'
    exact mem_reservedNames V gid ins inits nodes outs hkeys _ (name_some_of_truthy (truthy _ hsc)).2
      (.inr ⟨n, hn', .inr (List.mem_map_of_mem (truthy_mem_stripTrailing V v _ hv (truthy _ hsc)))⟩)

theorem lookupNames_reserved (V : Nat → ValueS) (td : TData) (gid : Nat) (ins : List Nat) (inits : List (Name × Nat))
    (nodes : List NodeT) (outs : List Nat) (nps : List NodeP) (vis : List VInfoP) (ws : Writes)
    (hn : serNodes V td outs nodes = .ok (nps, vis, ws))
    (hkeys : ∀ kv ∈ inits, (V kv.2).name = some kv.1) :
    ∀ x ∈ lookupNames (serInits V td (ins.map fun v => (V v).name) inits).2.1 nps, x ≠ "" →
      x ∈ reservedNames V (.mk gid ins inits nodes outs) := by
  intro x hx hne
  simp only [lookupNames, List.mem_append, List.mem_map, List.mem_flatMap] at hx
  apply mem_reservedNames V gid ins inits nodes outs hkeys x hne
  rcases hx with ⟨t, ht, rfl⟩ | ⟨np, hnp, hx⟩
  · exact .inl (serInits_tensor_names V td _ inits t ht)
  · obtain ⟨n, hnm, e1, e2⟩ := serNodes_names V td outs nodes nps vis ws hn np hnp
    rw [e1, e2] at hx
    exact .inr ⟨n, hnm, hx⟩

/-- the experimental entries that `serializeM9 true` appends to the main graph's value_info are inert: with or
    without them the main graph deserializes to the same store and tree (or the same error), in every store and
    under every scope stack -/
theorem ir9_entries_inert (m w1 : MWorld) (Q : ModelP) (h : serializeM9 true m = .ok (w1, Q))
    (hkeys : ∀ kv ∈ m.root.inits, (m.st.vals kv.2).name = some kv.1) :
    ∃ q, serializeM m = .ok (w1, q) ∧
      ∀ (st : Store) (outer : List Table), deserGraph st outer Q.graph = deserGraph st outer q.graph := by
  simp only [serializeM9] at h
  split at h
  · cases h
  · rename_i w1' q hq
    simp only [if_true, Except.ok.injEq, Prod.mk.injEq] at h
    obtain ⟨rfl, rfl⟩ := h
    refine ⟨q, hq, fun st outer => ?_⟩
    obtain ⟨ws1, _, hp, _⟩ := serializeM_inv hq
    obtain ⟨st0, root, funcs⟩ := m
    obtain ⟨gid, ins, inits, nodes, outs⟩ := root
    obtain ⟨nps, vis2, ws2, hn, hg, _⟩ := serGraph_inv hp
    rw [hg]
    simp only [addVInfo]
    apply deserGraph_vinfo_extra
    intro e he hmem
    simp only [List.mem_flatMap] at he
    obtain ⟨f, _, hef⟩ := he
    obtain ⟨hres, hparse⟩ := expOfFunc_mem _ _ f e hef
    have hne : e.name ≠ "" := fun h0 => hparse (by rw [h0]; exact parseExp_empty)
    have := lookupNames_reserved st0.vals st0.tdata gid ins inits nodes outs nps vis2 ws2 hn hkeys e.name hmem hne
    simp only [List.contains_eq_mem, decide_eq_false_iff_not] at hres
    exact hres this

end IrVerif.Scope
