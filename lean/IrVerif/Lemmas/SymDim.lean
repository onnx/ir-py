/-
C16: lemmas about the operator overloads, `evaluate` and `Shape` (Model/SymDim.lean); the
specification vocabulary of those theorems (`BOp.den`, `pyIntOp`, `Operand.accepted`, `EvalSpec`).
-/
import IrVerif.Model.SymDim
import IrVerif.Lemmas.SymExprArith
import IrVerif.Lemmas.SymExprInt
import IrVerif.Lemmas.SymExprSubst
import Mathlib.Tactic.Ring
import Mathlib.Data.List.Forall2
namespace IrVerif.SymExpr

/-- the operator of the model a Python operator stands for (`/` is exact division) -/
def BOp.den : BOp → BinOp
  | .add => .add | .sub => .sub | .mul => .mul | .truediv => .div
  | .floordiv => .fdiv | .mod => .mod | .pow => .pow

def UOp.den : UOp → UnOp
  | .neg => .neg | .floor => .floor | .ceil => .ceil | .trunc => .trunc

/-- the expression an accepted operand stands for -/
def Operand.asExpr : Operand → Option Expr
  | .int n => some (.num n)
  | .dim (.expr e) => some e
  | _ => none

/-- Python's own arithmetic on two `int`s (`none` = ZeroDivisionError; `/` is exact here, where
    Python would round to a float) -/
def pyIntOp : BOp → Int → Int → Option Rat
  | .add, x, y => some ((x + y : Int) : Rat)
  | .sub, x, y => some ((x - y : Int) : Rat)
  | .mul, x, y => some ((x * y : Int) : Rat)
  | .truediv, x, y => if y = 0 then none else some ((x : Rat) / (y : Rat))
  | .floordiv, x, y => if y = 0 then none else some ((Int.fdiv x y : Int) : Rat)
  | .mod, x, y => if y = 0 then none else some ((Int.fmod x y : Int) : Rat)
  | .pow, _, _ => none

/-- `floor(a / b)`, the tree `//` builds, is floor division -/
theorem eval_floor_div (env : Env) (a b : Expr) :
    eval env (.un .floor (.bin .div a b)) = eval env (.bin .fdiv a b) := by
  simp only [eval]
  cases eval env a with
  | none => rfl
  | some x =>
    cases eval env b with
    | none => rfl
    | some y =>
      by_cases hy : y = 0
      · simp [evalBin, hy]
      · simp [evalBin, evalUn, hy]

theorem eval_fwdTree (env : Env) (o : BOp) (a b : Expr) :
    eval env (fwdTree o a b) = eval env (.bin o.den a b) := by
  cases o <;> simp only [fwdTree, BOp.den]
  exact eval_floor_div env a b

/-- `Rational(1, n) * a`, the tree `a / n` builds for an `int` n, is true division by n -/
theorem eval_rational_mul (env : Env) (a : Expr) (n : Int) :
    eval env (.bin .mul (.bin .div (.num 1) (.num n)) a) = eval env (.bin .div a (.num n)) := by
  simp only [eval]
  cases eval env a with
  | none =>
    by_cases hn : (n : Rat) = 0 <;> simp [evalBin, hn]
  | some x =>
    by_cases hn : (n : Rat) = 0
    · simp [evalBin, hn]
    · simp only [evalBin, hn, if_false]
      congr 1
      push_cast
      ring

theorem eval_fwdTreeInt (env : Env) (o : BOp) (a : Expr) (n : Int) :
    eval env (fwdTreeInt o a n) = eval env (.bin o.den a (.num n)) := by
  cases o with
  | truediv => exact eval_rational_mul env a n
  | _ => simp only [fwdTreeInt]; exact eval_fwdTree env _ a (.num n)

theorem eval_add_comm (env : Env) (a b : Expr) :
    eval env (.bin .add a b) = eval env (.bin .add b a) := by
  simp only [eval]
  cases eval env a <;> cases eval env b <;> simp [evalBin, add_comm]

theorem eval_mul_comm (env : Env) (a b : Expr) :
    eval env (.bin .mul a b) = eval env (.bin .mul b a) := by
  simp only [eval]
  cases eval env a <;> cases eval env b <;> simp [evalBin, mul_comm]

theorem eval_unTree (env : Env) (u : UOp) (a : Expr) :
    eval env (unTree u a) = eval env (.un u.den a) := by
  cases u <;> simp only [unTree, UOp.den]
  exact eval_sign_floor_abs env a

/-- on two integer values the model's operator gives what Python's own `int` arithmetic gives -/
theorem evalBin_den_int (o : BOp) (x y : Int) (ho : o ≠ .pow) :
    evalBin o.den (x : Rat) (y : Rat) = pyIntOp o x y := by
  cases o with
  | pow => exact absurd rfl ho
  | add => simp [BOp.den, evalBin, pyIntOp]
  | sub => simp [BOp.den, evalBin, pyIntOp]
  | mul => simp [BOp.den, evalBin, pyIntOp]
  | truediv =>
    by_cases hy : y = 0
    · simp [BOp.den, evalBin, pyIntOp, hy]
    · have hyq : (y : Rat) ≠ 0 := by exact_mod_cast hy
      simp [BOp.den, evalBin, pyIntOp, hy, hyq]
  | floordiv =>
    by_cases hy : y = 0
    · simp [BOp.den, evalBin, pyIntOp, hy]
    · simp only [BOp.den, pyIntOp, hy, if_false]
      exact evalBin_int_fdiv x y hy
  | mod =>
    by_cases hy : y = 0
    · simp [BOp.den, evalBin, pyIntOp, hy]
    · simp only [BOp.den, pyIntOp, hy, if_false]
      exact evalBin_int_mod x y hy

theorem dunder_expr_ok (o : BOp) (ho : o ≠ .pow) (a : Expr) (y : Operand) (b : Expr)
    (hy : y.asExpr = some b) :
    ∃ t, dunder o (.expr a) y = .ok (.expr t) ∧ ∀ env, eval env t = eval env (.bin o.den a b) := by
  cases y with
  | int n =>
    simp only [Operand.asExpr, Option.some.injEq] at hy
    subst hy
    refine ⟨fwdTreeInt o a n, ?_, fun env => eval_fwdTreeInt env o a n⟩
    cases o <;> first | exact absurd rfl ho | rfl
  | dim d =>
    cases d with
    | expr e =>
      simp only [Operand.asExpr, Option.some.injEq] at hy
      subst hy
      refine ⟨fwdTree o a e, ?_, fun env => eval_fwdTree env o a e⟩
      cases o <;> first | exact absurd rfl ho | rfl
    | unknown => simp [Operand.asExpr] at hy
    | bad => simp [Operand.asExpr] at hy
  | other => simp [Operand.asExpr] at hy
  | bool _ => simp [Operand.asExpr] at hy

theorem rdunder_expr_ok (o : BOp) (ho : o ≠ .pow) (a : Expr) (n : Int) :
    ∃ t, rdunder o (.expr a) (.int n) = .ok (.expr t) ∧
      ∀ env, eval env t = eval env (.bin o.den (.num n) a) := by
  cases o with
  | pow => exact absurd rfl ho
  | add =>
    exact ⟨.bin .add a (.num n), rfl, fun env => eval_add_comm env a (.num n)⟩
  | mul =>
    exact ⟨.bin .mul a (.num n), rfl, fun env => eval_mul_comm env a (.num n)⟩
  | sub => exact ⟨revTree .sub n a, rfl, fun env => eval_fwdTree env .sub (.num n) a⟩
  | truediv => exact ⟨revTree .truediv n a, rfl, fun env => eval_fwdTree env .truediv (.num n) a⟩
  | floordiv => exact ⟨revTree .floordiv n a, rfl, fun env => eval_fwdTree env .floordiv (.num n) a⟩
  | mod => exact ⟨revTree .mod n a, rfl, fun env => eval_fwdTree env .mod (.num n) a⟩

def Operand.accepted : Operand → Bool
  | .int _ => true
  | .dim .unknown => true
  | .dim (.expr _) => true
  | _ => false

def Operand.isDim : Operand → Bool
  | .dim _ => true
  | _ => false

def Operand.isUnknown : Operand → Bool
  | .dim .unknown => true
  | _ => false

/-- every operator except `**` accepts every mix of `int` and well-formed dimensions (at least one
    dimension) -/
theorem binop_accepts (o : BOp) (ho : o ≠ .pow) (x y : Operand) (hx : x.accepted = true)
    (hy : y.accepted = true) (hd : x.isDim = true ∨ y.isDim = true) :
    ∃ d, binop o x y = .ok d ∧ d ≠ .bad ∧
      (d = .unknown ↔ (x.isUnknown = true ∨ y.isUnknown = true)) := by
  cases x with
  | other => simp [Operand.accepted] at hx
  | bool _ => simp [Operand.accepted] at hx
  | int n =>
    cases y with
    | other => simp [Operand.accepted] at hy
    | bool _ => simp [Operand.accepted] at hy
    | int m => simp [Operand.isDim] at hd
    | dim d =>
      cases d with
      | bad => simp [Operand.accepted] at hy
      | unknown =>
        refine ⟨.unknown, ?_, by simp, by simp [Operand.isUnknown]⟩
        cases o <;> first | exact absurd rfl ho | rfl
      | expr b =>
        obtain ⟨t, ht, _⟩ := rdunder_expr_ok o ho b n
        refine ⟨.expr t, ?_, by simp, by simp [Operand.isUnknown]⟩
        simp [binop, ht, Out.toPy]
  | dim d =>
    cases d with
    | bad => simp [Operand.accepted] at hx
    | unknown =>
      refine ⟨.unknown, ?_, by simp, by simp [Operand.isUnknown]⟩
      cases o <;> first | exact absurd rfl ho | (cases y <;> rfl)
    | expr a =>
      cases y with
      | other => simp [Operand.accepted] at hy
      | bool _ => simp [Operand.accepted] at hy
      | int n =>
        obtain ⟨t, ht, _⟩ := dunder_expr_ok o ho a (.int n) (.num n) rfl
        refine ⟨.expr t, ?_, by simp, by simp [Operand.isUnknown]⟩
        simp [binop, ht, Out.toPy]
      | dim d2 =>
        cases d2 with
        | bad => simp [Operand.accepted] at hy
        | unknown =>
          refine ⟨.unknown, ?_, by simp, by simp [Operand.isUnknown]⟩
          cases o <;> first | exact absurd rfl ho | rfl
        | expr b =>
          obtain ⟨t, ht, _⟩ := dunder_expr_ok o ho a (.dim (.expr b)) b rfl
          refine ⟨.expr t, ?_, by simp, by simp [Operand.isUnknown]⟩
          simp [binop, ht, Out.toPy]

theorem binop_pow (x y : Operand) : binop .pow x y = .typeError := by
  cases x <;> cases y <;> rfl

/-- a foreign operand next to a known dimension is a TypeError, on either side -/
theorem binop_other (o : BOp) (a : Expr) :
    binop o (.dim (.expr a)) .other = .typeError ∧ binop o .other (.dim (.expr a)) = .typeError := by
  cases o <;> exact ⟨rfl, rfl⟩

/-! ## bool operands (`isinstance(True, int)`) -/

/-- the `int` a bool is for `isinstance` -/
def boolInt (b : Bool) : Int := if b then 1 else 0

/-- a bool goes down the `int` branches: the unknown dimension absorbs it and a bad text raises on
    either side, exactly as with an `int` -/
theorem binop_bool_absorb (o : BOp) (ho : o ≠ .pow) (b : Bool) :
    binop o (.dim .unknown) (.bool b) = .ok .unknown ∧
    binop o (.bool b) (.dim .unknown) = .ok .unknown ∧
    binop o (.dim .bad) (.bool b) = .valueError ∧
    binop o (.bool b) (.dim .bad) = .valueError := by
  cases o <;> first | exact absurd rfl ho | exact ⟨rfl, rfl, rfl, rfl⟩

/-- SymPy refuses the bool: TypeError on either side of a known dimension, except `dim / bool` -/
theorem binop_bool_refused (o : BOp) (b : Bool) (a : Expr) :
    (o ≠ .truediv → binop o (.dim (.expr a)) (.bool b) = .typeError) ∧
    binop o (.bool b) (.dim (.expr a)) = .typeError := by
  cases o <;> refine ⟨fun h => ?_, rfl⟩ <;> first | exact absurd rfl h | rfl

/-- `a / True` is `a / 1` and `a / False` is `a / 0` (`sympy.Rational(1, other)`) -/
theorem binop_bool_truediv (b : Bool) (a : Expr) :
    binop .truediv (.dim (.expr a)) (.bool b) = binop .truediv (.dim (.expr a)) (.int (boolInt b)) :=
  rfl

/-- wherever a bool operand is accepted at all, the result is the result with the `int` it is -/
theorem binop_bool_as_int (o : BOp) (b : Bool) (x : Operand) (d : Dim) :
    (binop o x (.bool b) = .ok d → binop o x (.int (boolInt b)) = .ok d) ∧
    (binop o (.bool b) x = .ok d → binop o (.int (boolInt b)) x = .ok d) := by
  constructor
  · intro h
    cases x with
    | dim dx =>
      cases dx with
      | unknown => cases o <;> exact h
      | bad => cases o <;> simp [binop, dunder, Out.toPy] at h
      | expr a =>
        cases o with
        | truediv => exact h
        | _ => simp [binop, dunder, Out.toPy] at h
    | int n => simp [binop] at h
    | bool c => simp [binop] at h
    | other => simp [binop] at h
  · intro h
    cases x with
    | dim dx =>
      cases dx with
      | unknown => cases o <;> exact h
      | bad => cases o <;> simp [binop, rdunder, dunder, Out.toPy] at h
      | expr a => cases o <;> simp [binop, rdunder, dunder, Out.toPy] at h
    | int n => simp [binop] at h
    | bool c => simp [binop] at h
    | other => simp [binop] at h

/-- `a / True` evaluates like `a`; `a / False` has no value -/
theorem eval_truediv_bool (env : Env) (a : Expr) :
    eval env (fwdTreeInt .truediv a (boolInt true)) = eval env a ∧
    eval env (fwdTreeInt .truediv a (boolInt false)) = none := by
  constructor
  · simp only [fwdTreeInt, boolInt, if_true, eval]
    cases eval env a <;> simp [evalBin]
  · simp only [fwdTreeInt, boolInt, eval]
    cases eval env a <;> simp [evalBin]

/-- what `evaluate` returns for a dimension with expression `e`, spelled out -/
inductive EvalSpec (b : Env) (e : Expr) : EvalOut → Prop
  /-- complete: every symbol is bound and the exact value is the integer `z` -/
  | int (z : Int) (hv : eval b e = some (z : Rat)) (hb : ∀ s ∈ free e, b s ≠ none) :
      EvalSpec b e (.int z)
  /-- a residual dimension: it evaluates later like the whole under the joined bindings, its free
      symbols are exactly the unbound ones, and the value under `b` alone is not an integer -/
  | dim (r : Expr) (hr : r = subst b e)
      (hlater : ∀ b2 : Env, eval b2 r = eval (Env.union b b2) e)
      (hfree : ∀ s, s ∈ free r ↔ (s ∈ free e ∧ b s = none))
      (hnot : ∀ z : Int, eval b e ≠ some (z : Rat)) :
      EvalSpec b e (.dim (.expr r))

theorem evaluate_spec (b : Env) (e : Expr) : EvalSpec b e ((Dim.expr e).evaluate b) := by
  have hkey : eval Env.empty (subst b e) = eval b e := by
    rw [← eval_subst b Env.empty e, union_empty]
  simp only [Dim.evaluate, hkey]
  cases hv : eval b e with
  | none =>
    exact .dim _ rfl (fun b2 => (eval_subst b b2 e).symm) (free_subst b e) (by simp [hv])
  | some q =>
    by_cases hq : q.den = 1
    · simp only [if_pos hq]
      have hqz : q = (q.num : Rat) := by
        have := Rat.num_div_den q
        rw [hq] at this
        simpa using this.symm
      exact .int _ (by rw [← hqz]; exact hv) (eval_some_bound b e q hv)
    · simp only [if_neg hq]
      refine .dim _ rfl (fun b2 => (eval_subst b b2 e).symm) (free_subst b e) ?_
      intro z hz
      rw [hv] at hz
      simp only [Option.some.injEq] at hz
      apply hq
      rw [hz]
      exact Rat.den_intCast z

/-- free symbols of one dimension of a shape (specification) -/
def SDim.free : SDim → List String
  | .dim (.expr e) => IrVerif.SymExpr.free e
  | _ => []

theorem evaluateLoop_spec (b : Env) : ∀ (sh acc out : List SDim),
    Shape.evaluateLoop b acc sh = some out ↔
      ∃ sh', out = acc ++ sh' ∧ List.Forall₂ (fun d d' => SDim.evaluate b d = some d') sh sh'
  | [], acc, out => by
    simp only [Shape.evaluateLoop, Option.some.injEq]
    constructor
    · rintro rfl; exact ⟨[], by simp, .nil⟩
    · rintro ⟨sh', rfl, h⟩; cases h; simp
  | d :: rest, acc, out => by
    simp only [Shape.evaluateLoop]
    cases hd : d.evaluate b with
    | none =>
      simp only [false_iff, reduceCtorEq]
      rintro ⟨sh', _, h⟩
      cases h with
      | cons h1 _ => rw [hd] at h1; cases h1
    | some d' =>
      simp only [evaluateLoop_spec b rest (acc ++ [d']) out]
      constructor
      · rintro ⟨sh', rfl, h⟩
        exact ⟨d' :: sh', by simp, .cons hd h⟩
      · rintro ⟨sh', rfl, h⟩
        cases h with
        | @cons _ d2 _ t h1 h2 =>
          rw [hd] at h1
          cases h1
          exact ⟨t, by simp, h2⟩

theorem shape_evaluate_iff (b : Env) (sh sh' : Shape) :
    Shape.evaluate b sh = some sh' ↔ List.Forall₂ (fun d d' => SDim.evaluate b d = some d') sh sh' := by
  simp only [Shape.evaluate, evaluateLoop_spec b sh [] sh', List.nil_append]
  constructor
  · rintro ⟨t, rfl, h⟩; exact h
  · intro h; exact ⟨sh', rfl, h⟩

theorem evaluate_expr_ne_raised (b : Env) (e : Expr) : (Dim.expr e).evaluate b ≠ .raised := by
  simp only [Dim.evaluate]
  split
  · split <;> nofun
  · nofun

theorem sdim_evaluate_none (b : Env) (d : SDim) : SDim.evaluate b d = none ↔ d = .dim .bad := by
  cases d with
  | int n => simp [SDim.evaluate]
  | dim d =>
    cases d with
    | unknown => simp [SDim.evaluate, Dim.evaluate]
    | bad => simp [SDim.evaluate, Dim.evaluate]
    | expr e =>
      simp only [SDim.evaluate]
      cases h' : (Dim.expr e).evaluate b with
      | int z => simp
      | dim d' => simp
      | raised => exact absurd h' (evaluate_expr_ne_raised b e)

theorem shape_evaluate_none (b : Env) : ∀ sh : Shape,
    Shape.evaluate b sh = none ↔ SDim.dim .bad ∈ sh := by
  intro sh
  have key : ∀ (sh acc : List SDim), Shape.evaluateLoop b acc sh = none ↔ SDim.dim .bad ∈ sh := by
    intro sh
    induction sh with
    | nil => intro acc; simp [Shape.evaluateLoop]
    | cons d rest ih =>
      intro acc
      simp only [Shape.evaluateLoop]
      cases hd : d.evaluate b with
      | none =>
        have := (sdim_evaluate_none b d).mp hd
        simp [this]
      | some d' =>
        have hne : d ≠ .dim .bad := by
          intro hc
          rw [(sdim_evaluate_none b d).mpr hc] at hd
          cases hd
        simp only [ih (acc ++ [d']), List.mem_cons]
        constructor
        · intro h; exact Or.inr h
        · rintro (h | h)
          · exact absurd h.symm hne
          · exact h
  exact key sh []

/-- one dimension: no bad text on either side, and the free symbols that remain are exactly the
    unbound ones -/
theorem sdim_evaluate_free (b : Env) (d d' : SDim) (h : SDim.evaluate b d = some d') :
    d ≠ .dim .bad ∧ d' ≠ .dim .bad ∧ ∀ s, s ∈ d'.free ↔ (s ∈ d.free ∧ b s = none) := by
  cases d with
  | int n =>
    simp only [SDim.evaluate, Option.some.injEq] at h
    subst h
    simp [SDim.free]
  | dim d =>
    cases d with
    | unknown =>
      simp only [SDim.evaluate, Dim.evaluate, Option.some.injEq] at h
      subst h
      simp [SDim.free]
    | bad => simp [SDim.evaluate, Dim.evaluate] at h
    | expr e =>
      have hs := evaluate_spec b e
      simp only [SDim.evaluate] at h
      cases h' : (Dim.expr e).evaluate b with
      | raised => exact absurd h' (evaluate_expr_ne_raised b e)
      | int z =>
        rw [h'] at hs h
        simp only [Option.some.injEq] at h
        subst h
        cases hs with
        | int _ hv hb =>
          refine ⟨nofun, nofun, fun s => ?_⟩
          simp only [SDim.free, List.not_mem_nil, false_iff, not_and]
          intro hs
          exact hb s hs
      | dim r =>
        rw [h'] at hs h
        simp only [Option.some.injEq] at h
        subst h
        cases hs with
        | dim r0 hr hlater hfree hnot =>
          exact ⟨nofun, nofun, fun s => by simpa [SDim.free] using hfree s⟩

theorem freeLoop_spec : ∀ (sh : List SDim) (acc : List String), SDim.dim .bad ∉ sh →
    ∃ l, Shape.freeLoop acc sh = some l ∧ ∀ s, s ∈ l ↔ (s ∈ acc ∨ ∃ d ∈ sh, s ∈ d.free)
  | [], acc, _ => ⟨acc, rfl, by simp⟩
  | .int n :: rest, acc, h => by
    obtain ⟨l, hl, hm⟩ := freeLoop_spec rest acc (fun hd => h (List.mem_cons_of_mem _ hd))
    exact ⟨l, by simpa [Shape.freeLoop] using hl, fun s => by simp [hm s, SDim.free]⟩
  | .dim d :: rest, acc, h => by
    cases d with
    | bad => exact absurd List.mem_cons_self h
    | unknown =>
      obtain ⟨l, hl, hm⟩ := freeLoop_spec rest (acc ++ []) (fun hd => h (List.mem_cons_of_mem _ hd))
      exact ⟨l, by simpa [Shape.freeLoop, Dim.freeSymbols] using hl,
        fun s => by simp [hm s, SDim.free]⟩
    | expr e =>
      obtain ⟨l, hl, hm⟩ := freeLoop_spec rest (acc ++ (free e).eraseDups)
        (fun hd => h (List.mem_cons_of_mem _ hd))
      refine ⟨l, by simpa [Shape.freeLoop, Dim.freeSymbols] using hl, fun s => ?_⟩
      simp only [hm s, List.mem_append, List.mem_eraseDups, List.mem_cons, exists_eq_or_imp,
        SDim.free]
      exact or_assoc

theorem shape_freeSymbols_spec (sh : Shape) (h : SDim.dim .bad ∉ sh) :
    ∃ l, Shape.freeSymbols sh = some l ∧ ∀ s, s ∈ l ↔ ∃ d ∈ sh, s ∈ d.free := by
  obtain ⟨l, hl, hm⟩ := freeLoop_spec sh [] h
  exact ⟨l.eraseDups, by simp [Shape.freeSymbols, hl], fun s => by simp [List.mem_eraseDups, hm s]⟩

theorem forall2_evaluate_free (b : Env) {sh sh' : List SDim}
    (h : List.Forall₂ (fun d d' => SDim.evaluate b d = some d') sh sh') :
    SDim.dim .bad ∉ sh ∧ SDim.dim .bad ∉ sh' ∧
      ∀ s, (∃ d' ∈ sh', s ∈ d'.free) ↔ ((∃ d ∈ sh, s ∈ d.free) ∧ b s = none) := by
  induction h with
  | nil => simp
  | @cons d d' t t' h1 _ ih =>
    obtain ⟨hn, hn', hf⟩ := sdim_evaluate_free b d d' h1
    obtain ⟨i1, i2, i3⟩ := ih
    refine ⟨?_, ?_, fun s => ?_⟩
    · simp only [List.mem_cons, not_or]; exact ⟨hn.symm, i1⟩
    · simp only [List.mem_cons, not_or]; exact ⟨hn'.symm, i2⟩
    · simp only [List.mem_cons, exists_eq_or_imp, hf s, i3 s]
      exact or_and_right.symm

theorem shape_evaluate_static (b : Env) : ∀ sh : Shape, Shape.isStatic sh = true →
    List.Forall₂ (fun d d' => SDim.evaluate b d = some d') sh sh
  | [], _ => .nil
  | d :: rest, h => by
    simp only [Shape.isStatic, List.all_cons, Bool.and_eq_true] at h
    refine .cons ?_ (shape_evaluate_static b rest (by simpa [Shape.isStatic] using h.2))
    cases d with
    | int n => rfl
    | dim d => simp [SDim.isInt] at h

end IrVerif.SymExpr
