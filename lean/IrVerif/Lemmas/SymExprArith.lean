/-
Arithmetic lemmas for C16: `Rat.floor` of an integer quotient is Python's floor division, the
sign of Python's modulo for a negative divisor, `trunc` as floor / ceiling; the `sign * floor(Abs)` spelling of
`trunc` and the printer's normal form `norm` evaluate like the original.
-/
import IrVerif.Model.SymExpr
import Mathlib.Data.Rat.Floor
namespace IrVerif.SymExpr

theorem fmod_bounds_neg (a : Int) {b : Int} (hb : b < 0) : b < Int.fmod a b ∧ Int.fmod a b ≤ 0 := by
  rw [Int.fmod_eq_emod]
  have h1 := Int.emod_nonneg a (Int.ne_of_lt hb)
  have h2 := Int.emod_lt_of_neg a hb
  by_cases hd : b ∣ a
  · have : a % b = 0 := Int.emod_eq_zero_of_dvd hd
    simp [hd, this]; omega
  · have : a % b ≠ 0 := fun h => hd (Int.dvd_of_emod_eq_zero h)
    have hnb : ¬ (0 ≤ b) := by omega
    simp [hd, hnb]; omega

theorem floor_div_pos (a : Int) {b : Int} (hb : 0 < b) : ⌊(a : ℚ) / (b : ℚ)⌋ = Int.fdiv a b := by
  obtain ⟨n, rfl⟩ := Int.eq_ofNat_of_zero_le hb.le
  rw [Int.fdiv_eq_ediv_of_nonneg _ hb.le]
  exact_mod_cast Rat.floor_intCast_div_natCast a n

theorem floor_div_int (a b : Int) (hb : b ≠ 0) : ((a : Rat) / (b : Rat)).floor = Int.fdiv a b := by
  rcases lt_or_gt_of_ne hb with hneg | hpos
  · have h := floor_div_pos (-a) (b := -b) (by omega)
    rw [Int.neg_fdiv_neg] at h
    rw [← h]
    push_cast
    rw [neg_div_neg_eq]
    rfl
  · exact floor_div_pos a hpos

theorem cast_natAbs (z : Int) :
    (((z.natAbs : Nat) : Int) : Rat) = if z < 0 then -(z : Rat) else (z : Rat) := by
  split
  · rename_i h
    have : ((z.natAbs : Nat) : Int) = -z := Int.ofNat_natAbs_of_nonpos (Int.le_of_lt h)
    rw [this]; push_cast; ring
  · rename_i h
    have : ((z.natAbs : Nat) : Int) = z := Int.natAbs_of_nonneg (by omega)
    rw [this]

theorem lt_floor_add_one' (x : Rat) : x < ((x.floor : Int) : Rat) + 1 := by
  have : x < ((⌊x⌋ : ℤ) : ℚ) + 1 := Int.lt_floor_add_one x
  exact this

theorem ratTrunc_of_nonneg {x : Rat} (hx : 0 ≤ x) : ratTrunc x = x.floor := by
  have hn : 0 ≤ x.num := Rat.num_nonneg.mpr hx
  rw [ratTrunc, Rat.floor_def, Int.tdiv_eq_ediv_of_nonneg hn]

theorem ratTrunc_of_nonpos {x : Rat} (hx : x ≤ 0) : ratTrunc x = -((-x).floor) := by
  have hn : 0 ≤ (-x).num := Rat.num_nonneg.mpr (by linarith)
  have h1 : (-x).num = -x.num := Rat.num_neg_eq_neg_num x
  have h2 : (-x).den = x.den := Rat.den_neg_eq_den x
  rw [ratTrunc, Rat.floor_def, h1, h2]
  rw [h1] at hn
  rw [← Int.tdiv_eq_ediv_of_nonneg hn, Int.neg_tdiv, neg_neg]

/-- what `SymbolicDim.__trunc__` builds, `sign(x) * floor(Abs(x))`, is truncation toward zero -/
theorem sign_mul_floor_abs (x : Rat) : ratSign x * (((ratAbs x).floor : Int) : Rat) = ((ratTrunc x : Int) : Rat) := by
  unfold ratSign ratAbs
  by_cases h : x < 0
  · simp only [h, if_true]
    rw [ratTrunc_of_nonpos (le_of_lt h)]
    push_cast; ring
  · have h0 : 0 ≤ x := not_lt.mp h
    simp only [h, if_false]
    by_cases hz : x = 0
    · subst hz; simp [ratTrunc]
    · simp only [hz, if_false]
      rw [ratTrunc_of_nonneg h0]; ring

theorem eval_sign_floor_abs (env : Env) (a : Expr) :
    eval env (.bin .mul (.un .sign a) (.un .floor (.un .abs a))) = eval env (.un .trunc a) := by
  simp only [eval]
  cases eval env a with
  | none => rfl
  | some x => simp [evalUn, evalBin, sign_mul_floor_abs]

theorem eval_norm (env : Env) (e : Expr) : eval env (norm e) = eval env e := by
  induction e with
  | num n =>
    by_cases hn : n < 0
    · simp only [norm, hn, if_true, eval, evalUn, cast_natAbs, neg_neg]
    · simp [norm, hn]
  | sym s => rfl
  | inf b => rfl
  | un o a ih =>
    cases o with
    | trunc =>
      rw [norm, eval_sign_floor_abs]
      simp only [eval, ih]
    | _ => simp only [norm, eval, ih]
  | bin o a b iha ihb => simp only [norm, eval, iha, ihb]

end IrVerif.SymExpr
