/-
C18: by-name resolution.  `create_value_mapping(graph, include_subgraphs=False)` is a chain of
"insert unless the name is already a key" steps; its lookups are the lookups of the flat list of
(name, value) pairs in the order the code meets them (`nameCandidates`): the first pair with a name wins.
-/
import IrVerif.Lemmas.Extract
import IrVerif.Lemmas.ListFacts
namespace IrVerif.Extract

theorem named_append (W : World) (a b : List VId) : named W (a ++ b) = named W a ++ named W b := by
  simp [named, List.filter_append]

theorem named_nil (W : World) : named W [] = [] := rfl

theorem named_cons (W : World) (v : VId) (vs : List VId) :
    named W (v :: vs) = if (W.val v).name == "" then named W vs else ((W.val v).name, v) :: named W vs := by
  unfold named
  by_cases h : (W.val v).name == "" <;> simp [h]

theorem mem_named {W : World} {vs : List VId} {s : String} {v : VId} :
    (s, v) ∈ named W vs ↔ v ∈ vs ∧ (W.val v).name = s ∧ s ≠ "" := by
  unfold named
  simp only [List.mem_map, List.mem_filter, Prod.mk.injEq]
  constructor
  · rintro ⟨a, ⟨ha, hne⟩, rfl, rfl⟩
    refine ⟨ha, rfl, ?_⟩
    simpa using hne
  · rintro ⟨hv, rfl, hne⟩
    exact ⟨v, ⟨hv, by simpa using hne⟩, rfl, rfl⟩

/-- one `setdefault`-like step does to the lookups what appending the pair (when it has a name) does -/
theorem lookup_setDefault (W : World) (m : NameMap) (v : VId) (rest : NameMap) (s : String) :
    (NameMap.setDefault W m v ++ rest).lookup s = (m ++ named W [v] ++ rest).lookup s := by
  unfold NameMap.setDefault
  simp only [named_cons, named_nil]
  by_cases h : (W.val v).name == ""
  · simp [h]
  · simp only [h, if_false, Bool.false_eq_true]
    by_cases h2 : (m.lookup (W.val v).name).isSome
    · simp only [h2, if_true]
      rw [List.lookup_append, List.lookup_append, List.lookup_append]
      by_cases hs : s = (W.val v).name
      · subst hs
        obtain ⟨x, hx⟩ := Option.isSome_iff_exists.mp h2
        simp [hx]
      · have : (s == (W.val v).name) = false := by simpa using hs
        simp [List.lookup_cons, this]
    · simp only [h2, if_false, Bool.false_eq_true]

theorem lookup_foldl_setDefault (W : World) : ∀ (vs : List VId) (m rest : NameMap) (s : String),
    (vs.foldl (NameMap.setDefault W) m ++ rest).lookup s = (m ++ named W vs ++ rest).lookup s
  | [], m, rest, s => by simp [named_nil]
  | v :: vs, m, rest, s => by
    rw [List.foldl_cons, lookup_foldl_setDefault W vs _ rest s]
    have h1 := lookup_setDefault W m v (named W vs ++ rest) s
    have e : named W (v :: vs) = named W [v] ++ named W vs := by
      rw [← named_append]; rfl
    rw [e]
    simpa [List.append_assoc] using h1

/-- the values of one node in the order `create_value_mapping` meets them: inputs, then outputs -/
theorem lookup_nodes (W : World) : ∀ (ns : List NId) (m rest : NameMap) (s : String),
    (ns.foldl (fun m n =>
        let nd := W.nodeD n
        nd.outputs.foldl (NameMap.setDefault W) (nd.ins.foldl (NameMap.setDefault W) m)) m ++ rest).lookup s
      = (m ++ named W (ns.flatMap (fun n => (W.nodeD n).ins ++ (W.nodeD n).outputs)) ++ rest).lookup s
  | [], m, rest, s => by simp [named_nil]
  | n :: ns, m, rest, s => by
    rw [List.foldl_cons, lookup_nodes W ns _ rest s]
    simp only [List.flatMap_cons, named_append]
    have h1 := lookup_foldl_setDefault W (W.nodeD n).outputs
      ((W.nodeD n).ins.foldl (NameMap.setDefault W) m)
      (named W (ns.flatMap (fun n => (W.nodeD n).ins ++ (W.nodeD n).outputs)) ++ rest) s
    have h2 := lookup_foldl_setDefault W (W.nodeD n).ins m
      (named W (W.nodeD n).outputs ++
        (named W (ns.flatMap (fun n => (W.nodeD n).ins ++ (W.nodeD n).outputs)) ++ rest)) s
    simp only [List.append_assoc] at h1 h2 ⊢
    rw [h1, h2]

/-- the lookups of the value mapping are the lookups of the candidate list: the first pair wins -/
theorem lookup_valueMapping (W : World) (T : Target) (s : String) :
    (valueMapping W T).lookup s = (nameCandidates W T).lookup s := by
  unfold valueMapping nameCandidates
  have h1 := lookup_nodes W T.nodes (T.inputs.foldl (NameMap.setDefault W) T.inits) [] s
  have h2 := lookup_foldl_setDefault W T.inputs T.inits
    (named W (T.nodes.flatMap (fun n => (W.nodeD n).ins ++ (W.nodeD n).outputs))) s
  simp only [List.append_nil] at h1
  simp only [named_append]
  rw [h1, h2, List.append_assoc]

theorem lookup_isSome_iff {m : NameMap} {s : String} : (m.lookup s).isSome ↔ ∃ v, (s, v) ∈ m :=
  ListFacts.lookup_isSome_iff.trans (by simp)

/-- in a list whose keys determine their values, `lookup` finds exactly the member pairs -/
theorem lookup_eq_some_iff_of_functional {m : NameMap}
    (hf : ∀ k v v', (k, v) ∈ m → (k, v') ∈ m → v = v') (s : String) (v : VId) :
    m.lookup s = some v ↔ (s, v) ∈ m := by
  refine ⟨ListFacts.mem_of_lookup, fun h => ?_⟩
  cases hl : m.lookup s with
  | none => exact absurd h (ListFacts.lookup_none_iff.mp hl v)
  | some v' => rw [hf s v' v (ListFacts.mem_of_lookup hl) h]

theorem namesUnique_of_B {W : World} {T : Target} (h : namesUniqueB W T = true) :
    ∀ k v v', (k, v) ∈ nameCandidates W T → (k, v') ∈ nameCandidates W T → v = v' := by
  intro k v v' hv hv'
  unfold namesUniqueB at h
  have := List.all_eq_true.mp (List.all_eq_true.mp h _ hv) _ hv'
  simpa using this

end IrVerif.Extract
