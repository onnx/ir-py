/-
C18: the ownership checks of the clone's `Graph(...)` constructors pass when no value is listed by two
graphs of the cloned tree and no graph input / initializer of the tree is a node output of the tree
(`ownStaticB`): whenever the key-level clone (`cloneG`) returns, the clone with ownership checks (`cloneGO`)
returns with the same keys.
-/
import IrVerif.Lemmas.ExtractSucceeds
namespace IrVerif.Extract

/-! ## `cloneGO` against `cloneG` in general -/

/-- `r` (with ownership checks) against `r0` (without): same keys when `r` returns, same error unless `r` is
    the ownership error -/
def OwnRel (r : Except Err CSt) (r0 : Except Err (List VId)) : Prop :=
  match r with
  | .ok s' => r0 = .ok s'.m
  | .error e => e = .cloneOwned ∨ r0 = .error e

theorem OwnRel.bind {f : CSt → Except Err CSt} {f0 : List VId → Except Err (List VId)}
    (hf : ∀ s, OwnRel (f s) (f0 s.m)) {r : Except Err CSt} {r0 : Except Err (List VId)} :
    OwnRel r r0 → OwnRel (match r with | .error e => .error e | .ok s => f s)
      (match r0 with | .error e => .error e | .ok m => f0 m) := by
  intro h
  cases r with
  | error e =>
    rcases h with h | h
    · exact Or.inl h
    · rw [h]; exact Or.inr rfl
  | ok s => rw [show r0 = .ok s.m from h]; exact hf s

mutual
  theorem cloneGO_rel : ∀ (g : GraphT) (s : CSt), OwnRel (cloneGO s g) (cloneG s.m g)
    | .mk gid ins inits outs ns, s => by
      rw [cloneGO, cloneG]
      refine OwnRel.bind (fun s2 => ?_) (cloneNsO_rel ns { s with m := s.m ++ ins ++ inits })
      by_cases hall : outs.all (fun v => s2.m.contains v) = true
      · rw [if_pos hall, if_pos hall]
        simp only []
        split
        · exact Or.inl rfl
        · rfl
      · rw [if_neg hall, if_neg hall]
        exact Or.inr rfl
  theorem cloneNsO_rel : ∀ (ns : List NodeT) (s : CSt), OwnRel (cloneNsO s ns) (cloneNs s.m ns)
    | [], s => by rw [cloneNsO, cloneNs]; rfl
    | n :: ns, s => by
      rw [cloneNsO, cloneNs]
      exact OwnRel.bind (fun s1 => cloneNsO_rel ns s1) (cloneNO_rel n s)
  theorem cloneNO_rel : ∀ (n : NodeT) (s : CSt), OwnRel (cloneNO s n) (cloneN s.m n)
    | .mk ins outs bs, s => by
      rw [cloneNO, cloneN]
      by_cases hin : (ins.filterMap id).all (fun v => s.m.contains v) = true
      · rw [if_pos hin, if_pos hin]
        refine OwnRel.bind (fun s1 => ?_) (cloneGsO_rel bs s)
        rfl
      · rw [if_neg hin, if_neg hin]
        exact Or.inr rfl
  theorem cloneGsO_rel : ∀ (gs : List GraphT) (s : CSt), OwnRel (cloneGsO s gs) (cloneGs s.m gs)
    | [], s => by rw [cloneGsO, cloneGs]; rfl
    | g :: gs, s => by
      rw [cloneGsO, cloneGs]
      exact OwnRel.bind (fun s1 => cloneGsO_rel gs s1) (cloneGO_rel g s)
end

/-! ## when the ownership checks pass -/

def DisjL (a b : List VId) : Prop := ∀ v, v ∈ a → ¬ v ∈ b

theorem disjFam_of_B : ∀ {l : List (List VId)}, disjFamB l = true → l.Pairwise DisjL
  | [], _ => List.Pairwise.nil
  | a :: rest, h => by
    rw [disjFamB, Bool.and_eq_true] at h
    refine List.Pairwise.cons ?_ (disjFam_of_B h.2)
    intro b hb v hv
    have := List.all_eq_true.mp (List.all_eq_true.mp h.1 b hb) v hv
    simpa using this

/-- the hypotheses threaded through the traversal: the clones owned so far are clones of values of `P`, the
    value lists of the part still to clone avoid `P` and each other, and the graph inputs / initializers still
    to come are not node outputs bound so far or in that part -/
structure OwnPre (s : CSt) (P : List VId) (post : List (List VId)) (ii oo : List VId) : Prop where
  owned : ∀ c, c ∈ s.owned → c.1 ∈ P
  avoid : ∀ L, L ∈ post → ∀ v, v ∈ L → ¬ v ∈ P
  disj : post.Pairwise DisjL
  fresh : ∀ v, v ∈ ii → ¬ v ∈ s.outs ∧ ¬ v ∈ oo

def OwnPost (s s' : CSt) (m' : List VId) (P : List VId) (post : List (List VId)) (oo : List VId) : Prop :=
  s'.m = m' ∧ (∀ c, c ∈ s'.owned → c.1 ∈ P ++ post.flatten) ∧ s'.outs = s.outs ++ oo

theorem own_good {s s2 : CSt} {ins inits outs : List VId}
    (hL : ∀ v, v ∈ ins ++ inits ++ outs → ∀ c, c ∈ s2.owned → c.1 ≠ v)
    (hfresh : ∀ v, v ∈ ins ++ inits → ¬ v ∈ s.outs) :
    ((ins.map s.cur).any (fun c => s2.owned.contains c || c.2 != 0) ||
      (outs.map s2.cur).any (fun c => s2.owned.contains c) ||
      (inits.map s.cur).any (fun c => s2.owned.contains c || c.2 != 0)) = false := by
  have hnotOwned : ∀ (st : CSt) v, v ∈ ins ++ inits ++ outs → s2.owned.contains (st.cur v) = false := by
    intro st v hv
    cases hc : s2.owned.contains (st.cur v) with
    | false => rfl
    | true => exact absurd rfl (hL v hv _ (by simpa using hc))
  have hII : ∀ l : List VId, (∀ v, v ∈ l → v ∈ ins ++ inits) →
      (l.map s.cur).any (fun c => s2.owned.contains c || c.2 != 0) = false := by
    intro l hl
    rw [List.any_eq_false]
    intro c hc
    obtain ⟨v, hv, rfl⟩ := List.mem_map.mp hc
    have hgen : (s.cur v).2 = 0 := List.count_eq_zero.mpr (hfresh v (hl v hv))
    rw [hnotOwned s v (List.mem_append_left _ (hl v hv)), hgen]
    simp
  have h2 : (outs.map s2.cur).any (fun c => s2.owned.contains c) = false := by
    rw [List.any_eq_false]
    intro c hc
    obtain ⟨v, hv, rfl⟩ := List.mem_map.mp hc
    rw [hnotOwned s2 v (List.mem_append_right _ hv)]
    simp
  rw [hII ins (fun v hv => List.mem_append_left _ hv), h2, hII inits (fun v hv => List.mem_append_right _ hv)]
  rfl

/-- a stage of the key-level clone and the same stage with ownership checks: under `OwnPre` for the value lists
    `post`, the inputs / initializers `ii` and the node outputs `oo` of what the stage clones, the checks pass -/
def Own (run : List VId → Except Err (List VId)) (runO : CSt → Except Err CSt) (post : List (List VId))
    (ii oo : List VId) : Prop :=
  ∀ (s : CSt) (P : List VId) (m' : List VId), run s.m = .ok m' → OwnPre s P post ii oo →
    ∃ s', runO s = .ok s' ∧ OwnPost s s' m' P post oo

theorem Own.nil : Own .ok .ok [] [] [] :=
  fun s P m' h hpre => by
    cases h
    exact ⟨s, rfl, rfl, fun c hc => by simpa using hpre.owned c hc, by simp⟩

theorem Own.seq {a b : List VId → Except Err (List VId)} {aO bO : CSt → Except Err CSt}
    {p1 p2 : List (List VId)} {i1 i2 o1 o2 : List VId} (ha : Own a aO p1 i1 o1) (hb : Own b bO p2 i2 o2) :
    Own (fun m => match a m with | .error e => .error e | .ok m1 => b m1)
      (fun s => match aO s with | .error e => .error e | .ok s1 => bO s1) (p1 ++ p2) (i1 ++ i2) (o1 ++ o2) := by
  intro s P m' h hpre
  simp only [] at h ⊢
  cases hN : a s.m with
  | error e => rw [hN] at h; cases h
  | ok m1 =>
    rw [hN] at h
    simp only [] at h
    have hdisj := hpre.disj
    rw [List.pairwise_append] at hdisj
    obtain ⟨hd1, hd2, hcross⟩ := hdisj
    obtain ⟨s1, hs1, hm1, hown1, houts1⟩ := ha s P m1 hN
      ⟨hpre.owned, fun L hL => hpre.avoid L (List.mem_append_left _ hL), hd1,
       fun v hv => by
         have := hpre.fresh v (List.mem_append_left _ hv)
         exact ⟨this.1, fun ho => this.2 (List.mem_append_left _ ho)⟩⟩
    obtain ⟨s2, hs2, hm2, hown2, houts2⟩ := hb s1 (P ++ p1.flatten) m' (by rw [hm1]; exact h)
      ⟨hown1,
       fun L hL v hv hP => by
         rcases List.mem_append.mp hP with hP | hP
         · exact hpre.avoid L (List.mem_append_right _ hL) v hv hP
         · obtain ⟨L', hL', hvL'⟩ := List.mem_flatten.mp hP
           exact hcross L' hL' L hL v hvL' hv,
       hd2,
       fun v hv => by
         have := hpre.fresh v (List.mem_append_right _ hv)
         refine ⟨?_, fun ho => this.2 (List.mem_append_right _ ho)⟩
         rw [houts1, List.mem_append]
         rintro (ho | ho)
         · exact this.1 ho
         · exact this.2 (List.mem_append_left _ ho)⟩
    refine ⟨s2, by rw [hs1]; exact hs2, hm2, ?_, ?_⟩
    · intro c hc
      have := hown2 c hc
      rw [List.flatten_append]
      simpa [List.append_assoc] using this
    · rw [houts2, houts1, List.append_assoc]

mutual
  theorem ownG : ∀ (t : GraphT) (s : CSt) (P : List VId) (m' : List VId),
      cloneG s.m t = .ok m' → OwnPre s P (postG t) (insInitsG t) (outsAllG t) →
      ∃ s', cloneGO s t = .ok s' ∧ OwnPost s s' m' P (postG t) (outsAllG t)
    | .mk gid ins inits outs ns, s, P, m', h, hpre => by
      rw [cloneG] at h
      cases hN : cloneNs (s.m ++ ins ++ inits) ns with
      | error e => rw [hN] at h; cases h
      | ok m1 =>
        rw [hN] at h
        simp only [] at h
        split at h
        · rename_i hall
          have hm : m' = m1 := by cases h; rfl
          subst hm
          have hdisj := hpre.disj
          rw [postG, List.pairwise_append] at hdisj
          obtain ⟨hd1, _, hcross⟩ := hdisj
          obtain ⟨s2, hs2, hm2, hown2, houts2⟩ := ownNs ns { s with m := s.m ++ ins ++ inits } P m' hN
            ⟨hpre.owned,
             fun L hL => hpre.avoid L (by rw [postG]; exact List.mem_append_left _ hL),
             hd1,
             fun v hv => hpre.fresh v (by rw [insInitsG]; exact List.mem_append_right _ hv)⟩
          have hL : ∀ v, v ∈ ins ++ inits ++ outs → ∀ c, c ∈ s2.owned → c.1 ≠ v := by
            intro v hv c hc he
            have hcP := hown2 c hc
            rw [he, List.mem_append] at hcP
            rcases hcP with hcP | hcP
            · exact hpre.avoid (ins ++ inits ++ outs) (by rw [postG]; simp) v hv hcP
            · obtain ⟨L', hL', hvL'⟩ := List.mem_flatten.mp hcP
              exact hcross L' hL' (ins ++ inits ++ outs) (by simp) v hvL' hv
          have hbad := own_good (s := s) hL
            (fun v hv => (hpre.fresh v (by rw [insInitsG]; exact List.mem_append_left _ hv)).1)
          refine ⟨{ s2 with owned := s2.owned ++ ins.map s.cur ++ outs.map s2.cur ++ inits.map s.cur }, ?_,
            hm2, ?_, ?_⟩
          · rw [cloneGO]
            simp only []
            rw [hs2]
            simp only []
            rw [hm2] at *
            rw [if_pos hall]
            simp only [hbad, Bool.false_eq_true, if_false]
          · intro c hc
            simp only [List.mem_append, List.mem_map] at hc
            rw [postG, List.flatten_append, List.mem_append, List.mem_append]
            rcases hc with ((hc | ⟨v, hv, rfl⟩) | ⟨v, hv, rfl⟩) | ⟨v, hv, rfl⟩
            · rcases List.mem_append.mp (hown2 c hc) with h' | h'
              · exact Or.inl h'
              · exact Or.inr (Or.inl h')
            · exact Or.inr (Or.inr (by simp [CSt.cur, hv]))
            · exact Or.inr (Or.inr (by simp [CSt.cur, hv]))
            · exact Or.inr (Or.inr (by simp [CSt.cur, hv]))
          · rw [outsAllG]; exact houts2
        · cases h
  theorem ownNs : ∀ (ns : List NodeT) (s : CSt) (P : List VId) (m' : List VId),
      cloneNs s.m ns = .ok m' → OwnPre s P (postNs ns) (insInitsNs ns) (outsAllNs ns) →
      ∃ s', cloneNsO s ns = .ok s' ∧ OwnPost s s' m' P (postNs ns) (outsAllNs ns)
    | [] => by
      have := Own.nil
      simpa only [Own, cloneNs, cloneNsO, postNs, insInitsNs, outsAllNs] using this
    | n :: ns => by
      have := Own.seq (a := (cloneN · n)) (aO := (cloneNO · n)) (b := (cloneNs · ns)) (bO := (cloneNsO · ns))
        (ownN n) (ownNs ns)
      simp only [cloneNs, cloneNsO, postNs, insInitsNs, outsAllNs]
      exact this
  theorem ownN : ∀ (n : NodeT) (s : CSt) (P : List VId) (m' : List VId),
      cloneN s.m n = .ok m' → OwnPre s P (postN n) (insInitsN n) (outsAllN n) →
      ∃ s', cloneNO s n = .ok s' ∧ OwnPost s s' m' P (postN n) (outsAllN n)
    | .mk ins outs bs, s, P, m', h, hpre => by
      rw [cloneN] at h
      split at h
      · rename_i hin
        cases hG : cloneGs s.m bs with
        | error e => rw [hG] at h; cases h
        | ok m1 =>
          rw [hG] at h
          simp only [] at h
          cases h
          obtain ⟨s1, hs1, hm1, hown1, houts1⟩ := ownGs bs s P m1 hG
            ⟨hpre.owned, fun L hL => hpre.avoid L (by rw [postN]; exact hL), by simpa [postN] using hpre.disj,
             fun v hv => by
               have := hpre.fresh v (by rw [insInitsN]; exact hv)
               exact ⟨this.1, fun ho => this.2 (by rw [outsAllN]; exact List.mem_append_left _ ho)⟩⟩
          refine ⟨{ s1 with m := s1.m ++ outs, outs := s1.outs ++ outs }, ?_, ?_, ?_, ?_⟩
          · rw [cloneNO, if_pos hin, hs1]
          · show s1.m ++ outs = m1 ++ outs
            rw [hm1]
          · intro c hc
            rw [postN]
            exact hown1 c hc
          · show s1.outs ++ outs = s.outs ++ outsAllN (.mk ins outs bs)
            rw [houts1, outsAllN, List.append_assoc]
      · cases h
  theorem ownGs : ∀ (gs : List GraphT) (s : CSt) (P : List VId) (m' : List VId),
      cloneGs s.m gs = .ok m' → OwnPre s P (postGs gs) (insInitsGs gs) (outsAllGs gs) →
      ∃ s', cloneGsO s gs = .ok s' ∧ OwnPost s s' m' P (postGs gs) (outsAllGs gs)
    | [] => by
      have := Own.nil
      simpa only [Own, cloneGs, cloneGsO, postGs, insInitsGs, outsAllGs] using this
    | g :: gs => by
      have := Own.seq (a := (cloneG · g)) (aO := (cloneGO · g)) (b := (cloneGs · gs)) (bO := (cloneGsO · gs))
        (ownG g) (ownGs gs)
      simp only [cloneGs, cloneGsO, postGs, insInitsGs, outsAllGs]
      exact this
end

/-- the ownership checks pass on a tree cloned with a fresh value map -/
theorem cloneGO_of_static {t : GraphT} {m' : List VId} (hs : ownStaticB t = true)
    (h : cloneG [] t = .ok m') : ∃ s, cloneGO {} t = .ok s := by
  unfold ownStaticB at hs
  rw [Bool.and_eq_true] at hs
  have hpre : OwnPre {} [] (postG t) (insInitsG t) (outsAllG t) := by
    refine ⟨?_, ?_, disjFam_of_B hs.1, ?_⟩
    · intro c hc; cases hc
    · intro L _ v _ hP; cases hP
    · intro v hv
      have := List.all_eq_true.mp hs.2 v hv
      exact ⟨fun ho => (by cases ho), (by simpa using this)⟩
  obtain ⟨s, hs', _⟩ := ownG t {} [] m' h hpre
  exact ⟨s, hs'⟩

end IrVerif.Extract
