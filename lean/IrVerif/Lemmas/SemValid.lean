/-
Lemmas/SemValid.lean — the modelled passes preserve the validity predicate `validModel` (SSA, closed,
topologically ordered, scoped), so that a chain of them needs no assumption about the intermediate models
(`C05_compose_valid`).  SSA, closed and scoped are carried together (Lemmas/NestKeeps.lean); that a pass binds nothing
new, and orderedness (`noFwdG`) of the deleting / substituting passes, are C14's.
-/
import IrVerif.Lemmas.NestKeeps
import IrVerif.Lemmas.SemLift
import IrVerif.Lemmas.SemLsi
import IrVerif.Lemmas.SemDce
import IrVerif.Lemmas.PassFlagsOrderedDelete
import IrVerif.Lemmas.PassFlagsOrderedSubst
import IrVerif.Lemmas.SemDedup
namespace IrVerif.Passes
open IrVerif.Sem IrVerif.PassFlags

mutual
theorem scopedG_mono : ∀ (g : Graph) (D D' : List VId), (∀ v ∈ D, v ∈ D') → scopedG D g = true → scopedG D' g = true
  | .mk inputs outputs inits nodes, D, D', h, hs => by
    simp only [scopedG] at hs ⊢
    exact scopedNodes_mono nodes _ _ (maps_append (maps_append h fun _ hv => hv) fun _ hv => hv) hs
theorem scopedNodes_mono : ∀ (ns : List Node) (D D' : List VId), (∀ v ∈ D, v ∈ D') → scopedNodes D ns = true →
    scopedNodes D' ns = true
  | [], _, _, _, _ => by simp [scopedNodes]
  | n :: ns, D, D', h, hs => by
    simp only [scopedNodes, Bool.and_eq_true, List.all_eq_true, List.contains_eq_mem, decide_eq_true_eq] at hs ⊢
    exact ⟨⟨fun v hv => h v (hs.1.1 v hv), scopedN_mono n D D' h hs.1.2⟩,
      scopedNodes_mono ns _ _ (maps_append h fun _ hv => hv) hs.2⟩
theorem scopedN_mono : ∀ (n : Node) (D D' : List VId), (∀ v ∈ D, v ∈ D') → scopedN D n = true → scopedN D' n = true
  | .mk _ _ _ _ bodies, D, D', h, hs => by
    simp only [scopedN] at hs ⊢
    exact scopedBodies_mono bodies D D' h hs
theorem scopedBodies_mono : ∀ (bs : List Graph) (D D' : List VId), (∀ v ∈ D, v ∈ D') → scopedBodies D bs = true →
    scopedBodies D' bs = true
  | [], _, _, _, _ => by simp [scopedBodies]
  | b :: bs, D, D', h, hs => by
    rw [scopedBodies_cons_iff] at hs ⊢
    exact ⟨scopedG_mono b D D' h hs.1, scopedBodies_mono bs D D' h hs.2⟩
end

/-! ## RemoveInitializersFromInputs / AddInitializersToInputs -/

def InputsOK (f : List VId → List VId → List VId) : Prop :=
  ∀ inputs ids : List VId, inputs.Nodup → ids.Nodup →
    (f inputs ids).Nodup ∧ ∀ v, (v ∈ f inputs ids ∨ v ∈ ids) ↔ (v ∈ inputs ∨ v ∈ ids)

theorem inputsOK_remove : InputsOK removeInitsFromInputs := by
  intro inputs ids hi _
  refine ⟨hi.filter _, fun v => ?_⟩
  simp only [removeInitsFromInputs, List.mem_filter, Bool.not_eq_true', List.contains_eq_mem, decide_eq_false_iff_not]
  constructor
  · rintro (⟨h, _⟩ | h)
    · exact Or.inl h
    · exact Or.inr h
  · rintro (h | h)
    · by_cases hv : v ∈ ids
      · exact Or.inr hv
      · exact Or.inl ⟨h, hv⟩
    · exact Or.inr h

theorem inputsOK_add : InputsOK addInitsToInputs := by
  intro inputs ids hi hd
  refine ⟨?_, fun v => ?_⟩
  · simp only [addInitsToInputs]
    refine List.nodup_append.2 ⟨hi, hd.filter _, ?_⟩
    intro a ha b hb hab
    subst hab
    simp only [List.mem_filter, Bool.not_eq_true', List.contains_eq_mem, decide_eq_false_iff_not] at hb
    exact hb.2 ha
  · simp only [addInitsToInputs, List.mem_append, List.mem_filter]
    constructor
    · rintro ((h | ⟨h, _⟩) | h)
      · exact Or.inl h
      · exact Or.inr h
      · exact Or.inr h
    · rintro (h | h)
      · exact Or.inl (Or.inl h)
      · exact Or.inr h

theorem mapInputsTop_valid (f : List VId → List VId → List VId) (hf : InputsOK f) :
    ∀ g : Graph, validG g = true → validG (mapInputsTop f g) = true
  | .mk inputs outputs inits nodes, hv => by
    rw [validG_iff] at hv ⊢
    obtain ⟨hs, hc, hn, hsc⟩ := hv
    rw [ssaG_iff] at hs
    rw [closedG_iff] at hc
    obtain ⟨h1, h2⟩ := hf inputs (inits.map Prod.fst) hs.1.1.1 hs.1.1.2
    have hmem : ∀ v, v ∈ f inputs (inits.map Prod.fst) ++ inits.map Prod.fst ↔ v ∈ inputs ++ inits.map Prod.fst := by
      intro v; simp only [List.mem_append]; exact h2 v
    simp only [mapInputsTop]
    refine ⟨?_, ?_, hn, ?_⟩
    · rw [ssaG_iff]
      exact ⟨⟨⟨h1, hs.1.1.2⟩, fun x hx => hs.1.2 x ((hmem x).1 hx)⟩, hs.2⟩
    · rw [closedG_iff]
      refine ⟨fun v hv => ?_, hc.2⟩
      have := hc.1 v hv
      rw [List.mem_append] at this ⊢
      exact this.imp (hmem v).2 id
    · simp only [scopedG] at hsc ⊢
      refine scopedNodes_mono nodes _ _ (fun v hv => ?_) hsc
      simp only [List.nil_append] at hv ⊢
      exact (hmem v).2 hv

/-! ## LiftConstantsToInitializers -/

theorem lift_valid (la : Bool) (lim : Nat) :
    let Ns := fun (_ : List VId) ns (r : List Node × List (VId × Tensor)) => ∀ D D' : List VId,
      ssaNodes ns = true → closedNodes ns = true → scopedNodes D ns = true → (∀ v ∈ D, v ∈ D') →
      (∀ y ∈ r.2.map Prod.fst, y ∈ D') →
      ssaNodes r.1 = true ∧ closedNodes r.1 = true ∧ scopedNodes D' r.1 = true ∧
      (∀ y ∈ r.2.map Prod.fst, y ∉ defsNodes r.1) ∧ (∀ v ∈ outsTop ns, v ∈ outsTop r.1 ∨ v ∈ r.2.map Prod.fst)
    (∀ g, KeepsG id g (liftG la lim g)) ∧ (∀ gouts ns, Ns gouts ns (liftNodes la lim gouts ns)) ∧
      ∀ bs, KeepsBodies id bs (liftBodies la lim bs) := by
  intro Ns
  refine liftG.mutual_induct_unfolding la lim (KeepsG id) Ns (KeepsBodies id) ?_ ?_ ?_ ?_ ?_ ?_
  · intro inputs outputs inits nodes ih D D' hs hc hsc hD
    rw [ssaG_iff] at hs
    rw [closedG_iff] at hc
    simp only [scopedG] at hsc
    obtain ⟨k1, k2, k3, k4, k5⟩ := ih (D ++ inputs ++ inits.map Prod.fst)
      (D' ++ inputs ++ (inits ++ (liftNodes la lim outputs nodes).2).map Prod.fst) hs.2 hc.2 hsc
      (fun v hv => by
        simp only [List.mem_append, List.map_append] at hv ⊢
        rcases hv with (hv | hv) | hv
        · exact Or.inl (Or.inl (hD v hv))
        · exact Or.inl (Or.inr hv)
        · exact Or.inr (Or.inl hv))
      (fun y hy => by simp only [List.mem_append, List.map_append]; exact Or.inr (Or.inr hy))
    have hL := liftNodes_ids_sublist la lim outputs nodes
    obtain ⟨a, b⟩ := ssaG_closedG_append_inits (ssaG_iff.2 hs) (closedG_iff.2 hc) (hL.nodup (outsTop_nodup nodes hs.2))
      (fun v hv => ⟨outsTop_sub_defsNodes nodes (hL.subset hv), k4 v hv⟩) (liftNodes_shrink la lim outputs nodes).1.defs
      k5 k1 k2
    exact ⟨a, b, k3⟩
  · intro gouts D D' _ _ _ _ _
    simp [ssaNodes, closedNodes, scopedNodes, outsTop]
  · intro gouts op attrs ins outs bodies ns p hcand ih D D' hs hc hsc hD hL
    rw [ssaNodes_cons_iff] at hs
    rw [closedNodes_cons_iff] at hc
    rw [scopedNodes_cons_iff] at hsc
    have hsubn := (liftNodes_shrink la lim gouts ns).1.defs
    have ho := liftCandidate_out hcand
    simp only [List.map_cons, List.mem_cons] at hL ⊢
    obtain ⟨k1, k2, k3, k4, k5⟩ := ih (D ++ outs) D' hs.2 hc.2 hsc.2
      (fun v hv => by
        rcases List.mem_append.1 hv with hv | hv
        · exact hD v hv
        · rw [ho, List.mem_singleton] at hv
          exact hL v (Or.inl hv))
      (fun y hy => hL y (Or.inr hy))
    refine ⟨k1, k2, k3, ?_, ?_⟩
    · rintro y (hy | hy) hy'
      · subst hy
        exact hs.1.2 p.1 (by simp [defsN, ho]) (hsubn _ hy')
      · exact k4 y hy hy'
    · intro v hv
      simp only [outsTop, Node.outs, List.mem_append] at hv
      rcases hv with hv | hv
      · rw [ho, List.mem_singleton] at hv
        exact Or.inr (Or.inl hv)
      · exact (k5 v hv).imp id Or.inr
  · intro gouts op attrs ins outs bodies ns hcand ihb ih D D' hs hc hsc hD hL
    rw [ssaNodes_cons_iff] at hs
    rw [closedNodes_cons_iff] at hc
    rw [scopedNodes_cons_iff] at hsc
    have hsubn := (liftNodes_shrink la lim gouts ns).1.defs
    have hLn := (liftNodes_shrink la lim gouts ns).2
    obtain ⟨b1, b2, b3⟩ := ihb D D' hs.1.1.2 hc.1 hsc.1.2 hD
    obtain ⟨bd, _, _⟩ := liftBodies_shrink la lim bodies
    obtain ⟨k1, k2, k3, k4, k5⟩ := ih (D ++ outs) (D' ++ outs) hs.2 hc.2 hsc.2
      (maps_append hD fun _ hv => hv)
      (fun y hy => List.mem_append_left _ (hL y hy))
    obtain ⟨a1, a2, a3⟩ := validNodes_keep (f := id) (ssaNodes_cons_iff.2 hs) (scopedNodes_cons_iff.2 hsc) hD
      (fun w hw => ⟨w, hw, rfl⟩) bd hsubn b1 b2 b3 k1 k2 k3
    refine ⟨a1, a2, a3, ?_, ?_⟩
    · intro y hy hy'
      rcases mem_defsNodes_cons.1 hy' with hy' | hy'
      · exact hs.1.2 y (defsN_sub_of_bodies bd y hy') (hLn y hy)
      · exact k4 y hy hy'
    · intro v hv
      simp only [outsTop, Node.outs, List.mem_append] at hv ⊢
      rcases hv with hv | hv
      · exact Or.inl (Or.inl hv)
      · exact (k5 v hv).imp Or.inr id
  · exact KeepsBodies.nil id
  · intro b bs ihg ihb
    exact .cons (liftG_shrink la lim b).1 (liftBodies_shrink la lim bs).1 ihg ihb

theorem liftNodes_valid (la : Bool) (lim : Nat) (gouts : List VId) : ∀ (ns : List Node) (D D' : List VId),
    ssaNodes ns = true → closedNodes ns = true → scopedNodes D ns = true → (∀ v ∈ D, v ∈ D') →
    (∀ y ∈ (liftNodes la lim gouts ns).2.map Prod.fst, y ∈ D') →
    ssaNodes (liftNodes la lim gouts ns).1 = true ∧ closedNodes (liftNodes la lim gouts ns).1 = true ∧
    scopedNodes D' (liftNodes la lim gouts ns).1 = true ∧
    (∀ y ∈ (liftNodes la lim gouts ns).2.map Prod.fst, y ∉ defsNodes (liftNodes la lim gouts ns).1) ∧
    (∀ v ∈ outsTop ns, v ∈ outsTop (liftNodes la lim gouts ns).1 ∨ v ∈ (liftNodes la lim gouts ns).2.map Prod.fst) :=
  (lift_valid la lim).2.1 gouts

theorem liftBodies_valid (la : Bool) (lim : Nat) : ∀ (bs : List Graph) (D D' : List VId), ssaBodies bs = true →
    closedBodies bs = true → scopedBodies D bs = true → (∀ v ∈ D, v ∈ D') →
    ssaBodies (liftBodies la lim bs) = true ∧ closedBodies (liftBodies la lim bs) = true ∧
    scopedBodies D' (liftBodies la lim bs) = true :=
  (lift_valid la lim).2.2

/-! ## LiftSubgraphInitializersToMainGraph -/

theorem lsiNodes_outsTop : ∀ ns : List Node, outsTop (lsiNodes ns).1 = outsTop ns
  | [] => by simp [lsiNodes]
  | .mk op attrs ins outs bodies :: ns => by simp only [lsiNodes, outsTop, Node.outs, lsiNodes_outsTop ns]

/-- `r.2`: the initializers moved out of the nest, to be bound outside (in `D'`) -/
theorem lsi_valid :
    let G := fun g (r : Graph × List (VId × Tensor)) => ∀ D D' : List VId, ssaG g = true → closedG g = true →
      scopedG D g = true → (∀ v ∈ D, v ∈ D') → (∀ y ∈ r.2.map Prod.fst, y ∈ D') →
      ssaG r.1 = true ∧ closedG r.1 = true ∧ scopedG D' r.1 = true ∧ ∀ y ∈ r.2.map Prod.fst, y ∉ defsG r.1
    let Ns := fun ns (r : List Node × List (VId × Tensor)) => ∀ D D' : List VId, ssaNodes ns = true →
      closedNodes ns = true → scopedNodes D ns = true → (∀ v ∈ D, v ∈ D') → (∀ y ∈ r.2.map Prod.fst, y ∈ D') →
      ssaNodes r.1 = true ∧ closedNodes r.1 = true ∧ scopedNodes D' r.1 = true ∧ ∀ y ∈ r.2.map Prod.fst, y ∉ defsNodes r.1
    let Bs := fun bs (r : List Graph × List (VId × Tensor)) => ∀ D D' : List VId, ssaBodies bs = true →
      closedBodies bs = true → scopedBodies D bs = true → (∀ v ∈ D, v ∈ D') → (∀ y ∈ r.2.map Prod.fst, y ∈ D') →
      ssaBodies r.1 = true ∧ closedBodies r.1 = true ∧ scopedBodies D' r.1 = true ∧
      ∀ y ∈ r.2.map Prod.fst, y ∉ defsBodies r.1
    (∀ g, G g (lsiG g)) ∧ (∀ ns, Ns ns (lsiNodes ns)) ∧ ∀ bs, Bs bs (lsiBodies bs) := by
  intro G Ns Bs
  refine lsiG.mutual_induct_unfolding G Ns Bs ?_ ?_ ?_ ?_ ?_
  · intro inputs outputs inits nodes ih D D' hs hc hsc hD hM
    rw [ssaG_iff] at hs
    rw [closedG_iff] at hc
    simp only [scopedG] at hsc
    simp only [List.map_append, List.mem_append] at hM
    have hsub := (lsiNodes_shrink nodes).defs
    have hin := (lsi_ids.2.1 nodes hs.2).2
    have hkept : ∀ v ∈ (inits.filter (fun p => inputs.contains p.1 || outputs.contains p.1)).map Prod.fst,
        v ∈ inits.map Prod.fst := fun v hv => (List.filter_sublist.map Prod.fst).subset hv
    have hmoved : ∀ v ∈ (inits.filter (fun p => !(inputs.contains p.1 || outputs.contains p.1))).map Prod.fst,
        v ∈ inits.map Prod.fst ∧ v ∉ inputs ∧ v ∉ outputs := by
      intro v hv
      obtain ⟨p, hp, e⟩ := List.mem_map.1 hv
      have h2 := (List.mem_filter.1 hp).2
      simp only [Bool.not_eq_true', Bool.or_eq_false_iff, List.contains_eq_mem, decide_eq_false_iff_not] at h2
      exact ⟨List.mem_map.2 ⟨p, (List.mem_filter.1 hp).1, e⟩, e ▸ h2.1, e ▸ h2.2⟩
    have hmk : ∀ v ∈ (inits.filter (fun p => !(inputs.contains p.1 || outputs.contains p.1))).map Prod.fst,
        v ∉ (inits.filter (fun p => inputs.contains p.1 || outputs.contains p.1)).map Prod.fst := by
      intro v hv
      obtain ⟨p, hp, e⟩ := List.mem_map.1 hv
      exact e ▸ not_mem_map_fst_filter hs.1.1.2 (List.mem_filter.1 hp).1 (by simpa using (List.mem_filter.1 hp).2)
    obtain ⟨k1, k2, k3, k5⟩ := ih (D ++ inputs ++ inits.map Prod.fst)
      (D' ++ inputs ++ (inits.filter (fun p => inputs.contains p.1 || outputs.contains p.1)).map Prod.fst)
      hs.2 hc.2 hsc
      (fun v hv => by
        simp only [List.mem_append] at hv ⊢
        rcases hv with (hv | hv) | hv
        · exact Or.inl (Or.inl (hD v hv))
        · exact Or.inl (Or.inr hv)
        · exact (mem_map_fst_filter_or _ hv).symm.imp (fun h => Or.inl (hM v (Or.inl h))) id)
      (fun y hy => by
        simp only [List.mem_append]
        exact Or.inl (Or.inl (hM y (Or.inr hy))))
    refine and_assoc.1 ⟨ssaG_closedG_sub_inits (ssaG_iff.2 hs) (closedG_iff.2 hc) (List.filter_sublist.map Prod.fst)
      (fun v hv h => by
        obtain ⟨p, hp, e⟩ := List.mem_map.1 h
        refine List.mem_map.2 ⟨p, List.mem_filter.2 ⟨hp, ?_⟩, e⟩
        simp only [Bool.or_eq_true, List.contains_eq_mem, decide_eq_true_eq]
        exact Or.inr (e ▸ hv))
      hsub (fun v _ h => lsiNodes_outsTop nodes ▸ h) k1 k2, ?_, ?_⟩
    · simp only [scopedG]; exact k3
    · intro y hy
      simp only [List.map_append, List.mem_append] at hy
      simp only [defsG, List.mem_append, not_or]
      rcases hy with hy | hy
      · exact ⟨⟨(hmoved y hy).2.1, hmk y hy⟩, fun h => hs.1.2 y (List.mem_append_right _ (hmoved y hy).1) (hsub y h)⟩
      · exact ⟨⟨fun h => hs.1.2 y (List.mem_append_left _ h) (hin y hy),
          fun h => hs.1.2 y (List.mem_append_right _ (hkept y h)) (hin y hy)⟩, k5 y hy⟩
  · intro D D' _ _ _ _ _
    simp [ssaNodes, closedNodes, scopedNodes]
  · intro op attrs ins outs bodies ns ihb ih D D' hs hc hsc hD hM
    have hs' := hs
    rw [ssaNodes_cons_iff] at hs
    rw [closedNodes_cons_iff] at hc
    rw [scopedNodes_cons_iff] at hsc
    simp only [List.map_append, List.mem_append] at hM
    have hsubn := (lsiNodes_shrink ns).defs
    have hinb := (lsi_ids.2.2 bodies hs.1.1.2).2
    have hinn := (lsi_ids.2.1 ns hs.2).2
    obtain ⟨bd, _, _⟩ := lsiBodies_shrink bodies
    obtain ⟨b1, b2, b3, b5⟩ := ihb D D' hs.1.1.2 hc.1 hsc.1.2 hD (fun y hy => hM y (Or.inl hy))
    obtain ⟨k1, k2, k3, k5⟩ := ih (D ++ outs) (D' ++ outs) hs.2 hc.2 hsc.2
      (maps_append hD fun _ hv => hv)
      (fun y hy => List.mem_append_left _ (hM y (Or.inr hy)))
    obtain ⟨a1, a2, a3⟩ := validNodes_keep (f := id) hs' (scopedNodes_cons_iff.2 hsc) hD (fun w hw => ⟨w, hw, rfl⟩) bd hsubn
      b1 b2 b3 k1 k2 k3
    refine ⟨a1, a2, a3, fun y hy => ?_⟩
    simp only [List.map_append, List.mem_append] at hy
    simp only [defsNodes, defsN, List.mem_append, not_or]
    rcases hy with hy | hy
    · exact ⟨⟨fun h => hs.1.1.1.2 y h (hinb y hy), b5 y hy⟩,
        fun h => hs.1.2 y (mem_defsN.2 (Or.inr (hinb y hy))) (hsubn y h)⟩
    · exact ⟨⟨fun h => hs.1.2 y (mem_defsN.2 (Or.inl h)) (hinn y hy),
        fun h => hs.1.2 y (mem_defsN.2 (Or.inr (bd y h))) (hinn y hy)⟩, k5 y hy⟩
  · intro D D' _ _ _ _ _
    simp [ssaBodies, closedBodies, scopedBodies]
  · intro b bs ihg ihb D D' hs hc hsc hD hM
    rw [ssaBodies_cons_iff] at hs
    rw [closedBodies_cons_iff] at hc
    rw [scopedBodies_cons_iff] at hsc
    simp only [List.map_append, List.mem_append] at hM
    obtain ⟨g1, g2, g3, g5⟩ := ihg D D' hs.1.1 hc.1 hsc.1 hD (fun y hy => hM y (Or.inl hy))
    obtain ⟨k1, k2, k3, k5⟩ := ihb D D' hs.2 hc.2 hsc.2 hD (fun y hy => hM y (Or.inr hy))
    have gd := (lsiG_shrink b).1
    have bd := (lsiBodies_shrink bs).1
    obtain ⟨a1, a2, a3⟩ := validBodies_cons (ssaBodies_cons_iff.2 hs) gd bd g1 g2 g3 k1 k2 k3
    refine ⟨a1, a2, a3, fun y hy => ?_⟩
    simp only [List.map_append, List.mem_append] at hy
    simp only [defsBodies, List.mem_append, not_or]
    rcases hy with hy | hy
    · exact ⟨g5 y hy, fun h => hs.1.2 y ((lsi_ids.1 b hs.1.1).2 y hy) (bd y h)⟩
    · exact ⟨fun h => hs.1.2 y (gd y h) ((lsi_ids.2.2 bs hs.2).2 y hy), k5 y hy⟩

theorem lsiNodes_valid : ∀ (ns : List Node) (D D' : List VId), ssaNodes ns = true → closedNodes ns = true →
    scopedNodes D ns = true → (∀ v ∈ D, v ∈ D') → (∀ y ∈ (lsiNodes ns).2.map Prod.fst, y ∈ D') →
    ssaNodes (lsiNodes ns).1 = true ∧ closedNodes (lsiNodes ns).1 = true ∧ scopedNodes D' (lsiNodes ns).1 = true ∧
    ((lsiNodes ns).2.map Prod.fst).Nodup ∧
    (∀ y ∈ (lsiNodes ns).2.map Prod.fst, y ∈ defsNodes ns ∧ y ∉ defsNodes (lsiNodes ns).1) ∧
    outsTop (lsiNodes ns).1 = outsTop ns :=
  fun ns D D' hs hc hsc hD hM =>
    have k := lsi_valid.2.1 ns D D' hs hc hsc hD hM
    have i := lsi_ids.2.1 ns hs
    ⟨k.1, k.2.1, k.2.2.1, i.1, fun y hy => ⟨i.2 y hy, k.2.2.2 y hy⟩, lsiNodes_outsTop ns⟩

theorem lsiBodies_valid : ∀ (bs : List Graph) (D D' : List VId), ssaBodies bs = true → closedBodies bs = true →
    scopedBodies D bs = true → (∀ v ∈ D, v ∈ D') → (∀ y ∈ (lsiBodies bs).2.map Prod.fst, y ∈ D') →
    ssaBodies (lsiBodies bs).1 = true ∧ closedBodies (lsiBodies bs).1 = true ∧ scopedBodies D' (lsiBodies bs).1 = true ∧
    ((lsiBodies bs).2.map Prod.fst).Nodup ∧
    (∀ y ∈ (lsiBodies bs).2.map Prod.fst, y ∈ defsBodies bs ∧ y ∉ defsBodies (lsiBodies bs).1) :=
  fun bs D D' hs hc hsc hD hM =>
    have k := lsi_valid.2.2 bs D D' hs hc hsc hD hM
    have i := lsi_ids.2.2 bs hs
    ⟨k.1, k.2.1, k.2.2.1, i.1, fun y hy => ⟨i.2 y hy, k.2.2.2 y hy⟩⟩

theorem lsiMain_validG (inputs outputs : List VId) (inits : List (VId × Tensor)) (nodes : List Node)
    (hv : validG (.mk inputs outputs inits nodes) = true) :
    validG (.mk inputs outputs (inits ++ (lsiNodes nodes).2) (lsiNodes nodes).1) = true := by
  rw [validG_iff] at hv ⊢
  obtain ⟨hs, hc, hn, hsc⟩ := hv
  rw [ssaG_iff] at hs
  rw [closedG_iff] at hc
  simp only [scopedG] at hsc
  simp only [noFwdG] at hn
  have hsub := (lsiNodes_shrink nodes).defs
  obtain ⟨k1, k2, k3, k4, k5, k6⟩ := lsiNodes_valid nodes ([] ++ inputs ++ inits.map Prod.fst)
    ([] ++ inputs ++ (inits ++ (lsiNodes nodes).2).map Prod.fst) hs.2 hc.2 hsc
    (fun v hv => by
      simp only [List.nil_append, List.map_append, List.mem_append] at hv ⊢
      exact hv.imp id Or.inl)
    (fun y hy => by simp only [List.nil_append, List.map_append, List.mem_append]; exact Or.inr (Or.inr hy))
  obtain ⟨a, b⟩ := ssaG_closedG_append_inits (ssaG_iff.2 hs) (closedG_iff.2 hc) k4 k5 hsub
    (fun v h => Or.inl (k6 ▸ h)) k1 k2
  exact ⟨a, b, (lsiNodes_shrink nodes).noFwd hn, k3⟩

/-! ## RemoveUnusedNodes -/

mutual
theorem scopedG_strengthen : ∀ (g : Graph) (D' D X : List VId), scopedG D' g = true → (∀ v ∈ D', v ∈ D ∨ v ∈ X) →
    (∀ v ∈ usesG g, v ∉ X) → scopedG D g = true
  | .mk inputs outputs inits nodes, D', D, X, hs, hD, hu => by
    simp only [scopedG] at hs ⊢
    simp only [usesG] at hu
    refine scopedNodes_strengthen nodes _ _ X hs (fun v hv => ?_) hu
    simp only [List.mem_append] at hv ⊢
    rcases hv with (hv | hv) | hv
    · exact (hD v hv).imp (fun h => Or.inl (Or.inl h)) id
    · exact Or.inl (Or.inl (Or.inr hv))
    · exact Or.inl (Or.inr hv)
theorem scopedNodes_strengthen : ∀ (ns : List Node) (D' D X : List VId), scopedNodes D' ns = true →
    (∀ v ∈ D', v ∈ D ∨ v ∈ X) → (∀ v ∈ usesNodes ns, v ∉ X) → scopedNodes D ns = true
  | [], _, _, _, _, _, _ => by simp [scopedNodes]
  | .mk op attrs ins outs bodies :: ns, D', D, X, hs, hD, hu => by
    rw [scopedNodes_cons_iff] at hs ⊢
    simp only [usesNodes, usesN, List.mem_append] at hu
    refine ⟨⟨fun v hv => ?_, scopedBodies_strengthen bodies D' D X hs.1.2 hD (fun v hv => hu v (Or.inl (Or.inr hv)))⟩,
      scopedNodes_strengthen ns _ _ X hs.2 (fun v hv => ?_) (fun v hv => hu v (Or.inr hv))⟩
    · rcases hD v (hs.1.1 v hv) with h | h
      · exact h
      · exact absurd h (hu v (Or.inl (Or.inl hv)))
    · simp only [List.mem_append] at hv ⊢
      rcases hv with hv | hv
      · exact (hD v hv).imp Or.inl id
      · exact Or.inl (Or.inr hv)
theorem scopedBodies_strengthen : ∀ (bs : List Graph) (D' D X : List VId), scopedBodies D' bs = true →
    (∀ v ∈ D', v ∈ D ∨ v ∈ X) → (∀ v ∈ usesBodies bs, v ∉ X) → scopedBodies D bs = true
  | [], _, _, _, _, _, _ => by simp [scopedBodies]
  | b :: bs, D', D, X, hs, hD, hu => by
    rw [scopedBodies_cons_iff] at hs ⊢
    simp only [usesBodies, List.mem_append] at hu
    exact ⟨scopedG_strengthen b D' D X hs.1 hD (fun v hv => hu v (Or.inl hv)),
      scopedBodies_strengthen bs D' D X hs.2 hD (fun v hv => hu v (Or.inr hv))⟩
end

theorem dceNodes_keeps_gouts (gouts pre : List VId) (ns : List Node) {v : VId} (hv : v ∈ gouts) (ho : v ∈ outsTop ns) :
    v ∈ outsTop (dceNodes gouts pre ns).1 :=
  (dce_syn.2.1 gouts pre ns).2.2.2 v ho
    (List.mem_append_left _ (List.mem_append_left _ (List.mem_append_left _ hv)))

theorem dce_valid :
    (∀ g, KeepsG id g (dceG g).1) ∧ (∀ gouts pre ns, KeepsNodes id ns (dceNodes gouts pre ns).1) ∧
      ∀ bs, KeepsBodies id bs (dceBodies bs).1 := by
  refine dceG.mutual_induct_unfolding (fun g r => KeepsG id g r.1) (fun _ _ ns r => KeepsNodes id ns r.1)
    (fun bs r => KeepsBodies id bs r.1) ?_ ?_ ?_ ?_ ?_ ?_
  · intro inputs outputs inits nodes ih D D' hs hc hsc hD
    rw [ssaG_iff] at hs
    rw [closedG_iff] at hc
    simp only [scopedG] at hsc
    obtain ⟨k1, k2, k3⟩ := ih _ (D' ++ inputs ++ inits.map Prod.fst) hs.2 hc.2 hsc
      (maps_append (maps_append hD fun _ hv => hv) fun _ hv => hv)
    obtain ⟨a1, a2⟩ := ssaG_closedG_sub_inits (ssaG_iff.2 hs) (closedG_iff.2 hc) (List.Sublist.refl _) (fun _ _ h => h)
      (dceNodes_shrink outputs [] nodes).defs (fun v hv => dceNodes_keeps_gouts outputs [] nodes hv) k1 k2
    exact ⟨a1, a2, k3⟩
  · intro _ _
    exact KeepsNodes.nil id
  · -- a node that goes: nothing that stays reads its outputs
    intro gouts pre op attrs ins outs bodies ns r hrem ih D D' hs hc hsc hD
    simp only [dceRemovable, List.all_eq_true, Bool.not_eq_true', List.contains_eq_mem, decide_eq_false_iff_not,
      List.mem_append, not_or] at hrem
    rw [ssaNodes_cons_iff] at hs
    rw [closedNodes_cons_iff] at hc
    rw [scopedNodes_cons_iff] at hsc
    obtain ⟨k1, k2, k3⟩ := ih (D ++ outs) (D' ++ outs) hs.2 hc.2 hsc.2 (maps_append hD fun _ hv => hv)
    exact ⟨k1, k2, scopedNodes_strengthen _ (D' ++ outs) D' outs k3 (fun v hv => List.mem_append.1 hv)
      (fun v hv hv' => (hrem v hv').1.2 hv)⟩
  · intro gouts pre op attrs ins outs bodies ns r _ ih ihb
    exact .keep (fun w hw => ⟨w, filterMap_trim hw, rfl⟩) (fun _ _ => rfl) (dceBodies_shrink bodies).1
      (dceNodes_shrink gouts _ ns).defs ihb ih
  · exact KeepsBodies.nil id
  · intro b bs ihg ihb
    exact .cons (dceG_shrink b).1 (dceBodies_shrink bs).1 ihg ihb

theorem dceNodes_valid (gouts : List VId) : ∀ (ns : List Node) (pre D : List VId), ssaNodes ns = true →
    closedNodes ns = true → scopedNodes D ns = true →
    ssaNodes (dceNodes gouts pre ns).1 = true ∧ closedNodes (dceNodes gouts pre ns).1 = true ∧
    scopedNodes D (dceNodes gouts pre ns).1 = true ∧
    (∀ v ∈ gouts, v ∈ outsTop ns → v ∈ outsTop (dceNodes gouts pre ns).1) :=
  fun ns pre D hs hc hsc =>
    have r := dce_valid.2.1 gouts pre ns D D hs hc hsc (fun _ h => h)
    ⟨r.1, r.2.1, r.2.2, fun _ hv ho => dceNodes_keeps_gouts gouts pre ns hv ho⟩

theorem dceBodies_valid : ∀ (bs : List Graph) (D : List VId), ssaBodies bs = true → closedBodies bs = true →
    scopedBodies D bs = true →
    ssaBodies (dceBodies bs).1 = true ∧ closedBodies (dceBodies bs).1 = true ∧ scopedBodies D (dceBodies bs).1 = true :=
  fun bs D hs hc hsc => dce_valid.2.2 bs D D hs hc hsc (fun _ h => h)

theorem dceG_validG (g : Graph) (hv : validG g = true) : validG (dceG g).1 = true := by
  rw [validG_iff] at hv ⊢
  obtain ⟨k1, k2, k3⟩ := dce_valid.1 g [] [] hv.1 hv.2.1 hv.2.2.2 (fun _ h => h)
  exact ⟨k1, k2, (dceG_shrink g).2.2 hv.2.2.1, k3⟩

theorem dceModel_graph_valid (g : Graph) (hv : validG g = true) :
    validG (.mk (dceG g).1.inputs (dceG g).1.outputs
      ((dceG g).1.inits.filter (fun p => (usesG (dceG g).1 ++ (dceG g).2).contains p.1 || (dceG g).1.outputs.contains p.1 ||
        (dceG g).1.inputs.contains p.1)) (dceG g).1.nodes) = true := by
  have h1 := dceG_validG g hv
  cases hg : (dceG g).1 with
  | mk inputs outputs inits nodes =>
    rw [hg] at h1
    rw [validG_iff] at h1 ⊢
    obtain ⟨hs, hc, hn, hsc⟩ := h1
    rw [ssaG_iff] at hs
    rw [closedG_iff] at hc
    simp only [scopedG] at hsc
    simp only [Graph.inputs, Graph.outputs, Graph.inits, Graph.nodes]
    refine and_assoc.1 ⟨ssaG_closedG_sub_inits (ssaG_iff.2 hs) (closedG_iff.2 hc) (List.filter_sublist.map Prod.fst)
      (fun v hv h => by
        obtain ⟨p, hp, e⟩ := List.mem_map.1 h
        refine List.mem_map.2 ⟨p, List.mem_filter.2 ⟨hp, ?_⟩, e⟩
        simp only [Bool.or_eq_true, List.contains_eq_mem, decide_eq_true_eq]
        exact Or.inl (Or.inr (e ▸ hv)))
      (fun _ h => h) (fun _ _ h => h) hs.2 hc.2, hn, ?_⟩
    · simp only [scopedG]
      refine scopedNodes_strengthen nodes _ _
        ((inits.filter (fun p => !((usesG (Graph.mk inputs outputs inits nodes) ++ (dceG g).2).contains p.1 ||
          outputs.contains p.1 || inputs.contains p.1))).map Prod.fst) hsc (fun v hv => ?_) (fun v hv hv' => ?_)
      · simp only [List.nil_append, List.mem_append] at hv ⊢
        rcases hv with hv | hv
        · exact Or.inl (Or.inl hv)
        · exact (mem_map_fst_filter_or _ hv).imp (fun h => Or.inr h) id
      · obtain ⟨p, hp, e⟩ := List.mem_map.1 hv'
        have h2 := (List.mem_filter.1 hp).2
        simp only [Bool.not_eq_true', Bool.or_eq_false_iff, List.contains_eq_mem, decide_eq_false_iff_not,
          List.mem_append, not_or, usesG] at h2
        exact h2.1.1.1 (e ▸ hv)

/-! ## DeduplicateInitializers -/

theorem dedupNodes_outsTop (lim : Nat) (σ : Subst) : ∀ ns : List Node, outsTop (dedupNodes lim σ ns) = outsTop ns
  | [] => by simp [dedupNodes]
  | .mk op attrs ins outs bodies :: ns => by simp only [dedupNodes, outsTop, Node.outs, dedupNodes_outsTop lim σ ns]

theorem dedup_keeps (lim : Nat) :
    let G := fun σ g g' => (∀ p ∈ σ, p.1 ∉ defsG g) → KeepsG σ.app g g'
    let Ns := fun σ ns ns' => (∀ p ∈ σ, p.1 ∉ defsNodes ns) → KeepsNodes σ.app ns ns'
    let Bs := fun σ bs bs' => (∀ p ∈ σ, p.1 ∉ defsBodies bs) → KeepsBodies σ.app bs bs'
    (∀ σ g, G σ g (dedupG lim σ g)) ∧ (∀ σ ns, Ns σ ns (dedupNodes lim σ ns)) ∧
      ∀ σ bs, Bs σ bs (dedupBodies lim σ bs) := by
  intro G Ns Bs
  refine dedupG.mutual_induct_unfolding lim G Ns Bs ?_ ?_ ?_ ?_ ?_
  · intro σ inputs outputs inits nodes ih hσ D D' hs hc hsc hD
    rw [ssaG_iff] at hs
    rw [closedG_iff] at hc
    simp only [scopedG] at hsc
    simp only [defsG, List.mem_append, not_or] at hσ
    obtain ⟨hsub, hb, hcc, hio⟩ := dedupInits_top lim (inputs ++ outputs) inits
    have hpairs : ∀ p ∈ (dedupInits lim (inputs ++ outputs) [] inits).2, p.1 ∈ inits.map Prod.fst := fun p hp => by
      obtain ⟨_, t, _, h1, _⟩ := hb p hp
      exact List.mem_map.2 ⟨_, h1, rfl⟩
    have happ : ∀ v ∈ D ++ inputs ++ inits.map Prod.fst,
        Subst.app ((dedupInits lim (inputs ++ outputs) [] inits).2 ++ σ) v ∈
          D' ++ inputs ++ (dedupInits lim (inputs ++ outputs) [] inits).1.map Prod.fst := by
      intro v hv
      rw [Subst.app_append]
      cases hl : (dedupInits lim (inputs ++ outputs) [] inits).2.lookup v with
      | some k =>
        obtain ⟨_, t, tk, _, hk, _⟩ := hb _ (ListFacts.mem_of_lookup hl)
        simp only [List.mem_append]
        exact Or.inr (List.mem_map.2 ⟨(k, tk), hk, rfl⟩)
      | none =>
        simp only [List.mem_append] at hv ⊢
        rcases hv with (hv | hv) | hv
        · exact Or.inl (Or.inl (hD v hv))
        · rw [app_of_not_key (fun p hp h => (hσ p hp).1.1 (h ▸ hv))]
          exact Or.inl (Or.inr hv)
        · rw [app_of_not_key (fun p hp h => (hσ p hp).1.2 (h ▸ hv))]
          obtain ⟨q, hq, e⟩ := List.mem_map.1 hv
          exact Or.inr (List.mem_map.2 ⟨q, hcc q hq (e ▸ hl), e⟩)
    have k4 := IrVerif.PassFlags.dedupNodes_defs lim nodes ((dedupInits lim (inputs ++ outputs) [] inits).2 ++ σ)
    obtain ⟨k1, k2, k3⟩ := ih (fun p hp => by
      rcases List.mem_append.1 hp with hp | hp
      · exact fun h => hs.1.2 p.1 (List.mem_append_right _ (hpairs p hp)) h
      · exact (hσ p hp).2) _ _ hs.2 hc.2 hsc happ
    obtain ⟨a1, a2⟩ := ssaG_closedG_sub_inits (ssaG_iff.2 hs) (closedG_iff.2 hc) (hsub.map Prod.fst)
      (fun v hv h => by
        obtain ⟨q, hq, e⟩ := List.mem_map.1 h
        exact List.mem_map.2 ⟨q, hcc q hq (hio _ (List.mem_append_right _ (e ▸ hv))), e⟩)
      k4 (fun v _ h => dedupNodes_outsTop lim _ nodes ▸ h) k1 k2
    exact ⟨a1, a2, k3⟩
  · intro σ _
    exact KeepsNodes.nil _
  · intro σ op attrs ins outs bodies ns ihb ih hσ
    simp only [defsNodes, defsN, List.mem_append, not_or] at hσ
    exact KeepsNodes.keep (fun w hw => mem_substIns' hw)
      (fun v hv => app_of_not_key (fun p hp h => (hσ p hp).1.1 (h ▸ hv)))
      (IrVerif.PassFlags.dedupBodies_defs lim bodies σ) (IrVerif.PassFlags.dedupNodes_defs lim ns σ)
      (ihb (fun p hp => (hσ p hp).1.2)) (ih (fun p hp => (hσ p hp).2))
  · intro σ _
    exact KeepsBodies.nil _
  · intro σ b bs ihg ihb hσ
    simp only [defsBodies, List.mem_append, not_or] at hσ
    exact KeepsBodies.cons (IrVerif.PassFlags.dedupG_defs lim b σ) (IrVerif.PassFlags.dedupBodies_defs lim bs σ)
      (ihg (fun p hp => (hσ p hp).1)) (ihb (fun p hp => (hσ p hp).2))

theorem dedupNodes_valid (lim : Nat) : ∀ (ns : List Node) (σ : Subst) (D D' : List VId), ssaNodes ns = true →
    closedNodes ns = true → scopedNodes D ns = true → (∀ v ∈ D, σ.app v ∈ D') → (∀ p ∈ σ, p.1 ∉ defsNodes ns) →
    ssaNodes (dedupNodes lim σ ns) = true ∧ closedNodes (dedupNodes lim σ ns) = true ∧
    scopedNodes D' (dedupNodes lim σ ns) = true ∧ (∀ v ∈ defsNodes (dedupNodes lim σ ns), v ∈ defsNodes ns) :=
  fun ns σ D D' hs hc hsc hD hσ =>
    have r := (dedup_keeps lim).2.1 σ ns hσ D D' hs hc hsc hD
    ⟨r.1, r.2.1, r.2.2, IrVerif.PassFlags.dedupNodes_defs lim ns σ⟩

theorem dedupBodies_valid (lim : Nat) : ∀ (bs : List Graph) (σ : Subst) (D D' : List VId), ssaBodies bs = true →
    closedBodies bs = true → scopedBodies D bs = true → (∀ v ∈ D, σ.app v ∈ D') → (∀ p ∈ σ, p.1 ∉ defsBodies bs) →
    ssaBodies (dedupBodies lim σ bs) = true ∧ closedBodies (dedupBodies lim σ bs) = true ∧
    scopedBodies D' (dedupBodies lim σ bs) = true ∧ (∀ v ∈ defsBodies (dedupBodies lim σ bs), v ∈ defsBodies bs) :=
  fun bs σ D D' hs hc hsc hD hσ =>
    have r := (dedup_keeps lim).2.2 σ bs hσ D D' hs hc hsc hD
    ⟨r.1, r.2.1, r.2.2, IrVerif.PassFlags.dedupBodies_defs lim bs σ⟩

theorem dedupG_validG (lim : Nat) (g : Graph) (hv : validG g = true) : validG (dedupG lim [] g) = true := by
  rw [validG_iff] at hv ⊢
  obtain ⟨k1, k2, k3⟩ := (dedup_keeps lim).1 [] g (fun p hp => by simp at hp) [] [] hv.1 hv.2.1 hv.2.2.2
    (fun v hv => by simp at hv)
  exact ⟨k1, k2, IrVerif.PassFlags.dedupG_noFwd lim g [] hv.1 hv.2.2.1 (fun p hp => by simp at hp), k3⟩

/-! ## IdentityElimination -/

def Res (σ : Subst) : Prop := ∀ p ∈ σ, ∀ q ∈ σ, p.2 ≠ q.1

theorem app_not_key {σ : Subst} (hr : Res σ) (v : VId) : ∀ q ∈ σ, σ.app v ≠ q.1 := by
  intro q hq
  unfold Subst.app
  cases hl : σ.lookup v with
  | some a =>
    simp only [Option.getD_some]
    exact hr (v, a) (ListFacts.mem_of_lookup hl) q hq
  | none =>
    simp only [Option.getD_none]
    intro h
    have := ListFacts.lookup_isSome_iff.2 (List.mem_map.2 ⟨q, hq, h.symm⟩)
    rw [hl] at this
    cases this

/-- at the node level in addition: the outputs of the graph stay bound at its top level (`L'`: its inputs and initializers) -/
theorem ie_valid (ii : List VId) :
    let G := fun σ g g' => ssaG g = true → noFwdG g = true → (∀ p ∈ σ, p.1 ∉ defsG g ∧ p.2 ∉ defsG g) → Res σ →
      KeepsG σ.app g g'
    let Ns := fun loc σ outs ns (r : IeRes) => ssaNodes ns = true → noFwdNodes ns = true →
      (∀ p ∈ σ, p.1 ∉ defsNodes ns ∧ p.2 ∉ defsNodes ns) → Res σ →
      KeepsNodes σ.app ns r.nodes ∧
      ∀ L' : List VId, (∀ o ∈ outs, o ∈ L' ∨ o ∈ outsTop ns) →
        (∀ v ∈ loc, v ∈ L' ∨ v ∈ outsTop ns ∨ ∃ p ∈ σ, p.1 = v) → ∀ o ∈ r.outs, o ∈ L' ∨ o ∈ outsTop r.nodes
    let Bs := fun σ bs bs' => ssaBodies bs = true → noFwdBodies bs = true →
      (∀ p ∈ σ, p.1 ∉ defsBodies bs ∧ p.2 ∉ defsBodies bs) → Res σ → KeepsBodies σ.app bs bs'
    (∀ σ g, G σ g (ieG ii σ g)) ∧ (∀ loc σ outs ns, Ns loc σ outs ns (ieNodes ii loc σ outs ns)) ∧
      ∀ σ bs, Bs σ bs (ieBodies ii σ bs) := by
  intro G Ns Bs
  -- a node that stays
  have keep : ∀ {loc σ outs op attrs ins nouts bodies ns}, Ns loc σ outs ns (ieNodes ii loc σ outs ns) →
      Bs σ bodies (ieBodies ii σ bodies) →
      Ns loc σ outs (.mk op attrs ins nouts bodies :: ns)
        ⟨.mk op attrs (substIns σ ins) nouts (ieBodies ii σ bodies) :: (ieNodes ii loc σ outs ns).nodes,
          (ieNodes ii loc σ outs ns).outs, (ieNodes ii loc σ outs ns).σ⟩ := by
    intro loc σ outs op attrs ins nouts bodies ns ih ihb hs hf hσ hr
    rw [ssaNodes_cons_iff] at hs
    rw [noFwdNodes_cons_iff] at hf
    simp only [defsNodes, defsN, List.mem_append, not_or] at hσ
    obtain ⟨kA, kB⟩ := ih hs.2 hf.2 (fun p hp => ⟨(hσ p hp).1.2, (hσ p hp).2.2⟩) hr
    refine ⟨.keep (fun w hw => mem_substIns' hw)
      (fun v hv => app_of_not_key (fun p hp h => (hσ p hp).1.1.1 (h ▸ hv))) (ieBodies_defs ii bodies σ)
      (ieNodes_defs ii loc ns σ outs) (ihb hs.1.1.2 hf.1.2 (fun p hp => ⟨(hσ p hp).1.1.2, (hσ p hp).2.1.2⟩) hr) kA,
      fun L' ho hloc o h => ?_⟩
    exact mem_or_append.2 (kB (L' ++ nouts) (fun o h => mem_or_append.1 (ho o h))
      (fun v h => or_assoc.1 ((or_assoc.2 (hloc v h)).imp_left mem_or_append.1)) o h)
  refine ieG.mutual_induct_unfolding ii G Ns Bs ?_ ?_ ?_ ?_ ?_ ?_ ?_
  · intro σ inputs outputs inits nodes ih hs hf hσ hr D D' _ hc hsc hD
    rw [ssaG_iff] at hs
    rw [closedG_iff] at hc
    simp only [noFwdG] at hf
    simp only [scopedG] at hsc
    simp only [defsG, List.mem_append, not_or] at hσ
    obtain ⟨kA, kB⟩ := ih hs.2 hf (fun p hp => ⟨(hσ p hp).1.2, (hσ p hp).2.2⟩) hr
    obtain ⟨k1, k2, k3⟩ := kA (D ++ inputs ++ inits.map Prod.fst) (D' ++ inputs ++ inits.map Prod.fst) hs.2 hc.2 hsc
      (app_mem_append (app_mem_append hD (fun p hp => (hσ p hp).1.1.1)) (fun p hp => (hσ p hp).1.1.2))
    refine ⟨?_, ?_, k3⟩
    · rw [ssaG_iff]
      exact ⟨⟨hs.1.1, fun x hx hx' => hs.1.2 x hx (ieNodes_defs ii _ nodes σ outputs x hx')⟩, k1⟩
    · rw [closedG_iff]
      refine ⟨fun v hv => List.mem_append.2 (kB (inputs ++ inits.map Prod.fst) (fun o ho => List.mem_append.1 (hc.1 o ho))
        (fun v hv => ?_) v hv), k2⟩
      simp only [List.mem_append] at hv ⊢
      rcases hv with (h | h) | h
      · exact Or.inl (Or.inl h)
      · exact Or.inl (Or.inr h)
      · exact Or.inr (Or.inl h)
  · intro loc σ outs _ _ _ _
    exact ⟨KeepsNodes.nil _, fun L' ho _ o h => ho o h⟩
  · intro loc σ outs op attrs ins nouts bodies ns x y _ _ r ih ihb
    exact keep ih ihb
  · -- an Identity node that goes: `y` is read as `x` from here on
    intro loc σ outs op attrs ins nouts bodies ns x y hcand hk ih hs hf hσ hr
    obtain ⟨_, hins, hno⟩ := Passes.ieCandidate_some hcand
    obtain ⟨x0, hx0, hxx⟩ := substIns_eq_singleton hins
    subst hno
    rw [ssaNodes_cons_iff] at hs
    rw [noFwdNodes_cons_iff] at hf
    have hx0def : x0 ∉ defsNodes (Node.mk op attrs ins [y] bodies :: ns) := hf.1.1.1 x0 (by rw [hx0]; simp)
    have hxdef : x ∉ defsNodes (Node.mk op attrs ins [y] bodies :: ns) := by
      rw [← hxx]
      rcases Subst.app_cases σ x0 with h | ⟨p, hp, _, h2⟩
      · rw [h]; exact hx0def
      · rw [← h2]; exact (hσ p hp).2
    simp only [defsNodes, defsN, List.mem_append, not_or, List.mem_singleton] at hxdef hσ
    have hxkey : ∀ q ∈ σ, x ≠ q.1 := hxx ▸ app_not_key hr x0
    have hyns : y ∉ defsNodes ns := fun h => hs.1.2 y (by simp [defsN]) h
    obtain ⟨kA, kB⟩ := ih hs.2 hf.2
      (fun p hp => by
        rcases List.mem_cons.1 hp with hp | hp
        · rw [hp]; exact ⟨hyns, hxdef.2⟩
        · exact ⟨(hσ p hp).1.2, (hσ p hp).2.2⟩)
      (fun p hp q hq => by
        rcases List.mem_cons.1 hp with hp | hp <;> rcases List.mem_cons.1 hq with hq | hq
        · rw [hp, hq]; exact hxdef.1.1
        · rw [hp]; exact hxkey q hq
        · rw [hq]; exact (hσ p hp).2.1.1
        · exact hr p hp q hq)
    refine ⟨fun D D' _ hc hsc hD => ?_, fun L' ho hloc o ho' => ?_⟩
    · rw [closedNodes_cons_iff] at hc
      rw [scopedNodes_cons_iff] at hsc
      have hxD' : x ∈ D' := hxx ▸ hD x0 (hsc.1.1 x0 (by rw [hx0]; simp))
      refine kA (D ++ [y]) D' hs.2 hc.2 hsc.2 (fun v hv => ?_)
      rw [Subst.app_cons]
      split
      · exact hxD'
      · rcases List.mem_append.1 hv with hv | hv
        · exact hD v hv
        · rename_i hne; exact absurd (List.mem_singleton.1 hv) hne
    · refine kB L' (fun o ho' => ?_) (fun v hv => ?_) o ho'
      · obtain ⟨o0, ho0, rfl⟩ := List.mem_map.1 ho'
        by_cases hoy : o0 = y
        · simp only [hoy, if_true]
          -- `y` is a graph output and the node is removed: `x` is a value of this graph
          have hy : outs.contains y = true := by simpa using hoy ▸ ho0
          have hlx : loc.contains x = true := by
            cases h : loc.contains x with
            | true => rfl
            | false => exact absurd (by rw [hy, h]; simp) hk
          rcases hloc x (by simpa using hlx) with h | h | ⟨p, hp, h⟩
          · exact Or.inl h
          · simp only [outsTop, Node.outs, List.mem_append, List.mem_singleton] at h
            rcases h with h | h
            · exact absurd h hxdef.1.1
            · exact absurd (outsTop_sub_defsNodes ns h) hxdef.2
          · exact absurd h.symm (hxkey p hp)
        · simp only [hoy, if_false]
          have := ho o0 ho0
          simp only [outsTop, Node.outs, List.mem_append, List.mem_singleton] at this
          rcases this with h | h | h
          · exact Or.inl h
          · exact absurd h hoy
          · exact Or.inr h
      · have := hloc v hv
        simp only [outsTop, Node.outs, List.mem_append, List.mem_singleton] at this
        rcases this with h | (h | h) | ⟨p, hp, h⟩
        · exact Or.inl h
        · exact Or.inr (Or.inr ⟨(y, x), List.mem_cons_self, h.symm⟩)
        · exact Or.inr (Or.inl h)
        · exact Or.inr (Or.inr ⟨p, List.mem_cons_of_mem _ hp, h⟩)
  · intro loc σ outs op attrs ins nouts bodies ns _ r ih ihb
    exact keep ih ihb
  · intro σ _ _ _ _
    exact KeepsBodies.nil _
  · intro σ b bs ihg ihb hs hf hσ hr
    rw [ssaBodies_cons_iff] at hs
    rw [noFwdBodies_cons_iff] at hf
    simp only [defsBodies, List.mem_append, not_or] at hσ
    exact .cons (ieG_defs ii b σ) (ieBodies_defs ii bs σ)
      (ihg hs.1.1 hf.1 (fun p hp => ⟨(hσ p hp).1.1, (hσ p hp).2.1⟩) hr)
      (ihb hs.2 hf.2 (fun p hp => ⟨(hσ p hp).1.2, (hσ p hp).2.2⟩) hr)

theorem ieNodes_valid (ii loc : List VId) : ∀ (ns : List Node) (σ : Subst) (outs D D' L' : List VId),
    ssaNodes ns = true → closedNodes ns = true → noFwdNodes ns = true → scopedNodes D ns = true →
    (∀ v ∈ D, σ.app v ∈ D') → (∀ p ∈ σ, p.1 ∉ defsNodes ns ∧ p.2 ∉ defsNodes ns) → Res σ →
    (∀ o ∈ outs, o ∈ L' ∨ o ∈ outsTop ns) → (∀ v ∈ loc, v ∈ L' ∨ v ∈ outsTop ns ∨ ∃ p ∈ σ, p.1 = v) →
    ssaNodes (ieNodes ii loc σ outs ns).nodes = true ∧ closedNodes (ieNodes ii loc σ outs ns).nodes = true ∧
    scopedNodes D' (ieNodes ii loc σ outs ns).nodes = true ∧
    (∀ o ∈ (ieNodes ii loc σ outs ns).outs, o ∈ L' ∨ o ∈ outsTop (ieNodes ii loc σ outs ns).nodes) ∧
    (∀ v ∈ defsNodes (ieNodes ii loc σ outs ns).nodes, v ∈ defsNodes ns) :=
  fun ns σ outs D D' L' hs hc hf hsc hD hσ hr ho hloc =>
    have k := (ie_valid ii).2.1 loc σ outs ns hs hf hσ hr
    have r := k.1 D D' hs hc hsc hD
    ⟨r.1, r.2.1, r.2.2, k.2 L' ho hloc, ieNodes_defs ii loc ns σ outs⟩

theorem ieBodies_valid (ii : List VId) : ∀ (bs : List Graph) (σ : Subst) (D D' : List VId), ssaBodies bs = true →
    closedBodies bs = true → noFwdBodies bs = true → scopedBodies D bs = true → (∀ v ∈ D, σ.app v ∈ D') →
    (∀ p ∈ σ, p.1 ∉ defsBodies bs ∧ p.2 ∉ defsBodies bs) → Res σ →
    ssaBodies (ieBodies ii σ bs) = true ∧ closedBodies (ieBodies ii σ bs) = true ∧
    scopedBodies D' (ieBodies ii σ bs) = true ∧ (∀ v ∈ defsBodies (ieBodies ii σ bs), v ∈ defsBodies bs) :=
  fun bs σ D D' hs hc hf hsc hD hσ hr =>
    have r := (ie_valid ii).2.2 σ bs hs hf hσ hr D D' hs hc hsc hD
    ⟨r.1, r.2.1, r.2.2, ieBodies_defs ii bs σ⟩

theorem ieG_validG (ii : List VId) (g : Graph) (hv : validG g = true) : validG (ieG ii [] g) = true := by
  rw [validG_iff] at hv ⊢
  obtain ⟨k1, k2, k3⟩ := (ie_valid ii).1 [] g hv.1 hv.2.2.1 (fun p hp => by simp at hp) (fun p hp => by simp at hp)
    [] [] hv.1 hv.2.1 hv.2.2.2 (fun v hv => by simp at hv)
  exact ⟨k1, k2, IrVerif.PassFlags.ieG_noFwd ii g [] hv.2.2.1 (fun p hp => by simp at hp), k3⟩

theorem liftG_validG (la : Bool) (lim : Nat) (g : Graph) (hv : validG g = true) : validG (liftG la lim g) = true := by
  rw [validG_iff] at hv ⊢
  obtain ⟨k1, k2, k3⟩ := (lift_valid la lim).1 g [] [] hv.1 hv.2.1 hv.2.2.2 (fun v hv => hv)
  exact ⟨k1, k2, (liftG_shrink la lim g).2.2 hv.2.2.1, k3⟩

theorem all_validG_map (f : Graph → Graph) (hf : ∀ g, validG g = true → validG (f g) = true) :
    ∀ fs : List Graph, fs.all validG = true → (fs.map f).all validG = true
  | [], _ => rfl
  | g :: fs, h => by
    simp only [List.all_cons, Bool.and_eq_true] at h
    simp only [List.map_cons, List.all_cons, Bool.and_eq_true]
    exact ⟨hf g h.1, all_validG_map f hf fs h.2⟩

theorem dceModel_valid (m : Model) (hv : validModel m = true) : validModel (dceModel m) = true := by
  simp only [validModel, Bool.and_eq_true] at hv ⊢
  exact ⟨dceModel_graph_valid m.graph hv.1, all_validG_map _ (fun g hg => dceG_validG g hg) m.funcs hv.2⟩

theorem ieModel_valid (m : Model) (hv : validModel m = true) : validModel (ieModel m) = true := by
  simp only [validModel, Bool.and_eq_true] at hv ⊢
  exact ⟨ieG_validG _ m.graph hv.1, all_validG_map _ (fun g hg => ieG_validG _ g hg) m.funcs hv.2⟩

theorem dedupModel_valid (lim : Nat) (m : Model) (hv : validModel m = true) : validModel (dedupModel lim m) = true := by
  simp only [validModel, Bool.and_eq_true] at hv ⊢
  exact ⟨dedupG_validG lim m.graph hv.1, hv.2⟩

theorem liftConstModel_valid (la : Bool) (lim : Nat) (m : Model) (hv : validModel m = true) :
    validModel (liftConstModel la lim m) = true := by
  simp only [validModel, Bool.and_eq_true] at hv ⊢
  exact ⟨liftG_validG la lim m.graph hv.1, hv.2⟩

theorem lsiModel_valid (m : Model) (hv : validModel m = true) : validModel (lsiModel m) = true := by
  obtain ⟨g, fs⟩ := m
  simp only [validModel, Bool.and_eq_true] at hv ⊢
  cases g with
  | mk inputs outputs inits nodes =>
    exact ⟨lsiMain_validG inputs outputs inits nodes hv.1, hv.2⟩

theorem rmInitInputsModel_valid (m : Model) (hv : validModel m = true) : validModel (rmInitInputsModel m) = true := by
  simp only [validModel, Bool.and_eq_true] at hv ⊢
  exact ⟨mapInputsTop_valid _ inputsOK_remove m.graph hv.1, hv.2⟩

theorem addInitInputsModel_valid (m : Model) (hv : validModel m = true) : validModel (addInitInputsModel m) = true := by
  simp only [validModel, Bool.and_eq_true] at hv ⊢
  exact ⟨mapInputsTop_valid _ inputsOK_add m.graph hv.1, hv.2⟩

end IrVerif.Passes
