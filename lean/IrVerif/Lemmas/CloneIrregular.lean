/-
When does the scope walker (`wGraph`, Model/Clone.lean) answer `irregular`?  Exactly three events
produce that answer: a pointer that names no cell ("dangling pointer"), a node output that the value
map binds already when its node is cloned, initializer names that are not pairwise different.  This
file proves that there is no other reason, and that the first one is impossible on a heap all of
whose pointer fields name cells (`closedW`, a decidable predicate, true of every heap abstracted
from live Python objects).
-/
import IrVerif.Model.Clone2
namespace IrVerif.Clone
namespace Irr

def dang : String := "dangling pointer"
def outB : String := "node output is already bound in the value map"
def namesD : String := "initializer names not distinct"

/-- the reasons the walker may give for `irregular` on heap `w` -/
def S (w : World) (why : String) : Prop :=
  why = outB ∨ why = namesD ∨ (why = dang ∧ closedW w = false)

def IrrIn (w : World) {α : Type} (r : WRes α) : Prop := ∀ why, r = .irregular why → S w why

/-- an index the walker may read: in range whenever the heap is closed -/
def P (w : World) (i : Nat) : Prop := closedW w = true → i < w.length

variable {w : World}

theorem IrrIn.ok {α : Type} (a : α) : IrrIn w (WRes.ok a) := fun _ h => by cases h
theorem IrrIn.err {α : Type} (e : Err) : IrrIn w (WRes.err e : WRes α) := fun _ h => by cases h

theorem IrrIn.bind {α β : Type} {x : WRes α} {f : α → WRes β} (hx : IrrIn w x)
    (hf : ∀ a, x = .ok a → IrrIn w (f a)) : IrrIn w (x.bind f) := by
  cases x with
  | ok a => exact hf a rfl
  | err e => exact IrrIn.err e
  | irregular why => exact fun why' h => hx why' (by simpa [WRes.bind] using h)

theorem bind_ok {α β : Type} {x : WRes α} {f : α → WRes β} {b : β} (h : x.bind f = .ok b) :
    ∃ a, x = .ok a ∧ f a = .ok b := by
  cases x with
  | ok a => exact ⟨a, rfl, h⟩
  | err e => cases h
  | irregular why => cases h

theorem closed_ptrs (hcl : closedW w = true) {i : Nat} {c : Cell} (hc : w[i]? = some c) :
    ∀ p ∈ c.ptrs, p < w.length := by
  unfold closedW at hcl
  rw [List.all_eq_true] at hcl
  have := hcl c (List.mem_of_getElem? hc)
  rw [List.all_eq_true] at this
  intro p hp
  simpa using this p hp

theorem P.ptrs {i : Nat} {c : Cell} (hc : w[i]? = some c) : ∀ p ∈ c.ptrs, P w p :=
  fun p hp hcl => closed_ptrs hcl hc p hp

theorem irr_cellBind {α : Type} {k : Cell → WRes α} {i : Nat} (hP : P w i)
    (hk : ∀ c, w[i]? = some c → IrrIn w (k c)) : IrrIn w ((wCell w i).bind k) := by
  unfold wCell
  cases h : w[i]? with
  | some c => exact hk c h
  | none =>
    intro why hw
    cases hw
    refine .inr (.inr ⟨rfl, ?_⟩)
    cases hcl : closedW w with
    | false => rfl
    | true =>
      have := hP hcl
      rw [List.getElem?_eq_none_iff] at h
      omega

theorem cellBind_ok {α : Type} {k : Cell → WRes α} {i : Nat} {a : α} (h : (wCell w i).bind k = .ok a) :
    ∃ c, w[i]? = some c ∧ k c = .ok a := by
  unfold wCell at h
  cases hc : w[i]? with
  | none => rw [hc] at h; cases h
  | some c => rw [hc] at h; exact ⟨c, rfl, h⟩

/-- a reader: looks at one cell and never answers `irregular` itself -/
theorem irr_reader {α : Type} {k : Cell → WRes α} {i : Nat} (hP : P w i)
    (hk : ∀ c why, k c ≠ .irregular why) : IrrIn w ((wCell w i).bind k) :=
  irr_cellBind hP fun c _ why h => absurd h (hk c why)

theorem irr_wVal {v : Nat} (hP : P w v) : IrrIn w (wVal w v) :=
  irr_reader hP fun c why => by cases c <;> simp
theorem irr_wNodeCell {v : Nat} (hP : P w v) : IrrIn w (wNodeCell w v) :=
  irr_reader hP fun c why => by cases c <;> simp
theorem irr_wGraphCell {v : Nat} (hP : P w v) : IrrIn w (wGraphCell w v) :=
  irr_reader hP fun c why => by cases c <;> simp
theorem irr_wAttrCell {v : Nat} (hP : P w v) : IrrIn w (wAttrCell w v) :=
  irr_reader hP fun c why => by cases c <;> simp
theorem irr_wFuncCell {v : Nat} (hP : P w v) : IrrIn w (wFuncCell w v) :=
  irr_reader hP fun c why => by cases c <;> simp
theorem irr_wModelCell {v : Nat} (hP : P w v) : IrrIn w (wModelCell w v) :=
  irr_reader hP fun c why => by cases c <;> simp
theorem irr_wDict {v : Nat} (hP : P w v) : IrrIn w (wDict w v) :=
  irr_reader hP fun c why => by cases c <;> simp
theorem irr_wShape {v : Nat} (hP : P w v) : IrrIn w (wShape w v) :=
  irr_reader hP fun c why => by cases c <;> simp
theorem irr_wType {v : Nat} (hP : P w v) : IrrIn w (wType w v) :=
  irr_reader hP fun c why => by cases c <;> simp

theorem wVal_ok {v : Nat} {vs : ValueS} (h : wVal w v = .ok vs) : w[v]? = some (.val vs) := by
  obtain ⟨c, hc, hk⟩ := cellBind_ok h
  cases c <;> simp at hk
  subst hk; exact hc
theorem wNodeCell_ok {v : Nat} {vs : NodeS} (h : wNodeCell w v = .ok vs) : w[v]? = some (.node vs) := by
  obtain ⟨c, hc, hk⟩ := cellBind_ok h
  cases c <;> simp at hk
  subst hk; exact hc
theorem wGraphCell_ok {v : Nat} {vs : GraphS} (h : wGraphCell w v = .ok vs) : w[v]? = some (.graph vs) := by
  obtain ⟨c, hc, hk⟩ := cellBind_ok h
  cases c <;> simp at hk
  subst hk; exact hc
theorem wAttrCell_ok {v : Nat} {vs : AttrS} (h : wAttrCell w v = .ok vs) : w[v]? = some (.attr vs) := by
  obtain ⟨c, hc, hk⟩ := cellBind_ok h
  cases c <;> simp at hk
  subst hk; exact hc
theorem wFuncCell_ok {v : Nat} {vs : FuncS} (h : wFuncCell w v = .ok vs) : w[v]? = some (.func vs) := by
  obtain ⟨c, hc, hk⟩ := cellBind_ok h
  cases c <;> simp at hk
  subst hk; exact hc
theorem wModelCell_ok {v : Nat} {vs : ModelS} (h : wModelCell w v = .ok vs) : w[v]? = some (.model vs) := by
  obtain ⟨c, hc, hk⟩ := cellBind_ok h
  cases c <;> simp at hk
  subst hk; exact hc

theorem irr_wOptShape {o : Option Nat} (hP : ∀ i, o = some i → P w i) : IrrIn w (wOptShape w o) := by
  cases o with
  | none => exact IrrIn.ok _
  | some i => exact irr_wShape (hP i rfl)
theorem irr_wOptType {o : Option Nat} (hP : ∀ i, o = some i → P w i) : IrrIn w (wOptType w o) := by
  cases o with
  | none => exact IrrIn.ok _
  | some i => exact irr_wType (hP i rfl)

theorem irr_wFold {α : Type} {f : α → Sc → WRes Sc} : ∀ {l : List α}, (∀ a ∈ l, ∀ A, IrrIn w (f a A)) →
    ∀ A, IrrIn w (wFold f l A)
  | [], _, A => IrrIn.ok A
  | a :: as, h, A => by
    unfold wFold
    exact IrrIn.bind (h a List.mem_cons_self A) fun A1 _ =>
      irr_wFold (fun b hb => h b (List.mem_cons_of_mem _ hb)) A1

theorem irr_wAll {α : Type} {f : α → WRes Unit} : ∀ {l : List α}, (∀ a ∈ l, IrrIn w (f a)) → IrrIn w (wAll f l)
  | [], _ => IrrIn.ok ()
  | a :: as, h => by
    unfold wAll
    exact IrrIn.bind (h a List.mem_cons_self) fun _ _ => irr_wAll (fun b hb => h b (List.mem_cons_of_mem _ hb))

/-- the pointer fields of a value cell the walker follows -/
theorem val_ptrs {v : Nat} {vs : ValueS} (hc : w[v]? = some (.val vs)) :
    (∀ i, vs.shape = some i → P w i) ∧ (∀ i, vs.type = some i → P w i) ∧ P w vs.props ∧ P w vs.mstore := by
  have hp := P.ptrs hc
  refine ⟨fun i hi => hp i ?_, fun i hi => hp i ?_, hp _ ?_, hp _ ?_⟩ <;> simp [Cell.ptrs, *]

theorem irr_wCloneOrGet {v : Nat} (hP : P w v) (A : Sc) : IrrIn w (wCloneOrGet w v A) := by
  unfold wCloneOrGet
  split
  · exact IrrIn.ok _
  · refine IrrIn.bind (irr_wVal hP) fun vs hvs => ?_
    obtain ⟨h1, h2, h3, h4⟩ := val_ptrs (wVal_ok hvs)
    refine IrrIn.bind (irr_wOptShape h1) fun _ _ => ?_
    refine IrrIn.bind (irr_wOptType h2) fun _ _ => ?_
    refine IrrIn.bind (irr_wDict h3) fun _ _ => ?_
    exact IrrIn.bind (irr_wDict h4) fun _ _ => IrrIn.ok _

theorem irr_wOutput {o : Nat} (hP : P w o) (A : Sc) : IrrIn w (wOutput w o A) := by
  unfold wOutput
  refine IrrIn.bind (irr_wVal hP) fun vs hvs => ?_
  obtain ⟨h1, h2, h3, h4⟩ := val_ptrs (wVal_ok hvs)
  refine IrrIn.bind (irr_wOptShape h1) fun _ _ => ?_
  refine IrrIn.bind (irr_wOptType h2) fun _ _ => ?_
  refine IrrIn.bind (irr_wDict h3) fun _ _ => ?_
  refine IrrIn.bind (irr_wDict h4) fun _ _ => ?_
  split
  · intro why h
    cases h
    exact .inl rfl
  · exact IrrIn.ok _

theorem irr_wMapInputs (allow : Bool) (A : Sc) : ∀ l : List (Option Nat), IrrIn w (wMapInputs allow A l)
  | [] => IrrIn.ok ()
  | none :: rest => by unfold wMapInputs; exact irr_wMapInputs allow A rest
  | some v :: rest => by
    unfold wMapInputs
    split
    · exact irr_wMapInputs allow A rest
    · split
      · split
        · exact IrrIn.err _
        · exact irr_wMapInputs allow A rest
      · exact IrrIn.err _

theorem irr_wPassthrough (A : Sc) : ∀ l : List (Option Nat), (∀ v, some v ∈ l → P w v) →
    IrrIn w (wPassthrough w A l)
  | [], _ => IrrIn.ok ()
  | none :: rest, h => by
    unfold wPassthrough
    exact irr_wPassthrough A rest fun v hv => h v (List.mem_cons_of_mem _ hv)
  | some v :: rest, h => by
    unfold wPassthrough
    have hr := irr_wPassthrough A rest fun v hv => h v (List.mem_cons_of_mem _ hv)
    split
    · exact hr
    · exact IrrIn.bind (irr_wVal (h v List.mem_cons_self)) fun _ _ => hr

theorem irr_wAttr {rec : Nat → Sc → WRes Sc} (hrec : ∀ g A, P w g → IrrIn w (rec g A)) {a : Nat}
    (hP : P w a) (A : Sc) : IrrIn w (wAttr w rec a A) := by
  unfold wAttr
  refine IrrIn.bind (irr_wAttrCell hP) fun as has => ?_
  have hp := P.ptrs (wAttrCell_ok has)
  cases hv : as.v with
  | plain p => exact IrrIn.ok _
  | ref p => exact IrrIn.ok _
  | graph g => exact hrec g A (hp g (by simp [Cell.ptrs, hv]))
  | graphs gs => exact irr_wFold (fun g hg A => hrec g A (hp g (by simp [Cell.ptrs, hv, hg]))) A

theorem irr_wNode {allow : Bool} {rec : Nat → Sc → WRes Sc} (hrec : ∀ g A, P w g → IrrIn w (rec g A))
    {n : Nat} (hP : P w n) (A : Sc) : IrrIn w (wNode w allow rec n A) := by
  unfold wNode
  refine IrrIn.bind (irr_wNodeCell hP) fun ns hns => ?_
  have hp := P.ptrs (wNodeCell_ok hns)
  refine IrrIn.bind (irr_wMapInputs allow A ns.inputs) fun _ _ => ?_
  refine IrrIn.bind (irr_wFold (fun ka hka A => irr_wAttr hrec (hp ka.2 ?_) A) A) fun A1 _ => ?_
  · simp only [Cell.ptrs, List.mem_append, List.mem_map]
    exact .inl (.inr ⟨ka, hka, rfl⟩)
  refine IrrIn.bind (irr_wDict (hp _ (by simp [Cell.ptrs]))) fun _ _ => ?_
  refine IrrIn.bind (irr_wDict (hp _ (by simp [Cell.ptrs]))) fun _ _ => ?_
  refine IrrIn.bind (irr_wFold (fun o ho A => irr_wOutput (hp o (by simp [Cell.ptrs, ho])) A) A1) fun A2 _ => ?_
  refine IrrIn.bind ?_ fun _ _ => ?_
  · split
    · exact IrrIn.err _
    · exact IrrIn.ok _
  refine IrrIn.bind (irr_wPassthrough A ns.inputs fun v hv => hp v ?_) fun _ _ => IrrIn.ok _
  simp only [Cell.ptrs, List.mem_append, List.mem_filterMap]
  exact .inl (.inl (.inl ⟨some v, hv, rfl⟩))

theorem irr_wAllOutputs : ∀ l : List Nat, (∀ n ∈ l, P w n) → IrrIn w (wAllOutputs w l)
  | [], _ => IrrIn.ok _
  | n :: ns, h => by
    unfold wAllOutputs
    refine IrrIn.bind (irr_wNodeCell (h n List.mem_cons_self)) fun _ _ => ?_
    exact IrrIn.bind (irr_wAllOutputs ns fun m hm => h m (List.mem_cons_of_mem _ hm)) fun _ _ => IrrIn.ok _

theorem irr_ite {α : Type} {c : Prop} [Decidable c] {x y : WRes α} (hx : IrrIn w x) (hy : IrrIn w y) :
    IrrIn w (if c then x else y) := by split <;> assumption

theorem irr_wMkGraph {g0 : Nat} {gs : GraphS} (hc : w[g0]? = some (.graph gs)) (A : Sc) :
    IrrIn w (wMkGraph w gs A) := by
  have hp := P.ptrs hc
  unfold wMkGraph
  refine IrrIn.bind (irr_wAll fun v _ => ?_) fun _ _ => ?_
  · split
    · exact IrrIn.err _
    · exact IrrIn.ok _
  refine IrrIn.bind ?_ fun _ _ => ?_
  · split
    · exact IrrIn.ok _
    · intro why h
      cases h
      exact .inr (.inl rfl)
  refine IrrIn.bind (irr_wDict (hp _ (by simp [Cell.ptrs]))) fun _ _ => ?_
  refine IrrIn.bind (irr_wDict (hp _ (by simp [Cell.ptrs]))) fun _ _ => ?_
  refine IrrIn.bind (irr_wAll fun v _ => irr_ite (IrrIn.err _) (irr_ite (IrrIn.err _) (IrrIn.ok _))) fun _ _ => ?_
  refine IrrIn.bind (irr_wAll fun v _ => irr_ite (IrrIn.err _) (IrrIn.ok _)) fun _ _ => ?_
  refine IrrIn.bind (irr_wAll fun v _ => irr_ite (IrrIn.err _) (IrrIn.ok _)) fun _ _ => ?_
  refine IrrIn.bind (irr_wAll fun v _ => irr_ite (IrrIn.err _) (irr_ite (IrrIn.err _) (IrrIn.ok _))) fun _ _ => ?_
  refine IrrIn.bind (irr_wAll fun v _ => irr_ite (IrrIn.err _) (IrrIn.ok _)) fun _ _ => ?_
  refine IrrIn.bind (irr_wAll fun n hn => ?_) fun _ _ => IrrIn.ok _
  refine IrrIn.bind (irr_wNodeCell (hp n (by simp [Cell.ptrs, hn]))) fun _ _ => ?_
  exact irr_wAll fun o _ => irr_ite (IrrIn.err _) (IrrIn.ok _)

theorem irr_wGraphStep {allow : Bool} {rec : Nat → Sc → WRes Sc} (hrec : ∀ g A, P w g → IrrIn w (rec g A))
    {g : Nat} (hP : P w g) (A : Sc) : IrrIn w (wGraphStep w allow rec g A) := by
  unfold wGraphStep
  refine IrrIn.bind (irr_wGraphCell hP) fun gs hgs => ?_
  have hc := wGraphCell_ok hgs
  have hp := P.ptrs hc
  refine IrrIn.bind (irr_wFold (fun v hv A => irr_wCloneOrGet (hp v (by simp [Cell.ptrs, hv])) A) A) fun A1 _ => ?_
  refine IrrIn.bind (irr_wFold (fun v hv A => irr_wCloneOrGet (hp v ?_) A) A1) fun A2 _ => ?_
  · simp only [Cell.ptrs, List.mem_append]
    exact .inl (.inl (.inr hv))
  refine IrrIn.bind (irr_wAllOutputs gs.nodes fun n hn => hp n (by simp [Cell.ptrs, hn])) fun outs _ => ?_
  refine IrrIn.bind (irr_wFold (fun n hn A => irr_wNode hrec (hp n (by simp [Cell.ptrs, hn])) A) _) fun A4 _ => ?_
  refine IrrIn.bind (irr_wAll fun v _ => irr_ite (IrrIn.ok _) (IrrIn.err _)) fun _ _ => ?_
  exact irr_wMkGraph hc A4

theorem irr_wGraph (allow : Bool) : ∀ (fuel g : Nat) (A : Sc), P w g → IrrIn w (wGraph w allow fuel g A)
  | 0, _, _, _ => IrrIn.err _
  | f + 1, g, A, hP => irr_wGraphStep (fun g' A' hP' => irr_wGraph allow f g' A' hP') hP A

theorem irr_funcVerdict (fuel f : Nat) (hP : P w f) : IrrIn w (funcVerdict fuel w f) := by
  unfold funcVerdict
  refine IrrIn.bind (irr_wFuncCell hP) fun fs hfs => ?_
  have hp := P.ptrs (wFuncCell_ok hfs)
  refine IrrIn.bind (irr_wGraph false fuel fs.graph {} (hp _ (by simp [Cell.ptrs]))) fun A1 _ => ?_
  refine irr_wFold (fun ka hka A => ?_) A1
  have hPa : P w ka.2 := hp ka.2 (by
    simp only [Cell.ptrs, List.mem_cons, List.mem_map]
    exact .inr ⟨ka, hka, rfl⟩)
  refine IrrIn.bind (irr_wAttrCell hPa) fun _ _ => ?_
  exact irr_wAttr (fun g A hg => irr_wGraph false fuel g A hg) hPa A

theorem irr_modelVerdict (fuel m : Nat) (hP : P w m) : IrrIn w (modelVerdict fuel w m) := by
  unfold modelVerdict
  refine IrrIn.bind (irr_wModelCell hP) fun ms hms => ?_
  have hp := P.ptrs (wModelCell_ok hms)
  refine IrrIn.bind (irr_wGraph false fuel ms.graph {} (hp _ (by simp [Cell.ptrs]))) fun _ _ => ?_
  refine IrrIn.bind (irr_wAll fun f hf => ?_) fun _ _ => ?_
  · exact IrrIn.bind (irr_funcVerdict fuel f (hp f (by simp [Cell.ptrs, hf]))) fun _ _ => IrrIn.ok _
  · exact irr_wDict (hp _ (by simp [Cell.ptrs]))

end Irr
end IrVerif.Clone
