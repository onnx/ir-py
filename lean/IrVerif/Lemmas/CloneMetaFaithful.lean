import IrVerif.Model.CloneMeta

/-! # `copy.deepcopy` is faithful: the copy observes to the same tree as the source

The final memo of one `deepcopy` call is a graph isomorphism from the reachable source cells onto
the new cells.  `IrVerif.Clone.Meta.deep_copy_meta_faithful` (Lemmas/CloneMeta.lean) is the result. -/
namespace IrVerif.Clone.Meta

/-- a well-formed heap: no dangling reference inside a cell -/
def HeapClosed (h : PyHeap) : Prop :=
  ∀ (i : Nat) (o : PyObj), h[i]? = some o → ∀ j, PyVal.ref j ∈ o.vals → j < h.length

theorem reach_closed {h : PyHeap} (hw : HeapClosed h) {roots : List PyVal}
    (hr : ∀ j, PyVal.ref j ∈ roots → j < h.length) : ∀ i, Reach h roots i → i < h.length := by
  intro i hi
  induction hi with
  | root hm => exact hr _ hm
  | step _ ho hj ih => exact hw _ _ ho _ hj

theorem reach_child {h : PyHeap} {i : Nat} {o : PyObj} {c : PyVal} (ho : h[i]? = some o)
    (hc : c ∈ o.vals) : ∀ j, Reach h [c] j → Reach h [PyVal.ref i] j := by
  intro j hj
  induction hj with
  | root hm =>
    simp only [List.mem_singleton] at hm
    subst hm
    exact .step (.root (by simp)) ho hc
  | step _ ho' hj' ih => exact .step ih ho' hj'

theorem optAll_congr {α β : Type} (f g : α → Option β) (xs : List α) (h : ∀ x ∈ xs, f x = g x) :
    optAll (xs.map f) = optAll (xs.map g) :=
  congrArg optAll (List.map_congr_left h)

/-- two heaps that agree below `n` observe alike from every value that reaches cells below `n`
    only -/
theorem obs_congr (n : Nat) (h1 h2 : PyHeap) (hsame : ∀ i, i < n → h2[i]? = h1[i]?) :
    ∀ (k : Nat) (v : PyVal), (∀ i, Reach h1 [v] i → i < n) → obs k h2 v = obs k h1 v := by
  intro k
  induction k with
  | zero => intro v _; cases v <;> rfl
  | succ k ih =>
    intro v hv
    cases v with
    | atom s => rfl
    | ref i =>
      have hi : i < n := hv i (.root (by simp))
      simp only [obs]
      rw [hsame i hi]
      cases ho : h1[i]? with
      | none => rfl
      | some o =>
        cases o with
        | list xs =>
          simp only
          rw [optAll_congr (obs k h2) (obs k h1) xs]
          intro c hc
          exact ih c fun j hj => hv j (reach_child ho (by simpa [PyObj.vals] using hc) j hj)
        | dict kv =>
          simp only
          rw [optAll_congr (fun e => obs k h2 e.2) (fun e => obs k h1 e.2) kv]
          intro e he
          exact ih e.2 fun j hj => hv j (reach_child ho
            (by simp only [PyObj.vals, List.mem_map]; exact ⟨e, he, rfl⟩) j hj)

/-- fuel induction for `dc`: what `dcStep` keeps for the calls that return holds of every `dc f` -/
theorem dc_ind {A : PyVal → DSt → PyVal → DSt → Prop}
    (hstep : ∀ rec, (∀ v st v' st', rec v st = .ok (v', st') → A v st v' st') →
      ∀ v st v' st', dcStep rec v st = .ok (v', st') → A v st v' st') :
    ∀ f v st v' st', dc f v st = .ok (v', st') → A v st v' st' := by
  intro f
  induction f with
  | zero =>
    intro v st v' st' h
    refine hstep (fun _ _ => .error .fuel) (fun _ _ _ _ h => by cases h) v st v' st' ?_
    cases v with
    | atom s => exact h
    | ref i => simp [dc] at h
  | succ f ih => intro v st v' st' h; exact hstep (dc f) ih v st v' st' (by cases v <;> exact h)

theorem cloneMeta_ok {deep : Bool} {fuel : Nat} {st st' : Store} {h h' : PyHeap}
    (hc : cloneMeta deep fuel st h = .ok (st', h')) :
    ∃ d, cloneData deep fuel st.data h = .ok (d, h') ∧ st' = { data := d, invalid := st.invalid } := by
  unfold cloneMeta at hc
  split at hc
  · cases hc
  · rename_i d h2 hd
    simp only [Except.ok.injEq, Prod.mk.injEq] at hc
    exact ⟨d, hc.2 ▸ hd, hc.1.symm⟩

namespace Faithful

/-- renaming of a value through a memo -/
def ren (m : List (Nat × Nat)) : PyVal → PyVal
  | .atom s => .atom s
  | .ref i =>
    match m.lookup i with
    | some j => .ref j
    | none => .ref i

/-- the value is an atom or a key of the memo -/
def InDom (m : List (Nat × Nat)) : PyVal → Prop
  | .atom _ => True
  | .ref i => ∃ j, m.lookup i = some j

def Mono (m m' : List (Nat × Nat)) : Prop :=
  ∀ a a', m.lookup a = some a' → m'.lookup a = some a'

theorem ren_stable {m m' : List (Nat × Nat)} {c : PyVal} (hd : InDom m c) (hm : Mono m m') :
    ren m' c = ren m c ∧ InDom m' c := by
  cases c with
  | atom s => exact ⟨rfl, trivial⟩
  | ref i =>
    obtain ⟨j, hj⟩ := hd
    have h2 := hm _ _ hj
    exact ⟨by simp [ren, hj, h2], ⟨j, h2⟩⟩

theorem map_ren_stable {m m' : List (Nat × Nat)} {vs : List PyVal}
    (hd : ∀ c ∈ vs, InDom m c) (hm : Mono m m') :
    vs.map (ren m') = vs.map (ren m) ∧ ∀ c ∈ vs, InDom m' c :=
  ⟨List.map_congr_left fun c hc => (ren_stable (hd c hc) hm).1,
   fun c hc => (ren_stable (hd c hc) hm).2⟩

/-- the value is not a dangling reference -/
def SrcOk (h : PyHeap) (v : PyVal) : Prop := ∀ j, v = .ref j → j < h.length

structure Ext (st st' : DSt) : Prop where
  len : st.h.length ≤ st'.h.length
  mono : Mono st.memo st'.memo
  new : ∀ a a', st'.memo.lookup a = some a' → st.memo.lookup a = some a' ∨ st.h.length ≤ a'

theorem Ext.refl (st : DSt) : Ext st st :=
  ⟨Nat.le_refl _, fun _ _ h => h, fun _ _ h => Or.inl h⟩

theorem Ext.trans {a b c : DSt} (h1 : Ext a b) (h2 : Ext b c) : Ext a c := by
  refine ⟨Nat.le_trans h1.len h2.len, fun x y h => h2.mono _ _ (h1.mono _ _ h), ?_⟩
  intro x y h
  rcases h2.new _ _ h with h | h
  · exact h1.new _ _ h
  · exact Or.inr (Nat.le_trans h1.len h)

/-- invariant of one `deepcopy` call on the source heap `h`; `P`: allocated, not yet filled cells -/
structure InvF (h : PyHeap) (P : List Nat) (st : DSt) : Prop where
  len : h.length ≤ st.h.length
  old : ∀ i, i < h.length → st.h[i]? = h[i]?
  rng : ∀ a a', st.memo.lookup a = some a' → h.length ≤ a' ∧ a' < st.h.length
  fin : ∀ a a', st.memo.lookup a = some a' → a' ∉ P →
    ∃ o, h[a]? = some o ∧ st.h[a']? = some (o.withVals (o.vals.map (ren st.memo))) ∧
      ∀ c ∈ o.vals, InDom st.memo c
  cov : ∀ j, h.length ≤ j → j < st.h.length → ∃ a, st.memo.lookup a = some j

def Spec (h : PyHeap) (rec : PyVal → DM PyVal) : Prop :=
  ∀ P v st v' st', rec v st = .ok (v', st') → SrcOk h v → InvF h P st →
    InvF h P st' ∧ Ext st st' ∧ v' = ren st'.memo v ∧ InDom st'.memo v

theorem dcList_spec {h : PyHeap} {rec : PyVal → DM PyVal} (hrec : Spec h rec) :
    ∀ vs P st vs' st', dcList rec vs st = .ok (vs', st') → (∀ c ∈ vs, SrcOk h c) → InvF h P st →
      InvF h P st' ∧ Ext st st' ∧ vs' = vs.map (ren st'.memo) ∧ ∀ c ∈ vs, InDom st'.memo c := by
  intro vs
  induction vs with
  | nil =>
    intro P st vs' st' hc _ hi
    simp only [dcList, Except.ok.injEq, Prod.mk.injEq] at hc
    obtain ⟨rfl, rfl⟩ := hc
    exact ⟨hi, Ext.refl _, rfl, by simp⟩
  | cons a as ih =>
    intro P st vs' st' hc hs hi
    simp only [dcList] at hc
    split at hc
    · cases hc
    · rename_i a' s1 h1
      split at hc
      · cases hc
      · rename_i as' s2 h2
        simp only [Except.ok.injEq, Prod.mk.injEq] at hc
        obtain ⟨rfl, rfl⟩ := hc
        obtain ⟨i1, e1, ra, da⟩ := hrec P a st a' s1 h1 (hs a (by simp)) hi
        obtain ⟨i2, e2, ras, das⟩ := ih P s1 as' s2 h2 (fun c hc => hs c (by simp [hc])) i1
        have := ren_stable da e2.mono
        refine ⟨i2, e1.trans e2, ?_, ?_⟩
        · simp [ra, ras, this.1]
        · intro c hc
          rcases List.mem_cons.1 hc with rfl | hc
          · exact this.2
          · exact das c hc

theorem dcStep_spec {h : PyHeap} (hcl : HeapClosed h) {rec : PyVal → DM PyVal} (hrec : Spec h rec) :
    Spec h (dcStep rec) := by
  intro P v st v' st' hc hv hi
  cases v with
  | atom s =>
    simp only [dcStep, Except.ok.injEq, Prod.mk.injEq] at hc
    obtain ⟨rfl, rfl⟩ := hc
    exact ⟨hi, Ext.refl _, rfl, trivial⟩
  | ref i =>
    have hin : i < h.length := hv i rfl
    simp only [dcStep] at hc
    split at hc
    · rename_i j hj
      simp only [Except.ok.injEq, Prod.mk.injEq] at hc
      obtain ⟨rfl, rfl⟩ := hc
      exact ⟨hi, Ext.refl _, by simp [ren, hj], ⟨j, hj⟩⟩
    · rename_i hmiss
      split at hc
      · cases hc
      · rename_i o ho
        have hho : h[i]? = some o := by rw [← hi.old i hin]; exact ho
        split at hc
        · cases hc
        · rename_i ys st2 hl
          simp only [Except.ok.injEq, Prod.mk.injEq] at hc
          obtain ⟨rfl, rfl⟩ := hc
          -- the state after allocation
          have hmono1 : Mono st.memo ((i, st.h.length) :: st.memo) := by
            intro a a' ha
            have : a ≠ i := by rintro rfl; rw [hmiss] at ha; cases ha
            have hb : (a == i) = false := by simp [this]
            simp [List.lookup_cons, hb, ha]
          have i1 : InvF h (st.h.length :: P)
              { h := st.h ++ [o.empty], memo := (i, st.h.length) :: st.memo } := by
            refine ⟨by simp; have := hi.len; omega, ?_, ?_, ?_, ?_⟩
            · intro k hk
              have := hi.len
              simp only
              rw [List.getElem?_append_left (by omega)]
              exact hi.old k hk
            · intro a a' ha
              simp only [List.lookup_cons] at ha
              simp only [List.length_append, List.length_singleton]
              split at ha
              · cases ha
                have := hi.len
                omega
              · have := hi.rng a a' ha
                omega
            · intro a a' ha hP
              simp only [List.lookup_cons] at ha
              split at ha
              · cases ha
                simp at hP
              · obtain ⟨o0, h0, hc0, hd0⟩ := hi.fin a a' ha (fun hh => hP (List.mem_cons_of_mem _ hh))
                have hst := map_ren_stable hd0 hmono1
                refine ⟨o0, h0, ?_, hst.2⟩
                simp only
                rw [hst.1, List.getElem?_append_left (hi.rng a a' ha).2]
                exact hc0
            · intro j hj1 hj2
              simp only [List.length_append, List.length_singleton] at hj2
              by_cases hjy : j = st.h.length
              · exact ⟨i, by simp [hjy]⟩
              · obtain ⟨a, ha⟩ := hi.cov j hj1 (by omega)
                exact ⟨a, hmono1 _ _ ha⟩
          have e1 : Ext st { h := st.h ++ [o.empty], memo := (i, st.h.length) :: st.memo } := by
            refine ⟨by simp, hmono1, ?_⟩
            intro a a' ha
            simp only [List.lookup_cons] at ha
            split at ha
            · cases ha
              exact Or.inr (Nat.le_refl _)
            · exact Or.inl ha
          have hch : ∀ c ∈ o.vals, SrcOk h c := by
            intro c hc j hj
            subst hj
            exact hcl i o hho j hc
          obtain ⟨i2, e2, rys, dys⟩ := dcList_spec hrec _ _ _ _ _ hl hch i1
          have hiy : st2.memo.lookup i = some st.h.length :=
            e2.mono _ _ (by simp)
          have hylt : st.h.length < st2.h.length := by
            have := e2.len
            simp only [List.length_append, List.length_singleton] at this
            omega
          have hkey : ∀ a, st2.memo.lookup a = some st.h.length → a = i := by
            intro a ha
            rcases e2.new _ _ ha with h1 | h1
            · simp only [List.lookup_cons] at h1
              split at h1
              · rename_i hai
                simpa using hai
              · have := (hi.rng _ _ h1).2
                omega
            · simp only [List.length_append, List.length_singleton] at h1
              omega
          refine ⟨⟨?_, ?_, ?_, ?_, ?_⟩, ?_, ?_, ⟨_, hiy⟩⟩
          · simpa using i2.len
          · intro k hk
            have := hi.len
            simp only
            rw [List.getElem?_set_ne (by omega)]
            exact i2.old k hk
          · intro a a' ha
            simpa using i2.rng a a' ha
          · intro a a' ha hP
            simp only at ha
            by_cases hy : a' = st.h.length
            · subst hy
              have := hkey a ha
              subst this
              refine ⟨o, hho, ?_, dys⟩
              simp only
              rw [List.getElem?_set_self hylt, rys]
            · obtain ⟨o0, h0, hc0, hd0⟩ := i2.fin a a' ha (by simp [hy, hP])
              refine ⟨o0, h0, ?_, hd0⟩
              simp only
              rw [List.getElem?_set_ne (fun hh => hy hh.symm)]
              exact hc0
          · intro j hj1 hj2
            simp only [List.length_set] at hj2
            exact i2.cov j hj1 hj2
          · have e := e1.trans e2
            exact ⟨by simpa using e.len, e.mono, e.new⟩
          · simp [ren, hiy]

theorem dc_spec {h : PyHeap} (hcl : HeapClosed h) (f : Nat) : Spec h (dc f) := fun P v st v' st' hc =>
  dc_ind (A := fun v st v' st' => ∀ P, SrcOk h v → InvF h P st →
      InvF h P st' ∧ Ext st st' ∧ v' = ren st'.memo v ∧ InDom st'.memo v)
    (fun _ hrec v st v' st' hc P => dcStep_spec hcl (fun P v st v' st' hc => hrec v st v' st' hc P) P v st v' st' hc)
    f v st v' st' hc P

theorem zip_withVals (kv : List (String × PyVal)) (f : PyVal → PyVal) :
    (kv.map (·.1)).zip ((kv.map (·.2)).map f) = kv.map (fun e => (e.1, f e.2)) := by
  rw [List.map_map, List.zip_map']
  rfl

theorem vals_withVals_map (o : PyObj) (f : PyVal → PyVal) :
    (o.withVals (o.vals.map f)).vals = o.vals.map f := by
  cases o with
  | list xs => rfl
  | dict kv =>
    simp only [PyObj.withVals, PyObj.vals]
    rw [zip_withVals]
    simp [List.map_map, Function.comp_def]

/-- with no pending cell, the memo is an isomorphism: renamed values observe the same -/
theorem obs_ren {h : PyHeap} {st : DSt} (hi : InvF h [] st) :
    ∀ k v, InDom st.memo v → obs k st.h (ren st.memo v) = obs k h v := by
  intro k
  induction k with
  | zero =>
    intro v hd
    cases v with
    | atom s => simp [ren, obs]
    | ref a =>
      obtain ⟨j, hj⟩ := hd
      simp [ren, hj, obs]
  | succ k ih =>
    intro v hd
    cases v with
    | atom s => simp [ren, obs]
    | ref a =>
      obtain ⟨j, hj⟩ := hd
      obtain ⟨o, ho, hc, hdc⟩ := hi.fin a j hj (by simp)
      simp only [ren, hj, obs, ho, hc]
      cases o with
      | list xs =>
        simp only [PyObj.withVals, PyObj.vals, List.map_map]
        have : xs.map (obs k st.h ∘ ren st.memo) = xs.map (obs k h) :=
          List.map_congr_left fun c hc => ih c (hdc c hc)
        rw [this]
      | dict kv =>
        simp only [PyObj.withVals, PyObj.vals]
        rw [zip_withVals]
        simp only [List.map_map]
        have : kv.map ((fun e => obs k st.h e.2) ∘ fun e => (e.1, ren st.memo e.2))
            = kv.map (fun e => obs k h e.2) :=
          List.map_congr_left fun e he => ih e.2 (hdc e.2 (by
            simp only [PyObj.vals, List.mem_map]; exact ⟨e, he, rfl⟩))
        rw [this]
        have : ((fun e : String × PyVal => e.1) ∘ fun e => (e.1, ren st.memo e.2))
            = (fun e : String × PyVal => e.1) := rfl
        rw [this]

theorem deepcopy_inv (fuel : Nat) (v v' : PyVal) (h h' : PyHeap) (hwf : HeapClosed h)
    (hc : deepcopy fuel v h = .ok (v', h')) :
    ∃ st : DSt, st.h = h' ∧ InvF h [] st ∧ v' = ren st.memo v ∧ InDom st.memo v := by
  unfold deepcopy at hc
  split at hc
  · cases hc
  · rename_i w st hdc
    simp only [Except.ok.injEq, Prod.mk.injEq] at hc
    obtain ⟨rfl, rfl⟩ := hc
    have hv : SrcOk h v := by
      intro j hj
      subst hj
      refine Classical.byContradiction fun hge => ?_
      have hn : h[j]? = none := by simp; omega
      cases fuel with
      | zero => simp [dc] at hdc
      | succ f => simp [dc, dcStep, hn] at hdc
    have h0 : InvF h [] { h := h, memo := [] } :=
      ⟨Nat.le_refl _, fun _ _ => rfl, by simp, by simp, by intro j h1 h2; simp at h2; omega⟩
    obtain ⟨i1, _, r, d⟩ := dc_spec hwf fuel [] v _ w st hdc hv h0
    exact ⟨st, rfl, i1, r, d⟩

/-- the deep copy of a value observes to the same tree as the source value, to every depth
    (`hwf`: no cell of the source heap holds a dangling reference; otherwise a dangling slot could
    point INTO the copy under construction and the copy would be observable deeper than the source) -/
theorem deepcopy_faithful (fuel : Nat) (v v' : PyVal) (h h' : PyHeap) (hwf : HeapClosed h)
    (hc : deepcopy fuel v h = .ok (v', h')) : ∀ k, obs k h' v' = obs k h v := by
  obtain ⟨st, rfl, hi, rfl, hd⟩ := deepcopy_inv fuel v v' h h' hwf hc
  exact fun k => obs_ren hi k v hd

/-- frame: `deepcopy` only appends; the result heap is closed again; the copy is not dangling -/
theorem deepcopy_frame (fuel : Nat) (v v' : PyVal) (h h' : PyHeap) (hwf : HeapClosed h)
    (hc : deepcopy fuel v h = .ok (v', h')) :
    h.length ≤ h'.length ∧ (∀ i, i < h.length → h'[i]? = h[i]?) ∧ HeapClosed h' ∧ SrcOk h' v' := by
  obtain ⟨st, rfl, hi, rfl, hd⟩ := deepcopy_inv fuel v v' h h' hwf hc
  refine ⟨hi.len, hi.old, ?_, ?_⟩
  · intro a' o' ho' j hj
    by_cases hlt : a' < h.length
    · rw [hi.old a' hlt] at ho'
      have := hwf a' o' ho' j hj
      have := hi.len
      omega
    · have hlt2 : a' < st.h.length := by
        apply Classical.byContradiction
        intro hge
        have : st.h[a']? = none := by simp; omega
        rw [this] at ho'
        cases ho'
      obtain ⟨a, ha⟩ := hi.cov a' (by omega) hlt2
      obtain ⟨o, _, hc0, hd0⟩ := hi.fin a a' ha (by simp)
      rw [hc0] at ho'
      cases ho'
      rw [vals_withVals_map, List.mem_map] at hj
      obtain ⟨c, hc1, hc2⟩ := hj
      have hdc := hd0 c hc1
      cases c with
      | atom s => simp [ren] at hc2
      | ref b =>
        obtain ⟨j', hj'⟩ := hdc
        simp [ren, hj'] at hc2
        subst hc2
        exact (hi.rng b j' hj').2
  · intro j hj
    cases v with
    | atom s => simp [ren] at hj
    | ref b =>
      obtain ⟨j', hj'⟩ := hd
      simp [ren, hj'] at hj
      subst hj
      exact (hi.rng b j' hj').2

/-- on a closed heap, extending the heap does not change what a non-dangling value observes to -/
theorem obs_ext {h h2 : PyHeap} (hwf : HeapClosed h) (hpre : ∀ i, i < h.length → h2[i]? = h[i]?)
    (k : Nat) (v : PyVal) (hv : SrcOk h v) : obs k h2 v = obs k h v :=
  obs_congr h.length h h2 hpre k v (reach_closed hwf fun j hj => hv j (List.mem_singleton.1 hj).symm)

theorem cloneData_faithful (fuel : Nat) :
    ∀ (data data' : List (String × PyVal)) (h h' : PyHeap), HeapClosed h →
      (∀ e ∈ data, SrcOk h e.2) → cloneData true fuel data h = .ok (data', h') →
      data'.map (·.1) = data.map (·.1) ∧ h.length ≤ h'.length ∧
      (∀ i, i < h.length → h'[i]? = h[i]?) ∧
      (∀ k, data'.map (fun e => obs k h' e.2) = data.map (fun e => obs k h e.2)) ∧
      HeapClosed h' ∧ ∀ e ∈ data', SrcOk h' e.2 := by
  intro data
  induction data with
  | nil =>
    intro data' h h' hwf _ hc
    simp only [cloneData, Except.ok.injEq, Prod.mk.injEq] at hc
    obtain ⟨rfl, rfl⟩ := hc
    exact ⟨rfl, Nat.le_refl _, fun _ _ => rfl, fun _ => rfl, hwf, fun e he => (by cases he)⟩
  | cons e rest ih =>
    intro data' h h' hwf hst hc
    obtain ⟨key, v⟩ := e
    simp only [cloneData, if_true] at hc
    split at hc
    · cases hc
    · rename_i v' h1 hd
      split at hc
      · cases hc
      · rename_i rest' h2 hr
        simp only [Except.ok.injEq, Prod.mk.injEq] at hc
        obtain ⟨rfl, rfl⟩ := hc
        have hf := deepcopy_faithful fuel v v' h h1 hwf hd
        obtain ⟨hlen, hpre, hwf1, hv'⟩ := deepcopy_frame fuel v v' h h1 hwf hd
        have hst1 : ∀ e ∈ rest, SrcOk h1 e.2 := by
          intro e he j hj
          have := hst e (List.mem_cons_of_mem _ he) j hj
          omega
        obtain ⟨hk, hlen2, hpre2, hobs, hwf2, hok2⟩ := ih rest' h1 h2 hwf1 hst1 hr
        refine ⟨by simp [hk], by omega, ?_, ?_, hwf2, ?_⟩
        · intro i hi
          rw [hpre2 i (by omega), hpre i hi]
        · intro k
          simp only [List.map_cons]
          rw [hobs k, obs_ext hwf1 hpre2 k v' hv', hf k]
          congr 1
          exact List.map_congr_left fun e he =>
            obs_ext hwf hpre k e.2 (hst e (List.mem_cons_of_mem _ he))
        · intro e he j hj
          rcases List.mem_cons.1 he with rfl | he
          · have := hv' j hj; omega
          · exact hok2 e he j hj

/-- a deep-copied store observes to the same trees as the source store, to every depth (`hwf`: the
    heap is closed; `hst`: no value of the store is a dangling reference -- a dangling one could be
    "repaired" by the cells that the copies of earlier keys append) -/
theorem deep_copy_meta_faithful (fuel : Nat) (st st' : Store) (h h' : PyHeap) (hwf : HeapClosed h)
    (hst : ∀ e ∈ st.data, SrcOk h e.2)
    (hc : cloneMeta true fuel st h = .ok (st', h')) :
    ∀ k, obsStore k h' st' = obsStore k h st := by
  obtain ⟨d, hd, rfl⟩ := cloneMeta_ok hc
  obtain ⟨hk, _, _, hobs, _⟩ := cloneData_faithful fuel st.data d h h' hwf hst hd
  intro k
  simp only [obsStore, hk, hobs k]

/-- non-vacuity: a closed cyclic heap (a list that contains itself and a dict that points back to
    it) is deep-copied successfully -/
example :
    let h : PyHeap := [.list [.ref 0, .ref 1, .atom "a"], .dict [("x", .ref 0), ("y", .atom "b")]]
    HeapClosed h ∧ (deepcopy 5 (.ref 0) h).toBool = true ∧
      (cloneMeta true 5 { data := [("k", .ref 0), ("l", .ref 1)], invalid := [] } h).toBool = true := by
  refine ⟨?_, by decide, by decide⟩
  intro i o ho j hj
  match i, ho with
  | 0, ho => cases ho; simp [PyObj.vals] at hj; simp; omega
  | 1, ho => cases ho; simp [PyObj.vals] at hj; simp; omega

/-- `hwf` is needed: a cell with a dangling slot (`ref 1` in a one-cell heap) makes `deepcopy` copy
    the cell it has just allocated; the copy then observes deeper than the source -/
example :
    let h : PyHeap := [.list [.ref 1]]
    ∃ v' h', deepcopy 5 (.ref 0) h = .ok (v', h') ∧ obs 2 h' v' ≠ obs 2 h (.ref 0) :=
  ⟨.ref 1, [.list [.ref 1], .list [.ref 2], .list []], rfl, by decide⟩

/-- `hst` is needed: a dangling value of a later key is "repaired" by the copy of an earlier key -/
example :
    let h : PyHeap := [.list []]
    let st : Store := { data := [("a", .ref 0), ("b", .ref 1)], invalid := [] }
    HeapClosed h ∧ ∃ st' h', cloneMeta true 5 st h = .ok (st', h') ∧ obsStore 1 h' st' ≠ obsStore 1 h st := by
  refine ⟨?_, { data := [("a", .ref 1), ("b", .ref 2)], invalid := [] },
    [.list [], .list [], .list []], rfl, by decide⟩
  intro i o ho j hj
  match i, ho with
  | 0, ho => cases ho; simp [PyObj.vals] at hj

end Faithful
end IrVerif.Clone.Meta
