/-
The post-pass of the IR version < 10 format of the extended model (`Model/ScopeExt9.lean`) in closed form: the
store is that of the core post-pass (`postFold`), the extension state gets a list of merges that is read off the
names in the store the post-pass starts from (`metaSteps`; the post-pass never changes a name): `foldE_eq`.  From it
erasure (`deserializeME9_erase`: store and tree of `deserializeME9` are those of the core run `deserializeM9` on the
erased proto, same error) and what the merges do to the extension state.
-/
import IrVerif.Model.ScopeExt9
import IrVerif.Lemmas.ScopeFunc9Post
import IrVerif.Lemmas.ScopeExtGen
import IrVerif.Lemmas.ScopeExtLocal
namespace IrVerif.Scope

theorem eraseVT_reverse (t : List (Name × Info × SS)) : eraseVT t.reverse = (eraseVT t).reverse := by
  simp [eraseVT, List.map_reverse]

theorem expEntriesForE_erase (fids : List FId) (fid : FId) (vi : List VInfoE) :
    eraseVT (expEntriesForE fids vi fid) = expEntriesFor fids (vi.map VInfoE.erase) fid := by
  simp only [eraseVT, expEntriesForE, expEntriesFor, List.map_filterMap, List.filterMap_map]
  congr 1
  funext e
  simp only [Function.comp_apply, VInfoE.erase]
  cases parseExp e.name with
  | none => rfl
  | some t =>
    obtain ⟨d, f, v⟩ := t
    simp only
    split <;> rfl

/-- the mapping of one function with the metadata, newest entry first -/
def tblE (vi : List VInfoE) (fids : List FId) (k : FId) : List (Name × Info × SS) := (expEntriesForE fids vi k).reverse

/-- `value.metadata_props` after `deserialize_value_info_proto(mapping[value.name], value)`, if the name is mapped -/
def updMeta (tbl : List (Name × Info × SS)) (c : ValueS) (m : SS) : SS :=
  match c.name with
  | none => m
  | some n =>
    match tbl.lookup n with
    | some e => ssUpdate m e.2
    | none => m

/-- the merges `applyInfosE` performs for the values `l`: one per value whose name is in the mapping -/
def metaSteps (V : Nat → ValueS) (tbl : List (Name × Info × SS)) (l : List Nat) : List (Nat × SS) :=
  l.filterMap fun v => match (V v).name with
    | none => none
    | some n => (tbl.lookup n).map fun e => (v, e.2)

def Ext.mergeAll (x : Ext) (steps : List (Nat × SS)) : Ext := steps.foldl (fun x s => x.merge s.1 s.2) x

theorem metaSteps_congr {V W : Nat → ValueS} (h : ∀ v, (W v).name = (V v).name) (tbl : List (Name × Info × SS))
    (l : List Nat) : metaSteps W tbl l = metaSteps V tbl l := by
  simp only [metaSteps, h]

theorem Ext.mergeAll_append (x : Ext) (a b : List (Nat × SS)) : x.mergeAll (a ++ b) = (x.mergeAll a).mergeAll b :=
  List.foldl_append

theorem modify_info_name (st : Store) (v : Nat) (i : Info) (u : Nat) :
    ((st.modify v fun c => { c with info := i }).vals u).name = (st.vals u).name := by
  simp only [Store.modify]; split <;> rfl

theorem applyInfosE_eq (tbl : List (Name × Info × SS)) : ∀ (l : List Nat) (st : Store) (x : Ext),
    applyInfosE st x tbl l = (applyInfos st (eraseVT tbl) l, x.mergeAll (metaSteps st.vals tbl l))
  | [], _, _ => rfl
  | v :: vs, st, x => by
    have ih := applyInfosE_eq tbl vs
    cases hn : (st.vals v).name with
    | none => simp only [applyInfosE, applyInfos, metaSteps, List.filterMap_cons, hn, ih]
    | some n =>
      cases hl : tbl.lookup n with
      | none => simp only [applyInfosE, applyInfos, metaSteps, List.filterMap_cons, hn, hl, eraseVT_lookup, Option.map_none, ih]
      | some e =>
        simp only [applyInfosE, applyInfos, metaSteps, List.filterMap_cons, hn, hl, eraseVT_lookup, Option.map_some, ih]
        have := metaSteps_congr (modify_info_name st v e.1) tbl vs
        simp only [metaSteps] at this
        rw [this]
        rfl

/-- the merges of one function -/
def funcSteps (V : Nat → ValueS) (vi : List VInfoE) (fids : List FId) (f : FId × GraphT) : List (Nat × SS) :=
  metaSteps V (tblE vi fids f.1) (fvals f.2)

theorem metaSteps_append (V : Nat → ValueS) (tbl : List (Name × Info × SS)) (a b : List Nat) :
    metaSteps V tbl (a ++ b) = metaSteps V tbl a ++ metaSteps V tbl b := List.filterMap_append

theorem applyExpFuncE_eq (vi : List VInfoE) (fids : List FId) (sx : Store × Ext) (f : FId × GraphT) :
    applyExpFuncE vi fids sx f =
      (applyExpFunc (vi.map VInfoE.erase) fids sx.1 f, sx.2.mergeAll (funcSteps sx.1.vals vi fids f)) := by
  obtain ⟨k, gid, ins, its, nodes, outs⟩ := f
  simp only [applyExpFuncE, applyExpFunc, applyInfosE_eq, funcSteps, fvals, GraphT.inputs, GraphT.nodes, tblE,
    metaSteps_append, Ext.mergeAll_append, eraseVT_reverse, expEntriesForE_erase,
    metaSteps_congr (applyInfos_name _ ins sx.1)]

/-- the post-pass of `deserializeME9` in closed form -/
theorem foldE_eq (vi : List VInfoE) (fids : List FId) : ∀ (fs : List (FId × GraphT)) (sx : Store × Ext),
    fs.foldl (applyExpFuncE vi fids) sx =
      (postFold (vi.map VInfoE.erase) fids fs sx.1, sx.2.mergeAll (fs.flatMap (funcSteps sx.1.vals vi fids)))
  | [], _ => rfl
  | f :: fs, sx => by
    have : funcSteps (applyExpFunc (vi.map VInfoE.erase) fids sx.1 f).vals vi fids = funcSteps sx.1.vals vi fids :=
      funext fun g => metaSteps_congr (applyExpFunc_name _ fids sx.1 f) _ _
    rw [List.foldl_cons, foldE_eq vi fids fs, applyExpFuncE_eq, postFold_cons, List.flatMap_cons, Ext.mergeAll_append, this]

theorem Ext.mergeAll_wf {x : Ext} (h : ExtWF x) : ∀ (s : List (Nat × SS)), ExtWF (x.mergeAll s) := by
  intro s
  induction s generalizing x with
  | nil => exact h
  | cons a s ih => exact ih (h.merge a.1 a.2)

theorem Ext.mergeAll_quant (x : Ext) (s : List (Nat × SS)) : (x.mergeAll s).quant = x.quant := by
  induction s generalizing x with
  | nil => rfl
  | cons a s ih => exact (ih _).trans (Ext.merge_quant x a.1 a.2)

theorem metaSteps_key {V : Nat → ValueS} {tbl : List (Name × Info × SS)} {l : List Nat} {s : Nat × SS}
    (h : s ∈ metaSteps V tbl l) : s.1 ∈ l := by
  simp only [metaSteps, List.mem_filterMap] at h
  obtain ⟨v, hv, h⟩ := h
  split at h
  · cases h
  · cases hl : tbl.lookup _ with
    | none => rw [hl] at h; cases h
    | some e => rw [hl] at h; cases h; exact hv

theorem Ext.mergeAll_vmeta_other (x : Ext) (v : Nat) : ∀ (s : List (Nat × SS)), (∀ a ∈ s, a.1 ≠ v) →
    (x.mergeAll s).vmeta v = x.vmeta v := by
  intro s
  induction s generalizing x with
  | nil => intro _; rfl
  | cons a s ih =>
    intro h
    show ((x.merge a.1 a.2).mergeAll s).vmeta v = _
    rw [ih _ (fun b hb => h b (List.mem_cons_of_mem _ hb)), Ext.merge_vmeta, if_neg (Ne.symm (h a List.mem_cons_self))]

theorem Ext.mergeAll_single (x : Ext) (V : Nat → ValueS) (tbl : List (Name × Info × SS)) (v : Nat) :
    (x.mergeAll (metaSteps V tbl [v])).vmeta v = updMeta tbl (V v) (x.vmeta v) := by
  cases hn : (V v).name with
  | none => simp only [metaSteps, List.filterMap_cons, List.filterMap_nil, hn, updMeta]; rfl
  | some n =>
    cases hl : tbl.lookup n with
    | none => simp only [metaSteps, List.filterMap_cons, List.filterMap_nil, hn, hl, Option.map_none, updMeta]; rfl
    | some e =>
      simp only [metaSteps, List.filterMap_cons, List.filterMap_nil, hn, hl, Option.map_some, updMeta]
      exact (Ext.merge_vmeta x v e.2 v).trans (if_pos rfl)

theorem eraseG_vinfo (g : GraphE) : (eraseG g).vinfo = g.vinfo.map VInfoE.erase := by
  cases g with
  | mk i t vi n o q => simp [eraseG, GraphP.vinfo, GraphE.vinfo]

theorem deserializeME9_erase (p : ModelE) :
    (match deserializeME9 p with
      | .ok w => deserializeM9 (eraseM p) = .ok w.core
      | .error e => deserializeM9 (eraseM p) = .error e) := by
  have h := deserializeME_erase p
  simp only [deserializeME9, deserializeM9]
  cases hd : deserializeME p with
  | error e =>
    rw [hd] at h
    simp only [h]
  | ok m =>
    rw [hd] at h
    simp only [h]
    have hv : (eraseM p).graph.vinfo = p.graph.vinfo.map VInfoE.erase := eraseG_vinfo p.graph
    simp only [MWorldE.core, hv]
    rw [foldE_eq]; rfl

end IrVerif.Scope
