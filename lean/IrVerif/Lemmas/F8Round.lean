/-
The rounding specification of the narrow float conversions of C04 (`Model/PyTensor.lean`): one
step is nearest, ties to even (`rne_halfulp`); `bitLen m` is the position of the leading bit, hence
`roundQ` is the exponent of the last place of a NORMALISED significand (`2^mb <= r <= 2^(mb+1)`, the
upper end being the rounding carry) or the subnormal exponent `qmin` (`r <= 2^mb`), and the
assembled pattern `(q - qmin) * 2^mb + r` DECODES (`decFields`) to `r * 2^q`.
-/
import IrVerif.Model.PyTensor
namespace IrVerif.PyTensor

theorem bitLenF_zero (fuel : Nat) : bitLenF fuel 0 = 0 := by
  cases fuel <;> simp [bitLenF]

theorem bitLenF_spec : ∀ (fuel m : Nat), m ≤ fuel → 0 < m →
    2 ^ (bitLenF fuel m - 1) ≤ m ∧ m < 2 ^ bitLenF fuel m ∧ 1 ≤ bitLenF fuel m
  | 0, m, h, hm => by omega
  | fuel + 1, m, h, hm => by
    have hne : m ≠ 0 := by omega
    simp only [bitLenF, hne, if_false]
    by_cases h2 : m / 2 = 0
    · have h1 : m = 1 := by omega
      subst h1
      have h0 : bitLenF fuel (1 / 2) = 0 := by
        have : (1 : Nat) / 2 = 0 := by decide
        rw [this]; exact bitLenF_zero fuel
      rw [h0]; decide
    · obtain ⟨a, b, c⟩ := bitLenF_spec fuel (m / 2) (by omega) (by omega)
      generalize bitLenF fuel (m / 2) = L at *
      have e1 : 1 + L - 1 = (L - 1) + 1 := by omega
      have e2 : 2 ^ (1 + L) = 2 ^ L * 2 := by rw [Nat.add_comm, Nat.pow_succ]
      have e3 : 2 ^ L = 2 ^ (L - 1) * 2 := by rw [← Nat.pow_succ]; congr 1; omega
      rw [e1, Nat.pow_succ, e2]
      refine ⟨by omega, by omega, by omega⟩

theorem bitLen_spec (m : Nat) (hm : 0 < m) :
    2 ^ (bitLen m - 1) ≤ m ∧ m < 2 ^ bitLen m ∧ 1 ≤ bitLen m :=
  bitLenF_spec m m (Nat.le_refl m) hm

theorem rne_step_bounds (m s : Nat) :
    m / 2 ^ s ≤ (if m % 2 ^ s > 2 ^ (s - 1) ∨ (m % 2 ^ s = 2 ^ (s - 1) ∧ m / 2 ^ s % 2 = 1) then m / 2 ^ s + 1 else m / 2 ^ s) ∧
    (if m % 2 ^ s > 2 ^ (s - 1) ∨ (m % 2 ^ s = 2 ^ (s - 1) ∧ m / 2 ^ s % 2 = 1) then m / 2 ^ s + 1 else m / 2 ^ s) ≤ m / 2 ^ s + 1 := by
  split <;> omega

/-- dropping `t + 1` bits, `P = 2^(t+1)`: `|m - r * P| <= P / 2` (doubled), `r` even at a tie -/
theorem rne_halfulp (m t : Nat) (r : Nat)
    (hr : r = if m % 2 ^ (t + 1) > 2 ^ t ∨ (m % 2 ^ (t + 1) = 2 ^ t ∧ m / 2 ^ (t + 1) % 2 = 1)
      then m / 2 ^ (t + 1) + 1 else m / 2 ^ (t + 1)) :
    2 * r * 2 ^ (t + 1) ≤ 2 * m + 2 ^ (t + 1) ∧ 2 * m ≤ (2 * r + 1) * 2 ^ (t + 1) ∧
    (2 * m = (2 * r + 1) * 2 ^ (t + 1) → r % 2 = 0) ∧
    (2 * m + 2 ^ (t + 1) = 2 * r * 2 ^ (t + 1) → r % 2 = 0) := by
  have hP : 2 ^ (t + 1) = 2 * 2 ^ t := Nat.pow_succ'
  have hdm := Nat.div_add_mod m (2 ^ (t + 1))
  have hlt := Nat.mod_lt m (Nat.two_pow_pos (t + 1))
  generalize m / 2 ^ (t + 1) = fl at *
  generalize m % 2 ^ (t + 1) = rem at *
  -- `X = fl * P` is the only product left; everything else is linear in `X`, `rem`, `2^t`
  have e1 : 2 * r * 2 ^ (t + 1) = 2 * (r * 2 ^ (t + 1)) := Nat.mul_assoc _ _ _
  have e2 : (2 * r + 1) * 2 ^ (t + 1) = 2 * (r * 2 ^ (t + 1)) + 2 ^ (t + 1) := by
    rw [Nat.add_mul, Nat.one_mul, Nat.mul_assoc]
  rw [e1, e2]
  split at hr
  · have hX : r * 2 ^ (t + 1) = 2 ^ (t + 1) * fl + 2 ^ (t + 1) := by
      rw [hr, Nat.add_mul, Nat.one_mul, Nat.mul_comm]
    rw [hX]
    generalize 2 ^ (t + 1) * fl = X at *
    omega
  · have hX : r * 2 ^ (t + 1) = 2 ^ (t + 1) * fl := by rw [hr, Nat.mul_comm]
    rw [hX]
    generalize 2 ^ (t + 1) * fl = X at *
    omega

/-- normal range: the leading bit of the input is at or above the smallest normal exponent -/
theorem roundR_normal (mb : Nat) (qmin : Int) (m : Nat) (e : Int) (hm : 0 < m)
    (hn : qmin ≤ e + bitLen m - 1 - mb) :
    roundQ mb qmin m e = e + bitLen m - 1 - mb ∧
    2 ^ mb ≤ roundR mb qmin m e ∧ roundR mb qmin m e ≤ 2 ^ (mb + 1) := by
  obtain ⟨hlo, hhi, hL⟩ := bitLen_spec m hm
  have hq : roundQ mb qmin m e = e + bitLen m - 1 - mb := by simp only [roundQ]; omega
  refine ⟨hq, ?_⟩
  simp only [roundR, hq]
  generalize bitLen m = L at *
  by_cases hc : e + (L : Int) - 1 - mb ≤ e
  · simp only [hc, if_true]
    obtain ⟨t, ht⟩ : ∃ t : Nat, (e - (e + (L : Int) - 1 - mb)).toNat = t := ⟨_, rfl⟩
    rw [ht]
    have h1 : mb = (L - 1) + t := by omega
    have h2 : mb + 1 = L + t := by omega
    have p1 : 2 ^ mb = 2 ^ (L - 1) * 2 ^ t := by rw [← Nat.pow_add, ← h1]
    have p2 : 2 ^ (mb + 1) = 2 ^ L * 2 ^ t := by rw [← Nat.pow_add, ← h2]
    rw [p1, p2]
    exact ⟨Nat.mul_le_mul_right _ hlo, Nat.mul_le_mul_right _ (Nat.le_of_lt hhi)⟩
  · simp only [hc, if_false]
    obtain ⟨s, hs⟩ : ∃ s : Nat, (e + (L : Int) - 1 - mb - e).toNat = s := ⟨_, rfl⟩
    rw [hs]
    have hb := rne_step_bounds m s
    have h1 : L - 1 = mb + s := by omega
    have h2 : L = (mb + 1) + s := by omega
    have p1 : 2 ^ (L - 1) = 2 ^ mb * 2 ^ s := by rw [← Nat.pow_add, ← h1]
    have p2 : 2 ^ L = 2 ^ (mb + 1) * 2 ^ s := by rw [← Nat.pow_add, ← h2]
    have hpos : 0 < 2 ^ s := Nat.two_pow_pos s
    have f1 : 2 ^ mb ≤ m / 2 ^ s := (Nat.le_div_iff_mul_le hpos).2 (by rw [← p1]; exact hlo)
    have f2 : m / 2 ^ s < 2 ^ (mb + 1) := (Nat.div_lt_iff_lt_mul hpos).2 (by rw [← p2]; exact hhi)
    omega

/-- subnormal range: the unit in the last place is the smallest subnormal `2^qmin` -/
theorem roundR_subnormal (mb : Nat) (qmin : Int) (m : Nat) (e : Int) (hm : 0 < m)
    (hn : e + bitLen m - 1 - mb < qmin) :
    roundQ mb qmin m e = qmin ∧ roundR mb qmin m e ≤ 2 ^ mb := by
  obtain ⟨hlo, hhi, hL⟩ := bitLen_spec m hm
  have hq : roundQ mb qmin m e = qmin := by simp only [roundQ]; omega
  refine ⟨hq, ?_⟩
  simp only [roundR, hq]
  generalize bitLen m = L at *
  by_cases hc : qmin ≤ e
  · simp only [hc, if_true]
    obtain ⟨t, ht⟩ : ∃ t : Nat, (e - qmin).toNat = t := ⟨_, rfl⟩
    rw [ht]
    have h1 : L + t ≤ mb := by omega
    have p1 : m * 2 ^ t ≤ 2 ^ L * 2 ^ t := Nat.mul_le_mul_right _ (Nat.le_of_lt hhi)
    have p2 : 2 ^ L * 2 ^ t ≤ 2 ^ mb := by
      rw [← Nat.pow_add]; exact Nat.pow_le_pow_right (by decide) h1
    omega
  · simp only [hc, if_false]
    obtain ⟨s, hs⟩ : ∃ s : Nat, (qmin - e).toNat = s := ⟨_, rfl⟩
    rw [hs]
    have hb := rne_step_bounds m s
    have h1 : L ≤ mb + s := by omega
    have hpos : 0 < 2 ^ s := Nat.two_pow_pos s
    have p1 : 2 ^ L ≤ 2 ^ mb * 2 ^ s := by
      rw [← Nat.pow_add]; exact Nat.pow_le_pow_right (by decide) h1
    have f2 : m / 2 ^ s < 2 ^ mb := (Nat.div_lt_iff_lt_mul hpos).2 (by omega)
    omega

theorem roundU_eq (mb : Nat) (qmin : Int) (m : Nat) (e : Int) :
    roundU mb qmin m e = (roundQ mb qmin m e - qmin).toNat * 2 ^ mb + roundR mb qmin m e := rfl

/-- `d = q - qmin` is the exponent field before the hidden bit is added; `r` carries the hidden bit
    as soon as `d > 0` -/
theorem roundU_fields (mb : Nat) (qmin : Int) (m : Nat) (e : Int) (hm : 0 < m) :
    ∃ d : Nat, roundU mb qmin m e = d * 2 ^ mb + roundR mb qmin m e ∧
      roundQ mb qmin m e = qmin + d ∧ roundR mb qmin m e ≤ 2 ^ (mb + 1) ∧
      (0 < d → 2 ^ mb ≤ roundR mb qmin m e) := by
  refine ⟨(roundQ mb qmin m e - qmin).toNat, roundU_eq mb qmin m e, ?_, ?_, ?_⟩
  · have : qmin ≤ roundQ mb qmin m e := by simp only [roundQ]; omega
    omega
  · by_cases hn : qmin ≤ e + bitLen m - 1 - mb
    · exact (roundR_normal mb qmin m e hm hn).2.2
    · have := (roundR_subnormal mb qmin m e hm (by omega)).2
      have : 2 ^ mb ≤ 2 ^ (mb + 1) := Nat.pow_le_pow_right (by decide) (by omega)
      omega
  · intro hd
    by_cases hn : qmin ≤ e + bitLen m - 1 - mb
    · exact (roundR_normal mb qmin m e hm hn).2.1
    · have := (roundR_subnormal mb qmin m e hm (by omega)).1
      omega

theorem decFields_fields (eb mb : Nat) (bias : Int) (neg : Bool) (x f : Nat)
    (hx : x < 2 ^ eb) (hf : f < 2 ^ mb) :
    decFields eb mb bias ((if neg then 2 ^ (eb + mb) else 0) + (x * 2 ^ mb + f)) =
      if x = 0 then (if f = 0 then .zero neg else .fin neg f (1 - bias - mb))
      else .fin neg (2 ^ mb + f) ((x : Int) - bias - mb) := by
  have hM : 0 < 2 ^ mb := Nat.two_pow_pos mb
  have hy : x * 2 ^ mb + f < 2 ^ (eb + mb) := by
    rw [Nat.pow_add]
    calc x * 2 ^ mb + f < (x + 1) * 2 ^ mb := by rw [Nat.add_mul, Nat.one_mul]; omega
      _ ≤ 2 ^ eb * 2 ^ mb := Nat.mul_le_mul_right _ hx
  obtain ⟨s, hs, hneg⟩ : ∃ s : Nat, (if neg then 2 ^ (eb + mb) else 0) = s * 2 ^ (eb + mb) ∧
      decide (s % 2 = 1) = neg := by
    cases neg
    · exact ⟨0, by simp, by decide⟩
    · exact ⟨1, by simp, by decide⟩
  -- the pattern is `2^mb * (s * 2^eb + x) + f`
  have e0 : s * 2 ^ (eb + mb) + (x * 2 ^ mb + f) = 2 ^ mb * (s * 2 ^ eb + x) + f := by
    rw [Nat.pow_add, Nat.mul_add, ← Nat.mul_assoc s, Nat.mul_comm (2 ^ mb), Nat.mul_comm (2 ^ mb),
      Nat.add_assoc]
  have e1 : (s * 2 ^ (eb + mb) + (x * 2 ^ mb + f)) / 2 ^ (eb + mb) % 2 = s % 2 := by
    rw [Nat.mul_comm s, Nat.mul_add_div (Nat.two_pow_pos _), Nat.div_eq_of_lt hy, Nat.add_zero]
  have e2 : (s * 2 ^ (eb + mb) + (x * 2 ^ mb + f)) / 2 ^ mb % 2 ^ eb = x := by
    rw [e0, Nat.mul_add_div hM, Nat.div_eq_of_lt hf, Nat.add_zero, Nat.mul_add_mod_self_right,
      Nat.mod_eq_of_lt hx]
  have e3 : (s * 2 ^ (eb + mb) + (x * 2 ^ mb + f)) % 2 ^ mb = f := by
    rw [e0, Nat.mul_add_mod, Nat.mod_eq_of_lt hf]
  rw [hs]
  simp only [decFields, e1, e2, e3, hneg]

/-- any format with smallest subnormal `2^(1 - bias - mb)`: the fields of `d * 2^mb + r` are
    `(0, r)` for a subnormal, else as in the two cases below; the value is `r * 2^q` in each -/
theorem decFields_roundU (eb mb : Nat) (bias qmin : Int) (hq : qmin = 1 - bias - mb) (neg : Bool)
    (m : Nat) (e : Int) (hm : 0 < m) (hfin : roundU mb qmin m e < 2 ^ (eb + mb)) :
    (roundR mb qmin m e = 0 →
      decFields eb mb bias ((if neg then 2 ^ (eb + mb) else 0) + roundU mb qmin m e) = .zero neg) ∧
    (roundR mb qmin m e ≠ 0 → ∃ m' e',
      decFields eb mb bias ((if neg then 2 ^ (eb + mb) else 0) + roundU mb qmin m e) = .fin neg m' e' ∧
      roundQ mb qmin m e ≤ e' ∧ m' * 2 ^ (e' - roundQ mb qmin m e).toNat = roundR mb qmin m e) := by
  obtain ⟨d, hU, hQ, hr1, hr2⟩ := roundU_fields mb qmin m e hm
  rw [hU] at hfin ⊢; rw [hQ]
  generalize roundR mb qmin m e = r at *
  have hM : 0 < 2 ^ mb := Nat.two_pow_pos mb
  have h2M : 2 ^ (mb + 1) = 2 * 2 ^ mb := Nat.pow_succ'
  have hE : 0 < 2 ^ eb := Nat.two_pow_pos eb
  rw [Nat.pow_add] at hfin
  by_cases ha : r < 2 ^ mb
  · have hd : d = 0 := by
      cases d with
      | zero => rfl
      | succ d => have := hr2 (Nat.succ_pos d); omega
    subst hd
    rw [decFields_fields eb mb bias neg 0 r hE ha, if_pos rfl]
    constructor
    · intro h0; rw [if_pos h0]
    · intro h0
      refine ⟨r, qmin, by rw [if_neg h0, hq], by omega, ?_⟩
      rw [show (qmin - (qmin + ((0 : Nat) : Int))).toNat = 0 by omega, Nat.pow_zero, Nat.mul_one]
  · have hMr : 2 ^ mb ≤ r := Nat.le_of_not_lt ha
    refine ⟨fun h0 => by omega, fun _ => ?_⟩
    by_cases hb : r < 2 ^ (mb + 1)
    · -- normalised: exponent field `d + 1`, fraction `r - 2^mb`
      have hp : d * 2 ^ mb + r = (d + 1) * 2 ^ mb + (r - 2 ^ mb) := by
        rw [Nat.add_mul, Nat.one_mul, Nat.add_assoc, Nat.add_sub_cancel' hMr]
      have hx : d + 1 < 2 ^ eb :=
        Nat.lt_of_mul_lt_mul_right (Nat.lt_of_le_of_lt (Nat.le_add_right _ _) (hp ▸ hfin))
      have he : ((d + 1 : Nat) : Int) - bias - mb = qmin + d := by omega
      rw [hp, decFields_fields eb mb bias neg (d + 1) (r - 2 ^ mb) hx (by omega),
        if_neg (Nat.succ_ne_zero d), he, Nat.add_sub_cancel' hMr]
      exact ⟨r, qmin + d, rfl, Int.le_refl _, by
        rw [Int.sub_self, Int.toNat_zero, Nat.pow_zero, Nat.mul_one]⟩
    · -- rounding carry: `r = 2^(mb+1)`, exponent field `d + 2`, fraction `0`
      have hr : r = 2 * 2 ^ mb := by omega
      have hp : d * 2 ^ mb + r = (d + 2) * 2 ^ mb + 0 := by
        rw [Nat.add_mul, hr, Nat.add_zero]
      have hx : d + 2 < 2 ^ eb :=
        Nat.lt_of_mul_lt_mul_right (Nat.lt_of_le_of_lt (Nat.le_add_right _ _) (hp ▸ hfin))
      have he : ((d + 2 : Nat) : Int) - bias - mb = qmin + d + 1 := by omega
      rw [hp, decFields_fields eb mb bias neg (d + 2) 0 hx hM, if_neg (Nat.succ_ne_zero (d + 1)),
        he, Nat.add_zero]
      exact ⟨2 ^ mb, qmin + d + 1, rfl, Int.le_add_of_nonneg_right (by decide), by
        rw [Int.add_comm (qmin + d) 1, Int.add_sub_cancel, show (1 : Int).toNat = 1 from rfl, Nat.pow_one, hr,
          Nat.mul_comm]⟩

theorem roundU_eq_zero (mb : Nat) (qmin : Int) (m : Nat) (e : Int) (hm : 0 < m) :
    roundU mb qmin m e = 0 ↔ roundR mb qmin m e = 0 := by
  obtain ⟨d, hU, _, _, hr2⟩ := roundU_fields mb qmin m e hm
  rw [hU]
  have hM : 0 < 2 ^ mb := Nat.two_pow_pos mb
  constructor
  · intro h; omega
  · intro h
    cases d with
    | zero => omega
    | succ d => have := hr2 (Nat.succ_pos d); omega

theorem sgn8_mod (neg : Bool) (u : Nat) : (sgn8 neg + u) % 128 = u % 128 := by
  cases neg
  · exact congrArg (· % 128) (Nat.zero_add u)
  · exact Nat.add_mod_left 128 u

/-- the FNUZ formats: the only zero is `0x00`, the NaN `0x80` comes from overflow alone -/
theorem dec_enc_fnuz (eb mb : Nat) (bias qmin : Int) (hb : eb + mb = 7) (hq : qmin = 1 - bias - mb)
    (neg : Bool) (m : Nat) (e : Int) (hm : 0 < m) (hfin : roundU mb qmin m e ≤ 0x7F) (p : Nat)
    (hp : p = if roundU mb qmin m e > 0x7F then 0x80
      else if roundU mb qmin m e = 0 then 0 else sgn8 neg + roundU mb qmin m e) :
    (roundR mb qmin m e = 0 → (if p = 0x80 then F64.nan true else decFields eb mb bias p) = .zero false) ∧
    (roundR mb qmin m e ≠ 0 → ∃ m' e',
      (if p = 0x80 then F64.nan true else decFields eb mb bias p) = .fin neg m' e' ∧
      roundQ mb qmin m e ≤ e' ∧ m' * 2 ^ (e' - roundQ mb qmin m e).toNat = roundR mb qmin m e) := by
  have hz := roundU_eq_zero mb qmin m e hm
  rw [if_neg (show ¬ roundU mb qmin m e > 0x7F by omega)] at hp
  constructor
  · intro h0
    rw [if_pos (hz.2 h0)] at hp
    subst hp
    rw [if_neg (by decide)]
    simpa using decFields_fields eb mb bias false 0 0 (Nat.two_pow_pos eb) (Nat.two_pow_pos mb)
  · intro h0
    have hu : roundU mb qmin m e ≠ 0 := mt hz.1 h0
    rw [if_neg hu] at hp
    have hnn : ¬ p = 0x80 := by
      have := sgn8_mod neg (roundU mb qmin m e)
      omega
    have hS : sgn8 neg = if neg then 2 ^ (eb + mb) else 0 := by rw [hb]; rfl
    rw [if_neg hnn, hp, hS]
    exact (decFields_roundU eb mb bias qmin hq neg m e hm (by rw [hb]; omega)).2 h0

theorem dec_enc_e8m0 (m : Nat) (e : Int) (hm : 0 < m) (hfin : roundU 0 (-126) m e ≤ 0xFE) :
    (roundR 0 (-126) m e = 0 → decF8 .e8m0 (encF8 .e8m0 (.fin false m e)) = .fin false 1 (-127)) ∧
    (roundR 0 (-126) m e ≠ 0 → ∃ m' e', decF8 .e8m0 (encF8 .e8m0 (.fin false m e)) = .fin false m' e' ∧
      roundQ 0 (-126) m e ≤ e' ∧ m' * 2 ^ (e' - roundQ 0 (-126) m e).toNat = roundR 0 (-126) m e) := by
  obtain ⟨d, hU, hQ, hr1, hr2⟩ := roundU_fields 0 (-126) m e hm
  rw [Nat.pow_zero] at hr2
  rw [Nat.pow_zero, Nat.mul_one] at hU
  rw [Nat.zero_add, Nat.pow_one] at hr1
  -- a leading bit at `2^129` or above would give a field of 256 or more
  have hle : ¬ e + bitLen m - 1 ≥ 129 := fun h => by
    have hn := roundR_normal 0 (-126) m e hm (by omega)
    have := hn.1
    have := hn.2.1
    omega
  have hnn : ¬ roundU 0 (-126) m e % 256 = 0xFF := by omega
  simp only [encF8, if_neg hle, decF8, if_neg hnn]
  rw [Nat.mod_eq_of_lt (by omega), hQ, hU]
  clear hle hnn hfin hU hQ hm
  generalize roundR 0 (-126) m e = r at *
  -- the value is `2^(d + r - 127)` with `r` one of 0 (then `d = 0`), 1, 2
  have hr : r = 0 ∧ d = 0 ∨ r = 1 ∨ r = 2 := by
    cases d with
    | zero => omega
    | succ d => have := hr2 (Nat.succ_pos d); omega
  rcases hr with ⟨rfl, rfl⟩ | rfl | rfl
  · exact ⟨fun _ => rfl, fun h => absurd rfl h⟩
  · refine ⟨fun h => absurd h (by decide), fun _ => ⟨1, ((d + 1 : Nat) : Int) - 127, rfl, by omega, ?_⟩⟩
    rw [show (((d + 1 : Nat) : Int) - 127 - (-126 + (d : Int))).toNat = 0 by omega]
  · refine ⟨fun h => absurd h (by decide), fun _ => ⟨1, ((d + 2 : Nat) : Int) - 127, rfl, by omega, ?_⟩⟩
    rw [show (((d + 2 : Nat) : Int) - 127 - (-126 + (d : Int))).toNat = 1 by omega]

def F8.mbits : F8 → Nat
  | .e4m3fn => 3 | .e4m3fnuz => 3 | .e5m2 => 2 | .e5m2fnuz => 2 | .e8m0 => 0 | .e2m1 => 1

/-- exponent of the smallest subnormal (`1 - bias - mbits`; for E8M0 the exponent of the field `E = 1`) -/
def F8.qmin : F8 → Int
  | .e4m3fn => -9 | .e4m3fnuz => -10 | .e5m2 => -16 | .e5m2fnuz => -17 | .e8m0 => -126 | .e2m1 => -1

/-- the largest magnitude pattern that is a finite value the conversion does not reach by
    overflow: below the NaN `0x7F` of E4M3FN, below the infinity `0x7C` of E5M2, any magnitude of
    the FNUZ types, below the NaN `0xFF` of E8M0, and up to 6.0 (`7`, where saturation starts to be
    the identity) for E2M1 -/
def F8.maxFinite : F8 → Nat
  | .e4m3fn => 0x7E | .e4m3fnuz => 0x7F | .e5m2 => 0x7B | .e5m2fnuz => 0x7F | .e8m0 => 0xFE | .e2m1 => 7

/-- the result for an input that rounds to zero: the signed zero, the single zero of the FNUZ
    types, and `2^-127` (pattern `0x00`) for E8M0, which has no zero -/
def F8.zeroOf (k : F8) (neg : Bool) : F64 :=
  match k with
  | .e4m3fnuz => .zero false
  | .e5m2fnuz => .zero false
  | .e8m0 => .fin false 1 (-127)
  | _ => .zero neg

/-- a subnormal has a non-zero fraction, a normal carries the hidden bit `P` -/
theorem fin_pos_of_fields {s neg : Bool} {ex fr A P m : Nat} {c e : Int} (g : Nat → Int) (hP : 0 < P)
    (h : (if ex = A then (if fr = 0 then F64.inf s else .nan s)
      else if ex = 0 then (if fr = 0 then .zero s else .fin s fr c)
      else .fin s (P + fr) (g ex)) = .fin neg m e) : 0 < m := by
  split at h
  · split at h <;> cases h
  · split at h
    · split at h
      · cases h
      · injection h with _ h2 _; omega
    · injection h with _ h2 _; omega

theorem decode64_fin_pos {b : Nat} {neg : Bool} {m : Nat} {e : Int} (h : decode64 b = .fin neg m e) : 0 < m :=
  fin_pos_of_fields (fun ex => (ex : Int) - 1075) (Nat.two_pow_pos 52) h

theorem decode32_fin_pos {b : Nat} {neg : Bool} {m : Nat} {e : Int} (h : decode32 b = .fin neg m e) : 0 < m :=
  fin_pos_of_fields (fun ex => (ex : Int) - 150) (Nat.two_pow_pos 23) h

end IrVerif.PyTensor
