/-
Lemmas for `Model/AtomicSaveLinks.lean` (C08). Symbolic links: `Real` paths are fixed points of `walk`; the destination
entry is `Real`, hence no link, hence `eraseKey` is the identity and the link-level save is the link-free one with the
table attached (`saveWithL_eq`). Parallel writer: the marked replay `runMarked` keeps what every effect keeps
(`runMarked_inv`), so a block with a failed effect never leaves `Old` (`saveMarked_failed`). Core Lean only.
-/
import IrVerif.Lemmas.AtomicSave
import IrVerif.Model.AtomicSaveLinks
namespace IrVerif.AtomicSave

def Proper (c : String) : Prop := c ≠ "" ∧ c ≠ "." ∧ c ≠ ".."

theorem proper_of_properName {c : String} (h : properName c = true) : Proper c := by
  simp only [properName, Bool.and_eq_true, bne_iff_ne, ne_eq] at h
  exact ⟨h.1.1, h.1.2, h.2⟩

/-- A real path: no non-empty prefix of it is the location of a link, all components are proper names. -/
structure Real (L : Links) (p : Comps) : Prop where
  pref : ∀ q, q <+: p → q ≠ [] → L.lookup q = none
  proper : ∀ c ∈ p, Proper c

theorem Real.nil (L : Links) : Real L [] :=
  ⟨fun q hq hne => by simp at hq; exact absurd hq hne, fun c hc => by simp at hc⟩

theorem Real.dropLast {L : Links} {p : Comps} (h : Real L p) : Real L p.dropLast :=
  ⟨fun q hq hne => h.pref q (List.IsPrefix.trans hq (List.dropLast_prefix p)) hne,
   fun c hc => h.proper c (List.dropLast_subset p hc)⟩

theorem Real.concat {L : Links} {p : Comps} {c : String} (h : Real L p) (hc : Proper c)
    (hl : L.lookup (p ++ [c]) = none) : Real L (p ++ [c]) := by
  refine ⟨fun q hq hne => ?_, fun x hx => ?_⟩
  · rcases List.prefix_concat_iff.mp hq with rfl | hq'
    · exact hl
    · exact h.pref q hq' hne
  · simp only [List.mem_append, List.mem_singleton] at hx
    rcases hx with hx | rfl
    · exact h.proper x hx
    · exact hc

theorem Real.prefix {L : Links} {p q : Comps} (h : Real L p) (hq : q <+: p) : Real L q :=
  ⟨fun r hr hne => h.pref r (List.IsPrefix.trans hr hq) hne, fun c hc => h.proper c (hq.subset hc)⟩

theorem walk_nil (L : Links) (g : Nat) (done : Comps) : walk L g done [] = some (g, done) := by
  cases g <;> simp [walk]

theorem walk_real (L : Links) : ∀ (g : Nat) (done rest : Comps) (g' : Nat) (r : Comps), Real L done →
    walk L g done rest = some (g', r) → Real L r ∧ r.length + g' ≤ done.length + g
  | g, done, [], g', r, hd, h => by
    rw [walk_nil] at h
    simp only [Option.some.injEq, Prod.mk.injEq] at h
    rcases h with ⟨rfl, rfl⟩
    exact ⟨hd, Nat.le_refl _⟩
  | 0, done, c :: rest, g', r, hd, h => by simp [walk] at h
  | g + 1, done, c :: rest, g', r, hd, h => by
    simp only [walk] at h
    split at h
    · have := walk_real L g done rest g' r hd h
      exact ⟨this.1, by omega⟩
    · rename_i hc1
      split at h
      · have := walk_real L g done.dropLast rest g' r hd.dropLast h
        have hl : done.dropLast.length ≤ done.length := by simp
        exact ⟨this.1, by omega⟩
      · rename_i hc2
        split at h
        · rename_i l hl
          by_cases ha : l.abs = true
          · simp only [ha, if_true] at h
            have := walk_real L g [] (l.target ++ rest) g' r (Real.nil L) h
            exact ⟨this.1, by simp at this; omega⟩
          · simp only [ha] at h
            have := walk_real L g done (l.target ++ rest) g' r hd (by simpa using h)
            exact ⟨this.1, by omega⟩
        · rename_i hl
          have hp : Proper c := by
            simp only [not_or] at hc1
            exact ⟨hc1.1, hc1.2, hc2⟩
          have := walk_real L g (done ++ [c]) rest g' r (hd.concat hp hl) h
          exact ⟨this.1, by simp at this; omega⟩

theorem walk_of_real (L : Links) : ∀ (rest : Comps) (g : Nat) (done : Comps), Real L (done ++ rest) →
    rest.length ≤ g → walk L g done rest = some (g - rest.length, done ++ rest)
  | [], g, done, _, _ => by simp [walk_nil]
  | c :: rest, 0, done, _, hg => by simp at hg
  | c :: rest, g + 1, done, hr, hg => by
    have hp : Proper c := hr.proper c (by simp)
    have hl : L.lookup (done ++ [c]) = none :=
      hr.pref (done ++ [c]) (by simp [List.prefix_append_right_inj]) (by simp)
    have hr' : Real L ((done ++ [c]) ++ rest) := by simpa using hr
    have ih := walk_of_real L rest g (done ++ [c]) hr' (by simp at hg; omega)
    simp only [walk, hp.1, hp.2.1, hp.2.2, or_self, if_false, hl]
    rw [ih]
    simp only [List.length_cons, List.append_assoc, List.singleton_append, Option.some.injEq, Prod.mk.injEq,
      and_true]
    omega

theorem walk_append (L : Links) : ∀ (g : Nat) (done xs ys : Comps),
    walk L g done (xs ++ ys) = (walk L g done xs).bind fun q => walk L q.1 q.2 ys
  | g, done, [], ys => by simp [walk_nil]
  | 0, done, c :: xs, ys => by simp [walk]
  | g + 1, done, c :: xs, ys => by
    simp only [List.cons_append, walk]
    split
    · exact walk_append L g done xs ys
    · split
      · exact walk_append L g done.dropLast xs ys
      · split
        · rename_i l _
          rw [← List.append_assoc]
          exact walk_append L g _ (l.target ++ xs) ys
        · exact walk_append L g (done ++ [c]) xs ys

theorem realpathL_eq_some {L : Links} {gas : Nat} {p r : Comps} :
    realpathL L gas p = some r ↔ ∃ g', walk L gas [] p = some (g', r) := by
  simp only [realpathL, Option.map_eq_some_iff]
  exact ⟨fun ⟨⟨g', _⟩, h1, h2⟩ => ⟨g', by rw [h1, ← h2]⟩, fun ⟨g', h⟩ => ⟨(g', r), h, rfl⟩⟩

theorem realpathL_of_real {L : Links} {p : Comps} (h : Real L p) {gas : Nat} (hg : p.length ≤ gas) :
    realpathL L gas p = some p := by
  rw [realpathL, walk_of_real L p gas [] (by rwa [List.nil_append]) hg]
  rfl

theorem realpathL_concat {L : Links} {gas g' : Nat} {p r : Comps} {b : String} (hw : walk L gas [] p = some (g', r))
    (hb : Proper b) (hl : L.lookup (r ++ [b]) = none) :
    realpathL L gas (p ++ [b]) = none ∨ realpathL L gas (p ++ [b]) = some (r ++ [b]) := by
  have : walk L gas [] (p ++ [b]) = walk L g' r [b] := by rw [walk_append, hw]; rfl
  cases g' with
  | zero => left; simp [realpathL, this, walk]
  | succ g'' => right; simp [realpathL, this, walk, hb.1, hb.2.1, hb.2.2, hl, walk_nil]

theorem eraseKey_of_lookup_none (k : Comps) : ∀ (L : Links), L.lookup k = none → eraseKey k L = L
  | [], _ => rfl
  | (a, l) :: r, h => by
    simp only [List.lookup] at h
    split at h
    · simp at h
    · rename_i hne
      have hak : ¬ a = k := by
        intro hh; subst hh; simp at hne
      simp only [eraseKey, hak, if_false]
      rw [eraseKey_of_lookup_none k r h]

theorem getLast?_dropLast_concat {α : Type} : ∀ (p : List α) (b : α), p.getLast? = some b → p = p.dropLast ++ [b] := by
  intro p b h
  have hne : p ≠ [] := by intro hh; subst hh; simp at h
  have := List.dropLast_concat_getLast hne
  rw [List.getLast?_eq_some_getLast hne] at h
  simp only [Option.some.injEq] at h
  rw [h] at this
  exact this.symm

theorem entryOf_of_real {L : Links} {d : Comps} (h : Real L d) {b : String} (hb : d.getLast? = some b) {gas : Nat}
    (hg : d.dropLast.length ≤ gas) : entryOf L gas d = some d := by
  simp only [entryOf, hb, realpathL_of_real h.dropLast hg, Option.map_some]
  rw [← getLast?_dropLast_concat d b hb]

def liftL (L : Links) (r : Res) : LRes :=
  ⟨r.steps.map fun x => ⟨x.eff, x.failed, ⟨x.st, L⟩⟩, ⟨r.final, L⟩, r.faulted⟩

theorem liftL_length (L : Links) (r : Res) : (liftL L r).steps.length = r.steps.length := by
  simp [liftL]

/-- Only `os.replace` could change the table, by erasing the entry it overwrites. -/
theorem applyL_eq (env : Env) (entry : Comps) (L : Links) (hk : eraseKey entry L = L) (s : St) (e : Eff) :
    applyL env entry ⟨s, L⟩ e = ⟨apply env s e, L⟩ := by
  cases e <;> first | rfl | simp only [applyL, hk, ite_self]

theorem runListL_eq (env : Env) (entry : Comps) (f : Nat → Option Nat) (L : Links)
    (hk : eraseKey entry L = L) : ∀ (es : List Eff) (n : Nat) (s : St),
      runListL env entry f es n ⟨s, L⟩ = liftL L (runList env f es n s)
  | [], _, _ => rfl
  | e :: es, n, s => by
    simp only [runListL, runList]
    cases f n with
    | some p => rfl
    | none =>
      simp only [applyL_eq env entry L hk, runListL_eq env entry f L hk es]
      rfl

theorem saveWithL_eq (env : Env) (entry : Comps) (body post : List Eff) (f : Nat → Option Nat)
    (n0 : Nat) (s0 : St) (L : Links) (hk : eraseKey entry L = L) :
    saveWithL env entry body post f n0 ⟨s0, L⟩ = liftL L (saveWith env body post f n0 s0) := by
  have hr := runListL_eq env entry f L hk
  have hfin : ∀ r : Res, (liftL L r).final = ⟨r.final, L⟩ := fun _ => rfl
  have hfa : ∀ r : Res, (liftL L r).faulted = r.faulted := fun _ => rfl
  unfold saveWithL saveWith
  simp only [hr, hfin, hfa, liftL_length]
  split
  · rfl
  · split <;> simp [liftL]

theorem image_lower (L : Links) (gas : Nat) (ts : List LTensor) :
    image (ts.map (toTensor L gas)) = image (ts.map fun t => ⟨t.off, t.chunks, none⟩) := by
  simp only [image, List.foldl_map, toTensor]

theorem runMarked_inv (env : Env) {P : St → Prop} : ∀ (m : List Marked) (s : St), P s →
    (∀ x ∈ m, ∀ s, P s → P (apply env s x.1)) →
    (∀ x ∈ m, ∀ s p, P s → P (applyPartial env s x.1 p)) →
    P (runMarked env m s).2 ∧ ∀ st ∈ (runMarked env m s).1, P st.st
  | [], s, hs, _, _ => by simp [runMarked, hs]
  | (e, none) :: r, s, hs, ha, hp => by
    have h1 := ha (e, none) (by simp) s hs
    have ih := runMarked_inv env r (apply env s e) h1 (fun x hx => ha x (by simp [hx]))
      (fun x hx => hp x (by simp [hx]))
    simp only [runMarked, List.mem_cons, forall_eq_or_imp]
    exact ⟨ih.1, h1, ih.2⟩
  | (e, some p) :: r, s, hs, ha, hp => by
    have h1 := hp (e, some p) (by simp) s p hs
    have ih := runMarked_inv env r (applyPartial env s e p) h1 (fun x hx => ha x (by simp [hx]))
      (fun x hx => hp x (by simp [hx]))
    simp only [runMarked, List.mem_cons, forall_eq_or_imp]
    exact ⟨ih.1, h1, ih.2⟩

theorem runMarked_old (env : Env) {s0 : St} (m : List Marked) (hm : ∀ x ∈ m, x.1.tmpOnly = true) (s : St)
    (h : Old s0 s) : Old s0 (runMarked env m s).2 ∧ ∀ st ∈ (runMarked env m s).1, Old s0 st.st :=
  runMarked_inv env m s h (fun x hx _ hs => old_apply env x.1 (hm x hx) hs)
    (fun x _ _ p hs => old_partial env x.1 p hs)

theorem saveMarked_failed (cfg : Cfg) (m : List Marked) (hm : ∀ x ∈ m, x.1.tmpOnly = true)
    (hfail : allOk m = false) (s0 : St) (h0 : WF s0) (n0 : Nat) (f : Nat → Option Nat) :
    (saveMarked cfg m f n0 s0).faulted = true ∧ Old s0 (saveMarked cfg m f n0 s0).final ∧
      ∀ st ∈ (saveMarked cfg m f n0 s0).steps, Old s0 st.st := by
  have ha := runList_old cfg.env f [.mkdtemp] (by intro e he; simp at he; subst he; rfl) n0 s0 (Old.refl s0 h0)
  unfold saveMarked
  simp only [hfail, Bool.false_eq_true, if_false]
  split
  · rename_i hf
    exact ⟨hf, ha.1, ha.2⟩
  · have hb := runMarked_old cfg.env m hm _ ha.1
    have hc := runList_old cfg.env f [.removeTmp, .rmdirTmp] cleanup_tmpOnly (n0 + 1 + m.length) _ hb.1
    refine ⟨rfl, hc.1, fun st hst => ?_⟩
    simp only [List.mem_append] at hst
    rcases hst with (hst | hst) | hst
    · exact ha.2 st hst
    · exact hb.2 st hst
    · exact hc.2 st hst

end IrVerif.AtomicSave
