/-
Helper lemmas for C07: the `finally` block of a save (`assignAll`; `restoreLoop` through the
`const_value` setter: run to the end, stopped, cut).  Core Lean only.
-/
import IrVerif.Lemmas.LayoutSave
import IrVerif.Model.LayoutSeq
namespace IrVerif.Layout

theorem assignAll_not_mem (st : Store) (ps : List (Nat × Option Nat)) (v : Nat)
    (h : ∀ p ∈ ps, p.1 ≠ v) : assignAll st ps v = st v := by
  induction ps generalizing st with
  | nil => rfl
  | cons p ps ih =>
    obtain ⟨w, t⟩ := p
    simp only [assignAll]
    rw [ih _ (fun q hq => h q (List.mem_cons_of_mem _ hq))]
    have : w ≠ v := h (w, t) (List.mem_cons_self ..)
    simp [Store.set, Ne.symm this]

theorem assignAll_saved_not_mem (st0 st : Store) {vs : List Nat} {v : Nat} (hv : v ∉ vs) :
    assignAll st (vs.map fun w => (w, st0 w)) v = st v :=
  assignAll_not_mem _ _ _ fun p hp => by
    obtain ⟨u, hu, rfl⟩ := List.mem_map.1 hp
    exact fun e => hv (e ▸ hu)

theorem assignAll_saved (st0 st : Store) (vs : List Nat) (v : Nat) (hv : v ∈ vs) :
    assignAll st (vs.map fun w => (w, st0 w)) v = st0 v := by
  induction vs generalizing st with
  | nil => simp at hv
  | cons w rest ih =>
    simp only [List.map_cons, assignAll]
    by_cases hr : v ∈ rest
    · exact ih _ hr
    · have hvw : v = w := by
        rcases List.mem_cons.mp hv with h | h
        · exact h
        · exact absurd h hr
      subst hvw
      rw [assignAll_saved_not_mem _ _ hr]
      simp [Store.set]

theorem saveRun_restored (st : Store) (plan : SavePlan) (stop : Option Nat)
    (h : ∀ v t, Step.assign v t ∈ plan.prog → v ∈ plan.snapshot) :
    (saveRun st plan stop).2 = st := by
  funext v
  simp only [saveRun]
  by_cases hv : v ∈ plan.snapshot
  · exact assignAll_saved st _ plan.snapshot v hv
  · rw [assignAll_saved_not_mem _ _ hv]
    apply execSteps_untouched
    intro t ht
    apply hv
    apply h v t
    cases stop with
    | none => exact ht
    | some n => exact List.mem_of_mem_take ht

theorem restoreLoop_ok (debug : Bool) (isProto : Nat → Bool) (st : Store) (ps : List (Nat × Option Nat))
    (h : ∀ p ∈ ps, setterOk debug isProto p.2 = true) :
    restoreLoop debug isProto st ps = (assignAll st ps, false) := by
  induction ps generalizing st with
  | nil => rfl
  | cons p ps ih =>
    obtain ⟨v, t⟩ := p
    simp only [restoreLoop, assignAll]
    rw [if_pos (h (v, t) (List.mem_cons_self ..))]
    exact ih _ (fun q hq => h q (List.mem_cons_of_mem _ hq))

theorem restoreLoop_stops (debug : Bool) (isProto : Nat → Bool) (st : Store)
    (pre : List (Nat × Option Nat)) (bad : Nat × Option Nat) (post : List (Nat × Option Nat))
    (hpre : ∀ p ∈ pre, setterOk debug isProto p.2 = true)
    (hbad : setterOk debug isProto bad.2 = false) :
    restoreLoop debug isProto st (pre ++ bad :: post) = (assignAll st pre, true) := by
  induction pre generalizing st with
  | nil =>
    obtain ⟨v, t⟩ := bad
    simp only [List.nil_append, restoreLoop, assignAll]
    rw [if_neg (by simpa using hbad)]
  | cons p pre ih =>
    obtain ⟨v, t⟩ := p
    simp only [List.cons_append, restoreLoop, assignAll]
    rw [if_pos (hpre (v, t) (List.mem_cons_self ..))]
    exact ih _ (fun q hq => hpre q (List.mem_cons_of_mem _ hq))

theorem restoreLoop_take (debug : Bool) (isProto : Nat → Bool) (st mid : Store) (snap : List Nat)
    (n : Nat) (hok : ∀ v ∈ snap, setterOk debug isProto (st v) = true) :
    restoreLoop debug isProto mid ((snap.map fun v => (v, st v)).take n) =
      (assignAll mid ((snap.take n).map fun v => (v, st v)), false) := by
  rw [← List.map_take]
  exact restoreLoop_ok _ _ _ _ (List.forall_mem_map.2 fun v hv => hok v (List.mem_of_mem_take hv))

theorem saveRunChecked_restored {debug : Bool} {isProto : Nat → Bool} {st : Store} {stop : Option Nat}
    (plan : SavePlan) (h : (saveRun st plan stop).2 = st)
    (hok : ∀ v ∈ plan.snapshot, setterOk debug isProto (st v) = true) :
    (saveRunChecked debug isProto st plan stop).2 = (st, false) := by
  simp only [saveRunChecked]
  rw [restoreLoop_ok _ _ _ _ (List.forall_mem_map.2 hok)]
  exact Prod.ext h rfl

end IrVerif.Layout
