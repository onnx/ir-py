/-
C15 part B+: the postcondition of NameFixPass for an arbitrary name generator — one `_fix_graph_names` call
(`fixTopX`) and the whole pass (`fixModelX`).
-/
import IrVerif.Lemmas.NamesGenNodes
namespace IrVerif.Names

variable {gen : NameGen}

theorem fixTopX_eq (w : TWorld) (t : Top) (glog : List (Bool × Nat)) :
    fixTopX gen w t glog
      = exitGraphX (runTrX gen t.body (enterGraphX gen (initX w t glog) t.gid t.isGraph t.ins t.outs (bodyOuts t.body))) := rfl

theorem initX_TInvG {w : TWorld} (t : Top) (glog : List (Bool × Nat)) (hok : InitsOk w.toWorld)
    (hf : ∀ v x, w.constOf v = some x → w.frozen x = false) : TInvG (topCfg w.toWorld t) (initX w t glog) :=
  ⟨rfl, hok, rfl, rfl, fun _ => Or.inl rfl, fun _ _ => rfl, fun _ _ => rfl, hf⟩

/-- one `_fix_graph_names` call on a well-scoped graph without refusing tensors: the invariant at the end and the
postcondition on every scope list -/
theorem fixTopX_scopes (hgen : gen.NonEmpty) {w : TWorld} {t : Top} (glog : List (Bool × Nat)) (hok : InitsOk w.toWorld)
    (hcl : Closed w.initOf t) (hf : ∀ v x, w.constOf v = some x → w.frozen x = false)
    (iv : Nat → List Nat) (hiv : ∀ g u, u ∈ iv g ↔ w.initOf u = some g)
    (hsc : scopedB iv t.tr [] [] = true) :
    TInvG (topCfg w.toWorld t) (fixTopX gen w t glog)
    ∧ ∀ L ∈ allScopes iv t.tr [], ScopeOKX (topCfg w.toWorld t) (fixTopX gen w t glog) L := by
  have hc := topCfg_OK hok hcl
  obtain ⟨hC1, hC2, hCb, _⟩ := (topCfg_HC w.toWorld t).graph
  have good0 : GoodX (topCfg w.toWorld t) (initX w t glog) [] :=
    { inj := fun a ha => by simp at ha, seen := fun u hu => by simp at hu
      first := FirstB.nil _ _
      top_iff := fun s => by simp [initX, topOf] }
  obtain ⟨l1, _⟩ := enterGraphX_Lvl hgen hc iv hiv (initX_TInvG t glog hok hf) good0 (S := []) (fun x => by simp [initX])
    t.gid t.isGraph t.ins t.outs (bodyOuts t.body) hC1 hC2 (fun v _ h => by simp at h)
    (fun v _ _ g u _ _ hu => by simp at hu)
  simp only [Top.tr, scopedB, Bool.and_eq_true] at hsc
  have fut : Fut (topCfg w.toWorld t) iv t.body ([] ++ gvals iv t.gid t.isGraph t.ins t.outs (bodyOuts t.body))
      ([] ++ gvals iv t.gid t.isGraph t.ins t.outs (bodyOuts t.body)) (fun _ => False) := by
    refine ⟨fun g hg => hg.elim, fun v hCv hnS g hg => Or.inl ?_⟩
    have hgt : g ∈ graphsOf t.tr := by
      rcases hCv with hm | ⟨g', hg', hio⟩
      · exact hcl v hm g hg
      · have : g' = g := Option.some.inj (hio.symm.trans hg)
        exact this ▸ hg'
    simp only [Top.tr, graphsOf, List.mem_append, List.not_mem_nil, or_false] at hgt
    rcases hgt with h | h
    · exfalso
      apply hnS
      cases hG : t.isGraph with
      | false => simp [hG] at h
      | true =>
        simp only [hG, if_true, List.mem_singleton] at h
        rw [h] at hg
        exact List.mem_append_right _ (iv_sub_gvals ((hiv t.gid v).mpr hg))
    · exact h
  obtain ⟨l2, _, s2⟩ := runTrX_Lvl hgen hc iv hiv t.body l1.inv l1.good l1.seenEq hCb hsc.1.2 fut
  obtain ⟨e3, _⟩ := exitGraphX_VEq l2.inv.nr
  rw [fixTopX_eq]
  refine ⟨l2.inv.of_VEqX e3, ?_⟩
  intro L hL
  simp only [Top.tr, allScopes, List.append_nil, List.mem_cons] at hL
  rcases hL with rfl | hL
  · exact l2.good.toScopeOK.of_VEq e3.toVEq
  · exact (s2 L hL).of_VEq e3.toVEq

theorem fixTopX_nodes (hgen : gen.NonEmpty) {w : TWorld} {t : Top} (glog : List (Bool × Nat))
    (hnr : (fixTopX gen w t glog).raised = false) (hnd : (allNodes t.body).Nodup) :
    (∀ L ∈ allNodeScopes t.tr, NScopeOKX (topNCfg w.toWorld t) (fixTopX gen w t glog) L)
    ∧ ∀ m, m ∉ allNodes t.body → (fixTopX gen w t glog).nname m = w.nname m := by
  rw [fixTopX_eq] at hnr ⊢
  have h2 := raisedX_of (fun s h => exitGraphX_raised h) hnr
  have h1 := raisedX_of (fun s h => runTrX_raised t.body h) h2
  have h0 : (initX w t glog).raised = false := rfl
  obtain ⟨n1, k1, _, r1⟩ := enterGraphX_nodes (gen := gen) h0 t.gid t.isGraph t.ins t.outs (bodyOuts t.body)
  have g1 : NGoodX (topNCfg w.toWorld t) (enterGraphX gen (initX w t glog) t.gid t.isGraph t.ins t.outs (bodyOuts t.body)) [] :=
    { inj := fun a ha => by simp at ha, named := fun a ha => by simp at ha
      first := FirstB.nil _ _
      top_iff := fun s => by rw [k1]; simp [topOf]
      gen := fun a ha => by simp at ha }
  obtain ⟨g3, _, f3, _, s3⟩ := runTrX_nodes hgen (c := topNCfg w.toWorld t) t.body h2 (by rw [r1]; rfl) g1 hnd
    (fun m _ => ⟨by simp, by rw [n1]; rfl⟩)
    (fun m hm s hs hne => (collectTr_complete w.toWorld t.tr ([], [])).2.2 m (by simp [Top.tr, allNodes, hm]) s hs hne)
  obtain ⟨n4, _, _⟩ := exitGraphX_nodes h2
  refine ⟨?_, fun m hm => by rw [n4, f3 m hm, n1]; rfl⟩
  intro L hL
  simp only [Top.tr, allNodeScopes, List.append_nil, List.mem_cons] at hL
  rcases hL with rfl | hL
  · exact (by simpa using g3.toNScopeOK : NScopeOKX _ _ (bodyNodes t.body)).of_eq (fun m _ => by rw [n4])
  · exact (s3 L hL).of_eq (fun m _ => by rw [n4])

theorem fixModelX_cons {w : TWorld} {t : Top} {ts : List Top} {glog : List (Bool × Nat)}
    (h : (fixTopX gen w t glog).raised = false) :
    fixModelX gen w glog (t :: ts) =
      ⟨(fixModelX gen (fixTopX gen w t glog).tw (fixTopX gen w t glog).glog ts).w,
       (fixTopX gen w t glog).modified || (fixModelX gen (fixTopX gen w t glog).tw (fixTopX gen w t glog).glog ts).modified,
       (fixModelX gen (fixTopX gen w t glog).tw (fixTopX gen w t glog).glog ts).raised,
       (fixModelX gen (fixTopX gen w t glog).tw (fixTopX gen w t glog).glog ts).glog⟩ := by
  simp [fixModelX, h]

theorem fixModelX_post (hgen : gen.NonEmpty) (iv : Nat → List Nat) :
    ∀ (tops : List Top) (w : TWorld) (glog : List (Bool × Nat)), InitsOk w.toWorld → (∀ v x, w.constOf v = some x → w.frozen x = false) →
    (∀ g u, u ∈ iv g ↔ w.initOf u = some g) →
    (∀ t ∈ tops, Closed w.initOf t ∧ scopedB iv t.tr [] [] = true ∧ (allNodes t.body).Nodup) →
    tops.Pairwise (TopDisj w.initOf) →
    (fixModelX gen w glog tops).raised = false
    ∧ (∀ u, (∀ t ∈ tops, ¬ TopC w.initOf t u) → (fixModelX gen w glog tops).w.vname u = w.vname u)
    ∧ (∀ m, (∀ t ∈ tops, m ∉ allNodes t.body) → (fixModelX gen w glog tops).w.nname m = w.nname m)
    ∧ ∀ t ∈ tops,
      (∀ L ∈ allScopes iv t.tr [], PostOn w.vname (fixModelX gen w glog tops).w.vname L)
      ∧ (∀ L ∈ allNodeScopes t.tr, PostOn w.nname (fixModelX gen w glog tops).w.nname L)
  | [], _, _, _, _, _, _, _ => ⟨rfl, fun _ _ => rfl, fun _ _ => rfl, fun t ht => by simp at ht⟩
  | t :: ts, w, glog, h, hf, hiv, hyp, hdisj => by
    obtain ⟨hcl, hsc, hnd⟩ := hyp t List.mem_cons_self
    obtain ⟨inv, sc⟩ := fixTopX_scopes hgen glog h hcl hf iv hiv hsc
    have nd := fixTopX_nodes hgen glog inv.nr hnd
    rw [fixModelX_cons inv.nr]
    have hio : (fixTopX gen w t glog).tw.initOf = w.initOf := inv.io
    rw [List.pairwise_cons] at hdisj
    have hyp' : ∀ t' ∈ ts, Closed (fixTopX gen w t glog).tw.initOf t' ∧ scopedB iv t'.tr [] [] = true ∧ (allNodes t'.body).Nodup :=
      fun t' ht' => by rw [hio]; exact hyp t' (List.mem_cons_of_mem _ ht')
    obtain ⟨r, fv, fn, per⟩ := fixModelX_post hgen iv ts (fixTopX gen w t glog).tw (fixTopX gen w t glog).glog inv.ok inv.nofz
      (fun g u => by rw [hio]; exact hiv g u) hyp' (by rw [hio]; exact hdisj.2)
    refine ⟨r, ?_, ?_, ?_⟩
    · intro u hu
      show (fixModelX gen (fixTopX gen w t glog).tw (fixTopX gen w t glog).glog ts).w.vname u = w.vname u
      rw [fv u (fun t' ht' => by rw [hio]; exact hu t' (List.mem_cons_of_mem _ ht'))]
      exact inv.outside u (hu t List.mem_cons_self)
    · intro m hm
      show (fixModelX gen (fixTopX gen w t glog).tw (fixTopX gen w t glog).glog ts).w.nname m = w.nname m
      rw [fn m (fun t' ht' => hm t' (List.mem_cons_of_mem _ ht'))]
      exact nd.2 m (hm t List.mem_cons_self)
    · intro t0 ht0
      rcases List.mem_cons.mp ht0 with rfl | ht0
      · -- the head: established by its own call, untouched afterwards
        constructor
        · intro L hL
          have hsub := scope_sub_TopC hiv hL
          have e : ∀ x ∈ L, (fixModelX gen (fixTopX gen w t0 glog).tw (fixTopX gen w t0 glog).glog ts).w.vname x
              = (fixTopX gen w t0 glog).vname x :=
            fun x hx => fv x (fun t' ht' => by rw [hio]; exact (hdisj.1 t' ht').1 x (hsub x hx))
          exact ⟨(sc L hL).injT.of_eq e,
            (sc L hL).first.fin_eq e⟩
        · intro L hL
          have hsub : ∀ m ∈ L, m ∈ allNodes t0.body := by
            intro m hm
            have := allNodeScopes_sub t0.tr L hL m hm
            simpa [Top.tr, allNodes] using this
          have e : ∀ m ∈ L, (fixModelX gen (fixTopX gen w t0 glog).tw (fixTopX gen w t0 glog).glog ts).w.nname m
              = (fixTopX gen w t0 glog).nname m :=
            fun m hm => fn m (fun t' ht' => (hdisj.1 t' ht').2 m (hsub m hm))
          exact ⟨(nd.1 L hL).injT.of_eq e,
            (nd.1 L hL).first.fin_eq e⟩
      · -- a later top: by induction, its values were not touched by the head's call
        have ih := per t0 ht0
        constructor
        · intro L hL
          obtain ⟨i1, f1⟩ := ih.1 L hL
          have hsub := scope_sub_TopC hiv hL
          have e : ∀ x ∈ L, (fixTopX gen w t glog).vname x = w.vname x :=
            fun x hx => inv.outside x (fun hc => (hdisj.1 t0 ht0).1 x hc (hsub x hx))
          exact ⟨i1, f1.orig_eq (fun x hx => (e x hx).symm)⟩
        · intro L hL
          obtain ⟨i1, f1⟩ := ih.2 L hL
          have hsub : ∀ m ∈ L, m ∈ allNodes t0.body := by
            intro m hm
            have := allNodeScopes_sub t0.tr L hL m hm
            simpa [Top.tr, allNodes] using this
          have e : ∀ m ∈ L, (fixTopX gen w t glog).nname m = w.nname m :=
            fun m hm => nd.2 m (fun hc => (hdisj.1 t0 ht0).2 m hc (hsub m hm))
          exact ⟨i1, f1.orig_eq (fun x hx => (e x hx).symm)⟩

end IrVerif.Names
