/-
Kernel: the ownership clause under one acquisition / one release (`I_own.acquire`, `I_own.release`); the tracked graph
input / output lists (`ioInsert`, `ioRemoveAt`, `ioPermute`).
-/
import IrVerif.Lemmas.KernelProd
namespace IrVerif.Kernel

theorem count_insertAt (l : List Nat) (pos v u : Nat) :
    (insertAt l pos v).count u = l.count u + if v = u then 1 else 0 := by
  unfold insertAt
  have h : l.count u = (l.take pos).count u + (l.drop pos).count u := by
    rw [← List.count_append, List.take_append_drop]
  simp [List.count_append, List.count_cons, h]
  split <;> omega

theorem mem_insertAt (l : List Nat) (pos v u : Nat) : u ∈ insertAt l pos v ↔ u = v ∨ u ∈ l := by
  unfold insertAt
  have h : u ∈ l ↔ u ∈ l.take pos ∨ u ∈ l.drop pos := by
    rw [← List.mem_append, List.take_append_drop]
  simp only [List.mem_append, List.mem_cons, h]
  grind

theorem count_eraseIdx_of (l : List Nat) (pos v u : Nat) (h : l[pos]? = some v) :
    (l.eraseIdx pos).count u = l.count u - if v = u then 1 else 0 := by
  obtain ⟨hp, rfl⟩ := List.getElem?_eq_some_iff.1 h
  have hl : l.count u = (l.take pos).count u + ((if l[pos] = u then 1 else 0) + (l.drop (pos + 1)).count u) := by
    conv => lhs; rw [← List.take_append_drop pos l, ← List.getElem_cons_drop hp]
    rw [List.count_append, List.count_cons]; simp only [beq_iff_eq]; omega
  rw [List.eraseIdx_eq_take_drop_succ, List.count_append, hl]
  split <;> omega

@[simp] theorem ioList_setIoList (k' k : IOKind) (r : GraphS) (l : List Nat) :
    ioList k' (setIoList k r l) = if k' = k then l else ioList k' r := by
  cases k <;> cases k' <;> simp [ioList, setIoList]
@[simp] theorem ioList_setIoCnt (k' k : IOKind) (r : GraphS) (l : List Nat) :
    ioList k' (setIoCnt k r l) = ioList k' r := by
  cases k <;> cases k' <;> simp [ioList, setIoCnt]
@[simp] theorem ioCnt_setIoCnt (k' k : IOKind) (r : GraphS) (l : List Nat) :
    ioCnt k' (setIoCnt k r l) = if k' = k then l else ioCnt k' r := by
  cases k <;> cases k' <;> simp [ioCnt, setIoCnt]
@[simp] theorem ioCnt_setIoList (k' k : IOKind) (r : GraphS) (l : List Nat) :
    ioCnt k' (setIoList k r l) = ioCnt k' r := by
  cases k <;> cases k' <;> simp [ioCnt, setIoList]
@[simp] theorem inits_setIoList (k : IOKind) (r : GraphS) (l : List Nat) : (setIoList k r l).inits = r.inits := by
  cases k <;> rfl
@[simp] theorem inits_setIoCnt (k : IOKind) (r : GraphS) (l : List Nat) : (setIoCnt k r l).inits = r.inits := by
  cases k <;> rfl
@[simp] theorem nodes_setIoList (k : IOKind) (r : GraphS) (l : List Nat) : (setIoList k r l).nodes = r.nodes := by
  cases k <;> rfl
@[simp] theorem nodes_setIoCnt (k : IOKind) (r : GraphS) (l : List Nat) : (setIoCnt k r l).nodes = r.nodes := by
  cases k <;> rfl
@[simp] theorem ioFlag_setIoFlag (k' k : IOKind) (x : ValueS) (b : Bool) :
    ioFlag k' (setIoFlag k x b) = if k' = k then b else ioFlag k' x := by
  cases k <;> cases k' <;> simp [ioFlag, setIoFlag]
@[simp] theorem graph_setIoFlag (k : IOKind) (x : ValueS) (b : Bool) : (setIoFlag k x b).graph = x.graph := by
  cases k <;> rfl
@[simp] theorem isInit_setIoFlag (k : IOKind) (x : ValueS) (b : Bool) : (setIoFlag k x b).isInit = x.isInit := by
  cases k <;> rfl
@[simp] theorem producer_setIoFlag (k : IOKind) (x : ValueS) (b : Bool) :
    (setIoFlag k x b).producer = x.producer := by cases k <;> rfl
@[simp] theorem index_setIoFlag (k : IOKind) (x : ValueS) (b : Bool) : (setIoFlag k x b).index = x.index := by
  cases k <;> rfl
@[simp] theorem name_setIoFlag (k : IOKind) (x : ValueS) (b : Bool) : (setIoFlag k x b).name = x.name := by
  cases k <;> rfl
@[simp] theorem uses_setIoFlag (k : IOKind) (x : ValueS) (b : Bool) : (setIoFlag k x b).uses = x.uses := by
  cases k <;> rfl
@[simp] theorem ioFlag_graph (k : IOKind) (x : ValueS) (o : Option Nat) :
    ioFlag k { x with graph := o } = ioFlag k x := by cases k <;> rfl

theorem owned_iff (x : ValueS) : owned x = true ↔ (ioFlag .inp x = true ∨ ioFlag .out x = true ∨ x.isInit = true) := by
  simp [owned, ioFlag, or_assoc]

theorem owned_of_flag (k : IOKind) (x : ValueS) (h : ioFlag k x = true) : owned x = true := by
  rw [owned_iff]; cases k <;> simp_all

theorem isIn_eq (x : ValueS) : x.isIn = ioFlag .inp x := rfl
theorem isOut_eq (x : ValueS) : x.isOut = ioFlag .out x := rfl

/-- the collections of a graph that hold values: a tracked list (`some k`) or the initializer mapping (`none`) -/
def heldIn (w : World) (g : Nat) : Option IOKind → Nat → Prop
  | some k, v => v ∈ ioList k (w.gr g)
  | none, v => ∃ key, (key, v) ∈ (w.gr g).inits

def flagOf : Option IOKind → ValueS → Bool
  | some k, x => ioFlag k x
  | none, x => x.isInit

theorem owned_of_flagOf (s : Option IOKind) (x : ValueS) (h : flagOf s x = true) : owned x = true := by
  cases s with
  | some k => exact owned_of_flag k x h
  | none => rw [owned_iff]; exact Or.inr (Or.inr h)

theorem I_own.held_iff {w : World} (h : I_own w) (s : Option IOKind) (g v : Nat) :
    heldIn w g s v ↔ (flagOf s (w.val v) = true ∧ (w.val v).graph = some g) := by
  cases s with
  | some k => exact h.io_iff k g v
  | none => exact h.init_iff g v

theorem I_own.flag_graph {w : World} (h : I_own w) (s : Option IOKind) (v : Nat) (hf : flagOf s (w.val v) = true) :
    ∃ g, (w.val v).graph = some g := by
  cases s with
  | some k => obtain ⟨g, hg, -⟩ := h.io_flag k v hf; exact ⟨g, hg⟩
  | none => obtain ⟨g, -, hg, -⟩ := h.init_flag v hf; exact ⟨g, hg⟩

theorem I_own.of_held {w : World} (hcnt : ∀ k g v, lget (ioCnt k (w.gr g)) v = (ioList k (w.gr g)).count v)
    (hh : ∀ s g v, heldIn w g s v ↔ (flagOf s (w.val v) = true ∧ (w.val v).graph = some g))
    (hg : ∀ s v, flagOf s (w.val v) = true → ∃ g, (w.val v).graph = some g)
    (ho : ∀ v g, (w.val v).graph = some g → owned (w.val v) = true) : I_own w :=
  ⟨hcnt, fun k g v hm => (hh (some k) g v).1 hm,
   fun k v hf => by obtain ⟨g, e⟩ := hg (some k) v hf; exact ⟨g, e, (hh (some k) g v).2 ⟨hf, e⟩⟩,
   fun g key v hm => (hh none g v).1 ⟨key, hm⟩,
   fun v hf => by
    obtain ⟨g, e⟩ := hg none v hf
    obtain ⟨key, hm⟩ := (hh none g v).2 ⟨hf, e⟩
    exact ⟨g, key, e, hm⟩, ho⟩

/-- `w'` is `w` after collection `s` of graph `g` took one more reference to `v`, which no other graph owns -/
theorem I_own.acquire {w w' : World} (h : I_own w) (g : Nat) (s : Option IOKind) (v : Nat)
    (hfree : (w.val v).graph = none ∨ (w.val v).graph = some g)
    (hcnt : ∀ k g u, lget (ioCnt k (w'.gr g)) u = (ioList k (w'.gr g)).count u)
    (hval : ∀ u, u ≠ v → w'.val u = w.val u)
    (hflag : ∀ s', flagOf s' (w'.val v) = (decide (s' = s) || flagOf s' (w.val v)))
    (hgraph : (w'.val v).graph = some g)
    (hheld : ∀ s' g' u, heldIn w' g' s' u ↔ (g' = g ∧ s' = s ∧ u = v) ∨ heldIn w g' s' u) : I_own w' := by
  replace hfree : ∀ g', (w.val v).graph = some g' → g' = g := fun g' e => by
    rcases hfree with e' | e' <;> rw [e] at e'
    · cases e'
    · exact Option.some.inj e'
  refine I_own.of_held hcnt (fun s' g' u => ?_) (fun s' u hf => ?_) (fun u g' hg => ?_)
  · rw [hheld, h.held_iff]
    by_cases hu : u = v
    · subst hu
      rw [hflag, hgraph]
      constructor
      · rintro (⟨rfl, rfl, -⟩ | ⟨hf, hg⟩)
        · simp
        · rw [hfree g' hg]; simp [hf]
      · rintro ⟨hf, hg⟩
        cases hg
        by_cases hs : s' = s
        · exact Or.inl ⟨rfl, hs, rfl⟩
        · simp only [hs, decide_false, Bool.false_or] at hf
          obtain ⟨g'', hg''⟩ := h.flag_graph s' u hf
          exact Or.inr ⟨hf, by rw [hg'', hfree g'' hg'']⟩
    · rw [hval u hu]; simp [hu]
  · by_cases hu : u = v
    · subst hu; exact ⟨g, hgraph⟩
    · rw [hval u hu] at hf ⊢; exact h.flag_graph s' u hf
  · by_cases hu : u = v
    · subst hu; exact owned_of_flagOf s _ (by rw [hflag]; simp)
    · rw [hval u hu] at hg ⊢; exact h.graph_owned u g' hg

/-- `w'` is `w` after collection `s` of graph `g` dropped one reference to `v`; `last`: it held no other, and `v` loses
    the flag (and the owner, when no flag is left) -/
theorem I_own.release {w w' : World} (h : I_own w) (g : Nat) (s : Option IOKind) (v : Nat) (last : Prop)
    (hin : heldIn w g s v)
    (hcnt : ∀ k g u, lget (ioCnt k (w'.gr g)) u = (ioList k (w'.gr g)).count u)
    (hval : ∀ u, ¬ (u = v ∧ last) → w'.val u = w.val u)
    (hflag : last → ∀ s', flagOf s' (w'.val v) = (!decide (s' = s) && flagOf s' (w.val v)))
    (hgraph : last → (w'.val v).graph = if owned (w'.val v) then (w.val v).graph else none)
    (hheld : ∀ s' g' u, heldIn w' g' s' u ↔ heldIn w g' s' u ∧ ¬ (g' = g ∧ s' = s ∧ u = v ∧ last)) : I_own w' := by
  have hvg := ((h.held_iff s g v).1 hin).2
  refine I_own.of_held hcnt (fun s' g' u => ?_) (fun s' u hf => ?_) (fun u g' hg => ?_)
  · rw [hheld, h.held_iff]
    by_cases hu : u = v ∧ last
    · obtain ⟨rfl, hl⟩ := hu
      rw [hflag hl, hgraph hl]
      constructor
      · rintro ⟨⟨hf, hg⟩, hn⟩
        have hgg : g' = g := by rw [hvg] at hg; exact (Option.some.inj hg).symm
        have hs : ¬ s' = s := fun e => hn ⟨hgg, e, rfl, hl⟩
        have hf' : flagOf s' (w'.val u) = true := by rw [hflag hl]; simp [hs, hf]
        rw [if_pos (owned_of_flagOf s' _ hf')]
        exact ⟨by simp [hs, hf], hg⟩
      · rintro ⟨hf, hg⟩
        simp only [Bool.and_eq_true, Bool.not_eq_true', decide_eq_false_iff_not] at hf
        split at hg
        · exact ⟨⟨hf.2, hg⟩, fun hn => hf.1 hn.2.1⟩
        · cases hg
    · rw [hval u hu]
      exact ⟨fun hh => hh.1, fun hh => ⟨hh, fun hn => hu ⟨hn.2.2.1, hn.2.2.2⟩⟩⟩
  · by_cases hu : u = v ∧ last
    · obtain ⟨rfl, hl⟩ := hu
      exact ⟨g, by rw [hgraph hl, if_pos (owned_of_flagOf s' _ hf), hvg]⟩
    · rw [hval u hu] at hf ⊢; exact h.flag_graph s' u hf
  · by_cases hu : u = v ∧ last
    · obtain ⟨rfl, hl⟩ := hu
      rw [hgraph hl] at hg
      split at hg
      · assumption
      · cases hg
    · rw [hval u hu] at hg ⊢; exact h.graph_owned u g' hg

theorem ioInsert_gr (w : World) (g : Nat) (k : IOKind) (pos v : Nat) (hc : checkIO w g k v = true) (g' : Nat) :
    (ioInsert w g k pos v).gr g' =
      if g' = g then
        setIoList k (setIoCnt k (w.gr g) (lset (ioCnt k (w.gr g)) v (lget (ioCnt k (w.gr g)) v + 1)))
          (insertAt (ioList k (w.gr g)) pos v)
      else w.gr g' := by
  simp [ioInsert, hc, setIO]
  split <;> simp

theorem ioInsert_val (w : World) (g : Nat) (k : IOKind) (pos v : Nat) (hc : checkIO w g k v = true) (u : Nat) :
    (ioInsert w g k pos v).val u =
      if u = v then setIoFlag k { w.val v with graph := some g } true else w.val u := by
  simp [ioInsert, hc, setIO]

theorem ioInsert_node (w : World) (g : Nat) (k : IOKind) (pos v : Nat) (n : Nat) :
    (ioInsert w g k pos v).node n = w.node n := by
  unfold ioInsert setIO; split <;> simp


theorem ioInsert_mem (w : World) (g : Nat) (k : IOKind) (pos v : Nat) (hc : checkIO w g k v = true) (k' : IOKind)
    (g' u : Nat) :
    u ∈ ioList k' ((ioInsert w g k pos v).gr g') ↔ (g' = g ∧ k' = k ∧ u = v) ∨ u ∈ ioList k' (w.gr g') := by
  rw [ioInsert_gr _ _ _ _ _ hc]
  by_cases hg : g' = g
  · subst hg
    rw [if_pos rfl, ioList_setIoList]
    by_cases hk : k' = k
    · subst hk; rw [if_pos rfl, mem_insertAt]; simp
    · rw [if_neg hk, ioList_setIoCnt]; simp [hk]
  · rw [if_neg hg]; simp [hg]

theorem ioInsert_inits (w : World) (g : Nat) (k : IOKind) (pos v : Nat) (hc : checkIO w g k v = true) (g' : Nat) :
    ((ioInsert w g k pos v).gr g').inits = (w.gr g').inits := by
  rw [ioInsert_gr _ _ _ _ _ hc]; split
  · subst_vars; rw [inits_setIoList, inits_setIoCnt]
  · rfl

theorem ioInsert_I_own (w : World) (g : Nat) (k : IOKind) (pos v : Nat) (h : I_own w) :
    I_own (ioInsert w g k pos v) := by
  by_cases hc : checkIO w g k v = true
  · refine h.acquire g (some k) v ?_ (fun k' g' u => ?_) (fun u hu => ?_) (fun s' => ?_) ?_ (fun s' g' u => ?_)
    · simp only [checkIO, Bool.and_eq_true, Bool.or_eq_true, decide_eq_true_eq] at hc
      exact hc.1
    · rw [ioInsert_gr _ _ _ _ _ hc]
      by_cases hg : g' = g
      · subst hg
        rw [if_pos rfl, ioCnt_setIoList, ioCnt_setIoCnt, ioList_setIoList]
        by_cases hk : k' = k
        · subst hk
          rw [if_pos rfl, if_pos rfl, lget_lset, count_insertAt, ← h.cnt]
          by_cases hu : u = v
          · subst hu; rw [if_pos rfl, if_pos rfl]
          · rw [if_neg hu, if_neg (Ne.symm hu)]; rfl
        · rw [if_neg hk, if_neg hk, ioList_setIoCnt]; exact h.cnt k' g' u
      · rw [if_neg hg]; exact h.cnt k' g' u
    · rw [ioInsert_val _ _ _ _ _ hc, if_neg hu]
    · rw [ioInsert_val _ _ _ _ _ hc, if_pos rfl]
      cases s' with
      | some k' => simp [flagOf]
      | none => simp [flagOf]
    · rw [ioInsert_val _ _ _ _ _ hc, if_pos rfl, graph_setIoFlag]
    · cases s' with
      | some k' => simp only [heldIn, ioInsert_mem w g k pos v hc, Option.some.injEq]
      | none => simp [heldIn, ioInsert_inits _ _ _ _ _ hc]
  · simp [ioInsert, hc]; exact I_own_bump h


/-- the record of `v` after its last reference in a tracked list went away -/
def released (k : IOKind) (x : ValueS) : ValueS :=
  { setIoFlag k x false with graph := if owned (setIoFlag k x false) then x.graph else none }

theorem ioRemoveAt_gr (w : World) (g : Nat) (k : IOKind) (pos v : Nat)
    (hv : (ioList k (w.gr g))[pos]? = some v) (g' : Nat) :
    (ioRemoveAt w g k pos).gr g' =
      if g' = g then
        setIoCnt k (setIoList k (w.gr g) ((ioList k (w.gr g)).eraseIdx pos))
          (lset (ioCnt k (w.gr g)) v (lget (ioCnt k (w.gr g)) v - 1))
      else w.gr g' := by
  simp [ioRemoveAt, hv, unsetIO]
  split <;> simp <;> split <;> simp

theorem ioRemoveAt_val (w : World) (g : Nat) (k : IOKind) (pos v : Nat)
    (hv : (ioList k (w.gr g))[pos]? = some v) (u : Nat) :
    (ioRemoveAt w g k pos).val u =
      if u = v ∧ lget (ioCnt k (w.gr g)) v - 1 = 0 then released k (w.val v) else w.val u := by
  simp only [ioRemoveAt, hv, unsetIO, World.gr_setGr, if_true, ioCnt_setIoList, World.val_setGr]
  by_cases hc : lget (ioCnt k (w.gr g)) v - 1 = 0
  · rw [if_neg (by omega), World.val_setVal]
    simp only [hc, and_true, World.val_setGr]
    split
    · cases k <;> rfl
    · rfl
  · rw [if_pos (by omega), if_neg (fun h => hc h.2)]; rfl

theorem ioRemoveAt_node (w : World) (g : Nat) (k : IOKind) (pos : Nat) (n : Nat) :
    (ioRemoveAt w g k pos).node n = w.node n := by
  unfold ioRemoveAt unsetIO; split <;> simp; split <;> simp

@[simp] theorem released_flag (k' k : IOKind) (x : ValueS) :
    ioFlag k' (released k x) = if k' = k then false else ioFlag k' x := by
  cases k <;> cases k' <;> simp [released, ioFlag, setIoFlag]
@[simp] theorem released_isInit (k : IOKind) (x : ValueS) : (released k x).isInit = x.isInit := by
  cases k <;> rfl
@[simp] theorem released_graph (k : IOKind) (x : ValueS) :
    (released k x).graph = if owned (setIoFlag k x false) then x.graph else none := by
  cases k <;> rfl
@[simp] theorem owned_released (k : IOKind) (x : ValueS) : owned (released k x) = owned (setIoFlag k x false) := by
  cases k <;> rfl

theorem owned_clear_elim (k : IOKind) (x : ValueS) (h : owned (setIoFlag k x false) = true) :
    (∃ k', ¬ k' = k ∧ ioFlag k' x = true) ∨ x.isInit = true := by
  cases k <;> simp [owned, setIoFlag] at h
  · rcases h with h | h
    · exact Or.inl ⟨.out, by simp, h⟩
    · exact Or.inr h
  · rcases h with h | h
    · exact Or.inl ⟨.inp, by simp, h⟩
    · exact Or.inr h

theorem mem_eraseIdx_iff_count (l : List Nat) (pos v u : Nat) (h : l[pos]? = some v) :
    u ∈ l.eraseIdx pos ↔ (u ∈ l ∧ (u = v → 2 ≤ l.count v)) := by
  rw [← List.count_pos_iff, count_eraseIdx_of l pos v u h, ← List.count_pos_iff]
  have hv : 0 < l.count v := List.count_pos_iff.2 (List.mem_of_getElem? h)
  by_cases hu : u = v
  · subst hu; simp only [if_true, true_implies]; omega
  · have : ¬ v = u := fun e => hu e.symm
    simp [hu, this]

/-- `v` stays in the list it was taken from only if it was listed there twice -/
theorem ioRemoveAt_mem (w : World) (g : Nat) (k : IOKind) (pos v : Nat) (hv : (ioList k (w.gr g))[pos]? = some v)
    (k' : IOKind) (g' u : Nat) :
    u ∈ ioList k' ((ioRemoveAt w g k pos).gr g') ↔
      u ∈ ioList k' (w.gr g') ∧ (g' = g → k' = k → u = v → 2 ≤ (ioList k (w.gr g)).count v) := by
  rw [ioRemoveAt_gr _ _ _ _ _ hv]
  by_cases hg : g' = g
  · subst hg
    rw [if_pos rfl, ioList_setIoCnt, ioList_setIoList]
    by_cases hk : k' = k
    · subst hk; rw [if_pos rfl, mem_eraseIdx_iff_count _ _ _ _ hv]; simp
    · rw [if_neg hk]; simp [hk]
  · rw [if_neg hg]; simp [hg]

theorem ioRemoveAt_inits (w : World) (g : Nat) (k : IOKind) (pos v : Nat) (hv : (ioList k (w.gr g))[pos]? = some v)
    (g' : Nat) : ((ioRemoveAt w g k pos).gr g').inits = (w.gr g').inits := by
  rw [ioRemoveAt_gr _ _ _ _ _ hv]; split
  · subst_vars; rw [inits_setIoCnt, inits_setIoList]
  · rfl

/-- the flag of the removed value goes exactly when its counter reaches 0, i.e. when the list held it once -/
theorem ioRemoveAt_I_own (w : World) (g : Nat) (k : IOKind) (pos : Nat) (h : I_own w) :
    I_own (ioRemoveAt w g k pos) := by
  cases hv : (ioList k (w.gr g))[pos]? with
  | none => simp [ioRemoveAt, hv]; exact I_own_bump h
  | some v =>
    have hmem : v ∈ ioList k (w.gr g) := List.mem_of_getElem? hv
    have hcnt := h.cnt k g v
    have hpos : 0 < (ioList k (w.gr g)).count v := List.count_pos_iff.2 hmem
    refine h.release g (some k) v (lget (ioCnt k (w.gr g)) v - 1 = 0) hmem (fun k' g' u => ?_) (fun u hu => ?_)
      (fun hl s' => ?_) (fun hl => ?_) (fun s' g' u => ?_)
    · rw [ioRemoveAt_gr _ _ _ _ _ hv]
      by_cases hg : g' = g
      · subst hg
        rw [if_pos rfl, ioCnt_setIoCnt, ioList_setIoCnt, ioList_setIoList, ioCnt_setIoList]
        by_cases hk : k' = k
        · subst hk
          rw [if_pos rfl, if_pos rfl, lget_lset, count_eraseIdx_of _ _ _ _ hv, ← h.cnt]
          by_cases hu : u = v
          · subst hu; rw [if_pos rfl, if_pos rfl]
          · rw [if_neg hu, if_neg (Ne.symm hu)]; rfl
        · rw [if_neg hk, if_neg hk]; exact h.cnt k' g' u
      · rw [if_neg hg]; exact h.cnt k' g' u
    · rw [ioRemoveAt_val _ _ _ _ _ hv, if_neg hu]
    · rw [ioRemoveAt_val _ _ _ _ _ hv, if_pos ⟨rfl, hl⟩]
      cases s' with
      | some k' => simp [flagOf]
      | none => simp [flagOf]
    · rw [ioRemoveAt_val _ _ _ _ _ hv, if_pos ⟨rfl, hl⟩, released_graph, owned_released]
    · cases s' with
      | some k' =>
        simp only [heldIn, ioRemoveAt_mem w g k pos v hv, Option.some.injEq]
        constructor
        · rintro ⟨hm, hc⟩; exact ⟨hm, fun hn => by have := hc hn.1 hn.2.1 hn.2.2.1; omega⟩
        · rintro ⟨hm, hn⟩; exact ⟨hm, fun e1 e2 e3 => by
            have : ¬ lget (ioCnt k (w.gr g)) v - 1 = 0 := fun e => hn ⟨e1, e2, e3, e⟩
            omega⟩
      | none => simp [heldIn, ioRemoveAt_inits _ _ _ _ _ hv]

/-- rearranging a tracked list in place (`list.sort`, `list.reverse`): a permutation; counters, flags and owning
graphs are not written -/
theorem ioPermute_I_own (w : World) (g : Nat) (k : IOKind) (l : List Nat) (hp : l.Perm (ioList k (w.gr g)))
    (h : I_own w) : I_own (ioPermute w g k l) := by
  refine I_own_perm (w := w) (w' := ioPermute w g k l) (fun _ => ⟨rfl, rfl, rfl, rfl⟩) (fun g' => ?_) h
  simp only [ioPermute, World.gr_setGr]
  split
  · subst_vars
    cases k
    · exact ⟨hp, .refl _, rfl, rfl, rfl⟩
    · exact ⟨.refl _, hp, rfl, rfl, rfl⟩
  · exact ⟨.refl _, .refl _, rfl, rfl, rfl⟩

abbrev ListFrame := Frame id id (fun r => { r with inputs := [], outputs := [] })

theorem ioPermute_listFrame (w : World) (g : Nat) (k : IOKind) (l : List Nat) : ListFrame w (ioPermute w g k l) :=
  Frame.setGr w g _ (by cases k <;> rfl)

theorem ioInsert_I_root (w : World) (g : Nat) (k : IOKind) (pos v : Nat) (h : I_root w) :
    I_root (ioInsert w g k pos v) := by
  by_cases hc : checkIO w g k v = true
  · intro u
    rw [ioInsert_val _ _ _ _ _ hc]
    split
    · subst_vars
      have := h u
      simp [checkIO] at hc
      cases k <;> simp_all [setIoFlag]
    · exact h u
  · simp [ioInsert, hc]; exact h

theorem ioRemoveAt_I_root (w : World) (g : Nat) (k : IOKind) (pos : Nat) (h : I_root w) :
    I_root (ioRemoveAt w g k pos) := by
  cases hv : (ioList k (w.gr g))[pos]? with
  | none => simp [ioRemoveAt, hv]; exact h
  | some v =>
    intro u
    rw [ioRemoveAt_val _ _ _ _ _ hv]
    split
    · rename_i hc; obtain ⟨hu, -⟩ := hc; subst hu
      have := h u
      cases k <;> simp_all [released, setIoFlag]
    · exact h u

abbrev IOFrame :=
  Frame (fun x => { x with graph := none, isIn := false, isOut := false }) id
    (fun r => { r with inputs := [], outputs := [], inCnt := [], outCnt := [] })

theorem ioInsert_locked (w : World) (g : Nat) (k : IOKind) (pos v : Nat) : (ioInsert w g k pos v).locked = w.locked := by
  unfold ioInsert setIO; split
  · simp
  · rfl

theorem ioInsert_ioFrame (w : World) (g : Nat) (k : IOKind) (pos v : Nat) : IOFrame w (ioInsert w g k pos v) := by
  by_cases hc : checkIO w g k v = true
  · refine ⟨fun u => ?_, ioInsert_node w g k pos v, fun g' => ?_, ioInsert_locked w g k pos v⟩
    · rw [ioInsert_val _ _ _ _ _ hc]; split
      · subst_vars; cases k <;> rfl
      · rfl
    · rw [ioInsert_gr _ _ _ _ _ hc]; split
      · subst_vars; cases k <;> rfl
      · rfl
  · simp only [ioInsert, hc]; exact Frame.bump w

theorem ioRemoveAt_ioFrame (w : World) (g : Nat) (k : IOKind) (pos : Nat) : IOFrame w (ioRemoveAt w g k pos) := by
  cases hv : (ioList k (w.gr g))[pos]? with
  | none => simp only [ioRemoveAt, hv]; exact Frame.bump w
  | some v =>
    refine ⟨fun u => ?_, ioRemoveAt_node w g k pos, fun g' => ?_, ?_⟩
    · rw [ioRemoveAt_val _ _ _ _ _ hv]; split
      · rename_i hc; obtain ⟨hu, -⟩ := hc; subst hu; cases k <;> rfl
      · rfl
    · rw [ioRemoveAt_gr _ _ _ _ _ hv]; split
      · subst_vars; cases k <;> rfl
      · rfl
    · simp only [ioRemoveAt, hv, unsetIO]; split <;> rfl

end IrVerif.Kernel
