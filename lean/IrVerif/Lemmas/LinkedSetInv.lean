/-
Representation invariant `Inv s bs` (`bs` = the live boxes in list order) and its preservation by
the two primitive transitions: `remove` of a present value and `linkNew` of an absent one.
-/
import IrVerif.Lemmas.LinkedSetRep
import IrVerif.Lemmas.ListFacts
namespace IrVerif.LinkedSet

/-! ### the `id -> box` dict -/

theorem mem_dictDel (ix : List (Nat × Nat)) (v v' b : Nat) :
    (v', b) ∈ dictDel ix v ↔ (v', b) ∈ ix ∧ v' ≠ v := by
  simp [dictDel]

theorem keys_dictDel (ix : List (Nat × Nat)) (v : Nat) (h : (ix.map Prod.fst).Nodup) :
    ((dictDel ix v).map Prod.fst).Nodup := by
  unfold dictDel
  exact List.Nodup.sublist (List.Sublist.map _ List.filter_sublist) h

theorem length_dictDel : ∀ (ix : List (Nat × Nat)) (v b : Nat), (ix.map Prod.fst).Nodup →
    (v, b) ∈ ix → (dictDel ix v).length + 1 = ix.length
  | [], _, _, _, h => by simp at h
  | (k, c) :: ix, v, b, hk, h => by
      simp only [List.map_cons, List.nodup_cons, List.mem_map, not_exists, not_and] at hk
      simp only [List.mem_cons, Prod.mk.injEq] at h
      rcases h with ⟨h1, h2⟩ | h
      · subst h1 h2
        have : dictDel ix v = ix := by
          unfold dictDel
          apply List.filter_eq_self.mpr
          intro e he
          have := hk.1 e he
          simp; exact this
        have h2 : dictDel ((v, b) :: ix) v = dictDel ix v := by simp [dictDel]
        rw [h2, this]; simp
      · have : k ≠ v := by
          rintro rfl
          exact hk.1 (k, b) h rfl
        have ih := length_dictDel ix v b hk.2 h
        simp [dictDel, this] at ih ⊢
        omega

theorem dictSet_absent (ix : List (Nat × Nat)) (v b : Nat) (h : ix.lookup v = none) :
    dictSet ix v b = ix ++ [(v, b)] := by
  simp [dictSet, h]

/-! ### the invariant -/

structure Inv (s : LSet) (bs : List Nat) : Prop where
  size_pos : 0 < size s
  nodup : bs.Nodup
  live : ∀ b ∈ bs, 0 < b ∧ b < size s ∧ (val s b).isSome
  dead : ∀ b, b ∉ bs → val s b = none
  links : Links s (0 :: bs ++ [0])
  idx : ∀ v b, (v, b) ∈ s.index ↔ b ∈ bs ∧ val s b = some v
  keys : (s.index.map Prod.fst).Nodup
  len : s.length = bs.length
  ilen : s.index.length = bs.length
  clk : s.clock + s.length = size s
  bound : ∀ b, b < size s → nx s b < size s ∧ pv s b < size s ∧ stp s b < s.clock
  /-- for every index, also out of range: a dangling reference reads `Box.dflt`, whose `own` is `true` -/
  owned : ∀ b, own s b = true
  /-- tombstones: the stored pointers of an erased box lead to the root, a live box, or a box
      erased strictly later -/
  tomb : ∀ b, b < size s → b ≠ 0 → b ∉ bs →
    (nx s b = 0 ∨ nx s b ∈ bs ∨ stp s b < stp s (nx s b)) ∧
    (pv s b = 0 ∨ pv s b ∈ bs ∨ stp s b < stp s (pv s b))

theorem Inv.zero_notin {s : LSet} {bs : List Nat} (h : Inv s bs) : 0 ∉ bs := by
  intro h0; have := (h.live 0 h0).1; omega

theorem Inv.clock_pos {s : LSet} {bs : List Nat} (h : Inv s bs) : 0 < s.clock := by
  have := (h.bound 0 h.size_pos).2.2; omega

theorem Inv.val_inj {s : LSet} {bs : List Nat} (h : Inv s bs) {b1 b2 v : Nat}
    (h1 : b1 ∈ bs) (h2 : b2 ∈ bs) (e1 : val s b1 = some v) (e2 : val s b2 = some v) : b1 = b2 := by
  have m1 := (h.idx v b1).2 ⟨h1, e1⟩
  have m2 := (h.idx v b2).2 ⟨h2, e2⟩
  have l1 := ListFacts.lookup_of_mem_nodup h.keys m1
  have l2 := ListFacts.lookup_of_mem_nodup h.keys m2
  rw [l1] at l2; exact Option.some.inj l2

theorem Inv.lookup_some {s : LSet} {bs : List Nat} (h : Inv s bs) {b v : Nat}
    (hb : b ∈ bs) (hv : val s b = some v) : lookup s v = some b :=
  ListFacts.lookup_of_mem_nodup h.keys ((h.idx v b).2 ⟨hb, hv⟩)

theorem Inv.lookup_none {s : LSet} {bs : List Nat} (h : Inv s bs) {v : Nat}
    (hv : ∀ b ∈ bs, val s b ≠ some v) : lookup s v = none := by
  apply ListFacts.lookup_none_iff.2
  intro b hb
  have := (h.idx v b).1 hb
  exact hv b this.1 this.2

theorem Inv.lookup_spec {s : LSet} {bs : List Nat} (h : Inv s bs) {b v : Nat}
    (hl : lookup s v = some b) : b ∈ bs ∧ val s b = some v :=
  (h.idx v b).1 (ListFacts.mem_of_lookup hl)

/-- pointer values around a live box -/
theorem Inv.around {s : LSet} {l1 l2 : List Nat} {n : Nat} (h : Inv s (l1 ++ n :: l2)) :
    pv s n = lastOr 0 l1 ∧ nx s n = headOr 0 l2 ∧ nx s (lastOr 0 l1) = n ∧ pv s (headOr 0 l2) = n := by
  have hl := h.links
  have h1 := Links_into l1 0 n (l2 ++ [0]) (by simpa using hl)
  have h2 := Links_outof (0 :: l1) n l2 0 (by simpa using hl)
  exact ⟨h1.2, h2.1, h1.1, h2.2⟩

theorem Inv.node_lt {s : LSet} {bs : List Nat} (h : Inv s bs) {x : Nat} (hx : IsNode bs x) : x < size s :=
  hx.elim (fun e => e ▸ h.size_pos) fun hm => (h.live x hm).2.1

theorem Inv.lastOr_lt {s : LSet} {l1 l2 : List Nat} (h : Inv s (l1 ++ l2)) : lastOr 0 l1 < size s :=
  h.node_lt (.lastOr l1 l2)

theorem Inv.headOr_lt {s : LSet} {l1 l2 : List Nat} (h : Inv s (l1 ++ l2)) : headOr 0 l2 < size s :=
  h.node_lt (.headOr l1 l2)

theorem Inv.link_mid {s : LSet} {l1 l2 : List Nat} (h : Inv s (l1 ++ l2)) :
    nx s (lastOr 0 l1) = headOr 0 l2 ∧ pv s (headOr 0 l2) = lastOr 0 l1 := by
  have hl := h.links
  cases l2 with
  | nil => simpa using Links_into l1 0 0 [] (by simpa using hl)
  | cons q l2 => simpa using Links_into l1 0 q (l2 ++ [0]) (by simpa using hl)

theorem Inv.nx_last {s : LSet} {l1 l2 : List Nat} (h : Inv s (l1 ++ l2)) :
    nx s (lastOr 0 l1) = headOr 0 l2 :=
  h.link_mid.1

/-! ### removing a present value -/

/-- the state `remove` returns for a value stored in box `n` -/
def rmv (s : LSet) (n v : Nat) : LSet :=
  { er s n with length := (er s n).length - 1, index := dictDel (er s n).index v }

theorem nx_rmv (s : LSet) (n v x : Nat) : nx (rmv s n v) x = nx (er s n) x := nx_with (er s n) _ _ x
theorem pv_rmv (s : LSet) (n v x : Nat) : pv (rmv s n v) x = pv (er s n) x := pv_with (er s n) _ _ x
theorem val_rmv (s : LSet) (n v x : Nat) : val (rmv s n v) x = val (er s n) x := val_with (er s n) _ _ x
theorem stp_rmv (s : LSet) (n v x : Nat) : stp (rmv s n v) x = stp (er s n) x := stp_with (er s n) _ _ x
theorem own_rmv (s : LSet) (n v x : Nat) : own (rmv s n v) x = own s x :=
  (own_with (er s n) _ _ x).trans (own_er s n x)
theorem box_rmv (s : LSet) (n v x : Nat) : box (rmv s n v) x = box (er s n) x := box_with (er s n) _ _ x
theorem size_rmv (s : LSet) (n v : Nat) : size (rmv s n v) = size s :=
  (size_with (er s n) _ _).trans (size_er s n)
theorem clock_rmv (s : LSet) (n v : Nat) : (rmv s n v).clock = s.clock + 1 :=
  (clock_with (er s n) _ _).trans (clock_er s n)
theorem index_rmv (s : LSet) (n v : Nat) : (rmv s n v).index = dictDel s.index v :=
  congrArg (dictDel · v) (index_er s n)
theorem length_rmv (s : LSet) (n v : Nat) : (rmv s n v).length = s.length - 1 :=
  congrArg (· - 1) (length_er s n)

theorem Inv.remove_eq {s : LSet} {bs : List Nat} (h : Inv s bs) {n v : Nat}
    (hn : n ∈ bs) (hv : val s n = some v) : remove s v = (rmv s n v, true) := by
  unfold remove
  rw [h.lookup_some hn hv]
  simp only
  rw [eraseBox_eq s n (by simp [hv])]
  rfl

theorem Inv.remove_absent {s : LSet} {bs : List Nat} (h : Inv s bs) {v : Nat}
    (hv : ∀ b ∈ bs, val s b ≠ some v) : remove s v = (s, false) := by
  unfold remove
  rw [h.lookup_none hv]

section
variable {s : LSet} {l1 l2 : List Nat} {n : Nat} (h : Inv s (l1 ++ n :: l2))
include h

theorem Inv.mid_lt : 0 < n ∧ n < size s ∧ (val s n).isSome := h.live n (mem_insMid.2 (Or.inl rfl))

theorem Inv.nx_rmv (v x : Nat) :
    nx (rmv s n v) x = if x = lastOr 0 l1 then headOr 0 l2 else nx s x := by
  rw [LinkedSet.nx_rmv, nx_er, h.around.1, h.around.2.1]
  simp only [h.lastOr_lt, and_true]

theorem Inv.pv_rmv (v x : Nat) :
    pv (rmv s n v) x = if x = headOr 0 l2 then lastOr 0 l1 else pv s x := by
  rw [LinkedSet.pv_rmv, pv_er, h.around.1, h.around.2.1]
  simp only [h.node_lt ((IsNode.headOr l1 l2).insMid n), and_true]

theorem Inv.val_rmv (v x : Nat) : val (rmv s n v) x = if x = n then none else val s x := by
  rw [LinkedSet.val_rmv, val_er]; simp only [h.mid_lt.2.1, and_true]

theorem Inv.stp_rmv (v x : Nat) : stp (rmv s n v) x = if x = n then s.clock else stp s x := by
  rw [LinkedSet.stp_rmv, stp_er]; simp only [h.mid_lt.2.1, and_true]

end

theorem inv_rmv {s : LSet} {l1 l2 : List Nat} {n v : Nat} (h : Inv s (l1 ++ n :: l2))
    (hv : val s n = some v) : Inv (rmv s n v) (l1 ++ l2) := by
  obtain ⟨hp, hq, -, -⟩ := h.around
  obtain ⟨hn', hnd'⟩ := nodup_insMid.1 h.nodup
  have hn0 : n ≠ 0 := Nat.ne_of_gt h.mid_lt.1
  have hP : IsNode (l1 ++ l2) (lastOr 0 l1) := .lastOr l1 l2
  have hQ : IsNode (l1 ++ l2) (headOr 0 l2) := .headOr l1 l2
  have hne : ∀ {b}, b ∈ l1 ++ l2 → b ≠ n := fun hb e => hn' (e ▸ hb)
  have hout : ∀ {b}, b ≠ n → b ∉ l1 ++ l2 → b ∉ l1 ++ n :: l2 :=
    fun hbn hb hm => (mem_insMid.1 hm).elim hbn hb
  have hmn : (v, n) ∈ s.index := (h.idx v n).2 ⟨mem_insMid.2 (Or.inl rfl), hv⟩
  constructor
  · rw [size_rmv]; exact h.size_pos
  · exact hnd'
  · intro b hb
    rw [size_rmv, h.val_rmv, if_neg (hne hb)]
    exact h.live b (mem_insMid.2 (Or.inr hb))
  · intro b hb
    rw [h.val_rmv]
    split
    · rfl
    · rename_i hbn; exact h.dead b (hout hbn hb)
  · have := Links_unlink (s := s) (s' := rmv s n v) l1 0 n l2 0 (by simpa using h.links)
      (List.nodup_cons.2 ⟨h.zero_notin, h.nodup⟩) h.zero_notin (h.nx_rmv v) (h.pv_rmv v)
    simpa using this
  · intro v' b
    rw [index_rmv, mem_dictDel, h.idx, h.val_rmv]
    constructor
    · rintro ⟨⟨hb, hvb⟩, hvv⟩
      have hbn : b ≠ n := by
        rintro rfl
        rw [hv] at hvb; exact hvv (Option.some.inj hvb).symm
      exact ⟨(mem_insMid.1 hb).resolve_left hbn, by rw [if_neg hbn]; exact hvb⟩
    · rintro ⟨hb, hvb⟩
      have hbn := hne hb
      rw [if_neg hbn] at hvb
      refine ⟨⟨mem_insMid.2 (Or.inr hb), hvb⟩, ?_⟩
      rintro rfl
      exact hbn (h.val_inj (mem_insMid.2 (Or.inr hb)) (mem_insMid.2 (Or.inl rfl)) hvb hv)
  · rw [index_rmv]; exact keys_dictDel _ _ h.keys
  · rw [length_rmv, h.len]; simp
  · rw [index_rmv]
    have := length_dictDel s.index v n h.keys hmn
    have := h.ilen
    simp only [List.length_append, List.length_cons] at *; omega
  · rw [clock_rmv, length_rmv, size_rmv]
    have := h.clk; have := h.len
    simp only [List.length_append, List.length_cons] at *; omega
  · intro b hb
    rw [size_rmv] at hb ⊢
    have := h.bound b hb
    have := h.node_lt (hP.insMid n)
    have := h.node_lt (hQ.insMid n)
    rw [h.nx_rmv, h.pv_rmv, h.stp_rmv, clock_rmv]
    refine ⟨?_, ?_, ?_⟩ <;> split <;> omega
  · intro b; rw [own_rmv]; exact h.owned b
  · intro b hb hb0 hbn
    rw [size_rmv] at hb
    rw [h.nx_rmv, h.pv_rmv, if_neg (hP.ne hb0 hbn).symm, if_neg (hQ.ne hb0 hbn).symm]
    by_cases hbe : b = n
    · subst hbe
      rw [hp, hq]
      exact ⟨hQ.imp_right Or.inl, hP.imp_right Or.inl⟩
    · -- a tombstone that pointed to `n` now points to the youngest tombstone
      have hsb := (h.bound b hb).2.2
      have key : ∀ y, (y = 0 ∨ y ∈ l1 ++ n :: l2 ∨ stp s b < stp s y) →
          y = 0 ∨ y ∈ l1 ++ l2 ∨ stp (rmv s n v) b < stp (rmv s n v) y := by
        intro y t
        rw [h.stp_rmv, h.stp_rmv, if_neg hbe]
        by_cases e : y = n
        · rw [if_pos e]; exact Or.inr (Or.inr hsb)
        · rw [if_neg e]
          exact t.imp_right (Or.imp_left fun t => (mem_insMid.1 t).resolve_left e)
      have ht := h.tomb b hb hb0 (hout hbe hbn)
      exact ⟨key _ ht.1, key _ ht.2⟩

/-! ### linking a new box for an absent value -/

section
variable {s : LSet} {l1 l2 : List Nat} (h : Inv s (l1 ++ l2))
include h

theorem Inv.nx_lnk (v x : Nat) : nx (lnkS s (lastOr 0 l1) v) x =
    if x = size s then headOr 0 l2 else if x = lastOr 0 l1 then size s else nx s x := by
  rw [nx_lnkS, LinkedSet.nx_lnk _ _ _ _ h.lastOr_lt, h.nx_last]

theorem Inv.pv_lnk (v x : Nat) : pv (lnkS s (lastOr 0 l1) v) x =
    if x = headOr 0 l2 then size s else if x = size s then lastOr 0 l1 else pv s x := by
  rw [pv_lnkS, LinkedSet.pv_lnk _ _ _ _ h.lastOr_lt (by rw [h.nx_last]; exact h.headOr_lt), h.nx_last]

end

theorem inv_lnk {s : LSet} {l1 l2 : List Nat} {v : Nat} (h : Inv s (l1 ++ l2))
    (hv : ∀ b ∈ l1 ++ l2, val s b ≠ some v) :
    Inv (lnkS s (lastOr 0 l1) v) (l1 ++ size s :: l2) := by
  have hP : IsNode (l1 ++ l2) (lastOr 0 l1) := .lastOr l1 l2
  have hQ : IsNode (l1 ++ l2) (headOr 0 l2) := .headOr l1 l2
  have hm : size s ∉ l1 ++ l2 := fun hb => Nat.lt_irrefl _ (h.live _ hb).2.1
  have hm0 : size s ≠ 0 := Nat.ne_of_gt h.size_pos
  have hne : ∀ {b}, b ∈ l1 ++ l2 → b ≠ size s := fun hb e => hm (e ▸ hb)
  have esize : size (lnkS s (lastOr 0 l1) v) = size s + 1 := by rw [size_lnkS, size_lnk]
  have eval : ∀ x, val (lnkS s (lastOr 0 l1) v) x = if x = size s then some v else val s x :=
    fun x => by rw [val_lnkS, val_lnk]
  have estp : ∀ x, stp (lnkS s (lastOr 0 l1) v) x = if x = size s then 0 else stp s x :=
    fun x => by rw [stp_lnkS, stp_lnk]
  have eclock : (lnkS s (lastOr 0 l1) v).clock = s.clock := by rw [clock_lnkS, clock_lnk]
  have eindex : (lnkS s (lastOr 0 l1) v).index = s.index ++ [(v, size s)] := by
    rw [index_lnkS]; exact dictSet_absent _ _ _ (h.lookup_none hv)
  constructor
  · rw [esize]; exact Nat.succ_pos _
  · exact nodup_insMid.2 ⟨hm, h.nodup⟩
  · intro b hb
    rw [esize, eval]
    rcases mem_insMid.1 hb with rfl | hb
    · rw [if_pos rfl]; exact ⟨h.size_pos, Nat.lt_succ_self _, rfl⟩
    · rw [if_neg (hne hb)]
      have := h.live b hb
      exact ⟨this.1, Nat.lt_succ_of_lt this.2.1, this.2.2⟩
  · intro b hb
    rw [eval, if_neg fun e => hb (mem_insMid.2 (Or.inl e))]
    exact h.dead b fun hm' => hb (mem_insMid.2 (Or.inr hm'))
  · have := Links_link (s := s) (s' := lnkS s (lastOr 0 l1) v) l1 0 (size s) l2 0
      (by simpa using h.links) (List.nodup_cons.2 ⟨h.zero_notin, h.nodup⟩) h.zero_notin
      (by simpa [hm0] using hm) (h.nx_lnk v) (h.pv_lnk v)
    simpa using this
  · intro v' b
    rw [eindex, List.mem_append, h.idx, eval, List.mem_singleton, Prod.mk.injEq, mem_insMid]
    constructor
    · rintro (⟨hb, hvb⟩ | ⟨rfl, rfl⟩)
      · exact ⟨Or.inr hb, by rw [if_neg (hne hb)]; exact hvb⟩
      · exact ⟨Or.inl rfl, if_pos rfl⟩
    · rintro ⟨rfl | hb, hvb⟩
      · rw [if_pos rfl] at hvb; exact Or.inr ⟨(Option.some.inj hvb).symm, rfl⟩
      · rw [if_neg (hne hb)] at hvb; exact Or.inl ⟨hb, hvb⟩
  · rw [eindex, List.map_append, List.nodup_append]
    refine ⟨h.keys, by simp, ?_⟩
    intro a ha b hb
    simp only [List.map_cons, List.map_nil, List.mem_singleton] at hb
    subst hb
    rintro rfl
    simp only [List.mem_map] at ha
    obtain ⟨⟨k, c⟩, hmem, rfl⟩ := ha
    have := (h.idx k c).1 hmem
    exact hv c this.1 this.2
  · rw [length_lnkS, h.len]; simp only [List.length_append, List.length_cons]; omega
  · rw [eindex]
    have := h.ilen
    simp only [List.length_append, List.length_cons, List.length_nil] at *; omega
  · rw [eclock, length_lnkS, esize]; have := h.clk; omega
  · intro b hb
    rw [esize] at hb ⊢
    rw [h.nx_lnk, h.pv_lnk, estp, eclock]
    have hc := h.clock_pos
    have := h.lastOr_lt
    have := h.headOr_lt
    by_cases hbm : b = size s
    · subst hbm
      simp only [if_true]
      refine ⟨by omega, ?_, hc⟩
      split <;> omega
    · have := h.bound b (by omega)
      simp only [hbm, if_false]
      exact ⟨by split <;> omega, by split <;> omega, this.2.2⟩
  · intro b
    rw [own_lnkS, own_lnk]
    split
    · rfl
    · exact h.owned b
  · intro b hb hb0 hbn
    rw [esize] at hb
    have hbm : b ≠ size s := fun e => hbn (mem_insMid.2 (Or.inl e))
    have hbo : b ∉ l1 ++ l2 := fun hm' => hbn (mem_insMid.2 (Or.inr hm'))
    have hlt : b < size s := by omega
    have ht := h.tomb b hlt hb0 hbo
    have hbb := h.bound b hlt
    rw [h.nx_lnk, h.pv_lnk]
    simp only [estp, if_neg hbm, if_neg (hP.ne hb0 hbo).symm, if_neg (hQ.ne hb0 hbo).symm,
      if_neg (Nat.ne_of_lt hbb.1), if_neg (Nat.ne_of_lt hbb.2.1)]
    exact ⟨ht.1.imp_right (Or.imp_left fun t => mem_insMid.2 (Or.inr t)),
      ht.2.imp_right (Or.imp_left fun t => mem_insMid.2 (Or.inr t))⟩

end IrVerif.LinkedSet
