/-
Serializing the reloaded model gives the same proto, for every reloadable model: `serGraph` only reads
names (of every value it mentions) and type / shape / documentation / tensors of the values it emits.
-/
import IrVerif.Lemmas.ScopeReplMain
import IrVerif.Lemmas.ScopeIdem
namespace IrVerif.Scope

theorem img2_serInputs {V V' : Nat → ValueS} {A : Assoc}
    (hn : ∀ v ∈ A.map (·.1), (V' (sig A v)).name = (V v).name) :
    ∀ (ins : List (Option Nat)), (∀ v, some v ∈ ins → v ∈ A.map (·.1) ∧ (V v).name ≠ none) →
      serInputs V' (ins.map (Option.map (sig A))) = .ok (ins.map (inName V)) :=
  img_serInputs hn

theorem img2_stripTrailing {V V' : Nat → ValueS} {A : Assoc}
    (hn : ∀ v ∈ A.map (·.1), (V' (sig A v)).name = (V v).name) :
    ∀ (l : List Nat), (∀ v ∈ l, v ∈ A.map (·.1)) → stripTrailing V' (l.map (sig A)) = (stripTrailing V l).map (sig A) :=
  img_stripTrailing hn

theorem img2_serOutNames {V V' : Nat → ValueS} {A : Assoc}
    (hn : ∀ v ∈ A.map (·.1), (V' (sig A v)).name = (V v).name) :
    ∀ (vs : List Nat), (∀ v ∈ vs, v ∈ A.map (·.1)) → (∀ v ∈ vs, (V v).name ≠ none) →
      serOutNames V' (vs.map (sig A)) = .ok (vs.map (nm V)) :=
  img_serOutNames hn

/-- what the second serialization needs to know about the tensors of the initializers -/
def ConstImg (V V' : Nat → ValueS) (td td' : TData) (σ : Nat → Nat) (I : List (Name × Nat)) : Prop :=
  ∀ kv ∈ I, (V kv.2).const ≠ none ∧
    ∀ t, (V kv.2).const = some t → ∃ t', (V' (σ kv.2)).const = some t' ∧ td' t' = td t

theorem ConstOK2.constImg {V : Nat → ValueS} {td : TData} {s : Store} {A : Assoc} {I : List (Name × Nat)}
    (h : ConstOK2 V td s A I) : ConstImg V s.vals td s.tdata (sig A) I := fun kv hkv => by
  obtain ⟨_, hne, hc⟩ := h kv hkv
  refine ⟨hne, fun t ht => ?_⟩
  obtain ⟨t', h1, _, _, h4⟩ := hc t ht
  exact ⟨t', h1, h4⟩

theorem Img.of_rt {V : Nat → ValueS} {s : Store} {B : Assoc} {E : List Nat} (hrs : RS V s B) (hio : InfoOK2 V s B E) :
    Img V s.vals (sig B) E :=
  ⟨fun v hv => hrs.sig_name (hio v hv).1, fun v hv => (hio v hv).2,
    fun a ha b hb he => hrs.sig_inj (hio a ha).1 (hio b hb).1 he⟩

mutual
theorem img2_serGraph {V V' : Nat → ValueS} {td td' : TData} {A : Assoc} {E : List Nat} (h : Img V V' (sig A) E)
    (hn : ∀ v ∈ A.map (·.1), (V' (sig A v)).name = (V v).name)
    (hinj : ∀ a ∈ A.map (·.1), ∀ b ∈ A.map (·.1), sig A a = sig A b → a = b) :
    ∀ (g g' : GraphT) (p : GraphP) (ws : Writes), TreeRelG V A g g' → (∀ v ∈ emitG V g, v ∈ E) →
      ConstImg V V' td td' (sig A) (allInitsG g) →
      serGraph V td g = .ok (p, ws) → ∃ ws', serGraph V' td' g' = .ok (p, ws')
  | .mk _ ins inits nodes outs, .mk _ ins' inits' nodes' outs' => by
    have ih := img2_serNodes (td := td) (td' := td') h hn hinj nodes
    intro p ws ht hE hc hser
    simp only [TreeRelG] at ht
    obtain ⟨rfl, _, rfl, _, htn, rfl, houtK⟩ := ht
    obtain ⟨nps, vis2, ws2, hn', rfl, _, hins_n, houts_n⟩ := serGraph_inv hser
    have hinsU : ∀ v ∈ ins, v ∈ E := fun v hv => hE v (by simp [emitG, hv])
    have hinitU : ∀ kv ∈ inits, kv.2 ∈ E := fun kv hkv => hE _ (by
      simp only [emitG, List.mem_append, List.mem_map]
      exact .inl (.inl (.inl (.inr ⟨kv, hkv, rfl⟩))))
    have houtU : ∀ v ∈ outs, v ∈ E := fun v hv => hE v (List.mem_append_left _ (List.mem_append_right _ hv))
    have hliveU : ∀ v ∈ nodes.flatMap (liveOuts V), nameTruthy (V v).name = true → v ∈ E := fun v hv ht => hE v (by
      simp only [emitG, List.mem_append, List.mem_filter]
      exact .inl (.inl (.inr ⟨hv, ht⟩)))
    have e1 := img_serValues h ins hinsU hins_n
    have e5 := img_serValues h outs houtU houts_n
    have hnames : (ins.map (sig A)).map (fun v => (V' v).name) = ins.map (fun v => (V v).name) := by
      rw [List.map_map]
      exact List.map_congr_left (fun v hv => h.name v (hinsU v hv))
    obtain ⟨e2, e3⟩ := img_serInits (td := td) (td' := td') h (ins.map fun v => (V v).name) inits hinitU
      (fun kv hkv => (hc kv (List.mem_append_left _ hkv)).1) (fun kv hkv => (hc kv (List.mem_append_left _ hkv)).2)
    obtain ⟨ws2', e4⟩ := ih nodes' outs nps vis2 ws2 htn houtK hliveU
      (fun v hv => hE v (List.mem_append_right _ hv))
      (fun kv hkv => hc kv (List.mem_append_right _ hkv)) hn'
    exact ⟨_, by simp only [serGraph, e1, hnames, e2, e3, e4, e5]; rfl⟩
termination_by structural g => g
theorem img2_serNodes {V V' : Nat → ValueS} {td td' : TData} {A : Assoc} {E : List Nat} (h : Img V V' (sig A) E)
    (hn : ∀ v ∈ A.map (·.1), (V' (sig A v)).name = (V v).name)
    (hinj : ∀ a ∈ A.map (·.1), ∀ b ∈ A.map (·.1), sig A a = sig A b → a = b) :
    ∀ (ns ns' : List NodeT) (gouts : List Nat) (nps : List NodeP) (vi : List VInfoP) (ws : Writes),
      TreeRelNs V A ns ns' → (∀ v ∈ gouts, v ∈ A.map (·.1)) →
      (∀ v ∈ ns.flatMap (liveOuts V), nameTruthy (V v).name = true → v ∈ E) → (∀ v ∈ emitSubNs V ns, v ∈ E) →
      ConstImg V V' td td' (sig A) (allInitsNs ns) →
      serNodes V td gouts ns = .ok (nps, vi, ws) →
      ∃ ws', serNodes V' td' (gouts.map (sig A)) ns' = .ok (nps, vi, ws')
  | [], [] => by
    intro _ nps vi ws _ _ _ _ _ hser
    simp only [serNodes, Except.ok.injEq, Prod.mk.injEq] at hser
    obtain ⟨rfl, rfl, _⟩ := hser
    exact ⟨[], rfl⟩
  | n :: ns, n' :: ns' => by
    have ihn := img2_serNode (td := td) (td' := td') h hn hinj n
    have ihr := img2_serNodes (td := td) (td' := td') h hn hinj ns
    intro gouts nps vi ws ht hg hL hU hc hser
    simp only [TreeRelNs] at ht
    obtain ⟨np, vi1, ws1, nps', vis', ws2, h1, h2, rfl, rfl, _⟩ := serNodes_inv hser
    obtain ⟨w1, e1⟩ := ihn n' gouts np vi1 ws1 ht.1 hg
      (fun v hv => hL v (List.mem_append_left _ hv))
      (fun v hv => hU v (List.mem_append_left _ hv)) (fun kv hkv => hc kv (List.mem_append_left _ hkv)) h1
    obtain ⟨w2, e2⟩ := ihr ns' gouts nps' vis' ws2 ht.2 hg
      (fun v hv => hL v (List.mem_append_right _ hv))
      (fun v hv => hU v (List.mem_append_right _ hv)) (fun kv hkv => hc kv (List.mem_append_right _ hkv)) h2
    exact ⟨_, by simp only [serNodes, e1, e2]; rfl⟩
  | [], _ :: _ => fun _ _ _ _ ht => by simp [TreeRelNs] at ht
  | _ :: _, [] => fun _ _ _ _ ht => by simp [TreeRelNs] at ht
termination_by structural ns => ns
theorem img2_serNode {V V' : Nat → ValueS} {td td' : TData} {A : Assoc} {E : List Nat} (h : Img V V' (sig A) E)
    (hn : ∀ v ∈ A.map (·.1), (V' (sig A v)).name = (V v).name)
    (hinj : ∀ a ∈ A.map (·.1), ∀ b ∈ A.map (·.1), sig A a = sig A b → a = b) :
    ∀ (n n' : NodeT) (gouts : List Nat) (np : NodeP) (vi : List VInfoP) (ws : Writes),
      TreeRelN V A n n' → (∀ v ∈ gouts, v ∈ A.map (·.1)) →
      (∀ v ∈ liveOuts V n, nameTruthy (V v).name = true → v ∈ E) → (∀ v ∈ emitSubN V n, v ∈ E) →
      ConstImg V V' td td' (sig A) (allInitsN n) →
      serNode V td gouts n = .ok (np, vi, ws) → ∃ ws', serNode V' td' (gouts.map (sig A)) n' = .ok (np, vi, ws')
  | .mk _ _ ins outs subs, .mk _ _ ins' outs' subs' => by
    have ih := img2_serSubs (td := td) (td' := td') h hn hinj subs
    intro gouts np vi ws ht hg hL hU hc hser
    simp only [TreeRelN] at ht
    obtain ⟨rfl, hinK, rfl, hliveK, hts⟩ := ht
    obtain ⟨gps, ws', hs, rfl, rfl, _, hins_n, hlive_n⟩ := serNode_inv hser
    simp only [liveOuts] at hL
    have e1 := img2_serInputs hn ins (fun v hv => ⟨hinK v hv, hins_n v hv⟩)
    have e2 : stripTrailing V' ((stripTrailing V outs).map (sig A)) = (stripTrailing V outs).map (sig A) := by
      rw [img2_stripTrailing hn _ hliveK, stripTrailing_idem]
    have e3 := img2_serOutNames hn (stripTrailing V outs) hliveK hlive_n
    obtain ⟨ws'', e4⟩ := ih subs' gps ws' hts
      (fun v hv => hU v (by simpa [emitSubN] using hv)) (fun kv hkv => hc kv (by simpa [allInitsN] using hkv)) hs
    have e5 : outVInfo V' (gouts.map (sig A)) ((stripTrailing V outs).map (sig A)) = outVInfo V gouts outs := by
      rw [img_outVInfo h hn hinj gouts hg _ hliveK hL, outVInfo_strip]
    exact ⟨_, by simp only [serNode, e1, e2, e3, e4, e5]; rfl⟩
termination_by structural n => n
theorem img2_serSubs {V V' : Nat → ValueS} {td td' : TData} {A : Assoc} {E : List Nat} (h : Img V V' (sig A) E)
    (hn : ∀ v ∈ A.map (·.1), (V' (sig A v)).name = (V v).name)
    (hinj : ∀ a ∈ A.map (·.1), ∀ b ∈ A.map (·.1), sig A a = sig A b → a = b) :
    ∀ (gs gs' : List GraphT) (gps : List GraphP) (ws : Writes),
      TreeRelGs V A gs gs' → (∀ v ∈ emitGs V gs, v ∈ E) →
      ConstImg V V' td td' (sig A) (allInitsGs gs) →
      serSubs V td gs = .ok (gps, ws) → ∃ ws', serSubs V' td' gs' = .ok (gps, ws')
  | [], [] => by
    intro gps ws _ _ _ hser
    simp only [serSubs, Except.ok.injEq, Prod.mk.injEq] at hser
    obtain ⟨rfl, _⟩ := hser
    exact ⟨[], rfl⟩
  | g :: gs, g' :: gs' => by
    have ihg := img2_serGraph (td := td) (td' := td') h hn hinj g
    have ihr := img2_serSubs (td := td) (td' := td') h hn hinj gs
    intro gps ws ht hU hc hser
    simp only [TreeRelGs] at ht
    obtain ⟨gp, ws1, gps', ws2, h1, h2, rfl, _⟩ := serSubs_inv hser
    obtain ⟨w1, e1⟩ := ihg g' gp ws1 ht.1
      (fun v hv => hU v (List.mem_append_left _ hv)) (fun kv hkv => hc kv (List.mem_append_left _ hkv)) h1
    obtain ⟨w2, e2⟩ := ihr gs' gps' ws2 ht.2
      (fun v hv => hU v (List.mem_append_right _ hv)) (fun kv hkv => hc kv (List.mem_append_right _ hkv)) h2
    exact ⟨_, by simp only [serSubs, e1, e2]; rfl⟩
  | [], _ :: _ => fun _ _ ht => by simp [TreeRelGs] at ht
  | _ :: _, [] => fun _ _ ht => by simp [TreeRelGs] at ht
termination_by structural gs => gs
end

/-! ### a reloadable model can be serialized -/

theorem replRes_truthy (V : Nat → ValueS) (outer : List Table) : ∀ (ins : List (Option Nat)) (T : Table),
    (replRes V outer T ins).ok → ∀ v, some v ∈ ins → nameTruthy (V v).name = true := by
  intro ins
  induction ins with
  | nil => intro T _ v hv; simp at hv
  | cons a r ih =>
    intro T hok v hv
    cases a with
    | none =>
      simp only [replRes] at hok
      simp only [List.mem_cons] at hv
      rcases hv with hv | hv
      · cases hv
      · exact ih T hok v hv
    | some u =>
      simp only [replRes] at hok
      simp only [List.mem_cons, Option.some.injEq] at hv
      split at hok
      · rcases hv with rfl | hv
        · exact hok.1
        · exact ih T hok.2.2 v hv
      · rcases hv with rfl | hv
        · exact hok.1
        · exact ih _ hok.2 v hv

theorem replOuts_names (V : Nat → ValueS) (T : Table) : ∀ (outs : List Nat),
    (replOuts V T outs).ok → ∀ v ∈ outs, (V v).name ≠ none := by
  intro outs
  induction outs with
  | nil => intro _ v hv; simp at hv
  | cons a r ih =>
    intro hok v hv
    simp only [replOuts] at hok
    simp only [List.mem_cons] at hv
    split at hok
    · rcases hv with rfl | hv
      · exact hok.1
      · exact ih hok.2.2 v hv
    · rcases hv with rfl | hv
      · exact hok.1
      · exact ih hok.2 v hv

mutual
theorem replG_ser_ok (V : Nat → ValueS) (td : TData) :
    ∀ (g : GraphT) (outer : List Table), (replG V outer g).ok → ∃ p ws, serGraph V td g = .ok (p, ws)
  | .mk gid ins inits nodes outs, outer, h => by
    simp only [replG] at h
    obtain ⟨hins, _, _, _, hN, hO⟩ := h
    obtain ⟨nps, vis, ws, hn⟩ := replNs_ser_ok V td nodes outer _ outs hN
    have h1 := serValues_of_names (V := V) (vs := ins) hins
    have h2 := serValues_of_names (V := V) (vs := outs) (replOuts_names V _ outs hO)
    exact ⟨_, _, by simp only [serGraph, h1, hn, h2]; rfl⟩
theorem replNs_ser_ok (V : Nat → ValueS) (td : TData) :
    ∀ (ns : List NodeT) (outer : List Table) (T : Table) (gouts : List Nat), (replNs V outer T ns).ok →
      ∃ nps vi ws, serNodes V td gouts ns = .ok (nps, vi, ws)
  | [], _, _, _, _ => ⟨[], [], [], rfl⟩
  | n :: ns, outer, T, gouts, h => by
    simp only [replNs] at h
    obtain ⟨np, vi1, ws1, h1⟩ := replN_ser_ok V td n outer T gouts h.1
    obtain ⟨nps, vi2, ws2, h2⟩ := replNs_ser_ok V td ns outer _ gouts h.2
    exact ⟨_, _, _, by simp only [serNodes, h1, h2]; rfl⟩
theorem replN_ser_ok (V : Nat → ValueS) (td : TData) :
    ∀ (n : NodeT) (outer : List Table) (T : Table) (gouts : List Nat), (replN V outer T n).ok →
      ∃ np vi ws, serNode V td gouts n = .ok (np, vi, ws)
  | .mk i g ins outs subs, outer, T, gouts, h => by
    simp only [replN] at h
    obtain ⟨hR, houts, _, hS⟩ := h
    obtain ⟨gps, ws, hs⟩ := replGs_ser_ok V td subs _ hS
    have h1 := serInputs_of_names (V := V) (ins := ins)
      (fun v hv => ne_none_of_truthy (replRes_truthy V outer ins T hR v hv))
    have h2 := serOutNames_of_names (V := V) (vs := stripTrailing V outs) houts
    exact ⟨_, _, _, by simp only [serNode, h1, h2, hs]; rfl⟩
theorem replGs_ser_ok (V : Nat → ValueS) (td : TData) :
    ∀ (gs : List GraphT) (scopes : List Table), (replGs V scopes gs).ok → ∃ gps ws, serSubs V td gs = .ok (gps, ws)
  | [], _, _ => ⟨[], [], rfl⟩
  | g :: gs, scopes, h => by
    simp only [replGs] at h
    obtain ⟨gp, ws1, h1⟩ := replG_ser_ok V td g scopes h.1
    obtain ⟨gps, ws2, h2⟩ := replGs_ser_ok V td gs scopes h.2
    exact ⟨_, _, by simp only [serSubs, h1, h2]; rfl⟩
end

/-! ### the round trip of a reloadable model -/

/-- the reloaded model: same tree up to the renaming `sig B` of the values the deserializer introduces,
    same names, same serializable information of every emitted value, same initializer tensors -/
theorem reloadable_roundtrip (w : World) (h : Reloadable w) :
    ∃ (p : GraphP) (ws : Writes) (D : World) (B : Assoc),
      serGraph w.st.vals w.st.tdata w.root = .ok (p, ws) ∧ deserialize p = .ok D ∧
      RS w.st.vals D.st B ∧ B.map (·.1) = (replG w.st.vals [] w.root).new ∧
      TreeRelG w.st.vals B w.root D.root ∧ InfoOK2 w.st.vals D.st B (emitG w.st.vals w.root) ∧
      ConstOK2 w.st.vals w.st.tdata D.st B (allInitsG w.root) := by
  obtain ⟨hok, hnd⟩ := h
  obtain ⟨p, ws, hp⟩ := replG_ser_ok w.st.vals w.st.tdata w.root [] hok
  obtain ⟨s', g', B, hd, hrs, _, hk, ht, _, _, hio, hco⟩ := rt2_graph w.st.vals w.st.tdata w.root {} [] [] p ws hp
    hok hnd (fun _ _ => by simp) (fun _ hT => by simp at hT)
    .empty Fresh.empty
  simp only [List.map_nil, List.nil_append] at hd hrs ht hio hco
  exact ⟨p, ws, ⟨s', g'⟩, B, hp, by simp only [deserialize, hd], hrs, hk, ht, hio, hco⟩

/-- serializing the reloaded model gives the proto it was read from -/
theorem reloadable_fixpoint (w : World) (h : Reloadable w) :
    ∃ (w1 : World) (q : GraphP) (D : World) (w2 : World),
      serialize w = .ok (w1, q) ∧ deserialize q = .ok D ∧ serialize D = .ok (w2, q) := by
  obtain ⟨q, ws, D, B, hq, hD, hrs, _, ht, hio, hco⟩ := reloadable_roundtrip w h
  have hn : ∀ v ∈ B.map (·.1), (D.st.vals (sig B v)).name = (w.st.vals v).name := fun v hv => hrs.sig_name hv
  obtain ⟨ws', hq'⟩ := img2_serGraph (td := w.st.tdata) (td' := D.st.tdata) (.of_rt hrs hio) hn
    (fun a ha b hb he => hrs.sig_inj ha hb he) w.root D.root q ws ht (fun _ hv => hv) hco.constImg hq
  exact ⟨⟨w.st.writes ws, w.root⟩, q, D, ⟨D.st.writes ws', D.root⟩, by simp only [serialize, hq], hD,
    by simp only [serialize, hq']⟩

end IrVerif.Scope
