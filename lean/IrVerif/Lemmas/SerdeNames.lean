import IrVerif.Lemmas.SerdeNormIdem
/-! C02: nothing named is lost — annotations (as a map keyed by tensor name), value names, node
names, function identifiers. -/
namespace IrVerif.Serde
open IrVerif.Proto

/-! ### quantization annotations -/

/-- the annotations of the canonical form: exactly the (normalised) annotations of the input, each
once -/
theorem annotations_perm {inits : List TensorP} {inputs outputs vis : List ValueInfoP}
    {quant : List AnnotP} {outs : List String} (hw : GraphWF inits inputs outputs vis quant outs) :
    (normQuantFor quant
      ((inputs.map (·.name)).filter (fun n => !(inits.map (·.name)).contains n) ++ inits.map (·.name)
        ++ outs.filter (fun n => !(outputs.map (·.name)).contains n)
        ++ (dedupStr (outputs.map (·.name))).filter
            (fun n => !(inputs.map (·.name)).contains n && !(inits.map (·.name)).contains n))).Perm
      (quant.map normAnnot) := by
  have hK := quantKeys_nodup hw
  obtain ⟨_, _, hdis⟩ := nodupNames_parts hw
  rw [normQuantFor_eq]
  rw [List.perm_ext_iff_of_nodup]
  · intro a'
    simp only [List.mem_filterMap, List.mem_map]
    constructor
    · rintro ⟨n, _, hn⟩
      obtain ⟨a, hf, _, rfl⟩ := pick_some hn
      exact ⟨a, (findAnnot_name hf).1, rfl⟩
    · rintro ⟨a, ha, rfl⟩
      obtain ⟨hname, hne, _⟩ := hw.quantOK a ha
      have hfa : findAnnot quant a.tensorName = some a := by
        unfold findAnnot
        rw [findLast?_eq_find? (fun x : AnnotP => x.tensorName) a.tensorName _ hw.nodupQuant]
        exact find?_of_nodup (fun x : AnnotP => x.tensorName) hw.nodupQuant ha
      refine ⟨a.tensorName, ?_, ?_⟩
      · -- every declared name is among the keys
        rcases mem_scopeNames.1 hname with h | h | h
        · by_cases hi : a.tensorName ∈ inits.map (·.name)
          · exact List.mem_append_left _ (List.mem_append_left _ (List.mem_append_right _ hi))
          · exact List.mem_append_left _ (List.mem_append_left _ (List.mem_append_left _
              (List.mem_filter.2 ⟨h, by simpa using hi⟩)))
        · exact List.mem_append_left _ (List.mem_append_left _ (List.mem_append_right _ h.1))
        · by_cases ho : a.tensorName ∈ outputs.map (·.name)
          · exact List.mem_append_right _ (List.mem_filter.2 ⟨mem_dedupStr.2 ho, by
              have := hdis _ h
              simp [this.1, this.2]⟩)
          · exact List.mem_append_left _ (List.mem_append_right _ (List.mem_filter.2 ⟨h, by simpa using ho⟩))
      · have : a.params.isEmpty = false := by simpa [List.isEmpty_iff] using hne
        simp [annotEntry, pick, hfa, this]
  · exact nodup_of_map (·.tensorName) (List.Nodup.sublist
      (keys_filterMap_key (·.tensorName) _ (fun _ _ h => annotEntry_name h) _) hK)
  · apply nodup_of_map (·.tensorName)
    simp only [List.map_map]
    have : ((fun x : AnnotP => x.tensorName) ∘ normAnnot) = (fun x : AnnotP => x.tensorName) := by
      funext a; rfl
    rw [this]
    exact hw.nodupQuant

theorem normGraph_quant (outer : Scopes) (g : GraphP) (h : wfGraph outer g = true) :
    (normGraph g).quant.Perm (g.quant.map normAnnot) := by
  cases g with
  | mk name doc nodes inits inputs outputs vis quant md =>
    obtain ⟨hw, _⟩ := graphWF_of_wf outer name doc nodes inits inputs outputs vis quant md h
    simp only [normGraph, GraphP.quant]
    exact annotations_perm hw

/-! ### names -/

mutual
def attrValueNames : AttrP → List String
  | .graph _ _ g => graphValueNames g
  | .graphs _ _ gs => graphsValueNames gs
  | _ => []
def graphsValueNames : List GraphP → List String
  | [] => []
  | g :: gs => graphValueNames g ++ graphsValueNames gs
def attrsValueNames : List AttrP → List String
  | [] => []
  | a :: as => attrValueNames a ++ attrsValueNames as
def nodeValueNames : NodeP → List String
  | .mk inputs outputs _ _ _ _ _ attrs _ _ =>
    inputs.filter (· ≠ "") ++ outputs.filter (· ≠ "") ++ attrsValueNames attrs
def nodesValueNames : List NodeP → List String
  | [] => []
  | n :: ns => nodeValueNames n ++ nodesValueNames ns
/-- all value names a graph mentions, in order of appearance: inputs, initializers, per node its
inputs / outputs (unnamed ones aside) and the names inside its subgraphs, graph outputs -/
def graphValueNames : GraphP → List String
  | .mk _ _ nodes inits inputs outputs _ _ _ =>
    inputs.map (·.name) ++ inits.map (·.name) ++ nodesValueNames nodes ++ outputs.map (·.name)
end

mutual
/-- all node names, nested subgraphs included -/
def attrNodeNames : AttrP → List String
  | .graph _ _ g => graphNodeNames g
  | .graphs _ _ gs => graphsNodeNames gs
  | _ => []
def graphsNodeNames : List GraphP → List String
  | [] => []
  | g :: gs => graphNodeNames g ++ graphsNodeNames gs
def attrsNodeNames : List AttrP → List String
  | [] => []
  | a :: as => attrNodeNames a ++ attrsNodeNames as
def nodeNodeNames : NodeP → List String
  | .mk _ _ name _ _ _ _ attrs _ _ => name :: attrsNodeNames attrs
def nodesNodeNames : List NodeP → List String
  | [] => []
  | n :: ns => nodeNodeNames n ++ nodesNodeNames ns
def graphNodeNames : GraphP → List String
  | .mk _ _ nodes .. => nodesNodeNames nodes
end

mutual
theorem attrValueNames_norm : ∀ a : AttrP, attrValueNames (normAttr a) = attrValueNames a
  | .graph n d g => by simp [normAttr, attrValueNames, graphValueNames_norm g]
  | .graphs n d gs => by simp [normAttr, attrValueNames, graphsValueNames_norm gs]
  | .tensor .. | .tensors .. | .ref .. | .int .. | .float .. | .string .. | .ints .. | .floats ..
  | .strings .. | .typeProto .. | .typeProtos .. | .undefined .. | .sparse .. | .unknown .. => by
    simp [normAttr, attrValueNames]
theorem graphsValueNames_norm : ∀ gs : List GraphP, graphsValueNames (normGraphs gs) = graphsValueNames gs
  | [] => rfl
  | g :: gs => by simp [normGraphs, graphsValueNames, graphValueNames_norm g, graphsValueNames_norm gs]
theorem attrsValueNames_norm : ∀ as : List AttrP, attrsValueNames (normAttrs as) = attrsValueNames as
  | [] => rfl
  | a :: as => by simp [normAttrs, attrsValueNames, attrValueNames_norm a, attrsValueNames_norm as]
theorem nodeValueNames_norm : ∀ n : NodeP, nodeValueNames (normNode n) = nodeValueNames n
  | .mk inputs outputs name op domain overload doc attrs md dev => by
    simp only [normNode, nodeValueNames, trim_filter, attrsValueNames_norm attrs]
theorem nodesValueNames_norm : ∀ ns : List NodeP, nodesValueNames (normNodes ns) = nodesValueNames ns
  | [] => rfl
  | n :: ns => by simp [normNodes, nodesValueNames, nodeValueNames_norm n, nodesValueNames_norm ns]
theorem graphValueNames_norm : ∀ g : GraphP, graphValueNames (normGraph g) = graphValueNames g
  | .mk name doc nodes inits inputs outputs vis quant md => by
    simp [normGraph, graphValueNames, nodesValueNames_norm nodes, List.map_map, Function.comp_def,
      normInputVI_name, normOutputVI_name, normTensor]
end

mutual
theorem attrNodeNames_norm : ∀ a : AttrP, attrNodeNames (normAttr a) = attrNodeNames a
  | .graph n d g => by simp [normAttr, attrNodeNames, graphNodeNames_norm g]
  | .graphs n d gs => by simp [normAttr, attrNodeNames, graphsNodeNames_norm gs]
  | .tensor .. | .tensors .. | .ref .. | .int .. | .float .. | .string .. | .ints .. | .floats ..
  | .strings .. | .typeProto .. | .typeProtos .. | .undefined .. | .sparse .. | .unknown .. => by
    simp [normAttr, attrNodeNames]
theorem graphsNodeNames_norm : ∀ gs : List GraphP, graphsNodeNames (normGraphs gs) = graphsNodeNames gs
  | [] => rfl
  | g :: gs => by simp [normGraphs, graphsNodeNames, graphNodeNames_norm g, graphsNodeNames_norm gs]
theorem attrsNodeNames_norm : ∀ as : List AttrP, attrsNodeNames (normAttrs as) = attrsNodeNames as
  | [] => rfl
  | a :: as => by simp [normAttrs, attrsNodeNames, attrNodeNames_norm a, attrsNodeNames_norm as]
theorem nodeNodeNames_norm : ∀ n : NodeP, nodeNodeNames (normNode n) = nodeNodeNames n
  | .mk inputs outputs name op domain overload doc attrs md dev => by
    simp [normNode, nodeNodeNames, attrsNodeNames_norm attrs]
theorem nodesNodeNames_norm : ∀ ns : List NodeP, nodesNodeNames (normNodes ns) = nodesNodeNames ns
  | [] => rfl
  | n :: ns => by simp [normNodes, nodesNodeNames, nodeNodeNames_norm n, nodesNodeNames_norm ns]
theorem graphNodeNames_norm : ∀ g : GraphP, graphNodeNames (normGraph g) = graphNodeNames g
  | .mk name doc nodes inits inputs outputs vis quant md => by
    simp [normGraph, graphNodeNames, nodesNodeNames_norm nodes]
end

/-- value names of a model: main graph, then per function its inputs, node values, outputs -/
def modelValueNames (m : ModelP) : List String :=
  graphValueNames m.graph ++ m.functions.flatMap fun f => f.inputs ++ nodesValueNames f.nodes ++ f.outputs

def modelNodeNames (m : ModelP) : List String :=
  graphNodeNames m.graph ++ m.functions.flatMap fun f => nodesNodeNames f.nodes

def modelFunctionIds (m : ModelP) : List (String × String × String) :=
  m.functions.map fun f => (f.domain, f.name, f.overload)

theorem graphNames_addValueInfo (g : GraphP) (X : List ValueInfoP) :
    graphValueNames (GraphP.addValueInfo g X) = graphValueNames g ∧
    graphNodeNames (GraphP.addValueInfo g X) = graphNodeNames g := by
  cases g; simp [GraphP.addValueInfo, graphValueNames, graphNodeNames]

theorem normModel_names (m : ModelP) :
    modelValueNames (normModel m) = modelValueNames m ∧
    modelNodeNames (normModel m) = modelNodeNames m ∧
    modelFunctionIds (normModel m) = modelFunctionIds m := by
  have hg : graphValueNames (normModel m).graph = graphValueNames m.graph ∧
      graphNodeNames (normModel m).graph = graphNodeNames m.graph := by
    simp only [normModel]
    split
    · exact ⟨graphValueNames_norm _, graphNodeNames_norm _⟩
    · rw [(graphNames_addValueInfo _ _).1, (graphNames_addValueInfo _ _).2]
      exact ⟨graphValueNames_norm _, graphNodeNames_norm _⟩
  refine ⟨?_, ?_, ?_⟩
  · simp only [modelValueNames, hg.1]
    simp [normModel, List.flatMap_map, normFunction, nodesValueNames_norm]
  · simp only [modelNodeNames, hg.2]
    simp [normModel, List.flatMap_map, normFunction, nodesNodeNames_norm]
  · simp [modelFunctionIds, normModel, List.map_map, Function.comp_def, normFunction]

end IrVerif.Serde
