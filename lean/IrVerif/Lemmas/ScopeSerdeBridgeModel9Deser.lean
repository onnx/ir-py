import IrVerif.Lemmas.ScopeSerdeBridgeModel
import IrVerif.Model.ScopeSerdeBridgeModel9
import IrVerif.Lemmas.ScopeFunc9Post
/-!
The C02/C03 bridge for models in the IR version < 10 format, deserialization (`C03_bridge_deserialize_model9`): the two
models parse / format the experimental names `domain::name/value` alike, the mapping of one function is C02's
`experimentalFor`, and the post-pass of `deserializeM9` on the cells of the functions is C02's post-pass in closed
form (`postF`).
-/
namespace IrVerif.Bridge
open IrVerif.Proto IrVerif.Serde

theorem isPrefixL_eq_isPrefixOf : ∀ (a b : List Char), Scope.isPrefixL a b = a.isPrefixOf b
  | [], _ => by simp [Scope.isPrefixL]
  | _ :: _, [] => by simp [Scope.isPrefixL]
  | a :: as, b :: bs => by simp [Scope.isPrefixL, isPrefixL_eq_isPrefixOf as bs, List.isPrefixOf]

theorem splitFirstL_eq_partitionChars (sep : List Char) : ∀ l : List Char,
    Scope.splitFirstL sep l = Serde.partitionChars sep l
  | [] => rfl
  | c :: cs => by
    simp only [Scope.splitFirstL, Serde.partitionChars, isPrefixL_eq_isPrefixOf,
      splitFirstL_eq_partitionChars sep cs]
    split
    · rfl
    · cases Serde.partitionChars sep cs with
      | none => rfl
      | some ab => rfl

theorem splitFirst_eq_partitionStr (sep s : String) : Scope.splitFirst sep s = Serde.partitionStr sep s := by
  simp only [Scope.splitFirst, Serde.partitionStr, splitFirstL_eq_partitionChars]
  cases Serde.partitionChars sep.toList s.toList with
  | none => rfl
  | some ab => rfl

/-- both models split at the first "::", then at the first "/" -/
theorem parseExp_eq_parseExperimentalName (name : String) :
    Scope.parseExp name = Serde.parseExperimentalName name := by
  simp only [Scope.parseExp, Serde.parseExperimentalName, splitFirst_eq_partitionStr]
  cases Serde.partitionStr "::" name with
  | none => rfl
  | some p =>
    obtain ⟨d, rest⟩ := p
    simp only
    cases Serde.partitionStr "/" rest with
    | none => rfl
    | some q => rfl

theorem formatExp_eq_experimentalName (d n v : String) : Scope.formatExp d n v = Serde.experimentalName d n v := rfl

theorem expEntries_overload (fids : List Scope.FId) (vi : List Scope.VInfoP) (k : Scope.FId)
    (h : k.overload ≠ "") : Scope.expEntriesFor fids vi k = [] := by
  simp only [Scope.expEntriesFor]
  rw [List.filterMap_eq_nil_iff]
  intro e _
  split
  · rfl
  · rename_i d f v _
    have : ¬ ((⟨d, f, ""⟩ : Scope.FId) = k) := by
      intro e; rw [← e] at h; exact h rfl
    simp [this]

theorem expEntriesFor_eq (fids : List Scope.FId) (d nm : String) (hc : fids.contains ⟨d, nm, ""⟩ = true)
    (V : List ValueInfoP) :
    Scope.expEntriesFor fids (V.map absVI) ⟨d, nm, ""⟩ = (experimentalFor V d nm).map fun e => (e.1, absInfo e.2) := by
  simp only [Scope.expEntriesFor, experimentalFor, List.filterMap_map, List.map_filterMap]
  congr 1
  funext v
  simp only [Function.comp, parseExp_eq_parseExperimentalName, show (absVI v).name = v.name from rfl]
  cases parseExperimentalName v.name with
  | none => rfl
  | some x =>
    obtain ⟨d', n', vn'⟩ := x
    by_cases hcc : d' = d ∧ n' = nm
    · obtain ⟨rfl, rfl⟩ := hcc
      have hc' : (⟨d', n', ""⟩ : Scope.FId) ∈ fids := by simpa using hc
      simp [hc', absVI]
    · have : ¬ ((⟨d', n', ""⟩ : Scope.FId) = ⟨d, nm, ""⟩) := by
        intro e; simp only [Scope.FId.mk.injEq, and_true] at e; exact hcc e
      simp [hcc, this]

theorem tbl_lookup (fids : List Scope.FId) (d nm : String) (hc : fids.contains ⟨d, nm, ""⟩ = true) (n : String)
    (V : List ValueInfoP) :
    (Scope.expEntriesFor fids (V.map absVI) ⟨d, nm, ""⟩).reverse.lookup n
      = (findLast? (fun e => e.1 = n) (experimentalFor V d nm)).map (fun e => absInfo e.2) := by
  rw [expEntriesFor_eq fids d nm hc V]
  exact lookup_reverse_map (fun e : String × ValueInfoP => e.1) (fun e => absInfo e.2) n _

theorem experimentalFor_noEmpty (V : List ValueInfoP) (h : noEmptyExp V = true) (d nm : String) :
    findLast? (fun e => e.1 = "") (experimentalFor V d nm) = none := by
  have hall : ∀ e ∈ experimentalFor V d nm, e.1 ≠ "" := by
    intro e he
    simp only [experimentalFor, List.mem_filterMap] at he
    obtain ⟨vi, hvi, hh⟩ := he
    have := List.all_eq_true.1 h vi hvi
    split at hh
    · rename_i d' n' vn hp
      rw [hp] at this
      split at hh
      · cases hh; simpa using this
      · cases hh
    · cases hh
  generalize experimentalFor V d nm = L at hall
  induction L with
  | nil => rfl
  | cons a L ih =>
    simp only [findLast?, ih (fun e he => hall e (List.mem_cons_of_mem _ he))]
    simp [hall a (by simp)]


def mapTable (u : IRValue → IRValue) : IRGraph → IRGraph
  | .mk t i n ns o name doc ops mp => .mk (t.map u) i n ns o name doc ops mp

/-- C02's post-pass on one function in closed form -/
def postF (V : List ValueInfoP) (x : IRFunction) : IRFunction :=
  if x.overload = "" then { x with graph := mapTable (expUpd (experimentalFor V x.domain x.name)) x.graph } else x

theorem absOutsB_mem (b : Nat) : ∀ (outs : List (Option Nat)) (K w : Nat), w ∈ absOutsB b K outs →
    (∃ j, some j ∈ outs ∧ w = b + j) ∨ (K ≤ w ∧ w < K + numNone outs)
  | [], _, _, h => by simp [absOutsB] at h
  | some j :: r, K, w, h => by
    simp only [absOutsB, List.mem_cons] at h
    rcases h with rfl | h
    · exact Or.inl ⟨j, by simp, rfl⟩
    · rcases absOutsB_mem b r K w h with ⟨j', hj, e⟩ | h2
      · exact Or.inl ⟨j', by simp [hj], e⟩
      · exact Or.inr (by simpa [numNone] using h2)
  | none :: r, K, w, h => by
    simp only [absOutsB, List.mem_cons] at h
    rcases h with rfl | h
    · exact Or.inr ⟨Nat.le_refl _, by simp [numNone]⟩
    · rcases absOutsB_mem b r (K + 1) w h with ⟨j', hj, e⟩ | h2
      · exact Or.inl ⟨j', by simp [hj], e⟩
      · exact Or.inr ⟨by omega, by simp only [numNone]; omega⟩

theorem absOutsB_mem_tbl (b : Nat) : ∀ (outs : List (Option Nat)) (K j : Nat), some j ∈ outs →
    b + j ∈ absOutsB b K outs
  | [], _, _, h => by simp at h
  | some j' :: r, K, j, h => by
    simp only [List.mem_cons, Option.some.injEq] at h
    rcases h with rfl | h
    · simp [absOutsB]
    · simp [absOutsB, absOutsB_mem_tbl b r K j h]
  | none :: r, K, j, h => by
    simp only [List.mem_cons] at h
    rcases h with h | h
    · cases h
    · simp [absOutsB, absOutsB_mem_tbl b r (K + 1) j h]

theorem treeNode_outputs (b : Nat) (bases : List Nat) (K nn ng : Nat) (x : IRNode) :
    (treeNode (b :: bases) K nn ng x).outputs = absOutsB b K x.outputs := by
  cases x; rfl

theorem treeNode_inputs (bases : List Nat) (K nn ng : Nat) (x : IRNode) :
    (treeNode bases K nn ng x).inputs = absInsB bases x.inputs := by
  cases x; rfl

theorem okNode_io {n : Nat} {lens : List Nat} {x : IRNode} (h : okNode (n :: lens) x = true) :
    x.inputs.all (refOKF (n :: lens)) = true ∧ x.outputs.all (outOK n) = true := by
  cases x
  simp only [okNode, Bool.and_eq_true, List.headD_cons] at h
  exact h.1

theorem cellsNode_eq (x : IRNode) :
    cellsNode x = List.replicate (numNone x.outputs) blankCell ++ cellsAttrs (attrsOf x) := by
  cases x; rfl

/-- an output id of a node is a table index or, outside the table, an anonymous output (a blank cell) -/
theorem treeNodes_out (b : Nat) : ∀ (xs : List IRNode) (K nn ng w : Nat),
    w ∈ (treeNodes [b] K nn ng xs).flatMap Scope.NodeT.outputs →
    (∃ j, some j ∈ xs.flatMap IRNode.outputs ∧ w = b + j) ∨
      (K ≤ w ∧ w < K + (cellsNodes xs).length ∧ (cellsNodes xs).getD (w - K) default = blankCell)
  | [], _, _, _, _, h => by simp [treeNodes] at h
  | x :: xs, K, nn, ng, w, h => by
    have hcs : cellsNodes (x :: xs) = cellsNode x ++ cellsNodes xs := rfl
    rw [show treeNodes [b] K nn ng (x :: xs) = treeNode [b] K nn ng x ::
        treeNodes [b] (K + (cellsNode x).length) (nn + nnNode x) (ng + ngNode x) xs from rfl,
      List.flatMap_cons, List.mem_append, treeNode_outputs] at h
    rw [hcs, List.length_append]
    rcases h with h | h
    · rcases absOutsB_mem b x.outputs K w h with ⟨j, hj, e⟩ | ⟨h1, h2⟩
      · exact Or.inl ⟨j, by rw [List.flatMap_cons]; exact List.mem_append_left _ hj, e⟩
      · have hlt : w - K < numNone x.outputs := by omega
        have hlen : numNone x.outputs ≤ (cellsNode x).length := by rw [cellsNode_eq]; simp
        refine Or.inr ⟨h1, by omega, ?_⟩
        rw [List.getD, List.getElem?_append_left (by omega), cellsNode_eq,
          List.getElem?_append_left (by simpa using hlt)]
        simp [hlt]
    · rcases treeNodes_out b xs _ _ _ w h with ⟨j, hj, e⟩ | ⟨h1, h2, h3⟩
      · exact Or.inl ⟨j, by rw [List.flatMap_cons]; exact List.mem_append_right _ hj, e⟩
      · refine Or.inr ⟨by omega, by omega, ?_⟩
        rw [← h3, List.getD, List.getD, List.getElem?_append_right (by omega)]
        congr 2
        omega

theorem treeNodes_out_tbl (b : Nat) : ∀ (xs : List IRNode) (K nn ng j : Nat),
    some j ∈ xs.flatMap IRNode.outputs → b + j ∈ (treeNodes [b] K nn ng xs).flatMap Scope.NodeT.outputs
  | [], _, _, _, _, h => by simp at h
  | x :: xs, K, nn, ng, j, h => by
    rw [List.flatMap_cons, List.mem_append] at h
    rw [show treeNodes [b] K nn ng (x :: xs) = treeNode [b] K nn ng x ::
        treeNodes [b] (K + (cellsNode x).length) (nn + nnNode x) (ng + ngNode x) xs from rfl,
      List.flatMap_cons, List.mem_append, treeNode_outputs]
    rcases h with h | h
    · exact Or.inl (absOutsB_mem_tbl b x.outputs K j h)
    · exact Or.inr (treeNodes_out_tbl b xs _ _ _ j h)

theorem outputs_setGraph (g : Nat) (ns : List Scope.NodeT) :
    (ns.map (Scope.NodeT.setGraph g)).flatMap Scope.NodeT.outputs = ns.flatMap Scope.NodeT.outputs := by
  induction ns with
  | nil => rfl
  | cons n ns ih =>
    cases n
    simp only [List.map_cons, List.flatMap_cons, ih, Scope.NodeT.setGraph, Scope.NodeT.outputs]

/-- what the post-pass lemmas need from a deserialized function graph -/
structure FnFacts (G : IRGraph) : Prop where
  inputs : G.inputs = List.range G.inputs.length
  inputsLe : G.inputs.length ≤ G.table.length
  blank : ∀ v ∈ G.table, v = IRValue.blank v.name
  covered : ∀ t, t < G.table.length → t < G.inputs.length ∨ some t ∈ G.nodes.flatMap IRNode.outputs
  outBound : ∀ j, some j ∈ G.nodes.flatMap IRNode.outputs → j < G.table.length
  noDang : dangCells G.outputs = []

theorem cellsG_noDang (G : IRGraph) (hd : dangCells G.outputs = []) :
    cellsG G = G.table.map absCell ++ cellsNodes G.nodes := by
  cases G
  simp only [IRGraph.outputs] at hd
  simp [cellsG, hd, IRGraph.table, IRGraph.nodes]

theorem cellsG_mapTable (u : IRValue → IRValue) (G : IRGraph) (hd : dangCells G.outputs = []) :
    cellsG (mapTable u G) = (G.table.map u).map absCell ++ cellsNodes G.nodes := by
  cases G
  simp only [IRGraph.outputs] at hd
  simp [mapTable, cellsG, hd, IRGraph.table, IRGraph.nodes]

theorem fvals_tree (k nn ng : Nat) (G : IRGraph) (w : Nat) :
    w ∈ Scope.fvals (treeG [] k nn ng G) ↔
      (∃ i ∈ G.inputs, w = k + i) ∨
        w ∈ (treeNodes [k] (k + G.table.length) nn ng G.nodes).flatMap Scope.NodeT.outputs := by
  cases G
  simp only [Scope.fvals, treeG, Scope.GraphT.inputs, Scope.GraphT.nodes, outputs_setGraph, List.mem_append,
    List.mem_map, IRGraph.inputs, IRGraph.table, IRGraph.nodes]
  constructor
  · rintro (⟨i, hi, rfl⟩ | h)
    · exact Or.inl ⟨i, hi, rfl⟩
    · exact Or.inr h
  · rintro (⟨i, hi, rfl⟩ | h)
    · exact Or.inl ⟨i, hi, rfl⟩
    · exact Or.inr h

theorem fvals_range (k nn ng : Nat) (G : IRGraph) (hF : FnFacts G) (w : Nat)
    (h : w ∈ Scope.fvals (treeG [] k nn ng G)) : k ≤ w ∧ w < k + (cellsG G).length := by
  obtain ⟨hin, hn, _, _, hbd, hd⟩ := hF
  rw [cellsG_noDang G hd, List.length_append, List.length_map]
  rcases (fvals_tree k nn ng G w).1 h with ⟨i, hi, rfl⟩ | h
  · rw [hin, List.mem_range] at hi
    omega
  · rcases treeNodes_out k G.nodes _ _ _ w h with ⟨j, hj, rfl⟩ | ⟨h1, h2, _⟩
    · have := hbd j hj; omega
    · omega

theorem func_post (st st' : Scope.Store) (k nn ng : Nat) (G : IRGraph) (hF : FnFacts G)
    (tblS : List (Scope.Name × Scope.Info)) (m : List (String × ValueInfoP))
    (hlk : ∀ s, tblS.lookup s = (findLast? (fun e => e.1 = s) m).map (fun e => absInfo e.2))
    (hempty : tblS.lookup "" = none)
    (hsh : ShowsAt st k (cellsG G))
    (hvals : ∀ w, k ≤ w → w < k + (cellsG G).length →
      st'.vals w = if w ∈ Scope.fvals (treeG [] k nn ng G) then Scope.updInfo tblS (st.vals w) else st.vals w)
    (htens : st'.tens = st.tens) :
    ShowsAt st' k (cellsG (mapTable (expUpd m) G)) := by
  obtain ⟨hin, hn, hT, hcov, hbd, hd⟩ := hF
  rw [cellsG_noDang G hd] at hvals hsh
  rw [List.length_append, List.length_map] at hvals
  rw [cellsG_mapTable _ G hd]
  intro t ht
  simp only [List.length_append, List.length_map] at ht
  have h0 := hsh t (by simpa using ht)
  have hv := hvals (k + t) (by omega) (by omega)
  have hcell' : cellAt st' (k + t)
      = ⟨(st'.vals (k + t)).name, (st'.vals (k + t)).info, (st'.vals (k + t)).const.map st.tens⟩ := by
    simp [cellAt, htens]
  -- a table cell is visited and gets `updInfo`, on a blank value `expUpd`; a later cell is unvisited or named ""
  by_cases hlt : t < G.table.length
  · have hmem : k + t ∈ Scope.fvals (treeG [] k nn ng G) := by
      rw [fvals_tree, hin]
      rcases hcov t hlt with h | h
      · exact Or.inl ⟨t, List.mem_range.2 h, rfl⟩
      · exact Or.inr (treeNodes_out_tbl k G.nodes _ _ _ t h)
    rw [if_pos hmem] at hv
    have hg0 : (G.table.map absCell ++ cellsNodes G.nodes).getD t default = absCell (G.table.getD t (IRValue.blank "")) := by
      simp [List.getD, List.getElem?_append_left, hlt]
    have hg1 : ((G.table.map (expUpd m)).map absCell ++ cellsNodes G.nodes).getD t default
        = absCell (expUpd m (G.table.getD t (IRValue.blank ""))) := by
      simp [List.getD, List.getElem?_append_left, hlt]
    rw [hg0] at h0
    rw [hg1]
    have hv0 : G.table.getD t (IRValue.blank "") ∈ G.table := by simp [List.getD, List.getElem?_eq_getElem hlt]
    have hb := hT _ hv0
    generalize G.table.getD t (IRValue.blank "") = v at h0 hb ⊢
    obtain ⟨nm, rfl⟩ : ∃ nm, v = IRValue.blank nm := ⟨v.name, hb⟩
    obtain ⟨f1, _, f3⟩ := cell_fields h0
    have hname : (IRValue.blank nm).name = nm := rfl
    rw [hname] at f1
    rw [hcell', hv]
    unfold expUpd
    rw [hname]
    cases hf : findLast? (fun e => e.1 = nm) m with
    | none =>
      rw [Scope.updInfo_none tblS _ nm f1 (by rw [hlk, hf]; rfl)]
      exact h0
    | some e =>
      have hu : Scope.updInfo tblS (st.vals (k + t)) = { st.vals (k + t) with info := absInfo e.2 } := by
        simp only [Scope.updInfo, f1, hlk, hf, Option.map_some]
      rw [hu, absCell_applyInfoT]
      simp only [f1, hname]
      have : (st.vals (k + t)).const.map st.tens = none := by simpa [IRValue.blank] using f3
      rw [this]
      rfl
  · have hge : G.table.length ≤ t := by omega
    have hg : ((G.table.map (expUpd m)).map absCell ++ cellsNodes G.nodes).getD t default
        = (G.table.map absCell ++ cellsNodes G.nodes).getD t default := by
      simp only [List.getD]
      rw [List.getElem?_append_right (by simpa using hge), List.getElem?_append_right (by simpa using hge)]
      simp
    rw [hg, ← h0, hcell']
    have hsame : st'.vals (k + t) = st.vals (k + t) := by
      by_cases hmem : k + t ∈ Scope.fvals (treeG [] k nn ng G)
      · rw [if_pos hmem] at hv
        rw [hv]
        rcases (fvals_tree k nn ng G (k + t)).1 hmem with ⟨i, hi, e⟩ | h
        · rw [hin, List.mem_range] at hi
          omega
        · rcases treeNodes_out k G.nodes _ _ _ (k + t) h with ⟨j, hj, e⟩ | ⟨_, _, h3⟩
          · have := hbd j hj; omega
          · have hb : cellAt st (k + t) = blankCell := by
              rw [h0]
              simp only [List.getD]
              rw [List.getElem?_append_right (by simpa using hge)]
              simp only [List.length_map]
              have e : k + t - (k + G.table.length) = t - G.table.length := by omega
              rw [e] at h3
              exact h3
            have hn0 : (st.vals (k + t)).name = some "" := by
              simpa [cellAt, blankCell] using congrArg Cell.name hb
            exact Scope.updInfo_none tblS _ "" hn0 hempty
      · rw [if_neg hmem] at hv
        exact hv
    rw [hsame]
    rfl

theorem cellsG_mapTable_length (u : IRValue → IRValue) (G : IRGraph) :
    (cellsG (mapTable u G)).length = (cellsG G).length := by
  cases G; simp [mapTable, cellsG]

theorem postF_length (V : List ValueInfoP) (x : IRFunction) :
    (cellsG (postF V x).graph).length = (cellsG x.graph).length := by
  unfold postF
  split
  · exact cellsG_mapTable_length _ _
  · rfl

theorem expUpd_nil : expUpd [] = id := by
  funext v; simp [expUpd, findLast?]

theorem mapTable_id (G : IRGraph) : mapTable id G = G := by
  cases G; simp [mapTable]

theorem postFold_frame (vi : List Scope.VInfoP) (fids : List Scope.FId) (fs : List (Scope.FId × Scope.GraphT))
    (st : Scope.Store) :
    (Scope.postFold vi fids fs st).tens = st.tens ∧ (Scope.postFold vi fids fs st).nv = st.nv ∧
    (Scope.postFold vi fids fs st).nt = st.nt ∧
    ∀ w, ((Scope.postFold vi fids fs st).vals w).const = (st.vals w).const ∧
      ((Scope.postFold vi fids fs st).vals w).name = (st.vals w).name := by
  have h := Scope.postFold_setInfo vi fids fs st
  refine ⟨by rw [h], by rw [h], by rw [h], fun w => ?_⟩
  rw [h]
  exact ⟨rfl, rfl⟩

theorem post_fold (V : List ValueInfoP) (hne : noEmptyExp V = true) (fids : List Scope.FId) :
    ∀ (xs : List IRFunction) (k nn ng : Nat) (st : Scope.Store),
    (∀ x ∈ xs, FnFacts x.graph) → (∀ x ∈ xs, fids.contains (fidOf x) = true) → ShowsAt st k (cellsFs xs) →
    ShowsAt (Scope.postFold (V.map absVI) fids (treeFs k nn ng xs) st) k (cellsFs (xs.map (postF V))) ∧
    (∀ w, w < k → (Scope.postFold (V.map absVI) fids (treeFs k nn ng xs) st).vals w = st.vals w)
  | [], k, nn, ng, st, _, _, _ => by
    refine ⟨?_, fun w _ => rfl⟩
    intro j hj
    simp [cellsFs] at hj
  | x :: rest, k, nn, ng, st, hF, hc, hsh => by
    have hFx := hF x (by simp)
    have hcx := hc x (by simp)
    simp only [cellsFs] at hsh
    have hshx := showsAt_left hsh
    have hshr := showsAt_right hsh
    simp only [treeFs, Scope.postFold_cons]
    have he := Scope.applyExpFunc_eq (V.map absVI) fids st (fidOf x, treeG [] k nn ng x.graph)
    generalize Scope.applyExpFunc (V.map absVI) fids st (fidOf x, treeG [] k nn ng x.graph) = st1 at he ⊢
    have hv1 : ∀ w, st1.vals w = if w ∈ Scope.fvals (treeG [] k nn ng x.graph)
        then Scope.updInfo (Scope.tblOf (V.map absVI) fids (fidOf x)) (st.vals w) else st.vals w := by
      intro w; rw [he]
    have ht1 : st1.tens = st.tens := by rw [he]
    -- the step for `x` touches only the cells of `x` (`fvals_range`): the hypothesis applies to the store after it
    have hout : ∀ w, ¬ (k ≤ w ∧ w < k + (cellsG x.graph).length) → st1.vals w = st.vals w := by
      intro w hw
      rw [hv1 w, if_neg (fun hm => hw (fvals_range k nn ng x.graph hFx w hm))]
    have hshr1 : ShowsAt st1 (k + (cellsG x.graph).length) (cellsFs rest) := by
      intro j hj
      rw [← hshr j hj]
      have hw := hout (k + (cellsG x.graph).length + j) (by omega)
      simp only [cellAt, hw, ht1]
    obtain ⟨ihA, ihB⟩ := post_fold V hne fids rest (k + (cellsG x.graph).length) (nn + nnG x.graph)
      (ng + ngG x.graph) st1 (fun y hy => hF y (by simp [hy])) (fun y hy => hc y (by simp [hy])) hshr1
    obtain ⟨fr1, _, _, _⟩ := postFold_frame (V.map absVI) fids
      (treeFs (k + (cellsG x.graph).length) (nn + nnG x.graph) (ng + ngG x.graph) rest) st1
    generalize Scope.postFold (V.map absVI) fids
      (treeFs (k + (cellsG x.graph).length) (nn + nnG x.graph) (ng + ngG x.graph) rest) st1 = st' at ihA ihB fr1 ⊢
    have htens : st'.tens = st.tens := fr1.trans ht1
    have hvals : ∀ w, k ≤ w → w < k + (cellsG x.graph).length →
        st'.vals w = if w ∈ Scope.fvals (treeG [] k nn ng x.graph)
          then Scope.updInfo (Scope.tblOf (V.map absVI) fids (fidOf x)) (st.vals w) else st.vals w := by
      intro w _ h2
      rw [ihB w h2, hv1 w]
    have hx' : ShowsAt st' k (cellsG (postF V x).graph) := by
      by_cases hov : x.overload = ""
      · have hfid : fidOf x = ⟨x.domain, x.name, ""⟩ := by simp [fidOf, hov]
        have hlk : ∀ s, (Scope.tblOf (V.map absVI) fids (fidOf x)).lookup s
            = (findLast? (fun e => e.1 = s) (experimentalFor V x.domain x.name)).map (fun e => absInfo e.2) := by
          intro s
          rw [hfid]
          exact tbl_lookup fids x.domain x.name (by rw [← hfid]; exact hcx) s V
        have hempty : (Scope.tblOf (V.map absVI) fids (fidOf x)).lookup "" = none := by
          rw [hlk, experimentalFor_noEmpty V hne]; rfl
        have := func_post st st' k nn ng x.graph hFx _ _ hlk hempty hshx hvals htens
        simpa [postF, hov] using this
      · have hnil : Scope.tblOf (V.map absVI) fids (fidOf x) = [] := by
          simp only [Scope.tblOf]
          rw [expEntries_overload fids _ (fidOf x) (by simpa [fidOf] using hov)]
          rfl
        have := func_post st st' k nn ng x.graph hFx _ [] (by intro s; rw [hnil]; rfl) (by rw [hnil]; rfl)
          hshx hvals htens
        rw [expUpd_nil, mapTable_id] at this
        simpa [postF, hov] using this
    refine ⟨?_, ?_⟩
    · simp only [List.map_cons, cellsFs]
      apply showsAt_append hx'
      rw [postF_length]
      exact ihA
    · intro w hw
      rw [ihB w (by omega), hout w (by omega)]


/-- C02 side: on a deserialized function without value_info `applyExperimentalFn` is `postF` -/
theorem function_facts (ver : Int) (V : List ValueInfoP) (hV : V.all wfVI = true) (f : FunctionP)
    (h : wfFunction ver f = true) (hvi : f.valueInfo = []) :
    ∃ x, desFunction f = .ok x ∧ FnFacts x.graph ∧ fidOf x = fidP f ∧
      applyExperimentalFn V x = .ok (postF V x) := by
  obtain ⟨TP, as, hTP, hN, _, hwn, hout, hdes⟩ := desFunction_wf ver f h
  have hndN := wfFunction_nodup h
  have hblank : ∀ v ∈ TP, v = IRValue.blank v.name := by
    intro v hv
    rw [hTP, hvi] at hv
    simp only [List.mem_append, List.mem_map] at hv
    rcases hv with ⟨s, _, rfl⟩ | ⟨s, _, rfl⟩ <;> rw [newValueT_nil] <;> rfl
  have hlenT : TP.length = (f.inputs ++ nodeOutNames f.nodes).length := by rw [hTP]; simp
  obtain ⟨xs, n1, _, n3⟩ := nodes_rt [] f.valueInfo [] none f.nodes TP hwn (Or.inl rfl)
  rw [hN] at n3
  obtain ⟨gouts, o1, o3, _, _⟩ := functionOutputs_tbl (tableNames TP) f.outputs hout
  have hos : ∀ s ∈ f.nodes.flatMap NodeP.outputs, s ≠ "" → s ∈ nodeOutNames f.nodes := by
    intro s hs hne'
    simp only [nodeOutNames, List.mem_filter]
    exact ⟨hs, by simpa using hne'⟩
  have hcov : ∀ t, t < TP.length → t < f.inputs.length ∨ some t ∈ xs.flatMap IRNode.outputs := by
    intro t ht
    by_cases hti : t < f.inputs.length
    · exact Or.inl hti
    · right
      rw [hlenT] at ht
      have hNt : (f.inputs ++ nodeOutNames f.nodes)[t]? = some ((f.inputs ++ nodeOutNames f.nodes)[t]) :=
        List.getElem?_eq_getElem ht
      have hmem : (f.inputs ++ nodeOutNames f.nodes)[t] ∈ nodeOutNames f.nodes := by
        rw [List.getElem_append_right (by omega)]
        exact List.getElem_mem _
      have hlk := lookupLast_of_nodup hndN hNt
      have hm2 := List.mem_filter.1 hmem
      rw [n3]
      refine List.mem_map.2 ⟨_, hm2.1, ?_⟩
      have hne' : (f.inputs ++ nodeOutNames f.nodes)[t] ≠ "" := by simpa using hm2.2
      simp [hne', hlk]
  have hbd : ∀ j, some j ∈ xs.flatMap IRNode.outputs → j < TP.length := by
    intro j hj
    rw [n3] at hj
    obtain ⟨s, _, hs⟩ := List.mem_map.1 hj
    split at hs
    · cases hs
    · have := lookupLast_lt hs
      rw [hlenT]; exact this
  refine ⟨_, hdes xs gouts n1 o1, ?_, rfl, ?_⟩
  · have hlenI : (List.range f.inputs.length).length = f.inputs.length := List.length_range
    exact ⟨by rw [IRGraph.inputs, hlenI], by rw [IRGraph.inputs, hlenI, IRGraph.table, hlenT]; simp, hblank,
      by rw [IRGraph.inputs, hlenI]; exact hcov, hbd, o3⟩
  · by_cases hov : f.overload = ""
    · obtain ⟨ho1, ho2⟩ := namesAt_outs (f.inputs ++ nodeOutNames f.nodes) (f.nodes.flatMap NodeP.outputs)
        (fun s hs hn => List.mem_append_right _ (hos s hs hn))
      have hnames : namesAt (f.inputs ++ nodeOutNames f.nodes)
          (List.range f.inputs.length ++ optNats (xs.flatMap IRNode.outputs))
          = f.inputs ++ nodeOutNames f.nodes := by
        rw [n3]
        simp only [namesAt, List.map_append]
        have h1' := namesAt_range (f.inputs ++ nodeOutNames f.nodes) f.inputs.length (by simp)
        simp only [namesAt] at h1' ho1
        rw [h1', ho1, List.take_left' rfl]
        rfl
      have hspec := applyExperimental_spec (experimentalFor V f.domain f.name)
        (experimentalFor_wf V hV _ _)
        (List.range f.inputs.length ++ optNats (xs.flatMap IRNode.outputs)) TP (by rw [hN]; exact hndN)
        (by intro i hi
            rcases List.mem_append.1 hi with hi | hi
            · have := List.mem_range.1 hi
              rw [hlenT]; simp; omega
            · rw [n3] at hi
              rw [hlenT]
              exact ho2 i hi)
        (by rw [hN, hnames]; exact hndN)
      rw [hN, hnames] at hspec
      have hall : TP.map (fun v => if v.name ∈ f.inputs ++ nodeOutNames f.nodes
            then expUpd (experimentalFor V f.domain f.name) v else v)
          = TP.map (expUpd (experimentalFor V f.domain f.name)) := by
        apply List.map_congr_left
        intro v hv
        have : v.name ∈ f.inputs ++ nodeOutNames f.nodes := by
          rw [← hN]; exact List.mem_map_of_mem hv
        rw [if_pos this]
      rw [hall] at hspec
      simp only [applyExperimentalFn, hov, if_true, hspec, bind, Except.bind, postF, mapTable]
    · simp [applyExperimentalFn, postF, hov]

theorem funcs_facts (ver : Int) (V : List ValueInfoP) (hV : V.all wfVI = true) :
    ∀ fs : List FunctionP, fs.all (wfFunction ver) = true → (∀ f ∈ fs, f.valueInfo = []) →
    ∃ xs, desFunctions fs = .ok xs ∧ (∀ x ∈ xs, FnFacts x.graph) ∧ xs.map fidOf = fs.map fidP ∧
      applyExperimentalAll V xs = .ok (xs.map (postF V))
  | [], _, _ => ⟨[], rfl, by simp, rfl, rfl⟩
  | f :: fs, h, hvi => by
    simp only [List.all_cons, Bool.and_eq_true] at h
    obtain ⟨x, g1, g2, g3, g4⟩ := function_facts ver V hV f h.1 (hvi f (by simp))
    obtain ⟨xs, r1, r2, r3, r4⟩ := funcs_facts ver V hV fs h.2 (fun g hg => hvi g (List.mem_cons_of_mem _ hg))
    refine ⟨x :: xs, by simp [desFunctions, g1, r1, bind, Except.bind], ?_, by simp [g3, r3],
      by simp [applyExperimentalAll, g4, r4, bind, Except.bind]⟩
    intro y hy
    rcases List.mem_cons.1 hy with rfl | hy
    · exact g2
    · exact r2 y hy

theorem getD_map_name (u : IRValue → IRValue) (hu : ∀ v, (u v).name = v.name) (T : List IRValue) (i : Nat) :
    ((T.map u).getD i (IRValue.blank "")).name = (T.getD i (IRValue.blank "")).name := by
  simp only [List.getD, List.getElem?_map]
  cases T[i]? with
  | none => rfl
  | some v => simp [hu]

theorem mapTable_inv (u : IRValue → IRValue) (hu : ∀ v, (u v).name = v.name) (G : IRGraph) :
    nnG (mapTable u G) = nnG G ∧ ngG (mapTable u G) = ngG G ∧
      ∀ B k nn ng, treeG B k nn ng (mapTable u G) = treeG B k nn ng G := by
  cases G
  simp only [mapTable, nnG, ngG, treeG, List.length_map, getD_map_name u hu, true_and]
  intro B k nn ng
  trivial

theorem postF_inv (V : List ValueInfoP) (x : IRFunction) :
    fidOf (postF V x) = fidOf x ∧ nnG (postF V x).graph = nnG x.graph ∧ ngG (postF V x).graph = ngG x.graph ∧
      ∀ B k nn ng, treeG B k nn ng (postF V x).graph = treeG B k nn ng x.graph := by
  unfold postF
  split
  · obtain ⟨a, b, c⟩ := mapTable_inv (expUpd (experimentalFor V x.domain x.name)) (fun v => by simp) x.graph
    exact ⟨rfl, a, b, c⟩
  · exact ⟨rfl, rfl, rfl, fun _ _ _ _ => rfl⟩

theorem treeFs_post (V : List ValueInfoP) : ∀ (xs : List IRFunction) (k nn ng : Nat),
    treeFs k nn ng (xs.map (postF V)) = treeFs k nn ng xs
  | [], _, _, _ => rfl
  | x :: xs, k, nn, ng => by
    obtain ⟨a, b, c, d⟩ := postF_inv V x
    simp only [List.map_cons, treeFs, a, b, c, d, postF_length, treeFs_post V xs]

theorem cellsFs_post_length (V : List ValueInfoP) : ∀ xs : List IRFunction,
    (cellsFs (xs.map (postF V))).length = (cellsFs xs).length
  | [] => rfl
  | x :: xs => by simp [cellsFs, postF_length, cellsFs_post_length V xs]

theorem treeFs_fst : ∀ (xs : List IRFunction) (k nn ng : Nat), (treeFs k nn ng xs).map (·.1) = xs.map fidOf
  | [], _, _, _ => rfl
  | x :: xs, k, nn, ng => by simp [treeFs, treeFs_fst xs]

end IrVerif.Bridge

namespace IrVerif.Scope
open IrVerif.Proto

/-- **C02/C03 bridge, deserialization of models in the IR version < 10 format**: both deserializers succeed and the
    Scope world, without its derived links, is the abstraction of C02's IR model; in particular the experimental
    entries `domain::name/value` of the main graph's value_info reach the same function values in both models. -/
theorem C03_bridge_deserialize_model9 (m : Proto.ModelP) (h : Bridge.sharedM9 m = true) :
    ∃ x w, Serde.desModel m = .ok x ∧ deserializeM9 (Bridge.absM m) = .ok w ∧
      Bridge.coreOfM w = Bridge.absIRM x := by
  simp only [Bridge.sharedM9, Bool.and_eq_true, decide_eq_true_eq] at h
  obtain ⟨⟨hwf, hver⟩, hne⟩ := h
  obtain ⟨hg, hf, hknd, hdes⟩ := Bridge.desModel_wf m hwf
  have hV := Bridge.wfGraph_vis hg
  have hvis : ∀ f ∈ m.functions, f.valueInfo = [] :=
    fun f hfm => Bridge.wfFunction_noVis (List.all_eq_true.1 hf f hfm) hver
  obtain ⟨g, st1, g1, g2, g3, g4, g5⟩ := Bridge.graph_br [] [] [] .nil m.graph hg {} [] Bridge.coreEq_empty
  obtain ⟨fs, st2, f1, f2, f3, f4⟩ := Bridge.funcs_br m.irVersion m.functions st1 _ [] hf g3
    (by simpa using Bridge.fid_nodup hknd)
  obtain ⟨fs', e1, e2, e3, e4⟩ := Bridge.funcs_facts m.irVersion m.graph.valueInfo hV m.functions hf hvis
  rw [f1] at e1
  cases e1
  have hdm := hdes g fs _ g1 f1 f4 ((if_pos hver).trans e4)
  obtain ⟨i1, i2, i3, i4, _⟩ := Bridge.setOpsets_inv g (Serde.opsetDict m.opsetImport)
  simp only [List.nil_append] at f2 f3
  have hvinfo : (Bridge.absGFull m.graph).vinfo = m.graph.valueInfo.map Bridge.absVI := by
    cases m.graph; simp [Bridge.absGFull, GraphP.vinfo, Proto.GraphP.valueInfo]
  have hsh0 := Bridge.showsAt_of_coreEq f3
  have hcont : ∀ x ∈ fs, (fs.map Bridge.fidOf).contains (Bridge.fidOf x) = true := by
    intro x hx
    simpa using List.mem_map_of_mem (f := Bridge.fidOf) hx
  have hshR : Bridge.ShowsAt st2 (Bridge.cellsG g).length (Bridge.cellsFs fs) := by
    have := Bridge.showsAt_right hsh0
    rwa [Nat.zero_add] at this
  obtain ⟨pA, pB⟩ := Bridge.post_fold m.graph.valueInfo hne (fs.map Bridge.fidOf) fs
    (Bridge.cellsG g).length (Bridge.nnG g) (Bridge.ngG g) st2 e2 hcont hshR
  obtain ⟨q1, q2, _, _⟩ := Bridge.postFold_frame (m.graph.valueInfo.map Bridge.absVI) (fs.map Bridge.fidOf)
    (Bridge.treeFs (Bridge.cellsG g).length (Bridge.nnG g) (Bridge.ngG g) fs) st2
  generalize hst' : postFold (m.graph.valueInfo.map Bridge.absVI) (fs.map Bridge.fidOf)
    (Bridge.treeFs (Bridge.cellsG g).length (Bridge.nnG g) (Bridge.ngG g) fs) st2 = st' at pA pB q1 q2
  have hmain : Bridge.ShowsAt st' 0 (Bridge.cellsG g) := by
    intro j hj
    have := Bridge.showsAt_left hsh0 j hj
    rw [← this]
    rw [Nat.zero_add]
    simp only [Bridge.cellAt, pB j hj, q1]
  have hall : Bridge.ShowsAt st' 0 (Bridge.cellsG g ++ Bridge.cellsFs (fs.map (Bridge.postF m.graph.valueInfo))) :=
    Bridge.showsAt_append hmain (by rw [Nat.zero_add]; exact pA)
  have hnv : st'.nv = (Bridge.cellsG g ++ Bridge.cellsFs (fs.map (Bridge.postF m.graph.valueInfo))).length := by
    rw [q2, f3.nv]
    simp [Bridge.cellsFs_post_length]
  refine ⟨_, ⟨st', Bridge.treeG [] 0 0 0 g, Bridge.treeFs (Bridge.cellsG g).length (Bridge.nnG g) (Bridge.ngG g) fs⟩,
    hdm, ?_, ?_⟩
  · simp only [deserializeM9, deserializeM, Bridge.absM, g2]
    rw [f2]
    simp only [List.length_nil, g4, g5, Nat.zero_add, hvinfo, Bridge.treeFs_fst]
    have : (Bridge.treeFs (Bridge.cellsG g).length (Bridge.nnG g) (Bridge.ngG g) fs).foldl
        (applyExpFunc (m.graph.valueInfo.map Bridge.absVI) (fs.map Bridge.fidOf)) st2 = st' := hst'
    simp [this]
  · simp only [Bridge.coreOfM, Bridge.absIRM, i1, i2, i3, i4, Bridge.treeFs_post]
    rw [Bridge.cells_of_showsAt hall hnv]

end IrVerif.Scope
