/-
The specification of C04: `Legal`, `Agrees`, `WF`; `C04_field_agree` is `WF → Legal → Agrees`.
-/
import IrVerif.Model.TensorRepr
namespace IrVerif.TensorRepr
open IrVerif.Pack

/-- the float fields of a complex tensor: real part, imaginary part, ... -/
def splitParts (hb : Nat) (xs : List Nat) : List Nat :=
  xs.flatMap (fun x => [x % 2 ^ hb, x / 2 ^ hb])

/-- the memory of a C-contiguous array of `w`-byte items holding `xs` -/
def memOf (w : Nat) (be : Bool) (xs : List Nat) : List Nat :=
  xs.flatMap (fun x => if be then (leBytes w x).reverse else leBytes w x)

/-- `Legal d dims bw xs r`: `r` is a legal way to hold the logical tensor of element type `d`
    (of `bw` bits), shape `dims` and element bit patterns `xs`.  This is the specification side:
    what the ONNX spec and the class documentation allow, written without the decoders. -/
inductive Legal (d : DType) (dims : List Nat) (bw : Nat) (xs : List Nat) : Rep → Prop
  /-- array-backed: one storage unit per element whose low `bw` bits are the element (the upper
      bits of a sub-byte element's byte are free, e.g. sign extension) -/
  | array (elems : List Nat) (hu : ∀ e ∈ elems, e < 256 ^ npItemBytes d)
      (hx : obsBits bw elems = xs) : Legal d dims bw xs (.array d dims elems)
  | torch (elems : List Nat) (ht : d.torchMapped = true) (hu : ∀ e ∈ elems, e < 256 ^ npItemBytes d)
      (hx : obsBits bw elems = xs) : Legal d dims bw xs (.torch d dims elems)
  /-- array(-compatible) object given by its memory: the little-endian or big-endian items of the
      elements; a real ndarray must be little-endian (native), any other holder may be either (big-endian
      complex memory, whose two parts are swapped separately, is left to the correspondence) -/
  | arrayMem (be nd : Bool) (hnb : (nd && be) = false) (h8 : 8 ≤ bw)
      (hc : be = true → d ≠ .complex64 ∧ d ≠ .complex128) :
      Legal d dims bw xs (.arrayMem d dims (memOf (bw / 8) be xs) be nd)
  /-- torch adapter over a contiguous view into a larger storage: the view's elements start at
      `storage_offset` inside the storage, between arbitrary other elements -/
  | torchView (pre elems post : List Nat) (ht : d.torchMapped = true)
      (hu : ∀ e ∈ elems, e < 256 ^ npItemBytes d) (hx : obsBits bw elems = xs) :
      Legal d dims bw xs (.torch d dims (torchView (pre ++ elems ++ post) pre.length (prod dims)))
  /-- packed: the canonical packed bytes (zero padding bits) -/
  | packed (hb : bw = 2 ∨ bw = 4) :
      Legal d dims bw xs (.packed { dtype := d, dims := dims, raw := packLE bw xs })
  /-- `raw_data` holds the canonical bytes (whatever else the proto carries) -/
  | protoRaw (p : Proto) (hd : p.dataType = d.code) (hdims : p.dims = dims)
      (hext : p.external = none) (hraw : p.rawData = some (packLE bw xs)) :
      Legal d dims bw xs (.proto p)
  /-- `int32_data`: any int32 values congruent to the elements (whole-byte types) or to the
      packed bytes (2/4-bit types) -/
  | protoInt32 (ys : List Int) (hl : d.int32Legal = true)
      (hy : if 8 ≤ bw then ys.map (wrap bw) = xs else ys.map (wrap 8) = packLE bw xs) :
      Legal d dims bw xs (.proto { dataType := d.code, dims := dims, int32Data := ys })
  | protoInt64 (ys : List Int) (hd : d = .int64) (hy : ys.map (wrap 64) = xs) :
      Legal d dims bw xs (.proto { dataType := d.code, dims := dims, int64Data := ys })
  | protoUint64 (hd : d = .uint64) :
      Legal d dims bw xs (.proto { dataType := d.code, dims := dims, uint64Data := xs })
  | protoUint64as32 (ys : List Nat) (hd : d = .uint32) (hy : ys.map (· % 2 ^ 32) = xs) :
      Legal d dims bw xs (.proto { dataType := d.code, dims := dims, uint64Data := ys })
  | protoFloat (hd : d = .float) :
      Legal d dims bw xs (.proto { dataType := d.code, dims := dims, floatData := xs })
  | protoComplex64 (hd : d = .complex64) :
      Legal d dims bw xs (.proto { dataType := d.code, dims := dims, floatData := splitParts 32 xs })
  | protoDouble (hd : d = .double) :
      Legal d dims bw xs (.proto { dataType := d.code, dims := dims, doubleData := xs })
  | protoComplex128 (hd : d = .complex128) :
      Legal d dims bw xs (.proto { dataType := d.code, dims := dims, doubleData := splitParts 64 xs })
  /-- external: the canonical bytes sit in the data file at the offset, between arbitrary other
      content; `offset` may be omitted when 0, `length` may be omitted (or 0) -/
  | external (e : Ext) (pre post : List Nat) (hd : e.dtype = d) (hdims : e.dims = dims)
      (hoff : e.offset.getD 0 = pre.length)
      (hlen : ∀ l, e.length = some l → l = 0 ∨ l = nbytes (prod dims) bw) :
      Legal d dims bw xs (.external e (some (pre ++ packLE bw xs ++ post)))
  | lazy (inner : Rep) (h : Legal d dims bw xs inner) : Legal d dims bw xs (.lazy d dims inner)

/-- what every legal representation must answer -/
structure Agrees (d : DType) (dims : List Nat) (bw : Nat) (xs : List Nat) (r : Rep) : Prop where
  dtype : r.dtype = .ok d
  shape : r.shape = dims
  nbytes : r.nbytes = .ok (nbytes (prod dims) bw)
  numpy : ∃ u, r.numpy = .ok u ∧ obsBits bw u = xs
  tobytes : r.tobytes = .ok (packLE bw xs)
  tofile : r.tofile = .ok (packLE bw xs, false)

structure WF (d : DType) (dims : List Nat) (bw : Nat) (xs : List Nat) : Prop where
  hbw : d.bitwidth = some bw
  len : xs.length = prod dims
  range : ∀ x ∈ xs, x < 2 ^ bw

/-- the data file a representation reads from (only external tensors have one) -/
def fileOf : Rep → Option (List Nat)
  | .external _ f => f
  | _ => none

end IrVerif.TensorRepr
