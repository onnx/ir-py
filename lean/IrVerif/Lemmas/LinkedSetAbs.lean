/-
The abstraction function: `absCur` (model ghost function) equals `acur`; what a cursor still
yields and what `next()` does, expressed on the abstract machine.
-/
import IrVerif.Lemmas.LinkedSetRefine
import IrVerif.Lemmas.LinkedSetSpec
namespace IrVerif.LinkedSet

theorem liveFrom_links {s : LSet} {bs : List Nat} (h : Inv s bs) :
    ∀ (l : List Nat) (x f : Nat), HopLinks s .fwd (x :: l ++ [0]) → (∀ y ∈ l, y ∈ bs) →
      l.length < f → liveFrom s f (nx s x) = l
  | [], x, f, hl, _, hf => by
      obtain ⟨f, rfl⟩ : ∃ g, f = g + 1 := ⟨f - 1, by simp at hf; omega⟩
      simp only [List.cons_append, List.nil_append, HopLinks_cons2, hop] at hl
      simp [liveFrom, hl.1]
  | y :: l, x, f, hl, hm, hf => by
      obtain ⟨f, rfl⟩ : ∃ g, f = g + 1 := ⟨f - 1, by simp at hf; omega⟩
      simp only [List.cons_append, HopLinks_cons2, hop] at hl
      have hy := h.live y (hm y (by simp))
      have hy0 : y ≠ 0 := by omega
      have ih := liveFrom_links h l y f (by simpa using hl.2) (fun z hz => hm z (by simp [hz]))
        (by simp at hf; omega)
      simp [liveFrom, hl.1, hy0, hy.2.2, ih]

theorem Inv.liveBoxes_eq {s : LSet} {bs : List Nat} (h : Inv s bs) : liveBoxes s = bs := by
  unfold liveBoxes
  exact liveFrom_links h bs 0 _ (by simpa [seqD] using h.hopLinks .fwd) (fun _ hy => hy) h.length_lt

theorem Inv.isSome_iff {s : LSet} {bs : List Nat} (h : Inv s bs) (b : Nat) :
    (val s b).isSome = true ↔ b ∈ bs := by
  constructor
  · intro hs
    apply Classical.byContradiction
    intro hc; rw [h.dead b hc] at hs; simp at hs
  · intro hb; exact (h.live b hb).2.2

/-- the executable abstraction of the model agrees with the proof-level one -/
theorem Inv.absCur_eq {s : LSet} {bs : List Nat} (h : Inv s bs) (d : Dir) (c : Cursor) :
    absCur s d c = acur s bs d c := by
  have h0 := h.zero_notin
  have hlen : bs.idxOf 0 = bs.length := List.idxOf_eq_length h0
  unfold absCur acur IsNode
  rw [h.liveBoxes_eq]
  cases c with
  | done => rfl
  | notStarted =>
    cases d <;> simp [Cursor.pos, posAtt, posR, posF, hlen]
  | «at» b =>
    by_cases hb0 : b = 0
    · subst hb0; cases d <;> simp [Cursor.pos, posAtt, posR, posF, hlen]
    · by_cases hb : b ∈ bs
      · have := (h.isSome_iff b).2 hb
        cases d <;> simp [Cursor.pos, posAtt, posR, posF, hb0, hb, this]
      · have : (val s b).isSome = false := by
          cases hv : (val s b).isSome
          · rfl
          · exact absurd ((h.isSome_iff b).1 hv) hb
        cases d
        · simp [Cursor.pos, posGap, hop, posF, hb0, hb, this, tg]
        · simp only [Cursor.pos, posGap, hop, posR, hb0, hb, this, tg, false_or, if_false]
          simp only [Bool.false_eq_true, if_false]
          congr 1

/-- neighbours of a node, in index terms -/
theorem Inv.succ_pos {s : LSet} {bs : List Nat} (h : Inv s bs) {b : Nat} (hb : IsNode bs b) :
    IsNode bs (nx s b) ∧ posF bs (nx s b) = posR bs b ∧
    IsNode bs (pv s b) ∧ posR bs (pv s b) = posF bs b := by
  have h0 := h.zero_notin
  have hnd := h.nodup
  -- `b` ends a prefix of `bs` and starts a suffix; all four positions are the length of a prefix
  have hn : IsNode bs (nx s b) ∧ posF bs (nx s b) = posR bs b := by
    obtain ⟨l1, l2, rfl, rfl, -⟩ := split_at_node hb h0
    rw [h.nx_last, headOr_posF hnd h0, lastOr_posR l1 l2 hnd fun hm => h0 (List.mem_append_left _ hm)]
    exact ⟨.headOr l1 l2, rfl⟩
  have hp : IsNode bs (pv s b) ∧ posR bs (pv s b) = posF bs b := by
    obtain ⟨l1, l2, rfl, rfl⟩ := split_before_node hb
    rw [h.link_mid.2, headOr_posF hnd h0, lastOr_posR l1 l2 hnd fun hm => h0 (List.mem_append_left _ hm)]
    exact ⟨.lastOr l1 l2, rfl⟩
  exact ⟨hn.1, hn.2, hp.1, hp.2⟩

theorem Inv.hop_pos {s : LSet} {bs : List Nat} (h : Inv s bs) {b : Nat} (hb : IsNode bs b) (d : Dir) :
    IsNode bs (hop s d b) ∧ posGap d bs (hop s d b) = posAtt d bs b := by
  obtain ⟨h1, h2, h3, h4⟩ := h.succ_pos hb
  cases d
  · exact ⟨h1, h2⟩
  · exact ⟨h3, h4⟩

/-- for every cursor, the index part of `acur` is the position of the resolution point -/
theorem Inv.acur_index {s : LSet} {bs : List Nat} (h : Inv s bs) (d : Dir) {c : Cursor}
    (hc : c ≠ .done) (hp : c.Valid s) :
    let t := tg s d (hop s d c.pos)
    IsNode bs t ∧ (acur s bs d c = .att (posGap d bs t) ∨ acur s bs d c = .gap (posGap d bs t)) := by
  intro t
  have hlt := h.hop_lt d hp
  refine ⟨(h.tg_spec d hlt).node, ?_⟩
  rw [acur_def _ _ _ hc]
  by_cases hb : IsNode bs c.pos
  · -- on a node: the resolution point is the neighbour
    obtain ⟨h1, h2⟩ := h.hop_pos hb d
    have : t = hop s d c.pos := h.tg_eq hlt (Tgt.of_node h1)
    left; rw [if_pos hb, this, h2]
  · right; rw [if_neg hb]

@[simp] theorem acur_done (s : LSet) (bs : List Nat) (d : Dir) : acur s bs d .done = .done := by
  cases d <;> rfl

theorem drop_rev_eq {bs : List Nat} {t : Nat} (hnd : bs.Nodup) (h0 : 0 ∉ bs) (ht : IsNode bs t) :
    bs.reverse.drop (bs.reverse.idxOf t) = (bs.take (posR bs t)).reverse := by
  rcases ht with rfl | ht
  · have : (0 : Nat) ∉ bs.reverse := by simpa using h0
    rw [List.idxOf_eq_length this]; simp [posR]
  · obtain ⟨A, B, rfl⟩ := List.append_of_mem ht
    have ht0 : t ≠ 0 := fun e => h0 (e ▸ ht)
    have htA : t ∉ A := nodup_insMid_left hnd
    have htB : t ∉ B.reverse := fun hm => nodup_insMid_right hnd (List.mem_reverse.1 hm)
    have e : (A ++ t :: B).reverse = B.reverse ++ t :: A.reverse := by simp
    rw [e, idxOf_mid htB]
    simp only [posR, ht0, if_false, idxOf_mid htA]
    have e2 : A ++ t :: B = (A ++ [t]) ++ B := by simp
    rw [e2, List.take_left' (by simp)]
    simp

/-- **what a cursor still yields** is what the abstract cursor still yields -/
theorem Inv.rest_eq {s : LSet} {bs : List Nat} (h : Inv s bs) (d : Dir) (c : Cursor)
    (hp : c.Valid s) :
    rest s d c = Spec.rest (bs.map (vl s)) d (acur s bs d c) ∧
    (drain s d (size s + 1) c).2 = .stop := by
  by_cases hc : c = .done
  · subst hc
    simp only [rest, drain_done, acur_done]
    cases d <;> simp [Spec.rest]
  · have hd := h.drain_eq d hc hp
    have hi := h.acur_index d hc hp
    simp only at hi
    obtain ⟨htn, hi⟩ := hi
    refine ⟨?_, by rw [hd]⟩
    have hr : Spec.rest (bs.map (vl s)) d (acur s bs d c) =
        Spec.rest (bs.map (vl s)) d (.att (posGap d bs (tg s d (hop s d c.pos)))) := by
      rcases hi with hi | hi
      · rw [hi]
      · rw [hi, Spec.rest_gap]
    simp only [rest, hd]
    cases d with
    | fwd =>
      simp only [seqD]
      rw [hr]; simp [Spec.rest, posGap, posF, List.map_drop]
    | rev =>
      simp only [seqD]
      rw [drop_rev_eq h.nodup h.zero_notin htn]
      rw [hr]; simp [Spec.rest, posGap, List.map_take, List.map_reverse]

theorem getElem?_idxOf_map (f : Nat → Nat) : ∀ (bs : List Nat) (t : Nat), t ∈ bs →
    (bs.map f)[bs.idxOf t]? = some (f t)
  | [], _, h => by simp at h
  | x :: bs, t, h => by
      by_cases hx : x = t
      · subst hx; simp
      · have hb : (x == t) = false := by simp [hx]
        have ht : t ∈ bs := by
          simp only [List.mem_cons] at h
          rcases h with h | h
          · exact absurd h.symm hx
          · exact h
        simp only [List.idxOf_cons, hb, cond_false, List.map_cons, List.getElem?_cons_succ]
        exact getElem?_idxOf_map f bs t ht

/-- **one `next()`** on the concrete cursor is one `Spec.next` on the abstract one -/
theorem Inv.next_eq {s : LSet} {bs : List Nat} (h : Inv s bs) (d : Dir) (c : Cursor)
    (hp : c.Valid s) :
    let r := iterNext s d c
    let a := Spec.next (bs.map (vl s)) d (acur s bs d c)
    acur s bs d r.1 = a.1 ∧ r.1.Valid s ∧
      (match a.2 with
       | some v => r.2 = .yield v
       | none => r.2 = .stop) := by
  intro r a
  by_cases hc : c = .done
  · subst hc
    have : r = (.done, .stop) := by simp [r, iterNext]
    simp only [a, this, acur_done]
    cases d <;> simp [Spec.next, Cursor.Valid, Cursor.pos, h.size_pos]
  · have hr : r = scanRes s (tg s d (hop s d c.pos)) := h.iterNext_eq d hc hp
    have hi := h.acur_index d hc hp
    simp only at hi
    obtain ⟨htn, hi⟩ := hi
    have h0 := h.zero_notin
    generalize tg s d (hop s d c.pos) = t at hr htn hi
    have ha : Spec.next (bs.map (vl s)) d (acur s bs d c) =
        Spec.next (bs.map (vl s)) d (.att (posGap d bs t)) := by
      rcases hi with hi | hi
      · rw [hi]
      · rw [hi, Spec.next_gap]
    rcases htn with rfl | ht
    · have hr' : r = (.done, .stop) := by simp [hr, scanRes]
      simp only [a, hr', acur_done]
      cases d with
      | fwd =>
        have : (bs.map (vl s))[posF bs 0]? = none := by
          simp [posF, List.idxOf_eq_length h0]
        rw [ha]; simp [Spec.next, posGap, this, Cursor.Valid, Cursor.pos, h.size_pos]
      | rev =>
        rw [ha]; simp [Spec.next, posGap, posR, Cursor.Valid, Cursor.pos, h.size_pos]
    · have ht0 : t ≠ 0 := by rintro rfl; exact h0 ht
      have hr' : r = (.at t, .yield (vl s t)) := by simp [hr, scanRes, ht0]
      have hlt := (h.live t ht).2.1
      have hnode : IsNode bs t := Or.inr ht
      simp only [a, hr']
      cases d with
      | fwd =>
        have hg : (bs.map (vl s))[posF bs t]? = some (vl s t) := getElem?_idxOf_map _ _ _ ht
        have hn : acur s bs .fwd (.at t) = .att (posF bs t + 1) := by
          simp [acur, Cursor.pos, hnode, posAtt, posR, posF, ht0]
        rw [ha]; simp [Spec.next, posGap, hg, hn, Cursor.Valid, Cursor.pos, hlt]
      | rev =>
        have hk : posR bs t = bs.idxOf t + 1 := by simp [posR, ht0]
        have hg : (bs.map (vl s))[posR bs t - 1]? = some (vl s t) := by
          rw [hk]; exact getElem?_idxOf_map _ _ _ ht
        have hn : acur s bs .rev (.at t) = .att (posR bs t - 1) := by
          simp [acur, Cursor.pos, hnode, posAtt, posF, hk]
        have hk0 : posR bs t ≠ 0 := by omega
        rw [ha]; simp [Spec.next, posGap, hg, hn, hk0, Cursor.Valid, Cursor.pos, hlt]

end IrVerif.LinkedSet
