/-
Helper development for the `ir.tensor(python data)` theorems of C04 (`Model/PyTensor.lean`):
the nested value against the row-major specification (`indices` / `unravel` of
`Lemmas/RowMajor.lean`), the element-wise view of `castAll`, and the range of every conversion.
-/
import IrVerif.Model.PyTensor
import IrVerif.Lemmas.RowMajor
import IrVerif.Lemmas.TensorRepr
namespace IrVerif.PyTensor
open IrVerif.Pack IrVerif.TensorRepr IrVerif.Strided

theorem leavesL_eq : ∀ xs : PyList, leavesL xs = xs.toList.flatMap leaves
  | .nil => by simp [leavesL, PyList.toList]
  | .cons x xs => by simp [leavesL, PyList.toList, leavesL_eq xs]

/- The list version takes an arbitrary common item shape `s` (`npShape` learns only afterwards that
   the item shapes are equal) and returns the range of the first index, `ss.length`. -/
mutual
  theorem getAt_leaves : ∀ (v : PyVal) (dims : List Nat), npShape v = some dims →
      (indices dims).map (getAt v) = (leaves v).map some
    | .leaf l, dims, h => by
      simp only [npShape, Option.some.injEq] at h
      subst h
      simp [indices, getAt, leaves]
    | .seq xs, dims, h => by
      simp only [npShape] at h
      split at h
      · cases h
      · rename_i hss
        simp only [Option.some.injEq] at h
        subst h
        have Q := getAt_leavesL xs [] [] hss (by simp)
        have hnil : xs.toList = [] := List.eq_nil_of_length_eq_zero Q.2.symm
        simp [indices, leaves, leavesL_eq, hnil]
      · rename_i s ss hss
        split at h
        · rename_i hall
          simp only [Option.some.injEq] at h
          subst h
          have hall' : ∀ t ∈ s :: ss, t = s := by
            intro t ht
            simp only [List.mem_cons] at ht
            rcases ht with rfl | ht
            · rfl
            · have := List.all_eq_true.mp hall t ht
              simpa using this
          have Q := getAt_leavesL xs (s :: ss) s hss hall'
          have hn : ss.length + 1 = xs.toList.length := by simpa using Q.2
          simp only [indices, List.map_flatMap, List.map_map, leaves]
          rw [← Q.1, hn]
          have key : ∀ i : Nat, (getAt (.seq xs) ∘ fun is => i :: is) =
              fun is => (match xs.toList[i]? with
                | some x => getAt x is
                | none => none) := by
            intro i; funext is; simp only [Function.comp_apply, getAt]; rfl
          simp only [key]
          exact ListFacts.flatMap_range_getElem
            (fun (o : Option PyVal) => (indices s).map (fun is => match o with
              | some x => getAt x is
              | none => none)) xs.toList
        · cases h
  theorem getAt_leavesL : ∀ (xs : PyList) (ss : List (List Nat)) (s : List Nat),
      npShapes xs = some ss → (∀ t ∈ ss, t = s) →
      xs.toList.flatMap (fun x => (indices s).map (getAt x)) = (leavesL xs).map some ∧
      ss.length = xs.toList.length
    | .nil, ss, s, h, _ => by
      simp only [npShapes, Option.some.injEq] at h
      subst h
      simp [PyList.toList, leavesL]
    | .cons x xs, ss, s, h, hall => by
      simp only [npShapes] at h
      split at h
      · rename_i t ts hx hxs
        simp only [Option.some.injEq] at h
        subst h
        have ht : t = s := hall t (by simp)
        subst ht
        have P := getAt_leaves x t hx
        have Q := getAt_leavesL xs ts t hxs (fun u hu => hall u (by simp [hu]))
        simp [PyList.toList, leavesL, P, Q.1, Q.2]
      · cases h
end

theorem leaves_length {v : PyVal} {dims : List Nat} (h : npShape v = some dims) :
    (leaves v).length = prod dims := by
  have := congrArg List.length (getAt_leaves v dims h)
  simpa [indices_length] using this.symm

/-- the `k`-th scalar in assignment order is the one at the multi-index `unravel dims k` -/
theorem leaves_getElem {v : PyVal} {dims : List Nat} (h : npShape v = some dims) (k : Nat)
    (hk : k < prod dims) : ∃ l, (leaves v)[k]? = some l ∧ getAt v (unravel dims k) = some l := by
  have E := congrArg (fun l => l[k]?) (getAt_leaves v dims h)
  simp only [List.getElem?_map, indices_getElem dims k hk, Option.map_some] at E
  cases hl : (leaves v)[k]? with
  | none => rw [hl] at E; simp at E
  | some l => rw [hl] at E; exact ⟨l, rfl, by simpa using E⟩

theorem castAll_ok (d : DType) : ∀ (ls : List Leaf) (xs : List Nat), castAll d ls = .ok xs →
    xs.length = ls.length ∧ ∀ (k : Nat) (l : Leaf), ls[k]? = some l → ∃ x, xs[k]? = some x ∧ castLeaf d l = .ok x := by
  intro ls
  induction ls with
  | nil =>
    intro xs h
    simp only [castAll, Except.ok.injEq] at h
    subst h
    simp
  | cons l ls ih =>
    intro xs h
    simp only [castAll] at h
    split at h
    · rename_i x hx
      split at h
      · rename_i ys hys
        simp only [Except.ok.injEq] at h
        subst h
        obtain ⟨hl, hk⟩ := ih ys hys
        refine ⟨by simp [hl], ?_⟩
        intro k l' hk'
        cases k with
        | zero => simp only [List.getElem?_cons_zero, Option.some.injEq] at hk'; subst hk'; exact ⟨x, by simp, hx⟩
        | succ k => simpa using hk k l' (by simpa using hk')
      · cases h
    · cases h

theorem castAll_mem (d : DType) {ls : List Leaf} {xs : List Nat} (h : castAll d ls = .ok xs) :
    ∀ x ∈ xs, ∃ l ∈ ls, castLeaf d l = .ok x := by
  obtain ⟨hl, hk⟩ := castAll_ok d ls xs h
  intro x hx
  obtain ⟨k, hklt, hkx⟩ := List.getElem_of_mem hx
  have hkl : k < ls.length := by omega
  obtain ⟨y, hy, hc⟩ := hk k ls[k] (List.getElem?_eq_getElem hkl)
  rw [List.getElem?_eq_getElem hklt, hkx] at hy
  simp only [Option.some.injEq] at hy
  subst hy
  exact ⟨ls[k], List.getElem_mem hkl, hc⟩

theorem castAll_map (d : DType) (f : Leaf → Nat) : ∀ ls : List Leaf,
    (∀ l ∈ ls, castLeaf d l = .ok (f l)) → castAll d ls = .ok (ls.map f)
  | [], _ => rfl
  | l :: ls, h => by
    simp only [castAll, h l List.mem_cons_self,
      castAll_map d f ls (fun x hx => h x (List.mem_cons_of_mem _ hx)), List.map_cons]

/-- the wide formats round as the narrow ones do (`Lemmas/F8Round.lean`), then saturate -/
theorem roundMag_eq (eb mb m : Nat) (e : Int) :
    roundMag eb mb m e =
      min (roundU mb (1 - ((2 : Int) ^ (eb - 1) - 1) - mb) m e) ((2 ^ eb - 1) * 2 ^ mb) := rfl

theorem roundMag_le (eb mb m : Nat) (e : Int) : roundMag eb mb m e ≤ (2 ^ eb - 1) * 2 ^ mb := by
  rw [roundMag_eq]
  exact Nat.min_le_right _ _

theorem pow_split (eb mb : Nat) : (2 ^ eb - 1) * 2 ^ mb + 2 ^ mb = 2 ^ (eb + mb) := by
  have h1 : 1 ≤ 2 ^ eb := Nat.one_le_two_pow
  rw [Nat.pow_add, Nat.sub_mul, Nat.one_mul]
  have : 2 ^ mb ≤ 2 ^ eb * 2 ^ mb := Nat.le_mul_of_pos_left _ (by omega)
  omega

theorem encodeF_lt (eb mb : Nat) (hmb : 1 ≤ mb) (f : F64) : encodeF eb mb f < 2 ^ (eb + mb + 1) := by
  have hs := pow_split eb mb
  have hh : 2 ^ (mb - 1) < 2 ^ mb := Nat.pow_lt_pow_right (by decide) (by omega)
  have hp : 2 ^ (eb + mb + 1) = 2 * 2 ^ (eb + mb) := by rw [Nat.pow_succ]; omega
  have hpos : 0 < 2 ^ mb := Nat.two_pow_pos mb
  cases f with
  | zero neg => simp only [encodeF]; split <;> omega
  | fin neg m e =>
    have := roundMag_le eb mb m e
    simp only [encodeF]; split <;> omega
  | inf neg => simp only [encodeF]; split <;> omega
  | nan neg => simp only [encodeF]; split <;> omega

theorem castBool_lt {l : Leaf} {x : Nat} (h : castBool l = .ok x) : x < 2 := by
  cases l <;> simp only [castBool, Cast.ok.injEq] at h <;> subst h
  case none => exact Nat.zero_lt_two
  all_goals split <;> omega

theorem fitInt_lt {bits : Nat} {s : Bool} {i : Int} {x : Nat} (h : fitInt bits s i = .ok x) : x < 2 ^ bits := by
  simp only [fitInt] at h
  split at h
  · simp only [Cast.ok.injEq] at h; subst h; exact wrap_lt _ _
  · cases h

theorem castNpInt_lt {bits : Nat} {s : Bool} {l : Leaf} {x : Nat} (hb : 1 ≤ bits)
    (h : castNpInt bits s l = .ok x) : x < 2 ^ bits := by
  have h2 : 2 ^ 1 ≤ 2 ^ bits := Nat.pow_le_pow_right (by decide) hb
  cases l with
  | bool b => simp only [castNpInt, Cast.ok.injEq] at h; subst h; split <;> omega
  | int i => exact fitInt_lt (by simpa [castNpInt] using h)
  | float b =>
    simp only [castNpInt] at h
    split at h
    · exact fitInt_lt h
    · cases h
  | none | complex _ _ | str _ | bytes _ => simp [castNpInt] at h

theorem castMlInt_lt {bits : Nat} {s : Bool} {l : Leaf} {x : Nat} (hb : 1 ≤ bits)
    (h : castMlInt bits s l = .ok x) : x < 2 ^ bits := by
  have h2 : 2 ^ 1 ≤ 2 ^ bits := Nat.pow_le_pow_right (by decide) hb
  cases l with
  | bool b => simp only [castMlInt, Cast.ok.injEq] at h; subst h; split <;> omega
  | int i =>
    simp only [castMlInt] at h
    split at h
    · simp only [Cast.ok.injEq] at h; subst h; exact wrap_lt _ _
    · cases h
  | float b =>
    simp only [castMlInt] at h
    split at h
    · split at h
      · exact fitInt_lt h
      · cases h
    · cases h
  | none | complex _ _ | str _ | bytes _ => simp [castMlInt] at h

theorem pyFloatOfInt_lt {i : Int} {b : Nat} (h : pyFloatOfInt i = some b) : b < 2 ^ 64 := by
  simp only [pyFloatOfInt] at h
  split at h
  · cases h
  · simp only [Option.some.injEq] at h
    subst h
    exact encodeF_lt 11 52 (by decide) _

theorem leafToF64_lt {l : Leaf} {b : Nat} (hw : l.wf = true) (h : leafToF64 l = .ok b) : b < 2 ^ 64 := by
  cases l with
  | bool c => simp only [leafToF64, Cast.ok.injEq] at h; subst h; split <;> decide
  | int i =>
    simp only [leafToF64] at h
    split at h
    · rename_i hb; simp only [Cast.ok.injEq] at h; subst h; exact pyFloatOfInt_lt hb
    · cases h
  | float c => simp only [leafToF64, Cast.ok.injEq] at h; subst h; simpa [Leaf.wf] using hw
  | none => simp only [leafToF64, Cast.ok.injEq] at h; subst h; decide
  | complex _ _ | str _ | bytes _ => simp [leafToF64] at h

theorem castNpFloat_lt {eb mb : Nat} {l : Leaf} {x : Nat} (hmb : 1 ≤ mb) (hw : l.wf = true)
    (h : castNpFloat eb mb l = .ok x) : x < 2 ^ (if eb = 11 then 64 else eb + mb + 1) := by
  cases hL : leafToF64 l with
  | ok b =>
    simp only [castNpFloat, hL, Cast.ok.injEq] at h
    subst h
    split
    · exact leafToF64_lt hw hL
    · exact encodeF_lt eb mb hmb _
  | err e => simp [castNpFloat, hL] at h
  | unmodelled => simp [castNpFloat, hL] at h

theorem castBf16_lt {l : Leaf} {x : Nat} (h : castBf16 l = .ok x) : x < 2 ^ 16 := by
  cases l with
  | bool b => simp only [castBf16, Cast.ok.injEq] at h; subst h; split <;> decide
  | int i =>
    simp only [castBf16] at h
    split at h
    · simp only [Cast.ok.injEq] at h; subst h; exact encodeF_lt 8 7 (by decide) _
    · cases h
  | float b => simp only [castBf16, Cast.ok.injEq] at h; subst h; exact encodeF_lt 8 7 (by decide) _
  | none | complex _ _ | str _ | bytes _ => simp [castBf16] at h

theorem pair_lt {a b H : Nat} (ha : a < H) (hb : b < H) : a + b * H < H * H :=
  calc a + b * H < H + b * H := Nat.add_lt_add_right ha _
    _ = (b + 1) * H := by rw [Nat.add_mul, Nat.one_mul, Nat.add_comm]
    _ ≤ H * H := Nat.mul_le_mul_right H hb

theorem castComplex_lt {eb mb half : Nat} {l : Leaf} {x : Nat} (hmb : 1 ≤ mb) (hw : l.wf = true)
    (hhalf : half = if eb = 11 then 64 else eb + mb + 1)
    (h : castComplex eb mb half l = .ok x) : x < 2 ^ (2 * half) := by
  have hpart : ∀ b, b < 2 ^ 64 → (if eb = 11 then b else encodeF eb mb (decode64 b)) < 2 ^ half := by
    intro b hb
    rw [hhalf]
    split
    · exact hb
    · exact encodeF_lt eb mb hmb _
  have hdouble : 2 ^ (2 * half) = 2 ^ half * 2 ^ half := by rw [Nat.two_mul, Nat.pow_add]
  have hpos : 0 < 2 ^ half := Nat.two_pow_pos half
  cases l with
  | bool _ | int _ | float _ =>
    -- a real scalar: only the low half is set
    simp only [castComplex] at h
    split at h
    · rename_i b hL
      simp only [Cast.ok.injEq] at h
      subst h
      rw [hdouble]
      exact Nat.lt_of_lt_of_le (hpart b (leafToF64_lt hw hL)) (Nat.le_mul_of_pos_left _ hpos)
    · rename_i hne
      exact absurd h (hne x)
  | complex re im =>
    simp only [castComplex, Cast.ok.injEq] at h
    subst h
    simp only [Leaf.wf, Bool.and_eq_true, decide_eq_true_eq] at hw
    rw [hdouble]
    exact pair_lt (hpart re hw.1) (hpart im hw.2)
  | none =>
    simp only [castComplex, Cast.ok.injEq] at h
    subst h
    have h1 := hpart 0x7FF8000000000000 (by decide)
    rw [hdouble]
    exact pair_lt h1 h1
  | str _ | bytes _ => simp [castComplex, leafToF64] at h

/-- every branch of `encF8` is a sign (0 or 128) plus a capped or guarded magnitude -/
theorem encF8_lt (k : F8) (f : F64) : encF8 k f < 256 := by
  rcases f with (_|_) | ⟨(_|_), m, e⟩ | (_|_) | (_|_) <;> cases k <;> simp only [encF8, sgn8] <;>
    (try decide) <;> (repeat' split) <;> omega

theorem encF8_e2m1_lt (f : F64) : encF8 .e2m1 f < 16 := by
  rcases f with (_|_) | ⟨(_|_), m, e⟩ | (_|_) | (_|_) <;> simp only [encF8] <;>
    (try decide) <;> (repeat' split) <;> omega

theorem encF8_lt_bits (k : F8) (f : F64) : encF8 k f < 2 ^ k.bits := by
  cases k
  case e2m1 => exact encF8_e2m1_lt f
  all_goals exact encF8_lt _ f

/-- ml_dtypes' float types: total on bool / int64 / float scalars, `TypeError` on everything else -/
theorem castF8_total (k : F8) (l : Leaf) :
    (l.isReal64 = true → ∃ f, castF8 k l = .ok (encF8 k f)) ∧
    (l.isReal64 = false → castF8 k l = .err "TypeError") := by
  cases l with
  | bool _ | float _ => exact ⟨fun _ => ⟨_, rfl⟩, fun h => by simp [Leaf.isReal64] at h⟩
  | int i =>
    refine ⟨fun h => ?_, fun h => ?_⟩
    · simp only [Leaf.isReal64, decide_eq_true_eq] at h
      exact ⟨decode32 (encodeF 8 23 (ofInt i)), by simp only [castF8, h, and_self, if_true]⟩
    · simp only [Leaf.isReal64, decide_eq_false_iff_not] at h
      simp only [castF8, h, if_false]
  | none | complex _ _ | str _ | bytes _ =>
    exact ⟨fun h => by simp [Leaf.isReal64] at h, fun _ => rfl⟩

theorem castLeaf_f8 (k : F8) (l : Leaf) : castLeaf k.dtype l = castF8 k l := by
  cases k <;> rfl

theorem castF8_lt {k : F8} {l : Leaf} {x : Nat} (h : castF8 k l = .ok x) : x < 2 ^ k.bits := by
  cases hr : l.isReal64
  · rw [(castF8_total k l).2 hr] at h; cases h
  · obtain ⟨f, hf⟩ := (castF8_total k l).1 hr
    rw [hf] at h
    cases h
    exact encF8_lt_bits k f

theorem castAll_f8 (k : F8) (ls : List Leaf) (h : ls.all Leaf.isReal64 = true) :
    ∃ xs, castAll k.dtype ls = .ok xs ∧ ∀ x ∈ xs, x < 2 ^ k.bits := by
  have hp : ∀ l ∈ ls, castLeaf k.dtype l =
      .ok (match castF8 k l with | .ok x => x | _ => 0) := fun l hl => by
    obtain ⟨g, hg⟩ := (castF8_total k l).1 (List.all_eq_true.mp h l hl)
    rw [castLeaf_f8, hg]
  refine ⟨_, castAll_map _ _ ls hp, fun x hx => ?_⟩
  obtain ⟨l, hl, rfl⟩ := List.mem_map.mp hx
  exact castF8_lt ((castLeaf_f8 k l).symm.trans (hp l hl))

theorem castLeaf_lt_bits {d : DType} {l : Leaf} {x bw : Nat} (hw : l.wf = true)
    (h : castLeaf d l = .ok x) (hbw : d.bitwidth = some bw) : x < 2 ^ bw := by
  cases d <;> simp only [castLeaf] at h <;> cases hbw
  case bool => exact Nat.lt_of_lt_of_le (castBool_lt h) (by decide)
  case int8 | uint8 | int16 | uint16 | int32 | uint32 | int64 | uint64 =>
    exact castNpInt_lt (by decide) h
  case int4 | uint4 | int2 | uint2 => exact castMlInt_lt (by decide) h
  case float16 | float | double => exact castNpFloat_lt (by decide) hw h
  case bfloat16 => exact castBf16_lt h
  case complex64 | complex128 => exact castComplex_lt (by decide) hw (by decide) h
  case float8e4m3fn | float8e4m3fnuz | float8e5m2 | float8e5m2fnuz | float8e8m0 | float4e2m1 =>
    exact castF8_lt h

theorem castLeaf_lt {d : DType} {l : Leaf} {x bw : Nat} (hw : l.wf = true)
    (h : castLeaf d l = .ok x) (hbw : d.bitwidth = some bw) : x < 256 ^ npItemBytes d :=
  Nat.lt_of_lt_of_le (castLeaf_lt_bits hw h hbw) (facts d bw hbw).units_le

theorem allFloat_append (a b : List Leaf) : allFloat (a ++ b) = (allFloat a && allFloat b) := by
  simp [allFloat, List.all_append]

theorem allInt64_append (a b : List Leaf) : allInt64 (a ++ b) = (allInt64 a && allInt64 b) := by
  simp [allInt64, List.all_append]

theorem allFloat_elim {ls : List Leaf} (h : allFloat ls = true) {l : Leaf} (hl : l ∈ ls) :
    l = .float l.floatBits := by
  have := List.all_eq_true.mp h l hl
  cases l <;> simp at this
  rfl

theorem castAll_double_float (ls : List Leaf) (h : allFloat ls = true) :
    castAll .double ls = .ok (ls.map Leaf.floatBits) :=
  castAll_map _ _ ls (fun l hl => by rw [allFloat_elim h hl]; rfl)

theorem castAll_float_float (ls : List Leaf) (h : allFloat ls = true) :
    ∃ elems, castAll .float ls = .ok elems :=
  ⟨_, castAll_map _ (fun l => encodeF 8 23 (decode64 l.floatBits)) ls
    (fun l hl => by rw [allFloat_elim h hl]; rfl)⟩

theorem castAll_int64 (ls : List Leaf) (h : allInt64 ls = true) :
    castAll .int64 ls = .ok (ls.map (fun l => wrap 64 l.intValue)) := by
  refine castAll_map _ _ ls (fun l hl => ?_)
  have := List.all_eq_true.mp h l hl
  cases l <;> simp at this
  rename_i i
  have hr : inRange 64 true i = true := by
    simp only [inRange, intLo, intHi, Bool.and_eq_true, decide_eq_true_eq, ↓reduceIte]
    omega
  simp [castLeaf, castNpInt, fitInt, hr, Leaf.intValue]

theorem kind_of_allFloat {ls : List Leaf} (h : allFloat ls = true) : ∀ l ∈ ls, l.kind = .float64 :=
  fun l hl => by rw [allFloat_elim h hl]; rfl

theorem kind_of_allInt64 {ls : List Leaf} (h : allInt64 ls = true) : ∀ l ∈ ls, l.kind = .int64 := by
  intro l hl
  have := List.all_eq_true.mp h l hl
  cases l <;> simp at this
  simp [Leaf.kind, this]

theorem foldl_join_const (k : Kind) (hk : k.join k = k) (ls : List Leaf) (h : ∀ l ∈ ls, l.kind = k) :
    ls.foldl (fun a x => a.join x.kind) k = k :=
  ListFacts.foldl_inv_mem (fun a => a = k) _ (fun a ha l hl => by rw [ha, h l hl, hk]) rfl

theorem discover_const {k : Kind} (hk : k.join k = k) (ls : List Leaf) (hne : ls ≠ [])
    (h : ∀ l ∈ ls, l.kind = k) : discover ls = k := by
  cases ls with
  | nil => exact absurd rfl hne
  | cons l ls =>
    simp only [discover, h l (by simp)]
    exact foldl_join_const k hk ls (fun x hx => h x (by simp [hx]))

/-- the first-element descent of `_maybe_string_tensor` ends at a non-text scalar or an empty list -/
theorem firstIsText_of_no_text : ∀ v : PyVal, (leaves v).all (fun l => !l.isText) = true → firstIsText v = false
  | .leaf l, h => by simpa [leaves, firstIsText] using h
  | .seq .nil, _ => rfl
  | .seq (.cons x xs), h => by
    simp only [leaves, leavesL, List.all_append, Bool.and_eq_true] at h
    simpa [firstIsText] using firstIsText_of_no_text x h.1

theorem no_text_of_kind {k : Kind} (hk : k ≠ .text) {ls : List Leaf} (h : ∀ l ∈ ls, l.kind = k) :
    ls.all (fun l => !l.isText) = true := by
  apply List.all_eq_true.mpr
  intro l hl
  have := h l hl
  cases l <;> first | rfl | exact absurd this.symm hk

theorem maybeString_none_of_no_text (v : PyVal) (h : (leaves v).all (fun l => !l.isText) = true) :
    maybeString v none = none := by
  simp [maybeString, firstIsText_of_no_text v h]

theorem pyTensor_scalar_float (b : Nat) :
    pyTensor (.leaf (.float b)) none = .numeric .float [] [encodeF 8 23 (decode64 b)] := by
  simp [pyTensor, maybeString, firstIsText, Leaf.isText, inferChain, build, npShape, leaves, castAll,
    castLeaf, castNpFloat, leafToF64]

theorem flat_float_shape : ∀ xs : PyList, xs.toList.all PyVal.isFloatLeaf = true →
    npShapes xs = some (List.replicate xs.toList.length []) ∧ allFloat (leavesL xs) = true
  | .nil, _ => by simp [npShapes, PyList.toList, leavesL, allFloat]
  | .cons x xs, h => by
    simp only [PyList.toList, List.all_cons, Bool.and_eq_true] at h
    obtain ⟨ih1, ih2⟩ := flat_float_shape xs h.2
    cases x with
    | seq _ => simp [PyVal.isFloatLeaf] at h
    | leaf l =>
      cases l <;> simp [PyVal.isFloatLeaf] at h
      refine ⟨by simp [npShapes, npShape, ih1, PyList.toList, List.replicate_succ], ?_⟩
      simp only [leavesL, leaves, allFloat_append, ih2, Bool.and_true]
      rfl

theorem pyTensor_flat_float (xs : PyList) (hne : xs ≠ .nil) (h : xs.toList.all PyVal.isFloatLeaf = true) :
    ∃ elems, pyTensor (.seq xs) none = .numeric .float [xs.toList.length] elems := by
  obtain ⟨hsh, hfl⟩ := flat_float_shape xs h
  cases xs with
  | nil => exact absurd rfl hne
  | cons x0 xs' =>
    have h0 : x0.isFloatLeaf = true ∧ xs'.toList.all PyVal.isFloatLeaf = true := by
      simpa [PyList.toList] using h
    have hi0 : x0.isIntLeaf = false := by
      cases x0 with
      | seq _ => rfl
      | leaf l => cases l <;> simp [PyVal.isFloatLeaf] at h0 <;> rfl
    obtain ⟨elems, hc⟩ := castAll_float_float (leavesL (.cons x0 xs')) hfl
    have hms := maybeString_none_of_no_text (.seq (.cons x0 xs')) (no_text_of_kind (by decide) (kind_of_allFloat (by simpa [leaves] using hfl)))
    have hshape : npShape (.seq (.cons x0 xs')) = some [(PyList.cons x0 xs').toList.length] := by
      simp only [npShape, hsh, PyList.toList, List.length_cons, List.replicate_succ]
      simp
    refine ⟨elems, ?_⟩
    simp [pyTensor, hms, inferChain, PyList.toList, hi0, h0.1, h0.2, build, hshape, leaves, hc]

theorem npShape_leaf_head {l : Leaf} {xs : PyList} {dims : List Nat}
    (h : npShape (.seq (.cons (.leaf l) xs)) = some dims) : ∃ n, dims = [n] := by
  simp only [npShape, npShapes] at h
  cases hxs : npShapes xs with
  | none => simp [hxs] at h
  | some ss =>
    simp only [hxs] at h
    split at h <;> cases h
    exact ⟨_, rfl⟩

theorem pyTensor_nested_float (v : PyVal) (n m : Nat) (rest : List Nat)
    (hs : npShape v = some (n :: m :: rest)) (hne : leaves v ≠ []) (hf : allFloat (leaves v) = true) :
    pyTensor v none = .numeric .double (n :: m :: rest) ((leaves v).map Leaf.floatBits) := by
  have hms := maybeString_none_of_no_text v (no_text_of_kind (by decide) (kind_of_allFloat hf))
  cases v with
  | leaf l => simp [npShape] at hs
  | seq xs =>
    cases xs with
    | nil => simp [npShape, npShapes] at hs
    | cons x0 xs' =>
      have hx0 : x0.isIntLeaf = false ∧ x0.isFloatLeaf = false := by
        cases x0 with
        | seq _ => exact ⟨rfl, rfl⟩
        | leaf l =>
          obtain ⟨k, hk⟩ := npShape_leaf_head hs
          cases hk
      simp [pyTensor, hms, inferChain, PyList.toList, hx0.1, hx0.2, hs, discover_const rfl _ hne (kind_of_allFloat hf), Kind.dtype,
        build, castAll_double_float _ hf]

theorem inferChain_int64 (v : PyVal) (hi : allInt64 (leaves v) = true) (hne : leaves v ≠ []) :
    inferChain v = .ok (some .int64) ∨ inferChain v = .ok none := by
  cases v with
  | leaf l =>
    simp only [leaves, allInt64, List.all_cons, List.all_nil, Bool.and_true] at hi
    cases l <;> simp at hi
    left; rfl
  | seq xs =>
    cases xs with
    | nil => simp [leaves, leavesL] at hne
    | cons x0 xs' =>
      simp only [inferChain]
      split
      · left; rfl
      · split
        · -- all items are float scalars: impossible, the first one is an int
          rename_i hfl
          exfalso
          simp only [PyList.toList, List.all_cons, Bool.and_eq_true] at hfl
          cases x0 with
          | seq _ => simp [PyVal.isFloatLeaf] at hfl
          | leaf l =>
            cases l <;> simp [PyVal.isFloatLeaf] at hfl
            simp [leaves, leavesL, allInt64] at hi
        · right; rfl

theorem pyTensor_int64 (v : PyVal) (dims : List Nat) (hs : npShape v = some dims)
    (hne : leaves v ≠ []) (hi : allInt64 (leaves v) = true) :
    pyTensor v none = .numeric .int64 dims ((leaves v).map (fun l => wrap 64 l.intValue)) := by
  have hms := maybeString_none_of_no_text v (no_text_of_kind (by decide) (kind_of_allInt64 hi))
  rcases inferChain_int64 v hi hne with hc | hc
  · simp [pyTensor, hms, hc, build, hs, castAll_int64 _ hi]
  · simp [pyTensor, hms, hc, hs, discover_const rfl _ hne (kind_of_allInt64 hi), Kind.dtype, build, castAll_int64 _ hi]

theorem pyTensor_some (v : PyVal) {d : DType} (h1 : d ≠ .string) (h2 : d ≠ .undefined)
    (hms : maybeString v (some d) = none) : pyTensor v (some d) = build v d := by
  unfold pyTensor
  rw [hms]
  cases d <;> first | exact absurd rfl h1 | exact absurd rfl h2 | rfl

theorem pyTensor_ragged (v : PyVal) (dt : Option DType) (hs : npShape v = none) (h1 : dt ≠ some .string)
    (h2 : dt ≠ some .undefined) : pyTensor v dt = .raised "ValueError" := by
  have hms : maybeString v dt = none := by
    simp only [maybeString, hs]
    split <;> try rfl
    split <;> rfl
  cases dt with
  | some d =>
    rw [pyTensor_some v (fun h => h1 (h ▸ rfl)) (fun h => h2 (h ▸ rfl)) hms]; simp [build, hs]
  | none =>
    simp only [pyTensor, hms]
    cases hc : inferChain v with
    | error e =>
      -- only the empty top-level sequence, whose shape is [0]
      cases v with
      | leaf l => cases l <;> simp [inferChain] at hc
      | seq xs =>
        cases xs with
        | nil => simp [npShape, npShapes] at hs
        | cons x xs' =>
          simp only [inferChain] at hc
          split at hc <;> try cases hc
          split at hc <;> cases hc
    | ok o =>
      cases o with
      | some d => simp [build, hs]
      | none => simp [hs]

theorem firstIsText_of_text : ∀ (v : PyVal) (dims : List Nat), npShape v = some dims → leaves v ≠ [] →
    (leaves v).all Leaf.isText = true → firstIsText v = true
  | .leaf l, _, _, _, h => by simpa [leaves, firstIsText] using h
  | .seq .nil, _, _, hne, _ => by simp [leaves, leavesL] at hne
  | .seq (.cons x xs), dims, hs, hne, h => by
    simp only [firstIsText]
    simp only [leaves, leavesL, List.all_append, Bool.and_eq_true] at h
    -- the first item has the common shape s; the whole has (len) :: s with a non-zero product
    simp only [npShape, npShapes] at hs
    cases hx : npShape x with
    | none => simp [hx] at hs
    | some s =>
      have hlen := leaves_length hx
      by_cases hx0 : leaves x = []
      · -- then prod s = 0 and every item has no scalar: contradiction with hne
        exfalso
        cases hxs : npShapes xs with
        | none => simp [hx, hxs] at hs
        | some ss =>
          simp only [hx, hxs] at hs
          split at hs
          · rename_i hall
            simp only [Option.some.injEq] at hs
            subst hs
            have htot := leaves_length (v := .seq (.cons x xs)) (dims := (ss.length + 1) :: s)
              (by simp [npShape, npShapes, hx, hxs, hall])
            have hp : prod s = 0 := by rw [← hlen, hx0]; rfl
            have : prod ((ss.length + 1) :: s) = 0 := by
              show (ss.length + 1) * prod s = 0
              rw [hp]; rfl
            rw [this] at htot
            exact hne (List.eq_nil_of_length_eq_zero htot)
          · cases hs
      · exact firstIsText_of_text x s hx hx0 h.1

theorem pyTensor_text (v : PyVal) (dt : Option DType) (dims : List Nat) (hs : npShape v = some dims)
    (ht : (leaves v).all Leaf.isText = true) (hdt : dt = none ∨ dt = some .string)
    (hne : leaves v ≠ [] ∨ dt = some .string) :
    pyTensor v dt = .str (.objArr ((leaves v).map Leaf.encode) dims) := by
  have hm : maybeString v dt = some (.objArr ((leaves v).map Leaf.encode) dims) := by
    rcases hdt with rfl | rfl
    · rcases hne with hne | h
      · simp [maybeString, firstIsText_of_text v dims hs hne ht, hs, ht]
      · cases h
    · simp [maybeString, hs, ht]
  simp [pyTensor, hm]

theorem build_numeric {v : PyVal} {d d' : DType} {dims : List Nat} {elems : List Nat}
    (h : build v d = .numeric d' dims elems) :
    d' = d ∧ npShape v = some dims ∧ castAll d (leaves v) = .ok elems := by
  unfold build at h
  split at h
  · cases h
  · rename_i ds hs
    split at h
    · rename_i xs hx
      simp only [PyResult.numeric.injEq] at h
      obtain ⟨rfl, rfl, rfl⟩ := h
      exact ⟨rfl, hs, hx⟩
    · cases h
    · cases h

/-- every array-backed result comes out of `build` -/
theorem pyTensor_numeric {v : PyVal} {dt : Option DType} {d : DType} {dims : List Nat} {elems : List Nat}
    (h : pyTensor v dt = .numeric d dims elems) :
    build v d = .numeric d dims elems ∧ (∀ d0, dt = some d0 → d = d0) := by
  have key : ∀ d0, build v d0 = .numeric d dims elems → build v d = .numeric d dims elems :=
    fun d0 h0 => (build_numeric h0).1 ▸ h0
  unfold pyTensor at h
  split at h
  · cases h
  · split at h
    · cases h
    · cases h
    · -- a declared dtype
      exact ⟨key _ h, fun d1 h1 => by cases h1; exact (build_numeric h).1⟩
    · split at h
      · cases h
      · -- the dtype the inference chain chose
        exact ⟨key _ h, fun d1 h1 => by cases h1⟩
      · split at h
        · cases h
        · split at h
          · -- the dtype numpy discovered
            exact ⟨key _ h, fun d1 h1 => by cases h1⟩
          · cases h

end IrVerif.PyTensor
