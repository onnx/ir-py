/-
The recursive iterator (`recStep` / `recNext` / `recDrain`) as an instance of StackRun: stack
invariants, what each kind of step does to a frame (`rec_progress`), hence frame completion and
the runs of whole stacks (`steps_stack_exhausts`, `steps_top`); a step bound, histories.  Traversal.lean / TraversalRun.lean
do the same for the finer model `tStep`; TraversalRefine connects the two.
-/
import IrVerif.Lemmas.LinkedSetWF
import IrVerif.Lemmas.StackRun
namespace IrVerif.LinkedSet

def WorldWF (w : RWorld) : Prop := ∀ s ∈ w.sets, WF s

theorem wf_empty : WF empty := ⟨[], inv_empty⟩

theorem WorldWF.setOf {w : RWorld} (h : WorldWF w) (g : Nat) : WF (w.setOf g) := by
  unfold RWorld.setOf
  by_cases hg : g < w.sets.length
  · have : w.sets.getD g empty = w.sets[g] := by simp [List.getD, List.getElem?_eq_getElem hg]
    rw [this]; exact h _ (List.getElem_mem hg)
  · have : w.sets.getD g empty = empty := by
      simp [List.getD, List.getElem?_eq_none (Nat.le_of_not_lt hg)]
    rw [this]; exact wf_empty

/-- well-founded nesting: the subgraphs entered from a node of graph `g` have smaller rank -/
def Ranked (w : RWorld) (d : Dir) (rk : Nat → Nat) : Prop :=
  ∀ g v, v ∈ toList (w.setOf g) → w.recurse v = true → ∀ h ∈ w.visit d v, rk h < rk g

/-- a frame is consistent: its cursor refers to a box of its graph's container, subgraphs waiting
    to be entered have smaller rank, and `last` is only set while nothing is pending -/
structure FrameOK (w : RWorld) (d : Dir) (rk : Nat → Nat) (fr : RFrame) : Prop where
  valid : fr.c.Valid (w.setOf fr.g)
  pend : ∀ h ∈ fr.pending, rk h < rk fr.g
  last : ∀ v, fr.last = some v → fr.pending = [] ∧ fr.c ≠ .notStarted ∧
    (w.recurse v = true → ∀ h ∈ w.visit d v, rk h < rk fr.g)

def StackOK (w : RWorld) (d : Dir) (rk : Nat → Nat) (st : List RFrame) : Prop :=
  ∀ fr ∈ st, FrameOK w d rk fr

theorem frameOK_fresh (w : RWorld) (d : Dir) (rk : Nat → Nat) (g : Nat) (h : WorldWF w) :
    FrameOK w d rk (RFrame.fresh g) :=
  ⟨(h.setOf g).root_valid, by simp [RFrame.fresh], by simp [RFrame.fresh]⟩

theorem recStep_last (w : RWorld) (d : Dir) (fr : RFrame) (rest : List RFrame) (v : Nat)
    (h : fr.last = some v) :
    recStep w d (fr :: rest) =
      ({ fr with last := none, pending := if w.recurse v then w.visit d v else [] } :: rest,
       (if w.recf.isSome then [Out.pred v] else []), none) := by
  simp [recStep, h]

theorem recStep_pending (w : RWorld) (d : Dir) (fr : RFrame) (rest : List RFrame) (h : Nat)
    (ps : List Nat) (h1 : fr.last = none) (h2 : fr.pending = h :: ps) :
    recStep w d (fr :: rest) =
      (RFrame.fresh h :: { fr with pending := ps } :: rest, [Out.enter h], none) := by
  simp [recStep, h1, h2]

theorem recStep_yield (w : RWorld) (d : Dir) (fr : RFrame) (rest : List RFrame) (c' : Cursor) (v : Nat)
    (h1 : fr.last = none) (h2 : fr.pending = [])
    (h3 : iterNext (w.setOf fr.g) d fr.c = (c', .yield v)) :
    recStep w d (fr :: rest) =
      ({ fr with c := c', last := some v } :: rest,
       (if fr.c = .notStarted then [Out.enter fr.g] else []) ++ [Out.yield fr.g v], some (.yield v)) := by
  simp [recStep, h1, h2, h3]

theorem recStep_stop (w : RWorld) (d : Dir) (fr : RFrame) (rest : List RFrame) (c' : Cursor)
    (h1 : fr.last = none) (h2 : fr.pending = [])
    (h3 : iterNext (w.setOf fr.g) d fr.c = (c', .stop)) :
    recStep w d (fr :: rest) =
      (rest, (if fr.c = .notStarted then [Out.enter fr.g] else []) ++ [Out.exit fr.g] ++
        (if rest.isEmpty then [] else [Out.exit fr.g]), none) := by
  simp [recStep, h1, h2, h3]

theorem recNext_eq (w : RWorld) (d : Dir) : recNext w d = nextBy (recStep w d) := by
  funext f st
  induction f generalizing st with
  | zero => rfl
  | succ f ih =>
    simp only [recNext, nextBy, ih]
    rcases recStep w d st with ⟨st', o, _ | _ | _ | _ | _⟩ <;> rfl

theorem recDrain_eq (w : RWorld) (d : Dir) : recDrain w d = drainBy (recStep w d) := by
  funext f st
  induction f generalizing st with
  | zero => rfl
  | succ f ih =>
    simp only [recDrain, drainBy, ih]
    rcases recStep w d st with ⟨st', o, _ | _ | _ | _ | _⟩ <;> rfl

/-! ### frame completion -/

/-- what a frame still produces until its generator finishes (its own `exit_graph` included) -/
def frameSpec (V : Nat → List Out) (w : RWorld) (d : Dir) (fr : RFrame) : List Out :=
  (match fr.last with
   | some v => specAfter V w d v
   | none => []) ++
  fr.pending.flatMap V ++
  (if fr.c = .notStarted then [Out.enter fr.g] else []) ++
  specLoop V w d fr.g (rest (w.setOf fr.g) d fr.c)

theorem specLoop_nil (V : Nat → List Out) (w : RWorld) (d : Dir) (g : Nat) :
    specLoop V w d g [] = [Out.exit g] := by simp [specLoop]

theorem specLoop_cons (V : Nat → List Out) (w : RWorld) (d : Dir) (g v : Nat) (l : List Nat) :
    specLoop V w d g (v :: l) = Out.yield g v :: (specAfter V w d v ++ specLoop V w d g l) := by
  simp [specLoop]

section
variable {w : RWorld} {d : Dir} {rk : Nat → Nat}

def recM (w : RWorld) (d : Dir) : Machine RFrame := ⟨recStep w d, RFrame.fresh, RFrame.g⟩

def RWorld.sub (w : RWorld) (d : Dir) (v : Nat) : List Nat := if w.recurse v then w.visit d v else []

/-- the subgraphs a frame is still going to enter, in order -/
def RFrame.kids (w : RWorld) (d : Dir) (fr : RFrame) : List Nat :=
  (match fr.last with
   | some v => w.sub d v
   | none => []) ++ fr.pending ++ (rest (w.setOf fr.g) d fr.c).flatMap (w.sub d)

/-- what decreases along the steps of one frame: the nodes left, then the attribute read that is
    due, then the subgraphs waiting to be entered -/
def RFrame.mu (w : RWorld) (d : Dir) (fr : RFrame) : Nat × Nat × Nat :=
  ((rest (w.setOf fr.g) d fr.c).length, (if fr.last.isSome then 1 else 0), fr.pending.length)

def RFrame.lt (w : RWorld) (d : Dir) : RFrame → RFrame → Prop :=
  InvImage (Prod.Lex (· < ·) (Prod.Lex (· < ·) (· < ·))) (RFrame.mu w d)

theorem RFrame.lt_wf (w : RWorld) (d : Dir) : WellFounded (RFrame.lt w d) :=
  InvImage.wf _ (Prod.lex Nat.lt_wfRel (Prod.lex Nat.lt_wfRel Nat.lt_wfRel)).wf

/-- what frame completion needs of a frame; no rank -/
def RFrame.Ready (w : RWorld) (fr : RFrame) : Prop :=
  fr.c.Valid (w.setOf fr.g) ∧ (fr.last.isSome → fr.pending = [])

theorem FrameOK.ready {fr : RFrame} (ok : FrameOK w d rk fr) : fr.Ready w :=
  ⟨ok.valid, fun h => by
    obtain ⟨v, hv⟩ := Option.isSome_iff_exists.1 h
    exact (ok.last v hv).1⟩

theorem rec_progress (hw : WorldWF w) (V : Nat → List Out) (fr : RFrame) (rest : List RFrame)
    (ok : fr.Ready w) :
    (recM w d).Progress (RFrame.Ready w) (frameSpec V w d) (RFrame.kids w d) V (RFrame.lt w d) fr rest := by
  obtain ⟨hval, hp0⟩ := ok
  cases hl : fr.last with
  | some v =>
    -- the attributes of the node yielded last are read
    have hp0 := hp0 (by simp [hl])
    refine .stay _ _ _ (recStep_last w d fr rest v hl) (Or.inl rfl) ⟨hval, by simp⟩ rfl ?_ ?_ ?_
    · by_cases hrec : w.recurse v = true <;> simp [frameSpec, hl, hp0, specAfter, hrec]
    · simp [RFrame.kids, hl, hp0, RWorld.sub]
    · exact Prod.Lex.right _ (Prod.Lex.left _ _ (by simp [hl]))
  | none =>
    cases hp : fr.pending with
    | cons h ps =>
      refine .call h _ (recStep_pending w d fr rest h ps hl hp) ⟨hval, by simp [hl]⟩ rfl ?_ ?_ ?_
      · simp [frameSpec, hl, hp]
      · simp [RFrame.kids, hl, hp]
      · exact Prod.Lex.right _ (by simp only [hl]; exact Prod.Lex.right _ (by simp [hp]))
    | nil =>
      -- the container generator is resumed
      rcases (hw.setOf fr.g).iterNext_cases d hval with
        ⟨hres, hnr⟩ | ⟨c', v, hres, hnr, -, hv', hns⟩
      · refine .ret ((recStep_stop w d fr rest .done hl hp hres).trans ?_)
        simp [recM, frameSpec, hl, hp, hnr, specLoop_nil, popOut]
      · refine .stay _ _ _ (recStep_yield w d fr rest c' v hl hp hres) (Or.inr ⟨v, rfl⟩)
          ⟨hv', fun _ => hp⟩ rfl ?_ ?_ ?_
        · simp [frameSpec, hl, hp, hnr, specLoop_cons, hns]
        · simp [RFrame.kids, hl, hp, hnr]
        · exact Prod.Lex.left _ _ (by simp [hnr])

theorem FrameOK.kids_lt (hw : WorldWF w) (hr : Ranked w d rk) {fr : RFrame} (ok : FrameOK w d rk fr)
    {K : Nat} (hk : rk fr.g ≤ K) : ∀ h ∈ fr.kids w d, rk h < K := by
  have hsub : ∀ v, (w.recurse v = true → ∀ h ∈ w.visit d v, rk h < rk fr.g) →
      ∀ h ∈ w.sub d v, rk h < rk fr.g := by
    intro v hv h hh
    by_cases hrec : w.recurse v = true
    · exact hv hrec h (by simpa [RWorld.sub, hrec] using hh)
    · simp [RWorld.sub, hrec] at hh
  intro h hh
  refine Nat.lt_of_lt_of_le ?_ hk
  simp only [RFrame.kids, List.mem_append, List.mem_flatMap] at hh
  rcases hh with (hh | hh) | ⟨v, hv, hh⟩
  · cases hl : fr.last with
    | none => simp [hl] at hh
    | some v => rw [hl] at hh; exact hsub v (ok.last v hl).2.2 h hh
  · exact ok.pend h hh
  · exact hsub v (hr fr.g v (rest_subset_toList (hw.setOf fr.g) d fr.c ok.valid v hv)) h hh

/-- **frame completion**: given that every subgraph of rank `< K` completes with output `V`, a
    consistent frame of a graph of rank `≤ K` runs to the end of its generator, producing exactly
    `frameSpec`, and control returns to the frames below it. -/
theorem steps_frame {V body : Nat → List Out} (hw : WorldWF w) (hr : Ranked w d rk)
    (K : Nat) (hV : ∀ h, rk h < K → V h = Out.enter h :: body h)
    (hC : ∀ h fr' rest, rk h < K → Run (recStep w d) (RFrame.fresh h :: fr' :: rest) (body h) (fr' :: rest))
    (fr : RFrame) (rest : List RFrame) (ok : FrameOK w d rk fr) (hk : rk fr.g ≤ K) :
    Run (recStep w d) (fr :: rest) (frameSpec V w d fr ++ popOut rest fr.g) rest :=
  (recM w d).complete _ _ _ _ _ (RFrame.lt_wf w d) (rec_progress hw V) hV hC fr rest ok.ready
    (ok.kids_lt hw hr hk)

end

/-! ### subgraph visits, whole runs -/

/-- a visit of subgraph `h` without the caller's first `enter_graph(h)` -/
def visitBody (w : RWorld) (d : Dir) : Nat → Nat → List Out
  | 0, _ => []
  | k + 1, h => [Out.enter h] ++ specLoop (specVisit w d k) w d h (w.nodesOf d h) ++ [Out.exit h]

theorem specVisit_eq (w : RWorld) (d : Dir) (k h : Nat) (hk : 0 < k) :
    specVisit w d k h = Out.enter h :: visitBody w d k h := by
  obtain ⟨k, rfl⟩ : ∃ j, k = j + 1 := ⟨k - 1, by omega⟩
  simp [specVisit, visitBody]

theorem steps_visit {w : RWorld} {d : Dir} {rk : Nat → Nat} (hw : WorldWF w) (hr : Ranked w d rk) :
    ∀ (k h : Nat) (fr' : RFrame) (rest : List RFrame), rk h < k →
      Run (recStep w d) (RFrame.fresh h :: fr' :: rest) (visitBody w d k h) (fr' :: rest)
  | 0, _, _, _, hk => by omega
  | k + 1, h, fr', rest, hk => by
      have ih := steps_visit hw hr k
      have hV : ∀ h', rk h' < k → specVisit w d k h' = Out.enter h' :: visitBody w d k h' :=
        fun h' hh => specVisit_eq w d k h' (by omega)
      have := steps_frame hw hr k hV ih (RFrame.fresh h) (fr' :: rest)
        (frameOK_fresh w d rk h hw) (by show rk h ≤ k; omega)
      simpa [frameSpec, RFrame.fresh, popOut, visitBody, RWorld.nodesOf, List.append_assoc] using this

theorem steps_stack_exhausts {w : RWorld} {d : Dir} {rk : Nat → Nat} (hw : WorldWF w) (hr : Ranked w d rk) (K : Nat) :
    ∀ (st : List RFrame), StackOK w d rk st → (∀ fr ∈ st, rk fr.g ≤ K) → ∃ outs, Run (recStep w d) st outs []
  | [], _, _ => ⟨[], .refl _⟩
  | fr :: rest, ok, hk => by
      have hV : ∀ h', rk h' < K → specVisit w d K h' = Out.enter h' :: visitBody w d K h' :=
        fun h' hh => specVisit_eq w d K h' (by omega)
      have s1 := steps_frame hw hr K hV (fun h fr' rest hh => steps_visit hw hr K h fr' rest hh)
        fr rest (ok fr (by simp)) (hk fr (by simp))
      obtain ⟨outs, s2⟩ := steps_stack_exhausts hw hr K rest (fun x hx => ok x (by simp [hx]))
        (fun x hx => hk x (by simp [hx]))
      exact ⟨_, s1.trans s2⟩

theorem exists_rank_bound (rk : Nat → Nat) : ∀ st : List RFrame, ∃ K, ∀ fr ∈ st, rk fr.g ≤ K
  | [] => ⟨0, by simp⟩
  | fr :: st => by
      obtain ⟨K, hK⟩ := exists_rank_bound rk st
      refine ⟨max K (rk fr.g), ?_⟩
      intro x hx
      simp only [List.mem_cons] at hx
      rcases hx with rfl | hx
      · exact Nat.le_max_right _ _
      · exact Nat.le_trans (hK x hx) (Nat.le_max_left _ _)

theorem steps_top {w : RWorld} {d : Dir} {rk : Nat → Nat} (hw : WorldWF w) (hr : Ranked w d rk)
    (k g : Nat) (hk : rk g ≤ k) : Run (recStep w d) (recStart g) (specTop w d k g) [] := by
  have hV : ∀ h', rk h' < k → specVisit w d k h' = Out.enter h' :: visitBody w d k h' :=
    fun h' hh => specVisit_eq w d k h' (by omega)
  have := steps_frame hw hr k hV (fun h fr' rest hh => steps_visit hw hr k h fr' rest hh)
    (RFrame.fresh g) [] (frameOK_fresh w d rk g hw) hk
  simpa [frameSpec, RFrame.fresh, popOut, specTop, RWorld.nodesOf, recStart] using this

/-! ### stack consistency is preserved; yields are members -/

theorem recStep_ok {w : RWorld} {d : Dir} {rk : Nat → Nat} (hw : WorldWF w) (hr : Ranked w d rk)
    {st st' : List RFrame} {o : List Out} {r : Option Res} (ok : StackOK w d rk st)
    (e : recStep w d st = (st', o, r)) :
    StackOK w d rk st' ∧ (∀ g v, Out.yield g v ∈ o → v ∈ toList (w.setOf g)) ∧
    (r = none ∨ r = some .stop ∨ ∃ v, r = some (.yield v)) := by
  obtain ⟨rfl, rfl, rfl⟩ : st' = (recStep w d st).1 ∧ o = (recStep w d st).2.1 ∧ r = (recStep w d st).2.2 := by
    rw [e]; exact ⟨rfl, rfl, rfl⟩
  clear e
  cases st with
  | nil => exact ⟨ok, by simp [recStep], Or.inr (Or.inl rfl)⟩
  | cons fr rest =>
    have okf := ok fr (by simp)
    have okr : StackOK w d rk rest := fun x hx => ok x (by simp [hx])
    cases hl : fr.last with
    | some v =>
      rw [recStep_last w d fr rest v hl]
      obtain ⟨_, _, hrk⟩ := okf.last v hl
      refine ⟨List.forall_mem_cons.2 ⟨⟨okf.valid, ?_, by simp⟩, okr⟩, ?_, Or.inl rfl⟩
      · intro h hh
        by_cases hrec : w.recurse v = true
        · simp only [hrec, if_true] at hh; exact hrk hrec h hh
        · simp [hrec] at hh
      · intro g v' hm; split at hm <;> simp at hm
    | none =>
      cases hp : fr.pending with
      | cons h ps =>
        rw [recStep_pending w d fr rest h ps hl hp]
        refine ⟨List.forall_mem_cons.2 ⟨frameOK_fresh w d rk h hw, List.forall_mem_cons.2 ⟨?_, okr⟩⟩,
          by simp, Or.inl rfl⟩
        refine ⟨okf.valid, fun h' hh => okf.pend h' (by rw [hp]; simp [hh]), ?_⟩
        intro v hv; simp [hl] at hv
      | nil =>
        rcases (hw.setOf fr.g).iterNext_cases d okf.valid with
          ⟨hres, -⟩ | ⟨c', v, hres, -, hmem, hv', hns⟩
        · rw [recStep_stop w d fr rest .done hl hp hres]
          refine ⟨okr, ?_, Or.inl rfl⟩
          intro g v hm
          simp only [List.mem_append] at hm
          rcases hm with (hm | hm) | hm
          · split at hm <;> simp at hm
          · simp at hm
          · split at hm <;> simp at hm
        · rw [recStep_yield w d fr rest c' v hl hp hres]
          refine ⟨List.forall_mem_cons.2 ⟨⟨hv', by intro h hh; simp [hp] at hh, ?_⟩, okr⟩, ?_,
            Or.inr (Or.inr ⟨v, rfl⟩)⟩
          · intro v' hv''
            simp only [Option.some.injEq] at hv''
            subst hv''
            exact ⟨hp, hns, fun hrec h hh => hr fr.g v hmem hrec h hh⟩
          · intro g v' hm
            simp only [List.mem_append, List.mem_singleton, Out.yield.injEq] at hm
            rcases hm with hm | ⟨rfl, rfl⟩
            · split at hm <;> simp at hm
            · exact hmem

theorem recNext_ok {w : RWorld} {d : Dir} {rk : Nat → Nat} (hw : WorldWF w) (hr : Ranked w d rk)
    (f : Nat) (st : List RFrame) (ok : StackOK w d rk st) :
    StackOK w d rk (recNext w d f st).1 ∧
    (∀ g v, Out.yield g v ∈ (recNext w d f st).2.1 → v ∈ toList (w.setOf g)) := by
  rw [recNext_eq]
  obtain ⟨h1, h2⟩ := nextBy_inv (step := recStep w d) (I := StackOK w d rk)
    (Q := fun x => ∀ g v, x = Out.yield g v → v ∈ toList (w.setOf g))
    (fun st ok => ⟨(recStep_ok hw hr ok rfl).1, fun x hx g v e => (recStep_ok hw hr ok rfl).2.1 g v (e ▸ hx)⟩)
    f st ok
  exact ⟨h1, fun g v hm => h2 _ hm g v rfl⟩

/-! ### edits of one graph's node sequence -/

theorem setOf_applyAt_same (w : RWorld) (g : Nat) (op : Op) (hg : g < w.sets.length) :
    (w.applyAt g op).1.setOf g = (apply (w.setOf g) op).1 := by
  simp [RWorld.applyAt, RWorld.setOf, List.getD, hg]

theorem setOf_applyAt_other (w : RWorld) (g g' : Nat) (op : Op) (hne : g' ≠ g) :
    (w.applyAt g op).1.setOf g' = w.setOf g' := by
  simp [RWorld.applyAt, RWorld.setOf, List.getD, Ne.symm hne]

/-! ### a concrete step bound -/

def lastCount (st : List RFrame) : Nat := (st.filter (fun fr => fr.last.isSome)).length

theorem lastCount_le (st : List RFrame) : lastCount st ≤ st.length := List.length_filter_le _ _

/-- every step that does not end the run pays for itself: it emits output, or it consumes a
    pending attribute read -/
theorem recStep_potential (w : RWorld) (d : Dir) {st st' : List RFrame} {o : List Out} {r : Option Res}
    (e : recStep w d st = (st', o, r)) (hr : GoesOn r) :
    lastCount st' + 1 ≤ 2 * o.length + lastCount st := by
  cases st with
  | nil =>
    simp only [recStep, Prod.mk.injEq] at e
    obtain ⟨_, _, rfl⟩ := e
    rcases hr with h | ⟨_, h⟩ <;> cases h
  | cons fr rest =>
    cases hl : fr.last with
    | some v =>
      rw [recStep_last w d fr rest v hl] at e
      simp only [Prod.mk.injEq] at e
      obtain ⟨rfl, rfl, rfl⟩ := e
      simp [lastCount, hl]
    | none =>
      cases hp : fr.pending with
      | cons h ps =>
        rw [recStep_pending w d fr rest h ps hl hp] at e
        simp only [Prod.mk.injEq] at e
        obtain ⟨rfl, rfl, rfl⟩ := e
        simp [lastCount, hl, RFrame.fresh]
        omega
      | nil =>
        cases hres : iterNext (w.setOf fr.g) d fr.c with
        | mk c' res =>
          cases res with
          | yield v =>
            rw [recStep_yield w d fr rest c' v hl hp hres] at e
            simp only [Prod.mk.injEq] at e
            obtain ⟨rfl, rfl, rfl⟩ := e
            simp [lastCount, hl]
            omega
          | stop =>
            rw [recStep_stop w d fr rest c' hl hp hres] at e
            simp only [Prod.mk.injEq] at e
            obtain ⟨rfl, rfl, rfl⟩ := e
            simp [lastCount, hl]
            omega
          | raised =>
            simp only [recStep, hl, hp, hres, Prod.mk.injEq] at e
            obtain ⟨_, _, rfl⟩ := e
            rcases hr with h | ⟨_, h⟩ <;> cases h
          | fuel =>
            simp only [recStep, hl, hp, hres, Prod.mk.injEq] at e
            obtain ⟨_, _, rfl⟩ := e
            rcases hr with h | ⟨_, h⟩ <;> cases h

/-- two units of fuel per event, one per frame whose node is still to be expanded, one for the final step -/
theorem recDrain_bound (w : RWorld) (d : Dir) : ∀ (f : Nat) (st : List RFrame) (outs : List Out),
    drainBy (recStep w d) f st = (outs, .stop) →
    drainBy (recStep w d) (2 * outs.length + lastCount st + 1) st = (outs, .stop)
  | 0, _, _, h => by simp [drainBy] at h
  | f + 1, st, outs, h => by
      cases hs : recStep w d st with
      | mk st' p =>
        obtain ⟨o, r⟩ := p
        rcases step_cases r with hr | ⟨r', rfl, hr⟩
        · rw [drainBy_cont f hs hr] at h
          have h2 : (drainBy (recStep w d) f st').2 = .stop := by simpa using congrArg Prod.snd h
          have h1 : o ++ (drainBy (recStep w d) f st').1 = outs := by simpa using congrArg Prod.fst h
          have ih := recDrain_bound w d f st' _ (Prod.ext rfl h2)
          have pot := recStep_potential w d hs hr
          have hle : 2 * (drainBy (recStep w d) f st').1.length + lastCount st' + 1 ≤
              2 * outs.length + lastCount st := by
            rw [← h1, List.length_append]; omega
          have m := drainBy_mono ih hle
          rw [drainBy_cont _ hs hr, m, h1]
        · rw [drainBy_end f hs hr] at h
          rw [drainBy_end _ hs hr]; exact h

/-! ### histories of edits and `next()` calls -/

/-- an event of a history seen by one recursive iterator -/
inductive REv
  | edit (g : Nat) (op : Op)
  | next
deriving Repr

/-- every node has a home graph and is only ever a member of that graph's sequence -/
def Homed (w : RWorld) (home : Nat → Nat) : Prop := ∀ g v, v ∈ toList (w.setOf g) → home v = g

/-- the nesting (which does not depend on the node sequences) is well founded -/
def StaticRanked (w : RWorld) (d : Dir) (rk : Nat → Nat) (home : Nat → Nat) : Prop :=
  ∀ v, w.recurse v = true → ∀ h ∈ w.visit d v, rk h < rk (home v)

theorem ranked_of_static {w : RWorld} {d : Dir} {rk home : Nat → Nat} (hh : Homed w home)
    (hs : StaticRanked w d rk home) : Ranked w d rk := by
  intro g v hv hrec h hvis
  have := hs v hrec h hvis
  rwa [hh g v hv] at this

/-- the edits of a history address existing graphs and only insert nodes whose home is that graph -/
def Admissible (n : Nat) (home : Nat → Nat) : List REv → Prop
  | [] => True
  | .edit g op :: es => g < n ∧ (∀ v ∈ touched op, home v = g) ∧ Admissible n home es
  | .next :: es => Admissible n home es

/-- what holds along a history: every `next()` yields members only, and at the end the world and
    the stack are consistent and the nesting is still well founded -/
def RecHistInv (d : Dir) (fuel : Nat) (rk home : Nat → Nat) : RWorld → List RFrame → List REv → Prop
  | w, st, [] => WorldWF w ∧ StackOK w d rk st ∧ Homed w home ∧ Ranked w d rk
  | w, st, .edit g op :: es => RecHistInv d fuel rk home (w.applyAt g op).1 st es
  | w, st, .next :: es =>
      (∀ g v, Out.yield g v ∈ (recNext w d fuel st).2.1 → v ∈ toList (w.setOf g)) ∧
      RecHistInv d fuel rk home w (recNext w d fuel st).1 es

theorem homed_applyAt {w : RWorld} {home : Nat → Nat} (hw : WorldWF w) (hh : Homed w home) (g : Nat) (op : Op)
    (hg : g < w.sets.length) (ht : ∀ v ∈ touched op, home v = g) : Homed (w.applyAt g op).1 home := by
  intro g' v hv
  by_cases hgg : g' = g
  · subst hgg
    rw [setOf_applyAt_same w g' op hg] at hv
    rcases mem_toList_apply (hw.setOf g') op hv with h | h
    · exact ht v h
    · exact hh g' v h
  · rw [setOf_applyAt_other w g g' op hgg] at hv
    exact hh g' v hv

theorem worldWF_applyAt {w : RWorld} (hw : WorldWF w) (g : Nat) (op : Op) : WorldWF (w.applyAt g op).1 := by
  intro s hs
  rcases List.mem_or_eq_of_mem_set hs with h | rfl
  · exact hw s h
  · exact (hw.setOf g).apply op

/-- containers only grow -/
theorem valid_applyAt {w : RWorld} (hw : WorldWF w) (g : Nat) (op : Op) {g' : Nat} {c : Cursor}
    (hc : c.Valid (w.setOf g')) : c.Valid ((w.applyAt g op).1.setOf g') := by
  by_cases hgg : g' = g
  · subst hgg
    by_cases hg : g' < w.sets.length
    · rw [setOf_applyAt_same w g' op hg]
      obtain ⟨bs, hi⟩ := hw.setOf g'
      exact (sim_apply hi op .fwd c hc).valid hc
    · have : (w.applyAt g' op).1 = w := by
        simp [RWorld.applyAt, List.set_eq_of_length_le (Nat.le_of_not_lt hg)]
      rw [this]; exact hc
  · rw [setOf_applyAt_other w g g' op hgg]; exact hc

theorem applyAt_ok {w : RWorld} {d : Dir} {rk : Nat → Nat} (hw : WorldWF w) {st : List RFrame}
    (ok : StackOK w d rk st) (g : Nat) (op : Op) :
    WorldWF (w.applyAt g op).1 ∧ StackOK (w.applyAt g op).1 d rk st :=
  ⟨worldWF_applyAt hw g op,
    fun fr hfr => ⟨valid_applyAt hw g op (ok fr hfr).valid, (ok fr hfr).pend, (ok fr hfr).last⟩⟩

theorem length_applyAt (w : RWorld) (g : Nat) (op : Op) : (w.applyAt g op).1.sets.length = w.sets.length := by
  simp [RWorld.applyAt]

theorem rec_history (d : Dir) (fuel : Nat) (rk home : Nat → Nat) :
    ∀ (es : List REv) (w : RWorld) (st : List RFrame), WorldWF w → Homed w home →
      StaticRanked w d rk home → StackOK w d rk st → Admissible w.sets.length home es →
      RecHistInv d fuel rk home w st es := by
  intro es
  induction es with
  | nil => intro w st hw hh hs ok _; exact ⟨hw, ok, hh, ranked_of_static hh hs⟩
  | cons e es ih =>
    intro w st hw hh hs ok adm
    cases e with
    | edit g op =>
      obtain ⟨hg, ht, adm'⟩ := adm
      obtain ⟨hw', ok'⟩ := applyAt_ok hw ok g op
      have hs' : StaticRanked (w.applyAt g op).1 d rk home := hs
      exact ih _ st hw' (homed_applyAt hw hh g op hg ht) hs' ok' (by rw [length_applyAt]; exact adm')
    | next =>
      obtain ⟨ok', hm⟩ := recNext_ok hw (ranked_of_static hh hs) fuel st ok
      exact ⟨hm, ih w _ hw hh hs ok' adm⟩

end IrVerif.LinkedSet
