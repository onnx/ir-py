/-
Lemmas/SemPerm.lean — independence of the node order: for an SSA node list in which no node reads a
value bound by itself or later, the environment after evaluation is the unique solution of the
dataflow equations, so any two such orders of the same nodes denote the same function
(TopologicalSortPass as a permutation).
-/
import IrVerif.Model.Passes
import IrVerif.Lemmas.SemSyntax
namespace IrVerif.Passes
open IrVerif.Sem
variable {Val : Type}

/-- what the order-independence argument needs of a node list: distinct outputs, and no node reads
    (directly or inside its bodies) an output of itself or of a later node -/
def OrderOK : List Node → Prop
  | [] => True
  | n :: ns => (∀ v ∈ n.outs, v ∉ outsTop ns) ∧ (∀ u ∈ refsN n, u ∉ n.outs ∧ u ∉ outsTop ns) ∧ OrderOK ns

theorem orderOK_of_valid : ∀ ns : List Node, ssaNodes ns = true → noFwdNodes ns = true → OrderOK ns
  | [], _, _ => trivial
  | .mk op attrs ins outs bodies :: ns, hs, hf => by
    simp only [ssaNodes, ssaN, Bool.and_eq_true, disj_iff] at hs
    rw [noFwdNodes_cons_iff] at hf
    obtain ⟨⟨⟨_, _⟩, hdn⟩, hsn⟩ := hs
    obtain ⟨⟨⟨hfw, hfr⟩, _⟩, hfn⟩ := hf
    refine ⟨fun v hv h => hdn v (by simp [defsN, Node.outs] at hv ⊢; exact Or.inl hv)
      (outsTop_sub_defsNodes ns h), ?_, orderOK_of_valid ns hsn hfn⟩
    intro u hu
    simp only [refsN, List.mem_append] at hu
    simp only [Node.outs]
    rcases hu with hu | hu
    · have := hfw u hu
      simp only [defsNodes, defsN, List.mem_append, not_or] at this
      exact ⟨this.1.1, fun h => this.2 (outsTop_sub_defsNodes ns h)⟩
    · have := hfr u hu
      simp only [List.mem_append, not_or] at this
      exact ⟨this.1, fun h => this.2 (outsTop_sub_defsNodes ns h)⟩

/-- the final environment solves every node's equation -/
theorem evalNodes_fix (I : Interp Val) : ∀ (ns : List Node) (ρ : Env Val), OrderOK ns →
    ∀ n ∈ ns, ∀ v ∈ n.outs, evalNodes I ns ρ v = evalN I n (evalNodes I ns ρ) v
  | [], _, _, n, hn, _, _ => by simp at hn
  | m :: ns, ρ, hok, n, hn, v, hv => by
    obtain ⟨hout, href, hrest⟩ := hok
    simp only [evalNodes]
    rcases List.mem_cons.1 hn with hn | hn
    · subst hn
      rw [evalNodes_not_outs I ns _ v (hout v hv)]
      refine evalN_outs_congr I n _ _ (fun u hu => ?_) v hv
      rw [evalNodes_not_outs I ns _ u (href u hu).2, evalN_not_outs I n ρ u (href u hu).1]
    · exact evalNodes_fix I ns _ hrest n hn v hv

/-- a solution of the equations that agrees with ρ elsewhere is the final environment -/
theorem evalNodes_unique (I : Interp Val) : ∀ (ns : List Node) (ρ F : Env Val), OrderOK ns →
    (∀ n ∈ ns, ∀ v ∈ n.outs, F v = evalN I n F v) → (∀ v, v ∉ outsTop ns → F v = ρ v) →
    ∀ v, F v = evalNodes I ns ρ v
  | [], ρ, F, _, _, h2, v => by simpa [evalNodes] using h2 v (by simp [outsTop])
  | n :: ns, ρ, F, hok, h1, h2, v => by
    obtain ⟨hout, href, hrest⟩ := hok
    simp only [evalNodes]
    refine evalNodes_unique I ns _ F hrest (fun m hm => h1 m (List.mem_cons_of_mem _ hm)) ?_ v
    intro w hw
    by_cases hwn : w ∈ n.outs
    · rw [h1 n List.mem_cons_self w hwn]
      refine evalN_outs_congr I n _ _ (fun u hu => ?_) w hwn
      exact h2 u (by simp only [outsTop, List.mem_append, not_or]; exact href u hu)
    · rw [evalN_not_outs I n ρ w hwn]
      exact h2 w (by simp only [outsTop, List.mem_append, not_or]; exact ⟨hwn, hw⟩)

/-- what the order-independence argument needs of a node / a graph: SSA and no forward reads -/
def NodeOK (n : Node) : Prop := ssaN n = true ∧ noFwdN n = true
def GraphOK (g : Graph) : Prop := ssaG g = true ∧ noFwdG g = true

/-- two orders of "the same" nodes give the same environment -/
theorem reorder_nodes_eval (I : Interp Val) (ns ns' : List Node) (hok : OrderOK ns) (hok' : OrderOK ns')
    (hmatch : ∀ n ∈ ns, ∃ n' ∈ ns', n'.outs = n.outs ∧ ∀ ρ : Env Val, evalN I n ρ = evalN I n' ρ)
    (houts : ∀ v ∈ outsTop ns', v ∈ outsTop ns) (ρ : Env Val) (v : VId) :
    evalNodes I ns ρ v = evalNodes I ns' ρ v := by
  symm
  refine evalNodes_unique I ns ρ (evalNodes I ns' ρ) hok ?_ ?_ v
  · intro n hn w hw
    obtain ⟨n', hn', ho, he⟩ := hmatch n hn
    rw [he]
    exact evalNodes_fix I ns' ρ hok' n' hn' w (by rw [ho]; exact hw)
  · intro w hw
    exact evalNodes_not_outs I ns' ρ w (fun h => hw (houts w h))

theorem outsTop_eraseIdx {v : VId} : ∀ (ns : List Node) (k : Nat) (n' : Node), ns[k]? = some n' →
    v ∈ outsTop ns → v ∈ n'.outs ∨ v ∈ outsTop (ns.eraseIdx k)
  | [], _, _, h, _ => by simp at h
  | m :: ns, 0, n', h, hv => by
    simp only [List.getElem?_cons_zero, Option.some.injEq] at h
    subst h
    simpa [outsTop] using hv
  | m :: ns, k + 1, n', h, hv => by
    simp only [List.getElem?_cons_succ] at h
    simp only [outsTop, List.mem_append, List.eraseIdx_cons_succ] at hv ⊢
    rcases hv with hv | hv
    · exact Or.inr (Or.inl hv)
    · exact (outsTop_eraseIdx ns k n' h hv).imp id Or.inr

mutual
theorem reorderG_sound (I : Interp Val) : ∀ (g g' : Graph), reorderG g g' = true → GraphOK g → GraphOK g' →
    ∀ ρ : Env Val, evalG I g ρ = evalG I g' ρ
  | .mk inputs outputs inits nodes, g', h, hok, hok', ρ => by
    cases g' with
    | mk inputs' outputs' inits' nodes' =>
    simp only [reorderG, Graph.inputs, Graph.outputs, Graph.inits, Graph.nodes, Bool.and_eq_true,
      beq_iff_eq] at h
    obtain ⟨⟨⟨rfl, rfl⟩, rfl⟩, hn⟩ := h
    obtain ⟨hs, hf⟩ := hok
    obtain ⟨hs', hf'⟩ := hok'
    simp only [ssaG, Bool.and_eq_true] at hs hs'
    simp only [noFwdG] at hf hf'
    funext xs
    simp only [evalG]
    apply List.map_congr_left
    intro o _
    obtain ⟨hm, ho⟩ := reorderNodes_match I nodes nodes' hn
      (fun n hn => ⟨ssaNodes_mem hs.2 hn, noFwdNodes_mem hf hn⟩)
      (fun n hn => ⟨ssaNodes_mem hs'.2 hn, noFwdNodes_mem hf' hn⟩)
    exact reorder_nodes_eval I nodes nodes' (orderOK_of_valid nodes hs.2 hf)
      (orderOK_of_valid nodes' hs'.2 hf') hm ho _ o
theorem reorderNodes_match (I : Interp Val) : ∀ (ns ns' : List Node), reorderNodes ns ns' = true →
    (∀ n ∈ ns, NodeOK n) → (∀ n' ∈ ns', NodeOK n') →
    (∀ n ∈ ns, ∃ n' ∈ ns', n'.outs = n.outs ∧ ∀ ρ : Env Val, evalN I n ρ = evalN I n' ρ) ∧
    (∀ v ∈ outsTop ns', v ∈ outsTop ns)
  | [], ns', h, _, _ => by
    simp only [reorderNodes, List.isEmpty_iff] at h
    subst h
    simp [outsTop]
  | .mk op attrs ins outs bodies :: ns, ns', h, hok, hok' => by
    simp only [reorderNodes] at h
    split at h
    · rename_i k hk
      simp only [Bool.and_eq_true] at h
      obtain ⟨hhead, hrest⟩ := h
      split at hhead
      · rename_i n' hn'
        simp only [Bool.and_eq_true, beq_iff_eq] at hhead
        obtain ⟨⟨⟨hop, hattrs⟩, hins⟩, hbodies⟩ := hhead
        have hn'mem : n' ∈ ns' := List.mem_of_getElem? hn'
        have houts : n'.outs = outs := by
          have := List.findIdx?_eq_some_iff_getElem.1 hk
          obtain ⟨hlt, hp, _⟩ := this
          have h1 : ns'[k] = n' := by
            have := List.getElem?_eq_some_iff.1 hn'
            exact this.2
          rw [h1] at hp
          simpa using hp
        obtain ⟨hm, ho⟩ := reorderNodes_match I ns (ns'.eraseIdx k) hrest
          (fun n hn => hok n (List.mem_cons_of_mem _ hn))
          (fun n hn => hok' n (List.mem_of_mem_eraseIdx hn))
        have hokn := hok _ List.mem_cons_self
        have hokn' := hok' n' hn'mem
        cases n' with
        | mk op' attrs' ins' outs' bodies' =>
        simp only [Node.op, Node.attrs, Node.ins, Node.outs, Node.bodies] at hop hattrs hins houts hbodies
        subst hop hattrs hins houts
        have hb : ∀ ρ : Env Val, evalBodies I bodies ρ = evalBodies I bodies' ρ := by
          refine reorderBodies_sound I bodies bodies' hbodies ?_ ?_
          · intro b hb
            simp only [NodeOK, ssaN, noFwdN, Bool.and_eq_true] at hokn
            exact ⟨ssaBodies_mem hokn.1.2 hb, noFwdBodies_mem hokn.2 hb⟩
          · intro b hb
            simp only [NodeOK, ssaN, noFwdN, Bool.and_eq_true] at hokn'
            exact ⟨ssaBodies_mem hokn'.1.2 hb, noFwdBodies_mem hokn'.2 hb⟩
        refine ⟨?_, ?_⟩
        · intro n hn
          rcases List.mem_cons.1 hn with hn | hn
          · subst hn
            refine ⟨_, hn'mem, rfl, fun ρ => ?_⟩
            simp only [evalN, hb ρ]
          · obtain ⟨m', hm', h1, h2⟩ := hm n hn
            exact ⟨m', List.mem_of_mem_eraseIdx hm', h1, h2⟩
        · intro v hv
          simp only [outsTop, Node.outs, List.mem_append]
          rcases outsTop_eraseIdx ns' k _ hn' hv with h1 | h1
          · exact Or.inl (by simpa [Node.outs] using h1)
          · exact Or.inr (ho v h1)
      · simp at hhead
    · simp at h
theorem reorderBodies_sound (I : Interp Val) : ∀ (bs bs' : List Graph), reorderBodies bs bs' = true →
    (∀ b ∈ bs, GraphOK b) → (∀ b' ∈ bs', GraphOK b') → ∀ ρ : Env Val, evalBodies I bs ρ = evalBodies I bs' ρ
  | [], bs', h, _, _, ρ => by
    simp only [reorderBodies, List.isEmpty_iff] at h
    subst h; rfl
  | b :: bs, bs', h, hok, hok', ρ => by
    cases bs' with
    | nil => simp [reorderBodies] at h
    | cons b' rest =>
      simp only [reorderBodies, Bool.and_eq_true] at h
      simp only [evalBodies]
      rw [reorderG_sound I b b' h.1 (hok b List.mem_cons_self) (hok' b' List.mem_cons_self) ρ,
        reorderBodies_sound I bs rest h.2 (fun c hc => hok c (List.mem_cons_of_mem _ hc))
          (fun c hc => hok' c (List.mem_cons_of_mem _ hc)) ρ]
end

theorem reorderBodies_getElem? (I : Interp Val) : ∀ (bs bs' : List Graph), reorderBodies bs bs' = true →
    (∀ b ∈ bs, GraphOK b) → (∀ b' ∈ bs', GraphOK b') → ∀ (k : Nat) (ρ : Env Val),
    match bs[k]?, bs'[k]? with
    | some b, some b' => evalG I b ρ = evalG I b' ρ
    | none, none => True
    | _, _ => False
  | [], bs', h, _, _, k, _ => by
    simp only [reorderBodies, List.isEmpty_iff] at h
    subst h; simp
  | b :: bs, bs', h, hok, hok', k, ρ => by
    cases bs' with
    | nil => simp [reorderBodies] at h
    | cons b' rest =>
      simp only [reorderBodies, Bool.and_eq_true] at h
      cases k with
      | zero =>
        simp only [List.getElem?_cons_zero]
        exact reorderG_sound I b b' h.1 (hok b List.mem_cons_self) (hok' b' List.mem_cons_self) ρ
      | succ k =>
        simp only [List.getElem?_cons_succ]
        exact reorderBodies_getElem? I bs rest h.2 (fun c hc => hok c (List.mem_cons_of_mem _ hc))
          (fun c hc => hok' c (List.mem_cons_of_mem _ hc)) k ρ

end IrVerif.Passes
