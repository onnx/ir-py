/-
Recursive iteration while node sequences are edited: the nodes outside a closed set `X` that contains
every touched node are yielded exactly as scheduled at the start (`tRunY` / `tAdm` of
Model/Traversal.lean).

* a `next()` consumes a prefix of the remaining stream (`spec_split`: complete runs are unique);
* an edit of one graph's node sequence leaves the remaining stream unchanged outside `X`
  (`fut_local`: the list-level `untouched` lemma per frame, and locality of the pre-order listing).
-/
import IrVerif.Lemmas.TraversalTree
import IrVerif.Lemmas.TraversalRefine
namespace IrVerif.LinkedSet

/-! ### a `next()` consumes a prefix of the remaining stream -/

theorem tStep_stop_nil (w : TWorld) (d : Dir) (st st' : List TFrame) (o : List Out)
    (e : tStep w d st = (st', o, some .stop)) : st = [] ∧ st' = [] ∧ o = [] := by
  cases st with
  | nil =>
    simp only [tStep, Prod.mk.injEq] at e
    exact ⟨rfl, e.1.symm, e.2.1.symm⟩
  | cons fr rest =>
    exfalso
    cases hm : fr.mode with
    | last v =>
      rw [tStep_last w d fr rest v hm] at e
      simp at e
    | expand v it pend =>
      cases pend with
      | cons h ps =>
        rw [tStep_pend w d fr rest v it h ps hm] at e
        simp at e
      | nil =>
        cases hx : it.next (w.dictOf v) with
        | mk it' res =>
          cases res with
          | item k a =>
            rw [tStep_entry w d fr rest v it it' k a hm hx] at e
            cases a <;> simp at e
          | stop =>
            rw [tStep_entries_end w d fr rest v it hm (by rw [hx])] at e
            simp at e
          | raised => simp [tStep, hm, hx] at e
    | loop =>
      cases hres : iterNext (w.setOf fr.g) d fr.c with
      | mk c' res =>
        cases res with
        | yield v => rw [tStep_yield w d fr rest c' v hm hres] at e; simp at e
        | stop => rw [tStep_stop w d fr rest c' hm hres] at e; simp at e
        | raised => simp [tStep, hm, hres] at e
        | fuel => simp [tStep, hm, hres] at e

/-- from the empty stack no step goes on -/
theorem tStep_nil_final (w : TWorld) (d : Dir) (st1 : List TFrame) (o : List Out) (r : Option Res)
    (e : tStep w d [] = (st1, o, r)) : ¬ GoesOn r := by
  simp only [tStep, Prod.mk.injEq] at e
  obtain ⟨_, _, rfl⟩ := e
  rintro (h | ⟨_, h⟩) <;> cases h

/-- **a `next()` consumes a prefix of the remaining stream** (no graph nested in itself, dict
    iterators in step, the call returns a node or StopIteration) -/
theorem spec_split {w : TWorld} {d : Dir} (hw : TWorldWF w) (ha : w.acyclic d = true) (f : Nat)
    {st : List TFrame} (ok : TStackOK w st) (hs : ∀ fr ∈ st, fr.synced w = true)
    (hr : (tNext w d f st).2.2 = .stop ∨ ∃ v, (tNext w d f st).2.2 = .yield v) :
    tStackSpec (tVisit w d (w.sets.length + 1)) w d st =
      (tNext w d f st).2.1 ++ tStackSpec (tVisit w d (w.sets.length + 1)) w d (tNext w d f st).1 := by
  have ok' := (tNext_ok (d := d) hw f st ok).1
  have hs' := tNext_synced w d f st hs
  obtain ⟨i1, i2⟩ := nextBy_run (fin := []) (tStep_stop_nil w d) f st (tNext w d f st).1
    (tNext w d f st).2.1 (tNext w d f st).2.2 (by rw [← tNext_eq])
  -- both sides of the equation are the output of a complete run from `st`; complete runs are unique
  have full := tSteps_iff.1 (tsteps_stack hw ha st ok hs)
  rcases hr with h | ⟨v, h⟩
  · obtain ⟨j1, j2⟩ := i2 h
    rw [j2]
    simpa [tStackSpec] using Run.det (tStep_nil_final w d) full j1
  · have rest := tSteps_iff.1 (tsteps_stack hw ha _ ok' hs')
    exact Run.det (tStep_nil_final w d) full ((i1 v h).trans rest)

/-! ### locality of the pre-order listing -/

/-- the pre-order listing restricted to the nodes outside `X` does not change when the node lists
    change only inside `X` (and `X` is closed under "nested below" before and after) -/
theorem preord_local (X : List Nat) {nodes nodes' sub : Nat → List Nat}
    (hn : ∀ g, untouched X (nodes' g) = untouched X (nodes g))
    (hc : ∀ k v, v ∈ X → ∀ u ∈ (sub v).flatMap (preord nodes sub k), u ∈ X)
    (hc' : ∀ k v, v ∈ X → ∀ u ∈ (sub v).flatMap (preord nodes' sub k), u ∈ X) :
    ∀ (k h : Nat), untouched X (preord nodes' sub k h) = untouched X (preord nodes sub k h)
  | 0, _ => rfl
  | k + 1, h => by
      have ih : (fun h => untouched X (preord nodes' sub k h)) = fun h => untouched X (preord nodes sub k h) :=
        funext (preord_local X hn hc hc' k)
      simp only [preord]
      rw [untouched_blocks X _ (hc' k), untouched_blocks X _ (hc k), hn h]
      congr 1
      funext v
      rw [untouched_flatMap, untouched_flatMap, ih]

/-! ### the yields of the remaining-stream specification -/

/-- what a frame still yields because of the node it has yielded last / is expanding -/
def modeY (P : Nat → List Nat) (w : TWorld) (d : Dir) (fr : TFrame) : List Nat :=
  match fr.mode with
  | .last v => (w.subD d v).flatMap P
  | .expand v it pend => pend.flatMap P ++ (itRest (w.dictOf v) it).flatMap (fun e => (e.2.graphsOf d).flatMap P)
  | .loop => []

theorem yieldsOf_tFrameSpec (w : TWorld) (d : Dir) (k : Nat) (fr : TFrame) :
    yieldsOf (tFrameSpec (tVisit w d k) w d fr) =
      modeY (preord (w.nodesD d) (w.subD d) k) w d fr ++
      (rest (w.setOf fr.g) d fr.c).flatMap
        (fun v => v :: (w.subD d v).flatMap (preord (w.nodesD d) (w.subD d) k)) := by
  have ih : (fun h => yieldsOf (tVisit w d k h)) = preord (w.nodesD d) (w.subD d) k :=
    funext (yieldsOf_tVisit w d k)
  unfold tFrameSpec
  rw [yieldsOf_append, yieldsOf_append, yieldsOf_tLoop, ih]
  have e0 : yieldsOf (if fr.c = .notStarted then [Out.enter fr.g] else []) = [] := by split <;> rfl
  rw [e0, List.append_nil]
  congr 1
  unfold modeY
  cases fr.mode with
  | loop => rfl
  | last v => simp only [yieldsOf_tAfter, ih]
  | expand v it pend =>
    simp only [yieldsOf_append, yieldsOf_flatMap]
    congr 1
    · exact congrArg (fun f => pend.flatMap f) ih
    · congr 1
      funext e
      exact congrArg (fun f => (e.2.graphsOf d).flatMap f) ih

theorem yieldsOf_tPop (rest : List TFrame) (g : Nat) : yieldsOf (tPop rest g) = [] := by
  unfold tPop; split <;> rfl

theorem fut_nil (w : TWorld) (d : Dir) : w.fut d [] = [] := rfl

theorem fut_cons (w : TWorld) (d : Dir) (fr : TFrame) (st : List TFrame) :
    w.fut d (fr :: st) =
      (modeY (preord (w.nodesD d) (w.subD d) (w.sets.length + 1)) w d fr ++
        (rest (w.setOf fr.g) d fr.c).flatMap
          (fun v => v :: (w.subD d v).flatMap (preord (w.nodesD d) (w.subD d) (w.sets.length + 1)))) ++
      w.fut d st := by
  unfold TWorld.fut
  rw [tStackSpec, yieldsOf_append, yieldsOf_append, yieldsOf_tPop, List.append_nil, yieldsOf_tFrameSpec]

theorem fut_fresh (w : TWorld) (d : Dir) (g0 : Nat) :
    w.fut d (tStart g0) = preord (w.nodesD d) (w.subD d) (w.sets.length + 2) g0 := by
  rw [← yieldsOf_top]
  simp [TWorld.fut, tStart, tStackSpec, tFrameSpec, TFrame.fresh, tPop]

/-! ### an edit of a node sequence leaves the remaining stream unchanged outside `X` -/

theorem closed_of_good {w : TWorld} {d : Dir} {X : List Nat} (hw : TWorldWF w) (hg : w.good d X = true) :
    ∀ k v, v ∈ X → ∀ u ∈ (w.subD d v).flatMap (preord (w.nodesD d) (w.subD d) k), u ∈ X := by
  simp only [TWorld.good, Bool.and_eq_true] at hg
  obtain ⟨ha, hc⟩ := hg
  intro k v hv u hu
  obtain ⟨h, hh, hu⟩ := List.mem_flatMap.1 hu
  obtain ⟨j, _, x, r, hx⟩ := mem_preord (E := fun a b => b ∈ w.kids d a) (mem_kids_iff hw d) k h u hu
  have hb := hgt_reachN ha r
  have hle := thgt_le w d h
  have hm := preord_mem (E := fun a b => b ∈ w.kids d a) (mem_kids_iff hw d) (w.sets.length + 1) j h x u
    (by omega) r hx
  have := List.all_eq_true.1 hc v hv
  have := List.all_eq_true.1 this u (List.mem_flatMap.2 ⟨h, hh, hm⟩)
  simpa using this

theorem applyAt_sets_length (w : TWorld) (g : Nat) (op : Op) : (w.applyAt g op).1.sets.length = w.sets.length := by
  simp [TWorld.applyAt]

theorem subD_applyAt (w : TWorld) (d : Dir) (g : Nat) (op : Op) : (w.applyAt g op).1.subD d = w.subD d := rfl

theorem rest_applyAt {w : TWorld} (hw : TWorldWF w) (d : Dir) (g : Nat) (op : Op) (X : List Nat)
    (hX : ∀ v ∈ touched op, v ∈ X) (g' : Nat) (c : Cursor) (hc : c.Valid (w.setOf g')) :
    untouched X (rest ((w.applyAt g op).1.setOf g') d c) = untouched X (rest (w.setOf g') d c) := by
  by_cases hg : g < w.sets.length
  · by_cases hgg : g' = g
    · subst hgg
      rw [tsetOf_applyAt_same w g' op hg]
      exact untouched_mono hX (untouched_step (hw.setOf g') op d c hc)
    · rw [tsetOf_applyAt_other w g g' op hgg]
  · rw [tapplyAt_oob w g op hg]

/-- **locality of the remaining stream under an edit of a node sequence** -/
theorem fut_local {w : TWorld} {d : Dir} {X : List Nat} (hw : TWorldWF w) (g : Nat) (op : Op)
    (hg : w.good d X = true) (hg' : (w.applyAt g op).1.good d X = true)
    (hX : ∀ v ∈ touched op, v ∈ X) :
    ∀ (st : List TFrame), TStackOK w st →
      untouched X ((w.applyAt g op).1.fut d st) = untouched X (w.fut d st) := by
  have hw' : TWorldWF (w.applyAt g op).1 := (tapplyAt_ok hw (st := []) (fun _ h => by cases h) g op).1
  have hc := closed_of_good hw hg
  have hc' := closed_of_good hw' hg'
  rw [subD_applyAt] at hc'
  have hn : ∀ g', untouched X ((w.applyAt g op).1.nodesD d g') = untouched X (w.nodesD d g') := by
    intro g'
    exact rest_applyAt hw d g op X hX g' .notStarted (hw.setOf g').root_valid
  have hP := preord_local X hn hc hc' (w.sets.length + 1)
  have hPf : (fun h => untouched X (preord ((w.applyAt g op).1.nodesD d) (w.subD d) (w.sets.length + 1) h)) =
      fun h => untouched X (preord (w.nodesD d) (w.subD d) (w.sets.length + 1) h) := funext hP
  intro st
  induction st with
  | nil => intro _; rw [fut_nil, fut_nil]
  | cons fr rest ih =>
    intro ok
    rw [fut_cons, fut_cons, untouched_app, untouched_app, untouched_app, untouched_app,
      ih fun x hx => ok x (List.mem_cons_of_mem _ hx), applyAt_sets_length, subD_applyAt]
    refine congrArg (· ++ _) (congr (congrArg _ ?_) ?_)
    · -- the part that depends on the node yielded last / being expanded
      unfold modeY
      cases fr.mode <;> simp only [untouched_app, untouched_flatMap, dictOf_applyAt, subD_applyAt, hPf]
    · -- the nodes still to be yielded by this frame's own loop
      rw [untouched_blocks X _ (hc' _), untouched_blocks X _ (hc _),
        rest_applyAt hw d g op X hX fr.g fr.c (ok fr List.mem_cons_self).valid]
      simp only [untouched_flatMap, hPf]

/-! ### histories -/

theorem tAdm_good (X : List Nat) (d : Dir) (fuel : Nat) (w : TWorld) (st : List TFrame) (es : List TEv)
    (h : tAdm X d fuel w st es = true) : w.good d X = true := by
  cases es with
  | nil => exact h
  | cons e es =>
    cases e with
    | next => simp only [tAdm, Bool.and_eq_true] at h; exact h.1.1
    | edit g op => simp only [tAdm, Bool.and_eq_true] at h; exact h.1.1
    | setAttr v k a => simp [tAdm] at h
    | delAttr v k => simp [tAdm] at h

/-- **nodes outside `X` are yielded exactly as scheduled**: along an admissible history, the nodes
    yielded so far followed by the nodes still to be yielded, both restricted to the nodes outside
    `X`, is what was to be yielded at the start restricted in the same way -/
theorem trav_untouched (X : List Nat) (d : Dir) (fuel : Nat) : ∀ (es : List TEv) (w : TWorld) (st : List TFrame),
    TWorldWF w → TStackOK w st → (∀ fr ∈ st, fr.synced w = true) → tAdm X d fuel w st es = true →
    TWorldWF (tRunY d fuel w st es).1 ∧ TStackOK (tRunY d fuel w st es).1 (tRunY d fuel w st es).2.1 ∧
    (∀ fr ∈ (tRunY d fuel w st es).2.1, fr.synced (tRunY d fuel w st es).1 = true) ∧
    untouched X ((tRunY d fuel w st es).2.2 ++ (tRunY d fuel w st es).1.fut d (tRunY d fuel w st es).2.1) =
      untouched X (w.fut d st)
  | [], w, st, hw, ok, hs, _ => ⟨hw, ok, hs, rfl⟩
  | .next :: es, w, st, hw, ok, hs, adm => by
      simp only [tAdm, Bool.and_eq_true] at adm
      obtain ⟨⟨hg, hres⟩, adm'⟩ := adm
      have ha : w.acyclic d = true := by
        simp only [TWorld.good, Bool.and_eq_true] at hg; exact hg.1
      have hr : (tNext w d fuel st).2.2 = .stop ∨ ∃ v, (tNext w d fuel st).2.2 = .yield v := by
        cases h : (tNext w d fuel st).2.2 with
        | yield v => exact Or.inr ⟨v, rfl⟩
        | stop => exact Or.inl rfl
        | raised => rw [h] at hres; simp at hres
        | fuel => rw [h] at hres; simp at hres
      have ok' := (tNext_ok (d := d) hw fuel st ok).1
      have hs' := tNext_synced w d fuel st hs
      have split := spec_split hw ha fuel ok hs hr
      obtain ⟨i1, i2, i3, i4⟩ := trav_untouched X d fuel es w (tNext w d fuel st).1 hw ok' hs' adm'
      refine ⟨i1, i2, i3, ?_⟩
      simp only [tRunY]
      rw [List.append_assoc, untouched_app, i4]
      unfold TWorld.fut
      rw [split, yieldsOf_append, untouched_app]
  | .edit g op :: es, w, st, hw, ok, hs, adm => by
      simp only [tAdm, Bool.and_eq_true] at adm
      obtain ⟨⟨hg, hX⟩, adm'⟩ := adm
      have hg' := tAdm_good X d fuel _ st es adm'
      have hX' : ∀ v ∈ touched op, v ∈ X := by
        intro v hv
        have := List.all_eq_true.1 hX v hv
        simpa using this
      obtain ⟨hw', ok'⟩ := tapplyAt_ok hw ok g op
      have hs' : ∀ fr ∈ st, fr.synced (w.applyAt g op).1 = true := by
        intro fr hfr; rw [synced_applyAt]; exact hs fr hfr
      obtain ⟨i1, i2, i3, i4⟩ := trav_untouched X d fuel es (w.applyAt g op).1 st hw' ok' hs' adm'
      refine ⟨i1, i2, i3, ?_⟩
      simp only [tRunY]
      rw [i4]
      exact fut_local hw g op hg hg' hX' st ok
  | .setAttr v k a :: es, w, st, _, _, _, adm => by simp [tAdm] at adm
  | .delAttr v k :: es, w, st, _, _, _, adm => by simp [tAdm] at adm

end IrVerif.LinkedSet
