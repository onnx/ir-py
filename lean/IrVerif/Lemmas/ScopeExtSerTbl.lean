/-
What the tables of a proto written by `serGraphE` return: a lookup in its value_info table (`VInfoSrc`, `serGraphE_vinfo`)
and in its annotation table (`quantOf_roles`: later entries win, hence the hypotheses on equally named roles).
-/
import IrVerif.Lemmas.ScopeExtSer
import IrVerif.Lemmas.ScopeExtRun
import IrVerif.Lemmas.ScopeReplTbl
namespace IrVerif.Scope

/-- metadata of a value with something to say: what its value_info entry carries is read back as `normM` -/
theorem metaOf_of_lookup {vt : List (Name × Info × SS)} {n : Name} {i : Info} {m : SS}
    (h : vt.lookup n = some (i, ssSorted m)) : metaOf vt n = normM m := by
  simp [metaOf, h, normM]

theorem metaOf_of_none {vt : List (Name × Info × SS)} {n : Name} (h : vt.lookup n = none) : metaOf vt n = [] := by
  simp [metaOf, h]

theorem shouldCreateE_false_meta {c : ValueS} {m : SS} (h : shouldCreateE c m = false) (ht : nameTruthy c.name = true) :
    m = [] := by
  simp only [shouldCreateE, presentE, ht, Bool.and_true, Bool.or_eq_false_iff, Bool.not_eq_false'] at h
  simpa using h.2

theorem shouldCreateE_congr {c c' : ValueS} {m m' : SS} (hi : c.info.emit = c'.info.emit) (hm : m = m')
    (hn : c.name = c'.name) : shouldCreateE c m = shouldCreateE c' m' := by
  have hp : c.info.present = c'.info.present := by rw [← present_emit, hi, present_emit]
  simp only [shouldCreateE, presentE, hp, hm, hn]

theorem shouldCreateE_false_present {c : ValueS} {m : SS} (h : shouldCreateE c m = false)
    (ht : nameTruthy c.name = true) : c.info.present = false := by
  simp only [shouldCreateE, presentE, ht, Bool.and_true, Bool.or_eq_false_iff] at h
  exact h.1

/-- every entry of the value_info list `LE` under the name of `v` was written for a value that serializes like `v`
    (`v` itself in a graph; in a function also an equally named input, which the certificate makes agree with it) -/
def VInfoSrc (V : Nat → ValueS) (x : Ext) (LE : List VInfoE) (v : Nat) : Prop :=
  ∀ e ∈ LE, e.name = nm V v → ∃ u, e = viOfE V x u ∧ shouldCreateE (V u) (x.vmeta u) = true ∧
    (V u).name = (V v).name ∧ (V u).info.emit = (V v).info.emit ∧ x.vmeta u = x.vmeta v

namespace VInfoSrc
variable {V : Nat → ValueS} {x : Ext} {LE : List VInfoE} {v : Nat}

theorem of_self (h : ∀ e ∈ LE, e.name = nm V v → e = viOfE V x v ∧ shouldCreateE (V v) (x.vmeta v) = true) :
    VInfoSrc V x LE v := fun e he hn => ⟨v, (h e he hn).1, (h e he hn).2, rfl, rfl, rfl⟩

theorem lookup_some (h : VInfoSrc V x LE v) (hex : ∃ e ∈ LE, e.name = nm V v) :
    (vinfoTableE LE).lookup (nm V v) = some ((V v).info.emit, ssSorted (x.vmeta v)) :=
  vinfoTableE_lookup_some LE _ _ _
    (fun e he hn => by
      obtain ⟨u, rfl, _, _, hi, hm⟩ := h e he hn
      exact ⟨hi, by simp only [viOfE, hm]⟩)
    hex

theorem lookup_none (h : VInfoSrc V x LE v) (hsc : shouldCreateE (V v) (x.vmeta v) = false) :
    (vinfoTableE LE).lookup (nm V v) = none :=
  vinfoTableE_lookup_none LE _ (fun e he hn => by
    obtain ⟨u, _, hscu, hname, hi, hm⟩ := h e he hn
    rw [shouldCreateE_congr hi hm hname, hsc] at hscu
    cases hscu)

theorem meta_cases (h : VInfoSrc V x LE v) :
    metaOf (vinfoTableE LE) (nm V v) = [] ∨ metaOf (vinfoTableE LE) (nm V v) = normM (x.vmeta v) := by
  by_cases hex : ∃ e ∈ LE, e.name = nm V v
  · exact .inr (metaOf_of_lookup (h.lookup_some hex))
  · exact .inl (metaOf_of_none (vinfoTableE_lookup_none LE _ (fun e he hn => hex ⟨e, he, hn⟩)))

theorem read_back (h : VInfoSrc V x LE v) (ht : nameTruthy (V v).name = true)
    (hent : shouldCreateE (V v) (x.vmeta v) = true → viOfE V x v ∈ LE) :
    metaOf (vinfoTableE LE) (nm V v) = normM (x.vmeta v) ∧
    declInfo (eraseVT (vinfoTableE LE)) (nm V v) = (V v).info.emit := by
  cases hsc : shouldCreateE (V v) (x.vmeta v) with
  | true =>
    have hl := h.lookup_some ⟨_, hent hsc, rfl⟩
    refine ⟨metaOf_of_lookup hl, ?_⟩
    simp only [declInfo, eraseVT_lookup, hl, Option.map_some]
  | false =>
    have hl := h.lookup_none hsc
    refine ⟨by rw [metaOf_of_none hl, shouldCreateE_false_meta hsc ht, normM_nil], ?_⟩
    simp only [declInfo, eraseVT_lookup, hl, Option.map_none]
    exact (emit_of_not_present (shouldCreateE_false_present hsc ht)).symm

end VInfoSrc


theorem mem_qcRoles {V : Nat → ValueS} {ins : List Nat} {inits : List (Name × Nat)} {nodes : List NodeT} {outs : List Nat}
    {v : Nat} : v ∈ qcRoles V ins inits nodes outs ↔ v ∈ ins ∨ v ∈ inits.map (·.2) ∨
      (v ∈ nodes.flatMap (liveOuts V) ∧ nameTruthy (V v).name = true) ∨ v ∈ outs := by
  simp only [qcRoles, List.mem_append, List.mem_filter, or_assoc]

/-- later entries win in `quantTable`: hence `hQC` (equally named roles, equal annotations) and `hquiet` -/
theorem GraphSerE.quantOf_roles {V : Nat → ValueS} {x : Ext} {td : TData} {ver : Option Int} {ins : List Nat}
    {inits : List (Name × Nat)} {nodes : List NodeT} {outs : List Nat} {qIn : List QuantP} {seen1 : List Nat}
    {qInit : List QuantP} {seen2 : List Nat} {nps : List NodeE} {qNodes : List QuantP} {vis2 : List VInfoE} {ws2 : Writes}
    {qOut : List QuantP} {seen3 : List Nat}
    (r : GraphSerE V x td ver ins inits nodes outs qIn seen1 qInit seen2 nps qNodes vis2 ws2 qOut seen3) (hwf : ExtWF x)
    (hQC : ∀ a ∈ qcRoles V ins inits nodes outs, ∀ b ∈ qcRoles V ins inits nodes outs,
      (V a).name = (V b).name → x.quant a = x.quant b)
    (hquiet : ∀ n ∈ nodes, ∀ v ∈ n.outputs, nameTruthy (V v).name = false → x.quant v = none)
    (hnames : ∀ v ∈ qcRoles V ins inits nodes outs, (V v).name ≠ none)
    (hinit : ∀ kv ∈ inits, (V kv.2).name = some kv.1) :
    ∀ v ∈ qcRoles V ins inits nodes outs,
      quantOf (quantTable (qIn ++ qInit ++ qNodes ++ qOut)) (nm V v) = normQ (x.quant v) := by
  have hq1 := r.qins
  have hq2 := r.qinits
  have hn := r.nodesE
  have hq3 := r.qouts
  obtain ⟨a1, b1, c1⟩ := quantInputsE_mem V x _ _ _ _ _ hq1
  obtain ⟨a2, b2, c2⟩ := quantOnceE_mem V x _ _ _ _ hq2
  obtain ⟨a3, b3⟩ := xserNodes_qmem V x td ver outs nodes nps qNodes vis2 ws2 hn
  obtain ⟨a4, b4, c4⟩ := quantOnceE_mem V x _ _ _ _ hq3
  have hnodeRole : ∀ n ∈ nodes, ∀ u ∈ n.outputs, x.quant u ≠ none → u ∈ qcRoles V ins inits nodes outs := by
    intro n hn' u hu hq
    have ht : nameTruthy (V u).name = true := by
      cases h : nameTruthy (V u).name with
      | true => rfl
      | false => exact absurd (hquiet n hn' u hu h) hq
    refine mem_qcRoles.mpr (.inr (.inr (.inl ⟨List.mem_flatMap.mpr ⟨n, hn', ?_⟩, ht⟩)))
    obtain ⟨i, g, a, b, c⟩ := n
    exact truthy_mem_stripTrailing V u b hu ht
  -- soundness: every entry is the entry of a role
  have hsound : ∀ e ∈ qIn ++ qInit ++ qNodes ++ qOut, ∃ u ∈ qcRoles V ins inits nodes outs, QEnt V x u e := by
    intro e he
    simp only [List.mem_append] at he
    rcases he with ((he | he) | he) | he
    · obtain ⟨u, hu, h⟩ := a1 e he
      exact ⟨u, mem_qcRoles.mpr (.inl hu), h⟩
    · obtain ⟨u, hu, h⟩ := a2 e he
      exact ⟨u, mem_qcRoles.mpr (.inr (.inl hu)), h⟩
    · obtain ⟨n, hn', u, hu, h⟩ := a3 e he
      obtain ⟨ps, hp, _⟩ := h
      exact ⟨u, hnodeRole n hn' u hu (by rw [hp]; simp), ⟨ps, hp, by assumption⟩⟩
    · obtain ⟨u, hu, h⟩ := a4 e he
      exact ⟨u, mem_qcRoles.mpr (.inr (.inr (.inr hu))), h⟩
  -- completeness: an annotated role has an entry under its name
  have hcomplete : ∀ v ∈ qcRoles V ins inits nodes outs, ∀ ps, x.quant v = some ps →
      ∃ e ∈ qIn ++ qInit ++ qNodes ++ qOut, e.name = nm V v := by
    intro v hv ps hps
    obtain ⟨n, hnv⟩ : ∃ n, (V v).name = some n := by
      cases h : (V v).name with
      | none => exact absurd h (hnames v hv)
      | some n => exact ⟨n, rfl⟩
    have hne : ps.isEmpty = false := by
      have := ((hwf v).2 ps hps).2
      cases ps with
      | nil => exact absurd rfl this
      | cons _ _ => rfl
    have hent : QEnt V x v ⟨n, ssSorted ps⟩ := ⟨ps, hps, hne, hnv, rfl⟩
    have hnm : nm V v = n := nm_of_name hnv
    have hseen1 : ∀ u, u ∈ seen1 → ∀ e, QEnt V x u e → e ∈ qIn := by
      intro u hu e he
      rcases (c1 u).mp hu with h | ⟨h1, h2⟩
      · simp at h
      · rcases b1 u h1 with h | h | h
        · rw [h2] at h; cases h
        · simp at h
        · exact h e he
    have hseen2 : ∀ u, u ∈ seen2 → ∀ e, QEnt V x u e → e ∈ qIn ++ qInit := by
      intro u hu e he
      rcases (c2 u).mp hu with h | h
      · exact List.mem_append.mpr (.inl (hseen1 u h e he))
      · rcases b2 u h with h' | h'
        · exact List.mem_append.mpr (.inl (hseen1 u h' e he))
        · exact List.mem_append.mpr (.inr (h' e he))
    have hinitv : ∀ u ∈ inits.map (·.2), ∀ e, QEnt V x u e → e ∈ qIn ++ qInit := by
      intro u hu e he
      rcases b2 u hu with h' | h'
      · exact List.mem_append.mpr (.inl (hseen1 u h' e he))
      · exact List.mem_append.mpr (.inr (h' e he))
    have hsub : ∀ e ∈ qIn ++ qInit, e ∈ qIn ++ qInit ++ qNodes ++ qOut := fun e he =>
      List.mem_append_left _ (List.mem_append_left _ he)
    have houtv : ∀ u ∈ outs, ∀ e, QEnt V x u e → e ∈ qIn ++ qInit ++ qNodes ++ qOut := by
      intro u hu e he
      rcases b4 u hu with h' | h'
      · exact hsub e (hseen2 u h' e he)
      · exact List.mem_append.mpr (.inr (h' e he))
    rcases mem_qcRoles.mp hv with hvi | hvi | hvi | hvi
    · -- a graph input
      by_cases hsk : skipIn V (inits.map (·.1)) v = true
      · -- its name is an initializer key: the initializer value carries the same annotation
        simp only [skipIn, hnv, List.contains_eq_mem, decide_eq_true_eq, List.mem_map] at hsk
        obtain ⟨kv, hkv, hk⟩ := hsk
        have hname : (V kv.2).name = (V v).name := by rw [hinit kv hkv, hnv, hk]
        have hrole : kv.2 ∈ qcRoles V ins inits nodes outs := mem_qcRoles.mpr (.inr (.inl (List.mem_map_of_mem hkv)))
        have hq := hQC kv.2 hrole v hv hname
        have hent' : QEnt V x kv.2 ⟨n, ssSorted ps⟩ := ⟨ps, by rw [hq, hps], hne, by rw [hname, hnv], rfl⟩
        exact ⟨⟨n, ssSorted ps⟩, hsub _ (hinitv kv.2 (List.mem_map_of_mem hkv) _ hent'), hnm.symm⟩
      · rcases b1 v hvi with h | h | h
        · exact absurd h hsk
        · simp at h
        · exact ⟨⟨n, ssSorted ps⟩, by
            simp only [List.mem_append]; exact .inl (.inl (.inl (h _ hent))), hnm.symm⟩
    · exact ⟨⟨n, ssSorted ps⟩, hsub _ (hinitv v hvi _ hent), hnm.symm⟩
    · obtain ⟨m, hm, hvm⟩ := List.mem_flatMap.mp hvi.1
      by_cases hvo : v ∈ outs
      · exact ⟨⟨n, ssSorted ps⟩, houtv v hvo _ hent, hnm.symm⟩
      · obtain ⟨i, g, a, b, c⟩ := m
        have := b3 _ hm v (stripTrailing_sub V b v hvm) hvo _ hent
        exact ⟨⟨n, ssSorted ps⟩, by
          simp only [List.mem_append]; exact .inl (.inr this), hnm.symm⟩
    · exact ⟨⟨n, ssSorted ps⟩, houtv v hvi _ hent, hnm.symm⟩
  intro v hv
  obtain ⟨n, hnv⟩ : ∃ n, (V v).name = some n := by
    cases h : (V v).name with
    | none => exact absurd h (hnames v hv)
    | some n => exact ⟨n, rfl⟩
  have hnm : nm V v = n := nm_of_name hnv
  have hall : ∀ e ∈ qIn ++ qInit ++ qNodes ++ qOut, e.name = nm V v →
      ∃ ps, x.quant v = some ps ∧ e.params = ssSorted ps := by
    intro e he hen
    obtain ⟨u, hu, ps, hp, _, hun, hpar⟩ := hsound e he
    have : (V u).name = (V v).name := by rw [hun, hen, hnm, hnv]
    exact ⟨ps, by rw [← hQC u hu v hv this]; exact hp, hpar⟩
  cases hq : x.quant v with
  | none =>
    have hnone : (quantTable (qIn ++ qInit ++ qNodes ++ qOut)).lookup (nm V v) = none :=
      quantTable_lookup_none _ _ (fun e he hen => by
        obtain ⟨ps, hp, _⟩ := hall e he hen
        rw [hq] at hp; cases hp)
    simp only [quantOf, hnone]
    rfl
  | some ps =>
    have hne : ps ≠ [] := ((hwf v).2 ps hq).2
    have hsome : (quantTable (qIn ++ qInit ++ qNodes ++ qOut)).lookup (nm V v) = some (ssSorted ps) :=
      quantTable_lookup_some _ _ _ (fun e he hen => by
        obtain ⟨ps', hp, hpar⟩ := hall e he hen
        rw [hq] at hp
        simp only [Option.some.injEq] at hp
        rw [hpar, hp]) (hcomplete v hv ps hq)
    simp only [quantOf, hsome]
    exact normQ_of_quantOf hne

/-- the entries (`LE`: initializer loop, then node loop) were written for the graph's own initializer values and its named
    node outputs that are no graph outputs, one entry per name the scope binds (`hsrc`); so metadata and information are
    read back (`hback`; `hinfoI`: an initializer's information is completed from its tensor) -/
theorem serGraphE_vinfo (V : Nat → ValueS) (x : Ext) (td : TData) (ver : Option Int) (ins : List Nat)
    (inits : List (Name × Nat)) (nodes : List NodeT) (outs : List Nat) (outer : List Table) (nps : List NodeE)
    (qNodes : List QuantP) (vis2 : List VInfoE) (ws2 : Writes) (ri rd rn : RR) (LE : List VInfoE)
    (hri : replInits V outs (tblIns V ins) inits = ri) (hrd : replDecl V ri.tbl (nodes.flatMap (liveOuts V)) = rd)
    (hrn : replNs V outer rd.tbl nodes = rn)
    (hLdef : (serInitsE V x td (ins.map fun v => (V v).name) inits).1 ++ vis2 = LE)
    (hn : serNodesE V x td ver true outs nodes = .ok (nps, qNodes, vis2, ws2))
    (okI : ri.ok) (hkn : (inits.map (·.1)).Nodup) (okD : rd.ok) (hdisjI : ∀ a ∈ ins, ∀ b ∈ ri.new, a ≠ b) :
    (∀ v, rn.tbl.lookup (nm V v) = some v → VInfoSrc V x LE v) ∧
    (∀ v, v ∈ ri.new ∨ (v ∈ rd.new ∧ v ∉ outs) →
      metaOf (vinfoTableE LE) (nm V v) = normM (x.vmeta v) ∧
      declInfo (eraseVT (vinfoTableE LE)) (nm V v) = (V v).info.emit) ∧
    (∀ kv ∈ inits, kv.2 ∈ ri.new → kv.2 ∉ outs →
      initInfo (eraseVT (vinfoTableE LE)) kv.1 (mkT V td kv) = (V kv.2).info.emit) := by
  have okI' : (replInits V outs (tblIns V ins) inits).ok := by rw [hri]; exact okI
  have hbase := replInits_base V outs inits _ okI'
  have hcases := replInits_cases V outs inits _ okI' hkn
  rw [hri] at hcases
  have okD' : (replDecl V ri.tbl (nodes.flatMap (liveOuts V))).ok := by rw [hrd]; exact okD
  obtain ⟨hdnew, _, hdlook⟩ := replDecl_new V _ _ okD'
  rw [hrd] at hdnew hdlook
  have hvis1 := mem_xserInits_vi V x td (ins.map fun v => (V v).name)
  have hvis2 := mem_xserNodes_vi_live hn
  have hnewI : ∀ v ∈ ri.new, ∃ kv ∈ inits, kv.2 = v := fun v hv =>
    List.mem_map.mp (replInits_new_sub V outs inits (tblIns V ins) v (by rw [hri]; exact hv))
  -- the scope after the definition phases binds every new definition under its name
  have hT3 : ∀ v, v ∈ ri.new ∨ v ∈ rd.new → rd.tbl.lookup (nm V v) = some v := by
    intro v hv
    rcases hv with hv | hv
    · obtain ⟨kv, hkv, rfl⟩ := hnewI v hv
      rcases hcases kv hkv with ⟨_, _, h3, _⟩ | h
      · rw [nm_of_name (hbase kv hkv).1, ← hrd]
        exact replDecl_mono V _ _ okD' _ _ h3
      · exact absurd rfl (hdisjI kv.2 (tblIns_lookup_some V ins _ _ h).1 kv.2 hv)
    · exact hdlook v hv
  have hT3n : ∀ v, v ∈ ri.new ∨ v ∈ rd.new → rn.tbl.lookup (nm V v) = some v := fun v hv => by
    rw [← hrn]; exact replNs_lookup_mono V outer nodes rd.tbl _ _ (hT3 v hv)
  have htruthy : ∀ v, v ∈ ri.new ∨ v ∈ rd.new → nameTruthy (V v).name = true := by
    intro v hv
    rcases hv with hv | hv
    · obtain ⟨kv, hkv, rfl⟩ := hnewI v hv
      simp [nameTruthy, (hbase kv hkv).1, (hbase kv hkv).2.1]
    · rw [hdnew, List.mem_filter] at hv; exact hv.2
  -- every value_info entry was written for a new definition that has something to say
  have hLE : ∀ e ∈ LE, ∃ u, (u ∈ ri.new ∨ (u ∈ rd.new ∧ u ∉ outs)) ∧ e = viOfE V x u ∧
      shouldCreateE (V u) (x.vmeta u) = true := by
    intro e he
    rw [← hLdef, List.mem_append] at he
    rcases he with he | he
    · rw [hvis1] at he
      obtain ⟨kv', hkv', hsc, hnin, rfl⟩ := he
      refine ⟨kv'.2, .inl ?_, rfl, hsc⟩
      rcases hcases kv' hkv' with ⟨h1, _⟩ | h
      · exact h1
      · exfalso
        apply hnin
        obtain ⟨hm, hnm⟩ := tblIns_lookup_some V ins _ _ h
        exact List.mem_map.mpr ⟨kv'.2, hm, rfl⟩
    · obtain ⟨u, hu, hugo, hsc, rfl⟩ := (hvis2 e).mp he
      exact ⟨u, .inr ⟨hdnew ▸ hu, hugo⟩, rfl, hsc⟩
  have hsrc : ∀ v, rn.tbl.lookup (nm V v) = some v → VInfoSrc V x LE v := by
    intro v hv
    refine .of_self fun e he hname => ?_
    obtain ⟨u, hu, rfl, hsc⟩ := hLE e he
    have h1 := hT3n u (hu.imp id And.left)
    have hname' : nm V u = nm V v := hname
    rw [hname', hv] at h1
    have : v = u := Option.some.inj h1
    subst this
    exact ⟨rfl, hsc⟩
  have hentry : ∀ v, v ∈ ri.new ∨ (v ∈ rd.new ∧ v ∉ outs) → shouldCreateE (V v) (x.vmeta v) = true →
      viOfE V x v ∈ LE := by
    intro v hv hsc
    rw [← hLdef, List.mem_append]
    rcases hv with hv | ⟨hv, hvo⟩
    · left
      obtain ⟨kv, hkv, rfl⟩ := hnewI v hv
      rw [hvis1]
      refine ⟨kv, hkv, hsc, ?_, rfl⟩
      rcases hcases kv hkv with ⟨_, hln, _, _⟩ | h
      · intro hm
        simp only [List.mem_map] at hm
        obtain ⟨u, hu0, hname⟩ := hm
        have : nm V u = kv.1 := by simp [nm, hname, (hbase kv hkv).1]
        exact tblIns_lookup_none V ins _ hln u hu0 this
      · exact absurd rfl (hdisjI kv.2 (tblIns_lookup_some V ins _ _ h).1 kv.2 hv)
    · exact .inr ((hvis2 _).mpr ⟨v, hdnew ▸ hv, hvo, hsc, rfl⟩)
  have hback : ∀ v, v ∈ ri.new ∨ (v ∈ rd.new ∧ v ∉ outs) →
      metaOf (vinfoTableE LE) (nm V v) = normM (x.vmeta v) ∧
      declInfo (eraseVT (vinfoTableE LE)) (nm V v) = (V v).info.emit := fun v hv =>
    (hsrc v (hT3n v (hv.imp id And.left))).read_back (htruthy v (hv.imp id And.left)) (hentry v hv)
  have hinfoI : ∀ kv ∈ inits, kv.2 ∈ ri.new → kv.2 ∉ outs →
      initInfo (eraseVT (vinfoTableE LE)) kv.1 (mkT V td kv) = (V kv.2).info.emit := by
    intro kv hkv hvni hvo
    rcases hcases kv hkv with ⟨_, _, _, hinfo⟩ | h
    · obtain ⟨hty, hsh⟩ := hinfo hvo
      have hscE : shouldCreateE (V kv.2) (x.vmeta kv.2) = true := by
        simp only [shouldCreateE, presentE, Info.present, Bool.and_eq_true, Bool.or_eq_true]
        exact ⟨.inl (.inl (by simpa [Option.isSome_iff_ne_none] using hty)), htruthy kv.2 (.inl hvni)⟩
      have hlook : (eraseVT (vinfoTableE LE)).lookup kv.1 = some (V kv.2).info.emit := by
        rw [eraseVT_lookup, ← nm_of_name (hbase kv hkv).1,
          (hsrc kv.2 (hT3n kv.2 (.inl hvni))).lookup_some ⟨_, hentry kv.2 (.inl hvni) hscE, rfl⟩]
        rfl
      simp only [initInfo, hlook]
      exact emit_orTensor hty hsh
    · exact absurd rfl (hdisjI kv.2 (tblIns_lookup_some V ins _ _ h).1 kv.2 hvni)
  exact ⟨hsrc, hback, hinfoI⟩

end IrVerif.Scope
