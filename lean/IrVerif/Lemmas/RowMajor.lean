/-
The row-major order of a shape, independent of any memory layout: all multi-indices in order
(`indices`), the multi-index of the `k`-th element (`unravel`), and that the two agree.  The
specification side of the strided-memory theorems and of `ir.tensor` on nested Python data.
-/
import IrVerif.Model.TensorRepr
import IrVerif.Lemmas.ListFacts
namespace IrVerif.Strided
open IrVerif.TensorRepr

/-- all multi-indices of an array of the given shape, in lexicographic = row-major order -/
def indices : List Nat → List (List Nat)
  | [] => [[]]
  | n :: ns => (List.range n).flatMap (fun i => (indices ns).map (i :: ·))

/-- the multi-index of the `k`-th element in row-major order (`np.unravel_index`) -/
def unravel : List Nat → Nat → List Nat
  | [], _ => []
  | _ :: ns, k => (k / prod ns) :: unravel ns (k % prod ns)

theorem indices_length (shape : List Nat) : (indices shape).length = prod shape := by
  induction shape with
  | nil => rfl
  | cons n ns ih =>
    simp only [indices]
    rw [ListFacts.length_flatMap_range n (prod ns)]
    · rfl
    · intro i; simp [ih]

theorem indices_getElem (shape : List Nat) : ∀ k, k < prod shape → (indices shape)[k]? = some (unravel shape k) := by
  induction shape with
  | nil => intro k hk; have : k = 0 := by simp [prod] at hk; omega
           subst this; rfl
  | cons n ns ih =>
    intro k hk
    have hk' : k < n * prod ns := hk
    simp only [indices]
    rw [ListFacts.getElem?_flatMap_range _ (prod ns) (by intro i; simp [indices_length]) n k hk']
    have hP : 0 < prod ns := by
      cases h : prod ns with
      | zero => rw [h] at hk'; simp at hk'
      | succ m => omega
    rw [List.getElem?_map, ih (k % prod ns) (Nat.mod_lt _ hP)]
    rfl

end IrVerif.Strided
