/-
C15 part B: the bridge from the pre-pass (`collectTr`) to the reserved-name hypothesis of the invariant, and one
`_fix_graph_names` call without the scoping rule (`fixTop_recOrd`): it never raises, and every list of recorded values
satisfies the postcondition.
-/
import IrVerif.Lemmas.NamesRec
namespace IrVerif.Names

/-! ### the pre-pass reserves every name the call can meet -/

theorem mem_truthyNames {f : Nat → Option String} {ids : List Nat} {s : String} :
    s ∈ truthyNames f ids ↔ ∃ i ∈ ids, f i = some s ∧ s ≠ "" := by
  simp only [truthyNames, List.mem_filterMap]
  constructor
  · rintro ⟨i, hi, h⟩
    split at h
    · rename_i ht
      obtain ⟨s', hs', hne⟩ := truthy_iff.mp ht
      rw [hs'] at h; cases h
      exact ⟨i, hi, hs', hne⟩
    · cases h
  · rintro ⟨i, hi, hs, hne⟩
    exact ⟨i, hi, by rw [if_pos (truthy_iff.mpr ⟨s, hs, hne⟩), hs]⟩

theorem collectTr_mono (w : World) : ∀ (t : Tr) (acc : List String × List String),
    (∀ s ∈ acc.1, s ∈ (collectTr w t acc).1) ∧ (∀ s ∈ acc.2, s ∈ (collectTr w t acc).2) := by
  intro t
  induction t with
  | nil => intro acc; exact ⟨fun _ h => h, fun _ h => h⟩
  | node n ins outs subs rest ihs ihr =>
    intro acc
    simp only [collectTr]
    constructor
    · intro s hs
      exact (ihr _).1 s ((ihs _).1 s (List.mem_append_right _ hs))
    · intro s hs
      exact (ihr _).2 s ((ihs _).2 s (List.mem_append_right _ hs))
  | graph g isG ins outs body rest ihb ihr =>
    intro acc
    simp only [collectTr]
    constructor
    · intro s hs
      exact (ihr _).1 s ((ihb _).1 s (List.mem_append_right _ hs))
    · intro s hs
      exact (ihr _).2 s ((ihb _).2 s hs)

/-- every truthy name of a value mentioned under `t`, of an initializer of a `Graph` under `t`,
and of a node under `t` is collected -/
theorem collectTr_complete (w : World) : ∀ (t : Tr) (acc : List String × List String),
    (∀ v ∈ mentioned t, ∀ s, w.vname v = some s → s ≠ "" → s ∈ (collectTr w t acc).1)
    ∧ (∀ g ∈ graphsOf t, ∀ e ∈ w.dicts g, ∀ s, w.vname e.2 = some s → s ≠ "" → s ∈ (collectTr w t acc).1)
    ∧ (∀ n ∈ allNodes t, ∀ s, w.nname n = some s → s ≠ "" → s ∈ (collectTr w t acc).2) := by
  intro t
  induction t with
  | nil => intro acc; simp [mentioned, graphsOf, allNodes]
  | node n ins outs subs rest ihs ihr =>
    intro acc
    simp only [collectTr, mentioned, graphsOf, allNodes, List.mem_append, List.mem_cons]
    refine ⟨?_, ?_, ?_⟩
    · rintro v (hv | hv | hv) s hs hne
      · apply (collectTr_mono w rest _).1
        apply (collectTr_mono w subs _).1
        exact List.mem_append_left _ (mem_truthyNames.mpr ⟨v, hv, hs, hne⟩)
      · exact (collectTr_mono w rest _).1 _ ((ihs _).1 v hv s hs hne)
      · exact (ihr _).1 v hv s hs hne
    · rintro g (hg | hg) e he s hs hne
      · exact (collectTr_mono w rest _).1 _ ((ihs _).2.1 g hg e he s hs hne)
      · exact (ihr _).2.1 g hg e he s hs hne
    · rintro m (rfl | hm | hm) s hs hne
      · apply (collectTr_mono w rest _).2
        apply (collectTr_mono w subs _).2
        exact List.mem_append_left _ (mem_truthyNames.mpr ⟨m, by simp, hs, hne⟩)
      · exact (collectTr_mono w rest _).2 _ ((ihs _).2.2 m hm s hs hne)
      · exact (ihr _).2.2 m hm s hs hne
  | graph g isG ins outs body rest ihb ihr =>
    intro acc
    simp only [collectTr, mentioned, graphsOf, allNodes, List.mem_append]
    refine ⟨?_, ?_, ?_⟩
    · rintro v ((hv | hv) | hv | hv) s hs hne
      · apply (collectTr_mono w rest _).1
        apply (collectTr_mono w body _).1
        exact List.mem_append_left _ (mem_truthyNames.mpr ⟨v, by simp [hv], hs, hne⟩)
      · apply (collectTr_mono w rest _).1
        apply (collectTr_mono w body _).1
        exact List.mem_append_left _ (mem_truthyNames.mpr ⟨v, by simp [hv], hs, hne⟩)
      · exact (collectTr_mono w rest _).1 _ ((ihb _).1 v hv s hs hne)
      · exact (ihr _).1 v hv s hs hne
    · rintro g' (hg | hg | hg) e he s hs hne
      · cases isG with
        | false => simp at hg
        | true =>
          simp only [if_true, List.mem_singleton] at hg
          subst hg
          apply (collectTr_mono w rest _).1
          apply (collectTr_mono w body _).1
          refine List.mem_append_left _ (mem_truthyNames.mpr ⟨e.2, ?_, hs, hne⟩)
          simp only [if_true, List.mem_append, List.mem_map]
          exact Or.inr ⟨e, he, rfl⟩
      · exact (collectTr_mono w rest _).1 _ ((ihb _).2.1 g' hg e he s hs hne)
      · exact (ihr _).2.1 g' hg e he s hs hne
    · rintro m (hm | hm) s hs hne
      · exact (collectTr_mono w rest _).2 _ ((ihb _).2.2 m hm s hs hne)
      · exact (ihr _).2.2 m hm s hs hne


/-! ### one `_fix_graph_names` call -/

/-- every initializer mentioned under the top-level graph / function belongs to a `Graph` under it
(initializers are not shared between the main graph and functions) -/
def Closed (io : Nat → Option Nat) (t : Top) : Prop :=
  ∀ v ∈ mentioned t.tr, ∀ g, io v = some g → g ∈ graphsOf t.tr

def topCfg (w : World) (t : Top) : Cfg :=
  { orig := w.vname
    C := TopC w.initOf t
    io := w.initOf
    resV := (collectTr w t.tr ([], [])).1 }

theorem topCfg_OK {w : World} {t : Top} (hok : InitsOk w) (hcl : Closed w.initOf t) : (topCfg w t).OK := by
  constructor
  · intro u s hC hs hne
    rcases hC with hm | ⟨g, hg, hio⟩
    · exact (collectTr_complete w t.tr ([], [])).1 u hm s hs hne
    · obtain ⟨k, hk⟩ := hok.complete u g hio
      exact (collectTr_complete w t.tr ([], [])).2.1 g hg (k, u) hk s hs hne
  · intro v g u hC hv hu
    have hg : g ∈ graphsOf t.tr := by
      rcases hC with hm | ⟨g', hg', hio⟩
      · exact hcl v hm g hv
      · have : g' = g := Option.some.inj (hio.symm.trans hv)
        exact this ▸ hg'
    exact Or.inr ⟨g, hg, hu⟩
  · intro g u v hu hv e
    obtain ⟨ku, hku⟩ := hok.complete u g hu
    obtain ⟨kv, hkv⟩ := hok.complete v g hv
    have e1 := (hok.key_name g ku u hku).1
    have e2 := (hok.key_name g kv v hkv).1
    have : ku = kv := by
      have : w.vname u = w.vname v := e
      rw [e1, e2] at this
      exact Option.some.inj this
    subst this
    exact ListFacts.keys_unique (hok.keys_nodup g) hku hkv

theorem topCfg_HC (w : World) (t : Top) : HC (topCfg w t) t.tr :=
  ⟨fun _ hv => Or.inl hv, fun g hg _ hu => Or.inr ⟨g, hg, hu⟩⟩

/-- the state `_fix_graph_names` starts from -/
def topInit (w : World) (t : Top) : FixSt :=
  { toWorld := w, resV := (collectTr w t.tr ([], [])).1, resN := (collectTr w t.tr ([], [])).2 }

theorem fixTop_eq (w : World) (t : Top) :
    fixTop w t = exitGraph (runTr t.body (enterGraph (topInit w t) t.gid t.isGraph t.ins t.outs (bodyOuts t.body))) := rfl

theorem topInit_TInv {w : World} (t : Top) (hok : InitsOk w) : TInv (topCfg w t) (topInit w t) :=
  ⟨rfl, hok, rfl, rfl, fun _ => Or.inl rfl, fun _ _ => rfl, fun _ _ => rfl⟩

/-- one `_fix_graph_names` call, **no scoping hypothesis**: the invariant at the end, the postcondition on every list of
recorded values, and what was seen.  `iv` (the initializers per graph) is a parameter because the setter re-keys a
dictionary by erase + append: after a call `inits g` is a permutation, and a second run is stated with the first lists -/
theorem fixTop_recOrd {w : World} {t : Top} (hok : InitsOk w) (hcl : Closed w.initOf t)
    (iv : Nat → List Nat) (hiv : ∀ g u, u ∈ iv g ↔ w.initOf u = some g) :
    TInv (topCfg w t) (fixTop w t)
    ∧ (∀ L ∈ recScopes iv t.tr [] [], ScopeOK (topCfg w t) (fixTop w t) L)
    ∧ ∀ x, x ∈ (fixTop w t).seen ↔ x ∈ seenAfter iv t.tr [] := by
  have hc := topCfg_OK hok hcl
  obtain ⟨hC1, hC2, hCb, _⟩ := (topCfg_HC w t).graph
  have good0 : Good (topCfg w t) (topInit w t) [] :=
    { inj := fun a ha => by simp at ha, seen := fun u hu => by simp at hu
      first := FirstB.nil _ _
      top_iff := fun s => by simp [topInit, topOf] }
  obtain ⟨l1, _⟩ := enterGraph_rec hc iv hiv (topInit_TInv t hok) good0 (S := []) (fun x => by simp [topInit])
    t.gid t.isGraph t.ins t.outs (bodyOuts t.body) hC1 hC2
  obtain ⟨l2, _, s2⟩ := runTr_rec hc iv hiv t.body l1.inv l1.good l1.seenEq hCb
  obtain ⟨e3, _⟩ := exitGraph_VEq l2.inv.nr
  rw [fixTop_eq]
  refine ⟨l2.inv.of_VEq e3, ?_, fun x => by rw [e3.seen]; exact l2.seenEq x⟩
  intro L hL
  simp only [Top.tr, recScopes, List.append_nil, List.mem_cons] at hL
  rcases hL with rfl | hL
  · exact l2.good.toScopeOK.of_VEq e3
  · exact (s2 L hL).of_VEq e3

/-- **no exception**, whatever the scoping -/
theorem fixTop_TInv {w : World} {t : Top} (hok : InitsOk w) (hcl : Closed w.initOf t) :
    TInv (topCfg w t) (fixTop w t) :=
  (fixTop_recOrd hok hcl w.inits (fun g u => hok.mem_iff g u)).1

theorem closedB_iff (io : Nat → Option Nat) (t : Top) : closedB io t = true ↔ Closed io t := by
  simp only [closedB, List.all_eq_true, Closed]
  constructor
  · intro h v hv g hg
    have := h v hv
    rw [hg] at this
    simpa using this
  · intro h v hv
    cases hg : io v with
    | none => rfl
    | some g => simpa using h v hv g hg

end IrVerif.Names
