/-
Kernel: the initializer mapping and value names.
-/
import IrVerif.Lemmas.KernelOwn
import IrVerif.Lemmas.ListFacts
namespace IrVerif.Kernel

theorem mem_dictDel (l : List (String × Nat)) (k k' : String) (u : Nat) :
    (k', u) ∈ dictDel l k ↔ k' ≠ k ∧ (k', u) ∈ l := by
  simp [dictDel, List.mem_filter, and_comm]

theorem keys_dictDel (l : List (String × Nat)) (k : String) (h : (l.map Prod.fst).Nodup) :
    ((dictDel l k).map Prod.fst).Nodup := by
  unfold dictDel
  exact List.Nodup.sublist (List.Sublist.map _ List.filter_sublist) h

theorem lookupInit_some (l : List (String × Nat)) (k : String) (old : Nat) (h : lookupInit l k = some old) :
    (k, old) ∈ l := by
  unfold lookupInit at h
  cases hf : l.find? (fun p => p.1 = k) with
  | none => simp [hf] at h
  | some p =>
    simp [hf] at h
    have h1 := List.find?_some hf
    have h2 := List.mem_of_find?_eq_some hf
    simp at h1
    cases p; simp_all

theorem lookupInit_none (l : List (String × Nat)) (k : String) (h : lookupInit l k = none) (u : Nat) :
    (k, u) ∉ l := by
  unfold lookupInit at h
  simp at h
  intro hm
  exact h k u hm rfl

theorem lookupInit_of_mem (l : List (String × Nat)) (k : String) (u : Nat) (hn : (l.map Prod.fst).Nodup)
    (hm : (k, u) ∈ l) : lookupInit l k = some u := by
  cases h : lookupInit l k with
  | none => exact absurd hm (lookupInit_none l k h u)
  | some old => rw [ListFacts.keys_unique hn hm (lookupInit_some l k old h)]

/-- an initializer is stored in its graph under its name -/
theorem init_lookup (w : World) (ho : I_own w) (hk : I_key w) (v g : Nat) (old : String) (hi : (w.val v).isInit = true)
    (hg : (w.val v).graph = some g) (hn : (w.val v).name = some old) :
    lookupInit (w.gr g).inits old = some v := by
  obtain ⟨key', hm⟩ := (ho.init_iff g v).2 ⟨hi, hg⟩
  have := (hk.name g key' v hm).1
  rw [hn] at this; cases this
  exact lookupInit_of_mem _ _ _ (hk.keys g) hm

theorem mem_dictSet (l : List (String × Nat)) (k k' : String) (v u : Nat) :
    (k', u) ∈ dictSet l k v ↔ (k' = k ∧ u = v) ∨ (k' ≠ k ∧ (k', u) ∈ l) := by
  unfold dictSet
  split
  · rename_i hany
    simp only [List.mem_map]
    constructor
    · rintro ⟨p, hp, he⟩
      split at he
      · cases he; exact Or.inl ⟨rfl, rfl⟩
      · rename_i hne; subst he; exact Or.inr ⟨hne, hp⟩
    · rintro (⟨h1, h2⟩ | ⟨h1, h2⟩)
      · subst h1 h2
        simp at hany
        obtain ⟨b, hab⟩ := hany
        exact ⟨(k', b), hab, by simp⟩
      · exact ⟨(k', u), h2, by simp [h1]⟩
  · rename_i hany
    simp at hany
    simp only [List.mem_append, List.mem_singleton, Prod.mk.injEq]
    constructor
    · rintro (h | ⟨h1, h2⟩)
      · exact Or.inr ⟨fun e => hany u (e ▸ h), h⟩
      · exact Or.inl ⟨h1, h2⟩
    · rintro (⟨h1, h2⟩ | ⟨h1, h2⟩)
      · exact Or.inr ⟨h1, h2⟩
      · exact Or.inl h2

theorem keys_dictSet (l : List (String × Nat)) (k : String) (v : Nat) (hn : (l.map Prod.fst).Nodup) :
    ((dictSet l k v).map Prod.fst).Nodup := by
  unfold dictSet
  split
  · have : (l.map (fun p => if p.1 = k then (k, v) else p)).map Prod.fst = l.map Prod.fst := by
      simp only [List.map_map]
      apply List.map_congr_left
      intro p _; simp; split <;> simp_all
    rw [this]; exact hn
  · rename_i hany
    simp at hany
    simp [List.nodup_append, hn]
    intro a b hab hc
    subst hc
    exact hany b hab


/-- the record of an initializer after it left the mapping -/
def clearedInit (x : ValueS) : ValueS :=
  { x with isInit := false, graph := if owned { x with isInit := false } then x.graph else none }

@[simp] theorem clearedInit_flag (k : IOKind) (x : ValueS) : ioFlag k (clearedInit x) = ioFlag k x := by
  cases k <;> rfl
@[simp] theorem clearedInit_isInit (x : ValueS) : (clearedInit x).isInit = false := rfl
@[simp] theorem clearedInit_name (x : ValueS) : (clearedInit x).name = x.name := rfl
@[simp] theorem clearedInit_producer (x : ValueS) : (clearedInit x).producer = x.producer := rfl
@[simp] theorem clearedInit_index (x : ValueS) : (clearedInit x).index = x.index := rfl
@[simp] theorem clearedInit_uses (x : ValueS) : (clearedInit x).uses = x.uses := rfl
theorem clearedInit_graph (x : ValueS) :
    (clearedInit x).graph = if (x.isIn || x.isOut) then x.graph else none := by
  simp [clearedInit, owned]
theorem clearedInit_owner {x : ValueS} {g : Nat} (h : x.graph = none ∨ x.graph = some g) :
    (clearedInit x).graph = none ∨ (clearedInit x).graph = some g := by
  rw [clearedInit_graph]; split
  · exact h
  · exact Or.inl rfl
theorem owned_clearedInit (x : ValueS) : owned (clearedInit x) = (x.isIn || x.isOut) := by
  simp [clearedInit, owned]

theorem unsetInit_val (w : World) (old u : Nat) :
    (unsetInit w old).val u = if u = old then clearedInit (w.val old) else w.val u := by
  simp [unsetInit, clearedInit]
theorem unsetInit_gr (w : World) (old g : Nat) : (unsetInit w old).gr g = w.gr g := rfl
theorem unsetInit_node (w : World) (old n : Nat) : (unsetInit w old).node n = w.node n := rfl

theorem initDel_gr (w : World) (g : Nat) (key : String) (old : Nat)
    (hl : lookupInit (w.gr g).inits key = some old) (g' : Nat) :
    (initDel w g key).gr g' =
      if g' = g then { w.gr g with inits := dictDel (w.gr g).inits key } else w.gr g' := by
  simp [initDel, hl, unsetInit_gr]

theorem initDel_val (w : World) (g : Nat) (key : String) (old : Nat)
    (hl : lookupInit (w.gr g).inits key = some old) (u : Nat) :
    (initDel w g key).val u = if u = old then clearedInit (w.val old) else w.val u := by
  simp [initDel, hl, unsetInit_val]

theorem initDel_node (w : World) (g : Nat) (key : String) (n : Nat) : (initDel w g key).node n = w.node n := by
  unfold initDel; split <;> rfl

theorem ioList_inits (k : IOKind) (r : GraphS) (l : List (String × Nat)) :
    ioList k { r with inits := l } = ioList k r := by cases k <;> rfl
theorem ioCnt_inits (k : IOKind) (r : GraphS) (l : List (String × Nat)) :
    ioCnt k { r with inits := l } = ioCnt k r := by cases k <;> rfl

theorem initDel_io (w : World) (g : Nat) (key : String) (k' : IOKind) (g' : Nat) :
    ioList k' ((initDel w g key).gr g') = ioList k' (w.gr g') ∧ ioCnt k' ((initDel w g key).gr g') = ioCnt k' (w.gr g') := by
  cases hl : lookupInit (w.gr g).inits key with
  | none => simp [initDel, hl]
  | some old =>
    rw [initDel_gr _ _ _ _ hl]; split
    · subst_vars; exact ⟨ioList_inits _ _ _, ioCnt_inits _ _ _⟩
    · exact ⟨rfl, rfl⟩

theorem initDel_I_own (w : World) (g : Nat) (key : String) (h : I_own w) (hk : I_key w) :
    I_own (initDel w g key) := by
  cases hl : lookupInit (w.gr g).inits key with
  | none => simp [initDel, hl]; exact I_own_bump h
  | some old =>
    have hmem := lookupInit_some _ _ _ hl
    refine h.release g none old True ⟨key, hmem⟩ (fun k' g' u => ?_) (fun u hu => ?_) (fun _ s' => ?_) (fun _ => ?_)
      (fun s' g' u => ?_)
    · rw [(initDel_io w g key k' g').1, (initDel_io w g key k' g').2]; exact h.cnt k' g' u
    · rw [initDel_val _ _ _ _ hl, if_neg (fun e => hu ⟨e, trivial⟩)]
    · rw [initDel_val _ _ _ _ hl, if_pos rfl]; cases s' <;> simp [flagOf]
    · rw [initDel_val _ _ _ _ hl, if_pos rfl, clearedInit_graph, owned_clearedInit]
    · cases s' with
      | some k' => simp [heldIn, (initDel_io w g key k' g').1]
      | none =>
        simp only [heldIn, initDel_gr _ _ _ _ hl, and_true, true_and]
        by_cases hg : g' = g
        · subst hg
          simp only [if_true, mem_dictDel]
          constructor
          · rintro ⟨key', hne, hm⟩
            refine ⟨⟨key', hm⟩, fun hn => ?_⟩
            -- `old` would be stored under `key` and under `key'`
            have h1 := (hk.name g' key _ hmem).1
            have h2 := (hk.name g' key' _ hm).1
            rw [hn.2, h1] at h2
            exact hne (Option.some.inj h2).symm
          · rintro ⟨⟨key', hm⟩, hn⟩
            exact ⟨key', fun e => hn ⟨trivial, by subst e; exact ListFacts.keys_unique (hk.keys g') hm hmem⟩, hm⟩
        · simp [hg]


/-- the name of a const tensor is the only other thing `Value.name = s` writes -/
theorem setNamePlain_eq (w : World) (v : Nat) (s : Option String) :
    ∃ ts, setNamePlain w v s = { noteOwner (w.setVal v { w.val v with name := s }) v s with tensors := ts } := by
  unfold setNamePlain; simp only []; split
  · exact ⟨_, rfl⟩
  · exact ⟨_, rfl⟩

theorem setNamePlain_val (w : World) (v : Nat) (s : Option String) (u : Nat) :
    (setNamePlain w v s).val u = if u = v then { w.val v with name := s } else w.val u := by
  obtain ⟨ts, e⟩ := setNamePlain_eq w v s
  rw [e]; show (noteOwner _ v s).val u = _; simp
theorem setNamePlain_gr (w : World) (v : Nat) (s : Option String) (g : Nat) :
    (setNamePlain w v s).gr g = w.gr g := by
  obtain ⟨ts, e⟩ := setNamePlain_eq w v s
  rw [e]; show (noteOwner _ v s).gr g = _; simp
theorem setNamePlain_node (w : World) (v : Nat) (s : Option String) (n : Nat) :
    (setNamePlain w v s).node n = w.node n := by
  obtain ⟨ts, e⟩ := setNamePlain_eq w v s
  rw [e]; show (noteOwner _ v s).node n = _; simp
theorem setNamePlain_locked (w : World) (v : Nat) (s : Option String) : (setNamePlain w v s).locked = w.locked := by
  obtain ⟨ts, e⟩ := setNamePlain_eq w v s
  rw [e]; show (noteOwner _ v s).locked = _; simp
@[simp] theorem late_setNamePlain (w : World) (v : Nat) (s : Option String) : (setNamePlain w v s).late = w.late := by
  obtain ⟨ts, e⟩ := setNamePlain_eq w v s
  rw [e]; show (noteOwner _ v s).late = _; simp

theorem initOK_iff (w : World) (g : Nat) (key : String) (v : Nat) :
    initOK w g key v = true ↔
      key ≠ "" ∧ (falsy (w.val v).name = true ∨ (w.val v).name = some key) ∧ (w.val v).producer = none ∧
      ((w.val v).graph = none ∨ (w.val v).graph = some g) ∧
      (falsy (w.val v).name = true → (w.val v).isInit = false ∧ constLocked w v = false) := by
  simp [initOK]
  constructor
  · rintro ⟨⟨⟨⟨h1, h2⟩, h3⟩, h4⟩, h5⟩
    refine ⟨h1, h2, h3, h4, ?_⟩
    intro hf; rcases h5 with h5 | h5
    · simp [hf] at h5
    · exact h5
  · rintro ⟨h1, h2, h3, h4, h5⟩
    refine ⟨⟨⟨⟨h1, h2⟩, h3⟩, h4⟩, ?_⟩
    by_cases hf : falsy (w.val v).name = true
    · exact Or.inr (h5 hf)
    · exact Or.inl (by simpa using hf)

theorem initOK_of_named (w : World) (g : Nat) (key : String) (v : Nat) (hne : key ≠ "")
    (hn : (w.val v).name = some key) (hp : (w.val v).producer = none)
    (hg : (w.val v).graph = none ∨ (w.val v).graph = some g) : initOK w g key v = true := by
  rw [initOK_iff]; exact ⟨hne, Or.inr hn, hp, hg, fun hf => by simp [falsy, hn, hne] at hf⟩

/-- an accepted `v` that is stored as an initializer anywhere is stored under this very key of this very graph -/
theorem initOK_stored (w : World) (g : Nat) (key : String) (v : Nat) (h : I_own w) (hk : I_key w)
    (hok : initOK w g key v = true) (g' : Nat) (key' : String) (hm : (key', v) ∈ (w.gr g').inits) :
    g' = g ∧ key' = key := by
  obtain ⟨-, hnm, -, hgr, hfi⟩ := (initOK_iff w g key v).1 hok
  obtain ⟨hi, hg⟩ := h.init_mem g' key' v hm
  obtain ⟨hn, -⟩ := hk.name g' key' v hm
  have hnf : ¬ falsy (w.val v).name = true := by
    intro hf; have := hfi hf; simp [hi] at this
  rcases hnm with hnm | hnm
  · exact absurd hnm hnf
  · rw [hn] at hnm
    refine ⟨?_, Option.some.inj hnm⟩
    rcases hgr with hgr | hgr <;> rw [hg] at hgr
    · simp at hgr
    · exact Option.some.inj hgr

theorem initPut_gr (w : World) (g : Nat) (key : String) (v : Nat) (hok : initOK w g key v = true) (g' : Nat) :
    (initPut w g key v).gr g' =
      if g' = g then { w.gr g with inits := dictSet (w.gr g).inits key v } else w.gr g' := by
  simp only [initPut, hok, if_true]
  have h1 : ∀ g', (if falsy (w.val v).name = true then setNamePlain w v (some key) else w).gr g' = w.gr g' := by
    intro g'; split
    · exact setNamePlain_gr _ _ _ _
    · rfl
  simp only [h1]
  cases hl : lookupInit (w.gr g).inits key <;> simp [unsetInit_gr, h1] <;> split <;> rfl

theorem initPut_val (w : World) (g : Nat) (key : String) (v : Nat) (hok : initOK w g key v = true) (u : Nat) :
    (initPut w g key v).val u =
      if u = v then { w.val v with name := some key, isInit := true, graph := some g }
      else if lookupInit (w.gr g).inits key = some u then clearedInit (w.val u) else w.val u := by
  obtain ⟨-, hnm, -, -, -⟩ := (initOK_iff w g key v).1 hok
  simp only [initPut, hok, if_true]
  have h1 : ∀ g', (if falsy (w.val v).name = true then setNamePlain w v (some key) else w).gr g' = w.gr g' := by
    intro g'; split
    · exact setNamePlain_gr _ _ _ _
    · rfl
  have h2 : ∀ u, (if falsy (w.val v).name = true then setNamePlain w v (some key) else w).val u =
      if u = v then { w.val v with name := some key } else w.val u := by
    intro u; split
    · exact setNamePlain_val _ _ _ _
    · rename_i hf
      rcases hnm with hnm | hnm
      · exact absurd hnm hf
      · split
        · subst_vars; rw [← hnm]
        · rfl
  simp only [h1]
  cases hl : lookupInit (w.gr g).inits key with
  | none =>
    by_cases huv : u = v
    · subst huv; simp [h2]
    · simp [h2, huv]
  | some old =>
    by_cases huv : u = v
    · subst huv
      by_cases huo : old = u
      · subst huo; simp [unsetInit_val, h2, clearedInit]
      · have : ¬ u = old := fun e => huo e.symm
        simp [unsetInit_val, h2, this]
    · by_cases huo : u = old
      · subst huo; simp [unsetInit_val, h2, huv]
      · have : ¬ old = u := fun e => huo e.symm
        simp [unsetInit_val, h2, huv, huo, this]

theorem initPut_node (w : World) (g : Nat) (key : String) (v : Nat) (n : Nat) :
    (initPut w g key v).node n = w.node n := by
  unfold initPut
  split
  · have h1 : ∀ n, (if falsy (w.val v).name = true then setNamePlain w v (some key) else w).node n = w.node n := by
      intro n; split
      · exact setNamePlain_node _ _ _ _
      · rfl
    simp only []
    split <;> simp [unsetInit_node, h1]
  · rfl

theorem initPut_io (w : World) (g : Nat) (key : String) (v : Nat) (k' : IOKind) (g' : Nat) :
    ioList k' ((initPut w g key v).gr g') = ioList k' (w.gr g') ∧ ioCnt k' ((initPut w g key v).gr g') = ioCnt k' (w.gr g') := by
  by_cases hok : initOK w g key v = true
  · rw [initPut_gr _ _ _ _ hok]; split
    · subst_vars; exact ⟨ioList_inits _ _ _, ioCnt_inits _ _ _⟩
    · exact ⟨rfl, rfl⟩
  · simp [initPut, hok]

/-- `initPut` releases the previous holder of `key`, which is what `initDel` does, and acquires `v` -/
theorem initPut_I_own (w : World) (g : Nat) (key : String) (v : Nat) (h : I_own w) (hk : I_key w) :
    I_own (initPut w g key v) := by
  by_cases hok : initOK w g key v = true
  · obtain ⟨-, -, -, hgr, -⟩ := (initOK_iff w g key v).1 hok
    have hdv : ∀ u, (initDel w g key).val u =
        if lookupInit (w.gr g).inits key = some u then clearedInit (w.val u) else w.val u := by
      intro u
      cases hl : lookupInit (w.gr g).inits key with
      | none => simp [initDel, hl]
      | some old => rw [initDel_val _ _ _ _ hl]; simp only [Option.some.injEq, eq_comm (a := old)]; split <;> simp_all
    have hdm : ∀ g' key' u, (key', u) ∈ ((initDel w g key).gr g').inits ↔
        (g' = g → key' ≠ key) ∧ (key', u) ∈ (w.gr g').inits := by
      intro g' key' u
      cases hl : lookupInit (w.gr g).inits key with
      | none =>
        simp only [initDel, hl, World.gr_bump, iff_and_self]
        rintro hm rfl rfl; exact lookupInit_none _ _ hl u hm
      | some old =>
        rw [initDel_gr _ _ _ _ hl]; split
        · subst_vars; simp [mem_dictDel]
        · rename_i hg; simp [hg]
    refine (initDel_I_own w g key h hk).acquire g none v ?_ (fun k' g' u => ?_) (fun u hu => ?_) (fun s' => ?_) ?_
      (fun s' g' u => ?_)
    · rw [hdv]; split
      · exact clearedInit_owner hgr
      · exact hgr
    · rw [(initPut_io w g key v k' g').1, (initPut_io w g key v k' g').2]; exact h.cnt k' g' u
    · rw [initPut_val _ _ _ _ hok, if_neg hu, hdv]
    · rw [initPut_val _ _ _ _ hok, if_pos rfl, hdv]
      cases s' with
      | some k' => cases k' <;> simp [flagOf, ioFlag] <;> split <;> rfl
      | none => simp [flagOf]
    · rw [initPut_val _ _ _ _ hok, if_pos rfl]
    · cases s' with
      | some k' => simp [heldIn, (initPut_io w g key v k' g').1, (initDel_io w g key k' g').1]
      | none =>
        simp only [heldIn, hdm, initPut_gr _ _ _ _ hok, true_and]
        by_cases hg : g' = g
        · subst hg
          simp only [if_true, mem_dictSet, true_and, forall_const]
          constructor
          · rintro ⟨key', ⟨-, rfl⟩ | hm⟩
            · exact Or.inl rfl
            · exact Or.inr ⟨key', hm⟩
          · rintro (rfl | ⟨key', hm⟩)
            · exact ⟨key, Or.inl ⟨rfl, rfl⟩⟩
            · exact ⟨key', Or.inr hm⟩
        · simp [hg]
  · simp [initPut, hok]; exact I_own_bump h

theorem initPut_I_key (w : World) (g : Nat) (key : String) (v : Nat) (h : I_own w) (hk : I_key w) :
    I_key (initPut w g key v) := by
  by_cases hok : initOK w g key v = true
  · obtain ⟨hkey, hnm, hprod, hgr, hfi⟩ := (initOK_iff w g key v).1 hok
    have hvkey := fun g' key' hm => (initOK_stored w g key v h hk hok g' key' hm).2
    constructor
    · intro g' key' u hm
      rw [initPut_gr _ _ _ _ hok] at hm
      rw [initPut_val _ _ _ _ hok]
      have hm' : (key' = key ∧ u = v ∧ g' = g) ∨ (key', u) ∈ (w.gr g').inits := by
        split at hm
        · subst_vars; simp [mem_dictSet] at hm
          rcases hm with ⟨h1, h2⟩ | ⟨-, h2⟩
          · exact Or.inl ⟨h1, h2, rfl⟩
          · exact Or.inr h2
        · exact Or.inr hm
      rcases hm' with ⟨rfl, rfl, rfl⟩ | hm'
      · simp [hkey]
      · obtain ⟨hn, hne⟩ := hk.name g' key' u hm'
        by_cases huv : u = v
        · subst huv; simp only [if_true]
          exact ⟨by simp [hvkey g' key' hm'], hne⟩
        · simp only [huv, if_false]
          split
          · exact ⟨by simpa using hn, hne⟩
          · exact ⟨hn, hne⟩
    · intro g'
      rw [initPut_gr _ _ _ _ hok]
      split
      · subst_vars; exact keys_dictSet _ _ _ (hk.keys _)
      · exact hk.keys g'
  · simp [initPut, hok]; exact I_key_bump hk

theorem initPut_I_root (w : World) (g : Nat) (key : String) (v : Nat) (h : I_root w) :
    I_root (initPut w g key v) := by
  by_cases hok : initOK w g key v = true
  · obtain ⟨hkey, hnm, hprod, hgr, hfi⟩ := (initOK_iff w g key v).1 hok
    intro u
    rw [initPut_val _ _ _ _ hok]
    split
    · subst_vars; intro _; exact hprod
    · split
      · intro hf; apply h u
        rcases hf with hf | hf
        · exact Or.inl (by simpa [clearedInit] using hf)
        · simp at hf
      · exact h u
  · simp [initPut, hok]; exact I_root_bump h

theorem initDel_I_key (w : World) (g : Nat) (key : String) (hk : I_key w) : I_key (initDel w g key) := by
  cases hl : lookupInit (w.gr g).inits key with
  | none => simp [initDel, hl]; exact I_key_bump hk
  | some old =>
    constructor
    · intro g' key' u hm
      rw [initDel_gr _ _ _ _ hl] at hm
      have hm' : (key', u) ∈ (w.gr g').inits := by
        split at hm
        · subst_vars; simp [mem_dictDel] at hm; exact hm.2
        · exact hm
      rw [initDel_val _ _ _ _ hl]
      split
      · subst_vars; simpa using hk.name g' key' _ hm'
      · exact hk.name g' key' u hm'
    · intro g'
      rw [initDel_gr _ _ _ _ hl]
      split
      · subst_vars; exact keys_dictDel _ _ (hk.keys _)
      · exact hk.keys g'

theorem initDel_I_root (w : World) (g : Nat) (key : String) (h : I_root w) : I_root (initDel w g key) := by
  cases hl : lookupInit (w.gr g).inits key with
  | none => simp [initDel, hl]; exact I_root_bump h
  | some old =>
    intro u
    rw [initDel_val _ _ _ _ hl]
    split
    · subst_vars
      intro hf; apply h u
      rcases hf with hf | hf
      · exact Or.inl (by simpa [clearedInit] using hf)
      · simp at hf
    · exact h u


theorem setNamePlain_nameFrame {bn : NodeS → NodeS} {bg : GraphS → GraphS} (w : World) (v : Nat) (s : Option String) :
    Frame (fun x => { x with name := none }) bn bg w (setNamePlain w v s) := by
  refine ⟨fun u => ?_, fun n => by rw [setNamePlain_node], fun g => by rw [setNamePlain_gr], setNamePlain_locked w v s⟩
  rw [setNamePlain_val]; split
  · subst_vars; rfl
  · rfl

abbrev InitFrame :=
  Frame (fun x => { x with name := none, isInit := false, graph := none }) id (fun r => { r with inits := [] })

theorem initPut_locked (w : World) (g : Nat) (key : String) (v : Nat) : (initPut w g key v).locked = w.locked := by
  unfold initPut
  split
  · have h1 : (if falsy (w.val v).name = true then setNamePlain w v (some key) else w).locked = w.locked := by
      split
      · exact setNamePlain_locked _ _ _
      · rfl
    simp only []
    split <;> simp [unsetInit, World.setVal, World.setGr, h1]
  · rfl

theorem initPut_initFrame (w : World) (g : Nat) (key : String) (v : Nat) : InitFrame w (initPut w g key v) := by
  by_cases hok : initOK w g key v = true
  · refine ⟨fun u => ?_, initPut_node w g key v, fun g' => ?_, initPut_locked w g key v⟩
    · rw [initPut_val _ _ _ _ hok]; split
      · subst_vars; rfl
      · split <;> rfl
    · rw [initPut_gr _ _ _ _ hok]; split
      · subst_vars; rfl
      · rfl
  · simp only [initPut, hok]; exact Frame.bump w

theorem initDel_initFrame (w : World) (g : Nat) (key : String) : InitFrame w (initDel w g key) := by
  unfold initDel; split
  · exact Frame.bump w
  · exact (Frame.setVal w _ _).trans (Frame.setGr _ g _)

/-- renaming a value that is not an initializer keeps every initializer under its name -/
theorem setNamePlain_I_key (w : World) (v : Nat) (s : Option String) (h : I_own w) (hk : I_key w)
    (hv : (w.val v).isInit = false) : I_key (setNamePlain w v s) := by
  constructor
  · intro g key u hm
    rw [setNamePlain_gr] at hm
    rw [setNamePlain_val]
    split
    · subst_vars
      have := (h.init_mem g key _ hm).1
      simp [hv] at this
    · exact hk.name g key u hm
  · intro g; rw [setNamePlain_gr]; exact hk.keys g

end IrVerif.Kernel
