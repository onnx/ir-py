/-
Frame lemmas for the primitive stores of `Model/LinkedSet.lean`: every accessor (`box nx pv val own
stp size`) after every mutator (`setNext setPrev setErased pushBox`).  Everything above this file
reasons through these equations only.
-/
import IrVerif.Model.LinkedSet
namespace IrVerif.LinkedSet

theorem box_def (s : LSet) (b : Nat) : box s b = (s.boxes[b]?).getD Box.dflt := by
  simp [box, Array.getD_eq_getD_getElem?]

theorem box_setBox (s : LSet) (b c : Nat) (x : Box) :
    box (setBox s b x) c = if b = c ∧ b < size s then x else box s c := by
  simp only [box_def, setBox, Array.getElem?_setIfInBounds, size]
  by_cases h : b = c
  · subst h
    by_cases h2 : b < s.boxes.size <;> simp [h2]
  · simp [h]

@[simp] theorem size_setBox (s : LSet) (b : Nat) (x : Box) : size (setBox s b x) = size s := by
  simp [size, setBox]

@[simp] theorem size_setNext (s : LSet) (b n : Nat) : size (setNext s b n) = size s := by simp [setNext]
@[simp] theorem size_setPrev (s : LSet) (b n : Nat) : size (setPrev s b n) = size s := by simp [setPrev]
@[simp] theorem size_setErased (s : LSet) (b : Nat) : size (setErased s b) = size s := by
  simp [setErased, size, setBox]
@[simp] theorem size_pushBox (s : LSet) (v : Nat) : size (pushBox s v) = size s + 1 := by
  simp [pushBox, size]

theorem box_oob (s : LSet) (b : Nat) (h : size s ≤ b) : box s b = Box.dflt := by
  simp only [box_def, size] at *
  rw [Array.getElem?_eq_none (by omega)]; rfl

/-! setNext -/
theorem nx_setNext (s : LSet) (b n c : Nat) :
    nx (setNext s b n) c = if c = b ∧ b < size s then n else nx s c := by
  simp only [nx, setNext, box_setBox]
  by_cases h : b = c ∧ b < size s
  · obtain ⟨h1, h2⟩ := h; subst h1; simp [h2]
  · have : ¬ (c = b ∧ b < size s) := fun ⟨h1, h2⟩ => h ⟨h1.symm, h2⟩
    simp [h, this]
theorem pv_setNext (s : LSet) (b n c : Nat) : pv (setNext s b n) c = pv s c := by
  simp only [pv, setNext, box_setBox]; split
  · rename_i h; rw [h.1]
  · rfl
theorem val_setNext (s : LSet) (b n c : Nat) : val (setNext s b n) c = val s c := by
  simp only [val, setNext, box_setBox]; split
  · rename_i h; rw [h.1]
  · rfl
theorem own_setNext (s : LSet) (b n c : Nat) : own (setNext s b n) c = own s c := by
  simp only [own, setNext, box_setBox]; split
  · rename_i h; rw [h.1]
  · rfl
theorem stp_setNext (s : LSet) (b n c : Nat) : stp (setNext s b n) c = stp s c := by
  simp only [stp, setNext, box_setBox]; split
  · rename_i h; rw [h.1]
  · rfl

/-! setPrev -/
theorem pv_setPrev (s : LSet) (b n c : Nat) :
    pv (setPrev s b n) c = if c = b ∧ b < size s then n else pv s c := by
  simp only [pv, setPrev, box_setBox]
  by_cases h : b = c ∧ b < size s
  · obtain ⟨h1, h2⟩ := h; subst h1; simp [h2]
  · have : ¬ (c = b ∧ b < size s) := fun ⟨h1, h2⟩ => h ⟨h1.symm, h2⟩
    simp [h, this]
theorem nx_setPrev (s : LSet) (b n c : Nat) : nx (setPrev s b n) c = nx s c := by
  simp only [nx, setPrev, box_setBox]; split
  · rename_i h; rw [h.1]
  · rfl
theorem val_setPrev (s : LSet) (b n c : Nat) : val (setPrev s b n) c = val s c := by
  simp only [val, setPrev, box_setBox]; split
  · rename_i h; rw [h.1]
  · rfl
theorem own_setPrev (s : LSet) (b n c : Nat) : own (setPrev s b n) c = own s c := by
  simp only [own, setPrev, box_setBox]; split
  · rename_i h; rw [h.1]
  · rfl
theorem stp_setPrev (s : LSet) (b n c : Nat) : stp (setPrev s b n) c = stp s c := by
  simp only [stp, setPrev, box_setBox]; split
  · rename_i h; rw [h.1]
  · rfl

/-! setErased -/
theorem box_setErased (s : LSet) (b c : Nat) :
    box (setErased s b) c =
      if b = c ∧ b < size s then { box s b with value := none, stamp := s.clock } else box s c := by
  have : box (setErased s b) c = box (setBox s b { box s b with value := none, stamp := s.clock }) c := rfl
  rw [this, box_setBox]
theorem nx_setErased (s : LSet) (b c : Nat) : nx (setErased s b) c = nx s c := by
  simp only [nx, box_setErased]; split
  · rename_i h; rw [h.1]
  · rfl
theorem pv_setErased (s : LSet) (b c : Nat) : pv (setErased s b) c = pv s c := by
  simp only [pv, box_setErased]; split
  · rename_i h; rw [h.1]
  · rfl
theorem own_setErased (s : LSet) (b c : Nat) : own (setErased s b) c = own s c := by
  simp only [own, box_setErased]; split
  · rename_i h; rw [h.1]
  · rfl
theorem val_setErased (s : LSet) (b c : Nat) :
    val (setErased s b) c = if c = b ∧ b < size s then none else val s c := by
  simp only [val, box_setErased]
  by_cases h : b = c ∧ b < size s
  · obtain ⟨h1, h2⟩ := h; subst h1; simp [h2]
  · have : ¬ (c = b ∧ b < size s) := fun ⟨h1, h2⟩ => h ⟨h1.symm, h2⟩
    simp [h, this]
theorem stp_setErased (s : LSet) (b c : Nat) :
    stp (setErased s b) c = if c = b ∧ b < size s then s.clock else stp s c := by
  simp only [stp, box_setErased]
  by_cases h : b = c ∧ b < size s
  · obtain ⟨h1, h2⟩ := h; subst h1; simp [h2]
  · have : ¬ (c = b ∧ b < size s) := fun ⟨h1, h2⟩ => h ⟨h1.symm, h2⟩
    simp [h, this]
@[simp] theorem clock_setErased (s : LSet) (b : Nat) : (setErased s b).clock = s.clock + 1 := rfl
@[simp] theorem clock_setNext (s : LSet) (b n : Nat) : (setNext s b n).clock = s.clock := rfl
@[simp] theorem clock_setPrev (s : LSet) (b n : Nat) : (setPrev s b n).clock = s.clock := rfl
@[simp] theorem clock_pushBox (s : LSet) (v : Nat) : (pushBox s v).clock = s.clock := rfl
@[simp] theorem index_setErased (s : LSet) (b : Nat) : (setErased s b).index = s.index := rfl
@[simp] theorem index_setNext (s : LSet) (b n : Nat) : (setNext s b n).index = s.index := rfl
@[simp] theorem index_setPrev (s : LSet) (b n : Nat) : (setPrev s b n).index = s.index := rfl
@[simp] theorem index_pushBox (s : LSet) (v : Nat) : (pushBox s v).index = s.index := rfl
@[simp] theorem length_setErased (s : LSet) (b : Nat) : (setErased s b).length = s.length := rfl
@[simp] theorem length_setNext (s : LSet) (b n : Nat) : (setNext s b n).length = s.length := rfl
@[simp] theorem length_setPrev (s : LSet) (b n : Nat) : (setPrev s b n).length = s.length := rfl
@[simp] theorem length_pushBox (s : LSet) (v : Nat) : (pushBox s v).length = s.length := rfl

/-! pushBox -/
theorem box_pushBox (s : LSet) (v c : Nat) :
    box (pushBox s v) c = if c = size s then ⟨size s, size s, some v, true, 0⟩ else box s c := by
  simp only [box_def, pushBox, size, Array.getElem?_push]
  split <;> simp
theorem nx_pushBox (s : LSet) (v c : Nat) : nx (pushBox s v) c = if c = size s then size s else nx s c := by
  simp only [nx, box_pushBox]; split <;> rfl
theorem pv_pushBox (s : LSet) (v c : Nat) : pv (pushBox s v) c = if c = size s then size s else pv s c := by
  simp only [pv, box_pushBox]; split <;> rfl
theorem val_pushBox (s : LSet) (v c : Nat) : val (pushBox s v) c = if c = size s then some v else val s c := by
  simp only [val, box_pushBox]; split <;> rfl
theorem own_pushBox (s : LSet) (v c : Nat) : own (pushBox s v) c = if c = size s then true else own s c := by
  simp only [own, box_pushBox]; split <;> rfl
theorem stp_pushBox (s : LSet) (v c : Nat) : stp (pushBox s v) c = if c = size s then 0 else stp s c := by
  simp only [stp, box_pushBox]; split <;> rfl

theorem box_setNext (s : LSet) (b n c : Nat) (h : c ≠ b) : box (setNext s b n) c = box s c := by
  simp only [setNext, box_setBox]; simp [Ne.symm h]
theorem box_setPrev (s : LSet) (b n c : Nat) (h : c ≠ b) : box (setPrev s b n) c = box s c := by
  simp only [setPrev, box_setBox]; simp [Ne.symm h]
theorem box_setErased' (s : LSet) (b c : Nat) (h : c ≠ b) : box (setErased s b) c = box s c := by
  rw [box_setErased]; simp [Ne.symm h]
theorem box_pushBox' (s : LSet) (v c : Nat) (h : c ≠ size s) : box (pushBox s v) c = box s c := by
  rw [box_pushBox]; simp [h]

/-- fields that do not live in `boxes` -/
@[simp] theorem size_with (s : LSet) (l : Nat) (ix : List (Nat × Nat)) :
    size { s with length := l, index := ix } = size s := rfl
@[simp] theorem nx_with (s : LSet) (l : Nat) (ix : List (Nat × Nat)) (b : Nat) :
    nx { s with length := l, index := ix } b = nx s b := rfl
@[simp] theorem pv_with (s : LSet) (l : Nat) (ix : List (Nat × Nat)) (b : Nat) :
    pv { s with length := l, index := ix } b = pv s b := rfl
@[simp] theorem val_with (s : LSet) (l : Nat) (ix : List (Nat × Nat)) (b : Nat) :
    val { s with length := l, index := ix } b = val s b := rfl
@[simp] theorem own_with (s : LSet) (l : Nat) (ix : List (Nat × Nat)) (b : Nat) :
    own { s with length := l, index := ix } b = own s b := rfl
@[simp] theorem stp_with (s : LSet) (l : Nat) (ix : List (Nat × Nat)) (b : Nat) :
    stp { s with length := l, index := ix } b = stp s b := rfl
theorem box_with (s : LSet) (l : Nat) (ix : List (Nat × Nat)) (b : Nat) :
    box { s with length := l, index := ix } b = box s b := rfl
theorem clock_with (s : LSet) (l : Nat) (ix : List (Nat × Nat)) :
    { s with length := l, index := ix }.clock = s.clock := rfl

end IrVerif.LinkedSet
