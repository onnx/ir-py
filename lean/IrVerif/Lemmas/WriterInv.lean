/-
C09: weighted sums, well-formed configurations and the invariants of the flat writer model (`SInv` queues / futures /
job order, `LInv` locks and budget as weighted sums, `PInv` pool accounting, `WInv` waiters, `JInv` futures versus
tensors, `CInv` consumed futures; `Inv` is all of them) and its termination measure `variant`.  That they hold in
every reachable state is read off the general model (Lemmas/WriterFlatInv.lean): the flat steps are walked only for
`futs.length` (`step_futs_length`); the `finishTask_*`, `budgetTry_cases`, `wake_*`, `act_*` lemmas only say what the
flat model's helpers compute.
-/
import IrVerif.Model.Writer
import IrVerif.Lemmas.WriterN
namespace IrVerif.Writer

/-- `wsum f k l = Σ_j f (k+j) l[j]` -/
def wsum (f : Nat → Pc → Nat) : Nat → List Pc → Nat
  | _, [] => 0
  | k, p :: ps => f k p + wsum f (k + 1) ps

theorem wsum_eq (f : Nat → Pc → Nat) : ∀ (k : Nat) (l : List Pc), wsum f k l = WriterN.wsum f k l
  | _, [] => rfl
  | k, p :: ps => by simp only [wsum, WriterN.wsum, wsum_eq f (k + 1) ps]

theorem wsum_eq_zero (f : Nat → Pc → Nat) (l : List Pc) (k : Nat)
    (h : ∀ i p, l[i]? = some p → f (k + i) p = 0) : wsum f k l = 0 := by
  simp only [wsum_eq]; exact WriterN.wsum_eq_zero f l k h

theorem wsum_le_length (f : Nat → Pc → Nat) (c : Nat) (hf : ∀ i p, f i p ≤ c) :
    ∀ (l : List Pc) (k : Nat), wsum f k l ≤ c * l.length := fun l k => by
  simp only [wsum_eq]; exact WriterN.wsum_le_length f c hf l k

/-- well-formed configuration: what `_write_parallel` / `_write_external_tensors` construct -/
structure WF (cfg : Cfg) : Prop where
  workers_pos : 0 < cfg.workers
  jobs_pos : 0 < cfg.nJobs
  start_lt : ∀ j, j < cfg.nJobs → cfg.jobStarts.getD j 0 < cfg.n
  start_job : ∀ j, j < cfg.nJobs → cfg.job (cfg.jobStarts.getD j 0) = j
  start_first : ∀ j i, j < cfg.nJobs → i < cfg.jobStarts.getD j 0 → cfg.job i ≠ j
  job_lt : ∀ i, i < cfg.n → cfg.job i < cfg.nJobs
  obj_lt : ∀ i, i < cfg.n → cfg.obj i < cfg.nObjs
  /-- the tensors of a job are contiguous -/
  contig : ∀ i k, i < k → k < cfg.n → cfg.job k = cfg.job i → cfg.job (i + 1) = cfg.job i

structure SInv (cfg : Cfg) (s : State) : Prop where
  tasks_len : s.tasks.length = cfg.n
  futs_len : s.futs.length = cfg.nJobs
  locks_len : s.tLocks.length = cfg.nObjs
  q_nodup : s.queue.Nodup
  q_pending : ∀ j ∈ s.queue, s.futs[j]? = some .pending
  started : ∀ i p, s.tasks[i]? = some p → p ≠ .notStarted →
    s.futs[cfg.job i]? ≠ some .pending
  submitting : ∀ k, s.main = .submit k →
    (∀ j ∈ s.queue, j < k) ∧ ∀ j, k ≤ j → j < cfg.nJobs → s.futs[j]? = some .pending
  order : ∀ i k p, i < k → cfg.job k = cfg.job i → s.tasks[k]? = some p → p ≠ .notStarted →
    s.tasks[i]? = some (.done true)

theorem finishTask_cases (cfg : Cfg) (s : State) (i : Nat) (ok : Bool) :
    (ok = true ∧ cfg.hasNext i = true ∧
      finishTask cfg s i ok = { s with tasks := (s.tasks.set i (.done true)).set (i + 1) .tAcq })
    ∨ ((ok = false ∨ cfg.hasNext i = false) ∧
      finishTask cfg s i ok =
        { s with tasks := s.tasks.set i (.done ok)
                 futs := s.futs.set (cfg.job i) (if ok then .ok else .err)
                 idle := s.idle + 1 }) := by
  unfold finishTask
  cases ok <;> cases cfg.hasNext i <;> simp

theorem wake_ne_notStarted {p : Pc} : wake p = .notStarted ↔ p = .notStarted := by
  cases p <;> simp [wake]

theorem wake_eq_done {p : Pc} {b : Bool} : wake p = .done b ↔ p = .done b := by
  cases p <;> simp [wake]

theorem budgetTry_cases (cfg : Cfg) (s : State) (i : Nat) :
    (cfg.size i > cfg.capacity ∧ s.oversized = true ∧
        budgetTry cfg s i = { s with tasks := s.tasks.set i .waiting })
    ∨ (cfg.size i > cfg.capacity ∧ s.oversized = false ∧
        budgetTry cfg s i = { s with oversized := true, tasks := s.tasks.set i .write })
    ∨ (cfg.size i ≤ cfg.capacity ∧ s.inFlight + cfg.size i ≤ cfg.capacity ∧
        budgetTry cfg s i =
          { s with inFlight := s.inFlight + cfg.size i, tasks := s.tasks.set i .write })
    ∨ (cfg.size i ≤ cfg.capacity ∧ ¬ s.inFlight + cfg.size i ≤ cfg.capacity ∧
        budgetTry cfg s i = { s with tasks := s.tasks.set i .waiting }) := by
  unfold budgetTry
  by_cases h1 : cfg.size i > cfg.capacity
  · cases h2 : s.oversized <;> simp [h1]
  · by_cases h3 : s.inFlight + cfg.size i ≤ cfg.capacity
    · simp [h1, h3]; omega
    · simp [h1, h3]; omega

/-- the thread holds a budget reservation (between a successful `acquire` and `release`) -/
def holds : Pc → Bool
  | .write | .bRel _ => true
  | _ => false

/-- inside `with tensor_write_locks[id(tensor)]` -/
def inT : Pc → Bool
  | .cbAcq | .cbBody | .bAcq | .waiting | .woken | .write | .bRel _ => true
  | _ => false

def fReg (cfg : Cfg) (i : Nat) (p : Pc) : Nat :=
  if holds p = true ∧ cfg.size i ≤ cfg.capacity then cfg.size i else 0
def fOver (cfg : Cfg) (i : Nat) (p : Pc) : Nat :=
  if holds p = true ∧ cfg.size i > cfg.capacity then 1 else 0
def fCb (_ : Nat) (p : Pc) : Nat := if p = .cbBody then 1 else 0
def fT (cfg : Cfg) (o : Nat) (i : Nat) (p : Pc) : Nat :=
  if inT p = true ∧ cfg.obj i = o then 1 else 0

structure LInv (cfg : Cfg) (s : State) : Prop where
  reg : s.inFlight = wsum (fReg cfg) 0 s.tasks
  over : (if s.oversized then 1 else 0) = wsum (fOver cfg) 0 s.tasks
  le : s.inFlight ≤ cfg.capacity
  cb : (if s.cbLock then 1 else 0) = wsum fCb 0 s.tasks
  tl : ∀ o, o < cfg.nObjs → (if s.tLocks.getD o false then 1 else 0) = wsum (fT cfg o) 0 s.tasks

@[simp] theorem finishTask_inFlight (cfg : Cfg) (s : State) (i : Nat) (ok : Bool) :
    (finishTask cfg s i ok).inFlight = s.inFlight := by unfold finishTask; split <;> rfl
@[simp] theorem finishTask_oversized (cfg : Cfg) (s : State) (i : Nat) (ok : Bool) :
    (finishTask cfg s i ok).oversized = s.oversized := by unfold finishTask; split <;> rfl
@[simp] theorem finishTask_cbLock (cfg : Cfg) (s : State) (i : Nat) (ok : Bool) :
    (finishTask cfg s i ok).cbLock = s.cbLock := by unfold finishTask; split <;> rfl
@[simp] theorem finishTask_tLocks (cfg : Cfg) (s : State) (i : Nat) (ok : Bool) :
    (finishTask cfg s i ok).tLocks = s.tLocks := by unfold finishTask; split <;> rfl
@[simp] theorem finishTask_log (cfg : Cfg) (s : State) (i : Nat) (ok : Bool) :
    (finishTask cfg s i ok).log = s.log := by unfold finishTask; split <;> rfl
@[simp] theorem finishTask_files (cfg : Cfg) (s : State) (i : Nat) (ok : Bool) :
    (finishTask cfg s i ok).files = s.files := by unfold finishTask; split <;> rfl
@[simp] theorem finishTask_queue (cfg : Cfg) (s : State) (i : Nat) (ok : Bool) :
    (finishTask cfg s i ok).queue = s.queue := by unfold finishTask; split <;> rfl
@[simp] theorem finishTask_main (cfg : Cfg) (s : State) (i : Nat) (ok : Bool) :
    (finishTask cfg s i ok).main = s.main := by unfold finishTask; split <;> rfl
@[simp] theorem finishTask_shutdown (cfg : Cfg) (s : State) (i : Nat) (ok : Bool) :
    (finishTask cfg s i ok).shutdown = s.shutdown := by unfold finishTask; split <;> rfl
@[simp] theorem finishTask_collected (cfg : Cfg) (s : State) (i : Nat) (ok : Bool) :
    (finishTask cfg s i ok).collected = s.collected := by unfold finishTask; split <;> rfl
@[simp] theorem finishTask_exited (cfg : Cfg) (s : State) (i : Nat) (ok : Bool) :
    (finishTask cfg s i ok).exited = s.exited := by unfold finishTask; split <;> rfl

/-- a pool thread is working on this tensor -/
def act : Pc → Bool
  | .notStarted | .done _ => false
  | _ => true

def fAct (_ : Nat) (p : Pc) : Nat := if act p = true then 1 else 0

@[simp] theorem act_notStarted : act .notStarted = false := rfl
@[simp] theorem act_done (b : Bool) : act (.done b) = false := rfl
@[simp] theorem act_cbAcq : act .cbAcq = true := rfl
@[simp] theorem act_cbBody : act .cbBody = true := rfl
@[simp] theorem act_tAcq : act .tAcq = true := rfl
@[simp] theorem act_bAcq : act .bAcq = true := rfl
@[simp] theorem act_waiting : act .waiting = true := rfl
@[simp] theorem act_woken : act .woken = true := rfl
@[simp] theorem act_write : act .write = true := rfl
@[simp] theorem act_bRel (b : Bool) : act (.bRel b) = true := rfl

theorem act_wake (p : Pc) : act (wake p) = act p := by cases p <;> rfl

structure PInv (cfg : Cfg) (s : State) : Prop where
  pool : s.idle + s.exited + wsum fAct 0 s.tasks = cfg.workers
  exited_sd : s.exited > 0 → s.shutdown = true
  sd_main : s.shutdown = true ↔ ∃ e, s.main = .join e ∨ s.main = .finished e
  fin_exit : ∀ e, s.main = .finished e → s.exited = cfg.workers
  sub_lt : ∀ k, s.main = .submit k → k < cfg.nJobs

/-- every thread in the wait set (not notified) has a false `wait_for` predicate: no lost wake-up -/
def WInv (cfg : Cfg) (s : State) : Prop :=
  ∀ i, s.tasks[i]? = some .waiting →
    (cfg.size i > cfg.capacity → s.oversized = true) ∧
    (cfg.size i ≤ cfg.capacity → ¬ s.inFlight + cfg.size i ≤ cfg.capacity)

def nsub (cfg : Cfg) (s : State) : Nat :=
  match s.main with
  | .submit k => k
  | _ => cfg.nJobs

structure JInv (cfg : Cfg) (s : State) : Prop where
  pend_q : ∀ j, j < nsub cfg s → s.futs[j]? = some .pending → j ∈ s.queue
  run_act : ∀ j : Nat, s.futs[j]? = some .running →
    ∃ i p, cfg.job i = j ∧ s.tasks[i]? = some p ∧ act p = true
  act_run : ∀ i p, s.tasks[i]? = some p → act p = true → s.futs[cfg.job i]? = some .running
  canc_sd : ∀ j : Nat, s.futs[j]? = some .cancelled → s.shutdown = true
  ok_done : ∀ j : Nat, s.futs[j]? = some .ok → ∀ i, i < cfg.n → cfg.job i = j →
    s.tasks[i]? = some (.done true)

structure CInv (cfg : Cfg) (s : State) : Prop where
  nodup : s.collected.Nodup
  lt : ∀ j ∈ s.collected, j < cfg.nJobs
  len : s.main = .collect → s.collected.length < cfg.nJobs
  sh : cfg.mode = .shards → ∀ j ∈ s.collected, j < s.collected.length
  ok : (s.main = .collect ∨ s.main = .join false ∨ s.main = .finished false) →
    ∀ j ∈ s.collected, s.futs[j]? = some .ok
  all : (s.main = .join false ∨ s.main = .finished false) → s.collected.length = cfg.nJobs
  sub : ∀ k, s.main = .submit k → s.collected = []

structure Inv (cfg : Cfg) (st : State) : Prop where
  s : SInv cfg st
  l : LInv cfg st
  p : PInv cfg st
  w : WInv cfg st
  j : JInv cfg st
  c : CInv cfg st

/-- weight of a tensor's program counter; `n + 1` extra while the tensor's `notify_all` is still
    to come (each `notify_all` can put at most `n` waiters back one step) -/
def pcW (n : Nat) : Pc → Nat
  | .notStarted => 10 + (n + 1)
  | .tAcq => 9 + (n + 1)
  | .cbAcq => 8 + (n + 1)
  | .cbBody => 7 + (n + 1)
  | .bAcq => 6 + (n + 1)
  | .woken => 5 + (n + 1)
  | .waiting => 4 + (n + 1)
  | .write => 3 + (n + 1)
  | .bRel _ => 2 + (n + 1)
  | .done _ => 0

def mainW (cfg : Cfg) (s : State) : Nat :=
  match s.main with
  | .submit k => (cfg.nJobs - k) + cfg.nJobs + 3
  | .collect => (cfg.nJobs - s.collected.length) + 2
  | .join _ => 1
  | .finished _ => 0

/-- strictly decreases on every step (`C09_terminates`) -/
def variant (cfg : Cfg) (s : State) : Nat :=
  mainW cfg s + wsum (fun _ p => pcW cfg.n p) 0 s.tasks + s.idle

/-- the executable well-formedness test used by the driver implies `WF` -/
theorem wfb_sound {cfg : Cfg} (h : wfb cfg = true) : WF cfg := by
  simp only [wfb, Bool.and_eq_true, decide_eq_true_eq, List.all_eq_true, List.mem_range] at h
  obtain ⟨⟨⟨⟨h1, h2⟩, h3⟩, h4⟩, h5⟩ := h
  exact ⟨h1, h2, fun j hj => (h3 j hj).1.1, fun j hj => (h3 j hj).1.2,
    fun j i hj hi => (h3 j hj).2 i hi, fun i hi => (h4 i hi).1, fun i hi => (h4 i hi).2,
    fun i k hik hk e => h5 k hk i hik e⟩

end IrVerif.Writer
