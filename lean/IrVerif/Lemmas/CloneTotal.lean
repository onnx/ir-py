/-
Total-correctness simulation of the cloner by the scope walker (Model/Clone.lean, `wGraph`):
whenever the walker answers `ok`, `clone_graph` returns, and whenever it answers `err e`,
`clone_graph` ends with exactly the error `e`.  The invariant `TInv` relates the cloner state to the
walker's four lists; it also says that the value map is a bijection between the source values it
binds and the value cells the cloner created; `vals` is what lets the ownership checks of
`Graph.__init__` be read off the walker's lists (`GInv.facts`).
-/
import IrVerif.Lemmas.Clone
import IrVerif.Lemmas.CloneSim
import IrVerif.Model.Clone2
namespace IrVerif.Clone
namespace Total

/-- what is known of one binding `source value ↦ clone` -/
def ValImg (w0 : World) (s : St) (A : Sc) (p : Nat × Nat) : Prop :=
  w0.length ≤ p.2 ∧ ∃ vs0 vs', w0[p.1]? = some (.val vs0) ∧ s.w[p.2]? = some (.val vs') ∧
    vs'.name = vs0.name ∧ vs'.graph.isSome = A.owned.contains p.1 ∧
    vs'.producer.isSome = A.produced.contains p.1 ∧ (∀ x, vs'.graph = some x → x < s.w.length)

structure TInv (w0 : World) (s : St) (A : Sc) : Prop where
  len : w0.length ≤ s.w.length
  old : ∀ (i : Nat) (c0 : Cell), w0[i]? = some c0 → ∃ c, s.w[i]? = some c ∧ c.eraseUses = c0.eraseUses
  keys : s.vm.map (·.1) = A.bound
  nodup : A.bound.Nodup
  pend : s.pend = A.pend
  vals : ∀ p ∈ s.vm, ValImg w0 s A p
  inj : ∀ p ∈ s.vm, ∀ q ∈ s.vm, p.2 = q.2 → p = q
  onto : ∀ (i : Nat) (vs : ValueS), w0.length ≤ i → s.w[i]? = some (.val vs) → ∃ p ∈ s.vm, p.2 = i
  sub : ∀ v, v ∈ A.owned ∨ v ∈ A.produced → v ∈ A.bound

/-- `s'` extends `s`: the value map only gains bindings, the heap does not shrink, node cells that
    existed are untouched -/
structure TExt (s s' : St) : Prop where
  vm : ∃ ext, s'.vm = ext ++ s.vm
  len : s.w.length ≤ s'.w.length
  nodes : ∀ (i : Nat) (ns : NodeS), s.w[i]? = some (.node ns) → s'.w[i]? = some (.node ns)

theorem TExt.refl (s : St) : TExt s s := ⟨⟨[], rfl⟩, Nat.le_refl _, fun _ _ h => h⟩

theorem TExt.trans {a b c : St} (h1 : TExt a b) (h2 : TExt b c) : TExt a c := by
  obtain ⟨e1, he1⟩ := h1.vm
  obtain ⟨e2, he2⟩ := h2.vm
  exact ⟨⟨e2 ++ e1, by rw [he2, he1, List.append_assoc]⟩, Nat.le_trans h1.len h2.len,
    fun i ns h => h2.nodes i ns (h1.nodes i ns h)⟩

/-- `m` run from `s` agrees with the walker's verdict -/
def Sim {α γ : Type} (m : M α) (s : St) (r : WRes γ) (Q : α → St → γ → Prop) : Prop :=
  match r with
  | .ok c => ∃ a s', m s = (.ok a, s') ∧ Q a s' c
  | .err e => (m s).1 = .error e
  | .irregular _ => True

theorem Sim.of_eq {α γ : Type} {m m' : M α} {s s' : St} {r : WRes γ} {Q : α → St → γ → Prop}
    (h : m s = m' s') (hs : Sim m' s' r Q) : Sim m s r Q := by
  cases r with
  | ok c => obtain ⟨a, s1, h1, h2⟩ := hs; exact ⟨a, s1, by rw [h, h1], h2⟩
  | err e => show (m s).1 = _; rw [h]; exact hs
  | irregular why => trivial

theorem Sim.bind {α β γ δ : Type} {m : M α} {k : α → M β} {s : St} {x : WRes γ} {f : γ → WRes δ}
    {Q : α → St → γ → Prop} {R : β → St → δ → Prop}
    (hm : Sim m s x Q) (hk : ∀ a s' c, Q a s' c → Sim (k a) s' (f c) R) :
    Sim (m >>= k) s (x.bind f) R := by
  cases x with
  | ok c =>
    obtain ⟨a, s', hms, hq⟩ := hm
    exact Sim.of_eq (bind_ok hms) (hk a s' c hq)
  | err e =>
    have h1 : (m s).1 = .error e := hm
    rcases hms : m s with ⟨r, s'⟩
    rw [hms] at h1
    simp only at h1
    subst h1
    show ((m >>= k) s).1 = .error e
    rw [bind_err hms]
  | irregular why => trivial

theorem Sim.mono {α γ : Type} {m : M α} {s : St} {x : WRes γ} {Q R : α → St → γ → Prop}
    (hm : Sim m s x Q) (h : ∀ a s' c, Q a s' c → R a s' c) : Sim m s x R := by
  cases x with
  | ok c => obtain ⟨a, s', hms, hq⟩ := hm; exact ⟨a, s', hms, h a s' c hq⟩
  | err e => exact hm
  | irregular why => trivial

theorem Sim.pure {α γ : Type} {a : α} {s : St} {c : γ} {Q : α → St → γ → Prop} (h : Q a s c) :
    Sim (Pure.pure a : M α) s (.ok c) Q := ⟨a, s, rfl, h⟩

macro "wbind " h:term " with " a:ident s1:ident c:ident hq:ident : tactic =>
  `(tactic| (refine Sim.bind $h ?_; intro $a $s1 $c $hq))


section
variable {w0 : World}

/-- the state still holds the cells of the source heap, up to usage records: all a reader needs
    (`TInv.old`; also true of any state whose heap extends the source heap) -/
def Agree (w0 : World) (s : St) : Prop :=
  ∀ (i : Nat) (c0 : Cell), w0[i]? = some c0 → ∃ c, s.w[i]? = some c ∧ c.eraseUses = c0.eraseUses

theorem Agree.src {s : St} (hT : Agree w0 s) {i : Nat} {c0 : Cell} (h : w0[i]? = some c0)
    (hn : ∀ v, c0 ≠ .val v) : s.w[i]? = some c0 := by
  obtain ⟨c, h1, h2⟩ := hT i c0 h
  rw [eraseUses_other h2 hn] at h1
  exact h1

theorem Agree.srcVal {s : St} (hT : Agree w0 s) {i : Nat} {vs0 : ValueS}
    (h : w0[i]? = some (.val vs0)) :
    ∃ vs, s.w[i]? = some (.val vs) ∧ { vs with uses := [] } = { vs0 with uses := [] } := by
  obtain ⟨c, h1, h2⟩ := hT i _ h
  obtain ⟨vs, rfl, h3⟩ := eraseUses_val h2
  exact ⟨vs, h1, h3⟩

theorem sim_readVal {s : St} (hT : Agree w0 s) (v : Nat) :
    Sim (readVal v) s (wVal w0 v) (fun vs s' vs0 => s' = s ∧ s.w[v]? = some (.val vs) ∧
      w0[v]? = some (.val vs0) ∧ { vs with uses := [] } = { vs0 with uses := [] }) := by
  unfold wVal wCell
  cases h : w0[v]? with
  | none => trivial
  | some c0 =>
    cases c0 with
    | val vs0 =>
      obtain ⟨vs, h1, h2⟩ := hT.srcVal h
      exact ⟨vs, s, by simp [readVal, h1], rfl, h1, rfl, h2⟩
    | _ => have := hT.src h (by intro v hv; cases hv); simp [Sim, WRes.bind, readVal, this]

theorem sim_readNode {s : St} (hT : Agree w0 s) (i : Nat) :
    Sim (readNode i) s (wNodeCell w0 i) (fun x s' x0 => s' = s ∧ x = x0 ∧ s.w[i]? = some (.node x) ∧
      w0[i]? = some (.node x0)) := by
  unfold wNodeCell wCell
  cases h : w0[i]? with
  | none => trivial
  | some c0 =>
    cases c0 with
    | val x => obtain ⟨vs, h1, _⟩ := hT.srcVal h; simp [Sim, WRes.bind, readNode, h1]
    | node x => have := hT.src h (by intro v hv; cases hv); exact ⟨x, s, by simp [readNode, this], rfl, rfl, this, rfl⟩
    | _ => have := hT.src h (by intro v hv; cases hv); simp [Sim, WRes.bind, readNode, this]

theorem sim_readGraph {s : St} (hT : Agree w0 s) (i : Nat) :
    Sim (readGraph i) s (wGraphCell w0 i) (fun x s' x0 => s' = s ∧ x = x0 ∧ s.w[i]? = some (.graph x) ∧
      w0[i]? = some (.graph x0)) := by
  unfold wGraphCell wCell
  cases h : w0[i]? with
  | none => trivial
  | some c0 =>
    cases c0 with
    | val x => obtain ⟨vs, h1, _⟩ := hT.srcVal h; simp [Sim, WRes.bind, readGraph, h1]
    | graph x => have := hT.src h (by intro v hv; cases hv); exact ⟨x, s, by simp [readGraph, this], rfl, rfl, this, rfl⟩
    | _ => have := hT.src h (by intro v hv; cases hv); simp [Sim, WRes.bind, readGraph, this]

theorem sim_readAttr {s : St} (hT : Agree w0 s) (i : Nat) :
    Sim (readAttr i) s (wAttrCell w0 i) (fun x s' x0 => s' = s ∧ x = x0 ∧ s.w[i]? = some (.attr x) ∧
      w0[i]? = some (.attr x0)) := by
  unfold wAttrCell wCell
  cases h : w0[i]? with
  | none => trivial
  | some c0 =>
    cases c0 with
    | val x => obtain ⟨vs, h1, _⟩ := hT.srcVal h; simp [Sim, WRes.bind, readAttr, h1]
    | attr x => have := hT.src h (by intro v hv; cases hv); exact ⟨x, s, by simp [readAttr, this], rfl, rfl, this, rfl⟩
    | _ => have := hT.src h (by intro v hv; cases hv); simp [Sim, WRes.bind, readAttr, this]

theorem sim_readDict {s : St} (hT : Agree w0 s) (i : Nat) :
    Sim (readDict i) s (wDict w0 i) (fun x s' _ => s' = s ∧ s.w[i]? = some (.dict x)) := by
  unfold wDict wCell
  cases h : w0[i]? with
  | none => trivial
  | some c0 =>
    cases c0 with
    | val x => obtain ⟨vs, h1, _⟩ := hT.srcVal h; simp [Sim, WRes.bind, readDict, h1]
    | dict x => have := hT.src h (by intro v hv; cases hv); exact ⟨x, s, by simp [readDict, this], rfl, this⟩
    | _ => have := hT.src h (by intro v hv; cases hv); simp [Sim, WRes.bind, readDict, this]

theorem sim_readShape {s : St} (hT : Agree w0 s) (i : Nat) :
    Sim (readShape i) s (wShape w0 i) (fun x s' _ => s' = s ∧ s.w[i]? = some (.shape x)) := by
  unfold wShape wCell
  cases h : w0[i]? with
  | none => trivial
  | some c0 =>
    cases c0 with
    | val x => obtain ⟨vs, h1, _⟩ := hT.srcVal h; simp [Sim, WRes.bind, readShape, h1]
    | shape x => have := hT.src h (by intro v hv; cases hv); exact ⟨x, s, by simp [readShape, this], rfl, this⟩
    | _ => have := hT.src h (by intro v hv; cases hv); simp [Sim, WRes.bind, readShape, this]

theorem sim_readType {s : St} (hT : Agree w0 s) (i : Nat) :
    Sim (readType i) s (wType w0 i) (fun x s' _ => s' = s ∧ s.w[i]? = some (.type x)) := by
  unfold wType wCell
  cases h : w0[i]? with
  | none => trivial
  | some c0 =>
    cases c0 with
    | val x => obtain ⟨vs, h1, _⟩ := hT.srcVal h; simp [Sim, WRes.bind, readType, h1]
    | type x => have := hT.src h (by intro v hv; cases hv); exact ⟨x, s, by simp [readType, this], rfl, this⟩
    | _ => have := hT.src h (by intro v hv; cases hv); simp [Sim, WRes.bind, readType, this]

theorem sim_readFunc {s : St} (hT : Agree w0 s) (i : Nat) :
    Sim (readFunc i) s (wFuncCell w0 i) (fun x s' x0 => s' = s ∧ x = x0) := by
  unfold wFuncCell wCell
  cases h : w0[i]? with
  | none => trivial
  | some c0 =>
    cases c0 with
    | val x => obtain ⟨vs, h1, _⟩ := hT.srcVal h; simp [Sim, WRes.bind, readFunc, h1]
    | func x => have := hT.src h (by intro v hv; cases hv); exact ⟨x, s, by simp [readFunc, this], rfl, rfl⟩
    | _ => have := hT.src h (by intro v hv; cases hv); simp [Sim, WRes.bind, readFunc, this]

theorem WRes.bind_ok {γ : Type} (x : WRes γ) : x.bind WRes.ok = x := by cases x <;> rfl

theorem WRes.ok_bind {γ δ : Type} (a : γ) (f : γ → WRes δ) : (WRes.ok a).bind f = f a := rfl

/-- a concrete step that has no counterpart in the walker and cannot fail -/
theorem Sim.step {α β δ : Type} {m : M α} {k : α → M β} {s : St} {r : WRes δ} {R : β → St → δ → Prop}
    (a : α) (s' : St) (hm : m s = (.ok a, s')) (hk : Sim (k a) s' r R) : Sim (m >>= k) s r R :=
  Sim.of_eq (bind_ok hm) hk

/-- sequencing when the walker has nothing more to do -/
theorem Sim.bindLast {α β γ : Type} {m : M α} {k : α → M β} {s : St} {x : WRes γ}
    {Q : α → St → γ → Prop} {R : β → St → γ → Prop}
    (hm : Sim m s x Q) (hk : ∀ a s' c, Q a s' c → Sim (k a) s' (.ok c) R) :
    Sim (m >>= k) s x R := by
  have := Sim.bind (f := WRes.ok) hm hk
  rwa [WRes.bind_ok] at this

theorem getElem?_append_new {w : World} {c : Cell} : (w ++ [c])[w.length]? = some c := by
  simp

theorem TInv.allocOther {s : St} {A : Sc} (hT : TInv w0 s A) {c : Cell} (hc : ∀ v, c ≠ .val v) :
    TInv w0 { s with w := s.w ++ [c] } A := by
  refine ⟨?_, ?_, hT.keys, hT.nodup, hT.pend, ?_, hT.inj, ?_, hT.sub⟩
  · have := hT.len; simp; omega
  · intro i c0 h
    obtain ⟨c1, h1, h2⟩ := hT.old i c0 h
    exact ⟨c1, by simp only; rw [List.getElem?_append_left (lt_of_getElem? h1)]; exact h1, h2⟩
  · intro p hp
    obtain ⟨h1, vs0, vs', a, b, c1, d, e, f⟩ := hT.vals p hp
    refine ⟨h1, vs0, vs', a, ?_, c1, d, e, ?_⟩
    · simp only; rw [List.getElem?_append_left (lt_of_getElem? b)]; exact b
    · intro x hx; have := f x hx; simp; omega
  · intro i vs hi h
    simp only at h
    rcases Nat.lt_or_ge i s.w.length with hlt | hge
    · rw [List.getElem?_append_left hlt] at h
      exact hT.onto i vs hi h
    · rcases Nat.eq_or_lt_of_le hge with heq | hgt
      · rw [← heq, getElem?_append_new] at h
        cases h
        exact absurd rfl (hc vs)
      · rw [List.getElem?_eq_none (by simp; omega)] at h; cases h

theorem TExt.alloc (s : St) (c : Cell) : TExt s { s with w := s.w ++ [c] } :=
  ⟨⟨[], rfl⟩, by simp, fun i ns h => by
    simp only; rw [List.getElem?_append_left (lt_of_getElem? h)]; exact h⟩

/-- the postcondition of the steps that leave the value map alone -/
def Keep (w0 : World) (A : Sc) (s s' : St) : Prop := TInv w0 s' A ∧ TExt s s' ∧ s'.vm = s.vm

theorem Keep.refl {s : St} {A : Sc} (hT : TInv w0 s A) : Keep w0 A s s := ⟨hT, TExt.refl s, rfl⟩

theorem Keep.trans {A : Sc} {a b c : St} (h1 : Keep w0 A a b) (h2 : Keep w0 A b c) : Keep w0 A a c :=
  ⟨h2.1, h1.2.1.trans h2.2.1, h2.2.2.trans h1.2.2⟩

theorem Keep.alloc {s : St} {A : Sc} (hT : TInv w0 s A) {c : Cell} (hc : ∀ v, c ≠ .val v) :
    Keep w0 A s { s with w := s.w ++ [c] } := ⟨hT.allocOther hc, TExt.alloc s c, rfl⟩

theorem sim_copyShape {s : St} {A : Sc} (hT : TInv w0 s A) (o : Option Nat) :
    Sim (copyShape o) s (wOptShape w0 o) (fun _ s' _ => Keep w0 A s s') := by
  cases o with
  | none => exact Sim.pure (Keep.refl hT)
  | some sh =>
    unfold copyShape wOptShape
    refine Sim.bindLast (sim_readShape hT.old sh) ?_
    intro ss s1 _ hq
    obtain ⟨rfl, _⟩ := hq
    refine Sim.step (m := alloc _) _ _ rfl ?_
    exact Sim.pure (Keep.alloc hT (by intro v hv; cases hv))

theorem sim_copyType {s : St} {A : Sc} (hT : TInv w0 s A) (o : Option Nat) :
    Sim (copyType o) s (wOptType w0 o) (fun _ s' _ => Keep w0 A s s') := by
  cases o with
  | none => exact Sim.pure (Keep.refl hT)
  | some t =>
    unfold copyType wOptType
    refine Sim.bindLast (sim_readType hT.old t) ?_
    intro ss s1 _ hq
    obtain ⟨rfl, _⟩ := hq
    refine Sim.step (m := alloc _) _ _ rfl ?_
    exact Sim.pure (Keep.alloc hT (by intro v hv; cases hv))

theorem sim_copyProps {s : St} {A : Sc} (hT : TInv w0 s A) (d : Nat) :
    Sim (copyProps d) s (wDict w0 d) (fun _ s' _ => Keep w0 A s s') := by
  unfold copyProps
  refine Sim.bindLast (sim_readDict hT.old d) ?_
  intro ss s1 _ hq
  obtain ⟨rfl, _⟩ := hq
  exact ⟨_, _, rfl, Keep.alloc hT (by intro v hv; cases hv)⟩

theorem sim_copyMeta {s : St} {A : Sc} (hT : TInv w0 s A) (d : Nat) :
    Sim (copyMeta d) s (wDict w0 d) (fun _ s' _ => Keep w0 A s s') := by
  unfold copyMeta
  refine Sim.bindLast (sim_readDict hT.old d) ?_
  intro ss s1 _ hq
  obtain ⟨rfl, _⟩ := hq
  exact ⟨_, _, rfl, Keep.alloc hT (by intro v hv; cases hv)⟩


theorem TInv.lt_of_mem {s : St} {A : Sc} (hT : TInv w0 s A) {p : Nat × Nat} (hp : p ∈ s.vm) :
    p.2 < s.w.length := by
  obtain ⟨_, _, _, _, b, _⟩ := hT.vals p hp
  exact lt_of_getElem? b

theorem TInv.bindNew {s : St} {A : Sc} (hT : TInv w0 s A) {v : Nat} {vs0 c : ValueS}
    (hv0 : w0[v]? = some (.val vs0)) (hvb : v ∉ A.bound) (hname : c.name = vs0.name)
    (hg : c.graph = none) (hp : c.producer = none) (pend' : List Nat) :
    TInv w0 { s with w := s.w ++ [.val c], vm := (v, s.w.length) :: s.vm, pend := pend' }
      { A with bound := v :: A.bound, pend := pend' } := by
  have hnot : ∀ x, x ∈ A.owned ∨ x ∈ A.produced → x ≠ v := fun x hx hxv => hvb (hxv ▸ hT.sub x hx)
  refine ⟨?_, ?_, ?_, ?_, rfl, ?_, ?_, ?_, ?_⟩
  · have := hT.len; simp; omega
  · intro i c0 h
    obtain ⟨c1, h1, h2⟩ := hT.old i c0 h
    exact ⟨c1, by simp only; rw [List.getElem?_append_left (lt_of_getElem? h1)]; exact h1, h2⟩
  · simp [hT.keys]
  · exact List.nodup_cons.mpr ⟨hvb, hT.nodup⟩
  · intro p hp'
    rcases List.mem_cons.mp hp' with h1 | h1
    · subst h1
      refine ⟨hT.len, vs0, c, hv0, by simp, hname, ?_, ?_, ?_⟩
      · rw [hg]; simp
        intro h; exact hnot v (.inl h) rfl
      · rw [hp]; simp
        intro h; exact hnot v (.inr h) rfl
      · intro x hx; rw [hg] at hx; cases hx
    · obtain ⟨h2, vs1, vs', a, b, c1, d, e, f⟩ := hT.vals p h1
      refine ⟨h2, vs1, vs', a, ?_, c1, d, e, ?_⟩
      · simp only; rw [List.getElem?_append_left (lt_of_getElem? b)]; exact b
      · intro x hx; have := f x hx; simp; omega
  · intro p hp' q hq' hpq
    rcases List.mem_cons.mp hp' with h1 | h1 <;> rcases List.mem_cons.mp hq' with h2 | h2
    · rw [h1, h2]
    · subst h1; have := hT.lt_of_mem h2; simp only at hpq; omega
    · subst h2; have := hT.lt_of_mem h1; simp only at hpq; omega
    · exact hT.inj p h1 q h2 hpq
  · intro i vs hi h
    simp only at h
    rcases Nat.lt_or_ge i s.w.length with hlt | hge
    · rw [List.getElem?_append_left hlt] at h
      obtain ⟨p, hp1, hp2⟩ := hT.onto i vs hi h
      exact ⟨p, List.mem_cons_of_mem _ hp1, hp2⟩
    · rcases Nat.eq_or_lt_of_le hge with heq | hgt
      · exact ⟨(v, s.w.length), List.mem_cons_self, heq⟩
      · rw [List.getElem?_eq_none (by simp; omega)] at h; cases h
  · intro x hx
    exact List.mem_cons_of_mem _ (hT.sub x hx)

theorem TExt.bindNew (s : St) (c : Cell) (v : Nat) (pend' : List Nat) :
    TExt s { s with w := s.w ++ [c], vm := (v, s.w.length) :: s.vm, pend := pend' } :=
  ⟨⟨[(v, s.w.length)], rfl⟩, by simp, fun i ns h => by
    simp only; rw [List.getElem?_append_left (lt_of_getElem? h)]; exact h⟩

theorem TInv.lookup_none {s : St} {A : Sc} (hT : TInv w0 s A) {v : Nat} (h : A.bound.contains v = false) :
    s.vm.lookup v = none := by
  cases hl : s.vm.lookup v with
  | none => rfl
  | some b =>
    have : v ∈ s.vm.map (·.1) := ListFacts.lookup_isSome_iff.mp (by rw [hl]; rfl)
    rw [hT.keys] at this
    have : A.bound.contains v = true := by simpa using this
    rw [h] at this; cases this

theorem TInv.lookup_some {s : St} {A : Sc} (hT : TInv w0 s A) {v : Nat} (h : A.bound.contains v = true) :
    ∃ b, s.vm.lookup v = some b := by
  have : v ∈ s.vm.map (·.1) := by rw [hT.keys]; simpa using h
  exact Option.isSome_iff_exists.mp (ListFacts.lookup_isSome_iff.mpr this)

/-- the fields of a source value as read now are those of the initial heap -/
theorem fields_of_erase {vs vs0 : ValueS} (h : { vs with uses := [] } = { vs0 with uses := [] }) :
    vs.name = vs0.name ∧ vs.shape = vs0.shape ∧ vs.type = vs0.type ∧ vs.props = vs0.props ∧
      vs.mstore = vs0.mstore := by
  cases vs; cases vs0; simp_all

/-- the postcondition of the steps that bind values: the invariant for the walker's new state -/
def Step (w0 : World) (s : St) (s' : St) (A' : Sc) : Prop := TInv w0 s' A' ∧ TExt s s'

theorem sim_cloneOrGetValue {s : St} {A : Sc} (hT : TInv w0 s A) (v : Nat) :
    Sim (cloneOrGetValue v) s (wCloneOrGet w0 v A)
      (fun r s' A' => Step w0 s s' A' ∧ s'.vm.lookup v = some r) := by
  unfold cloneOrGetValue wCloneOrGet
  cases hb : A.bound.contains v with
  | true =>
    obtain ⟨b, hlk⟩ := hT.lookup_some hb
    simp only [if_true]
    refine Sim.step (m := vmGet v) (some b) s (by simp [vmGet, hlk]) ?_
    exact Sim.pure ⟨⟨hT, TExt.refl s⟩, hlk⟩
  | false =>
    have hlk := hT.lookup_none hb
    simp only [Bool.false_eq_true, if_false]
    refine Sim.step (m := vmGet v) none s (by simp [vmGet, hlk]) ?_
    simp only
    wbind (sim_readVal hT.old v) with vs s1 vs0 hq
    obtain ⟨rfl, hvs, hv0, herase⟩ := hq
    obtain ⟨e1, e2, e3, e4, e5⟩ := fields_of_erase herase
    rw [← e2, ← e3, ← e4, ← e5]
    wbind (sim_copyShape hT vs.shape) with sh s2 u2 hq2
    wbind (sim_copyType hq2.1 vs.type) with ty s3 u3 hq3
    wbind (sim_copyProps hq3.1 vs.props) with pr s4 u4 hq4
    wbind (sim_copyMeta hq4.1 vs.mstore) with me s5 u5 hq5
    have hk := hq2.trans (hq3.trans (hq4.trans hq5))
    refine Sim.step (m := alloc _) _ _ rfl ?_
    refine Sim.step (m := vmSet v _) () _ rfl ?_
    refine Sim.pure ⟨⟨?_, ?_⟩, ?_⟩
    · have hvb : v ∉ A.bound := by simpa using hb
      have := hk.1.bindNew (c := ValueS.mk vs.name vs.doc none none [] none false false false ty sh
        vs.const pr me) hv0 hvb e1 rfl rfl s5.pend
      have hp : A.pend = s5.pend := hk.1.pend.symm
      simpa [hp] using this
    · exact hk.2.1.trans (by simpa using TExt.bindNew s5 _ v s5.pend)
    · simp

theorem lookup_ext {ext l : List (Nat × Nat)} {v b : Nat} (hn : ((ext ++ l).map (·.1)).Nodup)
    (h : l.lookup v = some b) : (ext ++ l).lookup v = some b :=
  ListFacts.lookup_of_mem_nodup hn (List.mem_append_right _ (ListFacts.mem_of_lookup h))

theorem TInv.lookup_stable {s s' : St} {A' : Sc} (hT' : TInv w0 s' A') (hE : TExt s s') {v b : Nat}
    (h : s.vm.lookup v = some b) : s'.vm.lookup v = some b := by
  obtain ⟨ext, he⟩ := hE.vm
  rw [he]
  apply lookup_ext _ h
  rw [← he, hT'.keys]
  exact hT'.nodup

theorem sim_mapM' {α β : Type} {f : α → M β} {wf : α → Sc → WRes Sc} {P : α → β → St → Prop}
    (I : St → Prop) (hI : ∀ s s', I s → TExt s s' → I s')
    (stable : ∀ a b s s' A', P a b s → TInv w0 s' A' → TExt s s' → P a b s')
    (hf : ∀ a s A, TInv w0 s A → I s → Sim (f a) s (wf a A) (fun b s' A' => Step w0 s s' A' ∧ P a b s')) :
    ∀ (l : List α) (s : St) (A : Sc), TInv w0 s A → I s →
      Sim (mapM' f l) s (wFold wf l A)
        (fun bs s' A' => Step w0 s s' A' ∧ All2 (fun a b => P a b s') l bs)
  | [], s, A, hT, _ => Sim.pure ⟨⟨hT, TExt.refl s⟩, .nil⟩
  | a :: as, s, A, hT, hIs => by
    unfold mapM' wFold
    wbind (hf a s A hT hIs) with b s1 A1 hq
    refine Sim.bindLast (sim_mapM' I hI stable hf as s1 A1 hq.1.1 (hI s s1 hIs hq.1.2)) ?_
    intro bs s2 A2 hq2
    refine Sim.pure ⟨⟨hq2.1.1, hq.1.2.trans hq2.1.2⟩, .cons ?_ hq2.2⟩
    exact stable a b s1 s2 A2 hq.2 hq2.1.1 hq2.1.2

/-- the loop rule when nothing is recorded of the results -/
theorem sim_mapM'_step {α β : Type} {f : α → M β} {wf : α → Sc → WRes Sc}
    (hf : ∀ a s A, TInv w0 s A → Sim (f a) s (wf a A) (fun _ s' A' => Step w0 s s' A'))
    (l : List α) (s : St) (A : Sc) (hT : TInv w0 s A) :
    Sim (mapM' f l) s (wFold wf l A) (fun _ s' A' => Step w0 s s' A') :=
  (sim_mapM' (P := fun _ _ _ => True) (fun _ => True) (fun _ _ _ _ => trivial) (fun _ _ _ _ _ _ _ _ => trivial)
    (fun a s A hT _ => (hf a s A hT).mono fun _ _ _ h => ⟨h, trivial⟩) l s A hT trivial).mono fun _ _ _ h => h.1

theorem forall₂_stable {α β : Type} {P : α → β → St → Prop} {s s' : St} {A' : Sc}
    (stable : ∀ a b s s' A', P a b s → TInv w0 s' A' → TExt s s' → P a b s')
    (hT' : TInv w0 s' A') (hE : TExt s s') {l : List α} {bs : List β}
    (h : All2 (fun a b => P a b s) l bs) : All2 (fun a b => P a b s') l bs := by
  induction h with
  | nil => exact .nil
  | cons h1 _ ih => exact .cons (stable _ _ _ _ _ h1 hT' hE) ih

/-- the binding of a source value, as a stable fact -/
def Bound (v r : Nat) (s : St) : Prop := s.vm.lookup v = some r

theorem Bound.stable {a b : Nat} {s s' : St} {A' : Sc} (h : Bound a b s) (hT' : TInv w0 s' A')
    (hE : TExt s s') : Bound a b s' := hT'.lookup_stable hE h

def resolve (s : St) (o : Option Nat) : Option Nat := o.map fun v => (s.vm.lookup v).getD v

/-- `Sim` for a program that only reads, against the pure function it computes -/
theorem mapInputsPure_walk {allow : Bool} {s : St} {A : Sc} (hT : TInv w0 s A) :
    ∀ l : List (Option Nat), match wMapInputs allow A l with
      | .ok _ => mapInputsPure allow s l = .ok (l.map (resolve s))
      | .err e => mapInputsPure allow s l = .error e
      | .irregular _ => True
  | [] => rfl
  | none :: rest => by
    have ih := mapInputsPure_walk (allow := allow) hT rest
    unfold wMapInputs mapInputsPure
    cases h : wMapInputs allow A rest with
    | ok u => rw [h] at ih; simp only at ih ⊢; rw [ih]; rfl
    | err e => rw [h] at ih; simp only at ih ⊢; rw [ih]; rfl
    | irregular why => trivial
  | some v :: rest => by
    have ih := mapInputsPure_walk (allow := allow) hT rest
    unfold wMapInputs mapInputsPure
    cases hb : A.bound.contains v with
    | true =>
      obtain ⟨b, hlk⟩ := hT.lookup_some hb
      simp only [if_true, hlk]
      cases h : wMapInputs allow A rest with
      | ok u => rw [h] at ih; simp only at ih ⊢; rw [ih]; simp [Except.map, resolve, hlk]
      | err e => rw [h] at ih; simp only at ih ⊢; rw [ih]; rfl
      | irregular why => trivial
    | false =>
      have hlk := hT.lookup_none hb
      simp only [Bool.false_eq_true, if_false, hlk]
      cases allow with
      | false => simp
      | true =>
        simp only [if_true]
        rw [hT.pend]
        cases hp : A.pend.contains v with
        | true => simp
        | false =>
          simp only [Bool.false_eq_true, if_false]
          cases h : wMapInputs true A rest with
          | ok u => rw [h] at ih; simp only at ih ⊢; rw [ih]; simp [Except.map, resolve, hlk]
          | err e => rw [h] at ih; simp only at ih ⊢; rw [ih]; rfl
          | irregular why => trivial

theorem sim_mapInputs {allow : Bool} {s : St} {A : Sc} (hT : TInv w0 s A) (l : List (Option Nat)) :
    Sim (mapInputs allow l) s (wMapInputs allow A l)
      (fun r s' _ => s' = s ∧ r = l.map (resolve s)) := by
  have := mapInputsPure_walk (allow := allow) hT l
  cases h : wMapInputs allow A l with
  | ok u => rw [h] at this; exact ⟨_, s, by rw [mapInputs_eq_pure, this], rfl, rfl⟩
  | err e => rw [h] at this; show (mapInputs allow l s).1 = _; rw [mapInputs_eq_pure, this]
  | irregular why => trivial

theorem sim_cloneOutput {s : St} {A : Sc} (hT : TInv w0 s A) (i o : Nat) :
    Sim (cloneOutput i o) s (wOutput w0 o A) (fun r s' A' => Step w0 s s' A' ∧ Bound o r s') := by
  unfold cloneOutput wOutput
  wbind (sim_readVal hT.old o) with vs s1 vs0 hq
  obtain ⟨rfl, hvs, hv0, herase⟩ := hq
  obtain ⟨e1, e2, e3, e4, e5⟩ := fields_of_erase herase
  rw [← e2, ← e3, ← e4, ← e5]
  wbind (sim_copyShape hT vs.shape) with sh s2 u2 hq2
  wbind (sim_copyType hq2.1 vs.type) with ty s3 u3 hq3
  wbind (sim_copyProps hq3.1 vs.props) with pr s4 u4 hq4
  wbind (sim_copyMeta hq4.1 vs.mstore) with me s5 u5 hq5
  have hk := hq2.trans (hq3.trans (hq4.trans hq5))
  cases hb : A.bound.contains o with
  | true => simp only [if_true]; trivial
  | false =>
    simp only [Bool.false_eq_true, if_false]
    refine Sim.step (m := alloc _) _ _ rfl ?_
    refine Sim.step (m := vmSet o _) () _ rfl ?_
    refine Sim.step (m := pendDiscard o) () _ rfl ?_
    refine Sim.pure ⟨⟨?_, ?_⟩, ?_⟩
    · have hvb : o ∉ A.bound := by simpa using hb
      have := hk.1.bindNew (c := ValueS.mk vs.name vs.doc none (some i) [] none false false false ty sh
        vs.const pr me) hv0 hvb e1 rfl rfl (s5.pend.filter (· != o))
      have hp : A.pend = s5.pend := hk.1.pend.symm
      simpa [hp] using this
    · exact hk.2.1.trans (by simpa using TExt.bindNew s5 _ o (s5.pend.filter (· != o)))
    · simp [Bound]

theorem sim_cloneOutputs :
    ∀ (os : List Nat) (i : Nat) (s : St) (A : Sc), TInv w0 s A →
      Sim (cloneOutputs i os) s (wFold (wOutput w0) os A)
        (fun rs s' A' => Step w0 s s' A' ∧ All2 (fun o r => Bound o r s') os rs)
  | [], i, s, A, hT => by unfold cloneOutputs; exact Sim.pure ⟨⟨hT, TExt.refl s⟩, .nil⟩
  | o :: os, i, s, A, hT => by
    unfold cloneOutputs wFold
    wbind (sim_cloneOutput hT i o) with r s1 A1 hq
    refine Sim.bindLast (sim_cloneOutputs os (i + 1) s1 A1 hq.1.1) ?_
    intro rs s2 A2 hq2
    exact Sim.pure ⟨⟨hq2.1.1, hq.1.2.trans hq2.1.2⟩, .cons (hq.2.stable hq2.1.1 hq2.1.2) hq2.2⟩

theorem sim_cloneAttr {rec : Nat → M Nat} {recW : Nat → Sc → WRes Sc}
    (hrec : ∀ g s A, TInv w0 s A → Sim (rec g) s (recW g A) (fun _ s' A' => Step w0 s s' A'))
    {s : St} {A : Sc} (hT : TInv w0 s A) (key : String) (a : Nat) :
    Sim (cloneAttr rec key a) s (wAttr w0 recW a A) (fun _ s' A' => Step w0 s s' A') := by
  unfold cloneAttr wAttr
  wbind (sim_readAttr hT.old a) with as s1 as0 hq
  obtain ⟨rfl, rfl, _, _⟩ := hq
  cases hv : as.v with
  | plain p => exact Sim.pure ⟨hT, TExt.refl _⟩
  | ref p => exact Sim.pure ⟨hT, TExt.refl _⟩
  | graph g =>
    simp only
    refine Sim.bindLast (hrec g s1 A hT) ?_
    intro g' s2 A2 hq2
    refine Sim.step (m := alloc _) _ _ rfl ?_
    exact Sim.pure ⟨hq2.1.allocOther (by intro v hv; cases hv), hq2.2.trans (TExt.alloc _ _)⟩
  | graphs gs =>
    simp only
    refine Sim.bindLast (sim_mapM'_step hrec gs s1 A hT) ?_
    intro gs' s2 A2 hq2
    refine Sim.step (m := alloc _) _ _ rfl ?_
    exact Sim.pure ⟨hq2.1.allocOther (by intro v hv; cases hv), hq2.2.trans (TExt.alloc _ _)⟩

/-- a freshly cloned node: a node cell that no graph owns yet, whose outputs are the clones of the
    source node's outputs -/
def NodeImg (w0 : World) (lo : Nat) (n n' : Nat) (s : St) : Prop :=
  ∃ ns0 ns', w0[n]? = some (.node ns0) ∧ s.w[n']? = some (.node ns') ∧ ns'.graph = none ∧
    lo ≤ n' ∧ All2 (fun o o' => Bound o o' s) ns0.outputs ns'.outputs

theorem all2_bound_stable {s s' : St} {A' : Sc} (hT' : TInv w0 s' A') (hE : TExt s s') {l l' : List Nat}
    (h : All2 (fun o o' => Bound o o' s) l l') : All2 (fun o o' => Bound o o' s') l l' :=
  forall₂_stable (P := Bound) (fun _ _ _ _ _ h => h.stable) hT' hE h

theorem NodeImg.stable {lo : Nat} (n n' : Nat) (s s' : St) (A' : Sc) (h : NodeImg w0 lo n n' s)
    (hT' : TInv w0 s' A') (hE : TExt s s') : NodeImg w0 lo n n' s' := by
  obtain ⟨ns0, ns', a, b, c, d, e⟩ := h
  exact ⟨ns0, ns', a, hE.nodes _ _ b, c, d, all2_bound_stable hT' hE e⟩

theorem TInv.setVal {s : St} {A A' : Sc} (hT : TInv w0 s A) {r : Nat} {vs vs' : ValueS}
    (hr : s.w[r]? = some (.val vs)) (hnew : w0.length ≤ r)
    (hb : A'.bound = A.bound) (hp : A'.pend = A.pend)
    (hsub : ∀ v, v ∈ A'.owned ∨ v ∈ A'.produced → v ∈ A'.bound)
    (hname : vs'.name = vs.name)
    (hother : ∀ p ∈ s.vm, p.2 ≠ r → A'.owned.contains p.1 = A.owned.contains p.1 ∧
      A'.produced.contains p.1 = A.produced.contains p.1)
    (hself : ∀ p ∈ s.vm, p.2 = r → vs'.graph.isSome = A'.owned.contains p.1 ∧
      vs'.producer.isSome = A'.produced.contains p.1 ∧ ∀ x, vs'.graph = some x → x < s.w.length) :
    TInv w0 { s with w := s.w.set r (.val vs') } A' := by
  have hlt := lt_of_getElem? hr
  refine ⟨by simpa using hT.len, ?_, by rw [hb]; exact hT.keys, by rw [hb]; exact hT.nodup,
    by rw [hp]; exact hT.pend, ?_, hT.inj, ?_, hsub⟩
  · intro i c0 h
    obtain ⟨c1, h1, h2⟩ := hT.old i c0 h
    have : r ≠ i := by have := lt_of_getElem? h; omega
    exact ⟨c1, by simp only; rw [List.getElem?_set_ne this]; exact h1, h2⟩
  · intro p hp'
    obtain ⟨h2, vs1, vs2, a, b, c1, d, e, f⟩ := hT.vals p hp'
    by_cases hpr : p.2 = r
    · obtain ⟨g1, g2, g3⟩ := hself p hp' hpr
      rw [hpr] at b
      rw [hr] at b
      cases b
      refine ⟨h2, vs1, vs', a, by simp only; rw [hpr, List.getElem?_set_self hlt], hname.trans c1, g1, g2, ?_⟩
      intro x hx; simpa using g3 x hx
    · obtain ⟨g1, g2⟩ := hother p hp' hpr
      refine ⟨h2, vs1, vs2, a, ?_, c1, by rw [g1]; exact d, by rw [g2]; exact e, ?_⟩
      · simp only; rw [List.getElem?_set_ne (fun h => hpr h.symm)]; exact b
      · intro x hx; simpa using f x hx
  · intro i vs1 hi h
    simp only at h
    by_cases hir : r = i
    · subst hir
      exact hT.onto r vs hi hr
    · rw [List.getElem?_set_ne hir] at h
      exact hT.onto i vs1 hi h

theorem TExt.setVal {s : St} {r : Nat} {vs : ValueS} (hr : s.w[r]? = some (.val vs)) (c : ValueS) :
    TExt s { s with w := s.w.set r (.val c) } :=
  ⟨⟨[], rfl⟩, by simp, fun i ns h => by
    have : r ≠ i := by intro e; subst e; rw [hr] at h; cases h
    simp only; rw [List.getElem?_set_ne this]; exact h⟩

theorem TInv.pair_unique {s : St} {A : Sc} (hT : TInv w0 s A) {p q : Nat × Nat} (hp : p ∈ s.vm)
    (hq : q ∈ s.vm) (h : p.1 = q.1) : p = q := by
  have hn : (s.vm.map (·.1)).Nodup := by rw [hT.keys]; exact hT.nodup
  exact ListFacts.inj_of_nodup_map hn hp hq h

theorem Bound.mem {v r : Nat} {s : St} (h : Bound v r s) : (v, r) ∈ s.vm := ListFacts.mem_of_lookup h

theorem setProducer_eq (n' : Nat) {r : Nat} {s : St} {vs : ValueS} (h : s.w[r]? = some (.val vs)) :
    setProducer n' r s = (.ok (), { s with w := s.w.set r (.val { vs with producer := some n' }) }) :=
  modVal_eq (fun vs => { vs with producer := some n' }) h

/-- `for v in outs: v._producer = node` -/
theorem sim_setProducers (n' : Nat) :
    ∀ (os rs : List Nat) (s : St) (A : Sc), TInv w0 s A → All2 (fun o r => Bound o r s) os rs →
      ∃ s', forM' (setProducer n') rs s = (.ok (), s') ∧
        TInv w0 s' { A with produced := os.reverse ++ A.produced } ∧ TExt s s' ∧ s'.vm = s.vm
  | [], [], s, A, hT, _ => ⟨s, rfl, by simpa using hT, TExt.refl s, rfl⟩
  | o :: os, r :: rs, s, A, hT, .cons h t => by
    have hmem := h.mem
    obtain ⟨hnew, vs0, vs, a, b, c1, d, e, f⟩ := hT.vals _ hmem
    simp only at hnew b d e f
    have hT1 : TInv w0 { s with w := s.w.set r (.val { vs with producer := some n' }) }
        { A with produced := o :: A.produced } := by
      refine hT.setVal b hnew rfl rfl ?_ rfl ?_ ?_
      · intro v hv
        rcases hv with hv | hv
        · exact hT.sub v (.inl hv)
        · rcases List.mem_cons.mp hv with hv | hv
          · rw [hv]
            have : o ∈ s.vm.map (·.1) := List.mem_map.mpr ⟨(o, r), hmem, rfl⟩
            rw [hT.keys] at this
            exact this
          · exact hT.sub v (.inr hv)
      · intro p hp hpr
        refine ⟨rfl, ?_⟩
        have : p.1 ≠ o := by
          intro hpo
          have := hT.pair_unique hp hmem hpo
          rw [this] at hpr
          exact hpr rfl
        simp [this]
      · intro p hp hpr
        have : p = (o, r) := hT.inj p hp _ hmem hpr
        subst this
        exact ⟨d, by simp, f⟩
    have hE1 : TExt s { s with w := s.w.set r (.val { vs with producer := some n' }) } := TExt.setVal b _
    have t' : All2 (fun o r => Bound o r { s with w := s.w.set r (.val { vs with producer := some n' }) }) os rs := by
      exact all2_bound_stable hT1 hE1 t
    obtain ⟨s', h1, h2, h3, h4⟩ := sim_setProducers n' os rs _ _ hT1 t'
    refine ⟨s', ?_, ?_, hE1.trans h3, h4⟩
    · rw [forM'_cons_ok (setProducer_eq n' b)]
      exact h1
    · simpa [List.reverse_cons, List.append_assoc] using h2

theorem TInv.setUses {s : St} {A : Sc} (hT : TInv w0 s A) {v : Nat} {vs : ValueS}
    (hv : s.w[v]? = some (.val vs)) (us : List (Nat × Nat)) :
    TInv w0 { s with w := s.w.set v (.val { vs with uses := us }) } A := by
  have hlt := lt_of_getElem? hv
  refine ⟨by simpa using hT.len, ?_, hT.keys, hT.nodup, hT.pend, ?_, hT.inj, ?_, hT.sub⟩
  · intro i c0 h
    obtain ⟨c1, h1, h2⟩ := hT.old i c0 h
    by_cases hvi : v = i
    · subst hvi
      rw [hv] at h1
      cases h1
      exact ⟨.val { vs with uses := us }, by simp only; rw [List.getElem?_set_self hlt], h2⟩
    · exact ⟨c1, by simp only; rw [List.getElem?_set_ne hvi]; exact h1, h2⟩
  · intro p hp'
    obtain ⟨h2, vs1, vs2, a, b, c1, d, e, f⟩ := hT.vals p hp'
    by_cases hpr : p.2 = v
    · rw [hpr, hv] at b
      cases b
      exact ⟨h2, vs1, { vs with uses := us }, a, by simp only; rw [hpr, List.getElem?_set_self hlt], c1, d, e,
        fun x hx => by simpa using f x hx⟩
    · refine ⟨h2, vs1, vs2, a, ?_, c1, d, e, fun x hx => by simpa using f x hx⟩
      simp only; rw [List.getElem?_set_ne (fun h => hpr h.symm)]; exact b
  · intro i vs1 hi h
    simp only at h
    by_cases hir : v = i
    · subst hir
      exact hT.onto v vs hi hv
    · rw [List.getElem?_set_ne hir] at h
      exact hT.onto i vs1 hi h

theorem addUse_eq (n i : Nat) {v : Nat} {s : St} {vs : ValueS} (h : s.w[v]? = some (.val vs)) :
    addUse v n i s = (.ok (), { s with w := s.w.set v (.val { vs with uses := if vs.uses.contains (n, i) then vs.uses else vs.uses ++ [(n, i)] }) }) :=
  modVal_eq (fun vs => { vs with uses := if vs.uses.contains (n, i) then vs.uses else vs.uses ++ [(n, i)] }) h

theorem Keep.setUses {s : St} {A : Sc} (hT : TInv w0 s A) {v : Nat} {vs : ValueS}
    (hv : s.w[v]? = some (.val vs)) (us : List (Nat × Nat)) :
    Keep w0 A s { s with w := s.w.set v (.val { vs with uses := us }) } :=
  ⟨hT.setUses hv us, TExt.setVal hv _, rfl⟩

/-- two states: the inputs were resolved in `s0` (before the node's outputs were bound), the uses are
    added in the later `s` -/
theorem sim_addUses (n' : Nat) {s0 : St} {A0 : Sc} (hT0 : TInv w0 s0 A0) :
    ∀ (l : List (Option Nat)) (i : Nat) (s : St) (A : Sc), TInv w0 s A → TExt s0 s →
      Sim (addUses n' i (l.map (resolve s0))) s (wPassthrough w0 A0 l) (fun _ s' _ => Keep w0 A s s')
  | [], i, s, A, hT, _ => Sim.pure (Keep.refl hT)
  | none :: rest, i, s, A, hT, hE => by
    simp only [List.map_cons, resolve, Option.map_none]
    unfold addUses wPassthrough
    exact sim_addUses n' hT0 rest (i + 1) s A hT hE
  | some v :: rest, i, s, A, hT, hE => by
    simp only [List.map_cons, resolve, Option.map_some]
    unfold addUses wPassthrough
    cases hb : A0.bound.contains v with
    | true =>
      obtain ⟨b, hlk⟩ := hT0.lookup_some hb
      simp only [if_true, hlk, Option.getD_some]
      have hmem0 : (v, b) ∈ s0.vm := ListFacts.mem_of_lookup hlk
      have hmem : (v, b) ∈ s.vm := by
        obtain ⟨ext, he⟩ := hE.vm
        rw [he]; exact List.mem_append_right _ hmem0
      obtain ⟨_, vs0, vs, _, hb', _⟩ := hT.vals _ hmem
      refine Sim.step (m := addUse b n' i) () _ (addUse_eq n' i hb') ?_
      have hk := Keep.setUses hT hb' (if vs.uses.contains (n', i) then vs.uses else vs.uses ++ [(n', i)])
      exact (sim_addUses n' hT0 rest (i + 1) _ A hk.1 (hE.trans hk.2.1)).mono
        (fun _ _ _ h => hk.trans h)
    | false =>
      have hlk := hT0.lookup_none hb
      simp only [Bool.false_eq_true, if_false, hlk, Option.getD_none]
      have hadd : Sim (addUse v n' i) s (wVal w0 v) (fun _ s' _ => Keep w0 A s s') := by
        unfold addUse
        refine Sim.bindLast (sim_readVal hT.old v) ?_
        intro vs s1 vs0 hq
        obtain ⟨rfl, hvs, _, _⟩ := hq
        exact ⟨(), _, rfl, Keep.setUses hT hvs _⟩
      wbind hadd with u s1 c hq
      exact (sim_addUses n' hT0 rest (i + 1) s1 A hq.1 (hE.trans hq.2.1)).mono
        (fun _ _ _ h => hq.trans h)


theorem TInv.lookup_isNone {s : St} {A : Sc} (hT : TInv w0 s A) (v : Nat) :
    (s.vm.lookup v).isNone = !A.bound.contains v := by
  cases hb : A.bound.contains v with
  | true => obtain ⟨b, hlk⟩ := hT.lookup_some hb; rw [hlk]; rfl
  | false => rw [hT.lookup_none hb]; rfl

theorem sim_checkSpecs {allow : Bool} {s : St} {A : Sc} (hT : TInv w0 s A) (ns : NodeS) :
    Sim (checkSpecs allow ns s.vm) s
      (if !allow && ns.dev.any (fun c => c.specs.any fun sp => match sp.value with
          | none => false
          | some v => !ns.inputs.contains (some v) && !ns.outputs.contains v && !A.bound.contains v)
        then WRes.err (.raised "sharding spec targets an outer-scope value") else WRes.ok ())
      (fun _ s' _ => s' = s) := by
  have heq : (fun (c : DevCfg) => c.specs.any (specOuter ns s.vm)) =
      (fun (c : DevCfg) => c.specs.any fun sp => match sp.value with
          | none => false
          | some v => !ns.inputs.contains (some v) && !ns.outputs.contains v && !A.bound.contains v) := by
    funext c
    congr 1
    funext sp
    unfold specOuter
    cases sp.value with
    | none => rfl
    | some v => simp only [hT.lookup_isNone v]
  unfold checkSpecs
  rw [heq]
  split
  · rfl
  · exact ⟨(), s, rfl, rfl⟩

theorem TInv.setCreated {s : St} {A : Sc} (hT : TInv w0 s A) (cr : List Nat) :
    TInv w0 { s with created := cr } A :=
  ⟨hT.len, hT.old, hT.keys, hT.nodup, hT.pend, hT.vals, hT.inj, hT.onto, hT.sub⟩

theorem allocNode_eq (c : NodeS) (s : St) :
    allocNode c s = (.ok s.w.length, { s with w := s.w ++ [.node c], created := s.created ++ [s.w.length] }) := rfl

/-- what is known of the outputs and of the new node cell when they are made has to hold in the final
    state: the extensions of the single steps are composed along the way -/
theorem sim_cloneNode {allow : Bool} {rec : Nat → M Nat} {recW : Nat → Sc → WRes Sc}
    (hrec : ∀ g s A, TInv w0 s A → Sim (rec g) s (recW g A) (fun _ s' A' => Step w0 s s' A'))
    {s : St} {A : Sc} (hT : TInv w0 s A) (n : Nat) :
    Sim (cloneNode allow rec n) s (wNode w0 allow recW n A)
      (fun n' s' A' => Step w0 s s' A' ∧ NodeImg w0 s.w.length n n' s') := by
  unfold cloneNode wNode
  wbind (sim_readNode hT.old n) with ns s1 ns0 hq
  obtain ⟨rfl, rfl, _, hn0⟩ := hq
  wbind (sim_mapInputs (allow := allow) hT ns.inputs) with ins s2 u hq2
  obtain ⟨rfl, rfl⟩ := hq2
  wbind (sim_mapM'_step (fun (ka : String × Nat) s A hT => sim_cloneAttr hrec hT ka.1 ka.2) ns.attrs s2 A hT)
    with attrs s3 A1 hq3
  wbind (sim_copyProps hq3.1 ns.props) with pr s4 u4 hq4
  wbind (sim_copyMeta hq4.1 ns.mstore) with me s5 u5 hq5
  wbind (sim_cloneOutputs ns.outputs 0 s5 A1 hq5.1) with outs s6 A2 hq6
  have hE16 : TExt s2 s6 := hq3.2.trans (hq4.2.1.trans (hq5.2.1.trans hq6.1.2))
  -- sharding specs on outer-scope values
  refine Sim.step (m := getVm) s6.vm s6 rfl ?_
  wbind (sim_checkSpecs (allow := allow) hq6.1.1 ns) with u0 s6x c0 hq6x
  subst s6x
  refine Sim.step (m := allocNode _) _ _ (allocNode_eq _ s6) ?_
  generalize hc : (NodeS.mk ns.name ns.doc ns.domain ns.opType ns.overload ns.version
    (ns.inputs.map (resolve s2)) outs (dictOf attrs) none
    (remapDev (ioMap ns.inputs (ns.inputs.map (resolve s2)) ns.outputs outs ++ s6.vm) ns.dev) pr me) = c
  have hT7 := (hq6.1.1.allocOther (c := .node c) (by intro v hv; cases hv)).setCreated (s6.created ++ [s6.w.length])
  have hE7 := TExt.alloc s6 (.node c)
  have hE7' : TExt s6 { s6 with w := s6.w ++ [.node c], created := s6.created ++ [s6.w.length] } :=
    ⟨hE7.vm, hE7.len, hE7.nodes⟩
  have houts7 := all2_bound_stable hT7 hE7' hq6.2
  obtain ⟨s8, h8, hT8, hE8, hvm8⟩ := sim_setProducers s6.w.length ns.outputs outs _ _ hT7 houts7
  refine Sim.step (m := forM' (setProducer s6.w.length) outs) () s8 h8 ?_
  wbind (sim_addUses s6.w.length hT ns.inputs 0 s8 _ hT8 (hE16.trans (hE7'.trans hE8))) with u9 s9 c9 hq9
  have hE69 : TExt s6 s9 := hE7'.trans (hE8.trans hq9.2.1)
  refine Sim.pure ⟨⟨hq9.1, hE16.trans hE69⟩, ?_⟩
  refine ⟨ns, c, hn0, ?_, by rw [← hc], hE16.len, ?_⟩
  · exact hq9.2.1.nodes _ _ (hE8.nodes _ _ (by simp))
  · rw [← hc]
    exact all2_bound_stable hq9.1 (hE8.trans hq9.2.1) houts7


theorem sim_allOutputs {s : St} {A : Sc} (hT : TInv w0 s A) :
    ∀ l : List Nat, Sim (allOutputs l) s (wAllOutputs w0 l) (fun r s' r0 => s' = s ∧ r = r0)
  | [] => Sim.pure ⟨rfl, rfl⟩
  | n :: ns => by
    unfold allOutputs wAllOutputs
    wbind (sim_readNode hT.old n) with x s1 x0 hq
    obtain ⟨rfl, rfl, _, _⟩ := hq
    wbind (sim_allOutputs hT ns) with r s2 r0 hq2
    obtain ⟨rfl, rfl⟩ := hq2
    exact Sim.pure ⟨rfl, rfl⟩

theorem TInv.setPend {s : St} {A : Sc} (hT : TInv w0 s A) (pd : List Nat) :
    TInv w0 { s with pend := pd } { A with pend := pd } :=
  ⟨hT.len, hT.old, hT.keys, hT.nodup, rfl, hT.vals, hT.inj, hT.onto, hT.sub⟩

theorem sim_getMapped {s : St} {A : Sc} (hT : TInv w0 s A) :
    ∀ l : List Nat, Sim (mapM' getMapped l) s
      (wAll (fun v => if A.bound.contains v then WRes.ok () else .err (.raised "graph output is not in the value map")) l)
      (fun r s' _ => s' = s ∧ All2 (fun v b => Bound v b s) l r)
  | [] => Sim.pure ⟨rfl, .nil⟩
  | v :: vs => by
    unfold mapM' wAll
    cases hb : A.bound.contains v with
    | true =>
      obtain ⟨b, hlk⟩ := hT.lookup_some hb
      simp only [if_true]
      refine Sim.step (m := getMapped v) b s ?_ ?_
      · unfold getMapped
        show M.bind (vmGet v) _ s = _
        simp [M.bind, vmGet, hlk, pure, M.pure]
      · show Sim _ s (wAll _ vs) _
        refine Sim.bindLast (sim_getMapped hT vs) ?_
        intro r s1 _ hq
        obtain ⟨rfl, hr⟩ := hq
        exact Sim.pure ⟨rfl, .cons hlk hr⟩
    | false =>
      have hlk := hT.lookup_none hb
      simp only [Bool.false_eq_true, if_false]
      have : getMapped v s = (.error (.raised "graph output is not in the value map"), s) := by
        unfold getMapped
        show M.bind (vmGet v) _ s = _
        simp [M.bind, vmGet, hlk, raise, fail]
      show ((getMapped v >>= _) s).1 = _
      rw [bind_err this]

theorem wAll_eq_ok_iff {α : Type} {f : α → WRes Unit} {l : List α} :
    wAll f l = .ok () ↔ ∀ a ∈ l, f a = .ok () := by
  induction l with
  | nil => simp [wAll]
  | cons x xs ih =>
    rw [wAll, List.forall_mem_cons, ← ih]
    cases f x <;> simp [WRes.bind]

theorem wAll_dich {α : Type} {f : α → WRes Unit} : ∀ {l : List α},
    (∀ a, a ∈ l → f a = .ok () ∨ ∃ why, f a = .err (.raised why)) →
    wAll f l = .ok () ∨ ∃ why, wAll f l = .err (.raised why)
  | [], _ => Or.inl rfl
  | a :: l, h => by
    rcases h a List.mem_cons_self with ha | ⟨why, ha⟩
    · rcases wAll_dich (l := l) (fun b hb => h b (List.mem_cons_of_mem _ hb)) with hl | ⟨why, hl⟩
      · left; rw [wAll, ha]; exact hl
      · right; exact ⟨why, by rw [wAll, ha]; exact hl⟩
    · right; exact ⟨why, by rw [wAll, ha]; rfl⟩

theorem wAll_raises {α : Type} {f : α → WRes Unit} {l : List α}
    (h : ∀ a, a ∈ l → f a = .ok () ∨ ∃ why, f a = .err (.raised why)) (hne : ∃ a, a ∈ l ∧ f a ≠ .ok ()) :
    ∃ why, wAll f l = .err (.raised why) :=
  (wAll_dich h).resolve_left fun hok => let ⟨a, ha, hn⟩ := hne; hn (wAll_eq_ok_iff.1 hok a ha)

/-- the outcome `x` of a check run in `s` is what the walker's check `r` says, and the state stays -/
def ReadsAs {γ : Type} (r : WRes γ) (x : Except Err Unit × St) (s : St) : Prop :=
  match r with
  | .ok _ => x = (.ok (), s)
  | .err e => x = (.error e, s)
  | .irregular _ => True

/-- a loop of checks that do not change the state, against the walker's loop over the sources -/
theorem forM'_readonly {α β : Type} {f : β → M Unit} {wf : α → WRes Unit} {s : St} :
    ∀ {l : List α} {l' : List β}, All2 (fun a b => ReadsAs (wf a) (f b s) s) l l' →
      ReadsAs (wAll wf l) (forM' f l' s) s
  | _, _, .nil => rfl
  | _, _, .cons (a := a) (b := b) (as := as) (bs := bs) h t => by
    have ih := forM'_readonly (f := f) (wf := wf) (s := s) t
    unfold wAll
    cases hx : wf a with
    | ok u =>
      rw [hx] at h
      simp only [WRes.bind]
      rw [forM'_cons_ok h]
      exact ih
    | err e =>
      rw [hx] at h
      simp only [WRes.bind]
      exact forM'_cons_err h
    | irregular w => trivial

theorem sim_of_readonly {α β : Type} {f : β → M Unit} {wf : α → WRes Unit} {s : St} {l : List α} {l' : List β}
    (h : All2 (fun a b => ReadsAs (wf a) (f b s) s) l l') :
    Sim (forM' f l') s (wAll wf l) (fun _ s' _ => s' = s ∧ ∀ a ∈ l, wf a = .ok ()) := by
  have := forM'_readonly h
  cases hx : wAll wf l with
  | ok u => rw [hx] at this; exact ⟨(), s, this, rfl, wAll_eq_ok_iff.1 (by cases u; exact hx)⟩
  | err e => rw [hx] at this; show (forM' f l' s).1 = _; rw [this]
  | irregular w => trivial

theorem all2_mem_left {α β : Type} {R : α → β → Prop} :
    ∀ {l : List α} {l' : List β}, All2 R l l' → ∀ b ∈ l', ∃ a ∈ l, R a b
  | _, _, .nil, b, hb => by cases hb
  | _, _, .cons r t, b, hb => by
    rcases List.mem_cons.mp hb with h | h
    · subst h; exact ⟨_, List.mem_cons_self, r⟩
    · obtain ⟨a, ha, hr⟩ := all2_mem_left t b h
      exact ⟨a, List.mem_cons_of_mem _ ha, hr⟩


/-- `g'` is the graph being constructed, `mine` the source values whose clones it owns already (the
    walker adds them to `owned` only at the end of `wMkGraph`, hence `A.owned ++ mine`) -/
structure GInv (w0 : World) (s : St) (A : Sc) (g' : Nat) (mine : List Nat) : Prop where
  t : TInv w0 s { A with owned := A.owned ++ mine }
  mineOwn : ∀ p ∈ s.vm, ∀ vs', s.w[p.2]? = some (.val vs') →
    (mine.contains p.1 = true → vs'.graph = some g') ∧ (mine.contains p.1 = false → vs'.graph ≠ some g')
  disj : ∀ v ∈ mine, A.owned.contains v = false
  glt : g' < s.w.length

/-- what the checks of the containers see of the clone `b` of the source value `v` -/
theorem GInv.facts {s : St} {A : Sc} {g' : Nat} {mine : List Nat} (hG : GInv w0 s A g' mine) {v b : Nat}
    (h : Bound v b s) :
    ∃ vs0 vs', w0[v]? = some (.val vs0) ∧ s.w[b]? = some (.val vs') ∧ vs'.name = vs0.name ∧
      (vs'.graph.isSome && vs'.graph != some g') = A.owned.contains v ∧
      vs'.producer.isSome = A.produced.contains v := by
  have hmem := h.mem
  obtain ⟨_, vs0, vs', a, b', c1, d, e, f⟩ := hG.t.vals _ hmem
  simp only at a b' d e
  obtain ⟨m1, m2⟩ := hG.mineOwn _ hmem vs' b'
  simp only at m1 m2
  refine ⟨vs0, vs', a, b', c1, ?_, e⟩
  cases hm : mine.contains v with
  | true =>
    rw [m1 hm, hG.disj v (by simpa using hm)]
    simp
  | false =>
    have hne := m2 hm
    rw [List.contains_append, hm, Bool.or_false] at d
    rw [← d]
    have : (vs'.graph != some g') = true := by simpa using hne
    rw [this, Bool.and_true]

theorem checkInput_eq {s : St} {g' b : Nat} {vs' : ValueS} (hb : s.w[b]? = some (.val vs')) :
    checkInput g' b s = (if vs'.graph.isSome && vs'.graph != some g' then
        (.error (.raised "input owned by a different graph"), s)
      else if vs'.producer.isSome then (.error (.raised "input is produced by a node"), s) else (.ok (), s)) := by
  unfold checkInput
  show M.bind (readVal b) _ s = _
  simp only [M.bind, readVal, hb]
  split
  · rfl
  · split <;> rfl

theorem checkOwned_eq {s : St} {g' b : Nat} {vs' : ValueS} (hb : s.w[b]? = some (.val vs')) :
    checkOwned g' b s = (if vs'.graph.isSome && vs'.graph != some g' then
        (.error (.raised "value owned by a different graph"), s) else (.ok (), s)) := by
  unfold checkOwned
  show M.bind (readVal b) _ s = _
  simp only [M.bind, readVal, hb]
  split <;> rfl

theorem checkNamed_eq {s : St} {b : Nat} {vs' : ValueS} (hb : s.w[b]? = some (.val vs')) :
    checkNamed b s = (if vs'.name.isNone then (.error (.unsupported "unnamed value (name authority)"), s)
      else (.ok (), s)) := by
  unfold checkNamed
  show M.bind (readVal b) _ s = _
  simp only [M.bind, readVal, hb]
  split <;> rfl

theorem wName_of {v : Nat} {vs0 : ValueS} (h : w0[v]? = some (.val vs0)) : wName w0 v = vs0.name := by
  simp [wName, h]

theorem GInv.checkInputs {s : St} {A : Sc} {g' : Nat} {mine : List Nat} (hG : GInv w0 s A g' mine)
    {l l' : List Nat} (h : All2 (fun v b => Bound v b s) l l') :
    Sim (forM' (checkInput g') l') s
      (wAll (fun v => if A.owned.contains v then WRes.err (.raised "input owned by a different graph")
        else if A.produced.contains v then .err (.raised "input is produced by a node") else .ok ()) l)
      (fun _ s' _ => s' = s ∧ ∀ v ∈ l, A.owned.contains v = false) := by
  refine (sim_of_readonly (f := checkInput g') ?_).mono (fun _ _ _ hq => ⟨hq.1, fun v hv => ?_⟩)
  rotate_left
  · have := hq.2 v hv
    cases ho : A.owned.contains v with
    | true => rw [ho] at this; simp at this
    | false => rfl
  refine All2.mono ?_ h
  intro v b hb
  obtain ⟨vs0, vs', _, b', _, d, e⟩ := hG.facts hb
  rw [checkInput_eq b', d, e]
  cases A.owned.contains v <;> cases A.produced.contains v <;> simp [ReadsAs]

theorem GInv.checkOwneds {s : St} {A : Sc} {g' : Nat} {mine : List Nat} (hG : GInv w0 s A g' mine)
    {l l' : List Nat} (h : All2 (fun v b => Bound v b s) l l') :
    Sim (forM' (checkOwned g') l') s
      (wAll (fun v => if A.owned.contains v then WRes.err (.raised "value owned by a different graph")
        else .ok ()) l)
      (fun _ s' _ => s' = s ∧ ∀ v ∈ l, A.owned.contains v = false) := by
  refine (sim_of_readonly (f := checkOwned g') ?_).mono (fun _ _ _ hq => ⟨hq.1, fun v hv => ?_⟩)
  rotate_left
  · have := hq.2 v hv
    cases ho : A.owned.contains v with
    | true => rw [ho] at this; simp at this
    | false => rfl
  refine All2.mono ?_ h
  intro v b hb
  obtain ⟨vs0, vs', _, b', _, d, e⟩ := hG.facts hb
  rw [checkOwned_eq b', d]
  cases A.owned.contains v <;> simp [ReadsAs]

theorem GInv.checkNameds {s : St} {A : Sc} {g' : Nat} {mine : List Nat} (hG : GInv w0 s A g' mine)
    {l l' : List Nat} (h : All2 (fun v b => Bound v b s) l l') :
    Sim (forM' checkNamed l') s
      (wAll (fun v => if (wName w0 v).isNone then WRes.err (.unsupported "unnamed value (name authority)")
        else .ok ()) l)
      (fun _ s' _ => s' = s) := by
  refine (sim_of_readonly (f := checkNamed) ?_).mono (fun _ _ _ hq => hq.1)
  refine All2.mono ?_ h
  intro v b hb
  obtain ⟨vs0, vs', a, b', c1, _, _⟩ := hG.facts hb
  rw [checkNamed_eq b', wName_of a, c1]
  cases vs0.name <;> simp [ReadsAs]

theorem setValueOwner_eq {s : St} {g' b : Nat} {vs' : ValueS} (f : ValueS → ValueS)
    (hb : s.w[b]? = some (.val vs')) :
    setValueOwner g' f b s = (.ok (), { s with w := s.w.set b (.val (f { vs' with graph := some g' })) }) :=
  modVal_eq (fun vs => f { vs with graph := some g' }) hb

theorem GInv.setOwners {A : Sc} {g' : Nat} (f : ValueS → ValueS)
    (hf : ∀ x, (f x).name = x.name ∧ (f x).graph = x.graph ∧ (f x).producer = x.producer) :
    ∀ (l l' : List Nat) (s : St) (mine : List Nat), GInv w0 s A g' mine →
      All2 (fun v b => Bound v b s) l l' → (∀ v ∈ l, A.owned.contains v = false) →
      ∃ s', forM' (setValueOwner g' f) l' s = (.ok (), s') ∧ GInv w0 s' A g' (l.reverse ++ mine) ∧
        TExt s s' ∧ s'.vm = s.vm
  | [], [], s, mine, hG, _, _ => ⟨s, rfl, by simpa using hG, TExt.refl s, rfl⟩
  | v :: l, b :: l', s, mine, hG, .cons h t, hown => by
    have hmem := h.mem
    obtain ⟨hnew, vs0, vs', a, hb, c1, d, e, fx⟩ := hG.t.vals _ hmem
    simp only at hnew a hb d e fx
    obtain ⟨f1, f2, f3⟩ := hf { vs' with graph := some g' }
    have hvb : v ∈ A.bound := by
      have : v ∈ s.vm.map (·.1) := List.mem_map.mpr ⟨(v, b), hmem, rfl⟩
      rw [hG.t.keys] at this
      exact this
    have hne : ∀ p ∈ s.vm, p.2 ≠ b → p.1 ≠ v := by
      intro p hp hpb hpv
      have := hG.t.pair_unique hp hmem hpv
      rw [this] at hpb
      exact hpb rfl
    have hT1 : TInv w0 { s with w := s.w.set b (.val (f { vs' with graph := some g' })) }
        { A with owned := A.owned ++ (v :: mine) } := by
      refine hG.t.setVal hb hnew rfl rfl ?_ f1 ?_ ?_
      · intro x hx
        rcases hx with hx | hx
        · rcases List.mem_append.mp hx with hx | hx
          · exact hG.t.sub x (.inl (List.mem_append_left _ hx))
          · rcases List.mem_cons.mp hx with hx | hx
            · rw [hx]; exact hvb
            · exact hG.t.sub x (.inl (List.mem_append_right _ hx))
        · exact hG.t.sub x (.inr hx)
      · intro p hp hpb
        refine ⟨?_, rfl⟩
        have := hne p hp hpb
        rw [List.contains_append, List.contains_append]
        simp [this]
      · intro p hp hpb
        have : p = (v, b) := hG.t.inj p hp _ hmem hpb
        subst this
        refine ⟨?_, by rw [f3]; exact e, ?_⟩
        · rw [f2, List.contains_append]; simp
        · intro x hx
          rw [f2] at hx
          cases hx
          simpa using hG.glt
    have hE1 := TExt.setVal hb (f { vs' with graph := some g' })
    have hG1 : GInv w0 { s with w := s.w.set b (.val (f { vs' with graph := some g' })) } A g' (v :: mine) := by
      refine ⟨hT1, ?_, ?_, by simpa using hG.glt⟩
      · intro p hp vs2 h2
        simp only at h2
        by_cases hpb : p.2 = b
        · have : p = (v, b) := hG.t.inj p hp _ hmem hpb
          subst this
          rw [List.getElem?_set_self (lt_of_getElem? hb)] at h2
          cases h2
          exact ⟨fun _ => f2, fun hc => by simp at hc⟩
        · rw [List.getElem?_set_ne (fun h => hpb h.symm)] at h2
          obtain ⟨m1, m2⟩ := hG.mineOwn p hp vs2 h2
          have := hne p hp hpb
          refine ⟨fun hc => m1 ?_, fun hc => m2 ?_⟩
          · simpa [this] using hc
          · simpa [this] using hc
      · intro x hx
        rcases List.mem_cons.mp hx with hx | hx
        · rw [hx]; exact hown v List.mem_cons_self
        · exact hG.disj x hx
    obtain ⟨s', h1, h2, h3, h4⟩ := GInv.setOwners f hf l l' _ (v :: mine) hG1
      (all2_bound_stable hT1 hE1 t) (fun x hx => hown x (List.mem_cons_of_mem _ hx))
    refine ⟨s', ?_, ?_, hE1.trans h3, h4⟩
    · rw [forM'_cons_ok (setValueOwner_eq f hb)]
      exact h1
    · simpa [List.reverse_cons, List.append_assoc] using h2

def nameOf (w0 : World) (v : Nat) : String := (wName w0 v).getD ""

/-- what `{init.name: init for init in initializers}` builds, read off the source names -/
def entFold (w0 : World) : List (String × Nat) → List Nat → List Nat → List (String × Nat)
  | acc, v :: l, b :: l' => entFold w0 (dictSet acc (nameOf w0 v) b) l l'
  | acc, _, _ => acc

theorem sim_initEntries {s : St} :
    ∀ {l l' : List Nat}, All2 (fun v b => ∃ vs', s.w[b]? = some (.val vs') ∧ vs'.name = wName w0 v) l l' →
      ∀ acc, Sim (initEntries acc l') s
        (wAll (fun v => match wName w0 v with
          | none => WRes.err (.raised "initializer without a name")
          | some _ => .ok ()) l)
        (fun r s' _ => s' = s ∧ r = entFold w0 acc l l' ∧ ∀ v ∈ l, (wName w0 v).isSome)
  | _, _, .nil, acc => Sim.pure ⟨rfl, rfl, fun _ h => by cases h⟩
  | _, _, .cons (a := v) (b := b) (as := l) (bs := l') h t, acc => by
    obtain ⟨vs', hb, hname⟩ := h
    unfold initEntries wAll
    refine Sim.step (m := readVal b) vs' s (by simp [readVal, hb]) ?_
    rw [hname]
    cases hn : wName w0 v with
    | none =>
      show ((raise _ : M _) s).1 = _
      rfl
    | some nm =>
      simp only [WRes.bind]
      have := sim_initEntries t (dictSet acc nm b)
      refine this.mono ?_
      intro r s' _ hq
      refine ⟨hq.1, ?_, ?_⟩
      · rw [hq.2.1]
        simp [entFold, nameOf, hn]
      · intro x hx
        rcases List.mem_cons.mp hx with h1 | h1
        · rw [h1, hn]; rfl
        · exact hq.2.2 x h1

theorem dictSet_fresh {β : Type} (acc : List (String × β)) (k : String) (v : β)
    (h : ∀ e ∈ acc, e.1 ≠ k) : dictSet acc k v = acc ++ [(k, v)] :=
  dictSet_append_new acc k v (List.any_eq_false.mpr fun e he => by simpa using h e he)

theorem distinct_cons {a : String} {as : List String} (h : distinct (a :: as) = true) :
    a ∉ as ∧ distinct as = true := by
  unfold distinct at h
  rw [Bool.and_eq_true] at h
  exact ⟨by simpa using h.1, h.2⟩

theorem entFold_eq {R : Nat → Nat → Prop} :
    ∀ {l l' : List Nat}, All2 R l l' → ∀ acc : List (String × Nat),
      distinct (l.map (nameOf w0)) = true → (∀ e ∈ acc, e.1 ∉ l.map (nameOf w0)) →
      entFold w0 acc l l' = acc ++ (l.map (nameOf w0)).zip l'
  | _, _, .nil, acc, _, _ => by simp [entFold]
  | _, _, .cons (a := v) (b := b) (as := l) (bs := l') _ t, acc, hd, hacc => by
    simp only [List.map_cons] at hd hacc
    obtain ⟨hv, hd'⟩ := distinct_cons hd
    unfold entFold
    rw [dictSet_fresh acc (nameOf w0 v) b (fun e he heq => hacc e he (by rw [heq]; exact List.mem_cons_self))]
    rw [entFold_eq t _ hd']
    · simp [List.append_assoc]
    · intro e he hmem
      rcases List.mem_append.mp he with h1 | h1
      · exact hacc e h1 (List.mem_cons_of_mem _ hmem)
      · simp at h1
        rw [h1] at hmem
        exact hv hmem

theorem all2_zip_names {R : Nat → Nat → Prop} (f : Nat → String) :
    ∀ {l l' : List Nat}, All2 R l l' → All2 (fun v (e : String × Nat) => e.1 = f v ∧ R v e.2) l ((l.map f).zip l')
  | _, _, .nil => .nil
  | _, _, .cons h t => .cons ⟨rfl, h⟩ (all2_zip_names f t)

theorem all2_zip_snd {R : Nat → Nat → Prop} (f : Nat → String) :
    ∀ {l l' : List Nat}, All2 R l l' → ((l.map f).zip l').map (·.2) = l'
  | _, _, .nil => rfl
  | _, _, .cons _ t => by simp [all2_zip_snd f t]

theorem checkInitEntry_eq {s : St} {e : String × Nat} {vs' : ValueS} (hb : s.w[e.2]? = some (.val vs')) :
    checkInitEntry e s = (if e.1 = "" then (.error (.raised "initializer with an empty name"), s)
      else if vs'.producer.isSome then (.error (.raised "initializer produced by a node"), s) else (.ok (), s)) := by
  unfold checkInitEntry
  show M.bind (readVal e.2) _ s = _
  simp only [M.bind, readVal, hb]
  split
  · rfl
  · split <;> rfl

theorem GInv.checkInitEntries {s : St} {A : Sc} {g' : Nat} {mine : List Nat} (hG : GInv w0 s A g' mine)
    {l l' : List Nat} (h : All2 (fun v b => Bound v b s) l l')
    (hnamed : ∀ v ∈ l, (wName w0 v).isSome) :
    Sim (forM' checkInitEntry ((l.map (nameOf w0)).zip l')) s
      (wAll (fun v => if wName w0 v = some "" then WRes.err (.raised "initializer with an empty name")
        else if A.produced.contains v then .err (.raised "initializer produced by a node") else .ok ()) l)
      (fun _ s' _ => s' = s) := by
  refine (sim_of_readonly (f := checkInitEntry) ?_).mono (fun _ _ _ hq => hq.1)
  have h2 := all2_zip_names (nameOf w0) h
  -- membership is needed for `hnamed`
  have key : ∀ {l l' : List Nat} {es : List (String × Nat)}, (∀ v ∈ l, (wName w0 v).isSome) →
      All2 (fun v (e : String × Nat) => e.1 = nameOf w0 v ∧ Bound v e.2 s) l es →
      All2 (fun v (e : String × Nat) =>
        ReadsAs (if wName w0 v = some "" then WRes.err (.raised "initializer with an empty name")
          else if A.produced.contains v then .err (.raised "initializer produced by a node") else .ok ())
          (checkInitEntry e s) s) l es := by
    intro l _ es hn hh
    induction hh with
    | nil => exact .nil
    | cons hr _ ih =>
      refine .cons ?_ (ih (fun v hv => hn v (List.mem_cons_of_mem _ hv)))
      obtain ⟨he1, he2⟩ := hr
      obtain ⟨vs0, vs', a, b', c1, _, e⟩ := hG.facts he2
      obtain ⟨nm, hnm⟩ := Option.isSome_iff_exists.mp (hn _ List.mem_cons_self)
      rw [checkInitEntry_eq b', he1, e]
      simp only [nameOf, hnm, Option.getD_some]
      by_cases hq : nm = ""
      · subst hq; simp [ReadsAs]
      · have : ¬ (some nm = some "") := by simpa using hq
        simp only [hq, this, if_false]
        cases A.produced.contains _ <;> simp [ReadsAs]
  exact key (l' := l') hnamed h2


def NodeOut (w0 : World) (n n' : Nat) (s : St) : Prop :=
  ∃ ns0 ns', w0[n]? = some (.node ns0) ∧ s.w[n']? = some (.node ns') ∧ w0.length ≤ n' ∧
    All2 (fun o o' => Bound o o' s) ns0.outputs ns'.outputs

theorem TInv.setNode {s : St} {A : Sc} (hT : TInv w0 s A) {k : Nat} {x : NodeS} (hk : s.w[k]? = some (.node x))
    (hnew : w0.length ≤ k) (y : NodeS) : TInv w0 { s with w := s.w.set k (.node y) } A := by
  have hne : ∀ {i : Nat} {vs : ValueS}, s.w[i]? = some (.val vs) → k ≠ i := by
    intro i vs h e; subst e; rw [hk] at h; cases h
  refine ⟨by simpa using hT.len, ?_, hT.keys, hT.nodup, hT.pend, ?_, hT.inj, ?_, hT.sub⟩
  · intro i c0 h
    obtain ⟨c1, h1, h2⟩ := hT.old i c0 h
    have : k ≠ i := by have := lt_of_getElem? h; omega
    exact ⟨c1, by simp only; rw [List.getElem?_set_ne this]; exact h1, h2⟩
  · intro p hp'
    obtain ⟨h2, vs1, vs2, a, b, c1, d, e, f⟩ := hT.vals p hp'
    refine ⟨h2, vs1, vs2, a, ?_, c1, d, e, fun x hx => by simpa using f x hx⟩
    simp only; rw [List.getElem?_set_ne (hne b)]; exact b
  · intro i vs1 hi h
    simp only at h
    by_cases hki : k = i
    · subst hki
      rw [List.getElem?_set_self (lt_of_getElem? hk)] at h
      cases h
    · rw [List.getElem?_set_ne hki] at h
      exact hT.onto i vs1 hi h

theorem GInv.setNode {s : St} {A : Sc} {g' : Nat} {mine : List Nat} (hG : GInv w0 s A g' mine) {k : Nat}
    {x : NodeS} (hk : s.w[k]? = some (.node x)) (hnew : w0.length ≤ k) (y : NodeS) :
    GInv w0 { s with w := s.w.set k (.node y) } A g' mine := by
  refine ⟨hG.t.setNode hk hnew y, ?_, hG.disj, by simpa using hG.glt⟩
  intro p hp vs' h
  simp only at h
  by_cases hkp : k = p.2
  · rw [← hkp, List.getElem?_set_self (lt_of_getElem? hk)] at h
    cases h
  · rw [List.getElem?_set_ne hkp] at h
    exact hG.mineOwn p hp vs' h

theorem NodeOut.setNode {n n' : Nat} {s : St} (h : NodeOut w0 n n' s) {k : Nat} {x : NodeS}
    (hk : s.w[k]? = some (.node x)) (gg : Option Nat) :
    NodeOut w0 n n' { s with w := s.w.set k (.node { x with graph := gg }) } := by
  obtain ⟨ns0, ns', a, b, c, d⟩ := h
  by_cases hkn : k = n'
  · subst hkn
    rw [hk] at b
    cases b
    exact ⟨ns0, { x with graph := gg }, a, by simp only; rw [List.getElem?_set_self (lt_of_getElem? hk)], c, d⟩
  · exact ⟨ns0, ns', a, by simp only; rw [List.getElem?_set_ne hkn]; exact b, c, d⟩

theorem checkNodeFree_ok {s : St} {g' n' : Nat} {ns' : NodeS} (h : s.w[n']? = some (.node ns'))
    (hg : ns'.graph = none) : checkNodeFree g' n' s = (.ok (), s) := by
  unfold checkNodeFree
  show M.bind (readNode n') _ s = _
  simp [M.bind, readNode, h, hg, pure, M.pure]

theorem checkNodeFrees_ok {s : St} {g' lo : Nat} :
    ∀ {l l' : List Nat}, All2 (fun n n' => NodeImg w0 lo n n' s) l l' → forM' (checkNodeFree g') l' s = (.ok (), s)
  | _, _, .nil => rfl
  | _, _, .cons h t => by
    obtain ⟨_, ns', _, b, c, _⟩ := h
    rw [forM'_cons_ok (checkNodeFree_ok b c)]
    exact checkNodeFrees_ok t

theorem wNodeCell_of {n : Nat} {ns0 : NodeS} (h : w0[n]? = some (.node ns0)) : wNodeCell w0 n = .ok ns0 := by
  simp [wNodeCell, wCell, h, WRes.bind]

theorem GInv.setNodeGraphs {A : Sc} {g' : Nat} {mine : List Nat} :
    ∀ {l l' : List Nat} (s : St), GInv w0 s A g' mine → All2 (fun n n' => NodeOut w0 n n' s) l l' →
      Sim (forM' (setNodeGraph g') l') s
        (wAll (fun n => (wNodeCell w0 n).bind fun ns =>
          wAll (fun o => if (wName w0 o).isNone then WRes.err (.unsupported "unnamed value (name authority)")
            else .ok ()) ns.outputs) l)
        (fun _ s' _ => GInv w0 s' A g' mine ∧ s'.vm = s.vm ∧ s'.w.length = s.w.length ∧
          ∀ i, i ∉ l' → s'.w[i]? = s.w[i]?)
  | _, _, s, hG, .nil => Sim.pure ⟨hG, rfl, rfl, fun _ _ => rfl⟩
  | _, _, s, hG, .cons (a := n) (b := n') (as := l) (bs := l') h t => by
    obtain ⟨ns0, ns', a, b, c, d⟩ := h
    unfold forM' wAll
    rw [wNodeCell_of a]
    simp only [WRes.bind]
    have hstep : Sim (setNodeGraph g' n') s
        (wAll (fun o => if (wName w0 o).isNone then WRes.err (.unsupported "unnamed value (name authority)")
            else .ok ()) ns0.outputs)
        (fun _ s' _ => s' = { s with w := s.w.set n' (.node { ns' with graph := some g' }) }) := by
      unfold setNodeGraph
      refine Sim.step (m := readNode n') ns' s (by simp [readNode, b]) ?_
      refine Sim.bindLast (hG.checkNameds d) ?_
      intro _ s1 _ hq
      subst hq
      exact ⟨(), _, rfl, rfl⟩
    wbind hstep with u s1 c1 hq
    subst hq
    have hG1 := hG.setNode b c { ns' with graph := some g' }
    have t1 : All2 (fun m m' => NodeOut w0 m m' { s with w := s.w.set n' (.node { ns' with graph := some g' }) }) l l' :=
      All2.mono (fun _ _ h => h.setNode b (some g')) t
    refine (GInv.setNodeGraphs _ hG1 t1).mono ?_
    intro _ s2 _ hq
    obtain ⟨q1, q2, q3, q4⟩ := hq
    refine ⟨q1, q2, by rw [q3]; simp, ?_⟩
    intro i hi
    have hi' : i ∉ l' := fun h => hi (List.mem_cons_of_mem _ h)
    have hin : n' ≠ i := fun h => hi (h ▸ List.mem_cons_self)
    rw [q4 i hi']
    simp only
    rw [List.getElem?_set_ne hin]

theorem TInv.congr {s : St} {A A' : Sc} (hT : TInv w0 s A) (hb : A'.bound = A.bound) (hp : A'.pend = A.pend)
    (ho : ∀ v, A'.owned.contains v = A.owned.contains v)
    (hpr : ∀ v, A'.produced.contains v = A.produced.contains v) : TInv w0 s A' := by
  refine ⟨hT.len, hT.old, by rw [hb]; exact hT.keys, by rw [hb]; exact hT.nodup, by rw [hp]; exact hT.pend,
    ?_, hT.inj, hT.onto, ?_⟩
  · intro p hp'
    obtain ⟨h2, vs1, vs2, a, b, c1, d, e, f⟩ := hT.vals p hp'
    exact ⟨h2, vs1, vs2, a, b, c1, by rw [ho]; exact d, by rw [hpr]; exact e, f⟩
  · intro v hv
    rw [hb]
    apply hT.sub
    rcases hv with hv | hv
    · left
      have : A'.owned.contains v = true := by simpa using hv
      rw [ho] at this
      simpa using this
    · right
      have : A'.produced.contains v = true := by simpa using hv
      rw [hpr] at this
      simpa using this


theorem filterMap_named {l : List Nat} (h : ∀ v ∈ l, (wName w0 v).isSome) :
    l.filterMap (wName w0) = l.map (nameOf w0) := by
  induction l with
  | nil => rfl
  | cons v l ih =>
    obtain ⟨nm, hnm⟩ := Option.isSome_iff_exists.mp (h v List.mem_cons_self)
    simp only [List.filterMap_cons, hnm, List.map_cons, nameOf, Option.getD_some]
    rw [ih (fun x hx => h x (List.mem_cons_of_mem _ hx))]

theorem bound_of_vm {s s' : St} (h : s'.vm = s.vm) {l l' : List Nat}
    (hb : All2 (fun v b => Bound v b s) l l') : All2 (fun v b => Bound v b s') l l' :=
  All2.mono (fun _ _ hx => by unfold Bound at *; rw [h]; exact hx) hb

theorem mine_contains (o i u n : List Nat) (v : Nat) :
    (o ++ i ++ u ++ n).contains v = (o ++ (n.reverse ++ (u.reverse ++ (i.reverse ++ [])))).contains v := by
  rw [Bool.eq_iff_iff]
  simp only [List.contains_iff_mem, List.mem_append, List.mem_reverse, List.append_nil]
  constructor
  · rintro (((h | h) | h) | h) <;> simp [h]
  · rintro (h | h | h | h) <;> simp [h]

/-- `GInv` starts with `mine = []`; each of the three rounds (inputs, outputs, initializers) checks the
    ownership conditions against the walker's lists and then sets the owner, which grows `mine` -/
theorem sim_mkGraph {s : St} {A : Sc} (hT : TInv w0 s A) (gs : GraphS) {lo : Nat} (hlo : w0.length ≤ lo)
    {inputs outputs nodes inits : List Nat}
    (hin : All2 (fun v b => Bound v b s) gs.inputs inputs)
    (hout : All2 (fun v b => Bound v b s) gs.outputs outputs)
    (hinit : All2 (fun v b => Bound v b s) (gs.inits.map (·.2)) inits)
    (hnodes : All2 (fun n n' => NodeImg w0 lo n n' s) gs.nodes nodes) :
    Sim (mkGraph gs inputs outputs nodes inits) s (wMkGraph w0 gs A)
      (fun _ s' A' => TInv w0 s' A' ∧ s'.vm = s.vm ∧ s.w.length ≤ s'.w.length ∧
        ∀ i ns, s.w[i]? = some (.node ns) → i ∉ nodes → s'.w[i]? = some (.node ns)) := by
  unfold mkGraph wMkGraph
  dsimp only
  have hfacts : All2 (fun v b => ∃ vs', s.w[b]? = some (.val vs') ∧ vs'.name = wName w0 v)
      (gs.inits.map (·.2)) inits := by
    refine All2.mono ?_ hinit
    intro v b hb
    obtain ⟨_, vs0, vs', a, b', c1, _⟩ := hT.vals _ hb.mem
    exact ⟨vs', b', by rw [wName_of a]; exact c1⟩
  wbind (sim_initEntries hfacts []) with entries s1 u hq
  obtain ⟨rfl, rfl, hnamed⟩ := hq
  cases hd : distinct ((gs.inits.map (·.2)).filterMap (wName w0)) with
  | false => simp only [Bool.false_eq_true, if_false]; trivial
  | true =>
    simp only [if_true, WRes.ok_bind]
    rw [filterMap_named hnamed] at hd
    rw [entFold_eq hinit [] hd (fun e he => by cases he), List.nil_append]
    rw [all2_zip_snd (nameOf w0) hinit]
    wbind (sim_copyProps hT gs.props) with pr s2 u2 hq2
    wbind (sim_copyMeta hq2.1 gs.mstore) with me s3 u3 hq3
    have hk := hq2.trans hq3
    refine Sim.step (m := alloc _) _ _ rfl ?_
    generalize hgc : (Cell.graph (GraphS.mk gs.name gs.doc inputs outputs
      ((List.map (nameOf w0) (gs.inits.map (·.2))).zip inits) nodes gs.opsets pr me false)) = gc
    have hgcv : ∀ v, gc ≠ .val v := by intro v hv; rw [← hgc] at hv; cases hv
    have hT4 := hk.1.allocOther (c := gc) hgcv
    have hE4 : TExt s1 { s3 with w := s3.w ++ [gc] } := hk.2.1.trans (TExt.alloc s3 gc)
    have hvm4 : ({ s3 with w := s3.w ++ [gc] } : St).vm = s1.vm := hk.2.2
    have hG0 : GInv w0 { s3 with w := s3.w ++ [gc] } A s3.w.length [] := by
      refine ⟨hT4.congr rfl rfl (fun v => by simp) (fun _ => rfl), ?_, (fun v hv => by cases hv), by simp⟩
      intro p hp vs' h
      refine ⟨fun hc => by simp at hc, fun _ hg => ?_⟩
      obtain ⟨_, _, vs2, _, b, _, _, _, f⟩ := hk.1.vals p hp
      simp only at h
      rw [List.getElem?_append_left (lt_of_getElem? b), b] at h
      cases h
      have := f _ hg
      omega
    have hin4 := bound_of_vm hvm4 hin
    have hout4 := bound_of_vm hvm4 hout
    have hinit4 := bound_of_vm hvm4 hinit
    wbind (hG0.checkInputs hin4) with u4 s4 c4 hq4
    obtain ⟨rfl, hown1⟩ := hq4
    obtain ⟨s5, e5, hG5, hE5, hvm5⟩ := GInv.setOwners (fun v => { v with isIn := true })
      (fun x => ⟨rfl, rfl, rfl⟩) gs.inputs inputs _ [] hG0 hin4 hown1
    refine Sim.step (m := forM' (setValueOwner s3.w.length fun v => { v with isIn := true }) inputs) () s5 e5 ?_
    wbind (hG5.checkOwneds (bound_of_vm hvm5 hout4)) with u5 s5' c5 hq5
    obtain ⟨rfl, hown2⟩ := hq5
    obtain ⟨s6, e6, hG6, hE6, hvm6⟩ := GInv.setOwners (fun v => { v with isOut := true })
      (fun x => ⟨rfl, rfl, rfl⟩) gs.outputs outputs _ _ hG5 (bound_of_vm hvm5 hout4) hown2
    refine Sim.step (m := forM' (setValueOwner s3.w.length fun v => { v with isOut := true }) outputs) () s6 e6 ?_
    have hvm64 : s6.vm = ({ s3 with w := s3.w ++ [gc] } : St).vm := hvm6.trans hvm5
    wbind (hG6.checkOwneds (bound_of_vm hvm64 hinit4)) with u6 s6' c6 hq6
    obtain ⟨rfl, hown3⟩ := hq6
    obtain ⟨s7, e7, hG7, hE7, hvm7⟩ := GInv.setOwners (fun v => { v with isInit := true })
      (fun x => ⟨rfl, rfl, rfl⟩) (gs.inits.map (·.2)) inits _ _ hG6 (bound_of_vm hvm64 hinit4) hown3
    refine Sim.step (m := forM' (setValueOwner s3.w.length fun v => { v with isInit := true }) inits) () s7 e7 ?_
    have hvm74 : s7.vm = ({ s3 with w := s3.w ++ [gc] } : St).vm := hvm7.trans hvm64
    wbind (hG7.checkInitEntries (bound_of_vm hvm74 hinit4) hnamed) with u7 s7x c7 hq7
    subst s7x
    wbind (hG7.checkNameds (bound_of_vm hvm74 hin4)) with u8 s7y c8 hq8
    subst s7y
    have hE17 : TExt s1 s7 := hE4.trans (hE5.trans (hE6.trans hE7))
    have hnodes7 : All2 (fun n n' => NodeImg w0 lo n n' s7) gs.nodes nodes :=
      All2.mono (fun n n' h => NodeImg.stable n n' s1 s7 _ h hG7.t hE17) hnodes
    refine Sim.step (m := forM' (checkNodeFree s3.w.length) nodes) () s7 (checkNodeFrees_ok hnodes7) ?_
    have hno : All2 (fun n n' => NodeOut w0 n n' s7) gs.nodes nodes :=
      All2.mono (fun n n' h => by
        obtain ⟨ns0, ns', a, b, _, d, e⟩ := h
        exact ⟨ns0, ns', a, b, Nat.le_trans hlo d, e⟩) hnodes7
    wbind (hG7.setNodeGraphs s7 hno) with u9 s9 c9 hq9
    obtain ⟨hG9, hvm9, hlen9, hsame9⟩ := hq9
    refine Sim.pure ⟨?_, ?_, ?_, ?_⟩
    · exact hG9.t.congr rfl rfl (fun v => mine_contains _ _ _ _ v) (fun _ => rfl)
    · rw [hvm9, hvm74, hvm4]
    · rw [hlen9]; exact hE17.len
    · intro i ns hi hni
      rw [hsame9 i hni]
      exact hE17.nodes i ns hi


theorem TExt.setPend (s : St) (pd : List Nat) : TExt s { s with pend := pd } :=
  ⟨⟨[], rfl⟩, Nat.le_refl _, fun _ _ h => h⟩

theorem sim_cloneGraphStep {allow : Bool} {rec : Nat → M Nat} {recW : Nat → Sc → WRes Sc}
    (hrec : ∀ g s A, TInv w0 s A → Sim (rec g) s (recW g A) (fun _ s' A' => Step w0 s s' A'))
    {s : St} {A : Sc} (hT : TInv w0 s A) (g : Nat) :
    Sim (cloneGraphStep allow rec g) s (wGraphStep w0 allow recW g A) (fun _ s' A' => Step w0 s s' A') := by
  unfold cloneGraphStep wGraphStep
  wbind (sim_readGraph hT.old g) with gs s1 gs0 hq
  obtain ⟨rfl, rfl, _, _⟩ := hq
  wbind (sim_mapM' (P := fun v b s => Bound v b s) (fun _ => True) (fun _ _ _ _ => trivial)
    (fun _ _ _ _ _ h hT' hE => h.stable hT' hE)
    (fun v s A hT _ => sim_cloneOrGetValue hT v) gs.inputs s1 A hT trivial) with inputs s2 A1 hq2
  wbind (sim_mapM' (P := fun v b s => Bound v b s) (fun _ => True) (fun _ _ _ _ => trivial)
    (fun _ _ _ _ _ h hT' hE => h.stable hT' hE)
    (fun v s A hT _ => sim_cloneOrGetValue hT v) (gs.inits.map (·.2)) s2 A1 hq2.1.1 trivial) with inits s3 A2 hq3
  wbind (sim_allOutputs hq3.1.1 gs.nodes) with outs s3x outs0 hq3x
  obtain ⟨rfl, rfl⟩ := hq3x
  refine Sim.step (m := pendAdd outs) () { s3x with pend := s3x.pend ++ outs } rfl ?_
  have hT3 : TInv w0 { s3x with pend := s3x.pend ++ outs } { A2 with pend := A2.pend ++ outs } := by
    have := hq3.1.1.setPend (s3x.pend ++ outs)
    have hp : s3x.pend = A2.pend := hq3.1.1.pend
    rw [hp] at this ⊢
    exact this
  have hE13 : TExt s1 { s3x with pend := s3x.pend ++ outs } :=
    hq2.1.2.trans (hq3.1.2.trans (TExt.setPend s3x _))
  wbind (sim_mapM' (P := fun n n' s => NodeImg w0 s1.w.length n n' s) (fun s => s1.w.length ≤ s.w.length)
    (fun _ _ h hE => Nat.le_trans h hE.len)
    (fun n n' s s' A' h hT' hE => NodeImg.stable n n' s s' A' h hT' hE)
    (fun n s A hT hI => (sim_cloneNode hrec hT n).mono (fun n' s' A' hq => by
      obtain ⟨q1, ns0, ns', a, b, c, d, e⟩ := hq
      exact ⟨q1, ns0, ns', a, b, c, Nat.le_trans hI d, e⟩))
    gs.nodes _ _ hT3 hE13.len) with nodes s4 A4 hq4
  have hE14 : TExt s1 s4 := hE13.trans hq4.1.2
  wbind (sim_getMapped hq4.1.1 gs.outputs) with outputs s4x u4 hq5
  obtain ⟨rfl, hout⟩ := hq5
  have hin4 := all2_bound_stable hq4.1.1 (hq3.1.2.trans ((TExt.setPend s3x _).trans hq4.1.2)) hq2.2
  have hinit4 := all2_bound_stable hq4.1.1 ((TExt.setPend s3x _).trans hq4.1.2) hq3.2
  refine (sim_mkGraph hq4.1.1 gs hT.len hin4 hout hinit4 hq4.2).mono ?_
  intro g' s5 A5 hq6
  obtain ⟨hT5, hvm5, hlen5, hnodes5⟩ := hq6
  refine ⟨hT5, ?_, Nat.le_trans hE14.len hlen5, ?_⟩
  · obtain ⟨ext, he⟩ := hE14.vm
    exact ⟨ext, by rw [hvm5, he]⟩
  · intro i ns hi
    apply hnodes5 i ns (hE14.nodes i ns hi)
    intro hmem
    obtain ⟨n, _, _, _, _, _, _, d, _⟩ := all2_mem_left hq4.2 i hmem
    have := lt_of_getElem? hi
    omega

theorem sim_guarded {body : M Nat} {s : St} {r : WRes Sc} {Q : Nat → St → Sc → Prop}
    (h : Sim body s r Q) : Sim (guarded body) s r Q := by
  cases r with
  | ok c =>
    obtain ⟨a, s', h1, h2⟩ := h
    exact ⟨a, s', by simp [guarded, onError, h1], h2⟩
  | err e =>
    have h1 : (body s).1 = .error e := h
    show (guarded body s).1 = _
    unfold guarded onError
    rcases hb : body s with ⟨x, s'⟩
    rw [hb] at h1
    simp only at h1
    subst h1
    rfl
  | irregular why => trivial

theorem sim_cloneGraph (allow : Bool) :
    ∀ (fuel g : Nat) (s : St) (A : Sc), TInv w0 s A →
      Sim (cloneGraph allow fuel g) s (wGraph w0 allow fuel g A) (fun _ s' A' => Step w0 s s' A')
  | 0, g, s, A, _ => by
    show ((fail Err.fuel : M Nat) s).1 = _
    rfl
  | f + 1, g, s, A, hT => by
    show Sim (guarded (cloneGraphStep allow (cloneGraph allow f) g)) s
      (wGraphStep w0 allow (wGraph w0 allow f) g A) _
    exact sim_guarded (sim_cloneGraphStep (fun g s A hT => sim_cloneGraph allow f g s A hT) hT g)

theorem TInv.init (w : World) : TInv w { w := w } {} := by
  refine ⟨Nat.le_refl _, fun i c0 h => ⟨c0, h, rfl⟩, rfl, List.nodup_nil, rfl, (fun p hp => by cases hp),
    (fun p hp => by cases hp), ?_, (fun v hv => by rcases hv with h | h <;> cases h)⟩
  intro i vs hi h
  simp only at h
  rw [List.getElem?_eq_none hi] at h
  cases h

theorem TInv.bijection {w : World} {s' : St} {A : Sc} (hT : TInv w s' A) :
    s'.vm.map (·.1) = A.bound ∧ A.bound.Nodup ∧
      (∀ p ∈ s'.vm, ∀ q ∈ s'.vm, p.2 = q.2 → p = q) ∧
      (∀ p ∈ s'.vm, (∃ vs, w[p.1]? = some (.val vs)) ∧ w.length ≤ p.2 ∧
        ∃ vs', s'.w[p.2]? = some (.val vs')) ∧
      (∀ (i : Nat) (vs : ValueS), w.length ≤ i → s'.w[i]? = some (.val vs) → ∃ p ∈ s'.vm, p.2 = i) :=
  ⟨hT.keys, hT.nodup, hT.inj, fun p hp => let ⟨a, vs0, vs', b, c, _⟩ := hT.vals p hp; ⟨⟨vs0, b⟩, a, vs', c⟩, hT.onto⟩

theorem Sim.run {α : Type} {m : M α} {w : World} {v : WRes Sc} {Q : α → St → Sc → Prop} :
    Sim m { w := w } v Q →
    match v with
    | .ok A => ∃ a s', m { w := w } = (.ok a, s') ∧ run (withFreshMap m) w = (.ok a, s'.w) ∧ Q a s' A
    | .err e => (run (withFreshMap m) w).1 = .error e
    | .irregular _ => True := by
  intro h
  cases v with
  | ok A => obtain ⟨a, s', h1, h2⟩ := h; exact ⟨a, s', h1, by rw [run_withFreshMap, h1], h2⟩
  | err e => exact h
  | irregular _ => trivial

theorem raises_iff_of_verdict {γ α : Type} {v : WRes γ} {x : Except Err α × World}
    (hok : ∀ c, v = .ok c → ∃ a w', x = (.ok a, w')) (herr : ∀ e, v = .err e → x.1 = .error e)
    (hreg : ∀ why, v ≠ .irregular why) (why : String) : x.1 = .error (.raised why) ↔ v = .err (.raised why) := by
  cases v with
  | ok A =>
    obtain ⟨a, w', rfl⟩ := hok A rfl
    constructor <;> intro h <;> cases h
  | err e =>
    rw [herr e rfl]
    constructor <;> intro h <;> cases h <;> rfl
  | irregular why' => exact absurd rfl (hreg why')

/-- the walker's verdict decides the outcome of `Graph.clone` / `GraphView.clone` -/
theorem graphClone_verdict (fuel : Nat) (allow : Bool) (w : World) (g : Nat) :
    match cloneVerdict fuel allow w g with
    | .ok A => ∃ g' s', cloneGraph allow fuel g { w := w } = (.ok g', s') ∧
        run (graphClone fuel allow g) w = (.ok g', s'.w) ∧ TInv w s' A
    | .err e => (run (graphClone fuel allow g) w).1 = .error e
    | .irregular _ => True :=
  ((sim_cloneGraph (w0 := w) allow fuel g { w := w } {} (TInv.init w)).mono fun _ _ _ h => h.1).run


theorem _root_.IrVerif.Clone.funcClone_core (fuel f : Nat) : funcClone fuel f = withFreshMap (funcCloneCore fuel f) := rfl

theorem sim_funcCloneCore (fuel : Nat) (w : World) (f : Nat) :
    Sim (funcCloneCore fuel f) { w := w } (funcVerdict fuel w f) (fun _ s' A' => TInv w s' A') := by
  have hrec : ∀ g s A, TInv w s A → Sim (cloneGraph false fuel g) s (wGraph w false fuel g A)
      (fun _ s' A' => Step w s s' A') := fun g s A hT => sim_cloneGraph false fuel g s A hT
  unfold funcCloneCore funcVerdict
  wbind (sim_readFunc (TInv.init w).old f) with fs s1 fs0 hq
  obtain ⟨rfl, rfl⟩ := hq
  wbind (hrec fs.graph _ _ (TInv.init w)) with g' s2 A1 hq2
  refine Sim.bindLast (sim_mapM'_step (fun (ka : String × Nat) s A hT => by
      wbind (sim_readAttr hT.old ka.2) with as s3 as0 hq3
      obtain ⟨rfl, rfl, _, _⟩ := hq3
      exact sim_cloneAttr hrec hT as.name ka.2) fs.attrs s2 A1 hq2.1) ?_
  intro attrs s3 A3 hq3
  exact ⟨_, _, rfl, hq3.1.allocOther (by intro v hv; cases hv)⟩

theorem funcCloneCore_verdict (fuel : Nat) (w : World) (f : Nat) {A : Sc} (h : funcVerdict fuel w f = .ok A) :
    ∃ f' s', funcCloneCore fuel f { w := w } = (.ok f', s') ∧ TInv w s' A := by
  have := sim_funcCloneCore fuel w f
  rw [h] at this
  exact this

/-- the walker's verdict decides the outcome of `Function.clone` -/
theorem funcClone_verdict (fuel : Nat) (w : World) (f : Nat) :
    match funcVerdict fuel w f with
    | .ok _ => ∃ f' w', run (funcClone fuel f) w = (.ok f', w')
    | .err e => (run (funcClone fuel f) w).1 = .error e
    | .irregular _ => True := by
  have h := (sim_funcCloneCore fuel w f).run
  cases hv : funcVerdict fuel w f with
  | ok A => rw [hv] at h; obtain ⟨f', s', _, h2, _⟩ := h; exact ⟨f', s'.w, h2⟩
  | err e => rw [hv] at h; exact h
  | irregular why => trivial

end
end Total
end IrVerif.Clone
