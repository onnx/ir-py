/-
C09, general model: budget / callback locks / tensor locks invariant `LInv`, and the bound on the bytes materialised
that the budget gives.
-/
import IrVerif.Lemmas.WriterNInv
namespace IrVerif.WriterN

def holds : Pc → Bool
  | .write | .bRel _ => true
  | _ => false

/-- inside `with tensor lock` — the callback (and its locks) included -/
def inT : Pc → Bool
  | .cbAcqIn | .cbAcq | .cbBody | .bAcq | .waiting | .woken | .write | .bRel _ => true
  | _ => false

/-- holding the inner writer's callback lock -/
def inIn : Pc → Bool
  | .cbAcq | .cbBody => true
  | _ => false

def fReg (cfg : Cfg) (i : Nat) (p : Pc) : Nat :=
  if holds p = true ∧ cfg.size i ≤ cfg.capacity then cfg.size i else 0
def fOver (cfg : Cfg) (i : Nat) (p : Pc) : Nat :=
  if holds p = true ∧ cfg.size i > cfg.capacity then 1 else 0
def fCb (_ : Nat) (p : Pc) : Nat := if p = .cbBody then 1 else 0
def fT (cfg : Cfg) (o : Nat) (i : Nat) (p : Pc) : Nat :=
  if inT p = true ∧ cfg.obj i = o then 1 else 0
def fIn (cfg : Cfg) (q : Nat) (i : Nat) (p : Pc) : Nat :=
  if inIn p = true ∧ (cfg.pool (cfg.poolOf i)).innerCb = true ∧ cfg.poolOf i = q then 1 else 0

/-- a weight whose sum is not changed by taking a job, finishing a tensor or `notify_all` -/
structure Quiet (cfg : Cfg) (f : Nat → Pc → Nat) : Prop where
  ns : ∀ i, f i .notStarted = 0
  fp : ∀ i, f i (firstPc cfg (cfg.poolOf i)) = 0
  dn : ∀ i b, f i (.done b) = 0
  wk : ∀ i p, f i (wake p) = f i p

theorem quiet_fReg (cfg : Cfg) : Quiet cfg (fReg cfg) :=
  ⟨by simp [fReg, holds], by intro i; simp [firstPc, fReg, holds], by simp [fReg, holds],
   by intro i p; cases p <;> simp [fReg, holds, wake]⟩
theorem quiet_fOver (cfg : Cfg) : Quiet cfg (fOver cfg) :=
  ⟨by simp [fOver, holds], by intro i; simp [firstPc, fOver, holds], by simp [fOver, holds],
   by intro i p; cases p <;> simp [fOver, holds, wake]⟩
theorem quiet_fCb (cfg : Cfg) : Quiet cfg fCb :=
  ⟨by simp [fCb], by intro i; simp [firstPc, fCb], by simp [fCb],
   by intro i p; cases p <;> simp [fCb, wake]⟩
theorem quiet_fT (cfg : Cfg) (o : Nat) : Quiet cfg (fT cfg o) :=
  ⟨by simp [fT, inT], by intro i; simp [firstPc, fT, inT], by simp [fT, inT],
   by intro i p; cases p <;> simp [fT, inT, wake]⟩
theorem quiet_fIn (cfg : Cfg) (q : Nat) : Quiet cfg (fIn cfg q) :=
  ⟨by simp [fIn, inIn], by intro i; simp [firstPc, fIn, inIn],
   by simp [fIn, inIn], by intro i p; cases p <;> simp [fIn, inIn, wake]⟩

theorem wsum_finish {cfg : Cfg} {f : Nat → Pc → Nat} (qf : Quiet cfg f) {s : State} (h : SInv cfg s)
    {i : Nat} {p : Pc} (ok : Bool) (hi : s.tasks[i]? = some p) (hpd : p ≠ .done true) :
    wsum f 0 (finishTask cfg s i ok).tasks + f i p = wsum f 0 s.tasks := by
  have hlt := getElem?_lt hi
  rcases finishTask_cases cfg s i ok with ⟨rfl, hn, e⟩ | ⟨_, e⟩
  · rw [e]
    have hnext := h.next_notStarted hi hpd hn
    have h1 := wsum_set0 f (.done true) hi
    have h2 := wsum_set0 f (firstPc cfg (cfg.poolOf i)) (get_set_succ (x := .done true) hnext)
    have h3 := qf.fp (i + 1)
    rw [poolOf_next hn] at h3
    simp only [qf.ns, qf.dn, h3] at h1 h2 ⊢
    omega
  · rw [e]
    have h1 := wsum_set0 f (.done ok) hi
    simp only [qf.dn] at h1 ⊢
    omega

theorem wsum_wake {cfg : Cfg} {f : Nat → Pc → Nat} (qf : Quiet cfg f) (l : List Pc) :
    wsum f 0 (l.map wake) = wsum f 0 l := wsum_map f wake qf.wk l 0

theorem word_free {b : Bool} {W : Nat} (h : (if b = true then 1 else 0) = W) (hW : W = 0) : b = false := by
  cases b
  · rfl
  · rw [hW] at h; cases h

theorem word_step {I I' W W' a b : Nat} (h : I = W) (hI : I' + a = I + b) (hW : W' + a = W + b) : I' = W' := by
  omega

theorem keep_word {A B u v : Nat} (e : A = B) (h : v = u) : A + u = B + v := by rw [e, h]

/-- The budget counter and every lock word equal a weighted sum over the program counters (`fReg` … `fIn`). -/
structure LInv (cfg : Cfg) (s : State) : Prop where
  reg : s.inFlight = wsum (fReg cfg) 0 s.tasks
  over : (if s.oversized then 1 else 0) = wsum (fOver cfg) 0 s.tasks
  le : s.inFlight ≤ cfg.capacity
  cb : (if s.cbLock then 1 else 0) = wsum fCb 0 s.tasks
  tl : ∀ o, o < cfg.nObjs → (if s.tLocks.getD o false then 1 else 0) = wsum (fT cfg o) 0 s.tasks
  cin : ∀ q, q < cfg.nPools → (if s.cbIn.getD q false then 1 else 0) = wsum (fIn cfg q) 0 s.tasks
  inner : ∀ i : Nat, s.tasks[i]? = some .cbAcqIn → (cfg.pool (cfg.poolOf i)).innerCb = true

theorem LInv_init (cfg : Cfg) : LInv cfg (init cfg) := by
  refine ⟨?_, ?_, by simp [init], ?_, ?_, ?_, ?_⟩
  · simp [init]; rw [wsum_replicate]; exact (quiet_fReg cfg).ns
  · simp [init]; rw [wsum_replicate]; exact (quiet_fOver cfg).ns
  · simp [init]; rw [wsum_replicate]; exact (quiet_fCb cfg).ns
  · intro o ho
    simp [init, ho]; rw [wsum_replicate]; exact (quiet_fT cfg o).ns
  · intro q hq
    simp [init, hq]; rw [wsum_replicate]; exact (quiet_fIn cfg q).ns
  · intro i hi; simp [init, List.getElem?_replicate] at hi


theorem LInv.budget_free {cfg : Cfg} {s : State} (hl : LInv cfg s)
    (h : ∀ (k : Nat) (p : Pc), s.tasks[k]? = some p → holds p = false) : s.inFlight = 0 ∧ s.oversized = false := by
  have h1 : wsum (fReg cfg) 0 s.tasks = 0 := wsum_eq_zero _ _ _ fun k p hk => by simp [fReg, h k p hk]
  have h2 : wsum (fOver cfg) 0 s.tasks = 0 := wsum_eq_zero _ _ _ fun k p hk => by simp [fOver, h k p hk]
  exact ⟨by rw [hl.reg, h1], word_free hl.over h2⟩

theorem LInv.cb_free {cfg : Cfg} {s : State} (hl : LInv cfg s) (h : ∀ k : Nat, s.tasks[k]? ≠ some .cbBody) :
    s.cbLock = false :=
  word_free hl.cb (wsum_eq_zero _ _ _ fun k p hk => by
    simp only [fCb, ite_eq_right_iff]; intro e; exact absurd (e ▸ hk) (h k))

theorem LInv.tl_free {cfg : Cfg} {s : State} (hl : LInv cfg s) {o : Nat} (ho : o < cfg.nObjs)
    (h : ∀ (k : Nat) (p : Pc), s.tasks[k]? = some p → cfg.obj k = o → inT p = false) : s.tLocks.getD o false = false :=
  word_free (hl.tl o ho) (wsum_eq_zero _ _ _ fun k p hk => by
    simp only [fT, Nat.zero_add, ite_eq_right_iff]; intro e; rw [h k p hk e.2] at e; simp at e)

theorem LInv.cin_free {cfg : Cfg} {s : State} (hl : LInv cfg s) {q : Nat} (hq : q < cfg.nPools)
    (h : ∀ (k : Nat) (p : Pc), s.tasks[k]? = some p → cfg.poolOf k = q → inIn p = false) : s.cbIn.getD q false = false :=
  word_free (hl.cin q hq) (wsum_eq_zero _ _ _ fun k p hk => by
    simp only [fIn, Nat.zero_add, ite_eq_right_iff]; intro e; rw [h k p hk e.2.2] at e; simp at e)


@[simp] theorem finishTask_inFlight (cfg : Cfg) (s : State) (i : Nat) (ok : Bool) :
    (finishTask cfg s i ok).inFlight = s.inFlight := by unfold finishTask; split <;> rfl
@[simp] theorem finishTask_oversized (cfg : Cfg) (s : State) (i : Nat) (ok : Bool) :
    (finishTask cfg s i ok).oversized = s.oversized := by unfold finishTask; split <;> rfl
@[simp] theorem finishTask_cbLock (cfg : Cfg) (s : State) (i : Nat) (ok : Bool) :
    (finishTask cfg s i ok).cbLock = s.cbLock := by unfold finishTask; split <;> rfl
@[simp] theorem finishTask_cbIn (cfg : Cfg) (s : State) (i : Nat) (ok : Bool) :
    (finishTask cfg s i ok).cbIn = s.cbIn := by unfold finishTask; split <;> rfl
@[simp] theorem finishTask_tLocks (cfg : Cfg) (s : State) (i : Nat) (ok : Bool) :
    (finishTask cfg s i ok).tLocks = s.tLocks := by unfold finishTask; split <;> rfl
@[simp] theorem finishTask_log (cfg : Cfg) (s : State) (i : Nat) (ok : Bool) :
    (finishTask cfg s i ok).log = s.log := by unfold finishTask; split <;> rfl
@[simp] theorem finishTask_files (cfg : Cfg) (s : State) (i : Nat) (ok : Bool) :
    (finishTask cfg s i ok).files = s.files := by unfold finishTask; split <;> rfl

theorem afterT_inner {cfg : Cfg} {q : Nat} (h : afterT cfg q = .cbAcqIn) :
    (cfg.pool q).innerCb = true := by
  unfold afterT at h; split at h
  · assumption
  · simp at h

theorem firstPc_ne_cbAcqIn (cfg : Cfg) (q : Nat) : firstPc cfg q ≠ .cbAcqIn := by simp [firstPc]

theorem fReg_congr {cfg : Cfg} {i : Nat} {p x : Pc} (h : holds x = holds p) : fReg cfg i x = fReg cfg i p := by
  simp only [fReg, h]
theorem fOver_congr {cfg : Cfg} {i : Nat} {p x : Pc} (h : holds x = holds p) : fOver cfg i x = fOver cfg i p := by
  simp only [fOver, h]
theorem fCb_congr {i : Nat} {p x : Pc} (hx : x ≠ .cbBody) (hp : p ≠ .cbBody) : fCb i x = fCb i p := by
  simp only [fCb, if_neg hx, if_neg hp]
theorem fT_congr {cfg : Cfg} {o i : Nat} {p x : Pc} (h : inT x = inT p) : fT cfg o i x = fT cfg o i p := by
  simp only [fT, h]
theorem fIn_congr {cfg : Cfg} {q i : Nat} {p x : Pc} (h : inIn x = inIn p) : fIn cfg q i x = fIn cfg q i p := by
  simp only [fIn, h]

/-- generic step: for every quiet weight the sum changes as if task `i` went from `p` to `x` -/
theorem LInv_gen {cfg : Cfg} {s s' : State} (hl : LInv cfg s) {i : Nat} {p x : Pc}
    (hw : ∀ f, Quiet cfg f → wsum f 0 s'.tasks + f i p = wsum f 0 s.tasks + f i x)
    (hreg : s'.inFlight + fReg cfg i p = s.inFlight + fReg cfg i x)
    (hle : s'.inFlight ≤ cfg.capacity)
    (hover : (if s'.oversized then 1 else 0) + fOver cfg i p = (if s.oversized then 1 else 0) + fOver cfg i x)
    (hcb : (if s'.cbLock then 1 else 0) + fCb i p = (if s.cbLock then 1 else 0) + fCb i x)
    (htl : ∀ o, o < cfg.nObjs → (if s'.tLocks.getD o false then 1 else 0) + fT cfg o i p
        = (if s.tLocks.getD o false then 1 else 0) + fT cfg o i x)
    (hcin : ∀ q, q < cfg.nPools → (if s'.cbIn.getD q false then 1 else 0) + fIn cfg q i p
        = (if s.cbIn.getD q false then 1 else 0) + fIn cfg q i x)
    (hin : ∀ k : Nat, s'.tasks[k]? = some .cbAcqIn → (cfg.pool (cfg.poolOf k)).innerCb = true) :
    LInv cfg s' := by
  exact ⟨word_step hl.reg hreg (hw _ (quiet_fReg cfg)), word_step hl.over hover (hw _ (quiet_fOver cfg)), hle,
    word_step hl.cb hcb (hw _ (quiet_fCb cfg)),
    fun o ho => word_step (hl.tl o ho) (htl o ho) (hw _ (quiet_fT cfg o)),
    fun q hq => word_step (hl.cin q hq) (hcin q hq) (hw _ (quiet_fIn cfg q)), hin⟩

theorem LInv_move {cfg : Cfg} {s s' : State} (hl : LInv cfg s) {i : Nat} {p x : Pc}
    (hi : s.tasks[i]? = some p) (hh : holds x = holds p) (hb : x ≠ .cbBody) (hb' : p ≠ .cbBody)
    (ht : inT x = inT p) (hn : inIn x = inIn p) (hx : x ≠ .cbAcqIn)
    (e1 : s'.tasks = s.tasks.set i x) (e2 : s'.inFlight = s.inFlight) (e3 : s'.oversized = s.oversized)
    (e4 : s'.cbLock = s.cbLock) (e5 : s'.tLocks = s.tLocks) (e6 : s'.cbIn = s.cbIn) : LInv cfg s' :=
  LInv_gen (i := i) (p := p) (x := x) hl (fun f _ => by rw [e1]; exact wsum_set0 f x hi)
    (keep_word e2 (fReg_congr hh)) (e2 ▸ hl.le) (keep_word (by rw [e3]) (fOver_congr hh))
    (keep_word (by rw [e4]) (fCb_congr hb hb')) (fun o _ => keep_word (by rw [e5]) (fT_congr ht))
    (fun q _ => keep_word (by rw [e6]) (fIn_congr hn))
    (fun k hk => hl.inner k (get_of_set_ne hx (e1 ▸ hk)))

theorem LInv_pools {cfg : Cfg} {s : State} (hl : LInv cfg s) (ps : List PoolSt) (fs : List Fut) :
    LInv cfg { s with pools := ps, futs := fs } :=
  ⟨hl.reg, hl.over, hl.le, hl.cb, hl.tl, hl.cin, hl.inner⟩

theorem LInv.inner_finish {cfg : Cfg} {s s0 : State} (hl : LInv cfg s)
    (h0 : ∀ k : Nat, s0.tasks[k]? = some .cbAcqIn → s.tasks[k]? = some .cbAcqIn) (i : Nat) (ok : Bool) :
    ∀ k : Nat, (finishTask cfg s0 i ok).tasks[k]? = some .cbAcqIn →
      (cfg.pool (cfg.poolOf k)).innerCb = true :=
  fun k hk => hl.inner k (h0 k (finishTask_get nofun nofun hk))

theorem LInv.tl_release {cfg : Cfg} (wf : WF cfg) {s : State} (hs : SInv cfg s) (hl : LInv cfg s) {i : Nat}
    {p x : Pc} (hi : s.tasks[i]? = some p) (hp : inT p = true) (hx : inT x = false) (o : Nat) :
    (if (s.tLocks.set (cfg.obj i) false).getD o false then 1 else 0) + fT cfg o i p
      = (if s.tLocks.getD o false then 1 else 0) + fT cfg o i x := by
  have hil : i < cfg.n := by rw [← hs.tasks_len]; exact getElem?_lt hi
  have hol : cfg.obj i < s.tLocks.length := by rw [hs.locks_len]; exact wf.obj_lt i hil
  have hgeT := wsum_ge0 (fT cfg (cfg.obj i)) hi
  have htl := hl.tl (cfg.obj i) (wf.obj_lt i hil)
  simp only [getD_set_lt hol, fT, hp, hx]
  by_cases ho : o = cfg.obj i
  · subst ho
    simp [fT, hp] at hgeT
    simp only [List.getD_eq_getElem?_getD] at htl
    cases hlk : s.tLocks[cfg.obj i]?.getD false <;> simp [hlk] at htl ⊢ <;> omega
  · have : ¬ cfg.obj i = o := fun e => ho e.symm
    simp [ho, this]

theorem LInv.cin_release {cfg : Cfg} (wf : WF cfg) {s : State} (hs : SInv cfg s) (hl : LInv cfg s) {i : Nat}
    {x : Pc} (hi : s.tasks[i]? = some .cbBody) (hx : inIn x = false) (q : Nat) :
    (if (if (cfg.pool (cfg.poolOf i)).innerCb = true then s.cbIn.set (cfg.poolOf i) false else s.cbIn).getD q false
        then 1 else 0) + fIn cfg q i .cbBody
      = (if s.cbIn.getD q false then 1 else 0) + fIn cfg q i x := by
  have hil : i < cfg.n := by rw [← hs.tasks_len]; exact getElem?_lt hi
  have hpl : cfg.poolOf i < s.cbIn.length := by rw [hs.cbin_len]; exact wf.poolOf_lt hil
  have hgeI := wsum_ge0 (fIn cfg (cfg.poolOf i)) hi
  have hcinI := hl.cin (cfg.poolOf i) (wf.poolOf_lt hil)
  cases hinn : (cfg.pool (cfg.poolOf i)).innerCb
  · simp [fIn, hinn]
  · have hb : inIn Pc.cbBody = true := rfl
    simp only [if_true, getD_set_lt hpl, fIn, hb, hx, hinn]
    by_cases hq : q = cfg.poolOf i
    · subst hq
      simp only [fIn, hb, hinn] at hgeI
      simp only [List.getD_eq_getElem?_getD] at hcinI ⊢
      cases hc : s.cbIn[cfg.poolOf i]?.getD false <;> simp [hc] at hcinI hgeI ⊢
      all_goals omega
    · have : ¬ cfg.poolOf i = q := fun e => hq e.symm
      simp [hq, this]

theorem LInv_step {cfg : Cfg} (wf : WF cfg) {s s' : State} {l : Label} (hs : SInv cfg s)
    (hl : LInv cfg s) (h : StepRel cfg s l s') : LInv cfg s' := by
  have keepIn : ∀ {i : Nat} {x : Pc}, x ≠ .cbAcqIn → ∀ k : Nat, (s.tasks.set i x)[k]? = some .cbAcqIn →
      (cfg.pool (cfg.poolOf k)).innerCb = true :=
    fun hx k hk => hl.inner k (get_of_set_ne hx hk)
  cases h with
  | submit q c k j P hP hk hj => exact LInv_pools hl _ _
  | collect q c j ok P hP hm hj hf =>
      rcases collectOne_cases cfg s q P j ok with ⟨_, _, e⟩ | ⟨_, _, e⟩ | ⟨_, _, e⟩ | ⟨_, _, e⟩ <;> rw [e] <;>
        exact LInv_pools hl _ _
  | joinRoot q c e P hP hm hex hpar => exact LInv_pools hl _ _
  | joinSub q c e P jp hP hm hex hpar => exact LInv_pools hl _ _
  | takeSerial q j rest P hP hq hidle hsub =>
      have hj : j ∈ (s.pl q).queue := by rw [pl_of_get hP, hq]; simp
      exact LInv_move (x := firstPc cfg q) hl (hs.start_notStarted wf hj hsub) rfl nofun nofun rfl rfl
        (firstPc_ne_cbAcqIn _ _) rfl rfl rfl rfl rfl rfl
  | takeSub q j rest P q' hP hq hidle hsub =>
      exact LInv_pools hl _ _
  | exit q P hP hq hsd hidle => exact LInv_pools hl _ _
  | cbAcqIn i hi hlk =>
      have hil : i < cfg.n := by rw [← hs.tasks_len]; exact getElem?_lt hi
      have hpl : cfg.poolOf i < s.cbIn.length := by rw [hs.cbin_len]; exact wf.poolOf_lt hil
      have hinn := hl.inner i hi
      refine LInv_gen (i := i) (p := .cbAcqIn) (x := .cbAcq) hl
        (fun f _ => wsum_set0 f _ hi) (keep_word rfl (fReg_congr rfl)) hl.le
        (keep_word rfl (fOver_congr rfl)) (keep_word rfl (fCb_congr nofun nofun)) (fun o _ => keep_word rfl (fT_congr rfl)) (fun q _ => ?_)
        (keepIn (by simp))
      simp only [getD_set_lt hpl, fIn, inIn, hinn]
      by_cases hq : q = cfg.poolOf i
      · subst hq; simp only [List.getD_eq_getElem?_getD] at hlk; simp [hlk]
      · have : ¬ cfg.poolOf i = q := fun e => hq e.symm
        simp [hq, this]
  | cbAcq i hi hlk =>
      refine LInv_gen (i := i) (p := .cbAcq) (x := .cbBody) hl
        (fun f _ => wsum_set0 f _ hi) (keep_word rfl (fReg_congr rfl)) hl.le
        (keep_word rfl (fOver_congr rfl)) (by simp [fCb, hlk]) (fun o _ => keep_word rfl (fT_congr rfl))
        (fun q _ => keep_word rfl (fIn_congr rfl)) (keepIn (by simp))
  | cbFail i hi hf =>
      have hcb := hl.cb
      have hge := wsum_ge0 fCb hi
      refine LInv_gen (i := i) (p := .cbBody) (x := .done false) hl
        (fun f qf => by
          have := wsum_finish qf (s := cbExit cfg s i)
            (SInv_cbExit hs i)
            false hi (by simp)
          simp only [qf.dn]; exact this)
        (keep_word rfl (fReg_congr rfl)) (by simpa using hl.le) (keep_word rfl (fOver_congr rfl)) ?_
        (fun o _ => ?_) (fun q _ => ?_)
        (hl.inner_finish (fun k hk => hk) i false)
      · -- callback lock
        cases hc : s.cbLock <;> simp [fCb, hc] at hcb hge ⊢
        omega
      · -- tensor locks
        simp only [finishTask_tLocks]
        exact hl.tl_release wf hs hi rfl rfl o
      · -- inner callback locks
        simp only [finishTask_cbIn]
        exact hl.cin_release wf hs hi rfl q
  | cbOk i hi hf =>
      have hcb := hl.cb
      have hge := wsum_ge0 fCb hi
      refine LInv_gen (i := i) (p := .cbBody) (x := .bAcq) hl
        (fun f _ => wsum_set0 f _ hi) (keep_word rfl (fReg_congr rfl)) hl.le
        (keep_word rfl (fOver_congr rfl)) ?_ (fun o _ => keep_word rfl (fT_congr rfl)) (fun q _ => ?_) (keepIn (by simp))
      · cases hc : s.cbLock <;> simp [cbDone, fCb, hc] at hcb hge ⊢
        omega
      · exact hl.cin_release wf hs hi rfl q
  | tAcq i hi hlk =>
      have hil : i < cfg.n := by rw [← hs.tasks_len]; exact getElem?_lt hi
      have hol : cfg.obj i < s.tLocks.length := by rw [hs.locks_len]; exact wf.obj_lt i hil
      have hx : afterT cfg (cfg.poolOf i) = .cbAcqIn ∨ afterT cfg (cfg.poolOf i) = .cbAcq := by
        unfold afterT; split <;> simp
      refine LInv_gen (i := i) (p := .tAcq) (x := afterT cfg (cfg.poolOf i)) hl
        (fun f _ => wsum_set0 f _ hi)
        (by rcases hx with e | e <;> simp [e, fReg, holds]) hl.le
        (by rcases hx with e | e <;> simp [e, fOver, holds])
        (by rcases hx with e | e <;> simp [e, fCb]) (fun o _ => ?_)
        (fun q _ => by
          unfold afterT
          cases hinn : (cfg.pool (cfg.poolOf i)).innerCb <;> simp [fIn, inIn, hinn]) ?_
      · have hT : fT cfg o i (afterT cfg (cfg.poolOf i)) = fT cfg o i .bAcq := by
          rcases hx with e | e <;> simp [e, fT, inT]
        rw [hT]
        simp only [getD_set_lt hol, fT, inT]
        by_cases ho : o = cfg.obj i
        · subst ho; simp only [List.getD_eq_getElem?_getD] at hlk; simp [hlk]
        · have : ¬ cfg.obj i = o := fun e => ho e.symm
          simp [ho, this]
      · intro k hk
        by_cases e : i = k
        · subst e
          have hlt := getElem?_lt hi
          simp only [List.getElem?_set, if_true] at hk
          apply afterT_inner
          simpa [hlt] using hk
        · simp only [List.getElem?_set, e, if_false] at hk; exact hl.inner k hk
  | bTry i p hi hp =>
      rcases budgetTry_cases cfg s i with ⟨h1, h2, e⟩ | ⟨h1, h2, e⟩ | ⟨h1, h2, e⟩ | ⟨h1, h2, e⟩ <;> rw [e]
      · rcases hp with rfl | rfl <;>
        exact LInv_move (x := .waiting) hl hi rfl nofun nofun rfl rfl nofun rfl rfl rfl rfl rfl rfl
      · have h3 : ¬ cfg.size i ≤ cfg.capacity := by omega
        rcases hp with rfl | rfl <;>
        exact LInv_gen (i := i) (x := .write) hl
          (fun f _ => wsum_set0 f _ hi) (by simp [fReg, holds, h3]) hl.le
          (by simp [fOver, holds, h1, h2]) (keep_word rfl (fCb_congr nofun nofun)) (fun o _ => keep_word rfl (fT_congr rfl))
          (fun q _ => keep_word rfl (fIn_congr rfl)) (keepIn (by simp))
      · have h3 : ¬ cfg.size i > cfg.capacity := by omega
        rcases hp with rfl | rfl <;>
        exact LInv_gen (i := i) (x := .write) hl
          (fun f _ => wsum_set0 f _ hi) (by simp [fReg, holds, h1]) (by simpa using h2)
          (by simp [fOver, holds, h3]) (keep_word rfl (fCb_congr nofun nofun)) (fun o _ => keep_word rfl (fT_congr rfl))
          (fun q _ => keep_word rfl (fIn_congr rfl)) (keepIn (by simp))
      · rcases hp with rfl | rfl <;>
        exact LInv_move (x := .waiting) hl hi rfl nofun nofun rfl rfl nofun rfl rfl rfl rfl rfl rfl
  | writeFail i hi hf =>
      exact LInv_move (x := .bRel false) hl hi rfl nofun nofun rfl rfl nofun rfl rfl rfl rfl rfl rfl
  | writeOk i hi hf =>
      exact LInv_move (x := .bRel true) hl hi rfl nofun nofun rfl rfl nofun rfl rfl rfl rfl rfl rfl
  | bRel i ok hi =>
      have hil : i < cfg.n := by rw [← hs.tasks_len]; exact getElem?_lt hi
      have hgeR := wsum_ge0 (fReg cfg) hi
      have hgeO := wsum_ge0 (fOver cfg) hi
      have hreg := hl.reg
      have hover := hl.over
      have hle := hl.le
      unfold budgetRelease
      refine LInv_gen (i := i) (p := .bRel ok) (x := .done ok) hl
        (fun f qf => ?_) ?_ ?_ ?_ ?_ (fun o _ => ?_) (fun q _ => by simp [fIn, inIn]) ?_
      · -- the quiet sums
        simp only [qf.dn, Nat.add_zero]
        rw [wsum_finish qf (p := .bRel ok) _ ok _ (by simp)]
        · simp [wsum_wake qf]
        · exact SInv_release hs i
        · simp [hi, wake]
      · -- `inFlight`
        simp only [finishTask_inFlight]
        split
        · rename_i hgt
          have : ¬ cfg.size i ≤ cfg.capacity := by omega
          simp [fReg, holds, this]
        · rename_i hgt
          have : cfg.size i ≤ cfg.capacity := by omega
          simp [fReg, holds, this] at hgeR ⊢
          omega
      · -- `inFlight ≤ capacity`
        simp only [finishTask_inFlight]
        split <;> omega
      · -- `oversized`
        simp only [finishTask_oversized]
        split
        · rename_i hgt
          simp [fOver, holds, hgt] at hgeO ⊢
          cases hov : s.oversized <;> simp [hov] at hover ⊢
          omega
        · rename_i hgt
          simp [fOver, holds, hgt]
      · -- callback lock
        simp only [finishTask_cbLock]
        simp [fCb]
      · -- tensor locks
        simp only [finishTask_tLocks]
        exact hl.tl_release wf hs hi rfl rfl o
      · -- `cbAcqIn` only in pools with an inner callback
        refine hl.inner_finish (fun k hk => ?_) i ok
        simp only [List.getElem?_map, Option.map_eq_some_iff] at hk
        obtain ⟨q0, hq0, hw⟩ := hk
        cases q0 <;> simp [wake] at hw
        exact hq0


/-- the sizes of the holders are bounded by the regular ones plus `M` for every oversized one -/
theorem wsum_split_le {α : Type} (hold : α → Bool) (size : Nat → Nat) (cap M : Nat) (hM : ∀ i, size i ≤ M) :
    ∀ (l : List α) (k : Nat),
      wsum (fun i p => if hold p = true then size i else 0) k l ≤
        wsum (fun i p => if hold p = true ∧ size i ≤ cap then size i else 0) k l +
        wsum (fun i p => if hold p = true ∧ size i > cap then 1 else 0) k l * M
  | [], _ => Nat.zero_le _
  | p :: ps, k => by
      have ih := wsum_split_le hold size cap M hM ps (k + 1)
      have hk := hM k
      simp only [wsum, Nat.add_mul, gt_iff_lt] at ih ⊢
      cases hold p
      · simpa using ih
      · by_cases hc : size k ≤ cap
        · simp only [hc, Nat.not_lt.2 hc, and_self, and_false, if_true, if_false]; omega
        · simp only [hc, Nat.lt_of_not_le hc, and_self, and_false, if_true, if_false]; omega

def maxSize (cfg : Cfg) : Nat := cfg.tensors.foldr (fun t m => max t.size m) 0

theorem size_le_maxSize (cfg : Cfg) (i : Nat) : cfg.size i ≤ maxSize cfg := by
  unfold Cfg.size maxSize
  generalize cfg.tensors = l
  induction l generalizing i with
  | nil => simp; rfl
  | cons t ts ih =>
      cases i with
      | zero => simp; omega
      | succ i => have := ih i; simp at this ⊢; omega

/-- bytes of tensors materialised right now: sizes of all threads holding a reservation -/
def materialised (cfg : Cfg) (s : State) : Nat :=
  wsum (fun i p => if holds p = true then cfg.size i else 0) 0 s.tasks

theorem maxSize_le (cfg : Cfg) (B : Nat) (h : ∀ i, cfg.size i ≤ B) : maxSize cfg ≤ B := by
  unfold maxSize
  unfold Cfg.size at h
  generalize cfg.tensors = l at h
  induction l with
  | nil => simp
  | cons t ts ih =>
      have h0 := h 0
      have := ih (fun i => by have := h (i + 1); simpa using this)
      simp at h0 ⊢; omega

theorem LInv.materialised_le {cfg : Cfg} {s : State} (hl : LInv cfg s) :
    materialised cfg s ≤ cfg.capacity + maxSize cfg := by
  have hsplit : materialised cfg s ≤
      wsum (fReg cfg) 0 s.tasks + wsum (fOver cfg) 0 s.tasks * maxSize cfg :=
    wsum_split_le holds cfg.size cfg.capacity (maxSize cfg) (size_le_maxSize cfg) s.tasks 0
  have h1 : wsum (fOver cfg) 0 s.tasks ≤ 1 := by rw [← hl.over]; split <;> omega
  have := hl.reg
  have := hl.le
  have : wsum (fOver cfg) 0 s.tasks * maxSize cfg ≤ maxSize cfg := by
    rcases Nat.le_one_iff_eq_zero_or_eq_one.1 h1 with e | e <;> simp [e]
  omega

end IrVerif.WriterN
