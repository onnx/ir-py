/-
About `Model/Pack.lean`: unpacking what was packed gives the elements masked to the width; packing
what was unpacked gives the buffer with its padding bits cleared (`clearPad`); lengths and byte
bounds; little-endian items and their digits; the byte forms against the bit-stream specification
(`bitStream_tobytes`).  Core Lean only.
-/
import IrVerif.Model.Pack
namespace IrVerif.Pack

theorem resize_self (xs : List Nat) : resize xs xs.length = xs := by
  simp [resize]

theorem resize_of_length (xs : List Nat) (n : Nat) (h : xs.length = n) : resize xs n = xs := by
  subst h; exact resize_self xs

theorem nbytes_whole (n k : Nat) : nbytes n (8 * k) = n * k := by
  unfold nbytes
  rw [Nat.mul_left_comm]
  omega

theorem nbytes_pos {n bw : Nat} (hn : 0 < n) (hb : 2 ≤ bw) : 0 < nbytes n bw := by
  have : 1 * 2 ≤ n * bw := Nat.mul_le_mul hn hb
  unfold nbytes
  omega

/-! ### a packed byte is the number whose base-16 (base-4) digits are the elements -/

theorem lanes4 (a b : Nat) (ha : a < 16) (hb : b < 16) :
    (a + b * 16) % 16 = a ∧ (a + b * 16) % 256 / 16 = b := by
  omega

theorem byte_eq_lanes4 (b : Nat) (h : b < 256) : b % 16 + b % 256 / 16 * 16 = b := by
  omega

theorem lanes2 (a b c d : Nat) (ha : a < 4) (hb : b < 4) (hc : c < 4) (hd : d < 4) :
    (a + b * 4 + c * 16 + d * 64) % 4 = a ∧ (a + b * 4 + c * 16 + d * 64) % 16 / 4 = b ∧
    (a + b * 4 + c * 16 + d * 64) % 64 / 16 = c ∧ (a + b * 4 + c * 16 + d * 64) % 256 / 64 = d := by
  omega

theorem byte_eq_lanes2 (b : Nat) (h : b < 256) :
    b % 4 + b % 16 / 4 * 4 + b % 64 / 16 * 16 + b % 256 / 64 * 64 = b := by
  omega

theorem unpack4raw_byte (a b : Nat) (bs : List Nat) :
    unpack4raw ((a % 16 + b % 16 * 16) :: bs) = a % 16 :: b % 16 :: unpack4raw bs := by
  obtain ⟨h1, h2⟩ := lanes4 (a % 16) (b % 16) (Nat.mod_lt _ (by decide)) (Nat.mod_lt _ (by decide))
  rw [unpack4raw, h1, h2]

theorem unpack2raw_byte (a b c d : Nat) (bs : List Nat) :
    unpack2raw ((a % 4 + b % 4 * 4 + c % 4 * 16 + d % 4 * 64) :: bs)
      = a % 4 :: b % 4 :: c % 4 :: d % 4 :: unpack2raw bs := by
  obtain ⟨h1, h2, h3, h4⟩ := lanes2 (a % 4) (b % 4) (c % 4) (d % 4) (Nat.mod_lt _ (by decide))
    (Nat.mod_lt _ (by decide)) (Nat.mod_lt _ (by decide)) (Nat.mod_lt _ (by decide))
  rw [unpack2raw, h1, h2, h3, h4]

theorem pack4_lanes (b : Nat) (h : b < 256) (rest : List Nat) :
    pack4 (b % 16 :: b % 256 / 16 :: rest) = b :: pack4 rest := by
  have h1 : b % 256 / 16 < 16 := Nat.div_lt_of_lt_mul (Nat.mod_lt b (by decide : 0 < 16 * 16))
  rw [pack4, Nat.mod_mod, Nat.mod_eq_of_lt h1, byte_eq_lanes4 b h]

theorem lanes2_lt (b : Nat) : b % 16 / 4 < 4 ∧ b % 64 / 16 < 4 ∧ b % 256 / 64 < 4 :=
  ⟨Nat.div_lt_of_lt_mul (Nat.mod_lt b (by decide : 0 < 4 * 4)),
   Nat.div_lt_of_lt_mul (Nat.mod_lt b (by decide : 0 < 16 * 4)),
   Nat.div_lt_of_lt_mul (Nat.mod_lt b (by decide : 0 < 64 * 4))⟩

theorem pack2_lanes (b : Nat) (h : b < 256) (rest : List Nat) :
    pack2 (b % 4 :: b % 16 / 4 :: b % 64 / 16 :: b % 256 / 64 :: rest) = b :: pack2 rest := by
  obtain ⟨h1, h2, h3⟩ := lanes2_lt b
  rw [pack2, Nat.mod_mod, Nat.mod_eq_of_lt h1, Nat.mod_eq_of_lt h2, Nat.mod_eq_of_lt h3,
    byte_eq_lanes2 b h]

theorem pack4_length : ∀ xs : List Nat, (pack4 xs).length = nbytes xs.length 4
  | [] => by simp [pack4, nbytes]
  | [a] => by simp [pack4, nbytes]
  | a :: b :: rest => by
      have := pack4_length rest
      simp [pack4, nbytes] at *
      omega

theorem pack4_byte : ∀ xs : List Nat, ∀ b ∈ pack4 xs, b < 256
  | [] => by simp [pack4]
  | [a] => by simp [pack4]; omega
  | a :: b :: rest => by
      intro x hx
      simp only [pack4, List.mem_cons] at hx
      rcases hx with h | h
      · omega
      · exact pack4_byte rest x h

theorem unpack4raw_pack4 : ∀ xs : List Nat,
    unpack4raw (pack4 xs) = xs.map (· % 16) ++ List.replicate (xs.length % 2) 0
  | [] => rfl
  | [a] => unpack4raw_byte a 0 []
  | a :: b :: rest => by
      have hl : (a :: b :: rest).length % 2 = rest.length % 2 := by
        simp only [List.length_cons]; omega
      rw [pack4, unpack4raw_byte, unpack4raw_pack4 rest, hl]; rfl

theorem unpack4_pack4_mod (xs : List Nat) : unpack4 (pack4 xs) xs.length = xs.map (· % 16) := by
  have hlen : (xs.map (· % 16)).length = xs.length := List.length_map _
  simp only [unpack4, unpack4raw_pack4, List.length_append, hlen, List.length_replicate]
  rcases Nat.mod_two_eq_zero_or_one xs.length with h | h <;> rw [h]
  · rw [if_neg (by omega), List.replicate_zero, List.append_nil]
    exact resize_of_length _ _ hlen
  · rw [if_pos rfl, show List.replicate 1 0 = [0] from rfl, List.dropLast_concat]
    exact resize_of_length _ _ hlen

theorem pack2_length : ∀ xs : List Nat, (pack2 xs).length = nbytes xs.length 2
  | [] => by simp [pack2, nbytes]
  | [a] => by simp [pack2, nbytes]
  | [a, b] => by simp [pack2, nbytes]
  | [a, b, c] => by simp [pack2, nbytes]
  | a :: b :: c :: d :: rest => by
      have := pack2_length rest
      simp [pack2, nbytes] at *
      omega

theorem pack2_byte : ∀ xs : List Nat, ∀ b ∈ pack2 xs, b < 256
  | [] => by simp [pack2]
  | [a] => by simp [pack2]; omega
  | [a, b] => by simp [pack2]; omega
  | [a, b, c] => by simp [pack2]; omega
  | a :: b :: c :: d :: rest => by
      intro x hx
      simp only [pack2, List.mem_cons] at hx
      rcases hx with h | h
      · omega
      · exact pack2_byte rest x h

theorem unpack2raw_pack2 : ∀ xs : List Nat,
    unpack2raw (pack2 xs) = xs.map (· % 4) ++ List.replicate ((4 - xs.length % 4) % 4) 0
  | [] => rfl
  | [a] => unpack2raw_byte a 0 0 0 []
  | [a, b] => unpack2raw_byte a b 0 0 []
  | [a, b, c] => unpack2raw_byte a b c 0 []
  | a :: b :: c :: d :: rest => by
      have hl : (4 - (a :: b :: c :: d :: rest).length % 4) % 4 = (4 - rest.length % 4) % 4 := by
        simp only [List.length_cons]; omega
      rw [pack2, unpack2raw_byte, unpack2raw_pack2 rest, hl]; rfl

theorem unpack2_pack2_mod (xs : List Nat) : unpack2 (pack2 xs) xs.length = xs.map (· % 4) := by
  have h := unpack2raw_pack2 xs
  simp only [unpack2, h]
  have hlen : (xs.map (· % 4)).length = xs.length := by simp
  split
  · rw [List.take_append_of_le_length (by simp)]
    simp only [List.take_of_length_le (Nat.le_of_eq hlen)]
    simpa using resize_self (xs.map (· % 4))
  · rename_i hgt
    simp at hgt
    have : (4 - xs.length % 4) % 4 = 0 := by omega
    simp only [this, List.replicate_zero, List.append_nil]
    simpa using resize_self (xs.map (· % 4))

theorem map_mod_id (m : Nat) (xs : List Nat) (h : ∀ x ∈ xs, x < m) : xs.map (· % m) = xs := by
  induction xs with
  | nil => rfl
  | cons x xs ih =>
    have hx : x < m := h x (by simp)
    have := ih (fun y hy => h y (by simp [hy]))
    simp [this, Nat.mod_eq_of_lt hx]

theorem unpack4_pack4 (xs : List Nat) (h : ∀ x ∈ xs, x < 16) : unpack4 (pack4 xs) xs.length = xs := by
  rw [unpack4_pack4_mod, map_mod_id 16 xs h]

theorem unpack2_pack2 (xs : List Nat) (h : ∀ x ∈ xs, x < 4) : unpack2 (pack2 xs) xs.length = xs := by
  rw [unpack2_pack2_mod, map_mod_id 4 xs h]

theorem pack4_map_mod : ∀ xs : List Nat, pack4 (xs.map (· % 16)) = pack4 xs
  | [] => rfl
  | [a] => by simp [pack4]
  | a :: b :: rest => by
      have := pack4_map_mod rest
      simp only [List.map_cons, pack4, this, Nat.mod_mod]

theorem pack2_map_mod : ∀ xs : List Nat, pack2 (xs.map (· % 4)) = pack2 xs
  | [] => rfl
  | [a] => by simp [pack2]
  | [a, b] => by simp [pack2]
  | [a, b, c] => by simp [pack2]
  | a :: b :: c :: d :: rest => by
      have := pack2_map_mod rest
      simp only [List.map_cons, pack2, this, Nat.mod_mod]

/-! `leBytes` (base 256) and `natBits` (base 2) are one recursion -/

section
variable {β : Type} (b : Nat) (g : Nat → β) (f : Nat → Nat → List β)
  (h0 : ∀ x, f 0 x = []) (hs : ∀ k x, f (k + 1) x = g x :: f k (x / b))
include h0 hs

/-- `f k x` reads `k` digits of `x` in base `b`, keeping `g` of each: reading `a + c` digits is reading
    `a`, then `c` more of the quotient -/
theorem digits_add (a c x : Nat) : f (a + c) x = f a x ++ f c (x / b ^ a) := by
  induction a generalizing x with
  | zero => rw [h0, Nat.zero_add, Nat.pow_zero, Nat.div_one, List.nil_append]
  | succ a ih =>
    rw [show a + 1 + c = (a + c) + 1 by omega, hs, hs, ih, List.cons_append, Nat.pow_succ,
      Nat.mul_comm, Nat.div_div_eq_div_mul]

theorem digits_mod (hg : ∀ x m, g (x % (b * m)) = g x) (k x : Nat) : f k (x % b ^ k) = f k x := by
  induction k generalizing x with
  | zero => rw [h0, h0]
  | succ k ih => rw [hs, hs, Nat.pow_succ, Nat.mul_comm, hg, Nat.mod_mul_right_div_self, ih]

end

theorem leBytes_add (a b x : Nat) : leBytes (a + b) x = leBytes a x ++ leBytes b (x / 256 ^ a) :=
  digits_add 256 (· % 256) leBytes (fun _ => rfl) (fun _ _ => rfl) a b x

theorem leBytes_mod (w x : Nat) : leBytes w (x % 256 ^ w) = leBytes w x :=
  digits_mod 256 (· % 256) leBytes (fun _ => rfl) (fun _ _ => rfl)
    (fun x m => Nat.mod_mul_right_mod x 256 m) w x

theorem natBits_add (a b x : Nat) : natBits (a + b) x = natBits a x ++ natBits b (x / 2 ^ a) :=
  digits_add 2 (· % 2 == 1) natBits (fun _ => rfl) (fun _ _ => rfl) a b x

theorem natBits_mod (k x : Nat) : natBits k (x % 2 ^ k) = natBits k x :=
  digits_mod 2 (· % 2 == 1) natBits (fun _ => rfl) (fun _ _ => rfl)
    (fun x m => congrArg (· == 1) (Nat.mod_mul_right_mod x 2 m)) k x

theorem leBytes_length (w x : Nat) : (leBytes w x).length = w := by
  induction w generalizing x with
  | zero => rfl
  | succ w ih => simp [leBytes, ih]

theorem leBytes_byte (w x : Nat) : ∀ b ∈ leBytes w x, b < 256 := by
  induction w generalizing x with
  | zero => simp [leBytes]
  | succ w ih =>
    intro b hb
    simp only [leBytes, List.mem_cons] at hb
    rcases hb with h | h
    · omega
    · exact ih _ b h

theorem ofLeBytes_leBytes (w x : Nat) (h : x < 256 ^ w) : ofLeBytes (leBytes w x) = x := by
  induction w generalizing x with
  | zero => simp [leBytes, ofLeBytes] at *; omega
  | succ w ih =>
      simp only [leBytes, ofLeBytes]
      have : x / 256 < 256 ^ w := by
        rw [Nat.div_lt_iff_lt_mul (by decide)]; rw [Nat.pow_succ] at h; exact h
      rw [ih _ this]; omega

theorem ofLeBytes_lt : ∀ bs : List Nat, (∀ b ∈ bs, b < 256) → ofLeBytes bs < 256 ^ bs.length
  | [], _ => by simp [ofLeBytes]
  | b :: bs, h => by
    have hb : b < 256 := h b (by simp)
    have ih := ofLeBytes_lt bs (fun x hx => h x (by simp [hx]))
    simp only [ofLeBytes, List.length_cons, Nat.pow_succ]
    have : 256 * ofLeBytes bs + 256 ≤ 256 * 256 ^ bs.length := by
      have := Nat.mul_le_mul_left 256 (Nat.succ_le_of_lt ih)
      simpa [Nat.mul_succ] using this
    rw [Nat.mul_comm (256 ^ bs.length)]
    omega

theorem leBytes_ofLeBytes : ∀ bs : List Nat, (∀ b ∈ bs, b < 256) → leBytes bs.length (ofLeBytes bs) = bs
  | [], _ => rfl
  | b :: bs, h => by
    have hb : b < 256 := h b (by simp)
    have ih := leBytes_ofLeBytes bs (fun x hx => h x (by simp [hx]))
    simp only [List.length_cons, leBytes, ofLeBytes]
    have h1 : (b + 256 * ofLeBytes bs) % 256 = b := by omega
    have h2 : (b + 256 * ofLeBytes bs) / 256 = ofLeBytes bs := by omega
    rw [h1, h2, ih]

theorem flatMap_leBytes_length (w : Nat) (ys : List Nat) :
    (ys.flatMap (leBytes w)).length = ys.length * w := by
  induction ys with
  | nil => simp
  | cons y ys ih => simp [List.flatMap_cons, leBytes_length, ih, Nat.add_mul]; omega

theorem leBytes_one (b : Nat) (h : b < 256) : leBytes 1 b = [b] := by
  simp [leBytes, Nat.mod_eq_of_lt h]

theorem flatMap_leBytes_one (bs : List Nat) (h : ∀ b ∈ bs, b < 256) : bs.flatMap (leBytes 1) = bs := by
  induction bs with
  | nil => rfl
  | cons b bs ih =>
    have hb := h b (by simp)
    have := ih (fun y hy => h y (by simp [hy]))
    simp [List.flatMap_cons, leBytes_one b hb, this]

/-- the packed buffer of `n` elements of `bw` bits with the unused high bits of the last byte
    cleared -/
def clearPad (bw n : Nat) (bs : List Nat) : List Nat :=
  bs.take (n * bw / 8) ++ (bs.drop (n * bw / 8)).map (· % 2 ^ (n * bw % 8))

theorem unpack4raw_append (a b : List Nat) : unpack4raw (a ++ b) = unpack4raw a ++ unpack4raw b := by
  induction a with
  | nil => rfl
  | cons x a ih => simp [unpack4raw, ih]

theorem unpack4raw_length (bs : List Nat) : (unpack4raw bs).length = 2 * bs.length := by
  induction bs with
  | nil => rfl
  | cons b bs ih => simp [unpack4raw, ih]; omega

theorem pack4_unpack4raw_append (init ys : List Nat) (h : ∀ b ∈ init, b < 256) :
    pack4 (unpack4raw init ++ ys) = init ++ pack4 ys := by
  induction init with
  | nil => rfl
  | cons b init ih =>
    rw [unpack4raw, List.cons_append, List.cons_append, pack4_lanes b (h b (by simp)),
      ih (fun y hy => h y (by simp [hy]))]
    rfl

theorem pack4_unpack4_partial (init : List Nat) (last : Nat) (hb : ∀ b ∈ init, b < 256) :
    pack4 (unpack4 (init ++ [last]) (2 * init.length + 1)) = init ++ [last % 2 ^ 4] := by
  have hraw : unpack4raw (init ++ [last])
      = (unpack4raw init ++ [last % 16]) ++ [last % 256 / 16] := by
    rw [unpack4raw_append, List.append_assoc]; rfl
  have hl : (unpack4raw (init ++ [last])).length = 2 * init.length + 1 + 1 := by
    rw [unpack4raw_length, List.length_append, List.length_singleton]; omega
  have hl2 : (unpack4raw init ++ [last % 16]).length = 2 * init.length + 1 := by
    rw [List.length_append, unpack4raw_length, List.length_singleton]
  simp only [unpack4, hl, if_true]
  rw [hraw, List.dropLast_concat, resize_of_length _ _ hl2, pack4_unpack4raw_append init _ hb]
  exact congrArg (fun x => init ++ [x]) (Nat.mod_mod _ _)

theorem pack4_unpack4 (bs : List Nat) (n : Nat) (hb : ∀ b ∈ bs, b < 256)
    (hn : bs.length = nbytes n 4) : pack4 (unpack4 bs n) = clearPad 4 n bs := by
  unfold nbytes at hn
  rcases Nat.mod_two_eq_zero_or_one n with he | ho
  · -- even: no padding
    obtain ⟨hl, hk⟩ : 2 * bs.length = n ∧ n * 4 / 8 = bs.length := by omega
    have hlen : (unpack4raw bs).length = n := by rw [unpack4raw_length, hl]
    simp only [unpack4, hlen, show ¬ n = n + 1 by omega, if_false, resize_of_length _ n hlen,
      clearPad, hk, List.take_length, List.drop_length, List.map_nil, List.append_nil]
    have := pack4_unpack4raw_append bs [] hb
    rw [List.append_nil] at this
    exact this.trans (List.append_nil bs)
  · -- odd: one padding nibble
    rcases List.eq_nil_or_concat bs with rfl | ⟨init, last, rfl⟩
    · simp only [List.length_nil] at hn; omega
    · rw [List.concat_eq_append] at hn hb ⊢
      rw [List.length_append, List.length_singleton] at hn
      obtain ⟨rfl, hk, hm⟩ : n = 2 * init.length + 1 ∧ n * 4 / 8 = init.length ∧ n * 4 % 8 = 4 := by
        omega
      rw [pack4_unpack4_partial init last (fun b h => hb b (List.mem_append_left _ h)), clearPad,
        hk, hm, List.take_left' rfl, List.drop_left' rfl, List.map_cons, List.map_nil]

theorem unpack2raw_append (a b : List Nat) : unpack2raw (a ++ b) = unpack2raw a ++ unpack2raw b := by
  induction a with
  | nil => rfl
  | cons x a ih => simp [unpack2raw, ih]

theorem unpack2raw_length (bs : List Nat) : (unpack2raw bs).length = 4 * bs.length := by
  induction bs with
  | nil => rfl
  | cons b bs ih => simp [unpack2raw, ih]; omega

theorem pack2_unpack2raw_append (init ys : List Nat) (h : ∀ b ∈ init, b < 256) :
    pack2 (unpack2raw init ++ ys) = init ++ pack2 ys := by
  induction init with
  | nil => rfl
  | cons b init ih =>
    rw [unpack2raw, List.cons_append, List.cons_append, List.cons_append, List.cons_append,
      pack2_lanes b (h b (by simp)), ih (fun y hy => h y (by simp [hy]))]
    rfl

theorem pack2_take_lanes (b k : Nat) (h0 : 0 < k) (h4 : k < 4) :
    pack2 ([b % 4, b % 16 / 4, b % 64 / 16, b % 256 / 64].take k) = [b % 2 ^ (2 * k)] := by
  obtain ⟨h1, h2, _⟩ := lanes2_lt b
  have hk : k = 1 ∨ k = 2 ∨ k = 3 := by omega
  rcases hk with rfl | rfl | rfl <;>
    simp only [List.take, pack2, Nat.mod_mod, Nat.mod_eq_of_lt h1, Nat.mod_eq_of_lt h2] <;>
    congr 1 <;> omega

theorem pack2_unpack2_partial (init : List Nat) (last k : Nat) (hb : ∀ b ∈ init, b < 256)
    (h0 : 0 < k) (h4 : k < 4) :
    pack2 (unpack2 (init ++ [last]) (4 * init.length + k)) = init ++ [last % 2 ^ (2 * k)] := by
  have hrl := unpack2raw_length init
  have hraw : unpack2raw (init ++ [last]) = unpack2raw init ++
      [last % 4, last % 16 / 4, last % 64 / 16, last % 256 / 64] := by
    rw [unpack2raw_append]; rfl
  have hgt : (unpack2raw (init ++ [last])).length > 4 * init.length + k := by
    rw [unpack2raw_length, List.length_append, List.length_singleton]; omega
  have htake : (unpack2raw (init ++ [last])).take (4 * init.length + k) = unpack2raw init ++
      [last % 4, last % 16 / 4, last % 64 / 16, last % 256 / 64].take k := by
    rw [hraw, List.take_append, List.take_of_length_le (by omega), hrl, Nat.add_sub_cancel_left]
  have hlen : ((unpack2raw (init ++ [last])).take (4 * init.length + k)).length
      = 4 * init.length + k := by
    rw [List.length_take]; omega
  simp only [unpack2, hgt, if_true, resize_of_length _ _ hlen]
  rw [htake, pack2_unpack2raw_append init _ hb, pack2_take_lanes last k h0 h4]

theorem pack2_unpack2 (bs : List Nat) (n : Nat) (hb : ∀ b ∈ bs, b < 256)
    (hn : bs.length = nbytes n 2) : pack2 (unpack2 bs n) = clearPad 2 n bs := by
  unfold nbytes at hn
  by_cases h0 : n % 4 = 0
  · obtain ⟨hl, hk⟩ : 4 * bs.length = n ∧ n * 2 / 8 = bs.length := by omega
    have hlen : (unpack2raw bs).length = n := by rw [unpack2raw_length, hl]
    simp only [unpack2, hlen, Nat.lt_irrefl, if_false, resize_of_length _ n hlen,
      clearPad, hk, List.take_length, List.drop_length, List.map_nil, List.append_nil]
    have := pack2_unpack2raw_append bs [] hb
    rw [List.append_nil] at this
    exact this.trans (List.append_nil bs)
  · rcases List.eq_nil_or_concat bs with rfl | ⟨init, last, rfl⟩
    · simp only [List.length_nil] at hn; omega
    · rw [List.concat_eq_append] at hn hb ⊢
      rw [List.length_append, List.length_singleton] at hn
      obtain ⟨k, hk0, hk4, rfl, hk, hm⟩ : ∃ k, 0 < k ∧ k < 4 ∧ n = 4 * init.length + k ∧
          n * 2 / 8 = init.length ∧ n * 2 % 8 = 2 * k := ⟨n % 4, by omega⟩
      rw [pack2_unpack2_partial init last k (fun b h => hb b (List.mem_append_left _ h)) hk0 hk4,
        clearPad, hk, hm, List.take_left' rfl, List.drop_left' rfl, List.map_cons, List.map_nil]

theorem natBits_zero (k : Nat) : natBits k 0 = List.replicate k false := by
  induction k with
  | zero => rfl
  | succ k ih => simp [natBits, ih, List.replicate_succ]

theorem natBits_digits (k j x y : Nat) :
    natBits (k + j) (x % 2 ^ k + y * 2 ^ k) = natBits k x ++ natBits j y := by
  have hk : 0 < 2 ^ k := Nat.two_pow_pos k
  rw [natBits_add, Nat.add_mul_div_right _ _ hk, Nat.div_eq_of_lt (Nat.mod_lt _ hk), Nat.zero_add]
  congr 1
  rw [← natBits_mod, Nat.add_mul_mod_self_right, Nat.mod_mod, natBits_mod]

theorem natBits_pack4_byte (a b : Nat) :
    natBits 8 (a % 16 + b % 16 * 16) = natBits 4 a ++ natBits 4 b :=
  (natBits_digits 4 4 a (b % 16)).trans (congrArg _ (natBits_mod 4 b))

theorem natBits_pack2_byte (a b c d : Nat) :
    natBits 8 (a % 4 + b % 4 * 4 + c % 4 * 16 + d % 4 * 64)
      = natBits 2 a ++ natBits 2 b ++ natBits 2 c ++ natBits 2 d := by
  have e : a % 4 + b % 4 * 4 + c % 4 * 16 + d % 4 * 64
      = a % 2 ^ 2 + (b % 2 ^ 2 + (c % 2 ^ 2 + d % 4 * 2 ^ 2) * 2 ^ 2) * 2 ^ 2 := by
    generalize a % 4 = a', b % 4 = b', c % 4 = c', d % 4 = d'
    omega
  rw [e, natBits_digits 2 6, natBits_digits 2 4, natBits_digits 2 2, natBits_mod 2 d,
    List.append_assoc, List.append_assoc]

theorem bitStream_pack4 : ∀ xs : List Nat,
    bitStream (pack4 xs) = xs.flatMap (natBits 4) ++ List.replicate (4 * (xs.length % 2)) false
  | [] => rfl
  | [a] => by
      have := natBits_pack4_byte a 0
      simp only [bitStream, pack4, List.flatMap_cons, List.flatMap_nil, List.append_nil] at *
      rw [this, natBits_zero]; rfl
  | a :: b :: rest => by
      have ih := bitStream_pack4 rest
      have hl : (a :: b :: rest).length % 2 = rest.length % 2 := by simp; omega
      simp only [bitStream, pack4, List.flatMap_cons, hl] at *
      rw [ih, natBits_pack4_byte]; simp [List.append_assoc]

theorem bitStream_pack2 : ∀ xs : List Nat,
    bitStream (pack2 xs) = xs.flatMap (natBits 2)
      ++ List.replicate (2 * ((4 - xs.length % 4) % 4)) false
  | [] => rfl
  | [a] => by
      have := natBits_pack2_byte a 0 0 0
      simp only [bitStream, pack2, List.flatMap_cons, List.flatMap_nil, List.append_nil,
        Nat.zero_mod, Nat.zero_mul, Nat.add_zero] at *
      rw [this, natBits_zero]; rfl
  | [a, b] => by
      have := natBits_pack2_byte a b 0 0
      simp only [bitStream, pack2, List.flatMap_cons, List.flatMap_nil, List.append_nil,
        Nat.zero_mod, Nat.zero_mul, Nat.add_zero] at *
      rw [this, natBits_zero]; simp [List.append_assoc]
  | [a, b, c] => by
      have := natBits_pack2_byte a b c 0
      simp only [bitStream, pack2, List.flatMap_cons, List.flatMap_nil, List.append_nil,
        Nat.zero_mod, Nat.zero_mul, Nat.add_zero] at *
      rw [this, natBits_zero]; simp [List.append_assoc]
  | a :: b :: c :: d :: rest => by
      have ih := bitStream_pack2 rest
      have hl : (4 - (a :: b :: c :: d :: rest).length % 4) % 4 = (4 - rest.length % 4) % 4 := by
        simp; omega
      simp only [bitStream, pack2, List.flatMap_cons, hl] at *
      rw [ih, natBits_pack2_byte]
      simp [List.append_assoc]

theorem bitStream_leBytes (w x : Nat) : bitStream (leBytes w x) = natBits (8 * w) x := by
  induction w generalizing x with
  | zero => rfl
  | succ w ih =>
    have h := natBits_add 8 (8 * w) x
    have hm := natBits_mod 8 x
    simp only [show (2 : Nat) ^ 8 = 256 from rfl] at h hm
    have ih' := ih (x / 256)
    simp only [bitStream, leBytes, List.flatMap_cons] at *
    rw [ih', show 8 * (w + 1) = 8 + 8 * w by omega, h, hm]

theorem bitStream_flatMap_leBytes (w : Nat) (xs : List Nat) :
    bitStream (xs.flatMap (leBytes w)) = xs.flatMap (natBits (8 * w)) := by
  induction xs with
  | nil => rfl
  | cons x xs ih =>
    have := bitStream_leBytes w x
    simp only [bitStream, List.flatMap_cons, List.flatMap_append] at *
    rw [this, ih]

theorem bitStream_tobytes (bw : Nat) (xs : List Nat) (h : bw = 2 ∨ bw = 4 ∨ bw % 8 = 0) :
    bitStream (tobytes bw xs) = elemStream bw xs (nbytes xs.length bw) := by
  unfold tobytes elemStream
  rcases h with rfl | rfl | h
  · rw [if_neg (by decide), if_pos rfl, bitStream_pack2, nbytes]
    congr 2; omega
  · rw [if_pos rfl, bitStream_pack4, nbytes]
    congr 2; omega
  · obtain ⟨k, rfl⟩ : ∃ k, bw = 8 * k := ⟨bw / 8, by omega⟩
    rw [if_neg (by omega), if_neg (by omega), Nat.mul_div_cancel_left k (by decide),
      bitStream_flatMap_leBytes, nbytes_whole, Nat.mul_left_comm, Nat.sub_self,
      List.replicate_zero, List.append_nil]

theorem tobytes_length (bw : Nat) (xs : List Nat) (h : bw = 2 ∨ bw = 4 ∨ bw % 8 = 0) :
    (tobytes bw xs).length = nbytes xs.length bw := by
  unfold tobytes
  rcases h with h | h | h
  · subst h; simp [pack2_length]
  · subst h; simp [pack4_length]
  · obtain ⟨k, rfl⟩ : ∃ k, bw = 8 * k := ⟨bw / 8, by omega⟩
    rw [if_neg (by omega), if_neg (by omega), flatMap_leBytes_length,
      Nat.mul_div_cancel_left k (by decide), nbytes_whole]

theorem tobytes_byte (bw : Nat) (xs : List Nat) : ∀ b ∈ tobytes bw xs, b < 256 := by
  unfold tobytes
  split
  · exact pack4_byte xs
  · split
    · exact pack2_byte xs
    · intro b hb
      rw [List.mem_flatMap] at hb
      obtain ⟨x, _, hx⟩ := hb
      exact leBytes_byte _ x b hx

end IrVerif.Pack
