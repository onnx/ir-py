/-
C13's scope walker (`Clone.wGraph`, Model/Clone.lean) on regular heaps, by itself: what its steps answer on regular
values, when the constructor `wMkGraph` accepts and when one of its checks raises.
-/
import IrVerif.Model.Clone
import IrVerif.Lemmas.CloneTotal
namespace IrVerif.Extract
open IrVerif.Clone (Sc WRes wFold wAll)
open IrVerif.Clone.Total (wAll_eq_ok_iff wAll_dich)

abbrev Heap := Clone.World

@[simp] theorem wres_ok_bind {α β : Type} (a : α) (f : α → WRes β) : (WRes.ok a).bind f = f a := rfl

/-- `v` is a value cell whose shape / type / metadata containers are cells of the right kind, with a
    non-empty name -/
def RegVal (w : Heap) (v : Nat) : Prop :=
  ∃ vs, w[v]? = some (Clone.Cell.val vs) ∧ Clone.wOptShape w vs.shape = .ok () ∧
    Clone.wOptType w vs.type = .ok () ∧ Clone.wDict w vs.props = .ok () ∧ Clone.wDict w vs.mstore = .ok () ∧
    ∃ nm, vs.name = some nm ∧ nm ≠ ""

theorem wCloneOrGet_reg {w : Heap} {v : Nat} (h : RegVal w v) (A : Sc) :
    Clone.wCloneOrGet w v A = .ok (if A.bound.contains v then A else { A with bound := v :: A.bound }) := by
  obtain ⟨vs, hc, h1, h2, h3, h4, _⟩ := h
  unfold Clone.wCloneOrGet
  by_cases hb : A.bound.contains v = true
  · rw [if_pos hb, if_pos hb]
  · rw [if_neg hb, if_neg hb]
    simp only [Clone.wVal, Clone.wCell, hc, wres_ok_bind, h1, h2, h3, h4]

theorem wOutput_reg {w : Heap} {o : Nat} (h : RegVal w o) (A : Sc) (hb : A.bound.contains o = false) :
    Clone.wOutput w o A = .ok { A with bound := o :: A.bound, pend := A.pend.filter (· != o) } := by
  obtain ⟨vs, hc, h1, h2, h3, h4, _⟩ := h
  unfold Clone.wOutput
  simp only [Clone.wVal, Clone.wCell, hc, wres_ok_bind, h1, h2, h3, h4, hb, Bool.false_eq_true, if_false]

theorem wName_reg {w : Heap} {v : Nat} (h : RegVal w v) : ∃ nm, Clone.wName w v = some nm ∧ nm ≠ "" := by
  obtain ⟨vs, hc, _, _, _, _, nm, hn, hne⟩ := h
  exact ⟨nm, by simp [Clone.wName, hc, hn], hne⟩

theorem wFold_cloneOrGet {w : Heap} : ∀ (l : List Nat) (A : Sc), (∀ v, v ∈ l → RegVal w v) →
    ∃ A', wFold (Clone.wCloneOrGet w) l A = .ok A' ∧ (∀ v, v ∈ A'.bound ↔ v ∈ A.bound ∨ v ∈ l) ∧
      A'.owned = A.owned ∧ A'.produced = A.produced
  | [], A, _ => ⟨A, rfl, by simp, rfl, rfl⟩
  | a :: l, A, h => by
    have ha := wCloneOrGet_reg (h a List.mem_cons_self) A
    obtain ⟨A', h1, h2, h3, h4⟩ := wFold_cloneOrGet l
      (if A.bound.contains a then A else { A with bound := a :: A.bound })
      (fun v hv => h v (List.mem_cons_of_mem _ hv))
    refine ⟨A', by rw [wFold, ha]; exact h1, ?_, ?_, ?_⟩
    · intro v
      rw [h2 v]
      by_cases hb : A.bound.contains a = true
      · simp only [hb, if_true, List.mem_cons]
        have : a ∈ A.bound := by simpa using hb
        constructor
        · rintro (h' | h')
          · exact Or.inl h'
          · exact Or.inr (Or.inr h')
        · rintro (h' | rfl | h')
          · exact Or.inl h'
          · exact Or.inl this
          · exact Or.inr h'
      · simp only [hb, Bool.false_eq_true, if_false, List.mem_cons]
        constructor
        · rintro ((rfl | h') | h')
          · exact Or.inr (Or.inl rfl)
          · exact Or.inl h'
          · exact Or.inr (Or.inr h')
        · rintro (h' | rfl | h')
          · exact Or.inl (Or.inr h')
          · exact Or.inl (Or.inl rfl)
          · exact Or.inr h'
    · rw [h3]; split <;> rfl
    · rw [h4]; split <;> rfl

theorem wFold_output {w : Heap} : ∀ (l : List Nat) (A : Sc), (∀ o, o ∈ l → RegVal w o) → l.Nodup →
    (∀ o, o ∈ l → ¬ o ∈ A.bound) →
    ∃ A', wFold (Clone.wOutput w) l A = .ok A' ∧ (∀ v, v ∈ A'.bound ↔ v ∈ A.bound ∨ v ∈ l) ∧
      A'.owned = A.owned ∧ A'.produced = A.produced
  | [], A, _, _, _ => ⟨A, rfl, by simp, rfl, rfl⟩
  | a :: l, A, h, hnd, hnb => by
    have hb : A.bound.contains a = false := by simpa using hnb a List.mem_cons_self
    have ha := wOutput_reg (h a List.mem_cons_self) A hb
    obtain ⟨A', h1, h2, h3, h4⟩ := wFold_output l
      { A with bound := a :: A.bound, pend := A.pend.filter (· != a) }
      (fun v hv => h v (List.mem_cons_of_mem _ hv)) (List.nodup_cons.mp hnd).2
      (by
        intro o ho hmem
        simp only [List.mem_cons] at hmem
        rcases hmem with rfl | hmem
        · exact (List.nodup_cons.mp hnd).1 ho
        · exact hnb o (List.mem_cons_of_mem _ ho) hmem)
    refine ⟨A', by rw [wFold, ha]; exact h1, ?_, h3, h4⟩
    intro v
    rw [h2 v]
    simp only [List.mem_cons]
    constructor
    · rintro ((rfl | h') | h')
      · exact Or.inr (Or.inl rfl)
      · exact Or.inl h'
      · exact Or.inr (Or.inr h')
    · rintro (h' | rfl | h')
      · exact Or.inl (Or.inr h')
      · exact Or.inl (Or.inl rfl)
      · exact Or.inr h'

theorem wFold_append {α : Type} (f : α → Sc → WRes Sc) : ∀ (l1 l2 : List α) (A : Sc),
    wFold f (l1 ++ l2) A = (wFold f l1 A).bind (wFold f l2)
  | [], l2, A => rfl
  | a :: l1, l2, A => by
    simp only [List.cons_append, wFold]
    cases f a A with
    | ok A1 => simp only [wres_ok_bind]; exact wFold_append f l1 l2 A1
    | err e => rfl
    | irregular why => rfl

theorem wMapInputs_ok (A : Sc) : ∀ (l : List (Option Nat)), (∀ v, some v ∈ l → v ∈ A.bound) →
    Clone.wMapInputs false A l = .ok ()
  | [], _ => rfl
  | none :: l, h => by
    rw [Clone.wMapInputs]; exact wMapInputs_ok A l (fun v hv => h v (List.mem_cons_of_mem _ hv))
  | some v :: l, h => by
    have : A.bound.contains v = true := by simpa using h v List.mem_cons_self
    rw [Clone.wMapInputs, if_pos this]
    exact wMapInputs_ok A l (fun v hv => h v (List.mem_cons_of_mem _ hv))

theorem wPassthrough_ok (w : Heap) (A : Sc) : ∀ (l : List (Option Nat)), (∀ v, some v ∈ l → v ∈ A.bound) →
    Clone.wPassthrough w A l = .ok ()
  | [], _ => rfl
  | none :: l, h => by
    rw [Clone.wPassthrough]; exact wPassthrough_ok w A l (fun v hv => h v (List.mem_cons_of_mem _ hv))
  | some v :: l, h => by
    have : A.bound.contains v = true := by simpa using h v List.mem_cons_self
    rw [Clone.wPassthrough, if_pos this]
    exact wPassthrough_ok w A l (fun v hv => h v (List.mem_cons_of_mem _ hv))

/-! ## graph-valued attributes of a node cell -/

def attrGraphs (w : Heap) : List (String × Nat) → Option (List Nat)
  | [] => some []
  | ka :: rest =>
    match w[ka.2]? with
    | some (Clone.Cell.attr as) =>
      (attrGraphs w rest).map (fun r =>
        (match as.v with
         | .graph g => [g]
         | .graphs gs => gs
         | _ => []) ++ r)
    | _ => none

theorem wFold_attrs (w : Heap) (rec : Nat → Sc → WRes Sc) : ∀ (attrs : List (String × Nat)) (gl : List Nat) (A : Sc),
    attrGraphs w attrs = some gl →
    wFold (fun (ka : String × Nat) => Clone.wAttr w rec ka.2) attrs A = wFold rec gl A
  | [], gl, A, h => by
    simp only [attrGraphs, Option.some.injEq] at h
    subst h; rfl
  | ka :: rest, gl, A, h => by
    rw [attrGraphs] at h
    split at h
    · rename_i as hc
      cases hr : attrGraphs w rest with
      | none => rw [hr] at h; simp at h
      | some r =>
        rw [hr] at h
        simp only [Option.map_some, Option.some.injEq] at h
        subst h
        rw [wFold, wFold_append]
        have ih := fun A1 => wFold_attrs w rec rest r A1 hr
        have hattr : Clone.wAttr w rec ka.2 A = wFold rec (match as.v with
            | .graph g => [g]
            | .graphs gs => gs
            | _ => []) A := by
          unfold Clone.wAttr
          simp only [Clone.wAttrCell, Clone.wCell, hc, wres_ok_bind]
          cases as.v with
          | graph g => simp only [wFold]; cases rec g A <;> rfl
          | graphs gs => rfl
          | plain p => rfl
          | ref p => rfl
        rw [hattr]
        cases wFold rec (match as.v with
            | .graph g => [g]
            | .graphs gs => gs
            | _ => []) A with
        | ok A1 => simp only [wres_ok_bind]; exact ih A1
        | err e => rfl
        | irregular why => rfl
    · cases h

/-! ## the constructor accepts -/

theorem wMkGraph_ok {w : Heap} {gs : Clone.GraphS} {A : Sc}
    (hreg : ∀ v, v ∈ gs.inputs ++ gs.inits.map (·.2) → RegVal w v)
    (hdist : Clone.distinct ((gs.inits.map (·.2)).filterMap (Clone.wName w)) = true)
    (hd1 : Clone.wDict w gs.props = .ok ()) (hd2 : Clone.wDict w gs.mstore = .ok ())
    (hin : ∀ v, v ∈ gs.inputs → ¬ v ∈ A.owned ∧ ¬ v ∈ A.produced)
    (hout : ∀ v, v ∈ gs.outputs → ¬ v ∈ A.owned)
    (hinit : ∀ v, v ∈ gs.inits.map (·.2) → ¬ v ∈ A.owned ∧ ¬ v ∈ A.produced)
    (hnamed : wAll (fun n => (Clone.wNodeCell w n).bind fun nsr =>
      wAll (fun o => if (Clone.wName w o).isNone then WRes.err (.unsupported "unnamed value (name authority)")
        else WRes.ok ()) nsr.outputs) gs.nodes = .ok ()) :
    Clone.wMkGraph w gs A =
      .ok { A with owned := A.owned ++ gs.inputs ++ gs.outputs ++ gs.inits.map (·.2) } := by
  have e2 : wAll (fun v => if A.owned.contains v then WRes.err (.raised "input owned by a different graph")
      else if A.produced.contains v then WRes.err (.raised "input is produced by a node") else WRes.ok ())
      gs.inputs = .ok () := by
    apply wAll_eq_ok_iff.2
    intro v hv
    have := hin v hv
    simp [this.1, this.2]
  have hown : ∀ l : List Nat, (∀ v, v ∈ l → ¬ v ∈ A.owned) → wAll (fun v => if A.owned.contains v then
      WRes.err (.raised "value owned by a different graph") else WRes.ok ()) l = .ok () := by
    intro l hl
    apply wAll_eq_ok_iff.2
    intro v hv
    simp [hl v hv]
  have e3 := hown gs.outputs hout
  have e4 := hown (gs.inits.map (·.2)) (fun v hv => (hinit v hv).1)
  have e5 : wAll (fun v => if Clone.wName w v = some "" then WRes.err (.raised "initializer with an empty name")
      else if A.produced.contains v then WRes.err (.raised "initializer produced by a node") else WRes.ok ())
      (gs.inits.map (·.2)) = .ok () := by
    apply wAll_eq_ok_iff.2
    intro v hv
    obtain ⟨nm, hn, hne⟩ := wName_reg (hreg v (List.mem_append_right _ hv))
    have h1 : ¬ (Clone.wName w v = some "") := by rw [hn]; simpa using hne
    simp [h1, (hinit v hv).2]
  have e6 : wAll (fun v => if (Clone.wName w v).isNone then WRes.err (.unsupported "unnamed value (name authority)")
      else WRes.ok ()) gs.inputs = .ok () := by
    apply wAll_eq_ok_iff.2
    intro v hv
    obtain ⟨nm, hn, _⟩ := wName_reg (hreg v (List.mem_append_left _ hv))
    simp [hn]
  -- the first check has a `match` on `wName` as body: it cannot be named like `e2`..`e6` and is left after the `simp only`
  have key : ∀ (F : Nat → WRes Unit), (∀ v, v ∈ gs.inits.map (·.2) → F v = .ok ()) →
      ∀ k : Unit → WRes Sc, (wAll F (gs.inits.map (·.2))).bind k = k () := by
    intro F hF k; rw [wAll_eq_ok_iff.2 hF]; rfl
  unfold Clone.wMkGraph
  simp only [e2, e3, e4, e5, e6, hnamed, hdist, hd1, hd2, wres_ok_bind, if_true]
  refine Eq.trans (key _ ?_ _) rfl
  intro v hv
  obtain ⟨nm, hn, _⟩ := wName_reg (hreg v (List.mem_append_right _ hv))
  simp [hn]

/-! ## where a check of the walker fails -/

theorem wMapInputs_err (A : Sc) : ∀ (l : List (Option Nat)), (∃ v, some v ∈ l ∧ ¬ v ∈ A.bound) →
    Clone.wMapInputs false A l = .err (.raised "outer-scope value")
  | [], ⟨v, hv, _⟩ => by cases hv
  | none :: l, ⟨v, hv, hb⟩ => by
    rw [Clone.wMapInputs]
    exact wMapInputs_err A l ⟨v, by simpa using hv, hb⟩
  | some u :: l, ⟨v, hv, hb⟩ => by
    rw [Clone.wMapInputs]
    by_cases hu : A.bound.contains u = true
    · rw [if_pos hu]
      refine wMapInputs_err A l ⟨v, ?_, hb⟩
      rcases List.mem_cons.mp hv with h' | h'
      · cases h'
        exact absurd (by simpa using hu) hb
      · exact h'
    · rw [if_neg hu]
      rfl

theorem exists_bind_of {x : WRes Unit} {k : Unit → WRes Sc} (hx : x = .ok ())
    (h : ∃ why, k () = .err (.raised why)) : ∃ why, x.bind k = .err (.raised why) := by
  subst hx; exact h

theorem wMkGraph_err {w : Heap} {gs : Clone.GraphS} {A : Sc}
    (hreg : ∀ v, v ∈ gs.inputs ++ gs.inits.map (·.2) → RegVal w v)
    (hdist : Clone.distinct ((gs.inits.map (·.2)).filterMap (Clone.wName w)) = true)
    (hd1 : Clone.wDict w gs.props = .ok ()) (hd2 : Clone.wDict w gs.mstore = .ok ())
    (hbad : (∃ v, v ∈ gs.inputs ∧ (v ∈ A.owned ∨ v ∈ A.produced)) ∨ (∃ v, v ∈ gs.outputs ∧ v ∈ A.owned) ∨
      (∃ v, v ∈ gs.inits.map (·.2) ∧ (v ∈ A.owned ∨ v ∈ A.produced))) :
    ∃ why, Clone.wMkGraph w gs A = .err (.raised why) := by
  have d2 := wAll_dich (l := gs.inputs) (f := fun v =>
      if A.owned.contains v then WRes.err (.raised "input owned by a different graph")
      else if A.produced.contains v then WRes.err (.raised "input is produced by a node") else WRes.ok ()) (by
    intro v _
    by_cases h1 : A.owned.contains v = true
    · right; exact ⟨"input owned by a different graph", by rw [if_pos h1]⟩
    · by_cases h2 : A.produced.contains v = true
      · right; exact ⟨"input is produced by a node", by rw [if_neg h1, if_pos h2]⟩
      · left; rw [if_neg h1, if_neg h2])
  have hown : ∀ l : List Nat, wAll (fun v => if A.owned.contains v then
      WRes.err (.raised "value owned by a different graph") else WRes.ok ()) l = .ok () ∨ ∃ why, wAll (fun v =>
      if A.owned.contains v then WRes.err (.raised "value owned by a different graph") else WRes.ok ()) l =
      .err (.raised why) := by
    intro l
    apply wAll_dich
    intro v _
    by_cases h1 : A.owned.contains v = true
    · right; exact ⟨"value owned by a different graph", by rw [if_pos h1]⟩
    · left; rw [if_neg h1]
  have d3 := hown gs.outputs
  have d4 := hown (gs.inits.map (·.2))
  have d5 := wAll_dich (l := gs.inits.map (·.2)) (f := fun v =>
      if Clone.wName w v = some "" then WRes.err (.raised "initializer with an empty name")
      else if A.produced.contains v then WRes.err (.raised "initializer produced by a node") else WRes.ok ()) (by
    intro v _
    by_cases h1 : Clone.wName w v = some ""
    · right; exact ⟨"initializer with an empty name", by rw [if_pos h1]⟩
    · by_cases h2 : A.produced.contains v = true
      · right; exact ⟨"initializer produced by a node", by rw [if_neg h1, if_pos h2]⟩
      · left; rw [if_neg h1, if_neg h2])
  unfold Clone.wMkGraph
  simp only [hdist, hd1, hd2, wres_ok_bind, if_true]
  -- again the first check, with its `match` on `wName`, is what is left
  refine exists_bind_of (wAll_eq_ok_iff.2 ?_) ?_
  · intro v hv
    obtain ⟨nm, hn, _⟩ := wName_reg (hreg v (List.mem_append_right _ hv))
    simp [hn]
  rcases d2 with h2 | ⟨why, h2⟩
  · rcases d3 with h3 | ⟨why, h3⟩
    · rcases d4 with h4 | ⟨why, h4⟩
      · rcases d5 with h5 | ⟨why, h5⟩
        · exfalso
          rcases hbad with ⟨v, hv, hb⟩ | ⟨v, hv, hb⟩ | ⟨v, hv, hb⟩
          · have := wAll_eq_ok_iff.1 h2 v hv
            rcases hb with hb | hb
            · have hb' : A.owned.contains v = true := by simpa using hb
              rw [if_pos hb'] at this; cases this
            · have hb' : A.produced.contains v = true := by simpa using hb
              by_cases h1 : A.owned.contains v = true
              · rw [if_pos h1] at this; cases this
              · rw [if_neg h1, if_pos hb'] at this; cases this
          · have := wAll_eq_ok_iff.1 h3 v hv
            have hb' : A.owned.contains v = true := by simpa using hb
            rw [if_pos hb'] at this; cases this
          · rcases hb with hb | hb
            · have := wAll_eq_ok_iff.1 h4 v hv
              have hb' : A.owned.contains v = true := by simpa using hb
              rw [if_pos hb'] at this; cases this
            · have := wAll_eq_ok_iff.1 h5 v hv
              have hb' : A.produced.contains v = true := by simpa using hb
              by_cases h1 : Clone.wName w v = some ""
              · rw [if_pos h1] at this; cases this
              · rw [if_neg h1, if_pos hb'] at this; cases this
        · exact ⟨why, by simp only [h2, h3, h4, h5, wres_ok_bind]; rfl⟩
      · exact ⟨why, by simp only [h2, h3, h4, wres_ok_bind]; rfl⟩
    · exact ⟨why, by simp only [h2, h3, wres_ok_bind]; rfl⟩
  · exact ⟨why, by simp only [h2]; rfl⟩

theorem wres_err_bind {α β : Type} (e : Clone.Err) (f : α → WRes β) : (WRes.err e : WRes α).bind f = .err e := rfl

end IrVerif.Extract
