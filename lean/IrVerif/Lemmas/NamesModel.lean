/-
C15 part B: one `_fix_graph_names` call of the default generator is `fixTopX simpleGen` on a world without tensors
(`fixTop_sim`); from one call to the whole pass (`fixModel`), for models whose top-level graphs share neither values nor nodes.
-/
import IrVerif.Lemmas.NamesGenPost
namespace IrVerif.Names

def twOf (w : World) : TWorld := { toWorld := w, constOf := fun _ => none, tname := fun _ => none, frozen := fun _ => false }

theorem simpleGen_nonEmpty : simpleGen.NonEmpty := by
  intro i nm
  cases h : truthy nm with
  | false => exact ⟨by rw [simpleGen_v_falsy h]; decide, by rw [simpleGen_n_falsy h]; decide⟩
  | true =>
    obtain ⟨s, rfl, hs⟩ := truthy_iff.mp h
    exact ⟨by rw [simpleGen_v_truthy h]; exact hs, by rw [simpleGen_n_truthy h]; exact hs⟩

theorem fixTop_sim (w : World) (t : Top) : (fixTopX simpleGen (twOf w) t []).toFixSt = fixTop w t :=
  (fixTopX_sim (twOf w) t [] (fun _ _ h => by cases h)).1

theorem fixTop_scopes {w : World} {t : Top} (hok : InitsOk w) (hcl : Closed w.initOf t)
    (iv : Nat → List Nat) (hiv : ∀ g u, u ∈ iv g ↔ w.initOf u = some g)
    (hsc : scopedB iv t.tr [] [] = true) :
    ∀ L ∈ allScopes iv t.tr [], ScopeOK (topCfg w t) (fixTop w t) L := by
  intro L hL
  have h := (fixTopX_scopes simpleGen_nonEmpty (w := twOf w) (t := t) [] hok hcl (fun _ _ h => by cases h) iv hiv hsc).2 L hL
  rw [← fixTop_sim w t]
  exact h

theorem fixTop_nodes {w : World} {t : Top} (hnr : (fixTop w t).raised = false) (hnd : (allNodes t.body).Nodup) :
    (∀ L ∈ allNodeScopes t.tr, NScopeOK (topNCfg w t) (fixTop w t) L)
    ∧ ∀ m, m ∉ allNodes t.body → (fixTop w t).nname m = w.nname m := by
  rw [← fixTop_sim w t] at hnr ⊢
  obtain ⟨h1, h2⟩ := fixTopX_nodes simpleGen_nonEmpty (w := twOf w) (t := t) [] hnr hnd
  exact ⟨h1, h2⟩

theorem fixModel_cons {w : World} {t : Top} {ts : List Top} (h : (fixTop w t).raised = false) :
    fixModel w (t :: ts) = ((fixModel (fixTop w t).toWorld ts).1,
      (fixTop w t).modified || (fixModel (fixTop w t).toWorld ts).2.1, (fixModel (fixTop w t).toWorld ts).2.2) := by
  simp [fixModel, h]

theorem fixModel_total : ∀ (tops : List Top) (w : World), InitsOk w → (∀ t ∈ tops, Closed w.initOf t) →
    (fixModel w tops).2.2 = false ∧ InitsOk (fixModel w tops).1 ∧ (fixModel w tops).1.initOf = w.initOf
  | [], w, h, _ => ⟨rfl, h, rfl⟩
  | t :: ts, w, h, hcl => by
    have inv := fixTop_TInv h (hcl t List.mem_cons_self)
    rw [fixModel_cons inv.nr]
    have hio : (fixTop w t).toWorld.initOf = w.initOf := inv.io
    obtain ⟨a, b, c⟩ := fixModel_total ts (fixTop w t).toWorld inv.ok
      (fun t' ht' => by rw [hio]; exact hcl t' (List.mem_cons_of_mem _ ht'))
    exact ⟨a, b, c.trans hio⟩

theorem fixModel_frame : ∀ (tops : List Top) (w : World), InitsOk w →
    (∀ t ∈ tops, Closed w.initOf t ∧ (allNodes t.body).Nodup) →
    (∀ u, (∀ t ∈ tops, ¬ TopC w.initOf t u) → (fixModel w tops).1.vname u = w.vname u)
    ∧ (∀ m, (∀ t ∈ tops, m ∉ allNodes t.body) → (fixModel w tops).1.nname m = w.nname m)
  | [], w, _, _ => ⟨fun _ _ => rfl, fun _ _ => rfl⟩
  | t :: ts, w, h, hyp => by
    have inv := fixTop_TInv h (hyp t List.mem_cons_self).1
    rw [fixModel_cons inv.nr]
    have hio : (fixTop w t).toWorld.initOf = w.initOf := inv.io
    obtain ⟨a, b⟩ := fixModel_frame ts (fixTop w t).toWorld inv.ok
      (fun t' ht' => by rw [hio]; exact hyp t' (List.mem_cons_of_mem _ ht'))
    constructor
    · intro u hu
      show (fixModel (fixTop w t).toWorld ts).1.vname u = w.vname u
      rw [a u (fun t' ht' => by rw [hio]; exact hu t' (List.mem_cons_of_mem _ ht'))]
      exact inv.outside u (hu t List.mem_cons_self)
    · intro m hm
      show (fixModel (fixTop w t).toWorld ts).1.nname m = w.nname m
      rw [b m (fun t' ht' => hm t' (List.mem_cons_of_mem _ ht'))]
      exact (fixTop_nodes inv.nr (hyp t List.mem_cons_self).2).2 m (hm t List.mem_cons_self)

/-- `fixModelX_post` for `simpleGen` -/
theorem fixModel_post (iv : Nat → List Nat) (tops : List Top) (w : World) (h : InitsOk w)
    (hiv : ∀ g u, u ∈ iv g ↔ w.initOf u = some g)
    (hyp : ∀ t ∈ tops, Closed w.initOf t ∧ scopedB iv t.tr [] [] = true ∧ (allNodes t.body).Nodup)
    (hdisj : tops.Pairwise (TopDisj w.initOf)) :
    ∀ t ∈ tops,
      (∀ L ∈ allScopes iv t.tr [], PostOn w.vname (fixModel w tops).1.vname L)
      ∧ (∀ L ∈ allNodeScopes t.tr, PostOn w.nname (fixModel w tops).1.nname L) := by
  have hs : (fixModelX simpleGen (twOf w) [] tops).w.toWorld = (fixModel w tops).1 :=
    (fixModelX_sim tops (twOf w) [] (fun _ _ h => by cases h)).1
  have := (fixModelX_post simpleGen_nonEmpty iv tops (twOf w) [] h (fun _ _ h => by cases h) hiv hyp hdisj).2.2.2
  rw [← hs]
  exact this

/-- **the pass is its calls, each seen in isolation**: `w'` is the world the call for `t` starts from -/
theorem fixModel_calls : ∀ (tops : List Top) (w : World), InitsOk w →
    (∀ t ∈ tops, Closed w.initOf t ∧ (allNodes t.body).Nodup) →
    ∀ t ∈ tops, ∃ w', InitsOk w' ∧ w'.initOf = w.initOf
      ∧ (tops.Pairwise (fun a b => ∀ u, TopC w.initOf a u → ¬ TopC w.initOf b u) →
          ∀ u, TopC w.initOf t u → w'.vname u = w.vname u ∧ (fixModel w tops).1.vname u = (fixTop w' t).vname u)
      ∧ (tops.Pairwise (fun a b => ∀ n ∈ allNodes a.body, n ∉ allNodes b.body) →
          ∀ n ∈ allNodes t.body, w'.nname n = w.nname n ∧ (fixModel w tops).1.nname n = (fixTop w' t).nname n)
  | [], _, _, _ => fun t ht => by simp at ht
  | t :: ts, w, h, hyp => by
    obtain ⟨hcl, hnd⟩ := hyp t List.mem_cons_self
    have inv := fixTop_TInv h hcl
    rw [fixModel_cons inv.nr]
    have hio : (fixTop w t).toWorld.initOf = w.initOf := inv.io
    have hyp' : ∀ t' ∈ ts, Closed (fixTop w t).toWorld.initOf t' ∧ (allNodes t'.body).Nodup :=
      fun t' ht' => by rw [hio]; exact hyp t' (List.mem_cons_of_mem _ ht')
    obtain ⟨fv, fn⟩ := fixModel_frame ts (fixTop w t).toWorld inv.ok hyp'
    have nd := (fixTop_nodes inv.nr hnd).2
    intro t0 ht0
    rcases List.mem_cons.mp ht0 with rfl | ht0
    · exact ⟨w, h, rfl,
        fun hd u hu => ⟨rfl, fv u (fun t' ht' => by rw [hio]; exact (List.pairwise_cons.mp hd).1 t' ht' u hu)⟩,
        fun hd n hn => ⟨rfl, fn n (fun t' ht' => (List.pairwise_cons.mp hd).1 t' ht' n hn)⟩⟩
    · obtain ⟨w', ok', io', hv, hn⟩ := fixModel_calls ts (fixTop w t).toWorld inv.ok hyp' t0 ht0
      rw [hio] at io' hv
      refine ⟨w', ok', io', fun hd u hu => ?_, fun hd n hn' => ?_⟩
      · obtain ⟨a, b⟩ := hv (List.pairwise_cons.mp hd).2 u hu
        exact ⟨a.trans (inv.outside u (fun hc => (List.pairwise_cons.mp hd).1 t0 ht0 u hc hu)), b⟩
      · obtain ⟨a, b⟩ := hn (List.pairwise_cons.mp hd).2 n hn'
        exact ⟨a.trans (nd n (fun hc => (List.pairwise_cons.mp hd).1 t0 ht0 n hc hn')), b⟩

theorem fixModel_nodes (tops : List Top) (w : World) (hok : InitsOk w)
    (hyp : ∀ t ∈ tops, Closed w.initOf t ∧ (allNodes t.body).Nodup)
    (hdisj : tops.Pairwise (fun a b => ∀ n ∈ allNodes a.body, n ∉ allNodes b.body)) :
    ∀ t ∈ tops, ∀ L ∈ allNodeScopes t.tr,
      PostOn w.nname (fixModel w tops).1.nname L := by
  intro t ht L hL
  obtain ⟨w', ok', io', _, hn⟩ := fixModel_calls tops w hok hyp t ht
  have inv := fixTop_TInv ok' (by rw [io']; exact (hyp t ht).1)
  have nd := (fixTop_nodes inv.nr (hyp t ht).2).1 L hL
  have hsub : ∀ m ∈ L, m ∈ allNodes t.body := by
    intro m hm
    have := allNodeScopes_sub t.tr L hL m hm
    simpa [Top.tr, allNodes] using this
  have fin : ∀ m ∈ L, (fixModel w tops).1.nname m = (fixTop w' t).nname m := fun m hm => (hn hdisj m (hsub m hm)).2
  exact ⟨nd.injT.of_eq fin, (nd.first.fin_eq fin).orig_eq (fun m hm => ((hn hdisj m (hsub m hm)).1).symm)⟩

end IrVerif.Names
