/-
C09, general model: futures versus tensors / sub pools (`JInv`) and every owner's bookkeeping of the futures it has
consumed (`CInv`).
-/
import IrVerif.Lemmas.WriterNPool
namespace IrVerif.WriterN

/-- number of jobs the owner of pool `q` has submitted so far -/
def nsub (cfg : Cfg) (P : PoolSt) (q : Nat) : Nat :=
  match P.owner with
  | .notCreated => 0
  | .submit k => k
  | _ => (cfg.pool q).jobs.length

theorem nsub_congr (cfg : Cfg) (q : Nat) {P P' : PoolSt} (h : P.owner = P'.owner) :
    nsub cfg P q = nsub cfg P' q := by simp [nsub, h]

theorem nsub_submit (cfg : Cfg) (q : Nat) {P' : PoolSt} {k : Nat} (hk : k < (cfg.pool q).jobs.length)
    (ho : P'.owner = if k + 1 < (cfg.pool q).jobs.length then .submit (k + 1) else .collect) :
    nsub cfg P' q = k + 1 := by
  by_cases c : k + 1 < (cfg.pool q).jobs.length <;> simp only [nsub, ho, c, if_true, if_false]
  omega

/-- A pending future of a job already submitted (`nsub`) is in the queue (`pend_q`); a running future has a tensor in
    progress or a live inner pool (`run_act`; the converse is `KInv.act_run` / `own_run`, which `progress` does not
    need); a cancelled future belongs to a pool that is shut down. -/
structure JInv (cfg : Cfg) (s : State) : Prop where
  pend_q : ∀ q k' j, k' < nsub cfg (s.pl q) q → (cfg.pool q).jobs[k']? = some j →
    s.futs[j]? = some .pending → j ∈ (s.pl q).queue
  run_act : ∀ j : Nat, s.futs[j]? = some .running →
    (∃ i p, cfg.job i = j ∧ s.tasks[i]? = some p ∧ act p = true) ∨
    (∃ q', (cfg.jobc j).sub = some q' ∧ ownAct (s.pl q').owner = true)
  canc_sd : ∀ j : Nat, s.futs[j]? = some .cancelled → (s.pl (cfg.jobc j).pool).shutdown = true

theorem JInv_init (cfg : Cfg) : JInv cfg (init cfg) := by
  refine ⟨fun q k' j hk => ?_, ?_, ?_⟩
  · rcases init_pl_cases cfg q with ⟨rfl, e⟩ | e <;> rw [e] at hk <;> cases hk
  · intro j hj; simp [init, List.getElem?_replicate] at hj
  · intro j hj; simp [init, List.getElem?_replicate] at hj

theorem JInv_congr {cfg : Cfg} {s s' : State} (h : JInv cfg s) (ht : s'.tasks = s.tasks)
    (hf : s'.futs = s.futs) (ho : ∀ q, (s'.pl q).owner = (s.pl q).owner)
    (hq : ∀ q, (s'.pl q).queue = (s.pl q).queue) (hsd : ∀ q, (s'.pl q).shutdown = (s.pl q).shutdown) :
    JInv cfg s' := by
  refine ⟨?_, ?_, ?_⟩
  · intro q k' j hk hj hp
    rw [hq]; rw [hf] at hp
    exact h.pend_q q k' j (by simpa [nsub, ho] using hk) hj hp
  · intro j hj
    rw [hf] at hj
    rcases h.run_act j hj with ⟨i, p, h1, h2, h3⟩ | ⟨q', h1, h2⟩
    · exact Or.inl ⟨i, p, h1, by rw [ht]; exact h2, h3⟩
    · exact Or.inr ⟨q', h1, by rw [ho]; exact h2⟩
  · intro j hj; rw [hsd]; rw [hf] at hj; exact h.canc_sd j hj

theorem JInv_set {cfg : Cfg} {s s' : State} (h : JInv cfg s) {i : Nat} {p x : Pc}
    (hi : s.tasks[i]? = some p) (hx : act x = true)
    (ht : s'.tasks = s.tasks.set i x) (hf : s'.futs = s.futs) (hp : s'.pools = s.pools) :
    JInv cfg s' := by
  have hlt := getElem?_lt hi
  have hpl : ∀ q, s'.pl q = s.pl q := fun q => by simp [State.pl, hp]
  refine ⟨?_, ?_, ?_⟩
  · intro q k' j hk hj hpj
    rw [hpl] at hk ⊢; rw [hf] at hpj; exact h.pend_q q k' j hk hj hpj
  · intro j hj
    rw [hf] at hj
    rcases h.run_act j hj with ⟨i', p', h1, h2, h3⟩ | ⟨q', h1, h2⟩
    · by_cases e : i = i'
      · subst e; exact Or.inl ⟨i, x, h1, by rw [ht]; simp [hlt], hx⟩
      · exact Or.inl ⟨i', p', h1, by rw [ht]; simp only [List.getElem?_set, e, if_false]; exact h2, h3⟩
    · exact Or.inr ⟨q', h1, by rw [hpl]; exact h2⟩
  · intro j hj; rw [hpl]; rw [hf] at hj; exact h.canc_sd j hj

theorem JInv_wake {cfg : Cfg} {s : State} (h : JInv cfg s) :
    JInv cfg { s with tasks := s.tasks.map wake } := by
  refine ⟨h.pend_q, ?_, h.canc_sd⟩
  intro j hj
  rcases h.run_act j hj with ⟨i', p', h1, h2, h3⟩ | ⟨q', h1, h2⟩
  · exact Or.inl ⟨i', wake p', h1, by simp [h2], by rw [act_wake]; exact h3⟩
  · exact Or.inr ⟨q', h1, h2⟩

theorem JInv_finish {cfg : Cfg} (wf : WF cfg) {s : State} (h : JInv cfg s) (hs : SInv cfg s)
    {i : Nat} {p : Pc} (ok : Bool) (hi : s.tasks[i]? = some p) (hp : act p = true) :
    JInv cfg (finishTask cfg s i ok) := by
  have hlt := getElem?_lt hi
  have hil : i < cfg.n := by rw [← hs.tasks_len]; exact hlt
  have hpd : p ≠ .done true := by intro e; subst e; simp at hp
  have hpn : p ≠ .notStarted := by intro e; subst e; simp at hp
  have hnp := hs.started i p hi hpn
  have hjf : cfg.job i < s.futs.length := by rw [hs.futs_len]; exact wf.job_lt i hil
  rcases finishTask_cases cfg s i ok with ⟨rfl, hn, e⟩ | ⟨hno, e⟩
  · rw [e]
    have hnext := hs.next_notStarted hi hpd hn
    obtain ⟨hlt1, hj1⟩ := hasNext_iff.1 hn
    have hl1 : i + 1 < s.tasks.length := by rw [hs.tasks_len]; exact hlt1
    refine ⟨h.pend_q, ?_, h.canc_sd⟩
    intro j hj
    rcases h.run_act j hj with ⟨i', p', h1, h2, h3⟩ | ⟨q', h1, h2⟩
    · by_cases e1 : i = i'
      · subst e1
        exact Or.inl ⟨i + 1, firstPc cfg (cfg.poolOf i), by rw [hj1]; exact h1,
          by simp only [List.getElem?_set]; simp; omega, act_firstPc _ _⟩
      · have e2 : i + 1 ≠ i' := by
          intro e2; subst e2; rw [hnext] at h2; simp at h2; subst h2; simp at h3
        exact Or.inl ⟨i', p', h1, by simp only [List.getElem?_set, e1, e2, if_false]; exact h2, h3⟩
    · exact Or.inr ⟨q', h1, h2⟩
  · rw [e]
    refine ⟨?_, ?_, ?_⟩
    · intro q k' j hk hj hpj
      show j ∈ ((addIdle s.pools (cfg.poolOf i)).getD q default).queue
      rw [addIdle_queue]
      simp only [List.getElem?_set] at hpj
      split at hpj
      · cases ok <;> simp at hpj
      · refine h.pend_q q k' j ?_ hj hpj
        have e := nsub_congr cfg q (addIdle_owner s.pools (cfg.poolOf i) q)
        have hk' : k' < nsub cfg ((addIdle s.pools (cfg.poolOf i)).getD q default) q := hk
        rw [e] at hk'; exact hk'
    · intro j hj
      simp only [List.getElem?_set] at hj
      split at hj
      · cases ok <;> simp at hj
      · rename_i hne
        rcases h.run_act j hj with ⟨i', p', h1, h2, h3⟩ | ⟨q', h1, h2⟩
        · have e1 : i ≠ i' := by intro e1; subst e1; exact hne h1
          exact Or.inl ⟨i', p', h1, by simp only [List.getElem?_set, e1, if_false]; exact h2, h3⟩
        · refine Or.inr ⟨q', h1, ?_⟩
          show ownAct ((addIdle s.pools (cfg.poolOf i)).getD q' default).owner = true
          rw [addIdle_owner]; exact h2
    · intro j hj
      show ((addIdle s.pools (cfg.poolOf i)).getD (cfg.jobc j).pool default).shutdown = true
      rw [addIdle_shutdown]
      simp only [List.getElem?_set] at hj
      split at hj
      · cases ok <;> simp at hj
      · exact h.canc_sd j hj


theorem JInv_set_pool {cfg : Cfg} (wf : WF cfg) {s s' : State} (h : JInv cfg s) (hs : SInv cfg s)
    {q : Nat} {P P' : PoolSt} (hP : s.pools[q]? = some P) (hps : s'.pools = s.pools.set q P')
    (hts : s'.tasks = s.tasks) (hfs : s'.futs = s.futs) (hq : P'.queue = P.queue)
    (hns : nsub cfg P' q = nsub cfg P q)
    (hact : ownAct P.owner = true → ownAct P'.owner = true ∨ (cfg.pool q).parent = none)
    (hsd : P.shutdown = true → P'.shutdown = true) : JInv cfg s' := by
  have hplq := pl_of_get hP
  have hpl := pl_of_set hP hps
  refine ⟨?_, ?_, ?_⟩
  · intro q' k' j hk hj hpj
    rw [hpl] at hk ⊢; rw [hfs] at hpj
    by_cases e : q' = q
    · subst e; simp only [if_true] at hk ⊢
      rw [hq, ← hplq]; exact h.pend_q q' k' j (by rw [hplq, ← hns]; exact hk) hj hpj
    · simp only [e, if_false] at hk ⊢; exact h.pend_q q' k' j hk hj hpj
  · intro j hj
    rw [hfs] at hj
    rcases h.run_act j hj with ⟨i, p, h1, h2, h3⟩ | ⟨q', h1, h2⟩
    · exact Or.inl ⟨i, p, h1, by rw [hts]; exact h2, h3⟩
    · refine Or.inr ⟨q', h1, ?_⟩
      rw [hpl]
      by_cases e : q' = q
      · subst e; simp only [if_true]
        rcases hact (by rw [← hplq]; exact h2) with h3 | h3
        · exact h3
        · have hjl : j < cfg.nJobs := by rw [← hs.futs_len]; exact getElem?_lt hj
          rw [sub_parent wf hjl h1] at h3; simp at h3
      · simp only [e, if_false]; exact h2
  · intro j hj
    rw [hfs] at hj; rw [hpl]
    have := h.canc_sd j hj
    by_cases e : (cfg.jobc j).pool = q
    · simp only [e, if_true]; rw [e, hplq] at this; exact hsd this
    · simp only [e, if_false]; exact this

theorem JInv_submit {cfg : Cfg} {s s' : State} (h : JInv cfg s) {q k j : Nat}
    {P : PoolSt} (hP : s.pools[q]? = some P) (hk : P.owner = .submit k)
    (hj : (cfg.pool q).jobs[k]? = some j)
    (hps : s'.pools = s.pools.set q ({ P with
      queue := P.queue ++ [j]
      owner := if k + 1 < (cfg.pool q).jobs.length then .submit (k + 1) else .collect } : PoolSt))
    (hts : s'.tasks = s.tasks) (hfs : s'.futs = s.futs) : JInv cfg s' := by
  have hplq := pl_of_get hP
  have hklt := getElem?_lt hj
  have hpl := pl_of_set hP hps
  refine ⟨?_, ?_, ?_⟩
  · intro q' k' j' hk' hj' hpj
    rw [hpl] at hk' ⊢; rw [hfs] at hpj
    by_cases e : q' = q
    · subst e; simp only [if_true] at hk' ⊢
      have hk'' : k' < k + 1 := by rw [nsub_submit cfg q' hklt rfl] at hk'; exact hk'
      simp only [List.mem_append, List.mem_cons, List.not_mem_nil, or_false]
      by_cases e1 : k' = k
      · subst e1; rw [hj] at hj'; simp at hj'; exact Or.inr hj'.symm
      · left
        have := h.pend_q q' k' j' (by rw [hplq]; simp [nsub, hk]; omega) hj' hpj
        rw [hplq] at this; exact this
    · simp only [e, if_false] at hk' ⊢; exact h.pend_q q' k' j' hk' hj' hpj
  · intro j' hj'
    rw [hfs] at hj'
    rcases h.run_act j' hj' with ⟨i, p, h1, h2, h3⟩ | ⟨q', h1, h2⟩
    · exact Or.inl ⟨i, p, h1, by rw [hts]; exact h2, h3⟩
    · refine Or.inr ⟨q', h1, ?_⟩
      rw [hpl]; split
      · simp only; split <;> rfl
      · exact h2
  · intro j' hj'
    rw [hfs] at hj'; rw [hpl]
    have := h.canc_sd j' hj'
    split
    · rename_i e; rw [e, hplq] at this; exact this
    · exact this


theorem JInv_cancel {cfg : Cfg} {s s' : State} (h : JInv cfg s) (hs : SInv cfg s) {q : Nat}
    {P P' : PoolSt} (hP : s.pools[q]? = some P) (hm : P.owner = .collect)
    (hP'o : P'.owner = .join true) (hP's : P'.shutdown = true)
    (hps : s'.pools = s.pools.set q P')
    (hfs : s'.futs = P.queue.foldl (fun fs x => fs.set x .cancelled) s.futs)
    (hts : s'.tasks = s.tasks) : JInv cfg s' := by
  have hplq := pl_of_get hP
  have hpl := pl_of_set hP hps
  refine ⟨?_, ?_, ?_⟩
  · intro q' k' j hk hj hpj
    rw [hfs, foldl_set_get] at hpj
    split at hpj
    · simp at hpj
    · rename_i hnot
      rw [hpl] at hk ⊢
      by_cases e : q' = q
      · subst e
        exfalso
        simp only [if_true] at hk
        have := h.pend_q q' k' j (by rw [hplq]; simpa [nsub, hm, hP'o] using hk) hj hpj
        rw [hplq] at this
        exact hnot ⟨this, getElem?_lt hpj⟩
      · simp only [e, if_false] at hk ⊢; exact h.pend_q q' k' j hk hj hpj
  · intro j hj
    rw [hfs, foldl_set_get] at hj
    split at hj
    · simp at hj
    · rcases h.run_act j hj with ⟨i, p, h1, h2, h3⟩ | ⟨q', h1, h2⟩
      · exact Or.inl ⟨i, p, h1, by rw [hts]; exact h2, h3⟩
      · refine Or.inr ⟨q', h1, ?_⟩
        rw [hpl]; split
        · rw [hP'o]; rfl
        · exact h2
  · intro j hj
    rw [hfs, foldl_set_get] at hj
    rw [hpl]
    split at hj
    · rename_i hin
      have := (hs.q_pending q j (by rw [hplq]; exact hin.1)).2
      simp [this, hP's]
    · have := h.canc_sd j hj
      split
      · exact hP's
      · exact this

theorem JInv_takeSerial {cfg : Cfg} (wf : WF cfg) {s s' : State} (h : JInv cfg s) (hs : SInv cfg s)
    {q j : Nat} {rest : List Nat} {P : PoolSt} (hP : s.pools[q]? = some P) (hq : P.queue = j :: rest)
    (hsub : (cfg.jobc j).sub = none)
    (hps : s'.pools = s.pools.set q { P with queue := rest, idle := P.idle - 1 })
    (hfs : s'.futs = s.futs.set j .running)
    (hts : s'.tasks = s.tasks.set (cfg.jobc j).start (firstPc cfg q)) : JInv cfg s' := by
  have hplq := pl_of_get hP
  obtain ⟨_, _, hpj, hpool, hjl, hncP⟩ := take_facts hs hP hq
  have hjq : j ∈ (s.pl q).queue := by rw [hplq, hq]; simp
  have hst := hs.start_notStarted wf hjq hsub
  have hstl := getElem?_lt hst
  have hjf : j < s.futs.length := getElem?_lt hpj
  have hpl := pl_of_set hP hps
  refine ⟨?_, ?_, ?_⟩
  · intro q' k' j' hk hj' hpj'
    rw [hfs] at hpj'
    have hne : j ≠ j' := by intro e; subst e; simp [hjf] at hpj'
    simp only [List.getElem?_set, hne, if_false] at hpj'
    rw [hpl] at hk ⊢
    by_cases e : q' = q
    · subst e; simp only [if_true] at hk ⊢
      have := h.pend_q q' k' j' (by rw [hplq]; exact hk) hj' hpj'
      rw [hplq, hq] at this; simp at this
      rcases this with rfl | this
      · exact absurd rfl hne
      · exact this
    · simp only [e, if_false] at hk ⊢; exact h.pend_q q' k' j' hk hj' hpj'
  · intro j' hj'
    rw [hfs] at hj'
    by_cases e : j = j'
    · subst e
      exact Or.inl ⟨(cfg.jobc j).start, firstPc cfg q, wf.start_job j hjl hsub,
        by rw [hts]; simp [hstl], act_firstPc _ _⟩
    · simp only [List.getElem?_set, e, if_false] at hj'
      rcases h.run_act j' hj' with ⟨i, p, h1, h2, h3⟩ | ⟨q', h1, h2⟩
      · have e1 : (cfg.jobc j).start ≠ i := by
          intro e1; rw [← e1, hst] at h2; simp at h2; subst h2; simp at h3
        exact Or.inl ⟨i, p, h1, by rw [hts]; simp only [List.getElem?_set, e1, if_false]; exact h2, h3⟩
      · refine Or.inr ⟨q', h1, ?_⟩
        rw [hpl]; split
        · rename_i e2; rw [e2, hplq] at h2; exact h2
        · exact h2
  · intro j' hj'
    rw [hfs] at hj'
    have hne : j ≠ j' := by intro e; subst e; simp [hjf] at hj'
    simp only [List.getElem?_set, hne, if_false] at hj'
    have := h.canc_sd j' hj'
    rw [hpl]; split
    · rename_i e2; rw [e2, hplq] at this; exact this
    · exact this

theorem JInv_takeSub {cfg : Cfg} (wf : WF cfg) {s s' : State} (h : JInv cfg s) (hs : SInv cfg s)
    {q j q' : Nat} {rest : List Nat} {P : PoolSt} (hP : s.pools[q]? = some P) (hq : P.queue = j :: rest)
    (hsub : (cfg.jobc j).sub = some q')
    (hps : s'.pools = createPool cfg (s.pools.set q { P with queue := rest, idle := P.idle - 1 }) q')
    (hfs : s'.futs = s.futs.set j .running) (hts : s'.tasks = s.tasks) : JInv cfg s' := by
  have hplq := pl_of_get hP
  have hjf : j < s.futs.length := getElem?_lt (take_facts hs hP hq).pending
  obtain ⟨hqq, _, hset⟩ := takeSub_facts wf hs hP hq hsub
  have hpl := takeSub_pl hP hqq hps hset
  refine ⟨?_, ?_, ?_⟩
  · intro q'' k' j' hk hj' hpj'
    rw [hfs] at hpj'
    have hne : j ≠ j' := by intro e; subst e; simp [hjf] at hpj'
    simp only [List.getElem?_set, hne, if_false] at hpj'
    rw [hpl] at hk ⊢
    by_cases e1 : q'' = q'
    · subst e1; simp [nsub] at hk
    · simp only [e1, if_false] at hk ⊢
      by_cases e : q'' = q
      · subst e; simp only [if_true] at hk ⊢
        have := h.pend_q q'' k' j' (by rw [hplq]; exact hk) hj' hpj'
        rw [hplq, hq] at this; simp at this
        rcases this with rfl | this
        · exact absurd rfl hne
        · exact this
      · simp only [e, if_false] at hk ⊢; exact h.pend_q q'' k' j' hk hj' hpj'
  · intro j' hj'
    rw [hfs] at hj'
    by_cases e : j = j'
    · subst e
      exact Or.inr ⟨q', hsub, by rw [hpl]; simp [ownAct]⟩
    · simp only [List.getElem?_set, e, if_false] at hj'
      rcases h.run_act j' hj' with ⟨i, p, h1, h2, h3⟩ | ⟨q'', h1, h2⟩
      · exact Or.inl ⟨i, p, h1, by rw [hts]; exact h2, h3⟩
      · refine Or.inr ⟨q'', h1, ?_⟩
        rw [hpl]; split
        · simp [ownAct]
        · split
          · rename_i _ e2; rw [e2, hplq] at h2; exact h2
          · exact h2
  · intro j' hj'
    rw [hfs] at hj'
    have hne : j ≠ j' := by intro e; subst e; simp [hjf] at hj'
    simp only [List.getElem?_set, hne, if_false] at hj'
    have := h.canc_sd j' hj'
    rw [hpl]; split
    · rename_i e1; simp only; rw [e1] at this; exact this
    · split
      · rename_i _ e2; rw [e2, hplq] at this; exact this
      · exact this

theorem JInv_joinSub {cfg : Cfg} (wf : WF cfg) {s s' : State} (h : JInv cfg s) (hs : SInv cfg s)
    {q jp : Nat} {e : Bool} {P : PoolSt} (hP : s.pools[q]? = some P) (hm : P.owner = .join e)
    (hpar : (cfg.pool q).parent = some jp)
    (hps : s'.pools = addIdle (s.pools.set q { P with owner := .closed e }) (cfg.jobc jp).pool)
    (hfs : s'.futs = s.futs.set jp (if e then .err else .ok)) (hts : s'.tasks = s.tasks) :
    JInv cfg s' := by
  have hplq := pl_of_get hP
  have hql : q < cfg.nPools := by rw [← hs.pools_len]; exact getElem?_lt hP
  obtain ⟨hjpl, hjsub⟩ := wf.parent_sub q jp hql hpar
  have hjf : jp < s.futs.length := by rw [hs.futs_len]; exact hjpl
  have hown : ∀ q', (s'.pl q').owner = if q' = q then .closed e else (s.pl q').owner := by
    intro q'
    simp only [State.pl, hps]; rw [addIdle_owner, pl_upd hP]; split <;> rfl
  have hque : ∀ q', (s'.pl q').queue = (s.pl q').queue := by
    intro q'
    simp only [State.pl, hps]; rw [addIdle_queue, pl_upd hP]; split
    · rename_i e1; subst e1; rw [← hplq]; rfl
    · rfl
  have hshut : ∀ q', (s'.pl q').shutdown = (s.pl q').shutdown := by
    intro q'
    simp only [State.pl, hps]; rw [addIdle_shutdown, pl_upd hP]; split
    · rename_i e1; subst e1; rw [← hplq]; rfl
    · rfl
  refine ⟨?_, ?_, ?_⟩
  · intro q' k' j hk hj hpj
    rw [hfs] at hpj
    have hne : jp ≠ j := by intro e1; subst e1; cases e <;> simp [hjf] at hpj
    simp only [List.getElem?_set, hne, if_false] at hpj
    rw [hque]
    refine h.pend_q q' k' j ?_ hj hpj
    have e1 : nsub cfg (s'.pl q') q' = nsub cfg (s.pl q') q' := by
      simp only [nsub, hown]
      by_cases e2 : q' = q
      · subst e2; simp [hplq, hm]
      · simp [e2]
    rw [← e1]; exact hk
  · intro j hj
    rw [hfs] at hj
    have hne : jp ≠ j := by intro e1; subst e1; cases e <;> simp [hjf] at hj
    simp only [List.getElem?_set, hne, if_false] at hj
    rcases h.run_act j hj with ⟨i, p, h1, h2, h3⟩ | ⟨q', h1, h2⟩
    · exact Or.inl ⟨i, p, h1, by rw [hts]; exact h2, h3⟩
    · refine Or.inr ⟨q', h1, ?_⟩
      rw [hown]; split
      · rename_i e2; subst e2
        have hjl : j < cfg.nJobs := by rw [← hs.futs_len]; exact getElem?_lt hj
        have := sub_parent wf hjl h1
        rw [hpar] at this; simp at this; exact absurd this hne
      · exact h2
  · intro j hj
    rw [hfs] at hj
    have hne : jp ≠ j := by intro e1; subst e1; cases e <;> simp [hjf] at hj
    simp only [List.getElem?_set, hne, if_false] at hj
    rw [hshut]; exact h.canc_sd j hj


theorem JInv_step {cfg : Cfg} (wf : WF cfg) {s s' : State} {l : Label} (hs : SInv cfg s)
    (h : JInv cfg s) (hst : StepRel cfg s l s') : JInv cfg s' := by
  cases hst with
  | submit q c k j P hP hk hj => exact JInv_submit h hP hk hj rfl rfl rfl
  | collect q c j ok P hP hm hjj hf =>
      rcases collectOne_cases cfg s q P j ok with ⟨_, _, e⟩ | ⟨_, _, e⟩ | ⟨_, _, e⟩ | ⟨_, _, e⟩ <;> rw [e]
      · exact JInv_cancel h hs hP hm rfl rfl rfl rfl rfl
      · exact JInv_set_pool wf h hs hP rfl rfl rfl rfl (by simp [nsub, hm]) (fun _ => Or.inl rfl) (fun _ => rfl)
      · exact JInv_set_pool wf h hs hP rfl rfl rfl rfl (by simp [nsub, hm]) (fun _ => Or.inl rfl) (fun _ => rfl)
      · exact JInv_set_pool wf h hs hP rfl rfl rfl rfl rfl (fun x => Or.inl x) (fun x => x)
  | joinRoot q c e P hP hm hex hpar =>
      exact JInv_set_pool wf h hs hP rfl rfl rfl rfl (by simp [nsub, hm]) (fun _ => Or.inr hpar)
        (fun x => x)
  | joinSub q c e P jp hP hm hex hpar => exact JInv_joinSub wf h hs hP hm hpar rfl rfl rfl
  | takeSerial q j rest P hP hq hidle hsub => exact JInv_takeSerial wf h hs hP hq hsub rfl rfl rfl
  | takeSub q j rest P q' hP hq hidle hsub => exact JInv_takeSub wf h hs hP hq hsub rfl rfl rfl
  | exit q P hP hq hsd hidle =>
      exact JInv_set_pool wf h hs hP rfl rfl rfl rfl rfl (fun x => Or.inl x) (fun x => x)
  | cbAcqIn i hi hl => exact JInv_set h hi rfl rfl rfl rfl
  | cbAcq i hi hl => exact JInv_set h hi rfl rfl rfl rfl
  | cbFail i hi hf =>
      exact JInv_finish wf (s := cbExit cfg s i)
        (JInv_congr h rfl rfl (fun _ => rfl) (fun _ => rfl) (fun _ => rfl))
        (SInv_cbExit hs i)
        false hi rfl
  | cbOk i hi hf => exact JInv_set h hi rfl rfl rfl rfl
  | tAcq i hi hl => exact JInv_set h hi (by simp) rfl rfl rfl
  | bTry i p hi hp' =>
      rcases budgetTry_cases cfg s i with ⟨_, _, e⟩ | ⟨_, _, e⟩ | ⟨_, _, e⟩ | ⟨_, _, e⟩ <;> rw [e] <;>
        exact JInv_set h hi rfl rfl rfl rfl
  | writeFail i hi hf => exact JInv_set h hi rfl rfl rfl rfl
  | writeOk i hi hf => exact JInv_set h hi rfl rfl rfl rfl
  | bRel i ok hi =>
      unfold budgetRelease
      refine JInv_finish wf (p := .bRel ok) ?_ ?_ ok (by simp [hi, wake]) rfl
      · exact JInv_congr (s := { s with tasks := s.tasks.map wake }) (JInv_wake h) rfl rfl
          (fun _ => rfl) (fun _ => rfl) (fun _ => rfl)
      · exact SInv_release hs i

/-- `collected`: distinct jobs of the pool, fewer than all while collecting, the first jobs of the list without
    `as_completed` (`sh`), empty before `collect` (`sub`). -/
structure CInv (cfg : Cfg) (s : State) : Prop where
  nodup : ∀ q, (s.pl q).collected.Nodup
  mem : ∀ q j, j ∈ (s.pl q).collected → j ∈ (cfg.pool q).jobs
  len : ∀ q, (s.pl q).owner = .collect → (s.pl q).collected.length < (cfg.pool q).jobs.length
  sh : ∀ q, (cfg.pool q).asCompleted = false → ∀ j ∈ (s.pl q).collected,
    ∃ k, k < (s.pl q).collected.length ∧ (cfg.pool q).jobs[k]? = some j
  sub : ∀ q, ((s.pl q).owner = .notCreated ∨ ∃ k, (s.pl q).owner = .submit k) → (s.pl q).collected = []

/-- `CInv` speaks of every pool record by itself -/
structure ColOK (cfg : Cfg) (q : Nat) (P : PoolSt) : Prop where
  nodup : P.collected.Nodup
  mem : ∀ j, j ∈ P.collected → j ∈ (cfg.pool q).jobs
  len : P.owner = .collect → P.collected.length < (cfg.pool q).jobs.length
  sh : (cfg.pool q).asCompleted = false → ∀ j ∈ P.collected,
    ∃ k, k < P.collected.length ∧ (cfg.pool q).jobs[k]? = some j
  sub : (P.owner = .notCreated ∨ ∃ k, P.owner = .submit k) → P.collected = []

theorem CInv.ok {cfg : Cfg} {s : State} (h : CInv cfg s) (q : Nat) : ColOK cfg q (s.pl q) :=
  ⟨h.nodup q, h.mem q, h.len q, h.sh q, h.sub q⟩

theorem CInv.of_ok {cfg : Cfg} {s : State} (h : ∀ q, ColOK cfg q (s.pl q)) : CInv cfg s :=
  ⟨fun q => (h q).nodup, fun q => (h q).mem, fun q => (h q).len, fun q => (h q).sh, fun q => (h q).sub⟩

theorem CInv_init (cfg : Cfg) : CInv cfg (init cfg) := by
  refine .of_ok fun q => ?_
  rcases init_pl_cases cfg q with ⟨rfl, e⟩ | e <;> rw [e] <;>
    exact ⟨List.nodup_nil, nofun, nofun, fun _ => nofun, fun _ => rfl⟩

theorem ColOK.keep {cfg : Cfg} {q : Nat} {P P' : PoolSt} (h : ColOK cfg q P) (hc : P'.collected = P.collected)
    (ho : P'.owner = P.owner ∨ ∃ e, P'.owner = .join e ∨ P'.owner = .closed e) : ColOK cfg q P' := by
  refine ⟨by rw [hc]; exact h.nodup, by rw [hc]; exact h.mem, fun hq => ?_, by rw [hc]; exact h.sh, fun hq => ?_⟩
  · rw [hc]
    rcases ho with e | ⟨e, e1 | e1⟩
    · exact h.len (e ▸ hq)
    · rw [e1] at hq; cases hq
    · rw [e1] at hq; cases hq
  · rw [hc]
    rcases ho with e | ⟨e, e1 | e1⟩
    · exact h.sub (e ▸ hq)
    · rw [e1] at hq; simp at hq
    · rw [e1] at hq; simp at hq

theorem CInv_frame {cfg : Cfg} {s s' : State} (h : CInv cfg s)
    (hc : ∀ q, (s'.pl q).collected = (s.pl q).collected)
    (ho : ∀ q, (s'.pl q).owner = (s.pl q).owner ∨
      (∃ e, (s'.pl q).owner = .join e ∨ (s'.pl q).owner = .closed e) ∨
      ((s.pl q).owner = .notCreated ∧ ∃ k, (s'.pl q).owner = .submit k)) : CInv cfg s' := by
  refine ⟨fun q => by rw [hc]; exact h.nodup q, fun q j hj => by rw [hc] at hj; exact h.mem q j hj,
    ?_, fun q ha j hj => by rw [hc] at hj ⊢; exact h.sh q ha j hj, ?_⟩
  · intro q hq
    rw [hc]
    rcases ho q with e | ⟨e, e1 | e1⟩ | ⟨_, k, e1⟩
    · rw [e] at hq; exact h.len q hq
    · rw [e1] at hq; simp at hq
    · rw [e1] at hq; simp at hq
    · rw [e1] at hq; simp at hq
  · intro q hq
    rw [hc]
    rcases ho q with e | ⟨e, e1 | e1⟩ | ⟨e0, _⟩
    · rw [e] at hq; exact h.sub q hq
    · rw [e1] at hq; simp at hq
    · rw [e1] at hq; simp at hq
    · exact h.sub q (Or.inl e0)

theorem finishTask_pl {cfg : Cfg} (s : State) (i : Nat) (ok : Bool) (q : Nat) :
    ((finishTask cfg s i ok).pl q).collected = (s.pl q).collected ∧
    ((finishTask cfg s i ok).pl q).owner = (s.pl q).owner := by
  rcases finishTask_cases cfg s i ok with ⟨_, _, e⟩ | ⟨_, e⟩ <;> rw [e]
  · exact ⟨rfl, rfl⟩
  · exact ⟨addIdle_collected _ _ _, addIdle_owner _ _ _⟩

theorem CInv_step {cfg : Cfg} (wf : WF cfg) {s s' : State} {l : Label} (hs : SInv cfg s)
    (h : CInv cfg s) (hst : StepRel cfg s l s') : CInv cfg s' := by
  have set1 : ∀ {q : Nat} {P P' : PoolSt}, s.pools[q]? = some P → ColOK cfg q P' →
      ∀ {s' : State}, s'.pools = s.pools.set q P' → CInv cfg s' := by
    intro q P P' hP hok s' hps
    exact .of_ok (pl_forall_set h.ok hP hps hok)
  have okP : ∀ {q : Nat} {P : PoolSt}, s.pools[q]? = some P → ColOK cfg q P :=
    fun hP => pl_of_get hP ▸ h.ok _
  cases hst with
  | submit q c k j P hP hk hj =>
      have hcol : P.collected = [] := (okP hP).sub (Or.inr ⟨k, hk⟩)
      have hklt := getElem?_lt hj
      refine set1 hP ?_ rfl
      exact ⟨by simp [hcol], by simp [hcol], fun _ => by simp only [hcol]; exact Nat.zero_lt_of_lt hklt,
        by simp [hcol], fun _ => hcol⟩
  | collect q c j ok P hP hm hjj hf =>
      have hP0 := okP hP
      have hlen := hP0.len hm
      have hjmem : j ∈ (cfg.pool q).jobs := by
        rcases hjj with ⟨_, _, _, hc⟩ | ⟨_, hc⟩
        · simpa using hc
        · exact List.mem_of_getElem? hc
      have hjn : j ∉ P.collected := by
        rcases hjj with ⟨_, _, hc, _⟩ | ⟨ha, hje⟩
        · simpa using hc
        · intro hin
          obtain ⟨k, hk, hk2⟩ := hP0.sh ha j hin
          have := nodup_get_inj (wf.jobs_nodup q) hk2 hje
          omega
      -- the record of pool `q` with `j` consumed, whatever the owner becomes
      have key : ∀ {P' : PoolSt}, P'.collected = j :: P.collected →
          (P'.owner = .collect → (j :: P.collected).length < (cfg.pool q).jobs.length) →
          ((P'.owner = .notCreated ∨ ∃ k, P'.owner = .submit k) → False) → ColOK cfg q P' := by
        intro P' hc hl hns
        refine ⟨by rw [hc]; exact List.nodup_cons.2 ⟨hjn, hP0.nodup⟩, fun j' hj' => ?_, fun hq' => by rw [hc]; exact hl hq',
          fun ha j' hj' => ?_, fun hq' => absurd hq' hns⟩
        · rw [hc] at hj'
          rcases List.mem_cons.1 hj' with rfl | hj'
          · exact hjmem
          · exact hP0.mem j' hj'
        · rw [hc] at hj' ⊢
          rcases List.mem_cons.1 hj' with rfl | hj'
          · rcases hjj with ⟨ha', _⟩ | ⟨_, hje⟩
            · rw [ha] at ha'; simp at ha'
            · exact ⟨P.collected.length, by simp, hje⟩
          · obtain ⟨k, hk, hk2⟩ := hP0.sh ha j' hj'
            exact ⟨k, by simp; omega, hk2⟩
      rcases collectOne_cases cfg s q P j ok with ⟨_, _, e⟩ | ⟨_, _, e⟩ | ⟨_, _, e⟩ | ⟨_, hl, e⟩ <;> rw [e]
      · exact set1 hP (key rfl (by simp) (by simp)) rfl
      · exact set1 hP (key rfl (by simp) (by simp)) rfl
      · exact set1 hP (key rfl (by simp) (by simp)) rfl
      · refine set1 hP (key rfl (fun _ => ?_) (by simp [hm])) rfl
        simp at hl ⊢; omega
  | joinRoot q c e P hP hm hex hpar =>
      exact set1 hP ((okP hP).keep (P' := { P with owner := .closed e }) rfl (Or.inr ⟨e, Or.inr rfl⟩)) rfl
  | joinSub q c e P jp hP hm hex hpar =>
      have hplq := pl_of_get hP
      refine CInv_frame h (fun q' => ?_) (fun q' => ?_)
      · simp only [State.pl]
        rw [addIdle_collected, pl_upd hP]; split
        · rename_i e1; subst e1; rw [← hplq]; rfl
        · rfl
      · simp only [State.pl]
        rw [addIdle_owner, pl_upd hP]; split
        · exact Or.inr (Or.inl ⟨e, Or.inr rfl⟩)
        · left; rfl
  | takeSerial q j rest P hP hq hidle hsub =>
      exact set1 hP ((okP hP).keep (P' := { P with queue := rest, idle := P.idle - 1 }) rfl (Or.inl rfl)) rfl
  | takeSub q j rest P q' hP hq hidle hsub =>
      have hplq := pl_of_get hP
      obtain ⟨hqq, hfr, hset⟩ := takeSub_facts wf hs hP hq hsub
      have hpl := takeSub_pl (s' := { s with
          pools := createPool cfg (s.pools.set q { P with queue := rest, idle := P.idle - 1 }) q'
          futs := s.futs.set j .running }) hP hqq rfl hset
      refine CInv_frame h (fun q'' => ?_) (fun q'' => ?_)
      · rw [hpl]; split
        · rename_i e; subst e; rfl
        · split
          · rename_i e; subst e; rw [hplq]
          · rfl
      · rw [hpl]; split
        · rename_i e; subst e; exact Or.inr (Or.inr ⟨hfr, 0, rfl⟩)
        · split
          · rename_i e; subst e; rw [hplq]; exact Or.inl rfl
          · exact Or.inl rfl
  | exit q P hP hq hsd hidle =>
      exact set1 hP ((okP hP).keep (P' := { P with idle := P.idle - 1, exited := P.exited + 1 }) rfl (Or.inl rfl)) rfl
  | cbAcqIn i hi hl => exact CInv_frame h (fun _ => rfl) (fun _ => Or.inl rfl)
  | cbAcq i hi hl => exact CInv_frame h (fun _ => rfl) (fun _ => Or.inl rfl)
  | cbFail i hi hf =>
      exact CInv_frame h (fun q => (finishTask_pl _ i false q).1) (fun q => Or.inl (finishTask_pl _ i false q).2)
  | cbOk i hi hf => exact CInv_frame h (fun _ => rfl) (fun _ => Or.inl rfl)
  | tAcq i hi hl => exact CInv_frame h (fun _ => rfl) (fun _ => Or.inl rfl)
  | bTry i p hi hp' =>
      rcases budgetTry_cases cfg s i with ⟨_, _, e⟩ | ⟨_, _, e⟩ | ⟨_, _, e⟩ | ⟨_, _, e⟩ <;> rw [e] <;>
        exact CInv_frame h (fun _ => rfl) (fun _ => Or.inl rfl)
  | writeFail i hi hf => exact CInv_frame h (fun _ => rfl) (fun _ => Or.inl rfl)
  | writeOk i hi hf => exact CInv_frame h (fun _ => rfl) (fun _ => Or.inl rfl)
  | bRel i ok hi =>
      unfold budgetRelease
      exact CInv_frame h (fun q => (finishTask_pl _ i ok q).1) (fun q => Or.inl (finishTask_pl _ i ok q).2)

end IrVerif.WriterN
