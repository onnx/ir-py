import IrVerif.Lemmas.SerdeFunction
/-!
C02 — the stand-alone entry point `from_proto(NodeProto)` (the one for functions is `function_rt_gen` in
`SerdeFunction`): a stand-alone node creates placeholder values for its free inputs; once they exist the node
deserializes like a node inside the scope made of its outputs and these placeholders.
-/
namespace IrVerif.Serde
open IrVerif.Proto

theorem placeholderNames_not_mem : ∀ (ns names : List String), ∀ x ∈ placeholderNames names ns, x ∉ names
  | [], _, x, hx => by simp [placeholderNames] at hx
  | n :: ns, names, x, hx => by
    simp only [placeholderNames] at hx
    split at hx
    · exact placeholderNames_not_mem ns names x hx
    · rename_i hc
      rcases List.mem_cons.1 hx with rfl | hx
      · intro hm
        apply hc
        simp [hm]
      · have := placeholderNames_not_mem ns (names ++ [n]) x hx
        exact fun hm => this (List.mem_append_left _ hm)

theorem lookupLast_append_new {names : List String} {n : String} (h : n ∉ names) :
    lookupLast (names ++ [n]) n = some names.length := by
  induction names with
  | nil => simp [lookupLast]
  | cons x xs ih =>
    have hx : n ∉ xs := fun hm => h (List.mem_cons_of_mem _ hm)
    simp only [List.cons_append, lookupLast, ih hx, List.length_cons]

theorem newValue_nil (n : String) : newValue [] [] n = .ok (IRValue.blank n) := by
  rw [newValue_eq [] [] n (by simp), newValueT_nil]

theorem tableNames_blank (l : List String) : tableNames (l.map IRValue.blank) = l := by
  simp [tableNames, List.map_map, Function.comp_def, IRValue.blank]

/-- the input loop of a stand-alone node: it appends the placeholders, and running it again on the
resulting table gives the same references and creates nothing -/
theorem desNodeInputs_alone : ∀ (ins : List String) (tbl : List IRValue),
    ∃ refs, desNodeInputs [] [] [] ins tbl
        = .ok (refs, tbl ++ (placeholderNames (tableNames tbl) ins).map IRValue.blank) ∧
      ∀ (E : List String), (∀ x ∈ E, x ∉ tableNames tbl ++ placeholderNames (tableNames tbl) ins) →
        desNodeInputs [] [] [] ins
            (tbl ++ (placeholderNames (tableNames tbl) ins).map IRValue.blank ++ E.map IRValue.blank)
          = .ok (refs, tbl ++ (placeholderNames (tableNames tbl) ins).map IRValue.blank
              ++ E.map IRValue.blank)
  | [], tbl => ⟨[], by simp [desNodeInputs, placeholderNames], by
      intro E _; simp [desNodeInputs, placeholderNames]⟩
  | n :: ns, tbl => by
    by_cases hn : n = ""
    · subst hn
      obtain ⟨rs, h1, h2⟩ := desNodeInputs_alone ns tbl
      have hph : placeholderNames (tableNames tbl) ("" :: ns) = placeholderNames (tableNames tbl) ns := by
        simp [placeholderNames]
      refine ⟨none :: rs, ?_, ?_⟩
      · rw [hph]
        simp only [desNodeInputs, ↓reduceIte, h1, bind, Except.bind]
      · intro E hE
        rw [hph] at hE ⊢
        simp only [desNodeInputs, ↓reduceIte, h2 E hE, bind, Except.bind]
    · cases hl : lookupLast (tableNames tbl) n with
      | some i =>
        have hmem : n ∈ tableNames tbl := lookupLast_mem hl
        have hph : placeholderNames (tableNames tbl) (n :: ns) = placeholderNames (tableNames tbl) ns := by
          simp [placeholderNames, hmem]
        obtain ⟨rs, h1, h2⟩ := desNodeInputs_alone ns tbl
        refine ⟨some ⟨0, i⟩ :: rs, ?_, ?_⟩
        · rw [hph]
          simp only [desNodeInputs, hn, ↓reduceIte, resolve, hl, h1, bind, Except.bind]
        · intro E hE
          rw [hph] at hE ⊢
          have hres : lookupLast (tableNames (tbl ++ (placeholderNames (tableNames tbl) ns).map IRValue.blank
              ++ E.map IRValue.blank)) n = some i := by
            have e : tableNames (tbl ++ (placeholderNames (tableNames tbl) ns).map IRValue.blank
                ++ E.map IRValue.blank)
                = tableNames tbl ++ (placeholderNames (tableNames tbl) ns ++ E) := by
              simp [tableNames, List.map_append, List.map_map, Function.comp_def, IRValue.blank]
            rw [e, lookupLast_append_left, hl]
            intro hm
            rcases List.mem_append.1 hm with hm | hm
            · exact placeholderNames_not_mem ns _ n hm hmem
            · exact hE n hm (List.mem_append_left _ hmem)
          simp only [desNodeInputs, hn, ↓reduceIte, resolve, hres, h2 E hE, bind, Except.bind]
      | none =>
        have hnm : n ∉ tableNames tbl := lookupLast_none_not_mem hl
        have hph : placeholderNames (tableNames tbl) (n :: ns)
            = n :: placeholderNames (tableNames tbl ++ [n]) ns := by
          simp [placeholderNames, hn, hnm]
        have htn : tableNames (tbl ++ [IRValue.blank n]) = tableNames tbl ++ [n] := by
          simp only [tableNames, List.map_append, List.map_cons, List.map_nil, IRValue.blank]
        obtain ⟨rs, h1, h2⟩ := desNodeInputs_alone ns (tbl ++ [IRValue.blank n])
        rw [htn] at h1 h2
        have happ : ∀ (X : List IRValue), tbl ++ [IRValue.blank n] ++ X
            = tbl ++ (IRValue.blank n :: X) := by intro X; simp
        refine ⟨some ⟨0, tbl.length⟩ :: rs, ?_, ?_⟩
        · rw [hph]
          simp only [desNodeInputs, hn, ↓reduceIte, resolve, hl, Option.map_none, newValue_nil, h1, bind,
            Except.bind, List.map_cons, happ]
        · intro E hE
          rw [hph] at hE ⊢
          have hE' : ∀ x ∈ E, x ∉ tableNames tbl ++ [n] ++ placeholderNames (tableNames tbl ++ [n]) ns := by
            intro x hx hm
            apply hE x hx
            simpa [List.append_assoc] using hm
          have h2' := h2 E hE'
          have e : tableNames (tbl ++ (n :: placeholderNames (tableNames tbl ++ [n]) ns).map IRValue.blank
                ++ E.map IRValue.blank)
                = (tableNames tbl ++ [n]) ++ (placeholderNames (tableNames tbl ++ [n]) ns ++ E) := by
            simp [tableNames, List.map_append, List.map_map, Function.comp_def, IRValue.blank]
          have hres : lookupLast (tableNames (tbl ++ (n :: placeholderNames (tableNames tbl ++ [n]) ns).map
              IRValue.blank ++ E.map IRValue.blank)) n = some tbl.length := by
            rw [e, lookupLast_append_left, lookupLast_append_new hnm]
            · simp [tableNames]
            · intro hm
              rcases List.mem_append.1 hm with hm | hm
              · exact placeholderNames_not_mem ns _ n hm (by simp)
              · exact hE' n hm (by simp)
          have ht : tbl ++ (n :: placeholderNames (tableNames tbl ++ [n]) ns).map IRValue.blank
                ++ E.map IRValue.blank
              = tbl ++ [IRValue.blank n] ++ (placeholderNames (tableNames tbl ++ [n]) ns).map IRValue.blank
                ++ E.map IRValue.blank := by
            simp only [List.map_cons, List.append_assoc, List.cons_append, List.nil_append]
          rw [ht] at hres ⊢
          simp only [desNodeInputs, hn, ↓reduceIte, resolve, hres, h2', bind, Except.bind]

theorem desNode_of_inputs (outer : Scopes) (vis : List ValueInfoP) (q : List AnnotP)
    (tbl T : List IRValue) (n : NodeP) (refs : List (Option Ref))
    (h1 : desNodeInputs outer vis q n.inputs tbl = .ok (refs, T))
    (h2 : desNodeInputs outer vis q n.inputs T = .ok (refs, T)) :
    desNode outer vis q tbl n = desNode outer vis q T n := by
  cases n with
  | mk inputs outputs name opType domain overload doc attrs metadata devcfgs =>
    simp only [NodeP.inputs] at h1 h2
    simp only [desNode, h1, h2, bind, Except.bind]

/-- `deserialize_node` in closed form: the node is deserialized on the table of its own outputs and the placeholders
of its inputs (with and without the placeholders it deserializes alike) -/
theorem desNodeAlone_eq (n : NodeP) (hnd : nodupStr (n.outputs.filter (· ≠ "")) = true) :
    desNodeAlone n = desNode [] [] [] ((n.outputs.filter (· ≠ "")
      ++ placeholderNames (n.outputs.filter (· ≠ "")) n.inputs).map IRValue.blank) n := by
  have hdecl := declareOutputs_spec [] [] (by simp) n.outputs [] (by simp [tableNames])
    (nodupStr_iff.1 hnd)
  simp only [List.nil_append] at hdecl
  have hmapeq : (n.outputs.filter (· ≠ "")).map (newValueT [] [])
      = (n.outputs.filter (· ≠ "")).map IRValue.blank := by
    apply List.map_congr_left; intro a _; exact newValueT_nil a
  rw [hmapeq] at hdecl
  obtain ⟨refs, h1, h2⟩ := desNodeInputs_alone n.inputs ((n.outputs.filter (· ≠ "")).map IRValue.blank)
  have h2' := h2 [] (by simp)
  simp only [List.map_nil, List.append_nil, tableNames_blank] at h1 h2'
  simp only [desNodeAlone, hdecl, bind, Except.bind]
  rw [desNode_of_inputs [] [] [] _ _ n refs h1 h2', List.map_append]

/-- `from_proto(NodeProto)` then `to_proto`: a stand-alone node round-trips to its canonical form.
Its table is: its outputs, then the placeholders of its free inputs. -/
theorem node_alone_rt (n : NodeP) (h : wfNodeAlone n = true) :
    ∃ x tbl, desNodeAlone n = .ok (x, tbl) ∧
      tableNames tbl = n.outputs.filter (· ≠ "")
        ++ placeholderNames (n.outputs.filter (· ≠ "")) n.inputs ∧
      serNode [tableNames tbl] none x = .ok (normNode n) := by
  simp only [wfNodeAlone, Bool.and_eq_true] at h
  obtain ⟨x, g1, g2, _⟩ := node_rt [] [] [] none _ n (by rw [tableNames_blank]; exact h.2) (Or.inl rfl)
  rw [tableNames_blank] at g2
  exact ⟨x, _, (desNodeAlone_eq n h.1).trans g1, tableNames_blank _, by rw [tableNames_blank]; exact g2⟩

end IrVerif.Serde
