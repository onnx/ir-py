/-
The lock-step round trip of ONE FUNCTION in the extended model (`deserFunctionE` on the proto written by
`serFunctionE`): it mirrors `rt2_func` (`Lemmas/ScopeFunc.lean`), with the extension state, on top of
`rtE_nodes_post` (`Lemmas/ScopeExtRT.lean`, with `annot = false`, `gouts = []`, no annotation table, no positional
inputs).

What is specific to functions: the inputs are created BY NAME (`x.newNamed vt [] ...`), so the image of an input
carries the metadata of the value_info entry of its name; `serFInputsE` writes one entry per input that has
something to say, so entries may repeat, with equal content (`extF`: equally named inputs carry the same merged
metadata; `replF`: equally named inputs carry the same emitted information).
-/
import IrVerif.Lemmas.ScopeExtFuncSer
import IrVerif.Lemmas.ScopeExtFuncDevDefs
import IrVerif.Lemmas.ScopeExtRT
namespace IrVerif.Scope

theorem rtE_func_post (V : Nat → ValueS) (x : Ext) (td : TData) (ver : Option Int) (hwf : ExtWF x) :
    ∀ (id : FId) (g : GraphT) (s : Store) (xs : Ext) (A : Assoc) (fp : FuncE) (ws : Writes),
      serFunctionE V x td ver (id, g) = .ok (fp, ws) → (replF V g).ok → (replF V g).new.Nodup → extF V x g →
      (∀ v ∈ (replF V g).new, v ∉ A.map (·.1)) → RS V s A → Fresh s → ExtFresh s xs →
      ∃ (s' : Store) (x' : Ext) (g' : GraphT) (B : Assoc),
        deserFunctionE s xs fp = .ok (s', x', g') ∧ fp.id = id ∧
        RtEPost V x td s xs A B s' x' (emitF V g) (emitQF V g) (allInitsG g) ∧
        B.map (·.1) = (replF V g).new ∧ TreeRelG V (A ++ B) g g' ∧ DevTrF V x' s'.nn (A ++ B) g fp g'
  | id, .mk gid ins inits nodes outs => fun s xs A fp ws hser hok hnd hext hnew hrs hfr hxf => by
    obtain ⟨vis1, nps, qN, vis2, hi, hn, houts_n, rfl⟩ := xserFunction_inv hser
    simp only [replF] at hok hnd hnew ⊢
    simp only [extF] at hext
    obtain ⟨hinits, hins_n, hsame, okD, okN, hO⟩ := hok
    subst hinits
    obtain ⟨hsameM, hextN⟩ := hext
    generalize hrd : replDecl V (tblIns V ins) (nodes.flatMap (liveOuts V)) = rd at okD okN hO hnd hnew hextN ⊢
    generalize hrn : replNs V [] rd.tbl nodes = rn at okN hO hnd hnew ⊢
    rw [List.nodup_append] at hnd
    obtain ⟨hnd2, hndN, hdisjN⟩ := hnd
    rw [List.nodup_append] at hnd2
    obtain ⟨hndI, hndD, hdisjD⟩ := hnd2
    have newA : ∀ v, v ∈ ins ∨ v ∈ rd.new ∨ v ∈ rn.new → v ∉ A.map (·.1) := fun v hv => hnew v (by
      simp only [List.mem_append]
      rcases hv with hv | hv | hv
      · exact .inl (.inl hv)
      · exact .inl (.inr hv)
      · exact .inr hv)
    have okD' : (replDecl V (tblIns V ins) (nodes.flatMap (liveOuts V))).ok := by rw [hrd]; exact okD
    obtain ⟨hdnew, _, hdlook⟩ := replDecl_new V _ _ okD'
    have hdunb := replDecl_new_unbound V _ _ okD'
    rw [hrd] at hdnew hdlook hdunb
    obtain ⟨_, _, hvis1⟩ := xserFInputs_ok V x ins _ _ hi
    have hvis2 := mem_xserNodes_vi_live hn
    generalize hLdef : vis1 ++ vis2 = LE at *
    -- the value_info list: which value an entry under the name of an input / of a named node output was written for
    have hbackIn : ∀ a ∈ ins, nameTruthy (V a).name = true →
        metaOf (vinfoTableE LE) (nm V a) = normM (x.vmeta a) ∧
        declInfo (eraseVT (vinfoTableE LE)) (nm V a) = (V a).info.emit := by
      intro a ha hta
      refine VInfoSrc.read_back (fun e he hname => ?_) hta (fun hsc => ?_)
      · rw [← hLdef, List.mem_append] at he
        rcases he with he | he
        · rw [hvis1] at he
          obtain ⟨b, hb, hsc, rfl⟩ := he
          have hname' : nm V b = nm V a := hname
          have htb : nameTruthy (V b).name = true := by
            simp only [shouldCreateE, Bool.and_eq_true] at hsc; exact hsc.2
          have hnameq : (V b).name = (V a).name := by
            rw [(name_some_of_truthy htb).1, hname', (name_some_of_truthy hta).1]
          exact ⟨b, rfl, hsc, hnameq, hsame b hb a ha htb hnameq, hsameM b hb a ha htb hnameq⟩
        · obtain ⟨u, hu, _, hsc, rfl⟩ := (hvis2 e).mp he
          have hname' : nm V u = nm V a := hname
          exact absurd hname' (tblIns_lookup_none V ins _ (hdunb u (hdnew ▸ hu)) a ha).symm
      · rw [← hLdef, List.mem_append]
        left
        rw [hvis1]
        exact ⟨a, ha, hsc, rfl⟩
    have hbackOut : ∀ v ∈ rd.new, v ∉ ([] : List Nat) →
        metaOf (vinfoTableE LE) (nm V v) = normM (x.vmeta v) ∧
        declInfo (eraseVT (vinfoTableE LE)) (nm V v) = (V v).info.emit := by
      intro v hv _
      have htv : nameTruthy (V v).name = true := by rw [hdnew, List.mem_filter] at hv; exact hv.2
      refine VInfoSrc.read_back (.of_self fun e he hname => ?_) htv (fun hsc => ?_)
      · rw [← hLdef, List.mem_append] at he
        rcases he with he | he
        · rw [hvis1] at he
          obtain ⟨b, hb, _, rfl⟩ := he
          have hname' : nm V b = nm V v := hname
          exact absurd hname' (tblIns_lookup_none V ins _ (hdunb v hv) b hb)
        · obtain ⟨u, hu, _, hsc, rfl⟩ := (hvis2 e).mp he
          have hname' : nm V u = nm V v := hname
          have h1 := hdlook u (hdnew ▸ hu)
          rw [hname', hdlook v hv] at h1
          have hEq : v = u := Option.some.inj h1
          rw [hEq]; exact ⟨rfl, hsc⟩
      · rw [← hLdef, List.mem_append]
        exact .inr ((hvis2 _).mpr ⟨v, hdnew ▸ hv, by simp, hsc, rfl⟩)
    obtain ⟨hids, hnv1, hf1, p1, htbl1, hk1, hsig1, hinsA1, r1, hi1⟩ :=
      rt_fhead V (eraseVT (vinfoTableE LE)) ins s A hrs hndI (fun v hv => newA v (.inl hv)) hins_n
    obtain ⟨eI1, eI2⟩ := deserFInputsE_erase (vinfoTableE LE) (ins.map (nm V)) s xs
    obtain ⟨_, phI⟩ := deserFInputsE_phase (vinfoTableE LE) (ins.map (nm V)) s xs []
    have nsI := phI.nstep hxf
    rw [hids] at eI2
    generalize hx1 : (deserFInputsE s xs (vinfoTableE LE) (ins.map (nm V))).2.1 = x1 at phI nsI
    generalize hA1 : A ++ ins.zip (List.range' s.nv ins.length) = A1 at r1 hi1 htbl1 hsig1 hinsA1
    rw [eI1] at phI nsI
    generalize hs1 : (deserFInputs s (eraseVT (vinfoTableE LE)) (ins.map (nm V))).1 = s1 at *
    have hin1 : ∀ v ∈ ins, x1.vmeta (sig A1 v) = metaOf (vinfoTableE LE) (nm V v) ∧ x1.quant (sig A1 v) = none := by
      intro v hv
      have hm := hinsA1 v hv
      obtain ⟨i, _, _, hsv⟩ := sig_of_zip_range A1 ins s.nv hsig1 v hv
      obtain ⟨n, hn1, hn2, hn3⟩ := nsI.new (sig A1 v) (by omega) (r1.sig_lt hm)
      have hname : (V v).name = some n := by rw [← r1.sig_name hm]; exact hn1
      rw [nm_of_name hname]
      exact ⟨hn2, hn3⟩
    have P1 : RtEPost V x td s xs A (ins.zip (List.range' s.nv ins.length)) s1 x1
        (ins.filter fun v => nameTruthy (V v).name) [] [] := by
      rw [← hA1] at r1
      exact {
        rs := r1, le := nsI.le, fresh := hf1 hfr, prim := p1
        infoOK := fun v hv => by
          rw [List.mem_filter] at hv
          rw [hA1]
          exact ⟨hinsA1 v hv.1, by rw [hi1 v hv.1]; exact (hbackIn v hv.1 hv.2).2⟩
        constOK := nofun
        blankOK := nofun
        run := phI.run
        ge := fun e he => by
          have h2 := (List.of_mem_zip he).2
          rw [List.mem_range'_1] at h2
          exact h2.1
        metaOK := fun v hv => by
          rw [List.mem_filter] at hv
          rw [hA1]
          exact ⟨hinsA1 v hv.1, by rw [(hin1 v hv.1).1]; exact (hbackIn v hv.1 hv.2).1⟩
        quantOK := nofun }
    have hmemT1 : ∀ e ∈ tblIns V ins, e.2 ∈ ins ∧ e.1 = nm V e.2 := by
      intro e he
      simp only [tblIns, List.mem_reverse, List.mem_map] at he
      obtain ⟨v, hv, rfl⟩ := he
      exact ⟨hv, rfl⟩
    obtain ⟨s3, x3, B3, s4, x4, nts, B4, h3E, e4, PN, k3, k4, tr4, dt4⟩ :=
      rtE_body V x td ver nodes (rtE_nodes_post V x td ver hwf nodes) s1 x1 A1 (tblIns V ins) [] false [] (vinfoTableE LE) []
        [] [] [] nps qN vis2 ws rd rn hrd hrn hn okD okN hndD hndN (fun a ha b hb => hdisjN a (by simp [ha]) b hb)
        hextN
        (fun v hv => by
          rw [← hA1, List.map_append, hk1, List.mem_append]
          rintro (h | h)
          · exact newA v (.inr (.inl hv)) h
          · exact hdisjD v h v hv rfl)
        (fun v hv => by
          rw [← hA1, List.map_append, hk1, List.mem_append]
          rintro (h | h)
          · exact newA v (.inr (.inr hv)) h
          · exact hdisjN v (by simp [h]) v hv rfl)
        (fun e he => hinsA1 _ (hmemT1 e he).1) (fun _ hT => by simp at hT) (hA1 ▸ P1.rs) P1.fresh (P1.xfresh hxf)
        (fun e he _ => by rw [(hmemT1 e he).2]; exact (hin1 _ (hmemT1 e he).1).1)
        hbackOut (fun _ hv => by simp at hv)
    simp only [List.map_nil] at e4
    have P := PN.toRtEPost
    have t4 := PN.tblIn
    rw [← hA1] at P
    have P4 := P1.append P
    generalize hB : ins.zip (List.range' s.nv ins.length) ++ (B3 ++ B4) = B at P4
    have hAB : A1 ++ (B3 ++ B4) = A ++ B := by rw [← hA1, ← hB, List.append_assoc]
    rw [hAB] at t4 tr4 dt4
    obtain ⟨e5, trG, post6⟩ := rt_ftail V td gid ins outs nodes nts s s4 A B rn.tbl P4.toRtPost (by have := P.le; omega) t4
      (fun v hv => (hO v hv).2) tr4
      (by rw [← hAB]; exact (List.map_congr_left fun v hv => sig_append_of_mem (hinsA1 v hv)).trans hsig1)
      (fun v hv => by rw [← hAB]; exact mem_keys_append (hinsA1 v hv))
    have hrunE : deserFunctionE s xs ⟨id, ins.map (nm V), outs.map (nm V), LE, nps⟩ =
        .ok ((mkGraph s4 (List.range' s.nv ins.length) (outs.map (sig (A ++ B))) nts []).1, x4,
          (mkGraph s4 (List.range' s.nv ins.length) (outs.map (sig (A ++ B))) nts []).2) := by
      simp only [deserFunctionE, eI1, hx1, eI2, htbl1, h3E, e4, hAB, e5]
    have P6 := P4.mkGraph (List.range' s.nv ins.length) (outs.map (sig (A ++ B))) nts [] post6.fresh
    have hemit : ∀ v ∈ emitF V (.mk gid ins [] nodes outs), v ∈ ins.filter (fun v => nameTruthy (V v).name) ++
        (rd.new.filter (fun v => !([] : List Nat).contains v) ++ emitSubNs V nodes) := by
      intro v hv
      simp only [emitF, List.mem_append, List.mem_filter] at hv
      simp only [List.mem_append, List.mem_filter]
      rcases hv with (hv | ⟨hv, ht⟩) | hv
      · exact .inl hv
      · exact .inr (.inl ⟨by rw [hdnew, List.mem_filter]; exact ⟨hv, ht⟩, rfl⟩)
      · exact .inr (.inr hv)
    refine ⟨_, x4, _, B, hrunE, trivial, P6.lists (fun v hv => P6.infoOK v (hemit v hv)) P6.constOK
      (fun v hv => P6.metaOK v (hemit v hv)) P6.quantOK, ?_, trG, ?_⟩
    · rw [← hB]
      simp only [List.map_append, hk1, k3, k4, List.append_assoc]
    · rw [mkGraph_snd, (mkGraph_fst_counters _ _ _ _ _).2.1]
      simp only [DevTrF]
      rw [hrd]
      exact DevTrNs_setGraph V x4 s4.nn (A ++ B) [] _ rd.tbl nodes nps nts dt4

/-- `rtE_func_post` with the postcondition written out -/
theorem rtE_func (V : Nat → ValueS) (x : Ext) (td : TData) (ver : Option Int) (hwf : ExtWF x) :
    ∀ (id : FId) (g : GraphT) (s : Store) (xs : Ext) (A : Assoc) (fp : FuncE) (ws : Writes),
      serFunctionE V x td ver (id, g) = .ok (fp, ws) → (replF V g).ok → (replF V g).new.Nodup → extF V x g →
      (∀ v ∈ (replF V g).new, v ∉ A.map (·.1)) → RS V s A → Fresh s → ExtFresh s xs →
      ∃ (s' : Store) (x' : Ext) (g' : GraphT) (B : Assoc),
        deserFunctionE s xs fp = .ok (s', x', g') ∧ fp.id = id ∧ RS V s' (A ++ B) ∧ s.nv ≤ s'.nv ∧
        B.map (·.1) = (replF V g).new ∧ TreeRelG V (A ++ B) g g' ∧ Fresh s' ∧ Prim s.nv s s' ∧
        InfoOK2 V s' (A ++ B) (emitF V g) ∧ ConstOK2 V td s' (A ++ B) (allInitsG g) ∧
        ExtFresh s' x' ∧ XKeep s.nv xs x' ∧ (∀ e ∈ B, s.nv ≤ e.2) ∧
        MetaOKk x x' (A ++ B) (emitF V g) ∧ QuantOKk x x' (A ++ B) (emitQF V g) ∧
        s.nn ≤ s'.nn ∧ (∀ k, k < s.nn → x'.devs k = xs.devs k) ∧ DevTrF V x' s'.nn (A ++ B) g fp g' :=
  fun id g s xs A fp ws hser hok hnd hext hnew hrs hfr hxf =>
  have ⟨s', x', g', B, e, hid, P, k, t, d⟩ := rtE_func_post V x td ver hwf id g s xs A fp ws hser hok hnd hext hnew hrs hfr hxf
  ⟨s', x', g', B, e, hid, P.rs, P.le, k, t, P.fresh, P.prim, P.infoOK, P.constOK, P.xfresh hxf, P.keep, P.ge, P.metaOK,
    P.quantOK, P.nn, P.devs, d⟩

end IrVerif.Scope
