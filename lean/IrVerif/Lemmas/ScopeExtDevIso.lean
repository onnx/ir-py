/-
The sharding values of the node device configurations are preserved BY IDENTITY by the round trip of the extended
model: from the trace `DevTrG` (`Lemmas/ScopeExtDevTr.lean`, exported by the lock-step induction `rtE_graph`) and
the source-side certificate `DevCertG` (every sharding value resolves, in the scope tables of `replG` at its node,
to itself / a fresh name is unbound there), when the device configurations are written (IR version gate open).

* `ShardV.mapσ` / `DevR.mapσ`: the renaming of a configuration;
* `DevCertG V x outer g`: the certificate, along the tables of `replG`;
* `DevIsoG x x' σ g g'`: node by node, `x'.devs i' = (x.devs i).map (DevR.mapσ σ)`;
* `devIso_graph`: trace + certificate + serialization succeeded + gate open ⟹ `DevIsoG`.
-/
import IrVerif.Lemmas.ScopeExtDevTr
import IrVerif.Lemmas.ScopeExtSer
namespace IrVerif.Scope

def ShardV.mapσ (σ : Nat → Nat) : ShardV → ShardV
  | .none => .none
  | .val v => .val (σ v)
  | .fresh n => .fresh n

def DevR.mapσ (σ : Nat → Nat) (d : DevR) : DevR := ⟨d.cfg, d.stage, d.specs.map fun s => (s.1.mapσ σ, s.2)⟩

/-- the certificate of one sharding spec: a value carries a name that resolves, in `scopes`, to the value itself; a fresh
    name is non-empty and unbound there -/
def SpecCert (V : Nat → ValueS) (scopes : List Table) (s : ShardV × String) : Prop :=
  (∀ v, s.1 = .val v → nameTruthy (V v).name = true ∧ resolve (nm V v) scopes = some v) ∧
  (∀ n, s.1 = .fresh n → n ≠ "" ∧ resolve n scopes = none)

/-- every sharding value of the configurations `ds` is what its written name resolves to in `scopes` -/
def DevsCert (V : Nat → ValueS) (scopes : List Table) (ds : List DevR) : Prop :=
  ∀ d ∈ ds, ∀ s ∈ d.specs,
    (∀ v, s.1 = .val v → nameTruthy (V v).name = true ∧ resolve (nm V v) scopes = some v) ∧
    (∀ n, s.1 = .fresh n → n ≠ "" ∧ resolve n scopes = none)

mutual
/-- the source-side certificate of the device configurations, along the tables of `replG` -/
def DevCertG (V : Nat → ValueS) (x : Ext) (outer : List Table) : GraphT → Prop
  | .mk _ ins inits nodes outs =>
    DevCertNs V x outer (replDecl V (replInits V outs (tblIns V ins) inits).tbl (nodes.flatMap (liveOuts V))).tbl nodes
def DevCertNs (V : Nat → ValueS) (x : Ext) (outer : List Table) : Table → List NodeT → Prop
  | _, [] => True
  | T, n :: ns => DevCertN V x outer T n ∧ DevCertNs V x outer (replN V outer T n).tbl ns
def DevCertN (V : Nat → ValueS) (x : Ext) (outer : List Table) : Table → NodeT → Prop
  | T, .mk i _ ins _ subs =>
    DevsCert V ((replRes V outer T ins).tbl :: outer) (x.devs i) ∧
    DevCertGs V x ((replRes V outer T ins).tbl :: outer) subs
def DevCertGs (V : Nat → ValueS) (x : Ext) (scopes : List Table) : List GraphT → Prop
  | [] => True
  | g :: gs => DevCertG V x scopes g ∧ DevCertGs V x scopes gs
end

mutual
/-- node by node, the reloaded configurations are the source configurations renamed by `σ` -/
def DevIsoG (x x' : Ext) (σ : Nat → Nat) : GraphT → GraphT → Prop
  | .mk _ _ _ nodes _, .mk _ _ _ nodes' _ => DevIsoNs x x' σ nodes nodes'
def DevIsoNs (x x' : Ext) (σ : Nat → Nat) : List NodeT → List NodeT → Prop
  | [], [] => True
  | n :: ns, n' :: ns' => DevIsoN x x' σ n n' ∧ DevIsoNs x x' σ ns ns'
  | _, _ => False
def DevIsoN (x x' : Ext) (σ : Nat → Nat) : NodeT → NodeT → Prop
  | .mk i _ _ _ subs, .mk i' _ _ _ subs' =>
    x'.devs i' = (x.devs i).map (DevR.mapσ σ) ∧ DevIsoGs x x' σ subs subs'
def DevIsoGs (x x' : Ext) (σ : Nat → Nat) : List GraphT → List GraphT → Prop
  | [], [] => True
  | g :: gs, g' :: gs' => DevIsoG x x' σ g g' ∧ DevIsoGs x x' σ gs gs'
  | _, _ => False
end

theorem DevCertNs_setGraph (V : Nat → ValueS) (X : Ext) (outer : List Table) (gid : Nat) : ∀ (ns : List NodeT) (T : Table),
    DevCertNs V X outer T (ns.map (NodeT.setGraph gid)) = DevCertNs V X outer T ns := by
  intro ns
  induction ns with
  | nil => intro T; rfl
  | cons n ns ih =>
    intro T
    obtain ⟨i, g, a, b, c⟩ := n
    simp only [List.map_cons, NodeT.setGraph, DevCertNs, DevCertN, replN, ih]

/-- the open gate: the device configurations are written -/
def GateOpen (ver : Option Int) : Prop := ver = none ∨ ∃ v, ver = some v ∧ ¬ v < 11

theorem serDevRsGated_open {ver : Option Int} (h : GateOpen ver) (V : Nat → ValueS) (ds : List DevR) :
    serDevRsGated V ver ds = serDevRs V ds := by
  rcases h with rfl | ⟨v, rfl, hv⟩
  · rfl
  · simp only [serDevRsGated, if_neg hv]

/-- the specs: each written name resolves, in the renamed scopes, to the image of the source value -/
theorem specs_iso (V : Nat → ValueS) (A : Assoc) (scopes : List Table) (specs : List (ShardV × String))
    (sp : List (String × String)) (hrt : sp.map (fun s => (nonEmpty s.1, s.2)) = specs.map fun s => (specName V s.1, s.2))
    (hnm : ∀ s ∈ sp, s.1 ≠ "") (hc : ∀ s ∈ specs, SpecCert V scopes s) :
    sp.map (fun s => (resolveShard (scopes.map (mapT A)) s.1, s.2)) = specs.map (fun s => (s.1.mapσ (sig A), s.2)) := by
  refine List.ext_getElem (by simpa using congrArg List.length hrt) fun i h1 h2 => ?_
  simp only [List.length_map] at h1 h2
  have hi := List.getElem_of_eq hrt (by simpa using h1)
  have hne := hnm _ (List.getElem_mem h1)
  have hc0 := hc _ (List.getElem_mem h2)
  simp only [List.getElem_map] at hi ⊢
  generalize sp[i] = p at hi hne
  generalize specs[i] = q at hi hc0
  obtain ⟨n, t⟩ := p
  obtain ⟨sv, t'⟩ := q
  simp only [nonEmpty, if_neg hne, Prod.mk.injEq] at hi
  obtain ⟨hn, rfl⟩ := hi
  simp only [resolveShard, if_neg hne, resolve_mapT, Prod.mk.injEq, and_true]
  cases sv with
  | none => cases hn
  | val v =>
    have h1 := (hc0.1 v rfl).2
    rw [nm_of_name hn.symm] at h1
    rw [h1]
    rfl
  | fresh m =>
    simp only [specName, Option.some.injEq] at hn
    subst hn
    rw [(hc0.2 _ rfl).2]
    rfl

theorem serDevR_iso (V : Nat → ValueS) (A : Assoc) (scopes : List Table) (d : DevR) (p : DevP)
    (h : serDevR V d = .ok p)
    (hc : ∀ s ∈ d.specs, SpecCert V scopes s) :
    deserDevR (scopes.map (mapT A)) p = d.mapσ (sig A) := by
  have hrt := serDev_rt _ _ h
  simp only [deserDev, DevS.mk.injEq] at hrt
  simp only [deserDevR, DevR.mapσ, hrt.1, hrt.2.1, specs_iso V A scopes d.specs p.specs hrt.2.2 (serDev_names _ _ h).2 hc]

theorem serDevRs_iso (V : Nat → ValueS) (A : Assoc) (scopes : List Table) :
    ∀ (l : List DevR) (ds : List DevP), serDevRs V l = .ok ds → DevsCert V scopes l →
      ds.map (deserDevR (scopes.map (mapT A))) = l.map (DevR.mapσ (sig A))
  | [] => fun ds h _ => by
    simp only [serDevRs, Except.ok.injEq] at h
    subst h
    rfl
  | d :: r => fun ds h hc => by
    simp only [serDevRs] at h
    split at h
    · cases h
    · rename_i p hp
      split at h
      · cases h
      · rename_i ps hps
        simp only [Except.ok.injEq] at h
        subst h
        simp only [List.map_cons]
        rw [serDevR_iso V A scopes d p hp (hc d (List.mem_cons_self ..)),
          serDevRs_iso V A scopes r ps hps (fun d' hd' => hc d' (List.mem_cons_of_mem _ hd'))]

mutual
theorem devIso_graph (V : Nat → ValueS) (x x' : Ext) (td : TData) (ver : Option Int) (hgate : GateOpen ver) (hi : Nat)
    (A : Assoc) :
    ∀ (g : GraphT) (outer : List Table) (p : GraphE) (g' : GraphT) (ws : Writes),
      serGraphE V x td ver g = .ok (p, ws) → DevCertG V x outer g → DevTrG V x' hi A outer g p g' →
      DevIsoG x x' (sig A) g g'
  | .mk gid ins inits nodes outs, outer, p, .mk _ _ _ nodes' _ => fun ws hser hc htr => by
    obtain ⟨qIn, seen1, qInit, seen2, nps, qNodes, vis2, ws2, qOut, seen3, _, _, _, _, hn, _, rfl⟩ := xserGraph_inv hser
    simp only [DevCertG] at hc
    simp only [DevTrG] at htr
    simp only [DevIsoG]
    exact devIso_nodes V x x' td ver hgate hi A nodes outer _ nps nodes' true outs qNodes vis2 ws2 hn hc htr
termination_by structural g => g
theorem devIso_nodes (V : Nat → ValueS) (x x' : Ext) (td : TData) (ver : Option Int) (hgate : GateOpen ver) (hi : Nat)
    (A : Assoc) :
    ∀ (nodes : List NodeT) (outer : List Table) (T : Table) (nps : List NodeE) (nts : List NodeT) (annot : Bool)
      (gouts : List Nat) (qs : List QuantP) (vis : List VInfoE) (ws : Writes),
      serNodesE V x td ver annot gouts nodes = .ok (nps, qs, vis, ws) → DevCertNs V x outer T nodes →
      DevTrNs V x' hi A outer T nodes nps nts → DevIsoNs x x' (sig A) nodes nts
  | [], _, _, [], [] => fun _ _ _ _ _ _ _ _ => by simp only [DevIsoNs]
  | n :: rest, outer, T, np :: nps, nt :: nts => fun annot gouts qs vis ws hser hc htr => by
    obtain ⟨np0, q1, vi1, ws1, nps', qs', vis', ws2, h1, h2, he, _, _⟩ := xserNodes_inv hser
    simp only [List.cons.injEq] at he
    obtain ⟨rfl, rfl⟩ := he
    simp only [DevCertNs] at hc
    simp only [DevTrNs] at htr
    simp only [DevIsoNs]
    exact ⟨devIso_node V x x' td ver hgate hi A n outer T np nt annot gouts q1 vi1 ws1 h1 hc.1 htr.1,
      devIso_nodes V x x' td ver hgate hi A rest outer _ nps nts annot gouts qs' vis' ws2 h2 hc.2 htr.2⟩
  | [], _, _, [], _ :: _ => fun _ _ _ _ _ _ _ h => by simp only [DevTrNs] at h
  | [], _, _, _ :: _, _ => fun _ _ _ _ _ _ _ h => by simp only [DevTrNs] at h
  | _ :: _, _, _, [], _ => fun _ _ _ _ _ _ _ h => by simp only [DevTrNs] at h
  | _ :: _, _, _, _ :: _, [] => fun _ _ _ _ _ _ _ h => by simp only [DevTrNs] at h
termination_by structural nodes => nodes
theorem devIso_node (V : Nat → ValueS) (x x' : Ext) (td : TData) (ver : Option Int) (hgate : GateOpen ver) (hi : Nat)
    (A : Assoc) :
    ∀ (n : NodeT) (outer : List Table) (T : Table) (np : NodeE) (nt : NodeT) (annot : Bool)
      (gouts : List Nat) (qs : List QuantP) (vis : List VInfoE) (ws : Writes),
      serNodeE V x td ver annot gouts n = .ok (np, qs, vis, ws) → DevCertN V x outer T n →
      DevTrN V x' hi A outer T n np nt → DevIsoN x x' (sig A) n nt
  | .mk i g ins outs subs, outer, T, np, .mk i' _ _ _ subs' => fun annot gouts qs vis ws hser hc htr => by
    obtain ⟨gps, ds, hs, hd, _, rfl, _, _⟩ := xserNode_inv hser
    simp only [DevCertN] at hc
    simp only [DevTrN] at htr
    simp only [DevIsoN]
    obtain ⟨⟨_, _, _, hdev⟩, htrs⟩ := htr
    refine ⟨?_, devIso_subs V x x' td ver hgate hi A subs _ gps subs' ws hs hc.2 htrs⟩
    rw [serDevRsGated_open hgate] at hd
    rw [hdev, ← serDevRs_iso V A _ (x.devs i) ds hd hc.1]
    rfl
termination_by structural n => n
theorem devIso_subs (V : Nat → ValueS) (x x' : Ext) (td : TData) (ver : Option Int) (hgate : GateOpen ver) (hi : Nat)
    (A : Assoc) :
    ∀ (subs : List GraphT) (scopes : List Table) (gps : List GraphE) (gts : List GraphT) (ws : Writes),
      serSubsE V x td ver subs = .ok (gps, ws) → DevCertGs V x scopes subs → DevTrGs V x' hi A scopes subs gps gts →
      DevIsoGs x x' (sig A) subs gts
  | [], _, [], [] => fun _ _ _ _ => by simp only [DevIsoGs]
  | g :: rest, scopes, gp :: gps, gt :: gts => fun ws hser hc htr => by
    obtain ⟨gp0, ws1, gps', ws2, h1, h2, he⟩ := xserSubs_inv hser
    simp only [List.cons.injEq] at he
    obtain ⟨rfl, rfl⟩ := he
    simp only [DevCertGs] at hc
    simp only [DevTrGs] at htr
    simp only [DevIsoGs]
    exact ⟨devIso_graph V x x' td ver hgate hi A g scopes gp gt ws1 h1 hc.1 htr.1,
      devIso_subs V x x' td ver hgate hi A rest scopes gps gts ws2 h2 hc.2 htr.2⟩
  | [], _, [], _ :: _ => fun _ _ _ h => by simp only [DevTrGs] at h
  | [], _, _ :: _, _ => fun _ _ _ h => by simp only [DevTrGs] at h
  | _ :: _, _, [], _ => fun _ _ _ h => by simp only [DevTrGs] at h
  | _ :: _, _, _ :: _, [] => fun _ _ _ h => by simp only [DevTrGs] at h
termination_by structural subs => subs
end

end IrVerif.Scope
