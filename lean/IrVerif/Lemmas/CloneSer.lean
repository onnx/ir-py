/-
Helper development for C13_faithful_observe, about `serGraph` (Model/Clone.lean): `GraphSim`-related
graphs serialize to the same thing (`serGraph_sim`: two objects, one heap), and what is serialized
does not change when the heap grows (`serGraph_mono`: one object, two heaps, hence its own walk).
-/
import IrVerif.Lemmas.CloneSim
namespace IrVerif.Clone

/-! ### `optMapM`; related lists serialize alike -/

theorem optMapM_cons {α β : Type} {f : α → Option β} {a : α} {as : List α} {y : β} {ys : List β}
    (h1 : f a = some y) (h2 : optMapM f as = some ys) : optMapM f (a :: as) = some (y :: ys) := by
  unfold optMapM
  rw [h1, h2]

theorem optMapM_cons_inv {α β : Type} {f : α → Option β} {a : α} {as : List α} {xs : List β}
    (h : optMapM f (a :: as) = some xs) : ∃ y ys, f a = some y ∧ optMapM f as = some ys ∧ xs = y :: ys := by
  unfold optMapM at h
  cases hfa : f a with
  | none => rw [hfa] at h; cases h
  | some y =>
    cases hrest : optMapM f as with
    | none => rw [hfa, hrest] at h; cases h
    | some ys =>
      rw [hfa, hrest] at h
      exact ⟨y, ys, rfl, rfl, (Option.some.inj h).symm⟩

theorem optMapM_length {α β : Type} {f : α → Option β} : ∀ {l : List α} {xs : List β},
    optMapM f l = some xs → xs.length = l.length
  | [], xs, h => by simp only [optMapM, Option.some.injEq] at h; subst h; rfl
  | a :: as, xs, h => by
    obtain ⟨y, ys, _, hrest, rfl⟩ := optMapM_cons_inv h
    simp [optMapM_length hrest]

theorem optMapM_mono {α β : Type} {f f' : α → Option β} :
    ∀ {l : List α} {xs : List β}, (∀ a ∈ l, ∀ x, f a = some x → f' a = some x) →
      optMapM f l = some xs → optMapM f' l = some xs
  | [], _, _, h => h
  | a :: as, xs, hf, h => by
    obtain ⟨y, ys, hfa, hrest, rfl⟩ := optMapM_cons_inv h
    exact optMapM_cons (hf a List.mem_cons_self y hfa) (optMapM_mono (fun a' ha' => hf a' (List.mem_cons_of_mem _ ha')) hrest)

theorem optMapM_all2 {α β γ : Type} {R : α → β → Prop} {f : α → Option γ} {f' : β → Option γ}
    (h : ∀ a b x, R a b → f a = some x → f' b = some x) :
    ∀ {l : List α} {l' : List β} {xs : List γ}, All2 R l l' → optMapM f l = some xs →
      optMapM f' l' = some xs
  | _, _, _, .nil, hx => hx
  | a :: as, b :: bs, xs, .cons r rs, hx => by
    obtain ⟨y, ys, hfa, hrest, rfl⟩ := optMapM_cons_inv hx
    exact optMapM_cons (h a b y r hfa) (optMapM_all2 h rs hrest)

theorem vinfo_sim {w : World} {v v' : Nat} {i : VInfo} (h : ValSim w v v') (hv : vinfo w v = some i) :
    vinfo w v' = some i := by
  obtain ⟨j, a, b⟩ := h
  rw [a] at hv
  cases hv
  exact b

theorem cVal_of_vinfo {w : World} {v : Nat} {i : VInfo} (h : vinfo w v = some i) :
    ∃ x, cVal w v = some x ∧ x.name = i.name := by
  unfold vinfo at h
  cases hv : cVal w v with
  | none => rw [hv] at h; cases h
  | some vs =>
    rw [hv] at h
    simp only at h
    split at h
    · cases h; exact ⟨vs, rfl, rfl⟩
    · cases h

theorem serRef_sim {w : World} {r r' : Option Nat} {x : Option (Option String)} (h : RefSim w r r')
    (hx : serRef w r = some x) : serRef w r' = some x := by
  rcases h with h | ⟨v, v', rfl, rfl, hs⟩
  · rw [h]; exact hx
  · obtain ⟨i, a, b⟩ := hs
    obtain ⟨y, hy, hn⟩ := cVal_of_vinfo a
    obtain ⟨y', hy', hn'⟩ := cVal_of_vinfo b
    simp only [serRef, hy, Option.map_some] at hx
    simp only [serRef, hy', Option.map_some]
    rw [← hx, hn, hn']

theorem serDev_sim {w : World} {d d' : List DevCfg} {x : List (Nat × List (Nat × Option (Option String)))}
    (h : DevSim w d d') (hx : serDev w d = some x) : serDev w d' = some x := by
  unfold serDev at *
  refine optMapM_all2 ?_ h hx
  intro c c' y ⟨hc, hs⟩ hy
  cases hsp : optMapM (fun sp => (serRef w sp.value).map fun r => (sp.payload, r)) c.specs with
  | none => rw [hsp] at hy; cases hy
  | some specs =>
    rw [hsp] at hy
    have : optMapM (fun sp => (serRef w sp.value).map fun r => (sp.payload, r)) c'.specs = some specs := by
      refine optMapM_all2 ?_ hs hsp
      intro sp sp' z ⟨hp, hr⟩ hz
      cases hsr : serRef w sp.value with
      | none => rw [hsr] at hz; cases hz
      | some q =>
        rw [hsr] at hz
        rw [serRef_sim hr hsr, hp]
        exact hz
    rw [this, hc]
    exact hy

/-! ### Python dict construction from entries with pairwise different keys keeps them all -/

theorem any_key_append {β : Type} (d : List (String × β)) (k k' : String) (v : β) :
    (d ++ [(k', v)]).any (fun e => e.1 == k) = (d.any (fun e => e.1 == k) || (k' == k)) := by
  simp [List.any_append]

theorem foldl_dictSet_distinct {β : Type} : ∀ (xs acc : List (String × β)),
    distinct (xs.map (·.1)) = true →
    (∀ x ∈ xs, acc.any (fun e => e.1 == x.1) = false) →
    xs.foldl (fun d e => dictSet d e.1 e.2) acc = acc ++ xs
  | [], acc, _, _ => by simp
  | x :: xs, acc, hd, hacc => by
    simp only [List.map_cons, distinct, Bool.and_eq_true, Bool.not_eq_true'] at hd
    simp only [List.foldl_cons]
    rw [dictSet_append_new acc x.1 x.2 (hacc x List.mem_cons_self)]
    rw [foldl_dictSet_distinct xs _ hd.2]
    · simp
    · intro y hy
      rw [any_key_append, hacc y (List.mem_cons_of_mem _ hy)]
      simp only [Bool.false_or]
      have hne : (xs.map (·.1)).contains x.1 = false := hd.1
      have : y.1 ∈ xs.map (·.1) := List.mem_map_of_mem hy
      cases hxy : (x.1 == y.1) with
      | false => rfl
      | true =>
        have heq : x.1 = y.1 := by simpa using hxy
        rw [heq] at hne
        have : (xs.map (·.1)).contains y.1 = true := by simpa using this
        rw [this] at hne; cases hne

theorem dictOf_distinct {β : Type} (xs : List (String × β)) (h : distinct (xs.map (·.1)) = true) :
    dictOf xs = xs := by
  unfold dictOf
  rw [foldl_dictSet_distinct xs [] h (by simp)]
  simp

theorem graphs_ser_sim {w : World} {rec : Nat → Option SGraph}
    (hrec : ∀ g g' x, GraphSim w g g' → rec g = some x → rec g' = some x) :
    ∀ {l l' : List Nat} {xs : List SGraph}, GraphsSim w l l' → optMapM rec l = some xs →
      optMapM rec l' = some xs
  | _, _, _, .nil, hx => hx
  | a :: as, b :: bs, xs, .cons r rs, hx => by
    obtain ⟨y, ys, hfa, hrest, rfl⟩ := optMapM_cons_inv hx
    exact optMapM_cons (hrec a b y r hfa) (graphs_ser_sim hrec rs hrest)

def EntryOk (w : World) (ka : String × Nat) : Prop := ∃ as, cAttr w ka.2 = some as ∧ as.name = ka.1

theorem attr_ser_sim {w : World} {rec : Nat → Option SGraph}
    (hrec : ∀ g g' x, GraphSim w g g' → rec g = some x → rec g' = some x)
    {x y : String × Nat} (h : AttrSim w x y) (hok : EntryOk w x) :
    y.1 = x.1 ∧ EntryOk w y ∧ ∀ z, serAttr rec w x.2 = some z → serAttr rec w y.2 = some z := by
  cases h with
  | shared k a as h1 h2 =>
    obtain ⟨as', ha', hn⟩ := hok
    simp only at ha' hn
    rw [h1] at ha'
    cases ha'
    exact ⟨hn, ⟨as, h1, rfl⟩, fun z hz => hz⟩
  | graph k a a' as g g' h1 h2 h3 h4 =>
    obtain ⟨as', ha', hn⟩ := hok
    simp only at ha' hn
    rw [h1] at ha'
    cases ha'
    refine ⟨rfl, ⟨_, h3, rfl⟩, ?_⟩
    intro z hz
    simp only [serAttr, h1, h2] at hz
    simp only [serAttr, h3]
    cases hg : rec g with
    | none => rw [hg] at hz; cases hz
    | some q =>
      rw [hg] at hz
      rw [hrec g g' q h4 hg, ← hn]
      exact hz
  | graphs k a a' as gs gs' h1 h2 h3 h4 =>
    obtain ⟨as', ha', hn⟩ := hok
    simp only at ha' hn
    rw [h1] at ha'
    cases ha'
    refine ⟨rfl, ⟨_, h3, rfl⟩, ?_⟩
    intro z hz
    simp only [serAttr, h1, h2] at hz
    simp only [serAttr, h3]
    cases hg : optMapM rec gs with
    | none => rw [hg] at hz; cases hz
    | some q =>
      rw [hg] at hz
      rw [graphs_ser_sim hrec h4 hg, ← hn]
      exact hz

theorem attrs_ser_sim {w : World} {rec : Nat → Option SGraph}
    (hrec : ∀ g g' x, GraphSim w g g' → rec g = some x → rec g' = some x) :
    ∀ {l l' : List (String × Nat)}, AttrsSim w l l' → (∀ ka ∈ l, EntryOk w ka) →
      l'.map (·.1) = l.map (·.1) ∧ (∀ ka ∈ l', EntryOk w ka) ∧
      ∀ xs, optMapM (fun ka => serAttr rec w ka.2) l = some xs →
        optMapM (fun ka => serAttr rec w ka.2) l' = some xs
  | _, _, .nil, _ => ⟨rfl, by simp, fun _ h => h⟩
  | x :: xs, y :: ys, .cons r rs, hok => by
    obtain ⟨k1, o1, s1⟩ := attr_ser_sim hrec r (hok x List.mem_cons_self)
    obtain ⟨k2, o2, s2⟩ := attrs_ser_sim hrec rs (fun ka h => hok ka (List.mem_cons_of_mem _ h))
    refine ⟨by simp [k1, k2], ?_, ?_⟩
    · intro ka hka
      rcases List.mem_cons.mp hka with rfl | hka
      · exact o1
      · exact o2 ka hka
    · intro zs hz
      obtain ⟨q, qs, hfa, hrest, rfl⟩ := optMapM_cons_inv hz
      exact optMapM_cons (s1 q hfa) (s2 qs hrest)

theorem attrsOk_iff {w : World} {attrs : List (String × Nat)} :
    attrsOk w attrs = true ↔ distinct (attrs.map (·.1)) = true ∧ ∀ ka ∈ attrs, EntryOk w ka := by
  unfold attrsOk EntryOk
  rw [Bool.and_eq_true, List.all_eq_true]
  constructor
  · intro ⟨h1, h2⟩
    refine ⟨h1, fun ka hka => ?_⟩
    have := h2 ka hka
    cases hc : cAttr w ka.2 with
    | none => rw [hc] at this; cases this
    | some as => rw [hc] at this; exact ⟨as, rfl, by simpa using this⟩
  · intro ⟨h1, h2⟩
    refine ⟨h1, fun ka hka => ?_⟩
    obtain ⟨as, ha, hn⟩ := h2 ka hka
    rw [ha]; simpa using hn

theorem serNode_sim {w : World} {rec : Nat → Option SGraph}
    (hrec : ∀ g g' x, GraphSim w g g' → rec g = some x → rec g' = some x)
    {n n' : Nat} {y : SNode} (h : NodeSim w n n') (hy : serNode rec w n = some y) :
    serNode rec w n' = some y := by
  cases h with
  | mk _ _ ns ns' newAttrs h1 h2 e1 e2 e3 e4 e5 e6 hin hout hat hd hp hm hdev =>
    unfold serNode at hy ⊢
    rw [h1] at hy
    rw [h2]
    simp only at hy ⊢
    split at hy
    · next hok =>
      obtain ⟨hdist, hent⟩ := attrsOk_iff.mp hok
      obtain ⟨hkeys, hent', hser⟩ := attrs_ser_sim hrec hat hent
      have hdist' : distinct (newAttrs.map (·.1)) = true := by rw [hkeys]; exact hdist
      have hattrs : ns'.attrs = newAttrs := by rw [hd]; exact dictOf_distinct _ hdist'
      have hok' : attrsOk w ns'.attrs = true := by
        rw [hattrs]; exact attrsOk_iff.mpr ⟨hdist', hent'⟩
      rw [if_pos hok']
      split at hy
      · next ins outs attrs p m dev a1 a2 a3 a4 a5 a6 =>
        obtain ⟨xp, xp', p1, p2, p3⟩ := hp
        obtain ⟨xm, xm', m1, m2, m3, m4⟩ := hm
        rw [p1] at a4; cases a4
        rw [m1] at a5; cases a5
        have b1 : optMapM (serRef w) ns'.inputs = some ins :=
          optMapM_all2 (f := serRef w) (f' := serRef w) (fun _ _ _ r h => serRef_sim r h) hin a1
        have b2 : optMapM (vinfo w) ns'.outputs = some outs :=
          optMapM_all2 (f := vinfo w) (f' := vinfo w) (fun _ _ _ r h => vinfo_sim r h) hout a2
        rw [b1, b2, hattrs, hser _ a3, p2, m2, serDev_sim hdev a6]
        simp only
        rw [e1, e2, e3, e4, e5, e6, p3, m3, m4]
        exact hy
      · cases hy
    · cases hy

def nameOf (w : World) (v : Nat) : Option String := (cVal w v).bind (·.name)

theorem initsOk_iff {w : World} {vs : List Nat} :
    initsOk w vs = true ↔ ∃ names, optMapM (nameOf w) vs = some names ∧ distinct names = true := by
  unfold initsOk
  show (match optMapM (nameOf w) vs with
    | some names => distinct names
    | none => false) = true ↔ _
  cases h : optMapM (nameOf w) vs with
  | none => simp
  | some names => simp

theorem initFold_eq {w : World} : ∀ (vs : List Nat) (names : List String) (acc : List (String × Nat)),
    optMapM (nameOf w) vs = some names →
    vs.foldl (initStep w) acc = (names.zip vs).foldl (fun d e => dictSet d e.1 e.2) acc
  | [], names, acc, h => by
    simp only [optMapM, Option.some.injEq] at h
    subst h
    rfl
  | v :: vs, names, acc, h => by
    obtain ⟨nm, ns, hn, hrest, rfl⟩ := optMapM_cons_inv h
    simp only [List.foldl_cons, List.zip_cons_cons]
    have hstep : initStep w acc v = dictSet acc nm v := by
      unfold nameOf at hn
      unfold initStep
      cases hc : cVal w v with
      | none => rw [hc] at hn; cases hn
      | some x =>
        rw [hc] at hn
        simp only [Option.bind_some] at hn
        simp [hn]
    rw [hstep]
    exact initFold_eq vs ns _ hrest

theorem initDict_of_names {w : World} {vs : List Nat} {names : List String}
    (h : optMapM (nameOf w) vs = some names) (hd : distinct names = true) :
    (initDict w vs).map (·.2) = vs := by
  have hlen := optMapM_length h
  rw [initDict_eq, initFold_eq vs names [] h]
  have hkeys : (names.zip vs).map (·.1) = names := by
    rw [List.map_fst_zip]; omega
  rw [foldl_dictSet_distinct (names.zip vs) [] (by rw [hkeys]; exact hd) (by simp)]
  simp only [List.nil_append]
  rw [List.map_snd_zip]; omega

theorem nameOf_sim {w : World} {v v' : Nat} {nm : String} (h : ValSim w v v')
    (hn : nameOf w v = some nm) : nameOf w v' = some nm := by
  obtain ⟨i, a, b⟩ := h
  obtain ⟨y, hy, e⟩ := cVal_of_vinfo a
  obtain ⟨y', hy', e'⟩ := cVal_of_vinfo b
  unfold nameOf at *
  rw [hy] at hn
  rw [hy']
  simp only [Option.bind_some] at hn ⊢
  rw [e', ← e]; exact hn

theorem nodes_ser_sim {w : World} {rec : Nat → Option SGraph}
    (hrec : ∀ g g' x, GraphSim w g g' → rec g = some x → rec g' = some x) :
    ∀ {l l' : List Nat} {xs : List SNode}, NodesSim w l l' → optMapM (serNode rec w) l = some xs →
      optMapM (serNode rec w) l' = some xs
  | _, _, _, .nil, hx => hx
  | a :: as, b :: bs, xs, .cons r rs, hx => by
    obtain ⟨y, ys, hfa, hrest, rfl⟩ := optMapM_cons_inv hx
    exact optMapM_cons (serNode_sim hrec r hfa) (nodes_ser_sim hrec rs hrest)

theorem serGraphStep_sim {w : World} {rec : Nat → Option SGraph}
    (hrec : ∀ g g' x, GraphSim w g g' → rec g = some x → rec g' = some x)
    {g g' : Nat} {y : SGraph} (h : GraphSim w g g') (hy : serGraphStep rec w g = some y) :
    serGraphStep rec w g' = some y := by
  cases h with
  | mk _ _ gs gs' inits' h1 h2 e1 e2 e3 hin hinit hd hn hout hp hm =>
    unfold serGraphStep at hy ⊢
    rw [h1] at hy
    rw [h2]
    simp only at hy ⊢
    split at hy
    · next hok =>
      obtain ⟨names, hnames, hdist⟩ := initsOk_iff.mp hok
      have hnames' : optMapM (nameOf w) inits' = some names :=
        optMapM_all2 (f := nameOf w) (f' := nameOf w) (fun _ _ _ r h => nameOf_sim r h) hinit hnames
      have hinits : gs'.inits.map (·.2) = inits' := by
        rw [hd]; exact initDict_of_names hnames' hdist
      have hok' : initsOk w (gs'.inits.map (·.2)) = true := by
        rw [hinits]; exact initsOk_iff.mpr ⟨names, hnames', hdist⟩
      rw [if_pos hok']
      split at hy
      · next ins inits nodes outs p m a1 a2 a3 a4 a5 a6 =>
        obtain ⟨xp, xp', p1, p2, p3⟩ := hp
        obtain ⟨xm, xm', m1, m2, m3, m4⟩ := hm
        rw [p1] at a5; cases a5
        rw [m1] at a6; cases a6
        have b1 : optMapM (vinfo w) gs'.inputs = some ins :=
          optMapM_all2 (f := vinfo w) (f' := vinfo w) (fun _ _ _ r h => vinfo_sim r h) hin a1
        have b2 : optMapM (vinfo w) (gs'.inits.map (·.2)) = some inits := by
          rw [hinits]
          exact optMapM_all2 (f := vinfo w) (f' := vinfo w) (fun _ _ _ r h => vinfo_sim r h) hinit a2
        have b4 : optMapM (vinfo w) gs'.outputs = some outs :=
          optMapM_all2 (f := vinfo w) (f' := vinfo w) (fun _ _ _ r h => vinfo_sim r h) hout a4
        have b3 : optMapM (serNode rec w) gs'.nodes = some nodes := nodes_ser_sim hrec hn a3
        rw [b1, b2, b3, b4, p2, m2]
        simp only
        rw [e1, e2, e3, p3, m3, m4]
        exact hy
      · cases hy
    · cases hy

/-- related graphs serialize to the same thing (when the original serializes at all) -/
theorem serGraph_sim {w : World} : ∀ (k : Nat) {g g' : Nat} {y : SGraph}, GraphSim w g g' →
    serGraph k w g = some y → serGraph k w g' = some y
  | 0, _, _, _, _, h => by cases h
  | k + 1, _, _, _, hs, h =>
    serGraphStep_sim (fun _ _ _ hs' h' => serGraph_sim k hs' h') hs h

/-! ### what is serialized does not change when the heap grows and back links change -/

section
variable {w1 w2 : World} (hle : CoreLe w1 w2)
include hle

theorem serRef_mono {r : Option Nat} {x : Option (Option String)} (h : serRef w1 r = some x) :
    serRef w2 r = some x := by
  cases r with
  | none => exact h
  | some v =>
    simp only [serRef] at h ⊢
    cases hc : cVal w1 v with
    | none => rw [hc] at h; cases h
    | some y => rw [cVal_mono hle hc]; rw [hc] at h; exact h

theorem serDev_mono {d : List DevCfg} {x : List (Nat × List (Nat × Option (Option String)))}
    (h : serDev w1 d = some x) : serDev w2 d = some x := by
  unfold serDev at *
  refine optMapM_mono ?_ h
  intro c _ y hy
  cases hsp : optMapM (fun sp => (serRef w1 sp.value).map fun r => (sp.payload, r)) c.specs with
  | none => rw [hsp] at hy; cases hy
  | some specs =>
    rw [hsp] at hy
    have : optMapM (fun sp => (serRef w2 sp.value).map fun r => (sp.payload, r)) c.specs = some specs := by
      refine optMapM_mono ?_ hsp
      intro sp _ z hz
      cases hsr : serRef w1 sp.value with
      | none => rw [hsr] at hz; cases hz
      | some q => rw [hsr] at hz; rw [serRef_mono hle hsr]; exact hz
    rw [this]; exact hy

theorem attrsOk_mono {attrs : List (String × Nat)} (h : attrsOk w1 attrs = true) :
    attrsOk w2 attrs = true := by
  obtain ⟨a, b⟩ := attrsOk_iff.mp h
  exact attrsOk_iff.mpr ⟨a, fun ka hka => by
    obtain ⟨as, x, y⟩ := b ka hka
    exact ⟨as, cAttr_mono hle x, y⟩⟩

theorem nameOf_mono {v : Nat} {nm : String} (h : nameOf w1 v = some nm) : nameOf w2 v = some nm := by
  unfold nameOf at *
  cases hc : cVal w1 v with
  | none => rw [hc] at h; cases h
  | some y => rw [cVal_mono hle hc]; rw [hc] at h; exact h

theorem initsOk_mono {vs : List Nat} (h : initsOk w1 vs = true) : initsOk w2 vs = true := by
  obtain ⟨names, a, b⟩ := initsOk_iff.mp h
  exact initsOk_iff.mpr ⟨names, optMapM_mono (fun v _ x hx => nameOf_mono hle hx) a, b⟩

theorem serAttr_mono {rec1 rec2 : Nat → Option SGraph}
    (hrec : ∀ g x, rec1 g = some x → rec2 g = some x) {a : Nat} {z : SAttr}
    (h : serAttr rec1 w1 a = some z) : serAttr rec2 w2 a = some z := by
  unfold serAttr at *
  cases hc : cAttr w1 a with
  | none => rw [hc] at h; cases h
  | some as =>
    rw [hc] at h
    rw [cAttr_mono hle hc]
    simp only at h ⊢
    cases hv : as.v with
    | plain p => rw [hv] at h; exact h
    | ref p => rw [hv] at h; exact h
    | graph g =>
      rw [hv] at h
      simp only at h ⊢
      cases hr : rec1 g with
      | none => rw [hr] at h; cases h
      | some q => rw [hr] at h; rw [hrec g q hr]; exact h
    | graphs gs =>
      rw [hv] at h
      simp only at h ⊢
      cases hr : optMapM rec1 gs with
      | none => rw [hr] at h; cases h
      | some q =>
        rw [hr] at h
        rw [optMapM_mono (fun g _ x hx => hrec g x hx) hr]; exact h

theorem serNode_mono {rec1 rec2 : Nat → Option SGraph}
    (hrec : ∀ g x, rec1 g = some x → rec2 g = some x) {n : Nat} {y : SNode}
    (h : serNode rec1 w1 n = some y) : serNode rec2 w2 n = some y := by
  unfold serNode at *
  cases hc : cNode w1 n with
  | none => rw [hc] at h; cases h
  | some ns =>
    rw [hc] at h
    rw [cNode_mono hle hc]
    simp only at h ⊢
    split at h
    · next hok =>
      rw [if_pos (attrsOk_mono hle hok)]
      split at h
      · next ins outs attrs p m dev a1 a2 a3 a4 a5 a6 =>
        rw [optMapM_mono (fun r _ x hx => serRef_mono hle hx) a1,
          optMapM_mono (fun v _ x hx => vinfo_mono hle hx) a2,
          optMapM_mono (fun ka _ x hx => serAttr_mono hle hrec hx) a3,
          cDict_mono hle a4, cDict_mono hle a5, serDev_mono hle a6]
        exact h
      · cases h
    · cases h

theorem serGraphStep_mono {rec1 rec2 : Nat → Option SGraph}
    (hrec : ∀ g x, rec1 g = some x → rec2 g = some x) {g : Nat} {y : SGraph}
    (h : serGraphStep rec1 w1 g = some y) : serGraphStep rec2 w2 g = some y := by
  unfold serGraphStep at *
  cases hc : cGraph w1 g with
  | none => rw [hc] at h; cases h
  | some gs =>
    rw [hc] at h
    rw [cGraph_mono hle hc]
    simp only at h ⊢
    split at h
    · next hok =>
      rw [if_pos (initsOk_mono hle hok)]
      split at h
      · next ins inits nodes outs p m a1 a2 a3 a4 a5 a6 =>
        rw [optMapM_mono (fun v _ x hx => vinfo_mono hle hx) a1,
          optMapM_mono (fun v _ x hx => vinfo_mono hle hx) a2,
          optMapM_mono (fun n _ x hx => serNode_mono hle hrec hx) a3,
          optMapM_mono (fun v _ x hx => vinfo_mono hle hx) a4,
          cDict_mono hle a5, cDict_mono hle a6]
        exact h
      · cases h
    · cases h

end

theorem serGraph_mono {w1 w2 : World} (hle : CoreLe w1 w2) : ∀ (k : Nat) {g : Nat} {y : SGraph},
    serGraph k w1 g = some y → serGraph k w2 g = some y
  | 0, _, _, h => by cases h
  | k + 1, _, _, h => serGraphStep_mono hle (fun _ _ hx => serGraph_mono hle k hx) h

end IrVerif.Clone
