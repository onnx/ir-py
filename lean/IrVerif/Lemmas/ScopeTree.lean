/-
Two invariants of a deserializer run.  `Named`: every binding of a scope table binds a value of that name.
`TreeOKG`: every node carries the id of the graph that lists it, every initializer is keyed by the name of its
value, keys are distinct (`deserGraph_tree`).
-/
import IrVerif.Lemmas.ScopeWF
namespace IrVerif.Scope

/-- every binding `x -> v` of the scope binds a value named `x` -/
def Named (st : Store) (t : Table) : Prop := ∀ e ∈ t, (st.vals e.2).name = some e.1

theorem Named.keep {st st' : Store} {t : Table} (h : Named st t) (hlt : TableLt st t)
    (hn : ∀ v, v < st.nv → (st'.vals v).name = (st.vals v).name) : Named st' t :=
  fun e he => by rw [hn _ (hlt e he)]; exact h e he

theorem Named.cons {st st' : Store} {t : Table} {x : Name} (h : Named st t) (hlt : TableLt st t)
    (hn : ∀ v, v < st.nv → (st'.vals v).name = (st.vals v).name) (hx : (st'.vals st.nv).name = some x) :
    Named st' ((x, st.nv) :: t) := by
  intro e he
  simp only [List.mem_cons] at he
  rcases he with rfl | he
  · exact hx
  · exact h.keep hlt hn e he

theorem newNamed_name (st : Store) (vi : List (Name × Info)) (x : Name) :
    ((newNamed st vi x).vals st.nv).name = some x := by
  unfold newNamed
  split <;> simp

theorem newInit_name (st : Store) (vi : List (Name × Info)) (t : TensorP) (tid : Nat) :
    ((newInit st vi t tid).vals st.nv).name = some t.name := by
  unfold newInit
  split <;> simp

theorem deserInputs_named (is : List VInfoP) :
    ∀ (st : Store), Named (deserInputs st is).1 (inputTable is (deserInputs st is).2) := by
  -- generalised: any table extended by the zipped entries
  have key : ∀ (is : List VInfoP) (st : Store) (t : Table), Named st t → TableLt st t →
      Named (deserInputs st is).1 (((is.map (·.name)).zip (deserInputs st is).2).reverse ++ t) ∧
      TableLt (deserInputs st is).1 (((is.map (·.name)).zip (deserInputs st is).2).reverse ++ t) := by
    intro is
    induction is with
    | nil => intro st t h hl; simpa [deserInputs] using ⟨h, hl⟩
    | cons i is ih =>
      intro st t h hl
      simp only [deserInputs, List.map_cons, List.zip_cons_cons, List.reverse_cons, List.append_assoc,
        List.singleton_append, alloc_snd]
      have q := Quiet.alloc st { name := some i.name, info := i.info } rfl
      have h1 : Named (st.alloc { name := some i.name, info := i.info }).1 ((i.name, st.nv) :: t) :=
        h.cons hl q.names (by simp)
      exact ih _ _ h1 (hl.cons (by simp) _)
  intro st
  have := (key is st [] (fun _ he => by simp at he) (fun _ he => by simp at he)).1
  simpa [inputTable] using this

theorem deserInits_named (vi : List (Name × Info)) (ts : List TensorP) :
    ∀ (st : Store) (tbl : Table), Named st tbl → TableLt st tbl →
      Named (deserInits st tbl vi ts).1 (deserInits st tbl vi ts).2.1 := by
  induction ts with
  | nil => intro st tbl h _; simpa [deserInits] using h
  | cons t ts ih =>
    intro st tbl h hl
    simp only [deserInits]
    split
    · exact ih st tbl h hl
    · split
      · rename_i v hv
        apply ih
        · refine h.keep hl (fun w _ => ?_)
          rw [modify_vals]; split <;> rfl
        · exact hl
      · have q := (newInit_quiet (st.allocTensor { name := some t.name, data := t.data, ty := t.ty, sh := t.sh }).1
          vi t st.nt)
        apply ih
        · exact Named.cons (st := (st.allocTensor { name := some t.name, data := t.data, ty := t.ty, sh := t.sh }).1)
            h hl q.1.names (newInit_name _ vi t st.nt)
        · exact TableLt.cons (st := (st.allocTensor { name := some t.name, data := t.data, ty := t.ty, sh := t.sh }).1) hl q.2 _

theorem declareOutputs_named (vi : List (Name × Info)) (xs : List Name) :
    ∀ (st : Store) (tbl : Table) (st' : Store) (tbl' : Table), Named st tbl → TableLt st tbl →
      declareOutputs st tbl vi xs = .ok (st', tbl') → Named st' tbl' ∧ TableLt st' tbl' := by
  induction xs with
  | nil =>
    intro st tbl st' tbl' h hl he
    simp only [declareOutputs, Except.ok.injEq, Prod.mk.injEq] at he
    obtain ⟨rfl, rfl⟩ := he
    exact ⟨h, hl⟩
  | cons x xs ih =>
    intro st tbl st' tbl' h hl he
    simp only [declareOutputs] at he
    split at he
    · exact ih st tbl st' tbl' h hl he
    · split at he
      · simp at he
      · have q := newNamed_quiet st vi x
        apply ih _ _ st' tbl' _ _ he
        · exact h.cons hl q.1.names (newNamed_name st vi x)
        · exact hl.cons q.2 _

theorem declareNodes_named (vi : List (Name × Info)) (ns : List NodeP) :
    ∀ (st : Store) (tbl : Table) (st' : Store) (tbl' : Table), Named st tbl → TableLt st tbl →
      declareNodes st tbl vi ns = .ok (st', tbl') → Named st' tbl' := by
  induction ns with
  | nil =>
    intro st tbl st' tbl' h _ he
    simp only [declareNodes, Except.ok.injEq, Prod.mk.injEq] at he
    obtain ⟨rfl, rfl⟩ := he
    exact h
  | cons n ns ih =>
    intro st tbl st' tbl' h hl he
    simp only [declareNodes] at he
    split at he
    · simp at he
    · rename_i st1 tbl1 h1
      obtain ⟨a, b⟩ := declareOutputs_named vi n.outputs st tbl st1 tbl1 h hl h1
      exact ih st1 tbl1 st' tbl' a b he

theorem resolveInputs_named (outer : List Table) (vi : List (Name × Info)) (xs : List Name) :
    ∀ (st : Store) (top : Table), Named st top → TableLt st top →
      Named (resolveInputs st top outer vi xs).1 (resolveInputs st top outer vi xs).2.1 := by
  induction xs with
  | nil => intro st top h _; simpa [resolveInputs] using h
  | cons x xs ih =>
    intro st top h hl
    simp only [resolveInputs]
    split
    · exact ih st top h hl
    · split
      · exact ih st top h hl
      · have q := newNamed_quiet st vi x
        apply ih
        · exact h.cons hl q.1.names (newNamed_name st vi x)
        · exact hl.cons q.2 _

mutual
/-- nodes point to the graph that lists them; initializers are keyed by the (allocated) value's name;
    keys are distinct -/
def TreeOKG (st : Store) : GraphT → Prop
  | .mk gid _ inits nodes _ =>
    (∀ kv ∈ inits, kv.2 < st.nv ∧ (st.vals kv.2).name = some kv.1 ∧ kv.1 ≠ "") ∧ (inits.map (·.1)).Nodup ∧
    TreeOKNs st (some gid) nodes
def TreeOKNs (st : Store) (owner : Option Nat) : List NodeT → Prop
  | [] => True
  | n :: ns => TreeOKN st owner n ∧ TreeOKNs st owner ns
def TreeOKN (st : Store) (owner : Option Nat) : NodeT → Prop
  | .mk _ gr _ _ subs => gr = owner ∧ TreeOKGs st subs
def TreeOKGs (st : Store) : List GraphT → Prop
  | [] => True
  | g :: gs => TreeOKG st g ∧ TreeOKGs st gs
end

mutual
theorem TreeOKG.keep {st st' : Store} (hle : st.nv ≤ st'.nv)
    (hn : ∀ v, v < st.nv → (st'.vals v).name = (st.vals v).name) :
    ∀ (g : GraphT), TreeOKG st g → TreeOKG st' g
  | .mk gid _ inits nodes _, h => by
    simp only [TreeOKG] at h ⊢
    exact ⟨fun kv hkv => ⟨Nat.lt_of_lt_of_le (h.1 kv hkv).1 hle, by rw [hn _ (h.1 kv hkv).1]; exact (h.1 kv hkv).2.1,
        (h.1 kv hkv).2.2⟩,
      h.2.1, TreeOKNs.keep hle hn _ nodes h.2.2⟩
theorem TreeOKNs.keep {st st' : Store} (hle : st.nv ≤ st'.nv)
    (hn : ∀ v, v < st.nv → (st'.vals v).name = (st.vals v).name) :
    ∀ (o : Option Nat) (ns : List NodeT), TreeOKNs st o ns → TreeOKNs st' o ns
  | _, [], _ => by simp [TreeOKNs]
  | o, n :: ns, h => by
    simp only [TreeOKNs] at h ⊢
    exact ⟨TreeOKN.keep hle hn o n h.1, TreeOKNs.keep hle hn o ns h.2⟩
theorem TreeOKN.keep {st st' : Store} (hle : st.nv ≤ st'.nv)
    (hn : ∀ v, v < st.nv → (st'.vals v).name = (st.vals v).name) :
    ∀ (o : Option Nat) (n : NodeT), TreeOKN st o n → TreeOKN st' o n
  | _, .mk _ gr _ _ subs, h => by
    simp only [TreeOKN] at h ⊢
    exact ⟨h.1, TreeOKGs.keep hle hn subs h.2⟩
theorem TreeOKGs.keep {st st' : Store} (hle : st.nv ≤ st'.nv)
    (hn : ∀ v, v < st.nv → (st'.vals v).name = (st.vals v).name) :
    ∀ (gs : List GraphT), TreeOKGs st gs → TreeOKGs st' gs
  | [], _ => by simp [TreeOKGs]
  | g :: gs, h => by
    simp only [TreeOKGs] at h ⊢
    exact ⟨TreeOKG.keep hle hn g h.1, TreeOKGs.keep hle hn gs h.2⟩
end

theorem TreeOKNs_setGraph (st : Store) (gid : Nat) :
    ∀ (ns : List NodeT), TreeOKNs st none ns → TreeOKNs st (some gid) (ns.map (NodeT.setGraph gid))
  | [], _ => by simp [TreeOKNs]
  | n :: ns, h => by
    simp only [TreeOKNs, List.map_cons] at h ⊢
    obtain ⟨i, g, a, b, c⟩ := n
    refine ⟨?_, TreeOKNs_setGraph st gid ns h.2⟩
    simp only [TreeOKN, NodeT.setGraph] at h ⊢
    exact ⟨trivial, h.1.2⟩

theorem dictInsert_keys (d : List (Name × Nat)) (k : Name) (v : Nat) (hd : (d.map (·.1)).Nodup) :
    ((dictInsert d k v).map (·.1)).Nodup ∧ ∀ e ∈ dictInsert d k v, e ∈ d ∨ e = (k, v) := by
  rw [dictInsert_eq_kvSet]
  exact ⟨kvSet_keys_nodup d k v hd, kvSet_mem d k v⟩

theorem initDict_keys (st : Store) :
    ∀ (vs : List Nat) (d : List (Name × Nat)), (d.map (·.1)).Nodup →
      (∀ e ∈ d, (st.vals e.2).name = some e.1 ∧ e.1 ≠ "") → (∀ v ∈ vs, ∃ x, x ≠ "" ∧ (st.vals v).name = some x) →
      ((initDict st d vs).map (·.1)).Nodup ∧ ∀ e ∈ initDict st d vs, (st.vals e.2).name = some e.1 ∧ e.1 ≠ "" := by
  intro vs
  induction vs with
  | nil => intro d hd hn _; exact ⟨hd, hn⟩
  | cons v vs ih =>
    intro d hd hn hv
    simp only [initDict]
    obtain ⟨x, hxne, hx⟩ := hv v List.mem_cons_self
    obtain ⟨k1, k2⟩ := dictInsert_keys d ((st.vals v).name.getD "") v hd
    apply ih _ k1
    · intro e he
      rcases k2 e he with h | h
      · exact hn e h
      · subst h; simp [hx, hxne]
    · exact fun w hw => hv w (List.mem_cons_of_mem _ hw)

mutual
theorem deserGraph_tree :
    ∀ (p : GraphP) (st : Store) (outer : List Table) (st' : Store) (g : GraphT),
      Fresh st → TablesLt st outer → deserGraph st outer p = .ok (st', g) → TreeOKG st' g
  | .mk inputs inits vinfo nodes outputs => by
    have ih := deserNodes_tree nodes
    intro st outer st' g hf ho h
    obtain ⟨st1, ins, st2, tbl2, iv, st3, tbl3, st4, tbl4, ns, st5, outs, r, rfl, rfl⟩ := deserGraph_run h
    have fr := r.frame hf ho
    have n1 := deserInputs_named inputs st
    rw [r.hin] at n1
    have n2 := deserInits_named (vinfoTable vinfo) inits _ _ n1 fr.ok1.lt
    rw [r.hinit] at n2
    have n3 := declareNodes_named (vinfoTable vinfo) nodes _ _ st3 tbl3 n2 fr.ok2.lt r.hdecl
    obtain ⟨t4, _⟩ := ih st3 tbl3 outer (vinfoTable vinfo) st.nv st4 tbl4 ns fr.f3 fr.ok3
      fr.ho3 fr.le3 n3 r.hnodes
    -- names of the initializer values, seen from the store handed to `mkGraph`
    have hiv : ∀ v ∈ iv, v < st5.nv ∧ ∃ x, x ≠ "" ∧ (st5.vals v).name = some x := by
      intro v hv
      obtain ⟨x, hxne, hx⟩ := fr.miv v hv
      have hlt := fr.ok2.lt _ hx
      have h23 := fr.q3.names v hlt
      have h34 := fr.m4.names v (Nat.lt_of_lt_of_le hlt fr.q3.nv_le)
      have h45 := fr.q5.names v (Nat.lt_of_lt_of_le hlt (Nat.le_trans fr.q3.nv_le fr.m4.nv_le))
      refine ⟨Nat.lt_of_lt_of_le hlt (Nat.le_trans fr.q3.nv_le (Nat.le_trans fr.m4.nv_le fr.q5.nv_le)), x, hxne, ?_⟩
      rw [h45, h34, h23]
      exact n2 _ hx
    have hnm6 : ∀ w, ((mkGraph st5 ins outs ns iv).1.vals w).name = (st5.vals w).name := fun w => by
      rw [mkGraph_cell]
    obtain ⟨c1, _, _⟩ := mkGraph_fst_counters st5 ins outs ns iv
    rw [mkGraph_snd]
    have hsub := mkGraphInits_sub st5 ins outs iv
    rw [mkGraphInits_eq] at hsub ⊢
    simp only [TreeOKG]
    obtain ⟨k1, k2⟩ := initDict_keys st5 iv [] (by simp) (fun _ he => by simp at he)
      (fun v hv => by
        obtain ⟨_, x, hxne, hx⟩ := hiv v hv
        exact ⟨x, hxne, hx⟩)
    refine ⟨fun kv hkv => ?_, k1, ?_⟩
    · have hm := hsub kv hkv
      refine ⟨by rw [c1]; exact (hiv _ hm).1, ?_, (k2 kv hkv).2⟩
      rw [hnm6]
      exact (k2 kv hkv).1
    · apply TreeOKNs_setGraph
      refine TreeOKNs.keep (st := st4) ?_ ?_ none ns t4
      · rw [c1]; exact fr.q5.nv_le
      · intro v hv
        rw [hnm6, fr.q5.names v hv]
theorem deserNodes_tree :
    ∀ (ns : List NodeP) (st : Store) (top : Table) (outer : List Table) (vi : List (Name × Info)) (b : Nat)
      (st' : Store) (top' : Table) (nts : List NodeT),
      Fresh st → TblOK st b top → TablesLt st outer → b ≤ st.nv → Named st top →
      deserNodes st top outer vi ns = .ok (st', top', nts) → TreeOKNs st' none nts ∧ Named st' top'
  | [] => by
    intro st top outer vi b st' top' nts _ _ _ _ hn h
    simp only [deserNodes, Except.ok.injEq, Prod.mk.injEq] at h
    obtain ⟨rfl, rfl, rfl⟩ := h
    exact ⟨by simp [TreeOKNs], hn⟩
  | n :: ns => by
    have ihn := deserNode_tree n
    have ihr := deserNodes_tree ns
    intro st top outer vi b st' top' nts hf hok ho hb hn h
    obtain ⟨st1, top1, nt, nts', h1, h2, rfl⟩ := deserNodes_inv h
    obtain ⟨f1, m1, ok1, _⟩ := deserNode_struct n st top outer vi b st1 top1 nt hf hok ho hb h1
    obtain ⟨t1, n1⟩ := ihn st top outer vi b st1 top1 nt hf hok ho hb hn h1
    obtain ⟨_, m2, _, _⟩ := deserNodes_struct ns st1 top1 outer vi b st' top' nts' f1 ok1
      (ho.mono m1.nv_le) (Nat.le_trans hb m1.nv_le) h2
    obtain ⟨t2, n2⟩ := ihr st1 top1 outer vi b st' top' nts' f1 ok1 (ho.mono m1.nv_le)
      (Nat.le_trans hb m1.nv_le) n1 h2
    simp only [TreeOKNs]
    exact ⟨⟨TreeOKN.keep m2.nv_le m2.names none nt t1, t2⟩, n2⟩
theorem deserNode_tree :
    ∀ (n : NodeP) (st : Store) (top : Table) (outer : List Table) (vi : List (Name × Info)) (b : Nat)
      (st' : Store) (top' : Table) (nt : NodeT),
      Fresh st → TblOK st b top → TablesLt st outer → b ≤ st.nv → Named st top →
      deserNode st top outer vi n = .ok (st', top', nt) → TreeOKN st' none nt ∧ Named st' top'
  | .mk inputs outputs subs => by
    have ih := deserSubs_tree subs
    intro st top outer vi b st' top' nt hf hok ho hb hn h
    obtain ⟨st1, top1, ins, st2, outs, st3, gs, r, rfl, rfl, rfl⟩ := deserNode_run h
    have fr := r.frame hf hok ho hb
    have n1 := resolveInputs_named outer vi inputs st top hn hok.lt
    rw [r.hres] at n1
    have t3 := ih st2 _ st3 gs fr.f2 fr.hts r.hsubs
    have hk := mkNode_keeps st3 ins outs gs
    refine ⟨?_, ?_⟩
    · rw [mkNode_snd]
      simp only [TreeOKN]
      exact ⟨trivial, TreeOKGs.keep (st := st3) (by rw [mkNode_fst_nv]; exact Nat.le_refl _)
        (fun v _ => (hk v).1) gs t3⟩
    · intro e he
      have hlt := fr.ok1.lt e he
      rw [(hk e.2).1, fr.m3.names e.2 (Nat.lt_of_lt_of_le hlt fr.q2.nv_le), fr.q2.names e.2 hlt]
      exact n1 e he
theorem deserSubs_tree :
    ∀ (gs : List GraphP) (st : Store) (scopes : List Table) (st' : Store) (gts : List GraphT),
      Fresh st → TablesLt st scopes → deserSubs st scopes gs = .ok (st', gts) → TreeOKGs st' gts
  | [] => by
    intro st scopes st' gts _ _ h
    simp only [deserSubs, Except.ok.injEq, Prod.mk.injEq] at h
    obtain ⟨rfl, rfl⟩ := h
    simp [TreeOKGs]
  | g :: gs => by
    have ihg := deserGraph_tree g
    have ihr := deserSubs_tree gs
    intro st scopes st' gts hf hs h
    obtain ⟨st1, gt, gts', h1, h2, rfl⟩ := deserSubs_inv h
    obtain ⟨f1, m1⟩ := deserGraph_struct g st scopes st1 gt hf hs h1
    have t1 := ihg st scopes st1 gt hf hs h1
    obtain ⟨_, m2⟩ := deserSubs_struct gs st1 scopes st' gts' f1 (hs.mono m1.nv_le) h2
    have t2 := ihr st1 scopes st' gts' f1 (hs.mono m1.nv_le) h2
    simp only [TreeOKGs]
    exact ⟨TreeOKG.keep m2.nv_le m2.names gt t1, t2⟩
end

end IrVerif.Scope
