/-
Helper lemmas for C07 (safetensors save on initializer positions): the saved tensors as a filter of
the initializer list, the initializer list in call sequences, the save-table dtypes.  Core Lean only.
-/
import IrVerif.Lemmas.LayoutUnload
import IrVerif.Lemmas.LayoutSt
import IrVerif.Model.LayoutStSave
import IrVerif.Lemmas.TensorRepr
namespace IrVerif.Layout

theorem stSaved_eq_filter (vs : List StInit) (thr : Int) :
    stSaved vs thr = (vs.filter (fun v => becomesExternalSt thr v.init)).map StInit.tensor := by
  unfold stSaved
  rw [splitSt_eq]
  rw [← splitBy_map_filter (·.init) (becomesExternalSt thr) (memSt thr) vs, List.map_map]
  rfl

theorem becomesExternalSt_snapshot (thr : Int) (v : StInit) (h : becomesExternalSt thr v.init = true) : stSnapshotB v = true := by
  simp only [becomesExternalSt, Bool.and_eq_true] at h
  simp [stSnapshotB, h.1.1, h.1.2]

theorem stSaved_names_sublist (vs : List StInit) (thr : Int) :
    ((stSaved vs thr).map (·.name)).Sublist ((vs.filter stSnapshotB).map (·.name)) := by
  rw [stSaved_eq_filter, List.map_map]
  have h1 : (vs.filter (fun v => becomesExternalSt thr v.init)) = (vs.filter stSnapshotB).filter (fun v => becomesExternalSt thr v.init) := by
    rw [List.filter_filter]
    apply List.filter_congr
    intro v _
    by_cases h : becomesExternalSt thr v.init = true
    · simp [h, becomesExternalSt_snapshot thr v h]
    · simp [h]
  rw [h1]
  exact (List.filter_sublist).map _

theorem stSaved_names_nodup (vs : List StInit) (thr : Int)
    (hnames : stNamesOk ((vs.filter stSnapshotB).map (·.name)) = true) :
    ((stSaved vs thr).map (·.name)).Nodup := by
  simp only [stNamesOk, Bool.and_eq_true, decide_eq_true_eq] at hnames
  exact (stSaved_names_sublist vs thr).nodup hnames.1

theorem stSaved_index (vs : List StInit) (thr : Int) (k : Nat) (hk : k < vs.length)
    (he : becomesExternalSt thr vs[k].init = true) :
    (stSaved vs thr)[(vs.take k).countP fun v => becomesExternalSt thr v.init]? = some vs[k].tensor := by
  rw [stSaved_eq_filter, List.getElem?_map,
    getElem?_filter_countP (fun v => becomesExternalSt thr v.init) vs k hk he]
  rfl

theorem unloadStV_eq (vs : List StInit) (thr : Int) (mx : Option Nat) :
    unloadStV vs thr mx = unloadBy (becomesExternalSt thr) (memSt thr) (vs.map (·.init))
      ((stReplace ((stSaved vs thr).map (·.name))
        (stAssignments (stShardViewsD (stSaved vs thr) mx))).map newConstOfRecord) := by
  simp only [unloadStV, unloadBy, List.length_map, splitSt_eq]

/-! ## the sequence-state initializer list of the safetensors backend -/

theorem stVS_length (metas : List StMeta) (refs : List (Ref FileKey)) (vals : List (List Nat))
    (hl : refs.length = vals.length) : (stVS metas refs vals).length = vals.length := by
  fun_induction stVS metas refs vals with
  | case1 => exact hl
  | case2 => rfl
  | case3 r rs bs bss ih => simp [ih (by simpa using hl)]
  | case4 m ms r rs bs bss ih => simp [ih (by simpa using hl)]

theorem stVS_get (metas : List StMeta) (refs : List (Ref FileKey)) (vals : List (List Nat))
    (hl : refs.length = vals.length) (k : Nat) (hk : k < vals.length) :
    ∃ v, (stVS metas refs vals)[k]? = some v ∧ v.bytes = vals[k] := by
  fun_induction stVS metas refs vals generalizing k with
  | case1 => rw [← hl] at hk; exact absurd hk (Nat.not_lt_zero k)
  | case2 => simp at hk
  | case3 r rs bs bss ih =>
    cases k with
    | zero => simp
    | succ k => simpa using ih (by simpa using hl) k (by simpa using hk)
  | case4 m ms r rs bs bss ih =>
    cases k with
    | zero => simp
    | succ k => simpa using ih (by simpa using hl) k (by simpa using hk)

theorem stVS_names_nil (refs : List (Ref FileKey)) (vals : List (List Nat)) :
    (stVS [] refs vals).filter stSnapshotB = [] := by
  induction refs generalizing vals with
  | nil => cases vals <;> simp [stVS]
  | cons r rs ih =>
    cases vals with
    | nil => simp [stVS]
    | cons bs bss => simp [stVS, stSnapshotB, ih]

theorem stVS_names_sublist (metas : List StMeta) (refs : List (Ref FileKey)) (vals : List (List Nat)) :
    (((stVS metas refs vals).filter stSnapshotB).map (·.name)).Sublist (metas.map (·.name)) := by
  fun_induction stVS metas refs vals with
  | case1 => simp
  | case2 => simp
  | case3 r rs bs bss ih => simp [stSnapshotB, stVS_names_nil]
  | case4 m ms r rs bs bss ih =>
    simp only [List.filter_cons, stSnapshotB, Bool.not_false, Bool.and_self, if_true, List.map_cons]
    exact ih.cons_cons _

theorem stNamesOk_sublist (a b : List (List Nat)) (h : a.Sublist b) (hb : stNamesOk b = true) :
    stNamesOk a = true := by
  simp only [stNamesOk, Bool.and_eq_true, decide_eq_true_eq, Bool.not_eq_true',
    List.contains_eq_mem, decide_eq_false_iff_not] at hb ⊢
  exact ⟨h.nodup hb.1, fun hm => hb.2 (h.subset hm)⟩


theorem stDtypeOf_none_iff (d : IrVerif.TensorRepr.DType) :
    stDtypeOf d = none ↔ d = .undefined ∨ d = .string ∨ d = .complex128 :=
  IrVerif.TensorRepr.DType.forall_of_all
    (p := fun d => stDtypeOf d = none ↔ d = .undefined ∨ d = .string ∨ d = .complex128)
    (by decide +kernel) d

theorem stDtypeOf_isSome_iff {d : IrVerif.TensorRepr.DType} :
    (stDtypeOf d).isSome = true ↔ d ≠ .undefined ∧ d ≠ .string ∧ d ≠ .complex128 := by
  rw [Option.isSome_iff_ne_none, Ne, stDtypeOf_none_iff, not_or, not_or]

/-- the finite table behind `C07_st_dtype_roundtrip`, closed by evaluation -/
theorem st_dtype_table (d : IrVerif.TensorRepr.DType) (sd : StDtype) : stDtypeOf d = some sd →
    (d ∈ migrated ∨ (stToIr.lookup sd.headerName = some d ∧ sd ≠ StDtype.F4 ∧
        8 ≤ d.bitwidth.getD 8)) :=
  IrVerif.TensorRepr.DType.forall_of_all
    (p := fun d => ∀ sd ∈ stDtypeOf d, (d ∈ migrated ∨
      (stToIr.lookup sd.headerName = some d ∧ sd ≠ StDtype.F4 ∧ 8 ≤ d.bitwidth.getD 8)))
    (by decide +kernel) d sd

theorem stEntryFor_saved (saved : List StTensor) (mx : Option Nat)
    (hd : (saved.map (·.name)).Nodup) (j : Nat) (hj : j < saved.length) :
    ∃ cur, stEntryFor (stShardViewsD saved mx) saved[j].name =
      some ⟨saved[j].name, (viewOfD saved[j]).sd, (viewOfD saved[j]).hshape, cur,
        cur + saved[j].bytes.length⟩ := by
  obtain ⟨i, sh, e, hvs, hzip⟩ := saved_entry saved mx j hj
  have hz : e = ⟨saved[j].name, (viewOfD saved[j]).sd, (viewOfD saved[j]).hshape, e.start,
      e.start + saved[j].bytes.length⟩ := entriesFrom_zip 0 _ _ hzip
  have hn : e.name = saved[j].name := by rw [hz]
  have hE : e ∈ (stShardViewsD saved mx).flatMap stEntries :=
    List.mem_flatMap.2 ⟨_, List.mem_of_getElem? hvs, (List.of_mem_zip hzip).1⟩
  -- no other entry of the save has that name
  have hnd : (((stShardViewsD saved mx).flatMap stEntries).map (·.name)).Nodup := by
    rw [← stAssignments_map_fst]; exact (stAssignments_names saved mx).nodup_iff.mpr hd
  have hfind := ListFacts.find?_of_nodup (·.name) hnd hE
  rw [hn] at hfind
  exact ⟨e.start, hfind.trans (congrArg some hz)⟩

end IrVerif.Layout
