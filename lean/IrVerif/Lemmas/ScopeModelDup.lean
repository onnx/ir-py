/-
Models with functions whose identifiers are NOT distinct: `{func.identifier(): func for func in functions}`
keeps, for every identifier, the position of its first function and the graph of its last one.  Every
function is deserialized (its values stay in the store); the dict keeps a sub-family of them.  This file
shows that what `deserializeM` returns is `ReloadableM` with no hypothesis on the identifiers of the proto.
-/
import IrVerif.Lemmas.ScopeModel
import IrVerif.Lemmas.ScopeFuncDeser
namespace IrVerif.Scope

/-- the functions dict after inserting `l`, in order, into `d` -/
def fdictFold (d : List (FId × GraphT)) (l : List (FId × GraphT)) : List (FId × GraphT) :=
  l.foldl (fun d f => fdictInsert d f.1 f.2) d

theorem fdictFold_cons (d : List (FId × GraphT)) (f : FId × GraphT) (l : List (FId × GraphT)) :
    fdictFold d (f :: l) = fdictFold (fdictInsert d f.1 f.2) l := rfl

theorem fdictFold_eq_kvFold (d l : List (FId × GraphT)) :
    fdictFold d l = l.foldl (fun d e => kvSet d e.1 e.2) d := by
  simp only [fdictFold, fdictInsert_eq_kvSet]

theorem fdictFold_keys_nodup (l d : List (FId × GraphT)) (h : (d.map (·.1)).Nodup) :
    ((fdictFold d l).map (·.1)).Nodup := by
  rw [fdictFold_eq_kvFold]; exact kvFold_keys_nodup l d h

theorem fdictInsert_mem (d : List (FId × GraphT)) (k : FId) (g : GraphT) (f : FId × GraphT)
    (hf : f ∈ fdictInsert d k g) : (∃ f' ∈ d, f'.2 = f.2) ∨ f.2 = g := by
  rw [fdictInsert_eq_kvSet] at hf
  rcases kvSet_mem d k g f hf with h | rfl
  · exact .inl ⟨f, h, rfl⟩
  · exact .inr rfl

theorem fdictFold_mem (l d : List (FId × GraphT)) (f : FId × GraphT) (hf : f ∈ fdictFold d l) :
    (∃ f' ∈ d, f'.2 = f.2) ∨ (∃ f' ∈ l, f'.2 = f.2) :=
  (kvFold_mem l d f (fdictFold_eq_kvFold d l ▸ hf)).imp (fun h => ⟨f, h, rfl⟩) (fun h => ⟨f, h, rfl⟩)

section
variable (h : GraphT → List Nat)

theorem fdictInsert_flat_mem (d : List (FId × GraphT)) (k : FId) (g : GraphT) (x : Nat)
    (hx : x ∈ (fdictInsert d k g).flatMap fun f => h f.2) : x ∈ (d.flatMap fun f => h f.2) ∨ x ∈ h g := by
  simp only [List.mem_flatMap] at hx ⊢
  obtain ⟨f, hf, hx⟩ := hx
  rcases fdictInsert_mem d k g f hf with ⟨f', hf', e⟩ | e
  · exact .inl ⟨f', hf', e ▸ hx⟩
  · exact .inr (e ▸ hx)

theorem fdictInsert_flat_nodup (d : List (FId × GraphT)) (k : FId) (g : GraphT)
    (hn : ((d.flatMap fun f => h f.2) ++ h g).Nodup) : ((fdictInsert d k g).flatMap fun f => h f.2).Nodup := by
  induction d with
  | nil => simpa [fdictInsert] using hn
  | cons e r ih =>
    obtain ⟨k', g'⟩ := e
    simp only [List.flatMap_cons, List.append_assoc] at hn
    rw [List.nodup_append] at hn
    obtain ⟨n1, n2, n3⟩ := hn
    simp only [fdictInsert]
    split
    · simp only [List.flatMap_cons]
      rw [List.nodup_append] at n2
      rw [List.nodup_append]
      exact ⟨n2.2.1, n2.1, fun a ha b hb e => n2.2.2 b hb a ha e.symm⟩
    · simp only [List.flatMap_cons]
      rw [List.nodup_append]
      refine ⟨n1, ih n2, fun a ha b hb e => ?_⟩
      rcases fdictInsert_flat_mem h r k g b hb with hb | hb
      · exact n3 a ha b (List.mem_append_left _ hb) e
      · exact n3 a ha b (List.mem_append_right _ hb) e

theorem fdictFold_flat_mem : ∀ (l d : List (FId × GraphT)) (x : Nat),
    x ∈ ((fdictFold d l).flatMap fun f => h f.2) →
    x ∈ (d.flatMap fun f => h f.2) ∨ x ∈ (l.flatMap fun f => h f.2) := by
  intro l d x hx
  simp only [List.mem_flatMap] at hx ⊢
  obtain ⟨f, hf, hx⟩ := hx
  rcases fdictFold_mem l d f hf with ⟨f', hf', e⟩ | ⟨f', hf', e⟩
  · exact .inl ⟨f', hf', e ▸ hx⟩
  · exact .inr ⟨f', hf', e ▸ hx⟩

theorem fdictFold_flat_nodup : ∀ (l d : List (FId × GraphT)),
    ((d.flatMap fun f => h f.2) ++ (l.flatMap fun f => h f.2)).Nodup →
    ((fdictFold d l).flatMap fun f => h f.2).Nodup
  | [], d, hn => by simpa [fdictFold] using hn
  | a :: l, d, hn => by
    rw [fdictFold_cons]
    simp only [List.flatMap_cons] at hn
    rw [← List.append_assoc, List.nodup_append] at hn
    obtain ⟨n1, n2, n3⟩ := hn
    apply fdictFold_flat_nodup l
    rw [List.nodup_append]
    refine ⟨fdictInsert_flat_nodup h d a.1 a.2 n1, n2, fun x hx y hy e => ?_⟩
    rcases fdictInsert_flat_mem h d a.1 a.2 x hx with hx | hx
    · exact n3 x (List.mem_append_left _ hx) y hy e
    · exact n3 x (List.mem_append_right _ hx) y hy e
end

/-- no hypothesis on the identifiers: the dict is the fold of ALL deserialized functions, each of which is
    certified, and their values are allocated in order -/
theorem deser_all_funcs :
    ∀ (fps : List FuncP) (st : Store) (d0 : List (FId × GraphT)) (st' : Store) (d' : List (FId × GraphT)),
      Fresh st → deserFuncs st d0 fps = .ok (st', d') →
      Fresh st' ∧ st.nv ≤ st'.nv ∧ (∀ v, v < st.nv → (st'.vals v).name = (st.vals v).name) ∧ Prim st.nv st st' ∧
      ∀ (V : Nat → ValueS), NamesAgree V st' → (∀ v, st.nv ≤ v → v < st'.nv → CellAgree V st' v) →
        ∃ all, d' = fdictFold d0 all ∧ all.map (·.1) = fps.map (·.id) ∧ (∀ f ∈ all, (replF V f.2).ok) ∧
          Incr st.nv st'.nv (all.flatMap fun f => (replF V f.2).new)
  | [], st, d0, st', d', hf, h => by
    simp only [deserFuncs, Except.ok.injEq, Prod.mk.injEq] at h
    obtain ⟨rfl, rfl⟩ := h
    exact ⟨hf, Nat.le_refl _, fun _ _ => rfl, Prim.refl _ _, fun V _ _ => ⟨[], rfl, rfl, by simp, Incr.nil _ _⟩⟩
  | f :: fps, st, d0, st', d', hf, h => by
    simp only [deserFuncs] at h
    split at h
    · simp at h
    · rename_i st1 g h1
      obtain ⟨f1, le1, keep1, p1⟩ := deserFunction_frame f st st1 g hf h1
      obtain ⟨f2, le2, keep2, p2, rest⟩ := deser_all_funcs fps st1 (fdictInsert d0 f.id g) st' d' f1 h
      refine ⟨f2, Nat.le_trans le1 le2, fun v hv => by rw [keep2 v (Nat.lt_of_lt_of_le hv le1), keep1 v hv],
        p1.trans (p2.weaken le1), fun V hV hC => ?_⟩
      have hV1 : NamesAgree V st1 := fun v hv => by rw [hV v (Nat.lt_of_lt_of_le hv le2), keep2 v hv]
      obtain ⟨a1, a2⟩ := deser_repl_func f st st1 g hf h1 V hV1 (fun v hge hlt => by
        have := hC v hge (Nat.lt_of_lt_of_le hlt le2)
        rw [CellAgree, (p2.cell v hlt).1, (p2.cell v hlt).2] at this
        exact this)
      obtain ⟨all, e1, e2, e3, e4⟩ := rest V hV (fun v hge hlt => hC v (Nat.le_trans le1 hge) hlt)
      refine ⟨(f.id, g) :: all, by rw [e1]; rfl, by simp [e2], fun f' hf' => ?_, ?_⟩
      · simp only [List.mem_cons] at hf'
        rcases hf' with rfl | hf'
        · exact a1
        · exact e3 f' hf'
      · simp only [List.flatMap_cons]
        exact a2.append e4 le1 le2

/-- every deserialized model is reloadable — also when several `FunctionProto`s carry the same identifier
    (the functions the dict dropped leave their values in the store; the certificate only speaks about the
    functions that are kept) -/
theorem deserializeM_reloadable_all (P : ModelP) (m : MWorld) (h : deserializeM P = .ok m) : ReloadableM m := by
  simp only [deserializeM] at h
  split at h
  · simp at h
  · rename_i st g hg
    split at h
    · simp at h
    · rename_i st1 fs hfs
      simp only [Except.ok.injEq] at h
      subst h
      obtain ⟨f0, m0⟩ := deserGraph_struct P.graph {} [] st g Fresh.empty (TablesLt.nil _) hg
      obtain ⟨f1, le1, keep1, p1, rest⟩ := deser_all_funcs P.funcs st [] st1 fs f0 hfs
      obtain ⟨all, e1, e2, e3, e4⟩ := rest st1.vals (fun _ _ => rfl) (fun _ _ _ => ⟨rfl, rfl⟩)
      subst e1
      obtain ⟨h1, h2⟩ := deser_repl_graph P.graph {} [] st g Fresh.empty (TablesLt.nil _)
        (fun _ ht => by simp at ht) hg st1.vals (fun v hv => keep1 v hv)
        (fun v _ hlt => ⟨(p1.cell v hlt).1, (p1.cell v hlt).2⟩)
      have hnd := (h2.append e4 (Nat.zero_le _) le1).nodup
      rw [List.nodup_append] at hnd
      refine ⟨h1, fun f hf => ?_, ?_, fdictFold_keys_nodup all [] (by simp)⟩
      · rcases fdictFold_mem all [] f hf with ⟨f', hf', _⟩ | ⟨f', hf', e⟩
        · simp at hf'
        · exact e ▸ e3 f' hf'
      · show ((replG st1.vals [] g).new ++
          (fdictFold [] all).flatMap fun f => (replF st1.vals f.2).new).Nodup
        rw [List.nodup_append]
        refine ⟨hnd.1, fdictFold_flat_nodup (fun g => (replF st1.vals g).new) all [] (by simpa using hnd.2.1),
          fun a ha b hb e => ?_⟩
        rcases fdictFold_flat_mem (fun g => (replF st1.vals g).new) all [] b hb with hb | hb
        · simp at hb
        · exact hnd.2.2 a ha b hb e

end IrVerif.Scope
