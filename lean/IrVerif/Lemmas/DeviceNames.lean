/-
C19 — names: which operations can change the name of an existing value (helper development for
`C19_names_current`).  Two operations write to an existing value, `Value.name = s` and `value.shape = ...`, and
only the first touches a name; every other operation of the alphabet keeps the value heap as a prefix
(`Inv.stepD_values`: clone / round trip / Function.clone / Graph.clone only append objects).
-/
import IrVerif.Lemmas.DeviceRT
namespace IrVerif.Device

/-- the operation is an assignment to the name of the value `v` -/
def Op.renames (v : VId) : Op → Prop
  | .rename v' _ => v' = v
  | _ => False

instance (v : VId) (op : Op) : Decidable (op.renames v) := by
  cases op <;> unfold Op.renames <;> infer_instance

/-- the value `v` of `w` still exists in `w'` and has the same name -/
def NameKept (w w' : World) (v : VId) : Prop :=
  v < w'.values.length ∧ (w'.value v).name = (w.value v).name

theorem NameKept.of_append {w w' : World} {v : VId} (hv : v < w.values.length) (extra : List ValueS)
    (h : w'.values = w.values ++ extra) : NameKept w w' v := by
  refine ⟨by rw [h, List.length_append]; exact Nat.lt_of_lt_of_le hv (Nat.le_add_right _ _), ?_⟩
  simp [World.value, h, List.getD_eq_getElem?_getD, List.getElem?_append_left hv]

theorem NameKept.of_eq {w w' : World} {v : VId} (hv : v < w.values.length)
    (h : w'.values = w.values) : NameKept w w' v :=
  NameKept.of_append hv [] (by simp [h])

theorem rename_name (w : World) (v : VId) (s : String) (hv : v < w.values.length)
    (hok : (rename w v s).2 = .ok) :
    v < (rename w v s).1.values.length ∧ ((rename w v s).1.value v).name = s := by
  unfold rename at hok ⊢
  split
  · rename_i h; exact ⟨hv, h⟩
  · split
    · rename_i h1 h2; simp [h1, h2] at hok
    · refine ⟨by simpa using hv, ?_⟩
      simp [World.value, List.getD_eq_getElem?_getD, hv]

theorem Inv.stepD_values {U : Prop} {G : VId → Prop} (w : World) [Inv.GhostUp G w.values.length] (op : Op)
    (h : Inv.DevOK U G w) (hpre : Pre w op) :
    (∃ v s, op = .rename v s) ∨ (∃ v sh, op = .setShape v sh) ∨ ∃ extra, (stepD w op).1.values = w.values ++ extra := by
  have ex : ∀ {w' : World}, (∃ extra, w'.values = w.values ++ extra) →
      (∃ v s, op = .rename v s) ∨ (∃ v sh, op = .setShape v sh) ∨ ∃ extra, w'.values = w.values ++ extra :=
    fun e => .inr (.inr e)
  have same : ∀ {w' : World}, w'.values = w.values →
      (∃ v s, op = .rename v s) ∨ (∃ v sh, op = .setShape v sh) ∨ ∃ extra, w'.values = w.values ++ extra :=
    fun e => ex ⟨[], by rw [e, List.append_nil]⟩
  cases op with
  | rename v s => exact .inl ⟨v, s, rfl⟩
  | setShape v sh => exact .inr (.inl ⟨v, sh, rfl⟩)
  | clone m =>
    have hcl : Closed w (w.model m) := hpre
    simp only [stepD, cloneModel]
    cases hcg : cloneRoots w (w.graphs.length + 1) { w := w } (w.model m).roots with
    | none => exact same rfl
    | some r =>
      obtain ⟨st, gs'⟩ := r
      have hinit : Inv.CInv U G w (w.model m).cfgs { w := w } := ⟨Inv.CloneInv.init w _, by simp⟩
      exact ex (Inv.cloneRoots_spec h (h.model m) hcl _ _ _ _ _ hcl.1 hcg hinit).inv.vals
  | cloneFunc m i =>
    have hcl : Closed w (w.model m) := hpre
    simp only [stepD, cloneFunc]
    cases hf : (w.model m).funcs[i]? with
    | none => exact same rfl
    | some g =>
      simp only
      have hgm : g ∈ (w.model m).graphs := hcl.1 g (by
        simp only [ModelS.roots, List.mem_cons]; right; exact List.mem_of_getElem? hf)
      cases hcg : cloneGraphF w (w.graphs.length + 1) { w := w } g with
      | none => exact same rfl
      | some r =>
        obtain ⟨st, g'⟩ := r
        have hinit : Inv.CInv U G w (w.model m).cfgs { w := w } := ⟨Inv.CloneInv.init w _, by simp⟩
        exact ex (Inv.cloneGraphF_spec h (h.model m) hcl _ _ g st g' hgm hcg hinit).1.inv.vals
  | cloneSub n g =>
    obtain ⟨⟨msA, hmsA, hnA⟩, hall⟩ := hpre
    simp only [stepD, cloneSub]
    cases hcg : cloneGraphF w (w.graphs.length + 1) { w := w, allow := true } g with
    | none => exact same rfl
    | some r =>
      obtain ⟨st, g'⟩ := r
      obtain ⟨hg, hcl⟩ := hall msA hmsA hnA
      have hinit : Inv.CInv U G w msA.cfgs { w := w, allow := true } := ⟨Inv.CloneInv.init w _, by simp⟩
      exact ex (Inv.cloneGraphF_spec h (h.2 msA hmsA) hcl _ _ g st g' hg hcg hinit).1.inv.vals
  | roundTrip m =>
    obtain ⟨hir, hcl, hU⟩ := hpre
    simp only [stepD, roundTrip]
    cases hser : serModelDev w m with
    | none => exact same rfl
    | some protos =>
      simp only
      cases hd : deserModel w m with
      | none => exact same rfl
      | some w' =>
        obtain ⟨st, newm, rfl, _, _, _, _, _, hex⟩ := Inv.deserModel_spec h m hir hcl hU hser hd
        exact ex hex
  | _ =>
    -- every branch of the remaining operations leaves `values` alone or appends to it
    simp only [stepD, newModel, newInput, newSubgraph, newNode, removeNode, attachNode, newInit, setDev, setModelCfgs,
      addCfg, removeCfg, shard, shardCore, setStage, replaceInput, resizeInputs, resizeOutputs, newFunction]
    repeat' split
    all_goals first | exact same rfl | exact ex ⟨_, rfl⟩

theorem Inv.stepD_vlen {U : Prop} {G : VId → Prop} (w : World) [Inv.GhostUp G w.values.length] (op : Op)
    (h : Inv.DevOK U G w) (hpre : Pre w op) : w.values.length ≤ (stepD w op).1.values.length := by
  rcases Inv.stepD_values w op h hpre with ⟨v', s, rfl⟩ | ⟨v', shape, rfl⟩ | ⟨extra, hex⟩
  · simp only [stepD, rename]
    split
    · exact Nat.le_refl _
    · split
      · exact Nat.le_refl _
      · simp
  · simp [stepD, setShape]
  · rw [hex, List.length_append]; exact Nat.le_add_right _ _

theorem stepD_name (w : World) (op : Op) (h : DevOK w) (hpre : Pre w op) (v : VId)
    (hv : v < w.values.length) (hnr : ¬ op.renames v) : NameKept w (stepD w op).1 v := by
  rcases Inv.stepD_values w op (DevOK_iff.1 h) hpre with ⟨v', s, rfl⟩ | ⟨v', shape, rfl⟩ | ⟨extra, hex⟩
  · have hne : v' ≠ v := hnr
    simp only [stepD, rename]
    split
    · exact NameKept.of_eq hv rfl
    · split
      · exact NameKept.of_eq hv rfl
      · refine ⟨by simpa using hv, ?_⟩
        simp [World.value, List.getD_eq_getElem?_getD, hne]
  · simp only [stepD, setShape]
    refine ⟨by simpa using hv, ?_⟩
    simp only [World.value, List.getD_eq_getElem?_getD, List.getElem?_set]
    split
    · rename_i hvv; subst hvv; simp [hv]
    · rfl
  · exact NameKept.of_append hv extra hex

end IrVerif.Device
