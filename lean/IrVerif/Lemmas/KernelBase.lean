/-
Kernel: store lemmas, read-after-write lemmas for the world accessors, and the six clauses of the invariant (their
conjunction `WF` is in KernelOps.lean).
-/
import IrVerif.Model.Kernel
import IrVerif.Lemmas.ListFacts
namespace IrVerif.Kernel

theorem lget_nil {α : Type} [Inhabited α] (i : Nat) : lget ([] : List α) i = default := by
  cases i <;> rfl

theorem lget_lset {α : Type} [Inhabited α] (l : List α) (i j : Nat) (x : α) :
    lget (lset l i x) j = if j = i then x else lget l j := by
  induction l generalizing i j with
  | nil =>
    induction i generalizing j with
    | zero => cases j <;> simp [lset, lget]
    | succ i ih =>
      cases j with
      | zero => simp [lset, lget]
      | succ j => simp [lset, lget, ih]
  | cons a as ih =>
    cases i with
    | zero => cases j <;> simp [lset, lget]
    | succ i =>
      cases j with
      | zero => simp [lset, lget]
      | succ j => simp [lset, lget, ih]

theorem lget_eq_getElem? {α : Type} [Inhabited α] : ∀ (l : List α) (i : Nat), lget l i = l[i]?.getD default
  | [], i => by simp [lget_nil]
  | a :: _, 0 => by simp [lget]
  | _ :: t, i + 1 => by simp [lget, lget_eq_getElem? t i]

theorem lget_of_le {α : Type} [Inhabited α] (l : List α) (i : Nat) (h : l.length ≤ i) :
    lget l i = default := by
  rw [lget_eq_getElem?, List.getElem?_eq_none h]; rfl

theorem lget_range_map {α : Type} [Inhabited α] (f : Nat → α) (n i : Nat) :
    lget ((List.range n).map f) i = if i < n then f i else default := by
  rw [lget_eq_getElem?, ListFacts.getElem?_range_map]; split <;> rfl

theorem lset_length {α : Type} [Inhabited α] (l : List α) (i : Nat) (x : α) :
    (lset l i x).length = max l.length (i + 1) := by
  induction l generalizing i with
  | nil =>
    induction i with
    | zero => simp [lset]
    | succ i ih => simp [lset, ih]
  | cons a as ih =>
    cases i with
    | zero => simp [lset]
    | succ i => simp [lset, ih]

theorem iter_inv {α : Type} (P : α → Prop) (f : α → α) (hf : ∀ a, P a → P (f a)) :
    ∀ k a, P a → P (iter f k a)
  | 0, _, h => h
  | k + 1, a, h => iter_inv P f hf k (f a) (hf a h)

export ListFacts (foldl_inv)

namespace World
@[simp] theorem val_setVal (w : World) (v u : Nat) (x : ValueS) :
    (w.setVal v x).val u = if u = v then x else w.val u := by
  simp [setVal, val, lget_lset]
@[simp] theorem node_setVal (w : World) (v n : Nat) (x : ValueS) : (w.setVal v x).node n = w.node n := rfl
@[simp] theorem gr_setVal (w : World) (v g : Nat) (x : ValueS) : (w.setVal v x).gr g = w.gr g := rfl
@[simp] theorem node_setNode (w : World) (n m : Nat) (x : NodeS) :
    (w.setNode n x).node m = if m = n then x else w.node m := by
  simp [setNode, node, lget_lset]
@[simp] theorem val_setNode (w : World) (n v : Nat) (x : NodeS) : (w.setNode n x).val v = w.val v := rfl
@[simp] theorem gr_setNode (w : World) (n g : Nat) (x : NodeS) : (w.setNode n x).gr g = w.gr g := rfl
@[simp] theorem gr_setGr (w : World) (g h : Nat) (x : GraphS) :
    (w.setGr g x).gr h = if h = g then x else w.gr h := by
  simp [setGr, gr, lget_lset]
@[simp] theorem val_setGr (w : World) (g v : Nat) (x : GraphS) : (w.setGr g x).val v = w.val v := rfl
@[simp] theorem node_setGr (w : World) (g n : Nat) (x : GraphS) : (w.setGr g x).node n = w.node n := rfl

@[simp] theorem vals_setNode (w : World) (n : Nat) (x : NodeS) : (w.setNode n x).vals = w.vals := rfl
@[simp] theorem vals_setGr (w : World) (g : Nat) (x : GraphS) : (w.setGr g x).vals = w.vals := rfl
@[simp] theorem nodes_setVal (w : World) (v : Nat) (x : ValueS) : (w.setVal v x).nodes = w.nodes := rfl
@[simp] theorem nodes_setGr (w : World) (g : Nat) (x : GraphS) : (w.setGr g x).nodes = w.nodes := rfl
@[simp] theorem graphs_setVal (w : World) (v : Nat) (x : ValueS) : (w.setVal v x).graphs = w.graphs := rfl
@[simp] theorem graphs_setNode (w : World) (n : Nat) (x : NodeS) : (w.setNode n x).graphs = w.graphs := rfl
@[simp] theorem vals_length_setVal (w : World) (v : Nat) (x : ValueS) :
    (w.setVal v x).vals.length = max w.vals.length (v + 1) := by simp [setVal, lset_length]
@[simp] theorem nodes_length_setNode (w : World) (n : Nat) (x : NodeS) :
    (w.setNode n x).nodes.length = max w.nodes.length (n + 1) := by simp [setNode, lset_length]
@[simp] theorem graphs_length_setGr (w : World) (g : Nat) (x : GraphS) :
    (w.setGr g x).graphs.length = max w.graphs.length (g + 1) := by simp [setGr, lset_length]

@[simp] theorem val_bump (w : World) (v : Nat) : (bump w).val v = w.val v := rfl
@[simp] theorem node_bump (w : World) (n : Nat) : (bump w).node n = w.node n := rfl
@[simp] theorem gr_bump (w : World) (g : Nat) : (bump w).gr g = w.gr g := rfl
@[simp] theorem vals_bump (w : World) : (bump w).vals = w.vals := rfl
@[simp] theorem nodes_bump (w : World) : (bump w).nodes = w.nodes := rfl
@[simp] theorem graphs_bump (w : World) : (bump w).graphs = w.graphs := rfl
@[simp] theorem late_bump (w : World) : (bump w).late = w.late + 1 := rfl
@[simp] theorem late_setVal (w : World) (v : Nat) (x : ValueS) : (w.setVal v x).late = w.late := rfl
@[simp] theorem late_setNode (w : World) (n : Nat) (x : NodeS) : (w.setNode n x).late = w.late := rfl
@[simp] theorem late_setGr (w : World) (g : Nat) (x : GraphS) : (w.setGr g x).late = w.late := rfl

@[simp] theorem locked_setVal (w : World) (v : Nat) (x : ValueS) : (w.setVal v x).locked = w.locked := rfl
@[simp] theorem locked_setNode (w : World) (n : Nat) (x : NodeS) : (w.setNode n x).locked = w.locked := rfl
@[simp] theorem locked_setGr (w : World) (g : Nat) (x : GraphS) : (w.setGr g x).locked = w.locked := rfl
@[simp] theorem locked_bump (w : World) : (bump w).locked = w.locked := rfl
@[simp] theorem val_noteName (w : World) (g : Nat) (s : Option String) (v : Nat) : (noteName w g s).val v = w.val v := by
  unfold noteName; split <;> rfl
@[simp] theorem node_noteName (w : World) (g : Nat) (s : Option String) (n : Nat) : (noteName w g s).node n = w.node n := by
  unfold noteName; split <;> rfl
@[simp] theorem gr_noteName (w : World) (g : Nat) (s : Option String) (h : Nat) : (noteName w g s).gr h = w.gr h := by
  unfold noteName; split <;> rfl
@[simp] theorem late_noteName (w : World) (g : Nat) (s : Option String) : (noteName w g s).late = w.late := by
  unfold noteName; split <;> rfl
@[simp] theorem locked_noteName (w : World) (g : Nat) (s : Option String) : (noteName w g s).locked = w.locked := by
  unfold noteName; split <;> rfl
@[simp] theorem vals_noteName (w : World) (g : Nat) (s : Option String) : (noteName w g s).vals = w.vals := by
  unfold noteName; split <;> rfl
@[simp] theorem nodes_noteName (w : World) (g : Nat) (s : Option String) : (noteName w g s).nodes = w.nodes := by
  unfold noteName; split <;> rfl
@[simp] theorem graphs_noteName (w : World) (g : Nat) (s : Option String) : (noteName w g s).graphs = w.graphs := by
  unfold noteName; split <;> rfl
@[simp] theorem tensors_noteName (w : World) (g : Nat) (s : Option String) : (noteName w g s).tensors = w.tensors := by
  unfold noteName; split <;> rfl
@[simp] theorem val_noteOwner (w : World) (u : Nat) (s : Option String) (v : Nat) : (noteOwner w u s).val v = w.val v := by
  unfold noteOwner; split <;> simp
@[simp] theorem node_noteOwner (w : World) (u : Nat) (s : Option String) (n : Nat) : (noteOwner w u s).node n = w.node n := by
  unfold noteOwner; split <;> simp
@[simp] theorem gr_noteOwner (w : World) (u : Nat) (s : Option String) (h : Nat) : (noteOwner w u s).gr h = w.gr h := by
  unfold noteOwner; split <;> simp
@[simp] theorem late_noteOwner (w : World) (u : Nat) (s : Option String) : (noteOwner w u s).late = w.late := by
  unfold noteOwner; split <;> simp
@[simp] theorem locked_noteOwner (w : World) (u : Nat) (s : Option String) : (noteOwner w u s).locked = w.locked := by
  unfold noteOwner; split <;> simp
@[simp] theorem vals_noteOwner (w : World) (u : Nat) (s : Option String) : (noteOwner w u s).vals = w.vals := by
  unfold noteOwner; split <;> simp
@[simp] theorem nodes_noteOwner (w : World) (u : Nat) (s : Option String) : (noteOwner w u s).nodes = w.nodes := by
  unfold noteOwner; split <;> simp
@[simp] theorem graphs_noteOwner (w : World) (u : Nat) (s : Option String) : (noteOwner w u s).graphs = w.graphs := by
  unfold noteOwner; split <;> simp
@[simp] theorem tensors_noteOwner (w : World) (u : Nat) (s : Option String) : (noteOwner w u s).tensors = w.tensors := by
  unfold noteOwner; split <;> simp

theorem val_fresh (w : World) (v : Nat) (h : w.vals.length ≤ v) : w.val v = {} := lget_of_le _ _ h
theorem node_fresh (w : World) (n : Nat) (h : w.nodes.length ≤ n) : w.node n = {} := lget_of_le _ _ h
theorem gr_fresh (w : World) (g : Nat) (h : w.graphs.length ≤ g) : w.gr g = {} := lget_of_le _ _ h
end World

theorem guardOp_fst (bad : Bool) (kind : String) (w w' : World) (h : bad = false) :
    (guardOp bad kind w w').1 = w' := by
  unfold guardOp; simp [h]; split <;> rfl

/-! ## The invariant (C01) -/

/-- a value lists `(n, i)` as a use exactly when node `n` holds it at input index `i`; no use is
listed twice -/
def I_use (w : World) : Prop :=
  (∀ v n i, (n, i) ∈ (w.val v).uses ↔ (w.node n).inputs[i]? = some (some v)) ∧
  (∀ v, (w.val v).uses.Nodup)

/-- node `n` holds `v` at output position `i` exactly when `v` names `n` / `i` as producer / index;
a value that names a producer has a position -/
def I_prod (w : World) : Prop :=
  (∀ (n i v : Nat), (w.node n).outputs[i]? = some v ↔
      ((w.val v).producer = some n ∧ (w.val v).index = some (i : Int))) ∧
  (∀ v n, (w.val v).producer = some n → ∃ i : Nat, (w.val v).index = some (i : Int))

/-- graph inputs and initializers have no producing node -/
def I_root (w : World) : Prop :=
  ∀ v, ((w.val v).isIn = true ∨ (w.val v).isInit = true) → (w.val v).producer = none

/-- ownership: reference counters equal multiplicities; membership in a tracked collection and the
ownership flag / owning graph of the value agree in both directions (a value has one `graph` field, so it is
in the collections of at most one graph); a value that names an owning graph carries at least one flag -/
structure I_own (w : World) : Prop where
  cnt : ∀ k g v, lget (ioCnt k (w.gr g)) v = (ioList k (w.gr g)).count v
  io_mem : ∀ k g v, v ∈ ioList k (w.gr g) → ioFlag k (w.val v) = true ∧ (w.val v).graph = some g
  io_flag : ∀ k v, ioFlag k (w.val v) = true → ∃ g, (w.val v).graph = some g ∧ v ∈ ioList k (w.gr g)
  init_mem : ∀ g key v, (key, v) ∈ (w.gr g).inits → (w.val v).isInit = true ∧ (w.val v).graph = some g
  init_flag : ∀ v, (w.val v).isInit = true → ∃ g key, (w.val v).graph = some g ∧ (key, v) ∈ (w.gr g).inits
  graph_owned : ∀ v g, (w.val v).graph = some g → owned (w.val v) = true

theorem I_own.io_iff {w : World} (h : I_own w) (k : IOKind) (g v : Nat) :
    v ∈ ioList k (w.gr g) ↔ (ioFlag k (w.val v) = true ∧ (w.val v).graph = some g) :=
  ⟨h.io_mem k g v, fun ⟨hf, hg⟩ => by
    obtain ⟨g', hg', hm⟩ := h.io_flag k v hf
    rw [hg] at hg'; cases hg'; exact hm⟩

theorem I_own.init_iff {w : World} (h : I_own w) (g v : Nat) :
    (∃ key, (key, v) ∈ (w.gr g).inits) ↔ ((w.val v).isInit = true ∧ (w.val v).graph = some g) :=
  ⟨fun ⟨key, hm⟩ => h.init_mem g key v hm, fun ⟨hf, hg⟩ => by
    obtain ⟨g', key, hg', hm⟩ := h.init_flag v hf
    rw [hg] at hg'; cases hg'; exact ⟨key, hm⟩⟩

/-- every initializer is stored under its current, non-empty name; keys are distinct -/
structure I_key (w : World) : Prop where
  name : ∀ g key v, (key, v) ∈ (w.gr g).inits → (w.val v).name = some key ∧ key ≠ ""
  keys : ∀ g, ((w.gr g).inits.map Prod.fst).Nodup

/-- a node names a graph exactly when that graph's node sequence contains it, once -/
structure I_node (w : World) : Prop where
  mem : ∀ n g, (w.node n).graph = some g ↔ n ∈ (w.gr g).nodes
  nodup : ∀ g, (w.gr g).nodes.Nodup


theorem I_root_bump {w : World} (h : I_root w) : I_root (bump w) := h
theorem I_own_bump {w : World} (h : I_own w) : I_own (bump w) :=
  ⟨h.cnt, h.io_mem, h.io_flag, h.init_mem, h.init_flag, h.graph_owned⟩
theorem I_key_bump {w : World} (h : I_key w) : I_key (bump w) := ⟨h.name, h.keys⟩
theorem I_node_bump {w : World} (h : I_node w) : I_node (bump w) := ⟨h.mem, h.nodup⟩

end IrVerif.Kernel
