/-
C15 part B+: node names (one used-name set per graph, no seen set) for an arbitrary name generator (`runTrX gen`), and
"an exception stays".
-/
import IrVerif.Lemmas.NamesGenScope
import IrVerif.Lemmas.NamesNodes
namespace IrVerif.Names

variable {gen : NameGen}

theorem processValueX_raised {st : FixStX} (h : st.raised = true) (v : Nat) : processValueX gen st v = st := by
  unfold processValueX; simp [h]

theorem processValuesX_raised {st : FixStX} (h : st.raised = true) : ∀ vs, processValuesX gen st vs = st
  | [] => rfl
  | v :: vs => by
    rw [processValuesX_cons, processValueX_raised h, processValuesX_raised h vs]

theorem fixNodeNameX_raised {st : FixStX} (h : st.raised = true) (n : Nat) : fixNodeNameX gen st n = st := by
  unfold fixNodeNameX; simp [h]

theorem enterGraphX_raised {st : FixStX} (h : st.raised = true) (g : Nat) (isG : Bool) (ins outs bouts : List Nat) :
    enterGraphX gen st g isG ins outs bouts = st := by
  unfold enterGraphX; simp [h]

theorem exitGraphX_raised {st : FixStX} (h : st.raised = true) : exitGraphX st = st := by
  unfold exitGraphX; simp [h]

theorem runTrX_raised : ∀ (t : Tr) {st : FixStX}, st.raised = true → runTrX gen t st = st := by
  intro t
  induction t with
  | nil => intro st _; rfl
  | node n ins outs subs rest ihs ihr =>
    intro st h
    simp only [runTrX, visitNodeX]
    rw [fixNodeNameX_raised h, processValuesX_raised h, ihs h, ihr h]
  | graph g isG ins outs body rest ihb ihr =>
    intro st h
    simp only [runTrX]
    rw [enterGraphX_raised h, enterGraphX_raised h, ihb h, exitGraphX_raised h, exitGraphX_raised h, ihr h]

theorem raisedX_of {f : FixStX → FixStX} (hf : ∀ st, st.raised = true → f st = st) {st : FixStX}
    (h : (f st).raised = false) : st.raised = false := by
  cases hr : st.raised with
  | false => rfl
  | true => rw [hf st hr, hr] at h; cases h

abbrev NEqX (st st' : FixStX) : Prop := NEq st.toFixSt st'.toFixSt

theorem setNameT_nname (w : TWorld) (v : Nat) (new : String) : (w.setNameT v new).1.nname = w.nname :=
  (setNameT_frame w v new).2.2.2

theorem renameToX_NEq (st : FixStX) (v : Nat) (p : String) : NEqX st (renameToX st v p) := by
  unfold renameToX
  dsimp only
  split <;> exact ⟨setNameT_nname _ _ _, rfl, rfl, rfl⟩

theorem processValueX_NEq (st : FixStX) (v : Nat) : NEqX st (processValueX gen st v) := by
  rcases processValueX_cases gen st v with e | ⟨s, e⟩ | ⟨_, e⟩ <;> rw [e]
  · exact NEq.refl _
  · exact ⟨rfl, rfl, rfl, rfl⟩
  · exact renameToX_NEq _ _ _

theorem processValuesX_NEq : ∀ (vs : List Nat) (st : FixStX), NEqX st (processValuesX gen st vs)
  | [], st => NEq.refl _
  | v :: vs, st => by
    rw [processValuesX_cons]
    exact (processValueX_NEq st v).trans (processValuesX_NEq vs _)

theorem enterGraphX_nodes {st : FixStX} (h : st.raised = false) (g : Nat) (isG : Bool) (ins outs bouts : List Nat) :
    (enterGraphX gen st g isG ins outs bouts).nname = st.nname ∧ (enterGraphX gen st g isG ins outs bouts).nstack = [] :: st.nstack
    ∧ (enterGraphX gen st g isG ins outs bouts).ncnt = st.ncnt ∧ (enterGraphX gen st g isG ins outs bouts).resN = st.resN := by
  rw [enterGraphX_eq h]
  generalize (if isG = true then ((processValuesX gen (processValuesX gen (pushScopeX st) ins) outs).dicts g).map (·.2)
    else []) = X
  have e := (((processValuesX_NEq (gen := gen) ins (pushScopeX st)).trans (processValuesX_NEq (gen := gen) outs _)).trans
    (processValuesX_NEq (gen := gen) X _)).trans (processValuesX_NEq (gen := gen) bouts _)
  exact ⟨e.nname, e.nstack, e.ncnt, e.resN⟩

abbrev NScopeOKX (c : NCfg) (st : FixStX) (N : List Nat) : Prop := NScopeOK c st.toFixSt N

structure NGoodX (c : NCfg) (st : FixStX) (N : List Nat) : Prop extends NScopeOK c st.toFixSt N where
  top_iff : ∀ s, s ∈ topOf st.nstack ↔ ∃ n ∈ N, st.nname n = some s
  gen : ∀ n ∈ N, st.nname n = c.orign n ∨ ∃ s, st.nname n = some s ∧ s ∉ c.resN

theorem NGoodX.of_eq {c : NCfg} {st st' : FixStX} {N : List Nat} (h : NGoodX c st N)
    (e : ∀ n ∈ N, st'.nname n = st.nname n) (et : topOf st'.nstack = topOf st.nstack) : NGoodX c st' N :=
  { toNScopeOK := h.toNScopeOK.of_eq e
    top_iff := fun s => by
      rw [et, h.top_iff s]
      constructor
      · rintro ⟨n, hn, hs⟩; exact ⟨n, hn, by rw [e n hn]; exact hs⟩
      · rintro ⟨n, hn, hs⟩; exact ⟨n, hn, by rw [← e n hn]; exact hs⟩
    gen := fun n hn => by rw [e n hn]; exact h.gen n hn }

/-- what `_assign_node_name` / `_fix_duplicate_node_name` do with a generator that never answers the empty string -/
theorem fixNodeNameX_spec (hgen : gen.NonEmpty) {st : FixStX} (h : st.raised = false) (n : Nat) :
    ∃ f, (fixNodeNameX gen st n).nname = upd st.nname n (some f) ∧ f ≠ "" ∧ f ∉ topOf st.nstack
      ∧ (fixNodeNameX gen st n).nstack = (f :: topOf st.nstack) :: st.nstack.tail
      ∧ (st.nname n = some f ∨ f ∉ st.resN)
      ∧ (∀ s, st.nname n = some s → s ≠ "" → s ∉ topOf st.nstack → f = s)
      ∧ (fixNodeNameX gen st n).resN = st.resN := by
  have hfu : ∀ c, (findUnique (gen.n n (st.nname n)) (topOf st.nstack) st.resN c).1 ≠ "" := by
    intro c
    obtain ⟨_, _, hf3⟩ := findUnique_spec (gen.n n (st.nname n)) (topOf st.nstack) st.resN c
    rcases hf3 with ⟨e, _⟩ | ⟨k, _, e, _⟩
    · rw [e]; exact (hgen n (st.nname n)).2
    · simp [e, sufName_ne_empty]
  unfold fixNodeNameX
  rw [if_neg (by simp [h])]
  dsimp only
  by_cases ht : truthy (st.nname n) = true
  · obtain ⟨s, hs, hsne⟩ := truthy_iff.mp ht
    simp only [ht, Bool.not_true, Bool.false_eq_true, if_false]
    have hgd : (st.nname n).getD "" = s := by rw [hs]; rfl
    rw [hgd]
    by_cases htop : s ∈ topOf st.nstack
    · have : (topOf st.nstack).contains s = true := by simpa using htop
      simp only [this, Bool.not_true, Bool.false_eq_true, if_false]
      obtain ⟨hf1, hf2, _⟩ := findUnique_spec (gen.n n (st.nname n)) (topOf st.nstack) st.resN (st.ncnt (gen.n n (st.nname n)))
      refine ⟨_, rfl, hfu _, hf1, pushTop_eq _ _, Or.inr hf2, ?_, trivial⟩
      intro s' hs' _ hnot; rw [hs] at hs'; cases hs'; exact absurd htop hnot
    · have : (topOf st.nstack).contains s = false := by simpa using htop
      simp only [this, Bool.not_false, if_true]
      refine ⟨s, ?_, hsne, htop, pushTop_eq _ _, Or.inl hs, fun s' hs' _ _ => by rw [hs] at hs'; exact Option.some.inj hs', trivial⟩
      show st.nname = upd st.nname n (some s)
      rw [← hs, upd_same]
  · have ht' : truthy (st.nname n) = false := by simpa using ht
    simp only [ht', Bool.not_false, if_true]
    obtain ⟨hf1, hf2, _⟩ := findUnique_spec (gen.n n (st.nname n)) (topOf st.nstack) st.resN (st.ncnt (gen.n n (st.nname n)))
    refine ⟨_, rfl, hfu _, hf1, pushTop_eq _ _, Or.inr hf2, ?_, trivial⟩
    intro s hs hsne _
    exact absurd (truthy_iff.mpr ⟨s, hs, hsne⟩) ht

theorem fixNodeNameX_NGood (hgen : gen.NonEmpty) {c : NCfg} {st : FixStX} (h : st.raised = false) {N : List Nat} (good : NGoodX c st N)
    (hres : st.resN = c.resN) {n : Nat} (hn : n ∉ N) (horig : st.nname n = c.orign n)
    (hcol : ∀ s, c.orign n = some s → s ≠ "" → s ∈ c.resN) :
    NGoodX c (fixNodeNameX gen st n) (N ++ [n]) ∧ (∀ m, m ≠ n → (fixNodeNameX gen st n).nname m = st.nname m) := by
  obtain ⟨f, hname, hfne, hftop, hstk, hfres, hfkeep, _⟩ := fixNodeNameX_spec hgen h n
  have hoth : ∀ m, m ≠ n → (fixNodeNameX gen st n).nname m = st.nname m := fun m hm => by rw [hname, upd_ne _ _ hm]
  have hself : (fixNodeNameX gen st n).nname n = some f := by rw [hname]; simp
  have hothN : ∀ m ∈ N, (fixNodeNameX gen st n).nname m = st.nname m := fun m hm => hoth m (fun e => hn (e ▸ hm))
  have htop : topOf (fixNodeNameX gen st n).nstack = f :: topOf st.nstack := by rw [hstk]; rfl
  obtain ⟨inj, first, top⟩ := scope_snoc good.inj good.first good.top_iff good.gen hcol hn hothN hself hftop
    (fun s hs => hfkeep s (horig.trans hs))
  refine ⟨{ inj := inj, named := ?_, first := first, top_iff := by rw [htop]; exact top, gen := ?_ }, hoth⟩
  · intro m hm
    simp only [List.mem_append, List.mem_singleton] at hm
    rcases hm with hm | rfl
    · rw [hothN m hm]; exact good.named m hm
    · rw [hself]; exact truthy_iff.mpr ⟨f, rfl, hfne⟩
  · intro m hm
    simp only [List.mem_append, List.mem_singleton] at hm
    rcases hm with hm | rfl
    · rw [hothN m hm]; exact good.gen m hm
    · rw [hself]
      rcases hfres with e | e
      · exact Or.inl (by rw [← horig, e])
      · exact Or.inr ⟨f, rfl, hres ▸ e⟩


theorem exitGraphX_nodes {st : FixStX} (h : st.raised = false) :
    (exitGraphX st).nname = st.nname ∧ (exitGraphX st).nstack = st.nstack.tail ∧ (exitGraphX st).resN = st.resN := by
  rw [exitGraphX_eq h]; exact ⟨rfl, rfl, rfl⟩

/-- **node names**: the induction over the traversal (node ids pairwise different).  Nodes have one used-name set per
graph and no seen set, so a scope that is left is never touched again and no invariant like `TInvG` is needed.  The
hypothesis is "not raised at the END" (what `fixTop_TInv` gives), carried back to every state in between by `raisedX_of` -/
theorem runTrX_nodes (hgen : gen.NonEmpty) {c : NCfg} : ∀ (t : Tr) {st : FixStX} {N : List Nat},
    (runTrX gen t st).raised = false → st.resN = c.resN → NGoodX c st N →
    (allNodes t).Nodup → (∀ n ∈ allNodes t, n ∉ N ∧ st.nname n = c.orign n) →
    (∀ n ∈ allNodes t, ∀ s, c.orign n = some s → s ≠ "" → s ∈ c.resN) →
      NGoodX c (runTrX gen t st) (N ++ bodyNodes t)
      ∧ (runTrX gen t st).nstack.tail = st.nstack.tail
      ∧ (∀ m, m ∉ allNodes t → (runTrX gen t st).nname m = st.nname m)
      ∧ (runTrX gen t st).resN = st.resN
      ∧ ∀ L ∈ allNodeScopes t, NScopeOKX c (runTrX gen t st) L := by
  intro t
  induction t with
  | nil =>
    intro st N _ _ good _ _ _
    simp only [runTrX, bodyNodes, List.append_nil]
    exact ⟨good, trivial, fun _ _ => trivial, trivial, fun L hL => by simp [allNodeScopes] at hL⟩
  | node n ins outs subs rest ihs ihr =>
    intro st N hfin hres good hnd hfresh hcol
    simp only [runTrX, visitNodeX] at hfin ⊢
    simp only [allNodes, List.nodup_cons, List.mem_append, not_or, List.nodup_append] at hnd
    obtain ⟨⟨hn_s, hn_r⟩, hnd_s, hnd_r, hdisj⟩ := hnd
    -- nothing raised on the way
    have h3 : (runTrX gen subs (processValuesX gen (fixNodeNameX gen st n) (nodeVals ins outs))).raised = false :=
      raisedX_of (fun s h => runTrX_raised rest h) hfin
    have h2 : (processValuesX gen (fixNodeNameX gen st n) (nodeVals ins outs)).raised = false :=
      raisedX_of (fun s h => runTrX_raised subs h) h3
    have h1 : (fixNodeNameX gen st n).raised = false := raisedX_of (fun s h => processValuesX_raised h _) h2
    have h0 : st.raised = false := raisedX_of (fun s h => fixNodeNameX_raised h n) h1
    have hn := hfresh n (by simp [allNodes])
    obtain ⟨g1, o1⟩ := fixNodeNameX_NGood hgen h0 good hres hn.1 hn.2 (hcol n (by simp [allNodes]))
    obtain ⟨_, _, _, _, hstk1, _, _, r1⟩ := fixNodeNameX_spec hgen h0 n
    have e2 := processValuesX_NEq (gen := gen) (nodeVals ins outs) (fixNodeNameX gen st n)
    have g2 : NGoodX c (processValuesX gen (fixNodeNameX gen st n) (nodeVals ins outs)) (N ++ [n]) :=
      g1.of_eq (fun m _ => by rw [e2.nname]) (by rw [e2.nstack])
    obtain ⟨g3, t3, f3, r3, s3⟩ := ihs h3 (by rw [e2.resN, r1, hres]) g2 hnd_s
      (fun m hm => by
        have hmn : m ≠ n := fun e => hn_s (e ▸ hm)
        refine ⟨?_, ?_⟩
        · simp only [List.mem_append, List.mem_singleton, not_or]
          exact ⟨(hfresh m (by simp [allNodes, hm])).1, hmn⟩
        · rw [e2.nname, o1 m hmn]; exact (hfresh m (by simp [allNodes, hm])).2)
      (fun m hm => hcol m (by simp [allNodes, hm]))
    obtain ⟨g4, t4, f4, r4, s4⟩ := ihr hfin (by rw [r3, e2.resN, r1, hres]) g3 hnd_r
      (fun m hm => by
        have hmn : m ≠ n := fun e => hn_r (e ▸ hm)
        have hms : m ∉ allNodes subs := fun h => hdisj m h m hm rfl
        refine ⟨?_, ?_⟩
        · simp only [List.mem_append, List.mem_singleton, not_or]
          exact ⟨⟨(hfresh m (by simp [allNodes, hm])).1, hmn⟩, fun h => hms (bodyNodes_sub_allNodes subs m h)⟩
        · rw [f3 m hms, e2.nname, o1 m hmn]; exact (hfresh m (by simp [allNodes, hm])).2)
      (fun m hm => hcol m (by simp [allNodes, hm]))
    refine ⟨?_, ?_, ?_, ?_, ?_⟩
    · simpa [bodyNodes, List.append_assoc] using g4
    · rw [t4, t3, e2.nstack, hstk1]; rfl
    · intro m hm
      simp only [allNodes, List.mem_cons, List.mem_append, not_or] at hm
      rw [f4 m hm.2.2, f3 m hm.2.1, e2.nname, o1 m hm.1]
    · rw [r4, r3, e2.resN, r1]
    · intro L hL
      simp only [allNodeScopes, List.mem_append] at hL
      rcases hL with hL | hL
      · refine (s3 L hL).of_eq (fun m hm => f4 m ?_)
        exact fun h => hdisj m (allNodeScopes_sub subs L hL m hm) m h rfl
      · exact s4 L hL
  | graph g isG ins outs body rest ihb ihr =>
    intro st N hfin hres good hnd hfresh hcol
    simp only [runTrX] at hfin ⊢
    simp only [allNodes, List.nodup_append] at hnd
    obtain ⟨hnd_b, hnd_r, hdisj⟩ := hnd
    have h5 : (exitGraphX (exitGraphX (runTrX gen body (enterGraphX gen (enterGraphX gen st g isG ins outs (bodyOuts body)) g isG ins outs (bodyOuts body))))).raised = false :=
      raisedX_of (fun s h => runTrX_raised rest h) hfin
    have h4 := raisedX_of (fun s h => exitGraphX_raised h) h5
    have h3 := raisedX_of (fun s h => exitGraphX_raised h) h4
    have h2 := raisedX_of (fun s h => runTrX_raised body h) h3
    have h1 := raisedX_of (fun s h => enterGraphX_raised h g isG ins outs (bodyOuts body)) h2
    have h0 := raisedX_of (fun s h => enterGraphX_raised h g isG ins outs (bodyOuts body)) h1
    obtain ⟨n1, k1, _, r1⟩ := enterGraphX_nodes h0 g isG ins outs (bodyOuts body)
    obtain ⟨n2, k2, _, r2⟩ := enterGraphX_nodes h1 g isG ins outs (bodyOuts body)
    have g2 : NGoodX c (enterGraphX gen (enterGraphX gen st g isG ins outs (bodyOuts body)) g isG ins outs (bodyOuts body)) [] :=
      { inj := fun a ha => by simp at ha, named := fun a ha => by simp at ha
        first := FirstB.nil _ _
        top_iff := fun s => by rw [k2]; simp [topOf]
        gen := fun a ha => by simp at ha }
    obtain ⟨g3, t3, f3, r3, s3⟩ := ihb h3 (by rw [r2, r1, hres]) g2 hnd_b
      (fun m hm => ⟨by simp, by rw [n2, n1]; exact (hfresh m (by simp [allNodes, hm])).2⟩)
      (fun m hm => hcol m (by simp [allNodes, hm]))
    obtain ⟨n4, k4, r4⟩ := exitGraphX_nodes h3
    obtain ⟨n5, k5, r5⟩ := exitGraphX_nodes h4
    have hname5 : ∀ m, (exitGraphX (exitGraphX (runTrX gen body (enterGraphX gen (enterGraphX gen st g isG ins outs (bodyOuts body)) g isG ins outs (bodyOuts body))))).nname m
        = (runTrX gen body (enterGraphX gen (enterGraphX gen st g isG ins outs (bodyOuts body)) g isG ins outs (bodyOuts body))).nname m := by
      intro m; rw [n5, n4]
    have hstk5 : (exitGraphX (exitGraphX (runTrX gen body (enterGraphX gen (enterGraphX gen st g isG ins outs (bodyOuts body)) g isG ins outs (bodyOuts body))))).nstack = st.nstack := by
      rw [k5, k4, t3, k2, k1]; rfl
    have g5 : NGoodX c (exitGraphX (exitGraphX (runTrX gen body (enterGraphX gen (enterGraphX gen st g isG ins outs (bodyOuts body)) g isG ins outs (bodyOuts body))))) N :=
      good.of_eq (fun m hm => by
        have : m ∉ allNodes body := fun h => (hfresh m (by simp [allNodes, h])).1 hm
        rw [hname5, f3 m this, n2, n1]) (by rw [hstk5])
    obtain ⟨g6, t6, f6, r6, s6⟩ := ihr hfin (by rw [r5, r4, r3, r2, r1, hres]) g5 hnd_r
      (fun m hm => by
        have hmb : m ∉ allNodes body := fun h => hdisj m h m hm rfl
        exact ⟨(hfresh m (by simp [allNodes, hm])).1, by
          rw [hname5, f3 m hmb, n2, n1]; exact (hfresh m (by simp [allNodes, hm])).2⟩)
      (fun m hm => hcol m (by simp [allNodes, hm]))
    refine ⟨by simpa [bodyNodes] using g6, by rw [t6, hstk5], ?_, by rw [r6, r5, r4, r3, r2, r1], ?_⟩
    · intro m hm
      simp only [allNodes, List.mem_append, not_or] at hm
      rw [f6 m hm.2, hname5, f3 m hm.1, n2, n1]
    · intro L hL
      simp only [allNodeScopes, List.mem_cons, List.mem_append] at hL
      have key : ∀ L', (∀ m ∈ L', m ∈ allNodes body) →
          NScopeOKX c (runTrX gen body (enterGraphX gen (enterGraphX gen st g isG ins outs (bodyOuts body)) g isG ins outs (bodyOuts body))) L' →
          NScopeOKX c (runTrX gen rest (exitGraphX (exitGraphX (runTrX gen body (enterGraphX gen (enterGraphX gen st g isG ins outs (bodyOuts body)) g isG ins outs (bodyOuts body)))))) L' := by
        intro L' hsub hok
        refine hok.of_eq (fun m hm => ?_)
        rw [f6 m (fun h => hdisj m (hsub m hm) m h rfl), hname5]
      rcases hL with rfl | hL | hL
      · refine key _ (fun m hm => bodyNodes_sub_allNodes body m hm) ?_
        simpa using g3.toNScopeOK
      · exact key L (allNodeScopes_sub body L hL) (s3 L hL)
      · exact s6 L hL


end IrVerif.Names
