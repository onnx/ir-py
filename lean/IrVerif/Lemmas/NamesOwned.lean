/-
C15 part B: the declarative ownership rule implies the (operational) scoping rule used by the
NameFixPass theorems.
-/
import IrVerif.Lemmas.NamesVocab
namespace IrVerif.Names

theorem wellOwned_bodyVis (iv : Nat → List Nat) : ∀ (t : Tr) (V : List Nat), wellOwnedB iv t V = true →
    ∀ x ∈ bodyVis t V, x ∈ V := by
  intro t
  induction t with
  | nil => intro V _ x h; exact h
  | node n ins outs subs rest ihs ihr =>
    intro V h x hx
    simp only [wellOwnedB, Bool.and_eq_true, List.all_eq_true] at h
    obtain ⟨⟨h1, h2⟩, h3⟩ := h
    simp only [bodyVis] at hx
    have := ihs _ h2 x (ihr _ h3 x hx)
    rcases List.mem_append.mp this with h | h
    · exact h
    · simpa using h1 x h
  | graph g isG ins outs body rest _ ihr =>
    intro V h x hx
    simp only [wellOwnedB, Bool.and_eq_true] at h
    simp only [bodyVis] at hx
    exact ihr _ h.2 x hx

/-- the ownership rule gives the scoping rule.  `E` = the values owned by the graphs entered so far; everything seen
(`S`) or visible (`V`) is in `E`, and the graphs still to be entered own nothing of `E` and nothing in common: so a value
met again was owned, hence recorded, by an enclosing graph and is visible. -/
theorem scoped_of_wellOwned (iv : Nat → List Nat) : ∀ (t : Tr) (S V E : List Nat),
    (∀ x ∈ S, x ∈ E) → (∀ x ∈ V, x ∈ E) → wellOwnedB iv t V = true →
    (∀ L ∈ ownedLists iv t, ∀ x ∈ L, x ∉ E) → (ownedLists iv t).Pairwise DisjointL →
    scopedB iv t S V = true ∧ ∀ x ∈ seenAfter iv t S, x ∈ E ∨ ∃ L ∈ ownedLists iv t, x ∈ L := by
  intro t
  induction t with
  | nil => intro S V E hS _ _ _ _; exact ⟨rfl, fun x hx => Or.inl (hS x hx)⟩
  | node n ins outs subs rest ihs ihr =>
    intro S V E hS hV hw hE hP
    simp only [wellOwnedB, Bool.and_eq_true, List.all_eq_true] at hw
    obtain ⟨⟨h1, h2⟩, h3⟩ := hw
    have hnv : ∀ x ∈ nodeVals ins outs, x ∈ V := fun x hx => by simpa using h1 x hx
    simp only [ownedLists, List.pairwise_append] at hP
    obtain ⟨hPs, hPr, hPd⟩ := hP
    simp only [ownedLists, List.mem_append] at hE
    obtain ⟨s1, a1⟩ := ihs (S ++ nodeVals ins outs) (V ++ nodeVals ins outs) E
      (fun x hx => (List.mem_append.mp hx).elim (hS x) (fun h => hV x (hnv x h)))
      (fun x hx => (List.mem_append.mp hx).elim (hV x) (fun h => hV x (hnv x h)))
      h2 (fun L hL => hE L (Or.inl hL)) hPs
    -- for the following nodes: everything owned under `subs` counts as entered
    obtain ⟨s2, a2⟩ := ihr (seenAfter iv subs (S ++ nodeVals ins outs)) (bodyVis subs (V ++ nodeVals ins outs))
      (E ++ (ownedLists iv subs).flatten)
      (fun x hx => by
        rcases a1 x hx with h | ⟨L, hL, h⟩
        · exact List.mem_append_left _ h
        · exact List.mem_append_right _ (List.mem_flatten.mpr ⟨L, hL, h⟩))
      (fun x hx => by
        have := wellOwned_bodyVis iv subs _ h2 x hx
        exact List.mem_append_left _ ((List.mem_append.mp this).elim (hV x) (fun h => hV x (hnv x h))))
      h3
      (fun L hL x hx hin => by
        rcases List.mem_append.mp hin with h | h
        · exact hE L (Or.inr hL) x hx h
        · obtain ⟨L', hL', hx'⟩ := List.mem_flatten.mp h
          exact hPd L' hL' L hL x hx' hx)
      hPr
    refine ⟨?_, ?_⟩
    · simp only [scopedB, Bool.and_eq_true, List.all_eq_true]
      refine ⟨⟨?_, s1⟩, s2⟩
      intro v hv
      have := hnv v hv
      simp [this]
    · intro x hx
      simp only [seenAfter] at hx
      simp only [ownedLists, List.mem_append]
      rcases a2 x hx with h | ⟨L, hL, h⟩
      · rcases List.mem_append.mp h with h | h
        · exact Or.inl h
        · obtain ⟨L', hL', hx'⟩ := List.mem_flatten.mp h
          exact Or.inr ⟨L', Or.inl hL', hx'⟩
      · exact Or.inr ⟨L, Or.inr hL, h⟩
  | graph g isG ins outs body rest ihb ihr =>
    intro S V E hS hV hw hE hP
    simp only [wellOwnedB, Bool.and_eq_true] at hw
    simp only [ownedLists, List.pairwise_cons, List.pairwise_append, List.mem_append] at hP
    obtain ⟨hP0, hPb, hPr, hPd⟩ := hP
    simp only [ownedLists, List.mem_cons, List.mem_append] at hE
    have hgvE : ∀ x ∈ gvals iv g isG ins outs (bodyOuts body), x ∉ E := fun x hx => hE _ (Or.inl rfl) x hx
    obtain ⟨s1, a1⟩ := ihb (S ++ gvals iv g isG ins outs (bodyOuts body)) (V ++ gvals iv g isG ins outs (bodyOuts body))
      (E ++ gvals iv g isG ins outs (bodyOuts body))
      (fun x hx => (List.mem_append.mp hx).elim (fun h => List.mem_append_left _ (hS x h)) (List.mem_append_right _))
      (fun x hx => (List.mem_append.mp hx).elim (fun h => List.mem_append_left _ (hV x h)) (List.mem_append_right _))
      hw.1
      (fun L hL x hx hin => by
        rcases List.mem_append.mp hin with h | h
        · exact hE L (Or.inr (Or.inl hL)) x hx h
        · exact hP0 L (Or.inl hL) x h hx)
      hPb
    obtain ⟨s2, a2⟩ := ihr (seenAfter iv body (S ++ gvals iv g isG ins outs (bodyOuts body))) V
      (E ++ gvals iv g isG ins outs (bodyOuts body) ++ (ownedLists iv body).flatten)
      (fun x hx => by
        rcases a1 x hx with h | ⟨L, hL, h⟩
        · exact List.mem_append_left _ h
        · exact List.mem_append_right _ (List.mem_flatten.mpr ⟨L, hL, h⟩))
      (fun x hx => List.mem_append_left _ (List.mem_append_left _ (hV x hx)))
      hw.2
      (fun L hL x hx hin => by
        rcases List.mem_append.mp hin with h | h
        · rcases List.mem_append.mp h with h | h
          · exact hE L (Or.inr (Or.inr hL)) x hx h
          · exact hP0 L (Or.inr hL) x h hx
        · obtain ⟨L', hL', hx'⟩ := List.mem_flatten.mp h
          exact hPd L' hL' L hL x hx' hx)
      hPr
    refine ⟨?_, ?_⟩
    · simp only [scopedB, Bool.and_eq_true, List.all_eq_true]
      refine ⟨⟨?_, s1⟩, s2⟩
      intro v hv
      have : v ∉ S := fun h => hgvE v hv (hS v h)
      simp [this]
    · intro x hx
      simp only [seenAfter] at hx
      simp only [ownedLists, List.mem_cons, List.mem_append]
      rcases a2 x hx with h | ⟨L, hL, h⟩
      · rcases List.mem_append.mp h with h | h
        · rcases List.mem_append.mp h with h | h
          · exact Or.inl h
          · exact Or.inr ⟨_, Or.inl rfl, h⟩
        · obtain ⟨L', hL', hx'⟩ := List.mem_flatten.mp h
          exact Or.inr ⟨L', Or.inr (Or.inl hL'), hx'⟩
      · exact Or.inr ⟨L, Or.inr (Or.inr hL), h⟩

end IrVerif.Names
