/-
`insertOneAfter` at a node (root or live box): the three things it can do, and that it preserves
`Inv`.  The other public operations iterate it; they are treated in LinkedSetSim.
-/
import IrVerif.Lemmas.LinkedSetInv
namespace IrVerif.LinkedSet

theorem split_at_node {bs : List Nat} {b : Nat} (hb : IsNode bs b) (h0 : 0 ∉ bs) :
    ∃ l1 l2, bs = l1 ++ l2 ∧ lastOr 0 l1 = b ∧ (b = 0 → l1 = []) := by
  rcases hb with rfl | hb
  · exact ⟨[], bs, rfl, rfl, fun _ => rfl⟩
  · obtain ⟨A, B, rfl⟩ := List.append_of_mem hb
    refine ⟨A ++ [b], B, by simp, lastOr_append_singleton A 0 b, ?_⟩
    rintro rfl
    exact absurd hb h0

theorem split_before_node {bs : List Nat} {b : Nat} (hb : IsNode bs b) :
    ∃ l1 l2, bs = l1 ++ l2 ∧ headOr 0 l2 = b := by
  rcases hb with rfl | hb
  · exact ⟨bs, [], (List.append_nil _).symm, rfl⟩
  · obtain ⟨A, B, rfl⟩ := List.append_of_mem hb
    exact ⟨A, b :: B, rfl, rfl⟩

theorem inv_empty : Inv empty [] := by
  have hb : ∀ b, box empty b = Box.dflt := by
    intro b
    rcases b with _ | b
    · rfl
    · exact box_oob _ _ (by simp [size, empty])
  have hnx : ∀ b, nx empty b = 0 := fun b => by simp [nx, hb, Box.dflt]
  have hpv : ∀ b, pv empty b = 0 := fun b => by simp [pv, hb, Box.dflt]
  have hval : ∀ b, val empty b = none := fun b => by simp [val, hb, Box.dflt]
  have hstp : ∀ b, stp empty b = 0 := fun b => by simp [stp, hb, Box.dflt]
  have hown : ∀ b, own empty b = true := fun b => by simp [own, hb, Box.dflt]
  have hsize : size empty = 1 := rfl
  have hidx : empty.index = [] := rfl
  have hlen : empty.length = 0 := rfl
  have hclk : empty.clock = 1 := rfl
  -- one box, the root, linked to itself: `live`, `idx`, `tomb` speak of no box at all
  constructor <;> simp [hnx, hpv, hval, hstp, hown, hsize, Links_cons2, hidx, hlen, hclk]

theorem toList_empty : toList empty = [] := by decide

/-- `insertOneAfter` at a node does one of three things: nothing (the value already sits in that
    box), a move (`rmv` of the value's box, then `lnkS`), or `lnkS` of a value that is new. -/
theorem Inv.insertOneAfter_cases {s : LSet} {bs : List Nat} (h : Inv s bs) {b : Nat}
    (hb : IsNode bs b) (v : Nat) :
    (b ∈ bs ∧ val s b = some v ∧ insertOneAfter s b v = (s, some b)) ∨
    (∃ l1 l2 n, bs = l1 ++ n :: l2 ∧ val s n = some v ∧ val s b ≠ some v ∧ IsNode (l1 ++ l2) b ∧
      (∀ x ∈ l1 ++ l2, val (rmv s n v) x ≠ some v) ∧
      insertOneAfter s b v = (lnkS (rmv s n v) b v, some (size (rmv s n v)))) ∨
    (val s b ≠ some v ∧ (∀ x ∈ bs, val s x ≠ some v) ∧
      insertOneAfter s b v = (lnkS s b v, some (size s))) := by
  unfold insertOneAfter
  by_cases h1 : val s b = some v
  · left
    refine ⟨hb.resolve_left ?_, h1, if_pos h1⟩
    rintro rfl
    rw [h.dead 0 h.zero_notin] at h1; cases h1
  · right
    simp only [h1, if_false, h.owned b, Bool.not_true, Bool.false_eq_true]
    by_cases hp : ∃ n ∈ bs, val s n = some v
    · left
      obtain ⟨n, hn, hvn⟩ := hp
      have hl : (lookup s v).isSome = true := by rw [h.lookup_some hn hvn]; rfl
      simp only [hl, if_true, h.remove_eq hn hvn, Bool.not_true, Bool.false_eq_true, if_false,
        linkNew_eq]
      obtain ⟨l1, l2, rfl⟩ := List.append_of_mem hn
      have hbn : b ≠ n := by rintro rfl; exact h1 hvn
      refine ⟨l1, l2, n, rfl, hvn, h1, hb.imp_right fun hm => (mem_insMid.1 hm).resolve_left hbn,
        ?_, rfl⟩
      intro x hx hxv
      have hxn : x ≠ n := fun e => (nodup_insMid.1 h.nodup).1 (e ▸ hx)
      rw [h.val_rmv, if_neg hxn] at hxv
      exact hxn (h.val_inj (mem_insMid.2 (Or.inr hx)) hn hxv hvn)
    · right
      have hfresh : ∀ c ∈ bs, val s c ≠ some v := fun c hc hcv => hp ⟨c, hc, hcv⟩
      have hl : (lookup s v).isSome = false := by rw [h.lookup_none hfresh]; rfl
      simp only [hl, Bool.false_eq_true, if_false, Bool.not_true, linkNew_eq]
      exact ⟨h1, hfresh, trivial⟩

theorem inv_lnk_node {s : LSet} {bs : List Nat} (h : Inv s bs) {b : Nat} (hb : IsNode bs b) {v : Nat}
    (hv : ∀ x ∈ bs, val s x ≠ some v) : ∃ bs', Inv (lnkS s b v) bs' ∧ size s ∈ bs' := by
  obtain ⟨k1, k2, rfl, rfl, -⟩ := split_at_node hb h.zero_notin
  exact ⟨_, inv_lnk h hv, mem_insMid.2 (Or.inl rfl)⟩

theorem val_lnkS_new (s : LSet) (b v : Nat) : val (lnkS s b v) (size s) = some v := by
  rw [val_lnkS, val_lnk, if_pos rfl]

theorem size_le_lnkS (s : LSet) (b v : Nat) : size s ≤ size (lnkS s b v) := by
  rw [size_lnkS, size_lnk]; exact Nat.le_succ _

theorem inv_insertOneAfter {s : LSet} {bs : List Nat} (h : Inv s bs) {b : Nat} (hb : IsNode bs b)
    (v : Nat) :
    ∃ bs' b', insertOneAfter s b v = ((insertOneAfter s b v).1, some b') ∧
      Inv (insertOneAfter s b v).1 bs' ∧ b' ∈ bs' ∧ val (insertOneAfter s b v).1 b' = some v ∧
      size s ≤ size (insertOneAfter s b v).1 := by
  rcases h.insertOneAfter_cases hb v with ⟨hbm, h1, e⟩ | ⟨l1, l2, n, rfl, hvn, -, hb', hfresh, e⟩ |
    ⟨-, hfresh, e⟩
  · rw [e]; exact ⟨bs, b, rfl, h, hbm, h1, Nat.le_refl _⟩
  · rw [e]
    obtain ⟨bs', h', hm⟩ := inv_lnk_node (inv_rmv h hvn) hb' hfresh
    exact ⟨bs', _, rfl, h', hm, val_lnkS_new _ _ _,
      Nat.le_trans (Nat.le_of_eq (size_rmv s n v).symm) (size_le_lnkS _ _ _)⟩
  · rw [e]
    obtain ⟨bs', h', hm⟩ := inv_lnk_node h hb hfresh
    exact ⟨bs', _, rfl, h', hm, val_lnkS_new _ _ _, size_le_lnkS _ _ _⟩

end IrVerif.LinkedSet
