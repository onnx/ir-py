/-
C12 — the Kahn loop of `Graph.sort` with the real priority queue (`Model/SortHeap.lean`: `heapq`'s binary heap on the
keys `len(nodes) - position`) pops exactly the nodes the loop of `Model/SortIds.lean` pops (`maxKey` / `erase`):
simulation `SimH` = same counters, same popped nodes, the heap list satisfies the heap invariant and holds the keys of
the abstract queue (as a multiset), every queued entry `(position, node)` has `nodes[position] = node`.
No hypothesis on the universe: with a node listed twice both loops still agree (two entries of the same node carry the
same position, `nodeIndex` being last-wins).
-/
import IrVerif.Lemmas.Heap
import IrVerif.Lemmas.SortIds
import IrVerif.Model.SortHeap

namespace IrVerif.Sort
open Heap

theorem nodeAtPos_eq (u : List Ent) (i : Nat) : nodeAtPos u i = idAt u i := by
  unfold nodeAtPos idAt; cases u[i]? <;> rfl

theorem nodeIndex_spec (u : List Ent) {p : Nat} (hp : p ∈ idsOf u) :
    nodeIndex u p < u.length ∧ nodeAtPos u (nodeIndex u p) = p := by
  rw [nodeAtPos_eq]; exact nodeIndex_idAt u hp

/-! ### simulation -/

def keyOf (n : Nat) (x : Nat × Nat) : Nat := n - x.1

/-- a queue entry `(position, node)`: `nodes[position]` is `node` -/
def EntOk (u : List Ent) (x : Nat × Nat) : Prop := x.1 < u.length ∧ nodeAtPos u x.1 = x.2

theorem relaxH_pos (n : Nat) (idx : Nat → Nat) (d : Nat → Int) (h : List Nat) (p : Nat) (hz : d p - 1 = 0) :
    relaxH n idx (d, h) p = (fun x => if x = p then d x - 1 else d x, heappush h (n - idx p)) := by
  simp [relaxH, hz]

theorem relaxH_neg (n : Nat) (idx : Nat → Nat) (d : Nat → Int) (h : List Nat) (p : Nat) (hz : d p - 1 ≠ 0) :
    relaxH n idx (d, h) p = (fun x => if x = p then d x - 1 else d x, h) := by
  simp [relaxH, hz]

theorem relax_simH {u : List Ent} (idx : Nat → Nat) (hidx : ∀ p ∈ idsOf u, idx p < u.length ∧ nodeAtPos u (idx p) = p)
    (ps : List Nat) (hps : ∀ p ∈ ps, p ∈ idsOf u) :
    ∀ (dep : Nat → Int) (dh : List (Nat × Nat)) (hh : List Nat), HeapFrom 0 hh →
      hh.Perm (dh.map (keyOf u.length)) → (∀ x ∈ dh, EntOk u x) →
      (ps.foldl (relaxD idx) (dep, dh)).1 = (ps.foldl (relaxH u.length idx) (dep, hh)).1 ∧
      HeapFrom 0 (ps.foldl (relaxH u.length idx) (dep, hh)).2 ∧
      (ps.foldl (relaxH u.length idx) (dep, hh)).2.Perm ((ps.foldl (relaxD idx) (dep, dh)).2.map (keyOf u.length)) ∧
      (∀ x ∈ (ps.foldl (relaxD idx) (dep, dh)).2, EntOk u x) := by
  induction ps with
  | nil => intro dep dh hh h1 h2 h3; exact ⟨rfl, h1, h2, h3⟩
  | cons p ps ih =>
    intro dep dh hh h1 h2 h3
    simp only [List.foldl_cons]
    have hp := hidx p (hps p (by simp))
    have ih' := ih (fun q hq => hps q (List.mem_cons_of_mem _ hq))
    by_cases hz : dep p - 1 = 0
    · rw [relaxD_pos idx dep dh p hz, relaxH_pos u.length idx dep hh p hz]
      have hs := heappush_spec (u.length - idx p) h1
      apply ih' _ _ _ hs.1 (hs.2.trans (h2.cons _))
      intro x hx
      rcases List.mem_cons.1 hx with rfl | hx
      · exact hp
      · exact h3 x hx
    · rw [relaxD_neg idx dep dh p hz, relaxH_neg u.length idx dep hh p hz]
      exact ih' _ _ _ h1 h2 h3

structure SimH (u : List Ent) (d : DState) (s : HState) : Prop where
  depth : d.depth = s.depth
  sorted : d.sorted = s.sorted
  heap : HeapFrom 0 s.heap
  cnt : ∀ a, s.heap.count a = (d.heap.map (keyOf u.length)).count a
  ent : ∀ x ∈ d.heap, EntOk u x

theorem step_simH {u : List Ent} {preds : Nat → List Nat} (idx : Nat → Nat)
    (hidx : ∀ p ∈ idsOf u, idx p < u.length ∧ nodeAtPos u (idx p) = p)
    (hpreds : ∀ x, ∀ p ∈ preds x, p ∈ idsOf u) {d : DState} {s : HState} (sim : SimH u d s) :
    match stepD preds idx d with
    | none => stepH u preds idx s = none
    | some d' => ∃ s', stepH u preds idx s = some s' ∧ SimH u d' s' := by
  have hperm : s.heap.Perm (d.heap.map (keyOf u.length)) := List.perm_iff_count.2 sim.cnt
  cases hm : maxKey d.heap with
  | none =>
    have hnil := maxKey_none hm
    have hs : s.heap = [] := (hnil ▸ hperm).eq_nil
    simp [stepD, hm, stepH, hs, heappop]
  | some x =>
    obtain ⟨hx, hmax⟩ := maxKey_some hm
    have hkx : keyOf u.length x ∈ s.heap := hperm.symm.subset (List.mem_map_of_mem hx)
    obtain ⟨m, h1, h2, h3, h4, h5⟩ := heappop_min sim.heap (List.ne_nil_of_mem hkx)
    have hex := sim.ent x hx
    have hmk : m = keyOf u.length x := by
      have hle := h3 _ hkx
      obtain ⟨y, hy, hym⟩ := List.mem_map.1 (hperm.subset h2)
      have := hmax y hy
      unfold keyOf at hym hle ⊢
      omega
    have hpos : u.length - m = x.1 := by
      have := hex.1; unfold keyOf at hmk; omega
    have hpe : heappop s.heap = (some m, (heappop s.heap).2) := Prod.ext h1 rfl
    have hrest : (heappop s.heap).2.Perm ((d.heap.erase x).map (keyOf u.length)) :=
      ((h5.trans hperm).trans (hmk ▸ (List.perm_cons_erase hx).map (keyOf u.length))).cons_inv
    have hr := relax_simH idx hidx (preds x.2) (hpreds x.2) d.depth (d.heap.erase x) (heappop s.heap).2 h4 hrest
      (fun y hy => sim.ent y (List.mem_of_mem_erase hy))
    simp only [stepD, hm]
    refine ⟨_, by rw [stepH, hpe], ?_⟩
    simp only [hpos, hex.2, ← sim.depth, ← sim.sorted]
    exact ⟨hr.1, rfl, hr.2.1, List.perm_iff_count.1 hr.2.2.1, hr.2.2.2⟩

theorem loop_simH {u : List Ent} {preds : Nat → List Nat} (idx : Nat → Nat)
    (hidx : ∀ p ∈ idsOf u, idx p < u.length ∧ nodeAtPos u (idx p) = p)
    (hpreds : ∀ x, ∀ p ∈ preds x, p ∈ idsOf u) :
    ∀ (f : Nat) {d : DState} {s : HState}, SimH u d s → SimH u (loopD preds idx f d) (loopH u preds idx f s)
  | 0, _, _, sim => sim
  | f + 1, d, s, sim => by
    have hst := step_simH idx hidx hpreds sim
    simp only [loopD, loopH]
    cases hd : stepD preds idx d with
    | none => rw [hd] at hst; simp only [hst]; exact sim
    | some d' =>
      rw [hd] at hst
      obtain ⟨s', hs', sim'⟩ := hst
      simp only [hs']
      exact loop_simH idx hidx hpreds f sim'

theorem kahnHeap_sim (u : List Ent) : SimH u (kahnIds u) (kahnHeap u) := by
  unfold kahnIds kahnHeap kahnHeapInit
  have hidx : ∀ p ∈ idsOf u, nodeIndex u p < u.length ∧ nodeAtPos u (nodeIndex u p) = p :=
    fun p hp => nodeIndex_spec u hp
  apply loop_simH (nodeIndex u) hidx (fun x p hp => step1_preds_sub u x p hp)
  have hs := heapify_spec ((initHeapD u (step1 u).depth (nodeIndex u)).map (fun x => u.length - x.1))
  refine ⟨rfl, rfl, hs.1, List.perm_iff_count.1 hs.2, ?_⟩
  intro x hx
  simp only [initHeapD, List.mem_map, List.mem_filter] at hx
  obtain ⟨e, ⟨he, _⟩, rfl⟩ := hx
  exact hidx e.id (List.mem_map_of_mem he)

theorem sortHeap_eq_sortIds (g : MGraph) : sortHeap g = sortIds g := by
  unfold sortHeap sortIds
  simp only [(kahnHeap_sim (nodesOf g)).sorted]

end IrVerif.Sort
