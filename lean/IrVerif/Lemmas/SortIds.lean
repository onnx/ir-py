/-
C12 — the identity-keyed transcription of steps 1-4 of `Graph.sort` (`Model/SortIds.lean`):
what step 1 computes, the loop invariant "no node is ever queued twice", and the consequence for
universes that list a node twice; with distinct ids the loop is the position-keyed loop of `Model/Sort.lean` (`Sim`).
-/
import IrVerif.Lemmas.SortPos
import IrVerif.Model.SortIds

namespace IrVerif.Sort
open List

/-! ### step 1 -/

theorem addPred_fold (c : Nat) (ps : List Nat) (d : Dicts) :
    (∀ p, (ps.foldl (addPred c) d).depth p = d.depth p + (ps.count p : Int)) ∧
    (∀ x, (ps.foldl (addPred c) d).preds x = if x = c then d.preds x ++ ps else d.preds x) := by
  induction ps generalizing d with
  | nil => exact ⟨fun p => by simp, fun x => by simp⟩
  | cons q qs ih =>
    obtain ⟨h1, h2⟩ := ih (addPred c d q)
    simp only [List.foldl_cons]
    constructor
    · intro p
      rw [h1 p]
      simp only [addPred, List.count_cons]
      by_cases h : p = q
      · subst h; simp; omega
      · have : (q == p) = false := by simp [Ne.symm h]
        simp [h, this]
    · intro x
      rw [h2 x]
      simp only [addPred]
      by_cases h : x = c <;> simp [h]

theorem step1_fold (u l : List Ent) (d : Dicts) :
    (∀ p, (l.foldl (fun d e => (predIds u e).foldl (addPred e.id) d) d).depth p =
      d.depth p + ((l.flatMap (predIds u)).count p : Int)) ∧
    (∀ x, (l.foldl (fun d e => (predIds u e).foldl (addPred e.id) d) d).preds x =
      d.preds x ++ (l.filter (fun e => e.id == x)).flatMap (predIds u)) := by
  induction l generalizing d with
  | nil => exact ⟨fun p => by simp, fun x => by simp⟩
  | cons e es ih =>
    obtain ⟨h1, h2⟩ := ih ((predIds u e).foldl (addPred e.id) d)
    obtain ⟨a1, a2⟩ := addPred_fold e.id (predIds u e) d
    simp only [List.foldl_cons]
    constructor
    · intro p
      rw [h1 p, a1 p]
      simp only [List.flatMap_cons, List.count_append]
      push_cast
      omega
    · intro x
      rw [h2 x, a2 x]
      simp only [List.filter_cons]
      by_cases h : x = e.id
      · subst h; simp
      · have : (e.id == x) = false := by simp [Ne.symm h]
        simp [h, this]

/-- `node_depth[p]` after step 1: the number of `add_predecessor(_, p)` calls that got through -/
theorem step1_depth (u : List Ent) (p : Nat) :
    (step1 u).depth p = ((u.flatMap (predIds u)).count p : Int) := by
  have := (step1_fold u u ⟨fun _ => 0, fun _ => []⟩).1 p
  simpa [step1] using this

/-- `node_predecessors[x]` after step 1: one copy of the node's predecessor list per occurrence
    of the node in `nodes` -/
theorem step1_preds (u : List Ent) (x : Nat) :
    (step1 u).preds x = (u.filter (fun e => e.id == x)).flatMap (predIds u) := by
  have := (step1_fold u u ⟨fun _ => 0, fun _ => []⟩).2 x
  simpa [step1] using this

theorem mem_predIds {u : List Ent} {e : Ent} {p : Nat} (h : p ∈ predIds u e) : p ∈ idsOf u := by
  have : inU u p = true := by
    simp only [predIds, List.mem_append, List.mem_filter] at h
    rcases h with h | h <;> exact h.2
  simp only [inU, List.any_eq_true, beq_iff_eq] at this
  obtain ⟨e', he', rfl⟩ := this
  exact List.mem_map.2 ⟨e', he', rfl⟩

theorem step1_preds_sub (u : List Ent) (x p : Nat) (h : p ∈ (step1 u).preds x) : p ∈ idsOf u := by
  rw [step1_preds] at h
  obtain ⟨e, _, he⟩ := List.mem_flatMap.1 h
  exact mem_predIds he

/-! ### the loop: no node is queued twice -/

/-- the nodes that are in the queue or were popped -/
def seen (h : List (Nat × Nat)) (sorted : List Nat) : List Nat := h.map Prod.snd ++ sorted

/-- loop invariant: a node is in the queue or popped at most once, its counter is `<= 0` from the
    moment it is queued, and it is a node of the universe -/
structure InvD (u : List Ent) (depth : Nat → Int) (h : List (Nat × Nat)) (sorted : List Nat) : Prop where
  nodup : (seen h sorted).Nodup
  nonpos : ∀ p ∈ seen h sorted, depth p ≤ 0
  sub : ∀ p ∈ seen h sorted, p ∈ idsOf u

theorem relaxD_pos (idx : Nat → Nat) (d : Nat → Int) (h : List (Nat × Nat)) (p : Nat) (hz : d p - 1 = 0) :
    relaxD idx (d, h) p = (fun x => if x = p then d x - 1 else d x, (idx p, p) :: h) := by
  simp [relaxD, hz]

theorem relaxD_neg (idx : Nat → Nat) (d : Nat → Int) (h : List (Nat × Nat)) (p : Nat) (hz : d p - 1 ≠ 0) :
    relaxD idx (d, h) p = (fun x => if x = p then d x - 1 else d x, h) := by
  simp [relaxD, hz]

theorem relaxD_fold {u : List Ent} (idx : Nat → Nat) (sorted : List Nat) (ps : List Nat)
    (hps : ∀ p ∈ ps, p ∈ idsOf u) (d : Nat → Int) (h : List (Nat × Nat)) (hinv : InvD u d h sorted) :
    InvD u (ps.foldl (relaxD idx) (d, h)).1 (ps.foldl (relaxD idx) (d, h)).2 sorted := by
  induction ps generalizing d h with
  | nil => exact hinv
  | cons p ps ih =>
    simp only [List.foldl_cons]
    have hp := hps p (by simp)
    have key : InvD u (relaxD idx (d, h) p).1 (relaxD idx (d, h) p).2 sorted := by
      by_cases hz : d p - 1 = 0
      · -- the counter reaches 0: `p` is queued now, so it was not seen before
        rw [relaxD_pos idx d h p hz]
        have hnew : p ∉ seen h sorted := fun hm => by have := hinv.nonpos p hm; omega
        refine ⟨?_, ?_, ?_⟩
        · show (p :: seen h sorted).Nodup
          exact List.nodup_cons.2 ⟨hnew, hinv.nodup⟩
        · intro q hq
          have hq' : q = p ∨ q ∈ seen h sorted := by simpa [seen] using hq
          by_cases hqp : q = p
          · subst hqp; simp; omega
          · rcases hq' with h1 | h1
            · exact absurd h1 hqp
            · simp [hqp]; exact hinv.nonpos q h1
        · intro q hq
          have hq' : q = p ∨ q ∈ seen h sorted := by simpa [seen] using hq
          rcases hq' with rfl | h1
          · exact hp
          · exact hinv.sub q h1
      · rw [relaxD_neg idx d h p hz]
        refine ⟨hinv.nodup, ?_, hinv.sub⟩
        intro q hq
        by_cases hqp : q = p
        · subst hqp; have := hinv.nonpos q hq; simp; omega
        · simp [hqp]; exact hinv.nonpos q hq
    exact ih (fun q hq => hps q (List.mem_cons_of_mem _ hq)) _ _ key

theorem maxKey_none {l : List (Nat × Nat)} (h : maxKey l = none) : l = [] := by
  cases l with
  | nil => rfl
  | cons a as => simp only [maxKey] at h; cases hm : maxKey as <;> simp [hm] at h

theorem maxKey_some : ∀ {l : List (Nat × Nat)} {x : Nat × Nat}, maxKey l = some x →
    x ∈ l ∧ ∀ y ∈ l, y.1 ≤ x.1 := by
  intro l
  induction l with
  | nil => intro x h; simp [maxKey] at h
  | cons a as ih =>
    intro x h
    simp only [maxKey] at h
    cases hm : maxKey as with
    | none =>
      obtain rfl := maxKey_none hm
      simp [hm] at h; subst h
      simp
    | some m =>
      simp only [hm, Option.some.injEq] at h
      obtain ⟨hmem, hge⟩ := ih hm
      by_cases hc : m.1 ≤ a.1
      · simp [hc] at h; subst h
        refine ⟨List.mem_cons_self, fun y hy => ?_⟩
        rcases List.mem_cons.1 hy with rfl | hy
        · exact Nat.le_refl _
        · exact Nat.le_trans (hge y hy) hc
      · simp [hc] at h; subst h
        refine ⟨List.mem_cons_of_mem _ hmem, fun y hy => ?_⟩
        rcases List.mem_cons.1 hy with rfl | hy
        · omega
        · exact hge y hy

theorem stepD_inv {u : List Ent} {preds : Nat → List Nat} (idx : Nat → Nat)
    (hpreds : ∀ x, ∀ p ∈ preds x, p ∈ idsOf u) {s s' : DState}
    (hinv : InvD u s.depth s.heap s.sorted) (hs : stepD preds idx s = some s') :
    InvD u s'.depth s'.heap s'.sorted ∧ s'.sorted.length = s.sorted.length + 1 := by
  simp only [stepD] at hs
  cases hm : maxKey s.heap with
  | none => simp [hm] at hs
  | some x =>
    simp only [hm, Option.some.injEq] at hs
    subst hs
    refine ⟨?_, by simp⟩
    apply relaxD_fold idx (x.2 :: s.sorted) (preds x.2) (hpreds x.2)
    -- moving `x` from the queue to the popped list
    have hperm : (seen (s.heap.erase x) (x.2 :: s.sorted)).Perm (seen s.heap s.sorted) := by
      have h1 : s.heap.Perm (x :: s.heap.erase x) := List.perm_cons_erase (maxKey_some hm).1
      have h2 := (h1.map Prod.snd).append_right s.sorted
      simp only [seen, List.map_cons, List.cons_append] at h2 ⊢
      exact (List.perm_middle).trans h2.symm
    exact ⟨hperm.nodup_iff.2 hinv.nodup, fun p hp => hinv.nonpos p (hperm.subset hp),
      fun p hp => hinv.sub p (hperm.subset hp)⟩

theorem loopD_inv {u : List Ent} {preds : Nat → List Nat} (idx : Nat → Nat)
    (hpreds : ∀ x, ∀ p ∈ preds x, p ∈ idsOf u) (f : Nat) {s : DState}
    (hinv : InvD u s.depth s.heap s.sorted) :
    InvD u (loopD preds idx f s).depth (loopD preds idx f s).heap (loopD preds idx f s).sorted ∧
    ((loopD preds idx f s).heap = [] ∨ (loopD preds idx f s).sorted.length = s.sorted.length + f) := by
  induction f generalizing s with
  | zero => exact ⟨hinv, Or.inr rfl⟩
  | succ f ih =>
    simp only [loopD]
    cases hs : stepD preds idx s with
    | none =>
      refine ⟨hinv, Or.inl ?_⟩
      simp only [stepD] at hs
      cases hm : maxKey s.heap with
      | none => exact maxKey_none hm
      | some x => simp [hm] at hs
    | some s' =>
      obtain ⟨hinv', hlen⟩ := stepD_inv idx hpreds hinv hs
      obtain ⟨h1, h2⟩ := ih hinv'
      refine ⟨h1, ?_⟩
      rcases h2 with h2 | h2
      · exact Or.inl h2
      · exact Or.inr (by rw [h2, hlen]; omega)

/-- a filter that only lets through elements occurring once yields distinct elements -/
theorem nodup_filter_of_count {l : List Nat} {P : Nat → Bool}
    (h : ∀ x ∈ l, P x = true → l.count x ≤ 1) : (l.filter P).Nodup := by
  rw [List.nodup_iff_count_le_one]
  intro a
  by_cases ha : a ∈ l.filter P
  · have := List.mem_filter.1 ha
    have hc := h a this.1 this.2
    exact Nat.le_trans (List.Sublist.count_le a List.filter_sublist) hc
  · rw [List.count_eq_zero_of_not_mem ha]; omega

/-- no node is ever queued twice (`InvD`); the loop ends with an empty queue or with every node popped.
    `hown`: every node listed twice is a direct node of an attribute graph of some node of the
    universe (true of every universe `RecursiveGraphIterator` produces from a root graph whose own
    nodes are listed once). -/
theorem kahnIds_inv (u : List Ent)
    (hown : ∀ p, 2 ≤ (idsOf u).count p → ∃ o ∈ u, p ∈ o.subNodes) :
    InvD u (kahnIds u).depth (kahnIds u).heap (kahnIds u).sorted ∧
    ((kahnIds u).heap = [] ∨ (kahnIds u).sorted.length = u.length) := by
  have hpreds : ∀ x, ∀ p ∈ (step1 u).preds x, p ∈ idsOf u := step1_preds_sub u
  have hinit : InvD u (step1 u).depth (initHeapD u (step1 u).depth (nodeIndex u)) [] := by
    have hids : (initHeapD u (step1 u).depth (nodeIndex u)).map Prod.snd =
        (idsOf u).filter (fun p => (step1 u).depth p == 0) := by
      simp only [initHeapD, List.map_map, idsOf, List.filter_map]
      rfl
    refine ⟨?_, ?_, ?_⟩
    · simp only [seen, List.append_nil, hids]
      apply nodup_filter_of_count
      intro p hp hz
      by_contra hc
      obtain ⟨o, ho, hpo⟩ := hown p (by omega)
      -- `p` is a predecessor of its owner, so its counter is positive
      have hin : p ∈ predIds u o := by
        simp only [predIds, List.mem_append, List.mem_filter]
        refine Or.inr ⟨hpo, ?_⟩
        simp only [inU, List.any_eq_true, beq_iff_eq]
        obtain ⟨e, he, rfl⟩ := List.mem_map.1 hp
        exact ⟨e, he, rfl⟩
      have hcnt : 0 < (u.flatMap (predIds u)).count p :=
        List.count_pos_iff.2 (List.mem_flatMap.2 ⟨o, ho, hin⟩)
      have := step1_depth u p
      simp only [beq_iff_eq] at hz
      omega
    · intro p hp
      simp only [seen, List.append_nil, hids, List.mem_filter, beq_iff_eq] at hp
      omega
    · intro p hp
      simp only [seen, List.append_nil, hids, List.mem_filter] at hp
      exact hp.1
  have := loopD_inv (nodeIndex u) hpreds u.length (s := ⟨(step1 u).depth, initHeapD u (step1 u).depth (nodeIndex u), []⟩) hinit
  simpa [kahnIds] using this

theorem kahnIds_sorted_lt (u : List Ent) (hdup : ¬ (idsOf u).Nodup)
    (hown : ∀ p, 2 ≤ (idsOf u).count p → ∃ o ∈ u, p ∈ o.subNodes) :
    (kahnIds u).sorted.length < u.length := by
  obtain ⟨hinv, _⟩ := kahnIds_inv u hown
  have hnd : (kahnIds u).sorted.Nodup := (List.nodup_append.1 hinv.nodup).2.1
  have hsub : (kahnIds u).sorted ⊆ idsOf u := fun p hp => hinv.sub p (List.mem_append_right _ hp)
  have hsp := List.subperm_of_subset hnd hsub
  have hle := hsp.length_le
  simp only [idsOf, List.length_map] at hle
  by_contra hc
  have hperm := hsp.perm_of_length_le (by simp only [idsOf, List.length_map]; omega)
  exact hdup (hperm.nodup_iff.1 hnd)

/-! ### distinct identities: the identity-keyed loop is the position-keyed loop -/

attribute [-simp] List.getD_eq_getElem?_getD

theorem filter_id_single : ∀ {u : List Ent}, (idsOf u).Nodup → ∀ {e : Ent}, e ∈ u →
    u.filter (fun e' => e'.id == e.id) = [e] := by
  intro u
  induction u with
  | nil => intro _ e he; simp at he
  | cons a as ih =>
    intro hnd e he
    simp only [idsOf, List.map_cons, List.nodup_cons] at hnd
    simp only [List.filter_cons]
    rcases List.mem_cons.1 he with rfl | h
    · have : as.filter (fun e' => e'.id == e.id) = [] := by
        rw [List.filter_eq_nil_iff]
        intro x hx
        simp only [beq_iff_eq]
        intro hc
        exact hnd.1 (List.mem_map.2 ⟨x, hx, hc⟩)
      simp [this]
    · have hne : (a.id == e.id) = false := by
        simp only [beq_eq_false_iff_ne, ne_eq]
        intro hc
        exact hnd.1 (List.mem_map.2 ⟨e, h, hc.symm⟩)
      simp only [hne]
      exact ih hnd.2 h

/-! ### `neg_node_index[node]` is a position at which `node` stands -/

def nodeIndexUpto (u : List Ent) (n : Nat) : Nat → Nat :=
  (List.range n).foldl (fun f i =>
    match u[i]? with
    | some e => fun x => if x = e.id then i else f x
    | none => f) (fun _ => 0)

theorem idAt_lt {u : List Ent} {i : Nat} (hi : i < u.length) : idAt u i = u[i].id := by
  simp [idAt, List.getElem?_eq_getElem hi]

theorem nodeIndexUpto_spec (u : List Ent) : ∀ n, n ≤ u.length → ∀ p, (∃ i, i < n ∧ idAt u i = p) →
    nodeIndexUpto u n p < n ∧ idAt u (nodeIndexUpto u n p) = p
  | 0, _, _, ⟨i, hi, _⟩ => by omega
  | n + 1, hn, p, ⟨i, hi, hip⟩ => by
    have hlt : n < u.length := by omega
    have he : u[n]? = some u[n] := List.getElem?_eq_getElem hlt
    have hunf : nodeIndexUpto u (n + 1) = fun x => if x = u[n].id then n else nodeIndexUpto u n x := by
      unfold nodeIndexUpto
      rw [List.range_succ, List.foldl_append]
      simp only [List.foldl_cons, List.foldl_nil, he]
    rw [hunf]
    by_cases hp : p = u[n].id
    · simp only [hp, if_true]
      exact ⟨by omega, idAt_lt hlt⟩
    · simp only [hp, if_false]
      have hin : i ≠ n := by
        intro e; subst e; rw [idAt_lt hlt] at hip; exact hp hip.symm
      have ih := nodeIndexUpto_spec u n (by omega) p ⟨i, by omega, hip⟩
      exact ⟨by omega, ih.2⟩

/-- no hypothesis on the ids: with a repeated id the index is that of its last occurrence -/
theorem nodeIndex_idAt (u : List Ent) {p : Nat} (hp : p ∈ idsOf u) :
    nodeIndex u p < u.length ∧ idAt u (nodeIndex u p) = p := by
  apply nodeIndexUpto_spec u u.length (Nat.le_refl _)
  obtain ⟨e, he, rfl⟩ := List.mem_map.1 hp
  obtain ⟨i, hi, rfl⟩ := List.getElem_of_mem he
  exact ⟨i, hi, idAt_lt hi⟩

section refine
variable {u : List Ent} (hnd : (idsOf u).Nodup)
include hnd

theorem idAt_inj {i j : Nat} (hi : i < u.length) (hj : j < u.length) (h : idAt u i = idAt u j) : i = j := by
  have a := at_of_lt hi
  have b := at_of_lt hj
  rw [idAt_at a, idAt_at b] at h
  exact At.inj hnd a b h

theorem gidOfId_at {i : Nat} {e : Ent} (h : At u i e) : gidOfId u e.id = e.gid := by
  have hf : u.find? (fun e' => e'.id == e.id) = some e := by
    have := filter_id_single hnd h.mem
    have h2 : (u.filter (fun e' => e'.id == e.id)).head? = some e := by rw [this]; rfl
    rwa [List.head?_filter] at h2
  simp [gidOfId, hf]

theorem nodeIndex_at {i : Nat} (hi : i < u.length) : nodeIndex u (idAt u i) = i := by
  have hmem : idAt u i ∈ idsOf u := by rw [idAt_lt hi]; exact List.mem_map.2 ⟨_, List.getElem_mem hi, rfl⟩
  obtain ⟨h1, h2⟩ := nodeIndex_idAt u hmem
  exact idAt_inj hnd h1 hi h2

omit hnd in
theorem inU_iff (p : Nat) : inU u p = (indexOfId u p).isSome := by
  simp only [inU, indexOfId]
  cases h : List.findIdx? (fun e => e.id == p) u with
  | none =>
    rw [List.findIdx?_eq_none_iff] at h
    simp only [Option.isSome_none, List.any_eq_false]
    intro e he; simpa using h e he
  | some i =>
    obtain ⟨hi, hp, _⟩ := List.findIdx?_eq_some_iff_getElem.1 h
    simp only [Option.isSome_some, List.any_eq_true]
    exact ⟨u[i], List.getElem_mem hi, hp⟩

omit hnd in
theorem idAt_indexOfId {p i : Nat} (h : indexOfId u p = some i) : idAt u i = p := by
  obtain ⟨e, he, hid⟩ := indexOfId_some h
  rw [idAt_at he, hid]

omit hnd in
theorem predIds_eq (e : Ent) : predIds u e = (predsOfEnt u e).map (idAt u) := by
  simp only [predIds, predsOfEnt, List.map_append]
  congr 1
  · induction e.inputs with
    | nil => rfl
    | cons o os ih =>
      cases o with
      | none => simpa using ih
      | some p =>
        simp only [List.filterMap_cons, Option.bind_some, List.filter_cons, inU_iff]
        cases h : indexOfId u p with
        | none => simpa using ih
        | some i =>
          simp only [Option.isSome_some, if_true, List.map_cons, idAt_indexOfId h]
          rw [← ih]
  · induction e.subNodes with
    | nil => rfl
    | cons p ps ih =>
      simp only [List.filterMap_cons, List.filter_cons, inU_iff]
      cases h : indexOfId u p with
      | none => simpa using ih
      | some i =>
        simp only [Option.isSome_some, if_true, List.map_cons, idAt_indexOfId h]
        rw [← ih]

theorem step1_preds_at {i : Nat} (hi : i < u.length) :
    (step1 u).preds (idAt u i) = (predsAt u i).map (idAt u) := by
  have a := at_of_lt hi
  rw [step1_preds, idAt_at a, filter_id_single hnd a.mem]
  have : predsAt u i = predsOfEnt u u[i] := by
    have h' : u[i]? = some u[i] := a
    simp [predsAt, h']
  simp [this, predIds_eq]

theorem count_map_idAt (l : List Nat) (hl : ∀ x ∈ l, x < u.length) {v : Nat} (hv : v < u.length) :
    (l.map (idAt u)).count (idAt u v) = l.count v := by
  induction l with
  | nil => rfl
  | cons a as ih =>
    have ha : a < u.length := hl a (by simp)
    simp only [List.map_cons, List.count_cons, ih (fun x hx => hl x (List.mem_cons_of_mem _ hx))]
    by_cases h : a = v
    · subst h; simp
    · have : idAt u a ≠ idAt u v := fun hc => h (idAt_inj hnd ha hv hc)
      simp [h, this]

omit hnd in
theorem flatMap_predIds (is : List Nat) (his : ∀ i ∈ is, i < u.length) :
    (is.filterMap (fun i => u[i]?)).flatMap (predIds u) =
      is.flatMap (fun c => (predsAt u c).map (idAt u)) := by
  induction is with
  | nil => rfl
  | cons i is ih =>
    have hi := his i (by simp)
    have h' : u[i]? = some u[i] := at_of_lt hi
    simp only [List.filterMap_cons, h', List.flatMap_cons, ih (fun j hj => his j (List.mem_cons_of_mem _ hj))]
    congr 1
    simp [predsAt, h', predIds_eq]

theorem step1_depth_at {v : Nat} (hv : v < u.length) :
    (step1 u).depth (idAt u v) = ((initDepth u.length (predsAt u)).getD v 0 : Int) := by
  rw [step1_depth, (initDepth_spec u.length (predsAt u)).2 v hv]
  congr 1
  have hu : u.flatMap (predIds u) = (List.range u.length).flatMap (fun c => (predsAt u c).map (idAt u)) := by
    have := flatMap_predIds (u := u) (List.range u.length) (fun i hi => List.mem_range.1 hi)
    rwa [filterMap_range] at this
  rw [hu]
  have hdeg : deg u.length (predsAt u) [] v = ((List.range u.length).map (fun c => (predsAt u c).count v)).sum := by
    simp [deg]
  rw [hdeg]
  have gen : ∀ is : List Nat, (∀ i ∈ is, i < u.length) →
      (is.flatMap (fun c => (predsAt u c).map (idAt u))).count (idAt u v) =
        (is.map (fun c => (predsAt u c).count v)).sum := by
    intro is
    induction is with
    | nil => intro _; rfl
    | cons i is ih =>
      intro his
      simp only [List.flatMap_cons, List.count_append, List.map_cons, List.sum_cons,
        ih (fun j hj => his j (List.mem_cons_of_mem _ hj))]
      rw [count_map_idAt hnd _ (predsAt_lt u i (his i (by simp))) hv]
  exact gen _ (fun i hi => List.mem_range.1 hi)

/-- the queue / popped list / counters of the identity-keyed state are those of the
    position-keyed state, positions read as identities -/
structure Sim (u : List Ent) (s : KState) (d : DState) : Prop where
  sorted : d.sorted = s.out.map (idAt u)
  heap : d.heap = s.heap.map (fun i => (i, idAt u i))
  depth : ∀ v, v < u.length → d.depth (idAt u v) = (s.depth.getD v 0 : Int)

omit hnd in
theorem maxKey_map (l : List Nat) :
    maxKey (l.map (fun i => (i, idAt u i))) = (maxOf l).map (fun i => (i, idAt u i)) := by
  induction l with
  | nil => rfl
  | cons a as ih =>
    simp only [List.map_cons, maxKey, maxOf, ih]
    cases maxOf as with
    | none => rfl
    | some m =>
      simp only [Option.map_some]
      by_cases h : m ≤ a <;> simp [h]

theorem relax_sim (ps : List Nat) (hps : ∀ p ∈ ps, p < u.length) (dl hl : List Nat)
    (df : Nat → Int) (hle : ∀ v, ps.count v ≤ dl.getD v 0)
    (hd : ∀ v, v < u.length → df (idAt u v) = (dl.getD v 0 : Int)) :
    ((ps.map (idAt u)).foldl (relaxD (nodeIndex u)) (df, hl.map (fun i => (i, idAt u i)))).2 =
      (ps.foldl relax1 (dl, hl)).2.map (fun i => (i, idAt u i)) ∧
    ∀ v, v < u.length →
      ((ps.map (idAt u)).foldl (relaxD (nodeIndex u)) (df, hl.map (fun i => (i, idAt u i)))).1 (idAt u v) =
        ((ps.foldl relax1 (dl, hl)).1.getD v 0 : Int) := by
  induction ps generalizing dl hl df with
  | nil => exact ⟨rfl, hd⟩
  | cons p ps ih =>
    have hp : p < u.length := hps p (by simp)
    -- the two states after one relax
    let d1 := dl.set p (dl.getD p 0 - 1)
    let f1 : Nat → Int := fun x => if x = idAt u p then df x - 1 else df x
    obtain ⟨hpc, hplt, (hd1 : ∀ v, d1.getD v 0 = if p = v then dl.getD p 0 - 1 else dl.getD v 0),
      (hle1 : ∀ v, ps.count v ≤ d1.getD v 0)⟩ := relax1_step hle
    have hf1 : ∀ v, v < u.length → f1 (idAt u v) = (d1.getD v 0 : Int) := by
      intro v hv
      simp only [f1, hd1]
      by_cases h : p = v
      · subst h; simp only [if_true]; rw [hd p hp]; omega
      · have : idAt u v ≠ idAt u p := fun hc => h (idAt_inj hnd hv hp hc).symm
        simp only [this, h, if_false]; exact hd v hv
    have hzero : (f1 (idAt u p) = 0) ↔ (d1.getD p 0 = 0) := by
      rw [hf1 p hp]; omega
    simp only [List.map_cons, List.foldl_cons]
    by_cases hz : d1.getD p 0 = 0
    · have hstepL : relax1 (dl, hl) p = (d1, p :: hl) := by
        show (if (d1.getD p 0 == 0) = true then (d1, p :: hl) else (d1, hl)) = (d1, p :: hl)
        simp [hz]
      have hstepD : relaxD (nodeIndex u) (df, hl.map (fun i => (i, idAt u i))) (idAt u p) =
          (f1, (p :: hl).map (fun i => (i, idAt u i))) := by
        have : df (idAt u p) - 1 = 0 := by have := hzero.2 hz; simpa [f1] using this
        rw [relaxD_pos _ _ _ _ this, nodeIndex_at hnd hp]
        rfl
      rw [hstepL, hstepD]
      exact ih (fun q hq => hps q (List.mem_cons_of_mem _ hq)) d1 (p :: hl) f1 hle1 hf1
    · have hstepL : relax1 (dl, hl) p = (d1, hl) := by
        show (if (d1.getD p 0 == 0) = true then (d1, p :: hl) else (d1, hl)) = (d1, hl)
        simp [hz]
      have hstepD : relaxD (nodeIndex u) (df, hl.map (fun i => (i, idAt u i))) (idAt u p) =
          (f1, hl.map (fun i => (i, idAt u i))) := by
        have : df (idAt u p) - 1 ≠ 0 := by
          intro hc; apply hz; apply hzero.1; simpa [f1] using hc
        rw [relaxD_neg _ _ _ _ this]
      rw [hstepL, hstepD]
      exact ih (fun q hq => hps q (List.mem_cons_of_mem _ hq)) d1 hl f1 hle1 hf1

theorem step_sim {s : KState} {d : DState} (hsim : Sim u s d)
    (hinv : Inv u.length (predsAt u) s) :
    match step (predsAt u) s with
    | none => stepD (step1 u).preds (nodeIndex u) d = none
    | some s' => ∃ d', stepD (step1 u).preds (nodeIndex u) d = some d' ∧ Sim u s' d' := by
  have hmk := maxKey_map (u := u) s.heap
  rw [← hsim.heap] at hmk
  cases hm : maxOf s.heap with
  | none =>
    simp only [step, hm]
    simp only [hm, Option.map_none] at hmk
    simp [stepD, hmk]
  | some x =>
    simp only [step, hm]
    simp only [hm, Option.map_some] at hmk
    obtain ⟨hxh, _⟩ := maxOf_some hm
    have hrdy : Ready u.length (predsAt u) s.out x := (hinv.hiff x).1 hxh
    have hxn := hrdy.1
    have hle := hinv.count_le (predsAt_lt u) hrdy
    have hinj : Function.Injective (fun i : Nat => (i, idAt u i)) := fun a b h => by
      simpa using congrArg Prod.fst h
    have herase : d.heap.erase (x, idAt u x) = (s.heap.erase x).map (fun i => (i, idAt u i)) := by
      rw [hsim.heap, List.map_erase hinj]
    obtain ⟨r1, r2⟩ := relax_sim hnd (predsAt u x) (predsAt_lt u x hxn) s.depth (s.heap.erase x) d.depth
      hle hsim.depth
    refine ⟨_, by simp only [stepD, hmk]; rfl, ?_⟩
    simp only [step1_preds_at hnd hxn, herase]
    exact ⟨by simp [hsim.sorted], r1, r2⟩

theorem loop_sim (f : Nat) {s : KState} {d : DState} (hsim : Sim u s d)
    (hinv : Inv u.length (predsAt u) s) :
    Sim u (loop (predsAt u) f s) (loopD (step1 u).preds (nodeIndex u) f d) := by
  induction f generalizing s d with
  | zero => exact hsim
  | succ f ih =>
    have hstep := step_sim hnd hsim hinv
    simp only [loop, loopD]
    cases hs : step (predsAt u) s with
    | none =>
      simp only [hs] at hstep
      simp only [hstep]
      exact hsim
    | some s' =>
      simp only [hs] at hstep
      obtain ⟨d', hd', hsim'⟩ := hstep
      simp only [hd']
      exact ih hsim' (inv_step (predsAt_lt u) hinv hs).1

theorem initHeap_sim (is : List Nat) (his : ∀ i ∈ is, i < u.length) :
    ((is.filterMap (fun i => u[i]?)).filter (fun e => (step1 u).depth e.id == 0)).map
        (fun e => (nodeIndex u e.id, e.id)) =
      (is.filter (fun i => (initDepth u.length (predsAt u)).getD i 0 == 0)).map
        (fun i => (i, idAt u i)) := by
  induction is with
  | nil => rfl
  | cons i is ih =>
    have hi := his i (by simp)
    have a := at_of_lt hi
    have h' : u[i]? = some u[i] := a
    have hid : (u[i]).id = idAt u i := (idAt_at a).symm
    have hq : ((step1 u).depth (u[i]).id == 0) = ((initDepth u.length (predsAt u)).getD i 0 == 0) := by
      rw [hid, step1_depth_at hnd hi]
      cases h0 : (initDepth u.length (predsAt u)).getD i 0 with
      | zero => simp
      | succ k => simp; omega
    simp only [List.filterMap_cons, h', List.filter_cons, hq]
    have ih' := ih (fun j hj => his j (List.mem_cons_of_mem _ hj))
    split
    · simp only [List.map_cons, ih', hid, nodeIndex_at hnd hi]
    · exact ih'

/-- the whole loop: the identity-keyed run is the position-keyed run read through `idAt` -/
theorem kahnIds_sim : Sim u (kahnState u.length (predsAt u)) (kahnIds u) := by
  simp only [kahnState, kahnIds]
  apply loop_sim hnd
  · refine ⟨rfl, ?_, fun v hv => step1_depth_at hnd hv⟩
    have := initHeap_sim hnd (List.range u.length) (fun i hi => List.mem_range.1 hi)
    rw [filterMap_range] at this
    exact this
  · exact inv_init _ _

theorem bucketD_eq (out : List Nat) (hout : ∀ i ∈ out, i < u.length) (k : Nat) :
    bucketD u (out.map (idAt u)) k = bucket u out k := by
  induction out with
  | nil => rfl
  | cons i out ih =>
    have hi := hout i (by simp)
    have a := at_of_lt hi
    have h' : u[i]? = some u[i] := a
    have hg : gidOfId u (idAt u i) = (u[i]).gid := by rw [idAt_at a]; exact gidOfId_at hnd a
    have ih' := ih (fun j hj => hout j (List.mem_cons_of_mem _ hj))
    simp only [bucketD, bucket, List.map_cons, List.filterMap_cons, h', List.filter_cons, hg] at ih' ⊢
    split
    · simp only [List.map_cons, idAt_at a, ih']
    · exact ih'

end refine

/-- with distinct identities the identity-keyed transcription and the position-keyed model agree
    on every tree -/
theorem sortIds_eq_sortModel (g : MGraph) (hnd : (idsOf (nodesOf g)).Nodup) :
    sortIds g = sortModel g := by
  have hsim := kahnIds_sim hnd
  have hs : sharedGraph (nodesOf g) = false := by
    have : ((nodesOf g).map Ent.id).Nodup := hnd
    simp [sharedGraph, this]
  have hrun := kahn_run (predsAt_lt (nodesOf g))
  simp only [sortIds, sortModel, hs]
  have hsorted : (kahnIds (nodesOf g)).sorted = (kahn (nodesOf g).length (predsAt (nodesOf g))).map (idAt (nodesOf g)) :=
    hsim.sorted
  rw [hsorted, List.length_map]
  simp only [Bool.false_eq_true, if_false]
  split
  · rfl
  · congr 1
    apply List.map_congr_left
    intro gc _
    rw [bucketD_eq hnd _ (fun i hi => hrun.lt i hi)]

end IrVerif.Sort
