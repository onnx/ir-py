/-
Round trip and fix-point of the attribute layer `IrVerif.Model.ScopeAttr` (helper development; the property
theorems are in `Lemmas/ScopeAttrProps.lean`).
-/
import IrVerif.Model.ScopeAttr
import IrVerif.Lemmas.ScopeMeta
import IrVerif.Lemmas.ListFacts
namespace IrVerif.Scope
open ListFacts

theorem seqA_eq {β : Type} : seqA (β := β) = mapE (·.2) := by
  funext l
  induction l with
  | nil => rfl
  | cons a l ih =>
    obtain ⟨_, _ | _⟩ := a
    · rfl
    · simp only [seqA, mapE, ih]; cases mapE (·.2) l <;> rfl

theorem seqA_map {β : Type} {l : List (String × Except AErr β)} {bs : List β} (h : seqA l = .ok bs) :
    l.map (·.2) = bs.map .ok := mapE_eq_ok_iff.1 (seqA_eq ▸ h)

theorem seqA_ok {β : Type} (bs : List β) (f : β → String) : seqA (bs.map fun b => (f b, (.ok b : Except AErr β))) = .ok bs := by
  rw [seqA_eq, mapE_eq_ok_iff, List.map_map]; rfl

theorem seqA_spec {β : Type} : ∀ (l : List (String × Except AErr β)) (bs : List β), seqA l = .ok bs →
    l = (l.map (·.1)).zip (bs.map .ok) ∧ bs.length = l.length := fun l bs h => by
  rw [← seqA_map h]
  exact ⟨by simpa [List.unzip_eq_map] using (List.zip_unzip l).symm, by simpa using (congrArg List.length (seqA_map h)).symm⟩

theorem seqA_mem {β : Type} (l : List (String × Except AErr β)) (bs : List β) (h : seqA l = .ok bs) (b : β) (hb : b ∈ bs) :
    ∃ k, (k, .ok b) ∈ l := by
  obtain ⟨p, hp, hpb⟩ := List.mem_map.1 (seqA_map h ▸ List.mem_map_of_mem (f := Except.ok) hb)
  exact ⟨p.1, by rw [← hpb]; exact hp⟩

theorem seqA_keys {β : Type} (name : β → String) (l : List (String × Except AErr β)) (bs : List β)
    (h : seqA l = .ok bs) (hn : ∀ k b, (k, .ok b) ∈ l → name b = k) : bs.map name = l.map (·.1) := by
  have e := seqA_map h
  refine List.ext_getElem (by simpa using (congrArg List.length e).symm) fun i h1 h2 => ?_
  have hi := List.getElem_of_eq e (by simpa using h2)
  simp only [List.getElem_map] at hi ⊢
  exact hn _ _ (by rw [← hi]; exact List.getElem_mem _)

theorem deserNodesA_eq : deserNodesA = mapE deserNodeA := by
  funext l
  induction l with
  | nil => simp only [deserNodesA, mapE]
  | cons a l ih => simp only [deserNodesA, mapE, ih]; cases deserNodeA a <;> cases mapE deserNodeA l <;> rfl

theorem deserGraphsA_eq : deserGraphsA = mapE deserGraphA := by
  funext l
  induction l with
  | nil => simp only [deserGraphsA, mapE]
  | cons a l ih => simp only [deserGraphsA, mapE, ih]; cases deserGraphA a <;> cases mapE deserGraphA l <;> rfl

theorem serAttrsA_eq : serAttrsA = mapE serAttrA := by
  funext l
  induction l with
  | nil => simp only [serAttrsA, mapE]
  | cons a l ih => simp only [serAttrsA, mapE, ih]; cases serAttrA a <;> cases mapE serAttrA l <;> rfl

theorem serNodesA_eq : serNodesA = mapE serNodeA := by
  funext l
  induction l with
  | nil => simp only [serNodesA, mapE]
  | cons a l ih => simp only [serNodesA, mapE, ih]; cases serNodeA a <;> cases mapE serNodeA l <;> rfl

theorem serGraphsA_eq : serGraphsA = mapE serGraphA := by
  funext l
  induction l with
  | nil => simp only [serGraphsA, mapE]
  | cons a l ih => simp only [serGraphsA, mapE, ih]; cases serGraphA a <;> cases mapE serGraphA l <;> rfl

theorem optOut_none' : optOut none = none := rfl
theorem kindOf_5 : kindOf 5 = .graph := by decide
theorem kindOf_10 : kindOf 10 = .graphs := by decide

theorem optOut_some_ne (r : String) (h : (r == "") = false) : optOut (some r) = some r := by
  have : r ≠ "" := by simpa using h
  simp [optOut, this]

theorem deserAttrA_inv {name : String} {doc ref : Option String} {ty : Nat} {tok : String} {ok : Bool} {g : GraphAP}
    {gs : List GraphAP} {W : AttrS} (h : deserAttrA (.mk name doc ref ty tok ok g gs) = .ok W) :
    kindOf ty ≠ .unknown ∧
    ((∃ r, optOut ref = some r ∧ W = .ref name doc r ty) ∨
     optOut ref = none ∧
      ((kindOf ty = .graph ∧ ∃ g', deserGraphA g = .ok g' ∧ W = .graph name doc g') ∨
       (kindOf ty = .graphs ∧ ∃ gs', deserGraphsA gs = .ok gs' ∧ W = .graphs name doc gs') ∨
       (kindOf ty = .undefined ∧ W = .leaf name doc ty none) ∨
       (kindOf ty = .leaf ∧ ok = true ∧ W = .leaf name doc ty (some tok)))) := by
  simp only [deserAttrA] at h
  split at h
  · simp at h
  · rename_i hnu
    refine ⟨fun e => hnu e, ?_⟩
    split at h
    · rename_i r hr
      exact .inl ⟨r, hr, (Except.ok.inj h).symm⟩
    · rename_i hr
      refine .inr ⟨hr, ?_⟩
      split at h
      · rename_i hk
        split at h
        · simp at h
        · rename_i g' hg
          exact .inl ⟨hk, g', hg, (Except.ok.inj h).symm⟩
      · rename_i hk
        split at h
        · simp at h
        · rename_i gs' hg
          exact .inr (.inl ⟨hk, gs', hg, (Except.ok.inj h).symm⟩)
      · simp at h
      · rename_i hk
        exact .inr (.inr (.inl ⟨hk, (Except.ok.inj h).symm⟩))
      · rename_i hg hgs hsp hun
        have hk : kindOf ty = .leaf := by
          revert hnu hg hgs hsp hun; cases kindOf ty <;> simp
        split at h
        · rename_i hok
          exact .inr (.inr (.inr ⟨hk, hok, (Except.ok.inj h).symm⟩))
        · simp at h

theorem deserAttrA_name (a : AttrP) (b : AttrS) (h : deserAttrA a = .ok b) : b.name = a.name := by
  obtain ⟨name, doc, ref, ty, tok, ok, g, gs⟩ := a
  rcases (deserAttrA_inv h).2 with ⟨_, _, rfl⟩ | ⟨_, ⟨_, _, _, rfl⟩ | ⟨_, _, _, rfl⟩ | ⟨_, rfl⟩ | ⟨_, _, rfl⟩⟩ <;> rfl

theorem deserAttrsR_keys : ∀ (as : List AttrP), (deserAttrsR as).map (·.1) = as.map AttrP.name
  | [] => rfl
  | a :: as => by simp [deserAttrsR, deserAttrsR_keys as]

theorem deserAttrsR_named : ∀ (as : List AttrP) (k : String) (b : AttrS), (k, .ok b) ∈ deserAttrsR as → b.name = k
  | [], _, _, h => by simp [deserAttrsR] at h
  | a :: as, k, b, h => by
    simp only [deserAttrsR, List.mem_cons, Prod.mk.injEq] at h
    rcases h with ⟨rfl, h⟩ | h
    · exact deserAttrA_name a b h.symm
    · exact deserAttrsR_named as k b h

theorem canonAttrA_name (a : AttrS) : (canonAttrA a).name = a.name := by
  cases a <;> rfl

theorem canonAttrsA_names : ∀ (as : List AttrS), (canonAttrsA as).map AttrS.name = as.map AttrS.name
  | [] => rfl
  | a :: as => by simp [canonAttrsA, canonAttrA_name, canonAttrsA_names as]

/-! ### the round trip of the trees -/

theorem wfRef_split (r : String) (ty : Nat) (h : (!(r == "") && !(kindOf ty == .unknown)) = true) :
    (r == "") = false ∧ kindOf ty ≠ .unknown := by
  simp only [Bool.and_eq_true, Bool.not_eq_true', beq_eq_false_iff_ne, ne_eq] at h
  exact ⟨by simpa using h.1, h.2⟩

mutual
theorem rtAttrA : ∀ (W : AttrS) (Q : AttrP), wfAttrB W = true → serAttrA W = .ok Q →
    deserAttrA Q = .ok (canonAttrA W) ∧ serAttrA (canonAttrA W) = .ok Q ∧ Q.name = W.name
  | .leaf n d ty v, Q, _, h => by
    simp only [serAttrA] at h
    split at h
    · simp at h
    · rename_i hk
      split at h
      · simp at h
      · simp only [Except.ok.injEq] at h
        subst h
        refine ⟨?_, ?_, rfl⟩
        · simp [deserAttrA, hk, optOut_none', canonAttrA]
        · simp [canonAttrA, serAttrA, hk, optOut_idem]
    · simp at h
    · simp at h
    · simp at h
  | .graph n d g, Q, hw, h => by
    simp only [serAttrA] at h
    split at h
    · simp at h
    · rename_i p hp
      simp only [Except.ok.injEq] at h
      subst h
      simp only [wfAttrB] at hw
      obtain ⟨a1, a2⟩ := rtGraphA g p hw hp
      refine ⟨?_, ?_, rfl⟩
      · simp [deserAttrA, kindOf_5, optOut, a1, canonAttrA]
      · simp [canonAttrA, serAttrA, a2, optOut_idem]
  | .graphs n d gs, Q, hw, h => by
    simp only [serAttrA] at h
    split at h
    · simp at h
    · rename_i ps hp
      simp only [Except.ok.injEq] at h
      subst h
      simp only [wfAttrB] at hw
      obtain ⟨a1, a2⟩ := rtGraphsA gs ps hw hp
      refine ⟨?_, ?_, rfl⟩
      · simp [deserAttrA, kindOf_10, optOut, a1, canonAttrA]
      · simp [canonAttrA, serAttrA, a2, optOut_idem]
  | .ref n d r ty, Q, hw, h => by
    simp only [serAttrA, Except.ok.injEq] at h
    subst h
    simp only [wfAttrB] at hw
    obtain ⟨h1, h2⟩ := wfRef_split r ty hw
    refine ⟨?_, ?_, rfl⟩
    · simp only [deserAttrA, optOut_some_ne r h1, canonAttrA]
    · simp [canonAttrA, serAttrA, optOut_idem]
theorem rtAttrsA : ∀ (W : List AttrS) (Q : List AttrP), wfAttrsB W = true → serAttrsA W = .ok Q →
    deserAttrsR Q = (canonAttrsA W).map (fun a => (a.name, .ok a)) ∧ serAttrsA (canonAttrsA W) = .ok Q ∧
    Q.map AttrP.name = W.map AttrS.name
  | [], Q, _, h => by
    simp only [serAttrsA, Except.ok.injEq] at h
    subst h
    exact ⟨rfl, rfl, rfl⟩
  | a :: as, Q, hw, h => by
    obtain ⟨p, ps, hp, hps, rfl⟩ := cons_ok_of_eq_mapE serAttrsA_eq h
    simp only [wfAttrsB, Bool.and_eq_true] at hw
    obtain ⟨a1, a2, a3⟩ := rtAttrA a p hw.1 hp
    obtain ⟨b1, b2, b3⟩ := rtAttrsA as ps hw.2 hps
    refine ⟨?_, ?_, ?_⟩
    · simp only [deserAttrsR, canonAttrsA, List.map_cons, a1, b1, a3, canonAttrA_name]
    · simp only [canonAttrsA, serAttrsA, a2, b2]
    · simp only [List.map_cons, a3, b3]
theorem rtNodeA : ∀ (W : NodeAS) (Q : NodeAP), wfNodeAB W = true → serNodeA W = .ok Q →
    deserNodeA Q = .ok (canonNodeA W) ∧ serNodeA (canonNodeA W) = .ok Q
  | .mk attrs, Q, hw, h => by
    simp only [serNodeA] at h
    split at h
    · simp at h
    · rename_i ps hp
      simp only [Except.ok.injEq] at h
      subst h
      simp only [wfNodeAB, Bool.and_eq_true] at hw
      obtain ⟨a1, a2, _⟩ := rtAttrsA attrs ps hw.2 hp
      have hk := (keysNodupB_iff _).mp hw.1
      have hnd : (((canonAttrsA attrs).map (fun a => (a.name, (.ok a : Except AErr AttrS)))).map (·.1)).Nodup := by
        simp only [List.map_map, Function.comp_def]
        rw [canonAttrsA_names]
        exact hk
      refine ⟨?_, ?_⟩
      · simp only [deserNodeA, a1, kvDict_of_nodup _ hnd, seqA_ok, canonNodeA]
      · simp only [canonNodeA, serNodeA, a2]
theorem rtNodesA : ∀ (W : List NodeAS) (Q : List NodeAP), wfNodesAB W = true → serNodesA W = .ok Q →
    deserNodesA Q = .ok (canonNodesA W) ∧ serNodesA (canonNodesA W) = .ok Q
  | [], Q, _, h => by
    simp only [serNodesA, Except.ok.injEq] at h
    subst h
    exact ⟨rfl, rfl⟩
  | n :: ns, Q, hw, h => by
    obtain ⟨p, ps, hp, hps, rfl⟩ := cons_ok_of_eq_mapE serNodesA_eq h
    simp only [wfNodesAB, Bool.and_eq_true] at hw
    obtain ⟨a1, a2⟩ := rtNodeA n p hw.1 hp
    obtain ⟨b1, b2⟩ := rtNodesA ns ps hw.2 hps
    exact ⟨by simp only [deserNodesA, canonNodesA, a1, b1], by simp only [canonNodesA, serNodesA, a2, b2]⟩
theorem rtGraphA : ∀ (W : GraphAS) (Q : GraphAP), wfGraphAB W = true → serGraphA W = .ok Q →
    deserGraphA Q = .ok (canonGraphA W) ∧ serGraphA (canonGraphA W) = .ok Q
  | .mk nodes, Q, hw, h => by
    simp only [serGraphA] at h
    split at h
    · simp at h
    · rename_i ps hp
      simp only [Except.ok.injEq] at h
      subst h
      simp only [wfGraphAB] at hw
      obtain ⟨a1, a2⟩ := rtNodesA nodes ps hw hp
      exact ⟨by simp only [deserGraphA, canonGraphA, a1], by simp only [canonGraphA, serGraphA, a2]⟩
theorem rtGraphsA : ∀ (W : List GraphAS) (Q : List GraphAP), wfGraphsAB W = true → serGraphsA W = .ok Q →
    deserGraphsA Q = .ok (canonGraphsA W) ∧ serGraphsA (canonGraphsA W) = .ok Q
  | [], Q, _, h => by
    simp only [serGraphsA, Except.ok.injEq] at h
    subst h
    exact ⟨rfl, rfl⟩
  | g :: gs, Q, hw, h => by
    obtain ⟨p, ps, hp, hps, rfl⟩ := cons_ok_of_eq_mapE serGraphsA_eq h
    simp only [wfGraphsAB, Bool.and_eq_true] at hw
    obtain ⟨a1, a2⟩ := rtGraphA g p hw.1 hp
    obtain ⟨b1, b2⟩ := rtGraphsA gs ps hw.2 hps
    exact ⟨by simp only [deserGraphsA, canonGraphsA, a1, b1], by simp only [canonGraphsA, serGraphsA, a2, b2]⟩
end

/-! ### what deserialization builds satisfies the representation invariant -/

theorem wfAttrsB_of_mem : ∀ (bs : List AttrS), (∀ b ∈ bs, wfAttrB b = true) → wfAttrsB bs = true
  | [], _ => rfl
  | b :: bs, h => by
    simp only [wfAttrsB, Bool.and_eq_true]
    exact ⟨h b List.mem_cons_self, wfAttrsB_of_mem bs fun c hc => h c (List.mem_cons_of_mem _ hc)⟩

theorem optOut_some_spec (o : Option String) (r : String) (h : optOut o = some r) : (r == "") = false := by
  cases o with
  | none => simp [optOut] at h
  | some s =>
    simp only [optOut] at h
    split at h
    · simp at h
    · rename_i hs
      simp only [Option.some.injEq] at h
      subst h
      simpa using hs

mutual
theorem wfDeserAttrA : ∀ (X : AttrP) (W : AttrS), deserAttrA X = .ok W → wfAttrB W = true
  | .mk name doc ref ty tok ok g gs, W, h => by
    obtain ⟨hnu, h⟩ := deserAttrA_inv h
    rcases h with ⟨r, hr, rfl⟩ | ⟨_, ⟨_, g', hg, rfl⟩ | ⟨_, gs', hg, rfl⟩ | ⟨_, rfl⟩ | ⟨_, _, rfl⟩⟩
    · simp only [wfAttrB, Bool.and_eq_true, Bool.not_eq_true', beq_eq_false_iff_ne, ne_eq]
      exact ⟨by simpa using optOut_some_spec ref r hr, hnu⟩
    · simpa only [wfAttrB] using wfDeserGraphA g g' hg
    · simpa only [wfAttrB] using wfDeserGraphsA gs gs' hg
    · rfl
    · rfl
theorem wfDeserAttrsR : ∀ (X : List AttrP) (k : String) (b : AttrS), (k, .ok b) ∈ deserAttrsR X → wfAttrB b = true
  | [], _, _, h => by simp [deserAttrsR] at h
  | a :: as, k, b, h => by
    simp only [deserAttrsR, List.mem_cons, Prod.mk.injEq] at h
    rcases h with ⟨_, h⟩ | h
    · exact wfDeserAttrA a b h.symm
    · exact wfDeserAttrsR as k b h
theorem wfDeserNodeA : ∀ (X : NodeAP) (W : NodeAS), deserNodeA X = .ok W → wfNodeAB W = true
  | .mk attrs, W, h => by
    simp only [deserNodeA] at h
    split at h
    · simp at h
    · rename_i bs hs
      simp only [Except.ok.injEq] at h
      subst h
      simp only [wfNodeAB, Bool.and_eq_true]
      refine ⟨?_, ?_⟩
      · rw [keysNodupB_iff, seqA_keys AttrS.name _ bs hs
          (fun k b hb => deserAttrsR_named attrs k b (kvDict_mem _ _ hb))]
        exact kvDict_nodup _
      · apply wfAttrsB_of_mem
        intro b hb
        obtain ⟨k, hk⟩ := seqA_mem _ bs hs b hb
        exact wfDeserAttrsR attrs k b (kvDict_mem _ _ hk)
theorem wfDeserNodesA : ∀ (X : List NodeAP) (W : List NodeAS), deserNodesA X = .ok W → wfNodesAB W = true
  | [], W, h => by
    simp only [deserNodesA, Except.ok.injEq] at h
    subst h; rfl
  | n :: ns, W, h => by
    obtain ⟨n', ns', hn, hns, rfl⟩ := cons_ok_of_eq_mapE deserNodesA_eq h
    simp only [wfNodesAB, Bool.and_eq_true]
    exact ⟨wfDeserNodeA n n' hn, wfDeserNodesA ns ns' hns⟩
theorem wfDeserGraphA : ∀ (X : GraphAP) (W : GraphAS), deserGraphA X = .ok W → wfGraphAB W = true
  | .mk nodes, W, h => by
    simp only [deserGraphA] at h
    split at h
    · simp at h
    · rename_i ns hns
      simp only [Except.ok.injEq] at h
      subst h
      simpa only [wfGraphAB] using wfDeserNodesA nodes ns hns
theorem wfDeserGraphsA : ∀ (X : List GraphAP) (W : List GraphAS), deserGraphsA X = .ok W → wfGraphsAB W = true
  | [], W, h => by
    simp only [deserGraphsA, Except.ok.injEq] at h
    subst h; rfl
  | g :: gs, W, h => by
    obtain ⟨g', gs', hg, hgs, rfl⟩ := cons_ok_of_eq_mapE deserGraphsA_eq h
    simp only [wfGraphsAB, Bool.and_eq_true]
    exact ⟨wfDeserGraphA g g' hg, wfDeserGraphsA gs gs' hgs⟩
end

/-! ### alignment: the graphs of the attributes, concatenated in attribute order -/

theorem deserAttrA_subs (X : AttrP) (W : AttrS) (h : deserAttrA X = .ok W) : deserGraphsA X.subs = .ok W.subs := by
  obtain ⟨name, doc, ref, ty, tok, ok, g, gs⟩ := X
  rcases (deserAttrA_inv h).2 with ⟨r, hr, rfl⟩ | ⟨hr, ⟨hk, g', hg, rfl⟩ | ⟨hk, gs', hg, rfl⟩ | ⟨hk, rfl⟩ | ⟨hk, _, rfl⟩⟩
  · simp [AttrP.subs, hr, AttrS.subs, deserGraphsA]
  · simp [AttrP.subs, hr, hk, AttrS.subs, deserGraphsA, hg]
  · simp [AttrP.subs, hr, hk, AttrS.subs, hg]
  · simp [AttrP.subs, hr, hk, AttrS.subs, deserGraphsA]
  · simp [AttrP.subs, hr, hk, AttrS.subs, deserGraphsA]

theorem serAttrA_subs (W : AttrS) (Q : AttrP) (hw : wfAttrB W = true) (h : serAttrA W = .ok Q) :
    serGraphsA W.subs = .ok Q.subs := by
  cases W with
  | leaf n d ty v =>
    simp only [serAttrA] at h
    split at h
    · simp at h
    · rename_i hk
      split at h
      · simp at h
      · simp only [Except.ok.injEq] at h
        subst h
        simp [AttrP.subs, optOut_none', hk, AttrS.subs, serGraphsA]
    · simp at h
    · simp at h
    · simp at h
  | graph n d g =>
    simp only [serAttrA] at h
    split at h
    · simp at h
    · rename_i p hp
      simp only [Except.ok.injEq] at h
      subst h
      simp [AttrP.subs, optOut_none', kindOf_5, AttrS.subs, serGraphsA, hp]
  | graphs n d gs =>
    simp only [serAttrA] at h
    split at h
    · simp at h
    · rename_i ps hp
      simp only [Except.ok.injEq] at h
      subst h
      simp [AttrP.subs, optOut_none', kindOf_10, AttrS.subs, hp]
  | ref n d r ty =>
    simp only [serAttrA, Except.ok.injEq] at h
    subst h
    simp only [wfAttrB] at hw
    obtain ⟨h1, _⟩ := wfRef_split r ty hw
    simp [AttrP.subs, optOut_some_ne r h1, AttrS.subs, serGraphsA]

/-- serialization: the graphs written are the graphs of the attributes, in attribute order -/
theorem serAttrsA_subs : ∀ (W : List AttrS) (Q : List AttrP), wfAttrsB W = true → serAttrsA W = .ok Q →
    serGraphsA (subsOfS W) = .ok (subsOfP Q)
  | [], Q, _, h => by
    simp only [serAttrsA, Except.ok.injEq] at h
    subst h; rfl
  | a :: as, Q, hw, h => by
    obtain ⟨p, ps, hp, hps, rfl⟩ := cons_ok_of_eq_mapE serAttrsA_eq h
    simp only [wfAttrsB, Bool.and_eq_true] at hw
    simp only [subsOfS, subsOfP]
    exact append_ok_of_eq_mapE serGraphsA_eq (serAttrA_subs a p hw.1 hp) (serAttrsA_subs as ps hw.2 hps)

theorem deserAttrsR_eq_map : ∀ (as : List AttrP), deserAttrsR as = as.map fun a => (a.name, deserAttrA a)
  | [] => rfl
  | a :: as => by simp [deserAttrsR, deserAttrsR_eq_map as]

theorem seqA_subs : ∀ (S : List (String × AttrP)) (bs : List AttrS),
    seqA (S.map fun e => (e.1, deserAttrA e.2)) = .ok bs →
    deserGraphsA (subsOfP (S.map (·.2))) = .ok (subsOfS bs)
  | [], bs, h => by
    simp only [List.map_nil, seqA, Except.ok.injEq] at h
    subst h; rfl
  | (k, a) :: S, bs, h => by
    obtain ⟨b, bs', hb, hbs, rfl⟩ := cons_ok_of_eq_mapE seqA_eq h
    simp only [List.map_cons, subsOfP, subsOfS]
    exact append_ok_of_eq_mapE deserGraphsA_eq (deserAttrA_subs a b hb) (seqA_subs S bs' hbs)

/-- deserialization: the graphs held by the attributes of the node, in dict order, are the graphs of the surviving
    attributes of the proto, in order -/
theorem deserNodeA_subs (as : List AttrP) (bs : List AttrS) (h : deserNodeA (.mk as) = .ok (.mk bs)) :
    deserGraphsA (subsOfP (survivors as)) = .ok (subsOfS bs) := by
  simp only [deserNodeA] at h
  split at h
  · simp at h
  · rename_i bs' hs
    simp only [Except.ok.injEq, NodeAS.mk.injEq] at h
    subst h
    rw [deserAttrsR_eq_map] at hs
    have e : (as.map fun a => (a.name, deserAttrA a)) =
        (as.map fun a => (a.name, a)).map fun e => (e.1, deserAttrA e.2) := by
      simp [List.map_map, Function.comp_def]
    rw [e, kvDict_map] at hs
    exact seqA_subs _ _ hs

/-! ### a round trip changes nothing but a doc_string `""` -/

theorem optOut_of_docOk (d : Option String) (h : docOkB d = true) : optOut d = d := by
  cases d with
  | none => rfl
  | some s =>
    have : s ≠ "" := by simpa [docOkB] using h
    simp [optOut, this]

mutual
theorem canonAttrA_id : ∀ (a : AttrS), normAttrB a = true → canonAttrA a = a
  | .leaf _ d _ _, h => by
    simp only [normAttrB] at h
    simp only [canonAttrA, optOut_of_docOk d h]
  | .graph _ d g, h => by
    simp only [normAttrB, Bool.and_eq_true] at h
    simp only [canonAttrA, optOut_of_docOk d h.1, canonGraphA_id g h.2]
  | .graphs _ d gs, h => by
    simp only [normAttrB, Bool.and_eq_true] at h
    simp only [canonAttrA, optOut_of_docOk d h.1, canonGraphsA_id gs h.2]
  | .ref _ d _ _, h => by
    simp only [normAttrB] at h
    simp only [canonAttrA, optOut_of_docOk d h]
theorem canonAttrsA_id : ∀ (as : List AttrS), normAttrsB as = true → canonAttrsA as = as
  | [], _ => rfl
  | a :: as, h => by
    simp only [normAttrsB, Bool.and_eq_true] at h
    simp only [canonAttrsA, canonAttrA_id a h.1, canonAttrsA_id as h.2]
theorem canonNodeA_id : ∀ (n : NodeAS), normNodeAB n = true → canonNodeA n = n
  | .mk attrs, h => by
    simp only [normNodeAB] at h
    simp only [canonNodeA, canonAttrsA_id attrs h]
theorem canonNodesA_id : ∀ (ns : List NodeAS), normNodesAB ns = true → canonNodesA ns = ns
  | [], _ => rfl
  | n :: ns, h => by
    simp only [normNodesAB, Bool.and_eq_true] at h
    simp only [canonNodesA, canonNodeA_id n h.1, canonNodesA_id ns h.2]
theorem canonGraphA_id : ∀ (g : GraphAS), normGraphAB g = true → canonGraphA g = g
  | .mk nodes, h => by
    simp only [normGraphAB] at h
    simp only [canonGraphA, canonNodesA_id nodes h]
theorem canonGraphsA_id : ∀ (gs : List GraphAS), normGraphsAB gs = true → canonGraphsA gs = gs
  | [], _ => rfl
  | g :: gs, h => by
    simp only [normGraphsAB, Bool.and_eq_true] at h
    simp only [canonGraphsA, canonGraphA_id g h.1, canonGraphsA_id gs h.2]
end

/-! ### functions and the model -/

theorem rtFuncsA : ∀ (fs : List (FId × List NodeAS)) (ps : List FuncAP) (d : List (FId × List NodeAS)),
    (∀ f ∈ fs, wfNodesAB f.2 = true) → ((d ++ fs).map (·.1)).Nodup → serFuncsA fs = .ok ps →
    deserFuncsA d ps = .ok (d ++ fs.map (fun f => (f.1, canonNodesA f.2))) ∧
    serFuncsA (fs.map fun f => (f.1, canonNodesA f.2)) = .ok ps
  | [], ps, d, _, _, h => by
    simp only [serFuncsA, Except.ok.injEq] at h
    subst h
    simp [deserFuncsA, serFuncsA]
  | f :: fs, ps, d, hw, hk, h => by
    simp only [serFuncsA] at h
    split at h
    · simp at h
    · rename_i ns hns
      split at h
      · simp at h
      · rename_i ps' hps
        simp only [Except.ok.injEq] at h
        subst h
        obtain ⟨i1, i2⟩ := rtNodesA f.2 ns (hw f List.mem_cons_self) hns
        have hfresh := head_key_not_mem hk
        obtain ⟨a1, a2⟩ := rtFuncsA fs ps' (d ++ [(f.1, canonNodesA f.2)])
          (fun g hg => hw g (List.mem_cons_of_mem _ hg)) (by simpa using hk) hps
        refine ⟨?_, ?_⟩
        · simp only [deserFuncsA, i1]
          rw [kvSet_fresh d f.1 _ hfresh, a1]
          simp
        · simp only [List.map_cons, serFuncsA, i2, a2]

theorem rtModelA (W : ModelAS) (Q : ModelAP) (hw : wfModelAB W = true) (h : serModelA W = .ok Q) :
    deserModelA Q = .ok (canonModelA W) ∧ serModelA (canonModelA W) = .ok Q := by
  simp only [serModelA] at h
  split at h
  · simp at h
  · rename_i g hg
    split at h
    · simp at h
    · rename_i fs hfs
      simp only [Except.ok.injEq] at h
      subst h
      simp only [wfModelAB, Bool.and_eq_true, List.all_eq_true] at hw
      obtain ⟨⟨w1, w2⟩, w3⟩ := hw
      have k2 := (fidsNodupB_iff _).mp w2
      obtain ⟨g1, g2⟩ := rtGraphA W.graph g w1 hg
      obtain ⟨f1, f2⟩ := rtFuncsA W.funcs fs [] w3 (by simpa using k2) hfs
      simp only [List.nil_append] at f1
      exact ⟨by simp only [deserModelA, g1, f1, canonModelA], by simp only [canonModelA, serModelA, g2, f2]⟩

theorem deserFuncsA_wf : ∀ (fs : List FuncAP) (d d' : List (FId × List NodeAS)), deserFuncsA d fs = .ok d' →
    (d.map (·.1)).Nodup → (∀ e ∈ d, wfNodesAB e.2 = true) →
    (d'.map (·.1)).Nodup ∧ ∀ e ∈ d', wfNodesAB e.2 = true
  | [], d, d', h, h1, h2 => by
    simp only [deserFuncsA, Except.ok.injEq] at h
    subst h
    exact ⟨h1, h2⟩
  | f :: fs, d, d', h, h1, h2 => by
    simp only [deserFuncsA] at h
    split at h
    · simp at h
    · rename_i ns hns
      refine deserFuncsA_wf fs _ d' h (kvSet_keys_nodup d f.id ns h1) ?_
      intro e he
      rcases kvSet_mem d f.id ns e he with h3 | h3
      · exact h2 e h3
      · subst h3
        exact wfDeserNodesA f.nodes ns hns

theorem wfDeserModelA (X : ModelAP) (W : ModelAS) (h : deserModelA X = .ok W) : wfModelAB W = true := by
  simp only [deserModelA] at h
  split at h
  · simp at h
  · rename_i g hg
    split at h
    · simp at h
    · rename_i fs hfs
      simp only [Except.ok.injEq] at h
      subst h
      obtain ⟨k1, k2⟩ := deserFuncsA_wf X.funcs [] fs hfs (by simp) (by simp)
      simp only [wfModelAB, Bool.and_eq_true, List.all_eq_true]
      exact ⟨⟨wfDeserGraphA X.graph g hg, (fidsNodupB_iff _).mpr k1⟩, k2⟩

theorem canonModelA_id (W : ModelAS) (h : normModelAB W = true) : canonModelA W = W := by
  obtain ⟨g, fs⟩ := W
  simp only [normModelAB, Bool.and_eq_true, List.all_eq_true] at h
  simp only [canonModelA, canonGraphA_id g h.1]
  congr 1
  have : ∀ (l : List (FId × List NodeAS)), (∀ f ∈ l, normNodesAB f.2 = true) →
      l.map (fun f => (f.1, canonNodesA f.2)) = l := by
    intro l
    induction l with
    | nil => intro _; rfl
    | cons f l ih =>
      intro hl
      simp only [List.map_cons, canonNodesA_id f.2 (hl f List.mem_cons_self), ih fun g hg => hl g (List.mem_cons_of_mem _ hg)]
  exact this fs h.2

/-! ### after a successful deserialization, serialization raises only for an UNDEFINED attribute -/

mutual
theorem unsupAttrA : ∀ (X : AttrP) (W : AttrS) (e : AErr), deserAttrA X = .ok W → serAttrA W = .error e →
    e = .unsupported
  | .mk name doc ref ty tok ok g gs, W, e, h, hs => by
    rcases (deserAttrA_inv h).2 with ⟨r, hr, rfl⟩ | ⟨_, ⟨_, g', hg, rfl⟩ | ⟨_, gs', hg, rfl⟩ | ⟨hk, rfl⟩ | ⟨hk, _, rfl⟩⟩
    · simp [serAttrA] at hs
    · simp only [serAttrA] at hs
      split at hs
      · rename_i e' he
        simp only [Except.error.injEq] at hs
        subst hs
        exact unsupGraphA g g' _ hg he
      · simp at hs
    · simp only [serAttrA] at hs
      split at hs
      · rename_i e' he
        simp only [Except.error.injEq] at hs
        subst hs
        exact unsupGraphsA gs gs' _ hg he
      · simp at hs
    · simp only [serAttrA, hk, Except.error.injEq] at hs
      exact hs.symm
    · simp [serAttrA, hk] at hs
theorem unsupAttrsR : ∀ (X : List AttrP) (k : String) (b : AttrS) (e : AErr), (k, .ok b) ∈ deserAttrsR X →
    serAttrA b = .error e → e = .unsupported
  | [], _, _, _, h, _ => by simp [deserAttrsR] at h
  | a :: as, k, b, e, h, hs => by
    simp only [deserAttrsR, List.mem_cons, Prod.mk.injEq] at h
    rcases h with ⟨_, h⟩ | h
    · exact unsupAttrA a b e h.symm hs
    · exact unsupAttrsR as k b e h hs
theorem unsupNodeA : ∀ (X : NodeAP) (W : NodeAS) (e : AErr), deserNodeA X = .ok W → serNodeA W = .error e →
    e = .unsupported
  | .mk attrs, W, e, h, hs => by
    simp only [deserNodeA] at h
    split at h
    · simp at h
    · rename_i bs hbs
      simp only [Except.ok.injEq] at h
      subst h
      simp only [serNodeA] at hs
      split at hs
      · rename_i e' he
        simp only [Except.error.injEq] at hs
        subst hs
        obtain ⟨b, hb, hbe⟩ := mem_error_of_eq_mapE serAttrsA_eq he
        obtain ⟨k, hk⟩ := seqA_mem _ bs hbs b hb
        exact unsupAttrsR attrs k b _ (kvDict_mem _ _ hk) hbe
      · simp at hs
theorem unsupNodesA : ∀ (X : List NodeAP) (W : List NodeAS) (e : AErr), deserNodesA X = .ok W →
    serNodesA W = .error e → e = .unsupported
  | [], W, e, h, hs => by
    simp only [deserNodesA, Except.ok.injEq] at h
    subst h
    simp [serNodesA] at hs
  | n :: ns, W, e, h, hs => by
    obtain ⟨n', ns', hn, hns, rfl⟩ := cons_ok_of_eq_mapE deserNodesA_eq h
    rcases cons_error_of_eq_mapE serNodesA_eq hs with he | he
    · exact unsupNodeA n n' _ hn he
    · exact unsupNodesA ns ns' _ hns he
theorem unsupGraphA : ∀ (X : GraphAP) (W : GraphAS) (e : AErr), deserGraphA X = .ok W → serGraphA W = .error e →
    e = .unsupported
  | .mk nodes, W, e, h, hs => by
    simp only [deserGraphA] at h
    split at h
    · simp at h
    · rename_i ns hns
      simp only [Except.ok.injEq] at h
      subst h
      simp only [serGraphA] at hs
      split at hs
      · rename_i e' he
        simp only [Except.error.injEq] at hs
        subst hs
        exact unsupNodesA nodes ns _ hns he
      · simp at hs
theorem unsupGraphsA : ∀ (X : List GraphAP) (W : List GraphAS) (e : AErr), deserGraphsA X = .ok W →
    serGraphsA W = .error e → e = .unsupported
  | [], W, e, h, hs => by
    simp only [deserGraphsA, Except.ok.injEq] at h
    subst h
    simp [serGraphsA] at hs
  | g :: gs, W, e, h, hs => by
    obtain ⟨g', gs', hg, hgs, rfl⟩ := cons_ok_of_eq_mapE deserGraphsA_eq h
    rcases cons_error_of_eq_mapE serGraphsA_eq hs with he | he
    · exact unsupGraphA g g' _ hg he
    · exact unsupGraphsA gs gs' _ hgs he
end

theorem serFuncsA_err_of_mem : ∀ (fs : List (FId × List NodeAS)) (e : AErr), serFuncsA fs = .error e →
    ∃ f ∈ fs, serNodesA f.2 = .error e
  | [], e, h => by simp [serFuncsA] at h
  | f :: fs, e, h => by
    simp only [serFuncsA] at h
    split at h
    · rename_i e' hf
      simp only [Except.error.injEq] at h
      subst h
      exact ⟨f, by simp, hf⟩
    · split at h
      · rename_i e' hfs
        simp only [Except.error.injEq] at h
        subst h
        obtain ⟨c, hc, hce⟩ := serFuncsA_err_of_mem fs _ hfs
        exact ⟨c, by simp [hc], hce⟩
      · simp at h

theorem deserFuncsA_unsup : ∀ (fs : List FuncAP) (d d' : List (FId × List NodeAS)), deserFuncsA d fs = .ok d' →
    (∀ f ∈ d, ∀ e, serNodesA f.2 = .error e → e = .unsupported) →
    ∀ f ∈ d', ∀ e, serNodesA f.2 = .error e → e = .unsupported
  | [], d, d', h, hd => by
    simp only [deserFuncsA, Except.ok.injEq] at h
    subst h
    exact hd
  | f :: fs, d, d', h, hd => by
    simp only [deserFuncsA] at h
    split at h
    · simp at h
    · rename_i ns hns
      refine deserFuncsA_unsup fs _ d' h ?_
      intro g hg e he
      rcases kvSet_mem d f.id ns g hg with h3 | h3
      · exact hd g h3 e he
      · subst h3
        exact unsupNodesA f.nodes ns e hns he

theorem unsupModelA (X : ModelAP) (W : ModelAS) (e : AErr) (h : deserModelA X = .ok W)
    (hs : serModelA W = .error e) : e = .unsupported := by
  simp only [deserModelA] at h
  split at h
  · simp at h
  · rename_i g hg
    split at h
    · simp at h
    · rename_i fs hfs
      simp only [Except.ok.injEq] at h
      subst h
      simp only [serModelA] at hs
      split at hs
      · rename_i e' he
        simp only [Except.error.injEq] at hs
        subst hs
        exact unsupGraphA X.graph g _ hg he
      · split at hs
        · rename_i e' he
          simp only [Except.error.injEq] at hs
          subst hs
          obtain ⟨f, hf, hfe⟩ := serFuncsA_err_of_mem fs _ he
          exact deserFuncsA_unsup X.funcs [] fs hfs (by simp) f hf _ hfe
        · simp at hs

end IrVerif.Scope
