/-
C14: RemoveUnusedOpsetsPass and RemoveUnusedFunctionsPass on their own transcriptions: flag, measure, and the pass applied
to its own result removes nothing.
-/
import IrVerif.Model.PassFlags2
import IrVerif.Lemmas.PassInfra
namespace IrVerif.PassFlags

/-! ## RemoveUnusedOpsets -/

theorem opsetsGL_false (seed : List String) (g : OpsetGL) (h : (opsetsGL seed g).2 = false) :
    (opsetsGL seed g).1 = g := by
  cases g with
  | mk imports domains =>
    simp only [opsetsGL] at h ⊢
    rw [filter_of_any_false _ imports h]

theorem opsetsGL_idem (seed : List String) (g : OpsetGL) :
    opsetsGL seed (opsetsGL seed g).1 = ((opsetsGL seed g).1, false) := by
  cases g with
  | mk imports domains =>
    simp only [opsetsGL, List.filter_filter, Bool.and_self, any_not_filter]

theorem opsetsGL_size (seed : List String) (g : OpsetGL) :
    (opsetsGL seed g).1.imports.length ≤ g.imports.length ∧
    ((opsetsGL seed g).2 = true → (opsetsGL seed g).1.imports.length < g.imports.length) := by
  cases g with
  | mk imports domains =>
    exact ⟨List.length_filter_le _ _, fun h => filter_lt_of_any _ imports h⟩

theorem opsets_funcs_false : ∀ fs : List (String × OpsetGL), fs.any (fun f => (opsetsGL [""] f.2).2) = false →
    fs.map (fun f => (f.1, (opsetsGL [""] f.2).1)) = fs
  | [], _ => rfl
  | f :: fs, h => by
    simp only [List.any_cons, Bool.or_eq_false_iff] at h
    simp only [List.map_cons, opsetsGL_false [""] f.2 h.1, opsets_funcs_false fs h.2]

theorem opsets_funcs_idem : ∀ fs : List (String × OpsetGL),
    (fs.map (fun f => (f.1, (opsetsGL [""] f.2).1))).map (fun f => (f.1, (opsetsGL [""] f.2).1)) =
      fs.map (fun f => (f.1, (opsetsGL [""] f.2).1)) ∧
    (fs.map (fun f => (f.1, (opsetsGL [""] f.2).1))).any (fun f => (opsetsGL [""] f.2).2) = false ∧
    (fs.map (fun f => (f.1, (opsetsGL [""] f.2).1))).map Prod.fst = fs.map Prod.fst
  | [] => ⟨rfl, rfl, rfl⟩
  | f :: fs => by
    obtain ⟨h1, h2, h3⟩ := opsets_funcs_idem fs
    have hi := opsetsGL_idem [""] f.2
    refine ⟨?_, ?_, ?_⟩
    · simp only [List.map_cons, h1, hi]
    · simp only [List.map_cons, List.any_cons, hi, h2, Bool.or_self]
    · simp only [List.map_cons, h3]

theorem opsets_funcs_size : ∀ fs : List (String × OpsetGL),
    ((fs.map (fun f => (f.1, (opsetsGL [""] f.2).1))).map (fun f => f.2.imports.length)).sum ≤
      (fs.map (fun f => f.2.imports.length)).sum ∧
    (fs.any (fun f => (opsetsGL [""] f.2).2) = true →
      ((fs.map (fun f => (f.1, (opsetsGL [""] f.2).1))).map (fun f => f.2.imports.length)).sum <
        (fs.map (fun f => f.2.imports.length)).sum)
  | [] => ⟨Nat.le_refl _, fun h => by simp at h⟩
  | f :: fs => by
    obtain ⟨h1, h2⟩ := opsets_funcs_size fs
    obtain ⟨g1, g2⟩ := opsetsGL_size [""] f.2
    refine ⟨by simp only [List.map_cons, List.sum_cons]; omega, fun h => ?_⟩
    simp only [List.any_cons, Bool.or_eq_true] at h
    simp only [List.map_cons, List.sum_cons]
    rcases h with h | h
    · have := g2 h; omega
    · have := h2 h; omega

/-! ## RemoveUnusedFunctions -/

/-- total number of nodes of the functions that are not yet used -/
def fnRest : List (Nat × List Nat) → List Nat → Nat
  | [], _ => 0
  | f :: fs, used => (if used.contains f.1 then 0 else f.2.length) + fnRest fs used

theorem fnRest_cons_le (k : Nat) : ∀ (funcs : List (Nat × List Nat)) (used : List Nat),
    fnRest funcs (k :: used) ≤ fnRest funcs used
  | [], _ => Nat.le_refl _
  | (k', b') :: funcs, used => by
    have ih := fnRest_cons_le k funcs used
    simp only [fnRest, List.contains_cons]
    by_cases h1 : used.contains k' = true
    · simp only [h1, Bool.or_true, if_true]; omega
    · simp only [Bool.not_eq_true] at h1
      simp only [h1, Bool.or_false, Bool.false_eq_true, if_false]
      split <;> omega

theorem fnRest_drop (k : Nat) (body : List Nat) : ∀ (funcs : List (Nat × List Nat)) (used : List Nat),
    funcs.lookup k = some body → used.contains k = false →
    body.length + fnRest funcs (k :: used) ≤ fnRest funcs used
  | [], _, h, _ => by simp at h
  | (k', b') :: funcs, used, h, hu => by
    simp only [List.lookup_cons] at h
    by_cases hk : (k == k') = true
    · have e : k = k' := by simpa using hk
      subst e
      simp only [hk, Option.some.injEq] at h
      subst h
      have := fnRest_cons_le k funcs used
      simp only [fnRest, List.contains_cons, beq_self_eq_true, Bool.true_or, if_true, hu, Bool.false_eq_true,
        if_false]
      omega
    · simp only [Bool.not_eq_true] at hk
      simp only [hk] at h
      have ih := fnRest_drop k body funcs used h hu
      have hk' : (k' == k) = false := by
        simp only [beq_eq_false_iff_ne, ne_eq] at hk ⊢
        exact fun e => hk e.symm
      simp only [fnRest, List.contains_cons, hk', Bool.false_or]
      omega

/-- with enough fuel the result does not depend on the fuel: every step lowers `work.length + fnRest funcs used`
    (a popped callee either was used already, or its nodes leave `fnRest` and enter `work`) -/
theorem fnVisit_fuel (funcs : List (Nat × List Nat)) : ∀ (f1 f2 : Nat) (work used : List Nat),
    work.length + fnRest funcs used ≤ f1 → work.length + fnRest funcs used ≤ f2 →
    fnVisit funcs f1 work used = fnVisit funcs f2 work used
  | f1, f2, [], used, _, _ => by
    cases f1 <;> cases f2 <;> simp [fnVisit]
  | 0, _, k :: work, used, h, _ => by simp at h
  | _ + 1, 0, k :: work, used, _, h => by simp at h
  | a + 1, b + 1, k :: work, used, h1, h2 => by
    simp only [List.length_cons] at h1 h2
    simp only [fnVisit]
    cases hl : funcs.lookup k with
    | none => exact fnVisit_fuel funcs a b work used (by omega) (by omega)
    | some body =>
      by_cases hu : used.contains k = true
      · simp only [hu, if_true]
        exact fnVisit_fuel funcs a b work used (by omega) (by omega)
      · simp only [hu, Bool.false_eq_true, if_false]
        have hd := fnRest_drop k body funcs used hl (by simpa using hu)
        exact fnVisit_fuel funcs a b (body ++ work) (k :: used)
          (by simp only [List.length_append]; omega) (by simp only [List.length_append]; omega)

theorem fnVisit_mono (funcs : List (Nat × List Nat)) : ∀ (fuel : Nat) (work used : List Nat) (x : Nat),
    x ∈ used → x ∈ fnVisit funcs fuel work used
  | 0, _, _, _, h => by simpa [fnVisit] using h
  | _ + 1, [], _, _, h => by simpa [fnVisit] using h
  | fuel + 1, k :: work, used, x, h => by
    simp only [fnVisit]
    cases hl : funcs.lookup k with
    | none => exact fnVisit_mono funcs fuel work used x h
    | some body =>
      by_cases hu : used.contains k = true
      · simp only [hu, if_true]; exact fnVisit_mono funcs fuel work used x h
      · simp only [hu, Bool.false_eq_true, if_false]
        exact fnVisit_mono funcs fuel (body ++ work) (k :: used) x (List.mem_cons_of_mem _ h)

theorem lookup_filter_key (p : Nat → Bool) (k : Nat) : ∀ funcs : List (Nat × List Nat),
    (funcs.filter (fun f => p f.1)).lookup k = if p k then funcs.lookup k else none
  | [] => by simp
  | (k', b') :: funcs => by
    have ih := lookup_filter_key p k funcs
    simp only [List.filter_cons]
    by_cases hp : p k' = true
    · simp only [hp, if_true, List.lookup_cons]
      by_cases hk : (k == k') = true
      · have e : k = k' := by simpa using hk
        subst e
        simp only [beq_self_eq_true, hp, if_true]
      · simp only [Bool.not_eq_true] at hk
        simp only [hk, ih]
    · simp only [hp, Bool.false_eq_true, if_false, List.lookup_cons, ih]
      by_cases hk : (k == k') = true
      · have e : k = k' := by simpa using hk
        subst e
        simp only [beq_self_eq_true, hp, Bool.false_eq_true, if_false]
      · simp only [Bool.not_eq_true] at hk
        simp only [hk]

/-- a run all of whose used functions survive the filter is the same run on the filtered table -/
theorem fnVisit_filter (funcs : List (Nat × List Nat)) (U : List Nat) : ∀ (fuel : Nat) (work used : List Nat),
    (∀ x ∈ fnVisit funcs fuel work used, x ∈ U) →
    fnVisit (funcs.filter (fun f => U.contains f.1)) fuel work used = fnVisit funcs fuel work used
  | 0, _, _, _ => by simp [fnVisit]
  | _ + 1, [], _, _ => by simp [fnVisit]
  | fuel + 1, k :: work, used, h => by
    simp only [fnVisit] at h ⊢
    rw [lookup_filter_key (fun x => U.contains x) k funcs]
    cases hl : funcs.lookup k with
    | none =>
      simp only [hl] at h
      simp only [ite_self]
      exact fnVisit_filter funcs U fuel work used h
    | some body =>
      simp only [hl] at h
      by_cases hu : used.contains k = true
      · simp only [hu, if_true] at h ⊢
        have ih := fnVisit_filter funcs U fuel work used h
        split <;> simp only [ih]
      · simp only [hu, Bool.false_eq_true, if_false] at h ⊢
        have hk : U.contains k = true := by
          have := h k (fnVisit_mono funcs fuel (body ++ work) (k :: used) k List.mem_cons_self)
          simpa using this
        simp only [hk, if_true]
        exact fnVisit_filter funcs U fuel (body ++ work) (k :: used) h

theorem fnRest_nil : ∀ funcs : List (Nat × List Nat), fnRest funcs [] = (funcs.map (fun f => f.2.length)).sum
  | [] => rfl
  | f :: funcs => by simp [fnRest, fnRest_nil funcs]

/-- the functions that survive are exactly the used ones of the result -/
theorem fnUsed_filtered (s : FnSt) :
    fnUsed { s with funcs := s.funcs.filter (fun f => (fnUsed s).contains f.1) } = fnUsed s := by
  generalize hU : fnUsed s = U
  have hle := PassInfra.sum_map_filter_le (fun f : Nat × List Nat => f.2.length) (fun f => U.contains f.1) s.funcs
  have h1 : fnUsed { s with funcs := s.funcs.filter (fun f => U.contains f.1) } =
      fnVisit (s.funcs.filter (fun f => U.contains f.1))
        (s.main.length + (s.funcs.map (fun f => f.2.length)).sum) s.main [] := by
    simp only [fnUsed]
    apply fnVisit_fuel
    · rw [fnRest_nil]; exact Nat.le_refl _
    · rw [fnRest_nil]; omega
  rw [h1]
  simp only [fnUsed] at hU
  have := fnVisit_filter s.funcs U (s.main.length + (s.funcs.map (fun f => f.2.length)).sum) s.main []
    (fun x hx => by rw [hU] at hx; exact hx)
  rw [this, hU]

end IrVerif.PassFlags
