/-
C12 — determinism: the result of the sort is equivariant under any injective renaming of node
identities and of graph identities, i.e. it depends only on the structure of the tree and on the
current node order, never on which identities (creation indices, addresses) the objects carry.
After `sortModel_ren`: the renaming of the graph list and of the observable effects, for the other equivariance theorems.
-/
import IrVerif.Lemmas.SortPos

namespace IrVerif.Sort
open List

mutual
/-- rename node ids by `σ` and graph ids by `τ` everywhere in a node tree -/
def renN (σ τ : Nat → Nat) : MNode → MNode
  | .mk i ins subs => .mk (σ i) (ins.map (Option.map σ)) (renGs σ τ subs)
def renGs (σ τ : Nat → Nat) : List (Nat × List MNode) → List (Nat × List MNode)
  | [] => []
  | (k, ns) :: gs => (τ k, renNs σ τ ns) :: renGs σ τ gs
def renNs (σ τ : Nat → Nat) : List MNode → List MNode
  | [] => []
  | n :: ns => renN σ τ n :: renNs σ τ ns
end

def renG (σ τ : Nat → Nat) (g : MGraph) : MGraph := (τ g.1, renNs σ τ g.2)

def renEnt (σ τ : Nat → Nat) (e : Ent) : Ent :=
  ⟨σ e.id, τ e.gid, e.inputs.map (Option.map σ), e.subNodes.map σ⟩

/-- renaming of a result / of the list of current orders -/
def renOrders (σ τ : Nat → Nat) (r : List (Nat × List Nat)) : List (Nat × List Nat) :=
  r.map (fun gc => (τ gc.1, gc.2.map σ))

variable (σ τ : Nat → Nat)

theorem renNs_ids (ns : List MNode) : (renNs σ τ ns).map MNode.id = (ns.map MNode.id).map σ := by
  induction ns with
  | nil => simp [renNs]
  | cons n ns ih => cases n; simp [renNs, renN, MNode.id, ih]

theorem subNodeIds_ren (gs : List MGraph) :
    subNodeIds (renGs σ τ gs) = (subNodeIds gs).map σ := by
  induction gs with
  | nil => simp [renGs, subNodeIds]
  | cons g gs ih =>
    obtain ⟨k, ns⟩ := g
    simp only [subNodeIds, renGs, List.flatMap_cons, List.map_append] at *
    rw [ih, renNs_ids]

mutual
theorem entsN_ren : ∀ (k : Nat) (n : MNode),
    entsN (τ k) (renN σ τ n) = (entsN k n).map (renEnt σ τ)
  | k, .mk i ins subs => by
    simp only [renN, entsN, List.map_cons, renEnt, subNodeIds_ren, entsGs_ren subs]
theorem entsGs_ren : ∀ gs : List (Nat × List MNode),
    entsGs (renGs σ τ gs) = (entsGs gs).map (renEnt σ τ)
  | [] => by simp [renGs, entsGs]
  | (k, ns) :: gs => by
    simp only [renGs, entsGs, List.map_append, entsNs_ren k ns, entsGs_ren gs]
theorem entsNs_ren : ∀ (k : Nat) (ns : List MNode),
    entsNs (τ k) (renNs σ τ ns) = (entsNs k ns).map (renEnt σ τ)
  | _, [] => by simp [renNs, entsNs]
  | k, n :: ns => by
    simp only [renNs, entsNs, List.map_append, entsN_ren k n, entsNs_ren k ns]
end

theorem nodesOf_ren (g : MGraph) : nodesOf (renG σ τ g) = (nodesOf g).map (renEnt σ τ) :=
  entsNs_ren σ τ g.1 g.2

mutual
theorem subgraphsN_ren : ∀ n : MNode,
    subgraphsN (renN σ τ n) = (subgraphsN n).map (renG σ τ)
  | .mk i ins subs => by simp only [renN, subgraphsN, subgraphsGs_ren subs]
theorem subgraphsGs_ren : ∀ gs : List (Nat × List MNode),
    subgraphsGs (renGs σ τ gs) = (subgraphsGs gs).map (renG σ τ)
  | [] => by simp [renGs, subgraphsGs]
  | (k, ns) :: gs => by
    simp only [renGs, subgraphsGs, List.map_append, List.map_cons, subgraphsNs_ren ns,
      subgraphsGs_ren gs, renG]
theorem subgraphsNs_ren : ∀ ns : List MNode,
    subgraphsNs (renNs σ τ ns) = (subgraphsNs ns).map (renG σ τ)
  | [] => by simp [renNs, subgraphsNs]
  | n :: ns => by
    simp only [renNs, subgraphsNs, List.map_append, subgraphsN_ren n, subgraphsNs_ren ns]
end

theorem graphsOf_ren (g : MGraph) : graphsOf (renG σ τ g) = renOrders σ τ (graphsOf g) := by
  simp only [graphsOf, allGraphs, renOrders, List.map_cons, List.map_map]
  rw [show (renG σ τ g).2 = renNs σ τ g.2 from rfl, subgraphsNs_ren, List.map_map]
  congr 1
  · simp [orderOf, renG, renNs_ids]
  · apply List.map_congr_left
    intro h _
    simp [orderOf, renG, renNs_ids]

variable {σ τ}

theorem indexOfId_ren (hσ : Function.Injective σ) (U : List Ent) (p : Nat) :
    indexOfId (U.map (renEnt σ τ)) (σ p) = indexOfId U p := by
  unfold indexOfId
  rw [List.findIdx?_map]
  congr 1
  funext e
  simp only [Function.comp, renEnt]
  by_cases h : e.id = p
  · simp [h]
  · have : σ e.id ≠ σ p := fun hc => h (hσ hc)
    simp [h, this]

theorem predsOfEnt_ren (hσ : Function.Injective σ) (U : List Ent) (e : Ent) :
    predsOfEnt (U.map (renEnt σ τ)) (renEnt σ τ e) = predsOfEnt U e := by
  simp only [predsOfEnt, renEnt, List.filterMap_map]
  congr 1
  · apply List.filterMap_congr
    intro o _
    cases o with
    | none => rfl
    | some a => simp [Function.comp, indexOfId_ren (τ := τ) hσ U a]
  · apply List.filterMap_congr
    intro a _
    simp [Function.comp, indexOfId_ren (τ := τ) hσ U a]

theorem predsAt_ren (hσ : Function.Injective σ) (U : List Ent) :
    predsAt (U.map (renEnt σ τ)) = predsAt U := by
  funext i
  simp only [predsAt, List.getElem?_map]
  cases h : U[i]? with
  | none => rfl
  | some e => simp [predsOfEnt_ren (τ := τ) hσ U e]

theorem bucket_ren (hτ : Function.Injective τ) (U : List Ent) (out : List Nat) (k : Nat) :
    bucket (U.map (renEnt σ τ)) out (τ k) = (bucket U out k).map σ := by
  simp only [bucket, List.getElem?_map]
  rw [show (fun i => Option.map (renEnt σ τ) U[i]?) = (fun i => Option.map (renEnt σ τ) ((fun i => U[i]?) i)) from rfl,
    ← List.map_filterMap, List.filter_map, List.map_map, List.map_map]
  congr 1
  apply List.filter_congr
  intro e _
  simp only [Function.comp, renEnt]
  by_cases h : e.gid = k
  · simp [h]
  · have : τ e.gid ≠ τ k := fun hc => h (hτ hc)
    simp [h, this]

theorem appendMove_ren (hσ : Function.Injective σ) (l : List Nat) (x : Nat) :
    appendMove (l.map σ) (σ x) = (appendMove l x).map σ := by
  unfold appendMove
  rw [List.getLast?_map]
  by_cases h : l.getLast? = some x
  · simp [h]
  · have : Option.map σ l.getLast? ≠ some (σ x) := by
      intro hc
      cases hl : l.getLast? with
      | none => simp [hl] at hc
      | some y => simp [hl] at hc; exact h (by rw [hl, hσ hc])
    rw [if_neg h, if_neg this, List.map_append, List.map_erase hσ]
    simp

theorem relink_ren (hσ : Function.Injective σ) (cur xs : List Nat) :
    relink (cur.map σ) (xs.map σ) = (relink cur xs).map σ := by
  induction xs generalizing cur with
  | nil => simp [relink]
  | cons x xs ih =>
    simp only [relink, List.map_cons, List.foldl_cons] at *
    rw [appendMove_ren hσ, ih]

theorem sharedGraph_ren (hσ : Function.Injective σ) (U : List Ent) :
    sharedGraph (U.map (renEnt σ τ)) = sharedGraph U := by
  unfold sharedGraph
  have : (U.map (renEnt σ τ)).map Ent.id = (U.map Ent.id).map σ := by
    simp [List.map_map, Function.comp, renEnt]
  rw [this]
  by_cases h : (U.map Ent.id).Nodup
  · have h2 : ((U.map Ent.id).map σ).Nodup := (List.nodup_map_iff hσ).2 h
    rw [decide_eq_true h, decide_eq_true h2]
  · have h2 : ¬ ((U.map Ent.id).map σ).Nodup := fun hc => h ((List.nodup_map_iff hσ).1 hc)
    rw [decide_eq_false h, decide_eq_false h2]

/-- **equivariance of the whole sort** under injective renaming of node and graph identities -/
theorem sortModel_ren (hσ : Function.Injective σ) (hτ : Function.Injective τ) (g : MGraph) :
    sortModel (renG σ τ g) = (sortModel g).map (renOrders σ τ) := by
  simp only [sortModel, nodesOf_ren, List.length_map, predsAt_ren (τ := τ) hσ, graphsOf_ren,
    sharedGraph_ren (τ := τ) hσ]
  split
  · rfl
  split
  · rfl
  · simp only [Option.map_some, renOrders, List.map_map]
    congr 1
    apply List.map_congr_left
    intro gc _
    simp only [Function.comp]
    rw [bucket_ren hτ, relink_ren hσ]

theorem allGraphs_ren (σ τ : Nat → Nat) (g : MGraph) :
    allGraphs (renG σ τ g) = (allGraphs g).map (renG σ τ) := by
  simp only [allGraphs, List.map_cons]
  rw [show (renG σ τ g).2 = renNs σ τ g.2 from rfl, subgraphsNs_ren]

/-- renaming of one observable effect -/
def renEff (σ τ : Nat → Nat) : Eff → Eff
  | .relink k xs => .relink (τ k) (xs.map σ)
  | .raise => .raise

theorem runEffs_ren {σ τ : Nat → Nat} (hσ : Function.Injective σ) (hτ : Function.Injective τ)
    (es : List Eff) : ∀ st : List (Nat × List Nat),
    runEffs (renOrders σ τ st) (es.map (renEff σ τ)) =
      ((runEffs st es).1, renOrders σ τ (runEffs st es).2) := by
  induction es with
  | nil => intro st; rfl
  | cons e es ih =>
    intro st
    cases e with
    | raise => rfl
    | relink k xs =>
      simp only [List.map_cons, renEff, runEffs, applyEff]
      have : (renOrders σ τ st).map (fun gc => if gc.1 = τ k then (gc.1, relink gc.2 (xs.map σ)) else gc)
          = renOrders σ τ (st.map (fun gc => if gc.1 = k then (gc.1, relink gc.2 xs) else gc)) := by
        simp only [renOrders, List.map_map]
        apply List.map_congr_left
        intro gc _
        simp only [Function.comp]
        by_cases h : gc.1 = k
        · simp [h, relink_ren hσ]
        · have : τ gc.1 ≠ τ k := fun hc => h (hτ hc)
          simp [h, this]
      rw [this]
      exact ih _

theorem count_map_inj {σ : Nat → Nat} (hσ : Function.Injective σ) (l : List Nat) (x : Nat) :
    (l.map σ).count (σ x) = l.count x := by
  induction l with
  | nil => rfl
  | cons a as ih =>
    simp only [List.map_cons, List.count_cons, ih]
    by_cases h : a = x
    · subst h; simp
    · have : σ a ≠ σ x := fun hc => h (hσ hc)
      simp [h, this]

end IrVerif.Sort
