/-
Helper development for property C18: declarative specification of "used inside a nested graph",
"needed values/nodes of a region", the invariant of the backward walk, sorting the collected nodes by source index.
-/
import IrVerif.Model.Extract
namespace IrVerif.Extract

theorem val_out_of_range {W : World} {v : VId} (h : W.vals.length ≤ v) : W.val v = {} := by
  unfold World.val
  simp [List.getD, List.getElem?_eq_none h]

theorem graphOf_out_of_range {W : World} {v : VId} (h : W.vals.length ≤ v) : W.graphOf v = none := by
  unfold World.graphOf; rw [val_out_of_range h]

theorem prod_out_of_range {W : World} {v : VId} (h : W.vals.length ≤ v) : W.prod v = none := by
  unfold World.prod; rw [val_out_of_range h]

theorem isInit_out_of_range {W : World} {v : VId} (h : W.vals.length ≤ v) : W.isInit v = false := by
  unfold World.isInit; rw [val_out_of_range h]

/-! ## values used inside nested graphs, declaratively -/

mutual
  /-- `v` is an input of some node of `g` or of a graph nested in `g` at any depth -/
  inductive UsedInG : GraphT → VId → Prop
    | node {g : GraphT} {n : NodeT} {v : VId} : n ∈ g.nodes → UsedInN n v → UsedInG g v
  inductive UsedInN : NodeT → VId → Prop
    | direct {n : NodeT} {v : VId} : some v ∈ n.inputs → UsedInN n v
    | nested {n : NodeT} {b : GraphT} {v : VId} : b ∈ n.bodies → UsedInG b v → UsedInN n v
end

theorem mem_ins {n : NodeT} {v : VId} : v ∈ n.ins ↔ some v ∈ n.inputs := by
  unfold NodeT.ins
  simp [List.mem_filterMap]

mutual
  theorem mem_usedG : ∀ (g : GraphT) (v : VId), v ∈ usedG g ↔ UsedInG g v
    | .mk gid i w o ns, v => by
      rw [usedG]
      constructor
      · intro h
        obtain ⟨n, hn, hu⟩ := (mem_usedNs ns v).mp h
        exact UsedInG.node (g := .mk gid i w o ns) hn hu
      · intro h
        cases h with
        | node hn hu => exact (mem_usedNs ns v).mpr ⟨_, hn, hu⟩
  theorem mem_usedNs : ∀ (ns : List NodeT) (v : VId), v ∈ usedNs ns ↔ ∃ n, n ∈ ns ∧ UsedInN n v
    | [], v => by simp [usedNs]
    | n :: ns, v => by
      rw [usedNs, List.mem_append, mem_usedN n v, mem_usedNs ns v]
      simp
  theorem mem_usedN : ∀ (n : NodeT) (v : VId), v ∈ usedN n ↔ UsedInN n v
    | .mk ins outs bs, v => by
      rw [usedN, List.mem_append]
      constructor
      · intro h
        rcases h with h | h
        · exact UsedInN.direct (n := .mk ins outs bs) (by simpa [List.mem_filterMap] using h)
        · obtain ⟨b, hb, hu⟩ := (mem_usedGs bs v).mp h
          exact UsedInN.nested (n := .mk ins outs bs) hb hu
      · intro h
        cases h with
        | direct hd => left; simpa [List.mem_filterMap] using hd
        | nested hb hu => right; exact (mem_usedGs bs v).mpr ⟨_, hb, hu⟩
  theorem mem_usedGs : ∀ (gs : List GraphT) (v : VId), v ∈ usedGs gs ↔ ∃ g, g ∈ gs ∧ UsedInG g v
    | [], v => by simp [usedGs]
    | g :: gs, v => by
      rw [usedGs, List.mem_append, mem_usedG g v, mem_usedGs gs v]
      simp
end

mutual
  /-- `v` is defined in `g` or in a graph nested in `g`: graph input, initializer or node output -/
  inductive DefInG : GraphT → VId → Prop
    | input {g : GraphT} {v : VId} : v ∈ g.inputs → DefInG g v
    | init {g : GraphT} {v : VId} : v ∈ g.inits → DefInG g v
    | node {g : GraphT} {n : NodeT} {v : VId} : n ∈ g.nodes → DefInN n v → DefInG g v
  inductive DefInN : NodeT → VId → Prop
    | out {n : NodeT} {v : VId} : v ∈ n.outputs → DefInN n v
    | nested {n : NodeT} {b : GraphT} {v : VId} : b ∈ n.bodies → DefInG b v → DefInN n v
end

/-- `k` is the id of `b` or of a graph nested in `b` at any depth -/
inductive NestedIn : GraphT → GId → Prop
  | self {b : GraphT} : NestedIn b b.gid
  | deeper {b c : GraphT} {n : NodeT} {k : GId} : n ∈ b.nodes → c ∈ n.bodies → NestedIn c k → NestedIn b k

mutual
  theorem mem_gidsG : ∀ (g : GraphT) (k : GId), k ∈ gidsG g ↔ NestedIn g k
    | .mk gid i w o ns, k => by
      rw [gidsG, List.mem_cons, mem_gidsNs ns k]
      constructor
      · rintro (rfl | ⟨n, hn, c, hc, h⟩)
        · exact NestedIn.self (b := .mk k i w o ns)
        · exact NestedIn.deeper (b := .mk gid i w o ns) hn hc h
      · intro h
        cases h with
        | self => exact Or.inl rfl
        | deeper hn hc h => exact Or.inr ⟨_, hn, _, hc, h⟩
  theorem mem_gidsNs : ∀ (ns : List NodeT) (k : GId),
      k ∈ gidsNs ns ↔ ∃ n, n ∈ ns ∧ ∃ c, c ∈ n.bodies ∧ NestedIn c k
    | [], k => by simp [gidsNs]
    | n :: ns, k => by
      rw [gidsNs, List.mem_append, mem_gidsN n k, mem_gidsNs ns k]
      simp
  theorem mem_gidsN : ∀ (n : NodeT) (k : GId), k ∈ gidsN n ↔ ∃ c, c ∈ n.bodies ∧ NestedIn c k
    | .mk ins outs bs, k => by
      rw [gidsN, mem_gidsGs bs k]
      simp
  theorem mem_gidsGs : ∀ (gs : List GraphT) (k : GId), k ∈ gidsGs gs ↔ ∃ c, c ∈ gs ∧ NestedIn c k
    | [], k => by simp [gidsGs]
    | g :: gs, k => by
      rw [gidsGs, List.mem_append, mem_gidsG g k, mem_gidsGs gs k]
      simp
end

/-! ## `defsG` / `outsTop` membership -/

mutual
  theorem mem_defsG : ∀ (g : GraphT) (v : VId), v ∈ defsG g ↔ DefInG g v
    | .mk gid i w o ns, v => by
      rw [defsG, List.mem_append, List.mem_append, mem_defsNs ns v]
      constructor
      · rintro ((h | h) | ⟨n, hn, h⟩)
        · exact DefInG.input (g := .mk gid i w o ns) h
        · exact DefInG.init (g := .mk gid i w o ns) h
        · exact DefInG.node (g := .mk gid i w o ns) hn h
      · intro h
        cases h with
        | input h => exact Or.inl (Or.inl h)
        | init h => exact Or.inl (Or.inr h)
        | node hn h => exact Or.inr ⟨_, hn, h⟩
  theorem mem_defsNs : ∀ (ns : List NodeT) (v : VId), v ∈ defsNs ns ↔ ∃ n, n ∈ ns ∧ DefInN n v
    | [], v => by simp [defsNs]
    | n :: ns, v => by
      rw [defsNs, List.mem_append, mem_defsN n v, mem_defsNs ns v]
      simp
  theorem mem_defsN : ∀ (n : NodeT) (v : VId), v ∈ defsN n ↔ DefInN n v
    | .mk ins outs bs, v => by
      rw [defsN, List.mem_append, mem_defsGs bs v]
      constructor
      · rintro (h | ⟨b, hb, h⟩)
        · exact DefInN.out (n := .mk ins outs bs) h
        · exact DefInN.nested (n := .mk ins outs bs) hb h
      · intro h
        cases h with
        | out h => exact Or.inl h
        | nested hb h => exact Or.inr ⟨_, hb, h⟩
  theorem mem_defsGs : ∀ (gs : List GraphT) (v : VId), v ∈ defsGs gs ↔ ∃ g, g ∈ gs ∧ DefInG g v
    | [], v => by simp [defsGs]
    | g :: gs, v => by
      rw [defsGs, List.mem_append, mem_defsG g v, mem_defsGs gs v]
      simp
end

theorem mem_outsTop : ∀ (ns : List NodeT) (v : VId), v ∈ outsTop ns ↔ ∃ n, n ∈ ns ∧ v ∈ n.outputs
  | [], v => by simp [outsTop]
  | n :: ns, v => by
    rw [outsTop, List.mem_append, mem_outsTop ns v]
    simp

theorem nestedIn_iff (b : GraphT) (k : GId) :
    NestedIn b k ↔ k = b.gid ∨ ∃ n, n ∈ b.nodes ∧ ∃ c, c ∈ n.bodies ∧ NestedIn c k := by
  constructor
  · intro h
    cases h with
    | self => exact Or.inl rfl
    | deeper hn hc hk => exact Or.inr ⟨_, hn, _, hc, hk⟩
  · rintro (rfl | ⟨n, hn, c, hc, hk⟩)
    · exact NestedIn.self
    · exact NestedIn.deeper hn hc hk

theorem defInG_iff (g : GraphT) (v : VId) :
    DefInG g v ↔ v ∈ g.inputs ∨ v ∈ g.inits ∨
      ∃ n, n ∈ g.nodes ∧ (v ∈ n.outputs ∨ ∃ b, b ∈ n.bodies ∧ DefInG b v) := by
  constructor
  · intro h
    cases h with
    | input hi => exact Or.inl hi
    | init hi => exact Or.inr (Or.inl hi)
    | node hn hd =>
      cases hd with
      | out ho => exact Or.inr (Or.inr ⟨_, hn, Or.inl ho⟩)
      | nested hb hdb => exact Or.inr (Or.inr ⟨_, hn, Or.inr ⟨_, hb, hdb⟩⟩)
  · rintro (h | h | ⟨n, hn, ho | ⟨b, hb, hd⟩⟩)
    · exact DefInG.input h
    · exact DefInG.init h
    · exact DefInG.node hn (DefInN.out ho)
    · exact DefInG.node hn (DefInN.nested hb hd)

/-- `v` is not owned by `b` nor by a graph nested in `b`, or it is owned by `p`: what a nested graph `b` of a
    region of graph `p` captures from outside -/
def Outside (W : World) (p : GId) (b : GraphT) (v : VId) : Prop :=
  W.graphOf v = some p ∨ ∀ k, NestedIn b k → W.graphOf v ≠ some k

theorem mem_externalValues {W : World} {p : GId} {g : GraphT} {v : VId} :
    v ∈ externalValues W p g ↔ UsedInG g v ∧ Outside W p g v := by
  unfold externalValues Outside
  rw [List.mem_filter, mem_usedG]
  simp only [Bool.or_eq_true, beq_iff_eq, Bool.not_eq_eq_eq_not, Bool.not_true,
    List.contains_eq_mem, decide_eq_false_iff_not, List.mem_map, not_exists, not_and]
  constructor
  · rintro ⟨h1, h2 | h2⟩
    · exact ⟨h1, Or.inl h2⟩
    · exact ⟨h1, Or.inr (fun k hk e => h2 k ((mem_gidsG g k).mpr hk) e.symm)⟩
  · rintro ⟨h1, h2 | h2⟩
    · exact ⟨h1, Or.inl h2⟩
    · exact ⟨h1, Or.inr (fun k hk e => h2 k ((mem_gidsG g k).mp hk) e.symm)⟩

theorem mem_captured {W : World} {p : GId} {n : NodeT} {v : VId} :
    v ∈ captured W p n ↔ ∃ b, b ∈ n.bodies ∧ UsedInG b v ∧ Outside W p b v := by
  unfold captured
  rw [List.mem_flatMap]
  constructor
  · rintro ⟨b, hb, h⟩; exact ⟨b, hb, mem_externalValues.mp h⟩
  · rintro ⟨b, hb, h⟩; exact ⟨b, hb, mem_externalValues.mpr h⟩

/-! ## the region, declaratively -/

/-- `u` is needed to run node `n` of the table when extracting from graph `p`: it is an input of `n`, or it
    is used at any depth inside a graph held by an attribute of `n` and comes from outside that graph -/
def Needs (W : World) (p : GId) (n : NId) (u : VId) : Prop :=
  some u ∈ (W.nodeD n).inputs ∨
  ∃ b, b ∈ (W.nodeD n).bodies ∧ UsedInG b u ∧ Outside W p b u

/-- the required values: least set containing the outputs not cut by the boundary inputs `I` and closed
    under "needed by the producer of a required value, unless cut by `I`" -/
inductive Reach (W : World) (p : GId) (I O : List VId) : VId → Prop
  | out {v : VId} : v ∈ O → ¬ v ∈ I → Reach W p I O v
  | step {v u : VId} {n : NId} : Reach W p I O v → W.prod v = some n → Needs W p n u → ¬ u ∈ I →
      Reach W p I O u

/-- the required nodes: producers of required values -/
def NeedN (W : World) (p : GId) (I O : List VId) (n : NId) : Prop :=
  ∃ v, Reach W p I O v ∧ W.prod v = some n

theorem Reach.not_mem {W : World} {p : GId} {I O : List VId} {v : VId} (h : Reach W p I O v) : ¬ v ∈ I := by
  cases h <;> assumption

theorem reach_of_out {W : World} {p : GId} {I O : List VId} {o : VId} (ho : o ∈ O) : o ∈ I ∨ Reach W p I O o :=
  (Classical.em (o ∈ I)).imp_right (Reach.out ho)

/-- a need of a required node is a boundary input or required -/
theorem NeedN.reach {W : World} {p : GId} {I O : List VId} {n : NId} {u : VId} (hN : NeedN W p I O n)
    (hu : Needs W p n u) : u ∈ I ∨ Reach W p I O u :=
  let ⟨_, hr, hp⟩ := hN; (Classical.em (u ∈ I)).imp_right (Reach.step hr hp hu)

theorem needs_iff {W : World} {p : GId} {n : NId} {u : VId} :
    Needs W p n u ↔ u ∈ (W.nodeD n).ins ∨ u ∈ captured W p (W.nodeD n) := by
  unfold Needs
  rw [mem_ins, mem_captured]

theorem mem_pushes {W : World} {p : GId} {vis : List VId} {n : NId} {u : VId} :
    u ∈ pushes W p vis (W.nodeD n) ↔ Needs W p n u ∧ ¬ u ∈ vis := by
  unfold pushes
  rw [needs_iff, List.mem_append, List.mem_filter, List.mem_filter]
  simp only [List.contains_eq_mem, Bool.not_eq_eq_eq_not, Bool.not_true, decide_eq_false_iff_not]
  constructor
  · rintro (⟨h1, h2⟩ | ⟨h1, h2⟩)
    · exact ⟨Or.inl h1, h2⟩
    · exact ⟨Or.inr h1, h2⟩
  · rintro ⟨h1 | h1, h2⟩
    · exact Or.inl ⟨h1, h2⟩
    · exact Or.inr ⟨h1, h2⟩

/-! ## invariant of the walk -/

/-- soundness (everything touched is required) and closure (everything required by what was touched is
    touched or still on the stack) of the loop state -/
structure Inv (W : World) (p : GId) (fn : Bool) (I O : List VId) (s : WS) : Prop where
  sStack : ∀ v, v ∈ s.stack → v ∈ I ∨ Reach W p I O v
  sVals : ∀ v, v ∈ s.valsV → v ∈ I ∨ Reach W p I O v
  sNodes : ∀ n, n ∈ s.nodesV → NeedN W p I O n
  sInited : ∀ v, v ∈ s.inited → W.isInit v = true ∧ ((v ∈ I ∧ fn = false) ∨ Reach W p I O v)
  cIns : ∀ v, v ∈ I → v ∈ s.valsV
  cOuts : ∀ v, v ∈ O → v ∈ s.valsV ∨ v ∈ s.stack
  cVals : ∀ v, v ∈ s.valsV → ¬ v ∈ I →
    (W.isInit v = true → v ∈ s.inited) ∧ (∀ n, W.prod v = some n → n ∈ s.nodesV)
  cNodes : ∀ n, n ∈ s.nodesV → ∀ u, Needs W p n u → u ∈ s.valsV ∨ u ∈ s.stack
  cInsInit : fn = false → ∀ v, v ∈ I → W.isInit v = true → v ∈ s.inited

theorem walkInit_inv (W : World) (p : GId) (fn : Bool) (I O : List VId) :
    Inv W p fn I O (walkInit W fn I O) := by
  refine ⟨?_, ?_, ?_, ?_, ?_, ?_, ?_, ?_, ?_⟩
  · intro v hv
    simp only [walkInit, List.mem_reverse] at hv
    exact reach_of_out hv
  · intro v hv; exact Or.inl hv
  · intro n hn; simp [walkInit] at hn
  · intro v hv
    simp only [walkInit] at hv
    cases fn with
    | true => simp at hv
    | false =>
      simp only [Bool.false_eq_true, if_false, List.mem_filter] at hv
      exact ⟨hv.2, Or.inl ⟨hv.1, rfl⟩⟩
  · intro v hv; exact hv
  · intro v hv; right; simp [walkInit, hv]
  · intro v hv hn; exact absurd hv hn
  · intro n hn; simp [walkInit] at hn
  · intro hfn v hv hi
    subst hfn
    simp [walkInit, hv, hi]

def initedStep (W : World) (s : WS) (v : VId) : List VId :=
  if W.isInit v then s.inited ++ [v] else s.inited

theorem mem_initedStep {W : World} {s : WS} {v u : VId} :
    u ∈ initedStep W s v ↔ u ∈ s.inited ∨ (u = v ∧ W.isInit v = true) := by
  unfold initedStep
  by_cases h : W.isInit v = true
  · simp [h]
  · simp [h]

/-- popping a new value `v`: the nodes `new` visited for the first time (none, or the producer of `v`) and the
    values `pushed` for them -/
theorem inv_pop {W : World} {p : GId} {fn : Bool} {I O : List VId} {s : WS} {v : VId}
    {rest pushed : List VId} {new : List NId} (hs : s.stack = v :: rest) (h : Inv W p fn I O s)
    (hc : ¬ v ∈ s.valsV) (hp : ∀ n, W.prod v = some n → n ∈ s.nodesV ++ new)
    (hnew : ∀ m, m ∈ new → W.prod v = some m)
    (hpush : ∀ u, u ∈ pushed ↔ ∃ m, m ∈ new ∧ Needs W p m u ∧ ¬ u ∈ s.valsV ++ [v]) :
    Inv W p fn I O { stack := pushed.reverse ++ rest, nodesV := s.nodesV ++ new, valsV := s.valsV ++ [v],
                     inited := initedStep W s v } := by
  have hvI : ¬ v ∈ I := fun hv => hc (h.cIns v hv)
  have hRv : Reach W p I O v := (h.sStack v (by rw [hs]; exact List.mem_cons_self)).resolve_left hvI
  have hstk : ∀ u, u ∈ s.stack → u ∈ s.valsV ++ [v] ∨ u ∈ pushed.reverse ++ rest := by
    intro u hu
    rw [hs] at hu
    rcases List.mem_cons.mp hu with rfl | hu
    · exact Or.inl (by simp)
    · exact Or.inr (List.mem_append_right _ hu)
  refine ⟨?_, ?_, ?_, ?_, ?_, ?_, ?_, ?_, ?_⟩
  · intro u hu
    rcases List.mem_append.mp hu with hu | hu
    · obtain ⟨m, hm, hN, hvis⟩ := (hpush u).mp (List.mem_reverse.mp hu)
      exact Or.inr (Reach.step hRv (hnew m hm) hN fun hi => hvis (List.mem_append_left _ (h.cIns u hi)))
    · exact h.sStack u (by rw [hs]; exact List.mem_cons_of_mem _ hu)
  · intro u hu
    rcases List.mem_append.mp hu with hu | hu
    · exact h.sVals u hu
    · simp at hu; subst hu; exact Or.inr hRv
  · intro m hm
    rcases List.mem_append.mp hm with hm | hm
    · exact h.sNodes m hm
    · exact ⟨v, hRv, hnew m hm⟩
  · intro u hu
    rcases mem_initedStep.mp hu with hu | ⟨rfl, hi⟩
    · exact h.sInited u hu
    · exact ⟨hi, Or.inr hRv⟩
  · intro u hu; exact List.mem_append_left _ (h.cIns u hu)
  · intro u hu
    exact (h.cOuts u hu).elim (fun hu => Or.inl (List.mem_append_left _ hu)) (hstk u)
  · intro u hu hnI
    rcases List.mem_append.mp hu with hu | hu
    · have := h.cVals u hu hnI
      exact ⟨fun hi => mem_initedStep.mpr (Or.inl (this.1 hi)), fun m hm => List.mem_append_left _ (this.2 m hm)⟩
    · simp at hu; subst hu
      exact ⟨fun hi => mem_initedStep.mpr (Or.inr ⟨rfl, hi⟩), hp⟩
  · intro m hm u hu
    rcases List.mem_append.mp hm with hm | hm
    · exact (h.cNodes m hm u hu).elim (fun hu => Or.inl (List.mem_append_left _ hu)) (hstk u)
    · by_cases hvis : u ∈ s.valsV ++ [v]
      · exact Or.inl hvis
      · exact Or.inr (List.mem_append_left _ (List.mem_reverse.mpr ((hpush u).mpr ⟨m, hm, hu, hvis⟩)))
  · intro hfn u hu hi
    exact mem_initedStep.mpr (Or.inl (h.cInsInit hfn u hu hi))

theorem walkStep_inv {W : World} {p : GId} {fn : Bool} {I O : List VId} {s : WS} {v : VId}
    {rest : List VId} (hs : s.stack = v :: rest) (h : Inv W p fn I O s) :
    Inv W p fn I O (walkStep W p s v rest) := by
  have hold : (∀ n, W.prod v = some n → n ∈ s.nodesV) → ¬ v ∈ s.valsV →
      Inv W p fn I O { stack := rest, nodesV := s.nodesV, valsV := s.valsV ++ [v], inited := initedStep W s v } :=
    fun hp hc => by
      simpa using inv_pop (pushed := []) (new := []) hs h hc (by simpa using hp) (by simp) (by simp)
  unfold walkStep
  by_cases hc : v ∈ s.valsV
  · rw [if_pos hc]
    have hstk : ∀ u, u ∈ s.stack → u ∈ s.valsV ∨ u ∈ rest := by
      intro u hu
      rw [hs] at hu
      rcases List.mem_cons.mp hu with rfl | hu
      · exact Or.inl hc
      · exact Or.inr hu
    exact ⟨fun u hu => h.sStack u (by rw [hs]; exact List.mem_cons_of_mem _ hu), h.sVals, h.sNodes, h.sInited, h.cIns,
      fun u hu => (h.cOuts u hu).elim Or.inl (hstk u), h.cVals,
      fun n hn u hu => (h.cNodes n hn u hu).elim Or.inl (hstk u), h.cInsInit⟩
  · rw [if_neg hc]
    cases hp : W.prod v with
    | none => exact hold (by intro n hn; rw [hp] at hn; cases hn) hc
    | some n =>
      by_cases hn : n ∈ s.nodesV
      · simp only [if_pos hn]
        exact hold (by intro m hm; rw [hp] at hm; cases hm; exact hn) hc
      · simp only [if_neg hn]
        exact inv_pop hs h hc (by intro m hm; rw [hp] at hm; cases hm; simp) (by simpa using hp)
          (by intro u; simp [mem_pushes])

theorem walk_inv {W : World} {p : GId} {fn : Bool} {I O : List VId} (s : WS)
    (h : Inv W p fn I O s) : Inv W p fn I O (walk W p s) := by
  fun_induction walk W p s with
  | case1 s hs => exact h
  | case2 s v rest hs ih => exact ih (walkStep_inv hs h)

theorem walk_stack (W : World) (p : GId) (s : WS) : (walk W p s).stack = [] := by
  fun_induction walk W p s with
  | case1 s hs => exact hs
  | case2 s v rest hs ih => exact ih

theorem walkStep_nodup {W : World} {p : GId} {s : WS} {v : VId} {rest : List VId}
    (h : s.nodesV.Nodup) : (walkStep W p s v rest).nodesV.Nodup := by
  unfold walkStep
  by_cases hc : v ∈ s.valsV
  · rw [if_pos hc]; exact h
  · rw [if_neg hc]
    cases hp : W.prod v with
    | none => exact h
    | some n =>
      by_cases hn : n ∈ s.nodesV
      · simp only [if_pos hn]; exact h
      · simp only [if_neg hn]
        rw [List.nodup_append]
        refine ⟨h, by simp, ?_⟩
        intro a ha b hb
        simp at hb
        subst hb
        intro hab
        subst hab
        exact hn ha

theorem walk_nodup {W : World} {p : GId} (s : WS) (h : s.nodesV.Nodup) :
    (walk W p s).nodesV.Nodup := by
  fun_induction walk W p s with
  | case1 s hs => exact h
  | case2 s v rest hs ih => exact ih (walkStep_nodup h)

/-- at the end of the walk every required value has been visited -/
theorem reach_visited {W : World} {p : GId} {fn : Bool} {I O : List VId} {s : WS}
    (h : Inv W p fn I O s) (hst : s.stack = []) {v : VId} (hr : Reach W p I O v) : v ∈ s.valsV := by
  induction hr with
  | out ho _ =>
    rcases h.cOuts _ ho with h1 | h1
    · exact h1
    · rw [hst] at h1; cases h1
  | step hr hp hn hnI ih =>
    have := (h.cVals _ ih hr.not_mem).2 _ hp
    rcases h.cNodes _ this _ hn with h1 | h1
    · exact h1
    · rw [hst] at h1; cases h1

/-! ## sorting by original index -/

theorem mem_insertByKey {key : Nat → Nat} {x y : Nat} {l : List Nat} :
    y ∈ insertByKey key x l ↔ y = x ∨ y ∈ l := by
  induction l with
  | nil => simp [insertByKey]
  | cons a t ih =>
    unfold insertByKey
    by_cases h : key x < key a
    · simp [h]
    · simp only [h, if_false, List.mem_cons, ih]
      constructor
      · rintro (h | h | h)
        · exact Or.inr (Or.inl h)
        · exact Or.inl h
        · exact Or.inr (Or.inr h)
      · rintro (h | h | h)
        · exact Or.inr (Or.inl h)
        · exact Or.inl h
        · exact Or.inr (Or.inr h)

theorem mem_sortByKey {key : Nat → Nat} {y : Nat} {l : List Nat} :
    y ∈ sortByKey key l ↔ y ∈ l := by
  unfold sortByKey
  induction l with
  | nil => simp
  | cons a t ih => simp only [List.foldr_cons, mem_insertByKey, ih, List.mem_cons]

theorem insertByKey_sorted {key : Nat → Nat} {x : Nat} {l : List Nat}
    (h : l.Pairwise (fun a b => key a ≤ key b)) :
    (insertByKey key x l).Pairwise (fun a b => key a ≤ key b) := by
  induction l with
  | nil => simp [insertByKey]
  | cons a t ih =>
    unfold insertByKey
    rw [List.pairwise_cons] at h
    by_cases hx : key x < key a
    · simp only [hx, if_true]
      rw [List.pairwise_cons]
      refine ⟨?_, List.pairwise_cons.mpr h⟩
      intro b hb
      rcases List.mem_cons.mp hb with rfl | hb
      · omega
      · have := h.1 b hb; omega
    · simp only [hx, if_false]
      rw [List.pairwise_cons]
      refine ⟨?_, ih h.2⟩
      intro b hb
      rcases mem_insertByKey.mp hb with rfl | hb
      · omega
      · exact h.1 b hb

theorem sortByKey_sorted (key : Nat → Nat) (l : List Nat) :
    (sortByKey key l).Pairwise (fun a b => key a ≤ key b) := by
  unfold sortByKey
  induction l with
  | nil => simp
  | cons a t ih => simp only [List.foldr_cons]; exact insertByKey_sorted ih

theorem insertByKey_nodup {key : Nat → Nat} {x : Nat} {l : List Nat} (h : l.Nodup) (hx : ¬ x ∈ l) :
    (insertByKey key x l).Nodup := by
  induction l with
  | nil => simp [insertByKey]
  | cons a t ih =>
    unfold insertByKey
    by_cases hk : key x < key a
    · simp only [hk, if_true]
      exact List.nodup_cons.mpr ⟨hx, h⟩
    · simp only [hk, if_false]
      rw [List.nodup_cons] at h ⊢
      refine ⟨?_, ih h.2 (fun hm => hx (List.mem_cons_of_mem _ hm))⟩
      intro hm
      rcases mem_insertByKey.mp hm with rfl | hm
      · exact hx List.mem_cons_self
      · exact h.1 hm

theorem sortByKey_nodup {key : Nat → Nat} {l : List Nat} (h : l.Nodup) : (sortByKey key l).Nodup := by
  unfold sortByKey
  induction l with
  | nil => simp
  | cons a t ih =>
    rw [List.nodup_cons] at h
    simp only [List.foldr_cons]
    exact insertByKey_nodup (ih h.2) (fun hm => h.1 (mem_sortByKey.mp hm))

theorem strict_sorted_ext {key : Nat → Nat} : ∀ {l1 l2 : List Nat},
    l1.Pairwise (fun a b => key a < key b) → l2.Pairwise (fun a b => key a < key b) →
    (∀ x, x ∈ l1 ↔ x ∈ l2) → l1 = l2
  | [], [], _, _, _ => rfl
  | [], b :: t2, _, _, hm => by have := (hm b).mpr List.mem_cons_self; cases this
  | a :: t, [], _, _, hm => by have := (hm a).mp List.mem_cons_self; cases this
  | a :: t, b :: t2, h1, h2, hm => by
    rw [List.pairwise_cons] at h1 h2
    have hab : a = b := by
      rcases List.mem_cons.mp ((hm a).mp List.mem_cons_self) with h | h
      · exact h
      · rcases List.mem_cons.mp ((hm b).mpr List.mem_cons_self) with h' | h'
        · exact h'.symm
        · have := h1.1 b h'; have := h2.1 a h; omega
    subst hab
    congr 1
    apply strict_sorted_ext h1.2 h2.2
    intro x
    constructor
    · intro hx
      rcases List.mem_cons.mp ((hm x).mp (List.mem_cons_of_mem _ hx)) with rfl | h
      · have := h1.1 x hx; omega
      · exact h
    · intro hx
      rcases List.mem_cons.mp ((hm x).mpr (List.mem_cons_of_mem _ hx)) with rfl | h
      · have := h2.1 x hx; omega
      · exact h

theorem idxOf_pairwise : ∀ {l : List Nat}, l.Nodup → l.Pairwise (fun a b => l.idxOf a < l.idxOf b)
  | [], _ => List.Pairwise.nil
  | a :: t, h => by
    rw [List.nodup_cons] at h
    rw [List.pairwise_cons]
    constructor
    · intro b hb
      have hne : (a == b) = false := by
        simp only [beq_eq_false_iff_ne, ne_eq]; exact fun e => h.1 (e ▸ hb)
      simp [List.idxOf_cons, hne]
    · refine (idxOf_pairwise h.2).imp_of_mem ?_
      intro x y hx hy hxy
      have hx' : (a == x) = false := by
        simp only [beq_eq_false_iff_ne, ne_eq]; exact fun e => h.1 (e ▸ hx)
      have hy' : (a == y) = false := by
        simp only [beq_eq_false_iff_ne, ne_eq]; exact fun e => h.1 (e ▸ hy)
      simp only [List.idxOf_cons, hx', hy', cond_false]
      omega

/-- sorting a duplicate-free list `l` by a key that strictly increases along `g'` (which contains `l`)
    gives `g'` filtered by `l` -/
theorem sortByKey_eq_filter {key : Nat → Nat} {g' l : List Nat}
    (hg : g'.Pairwise (fun a b => key a < key b)) (hl : l.Nodup) (hsub : ∀ x, x ∈ l → x ∈ g') :
    sortByKey key l = g'.filter (fun n => decide (n ∈ l)) := by
  have hinj : ∀ a b, a ∈ g' → b ∈ g' → key a = key b → a = b := by
    intro a b ha hb e
    apply Classical.byContradiction
    intro hne
    rcases List.mem_iff_getElem.mp ha with ⟨i, hi, rfl⟩
    rcases List.mem_iff_getElem.mp hb with ⟨j, hj, rfl⟩
    have hij : i ≠ j := fun e' => hne (by subst e'; rfl)
    rcases Nat.lt_or_gt_of_ne hij with h | h
    · have := List.pairwise_iff_getElem.mp hg i j hi hj h; omega
    · have := List.pairwise_iff_getElem.mp hg j i hj hi h; omega
  apply strict_sorted_ext (key := key)
  · have hs := sortByKey_sorted key l
    have hn := sortByKey_nodup (key := key) hl
    have hboth := hs.and (List.nodup_iff_pairwise_ne.mp hn)
    refine hboth.imp_of_mem ?_
    intro a b ha hb hab
    have hne : a ≠ b := hab.2
    have hle := hab.1
    have : key a ≠ key b := fun e =>
      hne (hinj a b (hsub a (mem_sortByKey.mp ha)) (hsub b (mem_sortByKey.mp hb)) e)
    omega
  · exact hg.filter _
  · intro x
    rw [mem_sortByKey, List.mem_filter]
    simp only [decide_eq_true_eq]
    exact ⟨fun h => ⟨hsub x h, h⟩, fun h => h.2⟩

theorem sortByKey_idxOf_eq_filter {g l : List Nat} (hg : g.Nodup) (hl : l.Nodup)
    (hsub : ∀ x, x ∈ l → x ∈ g) :
    sortByKey (fun n => g.idxOf n) l = g.filter (fun n => decide (n ∈ l)) :=
  sortByKey_eq_filter (idxOf_pairwise hg) hl hsub

end IrVerif.Extract
