/-
C19 — the complete `InlinePass` (`Model/DeviceInl.lean`): helper development for `C19_inline_pass`,
`C19_inline_pass_axes`, `C19_history_weak`.

The invariant of the pass, `PJ T`, is stated with the predicate the operations of the alphabet preserve
(`Inv.NodeOK`, `Lemmas/DeviceInv.lean`), so the node lemmas are those of the operations (`NodeOK_shrink`,
`NodeOK.remap`, `NodeOK.transport`).  `T := True` makes every value a ghost: no axis clause is left and nothing is
asked of the graphs (`C19_inline_pass`); `T := False` is the full statement.  The cloner and the pass:
`Lemmas/DeviceInlAxes.lean`.
-/
import IrVerif.Lemmas.DeviceInline
namespace IrVerif.Device

/-- the ghost predicate of the pass: everything (`T`, the rank-free reading) or the substituted values -/
def Gh (T : Prop) (S : List VId) (v : VId) : Prop := T ∨ v ∈ S

/-- one node under the invariant of the pass: the invariant of the operations with one spec per value not demanded and
    the ghosts `Gh T S`, every record on a configuration of `C` -/
def NodeIn (T : Prop) (S : List VId) (C : List CId) (w : World) (nd : NodeS) : Prop :=
  Inv.NodeOK False (Gh T S) w nd ∧ ∀ nc ∈ nd.dev, nc.cfg ∈ C

theorem NodeIn.io {T : Prop} {S : List VId} {C : List CId} {w : World} {nd : NodeS} (h : NodeIn T S C w nd) :
    ∀ nc ∈ nd.dev, ∀ s ∈ nc.specs, InIO nd s.value :=
  fun nc hnc s hs => ((h.1.2.2 nc hnc).2.2.2 s hs).1

theorem NodeIn_default (T : Prop) (S : List VId) (C : List CId) (w : World) : NodeIn T S C w {} :=
  ⟨Inv.NodeOK_default w, by simp⟩

theorem NodeIn_replaceInputNode {T : Prop} {S : List VId} {C : List CId} {w : World} {nd : NodeS}
    (h : NodeIn T S C w nd) (i : Nat) (val : Option VId) (hv : ∀ v, val = some v → v < w.values.length) :
    NodeIn T S C w (replaceInputNode nd i val) := by
  refine ⟨Inv.NodeOK_replaceInputNode h.1 i val hv, ?_⟩
  intro nc hnc
  rw [replaceInputNode_dev i val h.io] at hnc
  obtain ⟨nc0, h0, he0, _, _⟩ := (keepIO_shrinks _ _).2 nc hnc
  rw [he0]; exact h.2 nc0 h0

theorem NodeIn_rauwNode {T : Prop} {S : List VId} {C : List CId} {w : World} {nd : NodeS} (h : NodeIn T S C w nd)
    (old new : VId) (hnew : new < w.values.length) : NodeIn T S C w (rauwNode old new nd) := by
  unfold rauwNode
  have := foldl_replace_keeps (P := NodeIn T S C w) (fun a i => decide (a.inputs.getD i none = some old)) (some new)
    (fun nd i h => NodeIn_replaceInputNode h i _ (by intro v hv; cases hv; exact hnew))
    (List.range' 0 nd.inputs.length) nd h
  simpa using this

theorem NodeIn_detach {T : Prop} {S : List VId} {C : List CId} {w : World} {nd : NodeS} (h : NodeIn T S C w nd)
    (idxs : List Nat) : NodeIn T S C w (idxs.foldl (fun a i => replaceInputNode a i none) nd) := by
  have := foldl_replace_keeps (P := NodeIn T S C w) (fun _ _ => true) none
    (fun nd i h => NodeIn_replaceInputNode h i _ (by intro v hv; cases hv)) idxs nd h
  simpa using this

/-- the copy `clone_node` makes of a node under the invariant: new outputs are copies of the old ones, new inputs the
    images of the old ones under the value map -/
theorem NodeIn_clonedNodeO {T : Prop} {S S' : List VId} {C : List CId} {w0 w' : World} {nd : NodeS} {vm vm1 : OMap}
    {ins : List (Option VId)} (subs : List GId) (base : Nat)
    (hn : NodeIn T S C w0 nd) (hci : cloneInputsO vm nd.inputs = some ins)
    (hids : NodeIds w' (clonedNodeO nd ins (List.range' base nd.outputs.length) vm1 subs))
    (hc : w'.cfgs = w0.cfgs)
    (hout : ∀ o x, (o, x) ∈ nd.outputs.zip (List.range' base nd.outputs.length) →
      (Gh T S o → Gh T S' x) ∧ (¬ Gh T S' x → rankOf (w'.value x) = rankOf (w0.value o)))
    (hin : ∀ a b, some a ∈ nd.inputs → oget vm a = some b →
      (Gh T S a → Gh T S' b) ∧ (¬ Gh T S' b → rankOf (w'.value b) = rankOf (w0.value a))) :
    NodeIn T S' C w' (clonedNodeO nd ins (List.range' base nd.outputs.length) vm1 subs) := by
  have hcfg : ∀ c, w'.cfg c = w0.cfg c := fun c => by simp [World.cfg, hc]
  refine ⟨Inv.NodeOK.remap (ophi (ioMapO nd.inputs ins nd.outputs (List.range' base nd.outputs.length) ++ vm1))
    (fun nc => nc.cfg) hn.1 hids ?_ ?_ ?_ (fun _ _ _ _ e => e) ?_ (fun h => h.elim), ?_⟩
  · simp [clonedNodeO, remapDevO_eq, List.map_map, Function.comp_def]
  · intro nc' hnc'
    simp only [clonedNodeO, remapDevO_eq, List.mem_map] at hnc'
    obtain ⟨nc, hnc, rfl⟩ := hnc'
    exact ⟨nc, hnc, rfl, rfl, rfl⟩
  · intro nc hnc
    exact ⟨by rw [hc]; exact (hn.1.2.2 nc hnc).1, by rw [hcfg]⟩
  · intro nc hnc s hs b hb
    rcases ophi_ioMapO hci _ (by simp) (hn.io nc hnc s hs) hb with hz | ⟨_, hvi, hog⟩
    · obtain ⟨g1, g2⟩ := hout _ _ hz
      exact ⟨Or.inr (List.of_mem_zip hz).2, g1, fun hb => Or.inl (g2 hb)⟩
    · obtain ⟨g1, g2⟩ := hin _ _ hvi hog
      refine ⟨Or.inl ?_, g1, fun hb => Or.inl (g2 hb)⟩
      show some b ∈ ins
      rw [cloneInputsO_eq hci]
      exact List.mem_map.mpr ⟨some s.value, hvi, by rw [Option.bind_some]; exact hog⟩
  · intro nc' hnc'
    simp only [clonedNodeO, remapDevO_eq, List.mem_map] at hnc'
    obtain ⟨nc, hnc, rfl⟩ := hnc'
    exact hn.2 nc hnc

theorem renameOuts_same : ∀ (outs : List VId) (p : World × List String),
    (renameOuts p outs).1.nodes = p.1.nodes ∧ (renameOuts p outs).1.cfgs = p.1.cfgs ∧
    (renameOuts p outs).1.models = p.1.models ∧ (renameOuts p outs).1.graphs = p.1.graphs := by
  intro outs
  induction outs with
  | nil => intro p; simp [renameOuts]
  | cons o rest ih =>
    intro p
    simp only [renameOuts]
    obtain ⟨a, b, c, d⟩ := ih (renameOne p o)
    exact ⟨a, b, c, d⟩

theorem copyInfo_same : ∀ (pairs : List (VId × VId)) (w : World),
    (copyInfo w pairs).nodes = w.nodes ∧ (copyInfo w pairs).cfgs = w.cfgs ∧ (copyInfo w pairs).models = w.models ∧
    (copyInfo w pairs).graphs = w.graphs := by
  intro pairs
  induction pairs with
  | nil => intro w; simp [copyInfo]
  | cons p rest ih =>
    intro w
    obtain ⟨old, new⟩ := p
    simp only [copyInfo]
    obtain ⟨a, b, c, d⟩ := ih (copyOne w old new)
    exact ⟨a, b, c, d⟩

theorem renameOne_ext (p : World × List String) (o : VId) : Ext p.1 (renameOne p o).1 := by
  unfold renameOne
  refine ⟨by simp, ?_, Nat.le_refl _, fun _ _ => rfl⟩
  intro v hv
  simp only [World.value, List.getD_eq_getElem?_getD, List.getElem?_set]
  by_cases h : o = v
  · subst h; simp [hv]
  · simp [h]

theorem renameOuts_ext : ∀ (outs : List VId) (p : World × List String), Ext p.1 (renameOuts p outs).1 := by
  intro outs
  induction outs with
  | nil => intro p; exact Ext.refl _
  | cons o rest ih =>
    intro p
    simp only [renameOuts]
    exact (renameOne_ext p o).trans (ih _)

theorem copyOne_len (w : World) (old new : VId) : (copyOne w old new).values.length = w.values.length := by
  simp [copyOne]

theorem copyOne_value (w : World) (old new v : VId) (h : v ≠ new) : (copyOne w old new).value v = w.value v := by
  simp only [copyOne, World.value, List.getD_eq_getElem?_getD, List.getElem?_set]
  have : ¬ new = v := fun e => h e.symm
  simp [this]

theorem copyInfo_len : ∀ (pairs : List (VId × VId)) (w : World), (copyInfo w pairs).values.length = w.values.length := by
  intro pairs
  induction pairs with
  | nil => intro w; rfl
  | cons p rest ih =>
    intro w
    obtain ⟨old, new⟩ := p
    simp only [copyInfo]
    rw [ih, copyOne_len]

theorem copyInfo_value : ∀ (pairs : List (VId × VId)) (w : World) (v : VId), v ∉ pairs.map (·.2) →
    (copyInfo w pairs).value v = w.value v := by
  intro pairs
  induction pairs with
  | nil => intro w v _; rfl
  | cons p rest ih =>
    intro w v hv
    obtain ⟨old, new⟩ := p
    simp only [List.map_cons, List.mem_cons, not_or] at hv
    simp only [copyInfo]
    rw [ih _ v hv.2, copyOne_value _ _ _ _ hv.1]

theorem rauwAll_len : ∀ (pairs : List (VId × VId)) (w : World),
    (rauwAll w pairs).nodes.length = w.nodes.length ∧ (rauwAll w pairs).models = w.models := by
  intro pairs
  induction pairs with
  | nil => intro w; exact ⟨rfl, rfl⟩
  | cons p rest ih =>
    intro w
    obtain ⟨old, new⟩ := p
    simp only [rauwAll]
    obtain ⟨a, b⟩ := ih { w with nodes := w.nodes.map (rauwNode old new) }
    refine ⟨?_, b⟩
    rw [a]
    simp

theorem getD_map_cfgs (ms : List ModelS) (m : MId) : (ms.map (·.cfgs)).getD m [] = (ms.getD m {}).cfgs := by
  simp only [List.getD_eq_getElem?_getD, List.getElem?_map]
  cases ms[m]? <;> rfl

theorem map_cfgs_set (ms : List ModelS) (m : MId) (x : ModelS) (hx : x.cfgs = (ms.getD m {}).cfgs) :
    (ms.set m x).map (·.cfgs) = ms.map (·.cfgs) := by
  apply List.ext_getElem?
  intro i
  simp only [List.getElem?_map, List.getElem?_set]
  by_cases hi : m = i
  · subst hi
    by_cases hm : m < ms.length
    · simp [hm, hx, List.getD_eq_getElem?_getD]
    · simp [hm]
  · simp [hi]

/-- The invariant of the pass, read rank-free (`T := True`: no axis clause, no hypothesis on the graphs; behind
    `C19_inline_pass`) or in full (`T := False`: behind `C19_inline_pass_axes`, `C19_history_weak`): configuration heap
    unchanged, the registrations of every model are `L` (in order), every node a model lists exists, every node of the
    heap is `NodeIn` for the registrations of `m`, graph inputs and initializers exist. -/
structure PJ (T : Prop) (L : List (List CId)) (cfgs : List CfgS) (m : MId) (w : World) (S : List VId) : Prop where
  hcfgs : w.cfgs = cfgs
  hcf : w.models.map (·.cfgs) = L
  hin : ∀ ms ∈ w.models, ∀ n ∈ ms.nodes, n < w.nodes.length
  nodes : ∀ nd ∈ w.nodes, NodeIn T S (L.getD m []) w nd
  gids : ¬ T → GraphIds w

section
variable {T : Prop} {L : List (List CId)} {cfgs : List CfgS} {m : MId}

theorem PJ.node {w : World} {S : List VId} (h : PJ T L cfgs m w S) (n : NId) : NodeIn T S (L.getD m []) w (w.node n) := by
  rcases node_mem_or_default w n with h1 | h1
  · exact h.nodes _ h1
  · rw [h1]; exact NodeIn_default T S _ w

theorem PJ.weak {w : World} {S : List VId} (h : PJ T L cfgs m w S) (n : NId) : NodeWeak (L.getD m []) cfgs (w.node n) :=
  NodeWeak_of_NodeOK (h.node n).1 h.hcfgs (h.node n).2

theorem PJ.graph_ids {w : World} {S : List VId} (h : PJ T L cfgs m w S) (hT : ¬ T) (g : GId) :
    ∀ v ∈ (w.graph g).inputs ++ (w.graph g).inits, v < w.values.length := by
  rcases graph_mem_or_default w g with h1 | h1
  · exact h.gids hT _ h1
  · rw [h1]; simp

theorem PJ.hreg {w : World} {S : List VId} (h : PJ T L cfgs m w S) : (w.model m).cfgs = L.getD m [] := by
  rw [← h.hcf, getD_map_cfgs]; rfl

theorem PJ.of_nodes {w w' : World} {S S' : List VId} (h : PJ T L cfgs m w S) (hc : w'.cfgs = w.cfgs)
    (hm : w'.models.map (·.cfgs) = w.models.map (·.cfgs)) (hin : ∀ ms ∈ w'.models, ∀ n ∈ ms.nodes, n < w'.nodes.length)
    (hn : ∀ nd ∈ w'.nodes, NodeIn T S' (L.getD m []) w' nd) (hg : ¬ T → GraphIds w') : PJ T L cfgs m w' S' :=
  ⟨by rw [hc]; exact h.hcfgs, by rw [hm]; exact h.hcf, hin, hn, hg⟩

theorem PJ.of_same {w w' : World} {S S' : List VId} (h : PJ T L cfgs m w S) (hc : w'.cfgs = w.cfgs)
    (hm : w'.models = w.models) (hl : w.nodes.length ≤ w'.nodes.length)
    (hn : ∀ nd ∈ w'.nodes, NodeIn T S' (L.getD m []) w' nd) (hg : ¬ T → GraphIds w') : PJ T L cfgs m w' S' :=
  h.of_nodes hc (by rw [hm]) (fun ms hms n hn' => Nat.lt_of_lt_of_le (h.hin ms (hm ▸ hms) n hn') hl) hn hg

theorem NodeIn.ext {C : List CId} {w w' : World} {S S' : List VId} {nd : NodeS} (h : NodeIn T S C w nd) (he : Ext w w')
    (hs : ∀ v ∈ S, v ∈ S') : NodeIn T S' C w' nd :=
  ⟨(h.1.ext he).mono (fun v g => g.imp id (hs v)), h.2⟩

theorem PJ.ext_same {w w' : World} {S S' : List VId} (h : PJ T L cfgs m w S) (he : Ext w w')
    (hn : w'.nodes = w.nodes) (hg : w'.graphs = w.graphs) (hc : w'.cfgs = w.cfgs) (hm : w'.models = w.models)
    (hs : ∀ v ∈ S, v ∈ S') : PJ T L cfgs m w' S' := by
  refine h.of_same hc hm (Nat.le_of_eq (by rw [hn])) ?_ ?_
  · intro nd hnd; rw [hn] at hnd; exact (h.nodes nd hnd).ext he hs
  · intro hT gs hgs v hv; rw [hg] at hgs; exact Nat.lt_of_lt_of_le (h.gids hT gs hgs v hv) he.vlen

theorem PJ.weaken {w : World} {S S' : List VId} (h : PJ T L cfgs m w S) (hs : ∀ v ∈ S, v ∈ S') : PJ T L cfgs m w S' :=
  h.ext_same (Ext.refl w) rfl rfl rfl rfl hs

theorem PJ.push {w w' : World} {S S' : List VId} (h : PJ T L cfgs m w S) (he : Ext w w') (nd : NodeS)
    (hn : w'.nodes = w.nodes ++ [nd]) (hg : w'.graphs = w.graphs) (hc : w'.cfgs = w.cfgs) (hm : w'.models = w.models)
    (hs : ∀ v ∈ S, v ∈ S') (hnd : NodeIn T S' (L.getD m []) w' nd) : PJ T L cfgs m w' S' := by
  refine h.of_same hc hm (by rw [hn]; simp) ?_ ?_
  · intro x hx
    rw [hn, List.mem_append] at hx
    rcases hx with hx | hx
    · exact (h.nodes x hx).ext he hs
    · simp only [List.mem_singleton] at hx; rw [hx]; exact hnd
  · intro hT gs hgs v hv; rw [hg] at hgs; exact Nat.lt_of_lt_of_le (h.gids hT gs hgs v hv) he.vlen

theorem PJ.mapNodes {w : World} {S : List VId} (h : PJ T L cfgs m w S) (f : NodeS → NodeS)
    (hf : ∀ nd, NodeIn T S (L.getD m []) w nd → NodeIn T S (L.getD m []) w (f nd)) : PJ T L cfgs m { w with nodes := w.nodes.map f } S := by
  refine h.of_same rfl rfl (by simp) ?_ h.gids
  intro x hx
  have hx' : x ∈ w.nodes.map f := hx
  rw [List.mem_map] at hx'
  obtain ⟨y, hy, rfl⟩ := hx'
  exact (hf y (h.nodes y hy)).ext (Ext.of_eq rfl rfl) (fun _ hv => hv)

theorem PJ.setGraph {w : World} {S : List VId} (h : PJ T L cfgs m w S) (g : GId) (gs' : GraphS)
    (hi : gs'.inputs = (w.graph g).inputs) (ht : gs'.inits = (w.graph g).inits) : PJ T L cfgs m (w.setGraph g gs') S := by
  refine h.of_same rfl rfl (Nat.le_refl _) (fun nd hnd => (h.nodes nd hnd).ext (Ext.of_eq rfl rfl) (fun _ hv => hv)) ?_
  intro hT gs hgs v hv
  have hgs' : gs ∈ w.graphs.set g gs' := hgs
  rcases List.mem_or_eq_of_mem_set hgs' with h3 | h3
  · exact h.gids hT gs h3 v hv
  · rw [h3, hi, ht] at hv
    exact h.graph_ids hT g v hv

theorem PJ.mapModels {w : World} {S : List VId} (h : PJ T L cfgs m w S) (f : ModelS → ModelS)
    (hf : ∀ x, (f x).cfgs = x.cfgs) (hnodes : ∀ x, ∀ n ∈ (f x).nodes, n ∈ x.nodes ∨ n < w.nodes.length) :
    PJ T L cfgs m { w with models := w.models.map f } S := by
  refine h.of_nodes rfl (by simp [List.map_map, Function.comp_def, hf]) ?_
    (fun nd hnd => (h.nodes nd hnd).ext (Ext.of_eq rfl rfl) (fun _ hv => hv)) h.gids
  intro ms hms n hn
  have hms' : ms ∈ w.models.map f := hms
  rw [List.mem_map] at hms'
  obtain ⟨x, hx, rfl⟩ := hms'
  exact (hnodes x n hn).elim (h.hin x hx n) id

/-- `replace_nodes_and_values`, first loop: the values written to are ghosts afterwards -/
theorem PJ.copyInfo {w : World} {S S' : List VId} (h : PJ T L cfgs m w S) (pairs : List (VId × VId))
    (hp : ∀ p ∈ pairs, p.2 ∈ S') (hs : ∀ v ∈ S, v ∈ S') : PJ T L cfgs m (IrVerif.Device.copyInfo w pairs) S' := by
  obtain ⟨a, b, c, d⟩ := copyInfo_same pairs w
  have hl := copyInfo_len pairs w
  refine h.of_same b c (Nat.le_of_eq (by rw [a])) ?_ ?_
  · intro x hx; rw [a] at hx
    obtain ⟨hx1, hx2⟩ := h.nodes x hx
    refine ⟨hx1.transport ⟨fun o ho v hov => by rw [hl]; exact hx1.1.1 o ho v hov, fun v hv => by rw [hl]; exact hx1.1.2 v hv⟩
      (fun nc hnc => ⟨by rw [b]; exact (hx1.2.2 nc hnc).1, by simp [World.cfg, b]⟩)
      (fun _ _ s _ g => g.imp id (hs s.value)) ?_, hx2⟩
    intro nc hnc s hsp hns
    have hnp : s.value ∉ pairs.map (·.2) := by
      intro hin
      simp only [List.mem_map] at hin
      obtain ⟨p, hp1, hp2⟩ := hin
      exact hns (Or.inr (hp2 ▸ hp p hp1))
    rw [copyInfo_value pairs w _ hnp]
  · intro hT gs hgs v hv; rw [d] at hgs; rw [hl]; exact h.gids hT gs hgs v hv

theorem rauwAll_PJ {S : List VId} : ∀ (pairs : List (VId × VId)) (w : World), PJ T L cfgs m w S →
    (∀ p ∈ pairs, p.2 < w.values.length) → PJ T L cfgs m (rauwAll w pairs) S := by
  intro pairs
  induction pairs with
  | nil => intro w h _; exact h
  | cons p rest ih =>
    intro w h hp
    obtain ⟨old, new⟩ := p
    simp only [rauwAll]
    exact ih _ (h.mapNodes (rauwNode old new) (fun nd hnd => NodeIn_rauwNode hnd old new (hp (old, new) (by simp))))
      (fun q hq => hp q (by simp [hq]))

/-- `Graph.remove(safe=)` -/
theorem PJ.removeNode {w : World} {S : List VId} (h : PJ T L cfgs m w S) (g : GId) (n : NId) (safe : Bool) :
    PJ T L cfgs m (removeNode w g n safe).1 S := by
  rcases removeNode_cases w g n safe with e | ⟨nd', sub, hnd, e⟩
  · rw [e]; exact h
  · rw [e]
    have hnd' : NodeIn T S (L.getD m []) w nd' := by
      rcases hnd with rfl | rfl
      · exact h.node n
      · exact NodeIn_detach (h.node n) _
    refine (h.mapModels _ (by intro x; split <;> rfl) ?_).of_same rfl rfl (by simp) ?_ ?_
    · intro x k hk
      left
      split at hk
      · exact (List.mem_filter.mp hk).1
      · exact hk
    · intro x hx
      rcases List.mem_or_eq_of_mem_set hx with h1 | h1
      · exact h.nodes x h1
      · rw [h1]; exact hnd'
    · intro hT gs hgs v hv
      rcases List.mem_or_eq_of_mem_set hgs with h3 | h3
      · exact h.gids hT gs h3 v hv
      · rw [h3] at hv
        exact h.graph_ids hT g v hv

end

/-! ### the traversal of the inliner's cloner, for any reflexive and transitive relation between cloner states -/

def RecRel (R : ICl → ICl → Prop) (rec : ICl → GId → Option (ICl × GId)) : Prop :=
  ∀ st g st' g', rec st g = some (st', g') → R st st'

theorem cloneSubgraphsO_rel {R : ICl → ICl → Prop} (hr : ∀ a, R a a) (ht : ∀ {a b c}, R a b → R b c → R a c)
    {rec : ICl → GId → Option (ICl × GId)} (hrec : RecRel R rec) : ∀ (gs : List GId) (st st' : ICl) (subs : List GId),
    cloneSubgraphsO rec st gs = some (st', subs) → R st st' := by
  intro gs
  induction gs with
  | nil =>
    intro st st' subs hc
    simp only [cloneSubgraphsO, Option.some.injEq, Prod.mk.injEq] at hc
    obtain ⟨rfl, _⟩ := hc
    exact hr _
  | cons g rest ih =>
    intro st st' subs hc
    simp only [cloneSubgraphsO] at hc
    cases h1 : rec st g with
    | none => simp [h1] at hc
    | some r =>
      obtain ⟨st1, g1⟩ := r
      simp only [h1] at hc
      cases h2 : cloneSubgraphsO rec st1 rest with
      | none => simp [h2] at hc
      | some r2 =>
        obtain ⟨st2, subs2⟩ := r2
        simp only [h2, Option.map_some, Option.some.injEq, Prod.mk.injEq] at hc
        obtain ⟨rfl, _⟩ := hc
        exact ht (hrec st g st1 g1 h1) (ih st1 st2 subs2 h2)

theorem cloneNodesO_rel {R : ICl → ICl → Prop} (hr : ∀ a, R a a) (ht : ∀ {a b c}, R a b → R b c → R a c)
    {rec : ICl → GId → Option (ICl × GId)}
    (hnode : ∀ {st st' : ICl} {n k : NId}, cloneNodeO rec st n = some (st', k) → R st st') :
    ∀ (ns : List NId) (st st' : ICl) (acc res : List NId), cloneNodesO rec st ns acc = some (st', res) → R st st' := by
  intro ns
  induction ns with
  | nil =>
    intro st st' acc res hc
    simp only [cloneNodesO, Option.some.injEq, Prod.mk.injEq] at hc
    obtain ⟨rfl, _⟩ := hc
    exact hr _
  | cons n rest ih =>
    intro st st' acc res hc
    simp only [cloneNodesO] at hc
    cases h1 : cloneNodeO rec st n with
    | none => simp [h1] at hc
    | some r =>
      obtain ⟨st1, k⟩ := r
      simp only [h1] at hc
      exact ht (hnode h1) (ih st1 st' _ res hc)

theorem cloneGraphOF_rel {R : ICl → ICl → Prop}
    (hbody : ∀ {rec : ICl → GId → Option (ICl × GId)}, RecRel R rec → ∀ {st st' : ICl} {g g' : GId},
      cloneGraphBodyO rec st g = some (st', g') → R st st') : ∀ (f : Nat), RecRel R (cloneGraphOF f) := by
  intro f
  induction f with
  | zero => intro st g st' g' hc; simp [cloneGraphOF] at hc
  | succ f ih =>
    intro st g st' g' hc
    simp only [cloneGraphOF] at hc
    exact hbody ih hc

theorem cloneNodeO_parts {rec : ICl → GId → Option (ICl × GId)} {st st' : ICl} {n k : NId}
    (hc : cloneNodeO rec st n = some (st', k)) :
    ∃ ins st1 subs, cloneInputsO st.vm (st.w.node n).inputs = some ins ∧
      cloneSubgraphsO rec st (st.w.node n).subgraphs = some (st1, subs) ∧
      st' = { st1 with
        w := (renameOuts (cnWorld st1.w (st.w.node n) ins st1.vm subs, st1.used) (cnOuts st1.w (st.w.node n))).1,
        used := (renameOuts (cnWorld st1.w (st.w.node n) ins st1.vm subs, st1.used) (cnOuts st1.w (st.w.node n))).2,
        vm := cnVm st1.w (st.w.node n) st1.vm,
        t := match st1.t.calleeOf n with
          | some f => { st1.t with callee := (st1.w.nodes.length, f) :: st1.t.callee }
          | none => st1.t,
        subst := cnSubst st1.w (st.w.node n) st1.subst,
        newNodes := st1.newNodes ++ [st1.w.nodes.length] } := by
  unfold cloneNodeO at hc
  simp only at hc
  cases hci : cloneInputsO st.vm (st.w.node n).inputs with
  | none => simp [hci] at hc
  | some ins =>
    simp only [hci] at hc
    cases hs : cloneSubgraphsO rec st (st.w.node n).subgraphs with
    | none => simp [hs] at hc
    | some r =>
      obtain ⟨st1, subs⟩ := r
      simp only [hs] at hc
      split at hc
      · cases hc
      · simp only [Option.some.injEq, Prod.mk.injEq] at hc
        exact ⟨ins, st1, subs, rfl, rfl, hc.1.symm⟩

theorem cloneGraphBodyO_parts {rec : ICl → GId → Option (ICl × GId)} {st st' : ICl} {g g' : GId}
    (hc : cloneGraphBodyO rec st g = some (st', g')) :
    ∃ st0 st2 ns outs', cloneValsO st ((st.w.graph g).inputs ++ (st.w.graph g).inits) = some st0 ∧
      cloneNodesO rec st0 (st.w.graph g).nodes [] = some (st2, ns) ∧
      st' = { st2 with
        w := { st2.w with graphs := st2.w.graphs ++
          [{ inputs := (st.w.graph g).inputs.filterMap (oget st0.vm), nodes := ns,
             inits := (st.w.graph g).inits.filterMap (oget st0.vm) }] },
        t := { st2.t with outs := (st2.w.graphs.length, outs') :: st2.t.outs },
        newGraphs := st2.newGraphs ++ [st2.w.graphs.length] } := by
  unfold cloneGraphBodyO at hc
  simp only at hc
  cases h0 : cloneValsO st ((st.w.graph g).inputs ++ (st.w.graph g).inits) with
  | none => simp [h0] at hc
  | some st0 =>
    simp only [h0] at hc
    cases h1 : cloneNodesO rec st0 (st.w.graph g).nodes [] with
    | none => simp [h1] at hc
    | some r =>
      obtain ⟨st2, ns⟩ := r
      simp only [h1] at hc
      cases h2 : optAll ((st2.t.outsOf g).map (oget st2.vm)) with
      | none => simp [h2] at hc
      | some outs' =>
        simp only [h2, Option.some.injEq, Prod.mk.injEq] at hc
        exact ⟨st0, st2, ns, outs', rfl, h1, hc.1.symm⟩

/-! ### the traversal of the pass keeps whatever every inlined call keeps -/

def RecKeeps (J : IState → Prop) (rec : IState → GId → Option IState) : Prop :=
  ∀ st g st', rec st g = some st' → J st → J st'

def CallKeeps (J : IState → Prop) : Prop :=
  ∀ {fuel : Nat} {st st' : IState} {g : GId} {c : NId} {f : GId} {tops : List NId},
    inlineCall fuel st g c f = some (st', tops) → J st → J st'

theorem inlSubs_keeps {J : IState → Prop} {rec : IState → GId → Option IState}
    (hrec : RecKeeps J rec) : ∀ (gs : List GId) (st st' : IState),
    inlSubs rec st gs = some st' → J st → J st' := by
  intro gs
  induction gs with
  | nil => intro st st' hc h; simp only [inlSubs, Option.some.injEq] at hc; subst hc; exact h
  | cons g rest ih =>
    intro st st' hc h
    simp only [inlSubs] at hc
    cases h1 : rec st g with
    | none => simp [h1] at hc
    | some st1 =>
      simp only [h1] at hc
      exact ih st1 st' hc (hrec st g st1 h1 h)

theorem inlNodes_keeps {J : IState → Prop} (hcall : CallKeeps J) {rec : IState → GId → Option IState}
    (hrec : RecKeeps J rec) (fuel : Nat) (g : GId) : ∀ (k : Nat) (st st' : IState) (ns : List NId),
    inlNodes rec fuel g k st ns = some st' → J st → J st' := by
  intro k
  induction k with
  | zero => intro st st' ns hc _; simp [inlNodes] at hc
  | succ k ih =>
    intro st st' ns hc h
    cases ns with
    | nil => simp only [inlNodes, Option.some.injEq] at hc; subst hc; exact h
    | cons n rest =>
      simp only [inlNodes] at hc
      cases hcal : st.t.calleeOf n with
      | some f =>
        simp only [hcal] at hc
        cases h1 : inlineCall fuel st g n f with
        | none => simp [h1] at hc
        | some r =>
          obtain ⟨st1, tops⟩ := r
          simp only [h1] at hc
          exact ih st1 st' _ hc (hcall h1 h)
      | none =>
        simp only [hcal] at hc
        cases h1 : inlSubs rec st (st.w.node n).subgraphs with
        | none => simp [h1] at hc
        | some st1 =>
          simp only [h1] at hc
          exact ih st1 st' _ hc (inlSubs_keeps hrec _ _ _ h1 h)

/-- `J` does not look at the names in use -/
def UsedFree (J : IState → Prop) : Prop := ∀ (st : IState) (u : List String), J st → J { st with used := u }

theorem inlGraphF_keeps {J : IState → Prop} (hcall : CallKeeps J) (hu : UsedFree J) (fuel : Nat) :
    ∀ (d : Nat), RecKeeps J (inlGraphF fuel d) := by
  intro d
  induction d with
  | zero => intro st g st' hc _; simp [inlGraphF] at hc
  | succ d ih =>
    intro st g st' hc h
    simp only [inlGraphF] at hc
    exact inlNodes_keeps hcall ih fuel g fuel _ _ _ hc (hu st _ h)

theorem inlFuncs_keeps {J : IState → Prop} (hcall : CallKeeps J) (hu : UsedFree J) (fuel : Nat) : ∀ (fs : List GId) (st st' : IState),
    inlFuncs fuel st fs = some st' → J st → J st' := by
  intro fs
  induction fs with
  | nil => intro st st' hc h; simp only [inlFuncs, Option.some.injEq] at hc; subst hc; exact h
  | cons f rest ih =>
    intro st st' hc h
    simp only [inlFuncs] at hc
    split at hc
    · exact ih st st' hc h
    · cases h1 : inlGraphF fuel fuel st f with
      | none => simp [h1] at hc
      | some st1 =>
        simp only [h1] at hc
        exact ih st1 st' hc (inlGraphF_keeps hcall hu fuel fuel st f st1 h1 h)

theorem inlinePass_keeps {J : IState → Prop} (hcall : CallKeeps J) (hu : UsedFree J) {fuel : Nat} {w : World} {m : MId} {t : ITab}
    {r : IOut} (hc : inlinePass fuel w m t = some r) (h : J { w := w, t := t }) :
    ∃ st, J st ∧ r = { w := dropFuncs st.w m st.inlined, t := st.t, subst := st.subst } := by
  unfold inlinePass at hc
  simp only at hc
  cases h1 : inlGraphF fuel fuel { w := w, t := t } (w.model m).graph with
  | none => simp [h1] at hc
  | some st1 =>
    simp only [h1] at hc
    cases h2 : inlFuncs fuel st1 (w.model m).funcs with
    | none => simp [h2] at hc
    | some st2 =>
      simp only [h2, Option.some.injEq] at hc
      exact ⟨st2, inlFuncs_keeps hcall hu fuel _ _ _ h2 (inlGraphF_keeps hcall hu fuel fuel _ _ _ h1 h), hc.symm⟩

/-- the cloner state an inlined call starts from -/
def callCl (st : IState) (c : NId) (f : GId) : ICl :=
  { w := st.w, t := st.t, vm := (zipPadO (st.w.graph f).inputs (st.w.node c).inputs).reverse, used := st.used,
    subst := st.subst ++ (st.w.node c).inputs.filterMap id }

/-- `replace_nodes_and_values` up to the removal of the call node -/
def splice (w : World) (g : GId) (c : NId) (pairs : List (VId × VId)) (newTops created : List NId)
    (newGraphs : List GId) : World :=
  let w2 := rauwAll (copyInfo w pairs) pairs
  let gs := w2.graph g
  let w2g : World := w2.setGraph g { gs with nodes := gs.nodes.flatMap (fun k => if k = c then c :: newTops else [k]) }
  { w2g with models := w2g.models.map (fun ms =>
      if g ∈ ms.graphs then { ms with nodes := ms.nodes ++ created, graphs := ms.graphs ++ newGraphs } else ms) }

theorem inlineCall_stages {fuel : Nat} {st st' : IState} {g : GId} {c : NId} {f : GId} {tops : List NId}
    (hc : inlineCall fuel st g c f = some (st', tops)) :
    ∃ cl tops0 fw,
      cloneNodesO (cloneGraphOF fuel) (callCl st c f) (st.w.graph f).nodes [] = some (cl, tops0) ∧
      fwdOutsO cl.vm (Fwd.mk cl.w cl.used ((tops0.map (fun k => (cl.w.node k).outputs)).flatten) [] [])
        (cl.t.outsOf f) = some fw ∧
      removeNode (splice fw.w g c ((st.w.node c).outputs.zip fw.outvals) (tops0 ++ fw.nodes)
        (cl.newNodes ++ fw.nodes) cl.newGraphs) g c true = (st'.w, .ok) ∧
      st'.subst = cl.subst ++ fw.outvals := by
  unfold inlineCall at hc
  simp only at hc
  split at hc
  · cases hc
  split at hc
  · cases hc
  cases h1 : cloneNodesO (cloneGraphOF fuel)
      { w := st.w, t := st.t, vm := (zipPadO (st.w.graph f).inputs (st.w.node c).inputs).reverse, used := st.used,
        subst := st.subst ++ (st.w.node c).inputs.filterMap id } (st.w.graph f).nodes [] with
  | none => simp [h1] at hc
  | some r =>
    obtain ⟨cl, tops0⟩ := r
    simp only [h1] at hc
    cases h2 : fwdOutsO cl.vm (Fwd.mk cl.w cl.used ((tops0.map (fun k => (cl.w.node k).outputs)).flatten) [] [])
        (cl.t.outsOf f) with
    | none => simp [h2] at hc
    | some fw =>
      simp only [h2] at hc
      split at hc
      · cases hc
      generalize hr : removeNode _ g c true = r at hc
      obtain ⟨w4, res⟩ := r
      cases res with
      | raised => simp at hc
      | ok =>
        simp only [Option.some.injEq, Prod.mk.injEq] at hc
        obtain ⟨rfl, _⟩ := hc
        exact ⟨cl, tops0, fw, h1, h2, hr, rfl⟩

end IrVerif.Device
