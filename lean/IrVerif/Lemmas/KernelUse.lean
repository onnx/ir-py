/-
Kernel: which fields each clause of the invariant reads; `Frame`: a primitive is described by the fields it may write, and
every clause that reads none of them is carried over; the primitives on node inputs.
-/
import IrVerif.Lemmas.KernelBase
namespace IrVerif.Kernel

theorem I_use_congr {w w' : World}
    (hv : ∀ v, (w'.val v).uses = (w.val v).uses)
    (hn : ∀ n, (w'.node n).inputs = (w.node n).inputs) (h : I_use w) : I_use w' := by
  unfold I_use at *
  simp only [hv, hn]; exact h

theorem I_prod_congr {w w' : World}
    (hv : ∀ v, (w'.val v).producer = (w.val v).producer ∧ (w'.val v).index = (w.val v).index)
    (hn : ∀ n, (w'.node n).outputs = (w.node n).outputs) (h : I_prod w) : I_prod w' := by
  unfold I_prod at *
  simp only [hv, hn]; exact h

theorem I_root_congr {w w' : World}
    (hv : ∀ v, (w'.val v).producer = (w.val v).producer ∧ (w'.val v).isIn = (w.val v).isIn ∧
      (w'.val v).isInit = (w.val v).isInit) (h : I_root w) : I_root w' := by
  unfold I_root at *
  simp only [hv]; exact h

/-- `I_own` reads the tracked lists only through membership and multiplicity -/
theorem I_own_perm {w w' : World}
    (hv : ∀ v, (w'.val v).graph = (w.val v).graph ∧ (w'.val v).isIn = (w.val v).isIn ∧
      (w'.val v).isOut = (w.val v).isOut ∧ (w'.val v).isInit = (w.val v).isInit)
    (hg : ∀ g, ((w'.gr g).inputs.Perm (w.gr g).inputs) ∧ ((w'.gr g).outputs.Perm (w.gr g).outputs) ∧
      (w'.gr g).inCnt = (w.gr g).inCnt ∧ (w'.gr g).outCnt = (w.gr g).outCnt ∧
      (w'.gr g).inits = (w.gr g).inits) (h : I_own w) : I_own w' := by
  have hl : ∀ k g, (ioList k (w'.gr g)).Perm (ioList k (w.gr g)) := by
    intro k g; cases k
    · exact (hg g).1
    · exact (hg g).2.1
  have hc : ∀ k g, ioCnt k (w'.gr g) = ioCnt k (w.gr g) := by
    intro k g; cases k <;> simp [ioCnt, hg]
  have hf : ∀ k v, ioFlag k (w'.val v) = ioFlag k (w.val v) := by
    intro k v; cases k <;> simp [ioFlag, hv]
  have ho : ∀ v, owned (w'.val v) = owned (w.val v) := by
    intro v; simp [owned, hv]
  constructor
  · intro k g v; rw [(hl k g).count_eq, hc]; exact h.cnt k g v
  · intro k g v; rw [(hl k g).mem_iff, hf, (hv v).1]; exact h.io_mem k g v
  · intro k v; rw [hf, (hv v).1]; simp only [(hl k _).mem_iff]; exact h.io_flag k v
  · intro g key v; rw [(hg g).2.2.2.2, (hv v).1, (hv v).2.2.2]; exact h.init_mem g key v
  · intro v; rw [(hv v).1, (hv v).2.2.2]; simp only [hg]; exact h.init_flag v
  · intro v g; rw [(hv v).1, ho]; exact h.graph_owned v g

theorem I_own_congr {w w' : World}
    (hv : ∀ v, (w'.val v).graph = (w.val v).graph ∧ (w'.val v).isIn = (w.val v).isIn ∧
      (w'.val v).isOut = (w.val v).isOut ∧ (w'.val v).isInit = (w.val v).isInit)
    (hg : ∀ g, (w'.gr g).inputs = (w.gr g).inputs ∧ (w'.gr g).outputs = (w.gr g).outputs ∧
      (w'.gr g).inCnt = (w.gr g).inCnt ∧ (w'.gr g).outCnt = (w.gr g).outCnt ∧
      (w'.gr g).inits = (w.gr g).inits) (h : I_own w) : I_own w' :=
  I_own_perm hv (fun g => ⟨.of_eq (hg g).1, .of_eq (hg g).2.1, (hg g).2.2⟩) h

theorem I_key_congr {w w' : World}
    (hv : ∀ v, (w'.val v).name = (w.val v).name)
    (hg : ∀ g, (w'.gr g).inits = (w.gr g).inits) (h : I_key w) : I_key w' := by
  constructor
  · intro g key v; rw [hg, hv]; exact h.name g key v
  · intro g; rw [hg]; exact h.keys g

theorem I_node_congr {w w' : World}
    (hn : ∀ n, (w'.node n).graph = (w.node n).graph)
    (hg : ∀ g, (w'.gr g).nodes = (w.gr g).nodes) (h : I_node w) : I_node w' := by
  constructor
  · intro n g; rw [hn, hg]; exact h.mem n g
  · intro g; rw [hg]; exact h.nodup g

/-- `w'` agrees with `w` on every record once the fields a primitive may write are blanked (`bv`, `bn`, `bg`).  `locked`
is carried along because `constLocked` (the naming probe) reads it.  The blanking functions are structure updates, so the
side conditions of `setVal … I_node` below (`(bv x).uses = x.uses`, …) are auto-params that `rfl` closes, or fails to -/
structure Frame (bv : ValueS → ValueS) (bn : NodeS → NodeS) (bg : GraphS → GraphS) (w w' : World) : Prop where
  val : ∀ v, bv (w'.val v) = bv (w.val v)
  node : ∀ m, bn (w'.node m) = bn (w.node m)
  gr : ∀ g, bg (w'.gr g) = bg (w.gr g)
  locked : w'.locked = w.locked

namespace Frame
variable {bv : ValueS → ValueS} {bn : NodeS → NodeS} {bg : GraphS → GraphS} {w w' : World}

theorem bump (w : World) : Frame bv bn bg w (bump w) := ⟨fun _ => rfl, fun _ => rfl, fun _ => rfl, rfl⟩

theorem symm (h : Frame bv bn bg w w') : Frame bv bn bg w' w :=
  ⟨fun v => (h.val v).symm, fun m => (h.node m).symm, fun g => (h.gr g).symm, h.locked.symm⟩

theorem trans {a b c : World} (h1 : Frame bv bn bg a b) (h2 : Frame bv bn bg b c) : Frame bv bn bg a c :=
  ⟨fun v => (h2.val v).trans (h1.val v), fun m => (h2.node m).trans (h1.node m),
   fun g => (h2.gr g).trans (h1.gr g), h2.locked.trans h1.locked⟩

theorem setVal (w : World) (v : Nat) (x : ValueS) (hx : bv x = bv (w.val v) := by rfl) : Frame bv bn bg w (w.setVal v x) := by
  refine ⟨fun u => ?_, fun _ => rfl, fun _ => rfl, rfl⟩
  rw [World.val_setVal]; split
  · subst_vars; exact hx
  · rfl

theorem setNode (w : World) (n : Nat) (x : NodeS) (hx : bn x = bn (w.node n) := by rfl) : Frame bv bn bg w (w.setNode n x) := by
  refine ⟨fun _ => rfl, fun m => ?_, fun _ => rfl, rfl⟩
  rw [World.node_setNode]; split
  · subst_vars; exact hx
  · rfl

theorem setGr (w : World) (g : Nat) (r : GraphS) (hr : bg r = bg (w.gr g) := by rfl) : Frame bv bn bg w (w.setGr g r) := by
  refine ⟨fun _ => rfl, fun _ => rfl, fun g' => ?_, rfl⟩
  rw [World.gr_setGr]; split
  · subst_vars; exact hr
  · rfl

theorem keep {α β : Type} {b : α → α} (f : α → β) (hb : ∀ x, f (b x) = f x) {x y : α} (h : b x = b y) : f x = f y := by
  rw [← hb x, h, hb]

theorem I_use (hf : Frame bv bn bg w w') (h : I_use w) (h1 : ∀ x, (bv x).uses = x.uses := by intro; rfl)
    (h2 : ∀ x, (bn x).inputs = x.inputs := by intro; rfl) : I_use w' :=
  I_use_congr (fun v => keep _ h1 (hf.val v)) (fun m => keep _ h2 (hf.node m)) h

theorem I_prod (hf : Frame bv bn bg w w') (h : I_prod w) (h1 : ∀ x, (bv x).producer = x.producer := by intro; rfl)
    (h2 : ∀ x, (bv x).index = x.index := by intro; rfl) (h3 : ∀ x, (bn x).outputs = x.outputs := by intro; rfl) :
    I_prod w' :=
  I_prod_congr (fun v => ⟨keep _ h1 (hf.val v), keep _ h2 (hf.val v)⟩) (fun m => keep _ h3 (hf.node m)) h

theorem I_root (hf : Frame bv bn bg w w') (h : I_root w) (h1 : ∀ x, (bv x).producer = x.producer := by intro; rfl)
    (h2 : ∀ x, (bv x).isIn = x.isIn := by intro; rfl) (h3 : ∀ x, (bv x).isInit = x.isInit := by intro; rfl) :
    I_root w' :=
  I_root_congr (fun v => ⟨keep _ h1 (hf.val v), keep _ h2 (hf.val v), keep _ h3 (hf.val v)⟩) h

theorem I_own (hf : Frame bv bn bg w w') (h : I_own w) (h1 : ∀ x, (bv x).graph = x.graph := by intro; rfl)
    (h2 : ∀ x, (bv x).isIn = x.isIn := by intro; rfl) (h3 : ∀ x, (bv x).isOut = x.isOut := by intro; rfl)
    (h4 : ∀ x, (bv x).isInit = x.isInit := by intro; rfl) (g1 : ∀ r, (bg r).inputs = r.inputs := by intro; rfl)
    (g2 : ∀ r, (bg r).outputs = r.outputs := by intro; rfl) (g3 : ∀ r, (bg r).inCnt = r.inCnt := by intro; rfl)
    (g4 : ∀ r, (bg r).outCnt = r.outCnt := by intro; rfl) (g5 : ∀ r, (bg r).inits = r.inits := by intro; rfl) :
    I_own w' :=
  I_own_congr (fun v => ⟨keep _ h1 (hf.val v), keep _ h2 (hf.val v), keep _ h3 (hf.val v), keep _ h4 (hf.val v)⟩)
    (fun g => ⟨keep _ g1 (hf.gr g), keep _ g2 (hf.gr g), keep _ g3 (hf.gr g), keep _ g4 (hf.gr g),
      keep _ g5 (hf.gr g)⟩) h

theorem I_key (hf : Frame bv bn bg w w') (h : I_key w) (h1 : ∀ x, (bv x).name = x.name := by intro; rfl)
    (h2 : ∀ r, (bg r).inits = r.inits := by intro; rfl) : I_key w' :=
  I_key_congr (fun v => keep _ h1 (hf.val v)) (fun g => keep _ h2 (hf.gr g)) h

theorem I_node (hf : Frame bv bn bg w w') (h : I_node w) (h1 : ∀ x, (bn x).graph = x.graph := by intro; rfl)
    (h2 : ∀ r, (bg r).nodes = r.nodes := by intro; rfl) : I_node w' :=
  I_node_congr (fun m => keep _ h1 (hf.node m)) (fun g => keep _ h2 (hf.gr g)) h

end Frame

theorem addUse_mem (us : List (Nat × Nat)) (u x : Nat × Nat) : x ∈ addUse us u ↔ x ∈ us ∨ x = u := by
  unfold addUse; split <;> simp_all

theorem addUse_nodup (us : List (Nat × Nat)) (u : Nat × Nat) (h : us.Nodup) : (addUse us u).Nodup := by
  unfold addUse; split
  · exact h
  · simp [List.nodup_append, h]; grind

/-- the use list of a value once slot `u`, which held the value iff `was`, holds it iff `is` -/
def slotUses (us : List (Nat × Nat)) (u : Nat × Nat) (was is : Bool) : List (Nat × Nat) :=
  if is then addUse (if was then us.erase u else us) u else if was then us.erase u else us

theorem mem_slotUses (us : List (Nat × Nat)) (u x : Nat × Nat) (was is : Bool) (hnd : us.Nodup)
    (hu : u ∈ us → was = true) : x ∈ slotUses us u was is ↔ (x = u ∧ is = true) ∨ (x ≠ u ∧ x ∈ us) := by
  by_cases hx : x = u
  · subst hx
    cases is <;> cases was <;> simp_all [slotUses, addUse_mem, hnd.mem_erase_iff]
  · cases is <;> cases was <;> simp [slotUses, addUse_mem, hnd.mem_erase_iff, hx]

theorem slotUses_nodup (us : List (Nat × Nat)) (u : Nat × Nat) (was is : Bool) (hnd : us.Nodup) :
    (slotUses us u was is).Nodup := by
  cases is <;> cases was <;> simp only [slotUses, if_true, Bool.false_eq_true, if_false] <;>
    first | exact hnd | exact hnd.erase u | exact addUse_nodup _ _ hnd | exact addUse_nodup _ _ (hnd.erase u)

theorem setInput_of_le (w : World) (n i : Nat) (nv : Option Nat) (h : (w.node n).inputs.length ≤ i) :
    setInput w n i nv = bump w := by
  unfold setInput; simp only [Nat.not_lt.2 h, if_false]

theorem setInput_val (w : World) (n i : Nat) (nv : Option Nat) (h : i < (w.node n).inputs.length) (v : Nat) :
    (setInput w n i nv).val v =
      { w.val v with uses := slotUses (w.val v).uses (n, i)
                       (decide ((w.node n).inputs.getD i none = some v)) (decide (nv = some v)) } := by
  unfold setInput
  simp only [h, if_true]
  cases (w.node n).inputs.getD i none with
  | none =>
    cases nv with
    | none => rfl
    | some x =>
      simp only [World.val_setVal, World.val_setNode, Option.some.injEq, reduceCtorEq, decide_false]
      by_cases hx : v = x
      · subst hx; simp [slotUses]
      · simp [slotUses, hx, Ne.symm hx]
  | some o =>
    cases nv with
    | none =>
      simp only [World.val_setVal, World.val_setNode, Option.some.injEq, reduceCtorEq, decide_false]
      by_cases ho : v = o
      · subst ho; simp [slotUses]
      · simp [slotUses, ho, Ne.symm ho]
    | some x =>
      simp only [World.val_setVal, World.val_setNode, Option.some.injEq]
      by_cases hx : v = x <;> by_cases ho : v = o
      · subst hx; subst ho; simp [slotUses]
      · subst hx; simp [slotUses, ho, Ne.symm ho]
      · subst ho; simp [slotUses, hx, Ne.symm hx]
      · simp [slotUses, hx, ho, Ne.symm hx, Ne.symm ho]

theorem setInput_node (w : World) (n i : Nat) (nv : Option Nat) (m : Nat) :
    (setInput w n i nv).node m =
      if m = n then { w.node n with inputs := (w.node n).inputs.set i nv } else w.node m := by
  unfold setInput
  simp only []
  split <;> rename_i h
  · cases (w.node n).inputs.getD i none <;> cases nv <;> simp
  · split
    · subst_vars; simp at h; simp [List.set_eq_of_length_le h]
    · rfl

theorem setInput_inputs (w : World) (n i : Nat) (nv : Option Nat) (m : Nat) :
    ((setInput w n i nv).node m).inputs =
      if m = n then (w.node n).inputs.set i nv else (w.node m).inputs := by
  rw [setInput_node]; split <;> rfl

abbrev InputFrame := Frame (fun x => { x with uses := [] }) (fun x => { x with inputs := [] }) id

theorem setInput_inputFrame (w : World) (n i : Nat) (nv : Option Nat) : InputFrame w (setInput w n i nv) := by
  refine ⟨fun v => ?_, fun m => ?_, fun g => ?_, ?_⟩
  · by_cases h : i < (w.node n).inputs.length
    · rw [setInput_val w n i nv h v]
    · rw [setInput_of_le _ _ _ _ (Nat.le_of_not_lt h)]; rfl
  · rw [setInput_node]; split
    · subst_vars; rfl
    · rfl
  all_goals
    unfold setInput
    simp only []
    split
    · cases (w.node n).inputs.getD i none <;> cases nv <;> rfl
    · rfl

theorem getD_none_eq_some (l : List (Option Nat)) (i v : Nat) : l.getD i none = some v ↔ l[i]? = some (some v) := by
  rw [List.getD_eq_getElem?_getD]; cases l[i]? <;> simp

theorem setInput_I_use (w : World) (n i : Nat) (nv : Option Nat) (h : I_use w) :
    I_use (setInput w n i nv) := by
  by_cases hi : i < (w.node n).inputs.length
  · refine ⟨fun v m j => ?_, fun v => ?_⟩
    · rw [setInput_val w n i nv hi, setInput_node]
      simp only []
      rw [mem_slotUses _ _ _ _ _ (h.2 v)
        (fun hu => decide_eq_true ((getD_none_eq_some _ _ _).2 ((h.1 v n i).1 hu)))]
      by_cases hm : m = n
      · subst hm
        by_cases hj : j = i
        · subst hj; simp [hi, eq_comm]
        · simp [hj, h.1 v m j, Ne.symm hj]
      · simp [hm, h.1 v m j]
    · rw [setInput_val w n i nv hi]; exact slotUses_nodup _ _ _ _ (h.2 v)
  · rw [setInput_of_le _ _ _ _ (Nat.le_of_not_lt hi)]; exact h

theorem inputsCongr_I_use (w : World) (n : Nat) (ins : List (Option Nat)) (h : I_use w)
    (hins : ∀ (i v : Nat), ins[i]? = some (some v) ↔ (w.node n).inputs[i]? = some (some v)) :
    I_use (w.setNode n { w.node n with inputs := ins }) := by
  refine ⟨fun v m i => ?_, h.2⟩
  rw [World.val_setNode, h.1, World.node_setNode]
  split
  · subst_vars; exact (hins i v).symm
  · rfl

theorem dropInput_I_use (w : World) (n : Nat) (h : I_use w)
    (hlast : ∀ v, (w.node n).inputs[(w.node n).inputs.length - 1]? ≠ some (some v)) :
    I_use (w.setNode n { w.node n with inputs := (w.node n).inputs.dropLast }) := by
  apply inputsCongr_I_use _ _ _ h
  intro i v
  rw [List.getElem?_dropLast]
  split
  · rfl
  · rename_i hi
    constructor
    · intro hc; cases hc
    · intro hc
      have := (List.getElem?_eq_some_iff.1 hc).1
      have e : i = (w.node n).inputs.length - 1 := by omega
      rw [e] at hc; exact absurd hc (hlast v)

theorem popInput_inputFrame (w : World) (n : Nat) : InputFrame w (popInput w n) := by
  unfold popInput
  simp only []
  split
  · exact Frame.bump w
  · exact (setInput_inputFrame _ _ _ _).trans (Frame.setNode _ _ _)

theorem popInput_I_use (w : World) (n : Nat) (h : I_use w) : I_use (popInput w n) := by
  unfold popInput
  simp only []
  split
  · exact h
  · apply dropInput_I_use _ _ (setInput_I_use _ _ _ _ h)
    intro v
    simp [setInput_inputs, List.getElem?_set]

theorem padInputs_I_use (w : World) (n k : Nat) (h : I_use w) :
    I_use (w.setNode n { w.node n with inputs := (w.node n).inputs ++ List.replicate k none }) := by
  apply inputsCongr_I_use _ _ _ h
  intro i v
  by_cases hi : i < (w.node n).inputs.length
  · rw [List.getElem?_append_left hi]
  · rw [List.getElem?_append_right (Nat.le_of_not_lt hi), List.getElem?_eq_none (Nat.le_of_not_lt hi),
      List.getElem?_replicate]
    split <;> simp

end IrVerif.Kernel
