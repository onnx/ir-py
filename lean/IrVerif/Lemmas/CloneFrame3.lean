/-
Frame lemma for the third editing alphabet `IrVerif.Clone.Edit3` (Model/Clone2.lean): `Graph.sort` on
graphs with subgraphs, slice assignment on `graph.inputs` / `graph.outputs`, `initializers.pop /
clear / update`, `Graph.extend`, `Graph.remove(safe=True)`, `convenience.replace_all_uses_with`
with several pairs, `convenience.rename_values`.  With the extended separation (`CellOutX true`),
a call whose receivers and arguments are outside the protected region `B` leaves every cell of `B`
as it was and re-establishes the separation.  (`sortDeep` names the graphs of the nest among its
arguments: they are the cells it writes.)
-/
import IrVerif.Model.Clone2
import IrVerif.Lemmas.CloneFrame2
namespace IrVerif.Clone

section
variable {strict : Bool} {B : Nat → Prop} {wB : World}

def ArgsOut3 (B : Nat → Prop) (e : Edit3) : Prop := ∀ a ∈ e.args, ¬ B a


theorem Quiet.good {α : Type} {m : M α} (h : Quiet m) {s : St} (hI : FInv true strict B wB s) :
    FGoodAt true strict B wB m s (fun _ s1 => s1 = s) := by
  unfold FGoodAt
  rw [h s]
  exact ⟨hI, Nat.le_refl _, fun _ _ => rfl⟩

theorem Quiet.checkItem (g : Nat) (key : String) (v : Nat) (p : Option String) : Quiet (checkItem g key v p) :=
  Quiet.bind (Quiet.readVal v) fun _ =>
    Quiet.guard (Quiet.guard (Quiet.guard (Quiet.guard (Quiet.pure _))))

theorem Quiet.updChecks (g : Nat) : ∀ (items : List (String × Nat)) (pend : List (Nat × String)),
    Quiet (updChecks g pend items)
  | [], _ => Quiet.pure _
  | kv :: rest, pend => by
    unfold Clone.updChecks
    exact Quiet.bind (Quiet.checkItem _ _ _ _) fun _ => Quiet.bind (Quiet.readVal _) fun _ =>
      Quiet.updChecks g rest _

theorem Quiet.checkRemovable (g : Nat) (toRemove outputs : List Nat) (n : Nat) :
    Quiet (checkRemovable g toRemove outputs n) := by
  unfold Clone.checkRemovable
  refine Quiet.bind (Quiet.readNode n) fun x => ?_
  split
  · exact Quiet.raise _
  · exact Quiet.forM' (fun o => Quiet.bind (Quiet.readVal o) fun _ =>
      Quiet.guard (Quiet.guard (Quiet.pure _))) _

theorem Quiet.ownershipOf (sim : List (Nat × (Bool × Option Nat))) (v : Nat) : Quiet (ownershipOf sim v) := by
  unfold Clone.ownershipOf
  split
  · exact Quiet.pure _
  · exact Quiet.bind (Quiet.readVal v) fun _ => Quiet.pure _

theorem Quiet.rauwChecks (outs : Bool) : ∀ (pairs : List (Nat × Nat)) (sim : List (Nat × (Bool × Option Nat))),
    Quiet (rauwChecks outs sim pairs)
  | [], _ => Quiet.pure _
  | p :: rest, sim => by
    unfold Clone.rauwChecks
    exact Quiet.bind (Quiet.ownershipOf _ _) fun o =>
      Quiet.ite (Quiet.rauwChecks outs rest _) <| Quiet.guard <|
      Quiet.bind (Quiet.ownershipOf _ _) fun r => Quiet.guard <|
      Quiet.ite (Quiet.bind (Quiet.readVal _) fun _ => Quiet.rauwChecks outs rest _)
        (Quiet.rauwChecks outs rest _)

theorem Quiet.renameGroupChecks (g : Nat) (group : List (Nat × String)) :
    ∀ (l : List (Nat × String)) (seen : List (String × Nat)), Quiet (renameGroupChecks g group seen l)
  | [], _ => Quiet.pure _
  | p :: rest, seen => by
    unfold Clone.renameGroupChecks
    refine Quiet.guard (Quiet.guard (Quiet.bind (Quiet.readGraph _) fun gs => ?_))
    split
    · exact Quiet.guard (Quiet.renameGroupChecks g group rest _)
    · exact Quiet.renameGroupChecks g group rest _

theorem fsetValueOwner_frame {s : St} (g : Nat) (f : ValueS → ValueS) (v : Nat)
    (hg : ¬ B g) (hv : ¬ B v)
    (hf : ∀ x, CellOutX true strict B (.val x) → CellOutX true strict B (.val (f x))) :
    Hoare (frameL true strict B wB) (setValueOwner g f v) s (fun _ _ => True) := by
  unfold setValueOwner
  refine fread .val fun vs _ _ hvso => ?_
  obtain ⟨a1, a2, a3, a4, _, a6, a7⟩ := hvso hv
  exact fset_good hv (hf _ (show CellOutX true strict B (.val { vs with graph := some g }) from
    ⟨a1, a2, a3, a4, hg, a6, a7⟩))

theorem funsetSeq_frame (g : Nat) (clear : ValueS → ValueS)
    (hclear : ∀ x, CellOutX true strict B (.val x) → CellOutX true strict B (.val (clear x))) :
    ∀ (olds data : List Nat) (s : St), (∀ v ∈ olds, ¬ B v) →
      Hoare (frameL true strict B wB) (unsetSeq g clear data olds) s (fun _ _ => True)
  | [], _, s, _ => Hoare.pure trivial
  | v :: rest, data, s, hv => by
    unfold unsetSeq
    have hvB := hv v List.mem_cons_self
    have hstep : Hoare (frameL true strict B wB)
        (if (data.erase v).contains v then assertOwner g v else unsetOwner g clear v) s (fun _ _ => True) := by
      split
      · exact fassertOwner_good g v
      · exact funsetOwner_good g clear v hvB hclear
    hbind hstep with u s1 - - hq1
    exact funsetSeq_frame g clear hclear rest _ s1 (fun x hx => hv x (List.mem_cons_of_mem _ hx))

theorem fsetNodeOrder_good {s : St} (p : Nat × List Nat) (hg : ¬ B p.1) :
    Hoare (frameL true strict B wB) (setNodeOrder p) s (fun _ _ => True) := by
  exact fmodify (f := fun gs => { gs with nodes := p.2 }) .graph hg fun _ h => h

theorem fmarkAll_good {s : St} {check : Nat → M Unit} {mark : ValueS → ValueS} (g : Nat) (vs : List Nat)
    (hcheck : ∀ v, Quiet (check v))
    (hmark : ∀ x, CellOutX true strict B (.val x) → CellOutX true strict B (.val (mark x)))
    (hg : ¬ B g) (hvs : ∀ v ∈ vs, ¬ B v) :
    Hoare (frameL true strict B wB) (forM' (fun v => do
      check v
      setValueOwner g mark v) vs) s (fun _ _ => True) := by
  refine fforM'_good _ _ (fun v hv s4 hI4 => ?_)
  hbind (Hoare.ofQuiet (hcheck v)) with u s5 - - hq5
  exact fsetValueOwner_frame g mark v hg (hvs v hv) hmark

theorem fsetSliceG_frame {s : St} {check : Nat → M Unit} {clear mark : ValueS → ValueS} {get : GraphS → List Nat}
    {put : GraphS → List Nat → GraphS} (g a b : Nat) (vs : List Nat)
    (hcheck : ∀ v, Quiet (check v))
    (hclear : ∀ x, CellOutX true strict B (.val x) → CellOutX true strict B (.val (clear x)))
    (hmark : ∀ x, CellOutX true strict B (.val x) → CellOutX true strict B (.val (mark x)))
    (hget : ∀ gs, CellOutX true strict B (.graph gs) → ∀ v ∈ get gs, ¬ B v)
    (hput : ∀ gs l, CellOutX true strict B (.graph gs) → (∀ v ∈ l, ¬ B v) → CellOutX true strict B (.graph (put gs l)))
    (hg : ¬ B g) (hvs : ∀ v ∈ vs, ¬ B v) :
    Hoare (frameL true strict B wB) (setSliceG check clear mark get put g a b vs) s (fun _ _ => True) := by
  unfold setSliceG
  refine fread .graph fun gs _ _ hgso => ?_
  have hdata := hget gs (hgso hg)
  refine Hoare.guard fun _ => ?_
  refine Hoare.guard fun _ => ?_
  refine Hoare.bindQuiet (Quiet.forM' hcheck _) fun _ _ => ?_
  hbind (funsetSeq_frame g clear hclear _ _ s
    (fun v hv => hdata v (List.mem_of_mem_drop (List.mem_of_mem_take hv)))) with u1 s3 - - hq3
  hbind (fmarkAll_good g vs hcheck hmark hg hvs) with u2 s4 - - hq4
  refine fread .graph fun gs2 _ _ hgs2o => ?_
  refine fset_good hg (hput gs2 _ (hgs2o hg) ?_)
  intro v hv
  rcases List.mem_append.mp hv with h1 | h1
  · rcases List.mem_append.mp h1 with h2 | h2
    · exact hdata v (List.mem_of_mem_take h2)
    · exact hvs v h2
  · exact hdata v (List.mem_of_mem_drop h1)

theorem fclearInitsLoop_good (g : Nat) (hg : ¬ B g) : ∀ (f : Nat) (s : St), Hoare (frameL true strict B wB) (clearInitsLoop g f) s (fun _ _ => True)
  | 0, s => Hoare.pure trivial
  | f + 1, s => by
    unfold clearInitsLoop
    refine fread .graph fun gs _ _ _ => ?_
    split
    · exact Hoare.pure trivial
    · next e _ _ =>
      hbind (fdelInit_good g e.1 hg) with u s2 - - hq2
      exact fclearInitsLoop_good g hg f s2

theorem fremoveOneSafe_good {s : St} (g n : Nat) (hg : ¬ B g) (hn : ¬ B n) :
    Hoare (frameL true strict B wB) (removeOneSafe g n) s (fun _ _ => True) := by
  unfold removeOneSafe
  refine fread .node fun x _ _ _ => ?_
  hbind (fclearInputs_good n hn (List.range x.inputs.length)) with u0 s2 - - hq2
  refine fread .node fun x2 _ _ hx2o => ?_
  hbind (fset_good hn (show CellOutX true strict B (.node { x2 with graph := none }) from
    hx2o hn)) with u1 s4 - - hq4
  refine fread .graph fun gs _ _ hgso => ?_
  exact fset_good hg (show CellOutX true strict B (.graph { gs with nodes := _ }) from
    hgso hg)

theorem fremoveSafeM_frame {s : St} (g : Nat) (ns : List Nat) (hg : ¬ B g)
    (hns : ∀ n ∈ ns, ¬ B n) : Hoare (frameL true strict B wB) (removeSafeM g ns) s (fun _ _ => True) := by
  unfold removeSafeM
  refine fread .graph fun gs _ _ _ => ?_
  refine Hoare.guard fun _ => ?_
  refine Hoare.bindQuiet (Quiet.forM' (fun n => Quiet.checkRemovable _ _ _ n) _) fun _ _ => ?_
  exact fforM'_good _ _ (fun n hn s3 hI3 =>
    fremoveOneSafe_good g n hg (hns n (List.mem_eraseDups.mp hn)))

theorem fcopyInfo_frame {s : St} (p : Nat × Nat) (ho : ¬ B p.1) (hn : ¬ B p.2) :
    Hoare (frameL true strict B wB) (copyInfo p) s (fun _ _ => True) := by
  unfold copyInfo
  refine fread .val fun ov _ _ hovo => ?_
  refine fread .val fun nv _ _ hnvo => ?_
  obtain ⟨o1, o2, _, _, _, o6, _⟩ := hovo ho
  obtain ⟨a1, a2, a3, a4, a5, a6, a7⟩ := hnvo hn
  have hc : CellOutX true strict B (.val { nv with
      type := if ov.type.isSome then ov.type else nv.type,
      shape := if ov.shape.isSome then ov.shape else nv.shape,
      const := if ov.const.isSome then ov.const else nv.const }) := by
    refine ⟨?_, ?_, a3, a4, a5, ?_, a7⟩
    · show OptOut B (if ov.type.isSome then ov.type else nv.type)
      split
      · exact o1
      · exact a1
    · show OptOut B (if ov.shape.isSome then ov.shape else nv.shape)
      split
      · exact o2
      · exact a2
    · show OptOut B (if ov.const.isSome then ov.const else nv.const)
      split
      · exact o6
      · exact a6
  hbind (fset_good hn hc) with u s3 - - hq3
  exact fsetName_good p.2 _ hn

/-! the same in the form of `FGoodAt` -/

theorem fsetValueOwner_good {s : St} (g : Nat) (f : ValueS → ValueS) (v : Nat)
    (hI : FInv true strict B wB s) (hg : ¬ B g) (hv : ¬ B v)
    (hf : ∀ x, CellOutX true strict B (.val x) → CellOutX true strict B (.val (f x))) :
    FGoodAt true strict B wB (setValueOwner g f v) s (fun _ _ => True) :=
  (fsetValueOwner_frame g f v hg hv hf).frame hI

theorem funsetSeq_good (g : Nat) (clear : ValueS → ValueS)
    (hclear : ∀ x, CellOutX true strict B (.val x) → CellOutX true strict B (.val (clear x))) :
    ∀ (olds data : List Nat) (s : St), FInv true strict B wB s → (∀ v ∈ olds, ¬ B v) →
      FGoodAt true strict B wB (unsetSeq g clear data olds) s (fun _ _ => True) :=
  fun olds data s hI hv => (funsetSeq_frame g clear hclear olds data s hv).frame hI

theorem fsetSliceG_good {s : St} {check : Nat → M Unit} {clear mark : ValueS → ValueS} {get : GraphS → List Nat}
    {put : GraphS → List Nat → GraphS} (g a b : Nat) (vs : List Nat)
    (hcheck : ∀ v, Quiet (check v))
    (hclear : ∀ x, CellOutX true strict B (.val x) → CellOutX true strict B (.val (clear x)))
    (hmark : ∀ x, CellOutX true strict B (.val x) → CellOutX true strict B (.val (mark x)))
    (hget : ∀ gs, CellOutX true strict B (.graph gs) → ∀ v ∈ get gs, ¬ B v)
    (hput : ∀ gs l, CellOutX true strict B (.graph gs) → (∀ v ∈ l, ¬ B v) → CellOutX true strict B (.graph (put gs l)))
    (hI : FInv true strict B wB s) (hg : ¬ B g) (hvs : ∀ v ∈ vs, ¬ B v) :
    FGoodAt true strict B wB (setSliceG check clear mark get put g a b vs) s (fun _ _ => True) :=
  (fsetSliceG_frame g a b vs hcheck hclear hmark hget hput hg hvs).frame hI

theorem fremoveSafeM_good {s : St} (g : Nat) (ns : List Nat) (hI : FInv true strict B wB s) (hg : ¬ B g)
    (hns : ∀ n ∈ ns, ¬ B n) : FGoodAt true strict B wB (removeSafeM g ns) s (fun _ _ => True) :=
  (fremoveSafeM_frame g ns hg hns).frame hI

theorem fcopyInfo_good {s : St} (p : Nat × Nat) (hI : FInv true strict B wB s) (ho : ¬ B p.1) (hn : ¬ B p.2) :
    FGoodAt true strict B wB (copyInfo p) s (fun _ _ => True) :=
  (fcopyInfo_frame p ho hn).frame hI

theorem mem_zip_left {α β : Type} {l : List α} {l' : List β} {p : α × β} (h : p ∈ l.zip l') : p.1 ∈ l ∧ p.2 ∈ l' :=
  List.of_mem_zip h

/-- the values of the old nodes give way to those of the new ones, then `k`: what `replaceWith` and `replaceMany` share -/
theorem freplaceVals_good {α : Type} {s : St} {Q : α → St → Prop} (olds news : List Nat) (k : M α)
    (holds : ∀ o ∈ olds, ¬ B o) (hnews : ∀ o ∈ news, ¬ B o)
    (hk : ∀ s1, Hoare (frameL true strict B wB) k s1 Q) :
    Hoare (frameL true strict B wB) (do
      forM' copyInfo (olds.zip news)
      if olds.length != news.length then raise "the number of values and replacements must match"
      else do
        rauwChecks true [] (olds.zip news)
        forM' (fun p => applyEdit2 (.replaceAllUses p.1 p.2 true)) (olds.zip news)
        k) s Q := by
  hbind (fforM'_good _ _ (fun p hp s2 hI2 =>
    fcopyInfo_frame p (holds _ (List.of_mem_zip hp).1) (hnews _ (List.of_mem_zip hp).2))) with u s1 - - hq1
  refine Hoare.guard fun _ => ?_
  refine Hoare.bindQuiet (Quiet.rauwChecks true (olds.zip news) []) fun _ _ => ?_
  hbind (fforM'_good _ _
    (fun p hp s3 hI3 => applyEdit2_frame (.replaceAllUses p.1 p.2 true) (by
      intro a haa
      simp [Edit2.args] at haa
      rcases haa with rfl | rfl
      · exact holds _ (List.of_mem_zip hp).1
      · exact hnews _ (List.of_mem_zip hp).2))) with u2 s3 - - hq3
  exact hk s3

theorem freplaceWith_good {s : St} (g n n' : Nat) (olds news : List Nat)
    (hg : ¬ B g) (hn : ¬ B n) (hn' : ¬ B n') (holds : ∀ o ∈ olds, ¬ B o) (hnews : ∀ o ∈ news, ¬ B o) :
    Hoare (frameL true strict B wB) (replaceWith g n n' olds news) s (fun _ _ => True) := by
  refine freplaceVals_good olds news _ holds hnews fun s1 => ?_
  hbind (finsertNode_good true g n n' hg hn') with u3 s4 - - hq4
  exact fremoveSafeM_frame g [n] hg (fun x hx => by simp at hx; subst hx; exact hn)


theorem renameDedup_sub : ∀ (l acc : List (Nat × String)) (r : List (Nat × String)),
    renameDedup acc l = .ok r → ∀ p ∈ r, p ∈ acc ∨ p ∈ l
  | [], acc, r, h, p, hp => by
    simp [renameDedup] at h
    subst h
    exact .inl (by simpa using hp)
  | q :: rest, acc, r, h, p, hp => by
    unfold renameDedup at h
    split at h
    · split at h
      · cases h
      · rcases renameDedup_sub rest acc r h p hp with h1 | h1
        · exact .inl h1
        · exact .inr (List.mem_cons_of_mem _ h1)
    · rcases renameDedup_sub rest (q :: acc) r h p hp with h1 | h1
      · rcases List.mem_cons.mp h1 with h2 | h2
        · exact .inr (h2 ▸ List.mem_cons_self)
        · exact .inl h2
      · exact .inr (List.mem_cons_of_mem _ h1)

/-- the groups name graphs outside `B` and pairs of the list -/
def GroupsOut (B : Nat → Prop) (l : List (Nat × String)) (groups : List (Nat × List (Nat × String))) : Prop :=
  ∀ e ∈ groups, ¬ B e.1 ∧ ∀ p ∈ e.2, p ∈ l

theorem fgroupInits_good (l0 : List (Nat × String)) (hl0 : ∀ p ∈ l0, ¬ B p.1) :
    ∀ (l : List (Nat × String)) (acc : List (Nat × List (Nat × String))) (s : St), (∀ p ∈ l, p ∈ l0) → GroupsOut B l0 acc →
      Hoare (frameL true strict B wB) (groupInits acc l) s (fun r s1 => s1 = s ∧ GroupsOut B l0 r)
  | [], acc, s, _, hacc => Hoare.pure ⟨rfl, hacc⟩
  | p :: rest, acc, s, hl, hacc => by
    unfold groupInits
    refine fread .val fun vs hI1 hvs _ => ?_
    have hp0 := hl p List.mem_cons_self
    have hrest : ∀ q ∈ rest, q ∈ l0 := fun q hq => hl q (List.mem_cons_of_mem _ hq)
    split
    · exact fgroupInits_good l0 hl0 rest acc s hrest hacc
    · split
      · exact Hoare.fail
      · next g hg =>
        have hgB : ¬ B g := by
          obtain ⟨_, _, _, _, e, _⟩ := hI1.sep p.1 (.val vs) (hl0 p hp0) hvs
          rw [hg] at e; exact e
        split
        · refine fgroupInits_good l0 hl0 rest _ s hrest ?_
          intro e he
          obtain ⟨e0, he0, rfl⟩ := List.mem_map.mp he
          split
          · next heq =>
            refine ⟨hgB, fun q hq => ?_⟩
            rcases List.mem_append.mp hq with h1 | h1
            · exact (hacc e0 he0).2 q h1
            · simp at h1; subst h1; exact hp0
          · exact hacc e0 he0
        · refine fgroupInits_good l0 hl0 rest _ s hrest ?_
          intro e he
          rcases List.mem_append.mp he with h1 | h1
          · exact hacc e h1
          · simp at h1
            subst h1
            exact ⟨hgB, fun q hq => by simp at hq; subst hq; exact hp0⟩

theorem frenameBacking_good {s : St} (p : Nat × String) (hv : ¬ B p.1) :
    Hoare (frameL true strict B wB) (renameBacking p) s (fun _ _ => True) := by
  unfold renameBacking
  refine fread .val fun vs _ _ hvso => ?_
  split
  · exact frenameTensor_good _ _ (hvso hv).const
  · exact Hoare.pure trivial

theorem fpopByName_good {s : St} (g v : Nat) (hg : ¬ B g) :
    Hoare (frameL true strict B wB) (popByName g v) s (fun _ _ => True) := by
  unfold popByName
  refine fread .val fun vs _ _ _ => ?_
  split
  · exact Hoare.fail
  · exact fdelInit_good g _ hg

theorem faddByName_good {s : St} (g v : Nat) (hg : ¬ B g) (hv : ¬ B v) :
    Hoare (frameL true strict B wB) (addByName g v) s (fun _ _ => True) := by
  unfold addByName
  refine fread .val fun vs _ _ _ => ?_
  split
  · exact Hoare.fail
  · exact fsetInitCore_good g _ v hg hv

/-- `extend`: every listed node gets the graph as its owner -/
theorem fsetNodesGraph_good {s : St} (g : Nat) (ns : List Nat)
    (hns : ∀ n ∈ ns, ¬ B n) :
    Hoare (frameL true strict B wB) (forM' (fun n => do
        let x ← readNode n
        setCell n (.node { x with graph := some g })) ns) s (fun _ _ => True) := by
  refine fforM'_good _ _ (fun n hn s1 hI1 => ?_)
  exact fmodify (f := fun x => { x with graph := some g }) .node (hns n hn) fun _ h => h

theorem applyEdit3_frame (e : Edit3) {s : St} (hI : FInv true strict B wB s) (ha : ArgsOut3 B e) :
    FGoodAt true strict B wB (applyEdit3 e) s (fun _ _ => True) := by
  refine Hoare.frame ?_ hI
  cases e with
  | base2 e => exact applyEdit2_frame e ha
  | sortDeep g nest =>
    unfold applyEdit3
    refine Hoare.bindQuiet Quiet.getWorld fun w _ => ?_
    split
    · exact Hoare.fail
    · next t ht =>
      unfold sortDeepWith
      refine Hoare.guard fun hnest => ?_
      split
      · exact Hoare.fail
      · next orders ho =>
        refine Hoare.bindQuiet (Quiet.forM' (fun gi => Quiet.liftE _) _) fun _ _ => ?_
        refine fforM'_good _ _ (fun p hp s3 hI3 => fsetNodeOrder_good p ?_)
        -- the graphs written are the graphs of the tree, which are the arguments
        have hmem : p.1 ∈ (Sort.graphsOf t).map (·.1) := by
          unfold Sort.sortModel at ho
          simp only at ho
          split at ho
          · cases ho
          · split at ho
            · cases ho
            · simp only [Option.some.injEq] at ho
              subst ho
              obtain ⟨gc, hgc, rfl⟩ := List.mem_map.mp hp
              exact List.mem_map.mpr ⟨gc, hgc, rfl⟩
        have hargs : p.1 ∈ g :: nest := by
          have h2 : (Sort.allGraphs t).map (·.1) = g :: nest := by simpa using hnest
          rw [← h2]
          unfold Sort.graphsOf at hmem
          simpa [Sort.orderOf] using hmem
        exact ha p.1 hargs
  | setInputsSlice g a b vs =>
    unfold applyEdit3
    refine fsetSliceG_frame g a b vs (Quiet.checkInput g) ?_ ?_ ?_ ?_ (ha g List.mem_cons_self)
      (fun v hv => ha v (by simp [Edit3.args, hv]))
    · exact fun _ h => h
    · exact fun _ h => h
    · exact fun _ h => h.graph_inputs
    · exact fun _ _ h hl => h.graph_setInputs hl
  | setOutputsSlice g a b vs =>
    unfold applyEdit3
    refine fsetSliceG_frame g a b vs (Quiet.checkOwned g) ?_ ?_ ?_ ?_ (ha g List.mem_cons_self)
      (fun v hv => ha v (by simp [Edit3.args, hv]))
    · exact fun _ h => h
    · exact fun _ h => h
    · exact fun _ h => h.graph_outputs
    · exact fun _ _ h hl => h.graph_setOutputs hl
  | popInit g key =>
    have hg : ¬ B g := ha g List.mem_cons_self
    exact fdelInit_good g key hg
  | clearInits g =>
    have hg : ¬ B g := ha g List.mem_cons_self
    unfold applyEdit3
    refine fread .graph fun gs _ _ _ => ?_
    refine Hoare.guard fun _ => ?_
    exact fclearInitsLoop_good g hg _ s
  | updateInits g items =>
    have hg : ¬ B g := ha g List.mem_cons_self
    unfold applyEdit3
    refine fread .graph fun gs _ _ _ => ?_
    refine Hoare.guard fun _ => ?_
    hbind (Hoare.ofQuiet (Quiet.updChecks g items [])) with u s2 - - hq2
    refine fforM'_good _ _ (fun kv hkv s3 hI3 => fsetInitCore_good g kv.1 kv.2 hg ?_)
    exact ha kv.2 (by simp only [Edit3.args, List.mem_cons, List.mem_map]; exact .inr ⟨kv, hkv, rfl⟩)
  | extendNodes g ns =>
    have hg : ¬ B g := ha g List.mem_cons_self
    unfold applyEdit3
    refine fread .graph fun gs _ _ _ => ?_
    refine Hoare.guard fun _ => ?_
    refine Hoare.bindQuiet Quiet.getWorld fun w _ => ?_
    refine Hoare.bindQuiet (Quiet.forM' (fun n => Quiet.liftE _) _) fun _ _ => ?_
    hbind (fsetNodesGraph_good g ns fun n hn => ha n (by simp [Edit3.args, hn])) with u2 s4 - - hq4
    refine fread .graph fun gs2 _ _ hgs2o => ?_
    exact fset_good hg (show CellOutX true strict B (.graph { gs2 with nodes := _ }) from
      hgs2o hg)
  | removeSafe g ns =>
    unfold applyEdit3
    exact fremoveSafeM_frame g ns (ha g List.mem_cons_self) (fun n hn => ha n (by simp [Edit3.args, hn]))
  | replaceNode g n name op inputs outNames =>
    have hg : ¬ B g := ha g List.mem_cons_self
    have hnB : ¬ B n := ha n (List.mem_cons_of_mem _ List.mem_cons_self)
    have hins : ∀ v, some v ∈ inputs → ¬ B v := by
      intro v hv
      apply ha v
      simp only [Edit3.args, List.mem_cons, List.mem_filterMap, id]
      exact .inr (.inr ⟨some v, hv, rfl⟩)
    unfold applyEdit3
    refine fread .graph fun gs _ _ _ => ?_
    refine Hoare.guard fun _ => ?_
    refine fread .node fun x _ _ hxo => ?_
    have hxo : ∀ o ∈ x.outputs, ¬ B o := by
      obtain ⟨_, _, _, a4⟩ := hxo hnB
      exact a4 rfl
    refine fnewNode_good name op inputs outNames _ hins fun n' outs s9 hI9 hn' houts => ?_
    exact freplaceWith_good g n n' x.outputs outs hg hnB hn' hxo houts
  | rauwMulti pairs outs =>
    unfold applyEdit3
    hbind (Hoare.ofQuiet (Quiet.rauwChecks outs pairs [])) with u s1 - - hq1
    refine fforM'_good _ _ (fun p hp s2 _ => applyEdit2_frame (.replaceAllUses p.1 p.2 outs) ?_)
    intro a haa
    simp [Edit2.args] at haa
    apply ha a
    simp only [Edit3.args, List.mem_flatMap]
    exact ⟨p, hp, by rcases haa with rfl | rfl <;> simp⟩
  | renameValues pairs =>
    unfold applyEdit3
    refine Hoare.bindQuiet (Quiet.liftE _) fun o hd => ?_
    have hord : ∀ p ∈ o, ¬ B p.1 := by
      intro p hp
      rcases renameDedup_sub pairs [] o (liftE_ok hd) p hp with h | h
      · cases h
      · exact ha p.1 (by simp only [Edit3.args, List.mem_map]; exact ⟨p, h, rfl⟩)
    hbind (fgroupInits_good o hord o [] s (fun _ h => h) (fun e he => by cases he)) with groups s2 - - hq2
    obtain ⟨rfl, hgr⟩ := hq2
    refine Hoare.bindQuiet (Quiet.forM' (fun (e : Nat × List (Nat × String)) => Quiet.renameGroupChecks e.1 e.2 e.2 []) _) fun _ _ => ?_
    hbind (fforM'_good _ _ (fun p hp s4 hI4 => frenameBacking_good p (hord p hp)))
      with u2 s4 - - hq4
    hbind (fforM'_good _ _
      (fun e he s5 hI5 => fforM'_good _ _ (fun p _ s6 hI6 => fpopByName_good e.1 p.1 (hgr e he).1)))
      with u3 s5 - - hq5
    hbind (fforM'_good _ _
      (fun p hp s6 hI6 => fsetName_good p.1 (some p.2) (hord p hp))) with u4 s6 - - hq6
    exact fforM'_good _ _
      (fun e he s7 hI7 => fforM'_good _ _ (fun p hp s8 hI8 =>
        faddByName_good e.1 p.1 (hgr e he).1 (hord p ((hgr e he).2 p hp))))

end

theorem runHistory3_eq : ∀ (es : List Edit3) (w : World), runHistory3 es w = runHist applyEdit3 es w
  | [], _ => rfl
  | e :: es, w => by
    unfold runHistory3 runHist
    rcases run (applyEdit3 e) w with ⟨r, w1⟩
    simp only [runHistory3_eq es w1]

theorem Edit3.framed : Framed true runHistory3 Edit3.args :=
  Framed.of_step runHistory3_eq fun _ _ e _ hI ha => applyEdit3_frame e hI ha

end IrVerif.Clone
