/-
C14: CSE as a kernel program keeps the names of the graph outputs position by position (`cseModelK_OK`).
Which calls leave the output list of a graph alone (`OE`, an instance of Lemmas/PassKernelNames.lean's `Blind`); the exact
effect of `graph.outputs[i] = v`, `Value(name=...)` and an accepted `Value.name = ...`; the invariant `LInv` of the walk
over `enumerate(graph.outputs)` with its `replaced` dictionary.
-/
import IrVerif.Lemmas.PassKernelNames
import IrVerif.Lemmas.KernelOwn
namespace IrVerif.PassKernel
open IrVerif.Kernel IrVerif.Kernel.World

def OE (g : Nat) (w w' : World) : Prop := (w'.gr g).outputs = (w.gr g).outputs

theorem OE.refl (g : Nat) (w : World) : OE g w w := rfl
theorem OE.trans {g : Nat} {a b c : World} (h1 : OE g a b) (h2 : OE g b c) : OE g a c := Eq.trans h2 h1
theorem OE.of_gr {g : Nat} {w w' : World} (h : w'.gr g = w.gr g) : OE g w w' := by unfold OE; rw [h]

theorem OE.frame (g : Nat) : BlindNew (OE g) where
  same _ h := h g
  trans := OE.trans
  alloc _ _ := rfl
  nameNew w v s _ := OE.of_gr (setNamePlain_gr w v s g)

theorem initPut_OE (g : Nat) (w : World) (g' : Nat) (key : String) (v : Nat) : OE g w (initPut w g' key v) := by
  unfold initPut; split
  · have h1 : OE g w (if falsy (w.val v).name then setNamePlain w v (some key) else w) := by
      split
      · exact OE.of_gr (setNamePlain_gr w v _ g)
      · exact OE.refl g w
    exact OE.trans h1 (initPut_tail_frame (OE.frame g).toBlind _ g' key v)
  · exact OE.refl g w

theorem newValue_OE (g : Nat) (w : World) (name : Option String) : OE g w (newValue w name).1 :=
  newValue_frame (OE.frame g) w name

theorem newNode_OE (g : Nat) (w : World) (opType : String) (name : Option String) (inputs : List (Option Nat))
    (numOutputs : Option Int) (outputs : Option (List Nat)) :
    OE g w (newNode w opType name inputs numOutputs outputs none).1 :=
  newNode_frame (OE.frame g) w opType name inputs numOutputs outputs

theorem graphInsertBefore_OE (g : Nat) (w : World) (g' a : Nat) (ns : List Nat) : OE g w (graphInsertBefore w g' a ns).1 :=
  graphInsertBefore_frame (OE.frame g) w g' a ns

theorem graphRemove_OE (g : Nat) (w : World) (g' : Nat) (ns : List Nat) (safe : Bool) : OE g w (graphRemove w g' ns safe).1 :=
  graphRemove_frame (OE.frame g).toBlind w g' ns safe

theorem setName_OE (g : Nat) (w : World) (v : Nat) (s : Option String) : OE g w (setName w v s).1 := by
  unfold setName; simp only []
  refine guardOp_frame (OE.frame g).toBlind (fun _ => ?_)
  split
  · exact OE.refl g w
  · split
    · split
      · exact ((initDel_frame (OE.frame g).toBlind w _ _).trans (OE.of_gr (setNamePlain_gr _ v _ g))).trans
          (initPut_OE g _ _ _ v)
      · exact OE.refl g w
    · exact OE.of_gr (setNamePlain_gr w v s g)

/-- `Value.replace_all_uses_with(r)` without `replace_graph_outputs`: a graph output makes the call raise -/
theorem rauw_false_OE (g : Nat) (w : World) (v r : Nat) : OE g w (rauw w v r false).1 := by
  unfold rauw; simp only []
  by_cases ho : (w.val v).isOut = true
  · cases hg : (w.val v).graph with
    | none => simp [ho, guardOp]; exact OE.refl g w
    | some g1 => simp [ho, guardOp]; exact OE.refl g w
  · simp only [Bool.not_eq_true] at ho
    simp only [ho, Bool.false_and, Bool.false_eq_true, if_false]
    exact guardOp_frame (OE.frame g).toBlind (fun _ => rauwUses_frame (OE.frame g).toBlind w v r)

theorem rauwSeq_false_OE (g : Nat) : ∀ (ps : List (Nat × Nat)) (w : World), OE g w (rauwSeq w false ps).1
  | [], w => OE.refl g w
  | (v, r) :: rest, w => by
    simp only [rauwSeq]
    exact andThen_frame (OE.frame g).toBlind w _ _ (rauw_false_OE g w v r) (fun w1 => rauwSeq_false_OE g rest w1)

theorem rauwMany_false_OE (g : Nat) (w : World) (vs rs : List Nat) : OE g w (rauwMany w vs rs false).1 := by
  unfold rauwMany; split
  · exact OE.refl g w
  · exact rauwSeq_false_OE g _ w

theorem rauwManyExact_false_OE (g : Nat) (w : World) (vs rs : List Nat) : OE g w (rauwManyExact w vs rs false).1 := by
  unfold rauwManyExact; split
  · exact OE.refl g w
  · exact guardOp_frame (OE.frame g).toBlind (fun _ => rauwSeq_false_OE g _ w)

theorem guardOp_true (kind : String) (w w' : World) : guardOp true kind w w' = (w, .raised kind) := by
  unfold guardOp; simp
theorem guardOp_ok (bad : Bool) (kind : String) (w w' : World) (h : (guardOp bad kind w w').2 = .ok) : bad = false := by
  cases bad with
  | false => rfl
  | true => rw [guardOp_true] at h; simp at h

theorem normIndex_ofNat (len k : Nat) : normIndex len (Int.ofNat k) = if k < len then some k else none := by
  unfold normIndex
  have h0 : ¬ (Int.ofNat k < 0) := by simp
  simp only [h0, if_false]
  by_cases hk : k < len
  · have : ¬ (Int.ofNat k < 0 ∨ Int.ofNat k ≥ (len : Int)) := by
      simp only [Int.ofNat_eq_natCast]; omega
    simp [hk]
  · have : (Int.ofNat k < 0 ∨ Int.ofNat k ≥ (len : Int)) := by
      right; simp only [Int.ofNat_eq_natCast]; omega
    simp [hk]

theorem insertAt_eraseIdx : ∀ (l : List Nat) (k x : Nat), k < l.length → insertAt (l.eraseIdx k) k x = l.set k x
  | [], _, _, h => by simp at h
  | a :: l, 0, x, _ => by simp [insertAt]
  | a :: l, k + 1, x, h => by
    have := insertAt_eraseIdx l k x (by simpa using h)
    simp only [insertAt] at this ⊢
    simp [this]

/-- `graph.outputs[k] = x`: names untouched; the list is unchanged (rejected) or has `x` at position `k`; accepted
    means the latter -/
theorem ioSetItem_out (w : World) (g k x : Nat) :
    ((((ioMut w g .out (.setItem (Int.ofNat k) x)).1.gr g).outputs = (w.gr g).outputs ∧
        (ioMut w g .out (.setItem (Int.ofNat k) x)).2 ≠ .ok) ∨
      (k < (w.gr g).outputs.length ∧
        ((ioMut w g .out (.setItem (Int.ofNat k) x)).1.gr g).outputs = (w.gr g).outputs.set k x)) := by
  simp only [ioMut, normIndex_ofNat]
  have hl : ioList .out (w.gr g) = (w.gr g).outputs := rfl
  rw [hl]
  by_cases hk : k < (w.gr g).outputs.length
  · rw [if_pos hk]
    by_cases hc : checkIO w g .out x = true
    · right
      refine ⟨hk, ?_⟩
      have hv : (ioList .out (w.gr g))[k]? = some (w.gr g).outputs[k] := by rw [hl]; exact List.getElem?_eq_getElem hk
      have hc2 := checkIO_ioRemoveAt w g .out k x hc
      have hgr : ((ioInsert (ioRemoveAt w g .out k) g .out k x).gr g).outputs = (w.gr g).outputs.set k x := by
        rw [ioInsert_gr _ _ _ _ _ hc2, if_pos rfl, ioRemoveAt_gr _ _ _ _ _ hv, if_pos rfl]
        simp only [setIoList, setIoCnt, ioList]
        exact insertAt_eraseIdx _ k x hk
      have hb : ((some k : Option Nat).isNone || !checkIO w g .out x) = false := by simp [hc]
      rw [hb, guardOp_fst _ _ _ _ rfl]
      exact hgr
    · left
      simp only [Bool.not_eq_true] at hc
      have hb : ((some k : Option Nat).isNone || !checkIO w g .out x) = true := by simp [hc]
      rw [hb, guardOp_true]
      exact ⟨rfl, by simp⟩
  · left
    rw [if_neg hk]
    have hb : ((none : Option Nat).isNone || !checkIO w g .out x) = true := by simp
    rw [hb, guardOp_true]
    exact ⟨rfl, by simp⟩

theorem newValue_name (w : World) (nm : Option String) : ((newValue w nm).1.val w.vals.length).name = nm := by
  unfold newValue guardOp allocVal
  simp

theorem initPut_name (w : World) (g : Nat) (key : String) (v : Nat) (h : (w.val v).name = some key) (hk : key ≠ "") :
    ((initPut w g key v).val v).name = some key := by
  have hf : falsy (w.val v).name = false := by simp [falsy, h, hk]
  rw [initPut_NE w g key v hf v]; exact h

theorem setName_name (w : World) (v : Nat) (s : Option String) (h : (setName w v s).2 = .ok) :
    ((setName w v s).1.val v).name = s := by
  unfold setName at h ⊢
  simp only [] at h ⊢
  have hbad := guardOp_ok _ _ _ _ h
  rw [hbad, guardOp_fst _ _ _ _ rfl]
  by_cases hs : (w.val v).name = s
  · simp [hs]
  · simp only [hs, if_false]
    by_cases hi : (w.val v).isInit = true
    · simp only [hi, if_true]
      simp only [hs, ne_eq, not_false_eq_true, decide_true, hi, Bool.true_and, Bool.or_eq_false_iff] at hbad
      cases s with
      | none => simp at hbad
      | some new =>
        cases hg : (w.val v).graph with
        | none => simp [hg] at hbad
        | some g =>
          cases ho : (w.val v).name with
          | none => simp [hg, ho] at hbad
          | some old =>
            simp only [hg, ho, Bool.or_eq_false_iff, decide_eq_false_iff_not] at hbad ⊢
            refine initPut_name _ g new v ?_ hbad.2.1
            rw [setNamePlain_val]; simp
    · simp only [hi, Bool.false_eq_true, if_false]
      rw [setNamePlain_val]; simp

/-- the graph outputs of `g` keep their names position by position -/
def OK (g : Nat) (w w' : World) : Prop :=
  (w'.gr g).outputs.length = (w.gr g).outputs.length ∧
  ∀ (i v : Nat) (nm : String), (w.gr g).outputs[i]? = some v → (w.val v).name = some nm →
    ∃ v', (w'.gr g).outputs[i]? = some v' ∧ (w'.val v').name = some nm

theorem OK.refl (g : Nat) (w : World) : OK g w w := ⟨rfl, fun _ v _ hv hn => ⟨v, hv, hn⟩⟩
theorem OK.trans {g : Nat} {a b c : World} (h1 : OK g a b) (h2 : OK g b c) : OK g a c :=
  ⟨h2.1.trans h1.1, fun i v nm hv hn => by
    obtain ⟨v', hv', hn'⟩ := h1.2 i v nm hv hn
    exact h2.2 i v' nm hv' hn'⟩

theorem OK.of_frame {g : Nat} {w w' : World} {x : Option Nat} (ho : OE g w w') (hn : NK x w w')
    (hx : ∀ u, x = some u → u ∉ (w.gr g).outputs) : OK g w w' := by
  refine ⟨by rw [ho], fun i v nm hv hnm => ⟨v, by rw [ho]; exact hv, hn v nm (fun he => ?_) hnm⟩⟩
  exact hx v he (List.mem_of_getElem? hv)

theorem foldl_OK {β : Type} (g : Nat) (f : World → β → World) (hf : ∀ w b, OK g w (f w b)) :
    ∀ (l : List β) (w : World), OK g w (l.foldl f w) := fun _ w =>
  ListFacts.foldl_rtrans (OK g) (OK.refl g) OK.trans f (fun a b _ => hf a b) w

theorem call_OK_neutral (g : Nat) (s : KSt) (op : AnyOp) {x : Option Nat} (ho : OE g s.w (stepAny s.w op).1)
    (hn : NK x s.w (stepAny s.w op).1) (hx : ∀ u, x = some u → u ∉ (s.w.gr g).outputs := by simp) :
    OK g s.w (s.call op).w ∧ OE g s.w (s.call op).w ∧ NK x s.w (s.call op).w := by
  unfold KSt.call; split
  · exact ⟨OK.refl g _, OE.refl g _, NK.refl _ _⟩
  · exact ⟨OK.of_frame ho hn hx, ho, hn⟩

theorem not_out_not_mem (w : World) (hw : WF w) (g v : Nat) (h : (w.val v).isOut = false) : v ∉ (w.gr g).outputs := by
  intro hm
  have : (w.val v).isOut = true := ((hw.own.io_iff .out g v).1 hm).1
  rw [h] at this; simp at this

theorem setItem_OK_from (g : Nat) (w0 cur : World) (k x : Nat) (hok : OK g w0 cur)
    (hx : ∀ o nm, (w0.gr g).outputs[k]? = some o → (w0.val o).name = some nm → (cur.val x).name = some nm) :
    OK g w0 (stepAny cur (.one (.io g .out (.setItem (Int.ofNat k) x)))).1 := by
  have hne := ioSetItem_NK cur g .out (Int.ofNat k) x
  simp only [stepAny, step]
  rcases ioSetItem_out cur g k x with ⟨hl, _⟩ | ⟨hk, hl⟩
  · refine ⟨by rw [hl]; exact hok.1, fun i v nm hv hn => ?_⟩
    obtain ⟨v', hv', hn'⟩ := hok.2 i v nm hv hn
    exact ⟨v', by rw [hl]; exact hv', hne v' nm (by simp) hn'⟩
  · refine ⟨by rw [hl, List.length_set]; exact hok.1, fun i v nm hv hn => ?_⟩
    by_cases hik : i = k
    · subst hik
      refine ⟨x, by rw [hl]; simp [hk], hne x nm (by simp) (hx v nm hv hn)⟩
    · obtain ⟨v', hv', hn'⟩ := hok.2 i v nm hv hn
      refine ⟨v', by rw [hl, List.getElem?_set_ne (Ne.symm hik)]; exact hv', hne v' nm (by simp) hn'⟩

theorem setItem_list (g : Nat) (cur : World) (k x : Nat)
    (h : (stepAny cur (.one (.io g .out (.setItem (Int.ofNat k) x)))).2 = .ok) :
    k < (cur.gr g).outputs.length ∧
    ((stepAny cur (.one (.io g .out (.setItem (Int.ofNat k) x)))).1.gr g).outputs = (cur.gr g).outputs.set k x := by
  simp only [stepAny, step] at h ⊢
  rcases ioSetItem_out cur g k x with ⟨_, hno⟩ | h2
  · exact absurd h hno
  · exact h2

/-- invariant of the loop of `cseOutputsK` after `k` positions; `s0` = the state at the start of the loop -/
structure LInv (g : Nat) (s0 : KSt) (k : Nat) (p : KSt × List (Nat × Nat)) : Prop where
  wf : WF p.1.w
  ok : OK g s0.w p.1.w
  rest : p.1.raised = false → ∀ j, k ≤ j → (p.1.w.gr g).outputs[j]? = (s0.w.gr g).outputs[j]?
  repn : p.1.raised = false → ∀ o r, (o, r) ∈ p.2 → ∀ nm, (s0.w.val o).name = some nm → (p.1.w.val r).name = some nm
  repp : p.1.raised = false → ∀ o r, (o, r) ∈ p.2 → ∃ j, j < k ∧ (p.1.w.gr g).outputs[j]? = some r

theorem foldl_enumFrom_inv {σ : Type} (P : Nat → σ → Prop) (f : σ → Nat × Nat → σ) (L : List Nat)
    (hf : ∀ k o st, L[k]? = some o → P k st → P (k + 1) (f st (k, o))) :
    ∀ (l : List Nat) (k : Nat) (st : σ), (∀ j o, l[j]? = some o → L[k + j]? = some o) → P k st →
      P (k + l.length) ((enumFrom k l).foldl f st)
  | [], k, st, _, h => by simpa [enumFrom] using h
  | a :: l, k, st, hl, h => by
    simp only [enumFrom, List.foldl_cons, List.length_cons]
    have h1 := hf k a st (by simpa using hl 0 a (by simp)) h
    have := foldl_enumFrom_inv P f L hf l (k + 1) (f st (k, a))
      (fun j o hj => by
        have := hl (j + 1) o (by simpa using hj)
        rw [show k + 1 + j = k + (j + 1) by omega]; exact this) h1
    rw [show k + (l.length + 1) = k + 1 + l.length by omega]; exact this

theorem LInv_neutral {g : Nat} {s0 : KSt} {k : Nat} {st : KSt} {rep : List (Nat × Nat)} (h : LInv g s0 k (st, rep))
    (op : AnyOp) {x : Option Nat} (ho : OE g st.w (stepAny st.w op).1) (hn : NK x st.w (stepAny st.w op).1)
    (hx : ∀ u, x = some u → u ∉ (st.w.gr g).outputs := by simp) : LInv g s0 k (st.call op, rep) := by
  obtain ⟨hok, hoe, hnk⟩ := call_OK_neutral g st op ho hn hx
  refine ⟨KSt.call_WF st op h.wf, h.ok.trans hok, fun hr j hj => ?_, fun hr o r hm nm hnm => ?_, fun hr o r hm => ?_⟩
  · have hr0 := (KSt.call_ok hr).1
    show ((st.call op).w.gr g).outputs[j]? = _
    rw [hoe]; exact h.rest hr0 j hj
  · -- a replacement sits at a processed position, so it is in the output list and is not `x`
    have hr0 := (KSt.call_ok hr).1
    obtain ⟨j, _, hjr⟩ := h.repp hr0 o r hm
    exact hnk r nm (fun he => hx r he (List.mem_of_getElem? hjr)) (h.repn hr0 o r hm nm hnm)
  · have hr0 := (KSt.call_ok hr).1
    obtain ⟨j, hj, hjr⟩ := h.repp hr0 o r hm
    exact ⟨j, hj, by show ((st.call op).w.gr g).outputs[j]? = _; rw [hoe]; exact hjr⟩

theorem LInv_setName {g : Nat} {s0 : KSt} {k : Nat} {st : KSt} {rep : List (Nat × Nat)} (h : LInv g s0 k (st, rep))
    (nv : Nat) (t : Option String) (hnv : (st.w.val nv).isOut = false) :
    LInv g s0 k (st.call (.one (.setName nv t)), rep) :=
  LInv_neutral h _ (setName_OE g st.w nv t) (setName_NK st.w nv t)
    (fun u hu => by cases hu; exact not_out_not_mem st.w h.wf g nv hnv)

/-- `graph.outputs[k] = x` at the position being processed, with the new dictionary `rep'`: `x` must carry the name that
    position `k` had at the start, and every entry of `rep'` must carry its name and be `x` or sit at a processed position -/
theorem LInv_setItem {g : Nat} {s0 : KSt} {k o : Nat} {st : KSt} {rep : List (Nat × Nat)} (rep' : List (Nat × Nat)) (x : Nat)
    (hko : (s0.w.gr g).outputs[k]? = some o) (h : LInv g s0 k (st, rep))
    (hx : st.raised = false → ∀ nm, (s0.w.val o).name = some nm → (st.w.val x).name = some nm)
    (hrepn : st.raised = false → ∀ o' r, (o', r) ∈ rep' → ∀ nm, (s0.w.val o').name = some nm → (st.w.val r).name = some nm)
    (hrepp : st.raised = false → ∀ o' r, (o', r) ∈ rep' → (∃ j, j < k ∧ (st.w.gr g).outputs[j]? = some r) ∨ r = x) :
    LInv g s0 (k + 1) (st.call (.one (.io g .out (.setItem (Int.ofNat k) x))), rep') := by
  have hnk0 := ioSetItem_NK st.w g .out (Int.ofNat k) x
  refine ⟨KSt.call_WF st _ h.wf, ?_, fun hr j hj => ?_, fun hr o' r hm nm hnm => ?_, fun hr o' r hm => ?_⟩
  · cases hr : st.raised with
    | true => rw [KSt.call_of_raised st _ hr]; exact h.ok
    | false =>
      show OK g s0.w (st.call _).w
      rw [KSt.call_w st _ hr]
      refine setItem_OK_from g s0.w st.w k x h.ok (fun o' nm ho' hn' => ?_)
      rw [hko] at ho'; cases ho'
      exact hx hr nm hn'
  · obtain ⟨hr0, hok⟩ := KSt.call_ok hr
    obtain ⟨_, hl⟩ := setItem_list g st.w k x hok
    show ((st.call _).w.gr g).outputs[j]? = _
    rw [KSt.call_w st _ hr0, hl, List.getElem?_set_ne (by omega)]
    exact h.rest hr0 j (by omega)
  · obtain ⟨hr0, _⟩ := KSt.call_ok hr
    show ((st.call _).w.val r).name = some nm
    rw [KSt.call_w st _ hr0]
    exact hnk0 r nm (by simp) (hrepn hr0 o' r hm nm hnm)
  · obtain ⟨hr0, hok⟩ := KSt.call_ok hr
    obtain ⟨hk, hl⟩ := setItem_list g st.w k x hok
    rcases hrepp hr0 o' r hm with ⟨j, hj, hjr⟩ | rfl
    · refine ⟨j, by omega, ?_⟩
      show ((st.call _).w.gr g).outputs[j]? = _
      rw [KSt.call_w st _ hr0, hl, List.getElem?_set_ne (by omega)]; exact hjr
    · refine ⟨k, by omega, ?_⟩
      show ((st.call _).w.gr g).outputs[k]? = _
      rw [KSt.call_w st _ hr0, hl]; simp [hk]


theorem LInv_weaken {g : Nat} {s0 : KSt} {k : Nat} {p : KSt × List (Nat × Nat)} (h : LInv g s0 k p) : LInv g s0 (k + 1) p :=
  ⟨h.wf, h.ok, fun hr j hj => h.rest hr j (by omega), h.repn, fun hr o r hm => by
    obtain ⟨j, hj, hjr⟩ := h.repp hr o r hm
    exact ⟨j, by omega, hjr⟩⟩

theorem cseOutStep_inv (g n : Nat) (rvs nvs : List Nat) (s0 : KSt) (k o : Nat) (p : KSt × List (Nat × Nat))
    (hko : (s0.w.gr g).outputs[k]? = some o) (h : LInv g s0 k p) :
    LInv g s0 (k + 1) (cseOutStep g n rvs nvs p (k, o)) := by
  -- while nothing has raised, position `k` still holds `o`, under the name it had at the start
  have hname : p.1.raised = false → ∀ nm, (s0.w.val o).name = some nm → (p.1.w.val o).name = some nm := by
    intro hr' nm hn
    have hcur : (p.1.w.gr g).outputs[k]? = some o := by rw [h.rest hr' k (Nat.le_refl k)]; exact hko
    obtain ⟨v', hv', hn'⟩ := h.ok.2 k o nm hko hn
    rw [hcur] at hv'; cases hv'; exact hn'
  have h0 : LInv g s0 k (p.1, p.2) := h
  refine cseOutStep_elim (P := fun r => LInv g s0 (k + 1) r) (LInv_weaken h) (fun q _ hq => ?_) (fun q hr' => ?_)
    (fun q hr' hflags => ?_)
  · -- the output was replaced before: `graph.outputs[idx] = replaced[graph_output]`
    have hqm : q ∈ p.2 := List.mem_of_find?_eq_some hq
    have hq1 : q.1 = o := by simpa using List.find?_some hq
    refine LInv_setItem p.2 q.2 hko h0 (fun hr0 nm hn => ?_) (fun hr0 => h.repn hr0)
      (fun hr0 o' r hm => Or.inl (h.repp hr0 o' r hm))
    exact h.repn hr0 o q.2 (by rw [← hq1]; exact hqm) nm hn
  · -- a new Identity node in front of the removed node
    have h1 := LInv_neutral h0 (.one (.newValue (p.1.w.val o).name)) (newValue_OE g _ _) (newValue_NK _ _)
    have h2 := LInv_neutral h1 (.one (.newNode "Identity" none [some q] none (some [p.1.w.vals.length]) none))
      (newNode_OE g _ _ _ _ _ _) (newNode_NK _ _ _ _ _ _)
    have hx : ((p.1.call (.one (.newValue (p.1.w.val o).name))).call
        (.one (.newNode "Identity" none [some q] none (some [p.1.w.vals.length]) none))).raised = false →
        ∀ nm, (s0.w.val o).name = some nm →
        (((p.1.call (.one (.newValue (p.1.w.val o).name))).call
          (.one (.newNode "Identity" none [some q] none (some [p.1.w.vals.length]) none))).w.val
            p.1.w.vals.length).name = some nm := by
      intro hr2 nm hn
      obtain ⟨hr1, _⟩ := KSt.call_ok hr2
      rw [KSt.call_w _ _ hr1]
      refine newNode_NK _ _ _ _ _ _ _ nm (by simp) ?_
      rw [KSt.call_w _ _ hr']
      show ((newValue p.1.w (p.1.w.val o).name).1.val p.1.w.vals.length).name = some nm
      rw [newValue_name]; exact hname hr' nm hn
    have h3 := LInv_setItem ((o, p.1.w.vals.length) :: p.2) p.1.w.vals.length hko h2 hx
      (fun hr2 o' r hm nm hn => by
        rcases List.mem_cons.1 hm with he | hm
        · cases he; exact hx hr2 nm hn
        · exact h2.repn hr2 o' r hm nm hn)
      (fun hr2 o' r hm => by
        rcases List.mem_cons.1 hm with he | hm
        · cases he; exact Or.inr rfl
        · exact Or.inl (h2.repp hr2 o' r hm))
    exact LInv_neutral h3 (.one (.insertBefore g n [p.1.w.nodes.length])) (graphInsertBefore_OE g _ _ _ _)
      (graphInsertBefore_NK _ _ _ _)
  · -- the kept value takes over the name and the position
    have hout : (p.1.w.val q).isOut = false := (Bool.or_eq_false_iff.1 hflags).1
    have h1 := LInv_setName h0 q (p.1.w.val o).name hout
    have hx : (p.1.call (.one (.setName q (p.1.w.val o).name))).raised = false →
        ∀ nm, (s0.w.val o).name = some nm →
        ((p.1.call (.one (.setName q (p.1.w.val o).name))).w.val q).name = some nm := by
      intro hr1 nm hn
      obtain ⟨_, hok⟩ := KSt.call_ok hr1
      rw [KSt.call_w _ _ hr']
      show ((setName p.1.w q (p.1.w.val o).name).1.val q).name = some nm
      rw [setName_name _ _ _ hok]; exact hname hr' nm hn
    exact LInv_setItem ((o, q) :: p.2) q hko h1 hx
      (fun hr1 o' r hm nm hn => by
        rcases List.mem_cons.1 hm with he | hm
        · cases he; exact hx hr1 nm hn
        · exact h1.repn hr1 o' r hm nm hn)
      (fun hr1 o' r hm => by
        rcases List.mem_cons.1 hm with he | hm
        · cases he; exact Or.inr rfl
        · exact Or.inl (h1.repp hr1 o' r hm))

theorem cseOutputsK_OK (s : KSt) (g n : Nat) (rvs nvs : List Nat) (hw : WF s.w) :
    OK g s.w (cseOutputsK s g n rvs nvs).w := by
  rw [cseOutputsK_eq]
  have hinit : LInv g s 0 (s, []) :=
    ⟨hw, OK.refl g _, fun _ _ _ => rfl, fun _ _ _ hm => by simp at hm, fun _ _ _ hm => by simp at hm⟩
  have := foldl_enumFrom_inv (fun k p => LInv g s k p) (cseOutStep g n rvs nvs) (s.w.gr g).outputs
    (fun k o st hko h => cseOutStep_inv g n rvs nvs s k o st hko h) (s.w.gr g).outputs 0 (s, [])
    (fun j o hj => by simpa using hj) hinit
  exact this.ok

theorem cseReplaceK_OK (exact : Bool) (s : KSt) (g n : Nat) (rvs nvs : List Nat) (hw : WF s.w) :
    OK g s.w (cseReplaceK exact s g n rvs nvs).w := by
  unfold cseReplaceK
  have h1 : OK g s.w (if rvs.any (fun v => (s.w.val v).isOut) then cseOutputsK s g n rvs nvs else s).w := by
    split
    · exact cseOutputsK_OK s g n rvs nvs hw
    · exact OK.refl g _
  refine (h1.trans (call_OK_neutral g _ _ (x := none) ?_ ?_).1).trans (call_OK_neutral g _ _ (x := none) ?_ ?_).1
  · cases exact
    · exact rauwMany_false_OE g _ _ _
    · exact rauwManyExact_false_OE g _ _ _
  · cases exact
    · exact rauwMany_NK _ _ _ _
    · exact rauwManyExact_NK _ _ _ _
  · exact graphRemove_OE g _ _ _ _
  · exact graphRemove_NK _ _ _ _

theorem cseStepK_OK (w0 : World) (exact : Bool) (akey : Nat → Option Nat) (g : Nat) (p : KSt × CseDict × Bool) (n : Nat)
    (h : KInv w0 p.1 ∧ OK g w0 p.1.w) :
    KInv w0 (cseStepK exact akey g p n).1 ∧ OK g w0 (cseStepK exact akey g p n).1.w :=
  ⟨cseStepK_inv w0 exact akey g p n h.1,
    cseStepK_elim (P := fun r => OK g w0 r.1.w) h.2 (fun _ => h.2)
      (fun _ => h.2.trans (cseReplaceK_OK exact p.1 g n _ _ h.1.wf))⟩

theorem cseModelK_OK (exact : Bool) (akey : Nat → Option Nat) (w : World) (g : Nat) (hw : WF w) :
    OK g w (cseModelK exact akey w g).1.w :=
  (cseModelK_ind (P := fun s _ => KInv w s ∧ OK g w s.w) (fun p n hp => cseStepK_OK w exact akey g p n hp) w
    ⟨⟨hw, rfl⟩, OK.refl g w⟩).2

end IrVerif.PassKernel
