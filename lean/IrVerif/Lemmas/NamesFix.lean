/-
Helper lemmas for C15, part B (NameFixPass): generated-name shapes, the initializer dictionary
invariant `InitsOk`, and the step lemmas for `World.setName` / `processValue`.  Core Lean only.
-/
import IrVerif.Model.Names
import IrVerif.Lemmas.Names
import IrVerif.Lemmas.ListFacts
namespace IrVerif.Names

/-! ### generated-name shapes -/

theorem sufName_inj_k (p : String) {a b : Nat} (h : sufName p a = sufName p b) : a = b := by
  unfold sufName at h
  apply toString_nat_inj
  apply string_append_left_cancel (p := p ++ "_")
  simpa [String.append_assoc] using h

theorem sufName_toList (p : String) (k : Nat) :
    (sufName p k).toList = p.toList ++ '_' :: Nat.toDigits 10 k := by
  simp [sufName, String.toList_append]

theorem split_last_underscore : ∀ (l1 l2 d1 d2 : List Char), '_' ∉ d1 → '_' ∉ d2 →
    l1 ++ '_' :: d1 = l2 ++ '_' :: d2 → l1 = l2 ∧ d1 = d2
  | [], [], d1, d2, _, _, h => by simpa using h
  | [], y :: l2, d1, d2, h1, _, h => by
      simp only [List.nil_append, List.cons_append, List.cons.injEq] at h
      exact absurd (h.2 ▸ (by simp : '_' ∈ l2 ++ '_' :: d2)) h1
  | x :: l1, [], d1, d2, _, h2, h => by
      simp only [List.nil_append, List.cons_append, List.cons.injEq] at h
      exact absurd (h.2 ▸ (by simp : '_' ∈ l1 ++ '_' :: d1)) h2
  | x :: l1, y :: l2, d1, d2, h1, h2, h => by
      simp only [List.cons_append, List.cons.injEq] at h
      obtain ⟨e1, e2⟩ := split_last_underscore l1 l2 d1 d2 h1 h2 h.2
      exact ⟨by rw [h.1, e1], e2⟩

/-- `base_k` determines both the base and `k`: the decimal suffix contains no underscore -/
theorem sufName_inj {p q : String} {a b : Nat} (h : sufName p a = sufName q b) : p = q ∧ a = b := by
  have h1 := congrArg String.toList h
  rw [sufName_toList, sufName_toList] at h1
  obtain ⟨e1, _⟩ := split_last_underscore _ _ _ _ Nat.underscore_not_in_toDigits
    Nat.underscore_not_in_toDigits h1
  have hp : p = q := String.toList_inj.mp e1
  subst hp
  exact ⟨rfl, sufName_inj_k p h⟩

theorem sufName_ne_v (p : String) (k : Nat) : sufName p k ≠ "v" := by
  intro h
  have h1 := congrArg String.toList h
  rw [sufName_toList] at h1
  have : '_' ∈ "v".toList := h1 ▸ (by simp)
  simp at this

theorem sufName_ne_empty (p : String) (k : Nat) : sufName p k ≠ "" := by
  intro h
  have h1 := congrArg String.toList h
  rw [sufName_toList] at h1
  simp at h1

/-- result of `_find_and_record_next_unique_name` (before `used.add`) -/
theorem findUnique_spec (p : String) (used res : List String) (c : Nat) :
    (findUnique p used res c).1 ∉ used ∧ (findUnique p used res c).1 ∉ res ∧
    (((findUnique p used res c) = (p, c) ∧ p ∉ used ∧ p ∉ res) ∨
     (∃ k, c < k ∧ (findUnique p used res c) = (sufName p k, k) ∧ (p ∈ used ∨ p ∈ res))) := by
  unfold findUnique
  split
  · rename_i hc
    obtain ⟨k, hk, he, hn, _⟩ := uniqueFrom_spec (sufName p) (fun _ _ => sufName_inj_k p) (used ++ res) (c + 1)
    have hn' : sufName p k ∉ used ∧ sufName p k ∉ res := by simpa using hn
    simp only [he]
    refine ⟨hn'.1, hn'.2, Or.inr ⟨k, by omega, by simp, ?_⟩⟩
    simpa using hc
  · rename_i hc
    have : p ∉ used ∧ p ∉ res := by simpa using hc
    exact ⟨this.1, this.2, Or.inl ⟨rfl, this.1, this.2⟩⟩

/-! ### dictionaries -/

theorem mem_dictErase {d : List (String × Nat)} {k : String} {e : String × Nat} :
    e ∈ dictErase d k ↔ e ∈ d ∧ e.1 ≠ k := by
  simp [dictErase]

theorem dictHas_iff {d : List (String × Nat)} {k : String} : dictHas d k = true ↔ ∃ v, (k, v) ∈ d := by
  simp only [dictHas, List.any_eq_true, beq_iff_eq]
  constructor
  · rintro ⟨⟨k', v⟩, h1, h2⟩; exact ⟨v, by simpa [← h2] using h1⟩
  · rintro ⟨v, h⟩; exact ⟨(k, v), h, rfl⟩

/-- the dictionaries of all graphs are keyed by the current names of their values (kernel
invariant `I_key`), both ways -/
structure InitsOk (w : World) : Prop where
  key_name : ∀ g k v, (k, v) ∈ w.dicts g → w.vname v = some k ∧ k ≠ "" ∧ w.initOf v = some g
  keys_nodup : ∀ g, ((w.dicts g).map (·.1)).Nodup
  complete : ∀ v g, w.initOf v = some g → ∃ k, (k, v) ∈ w.dicts g

theorem InitsOk.name_of_init {w : World} (h : InitsOk w) {v g : Nat} (hv : w.initOf v = some g) :
    ∃ k, w.vname v = some k ∧ k ≠ "" ∧ (k, v) ∈ w.dicts g := by
  obtain ⟨k, hk⟩ := h.complete v g hv
  exact ⟨k, (h.key_name g k v hk).1, (h.key_name g k v hk).2.1, hk⟩

theorem InitsOk.mem_iff {w : World} (h : InitsOk w) (g u : Nat) :
    u ∈ (w.dicts g).map (·.2) ↔ w.initOf u = some g := by
  constructor
  · intro hu
    obtain ⟨⟨k, u'⟩, he, rfl⟩ := List.mem_map.mp hu
    exact (h.key_name g k u' he).2.2
  · intro hu
    obtain ⟨k, hk⟩ := h.complete u g hu
    exact List.mem_map.mpr ⟨(k, u), hk, rfl⟩


/-! ### the setter `Value.name = new` -/

theorem nameGuard_raises {w : World} {v : Nat} {new : String} (hne : w.vname v ≠ some new)
    (hg : w.nameGuard v new = true) : w.setName v new = (w, true) := by
  unfold World.nameGuard at hg
  unfold World.setName
  rw [if_neg hne]
  split at hg
  · simp at hg
  · rename_i g hio
    simp only
    simp only [Bool.or_eq_true, beq_iff_eq] at hg
    by_cases h1 : new = ""
    · simp [h1]
    · simp only [h1, if_false]
      rcases hg with hg | hg
      · exact absurd hg h1
      · simp only [hg, if_true]

theorem setName_unguarded {w : World} {v : Nat} {new : String} (h1 : w.vname v ≠ some new)
    (hg : w.nameGuard v new = false) :
    w.setName v new =
      match w.initOf v, w.vname v with
      | none, _ => ({ w with vname := upd w.vname v (some new) }, false)
      | some _, none => ({ w with vname := upd w.vname v (some new) }, true)
      | some g, some old =>
        if dictHas (w.dicts g) old then
          ({ w with vname := upd w.vname v (some new),
                    dicts := upd w.dicts g (dictSet (dictErase (w.dicts g) old) new v) }, false)
        else ({ w with vname := upd w.vname v (some new) }, true) := by
  unfold World.nameGuard at hg
  unfold World.setName
  rw [if_neg h1]
  cases hio : w.initOf v with
  | none => rfl
  | some g =>
    rw [hio] at hg
    simp only [Bool.or_eq_false_iff, beq_eq_false_iff_ne] at hg
    simp only [if_neg hg.1, hg.2]
    cases w.vname v <;> rfl

theorem setName_cases (w : World) (v : Nat) (new : String) :
    (w.vname v = some new ∧ w.setName v new = (w, false))
    ∨ (w.vname v ≠ some new ∧ w.nameGuard v new = true ∧ w.setName v new = (w, true))
    ∨ (w.vname v ≠ some new ∧ w.nameGuard v new = false ∧
        ∃ D b, w.setName v new = ({ w with vname := upd w.vname v (some new), dicts := D }, b)) := by
  by_cases h1 : w.vname v = some new
  · exact Or.inl ⟨h1, by unfold World.setName; rw [if_pos h1]⟩
  · cases hg : w.nameGuard v new with
    | true => exact Or.inr (Or.inl ⟨h1, rfl, nameGuard_raises h1 hg⟩)
    | false =>
      refine Or.inr (Or.inr ⟨h1, rfl, ?_⟩)
      rw [setName_unguarded h1 hg]
      cases w.initOf v with
      | none => exact ⟨_, _, rfl⟩
      | some g =>
        cases w.vname v with
        | none => exact ⟨_, _, rfl⟩
        | some old => dsimp only; split <;> exact ⟨_, _, rfl⟩

theorem setName_frame (w : World) (v : Nat) (new : String) :
    ((w.setName v new).1.vname = w.vname ∨ (w.setName v new).1.vname = upd w.vname v (some new))
    ∧ (w.setName v new).1.nname = w.nname ∧ (w.setName v new).1.initOf = w.initOf := by
  rcases setName_cases w v new with ⟨_, e⟩ | ⟨_, _, e⟩ | ⟨_, _, D, b, e⟩ <;> rw [e]
  · exact ⟨Or.inl rfl, rfl, rfl⟩
  · exact ⟨Or.inl rfl, rfl, rfl⟩
  · exact ⟨Or.inr rfl, rfl, rfl⟩

theorem setName_nname (w : World) (v : Nat) (new : String) : (w.setName v new).1.nname = w.nname :=
  (setName_frame w v new).2.1

theorem setName_vname_other (w : World) {v u : Nat} (new : String) (h : u ≠ v) :
    (w.setName v new).1.vname u = w.vname u := by
  rcases (setName_frame w v new).1 with e | e
  · rw [e]
  · rw [e, upd_ne _ _ h]

theorem setName_set (w : World) (v : Nat) (new : String) (h : (w.setName v new).2 = false) :
    (w.setName v new).1.vname v = some new := by
  rcases setName_cases w v new with ⟨h1, e⟩ | ⟨_, _, e⟩ | ⟨_, _, D, b, e⟩
  · rw [e]; exact h1
  · rw [e] at h; cases h
  · rw [e]; exact upd_eq _ _ _

theorem setName_plain {w : World} {v : Nat} (hio : w.initOf v = none) (n : String) :
    (w.setName v n).2 = false ∧ (w.setName v n).1.vname = upd w.vname v (some n)
    ∧ (w.setName v n).1.nname = w.nname ∧ (w.setName v n).1.initOf = w.initOf ∧ (w.setName v n).1.dicts = w.dicts := by
  by_cases he : w.vname v = some n
  · have : w.setName v n = (w, false) := by unfold World.setName; rw [if_pos he]
    rw [this]; exact ⟨rfl, by rw [← he, upd_same], rfl, rfl, rfl⟩
  · have hg : w.nameGuard v n = false := by unfold World.nameGuard; rw [hio]
    rw [setName_unguarded he hg, hio]
    exact ⟨rfl, rfl, rfl, rfl, rfl⟩

theorem InitsOk.rename_free {w : World} (h : InitsOk w) {v : Nat} (hio : w.initOf v = none) (n : Option String) :
    InitsOk { w with vname := upd w.vname v n } := by
  refine ⟨fun g k u hm => ?_, h.keys_nodup, h.complete⟩
  have hk := h.key_name g k u hm
  have huv : u ≠ v := by intro e; subst e; rw [hio] at hk; exact absurd hk.2.2 (by simp)
  exact ⟨by simp [upd_ne _ _ huv, hk.1], hk.2.1, hk.2.2⟩

theorem InitsOk.erase {w : World} (h : InitsOk w) {g v : Nat} {k : String} (hio : w.initOf v = some g)
    (hk : w.vname v = some k) :
    InitsOk { w with dicts := upd w.dicts g (dictErase (w.dicts g) k), initOf := upd w.initOf v none }
    ∧ ∀ g' e, e ∈ upd w.dicts g (dictErase (w.dicts g) k) g' ↔ (e ∈ w.dicts g' ∧ e.2 ≠ v) := by
  have hkm : (k, v) ∈ w.dicts g := by
    obtain ⟨k', hk', _, hm⟩ := h.name_of_init hio
    rw [hk] at hk'; cases hk'; exact hm
  have hmem : ∀ g' e, e ∈ upd w.dicts g (dictErase (w.dicts g) k) g' ↔ (e ∈ w.dicts g' ∧ e.2 ≠ v) := by
    intro g' e
    by_cases hg : g' = g
    · subst hg
      simp only [upd_eq, mem_dictErase]
      constructor
      · rintro ⟨h1, h2⟩
        refine ⟨h1, fun hv => h2 ?_⟩
        have := (h.key_name g' e.1 e.2 (by simpa using h1)).1
        rw [hv, hk] at this
        exact (Option.some.inj this).symm
      · rintro ⟨h1, h2⟩
        refine ⟨h1, fun hv => h2 ?_⟩
        have : (k, e.2) ∈ w.dicts g' := by rw [← hv]; simpa using h1
        exact ListFacts.keys_unique (h.keys_nodup g') this hkm
    · rw [upd_ne _ _ hg]
      constructor
      · intro h1
        refine ⟨h1, fun hv => hg ?_⟩
        have := (h.key_name g' e.1 e.2 (by simpa using h1)).2.2
        rw [hv, hio] at this
        exact (Option.some.inj this).symm
      · exact fun h1 => h1.1
  refine ⟨⟨?_, ?_, ?_⟩, hmem⟩
  · intro g' k' u hm
    obtain ⟨hm1, hm2⟩ := (hmem g' (k', u)).mp hm
    have := h.key_name g' k' u hm1
    exact ⟨this.1, this.2.1, by simp only; rw [upd_ne _ _ hm2]; exact this.2.2⟩
  · intro g'
    by_cases hg : g' = g
    · subst hg; simp only [upd_eq]
      exact (List.Sublist.map _ List.filter_sublist).nodup (h.keys_nodup g')
    · simp only [upd_ne _ _ hg]; exact h.keys_nodup g'
  · intro u g' hu
    simp only at hu
    have huv : u ≠ v := by intro e; subst e; simp at hu
    rw [upd_ne _ _ huv] at hu
    obtain ⟨k', hk'⟩ := h.complete u g' hu
    exact ⟨k', (hmem g' (k', u)).mpr ⟨hk', huv⟩⟩

theorem InitsOk.insert {w : World} (h : InitsOk w) {g v : Nat} {n : String} (hio : w.initOf v = none)
    (hn : w.vname v = some n) (hne : n ≠ "") (hfresh : ∀ u, (n, u) ∉ w.dicts g) :
    InitsOk { w with dicts := upd w.dicts g (w.dicts g ++ [(n, v)]), initOf := upd w.initOf v (some g) }
    ∧ ∀ g' e, e ∈ upd w.dicts g (w.dicts g ++ [(n, v)]) g' ↔ (e ∈ w.dicts g' ∨ (g' = g ∧ e = (n, v))) := by
  have hmem : ∀ g' e, e ∈ (upd w.dicts g (w.dicts g ++ [(n, v)])) g' ↔ (e ∈ w.dicts g' ∨ (g' = g ∧ e = (n, v))) := by
    intro g' e
    by_cases hg : g' = g
    · subst hg; simp
    · rw [upd_ne _ _ hg]; simp [hg]
  have hnotin : ∀ g' k u, (k, u) ∈ w.dicts g' → u ≠ v := by
    intro g' k u hm e
    subst e
    have := (h.key_name g' k u hm).2.2
    rw [hio] at this; cases this
  refine ⟨⟨?_, ?_, ?_⟩, hmem⟩
  · intro g' k u hm
    rcases (hmem g' (k, u)).mp hm with hm | ⟨rfl, he⟩
    · have := h.key_name g' k u hm
      exact ⟨this.1, this.2.1, by simp only; rw [upd_ne _ _ (hnotin g' k u hm)]; exact this.2.2⟩
    · simp only [Prod.mk.injEq] at he
      obtain ⟨rfl, rfl⟩ := he
      exact ⟨hn, hne, by simp⟩
  · intro g'
    by_cases hg : g' = g
    · subst hg
      simp only [upd_eq, List.map_append, List.map_cons, List.map_nil]
      rw [List.nodup_append]
      refine ⟨h.keys_nodup g', by simp, ?_⟩
      intro a ha b hb
      simp only [List.mem_singleton] at hb
      subst hb
      obtain ⟨e, he, rfl⟩ := List.mem_map.mp ha
      intro hk
      exact hfresh e.2 (by rw [← hk]; exact he)
    · simp only [upd_ne _ _ hg]; exact h.keys_nodup g'
  · intro u g' hu
    simp only at hu
    by_cases huv : u = v
    · subst huv
      simp only [upd_eq, Option.some.injEq] at hu
      subst hu
      exact ⟨n, (hmem g (n, u)).mpr (Or.inr ⟨rfl, rfl⟩)⟩
    · rw [upd_ne _ _ huv] at hu
      obtain ⟨k, hk⟩ := h.complete u g' hu
      exact ⟨k, (hmem g' (k, u)).mpr (Or.inl hk)⟩

/-- for an initializer the setter is: drop the entry under the old name, assign the name, enter it under the new name -/
theorem setName_guard_ok {w : World} (h : InitsOk w) (v : Nat) (new : String)
    (hg : w.nameGuard v new = false) :
    (w.setName v new).2 = false ∧ InitsOk (w.setName v new).1 ∧
    (w.setName v new).1.vname = upd w.vname v (some new) ∧ (w.setName v new).1.nname = w.nname ∧
    (w.setName v new).1.initOf = w.initOf := by
  by_cases heq : w.vname v = some new
  · have : w.setName v new = (w, false) := by unfold World.setName; rw [if_pos heq]
    rw [this]; exact ⟨rfl, h, by rw [← heq, upd_same], rfl, rfl⟩
  rw [setName_unguarded heq hg]
  cases hio : w.initOf v with
  | none => exact ⟨rfl, h.rename_free hio _, rfl, rfl, rfl⟩
  | some g =>
    obtain ⟨old, hold, _, holdmem⟩ := h.name_of_init hio
    unfold World.nameGuard at hg
    simp only [hio, Bool.or_eq_false_iff, beq_eq_false_iff_ne] at hg
    -- no entry of the dictionary is keyed by the new name: its holder would be `v`, which is keyed by `old`
    have hlook : ∀ u, (new, u) ∉ w.dicts g := by
      intro u hu
      cases hl : (w.dicts g).lookup new with
      | none => exact (ListFacts.lookup_none_iff.mp hl u) hu
      | some u' =>
        rw [hl] at hg
        have huv : u' = v := by simpa using hg.2
        exact heq ((h.key_name g new u' (ListFacts.mem_of_lookup hl)).1 ▸ huv ▸ rfl)
    have hhas : dictHas (w.dicts g) old = true := dictHas_iff.mpr ⟨v, holdmem⟩
    simp only [hold, hhas, if_true]
    have hset : dictSet (dictErase (w.dicts g) old) new v = dictErase (w.dicts g) old ++ [(new, v)] := by
      unfold dictSet
      have : (dictErase (w.dicts g) old).any (fun e => e.1 == new) = false := by
        rw [List.any_eq_false]
        intro e he hk
        exact hlook e.2 (by rw [← (by simpa using hk : e.1 = new)]; exact (mem_dictErase.mp he).1)
      simp [this]
    rw [hset]
    refine ⟨trivial, ?_, trivial, trivial, trivial⟩
    obtain ⟨ok1, d1⟩ := h.erase hio hold
    have ok2 := ok1.rename_free (v := v) (by simp) (some new)
    obtain ⟨ok3, _⟩ := ok2.insert (g := g) (v := v) (n := new) (by simp) (by simp) hg.1
      (fun u hu => hlook u ((d1 g (new, u)).mp hu).1)
    have e1 : upd (upd w.dicts g (dictErase (w.dicts g) old)) g (upd w.dicts g (dictErase (w.dicts g) old) g ++ [(new, v)])
        = upd w.dicts g (dictErase (w.dicts g) old ++ [(new, v)]) := by
      funext g'; by_cases hg' : g' = g <;> simp [upd, hg']
    have e2 : upd (upd w.initOf v none) v (some g) = w.initOf := by
      funext u; by_cases hu : u = v <;> simp [upd, hu, hio]
    simp only [e1, e2] at ok3
    exact ok3

theorem setName_ok {w : World} (h : InitsOk w) (v : Nat) (new : String) (hne : new ≠ "")
    (hfree : ∀ g k u, w.initOf v = some g → (k, u) ∈ w.dicts g → u ≠ v → k ≠ new) :
    (w.setName v new).2 = false ∧ InitsOk (w.setName v new).1 ∧
    (w.setName v new).1.vname = upd w.vname v (some new) ∧ (w.setName v new).1.nname = w.nname ∧
    (w.setName v new).1.initOf = w.initOf := by
  refine setName_guard_ok h v new ?_
  unfold World.nameGuard
  cases hio : w.initOf v with
  | none => rfl
  | some g =>
    simp only [Bool.or_eq_false_iff, beq_eq_false_iff_ne]
    refine ⟨hne, ?_⟩
    cases hl : (w.dicts g).lookup new with
    | none => rfl
    | some u =>
      simp only [bne_eq_false_iff_eq]
      exact Classical.byContradiction (fun huv => hfree g new u hio (ListFacts.mem_of_lookup hl) huv rfl)


/-! ### the invariant that rules out exceptions -/

/-- a name the pass generated: not reserved, and either the bare "v" or `base_k` with `k` within
the counter of `base` -/
def Gen (resV : List String) (vcnt : String → Nat) (n : Option String) : Prop :=
  ∃ s, n = some s ∧ s ∉ resV ∧ (s = "v" ∨ ∃ b k, s = sufName b k ∧ 1 ≤ k ∧ k ≤ vcnt b)

/-- what is fixed during one `_fix_graph_names` call: the names at its start, the set `C` of values
the call can meet, the initializer links, the reserved names -/
structure Cfg where
  orig : Nat → Option String
  C : Nat → Prop
  io : Nat → Option Nat
  resV : List String

structure Cfg.OK (c : Cfg) : Prop where
  /-- the pre-pass reserved every truthy name of every value the call can meet -/
  res : ∀ u s, c.C u → c.orig u = some s → s ≠ "" → s ∈ c.resV
  /-- if the call can meet an initializer it can meet all initializers of that graph -/
  closed : ∀ v g u, c.C v → c.io v = some g → c.io u = some g → c.C u
  /-- different initializers of one graph had different names when the call started -/
  inj : ∀ g u v, c.io u = some g → c.io v = some g → c.orig u = c.orig v → u = v

structure TInv (c : Cfg) (st : FixSt) : Prop where
  nr : st.raised = false
  ok : InitsOk st.toWorld
  io : st.initOf = c.io
  res : st.resV = c.resV
  /-- a name is the original one or has the shape of a generated name within the counters -/
  j1 : ∀ u, st.vname u = c.orig u ∨ Gen c.resV st.vcnt (st.vname u)
  unseen : ∀ u, u ∉ st.seen → st.vname u = c.orig u
  /-- values the call cannot meet keep their names -/
  outside : ∀ u, ¬ c.C u → st.vname u = c.orig u

theorem pushTop_eq (stk : List (List String)) (n : String) :
    pushTop stk n = (n :: topOf stk) :: stk.tail := by
  cases stk <;> simp [pushTop, topOf]

theorem truthy_iff {o : Option String} : truthy o = true ↔ ∃ s, o = some s ∧ s ≠ "" := by
  cases o <;> simp [truthy]

theorem processValues_cons (st : FixSt) (v : Nat) (vs : List Nat) :
    processValues st (v :: vs) = processValues (processValue st v) vs := rfl

/-- everything `_process_value` does to a state that satisfies the invariant -/
structure PV (c : Cfg) (st : FixSt) (v : Nat) (st' : FixSt) : Prop where
  inv : TInv c st'
  seen_iff : ∀ u, u ∈ st'.seen ↔ (u ∈ st.seen ∨ u = v)
  others : ∀ u, u ≠ v → st'.vname u = st.vname u
  noop : v ∈ st.seen → st' = st
  fresh : v ∉ st.seen → ∃ n, st'.vname v = some n ∧ n ≠ "" ∧ n ∉ topOf st.vstack ∧
            st'.vstack = (n :: topOf st.vstack) :: st.vstack.tail ∧
            (st.vname v = some n ∨ n ∉ c.resV) ∧
            (∀ s, st.vname v = some s → s ≠ "" → s ∉ topOf st.vstack → n = s)
  nodes : st'.nname = st.nname ∧ st'.nstack = st.nstack ∧ st'.ncnt = st.ncnt ∧ st'.resN = st.resN
  vcnt : ∀ b, st.vcnt b ≤ st'.vcnt b
  modified : st.modified = true → st'.modified = true
  unchanged : st'.vname = st.vname → st'.toWorld = st.toWorld ∧ st'.modified = st.modified

theorem Gen.mono {resV : List String} {c1 c2 : String → Nat} (h : ∀ b, c1 b ≤ c2 b) {n : Option String}
    (g : Gen resV c1 n) : Gen resV c2 n := by
  obtain ⟨s, h1, h2, h3⟩ := g
  refine ⟨s, h1, h2, ?_⟩
  rcases h3 with h3 | ⟨b, k, e, k1, k2⟩
  · exact Or.inl h3
  · exact Or.inr ⟨b, k, e, k1, Nat.le_trans k2 (h b)⟩

/-- the renaming branch of `_process_value` (`_assign_value_name` / the duplicate branch of
`_fix_duplicate_value_name`) under the invariant -/
theorem renameTo_PV {c : Cfg} (hc : c.OK) {st : FixSt} (inv : TInv c st) {v : Nat} (hC : c.C v)
    (hv : v ∉ st.seen) (p : String)
    (hp : (¬ truthy (st.vname v) ∧ p = "v") ∨ (st.vname v = some p ∧ p ≠ "" ∧ p ∈ topOf st.vstack)) :
    PV c st v (renameTo st v p) := by
  have hspec := findUnique_spec p (topOf st.vstack) st.resV (st.vcnt p)
  obtain ⟨hf1, hf2, hf3⟩ := hspec
  generalize hr : findUnique p (topOf st.vstack) st.resV (st.vcnt p) = r at hf1 hf2 hf3
  have hle : st.vcnt p ≤ r.2 := by
    rcases hf3 with ⟨e, _⟩ | ⟨k, hk, e, _⟩ <;> simp [e] <;> omega
  have hne : r.1 ≠ "" := by
    rcases hf3 with ⟨e, _⟩ | ⟨k, hk, e, _⟩
    · rcases hp with ⟨_, rfl⟩ | ⟨_, h2, _⟩
      · simp [e]
      · simpa [e] using h2
    · simp [e, sufName_ne_empty]
  have hgen : Gen c.resV (updS st.vcnt p r.2) (some r.1) := by
    refine ⟨r.1, rfl, inv.res ▸ hf2, ?_⟩
    rcases hf3 with ⟨e, h1, _⟩ | ⟨k, hk, e, _⟩
    · rcases hp with ⟨_, rfl⟩ | ⟨_, _, h3⟩
      · exact Or.inl (by simp [e])
      · exact absurd h3 h1
    · exact Or.inr ⟨p, k, by simp [e], by omega, by simp [e, updS]⟩
  have hvcnt : ∀ b, st.vcnt b ≤ updS st.vcnt p r.2 b := by
    intro b; simp only [updS]; split
    · rename_i e; subst e; exact hle
    · exact Nat.le_refl _
  have hfree : ∀ g k u, st.initOf v = some g → (k, u) ∈ st.dicts g → u ≠ v → k ≠ r.1 := by
    intro g k u hio hm huv hk
    -- `v` is an initializer: it has a truthy name, so this is the duplicate branch
    obtain ⟨old, hold, holdne, _⟩ := inv.ok.name_of_init hio
    have hsuf : ∃ kk, st.vcnt p < kk ∧ r = (sufName p kk, kk) := by
      rcases hp with ⟨h1, _⟩ | ⟨_, _, h3⟩
      · exact absurd (truthy_iff.mpr ⟨old, hold, holdne⟩) h1
      · rcases hf3 with ⟨_, h1, _⟩ | ⟨kk, hk1, e, _⟩
        · exact absurd h3 h1
        · exact ⟨kk, hk1, e⟩
    obtain ⟨kk, hkk, er⟩ := hsuf
    have hku := inv.ok.key_name g k u hm
    have hCu : c.C u := hc.closed v g u hC (inv.io ▸ hio) (inv.io ▸ hku.2.2)
    rcases inv.j1 u with h | ⟨s, h1, h2, h3⟩
    · have : k ∈ c.resV := hc.res u k hCu (h ▸ hku.1) hku.2.1
      exact hf2 (inv.res ▸ hk ▸ this)
    · have hs : s = k := by rw [hku.1] at h1; exact (Option.some.inj h1).symm
      subst hs
      rcases h3 with h3 | ⟨b, k', e, _, k2⟩
      · rw [er] at hk; exact sufName_ne_v p kk (by simpa [h3] using hk.symm)
      · rw [er, e] at hk
        obtain ⟨rfl, rfl⟩ := sufName_inj (show sufName b k' = sufName p kk from hk)
        omega
  have hset := setName_ok inv.ok v r.1 hne hfree
  obtain ⟨hs1, hs2, hs3, hs4, hs5⟩ := hset
  have hstep : renameTo st v p =
      { st with toWorld := (st.toWorld.setName v r.1).1, vcnt := updS st.vcnt p r.2,
                vstack := pushTop st.vstack r.1, modified := true, seen := v :: st.seen } := by
    simp only [renameTo, hr, hs1]
    rfl
  rw [hstep]
  have hout : ∀ u, ¬ c.C u → (st.toWorld.setName v r.1).1.vname u = c.orig u := by
    intro u hu
    have huv : u ≠ v := fun e => hu (e ▸ hC)
    rw [hs3, upd_ne _ _ huv]
    exact inv.outside u hu
  refine ⟨⟨inv.nr, hs2, ?_, inv.res, ?_, ?_, hout⟩, ?_, ?_, fun h => absurd h hv, ?_, ⟨hs4, rfl, rfl, rfl⟩, hvcnt,
    fun _ => rfl, ?_⟩
  · exact hs5.trans inv.io
  · intro u
    show (st.toWorld.setName v r.1).1.vname u = c.orig u ∨ Gen c.resV (updS st.vcnt p r.2) ((st.toWorld.setName v r.1).1.vname u)
    rw [hs3]
    by_cases huv : u = v
    · subst huv; simp only [upd_eq]; exact Or.inr hgen
    · rw [upd_ne _ _ huv]
      rcases inv.j1 u with h | h
      · exact Or.inl h
      · exact Or.inr (h.mono hvcnt)
  · intro u hu
    show (st.toWorld.setName v r.1).1.vname u = c.orig u
    have huv : u ≠ v := fun e => hu (e ▸ List.mem_cons_self)
    rw [hs3, upd_ne _ _ huv]
    exact inv.unseen u (fun h => hu (List.mem_cons_of_mem _ h))
  · intro u; simp only [List.mem_cons]; exact Or.comm
  · intro u huv
    show (st.toWorld.setName v r.1).1.vname u = st.vname u
    rw [hs3, upd_ne _ _ huv]
  · intro _
    refine ⟨r.1, ?_, hne, hf1, by rw [pushTop_eq], ?_, ?_⟩
    · show (st.toWorld.setName v r.1).1.vname v = some r.1
      rw [hs3]; simp
    · exact Or.inr (inv.res ▸ hf2)
    · intro s hs hsne hstop
      rcases hp with ⟨h1, _⟩ | ⟨h1, _, h3⟩
      · exact absurd (truthy_iff.mpr ⟨s, hs, hsne⟩) h1
      · rw [h1] at hs; cases hs; exact absurd h3 hstop
  · intro h
    exfalso
    have : (st.toWorld.setName v r.1).1.vname v = st.vname v := congrFun h v
    rw [hs3] at this
    simp only [upd_eq] at this
    rcases hp with ⟨h1, _⟩ | ⟨h1, _, h3⟩
    · exact h1 (truthy_iff.mpr ⟨r.1, this.symm, hne⟩)
    · rw [h1] at this; cases this; exact hf1 h3


theorem processValue_PV {c : Cfg} (hc : c.OK) {st : FixSt} (inv : TInv c st) {v : Nat} (hC : c.C v) :
    PV c st v (processValue st v) := by
  unfold processValue
  simp only [inv.nr, Bool.false_eq_true, if_false]
  by_cases hv : v ∈ st.seen
  · have : st.seen.contains v = true := by simpa using hv
    simp only [this, if_true]
    exact ⟨inv, fun u => ⟨Or.inl, fun h => h.elim id (fun e => e ▸ hv)⟩, fun _ _ => rfl, fun _ => rfl,
      fun h => absurd hv h, ⟨rfl, rfl, rfl, rfl⟩, fun _ => Nat.le_refl _, id, fun _ => ⟨rfl, rfl⟩⟩
  · have : st.seen.contains v = false := by simpa using hv
    simp only [this, Bool.false_eq_true, if_false]
    by_cases ht : truthy (st.vname v) = true
    · obtain ⟨s, hs, hsne⟩ := truthy_iff.mp ht
      have ht2 : truthy (some s) = true := hs ▸ ht
      simp only [hs, ht2, Bool.not_true, Bool.false_eq_true, if_false, Option.getD_some]
      by_cases htop : s ∈ topOf st.vstack
      · have : (topOf st.vstack).contains s = true := by simpa using htop
        simp only [this, Bool.not_true, Bool.false_eq_true, if_false]
        exact renameTo_PV hc inv hC hv s (Or.inr ⟨hs, hsne, htop⟩)
      · have : (topOf st.vstack).contains s = false := by simpa using htop
        simp only [this, Bool.not_false, if_true]
        refine ⟨⟨rfl, inv.ok, inv.io, inv.res, inv.j1, ?_, inv.outside⟩, ?_, fun _ _ => rfl, fun h => absurd h hv, ?_,
          ⟨rfl, rfl, rfl, rfl⟩, fun _ => Nat.le_refl _, id, fun _ => ⟨rfl, rfl⟩⟩
        · intro u hu
          exact inv.unseen u (fun h => hu (List.mem_cons_of_mem _ h))
        · intro u; simp only [List.mem_cons]
          exact ⟨fun h => h.elim Or.inr Or.inl, fun h => h.elim Or.inr Or.inl⟩
        · intro _
          exact ⟨s, hs, hsne, htop, by rw [pushTop_eq], Or.inl hs, fun s' hs' _ _ => by rw [hs] at hs'; exact Option.some.inj hs'⟩
    · have ht' : truthy (st.vname v) = false := by simpa using ht
      simp only [ht', Bool.not_false, if_true]
      exact renameTo_PV hc inv hC hv "v" (Or.inl ⟨ht, rfl⟩)

end IrVerif.Names
