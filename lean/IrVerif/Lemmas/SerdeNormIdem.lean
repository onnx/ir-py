import IrVerif.Lemmas.SerdeModel
import IrVerif.Lemmas.ListFacts
/-! C02: `norm` is idempotent on well-formed protos (so `norm (serialize (deserialize p)) = norm p`
follows from `serialize (deserialize p) = norm p`). -/
namespace IrVerif.Serde
open IrVerif.Proto

theorem normValueInfo_idem (vi : ValueInfoP) : normValueInfo (normValueInfo vi) = normValueInfo vi := by
  simp [normValueInfo, normEntries_idem]

/-- a list built from distinct keys `K`, at most one element per key: looking a key up gives back
what was put there (`key b = some k`: the key is extracted from the element, possibly failing) -/
theorem findLast?_filterMap_okey {β κ : Type} [DecidableEq κ] (key : β → Option κ) (F : κ → Option β)
    (hF : ∀ k b, F k = some b → key b = some k) :
    ∀ K : List κ, K.Nodup → ∀ k,
      findLast? (fun b => key b = some k) (K.filterMap F) = if k ∈ K then F k else none
  | [], _, k => by simp [findLast?]
  | x :: xs, hnd, k => by
    rw [List.nodup_cons] at hnd
    have ih := findLast?_filterMap_okey key F hF xs hnd.2 k
    have hsplit : (x :: xs).filterMap F = (F x).toList ++ xs.filterMap F := by
      simp only [List.filterMap_cons]; cases F x <;> rfl
    rw [hsplit, findLast?_append, ih]
    by_cases hn : k ∈ xs
    · have hnk : k ≠ x := fun e => hnd.1 (e ▸ hn)
      simp only [hn, if_true, List.mem_cons, hnk, false_or]
      cases hFn : F k with
      | some b => rfl
      | none =>
        simp only
        cases hFk : F x with
        | none => rfl
        | some b =>
          have : ¬ key b = some k := by
            rw [hF x b hFk]; intro e; exact hnk (Option.some.inj e).symm
          simp [findLast?, this]
    · simp only [hn, if_false, List.mem_cons, or_false]
      by_cases hnk : k = x
      · subst hnk
        simp only [if_true]
        cases hFk : F k with
        | none => rfl
        | some b => simp [findLast?, hF k b hFk]
      · simp only [hnk, if_false]
        cases hFk : F x with
        | none => rfl
        | some b =>
          have : ¬ key b = some k := by
            rw [hF x b hFk]; intro e; exact hnk (Option.some.inj e).symm
          simp [findLast?, this]

theorem findLast?_filterMap_key {β : Type} (key : β → String) (F : String → Option β)
    (hF : ∀ n b, F n = some b → key b = n) (K : List String) (hK : K.Nodup) (n : String) :
    findLast? (fun b => key b = n) (K.filterMap F) = if n ∈ K then F n else none := by
  have h := findLast?_filterMap_okey (fun b => some (key b)) F (fun k b h => congrArg some (hF k b h)) K hK n
  have e : (fun b => decide (some (key b) = some n)) = fun b => decide (key b = n) := by
    funext b; simp only [Option.some.injEq]
  rwa [e] at h

theorem keys_filterMap_key {β : Type} (key : β → String) (f : String → Option β)
    (hf : ∀ k e, f k = some e → key e = k) : ∀ ks : List String, ((ks.filterMap f).map key).Sublist ks
  | [] => List.Sublist.slnil
  | k :: ks => by
    cases hfk : f k with
    | none => rw [List.filterMap_cons_none hfk]; exact (keys_filterMap_key key f hf ks).cons k
    | some e =>
      rw [List.filterMap_cons_some hfk, List.map_cons, hf k e hfk]
      exact (keys_filterMap_key key f hf ks).cons_cons k

theorem find?_filterMap_key (f : String → Option Entry) (hf : ∀ k e, f k = some e → e.key = k)
    (ks : List String) (hnd : ks.Nodup) (k : String) :
    (ks.filterMap f).find? (fun e => e.key = k) = if k ∈ ks then f k else none := by
  exact (findLast?_eq_find? (fun e : Entry => e.key) k _ ((keys_filterMap_key _ f hf ks).nodup hnd)).symm.trans
    (findLast?_filterMap_key _ f hf ks hnd k)

theorem normExternal_idem (es : List Entry) : normExternal (normExternal es) = normExternal es := by
  unfold normExternal
  apply filterMap_congr'
  intro k hk
  rw [find?_filterMap_key _ (fun k e h => by simpa using List.find?_some h) _ (by decide) k, if_pos hk]

theorem normTensor_idem (t : TensorP) : normTensor (normTensor t) = normTensor t := by
  simp only [normTensor, normEntries_idem]
  split <;> simp [normExternal_idem]

theorem normTensor_name (t : TensorP) : (normTensor t).name = t.name := rfl
theorem normTensor_dims (t : TensorP) : (normTensor t).dims = t.dims := rfl
theorem normTensor_dataType (t : TensorP) : (normTensor t).dataType = t.dataType := rfl

theorem normDomain_idem (d : String) : normDomain (normDomain d) = normDomain d := by
  unfold normDomain; split <;> simp

theorem normEntries_eq_nil {es : List Entry} : normEntries es = [] ↔ es = [] := by
  constructor
  · intro h
    have : (dictOfEntries es).isEmpty = true := by
      unfold normEntries at h
      cases hd : dictOfEntries es with
      | nil => rfl
      | cons x xs =>
        rw [hd] at h
        obtain ⟨k, v⟩ := x
        simp only [sortEntries] at h
        have := (mem_insertEntry (e := ⟨k, v⟩) (y := ⟨k, v⟩) (l := sortEntries xs)).2 (Or.inl rfl)
        rw [h] at this; cases this
    exact sortEntries_dictOfEntries_isEmpty es this
  · intro h; subst h; rfl

/-- the canonical entry of a non-input initializer -/
def initEntry (vis : List ValueInfoP) (t : TensorP) : ValueInfoP :=
  match findVI vis t.name with
  | some vi => normValueInfo (fillFromTensor vi t)
  | none => defaultVI t

/-- what a canonical list holds for a key: the entry found, if it is worth keeping, normalised -/
def pick {β : Type} (keep : β → Bool) (nrm : β → β) : Option β → Option β
  | some b => if keep b then some (nrm b) else none
  | none => none

theorem pick_some {β : Type} {keep : β → Bool} {nrm : β → β} {o : Option β} {e : β}
    (h : pick keep nrm o = some e) : ∃ b, o = some b ∧ keep b = true ∧ nrm b = e := by
  cases o with
  | none => cases h
  | some b =>
    simp only [pick] at h
    split at h
    · exact ⟨b, rfl, ‹_›, Option.some.inj h⟩
    · cases h

theorem pick_pick {β : Type} {keep : β → Bool} {nrm : β → β} (hk : ∀ b, keep b = true → keep (nrm b) = true)
    (hn : ∀ b, nrm (nrm b) = nrm b) (o : Option β) : pick keep nrm (pick keep nrm o) = pick keep nrm o := by
  cases o with
  | none => rfl
  | some b => by_cases h : keep b = true <;> simp [pick, h, hk, hn]

/-- the canonical entry of a node output that is not a graph output, if any -/
def nodeEntry (vis : List ValueInfoP) (n : String) : Option ValueInfoP :=
  pick viHasInfo normValueInfo (findVI vis n)

def annotEntry (q : List AnnotP) (n : String) : Option AnnotP :=
  pick (fun a => !a.params.isEmpty) normAnnot (findAnnot q n)

/-- the canonical entry of a non-input initializer, also when it is a graph output -/
def initEntryO (vis outputs : List ValueInfoP) (t : TensorP) : Option ValueInfoP :=
  match findVI outputs t.name with
  | some vo => if viHasInfo vo then some (normValueInfo vo) else none
  | none => some (initEntry vis t)

theorem normInitVIs_eq (vis outputs : List ValueInfoP) (inN : List String) (ts : List TensorP) :
    normInitVIs vis outputs inN ts
      = (ts.filter (fun t => !inN.contains t.name)).filterMap (initEntryO vis outputs) := by
  induction ts with
  | nil => rfl
  | cons t ts ih =>
    simp only [normInitVIs, ih, List.filter_cons]
    by_cases h : inN.contains t.name = true
    · simp only [h, if_true, Bool.not_true, Bool.false_eq_true, if_false, List.nil_append]
    · have h' : inN.contains t.name = false := by simpa using h
      simp only [h', Bool.false_eq_true, if_false, Bool.not_false, if_true, List.filterMap_cons,
        initEntryO, initEntry]
      cases findVI outputs t.name with
      | some vo => by_cases hi : viHasInfo vo = true <;> simp [hi]
      | none => cases findVI vis t.name <;> rfl

theorem normNodeVIs_eq (vis : List ValueInfoP) (outN : List String) (ks : List String) :
    normNodeVIs vis outN ks = (ks.filter (fun n => !outN.contains n)).filterMap (nodeEntry vis) := by
  induction ks with
  | nil => rfl
  | cons n ks ih =>
    simp only [normNodeVIs, ih, List.filter_cons]
    by_cases h : outN.contains n = true
    · simp only [h, if_true, Bool.not_true, Bool.false_eq_true, if_false, List.nil_append]
    · have h' : outN.contains n = false := by simpa using h
      simp only [h', Bool.false_eq_true, if_false, Bool.not_false, if_true, List.filterMap_cons,
        nodeEntry, pick]
      cases findVI vis n with
      | none => rfl
      | some vi => by_cases hi : viHasInfo vi = true <;> simp [hi]

theorem normQuantFor_eq (q : List AnnotP) (ks : List String) :
    normQuantFor q ks = ks.filterMap (annotEntry q) := by
  induction ks with
  | nil => rfl
  | cons n ks ih =>
    simp only [normQuantFor, ih, List.filterMap_cons, annotEntry, pick]
    cases findAnnot q n with
    | none => rfl
    | some a => by_cases hi : a.params.isEmpty = true <;> simp [hi]

theorem nodeEntry_name {vis : List ValueInfoP} {n : String} {b : ValueInfoP}
    (h : nodeEntry vis n = some b) : b.name = n := by
  obtain ⟨vi, hf, _, rfl⟩ := pick_some h
  exact (findVI_mem hf).2

theorem annotEntry_name {q : List AnnotP} {n : String} {b : AnnotP}
    (h : annotEntry q n = some b) : b.tensorName = n := by
  obtain ⟨a, hf, _, rfl⟩ := pick_some h
  exact (findAnnot_name hf).2

theorem initEntry_name (vis : List ValueInfoP) (t : TensorP) : (initEntry vis t).name = t.name := by
  unfold initEntry
  cases hf : findVI vis t.name with
  | none => rfl
  | some vi => simp [normValueInfo, fillFromTensor, (findVI_mem hf).2]

theorem initEntryO_name {vis outputs : List ValueInfoP} {t : TensorP} {b : ValueInfoP}
    (h : initEntryO vis outputs t = some b) : b.name = t.name := by
  unfold initEntryO at h
  cases hf : findVI outputs t.name with
  | some vo =>
    rw [hf] at h
    simp only at h
    split at h
    · cases h; simp [normValueInfo, (findVI_mem hf).2]
    · cases h
  | none =>
    rw [hf] at h
    cases h
    exact initEntry_name vis t

theorem findLast?_filterMap_tensors (G : TensorP → Option ValueInfoP)
    (hG : ∀ t b, G t = some b → b.name = t.name) (Tn : List TensorP) (hnd : (Tn.map (·.name)).Nodup)
    (t : TensorP) (ht : t ∈ Tn) : findLast? (fun v => v.name = t.name) (Tn.filterMap G) = G t := by
  -- the tensors have distinct names, so the list is keyed by them
  have hF : ∀ u ∈ Tn, (Tn.find? (fun x => x.name = u.name)).bind G = G u := fun u hu => by
    rw [find?_of_nodup (·.name) hnd hu]; rfl
  have e : Tn.filterMap G = (Tn.map (·.name)).filterMap fun n => (Tn.find? (fun x => x.name = n)).bind G := by
    rw [List.filterMap_map]; exact (filterMap_congr' hF).symm
  rw [e]
  refine (findLast?_filterMap_key (fun v : ValueInfoP => v.name) _ (fun n b h => ?_) _ hnd t.name).trans ?_
  · obtain ⟨u, hu, hb⟩ := Option.bind_eq_some_iff.1 h
    rw [hG u b hb]
    simpa using List.find?_some hu
  · rw [if_pos (List.mem_map_of_mem ht), hF t ht]

theorem fillLeafShape_idem (D : ShapeP) (t : TypeP) :
    fillLeafShape D (fillLeafShape D t) = fillLeafShape D t := by
  induction t with
  | tensor e sh den => cases sh <;> rfl
  | sparse e sh den => cases sh <;> rfl
  | sequence e den ih => simp [fillLeafShape, ih]
  | optional e den ih => simp [fillLeafShape, ih]
  | unset den => rfl
  | map den => rfl

theorem fillLeafShape_not_unset (D : ShapeP) (t : TypeP) (h : viIsUnset t = false) :
    viIsUnset (fillLeafShape D t) = false := by
  cases t with
  | unset den => simp [viIsUnset] at h
  | tensor e sh den => cases sh <;> rfl
  | sparse e sh den => cases sh <;> rfl
  | sequence e den => rfl
  | optional e den => rfl
  | map den => rfl

theorem initEntry_fixed (vis : List ValueInfoP) (t : TensorP) :
    normValueInfo (fillFromTensor (initEntry vis t) (normTensor t)) = initEntry vis t := by
  unfold initEntry
  cases hf : findVI vis t.name with
  | none =>
    simp [fillFromTensor, defaultVI, fillLeafShape, normValueInfo, normEntries,
      dictOfEntries, dictUpdate, sortEntries]
  | some vi =>
    simp only [normValueInfo, fillFromTensor, normEntries_idem, normTensor_dims, defaultVI,
      normTensor_dataType, normTensor_name]
    congr 1
    cases hvt : vi.type with
    | unset den => simp [fillLeafShape]
    | tensor e sh den => cases sh <;> simp [fillLeafShape]
    | sparse e sh den => cases sh <;> simp [fillLeafShape]
    | sequence e den => simp [fillLeafShape, fillLeafShape_idem]
    | optional e den => simp [fillLeafShape, fillLeafShape_idem]
    | map den => simp [fillLeafShape]

theorem viHasInfo_norm (vi : ValueInfoP) : viHasInfo (normValueInfo vi) = viHasInfo vi := by
  simp only [viHasInfo, normValueInfo]
  have : (normEntries vi.metadata).isEmpty = vi.metadata.isEmpty := by
    rw [Bool.eq_iff_iff]
    simp [List.isEmpty_iff, normEntries_eq_nil]
  rw [this]

section
variable {inits : List TensorP} {inputs outputs vis : List ValueInfoP} {quant : List AnnotP}
  {outs : List String}

theorem find?_map_name (ts : List TensorP) (f : TensorP → ValueInfoP) (hf : ∀ t, (f t).name = t.name)
    (n : String) :
    (ts.map f).find? (fun v => v.name = n) = (ts.find? (fun t => t.name = n)).map f := by
  simp only [List.find?_map, Function.comp_def, hf]

/-- the canonical `value_info` list of a graph: non-input initializers, then node outputs that are no graph outputs -/
abbrev canonVIs (vis outputs inputs : List ValueInfoP) (inits : List TensorP) (outs : List String) : List ValueInfoP :=
  normInitVIs vis outputs (inputs.map (·.name)) inits ++ normNodeVIs vis (outputs.map (·.name)) outs

theorem findVI_canon_init (hw : GraphWF inits inputs outputs vis quant outs) {t : TensorP}
    (ht : t ∈ inits) (hni : t.name ∉ inputs.map (·.name)) :
    findVI (canonVIs vis outputs inputs inits outs) t.name = initEntryO vis outputs t := by
  obtain ⟨_, houts, hdis⟩ := nodupNames_parts hw
  unfold canonVIs
  rw [normInitVIs_eq, normNodeVIs_eq]
  unfold findVI
  rw [findLast?_append]
  have hB := findLast?_filterMap_key (·.name) (nodeEntry vis) (fun n b h => nodeEntry_name h)
    (outs.filter (fun n => !(outputs.map (·.name)).contains n))
    (List.Nodup.sublist List.filter_sublist houts) t.name
  have hnotin : t.name ∉ outs.filter (fun n => !(outputs.map (·.name)).contains n) := by
    intro hm
    exact (hdis _ (List.mem_filter.1 hm).1).2 (List.mem_map_of_mem ht)
  simp only [hnotin, if_false] at hB
  rw [hB]
  simp only
  have hmem : t ∈ inits.filter (fun t => !(inputs.map (·.name)).contains t.name) :=
    List.mem_filter.2 ⟨ht, by simpa using hni⟩
  exact findLast?_filterMap_tensors (initEntryO vis outputs) (fun t b h => initEntryO_name h) _
    (List.Nodup.sublist (List.Sublist.map _ List.filter_sublist) hw.nodupInit) t hmem

theorem findVI_canon_node (hw : GraphWF inits inputs outputs vis quant outs) {n : String}
    (hn : n ∈ outs) (hno : n ∉ outputs.map (·.name)) :
    findVI (canonVIs vis outputs inputs inits outs) n = nodeEntry vis n := by
  obtain ⟨_, houts, hdis⟩ := nodupNames_parts hw
  unfold canonVIs
  rw [normInitVIs_eq, normNodeVIs_eq]
  unfold findVI
  rw [findLast?_append]
  have hB := findLast?_filterMap_key (·.name) (nodeEntry vis) (fun n b h => nodeEntry_name h)
    (outs.filter (fun n => !(outputs.map (·.name)).contains n))
    (List.Nodup.sublist List.filter_sublist houts) n
  have hin : n ∈ outs.filter (fun n => !(outputs.map (·.name)).contains n) :=
    List.mem_filter.2 ⟨hn, by simpa using hno⟩
  simp only [hin, if_true] at hB
  rw [hB]
  cases hne : nodeEntry vis n with
  | some e => rfl
  | none =>
    simp only
    apply findLast?_none_of_forall
    intro v hv
    obtain ⟨t, ht, htv⟩ := List.mem_filterMap.1 hv
    simp only [decide_eq_false_iff_not]
    rw [initEntryO_name htv]
    intro e
    exact (hdis n hn).2 (by rw [← e]; exact List.mem_map_of_mem (List.mem_filter.1 ht).1)

theorem findVI_map_of_name (f : ValueInfoP → ValueInfoP) (hf : ∀ v, (f v).name = v.name)
    (l : List ValueInfoP) (n : String) : findVI (l.map f) n = (findVI l n).map f := by
  induction l with
  | nil => rfl
  | cons x xs ih =>
    simp only [findVI] at ih
    simp only [findVI, List.map_cons, findLast?, ih]
    cases findLast? (fun v => v.name = n) xs with
    | some y => rfl
    | none =>
      simp only [Option.map_none, hf]
      by_cases h : x.name = n <;> simp [h]

theorem findVI_map_norm (l : List ValueInfoP) (n : String) :
    findVI (l.map normValueInfo) n = (findVI l n).map normValueInfo :=
  findVI_map_of_name normValueInfo (fun _ => rfl) l n

theorem initVIs_of_lookup (vis outputs O' L : List ValueInfoP) (inN : List String) (inits : List TensorP)
    (hO : ∀ t ∈ inits, t.name ∉ inN → findVI O' t.name = (findVI outputs t.name).map normValueInfo)
    (h : ∀ t ∈ inits, t.name ∉ inN → t.name ∉ outputs.map (·.name) →
      findVI L t.name = some (initEntry vis t)) :
    normInitVIs L O' inN (inits.map normTensor)
      = normInitVIs vis outputs inN inits := by
  rw [normInitVIs_eq, normInitVIs_eq]
  have hf : (inits.map normTensor).filter (fun t => !inN.contains t.name)
      = (inits.filter (fun t => !inN.contains t.name)).map normTensor := by
    rw [← filter_map_comm normTensor (fun t => !inN.contains t.name) inits]
    rfl
  rw [hf, List.filterMap_map]
  apply filterMap_congr'
  intro t ht
  have htm := (List.mem_filter.1 ht).1
  have hni : t.name ∉ inN := by simpa using (List.mem_filter.1 ht).2
  simp only [Function.comp, initEntryO, normTensor_name, hO t htm hni]
  cases hfo : findVI outputs t.name with
  | some vo =>
    simp only [Option.map_some, viHasInfo_norm, normValueInfo_idem]
  | none =>
    simp only [Option.map_none]
    have hl := h t htm hni (findVI_none_iff.1 hfo)
    have : initEntry L (normTensor t) = normValueInfo (fillFromTensor (initEntry vis t) (normTensor t)) := by
      simp only [initEntry, normTensor_name, hl]
    rw [this, initEntry_fixed vis t]

theorem nodeVIs_of_lookup (vis L : List ValueInfoP) (outN outs : List String)
    (h : ∀ n ∈ outs, n ∉ outN → findVI L n = nodeEntry vis n) :
    normNodeVIs L outN outs = normNodeVIs vis outN outs := by
  rw [normNodeVIs_eq, normNodeVIs_eq]
  apply filterMap_congr'
  intro n hn
  have hno : n ∉ outN := by simpa using (List.mem_filter.1 hn).2
  have hlk := h n (List.mem_filter.1 hn).1 hno
  simp only [nodeEntry, hlk, pick_pick (fun b h => (viHasInfo_norm b).trans h) normValueInfo_idem]

theorem findVI_append_of_not_mem (C X : List ValueInfoP) (n : String) (h : n ∉ X.map (·.name)) :
    findVI (C ++ X) n = findVI C n := by
  unfold findVI
  rw [findLast?_append]
  have := findVI_none_iff.2 h
  unfold findVI at this
  rw [this]

/-! ### the merged entries of pass-through values are fixed points -/

theorem normInputVI_name (outputs : List ValueInfoP) (vi : ValueInfoP) :
    (normInputVI outputs vi).name = vi.name := by
  unfold normInputVI
  cases h : findVI outputs vi.name with
  | none => rfl
  | some vo => exact (findVI_mem h).2

theorem normOutputVI_name (inputs : List ValueInfoP) (vo : ValueInfoP) :
    (normOutputVI inputs vo).name = vo.name := by
  unfold normOutputVI
  cases h : findVI inputs vo.name <;> rfl

theorem normInputVI_some {O : List ValueInfoP} {v vo : ValueInfoP} (h : findVI O v.name = some vo) :
    normInputVI O v = mergeVI v vo := by simp only [normInputVI, h]

theorem normInputVI_none {O : List ValueInfoP} {v : ValueInfoP} (h : findVI O v.name = none) :
    normInputVI O v = normValueInfo v := by simp only [normInputVI, h]

theorem normOutputVI_some {I : List ValueInfoP} {v vi : ValueInfoP} (h : findVI I v.name = some vi) :
    normOutputVI I v = mergeVI vi v := by simp only [normOutputVI, h]

theorem normOutputVI_none {I : List ValueInfoP} {v : ValueInfoP} (h : findVI I v.name = none) :
    normOutputVI I v = normValueInfo v := by simp only [normOutputVI, h]

theorem mergeVI_self (M : ValueInfoP) (h : SortedE M.metadata) : mergeVI M M = M := by
  have h1 : dictUpdate (dictOfEntries M.metadata) (dictOfEntries M.metadata) = dictOfEntries M.metadata :=
    dictUpdate_of_subset (nodup_dkeys_dictOfEntries _) _ (fun _ h => h)
  have h2 : sortEntries (dictOfEntries M.metadata) = M.metadata := normEntries_of_sorted h
  unfold mergeVI
  rw [h1, h2]

theorem mergeVI_self_merge (vi vo : ValueInfoP) :
    mergeVI (mergeVI vi vo) (mergeVI vi vo) = mergeVI vi vo :=
  mergeVI_self _ (sorted_sortEntries (nodup_dkeys_dictUpdate (nodup_dkeys_dictOfEntries _) _))

theorem passthrough_idem (hin : (inputs.map (·.name)).Nodup) (hout : ConsOut outputs) :
    (inputs.map (normInputVI outputs)).map (normInputVI (outputs.map (normOutputVI inputs)))
        = inputs.map (normInputVI outputs) ∧
    (outputs.map (normOutputVI inputs)).map (normOutputVI (inputs.map (normInputVI outputs)))
        = outputs.map (normOutputVI inputs) := by
  constructor
  · rw [List.map_map]
    apply List.map_congr_left
    intro vi hvi
    simp only [Function.comp]
    have hl : findVI (outputs.map (normOutputVI inputs)) (normInputVI outputs vi).name
        = (findVI outputs vi.name).map (normOutputVI inputs) := by
      rw [normInputVI_name, findVI_map_of_name _ (normOutputVI_name inputs)]
    cases hf : findVI outputs vi.name with
    | none =>
      rw [hf] at hl
      rw [normInputVI_none hl, normInputVI_none hf, normValueInfo_idem]
    | some vo =>
      rw [hf] at hl
      have hn := (findVI_mem hf).2
      have h2 : findVI inputs vo.name = some vi := by rw [hn]; exact findVI_of_mem hin hvi
      rw [normInputVI_some hl, normInputVI_some hf, normOutputVI_some h2]
      exact mergeVI_self_merge vi vo
  · rw [List.map_map]
    apply List.map_congr_left
    intro vo hvo
    simp only [Function.comp]
    have hl : findVI (inputs.map (normInputVI outputs)) (normOutputVI inputs vo).name
        = (findVI inputs vo.name).map (normInputVI outputs) := by
      rw [normOutputVI_name, findVI_map_of_name _ (normInputVI_name outputs)]
    cases hf : findVI inputs vo.name with
    | none =>
      rw [hf] at hl
      rw [normOutputVI_none hl, normOutputVI_none hf, normValueInfo_idem]
    | some vi =>
      rw [hf] at hl
      have hn := (findVI_mem hf).2
      have h2 : findVI outputs vi.name = some vo := by rw [hn]; exact findVI_of_mem_cons hout hvo
      rw [normOutputVI_some hl, normOutputVI_some hf, normInputVI_some h2]
      exact mergeVI_self_merge vi vo

theorem canon_vis_idem (hw : GraphWF inits inputs outputs vis quant outs) (X : List ValueInfoP)
    (hX : ∀ e ∈ X, e.name ∉ scopeNames (inputs.map (·.name)) (inits.map (·.name)) outs) :
    normInitVIs (canonVIs vis outputs inputs inits outs ++ X) (outputs.map (normOutputVI inputs))
          (inputs.map (·.name)) (inits.map normTensor)
      ++ normNodeVIs (canonVIs vis outputs inputs inits outs ++ X) (outputs.map (·.name)) outs
    = canonVIs vis outputs inputs inits outs := by
  have hnot : ∀ n ∈ scopeNames (inputs.map (·.name)) (inits.map (·.name)) outs, n ∉ X.map (·.name) := by
    intro n hn hm
    obtain ⟨e, he, rfl⟩ := List.mem_map.1 hm
    exact hX e he hn
  rw [initVIs_of_lookup vis outputs _ _ _ inits (fun t ht hni => by
        rw [findVI_map_of_name _ (normOutputVI_name inputs)]
        cases hf : findVI outputs t.name with
        | none => rfl
        | some vo =>
          have hn := (findVI_mem hf).2
          simp only [Option.map_some, normOutputVI, findVI_none_iff.2 (hn ▸ hni)])
      (fun t ht hni hno => by
        rw [findVI_append_of_not_mem _ X _ (hnot _ (mem_scopeNames.2 (Or.inr (Or.inl
          ⟨List.mem_map_of_mem ht, hni⟩)))), findVI_canon_init hw ht hni]
        simp [initEntryO, findVI_none_iff.2 hno]),
    nodeVIs_of_lookup vis _ _ outs (fun n hn hno => by
        rw [findVI_append_of_not_mem _ X _ (hnot _ (mem_scopeNames.2 (Or.inr (Or.inr hn)))),
          findVI_canon_node hw hn hno])]

theorem canon_quant_idem (q : List AnnotP) (K : List String) (hK : K.Nodup) :
    normQuantFor (normQuantFor q K) K = normQuantFor q K := by
  rw [normQuantFor_eq q K, normQuantFor_eq]
  apply filterMap_congr'
  intro n hn
  have hlk := findLast?_filterMap_key (·.tensorName) (annotEntry q) (fun n b h => annotEntry_name h) K hK n
  simp only [hn, if_true] at hlk
  unfold annotEntry findAnnot at hlk ⊢
  rw [hlk, pick_pick (fun a h => ?_) fun a => by simp [normAnnot, normEntries_idem]]
  simpa [normAnnot, normEntries_eq_nil] using h

end

theorem nodeOutNames_normNodes (nodes : List NodeP) :
    nodeOutNames (normNodes nodes) = nodeOutNames nodes := by
  induction nodes with
  | nil => rfl
  | cons n ns ih =>
    simp only [normNodes, nodeOutNames_cons, ih, normNode_outputs, trim_filter]

theorem mem_dedupStr {l : List String} {a : String} : a ∈ dedupStr l ↔ a ∈ l := by
  induction l with
  | nil => simp [dedupStr]
  | cons x xs ih =>
    simp only [dedupStr, List.mem_cons, List.mem_filter, ih]
    by_cases h : a = x <;> simp [h]

theorem nodup_dedupStr : ∀ l : List String, (dedupStr l).Nodup
  | [] => List.nodup_nil
  | x :: xs => by
    simp only [dedupStr, List.nodup_cons]
    exact ⟨fun h => by simpa using (List.mem_filter.1 h).2,
      List.Nodup.sublist List.filter_sublist (nodup_dedupStr xs)⟩

theorem quantKeys_nodup {inits : List TensorP} {inputs outputs vis : List ValueInfoP}
    {quant : List AnnotP} {outs : List String} (hw : GraphWF inits inputs outputs vis quant outs) :
    ((inputs.map (·.name)).filter (fun n => !(inits.map (·.name)).contains n) ++ inits.map (·.name)
      ++ outs.filter (fun n => !(outputs.map (·.name)).contains n)
      ++ (dedupStr (outputs.map (·.name))).filter
          (fun n => !(inputs.map (·.name)).contains n && !(inits.map (·.name)).contains n)).Nodup := by
  obtain ⟨hin, houts, hdis⟩ := nodupNames_parts hw
  rw [List.nodup_append]
  refine ⟨?_, List.Nodup.sublist List.filter_sublist (nodup_dedupStr _), ?_⟩
  · rw [List.nodup_append]
    refine ⟨?_, List.Nodup.sublist List.filter_sublist houts, ?_⟩
    · rw [List.nodup_append]
      refine ⟨List.Nodup.sublist List.filter_sublist hin, hw.nodupInit, ?_⟩
      intro a ha b hb e
      subst e
      simp only [List.mem_filter, Bool.not_eq_true', List.contains_eq_mem, decide_eq_false_iff_not] at ha
      exact ha.2 hb
    · intro a ha b hb e
      subst e
      have hb' := hdis a (List.mem_filter.1 hb).1
      rcases List.mem_append.1 ha with ha | ha
      · exact hb'.1 (List.mem_filter.1 ha).1
      · exact hb'.2 ha
  · intro a ha b hb e
    subst e
    simp only [List.mem_filter, Bool.and_eq_true, Bool.not_eq_true', List.contains_eq_mem,
      decide_eq_false_iff_not, mem_dedupStr] at hb
    rcases List.mem_append.1 ha with ha | ha
    · rcases List.mem_append.1 ha with ha | ha
      · exact hb.2.1 (List.mem_filter.1 ha).1
      · exact hb.2.2 ha
    · simp only [List.mem_filter, Bool.not_eq_true', List.contains_eq_mem,
        decide_eq_false_iff_not] at ha
      exact ha.2 hb.1

/-- normalising a normalised graph, even with extra value_info entries `X` whose names are not
values of the graph appended (the experimental function entries of IR < 10), gives it back -/
theorem normGraph_idem_ext (outer : Scopes) (name doc : String) (nodes : List NodeP)
    (inits : List TensorP) (inputs outputs vis : List ValueInfoP) (quant : List AnnotP)
    (metadata : List Entry)
    (hwf : wfGraph outer (.mk name doc nodes inits inputs outputs vis quant metadata) = true)
    (hnodes : normNodes (normNodes nodes) = normNodes nodes) (X : List ValueInfoP)
    (hX : ∀ e ∈ X, e.name ∉ scopeNames (inputs.map (·.name)) (inits.map (·.name)) (nodeOutNames nodes)) :
    normGraph (GraphP.addValueInfo
        (normGraph (.mk name doc nodes inits inputs outputs vis quant metadata)) X)
      = normGraph (.mk name doc nodes inits inputs outputs vis quant metadata) := by
  obtain ⟨hw, _⟩ := graphWF_of_wf outer name doc nodes inits inputs outputs vis quant metadata hwf
  have e1 : (inputs.map (normInputVI outputs)).map (·.name) = inputs.map (·.name) := by
    simp [List.map_map, Function.comp_def, normInputVI_name]
  have e2 : (outputs.map (normOutputVI inputs)).map (·.name) = outputs.map (·.name) := by
    simp [List.map_map, Function.comp_def, normOutputVI_name]
  have e3 : (inits.map normTensor).map (·.name) = inits.map (·.name) := by
    simp [List.map_map, Function.comp_def, normTensor]
  have e4 : (inits.map normTensor).map normTensor = inits.map normTensor := by
    simp [List.map_map, Function.comp_def, normTensor_idem]
  obtain ⟨e5, e6⟩ := passthrough_idem (inputs := inputs) (outputs := outputs) hw.nodupIn hw.consOut
  simp only [normGraph, GraphP.addValueInfo, e1, e2, e3, e4, e5, e6, hnodes, nodeOutNames_normNodes,
    normEntries_idem, canon_vis_idem hw X hX,
    canon_quant_idem quant _ (quantKeys_nodup hw)]

theorem normGraph_idem_core (outer : Scopes) (name doc : String) (nodes : List NodeP)
    (inits : List TensorP) (inputs outputs vis : List ValueInfoP) (quant : List AnnotP)
    (metadata : List Entry)
    (hwf : wfGraph outer (.mk name doc nodes inits inputs outputs vis quant metadata) = true)
    (hnodes : normNodes (normNodes nodes) = normNodes nodes) :
    normGraph (normGraph (.mk name doc nodes inits inputs outputs vis quant metadata))
      = normGraph (.mk name doc nodes inits inputs outputs vis quant metadata) := by
  have := normGraph_idem_ext outer name doc nodes inits inputs outputs vis quant metadata hwf hnodes []
    (by intro e he; cases he)
  rwa [addValueInfo_nil] at this

mutual
theorem normAttr_idem (scopes : Scopes) : ∀ a : AttrP, wfAttr scopes a = true →
    normAttr (normAttr a) = normAttr a
  | .tensor n d t, _ => by simp [normAttr, normTensor_idem]
  | .tensors n d ts, _ => by simp [normAttr, List.map_map, Function.comp_def, normTensor_idem]
  | .graph n d g, h => by
    simp only [wfAttr] at h
    simp [normAttr, normGraph_idem scopes g h]
  | .graphs n d gs, h => by
    simp only [wfAttr] at h
    simp [normAttr, normGraphs_idem scopes gs h]
  | .ref .., _ | .int .., _ | .float .., _ | .string .., _ | .ints .., _ | .floats .., _
  | .strings .., _ | .typeProto .., _ | .typeProtos .., _ | .undefined .., _ | .sparse .., _
  | .unknown .., _ => rfl

theorem normGraphs_idem (scopes : Scopes) : ∀ gs : List GraphP, wfGraphs scopes gs = true →
    normGraphs (normGraphs gs) = normGraphs gs
  | [], _ => rfl
  | g :: gs, h => by
    simp only [wfGraphs, Bool.and_eq_true] at h
    simp [normGraphs, normGraph_idem scopes g h.1, normGraphs_idem scopes gs h.2]

theorem normAttrs_idem (scopes : Scopes) : ∀ as : List AttrP, wfAttrs scopes as = true →
    normAttrs (normAttrs as) = normAttrs as
  | [], _ => rfl
  | a :: as, h => by
    simp only [wfAttrs, Bool.and_eq_true] at h
    simp [normAttrs, normAttr_idem scopes a h.1, normAttrs_idem scopes as h.2]

theorem normNode_idem (scopes : Scopes) : ∀ n : NodeP, wfNode scopes n = true →
    normNode (normNode n) = normNode n
  | .mk inputs outputs name opType domain overload doc attrs metadata devcfgs, h => by
    simp [normNode, trimTrailingEmpty_idem, normDomain_idem, normEntries_idem,
      normAttrs_idem scopes attrs (wfNode_attrs h)]

theorem normNodes_idem (scopes : Scopes) : ∀ ns : List NodeP, wfNodes scopes ns = true →
    normNodes (normNodes ns) = normNodes ns
  | [], _ => rfl
  | n :: ns, h => by
    simp only [wfNodes, Bool.and_eq_true] at h
    simp [normNodes, normNode_idem scopes n h.1, normNodes_idem scopes ns h.2]

theorem normGraph_idem (outer : Scopes) : ∀ g : GraphP, wfGraph outer g = true →
    normGraph (normGraph g) = normGraph g
  | .mk name doc nodes inits inputs outputs vis quant metadata, h => by
    apply normGraph_idem_core outer name doc nodes inits inputs outputs vis quant metadata h
    obtain ⟨_, hwn⟩ := graphWF_of_wf outer name doc nodes inits inputs outputs vis quant metadata h
    exact normNodes_idem _ nodes hwn
end

theorem normFnVIs_filterMap (vis : List ValueInfoP) (K : List String) :
    normFnVIs vis K = K.filterMap (nodeEntry vis) := by
  induction K with
  | nil => rfl
  | cons n ks ih =>
    simp only [normFnVIs, ih, List.filterMap_cons, nodeEntry, pick]
    cases findVI vis n with
    | none => rfl
    | some vi => by_cases hi : viHasInfo vi = true <;> simp [hi]

theorem normFnVIs_idem (vis : List ValueInfoP) (K : List String) (hK : K.Nodup) :
    normFnVIs (normFnVIs vis K) K = normFnVIs vis K := by
  rw [normFnVIs_filterMap vis K, normFnVIs_filterMap]
  apply filterMap_congr'
  intro n hn
  have hlk := findLast?_filterMap_key (fun v : ValueInfoP => v.name) (nodeEntry vis)
    (fun n b h => nodeEntry_name h) K hK n
  simp only [hn, if_true] at hlk
  unfold nodeEntry findVI at hlk ⊢
  rw [hlk, pick_pick (fun b h => (viHasInfo_norm b).trans h) normValueInfo_idem]

theorem normFunction_idem (ver : Int) (f : FunctionP) (h : wfFunction ver f = true) (c : Bool) :
    normFunction c (normFunction c f) = normFunction c f := by
  obtain ⟨h1, h5, _, h12⟩ := wfFunction_parts h
  simp only [normFunction, normEntries_idem, normNodes_idem _ f.nodes h12, normAttrs_idem [] f.attrProtos h5,
    nodeOutNames_normNodes]
  cases c with
  | false => rfl
  | true => simp [normFnVIs_idem f.valueInfo _ h1]

abbrev FKey := String × String × String

/-- the keys `(domain, name, value)` of the values of a function the encoding can address -/
def fnKeys (f : FunctionP) : List FKey :=
  if !f.overload.isEmpty then [] else
  (f.inputs ++ nodeOutNames f.nodes).map fun vn => (f.domain, f.name, vn)

def expEntryK (L : List ValueInfoP) (k : FKey) : Option ValueInfoP :=
  pick viHasInfo normValueInfo (findLast? (fun e => parseExperimentalName e.name = some k) L)

theorem experimentalVIs_eq (L : List ValueInfoP) (f : FunctionP) :
    experimentalVIs L f = (fnKeys f).filterMap (expEntryK L) := by
  unfold experimentalVIs fnKeys
  split
  · rfl
  · rw [List.filterMap_map]
    congr 1
    funext vn
    simp only [expEntry, expEntryK, Function.comp]
    cases findLast? (fun e => parseExperimentalName e.name = some (f.domain, f.name, vn)) L <;> rfl

theorem flatMap_experimentalVIs_eq (L : List ValueInfoP) (fs : List FunctionP) :
    fs.flatMap (experimentalVIs L) = (fs.flatMap fnKeys).filterMap (expEntryK L) := by
  induction fs with
  | nil => rfl
  | cons f fs ih => simp only [List.flatMap_cons, List.filterMap_append, ih, experimentalVIs_eq]

theorem fnKeys_normFunction (c : Bool) (f : FunctionP) : fnKeys (normFunction c f) = fnKeys f := by
  simp [fnKeys, normFunction, nodeOutNames_normNodes]

theorem expEntryK_key {L : List ValueInfoP} {k : FKey} {b : ValueInfoP} (h : expEntryK L k = some b) :
    parseExperimentalName b.name = some k ∧ viHasInfo b = true ∧ normValueInfo b = b := by
  obtain ⟨e, hf, hi, rfl⟩ := pick_some h
  exact ⟨by simpa [normValueInfo] using (findLast?_mem hf).2, (viHasInfo_norm e).trans hi, normValueInfo_idem e⟩

theorem expEntryK_append (A B : List ValueInfoP) (k : FKey) :
    expEntryK (A ++ B) k = match findLast? (fun e => parseExperimentalName e.name = some k) B with
      | some e => pick viHasInfo normValueInfo (some e)
      | none => expEntryK A k := by
  simp only [expEntryK, findLast?_append]
  cases findLast? (fun e => parseExperimentalName e.name = some k) B <;> rfl

theorem fnKeys_nodup (ver : Int) : ∀ fs : List FunctionP, fs.all (wfFunction ver) = true →
    (fs.map fun f => (f.domain, f.name, f.overload)).Nodup → (fs.flatMap fnKeys).Nodup
  | [], _, _ => by simp
  | f :: fs, hwf, hk => by
    simp only [List.all_cons, Bool.and_eq_true] at hwf
    simp only [List.map_cons, List.nodup_cons] at hk
    rw [List.flatMap_cons, List.nodup_append]
    refine ⟨?_, fnKeys_nodup ver fs hwf.2 hk.2, ?_⟩
    · unfold fnKeys
      split
      · simp
      · exact ListFacts.nodup_map_of_inj_on (wfFunction_parts hwf.1).1 (fun a _ b _ e => by simpa using e)
    · intro a ha b hb e
      subst e
      unfold fnKeys at ha
      split at ha
      · cases ha
      · rename_i hov
        obtain ⟨vn, _, rfl⟩ := List.mem_map.1 ha
        obtain ⟨g, hg, hgk⟩ := List.mem_flatMap.1 hb
        unfold fnKeys at hgk
        split at hgk
        · cases hgk
        · rename_i hov'
          obtain ⟨vn', _, hk'⟩ := List.mem_map.1 hgk
          simp only [Prod.mk.injEq] at hk'
          have ho1 : f.overload = "" := by simpa [String.isEmpty_iff] using hov
          have ho2 : g.overload = "" := by simpa [String.isEmpty_iff] using hov'
          exact hk.1 (List.mem_map.2 ⟨g, hg, by simp [hk'.1, hk'.2.1, ho1, ho2]⟩)

theorem mem_canonVI_name {inits : List TensorP} {inputs outputs vis : List ValueInfoP} {outs : List String}
    {e : ValueInfoP}
    (he : e ∈ canonVIs vis outputs inputs inits outs) :
    e.name ∈ scopeNames (inputs.map (·.name)) (inits.map (·.name)) outs := by
  unfold canonVIs at he
  rw [normInitVIs_eq, normNodeVIs_eq] at he
  rcases List.mem_append.1 he with he | he
  · obtain ⟨t, ht, hte⟩ := List.mem_filterMap.1 he
    rw [initEntryO_name hte]
    have := List.mem_filter.1 ht
    exact mem_scopeNames.2 (Or.inr (Or.inl ⟨List.mem_map_of_mem this.1, by simpa using this.2⟩))
  · obtain ⟨n, hn, hne⟩ := List.mem_filterMap.1 he
    rw [nodeEntry_name hne]
    exact mem_scopeNames.2 (Or.inr (Or.inr (List.mem_filter.1 hn).1))

theorem normModel_idem (m : ModelP) (h : wfModel m = true) : normModel (normModel m) = normModel m := by
  simp only [wfModel, Bool.and_eq_true] at h
  obtain ⟨⟨⟨⟨⟨⟨hg, hf⟩, _hmeta⟩, _hops⟩, hkeys⟩, _hdev⟩, hexp⟩ := h
  have hfun : (m.functions.map (normFunction (decide (m.irVersion ≥ 10)))).map
      (normFunction (decide (m.irVersion ≥ 10)))
      = m.functions.map (normFunction (decide (m.irVersion ≥ 10))) := by
    rw [List.map_map]
    apply List.map_congr_left
    intro f hfm
    exact normFunction_idem m.irVersion f (List.all_eq_true.1 hf f hfm) _
  by_cases hc : m.irVersion ≥ 10
  · simp only [hc] at hfun
    simp only [normModel, hc, if_true, normEntries_idem, normGraph_idem [] m.graph hg, hfun]
  · have hnp : ∀ n ∈ scopeNames (m.graph.inputs.map (·.name)) (m.graph.initializers.map (·.name))
        (nodeOutNames m.graph.nodes), parseExperimentalName n = none := by
      intro n hn
      rcases Bool.or_eq_true_iff.1 hexp with h1 | h1
      · simp at h1; exact absurd h1 hc
      · have := List.all_eq_true.1 h1 n hn
        simpa using this
    cases hmg : m.graph with
    | mk name doc nodes inits inputs outputs vis quant md =>
      rw [hmg] at hg hnp
      simp only [GraphP.inputs, GraphP.initializers, GraphP.nodes] at hnp
      obtain ⟨_, hwn⟩ := graphWF_of_wf [] name doc nodes inits inputs outputs vis quant md hg
      have hnodes := normNodes_idem _ nodes hwn
      -- the experimental entries, as a list keyed by (domain, name, value)
      have hK := fnKeys_nodup m.irVersion m.functions hf (nodupKeys_iff.1 hkeys)
      have hXname : ∀ e ∈ (m.functions.flatMap fnKeys).filterMap (expEntryK vis),
          e.name ∉ scopeNames (inputs.map (·.name)) (inits.map (·.name)) (nodeOutNames nodes) := by
        intro e he hn
        obtain ⟨k, _, hk⟩ := List.mem_filterMap.1 he
        have := (expEntryK_key hk).1
        rw [hnp _ hn] at this
        cases this
      have hgraph := normGraph_idem_ext [] name doc nodes inits inputs outputs vis quant md hg hnodes
        ((m.functions.flatMap fnKeys).filterMap (expEntryK vis)) hXname
      -- looking a key up in the value_info of the normalised model
      have hlook : ∀ k ∈ m.functions.flatMap fnKeys,
          expEntryK ((canonVIs vis outputs inputs inits (nodeOutNames nodes))
            ++ (m.functions.flatMap fnKeys).filterMap (expEntryK vis)) k = expEntryK vis k := by
        intro k hk
        have h1 := findLast?_filterMap_okey (fun b : ValueInfoP => parseExperimentalName b.name)
          (expEntryK vis) (fun k b hb => (expEntryK_key hb).1) _ hK k
        simp only [hk, if_true] at h1
        have h2 : expEntryK (canonVIs vis outputs inputs inits (nodeOutNames nodes)) k = none := by
          have : findLast? (fun e => parseExperimentalName e.name = some k)
              (canonVIs vis outputs inputs inits (nodeOutNames nodes)) = none := by
            apply findLast?_none_of_forall
            intro e he
            simp [hnp _ (mem_canonVI_name he)]
          simp only [expEntryK, this, pick]
        rw [expEntryK_append, h1, h2]
        cases hE : expEntryK vis k with
        | none => rfl
        | some e =>
          obtain ⟨_, h4, h5⟩ := expEntryK_key hE
          simp [pick, h4, h5]
      have hX2 : (m.functions.flatMap fnKeys).filterMap (expEntryK
            ((canonVIs vis outputs inputs inits (nodeOutNames nodes))
            ++ (m.functions.flatMap fnKeys).filterMap (expEntryK vis)))
          = (m.functions.flatMap fnKeys).filterMap (expEntryK vis) :=
        filterMap_congr' hlook
      have hd : decide (m.irVersion ≥ 10) = false := by simpa using hc
      rw [hd] at hfun
      have hfk : (m.functions.map (normFunction false)).flatMap fnKeys = m.functions.flatMap fnKeys := by
        rw [List.flatMap_map]
        apply flatMap_congr'
        intro f _
        exact fnKeys_normFunction _ f
      have hN1 : normModel m = { m with
          metadata := normEntries m.metadata,
          graph := GraphP.addValueInfo (normGraph (.mk name doc nodes inits inputs outputs vis quant md))
            ((m.functions.flatMap fnKeys).filterMap (expEntryK vis)),
          functions := m.functions.map (normFunction false) } := by
        simp only [normModel, hc, if_false, decide_false, hmg, flatMap_experimentalVIs_eq, GraphP.valueInfo]
      have hvi : (GraphP.addValueInfo (normGraph (.mk name doc nodes inits inputs outputs vis quant md))
            ((m.functions.flatMap fnKeys).filterMap (expEntryK vis))).valueInfo
          = (canonVIs vis outputs inputs inits (nodeOutNames nodes))
            ++ (m.functions.flatMap fnKeys).filterMap (expEntryK vis) := by
        simp [normGraph, GraphP.addValueInfo, GraphP.valueInfo]
      rw [hN1]
      simp only [normModel, hc, if_false, decide_false, flatMap_experimentalVIs_eq, hvi, hX2, hgraph, hfun,
        hfk, normEntries_idem]

end IrVerif.Serde
