/-
Helper lemmas for C07: the `try` block of a save as an effect sequence.  Core Lean only.
-/
import IrVerif.Lemmas.LayoutUnload
namespace IrVerif.Layout

theorem execSteps_untouched (st : Store) (steps : List Step) (v : Nat)
    (h : ∀ t, Step.assign v t ∉ steps) : execSteps st steps v = st v := by
  induction steps generalizing st with
  | nil => rfl
  | cons s rest ih =>
    cases s with
    | point ph =>
      simp only [execSteps]
      exact ih _ (fun t ht => h t (List.mem_cons_of_mem _ ht))
    | assign w t =>
      simp only [execSteps]
      rw [ih _ (fun t' ht => h t' (List.mem_cons_of_mem _ ht))]
      have : w ≠ v := by
        intro e; subst e; exact h t (List.mem_cons_self ..)
      simp [Store.set, Ne.symm this]

theorem execSteps_assigned (fresh : Nat) (st : Store) (steps : List Step) (v : Nat)
    (hu : ∀ w t, Step.assign w t ∈ steps → t = some (fresh + w))
    (hv : ∃ t, Step.assign v t ∈ steps) : execSteps st steps v = some (fresh + v) := by
  induction steps generalizing st with
  | nil => obtain ⟨t, h⟩ := hv; simp at h
  | cons s rest ih =>
    have hu' : ∀ w t, Step.assign w t ∈ rest → t = some (fresh + w) :=
      fun w t h => hu w t (List.mem_cons_of_mem _ h)
    by_cases hr : ∃ t', Step.assign v t' ∈ rest
    · cases s with
      | point ph => exact ih _ hu' hr
      | assign w t => exact ih _ hu' hr
    · obtain ⟨t, ht⟩ := hv
      rcases List.mem_cons.mp ht with h | h
      · subst h
        simp only [execSteps]
        rw [execSteps_untouched _ _ _ (fun t' ht' => hr ⟨t', ht'⟩)]
        have := hu v t (List.mem_cons_self ..)
        simp [Store.set, this]
      · exact absurd ⟨t, h⟩ hr

theorem stLoadSteps_memStB_eq (thr : Int) (v : Init) : stLoadSteps.memStB thr v = memSt thr v := rfl

theorem mem_stLoadSteps (thr : Int) (fresh b : Nat) (vs : List Init) (k : Nat) (t : Option Nat) :
    Step.assign k t ∈ stLoadSteps thr fresh b vs ↔
      ∃ j, ∃ h : j < vs.length, k = b + j ∧ memSt thr vs[j] = true ∧ t = some (fresh + k) := by
  induction vs generalizing b with
  | nil => simp [stLoadSteps]
  | cons v rest ih =>
    simp only [stLoadSteps, List.mem_append, ih, stLoadSteps_memStB_eq]
    constructor
    · rintro (h | ⟨j, hj, rfl, hm, ht⟩)
      · by_cases hm : memSt thr v = true
        · simp only [hm, if_true, List.mem_cons, List.not_mem_nil, or_false, reduceCtorEq,
            false_or, Step.assign.injEq] at h
          exact ⟨0, by simp, by simpa using h.1, by simpa using hm, by rw [h.2, h.1]⟩
        · simp [hm] at h
      · exact ⟨j + 1, by simpa using hj, by omega, by simpa using hm, by rw [ht]⟩
    · rintro ⟨j, hj, rfl, hm, ht⟩
      cases j with
      | zero =>
        left
        have : memSt thr v = true := by simpa using hm
        simp [this, ht]
      | succ j =>
        right
        exact ⟨j, by simpa using hj, by omega, by simpa using hm, by rw [ht]⟩

/-- the assignments of a program are `k := fresh + k` for exactly the positions of the two lists -/
def AssignsSplit (prog : List Step) (ext mem : List Nat) (fresh : Nat) : Prop :=
  ∀ k t, Step.assign k t ∈ prog ↔ (k ∈ ext ∨ k ∈ mem) ∧ t = some (fresh + k)

theorem rawPlan_assigns (vs : List Init) (thr : Int) (fresh : Nat) :
    AssignsSplit (rawPlan vs thr fresh).prog (splitBy (becomesExternalRaw thr) (memRaw thr) 0 vs).1
      (splitBy (becomesExternalRaw thr) (memRaw thr) 0 vs).2 fresh := by
  intro k t
  rw [← splitRaw_eq]
  simp only [rawPlan, List.mem_append, List.mem_map, List.mem_cons, List.not_mem_nil, or_false,
    reduceCtorEq, false_or, and_false, exists_false, Step.assign.injEq]
  constructor
  · rintro (⟨a, ha, rfl, rfl⟩ | ⟨a, ha, rfl, rfl⟩)
    · exact ⟨Or.inl ha, rfl⟩
    · exact ⟨Or.inr ha, rfl⟩
  · rintro ⟨h | h, rfl⟩
    · exact Or.inl ⟨k, h, rfl, rfl⟩
    · exact Or.inr ⟨k, h, rfl, rfl⟩

theorem stPlan_assigns (vs : List Init) (thr : Int) (fresh : Nat) :
    AssignsSplit (stPlan vs thr fresh).prog (splitBy (becomesExternalSt thr) (memSt thr) 0 vs).1
      (splitBy (becomesExternalSt thr) (memSt thr) 0 vs).2 fresh := by
  intro k t
  simp only [stPlan, splitSt_eq, List.mem_append, List.mem_map, List.mem_cons, List.not_mem_nil, or_false,
    mem_stLoadSteps, reduceCtorEq, and_false, exists_false, Step.assign.injEq]
  constructor
  · rintro ((⟨j, hj, rfl, hm, ht⟩ | ⟨a, ha, rfl, rfl⟩))
    · exact ⟨Or.inr ((Nat.zero_add j).symm ▸ (mem_splitBy_snd _ _ hj).mpr hm), ht⟩
    · exact ⟨Or.inl ha, rfl⟩
  · rintro ⟨h | h, rfl⟩
    · exact Or.inr ⟨k, h, rfl, rfl⟩
    · have hk := splitBy_lt (Or.inr h)
      exact Or.inl ⟨k, hk, (Nat.zero_add k).symm, (mem_splitBy_snd _ _ hk).mp h, rfl⟩

theorem execSteps_assignsSplit (vs : List Init) (pe pm : Init → Bool) (fresh : Nat) (st : Store)
    (prog : List Step)
    (hprog : AssignsSplit prog (splitBy pe pm 0 vs).1 (splitBy pe pm 0 vs).2 fresh)
    (k : Nat) (hk : k < vs.length) :
    execSteps st prog k = if pe vs[k] || pm vs[k] then some (fresh + k) else st k := by
  have hu : ∀ w t, Step.assign w t ∈ prog → t = some (fresh + w) := fun w t h => ((hprog w t).mp h).2
  have hin : (∃ t, Step.assign k t ∈ prog) ↔ (pe vs[k] || pm vs[k]) = true := by
    rw [Bool.or_eq_true, ← mem_splitBy_fst pe pm hk, ← mem_splitBy_snd pe pm hk]
    exact ⟨fun ⟨t, ht⟩ => ((hprog k t).mp ht).1, fun h => ⟨_, (hprog k _).mpr ⟨h, rfl⟩⟩⟩
  by_cases h : (pe vs[k] || pm vs[k]) = true
  · rw [if_pos h, execSteps_assigned fresh st _ k hu (hin.mpr h)]
  · rw [if_neg h, execSteps_untouched]; exact fun t ht => h (hin.mp ⟨t, ht⟩)

theorem execSteps_unloadBy (vs : List Init) (pe pm : Init → Bool)
    (hex : ∀ v, pe v = true → pm v = false) (places : List Placement)
    (hpl : places.length = (vs.filter pe).length) (fresh : Nat) (st : Store) (prog : List Step)
    (hprog : AssignsSplit prog (splitBy pe pm 0 vs).1 (splitBy pe pm 0 vs).2 fresh)
    (k : Nat) (hk : k < vs.length) :
    execSteps st prog k =
      if (unloadBy pe pm vs (places.map NewConst.external))[k]? = some .same
      then st k else some (fresh + k) := by
  rw [execSteps_assignsSplit vs pe pm fresh st prog hprog k hk]
  simp only [unloadBy_same_iff vs pe pm hex places hpl k hk]
  cases pe vs[k] || pm vs[k] <;> rfl

end IrVerif.Layout
