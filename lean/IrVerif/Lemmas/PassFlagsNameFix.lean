/-
C14: the honesty of the `modified` flag of NameFixPass on C15's model of the pass (namespace `IrVerif.Names`).
-/
import IrVerif.Model.Names
/-! ## NameFixPass: `modified = False` and no exception only if no name and no dictionary changed -/
namespace IrVerif.Names

/-- one step of the pass kept the flag down: then it was down before and the world is the same -/
def Quiet (st st' : FixSt) : Prop :=
  st'.raised = false → st'.modified = false →
    st.raised = false ∧ st.modified = false ∧ st'.toWorld = st.toWorld

theorem Quiet.refl (st : FixSt) : Quiet st st := fun h1 h2 => ⟨h1, h2, rfl⟩

theorem Quiet.trans {a b c : FixSt} (h1 : Quiet a b) (h2 : Quiet b c) : Quiet a c := by
  intro hr hm
  obtain ⟨r1, m1, w1⟩ := h2 hr hm
  obtain ⟨r2, m2, w2⟩ := h1 r1 m1
  exact ⟨r2, m2, w1.trans w2⟩

theorem renameTo_quiet (st : FixSt) (v : Nat) (p : String) : Quiet st (renameTo st v p) := by
  intro hr hm
  unfold renameTo at hr hm
  dsimp only at hr hm
  split at hr
  · simp at hr
  · next hc => rw [if_neg hc] at hm; simp at hm

theorem processValue_quiet (st : FixSt) (v : Nat) : Quiet st (processValue st v) := by
  unfold processValue
  split
  · exact Quiet.refl st
  · split
    · exact Quiet.refl st
    · split
      · exact renameTo_quiet st v "v"
      · dsimp only
        split
        · intro hr hm; exact ⟨hr, hm, rfl⟩
        · exact renameTo_quiet st v _

theorem processValues_quiet : ∀ (vs : List Nat) (st : FixSt), Quiet st (processValues st vs)
  | [], st => Quiet.refl st
  | v :: vs, st => by
    simp only [processValues, List.foldl_cons]
    exact (processValue_quiet st v).trans (processValues_quiet vs _)

theorem fixNodeName_quiet (st : FixSt) (n : Nat) : Quiet st (fixNodeName st n) := by
  unfold fixNodeName
  split
  · exact Quiet.refl st
  · split
    · intro _ hm; simp at hm
    · dsimp only
      split
      · intro hr hm; exact ⟨hr, hm, rfl⟩
      · intro _ hm; simp at hm

theorem enterGraph_quiet (st : FixSt) (g : Nat) (hi : Bool) (ins outs bouts : List Nat) :
    Quiet st (enterGraph st g hi ins outs bouts) := by
  unfold enterGraph
  split
  · exact Quiet.refl st
  · have h0 : Quiet st { st with vstack := topOf st.vstack :: st.vstack, nstack := [] :: st.nstack } :=
      fun hr hm => ⟨hr, hm, rfl⟩
    refine h0.trans ((processValues_quiet ins _).trans ((processValues_quiet outs _).trans ?_))
    cases hi
    · exact processValues_quiet bouts _
    · exact (processValues_quiet _ _).trans (processValues_quiet bouts _)

theorem exitGraph_quiet (st : FixSt) : Quiet st (exitGraph st) := by
  unfold exitGraph
  split
  · exact Quiet.refl st
  · intro hr hm; exact ⟨hr, hm, rfl⟩

theorem visitNode_quiet (st : FixSt) (n : Nat) (ins : List (Option Nat)) (outs : List Nat) :
    Quiet st (visitNode st n ins outs) :=
  (fixNodeName_quiet st n).trans (processValues_quiet _ _)

theorem runTr_quiet : ∀ (t : Tr) (st : FixSt), Quiet st (runTr t st)
  | .nil, st => Quiet.refl st
  | .node n ins outs subs rest, st => by
    simp only [runTr]
    exact (visitNode_quiet st n ins outs).trans ((runTr_quiet subs _).trans (runTr_quiet rest _))
  | .graph g isG ins outs body rest, st => by
    simp only [runTr]
    exact (enterGraph_quiet st g isG ins outs _).trans ((enterGraph_quiet _ g isG ins outs _).trans
      ((runTr_quiet body _).trans ((exitGraph_quiet _).trans ((exitGraph_quiet _).trans (runTr_quiet rest _)))))

theorem fixTop_quiet (w : World) (t : Top) (hr : (fixTop w t).raised = false)
    (hm : (fixTop w t).modified = false) : (fixTop w t).toWorld = w := by
  have h : Quiet { toWorld := w, resV := (collectTr w t.tr ([], [])).1, resN := (collectTr w t.tr ([], [])).2 }
      (fixTop w t) := by
    simp only [fixTop]
    exact (enterGraph_quiet _ _ _ _ _ _).trans ((runTr_quiet _ _).trans (exitGraph_quiet _))
  exact (h hr hm).2.2

theorem fixModel_quiet : ∀ (tops : List Top) (w : World), (fixModel w tops).2.1 = false →
    (fixModel w tops).2.2 = false → (fixModel w tops).1 = w
  | [], _, _, _ => rfl
  | t :: ts, w, hm, hr => by
    simp only [fixModel] at hm hr ⊢
    split at hm
    · next h => simp [h] at hr
    · next h =>
      simp only [h, Bool.false_eq_true, if_false] at hr ⊢
      simp only [Bool.or_eq_false_iff] at hm
      have h1 := fixTop_quiet w t (by simpa using h) hm.1
      have h2 := fixModel_quiet ts (fixTop w t).toWorld hm.2 hr
      rw [h2, h1]

end IrVerif.Names
