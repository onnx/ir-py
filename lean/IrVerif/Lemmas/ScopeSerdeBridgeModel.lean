import IrVerif.Lemmas.ScopeSerdeBridgeGok
import IrVerif.Model.ScopeSerdeBridgeModel
import IrVerif.Lemmas.SerdeModel
import IrVerif.Lemmas.ScopeModel
/-!
The C02/C03 bridge for models with functions (IR version >= 10): a function is deserialized at arbitrary counters
(`function_br`); the fragment on which the two models are one serde is `sharedSM`.
-/
namespace IrVerif.Bridge
open IrVerif.Proto IrVerif.Serde

theorem phF_inputs (vis : List ValueInfoP) : ∀ (xs : List String) (st : Scope.Store) (cs : List Cell),
    CoreEq st cs →
    ∃ st', Scope.deserFInputs st (Scope.vinfoTable (vis.map absVI)) xs = (st', List.range' cs.length xs.length) ∧
      CoreEq st' (cs ++ (xs.map (newValueT vis [])).map absCell) ∧ st'.nn = st.nn ∧ st'.ng = st.ng
  | [], st, cs, h => ⟨st, rfl, by simpa using h, rfl, rfl⟩
  | x :: xs, st, cs, h => by
    have h1 : CoreEq (Scope.newNamed st (Scope.vinfoTable (vis.map absVI)) x)
        (cs ++ [absCell (newValueT vis [] x)]) := by
      rw [newNamed_eq]
      simpa [absCell_newValueT] using
        coreEq_alloc h { name := some x, info := ((findVI vis x).map absInfo).getD {} } (by intro t ht; cases ht)
    obtain ⟨st', a, b, c, d⟩ := phF_inputs vis xs _ _ h1
    refine ⟨st', ?_, by simpa using b, ?_, ?_⟩
    · simp only [Scope.deserFInputs, a]
      simp [List.range'_succ, h.nv]
    · rw [c, newNamed_eq]; rfl
    · rw [d, newNamed_eq]; rfl

theorem phF_outputs (tbl : Scope.Table) (names : List String) (b : Nat) (ht : TblRelB tbl names b) :
    ∀ outs : List String, (∀ n ∈ outs, n ∈ names) →
    ∃ gouts, functionOutputs names outs = .ok gouts ∧
      (∀ k, Scope.deserFOutputs tbl outs = .ok (absGOutsB b k gouts)) ∧ dangCells gouts = [] ∧
      gouts.all isTbl = true ∧ gouts.all (goutOK names.length) = true
  | [], _ => ⟨[], rfl, fun _ => rfl, rfl, rfl, rfl⟩
  | n :: ns, h => by
    obtain ⟨gouts, h1, h2, h3, h4, h5⟩ :=
      phF_outputs tbl names b ht ns (fun m hm => h m (List.mem_cons_of_mem _ hm))
    obtain ⟨i, hi⟩ := lookupLast_exists (h n (by simp))
    refine ⟨.tbl i :: gouts, by simp [functionOutputs, hi, h1, bind, Except.bind], ?_,
      by simpa [dangCells] using h3, by simp [isTbl, h4], by simp [goutOK, h5, lookupLast_lt hi]⟩
    intro k
    simp [Scope.deserFOutputs, tblRelB_lookup ht, hi, h2 k, absGOutsB]

/-- `phF_outputs` at a dummy Scope table: what it says of C02 alone -/
theorem functionOutputs_tbl (names outs : List String) (h : ∀ n ∈ outs, n ∈ names) :
    ∃ gouts, functionOutputs names outs = .ok gouts ∧ dangCells gouts = [] ∧ gouts.all isTbl = true ∧
      gouts.all (goutOK names.length) = true := by
  obtain ⟨gouts, a, _, c, d, e⟩ := phF_outputs _ names 0 rfl outs h
  exact ⟨gouts, a, c, d, e⟩

theorem wfFunction_vis {ver : Int} {f : FunctionP} (h : wfFunction ver f = true) : f.valueInfo.all wfVI = true := by
  simp only [wfFunction, Bool.and_eq_true] at h
  exact h.1.1.1.1.1.1.2

theorem wfFunction_nodup {ver : Int} {f : FunctionP} (h : wfFunction ver f = true) :
    (f.inputs ++ nodeOutNames f.nodes).Nodup := by
  simp only [wfFunction, Bool.and_eq_true] at h
  exact nodupStr_iff.1 h.1.1.1.1.1.1.1.1.1.1.1.1

theorem desFunction_wf (ver : Int) (f : FunctionP) (h : wfFunction ver f = true) :
    ∃ TP as,
      TP = f.inputs.map (newValueT f.valueInfo []) ++ (nodeOutNames f.nodes).map (newValueT f.valueInfo []) ∧
      tableNames TP = f.inputs ++ nodeOutNames f.nodes ∧
      declareAll f.valueInfo [] f.nodes (f.inputs.map (newValueT f.valueInfo [])) = .ok TP ∧
      wfNodes [tableNames TP] f.nodes = true ∧ (∀ n ∈ f.outputs, n ∈ tableNames TP) ∧
      ∀ xs gouts, desNodes [] f.valueInfo [] f.nodes TP = .ok (xs, TP) →
        functionOutputs (tableNames TP) f.outputs = .ok gouts →
        desFunction f = .ok ⟨f.domain, f.name, f.overload,
          .mk TP (List.range f.inputs.length) [] xs gouts
            (if f.overload.isEmpty then "" else f.name ++ "_" ++ f.domain ++ "__" ++ f.overload) f.doc
            (opsetDict f.opsetImport) (dictOfEntries f.metadata),
          attrDict (as ++ f.attrNames.map fun n => IRAttr.undefined n "")⟩ := by
  simp only [wfFunction, Bool.and_eq_true] at h
  obtain ⟨⟨⟨⟨⟨⟨⟨⟨⟨⟨⟨⟨h1, _⟩, h3⟩, _⟩, h5⟩, _⟩, h7⟩, _⟩, _⟩, _⟩, _⟩, h12⟩, _⟩ := h
  obtain ⟨hI, hC⟩ := desFunction_table h7 (nodupStr_iff.1 h1)
  have hN := tableNames_fnTbl f
  unfold fnTbl at hC hN
  obtain ⟨as, a1, _, _⟩ := attrs_rt [] none f.attrProtos h5 (Or.inl rfl)
  refine ⟨_, as, rfl, hN, hC, by rw [hN]; exact h12, ?_, ?_⟩
  · intro n hn
    rw [hN]
    simpa using List.all_eq_true.1 h3 n hn
  · intro xs gouts n1 o1
    simp only [desFunction, hI, hC, n1, o1, a1, bind, Except.bind]

theorem function_br (ver : Int) (f : FunctionP) (h : wfFunction ver f = true) (st : Scope.Store) (P : List Cell)
    (hc : CoreEq st P) :
    ∃ x st', desFunction f = .ok x ∧
      Scope.deserFunction st (absF f) = .ok (st', treeG [] P.length st.nn st.ng x.graph) ∧
      CoreEq st' (P ++ cellsG x.graph) ∧ st'.nn = st.nn + nnG x.graph ∧ st'.ng = st.ng + ngG x.graph ∧
      fnKey x = (f.domain, f.name, f.overload) ∧ fidOf x = fidP f := by
  obtain ⟨TP, as, _, hN, hC, hwn, hout, hdes⟩ := desFunction_wf ver f h
  have h7 := wfFunction_vis h
  have hNI : tableNames (f.inputs.map (newValueT f.valueInfo [])) = f.inputs := by
    simp [tableNames, List.map_map, Function.comp_def]
  obtain ⟨st1, hI', p1b, p1c, p1d⟩ := phF_inputs f.valueInfo f.inputs st P hc
  have ht1 : TblRelB (Scope.finputTable f.inputs (List.range' P.length f.inputs.length))
      (tableNames (f.inputs.map (newValueT f.valueInfo []))) P.length := by
    rw [hNI]; rfl
  obtain ⟨st2, tbl2, p3a, p3b, p3c, p3d, p3e⟩ :=
    ph3B_declareAll f.valueInfo [] h7 P f.nodes _ st1 _ _ p1b ht1 hC
  obtain ⟨xs, st3, n1, p4a, p4b, p4c, p4d⟩ := nodes_br [] [] [] .nil f.valueInfo [] f.nodes TP st2
    (P ++ TP.map absCell) tbl2 P.length hwn p3b p3c
  obtain ⟨gouts, o1, o2, o3, _, _⟩ := phF_outputs tbl2 (tableNames TP) P.length p3c f.outputs hout
  have hnn3 : st2.nn = st.nn := by rw [p3d, p1c]
  have hng3 : st2.ng = st.ng := by rw [p3e, p1d]
  rw [List.length_append, List.length_map, hnn3, hng3] at p4a
  obtain ⟨st4, m1, m2, m3, m4⟩ := mkGraph_treeG [] P st.nn st.ng TP f.inputs.length [] xs gouts
    (if f.overload.isEmpty then "" else f.name ++ "_" ++ f.domain ++ "__" ++ f.overload) f.doc
    (opsetDict f.opsetImport) (dictOfEntries f.metadata) st3 (by simpa [o3] using p4b)
    (by rw [p4c, hnn3]) (by rw [p4d, hng3]) (by simp) (by simp)
  refine ⟨_, st4, hdes xs gouts n1 o1, ?_, m2, m3, m4, rfl, rfl⟩
  simp only [Scope.deserFunction, absF, hI', p3a, p4a, o2 (P.length + TP.length + (cellsNodes xs).length)]
  exact congrArg Except.ok m1

theorem funcs_br (ver : Int) : ∀ (fs : List FunctionP) (st : Scope.Store) (P : List Cell)
      (d : List (Scope.FId × Scope.GraphT)),
    fs.all (wfFunction ver) = true → CoreEq st P → (d.map (·.1) ++ fs.map fidP).Nodup →
    ∃ xs st', desFunctions fs = .ok xs ∧
      Scope.deserFuncs st d (fs.map absF) = .ok (st', d ++ treeFs P.length st.nn st.ng xs) ∧
      CoreEq st' (P ++ cellsFs xs) ∧ xs.map fnKey = fs.map (fun f => (f.domain, f.name, f.overload))
  | [], st, P, d, _, hc, _ =>
    ⟨[], st, rfl, by simp [Scope.deserFuncs, treeFs], by simpa [cellsFs] using hc, rfl⟩
  | f :: fs, st, P, d, h, hc, hnd => by
    simp only [List.all_cons, Bool.and_eq_true] at h
    obtain ⟨x, st1, g1, g2, g3, g4, g5, g6, g7⟩ := function_br ver f h.1 st P hc
    have hk : fidP f ∉ d.map (·.1) := by
      intro hm
      rw [List.map_cons, List.nodup_append] at hnd
      exact hnd.2.2 _ hm _ (by simp) rfl
    obtain ⟨xs, st2, r1, r2, r3, r4⟩ := funcs_br ver fs st1 _
      (d ++ [(fidP f, treeG [] P.length st.nn st.ng x.graph)]) h.2 g3
      (by simpa [List.append_assoc] using hnd)
    refine ⟨x :: xs, st2, by simp [desFunctions, g1, r1, bind, Except.bind], ?_,
      by simpa [cellsFs, List.append_assoc] using r3, by simp [g6, r4]⟩
    simp only [List.map_cons, Scope.deserFuncs, g2]
    have : (absF f).id = fidP f := rfl
    rw [this, Scope.fdictInsert_fresh _ _ _ hk, r2]
    simp [treeFs, g4, g5, g7, List.append_assoc]

theorem setOpsets_inv (g : IRGraph) (ops : List OpsetP) :
    cellsG (g.setOpsets ops) = cellsG g ∧ nnG (g.setOpsets ops) = nnG g ∧ ngG (g.setOpsets ops) = ngG g ∧
      (∀ B k nn ng, treeG B k nn ng (g.setOpsets ops) = treeG B k nn ng g) ∧
      ∀ lens, okG lens (g.setOpsets ops) = okG lens g := by
  cases g
  simp [IRGraph.setOpsets, cellsG, nnG, ngG, treeG, okG]

theorem wfGraph_vis {outer : Scopes} {g : GraphP} (h : wfGraph outer g = true) : g.valueInfo.all wfVI = true := by
  cases g with
  | mk name doc nodes inits inputs outputs vis quant md =>
    exact (graphWF_of_wf outer name doc nodes inits inputs outputs vis quant md h).1.wfVis

theorem wfFunction_noVis {ver : Int} {f : FunctionP} (h : wfFunction ver f = true) (hv : ver < 10) :
    f.valueInfo = [] := by
  simp only [wfFunction, Bool.and_eq_true, Bool.or_eq_true, decide_eq_true_eq, List.isEmpty_iff] at h
  rcases h.2 with h10 | h10
  · omega
  · exact h10

/-- the `if` on the IR version lets both formats use this one lemma -/
theorem desModel_wf (m : ModelP) (hwf : wfModel m = true) :
    wfGraph [] m.graph = true ∧ m.functions.all (wfFunction m.irVersion) = true ∧
    (m.functions.map fun f => (f.domain, f.name, f.overload)).Nodup ∧
    ∀ g fs fs', desGraph [] m.graph = .ok g → desFunctions m.functions = .ok fs →
      fs.map fnKey = m.functions.map (fun f => (f.domain, f.name, f.overload)) →
      (if m.irVersion < 10 then applyExperimentalAll m.graph.valueInfo fs else .ok fs) = .ok fs' →
      desModel m = .ok
        { graph := g.setOpsets (opsetDict m.opsetImport), irVersion := m.irVersion,
          producerName := m.producerName, producerVersion := m.producerVersion, domain := m.domain,
          modelVersion := m.modelVersion, doc := m.doc, functions := fs', mprops := dictOfEntries m.metadata,
          configs := m.configuration.map desModelCfg } := by
  simp only [wfModel, Bool.and_eq_true] at hwf
  obtain ⟨⟨⟨⟨⟨⟨hg, hf⟩, _⟩, _⟩, hkeys⟩, _⟩, _⟩ := hwf
  have hknd := nodupKeys_iff.1 hkeys
  refine ⟨hg, hf, hknd, fun g fs fs' g1 f1 f4 hp => ?_⟩
  have hdict : functionDict [] fs = fs := by
    rw [functionDict_append fs [] (by simpa [f4] using hknd)]; simp
  simp only [desModel, g1, f1, hdict, bind, Except.bind]
  split
  · rename_i hlt
    rw [if_pos hlt] at hp
    rw [hp]
  · rename_i hlt
    rw [if_neg hlt] at hp
    cases hp
    rfl

theorem fid_nodup {fs : List FunctionP} (h : (fs.map fun f => (f.domain, f.name, f.overload)).Nodup) :
    (fs.map fidP).Nodup := by
  apply nodup_of_map (fun i : Scope.FId => (i.domain, i.name, i.overload))
  rw [List.map_map]
  exact h

end IrVerif.Bridge

namespace IrVerif.Scope
open IrVerif.Proto

/-- a function deserialized at arbitrary counters (store `st` showing the cells `P`): both models deserialize
    it, the Scope model's graph is `treeG` of C02's function graph entered at the current counters, the new
    cells are `cellsG` of it -/
theorem C03_bridge_deserialize_function (ver : Int) (f : Proto.FunctionP) (h : Serde.wfFunction ver f = true)
    (st : Store) (P : List Bridge.Cell) (hc : Bridge.CoreEq st P) :
    ∃ x st', Serde.desFunction f = .ok x ∧
      deserFunction st (Bridge.absF f) = .ok (st', Bridge.treeG [] P.length st.nn st.ng x.graph) ∧
      Bridge.CoreEq st' (P ++ Bridge.cellsG x.graph) := by
  obtain ⟨x, st', a, b, c, _⟩ := Bridge.function_br ver f h st P hc
  exact ⟨x, st', a, b, c⟩

/-- **C02/C03 bridge, deserialization of models with functions** (IR version >= 10): both deserializers succeed and
    the Scope world, without its derived links, is the abstraction of C02's IR model. -/
theorem C03_bridge_deserialize_model (m : Proto.ModelP) (h : Bridge.sharedM m = true) :
    ∃ x w, Serde.desModel m = .ok x ∧ deserializeM (Bridge.absM m) = .ok w ∧
      Bridge.coreOfM w = Bridge.absIRM x := by
  simp only [Bridge.sharedM, Bool.and_eq_true, decide_eq_true_eq] at h
  obtain ⟨hwf, hver⟩ := h
  obtain ⟨hg, hf, hknd, hdes⟩ := Bridge.desModel_wf m hwf
  obtain ⟨g, st1, g1, g2, g3, g4, g5⟩ := Bridge.graph_br [] [] [] .nil m.graph hg {} [] Bridge.coreEq_empty
  obtain ⟨fs, st2, f1, f2, f3, f4⟩ := Bridge.funcs_br m.irVersion m.functions st1 _ [] hf g3
    (by simpa using Bridge.fid_nodup hknd)
  have hlt : ¬ m.irVersion < 10 := by omega
  obtain ⟨i1, i2, i3, i4, _⟩ := Bridge.setOpsets_inv g (Serde.opsetDict m.opsetImport)
  refine ⟨_, ⟨st2, Bridge.treeG [] 0 0 0 g, Bridge.treeFs (Bridge.cellsG g).length (Bridge.nnG g) (Bridge.ngG g) fs⟩,
    hdes g fs fs g1 f1 f4 (if_neg hlt), ?_, ?_⟩
  · simp only [deserializeM, Bridge.absM, g2]
    simp only [List.nil_append] at f2
    rw [f2]
    simp [g4, g5]
  · simp only [Bridge.coreOfM, Bridge.absIRM, i1, i2, i3, i4]
    rw [Bridge.coreEq_cells f3]
    simp

end IrVerif.Scope

namespace IrVerif.Bridge
open IrVerif.Proto IrVerif.Serde

theorem nodeOutVIs_nil (tbl : List IRValue) : ∀ os : List (Option Nat),
    nodeOutVIs tbl [] os = valuesVI tbl true (optNats os)
  | [] => rfl
  | none :: os => by simp [nodeOutVIs, optNats, nodeOutVIs_nil tbl os]
  | some j :: os => by simp [nodeOutVIs, optNats, valuesVI, nodeOutVIs_nil tbl os]

/-- `serialize_function_into`: inputs -/
theorem serFInputs_sees (st : Scope.Store) (tbl : List IRValue) (k : Nat)
    (hs : ∀ i, i < tbl.length → cellAt st (k + i) = absCell (tbl.getD i (IRValue.blank "")))
    (hok : ∀ v ∈ tbl, (valOK v && tensOK v) = true) :
    ∀ is : List Nat, (∀ i ∈ is, i < tbl.length) →
    Scope.serFInputs st.vals (is.map (k + ·))
      = .ok (is.map (fun i => refName [tableNames tbl] ⟨0, i⟩), (valuesVI tbl true is).map absVI)
  | [], _ => rfl
  | i :: is, h => by
    have ih := serFInputs_sees st tbl k hs hok is (fun j hj => h j (List.mem_cons_of_mem _ hj))
    have hi := h i (by simp)
    have hvo := valOK_tensOK_getD hok hi
    have hcell := hs i hi
    simp only [List.map_cons, Scope.serFInputs, ih, valuesVI, refName_tblF]
    generalize tbl.getD i (IRValue.blank "") = v at hvo hcell ⊢
    obtain ⟨f1, f2, _⟩ := cell_fields hcell
    rw [shouldCreate_of_valOK hvo.1 (st.vals (k + i)) f1 f2]
    simp only [f1, f2]
    by_cases hsv : shouldCreateVI v = true
    · simp [hsv, absVI_serValue hvo.1, absSV]
    · simp [hsv]

/-- `serialize_function_into`: outputs -/
theorem fouts_names (st : Scope.Store) (tbl : List IRValue) (k : Nat)
    (hs : ∀ i, i < tbl.length → cellAt st (k + i) = absCell (tbl.getD i (IRValue.blank ""))) :
    ∀ (os : List IRGOut) (K : Nat), os.all isTbl = true → os.all (goutOK tbl.length) = true →
    (absGOutsB k K os).map (fun v => (st.vals v).name)
      = ((outIdxs os).map (fun i => refName [tableNames tbl] ⟨0, i⟩)).map some
  | [], _, _, _ => rfl
  | .tbl i :: os, K, h1, h2 => by
    simp only [List.all_cons, Bool.and_eq_true, goutOK, decide_eq_true_eq] at h1 h2
    obtain ⟨f1, _, _⟩ := cell_fields (hs i h2.1)
    simp [absGOutsB, outIdxs, fouts_names st tbl k hs os K h1.2 h2.2, f1, refName_tblF]
  | .dangling _ :: os, _, h1, _ => by simp [isTbl] at h1

theorem func_ser (st : Scope.Store) (ver : Option Int) (f : IRFunction) (k nn ng : Nat) (q : FunctionP)
    (hok : okF f = true) (hsh : ShowsAt st k (cellsG f.graph))
    (hq : Serde.serFunction ver true f = .ok q) :
    ∃ ws, Scope.serFunction st.vals st.tdata (fidOf f, treeG [] k nn ng f.graph) = .ok (absF q, ws) := by
  obtain ⟨domain, name, overload, graph, attrs⟩ := f
  cases graph with
  | mk tbl inputs inits nodes outputs gname doc opsets mprops =>
  simp only [okF, okG, Bool.and_eq_true, IRGraph.outputs] at hok
  obtain ⟨⟨⟨⟨⟨hv, hin⟩, _⟩, hnodesOK⟩, hout⟩, htbl⟩ := hok
  have hv' : ∀ v ∈ tbl, (valOK v && tensOK v) = true := List.all_eq_true.1 hv
  have hin' : ∀ i ∈ inputs, i < tbl.length := fun i hi => of_decide_eq_true (List.all_eq_true.1 hin i hi)
  simp only [cellsG] at hsh
  have hsT := showsAt_left (showsAt_left hsh)
  have hsN := showsAt_right (showsAt_left hsh)
  simp only [List.length_map] at hsN
  have hs := showsAt_tbl hsT
  simp only [Serde.serFunction, bind, Except.bind, IRGraph.table, IRGraph.nodes, IRGraph.inputs,
    IRGraph.outputs] at hq
  split at hq
  · cases hq
  · rename_i aps _
    split at hq
    · cases hq
    · rename_i ns hns
      cases hq
      have ctx : GCtx st tbl [] [] [] k [] [] :=
        ⟨rfl, seesOuter_cons (seesOuter_nil st) tbl k hs, hs, hv', fun _ _ => rfl⟩
      obtain ⟨ws, hn⟩ := ser_nodes_br st ver nodes tbl [] [] [] k [] [] ctx hnodesOK tbl.length nn ng ns hsN hns
      simp only [List.map_nil] at hn
      have e1 := serFInputs_sees st tbl k hs hv' inputs hin'
      have e2 := serOutNames_of_names st.vals _ _
        (fouts_names st tbl k hs outputs (k + tbl.length + (cellsNodes nodes).length) htbl hout)
      refine ⟨ws, ?_⟩
      simp only [treeG, Scope.serFunction, e1, e2, serNodes_setGraph, hn, absF, fidOf, fidP, nodeOutVIs_nil,
        List.map_append]

theorem serFunction_false (ver : Option Int) (f : IRFunction) (q : FunctionP)
    (h : Serde.serFunction ver false f = .ok q) :
    ∃ q1, Serde.serFunction ver true f = .ok q1 ∧ ({ absF q1 with vinfo := [] } : Scope.FuncP) = absF q := by
  simp only [Serde.serFunction, bind, Except.bind] at h ⊢
  split at h
  · cases h
  · rename_i aps ha
    split at h
    · cases h
    · rename_i ns hn
      cases h
      exact ⟨_, rfl, by simp [absF, fidP, valuesVI_false]⟩

/-- the functions are written with their value_info exactly from IR version 10 on -/
theorem funcs_ser (st : Scope.Store) (ver : Int) : ∀ (fs : List IRFunction) (k nn ng : Nat) (qs : List FunctionP),
    fs.all okF = true → ShowsAt st k (cellsFs fs) → Serde.serFunctions ver fs = .ok qs →
    ∃ qs1 ws, Scope.serFuncs st.vals st.tdata (treeFs k nn ng fs) = .ok (qs1, ws) ∧
      qs1.map (fun f => if ver ≥ 10 then f else ({ f with vinfo := [] } : Scope.FuncP)) = qs.map absF
  | [], k, nn, ng, qs, _, _, hq => by
    simp only [Serde.serFunctions] at hq
    cases hq
    exact ⟨[], [], by simp [treeFs, Scope.serFuncs], rfl⟩
  | f :: fs, k, nn, ng, qs, hok, hsh, hq => by
    simp only [List.all_cons, Bool.and_eq_true] at hok
    simp only [cellsFs] at hsh
    simp only [Serde.serFunctions, bind, Except.bind] at hq
    split at hq
    · cases hq
    · rename_i q hq1
      split at hq
      · cases hq
      · rename_i qs' hq2
        cases hq
        obtain ⟨q1, e1, e2⟩ : ∃ q1, Serde.serFunction (some ver) true f = .ok q1 ∧
            (if ver ≥ 10 then absF q1 else { absF q1 with vinfo := [] }) = absF q := by
          by_cases hv : ver ≥ 10
          · exact ⟨q, by simpa [hv] using hq1, by simp [hv]⟩
          · obtain ⟨q1, a, b⟩ := serFunction_false (some ver) f q (by simpa [hv] using hq1)
            exact ⟨q1, a, by simp [hv, b]⟩
        obtain ⟨ws1, h1⟩ := func_ser st (some ver) f k nn ng q1 hok.1 (showsAt_left hsh) e1
        obtain ⟨qs1, ws2, h2, h3⟩ := funcs_ser st ver fs (k + (cellsG f.graph).length) (nn + nnG f.graph)
          (ng + ngG f.graph) qs' hok.2 (showsAt_right hsh) hq2
        exact ⟨absF q1 :: qs1, ws1 ++ ws2, by simp only [treeFs, Scope.serFuncs, h1, h2],
          by simp only [List.map_cons, e2, h3]⟩

end IrVerif.Bridge

namespace IrVerif.Scope
open IrVerif.Proto

/-- **C02/C03 bridge, serialization of models with functions** (IR version >= 10): for every C02 IR model satisfying
    the decidable `GOKM` and every Scope model world whose core is its abstraction, whenever C02's
    `serModel` returns `q` the Scope `serializeM` returns `absM q`. -/
theorem C03_bridge_serialize_model (x : Serde.IRModel) (q : Proto.ModelP) (w : MWorld)
    (hok : Bridge.GOKM x = true) (hq : Serde.serModel x = .ok q) (hw : Bridge.coreOfM w = Bridge.absIRM x) :
    ∃ w', serializeM w = .ok (w', Bridge.absM q) := by
  simp only [Bridge.GOKM, Bool.and_eq_true, decide_eq_true_eq] at hok
  obtain ⟨⟨hokg, hokf⟩, hver⟩ := hok
  have hroot : w.root = Bridge.treeG [] 0 0 0 x.graph := congrArg Bridge.CoreM.root hw
  have hfuncs : w.funcs = Bridge.treeFs (Bridge.cellsG x.graph).length (Bridge.nnG x.graph) (Bridge.ngG x.graph)
      x.functions := congrArg Bridge.CoreM.funcs hw
  have hsh : Bridge.ShowsAt w.st 0 (Bridge.cellsG x.graph ++ Bridge.cellsFs x.functions) :=
    Bridge.showsAt_of_cells (congrArg Bridge.CoreM.cells hw)
  simp only [Serde.serModel, bind, Except.bind] at hq
  split at hq
  · cases hq
  · rename_i g hg
    split at hq
    · cases hq
    · rename_i fs hfs
      cases hq
      obtain ⟨ws1, h1⟩ := Bridge.ser_graph_br w.st (some x.irVersion) x.graph [] [] [] 0 0 0 g hokg rfl
        (Bridge.seesOuter_nil _) (Bridge.showsAt_left hsh) hg
      obtain ⟨qs1, ws2, h2, h3⟩ := Bridge.funcs_ser w.st x.irVersion x.functions _ (Bridge.nnG x.graph)
        (Bridge.ngG x.graph) fs hokf (Bridge.showsAt_right hsh) hfs
      simp only [hver, if_true, List.map_id'] at h3
      rw [Nat.zero_add] at h2
      exact ⟨⟨w.st.writes (ws1 ++ ws2), w.root, w.funcs⟩, by
        simp [serializeM, hroot, hfuncs, h1, h2, h3, Bridge.absM, hver]⟩

end IrVerif.Scope

namespace IrVerif.Bridge
open IrVerif.Proto IrVerif.Serde

theorem function_gok (ver : Int) (f : FunctionP) (h : wfFunction ver f = true) (hs : sideF f = true) :
    ∃ x, desFunction f = .ok x ∧ okF x = true ∧ fnKey x = (f.domain, f.name, f.overload) := by
  obtain ⟨TP, as, hTP, hN, _, hwn, hout, hdes⟩ := desFunction_wf ver f h
  have h7 := wfFunction_vis h
  simp only [sideF, Bool.and_eq_true] at hs
  obtain ⟨⟨hs1, hs2⟩, hs3⟩ := hs
  have hVis := wfVI_noMeta h7 hs1
  have hTPok : ∀ v ∈ TP, (valOK v && tensOK v) = true := by
    intro v hv
    rw [hTP] at hv
    simp only [List.mem_append, List.mem_map] at hv
    rcases hv with ⟨n, _, rfl⟩ | ⟨n, _, rfl⟩
    · exact (OKv_newValueT n hVis).val
    · exact (OKv_newValueT n hVis).val
  have hlenI : f.inputs.length ≤ TP.length := by rw [hTP]; simp
  obtain ⟨xs, n1, hokN⟩ := nodes_gok [] [] rfl f.valueInfo [] f.nodes TP hwn hs2 hs3
  obtain ⟨gouts, o1, _, o4, o5⟩ := functionOutputs_tbl (tableNames TP) f.outputs hout
  have o5' : gouts.all (goutOK TP.length) = true := by simpa [tableNames] using o5
  refine ⟨_, hdes xs gouts n1 o1, ?_, rfl⟩
  simp only [okF, okG, IRGraph.outputs, Bool.and_eq_true]
  refine ⟨⟨⟨⟨⟨List.all_eq_true.2 hTPok, ?_⟩, by simp⟩, hokN⟩, o5'⟩, o4⟩
  rw [List.all_eq_true]
  intro i hi
  have : i < f.inputs.length := List.mem_range.1 hi
  exact decide_eq_true (by omega)

theorem funcs_gok (ver : Int) : ∀ fs : List FunctionP, fs.all (wfFunction ver) = true → fs.all sideF = true →
    ∃ xs, desFunctions fs = .ok xs ∧ xs.all okF = true ∧
      xs.map fnKey = fs.map (fun f => (f.domain, f.name, f.overload))
  | [], _, _ => ⟨[], rfl, rfl, rfl⟩
  | f :: fs, h, hs => by
    simp only [List.all_cons, Bool.and_eq_true] at h hs
    obtain ⟨x, g1, g2, g3⟩ := function_gok ver f h.1 hs.1
    obtain ⟨xs, r1, r2, r3⟩ := funcs_gok ver fs h.2 hs.2
    exact ⟨x :: xs, by simp [desFunctions, g1, r1, bind, Except.bind], by simp [g2, r2], by simp [g3, r3]⟩

/-- `sharedSM` is not empty: the main graph with a nested graph (`exampleNested`), one function with an
    anonymous second node output and a value_info entry -/
def exampleModel : ModelP :=
  { irVersion := 10, producerName := "p", producerVersion := "", domain := "", modelVersion := 0, doc := "",
    opsetImport := [], metadata := [], graph := exampleNested,
    functions := [{ name := "f", domain := "d", overload := "", doc := "", inputs := ["a"], outputs := ["b"],
                    attrNames := [], attrProtos := [],
                    nodes := [.mk ["a"] ["b", ""] "n" "Relu" "" "" "" [] [] []], opsetImport := [],
                    valueInfo := [⟨"b", .tensor (some 1) none "", "", []⟩], metadata := [] }],
    configuration := [] }

example : sharedSM exampleModel = true := by decide

end IrVerif.Bridge

namespace IrVerif.Scope
open IrVerif.Proto

/-- on the fragment `sharedSM` every model C02 deserializes satisfies the hypothesis `GOKM` of
    `C03_bridge_serialize_model` -/
theorem C03_bridge_gok_model (m : Proto.ModelP) (h : Bridge.sharedSM m = true) (x : Serde.IRModel)
    (hx : Serde.desModel m = .ok x) : Bridge.GOKM x = true := by
  simp only [Bridge.sharedSM, Bridge.sharedM, Bridge.noValueMetaFull, Bridge.canonTensorsFull, Bool.and_eq_true,
    decide_eq_true_eq] at h
  obtain ⟨⟨⟨⟨hwf, hver⟩, hnm⟩, hct⟩, hside⟩ := h
  obtain ⟨hg, hf, _, hdes⟩ := Bridge.desModel_wf m hwf
  obtain ⟨g, g1, okg⟩ := Bridge.graph_gok [] [] rfl m.graph hg hnm hct
  obtain ⟨fs, f1, okfs, f4⟩ := Bridge.funcs_gok m.irVersion m.functions hf hside
  have hlt : ¬ m.irVersion < 10 := by omega
  rw [hdes g fs fs g1 f1 f4 (if_neg hlt)] at hx
  cases hx
  obtain ⟨_, _, _, _, hokG⟩ := Bridge.setOpsets_inv g (Serde.opsetDict m.opsetImport)
  simp only [Bridge.GOKM, Bridge.GOKFull, hokG, okg, okfs, Bool.and_self,
    Bool.true_and, decide_eq_true_eq]
  exact hver

/-- **C02/C03 bridge for models with functions, both directions** (IR version >= 10): for every model `m` of the
    decidable fragment `sharedSM` the Scope model deserializes `absM m` to the abstraction of C02's IR model and
    serializes it to `absM` of C02's documented normal form `normModel m` (`C02_model`). -/
theorem C03_bridge_serde_model (m : Proto.ModelP) (h : Bridge.sharedSM m = true) :
    ∃ x w w', Serde.desModel m = .ok x ∧ Serde.serModel x = .ok (Serde.normModel m) ∧
      deserializeM (Bridge.absM m) = .ok w ∧ Bridge.coreOfM w = Bridge.absIRM x ∧
      serializeM w = .ok (w', Bridge.absM (Serde.normModel m)) := by
  have hM : Bridge.sharedM m = true := by
    simp only [Bridge.sharedSM, Bool.and_eq_true] at h; exact h.1.1.1
  have hwf : Serde.wfModel m = true := by
    simp only [Bridge.sharedM, Bool.and_eq_true] at hM; exact hM.1
  obtain ⟨x, w, h1, h2, h3⟩ := C03_bridge_deserialize_model m hM
  obtain ⟨x', r1, r2⟩ := Serde.model_rt m hwf
  rw [h1] at r1
  cases r1
  obtain ⟨w', h4⟩ := C03_bridge_serialize_model x _ w (C03_bridge_gok_model m h x h1) r2 h3
  exact ⟨x, w, w', h1, r2, h2, h3, h4⟩

end IrVerif.Scope
