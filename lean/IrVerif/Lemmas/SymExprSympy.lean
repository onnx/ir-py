/-
C16: the model of SymPy's string printer (`ppSympy`, Model/SymExprSympy.lean) produces a sentence
of the parser's grammar whose derivation denotes `surf s`; hence
`parseTokens (ppSympy s) = some (surf s)` for well-formed `s` (`parse_ppSympy_surf`).
-/
import IrVerif.Lemmas.SymExprPrint
import IrVerif.Lemmas.SymExprArith
import IrVerif.Model.SymExprSympy
import Mathlib.Tactic.Ring
namespace IrVerif.SymExpr

theorem paraL_eq {α} (A : Alg α) (l : List SExpr) : paraL A l = l.map (fun s => (s, para A s)) := by
  induction l with
  | nil => simp [paraL]
  | cons s l ih => simp [paraL, ih]

theorem SExpr.ind {motive : SExpr → Prop}
    (int : ∀ z, motive (.int z)) (rat : ∀ p q, motive (.rat p q)) (sym : ∀ s, motive (.sym s))
    (add : ∀ ts, (∀ t ∈ ts, motive t) → motive (.add ts))
    (mul : ∀ fs, (∀ t ∈ fs, motive t) → motive (.mul fs))
    (pow : ∀ b e, motive b → motive e → motive (.pow b e))
    (fn : ∀ f args, (∀ t ∈ args, motive t) → motive (.fn f args)) : ∀ s, motive s := by
  intro s
  exact SExpr.rec (motive_1 := motive) (motive_2 := fun l => ∀ t ∈ l, motive t)
    int rat sym add mul pow fn (by simp) (by
      intro h t ih1 ih2 x hx
      rcases List.mem_cons.mp hx with rfl | hx
      · exact ih1
      · exact ih2 x hx) s

abbrev tkOf (s : SExpr) : TK := para tokAlg s
abbrev sfOf (s : SExpr) : SF := para surfAlg s
def tkL (l : List SExpr) : List (SExpr × TK) := l.map (fun s => (s, tkOf s))
def sfL (l : List SExpr) : List (SExpr × SF) := l.map (fun s => (s, sfOf s))

theorem swf_add (ts : List SExpr) : swf (.add ts) = (!ts.isEmpty && ts.all swf) := by
  simp only [swf, para, paraL_eq, swfAlg, List.all_map, List.isEmpty_map,
    Function.comp_def]
  rfl

theorem swf_mul (fs : List SExpr) : swf (.mul fs) =
    (fs.all (fun g => swf g && denOk g && !isMulS g) &&
      (match fs with | [] => false | _ :: rest => rest.all (fun g => !isNum g))) := by
  cases fs <;> simp [swf, para, paraL_eq, swfAlg, List.all_map, Function.comp_def, paraL]

theorem swf_pow (b e : SExpr) : swf (.pow b e) =
    (swf b && swf e && !(isNegOne e && isRat b)) := by
  simp [swf, para, swfAlg]

theorem swf_fn (f : SFn) (args : List SExpr) : swf (.fn f args) =
    (args.all swf && arityOk f args.length) := by
  simp only [swf, para, paraL_eq, swfAlg, List.all_map, List.length_map,
    Function.comp_def]
  rfl

theorem swfX_add (ts : List SExpr) : swfX (.add ts) = (!ts.isEmpty && ts.all swfX) := by
  simp only [swfX, para, paraL_eq, swfXAlg, List.all_map, List.isEmpty_map,
    Function.comp_def]
  rfl

theorem swfX_mul (fs : List SExpr) : swfX (.mul fs) =
    (fs.all (fun g => swfX g && !isMulS g) &&
      (match fs with | [] => false | _ :: rest => rest.all (fun g => !isNum g))) := by
  cases fs <;> simp [swfX, para, paraL_eq, swfXAlg, List.all_map, Function.comp_def, paraL]

theorem swfX_pow (b e : SExpr) : swfX (.pow b e) =
    (swfX b && swfX e && !(isNegOne e && isRat b)) := by
  simp [swfX, para, swfXAlg]

theorem swfX_fn (f : SFn) (args : List SExpr) : swfX (.fn f args) =
    (args.all swfX && arityOk f args.length) := by
  simp only [swfX, para, paraL_eq, swfXAlg, List.all_map, List.length_map,
    Function.comp_def]
  rfl

/-- induction over the trees `swfX` accepts: each case gets what `swfX` asks at its node -/
theorem SWfX.ind {motive : SExpr → Prop}
    (int : ∀ z, motive (.int z)) (rat : ∀ p q, motive (.rat p q)) (sym : ∀ s, motive (.sym s))
    (add : ∀ t rest, (∀ x ∈ t :: rest, SWfX x) → (∀ x ∈ t :: rest, motive x) →
      motive (.add (t :: rest)))
    (mul : ∀ f rest, (∀ g ∈ f :: rest, isMulS g = false) → (∀ g ∈ rest, isNum g = false) →
      (∀ g ∈ f :: rest, motive g) → motive (.mul (f :: rest)))
    (pow : ∀ b e, (isNegOne e && isRat b) = false → motive b → motive e → motive (.pow b e))
    (fn : ∀ f args, arityOk f args.length = true → (∀ a ∈ args, motive a) →
      motive (.fn f args)) : ∀ s, SWfX s → motive s := by
  apply SExpr.ind
  · exact fun z _ => int z
  · exact fun p q _ => rat p q
  · exact fun s _ => sym s
  · intro ts ih hw
    simp only [SWfX, swfX_add, Bool.and_eq_true, List.all_eq_true] at hw
    match ts, hw with
    | t :: rest, hw => exact add t rest hw.2 (fun x hx => ih x hx (hw.2 x hx))
  · intro fs ih hw
    simp only [SWfX, swfX_mul, Bool.and_eq_true, List.all_eq_true, Bool.not_eq_true'] at hw
    match fs, hw with
    | f :: rest, hw =>
      exact mul f rest (fun g hg => (hw.1 g hg).2) (by simpa using hw.2)
        (fun g hg => ih g hg (hw.1 g hg).1)
  · intro b e ihb ihe hw
    simp only [SWfX, swfX_pow, Bool.and_eq_true, Bool.not_eq_true'] at hw
    exact pow b e hw.2 (ihb hw.1.1) (ihe hw.1.2)
  · intro f args ih hw
    simp only [SWfX, swfX_fn, Bool.and_eq_true, List.all_eq_true] at hw
    exact fn f args hw.2 (fun a ha => ih a ha (hw.1 a ha))

/-- the text of the negated product (`apow`: the exponent of a denominator entry) -/
theorem tk_neg_mul (fs : List SExpr) : (tkOf (.mul fs)).neg =
    match fs with
    | [c, y] => if isNegOne c then (tkOf y).toks else mulBody 50 (tkL fs)
    | _ => mulBody 50 (tkL fs) := by
  match fs with
  | [] => rfl
  | [_] => rfl
  | [_, _] => rfl
  | _ :: _ :: _ :: rest =>
    simp only [tkOf, para, paraL, paraL_eq, tkL, List.map_cons]
    rfl

theorem sf_neg_mul (fs : List SExpr) : (sfOf (.mul fs)).neg =
    match fs with
    | [c, y] => if isNegOne c then (sfOf y).e else mulBodyE false (sfL fs)
    | _ => mulBodyE false (sfL fs) := by
  match fs with
  | [] => rfl
  | [_] => rfl
  | [_, _] => rfl
  | _ :: _ :: _ :: rest =>
    simp only [sfOf, para, paraL, paraL_eq, sfL, List.map_cons]
    rfl


theorem tk_int (z : Int) : tkOf (.int z) =
    { toks := ppNat (z < 0) z.natAbs, neg := ppNat (0 < z) z.natAbs, den := fun _ => [] } := rfl

theorem tk_rat (p : Int) (q : Nat) : tkOf (.rat p q) =
    { toks := ppNat (p < 0) p.natAbs ++ [.op .slash, .num q],
      neg := ppNat (0 < p) p.natAbs ++ [.op .slash, .num q], den := fun _ => [] } := rfl

theorem sf_int (z : Int) : sfOf (.int z) =
    { e := numE (z < 0) z.natAbs, neg := numE (0 < z) z.natAbs, den := .num 0 } := rfl

theorem sf_rat (p : Int) (q : Nat) : sfOf (.rat p q) =
    { e := .bin .div (numE (p < 0) p.natAbs) (.num q),
      neg := .bin .div (numE (0 < p) p.natAbs) (.num q), den := .num 0 } := rfl

theorem tk_add (ts : List SExpr) :
    (tkOf (.add ts)).toks = addJoin ((tkL ts).map (addStep 40)) := by
  simp only [tkOf, para, paraL_eq]; rfl

theorem tk_mul (fs : List SExpr) :
    (tkOf (.mul fs)).toks =
      if negCoeff (.mul fs) then .op .minus :: mulBody 40 (tkL fs) else mulBody 50 (tkL fs) := by
  simp only [tkOf, para, paraL_eq, tokAlg, List.map_map, Function.comp_def, List.map_id']; rfl

theorem tk_pow (b e : SExpr) :
    (tkOf (.pow b e)).toks =
      if isHalf e then call "sqrt" (tkOf b).toks
      else if isNegHalf e then .num 1 :: .op .slash :: call "sqrt" (tkOf b).toks
      else if isNegOne e then .num 1 :: .op .slash :: par 60 (precS b) (tkOf b).toks
      else par 60 (precS b) (tkOf b).toks ++ .op .dstar :: par 60 (precS e) (tkOf e).toks := by
  simp only [tkOf, para]; rfl

theorem tk_den (b e : SExpr) (lv : Nat) :
    (tkOf (.pow b e)).den lv =
      if isNegOne e then
        (if isMulOrPow b then paren (par lv (precS b) (tkOf b).toks)
         else par lv (precS b) (tkOf b).toks)
      else if isNegHalf e then call "sqrt" (tkOf b).toks
      else par 60 (precS b) (tkOf b).toks ++ .op .dstar :: par 60 (precNeg e) (tkOf e).neg := by
  simp only [tkOf, para]; rfl

theorem tk_fn (f : SFn) (args : List SExpr) :
    (tkOf (.fn f args)).toks = call f.name (intercal .comma (args.map (fun a => (tkOf a).toks))) := by
  simp only [tkOf, para, paraL_eq, tokAlg, List.map_map, Function.comp_def]

theorem sf_add (t : SExpr) (ts : List SExpr) :
    (sfOf (.add (t :: ts))).e =
      addJoinE (sfOf t).e (ts.map (fun s => addStepE (s, tkOf s) (s, sfOf s))) := by
  simp only [sfOf, para, paraL, paraL_eq, surfAlg, List.map_map, Function.comp_def]

theorem sf_mul (fs : List SExpr) :
    (sfOf (.mul fs)).e = mulBodyE (negCoeff (.mul fs)) (sfL fs) := by
  simp only [sfOf, para, paraL_eq, surfAlg, List.map_map, Function.comp_def, List.map_id']; rfl

theorem sf_pow (b e : SExpr) :
    (sfOf (.pow b e)).e =
      if isHalf e then .un .sqrt (sfOf b).e
      else if isNegHalf e then .bin .div (.num 1) (.un .sqrt (sfOf b).e)
      else if isNegOne e then .bin .div (.num 1) (sfOf b).e else .bin .pow (sfOf b).e (sfOf e).e := by
  simp only [sfOf, para]; rfl

theorem sf_den (b e : SExpr) :
    (sfOf (.pow b e)).den =
      if isNegOne e then (sfOf b).e
      else if isNegHalf e then .un .sqrt (sfOf b).e
      else .bin .pow (sfOf b).e (sfOf e).neg := by
  simp only [sfOf, para]; rfl

theorem sf_fn (f : SFn) (args : List SExpr) :
    (sfOf (.fn f args)).e = fnExpr f (args.map (fun a => (sfOf a).e)) := by
  simp only [sfOf, para, paraL_eq, surfAlg, List.map_map, Function.comp_def]

theorem intercal_cons (sep : Tok) (x : List Tok) (rest : List (List Tok)) :
    intercal sep (x :: rest) = x ++ (rest.map (sep :: ·)).flatten := by
  induction rest generalizing x with
  | nil => simp [intercal]
  | cons y rest ih => simp [intercal, ih y]

theorem PTerm.mulList {items : List (List Tok)} {es : List Expr}
    (h : List.Forall₂ PUnary items es) : ∀ {acc ea}, PTerm acc ea →
    PTerm (acc ++ (items.map (Tok.op .star :: ·)).flatten)
      (es.foldl (fun a y => .bin .mul a y) ea) := by
  induction h with
  | nil => intro acc ea h; simpa using h
  | cons hu _ ih =>
    intro acc ea h
    have := ih (PTerm.mulOp .star h hu)
    simpa [MulOp.tok, MulOp.bin, List.append_assoc] using this

theorem PExpr.addList {items : List (Bool × List Tok)} {es : List (Bool × Expr)}
    (h : List.Forall₂ (fun a b => a.1 = b.1 ∧ PTerm a.2 b.2) items es) : ∀ {acc ea}, PExpr acc ea →
    PExpr (acc ++ (items.map (fun mt =>
        (if mt.1 then Tok.op .minus else Tok.op .plus) :: mt.2)).flatten)
      (es.foldl (fun a mt => .bin (if mt.1 then .sub else .add) a mt.2) ea) := by
  induction h with
  | nil => intro acc ea h; simpa using h
  | @cons a b _ _ hu _ ih =>
    intro acc ea h
    obtain ⟨h1, h2⟩ := hu
    cases hb : b.1
    · have := ih (PExpr.addOp .plus h h2)
      simpa [AddOp.tok, AddOp.bin, List.append_assoc, h1, hb] using this
    · have := ih (PExpr.addOp .minus h h2)
      simpa [AddOp.tok, AddOp.bin, List.append_assoc, h1, hb] using this

theorem argsTail_of {items : List (List Tok)} {es : List Expr}
    (h : List.Forall₂ PExpr items es) :
    Derives .argsTail (items.map (Tok.comma :: ·)).flatten es := by
  induction h with
  | nil => exact ⟨.atNil, by simp [D.flatten], by simp [D.sem]⟩
  | cons hu _ ih =>
    obtain ⟨d, h1, h2⟩ := ih
    obtain ⟨de, h3, h4⟩ := hu
    exact ⟨.atCons de d, by simp [D.flatten, h1, h3], by simp [D.sem, h2, h4]⟩

theorem args_of {x : List Tok} {e : Expr} {items : List (List Tok)} {es : List Expr}
    (hx : PExpr x e) (h : List.Forall₂ PExpr items es) :
    Derives .args (intercal .comma (x :: items)) (e :: es) := by
  obtain ⟨d, h1, h2⟩ := argsTail_of h
  obtain ⟨de, h3, h4⟩ := hx
  exact ⟨.argsCons de d, by simp [D.flatten, h1, h3, intercal_cons], by simp [D.sem, h2, h4]⟩

theorem primary_head (p : D .primary) : ∃ t rest, p.flatten = t :: rest ∧ t ≠ Tok.op .minus := by
  cases p <;> simp [D.flatten]

theorem power_head (p : D .power) : ∃ t rest, p.flatten = t :: rest ∧ t ≠ Tok.op .minus := by
  cases p with
  | prim p => simpa [D.flatten] using primary_head p
  | pow b e =>
    obtain ⟨t, rest, h1, h2⟩ := primary_head b
    exact ⟨t, rest ++ Tok.op .dstar :: e.flatten, by simp [D.flatten, h1], h2⟩

theorem stripNeg_tail : (tl : D .termTail) → (acc : Expr) →
    stripNeg ((tl.sem : Expr → Expr) acc) = (tl.sem : Expr → Expr) (stripNeg acc)
  | .ttNil, acc => by simp [D.sem]
  | .ttCons o u tl, acc => by simp [D.sem, stripNeg_tail tl, stripNeg]

theorem PTerm.strip {r : List Tok} {e : Expr} : PTerm (Tok.op .minus :: r) e → PTerm r (stripNeg e)
  | ⟨.term (.neg u) tl, h1, h2⟩ =>
    ⟨.term u tl, by simpa [D.flatten] using h1, by
      simp only [D.sem] at h2
      simp only [D.sem, ← h2, stripNeg_tail, stripNeg]⟩
  | ⟨.term (.upow p) tl, h1, _⟩ => by
    obtain ⟨t, rest, h3, h4⟩ := power_head p
    simp [D.flatten, h3] at h1
    exact absurd h1.1 h4

/-- the nonterminal the text of `s` derives from (compare `precS`) -/
def phraseLevel : SExpr → Nat
  | .int z => if z < 0 then 2 else 4
  | .rat _ _ => 1
  | .sym _ => 4
  | .add _ => 0
  | .mul _ => 1
  | .pow _ e => if isHalf e then 4 else if isNegOne e || isNegHalf e then 1 else 3
  | .fn _ _ => 4

theorem par_expr {k lv prec ts e} (h : P k ts e) : PExpr (par lv prec ts) e := by
  unfold par
  have h0 : PExpr ts e := h.toExpr
  split
  · exact (((h0.paren.toPower).toUnary).toTerm).toExpr
  · exact h0

/-- `parenthesize(item, 60)`: base and exponent of a power -/
theorem par60 {s : SExpr} {ts e} (h : P (phraseLevel s) ts e) : PPrim (par 60 (precS s) ts) e := by
  unfold par
  split
  · exact (h.toExpr).paren
  · rename_i hp
    cases s with
    | int z =>
      by_cases hz : z < 0
      · simp [precS, hz] at hp
      · simp only [phraseLevel, hz, if_false] at h
        exact h
    | rat p q => by_cases hz : p < 0 <;> simp [precS, hz] at hp
    | sym s => exact h
    | add ts => simp [precS] at hp
    | mul fs => by_cases hz : negCoeff (.mul fs) <;> simp [precS, hz] at hp
    | pow b e => simp [precS] at hp
    | fn f args => exact h

theorem negCoeff_flags {x : SExpr} (h : negCoeff x = false) :
    isNegOne x = false ∧ isNegHalf x = false := by
  cases x with
  | int z =>
    have hz : ¬ z < 0 := by simpa [negCoeff] using h
    refine ⟨?_, rfl⟩
    simp only [isNegOne, beq_eq_false_iff_ne]; omega
  | rat p q =>
    have hz : ¬ p < 0 := by simpa [negCoeff] using h
    refine ⟨rfl, ?_⟩
    have : (p == -1) = false := by simp only [beq_eq_false_iff_ne]; omega
    simp [isNegHalf, this]
  | _ => exact ⟨rfl, rfl⟩

/-- a factor that `_print_Mul` moves below the fraction bar: a power whose exponent has a negative
    coefficient (what `mulNum`, `mulDen`, `denOk`, `denNZf` of the model branch on) -/
def isDenPow : SExpr → Bool
  | .pow _ e => negCoeff e
  | _ => false

/-- `parenthesize(item, lv)` at the level of a product (40 or 50), for a factor that is not a
    non-integer Rational, a product or `1/x`: a sum or a negative number is parenthesised -/
theorem parMul {s : SExpr} {ts e} {lv : Nat} (hlv : 40 ≤ lv) (h : P (phraseLevel s) ts e)
    (h1 : isRat s = false) (h2 : isMulS s = false)
    (h3 : isDenPow s = false) : PPower (par lv (precS s) ts) e := by
  unfold par
  split
  · exact (h.toExpr).paren.toPower
  · rename_i hp
    cases s with
    | int z =>
      by_cases hz : z < 0
      · simp only [precS, hz, if_true] at hp; omega
      · simp only [phraseLevel, hz, if_false] at h
        exact PPrim.toPower h
    | rat p q => simp [isRat] at h1
    | sym s => exact PPrim.toPower h
    | add ts => simp only [precS] at hp; omega
    | mul fs => simp [isMulS] at h2
    | pow b x =>
      obtain ⟨h4, h5⟩ := negCoeff_flags (x := x) h3
      by_cases hh : isHalf x = true
      · have h' : P 4 ts e := by simpa [phraseLevel, hh] using h
        exact PPrim.toPower h'
      · have h' : P 3 ts e := by simpa [phraseLevel, hh, h4, h5] using h
        exact h'
    | fn f args => exact PPrim.toPower h

theorem ppNat_P (m : Bool) (n : Nat) : PUnary (ppNat m n) (numE m n) := by
  cases m
  · exact (PPrim.num n).toPower.toUnary
  · exact PUnary.neg (PPrim.num n).toPower.toUnary

/-- what the induction carries, one clause per field of `TK` / `SF` (`ValueInv` mirrors it): the
    text derives at its level and denotes the surface tree; a power with a negative exponent has its
    denominator entry; a negative coefficient has the text of the negation (`apow`'s exponent) -/
def PrintInv (s : SExpr) : Prop :=
  P (phraseLevel s) (tkOf s).toks (sfOf s).e ∧
  (isDenPow s = true → ∀ lv, 40 ≤ lv →
    PUnary ((tkOf s).den lv) (sfOf s).den) ∧
  (negCoeff s = true → PUnary (par 60 (precNeg s) (tkOf s).neg) (sfOf s).neg)

theorem inv_int (z : Int) : PrintInv (.int z) := by
  refine ⟨?_, nofun, fun hn => ?_⟩
  · rw [tk_int, sf_int]
    by_cases hz : z < 0
    · simp only [phraseLevel, hz, if_true, decide_true]
      exact ppNat_P true _
    · simp only [phraseLevel, hz, if_false, decide_false]
      exact PPrim.num _
  · have hz : decide (0 < z) = false := by
      have : z < 0 := by simpa [negCoeff] using hn
      exact decide_eq_false (by omega)
    show PUnary (ppNat (decide (0 < z)) z.natAbs) (numE (decide (0 < z)) z.natAbs)
    rw [hz]
    exact (PPrim.num _).toPower.toUnary

theorem PTerm.ratio {ts : List Tok} {e : Expr} (h : PUnary ts e) (q : Nat) :
    PTerm (ts ++ [.op .slash, .num q]) (.bin .div e (.num q)) :=
  PTerm.mulOp .slash h.toTerm (PPrim.num q).toPower.toUnary

theorem inv_rat (p : Int) (q : Nat) : PrintInv (.rat p q) := by
  refine ⟨?_, nofun, fun hn => ?_⟩
  · rw [tk_rat, sf_rat]
    exact PTerm.ratio (ppNat_P _ _) q
  · have hp : decide (0 < p) = false := by
      have : p < 0 := by simpa [negCoeff] using hn
      exact decide_eq_false (by omega)
    show PUnary (paren (ppNat (decide (0 < p)) p.natAbs ++ [.op .slash, .num q]))
      (.bin .div (numE (decide (0 < p)) p.natAbs) (.num q))
    exact (PTerm.ratio (ppNat_P _ _) q).toExpr.paren.toPower.toUnary

theorem inv_sym (x : String) : PrintInv (.sym x) :=
  ⟨⟨.ident x, rfl, rfl⟩, nofun, nofun⟩

theorem negCoeff_of_isNegOne {e : SExpr} (h : isNegOne e = true) : negCoeff e = true := by
  cases e <;> simp [isNegOne] at h
  subst h; simp [negCoeff]

/-- the exponents the printer spells in a way of their own (`sqrt(b)`, `1/sqrt(b)`, `1/b`), and the rest -/
inductive ExpView : SExpr → Prop
  | half : ExpView (.rat 1 2)
  | negHalf : ExpView (.rat (-1) 2)
  | negOne : ExpView (.int (-1))
  | other {e : SExpr} : isHalf e = false → isNegHalf e = false → isNegOne e = false → ExpView e

theorem expView (e : SExpr) : ExpView e := by
  by_cases h0 : isHalf e = true
  · cases e <;> simp [isHalf] at h0
    obtain ⟨rfl, rfl⟩ := h0; exact .half
  by_cases h1 : isNegHalf e = true
  · cases e <;> simp [isNegHalf] at h1
    obtain ⟨rfl, rfl⟩ := h1; exact .negHalf
  by_cases h2 : isNegOne e = true
  · cases e <;> simp [isNegOne] at h2
    subst h2; exact .negOne
  exact .other (by simpa using h0) (by simpa using h1) (by simpa using h2)

theorem PTerm.oneOver {ts : List Tok} {e : Expr} (h : PPrim ts e) :
    PTerm (.num 1 :: .op .slash :: ts) (.bin .div (.num 1) e) :=
  PTerm.mulOp .slash (PPrim.num 1).toPower.toUnary.toTerm h.toPower.toUnary

theorem inv_pow (b e : SExpr) (hnr : (isNegOne e && isRat b) = false) (hb : PrintInv b)
    (he : PrintInv e) : PrintInv (.pow b e) := by
  have hB : PPrim (par 60 (precS b) (tkOf b).toks) (sfOf b).e := par60 hb.1
  have hS : PPrim (call "sqrt" (tkOf b).toks) (.un .sqrt (sfOf b).e) := by
    simpa [Fn1.name, Fn1.un] using PExpr.call1 .sqrt (hb.1.toExpr)
  refine ⟨?_, ?_, nofun⟩
  · rw [tk_pow, sf_pow]
    -- on a literal exponent the tests of the printer are decided by computation
    cases expView e with
    | half => exact hS
    | negHalf => exact PTerm.oneOver hS
    | negOne => exact PTerm.oneOver hB
    | other h0 h2 h1 =>
      simp only [phraseLevel, h0, h2, h1, Bool.false_eq_true, if_false, Bool.or_self]
      exact PPrim.pow hB (par60 he.1).toPower.toUnary
  · intro hn lv hlv
    rw [tk_den, sf_den]
    cases expView e with
    | half => cases hn
    | negHalf => exact hS.toPower.toUnary
    | other h0 h2 h1 =>
      simp only [h1, h2, Bool.false_eq_true, if_false]
      exact (PPrim.pow hB (he.2.2 hn)).toUnary
    | negOne =>
      show PUnary (if isMulOrPow b then paren (par lv (precS b) (tkOf b).toks)
         else par lv (precS b) (tkOf b).toks) (sfOf b).e
      have hE : PExpr (par lv (precS b) (tkOf b).toks) (sfOf b).e := par_expr hb.1
      by_cases h2 : isMulOrPow b = true
      · simp only [h2, if_true]
        exact hE.paren.toPower.toUnary
      · simp only [h2]
        have hnum : isRat b = false := by simpa [isNegOne] using hnr
        have hm : isMulS b = false := by cases b <;> simp_all [isMulOrPow, isMulS]
        exact (parMul hlv hb.1 hnum hm (by cases b <;> first | rfl | simp [isMulOrPow] at h2)).toUnary

theorem forall2_map {α β γ} {R : β → γ → Prop} (f : α → β) (g : α → γ) (l : List α)
    (h : ∀ a ∈ l, R (f a) (g a)) : List.Forall₂ R (l.map f) (l.map g) := by
  induction l with
  | nil => exact .nil
  | cons a l ih =>
    exact .cons (h a (by simp)) (ih (fun b hb => h b (by simp [hb])))

theorem PrintInv.expr {s : SExpr} (h : PrintInv s) : PExpr (tkOf s).toks (sfOf s).e :=
  h.1.toExpr

theorem callN_of {x : List Tok} {e : Expr} {items : List (List Tok)} {es : List Expr} (f : FnN)
    (hx : PExpr x e) (h : List.Forall₂ PExpr items es) :
    PPrim (call f.name (intercal .comma (x :: items))) (es.foldl (fun a y => .bin f.bin a y) e) := by
  obtain ⟨d, h1, h2⟩ := args_of hx h
  exact ⟨.callN f d, by simp [D.flatten, h1, call], by simp [D.sem, h2, FnN.apply]⟩

theorem inv_fn (f : SFn) (args : List SExpr) (har : arityOk f args.length = true)
    (ih : ∀ a ∈ args, PrintInv a) : PrintInv (.fn f args) := by
  refine ⟨?_, nofun, nofun⟩
  rw [tk_fn, sf_fn]
  show PPrim _ _
  have un1 : ∀ (g : Fn1) (a : SExpr), a ∈ args →
      PPrim (call g.name (intercal .comma ([a].map (fun a => (tkOf a).toks))))
        (.un g.un (sfOf a).e) := by
    intro g a ha
    simpa [intercal] using PExpr.call1 g (ih a ha).expr
  have many : ∀ (g : FnN) (a : SExpr) (rest : List SExpr), args = a :: rest →
      PPrim (call g.name (intercal .comma ((a :: rest).map (fun a => (tkOf a).toks))))
        ((rest.map (fun a => (sfOf a).e)).foldl (fun x y => .bin g.bin x y) (sfOf a).e) := by
    intro g a rest hargs
    subst hargs
    exact callN_of g (ih a (by simp)).expr
      (forall2_map _ _ rest (fun b hb => (ih b (by simp [hb])).expr))
  cases f with
  | floor =>
    match args, har with
    | [a], _ => exact un1 .floor a (by simp)
  | ceiling =>
    match args, har with
    | [a], _ => exact un1 .ceiling a (by simp)
  | abs =>
    match args, har with
    | [a], _ => exact un1 .abs a (by simp)
  | sign =>
    match args, har with
    | [a], _ => exact un1 .sign a (by simp)
  | mod =>
    match args, har with
    | [a, b], _ =>
      obtain ⟨da, h1, h2⟩ := (ih a (by simp)).expr
      obtain ⟨db, h3, h4⟩ := (ih b (by simp)).expr
      exact ⟨.call2 .Mod da db, by simp [D.flatten, h1, h3, call, intercal, SFn.name, Fn2.name],
        by simp [D.sem, h2, h4, fnExpr]⟩
  | max =>
    match args, har with
    | a :: rest, _ => exact many .Max a rest rfl
  | min =>
    match args, har with
    | a :: rest, _ => exact many .Min a rest rfl

theorem prec_ge (s : SExpr) : 40 ≤ precS s := by
  cases s with
  | int z => simp only [precS]; split <;> omega
  | rat p q => simp only [precS]; split <;> omega
  | mul fs => simp only [precS]; split <;> omega
  | fn f args => cases f <;> simp [precS]
  | _ => simp [precS]

theorem phraseLevel_pos {s : SExpr} (h : isAddS s = false) : 1 ≤ phraseLevel s := by
  cases s with
  | int z => simp only [phraseLevel]; split <;> omega
  | pow b e => simp only [phraseLevel]; split <;> [omega; (split <;> omega)]
  | add ts => simp [isAddS] at h
  | _ => simp [phraseLevel]

theorem addStep_add {t : SExpr} {tk : TK} (h : isAddS t = true) :
    addStep 40 (t, tk) = (false, paren tk.toks) := by
  simp only [addStep, h]
  cases tk.toks <;> simp

theorem addStep_minus {t : SExpr} {tk : TK} {r} (h : isAddS t = false) (hp : ¬ precS t < 40)
    (ht : tk.toks = Tok.op .minus :: r) : addStep 40 (t, tk) = (true, r) := by
  simp [addStep, h, ht, hp]

theorem addStep_other {t : SExpr} {tk : TK} (h : isAddS t = false) (hp : ¬ precS t < 40)
    (ht : ∀ r, tk.toks ≠ Tok.op .minus :: r) : addStep 40 (t, tk) = (false, tk.toks) := by
  simp only [addStep, h, hp, decide_false, Bool.or_false, Bool.false_eq_true, if_false]
  split
  · next r heq _ => exact absurd heq (ht r)
  · rfl

theorem addStepE_add {t : SExpr} {tk : TK} {sf : SExpr × SF} (h : isAddS t = true) :
    addStepE (t, tk) sf = (false, sf.2.e) := by
  simp only [addStepE, h]
  cases tk.toks <;> simp

theorem addStepE_minus {t : SExpr} {tk : TK} {sf : SExpr × SF} {r} (h : isAddS t = false)
    (ht : tk.toks = Tok.op .minus :: r) : addStepE (t, tk) sf = (true, stripNeg sf.2.e) := by
  simp [addStepE, h, ht]

theorem addStepE_other {t : SExpr} {tk : TK} {sf : SExpr × SF} (h : isAddS t = false)
    (ht : ∀ r, tk.toks ≠ Tok.op .minus :: r) : addStepE (t, tk) sf = (false, sf.2.e) := by
  simp only [addStepE, h]
  split
  · next r heq _ => exact absurd heq (ht r)
  · rfl

/-- one term of a sum: the sign `_print_Add` extracts and the text after it -/
theorem addStep_ok {t : SExpr} (h : PrintInv t) :
    (addStep 40 (t, tkOf t)).1 = (addStepE (t, tkOf t) (t, sfOf t)).1 ∧
    PTerm (addStep 40 (t, tkOf t)).2 (addStepE (t, tkOf t) (t, sfOf t)).2 ∧
    PExpr ((if (addStep 40 (t, tkOf t)).1 then [Tok.op .minus] else []) ++ (addStep 40 (t, tkOf t)).2)
      (sfOf t).e := by
  have hp : ¬ precS t < 40 := by have := prec_ge t; omega
  by_cases hA : isAddS t = true
  · have hE := h.expr
    rw [addStep_add hA, addStepE_add hA]
    refine ⟨rfl, hE.paren.toPower.toUnary.toTerm, ?_⟩
    simpa using hE.paren.toPower.toUnary.toTerm.toExpr
  · have hA' : isAddS t = false := by simpa using hA
    have hT : PTerm (tkOf t).toks (sfOf t).e := P.down (j := 1) h.1 (phraseLevel_pos hA')
    by_cases hm : ∃ r, (tkOf t).toks = Tok.op .minus :: r
    · obtain ⟨r, hr⟩ := hm
      rw [addStep_minus hA' hp hr, addStepE_minus hA' hr]
      rw [hr] at hT
      exact ⟨rfl, hT.strip, by simpa using hT.toExpr⟩
    · have hm' : ∀ r, (tkOf t).toks ≠ Tok.op .minus :: r := fun r hr => hm ⟨r, hr⟩
      rw [addStep_other hA' hp hm', addStepE_other hA' hm']
      exact ⟨rfl, hT, by simpa using hT.toExpr⟩

theorem inv_add (t : SExpr) (rest : List SExpr) (ih : ∀ a ∈ t :: rest, PrintInv a) :
    PrintInv (.add (t :: rest)) := by
  refine ⟨?_, nofun, nofun⟩
  rw [tk_add, sf_add]
  show PExpr _ _
  simp only [tkL, List.map_cons, List.map_map, Function.comp_def, addJoin, addJoinE]
  have hfirst := (addStep_ok (ih t (by simp))).2.2
  have hrest : List.Forall₂ (fun a b => a.1 = b.1 ∧ PTerm a.2 b.2)
      (rest.map (fun s => addStep 40 (s, tkOf s)))
      (rest.map (fun s => addStepE (s, tkOf s) (s, sfOf s))) :=
    forall2_map _ _ rest (fun b hb =>
      ⟨(addStep_ok (ih b (by simp [hb]))).1, (addStep_ok (ih b (by simp [hb]))).2.1⟩)
  have := PExpr.addList hrest hfirst
  simpa [List.map_map, Function.comp_def] using this

def FacOk (f : SExpr) : Prop := PrintInv f ∧ isMulS f = false

theorem not_negOne_of {e : SExpr} (h : negCoeff e = false) : isNegOne e = false := by
  cases h' : isNegOne e
  · rfl
  · rw [negCoeff_of_isNegOne h'] at h; cases h

/-- the numerator entries are powers (so none starts with `-`), paired with their trees -/
theorem mulNum_pow {lv : Nat} (hlv : 40 ≤ lv) : ∀ fs : List SExpr, (∀ f ∈ fs, FacOk f) →
    List.Forall₂ PPower (mulNum lv (tkL fs)) (mulNumE (sfL fs))
  | [], _ => by simp [tkL, sfL, mulNum, mulNumE]
  | f :: rest, h => by
    have ih := mulNum_pow hlv rest (fun g hg => h g (by simp [hg]))
    obtain ⟨hi, hm⟩ := h f (by simp)
    have other : isRat f = false → isDenPow f = false →
        List.Forall₂ PPower (par lv (precS f) (tkOf f).toks :: mulNum lv (tkL rest))
          ((sfOf f).e :: mulNumE (sfL rest)) :=
      fun h1 h3 => .cons (parMul hlv hi.1 h1 hm h3) ih
    simp only [tkL, sfL, List.map_cons, mulNum, mulNumE] at ih ⊢
    cases f with
    | int z =>
      by_cases hz : z.natAbs = 1
      · simpa [hz] using ih
      · simpa [hz] using List.Forall₂.cons (PPrim.num z.natAbs).toPower ih
    | rat p q =>
      by_cases hz : p.natAbs = 1
      · simpa [hz] using ih
      · simpa [hz] using List.Forall₂.cons (PPrim.num p.natAbs).toPower ih
    | pow b e =>
      by_cases hn : negCoeff e = true
      · simpa [hn] using ih
      · have hn' : negCoeff e = false := by simpa using hn
        simpa [hn', tkL, sfL] using
          other rfl hn'
    | sym x => simpa [tkL, sfL] using other rfl rfl
    | add ts => simpa [tkL, sfL] using other rfl rfl
    | mul gs => simp [isMulS] at hm
    | fn g args => simpa [tkL, sfL] using other rfl rfl

theorem mulDen_ok {lv : Nat} (hlv : 40 ≤ lv) : ∀ fs : List SExpr, (∀ f ∈ fs, FacOk f) →
    List.Forall₂ PUnary (mulDen lv (tkL fs)) (mulDenE (sfL fs))
  | [], _ => by simp [tkL, sfL, mulDen, mulDenE]
  | f :: rest, h => by
    have ih := mulDen_ok hlv rest (fun g hg => h g (by simp [hg]))
    obtain ⟨hi, _⟩ := h f (by simp)
    simp only [tkL, sfL, List.map_cons, mulDen, mulDenE] at ih ⊢
    cases f with
    | rat p q =>
      by_cases hz : q = 1
      · simpa [hz] using ih
      · simpa [hz] using List.Forall₂.cons (PPrim.num q).toPower.toUnary ih
    | pow b e =>
      by_cases hn : negCoeff e = true
      · simpa [hn] using List.Forall₂.cons (hi.2.1 hn lv hlv) ih
      · have hn' : negCoeff e = false := by simpa using hn
        simpa [hn'] using ih
    | int z => simpa using ih
    | sym x => simpa using ih
    | add ts => simpa using ih
    | mul gs => simpa using ih
    | fn g args => simpa using ih

theorem foldl_star (minus : Bool) {x : List Tok} {e : Expr} {xs : List (List Tok)}
    {es : List Expr} (hx : PUnary x e) (h : List.Forall₂ PUnary xs es) :
    PTerm ((if minus then [Tok.op .minus] else []) ++ intercal (.op .star) (x :: xs))
      (es.foldl (fun a y => .bin .mul a y) (if minus then .un .neg e else e)) := by
  rw [intercal_cons]
  cases minus
  · simpa using PTerm.mulList h hx.toTerm
  · simpa using PTerm.mulList h (PUnary.neg hx).toTerm

theorem mulBody_ok {lv : Nat} (hlv : 40 ≤ lv) (minus : Bool) (fs : List SExpr)
    (h : ∀ f ∈ fs, FacOk f) :
    PTerm ((if minus then [Tok.op .minus] else []) ++ mulBody lv (tkL fs))
      (mulBodyE minus (sfL fs)) := by
  have hA := (mulNum_pow hlv fs h).imp (fun _ _ h => h.toUnary)
  have hD := mulDen_ok hlv fs h
  simp only [mulBody, mulBodyE]
  generalize mulNum lv (tkL fs) = A at hA
  generalize mulNumE (sfL fs) = AE at hA
  generalize mulDen lv (tkL fs) = Dl at hD
  generalize mulDenE (sfL fs) = DE at hD
  have hN : ∃ n, PTerm ((if minus then [Tok.op .minus] else []) ++
        intercal (.op .star) (if A.isEmpty then [[Tok.num 1]] else A)) n ∧
      mulNumerE minus (if AE.isEmpty then [Expr.num 1] else AE) = n := by
    cases hA with
    | nil =>
      exact ⟨_, by simpa using foldl_star minus (PPrim.num 1).toPower.toUnary .nil, by simp [mulNumerE]⟩
    | cons hx hxs => exact ⟨_, by simpa using foldl_star minus hx hxs, by simp [mulNumerE]⟩
  obtain ⟨n, hn, hne⟩ := hN
  rw [hne]
  rw [← List.append_assoc]
  cases hD with
  | nil => simpa using hn
  | @cons d de ds des hd hds =>
    cases hds with
    | nil =>
      have := PTerm.mulOp .slash hn hd
      simpa [MulOp.tok, MulOp.bin, foldBin] using this
    | @cons d2 de2 ds2 des2 hd2 hds2 =>
      have hprod : PTerm (intercal (.op .star) (d :: d2 :: ds2)) _ :=
        foldl_star false hd (List.Forall₂.cons hd2 hds2)
      have := PTerm.mulOp .slash hn hprod.toExpr.paren.toPower.toUnary
      simpa [MulOp.tok, MulOp.bin, foldBin] using this

theorem inv_mul (fs : List SExpr) (hf : ∀ f ∈ fs, FacOk f) : PrintInv (.mul fs) := by
  refine ⟨?_, nofun, ?_⟩
  · rw [tk_mul, sf_mul]
    show PTerm _ _
    by_cases hn : negCoeff (.mul fs) = true
    · simpa [hn] using mulBody_ok (lv := 40) (by omega) true fs hf
    · have hn' : negCoeff (.mul fs) = false := by simpa using hn
      simpa [hn'] using mulBody_ok (lv := 50) (by omega) false fs hf
  · intro _
    have generic : PUnary (par 60 50 (mulBody 50 (tkL fs))) (mulBodyE false (sfL fs)) := by
      have h := mulBody_ok (lv := 50) (by omega) false fs hf
      have h' : PTerm (mulBody 50 (tkL fs)) (mulBodyE false (sfL fs)) := by simpa using h
      simp only [par, show (50 : Nat) ≤ 60 by omega, if_true]
      exact h'.toExpr.paren.toPower.toUnary
    rw [tk_neg_mul, sf_neg_mul]
    match fs, hf, generic with
    | [], _, g => exact g
    | [_], _, g => exact g
    | [c, y], hf, g =>
      by_cases hc : isNegOne c = true
      · simp only [precNeg, hc, if_true]
        exact (par60 (hf y (by simp)).1.1).toPower.toUnary
      · have hc' : isNegOne c = false := by simpa using hc
        simp only [precNeg, hc', Bool.false_eq_true, if_false]
        exact g
    | _ :: _ :: _ :: _, _, g => exact g

theorem inv_all : ∀ s, SWfX s → PrintInv s :=
  SWfX.ind inv_int inv_rat inv_sym (fun t rest _ ih => inv_add t rest ih)
    (fun f rest hm _ ih => inv_mul (f :: rest) (fun g hg => ⟨ih g hg, hm g hg⟩)) inv_pow inv_fn

theorem mulBody_head {lv : Nat} (hlv : 40 ≤ lv) (fs : List SExpr)
    (h : ∀ f ∈ fs, FacOk f) (r : List Tok) : mulBody lv (tkL fs) ≠ Tok.op .minus :: r := by
  intro hr
  have hA := mulNum_pow hlv fs h
  simp only [mulBody] at hr
  generalize mulNum lv (tkL fs) = A at hA hr
  generalize mulNumE (sfL fs) = AE at hA
  cases hA with
  | nil => simp [intercal] at hr
  | @cons x e xs es hx hxs =>
    obtain ⟨d, hd, _⟩ := hx
    obtain ⟨t, rest, h3, h4⟩ := power_head d
    rw [← hd, h3] at hr
    simp [intercal_cons] at hr
    exact h4 hr.1

theorem pow_head (b e : SExpr) (hw : SWfX (.pow b e)) (r : List Tok) :
    (tkOf (.pow b e)).toks ≠ Tok.op .minus :: r := by
  intro hr
  have hi := (inv_all _ hw).1
  rw [tk_pow] at hr hi
  cases expView e with
  | half => cases hr
  | negHalf => cases hr
  | negOne => cases hr
  | other h0 h2 h1 =>
    simp only [phraseLevel, h0, h2, h1, Bool.false_eq_true, if_false, Bool.or_self] at hr hi
    obtain ⟨d, hd, _⟩ := (hi : PPower _ _)
    obtain ⟨t, rest, h3, h4⟩ := power_head d
    rw [hr, h3] at hd
    exact h4 (List.cons.inj hd).1

theorem facOk_of_swf (fs : List SExpr) (hw : SWfX (.mul fs)) : ∀ f ∈ fs, FacOk f := by
  simp only [SWfX, swfX_mul, Bool.and_eq_true, List.all_eq_true, Bool.not_eq_true'] at hw
  exact fun f hf => ⟨inv_all f (hw.1 f hf).1, (hw.1 f hf).2⟩

/-- `SWfX` only drops a condition of `SWf` -/
theorem swf_imp_swfX : ∀ s, SWf s → SWfX s := by
  apply SExpr.ind
  · intro z _; rfl
  · intro p q _; rfl
  · intro x _; rfl
  · intro ts ih hw
    simp only [SWf, swf_add, SWfX, swfX_add, Bool.and_eq_true, List.all_eq_true] at hw ⊢
    exact ⟨hw.1, fun a ha => ih a ha (hw.2 a ha)⟩
  · intro fs ih hw
    simp only [SWf, swf_mul, SWfX, swfX_mul, Bool.and_eq_true, List.all_eq_true,
      Bool.not_eq_true'] at hw ⊢
    exact ⟨fun a ha => ⟨ih a ha (hw.1 a ha).1.1, (hw.1 a ha).2⟩, hw.2⟩
  · intro b e ihb ihe hw
    simp only [SWf, swf_pow, SWfX, swfX_pow, Bool.and_eq_true] at hw ⊢
    exact ⟨⟨ihb hw.1.1, ihe hw.1.2⟩, hw.2⟩
  · intro f args ih hw
    simp only [SWf, swf_fn, SWfX, swfX_fn, Bool.and_eq_true, List.all_eq_true] at hw ⊢
    exact ⟨fun a ha => ih a ha (hw.1 a ha), hw.2⟩

/-- The repository's parser (model `parseTokens`, proved equal to the documented grammar) reads
    the text SymPy's `str()` prints for a tree `s` (symbolic negative exponents in denominators
    included) as exactly the tree `surf s`. -/
theorem parse_ppSympy_surfX (s : SExpr) (h : SWfX s) : parseTokens (ppSympy s) = some (surf s) :=
  (inv_all s h).expr.parse

theorem parse_ppSympy_surf (s : SExpr) (h : SWf s) : parseTokens (ppSympy s) = some (surf s) :=
  parse_ppSympy_surfX s (swf_imp_swfX s h)

/-! ### non-vacuity: the printer on the shapes `SymbolicDim` produces -/

section Examples
private abbrev N := SExpr.sym "N"
private abbrev M := SExpr.sym "M"

-- -N**2
example : ppSympy (.mul [.int (-1), .pow N (.int 2)]) = [.op .minus, .ident "N", .op .dstar, .num 2]
    ∧ SWf (.mul [.int (-1), .pow N (.int 2)]) := by decide +kernel
-- N/2 + 1/2
example : ppSympy (.add [.mul [.rat 1 2, N], .rat 1 2]) =
    [.ident "N", .op .slash, .num 2, .op .plus, .num 1, .op .slash, .num 2]
    ∧ SWf (.add [.mul [.rat 1 2, N], .rat 1 2]) := by decide +kernel
-- floor(N/2)
example : ppSympy (.fn .floor [.mul [.rat 1 2, N]]) =
    [.ident "floor", .lparen, .ident "N", .op .slash, .num 2, .rparen]
    ∧ SWf (.fn .floor [.mul [.rat 1 2, N]]) := by decide +kernel
-- Mod(N, 3)
example : ppSympy (.fn .mod [N, .int 3]) = [.ident "Mod", .lparen, .ident "N", .comma, .num 3, .rparen]
    ∧ SWf (.fn .mod [N, .int 3]) := by decide +kernel
-- 3*N/4
example : ppSympy (.mul [.rat 3 4, N]) = [.num 3, .op .star, .ident "N", .op .slash, .num 4]
    ∧ SWf (.mul [.rat 3 4, N]) := by decide +kernel
-- Max(1, M, N)
example : ppSympy (.fn .max [.int 1, M, N]) =
    [.ident "Max", .lparen, .num 1, .comma, .ident "M", .comma, .ident "N", .rparen]
    ∧ SWf (.fn .max [.int 1, M, N]) := by decide +kernel
-- -N/2 + M
example : ppSympy (.add [.mul [.rat (-1) 2, N], M]) =
    [.op .minus, .ident "N", .op .slash, .num 2, .op .plus, .ident "M"]
    ∧ SWf (.add [.mul [.rat (-1) 2, N], M]) := by decide +kernel
-- M - N/2 (the sign of a later term is pulled out)
example : ppSympy (.add [M, .mul [.rat (-1) 2, N]]) =
    [.ident "M", .op .minus, .ident "N", .op .slash, .num 2] := by decide +kernel
-- N/(2*M)
example : ppSympy (.mul [.rat 1 2, .pow M (.int (-1)), N]) =
    [.ident "N", .op .slash, .lparen, .num 2, .op .star, .ident "M", .rparen]
    ∧ SWf (.mul [.rat 1 2, .pow M (.int (-1)), N]) := by decide +kernel
-- 2*(Mod(N, 3)) and -Mod(N, 3)
example : ppSympy (.mul [.int 2, .fn .mod [N, .int 3]]) =
    [.num 2, .op .star, .lparen, .ident "Mod", .lparen, .ident "N", .comma, .num 3, .rparen, .rparen]
    ∧ SWf (.mul [.int 2, .fn .mod [N, .int 3]]) := by decide +kernel
example : ppSympy (.mul [.int (-1), .fn .mod [N, .int 3]]) =
    [.op .minus, .ident "Mod", .lparen, .ident "N", .comma, .num 3, .rparen] := by decide +kernel
-- M/N**2, 1/N, 2**(-N), (N + 1)**2
example : ppSympy (.mul [M, .pow N (.int (-2))]) =
    [.ident "M", .op .slash, .ident "N", .op .dstar, .num 2]
    ∧ SWf (.mul [M, .pow N (.int (-2))]) := by decide +kernel
example : ppSympy (.pow N (.int (-1))) = [.num 1, .op .slash, .ident "N"] := by decide +kernel
example : ppSympy (.pow (.int 2) (.mul [.int (-1), N])) =
    [.num 2, .op .dstar, .lparen, .op .minus, .ident "N", .rparen]
    ∧ SWf (.pow (.int 2) (.mul [.int (-1), N])) := by decide +kernel
example : ppSympy (.pow (.add [N, .int 1]) (.int 2)) =
    [.lparen, .ident "N", .op .plus, .num 1, .rparen, .op .dstar, .num 2] := by decide +kernel
-- `swf` rejects: `M * K**(-N)` (prints `M/K**N`, differs at `K = 0` under strict evaluation),
-- a number that is not the first factor, a wrong arity
example : swf (.mul [M, .pow N (.mul [.int (-1), M])]) = false := by decide +kernel
-- ... which `SWfX` admits: M/N**M, M/N**(2*K), M/N**(K/2)
example : ppSympy (.mul [M, .pow N (.mul [.int (-1), M])]) =
    [.ident "M", .op .slash, .ident "N", .op .dstar, .ident "M"]
    ∧ SWfX (.mul [M, .pow N (.mul [.int (-1), M])]) := by decide +kernel
example : ppSympy (.mul [M, .pow N (.mul [.int (-2), .sym "K"])]) =
    [.ident "M", .op .slash, .ident "N", .op .dstar, .lparen, .num 2, .op .star, .ident "K", .rparen]
    := by decide +kernel
example : ppSympy (.mul [M, .pow N (.mul [.rat (-1) 2, .sym "K"])]) =
    [.ident "M", .op .slash, .ident "N", .op .dstar, .lparen, .ident "K", .op .slash, .num 2, .rparen]
    := by decide +kernel
example : swf (.mul [N, .int 2]) = false := by decide +kernel
example : swf (.fn .floor [N, M]) = false := by decide +kernel
-- sqrt(N), 1/sqrt(N), M/sqrt(N), 2*sqrt(N), N**(1/3), M/N**(2/3)
example : ppSympy (.pow N (.rat 1 2)) = [.ident "sqrt", .lparen, .ident "N", .rparen]
    ∧ SWf (.pow N (.rat 1 2)) := by decide +kernel
example : ppSympy (.pow N (.rat (-1) 2)) =
    [.num 1, .op .slash, .ident "sqrt", .lparen, .ident "N", .rparen] := by decide +kernel
example : ppSympy (.mul [M, .pow N (.rat (-1) 2)]) =
    [.ident "M", .op .slash, .ident "sqrt", .lparen, .ident "N", .rparen]
    ∧ SWf (.mul [M, .pow N (.rat (-1) 2)]) := by decide +kernel
example : ppSympy (.mul [.int 2, .pow N (.rat 1 2)]) =
    [.num 2, .op .star, .ident "sqrt", .lparen, .ident "N", .rparen] := by decide +kernel
example : ppSympy (.pow N (.rat 1 3)) =
    [.ident "N", .op .dstar, .lparen, .num 1, .op .slash, .num 3, .rparen] := by decide +kernel
example : ppSympy (.mul [M, .pow N (.rat (-2) 3)]) =
    [.ident "M", .op .slash, .ident "N", .op .dstar, .lparen, .num 2, .op .slash, .num 3, .rparen]
    ∧ SWf (.mul [M, .pow N (.rat (-2) 3)]) := by decide +kernel
example : swf (.add []) = false := by decide +kernel
end Examples

end IrVerif.SymExpr
