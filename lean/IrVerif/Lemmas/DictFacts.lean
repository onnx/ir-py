/-
Python's ordered dict as an association list: `d[k] = v` (first position, last value), `d.update(u)`,
`{k: v for ..}`.  The models write these out per layer; each is shown equal to `dset` / `dupdate` / `ddict`
where its facts are needed.  Core Lean only.
-/
import IrVerif.Lemmas.ListFacts
namespace IrVerif.ListFacts

def dset {κ β : Type} [DecidableEq κ] : List (κ × β) → κ → β → List (κ × β)
  | [], k, v => [(k, v)]
  | (k', v') :: r, k, v => if k' = k then (k', v) :: r else (k', v') :: dset r k v

def dupdate {κ β : Type} [DecidableEq κ] (d u : List (κ × β)) : List (κ × β) := u.foldl (fun d e => dset d e.1 e.2) d

def ddict {κ β : Type} [DecidableEq κ] (l : List (κ × β)) : List (κ × β) := dupdate [] l

theorem dupdate_cons {κ β : Type} [DecidableEq κ] (d : List (κ × β)) (e : κ × β) (l : List (κ × β)) :
    dupdate d (e :: l) = dupdate (dset d e.1 e.2) l := rfl

section kv
variable {κ β : Type} [DecidableEq κ]

theorem dset_keys (d : List (κ × β)) (k : κ) (v : β) :
    (dset d k v).map (·.1) = if k ∈ d.map (·.1) then d.map (·.1) else d.map (·.1) ++ [k] := by
  induction d with
  | nil => simp [dset]
  | cons e r ih =>
    obtain ⟨k', v'⟩ := e
    by_cases h : k' = k
    · subst h
      simp [dset]
    · have h' : ¬ k = k' := fun e => h e.symm
      simp only [dset, h, if_false, List.map_cons, ih, List.mem_cons, h', false_or]
      split <;> simp

theorem dset_fresh (d : List (κ × β)) (k : κ) (v : β) (h : k ∉ d.map (·.1)) : dset d k v = d ++ [(k, v)] := by
  induction d with
  | nil => rfl
  | cons e r ih =>
    obtain ⟨k', v'⟩ := e
    simp only [List.map_cons, List.mem_cons, not_or] at h
    have hne : ¬ k' = k := fun e => h.1 e.symm
    simp [dset, hne, ih h.2]

theorem dset_keys_nodup (d : List (κ × β)) (k : κ) (v : β) (h : (d.map (·.1)).Nodup) :
    ((dset d k v).map (·.1)).Nodup := by
  rw [dset_keys]
  split
  · exact h
  · rename_i hk
    rw [List.nodup_append]
    exact ⟨h, by simp, fun a ha b hb e => by simp at hb; subst hb; subst e; exact hk ha⟩

theorem dupdate_keys_nodup : ∀ (l d : List (κ × β)), (d.map (·.1)).Nodup →
    ((dupdate d l).map (·.1)).Nodup
  | [], _, h => h
  | e :: l, d, h => dupdate_keys_nodup l _ (dset_keys_nodup d e.1 e.2 h)

theorem dupdate_fresh : ∀ (l d : List (κ × β)), ((d ++ l).map (·.1)).Nodup →
    dupdate d l = d ++ l
  | [], d, _ => by simp [dupdate]
  | e :: l, d, h => by
    rw [dupdate_cons, dset_fresh d e.1 e.2 (head_key_not_mem h),
      dupdate_fresh l (d ++ [(e.1, e.2)]) (by simpa using h)]
    simp

theorem ddict_nodup (l : List (κ × β)) : ((ddict l).map (·.1)).Nodup := dupdate_keys_nodup l [] (by simp)

theorem ddict_of_nodup (l : List (κ × β)) (h : (l.map (·.1)).Nodup) : ddict l = l := by
  simpa [ddict] using dupdate_fresh l [] (by simpa using h)

theorem dset_mem (d : List (κ × β)) (k : κ) (v : β) (e : κ × β) (he : e ∈ dset d k v) : e ∈ d ∨ e = (k, v) := by
  induction d with
  | nil => simp only [dset, List.mem_singleton] at he; exact .inr he
  | cons a r ih =>
    obtain ⟨k', v'⟩ := a
    simp only [dset] at he
    split at he
    · rename_i hk
      simp only [List.mem_cons] at he
      rcases he with rfl | he
      · exact .inr (by rw [hk])
      · exact .inl (List.mem_cons_of_mem _ he)
    · simp only [List.mem_cons] at he
      rcases he with rfl | he
      · exact .inl List.mem_cons_self
      · rcases ih he with h | h
        · exact .inl (List.mem_cons_of_mem _ h)
        · exact .inr h

theorem dupdate_mem : ∀ (l d : List (κ × β)) (e : κ × β), e ∈ dupdate d l → e ∈ d ∨ e ∈ l
  | [], _, _, h => .inl h
  | a :: l, d, e, h => by
    rw [dupdate_cons] at h
    rcases dupdate_mem l _ e h with h1 | h1
    · rcases dset_mem d a.1 a.2 e h1 with h2 | h2
      · exact .inl h2
      · exact .inr (by simp [h2])
    · exact .inr (List.mem_cons_of_mem _ h1)

theorem ddict_mem (l : List (κ × β)) (e : κ × β) (h : e ∈ ddict l) : e ∈ l := by
  rcases dupdate_mem l [] e h with h | h
  · simp at h
  · exact h

theorem dset_same (d : List (κ × β)) (k : κ) (v : β) (hm : (k, v) ∈ d) (hnd : (d.map (·.1)).Nodup) :
    dset d k v = d := by
  induction d with
  | nil => simp at hm
  | cons e r ih =>
    obtain ⟨k', v'⟩ := e
    simp only [List.map_cons, List.nodup_cons, List.mem_map, not_exists, not_and] at hnd
    simp only [List.mem_cons, Prod.mk.injEq] at hm
    simp only [dset]
    rcases hm with ⟨rfl, rfl⟩ | hm
    · simp
    · have hne : ¬ k' = k := fun e => hnd.1 (k, v) hm e.symm
      simp [hne, ih hm hnd.2]

theorem dset_ne_nil (d : List (κ × β)) (k : κ) (v : β) : dset d k v ≠ [] := by
  cases d with
  | nil => simp [dset]
  | cons e r => simp only [dset]; split <;> simp

theorem dupdate_ne_nil : ∀ (u d : List (κ × β)), d ≠ [] → dupdate d u ≠ []
  | [], _, h => h
  | e :: u, d, _ => dupdate_ne_nil u _ (dset_ne_nil d e.1 e.2)

theorem dupdate_of_subset (d : List (κ × β)) (hn : (d.map (·.1)).Nodup) : ∀ (u : List (κ × β)), (∀ e ∈ u, e ∈ d) →
    dupdate d u = d
  | [], _ => rfl
  | e :: u, h => by
    rw [dupdate_cons, dset_same d e.1 e.2 (h e List.mem_cons_self) hn]
    exact dupdate_of_subset d hn u fun x hx => h x (List.mem_cons_of_mem _ hx)

end kv

section kvmap
variable {κ β γ : Type} [DecidableEq κ]

theorem dset_map (g : β → γ) (d : List (κ × β)) (k : κ) (v : β) :
    dset (d.map fun e => (e.1, g e.2)) k (g v) = (dset d k v).map fun e => (e.1, g e.2) := by
  induction d with
  | nil => rfl
  | cons e r ih =>
    obtain ⟨k', v'⟩ := e
    by_cases h : k' = k
    · simp [dset, h]
    · simp [dset, h, ih]

theorem dupdate_map (g : β → γ) : ∀ (l d : List (κ × β)),
    dupdate (d.map fun e => (e.1, g e.2)) (l.map fun e => (e.1, g e.2)) =
    (dupdate d l).map fun e => (e.1, g e.2)
  | [], _ => rfl
  | e :: l, d => by
    rw [List.map_cons, dupdate_cons, dupdate_cons, dset_map g d e.1 e.2, dupdate_map g l]

theorem ddict_map (g : β → γ) (l : List (κ × β)) :
    ddict (l.map fun e => (e.1, g e.2)) = (ddict l).map fun e => (e.1, g e.2) := by
  simpa [ddict] using dupdate_map g l []
end kvmap

end IrVerif.ListFacts
