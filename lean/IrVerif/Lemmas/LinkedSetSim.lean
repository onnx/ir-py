/-
Simulation: every public operation of the pointer structure, together with every concrete
cursor, is matched step by step by the abstract list-with-gaps machine `Spec` (`Sim`).
-/
import IrVerif.Lemmas.LinkedSetAbs
import IrVerif.Lemmas.LinkedSetSpec
namespace IrVerif.LinkedSet

/-- abstraction of a state and one cursor -/
def absSt (s : LSet) (bs : List Nat) (d : Dir) (c : Cursor) : Spec.St :=
  ⟨bs.map (vl s), d, acur s bs d c⟩

/-- a concrete insertion point (root or live box) and the abstract anchor denote the same place -/
def AncRel (s : LSet) (bs : List Nat) (b : Nat) (a : Option Nat) : Prop :=
  (b = 0 ∧ a = none) ∨ (b ∈ bs ∧ a = some (vl s b))

theorem idxOf_map_inj {f : Nat → Nat} : ∀ (l : List Nat) (x : Nat), x ∈ l →
    (∀ a ∈ l, ∀ b ∈ l, f a = f b → a = b) → (l.map f).idxOf (f x) = l.idxOf x
  | [], _, h, _ => by simp at h
  | y :: l, x, h, hi => by
      simp only [List.map_cons, List.idxOf_cons]
      by_cases hy : y = x
      · subst hy; simp
      · have hx : x ∈ l := by
          simp only [List.mem_cons] at h
          rcases h with h | h
          · exact absurd h.symm hy
          · exact h
        have hf : f y ≠ f x := fun e => hy (hi y (by simp) x (by simp [hx]) e)
        have b1 : (f y == f x) = false := by simp [hf]
        have b2 : (y == x) = false := by simp [hy]
        simp only [b1, b2, cond_false]
        rw [idxOf_map_inj l x hx (fun a ha b hb => hi a (by simp [ha]) b (by simp [hb]))]

theorem Inv.vals_idxOf {s : LSet} {bs : List Nat} (h : Inv s bs) {b : Nat} (hb : b ∈ bs) :
    (bs.map (vl s)).idxOf (vl s b) = bs.idxOf b :=
  idxOf_map_inj bs b hb h.vl_inj

theorem vl_rmv {s : LSet} {n v b : Nat} (hb : b ≠ n) : vl (rmv s n v) b = vl s b := by
  rw [vl, val_rmv, val_er]; simp [hb, vl]

theorem vl_lnkS {s : LSet} {b v x : Nat} : vl (lnkS s b v) x = if x = size s then v else vl s x := by
  rw [vl, val_lnkS, val_lnk]; split <;> simp [vl]

/-- every box erased in `s` is bit-for-bit the same in `s'` -/
def Frozen (s s' : LSet) : Prop :=
  size s ≤ size s' ∧ ∀ b, b ≠ 0 → b < size s → val s b = none → box s' b = box s b

theorem Frozen.refl (s : LSet) : Frozen s s := ⟨Nat.le_refl _, fun _ _ _ _ => rfl⟩

theorem Frozen.trans {s s' s'' : LSet} (h1 : Frozen s s') (h2 : Frozen s' s'') : Frozen s s'' := by
  refine ⟨Nat.le_trans h1.1 h2.1, ?_⟩
  intro b hb0 hb hv
  have e1 := h1.2 b hb0 hb hv
  have hv' : val s' b = none := by simp only [val, e1]; exact hv
  rw [h2.2 b hb0 (Nat.lt_of_lt_of_le hb h1.1) hv', e1]

theorem frozen_rmv {s : LSet} {l1 l2 : List Nat} {n v : Nat} (h : Inv s (l1 ++ n :: l2)) :
    Frozen s (rmv s n v) := by
  refine ⟨Nat.le_of_eq (size_rmv s n v).symm, ?_⟩
  intro b hb0 _ hv
  have hbs : b ∉ l1 ++ n :: l2 := by
    intro hm; have := (h.live b hm).2.2; rw [hv] at this; simp at this
  have hbo : b ∉ l1 ++ l2 := fun hm => hbs (mem_insMid.2 (Or.inr hm))
  obtain ⟨hp, hq, _, _⟩ := h.around
  have h1 : b ≠ n := fun e => hbs (mem_insMid.2 (Or.inl e))
  have h2 : b ≠ pv s n := by rw [hp]; exact ((IsNode.lastOr l1 l2).ne hb0 hbo).symm
  have h3 : b ≠ nx s n := by rw [hq]; exact ((IsNode.headOr l1 l2).ne hb0 hbo).symm
  rw [box_rmv, er, box_setErased' _ _ _ h1, box_setPrev _ _ _ _ h3, box_setNext _ _ _ _ h2]

theorem frozen_lnk {s : LSet} {bs : List Nat} (h : Inv s bs) {a : Nat} (ha : IsNode bs a) (v : Nat) :
    Frozen s (lnkS s a v) := by
  refine ⟨by rw [size_lnkS, size_lnk]; omega, ?_⟩
  intro b hb0 hb hv
  have hbs : b ∉ bs := by
    intro hm; have := (h.live b hm).2.2; rw [hv] at this; simp at this
  have halt : a < size s := by
    rcases ha with rfl | ha
    · exact h.size_pos
    · exact (h.live a ha).2.1
  have h1 : b ≠ size s := by omega
  have h2 : b ≠ a := by
    rcases ha with rfl | ha
    · exact hb0
    · rintro rfl; exact hbs ha
  have hnx : nx (pushBox s v) a = nx s a := by rw [nx_pushBox]; simp; omega
  have h3 : b ≠ nx s a := by
    have := (h.succ_pos ha).1
    rcases this with e | e
    · rw [e]; exact hb0
    · rintro rfl; exact hbs e
  rw [box_lnkS, lnk, hnx, box_setPrev _ _ _ _ h3, box_setNext _ _ _ _ h1, box_setPrev _ _ _ _ h1,
    box_setNext _ _ _ _ h2, box_pushBox' _ _ _ h1]

/-- removing a present value: one `Spec.removeIdx` -/
theorem sim_rmv {s : LSet} {l1 l2 : List Nat} {n v : Nat} (h : Inv s (l1 ++ n :: l2))
    (hv : val s n = some v) (d : Dir) (c : Cursor) (hp : c.Valid s) :
    absSt (rmv s n v) (l1 ++ l2) d c =
      Spec.removeIdx (absSt s (l1 ++ n :: l2) d c) ((absSt s (l1 ++ n :: l2) d c).L.idxOf v) := by
  have hnd := h.nodup
  have hvn : vl s n = v := by simp [vl, hv]
  have hidx : ((l1 ++ n :: l2).map (vl s)).idxOf v = l1.length := by
    rw [← hvn, h.vals_idxOf (by simp), idxOf_mid (nodup_insMid_left hnd)]
  simp only [absSt, Spec.removeIdx, hidx]
  congr 1
  · have := Spec.eraseIdx_mid (l1.map (vl s)) (l2.map (vl s)) (vl s n)
    simp only [List.length_map] at this
    have e : (l1 ++ l2).map (vl (rmv s n v)) = (l1 ++ l2).map (vl s) := by
      apply List.map_congr_left
      intro b hb
      exact vl_rmv fun e => (nodup_insMid.1 hnd).1 (e ▸ hb)
    rw [e]
    simp only [List.map_append, List.map_cons]
    exact this.symm
  · exact acur_rmv h hv d c hp

/-- linking an absent value in after node `b`: one `Spec.insertIdx` -/
theorem sim_lnk {s : LSet} {l1 l2 : List Nat} {v : Nat} (h : Inv s (l1 ++ l2))
    (hv : ∀ b ∈ l1 ++ l2, val s b ≠ some v) (d : Dir) (c : Cursor) (hp : c.Valid s) :
    absSt (lnkS s (lastOr 0 l1) v) (l1 ++ size s :: l2) d c =
      Spec.insertIdx (absSt s (l1 ++ l2) d c) l1.length v := by
  have hm : ∀ b ∈ l1 ++ l2, b ≠ size s := by
    intro b hb; have := (h.live b hb).2.1; omega
  simp only [absSt, Spec.insertIdx]
  congr 1
  · have := Spec.insertIdx_mid (l1.map (vl s)) (l2.map (vl s)) v
    simp only [List.length_map] at this
    simp only [List.map_append, List.map_cons]
    rw [this]
    have e1 : l1.map (vl (lnkS s (lastOr 0 l1) v)) = l1.map (vl s) := by
      apply List.map_congr_left; intro b hb
      rw [vl_lnkS]; simp [hm b (by simp [hb])]
    have e2 : l2.map (vl (lnkS s (lastOr 0 l1) v)) = l2.map (vl s) := by
      apply List.map_congr_left; intro b hb
      rw [vl_lnkS]; simp [hm b (by simp [hb])]
    rw [e1, e2, vl_lnkS]; simp
  · exact acur_lnk h hv d c hp

/-- the abstract insertion index of an anchor -/
def ancIdx (L : List Nat) : Option Nat → Nat
  | none => 0
  | some a' => L.idxOf a' + 1

theorem AncRel.index {s : LSet} {l1 l2 : List Nat} (h : Inv s (l1 ++ l2)) {b : Nat} {a : Option Nat}
    (hr : AncRel s (l1 ++ l2) b a) (hl : lastOr 0 l1 = b) (hb0 : b = 0 → l1 = []) :
    ancIdx ((l1 ++ l2).map (vl s)) a = l1.length := by
  rcases hr with ⟨rfl, rfl⟩ | ⟨hb, rfl⟩
  · simp [ancIdx, hb0 rfl]
  · have hb0' : b ≠ 0 := by rintro rfl; exact h.zero_notin hb
    simp only [ancIdx]
    rw [h.vals_idxOf hb]
    have := lastOr_posR l1 l2 h.nodup fun hm => h.zero_notin (List.mem_append_left _ hm)
    rw [hl] at this
    simpa [posR, hb0'] using this

theorem ancIdx_eq (L : List Nat) (a : Option Nat) :
    (match a with
     | none => 0
     | some a' => L.idxOf a' + 1) = ancIdx L a := by
  cases a <;> rfl

theorem AncRel.isNode {s : LSet} {bs : List Nat} {b : Nat} {a : Option Nat} (h : AncRel s bs b a) :
    IsNode bs b :=
  h.imp And.left And.left

/-- one `_insert_one_after` is at most one `Spec.removeIdx` then one `Spec.insertIdx`; the box returned and the abstract
    anchor returned denote the same place, which is what lets `sim_insertManyAfter` go on from there -/
theorem sim_insertOneAfter {s : LSet} {bs : List Nat} (h : Inv s bs) {b : Nat} {a : Option Nat}
    (hr : AncRel s bs b a) (v : Nat) (d : Dir) (c : Cursor) (hp : c.Valid s) :
    ∃ bs' b', insertOneAfter s b v = ((insertOneAfter s b v).1, some b') ∧
      Inv (insertOneAfter s b v).1 bs' ∧
      AncRel (insertOneAfter s b v).1 bs' b' (Spec.insertOneAfter (absSt s bs d c) a v).2 ∧
      absSt (insertOneAfter s b v).1 bs' d c = (Spec.insertOneAfter (absSt s bs d c) a v).1 ∧
      Frozen s (insertOneAfter s b v).1 := by
  have haeq : a = some v ↔ val s b = some v := by
    rcases hr with ⟨rfl, rfl⟩ | ⟨hb, rfl⟩
    · simp [h.dead 0 h.zero_notin]
    · rw [h.val_eq_vl hb]
  unfold Spec.insertOneAfter
  rcases h.insertOneAfter_cases hr.isNode v with
    ⟨hbm, h1, e⟩ | ⟨l1, l2, n, rfl, hvn, h1, hb', hfresh, e⟩ | ⟨h1, hfresh, e⟩
  · rw [e, if_pos (haeq.2 h1)]
    exact ⟨bs, b, rfl, h, Or.inr ⟨hbm, by rw [haeq.2 h1]; simp [vl, h1]⟩, rfl, Frozen.refl s⟩
  · -- the value moves: one `Spec.removeIdx`, then one `Spec.insertIdx`
    have hmem : v ∈ (absSt s (l1 ++ n :: l2) d c).L :=
      List.mem_map.2 ⟨n, mem_insMid.2 (Or.inl rfl), by simp [vl, hvn]⟩
    rw [e, if_neg fun e' => h1 (haeq.1 e')]
    simp only [hmem, if_true]
    have hbne : b ≠ n := fun e' => h1 (e' ▸ hvn)
    have hr' : AncRel (rmv s n v) (l1 ++ l2) b a :=
      hr.imp id fun ⟨hb, ha'⟩ => ⟨(mem_insMid.1 hb).resolve_left hbne, by rw [ha', vl_rmv hbne]⟩
    have h' := inv_rmv h hvn
    obtain ⟨k1, k2, hk, rfl, hk0⟩ := split_at_node hb' h'.zero_notin
    rw [← sim_rmv h hvn d c hp]
    rw [hk] at h' hr' hfresh ⊢
    refine ⟨_, size (rmv s n v), rfl, inv_lnk h' hfresh,
      Or.inr ⟨mem_insMid.2 (Or.inl rfl), by rw [vl_lnkS, if_pos rfl]⟩, ?_,
      (frozen_rmv h).trans (frozen_lnk h' (IsNode.lastOr k1 k2) v)⟩
    rw [sim_lnk h' hfresh d c (by rw [Cursor.Valid, size_rmv]; exact hp)]
    congr 1; rw [← hr'.index h' rfl hk0]; cases a <;> rfl
  · have hmem : v ∉ (absSt s bs d c).L := by
      simp only [absSt, List.mem_map]
      rintro ⟨x, hx, hxv⟩
      exact hfresh x hx (by rw [h.val_eq_vl hx, hxv])
    rw [e, if_neg fun e' => h1 (haeq.1 e')]
    simp only [hmem, if_false]
    obtain ⟨k1, k2, rfl, rfl, hk0⟩ := split_at_node hr.isNode h.zero_notin
    refine ⟨_, size s, rfl, inv_lnk h hfresh,
      Or.inr ⟨mem_insMid.2 (Or.inl rfl), by rw [vl_lnkS, if_pos rfl]⟩, ?_, frozen_lnk h (IsNode.lastOr k1 k2) v⟩
    rw [sim_lnk h hfresh d c hp]
    congr 1; rw [← hr.index h rfl hk0]; cases a <;> rfl

theorem insertManyAfter_cons {s : LSet} {b b1 v : Nat} (vs : List Nat)
    (he : insertOneAfter s b v = ((insertOneAfter s b v).1, some b1)) :
    insertManyAfter s b (v :: vs) = insertManyAfter (insertOneAfter s b v).1 b1 vs := by
  conv => lhs; unfold insertManyAfter
  rw [he]

theorem extend_cons {s : LSet} {v : Nat} (vs : List Nat) (ho : (append s v).2 = true) :
    extend s (v :: vs) = extend (append s v).1 vs := by
  conv => lhs; unfold extend
  rw [show append s v = ((append s v).1, true) by rw [← ho]]

/-- the outcome `r` of a public operation on `s` against the outcome `a` of the abstract one, for one cursor -/
def Sim (s : LSet) (d : Dir) (c : Cursor) (r : LSet × Bool) (a : Spec.St × Bool) : Prop :=
  ∃ bs', Inv r.1 bs' ∧ absSt r.1 bs' d c = a.1 ∧ r.2 = a.2 ∧ Frozen s r.1 ∧ (r.2 = false → r.1 = s)

theorem Sim.same {s : LSet} {bs : List Nat} (h : Inv s bs) (d : Dir) (c : Cursor) (b : Bool) :
    Sim s d c (s, b) (absSt s bs d c, b) :=
  ⟨bs, h, rfl, rfl, Frozen.refl s, fun _ => rfl⟩

section
variable {s : LSet} {d : Dir} {c : Cursor} {r : LSet × Bool} {a : Spec.St × Bool} (h : Sim s d c r a)
include h

theorem Sim.inv : ∃ bs', Inv r.1 bs' := h.imp fun _ h => h.1
theorem Sim.frozen : Frozen s r.1 := let ⟨_, _, _, _, hf, _⟩ := h; hf
theorem Sim.valid (hc : c.Valid s) : c.Valid r.1 := Nat.lt_of_lt_of_le hc h.frozen.1
theorem Sim.unchanged (hr : r.2 = false) : r.1 = s := let ⟨_, _, _, _, _, hu⟩ := h; hu hr

end

theorem Sim.after {s s1 : LSet} {d : Dir} {c : Cursor} {r : LSet × Bool} {a : Spec.St × Bool}
    (hf : Frozen s s1) (h : Sim s1 d c r a) (ht : a.2 = true) : Sim s d c r a := by
  obtain ⟨bs', h1, h2, h3, h4, _⟩ := h
  exact ⟨bs', h1, h2, h3, hf.trans h4, fun hr => by rw [h3, ht] at hr; cases hr⟩

theorem sim_insertManyAfter (d : Dir) (c : Cursor) : ∀ (vs : List Nat) {s : LSet} {bs : List Nat}
    (_ : Inv s bs) {b : Nat} {a : Option Nat} (_ : AncRel s bs b a) (_ : c.Valid s),
    Sim s d c (insertManyAfter s b vs) (Spec.insertManyAfter (absSt s bs d c) a vs, true)
  | [], s, bs, h, b, a, _, _ => Sim.same h d c true
  | v :: vs, s, bs, h, b, a, hr, hp => by
      obtain ⟨bs1, b1, he, h1, hr1, hs1, hsz⟩ := sim_insertOneAfter h hr v d c hp
      have ih := sim_insertManyAfter d c vs h1 hr1 (Nat.lt_of_lt_of_le hp hsz.1)
      rw [insertManyAfter_cons vs he]
      rw [hs1] at ih
      exact Sim.after hsz ih rfl

theorem Inv.pv_root {s : LSet} {bs : List Nat} (h : Inv s bs) : pv s 0 = lastOr 0 bs := by
  have := Links_into bs 0 0 [] (by simpa using h.links); exact this.2

theorem AncRel.last {s : LSet} {bs : List Nat} (h : Inv s bs) :
    AncRel s bs (pv s 0) (bs.map (vl s)).getLast? := by
  rw [h.pv_root]
  rcases List.eq_nil_or_concat bs with rfl | ⟨A, x, rfl⟩
  · left; simp
  · right
    simp only [List.concat_eq_append]
    rw [lastOr_append_singleton]
    simp

theorem sim_append {s : LSet} {bs : List Nat} (h : Inv s bs) (v : Nat) (d : Dir) (c : Cursor)
    (hp : c.Valid s) : Sim s d c (append s v) (Spec.append (absSt s bs d c) v, true) := by
  obtain ⟨bs1, b1, he, h1, _, hs1, hsz⟩ := sim_insertOneAfter h (AncRel.last h) v d c hp
  have ho : (append s v).2 = true := by simp only [append]; rw [he]; rfl
  exact ⟨bs1, h1, hs1, ho, hsz, fun hr => by rw [ho] at hr; cases hr⟩

theorem sim_extend (d : Dir) (c : Cursor) : ∀ (vs : List Nat) {s : LSet} {bs : List Nat}
    (_ : Inv s bs) (_ : c.Valid s), Sim s d c (extend s vs) (Spec.extend (absSt s bs d c) vs, true)
  | [], s, bs, h, _ => Sim.same h d c true
  | v :: vs, s, bs, h, hp => by
      obtain ⟨bs1, h1, hs1, ho1, hsz, _⟩ := sim_append h v d c hp
      have ih := sim_extend d c vs h1 (Nat.lt_of_lt_of_le hp hsz.1)
      rw [extend_cons vs ho1]
      rw [hs1] at ih
      exact Sim.after hsz ih rfl

theorem Inv.lookup_isNone_iff {s : LSet} {bs : List Nat} (h : Inv s bs) (v : Nat) :
    lookup s v = none ↔ v ∉ bs.map (vl s) := by
  constructor
  · intro hl hm
    simp only [List.mem_map] at hm
    obtain ⟨b, hb, rfl⟩ := hm
    rw [h.lookup_some hb (h.val_eq_vl hb)] at hl; cases hl
  · intro hm
    apply h.lookup_none
    intro b hb hv
    apply hm
    simp only [List.mem_map]
    exact ⟨b, hb, by simp [vl, hv]⟩

theorem sim_insertAfter {s : LSet} {bs : List Nat} (h : Inv s bs) (a : Nat) (vs : List Nat)
    (d : Dir) (c : Cursor) (hp : c.Valid s) :
    Sim s d c (insertAfter s a vs) (Spec.insertAfter (absSt s bs d c) a vs) := by
  unfold insertAfter Spec.insertAfter
  cases hl : lookup s a with
  | none =>
    have : a ∉ (absSt s bs d c).L := (h.lookup_isNone_iff a).1 hl
    simp only [this, if_false]
    exact Sim.same h d c false
  | some b =>
    obtain ⟨hb, hv⟩ := h.lookup_spec hl
    have hm : a ∈ (absSt s bs d c).L := by
      simp only [absSt, List.mem_map]; exact ⟨b, hb, by simp [vl, hv]⟩
    simp only [hm, if_true]
    exact sim_insertManyAfter d c vs h (Or.inr ⟨hb, by simp [vl, hv]⟩) hp

theorem AncRel.pred {s : LSet} {l1 l2 : List Nat} {b : Nat} (h : Inv s (l1 ++ b :: l2)) :
    AncRel s (l1 ++ b :: l2) (pv s b) (Spec.predOf ((l1 ++ b :: l2).map (vl s)) (vl s b)) := by
  rw [h.around.1]
  have hnd := h.nodup
  unfold Spec.predOf
  simp only
  rw [h.vals_idxOf (by simp), idxOf_mid (nodup_insMid_left hnd)]
  rcases List.eq_nil_or_concat l1 with rfl | ⟨A, x, rfl⟩
  · left; simp
  · right
    simp only [List.concat_eq_append]
    rw [lastOr_append_singleton]
    refine ⟨by simp, ?_⟩
    simp

theorem sim_insertBefore {s : LSet} {bs : List Nat} (h : Inv s bs) (a : Nat) (vs : List Nat)
    (d : Dir) (c : Cursor) (hp : c.Valid s) :
    Sim s d c (insertBefore s a vs) (Spec.insertBefore (absSt s bs d c) a vs) := by
  unfold insertBefore Spec.insertBefore
  cases hl : lookup s a with
  | none =>
    have : a ∉ (absSt s bs d c).L := (h.lookup_isNone_iff a).1 hl
    simp only [this, if_false]
    exact Sim.same h d c false
  | some b =>
    obtain ⟨hb, hv⟩ := h.lookup_spec hl
    have hm : a ∈ (absSt s bs d c).L := by
      simp only [absSt, List.mem_map]; exact ⟨b, hb, by simp [vl, hv]⟩
    simp only [hm, if_true]
    obtain ⟨l1, l2, rfl⟩ := List.append_of_mem hb
    have hr := AncRel.pred h
    have hva : vl s b = a := by simp [vl, hv]
    rw [hva] at hr
    exact sim_insertManyAfter d c vs h hr hp

theorem sim_remove {s : LSet} {bs : List Nat} (h : Inv s bs) (v : Nat) (d : Dir) (c : Cursor)
    (hp : c.Valid s) : Sim s d c (remove s v) (Spec.remove (absSt s bs d c) v) := by
  unfold Spec.remove
  by_cases hm : v ∈ (absSt s bs d c).L
  · simp only [hm, if_true]
    simp only [absSt, List.mem_map] at hm
    obtain ⟨n, hn, hvn⟩ := hm
    have hv : val s n = some v := by rw [h.val_eq_vl hn, hvn]
    obtain ⟨l1, l2, rfl⟩ := List.append_of_mem hn
    rw [h.remove_eq hn hv]
    exact ⟨l1 ++ l2, inv_rmv h hv, sim_rmv h hv d c hp, rfl, frozen_rmv h, fun hr => by cases hr⟩
  · simp only [hm, if_false]
    have : ∀ b ∈ bs, val s b ≠ some v := by
      intro b hb hv
      apply hm
      simp only [absSt, List.mem_map]
      exact ⟨b, hb, by simp [vl, hv]⟩
    rw [h.remove_absent this]
    exact Sim.same h d c false

theorem sim_apply {s : LSet} {bs : List Nat} (h : Inv s bs) (op : Op) (d : Dir) (c : Cursor)
    (hp : c.Valid s) : Sim s d c (apply s op) (Spec.apply (absSt s bs d c) op) := by
  cases op with
  | append v => exact sim_append h v d c hp
  | extend vs => exact sim_extend d c vs h hp
  | insertAfter a vs => exact sim_insertAfter h a vs d c hp
  | insertBefore a vs => exact sim_insertBefore h a vs d c hp
  | remove v => exact sim_remove h v d c hp

theorem frozen_apply {s : LSet} {bs : List Nat} (h : Inv s bs) (op : Op) : Frozen s (apply s op).1 :=
  (sim_apply h op .fwd .notStarted h.size_pos).frozen

end IrVerif.LinkedSet
