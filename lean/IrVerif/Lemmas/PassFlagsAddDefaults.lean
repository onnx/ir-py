/-
C14: AddDefaultAttributesPass - flag honesty, idempotence, measure (Model/PassFlags4.lean).
-/
import IrVerif.Model.PassFlags4
import IrVerif.Lemmas.PassInfra
namespace IrVerif.PassFlags4

theorem hasAttr_append (attrs : List (String × Nat)) (k : String) (v : Nat) (k' : String) :
    hasAttr (attrs ++ [(k, v)]) k' = (hasAttr attrs k' || decide (k = k')) := by
  simp [hasAttr]

theorem addStep_flag_mono (p : List (String × Nat) × Bool) (d : AttrDef) (h : p.2 = true) : (addStep p d).2 = true := by
  unfold addStep; split
  · exact h
  · split
    · exact h
    · rfl

theorem foldl_flag_mono (ds : List AttrDef) (p : List (String × Nat) × Bool) (h : p.2 = true) :
    (ds.foldl addStep p).2 = true :=
  ListFacts.foldl_inv (fun p => p.2 = true) addStep addStep_flag_mono ds p h

/-- no absent default: the loop does nothing -/
theorem foldl_noop (ds : List AttrDef) (p : List (String × Nat) × Bool) (h : ∀ d ∈ ds, absentB p.1 d = false) :
    ds.foldl addStep p = p :=
  ListFacts.foldl_inv_mem (fun x => x = p) addStep (fun x hx d hd' => by
    subst hx
    have hd := h d hd'
    unfold addStep
    simp only [absentB, Bool.and_eq_false_iff, Bool.not_eq_eq_eq_not] at hd
    split
    · rfl
    · rename_i hc
      simp only [Bool.or_eq_true, not_or, Bool.not_eq_true] at hc
      rcases hd with (hd | hd) | hd
      · rw [hd] at hc; simp at hc
      · rw [hd] at hc; simp at hc
      · cases hdd : d.default with
        | none => rfl
        | some v => rw [hdd] at hd; simp at hd) rfl

/-- the flag stays down only when nothing was added -/
theorem foldl_flag_false : ∀ (ds : List AttrDef) (p : List (String × Nat) × Bool),
    (ds.foldl addStep p).2 = false → ds.foldl addStep p = p
  | [], _, _ => rfl
  | d :: ds, p, h => by
    simp only [List.foldl_cons] at h ⊢
    have h1 : (addStep p d).2 = false := by
      cases hb : (addStep p d).2 with
      | false => rfl
      | true => rw [foldl_flag_mono ds _ hb] at h; simp at h
    have h2 : addStep p d = p := by
      unfold addStep at h1 ⊢
      split
      · rfl
      · rename_i hc
        simp only [hc] at h1
        cases hdd : d.default with
        | none => rfl
        | some v => simp [hdd] at h1
    rw [h2] at h ⊢
    exact foldl_flag_false ds p h

/-- absence only shrinks along the loop -/
theorem addStep_absent_mono (p : List (String × Nat) × Bool) (d d' : AttrDef) (h : absentB p.1 d' = false) :
    absentB (addStep p d).1 d' = false := by
  unfold addStep; split
  · exact h
  · split
    · exact h
    · -- appending an attribute can only turn `hasAttr` from false to true, and `absentB` is antitone in it
      simp only [absentB, hasAttr_append] at h ⊢
      cases hh : hasAttr p.1 d'.name
      · rw [hh] at h
        simp only [Bool.not_false, Bool.and_true] at h
        rw [Bool.and_right_comm, h, Bool.false_and]
      · simp only [Bool.true_or, Bool.not_true, Bool.and_false, Bool.false_and]

theorem foldl_absent_mono (ds : List AttrDef) (p : List (String × Nat) × Bool) (d' : AttrDef)
    (h : absentB p.1 d' = false) : absentB (ds.foldl addStep p).1 d' = false :=
  ListFacts.foldl_inv (fun p => absentB p.1 d' = false) addStep (fun p d h => addStep_absent_mono p d d' h) ds p h

theorem addStep_self (p : List (String × Nat) × Bool) (d : AttrDef) : absentB (addStep p d).1 d = false := by
  unfold addStep; split
  · rename_i hc
    simp only [Bool.or_eq_true] at hc
    rcases hc with hc | hc <;> simp [absentB, hc]
  · split
    · rename_i hn; simp [absentB, hn]
    · simp [absentB, hasAttr_append]

/-- after the loop nothing is absent -/
theorem foldl_complete : ∀ (ds : List AttrDef) (p : List (String × Nat) × Bool),
    ∀ d ∈ ds, absentB (ds.foldl addStep p).1 d = false
  | [], _, _, h => by simp at h
  | d :: ds, p, d', h => by
    simp only [List.foldl_cons]
    rcases List.mem_cons.1 h with rfl | h
    · exact foldl_absent_mono ds _ _ (addStep_self p _)
    · exact foldl_complete ds _ d' h

theorem defsOf_attrs (tbl : SchemaTable) (imports : List (String × Nat)) (n : ANode) (a : List (String × Nat)) :
    defsOf tbl imports { n with attrs := a } = defsOf tbl imports n := rfl

theorem addNode_flag_false (tbl : SchemaTable) (imports : List (String × Nat)) (n : ANode)
    (h : (addNode tbl imports n).2 = false) : (addNode tbl imports n).1 = n := by
  unfold addNode at h ⊢
  simp only [] at h ⊢
  rw [foldl_flag_false _ _ h]

theorem absentNode_after (tbl : SchemaTable) (imports : List (String × Nat)) (n : ANode) :
    absentNode tbl imports (addNode tbl imports n).1 = 0 := by
  unfold absentNode addNode
  simp only [defsOf_attrs, List.length_eq_zero_iff, List.filter_eq_nil_iff, Bool.not_eq_true]
  exact fun d hd => foldl_complete _ _ d hd

theorem addNode_flag_iff (tbl : SchemaTable) (imports : List (String × Nat)) (n : ANode) :
    (addNode tbl imports n).2 = false ↔ absentNode tbl imports n = 0 := by
  constructor
  · intro h
    have := absentNode_after tbl imports n
    rw [addNode_flag_false tbl imports n h] at this
    exact this
  · intro h
    unfold absentNode at h
    simp only [List.length_eq_zero_iff, List.filter_eq_nil_iff, Bool.not_eq_true] at h
    unfold addNode
    simp only []
    rw [foldl_noop _ _ h]

theorem addNode_idem (tbl : SchemaTable) (imports : List (String × Nat)) (n : ANode) :
    addNode tbl imports (addNode tbl imports n).1 = ((addNode tbl imports n).1, false) := by
  have h0 := (addNode_flag_iff tbl imports (addNode tbl imports n).1).2 (absentNode_after tbl imports n)
  exact Prod.ext (addNode_flag_false tbl imports _ h0) h0

theorem addDefaults_flag_false (tbl : SchemaTable) (imports : List (String × Nat)) (ns : List ANode)
    (h : (addDefaults tbl imports ns).2 = false) : (addDefaults tbl imports ns).1 = ns := by
  unfold addDefaults at h ⊢
  simp only [List.any_eq_false, Bool.not_eq_true] at h ⊢
  conv => rhs; rw [← List.map_id ns]
  exact List.map_congr_left (fun n hn => addNode_flag_false tbl imports n (h n hn))

theorem absentCount_after (tbl : SchemaTable) (imports : List (String × Nat)) (ns : List ANode) :
    absentCount tbl imports (addDefaults tbl imports ns).1 = 0 := by
  unfold absentCount addDefaults
  simp only [List.map_map]
  induction ns with
  | nil => rfl
  | cons n ns ih => simp [absentNode_after, ih]

theorem addDefaults_flag_iff (tbl : SchemaTable) (imports : List (String × Nat)) (ns : List ANode) :
    (addDefaults tbl imports ns).2 = false ↔ absentCount tbl imports ns = 0 := by
  constructor
  · intro h
    have := absentCount_after tbl imports ns
    rw [addDefaults_flag_false tbl imports ns h] at this
    exact this
  · intro h
    unfold addDefaults; simp only [List.any_eq_false, Bool.not_eq_true]
    intro n hn
    refine (addNode_flag_iff tbl imports n).2 ?_
    unfold absentCount at h
    exact (ListFacts.sum_map_eq_zero_iff _ ns).1 h n hn

theorem addDefaults_idem (tbl : SchemaTable) (imports : List (String × Nat)) (ns : List ANode) :
    addDefaults tbl imports (addDefaults tbl imports ns).1 = ((addDefaults tbl imports ns).1, false) := by
  have h0 := (addDefaults_flag_iff tbl imports (addDefaults tbl imports ns).1).2 (absentCount_after tbl imports ns)
  exact Prod.ext (addDefaults_flag_false tbl imports _ h0) h0

end IrVerif.PassFlags4
