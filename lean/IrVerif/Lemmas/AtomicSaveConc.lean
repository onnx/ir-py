/-
Helper lemmas for the concurrent shard drivers of C08 (`Model/AtomicSaveConc.lean`): `publish` on the shared
world (used by the two-level run as well), invariants of the interleaved run `crun`.  Core Lean only.
-/
import IrVerif.Lemmas.AtomicSave
import IrVerif.Model.AtomicSaveConc
namespace IrVerif.AtomicSave

theorem emptySt_wf : WF emptySt :=
  ⟨fun p i h => by simp [emptySt, emptyFS] at h, rfl, rfl, fun _ => rfl⟩

/-- No tensor is "overwritten" when the destination does not exist (461-466: `samefile` needs both). -/
theorem overwrittenFrom_absent (fs : FS) (d : String) (hd : fs.file (.user d) = none) (ts : List Tensor) (i : Nat) :
    overwrittenFrom fs d i ts = [] := by
  rw [List.eq_nil_iff_forall_not_mem]
  intro k hk
  rcases (overwritten_spec fs d ts i k).mp hk with ⟨_, e, _, _, _, hs⟩
  cases hf : fs.file (.user e.path) <;> simp [sameFile, hd, hf] at hs

/-- The `try` body of the sequential model on a directory in which the destination does not exist is
the serial writer alone: no release loop, no `copymode`. -/
theorem tryBody_fresh (cfg : Cfg) (s0 : St) (hd : s0.fs.file (.user cfg.env.dest) = none) :
    tryBody cfg s0 = serialBody cfg.cb cfg.tensors := by
  simp [tryBody, serialBody, overwritten, overwrittenFrom_absent s0.fs cfg.env.dest hd, hd]

theorem serialBody_isWriter (cb : Bool) (ts : List Tensor) : ∀ e ∈ serialBody cb ts, e.isWriter = true := by
  intro e he
  simp only [serialBody, List.mem_append, List.mem_singleton] at he
  rcases he with (rfl | he) | rfl
  · rfl
  · rcases writeEffs_mem cb ts 0 e he with ⟨_, rfl⟩ | ⟨_, rfl⟩ | ⟨_, rfl⟩ <;> rfl
  · rfl

theorem newBytes_serial (newMode : Nat) (cb : Bool) (d : String) (ts : List Tensor) :
    newBytes newMode (serialJob cb (d, ts)) = some (image ts) := by
  have h := tryBody_end ⟨⟨d, newMode⟩, ts, cb⟩ emptySt emptySt_wf
  rw [tryBody_fresh ⟨⟨d, newMode⟩, ts, cb⟩ emptySt rfl] at h
  simp only [newBytes, bodyEnd, serialJob]
  simp only [applyAll] at h
  rw [h.1]
  simp only [Option.map_some]
  rw [h.2.1]

def noTmp (s : St) : Prop := s.fs.isDir .tmpDir = false ∧ s.fs.file .tmpFile = none

/-- The private world of a driver is determined by how far it got: before `mkdtemp` it is empty; in
the `try` block it is what the executed prefix of its body made of it; past `os.replace` nothing is needed of it. -/
def PInv (nm : Nat) (p : Proc) : Prop :=
  match p.pc with
  | .init => p.loc = emptySt
  | .body rest =>
    ∃ dn, dn ++ rest = p.job.body ∧
      p.loc = applyAll ⟨p.job.dest, nm⟩ dn (apply ⟨p.job.dest, nm⟩ emptySt .mkdtemp)
  | _ => True

/-- Temporary paths by program counter, as long as no clean-up effect failed. -/
def Clean (p : Proc) : Prop :=
  match p.pc with
  | .init => noTmp p.loc
  | .fin2 _ => p.loc.fs.file .tmpFile = none
  | .done _ => noTmp p.loc
  | _ => True

/-- An exception is in flight in (or has left) the driver. -/
def Exc : PC → Prop
  | .fin1 b => b = true
  | .fin2 b => b = true
  | .done b => b = true
  | _ => False

theorem noTmp_empty : noTmp emptySt := ⟨rfl, rfl⟩

/-- `stepProc` as a relation, one constructor per arm (`F`: the effect failed). -/
inductive ProcStep (nm : Nat) (sh : St) (p : Proc) : Option Nat → St → Proc → Prop
  | mkdtemp : p.pc = .init →
      ProcStep nm sh p none sh { p with pc := .body p.job.body, loc := apply ⟨p.job.dest, nm⟩ p.loc .mkdtemp }
  | mkdtempF (q : Nat) : p.pc = .init → ProcStep nm sh p (some q) sh { p with pc := .done true }
  | replace : p.pc = .body [] →
      ProcStep nm sh p none (publish p.job.dest sh p.loc).1
        { p with pc := .fin1 false, loc := (publish p.job.dest sh p.loc).2 }
  | replaceF (q : Nat) : p.pc = .body [] → ProcStep nm sh p (some q) sh { p with pc := .fin1 true }
  | eff (e : Eff) (r : List Eff) : p.pc = .body (e :: r) →
      ProcStep nm sh p none sh { p with pc := .body r, loc := apply ⟨p.job.dest, nm⟩ p.loc e }
  | effF (e : Eff) (r : List Eff) (q : Nat) : p.pc = .body (e :: r) →
      ProcStep nm sh p (some q) sh { p with pc := .fin1 true, loc := applyPartial ⟨p.job.dest, nm⟩ p.loc e q }
  | remove (b : Bool) : p.pc = .fin1 b →
      ProcStep nm sh p none sh { p with pc := .fin2 b, loc := apply ⟨p.job.dest, nm⟩ p.loc .removeTmp }
  | removeF (b : Bool) (q : Nat) : p.pc = .fin1 b → ProcStep nm sh p (some q) sh { p with pc := .done true }
  | rmdir (b : Bool) : p.pc = .fin2 b →
      ProcStep nm sh p none sh { p with pc := .done b, loc := apply ⟨p.job.dest, nm⟩ p.loc .rmdirTmp }
  | rmdirF (b : Bool) (q : Nat) : p.pc = .fin2 b → ProcStep nm sh p (some q) sh { p with pc := .done true }
  | done (b : Bool) (o : Option Nat) : p.pc = .done b → ProcStep nm sh p o sh p

theorem stepProc_rel (nm : Nat) (sh : St) (p : Proc) (o : Option Nat) {sh' : St} {p' : Proc}
    (hs : stepProc nm sh p o = (sh', p')) : ProcStep nm sh p o sh' p' := by
  unfold stepProc at hs
  dsimp only at hs
  split at hs <;> cases hs
  · exact .mkdtemp ‹_›
  · exact .mkdtempF _ ‹_›
  · exact .replace ‹_›
  · exact .replaceF _ ‹_›
  · exact .eff _ _ ‹_›
  · exact .effF _ _ _ ‹_›
  · exact .remove _ ‹_›
  · exact .removeF _ _ ‹_›
  · exact .rmdir _ ‹_›
  · exact .rmdirF _ _ ‹_›
  · exact .done _ _ ‹_›

theorem pinv_step (nm : Nat) (sh : St) (p : Proc) (o : Option Nat) (h : PInv nm p) :
    PInv nm (stepProc nm sh p o).2 := by
  rcases hst : stepProc nm sh p o with ⟨sh', p'⟩
  cases stepProc_rel nm sh p o hst with
  | mkdtemp hpc =>
    simp only [PInv, hpc] at h
    exact ⟨[], rfl, by rw [h]; rfl⟩
  | eff e r hpc =>
    simp only [PInv, hpc] at h
    rcases h with ⟨dn, hdn, hl⟩
    refine ⟨dn ++ [e], by simp [← hdn], ?_⟩
    rw [hl, applyAll_append]
    rfl
  | done b o hpc => exact h
  | _ => exact trivial

theorem clean_step (nm : Nat) (sh : St) (p : Proc) (o : Option Nat) (h : Clean p)
    (hok : o.isSome = true → nextEff p.pc ≠ some .removeTmp ∧ nextEff p.pc ≠ some .rmdirTmp) :
    Clean (stepProc nm sh p o).2 := by
  rcases hst : stepProc nm sh p o with ⟨sh', p'⟩
  cases stepProc_rel nm sh p o hst with
  | mkdtempF q hpc => simpa [Clean, hpc] using h
  | remove b hpc => simp [Clean, apply, upd]
  | removeF b q hpc => exact absurd (by rw [hpc]; rfl) (hok rfl).1
  | rmdir b hpc =>
    simp only [Clean, hpc] at h
    simp [Clean, noTmp, apply, h, upd]
  | rmdirF b q hpc => exact absurd (by rw [hpc]; rfl) (hok rfl).2
  | done b o hpc => exact h
  | _ => exact trivial

theorem stepProc_job (nm : Nat) (sh : St) (p : Proc) (o : Option Nat) : (stepProc nm sh p o).2.job = p.job := by
  rcases hst : stepProc nm sh p o with ⟨sh', p'⟩
  cases stepProc_rel nm sh p o hst <;> rfl

theorem stepProc_sh (nm : Nat) (sh : St) (p : Proc) (o : Option Nat) :
    (stepProc nm sh p o).1 = sh ∨
    (p.pc = .body [] ∧ o = none ∧ (stepProc nm sh p o).1 = (publish p.job.dest sh p.loc).1 ∧
      (stepProc nm sh p o).2.loc = (publish p.job.dest sh p.loc).2) := by
  rcases hst : stepProc nm sh p o with ⟨sh', p'⟩
  cases stepProc_rel nm sh p o hst with
  | replace hpc => exact Or.inr ⟨hpc, rfl, rfl, rfl⟩
  | _ => exact Or.inl rfl

theorem exc_step_fault (nm : Nat) (sh : St) (p : Proc) (q : Nat) (e : Eff) (he : nextEff p.pc = some e) :
    Exc (stepProc nm sh p (some q)).2.pc := by
  rcases hst : stepProc nm sh p (some q) with ⟨sh', p'⟩
  cases stepProc_rel nm sh p (some q) hst with
  | done b o hpc => rw [hpc] at he; cases he
  | _ => exact rfl

theorem exc_step_keep (nm : Nat) (sh : St) (p : Proc) (o : Option Nat) (h : Exc p.pc) :
    Exc (stepProc nm sh p o).2.pc := by
  rcases hst : stepProc nm sh p o with ⟨sh', p'⟩
  cases stepProc_rel nm sh p o hst with
  | remove b hpc | rmdir b hpc => rw [hpc] at h; exact h
  | done b o hpc => exact h
  | mkdtemp hpc | replace hpc | eff _ _ hpc => rw [hpc] at h; exact h.elim
  | _ => exact rfl

theorem nexc_step_ok (nm : Nat) (sh : St) (p : Proc) (h : ¬ Exc p.pc) :
    ¬ Exc (stepProc nm sh p none).2.pc := by
  rcases hst : stepProc nm sh p none with ⟨sh', p'⟩
  cases stepProc_rel nm sh p none hst with
  | remove b hpc | rmdir b hpc => rw [hpc] at h; exact h
  | done b o hpc => exact h
  | mkdtemp hpc | eff _ _ hpc => exact id
  | replace hpc => exact Bool.false_ne_true

structure Grown (s0 sh : St) : Prop where
  data : ∀ i, i < s0.fs.next → sh.fs.data i = s0.fs.data i
  mode : ∀ i, i < s0.fs.next → sh.fs.mode i = s0.fs.mode i
  next : s0.fs.next ≤ sh.fs.next
  named : Named sh

theorem publish_none {d : String} {sh loc : St} (h : loc.fs.file .tmpFile = none) :
    publish d sh loc = (sh, loc) := by
  simp only [publish, h]

theorem publish_grown {s0 sh : St} (d : String) (loc : St) (h : Grown s0 sh) : Grown s0 (publish d sh loc).1 := by
  cases ht : loc.fs.file .tmpFile with
  | none => rw [publish_none ht]; exact h
  | some t =>
    have hn := h.next
    simp only [publish, ht]
    refine ⟨fun i hi => ?_, fun i hi => ?_, Nat.le_succ_of_le hn, fun p i hp => ?_⟩
    · exact (upd_ne _ _ (by omega : i ≠ sh.fs.next)).trans (h.data i hi)
    · exact (upd_ne _ _ (by omega : i ≠ sh.fs.next)).trans (h.mode i hi)
    · show i < sh.fs.next + 1
      simp only [upd] at hp
      split at hp
      · simp only [Option.some.injEq] at hp; omega
      · have := h.named p i hp; omega

theorem publish_frame (d : String) (sh loc : St) :
    (publish d sh loc).1.fs.isDir = sh.fs.isDir ∧ (publish d sh loc).1.fs.file .tmpFile = sh.fs.file .tmpFile ∧
    (publish d sh loc).1.valid = sh.valid ∧ (publish d sh loc).1.mapped = sh.mapped := by
  unfold publish
  split
  · exact ⟨rfl, by simp [upd], rfl, rfl⟩
  · exact ⟨rfl, rfl, rfl, rfl⟩

def Each {J : Type} (jobs : List J) (dest : J → String) (B : J → Bytes → Prop) (s0 sh : St) : Prop :=
  ∀ n, sh.fs.file (.user n) = s0.fs.file (.user n) ∨
    ∃ j ∈ jobs, dest j = n ∧ ∃ i, sh.fs.file (.user n) = some i ∧ s0.fs.next ≤ i ∧ B j (sh.fs.data i)

/-- What every state of a concurrent run keeps of the shared world; `publish` is its only writer. -/
structure Shared {J : Type} (jobs : List J) (dest : J → String) (B : J → Bytes → Prop) (s0 sh : St) : Prop where
  grown : Grown s0 sh
  each : Each jobs dest B s0 sh
  valid : sh.valid = s0.valid
  mapped : sh.mapped = s0.mapped

theorem Shared.publish {J : Type} {jobs : List J} {dest : J → String} {B : J → Bytes → Prop} {s0 sh : St}
    (h : Shared jobs dest B s0 sh) {j0 : J} (hj0 : j0 ∈ jobs) (loc : St)
    (hb0 : ∀ t, loc.fs.file .tmpFile = some t → B j0 (loc.fs.data t)) :
    Shared jobs dest B s0 (publish (dest j0) sh loc).1 := by
  have hf := publish_frame (dest j0) sh loc
  refine ⟨publish_grown (dest j0) loc h.grown, ?_, hf.2.2.1.trans h.valid, hf.2.2.2.trans h.mapped⟩
  cases ht : loc.fs.file .tmpFile with
  | none => rw [publish_none ht]; exact h.each
  | some t =>
    intro n
    simp only [AtomicSave.publish, ht]
    by_cases hn : n = dest j0
    · exact Or.inr ⟨j0, hj0, hn.symm, sh.fs.next, by simp [upd, hn], h.grown.next, by simpa [upd] using hb0 t ht⟩
    · rcases h.each n with ho | ⟨j, hj, hjd, i, hi, hlo, hb⟩
      · left
        simpa [upd, hn] using ho
      · have hne : i ≠ sh.fs.next := Nat.ne_of_lt (h.grown.named _ i hi)
        exact Or.inr ⟨j, hj, hjd, i, by simpa [upd, hn] using hi, hlo, by simpa [upd, hne] using hb⟩

theorem Shared.read {J : Type} {jobs : List J} {dest : J → String} {B : J → Bytes → Prop} {s0 sh : St}
    (h : Shared jobs dest B s0 sh) (h0 : WF s0) (habs : ∀ j ∈ jobs, s0.fs.file (.user (dest j)) = none) :
    Kept s0 sh ∧
    (∀ n, content sh (.user n) = content s0 (.user n) ∨
      ∃ j ∈ jobs, dest j = n ∧ content s0 (.user n) = none ∧ ∃ b, content sh (.user n) = some b ∧ B j b) := by
  refine ⟨⟨fun n i hn => ?_, h.grown.data, h.grown.mode, h.grown.next⟩, fun n => ?_⟩
  · rcases h.each n with ho | ⟨j, hjm, hjd, _⟩
    · exact ho.trans hn
    · rw [← hjd, habs j hjm] at hn; cases hn
  · rcases h.each n with ho | ⟨j, hjm, hjd, i, hfi, _, hb⟩
    · exact Or.inl (file_map_congr ho fun i hi => h.grown.data i (h0.named _ _ hi))
    · exact Or.inr ⟨j, hjm, hjd, by simp only [content, ← hjd, habs j hjm, Option.map_none],
        sh.fs.data i, by simp only [content, hfi, Option.map_some], hb⟩

structure CInv (nm : Nat) (jobs : List Job) (s0 : St) (c : CSt) : Prop where
  jobOf : ∀ k, (c.procs k).job = (initProcs jobs k).job
  out : ∀ k, jobs.length ≤ k → (c.procs k).pc = .done false
  pinv : ∀ k, PInv nm (c.procs k)
  data : ∀ i, i < s0.fs.next → c.sh.fs.data i = s0.fs.data i
  mode : ∀ i, i < s0.fs.next → c.sh.fs.mode i = s0.fs.mode i
  next : s0.fs.next ≤ c.sh.fs.next
  named : ∀ p i, c.sh.fs.file p = some i → i < c.sh.fs.next
  each : ∀ n, c.sh.fs.file (.user n) = s0.fs.file (.user n) ∨
    ∃ j ∈ jobs, j.dest = n ∧ ∃ i, c.sh.fs.file (.user n) = some i ∧ s0.fs.next ≤ i ∧
      some (c.sh.fs.data i) = newBytes nm j
  isDir : c.sh.fs.isDir = s0.fs.isDir
  tmp : c.sh.fs.file .tmpFile = s0.fs.file .tmpFile
  valid : c.sh.valid = s0.valid
  mapped : c.sh.mapped = s0.mapped

theorem CInv.shared {nm : Nat} {jobs : List Job} {s0 : St} {c : CSt} (h : CInv nm jobs s0 c) :
    Shared jobs Job.dest (fun j b => some b = newBytes nm j) s0 c.sh :=
  ⟨⟨h.data, h.mode, h.next, h.named⟩, h.each, h.valid, h.mapped⟩

theorem initProcs_job_mem (jobs : List Job) (k : Nat) (hk : k < jobs.length) :
    (initProcs jobs k).job ∈ jobs := by
  simp only [initProcs]
  rw [List.getElem?_eq_getElem hk]
  exact List.getElem_mem hk

theorem cinv_init (nm : Nat) (jobs : List Job) (s0 : St) (h0 : WF s0) : CInv nm jobs s0 ⟨s0, initProcs jobs⟩ where
  jobOf := fun _ => rfl
  out := fun k hk => by
    simp only [initProcs]
    rw [List.getElem?_eq_none hk]
  pinv := fun k => by
    simp only [initProcs]
    cases jobs[k]? <;> simp [PInv]
  data := fun _ _ => rfl
  mode := fun _ _ => rfl
  next := Nat.le_refl _
  named := h0.named
  each := fun _ => Or.inl rfl
  isDir := rfl
  tmp := rfl
  valid := rfl
  mapped := rfl

theorem cinv_step (nm : Nat) (jobs : List Job) (s0 : St) (c : CSt) (k : Nat) (o : Option Nat) (e : Eff)
    (h : CInv nm jobs s0 c) (he : nextEff (c.procs k).pc = some e) :
    CInv nm jobs s0 ⟨(stepProc nm c.sh (c.procs k) o).1, upd c.procs k (stepProc nm c.sh (c.procs k) o).2⟩ := by
  have hk : k < jobs.length := by
    apply Nat.lt_of_not_le
    intro hle
    rw [h.out k hle] at he
    simp [nextEff] at he
  have hjob : ∀ k', ((upd c.procs k (stepProc nm c.sh (c.procs k) o).2) k').job = (initProcs jobs k').job := by
    intro k'
    by_cases hkk : k' = k
    · subst hkk; rw [upd_same, stepProc_job]; exact h.jobOf k'
    · rw [upd_ne _ _ hkk]; exact h.jobOf k'
  have hout : ∀ k', jobs.length ≤ k' → ((upd c.procs k (stepProc nm c.sh (c.procs k) o).2) k').pc = .done false := by
    intro k' hk'
    have : k' ≠ k := by omega
    rw [upd_ne _ _ this]; exact h.out k' hk'
  have hpinv : ∀ k', PInv nm ((upd c.procs k (stepProc nm c.sh (c.procs k) o).2) k') :=
    fun k' => upd_pred _ _ _ _ (h.pinv k') (pinv_step nm c.sh _ o)
  rcases stepProc_sh nm c.sh (c.procs k) o with hs | ⟨hpc, _, hs, _⟩
  · rw [hs]
    exact ⟨hjob, hout, hpinv, h.data, h.mode, h.next, h.named, h.each, h.isDir, h.tmp, h.valid, h.mapped⟩
  · rw [hs]
    have hmem : (c.procs k).job ∈ jobs := by rw [h.jobOf k]; exact initProcs_job_mem jobs k hk
    -- the driver is at `os.replace`: its whole body ran, so its temporary file holds `newBytes`
    have S := h.shared.publish hmem (c.procs k).loc fun t ht => by
      have hp := h.pinv k
      simp only [PInv, hpc, List.append_nil] at hp
      rcases hp with ⟨dn, hdn, hl⟩
      subst hdn
      show some ((c.procs k).loc.fs.data t) = newBytes nm (c.procs k).job
      simp only [newBytes, bodyEnd]
      rw [hl] at ht ⊢
      simp only [applyAll] at ht ⊢
      rw [ht]
      rfl
    have hf := publish_frame (c.procs k).job.dest c.sh (c.procs k).loc
    exact ⟨hjob, hout, hpinv, S.grown.data, S.grown.mode, S.grown.next, S.grown.named, S.each, hf.1.trans h.isDir,
      hf.2.1.trans h.tmp, S.valid, S.mapped⟩

theorem crun_inv (nm : Nat) {P : CSt → Prop} (ok : Eff → Bool → Bool)
    (hstep : ∀ c k o e, P c → nextEff (c.procs k).pc = some e → ok e o.isSome = true →
      P ⟨(stepProc nm c.sh (c.procs k) o).1, upd c.procs k (stepProc nm c.sh (c.procs k) o).2⟩) :
    ∀ (sched : List Pick) (c : CSt), P c →
      (∀ st ∈ (crun nm sched c).1, ok st.eff st.failed = true) →
      P (crun nm sched c).2 ∧ ∀ st ∈ (crun nm sched c).1, P st.st
  | [], c, hc, _ => by simp [crun, hc]
  | pk :: r, c, hc, hok => by
    simp only [crun] at hok ⊢
    split
    · rename_i hn
      simp only [hn] at hok
      exact crun_inv nm ok hstep r c hc hok
    · rename_i e hn
      simp only [hn] at hok
      have h1 := hstep c pk.k pk.fault e hc hn (hok ⟨pk.k, e, pk.fault.isSome, _⟩ (List.mem_cons_self ..))
      have ih := crun_inv nm ok hstep r _ h1 (fun st hst => hok st (List.mem_cons_of_mem _ hst))
      refine ⟨ih.1, ?_⟩
      intro st hst
      simp only [List.mem_cons] at hst
      rcases hst with rfl | hst
      · exact h1
      · exact ih.2 st hst

theorem allDone_spec {n : Nat} {c : CSt} (h : allDone n c = true) :
    ∀ k, k < n → ∃ b, (c.procs k).pc = .done b := by
  intro k hk
  have := List.all_eq_true.mp h k (List.mem_range.mpr hk)
  split at this
  · exact ⟨_, ‹_›⟩
  · cases this

theorem crun_exc_persist (nm : Nat) (sched : List Pick) (c : CSt) (k : Nat) (h : Exc (c.procs k).pc) :
    Exc ((crun nm sched c).2.procs k).pc :=
  (crun_inv nm (P := fun c => Exc (c.procs k).pc) (fun _ _ => true)
    (fun c _ o _ hc _ _ => upd_pred (Q := fun p : Proc => Exc p.pc) _ _ _ _ hc (exc_step_keep nm c.sh _ o))
    sched c h (fun _ _ => rfl)).1

theorem crun_failed_exc (nm : Nat) : ∀ (sched : List Pick) (c : CSt),
    ∀ st ∈ (crun nm sched c).1, st.failed = true → Exc ((crun nm sched c).2.procs st.k).pc
  | [], _, st, hst, _ => by simp [crun] at hst
  | pk :: r, c, st, hst, hf => by
    cases hn : nextEff (c.procs pk.k).pc with
    | none =>
      simp only [crun, hn] at hst ⊢
      exact crun_failed_exc nm r c st hst hf
    | some e =>
      simp only [crun, hn] at hst ⊢
      simp only [List.mem_cons] at hst
      rcases hst with rfl | hst
      · simp only at hf ⊢
        apply crun_exc_persist nm r _ pk.k
        simp only [upd_same]
        cases hq : pk.fault with
        | none => simp [hq] at hf
        | some q => exact exc_step_fault nm c.sh _ q e hn
      · exact crun_failed_exc nm r _ st hst hf

theorem crun_noexc (nm : Nat) (sched : List Pick) (c : CSt) (h : ∀ k, ¬ Exc (c.procs k).pc)
    (hno : ∀ st ∈ (crun nm sched c).1, st.failed = false) : ∀ k, ¬ Exc ((crun nm sched c).2.procs k).pc :=
  (crun_inv nm (P := fun c => ∀ k, ¬ Exc (c.procs k).pc) (fun _ b => !b)
    (fun c k o _ hc _ hok k' => by
      have ho : o = none := by cases o <;> simp_all
      subst ho
      exact upd_pred (Q := fun p : Proc => ¬ Exc p.pc) _ _ _ _ (hc k') (nexc_step_ok nm c.sh _))
    sched c h (fun st hst => by simp [hno st hst])).1

theorem crun_clean (nm : Nat) (sched : List Pick) (c : CSt) (h : ∀ k, Clean (c.procs k))
    (hcl : ∀ st ∈ (crun nm sched c).1, st.failed = true → st.eff ≠ .removeTmp ∧ st.eff ≠ .rmdirTmp) :
    ∀ k, Clean ((crun nm sched c).2.procs k) :=
  (crun_inv nm (P := fun c => ∀ k, Clean (c.procs k)) (fun e b => !b || (e != .removeTmp && e != .rmdirTmp))
    (fun c k o e hc he hok k' =>
      upd_pred (Q := Clean) _ _ _ _ (hc k') fun hq => clean_step nm c.sh _ o hq fun hs => by
        rw [he]
        simp only [hs, Bool.not_true, Bool.false_or, Bool.and_eq_true, bne_iff_ne, ne_eq] at hok
        exact ⟨fun h => hok.1 (Option.some.inj h), fun h => hok.2 (Option.some.inj h)⟩)
    sched c h (fun st hst => by
      cases hf : st.failed with
      | false => rfl
      | true =>
        have := hcl st hst hf
        simp [this.1, this.2])).1

end IrVerif.AtomicSave
