/-
Lemmas/SemSubst.lean — substitutions of value ids: the new environment read through the substitution is the old
one (`Rel`, `RelOn`); what the passes that replace values share; soundness of the deep substitution `substG`.
-/
import IrVerif.Model.Passes
import IrVerif.Lemmas.SemSyntax
namespace IrVerif.Passes
open IrVerif.Sem
variable {Val : Type}

theorem evalN_identityNode (I : Interp Val) (z f : VId) (ρ : Env Val) :
    evalN I (identityNode z f) ρ = ρ.bind [f] [ρ z] := by
  simp [identityNode, evalN, trimNone, evalArgs, nodeResults, isIdentityOp]

def Rel (σ : Subst) (ρ ρ' : Env Val) : Prop := ∀ v, ρ v = ρ' (σ.app v)

def SubstOK (σ : Subst) (D : List VId) : Prop := ∀ p ∈ σ, p.1 ∉ D ∧ p.2 ∉ D

theorem SubstOK.mono {σ : Subst} {D D' : List VId} (h : SubstOK σ D) (hD : ∀ v ∈ D', v ∈ D) :
    SubstOK σ D' := fun p hp => ⟨fun h' => (h p hp).1 (hD _ h'), fun h' => (h p hp).2 (hD _ h')⟩

theorem Subst.app_nil (v : VId) : Subst.app [] v = v := by simp [Subst.app]

theorem Subst.app_cons (y x : VId) (σ : Subst) (v : VId) :
    Subst.app ((y, x) :: σ) v = if v = y then x else σ.app v := by
  simp only [Subst.app, List.lookup_cons]
  by_cases h : v = y
  · simp [h]
  · have : (v == y) = false := by simpa using h
    simp [this, h]

theorem lookup_cons_ne {α β : Type} [BEq α] [LawfulBEq α] {v y : α} {a : β} {l : List (α × β)} (h : v ≠ y) :
    List.lookup v ((y, a) :: l) = List.lookup v l := by
  have : (v == y) = false := by simpa using h
  simp [List.lookup_cons, this]

theorem Subst.app_append (pairs σ : Subst) (v : VId) :
    Subst.app (pairs ++ σ) v = match pairs.lookup v with
      | some z => z
      | none => σ.app v := by
  simp only [Subst.app, List.lookup_append]
  cases pairs.lookup v <;> simp

theorem Subst.app_cases (σ : Subst) (v : VId) : σ.app v = v ∨ ∃ p ∈ σ, p.1 = v ∧ p.2 = σ.app v := by
  induction σ with
  | nil => exact Or.inl (Subst.app_nil v)
  | cons p σ ih =>
    obtain ⟨y, x⟩ := p
    rw [Subst.app_cons]
    by_cases h : v = y
    · simp only [h, if_true]
      exact Or.inr ⟨(y, x), by simp, rfl, rfl⟩
    · simp only [h, if_false]
      rcases ih with ih | ⟨p, hp, h1, h2⟩
      · exact Or.inl ih
      · exact Or.inr ⟨p, List.mem_cons_of_mem _ hp, h1, h2⟩

theorem app_of_not_key {σ : Subst} {v : VId} (h : ∀ p ∈ σ, p.1 ≠ v) : σ.app v = v := by
  rcases Subst.app_cases σ v with h' | ⟨p, hp, h1, _⟩
  · exact h'
  · exact absurd h1 (h p hp)

theorem app_mem_append {σ : Subst} {D D' X : List VId} (hD : ∀ v ∈ D, σ.app v ∈ D') (hX : ∀ p ∈ σ, p.1 ∉ X) :
    ∀ v ∈ D ++ X, σ.app v ∈ D' ++ X := by
  intro v hv
  rcases List.mem_append.1 hv with hv | hv
  · exact List.mem_append_left _ (hD v hv)
  · rw [app_of_not_key (fun p hp h => hX p hp (h ▸ hv))]
    exact List.mem_append_right _ hv

theorem mem_substIns' {σ : Subst} {ins : List (Option VId)} {w : VId} (h : w ∈ (substIns σ ins).filterMap id) :
    ∃ v ∈ ins.filterMap id, w = σ.app v := by
  simp only [substIns, List.mem_filterMap, List.mem_map, id] at h
  obtain ⟨o, ⟨o0, ho0, rfl⟩, ho⟩ := h
  cases o0 with
  | none => simp at ho
  | some v0 =>
    simp only [Option.map_some, Option.some.injEq] at ho
    exact ⟨v0, by simp [List.mem_filterMap]; exact ho0, ho.symm⟩

theorem mem_substIns_cases {σ : Subst} {ins : List (Option VId)} {w : VId} (h : w ∈ (substIns σ ins).filterMap id) :
    w ∈ ins.filterMap id ∨ ∃ p ∈ σ, p.2 = w := by
  obtain ⟨v, hv, rfl⟩ := mem_substIns' h
  rcases Subst.app_cases σ v with h' | ⟨p, hp, _, h2⟩
  · rw [h']; exact Or.inl hv
  · exact Or.inr ⟨p, hp, h2⟩

theorem SubstOK.app_of_mem {σ : Subst} {D : List VId} (h : SubstOK σ D) {v : VId} (hv : v ∈ D) :
    σ.app v = v := by
  rcases Subst.app_cases σ v with h' | ⟨p, hp, h1, _⟩
  · exact h'
  · exact absurd (h1 ▸ hv) (h p hp).1

theorem SubstOK.app_not_mem {σ : Subst} {D : List VId} (h : SubstOK σ D) {v : VId} (hv : v ∉ D) :
    σ.app v ∉ D := by
  rcases Subst.app_cases σ v with h' | ⟨p, hp, _, h2⟩
  · rw [h']; exact hv
  · rw [← h2]; exact (h p hp).2

/-- `RelN N` of the inliner: `P` = the ids below `N` -/
def RelOn (P : VId → Prop) (σ : Subst) (ρ ρ' : Env Val) : Prop := ∀ v, P v → ρ v = ρ' (σ.app v)

theorem RelOn.bind {P : VId → Prop} {σ : Subst} {ρ ρ' : Env Val} (h : RelOn P σ ρ ρ') {vs : List VId}
    (hok : SubstOK σ vs) (rs : List (Option Val)) : RelOn P σ (ρ.bind vs rs) (ρ'.bind vs rs) := by
  intro v hP
  by_cases hv : v ∈ vs
  · rw [hok.app_of_mem hv]
    simp [Env.bind, hv]
  · rw [Env.bind_of_not_mem _ _ hv, Env.bind_of_not_mem _ _ (hok.app_not_mem hv)]
    exact h v hP

theorem RelOn.args_untrimmed {P : VId → Prop} {σ : Subst} {ρ ρ' : Env Val} (h : RelOn P σ ρ ρ')
    (ins : List (Option VId)) (hP : ∀ v ∈ ins.filterMap id, P v) :
    evalArgs ρ ins = evalArgs ρ' (substIns σ ins) := by
  unfold substIns evalArgs
  rw [List.map_map]
  apply List.map_congr_left
  intro o ho
  cases o with
  | none => rfl
  | some v =>
    simp only [Function.comp, Option.map, Option.bind]
    exact h v (hP v (by simp only [List.mem_filterMap, id]; exact ⟨_, ho, rfl⟩))

theorem trimNone_map (f : VId → VId) : ∀ ins : List (Option VId),
    trimNone (ins.map (Option.map f)) = (trimNone ins).map (Option.map f)
  | [] => by simp [trimNone]
  | a :: rest => by
    have ih := trimNone_map f rest
    simp only [List.map_cons, trimNone, ih]
    have h1 : (Option.map f a).isNone = a.isNone := by cases a <;> rfl
    have h2 : (List.map (Option.map f) (trimNone rest)).isEmpty = (trimNone rest).isEmpty := by
      cases trimNone rest <;> rfl
    rw [h1, h2]
    by_cases hc : (a.isNone && (trimNone rest).isEmpty) = true <;> simp [hc]

theorem RelOn.args {P : VId → Prop} {σ : Subst} {ρ ρ' : Env Val} (h : RelOn P σ ρ ρ')
    (ins : List (Option VId)) (hP : ∀ v ∈ ins.filterMap id, P v) :
    evalArgs ρ (trimNone ins) = evalArgs ρ' (trimNone (substIns σ ins)) := by
  unfold substIns
  rw [trimNone_map]
  exact h.args_untrimmed (trimNone ins) (fun v hv => hP v (mem_filterMap_trimNone hv))

theorem Rel.relOn {σ : Subst} {ρ ρ' : Env Val} (h : Rel σ ρ ρ') : RelOn (fun _ => True) σ ρ ρ' := fun v _ => h v

theorem Rel.bind {σ : Subst} {ρ ρ' : Env Val} (h : Rel σ ρ ρ') {vs : List VId} (hok : SubstOK σ vs)
    (rs : List (Option Val)) : Rel σ (ρ.bind vs rs) (ρ'.bind vs rs) :=
  fun v => h.relOn.bind hok rs v trivial

theorem Rel.of_relOn {σ : Subst} {ρ ρ' : Env Val} (h : RelOn (fun _ => True) σ ρ ρ') : Rel σ ρ ρ' := fun v => h v trivial

theorem SubstOK.map_eq {σ : Subst} {D : List VId} (h : SubstOK σ D) {l : List VId} (hl : ∀ v ∈ l, v ∈ D) :
    l.map σ.app = l := by
  conv => rhs; rw [← List.map_id l]
  exact List.map_congr_left (fun v hv => h.app_of_mem (hl v hv))

theorem SubstOK.of_defsG {σ : Subst} {inputs outputs : List VId} {inits : List (VId × Tensor)} {nodes : List Node}
    (h : SubstOK σ (defsG (.mk inputs outputs inits nodes))) :
    SubstOK σ (inputs ++ inits.map Prod.fst) ∧ SubstOK σ (defsNodes nodes) :=
  ⟨h.mono (fun _ hv => List.mem_append_left _ hv), h.mono (fun _ hv => List.mem_append_right _ hv)⟩

theorem RelOn.entry {P : VId → Prop} {σ : Subst} {ρ ρ' : Env Val} (h : RelOn P σ ρ ρ') {inputs : List VId}
    {inits : List (VId × Tensor)} (hok : SubstOK σ (inputs ++ inits.map Prod.fst)) (I : Interp Val) (xs : List Val) :
    RelOn P σ (entryEnv I ρ inputs inits xs) (entryEnv I ρ' inputs inits xs) :=
  RelOn.bind (RelOn.bind h (hok.mono (fun _ hv => List.mem_append_right _ hv)) _)
    (hok.mono (fun _ hv => List.mem_append_left _ (List.mem_filter.1 hv).1)) _

/-- `ev`, `ev'`: the evaluation of the two node lists -/
theorem RelOn.entry_outputs {P : VId → Prop} {σ σ' : Subst} {ρ ρ' : Env Val} (hrel : RelOn P σ ρ ρ')
    {inputs outputs : List VId} {inits : List (VId × Tensor)} (hok : SubstOK σ (inputs ++ inits.map Prod.fst))
    (hP : ∀ v ∈ outputs, P v) {ev ev' : Env Val → Env Val}
    (key : ∀ ρ1 ρ1', RelOn P σ ρ1 ρ1' → RelOn P σ' (ev ρ1) (ev' ρ1')) (I : Interp Val) (xs : List Val) :
    outputs.map (ev (entryEnv I ρ inputs inits xs)) =
      (outputs.map σ'.app).map (ev' (entryEnv I ρ' inputs inits xs)) := by
  rw [List.map_map]
  exact List.map_congr_left (fun v hv => key _ _ (hrel.entry hok I xs) v (hP v hv))

theorem evalG_sim (I : Interp Val) {P : VId → Prop} {σ σ' : Subst} {inputs outputs outs' : List VId}
    {inits : List (VId × Tensor)} {nodes nodes' : List Node} {ρ ρ' : Env Val}
    (hrel : RelOn P σ ρ ρ') (hok : SubstOK σ (inputs ++ inits.map Prod.fst)) (hP : ∀ v ∈ outputs, P v)
    (key : ∀ ρ1 ρ1', RelOn P σ ρ1 ρ1' → RelOn P σ' (evalNodes I nodes ρ1) (evalNodes I nodes' ρ1'))
    (houts : outs' = outputs.map σ'.app) :
    evalG I (.mk inputs outputs inits nodes) ρ = evalG I (.mk inputs outs' inits nodes') ρ' := by
  funext xs
  rw [evalG_mk, evalG_mk, houts]
  exact hrel.entry_outputs hok hP key I xs

theorem RelOn.evalN_keep (I : Interp Val) {P : VId → Prop} {σ : Subst} {ρ ρ' : Env Val} (h : RelOn P σ ρ ρ')
    {op : OpId} {attrs : List (String × AttrData)} {ins : List (Option VId)} {outs : List VId}
    {bodies bodies' : List Graph} (hins : ∀ v ∈ ins.filterMap id, P v) (hok : SubstOK σ outs)
    (hb : evalBodies I bodies ρ = evalBodies I bodies' ρ') :
    RelOn P σ (evalN I (.mk op attrs ins outs bodies) ρ)
      (evalN I (.mk op attrs (substIns σ ins) outs bodies') ρ') := by
  simp only [evalN]
  rw [h.args ins hins, hb]
  exact h.bind hok _

/-- a node list may extend the substitution (`σ'`: replacements made by the walk) -/
def SimG (I : Interp Val) (P : VId → Prop) (σ : Subst) (g g' : Graph) : Prop :=
  ∀ ρ ρ' : Env Val, RelOn P σ ρ ρ' → evalG I g ρ = evalG I g' ρ'
def SimNodes (I : Interp Val) (P : VId → Prop) (σ σ' : Subst) (ns ns' : List Node) : Prop :=
  ∀ ρ ρ' : Env Val, RelOn P σ ρ ρ' → RelOn P σ' (evalNodes I ns ρ) (evalNodes I ns' ρ')
def SimN (I : Interp Val) (P : VId → Prop) (σ : Subst) (n n' : Node) : Prop :=
  ∀ ρ ρ' : Env Val, RelOn P σ ρ ρ' → RelOn P σ (evalN I n ρ) (evalN I n' ρ')
def SimBodies (I : Interp Val) (P : VId → Prop) (σ : Subst) (bs bs' : List Graph) : Prop :=
  ∀ ρ ρ' : Env Val, RelOn P σ ρ ρ' → evalBodies I bs ρ = evalBodies I bs' ρ'

theorem SimBodies.cons {I : Interp Val} {P : VId → Prop} {σ : Subst} {b b' : Graph} {bs bs' : List Graph}
    (hg : SimG I P σ b b') (hb : SimBodies I P σ bs bs') : SimBodies I P σ (b :: bs) (b' :: bs') := by
  intro ρ ρ' hrel
  simp only [evalBodies]
  rw [hg ρ ρ' hrel, hb ρ ρ' hrel]

theorem SimNodes.keep {I : Interp Val} {P : VId → Prop} {σ σ' : Subst} {op : OpId} {attrs : List (String × AttrData)}
    {ins : List (Option VId)} {outs : List VId} {bodies bodies' : List Graph} {ns ns' : List Node}
    (hins : ∀ v ∈ ins.filterMap id, P v) (hok : SubstOK σ outs) (hb : SimBodies I P σ bodies bodies')
    (hn : SimNodes I P σ σ' ns ns') :
    SimNodes I P σ σ' (.mk op attrs ins outs bodies :: ns) (.mk op attrs (substIns σ ins) outs bodies' :: ns') :=
  fun ρ ρ' hrel => hn _ _ (hrel.evalN_keep I hins hok (hb ρ ρ' hrel))

theorem subst_sound (I : Interp Val) (P : VId → Prop) (σ : Subst) :
    let G := fun g g' => SubstOK σ (defsG g) → (∀ v ∈ refsG g, P v) → closedG g = true → SimG I P σ g g'
    let Ns := fun ns ns' => SubstOK σ (defsNodes ns) → (∀ v ∈ refsNodes ns, P v) → closedNodes ns = true →
      SimNodes I P σ σ ns ns'
    let N := fun n n' => SubstOK σ (defsN n) → (∀ v ∈ refsN n, P v) → closedN n = true → SimN I P σ n n'
    let Bs := fun bs bs' => SubstOK σ (defsBodies bs) → (∀ v ∈ refsBodies bs, P v) → closedBodies bs = true →
      SimBodies I P σ bs bs'
    (∀ g, G g (substG σ g)) ∧ (∀ ns, Ns ns (substNodes σ ns)) ∧ (∀ n, N n (substN σ n)) ∧
      ∀ bs, Bs bs (substBodies σ bs) := by
  intro G Ns N Bs
  refine substG.mutual_induct_unfolding σ G Ns N Bs ?_ ?_ ?_ ?_ ?_ ?_
  · intro inputs outputs inits nodes ih hok hP hc ρ ρ' hrel
    exact evalG_sim I hrel hok.of_defsG.1 (fun v hv => hP v (mem_refsG_mk.2 (Or.inl hv)))
      (ih hok.of_defsG.2 (fun v hv => hP v (mem_refsG_mk.2 (Or.inr hv))) (closedG_iff.1 hc).2)
      (hok.map_eq (closedG_outputs hc)).symm
  · intro op attrs ins outs bodies ihb hok hP hc ρ ρ' hrel
    exact hrel.evalN_keep I (fun v hv => hP v (mem_refsN_mk.2 (Or.inl hv)))
      (hok.mono (fun v hv => mem_defsN.2 (Or.inl hv)))
      (ihb (hok.mono (fun v hv => mem_defsN.2 (Or.inr hv))) (fun v hv => hP v (mem_refsN_mk.2 (Or.inr hv))) hc ρ ρ' hrel)
  · intro _ _ _ ρ ρ' hrel
    exact hrel
  · intro n ns ihn ih hok hP hc ρ ρ' hrel
    simp only [closedNodes, Bool.and_eq_true] at hc
    exact ih (hok.mono (fun v hv => mem_defsNodes_cons.2 (Or.inr hv)))
      (fun v hv => hP v (mem_refsNodes_cons.2 (Or.inr hv))) hc.2 _ _
      (ihn (hok.mono (fun v hv => mem_defsNodes_cons.2 (Or.inl hv)))
        (fun v hv => hP v (mem_refsNodes_cons.2 (Or.inl hv))) hc.1 ρ ρ' hrel)
  · intro _ _ _ ρ ρ' _
    rfl
  · intro b bs ihg ihb hok hP hc
    rw [closedBodies_cons_iff] at hc
    exact SimBodies.cons
      (ihg (hok.mono (fun v hv => mem_defsBodies_cons.2 (Or.inl hv)))
        (fun v hv => hP v (mem_refsBodies_cons.2 (Or.inl hv))) hc.1)
      (ihb (hok.mono (fun v hv => mem_defsBodies_cons.2 (Or.inr hv)))
        (fun v hv => hP v (mem_refsBodies_cons.2 (Or.inr hv))) hc.2)

theorem substG_sound (I : Interp Val) (P : VId → Prop) : ∀ (g : Graph) (σ : Subst) (ρ ρ' : Env Val),
    RelOn P σ ρ ρ' → SubstOK σ (defsG g) → (∀ v ∈ refsG g, P v) → closedG g = true →
    evalG I g ρ = evalG I (substG σ g) ρ' :=
  fun g σ ρ ρ' hrel hok hP hc => (subst_sound I P σ).1 g hok hP hc ρ ρ' hrel

theorem substNodes_sound (I : Interp Val) (P : VId → Prop) : ∀ (ns : List Node) (σ : Subst) (ρ ρ' : Env Val),
    RelOn P σ ρ ρ' → SubstOK σ (defsNodes ns) → (∀ v ∈ refsNodes ns, P v) → closedNodes ns = true →
    RelOn P σ (evalNodes I ns ρ) (evalNodes I (substNodes σ ns) ρ') :=
  fun ns σ ρ ρ' hrel hok hP hc => (subst_sound I P σ).2.1 ns hok hP hc ρ ρ' hrel

theorem substN_sound (I : Interp Val) (P : VId → Prop) : ∀ (n : Node) (σ : Subst) (ρ ρ' : Env Val),
    RelOn P σ ρ ρ' → SubstOK σ (defsN n) → (∀ v ∈ refsN n, P v) → closedN n = true →
    RelOn P σ (evalN I n ρ) (evalN I (substN σ n) ρ') :=
  fun n σ ρ ρ' hrel hok hP hc => (subst_sound I P σ).2.2.1 n hok hP hc ρ ρ' hrel

theorem substBodies_sound (I : Interp Val) (P : VId → Prop) : ∀ (bs : List Graph) (σ : Subst) (ρ ρ' : Env Val),
    RelOn P σ ρ ρ' → SubstOK σ (defsBodies bs) → (∀ v ∈ refsBodies bs, P v) → closedBodies bs = true →
    evalBodies I bs ρ = evalBodies I (substBodies σ bs) ρ' :=
  fun bs σ ρ ρ' hrel hok hP hc => (subst_sound I P σ).2.2.2 bs hok hP hc ρ ρ' hrel

end IrVerif.Passes
