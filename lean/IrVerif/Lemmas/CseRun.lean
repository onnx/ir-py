/-
The walk of CommonSubexpressionEliminationPass over a node list (`Passes.cseNodes`) together with the three counters the
flag model keeps beside it (`cseCnt`, `cseIns`, `cseStall`: four functions with one case tree) as ONE relation: a fact
about the walk is an induction over the four constructors of `CseRun`, applied to `cseRun`.
-/
import IrVerif.Model.PassFlags2
namespace IrVerif.PassFlags
open IrVerif.Sem IrVerif.Passes

/-- one run from dictionary `tbl`, substitution `σ`, graph outputs `outs`: what is emitted, and the counters (eliminated nodes,
    inserted Identity nodes, stalled rewrites) -/
inductive CseRun (limit : Nat) (gins : List VId) :
    List Node → Subst → List VId → List Node → IeRes → Nat → Nat → Nat → Prop
  | nil (tbl : List Node) (σ : Subst) (outs : List VId) : CseRun limit gins tbl σ outs [] ⟨[], outs, σ⟩ 0 0 0
  | skip {tbl : List Node} {σ : Subst} {outs : List VId} {n : Node} {ns : List Node} {r : IeRes} {c i s : Nat} :
      cseSkip limit n.op n.attrs n.bodies = true → CseRun limit gins tbl σ outs ns r c i s →
      CseRun limit gins tbl σ outs (n :: ns) ⟨substN σ n :: r.nodes, r.outs, r.σ⟩ c i s
  | record {tbl : List Node} {σ : Subst} {outs : List VId} {n : Node} {ns : List Node} {r : IeRes} {c i s : Nat} :
      cseSkip limit n.op n.attrs n.bodies = false → tbl.find? (fun n1 => cseKeyMatch n1 (substN σ n)) = none →
      CseRun limit gins (tbl ++ [substN σ n]) σ outs ns r c i s →
      CseRun limit gins tbl σ outs (n :: ns) ⟨substN σ n :: r.nodes, r.outs, r.σ⟩ c i s
  | replace {tbl : List Node} {σ : Subst} {outs : List VId} {n n1 : Node} {ns : List Node} {r : IeRes} {c i s : Nat} :
      cseSkip limit n.op n.attrs n.bodies = false → tbl.find? (fun n1 => cseKeyMatch n1 (substN σ n)) = some n1 →
      CseRun limit gins tbl (n.outs.zip n1.outs ++ σ) (cseFixOuts gins (n.outs.zip n1.outs) [] [] outs).1 ns r c i s →
      CseRun limit gins tbl σ outs (n :: ns)
        ⟨(cseFixOuts gins (n.outs.zip n1.outs) [] [] outs).2 ++ r.nodes, r.outs, r.σ⟩ (1 + c)
        ((cseFixOuts gins (n.outs.zip n1.outs) [] [] outs).2.length + i)
        ((if isIdentityOp n.op && n.outs.length == 1 && !(cseFixOuts gins (n.outs.zip n1.outs) [] [] outs).2.isEmpty
          then 1 else 0) + s)

theorem cseRun (limit : Nat) (gins : List VId) : ∀ (ns tbl : List Node) (σ : Subst) (outs : List VId),
    CseRun limit gins tbl σ outs ns (cseNodes limit gins tbl σ outs ns) (cseCnt limit gins tbl σ outs ns)
      (cseIns limit gins tbl σ outs ns) (cseStall limit gins tbl σ outs ns)
  | [], tbl, σ, outs => .nil tbl σ outs
  | .mk op attrs ins nouts bodies :: ns, tbl, σ, outs => by
    by_cases hs : cseSkip limit op attrs bodies = true
    · simp only [cseNodes, cseCnt, cseIns, cseStall, hs, if_true]
      exact .skip hs (cseRun limit gins ns tbl σ outs)
    · have hs' : cseSkip limit op attrs bodies = false := by simpa using hs
      cases hf : tbl.find? (fun n1 => cseKeyMatch n1 (.mk op attrs (substIns σ ins) nouts (substBodies σ bodies))) with
      | none =>
        simp only [cseNodes, cseCnt, cseIns, cseStall, hs', Bool.false_eq_true, if_false, hf]
        exact .record hs' hf (cseRun limit gins ns _ σ outs)
      | some n1 =>
        simp only [cseNodes, cseCnt, cseIns, cseStall, hs', Bool.false_eq_true, if_false, hf]
        exact .replace hs' hf (cseRun limit gins ns tbl _ _)

end IrVerif.PassFlags
