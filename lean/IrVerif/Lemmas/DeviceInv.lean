/-
C19 - the invariant with two switches.  `Inv.DevOK U G` is `DevOK` with "one spec per value" demanded only when `U`
holds and the axis clauses of `SpecWF` demanded only of specs whose target is outside the ghost predicate `G`:
`DevOK` is `Inv.DevOK True (fun _ => False)` (`Lemmas/Device.lean`), the weak invariant `Wk.DevOK G` is
`Inv.DevOK False G` (`Lemmas/DeviceWk.lean`).  Every operation but the round trip preserves it (`Inv.DevOK_<op>`);
the operations that create copies need that a copy of a ghost value is a ghost (`GhostUp`).  Core Lean only.
-/
import IrVerif.Lemmas.DeviceOps
namespace IrVerif.Device.Inv

/-- `SpecWF` with the axis clauses only outside the ghost predicate -/
def SpecWF (G : VId → Prop) (w : World) (numDev : Int) (s : Spec) : Prop :=
  (¬ G s.value → ∀ d ∈ s.dims, ¬ AxisBad (rankOf (w.value s.value)) d.axis) ∧
  (¬ G s.value → (s.dims.map (fun d => normAxis (rankOf (w.value s.value)) d.axis)).Nodup) ∧
  (∀ d ∈ s.dims, 1 ≤ d.numShards) ∧
  (∀ d ∈ s.device, 0 ≤ d ∧ d < numDev)

/-- `NodeOK` with "one spec per value" only under `U` -/
def NodeOK (U : Prop) (G : VId → Prop) (w : World) (nd : NodeS) : Prop :=
  NodeIds w nd ∧
  (nd.dev.map (·.cfg)).Nodup ∧
  ∀ nc ∈ nd.dev,
    nc.cfg < w.cfgs.length ∧
    (∀ st, nc.stage = some st → 0 ≤ st) ∧
    (U → (nc.specs.map (·.value)).Nodup) ∧
    ∀ s ∈ nc.specs, InIO nd s.value ∧ SpecWF G w (w.cfg nc.cfg).numDevices s

def DevOK (U : Prop) (G : VId → Prop) (w : World) : Prop :=
  (∀ nd ∈ w.nodes, NodeOK U G w nd) ∧ (∀ ms ∈ w.models, ModelOK w ms)

/-- every value id from `n` on (the ids that do not exist yet) is a ghost as soon as any value is -/
class GhostUp (G : VId → Prop) (n : Nat) : Prop where
  up : ∀ a b, G a → n ≤ b → G b

instance (n : Nat) : GhostUp (fun _ => False) n := ⟨fun _ _ h _ => h⟩

variable {U : Prop} {G : VId → Prop}

theorem NodeOK.of_strong {w : World} {nd : NodeS} (h : IrVerif.Device.NodeOK w nd) : NodeOK U G w nd := by
  obtain ⟨a, b, c⟩ := h
  refine ⟨a, b, ?_⟩
  intro nc hnc
  obtain ⟨c1, c2, c3, c4⟩ := c nc hnc
  refine ⟨c1, c2, fun _ => c3, ?_⟩
  intro s hs
  obtain ⟨d1, d2, d3, d4, d5⟩ := c4 s hs
  exact ⟨d1, fun _ => d2, fun _ => d3, d4, d5⟩

/-- with an unknown rank no axis is out of range and the axes are compared as written, of which normalisation is a
    function -/
theorem SpecWF.retarget {G' : VId → Prop} {w w' : World} {k : Int} {s : Spec} {b : VId} (hg : G s.value → G' b)
    (hr : ¬ G' b → rankOf (w'.value b) = rankOf (w.value s.value) ∨ rankOf (w'.value b) = none)
    (h : SpecWF G w k s) : SpecWF G' w' k { s with value := b } := by
  obtain ⟨q1, q2, q3, q4⟩ := h
  refine ⟨fun hb => ?_, fun hb => ?_, q3, q4⟩
  · show ∀ d ∈ s.dims, ¬ AxisBad (rankOf (w'.value b)) d.axis
    rcases hr hb with hr | hr <;> rw [hr]
    · exact q1 (fun g => hb (hg g))
    · exact fun _ _ h => h
  · show (s.dims.map (fun d => normAxis (rankOf (w'.value b)) d.axis)).Nodup
    have q := q2 (fun g => hb (hg g))
    rcases hr hb with hr | hr <;> rw [hr]
    · exact q
    · have h1 : s.dims.map (fun d => normAxis (rankOf (w.value s.value)) d.axis)
          = (s.dims.map (fun d => normAxis none d.axis)).map (normAxis (rankOf (w.value s.value))) := by
        rw [List.map_map]; rfl
      rw [h1] at q
      exact List.Pairwise.of_map _ (fun a b hne e => hne (by rw [e])) q

/-- what `NodeOK` reads of the world; a larger ghost predicate asks for less -/
theorem NodeOK.transport {G' : VId → Prop} {w w' : World} {nd : NodeS} (hn : NodeOK U G w nd) (hids : NodeIds w' nd)
    (hc : ∀ nc ∈ nd.dev, nc.cfg < w'.cfgs.length ∧ (w'.cfg nc.cfg).numDevices = (w.cfg nc.cfg).numDevices)
    (hg : ∀ nc ∈ nd.dev, ∀ s ∈ nc.specs, G s.value → G' s.value)
    (hr : ∀ nc ∈ nd.dev, ∀ s ∈ nc.specs, ¬ G' s.value → rankOf (w'.value s.value) = rankOf (w.value s.value)) :
    NodeOK U G' w' nd := by
  obtain ⟨_, hnd, hall⟩ := hn
  refine ⟨hids, hnd, fun nc hnc => ?_⟩
  obtain ⟨_, b, c, d⟩ := hall nc hnc
  refine ⟨(hc nc hnc).1, b, c, fun s hs => ⟨(d s hs).1, ?_⟩⟩
  rw [(hc nc hnc).2]
  exact (d s hs).2.retarget (b := s.value) (hg nc hnc s hs) (fun h => Or.inl (hr nc hnc s hs h))

theorem NodeOK.mono {G' : VId → Prop} {w : World} {nd : NodeS} (hG : ∀ v, G v → G' v) (hn : NodeOK U G w nd) :
    NodeOK U G' w nd :=
  hn.transport hn.1 (fun nc hnc => ⟨(hn.2.2 nc hnc).1, rfl⟩) (fun _ _ _ _ g => hG _ g) (fun _ _ _ _ _ => rfl)

theorem NodeOK.ext {w w' : World} (h : Ext w w') {nd : NodeS} (hn : NodeOK U G w nd) : NodeOK U G w' nd :=
  hn.transport (hn.1.ext h)
    (fun nc hnc => ⟨Nat.lt_of_lt_of_le (hn.2.2 nc hnc).1 h.clen, by rw [h.cfg _ (hn.2.2 nc hnc).1]⟩) (fun _ _ _ _ g => g)
    (fun nc hnc s hs _ => h.rank _ (InIO.lt hn.1 ((hn.2.2 nc hnc).2.2.2 s hs).1))

/-- The copy `nd'` of a well-formed node: configurations replaced by `κ` (same number of devices, injective on the
    records), every spec moved along `φ` (dropped where undefined; io to io of the same or unknown rank, ghosts to
    ghosts, injective if one spec per value is demanded). -/
theorem NodeOK.remap {G' : VId → Prop} {w w' : World} {nd nd' : NodeS} (φ : VId → Option VId) (κ : NodeCfg → CId)
    (hn : NodeOK U G w nd) (hids : NodeIds w' nd')
    (hcfgs : nd'.dev.map (·.cfg) = nd.dev.map κ)
    (hmem : ∀ nc' ∈ nd'.dev, ∃ nc ∈ nd.dev, nc'.cfg = κ nc ∧ nc'.stage = nc.stage ∧
      nc'.specs = nc.specs.filterMap (retarget φ))
    (hκ : ∀ nc ∈ nd.dev, κ nc < w'.cfgs.length ∧ (w'.cfg (κ nc)).numDevices = (w.cfg nc.cfg).numDevices)
    (hκinj : ∀ a ∈ nd.dev, ∀ b ∈ nd.dev, κ a = κ b → a.cfg = b.cfg)
    (hφ : ∀ nc ∈ nd.dev, ∀ s ∈ nc.specs, ∀ b, φ s.value = some b → InIO nd' b ∧ (G s.value → G' b) ∧
      (¬ G' b → rankOf (w'.value b) = rankOf (w.value s.value) ∨ rankOf (w'.value b) = none))
    (hφinj : U → ∀ nc ∈ nd.dev, ∀ s1 ∈ nc.specs, ∀ s2 ∈ nc.specs, ∀ b,
      φ s1.value = some b → φ s2.value = some b → s1.value = s2.value) :
    NodeOK U G' w' nd' := by
  obtain ⟨_, hnd, hall⟩ := hn
  refine ⟨hids, ?_, ?_⟩
  · rw [hcfgs]
    rw [List.Nodup, List.pairwise_map] at hnd ⊢
    exact hnd.imp_of_mem (fun ha hb hne e => hne (hκinj _ ha _ hb e))
  · intro nc' hnc'
    obtain ⟨nc, hnc, hc, hst, hsp⟩ := hmem nc' hnc'
    obtain ⟨_, b, c, d⟩ := hall nc hnc
    refine ⟨hc ▸ (hκ nc hnc).1, hst ▸ b, ?_, ?_⟩
    · intro hu
      have hc' := c hu
      rw [hsp, List.Nodup, List.pairwise_map, List.pairwise_filterMap]
      rw [List.Nodup, List.pairwise_map] at hc'
      refine hc'.imp_of_mem ?_
      intro s1 s2 h1 h2 hne t1 ht1 t2 ht2 e
      simp only [retarget, Option.map_eq_some_iff] at ht1 ht2
      obtain ⟨b1, hb1, rfl⟩ := ht1
      obtain ⟨b2, hb2, rfl⟩ := ht2
      exact hne (hφinj hu nc hnc s1 h1 s2 h2 b1 hb1 (by rw [hb2]; exact congrArg some e.symm))
    · intro s' hs'
      rw [hsp, List.mem_filterMap] at hs'
      obtain ⟨s, hs, ht⟩ := hs'
      simp only [retarget, Option.map_eq_some_iff] at ht
      obtain ⟨b0, hb0, rfl⟩ := ht
      obtain ⟨hio, hwf⟩ := d s hs
      obtain ⟨h1, h2, h3⟩ := hφ nc hnc s hs b0 hb0
      refine ⟨h1, ?_⟩
      rw [hc, (hκ nc hnc).2]
      exact hwf.retarget h2 h3

theorem NodeOK_default (w : World) : NodeOK U G w {} := by
  refine ⟨⟨by simp, by simp⟩, by simp, by simp⟩

theorem DevOK.node {w : World} (h : DevOK U G w) (n : NId) : NodeOK U G w (w.node n) := by
  rcases node_mem_or_default w n with hm | hd
  · exact h.1 _ hm
  · rw [hd]; exact NodeOK_default w

theorem DevOK.model {w : World} (h : DevOK U G w) (m : MId) : ModelOK w (w.model m) := by
  rcases model_mem_or_default w m with hm | hd
  · exact h.2 _ hm
  · rw [hd]; exact ModelOK_default w

theorem DevOK_setNode {w : World} (h : DevOK U G w) (n : NId) (nd' : NodeS) (hn : NodeOK U G w nd')
    (hreg : ∀ ms ∈ w.models, n ∈ ms.nodes → ∀ nc ∈ nd'.dev, nc.cfg ∈ ms.cfgs) :
    DevOK U G (w.setNode n nd') := by
  have hext : Ext w (w.setNode n nd') := Ext.of_eq rfl rfl
  constructor
  · intro nd hnd
    have : nd ∈ w.nodes ∨ nd = nd' := by
      unfold World.setNode at hnd
      exact List.mem_or_eq_of_mem_set hnd
    rcases this with h1 | h1
    · exact (h.1 nd h1).ext hext
    · rw [h1]; exact hn.ext hext
  · intro ms hms
    have hms' : ms ∈ w.models := hms
    obtain ⟨h1, h2, h3⟩ := h.2 ms hms'
    refine ⟨?_, ?_, ?_⟩
    · intro k hk
      refine ⟨by simpa using (h1 k hk).1, ?_⟩
      intro nc hnc
      rw [setNode_node] at hnc
      split at hnc
      · rename_i hc
        rw [hc.1] at hk
        exact hreg ms hms' hk nc hnc
      · exact (h1 k hk).2 nc hnc
    · intro c hc; exact h2 c hc
    · exact h3

theorem DevOK.ext_same_nodes {w w' : World} (h : DevOK U G w) (hext : Ext w w') (hn : w'.nodes = w.nodes)
    (hm : w'.models = w.models) : DevOK U G w' := by
  constructor
  · intro nd hnd; rw [hn] at hnd; exact (h.1 nd hnd).ext hext
  · intro ms hms
    rw [hm] at hms
    exact (h.2 ms hms).ext_nodes hext hn

/-- `DevOK` reads the values, configuration records, nodes and models only (not the graphs) -/
theorem DevOK_of_eq {w w' : World} (h : DevOK U G w) (hv : w'.values = w.values) (hc : w'.cfgs = w.cfgs)
    (hn : w'.nodes = w.nodes) (hm : w'.models = w.models) : DevOK U G w' :=
  h.ext_same_nodes (Ext.of_eq hv hc) hn hm

/-! ### `shard` -/

theorem NodeOK_shardCfgs {w : World} {nd : NodeS} {v : VId} {c : CId} {axis k : Int} {devs : List Int}
    {stage : Option Int} {dim : Dim} {d : List NodeCfg} (hn : NodeOK U G w nd)
    (h : shardCfgs (rankOf (w.value v)) v c axis devs ⟨axis, dim, k⟩ stage nd.dev = some d)
    (hio : InIO nd v) (hk' : 1 ≤ k) (hst' : ∀ s, stage = some s → 0 ≤ s)
    (hax : ¬ AxisBad (rankOf (w.value v)) axis)
    (hc : c < w.cfgs.length) (hdev : ∀ x ∈ devs, 0 ≤ x ∧ x < (w.cfg c).numDevices) :
    NodeOK U G w { nd with dev := d } := by
  obtain ⟨hids, hnd, hall⟩ := hn
  have hnew : SpecWF G w (w.cfg c).numDevices (newSpec v devs ⟨axis, dim, k⟩) := by
    refine ⟨?_, ?_, ?_, ?_⟩
    · intro _ x hx; simp [newSpec] at hx; subst hx; exact hax
    · intro _; simp [newSpec]
    · intro x hx; simp [newSpec] at hx; subst hx; exact hk'
    · exact hdev
  refine ⟨hids, shardCfgs_nodup h hnd, ?_⟩
  intro nc' hnc'
  rcases shardCfgs_mem h nc' hnc' with h1 | h1 | ⟨e, he, hec, hcf, sp, hm, h1⟩
  · exact hall nc' h1
  · subst h1
    refine ⟨hc, hst', by simp, ?_⟩
    intro s hs
    simp at hs
    subst hs
    exact ⟨hio, hnew⟩
  · subst h1
    obtain ⟨hec', hest, hev, hesp⟩ := hall e he
    refine ⟨hec', stage_or_nonneg hst' hest, fun u => mergeSpecs_nodup hm (hev u), ?_⟩
    intro s' hs'
    rcases mergeSpecs_mem hm s' hs' with h2 | h2 | ⟨s, hs, hsv, hno, h2⟩
    · exact hesp s' h2
    · subst h2
      refine ⟨hio, ?_⟩
      show SpecWF G w (w.cfg e.cfg).numDevices _
      rw [hec]; exact hnew
    · subst h2
      obtain ⟨_, hwf1, hwf2, hwf3, hwf4⟩ := hesp s hs
      refine ⟨by show InIO nd s.value; rw [hsv]; exact hio, ?_⟩
      show SpecWF G w (w.cfg e.cfg).numDevices _
      unfold SpecWF
      have hval : (extSpec s devs ⟨axis, dim, k⟩).value = v := hsv
      rw [hval]
      rw [hsv] at hwf1 hwf2
      refine ⟨?_, ?_, ?_, ?_⟩
      · intro hg x hx
        simp only [extSpec, List.mem_append, List.mem_singleton] at hx
        rcases hx with hx | hx
        · exact hwf1 hg x hx
        · subst hx; exact hax
      · intro hg
        simp only [extSpec, List.map_append, List.map_cons, List.map_nil]
        rw [List.nodup_append]
        refine ⟨hwf2 hg, by simp, ?_⟩
        intro a ha b hb
        simp at hb
        subst hb
        simp only [List.mem_map] at ha
        obtain ⟨x, hx, hxa⟩ := ha
        intro e2
        exact hno ⟨x, hx, by rw [hxa, e2]⟩
      · intro x hx
        simp only [extSpec, List.mem_append, List.mem_singleton] at hx
        rcases hx with hx | hx
        · exact hwf3 x hx
        · subst hx; exact hk'
      · intro x hx
        simp only [extSpec, List.mem_append, List.mem_filter] at hx
        rcases hx with hx | hx
        · exact hwf4 x hx
        · rw [hec]; exact hdev x hx.1

theorem NodeOK_shard {w : World} {nd : NodeS} {v : VId} {c : CId} {axis k : Int} {devs : List Int}
    {stage : Option Int} {d : List NodeCfg} (hn : NodeOK U G w nd)
    (h : shardDev nd (w.value v) v c axis k devs stage = some d)
    (hc : c < w.cfgs.length) (hdev : ∀ x ∈ devs, 0 ≤ x ∧ x < (w.cfg c).numDevices) :
    NodeOK U G w { nd with dev := d } := by
  obtain ⟨hbad, dim, h'⟩ := shardDev_ok h
  simp only [ShardArgsBad, not_or, Classical.not_not] at hbad
  obtain ⟨hio, hk, hst, hax⟩ := hbad
  refine NodeOK_shardCfgs hn h' hio (by omega) ?_ hax hc hdev
  intro s hs
  exact Int.not_lt.mp (fun hneg => hst ⟨s, hs, hneg⟩)

theorem DevOK_shardCore {w : World} (h : DevOK U G w) (n : NId) (v : VId) (c : CId) (axis k : Int)
    (devs : List Int) (stage : Option Int)
    (hreg : RegOn w n c) (hc : c < w.cfgs.length) (hdev : ∀ d ∈ devs, 0 ≤ d ∧ d < (w.cfg c).numDevices) :
    DevOK U G (shardCore w n v c axis k devs stage).1 := by
  unfold shardCore
  split
  · exact h
  · rename_i d hd
    refine DevOK_setNode h n _ (NodeOK_shard (h.node n) hd hc hdev) ?_
    intro ms hms hn nc hnc
    rcases shardDev_cfgs hd nc hnc with h1 | ⟨nc0, h0, he⟩
    · rw [h1]; exact hreg ms hms hn
    · rw [← he]; exact ((h.2 ms hms).1 n hn).2 nc0 h0

theorem DevOK_shard {w : World} (h : DevOK U G w) (n : NId) (v : VId) (c : CId) (axis k : Int)
    (devs : List Int) (stage : Option Int)
    (hpre : Pre w (.shard n v c axis k devs stage)) :
    DevOK U G (shard w n v c axis k devs stage).1 := by
  obtain ⟨hreg, hc⟩ := hpre
  unfold shard
  by_cases hd : DevsBad w c devs
  · simp only [hd, if_true]; exact h
  · simp only [hd, if_false]
    refine DevOK_shardCore h n v c axis k devs stage hreg hc ?_
    intro d hdm
    apply Classical.byContradiction
    intro hbad
    exact hd ⟨d, hdm, hbad⟩

/-! ### `set_pipeline_stage` -/

theorem NodeOK_setStage {w : World} {nd : NodeS} {c : CId} {stage : Int} (hn : NodeOK U G w nd)
    (hs : 0 ≤ stage) (hc : c < w.cfgs.length) :
    NodeOK U G w { nd with dev := setStageCfgs c stage nd.dev } := by
  obtain ⟨hids, hnd, hall⟩ := hn
  refine ⟨hids, ?_, ?_⟩
  · show ((setStageCfgs c stage nd.dev).map (·.cfg)).Nodup
    rw [setStageCfgs_cfgs]
    split
    · exact hnd
    · rename_i hv; exact nodup_snoc_of_not_mem hnd hv
  · intro nc' hnc'
    rcases setStageCfgs_mem nc' hnc' with h1 | h1 | ⟨e, he, hec, h1⟩
    · exact hall nc' h1
    · subst h1
      exact ⟨hc, by intro st h; simp at h; omega, by simp, by simp⟩
    · subst h1
      obtain ⟨a, _, b2, b3⟩ := hall e he
      exact ⟨a, by intro st h; simp at h; omega, b2, b3⟩

theorem DevOK_setStage {w : World} (h : DevOK U G w) (n : NId) (c : CId) (stage : Int)
    (hpre : Pre w (.setStage n c stage)) : DevOK U G (setStage w n c stage).1 := by
  obtain ⟨hreg, hc⟩ := hpre
  unfold setStage
  split
  · exact h
  · rename_i hs
    refine DevOK_setNode h n _ (NodeOK_setStage (h.node n) (by omega) hc) ?_
    intro ms hms hn nc hnc
    rcases setStageCfgs_mem nc hnc with h1 | h1 | ⟨e, he, hec, h1⟩
    · exact ((h.2 ms hms).1 n hn).2 nc h1
    · subst h1; exact hreg ms hms hn
    · subst h1; exact ((h.2 ms hms).1 n hn).2 e he

/-! ### detaching: `_drop_sharding_for_value`, `replace_input_with`, `resize_*` -/

theorem NodeOK_shrink {w : World} {nd nd' : NodeS} (hn : NodeOK U G w nd) (hids : NodeIds w nd')
    (hsh : Shrinks nd'.dev nd.dev)
    (hio : ∀ nc' ∈ nd'.dev, ∀ s ∈ nc'.specs, InIO nd' s.value) : NodeOK U G w nd' := by
  obtain ⟨_, hnd, hall⟩ := hn
  refine ⟨hids, hsh.1.nodup hnd, ?_⟩
  intro nc' hnc'
  obtain ⟨nc, hnc, h1, h2, h3⟩ := hsh.2 nc' hnc'
  obtain ⟨a, b, c, d⟩ := hall nc hnc
  refine ⟨h1 ▸ a, h2 ▸ b, fun u => (h3.map _).nodup (c u), ?_⟩
  intro s hs
  exact ⟨hio nc' hnc' s hs, h1 ▸ (d s (h3.subset hs)).2⟩

theorem DevOK.specs_io {w : World} (h : DevOK U G w) (n : NId) :
    ∀ nc ∈ (w.node n).dev, ∀ s ∈ nc.specs, InIO (w.node n) s.value := by
  intro nc hnc s hs
  exact (((h.node n).2.2 nc hnc).2.2.2 s hs).1

theorem DevOK_setNode_keep {w : World} (h : DevOK U G w) (n : NId) (nd' : NodeS)
    (hdev : nd'.dev = keepIO nd' (w.node n).dev) (hids : NodeIds w nd') :
    DevOK U G (w.setNode n nd') := by
  have hsh : Shrinks nd'.dev (w.node n).dev := by rw [hdev]; exact keepIO_shrinks _ _
  refine DevOK_setNode h n nd' (NodeOK_shrink (h.node n) hids hsh ?_) ?_
  · rw [hdev]; exact keepIO_io _ _
  · intro ms hms hn nc hnc
    obtain ⟨nc0, h0, he, _, _⟩ := hsh.2 nc hnc
    rw [he]; exact ((h.2 ms hms).1 n hn).2 nc0 h0

theorem NodeOK_replaceInputNode {w : World} {nd : NodeS} (h : NodeOK U G w nd) (i : Nat) (val : Option VId)
    (hv : ∀ v, val = some v → v < w.values.length) : NodeOK U G w (replaceInputNode nd i val) := by
  have hio : ∀ nc ∈ nd.dev, ∀ s ∈ nc.specs, InIO nd s.value := fun nc hnc s hs => ((h.2.2 nc hnc).2.2.2 s hs).1
  have hd := replaceInputNode_dev i val hio
  refine NodeOK_shrink h ⟨?_, ?_⟩ (by rw [hd]; exact keepIO_shrinks _ _) (by rw [hd]; exact keepIO_io _ _)
  · intro o ho v hov
    rw [replaceInputNode_inputs] at ho
    rcases List.mem_or_eq_of_mem_set ho with h1 | h1
    · exact h.1.1 o h1 v hov
    · exact hv v (h1 ▸ hov)
  · intro v hv'
    rw [replaceInputNode_outputs] at hv'
    exact h.1.2 v hv'

theorem DevOK_replaceInput {w : World} (h : DevOK U G w) (n : NId) (i : Int) (val : Option VId)
    (hpre : Pre w (.replaceInput n i val)) : DevOK U G (replaceInput w n i val).1 := by
  unfold replaceInput
  split
  · exact h
  · exact DevOK_setNode_keep h n _ (replaceInputNode_dev _ val (h.specs_io n))
      (NodeOK_replaceInputNode (h.node n) _ val hpre).1

theorem DevOK_resizeInputs {w : World} (h : DevOK U G w) (n : NId) (k : Nat) :
    DevOK U G (resizeInputs w n k).1 := by
  unfold resizeInputs
  have hd := resizeInputsNode_detached k (h.specs_io n)
  exact DevOK_setNode_keep h n _ hd.dev (NodeIds_of_sub (h.node n).1 hd.io)

theorem DevOK_resizeOutputs {w : World} (h : DevOK U G w) (n : NId) (k : Nat) :
    DevOK U G (resizeOutputs w n k).1 := by
  unfold resizeOutputs
  simp only
  split
  · exact h
  · split
    · split
      · exact h
      · have hd := resizeOutputs_detached k (h.specs_io n)
        exact DevOK_setNode_keep h n _ hd.dev (NodeIds_of_sub (h.node n).1 hd.io)
    · rename_i hne hlt
      -- growing: fresh anonymous values
      have hext := Ext_append_values w (List.replicate (k - (w.node n).outputs.length) ({} : ValueS))
      have h1 : DevOK U G { w with values := w.values ++ List.replicate (k - (w.node n).outputs.length) ({} : ValueS) } :=
        h.ext_same_nodes hext rfl rfl
      have hnode : World.node { w with values := w.values ++ List.replicate (k - (w.node n).outputs.length) ({} : ValueS) } n = w.node n := rfl
      refine DevOK_setNode h1 n _ ?_ ?_
      · have hn := (h.node n).ext hext
        refine NodeOK_shrink hn ⟨hn.1.1, ?_⟩ (Shrinks.refl _)
          (fun nc hnc s hs => (((hn.2.2 nc hnc).2.2.2 s hs).1).imp id (List.mem_append_left _))
        intro v hv
        simp only [List.mem_append] at hv
        rcases hv with hv | hv
        · exact hn.1.2 v hv
        · rw [List.mem_range'_1] at hv
          simp only [List.length_append, List.length_replicate]
          exact hv.2
      · intro ms hms hn nc hnc
        exact ((h.2 ms hms).1 n hn).2 nc hnc

theorem DevOK_rename {w : World} (h : DevOK U G w) (v : VId) (s : String) : DevOK U G (rename w v s).1 := by
  unfold rename
  split
  · exact h
  · split
    · exact h
    · refine h.ext_same_nodes ?_ rfl rfl
      refine ⟨by simp, ?_, Nat.le_refl _, fun _ _ => rfl⟩
      intro x hx
      simp only [World.value, List.getD_eq_getElem?_getD, List.getElem?_set]
      split
      · rename_i hvx
        subst hvx
        simp [hx]
      · rfl

theorem DevOK_setShape {w : World} (h : DevOK U G w) (v : VId) (shape : Option (List Dim))
    (hpre : Pre w (.setShape v shape)) : DevOK U G (setShape w v shape).1 := by
  unfold setShape
  have hval : ∀ x, x ≠ v → World.value { w with values := w.values.set v { (w.value v) with shape := shape } } x = w.value x := by
    intro x hx
    simp only [World.value, List.getD_eq_getElem?_getD, List.getElem?_set]
    have : ¬ v = x := fun e => hx e.symm
    simp [this]
  constructor
  · intro nd hnd
    have hn := h.1 nd hnd
    refine hn.transport ⟨fun o ho x hox => by simpa using hn.1.1 o ho x hox, fun x hx => by simpa using hn.1.2 x hx⟩
      (fun nc hnc => ⟨(hn.2.2 nc hnc).1, rfl⟩) (fun _ _ _ _ g => g) ?_
    intro nc hnc sp hsp _
    rw [hval _ (hpre nd hnd nc hnc sp hsp)]
  · intro ms hms
    obtain ⟨a, b, c⟩ := h.2 ms hms
    exact ⟨a, b, c⟩

theorem DevOK_setModel {w : World} (h : DevOK U G w) (m : MId) (ms' : ModelS) (hm : ModelOK w ms') :
    DevOK U G (w.setModel m ms') := by
  have hext : Ext w (w.setModel m ms') := Ext.of_eq rfl rfl
  constructor
  · intro nd hnd; exact (h.1 nd hnd).ext hext
  · intro ms hms
    have hmo : ModelOK w ms := by
      rcases mem_setModel w m ms' ms hms with h1 | ⟨h1, _⟩
      · exact h.2 ms h1
      · rw [h1]; exact hm
    exact hmo.ext_nodes hext rfl

theorem DevOK_setGraph {w : World} (h : DevOK U G w) (g : GId) (gs : GraphS) : DevOK U G (w.setGraph g gs) :=
  DevOK_of_eq h rfl rfl rfl rfl

theorem DevOK_mapModels {w : World} (h : DevOK U G w) (f : ModelS → ModelS)
    (hf : ∀ ms ∈ w.models, ModelOK w (f ms)) : DevOK U G { w with models := w.models.map f } := by
  have hext : Ext w { w with models := w.models.map f } := Ext.of_eq rfl rfl
  constructor
  · intro nd hnd; exact (h.1 nd hnd).ext hext
  · intro ms' hms'
    simp only [List.mem_map] at hms'
    obtain ⟨ms, hms, rfl⟩ := hms'
    exact (hf ms hms).ext_nodes hext rfl

/-- a world that extends `w` by values, fine nodes, and models made of old nodes and new nodes on their configurations -/
theorem DevOK_extend {w w' : World} (h : DevOK U G w) (hext : Ext w w')
    (hnodes : ∃ extra, w'.nodes = w.nodes ++ extra ∧ ∀ nd ∈ extra, NodeOK U G w' nd)
    (hmodels : ∀ ms' ∈ w'.models, ∃ ms0, ModelOK w ms0 ∧ ms'.cfgs = ms0.cfgs ∧
      ∀ n ∈ ms'.nodes, n ∈ ms0.nodes ∨ (n < w'.nodes.length ∧ ∀ nc ∈ (w'.node n).dev, nc.cfg ∈ ms'.cfgs)) :
    DevOK U G w' := by
  obtain ⟨extra, hex, hok⟩ := hnodes
  have hnode_old : ∀ n, n < w.nodes.length → w'.node n = w.node n := by
    intro n hn
    simp [World.node, hex, List.getD_eq_getElem?_getD, List.getElem?_append_left hn]
  constructor
  · intro nd hnd
    rw [hex, List.mem_append] at hnd
    rcases hnd with h1 | h1
    · exact (h.1 nd h1).ext hext
    · exact hok nd h1
  · intro ms' hms'
    obtain ⟨ms0, hm0, hcf, hn⟩ := hmodels ms' hms'
    have hm0' : ModelOK w' ms0 :=
      hm0.ext hext (by rw [hex]; simp) (fun n _ hlt nc hnc => ⟨nc, hnode_old n hlt ▸ hnc, rfl⟩)
    refine ⟨fun n hnm => (hn n hnm).elim (fun h1 => ?_) id, ?_, ?_⟩ <;> rw [hcf]
    · exact hm0'.1 n h1
    · exact hm0'.2.1
    · exact hm0'.2.2

theorem DevOK_newModel {w : World} (h : DevOK U G w) (ir : Nat) : DevOK U G (newModel w ir).1 := by
  unfold newModel
  constructor
  · intro nd hnd; exact (h.1 nd hnd).ext (Ext.of_eq rfl rfl)
  · intro ms hms
    simp only [List.mem_append, List.mem_singleton] at hms
    rcases hms with h1 | h1
    · exact (h.2 ms h1).ext_nodes (Ext.of_eq rfl rfl) rfl
    · subst h1; exact ⟨by simp, by simp, by simp⟩

theorem DevOK_newInput {w : World} (h : DevOK U G w) (g : GId) (name : String) (shape : Option (List Dim)) :
    DevOK U G (newInput w g name shape).1 := by
  unfold newInput
  simp only
  have h1 : DevOK U G { w with values := w.values ++ [({ name := name, shape := shape } : ValueS)] } :=
    h.ext_same_nodes (Ext_append_values w _) rfl rfl
  exact DevOK_setGraph h1 g _

theorem DevOK_newInit {w : World} (h : DevOK U G w) (g : GId) (name : String) (shape : Option (List Dim)) :
    DevOK U G (newInit w g name shape).1 := by
  unfold newInit
  split
  · exact h
  · split
    · exact h
    · have h1 : DevOK U G { w with values := w.values ++ [({ name := name, shape := shape } : ValueS)] } :=
        h.ext_same_nodes (Ext_append_values w _) rfl rfl
      exact DevOK_setGraph h1 g _

theorem DevOK_newSubgraph {w : World} (h : DevOK U G w) (n : NId) : DevOK U G (newSubgraph w n).1 := by
  unfold newSubgraph
  simp only
  generalize hf : (fun ms : ModelS => if n ∈ ms.nodes then { ms with graphs := ms.graphs ++ [w.graphs.length] } else ms) = f
  have hA : DevOK U G { w with models := w.models.map f } := by
    apply DevOK_mapModels h
    intro ms hms
    subst hf
    simp only
    split
    · exact ModelOK_graphs _ (h.2 ms hms)
    · exact h.2 ms hms
  have hB : DevOK U G { w with graphs := w.graphs ++ [{}], models := w.models.map f } :=
    DevOK_of_eq hA rfl rfl rfl rfl
  refine DevOK_setNode_keep hB n _ ?_ ?_
  · show (w.node n).dev = keepIO _ (w.node n).dev
    exact (keepIO_of_io (h.specs_io n)).symm
  · exact (h.node n).1

theorem DevOK_newNode {w : World} (h : DevOK U G w) (g : GId) (ins : List (Option VId))
    (outs : List (String × Option (List Dim))) (hpre : Pre w (.newNode g ins outs)) :
    DevOK U G (newNode w g ins outs).1 := by
  unfold newNode
  simp only
  have hext := Ext_append_values w (outs.map (fun o => ({ name := o.1, shape := o.2 } : ValueS)))
  refine DevOK_extend h (hext.trans (Ext.of_eq rfl rfl)) ⟨[_], rfl, ?_⟩ ?_
  · -- the new node: its inputs exist, its outputs are the new values, no annotation
    intro nd hnd
    simp only [List.mem_singleton] at hnd
    subst hnd
    refine ⟨⟨fun o ho v hov => Nat.lt_of_lt_of_le (hpre o ho v hov) hext.vlen, ?_⟩, by simp, by simp⟩
    intro v hv
    rw [List.mem_range'_1] at hv
    show v < (w.values ++ outs.map _).length
    simp only [List.length_append, List.length_map]
    exact hv.2
  · -- a model that owns `g` lists the new node, which has no annotation
    intro ms' hms'
    have hms'' : ms' ∈ w.models.map _ := hms'
    rw [List.mem_map] at hms''
    obtain ⟨ms, hms, rfl⟩ := hms''
    refine ⟨ms, h.2 ms hms, by split <;> rfl, ?_⟩
    intro n hn
    split at hn
    · simp only [List.mem_append, List.mem_singleton] at hn
      rcases hn with hn | hn
      · exact Or.inl hn
      · subst hn
        refine Or.inr ⟨by simp [World.setGraph], ?_⟩
        intro nc hnc
        simp [World.node, World.setGraph, List.getD_eq_getElem?_getD] at hnc
    · exact Or.inl hn

theorem DevOK_removeNode {w : World} (h : DevOK U G w) (g : GId) (n : NId) (safe : Bool) :
    DevOK U G (removeNode w g n safe).1 := by
  rcases removeNode_cases w g n safe with e | ⟨nd', sub, hnd, e⟩
  · rw [e]; exact h
  · rw [e]
    have h1 : DevOK U G (w.setNode n nd') := by
      rcases hnd with rfl | rfl
      · exact DevOK_setNode_keep h n _ (keepIO_of_io (h.specs_io n)).symm (h.node n).1
      · have hd := detachInputs_detached (List.range' 0 (w.node n).inputs.length) (h.specs_io n)
        exact DevOK_setNode_keep h n _ hd.dev (NodeIds_of_sub (h.node n).1 hd.io)
    have h2 := DevOK_setGraph h1 g { (w.graph g) with nodes := (w.graph g).nodes.filter (fun k => decide (k ≠ n)) }
    apply DevOK_mapModels h2
    intro ms hms
    by_cases hg : g ∈ ms.graphs
    · rw [if_pos hg]
      exact ModelOK_graphs _ (ModelOK_nodes_subset _ (fun k hk => (List.mem_filter.mp hk).1) (h2.2 ms hms))
    · rw [if_neg hg]; exact h2.2 ms hms

/-! ### `add_device_configuration`, `remove_device_configuration(cascade=True)` -/

theorem DevOK_addCfg {w : World} (h : DevOK U G w) (m : MId) (name : String) (num : Option Int)
    (names : List String) : DevOK U G (addCfg w m name num names).1 := by
  unfold addCfg
  simp only
  split
  · exact h
  rename_i hname
  split
  · exact h
  rename_i hdup
  split
  · exact h
  split
  · exact h
  generalize hrec : ({ name := name, numDevices := num.getD ↑names.length, deviceNames := names } : CfgS) = rec
  have hrecname : rec.name = name := by rw [← hrec]
  clear hrec
  have hext := Ext_append_cfgs w [rec]
  have h1 : DevOK U G { w with cfgs := w.cfgs ++ [rec] } := h.ext_same_nodes hext rfl rfl
  refine DevOK_setModel h1 m _ ?_
  obtain ⟨a, b, c⟩ := h1.model m
  have hmm : World.model { w with cfgs := w.cfgs ++ [rec] } m = w.model m := rfl
  rw [hmm] at a b c
  have hnewcfg : World.cfg { w with cfgs := w.cfgs ++ [rec] } w.cfgs.length = rec := by
    simp [World.cfg, List.getD_eq_getElem?_getD]
  refine ⟨?_, ?_, ?_⟩
  · intro n hn
    refine ⟨(a n hn).1, ?_⟩
    intro nc hnc
    exact List.mem_append_left _ ((a n hn).2 nc hnc)
  · intro c' hc'
    simp only [List.mem_append, List.mem_singleton] at hc'
    rcases hc' with hc' | hc'
    · exact b c' hc'
    · subst hc'
      refine ⟨by simp, ?_⟩
      rw [hnewcfg, hrecname]; exact hname
  · simp only [List.map_append, List.map_cons, List.map_nil]
    apply nodup_snoc_of_not_mem c
    rw [hnewcfg, hrecname]
    simp only [List.mem_map, not_exists, not_and]
    intro c' hc' hn
    apply hdup
    refine ⟨c', hc', ?_⟩
    have hlt := ((h.model m).2.1 c' hc').1
    rw [hext.cfg c' hlt] at hn
    exact hn

/-- the cascade only filters records out (`Shrinks`); on the nodes `m` lists, those on the removed configuration -/
theorem DevOK_removeCfg {w : World} (h : DevOK U G w) (m : MId) (r : CfgRef) :
    DevOK U G (removeCfg w m r true).1 := by
  unfold removeCfg
  simp only
  split
  · exact h
  rename_i t ht
  simp only [if_true]
  generalize hf : (fun (i : Nat) (nd : NodeS) =>
      if i ∈ (w.model m).nodes then
        { nd with dev := nd.dev.filter (fun nc => decide (¬ IsTarget w r.isByName t nc)) }
      else nd) = f
  have hfdev : ∀ i nd, Shrinks (f i nd).dev nd.dev ∧ (f i nd).inputs = nd.inputs ∧ (f i nd).outputs = nd.outputs := by
    intro i nd
    subst hf
    simp only
    split
    · exact ⟨Shrinks_filter _ _, rfl, rfl⟩
    · exact ⟨Shrinks.refl _, rfl, rfl⟩
  have hfok : ∀ i nd, NodeOK U G w nd → NodeOK U G w (f i nd) := by
    intro i nd hnd
    obtain ⟨hs, hi, ho⟩ := hfdev i nd
    refine NodeOK_shrink hnd ?_ hs ?_
    · exact ⟨by rw [hi]; exact hnd.1.1, by rw [ho]; exact hnd.1.2⟩
    · intro nc' hnc' s hs'
      obtain ⟨nc, hnc, _, _, hsub⟩ := hs.2 nc' hnc'
      have := ((hnd.2.2 nc hnc).2.2.2 s (hsub.subset hs')).1
      unfold InIO at *
      rw [hi, ho]; exact this
  generalize hms' : ({ (w.model m) with cfgs := (w.model m).cfgs.filter (fun c => decide (c ≠ t)) } : ModelS) = ms'
  have hnode : ∀ k, World.node { (w.setModel m ms') with nodes := (w.setModel m ms').nodes.mapIdx f } k =
      if k < w.nodes.length then f k (w.node k) else {} := by
    intro k
    exact mapIdx_node (w.setModel m ms') f k
  have hext : Ext w { (w.setModel m ms') with nodes := (w.setModel m ms').nodes.mapIdx f } := Ext.of_eq rfl rfl
  constructor
  · intro nd hnd
    simp only [setModel_nodes, List.mem_mapIdx] at hnd
    obtain ⟨i, hi, rfl⟩ := hnd
    exact (hfok i _ (h.1 _ (List.getElem_mem hi))).ext hext
  · intro ms hms
    have hms2 : ms ∈ (w.setModel m ms').models := hms
    have hshr : ∀ n, n < w.nodes.length → ∀ nc ∈ (World.node { (w.setModel m ms') with nodes := (w.setModel m ms').nodes.mapIdx f } n).dev,
        ∃ nc0 ∈ (w.node n).dev, nc0.cfg = nc.cfg := by
      intro n hn nc hnc
      rw [hnode n] at hnc
      simp only [hn, if_true] at hnc
      obtain ⟨nc0, h0, he, _, _⟩ := (hfdev n (w.node n)).1.2 nc hnc
      exact ⟨nc0, h0, he.symm⟩
    rcases mem_setModel w m ms' ms hms2 with h1 | ⟨h1, _⟩
    · exact (h.2 ms h1).ext hext (by simp) (fun n _ hn => hshr n hn)
    · subst h1
      obtain ⟨a, b, c⟩ := h.model m
      subst hms'
      refine ⟨?_, ?_, ?_⟩
      · intro n hn
        have hn' : n ∈ (w.model m).nodes := hn
        refine ⟨by simpa using (a n hn').1, ?_⟩
        intro nc hnc
        rw [hnode n] at hnc
        simp only [(a n hn').1, if_true] at hnc
        subst hf
        simp only [hn', if_true] at hnc
        obtain ⟨hmem, hnt⟩ := List.mem_filter.mp hnc
        simp only [decide_eq_true_eq] at hnt
        show nc.cfg ∈ (w.model m).cfgs.filter (fun c => decide (c ≠ t))
        rw [List.mem_filter]
        refine ⟨(a n hn').2 nc hmem, ?_⟩
        simp only [decide_eq_true_eq]
        intro e
        exact hnt (Or.inl e)
      · intro c' hc'
        have hc'' : c' ∈ (w.model m).cfgs := (List.mem_filter.mp hc').1
        exact b c' hc''
      · exact (List.Sublist.map _ List.filter_sublist).nodup c

/-! ### clone -/

/-- while a graph of `w` is being cloned: `wc` is `w` with values and nodes appended; every appended node is fine and
    refers to configurations of `cfgs` only -/
structure CloneInv (U : Prop) (G : VId → Prop) (w : World) (cfgs : List CId) (wc : World) (vm : VMap) : Prop where
  ext : Ext w wc
  cfgsEq : wc.cfgs = w.cfgs
  models : wc.models = w.models
  nodes : ∃ extra, wc.nodes = w.nodes ++ extra ∧ ∀ nd ∈ extra, NodeOK U G wc nd ∧ ∀ nc ∈ nd.dev, nc.cfg ∈ cfgs
  vmok : VmOK w wc vm
  vals : ∃ extra, wc.values = w.values ++ extra

theorem CloneInv.init (w : World) (cfgs : List CId) : CloneInv U G w cfgs w [] :=
  ⟨Ext.refl w, rfl, rfl, ⟨[], by simp, by simp⟩, VmOK.nil w w, ⟨[], by simp⟩⟩

/-- a new `Cloner` on the same world -/
theorem CloneInv.reset {w : World} {cfgs : List CId} {wc : World} {vm : VMap} (h : CloneInv U G w cfgs wc vm) :
    CloneInv U G w cfgs wc [] := ⟨h.ext, h.cfgsEq, h.models, h.nodes, VmOK.nil w wc, h.vals⟩

theorem cloneValue_inv {w : World} {cfgs : List CId} {wc : World} {vm : VMap}
    (h : CloneInv U G w cfgs wc vm) (v : VId) :
    CloneInv U G w cfgs (cloneValue (wc, vm) v).1 (cloneValue (wc, vm) v).2 := by
  unfold cloneValue
  simp only
  split
  · exact h
  · have hext : Ext wc { wc with values := wc.values ++ [wc.value v] } := Ext_append_values wc _
    obtain ⟨extra, hex, hok⟩ := h.nodes
    obtain ⟨vex, hvex⟩ := h.vals
    refine ⟨h.ext.trans hext, h.cfgsEq, h.models, ⟨extra, hex, ?_⟩, ⟨?_, ?_, ?_, ?_⟩,
      ⟨vex ++ [wc.value v], by simp [hvex]⟩⟩
    · intro nd hnd; exact ⟨(hok nd hnd).1.ext hext, (hok nd hnd).2⟩
    · intro p hp
      simp only [List.mem_cons] at hp
      rcases hp with hp | hp
      · subst hp; simp
      · have := h.vmok.lt p hp
        simp only [List.length_append, List.length_singleton]; exact Nat.lt_succ_of_lt this
    · intro p hp
      simp only [List.mem_cons] at hp
      rcases hp with hp | hp
      · subst hp; exact h.ext.vlen
      · exact h.vmok.fresh p hp
    · intro p hp hlt
      simp only [List.mem_cons] at hp
      rcases hp with hp | hp
      · subst hp
        simp only
        rw [value_push]
        exact h.ext.shape v hlt
      · rw [value_append_left wc _ p.2 (h.vmok.lt p hp)]
        exact h.vmok.shape p hp hlt
    · simp only [List.map_cons, List.nodup_cons]
      refine ⟨?_, h.vmok.inj⟩
      intro hmem
      simp only [List.mem_map] at hmem
      obtain ⟨p, hp, hpe⟩ := hmem
      have := h.vmok.lt p hp
      rw [hpe] at this
      exact Nat.lt_irrefl _ this

theorem foldl_cloneValue_inv {w : World} {cfgs : List CId} (ins : List VId) :
    ∀ {wc : World} {vm : VMap}, CloneInv U G w cfgs wc vm →
    CloneInv U G w cfgs (ins.foldl cloneValue (wc, vm)).1 (ins.foldl cloneValue (wc, vm)).2 := by
  induction ins with
  | nil => intro wc vm h; exact h
  | cons v rest ih =>
    intro wc vm h
    simp only [List.foldl_cons]
    have := cloneValue_inv h v
    exact ih this

/-- creating the clone of node `nd` once its inputs have been resolved (through the map `vm0` the cloner
    had when it looked at the inputs) and its subgraphs cloned (reaching the world `wc` and the map `vm`) -/
theorem buildNode_inv {w : World} [hGf : GhostUp G w.values.length] {cfgs : List CId} {wc : World} {vm vm0 : VMap} {nd : NodeS}
    (h : CloneInv U G w cfgs wc vm) (h0 : VmOK w wc vm0) (hnd : NodeOK U G w nd) (hreg : ∀ nc ∈ nd.dev, nc.cfg ∈ cfgs)
    {subs : List GId} {w1 : World} {vm1 : VMap}
    (hv1 : w1.values = wc.values ++ nd.outputs.map wc.value) (hc1 : w1.cfgs = wc.cfgs)
    (hm1 : w1.models = wc.models) (hn1 : w1.nodes = wc.nodes ++ [(clonedNode wc vm0 vm1 nd subs)])
    (hvm1 : (nd.outputs.zip (List.range' wc.values.length nd.outputs.length)).reverse ++ vm = vm1) :
    CloneInv U G w cfgs w1 vm1 ∧ w1.nodes.length = wc.nodes.length + 1 := by
  have hlen : nd.outputs.length = (List.range' wc.values.length nd.outputs.length).length := by simp
  have hext1 : Ext wc w1 := Ext.of_append _ hv1 hc1
  have hextw : Ext w w1 := h.ext.trans hext1
  have hzip : ∀ a b, (a, b) ∈ (nd.outputs.zip (List.range' wc.values.length nd.outputs.length)).reverse →
      w1.value b = wc.value a ∧ wc.values.length ≤ b ∧ b < wc.values.length + nd.outputs.length ∧ a ∈ nd.outputs := by
    intro a b hab
    rw [List.mem_reverse] at hab
    exact zip_range'_value hab w1 hv1
  have hlenv : w1.values.length = wc.values.length + nd.outputs.length := by rw [hv1]; simp
  have hzinj : (((nd.outputs.zip (List.range' wc.values.length nd.outputs.length)).reverse).map (·.2)).Nodup := by
    rw [List.map_reverse, nodup_reverse', List.map_snd_zip (by simp)]
    exact List.nodup_range' (h := by decide)
  have hvmok : VmOK w w1 vm1 := by
    refine ⟨?_, ?_, ?_, ?_⟩
    · intro p hp
      rw [← hvm1, List.mem_append] at hp
      rcases hp with hp | hp
      · rw [hlenv]; exact (hzip p.1 p.2 hp).2.2.1
      · rw [hlenv]; exact Nat.lt_of_lt_of_le (h.vmok.lt p hp) (Nat.le_add_right _ _)
    · intro p hp
      rw [← hvm1, List.mem_append] at hp
      rcases hp with hp | hp
      · exact Nat.le_trans h.ext.vlen (hzip p.1 p.2 hp).2.1
      · exact h.vmok.fresh p hp
    · intro p hp hlt
      rw [← hvm1, List.mem_append] at hp
      rcases hp with hp | hp
      · rw [(hzip p.1 p.2 hp).1]; exact h.ext.shape p.1 hlt
      · rw [hext1.shape p.2 (h.vmok.lt p hp)]; exact h.vmok.shape p hp hlt
    · rw [← hvm1, List.map_append, List.nodup_append]
      refine ⟨hzinj, h.vmok.inj, ?_⟩
      intro x hx y hy
      simp only [List.mem_map] at hx hy
      obtain ⟨p, hp, rfl⟩ := hx
      obtain ⟨q, hq, rfl⟩ := hy
      have h1 := (hzip p.1 p.2 hp).2.1
      have h2 := h.vmok.lt q hq
      intro e
      rw [e] at h1
      exact Nat.lt_irrefl _ (Nat.lt_of_lt_of_le h2 h1)
  have hnewok : NodeOK U G w1 (clonedNode wc vm0 vm1 nd subs) ∧ ∀ nc ∈ (clonedNode wc vm0 vm1 nd subs).dev, nc.cfg ∈ cfgs := by
    obtain ⟨hids, hndup, hall⟩ := hnd
    have htgt : ∀ v, v < w.values.length → tgt vm0 v < wc.values.length ∧
        (w1.value (tgt vm0 v)).shape = (w.value v).shape := by
      intro v hv
      obtain ⟨a, b⟩ := h0.tgt_spec h.ext hv
      exact ⟨a, by rw [hext1.shape _ a]; exact b⟩
    have htinj : ∀ x y, x < w.values.length → y < w.values.length → tgt vm0 x = tgt vm0 y → x = y :=
      fun x y hx hy e => h0.tgt_inj hx hy e
    have hlook : ∀ v, InIO nd v → ∃ b,
        vlookup (nodeIoMap wc vm0 nd ++ vm1) v = some b ∧
        InIO (clonedNode wc vm0 vm1 nd subs) b ∧ b < w1.values.length ∧ (w1.value b).shape = (w.value v).shape ∧
        ((v ∈ nd.outputs ∧ (v, b) ∈ (nd.outputs.zip (List.range' wc.values.length nd.outputs.length)).reverse) ∨
         (v ∉ nd.outputs ∧ b = tgt vm0 v)) := by
      intro v hv
      have hvlt : v < w.values.length := InIO.lt hids hv
      obtain ⟨b, hb, hcase⟩ := vlookup_nodeIoMap wc vm0 hv
      refine ⟨b, by rw [vlookup_append, hb]; rfl, ?_⟩
      rcases hcase with ⟨hvo, hbz⟩ | ⟨hvo, hvi, rfl⟩
      · obtain ⟨z1, z2, z3, _⟩ := hzip v b hbz
        exact ⟨Or.inr (List.mem_range'_1.2 ⟨z2, z3⟩), by rw [hlenv]; exact z3, by rw [z1]; exact h.ext.shape v hvlt,
          Or.inl ⟨hvo, hbz⟩⟩
      · exact ⟨Or.inl (List.mem_map.mpr ⟨some v, hvi, rfl⟩),
          by rw [hlenv]; exact Nat.lt_of_lt_of_le (htgt v hvlt).1 (Nat.le_add_right _ _), (htgt v hvlt).2,
          Or.inr ⟨hvo, rfl⟩⟩
    have hio : ∀ nc ∈ nd.dev, ∀ s ∈ nc.specs, InIO nd s.value := fun nc hnc s hs => ((hall nc hnc).2.2.2 s hs).1
    refine ⟨NodeOK.remap (vlookup (nodeIoMap wc vm0 nd ++ vm1)) (fun nc => nc.cfg) ⟨hids, hndup, hall⟩ ⟨?_, ?_⟩
      ?_ ?_ ?_ (fun _ _ _ _ e => e) ?_ ?_, ?_⟩
    · intro o ho v hov
      subst hov
      have ho' : some v ∈ nd.inputs.map (Option.map (tgt vm0)) := ho
      simp only [List.mem_map] at ho'
      obtain ⟨o0, ho0, he⟩ := ho'
      cases o0 with
      | none => cases he
      | some v0 =>
        simp only [Option.map_some, Option.some.injEq] at he
        subst he
        have := (htgt v0 (hids.1 _ ho0 v0 rfl)).1
        rw [hlenv]; exact Nat.lt_of_lt_of_le this (Nat.le_add_right _ _)
    · intro v hv
      have hv : v ∈ List.range' wc.values.length nd.outputs.length := hv
      rw [List.mem_range'_1] at hv
      rw [hlenv]; exact hv.2
    · show (remapDev _ nd.dev).map (·.cfg) = _
      simp [remapDev, List.map_map, Function.comp_def]
    · intro nc' hnc'
      have hnc' : nc' ∈ remapDev _ nd.dev := hnc'
      rw [remapDev_eq, List.mem_map] at hnc'
      obtain ⟨nc, hnc, rfl⟩ := hnc'
      refine ⟨nc, hnc, rfl, rfl, (filterMap_eq_map_of ?_).symm⟩
      intro s hs
      obtain ⟨b', hb', _⟩ := hlook s.value (hio nc hnc s hs)
      simp [retarget, hb', remapSpec_of_lookup hb']
    · intro nc hnc
      exact ⟨by rw [hc1, h.cfgsEq]; exact (hall nc hnc).1, by rw [hextw.cfg _ (hall nc hnc).1]⟩
    · intro nc hnc s hs b hb
      obtain ⟨b', hb', hio', _, hsh, hcase⟩ := hlook s.value (hio nc hnc s hs)
      rw [hb] at hb'; cases hb'
      refine ⟨hio', ?_, fun _ => Or.inl (by simp [rankOf, hsh])⟩
      -- the copy of a ghost is a ghost: it is a new value or the value itself
      intro g
      rcases hcase with ⟨_, z⟩ | ⟨_, e⟩
      · exact hGf.up _ _ g (Nat.le_trans h.ext.vlen (hzip _ _ z).2.1)
      · unfold tgt at e
        cases hl : vlookup vm0 s.value with
        | none => rw [e, hl]; exact g
        | some x => rw [e, hl]; exact hGf.up _ _ g (h0.fresh _ (vlookup_mem hl))
    · -- the io map is injective on the spec targets
      intro _ nc hnc sx hsx sy hsy b hbx hby
      obtain ⟨bx, hbx', _, _, _, cx⟩ := hlook sx.value (hio nc hnc sx hsx)
      obtain ⟨by', hby', _, _, _, cy⟩ := hlook sy.value (hio nc hnc sy hsy)
      rw [hbx] at hbx'; cases hbx'
      rw [hby] at hby'; cases hby'
      have hvx : sx.value < w.values.length := InIO.lt hids (hio nc hnc sx hsx)
      have hvy : sy.value < w.values.length := InIO.lt hids (hio nc hnc sy hsy)
      rcases cx with ⟨_, zx⟩ | ⟨_, ex⟩ <;> rcases cy with ⟨_, zy⟩ | ⟨_, ey⟩
      · exact ListFacts.vals_unique hzinj zx zy
      · have h1 : wc.values.length ≤ b := (hzip _ _ zx).2.1
        have h2 : b < wc.values.length := by rw [ey]; exact (htgt _ hvy).1
        exact absurd h1 (Nat.not_le.mpr h2)
      · have h1 : wc.values.length ≤ b := (hzip _ _ zy).2.1
        have h2 : b < wc.values.length := by rw [ex]; exact (htgt _ hvx).1
        exact absurd h1 (Nat.not_le.mpr h2)
      · exact htinj _ _ hvx hvy (by rw [← ex, ← ey])
    · intro nc' hnc'
      have hnc' : nc' ∈ remapDev _ nd.dev := hnc'
      rw [remapDev_eq] at hnc'
      simp only [List.mem_map] at hnc'
      obtain ⟨nc, hnc, rfl⟩ := hnc'
      exact hreg nc hnc
  obtain ⟨extra, hex, hok⟩ := h.nodes
  obtain ⟨vex, hvex⟩ := h.vals
  refine ⟨⟨hextw, by rw [hc1, h.cfgsEq], by rw [hm1, h.models], ?_, hvmok,
    ⟨vex ++ nd.outputs.map wc.value, by rw [hv1, hvex, List.append_assoc]⟩⟩, by rw [hn1]; simp⟩
  refine ⟨extra ++ [(clonedNode wc vm0 vm1 nd subs)], by rw [hn1, hex, List.append_assoc], ?_⟩
  intro x hx
  simp only [List.mem_append, List.mem_singleton] at hx
  rcases hx with hx | hx
  · exact ⟨(hok x hx).1.ext hext1, (hok x hx).2⟩
  · rw [hx]; exact hnewok

/-- `CloneInv` of the cloner state; the nodes it recorded as new are new and exist -/
structure CInv (U : Prop) (G : VId → Prop) (w : World) (cfgs : List CId) (st : CSt) : Prop where
  inv : CloneInv U G w cfgs st.w st.vm
  newOK : ∀ k ∈ st.newNodes, w.nodes.length ≤ k ∧ k < st.w.nodes.length

/-- what `clone_graph` must satisfy on the graphs of the model `ms` of the source world `w` -/
def RecSpec (U : Prop) (G : VId → Prop) (w : World) (ms : ModelS) (rec : CSt → GId → Option (CSt × GId)) : Prop :=
  ∀ st g st' g', g ∈ ms.graphs → rec st g = some (st', g') → CInv U G w ms.cfgs st →
    CInv U G w ms.cfgs st' ∧ Ext st.w st'.w

theorem CloneInv.len_le {w : World} {cfgs : List CId} {wc : World} {vm : VMap} (h : CloneInv U G w cfgs wc vm) :
    w.nodes.length ≤ wc.nodes.length := by
  obtain ⟨extra, hex, _⟩ := h.nodes
  rw [hex]; simp

theorem cloneSubgraphs_spec {w : World} {ms : ModelS} {rec : CSt → GId → Option (CSt × GId)}
    (hrec : RecSpec U G w ms rec) : ∀ (gs : List GId) (st st' : CSt) (subs : List GId),
    (∀ g ∈ gs, g ∈ ms.graphs) → cloneSubgraphs rec st gs = some (st', subs) →
    CInv U G w ms.cfgs st → CInv U G w ms.cfgs st' ∧ Ext st.w st'.w := by
  intro gs
  induction gs with
  | nil =>
    intro st st' subs _ hc hinv
    simp only [cloneSubgraphs, Option.some.injEq, Prod.mk.injEq] at hc
    obtain ⟨rfl, _⟩ := hc
    exact ⟨hinv, Ext.refl _⟩
  | cons g rest ih =>
    intro st st' subs hgs hc hinv
    simp only [cloneSubgraphs] at hc
    cases hr : rec st g with
    | none => simp [hr] at hc
    | some r =>
      obtain ⟨st1, g1⟩ := r
      simp only [hr] at hc
      cases hr2 : cloneSubgraphs rec st1 rest with
      | none => simp [hr2] at hc
      | some r2 =>
        obtain ⟨st2, subs2⟩ := r2
        simp only [hr2, Option.map_some, Option.some.injEq, Prod.mk.injEq] at hc
        obtain ⟨rfl, _⟩ := hc
        obtain ⟨b1, c1⟩ := hrec st g st1 g1 (hgs g (by simp)) hr hinv
        obtain ⟨b2, c2⟩ := ih st1 st2 subs2 (fun x hx => hgs x (by simp [hx])) hr2 b1
        exact ⟨b2, c1.trans c2⟩

theorem cloneNode_spec {w : World} [hGf : GhostUp G w.values.length] {ms : ModelS} {rec : CSt → GId → Option (CSt × GId)}
    (hrec : RecSpec U G w ms rec) {st st' : CSt} {nd : NodeS} {k : NId}
    (hnd : NodeOK U G w nd) (hreg : ∀ nc ∈ nd.dev, nc.cfg ∈ ms.cfgs) (hsub : ∀ g ∈ nd.subgraphs, g ∈ ms.graphs)
    (hc : cloneNode rec st nd = some (st', k)) (hinv : CInv U G w ms.cfgs st) :
    CInv U G w ms.cfgs st' ∧ Ext st.w st'.w := by
  obtain ⟨st1, subs, hcs, hk, hvm, hnn, hng, hv1, hc1, hm1, hn1⟩ := cloneNode_parts hc
  obtain ⟨hinv1, hext1⟩ := cloneSubgraphs_spec hrec _ _ _ _ hsub hcs hinv
  have hb := buildNode_inv (w1 := st'.w) (vm1 := st'.vm) hinv1.inv (hinv.inv.vmok.ext hext1) hnd hreg
    (subs := subs) hv1 hc1 hm1 hn1 hvm.symm
  refine ⟨⟨hb.1, ?_⟩, hext1.trans (Ext.of_append _ hv1 hc1)⟩
  intro x hx
  rw [hnn, List.mem_append, List.mem_singleton] at hx
  rw [hb.2]
  rcases hx with hx | hx
  · exact ⟨(hinv1.newOK x hx).1, Nat.lt_succ_of_lt (hinv1.newOK x hx).2⟩
  · rw [hx]; exact ⟨hinv1.inv.len_le, Nat.lt_succ_self _⟩

theorem cloneNodes_spec {w : World} [hGf : GhostUp G w.values.length] {ms : ModelS} {rec : CSt → GId → Option (CSt × GId)}
    (hrec : RecSpec U G w ms rec) (hD : DevOK U G w) (hmo : ModelOK w ms) (hcl : Closed w ms) :
    ∀ (ns : List NId) (st st' : CSt) (acc res : List NId), (∀ n ∈ ns, n ∈ ms.nodes) →
    cloneNodes rec w st ns acc = some (st', res) → CInv U G w ms.cfgs st →
    CInv U G w ms.cfgs st' ∧ Ext st.w st'.w := by
  intro ns
  induction ns with
  | nil =>
    intro st st' acc res _ hc hinv
    simp only [cloneNodes, Option.some.injEq, Prod.mk.injEq] at hc
    obtain ⟨rfl, _⟩ := hc
    exact ⟨hinv, Ext.refl _⟩
  | cons n rest ih =>
    intro st st' acc res hns hc hinv
    simp only [cloneNodes] at hc
    cases hcn : cloneNode rec st (w.node n) with
    | none => simp [hcn] at hc
    | some r =>
      obtain ⟨st1, k⟩ := r
      simp only [hcn] at hc
      have hn : n ∈ ms.nodes := hns n (by simp)
      obtain ⟨b1, c1⟩ := cloneNode_spec hrec (hD.node n) (hmo.1 n hn).2 (hcl.2.2.1 n hn) hcn hinv
      obtain ⟨b2, c2⟩ := ih st1 st' _ res (fun x hx => hns x (by simp [hx])) hc b1
      exact ⟨b2, c1.trans c2⟩

theorem CloneInv.of_eq {w : World} {cfgs : List CId} {wc wc' : World} {vm : VMap}
    (h : CloneInv U G w cfgs wc vm) (hv : wc'.values = wc.values) (hc : wc'.cfgs = wc.cfgs)
    (hn : wc'.nodes = wc.nodes) (hm : wc'.models = wc.models) : CloneInv U G w cfgs wc' vm := by
  have hext : Ext wc wc' := Ext.of_eq hv hc
  obtain ⟨extra, hex, hok⟩ := h.nodes
  refine ⟨h.ext.trans hext, by rw [hc, h.cfgsEq], by rw [hm, h.models], ⟨extra, by rw [hn, hex], ?_⟩, h.vmok.ext hext,
    by rw [hv]; exact h.vals⟩
  intro nd hnd; exact ⟨(hok nd hnd).1.ext hext, (hok nd hnd).2⟩

theorem cloneGraphBody_spec {w : World} [hGf : GhostUp G w.values.length] {ms : ModelS} {rec : CSt → GId → Option (CSt × GId)}
    (hrec : RecSpec U G w ms rec) (hD : DevOK U G w) (hmo : ModelOK w ms) (hcl : Closed w ms) :
    RecSpec U G w ms (cloneGraphBody rec w) := by
  intro st g st' g' hg hc hinv
  obtain ⟨st2, ns, hcn, hvm, hnn, hv, hcf, hnd, hmd⟩ := cloneGraphBody_parts hc
  have hi := foldl_cloneValue_inv (w := w) (cfgs := ms.cfgs) ((w.graph g).inputs ++ (w.graph g).inits) hinv.inv
  have hnodes := foldl_cloneValue_nodes ((w.graph g).inputs ++ (w.graph g).inits) (st.w, st.vm)
  have hext0 := foldl_cloneValue_ext ((w.graph g).inputs ++ (w.graph g).inits) (st.w, st.vm)
  generalize ((w.graph g).inputs ++ (w.graph g).inits).foldl cloneValue (st.w, st.vm) = r at hcn hi hnodes hext0
  have hinv0 : CInv U G w ms.cfgs { st with w := r.1, vm := r.2, pending := st.pending ++ ((w.graph g).nodes.map (fun n => (w.node n).outputs)).flatten } := by
    refine ⟨hi, ?_⟩
    intro k hk
    have hk' : k ∈ st.newNodes := hk
    refine ⟨(hinv.newOK k hk').1, ?_⟩
    show k < r.1.nodes.length
    rw [hnodes]; exact (hinv.newOK k hk').2
  obtain ⟨b, c⟩ := cloneNodes_spec hrec hD hmo hcl _ _ _ _ _ (hcl.2.1 g hg) hcn hinv0
  refine ⟨⟨(b.inv.of_eq hv hcf hnd hmd) |> fun x => hvm ▸ x, ?_⟩, ?_⟩
  · intro k hk
    rw [hnn] at hk
    rw [hnd]; exact b.newOK k hk
  · exact (hext0.trans c).trans (Ext.of_eq hv hcf)

theorem cloneGraphF_spec {w : World} [hGf : GhostUp G w.values.length] {ms : ModelS} (hD : DevOK U G w) (hmo : ModelOK w ms) (hcl : Closed w ms) :
    ∀ (f : Nat), RecSpec U G w ms (cloneGraphF w f) := by
  intro f
  induction f with
  | zero => intro st g st' g' _ hc; simp [cloneGraphF] at hc
  | succ f ih =>
    intro st g st' g' hg hc
    simp only [cloneGraphF] at hc
    exact cloneGraphBody_spec ih hD hmo hcl st g st' g' hg hc

theorem cloneRoots_spec {w : World} [hGf : GhostUp G w.values.length] {ms : ModelS} (hD : DevOK U G w) (hmo : ModelOK w ms) (hcl : Closed w ms)
    (f : Nat) : ∀ (gs : List GId) (st st' : CSt) (res : List GId), (∀ g ∈ gs, g ∈ ms.graphs) →
    cloneRoots w f st gs = some (st', res) → CInv U G w ms.cfgs st → CInv U G w ms.cfgs st' := by
  intro gs
  induction gs with
  | nil =>
    intro st st' res _ hc hinv
    simp only [cloneRoots, Option.some.injEq, Prod.mk.injEq] at hc
    obtain ⟨rfl, _⟩ := hc
    exact hinv
  | cons g rest ih =>
    intro st st' res hgs hc hinv
    simp only [cloneRoots] at hc
    cases hr : cloneGraphF w f { st with vm := [], pending := [] } g with
    | none => simp [hr] at hc
    | some r =>
      obtain ⟨st1, g1⟩ := r
      simp only [hr] at hc
      cases hr2 : cloneRoots w f st1 rest with
      | none => simp [hr2] at hc
      | some r2 =>
        obtain ⟨st2, res2⟩ := r2
        simp only [hr2, Option.map_some, Option.some.injEq, Prod.mk.injEq] at hc
        obtain ⟨rfl, _⟩ := hc
        have hinv0 : CInv U G w ms.cfgs { st with vm := [], pending := [] } := ⟨hinv.inv.reset, hinv.newOK⟩
        obtain ⟨b1, _⟩ := cloneGraphF_spec hD hmo hcl f _ g st1 g1 (hgs g (by simp)) hr hinv0
        exact ih st1 st2 res2 (fun x hx => hgs x (by simp [hx])) hr2 b1

theorem CInv.new_cfgs {w : World} {cfgs : List CId} {st : CSt} (hinv : CInv U G w cfgs st) {k : NId}
    (hk : k ∈ st.newNodes) : k < st.w.nodes.length ∧ ∀ nc ∈ (st.w.node k).dev, nc.cfg ∈ cfgs := by
  obtain ⟨hge, hlt⟩ := hinv.newOK k hk
  obtain ⟨extra, hex, hok⟩ := hinv.inv.nodes
  refine ⟨hlt, ?_⟩
  have hmem : st.w.node k ∈ extra := node_mem_extra hex hge hlt
  exact (hok _ hmem).2

theorem CInv.nodesOK {w : World} {cfgs : List CId} {st : CSt} (hinv : CInv U G w cfgs st) :
    ∃ extra, st.w.nodes = w.nodes ++ extra ∧ ∀ nd ∈ extra, NodeOK U G st.w nd := by
  obtain ⟨extra, hex, hok⟩ := hinv.inv.nodes
  exact ⟨extra, hex, fun nd hnd => (hok nd hnd).1⟩

theorem DevOK_clone {w : World} [hGf : GhostUp G w.values.length] (h : DevOK U G w) (m : MId) (hpre : Pre w (.clone m)) :
    DevOK U G (cloneModel w m).1 := by
  have hcl : Closed w (w.model m) := hpre
  unfold cloneModel
  simp only
  cases hcg : cloneRoots w (w.graphs.length + 1) { w := w } (w.model m).roots with
  | none => exact h
  | some r =>
    obtain ⟨st, gs'⟩ := r
    simp only
    have hinit : CInv U G w (w.model m).cfgs { w := w } := ⟨CloneInv.init w _, by simp⟩
    have hinv := cloneRoots_spec h (h.model m) hcl _ _ _ _ _ hcl.1 hcg hinit
    obtain ⟨extra, hex, hok⟩ := hinv.nodesOK
    refine DevOK_extend h (hinv.inv.ext.trans (Ext.of_eq rfl rfl)) ⟨extra, hex, fun nd hnd => (hok nd hnd).ext (Ext.of_eq rfl rfl)⟩ ?_
    intro ms' hms'
    have hms'' : ms' ∈ st.w.models ++ [_] := hms'
    rw [hinv.inv.models, List.mem_append, List.mem_singleton] at hms''
    rcases hms'' with h1 | h1
    · exact ⟨ms', h.2 ms' h1, rfl, fun n hn => Or.inl hn⟩
    · subst h1
      refine ⟨w.model m, h.model m, rfl, ?_⟩
      intro n hn
      exact Or.inr (hinv.new_cfgs hn)

theorem DevOK_newFunction {w : World} (h : DevOK U G w) (m : MId) : DevOK U G (newFunction w m).1 := by
  unfold newFunction
  simp only
  have h1 : DevOK U G ({ w with graphs := w.graphs ++ [{}] } : World) := DevOK_of_eq h rfl rfl rfl rfl
  apply DevOK_setModel h1
  obtain ⟨a, b, c⟩ := h.model m
  exact ⟨a, b, c⟩

theorem DevOK_cloneFunc {w : World} [hGf : GhostUp G w.values.length] (h : DevOK U G w) (m : MId) (i : Nat) (hpre : Pre w (.cloneFunc m i)) :
    DevOK U G (cloneFunc w m i).1 := by
  have hcl : Closed w (w.model m) := hpre
  unfold cloneFunc
  simp only
  cases hf : (w.model m).funcs[i]? with
  | none => exact h
  | some g =>
    simp only
    have hgm : g ∈ (w.model m).graphs := hcl.1 g (by
      simp only [ModelS.roots, List.mem_cons]; right; exact List.mem_of_getElem? hf)
    cases hcg : cloneGraphF w (w.graphs.length + 1) { w := w } g with
    | none => exact h
    | some r =>
      obtain ⟨st, g'⟩ := r
      simp only
      have hinit : CInv U G w (w.model m).cfgs { w := w } := ⟨CloneInv.init w _, by simp⟩
      obtain ⟨hinv, _⟩ := cloneGraphF_spec h (h.model m) hcl _ _ g st g' hgm hcg hinit
      obtain ⟨extra, hex, hok⟩ := hinv.nodesOK
      refine DevOK_extend h (hinv.inv.ext.trans (Ext.of_eq rfl rfl)) ⟨extra, hex, fun nd hnd => (hok nd hnd).ext (Ext.of_eq rfl rfl)⟩ ?_
      intro ms' hms'
      have hms'' := mem_setModel st.w m _ ms' hms'
      rw [hinv.inv.models] at hms''
      rcases hms'' with h1 | ⟨h1, _⟩
      · exact ⟨ms', h.2 ms' h1, rfl, fun n hn => Or.inl hn⟩
      · subst h1
        refine ⟨w.model m, h.model m, rfl, ?_⟩
        intro n hn
        have hn' : n ∈ (w.model m).nodes ++ st.newNodes := hn
        rw [List.mem_append] at hn'
        rcases hn' with h2 | h2
        · exact Or.inl h2
        · exact Or.inr (hinv.new_cfgs h2)

theorem DevOK_cloneSub {w : World} [hGf : GhostUp G w.values.length] (h : DevOK U G w) (n : NId) (g : GId) (hpre : Pre w (.cloneSub n g)) :
    DevOK U G (cloneSub w n g).1 := by
  obtain ⟨⟨msA, hmsA, hnA⟩, hall⟩ := hpre
  unfold cloneSub
  cases hcg : cloneGraphF w (w.graphs.length + 1) { w := w, allow := true } g with
  | none => exact h
  | some r =>
    obtain ⟨st, g'⟩ := r
    simp only
    have hspec : ∀ ms ∈ w.models, n ∈ ms.nodes → CInv U G w ms.cfgs st := by
      intro ms hms hn
      obtain ⟨hg, hcl⟩ := hall ms hms hn
      have hinit : CInv U G w ms.cfgs { w := w, allow := true } := ⟨CloneInv.init w _, by simp⟩
      exact (cloneGraphF_spec h (h.2 ms hms) hcl _ _ g st g' hg hcg hinit).1
    have hinvA := hspec msA hmsA hnA
    obtain ⟨extra, hex, hok⟩ := hinvA.nodesOK
    have hw1 : DevOK U G ({ st.w with models := st.w.models.map (fun ms =>
        if n ∈ ms.nodes then { ms with nodes := ms.nodes ++ st.newNodes, graphs := ms.graphs ++ st.newGraphs }
        else ms) } : World) := by
      refine DevOK_extend h (hinvA.inv.ext.trans (Ext.of_eq rfl rfl)) ⟨extra, hex, fun nd hnd => (hok nd hnd).ext (Ext.of_eq rfl rfl)⟩ ?_
      intro ms' hms'
      have hms'' : ms' ∈ st.w.models.map _ := hms'
      rw [hinvA.inv.models, List.mem_map] at hms''
      obtain ⟨ms0, hms0, rfl⟩ := hms''
      by_cases hn : n ∈ ms0.nodes
      · simp only [hn, if_true]
        refine ⟨ms0, h.2 ms0 hms0, rfl, ?_⟩
        intro k hk
        have hk' : k ∈ ms0.nodes ++ st.newNodes := hk
        rw [List.mem_append] at hk'
        rcases hk' with h2 | h2
        · exact Or.inl h2
        · exact Or.inr ((hspec ms0 hms0 hn).new_cfgs h2)
      · simp only [hn, if_false]
        exact ⟨ms0, h.2 ms0 hms0, rfl, fun k hk => Or.inl hk⟩
    apply DevOK_setNode hw1
    · exact hw1.node n
    · intro ms hms hn nc hnc
      exact ((hw1.2 ms hms).1 n hn).2 nc hnc

/-! ### direct assignment of the annotation tuples, re-attaching a node -/

theorem DevOK_setDev {w : World} (h : DevOK U G w) (n : NId) (dev : List NodeCfg) (hpre : Pre w (.setDev n dev)) :
    DevOK U G (setDev w n dev).1 := by
  unfold setDev
  exact DevOK_setNode h n _ (NodeOK.of_strong hpre.1) (fun ms hms hn nc hnc => hpre.2 nc hnc ms hms hn)

theorem DevOK_setModelCfgs {w : World} (h : DevOK U G w) (m : MId) (cfgs : List CId)
    (hpre : Pre w (.setModelCfgs m cfgs)) : DevOK U G (setModelCfgs w m cfgs).1 := by
  unfold setModelCfgs
  exact DevOK_setModel h m _ hpre

theorem DevOK_attachNode {w : World} (h : DevOK U G w) (g : GId) (n : NId) (hpre : Pre w (.attachNode g n)) :
    DevOK U G (attachNode w g n).1 := by
  unfold attachNode
  split
  · exact h
  · split
    · exact DevOK_setGraph h g _
    have h2 := DevOK_setGraph h g { (w.graph g) with nodes := (w.graph g).nodes ++ [n] }
    apply DevOK_mapModels h2
    intro ms hms
    by_cases hg : g ∈ ms.graphs
    · rw [if_pos hg]
      obtain ⟨a, b, c⟩ := h.2 ms hms
      refine ⟨?_, b, c⟩
      intro k hk
      simp only [List.mem_append] at hk
      rcases hk with hk | hk
      · exact a k hk
      · exact hpre ms hms hg k hk
    · rw [if_neg hg]; exact h2.2 ms hms

end IrVerif.Device.Inv
