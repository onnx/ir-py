/-
Helper development for C18: what the success of the clone of the view (keys of the cloner's value map,
model functions `cloneG/cloneNs/cloneN/cloneGs`) implies, which errors it raises; the initializer dict of the view.
-/
import IrVerif.Lemmas.Extract
namespace IrVerif.Extract

mutual
  theorem cloneG_spec : ∀ (g : GraphT) (m m' : List VId), cloneG m g = .ok m' →
      (∀ v, v ∈ m → v ∈ m') ∧ (∀ v, v ∈ m' → v ∈ m ∨ DefInG g v) ∧ (∀ v, UsedInG g v → v ∈ m') ∧
      (∀ v, v ∈ g.outputs → v ∈ m')
    | .mk gid ins inits outs ns, m, m', h => by
      rw [cloneG] at h
      split at h
      · cases h
      · rename_i m1 h1
        split at h
        · rename_i hout
          cases h
          have ih := cloneNs_spec ns _ _ h1
          refine ⟨?_, ?_, ?_, ?_⟩
          · intro v hv; exact ih.1 v (by simp [hv])
          · intro v hv
            rcases ih.2.1 v hv with h' | ⟨n, hn, hd⟩
            · rcases List.mem_append.mp h' with h' | h'
              · rcases List.mem_append.mp h' with h' | h'
                · exact Or.inl h'
                · exact Or.inr (DefInG.input (g := .mk gid ins inits outs ns) h')
              · exact Or.inr (DefInG.init (g := .mk gid ins inits outs ns) h')
            · exact Or.inr (DefInG.node (g := .mk gid ins inits outs ns) hn hd)
          · intro v hv
            cases hv with
            | node hn hu => exact ih.2.2 v ⟨_, hn, hu⟩
          · intro v hv
            have := List.all_eq_true.mp hout v hv
            simpa using this
        · cases h
  theorem cloneNs_spec : ∀ (ns : List NodeT) (m m' : List VId), cloneNs m ns = .ok m' →
      (∀ v, v ∈ m → v ∈ m') ∧ (∀ v, v ∈ m' → v ∈ m ∨ ∃ n, n ∈ ns ∧ DefInN n v) ∧
      (∀ v, (∃ n, n ∈ ns ∧ UsedInN n v) → v ∈ m')
    | [], m, m', h => by
      rw [cloneNs] at h
      cases h
      exact ⟨fun _ h => h, fun _ h => Or.inl h, fun v ⟨n, hn, _⟩ => by cases hn⟩
    | n :: ns, m, m', h => by
      rw [cloneNs] at h
      split at h
      · cases h
      · rename_i m1 h1
        have i1 := cloneN_spec n _ _ h1
        have i2 := cloneNs_spec ns _ _ h
        refine ⟨fun v hv => i2.1 v (i1.1 v hv), ?_, ?_⟩
        · intro v hv
          rcases i2.2.1 v hv with h' | ⟨k, hk, hd⟩
          · rcases i1.2.1 v h' with h'' | h''
            · exact Or.inl h''
            · exact Or.inr ⟨n, List.mem_cons_self, h''⟩
          · exact Or.inr ⟨k, List.mem_cons_of_mem _ hk, hd⟩
        · rintro v ⟨k, hk, hu⟩
          rcases List.mem_cons.mp hk with rfl | hk
          · exact i2.1 v (i1.2.2 v hu)
          · exact i2.2.2 v ⟨k, hk, hu⟩
  theorem cloneN_spec : ∀ (n : NodeT) (m m' : List VId), cloneN m n = .ok m' →
      (∀ v, v ∈ m → v ∈ m') ∧ (∀ v, v ∈ m' → v ∈ m ∨ DefInN n v) ∧ (∀ v, UsedInN n v → v ∈ m')
    | .mk ins outs bs, m, m', h => by
      rw [cloneN] at h
      split at h
      · rename_i hin
        split at h
        · cases h
        · rename_i m1 h1
          cases h
          have ih := cloneGs_spec bs _ _ h1
          refine ⟨fun v hv => List.mem_append_left _ (ih.1 v hv), ?_, ?_⟩
          · intro v hv
            rcases List.mem_append.mp hv with h' | h'
            · rcases ih.2.1 v h' with h'' | ⟨b, hb, hd⟩
              · exact Or.inl h''
              · exact Or.inr (DefInN.nested (n := .mk ins outs bs) hb hd)
            · exact Or.inr (DefInN.out (n := .mk ins outs bs) h')
          · intro v hv
            cases hv with
            | direct hd =>
              have : v ∈ ins.filterMap id := by simpa [List.mem_filterMap] using hd
              have := List.all_eq_true.mp hin v this
              exact List.mem_append_left _ (ih.1 v (by simpa using this))
            | nested hb hu => exact List.mem_append_left _ (ih.2.2 v ⟨_, hb, hu⟩)
      · cases h
  theorem cloneGs_spec : ∀ (gs : List GraphT) (m m' : List VId), cloneGs m gs = .ok m' →
      (∀ v, v ∈ m → v ∈ m') ∧ (∀ v, v ∈ m' → v ∈ m ∨ ∃ g, g ∈ gs ∧ DefInG g v) ∧
      (∀ v, (∃ g, g ∈ gs ∧ UsedInG g v) → v ∈ m')
    | [], m, m', h => by
      rw [cloneGs] at h
      cases h
      exact ⟨fun _ h => h, fun _ h => Or.inl h, fun v ⟨n, hn, _⟩ => by cases hn⟩
    | g :: gs, m, m', h => by
      rw [cloneGs] at h
      split at h
      · cases h
      · rename_i m1 h1
        have i1 := cloneG_spec g _ _ h1
        have i2 := cloneGs_spec gs _ _ h
        refine ⟨fun v hv => i2.1 v (i1.1 v hv), ?_, ?_⟩
        · intro v hv
          rcases i2.2.1 v hv with h' | ⟨k, hk, hd⟩
          · rcases i1.2.1 v h' with h'' | h''
            · exact Or.inl h''
            · exact Or.inr ⟨g, List.mem_cons_self, h''⟩
          · exact Or.inr ⟨k, List.mem_cons_of_mem _ hk, hd⟩
        · rintro v ⟨k, hk, hu⟩
          rcases List.mem_cons.mp hk with rfl | hk
          · exact i2.1 v (i1.2.2.1 v hu)
          · exact i2.2.2 v ⟨k, hk, hu⟩
end

theorem viewInits_mem {W : World} : ∀ (vs : List VId) (m im : NameMap), viewInits W vs m = .ok im →
    ∀ v, v ∈ im.map (·.2) → v ∈ vs ∨ v ∈ m.map (·.2)
  | [], m, im, h => by
    rw [viewInits] at h; cases h; exact fun v hv => Or.inr hv
  | x :: vs, m, im, h => by
    rw [viewInits] at h
    split at h
    · cases h
    · intro v hv
      rcases viewInits_mem vs _ im h v hv with h' | h'
      · exact Or.inl (List.mem_cons_of_mem _ h')
      · split at h'
        · simp only [List.map_map, List.mem_map, Function.comp] at h'
          obtain ⟨kv, hkv, he⟩ := h'
          split at he
          · simp at he; subst he; exact Or.inl List.mem_cons_self
          · exact Or.inr (List.mem_map.mpr ⟨kv, hkv, he⟩)
        · simp only [List.map_append, List.map_cons, List.map_nil, List.mem_append,
            List.mem_singleton] at h'
          rcases h' with h' | rfl
          · exact Or.inr h'
          · exact Or.inl List.mem_cons_self

mutual
  /-- the clone only raises its own two errors -/
  theorem cloneG_err : ∀ (g : GraphT) (m : List VId) (e : Err), cloneG m g = .error e →
      e = .cloneOuter ∨ e = .cloneOutput
    | .mk gid ins inits outs ns, m, e, h => by
      rw [cloneG] at h
      split at h
      · rename_i e' he; cases h; exact cloneNs_err ns _ _ he
      · split at h
        · cases h
        · cases h; exact Or.inr rfl
  theorem cloneNs_err : ∀ (ns : List NodeT) (m : List VId) (e : Err), cloneNs m ns = .error e →
      e = .cloneOuter ∨ e = .cloneOutput
    | [], m, e, h => by rw [cloneNs] at h; cases h
    | n :: ns, m, e, h => by
      rw [cloneNs] at h
      split at h
      · rename_i e' he; cases h; exact cloneN_err n _ _ he
      · exact cloneNs_err ns _ _ h
  theorem cloneN_err : ∀ (n : NodeT) (m : List VId) (e : Err), cloneN m n = .error e →
      e = .cloneOuter ∨ e = .cloneOutput
    | .mk ins outs bs, m, e, h => by
      rw [cloneN] at h
      split at h
      · split at h
        · rename_i e' he; cases h; exact cloneGs_err bs _ _ he
        · cases h
      · cases h; exact Or.inl rfl
  theorem cloneGs_err : ∀ (gs : List GraphT) (m : List VId) (e : Err), cloneGs m gs = .error e →
      e = .cloneOuter ∨ e = .cloneOutput
    | [], m, e, h => by rw [cloneGs] at h; cases h
    | g :: gs, m, e, h => by
      rw [cloneGs] at h
      split at h
      · rename_i e' he; cases h; exact cloneG_err g _ _ he
      · exact cloneGs_err gs _ _ h
end

/-- with pairwise distinct names nothing is dropped when the view's initializer dict is built -/
theorem viewInits_complete {W : World} : ∀ (vs : List VId) (m im : NameMap), viewInits W vs m = .ok im →
    (∀ kv, kv ∈ m → kv.1 = (W.val kv.2).name) →
    (∀ u u', (u ∈ vs ∨ u ∈ m.map (·.2)) → (u' ∈ vs ∨ u' ∈ m.map (·.2)) →
      (W.val u).name = (W.val u').name → u = u') →
    (∀ x, x ∈ m.map (·.2) → x ∈ im.map (·.2)) ∧ (∀ v, v ∈ vs → v ∈ im.map (·.2))
  | [], m, im, h, _, _ => by
    rw [viewInits] at h; cases h
    exact ⟨fun _ hx => hx, fun _ hv => by cases hv⟩
  | v :: vs, m, im, h, hP, hinj => by
    rw [viewInits] at h
    split at h
    · cases h
    · split at h
      · rename_i hlook
        -- an entry with that name exists: it already holds `v`
        obtain ⟨⟨k, x⟩, hx, hk⟩ := List.lookup_isSome_iff.mp hlook
        obtain rfl : (W.val v).name = k := eq_of_beq hk
        have hxv : x = v := by
          apply hinj x v (Or.inr (List.mem_map.mpr ⟨_, hx, rfl⟩)) (Or.inl List.mem_cons_self)
          exact (hP _ hx).symm
        subst hxv
        have hmap : m.map (fun kv => if kv.1 == (W.val x).name then ((W.val x).name, x) else kv) = m := by
          have hcongr : m.map (fun kv => if kv.1 == (W.val x).name then ((W.val x).name, x) else kv)
              = m.map id := by
            apply List.map_congr_left
            intro kv hkv
            show (if kv.1 == (W.val x).name then ((W.val x).name, x) else kv) = kv
            by_cases hk : kv.1 = (W.val x).name
            · have : kv.2 = x := by
                apply hinj kv.2 x (Or.inr (List.mem_map.mpr ⟨_, hkv, rfl⟩)) (Or.inl List.mem_cons_self)
                rw [← hP kv hkv]; exact hk
              obtain ⟨k, y⟩ := kv
              simp only at hk this
              subst hk; subst this
              simp
            · have : (kv.1 == (W.val x).name) = false := by simpa using hk
              simp [this]
          rw [hcongr, List.map_id]
        rw [hmap] at h
        have ih := viewInits_complete vs m im h hP (fun u u' hu hu' =>
          hinj u u' (hu.imp (List.mem_cons_of_mem _) id) (hu'.imp (List.mem_cons_of_mem _) id))
        refine ⟨ih.1, ?_⟩
        intro w hw
        rcases List.mem_cons.mp hw with rfl | hw
        · exact ih.1 w (List.mem_map.mpr ⟨_, hx, rfl⟩)
        · exact ih.2 w hw
      · have ih := viewInits_complete vs (m ++ [((W.val v).name, v)]) im h
          (by
            intro kv hkv
            rcases List.mem_append.mp hkv with hkv | hkv
            · exact hP kv hkv
            · simp at hkv; subst hkv; rfl)
          (by
            have hmem : ∀ u, (u ∈ vs ∨ u ∈ (m ++ [((W.val v).name, v)]).map (·.2)) →
                (u ∈ v :: vs ∨ u ∈ m.map (·.2)) := by
              intro u hu
              rcases hu with hu | hu
              · exact Or.inl (List.mem_cons_of_mem _ hu)
              · simp only [List.map_append, List.map_cons, List.map_nil, List.mem_append,
                  List.mem_singleton] at hu
                rcases hu with hu | rfl
                · exact Or.inr hu
                · exact Or.inl List.mem_cons_self
            exact fun u u' hu hu' => hinj u u' (hmem u hu) (hmem u' hu'))
        refine ⟨fun x hx => ih.1 x (by simp [hx]), ?_⟩
        intro w hw
        rcases List.mem_cons.mp hw with rfl | hw
        · exact ih.1 w (by simp)
        · exact ih.2 w hw

theorem viewInits_complete_nil {W : World} {vs : List VId} {im : NameMap} (him : viewInits W vs [] = .ok im)
    (hinj : ∀ u u', u ∈ vs → u' ∈ vs → (W.val u).name = (W.val u').name → u = u') :
    ∀ v, v ∈ vs → v ∈ im.map (·.2) :=
  (viewInits_complete vs [] im him (fun _ hkv => nomatch hkv)
    (fun u u' hu hu' => hinj u u' (hu.resolve_right (by simp)) (hu'.resolve_right (by simp)))).2

/-- the view's initializer dict is built when no recorded initializer is nameless -/
theorem viewInits_ok {W : World} : ∀ (vs : List VId) (m : NameMap),
    (∀ v, v ∈ vs → (W.val v).name ≠ "") → ∃ im, viewInits W vs m = .ok im
  | [], m, _ => ⟨m, by rw [viewInits]⟩
  | v :: vs, m, h => by
    have hv : ((W.val v).name == "") = false := by simpa using h v List.mem_cons_self
    rw [viewInits]
    simp only [hv]
    exact viewInits_ok vs _ (fun u hu => h u (List.mem_cons_of_mem _ hu))

/-- `viewInits` can only raise `initNoName`, and only at a nameless value -/
theorem viewInits_err_named {W : World} : ∀ (vs : List VId) (m : NameMap) (e : Err),
    viewInits W vs m = .error e → e = .initNoName ∧ ∃ v, v ∈ vs ∧ (W.val v).name = ""
  | [], m, e, h => by rw [viewInits] at h; cases h
  | v :: vs, m, e, h => by
    rw [viewInits] at h
    split at h
    · rename_i hnm
      cases h
      exact ⟨rfl, v, List.mem_cons_self, by simpa using hnm⟩
    · obtain ⟨h1, u, hu, hn⟩ := viewInits_err_named vs _ e h
      exact ⟨h1, u, List.mem_cons_of_mem _ hu, hn⟩

end IrVerif.Extract
