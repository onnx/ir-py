/-
Frame for the primary fields (info, const) of value cells and for the tensor store: a (sub)graph
deserialization never touches cells / tensors allocated before it started.
-/
import IrVerif.Lemmas.ScopeStruct
namespace IrVerif.Scope

/-- cells below `b` keep `info` and `const`; tensors allocated before keep everything -/
structure Prim (b : Nat) (st st' : Store) : Prop where
  cell : ∀ v, v < b → (st'.vals v).info = (st.vals v).info ∧ (st'.vals v).const = (st.vals v).const
  nt_le : st.nt ≤ st'.nt
  tens : ∀ t, t < st.nt → st'.tens t = st.tens t

theorem Prim.refl (b : Nat) (st : Store) : Prim b st st := ⟨fun _ _ => ⟨rfl, rfl⟩, Nat.le_refl _, fun _ _ => rfl⟩

theorem Prim.trans {b : Nat} {s1 s2 s3 : Store} (h1 : Prim b s1 s2) (h2 : Prim b s2 s3) : Prim b s1 s3 :=
  ⟨fun v hv => ⟨by rw [(h2.cell v hv).1, (h1.cell v hv).1], by rw [(h2.cell v hv).2, (h1.cell v hv).2]⟩,
    Nat.le_trans h1.nt_le h2.nt_le,
    fun t ht => by rw [h2.tens t (Nat.lt_of_lt_of_le ht h1.nt_le), h1.tens t ht]⟩

theorem Prim.weaken {b b' : Nat} {s1 s2 : Store} (h : Prim b s1 s2) (hb : b' ≤ b) : Prim b' s1 s2 :=
  ⟨fun v hv => h.cell v (Nat.lt_of_lt_of_le hv hb), h.nt_le, h.tens⟩

/-- what a helper that builds neither nodes nor graphs does to the store.  `B`: the cells it rewrites are allocated (true
    when the scope table binds allocated ids only); `B := False` needs no hypothesis on the table, `B := True` gives `Quiet` -/
inductive Steps (B : Prop) (PI PC : Nat → Prop) : Store → Store → Prop
  | refl (st : Store) : Steps B PI PC st st
  | alloc {st st' : Store} (c : ValueS) : linksOf c = linksOf {} → Steps B PI PC (st.alloc c).1 st' → Steps B PI PC st st'
  | info {st st' : Store} (v : Nat) (i : Info) : PI v → (B → v < st.nv) →
      Steps B PI PC (st.modify v fun c => { c with info := i }) st' → Steps B PI PC st st'
  | const {st st' : Store} (v k : Nat) : PC v → (B → v < st.nv) →
      Steps B PI PC (st.modify v fun c => { c with const := some k }) st' → Steps B PI PC st st'
  | tensor {st st' : Store} (t : TensorS) : Steps B PI PC (st.allocTensor t).1 st' → Steps B PI PC st st'

theorem Steps.mono {B : Prop} {PI PC PI' PC' : Nat → Prop} {st st' : Store} (h : Steps B PI PC st st')
    (hI : ∀ v, PI v → PI' v) (hC : ∀ v, PC v → PC' v) : Steps B PI' PC' st st' := by
  induction h with
  | refl st => exact .refl st
  | alloc c hc _ ih => exact .alloc c hc ih
  | info v i hp hv _ ih => exact .info v i (hI v hp) hv ih
  | const v k hp hv _ ih => exact .const v k (hC v hp) hv ih
  | tensor t _ ih => exact .tensor t ih

theorem Steps.trans {B : Prop} {PI PC : Nat → Prop} {s1 s2 s3 : Store} (h1 : Steps B PI PC s1 s2)
    (h2 : Steps B PI PC s2 s3) : Steps B PI PC s1 s3 := by
  induction h1 with
  | refl st => exact h2
  | alloc c hc _ ih => exact .alloc c hc (ih h2)
  | info v i hp hv _ ih => exact .info v i hp hv (ih h2)
  | const v k hp hv _ ih => exact .const v k hp hv (ih h2)
  | tensor t _ ih => exact .tensor t (ih h2)

theorem Steps.quiet {PI PC : Nat → Prop} {st st' : Store} (h : Steps True PI PC st st') : Quiet st st' := by
  induction h with
  | refl st => exact Quiet.refl st
  | alloc c hc _ ih => exact (Quiet.alloc _ c hc).trans ih
  | info v i _ hv _ ih =>
    exact (Quiet.modify _ v (fun c => { c with info := i }) (hv trivial) (fun _ => ⟨rfl, rfl⟩)).trans ih
  | const v k _ hv _ ih =>
    exact (Quiet.modify _ v (fun c => { c with const := some k }) (hv trivial) (fun _ => ⟨rfl, rfl⟩)).trans ih
  | tensor t _ ih => exact (Quiet.allocTensor _ t).trans ih

theorem Steps.keep {B : Prop} {PI PC : Nat → Prop} {st st' : Store} (h : Steps B PI PC st st') :
    st.nv ≤ st'.nv ∧ st.nt ≤ st'.nt ∧ (∀ t, t < st.nt → st'.tens t = st.tens t) ∧
    ∀ v, v < st.nv → (st'.vals v).name = (st.vals v).name ∧
      (¬ PI v → (st'.vals v).info = (st.vals v).info) ∧ (¬ PC v → (st'.vals v).const = (st.vals v).const) ∧
      ((st.vals v).const ≠ none → (st'.vals v).const ≠ none) ∧ (¬ PI v → ¬ PC v → st'.vals v = st.vals v) := by
  induction h with
  | refl st =>
    exact ⟨Nat.le_refl _, Nat.le_refl _, fun _ _ => rfl, fun _ _ => ⟨rfl, fun _ => rfl, fun _ => rfl, id, fun _ _ => rfl⟩⟩
  | @alloc st st' c _ _ ih =>
    obtain ⟨a, b, c', d⟩ := ih
    refine ⟨Nat.le_trans (Nat.le_succ _) a, b, c', fun v hv => ?_⟩
    have := d v (Nat.lt_succ_of_lt hv)
    rwa [alloc_vals_lt _ _ hv] at this
  | @info st st' w i hp _ _ ih =>
    obtain ⟨a, b, c', d⟩ := ih
    refine ⟨a, b, c', fun v hv => ?_⟩
    obtain ⟨d1, d2, d3, d4, d5⟩ := d v hv
    by_cases hvw : v = w
    · subst hvw
      rw [modify_vals_self] at d1 d3 d4
      exact ⟨d1, fun hn => absurd hp hn, d3, d4, fun hn => absurd hp hn⟩
    · rw [modify_vals_ne _ _ _ hvw] at d1 d2 d3 d4 d5
      exact ⟨d1, d2, d3, d4, d5⟩
  | @const st st' w k hp _ _ ih =>
    obtain ⟨a, b, c', d⟩ := ih
    refine ⟨a, b, c', fun v hv => ?_⟩
    obtain ⟨d1, d2, d3, d4, d5⟩ := d v hv
    by_cases hvw : v = w
    · subst hvw
      rw [modify_vals_self] at d1 d2 d4
      exact ⟨d1, d2, fun hn => absurd hp hn, fun _ => d4 (by simp), fun _ hn => absurd hp hn⟩
    · rw [modify_vals_ne _ _ _ hvw] at d1 d2 d3 d4 d5
      exact ⟨d1, d2, d3, d4, d5⟩
  | @tensor st st' t _ ih =>
    obtain ⟨a, b, c', d⟩ := ih
    refine ⟨a, Nat.le_trans (Nat.le_succ _) b, fun i hi => ?_, d⟩
    rw [c' i (Nat.lt_succ_of_lt hi)]
    simp only [Store.allocTensor]
    have : i ≠ st.nt := Nat.ne_of_lt hi
    simp [this]

theorem Steps.nv_le {B : Prop} {PI PC : Nat → Prop} {st st' : Store} (h : Steps B PI PC st st') : st.nv ≤ st'.nv := h.keep.1

theorem Steps.names {B : Prop} {PI PC : Nat → Prop} {st st' : Store} (h : Steps B PI PC st st') (v : Nat) (hv : v < st.nv) :
    (st'.vals v).name = (st.vals v).name := (h.keep.2.2.2 v hv).1

theorem Steps.info_keep {B : Prop} {PI PC : Nat → Prop} {st st' : Store} (h : Steps B PI PC st st') (v : Nat) (hv : v < st.nv)
    (hn : ¬ PI v) : (st'.vals v).info = (st.vals v).info := (h.keep.2.2.2 v hv).2.1 hn

theorem Steps.const_keep {B : Prop} {PI PC : Nat → Prop} {st st' : Store} (h : Steps B PI PC st st') (v : Nat) (hv : v < st.nv)
    (hn : ¬ PC v) : (st'.vals v).const = (st.vals v).const := (h.keep.2.2.2 v hv).2.2.1 hn

theorem Steps.const_some {B : Prop} {PI PC : Nat → Prop} {st st' : Store} (h : Steps B PI PC st st') (v : Nat) (hv : v < st.nv)
    (hc : (st.vals v).const ≠ none) : (st'.vals v).const ≠ none := (h.keep.2.2.2 v hv).2.2.2.1 hc

theorem Steps.cell_keep {B : Prop} {PI PC : Nat → Prop} {st st' : Store} (h : Steps B PI PC st st') (v : Nat) (hv : v < st.nv)
    (hi : ¬ PI v) (hc : ¬ PC v) : st'.vals v = st.vals v := (h.keep.2.2.2 v hv).2.2.2.2 hi hc

theorem Steps.prim {B : Prop} {PI PC : Nat → Prop} {st st' : Store} {b : Nat} (h : Steps B PI PC st st') (hb : b ≤ st.nv)
    (hI : ∀ v, PI v → b ≤ v) (hC : ∀ v, PC v → b ≤ v) : Prim b st st' := by
  obtain ⟨_, a, t, d⟩ := h.keep
  refine ⟨fun v hv => ?_, a, t⟩
  obtain ⟨_, d2, d3, _⟩ := d v (Nat.lt_of_lt_of_le hv hb)
  exact ⟨d2 (fun hp => Nat.not_le_of_lt hv (hI v hp)), d3 (fun hp => Nat.not_le_of_lt hv (hC v hp))⟩

theorem newNamed_steps {B : Prop} {PC : Nat → Prop} {b : Nat} (st : Store) (vi : List (Name × Info)) (x : Name) :
    Steps B (b ≤ ·) PC st (newNamed st vi x) := by
  rw [newNamed_eq_alloc]
  exact .alloc _ (by rfl) (.refl _)

theorem newInit_steps {B : Prop} {PC : Nat → Prop} {b : Nat} (st : Store) (vi : List (Name × Info)) (t : TensorP) (tid : Nat) :
    Steps B (b ≤ ·) PC st (newInit st vi t tid) := by
  rw [newInit_eq_alloc]
  exact .alloc _ (by rfl) (.refl _)

theorem deserInputs_steps {B : Prop} {PC : Nat → Prop} {b : Nat} (is : List VInfoP) :
    ∀ (st : Store), b ≤ st.nv → Steps B (b ≤ ·) PC st (deserInputs st is).1 := by
  induction is with
  | nil => intro st _; exact .refl _
  | cons i is ih => intro st hb; exact .alloc _ (by rfl) (ih _ (Nat.le_succ_of_le hb))

theorem deserInits_steps {B : Prop} {b : Nat} (vi : List (Name × Info)) (ts : List TensorP) :
    ∀ (st : Store) (tbl : Table), b ≤ st.nv → (B → TableLt st tbl) →
      Steps B (b ≤ ·) (fun v => v ∈ tbl.map (·.2) ∨ b ≤ v) st (deserInits st tbl vi ts).1 := by
  induction ts with
  | nil => intro st tbl _ _; exact .refl _
  | cons t ts ih =>
    intro st tbl hb hlt
    simp only [deserInits]
    split
    · exact ih st tbl hb hlt
    · split
      · rename_i v hv
        exact .tensor _ (.const v _ (.inl (List.mem_map_of_mem (lookup_mem _ _ _ hv)))
          (fun hB => hlt hB _ (lookup_mem _ _ _ hv)) (ih _ tbl hb hlt))
      · have hnv := (newInit_quiet (st.allocTensor { name := some t.name, data := t.data, ty := t.ty, sh := t.sh }).1
          vi t st.nt).2
        refine .tensor _ ((newInit_steps (st.allocTensor _).1 vi t st.nt).trans
          ((ih _ _ (by rw [hnv]; exact Nat.le_succ_of_le hb) (fun hB e he => ?_)).mono (fun _ h => h) ?_))
        · rw [hnv]
          rcases List.mem_cons.1 he with rfl | he
          · exact Nat.lt_succ_self _
          · exact Nat.lt_succ_of_lt (hlt hB e he)
        · intro v hv
          simp only [List.map_cons, List.mem_cons] at hv
          rcases hv with (rfl | hv) | hv
          · exact .inr hb
          · exact .inl hv
          · exact .inr hv

theorem declareOutputs_steps {B : Prop} {PC : Nat → Prop} {b : Nat} (vi : List (Name × Info)) (xs : List Name) :
    ∀ (st : Store) (tbl : Table) (st' : Store) (tbl' : Table), b ≤ st.nv →
      declareOutputs st tbl vi xs = .ok (st', tbl') → Steps B (b ≤ ·) PC st st' := by
  induction xs with
  | nil =>
    intro st tbl st' tbl' _ he
    simp only [declareOutputs, Except.ok.injEq, Prod.mk.injEq] at he
    obtain ⟨rfl, rfl⟩ := he
    exact .refl _
  | cons x xs ih =>
    intro st tbl st' tbl' hb he
    simp only [declareOutputs] at he
    split at he
    · exact ih st tbl st' tbl' hb he
    · split at he
      · simp at he
      · exact (newNamed_steps st vi x).trans
          (ih _ _ st' tbl' (by rw [(newNamed_quiet st vi x).2]; exact Nat.le_succ_of_le hb) he)

theorem declareNodes_steps {B : Prop} {PC : Nat → Prop} {b : Nat} (vi : List (Name × Info)) (ns : List NodeP) :
    ∀ (st : Store) (tbl : Table) (st' : Store) (tbl' : Table), b ≤ st.nv →
      declareNodes st tbl vi ns = .ok (st', tbl') → Steps B (b ≤ ·) PC st st' := by
  induction ns with
  | nil =>
    intro st tbl st' tbl' _ he
    simp only [declareNodes, Except.ok.injEq, Prod.mk.injEq] at he
    obtain ⟨rfl, rfl⟩ := he
    exact .refl _
  | cons n ns ih =>
    intro st tbl st' tbl' hb he
    simp only [declareNodes] at he
    split at he
    · simp at he
    · rename_i st1 tbl1 h1
      have s1 := declareOutputs_steps (B := B) (PC := PC) vi n.outputs st tbl st1 tbl1 hb h1
      exact s1.trans (ih st1 tbl1 st' tbl' (Nat.le_trans hb s1.keep.1) he)

theorem resolveInputs_steps {B : Prop} {PC : Nat → Prop} {b : Nat} (outer : List Table) (vi : List (Name × Info)) (xs : List Name) :
    ∀ (st : Store) (top : Table), b ≤ st.nv → Steps B (b ≤ ·) PC st (resolveInputs st top outer vi xs).1 := by
  induction xs with
  | nil => intro st top _; exact .refl _
  | cons x xs ih =>
    intro st top hb
    simp only [resolveInputs]
    split
    · exact ih st top hb
    · split
      · exact ih st top hb
      · exact (newNamed_steps st vi x).trans (ih _ _ (by rw [(newNamed_quiet st vi x).2]; exact Nat.le_succ_of_le hb))

theorem lookupOutputs_steps {B : Prop} {PI PC : Nat → Prop} (top : Table) (xs : List Name) :
    ∀ (st st' : Store) (outs : List Nat), lookupOutputs st top xs = .ok (st', outs) → Steps B PI PC st st' := by
  induction xs with
  | nil =>
    intro st st' outs he
    simp only [lookupOutputs, Except.ok.injEq, Prod.mk.injEq] at he
    obtain ⟨rfl, rfl⟩ := he
    exact .refl _
  | cons x xs ih =>
    intro st st' outs he
    simp only [lookupOutputs] at he
    split at he
    · split at he
      · simp at he
      · rename_i st2 vs h2
        simp only [Except.ok.injEq, Prod.mk.injEq] at he
        obtain ⟨rfl, _⟩ := he
        exact .alloc _ (by rfl) (ih _ _ _ h2)
    · split at he
      · simp at he
      · split at he
        · simp at he
        · rename_i st1 vs h2
          simp only [Except.ok.injEq, Prod.mk.injEq] at he
          obtain ⟨rfl, _⟩ := he
          exact ih _ _ _ h2

theorem deserOutputs_steps {B : Prop} {PC : Nat → Prop} {b : Nat} (tbl : Table) (os : List VInfoP) :
    ∀ (st : Store), b ≤ st.nv → (B → TableLt st tbl) →
      Steps B (fun v => v ∈ (deserOutputs st tbl os).2 ∨ b ≤ v) PC st (deserOutputs st tbl os).1 := by
  induction os with
  | nil => intro st _ _; exact .refl _
  | cons o os ih =>
    intro st hb hlt
    simp only [deserOutputs]
    split
    · rename_i v hv
      exact .info v _ (.inl List.mem_cons_self) (fun hB => hlt hB _ (lookup_mem _ _ _ hv))
        ((ih (st.modify v fun c => { c with info := o.info }) hb hlt).mono
          (fun w hw => hw.imp (List.mem_cons_of_mem _) id) (fun _ h => h))
    · exact .alloc _ (by rfl) ((ih (st.alloc { name := some o.name, info := o.info }).1 (Nat.le_succ_of_le hb)
        (fun hB e he => Nat.lt_succ_of_lt (hlt hB e he))).mono
        (fun w hw => hw.imp (List.mem_cons_of_mem _) id) (fun _ h => h))

theorem deserOutputs_mem (tbl : Table) (os : List VInfoP) :
    ∀ (st : Store), ∀ w ∈ (deserOutputs st tbl os).2, w ∈ tbl.map (·.2) ∨ st.nv ≤ w := by
  induction os with
  | nil => intro st w hw; simp [deserOutputs] at hw
  | cons o os ih =>
    intro st w hw
    simp only [deserOutputs] at hw
    split at hw
    · rename_i v hv
      simp only [List.mem_cons] at hw
      rcases hw with rfl | hw
      · exact .inl (List.mem_map_of_mem (lookup_mem _ _ _ hv))
      · exact ih (st.modify v fun c => { c with info := o.info }) w hw
    · simp only [alloc_snd, List.mem_cons] at hw
      rcases hw with rfl | hw
      · exact .inr (Nat.le_refl _)
      · exact (ih (st.alloc { name := some o.name, info := o.info }).1 w hw).imp id (fun h => Nat.le_of_succ_le h)

theorem newNamed_prim (b : Nat) (st : Store) (vi : List (Name × Info)) (x : Name) (hb : b ≤ st.nv) :
    Prim b st (newNamed st vi x) :=
  (newNamed_steps (B := False) (PC := fun _ => False) st vi x).prim hb (fun _ h => h) (fun _ h => h.elim)

theorem deserInputs_prim (b : Nat) (is : List VInfoP) (st : Store) (hb : b ≤ st.nv) : Prim b st (deserInputs st is).1 :=
  (deserInputs_steps (B := False) (PC := fun _ => False) is st hb).prim hb (fun _ h => h) (fun _ h => h.elim)

theorem deserInits_prim (b : Nat) (vi : List (Name × Info)) (ts : List TensorP) (st : Store) (tbl : Table)
    (hge : TableGe b tbl) (hb : b ≤ st.nv) : Prim b st (deserInits st tbl vi ts).1 :=
  (deserInits_steps (B := False) vi ts st tbl hb False.elim).prim hb (fun _ h => h) (fun v hv => by
    rcases hv with hv | hv
    · obtain ⟨e, he, rfl⟩ := List.mem_map.mp hv
      exact hge e he
    · exact hv)

theorem declareOutputs_prim (b : Nat) (vi : List (Name × Info)) (xs : List Name) (st : Store) (tbl : Table)
    (st' : Store) (tbl' : Table) (hb : b ≤ st.nv) (he : declareOutputs st tbl vi xs = .ok (st', tbl')) : Prim b st st' :=
  (declareOutputs_steps (B := False) (PC := fun _ => False) vi xs st tbl st' tbl' hb he).prim hb (fun _ h => h) (fun _ h => h.elim)

theorem declareNodes_prim (b : Nat) (vi : List (Name × Info)) (ns : List NodeP) (st : Store) (tbl : Table)
    (st' : Store) (tbl' : Table) (hb : b ≤ st.nv) (he : declareNodes st tbl vi ns = .ok (st', tbl')) : Prim b st st' :=
  (declareNodes_steps (B := False) (PC := fun _ => False) vi ns st tbl st' tbl' hb he).prim hb (fun _ h => h) (fun _ h => h.elim)

theorem resolveInputs_prim (b : Nat) (outer : List Table) (vi : List (Name × Info)) (xs : List Name) (st : Store)
    (top : Table) (hb : b ≤ st.nv) : Prim b st (resolveInputs st top outer vi xs).1 :=
  (resolveInputs_steps (B := False) (PC := fun _ => False) outer vi xs st top hb).prim hb (fun _ h => h) (fun _ h => h.elim)

theorem lookupOutputs_prim (b : Nat) (top : Table) (xs : List Name) (st st' : Store) (outs : List Nat) (hb : b ≤ st.nv)
    (he : lookupOutputs st top xs = .ok (st', outs)) : Prim b st st' :=
  (lookupOutputs_steps (B := False) (PI := fun _ => False) (PC := fun _ => False) top xs st st' outs he).prim hb
    (fun _ h => h.elim) (fun _ h => h.elim)

theorem deserOutputs_prim (b : Nat) (tbl : Table) (os : List VInfoP) (st : Store) (hge : TableGe b tbl)
    (hb : b ≤ st.nv) : Prim b st (deserOutputs st tbl os).1 :=
  (deserOutputs_steps (B := False) (PC := fun _ => False) tbl os st hb False.elim).prim hb (fun v hv => by
    rcases hv with hv | hv
    · rcases deserOutputs_mem tbl os st v hv with h | h
      · obtain ⟨e, he, rfl⟩ := List.mem_map.mp h
        exact hge e he
      · exact Nat.le_trans hb h
    · exact hv) (fun _ h => h.elim)

theorem resolveInputs_fresh (outer : List Table) (vi : List (Name × Info)) (xs : List Name) (st : Store) (top : Table)
    (h : Fresh st) : Fresh (resolveInputs st top outer vi xs).1 :=
  (resolveInputs_steps (B := True) (PC := fun _ => False) outer vi xs st top (Nat.le_refl _)).quiet.fresh h

theorem declareNodes_fresh (vi : List (Name × Info)) (ns : List NodeP) (st : Store) (tbl : Table) (st' : Store)
    (tbl' : Table) (he : declareNodes st tbl vi ns = .ok (st', tbl')) (h : Fresh st) : Fresh st' :=
  (declareNodes_steps (B := True) (PC := fun _ => False) vi ns st tbl st' tbl' (Nat.le_refl _) he).quiet.fresh h

theorem mkNode_prim (b : Nat) (st : Store) (ins : List (Option Nat)) (outs : List Nat) (gs : List GraphT) :
    Prim b st (mkNode st ins outs gs).1 :=
  ⟨fun v _ => ⟨(mkNode_keeps st ins outs gs v).2.1, (mkNode_keeps st ins outs gs v).2.2.1⟩,
    by rw [(mkNode_tens st ins outs gs).2]; exact Nat.le_refl _, fun t _ => by rw [(mkNode_tens st ins outs gs).1]⟩

theorem mkGraph_prim (b : Nat) (st : Store) (ins outs : List Nat) (ns : List NodeT) (iv : List Nat) :
    Prim b st (mkGraph st ins outs ns iv).1 :=
  ⟨fun v _ => by rw [mkGraph_cell]; exact ⟨rfl, rfl⟩,
    by rw [(mkGraph_tens st ins outs ns iv).2]; exact Nat.le_refl _, fun t _ => by rw [(mkGraph_tens st ins outs ns iv).1]⟩

mutual
theorem deserGraph_prim :
    ∀ (p : GraphP) (st : Store) (outer : List Table) (st' : Store) (g : GraphT),
      Fresh st → TablesLt st outer → deserGraph st outer p = .ok (st', g) → Prim st.nv st st'
  | .mk inputs inits vinfo nodes outputs => by
    intro st outer st' g hf ho h
    have ih := deserNodes_prim2 st.nv nodes
    obtain ⟨st1, ins, st2, tbl2, iv, st3, tbl3, st4, tbl4, ns, st5, outs, r, rfl, _⟩ := deserGraph_run h
    have fr := r.frame hf ho
    have p1 := deserInputs_prim st.nv inputs st (Nat.le_refl _)
    rw [r.hin] at p1
    have p2 := deserInits_prim st.nv (vinfoTable vinfo) inits st1 _ fr.ok1.ge fr.q1.nv_le
    rw [r.hinit] at p2
    have p3 := declareNodes_prim st.nv (vinfoTable vinfo) nodes _ _ st3 tbl3 fr.le2 r.hdecl
    have p4 := ih st3 tbl3 outer (vinfoTable vinfo) st.nv st4 tbl4 ns fr.f3 fr.ok3 fr.ho3 fr.le3 fr.le3 r.hnodes
    have p5 := deserOutputs_prim st.nv tbl4 outputs st4 fr.ok4.ge fr.le4
    rw [r.houts] at p5
    exact ((((p1.trans p2).trans p3).trans p4).trans p5).trans (mkGraph_prim _ _ _ _ _ _)
/-- the frame base `c` need not be the counter `b` the graph started at: a function body is framed from the counter
    after the function inputs (`deser_repl_func`) -/
theorem deserNodes_prim2 (c : Nat) :
    ∀ (ns : List NodeP) (st : Store) (top : Table) (outer : List Table) (vi : List (Name × Info)) (b : Nat)
      (st' : Store) (top' : Table) (nts : List NodeT),
      Fresh st → TblOK st b top → TablesLt st outer → b ≤ st.nv → c ≤ st.nv →
      deserNodes st top outer vi ns = .ok (st', top', nts) → Prim c st st'
  | [] => by
    intro st top outer vi b st' top' nts _ _ _ _ _ h
    simp only [deserNodes, Except.ok.injEq, Prod.mk.injEq] at h
    obtain ⟨rfl, rfl, rfl⟩ := h
    exact Prim.refl _ _
  | n :: ns => by
    have ihn := deserNode_prim2 c n
    have ihr := deserNodes_prim2 c ns
    intro st top outer vi b st' top' nts hf hok ho hb hc h
    obtain ⟨st1, top1, nt, nts', h1, h2, _⟩ := deserNodes_inv h
    obtain ⟨f1, m1, ok1, _⟩ := deserNode_struct n st top outer vi b st1 top1 nt hf hok ho hb h1
    have p1 := ihn st top outer vi b st1 top1 nt hf hok ho hb hc h1
    have p2 := ihr st1 top1 outer vi b st' top' nts' f1 ok1 (ho.mono m1.nv_le)
      (Nat.le_trans hb m1.nv_le) (Nat.le_trans hc m1.nv_le) h2
    exact p1.trans p2
theorem deserNode_prim2 (c : Nat) :
    ∀ (n : NodeP) (st : Store) (top : Table) (outer : List Table) (vi : List (Name × Info)) (b : Nat)
      (st' : Store) (top' : Table) (nt : NodeT),
      Fresh st → TblOK st b top → TablesLt st outer → b ≤ st.nv → c ≤ st.nv →
      deserNode st top outer vi n = .ok (st', top', nt) → Prim c st st'
  | .mk inputs outputs subs => by
    have ih := deserSubs_prim subs
    intro st top outer vi b st' top' nt hf hok ho hb hc h
    obtain ⟨st1, top1, ins, st2, outs, st3, gs, r, rfl, rfl, _⟩ := deserNode_run h
    have fr := r.frame hf hok ho hb
    have p1 := resolveInputs_prim c outer vi inputs st top hc
    rw [r.hres] at p1
    have le1 : c ≤ st1.nv := Nat.le_trans hc fr.q1.nv_le
    have p2 := lookupOutputs_prim c _ outputs _ _ _ le1 r.hlook
    have p3 := (ih st2 _ st3 gs fr.f2 fr.hts r.hsubs).weaken (Nat.le_trans le1 fr.q2.nv_le)
    exact ((p1.trans p2).trans p3).trans (mkNode_prim c st3 _ outs gs)
theorem deserSubs_prim :
    ∀ (gs : List GraphP) (st : Store) (scopes : List Table) (st' : Store) (gts : List GraphT),
      Fresh st → TablesLt st scopes → deserSubs st scopes gs = .ok (st', gts) → Prim st.nv st st'
  | [] => by
    intro st scopes st' gts _ _ h
    simp only [deserSubs, Except.ok.injEq, Prod.mk.injEq] at h
    obtain ⟨rfl, rfl⟩ := h
    exact Prim.refl _ _
  | g :: gs => by
    have ihg := deserGraph_prim g
    have ihr := deserSubs_prim gs
    intro st scopes st' gts hf hs h
    obtain ⟨st1, gt, gts', h1, h2, _⟩ := deserSubs_inv h
    obtain ⟨f1, m1⟩ := deserGraph_struct g st scopes st1 gt hf hs h1
    have p1 := ihg st scopes st1 gt hf hs h1
    have p2 := ihr st1 scopes st' gts' f1 (hs.mono m1.nv_le) h2
    exact p1.trans (p2.weaken m1.nv_le)
end

theorem deserNodes_prim :
    ∀ (ns : List NodeP) (st : Store) (top : Table) (outer : List Table) (vi : List (Name × Info)) (b : Nat)
      (st' : Store) (top' : Table) (nts : List NodeT),
      Fresh st → TblOK st b top → TablesLt st outer → b ≤ st.nv →
      deserNodes st top outer vi ns = .ok (st', top', nts) → Prim b st st' :=
  fun ns st top outer vi b st' top' nts hf hok ho hb h =>
    deserNodes_prim2 b ns st top outer vi b st' top' nts hf hok ho hb hb h

theorem deserNode_prim :
    ∀ (n : NodeP) (st : Store) (top : Table) (outer : List Table) (vi : List (Name × Info)) (b : Nat)
      (st' : Store) (top' : Table) (nt : NodeT),
      Fresh st → TblOK st b top → TablesLt st outer → b ≤ st.nv →
      deserNode st top outer vi n = .ok (st', top', nt) → Prim b st st' :=
  fun n st top outer vi b st' top' nt hf hok ho hb h =>
    deserNode_prim2 b n st top outer vi b st' top' nt hf hok ho hb hb h

end IrVerif.Scope
