import IrVerif.Lemmas.ScopeSerdeBridgeFlat
/-!
The C02/C03 bridge without a hypothesis on the IR: every IR graph C02 deserializes from a proto of the fragment
`sharedSFull` satisfies `GOKFull` (`C03_bridge_gok_full`), so the two models are one serde there (`C03_bridge_serde`;
restricted to graphs without nested graphs: `C03_bridge_gok`, `C03_bridge_serde_partial`).  The ingredient is `OKv`:
the values C02 deserializes from such a graph are written back as their tokens say.
-/
namespace IrVerif.Bridge
open IrVerif.Proto IrVerif.Serde

/-- the type / shape pair of a value is read back as written (the shape only inside a type) -/
def RT (ty : Option IRType) (sh : Option IRShape) : Prop :=
  tyOf (serTypeAndShape ty sh) = ty ∧ shOf (serTypeAndShape ty sh) = (if ty.isSome then sh else none)

theorem desShape_serShape' (S : IRShape) : desShape (serShape S) = S := by
  simp only [desShape, serShape, List.map_map]
  conv => rhs; rw [← List.map_id S]
  apply List.map_congr_left
  intro d _
  obtain ⟨v, den⟩ := d
  cases v with
  | int i => rfl
  | sym s => cases s <;> rfl

theorem RT_none : RT none none := ⟨rfl, rfl⟩

theorem RT_info (tp : TypeP) (h : wfType tp = true) : RT (tyOf tp) (shOf tp) := by
  obtain ⟨ty, sh, h1, h2, h3⟩ := type_roundtrip tp h
  have e1 : tyOf tp = ty := by simp [tyOf, h1]
  have e2 : shOf tp = sh := by simp [shOf, h2]
  obtain ⟨ty', sh', g3, g4, _⟩ := applyInfo_ok (IRValue.blank "") ⟨"", tp, "", []⟩ h
  simp only at g3 g4
  refine ⟨by rw [e1, e2, h3, e1], ?_⟩
  rw [e1, e2, h3, e2]
  cases hty : ty with
  | some t => simp
  | none =>
    -- an unset type has no shape
    simp only [Option.isSome_none, Bool.false_eq_true, if_false]
    subst hty
    cases tp with
    | unset den => simp [desTypeForShape] at h2; exact h2.symm
    | tensor e s den =>
      cases e with
      | none => simp [wfType, wfTypeSet] at h
      | some e => simp [wfType, wfTypeSet] at h; simp [desTypeForType, h] at h1
    | sparse e s den =>
      cases e with
      | none => simp [wfType, wfTypeSet] at h
      | some e => simp [wfType, wfTypeSet] at h; simp [desTypeForType, h] at h1
    | sequence e den =>
      obtain ⟨a, b, c1, _, _⟩ := type_roundtrip_set (.sequence e den) (by simpa [wfType] using h)
      rw [c1] at h1; cases h1
    | optional e den =>
      obtain ⟨a, b, c1, _, _⟩ := type_roundtrip_set (.optional e den) (by simpa [wfType] using h)
      rw [c1] at h1; cases h1
    | map den => simp [wfType, wfTypeSet] at h

theorem RT_init (dt : Int) (hv : validDType dt = true) (S : IRShape) :
    RT (some (.tensor dt "")) (some S) := by
  constructor
  · simp [serTypeAndShape, serType, serShapeInto, tyOf, desTypeForType, hv]
  · simp [serTypeAndShape, serType, serShapeInto, shOf, desTypeForShape, desShape_serShape']

theorem desTypeForType_fill (D : ShapeP) (e : TypeP) (he : wfTypeSet e = true)
    (ih : tyOf (fillLeafShape D e) = tyOf e) :
    ∃ ty, desTypeForType e = .ok (some ty) ∧ desTypeForType (fillLeafShape D e) = .ok (some ty) := by
  obtain ⟨ty, sh, c1, _, _⟩ := type_roundtrip_set e he
  have h0 : tyOf e = some ty := by simp [tyOf, c1]
  rw [h0] at ih
  refine ⟨ty, c1, ?_⟩
  cases h1 : desTypeForType (fillLeafShape D e) with
  | error x => simp [tyOf, h1] at ih
  | ok x => simp [tyOf, h1] at ih; rw [ih]

theorem tyOf_fill (D : ShapeP) : ∀ t : TypeP, wfTypeSet t = true → tyOf (fillLeafShape D t) = tyOf t
  | .unset _, h => by simp [wfTypeSet] at h
  | .map _, h => by simp [wfTypeSet] at h
  | .tensor e sh den, _ => by cases sh <;> cases e <;> simp [fillLeafShape, tyOf, desTypeForType]
  | .sparse e sh den, _ => by cases sh <;> cases e <;> simp [fillLeafShape, tyOf, desTypeForType]
  | .sequence e den, h => by
    have he : wfTypeSet e = true := by simpa [wfTypeSet] using h
    obtain ⟨ty, c1, c2⟩ := desTypeForType_fill D e he (tyOf_fill D e he)
    simp [fillLeafShape, tyOf, desTypeForType, bind, Except.bind, c1, c2]
  | .optional e den, h => by
    have he : wfTypeSet e = true := by simpa [wfTypeSet] using h
    obtain ⟨ty, c1, c2⟩ := desTypeForType_fill D e he (tyOf_fill D e he)
    simp [fillLeafShape, tyOf, desTypeForType, bind, Except.bind, c1, c2]

theorem shOf_fill (D : ShapeP) : ∀ t : TypeP, wfTypeSet t = true →
    shOf (fillLeafShape D t) = (shOf t <|> some (desShape D))
  | .unset _, h => by simp [wfTypeSet] at h
  | .map _, h => by simp [wfTypeSet] at h
  | .tensor e sh den, _ => by cases sh <;> simp [fillLeafShape, shOf, desTypeForShape]
  | .sparse e sh den, _ => by cases sh <;> simp [fillLeafShape, shOf, desTypeForShape]
  | .sequence e den, h => by
    have ih := shOf_fill D e (by simpa [wfTypeSet] using h)
    simpa [fillLeafShape, shOf, desTypeForShape] using ih
  | .optional e den, h => by
    have ih := shOf_fill D e (by simpa [wfTypeSet] using h)
    simpa [fillLeafShape, shOf, desTypeForShape] using ih

theorem RT_fill_set (tp : TypeP) (hs : wfTypeSet tp = true) (dt : Int) (S : IRShape) :
    RT (tyOf tp <|> some (.tensor dt "")) (shOf tp <|> some S) := by
  obtain ⟨ty, h1, h2⟩ := serType_fill_set _ hs S
  rw [h1]
  have hor : (some ty <|> some (IRType.tensor dt "")) = some ty := rfl
  rw [hor]
  constructor
  · show tyOf (serTypeAndShape (some ty) _) = some ty
    rw [h2, tyOf_fill _ _ hs, h1]
  · show shOf (serTypeAndShape (some ty) _) = _
    rw [h2, shOf_fill _ _ hs, desShape_serShape']
    simp

theorem RT_fill (tp : TypeP) (h : wfType tp = true) (dt : Int) (hv : validDType dt = true) (S : IRShape) :
    RT (tyOf tp <|> some (.tensor dt "")) (shOf tp <|> some S) := by
  cases tp with
  | unset den =>
    have : tyOf (.unset den) = none ∧ shOf (.unset den) = none := ⟨rfl, rfl⟩
    rw [this.1, this.2]
    simpa using RT_init dt hv S
  | map den => simp [wfType, wfTypeSet] at h
  | tensor e s den => exact RT_fill_set _ h dt S
  | sparse e s den => exact RT_fill_set _ h dt S
  | sequence e den => exact RT_fill_set _ h dt S
  | optional e den => exact RT_fill_set _ h dt S

structure OKv (v : IRValue) : Prop where
  mp : v.mprops = []
  rt : RT v.type v.shape
  tens : tensOK v = true

theorem valOK_of_RT {v : IRValue} (hm : v.mprops = []) (hr : RT v.type v.shape) : valOK v = true := by
  simp only [valOK, hm, List.isEmpty_nil, Bool.true_and, decide_eq_true_eq]
  simp only [absInfo, absInfoV, Scope.Info.emit, serValue, serValueAs, tyOfB_eq, shOfB_eq, hr.1, hr.2,
    Option.isSome_map]
  -- a shape is written only inside a type (`RT`), and `Info.emit` drops the shape of an info without a type
  cases v.type <;> simp

theorem OKv.val {v : IRValue} (h : OKv v) : (valOK v && tensOK v) = true := by
  simp [valOK_of_RT h.mp h.rt, h.tens]

theorem tensOK_congr {v v' : IRValue} (h1 : v'.const = v.const) (h2 : v'.name = v.name) :
    tensOK v' = tensOK v := by
  simp only [tensOK, h1, h2]

theorem tensOK_none {v : IRValue} (h : v.const = none) : tensOK v = true := by
  simp [tensOK, h]

theorem OKv_blank (n : String) : OKv (IRValue.blank n) := ⟨rfl, RT_none, rfl⟩

theorem OKv_applyInfoT {v : IRValue} {vi : ValueInfoP} (hm : v.mprops = []) (ht : tensOK v = true)
    (hw : wfType vi.type = true) (hmeta : vi.metadata = []) : OKv (applyInfoT v vi) :=
  ⟨by simp [applyInfoT, hm, hmeta, dictOfEntries, dictUpdate], RT_info vi.type hw,
    (tensOK_congr (v := v) (v' := applyInfoT v vi) rfl rfl).trans ht⟩

@[simp] theorem applyQuant_mprops (q : List AnnotP) (v : IRValue) : (applyQuant q v).mprops = v.mprops := by
  unfold applyQuant; split <;> rfl

theorem OKv_applyQuant {q : List AnnotP} {v : IRValue} (h : OKv v) : OKv (applyQuant q v) :=
  ⟨by simp [h.mp], by simpa using h.rt,
    (tensOK_congr (v := v) (v' := applyQuant q v) (by simp) (by simp)).trans h.tens⟩

/-- the tensor of a canonical initializer is written as its tokens say -/
theorem tens_irT (p : TensorP) (hw : wfTensor p = true) (hv : validDType p.dataType = true)
    (hc : normTensor p = p) :
    absT (serTensor ((irT p).setName p.name))
      = ⟨p.name, tensTok (irT p), tyTok (.tensor (dtypeOf (irT p)) ""), dimsTok (irT p).shape⟩ := by
  obtain ⟨_, h2, _, h4⟩ := irT_spec p hw
  obtain ⟨d1, d2⟩ := irT_dtype p hw hv
  rw [h4, h2, hc]
  simp [absT, irTB_eq, dtypeOf, d1, d2]

theorem OKv_setConst {v : IRValue} (h : OKv v) (p : TensorP) (hn : p.name = v.name)
    (hw : wfTensor p = true) (hv : validDType p.dataType = true) (hc : normTensor p = p) :
    OKv (setConst (irT p) v) :=
  ⟨h.mp, h.rt, by
    simp only [tensOK, setConst]
    exact decide_eq_true (by rw [← hn]; exact tens_irT p hw hv hc)⟩

theorem OKv_constFrom {inits : List TensorP} {v : IRValue} (h : OKv v)
    (hT : ∀ p ∈ inits, wfTensor p = true ∧ validDType p.dataType = true ∧ normTensor p = p) :
    OKv (constFrom inits v) := by
  unfold constFrom
  cases hf : inits.find? (fun p => p.name = v.name) with
  | none => exact h
  | some p =>
    have hp := List.mem_of_find?_eq_some hf
    have hn : p.name = v.name := by simpa using List.find?_some hf
    obtain ⟨a, b, c⟩ := hT p hp
    exact OKv_setConst h p hn a b c

theorem wfVI_noMeta {l : List ValueInfoP} (h1 : l.all wfVI = true)
    (h2 : l.all (fun vi => vi.metadata.isEmpty) = true) : ∀ vi ∈ l, wfType vi.type = true ∧ vi.metadata = [] := by
  intro vi hvi
  have a := List.all_eq_true.1 h1 vi hvi
  have b := List.all_eq_true.1 h2 vi hvi
  simp only [wfVI, Bool.and_eq_true] at a
  exact ⟨a.1, by simpa using b⟩

theorem allG_self {f : GraphP → Bool} {g : GraphP} (h : allG f g = true) : f g = true := by
  cases g
  exact (Bool.and_eq_true_iff.1 h).1

theorem OKv_initValT {vis : List ValueInfoP} {q : List AnnotP} {p : TensorP}
    (hvis : ∀ vi ∈ vis, wfType vi.type = true ∧ vi.metadata = [])
    (hw : wfTensor p = true) (hv : validDType p.dataType = true) (hc : normTensor p = p) :
    OKv (initValT vis q p) := by
  have ht : ∀ w : IRValue, w.const = some (irT p) →
      tensOK ({ applyQuant q w with name := p.name } : IRValue) = true := by
    intro w hw'
    simp only [tensOK, applyQuant_const, hw', decide_eq_true_eq]
    exact tens_irT p hw hv hc
  unfold initValT
  cases hf : findVI vis p.name with
  | none =>
    refine ⟨by simp [initV0, IRValue.blank], ?_, ht _ rfl⟩
    simpa [initV0, IRValue.blank] using RT_init p.dataType hv _
  | some vi =>
    obtain ⟨a, b⟩ := hvis vi (findVI_mem hf).1
    refine ⟨by simp [fillFrom, applyInfoT, initV0, IRValue.blank, b, dictOfEntries, dictUpdate], ?_, ht _ rfl⟩
    simpa [fillFrom, applyInfoT, initV0, IRValue.blank] using RT_fill vi.type a p.dataType hv _

theorem OKv_newValueT {vis : List ValueInfoP} {q : List AnnotP} (n : String)
    (hvis : ∀ vi ∈ vis, wfType vi.type = true ∧ vi.metadata = []) : OKv (newValueT vis q n) := by
  unfold newValueT
  apply OKv_applyQuant
  cases hf : findVI vis n with
  | none => exact OKv_blank n
  | some vi =>
    obtain ⟨a, b⟩ := hvis vi (findVI_mem hf).1
    exact OKv_applyInfoT rfl rfl a b

theorem OKv_outUpd {outputs : List ValueInfoP} {v : IRValue} (h : OKv v)
    (hout : ∀ vi ∈ outputs, wfType vi.type = true ∧ vi.metadata = []) : OKv (outUpd outputs v) := by
  unfold outUpd
  cases hf : outputs.find? (fun vi => vi.name = v.name) with
  | none => exact h
  | some vo =>
    obtain ⟨a, b⟩ := hout vo (List.mem_of_find?_eq_some hf)
    exact OKv_applyInfoT h.mp h.tens a b

theorem outOK_lookup (names : List String) (n : Nat) (hn : names.length = n) (s : String) :
    outOK n (if s = "" then none else lookupLast names s) = true := by
  by_cases he : s = ""
  · simp [he, outOK]
  · simp only [he, if_false]
    cases hl : lookupLast names s with
    | none => rfl
    | some i =>
      have := lookupLast_lt hl
      simp [outOK, ← hn, this]

theorem resolve_lt {scopes : Scopes} {n : String} {r : Ref} (h : Serde.resolve scopes n = some r) :
    r.idx < (scopes.getD r.up []).length := by
  induction scopes generalizing r with
  | nil => simp [Serde.resolve] at h
  | cons sc rest ih =>
    simp only [Serde.resolve] at h
    split at h
    · rename_i i hi
      cases h
      simpa using lookupLast_lt hi
    · cases hr : Serde.resolve rest n with
      | none => rw [hr] at h; cases h
      | some r' =>
        rw [hr] at h
        cases h
        have := ih hr
        simpa [List.getD] using this

theorem refOKF_resolve (scopes : Scopes) (lens : List Nat) (hl : lens = scopes.map List.length) (s : String) :
    refOKF lens (if s = "" then none else Serde.resolve scopes s) = true := by
  by_cases he : s = ""
  · simp [he, refOKF]
  · simp only [he, if_false]
    cases hr : Serde.resolve scopes s with
    | none => rfl
    | some r =>
      have := resolve_lt hr
      simp only [refOKF, decide_eq_true_eq]
      rw [hl, getD_map_length]
      exact this

theorem attr_gok_leaf (scN : Scopes) (lens : List Nat) (a : AttrP) (hl : hasGraphAttr a = false)
    (h : wfAttr scN a = true) :
    ∃ x, desAttr scN a = .ok x ∧ okAttr lens x = true ∧ x.name = a.name := by
  obtain ⟨x, h1, _, h3⟩ := attr_rt scN none a h (Or.inl rfl)
  exact ⟨x, h1, okAttr_leaf lens x (desAttr_leaf scN a hl x h1), h3⟩

theorem node_gok_core (outer : Scopes) (lens : List Nat) (hl : lens = outer.map List.length)
    (vis : List ValueInfoP) (q : List AnnotP) (tbl : List IRValue)
    (inputs outputs : List String) (name opType domain overload doc : String)
    (attrs : List AttrP) (metadata : List Entry) (devcfgs : List NodeDevCfgP)
    (hw : wfNode (tableNames tbl :: outer)
      (.mk inputs outputs name opType domain overload doc attrs metadata devcfgs) = true)
    (hattrs : wfAttrs (tableNames tbl :: outer) attrs = true →
      ∃ xs, desAttrs (tableNames tbl :: outer) attrs = .ok xs ∧ okAttrs (tbl.length :: lens) xs = true ∧
        xs.map IRAttr.name = attrs.map AttrP.name) :
    ∃ x, desNode outer vis q tbl (.mk inputs outputs name opType domain overload doc attrs metadata devcfgs)
        = .ok (x, tbl) ∧ okNode (tbl.length :: lens) x = true := by
  have hdes := desNode_wf outer vis q tbl inputs outputs name opType domain overload doc attrs metadata devcfgs hw
  simp only [wfNode, Bool.and_eq_true, List.headD_cons] at hw
  obtain ⟨⟨⟨_, hattrsW⟩, _⟩, _⟩ := hw
  obtain ⟨xs, a1, a2, a6⟩ := hattrs hattrsW
  refine ⟨_, hdes xs a1 a6, ?_⟩
  simp only [okNode, List.headD_cons, a2, Bool.and_true, Bool.and_eq_true, List.all_map]
  constructor
  · exact List.all_eq_true.2 fun s _ => refOKF_resolve _ _ (by simp [hl, tableNames]) s
  · exact List.all_eq_true.2 fun s _ => outOK_lookup _ _ (by simp [tableNames]) s

theorem graph_gok_core (outer : Scopes) (lens : List Nat) (name doc : String) (nodes : List NodeP)
    (inits : List TensorP) (inputs outputs vis : List ValueInfoP) (quant : List AnnotP) (metadata : List Entry)
    (hwf : wfGraph outer (.mk name doc nodes inits inputs outputs vis quant metadata) = true)
    (hmeta : noValueMeta (.mk name doc nodes inits inputs outputs vis quant metadata) = true)
    (hcanon : canonTensors (.mk name doc nodes inits inputs outputs vis quant metadata) = true)
    (hnodes : ∀ tbl : List IRValue, wfNodes (tableNames tbl :: outer) nodes = true →
      ∃ xs, desNodes outer vis quant nodes tbl = .ok (xs, tbl) ∧ okNodes (tbl.length :: lens) xs = true) :
    ∃ g, desGraph outer (.mk name doc nodes inits inputs outputs vis quant metadata) = .ok g ∧
      okG lens g = true := by
  have hw := (graphWF_of_wf outer name doc nodes inits inputs outputs vis quant metadata hwf).1
  obtain ⟨idxs, TB, _, _, _, hwn, hidxlt, _, hdes⟩ :=
    desGraph_wf outer name doc nodes inits inputs outputs vis quant metadata hwf
  obtain ⟨xs, hD1, hokN⟩ := hnodes (tblPre inits inputs vis quant (nodeOutNames nodes)) hwn
  have hlenF : (tblFinal inits inputs outputs vis quant (nodeOutNames nodes)).length
      = (tblPre inits inputs vis quant (nodeOutNames nodes)).length := by simp [tblFinal]
  refine ⟨_, hdes xs hD1, ?_⟩
  simp only [noValueMeta, GraphP.inputs, GraphP.outputs, GraphP.valueInfo, Bool.and_eq_true] at hmeta
  obtain ⟨⟨hm1, hm2⟩, hm3⟩ := hmeta
  simp only [canonTensors, GraphP.initializers] at hcanon
  have hIn := wfVI_noMeta hw.wfIn hm1
  have hOut := wfVI_noMeta hw.wfOut hm2
  have hVis := wfVI_noMeta hw.wfVis hm3
  have hTs : ∀ p ∈ inits, wfTensor p = true ∧ validDType p.dataType = true ∧ normTensor p = p := by
    intro p hp
    have a := List.all_eq_true.1 hw.wfInit p hp
    have b := List.all_eq_true.1 hcanon p hp
    simp only [Bool.and_eq_true] at a
    exact ⟨a.1, a.2, by simpa using b⟩
  -- every constructor of `tblPre` / `tblFinal` keeps `OKv`
  have hpreOK : ∀ v ∈ tblPre inits inputs vis quant (nodeOutNames nodes), OKv v := by
    intro v hv
    simp only [tblPre, List.mem_append, List.mem_map] at hv
    rcases hv with (⟨w, ⟨vi, hvi, rfl⟩, rfl⟩ | ⟨p, hp, rfl⟩) | ⟨n, _, rfl⟩
    · apply OKv_constFrom _ hTs
      unfold inputValT
      apply OKv_applyQuant
      obtain ⟨a, b⟩ := hIn vi hvi
      exact OKv_applyInfoT rfl rfl a b
    · have hp' : p ∈ inits := (List.mem_filter.1 hp).1
      obtain ⟨a, b, c⟩ := hTs p hp'
      exact OKv_initValT hVis a b c
    · exact OKv_newValueT n hVis
  have htblOK : ∀ v ∈ tblFinal inits inputs outputs vis quant (nodeOutNames nodes), (valOK v && tensOK v) = true := by
    intro v hv
    simp only [tblFinal, List.mem_map] at hv
    obtain ⟨x, hx, rfl⟩ := hv
    exact (OKv_outUpd (hpreOK x hx) hOut).val
  simp only [okG, Bool.and_eq_true]
  refine ⟨⟨⟨⟨List.all_eq_true.2 htblOK, ?_⟩, ?_⟩, ?_⟩, ?_⟩
  · rw [List.all_eq_true]
    intro i hi
    have : i < inputs.length := List.mem_range.1 hi
    have h2 : inputs.length ≤ (tblFinal inits inputs outputs vis quant (nodeOutNames nodes)).length := by
      simp [tblFinal, tblPre]
    exact decide_eq_true (by omega)
  · rw [List.all_eq_true]
    intro i hi
    exact decide_eq_true (hidxlt i hi)
  · rw [hlenF]
    exact hokN
  · rw [List.all_map, List.all_eq_true]
    intro vo hvo
    simp only [Function.comp, gOutT]
    cases hl : lookupLast (tableNames (tblPre inits inputs vis quant (nodeOutNames nodes))) vo.name with
    | some i =>
      have := lookupLast_lt hl
      rw [tableNames, List.length_map, ← hlenF] at this
      simp [goutOK, this]
    | none =>
      obtain ⟨a, b⟩ := hOut vo hvo
      have := OKv_applyInfoT (v := IRValue.blank vo.name) rfl rfl a b
      simp only [goutOK]
      exact valOK_of_RT this.mp this.rt

mutual
theorem attr_gok (scN : Scopes) (lens : List Nat) (hl : lens = scN.map List.length) :
    ∀ a : AttrP, wfAttr scN a = true → allAttr noValueMeta a = true → allAttr canonTensors a = true →
    ∃ x, desAttr scN a = .ok x ∧ okAttr lens x = true ∧ x.name = a.name
  | a, h, h1, h2 => by
    cases a with
    | graph n d g =>
      obtain ⟨x, g1, g2⟩ := graph_gok scN lens hl g h h1 h2
      exact ⟨.graph n d x, desAttr_graph g1, g2, rfl⟩
    | graphs n d gs =>
      obtain ⟨xs, g1, g2⟩ := graphs_gok scN lens hl gs h h1 h2
      exact ⟨.graphs n d xs, desAttr_graphs g1, g2, rfl⟩
    | _ => exact attr_gok_leaf scN lens _ rfl h

theorem graphs_gok (scN : Scopes) (lens : List Nat) (hl : lens = scN.map List.length) :
    ∀ gs : List GraphP, wfGraphs scN gs = true → allGs noValueMeta gs = true → allGs canonTensors gs = true →
    ∃ xs, desGraphs scN gs = .ok xs ∧ okGs lens xs = true
  | [], _, _, _ => ⟨[], rfl, rfl⟩
  | g :: gs, h, h1, h2 => by
    obtain ⟨h, hs⟩ := Bool.and_eq_true_iff.1 h
    obtain ⟨h1, h1s⟩ := Bool.and_eq_true_iff.1 h1
    obtain ⟨h2, h2s⟩ := Bool.and_eq_true_iff.1 h2
    obtain ⟨x, g1, g2⟩ := graph_gok scN lens hl g h h1 h2
    obtain ⟨xs, e1, e2⟩ := graphs_gok scN lens hl gs hs h1s h2s
    exact ⟨x :: xs, desGraphs_cons g1 e1, Bool.and_eq_true_iff.2 ⟨g2, e2⟩⟩

theorem attrs_gok (scN : Scopes) (lens : List Nat) (hl : lens = scN.map List.length) :
    ∀ as : List AttrP, wfAttrs scN as = true → allAttrs noValueMeta as = true → allAttrs canonTensors as = true →
    ∃ xs, desAttrs scN as = .ok xs ∧ okAttrs lens xs = true ∧ xs.map IRAttr.name = as.map AttrP.name
  | [], _, _, _ => ⟨[], rfl, rfl, rfl⟩
  | a :: as, h, h1, h2 => by
    obtain ⟨h, hs⟩ := Bool.and_eq_true_iff.1 h
    obtain ⟨h1, h1s⟩ := Bool.and_eq_true_iff.1 h1
    obtain ⟨h2, h2s⟩ := Bool.and_eq_true_iff.1 h2
    obtain ⟨x, g1, g2, g3⟩ := attr_gok scN lens hl a h h1 h2
    obtain ⟨xs, e1, e2, e3⟩ := attrs_gok scN lens hl as hs h1s h2s
    exact ⟨x :: xs, desAttrs_cons g1 e1, Bool.and_eq_true_iff.2 ⟨g2, e2⟩, by
      rw [List.map_cons, List.map_cons, g3, e3]⟩

theorem node_gok (outer : Scopes) (lens : List Nat) (hl : lens = outer.map List.length) (vis : List ValueInfoP)
    (q : List AnnotP) :
    ∀ (n : NodeP) (tbl : List IRValue), wfNode (tableNames tbl :: outer) n = true →
    allNode noValueMeta n = true → allNode canonTensors n = true →
    ∃ x, desNode outer vis q tbl n = .ok (x, tbl) ∧ okNode (tbl.length :: lens) x = true
  | .mk inputs outputs name opType domain overload doc attrs metadata devcfgs, tbl, hw, h1, h2 =>
    node_gok_core outer lens hl vis q tbl inputs outputs name opType domain overload doc attrs metadata devcfgs hw
      (fun hwa => attrs_gok (tableNames tbl :: outer) (tbl.length :: lens) (by simp [hl, tableNames]) attrs hwa h1 h2)

theorem nodes_gok (outer : Scopes) (lens : List Nat) (hl : lens = outer.map List.length) (vis : List ValueInfoP)
    (q : List AnnotP) :
    ∀ (ns : List NodeP) (tbl : List IRValue), wfNodes (tableNames tbl :: outer) ns = true →
    allNodes noValueMeta ns = true → allNodes canonTensors ns = true →
    ∃ xs, desNodes outer vis q ns tbl = .ok (xs, tbl) ∧ okNodes (tbl.length :: lens) xs = true
  | [], tbl, _, _, _ => ⟨[], rfl, rfl⟩
  | n :: ns, tbl, hw, h1, h2 => by
    obtain ⟨hw, hws⟩ := Bool.and_eq_true_iff.1 hw
    obtain ⟨h1, h1s⟩ := Bool.and_eq_true_iff.1 h1
    obtain ⟨h2, h2s⟩ := Bool.and_eq_true_iff.1 h2
    obtain ⟨x, g1, g2⟩ := node_gok outer lens hl vis q n tbl hw h1 h2
    obtain ⟨xs, e1, e2⟩ := nodes_gok outer lens hl vis q ns tbl hws h1s h2s
    exact ⟨x :: xs, desNodes_cons g1 e1, Bool.and_eq_true_iff.2 ⟨g2, e2⟩⟩

theorem graph_gok (outer : Scopes) (lens : List Nat) (hl : lens = outer.map List.length) :
    ∀ p : GraphP, wfGraph outer p = true → allG noValueMeta p = true → allG canonTensors p = true →
    ∃ g, desGraph outer p = .ok g ∧ okG lens g = true
  | .mk name doc nodes inits inputs outputs vis quant metadata, hw, h1, h2 => by
    obtain ⟨h1, h1s⟩ := Bool.and_eq_true_iff.1 h1
    obtain ⟨h2, h2s⟩ := Bool.and_eq_true_iff.1 h2
    exact graph_gok_core outer lens name doc nodes inits inputs outputs vis quant metadata hw h1 h2
      (fun tbl hwn => nodes_gok outer lens hl vis quant nodes tbl hwn h1s h2s)
end

/-- the fragments `sharedS` / `shared` are not empty: one input, one initializer, one node with an anonymous second output, an output -/
def exampleGraph : GraphP :=
  .mk "g" "" [.mk ["x", "w", ""] ["y", ""] "n" "Add" "" "" "" [.int "axis" "" 1] [] []]
    [{ emptyTensorP with name := "w", dataType := 1, dims := [2] }]
    [⟨"x", .tensor (some 1) (some [⟨.value 2, ""⟩]) "", "", []⟩]
    [⟨"y", .tensor (some 1) none "", "doc", []⟩] [] [] []

example : sharedS exampleGraph = true := by decide
example : shared exampleGraph = true := by decide

/-- `sharedSFull` holds of a graph with a nested graph: the `then` branch of an `If` reads the outer value `x` -/
def exampleNested : GraphP :=
  .mk "g" "" [.mk ["c"] ["y"] "n" "If" "" "" ""
      [.graph "then_branch" ""
        (.mk "t" "" [.mk ["x", "w"] ["z", ""] "a" "Add" "" "" "" [] [] []]
          [{ emptyTensorP with name := "w", dataType := 1, dims := [2] }] []
          [⟨"z", .tensor (some 1) none "", "", []⟩] [] [] [])] [] []]
    []
    [⟨"c", .tensor (some 9) none "", "", []⟩, ⟨"x", .tensor (some 1) (some [⟨.value 2, ""⟩]) "", "", []⟩]
    [⟨"y", .tensor (some 1) none "", "doc", []⟩] [] [] []

example : sharedSFull exampleNested = true := by decide

end IrVerif.Bridge

namespace IrVerif.Scope
open IrVerif.Proto

/-- on the fragment `sharedSFull` every graph C02 deserializes satisfies the hypothesis `GOKFull` of
    `C03_bridge_serialize` -/
theorem C03_bridge_gok_full (p : Proto.GraphP) (h : Bridge.sharedSFull p = true) (g : Serde.IRGraph)
    (hg : Serde.desGraph [] p = .ok g) : Bridge.GOKFull g = true := by
  simp only [Bridge.sharedSFull, Bridge.noValueMetaFull, Bridge.canonTensorsFull, Bool.and_eq_true] at h
  obtain ⟨x, e, hok⟩ := Bridge.graph_gok [] [] rfl p h.1.1 h.1.2 h.2
  rw [hg] at e
  cases e
  exact hok

/-- **C02/C03 bridge, both directions, nested graphs included**: for every proto `p` of the decidable fragment
    `sharedSFull` (C02's `wfGraph`; no value-level metadata_props and initializer tensors in canonical form in the
    graph and in every nested graph) the Scope model deserializes `absGFull p` to the abstraction of C02's IR and
    serializes it to `absGFull` of C02's documented normal form `normGraph p` (`C02_graph`). -/
theorem C03_bridge_serde (p : Proto.GraphP) (h : Bridge.sharedSFull p = true) :
    ∃ g w w', Serde.desGraph [] p = .ok g ∧ Serde.serGraph [] none g = .ok (Serde.normGraph p) ∧
      deserialize (Bridge.absGFull p) = .ok w ∧ Bridge.coreOf w = Bridge.absIRFull g ∧
      serialize w = .ok (w', Bridge.absGFull (Serde.normGraph p)) := by
  have hwf : Serde.wfGraph [] p = true := by
    simp only [Bridge.sharedSFull, Bool.and_eq_true] at h; exact h.1.1
  obtain ⟨g, w, h1, h2, h3⟩ := C03_bridge_deserialize p hwf
  obtain ⟨x, r1, r2⟩ := Serde.graph_rt [] none p hwf (Or.inl rfl)
  rw [h1] at r1
  cases r1
  obtain ⟨w', h4⟩ := C03_bridge_serialize g none _ w (C03_bridge_gok_full p h g h1) r2 h3
  exact ⟨g, w, w', h1, r2, h2, h3, h4⟩

/-- on the fragment `sharedS` every graph C02 deserializes satisfies the hypothesis `GOK` of
    `C03_bridge_serialize_partial` -/
theorem C03_bridge_gok (p : Proto.GraphP) (h : Bridge.sharedS p = true) (g : Serde.IRGraph)
    (hg : Serde.desGraph [] p = .ok g) : Bridge.GOK g = true := by
  simp only [Bridge.sharedS, Bridge.shared, Bool.and_eq_true] at h
  obtain ⟨⟨⟨hwf, hns⟩, hm⟩, hc⟩ := h
  rw [← Bridge.GOKFull_eq_GOK g (Bridge.desGraph_noSub [] p g hwf hns hg)]
  refine C03_bridge_gok_full p ?_ g hg
  simp [Bridge.sharedSFull, Bridge.noValueMetaFull, Bridge.canonTensorsFull, Bridge.allG_noSub, hwf, hns, hm, hc]

/-- **C02/C03 bridge, both directions** (graphs without nested graphs): for every proto `p` of the decidable fragment
    `sharedS` (C02's `wfGraph`, no GRAPH / GRAPHS attributes, no value-level metadata_props, initializer tensors in
    canonical form) the Scope model deserializes `absG p` to the abstraction of C02's IR and serializes it to
    `absG` of C02's documented normal form `normGraph p` (`C02_graph`): the two models are one serde there. -/
theorem C03_bridge_serde_partial (p : Proto.GraphP) (h : Bridge.sharedS p = true) :
    ∃ g w w', Serde.desGraph [] p = .ok g ∧ Serde.serGraph [] none g = .ok (Serde.normGraph p) ∧
      deserialize (Bridge.absG p) = .ok w ∧ Bridge.coreOf w = Bridge.absIR g ∧
      serialize w = .ok (w', Bridge.absG (Serde.normGraph p)) := by
  have hs : Bridge.shared p = true := by
    simp only [Bridge.sharedS, Bool.and_eq_true] at h; exact h.1.1
  have hwf : Serde.wfGraph [] p = true := by
    simp only [Bridge.shared, Bool.and_eq_true] at hs; exact hs.1
  obtain ⟨g, w, h1, h2, h3⟩ := C03_bridge_deserialize_partial p hs
  obtain ⟨x, r1, r2⟩ := Serde.graph_rt [] none p hwf (Or.inl rfl)
  rw [h1] at r1
  cases r1
  obtain ⟨w', h4⟩ := C03_bridge_serialize_partial g none _ w (C03_bridge_gok p h g h1) r2 h3
  exact ⟨g, w, w', h1, r2, h2, h3, h4⟩

end IrVerif.Scope
