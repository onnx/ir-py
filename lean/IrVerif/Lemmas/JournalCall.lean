/-
Helper development for C20 (journaling), the calls: predicates that every instrumented call preserves (`Stable`), the
control state that no instrumented call touches (`SameCtl`), and what `__enter__` / `__exit__` leave alone.
Core Lean only.
-/
import IrVerif.Model.Journal
namespace IrVerif.Journal

variable {σ : Type}

theorem record_other (j k t i : Nat) (w : World σ) (h : i ≠ j) : (record j k t w).journals i = w.journals i := by
  simp [record, upd, h]

theorem record_self (j k t : Nat) (w : World σ) :
    (record j k t w).journals j = { w.journals j with entries := (w.journals j).entries ++ [mkEntry k t] } := by
  simp [record, upd]

theorem record_captured (j k t i : Nat) (w : World σ) :
    ((record j k t w).journals i).captured = (w.journals i).captured := by
  by_cases h : i = j
  · subst h; rw [record_self]
  · rw [record_other j k t i w h]

theorem record_previous (j k t i : Nat) (w : World σ) :
    ((record j k t w).journals i).previous = (w.journals i).previous := by
  by_cases h : i = j
  · subst h; rw [record_self]
  · rw [record_other j k t i w h]

theorem record_active (j k t i : Nat) (w : World σ) :
    ((record j k t w).journals i).active = (w.journals i).active := by
  by_cases h : i = j
  · subst h; rw [record_self]
  · rw [record_other j k t i w h]

theorem enterRaw_self (j : Nat) (w : World σ) :
    (enterRaw j w).journals j = { w.journals j with active := true, previous := w.current, captured := some w.table } := by
  simp [enterRaw, upd]

theorem enter_of_inactive (j : Nat) (w : World σ) (h : (w.journals j).active = false) :
    enter j w = some (enterRaw j w) := by simp [enter, h]

theorem enter_of_active (j : Nat) (w : World σ) (h : (w.journals j).active = true) : enter j w = none := by
  simp [enter, h]

structure Stable (I : World σ → Prop) : Prop where
  put : ∀ (w : World σ) (s : σ), I w → I { w with ir := s }
  record : ∀ (w : World σ) (j k t : Nat), I w → I (record j k t w)
  emit : ∀ (w : World σ) (e : Ev), I w → I (emit e w)

theorem runProg_pres {I : World σ → Prop} (hput : ∀ (w : World σ) (s : σ), I w → I { w with ir := s })
    {disp : Nat → Obj → Val → World σ → World σ × Outcome}
    (hd : ∀ s o a w, I w → I (disp s o a w).1) :
    ∀ (p : Prog σ) (w : World σ), I w → I (runProg disp p w).1 := by
  intro p
  induction p with
  | done o => intro w h; simpa [runProg] using h
  | get k ih => intro w h; simpa [runProg] using ih _ w h
  | put s k ih => intro w h; simpa [runProg] using ih _ (hput w s h)
  | call slot self arg k ih => intro w h; simpa [runProg] using ih _ _ (hd slot self arg w h)

theorem runProg_stable {I : World σ → Prop} (hI : Stable I)
    {disp : Nat → Obj → Val → World σ → World σ × Outcome}
    (hd : ∀ s o a w, I w → I (disp s o a w).1) :
    ∀ (p : Prog σ) (w : World σ), I w → I (runProg disp p w).1 := runProg_pres hI.put hd

/-! `runImpl` / `runImplGuarded` apply one wrapper per layer of a chain.  The split by the kind of the slot is made once,
on one layer; chains are then plain inductions. -/

/-- one unchecked wrapper of journal `j` on slot `k` around `f` -/
def wrapU (cfg : Cfg σ) (j k : Nat) (f : World σ → World σ × Outcome) (self : Obj) (arg : Val) (w : World σ) :
    World σ × Outcome :=
  match kindOf k with
  | .init =>
      let r := f w
      match r.2 with
      | .ret _ =>
          match cfg.details k self arg r.1.ir with
          | some s' => (record j k self { r.1 with ir := s' }, .ret .none)
          | none => (r.1, .raise detailsExn)
      | .raise e => (r.1, .raise e)
  | kind =>
      match cfg.details k self arg w.ir with
      | none => (w, .raise detailsExn)
      | some s' =>
          let r := f { w with ir := s' }
          match r.2 with
          | .ret v => (record j k (targetOf cfg.owner k self) r.1, .ret (if kind = .setter then .none else v))
          | .raise e => (r.1, .raise e)

def isRet : Outcome → Bool
  | .ret _ => true
  | .raise _ => false

/-- a wrapper that only forwards; constructors and setters still hand back None -/
def fwd (k : Nat) (r : World σ × Outcome) : World σ × Outcome :=
  (r.1, match r.2 with
        | .ret v => .ret (if kindOf k = .init ∨ kindOf k = .setter then .none else v)
        | .raise e => .raise e)

theorem runImpl_wrap (cfg : Cfg σ) (body : Nat → Obj → Val → World σ → World σ × Outcome) (j k : Nat) (inner : Impl)
    (s : Obj) (a : Val) (w : World σ) :
    runImpl cfg body (.wrap j k inner) s a w = wrapU cfg j k (runImpl cfg body inner s a) s a w := rfl

/-- the `_active` check: the flag is read on entry, by the constructor wrapper after the original returned -/
theorem runImplGuarded_wrap (cfg : Cfg σ) (body : Nat → Obj → Val → World σ → World σ × Outcome) (j k : Nat)
    (inner : Impl) (s : Obj) (a : Val) (w : World σ) :
    runImplGuarded cfg body (.wrap j k inner) s a w =
      if ((if kindOf k = .init then (runImplGuarded cfg body inner s a w).1 else w).journals j).active = true
      then wrapU cfg j k (runImplGuarded cfg body inner s a) s a w
      else fwd k (runImplGuarded cfg body inner s a w) := by
  -- kind and flag fixed, both sides are the same `match`
  cases hk : kindOf k
  · simp only [runImplGuarded, wrapU, fwd, hk, if_true]
    cases (runImplGuarded cfg body inner s a w).2 with
    | ret v => cases ((runImplGuarded cfg body inner s a w).1.journals j).active <;> simp <;> rfl
    | raise e => cases ((runImplGuarded cfg body inner s a w).1.journals j).active <;> simp
  all_goals
    simp only [runImplGuarded, wrapU, fwd, hk, reduceCtorEq, if_false]
    cases (w.journals j).active <;> simp <;> rfl

theorem wrapU_pres {I : World σ → Prop} (cfg : Cfg σ) (j k : Nat) {f : World σ → World σ × Outcome}
    (hput : ∀ (w : World σ) (s : σ), I w → I { w with ir := s })
    (hrec : ∀ (w : World σ) (k t : Nat), I w → I (record j k t w))
    (hf : ∀ w, I w → I (f w).1) (s : Obj) (a : Val) (w : World σ) (h : I w) : I (wrapU cfg j k f s a w).1 := by
  unfold wrapU
  split <;> simp only []
  · have h1 := hf w h
    split
    · split
      · exact hrec _ _ _ (hput _ _ h1)
      · exact h1
    · exact h1
  · split
    · exact h
    · next s' _ =>
      have h1 := hf _ (hput w s' h)
      split
      · exact hrec _ _ _ h1
      · exact h1

theorem wrapU_congr {I : World σ → Prop} (cfg : Cfg σ) (j k : Nat) {f g : World σ → World σ × Outcome}
    (hput : ∀ (w : World σ) (s : σ), I w → I { w with ir := s })
    (hfg : ∀ w, I w → f w = g w) (s : Obj) (a : Val) (w : World σ) (h : I w) :
    wrapU cfg j k f s a w = wrapU cfg j k g s a w := by
  unfold wrapU
  split <;> simp only []
  · rw [hfg w h]
  · split
    · rfl
    · next s' _ => rw [hfg _ (hput w s' h)]

theorem fwd_of_result (k : Nat) (r : World σ × Outcome) (hk : kindOf k = .method ∨ kindOf k = .container) :
    fwd k r = r := by
  obtain ⟨w, o⟩ := r
  unfold fwd
  rcases hk with hk | hk <;> cases o <;> simp [hk]

theorem fwd_isRet (k : Nat) (r : World σ × Outcome) : isRet (fwd k r).2 = isRet r.2 := by
  unfold fwd; cases r.2 <;> rfl

/-- `details` neither raises nor writes: a wrapper is `record` after the original, when it returned -/
theorem wrapU_of_details (cfg : Cfg σ) (hd : ∀ k s a st, cfg.details k s a st = some st) (j k : Nat)
    (f : World σ → World σ × Outcome) (s : Obj) (a : Val) (w : World σ) :
    wrapU cfg j k f s a w =
      (if isRet (f w).2 = true then record j k (targetOf cfg.owner k s) (f w).1 else (f w).1, (fwd k (f w)).2) := by
  cases hk : kindOf k <;> simp only [wrapU, fwd, hk, hd, targetOf] <;> cases (f w).2 <;> simp [isRet] <;> rfl

theorem fwd_snd_of_none (k : Nat) (r : World σ × Outcome)
    (h : (kindOf k = .init ∨ kindOf k = .setter) → ∀ v, r.2 = .ret v → v = .none) : (fwd k r).2 = r.2 := by
  unfold fwd
  cases hr : r.2 with
  | raise e => rfl
  | ret v =>
    by_cases hk : kindOf k = .init ∨ kindOf k = .setter
    · simp only [hk, if_true]; rw [h hk v hr]
    · simp only [hk, if_false]

theorem runImpl_stable {I : World σ → Prop} (hI : Stable I) (cfg : Cfg σ)
    {body : Nat → Obj → Val → World σ → World σ × Outcome}
    (hb : ∀ k s a w, I w → I (body k s a w).1) :
    ∀ (impl : Impl) (s : Obj) (a : Val) (w : World σ), I w → I (runImpl cfg body impl s a w).1
  | .orig k, s, a, w, h => hb k s a w h
  | .wrap j k inner, s, a, w, h =>
    wrapU_pres cfg j k hI.put (fun w k t => hI.record w j k t) (fun w' h' => runImpl_stable hI cfg hb inner s a w' h') s a w h

/-- `hrec` may use that `record j` happens in a world reached from one where `j` is active -/
theorem runImplGuarded_pres {I : World σ → Prop} (cfg : Cfg σ)
    {body : Nat → Obj → Val → World σ → World σ × Outcome}
    (hput : ∀ (w : World σ) (s : σ), I w → I { w with ir := s })
    (hrec : ∀ (j : Nat) (w0 : World σ), I w0 → (w0.journals j).active = true →
      ∀ (w : World σ) (k t : Nat), I w → I (record j k t w))
    (hb : ∀ k s a w, I w → I (body k s a w).1) :
    ∀ (impl : Impl) (s : Obj) (a : Val) (w : World σ), I w → I (runImplGuarded cfg body impl s a w).1
  | .orig k, s, a, w, h => hb k s a w h
  | .wrap j k inner, s, a, w, h => by
    have ih := fun w' h' => runImplGuarded_pres cfg hput hrec hb inner s a w' h'
    rw [runImplGuarded_wrap]
    by_cases hact : ((if kindOf k = .init then (runImplGuarded cfg body inner s a w).1 else w).journals j).active = true
    · -- the flag was read in a world of `I`: `w`, or (constructor) the world the original left
      have h0 : I (if kindOf k = .init then (runImplGuarded cfg body inner s a w).1 else w) := by
        split
        · exact ih w h
        · exact h
      rw [if_pos hact]
      exact wrapU_pres cfg j k hput (hrec j _ h0 hact) ih s a w h
    · rw [if_neg hact]; exact ih w h

theorem runImplGuarded_stable {I : World σ → Prop} (hI : Stable I) (cfg : Cfg σ)
    {body : Nat → Obj → Val → World σ → World σ × Outcome}
    (hb : ∀ k s a w, I w → I (body k s a w).1) :
    ∀ (impl : Impl) (s : Obj) (a : Val) (w : World σ), I w → I (runImplGuarded cfg body impl s a w).1 :=
  runImplGuarded_pres cfg hI.put (fun j _ _ _ w k t => hI.record w j k t) hb

theorem runOrig_pres {I : World σ → Prop} (hput : ∀ (w : World σ) (s : σ), I w → I { w with ir := s })
    (hemit : ∀ (w : World σ) (e : Ev), I w → I (emit e w)) (cfg : Cfg σ)
    {disp : Nat → Obj → Val → World σ → World σ × Outcome}
    (hd : ∀ s o a w, I w → I (disp s o a w).1) :
    ∀ k s a w, I w → I (runOrig cfg disp k s a w).1 := by
  intro k s a w h
  simp only [runOrig]
  exact hemit _ _ (runProg_pres hput hd _ _ (hemit _ _ h))

theorem runOrig_stable {I : World σ → Prop} (hI : Stable I) (cfg : Cfg σ)
    {disp : Nat → Obj → Val → World σ → World σ × Outcome}
    (hd : ∀ s o a w, I w → I (disp s o a w).1) :
    ∀ k s a w, I w → I (runOrig cfg disp k s a w).1 := runOrig_pres hI.put hI.emit cfg hd

theorem dispatch_stable {I : World σ → Prop} (hI : Stable I) (cfg : Cfg σ) :
    ∀ (f slot : Nat) (s : Obj) (a : Val) (w : World σ), I w → I (dispatch cfg f slot s a w).1 := by
  intro f
  induction f with
  | zero => intro slot s a w h; simpa [dispatch] using h
  | succ f ih =>
    intro slot s a w h
    simp only [dispatch]
    exact runImpl_stable hI cfg (runOrig_stable hI cfg ih) _ _ _ _ h

theorem dispatchG_pres {I : World σ → Prop} (cfg : Cfg σ)
    (hput : ∀ (w : World σ) (s : σ), I w → I { w with ir := s })
    (hemit : ∀ (w : World σ) (e : Ev), I w → I (emit e w))
    (hrec : ∀ (j : Nat) (w0 : World σ), I w0 → (w0.journals j).active = true →
      ∀ (w : World σ) (k t : Nat), I w → I (record j k t w)) :
    ∀ (f slot : Nat) (s : Obj) (a : Val) (w : World σ), I w → I (dispatchG cfg f slot s a w).1 := by
  intro f
  induction f with
  | zero => intro slot s a w h; simpa [dispatchG] using h
  | succ f ih =>
    intro slot s a w h
    simp only [dispatchG]
    exact runImplGuarded_pres cfg hput hrec (runOrig_pres hput hemit cfg ih) _ _ _ _ h

theorem dispatchG_stable {I : World σ → Prop} (hI : Stable I) (cfg : Cfg σ) :
    ∀ (f slot : Nat) (s : Obj) (a : Val) (w : World σ), I w → I (dispatchG cfg f slot s a w).1 :=
  dispatchG_pres cfg hI.put hI.emit (fun j _ _ _ w k t => hI.record w j k t)

/-- the control state, which no instrumented call touches -/
structure SameCtl (w w' : World σ) : Prop where
  table : w'.table = w.table
  current : w'.current = w.current
  captured : ∀ i, (w'.journals i).captured = (w.journals i).captured
  previous : ∀ i, (w'.journals i).previous = (w.journals i).previous
  active : ∀ i, (w'.journals i).active = (w.journals i).active
  log : w'.log = w.log

theorem SameCtl.refl (w : World σ) : SameCtl w w :=
  ⟨rfl, rfl, fun _ => rfl, fun _ => rfl, fun _ => rfl, rfl⟩

theorem SameCtl.trans {a b c : World σ} (h1 : SameCtl a b) (h2 : SameCtl b c) : SameCtl a c :=
  ⟨h2.table.trans h1.table, h2.current.trans h1.current, fun i => (h2.captured i).trans (h1.captured i),
   fun i => (h2.previous i).trans (h1.previous i), fun i => (h2.active i).trans (h1.active i), h2.log.trans h1.log⟩

theorem sameCtl_stable (w : World σ) : Stable (SameCtl w) where
  put := fun w' s h => ⟨h.table, h.current, h.captured, h.previous, h.active, h.log⟩
  emit := fun w' e h => ⟨h.table, h.current, h.captured, h.previous, h.active, h.log⟩
  record := fun w' j k t h =>
    ⟨h.table, h.current, fun i => (record_captured j k t i w').trans (h.captured i),
     fun i => (record_previous j k t i w').trans (h.previous i), fun i => (record_active j k t i w').trans (h.active i), h.log⟩

def CtlFrame (disp : Nat → Obj → Val → World σ → World σ × Outcome) : Prop :=
  ∀ (p : Prog σ) (w : World σ), SameCtl w (runProg disp p w).1

theorem dispatch_frame (cfg : Cfg σ) (f slot : Nat) (s : Obj) (a : Val) (w : World σ) :
    SameCtl w (dispatch cfg f slot s a w).1 :=
  dispatch_stable (sameCtl_stable w) cfg f slot s a w (SameCtl.refl w)

theorem runProg_frame (cfg : Cfg σ) (f : Nat) : CtlFrame (dispatch cfg f) := fun p w =>
  runProg_stable (sameCtl_stable w) (fun s o a w' h => dispatch_stable (sameCtl_stable w) cfg f s o a w' h)
    p w (SameCtl.refl w)

theorem dispatchG_frame (cfg : Cfg σ) (f slot : Nat) (s : Obj) (a : Val) (w : World σ) :
    SameCtl w (dispatchG cfg f slot s a w).1 :=
  dispatchG_stable (sameCtl_stable w) cfg f slot s a w (SameCtl.refl w)

theorem runProgG_frame (cfg : Cfg σ) (f : Nat) : CtlFrame (dispatchG cfg f) := fun p w =>
  runProg_stable (sameCtl_stable w) (fun s o a w' h => dispatchG_stable (sameCtl_stable w) cfg f s o a w' h)
    p w (SameCtl.refl w)

theorem runOrig_frame (cfg : Cfg σ) (f k : Nat) (s : Obj) (a : Val) (w : World σ) :
    SameCtl w (runOrig cfg (dispatch cfg f) k s a w).1 :=
  runOrig_stable (sameCtl_stable w) cfg
    (fun s' o a' w' h => dispatch_stable (sameCtl_stable w) cfg f s' o a' w' h) k s a w (SameCtl.refl w)

theorem runOrigG_frame (cfg : Cfg σ) (f k : Nat) (s : Obj) (a : Val) (w : World σ) :
    SameCtl w (runOrig cfg (dispatchG cfg f) k s a w).1 :=
  runOrig_stable (sameCtl_stable w) cfg
    (fun s' o a' w' h => dispatchG_stable (sameCtl_stable w) cfg f s' o a' w' h) k s a w (SameCtl.refl w)

/-- a checked wrapper whose journal is not active only forwards: no instrumented call moves the flag, so the
    constructor wrapper finds it down as well -/
theorem runImplGuarded_stale (cfg : Cfg σ) {body : Nat → Obj → Val → World σ → World σ × Outcome}
    (hb : ∀ k s a w, SameCtl w (body k s a w).1) (j k : Nat) (inner : Impl) (s : Obj) (a : Val) (w : World σ)
    (hj : (w.journals j).active = false) :
    runImplGuarded cfg body (.wrap j k inner) s a w = fwd k (runImplGuarded cfg body inner s a w) := by
  have hfr : SameCtl w (runImplGuarded cfg body inner s a w).1 :=
    runImplGuarded_stable (sameCtl_stable w) cfg
      (fun k s a w' h => h.trans (hb k s a w')) inner s a w (SameCtl.refl w)
  rw [runImplGuarded_wrap, if_neg]
  split
  · rw [hfr.active j, hj]; simp
  · rw [hj]; simp

theorem enterRaw_other (j i : Nat) (w : World σ) (h : i ≠ j) :
    (enterRaw j w).journals i = w.journals i := by
  simp [enterRaw, upd, h]

theorem enterRaw_entries (j i : Nat) (w : World σ) :
    ((enterRaw j w).journals i).entries = (w.journals i).entries := by
  simp only [enterRaw, upd]
  split
  · next h => subst h; rfl
  · rfl

theorem exit_other (j i : Nat) (w : World σ) (h : i ≠ j) : (exit j w).journals i = w.journals i := by
  simp only [exit]
  split
  · rfl
  · simp [upd, h]

theorem exit_captured (j i : Nat) (w : World σ) :
    ((exit j w).journals i).captured = (w.journals i).captured := by
  simp only [exit]
  split
  · rfl
  · simp only [upd]
    split
    · next h => subst h; rfl
    · rfl

theorem exit_entries (j i : Nat) (w : World σ) :
    ((exit j w).journals i).entries = (w.journals i).entries := by
  simp only [exit]
  split
  · rfl
  · simp only [upd]
    split
    · next h => subst h; rfl
    · rfl

end IrVerif.Journal
