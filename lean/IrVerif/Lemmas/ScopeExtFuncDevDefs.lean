/-
Extended model, MODELS WITH FUNCTIONS: the device configurations of the function bodies, shared definitions.

* `DevTrF` / `DevTrFs`: the TRACE of the device configurations of one function body / of the function list along the
  round trip (`rtE_func_post` / `rtE_funcs_post`): `DevTrNs` of the node list, no enclosing scope, in the table of `replF`
  (the named inputs, then the declared node outputs); monotone like `DevTrNs.mono`;
* `DevCertF` / `DevCertM`: the source-side certificate (`DevCertNs` with the function's table for every function
  body, `DevCertG` for the main graph);
* `DevIsoFs` / `DevIsoM`: node by node, the reloaded configurations are the source configurations renamed by `σ`
  (main graph, and function bodies positionally).
-/
import IrVerif.Lemmas.ScopeExtFuncDefs
import IrVerif.Lemmas.ScopeExtDevIso
namespace IrVerif.Scope

/-- the trace of the device configurations of one function body (source `g`, proto `fp`, reloaded `g'`) -/
def DevTrF (V : Nat → ValueS) (x' : Ext) (hi : Nat) (A : Assoc) : GraphT → FuncE → GraphT → Prop
  | .mk _ ins _ nodes _, fp, .mk _ _ _ nodes' _ =>
    DevTrNs V x' hi A [] (replDecl V (tblIns V ins) (nodes.flatMap (liveOuts V))).tbl nodes fp.nodes nodes'

/-- the trace of the device configurations of the functions, positionally -/
def DevTrFs (V : Nat → ValueS) (x' : Ext) (hi : Nat) (A : Assoc) :
    List (FId × GraphT) → List FuncE → List (FId × GraphT) → Prop
  | [], [], [] => True
  | f :: fs, fp :: fps, g :: gs => DevTrF V x' hi A f.2 fp g.2 ∧ DevTrFs V x' hi A fs fps gs
  | _, _, _ => False

theorem DevTrF.mono {V : Nat → ValueS} {x x' : Ext} {hi hi' : Nat} {A : Assoc} (B : Assoc) (hhi : hi ≤ hi')
    (hx : ∀ k, k < hi → x'.devs k = x.devs k) :
    ∀ (g : GraphT) (fp : FuncE) (g' : GraphT), DevTrF V x hi A g fp g' → DevTrF V x' hi' (A ++ B) g fp g'
  | .mk _ ins _ nodes _, fp, .mk _ _ _ nodes' _, h => by
    simp only [DevTrF] at h ⊢
    exact DevTrNs.mono B hhi hx [] _ nodes fp.nodes nodes' h

theorem DevTrFs.mono {V : Nat → ValueS} {x x' : Ext} {hi hi' : Nat} {A : Assoc} (B : Assoc) (hhi : hi ≤ hi')
    (hx : ∀ k, k < hi → x'.devs k = x.devs k) :
    ∀ (fs : List (FId × GraphT)) (fps : List FuncE) (gs : List (FId × GraphT)),
      DevTrFs V x hi A fs fps gs → DevTrFs V x' hi' (A ++ B) fs fps gs
  | [], [], [], _ => by simp only [DevTrFs]
  | f :: fs, fp :: fps, g :: gs, h => by
    simp only [DevTrFs] at h ⊢
    exact ⟨DevTrF.mono B hhi hx f.2 fp g.2 h.1, DevTrFs.mono B hhi hx fs fps gs h.2⟩
  | [], [], _ :: _, h => by simp only [DevTrFs] at h
  | [], _ :: _, _, h => by simp only [DevTrFs] at h
  | _ :: _, [], _, h => by simp only [DevTrFs] at h
  | _ :: _, _ :: _, [], h => by simp only [DevTrFs] at h

/-- the source-side certificate of the device configurations of a function body, along the tables of `replF` -/
def DevCertF (V : Nat → ValueS) (x : Ext) : GraphT → Prop
  | .mk _ ins _ nodes _ => DevCertNs V x [] (replDecl V (tblIns V ins) (nodes.flatMap (liveOuts V))).tbl nodes

/-- the source-side certificate of the device configurations of a model with functions -/
def DevCertM (w : MWorldE) : Prop :=
  DevCertG w.st.vals w.ext [] w.root ∧ ∀ f ∈ w.funcs, DevCertF w.st.vals w.ext f.2

/-- function body by function body (positionally), the reloaded configurations are the source ones renamed by `σ`
    (`DevIsoG` only looks at the node lists) -/
def DevIsoFs (x x' : Ext) (σ : Nat → Nat) : List (FId × GraphT) → List (FId × GraphT) → Prop
  | [], [] => True
  | f :: fs, g :: gs => DevIsoG x x' σ f.2 g.2 ∧ DevIsoFs x x' σ fs gs
  | _, _ => False

/-- the device configurations of the reloaded model `D` are those of the source `w` renamed by `σ` -/
def DevIsoM (x x' : Ext) (σ : Nat → Nat) (w D : MWorldE) : Prop :=
  DevIsoG x x' σ w.root D.root ∧ DevIsoFs x x' σ w.funcs D.funcs

end IrVerif.Scope
