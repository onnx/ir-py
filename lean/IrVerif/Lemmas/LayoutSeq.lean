/-
Helper lemmas for C07: the invariant of call sequences (`SeqInv`); what a backend needs from its
unload step (`keyed_of_reads`).  Core Lean only.
-/
import IrVerif.Lemmas.LayoutUnload
import IrVerif.Model.LayoutSeq
namespace IrVerif.Layout

section Seq
variable {κ : Type} [DecidableEq κ]

/-- every reference of the list is stale or reads the value of its position -/
def RefsOk (V : List (List Nat)) (fs : FS κ) (refs : List (Ref κ)) : Prop :=
  refs.length = V.length ∧ ∀ (k : Nat) (r : Ref κ), refs[k]? = some r → r = Ref.stale ∨ r.value fs = V[k]?

/-- `RefsOk` for the caller's model and for the saved proto, if one was written -/
def SeqInv (V : List (List Nat)) (s : SeqState κ) : Prop :=
  RefsOk V s.fs s.mem ∧ ∀ refs, s.disk = some refs → RefsOk V s.fs refs

theorem refsOk_inline (V : List (List Nat)) (fs : FS κ) : RefsOk V fs (V.map Ref.inline) := by
  refine ⟨List.length_map _, fun k r hr => ?_⟩
  rw [List.getElem?_map] at hr
  cases hk : V[k]? with
  | none => rw [hk] at hr; cases hr
  | some x => rw [hk] at hr; cases hr; exact Or.inr rfl

theorem readAll_eq (V : List (List Nat)) (fs : FS κ) (refs : List (Ref κ)) (h : RefsOk V fs refs)
    (vals : List (List Nat)) (hr : readAll fs refs = some vals) : vals = V := by
  unfold readAll at hr
  split at hr
  · rename_i hall
    have hv : vals = refs.map fun r => (r.value fs).getD [] := (Option.some.inj hr).symm
    subst hv
    apply List.ext_getElem?
    intro k
    rw [List.getElem?_map]
    cases hk : refs[k]? with
    | none =>
      have : refs.length ≤ k := List.getElem?_eq_none_iff.mp hk
      simp only [Option.map_none]
      have hl := h.1
      rw [eq_comm, List.getElem?_eq_none_iff]; omega
    | some r =>
      have hsome : (r.value fs).isSome = true :=
        (List.all_eq_true.mp hall) r (List.mem_of_getElem? hk)
      rcases h.2 k r hk with hst | hval
      · subst hst; simp [Ref.value] at hsome
      · simp only [Option.map_some]
        rw [← hval]
        cases hx : r.value fs with
        | none => rw [hx] at hsome; simp at hsome
        | some x => rfl
  · cases hr

theorem installFiles_not_mem (fs : FS κ) (files : List (κ × List Nat)) (f : κ) (h : f ∉ files.map (·.1)) :
    installFiles fs files f = fs f := by
  induction files with
  | nil => rfl
  | cons p ps ih =>
    obtain ⟨g, img⟩ := p
    simp only [List.map_cons, List.mem_cons, not_or] at h
    simp only [installFiles]
    rw [if_neg h.1]
    exact ih h.2

theorem staleIf_ok (fs : FS κ) (files : List (κ × List Nat)) (r : Ref κ) (x : Option (List Nat))
    (h : r = .stale ∨ r.value fs = x) :
    r.staleIf (files.map (·.1)) = .stale ∨
      (r.staleIf (files.map (·.1))).value (installFiles fs files) = x := by
  cases r with
  | inline bs => right; simpa [Ref.staleIf, Ref.value] using h
  | stale => left; rfl
  | ext f off len =>
    simp only [Ref.staleIf]
    split
    · left; rfl
    · rename_i hf
      right
      rcases h with h | h
      · cases h
      · simp only [Ref.value, installFiles_not_mem fs files f hf]
        simpa [Ref.value] using h

theorem refsOk_staleIf (V : List (List Nat)) (fs : FS κ) (files : List (κ × List Nat)) (refs : List (Ref κ))
    (h : RefsOk V fs refs) :
    RefsOk V (installFiles fs files) (refs.map (Ref.staleIf (files.map (·.1)))) := by
  refine ⟨by simpa using h.1, ?_⟩
  intro k r hr
  rw [List.getElem?_map] at hr
  cases hk : refs[k]? with
  | none => rw [hk] at hr; cases hr
  | some r0 =>
    rw [hk] at hr
    have : r = r0.staleIf (files.map (·.1)) := (Option.some.inj hr).symm
    subst this
    exact staleIf_ok fs files r0 _ (h.2 k r0 hk)

theorem refsOk_backend (V : List (List Nat)) (fs : FS κ) (b : Backend κ) (hb : b.Ok)
    (refs : List (Ref κ)) (hl : refs.length = V.length) :
    RefsOk V (installFiles fs (b refs V).files) (b refs V).refs := by
  have := hb refs V fs hl
  refine ⟨this.1, ?_⟩
  intro k r hr
  have hk : k < V.length := by
    have := (List.getElem?_eq_some_iff.mp hr).1
    omega
  obtain ⟨r', hr', _, hval⟩ := this.2 k hk
  rw [hr] at hr'
  have : r = r' := Option.some.inj hr'
  subst this
  right
  rw [hval, List.getElem?_eq_getElem hk]

theorem seqRun_append (s0 : SeqState κ) (a b : List (SeqOp κ)) :
    seqRun s0 (a ++ b) = (seqRun s0 a).bind fun s1 => seqRun s1 b := by
  induction a generalizing s0 with
  | nil => rfl
  | cons op rest ih => simp only [List.cons_append, seqRun, ih, Option.bind_assoc]

/-- the backend of a save or unload call satisfies `Backend.Ok`; nothing is asked of the other calls -/
def SeqOp.BackendOk : SeqOp κ → Prop
  | .save b => b.Ok
  | .unload b => b.Ok
  | _ => True

theorem seqStep_inv (V : List (List Nat)) (s s' : SeqState κ) (op : SeqOp κ) (hop : op.BackendOk)
    (hinv : SeqInv V s) (hs : seqStep s op = some s') : SeqInv V s' := by
  cases op with
  | save b =>
    simp only [seqStep, Option.map_eq_some_iff] at hs
    obtain ⟨vals, hvals, rfl⟩ := hs
    have hv := readAll_eq V s.fs s.mem hinv.1 vals hvals
    subst hv
    refine ⟨refsOk_staleIf _ _ _ _ hinv.1, ?_⟩
    intro refs hrefs
    have : refs = (b s.mem vals).refs := (Option.some.inj hrefs).symm
    subst this
    exact refsOk_backend vals s.fs b hop s.mem hinv.1.1
  | unload b =>
    simp only [seqStep, Option.map_eq_some_iff] at hs
    obtain ⟨vals, hvals, rfl⟩ := hs
    have hv := readAll_eq V s.fs s.mem hinv.1 vals hvals
    subst hv
    refine ⟨refsOk_backend vals s.fs b hop s.mem hinv.1.1, ?_⟩
    intro refs hrefs
    simp only [Option.map_eq_some_iff] at hrefs
    obtain ⟨old, hold, rfl⟩ := hrefs
    exact refsOk_staleIf _ _ _ _ (hinv.2 old hold)
  | load =>
    simp only [seqStep, Option.map_eq_some_iff] at hs
    obtain ⟨refs, hrefs, rfl⟩ := hs
    exact ⟨hinv.2 refs hrefs, hinv.2⟩
  | loadToModel =>
    simp only [seqStep, Option.map_eq_some_iff] at hs
    obtain ⟨vals, hvals, rfl⟩ := hs
    have hv := readAll_eq V s.fs s.mem hinv.1 vals hvals
    subst hv
    exact ⟨refsOk_inline _ _, hinv.2⟩
  | convertFromExternal k =>
    simp only [seqStep] at hs
    cases hk : s.mem[k]? with
    | none => rw [hk] at hs; cases hs
    | some r0 =>
      rw [hk] at hs
      simp only [Option.map_eq_some_iff] at hs
      obtain ⟨bs, hbs, rfl⟩ := hs
      refine ⟨⟨by simpa using hinv.1.1, ?_⟩, hinv.2⟩
      intro j r hr
      by_cases hjk : j = k
      · subst hjk
        have hlt : j < s.mem.length := (List.getElem?_eq_some_iff.mp hk).1
        rw [List.getElem?_set_self hlt] at hr
        have : r = .inline bs := (Option.some.inj hr).symm
        subst this
        right
        rcases hinv.1.2 j r0 hk with hst | hval
        · subst hst; simp [Ref.value] at hbs
        · rw [← hval, hbs]; rfl
      · rw [List.getElem?_set_ne (Ne.symm hjk)] at hr
        exact hinv.1.2 j r hr

end Seq

theorem installFiles_zipIdx (fs : FS FileKey) (base n : Nat) (files : List (List Nat)) (k i : Nat) (hk : k ≤ i) :
    installFiles fs ((files.zipIdx k).map fun (p : List Nat × Nat) => (((base, p.2, n) : FileKey), p.1))
      (base, i, n) = (match files[i - k]? with | some img => some img | none => fs (base, i, n)) := by
  induction files generalizing k with
  | nil => rfl
  | cons x xs ih =>
    simp only [List.zipIdx_cons, List.map_cons, installFiles]
    by_cases hik : i = k
    · subst hik; simp
    · rw [if_neg (by simp [hik])]
      rw [ih (k + 1) (by omega)]
      have : i - k = (i - (k + 1)) + 1 := by omega
      rw [this, List.getElem?_cons_succ]

theorem installFiles_keyedFiles (fs : FS FileKey) (base : Nat) (files : List (List Nat)) (i : Nat) :
    installFiles fs (keyedFiles base files) (base, i, files.length) =
      (match files[i]? with | some img => some img | none => fs (base, i, files.length)) :=
  installFiles_zipIdx fs base files.length files 0 i (Nat.zero_le _)

theorem keyed_of_reads {α : Type} (init : α → Init) (bytes : α → List Nat) (pe pm : Init → Bool)
    (hex : ∀ v, pe v = true → pm v = false) (vs : List α) (news : List NewConst)
    (files : List (List Nat)) (vals : List (List Nat)) (hvl : vs.length = vals.length)
    (hvals : ∀ k (h1 : k < vs.length) (h2 : k < vals.length), bytes vs[k] = vals[k])
    (hnews : RecordsFor (fun p x => Reads files p (bytes x)) news (vs.filter fun v => pe (init v)))
    (base : Nat) (fs : FS FileKey) :
    let consts := unloadBy pe pm (vs.map init) news
    let refs := List.zipWith (fun c bs => match c with
        | NewConst.external p => Ref.ext (base, p.shard, files.length) p.offset p.length
        | _ => Ref.inline bs) consts vals
    refs.length = vals.length ∧
    ∀ k (hk : k < vals.length), ∃ r, refs[k]? = some r ∧ r ≠ .stale ∧
      r.value (installFiles fs (keyedFiles base files)) = some vals[k] := by
  intro consts refs
  have hlen : consts.length = vals.length := by rw [unloadBy_length, List.length_map, hvl]
  have hrl : refs.length = vals.length := by simp [refs, hlen]
  refine ⟨hrl, fun k hk => ?_⟩
  have hkv : k < vs.length := hvl ▸ hk
  have hkc : k < consts.length := hlen ▸ hk
  have hrk : refs[k]? = some
      (match consts[k] with
        | .external p => Ref.ext (base, p.shard, files.length) p.offset p.length
        | _ => Ref.inline vals[k]) := by
    rw [List.getElem?_eq_getElem (hrl ▸ hk), List.getElem_zipWith]
  have hget : ∀ c, consts[k]? = some c → consts[k] = c := fun c hc => by
    rw [List.getElem?_eq_getElem hkc] at hc; exact Option.some.inj hc
  obtain ⟨h1, h2⟩ := unloadBy_rel init pe pm hex vs news _ hnews k hkv
  cases he : pe (init vs[k]) with
  | true =>
    obtain ⟨p, hc, img, hf, hread⟩ := h1 he
    rw [hget _ hc] at hrk
    refine ⟨_, hrk, by simp, ?_⟩
    simp [Ref.value, installFiles_keyedFiles, hf, hread, hvals k hkv hk]
  | false =>
    rw [hget _ (h2 he)] at hrk
    refine ⟨_, hrk, ?_, ?_⟩ <;> cases pm (init vs[k]) <;> simp [Ref.value]

end IrVerif.Layout
