import IrVerif.Lemmas.SerdeMergeMutual
import IrVerif.Lemmas.SerdeWideSub
/-! C02, `merge`: `desFunction` / `desModel` of the merged proto, and `wf* p -> merge* p = p`. -/
namespace IrVerif.Serde
open IrVerif.Proto

theorem declareAll_mergeNodes (vis : List ValueInfoP) (q : List AnnotP) :
    ∀ (nodes : List NodeP) (tbl : List IRValue),
    declareAll vis q (mergeNodes nodes) tbl = declareAll vis q nodes tbl
  | [], _ => rfl
  | n :: ns, tbl => by
    simp only [mergeNodes, declareAll, mergeNode_outputs]
    cases declareOutputs vis q n.outputs tbl with
    | error e => rfl
    | ok t1 => simp only [bind, Except.bind]; exact declareAll_mergeNodes vis q ns t1

theorem desFunction_merge (ver : Int) (f : FunctionP) (h : wfFunction ver (mergeFunction f) = true) :
    desFunction (mergeFunction f) = desFunction f := by
  simp only [wfFunction, Bool.and_eq_true, mergeFunction, nodeOutNames_mergeNodes] at h
  obtain ⟨⟨⟨⟨⟨⟨⟨⟨⟨⟨⟨⟨h1, _⟩, _⟩, _⟩, h5⟩, _⟩, h7⟩, _⟩, _⟩, _⟩, _⟩, h12⟩, _⟩ := h
  exact desFunction_congr _ _ h7 (nodupStr_iff.1 h1) (declareAll_mergeNodes _ _ _)
    (desNodes_merge [] _ [] f.nodes _ (by rw [tableNames_fnTbl]; exact h12)) (desAttrs_merge [] _ h5)

theorem mergeGraph_fields (g : GraphP) :
    (mergeGraph g).inputs = g.inputs ∧ (mergeGraph g).initializers = g.initializers ∧
    nodeOutNames (mergeGraph g).nodes = nodeOutNames g.nodes ∧
    (mergeGraph g).valueInfo = mergeVIs (g.initializers.map (·.name) ++ nodeOutNames g.nodes)
      (g.inputs.map (·.name)) (g.outputs.map (·.name)) g.valueInfo := by
  cases g
  exact ⟨rfl, rfl, nodeOutNames_mergeNodes _, rfl⟩

/-- `desModel_merge` from exactly what it uses: the merged graph and functions are well formed and, below IR
version 10, no graph output that the graph declares has a name of the experimental form (the dropped
`value_info` entries name such outputs; the experimental decoding must not read them) -/
theorem desModel_merge' (m : ModelP) (hg : wfGraph [] (mergeGraph m.graph) = true)
    (hf : (m.functions.map mergeFunction).all (wfFunction m.irVersion) = true)
    (hout : m.irVersion ≥ 10 ∨ ∀ n ∈ m.graph.outputs.map (·.name),
      n ∈ m.graph.initializers.map (·.name) ++ nodeOutNames m.graph.nodes → parseExperimentalName n = none) :
    desModel (mergeModel m) = desModel m := by
  obtain ⟨e1, e2, e3, e4⟩ := mergeGraph_fields m.graph
  simp only [desModel, mergeModel, desGraph_merge [] m.graph hg, desFunctions_map _ _ (desFunction_merge m.irVersion) _ hf]
  by_cases hlt : m.irVersion < 10
  · have hplain : ∀ n ∈ m.graph.outputs.map (·.name),
        n ∈ m.graph.initializers.map (·.name) ++ nodeOutNames m.graph.nodes → parseExperimentalName n = none := by
      rcases hout with h10 | h
      · omega
      · exact h
    have key : ∀ d nm vn, findLast? (fun e => e.1 = vn) (experimentalFor (mergeGraph m.graph).valueInfo d nm)
        = findLast? (fun e => e.1 = vn) (experimentalFor m.graph.valueInfo d nm) := by
      intro d nm vn
      rw [findLast?_experimentalFor, findLast?_experimentalFor, e4]
      congr 1
      unfold mergeVIs
      apply findLast?_filter_g (fun v : ValueInfoP => v.name)
        (fun k => decide (parseExperimentalName k = some (d, nm, vn)))
      intro v hv
      simp only [decide_eq_true_eq] at hv
      by_cases ho : v.name ∈ m.graph.outputs.map (·.name)
      · by_cases hd : v.name ∈ m.graph.initializers.map (·.name) ++ nodeOutNames m.graph.nodes
        · rw [hplain _ ho hd] at hv
          cases hv
        · simp [hd]
      · simp [ho]
    have key2 := applyExperimentalAll_congr key
    simp only [hlt, if_true, key2]
  · simp only [hlt, if_false]

theorem desModel_merge (m : ModelP) (h : wfModel (mergeModel m) = true) :
    desModel (mergeModel m) = desModel m := by
  simp only [wfModel, Bool.and_eq_true, Bool.or_eq_true, mergeModel] at h
  obtain ⟨⟨⟨⟨⟨⟨hg, hf⟩, _⟩, _⟩, _⟩, _⟩, hexp⟩ := h
  obtain ⟨e1, e2, e3, e4⟩ := mergeGraph_fields m.graph
  refine desModel_merge' m hg hf ?_
  rcases hexp with h10 | hexp
  · exact Or.inl (by simpa using h10)
  · right
    intro n _ hd
    rw [e1, e2, e3] at hexp
    have := List.all_eq_true.1 hexp n (mem_scopeNames_of_declared hd)
    simpa using this

theorem mergeOutVI_of_none {D I : List String} {vis : List ValueInfoP} {vo : ValueInfoP}
    (h : findVI vis vo.name = none) : mergeOutVI D I vis vo = vo := by
  unfold mergeOutVI
  split
  · rw [h]
  · rfl

mutual
theorem mergeAttr_of_wf (scopes : Scopes) : ∀ a : AttrP, wfAttr scopes a = true → mergeAttr a = a
  | .ref .., _ => rfl
  | .int .., _ => rfl
  | .float .., _ => rfl
  | .string .., _ => rfl
  | .ints .., _ => rfl
  | .floats .., _ => rfl
  | .strings .., _ => rfl
  | .tensor .., _ => rfl
  | .tensors .., _ => rfl
  | .graph n d g, h => by
    simp only [wfAttr] at h
    simp only [mergeAttr, mergeGraph_of_wf scopes g h]
  | .graphs n d gs, h => by
    simp only [wfAttr] at h
    simp only [mergeAttr, mergeGraphs_of_wf scopes gs h]
  | .typeProto .., _ => rfl
  | .typeProtos .., _ => rfl
  | .undefined .., _ => rfl
  | .sparse .., _ => rfl
  | .unknown .., _ => rfl

theorem mergeGraphs_of_wf (scopes : Scopes) : ∀ gs : List GraphP, wfGraphs scopes gs = true →
    mergeGraphs gs = gs
  | [], _ => rfl
  | g :: gs, h => by
    simp only [wfGraphs, Bool.and_eq_true] at h
    simp only [mergeGraphs, mergeGraph_of_wf scopes g h.1, mergeGraphs_of_wf scopes gs h.2]

theorem mergeAttrs_of_wf (scopes : Scopes) : ∀ as : List AttrP, wfAttrs scopes as = true →
    mergeAttrs as = as
  | [], _ => rfl
  | a :: as, h => by
    simp only [wfAttrs, Bool.and_eq_true] at h
    simp only [mergeAttrs, mergeAttr_of_wf scopes a h.1, mergeAttrs_of_wf scopes as h.2]

theorem mergeNode_of_wf (scopes : Scopes) : ∀ n : NodeP, wfNode scopes n = true → mergeNode n = n
  | .mk inputs outputs name opType domain overload doc attrs metadata devcfgs, h => by
    simp only [mergeNode, mergeAttrs_of_wf scopes attrs (wfNode_attrs h)]

theorem mergeNodes_of_wf (scopes : Scopes) : ∀ ns : List NodeP, wfNodes scopes ns = true →
    mergeNodes ns = ns
  | [], _ => rfl
  | n :: ns, h => by
    simp only [wfNodes, Bool.and_eq_true] at h
    simp only [mergeNodes, mergeNode_of_wf scopes n h.1, mergeNodes_of_wf scopes ns h.2]

theorem mergeGraph_of_wf (outer : Scopes) : ∀ g : GraphP, wfGraph outer g = true → mergeGraph g = g
  | .mk name doc nodes inits inputs outputs vis quant md, h => by
    obtain ⟨hw, hwn⟩ := graphWF_of_wf outer name doc nodes inits inputs outputs vis quant md h
    have hnone : ∀ vo ∈ outputs, findVI vis vo.name = none := by
      intro vo hvo
      rw [findVI_none_iff]
      intro hm
      obtain ⟨vi, hvi, hvin⟩ := List.mem_map.1 hm
      exact (hw.visNotIO vi hvi).2 (by rw [hvin]; exact List.mem_map_of_mem hvo)
    have e1 : outputs.map (mergeOutVI (inits.map (·.name) ++ nodeOutNames nodes) (inputs.map (·.name)) vis)
        = outputs := by
      have hid : ∀ vo ∈ outputs, mergeOutVI (inits.map (·.name) ++ nodeOutNames nodes)
          (inputs.map (·.name)) vis vo = id vo := fun vo hvo => mergeOutVI_of_none (hnone vo hvo)
      rw [List.map_congr_left hid, List.map_id]
    have e2 : mergeVIs (inits.map (·.name) ++ nodeOutNames nodes) (inputs.map (·.name))
        (outputs.map (·.name)) vis = vis := by
      unfold mergeVIs
      rw [List.filter_eq_self]
      intro vi hvi
      have : (outputs.map (·.name)).contains vi.name = false := by
        simpa using (hw.visNotIO vi hvi).2
      simp only [this, Bool.false_and, Bool.not_false]
    simp only [mergeGraph, mergeNodes_of_wf _ nodes hwn, e1, e2]
end

theorem mergeFunction_of_wf (ver : Int) (f : FunctionP) (h : wfFunction ver f = true) :
    mergeFunction f = f := by
  obtain ⟨_, hattrs, _, hnodes⟩ := wfFunction_parts h
  have e1 := mergeNodes_of_wf _ f.nodes hnodes
  have e2 := mergeAttrs_of_wf _ f.attrProtos hattrs
  cases f
  simp only [mergeFunction] at e1 e2 ⊢
  simp only [e1, e2]

theorem mergeModel_of_wf (m : ModelP) (h : wfModel m = true) : mergeModel m = m := by
  obtain ⟨hg, hf⟩ := wfModel_parts h
  have e1 := mergeGraph_of_wf [] m.graph hg
  have e2 := map_eq_self_of_all (mergeFunction_of_wf m.irVersion) hf
  cases m
  simp only [mergeModel] at e1 e2 ⊢
  simp only [e1, e2]

theorem canonModel_of_wf (m : ModelP) (h : wfModel m = true) : canonModel m = m := by
  unfold canonModel
  rw [foldModel_of_wf m h, mergeModel_of_wf m h]

theorem canonModel_inputs (m : ModelP) : (canonModel m).graph.inputs = m.graph.inputs := by
  simp only [canonModel, mergeModel, foldModel, (mergeGraph_fields _).1, foldGraph_inputs]

theorem desModel_canon (m : ModelP) (h : wfModel (canonModel m) = true) :
    desModel (canonModel m) = desModel m := by
  have hp := inputsPlain_of_wf _ h
  unfold canonModel at h ⊢
  rw [desModel_merge _ h]
  apply desModel_fold
  rcases hp with hp | hp
  · exact Or.inl (by simpa [canonModel, mergeModel, foldModel] using hp)
  · right
    simpa [inputsPlain, canonModel_inputs] using hp

end IrVerif.Serde
