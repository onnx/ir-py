/-
Round trip, phase by phase: the facts about single helpers of `deserGraph` that the lock-step induction
(`ScopeReplPhases`, `ScopeReplMain`) and the function layer use: graph inputs, the cell of a new initializer or
declared output, the outputs of a node, the initializer dict of the new graph.
-/
import IrVerif.Lemmas.ScopeAssoc
import IrVerif.Lemmas.ScopePrim
namespace IrVerif.Scope

theorem NamesUnique.eq_of_nm {V : Nat → ValueS} {vis : List Nat} (hu : NamesUnique V vis) {a b : Nat}
    (ha : a ∈ vis) (hb : b ∈ vis) (hta : nameTruthy (V a).name = true) (htb : nameTruthy (V b).name = true)
    (h : nm V a = nm V b) : a = b :=
  hu a ha b hb hta (by rw [(name_some_of_truthy hta).1, h, (name_some_of_truthy htb).1])

theorem rt_inputs (V : Nat → ValueS) :
    ∀ (ins : List Nat) (s : Store) (A : Assoc), RS V s A → ins.Nodup → (∀ v ∈ ins, v ∉ A.map (·.1)) →
      (∀ v ∈ ins, (V v).name ≠ none) →
      RS V (deserInputs s (ins.map (viOf V))).1 (A ++ ins.zip (List.range' s.nv ins.length)) ∧
      ∀ v ∈ ins, ((deserInputs s (ins.map (viOf V))).1.vals
        (sig (A ++ ins.zip (List.range' s.nv ins.length)) v)).info = (V v).info.emit := by
  intro ins
  induction ins with
  | nil => intro s A h _ _ _; exact ⟨by simpa [deserInputs] using h, by simp⟩
  | cons v rest ih =>
    intro s A h hnd hA hn
    simp only [List.nodup_cons] at hnd
    simp only [List.map_cons, deserInputs, List.length_cons, List.range'_succ, List.zip_cons_cons]
    have hvA := hA v List.mem_cons_self
    have h1 := h.alloc v { name := some (viOf V v).name, info := (viOf V v).info } hvA
      (by simp [viOf, name_some_of_ne_none (hn v (by simp))])
    obtain ⟨r, hi⟩ := ih (s.alloc { name := some (viOf V v).name, info := (viOf V v).info }).1 (A ++ [(v, s.nv)]) h1 hnd.2
      (not_mem_keys_snoc hA hnd.1)
      (fun w hw => hn w (List.mem_cons_of_mem _ hw))
    have e : A ++ (v, s.nv) :: rest.zip (List.range' (s.nv + 1) rest.length) =
        (A ++ [(v, s.nv)]) ++ rest.zip (List.range' (s.nv + 1) rest.length) := by simp
    rw [e]
    refine ⟨r, fun w hw => ?_⟩
    simp only [List.mem_cons] at hw
    rcases hw with rfl | hw
    · rw [sig_append_of_mem mem_keys_snoc, sig_append_single hvA]
      have pr := deserInputs_prim (s.nv + 1) (rest.map (viOf V))
        (s.alloc { name := some (viOf V w).name, info := (viOf V w).info }).1 (by simp)
      rw [(pr.cell s.nv (by omega)).1]
      simp [viOf]
    · exact hi w hw

/-- the initializer values of `its` that are not graph inputs -/
def newInits (insL : List Nat) (its : List (Name × Nat)) : List Nat :=
  (its.map (·.2)).filter (fun v => !insL.contains v)

theorem newInits_cons_old {insL : List Nat} {k : Name} {v : Nat} {its : List (Name × Nat)} (h : v ∈ insL) :
    newInits insL ((k, v) :: its) = newInits insL its := by
  simp [newInits, h]

theorem newInits_cons_new {insL : List Nat} {k : Name} {v : Nat} {its : List (Name × Nat)} (h : v ∉ insL) :
    newInits insL ((k, v) :: its) = v :: newInits insL its := by
  simp [newInits, h]

/-- the info an initializer value of its own receives: from the tensor, then from the value_info
    entry of its name, if any -/
def initInfo (vi : List (Name × Info)) (k : Name) (tp : TensorP) : Info :=
  match vi.lookup k with
  | some i => i.orTensor (tensorInfo tp.ty tp.sh)
  | none => tensorInfo tp.ty tp.sh

theorem newInit_cell (st : Store) (vi : List (Name × Info)) (tp : TensorP) (tid : Nat) :
    ((newInit st vi tp tid).vals st.nv).info = initInfo vi tp.name tp ∧
    ((newInit st vi tp tid).vals st.nv).const = some tid ∧
    (∀ d, d ≠ st.nv → (newInit st vi tp tid).vals d = st.vals d) ∧
    (newInit st vi tp tid).tens = st.tens ∧ (newInit st vi tp tid).nt = st.nt := by
  rw [newInit_eq_alloc]
  refine ⟨?_, by simp, fun d hd => ?_, rfl, rfl⟩
  · cases hl : vi.lookup tp.name <;> simp [initInfo, hl]
  · rw [alloc_vals]; simp [hd]

/-- the info a declared node output (or a placeholder) receives: its value_info entry, if any -/
def declInfo (vi : List (Name × Info)) (x : Name) : Info :=
  match vi.lookup x with
  | some i => i
  | none => {}

theorem newNamed_cell (st : Store) (vi : List (Name × Info)) (x : Name) :
    ((newNamed st vi x).vals st.nv).info = declInfo vi x := by
  cases hl : vi.lookup x <;> simp [newNamed, declInfo, hl]

theorem rt2_lookupOutputs (V : Nat → ValueS) (top : Table) :
    ∀ (vs : List Nat) (s : Store) (A : Assoc),
      RS V s A → (∀ v ∈ vs, (V v).name ≠ none) → (vs.filter (fun v => !nameTruthy (V v).name)).Nodup →
      (∀ v ∈ vs, nameTruthy (V v).name = true → top.lookup (nm V v) = some (sig A v) ∧ v ∈ A.map (·.1)) →
      (∀ v ∈ vs, ¬ nameTruthy (V v).name = true → v ∉ A.map (·.1)) →
      ∃ (B : Assoc) (s' : Store),
        lookupOutputs s top (vs.map (nm V)) = .ok (s', vs.map (sig (A ++ B))) ∧ RS V s' (A ++ B) ∧
        B.map (·.1) = vs.filter (fun v => !nameTruthy (V v).name) ∧ s.nv ≤ s'.nv ∧
        (∀ v, v < s.nv → (s'.vals v) = (s.vals v)) ∧
        (∀ v ∈ vs, ¬ nameTruthy (V v).name = true → (s'.vals (sig (A ++ B) v)).info = {}) ∧
        (∀ e ∈ B, s.nv ≤ e.2) ∧ s'.tens = s.tens ∧ s'.nt = s.nt := by
  intro vs
  induction vs with
  | nil =>
    intro s A h _ _ _ _
    exact ⟨[], s, by simp [lookupOutputs], by simpa using h, by simp, Nat.le_refl _, fun _ _ => rfl, by simp,
      by simp, rfl, rfl⟩
  | cons v rest ih =>
    intro s A h hn hnd ht hf
    simp only [List.map_cons, lookupOutputs]
    by_cases htv : nameTruthy (V v).name = true
    · obtain ⟨hl, hvA⟩ := ht v List.mem_cons_self htv
      have hne := (name_some_of_truthy htv).2
      simp only [hne, if_false, hl]
      simp only [List.filter_cons, htv, Bool.not_true, Bool.false_eq_true, if_false] at hnd
      obtain ⟨B, s', e1, e2, e3, e4, e5, e6, e7, e8, e9⟩ := ih s A h (fun w hw => hn w (List.mem_cons_of_mem _ hw)) hnd
        (fun w hw => ht w (List.mem_cons_of_mem _ hw)) (fun w hw => hf w (List.mem_cons_of_mem _ hw))
      refine ⟨B, s', ?_, e2, ?_, e4, e5, ?_, e7, e8, e9⟩
      · simp [e1, sig_append_of_mem hvA]
      · simp [htv, e3]
      · intro w hw hfw
        simp only [List.mem_cons] at hw
        rcases hw with rfl | hw
        · exact absurd htv hfw
        · exact e6 w hw hfw
    · obtain ⟨hvn, hnm⟩ := nameTruthy_false_of (hn v List.mem_cons_self) htv
      have hvA := hf v List.mem_cons_self htv
      have hfalse : nameTruthy (V v).name = false := by simpa using htv
      simp only [hnm, if_true]
      have hnd' : (v :: rest.filter (fun v => !nameTruthy (V v).name)).Nodup := by
        simpa [List.filter_cons, hfalse] using hnd
      rw [List.nodup_cons] at hnd'
      have h1 := h.alloc v { name := some "" } hvA (by simp [hvn])
      obtain ⟨B, s', e1, e2, e3, e4, e5, e6, e7, e8, e9⟩ := ih (s.alloc { name := some "" }).1 (A ++ [(v, s.nv)]) h1
        (fun w hw => hn w (List.mem_cons_of_mem _ hw)) hnd'.2
        (fun w hw htw => by
          obtain ⟨a, b⟩ := ht w (List.mem_cons_of_mem _ hw) htw
          exact ⟨by rw [sig_append_of_mem b]; exact a, by simp [b]⟩)
        (fun w hw htw => by
          have hne : w ≠ v := fun e => by
            subst e
            exact hnd'.1 (List.mem_filter.mpr ⟨hw, by simpa using htw⟩)
          simp [hf w (List.mem_cons_of_mem _ hw) htw, hne])
      have hassoc : A ++ (v, s.nv) :: B = (A ++ [(v, s.nv)]) ++ B := by simp
      refine ⟨(v, s.nv) :: B, s', ?_, ?_, ?_, ?_, ?_, ?_, ?_, e8, e9⟩
      · simp only [e1, alloc_snd, hassoc]
        rw [sig_append_of_mem mem_keys_snoc, sig_append_single hvA]
      · simpa [List.append_assoc] using e2
      · simp [hfalse, e3]
      · simp at e4; omega
      · intro w hw
        rw [e5 w (by simp; omega), alloc_vals_lt _ _ hw]
      · intro w hw hfw
        rw [hassoc]
        simp only [List.mem_cons] at hw
        rcases hw with rfl | hw
        · rw [sig_append_of_mem mem_keys_snoc, sig_append_single hvA, e5 s.nv (by simp)]
          simp
        · exact e6 w hw hfw
      · intro e he
        simp only [List.mem_cons] at he
        rcases he with rfl | he
        · exact Nat.le_refl _
        · have := e7 e he; simp at this; omega

theorem dictInsert_fresh (d : List (Name × Nat)) (k : Name) (v : Nat) (h : k ∉ d.map (·.1)) :
    dictInsert d k v = d ++ [(k, v)] :=
  (dictInsert_eq_kvSet d k v).trans (kvSet_fresh d k v h)

theorem initDict_fresh (st : Store) :
    ∀ (ds : List Nat) (d : List (Name × Nat)),
      ((d.map (·.1)) ++ ds.map (fun x => ((st.vals x).name).getD "")).Nodup →
      initDict st d ds = d ++ ds.map (fun x => (((st.vals x).name).getD "", x)) := by
  intro ds
  induction ds with
  | nil => intro d _; simp [initDict]
  | cons x rest ih =>
    intro d hnd
    simp only [initDict]
    have hk : ((st.vals x).name).getD "" ∉ d.map (·.1) := by
      rw [List.nodup_append] at hnd
      intro hm
      exact hnd.2.2 _ hm _ List.mem_cons_self rfl
    rw [dictInsert_fresh d _ x hk, ih]
    · simp
    · simp only [List.map_append, List.map_cons, List.map_nil, List.append_assoc, List.singleton_append]
      simpa using hnd

theorem mkGraphInits_of_keys (st : Store) (ins outs : List Nat) (inits : List (Name × Nat)) (f : Nat → Nat)
    (hnm : ∀ kv ∈ inits, ((st.vals (f kv.2)).name).getD "" = kv.1) (hk : (inits.map (·.1)).Nodup) :
    mkGraphInits st ins outs (inits.map fun kv => f kv.2) = inits.map fun kv => (kv.1, f kv.2) := by
  have hkeys : (inits.map fun kv => f kv.2).map (fun x => ((st.vals x).name).getD "") = inits.map (·.1) := by
    rw [List.map_map]
    exact List.map_congr_left hnm
  rw [mkGraphInits_eq, initDict_fresh _ _ _ (by rw [List.map_nil, List.nil_append, hkeys]; exact hk), List.nil_append,
    List.map_map]
  exact List.map_congr_left (fun kv hkv => by simp only [Function.comp, hnm kv hkv])

end IrVerif.Scope
