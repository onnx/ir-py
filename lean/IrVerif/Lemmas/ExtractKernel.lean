/-
C18 <- C01: a world of the C01 kernel read as a world of the C18 model with every node taken WITHOUT its
graph attributes (the embedding ignores `NodeS.attrs`, so the result speaks about graphs whose nodes hold no
subgraph): the producer pointers of the embedding; used by `C18_source_of_C01`.
-/
import IrVerif.Lemmas.KernelOps
import IrVerif.Lemmas.ExtractSem
namespace IrVerif.Extract

/-- a C01 kernel world as a C18 world: same creation indices; graph attributes of kernel nodes are dropped -/
def ofKernel (w : Kernel.World) : World :=
  { vals := w.vals.map (fun v =>
      { name := v.name.getD "", producer := v.producer, graph := v.graph, isInit := v.isInit }),
    nodes := w.nodes.map (fun n => NodeT.mk n.inputs n.outputs []) }

theorem ofKernel_val (w : Kernel.World) (v : Nat) :
    (ofKernel w).val v = { name := (w.val v).name.getD "", producer := (w.val v).producer,
                           graph := (w.val v).graph, isInit := (w.val v).isInit } := by
  unfold World.val ofKernel Kernel.World.val
  rw [Kernel.lget_eq_getElem?, List.getD_eq_getElem?_getD, List.getElem?_map]
  cases w.vals[v]? <;> rfl

theorem ofKernel_nodeD (w : Kernel.World) (n : Nat) :
    (ofKernel w).nodeD n = NodeT.mk (w.node n).inputs (w.node n).outputs [] := by
  unfold World.nodeD ofKernel Kernel.World.node
  rw [Kernel.lget_eq_getElem?, List.getElem?_map]
  cases w.nodes[n]? <;> rfl

theorem ofKernel_nodes_length (w : Kernel.World) : (ofKernel w).nodes.length = w.nodes.length := by
  simp [ofKernel]

theorem mem_outputs_of_producer {w : Kernel.World} (h : Kernel.WF w) {v n : Nat}
    (hp : (w.val v).producer = some n) : v ∈ (w.node n).outputs := by
  obtain ⟨i, hi⟩ := h.prod.2 v n hp
  exact List.mem_iff_getElem?.mpr ⟨i, (h.prod.1 n i v).mpr ⟨hp, hi⟩⟩

theorem producer_of_mem_outputs {w : Kernel.World} (h : Kernel.WF w) {v n : Nat}
    (ho : v ∈ (w.node n).outputs) : (w.val v).producer = some n := by
  obtain ⟨i, hi⟩ := List.mem_iff_getElem?.mp ho
  exact ((h.prod.1 n i v).mp hi).1

theorem producer_in_range {w : Kernel.World} (h : Kernel.WF w) {v n : Nat}
    (hp : (w.val v).producer = some n) : n < w.nodes.length := by
  have := mem_outputs_of_producer h hp
  refine Nat.lt_of_not_le fun hlt => ?_
  rw [w.node_fresh n hlt] at this
  simp at this

theorem ofKernel_prod {w : Kernel.World} (h : Kernel.WF w) (v : Nat) :
    (ofKernel w).prod v = (w.val v).producer := by
  unfold World.prod
  rw [ofKernel_val]
  simp only []
  cases hp : (w.val v).producer with
  | none => rfl
  | some n =>
    simp only []
    rw [ofKernel_nodes_length, if_pos (producer_in_range h hp)]

end IrVerif.Extract
