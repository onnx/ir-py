/-
For the IR version < 10 format, whose post-pass rewrites `info` slots: worlds that differ only in the `info` slot
of some values (`setInfo`).  The serializer (`serGraph`, `serFunction`
up to the function's value_info) only reads the info of the values whose information the proto carries (`emitG`,
`emitSubNs`).  The certificate side is in `ScopeFunc9Cert.lean`.
-/
import IrVerif.Model.ScopeFunc9
import IrVerif.Lemmas.ScopeModel
namespace IrVerif.Scope

def setInfo (V : Nat → ValueS) (I : Nat → Info) : Nat → ValueS := fun v => { V v with info := I v }

theorem setInfo_name (V : Nat → ValueS) (I : Nat → Info) (v : Nat) : (setInfo V I v).name = (V v).name := rfl
theorem setInfo_const (V : Nat → ValueS) (I : Nat → Info) (v : Nat) : (setInfo V I v).const = (V v).const := rfl
theorem setInfo_info (V : Nat → ValueS) (I : Nat → Info) (v : Nat) : (setInfo V I v).info = I v := rfl
theorem nm_setInfo (V : Nat → ValueS) (I : Nat → Info) : nm (setInfo V I) = nm V := rfl
theorem inName_setInfo (V : Nat → ValueS) (I : Nat → Info) : inName (setInfo V I) = inName V := by
  funext o; cases o <;> rfl

theorem setInfo_self (V : Nat → ValueS) : setInfo V (fun v => (V v).info) = V := rfl

theorem stripTrailing_setInfo (V : Nat → ValueS) (I : Nat → Info) :
    ∀ (l : List Nat), stripTrailing (setInfo V I) l = stripTrailing V l
  | [] => rfl
  | v :: vs => by simp only [stripTrailing, stripTrailing_setInfo V I vs, setInfo_name]; rfl

theorem liveOuts_setInfo (V : Nat → ValueS) (I : Nat → Info) : liveOuts (setInfo V I) = liveOuts V := by
  funext n
  cases n with
  | mk a b c d e => simp only [liveOuts, stripTrailing_setInfo]

theorem reservedNames_setInfo (V : Nat → ValueS) (I : Nat → Info) (g : GraphT) :
    reservedNames (setInfo V I) g = reservedNames V g := by
  cases g; rfl

theorem tblIns_setInfo (V : Nat → ValueS) (I : Nat → Info) (ins : List Nat) : tblIns (setInfo V I) ins = tblIns V ins := rfl

theorem serValues_setInfo (V : Nat → ValueS) (I : Nat → Info) :
    ∀ (l : List Nat), (∀ v ∈ l, I v = (V v).info) → serValues (setInfo V I) l = serValues V l
  | [], _ => rfl
  | v :: vs, h => by
    have e : serValue (setInfo V I v) = serValue (V v) := by
      simp only [serValue, setInfo_name, setInfo_info, h v List.mem_cons_self]
    simp only [serValues, e, serValues_setInfo V I vs (fun u hu => h u (List.mem_cons_of_mem _ hu))]

theorem serInputs_setInfo (V : Nat → ValueS) (I : Nat → Info) :
    ∀ (l : List (Option Nat)), serInputs (setInfo V I) l = serInputs V l
  | [] => rfl
  | none :: vs => by simp only [serInputs, serInputs_setInfo V I vs]
  | some v :: vs => by simp only [serInputs, serInputs_setInfo V I vs, setInfo_name]

theorem serOutNames_setInfo (V : Nat → ValueS) (I : Nat → Info) :
    ∀ (l : List Nat), serOutNames (setInfo V I) l = serOutNames V l
  | [] => rfl
  | v :: vs => by simp only [serOutNames, serOutNames_setInfo V I vs, setInfo_name]

theorem shouldCreate_of_not_truthy (c : ValueS) (h : nameTruthy c.name = false) : shouldCreate c = false := by
  simp [shouldCreate, h]

def AgreeT (V : Nat → ValueS) (I : Nat → Info) (L : List Nat) : Prop :=
  ∀ v ∈ L, nameTruthy (V v).name = true → I v = (V v).info

/-- restriction to a part of an append (not `And.left`) -/
theorem AgreeT.left {V : Nat → ValueS} {I : Nat → Info} {A B : List Nat} (h : AgreeT V I (A ++ B)) : AgreeT V I A :=
  fun v hv => h v (List.mem_append_left _ hv)
theorem AgreeT.right {V : Nat → ValueS} {I : Nat → Info} {A B : List Nat} (h : AgreeT V I (A ++ B)) : AgreeT V I B :=
  fun v hv => h v (List.mem_append_right _ hv)

def SameByName (V : Nat → ValueS) (I : Nat → Info) (L : List Nat) : Prop :=
  ∀ a ∈ L, ∀ b ∈ L, nameTruthy (V a).name = true → (V a).name = (V b).name → (I a).emit = (I b).emit

theorem outVInfo_setInfo (V : Nat → ValueS) (I : Nat → Info) (go : List Nat) :
    ∀ (l : List Nat), AgreeT V I l → outVInfo (setInfo V I) go l = outVInfo V go l
  | [], _ => rfl
  | v :: vs, h => by
    have ih := outVInfo_setInfo V I go vs (fun u hu => h u (List.mem_cons_of_mem _ hu))
    by_cases ht : nameTruthy (V v).name = true
    · have := h v List.mem_cons_self ht
      simp only [outVInfo, shouldCreate, setInfo_name, setInfo_info, this, ih]
      rfl
    · have hf : nameTruthy (V v).name = false := by simpa using ht
      have h1 := shouldCreate_of_not_truthy (setInfo V I v) hf
      have h2 := shouldCreate_of_not_truthy (V v) hf
      simp only [outVInfo, h1, h2, ih]
      simp

theorem serInits_setInfo (V : Nat → ValueS) (I : Nat → Info) (td : TData) (inames : List (Option Name)) :
    ∀ (l : List (Name × Nat)), (∀ kv ∈ l, I kv.2 = (V kv.2).info) →
      serInits (setInfo V I) td inames l = serInits V td inames l
  | [], _ => rfl
  | (k, v) :: r, h => by
    have ih := serInits_setInfo V I td inames r (fun u hu => h u (List.mem_cons_of_mem _ hu))
    have hv : I v = (V v).info := h (k, v) List.mem_cons_self
    simp only [serInits, shouldCreate, setInfo_name, setInfo_info, setInfo_const, hv, ih]
    rfl

mutual
theorem serGraph_setInfo (V : Nat → ValueS) (I : Nat → Info) (td : TData) :
    ∀ (g : GraphT), (∀ v ∈ emitG V g, I v = (V v).info) → serGraph (setInfo V I) td g = serGraph V td g
  | .mk gid ins inits nodes outs, h => by
    simp only [emitG, List.mem_append] at h
    have h1 := serValues_setInfo V I ins (fun v hv => h v (.inl (.inl (.inl (.inl hv)))))
    have h2 := serInits_setInfo V I td (ins.map fun v => (V v).name) inits
      (fun kv hkv => h kv.2 (.inl (.inl (.inl (.inr (List.mem_map_of_mem hkv))))))
    have h3 := serNodes_setInfo V I td outs nodes (fun v hv => h v (.inl (.inl (.inr hv)))) (fun v hv => h v (.inr hv))
    have h4 := serValues_setInfo V I outs (fun v hv => h v (.inl (.inr hv)))
    simp only [serGraph, h1, h2, h3, h4, setInfo_name]
theorem serNodes_setInfo (V : Nat → ValueS) (I : Nat → Info) (td : TData) (go : List Nat) :
    ∀ (ns : List NodeT),
      (∀ v ∈ (ns.flatMap (liveOuts V)).filter (fun v => nameTruthy (V v).name), I v = (V v).info) →
      (∀ v ∈ emitSubNs V ns, I v = (V v).info) → serNodes (setInfo V I) td go ns = serNodes V td go ns
  | [], _, _ => rfl
  | n :: ns, h1, h2 => by
    simp only [List.flatMap_cons, List.filter_append, List.mem_append] at h1
    simp only [emitSubNs, List.mem_append] at h2
    have a := serNode_setInfo V I td go n (fun v hv => h1 v (.inl hv)) (fun v hv => h2 v (.inl hv))
    have b := serNodes_setInfo V I td go ns (fun v hv => h1 v (.inr hv)) (fun v hv => h2 v (.inr hv))
    simp only [serNodes, a, b]
theorem serNode_setInfo (V : Nat → ValueS) (I : Nat → Info) (td : TData) (go : List Nat) :
    ∀ (n : NodeT),
      (∀ v ∈ (liveOuts V n).filter (fun v => nameTruthy (V v).name), I v = (V v).info) →
      (∀ v ∈ emitSubN V n, I v = (V v).info) → serNode (setInfo V I) td go n = serNode V td go n
  | .mk i g ins outs subs, h1, h2 => by
    simp only [emitSubN] at h2
    simp only [liveOuts, List.mem_filter] at h1
    have a := serSubs_setInfo V I td subs h2
    have b := outVInfo_setInfo V I go outs (fun v hv ht => h1 v ⟨truthy_mem_stripTrailing V v outs hv ht, ht⟩)
    simp only [serNode, serInputs_setInfo, stripTrailing_setInfo, serOutNames_setInfo, a, b]
theorem serSubs_setInfo (V : Nat → ValueS) (I : Nat → Info) (td : TData) :
    ∀ (gs : List GraphT), (∀ v ∈ emitGs V gs, I v = (V v).info) → serSubs (setInfo V I) td gs = serSubs V td gs
  | [], _ => rfl
  | g :: gs, h => by
    simp only [emitGs, List.mem_append] at h
    have a := serGraph_setInfo V I td g (fun v hv => h v (.inl hv))
    have b := serSubs_setInfo V I td gs (fun v hv => h v (.inr hv))
    simp only [serSubs, a, b]
end

/-- a function proto without its value_info (what `serializeM9` writes) -/
def eraseF (f : FuncP) : FuncP := { f with vinfo := [] }

/-- weak: nothing is asked at the values of the function itself, and the value_info written is not compared -/
theorem serNodes_setInfo_weak (V : Nat → ValueS) (I : Nat → Info) (td : TData) (go : List Nat) :
    ∀ (ns : List NodeT) (nps : List NodeP) (vis : List VInfoP) (ws : Writes),
      (∀ v ∈ emitSubNs V ns, I v = (V v).info) → serNodes V td go ns = .ok (nps, vis, ws) →
      ∃ vis', serNodes (setInfo V I) td go ns = .ok (nps, vis', ws)
  | [], nps, vis, ws, _, h => by
    simp only [serNodes, Except.ok.injEq, Prod.mk.injEq] at h
    obtain ⟨rfl, _, rfl⟩ := h
    exact ⟨[], rfl⟩
  | n :: ns, nps, vis, ws, h2, h => by
    simp only [emitSubNs, List.mem_append] at h2
    simp only [serNodes] at h
    split at h
    · cases h
    · rename_i np vi ws1 hn
      split at h
      · cases h
      · rename_i nps' vis' ws2 hr
        simp only [Except.ok.injEq, Prod.mk.injEq] at h
        obtain ⟨rfl, _, rfl⟩ := h
        obtain ⟨vis'', e2⟩ := serNodes_setInfo_weak V I td go ns nps' vis' ws2 (fun v hv => h2 v (.inr hv)) hr
        obtain ⟨i, g, ins, outs, subs⟩ := n
        simp only [emitSubN] at h2
        have a := serSubs_setInfo V I td subs (fun v hv => h2 v (.inl hv))
        simp only [serNode] at hn
        split at hn
        · cases hn
        · rename_i insN hi
          split at hn
          · cases hn
          · rename_i outsN ho
            split at hn
            · cases hn
            · rename_i gps wsg hg
              simp only [Except.ok.injEq, Prod.mk.injEq] at hn
              obtain ⟨rfl, _, rfl⟩ := hn
              exact ⟨_, by
                simp only [serNodes, serNode, serInputs_setInfo, stripTrailing_setInfo, serOutNames_setInfo, a, hi,
                  ho, hg, e2]
                rfl⟩

theorem serFInputs_setInfo_weak (V : Nat → ValueS) (I : Nat → Info) :
    ∀ (ins : List Nat) (ns : List Name) (vis : List VInfoP), serFInputs V ins = .ok (ns, vis) →
      ∃ vis', serFInputs (setInfo V I) ins = .ok (ns, vis')
  | [], ns, vis, h => by
    simp only [serFInputs, Except.ok.injEq, Prod.mk.injEq] at h
    obtain ⟨rfl, _⟩ := h
    exact ⟨[], rfl⟩
  | v :: vs, ns, vis, h => by
    simp only [serFInputs] at h
    split at h
    · cases h
    · rename_i n hn
      split at h
      · cases h
      · rename_i ns' vis' hr
        simp only [Except.ok.injEq, Prod.mk.injEq] at h
        obtain ⟨rfl, _⟩ := h
        obtain ⟨vis'', e⟩ := serFInputs_setInfo_weak V I vs ns' vis' hr
        exact ⟨_, by simp only [serFInputs, setInfo_name, hn, e]; rfl⟩

theorem serFunction_setInfo_weak (V : Nat → ValueS) (I : Nat → Info) (td : TData) (id : FId) :
    ∀ (g : GraphT) (fp : FuncP) (ws : Writes), (∀ v ∈ emitSubNs V g.nodes, I v = (V v).info) →
      serFunction V td (id, g) = .ok (fp, ws) →
      ∃ fp', serFunction (setInfo V I) td (id, g) = .ok (fp', ws) ∧ eraseF fp' = eraseF fp
  | .mk gid ins inits nodes outs, fp, ws, h2, h => by
    simp only [serFunction] at h
    split at h
    · cases h
    · rename_i insN vis1 hi
      split at h
      · cases h
      · rename_i outsN ho
        split at h
        · cases h
        · rename_i nps vis2 ws' hn
          simp only [Except.ok.injEq, Prod.mk.injEq] at h
          obtain ⟨rfl, rfl⟩ := h
          obtain ⟨vis1', e1⟩ := serFInputs_setInfo_weak V I ins insN vis1 hi
          obtain ⟨vis2', e2⟩ := serNodes_setInfo_weak V I td [] nodes nps vis2 ws' h2 hn
          exact ⟨⟨id, insN, outsN, vis1' ++ vis2', nps⟩, by simp only [serFunction, e1, serOutNames_setInfo, ho, e2], rfl⟩

theorem serFuncs_setInfo_weak (V : Nat → ValueS) (I : Nat → Info) (td : TData) :
    ∀ (fs : List (FId × GraphT)) (fps : List FuncP) (ws : Writes),
      (∀ f ∈ fs, ∀ v ∈ emitSubNs V f.2.nodes, I v = (V v).info) → serFuncs V td fs = .ok (fps, ws) →
      ∃ fps', serFuncs (setInfo V I) td fs = .ok (fps', ws) ∧ fps'.map eraseF = fps.map eraseF
  | [], fps, ws, _, h => by
    simp only [serFuncs, Except.ok.injEq, Prod.mk.injEq] at h
    obtain ⟨rfl, rfl⟩ := h
    exact ⟨[], rfl, rfl⟩
  | f :: fs, fps, ws, h2, h => by
    obtain ⟨fp, ws1, fps', ws2, a, b, rfl, rfl⟩ := serFuncs_inv h
    obtain ⟨id, g⟩ := f
    obtain ⟨fp', e1, e1'⟩ := serFunction_setInfo_weak V I td id g fp ws1 (h2 (id, g) List.mem_cons_self) a
    obtain ⟨fps'', e2, e2'⟩ := serFuncs_setInfo_weak V I td fs fps' ws2 (fun f hf => h2 f (List.mem_cons_of_mem _ hf)) b
    exact ⟨fp' :: fps'', by simp only [serFuncs, e1, e2], by simp only [List.map_cons, e1', e2']⟩

theorem serializeM_inv {w w1 : MWorld} {q : ModelP} (h : serializeM w = .ok (w1, q)) :
    ∃ ws1 ws2, serGraph w.st.vals w.st.tdata w.root = .ok (q.graph, ws1) ∧
      serFuncs w.st.vals w.st.tdata w.funcs = .ok (q.funcs, ws2) := by
  simp only [serializeM] at h
  split at h
  · cases h
  · rename_i p ws1 hp
    split at h
    · cases h
    · rename_i fps ws2 hf
      simp only [Except.ok.injEq, Prod.mk.injEq] at h
      obtain ⟨_, rfl⟩ := h
      exact ⟨ws1, ws2, hp, hf⟩

end IrVerif.Scope
