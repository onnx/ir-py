/-
Iteration over a well-formed structure: a cursor parked on a node (root or live box) yields the
values of the boxes that follow it; `toList` is the value list of the live boxes.
-/
import IrVerif.Lemmas.LinkedSetOps
import IrVerif.Lemmas.ListFacts
namespace IrVerif.LinkedSet

/-- a cursor refers to an existing box (true of `notStarted`, `done` and of every cursor a
`next()` returns) -/
def Cursor.Valid (s : LSet) (c : Cursor) : Prop := c.pos < size s

/-- value stored in a box (0 when erased; only used on live boxes) -/
def vl (s : LSet) (b : Nat) : Nat := (val s b).getD 0

/-- one-directional links -/
def HopLinks (s : LSet) (d : Dir) : List Nat → Prop
  | x :: y :: r => hop s d x = y ∧ HopLinks s d (y :: r)
  | _ => True

theorem HopLinks_cons2 (s : LSet) (d : Dir) (x y : Nat) (r : List Nat) :
    HopLinks s d (x :: y :: r) ↔ hop s d x = y ∧ HopLinks s d (y :: r) := by simp [HopLinks]

theorem Links.hopFwd {s : LSet} : ∀ (l : List Nat), Links s l → HopLinks s .fwd l
  | [], _ => by simp [HopLinks]
  | [_], _ => by simp [HopLinks]
  | x :: y :: r, h => by
      rw [Links_cons2] at h
      rw [HopLinks_cons2]
      exact ⟨h.1, Links.hopFwd (y :: r) h.2.2⟩

theorem HopLinks_append_rev {s : LSet} : ∀ (l : List Nat) (x y : Nat),
    HopLinks s .rev (l ++ [x]) → pv s x = y → HopLinks s .rev (l ++ [x, y])
  | [], x, y, _, e => by simp [HopLinks, hop, e]
  | [a], x, y, h, e => by
      simp only [List.cons_append, List.nil_append, HopLinks_cons2] at h ⊢
      exact ⟨h.1, by simp [HopLinks, hop, e]⟩
  | a :: b :: l, x, y, h, e => by
      simp only [List.cons_append, HopLinks_cons2] at h ⊢
      exact ⟨h.1, by simpa using HopLinks_append_rev (b :: l) x y (by simpa using h.2) e⟩

theorem Links.hopRev {s : LSet} : ∀ (l : List Nat), Links s l → HopLinks s .rev l.reverse
  | [], _ => by simp [HopLinks]
  | [_], _ => by simp [HopLinks]
  | x :: y :: r, h => by
      rw [Links_cons2] at h
      have ih := Links.hopRev (y :: r) h.2.2
      simp only [List.reverse_cons, List.append_assoc, List.cons_append, List.nil_append] at ih ⊢
      exact HopLinks_append_rev r.reverse y x ih h.2.1

/-- the live boxes in the order direction `d` visits them -/
def seqD (d : Dir) (bs : List Nat) : List Nat :=
  match d with
  | .fwd => bs
  | .rev => bs.reverse

theorem Inv.hopLinks {s : LSet} {bs : List Nat} (h : Inv s bs) (d : Dir) :
    HopLinks s d (0 :: seqD d bs ++ [0]) := by
  cases d with
  | fwd => exact Links.hopFwd _ h.links
  | rev =>
    have := Links.hopRev _ h.links
    simpa [seqD] using this

theorem scan_node {s : LSet} {bs : List Nat} (h : Inv s bs) (d : Dir) (f y : Nat) (hy : y ∈ bs) :
    scan s d (f + 1) y = (.at y, .yield (vl s y)) := by
  have hl := h.live y hy
  have hy0 : y ≠ 0 := by omega
  obtain ⟨v, hv⟩ := Option.isSome_iff_exists.mp hl.2.2
  simp [scan, hy0, h.owned y, hv, vl]

theorem scan_root (s : LSet) (d : Dir) (f : Nat) : scan s d (f + 1) 0 = (.done, .stop) := by
  simp [scan]

theorem iterNext_of_pos (s : LSet) (d : Dir) (c : Cursor) (hc : c ≠ .done) :
    iterNext s d c = scan s d (size s + 1) (hop s d c.pos) := by
  cases c <;> simp_all [iterNext]

/-- a cursor parked on `x` whose successors are the live boxes `l` yields exactly their values -/
theorem drain_links {s : LSet} {bs : List Nat} (h : Inv s bs) (d : Dir) :
    ∀ (l : List Nat) (c : Cursor) (f : Nat), c ≠ .done →
      HopLinks s d (c.pos :: l ++ [0]) → (∀ y ∈ l, y ∈ bs) → l.length < f →
      drain s d f c = (l.map (vl s), .stop)
  | [], c, f, hc, hl, _, hf => by
      obtain ⟨f, rfl⟩ : ∃ g, f = g + 1 := ⟨f - 1, by simp at hf; omega⟩
      simp only [List.cons_append, List.nil_append, HopLinks_cons2] at hl
      simp [drain, iterNext_of_pos s d c hc, hl.1, scan_root]
  | y :: l, c, f, hc, hl, hm, hf => by
      obtain ⟨f, rfl⟩ : ∃ g, f = g + 1 := ⟨f - 1, by simp at hf; omega⟩
      simp only [List.cons_append, HopLinks_cons2] at hl
      have ih := drain_links h d l (.at y) f (by simp) (by simpa [Cursor.pos] using hl.2)
        (fun z hz => hm z (by simp [hz])) (by simp at hf; omega)
      simp [drain, iterNext_of_pos s d c hc, hl.1, scan_node h d (size s) y (hm y (by simp)), ih]

theorem Inv.length_lt {s : LSet} {bs : List Nat} (h : Inv s bs) : bs.length < size s + 1 := by
  have := h.clk; have := h.len; omega

theorem Inv.rest_notStarted {s : LSet} {bs : List Nat} (h : Inv s bs) (d : Dir) :
    drain s d (size s + 1) .notStarted = ((seqD d bs).map (vl s), .stop) := by
  apply drain_links h d (seqD d bs) .notStarted _ (by simp) (by simpa [Cursor.pos] using h.hopLinks d)
  · intro y hy; cases d <;> simpa [seqD] using hy
  · have := h.length_lt; cases d <;> simpa [seqD] using this

theorem Inv.toList_eq {s : LSet} {bs : List Nat} (h : Inv s bs) : toList s = bs.map (vl s) := by
  simp [toList, rest, h.rest_notStarted .fwd, seqD]

theorem Inv.toListRev_eq {s : LSet} {bs : List Nat} (h : Inv s bs) :
    toListRev s = (bs.map (vl s)).reverse := by
  simp [toListRev, rest, h.rest_notStarted .rev, seqD, List.map_reverse]

theorem Inv.val_eq_vl {s : LSet} {bs : List Nat} (h : Inv s bs) {b : Nat} (hb : b ∈ bs) :
    val s b = some (vl s b) := by
  obtain ⟨v, hv⟩ := Option.isSome_iff_exists.mp (h.live b hb).2.2
  simp [vl, hv]

theorem Inv.vl_inj {s : LSet} {bs : List Nat} (h : Inv s bs) :
    ∀ a ∈ bs, ∀ b ∈ bs, vl s a = vl s b → a = b := by
  intro a ha b hb e
  have ea := h.val_eq_vl ha
  rw [e] at ea
  exact h.val_inj ha hb ea (h.val_eq_vl hb)

theorem Inv.vals_nodup {s : LSet} {bs : List Nat} (h : Inv s bs) : (bs.map (vl s)).Nodup :=
  ListFacts.nodup_map_of_inj_on h.nodup h.vl_inj

theorem Inv.mem_toList {s : LSet} {bs : List Nat} (h : Inv s bs) (v : Nat) :
    v ∈ toList s ↔ ∃ b ∈ bs, val s b = some v := by
  rw [h.toList_eq, List.mem_map]
  constructor
  · rintro ⟨b, hb, rfl⟩; exact ⟨b, hb, h.val_eq_vl hb⟩
  · rintro ⟨b, hb, hv⟩; exact ⟨b, hb, by simp [vl, hv]⟩

end IrVerif.LinkedSet
