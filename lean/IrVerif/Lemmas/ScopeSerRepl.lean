/-
A serializable model satisfies the certificate `replG`: under `Serializable` every reference resolves to the
value it refers to, so the certificate introduces exactly the defined values and leaves every scope as it finds
it.  The round trip under `Serializable` (`rt_graph`, `roundtrip_core`) is therefore the round trip of a
reloadable model (`graphRT`), read with the scope tables of source values (`srcT`).
-/
import IrVerif.Lemmas.ScopeReplIdem
namespace IrVerif.Scope

/-- the scope of source values after the definitions `P` were processed in this order (newest first) -/
def srcT (V : Nat → ValueS) (P : List Nat) : Table :=
  (P.filterMap fun v => if nameTruthy (V v).name then some (nm V v, v) else none).reverse

theorem srcT_snoc_truthy {V : Nat → ValueS} (P : List Nat) {v : Nat} (h : nameTruthy (V v).name = true) :
    srcT V (P ++ [v]) = (nm V v, v) :: srcT V P := by
  simp [srcT, List.filterMap_append, h]

theorem srcT_snoc_falsy {V : Nat → ValueS} (P : List Nat) {v : Nat} (h : ¬ nameTruthy (V v).name = true) :
    srcT V (P ++ [v]) = srcT V P := by
  simp [srcT, List.filterMap_append, h]

theorem srcT_cons (V : Nat → ValueS) (v : Nat) (P : List Nat) :
    srcT V (v :: P) = srcT V P ++ (if nameTruthy (V v).name then [(nm V v, v)] else []) := by
  simp only [srcT, List.filterMap_cons]
  split <;> simp_all

theorem srcT_lookup_none (V : Nat → ValueS) (P : List Nat) (x : Name)
    (h : ∀ v ∈ P, nameTruthy (V v).name = true → nm V v ≠ x) : (srcT V P).lookup x = none := by
  induction P with
  | nil => rfl
  | cons w P ih =>
    rw [srcT_cons, List.lookup_append, ih (fun v hv => h v (List.mem_cons_of_mem _ hv))]
    by_cases hw : nameTruthy (V w).name = true
    · have := h w List.mem_cons_self hw
      simp [hw, lookup_cons_ne _ _ _ _ (Ne.symm this)]
    · simp [hw]

theorem srcT_lookup_mem (V : Nat → ValueS) (P : List Nat) (hu : NamesUnique V P) (v : Nat)
    (hv : v ∈ P) (ht : nameTruthy (V v).name = true) : (srcT V P).lookup (nm V v) = some v := by
  induction P with
  | nil => simp at hv
  | cons w P ih =>
    have huP : NamesUnique V P := fun a ha b hb => hu a (List.mem_cons_of_mem _ ha) b (List.mem_cons_of_mem _ hb)
    rw [srcT_cons, List.lookup_append]
    by_cases hvP : v ∈ P
    · rw [ih huP hvP]; rfl
    · simp only [List.mem_cons] at hv
      rcases hv with rfl | hv
      · rw [srcT_lookup_none V P _ (fun u hu' hut hne => hvP (by
          rw [← hu.eq_of_nm (List.mem_cons_of_mem _ hu') List.mem_cons_self hut ht hne]; exact hu'))]
        simp [ht]
      · exact absurd hv hvP

theorem resolve_srcT (V : Nat → ValueS) :
    ∀ (Ds : List (List Nat)), NamesUnique V Ds.flatten → ∀ v ∈ Ds.flatten, nameTruthy (V v).name = true →
      resolve (nm V v) (Ds.map (srcT V)) = some v := by
  intro Ds
  induction Ds with
  | nil => intro _ v hv; simp at hv
  | cons D Ds ih =>
    intro hu v hv ht
    simp only [List.map_cons, resolve]
    by_cases hD : v ∈ D
    · rw [srcT_lookup_mem V D (fun a ha b hb => hu a (List.mem_append_left _ ha) b (List.mem_append_left _ hb)) v hD ht]
    · rw [srcT_lookup_none V D _ (fun u huD hut hne => hD (by
        rw [← hu.eq_of_nm (List.mem_append_left _ huD) hv hut ht hne]; exact huD))]
      have hv' : v ∈ Ds.flatten := by
        rw [List.flatten_cons, List.mem_append] at hv
        exact hv.resolve_left hD
      exact ih (fun a ha b hb => hu a (List.mem_append_right _ ha) b (List.mem_append_right _ hb)) v hv' ht

/-- what the certificate of a serializable piece looks like: it holds, it leaves the scope as `T`,
    and it introduces the values `L` (in some order) -/
structure SerRepl (r : RR) (T : Table) (L : List Nat) : Prop where
  ok : r.ok
  tbl : r.tbl = T
  new : r.new.Perm L

theorem replRes_ser (V : Nat → ValueS) (outer : List Table) (T : Table) :
    ∀ (ins : List (Option Nat)),
      (∀ v, some v ∈ ins → nameTruthy (V v).name = true ∧ resolve (nm V v) (T :: outer) = some v) →
      (replRes V outer T ins).ok ∧ (replRes V outer T ins).tbl = T ∧ (replRes V outer T ins).new = [] := by
  intro ins
  induction ins with
  | nil => intro _; exact ⟨trivial, rfl, rfl⟩
  | cons a r ih =>
    intro h
    obtain ⟨i1, i2, i3⟩ := ih (fun v hv => h v (List.mem_cons_of_mem _ hv))
    cases a with
    | none => exact ⟨i1, i2, i3⟩
    | some v =>
      obtain ⟨ht, hr⟩ := h v List.mem_cons_self
      simp only [replRes, hr]
      exact ⟨⟨ht, trivial, i1⟩, i2, i3⟩

theorem replOuts_ser (V : Nat → ValueS) (T : Table) :
    ∀ (outs : List Nat), (∀ v ∈ outs, (V v).name ≠ none ∧ T.lookup (nm V v) = some v) →
      (replOuts V T outs).ok ∧ (replOuts V T outs).new = [] := by
  intro outs
  induction outs with
  | nil => intro _; exact ⟨trivial, rfl⟩
  | cons v r ih =>
    intro h
    obtain ⟨i1, i2⟩ := ih (fun v hv => h v (List.mem_cons_of_mem _ hv))
    obtain ⟨hn, hl⟩ := h v List.mem_cons_self
    simp only [replOuts, hl]
    exact ⟨⟨hn, trivial, i1⟩, i2⟩

/-- declaring the live outputs `L` after the definitions `P` -/
theorem replDecl_ser (V : Nat → ValueS) :
    ∀ (L P : List Nat), NamesUnique V (P ++ L) → (P ++ L).Nodup → (∀ v ∈ L, (V v).name ≠ none) →
      (replDecl V (srcT V P) L).ok ∧ (replDecl V (srcT V P) L).tbl = srcT V (P ++ L) ∧
      (replDecl V (srcT V P) L).new = L.filter (fun v => nameTruthy (V v).name) := by
  intro L
  induction L with
  | nil => intro P _ _ _; simp [replDecl]
  | cons v L ih =>
    intro P hu hnd hn
    have hP : P ++ v :: L = (P ++ [v]) ++ L := by simp
    obtain ⟨i1, i2, i3⟩ := ih (P ++ [v]) (hP ▸ hu) (hP ▸ hnd) (fun w hw => hn w (List.mem_cons_of_mem _ hw))
    by_cases ht : nameTruthy (V v).name = true
    · rw [srcT_snoc_truthy P ht] at i1 i2 i3
      simp only [replDecl, ht, if_true, List.filter_cons]
      refine ⟨⟨?_, i1⟩, by rw [i2, hP], by rw [i3]⟩
      -- a definition in scope with the name of `v` would be `v` itself (names are unique), but `v` is new
      apply srcT_lookup_none
      intro u huP hut hne
      have : u = v := hu.eq_of_nm (List.mem_append_left _ huP) (List.mem_append_right _ List.mem_cons_self) hut ht hne
      subst this
      exact (List.nodup_append.mp hnd).2.2 u huP u List.mem_cons_self rfl
    · rw [srcT_snoc_falsy P ht] at i1 i2 i3
      have hf : nameTruthy (V v).name = false := by simpa using ht
      simp only [replDecl, hf, Bool.false_eq_true, if_false, List.filter_cons]
      exact ⟨⟨hn v List.mem_cons_self, i1⟩, by rw [i2, hP], i3⟩

theorem tblIns_eq_srcT {V : Nat → ValueS} {ins : List Nat} (h : ∀ v ∈ ins, nameTruthy (V v).name = true) :
    tblIns V ins = srcT V ins := by
  simp only [tblIns, srcT]
  congr 1
  induction ins with
  | nil => rfl
  | cons v r ih =>
    simp [h v List.mem_cons_self, ih (fun w hw => h w (List.mem_cons_of_mem _ hw))]

/-- the initializers `r` after the graph inputs `ins` and the initializer values `Q` of their own -/
theorem replInits_ser (V : Nat → ValueS) (gouts ins : List Nat) :
    ∀ (r : List (Name × Nat)) (Q : List Nat),
      NamesUnique V (ins ++ Q ++ newInits ins r) → (ins ++ Q ++ newInits ins r).Nodup →
      (∀ kv ∈ r, (V kv.2).name = some kv.1 ∧ kv.1 ≠ "" ∧ (V kv.2).const ≠ none) →
      (∀ kv ∈ r, kv.2 ∉ ins → kv.2 ∉ gouts → (V kv.2).info.ty ≠ none ∧ (V kv.2).info.sh ≠ none) →
      (replInits V gouts (srcT V (ins ++ Q)) r).ok ∧
      (replInits V gouts (srcT V (ins ++ Q)) r).tbl = srcT V (ins ++ Q ++ newInits ins r) ∧
      (replInits V gouts (srcT V (ins ++ Q)) r).new = newInits ins r := by
  intro r
  induction r with
  | nil => intro Q _ _ _ _; simp [replInits, newInits]
  | cons e r ih =>
    obtain ⟨k, v⟩ := e
    intro Q hu hnd hb hi
    obtain ⟨hname, hk, hc⟩ := hb (k, v) List.mem_cons_self
    have ht : nameTruthy (V v).name = true := nameTruthy_iff.mpr ⟨k, hname, hk⟩
    have hnm : nm V v = k := nm_of_name hname
    have hb' := fun kv hkv => hb kv (List.mem_cons_of_mem _ hkv)
    have hi' := fun kv hkv => hi kv (List.mem_cons_of_mem _ hkv)
    by_cases hv : v ∈ ins
    · rw [newInits_cons_old hv] at hu hnd ⊢
      obtain ⟨i1, i2, i3⟩ := ih Q hu hnd hb' hi'
      have hl : (srcT V (ins ++ Q)).lookup k = some v := by
        rw [← hnm]
        exact srcT_lookup_mem V _ (fun a ha b hb => hu a (List.mem_append_left _ ha) b (List.mem_append_left _ hb)) v
          (List.mem_append_left _ hv) ht
      simp only [replInits, hl]
      exact ⟨⟨⟨hname, hk, hc⟩, trivial, i1⟩, i2, i3⟩
    · rw [newInits_cons_new hv] at hu hnd ⊢
      have hP : ins ++ Q ++ v :: newInits ins r = ins ++ (Q ++ [v]) ++ newInits ins r := by simp
      rw [hP] at hu hnd ⊢
      obtain ⟨i1, i2, i3⟩ := ih (Q ++ [v]) hu hnd hb' hi'
      rw [← List.append_assoc, srcT_snoc_truthy _ ht, hnm] at i1 i2 i3
      have hl : (srcT V (ins ++ Q)).lookup k = none := by
        apply srcT_lookup_none
        intro u huP hut hne
        have hvm : v ∈ ins ++ (Q ++ [v]) ++ newInits ins r := by simp
        have : u = v := hu.eq_of_nm (by
          rw [← List.append_assoc]; exact List.mem_append_left _ (List.mem_append_left _ huP)) hvm hut ht (hne.trans hnm.symm)
        subst this
        rw [← List.append_assoc, List.append_assoc (ins ++ Q)] at hnd
        exact (List.nodup_append.mp hnd).2.2 u huP u (by simp) rfl
      simp only [replInits, hl]
      exact ⟨⟨⟨hname, hk, hc⟩, hi (k, v) List.mem_cons_self hv, i1⟩, by rw [i2, ← List.append_assoc], by rw [i3]⟩


theorem perm_mid {α : Type} (a b c d : List α) : ((a ++ b) ++ (c ++ d)).Perm ((a ++ c) ++ (b ++ d)) := by
  simp only [List.append_assoc]
  refine List.Perm.append_left a ?_
  rw [← List.append_assoc, ← List.append_assoc c]
  exact List.Perm.append_right d List.perm_append_comm

theorem SerNs_liveOuts_names (V : Nat → ValueS) (vis gouts : List Nat) :
    ∀ (nodes : List NodeT), SerNs V vis gouts nodes → ∀ v ∈ nodes.flatMap (liveOuts V), (V v).name ≠ none := by
  intro nodes hS v hv
  obtain ⟨n, hn, hvn⟩ := List.mem_flatMap.mp hv
  have := SerNs_mem V vis gouts nodes hS n hn
  obtain ⟨i, g, ins, outs, subs⟩ := n
  simp only [SerN] at this
  exact this.2.1 v (stripTrailing_sub V outs v hvn)

mutual
theorem SerG.repl (V : Nat → ValueS) :
    ∀ (g : GraphT) (Ds : List (List Nat)), SerG V Ds.flatten g → InfoG V g → (allDefsG V g).Nodup →
      NamesUnique V Ds.flatten → SerRepl (replG V (Ds.map (srcT V)) g) [] (allDefsG V g)
  | .mk gid ins inits nodes outs => by
    have ih := SerNs.repl V nodes
    intro Ds hS hI hnd _
    simp only [SerG] at hS
    obtain ⟨_, hu, hins_t, hinits, hkn, _, houts, hSN⟩ := hS
    simp only [InfoG] at hI
    have hD : defsOf V (.mk gid ins inits nodes outs) = ins ++ newInits ins inits ++ nodes.flatMap (liveOuts V) := rfl
    rw [hD] at hu houts hSN
    simp only [allDefsG] at hnd ⊢
    rw [hD] at hnd ⊢
    have hLn := SerNs_liveOuts_names V _ _ nodes hSN
    have hndD := (List.nodup_append.mp hnd).1
    have huD : NamesUnique V (ins ++ newInits ins inits ++ nodes.flatMap (liveOuts V)) :=
      fun a ha b hb => hu a (List.mem_append_left _ ha) b (List.mem_append_left _ hb)
    obtain ⟨a1, a2, a3⟩ := replInits_ser V outs ins inits []
      (by rw [List.append_nil]; exact fun a ha b hb => huD a (List.mem_append_left _ ha) b (List.mem_append_left _ hb))
      (by rw [List.append_nil]; exact (List.nodup_append.mp hndD).1) hinits (fun kv hkv h1 h2 => hI.1 kv hkv h1 h2)
    simp only [List.append_nil] at a1 a2 a3
    obtain ⟨b1, b2, b3⟩ := replDecl_ser V (nodes.flatMap (liveOuts V)) (ins ++ newInits ins inits) huD hndD hLn
    obtain ⟨c1, c2, c3⟩ := ih (ins ++ newInits ins inits ++ nodes.flatMap (liveOuts V)) Ds outs hSN hI.2
      (List.nodup_append.mp hnd).2.1 hu (fun v hv => List.mem_append_right _ hv)
    obtain ⟨d1, d2⟩ := replOuts_ser V (srcT V (ins ++ newInits ins inits ++ nodes.flatMap (liveOuts V))) outs
      (fun v hv => ⟨ne_none_of_truthy (houts v hv).2, srcT_lookup_mem V _ huD v (houts v hv).1 (houts v hv).2⟩)
    simp only [replG]
    rw [tblIns_eq_srcT hins_t, a2, a3, b2, b3, c2, d2]
    refine ⟨⟨fun v hv => ne_none_of_truthy (hins_t v hv), hkn, a1, b1, c1, d1⟩, rfl, ?_⟩
    have hFL := List.filter_append_perm (fun v => nameTruthy (V v).name) (nodes.flatMap (liveOuts V))
    rw [List.append_nil, List.append_assoc _ (List.filter _ _), List.append_assoc _ (List.flatMap _ _)]
    refine List.Perm.append_left _ ((c3.append_left _).trans ?_)
    rw [← List.append_assoc]
    exact hFL.append_right _
theorem SerNs.repl (V : Nat → ValueS) :
    ∀ (nodes : List NodeT) (D : List Nat) (Ds : List (List Nat)) (gouts : List Nat),
      SerNs V (D ++ Ds.flatten) gouts nodes → InfoNs V nodes → (allDefsNs V nodes).Nodup →
      NamesUnique V (D ++ Ds.flatten) → (∀ v ∈ nodes.flatMap (liveOuts V), v ∈ D) →
      SerRepl (replNs V (Ds.map (srcT V)) (srcT V D) nodes) (srcT V D)
        ((nodes.flatMap (liveOuts V)).filter (fun v => !nameTruthy (V v).name) ++ allDefsNs V nodes)
  | [] => fun D Ds gouts _ _ _ _ _ => ⟨trivial, rfl, by simp [replNs, allDefsNs]⟩
  | n :: ns => by
    have ihn := SerN.repl V n
    have ihr := SerNs.repl V ns
    intro D Ds gouts hS hI hnd hu hL
    simp only [SerNs] at hS
    simp only [InfoNs] at hI
    simp only [allDefsNs] at hnd ⊢
    simp only [List.flatMap_cons, List.mem_append] at hL
    obtain ⟨a1, a2, a3⟩ := ihn D Ds gouts hS.1 hI.1 (List.nodup_append.mp hnd).1 hu (fun v hv => hL v (.inl hv))
    obtain ⟨b1, b2, b3⟩ := ihr D Ds gouts hS.2 hI.2 (List.nodup_append.mp hnd).2.1 hu (fun v hv => hL v (.inr hv))
    simp only [replNs, a2]
    rw [List.flatMap_cons, List.filter_append]
    exact ⟨⟨a1, b1⟩, b2, (a3.append b3).trans (perm_mid _ _ _ _)⟩
theorem SerN.repl (V : Nat → ValueS) :
    ∀ (n : NodeT) (D : List Nat) (Ds : List (List Nat)) (gouts : List Nat),
      SerN V (D ++ Ds.flatten) gouts n → InfoN V n → (allDefsN V n).Nodup →
      NamesUnique V (D ++ Ds.flatten) → (∀ v ∈ liveOuts V n, v ∈ D) →
      SerRepl (replN V (Ds.map (srcT V)) (srcT V D) n) (srcT V D)
        ((liveOuts V n).filter (fun v => !nameTruthy (V v).name) ++ allDefsN V n)
  | .mk i g ins outs subs => by
    have ih := SerGs.repl V subs
    intro D Ds gouts hS hI hnd hu hL
    simp only [SerN] at hS
    obtain ⟨hins, houtn, hSG⟩ := hS
    simp only [InfoN] at hI
    simp only [allDefsN] at hnd ⊢
    simp only [liveOuts] at hL ⊢
    have hu' : NamesUnique V (D :: Ds).flatten := by simpa using hu
    obtain ⟨a1, a2, a3⟩ := replRes_ser V (Ds.map (srcT V)) (srcT V D) ins (fun v hv =>
      ⟨(hins v hv).2, resolve_srcT V (D :: Ds) hu' v (by simpa using (hins v hv).1) (hins v hv).2⟩)
    obtain ⟨b1, _, b3⟩ := ih (D :: Ds) (by simpa using hSG) hI.2 hnd hu'
    simp only [replN, a2, a3, List.nil_append]
    exact ⟨⟨a1, fun v hv => houtn v (stripTrailing_sub V outs v hv),
      fun v hv ht => srcT_lookup_mem V D (fun a ha b hb => hu a (List.mem_append_left _ ha) b (List.mem_append_left _ hb))
        v (hL v hv) ht, b1⟩, rfl, b3.append_left _⟩
theorem SerGs.repl (V : Nat → ValueS) :
    ∀ (gs : List GraphT) (Ds : List (List Nat)), SerGs V Ds.flatten gs → InfoGs V gs → (allDefsGs V gs).Nodup →
      NamesUnique V Ds.flatten → SerRepl (replGs V (Ds.map (srcT V)) gs) [] (allDefsGs V gs)
  | [] => fun Ds _ _ _ _ => ⟨trivial, rfl, by simp [replGs, allDefsGs]⟩
  | g :: gs => by
    have ihg := SerG.repl V g
    have ihr := SerGs.repl V gs
    intro Ds hS hI hnd hu
    simp only [SerGs] at hS
    simp only [InfoGs] at hI
    simp only [allDefsGs] at hnd ⊢
    obtain ⟨a1, _, a3⟩ := ihg Ds hS.1 hI.1 (List.nodup_append.mp hnd).1 hu
    obtain ⟨b1, _, b3⟩ := ihr Ds hS.2 hI.2 (List.nodup_append.mp hnd).2.1 hu
    simp only [replGs]
    exact ⟨⟨a1, b1⟩, rfl, a3.append b3⟩
end

/-- `tableOf` (the table the statements under `Serializable` speak of) is the image of the scope of source values -/
theorem tableOf_eq_mapT (V : Nat → ValueS) (A : Assoc) (P : List Nat) : tableOf V A P = mapT A (srcT V P) := by
  simp only [tableOf, srcT, mapT, List.map_reverse, List.map_filterMap]
  congr 2
  funext v
  simp only [entryOf]
  split <;> rfl

theorem levels_eq_maps (V : Nat → ValueS) (A : Assoc) (Ds : List (List Nat)) :
    Ds.map (tableOf V A) = (Ds.map (srcT V)).map (mapT A) := by
  rw [List.map_map]
  exact List.map_congr_left (fun D _ => tableOf_eq_mapT V A D)

theorem mem_srcT {V : Nat → ValueS} {P : List Nat} {e : Name × Nat} (he : e ∈ srcT V P) :
    e.2 ∈ P ∧ nameTruthy (V e.2).name = true ∧ e.1 = nm V e.2 := by
  simp only [srcT, List.mem_reverse, List.mem_filterMap] at he
  obtain ⟨v, hv, h⟩ := he
  split at h
  · rename_i ht
    simp only [Option.some.injEq] at h
    subst h
    exact ⟨hv, ht, rfl⟩
  · cases h

theorem tblIn_srcT {V : Nat → ValueS} {A : Assoc} {P : List Nat}
    (h : ∀ v ∈ P, nameTruthy (V v).name = true → v ∈ A.map (·.1)) : TblIn A (srcT V P) :=
  fun _ he => h _ (mem_srcT he).1 (mem_srcT he).2.1

mutual
theorem allDefsG_cases (V : Nat → ValueS) :
    ∀ (g : GraphT), ∀ v ∈ allDefsG V g, v ∈ emitG V g ∨ v ∈ blankG V g
  | .mk i ins inits nodes outs, v, hv => by
    simp only [allDefsG, defsOf, List.mem_append, List.mem_filter, List.mem_map] at hv
    simp only [emitG, blankG, List.mem_append, List.mem_filter, List.mem_map]
    by_cases hvo : v ∈ outs
    · exact .inl (.inl (.inr hvo))
    have hno : (!outs.contains v) = true := by simpa using hvo
    rcases hv with ((hv | ⟨hv, _⟩) | hv) | hv
    · exact .inl (.inl (.inl (.inl (.inl hv))))
    · exact .inl (.inl (.inl (.inl (.inr hv))))
    · by_cases ht : nameTruthy (V v).name = true
      · exact .inl (.inl (.inl (.inr ⟨hv, ht⟩)))
      · exact .inr ⟨liveOuts_blank V nodes v hv ht, hno⟩
    · exact (allDefsNs_cases V nodes v hv).imp (fun h => .inr h) (fun h => ⟨h, hno⟩)
theorem liveOuts_blank (V : Nat → ValueS) :
    ∀ (ns : List NodeT), ∀ v ∈ ns.flatMap (liveOuts V), ¬ nameTruthy (V v).name = true → v ∈ blankNs V ns
  | [], v, hv, _ => by simp at hv
  | .mk _ _ _ outs _ :: ns, v, hv, hf => by
    simp only [List.flatMap_cons, List.mem_append, liveOuts] at hv
    simp only [blankNs, blankN, List.mem_append, List.mem_filter]
    rcases hv with hv | hv
    · exact .inl (.inl ⟨hv, by simpa using hf⟩)
    · exact .inr (liveOuts_blank V ns v hv hf)
theorem allDefsNs_cases (V : Nat → ValueS) :
    ∀ (ns : List NodeT), ∀ v ∈ allDefsNs V ns, v ∈ emitSubNs V ns ∨ v ∈ blankNs V ns
  | [], v, hv => by simp [allDefsNs] at hv
  | .mk _ _ _ outs subs :: ns, v, hv => by
    simp only [allDefsNs, allDefsN, List.mem_append] at hv
    simp only [emitSubNs, emitSubN, blankNs, blankN, List.mem_append]
    rcases hv with hv | hv
    · exact (allDefsGs_cases V subs v hv).imp (fun h => .inl h) (fun h => .inl (.inr h))
    · exact (allDefsNs_cases V ns v hv).imp (fun h => .inr h) (fun h => .inr h)
theorem allDefsGs_cases (V : Nat → ValueS) :
    ∀ (gs : List GraphT), ∀ v ∈ allDefsGs V gs, v ∈ emitGs V gs ∨ v ∈ blankGs V gs
  | [], v, hv => by simp [allDefsGs] at hv
  | g :: gs, v, hv => by
    simp only [allDefsGs, List.mem_append] at hv
    simp only [emitGs, blankGs, List.mem_append]
    rcases hv with hv | hv
    · exact (allDefsG_cases V g v hv).imp (fun h => .inl h) (fun h => .inl h)
    · exact (allDefsGs_cases V gs v hv).imp (fun h => .inr h) (fun h => .inr h)
end

mutual
theorem InfoG.blank {V : Nat → ValueS} : ∀ {g : GraphT}, InfoG V g → ∀ v ∈ blankG V g, ({} : Info) = (V v).info.emit
  | .mk _ _ _ nodes _, h, v, hv => by
    simp only [InfoG] at h
    simp only [blankG, List.mem_filter] at hv
    exact InfoNs.blank h.2 v hv.1
theorem InfoNs.blank {V : Nat → ValueS} : ∀ {ns : List NodeT}, InfoNs V ns → ∀ v ∈ blankNs V ns, ({} : Info) = (V v).info.emit
  | [], _, v, hv => by simp [blankNs] at hv
  | .mk _ _ _ outs subs :: ns, h, v, hv => by
    simp only [InfoNs, InfoN] at h
    simp only [blankNs, blankN, List.mem_append, List.mem_filter] at hv
    rcases hv with (hv | hv) | hv
    · have hf : ¬ nameTruthy (V v).name = true := by simpa using hv.2
      exact emit_falsy_out (h.1.1 v hv.1 hf).1 (h.1.1 v hv.1 hf).2
    · exact InfoGs.blank h.1.2 v hv
    · exact InfoNs.blank h.2 v hv
theorem InfoGs.blank {V : Nat → ValueS} : ∀ {gs : List GraphT}, InfoGs V gs → ∀ v ∈ blankGs V gs, ({} : Info) = (V v).info.emit
  | [], _, v, hv => by simp [blankGs] at hv
  | g :: gs, h, v, hv => by
    simp only [InfoGs] at h
    simp only [blankGs, List.mem_append] at hv
    rcases hv with hv | hv
    · exact InfoG.blank h.1 v hv
    · exact InfoGs.blank h.2 v hv
end

theorem rt_graph (V : Nat → ValueS) (td : TData) :
    ∀ (g : GraphT) (s : Store) (A : Assoc) (Ds : List (List Nat)) (p : GraphP) (ws : Writes),
      serGraph V td g = .ok (p, ws) → SerG V Ds.flatten g → InfoG V g → (allDefsG V g).Nodup →
      (∀ v ∈ allDefsG V g, v ∉ A.map (·.1)) →
      (∀ v ∈ Ds.flatten, nameTruthy (V v).name = true → v ∈ A.map (·.1)) → NamesUnique V Ds.flatten →
      RS V s A → Fresh s →
      ∃ (s' : Store) (g' : GraphT) (B : Assoc),
        deserGraph s (Ds.map (tableOf V A)) p = .ok (s', g') ∧ RS V s' (A ++ B) ∧ s.nv ≤ s'.nv ∧
        (∀ v, v ∈ B.map (·.1) ↔ v ∈ allDefsG V g) ∧ TreeRelG V (A ++ B) g g' ∧
        Fresh s' ∧ Prim s.nv s s' ∧ InfoOK V s' (A ++ B) (allDefsG V g) ∧
        ConstOK V td s' (A ++ B) (allInitsG g) := by
  intro g s A Ds p ws hser hS hI hnd hnew hvis hu hrs hfr
  obtain ⟨hok, _, hperm⟩ := SerG.repl V g Ds hS hI hnd hu
  have hO : ∀ T ∈ Ds.map (srcT V), TblIn A T := fun T hT => by
    obtain ⟨P, hP, rfl⟩ := List.mem_map.mp hT
    exact tblIn_srcT (fun v hv => hvis v (List.mem_flatten.mpr ⟨P, hP, hv⟩))
  obtain ⟨s', g', B, e, k, t, ⟨r, l, f, p, io, co, bo⟩⟩ := graphRT V td g s A (Ds.map (srcT V)) p ws hser hok
    (hperm.nodup_iff.mpr hnd) (fun v hv => hnew v (hperm.mem_iff.mp hv)) hO hrs hfr
  rw [← levels_eq_maps] at e
  refine ⟨s', g', B, e, r, l, fun v => by rw [k, hperm.mem_iff], t, f, p, fun v hv => ?_,
    fun kv hkv t ht => (co kv hkv).2.2 t ht⟩
  rcases allDefsG_cases V g v hv with h | h
  · exact (io v h).2
  · rw [(bo v h).2]; exact InfoG.blank hI v h

theorem rt_nodes (V : Nat → ValueS) (td : TData) :
    ∀ (nodes : List NodeT) (s : Store) (A : Assoc) (D : List Nat) (Ds : List (List Nat)) (gouts : List Nat)
      (vi : List (Name × Info)) (nps : List NodeP) (vis : List VInfoP) (ws : Writes),
      serNodes V td gouts nodes = .ok (nps, vis, ws) → SerNs V (D ++ Ds.flatten) gouts nodes → InfoNs V nodes →
      (allDefsNs V nodes).Nodup → (∀ v ∈ allDefsNs V nodes, v ∉ A.map (·.1)) →
      (∀ v ∈ nodes.flatMap (liveOuts V), v ∈ D ∧ (nameTruthy (V v).name = true → v ∈ A.map (·.1)) ∧
        (¬ nameTruthy (V v).name = true → v ∉ A.map (·.1))) →
      (nodes.flatMap (liveOuts V)).Nodup →
      (∀ v ∈ nodes.flatMap (liveOuts V), ∀ w ∈ allDefsNs V nodes, v ≠ w) →
      (∀ v ∈ D ++ Ds.flatten, nameTruthy (V v).name = true → v ∈ A.map (·.1)) →
      NamesUnique V (D ++ Ds.flatten) → RS V s A → Fresh s →
      ∃ (s' : Store) (nts : List NodeT) (B : Assoc),
        deserNodes s (tableOf V A D) (Ds.map (tableOf V A)) vi nps = .ok (s', tableOf V A D, nts) ∧
        RS V s' (A ++ B) ∧ s.nv ≤ s'.nv ∧
        (∀ v, v ∈ B.map (·.1) ↔ (v ∈ nodes.flatMap (liveOuts V) ∧ ¬ nameTruthy (V v).name = true) ∨
          v ∈ allDefsNs V nodes) ∧
        TreeRelNs V (A ++ B) nodes nts ∧ Fresh s' ∧ Prim s.nv s s' ∧
        InfoOK V s' (A ++ B) ((nodes.flatMap (liveOuts V)).filter (fun v => !nameTruthy (V v).name) ++ allDefsNs V nodes) ∧
        ConstOK V td s' (A ++ B) (allInitsNs nodes) := by
  intro nodes s A D Ds gouts vi nps vis ws hser hS hI hnd hnew hL hLnd hLdisj hvis hu hrs hfr
  obtain ⟨hok, htbl, hperm⟩ := SerNs.repl V nodes D Ds gouts hS hI hnd hu (fun v hv => (hL v hv).1)
  have hmem : ∀ v, v ∈ (replNs V (Ds.map (srcT V)) (srcT V D) nodes).new ↔
      (v ∈ nodes.flatMap (liveOuts V) ∧ ¬ nameTruthy (V v).name = true) ∨ v ∈ allDefsNs V nodes := fun v => by
    rw [hperm.mem_iff, List.mem_append, List.mem_filter]; simp
  have hT : TblIn A (srcT V D) := tblIn_srcT (fun v hv => hvis v (List.mem_append_left _ hv))
  have hO : ∀ T ∈ Ds.map (srcT V), TblIn A T := fun T hT => by
    obtain ⟨P, hP, rfl⟩ := List.mem_map.mp hT
    exact tblIn_srcT (fun v hv => hvis v (List.mem_append_right _ (List.mem_flatten.mpr ⟨P, hP, hv⟩)))
  obtain ⟨s', nts, B, e, k, _, t, ⟨r, l, f, p, io, co, bo⟩⟩ := nodesRT V td nodes s A (srcT V D) (Ds.map (srcT V)) gouts vi
    nps vis ws hser hok
    (hperm.nodup_iff.mpr (List.nodup_append.mpr ⟨hLnd.filter _, hnd,
      fun a ha b hb => hLdisj a (List.mem_filter.mp ha).1 b hb⟩))
    (fun v hv => by
      rcases (hmem v).mp hv with h | h
      · exact (hL v h.1).2.2 h.2
      · exact hnew v h)
    hT hO hrs hfr
  rw [htbl, mapT_extend B hT, ← tableOf_eq_mapT, ← levels_eq_maps] at e
  refine ⟨s', nts, B, e, r, l, fun v => by rw [k]; exact hmem v, t, f, p, fun v hv => ?_,
    fun kv hkv t ht => (co kv hkv).2.2 t ht⟩
  have ofBlank : ∀ v ∈ blankNs V nodes, (s'.vals (sig (A ++ B) v)).info = (V v).info.emit :=
    fun v hv => by rw [(bo v hv).2]; exact InfoNs.blank hI v hv
  simp only [List.mem_append, List.mem_filter] at hv
  rcases hv with hv | hv
  · exact ofBlank v (liveOuts_blank V nodes v hv.1 (by simpa using hv.2))
  · rcases allDefsNs_cases V nodes v hv with h | h
    · exact (io v h).2
    · exact ofBlank v h

theorem rt_node (V : Nat → ValueS) (td : TData) :
    ∀ (n : NodeT) (s : Store) (A : Assoc) (D : List Nat) (Ds : List (List Nat)) (gouts : List Nat)
      (vi : List (Name × Info)) (np : NodeP) (vis : List VInfoP) (ws : Writes),
      serNode V td gouts n = .ok (np, vis, ws) → SerN V (D ++ Ds.flatten) gouts n → InfoN V n →
      (allDefsN V n).Nodup → (∀ v ∈ allDefsN V n, v ∉ A.map (·.1)) →
      (∀ v ∈ liveOuts V n, v ∈ D ∧ (nameTruthy (V v).name = true → v ∈ A.map (·.1)) ∧
        (¬ nameTruthy (V v).name = true → v ∉ A.map (·.1))) →
      (liveOuts V n).Nodup → (∀ v ∈ liveOuts V n, ∀ w ∈ allDefsN V n, v ≠ w) →
      (∀ v ∈ D ++ Ds.flatten, nameTruthy (V v).name = true → v ∈ A.map (·.1)) →
      NamesUnique V (D ++ Ds.flatten) → RS V s A → Fresh s →
      ∃ (s' : Store) (n' : NodeT) (B : Assoc),
        deserNode s (tableOf V A D) (Ds.map (tableOf V A)) vi np = .ok (s', tableOf V A D, n') ∧
        RS V s' (A ++ B) ∧ s.nv ≤ s'.nv ∧
        (∀ v, v ∈ B.map (·.1) ↔ (v ∈ liveOuts V n ∧ ¬ nameTruthy (V v).name = true) ∨ v ∈ allDefsN V n) ∧
        TreeRelN V (A ++ B) n n' ∧ Fresh s' ∧ Prim s.nv s s' ∧
        InfoOK V s' (A ++ B) ((liveOuts V n).filter (fun v => !nameTruthy (V v).name) ++ allDefsN V n) ∧
        ConstOK V td s' (A ++ B) (allInitsN n) := by
  intro n s A D Ds gouts vi np vis ws hser hS hI hnd hnew hL hLnd hLdisj hvis hu hrs hfr
  obtain ⟨hok, htbl, hperm⟩ := SerN.repl V n D Ds gouts hS hI hnd hu (fun v hv => (hL v hv).1)
  have hmem : ∀ v, v ∈ (replN V (Ds.map (srcT V)) (srcT V D) n).new ↔
      (v ∈ liveOuts V n ∧ ¬ nameTruthy (V v).name = true) ∨ v ∈ allDefsN V n := fun v => by
    rw [hperm.mem_iff, List.mem_append, List.mem_filter]; simp
  have hT : TblIn A (srcT V D) := tblIn_srcT (fun v hv => hvis v (List.mem_append_left _ hv))
  have hO : ∀ T ∈ Ds.map (srcT V), TblIn A T := fun T hT => by
    obtain ⟨P, hP, rfl⟩ := List.mem_map.mp hT
    exact tblIn_srcT (fun v hv => hvis v (List.mem_append_right _ (List.mem_flatten.mpr ⟨P, hP, hv⟩)))
  obtain ⟨s', n', B, e, k, _, t, ⟨r, l, f, p, io, co, bo⟩⟩ := nodeRT V td n s A (srcT V D) (Ds.map (srcT V)) gouts vi np vis
    ws hser hok
    (hperm.nodup_iff.mpr (List.nodup_append.mpr ⟨hLnd.filter _, hnd,
      fun a ha b hb => hLdisj a (List.mem_filter.mp ha).1 b hb⟩))
    (fun v hv => by
      rcases (hmem v).mp hv with h | h
      · exact (hL v h.1).2.2 h.2
      · exact hnew v h)
    hT hO hrs hfr
  rw [htbl, mapT_extend B hT, ← tableOf_eq_mapT, ← levels_eq_maps] at e
  obtain ⟨i, g, ins, outs, subs⟩ := n
  simp only [InfoN] at hI
  refine ⟨s', n', B, e, r, l, fun v => by rw [k]; exact hmem v, t, f, p, fun v hv => ?_,
    fun kv hkv t ht => (co kv hkv).2.2 t ht⟩
  have blank : ∀ v ∈ blankN V (.mk i g ins outs subs), ({} : Info) = (V v).info.emit := fun v hv => by
    simp only [blankN, List.mem_append, List.mem_filter] at hv
    rcases hv with hv | hv
    · have hf : ¬ nameTruthy (V v).name = true := by simpa using hv.2
      exact emit_falsy_out (hI.1 v hv.1 hf).1 (hI.1 v hv.1 hf).2
    · exact InfoGs.blank hI.2 v hv
  have ofBlank : ∀ v ∈ blankN V (.mk i g ins outs subs), (s'.vals (sig (A ++ B) v)).info = (V v).info.emit :=
    fun v hv => by rw [(bo v hv).2]; exact blank v hv
  simp only [List.mem_append, liveOuts, allDefsN] at hv
  rcases hv with hv | hv
  · exact ofBlank v (by simp only [blankN, List.mem_append]; exact .inl hv)
  · rcases allDefsGs_cases V subs v hv with h | h
    · exact (io v (by simpa only [emitSubN] using h)).2
    · exact ofBlank v (by simp only [blankN, List.mem_append]; exact .inr h)

theorem rt_subs (V : Nat → ValueS) (td : TData) :
    ∀ (subs : List GraphT) (s : Store) (A : Assoc) (Ds : List (List Nat)) (gps : List GraphP) (ws : Writes),
      serSubs V td subs = .ok (gps, ws) → SerGs V Ds.flatten subs → InfoGs V subs → (allDefsGs V subs).Nodup →
      (∀ v ∈ allDefsGs V subs, v ∉ A.map (·.1)) →
      (∀ v ∈ Ds.flatten, nameTruthy (V v).name = true → v ∈ A.map (·.1)) → NamesUnique V Ds.flatten →
      RS V s A → Fresh s →
      ∃ (s' : Store) (gts : List GraphT) (B : Assoc),
        deserSubs s (Ds.map (tableOf V A)) gps = .ok (s', gts) ∧ RS V s' (A ++ B) ∧ s.nv ≤ s'.nv ∧
        (∀ v, v ∈ B.map (·.1) ↔ v ∈ allDefsGs V subs) ∧ TreeRelGs V (A ++ B) subs gts ∧
        Fresh s' ∧ Prim s.nv s s' ∧ InfoOK V s' (A ++ B) (allDefsGs V subs) ∧
        ConstOK V td s' (A ++ B) (allInitsGs subs) := by
  intro subs s A Ds gps ws hser hS hI hnd hnew hvis hu hrs hfr
  obtain ⟨hok, _, hperm⟩ := SerGs.repl V subs Ds hS hI hnd hu
  have hO : ∀ T ∈ Ds.map (srcT V), TblIn A T := fun T hT => by
    obtain ⟨P, hP, rfl⟩ := List.mem_map.mp hT
    exact tblIn_srcT (fun v hv => hvis v (List.mem_flatten.mpr ⟨P, hP, hv⟩))
  obtain ⟨s', gts, B, e, k, t, ⟨r, l, f, p, io, co, bo⟩⟩ := subsRT V td subs s A (Ds.map (srcT V)) gps ws hser hok
    (hperm.nodup_iff.mpr hnd) (fun v hv => hnew v (hperm.mem_iff.mp hv)) hO hrs hfr
  rw [← levels_eq_maps] at e
  refine ⟨s', gts, B, e, r, l, fun v => by rw [k, hperm.mem_iff], t, f, p, fun v hv => ?_,
    fun kv hkv t ht => (co kv hkv).2.2 t ht⟩
  rcases allDefsGs_cases V subs v hv with h | h
  · exact (io v h).2
  · rw [(bo v h).2]; exact InfoGs.blank hI v h

theorem Serializable.reloadable {w : World} (h : Serializable w) : Reloadable w := by
  obtain ⟨hnd, hS, hI⟩ := h
  obtain ⟨hok, _, hperm⟩ := SerG.repl w.st.vals w.root [] (by simpa using hS) hI hnd (fun _ ha => by simp at ha)
  exact ⟨hok, hperm.nodup_iff.mpr hnd⟩

/-- the round trip of a serializable model, without the consistency part (`C03_roundtrip` adds it) -/
theorem roundtrip_core (w : World) (h : Serializable w) :
    ∃ (p : GraphP) (ws : Writes) (D : World) (σ : Nat → Nat),
      serGraph w.st.vals w.st.tdata w.root = .ok (p, ws) ∧ deserialize p = .ok D ∧ Iso w D σ := by
  obtain ⟨hnd, hS, hI⟩ := h
  obtain ⟨p, ws, hp⟩ := serGraph_ok w.st.vals w.st.tdata w.root [] hS
  obtain ⟨s', g', B, hd, hrs, _, hk, ht, _, _, hio, hco⟩ := rt_graph w.st.vals w.st.tdata w.root {} [] [] p ws hp
    (by simpa using hS) hI hnd (fun _ _ => by simp) (fun _ hv => by simp at hv) (fun _ ha => by simp at ha)
    .empty Fresh.empty
  simp only [List.map_nil, List.nil_append] at hd hrs ht hio hco
  have hdes : deserialize p = .ok ⟨s', g'⟩ := by simp only [deserialize, hd]
  refine ⟨p, ws, ⟨s', g'⟩, sig B, hp, hdes, ?_⟩
  exact ⟨TreeRelG.iso _ B _ _ ht,
    fun a ha b hb he => hrs.sig_inj ((hk a).mpr ha) ((hk b).mpr hb) he,
    fun v hv => hrs.sig_name ((hk v).mpr hv), hio,
    fun kv hkv t htc => by
      obtain ⟨t', h1, _, h3, h4⟩ := hco kv hkv t htc
      exact ⟨t', h1, h3, h4⟩⟩

theorem serialize_roundtrip_fixpoint (w : World) (h : Serializable w) :
    ∃ (w1 : World) (q : GraphP) (D : World) (w2 : World),
      serialize w = .ok (w1, q) ∧ deserialize q = .ok D ∧ serialize D = .ok (w2, q) :=
  reloadable_fixpoint w h.reloadable

end IrVerif.Scope
