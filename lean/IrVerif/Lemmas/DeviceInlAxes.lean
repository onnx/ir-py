/-
C19 — the complete `InlinePass`: the inliner's cloner and the pass keep the invariant `PJ T`
(`Lemmas/DeviceInlPass.lean`).  The cloner is followed by a relation between its states (`CStep`).
`inlinePass_WJ` / `inlinePass_AInv` are the rank-free and the full reading of the result.
-/
import IrVerif.Lemmas.DeviceInlPass
namespace IrVerif.Device

theorem cnWorld_ext (w : World) (nd : NodeS) (ins : List (Option VId)) (vm : OMap) (subs : List GId) :
    Ext w (cnWorld w nd ins vm subs) := Ext.of_append (nd.outputs.map w.value) rfl rfl

theorem mem_cnSubst {w : World} {nd : NodeS} {S : List VId} {x : VId} :
    x ∈ cnSubst w nd S ↔ x ∈ S ∨ ∃ o, o ∈ S ∧ (o, x) ∈ nd.outputs.zip (cnOuts w nd) := by
  unfold cnSubst
  simp only [List.mem_append, List.mem_map, List.mem_filter, decide_eq_true_eq]
  constructor
  · rintro (h | ⟨p, ⟨hp1, hp2⟩, rfl⟩)
    · exact Or.inl h
    · exact Or.inr ⟨p.1, hp2, hp1⟩
  · rintro (h | ⟨o, ho, hz⟩)
    · exact Or.inl h
    · exact Or.inr ⟨(o, x), ⟨hz, ho⟩, rfl⟩

theorem mem_zipPadO : ∀ (fs : List VId) (ins : List (Option VId)) (a : VId) (t : Option VId),
    (a, t) ∈ zipPadO fs ins → t = none ∨ t ∈ ins := by
  intro fs
  induction fs with
  | nil => intro ins a t h; simp [zipPadO] at h
  | cons v vs ih =>
    intro ins a t h
    cases ins with
    | nil =>
      simp only [zipPadO, List.mem_cons, Prod.mk.injEq] at h
      rcases h with ⟨_, h⟩ | h
      · exact Or.inl h
      · rcases ih [] a t h with h1 | h1
        · exact Or.inl h1
        · cases h1
    | cons c cs =>
      simp only [zipPadO, List.mem_cons, Prod.mk.injEq] at h
      rcases h with ⟨_, h⟩ | h
      · exact Or.inr (by simp [h])
      · rcases ih cs a t h with h1 | h1
        · exact Or.inl h1
        · exact Or.inr (by simp [h1])

/-- what the value map of the inliner's cloner guarantees about an image: it exists, and unless it is a ghost its
    source exists, is no ghost either and has the same rank -/
def VmG (T : Prop) (vm : OMap) (w : World) (S : List VId) : Prop :=
  ∀ a b, oget vm a = some b → b < w.values.length ∧
    (¬ Gh T S b → a < w.values.length ∧ ¬ Gh T S a ∧ rankOf (w.value b) = rankOf (w.value a))

theorem VmG.mono {T : Prop} {vm : OMap} {w w' : World} {S S' : List VId} (h : VmG T vm w S) (he : Ext w w')
    (hsub : ∀ v ∈ S, v ∈ S') (hfresh : ∀ v ∈ S', v ∈ S ∨ w.values.length ≤ v) : VmG T vm w' S' := by
  intro a b hab
  obtain ⟨h1, h2⟩ := h a b hab
  refine ⟨Nat.lt_of_lt_of_le h1 he.vlen, ?_⟩
  intro hb
  obtain ⟨ha, haS, hr⟩ := h2 (fun g => hb (g.imp id (hsub b)))
  refine ⟨Nat.lt_of_lt_of_le ha he.vlen, ?_, ?_⟩
  · rintro (t | hin)
    · exact hb (Or.inl t)
    · rcases hfresh a hin with h3 | h3
      · exact haS (Or.inr h3)
      · exact absurd ha (Nat.not_lt.mpr h3)
  · rw [he.rank b h1, he.rank a ha]; exact hr

section
variable {T : Prop} {L : List (List CId)} {cfgs : List CfgS} {m : MId}

/-- the relation between the states of the cloner before and after a step -/
structure CStep (T : Prop) (L : List (List CId)) (cfgs : List CfgS) (m : MId) (st st' : ICl) : Prop where
  ext : Ext st.w st'.w
  sub : ∀ v ∈ st.subst, v ∈ st'.subst
  fresh : ∀ v ∈ st'.subst, v ∈ st.subst ∨ st.w.values.length ≤ v
  inv : PJ T L cfgs m st.w st.subst → VmG T st.vm st.w st.subst →
    PJ T L cfgs m st'.w st'.subst ∧ VmG T st'.vm st'.w st'.subst
  newN : (∀ n ∈ st.newNodes, n < st.w.nodes.length) → ∀ n ∈ st'.newNodes, n < st'.w.nodes.length

theorem CStep.refl (st : ICl) : CStep T L cfgs m st st :=
  ⟨Ext.refl _, fun _ h => h, fun _ h => Or.inl h, fun a b => ⟨a, b⟩, id⟩

theorem CStep.trans {a b c : ICl} (h1 : CStep T L cfgs m a b) (h2 : CStep T L cfgs m b c) : CStep T L cfgs m a c := by
  refine ⟨h1.ext.trans h2.ext, fun v hv => h2.sub v (h1.sub v hv), ?_, ?_, fun h => h2.newN (h1.newN h)⟩
  · intro v hv
    rcases h2.fresh v hv with h3 | h3
    · exact h1.fresh v h3
    · exact Or.inr (Nat.le_trans h1.ext.vlen h3)
  · intro ha hv
    obtain ⟨x, y⟩ := h1.inv ha hv
    exact h2.inv x y

/-- `_clone_or_get_value` of a value that exists (asked only where ranks are claimed) -/
theorem cloneOrGetO_step {st st' : ICl} {v : VId} (hc : cloneOrGetO st v = some st') :
    Ext st.w st'.w ∧ (∀ x ∈ st.subst, x ∈ st'.subst) ∧
    (∀ x ∈ st'.subst, x ∈ st.subst ∨ st.w.values.length ≤ x) ∧
    ((¬ T → v < st.w.values.length) → PJ T L cfgs m st.w st.subst → VmG T st.vm st.w st.subst →
      PJ T L cfgs m st'.w st'.subst ∧ VmG T st'.vm st'.w st'.subst) ∧
    st'.w.nodes = st.w.nodes ∧ st'.newNodes = st.newNodes := by
  unfold cloneOrGetO at hc
  split at hc
  · cases hc; exact ⟨Ext.refl _, fun _ h => h, fun _ h => Or.inl h, fun _ a b => ⟨a, b⟩, rfl, rfl⟩
  · cases hc
  · simp only [Option.some.injEq] at hc
    subst hc
    have hext : Ext st.w { st.w with values := st.w.values ++ [st.w.value v] } := Ext_append_values _ _
    have hsub : ∀ x ∈ st.subst, x ∈ (if v ∈ st.subst then st.subst ++ [st.w.values.length] else st.subst) := by
      intro x hx; split
      · exact List.mem_append_left _ hx
      · exact hx
    have hfresh : ∀ x ∈ (if v ∈ st.subst then st.subst ++ [st.w.values.length] else st.subst),
        x ∈ st.subst ∨ st.w.values.length ≤ x := by
      intro x hx
      split at hx
      · rw [List.mem_append] at hx
        rcases hx with hx | hx
        · exact Or.inl hx
        · simp only [List.mem_singleton] at hx; exact Or.inr (Nat.le_of_eq hx.symm)
      · exact Or.inl hx
    refine ⟨hext, hsub, hfresh, ?_, rfl, rfl⟩
    intro hv ha hvm
    refine ⟨ha.ext_same hext rfl rfl rfl rfl hsub, ?_⟩
    intro a b hab
    rw [oget_cons] at hab
    by_cases hk : v = a
    · simp only [hk, if_true, Option.some.injEq] at hab
      subst hk
      subst hab
      refine ⟨by simp, ?_⟩
      intro hb
      have hT : ¬ T := fun t => hb (Or.inl t)
      have hvS : v ∉ st.subst := by
        intro hin
        apply hb
        right
        simp only [hin, if_true]
        exact List.mem_append_right _ (by simp)
      refine ⟨?_, ?_, ?_⟩
      · show v < (st.w.values ++ [st.w.value v]).length
        rw [List.length_append]; exact Nat.lt_add_right _ (hv hT)
      · rintro (t | hin)
        · exact hT t
        · rw [if_neg hvS] at hin; exact hvS hin
      · show rankOf (World.value { st.w with values := st.w.values ++ [st.w.value v] } st.w.values.length) = _
        rw [value_push, hext.rank v (hv hT)]
    · simp only [hk, if_false] at hab
      exact hvm.mono hext hsub hfresh a b hab

theorem cloneValsO_step : ∀ (vs : List VId) (st st' : ICl), cloneValsO st vs = some st' →
    Ext st.w st'.w ∧ (∀ x ∈ st.subst, x ∈ st'.subst) ∧
    (∀ x ∈ st'.subst, x ∈ st.subst ∨ st.w.values.length ≤ x) ∧
    ((¬ T → ∀ v ∈ vs, v < st.w.values.length) → PJ T L cfgs m st.w st.subst → VmG T st.vm st.w st.subst →
      PJ T L cfgs m st'.w st'.subst ∧ VmG T st'.vm st'.w st'.subst) ∧
    st'.w.nodes = st.w.nodes ∧ st'.newNodes = st.newNodes := by
  intro vs
  induction vs with
  | nil =>
    intro st st' hc
    simp only [cloneValsO, Option.some.injEq] at hc
    subst hc
    exact ⟨Ext.refl _, fun _ h => h, fun _ h => Or.inl h, fun _ a b => ⟨a, b⟩, rfl, rfl⟩
  | cons v rest ih =>
    intro st st' hc
    simp only [cloneValsO] at hc
    cases h1 : cloneOrGetO st v with
    | none => simp [h1] at hc
    | some st1 =>
      simp only [h1] at hc
      obtain ⟨e1, s1, f1, i1, n1, k1⟩ := cloneOrGetO_step (T := T) (L := L) (cfgs := cfgs) (m := m) h1
      obtain ⟨e2, s2, f2, i2, n2, k2⟩ := ih st1 st' hc
      refine ⟨e1.trans e2, fun x hx => s2 x (s1 x hx), ?_, ?_, n2.trans n1, k2.trans k1⟩
      · intro x hx
        rcases f2 x hx with h3 | h3
        · exact f1 x h3
        · exact Or.inr (Nat.le_trans e1.vlen h3)
      · intro hvs ha hvm
        obtain ⟨a1, v1⟩ := i1 (fun hT => hvs hT v (by simp)) ha hvm
        exact i2 (fun hT x hx => Nat.lt_of_lt_of_le (hvs hT x (by simp [hx])) e1.vlen) a1 v1

theorem cloneSubgraphsO_step {rec : ICl → GId → Option (ICl × GId)} (hrec : RecRel (CStep T L cfgs m) rec) :
    ∀ (gs : List GId) (st st' : ICl) (subs : List GId),
    cloneSubgraphsO rec st gs = some (st', subs) → CStep T L cfgs m st st' :=
  cloneSubgraphsO_rel CStep.refl CStep.trans hrec

theorem cn_step {T : Prop} {L : List (List CId)} {cfgs : List CfgS} {m : MId} {w0 w1 : World} {S0 S1 : List VId}
    {vm0 vmA : OMap} {nd : NodeS} {ins : List (Option VId)} (subs : List GId) (used : List String)
    (he01 : Ext w0 w1) (hsub01 : ∀ v ∈ S0, v ∈ S1) (hfresh01 : ∀ v ∈ S1, v ∈ S0 ∨ w0.values.length ≤ v)
    (hA0 : PJ T L cfgs m w0 S0) (hV0 : VmG T vm0 w0 S0) (hA1 : PJ T L cfgs m w1 S1) (hV1 : VmG T vmA w1 S1)
    (hndmem : nd ∈ w0.nodes ∨ nd = {}) (hci : cloneInputsO vm0 nd.inputs = some ins) :
    PJ T L cfgs m (renameOuts (cnWorld w1 nd ins vmA subs, used) (cnOuts w1 nd)).1 (cnSubst w1 nd S1) ∧
    VmG T (cnVm w1 nd vmA) (renameOuts (cnWorld w1 nd ins vmA subs, used) (cnOuts w1 nd)).1 (cnSubst w1 nd S1) := by
  have hnd0 : NodeIn T S0 (L.getD m []) w0 nd := by
    rcases hndmem with h | h
    · exact hA0.nodes _ h
    · rw [h]; exact NodeIn_default T S0 _ w0
  have hV01 : VmG T vm0 w1 S1 := hV0.mono he01 hsub01 hfresh01
  have heC : Ext w1 (cnWorld w1 nd ins vmA subs) := cnWorld_ext _ _ _ _ _
  have heR := renameOuts_ext (cnOuts w1 nd) (cnWorld w1 nd ins vmA subs, used)
  have he1f := heC.trans heR
  obtain ⟨rn, rc, rm, rg⟩ := renameOuts_same (cnOuts w1 nd) (cnWorld w1 nd ins vmA subs, used)
  have hsubS : ∀ v ∈ S1, v ∈ cnSubst w1 nd S1 := fun v hv => mem_cnSubst.mpr (Or.inl hv)
  have hzip : ∀ o x, (o, x) ∈ nd.outputs.zip (cnOuts w1 nd) →
      (cnWorld w1 nd ins vmA subs).value x = w1.value o ∧ w1.values.length ≤ x ∧
      x < w1.values.length + nd.outputs.length ∧ o ∈ nd.outputs :=
    fun o x h => zip_range'_value h (cnWorld w1 nd ins vmA subs) rfl
  have hwclen : (cnWorld w1 nd ins vmA subs).values.length = w1.values.length + nd.outputs.length := by
    simp [cnWorld]
  have hfreshS : ∀ v ∈ cnSubst w1 nd S1, v ∈ S1 ∨ w1.values.length ≤ v := by
    intro v hv
    rcases mem_cnSubst.mp hv with h | ⟨o, _, hz⟩
    · exact Or.inl h
    · exact Or.inr (hzip o v hz).2.1
  constructor
  · refine hA1.push he1f (clonedNodeO nd ins (cnOuts w1 nd) (cnVm w1 nd vmA) subs) (by rw [rn]; rfl) (by rw [rg]; rfl)
      (by rw [rc]; rfl) (by rw [rm]; rfl) hsubS ?_
    · refine NodeIn_clonedNodeO subs w1.values.length hnd0 hci ⟨?_, ?_⟩
        (by rw [rc]; show w1.cfgs = w0.cfgs; rw [hA1.hcfgs, hA0.hcfgs]) ?_ ?_
      · -- inputs of the new node: images under the value map
        intro o ho v hov
        subst hov
        have ho' : some v ∈ nd.inputs.map (fun o => o.bind (oimg vm0)) := by rw [← cloneInputsO_eq hci]; exact ho
        simp only [List.mem_map] at ho'
        obtain ⟨i, _, hi2⟩ := ho'
        cases i with
        | none => simp at hi2
        | some a =>
          simp only [Option.bind_some] at hi2
          exact Nat.lt_of_lt_of_le (hV01 a v (by rw [← oimg_eq_oget]; exact hi2)).1 he1f.vlen
      · intro v hv
        have hv' : v ∈ List.range' w1.values.length nd.outputs.length := hv
        rw [List.mem_range'_1] at hv'
        exact Nat.lt_of_lt_of_le (by rw [hwclen]; exact hv'.2) heR.vlen
      · -- an output and its copy
        intro o x hz
        obtain ⟨hval, _, hlt, hmem⟩ := hzip _ _ hz
        refine ⟨fun g => g.imp id (fun hin => mem_cnSubst.mpr (Or.inr ⟨o, hsub01 _ hin, hz⟩)), fun _ => ?_⟩
        rw [heR.rank _ (by rw [hwclen]; exact hlt), hval, he01.rank _ (hnd0.1.1.2 _ hmem)]
      · -- an input and its image
        intro a b hvi hog
        obtain ⟨hb_lt, hb⟩ := hV01 a b hog
        have hng : ¬ Gh T (cnSubst w1 nd S1) b → ¬ Gh T S1 b := fun h g => h (g.imp id (hsubS b))
        refine ⟨fun g => Classical.byContradiction (fun h => (hb (hng h)).2.1 (g.imp id (hsub01 a))), fun h => ?_⟩
        rw [he1f.rank _ hb_lt, (hb (hng h)).2.2, he01.rank _ (hnd0.1.1.1 _ hvi _ rfl)]
  · intro a b hab
    unfold oget cnVm at hab
    rw [olookup_append] at hab
    cases hl : olookup (((nd.outputs.zip (cnOuts w1 nd)).map (fun p => (p.1, some p.2))).reverse) a with
    | none =>
      rw [hl] at hab
      simp only [Option.none_or] at hab
      exact (hV1.mono he1f hsubS hfreshS) a b hab
    | some t =>
      obtain ⟨x, hx, hz⟩ := mem_zip_of_outPartO (outs := nd.outputs) (newOuts := cnOuts w1 nd) (olookup_mem hl)
      subst hx
      rw [hl] at hab
      simp only [Option.some_or, Option.getD_some, Option.some.injEq] at hab
      subst hab
      obtain ⟨hval, hge, hlt, hmem⟩ := hzip _ _ hz
      refine ⟨Nat.lt_of_lt_of_le (by rw [hwclen]; exact hlt) heR.vlen, ?_⟩
      intro hb
      have ha_lt1 : a < w1.values.length := Nat.lt_of_lt_of_le (hnd0.1.1.2 a hmem) he01.vlen
      refine ⟨Nat.lt_of_lt_of_le ha_lt1 he1f.vlen, ?_, ?_⟩
      · rintro (t | hin)
        · exact hb (Or.inl t)
        · rcases mem_cnSubst.mp hin with h | ⟨o, _, hz2⟩
          · exact hb (Or.inr (mem_cnSubst.mpr (Or.inr ⟨a, h, hz⟩)))
          · exact absurd ha_lt1 (Nat.not_lt.mpr (hzip o a hz2).2.1)
      · rw [heR.rank _ (by rw [hwclen]; exact hlt), hval, he1f.rank _ ha_lt1]

theorem cloneNodeO_step {rec : ICl → GId → Option (ICl × GId)} (hrec : RecRel (CStep T L cfgs m) rec) {st st' : ICl} {n k : NId}
    (hc : cloneNodeO rec st n = some (st', k)) : CStep T L cfgs m st st' := by
  obtain ⟨ins, st1, subs, hci, hs, rfl⟩ := cloneNodeO_parts hc
  have S01 := cloneSubgraphsO_step hrec _ _ _ _ hs
  have hge : ∀ o x, (o, x) ∈ (st.w.node n).outputs.zip (cnOuts st1.w (st.w.node n)) → st1.w.values.length ≤ x :=
    fun o x h => (zip_range'_value h (cnWorld st1.w (st.w.node n) ins st1.vm subs) rfl).2.1
  refine ⟨S01.ext.trans ((cnWorld_ext st1.w (st.w.node n) ins st1.vm subs).trans
      (renameOuts_ext (cnOuts st1.w (st.w.node n)) (cnWorld st1.w (st.w.node n) ins st1.vm subs, st1.used))),
    fun v hv => mem_cnSubst.mpr (Or.inl (S01.sub v hv)), ?_, ?_, ?_⟩
  · intro v hv
    rcases mem_cnSubst.mp hv with h | ⟨o, _, hz⟩
    · exact S01.fresh v h
    · exact Or.inr (Nat.le_trans S01.ext.vlen (hge o v hz))
  · intro hA0 hV0
    obtain ⟨hA1, hV1⟩ := S01.inv hA0 hV0
    exact cn_step subs st1.used S01.ext S01.sub S01.fresh hA0 hV0 hA1 hV1 (node_mem_or_default st.w n) hci
  · -- the new node is the last of the heap
    intro h0 x hx
    have hx' : x ∈ st1.newNodes ++ [st1.w.nodes.length] := hx
    show x < (renameOuts (cnWorld st1.w (st.w.node n) ins st1.vm subs, st1.used) (cnOuts st1.w (st.w.node n))).1.nodes.length
    rw [(renameOuts_same _ _).1]
    simp only [cnWorld, List.length_append, List.length_singleton]
    rcases List.mem_append.mp hx' with hx' | hx'
    · exact Nat.lt_succ_of_lt (S01.newN h0 x hx')
    · rw [List.mem_singleton.mp hx']; exact Nat.lt_succ_self _

theorem cloneNodesO_step {rec : ICl → GId → Option (ICl × GId)} (hrec : RecRel (CStep T L cfgs m) rec) :
    ∀ (ns : List NId) (st st' : ICl) (acc res : List NId),
    cloneNodesO rec st ns acc = some (st', res) → CStep T L cfgs m st st' :=
  cloneNodesO_rel CStep.refl CStep.trans (fun hc => cloneNodeO_step hrec hc)

theorem cloneGraphBodyO_step {rec : ICl → GId → Option (ICl × GId)} (hrec : RecRel (CStep T L cfgs m) rec) {st st' : ICl}
    {g g' : GId} (hc : cloneGraphBodyO rec st g = some (st', g')) : CStep T L cfgs m st st' := by
  obtain ⟨st0, st2, ns, outs', h0, h1, rfl⟩ := cloneGraphBodyO_parts hc
  obtain ⟨e0, s0, f0, i0, n0, k0⟩ := cloneValsO_step (T := T) (L := L) (cfgs := cfgs) (m := m) _ _ _ h0
  have S02 := cloneNodesO_step hrec _ _ _ _ _ h1
  refine ⟨(e0.trans S02.ext).trans (Ext.of_eq rfl rfl), fun v hv => S02.sub v (s0 v hv), ?_, ?_,
    fun h => S02.newN (by rw [n0, k0]; exact h)⟩
  · intro v hv
    rcases S02.fresh v hv with h3 | h3
    · exact f0 v h3
    · exact Or.inr (Nat.le_trans e0.vlen h3)
  · intro hA hV
    obtain ⟨a0, v0⟩ := i0 (fun hT => hA.graph_ids hT g) hA hV
    obtain ⟨a2, v2⟩ := S02.inv a0 v0
    refine ⟨?_, v2⟩
    -- the new graph: its inputs and initializers are images under the value map
    refine a2.of_same rfl rfl (Nat.le_refl _) (fun nd hnd => (a2.nodes nd hnd).ext (Ext.of_eq rfl rfl) (fun _ hv => hv)) ?_
    intro hT gs hgs v hv
    have hgs' : gs ∈ st2.w.graphs ++ [(⟨(st.w.graph g).inputs.filterMap (oget st0.vm), ns,
        (st.w.graph g).inits.filterMap (oget st0.vm)⟩ : GraphS)] := hgs
    rw [List.mem_append] at hgs'
    rcases hgs' with h3 | h3
    · exact a2.gids hT gs h3 v hv
    · simp only [List.mem_singleton] at h3
      subst h3
      simp only [List.mem_append, List.mem_filterMap] at hv
      have hlt0 : v < st0.w.values.length := by
        rcases hv with ⟨a, _, ha⟩ | ⟨a, _, ha⟩
        · exact (v0 a v ha).1
        · exact (v0 a v ha).1
      exact Nat.lt_of_lt_of_le hlt0 S02.ext.vlen

theorem cloneGraphOF_step : ∀ (f : Nat), RecRel (CStep T L cfgs m) (cloneGraphOF f) :=
  cloneGraphOF_rel (R := CStep T L cfgs m) (fun hrec _ _ _ _ hc => cloneGraphBodyO_step hrec hc)

end

section
variable {T : Prop} {L : List (List CId)} {cfgs : List CfgS} {m : MId}

theorem fwdOutsO_PJ {S : List VId} (vm : OMap) : ∀ (outs : List VId) (st st' : Fwd), fwdOutsO vm st outs = some st' →
    PJ T L cfgs m st.w S → VmG T vm st.w S → (∀ x ∈ st.outvals, x < st.w.values.length) →
    (∀ x ∈ st.nodes, x < st.w.nodes.length) →
    PJ T L cfgs m st'.w S ∧ (∀ x ∈ st'.outvals, x < st'.w.values.length) ∧
    (∀ x ∈ st'.nodes, x < st'.w.nodes.length) ∧ st.w.nodes.length ≤ st'.w.nodes.length := by
  intro outs
  induction outs with
  | nil =>
    intro st st' hc h _ ho hk
    simp only [fwdOutsO, Option.some.injEq] at hc
    subst hc
    exact ⟨h, ho, hk, Nat.le_refl _⟩
  | cons o rest ih =>
    intro st st' hc h hV ho hk
    simp only [fwdOutsO] at hc
    cases hv : oget vm o with
    | none => simp [hv] at hc
    | some val =>
      simp only [hv] at hc
      have hval_lt : val < st.w.values.length := (hV o val hv).1
      split at hc
      · refine ih { st with outvals := st.outvals ++ [val] } _ hc h hV ?_ hk
        intro x hx
        simp only [List.mem_append, List.mem_singleton] at hx
        rcases hx with hx | hx
        · exact ho x hx
        · rw [hx]; exact hval_lt
      · -- a function output that is a value of the caller: forwarded through a new `Identity` node
        generalize hw1 : ({ st.w with
            values := st.w.values ++ [({ name := (st.w.value o).name, shape := (st.w.value val).shape } : ValueS)],
            nodes := st.w.nodes ++ [{ inputs := [some val], outputs := [st.w.values.length], dev := [], subgraphs := [] }] } : World)
          = w1 at hc
        have he1 : Ext st.w w1 := by rw [← hw1]; exact Ext.of_append _ rfl rfl
        have he2 := renameOuts_ext [st.w.values.length] (w1, st.used)
        obtain ⟨rn, rc, rm, rg⟩ := renameOuts_same [st.w.values.length] (w1, st.used)
        have he := he1.trans he2
        have hlen1 : st.w.values.length < w1.values.length := by rw [← hw1]; simp
        have hA : PJ T L cfgs m (renameOuts (w1, st.used) [st.w.values.length]).1 S :=
          h.push he { inputs := [some val], outputs := [st.w.values.length], dev := [], subgraphs := [] }
            (by rw [rn, ← hw1]) (by rw [rg, ← hw1]) (by rw [rc, ← hw1]) (by rw [rm, ← hw1]) (fun _ hx => hx)
            ⟨⟨⟨by
                intro o' ho' v hov
                simp only [List.mem_singleton] at ho'
                subst ho'
                cases hov
                exact Nat.lt_of_lt_of_le hval_lt he.vlen,
              by
                intro v hv'
                simp only [List.mem_singleton] at hv'
                subst hv'
                exact Nat.lt_of_lt_of_le hlen1 he2.vlen⟩, by simp, by simp⟩, by simp⟩
        have hnl : (renameOuts (w1, st.used) [st.w.values.length]).1.nodes.length = st.w.nodes.length + 1 := by
          rw [rn, ← hw1]; simp
        obtain ⟨r1, r2, r3, r4⟩ := ih _ _ hc hA (hV.mono he (fun _ hx => hx) (fun _ hx => Or.inl hx))
          (by
            intro x hx
            simp only [List.mem_append, List.mem_singleton] at hx
            rcases hx with hx | hx
            · exact Nat.lt_of_lt_of_le (ho x hx) he.vlen
            · rw [hx]; exact Nat.lt_of_lt_of_le hlen1 he2.vlen)
          (by
            intro x hx
            have hx' : x ∈ st.nodes ++ [st.w.nodes.length] := hx
            rw [List.mem_append, List.mem_singleton] at hx'
            show x < (renameOuts (w1, st.used) [st.w.values.length]).1.nodes.length
            rw [hnl]
            rcases hx' with hx' | hx'
            · exact Nat.lt_succ_of_lt (hk x hx')
            · rw [hx']; exact Nat.lt_succ_self _)
        have r4' : (renameOuts (w1, st.used) [st.w.values.length]).1.nodes.length ≤ st'.w.nodes.length := r4
        exact ⟨r1, r2, r3, by omega⟩

/-- the value map `_instantiate_call` starts from: every image is an actual argument, hence a ghost -/
theorem VmG_zipPad {w : World} {nd : NodeS} (hids : NodeIds w nd) (fs : List VId) (S : List VId) :
    VmG T (zipPadO fs nd.inputs).reverse w (S ++ nd.inputs.filterMap id) := by
  intro a b hab
  unfold oget at hab
  cases hl : olookup (zipPadO fs nd.inputs).reverse a with
  | none => simp [hl] at hab
  | some t =>
    simp only [hl, Option.getD_some] at hab
    subst hab
    have hm := olookup_mem hl
    rw [List.mem_reverse] at hm
    rcases mem_zipPadO _ _ _ _ hm with h1 | h1
    · cases h1
    · refine ⟨hids.1 _ h1 b rfl, fun hb => (hb (Or.inr ?_)).elim⟩
      apply List.mem_append_right
      simp only [List.mem_filterMap, id]
      exact ⟨some b, h1, rfl⟩

/-- `replace_nodes_and_values` up to the removal of the call node: the replacement values take shape and name of the
    call outputs (and are ghosts from then on), every use is re-wired, the models that own `g` list the created
    nodes, which exist -/
theorem PJ.splice {w : World} {S S' : List VId} (h : PJ T L cfgs m w S) (g : GId) (c : NId) (pairs : List (VId × VId))
    (newTops created : List NId) (newGraphs : List GId) (hp : ∀ p ∈ pairs, p.2 ∈ S' ∧ p.2 < w.values.length)
    (hs : ∀ v ∈ S, v ∈ S') (hcr : ∀ k ∈ created, k < w.nodes.length) :
    PJ T L cfgs m (splice w g c pairs newTops created newGraphs) S' := by
  have hA2 := rauwAll_PJ pairs _ (h.copyInfo pairs (fun p hp' => (hp p hp').1) hs)
    (fun p hp' => by rw [copyInfo_len]; exact (hp p hp').2)
  have hlen : (rauwAll (IrVerif.Device.copyInfo w pairs) pairs).nodes.length = w.nodes.length := by
    rw [(rauwAll_len _ _).1, (copyInfo_same _ _).1]
  refine (hA2.setGraph g { (World.graph (rauwAll (IrVerif.Device.copyInfo w pairs) pairs) g) with
      nodes := (World.graph (rauwAll (IrVerif.Device.copyInfo w pairs) pairs) g).nodes.flatMap
        (fun k => if k = c then c :: newTops else [k]) } rfl rfl).mapModels _ ?_ ?_
  · intro x; split <;> rfl
  · intro x k hk
    split at hk
    · exact (List.mem_append.mp hk).imp id (fun hk' => by
        show k < (rauwAll (IrVerif.Device.copyInfo w pairs) pairs).nodes.length
        rw [hlen]; exact hcr k hk')
    · exact Or.inl hk

theorem inlineCall_PJ {fuel : Nat} {st st' : IState} {g : GId} {c : NId} {f : GId} {tops : List NId}
    (hc : inlineCall fuel st g c f = some (st', tops)) (h : PJ T L cfgs m st.w st.subst) :
    PJ T L cfgs m st'.w st'.subst := by
  obtain ⟨cl, tops0, fw, h1, h2, hr, hsub⟩ := inlineCall_stages hc
  have S0 := cloneNodesO_step (cloneGraphOF_step (T := T) (L := L) (cfgs := cfgs) (m := m) fuel) _ _ _ _ _ h1
  obtain ⟨hAcl, hVcl⟩ := S0.inv (h.weaken (fun v hv => List.mem_append_left _ hv))
    (VmG_zipPad (h.node c).1.1 (st.w.graph f).inputs st.subst)
  have hclN := S0.newN (by intro x hx; simp [callCl] at hx)
  obtain ⟨hAfw, hout, hfwN, hle⟩ := fwdOutsO_PJ cl.vm _ _ _ h2 hAcl hVcl (by intro x hx; simp at hx)
    (by intro x hx; simp at hx)
  have hle : cl.w.nodes.length ≤ fw.w.nodes.length := hle
  rw [show st'.w = _ from (congrArg Prod.fst hr).symm, hsub]
  refine PJ.removeNode (hAfw.splice g c _ _ _ _
    (fun p hp => ⟨List.mem_append_right _ (List.of_mem_zip hp).2, hout _ (List.of_mem_zip hp).2⟩)
    (fun v hv => List.mem_append_left _ hv) ?_) g c true
  intro k hk
  exact (List.mem_append.mp hk).elim (fun h => Nat.lt_of_lt_of_le (hclN k h) hle) (hfwN k)

theorem dropFuncs_PJ {w : World} {S : List VId} (h : PJ T L cfgs m w S) (inl : List GId) :
    PJ T L cfgs m (dropFuncs w m inl) S := by
  unfold dropFuncs
  refine h.of_nodes rfl (map_cfgs_set w.models m _ rfl) ?_
    (fun nd hnd => (h.nodes nd hnd).ext (Ext.of_eq rfl rfl) (fun _ hv => hv)) h.gids
  intro ms hms n hn
  show n < w.nodes.length
  have hms' : ms ∈ w.models.set m _ := hms
  rcases List.mem_or_eq_of_mem_set hms' with h1 | h1
  · exact h.hin ms h1 n hn
  · subst h1
    have hn' := (List.mem_filter.mp hn).1
    rcases model_mem_or_default w m with h2 | h2
    · exact h.hin _ h2 n hn'
    · rw [h2] at hn'; simp at hn'

theorem inlinePass_PJ {fuel : Nat} {w : World} {t : ITab} {r : IOut} (hc : inlinePass fuel w m t = some r)
    (h : PJ T L cfgs m w []) : PJ T L cfgs m r.w r.subst := by
  obtain ⟨st, h3, rfl⟩ := inlinePass_keeps (J := fun st => PJ T L cfgs m st.w st.subst)
    (fun hc h => inlineCall_PJ hc h) (fun _ _ h => h) hc h
  exact dropFuncs_PJ h3 _

theorem PJ_of_DevOK {w : World} (h : DevOK w) (m : MId) (hreg : HeapReg w m) (hg : ¬ T → GraphIds w) :
    PJ T (w.models.map (·.cfgs)) w.cfgs m w [] :=
  ⟨rfl, rfl, fun ms hms n hn => ((h.2 ms hms).1 n hn).1,
    fun nd hnd => ⟨Inv.NodeOK.of_strong (h.1 nd hnd), by rw [getD_map_cfgs]; exact hreg nd hnd⟩, hg⟩

theorem PJ.axes {w : World} {S : List VId} (h : PJ False L cfgs m w S) {nd : NodeS} (hnd : nd ∈ w.nodes) {nc : NodeCfg}
    (hnc : nc ∈ nd.dev) {s : Spec} (hs : s ∈ nc.specs) (hns : s.value ∉ S) : AxesOK w s := by
  obtain ⟨_, e1, e2, _, _⟩ := ((h.nodes nd hnd).1.2.2 nc hnc).2.2.2 s hs
  have hg : ¬ Gh False S s.value := fun g => g.elim id hns
  exact ⟨e1 hg, e2 hg⟩

end

/-- the rank-free reading of the pass (behind `C19_inline_pass`): nothing is asked of the graphs -/
theorem inlinePass_WJ {m : MId} {fuel : Nat} {w : World} {t : ITab} {r : IOut} (hc : inlinePass fuel w m t = some r)
    (h : DevOK w) (hreg : HeapReg w m) : PJ True (w.models.map (·.cfgs)) w.cfgs m r.w r.subst :=
  inlinePass_PJ hc (PJ_of_DevOK h m hreg (fun hT => (hT trivial).elim))

/-- the full reading of the pass (behind `C19_inline_pass_axes`, `C19_history_weak`) -/
theorem inlinePass_AInv {m : MId} {fuel : Nat} {w : World} {t : ITab} {r : IOut} (hc : inlinePass fuel w m t = some r)
    (h : DevOK w) (hreg : HeapReg w m) (hg : GraphIds w) :
    PJ False (w.models.map (·.cfgs)) w.cfgs m r.w r.subst :=
  inlinePass_PJ hc (PJ_of_DevOK h m hreg (fun _ => hg))

end IrVerif.Device
