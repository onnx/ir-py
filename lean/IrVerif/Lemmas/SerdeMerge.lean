import IrVerif.Lemmas.SerdeWide
/-! C02, `merge`: what `desGraph outer (mergeGraph g) = desGraph outer g` (SerdeMergeMutual) needs at one graph.
Both sides have the closed form `graph_des_closedAll`; the node lists deserialize alike (`merged_graph_nodes`)
and the final tables agree value by value (`tblFinal_merge`). -/
namespace IrVerif.Serde
open IrVerif.Proto

theorem desNode_resolvable (outer : Scopes) (vis : List ValueInfoP) (q : List AnnotP) (tbl tbl₂ t1 : List IRValue)
    (hn : tableNames tbl₂ = tableNames tbl) : ∀ (n : NodeP) (x : IRNode),
    n.inputs.all (fun s => s.isEmpty || (resolve (tableNames tbl :: outer) s).isSome) = true →
    desNode outer vis q tbl n = .ok (x, t1) → t1 = tbl ∧ desNode outer vis q tbl₂ n = .ok (x, tbl₂)
  | .mk inputs outputs name opType domain overload doc attrs metadata devcfgs, x, hin, h => by
    simp only [NodeP.inputs] at hin
    have hin₂ : inputs.all (fun s => s.isEmpty || (resolve (tableNames tbl₂ :: outer) s).isSome) = true := by
      rw [hn]; exact hin
    simp only [desNode, desNodeInputs_wf outer vis q tbl inputs hin, bind, Except.bind] at h
    simp only [desNode, desNodeInputs_wf outer vis q tbl₂ inputs hin₂, bind, Except.bind, hn]
    cases ho : desNodeOutputs (tableNames tbl) outputs with
    | error e => simp [ho] at h
    | ok outs =>
      simp only [ho] at h ⊢
      cases ha : desAttrsLast (tableNames tbl :: outer) attrs with
      | error e => simp [ha] at h
      | ok as =>
        simp only [ha, Except.ok.injEq, Prod.mk.injEq] at h ⊢
        exact ⟨h.2.symm, h.1, trivial⟩

theorem desNode_ok_tbl (outer : Scopes) (vis : List ValueInfoP) (q : List AnnotP) (tbl t1 : List IRValue)
    (n : NodeP) (x : IRNode)
    (hin : n.inputs.all (fun s => s.isEmpty || (resolve (tableNames tbl :: outer) s).isSome) = true)
    (h : desNode outer vis q tbl n = .ok (x, t1)) : t1 = tbl :=
  (desNode_resolvable outer vis q tbl tbl t1 rfl n x hin h).1

def inputsResolvable (scopes : Scopes) (nodes : List NodeP) : Prop :=
  ∀ n ∈ nodes, n.inputs.all (fun s => s.isEmpty || (resolve scopes s).isSome) = true

theorem desNodes_indep (outer : Scopes) (vis : List ValueInfoP) (q : List AnnotP) (tbl tbl₂ : List IRValue)
    (hn : tableNames tbl₂ = tableNames tbl) : ∀ (nodes : List NodeP) (xs : List IRNode),
    inputsResolvable (tableNames tbl :: outer) nodes →
    desNodes outer vis q nodes tbl = .ok (xs, tbl) → desNodes outer vis q nodes tbl₂ = .ok (xs, tbl₂)
  | [], xs, _, h => by
    simp only [desNodes, Except.ok.injEq, Prod.mk.injEq] at h ⊢
    exact ⟨h.1, trivial⟩
  | n :: ns, xs, hin, h => by
    simp only [desNodes] at h ⊢
    obtain ⟨⟨x, t1⟩, h1, h⟩ := bind_eq_ok h
    obtain ⟨⟨ys, t2⟩, h2, h⟩ := bind_eq_ok h
    simp only [Except.ok.injEq, Prod.mk.injEq] at h
    obtain ⟨ht1, e1⟩ := desNode_resolvable outer vis q tbl tbl₂ t1 hn n x (hin n List.mem_cons_self) h1
    rw [ht1] at h1 h2
    obtain ⟨hxs, ht2⟩ := h
    simp only [] at h2
    rw [ht2] at h2
    have e2 := desNodes_indep outer vis q tbl tbl₂ hn ns ys
      (fun m hm => hin m (List.mem_cons_of_mem _ hm)) h2
    simp only [e1, e2, bind, Except.bind, hxs]

theorem inputsResolvable_of_wf {scopes : Scopes} : ∀ {nodes : List NodeP},
    wfNodes scopes nodes = true → inputsResolvable scopes nodes
  | [], _ => fun _ h => by cases h
  | n :: ns, h => by
    simp only [wfNodes, Bool.and_eq_true] at h
    intro m hm
    rcases List.mem_cons.1 hm with rfl | hm
    · exact wfNode_inputs h.1
    · exact inputsResolvable_of_wf h.2 m hm

theorem mergeAttr_name (a : AttrP) : (mergeAttr a).name = a.name := by
  cases a <;> rfl

theorem mergeAttrs_names : ∀ as : List AttrP, (mergeAttrs as).map AttrP.name = as.map AttrP.name
  | [] => rfl
  | a :: as => by simp only [mergeAttrs, List.map_cons, mergeAttr_name, mergeAttrs_names as]

theorem mergeAttrs_any (n : String) : ∀ as : List AttrP,
    (mergeAttrs as).any (fun b => b.name = n) = as.any (fun b => b.name = n)
  | [] => rfl
  | a :: as => by simp only [mergeAttrs, List.any_cons, mergeAttr_name, mergeAttrs_any n as]

theorem mergeNode_outputs (n : NodeP) : (mergeNode n).outputs = n.outputs := by cases n; rfl
theorem mergeNode_inputs (n : NodeP) : (mergeNode n).inputs = n.inputs := by cases n; rfl

theorem nodeOutNames_mergeNodes : ∀ nodes : List NodeP, nodeOutNames (mergeNodes nodes) = nodeOutNames nodes
  | [] => rfl
  | n :: ns => by
    have := nodeOutNames_mergeNodes ns
    simp only [nodeOutNames, mergeNodes, List.flatMap_cons, List.filter_append, mergeNode_outputs] at this ⊢
    rw [this]

theorem inputsResolvable_merge {scopes : Scopes} : ∀ {nodes : List NodeP},
    inputsResolvable scopes (mergeNodes nodes) → inputsResolvable scopes nodes
  | [], _ => fun _ h => by cases h
  | n :: ns, h => by
    intro m hm
    rcases List.mem_cons.1 hm with rfl | hm
    · have := h (mergeNode m) (by simp [mergeNodes])
      rwa [mergeNode_inputs] at this
    · exact inputsResolvable_merge (nodes := ns)
        (fun k hk => h k (by simp only [mergeNodes]; exact List.mem_cons_of_mem _ hk)) m hm

theorem mergeOutVI_name (D I : List String) (vis : List ValueInfoP) (vo : ValueInfoP) :
    (mergeOutVI D I vis vo).name = vo.name := by
  unfold mergeOutVI
  split
  · split
    · split <;> rfl
    · rfl
  · rfl

theorem mergeOutVI_type (D I : List String) (vis : List ValueInfoP) (vo : ValueInfoP) :
    (mergeOutVI D I vis vo).type = vo.type ∧ (mergeOutVI D I vis vo).doc = vo.doc := by
  unfold mergeOutVI
  split
  · split
    · split <;> exact ⟨rfl, rfl⟩
    · exact ⟨rfl, rfl⟩
  · exact ⟨rfl, rfl⟩

theorem map_mergeOutVI_names (D I : List String) (vis outputs : List ValueInfoP) :
    (outputs.map (mergeOutVI D I vis)).map (·.name) = outputs.map (·.name) := by
  rw [List.map_map]
  apply List.map_congr_left
  intro vo _
  exact mergeOutVI_name D I vis vo

theorem wfVI_of_merge (D I : List String) (vis : List ValueInfoP) (vo : ValueInfoP)
    (h : wfVI (mergeOutVI D I vis vo) = true) : wfVI vo = true := by
  unfold mergeOutVI at h
  split at h
  · rename_i ha
    simp only [mergeApplies, Bool.and_eq_true] at ha
    split at h
    · split at h
      · simp only [wfVI, Bool.and_eq_true] at h ⊢
        exact ⟨h.1, ha.2⟩
      · exact h
    · exact h
  · exact h

theorem dictOfEntries_entriesOfDict (d : Dict) (h : (dkeys d).Nodup) : dictOfEntries (entriesOfDict d) = d := by
  have hk : ((entriesOfDict d).map (·.key)) = dkeys d := by
    simp [entriesOfDict, dkeys, List.map_map, Function.comp_def]
  rw [dictOfEntries_of_nodup (by rw [hk]; exact h)]
  simp [entriesOfDict, pairOf, List.map_map, Function.comp_def]

theorem applyInfoT_merge (v v' : IRValue) (vi vo : ValueInfoP)
    (hname : v'.name = v.name) (hq : v'.quant = v.quant) (hc : v'.const = v.const)
    (hm : v.mprops = dictOfEntries vi.metadata) (hm' : v'.mprops = []) :
    applyInfoT v vo = applyInfoT v'
      { vo with metadata :=
          entriesOfDict (dictUpdate (dictOfEntries vi.metadata) (dictOfEntries vo.metadata)) } := by
  have hnd : (dkeys (dictUpdate (dictOfEntries vi.metadata) (dictOfEntries vo.metadata))).Nodup :=
    nodup_dkeys_dictUpdate (nodup_dkeys_dictOfEntries _) _
  cases v; cases v'
  simp only [applyInfoT, IRValue.mk.injEq] at *
  subst hname hq hc hm hm'
  simp only [dictOfEntries_entriesOfDict _ hnd, dictUpdate_nil _ hnd, and_self]

theorem applyQuant_mprops (q : List AnnotP) (v : IRValue) : (applyQuant q v).mprops = v.mprops := by
  unfold applyQuant; split <;> rfl

theorem applyQuant_quant_congr (q : List AnnotP) (a b : IRValue) (hn : a.name = b.name)
    (hq : a.quant = b.quant) : (applyQuant q a).quant = (applyQuant q b).quant := by
  unfold applyQuant
  rw [hn]
  split <;> simp [hq]

theorem find?_map_vi_name (M : ValueInfoP → ValueInfoP) (hM : ∀ vo, (M vo).name = vo.name) (n : String)
    (l : List ValueInfoP) : (l.map M).find? (fun vi => vi.name = n) = (l.find? (fun vi => vi.name = n)).map M := by
  simp only [List.find?_map, Function.comp_def, hM]

section tables
variable {inits : List TensorP} {inputs outputs vis : List ValueInfoP} {quant : List AnnotP}
  {outs : List String}

abbrev mDeclared (inits : List TensorP) (outs : List String) : List String := inits.map (·.name) ++ outs
abbrev mOutputs (inits : List TensorP) (inputs outputs vis : List ValueInfoP) (outs : List String) :=
  outputs.map (mergeOutVI (mDeclared inits outs) (inputs.map (·.name)) vis)
abbrev mVis (inits : List TensorP) (inputs outputs vis : List ValueInfoP) (outs : List String) :=
  mergeVIs (mDeclared inits outs) (inputs.map (·.name)) (outputs.map (·.name)) vis

theorem findVI_mVis_of_not_output {n : String} (hn : n ∉ outputs.map (·.name)) :
    findVI (mVis inits inputs outputs vis outs) n = findVI vis n := by
  unfold mVis mergeVIs
  apply findVI_filter
  intro v hv
  have : (outputs.map (·.name)).contains v.name = false := by
    rw [hv]; simpa using hn
  simp only [this, Bool.false_and, Bool.not_false]

theorem visAgree_mVis : VisAgree ((outputs.map (·.name)).filter (fun n =>
      (mDeclared inits outs).contains n && !(inputs.map (·.name)).contains n))
    vis (mVis inits inputs outputs vis outs) := by
  intro n hn
  symm
  unfold mVis mergeVIs
  apply findVI_filter
  intro v hvn
  rw [hvn, Bool.not_eq_true', Bool.eq_false_iff]
  intro hc
  simp only [Bool.and_eq_true, List.contains_eq_mem, decide_eq_true_eq, Bool.not_eq_true',
    decide_eq_false_iff_not] at hc
  exact hn (List.mem_filter.2 ⟨hc.1.1.1, by simp [hc.1.1.2, hc.1.2]⟩)

/-- what `wfGraph outer (mergeGraph g)` says about a declared, non-input name `n` that is a graph output -/
theorem merge_at_output
    (hw' : GraphWF inits inputs (mOutputs inits inputs outputs vis outs) (mVis inits inputs outputs vis outs)
      quant outs)
    {n : String} (hd : n ∈ mDeclared inits outs) (hi : n ∉ inputs.map (·.name))
    {vo : ValueInfoP} (hvom : vo ∈ outputs) (hvon : vo.name = n) :
    findVI (mVis inits inputs outputs vis outs) n = none ∧
    ((findVI vis n = none ∧ mergeOutVI (mDeclared inits outs) (inputs.map (·.name)) vis vo = vo) ∨
     (∃ vi, findVI vis n = some vi ∧ wfVI vi = true ∧
        mergeOutVI (mDeclared inits outs) (inputs.map (·.name)) vis vo =
          { vo with metadata :=
              entriesOfDict (dictUpdate (dictOfEntries vi.metadata) (dictOfEntries vo.metadata)) })) := by
  have hnout : n ∈ outputs.map (·.name) := by rw [← hvon]; exact List.mem_map_of_mem hvom
  have hnone : findVI (mVis inits inputs outputs vis outs) n = none := by
    rw [findVI_none_iff]
    intro hm
    obtain ⟨vi, hvi, hvin⟩ := List.mem_map.1 hm
    have := (hw'.visNotIO vi hvi).2
    apply this
    rw [map_mergeOutVI_names, hvin]
    exact hnout
  refine ⟨hnone, ?_⟩
  -- the merged output entry is well formed, hence the original metadata keys are distinct
  have hwfo : wfVI (mergeOutVI (mDeclared inits outs) (inputs.map (·.name)) vis vo) = true :=
    List.all_eq_true.1 hw'.wfOut _ (List.mem_map_of_mem hvom)
  have hwfvo := wfVI_of_merge _ _ _ _ hwfo
  have happ : mergeApplies (mDeclared inits outs) (inputs.map (·.name)) vo = true := by
    simp only [wfVI, Bool.and_eq_true] at hwfvo
    simp only [mergeApplies, hvon, Bool.and_eq_true, List.contains_eq_mem, decide_eq_true_eq,
      Bool.not_eq_true', decide_eq_false_iff_not]
    exact ⟨⟨hd, hi⟩, hwfvo.2⟩
  cases hf : findVI vis n with
  | none =>
    left
    refine ⟨rfl, ?_⟩
    simp only [mergeOutVI, happ, if_true, hvon, hf]
  | some vi =>
    right
    obtain ⟨hvim, hvin⟩ := findVI_mem hf
    have hwfvi : wfVI vi = true := by
      cases hc : wfVI vi with
      | true => rfl
      | false =>
        exfalso
        -- a malformed entry stays, and then names an output
        have hstay : vi ∈ mVis inits inputs outputs vis outs := by
          unfold mVis mergeVIs
          rw [List.mem_filter]
          refine ⟨hvim, ?_⟩
          simp only [hc, Bool.and_false, Bool.not_false]
        exact (hw'.visNotIO vi hstay).2 (by rw [map_mergeOutVI_names, hvin]; exact hnout)
    refine ⟨vi, rfl, hwfvi, ?_⟩
    simp only [mergeOutVI, happ, if_true, hvon, hf, hwfvi]

theorem outUpd_mOutputs (v : IRValue) :
    outUpd (mOutputs inits inputs outputs vis outs) v =
      match outputs.find? (fun vi => vi.name = v.name) with
      | some vo => applyInfoT v (mergeOutVI (mDeclared inits outs) (inputs.map (·.name)) vis vo)
      | none => v := by
  unfold outUpd mOutputs
  rw [find?_map_vi_name _ (mergeOutVI_name _ _ _) v.name outputs]
  cases outputs.find? (fun vi => vi.name = v.name) <;> rfl

theorem outUpd_eq (v : IRValue) :
    outUpd outputs v = match outputs.find? (fun vi => vi.name = v.name) with
      | some vo => applyInfoT v vo
      | none => v := rfl

/-- entries that agree in type / doc string and whose metadata leaves the same dict on top of the
value's: applying them one after the other is applying the first -/
theorem foldl_applyInfoT_same (w : IRValue) (g1 : ValueInfoP) : ∀ rest : List ValueInfoP,
    (∀ g ∈ rest, g.type = g1.type ∧ g.doc = g1.doc ∧
      dictUpdate w.mprops (dictOfEntries g.metadata) = dictUpdate w.mprops (dictOfEntries g1.metadata)) →
    rest.foldl applyInfoT (applyInfoT w g1) = applyInfoT w g1
  | [], _ => rfl
  | g :: rest, h => by
    obtain ⟨h1, h2, h3⟩ := h g (by simp)
    have hstep : applyInfoT (applyInfoT w g1) g = applyInfoT w g1 := by
      simp only [applyInfoT, h1, h2]
      rw [← h3, dictUpdate_idem _ _ (nodup_dkeys_dictOfEntries _)]
    rw [List.foldl_cons, hstep]
    exact foldl_applyInfoT_same w g1 rest (fun g' hg' => h g' (List.mem_cons_of_mem _ hg'))

theorem filter_map_names (M : ValueInfoP → ValueInfoP) (hM : ∀ vo, (M vo).name = vo.name) (n : String)
    (l : List ValueInfoP) :
    (l.map M).filter (fun vi => vi.name = n) = (l.filter (fun vi => vi.name = n)).map M := by
  simp only [List.filter_map, Function.comp_def, hM]

/-- the value of a declared, non-input name after the output phase is the same in both graphs (the
entries of the unmerged graph may repeat a name, as long as the merged ones are identical) -/
theorem final_value_eq
    (hw' : GraphWF inits inputs (mOutputs inits inputs outputs vis outs) (mVis inits inputs outputs vis outs)
      quant outs)
    (X : List ValueInfoP → IRValue) {n : String} (hXn : ∀ V, (X V).name = n)
    (hd : n ∈ mDeclared inits outs) (hi : n ∉ inputs.map (·.name))
    -- `X` reads `value_info` only through the entry of `n`
    (hXc : ∀ V V', findVI V n = findVI V' n → X V = X V')
    -- with an entry: name / quant / const as without, metadata of the entry
    (hXs : ∀ V V' vi, findVI V n = some vi → wfVI vi = true → findVI V' n = none →
      (X V').name = (X V).name ∧ (X V').quant = (X V).quant ∧ (X V').const = (X V).const ∧
      (X V).mprops = dictOfEntries vi.metadata ∧ (X V').mprops = []) :
    outUpdAll outputs (X vis) =
      outUpd (mOutputs inits inputs outputs vis outs) (X (mVis inits inputs outputs vis outs)) := by
  rw [outUpd_mOutputs]
  unfold outUpdAll
  rw [hXn, hXn]
  cases hf : outputs.find? (fun vi => vi.name = n) with
  | none =>
    have hnout : n ∉ outputs.map (·.name) := by
      intro hm
      obtain ⟨vo, hvo, hvon⟩ := List.mem_map.1 hm
      rw [List.find?_eq_none] at hf
      exact hf vo hvo (by simpa using hvon)
    have : outputs.filter (fun vi => vi.name = n) = [] := by
      rw [List.filter_eq_nil_iff]
      intro a ha
      exact List.find?_eq_none.1 hf a ha
    rw [this]
    exact hXc _ _ (findVI_mVis_of_not_output hnout).symm
  | some vo =>
    have hvon : vo.name = n := by simpa using List.find?_some hf
    have hvom : vo ∈ outputs := List.mem_of_find?_eq_some hf
    -- the group of entries named `n` starts with `vo`
    obtain ⟨rest, hgroup, hrest⟩ : ∃ rest, outputs.filter (fun vi => vi.name = n) = vo :: rest ∧
        ∀ g ∈ rest, g ∈ outputs ∧ g.name = n := by
      clear hw' hvom
      induction outputs with
      | nil => cases hf
      | cons x xs ih =>
        rw [List.find?_cons] at hf
        by_cases hx : x.name = n
        · simp only [hx, decide_true, Option.some.injEq] at hf
          subst hf
          refine ⟨xs.filter (fun vi => vi.name = n), by simp [hx], ?_⟩
          intro g hg
          obtain ⟨g1, g2⟩ := List.mem_filter.1 hg
          exact ⟨List.mem_cons_of_mem _ g1, by simpa using g2⟩
        · simp only [hx, decide_false] at hf
          obtain ⟨rest, h1, h2⟩ := ih hf
          refine ⟨rest, by simp [hx, h1], fun g hg => ?_⟩
          exact ⟨List.mem_cons_of_mem _ (h2 g hg).1, (h2 g hg).2⟩
    rw [hgroup, List.foldl_cons]
    -- the merged entries of one name are identical
    have hsame : ∀ g ∈ rest, mergeOutVI (mDeclared inits outs) (inputs.map (·.name)) vis g
        = mergeOutVI (mDeclared inits outs) (inputs.map (·.name)) vis vo := by
      intro g hg
      apply hw'.consOut _ (List.mem_map_of_mem (hrest g hg).1) _ (List.mem_map_of_mem hvom)
      rw [mergeOutVI_name, mergeOutVI_name, (hrest g hg).2, hvon]
    have htd : ∀ g ∈ rest, g.type = vo.type ∧ g.doc = vo.doc := by
      intro g hg
      have e := hsame g hg
      have a := mergeOutVI_type (mDeclared inits outs) (inputs.map (·.name)) vis g
      have b := mergeOutVI_type (mDeclared inits outs) (inputs.map (·.name)) vis vo
      exact ⟨by rw [← a.1, e, b.1], by rw [← a.2, e, b.2]⟩
    obtain ⟨hnone, hcase⟩ := merge_at_output hw' hd hi hvom hvon
    rcases hcase with ⟨hvn, hM⟩ | ⟨vi, hvi, hwfvi, hM⟩
    · -- no `value_info` entry: nothing is merged, the entries themselves are identical
      have hid : ∀ g ∈ rest, g = vo := by
        intro g hg
        obtain ⟨_, hcase'⟩ := merge_at_output hw' hd hi (hrest g hg).1 (hrest g hg).2
        rcases hcase' with ⟨_, hM'⟩ | ⟨vi, hvi, _, _⟩
        · rw [← hM', hsame g hg, hM]
        · rw [hvn] at hvi; cases hvi
      rw [foldl_applyInfoT_same (X vis) vo rest (fun g hg => by rw [hid g hg]; exact ⟨rfl, rfl, rfl⟩)]
      simp only [hM]
      rw [hXc vis (mVis inits inputs outputs vis outs) (by rw [hvn, hnone])]
    · obtain ⟨e1, e2, e3, e4, e5⟩ := hXs vis (mVis inits inputs outputs vis outs) vi hvi hwfvi hnone
      have hnd : ∀ g : ValueInfoP, (dkeys (dictUpdate (dictOfEntries vi.metadata) (dictOfEntries g.metadata))).Nodup :=
        fun g => nodup_dkeys_dictUpdate (nodup_dkeys_dictOfEntries _) _
      have hmd : ∀ g ∈ rest, dictUpdate (X vis).mprops (dictOfEntries g.metadata)
          = dictUpdate (X vis).mprops (dictOfEntries vo.metadata) := by
        intro g hg
        obtain ⟨_, hcase'⟩ := merge_at_output hw' hd hi (hrest g hg).1 (hrest g hg).2
        rcases hcase' with ⟨hvn', _⟩ | ⟨vi', hvi', _, hM'⟩
        · rw [hvi] at hvn'; cases hvn'
        · rw [hvi] at hvi'
          cases hvi'
          have e := hsame g hg
          rw [hM, hM'] at e
          have e' := congrArg (fun x : ValueInfoP => dictOfEntries x.metadata) e
          simp only [dictOfEntries_entriesOfDict _ (hnd _)] at e'
          rw [e4]; exact e'
      rw [foldl_applyInfoT_same (X vis) vo rest (fun g hg => ⟨(htd g hg).1, (htd g hg).2, hmd g hg⟩)]
      simp only [hM]
      exact applyInfoT_merge _ _ vi vo e1 e2 e3 e4 e5

theorem tblFinal_merge
    (hw' : GraphWF inits inputs (mOutputs inits inputs outputs vis outs) (mVis inits inputs outputs vis outs)
      quant outs) :
    tblFinalAll inits inputs outputs vis quant outs =
      tblFinal inits inputs (mOutputs inits inputs outputs vis outs) (mVis inits inputs outputs vis outs)
        quant outs := by
  obtain ⟨_, _, hdisC⟩ := nodupNames_parts hw'
  simp only [tblFinalAll, tblFinal, tblPre, List.map_append, List.map_map]
  congr 1
  · congr 1
    · -- inputs: their output entries (pass-through) are not merged, hence identical
      apply List.map_congr_left
      intro vi hvi
      simp only [Function.comp]
      have hM : ∀ vo ∈ outputs, vo.name = vi.name →
          mergeOutVI (mDeclared inits outs) (inputs.map (·.name)) vis vo = vo := by
        intro vo _ hvon
        have hin : (inputs.map (·.name)).contains vo.name = true := by
          rw [hvon]; simpa using List.mem_map_of_mem (f := fun v : ValueInfoP => v.name) hvi
        have hma : mergeApplies (mDeclared inits outs) (inputs.map (·.name)) vo = false := by
          simp only [mergeApplies, hin, Bool.not_true, Bool.and_false, Bool.false_and]
        simp only [mergeOutVI, hma, Bool.false_eq_true, if_false]
      have hnm : (constFrom inits (inputValT quant vi)).name = vi.name := by simp
      have hall : ∀ x ∈ outputs, ∀ y ∈ outputs, x.name = (constFrom inits (inputValT quant vi)).name →
          y.name = (constFrom inits (inputValT quant vi)).name → x = y := by
        intro x hx y hy hxn hyn
        rw [hnm] at hxn hyn
        have := hw'.consOut _ (List.mem_map_of_mem hx) _ (List.mem_map_of_mem hy)
          (by rw [mergeOutVI_name, mergeOutVI_name, hxn, hyn])
        rwa [hM x hx hxn, hM y hy hyn] at this
      rw [outUpd_mOutputs, outUpdAll_of_group _ hall, outUpd_eq, hnm]
      cases hf : outputs.find? (fun v => v.name = vi.name) with
      | none => rfl
      | some vo => simp only [hM vo (List.mem_of_find?_eq_some hf) (by simpa using List.find?_some hf)]
    · -- initializers that are not inputs
      apply List.map_congr_left
      intro p hp
      simp only [Function.comp]
      have hpm := List.mem_filter.1 hp
      have hi : p.name ∉ inputs.map (·.name) := by simpa using hpm.2
      have hd : p.name ∈ mDeclared inits outs :=
        List.mem_append_left _ (List.mem_map_of_mem hpm.1)
      refine final_value_eq hw' (fun V => initValT V quant p) (fun _ => rfl) hd hi ?_ ?_
      · intro V V' h; simp only [initValT, h]
      · intro V V' vi hV hwf hV'
        refine ⟨rfl, ?_, ?_, ?_, ?_⟩
        · simp only [initValT, hV, hV']
          apply applyQuant_quant_congr <;> rfl
        · simp only [initValT, hV, hV', applyQuant_const]; rfl
        · simp only [initValT, hV, applyQuant_mprops, fillFrom, applyInfoT, initV0, IRValue.blank,
            dictUpdate_nil _ (nodup_dkeys_dictOfEntries vi.metadata)]
        · simp only [initValT, hV', applyQuant_mprops, initV0, IRValue.blank]
  · -- node outputs
    apply List.map_congr_left
    intro n hn
    simp only [Function.comp]
    have hi : n ∉ inputs.map (·.name) := (hdisC n hn).1
    have hd : n ∈ mDeclared inits outs := List.mem_append_right _ hn
    refine final_value_eq hw' (fun V => newValueT V quant n) (fun _ => newValueT_name _ _ _) hd hi ?_ ?_
    · intro V V' h; simp only [newValueT, h]
    · intro V V' vi hV hwf hV'
      refine ⟨by simp, ?_, ?_, ?_, ?_⟩
      · simp only [newValueT, hV, hV']
        apply applyQuant_quant_congr <;> rfl
      · simp only [newValueT, hV, hV', applyQuant_const]; rfl
      · simp only [newValueT, hV, applyQuant_mprops, applyInfoT, IRValue.blank,
          dictUpdate_nil _ (nodup_dkeys_dictOfEntries vi.metadata)]
      · simp only [newValueT, hV', applyQuant_mprops, IRValue.blank]

end tables

theorem map_some_inj {α : Type} {a b : List α} (h : a.map some = b.map some) : a = b :=
  (List.map_inj_right fun _ _ e => Option.some.inj e).1 h

theorem gOutT_merge (names : List String) (D I : List String) (vis : List ValueInfoP) :
    ∀ outputs : List ValueInfoP,
    (∀ vo ∈ outputs, mergeOutVI D I vis vo ≠ vo → (lookupLast names vo.name).isSome) →
    (outputs.map (mergeOutVI D I vis)).map (gOutT names) = outputs.map (gOutT names) :=
  gOutT_map names _ (mergeOutVI_name D I vis)

/-- the graph case of every induction through `mergeGraph`; `hm` is its induction hypothesis for the nodes -/
theorem merged_graph_nodes (outer : Scopes) (name doc : String) (nodes : List NodeP) (inits : List TensorP)
    (inputs outputs vis : List ValueInfoP) (quant : List AnnotP) (md : List Entry)
    (h : wfGraph outer (.mk name doc (mergeNodes nodes) inits inputs
        (mOutputs inits inputs outputs vis (nodeOutNames nodes))
        (mVis inits inputs outputs vis (nodeOutNames nodes)) quant md) = true)
    (hm : ∀ V tbl, wfNodes (tableNames tbl :: outer) (mergeNodes nodes) = true →
      desNodes outer V quant (mergeNodes nodes) tbl = desNodes outer V quant nodes tbl) :
    GraphWF inits inputs (mOutputs inits inputs outputs vis (nodeOutNames nodes))
      (mVis inits inputs outputs vis (nodeOutNames nodes)) quant (nodeOutNames nodes) ∧
    wfNodes (scopeNames (inputs.map (·.name)) (inits.map (·.name)) (nodeOutNames nodes) :: outer)
      (mergeNodes nodes) = true ∧
    GraphWF0 inits inputs outputs vis (nodeOutNames nodes) ∧
    ∃ xs,
      desNodes outer (mVis inits inputs outputs vis (nodeOutNames nodes)) quant (mergeNodes nodes)
          (tblPre inits inputs (mVis inits inputs outputs vis (nodeOutNames nodes)) quant (nodeOutNames nodes))
        = .ok (xs, tblPre inits inputs (mVis inits inputs outputs vis (nodeOutNames nodes)) quant
            (nodeOutNames nodes)) ∧
      desNodes outer vis quant nodes (tblPre inits inputs vis quant (nodeOutNames nodes))
        = .ok (xs, tblPre inits inputs vis quant (nodeOutNames nodes)) := by
  obtain ⟨hw', hwn'⟩ := graphWF_of_wf outer name doc (mergeNodes nodes) inits inputs
    (mOutputs inits inputs outputs vis (nodeOutNames nodes))
    (mVis inits inputs outputs vis (nodeOutNames nodes)) quant md h
  rw [nodeOutNames_mergeNodes] at hw' hwn'
  have hw0 : GraphWF0 inits inputs outputs vis (nodeOutNames nodes) := by
    refine ⟨hw'.nodupNames, hw'.nonempty, hw'.nodupInit, hw'.wfIn, ?_, ?_, hw'.wfInit⟩
    · rw [List.all_eq_true]
      intro vo hvo
      exact wfVI_of_merge _ _ _ _ (List.all_eq_true.1 hw'.wfOut _ (List.mem_map_of_mem hvo))
    · -- an entry that merging removed is well-formed by the filter's own condition
      rw [List.all_eq_true]
      intro vi hvi
      by_cases hmem : vi ∈ mVis inits inputs outputs vis (nodeOutNames nodes)
      · exact List.all_eq_true.1 hw'.wfVis vi hmem
      · have : ¬ (!(((outputs.map (·.name)).contains vi.name
            && (mDeclared inits (nodeOutNames nodes)).contains vi.name
            && !(inputs.map (·.name)).contains vi.name) && wfVI vi)) = true :=
          fun hc => hmem (List.mem_filter.2 ⟨hvi, hc⟩)
        cases hwf : wfVI vi with
        | true => rfl
        | false => simp [hwf] at this
  have hN : ∀ V, tableNames (tblPre inits inputs V quant (nodeOutNames nodes))
      = scopeNames (inputs.map (·.name)) (inits.map (·.name)) (nodeOutNames nodes) :=
    fun V => tableNames_tblPre
  refine ⟨hw', hwn', hw0, ?_⟩
  -- merged nodes on the merged table, then back to the nodes, `value_info` list and table of the original
  obtain ⟨xs, n0, _, _⟩ := nodes_rt outer (mVis inits inputs outputs vis (nodeOutNames nodes)) quant none
    (mergeNodes nodes) (tblPre inits inputs (mVis inits inputs outputs vis (nodeOutNames nodes)) quant
      (nodeOutNames nodes)) (by rw [hN]; exact hwn') (Or.inl rfl)
  refine ⟨xs, n0, ?_⟩
  have n1 := n0
  rw [hm _ _ (by rw [hN]; exact hwn')] at n1
  have hS : ∀ s ∈ (outputs.map (·.name)).filter (fun n =>
        (mDeclared inits (nodeOutNames nodes)).contains n && !(inputs.map (·.name)).contains n),
      s ∈ tableNames (tblPre inits inputs (mVis inits inputs outputs vis (nodeOutNames nodes)) quant
        (nodeOutNames nodes)) := by
    intro s hs
    rw [hN]
    simp only [List.mem_filter, Bool.and_eq_true, List.contains_eq_mem, decide_eq_true_eq,
      Bool.not_eq_true', decide_eq_false_iff_not, mDeclared] at hs
    exact mem_scopeNames_of_declared hs.2.1
  rw [← desNodes_congr visAgree_mVis outer quant nodes _ hS] at n1
  have hres : inputsResolvable
      (tableNames (tblPre inits inputs (mVis inits inputs outputs vis (nodeOutNames nodes)) quant
        (nodeOutNames nodes)) :: outer) nodes := by
    rw [hN]
    exact inputsResolvable_merge (inputsResolvable_of_wf hwn')
  exact desNodes_indep outer vis quant _ (tblPre inits inputs vis quant (nodeOutNames nodes))
    (by rw [hN, hN]) nodes xs hres n1

end IrVerif.Serde
