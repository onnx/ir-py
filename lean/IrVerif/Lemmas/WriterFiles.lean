/-
C09: callback log and file images of the flat model.  The flat `called`, `writeAt`, `writeTask`, `serialFiles`, `Layout`,
`Prealloc` are definitions of their own that agree with the general model's on `toN cfg` / `absState s`, so the facts
about images (Lemmas/WriterNFiles.lean) apply.
-/
import IrVerif.Lemmas.WriterFlatInv
import IrVerif.Lemmas.WriterNFiles
namespace IrVerif.Writer

/-- byte `k` of a file image (zero beyond the end) -/
def getB (f : List Nat) (k : Nat) : Nat := f[k]?.getD 0

theorem writeAt_nil (f : List Nat) (off : Nat) : writeAt f off [] = f := WriterN.writeAt_nil f off

theorem writeAt_length (f : List Nat) (off : Nat) (d : List Nat) (hd : d ≠ []) :
    (writeAt f off d).length = max f.length (off + d.length) := WriterN.writeAt_length f off d hd

theorem writeAt_getB (f : List Nat) (off : Nat) (d : List Nat) (k : Nat) :
    getB (writeAt f off d) k =
      if off ≤ k ∧ k < off + d.length then d[k - off]?.getD 0 else getB f k :=
  WriterN.getB_writeAt f off d k

theorem writeTask_eq (cfg : Cfg) (fs : List (List Nat)) (i : Nat) :
    writeTask cfg fs i =
      fs.set (cfg.file i) (writeAt (fs.getD (cfg.file i) []) (cfg.off i) (cfg.data i)) := rfl

/-- as `WriterN.Layout` -/
structure Layout (cfg : Cfg) : Prop where
  file_lt : ∀ i, i < cfg.n → cfg.file i < cfg.files.length
  disjoint : ∀ i j, i < cfg.n → j < cfg.n → i ≠ j → cfg.file i = cfg.file j →
    cfg.off i + (cfg.data i).length ≤ cfg.off j ∨ cfg.off j + (cfg.data j).length ≤ cfg.off i

/-- as `WriterN.cfgEmpty` (external_data.py 592-604) -/
def cfgEmpty (cfg : Cfg) : Cfg := { cfg with files := cfg.files.map (fun _ => []) }

/-- as `WriterN.Prealloc` (external_data.py 623-624) -/
structure Prealloc (cfg : Cfg) : Prop where
  zeros : ∀ φ k, getB (cfg.files.getD φ []) k = 0
  tight : ∀ φ, (cfg.files.getD φ []).length = 0 ∨ ∃ i, i < cfg.n ∧ cfg.file i = φ ∧ cfg.data i ≠ [] ∧
    (cfg.files.getD φ []).length = cfg.off i + (cfg.data i).length

theorem Layout.toN {cfg : Cfg} (lay : Layout cfg) : WriterN.Layout (toN cfg) where
  file_lt := fun i hi => by rw [toN_file]; exact lay.file_lt i (by rwa [toN_n] at hi)
  disjoint := fun i j hi hj hij hf => by
    simp only [toN_n, toN_file, toN_off, toN_data] at hi hj hf ⊢
    exact lay.disjoint i j hi hj hij hf

theorem Prealloc.toN {cfg : Cfg} (pre : Prealloc cfg) : WriterN.Prealloc (toN cfg) where
  zeros := pre.zeros
  tight := fun φ => (pre.tight φ).imp id fun ⟨i, hi, hf, hd, e⟩ =>
    ⟨i, by rwa [toN_n], by rwa [toN_file], by rwa [toN_data], by rw [toN_off, toN_data]; exact e⟩

theorem toN_cfgEmpty (cfg : Cfg) : toN (cfgEmpty cfg) = WriterN.cfgEmpty (toN cfg) := rfl

theorem toN_serialFiles (cfg : Cfg) : WriterN.serialFiles (toN cfg) = serialFiles cfg := by
  have e : WriterN.writeTask (toN cfg) = writeTask cfg :=
    funext fun fs => funext fun i => toN_writeTask cfg fs i
  simp only [WriterN.serialFiles, serialFiles, toN_n, e, toN_files]

theorem serial_from_empty {cfg : Cfg} (lay : Layout cfg) (pre : Prealloc cfg) :
    serialFiles cfg = serialFiles (cfgEmpty cfg) := by
  rw [← toN_serialFiles, ← toN_serialFiles, toN_cfgEmpty]
  exact WriterN.serial_from_empty lay.toN pre.toN

/-- the progress callback of this tensor has been called -/
def pastCb : Pc → Bool
  | .notStarted | .tAcq | .cbAcq | .cbBody => false
  | _ => true

def called (s : State) (k : Nat) : Prop := ∃ p, s.tasks[k]? = some p ∧ pastCb p = true

theorem pastCb_abs (p : Pc) : WriterN.pastCb (absPc p) = pastCb p := by cases p <;> rfl

theorem called_abs (s : State) (k : Nat) : WriterN.called (absState s) k ↔ called s k := by
  constructor
  · rintro ⟨p', hp, hc⟩
    obtain ⟨p, hp', rfl⟩ := abs_tasks_some hp
    exact ⟨p, hp', by rw [← pastCb_abs]; exact hc⟩
  · rintro ⟨p, hp, hc⟩
    exact ⟨absPc p, (abs_tasks_iff s k p).2 hp, by rw [pastCb_abs]; exact hc⟩

theorem layoutb_sound {cfg : Cfg} (h : layoutb cfg = true) : Layout cfg := by
  simp only [layoutb, Bool.and_eq_true, List.all_eq_true, List.mem_range, decide_eq_true_eq] at h
  exact ⟨h.1, fun i j hi hj => h.2 i hi j hj⟩

theorem preallocb_toN (cfg : Cfg) : WriterN.preallocb (toN cfg) = preallocb cfg := by
  simp only [WriterN.preallocb, preallocb, toN_files, toN_n, toN_file, toN_off, toN_data]

theorem preallocb_sound {cfg : Cfg} (h : preallocb cfg = true) : Prealloc cfg := by
  have hN := WriterN.preallocb_sound (cfg := toN cfg) (by rw [preallocb_toN]; exact h)
  refine ⟨hN.zeros, fun φ => (hN.tight φ).imp id fun ⟨i, hi, hf, hd, e⟩ => ?_⟩
  rw [toN_n] at hi; rw [toN_file] at hf; rw [toN_data] at hd; rw [toN_off, toN_data] at e
  exact ⟨i, hi, hf, hd, e⟩

end IrVerif.Writer
