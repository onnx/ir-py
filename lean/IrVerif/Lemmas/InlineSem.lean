/-
Lemmas/InlineSem.lean — basic facts about the function-call semantics of Model/Inline.lean:
trimming, dependence on the function environment only through the operators that occur (`opsAll*`), call depth
(`lvl`) and stabilisation of the unrolling (`fenv`), frame lemma.
-/
import IrVerif.Model.Inline
import IrVerif.Lemmas.SemSyntax
namespace IrVerif.Inline
open IrVerif.Sem IrVerif.Passes
variable {Val : Type}

theorem trimV_getElem?_join : ∀ (l : List (Option Val)) (i : Nat), ((trimV l)[i]?).join = (l[i]?).join
  | [], i => by simp [trimV]
  | a :: rest, i => by
    have ih := trimV_getElem?_join rest
    rw [trimV]
    split
    · rename_i h
      simp only [Bool.and_eq_true, Option.isNone_iff_eq_none, List.isEmpty_iff] at h
      cases i with
      | zero => simp [h.1]
      | succ j =>
        have := ih j
        rw [h.2] at this
        simp only [List.getElem?_cons_succ]
        rw [← this]; simp
    · cases i with
      | zero => simp
      | succ j => simpa using ih j

theorem bind_trimV (ρ : Env Val) (vs : List VId) (rs : List (Option Val)) :
    ρ.bind vs (trimV rs) = ρ.bind vs rs := by
  funext u
  simp only [Env.bind]
  split
  · exact trimV_getElem?_join rs _
  · rfl

theorem nodeResultsF_outs (I : Interp Val) {op : OpId} (h : isStochasticOp op = false) (attrs : List (String × AttrData))
    (outs outs' : List VId) (bodies : List (BodyFn Val)) (args : List (Option Val)) :
    nodeResultsF I op attrs outs bodies args = nodeResultsF I op attrs outs' bodies args := by
  simp only [nodeResultsF, nodeResults_outs I h attrs outs outs']

@[simp] theorem eraseNodes_cons (n : FNode) (ns : List FNode) : eraseNodes (n :: ns) = eraseN n :: eraseNodes ns := by
  simp [eraseNodes]
@[simp] theorem eraseNodes_nil : eraseNodes [] = [] := by simp [eraseNodes]
@[simp] theorem eraseBodies_cons (b : FGraph) (bs : List FGraph) : eraseBodies (b :: bs) = eraseG b :: eraseBodies bs := by
  simp [eraseBodies]
@[simp] theorem eraseBodies_nil : eraseBodies [] = [] := by simp [eraseBodies]

theorem eraseNodes_append : ∀ (a b : List FNode), eraseNodes (a ++ b) = eraseNodes a ++ eraseNodes b
  | [], b => by simp
  | n :: a, b => by simp [eraseNodes_append a b]

theorem evalNodesF_append (I : Interp Val) (Φ : FEnv Val) (α : List (String × AttrData)) :
    ∀ (a b : List FNode) (ρ : Env Val), evalNodesF I Φ α (a ++ b) ρ = evalNodesF I Φ α b (evalNodesF I Φ α a ρ)
  | [], _, _ => by simp [evalNodesF]
  | n :: a, b, ρ => by simp [evalNodesF, evalNodesF_append I Φ α a b]

theorem evalNodesF_frame (I : Interp Val) (Φ : FEnv Val) (α : List (String × AttrData)) :
    ∀ (ns : List FNode) (ρ : Env Val) (w : VId), w ∉ outsTop (eraseNodes ns) → evalNodesF I Φ α ns ρ w = ρ w
  | [], ρ, w, _ => by simp [evalNodesF]
  | .mk op attrs ins outs bodies :: ns, ρ, w, h => by
    simp only [eraseNodes_cons, eraseN, outsTop, Node.outs, List.mem_append, not_or] at h
    simp only [evalNodesF]
    rw [evalNodesF_frame I Φ α ns _ w h.2]
    simp only [evalNF]
    exact Env.bind_of_not_mem _ _ h.1

mutual
theorem opsAllG_mono {p q : OpId → Bool} (h : ∀ op, p op = true → q op = true) :
    ∀ g : FGraph, opsAllG p g = true → opsAllG q g = true
  | .mk _ _ _ nodes, hg => by
    simp only [opsAllG] at hg ⊢; exact opsAllNodes_mono h nodes hg
theorem opsAllNodes_mono {p q : OpId → Bool} (h : ∀ op, p op = true → q op = true) :
    ∀ ns : List FNode, opsAllNodes p ns = true → opsAllNodes q ns = true
  | [], _ => by simp [opsAllNodes]
  | n :: ns, hn => by
    simp only [opsAllNodes, Bool.and_eq_true] at hn ⊢
    exact ⟨opsAllN_mono h n hn.1, opsAllNodes_mono h ns hn.2⟩
theorem opsAllN_mono {p q : OpId → Bool} (h : ∀ op, p op = true → q op = true) :
    ∀ n : FNode, opsAllN p n = true → opsAllN q n = true
  | .mk op _ _ _ bodies, hn => by
    simp only [opsAllN, Bool.and_eq_true] at hn ⊢
    exact ⟨h op hn.1, opsAllBodies_mono h bodies hn.2⟩
theorem opsAllBodies_mono {p q : OpId → Bool} (h : ∀ op, p op = true → q op = true) :
    ∀ bs : List FGraph, opsAllBodies p bs = true → opsAllBodies q bs = true
  | [], _ => by simp [opsAllBodies]
  | b :: bs, hb => by
    simp only [opsAllBodies, Bool.and_eq_true] at hb ⊢
    exact ⟨opsAllG_mono h b hb.1, opsAllBodies_mono h bs hb.2⟩
end

mutual
theorem opsAllG_true : ∀ g : FGraph, opsAllG (fun _ => true) g = true
  | .mk _ _ _ nodes => by simp only [opsAllG]; exact opsAllNodes_true nodes
theorem opsAllNodes_true : ∀ ns : List FNode, opsAllNodes (fun _ => true) ns = true
  | [] => by simp [opsAllNodes]
  | n :: ns => by simp only [opsAllNodes, Bool.and_eq_true]; exact ⟨opsAllN_true n, opsAllNodes_true ns⟩
theorem opsAllN_true : ∀ n : FNode, opsAllN (fun _ => true) n = true
  | .mk _ _ _ _ bodies => by simp only [opsAllN, Bool.true_and]; exact opsAllBodies_true bodies
theorem opsAllBodies_true : ∀ bs : List FGraph, opsAllBodies (fun _ => true) bs = true
  | [] => by simp [opsAllBodies]
  | b :: bs => by simp only [opsAllBodies, Bool.and_eq_true]; exact ⟨opsAllG_true b, opsAllBodies_true bs⟩
end

mutual
theorem opsAllG_iff (p : OpId → Bool) : ∀ g : FGraph, opsAllG p g = true ↔ ∀ op ∈ opsG g, p op = true
  | .mk _ _ _ nodes => by simp only [opsAllG, opsG]; exact opsAllNodes_iff p nodes
theorem opsAllNodes_iff (p : OpId → Bool) : ∀ ns : List FNode, opsAllNodes p ns = true ↔ ∀ op ∈ opsNodes ns, p op = true
  | [] => by simp [opsAllNodes, opsNodes]
  | n :: ns => by
    simp only [opsAllNodes, opsNodes, Bool.and_eq_true, List.mem_append, opsAllN_iff p n, opsAllNodes_iff p ns]
    constructor
    · rintro ⟨h1, h2⟩ op (h | h)
      · exact h1 op h
      · exact h2 op h
    · intro h; exact ⟨fun op ho => h op (Or.inl ho), fun op ho => h op (Or.inr ho)⟩
theorem opsAllN_iff (p : OpId → Bool) : ∀ n : FNode, opsAllN p n = true ↔ ∀ op ∈ opsN n, p op = true
  | .mk op _ _ _ bodies => by
    simp only [opsAllN, opsN, Bool.and_eq_true, List.mem_cons, opsAllBodies_iff p bodies]
    constructor
    · rintro ⟨h1, h2⟩ o (h | h)
      · rw [h]; exact h1
      · exact h2 o h
    · intro h; exact ⟨h op (Or.inl rfl), fun o ho => h o (Or.inr ho)⟩
theorem opsAllBodies_iff (p : OpId → Bool) : ∀ bs : List FGraph, opsAllBodies p bs = true ↔ ∀ op ∈ opsBodies bs, p op = true
  | [] => by simp [opsAllBodies, opsBodies]
  | b :: bs => by
    simp only [opsAllBodies, opsBodies, Bool.and_eq_true, List.mem_append, opsAllG_iff p b, opsAllBodies_iff p bs]
    constructor
    · rintro ⟨h1, h2⟩ op (h | h)
      · exact h1 op h
      · exact h2 op h
    · intro h; exact ⟨fun op ho => h op (Or.inl ho), fun op ho => h op (Or.inr ho)⟩
end

theorem opsAllNodes_append (p : OpId → Bool) : ∀ (a b : List FNode),
    opsAllNodes p (a ++ b) = (opsAllNodes p a && opsAllNodes p b)
  | [], b => by simp [opsAllNodes]
  | n :: a, b => by simp [opsAllNodes, opsAllNodes_append p a b, Bool.and_assoc]

theorem subInitsOKNodes_append : ∀ (a b : List FNode),
    subInitsOKNodes (a ++ b) = (subInitsOKNodes a && subInitsOKNodes b)
  | [], b => by simp [subInitsOKNodes]
  | n :: a, b => by simp [subInitsOKNodes, subInitsOKNodes_append a b, Bool.and_assoc]

theorem callsOKNodes_append (tbl : List Func) : ∀ (a b : List FNode),
    callsOKNodes tbl (a ++ b) = (callsOKNodes tbl a && callsOKNodes tbl b)
  | [], b => by simp [callsOKNodes]
  | n :: a, b => by simp [callsOKNodes, callsOKNodes_append tbl a b, Bool.and_assoc]

mutual
theorem evalGF_congrΦ (I : Interp Val) (Φ1 Φ2 : FEnv Val) (P : OpId → Bool)
    (h : ∀ op, P op = true → Φ1 op = Φ2 op) (α : List (String × AttrData)) :
    ∀ (g : FGraph) (ρ : Env Val), opsAllG P g = true → evalGF I Φ1 α g ρ = evalGF I Φ2 α g ρ
  | .mk inputs outputs inits nodes, ρ, hg => by
    simp only [opsAllG] at hg
    funext xs
    simp only [evalGF]
    rw [evalNodesF_congrΦ I Φ1 Φ2 P h α nodes _ hg]
theorem evalNodesF_congrΦ (I : Interp Val) (Φ1 Φ2 : FEnv Val) (P : OpId → Bool)
    (h : ∀ op, P op = true → Φ1 op = Φ2 op) (α : List (String × AttrData)) :
    ∀ (ns : List FNode) (ρ : Env Val), opsAllNodes P ns = true → evalNodesF I Φ1 α ns ρ = evalNodesF I Φ2 α ns ρ
  | [], _, _ => by simp [evalNodesF]
  | n :: ns, ρ, hn => by
    simp only [opsAllNodes, Bool.and_eq_true] at hn
    simp only [evalNodesF]
    rw [evalNF_congrΦ I Φ1 Φ2 P h α n ρ hn.1, evalNodesF_congrΦ I Φ1 Φ2 P h α ns _ hn.2]
theorem evalNF_congrΦ (I : Interp Val) (Φ1 Φ2 : FEnv Val) (P : OpId → Bool)
    (h : ∀ op, P op = true → Φ1 op = Φ2 op) (α : List (String × AttrData)) :
    ∀ (n : FNode) (ρ : Env Val), opsAllN P n = true → evalNF I Φ1 α n ρ = evalNF I Φ2 α n ρ
  | .mk op attrs ins outs bodies, ρ, hn => by
    simp only [opsAllN, Bool.and_eq_true] at hn
    simp only [evalNF]
    rw [h op hn.1, evalBodiesF_congrΦ I Φ1 Φ2 P h α bodies ρ hn.2]
theorem evalBodiesF_congrΦ (I : Interp Val) (Φ1 Φ2 : FEnv Val) (P : OpId → Bool)
    (h : ∀ op, P op = true → Φ1 op = Φ2 op) (α : List (String × AttrData)) :
    ∀ (bs : List FGraph) (ρ : Env Val), opsAllBodies P bs = true → evalBodiesF I Φ1 α bs ρ = evalBodiesF I Φ2 α bs ρ
  | [], _, _ => by simp [evalBodiesF]
  | b :: bs, ρ, hb => by
    simp only [opsAllBodies, Bool.and_eq_true] at hb
    simp only [evalBodiesF]
    rw [evalGF_congrΦ I Φ1 Φ2 P h α b ρ hb.1, evalBodiesF_congrΦ I Φ1 Φ2 P h α bs ρ hb.2]
end

theorem funcDen_congrΦ (I : Interp Val) (Φ1 Φ2 : FEnv Val) (P : OpId → Bool)
    (h : ∀ op, P op = true → Φ1 op = Φ2 op) (f : Func) (hf : opsAllNodes P f.nodes = true) :
    funcDen I Φ1 f = funcDen I Φ2 f := by
  funext cattrs args
  simp only [funcDen]
  rw [evalNodesF_congrΦ I Φ1 Φ2 P h _ f.nodes _ hf]

/-- the test of `_inline_calls_in` on a node -/
theorem of_accepted {tbl : List Func} {crit : OpId → Bool} {op : OpId} {f : Func}
    (h : (if crit op = true then findFunc tbl op else none) = some f) : crit op = true ∧ findFunc tbl op = some f := by
  by_cases hc : crit op = true
  · exact ⟨hc, by simpa [hc] using h⟩
  · simp [hc] at h

theorem findFunc_some {fs : List Func} {op : OpId} {f : Func} (h : findFunc fs op = some f) : f ∈ fs ∧ f.id = op := by
  unfold findFunc at h
  exact ⟨List.mem_of_find?_eq_some h, by simpa using List.find?_some h⟩

theorem lvl_mono (fs : List Func) : ∀ (d : Nat) (op : OpId), lvl fs d op = true → lvl fs (d + 1) op = true
  | 0, op, h => by
    simp only [lvl, Option.isNone_iff_eq_none] at h
    simp [lvl, h]
  | d + 1, op, h => by
    rw [lvl] at h ⊢
    split
    · rfl
    · rename_i f hf
      rw [hf] at h
      exact opsAllNodes_mono (lvl_mono fs d) f.nodes h

theorem lvl_mono_le (fs : List Func) {d e : Nat} (hde : d ≤ e) (op : OpId) (h : lvl fs d op = true) :
    lvl fs e op = true := by
  induction hde with
  | refl => exact h
  | step _ ih => exact lvl_mono fs _ op ih

theorem lvl_of_none {fs : List Func} {op : OpId} (h : findFunc fs op = none) (d : Nat) : lvl fs d op = true :=
  lvl_mono_le fs (Nat.zero_le _) op (by simp [lvl, h])

theorem lvl_of_funcs {fs : List Func} {d : Nat} (h : ∀ f ∈ fs, lvl fs d f.id = true) (op : OpId) :
    lvl fs d op = true := by
  cases hf : findFunc fs op with
  | none => exact lvl_of_none hf d
  | some f => obtain ⟨hm, hid⟩ := findFunc_some hf; exact hid ▸ h f hm

theorem fenv_zero (I : Interp Val) (fs : List Func) (op : OpId) : fenv I fs 0 op = none := rfl

theorem fenv_succ (I : Interp Val) (fs : List Func) (d : Nat) (op : OpId) :
    fenv I fs (d + 1) op = (findFunc fs op).map (funcDen I (fenv I fs d)) := rfl

/-- once the unrolling depth reaches the depth of the call tree of `op`, going deeper changes nothing -/
theorem fenv_stable (I : Interp Val) (fs : List Func) : ∀ (d : Nat) (op : OpId), lvl fs d op = true →
    ∀ e, d ≤ e → fenv I fs e op = fenv I fs d op
  | 0, op, h, e, _ => by
    simp only [lvl, Option.isNone_iff_eq_none] at h
    cases e with
    | zero => rfl
    | succ e => rw [fenv_succ, h, fenv_zero]; rfl
  | d + 1, op, h, e, hde => by
    obtain ⟨e', rfl⟩ : ∃ e', e = e' + 1 := ⟨e - 1, by omega⟩
    rw [fenv_succ, fenv_succ]
    rw [lvl] at h
    cases hf : findFunc fs op with
    | none => rw [Option.map_none, Option.map_none]
    | some f =>
      rw [hf] at h
      exact congrArg some
        (funcDen_congrΦ I _ _ (lvl fs d) (fun op' hop' => fenv_stable I fs d op' hop' e' (by omega)) f h)

/-- at a depth that covers every function, a call denotes the body of the function under the same
    function environment -/
theorem fenv_unfold (I : Interp Val) (fs : List Func) (d : Nat) (hd : ∀ f ∈ fs, lvl fs d f.id = true)
    {e : Nat} (hde : d ≤ e) {op : OpId} {f : Func} (hf : findFunc fs op = some f) :
    fenv I fs e op = some (funcDen I (fenv I fs e) f) := by
  obtain ⟨hmem, hid⟩ := findFunc_some hf
  have hl : lvl fs d op = true := hid ▸ hd f hmem
  have h1 : fenv I fs (e + 1) op = fenv I fs e op := by
    rw [fenv_stable I fs d op hl (e + 1) (by omega), fenv_stable I fs d op hl e hde]
  rw [← h1, fenv_succ, hf]
  rfl

theorem fenv_none (I : Interp Val) (fs : List Func) (d : Nat) {op : OpId} (hf : findFunc fs op = none) :
    fenv I fs d op = none := by
  cases d with
  | zero => exact fenv_zero I fs op
  | succ d => rw [fenv_succ, hf]; rfl

theorem replaceFunc_ids (tbl : List Func) (f' : Func) : (replaceFunc tbl f').map (·.id) = tbl.map (·.id) := by
  unfold replaceFunc
  rw [List.map_map]
  apply List.map_congr_left
  intro f _
  simp only [Function.comp]
  by_cases h : f.id = f'.id
  · simp [h]
  · have : (f.id == f'.id) = false := by simpa using h
    simp [this]

theorem inlFuncs_ids (crit : OpId → Bool) (budget : Nat) : ∀ (ids : List OpId) (st : ISt) (tbl : List Func),
    (inlFuncs crit budget st tbl ids).2.map (·.id) = tbl.map (·.id) := by
  intro ids st tbl
  fun_induction inlFuncs crit budget st tbl ids <;> simp_all [replaceFunc_ids]

/-- `_inline_calls_in` on the main graph, the first step of `inlineRun` -/
def mainRun (crit : OpId → Bool) (m : FModel) : ISt × FGraph :=
  inlG m.funcs crit (inlAt m.funcs crit m.funcs.length) ⟨freshF m, [], 0, false, false⟩ [] m.graph

theorem inlineRun_graph (crit : OpId → Bool) (m : FModel) : (inlineRun crit m).model.graph = (mainRun crit m).2 := rfl

theorem inlineRun_ids (crit : OpId → Bool) (m : FModel) : (inlineRun crit m).tbl.map (·.id) = m.funcs.map (·.id) :=
  inlFuncs_ids _ _ _ _ _

theorem substIns_nil (ins : List (Option VId)) : substIns [] ins = ins := by
  unfold substIns
  conv => rhs; rw [← List.map_id ins]
  apply List.map_congr_left
  intro o _
  cases o with
  | none => rfl
  | some v => simp [Subst.app]

mutual
theorem inlG_nocalls (tbl : List Func) (crit : OpId → Bool) (deeper : Deeper) : ∀ (g : FGraph) (st : ISt),
    opsAllG (fun op => (findFunc tbl op).isNone) g = true → inlG tbl crit deeper st [] g = (st, g)
  | .mk inputs outputs inits nodes, st, h => by
    simp only [opsAllG] at h
    simp only [inlG, inlNodes_nocalls tbl crit deeper nodes st outputs h]
theorem inlNodes_nocalls (tbl : List Func) (crit : OpId → Bool) (deeper : Deeper) :
    ∀ (ns : List FNode) (st : ISt) (outs : List VId),
    opsAllNodes (fun op => (findFunc tbl op).isNone) ns = true →
    inlNodes tbl crit deeper st [] outs ns = ⟨st, ns, outs, []⟩
  | [], _, _, _ => by simp [inlNodes]
  | .mk op attrs ins nouts bodies :: ns, st, outs, h => by
    simp only [opsAllNodes, opsAllN, Bool.and_eq_true, Option.isNone_iff_eq_none] at h
    simp only [inlNodes, h.1.1, ite_self, inlBodies_nocalls tbl crit deeper bodies st h.1.2,
      inlNodes_nocalls tbl crit deeper ns st outs h.2, substIns_nil]
theorem inlBodies_nocalls (tbl : List Func) (crit : OpId → Bool) (deeper : Deeper) : ∀ (bs : List FGraph) (st : ISt),
    opsAllBodies (fun op => (findFunc tbl op).isNone) bs = true → inlBodies tbl crit deeper st [] bs = (st, bs)
  | [], _, _ => by simp [inlBodies]
  | b :: bs, st, h => by
    simp only [opsAllBodies, Bool.and_eq_true] at h
    simp only [inlBodies, inlG_nocalls tbl crit deeper b st h.1, inlBodies_nocalls tbl crit deeper bs st h.2]
end

theorem eq_of_nodup_ids {tbl : List Func} (hnd : (tbl.map (·.id)).Nodup) {g f : Func} (hg : g ∈ tbl) (hf : f ∈ tbl)
    (h : g.id = f.id) : g = f := ListFacts.inj_of_nodup_map hnd hg hf h

theorem findFunc_none_of_ids {fs gs : List Func} (h : gs.map (·.id) = fs.map (·.id)) {op : OpId}
    (hf : findFunc fs op = none) : findFunc gs op = none := by
  unfold findFunc at hf ⊢
  rw [List.find?_eq_none] at hf ⊢
  intro g hg
  have : g.id ∈ fs.map (·.id) := h ▸ List.mem_map.2 ⟨g, hg, rfl⟩
  obtain ⟨f, hfm, hfid⟩ := List.mem_map.1 this
  have := hf f hfm
  rw [← hfid]; exact this

theorem findFunc_filter_none (fs : List Func) (keep : Func → Bool) {op : OpId} (hf : findFunc fs op = none) :
    findFunc (fs.filter keep) op = none := by
  unfold findFunc at hf ⊢
  rw [List.find?_eq_none] at hf ⊢
  intro g hg
  exact hf g (List.mem_filter.1 hg).1

end IrVerif.Inline
