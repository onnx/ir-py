/-
The scan loop of the generators over tombstones: a fuel-free resolution relation `Tgt`, the
termination measure `rank`, and what one `next()` and a whole drain return in its terms.
-/
import IrVerif.Lemmas.LinkedSetIter
namespace IrVerif.LinkedSet

/-- `Tgt s bs d x t`: started at box `x`, the loop `while box is not root: if not erased: yield;
    box = box.next/prev` stops at `t` (0 = leaves the loop at the root, otherwise the live box it
    yields at). -/
inductive Tgt (s : LSet) (bs : List Nat) (d : Dir) : Nat → Nat → Prop
  | root : Tgt s bs d 0 0
  | live {x : Nat} : x ∈ bs → Tgt s bs d x x
  | hop {x t : Nat} : x ≠ 0 → x ∉ bs → Tgt s bs d (hop s d x) t → Tgt s bs d x t

theorem Tgt.node {s : LSet} {bs : List Nat} {d : Dir} {x t : Nat} (h : Tgt s bs d x t) :
    IsNode bs t := by
  induction h with
  | root => exact Or.inl rfl
  | live hx => exact Or.inr hx
  | hop _ _ _ ih => exact ih

theorem Tgt.det {s : LSet} {bs : List Nat} {d : Dir} {x t t' : Nat} (h0 : 0 ∉ bs)
    (h : Tgt s bs d x t) (h' : Tgt s bs d x t') : t = t' := by
  induction h with
  | root =>
    cases h' with
    | root => rfl
    | live hx => exact absurd hx h0
    | hop hx _ _ => exact absurd rfl hx
  | live hx =>
    cases h' with
    | root => exact absurd hx h0
    | live _ => rfl
    | hop _ hx' _ => exact absurd hx hx'
  | hop hx hxb _ ih =>
    cases h' with
    | root => exact absurd rfl hx
    | live hx' => exact absurd hx' hxb
    | hop _ _ ht => exact ih ht

theorem Tgt.of_node {s : LSet} {bs : List Nat} {d : Dir} {x : Nat} (h : IsNode bs x) :
    Tgt s bs d x x := by
  rcases h with rfl | h
  · exact .root
  · exact .live h

/-- termination measure of the scan loop: 0 on nodes, time since erasure on tombstones -/
def rank (s : LSet) (bs : List Nat) (x : Nat) : Nat :=
  if x = 0 ∨ x ∈ bs then 0 else s.clock - stp s x

theorem Inv.rank_hop_lt {s : LSet} {bs : List Nat} (h : Inv s bs) (d : Dir) {x : Nat}
    (hx : x < size s) (hx0 : x ≠ 0) (hxb : x ∉ bs) :
    hop s d x < size s ∧ rank s bs (hop s d x) < rank s bs x := by
  have hb := h.bound x hx
  have ht := h.tomb x hx hx0 hxb
  -- whichever pointer the loop follows, it stays inside and obeys the tombstone clause
  have hd : hop s d x < size s ∧ (hop s d x = 0 ∨ hop s d x ∈ bs ∨ stp s x < stp s (hop s d x)) := by
    cases d
    · exact ⟨hb.1, ht.1⟩
    · exact ⟨hb.2.1, ht.2⟩
  refine ⟨hd.1, ?_⟩
  have hb' := (h.bound _ hd.1).2.2
  rw [rank, rank, if_neg (not_or.2 ⟨hx0, hxb⟩)]
  split
  · omega
  · rename_i hc
    rcases hd.2 with t | t | t
    · exact absurd (Or.inl t) hc
    · exact absurd (Or.inr t) hc
    · omega

theorem Inv.rank_lt {s : LSet} {bs : List Nat} (h : Inv s bs) (x : Nat) : rank s bs x < size s + 1 := by
  have := h.clk
  unfold rank; split <;> omega

/-- every box resolves (the loop terminates): by induction on the measure -/
theorem Inv.tgt_exists {s : LSet} {bs : List Nat} (h : Inv s bs) (d : Dir) :
    ∀ (n x : Nat), rank s bs x ≤ n → x < size s → ∃ t, Tgt s bs d x t
  | n, x, hr, hx => by
    by_cases hn : x = 0 ∨ x ∈ bs
    · exact ⟨x, Tgt.of_node hn⟩
    · have hx0 : x ≠ 0 := fun e => hn (Or.inl e)
      have hxb : x ∉ bs := fun e => hn (Or.inr e)
      have hl := h.rank_hop_lt d hx hx0 hxb
      match n with
      | 0 => omega
      | n + 1 =>
        obtain ⟨t, ht⟩ := Inv.tgt_exists h d n (hop s d x) (by omega) hl.1
        exact ⟨t, .hop hx0 hxb ht⟩

/-- what `scan` returns when the loop stops at `t` -/
def scanRes (s : LSet) (t : Nat) : Cursor × Res :=
  if t = 0 then (.done, .stop) else (.at t, .yield (vl s t))

/-- with enough fuel `scan` and `target` compute the resolution -/
theorem Inv.scan_of_tgt {s : LSet} {bs : List Nat} (h : Inv s bs) (d : Dir) {x t : Nat}
    (ht : Tgt s bs d x t) : x < size s → ∀ f, rank s bs x < f →
      scan s d f x = scanRes s t ∧ target s d f x = t := by
  induction ht with
  | root =>
    intro _ f hf
    obtain ⟨f, rfl⟩ : ∃ g, f = g + 1 := ⟨f - 1, by omega⟩
    simp [scan_root, scanRes, target]
  | @live x hx =>
    intro _ f hf
    obtain ⟨f, rfl⟩ : ∃ g, f = g + 1 := ⟨f - 1, by omega⟩
    have hl := h.live x hx
    have hx0 : x ≠ 0 := by omega
    simp [scan_node h d f x hx, scanRes, hx0, target, hl.2.2]
  | @hop x t hx0 hxb _ ih =>
    intro hx f hf
    obtain ⟨f, rfl⟩ : ∃ g, f = g + 1 := ⟨f - 1, by omega⟩
    have hl := h.rank_hop_lt d hx hx0 hxb
    have := ih hl.1 f (by omega)
    have hv : val s x = none := h.dead x hxb
    simp [scan, target, hx0, h.owned x, hv, this]

/-- resolution as a function (ghost; equals the model's `target` with the standard fuel) -/
def tg (s : LSet) (d : Dir) (x : Nat) : Nat := target s d (size s + 1) x

theorem Inv.tg_spec {s : LSet} {bs : List Nat} (h : Inv s bs) (d : Dir) {x : Nat} (hx : x < size s) :
    Tgt s bs d x (tg s d x) := by
  obtain ⟨t, ht⟩ := h.tgt_exists d _ x (Nat.le_refl _) hx
  have := (h.scan_of_tgt d ht hx (size s + 1) (h.rank_lt x)).2
  unfold tg; rw [this]; exact ht

theorem Inv.tg_eq {s : LSet} {bs : List Nat} (h : Inv s bs) {d : Dir} {x t : Nat} (hx : x < size s)
    (ht : Tgt s bs d x t) : tg s d x = t :=
  Tgt.det h.zero_notin (h.tg_spec d hx) ht

theorem Inv.scan_eq {s : LSet} {bs : List Nat} (h : Inv s bs) (d : Dir) {x : Nat} (hx : x < size s) :
    scan s d (size s + 1) x = scanRes s (tg s d x) :=
  (h.scan_of_tgt d (h.tg_spec d hx) hx (size s + 1) (h.rank_lt x)).1

theorem Inv.hop_lt {s : LSet} {bs : List Nat} (h : Inv s bs) (d : Dir) {x : Nat} (hx : x < size s) :
    hop s d x < size s := by
  have := h.bound x hx
  cases d <;> simp [hop, this]

/-- one `next()`: resolve from the box after the cursor -/
theorem Inv.iterNext_eq {s : LSet} {bs : List Nat} (h : Inv s bs) (d : Dir) {c : Cursor}
    (hc : c ≠ .done) (hp : c.Valid s) :
    iterNext s d c = scanRes s (tg s d (hop s d c.pos)) := by
  rw [iterNext_of_pos s d c hc, h.scan_eq d (h.hop_lt d hp)]

theorem HopLinks_suffix {s : LSet} {d : Dir} : ∀ (A B : List Nat), HopLinks s d (A ++ B) → HopLinks s d B
  | [], _, h => h
  | [a], B, h => by
      cases B with
      | nil => simp [HopLinks]
      | cons b B => simp only [List.cons_append, List.nil_append, HopLinks_cons2] at h; exact h.2
  | a :: a' :: A, B, h => by
      simp only [List.cons_append, HopLinks_cons2] at h
      exact HopLinks_suffix (a' :: A) B (by simpa using h.2)

theorem idxOf_mid {A B : List Nat} {t : Nat} (h : t ∉ A) : (A ++ t :: B).idxOf t = A.length := by
  rw [List.idxOf_append]; simp [h]

theorem seqD_nodup {bs : List Nat} (d : Dir) (h : bs.Nodup) : (seqD d bs).Nodup := by
  cases d
  · simpa [seqD] using h
  · exact ListFacts.nodup_reverse.2 h

theorem mem_seqD {bs : List Nat} (d : Dir) (x : Nat) : x ∈ seqD d bs ↔ x ∈ bs := by
  cases d <;> simp [seqD]

theorem length_seqD {bs : List Nat} (d : Dir) : (seqD d bs).length = bs.length := by
  cases d <;> simp [seqD]

/-- what any live cursor still yields: the values from its resolution point on; it then stops -/
theorem Inv.drain_eq {s : LSet} {bs : List Nat} (h : Inv s bs) (d : Dir) {c : Cursor}
    (hc : c ≠ .done) (hp : c.Valid s) :
    drain s d (size s + 1) c =
      (((seqD d bs).drop ((seqD d bs).idxOf (tg s d (hop s d c.pos)))).map (vl s), .stop) := by
  have hn := (h.tg_spec d (h.hop_lt d hp)).node
  have hit := h.iterNext_eq d hc hp
  generalize tg s d (hop s d c.pos) = t at hn hit
  rcases hn with rfl | ht
  · have h0 : 0 ∉ seqD d bs := by rw [mem_seqD]; exact h.zero_notin
    simp [drain, hit, scanRes, List.idxOf_eq_length h0]
  · have ht0 : t ≠ 0 := by rintro rfl; exact h.zero_notin ht
    obtain ⟨A, B, hAB⟩ := List.append_of_mem ((mem_seqD d t).2 ht)
    have hnd := seqD_nodup d h.nodup
    rw [hAB] at hnd
    have htA : t ∉ A := nodup_insMid_left hnd
    have hl := h.hopLinks d
    rw [hAB] at hl ⊢
    rw [idxOf_mid htA]
    have hl' : HopLinks s d (t :: B ++ [0]) := by
      apply HopLinks_suffix (0 :: A)
      simpa using hl
    have hlen : B.length < size s := by
      have := h.length_lt
      have e := length_seqD (bs := bs) d
      rw [hAB] at e
      simp at e; omega
    have hB : ∀ y ∈ B, y ∈ bs := by
      intro y hy; rw [← mem_seqD d, hAB]; simp [hy]
    have := drain_links h d B (.at t) (size s) (by simp) (by simpa [Cursor.pos] using hl') hB hlen
    simp [drain, hit, scanRes, ht0, this]

theorem drain_done (s : LSet) (d : Dir) : drain s d (size s + 1) .done = ([], .stop) := by
  simp [drain, iterNext]

/-- a `next()` that yields: it yields the value of a live box and parks there -/
theorem Inv.iterNext_yield {s : LSet} {bs : List Nat} (h : Inv s bs) (d : Dir) {c c' : Cursor} {v : Nat}
    (hp : c.Valid s) (hy : iterNext s d c = (c', .yield v)) :
    ∃ t ∈ bs, c' = .at t ∧ val s t = some v := by
  have hc : c ≠ .done := by rintro rfl; simp [iterNext] at hy
  rw [h.iterNext_eq d hc hp] at hy
  have hn := (h.tg_spec d (h.hop_lt d hp)).node
  generalize tg s d (hop s d c.pos) = t at hn hy
  unfold scanRes at hy
  split at hy
  · simp at hy
  · rename_i ht0
    rcases hn with rfl | ht
    · exact absurd rfl ht0
    · simp only [Prod.mk.injEq, Res.yield.injEq] at hy
      refine ⟨t, ht, hy.1.symm, ?_⟩
      rw [h.val_eq_vl ht, hy.2]

/-- a `next()` never raises and never exhausts the step bound -/
theorem Inv.iterNext_ok {s : LSet} {bs : List Nat} (h : Inv s bs) (d : Dir) (c : Cursor)
    (hp : c.Valid s) :
    (iterNext s d c).2 = .stop ∨ ∃ v, (iterNext s d c).2 = .yield v := by
  by_cases hc : c = .done
  · subst hc; left; simp [iterNext]
  · rw [h.iterNext_eq d hc hp]
    unfold scanRes; split
    · left; rfl
    · right; exact ⟨_, rfl⟩

end IrVerif.LinkedSet
