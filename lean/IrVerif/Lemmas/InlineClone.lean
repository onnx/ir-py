/-
Lemmas/InlineClone.lean — the Cloner as used by the inliner: evaluating the cloned body of a function
in the caller's environment simulates evaluating the body in the function's own environment
(`SimT`: the function's environment is the caller's environment read through the value map).  At the end: cloning keeps
the operators, the input/initializer disjointness of subgraphs and the well-formedness of calls.
-/
import IrVerif.Lemmas.InlineSem
namespace IrVerif.Inline
open IrVerif.Sem IrVerif.Passes
variable {Val : Type}

theorem mem_freshIds {next n w : Nat} : w ∈ freshIds next n ↔ next ≤ w ∧ w < next + n := by
  simp [freshIds, List.mem_range'_1]

@[simp] theorem length_freshIds (next n : Nat) : (freshIds next n).length = n := by simp [freshIds]

theorem idxOf_freshIds : ∀ (n next i : Nat), i < n → (freshIds next n).idxOf (next + i) = i
  | 0, _, _, h => by omega
  | n + 1, next, i, h => by
    simp only [freshIds, List.range'_succ, List.idxOf_cons]
    cases i with
    | zero => simp
    | succ j =>
      have : (next == next + (j + 1)) = false := by simp
      simp only [this, cond_false]
      have := idxOf_freshIds n (next + 1) j (by omega)
      simp only [freshIds] at this
      rw [show next + (j + 1) = next + 1 + j by omega, this]

theorem getElem?_freshIds {next n i : Nat} (h : i < n) : (freshIds next n)[i]? = some (next + i) := by
  simp [freshIds, h]

theorem bind_fresh (ρ : Env Val) (next n : Nat) (rs : List (Option Val)) {i : Nat} (h : i < n) :
    ρ.bind (freshIds next n) rs (next + i) = (rs[i]?).join := by
  rw [Env.bind_of_mem _ _ (mem_freshIds.2 ⟨by omega, by omega⟩), idxOf_freshIds n next i h]

theorem mapV_fresh_mem {vs : List VId} {v : VId} (hv : v ∈ vs) (next : Nat) (vm : VMap) :
    mapV (vs.zip ((freshIds next vs.length).map some) ++ vm) v = some (next + vs.idxOf v) := by
  have hi : vs.idxOf v < vs.length := List.idxOf_lt_length_of_mem hv
  simp only [mapV, List.lookup_append]
  rw [ListFacts.lookup_zip_of_mem _ hv]
  simp [getElem?_freshIds hi]

theorem mapV_fresh_not_mem {vs : List VId} {v : VId} (hv : v ∉ vs) (next : Nat) (vm : VMap) :
    mapV (vs.zip ((freshIds next vs.length).map some) ++ vm) v = mapV vm v := by
  simp only [mapV, List.lookup_append]
  rw [ListFacts.lookup_zip_eq_none hv]
  simp

def SimT (vm : VMap) (ρf ρ : Env Val) : Prop := ∀ v, ρf v = (mapV vm v).bind ρ

def VLt (vm : VMap) (n : Nat) : Prop := ∀ v w, mapV vm v = some w → w < n

def VFrom (Q : VId → Prop) (lo : Nat) (vm : VMap) : Prop := ∀ v w, mapV vm v = some w → Q w ∨ lo ≤ w

theorem VFrom.fresh {Q : VId → Prop} {lo : Nat} {vm : VMap} (h : VFrom Q lo vm) (vs : List VId) {n1 : Nat}
    (hn : lo ≤ n1) : VFrom Q lo (vs.zip ((freshIds n1 vs.length).map some) ++ vm) := by
  intro v w hw
  by_cases hv : v ∈ vs
  · rw [mapV_fresh_mem hv] at hw
    simp only [Option.some.injEq] at hw
    rw [← hw]
    exact Or.inr (Nat.le_trans hn (Nat.le_add_right _ _))
  · rw [mapV_fresh_not_mem hv] at hw
    exact h v w hw

theorem SimT.bind {vm : VMap} {ρf ρ : Env Val} (h : SimT vm ρf ρ) (vs : List VId) (next : Nat)
    (rs : List (Option Val)) (hfresh : ∀ v w, mapV vm v = some w → w ∉ freshIds next vs.length) :
    SimT (vs.zip ((freshIds next vs.length).map some) ++ vm) (ρf.bind vs rs)
      (ρ.bind (freshIds next vs.length) rs) := by
  intro v
  by_cases hv : v ∈ vs
  · rw [mapV_fresh_mem hv, Env.bind_of_mem _ _ hv]
    simp only [Option.bind]
    rw [bind_fresh _ _ _ _ (List.idxOf_lt_length_of_mem hv)]
  · rw [mapV_fresh_not_mem hv, Env.bind_of_not_mem _ _ hv, h v]
    cases hm : mapV vm v with
    | none => rfl
    | some w =>
      simp only [Option.bind]
      exact (Env.bind_of_not_mem _ _ (hfresh v w hm)).symm

theorem VLt.fresh {vm : VMap} {n0 : Nat} (h : VLt vm n0) (vs : List VId) {n1 : Nat} (hn : n0 ≤ n1) :
    VLt (vs.zip ((freshIds n1 vs.length).map some) ++ vm) (n1 + vs.length) := by
  intro v w hw
  by_cases hv : v ∈ vs
  · rw [mapV_fresh_mem hv] at hw
    have h1 := List.idxOf_lt_length_of_mem hv
    simp only [Option.some.injEq] at hw
    rw [← hw]
    exact Nat.add_lt_add_left h1 _
  · rw [mapV_fresh_not_mem hv] at hw
    have h1 : w < n0 := h v w hw
    exact Nat.lt_of_lt_of_le h1 (Nat.le_trans hn (Nat.le_add_right _ _))

theorem VLt.graph {vm : VMap} {next : Nat} (hlt : VLt vm next) (inputs : List VId) (inits : List (VId × Tensor)) :
    VLt (inputs.zip ((freshIds next inputs.length).map some) ++
      ((inits.map Prod.fst).zip ((freshIds (next + inputs.length) inits.length).map some) ++ vm))
      (next + inputs.length + inits.length) := by
  have hlen : (inits.map Prod.fst).length = inits.length := by simp
  intro v w hw
  by_cases hv : v ∈ inputs
  · rw [mapV_fresh_mem hv] at hw
    have h1 := List.idxOf_lt_length_of_mem hv
    simp only [Option.some.injEq] at hw
    rw [← hw]
    exact Nat.lt_of_lt_of_le (Nat.add_lt_add_left h1 _) (Nat.le_add_right _ _)
  · rw [mapV_fresh_not_mem hv] at hw
    have := (hlt.fresh (inits.map Prod.fst) (Nat.le_add_right next inputs.length)) v w
    rw [hlen] at this
    exact this hw

theorem SimT.args {vm : VMap} {ρf ρ : Env Val} (h : SimT vm ρf ρ) (ins : List (Option VId)) :
    evalArgs ρ (ins.map (fun o => o.bind (mapV vm))) = evalArgs ρf ins := by
  unfold evalArgs
  rw [List.map_map]
  apply List.map_congr_left
  intro o _
  cases o with
  | none => rfl
  | some v => simp only [Function.comp, Option.bind]; exact (h v).symm

theorem mapV_isSome_fresh {vs : List VId} (next : Nat) (vm : VMap) (v : VId)
    (h : (mapV vm v).isSome = true ∨ v ∈ vs) :
    (mapV (vs.zip ((freshIds next vs.length).map some) ++ vm) v).isSome = true := by
  by_cases hv : v ∈ vs
  · rw [mapV_fresh_mem hv]; rfl
  · rw [mapV_fresh_not_mem hv]
    rcases h with h | h
    · exact h
    · exact absurd h hv

theorem not_mem_freshIds_of_lt {w next n : Nat} (h : w < next) : w ∉ freshIds next n := by
  intro hm
  have := (mem_freshIds.1 hm).1
  exact absurd h (Nat.not_lt.2 this)

section
variable (I : Interp Val) (Φ : FEnv Val) (α α' : List (String × AttrData)) (am : List (String × FAttr))

/-- what the simulation needs of the attribute map: resolving a cloned attribute list in the caller's
    binding is resolving the original list in the binding of the call -/
def AttrSim : Prop := ∀ attrs : List (String × FAttr),
  resolveAttrs α (attrs.filterMap (cloneAttr am)) = resolveAttrs α' attrs

/-- `Q`, `lo` (`VFrom`) play no part in the simulation; they are carried to the result for `instantiate_sound` -/
theorem clone_sim (hA : AttrSim α α' am) :
    let G := fun vm next (b : FGraph) (r : FGraph × Nat) => ∀ ρf ρ : Env Val, SimT vm ρf ρ → VLt vm next →
      opsAllG (fun op => !isStochasticOp op) b = true → subInitsOKG b = true → closedG (eraseG b) = true →
      evalGF I Φ α r.1 ρ = evalGF I Φ α' b ρf ∧ next ≤ r.2
    let Ns := fun vm next (ns : List FNode) (r : List FNode × VMap × Nat) => ∀ (Q : VId → Prop) (lo : Nat)
      (ρf ρ : Env Val), SimT vm ρf ρ → VLt vm next → VFrom Q lo vm → lo ≤ next →
      opsAllNodes (fun op => !isStochasticOp op) ns = true → subInitsOKNodes ns = true →
      closedNodes (eraseNodes ns) = true →
      SimT r.2.1 (evalNodesF I Φ α' ns ρf) (evalNodesF I Φ α r.1 ρ) ∧ VLt r.2.1 r.2.2 ∧ next ≤ r.2.2 ∧
      (∀ w, w < next → evalNodesF I Φ α r.1 ρ w = ρ w) ∧
      (∀ v, ((mapV vm v).isSome = true ∨ v ∈ outsTop (eraseNodes ns)) → (mapV r.2.1 v).isSome = true) ∧
      VFrom Q lo r.2.1
    let N := fun vm next (n : FNode) (r : FNode × VMap × Nat) => ∀ (Q : VId → Prop) (lo : Nat) (ρf ρ : Env Val),
      SimT vm ρf ρ → VLt vm next → VFrom Q lo vm → lo ≤ next → opsAllN (fun op => !isStochasticOp op) n = true →
      subInitsOKN n = true → closedN (eraseN n) = true →
      SimT r.2.1 (evalNF I Φ α' n ρf) (evalNF I Φ α r.1 ρ) ∧ VLt r.2.1 r.2.2 ∧ next ≤ r.2.2 ∧
      (∀ w, w < next → evalNF I Φ α r.1 ρ w = ρ w) ∧
      (∀ v, ((mapV vm v).isSome = true ∨ v ∈ (eraseN n).outs) → (mapV r.2.1 v).isSome = true) ∧ VFrom Q lo r.2.1
    let Bs := fun vm next (bs : List FGraph) (r : List FGraph × Nat) => ∀ ρf ρ : Env Val, SimT vm ρf ρ → VLt vm next →
      opsAllBodies (fun op => !isStochasticOp op) bs = true → subInitsOKBodies bs = true →
      closedBodies (eraseBodies bs) = true →
      evalBodiesF I Φ α r.1 ρ = evalBodiesF I Φ α' bs ρf ∧ next ≤ r.2
    (∀ vm next b, G vm next b (cloneG am vm next b)) ∧ (∀ vm next ns, Ns vm next ns (cloneNodes am vm next ns)) ∧
      (∀ vm next n, N vm next n (cloneN am vm next n)) ∧ ∀ vm next bs, Bs vm next bs (cloneBodies am vm next bs) := by
  intro G Ns N Bs
  refine cloneG.mutual_induct_unfolding am G Ns N Bs ?_ ?_ ?_ ?_ ?_ ?_
  · intro vm next inputs outputs inits nodes inputs' initIds' vm1 r ihn ρf ρ hsim hlt hst hsi hcl
    simp only [opsAllG] at hst
    simp only [subInitsOKG, Bool.and_eq_true, disj_iff] at hsi
    simp only [eraseG, closedG, Bool.and_eq_true, List.all_eq_true] at hcl
    have hlen : (inits.map Prod.fst).length = inits.length := by simp
    have hsim1 : SimT ((inits.map Prod.fst).zip (initIds'.map some) ++ vm)
        (ρf.bind (inits.map Prod.fst) (inits.map (fun p => some (I.tv p.2))))
        (ρ.bind initIds' (inits.map (fun p => some (I.tv p.2)))) := by
      have := hsim.bind (inits.map Prod.fst) (next + inputs.length) (inits.map (fun p => some (I.tv p.2)))
        (fun v w hw => not_mem_freshIds_of_lt (Nat.lt_of_lt_of_le (hlt v w hw) (Nat.le_add_right _ _)))
      rw [hlen] at this
      exact this
    have hlt1 : ∀ v w, mapV ((inits.map Prod.fst).zip (initIds'.map some) ++ vm) v = some w → w ∉ inputs' := by
      intro v w hw hm
      have hm' := (mem_freshIds.1 hm).2
      by_cases hv : v ∈ inits.map Prod.fst
      · have := mapV_fresh_mem hv (next + inputs.length) vm
        rw [hlen] at this
        rw [this] at hw
        simp only [Option.some.injEq] at hw
        rw [← hw] at hm'
        exact absurd hm' (by simp [Nat.add_assoc])
      · have := mapV_fresh_not_mem hv (next + inputs.length) vm
        rw [hlen] at this
        rw [this] at hw
        exact not_mem_freshIds_of_lt (hlt v w hw) hm
    have hsim2 := fun xs : List Val => hsim1.bind inputs next (xs.map some) hlt1
    have hvlt2 : VLt vm1 (next + inputs.length + inits.length) := hlt.graph inputs inits
    have key := fun xs : List Val => ihn (fun _ => True) 0 _ _ (hsim2 xs) hvlt2
      (fun _ _ _ => Or.inl trivial) (Nat.zero_le _) hst hsi.2 hcl.2
    refine ⟨?_, ?_⟩
    · funext xs
      simp only [evalGF, bindInits]
      have hz1 : (initIds'.zip (inits.map Prod.snd)).map Prod.fst = initIds' :=
        List.map_fst_zip (by simp [initIds', freshIds])
      have hz2 : (initIds'.zip (inits.map Prod.snd)).map (fun p => some (I.tv p.2)) =
          inits.map (fun p => some (I.tv p.2)) := by
        have : (initIds'.zip (inits.map Prod.snd)).map Prod.snd = inits.map Prod.snd :=
          List.map_snd_zip (by simp [initIds', freshIds])
        have h2 : (fun p : VId × Tensor => some (I.tv p.2)) = (fun t => some (I.tv t)) ∘ Prod.snd := rfl
        rw [h2, ← List.map_map, this, List.map_map]
      have hf1 : inputs.filter (fun v => !(inits.map Prod.fst).contains v) = inputs := by
        rw [List.filter_eq_self]
        intro v hv
        exact not_contains_iff.2 (hsi.1 v hv)
      have hf2 : inputs'.filter (fun v => !initIds'.contains v) = inputs' := by
        rw [List.filter_eq_self]
        intro v hv
        have h1 := (mem_freshIds.1 hv).2
        simp only [Bool.not_eq_true', List.contains_eq_mem, decide_eq_false_iff_not]
        intro h2
        exact absurd (mem_freshIds.1 h2).1 (Nat.not_le.2 h1)
      rw [hz1, hz2, hf1, hf2, List.map_map]
      apply List.map_congr_left
      intro v hv
      simp only [Function.comp]
      have hs := (key xs).1 v
      have hsome := (key xs).2.2.2.2.1 v
      have hpre := hcl.1 v hv
      simp only [List.contains_eq_mem, decide_eq_true_eq, List.mem_append] at hpre
      specialize hsome (by
        rcases hpre with (h | h) | h
        · exact Or.inl (mapV_isSome_fresh _ _ v (Or.inr h))
        · left
          refine mapV_isSome_fresh _ _ v (Or.inl ?_)
          have := mapV_isSome_fresh (vs := inits.map Prod.fst) (next + inputs.length) vm v (Or.inr h)
          rw [hlen] at this
          exact this
        · exact Or.inr h)
      obtain ⟨w, hw⟩ := Option.isSome_iff_exists.1 hsome
      rw [hs, hw]
      rfl
    · exact Nat.le_trans (Nat.le_trans (Nat.le_add_right _ _) (Nat.le_add_right _ _)) (key []).2.2.1
  · intro vm next op attrs ins outs bodies rb outs' ihb Q lo ρf ρ hsim hlt hvf hlo hst hsi hcl
    simp only [opsAllN, Bool.and_eq_true, Bool.not_eq_true'] at hst
    simp only [subInitsOKN] at hsi
    simp only [eraseN, closedN] at hcl
    obtain ⟨hb, hnb⟩ := ihb ρf ρ hsim hlt hst.2 hsi hcl
    simp only [evalNF, eraseN, Node.outs]
    rw [hA attrs, hsim.args ins, hb]
    have hres : nodeResultsF I op (resolveAttrs α' attrs) outs'
        (evalBodiesF I Φ α' bodies ρf) (trimV (evalArgs ρf ins)) =
        nodeResultsF I op (resolveAttrs α' attrs) outs (evalBodiesF I Φ α' bodies ρf) (trimV (evalArgs ρf ins)) :=
      nodeResultsF_outs I hst.1 _ _ _ _ _
    rw [hres]
    refine ⟨?_, ?_, ?_, ?_, ?_, hvf.fresh outs (Nat.le_trans hlo hnb)⟩
    · exact hsim.bind outs _ _ (fun v w hw => not_mem_freshIds_of_lt (Nat.lt_of_lt_of_le (hlt v w hw) hnb))
    · exact hlt.fresh outs hnb
    · exact Nat.le_trans hnb (Nat.le_add_right _ _)
    · intro w hw
      exact Env.bind_of_not_mem _ _ (not_mem_freshIds_of_lt (Nat.lt_of_lt_of_le hw hnb))
    · intro v hv
      exact mapV_isSome_fresh _ _ v hv
  · intro vm next Q lo ρf ρ hsim hlt hvf _ _ _ _
    simp only [evalNodesF, eraseNodes_nil, outsTop, List.not_mem_nil, or_false]
    exact ⟨hsim, hlt, Nat.le_refl _, fun _ _ => trivial, fun _ h => h, hvf⟩
  · intro vm next n ns r rs ihn ih Q lo ρf ρ hsim hlt hvf hlo hst hsi hcl
    simp only [opsAllNodes, Bool.and_eq_true] at hst
    simp only [subInitsOKNodes, Bool.and_eq_true] at hsi
    simp only [eraseNodes_cons, closedNodes, Bool.and_eq_true] at hcl
    obtain ⟨h1, h2, h3, h4, h5, h6⟩ := ihn Q lo ρf ρ hsim hlt hvf hlo hst.1 hsi.1 hcl.1
    obtain ⟨k1, k2, k3, k4, k5, k6⟩ := ih Q lo _ _ h1 h2 h6 (Nat.le_trans hlo h3) hst.2 hsi.2 hcl.2
    simp only [evalNodesF]
    refine ⟨k1, k2, Nat.le_trans h3 k3, ?_, ?_, k6⟩
    · intro w hw
      rw [k4 w (Nat.lt_of_lt_of_le hw h3), h4 w hw]
    · intro v hv
      refine k5 v ?_
      simp only [eraseNodes_cons, outsTop, List.mem_append] at hv
      rcases hv with hv | hv | hv
      · exact Or.inl (h5 v (Or.inl hv))
      · exact Or.inl (h5 v (Or.inr hv))
      · exact Or.inr hv
  · intro vm next ρf ρ _ _ _ _ _
    simp [evalBodiesF]
  · intro vm next b bs r rs ihg ihb ρf ρ hsim hlt hst hsi hcl
    simp only [opsAllBodies, Bool.and_eq_true] at hst
    simp only [subInitsOKBodies, Bool.and_eq_true] at hsi
    simp only [eraseBodies_cons, closedBodies, Bool.and_eq_true] at hcl
    obtain ⟨h1, h2⟩ := ihg ρf ρ hsim hlt hst.1 hsi.1 hcl.1
    have hlt' : VLt vm (cloneG am vm next b).2 := fun v w hw => Nat.lt_of_lt_of_le (hlt v w hw) h2
    obtain ⟨k1, k2⟩ := ihb ρf ρ hsim hlt' hst.2 hsi.2 hcl.2
    simp only [evalBodiesF]
    exact ⟨by rw [h1, k1], Nat.le_trans h2 k2⟩

theorem cloneN_sim (hA : AttrSim α α' am) (Q : VId → Prop) (lo : Nat) :
    ∀ (n : FNode) (vm : VMap) (next : Nat) (ρf ρ : Env Val),
    SimT vm ρf ρ → VLt vm next → VFrom Q lo vm → lo ≤ next → opsAllN (fun op => !isStochasticOp op) n = true →
    subInitsOKN n = true → closedN (eraseN n) = true →
    SimT (cloneN am vm next n).2.1 (evalNF I Φ α' n ρf) (evalNF I Φ α (cloneN am vm next n).1 ρ) ∧
    VLt (cloneN am vm next n).2.1 (cloneN am vm next n).2.2 ∧
    next ≤ (cloneN am vm next n).2.2 ∧
    (∀ w, w < next → evalNF I Φ α (cloneN am vm next n).1 ρ w = ρ w) ∧
    (∀ v, ((mapV vm v).isSome = true ∨ v ∈ (eraseN n).outs) → (mapV (cloneN am vm next n).2.1 v).isSome = true) ∧
    VFrom Q lo (cloneN am vm next n).2.1 :=
  fun n vm next => (clone_sim I Φ α α' am hA).2.2.1 vm next n Q lo

theorem cloneBodies_sim (hA : AttrSim α α' am) : ∀ (bs : List FGraph) (vm : VMap) (next : Nat) (ρf ρ : Env Val),
    SimT vm ρf ρ → VLt vm next → opsAllBodies (fun op => !isStochasticOp op) bs = true →
    subInitsOKBodies bs = true → closedBodies (eraseBodies bs) = true →
    evalBodiesF I Φ α (cloneBodies am vm next bs).1 ρ = evalBodiesF I Φ α' bs ρf ∧
    next ≤ (cloneBodies am vm next bs).2 :=
  fun bs vm next => (clone_sim I Φ α α' am hA).2.2.2 vm next bs

end

mutual
theorem cloneG_ops (p : OpId → Bool) (am : List (String × FAttr)) : ∀ (b : FGraph) (vm : VMap) (next : Nat),
    opsAllG p (cloneG am vm next b).1 = opsAllG p b
  | .mk inputs outputs inits nodes, vm, next => by
    simp only [cloneG, opsAllG]
    exact cloneNodes_ops p am nodes _ _
theorem cloneNodes_ops (p : OpId → Bool) (am : List (String × FAttr)) : ∀ (ns : List FNode) (vm : VMap) (next : Nat),
    opsAllNodes p (cloneNodes am vm next ns).1 = opsAllNodes p ns
  | [], _, _ => by simp [cloneNodes, opsAllNodes]
  | n :: ns, vm, next => by
    simp only [cloneNodes, opsAllNodes]
    rw [cloneN_ops p am n vm next, cloneNodes_ops p am ns _ _]
theorem cloneN_ops (p : OpId → Bool) (am : List (String × FAttr)) : ∀ (n : FNode) (vm : VMap) (next : Nat),
    opsAllN p (cloneN am vm next n).1 = opsAllN p n
  | .mk op attrs ins outs bodies, vm, next => by
    simp only [cloneN, opsAllN]
    rw [cloneBodies_ops p am bodies vm next]
theorem cloneBodies_ops (p : OpId → Bool) (am : List (String × FAttr)) : ∀ (bs : List FGraph) (vm : VMap) (next : Nat),
    opsAllBodies p (cloneBodies am vm next bs).1 = opsAllBodies p bs
  | [], _, _ => by simp [cloneBodies, opsAllBodies]
  | b :: bs, vm, next => by
    simp only [cloneBodies, opsAllBodies]
    rw [cloneG_ops p am b vm next, cloneBodies_ops p am bs vm _]
end

theorem disj_of_lt {a b : List VId} (n : Nat) (ha : ∀ x ∈ a, x < n) (hb : ∀ x ∈ b, n ≤ x) : disj a b = true := by
  rw [disj_iff]
  intro x hx hx'
  exact absurd (ha x hx) (Nat.not_lt.2 (hb x hx'))

mutual
theorem cloneG_subInits (am : List (String × FAttr)) : ∀ (b : FGraph) (vm : VMap) (next : Nat),
    subInitsOKG (cloneG am vm next b).1 = true
  | .mk inputs outputs inits nodes, vm, next => by
    simp only [cloneG, subInitsOKG, Bool.and_eq_true]
    refine ⟨?_, cloneNodes_subInits am nodes _ _⟩
    have hz : ((freshIds (next + inputs.length) inits.length).zip (inits.map Prod.snd)).map Prod.fst =
        freshIds (next + inputs.length) inits.length := List.map_fst_zip (by simp)
    rw [hz]
    exact disj_of_lt (next + inputs.length) (fun x hx => (mem_freshIds.1 hx).2) (fun x hx => (mem_freshIds.1 hx).1)
theorem cloneNodes_subInits (am : List (String × FAttr)) : ∀ (ns : List FNode) (vm : VMap) (next : Nat),
    subInitsOKNodes (cloneNodes am vm next ns).1 = true
  | [], _, _ => by simp [cloneNodes, subInitsOKNodes]
  | n :: ns, vm, next => by
    simp only [cloneNodes, subInitsOKNodes, Bool.and_eq_true]
    exact ⟨cloneN_subInits am n vm next, cloneNodes_subInits am ns _ _⟩
theorem cloneN_subInits (am : List (String × FAttr)) : ∀ (n : FNode) (vm : VMap) (next : Nat),
    subInitsOKN (cloneN am vm next n).1 = true
  | .mk op attrs ins outs bodies, vm, next => by
    simp only [cloneN, subInitsOKN]
    exact cloneBodies_subInits am bodies vm next
theorem cloneBodies_subInits (am : List (String × FAttr)) : ∀ (bs : List FGraph) (vm : VMap) (next : Nat),
    subInitsOKBodies (cloneBodies am vm next bs).1 = true
  | [], _, _ => by simp [cloneBodies, subInitsOKBodies]
  | b :: bs, vm, next => by
    simp only [cloneBodies, subInitsOKBodies, Bool.and_eq_true]
    exact ⟨cloneG_subInits am b vm next, cloneBodies_subInits am bs vm _⟩
end

theorem cloneAttr_key {am : List (String × FAttr)} {p q : String × FAttr} (h : cloneAttr am p = some q) :
    q.1 = p.1 ∧ (match q.2 with | .val _ => True | .ref _ => ∃ r, p.2 = .ref r) := by
  obtain ⟨k, x⟩ := p
  cases x with
  | val a => simp only [cloneAttr, Option.some.injEq] at h; subst h; exact ⟨rfl, trivial⟩
  | ref r =>
    simp only [cloneAttr] at h
    split at h
    · simp only [Option.some.injEq] at h; subst h; exact ⟨rfl, trivial⟩
    · simp only [Option.some.injEq] at h; subst h; exact ⟨rfl, r, rfl⟩
    · cases h

theorem cloneAttrs_keys_sublist (am : List (String × FAttr)) : ∀ attrs : List (String × FAttr),
    ((attrs.filterMap (cloneAttr am)).map Prod.fst).Sublist (attrs.map Prod.fst)
  | [] => by simp
  | p :: rest => by
    have ih := cloneAttrs_keys_sublist am rest
    cases h : cloneAttr am p with
    | none => rw [List.filterMap_cons_none h]; exact ih.trans (by simp)
    | some q =>
      rw [List.filterMap_cons_some h]
      simp only [List.map_cons, (cloneAttr_key h).1]
      exact ih.cons_cons _

theorem callOK_clone {f : Func} {attrs : List (String × FAttr)} {ins : List (Option VId)} {outs : List VId}
    {bodies : List FGraph} (am : List (String × FAttr)) (g : Option VId → Option VId) (outs' : List VId)
    (hlen : outs'.length = outs.length) (h : callOK f attrs ins outs bodies = true) :
    callOK f (attrs.filterMap (cloneAttr am)) (ins.map g) outs' [] = true := by
  simp only [callOK, Bool.and_eq_true, decide_eq_true_eq, List.all_eq_true, List.isEmpty_iff] at h ⊢
  obtain ⟨⟨⟨⟨_, h1⟩, h2⟩, h3⟩, h4⟩ := h
  refine ⟨⟨⟨⟨trivial, h1.sublist (cloneAttrs_keys_sublist am attrs)⟩, by simpa using h2⟩, by rw [hlen]; exact h3⟩, ?_⟩
  intro q hq
  obtain ⟨p, hp, hpq⟩ := List.mem_filterMap.1 hq
  obtain ⟨k1, k2⟩ := cloneAttr_key hpq
  have := h4 p hp
  cases hq2 : q.2 with
  | val a => trivial
  | ref r =>
    rw [hq2] at k2
    obtain ⟨r', hr'⟩ := k2
    rw [hr'] at this
    simp only [k1]
    exact this

theorem callOK_bodies_nil {f : Func} {attrs : List (String × FAttr)} {ins : List (Option VId)} {outs : List VId}
    {bodies : List FGraph} (h : callOK f attrs ins outs bodies = true) : bodies = [] := by
  simp only [callOK, Bool.and_eq_true, List.isEmpty_iff] at h
  exact h.1.1.1.1

mutual
theorem cloneG_callsOK (tbl : List Func) (am : List (String × FAttr)) : ∀ (b : FGraph) (vm : VMap) (next : Nat),
    callsOKG tbl b = true → callsOKG tbl (cloneG am vm next b).1 = true
  | .mk inputs outputs inits nodes, vm, next, h => by
    simp only [callsOKG] at h
    simp only [cloneG, callsOKG]
    exact cloneNodes_callsOK tbl am nodes _ _ h
theorem cloneNodes_callsOK (tbl : List Func) (am : List (String × FAttr)) : ∀ (ns : List FNode) (vm : VMap) (next : Nat),
    callsOKNodes tbl ns = true → callsOKNodes tbl (cloneNodes am vm next ns).1 = true
  | [], _, _, _ => by simp [cloneNodes, callsOKNodes]
  | n :: ns, vm, next, h => by
    simp only [callsOKNodes, Bool.and_eq_true] at h
    simp only [cloneNodes, callsOKNodes, Bool.and_eq_true]
    exact ⟨cloneN_callsOK tbl am n vm next h.1, cloneNodes_callsOK tbl am ns _ _ h.2⟩
theorem cloneN_callsOK (tbl : List Func) (am : List (String × FAttr)) : ∀ (n : FNode) (vm : VMap) (next : Nat),
    callsOKN tbl n = true → callsOKN tbl (cloneN am vm next n).1 = true
  | .mk op attrs ins outs bodies, vm, next, h => by
    simp only [callsOKN, Bool.and_eq_true] at h
    simp only [cloneN, callsOKN, Bool.and_eq_true]
    refine ⟨?_, cloneBodies_callsOK tbl am bodies vm next h.2⟩
    cases hf : findFunc tbl op with
    | none => rfl
    | some f =>
      have h1 := h.1
      rw [hf] at h1
      simp only at h1 ⊢
      have hb := callOK_bodies_nil h1
      subst hb
      simp only [cloneBodies]
      exact callOK_clone am _ _ (by simp) h1
theorem cloneBodies_callsOK (tbl : List Func) (am : List (String × FAttr)) : ∀ (bs : List FGraph) (vm : VMap) (next : Nat),
    callsOKBodies tbl bs = true → callsOKBodies tbl (cloneBodies am vm next bs).1 = true
  | [], _, _, _ => by simp [cloneBodies, callsOKBodies]
  | b :: bs, vm, next, h => by
    simp only [callsOKBodies, Bool.and_eq_true] at h
    simp only [cloneBodies, callsOKBodies, Bool.and_eq_true]
    exact ⟨cloneG_callsOK tbl am b vm next h.1, cloneBodies_callsOK tbl am bs vm _ h.2⟩
end

end IrVerif.Inline
