/-
C15 part C: `convenience.rename_values` is all-or-nothing, also with the backing tensors (renamed first, rolled back on
refusal); a sufficient condition for it to go through (`renameValuesT_succeeds`).
-/
import IrVerif.Lemmas.NamesFix
import Mathlib.Data.List.Nodup
import IrVerif.Lemmas.ListFacts
namespace IrVerif.Names

/-! ### the first loop -/

theorem dedupPairs_spec : ∀ (pairs acc : List (Nat × String)) (ordered : List (Nat × String)),
    dedupPairs pairs acc = some ordered → (acc.map (·.1)).Nodup →
      (ordered.map (·.1)).Nodup ∧ (∀ p, p ∈ ordered ↔ (p ∈ acc ∨ p ∈ pairs)) := by
  intro pairs
  induction pairs with
  | nil =>
    intro acc ordered h hnd
    simp only [dedupPairs, Option.some.injEq] at h
    subst h
    refine ⟨?_, fun p => by simp⟩
    rw [List.map_reverse]; exact List.nodup_reverse.mpr hnd
  | cons q rest ih =>
    intro acc ordered h hnd
    obtain ⟨v, n⟩ := q
    simp only [dedupPairs] at h
    split at h
    · rename_i n' hl
      split at h
      · cases h
      · rename_i hn
        have hn' : n' = n := by simpa using hn
        subst hn'
        obtain ⟨h1, h2⟩ := ih acc ordered h hnd
        refine ⟨h1, fun p => ?_⟩
        rw [h2 p, List.mem_cons]
        constructor
        · rintro (h | h)
          · exact Or.inl h
          · exact Or.inr (Or.inr h)
        · rintro (h | rfl | h)
          · exact Or.inl h
          · exact Or.inl (ListFacts.mem_of_lookup hl)
          · exact Or.inr h
    · rename_i hl
      obtain ⟨h1, h2⟩ := ih ((v, n) :: acc) ordered h
        (by simp only [List.map_cons, List.nodup_cons]; exact ⟨fun hm => by
            obtain ⟨e, he, rfl⟩ := List.mem_map.mp hm
            exact ListFacts.lookup_none_iff.mp hl e.2 he, hnd⟩)
      refine ⟨h1, fun p => ?_⟩
      rw [h2 p, List.mem_cons, List.mem_cons]
      constructor
      · rintro ((rfl | h) | h)
        · exact Or.inr (Or.inl rfl)
        · exact Or.inl h
        · exact Or.inr (Or.inr h)
      · rintro (h | rfl | h)
        · exact Or.inl (Or.inr h)
        · exact Or.inl (Or.inl rfl)
        · exact Or.inr h

/-! ### grouping -/

/-- by induction on a bound of the length: `eraseDups` recurses on a filtered tail -/
theorem nodup_eraseDups : ∀ (n : Nat) (l : List Nat), l.length ≤ n → l.eraseDups.Nodup := by
  intro n
  induction n with
  | zero => intro l h; have : l = [] := List.eq_nil_of_length_eq_zero (by omega); subst this; simp
  | succ n ih =>
    intro l h
    cases l with
    | nil => simp
    | cons a as =>
      rw [List.eraseDups_cons, List.nodup_cons]
      refine ⟨?_, ih _ ?_⟩
      · rw [List.mem_eraseDups]; simp
      · have := List.length_filter_le (fun b => !b == a) as
        simp only [List.length_cons] at h; omega

theorem mem_initTriples {io : Nat → Option Nat} {ordered : List (Nat × String)} {g v : Nat} {n : String} :
    (g, v, n) ∈ initTriples (groupByGraph io ordered) ↔ ((v, n) ∈ ordered ∧ io v = some g) := by
  simp only [initTriples, groupByGraph, List.mem_flatMap, List.mem_map, List.mem_eraseDups, List.mem_filterMap]
  constructor
  · rintro ⟨gp, ⟨g0, _, rfl⟩, p, hp, he⟩
    have hp' : p ∈ ordered.filter (fun p => io p.1 == some g0) := hp
    obtain ⟨hp1, hp2⟩ := List.mem_filter.mp hp'
    simp only [Prod.mk.injEq] at he
    obtain ⟨rfl, rfl, rfl⟩ := he
    exact ⟨hp1, by simpa using hp2⟩
  · rintro ⟨hp, hio⟩
    refine ⟨(g, ordered.filter (fun p => io p.1 == some g)), ⟨g, ⟨(v, n), hp, hio⟩, rfl⟩, (v, n), ?_, rfl⟩
    show (v, n) ∈ ordered.filter (fun p => io p.1 == some g)
    exact List.mem_filter.mpr ⟨hp, by simpa using hio⟩

theorem initTriples_nodup {io : Nat → Option Nat} {ordered : List (Nat × String)} (hnd : (ordered.map (·.1)).Nodup) :
    ((initTriples (groupByGraph io ordered)).map (·.2.1)).Nodup := by
  simp only [initTriples, groupByGraph, List.map_flatMap, List.flatMap_map, List.map_map]
  rw [List.nodup_flatMap]
  constructor
  · intro g _
    have : (List.map ((fun x => x.2.1) ∘ fun p => (g, p.1, p.2)) (List.filter (fun p => io p.1 == some g) ordered))
        = (List.filter (fun p => io p.1 == some g) ordered).map (·.1) := by
      apply List.map_congr_left; intro p _; rfl
    rw [this]
    exact (List.Sublist.map _ List.filter_sublist).nodup hnd
  · have hg := nodup_eraseDups _ (ordered.filterMap (fun p => io p.1)) (Nat.le_refl _)
    refine List.Pairwise.imp ?_ hg
    intro a b hab
    simp only [Function.onFun]
    rw [List.disjoint_left]
    intro x hx hx'
    simp only [List.mem_map, List.mem_filter, beq_iff_eq, Function.comp] at hx hx'
    obtain ⟨p, ⟨_, hp⟩, rfl⟩ := hx
    obtain ⟨q, ⟨_, hq⟩, he⟩ := hx'
    rw [he] at hq
    exact hab (Option.some.inj (hp.symm.trans hq))


/-! ### validation -/

theorem validateLoop_spec (d : List (String × Nat)) (R : List Nat) :
    ∀ (ps : List (Nat × String)) (seenT : List (String × Nat)), validateLoop d R ps seenT = true →
      (∀ p ∈ ps, p.2 ≠ "" ∧ (∀ ex, d.lookup p.2 = some ex → ex = p.1 ∨ ex ∈ R)
          ∧ (∀ e, seenT.lookup p.2 = some e → e = p.1))
      ∧ ps.Pairwise (fun p q => p.2 = q.2 → p.1 = q.1) := by
  intro ps
  induction ps with
  | nil => intro _ _; simp
  | cons p ps ih =>
    intro seenT h
    obtain ⟨v, n⟩ := p
    simp only [validateLoop] at h
    by_cases c1 : (n == "") = true
    · rw [if_pos c1] at h; cases h
    rw [if_neg c1] at h
    by_cases c2 : isOther (seenT.lookup n) v = true
    · rw [if_pos c2] at h; cases h
    rw [if_neg c2] at h
    by_cases c3 : isOutside (d.lookup n) v R = true
    · rw [if_pos c3] at h; cases h
    rw [if_neg c3] at h
    have hn : n ≠ "" := by simpa using c1
    have hseen : ∀ e, seenT.lookup n = some e → e = v := by
      intro e he; rw [he] at c2; simpa [isOther] using c2
    have hdict : ∀ ex, d.lookup n = some ex → ex = v ∨ ex ∈ R := by
      intro ex hex; rw [hex] at c3
      by_cases he : ex = v
      · exact Or.inl he
      · right; simpa [isOutside, he] using c3
    obtain ⟨h1, h2⟩ := ih _ h
    refine ⟨?_, ?_⟩
    · intro q hq
      rcases List.mem_cons.mp hq with rfl | hq
      · exact ⟨hn, hdict, hseen⟩
      · obtain ⟨a, b, c⟩ := h1 q hq
        refine ⟨a, b, ?_⟩
        intro e he
        by_cases hqn : q.2 = n
        · have hv : v = q.1 := c v (by simp [hqn])
          rw [hqn] at he
          rw [hseen e he, hv]
        · apply c e
          have : (q.2 == n) = false := by simpa using hqn
          simp [List.lookup_cons, this, he]
    · rw [List.pairwise_cons]
      refine ⟨?_, h2⟩
      intro q hq hnq
      exact (h1 q hq).2.2 v (by simp [← hnq])


/-! ### phase 1: detach the renamed initializers -/

theorem popInit_spec {w : World} (h : InitsOk w) {g v : Nat} (hio : w.initOf v = some g) :
    ∃ w', popInit (w, false) g v = (w', false) ∧ InitsOk w' ∧ w'.vname = w.vname ∧ w'.nname = w.nname
      ∧ w'.initOf = upd w.initOf v none
      ∧ ∀ g' e, e ∈ w'.dicts g' ↔ (e ∈ w.dicts g' ∧ e.2 ≠ v) := by
  obtain ⟨k, hk, _, hkm⟩ := h.name_of_init hio
  have hhas : dictHas (w.dicts g) k = true := dictHas_iff.mpr ⟨v, hkm⟩
  have hlook : (w.dicts g).lookup k = some v := ListFacts.lookup_of_mem_nodup (h.keys_nodup g) hkm
  obtain ⟨ok, hmem⟩ := h.erase hio hk
  exact ⟨{ w with dicts := upd w.dicts g (dictErase (w.dicts g) k), initOf := upd w.initOf v none },
    by simp [popInit, hk, hhas, hlook], ok, rfl, rfl, rfl, hmem⟩

theorem popAll_spec : ∀ (T : List (Nat × Nat × String)) {w : World}, InitsOk w →
    (∀ t ∈ T, w.initOf t.2.1 = some t.1) → (T.map (·.2.1)).Nodup →
    ∃ w', T.foldl (fun wr t => popInit wr t.1 t.2.1) (w, false) = (w', false) ∧ InitsOk w'
      ∧ w'.vname = w.vname ∧ w'.nname = w.nname
      ∧ (∀ u, w'.initOf u = if u ∈ T.map (·.2.1) then none else w.initOf u)
      ∧ ∀ g e, e ∈ w'.dicts g ↔ (e ∈ w.dicts g ∧ e.2 ∉ T.map (·.2.1))
  | [], w, h, _, _ => ⟨w, rfl, h, rfl, rfl, fun _ => by simp, fun _ _ => by simp⟩
  | t :: T, w, h, hio, hnd => by
    simp only [List.map_cons, List.nodup_cons] at hnd
    obtain ⟨w1, e1, ok1, v1, n1, i1, d1⟩ := popInit_spec h (hio t List.mem_cons_self)
    have hio1 : ∀ t' ∈ T, w1.initOf t'.2.1 = some t'.1 := by
      intro t' ht'
      have : t'.2.1 ≠ t.2.1 := fun e => hnd.1 (e ▸ List.mem_map.mpr ⟨t', ht', rfl⟩)
      rw [i1, upd_ne _ _ this]; exact hio t' (List.mem_cons_of_mem _ ht')
    obtain ⟨w2, e2, ok2, v2, n2, i2, d2⟩ := popAll_spec T ok1 hio1 hnd.2
    refine ⟨w2, by simp only [List.foldl_cons, e1, e2], ok2, v2.trans v1, n2.trans n1, ?_, ?_⟩
    · intro u
      rw [i2 u, i1]
      simp only [List.map_cons, List.mem_cons]
      by_cases hu : u = t.2.1
      · subst hu; simp
      · rw [upd_ne _ _ hu]; simp only [hu, false_or]
    · intro g e
      rw [d2 g e, d1 g e]
      simp only [List.map_cons, List.mem_cons, not_or]
      exact ⟨fun ⟨⟨a, b⟩, c⟩ => ⟨a, b, c⟩, fun ⟨a, b, c⟩ => ⟨⟨a, b⟩, c⟩⟩

/-! ### phase 2: assign the names (none of the values is an initializer now) -/

theorem setAll_spec : ∀ (ps : List (Nat × String)) {w : World}, (∀ p ∈ ps, w.initOf p.1 = none) →
    (ps.map (·.1)).Nodup →
    ∃ w', ps.foldl setNameStep (w, false) = (w', false) ∧ w'.nname = w.nname ∧ w'.initOf = w.initOf
      ∧ w'.dicts = w.dicts ∧ (∀ p ∈ ps, w'.vname p.1 = some p.2) ∧ (∀ u, u ∉ ps.map (·.1) → w'.vname u = w.vname u)
  | [], w, _, _ => ⟨w, rfl, rfl, rfl, rfl, fun _ h => by simp at h, fun _ _ => rfl⟩
  | p :: ps, w, hio, hnd => by
    simp only [List.map_cons, List.nodup_cons] at hnd
    obtain ⟨r1, v1, n1, i1, d1⟩ := setName_plain (hio p List.mem_cons_self) p.2
    obtain ⟨w2, e2, n2, i2, d2, a2, o2⟩ := setAll_spec ps (w := (w.setName p.1 p.2).1)
      (fun q hq => by rw [i1]; exact hio q (List.mem_cons_of_mem _ hq)) hnd.2
    refine ⟨w2, ?_, n2.trans n1, i2.trans i1, d2.trans d1, ?_, ?_⟩
    · simp only [List.foldl_cons]
      have : setNameStep (w, false) p = ((w.setName p.1 p.2).1, false) := by
        simp only [setNameStep, Bool.false_eq_true, if_false]
        exact Prod.ext rfl r1
      rw [this, e2]
    · intro q hq
      rcases List.mem_cons.mp hq with rfl | hq
      · rw [o2 q.1 hnd.1, v1]; simp
      · exact a2 q hq
    · intro u hu
      simp only [List.map_cons, List.mem_cons, not_or] at hu
      rw [o2 u hu.2, v1, upd_ne _ _ hu.1]


/-! ### phase 3: register the renamed initializers again -/

theorem addInit_spec {w : World} (h : InitsOk w) {g v : Nat} {n : String} (hio : w.initOf v = none)
    (hn : w.vname v = some n) (hne : n ≠ "") (hfresh : ∀ u, (n, u) ∉ w.dicts g) :
    ∃ w', addInit (w, false) g v = (w', false) ∧ InitsOk w' ∧ w'.vname = w.vname ∧ w'.nname = w.nname
      ∧ w'.initOf = upd w.initOf v (some g)
      ∧ ∀ g' e, e ∈ w'.dicts g' ↔ (e ∈ w.dicts g' ∨ (g' = g ∧ e = (n, v))) := by
  have hlook : (w.dicts g).lookup n = none := ListFacts.lookup_none_iff.mpr hfresh
  have hany : (w.dicts g).any (fun e => e.1 == n) = false := by
    rw [List.any_eq_false]
    intro e he hk
    exact hfresh e.2 (by have : e.1 = n := by simpa using hk
                         rw [← this]; exact he)
  have hset : dictSet (w.dicts g) n v = w.dicts g ++ [(n, v)] := by simp [dictSet, hany]
  obtain ⟨ok, hmem⟩ := h.insert hio hn hne hfresh
  refine ⟨{ w with dicts := upd w.dicts g (w.dicts g ++ [(n, v)]), initOf := upd w.initOf v (some g) }, ?_, ok, rfl, rfl, rfl, hmem⟩
  have hne' : (n == "") = false := by simpa using hne
  simp [addInit, addInit.addCore, hn, hne', hio, hlook, hset]

theorem addAll_spec : ∀ (T : List (Nat × Nat × String)) {w : World}, InitsOk w →
    (∀ t ∈ T, w.initOf t.2.1 = none ∧ w.vname t.2.1 = some t.2.2 ∧ t.2.2 ≠ "" ∧ ∀ u, (t.2.2, u) ∉ w.dicts t.1) →
    (T.map (·.2.1)).Nodup → (∀ a ∈ T, ∀ b ∈ T, a.1 = b.1 → a.2.2 = b.2.2 → a.2.1 = b.2.1) →
    ∃ w', T.foldl (fun wr t => addInit wr t.1 t.2.1) (w, false) = (w', false) ∧ InitsOk w'
      ∧ w'.vname = w.vname ∧ w'.nname = w.nname
      ∧ (∀ t ∈ T, w'.initOf t.2.1 = some t.1) ∧ (∀ u, u ∉ T.map (·.2.1) → w'.initOf u = w.initOf u)
      ∧ ∀ g e, e ∈ w'.dicts g ↔ (e ∈ w.dicts g ∨ ∃ t ∈ T, t.1 = g ∧ e = (t.2.2, t.2.1))
  | [], w, h, _, _, _ => ⟨w, rfl, h, rfl, rfl, fun _ h => by simp at h, fun _ _ => rfl, fun _ _ => by simp⟩
  | t :: T, w, h, hpre, hnd, hinj => by
    simp only [List.map_cons, List.nodup_cons] at hnd
    obtain ⟨p1, p2, p3, p4⟩ := hpre t List.mem_cons_self
    obtain ⟨w1, e1, ok1, v1, n1, i1, d1⟩ := addInit_spec h p1 p2 p3 p4
    have hne : ∀ t' ∈ T, t'.2.1 ≠ t.2.1 := fun t' ht' e => hnd.1 (e ▸ List.mem_map.mpr ⟨t', ht', rfl⟩)
    have hpre1 : ∀ t' ∈ T, w1.initOf t'.2.1 = none ∧ w1.vname t'.2.1 = some t'.2.2 ∧ t'.2.2 ≠ ""
        ∧ ∀ u, (t'.2.2, u) ∉ w1.dicts t'.1 := by
      intro t' ht'
      obtain ⟨q1, q2, q3, q4⟩ := hpre t' (List.mem_cons_of_mem _ ht')
      refine ⟨by rw [i1, upd_ne _ _ (hne t' ht')]; exact q1, by rw [v1]; exact q2, q3, ?_⟩
      intro u hu
      rcases (d1 t'.1 (t'.2.2, u)).mp hu with hu | ⟨hg, he⟩
      · exact q4 u hu
      · simp only [Prod.mk.injEq] at he
        exact hne t' ht' (hinj t' (List.mem_cons_of_mem _ ht') t List.mem_cons_self hg he.1)
    obtain ⟨w2, e2, ok2, v2, n2, i2, o2, d2⟩ := addAll_spec T ok1 hpre1 hnd.2
      (fun a ha b hb => hinj a (List.mem_cons_of_mem _ ha) b (List.mem_cons_of_mem _ hb))
    refine ⟨w2, by simp only [List.foldl_cons, e1, e2], ok2, v2.trans v1, n2.trans n1, ?_, ?_, ?_⟩
    · intro t' ht'
      rcases List.mem_cons.mp ht' with rfl | ht'
      · rw [o2 _ hnd.1, i1]; simp
      · exact i2 t' ht'
    · intro u hu
      simp only [List.map_cons, List.mem_cons, not_or] at hu
      rw [o2 u hu.2, i1, upd_ne _ _ hu.1]
    · intro g e
      rw [d2 g e, d1 g e]
      simp only [List.mem_cons, exists_eq_or_imp]
      constructor
      · rintro ((h | ⟨rfl, rfl⟩) | h)
        · exact Or.inl h
        · exact Or.inr (Or.inl ⟨rfl, rfl⟩)
        · exact Or.inr (Or.inr h)
      · rintro (h | ⟨rfl, rfl⟩ | h)
        · exact Or.inl (Or.inl h)
        · exact Or.inl (Or.inr ⟨rfl, rfl⟩)
        · exact Or.inr h


/-! ### all or nothing -/

theorem validateLoop_targets {d : List (String × Nat)} {R : List Nat} {ps : List (Nat × String)}
    (h : validateLoop d R ps [] = true) : ∀ p ∈ ps, ∀ q ∈ ps, p.2 = q.2 → p.1 = q.1 := by
  have hp := (validateLoop_spec d R ps [] h).2
  intro p hp' q hq'
  exact List.Pairwise.forall_of_forall_of_flip (R := fun p q => p.2 = q.2 → p.1 = q.1) (fun _ _ _ => rfl) hp
    (hp.imp (fun {a b} hab e => (hab e.symm).symm)) hp' hq'

theorem group_mem {io : Nat → Option Nat} {ordered : List (Nat × String)} {g v : Nat} {n : String}
    (hp : (v, n) ∈ ordered) (hio : io v = some g) :
    (g, ordered.filter (fun p => io p.1 == some g)) ∈ groupByGraph io ordered := by
  simp only [groupByGraph, List.mem_map, List.mem_eraseDups, List.mem_filterMap]
  exact ⟨g, ⟨(v, n), hp, hio⟩, rfl⟩

/-- the phases after a successful validation: no exception, and the assignment is applied -/
theorem applyRename_spec (w : World) (pairs ordered : List (Nat × String)) (hok : InitsOk w)
    (hd : dedupPairs pairs [] = some ordered) (hval : validateAll w (groupByGraph w.initOf ordered) = true) :
    (applyRename w ordered).2 = false
    ∧ (∀ p ∈ pairs, (applyRename w ordered).1.vname p.1 = some p.2)
    ∧ (∀ u, u ∉ pairs.map (·.1) → (applyRename w ordered).1.vname u = w.vname u)
    ∧ (applyRename w ordered).1.nname = w.nname
    ∧ (applyRename w ordered).1.initOf = w.initOf
    ∧ InitsOk (applyRename w ordered).1
    ∧ ∀ g u, u ∈ (applyRename w ordered).1.inits g ↔ u ∈ w.inits g := by
  unfold applyRename
  simp only
  -- the deduplicated assignment
  obtain ⟨hnd, hmem⟩ := dedupPairs_spec pairs [] ordered hd (by simp)
  have hmem' : ∀ p, p ∈ ordered ↔ p ∈ pairs := fun p => by rw [hmem p]; simp
  -- the renamed initializers
  generalize hT : initTriples (groupByGraph w.initOf ordered) = T
  have hTmem : ∀ g v n, (g, v, n) ∈ T ↔ ((v, n) ∈ ordered ∧ w.initOf v = some g) := by
    intro g v n; rw [← hT]; exact mem_initTriples
  have hTnd : (T.map (·.2.1)).Nodup := by rw [← hT]; exact initTriples_nodup hnd
  -- what validation established
  have hvalid : ∀ t ∈ T, validateLoop (w.dicts t.1)
      ((ordered.filter (fun p => w.initOf p.1 == some t.1)).map (·.1))
      (ordered.filter (fun p => w.initOf p.1 == some t.1)) [] = true := by
    intro t ht
    obtain ⟨g, v, n⟩ := t
    obtain ⟨h1, h2⟩ := (hTmem g v n).mp ht
    have := List.all_eq_true.mp hval _ (group_mem h1 h2)
    simpa using this
  have hin : ∀ t ∈ T, (t.2.1, t.2.2) ∈ ordered.filter (fun p => w.initOf p.1 == some t.1) := by
    intro t ht
    obtain ⟨g, v, n⟩ := t
    obtain ⟨h1, h2⟩ := (hTmem g v n).mp ht
    exact List.mem_filter.mpr ⟨h1, by simpa using h2⟩
  -- phase 1
  obtain ⟨w1, e1, ok1, v1, n1, i1, d1⟩ := popAll_spec T hok
    (fun t ht => by obtain ⟨g, v, n⟩ := t; exact ((hTmem g v n).mp ht).2) hTnd
  -- phase 2
  have hio1 : ∀ p ∈ ordered, w1.initOf p.1 = none := by
    intro p hp
    rw [i1 p.1]
    split
    · rfl
    · rename_i hnot
      cases hio : w.initOf p.1 with
      | none => rfl
      | some g =>
        exfalso; apply hnot
        exact List.mem_map.mpr ⟨(g, p.1, p.2), (hTmem g p.1 p.2).mpr ⟨hp, hio⟩, rfl⟩
  obtain ⟨w2, e2, n2, i2, d2, a2, o2⟩ := setAll_spec ordered hio1 hnd
  have ok2 : InitsOk w2 := by
    refine ⟨?_, fun g => by rw [d2]; exact ok1.keys_nodup g, fun v g hv => by rw [d2]; exact ok1.complete v g (i2 ▸ hv)⟩
    intro g k u hm
    rw [d2] at hm
    have hk := ok1.key_name g k u hm
    have hu : u ∉ ordered.map (·.1) := by
      intro hu
      obtain ⟨p, hp, rfl⟩ := List.mem_map.mp hu
      rw [hio1 p hp] at hk; exact absurd hk.2.2 (by simp)
    exact ⟨by rw [o2 u hu]; exact hk.1, hk.2.1, by rw [i2]; exact hk.2.2⟩
  -- phase 3
  have hpre3 : ∀ t ∈ T, w2.initOf t.2.1 = none ∧ w2.vname t.2.1 = some t.2.2 ∧ t.2.2 ≠ ""
      ∧ ∀ u, (t.2.2, u) ∉ w2.dicts t.1 := by
    intro t ht
    have hv := validateLoop_spec _ _ _ _ (hvalid t ht)
    obtain ⟨c1, c2, _⟩ := hv.1 _ (hin t ht)
    obtain ⟨g, v, n⟩ := t
    obtain ⟨h1, h2⟩ := (hTmem g v n).mp ht
    refine ⟨by rw [i2]; exact hio1 (v, n) h1, a2 (v, n) h1, c1, ?_⟩
    intro u hu
    rw [d2] at hu
    obtain ⟨hu1, hu2⟩ := (d1 g (n, u)).mp hu
    have hl := ListFacts.lookup_of_mem_nodup (hok.keys_nodup g) hu1
    rcases c2 u hl with rfl | hR
    · exact hu2 (List.mem_map.mpr ⟨(g, u, n), ht, rfl⟩)
    · obtain ⟨q, hq, rfl⟩ := List.mem_map.mp hR
      obtain ⟨hq1, hq2⟩ := List.mem_filter.mp hq
      exact hu2 (List.mem_map.mpr ⟨(g, q.1, q.2), (hTmem g q.1 q.2).mpr ⟨hq1, by simpa using hq2⟩, rfl⟩)
  have hinj3 : ∀ a ∈ T, ∀ b ∈ T, a.1 = b.1 → a.2.2 = b.2.2 → a.2.1 = b.2.1 := by
    intro a ha b hb hg hn
    have hb' := hin b hb
    rw [← hg] at hb'
    exact validateLoop_targets (hvalid a ha) _ (hin a ha) _ hb' hn
  obtain ⟨w3, e3, ok3, v3, n3, i3, o3, d3⟩ := addAll_spec T ok2 hpre3 hTnd hinj3
  rw [e1, e2, e3]
  refine ⟨rfl, ?_, ?_, n3.trans (n2.trans n1), ?_, ok3, ?_⟩
  · intro p hp
    show w3.vname p.1 = some p.2
    rw [v3]; exact a2 p ((hmem' p).mpr hp)
  · intro u hu
    show w3.vname u = w.vname u
    rw [v3, o2 u, v1]
    intro hu'
    obtain ⟨p, hp, rfl⟩ := List.mem_map.mp hu'
    exact hu (List.mem_map.mpr ⟨p, (hmem' p).mp hp, rfl⟩)
  · show w3.initOf = w.initOf
    funext u
    by_cases hu : u ∈ T.map (·.2.1)
    · obtain ⟨t, ht, rfl⟩ := List.mem_map.mp hu
      rw [i3 t ht]
      obtain ⟨g, v, n⟩ := t
      exact ((hTmem g v n).mp ht).2.symm
    · rw [o3 u hu, i2, i1 u, if_neg hu]
  · intro g u
    show u ∈ (w3.dicts g).map (·.2) ↔ u ∈ (w.dicts g).map (·.2)
    simp only [List.mem_map]
    constructor
    · rintro ⟨e, he, rfl⟩
      rcases (d3 g e).mp he with he | ⟨t, ht, rfl, rfl⟩
      · rw [d2] at he
        exact ⟨e, ((d1 g e).mp he).1, rfl⟩
      · obtain ⟨g', v, n⟩ := t
        obtain ⟨k, hk⟩ := hok.complete v g' ((hTmem g' v n).mp ht).2
        exact ⟨(k, v), hk, rfl⟩
    · rintro ⟨e, he, rfl⟩
      by_cases hu : e.2 ∈ T.map (·.2.1)
      · obtain ⟨t, ht, htv⟩ := List.mem_map.mp hu
        obtain ⟨g', v, n⟩ := t
        simp only at htv
        have hg : g' = g := by
          have h1 := ((hTmem g' v n).mp ht).2
          have h2 := (hok.key_name g e.1 e.2 (by simpa using he)).2.2
          rw [← htv, h1] at h2
          exact Option.some.inj h2
        exact ⟨(n, v), (d3 g (n, v)).mpr (Or.inr ⟨(g', v, n), ht, hg, rfl⟩), htv⟩
      · exact ⟨e, (d3 g e).mpr (Or.inl (by rw [d2]; exact (d1 g e).mpr ⟨he, hu⟩)), rfl⟩


theorem renameValues_eq (w : World) (pairs : List (Nat × String)) :
    renameValues w pairs = match dedupPairs pairs [] with
      | none => (w, true)
      | some ordered =>
        if !validateAll w (groupByGraph w.initOf ordered) then (w, true) else applyRename w ordered := rfl

/-- **`rename_values` is all-or-nothing** (on a world whose initializers are keyed by names): it
either raises and returns the very same world, or it does not raise and then every requested value
carries its target name, no other name changed, `is_initializer`/graph links are as before, every
dictionary holds the same values and is keyed by the new names. -/
theorem renameValues_spec (w : World) (pairs : List (Nat × String)) (hok : InitsOk w) :
    ((renameValues w pairs).2 = true → (renameValues w pairs).1 = w)
    ∧ ((renameValues w pairs).2 = false →
        (∀ p ∈ pairs, (renameValues w pairs).1.vname p.1 = some p.2)
        ∧ (∀ u, u ∉ pairs.map (·.1) → (renameValues w pairs).1.vname u = w.vname u)
        ∧ (renameValues w pairs).1.nname = w.nname
        ∧ (renameValues w pairs).1.initOf = w.initOf
        ∧ InitsOk (renameValues w pairs).1
        ∧ ∀ g u, u ∈ (renameValues w pairs).1.inits g ↔ u ∈ w.inits g) := by
  rw [renameValues_eq]
  cases hd : dedupPairs pairs [] with
  | none => exact ⟨fun _ => rfl, fun h => (by cases h)⟩
  | some ordered =>
    simp only
    by_cases hval : validateAll w (groupByGraph w.initOf ordered) = true
    swap
    · have : (!validateAll w (groupByGraph w.initOf ordered)) = true := by simpa using hval
      rw [if_pos this]
      exact ⟨fun _ => rfl, fun h => (by cases h)⟩
    have : ¬ ((!validateAll w (groupByGraph w.initOf ordered)) = true) := by simp [hval]
    rw [if_neg this]
    obtain ⟨h0, h1⟩ := applyRename_spec w pairs ordered hok hd hval
    exact ⟨fun h => (by rw [h0] at h; cases h), fun _ => h1⟩


/-! ### the backing tensors: rename first, undo on refusal -/

theorem renTensor_some_iff (w : TWorld) (p : Nat × String) (t : Nat) :
    renTensor w p = some t ↔ (w.constOf p.1 = some t ∧ w.vname p.1 ≠ some p.2) := by
  unfold renTensor
  cases hc : w.constOf p.1 with
  | none => simp
  | some t' =>
    by_cases hn : w.vname p.1 = some p.2
    · simp [hn]
    · simp [hn]

/-- when the loop raises, the undo list restores the tensor names it started from -/
theorem tensorLoop_raise (w : TWorld) (tn0 : Nat → Option String) : ∀ (ps : List (Nat × String))
    (tn : Nat → Option String) (undo : List (Nat × Option String)), undoAll undo tn = tn0 →
    (tensorLoop w ps tn undo).2 = true → (tensorLoop w ps tn undo).1 = tn0 := by
  intro ps
  induction ps with
  | nil => intro tn undo _ h; simp [tensorLoop] at h
  | cons p ps ih =>
    intro tn undo hu h
    simp only [tensorLoop] at h ⊢
    cases hr : renTensor w p with
    | none => simp only [hr] at h ⊢; exact ih _ _ hu h
    | some t =>
      simp only [hr] at h ⊢
      by_cases hf : w.frozen t = true
      · simp only [hf, if_true]; exact hu
      · simp only [hf] at h ⊢
        refine ih _ _ ?_ h
        simp only [undoAll, upd_upd_same, upd_same]
        exact hu

/-- when the loop does not raise it performed exactly the assignments of `tensorAssign` -/
theorem tensorLoop_ok (w : TWorld) : ∀ (ps : List (Nat × String)) (tn : Nat → Option String)
    (undo : List (Nat × Option String)), (tensorLoop w ps tn undo).2 = false →
    (tensorLoop w ps tn undo).1 = tensorAssign w ps tn := by
  intro ps
  induction ps with
  | nil => intro tn undo _; rfl
  | cons p ps ih =>
    intro tn undo h
    simp only [tensorLoop, tensorAssign] at h ⊢
    cases hr : renTensor w p with
    | none => simp only [hr] at h ⊢; exact ih _ _ h
    | some t =>
      simp only [hr] at h ⊢
      by_cases hf : w.frozen t = true
      · simp [hf] at h
      · simp only [hf] at h ⊢
        exact ih _ _ h

theorem tensorLoop_noraise (w : TWorld) : ∀ (ps : List (Nat × String)) (tn : Nat → Option String)
    (undo : List (Nat × Option String)),
    (∀ p ∈ ps, ∀ t, w.constOf p.1 = some t → w.vname p.1 ≠ some p.2 → w.frozen t = false) →
    (tensorLoop w ps tn undo).2 = false := by
  intro ps
  induction ps with
  | nil => intro tn undo _; rfl
  | cons p ps ih =>
    intro tn undo h
    have hrest := fun q hq => h q (List.mem_cons_of_mem _ hq)
    simp only [tensorLoop]
    cases hr : renTensor w p with
    | none => exact ih _ _ hrest
    | some t =>
      obtain ⟨h1, h2⟩ := (renTensor_some_iff w p t).mp hr
      have := h p List.mem_cons_self t h1 h2
      simp only [this, Bool.false_eq_true, if_false]
      exact ih _ _ hrest

/-- what the assignments do to one tensor `t` when all pairs that touch it agree on the target -/
theorem tensorAssign_spec (w : TWorld) (t : Nat) (n : String) : ∀ (ps : List (Nat × String)) (tn : Nat → Option String),
    (∀ q ∈ ps, renTensor w q = some t → q.2 = n) →
    (tensorAssign w ps tn t = some n ∧ ∃ q ∈ ps, renTensor w q = some t)
    ∨ (tensorAssign w ps tn t = tn t ∧ ∀ q ∈ ps, renTensor w q ≠ some t) := by
  intro ps
  induction ps with
  | nil => intro tn _; exact Or.inr ⟨rfl, fun q hq => by simp at hq⟩
  | cons p ps ih =>
    intro tn h
    have hrest := fun q hq => h q (List.mem_cons_of_mem _ hq)
    simp only [tensorAssign]
    cases hr : renTensor w p with
    | none =>
      dsimp only
      rcases ih tn hrest with ⟨a, q, hq, b⟩ | ⟨a, b⟩
      · exact Or.inl ⟨a, q, List.mem_cons_of_mem _ hq, b⟩
      · refine Or.inr ⟨a, ?_⟩
        intro q hq
        rcases List.mem_cons.mp hq with rfl | hq
        · rw [hr]; simp
        · exact b q hq
    | some t' =>
      dsimp only
      by_cases htt : t' = t
      · subst htt
        have hm : p.2 = n := h p List.mem_cons_self hr
        rcases ih (upd tn t' (some p.2)) hrest with ⟨a, q, hq, b⟩ | ⟨a, b⟩
        · exact Or.inl ⟨a, q, List.mem_cons_of_mem _ hq, b⟩
        · exact Or.inl ⟨by rw [a, upd_eq, hm], p, List.mem_cons_self, hr⟩
      · rcases ih (upd tn t' (some p.2)) hrest with ⟨a, q, hq, b⟩ | ⟨a, b⟩
        · exact Or.inl ⟨a, q, List.mem_cons_of_mem _ hq, b⟩
        · refine Or.inr ⟨by rw [a, upd_ne _ _ (Ne.symm htt)], ?_⟩
          intro q hq
          rcases List.mem_cons.mp hq with rfl | hq
          · rw [hr]; simpa using htt
          · exact b q hq

theorem tensorAssign_untouched (w : TWorld) (t : Nat) : ∀ (ps : List (Nat × String)) (tn : Nat → Option String),
    (∀ q ∈ ps, renTensor w q ≠ some t) → tensorAssign w ps tn t = tn t
  | [], _, _ => rfl
  | p :: ps, tn, h => by
    have hrest := fun q hq => h q (List.mem_cons_of_mem _ hq)
    simp only [tensorAssign]
    cases hr : renTensor w p with
    | none => exact tensorAssign_untouched w t ps tn hrest
    | some t' =>
      have htt : t ≠ t' := fun e => h p List.mem_cons_self (by rw [hr, e])
      dsimp only
      rw [tensorAssign_untouched w t ps _ hrest, upd_ne _ _ htt]

theorem tensorAssign_congr (w : TWorld) : ∀ (ps : List (Nat × String)) (tn tn' : Nat → Option String) (t : Nat),
    (tn t = tn' t) → tensorAssign w ps tn t = tensorAssign w ps tn' t := by
  intro ps
  induction ps with
  | nil => intro tn tn' t h; exact h
  | cons p ps ih =>
    intro tn tn' t h
    simp only [tensorAssign]
    cases hr : renTensor w p with
    | none => exact ih _ _ _ h
    | some t' =>
      apply ih
      by_cases htt : t = t'
      · subst htt; simp
      · rw [upd_ne _ _ htt, upd_ne _ _ htt]; exact h

/-! ### when `rename_values` succeeds -/

theorem dedupPairs_complete : ∀ (pairs acc : List (Nat × String)),
    (∀ p ∈ pairs, ∀ q ∈ pairs, p.1 = q.1 → p.2 = q.2) → (∀ p ∈ pairs, ∀ q ∈ acc, p.1 = q.1 → p.2 = q.2) →
    ∃ o, dedupPairs pairs acc = some o := by
  intro pairs
  induction pairs with
  | nil => intro acc _ _; exact ⟨_, rfl⟩
  | cons p rest ih =>
    intro acc h1 h2
    obtain ⟨v, n⟩ := p
    simp only [dedupPairs]
    have h1' := fun a ha b hb => h1 a (List.mem_cons_of_mem _ ha) b (List.mem_cons_of_mem _ hb)
    split
    · rename_i n' hl
      have : n = n' := h2 (v, n) List.mem_cons_self (v, n') (ListFacts.mem_of_lookup hl) rfl
      subst this
      simp only [bne_self_eq_false, Bool.false_eq_true, if_false]
      exact ih acc h1' (fun a ha b hb => h2 a (List.mem_cons_of_mem _ ha) b hb)
    · refine ih _ h1' ?_
      intro a ha b hb hab
      rcases List.mem_cons.mp hb with rfl | hb
      · exact h1 a (List.mem_cons_of_mem _ ha) (v, n) List.mem_cons_self hab
      · exact h2 a (List.mem_cons_of_mem _ ha) b hb hab

theorem validateLoop_complete (d : List (String × Nat)) (R : List Nat) :
    ∀ (ps : List (Nat × String)) (seenT : List (String × Nat)),
      (∀ p ∈ ps, p.2 ≠ "" ∧ (∀ ex, d.lookup p.2 = some ex → ex = p.1 ∨ ex ∈ R)
          ∧ (∀ e, seenT.lookup p.2 = some e → e = p.1)) →
      ps.Pairwise (fun p q => p.2 = q.2 → p.1 = q.1) → validateLoop d R ps seenT = true := by
  intro ps
  induction ps with
  | nil => intro _ _ _; rfl
  | cons p ps ih =>
    intro seenT h hp
    obtain ⟨v, n⟩ := p
    obtain ⟨c1, c2, c3⟩ := h (v, n) List.mem_cons_self
    rw [List.pairwise_cons] at hp
    simp only [validateLoop]
    have e1 : (n == "") = false := by simpa using c1
    have e2 : isOther (seenT.lookup n) v = false := by
      cases hl : seenT.lookup n with
      | none => rfl
      | some e => simp [isOther, c3 e hl]
    have e3 : isOutside (d.lookup n) v R = false := by
      cases hl : d.lookup n with
      | none => rfl
      | some ex =>
        rcases c2 ex hl with rfl | hR
        · simp [isOutside]
        · simp [isOutside, hR]
    simp only [e1, e2, e3, Bool.false_eq_true, if_false]
    refine ih _ ?_ hp.2
    intro q hq
    obtain ⟨a, b, c⟩ := h q (List.mem_cons_of_mem _ hq)
    refine ⟨a, b, ?_⟩
    intro e he
    simp only [List.lookup_cons] at he
    by_cases hqn : q.2 = n
    · simp only [hqn, beq_self_eq_true, Option.some.injEq] at he
      rw [← he]; exact (hp.1 q hq hqn.symm)
    · have : (q.2 == n) = false := by simpa using hqn
      simp only [this] at he
      exact c e he


theorem validateAll_complete (w : World) (ordered : List (Nat × String))
    (hne : ∀ p ∈ ordered, w.initOf p.1 ≠ none → p.2 ≠ "")
    (hdist : ∀ p ∈ ordered, ∀ q ∈ ordered, w.initOf p.1 ≠ none → w.initOf p.1 = w.initOf q.1 → p.2 = q.2 → p.1 = q.1)
    (hout : ∀ p ∈ ordered, ∀ g, w.initOf p.1 = some g → ∀ u, (p.2, u) ∈ w.dicts g → u = p.1 ∨ (u ∈ ordered.map (·.1) ∧ w.initOf u = some g)) :
    validateAll w (groupByGraph w.initOf ordered) = true := by
  simp only [validateAll, List.all_eq_true]
  intro gp hgp
  simp only [groupByGraph, List.mem_map, List.mem_eraseDups, List.mem_filterMap] at hgp
  obtain ⟨g, _, rfl⟩ := hgp
  simp only
  have hmemf : ∀ p, p ∈ ordered.filter (fun p => w.initOf p.1 == some g) ↔ (p ∈ ordered ∧ w.initOf p.1 = some g) := by
    intro p; simp [List.mem_filter]
  apply validateLoop_complete
  · intro p hp
    obtain ⟨hp1, hp2⟩ := (hmemf p).mp hp
    refine ⟨hne p hp1 (by rw [hp2]; simp), ?_, fun e he => by simp at he⟩
    intro ex hex
    rcases hout p hp1 g hp2 ex (ListFacts.mem_of_lookup hex) with h | ⟨h1, h2⟩
    · exact Or.inl h
    · right
      obtain ⟨q, hq, rfl⟩ := List.mem_map.mp h1
      exact List.mem_map.mpr ⟨q, (hmemf q).mpr ⟨hq, h2⟩, rfl⟩
  · have : ∀ p ∈ ordered.filter (fun p => w.initOf p.1 == some g), ∀ q ∈ ordered.filter (fun p => w.initOf p.1 == some g),
        p.2 = q.2 → p.1 = q.1 := by
      intro p hp q hq he
      obtain ⟨hp1, hp2⟩ := (hmemf p).mp hp
      obtain ⟨hq1, hq2⟩ := (hmemf q).mp hq
      exact hdist p hp1 q hq1 (by rw [hp2]; simp) (by rw [hp2, hq2]) he
    exact List.pairwise_of_forall_mem_list (fun p hp q hq => this p hp q hq)

/-- **`rename_values` with backing tensors is all-or-nothing**, and when it goes through every
tensor that backs renamed values carries the target name (when the values sharing it agree) -/
theorem renameValuesT_spec (w : TWorld) (pairs : List (Nat × String)) (hok : InitsOk w.toWorld) :
    ((renameValuesT w pairs).2 = true → (renameValuesT w pairs).1 = w)
    ∧ ((renameValuesT w pairs).2 = false →
        (∀ p ∈ pairs, (renameValuesT w pairs).1.vname p.1 = some p.2)
        ∧ (∀ u, u ∉ pairs.map (·.1) → (renameValuesT w pairs).1.vname u = w.vname u)
        ∧ (renameValuesT w pairs).1.nname = w.nname
        ∧ (renameValuesT w pairs).1.initOf = w.initOf
        ∧ InitsOk (renameValuesT w pairs).1.toWorld
        ∧ (∀ g u, u ∈ (renameValuesT w pairs).1.toWorld.inits g ↔ u ∈ w.toWorld.inits g)
        ∧ (renameValuesT w pairs).1.constOf = w.constOf
        ∧ (∀ p ∈ pairs, ∀ t, renTensor w p = some t → (∀ q ∈ pairs, renTensor w q = some t → q.2 = p.2) →
              (renameValuesT w pairs).1.tname t = some p.2)
        ∧ (∀ t, (∀ q ∈ pairs, renTensor w q ≠ some t) → (renameValuesT w pairs).1.tname t = w.tname t)) := by
  unfold renameValuesT
  cases hd : dedupPairs pairs [] with
  | none => exact ⟨fun _ => rfl, fun h => (by cases h)⟩
  | some ordered =>
    simp only
    by_cases hval : validateAll w.toWorld (groupByGraph w.initOf ordered) = true
    swap
    · have : (!validateAll w.toWorld (groupByGraph w.initOf ordered)) = true := by simpa using hval
      rw [if_pos this]
      exact ⟨fun _ => rfl, fun h => (by cases h)⟩
    have : ¬ ((!validateAll w.toWorld (groupByGraph w.initOf ordered)) = true) := by simp [hval]
    rw [if_neg this]
    obtain ⟨_, hmem⟩ := dedupPairs_spec pairs [] ordered hd (by simp)
    have hmem' : ∀ p, p ∈ ordered ↔ p ∈ pairs := fun p => by rw [hmem p]; simp
    by_cases htl : (tensorLoop w ordered w.tname []).2 = true
    · rw [if_pos htl]
      have := tensorLoop_raise w w.tname ordered w.tname [] rfl htl
      refine ⟨fun _ => ?_, fun h => (by cases h)⟩
      show { w with tname := (tensorLoop w ordered w.tname []).1 } = w
      rw [this]
    · rw [if_neg htl]
      have htl' : (tensorLoop w ordered w.tname []).2 = false := by simpa using htl
      have htn := tensorLoop_ok w ordered w.tname [] htl'
      obtain ⟨h0, h1, h2, h3, h4, h5, h6⟩ := applyRename_spec w.toWorld pairs ordered hok hd hval
      refine ⟨fun h => (by rw [h0] at h; cases h), fun _ => ⟨h1, h2, h3, h4, h5, h6, rfl, ?_, ?_⟩⟩
      · intro p hp t hr hall
        show tensorAssign w ordered (tensorLoop w ordered w.tname []).1 t = some p.2
        have hall' : ∀ q ∈ ordered, renTensor w q = some t → q.2 = p.2 := fun q hq => hall q ((hmem' q).mp hq)
        rcases tensorAssign_spec w t p.2 ordered (tensorLoop w ordered w.tname []).1 hall' with ⟨a, _⟩ | ⟨_, b⟩
        · exact a
        · exact absurd hr (b p ((hmem' p).mpr hp))
      · intro t hno
        show tensorAssign w ordered (tensorLoop w ordered w.tname []).1 t = w.tname t
        have hno' : ∀ q ∈ ordered, renTensor w q ≠ some t := fun q hq => hno q ((hmem' q).mp hq)
        -- the tensors were renamed by the `try:` loop and are assigned the same names once more by the setters
        rw [htn, tensorAssign_untouched w t ordered _ hno', tensorAssign_untouched w t ordered _ hno']

/-- **`rename_values` succeeds** whenever nothing forces it to refuse: no value is given two
different targets, initializers get non-empty targets that are pairwise different per graph and do
not hit an initializer outside the renamed set, and no tensor refuses its new name.  Swaps, cycles
and arbitrary permutations of initializer names satisfy this. -/
theorem renameValuesT_succeeds (w : TWorld) (pairs : List (Nat × String)) (hok : InitsOk w.toWorld)
    (hcons : ∀ p ∈ pairs, ∀ q ∈ pairs, p.1 = q.1 → p.2 = q.2)
    (hne : ∀ p ∈ pairs, w.initOf p.1 ≠ none → p.2 ≠ "")
    (hdist : ∀ p ∈ pairs, ∀ q ∈ pairs, w.initOf p.1 ≠ none → w.initOf p.1 = w.initOf q.1 → p.2 = q.2 → p.1 = q.1)
    (hout : ∀ p ∈ pairs, ∀ g, w.initOf p.1 = some g → ∀ u, (p.2, u) ∈ w.dicts g → u ∈ pairs.map (·.1))
    (hfz : ∀ p ∈ pairs, ∀ t, renTensor w p = some t → w.frozen t = false) :
    (renameValuesT w pairs).2 = false := by
  obtain ⟨ordered, hd⟩ := dedupPairs_complete pairs [] hcons (fun _ _ q hq => by simp at hq)
  obtain ⟨_, hmem⟩ := dedupPairs_spec pairs [] ordered hd (by simp)
  have hmem' : ∀ p, p ∈ ordered ↔ p ∈ pairs := fun p => by rw [hmem p]; simp
  have hval : validateAll w.toWorld (groupByGraph w.initOf ordered) = true := by
    apply validateAll_complete
    · exact fun p hp => hne p ((hmem' p).mp hp)
    · exact fun p hp q hq => hdist p ((hmem' p).mp hp) q ((hmem' q).mp hq)
    · intro p hp g hg u hu
      right
      have h1 := hout p ((hmem' p).mp hp) g hg u hu
      obtain ⟨q, hq, rfl⟩ := List.mem_map.mp h1
      exact ⟨List.mem_map.mpr ⟨q, (hmem' q).mpr hq, rfl⟩, (hok.key_name g p.2 q.1 hu).2.2⟩
  have htl : (tensorLoop w ordered w.tname []).2 = false := by
    apply tensorLoop_noraise
    intro p hp t h1 h2
    exact hfz p ((hmem' p).mp hp) t ((renTensor_some_iff w p t).mpr ⟨h1, h2⟩)
  obtain ⟨h0, _⟩ := applyRename_spec w.toWorld pairs ordered hok hd hval
  unfold renameValuesT
  simp only [hd, hval, Bool.not_true, Bool.false_eq_true, if_false, htl]
  exact h0

end IrVerif.Names
