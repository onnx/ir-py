/-
Lemmas/InlineWF.lean — the clone of a function body is again a well-formed node list: its value ids are
the fresh interval handed out by the Cloner (hence SSA), every node reads values that exist before it
(hence topologically ordered), the outputs of cloned subgraphs are bound in them (closed), and what it
reads from outside is what the value map pointed to.  This is what processing the cloned nodes (nested
calls) needs.
-/
import IrVerif.Lemmas.InlineCall
namespace IrVerif.Inline
open IrVerif.Sem IrVerif.Passes

theorem nodupB_freshIds (next n : Nat) : nodupB (freshIds next n) = true := by
  rw [nodupB_iff]
  exact List.nodup_range' (step := 1) (by decide)

theorem outsTop_eraseNodes_cons (n : FNode) (ns : List FNode) :
    outsTop (eraseNodes (n :: ns)) = (eraseN n).outs ++ outsTop (eraseNodes ns) := by
  simp [outsTop]

theorem mem_filterMap_bind {vm : VMap} {ins : List (Option VId)} {w : VId}
    (h : w ∈ (ins.map (fun o => o.bind (mapV vm))).filterMap id) : ∃ v, mapV vm v = some w := by
  simp only [List.mem_filterMap, List.mem_map, id] at h
  obtain ⟨o, ⟨o0, _, rfl⟩, ho⟩ := h
  cases o0 with
  | none => simp at ho
  | some v => exact ⟨v, ho⟩

theorem ivl_append {A B : List VId} {n0 n1 n2 : Nat} (hA : ∀ w ∈ A, n0 ≤ w ∧ w < n1) (hB : ∀ w ∈ B, n1 ≤ w ∧ w < n2)
    (h01 : n0 ≤ n1) (h12 : n1 ≤ n2) : ∀ w ∈ A ++ B, n0 ≤ w ∧ w < n2 := by
  intro w hw
  rcases List.mem_append.1 hw with hw | hw
  · exact ⟨(hA w hw).1, Nat.lt_of_lt_of_le (hA w hw).2 h12⟩
  · exact ⟨Nat.le_trans h01 (hB w hw).1, (hB w hw).2⟩

theorem reads_append {Q : VId → Prop} {lo : Nat} {A B : List VId} {n1 n2 : Nat}
    (hA : ∀ w ∈ A, w < n1 ∧ (Q w ∨ lo ≤ w)) (hB : ∀ w ∈ B, w < n2 ∧ (Q w ∨ lo ≤ w)) (h12 : n1 ≤ n2) :
    ∀ w ∈ A ++ B, w < n2 ∧ (Q w ∨ lo ≤ w) := by
  intro w hw
  rcases List.mem_append.1 hw with hw | hw
  · exact ⟨Nat.lt_of_lt_of_le (hA w hw).1 h12, (hA w hw).2⟩
  · exact hB w hw

/-- the lists and flags are parameters so that one record serves a graph and a list of graphs -/
structure BodiesWF (Q : VId → Prop) (lo next nx : Nat) (defs refs : List VId) (s nf c : Bool) : Prop where
  defs : ∀ w ∈ defs, next ≤ w ∧ w < nx
  refs : ∀ w ∈ refs, w < nx ∧ (Q w ∨ lo ≤ w)
  ssa : s = true
  nofwd : nf = true
  closed : c = true
  le : next ≤ nx

structure NodesWF (Q : VId → Prop) (lo next : Nat) (vm : VMap) (souts : List VId) (r1 : List Node) (rvm : VMap)
    (nx : Nat) : Prop where
  defs : ∀ w ∈ defsNodes r1, next ≤ w ∧ w < nx
  refs : ∀ w ∈ refsNodes r1, w < nx ∧ (Q w ∨ lo ≤ w)
  ssa : ssaNodes r1 = true
  nofwd : noFwdNodes r1 = true
  closed : closedNodes r1 = true
  /-- the value map after the clone, on and off the outputs `souts` of the original -/
  img : ∀ v ∈ souts, ∃ w ∈ outsTop r1, mapV rvm v = some w
  keep : ∀ v, v ∉ souts → mapV rvm v = mapV vm v
  vlt : VLt rvm nx
  le : next ≤ nx
  vfrom : VFrom Q lo rvm

structure NodeWF (Q : VId → Prop) (lo next : Nat) (vm : VMap) (souts : List VId) (n' : Node) (rvm : VMap)
    (nx : Nat) : Prop where
  defs : ∀ w ∈ defsN n', next ≤ w ∧ w < nx
  refs : ∀ w ∈ refsN n', w < nx ∧ (Q w ∨ lo ≤ w)
  insLt : ∀ w ∈ n'.ins.filterMap id, w < next
  /-- for `noFwd` of the list the node is consed to -/
  sep : ∀ w ∈ refsBodies n'.bodies, ∀ u ∈ n'.outs, w < u
  ssa : ssaN n' = true
  nofwd : noFwdN n' = true
  closed : closedN n' = true
  img : ∀ v ∈ souts, ∃ w ∈ n'.outs, mapV rvm v = some w
  keep : ∀ v, v ∉ souts → mapV rvm v = mapV vm v
  vlt : VLt rvm nx
  le : next ≤ nx
  vfrom : VFrom Q lo rvm

section
variable (am : List (String × FAttr)) (Q : VId → Prop) (lo : Nat)

theorem clone_wf :
    let G := fun vm next (b : FGraph) (r : FGraph × Nat) => VLt vm next → VFrom Q lo vm → lo ≤ next →
      closedG (eraseG b) = true →
      BodiesWF Q lo next r.2 (defsG (eraseG r.1)) (refsG (eraseG r.1)) (ssaG (eraseG r.1)) (noFwdG (eraseG r.1))
        (closedG (eraseG r.1))
    let Ns := fun vm next (ns : List FNode) (r : List FNode × VMap × Nat) => VLt vm next → VFrom Q lo vm → lo ≤ next →
      closedNodes (eraseNodes ns) = true → NodesWF Q lo next vm (outsTop (eraseNodes ns)) (eraseNodes r.1) r.2.1 r.2.2
    let N := fun vm next (n : FNode) (r : FNode × VMap × Nat) => VLt vm next → VFrom Q lo vm → lo ≤ next →
      closedN (eraseN n) = true → NodeWF Q lo next vm (eraseN n).outs (eraseN r.1) r.2.1 r.2.2
    let Bs := fun vm next (bs : List FGraph) (r : List FGraph × Nat) => VLt vm next → VFrom Q lo vm → lo ≤ next →
      closedBodies (eraseBodies bs) = true →
      BodiesWF Q lo next r.2 (defsBodies (eraseBodies r.1)) (refsBodies (eraseBodies r.1)) (ssaBodies (eraseBodies r.1))
        (noFwdBodies (eraseBodies r.1)) (closedBodies (eraseBodies r.1))
    (∀ vm next b, G vm next b (cloneG am vm next b)) ∧ (∀ vm next ns, Ns vm next ns (cloneNodes am vm next ns)) ∧
      (∀ vm next n, N vm next n (cloneN am vm next n)) ∧ ∀ vm next bs, Bs vm next bs (cloneBodies am vm next bs) := by
  intro G Ns N Bs
  refine cloneG.mutual_induct_unfolding am G Ns N Bs ?_ ?_ ?_ ?_ ?_ ?_
  · intro vm next inputs outputs inits nodes inputs' initIds' vm1 r ihn hlt hvf hlo hcl
    simp only [eraseG, closedG, Bool.and_eq_true, List.all_eq_true] at hcl
    have hlen : (inits.map Prod.fst).length = inits.length := by simp
    have hvlt2 : VLt vm1 (next + inputs.length + inits.length) := hlt.graph inputs inits
    have hvf2 : VFrom Q lo vm1 := by
      refine VFrom.fresh ?_ inputs hlo
      have := hvf.fresh (inits.map Prod.fst) (n1 := next + inputs.length) (Nat.le_trans hlo (Nat.le_add_right _ _))
      rw [hlen] at this
      exact this
    have ih := ihn hvlt2 hvf2
      (Nat.le_trans hlo (Nat.le_trans (Nat.le_add_right _ _) (Nat.le_add_right _ _))) hcl.2
    have hz1 : (initIds'.zip (inits.map Prod.snd)).map Prod.fst = initIds' :=
      List.map_fst_zip (by simp [initIds', freshIds])
    -- the image of every output is one of the new top-level values
    have houts : ∀ v ∈ outputs, ∃ w, mapV r.2.1 v = some w ∧
        (w ∈ inputs' ∨ w ∈ initIds' ∨ w ∈ outsTop (eraseNodes r.1)) := by
      intro v hv
      by_cases hvo : v ∈ outsTop (eraseNodes nodes)
      · obtain ⟨w, hw1, hw2⟩ := ih.img v hvo
        exact ⟨w, hw2, Or.inr (Or.inr hw1)⟩
      · rw [ih.keep v hvo]
        have hpre := hcl.1 v hv
        simp only [List.contains_eq_mem, decide_eq_true_eq, List.mem_append] at hpre
        rcases hpre with (h | h) | h
        · refine ⟨_, mapV_fresh_mem h next _, Or.inl (mem_freshIds.2 ⟨Nat.le_add_right _ _, ?_⟩)⟩
          exact Nat.add_lt_add_left (List.idxOf_lt_length_of_mem h) _
        · by_cases hvi : v ∈ inputs
          · refine ⟨_, mapV_fresh_mem hvi next _, Or.inl (mem_freshIds.2 ⟨Nat.le_add_right _ _, ?_⟩)⟩
            exact Nat.add_lt_add_left (List.idxOf_lt_length_of_mem hvi) _
          · rw [mapV_fresh_not_mem hvi]
            have := mapV_fresh_mem h (next + inputs.length) vm
            rw [hlen] at this
            refine ⟨_, this, Or.inr (Or.inl (mem_freshIds.2 ⟨Nat.le_add_right _ _, ?_⟩))⟩
            have h2 := List.idxOf_lt_length_of_mem h
            rw [hlen] at h2
            exact Nat.add_lt_add_left h2 _
        · exact absurd h hvo
    have hle : next + inputs.length + inits.length ≤ r.2.2 := ih.le
    have hin : ∀ w ∈ inputs', next ≤ w ∧ w < next + inputs.length + inits.length := by
      intro w hw
      have := mem_freshIds.1 hw
      exact ⟨this.1, Nat.lt_of_lt_of_le this.2 (Nat.le_add_right _ _)⟩
    have hit : ∀ w ∈ initIds', next ≤ w ∧ w < next + inputs.length + inits.length := by
      intro w hw
      have := mem_freshIds.1 hw
      exact ⟨Nat.le_trans (Nat.le_add_right _ _) this.1, this.2⟩
    have hdn : ∀ w ∈ defsNodes (eraseNodes r.1), next + inputs.length + inits.length ≤ w := fun w hw => (ih.defs w hw).1
    simp only [eraseG]
    refine ⟨?_, ?_, ?_, ?_, ?_, ?_⟩
    · intro w hw
      simp only [defsG, hz1, List.mem_append] at hw
      rcases hw with (hw | hw) | hw
      · exact ⟨(hin w hw).1, Nat.lt_of_lt_of_le (hin w hw).2 hle⟩
      · exact ⟨(hit w hw).1, Nat.lt_of_lt_of_le (hit w hw).2 hle⟩
      · have := ih.defs w hw
        exact ⟨Nat.le_trans (Nat.le_trans (Nat.le_add_right _ _) (Nat.le_add_right _ _)) this.1, this.2⟩
    · intro w hw
      simp only [refsG, List.mem_append, List.mem_map] at hw
      rcases hw with ⟨v, hv, rfl⟩ | hw
      · obtain ⟨w, hw1, hw2⟩ := houts v hv
        rw [hw1, Option.getD_some]
        have hb : next ≤ w ∧ w < r.2.2 := by
          rcases hw2 with h | h | h
          · exact ⟨(hin w h).1, Nat.lt_of_lt_of_le (hin w h).2 hle⟩
          · exact ⟨(hit w h).1, Nat.lt_of_lt_of_le (hit w h).2 hle⟩
          · have := ih.defs w (outsTop_sub_defsNodes _ h)
            exact ⟨Nat.le_trans (Nat.le_trans (Nat.le_add_right _ _) (Nat.le_add_right _ _)) this.1, this.2⟩
        exact ⟨hb.2, Or.inr (Nat.le_trans hlo hb.1)⟩
      · exact ih.refs w hw
    · simp only [ssaG, hz1, Bool.and_eq_true]
      refine ⟨⟨⟨nodupB_freshIds _ _, nodupB_freshIds _ _⟩, ?_⟩, ih.ssa⟩
      refine disj_of_lt (next + inputs.length + inits.length) ?_ hdn
      intro x hx
      rcases List.mem_append.1 hx with hx | hx
      · exact (hin x hx).2
      · exact (hit x hx).2
    · simp only [noFwdG]; exact ih.nofwd
    · simp only [closedG, hz1, Bool.and_eq_true, List.all_eq_true, List.mem_map, forall_exists_index, and_imp,
        forall_apply_eq_imp_iff₂]
      refine ⟨?_, ih.closed⟩
      intro v hv
      obtain ⟨w, hw1, hw2⟩ := houts v hv
      rw [hw1, Option.getD_some]
      simp only [List.contains_eq_mem, decide_eq_true_eq, List.mem_append]
      rcases hw2 with h | h | h
      · exact Or.inl (Or.inl h)
      · exact Or.inl (Or.inr h)
      · exact Or.inr h
    · exact Nat.le_trans (Nat.le_trans (Nat.le_add_right _ _) (Nat.le_add_right _ _)) hle
  · intro vm next op attrs ins outs bodies rb outs' ihb hlt hvf hlo hcl
    simp only [eraseN, closedN] at hcl
    have hb := ihb hlt hvf hlo hcl
    simp only [eraseN, Node.outs]
    have hou : ∀ w ∈ freshIds (cloneBodies am vm next bodies).2 outs.length,
        (cloneBodies am vm next bodies).2 ≤ w ∧ w < (cloneBodies am vm next bodies).2 + outs.length :=
      fun w hw => mem_freshIds.1 hw
    refine ⟨?_, ?_, ?_, ?_, ?_, ?_, ?_, ?_, ?_, hlt.fresh outs hb.le, Nat.le_trans hb.le (Nat.le_add_right _ _),
      hvf.fresh outs (Nat.le_trans hlo hb.le)⟩
    · intro w hw
      simp only [defsN, List.mem_append] at hw
      rcases hw with hw | hw
      · exact ⟨Nat.le_trans hb.le (hou w hw).1, (hou w hw).2⟩
      · exact ⟨(hb.defs w hw).1, Nat.lt_of_lt_of_le (hb.defs w hw).2 (Nat.le_add_right _ _)⟩
    · intro w hw
      simp only [refsN, List.mem_append] at hw
      rcases hw with hw | hw
      · obtain ⟨v, hv⟩ := mem_filterMap_bind hw
        exact ⟨Nat.lt_of_lt_of_le (hlt v w hv) (Nat.le_trans hb.le (Nat.le_add_right _ _)), hvf v w hv⟩
      · exact ⟨Nat.lt_of_lt_of_le (hb.refs w hw).1 (Nat.le_add_right _ _), (hb.refs w hw).2⟩
    · intro w hw
      obtain ⟨v, hv⟩ := mem_filterMap_bind hw
      exact hlt v w hv
    · intro w hw u hu
      exact Nat.lt_of_lt_of_le (hb.refs w hw).1 (hou u hu).1
    · simp only [ssaN, Bool.and_eq_true]
      refine ⟨⟨nodupB_freshIds _ _, ?_⟩, hb.ssa⟩
      rw [disj_iff]
      intro x hx hx'
      exact absurd (hb.defs x hx').2 (Nat.not_lt.2 (hou x hx).1)
    · simp only [noFwdN]; exact hb.nofwd
    · simp only [closedN]; exact hb.closed
    · intro v hv
      refine ⟨_, ?_, mapV_fresh_mem hv _ _⟩
      exact mem_freshIds.2 ⟨Nat.le_add_right _ _, Nat.add_lt_add_left (List.idxOf_lt_length_of_mem hv) _⟩
    · intro v hv
      exact mapV_fresh_not_mem hv _ _
  · intro vm next hlt hvf _ _
    simp only [eraseNodes_nil]
    exact ⟨by simp [defsNodes], by simp [refsNodes], by simp [ssaNodes], by simp [noFwdNodes], by simp [closedNodes],
      by simp [outsTop], fun _ _ => rfl, hlt, Nat.le_refl _, hvf⟩
  · intro vm next n ns r rs ihn ih hlt hvf hlo hcl
    simp only [eraseNodes_cons, closedNodes, Bool.and_eq_true] at hcl
    have h1 := ihn hlt hvf hlo hcl.1
    have hs := ih h1.vlt h1.vfrom
      (Nat.le_trans hlo h1.le) hcl.2
    simp only [eraseNodes_cons]
    refine ⟨ivl_append h1.defs hs.defs h1.le hs.le, reads_append h1.refs hs.refs hs.le, ?_, ?_, ?_, ?_, ?_, hs.vlt,
      Nat.le_trans h1.le hs.le, hs.vfrom⟩
    · simp only [ssaNodes, Bool.and_eq_true]
      exact ⟨⟨h1.ssa, disj_of_lt _ (fun x hx => (h1.defs x hx).2) (fun x hx => (hs.defs x hx).1)⟩, hs.ssa⟩
    · simp only [noFwdNodes, Bool.and_eq_true]
      refine ⟨⟨⟨?_, ?_⟩, h1.nofwd⟩, hs.nofwd⟩
      · refine disj_of_lt next h1.insLt ?_
        intro x hx
        simp only [defsNodes, List.mem_append] at hx
        rcases hx with hx | hx
        · exact (h1.defs x hx).1
        · exact Nat.le_trans h1.le (hs.defs x hx).1
      · rw [disj_iff]
        intro x hx hx'
        rcases List.mem_append.1 hx' with hx' | hx'
        · exact absurd (h1.sep x hx x hx') (Nat.lt_irrefl _)
        · have hr : x ∈ refsN (eraseN (cloneN am vm next n).1) := by
            cases hn : eraseN (cloneN am vm next n).1 with
            | mk op attrs ins outs bodies =>
              rw [hn] at hx
              simp only [refsN, List.mem_append]
              exact Or.inr hx
          exact absurd (h1.refs x hr).1 (Nat.not_lt.2 (hs.defs x hx').1)
    · simp only [closedNodes, Bool.and_eq_true]
      exact ⟨h1.closed, hs.closed⟩
    · intro v hv
      simp only [outsTop] at hv
      by_cases hvs : v ∈ outsTop (eraseNodes ns)
      · obtain ⟨w, hw1, hw2⟩ := hs.img v hvs
        exact ⟨w, by simp only [outsTop, List.mem_append]; exact Or.inr hw1, hw2⟩
      · rcases List.mem_append.1 hv with hv | hv
        · obtain ⟨w, hw1, hw2⟩ := h1.img v hv
          refine ⟨w, by simp only [outsTop, List.mem_append]; exact Or.inl hw1, ?_⟩
          rw [hs.keep v hvs, hw2]
        · exact absurd hv hvs
    · intro v hv
      simp only [outsTop, List.mem_append, not_or] at hv
      rw [hs.keep v hv.2, h1.keep v hv.1]
  · intro vm next _ _ _ _
    simp only [eraseBodies_nil]
    exact ⟨by simp [defsBodies], by simp [refsBodies], by simp [ssaBodies], by simp [noFwdBodies],
      by simp [closedBodies], Nat.le_refl _⟩
  · intro vm next b bs r rs ihg ihb hlt hvf hlo hcl
    simp only [eraseBodies_cons, closedBodies, Bool.and_eq_true] at hcl
    have h1 := ihg hlt hvf hlo hcl.1
    have hlt' : VLt vm (cloneG am vm next b).2 := fun v w hw => Nat.lt_of_lt_of_le (hlt v w hw) h1.le
    have hs := ihb hlt' hvf (Nat.le_trans hlo h1.le) hcl.2
    simp only [eraseBodies_cons]
    refine ⟨ivl_append h1.defs hs.defs h1.le hs.le, reads_append h1.refs hs.refs hs.le, ?_, ?_, ?_,
      Nat.le_trans h1.le hs.le⟩
    · simp only [ssaBodies, Bool.and_eq_true]
      exact ⟨⟨h1.ssa, disj_of_lt _ (fun x hx => (h1.defs x hx).2) (fun x hx => (hs.defs x hx).1)⟩, hs.ssa⟩
    · rw [noFwdBodies_cons_iff]; exact ⟨h1.nofwd, hs.nofwd⟩
    · rw [closedBodies_cons_iff]; exact ⟨h1.closed, hs.closed⟩

theorem cloneN_wf : ∀ (n : FNode) (vm : VMap) (next : Nat), VLt vm next → VFrom Q lo vm → lo ≤ next →
    closedN (eraseN n) = true →
    NodeWF Q lo next vm (eraseN n).outs (eraseN (cloneN am vm next n).1) (cloneN am vm next n).2.1
      (cloneN am vm next n).2.2 :=
  fun n vm next => (clone_wf am Q lo).2.2.1 vm next n

theorem cloneBodies_wf : ∀ (bs : List FGraph) (vm : VMap) (next : Nat), VLt vm next → VFrom Q lo vm → lo ≤ next →
    closedBodies (eraseBodies bs) = true →
    BodiesWF Q lo next (cloneBodies am vm next bs).2 (defsBodies (eraseBodies (cloneBodies am vm next bs).1))
      (refsBodies (eraseBodies (cloneBodies am vm next bs).1)) (ssaBodies (eraseBodies (cloneBodies am vm next bs).1))
      (noFwdBodies (eraseBodies (cloneBodies am vm next bs).1)) (closedBodies (eraseBodies (cloneBodies am vm next bs).1)) :=
  fun bs vm next => (clone_wf am Q lo).2.2.2 vm next bs

end

/-- a node list as the inliner inserts it: SSA, closed, ordered, its values in `[lo, N)`, reading values
    below `N` that satisfy `Q` or are its own, with well-formed calls -/
structure WFBody (tbl : List Func) (Q : VId → Prop) (lo N : Nat) (ns : List FNode) : Prop where
  ssa : ssaNodes (eraseNodes ns) = true
  closed : closedNodes (eraseNodes ns) = true
  nofwd : noFwdNodes (eraseNodes ns) = true
  defs : ∀ w ∈ defsNodes (eraseNodes ns), lo ≤ w ∧ w < N
  refs : ∀ w ∈ refsNodes (eraseNodes ns), w < N ∧ (Q w ∨ lo ≤ w)
  calls : callsOKNodes tbl ns = true

theorem fwdOuts_refs_lt (vm : VMap) (produced vs : List VId) (next n0 : Nat) (hlt : VLt vm n0) :
    ∀ w ∈ refsNodes (eraseNodes (fwdOuts vm produced vs next).nodes), w < n0 := by
  fun_induction fwdOuts vm produced vs next with
  | case1 => intro w hw; simp [refsNodes] at hw
  | case2 _ _ _ _ _ _ _ ih => exact ih
  | case3 _ v _ _ w' hw' _ ih =>
    intro w hw
    simp only [eraseNodes_cons, eraseN, eraseBodies_nil, refsNodes, refsN, refsBodies, List.append_nil,
      List.mem_append, List.filterMap_cons, id, List.filterMap_nil, List.mem_singleton] at hw
    rcases hw with hw | hw
    · subst hw; exact hlt v w hw'
    · exact ih w hw
  | case4 _ _ _ _ _ ih =>
    intro w hw
    simp only [eraseNodes_cons, eraseN, eraseBodies_nil, refsNodes, refsN, refsBodies, List.append_nil,
      List.mem_append, List.filterMap_cons, id, List.filterMap_nil, List.not_mem_nil, false_or] at hw
    exact ih w hw

structure FwdWF (tbl : List Func) (Q : VId → Prop) (lo next nx : Nat) (ns : List FNode) : Prop where
  ssa : ssaNodes (eraseNodes ns) = true
  closed : closedNodes (eraseNodes ns) = true
  nofwd : noFwdNodes (eraseNodes ns) = true
  defs : ∀ w ∈ defsNodes (eraseNodes ns), next ≤ w ∧ w < nx
  refs : ∀ w ∈ refsNodes (eraseNodes ns), w < next ∧ (Q w ∨ lo ≤ w)
  calls : callsOKNodes tbl ns = true
  le : next ≤ nx

theorem FwdWF.cons_id {tbl : List Func} {Q : VId → Prop} {lo next nx : Nat} {ns : List FNode}
    (hid : findFunc tbl identityOp = none) (ih : FwdWF tbl Q lo (next + 1) nx ns)
    (hr : ∀ w ∈ refsNodes (eraseNodes ns), w < next) (o : Option VId)
    (ho : ∀ w, o = some w → w < next ∧ (Q w ∨ lo ≤ w)) :
    FwdWF tbl Q lo next nx (.mk identityOp [] [o] [next] [] :: ns) := by
  have hle' : next < nx := ih.le
  have hins : ∀ w ∈ [o].filterMap id, w < next ∧ (Q w ∨ lo ≤ w) := by
    intro w hw
    cases o with
    | none => simp at hw
    | some w' =>
      simp only [List.filterMap_cons, id, List.filterMap_nil, List.mem_singleton] at hw
      subst hw
      exact ho w rfl
  refine ⟨?_, ?_, ?_, ?_, ?_, ?_, Nat.le_of_lt hle'⟩
  · simp only [eraseNodes_cons, eraseN, eraseBodies_nil, ssaNodes, ssaN, Bool.and_eq_true, disj_iff, nodupB,
      defsN, defsBodies, List.append_nil, ssaBodies, List.mem_singleton]
    refine ⟨⟨⟨⟨by simp, by simp⟩, trivial⟩, ?_⟩, ih.ssa⟩
    intro x hx hx'
    subst hx
    exact absurd (ih.defs x hx').1 (Nat.not_succ_le_self _)
  · simp only [eraseNodes_cons, eraseN, eraseBodies_nil, closedNodes, closedN, closedBodies, Bool.true_and]
    exact ih.closed
  · simp only [eraseNodes_cons, eraseN, eraseBodies_nil, noFwdNodes, noFwdN, noFwdBodies, Bool.and_eq_true,
      disj_iff, Node.ins, Node.outs, Node.bodies, refsBodies, List.not_mem_nil, false_imp_iff, implies_true,
      and_true]
    refine ⟨?_, ih.nofwd⟩
    intro x hx hx'
    have hx1 := (hins x hx).1
    simp only [defsNodes, defsN, defsBodies, List.append_nil, List.mem_append, List.mem_singleton] at hx'
    rcases hx' with hx' | hx'
    · exact absurd hx1 (by rw [hx']; exact Nat.lt_irrefl _)
    · exact absurd (ih.defs x hx').1 (Nat.not_le.2 (Nat.lt_succ_of_lt hx1))
  · intro w hw
    simp only [eraseNodes_cons, eraseN, eraseBodies_nil, defsNodes, defsN, defsBodies, List.append_nil,
      List.mem_append, List.mem_singleton] at hw
    rcases hw with hw | hw
    · subst hw; exact ⟨Nat.le_refl _, hle'⟩
    · exact ⟨Nat.le_of_succ_le (ih.defs w hw).1, (ih.defs w hw).2⟩
  · intro w hw
    simp only [eraseNodes_cons, eraseN, eraseBodies_nil, refsNodes, refsN, refsBodies, List.append_nil,
      List.mem_append] at hw
    rcases hw with hw | hw
    · exact hins w hw
    · obtain ⟨a, b⟩ := ih.refs w hw
      -- a reference of a later Identity node is an image of the value map: below `next`
      exact ⟨hr w hw, b⟩
  · simp only [callsOKNodes, callsOKN, hid, callsOKBodies, Bool.and_true, Bool.true_and]
    exact ih.calls

theorem fwdOuts_wf (tbl : List Func) (hid : findFunc tbl identityOp = none) (Q : VId → Prop) (lo : Nat) (vm : VMap)
    (hvf : VFrom Q lo vm) (produced vs : List VId) (next : Nat) : VLt vm next →
    FwdWF tbl Q lo next (fwdOuts vm produced vs next).next (fwdOuts vm produced vs next).nodes := by
  fun_induction fwdOuts vm produced vs next with
  | case1 =>
    intro _
    exact ⟨by simp [ssaNodes], by simp [closedNodes], by simp [noFwdNodes], by simp [defsNodes], by simp [refsNodes],
      by simp [callsOKNodes], Nat.le_refl _⟩
  | case2 _ _ _ _ _ _ _ ih => exact ih
  | case3 _ v _ next w hw _ ih =>
    intro hlt
    exact (ih fun v w hw => Nat.lt_succ_of_lt (hlt v w hw)).cons_id hid (fwdOuts_refs_lt vm _ _ _ next hlt) (some w)
      (fun w' h => by simp only [Option.some.injEq] at h; subst h; exact ⟨hlt v w hw, hvf v w hw⟩)
  | case4 _ _ _ next _ ih =>
    intro hlt
    exact (ih fun v w hw => Nat.lt_succ_of_lt (hlt v w hw)).cons_id hid (fwdOuts_refs_lt vm _ _ _ next hlt) none
      (fun w' h => by cases h)

theorem instantiate_wf (tbl : List Func) (hid : findFunc tbl identityOp = none) (f : Func)
    (hcl : closedNodes (eraseNodes f.nodes) = true) (hco : callsOKNodes tbl f.nodes = true)
    (cattrs : List (String × FAttr)) (cins : List (Option VId)) (next : Nat)
    (hins : ∀ v ∈ cins.filterMap id, v < next) :
    WFBody tbl (· ∈ cins.filterMap id) next (instantiate f cattrs cins next).next (instantiate f cattrs cins next).nodes := by
  have hw := (clone_wf (attrMap f.params cattrs) (· ∈ cins.filterMap id) next).2.1 (zipPad f.inputs cins) next f.nodes
    (zipPad_vlt hins) (zipPad_vfrom _ _ _) (Nat.le_refl _) hcl
  have fw := fwdOuts_wf tbl hid (· ∈ cins.filterMap id) next _ hw.vfrom
    (outsTopF (cloneNodes (attrMap f.params cattrs) (zipPad f.inputs cins) next f.nodes).1) f.outputs _ hw.vlt
  simp only [instantiate]
  refine ⟨?_, ?_, ?_, ?_, ?_, ?_⟩
  · rw [eraseNodes_append]
    exact ssaNodes_append _ _ (fun w h h' => Nat.not_lt.2 (fw.defs w h').1 (hw.defs w h).2) hw.ssa fw.ssa
  · rw [eraseNodes_append, closedNodes_append, hw.closed, fw.closed]; rfl
  · rw [eraseNodes_append]
    exact noFwdNodes_append _ _ (fun w h h' => Nat.not_lt.2 (fw.defs w h').1 (hw.refs w h).1) hw.nofwd fw.nofwd
  · rw [eraseNodes_append, defsNodes_append]
    exact ivl_append hw.defs fw.defs hw.le fw.le
  · rw [eraseNodes_append, refsNodes_append]
    exact reads_append hw.refs (fun w h => ⟨Nat.lt_of_lt_of_le (fw.refs w h).1 fw.le, (fw.refs w h).2⟩) fw.le
  · rw [callsOKNodes_append, cloneNodes_callsOK tbl _ f.nodes _ _ hco, fw.calls]; rfl

end IrVerif.Inline
