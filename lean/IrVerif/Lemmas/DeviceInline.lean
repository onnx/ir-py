/-
C19 — the inliner's instantiation of a function-body node (`instNode`, i.e. `Cloner.clone_node` with a
value map that may hold `None`): helper development for `C19_inline_remap`.
-/
import IrVerif.Lemmas.Device
namespace IrVerif.Device

theorem olookup_mem {om : OMap} {a : VId} {t : Option VId} (h : olookup om a = some t) : (a, t) ∈ om :=
  alookup_mem (l := om) h

theorem olookup_isSome_of_mem {om : OMap} {a : VId} {t : Option VId} (h : (a, t) ∈ om) :
    ∃ t', olookup om a = some t' :=
  alookup_isSome_of_mem h

theorem olookup_append (l1 l2 : OMap) (a : VId) :
    olookup (l1 ++ l2) a = (olookup l1 a).or (olookup l2 a) :=
  alookup_append l1 l2 a

theorem olookup_cons (k : VId) (x : Option VId) (vm : OMap) (a : VId) :
    olookup ((k, x) :: vm) a = if k = a then some x else olookup vm a :=
  alookup_cons k x vm a

/-- the image of an input under the inliner's value map (`None` for a dropped formal); the same function as `oget`
    of `Model/DeviceInl.lean` (`oimg_eq_oget`) -/
def oimg (vm : OMap) (v : VId) : Option VId := (olookup vm v).getD none

theorem oimg_eq_oget (vm : OMap) (v : VId) : oimg vm v = oget vm v := rfl

theorem oget_cons (k : VId) (x : Option VId) (vm : OMap) (a : VId) :
    oget ((k, x) :: vm) a = if k = a then x else oget vm a := by
  unfold oget
  rw [olookup_cons]
  split <;> rfl

theorem cloneInputsO_eq {vm : OMap} : ∀ {ins res : List (Option VId)},
    cloneInputsO vm ins = some res → res = ins.map (fun o => o.bind (oimg vm)) := by
  intro ins
  induction ins with
  | nil => intro res h; simp [cloneInputsO] at h; subst h; rfl
  | cons o rest ih =>
    intro res h
    cases o with
    | none =>
      simp only [cloneInputsO] at h
      cases hr : cloneInputsO vm rest with
      | none => simp [hr] at h
      | some r => simp [hr] at h; subst h; simp [ih hr]
    | some v0 =>
      simp only [cloneInputsO] at h
      cases hl : olookup vm v0 with
      | none => simp [hl] at h
      | some t =>
        simp only [hl] at h
        cases hr : cloneInputsO vm rest with
        | none => simp [hr] at h
        | some r => simp [hr] at h; subst h; simp [ih hr, oimg, hl]

/-- the input part of `io_map` -/
def inPartO (f : VId → Option VId) (ins : List (Option VId)) : OMap :=
  ((ins.zip (ins.map (fun o => o.bind f))).filterMap (fun p => match p.1 with
    | some a => some (a, p.2)
    | none => none)).reverse

theorem mem_inPartO {f : VId → Option VId} {ins : List (Option VId)} {a : VId} {t : Option VId} :
    (a, t) ∈ inPartO f ins ↔ some a ∈ ins ∧ t = f a := by
  unfold inPartO
  rw [List.mem_reverse]
  induction ins with
  | nil => simp
  | cons o rest ih =>
    cases o with
    | none =>
      simp only [List.map_cons, List.zip_cons_cons, List.filterMap_cons]
      rw [ih]; simp
    | some x =>
      simp only [List.map_cons, List.zip_cons_cons, List.filterMap_cons, Option.bind_some, List.mem_cons, Prod.mk.injEq]
      rw [ih]
      constructor
      · rintro (⟨rfl, rfl⟩ | ⟨h1, h2⟩)
        · exact ⟨Or.inl rfl, rfl⟩
        · exact ⟨Or.inr h1, h2⟩
      · rintro ⟨h1 | h1, h2⟩
        · cases h1; exact Or.inl ⟨rfl, h2⟩
        · exact Or.inr ⟨h1, h2⟩

theorem olookup_inPartO {f : VId → Option VId} {ins : List (Option VId)} (x : VId) :
    olookup (inPartO f ins) x = if some x ∈ ins then some (f x) else none := by
  cases hl : olookup (inPartO f ins) x with
  | some t =>
    have := mem_inPartO.mp (olookup_mem hl)
    simp [this.1, this.2]
  | none =>
    split
    · rename_i hx
      obtain ⟨t', ht'⟩ := olookup_isSome_of_mem (mem_inPartO.mpr ⟨hx, rfl⟩)
      rw [ht'] at hl; cases hl
    · rfl

/-- the output part of `io_map` -/
def outPartO (outs newOuts : List VId) : OMap := ((outs.zip newOuts).map (fun p => (p.1, some p.2))).reverse

theorem mem_zip_of_outPartO {outs newOuts : List VId} {a : VId} {t : Option VId}
    (h : (a, t) ∈ outPartO outs newOuts) : ∃ b, t = some b ∧ (a, b) ∈ outs.zip newOuts := by
  unfold outPartO at h
  rw [List.mem_reverse, List.mem_map] at h
  obtain ⟨p, hp, he⟩ := h
  simp only [Prod.mk.injEq] at he
  obtain ⟨rfl, rfl⟩ := he
  exact ⟨p.2, rfl, hp⟩

theorem mem_outPartO {outs newOuts : List VId} {a : VId} {t : Option VId} (h : (a, t) ∈ outPartO outs newOuts) :
    a ∈ outs ∧ ∃ b ∈ newOuts, t = some b :=
  have ⟨b, ht, hz⟩ := mem_zip_of_outPartO h
  ⟨(List.of_mem_zip hz).1, b, (List.of_mem_zip hz).2, ht⟩

theorem olookup_outPartO_of_mem {outs newOuts : List VId} (hlen : outs.length = newOuts.length) {a : VId}
    (ha : a ∈ outs) : ∃ b ∈ newOuts, olookup (outPartO outs newOuts) a = some (some b) := by
  have hk : a ∈ (outPartO outs newOuts).map Prod.fst := by
    rw [outPartO, List.map_reverse, List.mem_reverse, List.map_map]
    have hz : a ∈ (outs.zip newOuts).map Prod.fst := by rw [List.map_fst_zip (Nat.le_of_eq hlen)]; exact ha
    exact hz
  obtain ⟨t', ht'⟩ := Option.isSome_iff_exists.1 (ListFacts.lookup_isSome_iff.2 hk)
  rw [← alookup_eq_lookup] at ht'
  obtain ⟨_, b, hb, rfl⟩ := mem_outPartO (olookup_mem ht')
  exact ⟨b, hb, ht'⟩

theorem olookup_outPartO_of_not_mem {outs newOuts : List VId} {a : VId} (ha : a ∉ outs) :
    olookup (outPartO outs newOuts) a = none := by
  cases hl : olookup (outPartO outs newOuts) a with
  | none => rfl
  | some t => exact absurd (mem_outPartO (olookup_mem hl)).1 ha

theorem ioMapO_eq (f : VId → Option VId) (ins : List (Option VId)) (outs newOuts : List VId) :
    ioMapO ins (ins.map (fun o => o.bind f)) outs newOuts = outPartO outs newOuts ++ inPartO f ins := rfl

/-- where `_remap_device_configurations` sends a target: no entry = kept, entry `None` = dropped -/
def ophi (om : OMap) (v : VId) : Option VId :=
  match olookup om v with
  | none => some v
  | some t => t

theorem remapDevO_eq (om : OMap) (dev : List NodeCfg) :
    remapDevO om dev = dev.map (fun nc => { nc with specs := nc.specs.filterMap (retarget (ophi om)) }) := by
  unfold remapDevO
  apply List.map_congr_left
  intro nc _
  congr 2
  funext s
  unfold retarget ophi
  cases olookup om s.value with
  | none => rfl
  | some t => cases t <;> rfl

/-- the node-local `io_map` on an input or output of the node (`vm1`, the global map, is not consulted) -/
theorem ophi_ioMapO {nd : NodeS} {vm vm1 : OMap} {ins : List (Option VId)} (hci : cloneInputsO vm nd.inputs = some ins)
    (newOuts : List VId) (hlen : nd.outputs.length = newOuts.length) {v b : VId} (hv : InIO nd v)
    (h : ophi (ioMapO nd.inputs ins nd.outputs newOuts ++ vm1) v = some b) :
    (v, b) ∈ nd.outputs.zip newOuts ∨ (v ∉ nd.outputs ∧ some v ∈ nd.inputs ∧ oimg vm v = some b) := by
  have hins := cloneInputsO_eq hci
  subst hins
  unfold ophi at h
  rw [ioMapO_eq, List.append_assoc, olookup_append] at h
  by_cases hvo : v ∈ nd.outputs
  · obtain ⟨x, _, hl⟩ := olookup_outPartO_of_mem hlen hvo
    obtain ⟨b', hb1, hb2⟩ := mem_zip_of_outPartO (olookup_mem hl)
    simp only [Option.some.injEq] at hb1
    subst hb1
    simp only [hl, Option.some_or, Option.some.injEq] at h
    subst h
    exact Or.inl hb2
  · have hvi : some v ∈ nd.inputs := by
      rcases hv with hv | hv
      · exact hv
      · exact absurd hv hvo
    rw [olookup_outPartO_of_not_mem hvo, olookup_append, olookup_inPartO] at h
    simp only [hvi, if_true, Option.none_or, Option.some_or] at h
    exact Or.inr ⟨hvo, hvi, h⟩

/-- what the inliner's instantiation does to the annotations of a body node: see `C19_inline_remap` -/
theorem instNode_spec {vm : OMap} {nd nd' : NodeS} {base : Nat}
    (hio : ∀ nc ∈ nd.dev, ∀ s ∈ nc.specs, InIO nd s.value) (h : instNode vm nd base = some nd') :
    nd'.inputs = nd.inputs.map (fun o => o.bind (oimg vm)) ∧
    nd'.outputs = List.range' base nd.outputs.length ∧
    nd'.dev.map (·.cfg) = nd.dev.map (·.cfg) ∧ nd'.dev.map (·.stage) = nd.dev.map (·.stage) ∧
    (∀ nc' ∈ nd'.dev, ∀ s' ∈ nc'.specs, InIO nd' s'.value) ∧
    (∀ nc' ∈ nd'.dev, ∀ s' ∈ nc'.specs, ∃ nc ∈ nd.dev, nc.cfg = nc'.cfg ∧ ∃ s ∈ nc.specs,
      s'.device = s.device ∧ s'.dims = s.dims ∧
      ((s.value ∈ nd.outputs ∧ s'.value ∈ nd'.outputs) ∨ (s.value ∉ nd.outputs ∧ oimg vm s.value = some s'.value))) := by
  unfold instNode at h
  cases hci : cloneInputsO vm nd.inputs with
  | none => simp [hci] at h
  | some ins =>
    simp only [hci] at h
    split at h
    · cases h
    simp only [Option.some.injEq] at h
    subst h
    simp only
    have key : ∀ nc' ∈ remapDevO (ioMapO nd.inputs ins nd.outputs (List.range' base nd.outputs.length) ++ vm) nd.dev,
        ∀ s' ∈ nc'.specs, ∃ nc ∈ nd.dev, nc.cfg = nc'.cfg ∧ ∃ s ∈ nc.specs, s'.device = s.device ∧ s'.dims = s.dims ∧
        ((s.value, s'.value) ∈ nd.outputs.zip (List.range' base nd.outputs.length) ∨
         (s.value ∉ nd.outputs ∧ some s.value ∈ nd.inputs ∧ oimg vm s.value = some s'.value)) := by
      intro nc' hnc' s' hs'
      rw [remapDevO_eq, List.mem_map] at hnc'
      obtain ⟨nc, hnc, rfl⟩ := hnc'
      simp only [List.mem_filterMap, retarget, Option.map_eq_some_iff] at hs'
      obtain ⟨s, hs, b, hb, rfl⟩ := hs'
      exact ⟨nc, hnc, rfl, s, hs, rfl, rfl, ophi_ioMapO hci _ (by simp) (hio nc hnc s hs) hb⟩
    refine ⟨cloneInputsO_eq hci, trivial, ?_, ?_, ?_, ?_⟩
    · simp [remapDevO, List.map_map, Function.comp_def]
    · simp [remapDevO, List.map_map, Function.comp_def]
    · intro nc' hnc' s' hs'
      obtain ⟨nc, _, _, s, _, _, _, hc⟩ := key nc' hnc' s' hs'
      rcases hc with hz | ⟨_, hvi, hi⟩
      · exact Or.inr (List.of_mem_zip hz).2
      · left
        show some s'.value ∈ ins
        rw [cloneInputsO_eq hci]
        exact List.mem_map.mpr ⟨some s.value, hvi, by simp [hi]⟩
    · intro nc' hnc' s' hs'
      obtain ⟨nc, hnc, hc1, s, hs, hd1, hd2, hc⟩ := key nc' hnc' s' hs'
      refine ⟨nc, hnc, hc1, s, hs, hd1, hd2, ?_⟩
      rcases hc with hz | ⟨h1, _, h3⟩
      · exact Or.inl ⟨(List.of_mem_zip hz).1, (List.of_mem_zip hz).2⟩
      · exact Or.inr ⟨h1, h3⟩

end IrVerif.Device
