/-
Models with functions: certificate, round trip and idempotence of `deserializeM` / `serializeM`.
-/
import IrVerif.Lemmas.ScopeFunc
import IrVerif.Lemmas.ScopeDict
namespace IrVerif.Scope

theorem fdictInsert_fresh (d : List (FId × GraphT)) (k : FId) (g : GraphT) (h : k ∉ d.map (·.1)) :
    fdictInsert d k g = d ++ [(k, g)] := by
  rw [fdictInsert_eq_kvSet]
  exact kvSet_fresh d k g h

/-- the functions `gs` are the functions `fs`, renamed -/
def TreeRelFs (V : Nat → ValueS) (A : Assoc) : List (FId × GraphT) → List (FId × GraphT) → Prop
  | [], [] => True
  | f :: fs, g :: gs => f.1 = g.1 ∧ TreeRelG V A f.2 g.2 ∧ TreeRelFs V A fs gs
  | _, _ => False

theorem TreeRelFs.mono (V : Nat → ValueS) (A B : Assoc) : ∀ (fs gs : List (FId × GraphT)),
    TreeRelFs V A fs gs → TreeRelFs V (A ++ B) fs gs
  | [], [], _ => by simp [TreeRelFs]
  | f :: fs, g :: gs, h => by
    simp only [TreeRelFs] at h ⊢
    exact ⟨h.1, TreeRelG.mono V A B _ _ h.2.1, TreeRelFs.mono V A B fs gs h.2.2⟩
  | [], _ :: _, h => by simp [TreeRelFs] at h
  | _ :: _, [], h => by simp [TreeRelFs] at h

theorem TreeRelFs.keys (V : Nat → ValueS) (A : Assoc) : ∀ (fs gs : List (FId × GraphT)),
    TreeRelFs V A fs gs → gs.map (·.1) = fs.map (·.1)
  | [], [], _ => rfl
  | f :: fs, g :: gs, h => by
    simp only [TreeRelFs] at h
    simp only [List.map_cons, h.1, TreeRelFs.keys V A fs gs h.2.2]
  | [], _ :: _, h => by simp [TreeRelFs] at h
  | _ :: _, [], h => by simp [TreeRelFs] at h

/-- the functions `gs` are the functions `fs` (same identifiers, same order) with every value renamed by `σ` -/
def TreeIsoFs (V : Nat → ValueS) (σ : Nat → Nat) : List (FId × GraphT) → List (FId × GraphT) → Prop
  | [], [] => True
  | f :: fs, g :: gs => f.1 = g.1 ∧ TreeIsoG V σ f.2 g.2 ∧ TreeIsoFs V σ fs gs
  | _, _ => False

theorem TreeRelFs.iso (V : Nat → ValueS) (A : Assoc) : ∀ (fs gs : List (FId × GraphT)),
    TreeRelFs V A fs gs → TreeIsoFs V (sig A) fs gs
  | [], [], _ => by simp [TreeIsoFs]
  | f :: fs, g :: gs, h => by
    simp only [TreeRelFs] at h
    simp only [TreeIsoFs]
    exact ⟨h.1, TreeRelG.iso V A _ _ h.2.1, TreeRelFs.iso V A fs gs h.2.2⟩
  | [], _ :: _, h => by simp [TreeRelFs] at h
  | _ :: _, [], h => by simp [TreeRelFs] at h

theorem serFuncs_inv {V : Nat → ValueS} {td : TData} {f : FId × GraphT} {fs : List (FId × GraphT)}
    {fps : List FuncP} {ws : Writes} (h : serFuncs V td (f :: fs) = .ok (fps, ws)) :
    ∃ fp ws1 fps' ws2, serFunction V td f = .ok (fp, ws1) ∧ serFuncs V td fs = .ok (fps', ws2) ∧
      fps = fp :: fps' ∧ ws = ws1 ++ ws2 := by
  simp only [serFuncs] at h
  split at h
  · simp at h
  · rename_i fp ws1 h1
    split at h
    · simp at h
    · rename_i fps' ws2 h2
      simp only [Except.ok.injEq, Prod.mk.injEq] at h
      obtain ⟨rfl, rfl⟩ := h
      exact ⟨fp, ws1, fps', ws2, h1, h2, rfl, rfl⟩

theorem rt2_funcs (V : Nat → ValueS) (td : TData) :
    ∀ (fs : List (FId × GraphT)) (s : Store) (A : Assoc) (d0 : List (FId × GraphT)) (fps : List FuncP) (ws : Writes),
      serFuncs V td fs = .ok (fps, ws) → (∀ f ∈ fs, (replF V f.2).ok) →
      (fs.flatMap fun f => (replF V f.2).new).Nodup →
      (∀ v ∈ fs.flatMap (fun f => (replF V f.2).new), v ∉ A.map (·.1)) →
      (fs.map (·.1)).Nodup → (∀ f ∈ fs, f.1 ∉ d0.map (·.1)) → RS V s A → Fresh s →
      ∃ (s' : Store) (gs : List (FId × GraphT)) (B : Assoc),
        deserFuncs s d0 fps = .ok (s', d0 ++ gs) ∧
        B.map (·.1) = (fs.flatMap fun f => (replF V f.2).new) ∧ TreeRelFs V (A ++ B) fs gs ∧
        RtPost V td s A B s' (fs.flatMap fun f => emitF V f.2) (fs.flatMap fun f => allInitsG f.2) []
  | [], s, A, d0, fps, ws, hser, _, _, _, _, _, hrs, hfr => by
    simp only [serFuncs, Except.ok.injEq, Prod.mk.injEq] at hser
    obtain ⟨rfl, _⟩ := hser
    exact ⟨s, [], [], by simp [deserFuncs], by simp, by simp [TreeRelFs], .nil hrs hfr⟩
  | f :: fs, s, A, d0, fps, ws, hser, hok, hnd, hnew, hids, hd0, hrs, hfr => by
    obtain ⟨fp, ws1, fps', ws2, h1, h2, rfl, rfl⟩ := serFuncs_inv hser
    obtain ⟨id, g⟩ := f
    simp only [List.flatMap_cons] at hnd hnew ⊢
    rw [List.nodup_append] at hnd
    simp only [List.map_cons, List.nodup_cons] at hids
    obtain ⟨s1, g', B1, e1, eid, k1, t1, post1⟩ := rt2_func V td id g s A fp ws1 h1
      (hok (id, g) List.mem_cons_self) hnd.1 (fun v hv => hnew v (List.mem_append_left _ hv)) hrs hfr
    have hidd : id ∉ d0.map (·.1) := hd0 (id, g) List.mem_cons_self
    obtain ⟨s2, gs, B2, e2, k2, t2, post2⟩ := rt2_funcs V td fs s1 (A ++ B1) (d0 ++ [(id, g')]) fps' ws2 h2
      (fun f hf => hok f (List.mem_cons_of_mem _ hf)) hnd.2.1
      (fun v hv hm => by
        rw [List.map_append, List.mem_append, k1] at hm
        rcases hm with hm | hm
        · exact hnew v (List.mem_append_right _ hv) hm
        · exact hnd.2.2 v hm v hv rfl)
      hids.2
      (fun f hf hm => by
        simp only [List.map_append, List.map_cons, List.map_nil, List.mem_append, List.mem_singleton] at hm
        rcases hm with hm | hm
        · exact hd0 f (List.mem_cons_of_mem _ hf) hm
        · exact hids.1 (hm ▸ List.mem_map_of_mem hf))
      post1.rs post1.fresh
    refine ⟨s2, (id, g') :: gs, B1 ++ B2, ?_, by simp [k1, k2], ?_, post1.append post2⟩
    · simp only [deserFuncs, e1, eid]
      rw [fdictInsert_fresh d0 id g' hidd, e2]
      simp [List.append_assoc]
    · simp only [TreeRelFs]
      rw [← List.append_assoc]
      exact ⟨trivial, TreeRelG.mono V (A ++ B1) B2 g g' t1, t2⟩

theorem img2_serFuncs {V V' : Nat → ValueS} {td td' : TData} {A : Assoc} {E : List Nat} (h : Img V V' (sig A) E)
    (hn : ∀ v ∈ A.map (·.1), (V' (sig A v)).name = (V v).name)
    (hinj : ∀ a ∈ A.map (·.1), ∀ b ∈ A.map (·.1), sig A a = sig A b → a = b) :
    ∀ (fs gs : List (FId × GraphT)) (fps : List FuncP) (ws : Writes), TreeRelFs V A fs gs →
      (∀ v ∈ fs.flatMap (fun f => emitF V f.2), v ∈ E) →
      ConstImg V V' td td' (sig A) (fs.flatMap fun f => allInitsG f.2) →
      serFuncs V td fs = .ok (fps, ws) → ∃ ws', serFuncs V' td' gs = .ok (fps, ws')
  | [], [], fps, ws, _, _, _, hser => by
    simp only [serFuncs, Except.ok.injEq, Prod.mk.injEq] at hser
    obtain ⟨rfl, _⟩ := hser
    exact ⟨[], rfl⟩
  | f :: fs, g :: gs, fps, ws, ht, hE, hc, hser => by
    simp only [TreeRelFs] at ht
    obtain ⟨fp, ws1, fps', ws2, h1, h2, rfl, _⟩ := serFuncs_inv hser
    obtain ⟨id, fg⟩ := f
    obtain ⟨id', gg⟩ := g
    simp only at ht
    obtain ⟨rfl, ht1, ht2⟩ := ht
    obtain ⟨w1, e1⟩ := img2_serFunction h hn hinj id fg gg fp ws1 ht1
      (fun v hv => hE v (List.mem_append_left _ hv)) (fun kv hkv => hc kv (List.mem_append_left _ hkv)) h1
    obtain ⟨w2, e2⟩ := img2_serFuncs h hn hinj fs gs fps' ws2 ht2
      (fun v hv => hE v (by simp only [List.flatMap_cons, List.mem_append]; exact .inr hv))
      (fun kv hkv => hc kv (by simp only [List.flatMap_cons, List.mem_append]; exact .inr hkv)) h2
    exact ⟨_, by simp only [serFuncs, e1, e2]; rfl⟩
  | [], _ :: _, _, _, ht, _, _, _ => by simp [TreeRelFs] at ht
  | _ :: _, [], _, _, ht, _, _, _ => by simp [TreeRelFs] at ht

theorem replF_ser_ok (V : Nat → ValueS) (td : TData) (id : FId) :
    ∀ (g : GraphT), (replF V g).ok → ∃ fp ws, serFunction V td (id, g) = .ok (fp, ws)
  | .mk gid ins inits nodes outs, h => by
    simp only [replF] at h
    obtain ⟨_, hins, _, _, hN, hO⟩ := h
    obtain ⟨nps, vis, ws, hn⟩ := replNs_ser_ok V td nodes [] _ [] hN
    obtain ⟨vis1, h1⟩ := serFInputs_of_names V ins hins
    have h2 := serOutNames_of_names (V := V) (vs := outs) (fun v hv => (hO v hv).1)
    exact ⟨_, _, by simp only [serFunction, h1, h2, hn]; rfl⟩

theorem replFs_ser_ok (V : Nat → ValueS) (td : TData) : ∀ (fs : List (FId × GraphT)),
    (∀ f ∈ fs, (replF V f.2).ok) → ∃ fps ws, serFuncs V td fs = .ok (fps, ws)
  | [], _ => ⟨[], [], rfl⟩
  | f :: fs, h => by
    obtain ⟨id, g⟩ := f
    obtain ⟨fp, ws1, h1⟩ := replF_ser_ok V td id g (h (id, g) List.mem_cons_self)
    obtain ⟨fps, ws2, h2⟩ := replFs_ser_ok V td fs (fun f hf => h f (List.mem_cons_of_mem _ hf))
    exact ⟨_, _, by simp only [serFuncs, h1, h2]; rfl⟩

/-- **ReloadableM**: the main graph and every function satisfy their certificate, every value is
    introduced once in the whole model, function identifiers are distinct -/
def ReloadableM (w : MWorld) : Prop :=
  (replG w.st.vals [] w.root).ok ∧ (∀ f ∈ w.funcs, (replF w.st.vals f.2).ok) ∧
  ((replG w.st.vals [] w.root).new ++ w.funcs.flatMap fun f => (replF w.st.vals f.2).new).Nodup ∧
  (w.funcs.map (·.1)).Nodup

/-- the values a model introduces (main graph and functions) -/
def domM (w : MWorld) : List Nat :=
  (replG w.st.vals [] w.root).new ++ w.funcs.flatMap fun f => (replF w.st.vals f.2).new

/-- the values of a model whose information the proto carries -/
def emitM (w : MWorld) : List Nat := emitG w.st.vals w.root ++ w.funcs.flatMap fun f => emitF w.st.vals f.2

def allInitsM (w : MWorld) : List (Name × Nat) := allInitsG w.root ++ w.funcs.flatMap fun f => allInitsG f.2

theorem reloadableM_roundtrip (w : MWorld) (h : ReloadableM w) :
    ∃ (w1 : MWorld) (P : ModelP) (D : MWorld) (B : Assoc),
      serializeM w = .ok (w1, P) ∧ deserializeM P = .ok D ∧ RS w.st.vals D.st B ∧ B.map (·.1) = domM w ∧
      TreeRelG w.st.vals B w.root D.root ∧ TreeRelFs w.st.vals B w.funcs D.funcs ∧
      InfoOK2 w.st.vals D.st B (emitM w) ∧ ConstOK2 w.st.vals w.st.tdata D.st B (allInitsM w) := by
  obtain ⟨hok, hfok, hnd, hids⟩ := h
  rw [List.nodup_append] at hnd
  obtain ⟨p, ws1, hp⟩ := replG_ser_ok w.st.vals w.st.tdata w.root [] hok
  obtain ⟨fps, ws2, hf⟩ := replFs_ser_ok w.st.vals w.st.tdata w.funcs hfok
  obtain ⟨s1, g', B1, hd, hk, ht, post1⟩ := graphRT w.st.vals w.st.tdata w.root {} [] [] p ws1 hp
    hok hnd.1 (fun _ _ => by simp) (fun _ hT => by simp at hT)
    .empty Fresh.empty
  obtain ⟨s2, gs, B2, e2, k2, t2, post2⟩ := rt2_funcs w.st.vals w.st.tdata w.funcs s1 ([] ++ B1) [] fps ws2 hf hfok
    hnd.2.1
    (fun v hv hm => by rw [List.nil_append, hk] at hm; exact hnd.2.2 v hm v hv rfl)
    hids (fun _ _ hm => by simp at hm) post1.rs post1.fresh
  have post := post1.append post2
  simp only [List.map_nil, List.nil_append] at hd ht t2 e2 post
  exact ⟨⟨w.st.writes (ws1 ++ ws2), w.root, w.funcs⟩, ⟨p, fps⟩, ⟨s2, g', gs⟩, B1 ++ B2,
    by simp only [serializeM, hp, hf], by simp only [deserializeM, hd, e2], post.rs, by simp [domM, hk, k2],
    TreeRelG.mono _ B1 B2 _ _ ht, t2, post.infoOK, post.constOK⟩

/-- serializing the reloaded model gives the proto it was read from -/
theorem reloadableM_fixpoint (w : MWorld) (h : ReloadableM w) :
    ∃ (w1 : MWorld) (Q : ModelP) (D : MWorld) (w2 : MWorld),
      serializeM w = .ok (w1, Q) ∧ deserializeM Q = .ok D ∧ serializeM D = .ok (w2, Q) := by
  obtain ⟨w1, Q, D, B, hQ, hD, hrs, _, ht, htf, hio, hco⟩ := reloadableM_roundtrip w h
  have hn : ∀ v ∈ B.map (·.1), (D.st.vals (sig B v)).name = (w.st.vals v).name := fun v hv => hrs.sig_name hv
  have hinj : ∀ a ∈ B.map (·.1), ∀ b ∈ B.map (·.1), sig B a = sig B b → a = b := fun a ha b hb he => hrs.sig_inj ha hb he
  have himg : Img w.st.vals D.st.vals (sig B) (emitM w) := .of_rt hrs hio
  have hci : ConstImg w.st.vals D.st.vals w.st.tdata D.st.tdata (sig B) (allInitsM w) := hco.constImg
  -- unfold the first serialization
  simp only [serializeM] at hQ
  split at hQ
  · simp at hQ
  · rename_i p ws1 hp
    split at hQ
    · simp at hQ
    · rename_i fps ws2 hf
      simp only [Except.ok.injEq, Prod.mk.injEq] at hQ
      obtain ⟨rfl, rfl⟩ := hQ
      obtain ⟨ws1', e1⟩ := img2_serGraph (td := w.st.tdata) (td' := D.st.tdata) himg hn hinj w.root D.root p ws1 ht
        (fun v hv => List.mem_append_left _ hv) (fun kv hkv => hci kv (List.mem_append_left _ hkv)) hp
      obtain ⟨ws2', e2⟩ := img2_serFuncs (td := w.st.tdata) (td' := D.st.tdata) himg hn hinj w.funcs D.funcs fps ws2 htf
        (fun v hv => by simp only [emitM, List.mem_append]; exact .inr hv)
        (fun kv hkv => hci kv (by simp only [allInitsM, List.mem_append]; exact .inr hkv)) hf
      exact ⟨⟨w.st.writes (ws1 ++ ws2), w.root, w.funcs⟩, ⟨p, fps⟩, D, ⟨D.st.writes (ws1' ++ ws2'), D.root, D.funcs⟩,
        by simp only [serializeM, hp, hf],
        hD, by simp only [serializeM, e1, e2]⟩

end IrVerif.Scope
