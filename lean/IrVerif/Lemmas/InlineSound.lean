/-
Lemmas/InlineSound.lean — `_inline_calls_in` (`inlG` / `inlNodes` / `inlBodies`) preserves the denotation:
the original environment is the new environment read through the replacements made so far (`RelN`),
for the values of the original model (ids below `N`).  The processing of the inserted nodes (`deeper`) is
a parameter: it has to simulate the inserted node list in the same sense (`DeepOK`); `deepOK_inlAt` shows
that for `inlAt`, by induction over the unrolling budget.
-/
import IrVerif.Lemmas.InlineWF
namespace IrVerif.Inline
open IrVerif.Sem IrVerif.Passes
variable {Val : Type}

def RelN (N : Nat) (σ : Subst) (ρo ρi : Env Val) : Prop := ∀ v, v < N → ρo v = ρi (σ.app v)

theorem RelN.bind {N : Nat} {σ : Subst} {ρo ρi : Env Val} (h : RelN N σ ρo ρi) {vs : List VId} (hok : SubstOK σ vs)
    (rs : List (Option Val)) : RelN N σ (ρo.bind vs rs) (ρi.bind vs rs) :=
  RelOn.bind (P := (· < N)) h hok rs

theorem RelN.args {N : Nat} {σ : Subst} {ρo ρi : Env Val} (h : RelN N σ ρo ρi) (ins : List (Option VId))
    (hins : ∀ v ∈ ins.filterMap id, v < N) : evalArgs ρo ins = evalArgs ρi (substIns σ ins) :=
  RelOn.args_untrimmed (P := (· < N)) h ins hins

structure TblOK (I : Interp Val) (Φ : FEnv Val) (tbl : List Func) : Prop where
  den : ∀ op f, findFunc tbl op = some f → Φ op = some (funcDen I Φ f)
  nostoch : ∀ op f, findFunc tbl op = some f → opsAllNodes (fun op => !isStochasticOp op) f.nodes = true
  subinits : ∀ op f, findFunc tbl op = some f → subInitsOKNodes f.nodes = true
  closed : ∀ op f, findFunc tbl op = some f → closedNodes (eraseNodes f.nodes) = true
  calls : ∀ op f, findFunc tbl op = some f → callsOKNodes tbl f.nodes = true
  noident : findFunc tbl identityOp = none
  noidentΦ : Φ identityOp = none

/-- `deeper` simulates the node list it is given; the replacements made in it send values of the inserted nodes to
    values that these read from outside (`Q`) or that are new -/
def DeepOK (I : Interp Val) (Φ : FEnv Val) (α : List (String × AttrData)) (tbl : List Func) (deeper : Deeper) : Prop :=
  ∀ (Q : VId → Prop) (lo : Nat) (ns : List FNode) (st : ISt) (ρ : Env Val), WFBody tbl Q lo st.next ns →
    RelN st.next (deeper st ns).2.2 (evalNodesF I Φ α ns ρ) (evalNodesF I Φ α (deeper st ns).2.1 ρ) ∧
    st.next ≤ (deeper st ns).1.next ∧
    (∀ p ∈ (deeper st ns).2.2, lo ≤ p.1 ∧ p.1 < st.next ∧ p.2 < (deeper st ns).1.next ∧ (Q p.2 ∨ lo ≤ p.2)) ∧
    closedNodes (eraseNodes (deeper st ns).2.1) = true ∧
    (∀ v ∈ outsTop (eraseNodes ns), (deeper st ns).2.2.app v ∈ outsTop (eraseNodes (deeper st ns).2.1))

theorem of_callOK {f : Func} {attrs : List (String × FAttr)} {ins : List (Option VId)} {outs : List VId}
    {bodies : List FGraph} (h : callOK f attrs ins outs bodies = true) :
    (attrs.map Prod.fst).Nodup ∧ outs.length ≤ f.outputs.length ∧
    (∀ p ∈ attrs, match p.2 with
      | .val _ => True
      | .ref _ => f.params.any (fun q => q.1 == p.1 && q.2.isSome) = false) := by
  simp only [callOK, Bool.and_eq_true, decide_eq_true_eq, List.all_eq_true] at h
  obtain ⟨⟨⟨⟨_, h1⟩, _⟩, h3⟩, h5⟩ := h
  refine ⟨h1, h3, fun p hp => ?_⟩
  have := h5 p hp
  cases hp2 : p.2 with
  | val a => trivial
  | ref q => rw [hp2] at this; simpa only [Bool.not_eq_true'] using this

theorem length_fwdOuts (vm : VMap) (produced vs : List VId) (next : Nat) :
    (fwdOuts vm produced vs next).outvals.length = vs.length := by
  fun_induction fwdOuts vm produced vs next <;> simp [*]

theorem outsTopF_eq : ∀ ns : List FNode, outsTopF ns = outsTop (eraseNodes ns)
  | [] => by simp [outsTopF, outsTop]
  | .mk op attrs ins outs bodies :: ns => by
    simp only [outsTopF, FNode.outs, eraseNodes_cons, eraseN, outsTop, Node.outs, outsTopF_eq ns]

theorem fwdOuts_outvals (vm : VMap) (produced vs : List VId) (next : Nat) :
    ∀ w ∈ (fwdOuts vm produced vs next).outvals, w ∈ produced ∨ w ∈ outsTop (eraseNodes (fwdOuts vm produced vs next).nodes) := by
  fun_induction fwdOuts vm produced vs next with
  | case1 => intro w h; simp at h
  | case2 produced _ _ _ w' _ hc ih =>
    intro w h
    rcases List.mem_cons.1 h with h | h
    · exact Or.inl (by rw [h]; simpa using hc)
    · exact ih w h
  | case3 produced _ _ next _ _ _ ih =>
    intro w h
    simp only [eraseNodes_cons, eraseN, outsTop, Node.outs, List.mem_append, List.mem_singleton]
    rcases List.mem_cons.1 h with h | h
    · exact Or.inr (Or.inl h)
    · rcases ih w h with h' | h'
      · rcases List.mem_cons.1 h' with h' | h'
        · exact Or.inr (Or.inl h')
        · exact Or.inl h'
      · exact Or.inr (Or.inr h')
  | case4 _ _ _ _ _ ih =>
    intro w h
    simp only [eraseNodes_cons, eraseN, outsTop, Node.outs, List.mem_append, List.mem_singleton]
    rcases List.mem_cons.1 h with h | h
    · exact Or.inr (Or.inl h)
    · exact (ih w h).imp id Or.inr

theorem instantiate_outvals (f : Func) (cattrs : List (String × FAttr)) (cins : List (Option VId)) (next : Nat) :
    ∀ w ∈ (instantiate f cattrs cins next).outvals, w ∈ outsTop (eraseNodes (instantiate f cattrs cins next).nodes) := by
  intro w hw
  simp only [instantiate] at hw ⊢
  rw [eraseNodes_append, outsTop_append, List.mem_append]
  rcases fwdOuts_outvals _ _ _ _ w hw with h | h
  · exact Or.inl (outsTopF_eq _ ▸ h)
  · exact Or.inr h

theorem app_append_of_not_key {new σ : Subst} {v : VId} (h : ∀ p ∈ new, p.1 ≠ v) : (new ++ σ).app v = σ.app v := by
  rw [Subst.app_append]
  cases hl : new.lookup v with
  | none => rfl
  | some z => exact absurd rfl (h (v, z) (ListFacts.mem_of_lookup hl))

section
variable (I : Interp Val) (Φ : FEnv Val) (α : List (String × AttrData)) (tbl : List Func) (crit : OpId → Bool)
  (deeper : Deeper) (N : Nat)

/-- `r` is what the walk returns.  At the node level the replacements made stand in front of `σ`: each sends an output of
    `ns` (so no input or initializer of a subgraph) to a new value or to the image of a value that `ns` reads -/
theorem inl_sound (ht : TblOK I Φ tbl) (hd : DeepOK I Φ α tbl deeper) :
    let G := fun (st : ISt) (σ : Subst) (g : FGraph) (r : ISt × FGraph) => ∀ ρo ρi : Env Val,
    RelN N σ ρo ρi → SubstOK σ (defsG (eraseG g)) → ssaG (eraseG g) = true → closedG (eraseG g) = true →
    noFwdG (eraseG g) = true → (∀ v ∈ refsG (eraseG g), v < N) → (∀ v ∈ defsG (eraseG g), v < N) →
    N ≤ st.next → (∀ p ∈ σ, p.2 < st.next) → callsOKG tbl g = true →
      evalGF I Φ α g ρo = evalGF I Φ α r.2 ρi ∧ st.next ≤ r.1.next ∧ closedG (eraseG r.2) = true
    let Ns := fun (st : ISt) (σ : Subst) (outs : List VId) (ns : List FNode) (r : IRes) =>
      ∀ (outs0 : List VId) (ρo ρi : Env Val), outs = outs0.map σ.app →
    RelN N σ ρo ρi → SubstOK σ (defsNodes (eraseNodes ns)) → ssaNodes (eraseNodes ns) = true →
    closedNodes (eraseNodes ns) = true → noFwdNodes (eraseNodes ns) = true →
    (∀ v ∈ refsNodes (eraseNodes ns), v < N) → (∀ v ∈ defsNodes (eraseNodes ns), v < N) →
    N ≤ st.next → (∀ p ∈ σ, p.2 < st.next) → callsOKNodes tbl ns = true →
      RelN N r.σ (evalNodesF I Φ α ns ρo) (evalNodesF I Φ α r.nodes ρi) ∧
      r.outs = outs0.map r.σ.app ∧ st.next ≤ r.st.next ∧ (∀ p ∈ r.σ, p.2 < r.st.next) ∧
      closedNodes (eraseNodes r.nodes) = true ∧
      (∀ v ∈ outsTop (eraseNodes ns), r.σ.app v ∈ outsTop (eraseNodes r.nodes)) ∧
      (∃ new, r.σ = new ++ σ ∧ ∀ p ∈ new, p.1 ∈ defsNodes (eraseNodes ns) ∧
        (st.next ≤ p.2 ∨ ∃ v ∈ refsNodes (eraseNodes ns), p.2 = σ.app v))
    let Bs := fun (st : ISt) (σ : Subst) (bs : List FGraph) (r : ISt × List FGraph) => ∀ ρo ρi : Env Val,
    RelN N σ ρo ρi → SubstOK σ (defsBodies (eraseBodies bs)) → ssaBodies (eraseBodies bs) = true →
    closedBodies (eraseBodies bs) = true → noFwdBodies (eraseBodies bs) = true →
    (∀ v ∈ refsBodies (eraseBodies bs), v < N) → (∀ v ∈ defsBodies (eraseBodies bs), v < N) →
    N ≤ st.next → (∀ p ∈ σ, p.2 < st.next) → callsOKBodies tbl bs = true →
      evalBodiesF I Φ α bs ρo = evalBodiesF I Φ α r.2 ρi ∧ st.next ≤ r.1.next ∧
      closedBodies (eraseBodies r.2) = true
    (∀ st σ g, G st σ g (inlG tbl crit deeper st σ g)) ∧
    (∀ st σ outs ns, Ns st σ outs ns (inlNodes tbl crit deeper st σ outs ns)) ∧
    ∀ st σ bs, Bs st σ bs (inlBodies tbl crit deeper st σ bs) := by
  intro G Ns Bs
  refine inlG.mutual_induct_unfolding tbl crit deeper G Ns Bs ?_ ?_ ?_ ?_ ?_ ?_
  · intro st σ inputs outputs inits nodes ih ρo ρi hrel hok hs hc hf hr hdf hN hrg hco
    simp only [eraseG] at hok hs hc hf hr hdf
    have hmap := hok.map_eq (closedG_outputs hc)
    rw [ssaG_iff] at hs
    rw [closedG_iff] at hc
    have key := fun (ρo' ρi' : Env Val) (h : RelN N σ ρo' ρi') =>
      ih outputs ρo' ρi' hmap.symm h hok.of_defsG.2 hs.2 hc.2 hf
        (fun v hv => hr v (mem_refsG_mk.2 (Or.inr hv))) (fun v hv => hdf v (mem_defsG.2 (Or.inr hv))) hN hrg hco
    obtain ⟨_, k2, k3, _, k6, k7, ⟨new, hnew, hkeys⟩⟩ := key ρo ρi hrel
    refine ⟨?_, k3, ?_⟩
    · funext xs
      simp only [evalGF]
      rw [k2]
      exact RelOn.entry_outputs (P := (· < N)) hrel hok.of_defsG.1 (fun v hv => hr v (mem_refsG_mk.2 (Or.inl hv)))
        (fun ρ1 ρ1' h => (key ρ1 ρ1' h).1) I xs
    · simp only [eraseG]
      rw [closedG_iff, k2]
      refine ⟨fun o ho => ?_, k6⟩
      obtain ⟨o0, ho0, rfl⟩ := List.mem_map.1 ho
      rcases List.mem_append.1 (hc.1 o0 ho0) with h | h
      · -- an input or initializer is not replaced
        rw [hnew, app_append_of_not_key (fun p hp e => hs.1.2 o0 h (by rw [← e]; exact (hkeys p hp).1)),
          hok.app_of_mem (mem_defsG.2 (Or.inl (List.mem_append.1 h)))]
        exact List.mem_append_left _ h
      · exact List.mem_append_right _ (k7 o0 h)
  · intro st σ outs outs0 ρo ρi ho hrel _ _ _ _ _ _ _ hrg _
    simp only [evalNodesF]
    exact ⟨hrel, ho, Nat.le_refl _, hrg, rfl, fun v hv => by simp [outsTop] at hv, [], rfl, fun p hp => by simp at hp⟩
  · -- a call that is inlined
    intro st σ outs op attrs ins nouts bodies ns f hsel inst dd pairs r ih outs0 ρo ρi ho hrel hok hs hc hf hr hdf hN hrg hco
    subst ho
    simp only [eraseNodes_cons, eraseN, ssaNodes, ssaN, Bool.and_eq_true, disj_iff] at hs
    simp only [eraseNodes_cons, eraseN, closedNodes, closedN, Bool.and_eq_true] at hc
    simp only [eraseNodes_cons, eraseN, noFwdNodes, noFwdN, Bool.and_eq_true, disj_iff, Node.ins, Node.outs,
      Node.bodies] at hf
    simp only [eraseNodes_cons, eraseN, refsNodes, refsN, List.mem_append] at hr
    simp only [eraseNodes_cons, eraseN, defsNodes, defsN, List.mem_append] at hdf hok
    simp only [callsOKNodes, callsOKN, Bool.and_eq_true] at hco
    obtain ⟨⟨⟨⟨_, _⟩, hsb⟩, hdn⟩, hsn⟩ := hs
    obtain ⟨⟨⟨hfw, _⟩, hfb⟩, hfn⟩ := hf
    have hokn : SubstOK σ (defsNodes (eraseNodes ns)) := hok.mono (fun _ hv => List.mem_append_right _ hv)
    have hoko : SubstOK σ nouts := hok.mono (fun _ hv => List.mem_append_left _ (List.mem_append_left _ hv))
    have hinsN : ∀ v ∈ ins.filterMap id, v < N := fun v hv => hr v (Or.inl (Or.inl hv))
    have hargs := hrel.args ins hinsN
    simp only [r, pairs] at ih ⊢
    obtain ⟨hcrit, hff⟩ := of_accepted hsel
    rw [hff] at hco
    obtain ⟨hnd, hlen, href⟩ := of_callOK hco.1.1
    have hins' : ∀ v ∈ (substIns σ ins).filterMap id, v < st.next := by
      intro v hv
      obtain ⟨v0, hv0, rfl⟩ := mem_substIns' hv
      rcases Subst.app_cases σ v0 with h | ⟨p, hp, _, h2⟩
      · rw [h]; exact Nat.lt_of_lt_of_le (hinsN v0 hv0) hN
      · rw [← h2]; exact hrg p hp
    -- an image of an input of the call is not bound by a later node
    have hcin : ∀ w ∈ (substIns σ ins).filterMap id, w ∉ defsNodes (eraseNodes ns) := by
      intro w hw h
      obtain ⟨v0, hv0, rfl⟩ := mem_substIns' hw
      have hv0' : v0 ∉ defsNodes (eraseNodes ns) := fun h' =>
        hfw v0 hv0 (by simp only [defsNodes, defsN, List.mem_append]; exact Or.inr h')
      exact hokn.app_not_mem hv0' h
    have hpre : CallPre f := ⟨ht.nostoch op f hff, ht.subinits op f hff, ht.closed op f hff⟩
    have hinst : inst = instantiate f attrs (substIns σ ins) st.next := rfl
    obtain ⟨is1, is2, is3, is4⟩ := instantiate_sound I Φ α ht.noidentΦ f attrs (substIns σ ins) st.next ρi hpre hnd
      href hins'
    have hwf := instantiate_wf tbl ht.noident f (ht.closed op f hff) (ht.calls op f hff) attrs (substIns σ ins) st.next
      hins'
    rw [← hinst] at is1 is2 is3 is4 hwf
    have hdd : dd = deeper (st.addInlined op inst.next (inst.bad || nouts.length != f.outputs.length)) inst.nodes := rfl
    have hdst : (st.addInlined op inst.next (inst.bad || nouts.length != f.outputs.length)).next = inst.next := rfl
    have hov := instantiate_outvals f attrs (substIns σ ins) st.next
    rw [← hinst] at hov
    obtain ⟨d1, d2, d3, d4, d5⟩ := hd (· ∈ (substIns σ ins).filterMap id) st.next inst.nodes
      (st.addInlined op inst.next (inst.bad || nouts.length != f.outputs.length)) ρi (by rw [hdst]; exact hwf)
    rw [← hdd] at d1 d2 d3 d4 d5
    rw [hdst] at d1 d2 d3
    have hidx : ∀ v ∈ nouts, nouts.idxOf v < inst.outvals.length := by
      intro v hv
      rw [hinst]
      simp only [instantiate, length_fwdOuts]
      exact Nat.lt_of_lt_of_le (List.idxOf_lt_length_of_mem hv) hlen
    have hval : ∀ w ∈ inst.outvals, dd.2.2.app w < dd.1.next ∧
        (dd.2.2.app w ∈ (substIns σ ins).filterMap id ∨ st.next ≤ dd.2.2.app w) := by
      intro w hw
      rcases Subst.app_cases dd.2.2 w with h | ⟨q, hq, _, h2⟩
      · rw [h]; exact ⟨Nat.lt_of_lt_of_le (is4 w hw).1 d2, (is4 w hw).2⟩
      · rw [← h2]; exact ⟨(d3 q hq).2.2.1, (d3 q hq).2.2.2⟩
    have hΦ := ht.den op f hff
    have horig : evalNF I Φ α (.mk op attrs ins nouts bodies) ρo =
        ρo.bind nouts ((inst.outvals.map dd.2.2.app).map (fun w => evalNodesF I Φ α dd.2.1 ρi w)) := by
      simp only [evalNF, hΦ]
      rw [hargs, is1, List.map_map]
      congr 1
      apply List.map_congr_left
      intro w hw
      exact d1 w (is4 w hw).1
    have hlow : ∀ u, u < st.next → dd.2.2.app u = u := fun u hu =>
      app_of_not_key (fun q hq h => absurd hu (Nat.not_lt.2 (h ▸ (d3 q hq).1)))
    have hrel1 : RelN N (nouts.zip (inst.outvals.map dd.2.2.app) ++ σ)
        (evalNF I Φ α (.mk op attrs ins nouts bodies) ρo) (evalNodesF I Φ α dd.2.1 ρi) := by
      intro v hvN
      rw [horig, Subst.app_append]
      by_cases hv : v ∈ nouts
      · rw [ListFacts.lookup_zip_of_mem _ hv, Env.bind_of_mem _ _ hv]
        simp [List.getElem?_eq_getElem (hidx v hv)]
      · rw [ListFacts.lookup_zip_eq_none hv, Env.bind_of_not_mem _ _ hv]
        simp only
        rw [hrel v hvN]
        have hlt : σ.app v < st.next := by
          rcases Subst.app_cases σ v with h | ⟨p, hp, _, h2⟩
          · rw [h]; exact Nat.lt_of_lt_of_le hvN hN
          · rw [← h2]; exact hrg p hp
        rw [← is2 _ hlt, d1 _ (Nat.lt_of_lt_of_le hlt is3), hlow _ hlt]
    have hok1 : SubstOK (nouts.zip (inst.outvals.map dd.2.2.app) ++ σ) (defsNodes (eraseNodes ns)) := by
      intro p hp
      rcases List.mem_append.1 hp with hp | hp
      · have h1 := (List.of_mem_zip hp).1
        have h2 := (List.of_mem_zip hp).2
        refine ⟨fun h => hdn p.1 (mem_defsN.2 (Or.inl h1)) h, fun h => ?_⟩
        obtain ⟨w, hw, hw2⟩ := List.mem_map.1 h2
        rw [← hw2] at h
        rcases (hval w hw).2 with h3 | h3
        · exact hcin _ h3 h
        · exact absurd (hdf _ (Or.inr h)) (Nat.not_lt.2 (Nat.le_trans hN h3))
      · exact hokn p hp
    have hmapeq : (outs0.map σ.app).map (fun o =>
          ((nouts.zip (inst.outvals.map dd.2.2.app)).lookup o).getD o) =
        outs0.map (Subst.app (nouts.zip (inst.outvals.map dd.2.2.app) ++ σ)) := by
      rw [List.map_map]
      apply List.map_congr_left
      intro o _
      simp only [Function.comp, Subst.app_append]
      by_cases ho : o ∈ nouts
      · rw [hoko.app_of_mem ho]
        cases (nouts.zip (inst.outvals.map dd.2.2.app)).lookup o <;> rfl
      · have h1 : σ.app o ∉ nouts := hoko.app_not_mem ho
        rw [ListFacts.lookup_zip_eq_none h1, ListFacts.lookup_zip_eq_none ho]
        rfl
    have hN1 : N ≤ dd.1.next := Nat.le_trans hN (Nat.le_trans is3 d2)
    have hrg1 : ∀ p ∈ nouts.zip (inst.outvals.map dd.2.2.app) ++ σ, p.2 < dd.1.next := by
      intro p hp
      rcases List.mem_append.1 hp with hp | hp
      · obtain ⟨w, hw, hw2⟩ := List.mem_map.1 (List.of_mem_zip hp).2
        rw [← hw2]; exact (hval w hw).1
      · exact Nat.lt_of_lt_of_le (hrg p hp) (Nat.le_trans is3 d2)
    obtain ⟨k1, k2, k3, k4, k6, k7, ⟨new, hnew, hkeys⟩⟩ := ih outs0 _ _ hmapeq hrel1 hok1 hsn hc.2 hfn
      (fun v hv => hr v (Or.inr hv)) (fun v hv => hdf v (Or.inr hv)) hN1 hrg1 hco.2
    simp only [evalNodesF, evalNodesF_append]
    refine ⟨k1, k2, Nat.le_trans (Nat.le_trans is3 d2) k3, k4, ?_, fun v hv => ?_,
      new ++ nouts.zip (inst.outvals.map dd.2.2.app), by rw [hnew, List.append_assoc], fun p hp => ?_⟩
    · rw [eraseNodes_append, closedNodes_append, d4, k6]; rfl
    · rw [eraseNodes_append, outsTop_append, List.mem_append]
      simp only [eraseNodes_cons, eraseN, outsTop, Node.outs, List.mem_append] at hv
      rcases hv with hv | hv
      · left
        have hvn : v ∉ defsNodes (eraseNodes ns) := fun h => hdn v (mem_defsN.2 (Or.inl hv)) h
        rw [hnew, app_append_of_not_key (fun p hp e => hvn (by rw [← e]; exact (hkeys p hp).1)), Subst.app_append]
        rw [ListFacts.lookup_zip_of_mem _ hv]
        simp only [List.getElem?_map, List.getElem?_eq_getElem (hidx v hv), Option.map_some]
        exact d5 _ (hov _ (List.getElem_mem (hidx v hv)))
      · exact Or.inr (k7 v hv)
    -- a value that replaces an output of the call is new or the image of an input
    have hpair : ∀ p ∈ nouts.zip (inst.outvals.map dd.2.2.app), p.1 ∈ nouts ∧
        (st.next ≤ p.2 ∨ ∃ v ∈ refsNodes (eraseNodes (.mk op attrs ins nouts bodies :: ns)), p.2 = σ.app v) := by
      intro p hp
      refine ⟨(List.of_mem_zip hp).1, ?_⟩
      obtain ⟨w, hw, hw2⟩ := List.mem_map.1 (List.of_mem_zip hp).2
      rw [← hw2]
      rcases (hval w hw).2 with h3 | h3
      · obtain ⟨v, hv, e⟩ := mem_substIns' h3
        exact Or.inr ⟨v, by simp only [eraseNodes_cons, eraseN, refsNodes, refsN, List.mem_append]; exact Or.inl (Or.inl hv), e⟩
      · exact Or.inl h3
    rcases List.mem_append.1 hp with hp | hp
    · obtain ⟨h1, h2⟩ := hkeys p hp
      refine ⟨by simp only [eraseNodes_cons, defsNodes, List.mem_append]; exact Or.inr h1, ?_⟩
      rcases h2 with h2 | ⟨v, hv, h2⟩
      · exact Or.inl (Nat.le_trans (Nat.le_trans is3 d2) h2)
      · rw [Subst.app_append] at h2
        cases hl : (nouts.zip (inst.outvals.map dd.2.2.app)).lookup v with
        | none =>
          rw [hl] at h2
          exact Or.inr ⟨v, by simp only [eraseNodes_cons, refsNodes, List.mem_append]; exact Or.inr hv, h2⟩
        | some u =>
          rw [hl] at h2
          simp only at h2
          rw [h2]
          exact (hpair (v, u) (ListFacts.mem_of_lookup hl)).2
    · exact ⟨by simp only [eraseNodes_cons, eraseN, defsNodes, defsN, List.mem_append]; exact Or.inl (Or.inl (hpair p hp).1),
        (hpair p hp).2⟩
  · -- the node is kept
    intro st σ outs op attrs ins nouts bodies ns hsel rb r ihb ih outs0 ρo ρi ho hrel hok hs hc hf hr hdf hN hrg hco
    subst ho
    simp only [eraseNodes_cons, eraseN, ssaNodes, ssaN, Bool.and_eq_true, disj_iff] at hs
    simp only [eraseNodes_cons, eraseN, closedNodes, closedN, Bool.and_eq_true] at hc
    simp only [eraseNodes_cons, eraseN, noFwdNodes, noFwdN, Bool.and_eq_true, disj_iff, Node.ins, Node.outs,
      Node.bodies] at hf
    simp only [eraseNodes_cons, eraseN, refsNodes, refsN, List.mem_append] at hr
    simp only [eraseNodes_cons, eraseN, defsNodes, defsN, List.mem_append] at hdf hok
    simp only [callsOKNodes, callsOKN, Bool.and_eq_true] at hco
    obtain ⟨⟨⟨⟨_, _⟩, hsb⟩, hdn⟩, hsn⟩ := hs
    obtain ⟨⟨⟨hfw, _⟩, hfb⟩, hfn⟩ := hf
    have hokn : SubstOK σ (defsNodes (eraseNodes ns)) := hok.mono (fun _ hv => List.mem_append_right _ hv)
    have hoko : SubstOK σ nouts := hok.mono (fun _ hv => List.mem_append_left _ (List.mem_append_left _ hv))
    have hokb : SubstOK σ (defsBodies (eraseBodies bodies)) :=
      hok.mono (fun _ hv => List.mem_append_left _ (List.mem_append_right _ hv))
    have hinsN : ∀ v ∈ ins.filterMap id, v < N := fun v hv => hr v (Or.inl (Or.inl hv))
    have hargs := hrel.args ins hinsN
    simp only [r, rb] at ih ihb ⊢
    have hb := ihb ρo ρi hrel hokb hsb hc.1 hfb
      (fun v hv => hr v (Or.inl (Or.inr hv))) (fun v hv => hdf v (Or.inl (Or.inr hv))) hN hrg hco.1.2
    have keep : RelN N σ (evalNF I Φ α (.mk op attrs ins nouts bodies) ρo)
        (evalNF I Φ α (.mk op attrs (substIns σ ins) nouts (inlBodies tbl crit deeper st σ bodies).2) ρi) := by
      simp only [evalNF]
      rw [hargs, hb.1]
      exact RelN.bind hrel hoko _
    obtain ⟨k1, k2, k3, k4, k6, k7, ⟨new, hnew, hkeys⟩⟩ := ih outs0 _ _ rfl keep hokn
      hsn hc.2 hfn (fun v hv => hr v (Or.inr hv)) (fun v hv => hdf v (Or.inr hv)) (Nat.le_trans hN hb.2.1)
      (fun p hp => Nat.lt_of_lt_of_le (hrg p hp) hb.2.1) hco.2
    simp only [evalNodesF]
    refine ⟨k1, k2, Nat.le_trans hb.2.1 k3, k4, ?_, fun v hv => ?_, new, hnew, fun p hp => ?_⟩
    · simp only [eraseNodes_cons, eraseN, closedNodes, closedN, Bool.and_eq_true]
      exact ⟨hb.2.2, k6⟩
    · simp only [eraseNodes_cons, eraseN, outsTop, Node.outs, List.mem_append] at hv ⊢
      rcases hv with hv | hv
      · left
        have hvn : v ∉ defsNodes (eraseNodes ns) := fun h => hdn v (mem_defsN.2 (Or.inl hv)) h
        rw [hnew, app_append_of_not_key (fun p hp e => hvn (by rw [← e]; exact (hkeys p hp).1)), hoko.app_of_mem hv]
        exact hv
      · exact Or.inr (k7 v hv)
    · obtain ⟨h1, h2⟩ := hkeys p hp
      refine ⟨by simp only [eraseNodes_cons, defsNodes, List.mem_append]; exact Or.inr h1, ?_⟩
      rcases h2 with h2 | ⟨v, hv, h2⟩
      · exact Or.inl (Nat.le_trans hb.2.1 h2)
      · exact Or.inr ⟨v, by simp only [eraseNodes_cons, refsNodes, List.mem_append]; exact Or.inr hv, h2⟩
  · intro st σ ρo ρi _ _ _ _ _ _ _ _ _ _
    simp [evalBodiesF, closedBodies]
  · intro st σ b bs ihg ihb ρo ρi hrel hok hs hc hf hr hdf hN hrg hco
    simp only [eraseBodies_cons, ssaBodies, Bool.and_eq_true] at hs
    simp only [eraseBodies_cons, closedBodies, Bool.and_eq_true] at hc
    simp only [eraseBodies_cons, noFwdBodies, Bool.and_eq_true] at hf
    simp only [eraseBodies_cons, refsBodies, List.mem_append] at hr
    simp only [eraseBodies_cons, defsBodies, List.mem_append] at hdf hok
    simp only [callsOKBodies, Bool.and_eq_true] at hco
    obtain ⟨h1, h2, h3⟩ := ihg ρo ρi hrel
      (hok.mono (fun v hv => List.mem_append_left _ hv))
      hs.1.1 hc.1 hf.1 (fun v hv => hr v (Or.inl hv)) (fun v hv => hdf v (Or.inl hv)) hN hrg hco.1
    obtain ⟨k1, k2, k3⟩ := ihb ρo ρi hrel
      (hok.mono (fun v hv => List.mem_append_right _ hv))
      hs.2 hc.2 hf.2 (fun v hv => hr v (Or.inr hv)) (fun v hv => hdf v (Or.inr hv)) (Nat.le_trans hN h2)
      (fun p hp => Nat.lt_of_lt_of_le (hrg p hp) h2) hco.2
    simp only [evalBodiesF, eraseBodies_cons, closedBodies, Bool.and_eq_true]
    exact ⟨by rw [h1, k1], Nat.le_trans h2 k2, h3, k3⟩

theorem inlBodies_sound (ht : TblOK I Φ tbl) (hd : DeepOK I Φ α tbl deeper) :
    ∀ (bs : List FGraph) (σ : Subst) (st : ISt) (ρo ρi : Env Val),
    RelN N σ ρo ρi → SubstOK σ (defsBodies (eraseBodies bs)) → ssaBodies (eraseBodies bs) = true →
    closedBodies (eraseBodies bs) = true → noFwdBodies (eraseBodies bs) = true →
    (∀ v ∈ refsBodies (eraseBodies bs), v < N) → (∀ v ∈ defsBodies (eraseBodies bs), v < N) →
    N ≤ st.next → (∀ p ∈ σ, p.2 < st.next) → callsOKBodies tbl bs = true →
    evalBodiesF I Φ α bs ρo = evalBodiesF I Φ α (inlBodies tbl crit deeper st σ bs).2 ρi ∧
    st.next ≤ (inlBodies tbl crit deeper st σ bs).1.next ∧
    closedBodies (eraseBodies (inlBodies tbl crit deeper st σ bs).2) = true :=
  fun bs σ st ρo ρi => (inl_sound I Φ α tbl crit deeper N ht hd).2.2 st σ bs ρo ρi

end

theorem deepOK_inlAt (I : Interp Val) (Φ : FEnv Val) (α : List (String × AttrData)) (tbl : List Func)
    (crit : OpId → Bool) (ht : TblOK I Φ tbl) : ∀ k, DeepOK I Φ α tbl (inlAt tbl crit k)
  | 0 => by
    intro Q lo ns st ρ hwf
    simp only [inlAt]
    exact ⟨fun v _ => by rw [Subst.app_nil], Nat.le_refl _, fun p hp => by simp at hp, hwf.closed,
      fun v hv => by rw [Subst.app_nil]; exact hv⟩
  | k + 1 => by
    intro Q lo ns st ρ hwf
    obtain ⟨k1, _, k3, k4, k6, k7, new, hnew, hkeys⟩ := (inl_sound I Φ α tbl crit (inlAt tbl crit k) st.next ht
      (deepOK_inlAt I Φ α tbl crit ht k)).2.1 st [] _ ns [] ρ ρ rfl (fun v _ => by rw [Subst.app_nil])
      (fun p hp => by simp at hp) hwf.ssa hwf.closed hwf.nofwd (fun v hv => (hwf.refs v hv).1)
      (fun v hv => (hwf.defs v hv).2) (Nat.le_refl _) (fun p hp => by simp at hp) hwf.calls
    simp only [inlAt]
    refine ⟨k1, k3, fun p hp => ?_, k6, k7⟩
    simp only [List.map_nil, List.append_nil] at hnew
    obtain ⟨h1, h2⟩ := hkeys p (hnew ▸ hp)
    obtain ⟨a, b⟩ := hwf.defs p.1 h1
    refine ⟨a, b, k4 p hp, ?_⟩
    rcases h2 with h2 | ⟨v, hv, h2⟩
    · exact Or.inr (Nat.le_trans a (Nat.le_trans (Nat.le_of_lt b) h2))
    · rw [Subst.app_nil] at h2
      rw [h2]; exact (hwf.refs v hv).2

end IrVerif.Inline
