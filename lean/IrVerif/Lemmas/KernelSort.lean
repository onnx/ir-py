/-
Kernel × C12: the object tree `treeOf w g` that the kernel reads off its own world is *tied* to the world
(every graph of the tree lists exactly the node sequence the world records for it), hence C12's
`C12_perm` applies to it: what `Sort.sortModel (treeOf w g)` returns is, for every graph of the nest, a
permutation of that graph's current node sequence — the hypothesis under which `sortOk` is applied
rather than refused.
-/
import IrVerif.Lemmas.KernelFaithful
import IrVerif.Props.C12
namespace IrVerif.Kernel
open IrVerif.Sort (MNode MGraph)

/-- a graph of the encoded tree lists the node sequence the world records for it -/
def Tied (w : World) (h : MGraph) : Prop := h.2.map MNode.id = (w.gr h.1).nodes

theorem treeNode_id (w : World) (f n : Nat) : (treeNode w f n).id = n := by
  cases f <;> rfl

theorem map_treeNode_id (w : World) (f : Nat) (l : List Nat) : (l.map (treeNode w f)).map MNode.id = l := by
  induction l with
  | nil => rfl
  | cons a l ih => simp only [List.map_cons, treeNode_id, ih]

theorem treeNode_subs_zero (w : World) (n : Nat) : (treeNode w 0 n).subs = [] := rfl

theorem treeNode_subs_succ (w : World) (f n : Nat) :
    (treeNode w (f + 1) n).subs =
      ((w.node n).attrs.flatMap (fun p => p.2)).map (fun g => (g, (w.gr g).nodes.map (treeNode w f))) := rfl

theorem subgraphs_treeNode_tied (w : World) : ∀ (f n : Nat) (h : MGraph),
    h ∈ Sort.subgraphsN (treeNode w f n) → Tied w h := by
  intro f
  induction f with
  | zero =>
    intro n h hh
    obtain ⟨g, hg, _⟩ := Sort.mem_subgraphsN.1 hh
    rw [treeNode_subs_zero] at hg
    cases hg
  | succ f ih =>
    intro n h hh
    obtain ⟨g, hg, hcase⟩ := Sort.mem_subgraphsN.1 hh
    rw [treeNode_subs_succ] at hg
    obtain ⟨gi, _, rfl⟩ := List.mem_map.1 hg
    rcases hcase with rfl | ⟨m, hm, hhm⟩
    · exact map_treeNode_id w f _
    · obtain ⟨n', _, rfl⟩ := List.mem_map.1 hm
      exact ih n' h hhm

/-- **the tree is tied to the world**: every graph `Graph.sort` is going to re-link is listed in the tree
with exactly the node sequence the world has for it -/
theorem treeOf_tied (w : World) (g : Nat) : ∀ h ∈ Sort.allGraphs (treeOf w g), Tied w h := by
  intro h hh
  rcases Sort.mem_allGraphs.1 hh with rfl | ⟨m, hm, hhm⟩
  · exact map_treeNode_id w _ _
  · obtain ⟨n', _, rfl⟩ := List.mem_map.1 hm
    exact subgraphs_treeNode_tied w _ n' h hhm

/-- C12's result on the kernel's own tree: every entry is a permutation of the node sequence the world
records for that graph -/
theorem sortModel_perm_world (w : World) (g : Nat) (ht : Sort.WF (treeOf w g)) (r : List (Nat × List Nat))
    (hr : Sort.sortModel (treeOf w g) = some r) : ∀ p ∈ r, p.2.Perm (w.gr p.1).nodes := by
  intro p hp
  obtain ⟨old, hold, h1, h2⟩ := Sort.forall₂_mem_right (Sort.C12_perm _ ht r hr) hp
  obtain ⟨h, hh, rfl⟩ := List.mem_map.1 hold
  have ht' := treeOf_tied w g h hh
  unfold Tied at ht'
  rw [h1]
  simp only [Sort.orderOf] at h2 ⊢
  rw [← ht']; exact h2

/-- hence the permutation half of `sortBad` is false: a sort is rejected only by the naming probe -/
theorem sortBad_of_sortModel (w : World) (g : Nat) (ht : Sort.WF (treeOf w g)) (r : List (Nat × List Nat))
    (hr : Sort.sortModel (treeOf w g) = some r) :
    sortBad w r = r.any (fun p => !p.2.all (nodeAcceptable w p.1)) := by
  unfold sortBad
  have key : ∀ l : List (Nat × List Nat), (∀ p ∈ l, p.2.Perm (w.gr p.1).nodes) →
      l.any (fun p => !p.2.isPerm (w.gr p.1).nodes || !p.2.all (nodeAcceptable w p.1)) =
        l.any (fun p => !p.2.all (nodeAcceptable w p.1)) := by
    intro l
    induction l with
    | nil => intro _; rfl
    | cons a l ih =>
      intro hl
      have ha : a.2.isPerm (w.gr a.1).nodes = true := List.isPerm_iff.2 (hl a List.mem_cons_self)
      simp only [List.any_cons, ha, Bool.not_true, Bool.false_or]
      rw [ih (fun p hp => hl p (List.mem_cons_of_mem _ hp))]
  exact key r (sortModel_perm_world w g ht r hr)

/-! ### the exact result of an accepted sort

`Graph.sort` ends with `graph.extend(reversed(sorted_nodes))` for every graph of the nest (`sortApply`).  On a
well-formed world, with one entry per graph and every entry a permutation of that graph's current sequence (what
`C12_perm` gives for the kernel's own tree), the node sequence each graph is left with IS its entry: every `append`
unlinks the node and links it at the end (`Sort.relink`, C12's `C12_relink`), re-extending one graph does not touch the
sequence of another one, and the nodes keep the graph they name. -/

open IrVerif.LinkedSet in
/-- `Graph.extend(xs)` on the abstract node sequence is C12's `relink` (both are C11's `Spec.extend`) -/
theorem foldl_linkAfter_eq_relink (L xs : List Nat) (hL : L.Nodup) :
    xs.foldl (fun l v => linkAfter l l.getLast? v) L = Sort.relink L xs := by
  rw [← spec_extend .fwd xs L .done]
  exact Sort.spec_extend_L ⟨L, .fwd, .done⟩ hL xs

/-- what an accepted `extend` on graph `g` keeps when its nodes already are members of `g`: every naming fact
(`NameStep`: outputs, the graph every node names, locked tensors, names only get set) and the node sequence of every
other graph -/
structure RelinkStep (g : Nat) (w w' : World) : Prop where
  ns : NameStep w w'
  others : ∀ h, h ≠ g → (w'.gr h).nodes = (w.gr h).nodes

theorem RelinkStep.refl (g : Nat) (w : World) : RelinkStep g w w := ⟨NameStep.refl w, fun _ _ => rfl⟩

theorem RelinkStep.trans {g : Nat} {a b c : World} (h1 : RelinkStep g a b) (h2 : RelinkStep g b c) :
    RelinkStep g a c :=
  ⟨h1.ns.trans h2.ns, fun h hh => (h2.others h hh).trans (h1.others h hh)⟩

/-- one accepted node that is already a member of `g`: names, then the re-link -/
theorem link_relinkStep (w : World) (hw : WF w) (g : Nat) (anchor : Option Nat) (n : Nat)
    (hn : (w.node n).graph = some g) (ha : nodeAcceptable w g n = true) :
    RelinkStep g w (nodeLink (assignNames w g n) g anchor n) := by
  obtain ⟨_, hstep, _⟩ := assignNames_facts w hw g n ha
  have hseq := assignNames_namingFrame w g n
  have hgn : ((assignNames w g n).node n).graph = some g := by rw [hstep.graph]; exact hn
  obtain ⟨ho, hlk, hnm⟩ := nodeLink_nameStep_other (assignNames w g n) g anchor n
  have hadd : nodeAddable (assignNames w g n) g n = true := by simp [nodeAddable, hgn]
  refine ⟨hstep.trans ⟨ho, ?_, hlk, fun v hv => by rw [hnm]; exact hv⟩, ?_⟩
  · intro m
    rw [nodeLink_node _ _ _ _ hadd]
    split
    · subst_vars; exact hgn.symm
    · rfl
  · intro h hh
    rw [← (congrArg GraphS.nodes (hseq.gr h) :), nodeLink_gr _ _ _ _ hadd, if_neg hh]

/-- `Graph.extend(ns)` with every node already a member of `g` -/
theorem extendMut_relinkStep (g : Nat) : ∀ (ns : List Nat) (w : World), WF w →
    (∀ n ∈ ns, (w.node n).graph = some g) → (∀ n ∈ ns, nodeAcceptable w g n = true) →
    RelinkStep g w (extendMut w g ns)
  | [], w, _, _, _ => RelinkStep.refl g w
  | n :: ns, w, hw, hg, ha => by
    have h1 := link_relinkStep w hw g (w.gr g).nodes.getLast? n (hg n List.mem_cons_self) (ha n List.mem_cons_self)
    obtain ⟨_, hw1, hacc⟩ := link_facts w hw g (w.gr g).nodes.getLast? n (ha n List.mem_cons_self)
    have h2 := extendMut_relinkStep g ns _ hw1
      (fun m hm => by rw [h1.ns.graph]; exact hg m (List.mem_cons_of_mem _ hm))
      (fun m hm => hacc m (ha m (List.mem_cons_of_mem _ hm)))
    simp only [extendMut, List.foldl_cons] at h2 ⊢
    exact h1.trans h2

/-- re-extending a graph with a permutation of its own node sequence leaves exactly that permutation -/
theorem nodes_extendMut_perm (w : World) (hw : WF w) (g : Nat) (ns : List Nat)
    (hp : ns.Perm (w.gr g).nodes) : ((extendMut w g ns).gr g).nodes = ns := by
  have hmem : ∀ n ∈ ns, (w.node n).graph = some g := fun n hn => (hw.node.mem n g).2 (hp.mem_iff.1 hn)
  rw [nodes_extendMut g ns w (fun n hn => by simp [nodeAddable, hmem n hn]),
    foldl_linkAfter_eq_relink _ _ (hw.node.nodup g)]
  exact Sort.C12_relink _ _ (hw.node.nodup g) hp

/-- **the re-linking loop of `Graph.sort` is exact**: one entry per graph, each a permutation of that graph's
sequence with every node acceptable ⟹ afterwards every listed graph has exactly its entry as node sequence, every
other graph keeps its sequence, and only naming facts changed besides -/
theorem sortApply_exact : ∀ (r : List (Nat × List Nat)) (w : World), WF w → (r.map Prod.fst).Nodup →
    (∀ p ∈ r, p.2.Perm (w.gr p.1).nodes) → (∀ p ∈ r, ∀ n ∈ p.2, nodeAcceptable w p.1 n = true) →
    (∀ p ∈ r, ((sortApply w r).gr p.1).nodes = p.2) ∧
    (∀ h, h ∉ r.map Prod.fst → ((sortApply w r).gr h).nodes = (w.gr h).nodes) ∧
    NameStep w (sortApply w r)
  | [], w, _, _, _, _ => ⟨fun _ hp => (by cases hp), fun _ _ => rfl, NameStep.refl w⟩
  | p :: rest, w, hw, hnd, hperm, hacc => by
    have hp := hperm p List.mem_cons_self
    have ha := hacc p List.mem_cons_self
    have hcond : (p.2.isPerm (w.gr p.1).nodes && p.2.all (nodeAcceptable w p.1)) = true := by
      rw [Bool.and_eq_true]
      exact ⟨List.isPerm_iff.2 hp, List.all_eq_true.2 ha⟩
    have hunf : sortApply w (p :: rest) = sortApply (extendMut w p.1 p.2) rest := by
      simp only [sortApply, List.foldl_cons, hcond, if_true]
    have hmem : ∀ n ∈ p.2, (w.node n).graph = some p.1 := fun n hn => (hw.node.mem n p.1).2 (hp.mem_iff.1 hn)
    have hstep := extendMut_relinkStep p.1 p.2 w hw hmem ha
    have hw1 := extendMut_WF w p.1 p.2 hw
    have hself := nodes_extendMut_perm w hw p.1 p.2 hp
    rw [List.map_cons, List.nodup_cons] at hnd
    have hne : ∀ q ∈ rest, q.1 ≠ p.1 := fun q hq e => hnd.1 (e ▸ List.mem_map_of_mem hq)
    obtain ⟨i1, i2, i3⟩ := sortApply_exact rest (extendMut w p.1 p.2) hw1 hnd.2
      (fun q hq => by rw [hstep.others q.1 (hne q hq)]; exact hperm q (List.mem_cons_of_mem _ hq))
      (fun q hq n hn => hstep.ns.acceptable q.1 n (hacc q (List.mem_cons_of_mem _ hq) n hn))
    rw [hunf]
    refine ⟨?_, ?_, hstep.ns.trans i3⟩
    · intro q hq
      rcases List.mem_cons.1 hq with rfl | hq
      · rw [i2 _ hnd.1]; exact hself
      · exact i1 q hq
    · intro h hh
      rw [List.map_cons, List.mem_cons, not_or] at hh
      rw [i2 h hh.2]; exact hstep.others h hh.1

/-- the result of C12's sort model has exactly one entry per graph of the tree, in the tree's order -/
theorem sortModel_graph_ids (t : Sort.MGraph) (ht : Sort.WF t) (r : List (Nat × List Nat))
    (hr : Sort.sortModel t = some r) : r.map Prod.fst = (Sort.allGraphs t).map Prod.fst := by
  have h := Sort.C12_perm t ht r hr
  have key : ∀ (l r : List (Nat × List Nat)),
      List.Forall₂ (fun old new => new.1 = old.1 ∧ new.2.Perm old.2) l r → r.map Prod.fst = l.map Prod.fst := by
    intro l r h
    induction h with
    | nil => rfl
    | cons hab _ ih => simp only [List.map_cons, hab.1, ih]
  rw [key _ _ h]
  simp only [Sort.graphsOf, List.map_map]
  rfl

end IrVerif.Kernel
