/-
C18: the order that `node_index` (a dict comprehension over `enumerate(graph)`) induces on a node list that
may repeat nodes (a `GraphView` may list a node several times): position of the LAST occurrence.
-/
import IrVerif.Lemmas.Extract
namespace IrVerif.Extract

theorem mem_dedupLast : ∀ {g : List NId} {n : NId}, n ∈ dedupLast g ↔ n ∈ g
  | [], n => by simp [dedupLast]
  | x :: xs, n => by
    unfold dedupLast
    by_cases hx : x ∈ xs
    · rw [if_pos hx, mem_dedupLast (g := xs), List.mem_cons]
      constructor
      · exact Or.inr
      · rintro (rfl | h)
        · exact hx
        · exact h
    · rw [if_neg hx, List.mem_cons, List.mem_cons, mem_dedupLast (g := xs)]

theorem dedupLast_nodup : ∀ (g : List NId), (dedupLast g).Nodup
  | [] => List.nodup_nil
  | x :: xs => by
    unfold dedupLast
    by_cases hx : x ∈ xs
    · rw [if_pos hx]; exact dedupLast_nodup xs
    · rw [if_neg hx]
      exact List.nodup_cons.mpr ⟨fun h => hx (mem_dedupLast.mp h), dedupLast_nodup xs⟩

theorem dedupLast_sublist : ∀ (g : List NId), (dedupLast g).Sublist g
  | [] => List.Sublist.slnil
  | x :: xs => by
    unfold dedupLast
    by_cases hx : x ∈ xs
    · rw [if_pos hx]; exact (dedupLast_sublist xs).cons _
    · rw [if_neg hx]; exact (dedupLast_sublist xs).cons_cons _

theorem dedupLast_of_nodup : ∀ {g : List NId}, g.Nodup → dedupLast g = g
  | [], _ => rfl
  | x :: xs, h => by
    rw [List.nodup_cons] at h
    unfold dedupLast
    rw [if_neg h.1, dedupLast_of_nodup h.2]

/-- along `dedupLast g` the last positions strictly increase -/
theorem dedupLast_pairwise : ∀ (g : List NId),
    (dedupLast g).Pairwise (fun a b => lastIdx g a < lastIdx g b)
  | [] => List.Pairwise.nil
  | x :: xs => by
    have ih := dedupLast_pairwise xs
    have tail : (dedupLast xs).Pairwise (fun a b => lastIdx (x :: xs) a < lastIdx (x :: xs) b) := by
      refine ih.imp_of_mem ?_
      intro a b ha hb hab
      have ha' : a ∈ xs := mem_dedupLast.mp ha
      have hb' : b ∈ xs := mem_dedupLast.mp hb
      simp only [lastIdx, ha', hb', if_true]
      omega
    unfold dedupLast
    by_cases hx : x ∈ xs
    · rw [if_pos hx]; exact tail
    · rw [if_neg hx, List.pairwise_cons]
      refine ⟨?_, tail⟩
      intro b hb
      have hb' : b ∈ xs := mem_dedupLast.mp hb
      simp only [lastIdx, hx, hb', if_true, if_false]
      omega

/-- sorting a duplicate-free subset of `g` by `node_index` gives the last occurrences of `g`, filtered -/
theorem sortByKey_lastIdx_eq_filter {g l : List Nat} (hl : l.Nodup) (hsub : ∀ x, x ∈ l → x ∈ g) :
    sortByKey (fun n => lastIdx g n) l = (dedupLast g).filter (fun n => decide (n ∈ l)) :=
  sortByKey_eq_filter (dedupLast_pairwise g) hl (fun x hx => mem_dedupLast.mpr (hsub x hx))

end IrVerif.Extract
