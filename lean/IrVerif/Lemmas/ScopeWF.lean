/-
The link invariants hold along every successful run of `deserGraph` (mutual induction on the proto).
-/
import IrVerif.Lemmas.ScopeInv
namespace IrVerif.Scope

/-- names whose node has not been built yet are bound to values without producer -/
def Pend (st : Store) (top : Table) (names : List Name) : Prop :=
  ∀ x ∈ names, ∃ v, top.lookup x = some v ∧ (st.vals v).producer = none

/-- entries whose name is not a declared node output never get a producer -/
def Roots (st : Store) (top : Table) (decl : List Name) : Prop :=
  ∀ e ∈ top, e.1 ∉ decl → (st.vals e.2).producer = none

/-- the values bound in the scope of a graph under construction are not owned by any graph yet -/
def Unowned (st : Store) (top : Table) : Prop :=
  ∀ e ∈ top, (st.vals e.2).graph = none ∧ (st.vals e.2).isIn = false ∧ (st.vals e.2).isOut = false ∧
    (st.vals e.2).isInit = false

theorem Unowned.congr {st st' : Store} {top : Table} (h : Unowned st top)
    (he : ∀ e ∈ top, (st'.vals e.2).graph = (st.vals e.2).graph ∧ (st'.vals e.2).isIn = (st.vals e.2).isIn ∧
      (st'.vals e.2).isOut = (st.vals e.2).isOut ∧ (st'.vals e.2).isInit = (st.vals e.2).isInit) : Unowned st' top :=
  fun e hm => by rw [(he e hm).1, (he e hm).2.1, (he e hm).2.2.1, (he e hm).2.2.2]; exact h e hm

theorem unlinked_default {c : ValueS} (h : linksOf c = linksOf {}) :
    c.producer = none ∧ c.graph = none ∧ c.isIn = false ∧ c.isOut = false ∧ c.isInit = false := by
  obtain ⟨_, a, _, b, c1, c2, c3⟩ := linksOf_eq h
  exact ⟨a, b, c1, c2, c3⟩

mutual
theorem deserGraph_links :
    ∀ (p : GraphP) (st : Store) (outer : List Table) (st' : Store) (g : GraphT) (R : List NRec) (G : List GRec),
      Fresh st → TablesLt st outer → Inv st R G → deserGraph st outer p = .ok (st', g) →
      Inv st' (R ++ recsG g) (G ++ grecsG g)
  | .mk inputs inits vinfo nodes outputs => by
    have ih := deserNodes_links nodes
    intro st outer st' g R G hf ho hinv h
    obtain ⟨st1, ins, st2, tbl2, iv, st3, tbl3, st4, tbl4, ns, st5, outs, r, rfl, rfl⟩ := deserGraph_run h
    have fr := r.frame hf ho
    have q13 : Quiet st st3 := (fr.q1.trans fr.q2).trans fr.q3
    have inv3 : Inv st3 R G := hinv.quiet q13 hf
    -- every cell allocated by this graph so far is unlinked
    have hdef : ∀ v, st.nv ≤ v → linksOf (st3.vals v) = linksOf {} := by
      intro v hv
      rw [q13.links hf v, hf v hv]
    have pend3 : Pend st3 tbl3 (outNames nodes) := by
      intro x hx
      obtain ⟨_, v, hl, hge⟩ := fr.m3 x hx
      exact ⟨v, hl, (unlinked_default (hdef v (Nat.le_trans fr.le2 hge))).1⟩
    have roots3 : Roots st3 tbl3 (outNames nodes) := fun e he _ =>
      (unlinked_default (hdef e.2 (fr.ok3.ge e he))).1
    have unown3 : Unowned st3 tbl3 := fun e he =>
      (unlinked_default (hdef e.2 (fr.ok3.ge e he))).2
    obtain ⟨inv4, roots4, unown4⟩ := ih st3 tbl3 outer (vinfoTable vinfo) st.nv st4 tbl4 ns R G
      (outNames nodes) fr.f3 fr.ok3 fr.ho3 fr.le3 inv3 pend3 fr.nd3 (fun _ hx => hx) roots3 unown3 r.hnodes
    have inv5 := inv4.quiet fr.q5 fr.f4
    have hl5 : ∀ v, _ := fun v => linksOf_eq (fr.q5.links fr.f4 v)
    -- the values handed to `mkGraph`
    have ins_mem : ∀ v ∈ ins, ∃ x, (x, v) ∈ tbl4 := by
      intro v hv
      rw [fr.hins] at hv
      obtain ⟨x, hx⟩ := inputTable_vals inputs st.nv v hv
      rw [← fr.hins] at hx
      exact ⟨x, fr.s4.mem _ (fr.s3.mem _ (fr.s2.mem _ hx))⟩
    have iv_mem : ∀ v ∈ iv, ∃ x, (x, v) ∈ tbl4 := by
      intro v hv
      obtain ⟨x, _, hx⟩ := fr.miv v hv
      exact ⟨x, fr.s4.mem _ (fr.s3.mem _ hx)⟩
    have hun : ∀ v, v ∈ ins ∨ v ∈ outs ∨ v ∈ iv →
        (st5.vals v).graph = none ∧ (st5.vals v).isIn = false ∧ (st5.vals v).isOut = false ∧
        (st5.vals v).isInit = false := by
      intro v hv
      have intbl : (∃ x, (x, v) ∈ tbl4) →
          (st5.vals v).graph = none ∧ (st5.vals v).isIn = false ∧ (st5.vals v).isOut = false ∧
          (st5.vals v).isInit = false := by
        intro hx
        obtain ⟨x, hx⟩ := hx
        exact unown4.congr (fun e _ => (hl5 e.2).2.2.2) (x, v) hx
      rcases hv with hv | hv | hv
      · exact intbl (ins_mem v hv)
      · rcases fr.mo v hv with hx | ⟨hge, _⟩
        · exact intbl hx
        · have := unlinked_default (show linksOf (st5.vals v) = linksOf {} by
            rw [fr.q5.links fr.f4 v, fr.f4 v hge])
          exact this.2
      · exact intbl (iv_mem v hv)
    have hroot : ∀ v, v ∈ ins ∨ v ∈ iv → (st5.vals v).producer = none := by
      intro v hv
      -- `v` is bound in `tbl2` under a name that is not a declared output
      have h2 : ∃ x, (x, v) ∈ tbl2 := by
        rcases hv with hv | hv
        · rw [fr.hins] at hv
          obtain ⟨x, hx⟩ := inputTable_vals inputs st.nv v hv
          rw [← fr.hins] at hx
          exact ⟨x, fr.s2.mem _ hx⟩
        · obtain ⟨x, _, hx⟩ := fr.miv v hv
          exact ⟨x, hx⟩
      obtain ⟨x, hx⟩ := h2
      have hnd : x ∉ outNames nodes := fun hm => lookup_ne_none_of_mem _ _ _ hx (fr.m3 x hm).1
      have := roots4 (x, v) (fr.s4.mem _ (fr.s3.mem _ hx)) hnd
      rw [(hl5 v).2.1]
      exact this
    have hres := inv5.of_mkGraph ins outs ns iv hun hroot
    rw [mkGraph_snd]
    simp only [recsG, grecsG, recsNs_setGraph, grecsNs_setGraph, ← List.append_assoc]
    rw [(fr.q5.ng_eq : st5.ng = st4.ng)] at hres ⊢
    exact hres
theorem deserNodes_links :
    ∀ (ns : List NodeP) (st : Store) (top : Table) (outer : List Table) (vi : List (Name × Info)) (b : Nat)
      (st' : Store) (top' : Table) (nts : List NodeT) (R : List NRec) (G : List GRec) (decl : List Name),
      Fresh st → TblOK st b top → TablesLt st outer → b ≤ st.nv → Inv st R G →
      Pend st top (outNames ns) → (outNames ns).Nodup → (∀ x ∈ outNames ns, x ∈ decl) →
      Roots st top decl → Unowned st top →
      deserNodes st top outer vi ns = .ok (st', top', nts) →
      Inv st' (R ++ recsNs nts) (G ++ grecsNs nts) ∧ Roots st' top' decl ∧ Unowned st' top'
  | [] => by
    intro st top outer vi b st' top' nts R G decl _ _ _ _ hinv _ _ _ hr hu h
    simp only [deserNodes, Except.ok.injEq, Prod.mk.injEq] at h
    obtain ⟨rfl, rfl, rfl⟩ := h
    simpa [recsNs, grecsNs] using ⟨hinv, hr, hu⟩
  | n :: ns => by
    have ihn := deserNode_links n ns
    have ihr := deserNodes_links ns
    intro st top outer vi b st' top' nts R G decl hf hok ho hb hinv hp hnd hdecl hr hu h
    obtain ⟨st1, top1, nt, nts', h1, h2, rfl⟩ := deserNodes_inv h
    obtain ⟨f1, m1, ok1, _⟩ := deserNode_struct n st top outer vi b st1 top1 nt hf hok ho hb h1
    obtain ⟨inv1, p1, r1, u1⟩ := ihn st top outer vi b st1 top1 nt R G decl hf hok ho hb hinv hp
      hnd hdecl hr hu h1
    have hnd' : (outNames ns).Nodup := by
      rw [outNames_cons, List.nodup_append] at hnd; exact hnd.2.1
    have hdecl' : ∀ x ∈ outNames ns, x ∈ decl := fun x hx => hdecl x (by rw [outNames_cons]; simp [hx])
    obtain ⟨inv2, r2, u2⟩ := ihr st1 top1 outer vi b st' top' nts' _ _ decl f1 ok1
      (ho.mono m1.nv_le) (Nat.le_trans hb m1.nv_le) inv1 p1 hnd' hdecl' r1 u1 h2
    simp only [recsNs, grecsNs, ← List.append_assoc]
    exact ⟨inv2, r2, u2⟩
theorem deserNode_links :
    ∀ (n : NodeP) (rest : List NodeP) (st : Store) (top : Table) (outer : List Table) (vi : List (Name × Info))
      (b : Nat) (st' : Store) (top' : Table) (nt : NodeT) (R : List NRec) (G : List GRec) (decl : List Name),
      Fresh st → TblOK st b top → TablesLt st outer → b ≤ st.nv → Inv st R G →
      Pend st top (outNames (n :: rest)) → (outNames (n :: rest)).Nodup →
      (∀ x ∈ outNames (n :: rest), x ∈ decl) → Roots st top decl → Unowned st top →
      deserNode st top outer vi n = .ok (st', top', nt) →
      Inv st' (R ++ recsN nt) (G ++ grecsN nt) ∧ Pend st' top' (outNames rest) ∧ Roots st' top' decl ∧
        Unowned st' top'
  | .mk inputs outputs subs => by
    have ih := deserSubs_links subs
    intro rest st top outer vi b st' top' nt R G decl hf hok ho hb hinv hp hnd hdecl hr hu h
    obtain ⟨st1, top1, ins, st2, outs, st3, gs, r, rfl, rfl, rfl⟩ := deserNode_run h
    have fr := r.frame hf hok ho hb
    have q12 := fr.q1.trans fr.q2
    have inv2 : Inv st2 R G := hinv.quiet q12 hf
    have inv3 := ih st2 _ st3 gs R G fr.f2 fr.hts inv2 r.hsubs
    rw [outNames_cons] at hp hnd hdecl
    simp only [NodeP.outputs] at hp hnd hdecl
    rw [List.nodup_append] at hnd
    -- link fields of a cell of the current scope: unchanged from `st` to `st3`
    have hl12 : ∀ v, _ := fun v => linksOf_eq (q12.links hf v)
    have entry_lt : ∀ e ∈ top1, e.2 < st2.nv := fun e he =>
      Nat.lt_of_lt_of_le (fr.ok1.lt e he) fr.q2.nv_le
    -- cells of entries of the grown table, seen from `st`
    have entry_def : ∀ e ∈ top1, e ∈ top ∨ linksOf (st2.vals e.2) = linksOf {} := by
      intro e he
      rcases fr.s1.grow e he with h | h
      · exact .inl h
      · right; rw [q12.links hf, hf _ h]
    have keep3 : ∀ v, v < st2.nv → (st3.vals v).producer = (st2.vals v).producer ∧
        (st3.vals v).graph = (st2.vals v).graph ∧ (st3.vals v).isIn = (st2.vals v).isIn ∧
        (st3.vals v).isOut = (st2.vals v).isOut ∧ (st3.vals v).isInit = (st2.vals v).isInit := by
      intro v hv
      have := fr.m3.keep v hv
      simp only [linksOf, Prod.mk.injEq] at this
      exact ⟨this.1, this.2.2.1, this.2.2.2.1, this.2.2.2.2.1, this.2.2.2.2.2⟩
    have pend3 : ∀ x ∈ outputs.filter (· ≠ "") ++ outNames rest,
        ∃ v, top1.lookup x = some v ∧ (st3.vals v).producer = none := by
      intro x hx
      obtain ⟨v, hl, hpn⟩ := hp x hx
      have hl' := fr.s1.lookup _ _ hl
      refine ⟨v, hl', ?_⟩
      rw [(keep3 v (entry_lt _ (lookup_mem _ _ _ hl'))).1, (hl12 v).2.1]
      exact hpn
    have roots3 : Roots st3 top1 decl := by
      intro e he hne
      rw [(keep3 e.2 (entry_lt e he)).1]
      rcases entry_def e he with h | h
      · rw [(hl12 e.2).2.1]; exact hr e h hne
      · exact (unlinked_default h).1
    have unown3 : Unowned st3 top1 := by
      intro e he
      obtain ⟨_, k2, k3, k4, k5⟩ := keep3 e.2 (entry_lt e he)
      rw [k2, k3, k4, k5]
      rcases entry_def e he with h | h
      · rw [(hl12 e.2).2.2.2.1, (hl12 e.2).2.2.2.2.1, (hl12 e.2).2.2.2.2.2.1, (hl12 e.2).2.2.2.2.2.2]
        exact hu e h
      · exact (unlinked_default h).2
    -- the outputs of the node
    have outs_lt : ∀ w ∈ outs, w < st2.nv := by
      intro w hw
      rcases fr.mo w hw with ⟨y, _, _, hl⟩ | ⟨_, h2'⟩
      · exact entry_lt _ (lookup_mem _ _ _ hl)
      · exact h2'
    have outs_def : ∀ w ∈ outs, (st3.vals w).producer = none ∧ (st3.vals w).graph = none := by
      intro w hw
      obtain ⟨k1, k2, _⟩ := keep3 w (outs_lt w hw)
      rw [k1, k2]
      rcases fr.mo w hw with ⟨y, hy, hyne, hl⟩ | ⟨hge, _⟩
      · obtain ⟨v, hl', hpn⟩ := pend3 y (by simp [List.mem_filter, hy, hyne])
        rw [hl] at hl'
        cases hl'
        have hm := lookup_mem _ _ _ hl
        refine ⟨by rw [← (keep3 w (entry_lt _ hm)).1]; exact hpn, ?_⟩
        rw [← (keep3 w (entry_lt _ hm)).2.1]
        exact (unown3 _ hm).1
      · have : linksOf (st2.vals w) = linksOf {} := by rw [fr.q2.links fr.f1 w, fr.f1 w hge]
        exact ⟨(unlinked_default this).1, (unlinked_default this).2.1⟩
    have outs_nd : outs.Nodup := fr.nd b fr.ok1 hnd.1
    have hres := inv3.of_mkNode ins outs gs
      (fun w hw => (outs_def w hw).1) outs_nd (fun w hw => (outs_def w hw).2)
    -- an entry of the scope whose name is not an output name of this node is not among `outs`
    have not_out : ∀ e ∈ top1, e.1 ∉ outputs.filter (· ≠ "") → e.2 ∉ outs := by
      intro e he hne hm
      rcases fr.mo e.2 hm with ⟨y, hy, hyne, hl⟩ | ⟨hge, _⟩
      · have := fr.ok1.mem_inj (lookup_mem _ _ _ hl) (show (e.1, e.2) ∈ _ from he)
        subst this
        exact hne (by simp [List.mem_filter, hy, hyne])
      · have := fr.ok1.lt e he
        omega
    have hk := mkNode_keeps st3 ins outs gs
    refine ⟨?_, ?_, ?_, ?_⟩
    · simp only [mkNode_snd, recsN, grecsN, ← List.append_assoc]
      exact hres
    · intro x hx
      obtain ⟨v, hl, hpn⟩ := pend3 x (List.mem_append.mpr (.inr hx))
      refine ⟨v, hl, ?_⟩
      have hv : v ∉ outs := not_out (x, v) (lookup_mem _ _ _ hl) (fun hm => hnd.2.2 x hm x hx rfl)
      rw [mkNode_vals, setProducers_not_mem _ _ _ _ _ hv]
      exact hpn
    · intro e he hne
      have hv : e.2 ∉ outs := not_out e he (fun hm => hne (hdecl e.1 (List.mem_append.mpr (.inl hm))))
      rw [mkNode_vals, setProducers_not_mem _ _ _ _ _ hv]
      exact roots3 e he hne
    · exact unown3.congr fun e _ => (hk e.2).2.2.2
theorem deserSubs_links :
    ∀ (gs : List GraphP) (st : Store) (scopes : List Table) (st' : Store) (gts : List GraphT)
      (R : List NRec) (G : List GRec),
      Fresh st → TablesLt st scopes → Inv st R G → deserSubs st scopes gs = .ok (st', gts) →
      Inv st' (R ++ recsGs gts) (G ++ grecsGs gts)
  | [] => by
    intro st scopes st' gts R G _ _ hinv h
    simp only [deserSubs, Except.ok.injEq, Prod.mk.injEq] at h
    obtain ⟨rfl, rfl⟩ := h
    simpa [recsGs, grecsGs] using hinv
  | g :: gs => by
    have ihg := deserGraph_links g
    have ihr := deserSubs_links gs
    intro st scopes st' gts R G hf hs hinv h
    obtain ⟨st1, gt, gts', h1, h2, rfl⟩ := deserSubs_inv h
    obtain ⟨f1, m1⟩ := deserGraph_struct g st scopes st1 gt hf hs h1
    have inv1 := ihg st scopes st1 gt R G hf hs hinv h1
    have inv2 := ihr st1 scopes st' gts' _ _ f1 (hs.mono m1.nv_le) inv1 h2
    simp only [recsGs, grecsGs, ← List.append_assoc]
    exact inv2
end

end IrVerif.Scope
