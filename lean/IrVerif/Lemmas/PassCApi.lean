/-
C14, call_onnx_api (Model/PassInfra.lean, `CApi`): what the strip loop keeps wherever it stops, the `finally` block undoes it,
serialization touches tensor names only, the ShapeInference merge reports `False` only if it wrote nothing.
-/
import IrVerif.Model.PassInfra
import IrVerif.Lemmas.ListFacts
namespace IrVerif.PassInfra.CApi

/-- Well-formed initializer mapping: keys are distinct and every key is the name of its value
    (`GraphInitializers.__setitem__` enforces both). -/
structure WF (g : G) : Prop where
  nodup : (g.inits.map (·.1)).Nodup
  named : ∀ p ∈ g.inits, (g.val p.2).name = p.1

/-- `g'` differs from `g` at most in the const/shape/type fields of the values in `ids`
    (and in `inits` / `inputs`). -/
def StripFrame (ids : List Nat) (g g' : G) : Prop :=
  ∀ j, (g'.val j).name = (g.val j).name ∧ (j ∉ ids → g'.val j = g.val j)

theorem StripFrame.refl (ids : List Nat) (g : G) : StripFrame ids g g := fun _ => ⟨rfl, fun _ => rfl⟩

theorem StripFrame.of_val {ids : List Nat} {g g' g'' : G} (h : StripFrame ids g g') (hv : g''.val = g'.val) :
    StripFrame ids g g'' := by
  intro j; rw [hv]; exact h j

def Prim.within (ids : List Nat) : Prim → Prop
  | .setShape v _ => v ∈ ids
  | .setDtype v _ => v ∈ ids
  | .clearConst v => v ∈ ids
  | .appendInput _ => True
  | .popInit _ => True

theorem StripFrame.setVal {ids : List Nat} {g g' : G} (h : StripFrame ids g g') {v : Nat} (hv : v ∈ ids) (r : Val)
    (hn : r.name = (g'.val v).name) : StripFrame ids g (setVal g' v r) := by
  intro j
  simp only [CApi.setVal]
  split
  · next e => subst e; exact ⟨hn.trans (h j).1, fun hj => absurd hv hj⟩
  · exact h j

theorem StripFrame.apply {ids : List Nat} {g g' : G} (h : StripFrame ids g g') (p : Prim)
    (hp : Prim.within ids p) : StripFrame ids g (p.apply g') := by
  cases p with
  | setShape v s => exact h.setVal hp _ rfl
  | setDtype v d => exact h.setVal hp _ rfl
  | clearConst v => exact h.setVal hp _ rfl
  | appendInput v => exact h
  | popInit k => exact h

/-! The four stages of the loop body for an initializer in `ids`: `setShape`, `setDtype`, `clearConst` touch that
initializer, `appendInput` and `popInit` touch no value. -/

theorem stageShape_inv (P : St → Prop) {ids : List Nat} {f : Option Fault}
    (hP : ∀ s p, Prim.within ids p → P s → P (doPrim f p s)) (i : Nat) (hi : i ∈ ids) {s : St} (h : P s) :
    P (stageShape f i s) := by
  unfold CApi.stageShape
  split
  · exact h
  · split
    · split
      · exact hP _ (.setShape i _) hi h
      · exact h
    · exact h

theorem stageDtype_inv (P : St → Prop) {ids : List Nat} {f : Option Fault}
    (hP : ∀ s p, Prim.within ids p → P s → P (doPrim f p s)) (i : Nat) (hi : i ∈ ids) {s : St} (h : P s) :
    P (stageDtype f i s) := by
  unfold CApi.stageDtype
  split
  · exact h
  · split
    · split
      · exact hP _ (.setDtype i _) hi h
      · exact h
    · exact h

theorem stageInput_inv (P : St → Prop) {ids : List Nat} {f : Option Fault}
    (hP : ∀ s p, Prim.within ids p → P s → P (doPrim f p s)) (i : Nat) {s : St} (h : P s) :
    P (stageInput f i s) := by
  unfold CApi.stageInput
  split
  · exact h
  · split
    · exact hP _ (.appendInput i) trivial h
    · exact h

theorem stagePop_inv (P : St → Prop) {ids : List Nat} {f : Option Fault}
    (hP : ∀ s p, Prim.within ids p → P s → P (doPrim f p s)) (i : Nat) (hi : i ∈ ids) {s : St} (h : P s) :
    P (stagePop f i s) := by
  unfold CApi.stagePop
  split
  · exact h
  · split
    · exact hP _ (.popInit _) trivial h
    · split
      · exact hP _ (.popInit _) trivial (hP _ (.clearConst i) hi h)
      · exact h

theorem stripOne_inv (P : St → Prop) {ids : List Nat} {f : Option Fault}
    (hP : ∀ s p, Prim.within ids p → P s → P (doPrim f p s))
    (i : Nat) (hi : i ∈ ids) {s : St} (h : P s) : P (stripOne f i s) :=
  stagePop_inv P hP i hi (stageInput_inv P hP i (stageDtype_inv P hP i hi (stageShape_inv P hP i hi h)))

theorem strip_inv (P : St → Prop) {ids : List Nat} {f : Option Fault}
    (hP : ∀ s p, Prim.within ids p → P s → P (doPrim f p s))
    (l : List Nat) (s : St) (hl : ∀ i ∈ l, i ∈ ids) (h : P s) : P (strip f l s) :=
  ListFacts.foldl_inv_mem P _ (fun _ hs i hi => stripOne_inv P hP i (hl i hi) hs) h

theorem strip_inv_g (P : G → Prop) {ids : List Nat} (hP : ∀ g p, Prim.within ids p → P g → P (p.apply g))
    (f : Option Fault) (l : List Nat) (s : St) (hl : ∀ i ∈ l, i ∈ ids) (h : P s.g) : P (strip f l s).g := by
  refine strip_inv (fun s => P s.g) (fun s p hp h => ?_) l s hl h
  unfold CApi.doPrim
  split
  · exact h
  · split
    · split
      · split
        · exact hP _ p hp h
        · exact h
      · exact hP _ p hp h
    · exact hP _ p hp h

theorem StripFrame.strip {ids : List Nat} {g : G} (f : Option Fault) (l : List Nat) (s : St)
    (hl : ∀ i ∈ l, i ∈ ids) (h : StripFrame ids g s.g) : StripFrame ids g (strip f l s).g :=
  strip_inv_g (StripFrame ids g) (fun _ p hp h => h.apply p hp) f l s hl h

def withFields (g0 : G) (v : Val) (j : Nat) : Val :=
  { v with const := (g0.val j).const, shape := (g0.val j).shape, type := (g0.val j).type }

theorem foldl_stepV (g0 : G) : ∀ (l : List Nat) (g' : G),
    ((l.map (fieldsOf g0)).foldl stepV g').inits = g'.inits ∧
    ((l.map (fieldsOf g0)).foldl stepV g').inputs = g'.inputs ∧
    ∀ j, ((l.map (fieldsOf g0)).foldl stepV g').val j =
      if j ∈ l then withFields g0 (g'.val j) j else g'.val j
  | [], g' => by simp
  | i :: l, g' => by
    have ih := foldl_stepV g0 l (stepV g' (fieldsOf g0 i))
    simp only [List.map_cons, List.foldl_cons]
    refine ⟨ih.1, ih.2.1, fun j => ?_⟩
    rw [ih.2.2 j]
    by_cases hji : j = i
    · subst hji
      simp [stepV, fieldsOf, setVal, withFields]
    · by_cases hjl : j ∈ l <;> simp [stepV, fieldsOf, setVal, withFields, hji, hjl]

theorem foldl_stepK (g0 : G) : ∀ (l : List Nat) (g' : G),
    ((l.map (fieldsOf g0)).foldl stepK g').val = g'.val ∧
    ((l.map (fieldsOf g0)).foldl stepK g').inputs = g'.inputs ∧
    ((l.map (fieldsOf g0)).foldl stepK g').inits =
      l.foldl (fun acc i => setKey acc (g'.val i).name i) g'.inits
  | [], g' => by simp
  | i :: l, g' => by
    have ih := foldl_stepK g0 l (stepK g' (fieldsOf g0 i))
    simp only [List.map_cons, List.foldl_cons]
    refine ⟨ih.1, ih.2.1, ?_⟩
    rw [ih.2.2]
    simp [stepK, fieldsOf]

theorem setKey_fresh : ∀ (l : List (String × Nat)) (k : String) (i : Nat),
    k ∉ l.map (·.1) → setKey l k i = l ++ [(k, i)]
  | [], _, _, _ => rfl
  | (k', i') :: l, k, i, h => by
    have hne : k' ≠ k := fun e => h (by simp [e])
    have := setKey_fresh l k i (fun hm => h (by simp [hm]))
    simp [setKey, hne, this]

/-- re-adding the values in the original order rebuilds the original mapping -/
theorem foldl_setKey (val : Nat → Val) : ∀ (l acc : List (String × Nat)),
    (∀ p ∈ l, (val p.2).name = p.1) → ((acc ++ l).map (·.1)).Nodup →
    (l.map (·.2)).foldl (fun acc i => setKey acc (val i).name i) acc = acc ++ l
  | [], acc, _, _ => by simp
  | (k, i) :: l, acc, hn, hd => by
    have hk : (val i).name = k := hn (k, i) List.mem_cons_self
    have hfresh : k ∉ acc.map (·.1) := by
      intro hm
      rw [List.map_append, List.nodup_append] at hd
      exact hd.2.2 k hm k (by simp) rfl
    simp only [List.map_cons, List.foldl_cons, hk, setKey_fresh acc k i hfresh]
    have := foldl_setKey val l (acc ++ [(k, i)])
      (fun p hp => hn p (List.mem_cons_of_mem _ hp)) (by simpa using hd)
    simpa using this

theorem Val.eq_of_fields {v w : Val} (hn : v.name = w.name) :
    ({ v with const := w.const, shape := w.shape, type := w.type } : Val) = w := by
  cases v; cases w; simp_all

theorem G.ext' {a b : G} (h1 : a.val = b.val) (h2 : a.inits = b.inits) (h3 : a.inputs = b.inputs)
    (h4 : a.tname = b.tname) : a = b := by
  cases a; cases b; simp_all

theorem foldl_stepV_tname (l : List (Nat × Option Tensor × Option Nat × Option Nat)) (g' : G) :
    (l.foldl stepV g').tname = g'.tname := ListFacts.foldl_proj G.tname stepV (fun _ _ _ => rfl) g'

theorem foldl_stepK_tname (l : List (Nat × Option Tensor × Option Nat × Option Nat)) (g' : G) :
    (l.foldl stepK g').tname = g'.tname := ListFacts.foldl_proj G.tname stepK (fun _ _ _ => rfl) g'

/-- The `finally` block undoes everything the strip loop can have done, wherever it stopped;
    tensor names are not touched by it. -/
theorem restore_of_frame {g g' : G} (hwf : WF g) (hf : StripFrame (g.inits.map (·.2)) g g') :
    restore ((g.inits.map (·.2)).map (fieldsOf g)) g.inputs g' = { g with tname := g'.tname } := by
  have V := foldl_stepV g (g.inits.map (·.2)) g'
  have hval : (((g.inits.map (·.2)).map (fieldsOf g)).foldl stepV g').val = g.val := by
    funext j
    rw [V.2.2 j]
    split
    · exact Val.eq_of_fields (hf j).1
    · next hn => exact (hf j).2 hn
  have K := foldl_stepK g (g.inits.map (·.2))
    { ((g.inits.map (·.2)).map (fieldsOf g)).foldl stepV g' with inits := [] }
  have hinits := foldl_setKey g.val g.inits [] hwf.named (by simpa using hwf.nodup)
  apply G.ext'
  · exact K.1.trans hval
  · show (List.foldl stepK _ _).inits = g.inits
    rw [K.2.2]
    show List.foldl (fun acc i => setKey acc
      ((List.foldl stepV g' ((g.inits.map (·.2)).map (fieldsOf g))).val i).name i) [] _ = _
    rw [hval]
    simpa using hinits
  · rfl
  · show (List.foldl stepK _ _).tname = g'.tname
    rw [foldl_stepK_tname]
    exact foldl_stepV_tname _ g'

/-- `g'` (somewhere in the strip loop) has the tensor names of `g`, only initializers of `g`, and
    only tensors that `g` has at the same value -/
structure Keep (g g' : G) : Prop where
  tname : g'.tname = g.tname
  inits : ∀ p ∈ g'.inits, p ∈ g.inits
  const : ∀ i t, (g'.val i).const = some t → (g.val i).const = some t

theorem Keep.refl (g : G) : Keep g g := ⟨rfl, fun _ h => h, fun _ _ h => h⟩

theorem Keep.apply {g g' : G} (h : Keep g g') (p : Prim) : Keep g (p.apply g') := by
  cases p with
  | setShape v s =>
    refine ⟨h.tname, h.inits, fun i t ht => h.const i t ?_⟩
    simp only [Prim.apply, setVal] at ht
    split at ht
    · next e => subst e; exact ht
    · exact ht
  | setDtype v d =>
    refine ⟨h.tname, h.inits, fun i t ht => h.const i t ?_⟩
    simp only [Prim.apply, setVal] at ht
    split at ht
    · next e => subst e; exact ht
    · exact ht
  | appendInput v => exact ⟨h.tname, h.inits, h.const⟩
  | clearConst v =>
    refine ⟨h.tname, h.inits, fun i t ht => ?_⟩
    simp only [Prim.apply, setVal] at ht
    split at ht
    · simp at ht
    · exact h.const i t ht
  | popInit k =>
    refine ⟨h.tname, fun p hp => h.inits p ?_, h.const⟩
    simp only [Prim.apply, popKey] at hp
    exact (List.mem_filter.1 hp).1

theorem Keep.strip {g : G} (f : Option Fault) (l : List Nat) (s : St) (h : Keep g s.g) :
    Keep g (strip f l s).g :=
  strip_inv_g (ids := l) (Keep g) (fun _ p _ h => h.apply p) f l s (fun _ hi => hi) h

/-- `renamePrefix` changes nothing but tensor names, and a name only to the name of an initializer
    value that carries that tensor -/
theorem renamePrefix_spec : ∀ (n : Nat) (l : List (String × Nat)) (g : G),
    (renamePrefix n l g).val = g.val ∧ (renamePrefix n l g).inits = g.inits ∧
    (renamePrefix n l g).inputs = g.inputs ∧
    ∀ j, (renamePrefix n l g).tname j = g.tname j ∨
      ∃ p ∈ l, ∃ t, (g.val p.2).const = some t ∧ t.id = j ∧
        (renamePrefix n l g).tname j = (g.val p.2).name
  | 0, l, g => by simp [renamePrefix]
  | n + 1, [], g => by simp [renamePrefix]
  | n + 1, (k, i) :: l, g => by
    simp only [renamePrefix]
    split
    · next hc =>
      have ih := renamePrefix_spec (n + 1) l g
      refine ⟨ih.1, ih.2.1, ih.2.2.1, fun j => ?_⟩
      rcases ih.2.2.2 j with h | ⟨p, hp, t, h1, h2, h3⟩
      · exact Or.inl h
      · exact Or.inr ⟨p, List.mem_cons_of_mem _ hp, t, h1, h2, h3⟩
    · next t hc =>
      have ih := renamePrefix_spec n l
        { g with tname := fun j => if j = t.id then (g.val i).name else g.tname j }
      refine ⟨ih.1, ih.2.1, ih.2.2.1, fun j => ?_⟩
      rcases ih.2.2.2 j with h | ⟨p, hp, t', h1, h2, h3⟩
      · by_cases hj : j = t.id
        · refine Or.inr ⟨(k, i), List.mem_cons_self, t, hc, hj.symm, ?_⟩
          rw [h]; simp [hj]
        · left; rw [h]; simp [hj]
      · exact Or.inr ⟨p, List.mem_cons_of_mem _ hp, t', h1, h2, h3⟩

theorem doPrim_none_raised (p : Prim) (s : St) : (doPrim none p s).raised = s.raised := by
  unfold CApi.doPrim
  split
  · rfl
  · next h => simp at h; simp [h]

theorem strip_none_raised (l : List Nat) (s : St) : (strip none l s).raised = s.raised :=
  strip_inv (ids := l) (fun t => t.raised = s.raised) (fun t p _ h => (doPrim_none_raised p t).trans h) l s
    (fun _ hi => hi) rfl

theorem mergeShape_flag (sh : Option Nat) (st : G × Bool) (i : Nat) :
    (mergeShape sh st i).2 = false → st.2 = false ∧ (mergeShape sh st i).1 = st.1 := by
  unfold mergeShape; split <;> simp_all

theorem mergeType_flag (dt : Option Nat) (st : G × Bool) (i : Nat) :
    (mergeType dt st i).2 = false → st.2 = false ∧ (mergeType dt st i).1 = st.1 := by
  unfold mergeType; split <;> simp_all

theorem mergeOne_flag (inf : Inferred) (st : G × Bool) (i : Nat) :
    (mergeOne inf st i).2 = false → st.2 = false ∧ (mergeOne inf st i).1 = st.1 := by
  unfold mergeOne
  split
  · exact fun h => ⟨h, rfl⟩
  · intro h
    have h2 := mergeType_flag _ _ i h
    have h1 := mergeShape_flag _ st i h2.1
    exact ⟨h1.1, h2.2.trans h1.2⟩

theorem mergeVals_flag (inf : Inferred) : ∀ (ids : List Nat) (st : G × Bool),
    ((ids.foldl (mergeOne inf) st).2 = false → st.2 = false ∧ (ids.foldl (mergeOne inf) st).1 = st.1)
  | [], st => fun h => ⟨h, rfl⟩
  | i :: ids, st => by
    intro h
    simp only [List.foldl_cons] at h ⊢
    have ih := mergeVals_flag inf ids (mergeOne inf st i) h
    have h1 := mergeOne_flag inf st i ih.1
    exact ⟨h1.1, ih.2.trans h1.2⟩

end IrVerif.PassInfra.CApi
