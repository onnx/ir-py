/-
C09, general model: file images.  Writes of tensors with pairwise disjoint byte ranges commute: the image after any
set of writes is determined pointwise (`Spec`), hence equals the serial image.
-/
import IrVerif.Lemmas.WriterNDone
import IrVerif.Lemmas.ListFacts
namespace IrVerif.WriterN

/-- byte `k` of a file image (zero beyond the end) -/
def getB (f : List Nat) (k : Nat) : Nat := f[k]?.getD 0

theorem writeAt_nil (f : List Nat) (off : Nat) : writeAt f off [] = f := by simp [writeAt]

theorem writeAt_length (f : List Nat) (off : Nat) (d : List Nat) (hd : d ≠ []) :
    (writeAt f off d).length = max f.length (off + d.length) := by
  have : d.isEmpty = false := by cases d <;> simp at hd ⊢
  simp only [writeAt, this, Bool.false_eq_true, if_false]
  generalize hg : f ++ List.replicate (off + d.length - f.length) 0 = g
  have hlen : g.length = max f.length (off + d.length) := by
    rw [← hg, List.length_append, List.length_replicate]; omega
  have htake : (g.take off).length = off := by rw [List.length_take, hlen]; omega
  rw [List.length_append, List.length_append, htake, List.length_drop, hlen]
  omega

theorem getD_append_zeros (f : List Nat) (m k : Nat) :
    (f ++ List.replicate m 0)[k]?.getD 0 = f[k]?.getD 0 :=
  by simpa only [List.getD_eq_getElem?_getD] using ListFacts.getD_append_replicate f m k 0

theorem getB_writeAt (f : List Nat) (off : Nat) (d : List Nat) (k : Nat) :
    getB (writeAt f off d) k =
      if off ≤ k ∧ k < off + d.length then d[k - off]?.getD 0 else getB f k := by
  by_cases hd : d = []
  · subst hd; rw [writeAt_nil, if_neg (by simp)]
  have : d.isEmpty = false := by cases d <;> simp at hd ⊢
  simp only [writeAt, this, Bool.false_eq_true, if_false, getB]
  -- `g`: the image padded with zeros up to the end of the write, so that `g.take off` has length `off`
  have hgk := getD_append_zeros f (off + d.length - f.length) k
  generalize hg : f ++ List.replicate (off + d.length - f.length) 0 = g at hgk ⊢
  have hlen : off + d.length ≤ g.length := by
    rw [← hg, List.length_append, List.length_replicate]; omega
  have htake : (g.take off).length = off := by rw [List.length_take]; omega
  by_cases h1 : k < off
  · rw [if_neg (by omega), List.append_assoc, List.getElem?_append_left (by rw [htake]; exact h1),
      List.getElem?_take_of_lt h1]
    exact hgk
  · by_cases h3 : k < off + d.length
    · rw [if_pos ⟨by omega, h3⟩, List.append_assoc, List.getElem?_append_right (by rw [htake]; omega), htake,
        List.getElem?_append_left (by omega)]
    · rw [if_neg (by omega), List.getElem?_append_right (by rw [List.length_append, htake]; omega),
        List.getElem?_drop, List.length_append, htake]
      have e : off + d.length + (k - (off + d.length)) = k := by omega
      rw [e]; exact hgk

theorem writeTask_eq (cfg : Cfg) (fs : List (List Nat)) (i : Nat) :
    writeTask cfg fs i =
      fs.set (cfg.file i) (writeAt (fs.getD (cfg.file i) []) (cfg.off i) (cfg.data i)) := rfl

/-- byte `k` of file `φ` lies in the range of tensor `i` -/
def covers (cfg : Cfg) (i φ k : Nat) : Prop :=
  cfg.file i = φ ∧ cfg.off i ≤ k ∧ k < cfg.off i + (cfg.data i).length

/-- what C07 proves of the offsets computed by `_compute_external_data_info`: the byte ranges of
    different tensors in one file are disjoint; every tensor goes to an existing file -/
structure Layout (cfg : Cfg) : Prop where
  file_lt : ∀ i, i < cfg.n → cfg.file i < cfg.files.length
  disjoint : ∀ i j, i < cfg.n → j < cfg.n → i ≠ j → cfg.file i = cfg.file j →
    cfg.off i + (cfg.data i).length ≤ cfg.off j ∨ cfg.off j + (cfg.data j).length ≤ cfg.off i

/-- pointwise description of the file images after exactly the tensors in `W` have been written (in any order); the
    three length clauses make two images with the same `W` equal as lists (`Spec_ext`), not only bytewise -/
structure Spec (cfg : Cfg) (W : Nat → Prop) (F : List (List Nat)) : Prop where
  nfiles : F.length = cfg.files.length
  cov : ∀ i φ k, W i → covers cfg i φ k →
    getB (F.getD φ []) k = (cfg.data i)[k - cfg.off i]?.getD 0
  unc : ∀ φ k, (∀ i, W i → ¬ covers cfg i φ k) →
    getB (F.getD φ []) k = getB (cfg.files.getD φ []) k
  len_ge0 : ∀ φ, (cfg.files.getD φ []).length ≤ (F.getD φ []).length
  len_ge : ∀ i, W i → cfg.data i ≠ [] →
    cfg.off i + (cfg.data i).length ≤ (F.getD (cfg.file i) []).length
  len_eq : ∀ φ, (F.getD φ []).length = (cfg.files.getD φ []).length ∨
    ∃ i, W i ∧ cfg.file i = φ ∧ cfg.data i ≠ [] ∧
      (F.getD φ []).length = cfg.off i + (cfg.data i).length

theorem Spec_congr {cfg : Cfg} {W W' : Nat → Prop} {F : List (List Nat)} (hW : ∀ i, W i ↔ W' i)
    (h : Spec cfg W F) : Spec cfg W' F := by
  refine ⟨h.nfiles, fun i φ k hi => h.cov i φ k ((hW i).2 hi),
    fun φ k hn => h.unc φ k (fun i hi => hn i ((hW i).1 hi)), h.len_ge0,
    fun i hi => h.len_ge i ((hW i).2 hi), fun φ => ?_⟩
  rcases h.len_eq φ with h1 | ⟨i, hi, h2⟩
  · exact Or.inl h1
  · exact Or.inr ⟨i, (hW i).1 hi, h2⟩

theorem Spec_init (cfg : Cfg) : Spec cfg (fun _ => False) cfg.files :=
  ⟨rfl, fun _ _ _ h => h.elim, fun _ _ _ => rfl, fun _ => Nat.le_refl _, fun _ h => h.elim,
    fun _ => Or.inl rfl⟩

theorem Spec_write {cfg : Cfg} (lay : Layout cfg) {W : Nat → Prop} {F : List (List Nat)}
    (h : Spec cfg W F) (hW : ∀ j, W j → j < cfg.n) {i : Nat} (hi : i < cfg.n) (hni : ¬ W i) :
    Spec cfg (fun j => W j ∨ j = i) (writeTask cfg F i) := by
  have hfl : cfg.file i < F.length := by rw [h.nfiles]; exact lay.file_lt i hi
  rw [writeTask_eq]
  have hget : ∀ φ, (F.set (cfg.file i) (writeAt (F.getD (cfg.file i) []) (cfg.off i) (cfg.data i))).getD φ []
      = if φ = cfg.file i then writeAt (F.getD (cfg.file i) []) (cfg.off i) (cfg.data i)
        else F.getD φ [] := fun φ => getD_set_lt hfl φ _ _
  -- an empty tensor leaves its file as it is
  have hnil : cfg.data i = [] → writeAt (F.getD (cfg.file i) []) (cfg.off i) (cfg.data i) = F.getD (cfg.file i) [] :=
    fun hd => by rw [hd, writeAt_nil]
  refine ⟨by simp [h.nfiles], ?_, ?_, ?_, ?_, ?_⟩
  · intro j φ k hj hc
    rw [hget]
    rcases hj with hj | rfl
    · have hji : j ≠ i := fun e => hni (e ▸ hj)
      split
      · rename_i e
        rw [getB_writeAt]
        have hdis := lay.disjoint j i (hW j hj) hi hji (by rw [hc.1, e])
        have h2 := hc.2
        have : ¬ (cfg.off i ≤ k ∧ k < cfg.off i + (cfg.data i).length) := by omega
        simp only [this, if_false]
        rw [← e]; exact h.cov j φ k hj hc
      · exact h.cov j φ k hj hc
    · have e : φ = cfg.file j := hc.1.symm
      simp only [e, if_true]
      rw [getB_writeAt]
      simp only [hc.2, and_self, if_true]
  · intro φ k hn
    rw [hget]
    split
    · rename_i e
      rw [getB_writeAt]
      have : ¬ (cfg.off i ≤ k ∧ k < cfg.off i + (cfg.data i).length) := by
        intro hr; exact hn i (Or.inr rfl) ⟨e.symm, hr⟩
      simp only [this, if_false]
      rw [← e]; exact h.unc φ k (fun j hj => hn j (Or.inl hj))
    · exact h.unc φ k (fun j hj => hn j (Or.inl hj))
  · intro φ
    rw [hget]
    split
    · rename_i e
      by_cases hd : cfg.data i = []
      · rw [hnil hd, ← e]; exact h.len_ge0 φ
      · rw [writeAt_length _ _ _ hd, ← e]
        have := h.len_ge0 φ; omega
    · exact h.len_ge0 φ
  · intro j hj hdj
    rw [hget]
    rcases hj with hj | rfl
    · split
      · rename_i e
        by_cases hd : cfg.data i = []
        · rw [hnil hd, ← e]; exact h.len_ge j hj hdj
        · rw [writeAt_length _ _ _ hd, ← e]
          have := h.len_ge j hj hdj; omega
      · exact h.len_ge j hj hdj
    · simp only [if_true]
      rw [writeAt_length _ _ _ hdj]; omega
  · intro φ
    rw [hget]
    split
    · rename_i e
      by_cases hd : cfg.data i = []
      · rw [hnil hd, ← e]
        rcases h.len_eq φ with h1 | ⟨j, hj, h2⟩
        · exact Or.inl h1
        · exact Or.inr ⟨j, Or.inl hj, h2⟩
      · rw [writeAt_length _ _ _ hd, ← e]
        by_cases hmax : cfg.off i + (cfg.data i).length ≤ (F.getD φ []).length
        · rcases h.len_eq φ with h1 | ⟨j, hj, h2, h3, h4⟩
          · exact Or.inl (by omega)
          · exact Or.inr ⟨j, Or.inl hj, h2, h3, by omega⟩
        · exact Or.inr ⟨i, Or.inr rfl, e.symm, hd, by omega⟩
    · rcases h.len_eq φ with h1 | ⟨j, hj, h2⟩
      · exact Or.inl h1
      · exact Or.inr ⟨j, Or.inl hj, h2⟩

theorem Spec_ext {cfg : Cfg} {W : Nat → Prop} {F F' : List (List Nat)} (h : Spec cfg W F)
    (h' : Spec cfg W F') : F = F' := by
  have hlen : ∀ {G G' : List (List Nat)}, Spec cfg W G → Spec cfg W G' → ∀ φ,
      (G.getD φ []).length ≤ (G'.getD φ []).length := by
    intro G G' g g' φ
    rcases g.len_eq φ with h1 | ⟨i, hi, h2, h3, h4⟩
    · rw [h1]; exact g'.len_ge0 φ
    · rw [h4, ← h2]; exact g'.len_ge i hi h3
  apply List.ext_getElem (by rw [h.nfiles, h'.nfiles])
  intro φ h1 h2
  have e1 : F.getD φ [] = F[φ] := by simp [h1]
  have e2 : F'.getD φ [] = F'[φ] := by simp [h2]
  have hl : F[φ].length = F'[φ].length := by
    have a := hlen h h' φ; have b := hlen h' h φ
    rw [e1, e2] at a b; omega
  apply List.ext_getElem hl
  intro k hk hk'
  have g1 : getB F[φ] k = F[φ][k] := by simp [getB, hk]
  have g2 : getB F'[φ] k = F'[φ][k] := by simp [getB, hk']
  rw [← g1, ← g2, ← e1, ← e2]
  by_cases hc : ∃ i, W i ∧ covers cfg i φ k
  · obtain ⟨i, hi, hc⟩ := hc
    rw [h.cov i φ k hi hc, h'.cov i φ k hi hc]
  · have hn : ∀ i, W i → ¬ covers cfg i φ k := fun i hi hcv => hc ⟨i, hi, hcv⟩
    rw [h.unc φ k hn, h'.unc φ k hn]

theorem serial_spec {cfg : Cfg} (lay : Layout cfg) : ∀ m, m ≤ cfg.n →
    Spec cfg (fun j => j < m) ((List.range m).foldl (writeTask cfg) cfg.files)
  | 0, _ => Spec_congr (fun i => ⟨False.elim, fun h => absurd h (Nat.not_lt_zero i)⟩) (Spec_init cfg)
  | m + 1, hm => by
      rw [List.range_succ, List.foldl_append]
      have ih := serial_spec lay m (by omega)
      have := Spec_write lay ih (fun j hj => by omega) (i := m) (by omega) (by simp)
      exact Spec_congr (by intro j; constructor <;> intro h <;> omega) this



/-- the same configuration with every file initially empty: the serial writer opens the file "wb"
    and relies on `seek` past the end leaving zero holes (external_data.py 592-604) -/
def cfgEmpty (cfg : Cfg) : Cfg := { cfg with files := cfg.files.map (fun _ => []) }

/-- the parallel writer's starting image (623-624 `truncate(total_size)`): all zeros and not longer
    than the largest end of a tensor (an empty file — serial shard writers — qualifies) -/
structure Prealloc (cfg : Cfg) : Prop where
  zeros : ∀ φ k, getB (cfg.files.getD φ []) k = 0
  tight : ∀ φ, (cfg.files.getD φ []).length = 0 ∨ ∃ i, i < cfg.n ∧ cfg.file i = φ ∧ cfg.data i ≠ [] ∧
    (cfg.files.getD φ []).length = cfg.off i + (cfg.data i).length

theorem getD_map_nil (fs : List (List Nat)) (φ : Nat) : (fs.map (fun _ => ([] : List Nat))).getD φ [] = [] := by
  simp only [List.getD_eq_getElem?_getD, List.getElem?_map]
  cases fs[φ]? <;> rfl

theorem serial_from_empty {cfg : Cfg} (lay : Layout cfg) (pre : Prealloc cfg) :
    serialFiles cfg = serialFiles (cfgEmpty cfg) := by
  have lay0 : Layout (cfgEmpty cfg) :=
    ⟨fun i hi => by
      show cfg.file i < (cfg.files.map (fun _ => ([] : List Nat))).length
      simp; exact lay.file_lt i hi, lay.disjoint⟩
  have h := serial_spec lay cfg.n (Nat.le_refl _)
  have h0 := serial_spec lay0 cfg.n (Nat.le_refl _)
  have e0 : serialFiles (cfgEmpty cfg) =
      (List.range cfg.n).foldl (writeTask (cfgEmpty cfg)) (cfgEmpty cfg).files := rfl
  have e1 : serialFiles cfg = (List.range cfg.n).foldl (writeTask cfg) cfg.files := rfl
  rw [e0, e1]
  generalize (List.range cfg.n).foldl (writeTask (cfgEmpty cfg)) (cfgEmpty cfg).files = F0 at h0
  refine Spec_ext h ⟨?_, h0.cov, ?_, ?_, h0.len_ge, ?_⟩
  · have := h0.nfiles; simpa [cfgEmpty] using this
  · intro φ k hn
    rw [pre.zeros φ k]
    have := h0.unc φ k hn
    rw [this]; show getB ((cfg.files.map (fun _ => [])).getD φ []) k = 0
    rw [getD_map_nil]; rfl
  · intro φ
    rcases pre.tight φ with e | ⟨i, hi, hf, hd, e⟩
    · omega
    · rw [e, ← hf]
      have h3 : cfg.off i + (cfg.data i).length ≤ (F0.getD (cfg.file i) []).length := h0.len_ge i hi hd
      exact h3
  · intro φ
    rcases h0.len_eq φ with e | ⟨i, hi, hf, hd, e⟩
    · have e' : (F0.getD φ []).length = 0 := by
        rw [e]; show ((cfg.files.map (fun _ => [])).getD φ []).length = 0
        rw [getD_map_nil]; rfl
      rcases pre.tight φ with e2 | ⟨i, hi, hf, hd, e2⟩
      · left; omega
      · exfalso
        have h3 : cfg.off i + (cfg.data i).length ≤ (F0.getD (cfg.file i) []).length := h0.len_ge i hi hd
        rw [hf] at h3
        have : 0 < (cfg.data i).length := by
          cases hdd : cfg.data i with
          | nil => exact absurd hdd hd
          | cons a b => simp
        omega
    · exact Or.inr ⟨i, hi, hf, hd, e⟩

/-- the bytes of this tensor have been written -/
def written : Pc → Bool
  | .bRel true | .done true => true
  | _ => false

theorem written_wake (p : Pc) : written (wake p) = written p := by cases p <;> rfl

theorem written_finish {cfg : Cfg} {s : State} (hs : SInv cfg s) {i : Nat} {p : Pc} (ok : Bool)
    (hi : s.tasks[i]? = some p) (hp : act p = true) (hw : written p = ok) (k : Nat) :
    taskSat written (finishTask cfg s i ok) k ↔ taskSat written s k :=
  (taskSat_finish rfl (fun _ => rfl) hs ok hi hp k).trans
    (taskSat_set hi rfl (by rw [hw]; cases ok <;> rfl) k)

def FInv (cfg : Cfg) (s : State) : Prop := Spec cfg (taskSat written s) s.files

theorem FInv_init (cfg : Cfg) : FInv cfg (init cfg) := by
  refine Spec_congr (fun i => ⟨False.elim, ?_⟩) (Spec_init cfg)
  rintro ⟨p, hp, hw⟩
  simp [init, List.getElem?_replicate] at hp
  rw [← hp.2] at hw; simp [written] at hw

theorem FInv_step {cfg : Cfg} (wf : WF cfg) (lay : Layout cfg) {s s' : State} {l : Label}
    (hs : SInv cfg s) (h : FInv cfg s) (hst : StepRel cfg s l s') : FInv cfg s' := by
  have frame : ∀ {s' : State}, s'.files = s.files → (∀ k, taskSat written s' k ↔ taskSat written s k) →
      FInv cfg s' := by
    intro s' hf hc
    unfold FInv; rw [hf]
    exact Spec_congr (fun k => (hc k).symm) h
  cases hst with
  | submit q c k j P hP hk hj => exact frame rfl (fun _ => Iff.rfl)
  | collect q c j ok P hP hm hjj hf =>
      rcases collectOne_cases cfg s q P j ok with ⟨_, _, e⟩ | ⟨_, _, e⟩ | ⟨_, _, e⟩ | ⟨_, _, e⟩ <;> rw [e] <;>
        exact frame rfl (fun _ => Iff.rfl)
  | joinRoot q c e P hP hm hex hpar => exact frame rfl (fun _ => Iff.rfl)
  | joinSub q c e P jp hP hm hex hpar => exact frame rfl (fun _ => Iff.rfl)
  | takeSerial q j rest P hP hq hidle hsub =>
      have hj : j ∈ (s.pl q).queue := by rw [pl_of_get hP, hq]; simp
      exact frame rfl (taskSat_set (hs.start_notStarted wf hj hsub) rfl rfl)
  | takeSub q j rest P q' hP hq hidle hsub => exact frame rfl (fun _ => Iff.rfl)
  | exit q P hP hq hsd hidle => exact frame rfl (fun _ => Iff.rfl)
  | cbAcqIn i hi hl => exact frame rfl (taskSat_set hi rfl rfl)
  | cbAcq i hi hl => exact frame rfl (taskSat_set hi rfl rfl)
  | cbFail i hi hf =>
      refine frame (by simp) (fun k => ?_)
      exact written_finish (SInv_cbExit hs i) false hi rfl rfl k
  | cbOk i hi hf => exact frame rfl (taskSat_set hi rfl rfl)
  | tAcq i hi hl => exact frame rfl (taskSat_set hi rfl (by unfold afterT; split <;> rfl))
  | bTry i p hi hp' =>
      rcases budgetTry_cases cfg s i with ⟨_, _, e⟩ | ⟨_, _, e⟩ | ⟨_, _, e⟩ | ⟨_, _, e⟩ <;> rw [e] <;>
        exact frame rfl (taskSat_set hi rfl (by rcases hp' with rfl | rfl <;> rfl))
  | writeFail i hi hf => exact frame rfl (taskSat_set hi rfl rfl)
  | writeOk i hi hf =>
      have hlt := getElem?_lt hi
      have hil : i < cfg.n := by rw [← hs.tasks_len]; exact hlt
      have hni : ¬ taskSat written s i := by
        rintro ⟨p, hp, hw⟩; rw [hi] at hp; cases hp; simp [written] at hw
      have hW : ∀ j, taskSat written s j → j < cfg.n := by
        rintro j ⟨p, hp, _⟩; rw [← hs.tasks_len]; exact getElem?_lt hp
      exact Spec_congr (fun k => ((taskSat_set_true hi rfl rfl k).trans Or.comm).symm)
        (Spec_write lay h hW hil hni)
  | bRel i ok hi =>
      unfold budgetRelease
      refine frame (by simp) (fun k => ?_)
      rw [written_finish (p := .bRel ok) (SInv_release hs i) ok (by simp [hi, wake]) rfl (by cases ok <;> rfl) k]
      exact taskSat_wake written_wake (s := s) k

theorem reachable_FInv {cfg : Cfg} (wf : WF cfg) (lay : Layout cfg) {s : State}
    (h : Reachable cfg s) : FInv cfg s := by
  induction h with
  | init => exact FInv_init cfg
  | step l hr hst ih => exact FInv_step wf lay (reachable_Inv wf hr).s ih (stepRel_of_step hst)

theorem layoutb_sound {cfg : Cfg} (h : layoutb cfg = true) : Layout cfg := by
  simp only [layoutb, Bool.and_eq_true, List.all_eq_true, List.mem_range, decide_eq_true_eq] at h
  exact ⟨h.1, fun i j hi hj => h.2 i hi j hj⟩

theorem preallocb_sound {cfg : Cfg} (h : preallocb cfg = true) : Prealloc cfg := by
  simp only [preallocb, Bool.and_eq_true, List.all_eq_true, List.mem_range, Bool.or_eq_true,
    decide_eq_true_eq, List.any_eq_true, beq_iff_eq, Bool.not_eq_true', List.isEmpty_iff] at h
  obtain ⟨h1, h3⟩ := h
  refine ⟨fun φ k => ?_, fun φ => ?_⟩
  · simp only [getB, List.getD_eq_getElem?_getD]
    cases hf : cfg.files[φ]? with
    | none => simp
    | some f =>
        simp only [Option.getD_some]
        cases hk : f[k]? with
        | none => rfl
        | some b =>
            have := h1 f (List.mem_of_getElem? hf) b (List.mem_of_getElem? hk)
            simp [this]
  · rcases Nat.lt_or_ge φ cfg.files.length with hφ | hφ
    · rcases h3 φ hφ with e | ⟨i, hi, ⟨⟨e1, e2⟩, e3⟩⟩
      · left; rw [e]; rfl
      · right
        exact ⟨i, hi, e1, by intro e; rw [e] at e2; simp at e2, e3⟩
    · left
      simp [List.getD_eq_getElem?_getD, List.getElem?_eq_none hφ]

end IrVerif.WriterN
