/-
Soundness of the executable certificate checker `Model/ScopeCert.lean`: the Boolean re-runs `cInits` / `cDecl` /
`cRes` / `cOuts` / `cG` / `cNs` / `cN` / `cGs` compute the tables and the introduced values of the certificates
`replInits` / ... / `replGs` (`Lemmas/ScopeRepl.lean`), and `ok = true` implies the `ok` of the certificate together
with the clauses of `extG` / `extNs` / `extN` / `extGs` (`Lemmas/ScopeExtRTDefs.lean`).  `extWFB = true` implies `ExtWF` on
an extension state that is blank above the allocation counter, and `reloadableEB = true` implies `ReloadableE` (soundness
only: no converse is proved).
-/
import IrVerif.Model.ScopeCert
import IrVerif.Lemmas.ScopeExtRTDefs
import IrVerif.Lemmas.ScopeExtRTAux
import IrVerif.Lemmas.ScopeExtIdem
namespace IrVerif.Scope

theorem cnm_eq (V : Nat → ValueS) (v : Nat) : cnm V v = nm V v := rfl

theorem cTblIns_eq (V : Nat → ValueS) (ins : List Nat) : cTblIns V ins = tblIns V ins := rfl

theorem cLive_eq (V : Nat → ValueS) (n : NodeT) : cLive V n = liveOuts V n := by
  cases n; rfl

theorem cLive_eq_fun (V : Nat → ValueS) : cLive V = liveOuts V := funext (cLive_eq V)

theorem cRoles_eq (V : Nat → ValueS) (ins : List Nat) (inits : List (Name × Nat)) (nodes : List NodeT)
    (outs : List Nat) : cRoles V ins inits nodes outs = qcRoles V ins inits nodes outs := by
  simp only [cRoles, qcRoles, cLive_eq_fun]

theorem cInits_sound (V : Nat → ValueS) (gouts : List Nat) : ∀ (l : List (Name × Nat)) (T : Table),
    (cInits V gouts T l).tbl = (replInits V gouts T l).tbl ∧
    (cInits V gouts T l).new = (replInits V gouts T l).new ∧
    ((cInits V gouts T l).ok = true → (replInits V gouts T l).ok)
  | [], T => by simp [cInits, replInits]
  | (k, v) :: r, T => by
    rw [cInits, replInits]
    cases hl : T.lookup k with
    | some u =>
      obtain ⟨h1, h2, h3⟩ := cInits_sound V gouts r T
      refine ⟨h1, h2, ?_⟩
      simp only [Bool.and_eq_true, beq_iff_eq, bne_iff_ne, ne_eq, Option.isSome_iff_ne_none]
      rintro ⟨⟨⟨⟨a, b⟩, c⟩, d⟩, e⟩
      exact ⟨⟨a, b, c⟩, d, h3 e⟩
    | none =>
      obtain ⟨h1, h2, h3⟩ := cInits_sound V gouts r ((k, v) :: T)
      refine ⟨h1, by simp only [h2], ?_⟩
      simp only [Bool.and_eq_true, Bool.or_eq_true, beq_iff_eq, bne_iff_ne, ne_eq, Option.isSome_iff_ne_none,
        List.contains_iff_mem]
      rintro ⟨⟨⟨⟨a, b⟩, c⟩, d⟩, e⟩
      refine ⟨⟨a, b, c⟩, fun hn => ?_, h3 e⟩
      rcases d with d | d
      · exact absurd d hn
      · exact d

theorem cDecl_sound (V : Nat → ValueS) : ∀ (l : List Nat) (T : Table),
    (cDecl V T l).tbl = (replDecl V T l).tbl ∧
    (cDecl V T l).new = (replDecl V T l).new ∧
    ((cDecl V T l).ok = true → (replDecl V T l).ok)
  | [], T => by simp [cDecl, replDecl]
  | v :: r, T => by
    rw [cDecl, replDecl]
    by_cases ht : nameTruthy (V v).name = true
    · obtain ⟨h1, h2, h3⟩ := cDecl_sound V r ((nm V v, v) :: T)
      simp only [ht, if_true, cnm_eq]
      refine ⟨h1, by simp only [h2], ?_⟩
      simp only [Bool.and_eq_true, Option.isNone_iff_eq_none]
      rintro ⟨a, b⟩
      exact ⟨a, h3 b⟩
    · obtain ⟨h1, h2, h3⟩ := cDecl_sound V r T
      simp only [ht, if_false, Bool.false_eq_true]
      refine ⟨h1, h2, ?_⟩
      simp only [Bool.and_eq_true, Option.isSome_iff_ne_none, ne_eq]
      rintro ⟨a, b⟩
      exact ⟨a, h3 b⟩

theorem cRes_sound (V : Nat → ValueS) (outer : List Table) : ∀ (l : List (Option Nat)) (T : Table),
    (cRes V outer T l).tbl = (replRes V outer T l).tbl ∧
    (cRes V outer T l).new = (replRes V outer T l).new ∧
    ((cRes V outer T l).ok = true → (replRes V outer T l).ok)
  | [], T => by simp [cRes, replRes]
  | none :: r, T => by
    rw [cRes, replRes]
    exact cRes_sound V outer r T
  | some v :: r, T => by
    rw [cRes, replRes]
    simp only [cnm_eq]
    cases hl : resolve (nm V v) (T :: outer) with
    | some u =>
      obtain ⟨h1, h2, h3⟩ := cRes_sound V outer r T
      refine ⟨h1, h2, ?_⟩
      simp only [Bool.and_eq_true, beq_iff_eq]
      rintro ⟨⟨a, b⟩, c⟩
      exact ⟨a, b, h3 c⟩
    | none =>
      obtain ⟨h1, h2, h3⟩ := cRes_sound V outer r ((nm V v, v) :: T)
      refine ⟨h1, by simp only [h2], ?_⟩
      simp only [Bool.and_eq_true]
      rintro ⟨a, b⟩
      exact ⟨a, h3 b⟩

theorem cOuts_sound (V : Nat → ValueS) (T : Table) : ∀ (l : List Nat),
    (cOuts V T l).tbl = (replOuts V T l).tbl ∧
    (cOuts V T l).new = (replOuts V T l).new ∧
    ((cOuts V T l).ok = true → (replOuts V T l).ok)
  | [] => by simp [cOuts, replOuts]
  | v :: r => by
    obtain ⟨_, h2, h3⟩ := cOuts_sound V T r
    rw [cOuts, replOuts]
    simp only [cnm_eq]
    cases hl : T.lookup (nm V v) with
    | some u =>
      refine ⟨rfl, h2, ?_⟩
      simp only [Bool.and_eq_true, beq_iff_eq, Option.isSome_iff_ne_none, ne_eq]
      rintro ⟨⟨a, b⟩, c⟩
      exact ⟨a, b, h3 c⟩
    | none =>
      refine ⟨rfl, by simp only [h2], ?_⟩
      simp only [Bool.and_eq_true, Option.isSome_iff_ne_none, ne_eq]
      rintro ⟨a, b⟩
      exact ⟨a, h3 b⟩

theorem cOuts_tbl (V : Nat → ValueS) (T : Table) (l : List Nat) : (cOuts V T l).tbl = T := by
  cases l with
  | nil => rfl
  | cons v r =>
    rw [cOuts]
    split <;> rfl

mutual
theorem cG_sound (V : Nat → ValueS) (x : Ext) : ∀ (g : GraphT) (outer : List Table),
    (cG V x outer g).new = (replG V outer g).new ∧
    ((cG V x outer g).ok = true → (replG V outer g).ok ∧ extG V x outer g)
  | .mk _ ins inits nodes outs, outer => by
    obtain ⟨i1, i2, i3⟩ := cInits_sound V outs inits (tblIns V ins)
    obtain ⟨d1, d2, d3⟩ := cDecl_sound V (nodes.flatMap (liveOuts V)) (replInits V outs (tblIns V ins) inits).tbl
    obtain ⟨n1, n2, n3⟩ := cNs_sound V x outer nodes
      (replDecl V (replInits V outs (tblIns V ins) inits).tbl (nodes.flatMap (liveOuts V))).tbl
    obtain ⟨_, o2, o3⟩ := cOuts_sound V
      (replNs V outer (replDecl V (replInits V outs (tblIns V ins) inits).tbl
        (nodes.flatMap (liveOuts V))).tbl nodes).tbl outs
    simp only [cG, replG, extG, cTblIns_eq, cLive_eq_fun, cRoles_eq, i1, i2, d1, d2, n1, n2, o2, true_and]
    simp only [Bool.and_eq_true, List.all_eq_true, Bool.or_eq_true, Bool.not_eq_true', beq_eq_false_iff_ne,
      beq_iff_eq, Option.isSome_iff_ne_none, Option.isNone_iff_eq_none, ne_eq, nodupNamesB_iff]
    -- the `&&` chain of `cG`, in order: input names, initializer keys, `ci`, `cd`, `cn`, `co`, annotations of equal names, `co.new`
    rintro ⟨⟨⟨⟨⟨⟨⟨a, b⟩, c⟩, d⟩, e⟩, f⟩, g⟩, h⟩
    refine ⟨⟨a, b, i3 c, d3 d, (n3 e).1, o3 f⟩, ?_, h, (n3 e).2⟩
    intro p hp q hq hpq
    rcases g p hp q hq with g | g
    · exact absurd hpq g
    · exact g
theorem cNs_sound (V : Nat → ValueS) (x : Ext) (outer : List Table) : ∀ (ns : List NodeT) (T : Table),
    (cNs V x outer T ns).tbl = (replNs V outer T ns).tbl ∧
    (cNs V x outer T ns).new = (replNs V outer T ns).new ∧
    ((cNs V x outer T ns).ok = true → (replNs V outer T ns).ok ∧ extNs V x outer T ns)
  | [], T => by simp [cNs, replNs, extNs]
  | n :: ns, T => by
    obtain ⟨a1, a2, a3⟩ := cN_sound V x outer n T
    obtain ⟨b1, b2, b3⟩ := cNs_sound V x outer ns (replN V outer T n).tbl
    simp only [cNs, replNs, extNs, a1, a2, b1, b2, true_and]
    simp only [Bool.and_eq_true]
    rintro ⟨p, q⟩
    exact ⟨⟨(a3 p).1, (b3 q).1⟩, (a3 p).2, (b3 q).2⟩
theorem cN_sound (V : Nat → ValueS) (x : Ext) (outer : List Table) : ∀ (n : NodeT) (T : Table),
    (cN V x outer T n).tbl = (replN V outer T n).tbl ∧
    (cN V x outer T n).new = (replN V outer T n).new ∧
    ((cN V x outer T n).ok = true → (replN V outer T n).ok ∧ extN V x outer T n)
  | .mk _ _ ins outs subs, T => by
    obtain ⟨r1, r2, r3⟩ := cRes_sound V outer ins T
    obtain ⟨s2, s3⟩ := cGs_sound V x subs ((replRes V outer T ins).tbl :: outer)
    simp only [cN, replN, extN, cnm_eq, r1, r2, s2, true_and]
    simp only [Bool.and_eq_true, List.all_eq_true, Bool.or_eq_true, Bool.not_eq_true', beq_iff_eq,
      Option.isSome_iff_ne_none, Option.isNone_iff_eq_none, ne_eq]
    -- the `&&` chain of `cN`, in order: `cr`, output names, named outputs bound, `cs`, annotations of unnamed outputs
    rintro ⟨⟨⟨⟨a, b⟩, c⟩, d⟩, e⟩
    refine ⟨⟨r3 a, b, fun v hv ht => ?_, (s3 d).1⟩, fun v hv hf => ?_, (s3 d).2⟩
    · rcases c v hv with c | c
      · rw [ht] at c; exact absurd c (by decide)
      · exact c
    · rcases e v hv with e | e
      · rw [hf] at e; exact absurd e (by decide)
      · exact e
theorem cGs_sound (V : Nat → ValueS) (x : Ext) : ∀ (gs : List GraphT) (scopes : List Table),
    (cGs V x scopes gs).new = (replGs V scopes gs).new ∧
    ((cGs V x scopes gs).ok = true → (replGs V scopes gs).ok ∧ extGs V x scopes gs)
  | [], scopes => by simp [cGs, replGs, extGs]
  | g :: gs, scopes => by
    obtain ⟨a2, a3⟩ := cG_sound V x g scopes
    obtain ⟨b2, b3⟩ := cGs_sound V x gs scopes
    simp only [cGs, replGs, extGs, a2, b2, true_and]
    simp only [Bool.and_eq_true]
    rintro ⟨p, q⟩
    exact ⟨⟨(a3 p).1, (b3 q).1⟩, (a3 p).2, (b3 q).2⟩
end

/-! ### the representation invariant and the Boolean check of `ReloadableE` -/

theorem extWFB_sound (n : Nat) (x : Ext) (h : extWFB n x = true)
    (hf : ∀ v, n ≤ v → x.vmeta v = [] ∧ x.quant v = none) : ExtWF x := by
  intro v
  by_cases hv : v < n
  · simp only [extWFB, List.all_eq_true, List.mem_range, Bool.and_eq_true, ssKeysNodupB, nodupNamesB_iff] at h
    obtain ⟨h1, h2⟩ := h v hv
    refine ⟨h1, fun ps hps => ?_⟩
    rw [hps] at h2
    simp only [Bool.and_eq_true, nodupNamesB_iff, Bool.not_eq_true', List.isEmpty_eq_false_iff] at h2
    exact h2
  · obtain ⟨h1, h2⟩ := hf v (Nat.le_of_not_lt hv)
    rw [h1, h2]
    exact ⟨by simp, fun _ h => by simp at h⟩

theorem ExtWF.normQ_eq {x : Ext} (h : ExtWF x) (v : Nat) : normQ (x.quant v) = (x.quant v).map ssSorted := by
  cases hqv : x.quant v with
  | none => rfl
  | some ps =>
    simp only [normQ, Option.map_some]
    rw [ss_rt ps ((h v).2 ps hqv).1]

theorem ExtWF.vmeta_sorted {x x' : Ext} (h : ExtWF x) {A : Assoc} {L : List Nat} (hm : MetaOKk x x' A L) :
    ∀ v ∈ L, x'.vmeta (sig A v) = ssSorted (x.vmeta v) :=
  fun v hv => (hm v hv).2.trans (normM_eq _ (h v).1)

theorem ExtWF.quant_sorted {x x' : Ext} (h : ExtWF x) {A : Assoc} {L : List Nat} (hq : QuantOKk x x' A L) :
    ∀ v ∈ L, x'.quant (sig A v) = (x.quant v).map ssSorted :=
  fun v hv => (hq v hv).2.trans (h.normQ_eq v)

theorem reloadableEB_sound (w : WorldE) (h : reloadableEB w = true) (hf : ExtFresh w.st w.ext) : ReloadableE w := by
  simp only [reloadableEB, Bool.and_eq_true, nodupB_iff] at h
  obtain ⟨⟨h1, h2⟩, h3⟩ := h
  obtain ⟨e, s⟩ := cG_sound w.st.vals w.ext w.root []
  rw [e] at h2
  exact ⟨⟨(s h1).1, h2⟩, (s h1).2, extWFB_sound w.st.nv w.ext h3 hf⟩

/-- two inputs named `a` that carry the same annotation: accepted -/
example : reloadableEB
    ⟨{ vals := fun _ => { name := some "a" }, nv := 2 }, { quant := fun v => if v < 2 then some [("s", "1")] else none },
      .mk 0 [0, 1] [] [] []⟩ = true := by decide +kernel

/-- two inputs named `a` with different annotations (`serialize_graph` writes one annotation per name, the
    deserializer attaches it to the value the name resolves to): rejected -/
example : reloadableEB
    ⟨{ vals := fun _ => { name := some "a" }, nv := 2 }, { quant := fun v => if v = 0 then some [("s", "1")] else none },
      .mk 0 [0, 1] [] [] []⟩ = false := by decide +kernel

end IrVerif.Scope
