import IrVerif.Model.Serde
import IrVerif.Lemmas.DictFacts
/-! Helper lemmas for C02: string-string maps, shapes and types, tensors, scope lookups. -/
namespace IrVerif.Serde
open IrVerif.Proto

theorem bind_eq_ok {ε α β : Type} {x : Except ε α} {f : α → Except ε β} {b : β}
    (h : (x >>= f) = .ok b) : ∃ a, x = .ok a ∧ f a = .ok b := by
  cases x with
  | error e => simp [bind, Except.bind] at h
  | ok a => exact ⟨a, rfl, h⟩

theorem nodupStr_iff {l : List String} : nodupStr l = true ↔ l.Nodup :=
  ListFacts.nodupB_iff_of_eqns _ rfl (fun _ _ => rfl) l

def dkeys (d : Dict) : List String := d.map (·.1)

theorem dictSet_eq_dset : ∀ (d : Dict) (k v : String), dictSet d k v = ListFacts.dset d k v
  | [], _, _ => rfl
  | (k', v') :: r, k, v => by simp only [dictSet, ListFacts.dset, dictSet_eq_dset r]

theorem dictUpdate_eq_dupdate (d : Dict) : ∀ u : Dict, dictUpdate d u = ListFacts.dupdate d u
  | [] => rfl
  | (k, v) :: u => by rw [dictUpdate, dictSet_eq_dset, dictUpdate_eq_dupdate, ListFacts.dupdate_cons]

theorem dictOfEntries_eq_ddict (es : List Entry) :
    dictOfEntries es = ListFacts.ddict (es.map fun e => (e.key, e.value)) := dictUpdate_eq_dupdate [] _

def pairOf (e : Entry) : String × String := (e.key, e.value)

theorem dictOfEntries_of_nodup {es : List Entry} (h : (es.map (·.key)).Nodup) :
    dictOfEntries es = es.map pairOf := by
  rw [dictOfEntries_eq_ddict]
  exact ListFacts.ddict_of_nodup _ (by simpa [List.map_map, Function.comp_def] using h)

theorem dkeys_dictSet (d : Dict) (k v : String) :
    dkeys (dictSet d k v) = if k ∈ dkeys d then dkeys d else dkeys d ++ [k] := by
  rw [dictSet_eq_dset]; exact ListFacts.dset_keys d k v

theorem nodup_dkeys_dictSet {d : Dict} (h : (dkeys d).Nodup) (k v : String) :
    (dkeys (dictSet d k v)).Nodup := by
  rw [dictSet_eq_dset]; exact ListFacts.dset_keys_nodup d k v h

theorem nodup_dkeys_dictUpdate {d : Dict} (h : (dkeys d).Nodup) (u : Dict) :
    (dkeys (dictUpdate d u)).Nodup := by
  rw [dictUpdate_eq_dupdate]; exact ListFacts.dupdate_keys_nodup u d h

theorem nodup_dkeys_dictOfEntries (es : List Entry) : (dkeys (dictOfEntries es)).Nodup :=
  nodup_dkeys_dictUpdate (by simp [dkeys]) _

theorem dictSet_ne_nil (d : Dict) (k v : String) : dictSet d k v ≠ [] := by
  rw [dictSet_eq_dset]; exact ListFacts.dset_ne_nil d k v

theorem dictUpdate_ne_nil {d : Dict} (h : d ≠ []) (u : Dict) : dictUpdate d u ≠ [] := by
  rw [dictUpdate_eq_dupdate]; exact ListFacts.dupdate_ne_nil u d h

theorem dictOfEntries_isEmpty (es : List Entry) : (dictOfEntries es).isEmpty = es.isEmpty := by
  cases es with
  | nil => rfl
  | cons e es =>
    have : dictOfEntries (e :: es) ≠ [] := by
      unfold dictOfEntries
      simp only [List.map_cons, dictUpdate]
      exact dictUpdate_ne_nil (dictSet_ne_nil _ _ _) _
    simp [this]

def SortedE (l : List Entry) : Prop := l.Pairwise (fun a b => a.key < b.key)

theorem mem_insertEntry {e y : Entry} {l : List Entry} : y ∈ insertEntry e l ↔ y = e ∨ y ∈ l := by
  induction l with
  | nil => simp [insertEntry]
  | cons x xs ih =>
    simp only [insertEntry]
    split
    · simp
    · simp only [List.mem_cons, ih]
      constructor
      · rintro (h | h | h) <;> simp [h]
      · rintro (h | h | h) <;> simp [h]

theorem sorted_insertEntry {e : Entry} {l : List Entry} (hs : SortedE l)
    (hk : ∀ y ∈ l, y.key ≠ e.key) : SortedE (insertEntry e l) := by
  induction l with
  | nil => simp [insertEntry, SortedE]
  | cons x xs ih =>
    unfold SortedE at hs ⊢
    rw [List.pairwise_cons] at hs
    simp only [insertEntry]
    split
    · rename_i hlt
      rw [List.pairwise_cons]
      refine ⟨?_, List.pairwise_cons.2 hs⟩
      intro y hy
      rcases List.mem_cons.1 hy with rfl | hy
      · exact hlt
      · exact String.lt_trans hlt (hs.1 y hy)
    · rename_i hnlt
      rw [List.pairwise_cons]
      refine ⟨?_, ih hs.2 (fun y hy => hk y (List.mem_cons_of_mem _ hy))⟩
      intro y hy
      rcases mem_insertEntry.1 hy with rfl | hy
      · have hne : x.key ≠ y.key := hk x (by simp)
        have hle : x.key ≤ y.key := String.not_lt.1 hnlt
        rcases Decidable.em (x.key < y.key) with h | h
        · exact h
        · exact absurd (String.le_antisymm hle (String.not_lt.1 h)) hne
      · exact hs.1 y hy

theorem keys_sortEntries_mem {d : Dict} {y : Entry} (h : y ∈ sortEntries d) : y.key ∈ dkeys d := by
  induction d with
  | nil => simp [sortEntries] at h
  | cons x xs ih =>
    obtain ⟨k, v⟩ := x
    simp only [sortEntries] at h
    rcases mem_insertEntry.1 h with rfl | h
    · simp [dkeys]
    · simp only [dkeys, List.map_cons, List.mem_cons]; exact Or.inr (ih h)

theorem sorted_sortEntries {d : Dict} (h : (dkeys d).Nodup) : SortedE (sortEntries d) := by
  induction d with
  | nil => simp [sortEntries, SortedE]
  | cons x xs ih =>
    obtain ⟨k, v⟩ := x
    simp only [dkeys, List.map_cons, List.nodup_cons] at h
    simp only [sortEntries]
    apply sorted_insertEntry (ih h.2)
    intro y hy e
    exact h.1 (by have := keys_sortEntries_mem hy; rw [e] at this; exact this)

theorem insertEntry_of_lt {e : Entry} {l : List Entry} (h : ∀ y ∈ l, e.key < y.key) :
    insertEntry e l = e :: l := by
  cases l with
  | nil => rfl
  | cons x xs => simp [insertEntry, h x (by simp)]

theorem sortEntries_of_sorted {l : List Entry} (h : SortedE l) : sortEntries (l.map pairOf) = l := by
  induction l with
  | nil => rfl
  | cons x xs ih =>
    unfold SortedE at h
    rw [List.pairwise_cons] at h
    simp only [List.map_cons, pairOf, sortEntries]
    have := ih h.2
    rw [this, insertEntry_of_lt h.1]

theorem nodup_keys_of_sorted {l : List Entry} (h : SortedE l) : (l.map (·.key)).Nodup := by
  induction l with
  | nil => simp
  | cons x xs ih =>
    unfold SortedE at h
    rw [List.pairwise_cons] at h
    simp only [List.map_cons, List.nodup_cons, List.mem_map, not_exists, not_and]
    refine ⟨?_, ih h.2⟩
    intro y hy e
    have := h.1 y hy
    rw [e] at this
    exact String.lt_irrefl _ this

theorem sorted_normEntries (es : List Entry) : SortedE (normEntries es) :=
  sorted_sortEntries (nodup_dkeys_dictOfEntries es)

theorem normEntries_of_sorted {l : List Entry} (h : SortedE l) : normEntries l = l := by
  unfold normEntries
  rw [dictOfEntries_of_nodup (nodup_keys_of_sorted h), sortEntries_of_sorted h]

theorem normEntries_idem (es : List Entry) : normEntries (normEntries es) = normEntries es :=
  normEntries_of_sorted (sorted_normEntries es)

theorem perm_insertEntry (e : Entry) (l : List Entry) : (insertEntry e l).Perm (e :: l) := by
  induction l with
  | nil => simp [insertEntry]
  | cons x xs ih =>
    simp only [insertEntry]
    split
    · exact List.Perm.refl _
    · exact (List.Perm.cons x ih).trans (List.Perm.swap e x xs)

theorem perm_sortEntries (l : List Entry) : (sortEntries (l.map pairOf)).Perm l := by
  induction l with
  | nil => simp [sortEntries]
  | cons x xs ih =>
    simp only [List.map_cons, pairOf, sortEntries]
    exact (perm_insertEntry _ _).trans (List.Perm.cons _ ih)

theorem perm_normEntries {es : List Entry} (h : wfEntries es = true) : (normEntries es).Perm es := by
  unfold normEntries
  rw [dictOfEntries_of_nodup (nodupStr_iff.1 h)]
  exact perm_sortEntries es

theorem normEntries_nil : normEntries [] = [] := rfl

theorem sortEntries_dictOfEntries_isEmpty (es : List Entry) :
    (dictOfEntries es).isEmpty = true → es = [] := by
  rw [dictOfEntries_isEmpty]; simp

theorem serDimVal_desDimVal (d : DimVal) : serDimVal (desDimVal d) = d := by
  cases d <;> rfl

theorem serDim_desDim (d : DimP) : serDim (desDim d) = d := by
  cases d; simp [serDim, desDim, serDimVal_desDimVal]

theorem serShape_desShape (s : ShapeP) : serShape (desShape s) = s := by
  simp [serShape, desShape, List.map_map, Function.comp_def, serDim_desDim]

theorem serTypeAndShape_sequence (ty : IRType) (den : String) (s : Option IRShape) :
    serTypeAndShape (some (.sequence ty den)) s = .sequence (serTypeAndShape (some ty) s) den := by
  cases s <;> rfl

theorem serTypeAndShape_optional (ty : IRType) (den : String) (s : Option IRShape) :
    serTypeAndShape (some (.optional ty den)) s = .optional (serTypeAndShape (some ty) s) den := by
  cases s <;> rfl

/-- the type and shape written back for a value whose shape falls back to `X` when the proto gives none
(`X = none`: plain round trip; `X = some S`: an initializer, whose tensor tells the shape) -/
theorem serTypeAndShape_orElse (t : TypeP) (h : wfTypeSet t = true) (X : Option IRShape) :
    ∃ ty sh, desTypeForType t = .ok (some ty) ∧ desTypeForShape t = .ok sh ∧
      serTypeAndShape (some ty) (sh <|> X) = match X with
        | none => t
        | some S => fillLeafShape (serShape S) t := by
  induction t with
  | unset den => simp [wfTypeSet] at h
  | map den => simp [wfTypeSet] at h
  | tensor e sh den =>
    cases e with
    | none => simp [wfTypeSet] at h
    | some e =>
      simp only [wfTypeSet] at h
      refine ⟨.tensor e den, sh.map desShape, by simp [desTypeForType, h], by simp [desTypeForShape], ?_⟩
      cases sh <;> cases X <;> simp [serTypeAndShape, serType, serShapeInto, serShape_desShape, fillLeafShape]
  | sparse e sh den =>
    cases e with
    | none => simp [wfTypeSet] at h
    | some e =>
      simp only [wfTypeSet] at h
      refine ⟨.sparse e den, sh.map desShape, by simp [desTypeForType, h], by simp [desTypeForShape], ?_⟩
      cases sh <;> cases X <;> simp [serTypeAndShape, serType, serShapeInto, serShape_desShape, fillLeafShape]
  | sequence e den ih =>
    simp only [wfTypeSet] at h
    obtain ⟨ty, sh, h1, h2, h3⟩ := ih h
    refine ⟨.sequence ty den, sh, ?_, by simpa [desTypeForShape] using h2, ?_⟩
    · simp [desTypeForType, h1, bind, Except.bind]
    · rw [serTypeAndShape_sequence, h3]; cases X <;> rfl
  | optional e den ih =>
    simp only [wfTypeSet] at h
    obtain ⟨ty, sh, h1, h2, h3⟩ := ih h
    refine ⟨.optional ty den, sh, ?_, by simpa [desTypeForShape] using h2, ?_⟩
    · simp [desTypeForType, h1, bind, Except.bind]
    · rw [serTypeAndShape_optional, h3]; cases X <;> rfl

theorem type_roundtrip_set (t : TypeP) (h : wfTypeSet t = true) :
    ∃ ty sh, desTypeForType t = .ok (some ty) ∧ desTypeForShape t = .ok sh ∧
      serTypeAndShape (some ty) sh = t := by
  obtain ⟨ty, sh, h1, h2, h3⟩ := serTypeAndShape_orElse t h none
  exact ⟨ty, sh, h1, h2, by simpa using h3⟩

theorem wfType_cases {t : TypeP} (h : wfType t = true) : t = .unset "" ∨ wfTypeSet t = true := by
  cases t with
  | unset den => exact Or.inl (by simpa [wfType, String.isEmpty_iff] using h)
  | _ => exact Or.inr (by simpa [wfType] using h)

theorem viIsUnset_of_set {t : TypeP} (h : wfTypeSet t = true) : viIsUnset t = false := by
  cases t with
  | unset => simp [wfTypeSet] at h
  | _ => rfl

theorem type_roundtrip (t : TypeP) (h : wfType t = true) :
    ∃ ty sh, desTypeForType t = .ok ty ∧ desTypeForShape t = .ok sh ∧ serTypeAndShape ty sh = t := by
  rcases wfType_cases h with rfl | hs
  · exact ⟨none, none, rfl, rfl, rfl⟩
  · obtain ⟨ty, s, h1, h2, h3⟩ := type_roundtrip_set t hs
    exact ⟨some ty, s, h1, h2, h3⟩

/-- `deserialize_value_info_proto` on a well-formed type: what the value holds afterwards -/
theorem applyInfo_ok (v : IRValue) (vi : ValueInfoP) (h : wfType vi.type = true) :
    ∃ ty sh, serTypeAndShape ty sh = vi.type ∧
      (ty.isNone = viIsUnset vi.type ∧ (ty = none → sh = none)) ∧
      applyInfo v vi = .ok { v with shape := sh, type := ty,
                                    mprops := dictUpdate v.mprops (dictOfEntries vi.metadata),
                                    doc := vi.doc } := by
  rcases wfType_cases h with hu | hs
  · exact ⟨none, none, by rw [hu]; rfl, ⟨by rw [hu]; rfl, fun _ => rfl⟩,
      by simp [applyInfo, hu, desTypeForType, desTypeForShape, bind, Except.bind]⟩
  · obtain ⟨ty, sh, h1, h2, h3⟩ := type_roundtrip_set _ hs
    exact ⟨some ty, sh, h3, ⟨by simp [viIsUnset_of_set hs], fun h => by cases h⟩,
      by simp [applyInfo, h1, h2, bind, Except.bind]⟩

theorem dictUpdate_nil (d : Dict) (h : (dkeys d).Nodup) : dictUpdate [] d = d := by
  rw [dictUpdate_eq_dupdate]; exact ListFacts.ddict_of_nodup d h

/-- a value whose info came from `vi`, applied to a value with empty metadata -/
def infoValue (vi : ValueInfoP) (ty : Option IRType) (sh : Option IRShape) (q : Dict)
    (c : Option IRTensor) : IRValue :=
  { name := vi.name, type := ty, shape := sh, doc := vi.doc,
    mprops := dictUpdate [] (dictOfEntries vi.metadata), quant := q, const := c }

/-- serializing a value whose info came from `vi` (fresh metadata): `normValueInfo vi` -/
theorem serValue_of_info (vi : ValueInfoP) (ty : Option IRType) (sh : Option IRShape) (q : Dict)
    (c : Option IRTensor) (h3 : serTypeAndShape ty sh = vi.type) :
    serValue (infoValue vi ty sh q c) = normValueInfo vi := by
  simp only [infoValue, serValue, serValueAs, normValueInfo, h3, normEntries,
    dictUpdate_nil _ (nodup_dkeys_dictOfEntries _)]
  cases vi; simp

theorem shouldCreateVI_of_info (vi : ValueInfoP) (ty : Option IRType) (sh : Option IRShape) (q : Dict)
    (c : Option IRTensor) (hty : ty.isNone = viIsUnset vi.type) :
    shouldCreateVI (infoValue vi ty sh q c) = (viHasInfo vi && !vi.name.isEmpty) := by
  simp only [infoValue, shouldCreateVI, viHasInfo, dictUpdate_nil _ (nodup_dkeys_dictOfEntries _),
    dictOfEntries_isEmpty, ← hty]

theorem lookupLast_getElem {names : List String} {n : String} {i : Nat}
    (h : lookupLast names n = some i) : names[i]? = some n := by
  induction names generalizing i with
  | nil => simp [lookupLast] at h
  | cons x xs ih =>
    simp only [lookupLast] at h
    split at h
    · rename_i j hj
      cases h
      simpa using ih hj
    · split at h
      · cases h; rename_i hx; simp [hx]
      · cases h

theorem lookupLast_isSome {names : List String} {n : String} (h : n ∈ names) :
    (lookupLast names n).isSome = true := by
  induction names with
  | nil => cases h
  | cons x xs ih =>
    simp only [lookupLast]
    rcases List.mem_cons.1 h with rfl | h
    · split <;> simp
    · have := ih h
      cases hl : lookupLast xs n with
      | none => rw [hl] at this; cases this
      | some j => simp

theorem lookupLast_none_not_mem {names : List String} {n : String} (h : lookupLast names n = none) :
    n ∉ names := by
  intro hm
  have := lookupLast_isSome hm
  simp [h] at this

theorem lookupLast_none {names : List String} {n : String} (h : n ∉ names) :
    lookupLast names n = none := by
  cases hl : lookupLast names n with
  | none => rfl
  | some i => exact absurd (List.mem_of_getElem? (lookupLast_getElem hl)) h

theorem resolve_refName {scopes : Scopes} {n : String} {r : Ref} (h : resolve scopes n = some r) :
    refName scopes r = n := by
  induction scopes generalizing r with
  | nil => simp [resolve] at h
  | cons sc rest ih =>
    simp only [resolve] at h
    split at h
    · rename_i i hi
      cases h
      have := lookupLast_getElem hi
      simp [refName, List.getD, this]
    · cases hr : resolve rest n with
      | none => rw [hr] at h; cases h
      | some r' =>
        rw [hr] at h
        cases h
        have := ih hr
        simpa [refName, List.getD] using this

theorem resolve_isSome_of_mem {scopes : Scopes} {n : String} (h : ∃ sc ∈ scopes, n ∈ sc) :
    (resolve scopes n).isSome = true := by
  induction scopes with
  | nil => obtain ⟨sc, hsc, _⟩ := h; cases hsc
  | cons sc rest ih =>
    simp only [resolve]
    cases hl : lookupLast sc n with
    | some i => simp
    | none =>
      obtain ⟨sc', hsc', hn⟩ := h
      rcases List.mem_cons.1 hsc' with rfl | hsc'
      · have := lookupLast_isSome hn; rw [hl] at this; cases this
      · have := ih ⟨sc', hsc', hn⟩
        cases hr : resolve rest n with
        | none => rw [hr] at this; cases this
        | some r => simp

theorem findLast?_eq_find?_reverse {α : Type} (p : α → Bool) : ∀ l : List α, findLast? p l = l.reverse.find? p
  | [] => rfl
  | x :: xs => by
    rw [findLast?, findLast?_eq_find?_reverse p xs, List.reverse_cons, List.find?_append]
    cases xs.reverse.find? p with
    | some y => rfl
    | none => by_cases hx : p x = true <;> simp [hx]

theorem findLast?_mem {α : Type} {p : α → Bool} {l : List α} {a : α} (h : findLast? p l = some a) :
    a ∈ l ∧ p a = true := by
  rw [findLast?_eq_find?_reverse] at h
  exact ⟨List.mem_reverse.1 (List.mem_of_find?_eq_some h), List.find?_some h⟩

theorem findLast?_eq_none_iff {α : Type} {p : α → Bool} {l : List α} :
    findLast? p l = none ↔ ∀ a ∈ l, p a = false := by
  simp only [findLast?_eq_find?_reverse, List.find?_eq_none, List.mem_reverse, Bool.not_eq_true]

theorem findLast?_none_of_forall {α : Type} {p : α → Bool} {l : List α} (h : ∀ a ∈ l, p a = false) :
    findLast? p l = none := findLast?_eq_none_iff.2 h

theorem findLast?_append {α : Type} (p : α → Bool) (a b : List α) :
    findLast? p (a ++ b) = match findLast? p b with
      | some y => some y
      | none => findLast? p a := by
  simp only [findLast?_eq_find?_reverse, List.reverse_append, List.find?_append]
  cases b.reverse.find? p <;> rfl

theorem findLast?_isSome_of_mem {α : Type} {p : α → Bool} {l : List α} {a : α} (ha : a ∈ l)
    (hp : p a = true) : ∃ b, findLast? p l = some b := by
  cases h : findLast? p l with
  | some b => exact ⟨b, rfl⟩
  | none => rw [findLast?_eq_none_iff.1 h a ha] at hp; cases hp

theorem findLast?_filter {α : Type} (p q : α → Bool) (l : List α) :
    findLast? p (l.filter q) = findLast? (fun a => q a && p a) l := by
  simp only [findLast?_eq_find?_reverse, ← List.filter_reverse, List.find?_filter, Bool.decide_and,
    Bool.decide_eq_true]

theorem find?_of_nodup {α : Type} (key : α → String) {l : List α} (h : (l.map key).Nodup) {a : α}
    (ha : a ∈ l) : l.find? (fun x => key x = key a) = some a :=
  ListFacts.find?_of_nodup key h ha

theorem findLast?_eq_find? {α : Type} (key : α → String) (k : String) (es : List α)
    (h : (es.map key).Nodup) :
    findLast? (fun e => key e = k) es = es.find? (fun e => key e = k) := by
  induction es with
  | nil => rfl
  | cons x xs ih =>
    simp only [List.map_cons, List.nodup_cons] at h
    simp only [findLast?, List.find?_cons, ih h.2]
    by_cases hx : key x = k
    · have : xs.find? (fun e => key e = k) = none := by
        rw [List.find?_eq_none]
        intro y hy hyk
        simp only [decide_eq_true_eq] at hyk
        exact h.1 (by rw [hx, ← hyk]; exact List.mem_map_of_mem hy)
      simp [hx, this]
    · simp only [hx, decide_false]
      cases xs.find? (fun e => key e = k) <;> simp

theorem extGet_eq {es : List Entry} (h : (es.map (·.key)).Nodup) (k : String) :
    extGet es k = (es.find? (fun e => e.key = k)).map (·.value) := by
  simp only [extGet]
  rw [findLast?_eq_find? (·.key) k es h]

theorem entry_eta {e : Entry} {k : String} (h : e.key = k) : (⟨k, e.value⟩ : Entry) = e := by
  cases e; simp_all

theorem find?_key_eta (es : List Entry) (k : String) :
    (es.find? (fun e => e.key = k)).toList
      = optEntry k ((es.find? (fun e => e.key = k)).map (·.value)) := by
  cases hf : es.find? (fun e => e.key = k) with
  | none => rfl
  | some e =>
    have hek : e.key = k := by simpa using List.find?_some hf
    simp only [Option.map_some, optEntry, Option.toList]
    rw [entry_eta hek]

theorem normExternal_eq (es : List Entry) (hnd : (es.map (·.key)).Nodup) :
    normExternal es = optEntry "location" (extGet es "location") ++ optEntry "offset" (extGet es "offset")
      ++ optEntry "length" (extGet es "length") ++ optEntry "checksum" (extGet es "checksum") := by
  simp only [extGet_eq hnd, ← find?_key_eta]
  unfold normExternal
  simp only [List.filterMap_cons, List.filterMap_nil]
  cases es.find? (fun e => e.key = "location") <;> cases es.find? (fun e => e.key = "offset") <;>
    cases es.find? (fun e => e.key = "length") <;> cases es.find? (fun e => e.key = "checksum") <;> rfl

/-- a proto-backed tensor (neither external nor string) round-trips for EVERY proto -/
theorem tensor_proto_backed (p : TensorP) (hloc : p.dataLocation ≠ 1) (hs : p.dataType ≠ 8) :
    ∃ t, desTensor p = .ok t ∧ serTensor t = normTensor p ∧ t.name = p.name := by
  refine ⟨_, by simp [desTensor, hloc, hs]; rfl, ?_, rfl⟩
  simp only [serTensor, normTensor, hloc, if_false, normEntries]
  split
  · rename_i he
    have := sortEntries_dictOfEntries_isEmpty _ he
    cases p; simp_all [dictOfEntries, dictUpdate, sortEntries]
  · rfl

theorem tensor_roundtrip (p : TensorP) (h : wfTensor p = true) :
    ∃ t, desTensor p = .ok t ∧ serTensor t = normTensor p ∧ t.name = p.name := by
  simp only [wfTensor, Bool.and_eq_true] at h
  obtain ⟨hmeta, h⟩ := h
  by_cases hloc : p.dataLocation = 1
  · -- external
    simp only [hloc, if_true, Bool.and_eq_true, noPayload] at h
    obtain ⟨⟨⟨⟨⟨⟨hdt, hpay⟩, hstr⟩, hkeys⟩, _hallowed⟩, hlocp⟩, hnat⟩ := h
    have hnd := nodupStr_iff.1 hkeys
    -- offset / length: canonical decimals, so the number read is written back as the same string
    have hnum : ∀ k, (k = "offset" ∨ k = "length") →
        ∃ o, extNat p.externalData k = .ok o ∧ o.map toString = extGet p.externalData k := by
      intro k hk
      simp only [extNat]
      cases hg : extGet p.externalData k with
      | none => exact ⟨none, rfl, rfl⟩
      | some v =>
        rw [extGet_eq hnd] at hg
        obtain ⟨e, hf, rfl⟩ := Option.map_eq_some_iff.1 hg
        have hek : e.key = k := by simpa using List.find?_some hf
        have hn := List.all_eq_true.1 hnat e (List.mem_of_find?_eq_some hf)
        simp only [hek, Bool.or_eq_true, decide_eq_true_eq, isNatStr] at hn
        have hn := hn hk
        cases hp : parseInt e.value with
        | none => rw [hp] at hn; cases hn
        | some i =>
          rw [hp] at hn
          simp only [Bool.and_eq_true, decide_eq_true_eq] at hn
          exact ⟨some i.toNat, by simp [hp, show ¬ i < 0 by omega], by simp [hn.2]⟩
    obtain ⟨off, ho1, ho2⟩ := hnum "offset" (Or.inl rfl)
    obtain ⟨len, hl1, hl2⟩ := hnum "length" (Or.inr rfl)
    obtain ⟨loc, hl⟩ : ∃ loc, extGet p.externalData "location" = some loc := by
      obtain ⟨e, he, hek⟩ := List.any_eq_true.1 hlocp
      rw [extGet_eq hnd]
      cases hf : p.externalData.find? (fun e => e.key = "location") with
      | none => exact absurd hek (List.find?_eq_none.1 hf e he)
      | some e => exact ⟨_, rfl⟩
    refine ⟨_, by simp [desTensor, hloc, ho1, hl1, hdt, bind, Except.bind]; rfl, ?_, rfl⟩
    simp only [serTensor, normTensor, hloc, if_true, normExternal_eq _ hnd, ho2, hl2, hl, Option.getD_some, optEntry,
      normEntries]
    simp only [Option.isNone_iff_eq_none, List.isEmpty_iff] at hpay hstr
    obtain ⟨⟨⟨⟨⟨h1, h2⟩, h3⟩, h4⟩, h5⟩, h6⟩ := hpay
    -- all six payload fields are empty: `p` is the record the serializer rebuilds from `emptyTensorP`
    cases p
    simp_all [emptyTensorP]
  · simp only [hloc, if_false] at h
    by_cases hs : p.dataType = 8
    · -- string tensor
      simp only [hs, if_true, Bool.and_eq_true, noPayload, decide_eq_true_eq] at h
      obtain ⟨⟨hpay, hext⟩, hl0⟩ := h
      refine ⟨_, by simp [desTensor, hloc, hs]; rfl, ?_, rfl⟩
      simp only [serTensor, normTensor, hloc, if_false, normEntries]
      simp only [Option.isNone_iff_eq_none, List.isEmpty_iff] at hpay hext
      obtain ⟨⟨⟨⟨⟨h1, h2⟩, h3⟩, h4⟩, h5⟩, h6⟩ := hpay
      cases p
      simp_all [emptyTensorP]
    · exact tensor_proto_backed p hloc hs

theorem tensor_roundtrip_proto_backed (p : TensorP) (hloc : p.dataLocation ≠ 1) (hs : p.dataType ≠ 8) :
    ∃ t, desTensor p = .ok t ∧ serTensor t = normTensor p :=
  let ⟨t, h1, h2, _⟩ := tensor_proto_backed p hloc hs
  ⟨t, h1, h2⟩

theorem setName_self (p : TensorP) (t : IRTensor) (h : desTensor p = .ok t) :
    t.setName p.name = t := by
  unfold desTensor at h
  split at h
  · simp only [bind, Except.bind] at h
    split at h
    · cases h
    · split at h
      · cases h
      · split at h
        · cases h; rfl
        · cases h
  · split at h
    · cases h; rfl
    · cases h; rfl

theorem typeAndShape_roundtrip (t : TypeP) (h : wfType t = true) :
    ∃ ty sh, desTypeAndShape t = .ok (ty, sh) ∧ serTypeAndShape ty sh = t := by
  obtain ⟨ty, sh, h1, h2, h3⟩ := type_roundtrip t h
  exact ⟨ty, sh, by simp [desTypeAndShape, h1, h2, bind, Except.bind], h3⟩

theorem shardedDim_roundtrip (d : ShardedDimP) : serShardedDim (desShardedDim d) = d := by
  cases d with
  | mk axis simple =>
    simp only [serShardedDim, desShardedDim, List.map_map, ShardedDimP.mk.injEq, true_and]
    have : (serSimpleShard ∘ desSimpleShard) = id := by
      funext s; cases s; simp [serSimpleShard, desSimpleShard, serDimVal_desDimVal]
    rw [this, List.map_id]

theorem shardingSpecs_roundtrip (scopes : Scopes) (ss : List ShardingSpecP)
    (h : ss.all wfShardingSpec = true) :
    serShardingSpecs scopes (ss.map (desShardingSpec scopes)) = .ok ss := by
  induction ss with
  | nil => rfl
  | cons s ss ih =>
    simp only [List.all_cons, Bool.and_eq_true] at h
    have hs : serShardingSpec scopes (desShardingSpec scopes s) = .ok s := by
      have hne : s.tensorName.isEmpty = false := by simpa [wfShardingSpec] using h.1
      have hdims : (s.dims.map desShardedDim).map serShardedDim = s.dims := by
        simp [List.map_map, Function.comp_def, shardedDim_roundtrip]
      cases s with
      | mk tn dev gm dims =>
        simp only at hne hdims
        simp only [desShardingSpec, hne, Bool.false_eq_true, if_false]
        cases hr : resolve scopes tn with
        | some r => simp [serShardingSpec, resolve_refName hr, hne, hdims]
        | none => simp [serShardingSpec, hne, hdims]
    simp only [List.map_cons, serShardingSpecs, hs, ih h.2, bind, Except.bind]

theorem nodeDevCfgs_roundtrip (scopes : Scopes) (cs : List NodeDevCfgP)
    (h : cs.all wfNodeDevCfg = true) :
    serNodeDevCfgs scopes (cs.map (desNodeDevCfg scopes)) = .ok cs := by
  induction cs with
  | nil => rfl
  | cons c cs ih =>
    simp only [List.all_cons, Bool.and_eq_true] at h
    have hc : serNodeDevCfg scopes (desNodeDevCfg scopes c) = .ok c := by
      simp only [wfNodeDevCfg, Bool.and_eq_true, Bool.not_eq_true'] at h
      cases c with
      | mk id specs stage =>
        simp only at h
        simp [desNodeDevCfg, serNodeDevCfg, h.1.1, shardingSpecs_roundtrip scopes specs h.1.2,
          bind, Except.bind]
    simp only [List.map_cons, serNodeDevCfgs, hc, ih h.2, bind, Except.bind]

theorem desBStrs_utf8 (xs : List BStr) (h : xs.all bstrIsUtf8 = true) :
    ∃ ys, desBStrs xs = .ok ys ∧ serBStrs ys = xs := by
  induction xs with
  | nil => exact ⟨[], rfl, rfl⟩
  | cons x xs ih =>
    simp only [List.all_cons, Bool.and_eq_true] at h
    obtain ⟨ys, h1, h2⟩ := ih h.2
    cases x with
    | utf8 s => exact ⟨s :: ys, by simp [desBStrs, h1, bind, Except.bind], by simp [serBStrs] at h2 ⊢; exact h2⟩
    | raw b => simp [bstrIsUtf8] at h

theorem desTensors_roundtrip (ts : List TensorP) (h : ts.all wfTensor = true) :
    ∃ xs, desTensors ts = .ok xs ∧ xs.map serTensor = ts.map normTensor := by
  induction ts with
  | nil => exact ⟨[], rfl, rfl⟩
  | cons t ts ih =>
    simp only [List.all_cons, Bool.and_eq_true] at h
    obtain ⟨xs, h1, h2⟩ := ih h.2
    obtain ⟨x, g1, g2, _⟩ := tensor_roundtrip t h.1
    exact ⟨x :: xs, by simp [desTensors, g1, h1, bind, Except.bind], by simp [g2, h2]⟩

theorem desTypeAndShapes_roundtrip (tps : List TypeP) (h : tps.all wfType = true) :
    ∃ xs, desTypeAndShapes tps = .ok xs ∧ serTypeAndShapes xs = tps := by
  induction tps with
  | nil => exact ⟨[], rfl, rfl⟩
  | cons t ts ih =>
    simp only [List.all_cons, Bool.and_eq_true] at h
    obtain ⟨xs, h1, h2⟩ := ih h.2
    obtain ⟨ty, sh, g1, g2⟩ := typeAndShape_roundtrip t h.1
    refine ⟨(ty, sh) :: xs, by simp [desTypeAndShapes, g1, h1, bind, Except.bind], ?_⟩
    simp only [serTypeAndShapes, List.map_cons, g2] at h2 ⊢
    rw [h2]

end IrVerif.Serde
