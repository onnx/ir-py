/-
C19 - the weak invariant: the notions of the round trip (`Lemmas/DeviceScope.lean`, `Lemmas/DeviceRT.lean`: `All2`, `VExt`, `ScopeOK`,
`SpecRel` / `CfgRel` / `NodeRel`, `ScopeSrc`, `DInv`) under names of the namespace `Wk`, with the bodies of their
namesakes in `IrVerif.Device` (`Wk.ScopeOK` is `Inv.ScopeOK`: it also records that scope entries are values the
deserializer created).  Nothing is proved with them and no other file uses them: `Wk.deserModel_spec` and
`Wk.DevOK_roundTrip` are `Inv.deserModel_spec` / `Inv.DevOK_roundTrip` read at `U := False` (`Wk.DInv.of_inv` carries
the invariant of the deserializer state over).  Core Lean only.
-/
import IrVerif.Lemmas.DeviceWk
import IrVerif.Lemmas.DeviceRT
namespace IrVerif.Device.Wk

variable {G : VId → Prop}

inductive All2 {α β : Type} (R : α → β → Prop) : List α → List β → Prop
  | nil : All2 R [] []
  | cons {a : α} {b : β} {l1 : List α} {l2 : List β} : R a b → All2 R l1 l2 → All2 R (a :: l1) (b :: l2)

theorem All2.imp {α β : Type} {R S : α → β → Prop} (h : ∀ a b, R a b → S a b) :
    ∀ {l1 : List α} {l2 : List β}, All2 R l1 l2 → All2 S l1 l2
  | _, _, All2.nil => All2.nil
  | _, _, All2.cons hab t => All2.cons (h _ _ hab) (All2.imp h t)

structure VExt (a b : World) : Prop where
  values : ∃ extra, b.values = a.values ++ extra
  cfgs : b.cfgs = a.cfgs
  nodes : ∃ extra, b.nodes = a.nodes ++ extra
  models : b.models = a.models

structure ScopeOK (w : World) (vals : List VId) (wd : World) (sc : Scope) : Prop where
  lt : ∀ p ∈ sc, p.2 < wd.values.length
  inj : (sc.map (·.2)).Nodup
  name : ∀ p ∈ sc, (wd.value p.2).name = p.1
  shape : ∀ p ∈ sc, p.1 ≠ "" → ∀ v ∈ vals, (w.value v).name = p.1 →
    (wd.value p.2).shape = (w.value v).shape ∨ (wd.value p.2).shape = none
  len : w.values.length ≤ wd.values.length
  fresh : ∀ p ∈ sc, w.values.length ≤ p.2

theorem ScopeOK.of_values_eq {w : World} {vals : List VId} {wd wd' : World} {sc : Scope}
    (h : ScopeOK w vals wd sc) (hv : wd'.values = wd.values) : ScopeOK w vals wd' sc := by
  have hval : ∀ x, wd'.value x = wd.value x := by intro x; simp [World.value, hv]
  refine ⟨fun p hp => by rw [hv]; exact h.lt p hp, h.inj, ?_, ?_, by rw [hv]; exact h.len, h.fresh⟩
  · intro p hp; rw [hval]; exact h.name p hp
  · intro p hp hne v hvm hname
    rw [hval]; exact h.shape p hp hne v hvm hname

def SpecRel (w w' : World) (s s' : Spec) : Prop :=
  s'.value < w'.values.length ∧ (w'.value s'.value).name = (w.value s.value).name ∧
  s'.device = s.device ∧ s'.dims = s.dims

def CfgRel (w w' : World) (nc nc' : NodeCfg) : Prop :=
  w'.cfg nc'.cfg = w.cfg nc.cfg ∧ nc'.stage = nc.stage ∧ All2 (SpecRel w w') nc.specs nc'.specs

def NodeRel (w w' : World) (nd nd' : NodeS) : Prop := All2 (CfgRel w w') nd.dev nd'.dev

theorem NodeRel.of_eq {w a b : World} {nd nd' : NodeS} (h : NodeRel w a nd nd')
    (hv : b.values = a.values) (hc : b.cfgs = a.cfgs) : NodeRel w b nd nd' := by
  have hval : ∀ x, b.value x = a.value x := by intro x; simp [World.value, hv]
  have hcfg : ∀ x, b.cfg x = a.cfg x := by intro x; simp [World.cfg, hc]
  refine All2.imp ?_ h
  intro nc nc' hcr
  refine ⟨by rw [hcfg]; exact hcr.1, hcr.2.1, All2.imp ?_ hcr.2.2⟩
  intro s s' hs
  exact ⟨by rw [hv]; exact hs.1, by rw [hval]; exact hs.2.1, hs.2.2⟩

theorem mem_modelValues_of_io {w : World} {ms : ModelS} {n : NId} (hn : n ∈ ms.nodes) {v : VId}
    (hv : InIO (w.node n) v) : v ∈ modelValues w ms :=
  IrVerif.Device.mem_modelValues_of_io hn hv

theorem mem_modelValues_of_input {w : World} {ms : ModelS} {g : GId} (hg : g ∈ ms.graphs) {v : VId}
    (hv : v ∈ (w.graph g).inputs) : v ∈ modelValues w ms :=
  IrVerif.Device.mem_modelValues_of_input hg hv

theorem mem_modelValues_of_init {w : World} {ms : ModelS} {g : GId} (hg : g ∈ ms.graphs) {v : VId}
    (hv : v ∈ (w.graph g).inits) : v ∈ modelValues w ms :=
  IrVerif.Device.mem_modelValues_of_init hg hv

def ScopeSrc (w : World) (vals : List VId) (sc : Scope) : Prop :=
  ∀ p ∈ sc, p.1 ≠ "" → ∃ u ∈ vals, (w.value u).name = p.1

theorem ScopeSrc.extend {w : World} {vals : List VId} {sc sc' : Scope} (h : ScopeSrc w vals sc)
    (hnew : ∀ p ∈ sc', p ∈ sc ∨ ∃ v ∈ vals, p.1 = (w.value v).name) : ScopeSrc w vals sc' :=
  IrVerif.Device.ScopeSrc.extend h hnew

/-- `Inv.DInv` at the weak invariant (`DInv.of_inv`) -/
structure DInv (G : VId → Prop) (w : World) (ms : ModelS) (st : DSt) : Prop where
  ext : Ext w st.w
  cfgs : st.w.cfgs = w.cfgs ++ (rtRegs ms).map w.cfg
  models : st.w.models = w.models
  nodes : ∃ extra, st.w.nodes = w.nodes ++ extra ∧
    ∀ nd ∈ extra, NodeOK G st.w nd ∧ ∀ nc ∈ nd.dev, nc.cfg ∈ rtNewCfgs w ms
  plen : st.srcNodes.length = st.newNodes.length
  pairs : ∀ p ∈ st.srcNodes.zip st.newNodes, p.1 ∈ ms.nodes ∧ w.nodes.length ≤ p.2 ∧ p.2 < st.w.nodes.length ∧
      NodeRel w st.w (w.node p.1) (st.w.node p.2)

theorem All2.of_root {α β : Type} {R : α → β → Prop} :
    ∀ {l1 : List α} {l2 : List β}, IrVerif.Device.All2 R l1 l2 → All2 R l1 l2
  | _, _, .nil => .nil
  | _, _, .cons hab t => .cons hab (All2.of_root t)

theorem NodeRel.of_root {w w' : World} {nd nd' : NodeS} (h : IrVerif.Device.NodeRel w w' nd nd') :
    NodeRel w w' nd nd' :=
  All2.of_root (IrVerif.Device.All2.imp (fun _ _ hc => ⟨hc.1, hc.2.1, All2.of_root hc.2.2⟩) h)

theorem DInv.of_inv {w : World} {ms : ModelS} {st : DSt} (h : Inv.DInv False G w ms st) : DInv G w ms st := by
  obtain ⟨a, b, c, ⟨extra, hex, hok⟩, e, f⟩ := h
  exact ⟨a, b, c, ⟨extra, hex, fun nd hnd => ⟨NodeOK_iff.2 (hok nd hnd).1, (hok nd hnd).2⟩⟩, e,
    fun p hp => ⟨(f p hp).1, (f p hp).2.1, (f p hp).2.2.1, NodeRel.of_root (f p hp).2.2.2⟩⟩

/-- `Inv.deserModel_spec` at the weak invariant -/
theorem deserModel_spec {w : World} [hGf : Fresh G w.values.length] (h : DevOK G w) (m : MId) (hir : 11 ≤ (w.model m).irVersion)
    (hcl : Closed w (w.model m)) (hU : NamesChain w (w.model m))
    {protos : List (List PCfg)} (hser : serModelDev w m = some protos) {w' : World}
    (hd : deserModel w m = some w') :
    ∃ (st : DSt) (newm : ModelS), w' = rtFinish st.w newm ∧ DInv G w (w.model m) st ∧
      newm.nodes = st.newNodes ∧ newm.cfgs = rtNewCfgs w (w.model m) ∧ newm.irVersion = (w.model m).irVersion ∧
      st.srcNodes = ((w.model m).roots.map (allNodesF w (w.graphs.length + 1))).flatten ∧
      ∃ extra, st.w.values = w.values ++ extra := by
  obtain ⟨st, newm, h1, h2, h3⟩ := Inv.deserModel_spec (DevOK_iff.1 h) m hir hcl hU hser hd
  exact ⟨st, newm, h1, DInv.of_inv h2, h3⟩

theorem DevOK_roundTrip {w : World} [hGf : Fresh G w.values.length] (h : DevOK G w) (m : MId) (hpre : Pre w (.roundTrip m)) :
    DevOK G (roundTrip w m).1 :=
  DevOK_iff.2 (Inv.DevOK_roundTrip (DevOK_iff.1 h) m hpre)

end IrVerif.Device.Wk
