import IrVerif.Lemmas.SerdeFunction
import IrVerif.Model.SerdeWide
/-! C02: `fold` removes only what `deserialize` never reads — leaf lemmas and the
congruence of the graph phases in the `value_info` table. -/
namespace IrVerif.Serde
open IrVerif.Proto

/-- `dedupLastBy` keeps of every key the element a last lookup finds: lookups by key do not see the fold -/
theorem findLast?_dedupLastBy_g {α : Type} (key : α → String) (g : String → Bool) (vs : List α) :
    findLast? (fun w => g (key w)) (dedupLastBy key vs) = findLast? (fun w => g (key w)) vs := by
  induction vs with
  | nil => rfl
  | cons v vs ih =>
    simp only [dedupLastBy]
    split
    · rename_i hany
      rw [ih]
      simp only [findLast?]
      cases hf : findLast? (fun w => g (key w)) vs with
      | some y => rfl
      | none =>
        by_cases hv : g (key v) = true
        · exfalso
          obtain ⟨w, hw, hwn⟩ := List.any_eq_true.1 hany
          simp only [decide_eq_true_eq] at hwn
          obtain ⟨b, hb⟩ := findLast?_isSome_of_mem (p := fun w => g (key w)) hw
            (by simp [hwn, hv])
          simp [hf] at hb
        · simp [hv]
    · simp only [findLast?]
      rw [ih]

theorem findLast?_filter_g {α : Type} (key : α → String) (g : String → Bool) (f : α → Bool)
    (h : ∀ v : α, g (key v) = true → f v = true) (l : List α) :
    findLast? (fun w => g (key w)) (l.filter f) = findLast? (fun w => g (key w)) l := by
  rw [findLast?_filter]
  congr 1
  funext w
  by_cases hg : g (key w) = true
  · simp [hg, h w hg]
  · simp [hg]

theorem findLast?_dedupLastBy {α : Type} (key : α → String) (n : String) (vs : List α) :
    findLast? (fun w => decide (key w = n)) (dedupLastBy key vs)
      = findLast? (fun w => decide (key w = n)) vs :=
  findLast?_dedupLastBy_g key (fun k => decide (k = n)) vs

theorem findLast?_filter_key {α : Type} (key : α → String) (f : α → Bool) (n : String)
    (h : ∀ v : α, key v = n → f v = true) (l : List α) :
    findLast? (fun w => decide (key w = n)) (l.filter f) = findLast? (fun w => decide (key w = n)) l :=
  findLast?_filter_g key (fun k => decide (k = n)) f (fun v hv => h v (by simpa using hv)) l

theorem findVI_dedupLastVI (vs : List ValueInfoP) (n : String) :
    findVI (dedupLastVI vs) n = findVI vs n :=
  findLast?_dedupLastBy (fun v : ValueInfoP => v.name) n vs

theorem findVI_filter (f : ValueInfoP → Bool) (n : String) (h : ∀ v : ValueInfoP, v.name = n → f v = true)
    (l : List ValueInfoP) : findVI (l.filter f) n = findVI l n :=
  findLast?_filter_key (fun v : ValueInfoP => v.name) f n h l

theorem dedupLastBy_of_nodup {α : Type} (key : α → String) {l : List α} (h : (l.map key).Nodup) :
    dedupLastBy key l = l := by
  induction l with
  | nil => rfl
  | cons v vs ih =>
    simp only [List.map_cons, List.nodup_cons] at h
    have : vs.any (fun w => decide (key w = key v)) = false := by
      rw [Bool.eq_false_iff]
      intro hc
      obtain ⟨w, hw, hwn⟩ := List.any_eq_true.1 hc
      simp only [decide_eq_true_eq] at hwn
      exact h.1 (by rw [← hwn]; exact List.mem_map_of_mem hw)
    simp only [dedupLastBy, this, Bool.false_eq_true, if_false, ih h.2]

theorem findVI_foldVIs (I : List String) (vis : List ValueInfoP) {n : String} (hn : n ∉ I) :
    findVI (foldVIs I vis) n = findVI vis n := by
  unfold foldVIs
  rw [findVI_filter _ n _ (dedupLastVI vis), findVI_dedupLastVI]
  intro v hv
  simp [hv, hn]

theorem extGet_foldExternal (es : List Entry) {k : String} (hk : k ∈ extKeys) :
    extGet (foldExternal es) k = extGet es k := by
  unfold extGet foldExternal
  rw [findLast?_filter_key (fun e : Entry => e.key) _ k _ _, findLast?_dedupLastBy (fun e : Entry => e.key) k es]
  intro e he
  simp [he, hk]

theorem desTensor_foldTensor (t : TensorP) : desTensor (foldTensor t) = desTensor t := by
  unfold foldTensor
  split
  · rename_i hloc
    have e1 := extGet_foldExternal t.externalData (k := "location") (by simp [extKeys])
    have e2 := extGet_foldExternal t.externalData (k := "offset") (by simp [extKeys])
    have e3 := extGet_foldExternal t.externalData (k := "length") (by simp [extKeys])
    have e4 := extGet_foldExternal t.externalData (k := "checksum") (by simp [extKeys])
    simp only [desTensor, hloc, if_true, extNat, e1, e2, e3, e4]
  · rfl

theorem desTensors_foldTensor (ts : List TensorP) : desTensors (ts.map foldTensor) = desTensors ts := by
  induction ts with
  | nil => rfl
  | cons t ts ih => simp only [List.map_cons, desTensors, desTensor_foldTensor, ih]

theorem dictByKey_keys_nodup {α : Type} (key : α → String) :
    ∀ (l acc : List α), (acc.map key).Nodup → ((dictByKey key acc l).map key).Nodup := by
  intro l
  induction l with
  | nil => intro acc h; exact h
  | cons x xs ih =>
    intro acc h
    simp only [dictByKey]
    apply ih
    split
    · have : (acc.map fun y => if key y = key x then x else y).map key = acc.map key := by
        rw [List.map_map]
        apply List.map_congr_left
        intro y _
        simp only [Function.comp]
        split
        · rename_i hy; exact hy.symm
        · rfl
      rw [this]; exact h
    · rename_i hany
      rw [List.map_append, List.map_singleton]
      rw [List.nodup_append]
      refine ⟨h, by simp, ?_⟩
      intro a ha b hb hab
      simp only [List.mem_singleton] at hb
      apply hany
      obtain ⟨y, hy, hyk⟩ := List.mem_map.1 ha
      exact List.any_eq_true.2 ⟨y, hy, by simp [hyk, hab, hb]⟩

theorem opsetDict_idem (os : List OpsetP) : opsetDict (opsetDict os) = opsetDict os := by
  unfold opsetDict
  exact dictByKey_nodup (fun o : OpsetP => o.domain) _
    (dictByKey_keys_nodup (fun o : OpsetP => o.domain) os [] List.nodup_nil)

/-! ### the graph phases read `value_info` only for names that are not yet in the table -/

theorem newValue_congr {vis vis' : List ValueInfoP} (q : List AnnotP) {n : String}
    (h : findVI vis n = findVI vis' n) : newValue vis q n = newValue vis' q n := by
  simp only [newValue, h]

theorem newInitValue_congr {vis vis' : List ValueInfoP} (q : List AnnotP) (t : IRTensor) (dt : Int)
    (h : findVI vis t.name = findVI vis' t.name) : newInitValue vis q t dt = newInitValue vis' q t dt := by
  simp only [newInitValue, h]

theorem tableNames_listSet_const (tbl : List IRValue) (i : Nat) (t : IRTensor) :
    tableNames (listSet tbl i { tbl.getD i (IRValue.blank "") with const := some t }) = tableNames tbl := by
  rw [listSet_eq_map]; exact tableNames_set tbl i _ rfl

/-- `S`: names whose `value_info` entries may differ between `vis` and `vis'`; they are all in the
table already, so they are never looked up. -/
def VisAgree (S : List String) (vis vis' : List ValueInfoP) : Prop :=
  ∀ n, n ∉ S → findVI vis n = findVI vis' n

theorem desInitializers_congr {S : List String} {vis vis' : List ValueInfoP} (hv : VisAgree S vis vis')
    (q : List AnnotP) : ∀ (ts : List IRTensor) (tbl : List IRValue), (∀ s ∈ S, s ∈ tableNames tbl) →
    desInitializers vis q ts tbl = desInitializers vis' q ts tbl
  | [], _, _ => rfl
  | t :: ts, tbl, hS => by
    simp only [desInitializers]
    split
    · exact desInitializers_congr hv q ts tbl hS
    · cases hdt : t.dtype with
      | error e => rfl
      | ok dt =>
        simp only [bind, Except.bind]
        cases hl : lookupLast (tableNames tbl) t.name with
        | some i =>
          simp only []
          rw [desInitializers_congr hv q ts _ (by rw [tableNames_listSet_const]; exact hS)]
        | none =>
          simp only []
          have hn : t.name ∉ S := fun hm => lookupLast_none_not_mem hl (hS _ hm)
          rw [newInitValue_congr q t dt (hv _ hn)]
          cases newInitValue vis' q t dt with
          | error e => rfl
          | ok v =>
            simp only []
            rw [desInitializers_congr hv q ts _ (by
              intro s hs; rw [tableNames_append]; exact List.mem_append_left _ (hS s hs))]

theorem desInitializers_names (vis : List ValueInfoP) (q : List AnnotP) :
    ∀ (ts : List IRTensor) (tbl tbl' : List IRValue) (is : List Nat),
    desInitializers vis q ts tbl = .ok (tbl', is) → ∀ s ∈ tableNames tbl, s ∈ tableNames tbl'
  | [], tbl, tbl', is, h => by
    simp only [desInitializers, Except.ok.injEq, Prod.mk.injEq] at h
    rw [← h.1]; exact fun s hs => hs
  | t :: ts, tbl, tbl', is, h => by
    simp only [desInitializers] at h
    split at h
    · exact desInitializers_names vis q ts tbl tbl' is h
    · obtain ⟨dt, _, h⟩ := bind_eq_ok h
      split at h
      · obtain ⟨⟨t2, is2⟩, hr, h⟩ := bind_eq_ok h
        simp only [Except.ok.injEq, Prod.mk.injEq] at h
        have := desInitializers_names vis q ts _ t2 is2 hr
        rw [tableNames_listSet_const] at this
        rw [← h.1]; exact this
      · obtain ⟨v, _, h⟩ := bind_eq_ok h
        obtain ⟨⟨t2, is2⟩, hr, h⟩ := bind_eq_ok h
        simp only [Except.ok.injEq, Prod.mk.injEq] at h
        have := desInitializers_names vis q ts _ t2 is2 hr
        rw [← h.1]
        intro s hs
        exact this s (by rw [tableNames_append]; exact List.mem_append_left _ hs)

theorem declareOutputs_congr {S : List String} {vis vis' : List ValueInfoP} (hv : VisAgree S vis vis')
    (q : List AnnotP) : ∀ (ns : List String) (tbl : List IRValue), (∀ s ∈ S, s ∈ tableNames tbl) →
    declareOutputs vis q ns tbl = declareOutputs vis' q ns tbl
  | [], _, _ => rfl
  | n :: ns, tbl, hS => by
    simp only [declareOutputs]
    split
    · exact declareOutputs_congr hv q ns tbl hS
    · cases hl : lookupLast (tableNames tbl) n with
      | some i => rfl
      | none =>
        simp only []
        have hn : n ∉ S := fun hm => lookupLast_none_not_mem hl (hS _ hm)
        rw [newValue_congr q (hv _ hn)]
        cases newValue vis' q n with
        | error e => rfl
        | ok v =>
          simp only [bind, Except.bind]
          exact declareOutputs_congr hv q ns _ (by
            intro s hs; rw [tableNames_append]; exact List.mem_append_left _ (hS s hs))

theorem declareOutputs_names (vis : List ValueInfoP) (q : List AnnotP) :
    ∀ (ns : List String) (tbl tbl' : List IRValue),
    declareOutputs vis q ns tbl = .ok tbl' → ∀ s ∈ tableNames tbl, s ∈ tableNames tbl'
  | [], tbl, tbl', h => by
    simp only [declareOutputs, Except.ok.injEq] at h
    rw [← h]; exact fun s hs => hs
  | n :: ns, tbl, tbl', h => by
    simp only [declareOutputs] at h
    split at h
    · exact declareOutputs_names vis q ns tbl tbl' h
    · split at h
      · cases h
      · obtain ⟨v, _, h⟩ := bind_eq_ok h
        intro s hs
        exact declareOutputs_names vis q ns _ tbl' h s
          (by rw [tableNames_append]; exact List.mem_append_left _ hs)

theorem declareAll_congr {S : List String} {vis vis' : List ValueInfoP} (hv : VisAgree S vis vis')
    (q : List AnnotP) : ∀ (nodes : List NodeP) (tbl : List IRValue), (∀ s ∈ S, s ∈ tableNames tbl) →
    declareAll vis q nodes tbl = declareAll vis' q nodes tbl
  | [], _, _ => rfl
  | n :: ns, tbl, hS => by
    simp only [declareAll]
    rw [declareOutputs_congr hv q n.outputs tbl hS]
    cases hd : declareOutputs vis' q n.outputs tbl with
    | error e => rfl
    | ok tbl' =>
      simp only [bind, Except.bind]
      have hd' : declareOutputs vis q n.outputs tbl = .ok tbl' := by
        rw [declareOutputs_congr hv q n.outputs tbl hS]; exact hd
      exact declareAll_congr hv q ns tbl'
        (fun s hs => declareOutputs_names vis q n.outputs tbl tbl' hd' s (hS s hs))

theorem declareAll_names (vis : List ValueInfoP) (q : List AnnotP) :
    ∀ (nodes : List NodeP) (tbl tbl' : List IRValue),
    declareAll vis q nodes tbl = .ok tbl' → ∀ s ∈ tableNames tbl, s ∈ tableNames tbl'
  | [], tbl, tbl', h => by
    simp only [declareAll, Except.ok.injEq] at h
    rw [← h]; exact fun s hs => hs
  | n :: ns, tbl, tbl', h => by
    simp only [declareAll] at h
    obtain ⟨t1, hd, h⟩ := bind_eq_ok h
    intro s hs
    exact declareAll_names vis q ns t1 tbl' h s (declareOutputs_names vis q n.outputs tbl t1 hd s hs)

theorem resolve_none_lookup {sc : List String} {outer : Scopes} {n : String}
    (h : resolve (sc :: outer) n = none) : lookupLast sc n = none := by
  simp only [resolve] at h
  cases hl : lookupLast sc n with
  | none => rfl
  | some i => simp [hl] at h

theorem desNodeInputs_congr {S : List String} {vis vis' : List ValueInfoP} (hv : VisAgree S vis vis')
    (outer : Scopes) (q : List AnnotP) : ∀ (ns : List String) (tbl : List IRValue),
    (∀ s ∈ S, s ∈ tableNames tbl) →
    desNodeInputs outer vis q ns tbl = desNodeInputs outer vis' q ns tbl
  | [], _, _ => rfl
  | n :: ns, tbl, hS => by
    simp only [desNodeInputs]
    split
    · rw [desNodeInputs_congr hv outer q ns tbl hS]
    · cases hr : resolve (tableNames tbl :: outer) n with
      | some r =>
        simp only []
        rw [desNodeInputs_congr hv outer q ns tbl hS]
      | none =>
        simp only []
        have hn : n ∉ S := fun hm => lookupLast_none_not_mem (resolve_none_lookup hr) (hS _ hm)
        rw [newValue_congr q (hv _ hn)]
        cases newValue vis' q n with
        | error e => rfl
        | ok v =>
          simp only [bind, Except.bind]
          rw [desNodeInputs_congr hv outer q ns _ (by
            intro s hs; rw [tableNames_append]; exact List.mem_append_left _ (hS s hs))]

theorem desNodeInputs_names (outer : Scopes) (vis : List ValueInfoP) (q : List AnnotP) :
    ∀ (ns : List String) (tbl tbl' : List IRValue) (rs : List (Option Ref)),
    desNodeInputs outer vis q ns tbl = .ok (rs, tbl') → ∀ s ∈ tableNames tbl, s ∈ tableNames tbl'
  | [], tbl, tbl', rs, h => by
    simp only [desNodeInputs, Except.ok.injEq, Prod.mk.injEq] at h
    rw [← h.2]; exact fun s hs => hs
  | n :: ns, tbl, tbl', rs, h => by
    simp only [desNodeInputs] at h
    split at h
    · obtain ⟨⟨r1, t1⟩, hr, h⟩ := bind_eq_ok h
      simp only [Except.ok.injEq, Prod.mk.injEq] at h
      rw [← h.2]; exact desNodeInputs_names outer vis q ns tbl t1 r1 hr
    · split at h
      · obtain ⟨⟨r1, t1⟩, hr, h⟩ := bind_eq_ok h
        simp only [Except.ok.injEq, Prod.mk.injEq] at h
        rw [← h.2]; exact desNodeInputs_names outer vis q ns tbl t1 r1 hr
      · obtain ⟨v, _, h⟩ := bind_eq_ok h
        obtain ⟨⟨r1, t1⟩, hr, h⟩ := bind_eq_ok h
        simp only [Except.ok.injEq, Prod.mk.injEq] at h
        rw [← h.2]
        intro s hs
        exact desNodeInputs_names outer vis q ns _ t1 r1 hr s
          (by rw [tableNames_append]; exact List.mem_append_left _ hs)

end IrVerif.Serde
