/-
C14: IdentityEliminationPass on C05's pass model: the step of the walk (`ieNodes_cons_elim`), a zero count means the model
is returned as it is, every elimination removes a node, and the pass applied to its own result changes nothing (on
well-formed models).
-/
import IrVerif.Model.PassFlags2
import IrVerif.Lemmas.PassFlagsDeleting
import IrVerif.Lemmas.SemSyntax
import IrVerif.Lemmas.ListFacts
namespace IrVerif.PassFlags
open IrVerif.Sem IrVerif.Passes

/-- one node of the walk: it is kept, with its inputs substituted and its nested graphs processed, or it is an
    Identity `y = Identity(x)` that no keep rule protects: `y ↦ x` joins the substitution and `x` replaces `y`
    among the outputs -/
theorem ieCntNodes_cons_elim {P : IeRes → Nat → Prop} {ii loc : List VId} {σ : Subst} {outs : List VId} {op : OpId}
    {attrs : List (String × AttrData)} {ins : List (Option VId)} {nouts : List VId} {bodies : List Graph} {ns : List Node}
    (keep : P ⟨.mk op attrs (substIns σ ins) nouts (ieBodies ii σ bodies) :: (ieNodes ii loc σ outs ns).nodes,
      (ieNodes ii loc σ outs ns).outs, (ieNodes ii loc σ outs ns).σ⟩
      (ieCntBodies ii σ bodies + ieCntNodes ii loc σ outs ns))
    (elim : ∀ x y, ieCandidate op (substIns σ ins) nouts = some (x, y) →
      (outs.contains y && (ii.contains x || !loc.contains x || outs.contains x)) = false →
      P (ieNodes ii loc ((y, x) :: σ) (outs.map (fun o => if o = y then x else o)) ns)
        (1 + ieCntNodes ii loc ((y, x) :: σ) (outs.map (fun o => if o = y then x else o)) ns)) :
    P (ieNodes ii loc σ outs (.mk op attrs ins nouts bodies :: ns))
      (ieCntNodes ii loc σ outs (.mk op attrs ins nouts bodies :: ns)) := by
  cases hc : ieCandidate op (substIns σ ins) nouts with
  | none => simp only [ieNodes, ieCntNodes, hc]; exact keep
  | some p =>
    obtain ⟨x, y⟩ := p
    cases hk : (outs.contains y && (ii.contains x || !loc.contains x || outs.contains x)) with
    | true => simp only [ieNodes, ieCntNodes, hc, hk, if_true]; exact keep
    | false => simp only [ieNodes, ieCntNodes, hc, hk, Bool.false_eq_true, if_false]; exact elim x y hc hk

theorem ieNodes_cons_elim {P : IeRes → Prop} {ii loc : List VId} {σ : Subst} {outs : List VId} {op : OpId}
    {attrs : List (String × AttrData)} {ins : List (Option VId)} {nouts : List VId} {bodies : List Graph} {ns : List Node}
    (keep : P ⟨.mk op attrs (substIns σ ins) nouts (ieBodies ii σ bodies) :: (ieNodes ii loc σ outs ns).nodes,
      (ieNodes ii loc σ outs ns).outs, (ieNodes ii loc σ outs ns).σ⟩)
    (elim : ∀ x y, ieCandidate op (substIns σ ins) nouts = some (x, y) →
      (outs.contains y && (ii.contains x || !loc.contains x || outs.contains x)) = false →
      P (ieNodes ii loc ((y, x) :: σ) (outs.map (fun o => if o = y then x else o)) ns)) :
    P (ieNodes ii loc σ outs (.mk op attrs ins nouts bodies :: ns)) :=
  ieCntNodes_cons_elim (P := fun r _ => P r) keep elim

mutual
theorem ieG_cnt0 (ii : List VId) : ∀ g : Graph, ieCntG ii [] g = 0 → ieG ii [] g = g
  | .mk inputs outputs inits nodes, h => by
    simp only [ieCntG] at h
    simp only [ieG, ieNodes_cnt0 ii _ outputs nodes h]
theorem ieNodes_cnt0 (ii loc : List VId) : ∀ (outs : List VId) (ns : List Node),
    ieCntNodes ii loc [] outs ns = 0 → ieNodes ii loc [] outs ns = ⟨ns, outs, []⟩
  | _, [], _ => rfl
  | outs, .mk op attrs ins nouts bodies :: ns, h => by
    revert h
    refine ieCntNodes_cons_elim (P := fun r c => c = 0 → r = ⟨.mk op attrs ins nouts bodies :: ns, outs, []⟩)
      (fun h => ?_) (fun x y _ _ h => by omega)
    rw [substIns_nil', ieNodes_cnt0 ii loc outs ns (by omega), ieBodies_cnt0 ii bodies (by omega)]
theorem ieBodies_cnt0 (ii : List VId) : ∀ bs : List Graph, ieCntBodies ii [] bs = 0 → ieBodies ii [] bs = bs
  | [], _ => rfl
  | b :: bs, h => by
    simp only [ieCntBodies] at h
    simp only [ieBodies, ieG_cnt0 ii b (by omega), ieBodies_cnt0 ii bs (by omega)]
end

mutual
theorem ieG_nodes (ii : List VId) : ∀ (σ : Subst) (g : Graph),
    nodesG (ieG ii σ g) + ieCntG ii σ g ≤ nodesG g
  | σ, .mk inputs outputs inits nodes => by
    simp only [ieG, nodesG, ieCntG]
    exact ieNodes_nodes ii _ σ outputs nodes
theorem ieNodes_nodes (ii loc : List VId) : ∀ (σ : Subst) (outs : List VId) (ns : List Node),
    nodesNodes (ieNodes ii loc σ outs ns).nodes + ieCntNodes ii loc σ outs ns ≤ nodesNodes ns
  | _, _, [] => Nat.le_refl _
  | σ, outs, .mk op attrs ins nouts bodies :: ns => by
    have ihb := ieBodies_nodes ii σ bodies
    refine ieCntNodes_cons_elim
      (P := fun r c => nodesNodes r.nodes + c ≤ nodesNodes (.mk op attrs ins nouts bodies :: ns)) ?_ (fun x y _ _ => ?_)
    · have ih := ieNodes_nodes ii loc σ outs ns
      simp only [nodesNodes]; omega
    · have ih := ieNodes_nodes ii loc ((y, x) :: σ) (outs.map (fun o => if o = y then x else o)) ns
      simp only [nodesNodes]; omega
theorem ieBodies_nodes (ii : List VId) : ∀ (σ : Subst) (bs : List Graph),
    nodesBodies (ieBodies ii σ bs) + ieCntBodies ii σ bs ≤ nodesBodies bs
  | _, [] => Nat.le_refl _
  | σ, b :: bs => by
    have := ieG_nodes ii σ b
    have := ieBodies_nodes ii σ bs
    simp only [ieBodies, nodesBodies, ieCntBodies]; omega
end

/-- the keep rules 3 / 3b / 3c of the pass for one node, against fixed outputs and local values -/
def ieKept (ii loc outs : List VId) (op : OpId) (ins : List (Option VId)) (nouts : List VId) : Bool :=
  match ieCandidate op ins nouts with
  | some (x, y) => outs.contains y && (ii.contains x || !loc.contains x || outs.contains x)
  | none => true

mutual
/-- every Identity candidate of the nest is blocked by a keep rule -/
def ieStableG (ii : List VId) : Graph → Bool
  | .mk inputs outputs inits nodes =>
    ieStableNodes ii (inputs ++ inits.map Prod.fst ++ outsTop nodes) outputs nodes
def ieStableNodes (ii loc outs : List VId) : List Node → Bool
  | [] => true
  | .mk op _ ins nouts bodies :: ns =>
    ieKept ii loc outs op ins nouts && ieStableBodies ii bodies && ieStableNodes ii loc outs ns
def ieStableBodies (ii : List VId) : List Graph → Bool
  | [] => true
  | b :: bs => ieStableG ii b && ieStableBodies ii bs
end

mutual
theorem ieStableG_cnt0 (ii : List VId) : ∀ g : Graph, ieStableG ii g = true → ieCntG ii [] g = 0
  | .mk inputs outputs inits nodes, h => by
    simp only [ieStableG] at h
    simp only [ieCntG, ieStableNodes_cnt0 ii _ outputs nodes h]
theorem ieStableNodes_cnt0 (ii loc outs : List VId) : ∀ ns : List Node, ieStableNodes ii loc outs ns = true →
    ieCntNodes ii loc [] outs ns = 0
  | [], _ => rfl
  | .mk op attrs ins nouts bodies :: ns, h => by
    simp only [ieStableNodes, Bool.and_eq_true] at h
    obtain ⟨⟨hk, hb⟩, hn⟩ := h
    have ihb := ieStableBodies_cnt0 ii bodies hb
    have ihn := ieStableNodes_cnt0 ii loc outs ns hn
    simp only [ieCntNodes, substIns_nil']
    simp only [ieKept] at hk
    cases hc : ieCandidate op ins nouts with
    | none => simp only [ihb, ihn]
    | some p =>
      obtain ⟨x, y⟩ := p
      simp only [hc] at hk
      simp only [hk, if_true, ihb, ihn]
theorem ieStableBodies_cnt0 (ii : List VId) : ∀ bs : List Graph, ieStableBodies ii bs = true →
    ieCntBodies ii [] bs = 0
  | [], _ => rfl
  | b :: bs, h => by
    simp only [ieStableBodies, Bool.and_eq_true] at h
    simp only [ieCntBodies, ieStableG_cnt0 ii b h.1, ieStableBodies_cnt0 ii bs h.2]
end

theorem ieCandidate_some {op : OpId} {ins : List (Option VId)} {nouts : List VId} {x y : VId}
    (h : ieCandidate op ins nouts = some (x, y)) : isIdentityOp op = true ∧ ins = [some x] ∧ nouts = [y] := by
  unfold ieCandidate at h
  split at h
  · next hop =>
    split at h
    · next x' y' =>
      simp only [Option.some.injEq, Prod.mk.injEq] at h
      exact ⟨hop, by rw [h.1], by rw [h.2]⟩
    · simp at h
  · simp at h

theorem app_not_mem {σ : Subst} {D : List VId} (hJ : ∀ p ∈ σ, p.2 ∉ D) {v : VId} (hv : v ∉ D) : σ.app v ∉ D := by
  unfold Subst.app
  cases h : σ.lookup v with
  | none => simpa using hv
  | some a => simpa using hJ _ (ListFacts.mem_of_lookup h)

/-- an output that no remaining node produces stays an output -/
theorem ieNodes_outs_keep (ii loc : List VId) : ∀ (ns : List Node) (σ : Subst) (outs : List VId) (v : VId),
    v ∈ outs → v ∉ outsTop ns → v ∈ (ieNodes ii loc σ outs ns).outs
  | [], _, _, _, h, _ => h
  | .mk op attrs ins nouts bodies :: ns, σ, outs, v, h, hn => by
    have hn' : v ∉ outsTop ns := fun hm => hn (by simp [outsTop, hm])
    refine ieNodes_cons_elim (P := fun r => v ∈ r.outs) (ieNodes_outs_keep ii loc ns σ outs v h hn') (fun x y hc _ => ?_)
    apply ieNodes_outs_keep ii loc ns _ _ v _ hn'
    have hy : v ≠ y := by
      intro e
      apply hn
      rw [e, (ieCandidate_some hc).2.2]
      simp [outsTop, Node.outs]
    exact List.mem_map.2 ⟨v, h, by simp [hy]⟩

theorem ieNodes_outsTop (ii loc : List VId) : ∀ (ns : List Node) (σ : Subst) (outs : List VId) (v : VId),
    v ∈ outsTop (ieNodes ii loc σ outs ns).nodes → v ∈ outsTop ns
  | [], _, _, _, h => by simpa [ieNodes] using h
  | .mk op attrs ins nouts bodies :: ns, σ, outs, v, h => by
    revert h
    refine ieNodes_cons_elim (P := fun r => v ∈ outsTop r.nodes → v ∈ outsTop (.mk op attrs ins nouts bodies :: ns))
      (fun h => ?_) (fun x y _ _ h => ?_)
    · simp only [outsTop, Node.outs, List.mem_append] at h ⊢
      exact h.imp id (ieNodes_outsTop ii loc ns σ outs v)
    · simp only [outsTop, List.mem_append]
      exact Or.inr (ieNodes_outsTop ii loc ns _ _ v h)

theorem range_notin_defs_cons {σ : Subst} {op : OpId} {attrs : List (String × AttrData)} {ins : List (Option VId)}
    {outs : List VId} {bodies : List Graph} {ns : List Node}
    (hJ : ∀ p ∈ σ, p.2 ∉ defsNodes (.mk op attrs ins outs bodies :: ns)) :
    (∀ p ∈ σ, p.2 ∉ defsNodes ns) ∧ (∀ p ∈ σ, p.2 ∉ defsBodies bodies) ∧ (∀ p ∈ σ, p.2 ∉ outs ++ defsNodes ns) := by
  refine ⟨fun p hp hm => hJ p hp (by simp [defsNodes, hm]), fun p hp hm => hJ p hp (by simp [defsNodes, defsN, hm]),
    fun p hp hm => hJ p hp ?_⟩
  simp only [List.mem_append] at hm
  exact mem_defsNodes_cons.2 (hm.imp (fun h => mem_defsN.2 (.inl h)) id)

mutual
theorem ieG_stable (ii : List VId) : ∀ (g : Graph) (σ : Subst), ssaG g = true → noFwdG g = true →
    (∀ p ∈ σ, p.2 ∉ defsG g) → ieStableG ii (ieG ii σ g) = true
  | .mk inputs outputs inits nodes, σ, hs, hf, hJ => by
    simp only [ssaG, Bool.and_eq_true] at hs
    simp only [noFwdG] at hf
    simp only [ieG, ieStableG]
    apply ieNodes_stable ii _ _ nodes σ outputs hs.2 hf
      (fun p hp hm => hJ p hp (by simp [defsG, hm]))
    intro v hv
    simp only [List.mem_append] at hv ⊢
    exact hv.imp id (ieNodes_outsTop ii _ nodes σ outputs v)
/-- `loc'` = the values owned by the RESULT graph, a subset of those of the input graph (`loc`): the pass only removes nodes -/
theorem ieNodes_stable (ii loc loc' : List VId) : ∀ (ns : List Node) (σ : Subst) (outs : List VId),
    ssaNodes ns = true → noFwdNodes ns = true → (∀ p ∈ σ, p.2 ∉ defsNodes ns) → (∀ v ∈ loc', v ∈ loc) →
    ieStableNodes ii loc' (ieNodes ii loc σ outs ns).outs (ieNodes ii loc σ outs ns).nodes = true
  | [], _, _, _, _, _, _ => rfl
  | .mk op attrs ins nouts bodies :: ns, σ, outs, hs, hf, hJ, hl => by
    simp only [ssaNodes, ssaN, Bool.and_eq_true, disj_iff] at hs
    obtain ⟨⟨⟨hf1, hf2⟩, hfb⟩, hfn⟩ := noFwdNodes_cons_iff.1 hf
    obtain ⟨hJ', hJb, _⟩ := range_notin_defs_cons hJ
    have hbod := ieBodies_stable ii bodies σ hs.1.1.2 hfb hJb
    -- what is known about a candidate's values
    have hcand : ∀ x y, ieCandidate op (substIns σ ins) nouts = some (x, y) →
        x ∉ defsNodes (.mk op attrs ins nouts bodies :: ns) ∧ y ∉ outsTop ns := by
      intro x y hc
      obtain ⟨_, hi, ho⟩ := ieCandidate_some hc
      constructor
      · -- x = σ.app x0 for an input x0 of the node
        cases ins with
        | nil => simp [substIns] at hi
        | cons a rest =>
          cases a with
          | none => simp [substIns] at hi
          | some x0 =>
            simp only [substIns, List.map_cons, Option.map_some, List.cons.injEq, Option.some.injEq] at hi
            rw [← hi.1]
            exact app_not_mem hJ (hf1 x0 (by simp))
      · intro hm
        exact hs.1.2 y (by rw [ho]; simp [defsN]) (outsTop_sub_defsNodes ns hm)
    have keep : ieStableNodes ii loc' (ieNodes ii loc σ outs ns).outs
        (.mk op attrs (substIns σ ins) nouts (ieBodies ii σ bodies) :: (ieNodes ii loc σ outs ns).nodes) = true ↔
        ieKept ii loc' (ieNodes ii loc σ outs ns).outs op (substIns σ ins) nouts = true := by
      simp only [ieStableNodes, Bool.and_eq_true, hbod, ieNodes_stable ii loc loc' ns σ outs hs.2 hfn hJ' hl, and_true]
    -- by hand and not by `ieNodes_cons_elim`: the kept case needs to know WHICH keep rule applied
    cases hc : ieCandidate op (substIns σ ins) nouts with
    | none =>
      simp only [ieNodes, hc]
      rw [keep]; simp only [ieKept, hc]
    | some p =>
      obtain ⟨x, y⟩ := p
      obtain ⟨hx, hy⟩ := hcand x y hc
      have hx' : x ∉ outsTop ns := fun hm => hx (by simp [defsNodes, outsTop_sub_defsNodes ns hm])
      by_cases hk : (outs.contains y && (ii.contains x || !loc.contains x || outs.contains x)) = true
      · simp only [ieNodes, hc, hk, if_true]
        rw [keep]
        simp only [ieKept, hc]
        simp only [Bool.and_eq_true, Bool.or_eq_true, List.contains_iff_mem, Bool.not_eq_eq_eq_not, Bool.not_true]
          at hk ⊢
        refine ⟨ieNodes_outs_keep ii loc ns σ outs y hk.1 hy, ?_⟩
        rcases hk.2 with (h | h) | h
        · exact Or.inl (Or.inl h)
        · refine Or.inl (Or.inr ?_)
          cases hq : loc'.contains x with
          | false => rfl
          | true =>
            have hm := hl x (by simpa using hq)
            simp [hm] at h
        · exact Or.inr (ieNodes_outs_keep ii loc ns σ outs x h hx')
      · simp only [ieNodes, hc, hk, Bool.false_eq_true, if_false]
        apply ieNodes_stable ii loc loc' ns _ _ hs.2 hfn _ hl
        intro p hp
        rcases List.mem_cons.1 hp with hp | hp
        · rw [hp]; exact fun hm => hx (by simp [defsNodes, hm])
        · exact hJ' p hp
theorem ieBodies_stable (ii : List VId) : ∀ (bs : List Graph) (σ : Subst), ssaBodies bs = true →
    noFwdBodies bs = true → (∀ p ∈ σ, p.2 ∉ defsBodies bs) → ieStableBodies ii (ieBodies ii σ bs) = true
  | [], _, _, _, _ => rfl
  | b :: bs, σ, hs, hf, hJ => by
    simp only [ssaBodies, Bool.and_eq_true] at hs
    simp only [noFwdBodies, Bool.and_eq_true] at hf
    simp only [ieBodies, ieStableBodies, Bool.and_eq_true]
    exact ⟨ieG_stable ii b σ hs.1.1 hf.1 (fun p hp hm => hJ p hp (by simp [defsBodies, hm])),
      ieBodies_stable ii bs σ hs.2 hf.2 (fun p hp hm => hJ p hp (by simp [defsBodies, hm]))⟩
end

/-! ## inputs and initializers of the nest are untouched (Identity nodes hold no graphs) -/

mutual
theorem ieG_ii (ii : List VId) : ∀ (g : Graph) (σ : Subst), idNoBodiesG g = true → iiG (ieG ii σ g) = iiG g
  | .mk inputs outputs inits nodes, σ, h => by
    simp only [idNoBodiesG] at h
    simp only [ieG, iiG, ieNodes_ii ii _ nodes σ outputs h]
theorem ieNodes_ii (ii loc : List VId) : ∀ (ns : List Node) (σ : Subst) (outs : List VId),
    idNoBodiesNodes ns = true → iiNodes (ieNodes ii loc σ outs ns).nodes = iiNodes ns
  | [], _, _, _ => rfl
  | .mk op attrs ins nouts bodies :: ns, σ, outs, h => by
    simp only [idNoBodiesNodes, Bool.and_eq_true] at h
    obtain ⟨⟨h1, h2⟩, h3⟩ := h
    refine ieNodes_cons_elim (P := fun r => iiNodes r.nodes = iiNodes (.mk op attrs ins nouts bodies :: ns)) ?_
      (fun x y hc _ => ?_)
    · simp only [iiNodes, ieBodies_ii ii bodies σ h2, ieNodes_ii ii loc ns σ outs h3]
    · have hb : bodies = [] := by
        have := (ieCandidate_some hc).1
        simp only [this, Bool.not_true, Bool.false_or, List.isEmpty_iff] at h1
        exact h1
      subst hb
      simp only [iiNodes, iiBodies, List.nil_append]
      exact ieNodes_ii ii loc ns _ _ h3
theorem ieBodies_ii (ii : List VId) : ∀ (bs : List Graph) (σ : Subst), idNoBodiesBodies bs = true →
    iiBodies (ieBodies ii σ bs) = iiBodies bs
  | [], _, _ => rfl
  | b :: bs, σ, h => by
    simp only [idNoBodiesBodies, Bool.and_eq_true] at h
    simp only [ieBodies, iiBodies, ieG_ii ii b σ h.1, ieBodies_ii ii bs σ h.2]
end

theorem ie_funcs_ii (ii : List VId) : ∀ fs : List Graph, idNoBodiesBodies fs = true →
    (fs.map (ieG ii [])).flatMap iiG = fs.flatMap iiG
  | [], _ => rfl
  | f :: fs, h => by
    simp only [idNoBodiesBodies, Bool.and_eq_true] at h
    simp only [List.map_cons, List.flatMap_cons, ieG_ii ii f [] h.1, ie_funcs_ii ii fs h.2]

theorem validG_ssa_noFwd {g : Graph} (h : validG g = true) : ssaG g = true ∧ noFwdG g = true :=
  ⟨((validG_iff g).1 h).1, ((validG_iff g).1 h).2.2.1⟩

theorem ie_funcs_stable (ii : List VId) : ∀ fs : List Graph, fs.all validG = true →
    ((fs.map (ieG ii [])).map (ieCntG ii [])).sum = 0
  | [], _ => rfl
  | f :: fs, h => by
    simp only [List.all_cons, Bool.and_eq_true] at h
    have hv := validG_ssa_noFwd h.1
    have := ieStableG_cnt0 ii _ (ieG_stable ii f [] hv.1 hv.2 (by simp))
    simp only [List.map_cons, List.sum_cons, this, ie_funcs_stable ii fs h.2]

theorem ieCounted : PassInfra.Counted ieModel ieCount nodesM := by
  refine ⟨fun m h => ?_, fun m => ?_⟩
  · simp only [ieCount] at h
    have hf : m.funcs.map (ieG (iiG m.graph ++ m.funcs.flatMap iiG) []) = m.funcs :=
      map_eq_self_of_sum_zero _ _ (ieG_cnt0 _) _ (by omega)
    have h1 := ieG_cnt0 (iiG m.graph ++ m.funcs.flatMap iiG) m.graph (by omega)
    obtain ⟨g, fs⟩ := m
    simp only at h1 hf
    simp only [ieModel, h1, hf]
  · have h1 := ieG_nodes (iiG m.graph ++ m.funcs.flatMap iiG) [] m.graph
    have h2 := PassInfra.sum_map_add_le nodesG _ _ (ieG_nodes (iiG m.graph ++ m.funcs.flatMap iiG) []) m.funcs
    simp only [nodesM, ieCount, ieModel]
    omega

end IrVerif.PassFlags
