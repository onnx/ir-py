/-
Round trip of a reloadable EXTENDED model: the lock-step induction (it mirrors `rt2_graph` of
`Lemmas/ScopeReplMain.lean`) for `deserGraphE` on the proto written by `serGraphE`: the images of the emitted values
carry the source metadata / annotation (written and read once).  The core conjuncts cannot be taken from `rt2_graph`
through the erasure: `serGraphE` decides with the merged metadata whether a value gets a value_info entry
(`shouldCreateE`), so the erased proto is not what the core serializer writes.

A graph is read in phases, each of which gives an `RtEPost`: `rtE_ghead`, `rtE_body`, `rtE_outputs`, the graph object
(`rtE_graph_of_nodes`).  The induction `rtE_graph_post` .. is over the statements with the postcondition as one
conjunct; `rtE_graph` .. write it out.
-/
import IrVerif.Lemmas.ScopeExtRTBody
import IrVerif.Lemmas.ScopeExtDevTr
namespace IrVerif.Scope

theorem sig_of_zip_range (A : Assoc) (ins : List Nat) (b : Nat)
    (h : ins.map (sig A) = List.range' b ins.length) :
    ∀ v ∈ ins, ∃ i, ∃ hi : i < ins.length, ins[i] = v ∧ sig A v = b + i := by
  intro v hv
  obtain ⟨i, hi, rfl⟩ := List.getElem_of_mem hv
  refine ⟨i, hi, rfl, ?_⟩
  have h1 : (ins.map (sig A))[i]? = (List.range' b ins.length)[i]? := by rw [h]
  rw [List.getElem?_map, List.getElem?_eq_getElem hi, List.getElem?_range' (by omega)] at h1
  simp at h1
  omega

/-- the inputs are created by position, the initializers that are no input by name.  `hinfoI`, `hmetaI`, `hq`: what the
    value_info and annotation tables of the proto return for these values -/
theorem rtE_ghead (V : Nat → ValueS) (x : Ext) (td : TData) (ins : List Nat) (inits : List (Name × Nat))
    (outs : List Nat) (s : Store) (xs : Ext) (A : Assoc) (vt : List (Name × Info × SS)) (qt : List (Name × SS)) (ri : RR)
    (hri : replInits V outs (tblIns V ins) inits = ri) (hrs : RS V s A) (hfr : Fresh s) (hxf : ExtFresh s xs)
    (hins_n : ∀ v ∈ ins, (V v).name ≠ none) (hkn : (inits.map (·.1)).Nodup) (okI : ri.ok)
    (hnd : (ins ++ ri.new).Nodup) (hnew : ∀ v ∈ ins ++ ri.new, v ∉ A.map (·.1))
    (hinfoI : ∀ kv ∈ inits, kv.2 ∈ ri.new → kv.2 ∉ outs →
      initInfo (eraseVT vt) kv.1 (mkT V td kv) = (V kv.2).info.emit)
    (hmetaI : ∀ v ∈ ri.new, metaOf vt (nm V v) = normM (x.vmeta v))
    (hq : ∀ v, v ∈ ins ∨ v ∈ ri.new → quantOf qt (nm V v) = normQ (x.quant v)) :
    ∃ (s1 : Store) (x1 : Ext) (s2 : Store) (x2 : Ext) (B2 : Assoc),
      deserInputsE s xs qt (ins.map (viOfE V x)) = (s1, x1, List.range' s.nv ins.length) ∧
      inputTable ((ins.map (viOfE V x)).map VInfoE.erase) (List.range' s.nv ins.length) =
        mapT (A ++ ins.zip (List.range' s.nv ins.length)) (tblIns V ins) ∧
      deserInitsE s1 x1 (mapT (A ++ ins.zip (List.range' s.nv ins.length)) (tblIns V ins)) vt qt (inits.map (mkT V td)) =
        (s2, x2, mapT (A ++ (ins.zip (List.range' s.nv ins.length) ++ B2)) ri.tbl,
          inits.map fun kv => sig (A ++ (ins.zip (List.range' s.nv ins.length) ++ B2)) kv.2) ∧
      RtEPost V x td s xs A (ins.zip (List.range' s.nv ins.length) ++ B2) s2 x2 (ins ++ ri.new.filter (fun v => !outs.contains v))
        (ins ++ ri.new) inits ∧
      B2.map (·.1) = ri.new ∧ TblIn (A ++ (ins.zip (List.range' s.nv ins.length) ++ B2)) ri.tbl ∧
      TblM x2 (A ++ (ins.zip (List.range' s.nv ins.length) ++ B2)) vt ins ri.tbl ∧
      ins.map (sig (A ++ (ins.zip (List.range' s.nv ins.length) ++ B2))) = List.range' s.nv ins.length ∧
      ∀ kv ∈ inits, kv.2 ∈ (A ++ (ins.zip (List.range' s.nv ins.length) ++ B2)).map (·.1) := by
  subst hri
  have hbase := replInits_base V outs inits _ okI
  obtain ⟨s1, s2, B2, hc1', htbl1, hc2, k2, ge2, t2, m2, hsig2, post⟩ :=
    rt_ghead V td (eraseVT vt) outs ins inits s A hrs hfr hins_n hkn okI hnd hnew hinfoI
  have hk1 : (ins.zip (List.range' s.nv ins.length)).map (·.1) = ins := keys_zip _ _ (by simp)
  obtain ⟨hndI, _, hdisjI⟩ := List.nodup_append.mp hnd
  have hsig1 := sig_zip A ins (List.range' s.nv ins.length) (by simp) hndI
    (fun v hv => hnew v (List.mem_append_left _ hv))
  obtain ⟨_, hnv1, _⟩ := deserInputs_spec s (ins.map (viOf V))
  rw [hc1'] at hnv1
  simp only [List.length_map] at hnv1
  generalize hA1 : A ++ ins.zip (List.range' s.nv ins.length) = A1 at htbl1 hc2 hsig1
  have hinsA1 : ∀ v ∈ ins, v ∈ A1.map (·.1) := fun v hv => by
    rw [← hA1, List.map_append, hk1]; exact List.mem_append_right _ hv
  have hltA1 : ∀ v ∈ ins, sig A1 v < s1.nv := by
    intro v hv
    obtain ⟨i, hi, _, hsv⟩ := sig_of_zip_range A1 ins s.nv hsig1 v hv
    omega
  obtain ⟨x1, h1E, run1, hx1n⟩ := inputsE_bridge qt (ins.map (viOfE V x)) s xs s1 _
    (by rw [map_viOfE_erase]; exact hc1') hxf
  have hin1 : ∀ v ∈ ins, x1.vmeta (sig A1 v) = normM (x.vmeta v) ∧ x1.quant (sig A1 v) = quantOf qt (nm V v) := by
    intro v hv
    obtain ⟨i, hi, rfl, hsv⟩ := sig_of_zip_range A1 ins s.nv hsig1 v hv
    have := hx1n i (by simpa using hi)
    rw [hsv]
    simpa [viOfE, normM] using this
  obtain ⟨x2, h2E, ph2⟩ := initsE_bridge vt qt _ s1 x1 _ s2 _ _ hc2
  have ns2 := ph2.nstep (run1.extFresh hxf)
  have e : A ++ (ins.zip (List.range' s.nv ins.length) ++ B2) = A1 ++ B2 := by rw [← hA1, List.append_assoc]
  have r2 : RS V s2 (A1 ++ B2) := e ▸ post.rs
  rw [e] at h2E t2 m2 hsig2
  have hinsA2 : ∀ v ∈ ins, v ∈ (A1 ++ B2).map (·.1) := fun v hv => mem_keys_append (hinsA1 v hv)
  -- an input / an initializer value of its own after both phases
  have hIn2 : ∀ v ∈ ins, x2.vmeta (sig (A1 ++ B2) v) = normM (x.vmeta v) ∧
      x2.quant (sig (A1 ++ B2) v) = quantOf qt (nm V v) := by
    intro v hv
    rw [sig_append_of_mem (hinsA1 v hv), ns2.vmeta _ (hltA1 v hv), ns2.quant _ (hltA1 v hv)]
    exact hin1 v hv
  have hNew2 : ∀ v ∈ (replInits V outs (tblIns V ins) inits).new, v ∈ (A1 ++ B2).map (·.1) ∧
      x2.vmeta (sig (A1 ++ B2) v) = metaOf vt (nm V v) ∧ x2.quant (sig (A1 ++ B2) v) = quantOf qt (nm V v) := by
    intro v hv
    have hm2 : v ∈ (A1 ++ B2).map (·.1) := by rw [List.map_append, k2]; exact List.mem_append_right _ hv
    have hnA1 : v ∉ A1.map (·.1) := by
      rw [← hA1, List.map_append, hk1, List.mem_append]
      rintro (h | h)
      · exact hnew v (List.mem_append_right _ hv) h
      · exact hdisjI v h v hv rfl
    -- the image of a value that is no input lies beyond the images of the inputs
    have hge1 : s1.nv ≤ sig (A1 ++ B2) v := by
      have hge := ge2 _ (by
        have := sig_append_new (hnew v (List.mem_append_right _ hv))
          (show v ∈ (ins.zip (List.range' s.nv ins.length) ++ B2).map (·.1) by
            rw [List.map_append, k2]; exact List.mem_append_right _ hv)
        rw [e] at this; exact this)
      rcases Nat.lt_or_ge (sig (A1 ++ B2) v) s1.nv with hlt | hge'
      · exfalso
        have hr : sig (A1 ++ B2) v ∈ List.range' s.nv ins.length := List.mem_range'_1.mpr ⟨hge, by omega⟩
        rw [← hsig2, List.mem_map] at hr
        obtain ⟨w, hw, hsw⟩ := hr
        exact hnA1 (r2.sig_inj (hinsA2 w hw) hm2 hsw ▸ hinsA1 w hw)
      · exact hge'
    exact ⟨hm2, ns2.new_sig r2 hm2 hge1⟩
  have hrimem := replInits_tbl_mem V outs inits (tblIns V ins)
  have hmemT1 : ∀ e ∈ tblIns V ins, e.2 ∈ ins ∧ e.1 = nm V e.2 := by
    intro e he
    simp only [tblIns, List.mem_reverse, List.mem_map] at he
    obtain ⟨v, hv, rfl⟩ := he
    exact ⟨hv, rfl⟩
  have hmo : MetaOKk x x2 (A1 ++ B2)
      (ins ++ (replInits V outs (tblIns V ins) inits).new.filter (fun v => !outs.contains v)) := fun v hv => by
    rcases List.mem_append.mp hv with hv | hv
    · exact ⟨hinsA2 v hv, (hIn2 v hv).1⟩
    · obtain ⟨hv, _⟩ := List.mem_filter.mp hv
      exact ⟨(hNew2 v hv).1, by rw [(hNew2 v hv).2.1]; exact hmetaI v hv⟩
  have hqo : QuantOKk x x2 (A1 ++ B2) (ins ++ (replInits V outs (tblIns V ins) inits).new) := fun v hv => by
    rcases List.mem_append.mp hv with hv | hv
    · exact ⟨hinsA2 v hv, by rw [(hIn2 v hv).2]; exact hq v (.inl hv)⟩
    · exact ⟨(hNew2 v hv).1, by rw [(hNew2 v hv).2.2]; exact hq v (.inr hv)⟩
  -- `A1` stands for `A ++ ins.zip ..` (the association after the inputs)
  rw [← e] at hmo hqo t2 m2 hsig2 h2E
  refine ⟨s1, x1, s2, x2, B2, h1E, by rw [map_viOfE_erase]; exact htbl1, h2E,
    { toRtPost := post, run := run1.trans ph2.run, ge := ge2, metaOK := hmo, quantOK := hqo }, k2, t2, ?_, hsig2, m2⟩
  · rw [e]
    intro e' he hI
    rcases hrimem e' he with h | ⟨h, hn'⟩
    · exact absurd (hmemT1 e' h).1 hI
    · rw [← nm_of_name (hbase e' h).1]; exact (hNew2 _ hn').2.1

/-- a graph, given its nodes: what the value_info and annotation tables of the serialized graph return, then the phases
    head ; body ; outputs ; graph object, composed by `RtEPost.append` -/
theorem rtE_graph_of_nodes (V : Nat → ValueS) (x : Ext) (td : TData) (ver : Option Int) (hwf : ExtWF x)
    (gid : Nat) (ins : List Nat) (inits : List (Name × Nat)) (nodes : List NodeT) (outs : List Nat)
    (ihN : RtENodes V x td ver nodes) :
    RtEGraph V x td ver (.mk gid ins inits nodes outs) := by
  intro s xs A outer q ws hser hok hnd hext hnew hO hrs hfr hxf
  obtain ⟨qIn, seen1, qInit, seen2, nps, qNodes, vis2, ws2, qOut, seen3, rS, rfl⟩ := xserGraph_run hser
  have hn := rS.nodesE
  simp only [replG] at hok hnd hnew ⊢
  simp only [extG] at hext
  generalize hri : replInits V outs (tblIns V ins) inits = ri at hok hnd hnew hext ⊢
  generalize hrd : replDecl V ri.tbl (nodes.flatMap (liveOuts V)) = rd at hok hnd hnew hext ⊢
  generalize hrn : replNs V outer rd.tbl nodes = rn at hok hnd hnew hext ⊢
  generalize hro : replOuts V rn.tbl outs = ro at hok hnd hnew hext ⊢
  obtain ⟨hQC, hC3, hextN⟩ := hext
  obtain ⟨hins_n, hkn, okI, okD, okN, okO⟩ := hok
  rw [List.nodup_append] at hnd
  obtain ⟨hnd4, hndO, hdisjO⟩ := hnd
  rw [List.nodup_append] at hnd4
  obtain ⟨hnd3, hndN, hdisjN⟩ := hnd4
  rw [List.nodup_append] at hnd3
  obtain ⟨hnd2, hndD, hdisjD⟩ := hnd3
  have hndIR := hnd2
  rw [List.nodup_append] at hnd2
  obtain ⟨_, _, hdisjI⟩ := hnd2
  have newA : ∀ v, v ∈ ins ∨ v ∈ ri.new ∨ v ∈ rd.new ∨ v ∈ rn.new ∨ v ∈ ro.new → v ∉ A.map (·.1) :=
    fun v hv => hnew v (by
      simp only [List.mem_append]
      rcases hv with hv | hv | hv | hv | hv
      · exact .inl (.inl (.inl (.inl hv)))
      · exact .inl (.inl (.inl (.inr hv)))
      · exact .inl (.inl (.inr hv))
      · exact .inl (.inr hv)
      · exact .inr hv)
  have okI' : (replInits V outs (tblIns V ins) inits).ok := by rw [hri]; exact okI
  have hbase := replInits_base V outs inits _ okI'
  have hcases := replInits_cases V outs inits _ okI' hkn
  rw [hri] at hcases
  have okD' : (replDecl V ri.tbl (nodes.flatMap (liveOuts V))).ok := by rw [hrd]; exact okD
  obtain ⟨hdnew, _, _⟩ := replDecl_new V _ _ okD'
  rw [hrd] at hdnew
  have okO' : (replOuts V rn.tbl outs).ok := by rw [hro]; exact okO
  have htensE := xserInits_tensors V x td (ins.map fun v => (V v).name) inits
  have htens := serInits_tensors V td (ins.map fun v => (V v).name) inits (fun kv hkv => (hbase kv hkv).2.2)
  generalize hLdef : (serInitsE V x td (ins.map fun v => (V v).name) inits).1 ++ vis2 = LE at *
  generalize hQdef : qIn ++ qInit ++ qNodes ++ qOut = Q at *
  obtain ⟨hsrc, hback, hinfoI⟩ := serGraphE_vinfo V x td ver ins inits nodes outs outer nps qNodes vis2 ws2 ri rd rn LE hri hrd
    hrn hLdef hn okI hkn okD hdisjI
  have hquiet := (extNs_quietOuts V x nodes outer rd.tbl hextN).outs
  have hroleNames : ∀ v ∈ qcRoles V ins inits nodes outs, (V v).name ≠ none := by
    intro v hv
    rcases mem_qcRoles.mp hv with hv | hv | ⟨_, ht⟩ | hv
    · exact hins_n v hv
    · obtain ⟨kv, hkv, rfl⟩ := List.mem_map.mp hv
      rw [(hbase kv hkv).1]; simp
    · exact ne_none_of_truthy ht
    · exact replOuts_names V rn.tbl outs okO' v hv
  have hqOf := rS.quantOf_roles hwf hQC hquiet hroleNames (fun kv hkv => (hbase kv hkv).1)
  rw [hQdef] at hqOf
  have hrole : ∀ v, v ∈ ins ∨ v ∈ inits.map (·.2) ∨ v ∈ rd.new ∨ v ∈ outs → v ∈ qcRoles V ins inits nodes outs :=
    fun v hv => mem_qcRoles.mpr (hv.imp_right (Or.imp_right (Or.imp_left fun h => List.mem_filter.mp (hdnew ▸ h))))
  have hinitcls : ∀ kv ∈ inits, kv.2 ∈ ins ∨ kv.2 ∈ ri.new := by
    intro kv hkv
    rcases hcases kv hkv with ⟨h1, _⟩ | h
    · exact .inr h1
    · exact .inl (tblIns_lookup_some V ins _ _ h).1
  obtain ⟨s1, x1, s2, x2, B2, h1E, htbl1, h2E, P2, k2, t2, hTM2, hsig2, m2⟩ :=
    rtE_ghead V x td ins inits outs s xs A (vinfoTableE LE) (quantTable Q) ri hri hrs hfr hxf hins_n hkn okI hndIR
      (fun v hv => newA v ((List.mem_append.mp hv).imp id .inl)) hinfoI
      (fun v hv => (hback v (.inl hv)).1)
      (fun v hv => by
        rcases hv with hv | hv
        · exact hqOf v (hrole v (.inl hv))
        · have hm := replInits_new_sub V outs inits (tblIns V ins) v (by rw [hri]; exact hv)
          exact hqOf v (hrole v (.inr (.inl hm))))
  rw [← htbl1, ← htens, ← htensE] at h2E
  generalize hZ : ins.zip (List.range' s.nv ins.length) = Z at *
  have hkZ : Z.map (·.1) = ins := by rw [← hZ]; exact keys_zip _ _ (by simp)
  have hk2 : ∀ v, v ∈ (A ++ (Z ++ B2)).map (·.1) ↔ v ∈ A.map (·.1) ∨ v ∈ ins ∨ v ∈ ri.new := by
    intro v
    simp only [List.map_append, List.mem_append, hkZ, k2]
  obtain ⟨s3, x3, B3, s4, x4, nts, B4, h3E, e4, PN, k3, k4, tr4, dt4⟩ :=
    rtE_body V x td ver nodes ihN s2 x2 (A ++ (Z ++ B2)) ri.tbl outer true outs (vinfoTableE LE) (quantTable Q) ins outs
      rd.new nps qNodes vis2 ws2 rd rn hrd hrn hn okD okN hndD hndN
      (fun a ha b hb => hdisjN a (by simp [ha]) b hb) hextN
      (fun v hv hm => by
        rcases (hk2 v).mp hm with h | h | h
        · exact newA v (.inr (.inr (.inl hv))) h
        · exact hdisjD v (by simp [h]) v hv rfl
        · exact hdisjD v (by simp [h]) v hv rfl)
      (fun v hv hm => by
        rcases (hk2 v).mp hm with h | h | h
        · exact newA v (.inr (.inr (.inr (.inl hv)))) h
        · exact hdisjN v (by simp [h]) v hv rfl
        · exact hdisjN v (by simp [h]) v hv rfl)
      t2 (fun T hT => (hO T hT).append _) P2.rs P2.fresh (P2.xfresh hxf) hTM2
      (fun v hv hvo => hback v (.inr ⟨hv, hvo⟩))
      (fun v hv => ⟨hv, hqOf v (hrole v (.inr (.inr (.inl hv))))⟩)
  rw [maps_extend (Z ++ B2) hO] at e4
  have P := PN.toRtEPost
  have t4 := PN.tblIn
  have tm4 := PN.tblM
  have lq4 := PN.quiet
  have P4 := P2.append P
  generalize hB4 : Z ++ B2 ++ (B3 ++ B4) = B at P4
  have hAB : A ++ (Z ++ B2) ++ (B3 ++ B4) = A ++ B := by rw [← hB4, List.append_assoc]
  rw [hAB] at t4 tr4 tm4 lq4 dt4 e4
  -- the annotations of the values the scope binds: from the frame of the run
  have tq4 : TblQ x4 (A ++ B) (quantTable Q) rn.tbl := by
    have r0 : GraphRunE s xs (outer.map (mapT A)) (ins.map (viOfE V x))
        (serInitsE V x td (ins.map fun v => (V v).name) inits).2.1 LE nps [] Q s1 x1 _ s2 x2 _ _ s3 x3 _ s4 x4 _ nts s4 x4
        [] := ⟨h1E, h2E, h3E, e4, rfl⟩
    obtain ⟨q3, c3, l3⟩ := r0.qtable3 hxf.qfresh
    exact TblQ_iff.mpr ((deserNodesE_run e4).qtable q3 l3 c3).1
  have hk4 : ∀ v, v ∈ (A ++ B).map (·.1) ↔ v ∈ A.map (·.1) ∨ v ∈ ins ∨ v ∈ ri.new ∨ v ∈ rd.new ∨ v ∈ rn.new := by
    intro v
    rw [← hB4]
    simp only [List.map_append, List.mem_append, hkZ, k2, k3, k4, or_assoc]
  have hrdmem : ∀ e ∈ rd.tbl, e.2 ∈ ins ∨ e.2 ∈ ri.new ∨ e.2 ∈ rd.new := by
    intro e he
    rcases replDecl_tbl_mem V (nodes.flatMap (liveOuts V)) ri.tbl e (by rw [hrd]; exact he) with h1 | ⟨h1, _⟩
    · rcases replInits_tbl_mem V outs inits (tblIns V ins) e (by rw [hri]; exact h1) with h2 | ⟨_, h2⟩
      · simp only [tblIns, List.mem_reverse, List.mem_map] at h2
        obtain ⟨v, hv, rfl⟩ := h2
        exact .inl hv
      · rw [hri] at h2; exact .inr (.inl h2)
    · rw [hrd] at h1; exact .inr (.inr h1)
  obtain ⟨s5, x5, B5, h5E, P5, k5, m5, hq5, hd5, hnn5⟩ :=
    rtE_outputs V x td hwf outs s xs A B s4 x4 rn.tbl _ _ _ ro hro P4 hxf t4
      (fun e he => by
        rcases replNs_tbl_mem V outer nodes rd.tbl e (by rw [hrn]; exact he) with h | h
        · rcases hrdmem e h with h' | h' | h'
          · exact newA _ (.inl h')
          · exact newA _ (.inr (.inl h'))
          · exact newA _ (.inr (.inr (.inl h')))
        · rw [hrn] at h; exact newA _ (.inr (.inr (.inr (.inl h)))))
      okO hndO
      (fun v hv hm => by
        rcases (hk4 v).mp hm with h | h | h | h | h
        · exact newA v (.inr (.inr (.inr (.inr hv)))) h
        · exact hdisjO v (by simp [h]) v hv rfl
        · exact hdisjO v (by simp [h]) v hv rfl
        · exact hdisjO v (by simp [h]) v hv rfl
        · exact hdisjO v (by simp [h]) v hv rfl)
      (fun v hv hb => by
        by_cases hvi : v ∈ ins
        · exact .inr (P4.metaOK v (by simp [hvi])).2
        · rw [tm4 _ (ListFacts.mem_of_lookup hb) hvi]
          exact (hsrc v hb).meta_cases)
      (fun v hv hb => by
        rw [tq4 _ (ListFacts.mem_of_lookup hb)]
        exact hqOf v (hrole v (.inr (.inr (.inr hv)))))
      hC3
  have hrunE : deserGraphE s xs (outer.map (mapT A))
      (GraphE.mk (ins.map (viOfE V x)) (serInitsE V x td (ins.map fun v => (V v).name) inits).2.1 LE nps
        (outs.map (viOfE V x)) Q) =
      .ok ((mkGraph s5 (List.range' s.nv ins.length) (outs.map (sig (A ++ (B ++ B5)))) nts
            (inits.map fun kv => sig (A ++ (Z ++ B2)) kv.2)).1, x5,
          (mkGraph s5 (List.range' s.nv ins.length) (outs.map (sig (A ++ (B ++ B5)))) nts
            (inits.map fun kv => sig (A ++ (Z ++ B2)) kv.2)).2) :=
    GraphRunE.assemble ⟨h1E, h2E, h3E, e4, h5E⟩
  have hA5 : A ++ (B ++ B5) = A ++ (Z ++ B2) ++ (B3 ++ B4 ++ B5) := by
    rw [← hB4]; simp only [List.append_assoc]
  have h25 : ∀ v, v ∈ (A ++ (Z ++ B2)).map (·.1) → sig (A ++ (B ++ B5)) v = sig (A ++ (Z ++ B2)) v := fun v hv => by
    rw [hA5]; exact sig_append_of_mem hv
  have hA25 : ∀ v, v ∈ (A ++ (Z ++ B2)).map (·.1) → v ∈ (A ++ (B ++ B5)).map (·.1) := fun v hv => by
    rw [hA5]; exact mem_keys_append hv
  have hinsA2 : ∀ v ∈ ins, v ∈ (A ++ (Z ++ B2)).map (·.1) := fun v hv => (hk2 v).mpr (.inr (.inl hv))
  have hlt25 : ∀ v, v ∈ (A ++ (Z ++ B2)).map (·.1) → sig (A ++ (Z ++ B2)) v < s5.nv := fun v hv => by
    rw [← h25 v hv]; exact P5.rs.sig_lt (hA25 v hv)
  have P6 := P5.mkGraph (List.range' s.nv ins.length) (outs.map (sig (A ++ (B ++ B5)))) nts
    (inits.map fun kv => sig (A ++ (Z ++ B2)) kv.2)
    (mkGraph_fresh _ _ _ _ _ P5.fresh
      (fun d hd => by
        rw [← hsig2, List.mem_map] at hd
        obtain ⟨v, hv, rfl⟩ := hd
        exact hlt25 v (hinsA2 v hv))
      (fun d hd => by
        rw [List.mem_map] at hd
        obtain ⟨o, ho, rfl⟩ := hd
        exact P5.rs.sig_lt (m5 o ho))
      (fun d hd => by
        rw [List.mem_map] at hd
        obtain ⟨kv, hkv, rfl⟩ := hd
        exact hlt25 _ (m2 kv hkv)))
  have h45 : ∀ v, v ∈ (A ++ B).map (·.1) → sig (A ++ (B ++ B5)) v = sig (A ++ B) v := fun v hv => by
    rw [← List.append_assoc]; exact sig_append_of_mem hv
  -- the emitted values: a graph output, or a value that keeps what it carried before the outputs were read
  have hemit : ∀ v ∈ emitG V (.mk gid ins inits nodes outs),
      v ∈ (ins ++ ri.new.filter (fun v => !outs.contains v) ++ (rd.new.filter (fun v => !outs.contains v) ++
        emitSubNs V nodes)).filter (fun v => !outs.contains v) ++ outs := by
    intro v hv
    by_cases hvo : v ∈ outs
    · exact List.mem_append_right _ hvo
    · have hvo' : (!outs.contains v) = true := by simpa using hvo
      refine List.mem_append_left _ (List.mem_filter.mpr ⟨?_, hvo'⟩)
      simp only [List.mem_append, List.mem_filter]
      rcases mem_emitG.mp hv with hv | hv | ⟨hv, ht⟩ | hv | hv
      · exact .inl (.inl hv)
      · obtain ⟨kv, hkv, rfl⟩ := List.mem_map.mp hv
        rcases hinitcls kv hkv with h | h
        · exact .inl (.inl h)
        · exact .inl (.inr ⟨h, hvo'⟩)
      · exact .inr (.inl ⟨by rw [hdnew, List.mem_filter]; exact ⟨hv, ht⟩, hvo'⟩)
      · exact absurd hv hvo
      · exact .inr (.inr hv)
  refine ⟨_, x5, _, B ++ B5, hrunE, P6.lists (fun v hv => P6.infoOK v (hemit v hv)) P6.constOK
    (fun v hv => P6.metaOK v (hemit v hv)) ?_, ?_, ?_, ?_⟩
  · -- annotation of every value whose annotation the serializer looks at
    intro v hv
    rcases mem_emitQG.mp hv with hv | hv | hv | hv | hv
    · exact P6.quantOK v (by simp [hv])
    · simp only [List.mem_map] at hv
      obtain ⟨kv, hkv, rfl⟩ := hv
      rcases hinitcls kv hkv with h | h
      · exact P6.quantOK _ (by simp [h])
      · exact P6.quantOK _ (by simp [h])
    · by_cases ht : nameTruthy (V v).name = true
      · have hvl : v ∈ rd.new := by rw [hdnew, List.mem_filter]; exact ⟨hv, ht⟩
        exact P6.quantOK v (by simp [hvl])
      · have hf : nameTruthy (V v).name = false := by simpa using ht
        obtain ⟨hm, he⟩ := lq4 v hv hf
        have hxq : x.quant v = none := by
          simp only [List.mem_flatMap] at hv
          obtain ⟨n, hn', hvn'⟩ := hv
          obtain ⟨i, g, a, b, c⟩ := n
          exact hquiet _ hn' v (stripTrailing_sub V b v hvn') hf
        exact ⟨by rw [← List.append_assoc]; exact mem_keys_append hm, by rw [hq5, h45 v hm, he, hxq]; rfl⟩
    · exact P6.quantOK v (by simp [hv])
    · exact P6.quantOK v (by simp [hv])
  · rw [← hB4]
    simp only [List.map_append, hkZ, k2, k3, k4, k5, List.append_assoc]
  · rw [mkGraph_snd]
    simp only [TreeRelG]
    refine ⟨?_, fun v hv => hA25 v (hinsA2 v hv), ?_, fun kv hkv => hA25 _ (m2 kv hkv), ?_, trivial, m5⟩
    · exact ((List.map_congr_left fun v hv => h25 v (hinsA2 v hv)).trans hsig2).symm
    · have hnm : ∀ kv ∈ inits, ((s5.vals (sig (A ++ (Z ++ B2)) kv.2)).name).getD "" = kv.1 := by
        intro kv hkv
        have := P5.rs.sig_name (hA25 _ (m2 kv hkv))
        rw [h25 _ (m2 kv hkv)] at this
        rw [this, (hbase kv hkv).1]
        rfl
      rw [mkGraphInits_of_keys s5 _ _ inits _ hnm hkn]
      exact List.map_congr_left (fun kv hkv => by rw [h25 _ (m2 kv hkv)])
    · have := TreeRelNs.mono V (A ++ B) B5 nodes nts tr4
      rw [List.append_assoc] at this
      exact TreeRelNs_setGraph V _ _ nodes nts this
  · -- the trace of the device configurations
    rw [mkGraph_snd, (mkGraph_fst_counters _ _ _ _ _).2.1]
    simp only [DevTrG]
    rw [hri, hrd]
    apply DevTrNs_setGraph
    have := DevTrNs.mono (x' := x5) (hi' := s5.nn) B5 (by rw [hnn5]; exact Nat.le_refl _)
      (fun k _ => by rw [hd5]) outer rd.tbl nodes nps nts dt4
    rw [List.append_assoc] at this
    exact this

/-- a node, given its nested graphs.  Up to the node object this is the core node round trip; new: a placeholder created by
    `resolveInputs` carries the metadata of its name (`NStep.new_sig`), an empty-named output is fresh hence not
    annotated, the configurations are stored at index `s3.nn`, resolved in `mapT (A ++ B1) T1 :: outer.map (mapT A)` -/
theorem rtE_node_of_subs (V : Nat → ValueS) (x : Ext) (td : TData) (ver : Option Int)
    (i : Nat) (g : Option Nat) (ins : List (Option Nat)) (outs : List Nat) (subs : List GraphT)
    (ihS : RtESubs V x td ver subs) : RtENode V x td ver (.mk i g ins outs subs) := by
  intro s xs A T outer annot gouts vt qt I np qs vis ws hser hok hnd hext hnew hT hO hrs hfr hxf hTM
  obtain ⟨gps, ds, hs, _, _, rfl, _, _⟩ := xserNode_inv hser
  simp only [replN] at hok hnd hnew ⊢
  simp only [extN] at hext
  obtain ⟨_, hextG⟩ := hext
  obtain ⟨okR, houtn, hlook, okG⟩ := hok
  rw [List.nodup_append] at hnd
  obtain ⟨hnd12, hndG, hdisjG⟩ := hnd
  obtain ⟨B1, s1, B2, s2, e1, e2, k1, k2, ⟨r1, l1, f1, p1, g1⟩, ⟨r2, l2, f2, p2, g2⟩, hnn2, t1, hO12, m1, hnotAB1, hLkeys, _,
      hscopes⟩ := rt_nhead V (eraseVT vt) outer ins outs s A T hrs hfr hT hO okR houtn hlook hnd12
    (fun v hv => hnew v (List.mem_append_left _ hv))
  obtain ⟨x1, e1E, ph1⟩ := resolveE_bridge (outer.map (mapT A)) vt qt (ins.map (inName V)) s xs (mapT A T) s1 _ _ e1
  have ns1 := ph1.nstep hxf
  have hresmem := replRes_tbl_mem V outer ins T
  generalize hT1 : (replRes V outer T ins).tbl = T1 at *
  have hT12 : TblIn (A ++ B1 ++ B2) T1 := hO12 T1 List.mem_cons_self
  obtain ⟨s3, x3, gts, B3, e3, P3, k3, tr3, dt3⟩ :=
    ihS s2 x1 (A ++ B1 ++ B2) (T1 :: outer) gps ws hs okG hndG hextG
      (fun v hv hm => by
        rw [List.map_append, List.mem_append, k2, List.map_append, List.mem_append, k1] at hm
        rcases hm with (hm | hm) | hm
        · exact hnew v (by simp [hv]) hm
        · exact hdisjG v (by simp [hm]) v hv rfl
        · exact hdisjG v (by simp [hm]) v hv rfl)
      hO12 r2 f2 (ns1.fresh.mono l2)
  rw [hscopes] at e3
  obtain ⟨f4, trN⟩ := rt_nobj V i g ins outs subs gts s1 s2 s3 A B1 B2 B3 r1 r2 l2 P3.le P3.fresh m1 hLkeys tr3
  have hB : A ++ (B1 ++ (B2 ++ B3)) = A ++ B1 ++ B2 ++ B3 := by simp [List.append_assoc]
  have P1 : RtEPost V x td s xs A B1 s1 x1 [] [] [] :=
    .quiet r1 l1 f1 p1 ph1.run g1
  have P2 : RtEPost V x td s1 x1 (A ++ B1) B2 s2 x1 [] [] [] :=
    .quiet r2 l2 f2 p2 ⟨l2, Nat.le_of_eq hnn2.symm, .refl _⟩ g2
  have P := (P1.append (P2.append P3)).mkNode (ins.map (Option.map (sig (A ++ B1))))
    ((stripTrailing V outs).map (sig (A ++ B1 ++ B2))) gts
    (ds.map (deserDevR (mapT (A ++ B1) T1 :: outer.map (mapT A)))) f4
  have xk13 : XKeep s1.nv x1 x3 := P3.keep.weaken l2
  refine ⟨_, _,
    (mkNode s3 (ins.map (Option.map (sig (A ++ B1)))) ((stripTrailing V outs).map (sig (A ++ B1 ++ B2))) gts).2,
    B1 ++ (B2 ++ B3), ?_, ⟨P, ?_, ?_, ?_⟩, ?_, ?_, ?_⟩
  · simp only [deserNodeE, e1E, e2, e3, hB]
    rw [mapT_extend B3 hT12, mapT_extend B2 t1]
  · rw [hB]; exact hT12.append _
  · rw [hB]
    intro e he hI
    rcases hresmem e he with h | ⟨h1, h2⟩
    · have hm := hT e h
      have hsg : sig (A ++ B1 ++ B2 ++ B3) e.2 = sig A e.2 := by
        rw [List.append_assoc, List.append_assoc]; exact sig_append_of_mem hm
      rw [hsg]
      show x3.vmeta (sig A e.2) = _
      rw [xk13.vmeta _ (Nat.lt_of_lt_of_le (hrs.sig_lt hm) l1), ns1.vmeta _ (hrs.sig_lt hm)]
      exact hTM e h hI
    · -- a placeholder created by `resolveInputs`: it carries the metadata of its name
      have hB1 : e.2 ∈ B1.map (·.1) := by rw [k1]; exact h1
      have hm1 : e.2 ∈ (A ++ B1).map (·.1) := by rw [List.map_append, List.mem_append]; exact .inr hB1
      rw [List.append_assoc (A ++ B1), sig_append_of_mem hm1]
      show x3.vmeta (sig (A ++ B1) e.2) = _
      rw [xk13.vmeta _ (r1.sig_lt hm1), h2]
      exact (ns1.new_sig r1 hm1 (g1 _ (sig_append_new (hnew e.2 (by simp [h1])) hB1))).1
  · rw [hB]
    intro v hv hf
    simp only [liveOuts] at hv
    have hnt : ¬ nameTruthy (V v).name = true := by simp [hf]
    have hB2 : v ∈ B2.map (·.1) := by
      rw [k2]; exact List.mem_filter.mpr ⟨hv, by simp [hf]⟩
    have hm2 : v ∈ (A ++ B1 ++ B2).map (·.1) := hLkeys v hv
    have hmem := sig_append_new (hnotAB1 v hv hnt) hB2
    have hge := g2 _ hmem
    have hlt := r2.sig_lt hm2
    refine ⟨mem_keys_append hm2, ?_⟩
    rw [sig_append_of_mem hm2]
    show x3.quant _ = none
    rw [P3.keep.quant _ hlt]
    exact (ns1.fresh _ hge).2
  · simp [k1, k2, k3]
  · rw [hB]; exact trN
  · rw [hB, mkNode_snd, mkNode_fst_nn]
    simp only [DevTrN]
    rw [hT1]
    have e1' : mapT (A ++ B1 ++ B2 ++ B3) T1 = mapT (A ++ B1) T1 := by
      rw [List.append_assoc (A ++ B1)]; exact mapT_extend _ t1
    have e2' : outer.map (mapT (A ++ B1 ++ B2 ++ B3)) = outer.map (mapT A) := by
      rw [List.append_assoc, List.append_assoc]; exact maps_extend _ hO
    refine ⟨⟨Nat.lt_succ_self _, hT12.append _, fun T' hT' => (hO12 T' (List.mem_cons_of_mem _ hT')).append _, ?_⟩,
      DevTrGs.frame (Nat.le_succ _) (fun k hk => ?_) _ _ _ _ dt3⟩
    · rw [e1', e2']
      simp only [Ext.setDevs, if_true]
    · simp only [Ext.setDevs]
      rw [if_neg (Nat.ne_of_lt hk)]

theorem rtE_nodes_nil (V : Nat → ValueS) (x : Ext) (td : TData) (ver : Option Int) : RtENodes V x td ver [] := by
  intro s xs A T outer annot gouts vt qt I nps qs vis ws hser _u1 _u2 _u3 _u4 hT _u5 hrs hfr hxf hTM
  simp only [serNodesE, Except.ok.injEq, Prod.mk.injEq] at hser
  obtain ⟨rfl, _, _⟩ := hser
  exact ⟨s, xs, [], [], by simp [deserNodesE, replNs],
    ⟨.nil hrs hfr, by simpa [replNs] using hT, by simpa [replNs] using hTM, nofun⟩, rfl,
    by simp [TreeRelNs], by simp only [DevTrNs]⟩

/-- a node, then the rest: the postconditions compose by `RtENsPost.append`; keys, tree and trace by their `mono` -/
theorem rtE_nodes_cons (V : Nat → ValueS) (x : Ext) (td : TData) (ver : Option Int) {n : NodeT} {rest : List NodeT}
    (ihn : RtENode V x td ver n) (ihN : RtENodes V x td ver rest) : RtENodes V x td ver (n :: rest) := by
  intro s xs A T outer annot gouts vt qt I nps qs vis ws hser hok hnd hext hnew hT hO hrs hfr hxf hTM
  obtain ⟨np, q1, vi1, ws1, nps', qs', vis', ws2, h1, h2, rfl, _, _⟩ := xserNodes_inv hser
  simp only [replNs] at hok hnd hnew ⊢
  simp only [extNs] at hext
  rw [List.nodup_append] at hnd
  obtain ⟨s1, x1, n', B1, e1, P1, k1, tr1, dt1⟩ :=
    ihn s xs A T outer annot gouts vt qt I np q1 vi1 ws1 h1
      hok.1 hnd.1 hext.1 (fun v hv => hnew v (by simp [hv])) hT hO hrs hfr hxf hTM
  have hO1 : ∀ T' ∈ outer, TblIn (A ++ B1) T' := fun T' hT' => (hO T' hT').append _
  obtain ⟨s2, x2, nts, B2, e2, P2, k2, tr2, dt2⟩ :=
    ihN s1 x1 (A ++ B1) (replN V outer T n).tbl outer annot gouts vt qt I nps' qs' vis' ws2
      h2 hok.2 hnd.2.1 hext.2
      (fun v hv hm => by
        rw [List.map_append, List.mem_append, k1] at hm
        rcases hm with hm | hm
        · exact hnew v (by simp [hv]) hm
        · exact hnd.2.2 v hm v hv rfl)
      P1.tblIn hO1 P1.rs P1.fresh (P1.xfresh hxf) P1.tblM
  rw [maps_extend B1 hO] at e2
  refine ⟨s2, x2, n' :: nts, B1 ++ B2, ?_, P1.append P2, ?_, ?_, ?_⟩
  · simp only [deserNodesE, e1, e2, List.append_assoc]
  · simp [k1, k2]
  · simp only [TreeRelNs]
    rw [← List.append_assoc]
    exact ⟨TreeRelN.mono V (A ++ B1) B2 n n' tr1, tr2⟩
  · rw [← List.append_assoc]
    simp only [DevTrNs]
    exact ⟨DevTrN.mono B2 P2.nn P2.devs outer T n np n' dt1, dt2⟩

theorem rtE_subs_nil (V : Nat → ValueS) (x : Ext) (td : TData) (ver : Option Int) : RtESubs V x td ver [] := by
  intro s xs A scopes gps ws hser _u1 _u2 _u3 _u4 _u5 hrs hfr hxf
  simp only [serSubsE, Except.ok.injEq, Prod.mk.injEq] at hser
  obtain ⟨rfl, _⟩ := hser
  exact ⟨s, xs, [], [], by simp [deserSubsE], .nil hrs hfr, rfl, by simp [TreeRelGs], by simp only [DevTrGs]⟩

theorem rtE_subs_cons (V : Nat → ValueS) (x : Ext) (td : TData) (ver : Option Int) {g : GraphT} {rest : List GraphT}
    (ihG : RtEGraph V x td ver g) (ihS : RtESubs V x td ver rest) : RtESubs V x td ver (g :: rest) := by
  intro s xs A scopes gps ws hser hok hnd hext hnew hO hrs hfr hxf
  obtain ⟨gp, ws1, gps', ws2, h1, h2, rfl⟩ := xserSubs_inv hser
  simp only [replGs] at hok hnd hnew ⊢
  simp only [extGs] at hext
  rw [List.nodup_append] at hnd
  obtain ⟨s1, x1, g', B1, e1, P1, k1, tr1, dt1⟩ :=
    ihG s xs A scopes gp ws1 h1 hok.1 hnd.1 hext.1
      (fun v hv => hnew v (by simp [hv])) hO hrs hfr hxf
  have hO1 : ∀ T ∈ scopes, TblIn (A ++ B1) T := fun T hT => (hO T hT).append _
  obtain ⟨s2, x2, gts, B2, e2, P2, k2, tr2, dt2⟩ :=
    ihS s1 x1 (A ++ B1) scopes gps' ws2 h2 hok.2 hnd.2.1 hext.2
      (fun v hv hm => by
        rw [List.map_append, List.mem_append, k1] at hm
        rcases hm with hm | hm
        · exact hnew v (by simp [hv]) hm
        · exact hnd.2.2 v hm v hv rfl)
      hO1 P1.rs P1.fresh (P1.xfresh hxf)
  rw [maps_extend B1 hO] at e2
  refine ⟨s2, x2, g' :: gts, B1 ++ B2, ?_, P1.append P2, ?_, ?_, ?_⟩
  · simp only [deserSubsE, e1, e2]
  · simp [k1, k2]
  · simp only [TreeRelGs]
    rw [← List.append_assoc]
    exact ⟨TreeRelG.mono V (A ++ B1) B2 g g' tr1, tr2⟩
  · rw [← List.append_assoc]
    simp only [DevTrGs]
    exact ⟨DevTrG.mono B2 P2.nn P2.devs scopes g gp g' dt1, dt2⟩

mutual
theorem rtE_graph_post (V : Nat → ValueS) (x : Ext) (td : TData) (ver : Option Int) (hwf : ExtWF x) :
    ∀ g : GraphT, RtEGraph V x td ver g
  | .mk gid ins inits nodes outs => rtE_graph_of_nodes V x td ver hwf gid ins inits nodes outs (rtE_nodes_post V x td ver hwf nodes)
termination_by structural g => g
theorem rtE_nodes_post (V : Nat → ValueS) (x : Ext) (td : TData) (ver : Option Int) (hwf : ExtWF x) :
    ∀ nodes : List NodeT, RtENodes V x td ver nodes
  | [] => rtE_nodes_nil V x td ver
  | n :: rest => rtE_nodes_cons V x td ver (rtE_node_post V x td ver hwf n) (rtE_nodes_post V x td ver hwf rest)
termination_by structural nodes => nodes
theorem rtE_node_post (V : Nat → ValueS) (x : Ext) (td : TData) (ver : Option Int) (hwf : ExtWF x) :
    ∀ n : NodeT, RtENode V x td ver n
  | .mk i g ins outs subs => rtE_node_of_subs V x td ver i g ins outs subs (rtE_subs_post V x td ver hwf subs)
termination_by structural n => n
theorem rtE_subs_post (V : Nat → ValueS) (x : Ext) (td : TData) (ver : Option Int) (hwf : ExtWF x) :
    ∀ subs : List GraphT, RtESubs V x td ver subs
  | [] => rtE_subs_nil V x td ver
  | g :: rest => rtE_subs_cons V x td ver (rtE_graph_post V x td ver hwf g) (rtE_subs_post V x td ver hwf rest)
termination_by structural subs => subs
end

/-- the main graph: empty store, empty association, no outer scope -/
theorem rtE_graph_top {V : Nat → ValueS} {x : Ext} {td : TData} {ver : Option Int} (hwf : ExtWF x) {g : GraphT} {q : GraphE}
    {ws : Writes} (hser : serGraphE V x td ver g = .ok (q, ws)) (hok : (replG V [] g).ok) (hnd : (replG V [] g).new.Nodup)
    (hext : extG V x [] g) :
    ∃ (s' : Store) (x' : Ext) (g' : GraphT) (B : Assoc), deserGraphE {} {} [] q = .ok (s', x', g') ∧
      RtEPost V x td {} {} [] B s' x' (emitG V g) (emitQG V g) (allInitsG g) ∧ B.map (·.1) = (replG V [] g).new ∧
      TreeRelG V B g g' ∧ DevTrG V x' s'.nn B [] g q g' :=
  rtE_graph_post V x td ver hwf g {} {} [] [] q ws hser hok hnd hext (fun _ _ => by simp) nofun
    ⟨by simp, nofun, by simp, nofun⟩ (fun _ _ => rfl) extFresh_empty

theorem rtE_graph (V : Nat → ValueS) (x : Ext) (td : TData) (ver : Option Int) (hwf : ExtWF x) :
    ∀ (g : GraphT) (s : Store) (xs : Ext) (A : Assoc) (outer : List Table) (q : GraphE) (ws : Writes),
      serGraphE V x td ver g = .ok (q, ws) → (replG V outer g).ok → (replG V outer g).new.Nodup →
      extG V x outer g →
      (∀ v ∈ (replG V outer g).new, v ∉ A.map (·.1)) → (∀ T ∈ outer, TblIn A T) → RS V s A → Fresh s →
      ExtFresh s xs →
      ∃ (s' : Store) (x' : Ext) (g' : GraphT) (B : Assoc),
        deserGraphE s xs (outer.map (mapT A)) q = .ok (s', x', g') ∧ RS V s' (A ++ B) ∧ s.nv ≤ s'.nv ∧
        B.map (·.1) = (replG V outer g).new ∧ TreeRelG V (A ++ B) g g' ∧
        Fresh s' ∧ Prim s.nv s s' ∧ InfoOK2 V s' (A ++ B) (emitG V g) ∧
        ConstOK2 V td s' (A ++ B) (allInitsG g) ∧
        ExtFresh s' x' ∧ XKeep s.nv xs x' ∧ (∀ e ∈ B, s.nv ≤ e.2) ∧
        MetaOKk x x' (A ++ B) (emitG V g) ∧ QuantOKk x x' (A ++ B) (emitQG V g) ∧
        s.nn ≤ s'.nn ∧ (∀ k, k < s.nn → x'.devs k = xs.devs k) ∧ DevTrG V x' s'.nn (A ++ B) outer g q g' :=
  fun g s xs A outer q ws hser hok hnd hext hnew hO hrs hfr hxf =>
  have ⟨s', x', g', B, e, P, k, t, d⟩ := rtE_graph_post V x td ver hwf g s xs A outer q ws hser hok hnd hext hnew hO hrs hfr hxf
  ⟨s', x', g', B, e, P.rs, P.le, k, t, P.fresh, P.prim, P.infoOK, P.constOK, P.xfresh hxf, P.keep, P.ge, P.metaOK, P.quantOK,
    P.nn, P.devs, d⟩

theorem rtE_nodes (V : Nat → ValueS) (x : Ext) (td : TData) (ver : Option Int) (hwf : ExtWF x) :
    ∀ (nodes : List NodeT) (s : Store) (xs : Ext) (A : Assoc) (T : Table) (outer : List Table) (annot : Bool)
      (gouts : List Nat) (vt : List (Name × Info × SS)) (qt : List (Name × SS)) (I : List Nat)
      (nps : List NodeE) (qs : List QuantP) (vis : List VInfoE) (ws : Writes),
      serNodesE V x td ver annot gouts nodes = .ok (nps, qs, vis, ws) → (replNs V outer T nodes).ok →
      (replNs V outer T nodes).new.Nodup → extNs V x outer T nodes →
      (∀ v ∈ (replNs V outer T nodes).new, v ∉ A.map (·.1)) →
      TblIn A T → (∀ T' ∈ outer, TblIn A T') → RS V s A → Fresh s → ExtFresh s xs →
      TblQ xs A qt T → TblM xs A vt I T →
      ∃ (s' : Store) (x' : Ext) (nts : List NodeT) (B : Assoc),
        deserNodesE s xs (mapT A T) (outer.map (mapT A)) vt qt nps =
          .ok (s', x', mapT (A ++ B) (replNs V outer T nodes).tbl, nts) ∧
        RS V s' (A ++ B) ∧ s.nv ≤ s'.nv ∧ B.map (·.1) = (replNs V outer T nodes).new ∧
        TblIn (A ++ B) (replNs V outer T nodes).tbl ∧
        TreeRelNs V (A ++ B) nodes nts ∧ Fresh s' ∧ Prim s.nv s s' ∧
        InfoOK2 V s' (A ++ B) (emitSubNs V nodes) ∧
        ConstOK2 V td s' (A ++ B) (allInitsNs nodes) ∧
        ExtFresh s' x' ∧ XKeep s.nv xs x' ∧ (∀ e ∈ B, s.nv ≤ e.2) ∧
        TblQ x' (A ++ B) qt (replNs V outer T nodes).tbl ∧ TblM x' (A ++ B) vt I (replNs V outer T nodes).tbl ∧
        MetaOKk x x' (A ++ B) (emitSubNs V nodes) ∧ QuantOKk x x' (A ++ B) (emitQSubNs V nodes) ∧
        (∀ v ∈ nodes.flatMap (liveOuts V), nameTruthy (V v).name = false →
          v ∈ (A ++ B).map (·.1) ∧ x'.quant (sig (A ++ B) v) = none) ∧
        s.nn ≤ s'.nn ∧ (∀ k, k < s.nn → x'.devs k = xs.devs k) ∧ DevTrNs V x' s'.nn (A ++ B) outer T nodes nps nts :=
  fun nodes s xs A T outer annot gouts vt qt I nps qs vis ws hser hok hnd hext hnew hT hO hrs hfr hxf hTQ hTM =>
  have ⟨s', x', nts, B, e, P, k, tr, d⟩ := rtE_nodes_post V x td ver hwf nodes s xs A T outer annot gouts vt
    qt I nps qs vis ws hser hok hnd hext hnew hT hO hrs hfr hxf hTM
  ⟨s', x', nts, B, e, P.rs, P.le, k, P.tblIn, tr, P.fresh, P.prim, P.infoOK, P.constOK, P.xfresh hxf, P.keep, P.ge,
    TblQ_iff.mpr ((deserNodesE_run e).qtable hxf.qfresh (tableLt_of_RS2 hrs hT) (TblQ_iff.mp hTQ)).1, P.tblM, P.metaOK, P.quantOK, P.quiet, P.nn, P.devs, d⟩

theorem rtE_node (V : Nat → ValueS) (x : Ext) (td : TData) (ver : Option Int) (hwf : ExtWF x) :
    ∀ (n : NodeT) (s : Store) (xs : Ext) (A : Assoc) (T : Table) (outer : List Table) (annot : Bool)
      (gouts : List Nat) (vt : List (Name × Info × SS)) (qt : List (Name × SS)) (I : List Nat)
      (np : NodeE) (qs : List QuantP) (vis : List VInfoE) (ws : Writes),
      serNodeE V x td ver annot gouts n = .ok (np, qs, vis, ws) → (replN V outer T n).ok →
      (replN V outer T n).new.Nodup → extN V x outer T n →
      (∀ v ∈ (replN V outer T n).new, v ∉ A.map (·.1)) →
      TblIn A T → (∀ T' ∈ outer, TblIn A T') → RS V s A → Fresh s → ExtFresh s xs →
      TblQ xs A qt T → TblM xs A vt I T →
      ∃ (s' : Store) (x' : Ext) (n' : NodeT) (B : Assoc),
        deserNodeE s xs (mapT A T) (outer.map (mapT A)) vt qt np =
          .ok (s', x', mapT (A ++ B) (replN V outer T n).tbl, n') ∧
        RS V s' (A ++ B) ∧ s.nv ≤ s'.nv ∧ B.map (·.1) = (replN V outer T n).new ∧
        TblIn (A ++ B) (replN V outer T n).tbl ∧
        TreeRelN V (A ++ B) n n' ∧ Fresh s' ∧ Prim s.nv s s' ∧
        InfoOK2 V s' (A ++ B) (emitSubN V n) ∧
        ConstOK2 V td s' (A ++ B) (allInitsN n) ∧
        ExtFresh s' x' ∧ XKeep s.nv xs x' ∧ (∀ e ∈ B, s.nv ≤ e.2) ∧
        TblQ x' (A ++ B) qt (replN V outer T n).tbl ∧ TblM x' (A ++ B) vt I (replN V outer T n).tbl ∧
        MetaOKk x x' (A ++ B) (emitSubN V n) ∧ QuantOKk x x' (A ++ B) (emitQSubN V n) ∧
        (∀ v ∈ liveOuts V n, nameTruthy (V v).name = false →
          v ∈ (A ++ B).map (·.1) ∧ x'.quant (sig (A ++ B) v) = none) ∧
        s.nn ≤ s'.nn ∧ (∀ k, k < s.nn → x'.devs k = xs.devs k) ∧ DevTrN V x' s'.nn (A ++ B) outer T n np n' :=
  fun n s xs A T outer annot gouts vt qt I np qs vis ws hser hok hnd hext hnew hT hO hrs hfr hxf hTQ hTM =>
  have ⟨s', x', n', B, e, P, k, tr, d⟩ := rtE_node_post V x td ver hwf n s xs A T outer annot gouts vt
    qt I np qs vis ws hser hok hnd hext hnew hT hO hrs hfr hxf hTM
  ⟨s', x', n', B, e, P.rs, P.le, k, P.tblIn, tr, P.fresh, P.prim, P.infoOK, P.constOK, P.xfresh hxf, P.keep, P.ge,
    TblQ_iff.mpr ((deserNodeE_run e).qtable hxf.qfresh (tableLt_of_RS2 hrs hT) (TblQ_iff.mp hTQ)).1, P.tblM, P.metaOK, P.quantOK, P.quiet, P.nn, P.devs, d⟩

theorem rtE_subs (V : Nat → ValueS) (x : Ext) (td : TData) (ver : Option Int) (hwf : ExtWF x) :
    ∀ (subs : List GraphT) (s : Store) (xs : Ext) (A : Assoc) (scopes : List Table) (gps : List GraphE) (ws : Writes),
      serSubsE V x td ver subs = .ok (gps, ws) → (replGs V scopes subs).ok → (replGs V scopes subs).new.Nodup →
      extGs V x scopes subs →
      (∀ v ∈ (replGs V scopes subs).new, v ∉ A.map (·.1)) → (∀ T ∈ scopes, TblIn A T) → RS V s A → Fresh s →
      ExtFresh s xs →
      ∃ (s' : Store) (x' : Ext) (gts : List GraphT) (B : Assoc),
        deserSubsE s xs (scopes.map (mapT A)) gps = .ok (s', x', gts) ∧ RS V s' (A ++ B) ∧ s.nv ≤ s'.nv ∧
        B.map (·.1) = (replGs V scopes subs).new ∧ TreeRelGs V (A ++ B) subs gts ∧
        Fresh s' ∧ Prim s.nv s s' ∧ InfoOK2 V s' (A ++ B) (emitGs V subs) ∧
        ConstOK2 V td s' (A ++ B) (allInitsGs subs) ∧
        ExtFresh s' x' ∧ XKeep s.nv xs x' ∧ (∀ e ∈ B, s.nv ≤ e.2) ∧
        MetaOKk x x' (A ++ B) (emitGs V subs) ∧ QuantOKk x x' (A ++ B) (emitQGs V subs) ∧
        s.nn ≤ s'.nn ∧ (∀ k, k < s.nn → x'.devs k = xs.devs k) ∧ DevTrGs V x' s'.nn (A ++ B) scopes subs gps gts :=
  fun subs s xs A scopes gps ws hser hok hnd hext hnew hO hrs hfr hxf =>
  have ⟨s', x', gts, B, e, P, k, t, d⟩ := rtE_subs_post V x td ver hwf subs s xs A scopes gps ws hser hok hnd hext hnew hO hrs
    hfr hxf
  ⟨s', x', gts, B, e, P.rs, P.le, k, t, P.fresh, P.prim, P.infoOK, P.constOK, P.xfresh hxf, P.keep, P.ge, P.metaOK, P.quantOK,
    P.nn, P.devs, d⟩

end IrVerif.Scope
