/-
Lemmas/InlineCoh.lean — coherence of the two semantics of C05: on a graph without calls to model-local
functions, without reference attributes and with well-formed Identity nodes, the function-call semantics
(`evalGF`, Model/Inline.lean) under an interpretation `I` IS the semantics of Model/Sem.lean (`evalG`) under the
interpretation `trimI I` that ignores trailing absent arguments.
-/
import IrVerif.Lemmas.InlineSem
namespace IrVerif.Inline
open IrVerif.Sem IrVerif.Passes
variable {Val : Type}

theorem trimV_nil_of_all_none : ∀ (l : List (Option Val)), (∀ a ∈ l, a = none) → trimV l = []
  | [], _ => rfl
  | a :: rest, h => by
    have h1 : a = none := h a (by simp)
    have h2 := trimV_nil_of_all_none rest (fun b hb => h b (List.mem_cons_of_mem _ hb))
    simp [trimV, h1, h2]

/-- trimming the evaluated arguments does not see whether trailing omitted inputs were dropped before -/
theorem trimV_evalArgs_trimNone (ρ : Env Val) : ∀ ins : List (Option VId),
    trimV (evalArgs ρ (trimNone ins)) = trimV (evalArgs ρ ins)
  | [] => rfl
  | a :: rest => by
    have ih := trimV_evalArgs_trimNone ρ rest
    rw [trimNone]
    split
    · rename_i h
      simp only [Bool.and_eq_true, Option.isNone_iff_eq_none, List.isEmpty_iff] at h
      have hr : trimV (evalArgs ρ rest) = [] := by rw [← ih, h.2]; rfl
      simp only [evalArgs, List.map_nil, List.map_cons, h.1, Option.bind] at hr ⊢
      simp [trimV, hr]
    · simp only [evalArgs, List.map_cons] at ih ⊢
      simp only [trimV, ih]

theorem resolveAttrs_noRefs (α : List (String × AttrData)) : ∀ (attrs : List (String × FAttr)),
    attrs.all (fun p => match p.2 with | .val _ => true | .ref _ => false) = true →
    resolveAttrs α attrs = attrs.map (fun p => (p.1, eraseAttr p.2))
  | [], _ => rfl
  | (k, x) :: rest, h => by
    simp only [List.all_cons, Bool.and_eq_true] at h
    have ih := resolveAttrs_noRefs α rest h.2
    cases x with
    | val a =>
      simp only [resolveAttrs] at ih ⊢
      simp [resolveAttr, eraseAttr, ih]
    | ref q => simp at h

/-- one node that is not a call -/
theorem nodeResultsF_trimI (I : Interp Val) (op : OpId) (attrs : List (String × AttrData)) (outs : List VId)
    (bodies : List (BodyFn Val)) (ρ : Env Val) (ins : List (Option VId))
    (hid : (!isIdentityOp op || (trimNone ins).length == 1) = true) :
    nodeResultsF I op attrs outs bodies (trimV (evalArgs ρ ins)) =
      nodeResults (trimI I) op attrs outs bodies (evalArgs ρ (trimNone ins)) := by
  by_cases hop : isIdentityOp op = true
  · have hlen : (trimNone ins).length = 1 := by simpa [hop] using hid
    obtain ⟨o, ho⟩ : ∃ o, trimNone ins = [o] := by
      cases h : trimNone ins with
      | nil => rw [h] at hlen; cases hlen
      | cons o t =>
        cases t with
        | nil => exact ⟨o, rfl⟩
        | cons _ _ => rw [h] at hlen; simp at hlen
    rw [← trimV_evalArgs_trimNone, ho]
    simp only [evalArgs, List.map_cons, List.map_nil]
    cases hv : o.bind ρ with
    | none => simp [trimV, nodeResultsF, nodeResults, hop]
    | some a => simp [trimV, nodeResultsF, nodeResults, hop]
  · have hop' : isIdentityOp op = false := by simpa using hop
    simp only [nodeResultsF, nodeResults, hop', Bool.false_and, trimI, trimV_evalArgs_trimNone]
    rfl

mutual
theorem evalGF_pure (I : Interp Val) (Φ : FEnv Val) (α : List (String × AttrData)) :
    ∀ (g : FGraph) (ρ : Env Val), opsAllG (fun op => (Φ op).isNone) g = true → noRefsG g = true → identOKG g = true →
    evalGF I Φ α g ρ = evalG (trimI I) (eraseG g) ρ
  | .mk inputs outputs inits nodes, ρ, h1, h2, h3 => by
    simp only [opsAllG] at h1
    simp only [noRefsG] at h2
    simp only [identOKG] at h3
    funext xs
    simp only [evalGF, eraseG, evalG]
    rw [evalNodesF_pure I Φ α nodes _ h1 h2 h3]
    rfl
theorem evalNodesF_pure (I : Interp Val) (Φ : FEnv Val) (α : List (String × AttrData)) :
    ∀ (ns : List FNode) (ρ : Env Val), opsAllNodes (fun op => (Φ op).isNone) ns = true → noRefsNodes ns = true →
    identOKNodes ns = true → evalNodesF I Φ α ns ρ = evalNodes (trimI I) (eraseNodes ns) ρ
  | [], _, _, _, _ => by simp [evalNodesF, evalNodes]
  | n :: ns, ρ, h1, h2, h3 => by
    simp only [opsAllNodes, Bool.and_eq_true] at h1
    simp only [noRefsNodes, Bool.and_eq_true] at h2
    simp only [identOKNodes, Bool.and_eq_true] at h3
    simp only [evalNodesF, eraseNodes_cons, evalNodes]
    rw [evalNF_pure I Φ α n ρ h1.1 h2.1 h3.1, evalNodesF_pure I Φ α ns _ h1.2 h2.2 h3.2]
theorem evalNF_pure (I : Interp Val) (Φ : FEnv Val) (α : List (String × AttrData)) :
    ∀ (n : FNode) (ρ : Env Val), opsAllN (fun op => (Φ op).isNone) n = true → noRefsN n = true →
    identOKN n = true → evalNF I Φ α n ρ = evalN (trimI I) (eraseN n) ρ
  | .mk op attrs ins outs bodies, ρ, h1, h2, h3 => by
    simp only [opsAllN, Bool.and_eq_true, Option.isNone_iff_eq_none] at h1
    simp only [noRefsN, Bool.and_eq_true] at h2
    simp only [identOKN, Bool.and_eq_true] at h3
    simp only [evalNF, eraseN, evalN, h1.1]
    rw [resolveAttrs_noRefs α attrs h2.1, evalBodiesF_pure I Φ α bodies ρ h1.2 h2.2 h3.2,
      nodeResultsF_trimI I op _ outs _ ρ ins h3.1]
theorem evalBodiesF_pure (I : Interp Val) (Φ : FEnv Val) (α : List (String × AttrData)) :
    ∀ (bs : List FGraph) (ρ : Env Val), opsAllBodies (fun op => (Φ op).isNone) bs = true → noRefsBodies bs = true →
    identOKBodies bs = true → evalBodiesF I Φ α bs ρ = evalBodies (trimI I) (eraseBodies bs) ρ
  | [], _, _, _, _ => by simp [evalBodiesF, evalBodies]
  | b :: bs, ρ, h1, h2, h3 => by
    simp only [opsAllBodies, Bool.and_eq_true] at h1
    simp only [noRefsBodies, Bool.and_eq_true] at h2
    simp only [identOKBodies, Bool.and_eq_true] at h3
    simp only [evalBodiesF, eraseBodies_cons, evalBodies]
    rw [evalGF_pure I Φ α b ρ h1.1 h2.1 h3.1, evalBodiesF_pure I Φ α bs ρ h1.2 h2.2 h3.2]
end

/-! ## the embedding of the IR of Model/Sem.lean -/

mutual
def liftG : Graph → FGraph
  | .mk inputs outputs inits nodes => .mk inputs outputs inits (liftNodes nodes)
def liftNodes : List Node → List FNode
  | [] => []
  | n :: ns => liftN n :: liftNodes ns
def liftN : Node → FNode
  | .mk op attrs ins outs bodies => .mk op (attrs.map (fun p => (p.1, FAttr.val p.2))) ins outs (liftBodies bodies)
def liftBodies : List Graph → List FGraph
  | [] => []
  | b :: bs => liftG b :: liftBodies bs
end

mutual
theorem erase_liftG : ∀ g : Graph, eraseG (liftG g) = g
  | .mk inputs outputs inits nodes => by simp only [liftG, eraseG, erase_liftNodes nodes]
theorem erase_liftNodes : ∀ ns : List Node, eraseNodes (liftNodes ns) = ns
  | [] => by simp [liftNodes]
  | n :: ns => by simp only [liftNodes, eraseNodes_cons, erase_liftN n, erase_liftNodes ns]
theorem erase_liftN : ∀ n : Node, eraseN (liftN n) = n
  | .mk op attrs ins outs bodies => by
    simp only [liftN, eraseN, erase_liftBodies bodies, List.map_map]
    congr 1
    conv => rhs; rw [← List.map_id attrs]
    apply List.map_congr_left
    intro p _
    simp [eraseAttr]
theorem erase_liftBodies : ∀ bs : List Graph, eraseBodies (liftBodies bs) = bs
  | [] => by simp [liftBodies]
  | b :: bs => by simp only [liftBodies, eraseBodies_cons, erase_liftG b, erase_liftBodies bs]
end

mutual
theorem noRefs_liftG : ∀ g : Graph, noRefsG (liftG g) = true
  | .mk inputs outputs inits nodes => by simp only [liftG, noRefsG, noRefs_liftNodes nodes]
theorem noRefs_liftNodes : ∀ ns : List Node, noRefsNodes (liftNodes ns) = true
  | [] => by simp [liftNodes, noRefsNodes]
  | n :: ns => by simp only [liftNodes, noRefsNodes, noRefs_liftN n, noRefs_liftNodes ns, Bool.and_self]
theorem noRefs_liftN : ∀ n : Node, noRefsN (liftN n) = true
  | .mk op attrs ins outs bodies => by
    simp only [liftN, noRefsN, noRefs_liftBodies bodies, Bool.and_true, List.all_map]
    simp
theorem noRefs_liftBodies : ∀ bs : List Graph, noRefsBodies (liftBodies bs) = true
  | [] => by simp [liftBodies, noRefsBodies]
  | b :: bs => by simp only [liftBodies, noRefsBodies, noRefs_liftG b, noRefs_liftBodies bs, Bool.and_self]
end

/-- a model of the IR of Model/Sem.lean as a model without functions of the function-call IR (calls to the
    model-local functions of `m` stay what they are in Model/Sem.lean: operators interpreted by `sem`) -/
def liftModel (m : Model) : FModel := ⟨liftG m.graph, [], []⟩

theorem fenv_nil (I : Interp Val) : ∀ d, fenv I [] d = fun _ => none
  | 0 => rfl
  | d + 1 => by funext op; simp [fenv, findFunc]

end IrVerif.Inline
