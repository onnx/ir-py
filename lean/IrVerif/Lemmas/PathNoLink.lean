/-
C10 helper lemmas for the prefix walk of check 3 (D454, `noLinkPrefix` / `noLinkOn`): on an absolute,
normalised string `"/" * k ++ "c1/c2/.../cn"` the walk visits exactly the prefixes `c1..cj`; when it
succeeds with an `os.lstat` that is a restriction of the kernel's (it may fail where the kernel would
not: ENAMETOOLONG, EACCES), no prefix is a symbolic link, every proper prefix is a real directory and
the kernel resolves the string to the location it spells.  Conversely the walk succeeds on the
rendering of a chain of real directories (used by the non-vacuity examples).
-/
import IrVerif.Lemmas.PathReal
namespace IrVerif.Path

theorem lstat_absStr (fs : FS) (f : Nat) (cwd : Loc) (k : Nat) (hk : 1 ≤ k) (l : Loc) (hl : ∀ c ∈ l, '/' ∉ c) :
    lstat fs f cwd (absStr k l) = lstat fs f cwd (render l) := by
  unfold lstat; rw [kresolve_absStr_walk fs f cwd k hk l hl, kresolve_render_walk fs f cwd l hl]

/-- below something that is not a directory `os.lstat` finds nothing (ENOTDIR) -/
theorem lstat_render_snoc_notdir (fs : FS) (f : Nat) (cwd : Loc) (l : Loc) (x : Str) (hl : Chain fs l)
    (hx : Clean x) (nd : Node) (hg : fs.get l = some nd) (hnl : ∀ t, nd ≠ Node.link t) (hnd : nd ≠ Node.dir) :
    lstat fs f cwd (render (l ++ [x])) = none := by
  have hcl := clean_snoc hl.1 hx
  have hgd : fs.get l ≠ some Node.dir := by
    rw [hg]; intro e; exact hnd (Option.some.inj e)
  have hw : kresolve fs f cwd (render (l ++ [x])) false = none := by
    rw [kresolve_render_walk fs f cwd _ (fun c hc => (hcl c hc).2.2.2)]
    have hrd : RealDir fs l.dropLast := hl.realDir_dropLast
    rcases eq_nil_or_snoc l with rfl | ⟨l', y, rfl⟩
    · exact absurd fs.get_root hgd
    · simp only [List.dropLast_concat] at hrd
      have := walk_real_prefix fs f l' [] [y, x] false (by simpa using hrd)
      simp only [List.nil_append] at this
      have e : l' ++ [y] ++ [x] = l' ++ [y, x] := by simp
      rw [e, this]
      have hy : Clean y := hl.1 y (by simp)
      rw [walk_step_plain fs f l' y [x] false hrd.2 (not_special_of_clean hy).1 (not_special_of_clean hy).2
        nd hg hnl]
      exact walk_not_dir fs f (l' ++ [y]) x [] false hgd
  unfold lstat
  rw [hw]

theorem replicate_sep_all (k : Nat) : (List.replicate k '/').all (· = '/') = true := by
  simp

theorem headPart_replicate (k : Nat) : headPart (List.replicate k '/') = List.replicate k '/' := by
  unfold headPart
  have : (List.replicate k '/').reverse = List.replicate k '/' := by simp
  rw [this]
  have h2 : (List.replicate k '/').dropWhile (· ≠ '/') = List.replicate k '/' := by
    cases k with
    | zero => simp
    | succ k => simp [List.replicate_succ]
  rw [h2, this]

theorem dirname_replicate (k : Nat) : dirname (List.replicate k '/') = List.replicate k '/' := by
  unfold dirname
  rw [headPart_replicate]
  simp

theorem dirname_absStr_nil (k : Nat) : dirname (absStr k []) = absStr k [] := by
  simp [absStr, joinSep, dirname_replicate]

theorem dirname_absStr_snoc (k : Nat) (hk : 1 ≤ k) (l : Loc) (x : Str) (hl : ∀ c ∈ l, Clean c) (hx : Clean x) :
    dirname (absStr k (l ++ [x])) = absStr k l := by
  obtain ⟨j, rfl⟩ : ∃ j, k = j + 1 := ⟨k - 1, by omega⟩
  by_cases hne : l = []
  · subst hne
    have e : absStr (j + 1) ([] ++ [x]) = List.replicate j '/' ++ '/' :: x := by
      simp [absStr, joinSep, List.replicate_succ']
    rw [e]
    unfold dirname
    rw [headPart_append _ x hx.2.2.2]
    have e2 : List.replicate j '/' ++ ['/'] = List.replicate (j + 1) '/' := by simp [List.replicate_succ']
    rw [e2]
    simp [absStr, joinSep]
  · have e : absStr (j + 1) (l ++ [x]) = (List.replicate (j + 1) '/' ++ joinSep l) ++ '/' :: x := by
      unfold absStr
      rw [joinSep_append_singleton l x hne]
      simp
    rw [e, dirname_append _ x hx.2.2.2 (by simp [List.replicate_succ])]
    · rfl
    · obtain ⟨l', y, rfl⟩ := (eq_nil_or_snoc l).resolve_left hne
      have hy : Clean y := hl y (by simp)
      by_cases hl' : l' = []
      · subst hl'
        simp only [List.nil_append, joinSep]
        exact endsWithSep_append_piece _ y hy.piece
      · rw [joinSep_append_singleton l' y hl']
        have : List.replicate (j + 1) '/' ++ (joinSep l' ++ '/' :: y) =
            (List.replicate (j + 1) '/' ++ joinSep l' ++ ['/']) ++ y := by simp
        rw [this]
        exact endsWithSep_append_piece _ y hy.piece

theorem absStr_snoc_ne (k : Nat) (l : Loc) (x : Str) (hx : Clean x) (hl : ∀ c ∈ l, Clean c) :
    absStr k l ≠ absStr k (l ++ [x]) := by
  intro e
  have h := congrArg comps e
  unfold absStr at h
  rw [comps_replicate_sep, comps_replicate_sep, comps_joinSep l hl, comps_joinSep (l ++ [x]) (clean_snoc hl hx)] at h
  have := congrArg List.length h
  simp at this

/-- a restriction of the kernel's `os.lstat`: it may fail where the kernel would not (ENAMETOOLONG,
EACCES), but what it returns is what the kernel returns -/
def LstatRestr (fs : FS) (f : Nat) (cwd : Loc) (lst : Str → Option Node) : Prop :=
  ∀ p nd, lst p = some nd → lstat fs f cwd p = some nd

theorem lstatRestr_self (fs : FS) (f : Nat) (cwd : Loc) : LstatRestr fs f cwd (lstat fs f cwd) :=
  fun _ _ h => h

theorem noLinkPrefix_step {lst : Str → Option Node} {p : Str} {nd : Node} (h : lst p = some nd)
    (hnl : ∀ t, nd ≠ Node.link t) (n : Nat) :
    noLinkPrefix lst (n + 1) p = if dirname p = p then true else noLinkPrefix lst n (dirname p) := by
  rw [noLinkPrefix, h]
  cases nd with
  | link t => exact absurd rfl (hnl t)
  | _ => rfl

/-- **soundness of the prefix walk**: with any restriction of the kernel's `os.lstat`, a successful
walk over `"/" * k ++ "c1/.../cn"` shows that c1, c1/c2, ... are real directories and c1/.../cn is not a
symbolic link -/
theorem noLinkPrefix_sound (fs : FS) (f : Nat) (cwd : Loc) (lst : Str → Option Node)
    (hr : LstatRestr fs f cwd lst) (k : Nat) (hk : 1 ≤ k) :
    ∀ (m : Nat) (l : Loc), l.length = m → (∀ c ∈ l, Clean c) → ∀ n,
      noLinkPrefix lst n (absStr k l) = true → RealLoc fs l := by
  intro m
  induction m with
  | zero =>
    intro l hlen _ n _
    have : l = [] := List.length_eq_zero_iff.mp hlen
    subst this
    exact ⟨(RealDir.root fs).1, Node.dir, fs.get_root, Node.dir_ne_link⟩
  | succ m ih =>
    intro l hlen hcl n h
    obtain ⟨l', x, rfl⟩ := (eq_nil_or_snoc l).resolve_left (by rintro rfl; simp at hlen)
    have hl' : ∀ c ∈ l', Clean c := fun c hc => hcl c (by simp [hc])
    have hx : Clean x := hcl x (by simp)
    have hlen' : l'.length = m := by simp at hlen; omega
    cases n with
    | zero => simp [noLinkPrefix] at h
    | succ n =>
      cases hls : lst (absStr k (l' ++ [x])) with
      | none => simp [noLinkPrefix, hls] at h
      | some nd =>
        have hnl : ∀ t, nd ≠ Node.link t := by
          intro t e; subst e; simp [noLinkPrefix, hls] at h
        have hrest : noLinkPrefix lst n (absStr k l') = true := by
          have hd := dirname_absStr_snoc k hk l' x hl' hx
          have hne : dirname (absStr k (l' ++ [x])) ≠ absStr k (l' ++ [x]) := by
            rw [hd]; exact absStr_snoc_ne k l' x hx hl'
          rw [noLinkPrefix_step hls hnl, if_neg hne, hd] at h; exact h
        obtain ⟨hchain, nd', hg', hnl'⟩ := ih l' hlen' hl' n hrest
        have hk1 := hr _ _ hls
        rw [lstat_absStr fs f cwd k hk _ (fun c hc => (hcl c hc).2.2.2)] at hk1
        have hdir : nd' = Node.dir := by
          apply Classical.byContradiction
          intro hnd
          rw [lstat_render_snoc_notdir fs f cwd l' x hchain hx nd' hg' hnl' hnd] at hk1
          exact absurd hk1 (by simp)
        subst hdir
        have hrd : RealDir fs l' := ⟨hchain, hg'⟩
        rw [lstat_render_snoc fs f cwd l' x hrd hx] at hk1
        exact ⟨Chain.snoc hrd hx, nd, hk1, hnl⟩

theorem kresolve_of_realLoc (fs : FS) (f : Nat) (cwd : Loc) (k : Nat) (hk : 1 ≤ k) (l : Loc)
    (h : RealLoc fs l) : kresolve fs f cwd (absStr k l) true = some l := by
  rw [kresolve_absStr_walk fs f cwd k hk l (fun c hc => (h.1.1 c hc).2.2.2),
    ← kresolve_render_walk fs f cwd l (fun c hc => (h.1.1 c hc).2.2.2)]
  exact kresolve_render fs f cwd l h

/-- **completeness of the prefix walk**: with an `os.lstat` that agrees with the kernel's on the prefixes
of the rendering of a location reached through real directories that is not a symbolic link, the walk
passes -/
theorem noLinkPrefix_complete' (fs : FS) (f : Nat) (cwd : Loc) (lst : Str → Option Node) :
    ∀ (m : Nat) (l : Loc), l.length = m → RealLoc fs l →
      (∀ j, j ≤ l.length → lst (render (l.take j)) = lstat fs f cwd (render (l.take j))) → ∀ n, m < n →
      noLinkPrefix lst n (render l) = true := by
  intro m
  induction m with
  | zero =>
    intro l hlen _ hag n hn
    have : l = [] := List.length_eq_zero_iff.mp hlen
    subst this
    obtain ⟨n', rfl⟩ : ∃ n', n = n' + 1 := ⟨n - 1, by omega⟩
    rw [noLinkPrefix]
    have hl : lstat fs f cwd (render []) = some Node.dir := by
      unfold lstat
      rw [kresolve_render_walk fs f cwd [] (by simp), walk_nil]
      simp [fs.get_root]
    have hd : dirname (render []) = render [] := by
      have := dirname_absStr_nil 1
      rwa [absStr_one] at this
    have h0 := hag 0 (by simp)
    simp only [List.take_zero] at h0
    simp [h0, hl, hd]
  | succ m ih =>
    intro l hlen h hag n hn
    obtain ⟨l', x, rfl⟩ := (eq_nil_or_snoc l).resolve_left (by rintro rfl; simp at hlen)
    obtain ⟨hc, nd, hg, hnl⟩ := h
    have hrd : RealDir fs l' := by simpa using hc.realDir_dropLast
    have hx : Clean x := hc.1 x (by simp)
    have hlen' : l'.length = m := by simp at hlen; omega
    obtain ⟨n', rfl⟩ : ∃ n', n = n' + 1 := ⟨n - 1, by omega⟩
    have hfull := hag (l' ++ [x]).length (Nat.le_refl _)
    rw [List.take_length] at hfull
    have hd : dirname (render (l' ++ [x])) = render l' := by
      have := dirname_absStr_snoc 1 (Nat.le_refl 1) l' x hrd.1.1 hx
      rwa [absStr_one, absStr_one] at this
    have hne : render l' ≠ render (l' ++ [x]) := by
      have := absStr_snoc_ne 1 l' x hx hrd.1.1
      rwa [absStr_one, absStr_one] at this
    have hrec := ih l' hlen' ⟨hrd.1, Node.dir, hrd.2, Node.dir_ne_link⟩
      (by
        intro j hj
        have := hag j (by simp; omega)
        rwa [List.take_append_of_le_length hj] at this) n' (by omega)
    rw [noLinkPrefix_step (hfull.trans ((lstat_render_snoc fs f cwd l' x hrd hx).trans hg)) hnl, hd, if_neg hne]
    exact hrec

theorem noLinkPrefix_complete (fs : FS) (f : Nat) (cwd : Loc) :
    ∀ (m : Nat) (l : Loc), l.length = m → RealLoc fs l → ∀ n, m < n →
      noLinkPrefix (lstat fs f cwd) n (render l) = true :=
  fun m l hlen h n hn => noLinkPrefix_complete' fs f cwd _ m l hlen h (fun _ _ => rfl) n hn

theorem length_le_joinSep (l : Loc) (hcl : ∀ c ∈ l, Clean c) : l.length ≤ (joinSep l).length := by
  induction l with
  | nil => simp
  | cons a t ih =>
    have ha : a ≠ [] := (hcl a (by simp)).1
    have hpos : 1 ≤ a.length := by
      cases a with
      | nil => exact absurd rfl ha
      | cons _ _ => simp
    cases t with
    | nil => simp [joinSep]; omega
    | cons b t' =>
      have := ih (fun c hc => hcl c (by simp [hc]))
      simp only [joinSep, List.length_append, List.length_cons] at this ⊢
      omega

/-- the general form: any `lst` that agrees with the kernel's `os.lstat` on the prefixes -/
theorem noLinkOn_complete' (fs : FS) (f : Nat) (cwd : Loc) (lst : Str → Option Node) (l : Loc) (h : RealLoc fs l)
    (hag : ∀ j, j ≤ l.length → lst (render (l.take j)) = lstat fs f cwd (render (l.take j))) :
    noLinkOn lst (render l) = true := by
  unfold noLinkOn
  refine noLinkPrefix_complete' fs f cwd lst l.length l rfl h hag _ ?_
  have := length_le_joinSep l h.1.1
  simp [render]; omega

theorem noLinkOn_complete (fs : FS) (f : Nat) (cwd : Loc) (l : Loc) (h : RealLoc fs l) :
    noLinkOn (lstat fs f cwd) (render l) = true :=
  noLinkOn_complete' fs f cwd _ l h (fun _ _ => rfl)

/-- the answers of `os.path.realpath` are absolute normal forms (given an absolute `os.getcwd()`) -/
theorem abspath_absStr (cwdS p : Str) (hcwd : isabs cwdS = true) :
    ∃ k, 1 ≤ k ∧ abspath cwdS p = absStr k (comps (abspath cwdS p)) ∧
      ∀ c ∈ comps (abspath cwdS p), Clean c := by
  have ha := isabs_abspath_arg cwdS p hcwd
  refine ⟨(splitroot (if isabs p then p else pjoin cwdS p)).1, ?_, ?_, ?_⟩
  · have := splitroot_abs _ ha; omega
  · unfold abspath
    rw [comps_normpath_abs _ ha]
    exact normpath_abs _ ha
  · exact comps_abspath_clean cwdS p hcwd

/-- `noLinkPrefix_sound` for an answer of `os.path.realpath`: the kernel resolves it to the location it spells -/
theorem noLinkOn_abspath_sound (fs : FS) (f : Nat) (cwd : Loc) (lst : Str → Option Node)
    (hr : LstatRestr fs f cwd lst) (cwdS : Str) (hcwd : isabs cwdS = true) (q : Str)
    (h : noLinkOn lst (abspath cwdS q) = true) :
    RealLoc fs (comps (abspath cwdS q)) ∧
      kresolve fs f cwd (abspath cwdS q) true = some (comps (abspath cwdS q)) := by
  obtain ⟨k, hk1, hform, hclean⟩ := abspath_absStr cwdS q hcwd
  generalize abspath cwdS q = s at *
  have hrl : RealLoc fs (comps s) := by
    refine noLinkPrefix_sound fs f cwd lst hr k hk1 _ (comps s) rfl hclean (s.length + 1) ?_
    rw [← hform]; exact h
  refine ⟨hrl, ?_⟩
  have := kresolve_of_realLoc fs f cwd k hk1 (comps s) hrl
  rwa [← hform] at this

/-- the same for a string the driver found canonical (`linkFreeAnswer`: "/" + its clean components), with no word on
`os.getcwd()` -/
theorem noLinkOn_linkfree_sound (fs : FS) (f : Nat) (cwd : Loc) (lst : Str → Option Node)
    (hr : LstatRestr fs f cwd lst) (s : Str) (hlf : linkFreeAnswer fs s = true) (h : noLinkOn lst s = true)
    (l : Loc) (hk : kresolve fs f cwd s true = some l) : l = comps s ∧ Chain fs l := by
  unfold linkFreeAnswer at hlf
  simp only [Bool.and_eq_true, decide_eq_true_eq, List.all_eq_true] at hlf
  have hs : s = absStr 1 (comps s) := by rw [absStr_one]; exact hlf.1.1
  have hrl : RealLoc fs (comps s) :=
    noLinkPrefix_sound fs f cwd lst hr 1 (Nat.le_refl 1) _ (comps s) rfl (fun c hc => cleanB_clean c (hlf.1.2 c hc))
      (s.length + 1) (by rw [← hs]; exact h)
  have := kresolve_of_realLoc fs f cwd 1 (Nat.le_refl 1) (comps s) hrl
  rw [← hs, hk] at this
  cases this
  exact ⟨rfl, hrl.1⟩

end IrVerif.Path
