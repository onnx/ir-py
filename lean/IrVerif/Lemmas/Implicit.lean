/-
Lemmas/Implicit.lean — the implicit-usage analysis (`analyze_implicit_usage`, model functions
`procN/procGs/procG/procNs/analyze` of Model/Extract) records for a nested graph exactly its captured values:
the capture analysis that `C18_captures_exact` uses.
-/
import IrVerif.Lemmas.Extract
import IrVerif.Lemmas.ListFacts
namespace IrVerif.Extract

/-- `x` is recorded for graph `k` -/
def Usages.Has (u : Usages) (k : GId) (x : VId) : Prop := ∃ vs, u.lookup k = some vs ∧ x ∈ vs
def Usages.HasKey (u : Usages) (k : GId) : Prop := ∃ vs, u.lookup k = some vs

theorem or_exists_cons {α : Type} {A : Prop} {P : α → Prop} {b : α} {bs : List α} :
    ((A ∨ P b) ∨ ∃ c, c ∈ bs ∧ P c) ↔ A ∨ ∃ c, c ∈ b :: bs ∧ P c := by
  simp only [List.mem_cons]
  constructor
  · rintro ((h | h) | ⟨c, hc, h⟩)
    · exact Or.inl h
    · exact Or.inr ⟨b, Or.inl rfl, h⟩
    · exact Or.inr ⟨c, Or.inr hc, h⟩
  · rintro (h | ⟨c, (rfl | hc), h⟩)
    · exact Or.inl (Or.inl h)
    · exact Or.inl (Or.inr h)
    · exact Or.inr ⟨c, hc, h⟩

theorem mem_addSet {xs : List Nat} {x y : Nat} : y ∈ addSet xs x ↔ y ∈ xs ∨ y = x := by
  unfold addSet
  by_cases h : x ∈ xs
  · simp only [h, if_true]
    constructor
    · exact Or.inl
    · rintro (h' | rfl)
      · exact h'
      · exact h
  · simp [h]

theorem lookup_add (u : Usages) (g : GId) (v : VId) (k : GId) :
    (u.add g v).lookup k = (u.lookup k).map (fun vs => if k = g then addSet vs v else vs) := by
  unfold Usages.add
  induction u with
  | nil => simp
  | cons e t ih =>
    obtain ⟨a, b⟩ := e
    simp only [List.map_cons]
    by_cases hag : a = g
    · subst hag
      simp only [BEq.rfl, if_true]
      by_cases hk : k = a
      · subst hk; simp
      · have : (k == a) = false := by simpa using hk
        simp only [List.lookup_cons, this]
        exact ih
    · have hag' : (a == g) = false := by simpa using hag
      simp only [hag', Bool.false_eq_true, if_false]
      by_cases hk : k = a
      · subst hk; simp [hag]
      · have : (k == a) = false := by simpa using hk
        simp only [List.lookup_cons, this]
        exact ih

theorem has_add {u : Usages} {g : GId} {v : VId} {k : GId} {x : VId} :
    (u.add g v).Has k x ↔ u.Has k x ∨ (x = v ∧ k = g ∧ u.HasKey g) := by
  unfold Usages.Has Usages.HasKey
  rw [lookup_add]
  cases hl : u.lookup k with
  | none =>
    simp only [Option.map_none, reduceCtorEq, false_and, exists_false, false_or]
    constructor
    · intro h; cases h
    · rintro ⟨_, rfl, vs, h⟩; rw [hl] at h; cases h
  | some vs =>
    simp only [Option.map_some, Option.some.injEq, exists_eq_left']
    by_cases hk : k = g
    · subst hk
      simp only [if_true, mem_addSet, hl, Option.some.injEq, exists_eq', and_true]
    · simp only [hk, if_false, false_and, and_false, or_false]

theorem hasKey_add {u : Usages} {g : GId} {v : VId} {k : GId} :
    (u.add g v).HasKey k ↔ u.HasKey k := by
  unfold Usages.HasKey
  rw [lookup_add]
  cases u.lookup k <;> simp

theorem any_key_iff (u : Usages) (g : GId) :
    u.any (fun kv => kv.1 == g) = true ↔ u.HasKey g := by
  unfold Usages.HasKey
  induction u with
  | nil => simp
  | cons e t ih =>
    obtain ⟨a, b⟩ := e
    by_cases h : g = a
    · subst h; simp
    · have h1 : (g == a) = false := by simpa using h
      have h2 : (a == g) = false := by simpa using (fun e : a = g => h e.symm)
      simp only [List.any_cons, h2, Bool.false_or, List.lookup_cons, h1]
      exact ih

theorem lookup_none_of_not_any {u : Usages} {g : GId} (h : ¬u.any (fun kv => kv.1 == g) = true) :
    u.lookup g = none := by
  cases hl : u.lookup g with
  | none => rfl
  | some vs => exact absurd ((any_key_iff u g).mpr ⟨vs, hl⟩) h

theorem lookup_append_new (u : Usages) (g k : GId) (h : u.lookup g = none) :
    (u ++ [(g, [])]).lookup k = if k = g then some [] else u.lookup k := by
  induction u with
  | nil =>
    by_cases hk : k = g
    · subst hk; simp
    · have : (k == g) = false := by simpa using hk
      simp [List.lookup_cons, this, hk]
  | cons e t ih =>
    obtain ⟨a, b⟩ := e
    by_cases hga : g = a
    · subst hga; simp at h
    · have h1 : (g == a) = false := by simpa using hga
      simp only [List.lookup_cons, h1] at h
      by_cases hka : k = a
      · subst hka
        have : ¬ k = g := fun e => hga e.symm
        simp [this]
      · have h2 : (k == a) = false := by simpa using hka
        simp only [List.cons_append, List.lookup_cons, h2]
        exact ih h

theorem has_addKey {u : Usages} {g k : GId} {x : VId} : (u.addKey g).Has k x ↔ u.Has k x := by
  unfold Usages.addKey
  by_cases h : u.any (fun kv => kv.1 == g) = true
  · simp [h]
  · simp only [h, Bool.false_eq_true, if_false]
    have hn := lookup_none_of_not_any h
    unfold Usages.Has
    rw [lookup_append_new u g k hn]
    by_cases hk : k = g
    · subst hk; simp [hn]
    · simp [hk]

theorem hasKey_addKey {u : Usages} {g k : GId} : (u.addKey g).HasKey k ↔ u.HasKey k ∨ k = g := by
  unfold Usages.addKey
  by_cases h : u.any (fun kv => kv.1 == g) = true
  · simp only [h, if_true]
    have := (any_key_iff u g).mp h
    constructor
    · exact Or.inl
    · rintro (h' | rfl)
      · exact h'
      · exact this
  · simp only [h, Bool.false_eq_true, if_false]
    have hn := lookup_none_of_not_any h
    unfold Usages.HasKey
    rw [lookup_append_new u g k hn]
    by_cases hk : k = g
    · subst hk; simp
    · simp [hk]

/-- the graphs on `chain` (innermost first) that lie strictly inside the graph owning `v` -/
def AddsTo (W : World) (chain : List GId) (v : VId) (k : GId) : Prop :=
  k ∈ chain.takeWhile (fun g => !(W.graphOf v == some g))

theorem addsTo_cons {W : World} {g : GId} {chain : List GId} {v : VId} {k : GId} :
    AddsTo W (g :: chain) v k ↔ W.graphOf v ≠ some g ∧ (k = g ∨ AddsTo W chain v k) := by
  unfold AddsTo
  by_cases hg : W.graphOf v = some g
  · simp [hg]
  · have : (!(W.graphOf v == some g)) = true := by simpa using hg
    simp only [List.takeWhile_cons, this, if_true, List.mem_cons, ne_eq, hg, not_false_eq_true, true_and]

theorem addChain_keys {W : World} {v : VId} {k : GId} : ∀ (chain : List GId) (u : Usages),
    (addChain W v chain u).HasKey k ↔ u.HasKey k
  | [], u => by simp [addChain]
  | g :: gs, u => by
    unfold addChain
    by_cases h : (W.graphOf v == some g) = true
    · simp [h]
    · simp only [h, Bool.false_eq_true, if_false]
      rw [addChain_keys gs, hasKey_add]

theorem addChain_has {W : World} {v : VId} {k : GId} {x : VId} : ∀ (chain : List GId) (u : Usages),
    (∀ g, g ∈ chain → u.HasKey g) →
    ((addChain W v chain u).Has k x ↔ u.Has k x ∨ (x = v ∧ AddsTo W chain v k))
  | [], u, _ => by simp [addChain, AddsTo]
  | g :: gs, u, hk => by
    unfold addChain AddsTo
    by_cases h : (W.graphOf v == some g) = true
    · simp [h]
    · simp only [h, Bool.false_eq_true, if_false]
      have hk' : ∀ g', g' ∈ gs → (u.add g v).HasKey g' :=
        fun g' hg' => hasKey_add.mpr (hk g' (List.mem_cons_of_mem _ hg'))
      rw [addChain_has gs (u.add g v) hk', has_add]
      have hg : u.HasKey g := hk g List.mem_cons_self
      have hb : (!(W.graphOf v == some g)) = true := by simpa using h
      simp only [List.takeWhile_cons, hb, if_true, List.mem_cons, AddsTo]
      constructor
      · rintro ((h1 | ⟨rfl, rfl, _⟩) | ⟨rfl, h2⟩)
        · exact Or.inl h1
        · exact Or.inr ⟨rfl, Or.inl rfl⟩
        · exact Or.inr ⟨rfl, Or.inr h2⟩
      · rintro (h1 | ⟨rfl, (rfl | h2)⟩)
        · exact Or.inl (Or.inl h1)
        · exact Or.inl (Or.inr ⟨rfl, rfl, hg⟩)
        · exact Or.inr ⟨rfl, h2⟩

theorem collectNode_eq (W : World) (sub : GId) (inner : List GId) (root : GId) (n : NodeT) (u : Usages) :
    collectNode W sub (sub :: (inner ++ [root])) n u
      = n.ins.foldl (fun u v => addChain W v (sub :: inner) u) u := by
  unfold collectNode
  have hd : (sub :: (inner ++ [root])).dropLast = sub :: inner := by
    rw [← List.cons_append, List.dropLast_concat]
  rw [hd]
  congr 1
  funext u v
  by_cases h : (W.graphOf v == some sub) = true
  · simp [h, addChain]
  · simp [h]

theorem foldl_addChain_keys {W : World} {chain : List GId} {k : GId} (ins : List VId) (u : Usages) :
    (ins.foldl (fun u v => addChain W v chain u) u).HasKey k ↔ u.HasKey k :=
  ListFacts.foldl_inv (fun x : Usages => x.HasKey k ↔ u.HasKey k) _ (fun x _ h => (addChain_keys chain x).trans h) ins u
    Iff.rfl

theorem foldl_addChain_has {W : World} {chain : List GId} {k : GId} {x : VId} :
    ∀ (ins : List VId) (u : Usages), (∀ g, g ∈ chain → u.HasKey g) →
    ((ins.foldl (fun u v => addChain W v chain u) u).Has k x ↔
      u.Has k x ∨ (x ∈ ins ∧ AddsTo W chain x k))
  | [], u, _ => by simp
  | v :: vs, u, hk => by
    simp only [List.foldl_cons]
    have hk' : ∀ g, g ∈ chain → (addChain W v chain u).HasKey g :=
      fun g hg => (addChain_keys chain u).mpr (hk g hg)
    rw [foldl_addChain_has vs _ hk', addChain_has chain u hk]
    simp only [List.mem_cons]
    constructor
    · rintro ((h | ⟨rfl, h⟩) | ⟨h1, h2⟩)
      · exact Or.inl h
      · exact Or.inr ⟨Or.inl rfl, h⟩
      · exact Or.inr ⟨Or.inr h1, h2⟩
    · rintro (h | ⟨(rfl | h1), h2⟩)
      · exact Or.inl (Or.inl h)
      · exact Or.inl (Or.inr ⟨rfl, h2⟩)
      · exact Or.inr ⟨h1, h2⟩

/-- declarative reading of what processing the graph attribute `b` records: `inner` are the nested graphs
    enclosing `b` (innermost first, the analysed root excluded).  A value used by a node of a graph `c`
    reached from `b` is recorded for the graphs on the path from `c` outwards, up to (excluding) the graph
    that owns the value. -/
inductive CapG (W : World) : List GId → GraphT → GId → VId → Prop
  | here {inner : List GId} {b : GraphT} {n : NodeT} {k : GId} {v : VId} :
      n ∈ b.nodes → some v ∈ n.inputs → AddsTo W (b.gid :: inner) v k → CapG W inner b k v
  | deeper {inner : List GId} {b c : GraphT} {n : NodeT} {k : GId} {v : VId} :
      n ∈ b.nodes → c ∈ n.bodies → CapG W (b.gid :: inner) c k v → CapG W inner b k v

/-- what one node contributes, `chain` being the ids of its graph and of the graphs around it, innermost first -/
def CapNode (W : World) (chain : List GId) (n : NodeT) (k : GId) (v : VId) : Prop :=
  (some v ∈ n.inputs ∧ AddsTo W chain v k) ∨ ∃ c, c ∈ n.bodies ∧ CapG W chain c k v

theorem capG_iff {W : World} {inner : List GId} {b : GraphT} {k : GId} {v : VId} :
    CapG W inner b k v ↔ ∃ n, n ∈ b.nodes ∧ CapNode W (b.gid :: inner) n k v := by
  constructor
  · intro h
    cases h with
    | here hn hv ha => exact ⟨_, hn, Or.inl ⟨hv, ha⟩⟩
    | deeper hn hc h => exact ⟨_, hn, Or.inr ⟨_, hc, h⟩⟩
  · rintro ⟨n, hn, (⟨hv, ha⟩ | ⟨c, hc, h⟩)⟩
    · exact CapG.here hn hv ha
    · exact CapG.deeper hn hc h

mutual
  theorem procN_spec (W : World) (root : GId) (k : GId) (x : VId) :
      ∀ (n : NodeT) (inner : List GId) (u : Usages), (∀ g, g ∈ inner → u.HasKey g) →
      (((procN W (inner ++ [root]) u n).Has k x ↔ u.Has k x ∨ ∃ b, b ∈ n.bodies ∧ CapG W inner b k x) ∧
       (∀ g, (procN W (inner ++ [root]) u n).HasKey g ↔ u.HasKey g ∨ ∃ b, b ∈ n.bodies ∧ NestedIn b g))
    | .mk ins outs bs, inner, u, hk => by
      rw [procN]
      exact procGs_spec W root k x bs inner u hk
  theorem procGs_spec (W : World) (root : GId) (k : GId) (x : VId) :
      ∀ (bs : List GraphT) (inner : List GId) (u : Usages), (∀ g, g ∈ inner → u.HasKey g) →
      (((procGs W (inner ++ [root]) u bs).Has k x ↔ u.Has k x ∨ ∃ b, b ∈ bs ∧ CapG W inner b k x) ∧
       (∀ g, (procGs W (inner ++ [root]) u bs).HasKey g ↔ u.HasKey g ∨ ∃ b, b ∈ bs ∧ NestedIn b g))
    | [], inner, u, hk => by simp [procGs]
    | b :: bs, inner, u, hk => by
      rw [procGs]
      have h1 := procG_spec W root k x b inner u hk
      have hk' : ∀ g, g ∈ inner → (procG W (inner ++ [root]) u b).HasKey g :=
        fun g hg => (h1.2 g).mpr (Or.inl (hk g hg))
      have h2 := procGs_spec W root k x bs inner _ hk'
      constructor
      · rw [h2.1, h1.1]
        exact or_exists_cons (P := fun b => CapG W inner b k x)
      · intro g
        rw [h2.2 g, h1.2 g]
        exact or_exists_cons (P := fun b => NestedIn b g)
  theorem procG_spec (W : World) (root : GId) (k : GId) (x : VId) :
      ∀ (b : GraphT) (inner : List GId) (u : Usages), (∀ g, g ∈ inner → u.HasKey g) →
      (((procG W (inner ++ [root]) u b).Has k x ↔ u.Has k x ∨ CapG W inner b k x) ∧
       (∀ g, (procG W (inner ++ [root]) u b).HasKey g ↔ u.HasKey g ∨ NestedIn b g))
    | .mk gid i w o ns, inner, u, hk => by
      rw [procG]
      have hk' : ∀ g, g ∈ gid :: inner → (u.addKey gid).HasKey g := by
        intro g hg
        rcases List.mem_cons.mp hg with rfl | hg
        · exact hasKey_addKey.mpr (Or.inr rfl)
        · exact hasKey_addKey.mpr (Or.inl (hk g hg))
      have h := procNs_spec W root k x ns gid inner (u.addKey gid) hk'
      constructor
      · rw [h.1, has_addKey, capG_iff]
        simp
      · intro g
        rw [h.2 g, hasKey_addKey]
        constructor
        · rintro ((h | rfl) | ⟨n, hn, c, hc, h⟩)
          · exact Or.inl h
          · exact Or.inr (NestedIn.self (b := .mk g i w o ns))
          · exact Or.inr (NestedIn.deeper (b := .mk gid i w o ns) hn hc h)
        · rintro (h | h)
          · exact Or.inl (Or.inl h)
          · cases h with
            | self => exact Or.inl (Or.inr rfl)
            | deeper hn hc h => exact Or.inr ⟨_, hn, _, hc, h⟩
  theorem procNs_spec (W : World) (root : GId) (k : GId) (x : VId) :
      ∀ (ns : List NodeT) (sub : GId) (inner : List GId) (u : Usages),
      (∀ g, g ∈ sub :: inner → u.HasKey g) →
      (((procNs W sub (sub :: (inner ++ [root])) u ns).Has k x ↔
          u.Has k x ∨ ∃ n, n ∈ ns ∧ CapNode W (sub :: inner) n k x) ∧
       (∀ g, (procNs W sub (sub :: (inner ++ [root])) u ns).HasKey g ↔
          u.HasKey g ∨ ∃ n, n ∈ ns ∧ ∃ c, c ∈ n.bodies ∧ NestedIn c g))
    | [], sub, inner, u, hk => by simp [procNs]
    | n :: ns, sub, inner, u, hk => by
      rw [procNs, collectNode_eq]
      have hc1 := foldl_addChain_has (W := W) (k := k) (x := x) n.ins u hk
      have hck : ∀ g, (n.ins.foldl (fun u v => addChain W v (sub :: inner) u) u).HasKey g ↔ u.HasKey g :=
        fun g => foldl_addChain_keys n.ins u
      have hk1 : ∀ g, g ∈ sub :: inner →
          (n.ins.foldl (fun u v => addChain W v (sub :: inner) u) u).HasKey g :=
        fun g hg => (hck g).mpr (hk g hg)
      have h1 := procN_spec W root k x n (sub :: inner) _ hk1
      rw [List.cons_append] at h1
      have hk2 : ∀ g, g ∈ sub :: inner →
          (procN W (sub :: (inner ++ [root]))
            (n.ins.foldl (fun u v => addChain W v (sub :: inner) u) u) n).HasKey g :=
        fun g hg => (h1.2 g).mpr (Or.inl (hk1 g hg))
      have h2 := procNs_spec W root k x ns sub inner _ hk2
      constructor
      · rw [h2.1, h1.1, hc1]
        simp only [List.mem_cons, CapNode, mem_ins]
        constructor
        · rintro (((h | h) | h) | ⟨m, hm, h⟩)
          · exact Or.inl h
          · exact Or.inr ⟨n, Or.inl rfl, Or.inl h⟩
          · exact Or.inr ⟨n, Or.inl rfl, Or.inr h⟩
          · exact Or.inr ⟨m, Or.inr hm, h⟩
        · rintro (h | ⟨m, (rfl | hm), h⟩)
          · exact Or.inl (Or.inl (Or.inl h))
          · rcases h with h | h
            · exact Or.inl (Or.inl (Or.inr h))
            · exact Or.inl (Or.inr h)
          · exact Or.inr ⟨m, hm, h⟩
      · intro g
        rw [h2.2 g, h1.2 g, hck g]
        exact or_exists_cons (P := fun n : NodeT => ∃ c, c ∈ n.bodies ∧ NestedIn c g)
end

theorem mem_get {u : Usages} {k : GId} {x : VId} : x ∈ u.get k ↔ u.Has k x := by
  unfold Usages.get Usages.Has
  cases u.lookup k <;> simp

theorem foldl_procN_spec (W : World) (root : GId) (k : GId) (x : VId) :
    ∀ (ns : List NodeT) (u : Usages),
    (((ns.foldl (fun u n => procN W [root] u n) u).Has k x ↔
        u.Has k x ∨ ∃ n, n ∈ ns ∧ ∃ b, b ∈ n.bodies ∧ CapG W [] b k x) ∧
     (∀ g, (ns.foldl (fun u n => procN W [root] u n) u).HasKey g ↔
        u.HasKey g ∨ ∃ n, n ∈ ns ∧ ∃ b, b ∈ n.bodies ∧ NestedIn b g))
  | [], u => by simp
  | n :: ns, u => by
    simp only [List.foldl_cons]
    have h1 := procN_spec W root k x n [] u (by intro g hg; cases hg)
    simp only [List.nil_append] at h1
    have h2 := foldl_procN_spec W root k x ns (procN W [root] u n)
    constructor
    · rw [h2.1, h1.1]
      exact or_exists_cons (P := fun n : NodeT => ∃ b, b ∈ n.bodies ∧ CapG W [] b k x)
    · intro g
      rw [h2.2 g, h1.2 g]
      exact or_exists_cons (P := fun n : NodeT => ∃ b, b ∈ n.bodies ∧ NestedIn b g)

/-! ## reading `CapG` as "free variables of a nested graph" -/

/-- `s` is `b` or a graph nested in `b` at any depth -/
inductive SubG : GraphT → GraphT → Prop
  | self {b : GraphT} : SubG b b
  | deeper {b c s : GraphT} {n : NodeT} : n ∈ b.nodes → c ∈ n.bodies → SubG c s → SubG b s

/-- no graph of the subtree of `c` owns `v` -/
def NoOwn (W : World) (c : GraphT) (v : VId) : Prop := ∀ j, NestedIn c j → W.graphOf v ≠ some j

theorem addsTo_cons_of_ne {W : World} {g : GId} {chain : List GId} {v : VId} {k : GId}
    (hne : W.graphOf v ≠ some g) (h : AddsTo W chain v k) : AddsTo W (g :: chain) v k :=
  addsTo_cons.2 ⟨hne, Or.inr h⟩

theorem addsTo_self {W : World} {g : GId} {chain : List GId} {v : VId}
    (hne : W.graphOf v ≠ some g) : AddsTo W (g :: chain) v g :=
  addsTo_cons.2 ⟨hne, Or.inl rfl⟩

theorem addsTo_ne {W : World} {chain : List GId} {v : VId} {k : GId} (h : AddsTo W chain v k) :
    W.graphOf v ≠ some k := by
  induction chain with
  | nil => cases h
  | cons g t ih =>
    obtain ⟨hg, rfl | h'⟩ := addsTo_cons.1 h
    · exact hg
    · exact ih h'

theorem addsTo_mem {W : World} {chain : List GId} {v : VId} {k : GId} (h : AddsTo W chain v k) :
    k ∈ chain := (List.takeWhile_sublist _).subset h

mutual
  /-- completeness: a value used in `c` or deeper and owned by no graph of the subtree of `c` is recorded
      for `c` and for every enclosing graph up to the owner -/
  theorem capG_of_used (W : World) (v : VId) (k : GId) :
      ∀ (c : GraphT) (inner : List GId), UsedInG c v → NoOwn W c v → AddsTo W (c.gid :: inner) v k →
        CapG W inner c k v
    | .mk gid i w o ns, inner, hu, hno, hk => by
      cases hu with
      | node hn hun =>
        obtain ⟨n, hn', hc⟩ := capNs_of_used W v k ns (gid :: inner) ⟨_, hn, hun⟩
          (fun n hn b hb j hj => hno j (NestedIn.deeper (b := .mk gid i w o ns) hn hb hj)) hk
        exact capG_iff.mpr ⟨n, hn', hc⟩
  theorem capNs_of_used (W : World) (v : VId) (k : GId) :
      ∀ (ns : List NodeT) (chain : List GId), (∃ n, n ∈ ns ∧ UsedInN n v) →
        (∀ n, n ∈ ns → ∀ b, b ∈ n.bodies → NoOwn W b v) → AddsTo W chain v k →
        ∃ n, n ∈ ns ∧ CapNode W chain n k v
    | [], _, ⟨_, hn, _⟩, _, _ => by cases hn
    | n :: ns, chain, ⟨m, hm, hu⟩, hno, hk => by
      rcases List.mem_cons.mp hm with heq | hm'
      · have hu' : UsedInN n v := heq ▸ hu
        exact ⟨n, List.mem_cons_self,
          capN_of_used W v k n chain hu' (fun b hb => hno n List.mem_cons_self b hb) hk⟩
      · obtain ⟨n', hn', hc⟩ := capNs_of_used W v k ns chain ⟨m, hm', hu⟩
          (fun n hn => hno n (List.mem_cons_of_mem _ hn)) hk
        exact ⟨n', List.mem_cons_of_mem _ hn', hc⟩
  theorem capN_of_used (W : World) (v : VId) (k : GId) :
      ∀ (n : NodeT) (chain : List GId), UsedInN n v → (∀ b, b ∈ n.bodies → NoOwn W b v) →
        AddsTo W chain v k → CapNode W chain n k v
    | .mk ins outs bs, chain, hu, hno, hk => by
      cases hu with
      | direct hd => exact Or.inl ⟨hd, hk⟩
      | nested hb hub =>
        obtain ⟨c, hc, hcap⟩ := capGs_of_used W v k bs chain ⟨_, hb, hub⟩ hno hk
        exact Or.inr ⟨c, hc, hcap⟩
  theorem capGs_of_used (W : World) (v : VId) (k : GId) :
      ∀ (bs : List GraphT) (chain : List GId), (∃ b, b ∈ bs ∧ UsedInG b v) →
        (∀ b, b ∈ bs → NoOwn W b v) → AddsTo W chain v k → ∃ c, c ∈ bs ∧ CapG W chain c k v
    | [], _, ⟨_, hb, _⟩, _, _ => by cases hb
    | b :: bs, chain, ⟨c, hc, hu⟩, hno, hk => by
      rcases List.mem_cons.mp hc with heq | hc'
      · have hu' : UsedInG b v := heq ▸ hu
        have hself : W.graphOf v ≠ some b.gid := hno b List.mem_cons_self b.gid NestedIn.self
        exact ⟨b, List.mem_cons_self,
          capG_of_used W v k b chain hu' (hno b List.mem_cons_self) (addsTo_cons_of_ne hself hk)⟩
      · obtain ⟨c', hc'', hcap⟩ := capGs_of_used W v k bs chain ⟨c, hc', hu⟩
          (fun b hb => hno b (List.mem_cons_of_mem _ hb)) hk
        exact ⟨c', List.mem_cons_of_mem _ hc'', hcap⟩
end

/-- what is recorded below a nested graph is recorded at the top -/
theorem capG_lift {W : World} {b s : GraphT} (h : SubG b s) :
    ∃ path : List GId, ∀ (inner : List GId) (k : GId) (v : VId),
      CapG W (path ++ inner) s k v → CapG W inner b k v := by
  induction h with
  | self => exact ⟨[], fun _ _ _ h => h⟩
  | @deeper b c s n hn hc _ ih =>
    obtain ⟨path, hp⟩ := ih
    refine ⟨path ++ [b.gid], ?_⟩
    intro inner k v hcap
    rw [List.append_assoc] at hcap
    exact CapG.deeper hn hc (hp (b.gid :: inner) k v hcap)

theorem capG_used {W : World} {inner : List GId} {b : GraphT} {k : GId} {v : VId}
    (h : CapG W inner b k v) : UsedInG b v := by
  induction h with
  | here hn hv _ => exact UsedInG.node hn (UsedInN.direct hv)
  | deeper hn hc _ ih => exact UsedInG.node hn (UsedInN.nested hc ih)

/-- soundness: a recorded value is used in or below a graph with that id (or the id is one of the
    enclosing graphs), and the graph with that id does not own it -/
theorem capG_sound {W : World} {inner : List GId} {b : GraphT} {k : GId} {v : VId}
    (h : CapG W inner b k v) :
    (k ∈ inner ∨ ∃ s, SubG b s ∧ s.gid = k ∧ UsedInG s v) ∧ W.graphOf v ≠ some k := by
  induction h with
  | @here inner b n k v hn hv ha =>
    refine ⟨?_, addsTo_ne ha⟩
    rcases List.mem_cons.mp (addsTo_mem ha) with rfl | hk
    · exact Or.inr ⟨b, SubG.self, rfl, UsedInG.node hn (UsedInN.direct hv)⟩
    · exact Or.inl hk
  | @deeper inner b c n k v hn hc hcap ih =>
    refine ⟨?_, ih.2⟩
    rcases ih.1 with hk | ⟨s, hs, hk, hu⟩
    · rcases List.mem_cons.mp hk with rfl | hk
      · exact Or.inr ⟨b, SubG.self, rfl, UsedInG.node hn (UsedInN.nested hc (capG_used hcap))⟩
      · exact Or.inl hk
    · exact Or.inr ⟨s, SubG.deeper hn hc hs, hk, hu⟩

/-! ## soundness against the structural free variables, under scoping by owner -/

/-- `NoOwn` over the list `gidsG` -/
def NoOwnIn (W : World) (s : GraphT) (v : VId) : Prop := ∀ j, j ∈ gidsG s → W.graphOf v ≠ some j

theorem scopedGsB_mem {W : World} {all chain : List GId} {bs : List GraphT} {c : GraphT}
    (h : scopedGsB W all chain bs = true) (hc : c ∈ bs) : scopedGB W all chain c = true := by
  induction bs with
  | nil => cases hc
  | cons a t ih =>
    rw [scopedGsB, Bool.and_eq_true] at h
    rcases List.mem_cons.mp hc with rfl | hc
    · exact h.1
    · exact ih h.2 hc

theorem scopedNsB_mem {W : World} {all chain : List GId} {ns : List NodeT} {n : NodeT}
    (h : scopedNsB W all chain ns = true) (hn : n ∈ ns) : scopedNB W all chain n = true := by
  induction ns with
  | nil => cases hn
  | cons a t ih =>
    rw [scopedNsB, Bool.and_eq_true] at h
    rcases List.mem_cons.mp hn with rfl | hn
    · exact h.1
    · exact ih h.2 hn

theorem gidsG_eq (b : GraphT) : gidsG b = b.gid :: gidsNs b.nodes := by
  cases b; simp [gidsG]

theorem scopedGB_ids {W : World} {all chain : List GId} {b : GraphT} (h : scopedGB W all chain b = true) :
    ∀ j, j ∈ gidsG b → ¬ j ∈ chain ∧ j ∈ all := by
  cases b with
  | mk gid i w o ns =>
    rw [scopedGB, Bool.and_eq_true] at h
    intro j hj
    have := List.all_eq_true.mp h.1 j (by rw [gidsG] at hj; exact hj)
    simpa using this

theorem scopedGB_nodes {W : World} {all chain : List GId} {b : GraphT} (h : scopedGB W all chain b = true) :
    scopedNsB W all (b.gid :: chain) b.nodes = true := by
  cases b with
  | mk gid i w o ns => rw [scopedGB, Bool.and_eq_true] at h; exact h.2

theorem gidsG_sub {b c : GraphT} {n : NodeT} (hn : n ∈ b.nodes) (hc : c ∈ n.bodies) :
    ∀ j, j ∈ gidsG c → j ∈ gidsG b := by
  intro j hj
  exact (mem_gidsG b j).mpr (NestedIn.deeper hn hc ((mem_gidsG c j).mp hj))

theorem self_mem_gidsG (b : GraphT) : b.gid ∈ gidsG b := (mem_gidsG b b.gid).mpr NestedIn.self

theorem addsTo_tail {W : World} {g : GId} {chain : List GId} {v : VId} {k : GId}
    (h : AddsTo W (g :: chain) v k) (hk : k ≠ g) : W.graphOf v ≠ some g ∧ AddsTo W chain v k :=
  ⟨(addsTo_cons.1 h).1, (addsTo_cons.1 h).2.resolve_left hk⟩

theorem scopedGB_body {W : World} {all inner : List GId} {b c : GraphT} {n : NodeT}
    (hs : scopedGB W all inner b = true) (hn : n ∈ b.nodes) (hc : c ∈ n.bodies) :
    scopedGB W all (b.gid :: inner) c = true := by
  have hsn := scopedNsB_mem (scopedGB_nodes hs) hn
  cases n with
  | mk ins outs bs =>
    rw [scopedNB, Bool.and_eq_true] at hsn
    exact scopedGsB_mem hsn.2 hc

/-- with non-repeating ids, an id of an enclosing graph is reached only after the whole path below passed -/
theorem capG_addsTo {W : World} {all : List GId} {inner : List GId} {b : GraphT} {k : GId} {v : VId}
    (h : CapG W inner b k v) (hs : scopedGB W all inner b = true) (hk : k ∈ inner) :
    AddsTo W (b.gid :: inner) v k := by
  induction h with
  | here _ _ ha => exact ha
  | @deeper inner b c n k v hn hc _ ih =>
    have h1 := ih (scopedGB_body hs hn hc) (List.mem_cons_of_mem _ hk)
    have hne : k ≠ c.gid := by
      intro e
      have := (scopedGB_ids hs c.gid (gidsG_sub hn hc _ (self_mem_gidsG c))).1
      exact this (e ▸ hk)
    exact (addsTo_tail h1 hne).2

theorem ownerOK_elim {W : World} {all chain : List GId} {v : VId} (h : ownerOKB W all chain v = true) :
    (∃ j, j ∈ chain ∧ W.graphOf v = some j) ∨ (∀ j, j ∈ all → W.graphOf v ≠ some j) := by
  unfold ownerOKB at h
  rw [Bool.or_eq_true] at h
  rcases h with h | h
  · left
    simp only [List.contains_eq_mem, decide_eq_true_eq, List.mem_map] at h
    obtain ⟨j, hj, e⟩ := h
    exact ⟨j, hj, e.symm⟩
  · right
    intro j hj e
    simp only [List.contains_eq_mem, Bool.not_eq_eq_eq_not, Bool.not_true, decide_eq_false_iff_not,
      List.mem_map, not_exists, not_and] at h
    exact h j hj e.symm

/-- the strengthened induction: where the owner can be, and for which graph the value is recorded -/
theorem capG_free {W : World} {all : List GId} {inner : List GId} {b : GraphT} {k : GId} {v : VId}
    (h : CapG W inner b k v) (hs : scopedGB W all inner b = true) :
    ((∃ j, (j ∈ gidsG b ∨ j ∈ inner) ∧ W.graphOf v = some j) ∨ (∀ j, j ∈ all → W.graphOf v ≠ some j)) ∧
    ((k ∈ inner ∧ NoOwnIn W b v) ∨ ∃ s, SubG b s ∧ s.gid = k ∧ UsedInG s v ∧ NoOwnIn W s v) := by
  have hkne := (capG_sound h).2
  induction h with
  | @here inner b n k v hn hv ha =>
    have hsn := scopedNsB_mem (scopedGB_nodes hs) hn
    have hown : ownerOKB W all (b.gid :: inner) v = true := by
      cases n with
      | mk ins outs bs =>
        rw [scopedNB, Bool.and_eq_true] at hsn
        exact List.all_eq_true.mp hsn.1 v (by simpa [List.mem_filterMap] using hv)
    have hloc := ownerOK_elim hown
    have hfact : (∃ j, (j ∈ gidsG b ∨ j ∈ inner) ∧ W.graphOf v = some j) ∨
        (∀ j, j ∈ all → W.graphOf v ≠ some j) := by
      rcases hloc with ⟨j, hj, e⟩ | h'
      · left
        rcases List.mem_cons.mp hj with rfl | hj
        · exact ⟨_, Or.inl (self_mem_gidsG b), e⟩
        · exact ⟨j, Or.inr hj, e⟩
      · exact Or.inr h'
    have hhead : W.graphOf v ≠ some b.gid := (addsTo_cons.1 ha).1
    have hno : NoOwnIn W b v := by
      intro j hj e
      have hjs := scopedGB_ids hs j hj
      rcases hloc with ⟨j', hj', e'⟩ | h'
      · rw [e] at e'
        cases e'
        rcases List.mem_cons.mp hj' with rfl | hj'
        · exact hhead e
        · exact hjs.1 hj'
      · exact h' j hjs.2 e
    refine ⟨hfact, ?_⟩
    rcases List.mem_cons.mp (addsTo_mem ha) with rfl | hk
    · exact Or.inr ⟨b, SubG.self, rfl, UsedInG.node hn (UsedInN.direct hv), hno⟩
    · exact Or.inl ⟨hk, hno⟩
  | @deeper inner b c n k v hn hc hcap ih =>
    obtain ⟨hfactc, hrec⟩ := ih (scopedGB_body hs hn hc) hkne
    have hsubc : ∀ j, j ∈ gidsG c → j ∈ gidsG b := gidsG_sub hn hc
    have hfact : (∃ j, (j ∈ gidsG b ∨ j ∈ inner) ∧ W.graphOf v = some j) ∨
        (∀ j, j ∈ all → W.graphOf v ≠ some j) := by
      rcases hfactc with ⟨j, hj, e⟩ | h'
      · left
        rcases hj with hj | hj
        · exact ⟨j, Or.inl (hsubc j hj), e⟩
        · rcases List.mem_cons.mp hj with rfl | hj
          · exact ⟨_, Or.inl (self_mem_gidsG b), e⟩
          · exact ⟨j, Or.inr hj, e⟩
      · exact Or.inr h'
    refine ⟨hfact, ?_⟩
    rcases hrec with ⟨hk, hnoc⟩ | ⟨s, hs', hk, hu, hnos⟩
    · -- `k` is `b` itself or above it: no graph of the subtree of `b` owns `v`
      have hhead : W.graphOf v ≠ some b.gid := by
        rcases List.mem_cons.mp hk with rfl | hk'
        · exact hkne
        · have hadd := capG_addsTo (CapG.deeper hn hc hcap) hs hk'
          have hne : k ≠ b.gid := by
            intro e
            exact (scopedGB_ids hs b.gid (self_mem_gidsG b)).1 (e ▸ hk')
          exact (addsTo_tail hadd hne).1
      have hno : NoOwnIn W b v := by
        intro j hj e
        have hjs := scopedGB_ids hs j hj
        rcases hfactc with ⟨j', hj', e'⟩ | h'
        · rw [e] at e'
          cases e'
          rcases hj' with hj' | hj'
          · exact hnoc j hj' e
          · rcases List.mem_cons.mp hj' with rfl | hj'
            · exact hhead e
            · exact hjs.1 hj'
        · exact h' j hjs.2 e
      rcases List.mem_cons.mp hk with rfl | hk'
      · exact Or.inr ⟨b, SubG.self, rfl, UsedInG.node hn (UsedInN.nested hc (capG_used hcap)), hno⟩
      · exact Or.inl ⟨hk', hno⟩
    · exact Or.inr ⟨s, SubG.deeper hn hc hs', hk, hu, hnos⟩

end IrVerif.Extract
