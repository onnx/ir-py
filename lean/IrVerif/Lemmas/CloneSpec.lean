/-
`Cloner.clone_attr`, `clone_node`, `_clone_graph`, `clone_graph` on the normal path: ONE walk of each
program in the product of the logic of `CGoodAt` and "the value map only grows at the front" gives
`GraphSim`, `CreatedAvoid` and `Wire.GW`.  Only the programs that call themselves need the joint walk
(a projection cannot be taken under the recursive hypothesis); a leaf enters it by `glue`.
`goodL` and `resL` are not factors: a triple in a product assumes every factor's invariant at the
start, and `graphClone_good`, `cloneGraph_res` are stated from `Inv` / `RInv` alone.
-/
import IrVerif.Lemmas.CloneScope
import IrVerif.Lemmas.CloneWire
namespace IrVerif.Clone

def cloneLA (n0 : Nat) (A : Option St) : Logic := (covLA n0 A).prod Wire.vmL
abbrev cloneL (n0 : Nat) : Logic := cloneLA n0 none

section
variable {n0 : Nat}

theorem KC.okL {s : St} (hK : KC n0 s) : (cloneL n0).Ok s :=
  ⟨⟨trivial, Wire.Sfx.refl _⟩, ⟨hK, CoreLe.refl _, CovLe.refl _, [], by simp, by simp⟩, trivial⟩


theorem cloneLA.kc {A : Option St} {s s' : St} (h : (cloneLA n0 A).N s s') : KC n0 s' := h.1.1
theorem cloneLA.core {A : Option St} {s s' : St} (h : (cloneLA n0 A).N s s') : CoreLe s.w s'.w := h.1.2.1
theorem cloneLA.cov {A : Option St} {s s' : St} (h : (cloneLA n0 A).N s s') : CovLe s s' := h.1.2.2.1
theorem cloneLA.sfx {A : Option St} {s s' : St} (h : (cloneLA n0 A).E s s') : Wire.Sfx s.vm s'.vm := h.2
theorem cloneLA.ext {A : Option St} {s s' : St} (h : (cloneLA n0 A).N s s') : Ext s s' :=
  ⟨h.1.2.1, h.1.2.2.1, let ⟨e, he, _⟩ := h.1.2.2.2; ⟨e, he⟩⟩

theorem Hoare.toA {A s : St} {m : M α} {Q : α → St → Prop} (h : Hoare (cloneL n0) m s Q) (hA : CovLe A s) :
    Hoare (cloneLA n0 (some A)) m s Q :=
  h.imp (fun hO => ⟨hO.1, ⟨hO.2.1.1, CoreLe.refl _, CovLe.refl _, [], by simp, by simp⟩, trivial⟩) (fun _ h => h)
    fun _ _ ⟨⟨k, l, c, e, he, hav⟩, t⟩ => ⟨⟨k, l, c, e, he, fun n hn => (hav n hn).mono (CoreLe.refl _) hA⟩, t⟩

/-- a triple at `s` speaks of `L.N s _` only, and there the anchor `s` is the start state -/
theorem Hoare.selfA {s : St} {m : M α} {Q : α → St → Prop} (h : Hoare (cloneLA n0 (some s)) m s Q) :
    Hoare (cloneL n0) m s Q := h

theorem glueA {A : Option St} {s : St} {m : M α} {Q : α → St → Prop} (hc : Hoare (covLA n0 A) m s Q)
    (hd : Does Lab.all m) : Hoare (cloneLA n0 A) m s Q :=
  (hc.and (Wire.VmMono_iff.mp (.ofDoes hd) s)).mono fun _ _ _ _ h => h.1

theorem glue {A s : St} {m : M α} {Q : α → St → Prop} (hc : Hoare (covL n0) m s Q) (hd : Does Lab.all m)
    (hA : CovLe A s) : Hoare (cloneLA n0 (some A)) m s Q :=
  (glueA hc hd).toA hA

theorem alloc_clone {s : St} (c : Cell) (hc : c.isNode = false) :
    Hoare (cloneL n0) (Clone.alloc c) s
      (fun r s1 => r = s.w.length ∧ coreAt s1.w r = some c.core ∧ s1.vm = s.vm) :=
  glueA (Hoare.covOfQuiet (alloc_sim c) (QuietAt.alloc hc)) (Does.alloc hc trivial)

open Wire in
theorem cloneOrGetValue_spec (v : Nat) {s : St} :
    Hoare (cloneL n0) (cloneOrGetValue v) s (fun r s1 => (ValSim s1.w v r ∧ Cov s1 v) ∧ Bnd v r s1.vm) :=
  (glueA (cloneOrGetValue_cov v) (Does.cloneOrGetValue trivial trivial v)).mono
    fun _ _ _ _ h => ⟨h.1, Bnd.of_lookup h.2⟩

theorem cloneOutputs_spec : ∀ (os : List Nat) (i : Nat) (s : St), Hoare (cloneL n0) (cloneOutputs i os) s
    (fun r s1 => All2 (ValSim s1.w) os r ∧ All2 (fun o r => Wire.Bnd o r s1.vm) os r)
  | [], i, s => by unfold cloneOutputs; exact Hoare.pure ⟨.nil, .nil⟩
  | o :: os, i, s => by
    unfold cloneOutputs
    hbind (glueA (cloneOutput_cov i o) (Does.cloneOutput trivial trivial i o)) with o' s1 hE1 hN1 ho'
    hbind (cloneOutputs_spec os (i + 1) s1) with rest s2 hE2 hN2 hrest
    exact Hoare.pure ⟨.cons (ho'.1.mono (cloneLA.core hN2)) hrest.1,
      .cons ((Wire.Bnd.of_lookup ho'.2).mono (cloneLA.sfx hE2)) hrest.2⟩

theorem cloneAttr_spec {allow : Bool} {rec : Nat → M Nat}
    (hrec : ∀ g s, Hoare (cloneL n0) (rec g) s (fun g' s1 => GraphSim s1.w g g' ∧ Wire.GW allow g g' s1))
    (key : String) (a : Nat) {s : St} :
    Hoare (cloneL n0) (cloneAttr rec key a) s (fun r s1 => AttrSim s1.w (key, a) r ∧
      ∀ vmF, Wire.Fut s1.vm vmF → AttrWire allow s1.w vmF (key, a) r) := by
  unfold cloneAttr
  hbind Hoare.readAttr with as s1 hE1 hN1 hq1
  obtain ⟨rfl, ha⟩ := hq1
  split
  · next g hg =>
    hbind (hrec g s1) with g' s2 hE2 hN2 hg'
    hbind (alloc_clone _ rfl) with a' s3 hE3 hN3 ha'
    have hl3 := cloneLA.core hN3
    have hcell := cAttr_mono ((cloneLA.core hN2).trans hl3) (cAttr_of ha)
    exact Hoare.pure ⟨.graph key a a' as g g' hcell hg (cAttr_ofCore ha'.2.1) (hg'.1.mono hl3),
       fun vmF hF => .graph key a a' as g g' hcell hg (cAttr_ofCore ha'.2.1) (hg'.2.stable hl3 (cloneLA.sfx hE3) vmF hF)⟩
  · next gs hg =>
    hbind (Hoare.mapM2 (L := cloneL n0) (R := fun g g' s => GraphSim s.w g g' ∧ Wire.GW allow g g' s)
      (fun _ _ _ _ h hE hN => ⟨h.1.mono (cloneLA.core hN), h.2.stable (cloneLA.core hN) (cloneLA.sfx hE)⟩) gs s1
      (fun g _ s2 _ hN2 => hrec g s2)) with gs' s2 hE2 hN2 hgs'
    hbind (alloc_clone _ rfl) with a' s3 hE3 hN3 ha'
    have hl3 := cloneLA.core hN3
    have hcell := cAttr_mono ((cloneLA.core hN2).trans hl3) (cAttr_of ha)
    exact Hoare.pure ⟨.graphs key a a' as gs gs' hcell hg (cAttr_ofCore ha'.2.1)
        (graphsSim_of_all2 (All2.mono (fun _ _ h => h.1.mono hl3) hgs')),
       fun vmF hF => .graphs key a a' as gs gs' hcell hg (cAttr_ofCore ha'.2.1)
        (Wire.graphsWire_of_all2 (All2.mono (fun _ _ h => h.2.stable hl3 (cloneLA.sfx hE3) vmF hF) hgs'))⟩
  · next h1 h2 =>
    have hp := AttrV.isGraphy_eq_false h1 h2
    exact Hoare.pure ⟨.shared key a as (cAttr_of ha) hp, fun vmF _ => .shared key a as (cAttr_of ha) hp⟩

open Wire in
/-- The new node must avoid what was known when its inputs were mapped (`s2`), not when its cell is
    made: from `s2` on the walk is in the logic anchored at `s2`. -/
theorem cloneNode_spec {allow : Bool} {rec : Nat → M Nat}
    (hrec : ∀ g s, Hoare (cloneL n0) (rec g) s (fun g' s1 => GraphSim s1.w g g' ∧ GW allow g g' s1))
    (n : Nat) {s : St} :
    Hoare (cloneL n0) (cloneNode allow rec n) s (fun r s1 => (NodeSim s1.w n r ∧ r ∈ s1.created) ∧
      ∀ vmF, Fut s1.vm vmF → NodeWire allow s1.w vmF n r) := by
  apply Hoare.selfA
  unfold cloneNode
  hbind Hoare.readNode with ns s1 hE1 hN1 hq1
  obtain ⟨rfl, hns⟩ := hq1
  hbind ((glue (mapInputs_cov (allow := allow) ns.inputs s1) (Does.ofQuiet (Quiet.mapInputs _ _)) (CovLe.refl _)).both
    (mapInputs_rel allow ns.inputs s1)) with ins s2 hE2 hN2 hins
  obtain ⟨⟨rfl, hins, havoid⟩, -, hrel⟩ := hins
  hbind (Hoare.mapM2 (L := cloneLA n0 (some s2))
    (R := fun (ka : String × Nat) r s => AttrSim s.w ka r ∧ ∀ vmF, Fut s.vm vmF → AttrWire allow s.w vmF ka r)
    (fun _ _ _ _ h hE hN => ⟨h.1.mono (cloneLA.core hN), fun vmF hF => (h.2 vmF (hF.mono (cloneLA.sfx hE))).mono (cloneLA.core hN)⟩)
    ns.attrs s2
    (fun ka _ s3 _ hN3 => (cloneAttr_spec hrec ka.1 ka.2).toA (cloneLA.cov hN3))) with attrs s3 hE3 hN3 hattrs
  obtain ⟨⟨hK3, hl3, hc3, -⟩, -⟩ := hN3
  hbind (glue (Hoare.covOfQuiet (copyProps_sim ns.props) (.ofDoes (Does.copyProps trivial _) _)) (Does.copyProps trivial _) hc3)
    with pr s4 hE4 hN4 hpr
  obtain ⟨⟨hK4, hl4, hc4, -⟩, -⟩ := hN4
  hbind (glue (Hoare.covOfQuiet (copyMeta_sim ns.mstore) (.ofDoes (Does.copyMeta trivial _) _)) (Does.copyMeta trivial _)
    (hc3.trans hc4)) with me s5 hE5 hN5 hme
  obtain ⟨⟨hK5, hl5, hc5, -⟩, -⟩ := hN5
  hbind ((cloneOutputs_spec ns.outputs 0 s5).toA (hc3.trans (hc4.trans hc5))) with outs s6 hE6 hN6 houts
  obtain ⟨⟨hK6, hl6, hc6, -⟩, -⟩ := hN6
  obtain ⟨houts, hbnd⟩ := houts
  hbind Hoare.getVm with vm s7 hE7 hN7 hq7
  obtain ⟨rfl, rfl⟩ := hq7
  hbind (checkSpecs_spec allow ns s7.vm) with u0 s7' hE7' hN7' hq7'
  obtain ⟨rfl, hchk⟩ := hq7'
  hbind (glueA (allocNode_covA _ havoid) (Does.allocNode trivial _)) with n' s8 hE8 hN8 hn'
  obtain ⟨⟨hK8, hl8, hc8, -⟩, -⟩ := hN8
  have hc28 : CovLe s2 s8 := hc3.trans (hc4.trans (hc5.trans (hc6.trans hc8)))
  hbind (glue (Hoare.covOfDoes (Does.forM' (fun v => Does.setProducer trivial n' v) outs))
    (Does.forM' (fun v => Does.setProducer trivial n' v) outs) hc28) with u s9 hE9 hN9 hq9
  have x9 := cloneLA.ext hN9
  obtain ⟨⟨hK9, hl9, hc9, -⟩, -⟩ := hN9
  hbind (glue (Hoare.covOfDoes (Does.addUses trivial n' ins 0)) (Does.addUses trivial n' ins 0) (hc28.trans hc9))
    with u2 s10 hE10 hN10 hq10
  have x10 := cloneLA.ext hN10
  obtain ⟨⟨hK10, hl10, hc10, -⟩, -⟩ := hN10
  have l8 : CoreLe s8.w s10.w := hl9.trans hl10
  have l7 : CoreLe s7'.w s10.w := hl8.trans l8
  have l5 : CoreLe s5.w s10.w := hl6.trans l7
  have l4 : CoreLe s4.w s10.w := hl5.trans l5
  have l3 : CoreLe s3.w s10.w := hl4.trans l4
  have l2 : CoreLe s2.w s10.w := hl3.trans l3
  have v6 : Sfx s7'.vm s10.vm := (cloneLA.sfx hE8).trans ((cloneLA.sfx hE9).trans (cloneLA.sfx hE10))
  have v3 : Sfx s3.vm s10.vm := (cloneLA.sfx hE4).trans ((cloneLA.sfx hE5).trans ((cloneLA.sfx hE6).trans v6))
  have v2 : Sfx s2.vm s10.vm := (cloneLA.sfx hE3).trans v3
  have hsrc := cNode_mono l2 (cNode_of hns)
  have hnew := cNode_mono l8 (cNode_ofCore hn'.1)
  have hP : PropsSim s10.w ns.props pr := by
    obtain ⟨d, a, b⟩ := hpr
    exact ⟨d, _, cDict_mono l4 a, cDict_mono l4 b, rfl⟩
  have hM : MetaSim s10.w ns.mstore me := by
    obtain ⟨d, a, b⟩ := hme
    exact ⟨d, _, cDict_mono l5 a, cDict_mono l5 b, rfl, rfl⟩
  refine Hoare.pure ⟨⟨?_, x10.mem_created (x9.mem_created hn'.2)⟩, fun vmF hF => ?_⟩
  · exact NodeSim.mk n n' _ _ attrs hsrc hnew rfl rfl rfl rfl rfl rfl
      (All2.mono (fun _ _ h => RefSim.mono l2 h) hins) (All2.mono (fun _ _ h => ValSim.mono l7 h) houts)
      (attrsSim_of_all2 (All2.mono (fun _ _ h => h.1.mono l3) hattrs)) rfl hP hM
      (remapDev_simP (pairsSim_append (ioMap_pairs
        (All2.mono (fun _ _ h => RefSim.mono l2 h) hins) (All2.mono (fun _ _ h => ValSim.mono l7 h) houts))
        (fun p hp => .inr ((hK6.k p hp).mono l7))) ns.dev)
  · have hF6 : Fut s7'.vm vmF := hF.mono v6
    have hF2 : Fut s2.vm vmF := hF.mono v2
    exact NodeWire.mk n n' _ _ attrs hsrc hnew rfl rfl rfl rfl rfl rfl
      (All2.mono (fun _ _ h => h.refImg hF2) hrel) (all2_bnd_vals hF6 hbnd)
      (attrsWire_of_all2 (All2.mono (fun _ _ h => (h.2 vmF (hF.mono v3)).mono l3) hattrs)) rfl hP hM
      (remapDev_img hrel hF2 hbnd hF6 hchk)

open Wire in
/-- Once the node outputs are pending everything `DefTop` is `Cov` (`hcovered`), so what the nodes
    avoid covers `DefTop`; the `created` equalities identify `ext` with the nodes made since `s`. -/
theorem cloneGraphStep_spec {allow : Bool} {rec : Nat → M Nat}
    (hrec : ∀ g s, Hoare (cloneL n0) (rec g) s (fun g' s1 => GraphSim s1.w g g' ∧ GW allow g g' s1))
    (g : Nat) {s : St} :
    Hoare (cloneL n0) (cloneGraphStep allow rec g) s (fun g' s1 => GraphSim s1.w g g' ∧
      (∃ gs, cGraph s.w g = some gs ∧ CreatedAvoid n0 s.created.length s1 (DefTop s.w gs)) ∧ GW allow g g' s1) := by
  have vals : ∀ (l : List Nat) (s : St), Hoare (cloneL n0) (mapM' cloneOrGetValue l) s (fun r s1 =>
      All2 (fun v r => (ValSim s1.w v r ∧ Cov s1 v) ∧ Bnd v r s1.vm) l r ∧ s1.created = s.created) :=
    fun l s => (Hoare.mapM2 (L := cloneL n0) (R := fun v r s => (ValSim s.w v r ∧ Cov s v) ∧ Bnd v r s.vm)
      (fun _ _ _ _ h hE hN => ⟨⟨h.1.1.mono (cloneLA.core hN), (cloneLA.cov hN) _ h.1.2⟩, h.2.mono (cloneLA.sfx hE)⟩) l s
      (fun v _ s2 _ hN2 => cloneOrGetValue_spec v)).andState
        (Eff.created_eq (P := Lab.noNodes) id (Does.mapM' (Does.cloneOrGetValue trivial trivial) l s))
  unfold cloneGraphStep
  hbind Hoare.readGraph with gs s1 hE1 hN1 hq1
  obtain ⟨rfl, hgs⟩ := hq1
  hbind (vals gs.inputs s1) with inputs s2 hE2 hN2 hin
  obtain ⟨hin, hcr2⟩ := hin
  obtain ⟨⟨hK2, hl2, hc2, -⟩, -⟩ := hN2
  hbind (vals (gs.inits.map (fun e => e.2)) s2) with inits s3a hE3a hN3a hinits
  obtain ⟨hinits, hcr3a⟩ := hinits
  obtain ⟨⟨hK3a, hl3a, hc3a, -⟩, -⟩ := hN3a
  hbind (glueA (allOutputs_cov gs.nodes s3a) (Does.ofQuiet (Quiet.allOutputs _))) with pouts s3b hE3b hN3b hq3b
  obtain ⟨rfl, rfl⟩ := hq3b
  hbind ((glueA (pendAdd_cov (outsOf s3b.w gs.nodes)) (Does.pendAdd trivial _)).andState
      (P := fun s1 => s1.created = s3b.created) rfl)
    with u0 s3 hE3 hN3 hq3c
  obtain ⟨⟨hw3, hpend⟩, hcr3⟩ := hq3c
  obtain ⟨⟨hK3, hl3c, hc3c, -⟩, -⟩ := hN3
  have hsub : ∀ v, v ∈ outsOf s1.w gs.nodes → v ∈ outsOf s3b.w gs.nodes := by
    have hle : CoreLe s1.w s3b.w := hl2.trans hl3a
    intro v hv
    unfold outsOf at hv ⊢
    rw [List.mem_flatMap] at hv ⊢
    obtain ⟨n, hn, hvn⟩ := hv
    refine ⟨n, hn, ?_⟩
    cases hc : cNode s1.w n with
    | some x => rw [cNode_mono hle hc]; rw [hc] at hvn; exact hvn
    | none => rw [hc] at hvn; cases hvn
  have hcovered : ∀ v, DefTop s1.w gs v → Cov s3 v := by
    intro v hv
    rcases hv with h | h | h
    · exact hc3c _ (hc3a _ (All2.left_forall (fun _ _ h => h.1.2) hin v h))
    · exact hc3c _ (All2.left_forall (fun _ _ h => h.1.2) hinits v h)
    · exact hpend v (hsub v h)
  hbind (Hoare.mapM2 (L := cloneL n0)
    (R := fun n r s => (NodeSim s.w n r ∧ r ∈ s.created) ∧ ∀ vmF, Fut s.vm vmF → NodeWire allow s.w vmF n r)
    (fun _ _ _ _ h hE hN => ⟨⟨h.1.1.mono (cloneLA.core hN), (cloneLA.ext hN).mem_created h.1.2⟩,
      fun vmF hF => (h.2 vmF (hF.mono (cloneLA.sfx hE))).mono (cloneLA.core hN)⟩) gs.nodes s3
    (fun n _ s4 _ hN4 => cloneNode_spec hrec n)) with nodes s4 hE4 hN4 hnodes
  obtain ⟨⟨hK4, hl4, hc4, ext, hcr4, hav4⟩, -⟩ := hN4
  hbind ((Hoare.mapM2 (L := cloneL n0) (R := fun v r s => ValSim s.w v r ∧ Bnd v r s.vm)
    (fun _ _ _ _ h hE hN => ⟨h.1.mono (cloneLA.core hN), h.2.mono (cloneLA.sfx hE)⟩) gs.outputs s4
    (fun v _ s5 _ hN5 => Hoare.getMapped.mono fun r _ _ hN ⟨hs, hlk⟩ => by
      subst hs
      exact ⟨(cloneLA.kc hN).k (v, r) (ListFacts.mem_of_lookup hlk), Bnd.of_lookup hlk⟩)).andState
    (P := fun s1 => s1.created = s4.created)
    (Eff.created_eq (P := Lab.noNodes) id
      (Does.mapM' (fun v => Does.ofQuiet (Quiet.getMapped v)) gs.outputs s4)))
    with outputs s5 hE5 hN5 hout
  obtain ⟨hout, hcr5⟩ := hout
  obtain ⟨⟨hK5, hl5, hc5, -⟩, -⟩ := hN5
  have hmk := Does.mkGraph (P := Lab.quiet) trivial gs inputs outputs nodes inits
  refine ((glueA (Hoare.covOfQuiet (mkGraph_sim gs inputs outputs nodes inits) (.ofDoes hmk s5))
    (Does.mkGraph trivial _ _ _ _ _)).andState (P := fun s1 => s1.created = s5.created) (hmk s5).quiet.2.2.1).mono ?_
  intro g' s6 hE6 hN6 ⟨⟨gs', hg', e1, e2, e3, e4, e5, e6, e7, e8, e9⟩, hcr6⟩
  have hl6 := cloneLA.core hN6
  have l4 : CoreLe s4.w s6.w := hl5.trans hl6
  have l3 : CoreLe s3b.w s6.w := hl3c.trans (hl4.trans l4)
  have l2 : CoreLe s2.w s6.w := hl3a.trans l3
  have v5 : Sfx s5.vm s6.vm := cloneLA.sfx hE6
  have v4 : Sfx s4.vm s6.vm := (cloneLA.sfx hE5).trans v5
  have v3 : Sfx s3b.vm s6.vm := (cloneLA.sfx hE3).trans ((cloneLA.sfx hE4).trans v4)
  have hsrc := cGraph_mono (hl2.trans l2) (cGraph_of hgs)
  refine ⟨.mk g g' gs gs' inits hsrc hg' e1 e2 e3 ?_ ?_ e7 ?_ ?_ e8 e9, ⟨gs, cGraph_of hgs, ?_⟩, fun vmF hF => ?_⟩
  · rw [e4]; exact All2.mono (fun _ _ h => ValSim.mono l2 h.1.1) hin
  · exact All2.mono (fun _ _ h => ValSim.mono l3 h.1.1) hinits
  · rw [e6]; exact nodesSim_of_all2 (All2.mono (fun _ _ h => NodeSim.mono l4 h.1.1) hnodes)
  · rw [e5]; exact All2.mono (fun _ _ h => ValSim.mono hl6 h.1) hout
  · intro n hn
    have hcr : s6.created = s1.created ++ ext := by
      rw [hcr6, hcr5, hcr4, hcr3]
      have : s3b.created = s1.created := by rw [hcr3a, hcr2]
      rw [this]
    rw [hcr, List.drop_left] at hn
    obtain ⟨ns, hns, hav⟩ := hav4 n hn
    exact ⟨ns, cNode_mono l4 hns, fun v hv hlt hdef => hav v hv hlt (hcovered v hdef)⟩
  · refine .mk g g' gs gs' inits hsrc hg' e1 e2 e3 ?_ ?_ ?_ e7 ?_ ?_ e8 e9
    · rw [e4]; exact All2.mono (fun _ _ h => h.2 vmF (hF.mono ((cloneLA.sfx hE3a).trans v3))) hin
    · exact All2.mono (fun _ _ h => h.2 vmF (hF.mono v3)) hinits
    · exact All2.right_forall (fun _ _ h => (h.1.1.mono l3).readable_right) hinits
    · rw [e6]; exact nodesWire_of_all2 (All2.mono (fun _ _ h => (h.2 vmF (hF.mono v4)).mono l4) hnodes)
    · rw [e5]; exact All2.mono (fun _ _ h => h.2 vmF (hF.mono v5)) hout

theorem guarded_spec {body : M Nat} {Q : Nat → St → Prop} {s : St} (hb : Hoare (cloneL n0) body s Q) :
    Hoare (cloneL n0) (guarded body) s Q :=
  hb.guarded fun s' _ hE =>
    ⟨trivial, (cloneLA.sfx hE).trans (Does.forM' (Does.detachNode (P := Lab.all) trivial trivial) _ s').sfx⟩

theorem cloneGraph_spec {allow : Bool} : ∀ (fuel g : Nat) (s : St), Hoare (cloneL n0) (cloneGraph allow fuel g) s (fun g' s1 => GraphSim s1.w g g' ∧
      (∃ gs, cGraph s.w g = some gs ∧ CreatedAvoid n0 s.created.length s1 (DefTop s.w gs)) ∧
      Wire.GW allow g g' s1)
  | 0, _, _ => Hoare.fail
  | f + 1, g, _ =>
    guarded_spec (cloneGraphStep_spec
      (fun g' s' => (cloneGraph_spec f g' s').mono fun _ _ _ _ h => ⟨h.1, h.2.2⟩) g)

/-- besides the simulation, every node created during the call (at any depth below) has no
    pre-existing input that is defined at the top level of the graph being cloned by this call -/
theorem cloneGraph_cov {allow : Bool} (fuel g : Nat) (s : St) (hK : KC n0 s) :
    CGoodAt n0 (cloneGraph allow fuel g) s (fun g' s1 => GraphSim s1.w g g' ∧
      ∃ gs, cGraph s.w g = some gs ∧ CreatedAvoid n0 s.created.length s1 (DefTop s.w gs)) :=
  fun a ha => by
    obtain ⟨⟨⟨k, l, c, e⟩, -⟩, q⟩ := ((cloneGraph_spec fuel g s) hK.okL).2 a ha
    exact ⟨k, l, c, e, q.1, q.2.1⟩

end

theorem Hoare.freshSim {m : M α} {s : St} {Q : α → St → Prop}
    (h : Hoare (cloneL s.w.length) m { s with vm := [], pend := [], created := [] } Q) :
    Hoare simL m { s with vm := [], pend := [], created := [] } Q :=
  h.imp (fun _ => (KC.fresh s).okL) (fun _ _ => trivial) fun _ _ hN => ⟨(cloneLA.kc hN).k, cloneLA.core hN⟩

theorem graphClone_sim {allow : Bool} (fuel g : Nat) {s : St} (hK : K s) :
    SGoodAt (graphClone fuel allow g) s (fun g' s1 => GraphSim s1.w g g') :=
  (withFreshMap_sim ((cloneGraph_spec fuel g _).freshSim.mono fun _ _ _ _ h => h.1) (fun _ _ _ _ _ h => h)).sim hK

/-- the hypothesis is the walker's verdict; `TInv` at the end makes the value map a bijection -/
theorem graphClone_wiring {w : World} {fuel : Nat} {allow : Bool} {g : Nat} {A : Sc}
    (h : cloneVerdict fuel allow w g = .ok A) :
    ∃ g' s', cloneGraph allow fuel g { w := w } = (.ok g', s') ∧
      run (graphClone fuel allow g) w = (.ok g', s'.w) ∧ GraphWire allow s'.w s'.vm g g' ∧
      (∀ p ∈ s'.vm, ValSim s'.w p.1 p.2) ∧ CoreLe w s'.w ∧ Total.TInv w s' A := by
  have := Total.graphClone_verdict fuel allow w g
  rw [h] at this
  obtain ⟨g', s', h1, h2, hT⟩ := this
  obtain ⟨-, hN, -, -, hW⟩ := (cloneGraph_spec fuel g { w := w }).ok (KC.fresh { w := w }).okL h1
  refine ⟨g', s', h1, h2, hW s'.vm ⟨Wire.Sfx.refl _, ?_⟩, (cloneLA.kc hN).k, cloneLA.core hN, hT⟩
  rw [hT.keys]
  exact hT.nodup

theorem graphClone_closed_outer {w w' : World} {fuel : Nat} {allow : Bool} {g g' : Nat} {gs : GraphS}
    (h : run (graphClone fuel allow g) w = (.ok g', w')) (hg : w[g]? = some (.graph gs)) :
    ∀ (i : Nat) (ns : NodeS), w.length ≤ i → w'[i]? = some (.node ns) → ∀ v, some v ∈ ns.inputs →
      w.length ≤ v ∨
      (v ∉ gs.inputs ∧ v ∉ gs.inits.map (·.2) ∧
        ∀ n ∈ gs.nodes, ∀ x, w[n]? = some (.node x) → v ∉ x.outputs) := by
  have hc := cloneGraph_cov (n0 := w.length) (allow := allow) fuel g { w := w } (KC.fresh { w := w })
  obtain ⟨s1, hms, rfl⟩ := run_graphClone h
  obtain ⟨hK1, _, _, _, _, gs0, hgs0, havoid⟩ := hc g' (by rw [hms])
  rw [hms] at hK1 havoid
  simp only at hK1 havoid hgs0
  have : gs0 = gs := by
    rw [cGraph_of hg] at hgs0; cases hgs0; rfl
  subst this
  intro i ns hi hn v hv
  rcases Nat.lt_or_ge v w.length with hlt | hge
  · right
    have hmem := hK1.allc i ns hi hn
    obtain ⟨ns', hns', hav⟩ := havoid i (by simpa using hmem)
    rw [cNode_of hn] at hns'
    cases hns'
    have hnd := hav v hv hlt
    refine ⟨fun h => hnd (.inl h), fun h => hnd (.inr (.inl h)), ?_⟩
    intro n hnm x hx hvx
    apply hnd
    refine .inr (.inr ?_)
    unfold outsOf
    rw [List.mem_flatMap]
    exact ⟨n, hnm, by rw [cNode_of hx]; exact hvx⟩
  · exact .inl hge

end IrVerif.Clone
