/-
C09, general model: pool accounting `PInv` (per pool: idle + exited + running jobs = size) and the waiters' invariant
`WInv`.
-/
import IrVerif.Lemmas.WriterNLocks
namespace IrVerif.WriterN

def act : Pc → Bool
  | .notStarted | .done _ => false
  | _ => true

@[simp] theorem act_notStarted : act .notStarted = false := rfl
@[simp] theorem act_done (b : Bool) : act (.done b) = false := rfl
@[simp] theorem act_cbAcqIn : act .cbAcqIn = true := rfl
@[simp] theorem act_cbAcq : act .cbAcq = true := rfl
@[simp] theorem act_cbBody : act .cbBody = true := rfl
@[simp] theorem act_tAcq : act .tAcq = true := rfl
@[simp] theorem act_bAcq : act .bAcq = true := rfl
@[simp] theorem act_waiting : act .waiting = true := rfl
@[simp] theorem act_woken : act .woken = true := rfl
@[simp] theorem act_write : act .write = true := rfl
@[simp] theorem act_bRel (b : Bool) : act (.bRel b) = true := rfl
theorem act_wake (p : Pc) : act (wake p) = act p := by cases p <;> rfl
@[simp] theorem act_firstPc (cfg : Cfg) (q : Nat) : act (firstPc cfg q) = true := rfl
@[simp] theorem act_afterT (cfg : Cfg) (q : Nat) : act (afterT cfg q) = true := by
  unfold afterT; split <;> rfl

/-- the owner of the pool is inside its executor (between creation and the end of `shutdown`) -/
def ownAct : OwnerPc → Bool
  | .submit _ | .collect | .join _ => true
  | _ => false

/-- tensor `i` is being written by a thread of pool `q` -/
def fActQ (cfg : Cfg) (q : Nat) (i : Nat) (p : Pc) : Nat :=
  if act p = true ∧ cfg.poolOf i = q then 1 else 0
/-- pool `q'` is currently owned by a thread of pool `q` -/
def fOwnQ (cfg : Cfg) (q : Nat) (q' : Nat) (P : PoolSt) : Nat :=
  if ownAct P.owner = true ∧ parentPool cfg q' = some q then 1 else 0

/-- Per created pool: idle + exited + tensors in progress + inner pools owned = size (`pool`); `shutdown` is set
    exactly from `join` on, threads exit only then, and all have exited at `closed`. -/
structure PInv (cfg : Cfg) (s : State) : Prop where
  pool : ∀ q, (s.pl q).owner ≠ .notCreated →
    (s.pl q).idle + (s.pl q).exited + wsum (fActQ cfg q) 0 s.tasks + wsum (fOwnQ cfg q) 0 s.pools
      = (cfg.pool q).size
  exited_sd : ∀ q, (s.pl q).exited > 0 → (s.pl q).shutdown = true
  sd_main : ∀ q, (s.pl q).shutdown = true ↔ ∃ e, (s.pl q).owner = .join e ∨ (s.pl q).owner = .closed e
  fin_exit : ∀ q e, (s.pl q).owner = .closed e → (s.pl q).exited = (cfg.pool q).size
  sub_lt : ∀ q k, (s.pl q).owner = .submit k → k < (cfg.pool q).jobs.length
  fresh0 : ∀ q, (s.pl q).owner = .notCreated →
    (s.pl q).idle = 0 ∧ (s.pl q).exited = 0 ∧ (s.pl q).shutdown = false ∧ (s.pl q).collected = []

/-- the clauses of `PInv` that speak of one pool record -/
structure PoolOK (cfg : Cfg) (q : Nat) (P : PoolSt) : Prop where
  exited_sd : P.exited > 0 → P.shutdown = true
  sd_main : P.shutdown = true ↔ ∃ e, P.owner = .join e ∨ P.owner = .closed e
  fin_exit : ∀ e, P.owner = .closed e → P.exited = (cfg.pool q).size
  sub_lt : ∀ k, P.owner = .submit k → k < (cfg.pool q).jobs.length
  fresh0 : P.owner = .notCreated → P.idle = 0 ∧ P.exited = 0 ∧ P.shutdown = false ∧ P.collected = []

theorem PInv.ok {cfg : Cfg} {s : State} (h : PInv cfg s) (q : Nat) : PoolOK cfg q (s.pl q) :=
  ⟨h.exited_sd q, h.sd_main q, h.fin_exit q, h.sub_lt q, h.fresh0 q⟩

theorem PInv.of_ok {cfg : Cfg} {s : State}
    (hpool : ∀ q, (s.pl q).owner ≠ .notCreated →
      (s.pl q).idle + (s.pl q).exited + wsum (fActQ cfg q) 0 s.tasks + wsum (fOwnQ cfg q) 0 s.pools
        = (cfg.pool q).size)
    (hok : ∀ q, PoolOK cfg q (s.pl q)) : PInv cfg s :=
  ⟨hpool, fun q => (hok q).exited_sd, fun q => (hok q).sd_main, fun q => (hok q).fin_exit,
    fun q => (hok q).sub_lt, fun q => (hok q).fresh0⟩

theorem PoolOK.running {cfg : Cfg} {q : Nat} {P : PoolSt} (h : PoolOK cfg q P)
    (ho : P.owner = .collect ∨ ∃ k, P.owner = .submit k) : P.shutdown = false ∧ P.exited = 0 := by
  have hsd : P.shutdown = false := by
    cases hh : P.shutdown
    · rfl
    · obtain ⟨e, he | he⟩ := h.sd_main.1 hh <;> rcases ho with ho | ⟨k, ho⟩ <;> simp [ho] at he
  refine ⟨hsd, ?_⟩
  rcases Nat.eq_zero_or_pos P.exited with h0 | h0
  · exact h0
  · have := h.exited_sd h0; simp [hsd] at this

theorem PoolOK.keep {cfg : Cfg} {q : Nat} {P P' : PoolSt} (h : PoolOK cfg q P) (hnc : P.owner ≠ .notCreated)
    (ho : P'.owner = P.owner) (he : P'.exited = P.exited) (hsd : P'.shutdown = P.shutdown) : PoolOK cfg q P' :=
  ⟨by rw [he, hsd]; exact h.exited_sd, by rw [hsd, ho]; exact h.sd_main, by rw [ho, he]; exact h.fin_exit,
    by rw [ho]; exact h.sub_lt, fun e => absurd (ho ▸ e) hnc⟩

theorem init_own_zero (cfg : Cfg) (wf : WF cfg) (q : Nat) : wsum (fOwnQ cfg q) 0 (init cfg).pools = 0 := by
  apply wsum_eq_zero
  intro q' P hP
  have hlt : q' < cfg.nPools := by simpa [init] using getElem?_lt hP
  have : P = initPool cfg q' := by
    simp [init, List.getElem?_map, List.getElem?_range hlt] at hP; exact hP.symm
  subst this
  simp only [Nat.zero_add, fOwnQ]
  unfold initPool
  split
  · rename_i h0; subst h0
    simp [parentPool, wf.root]
  · simp [ownAct]

theorem PInv_init {cfg : Cfg} (wf : WF cfg) : PInv cfg (init cfg) := by
  refine .of_ok (fun q hq => ?_) (fun q => ?_)
  · rcases init_pl_cases cfg q with ⟨rfl, e⟩ | e
    · rw [e, init_own_zero cfg wf]
      have : wsum (fActQ cfg 0) 0 (init cfg).tasks = 0 := by
        simp only [init]; rw [wsum_replicate]; intro i; simp [fActQ]
      rw [this]; rfl
    · rw [e] at hq; exact absurd rfl hq
  · rcases init_pl_cases cfg q with ⟨rfl, e⟩ | e <;> rw [e]
    · exact ⟨nofun, by simp, nofun, fun k hk => by cases hk; exact wf.jobs_pos 0 wf.pools_pos, nofun⟩
    · exact ⟨nofun, by simp, nofun, nofun, fun _ => ⟨rfl, rfl, rfl, rfl⟩⟩


theorem own_set {cfg : Cfg} {ps : List PoolSt} {q : Nat} {P : PoolSt} (hP : ps[q]? = some P)
    (P' : PoolSt) (q'' : Nat) :
    wsum (fOwnQ cfg q'') 0 (ps.set q P') + fOwnQ cfg q'' q P
      = wsum (fOwnQ cfg q'') 0 ps + fOwnQ cfg q'' q P' :=
  wsum_set0 (fOwnQ cfg q'') P' hP

theorem own_set_same {cfg : Cfg} {ps : List PoolSt} {q : Nat} {P P' : PoolSt} (hP : ps[q]? = some P)
    (ho : ownAct P'.owner = ownAct P.owner) (q'' : Nat) :
    wsum (fOwnQ cfg q'') 0 (ps.set q P') = wsum (fOwnQ cfg q'') 0 ps := by
  have := own_set (cfg := cfg) hP P' q''
  simp only [fOwnQ, ho] at this
  omega

theorem own_addIdle (cfg : Cfg) (ps : List PoolSt) (q q'' : Nat) :
    wsum (fOwnQ cfg q'') 0 (addIdle ps q) = wsum (fOwnQ cfg q'') 0 ps := by
  unfold addIdle
  by_cases h : q < ps.length
  · show wsum (fOwnQ cfg q'') 0
        (ps.set q { ps.getD q default with idle := (ps.getD q default).idle + 1 }) = _
    exact own_set_same (cfg := cfg) (ps := ps) (q := q) (P := ps.getD q default)
      (P' := { ps.getD q default with idle := (ps.getD q default).idle + 1 })
      (by simp [List.getD_eq_getElem?_getD, h]) rfl q''
  · rw [List.set_eq_of_length_le (by omega)]

theorem SInv.act_unique {cfg : Cfg} {s : State} (h : SInv cfg s) {i k : Nat} {p q : Pc}
    (hi : s.tasks[i]? = some p) (hk : s.tasks[k]? = some q) (hp : act p = true) (hq : act q = true)
    (hj : cfg.job i = cfg.job k) : i = k := by
  have hpn : p ≠ .notStarted := by intro e; subst e; simp at hp
  have hqn : q ≠ .notStarted := by intro e; subst e; simp at hq
  rcases Nat.lt_trichotomy i k with hlt | heq | hgt
  · have := h.order i k q hlt hj.symm hk hqn
    rw [hi] at this; simp at this; subst this; simp at hp
  · exact heq
  · have := h.order k i p hgt hj hi hpn
    rw [hk] at this; simp at this; subst this; simp at hq

theorem SInv.act_created {cfg : Cfg} (wf : WF cfg) {s : State} (h : SInv cfg s) {i : Nat} {p : Pc}
    (hi : s.tasks[i]? = some p) (hp : act p = true) : (s.pl (cfg.poolOf i)).owner ≠ .notCreated := by
  intro e
  have hil : i < cfg.n := by rw [← h.tasks_len]; exact getElem?_lt hi
  have hpn : p ≠ .notStarted := by intro e'; subst e'; simp at hp
  have := (h.fresh _ e).2 (cfg.job i) (wf.pool_job _ (wf.job_lt i hil))
  exact h.started i p hi hpn this

theorem SInv.own_created {cfg : Cfg} (wf : WF cfg) {s : State} (h : SInv cfg s) {q q' : Nat}
    (hq' : q' < cfg.nPools) (ho : ownAct (s.pl q').owner = true) (hpp : parentPool cfg q' = some q) :
    (s.pl q).owner ≠ .notCreated := by
  intro e
  simp only [parentPool, Option.map_eq_some_iff] at hpp
  obtain ⟨jp, hjp, rfl⟩ := hpp
  have hjl := (wf.parent_sub q' jp hq' hjp).1
  have := (h.fresh _ e).2 jp (wf.pool_job jp hjl)
  exact h.created q' jp hjp (by intro e'; rw [e'] at ho; simp [ownAct] at ho) this

theorem fresh_sums_zero {cfg : Cfg} (wf : WF cfg) {s : State} (h : SInv cfg s) {q : Nat}
    (hq : (s.pl q).owner = .notCreated) :
    wsum (fActQ cfg q) 0 s.tasks = 0 ∧ wsum (fOwnQ cfg q) 0 s.pools = 0 := by
  constructor
  · apply wsum_eq_zero
    intro i p hi
    simp only [Nat.zero_add, fActQ]
    split
    · rename_i hc
      exact absurd (hc.2 ▸ hq) (h.act_created wf hi hc.1)
    · rfl
  · apply wsum_eq_zero
    intro q' P hP
    simp only [Nat.zero_add, fOwnQ]
    split
    · rename_i hc
      have hq'l : q' < cfg.nPools := by rw [← h.pools_len]; exact getElem?_lt hP
      exact absurd hq (h.own_created wf hq'l (by rw [pl_of_get hP]; exact hc.1) hc.2)
    · rfl

theorem PInv_tasks {cfg : Cfg} {s s' : State} (h : PInv cfg s) (hp : s'.pools = s.pools)
    (ha : ∀ q, wsum (fActQ cfg q) 0 s'.tasks = wsum (fActQ cfg q) 0 s.tasks) : PInv cfg s' := by
  have hpl : ∀ q, s'.pl q = s.pl q := fun q => by simp [State.pl, hp]
  refine .of_ok (fun q hq => ?_) (fun q => by rw [hpl]; exact h.ok q)
  rw [hpl] at hq ⊢; rw [ha, hp]; exact h.pool q hq

theorem act_set_same {cfg : Cfg} {l : List Pc} {i : Nat} {p x : Pc} (hi : l[i]? = some p)
    (hpx : act x = act p) (q : Nat) :
    wsum (fActQ cfg q) 0 (l.set i x) = wsum (fActQ cfg q) 0 l := by
  have := wsum_set0 (fActQ cfg q) x hi
  simp only [fActQ, hpx] at this
  omega

theorem act_wake_sum (cfg : Cfg) (l : List Pc) (q : Nat) :
    wsum (fActQ cfg q) 0 (l.map wake) = wsum (fActQ cfg q) 0 l :=
  wsum_map _ wake (by intro i p; simp [fActQ, act_wake]) l 0

/-- pool `q` becomes `P'` while `a` tensors of the pool leave the state "in progress" and `b` enter it: the pool's threads
    only move between idle, exited and working -/
theorem PInv_move {cfg : Cfg} {s s' : State} (h : PInv cfg s) {q : Nat} {P P' : PoolSt}
    (hP : s.pools[q]? = some P) (hps : s'.pools = s.pools.set q P')
    (hown : ∀ q'', fOwnQ cfg q'' q P' = fOwnQ cfg q'' q P) (a b : Nat)
    (hA : ∀ q'', wsum (fActQ cfg q'') 0 s'.tasks + (if q'' = q then a else 0)
      = wsum (fActQ cfg q'') 0 s.tasks + (if q'' = q then b else 0))
    (hcnt : P'.idle + P'.exited + b = P.idle + P.exited + a)
    (hncP : P.owner ≠ .notCreated) (hok : PoolOK cfg q P') : PInv cfg s' := by
  have hplq := pl_of_get hP
  have hpl := pl_of_set hP hps
  have hO : ∀ q'', wsum (fOwnQ cfg q'') 0 s'.pools = wsum (fOwnQ cfg q'') 0 s.pools := by
    intro q''
    have := own_set (cfg := cfg) hP P' q''
    have e := hown q''
    rw [hps]; omega
  refine .of_ok (fun q' hq' => ?_) (fun q' => ?_)
  · rw [hpl] at hq' ⊢; rw [hO]
    have hA' := hA q'
    by_cases e : q' = q
    · subst e; simp only [if_true] at hA' ⊢
      have := h.pool q' (by rw [hplq]; exact hncP)
      rw [hplq] at this; omega
    · simp only [e, if_false] at hq' hA' ⊢
      have := h.pool q' hq'; omega
  · exact pl_forall_set h.ok hP hps hok q'

theorem PInv_set_pool {cfg : Cfg} {s s' : State} (h : PInv cfg s) {q : Nat} {P P' : PoolSt}
    (hP : s.pools[q]? = some P) (hps : s'.pools = s.pools.set q P') (hts : s'.tasks = s.tasks)
    (hown : ∀ q'', fOwnQ cfg q'' q P' = fOwnQ cfg q'' q P)
    (hcnt : P'.idle + P'.exited = P.idle + P.exited)
    (hncP : P.owner ≠ .notCreated) (hok : PoolOK cfg q P') : PInv cfg s' :=
  PInv_move h hP hps hown 0 0 (fun _ => by rw [hts]) hcnt hncP hok

theorem PInv_finish {cfg : Cfg} (wf : WF cfg) {s : State} (h : PInv cfg s) (hs : SInv cfg s) {i : Nat}
    {p : Pc} (ok : Bool) (hi : s.tasks[i]? = some p) (hp : act p = true) :
    PInv cfg (finishTask cfg s i ok) := by
  have hlt := getElem?_lt hi
  have hil : i < cfg.n := by rw [← hs.tasks_len]; exact hlt
  have hpd : p ≠ .done true := by intro e; subst e; simp at hp
  rcases finishTask_cases cfg s i ok with ⟨rfl, hn, e⟩ | ⟨_, e⟩ <;> rw [e]
  · refine PInv_tasks h rfl (fun q => ?_)
    have hnext := hs.next_notStarted hi hpd hn
    have h1 := wsum_set0 (fActQ cfg q) (.done true) hi
    have h2 := wsum_set0 (fActQ cfg q) (firstPc cfg (cfg.poolOf i)) (get_set_succ (x := .done true) hnext)
    simp only [fActQ, hp, poolOf_next hn, act_done, act_notStarted, act_firstPc] at h1 h2 ⊢
    simp at h1 h2
    omega
  · have hq0 : cfg.poolOf i < s.pools.length := by rw [hs.pools_len]; exact wf.poolOf_lt hil
    have hcr := hs.act_created wf hi hp
    have hP := pl_get hq0
    -- the thread leaves the tensor and returns to `idle`
    refine PInv_move h hP (P' := { s.pl (cfg.poolOf i) with idle := (s.pl (cfg.poolOf i)).idle + 1 }) rfl
      (fun _ => rfl) 1 0 (fun q => ?_) (by simp only; omega) hcr ((h.ok _).keep hcr rfl rfl rfl)
    have h1 := wsum_set0 (fActQ cfg q) (.done ok) hi
    simp only [fActQ, hp, act_done] at h1
    by_cases e : q = cfg.poolOf i
    · subst e; simp at h1 ⊢; omega
    · have e' : ¬ cfg.poolOf i = q := fun x => e x.symm
      simp [e, e'] at h1 ⊢; omega

theorem PInv_takeSerial {cfg : Cfg} (wf : WF cfg) {s s' : State} (h : PInv cfg s) (hs : SInv cfg s)
    {q j : Nat} {rest : List Nat} {P : PoolSt} (hP : s.pools[q]? = some P) (hq : P.queue = j :: rest)
    (hidle : P.idle ≠ 0) (hsub : (cfg.jobc j).sub = none)
    (hps : s'.pools = s.pools.set q { P with queue := rest, idle := P.idle - 1 })
    (hts : s'.tasks = s.tasks.set (cfg.jobc j).start (firstPc cfg q)) : PInv cfg s' := by
  have hplq := pl_of_get hP
  have hj : j ∈ (s.pl q).queue := by rw [hplq, hq]; simp
  have hpj := hs.q_pending q j hj
  have hjl : j < cfg.nJobs := by rw [← hs.futs_len]; exact getElem?_lt hpj.1
  have hpo : cfg.poolOf (cfg.jobc j).start = q := by
    unfold Cfg.poolOf; rw [wf.start_job j hjl hsub]; exact hpj.2
  have hst := hs.start_notStarted wf hj hsub
  have hncP : P.owner ≠ .notCreated := (take_facts hs hP hq).created
  have hokq := h.ok q
  rw [hplq] at hokq
  -- one thread of the pool leaves `idle` and starts the first tensor of the job
  refine PInv_move h hP hps (fun _ => rfl) 0 1 (fun q'' => ?_) (by simp only; omega) hncP
    (hokq.keep hncP rfl rfl rfl)
  have := wsum_set0 (fActQ cfg q'') (firstPc cfg q) hst
  simp only [fActQ, act_notStarted, act_firstPc, hpo] at this
  rw [hts]
  by_cases e : q = q''
  · subst e; simp at this ⊢; omega
  · have e' : ¬ q'' = q := fun x => e x.symm
    simp [e, e'] at this ⊢; omega


/-- a thread of `q` becomes the owner of the new pool `q'`: in the sum of `q` it moves from `idle` to the owned pools -/
theorem PInv_takeSub {cfg : Cfg} (wf : WF cfg) {s s' : State} (h : PInv cfg s) (hs : SInv cfg s)
    {q j q' : Nat} {rest : List Nat} {P : PoolSt} (hP : s.pools[q]? = some P) (hq : P.queue = j :: rest)
    (hidle : P.idle ≠ 0) (hsub : (cfg.jobc j).sub = some q')
    (hps : s'.pools = createPool cfg (s.pools.set q { P with queue := rest, idle := P.idle - 1 }) q')
    (hts : s'.tasks = s.tasks) : PInv cfg s' := by
  have hplq := pl_of_get hP
  obtain ⟨_, _, hpj, hpool, hjl, hncP⟩ := take_facts hs hP hq
  obtain ⟨hq'l, hpar, hlt⟩ := wf.sub_pool j q' hjl hsub
  have hqq : q' ≠ q := by rw [hpool] at hlt; omega
  have hfr := (takeSub_facts wf hs hP hq hsub).2.1
  obtain ⟨hf1, hf2, hf3, hf4⟩ := h.fresh0 q' hfr
  obtain ⟨hz1, hz2⟩ := fresh_sums_zero wf hs hfr
  have hpl := takeSub_pl hP hqq hps (takeSub_facts wf hs hP hq hsub).2.2
  have hpp : parentPool cfg q' = some q := by simp [parentPool, hpar, hpool]
  have hO : ∀ q'', wsum (fOwnQ cfg q'') 0 s'.pools =
      wsum (fOwnQ cfg q'') 0 s.pools + (if q'' = q then 1 else 0) := by
    intro q''
    have h1 := own_set_same (cfg := cfg) (P' := { P with queue := rest, idle := P.idle - 1 }) hP rfl q''
    have hget := set_pl_get { P with queue := rest, idle := P.idle - 1 } hqq (takeSub_facts wf hs hP hq hsub).2.2
    have h2 := own_set (cfg := cfg) hget
      { (s.pools.set q { P with queue := rest, idle := P.idle - 1 }).getD q' default with
        owner := .submit 0, idle := (cfg.pool q').size } q''
    rw [hps]; unfold createPool
    simp only [fOwnQ, hfr, ownAct, hpp] at h2
    by_cases e : q = q''
    · subst e; simp at h2 ⊢; omega
    · have e' : ¬ q'' = q := fun x => e x.symm
      simp [e, e'] at h2 ⊢; omega
  have hokq := h.ok q
  rw [hplq] at hokq
  refine .of_ok (fun q'' hq'' => ?_) (fun q'' => ?_)
  · rw [hpl] at hq'' ⊢; rw [hO, hts]
    by_cases e1 : q'' = q'
    · subst e1
      simp only [if_true, hqq, if_false]
      rw [hz1, hz2, hf2]
      simp
    · simp only [e1, if_false] at hq'' ⊢
      by_cases e : q'' = q
      · subst e; simp only [if_true]
        have := h.pool q'' (by rw [hplq]; exact hncP)
        rw [hplq] at this; omega
      · simp only [e, if_false] at hq'' ⊢; exact h.pool q'' hq''
  · rw [hpl]; split
    ·
      rename_i e; subst e
      exact ⟨by simp only; rw [hf2]; intro hh; omega, by simp only; rw [hf3]; simp, by simp,
        fun k hk => by simp at hk; subst hk; exact wf.jobs_pos _ hq'l, by simp⟩
    · split
      · rename_i e; subst e; exact hokq.keep hncP rfl rfl rfl
      · exact h.ok q''


/-- the converse: the owner of `q` closes its pool and is an idle thread of the pool that owns `q` again -/
theorem PInv_joinSub {cfg : Cfg} (wf : WF cfg) {s s' : State} (h : PInv cfg s) (hs : SInv cfg s)
    {q jp : Nat} {e : Bool} {P : PoolSt} (hP : s.pools[q]? = some P) (hm : P.owner = .join e)
    (hex : P.exited = (cfg.pool q).size) (hpar : (cfg.pool q).parent = some jp)
    (hps : s'.pools = addIdle (s.pools.set q { P with owner := .closed e }) (cfg.jobc jp).pool)
    (hts : s'.tasks = s.tasks) : PInv cfg s' := by
  have hplq := pl_of_get hP
  have hql : q < cfg.nPools := by rw [← hs.pools_len]; exact getElem?_lt hP
  obtain ⟨hjpl, hjsub⟩ := wf.parent_sub q jp hql hpar
  obtain ⟨_, _, hlt⟩ := wf.sub_pool jp q hjpl hjsub
  have hpql : (cfg.jobc jp).pool < cfg.nPools := (wf.job_pool _ _ (wf.pool_job jp hjpl)).2.2
  have hne : (cfg.jobc jp).pool ≠ q := by omega
  have hpp : parentPool cfg q = some (cfg.jobc jp).pool := by simp [parentPool, hpar]
  have hncpq : (s.pl (cfg.jobc jp).pool).owner ≠ .notCreated :=
    hs.own_created wf hql (by rw [hplq, hm]; rfl) hpp
  have hlen1 : (cfg.jobc jp).pool < (s.pools.set q { P with owner := .closed e }).length := by
    simp [hs.pools_len]; exact hpql
  have hpl : ∀ q', s'.pl q' =
      if q' = (cfg.jobc jp).pool then { s.pl q' with idle := (s.pl q').idle + 1 }
      else if q' = q then { P with owner := .closed e } else s.pl q' := by
    intro q'
    simp only [State.pl, hps, addIdle_get, hlen1, and_true]
    by_cases e1 : q' = (cfg.jobc jp).pool
    · subst e1
      simp only [if_true]
      rw [pl_upd hP]; simp [hne, State.pl]
    · simp only [e1, if_false]
      exact pl_upd hP q'
  have hO : ∀ q'', wsum (fOwnQ cfg q'') 0 s'.pools + (if q'' = (cfg.jobc jp).pool then 1 else 0) =
      wsum (fOwnQ cfg q'') 0 s.pools := by
    intro q''
    rw [hps, own_addIdle]
    have h2 := own_set (cfg := cfg) hP { P with owner := .closed e } q''
    simp only [fOwnQ, hm, ownAct, hpp] at h2
    by_cases e1 : (cfg.jobc jp).pool = q''
    · subst e1; simp at h2 ⊢; omega
    · have e' : ¬ q'' = (cfg.jobc jp).pool := fun x => e1 x.symm
      simp [e1, e'] at h2 ⊢; omega
  have hsdq := h.sd_main q; have hexq := h.exited_sd q
  rw [hplq] at hsdq hexq
  have hsdP : P.shutdown = true := hsdq.2 ⟨e, Or.inl hm⟩
  refine .of_ok (fun q' hq' => ?_) (fun q' => ?_)
  · rw [hpl] at hq' ⊢; rw [hts]
    have hOq := hO q'
    by_cases e1 : q' = (cfg.jobc jp).pool
    · subst e1
      simp only [if_true] at hq' hOq ⊢
      have := h.pool _ hncpq
      omega
    · simp only [e1, if_false] at hq' hOq ⊢
      by_cases e2 : q' = q
      · subst e2; simp only [if_true]
        have := h.pool q' (by rw [hplq, hm]; simp)
        rw [hplq] at this; omega
      · simp only [e2, if_false] at hq' ⊢
        have := h.pool q' hq'; omega
  · rw [hpl]; split
    · exact (h.ok q').keep (by rename_i e1; rw [e1]; exact hncpq) rfl rfl rfl
    · split
      · rename_i e2; subst e2
        exact ⟨hexq, by simp [hsdP], fun _ _ => hex, by simp, by simp⟩
      · exact h.ok q'

theorem PInv_step {cfg : Cfg} (wf : WF cfg) {s s' : State} {l : Label} (hs : SInv cfg s)
    (h : PInv cfg s) (hst : StepRel cfg s l s') : PInv cfg s' := by
  cases hst with
  | submit q c k j P hP hk hj =>
      have hplq := pl_of_get hP
      have hex := h.exited_sd q
      rw [hplq] at hex
      have hsdF : P.shutdown = false := ((hplq ▸ h.ok q).running (Or.inr ⟨k, hk⟩)).1
      have hklt := getElem?_lt hj
      refine PInv_set_pool h hP rfl rfl (fun q'' => ?_) rfl (by rw [hk]; simp)
        ⟨fun hh => hex hh, ?_, ?_, ?_, fun e => absurd e ?_⟩
      · simp only [fOwnQ, hk]; split <;> simp [ownAct]
      · simp only [hsdF]; constructor
        · intro hh; simp at hh
        · rintro ⟨e, he | he⟩ <;> (split at he <;> simp at he)
      · intro e he; simp only at he; split at he <;> simp at he
      · intro k' hk'; simp only at hk'; split at hk' <;> simp at hk'; omega
      · simp only; split <;> simp
  | collect q c j ok P hP hm hjj hf =>
      obtain ⟨hsdF, hex0⟩ := (pl_of_get hP ▸ h.ok q).running (Or.inl hm)
      -- the owner moves on to `join` and shuts the pool down (first three cases)
      have joined : ∀ (e' : Bool) (col qu : List Nat), PoolOK cfg q
          { P with collected := col, shutdown := true, owner := .join e', queue := qu } := fun e' col qu =>
        ⟨fun _ => rfl, ⟨fun _ => ⟨e', Or.inl rfl⟩, fun _ => rfl⟩, nofun, nofun, nofun⟩
      rcases collectOne_cases cfg s q P j ok with ⟨_, _, e⟩ | ⟨_, _, e⟩ | ⟨_, _, e⟩ | ⟨_, _, e⟩ <;> rw [e]
      iterate 3
        refine PInv_set_pool h hP rfl rfl (fun q'' => ?_) rfl (by rw [hm]; simp) (joined _ _ _)
        simp [fOwnQ, hm, ownAct]
      · refine PInv_set_pool h hP rfl rfl (fun q'' => ?_) rfl (by rw [hm]; simp)
          ⟨by simp [hex0], by simp [hsdF, hm], by simp [hm], by simp [hm], fun e => absurd e (by simp [hm])⟩
        simp [fOwnQ]
  | joinRoot q c e P hP hm hex hpar =>
      have hplq := pl_of_get hP
      have hsd := h.sd_main q
      rw [hplq] at hsd
      have hsdT : P.shutdown = true := hsd.2 ⟨e, Or.inl hm⟩
      refine PInv_set_pool h hP rfl rfl (fun q'' => ?_) rfl (by rw [hm]; simp)
        ⟨by simp [hsdT], by simp [hsdT], by simp [hex], by simp, fun e => absurd e (by simp)⟩
      simp [fOwnQ, parentPool, hpar]
  | joinSub q c e P jp hP hm hex hpar => exact PInv_joinSub wf h hs hP hm hex hpar rfl rfl
  | takeSerial q j rest P hP hq hidle hsub => exact PInv_takeSerial wf h hs hP hq hidle hsub rfl rfl
  | takeSub q j rest P q' hP hq hidle hsub => exact PInv_takeSub wf h hs hP hq hidle hsub rfl rfl
  | exit q P hP hq hsd hidle =>
      have hplq := pl_of_get hP
      have hsdq := h.sd_main q; have hfq := h.fin_exit q; have hsq := h.sub_lt q; have hfr := h.fresh0 q
      rw [hplq] at hsdq hfq hsq hfr
      have hnc : P.owner ≠ .notCreated := by
        intro e; have := (hfr e).2.2.1; simp [hsd] at this
      have hpool := h.pool q (by rw [hplq]; exact hnc)
      rw [hplq] at hpool
      refine PInv_set_pool h hP rfl rfl (fun q'' => rfl) (by simp; omega) hnc
        ⟨fun _ => hsd, hsdq, ?_, hsq, fun e => absurd e hnc⟩
      intro e he
      have := hfq e he
      simp only; omega
  | cbAcqIn i hi hl => exact PInv_tasks h rfl (act_set_same hi rfl)
  | cbAcq i hi hl => exact PInv_tasks h rfl (act_set_same hi rfl)
  | cbFail i hi hf =>
      exact PInv_finish wf (s := cbExit cfg s i)
        (PInv_tasks h rfl (fun _ => rfl))
        (SInv_cbExit hs i)
        false hi rfl
  | cbOk i hi hf => exact PInv_tasks h rfl (act_set_same hi rfl)
  | tAcq i hi hl => exact PInv_tasks h rfl (act_set_same hi (by simp))
  | bTry i p hi hp =>
      have hp1 : act p = true := by rcases hp with rfl | rfl <;> rfl
      rcases budgetTry_cases cfg s i with ⟨_, _, e⟩ | ⟨_, _, e⟩ | ⟨_, _, e⟩ | ⟨_, _, e⟩ <;> rw [e] <;>
        exact PInv_tasks h rfl (act_set_same hi (by rw [hp1]; rfl))
  | writeFail i hi hf => exact PInv_tasks h rfl (act_set_same hi rfl)
  | writeOk i hi hf => exact PInv_tasks h rfl (act_set_same hi rfl)
  | bRel i ok hi =>
      unfold budgetRelease
      refine PInv_finish wf (p := .bRel ok) ?_ ?_ ok (by simp [hi, wake]) rfl
      · exact PInv_tasks h rfl (act_wake_sum cfg s.tasks)
      · exact SInv_release hs i

/-- every thread in the wait set (not notified) has a false `wait_for` predicate: no lost wake-up -/
def WInv (cfg : Cfg) (s : State) : Prop :=
  ∀ i : Nat, s.tasks[i]? = some .waiting →
    (cfg.size i > cfg.capacity → s.oversized = true) ∧
    (cfg.size i ≤ cfg.capacity → ¬ s.inFlight + cfg.size i ≤ cfg.capacity)

theorem WInv_init (cfg : Cfg) : WInv cfg (init cfg) := by
  intro i hi
  simp [init, List.getElem?_replicate] at hi

theorem firstPc_ne_waiting (cfg : Cfg) (q : Nat) : firstPc cfg q ≠ .waiting := by simp [firstPc]
theorem afterT_ne_waiting (cfg : Cfg) (q : Nat) : afterT cfg q ≠ .waiting := by
  unfold afterT; split <;> simp

theorem WInv_step {cfg : Cfg} {s s' : State} {l : Label} (h : WInv cfg s)
    (hst : StepRel cfg s l s') : WInv cfg s' := by
  cases hst with
  | submit q c k j P hP hk hj => exact h
  | collect q c j ok P hP hm hjj hf =>
      rcases collectOne_cases cfg s q P j ok with ⟨_, _, e⟩ | ⟨_, _, e⟩ | ⟨_, _, e⟩ | ⟨_, _, e⟩ <;> rw [e] <;>
        exact h
  | joinRoot q c e P hP hm hex hpar => exact h
  | joinSub q c e P jp hP hm hex hpar => exact h
  | takeSerial q j rest P hP hq hidle hsub =>
      intro k hk; exact h k (get_of_set_ne (firstPc_ne_waiting cfg q) hk)
  | takeSub q j rest P q' hP hq hidle hsub => exact h
  | exit q P hP hq hsd hidle => exact h
  | cbAcqIn i hi hl => intro k hk; exact h k (get_of_set_ne (by simp) hk)
  | cbAcq i hi hl => intro k hk; exact h k (get_of_set_ne (by simp) hk)
  | cbFail i hi hf =>
      intro k hk
      have := finishTask_get (y := .waiting) nofun nofun hk
      simpa using h k this
  | cbOk i hi hf => intro k hk; exact h k (get_of_set_ne (by simp) hk)
  | tAcq i hi hl => intro k hk; exact h k (get_of_set_ne (afterT_ne_waiting _ _) hk)
  | bTry i p hi hp =>
      rcases budgetTry_cases cfg s i with ⟨h1, h2, e⟩ | ⟨h1, h2, e⟩ | ⟨h1, h2, e⟩ | ⟨h1, h2, e⟩ <;>
        rw [e] <;> intro k hk
      · by_cases hik : i = k
        · subst hik; exact ⟨fun _ => h2, fun h3 => by omega⟩
        · simp only [List.getElem?_set, hik, if_false] at hk; exact h k hk
      · have := h k (get_of_set_ne (by simp) hk)
        exact ⟨fun _ => rfl, this.2⟩
      · have := h k (get_of_set_ne (by simp) hk)
        refine ⟨this.1, fun h3 => ?_⟩
        have := this.2 h3
        show ¬ s.inFlight + cfg.size i + cfg.size k ≤ cfg.capacity
        omega
      · by_cases hik : i = k
        · subst hik; exact ⟨fun h3 => by omega, fun _ => h2⟩
        · simp only [List.getElem?_set, hik, if_false] at hk; exact h k hk
  | writeFail i hi hf => intro k hk; exact h k (get_of_set_ne (by simp) hk)
  | writeOk i hi hf => intro k hk; exact h k (get_of_set_ne (by simp) hk)
  | bRel i ok hi =>
      intro k hk
      unfold budgetRelease at hk
      have := finishTask_get (y := .waiting) nofun nofun hk
      simp only [List.getElem?_map, Option.map_eq_some_iff] at this
      obtain ⟨q, _, hq⟩ := this
      cases q <;> simp [wake] at hq

end IrVerif.WriterN
