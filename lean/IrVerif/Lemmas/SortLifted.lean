/-
C12 — in a well-scoped tree every cycle of the flat dependency relation `Dep` (the one
`Graph.sort` uses) yields a cycle of the property's own per-graph relation `LiftedDep`
("used by it or by any node nested inside it", restricted to the nodes of one graph).
-/
import IrVerif.Lemmas.SortStable
import Mathlib.Data.Nat.Find

namespace IrVerif.Sort
open List

/-- the property's own dependency relation inside one graph `h`: `c` (or a node nested at any
    depth in `c`) uses a value produced by `p`, both nodes of `h` -/
def LiftedDep (h : MGraph) (a b : Nat) : Prop :=
  ∃ p ∈ h.2, ∃ c ∈ h.2, p.id = a ∧ c.id = b ∧ ∃ u ∈ entsN h.1 c, some a ∈ u.inputs

/-- a node of graph `h` lies in the span of a node `m` of `h` only if it is `m` -/
theorem direct_in_span_eq {g h : MGraph} (hids : (idsOf (nodesOf g)).Nodup) (hh : h ∈ allGraphs g)
    {na m : MNode} (hna : na ∈ h.2) (hm : m ∈ h.2) (hmem : entOf h.1 na ∈ entsN h.1 m) :
    na = m := by
  have hcur := graph_ids_nodup hids hh
  rcases ent_is_node m h.1 _ hmem with heq | ⟨h', hh', x, hx, heq⟩
  · exact List.inj_on_of_nodup_map hcur hna hm (congrArg Ent.id heq)
  · exfalso
    have hid : na.id = x.id := congrArg Ent.id heq
    obtain ⟨o, ho, hall⟩ := graph_owner m h.1 h' hh'
    have hoin : o ∈ entsNs h.1 h.2 := (entsN_infix_entsNs hm).subset ho
    have hperm := ids_perm_Ns (ns := h.2) (fun m _ => ids_perm_N m) h.1
    have hsub : (idsOf (entsNs h.1 h.2)).Nodup :=
      List.Nodup.sublist ((graph_infix hh).sublist.map _) hids
    have hnd := hperm.nodup_iff.1 hsub
    have := (List.nodup_append.1 hnd).2.2 na.id (List.mem_map.2 ⟨na, hna, rfl⟩) na.id
      (List.mem_flatMap.2 ⟨o, hoin, by rw [hid]; exact hall x hx⟩)
    exact this rfl

/-- **one step of a dependency cycle, seen from graph `h`.**  `ey` lies in the span of node `m`
    of `h`, `ez` depends on `ey`, and `ez` is not placed before `ea` (an entry of the span of `h`).
    Then `ez` lies in the span of a node `m'` of `h`, and either `m' = m` and `ey` is strictly
    inside `m`, or `m'` (lifted-)depends on `m`. -/
theorem lifted_step {g : MGraph} (hids : (idsOf (nodesOf g)).Nodup) (hws : WellScoped g)
    {h : MGraph} (hh : h ∈ allGraphs g) {ea : Ent} (hea : ea ∈ entsNs h.1 h.2)
    {m : MNode} (hm : m ∈ h.2) {ey ez : Ent} (hey : ey ∈ entsN h.1 m) (hez : ez ∈ nodesOf g)
    (hdep : some ey.id ∈ ez.inputs ∨ ey.id ∈ ez.subNodes)
    (hnot : ¬ Before (nodesOf g) ez ea) :
    ∃ m' ∈ h.2, ez ∈ entsN h.1 m' ∧
      ((m' = m ∧ ey ≠ entOf h.1 m) ∨ LiftedDep h m.id m'.id) := by
  rcases edge_consumer hids hws hh hm hey hez hdep with ⟨hne, hin⟩ | ⟨rfl, hin, hez_in⟩ | ⟨rfl, _, hbef⟩
  · exact ⟨m, hm, hin, Or.inl ⟨rfl, hne⟩⟩
  · obtain ⟨m', hm', hezm'⟩ := mem_entsNs.1 hez_in
    exact ⟨m', hm', hezm', Or.inr ⟨m, hm, m', hm', rfl, rfl, ez, hezm', hin⟩⟩
  · exact absurd (hbef ea hea) hnot

/-- a cyclic node of minimal position gives a lifted cycle in its own graph -/
theorem lifted_cycle_of_min {g : MGraph} (hids : (idsOf (nodesOf g)).Nodup) (hws : WellScoped g)
    {a : Nat} (hcyc : Relation.TransGen (Dep (nodesOf g)) a a)
    (hmin : ∀ c, Relation.TransGen (Dep (nodesOf g)) c c →
      posOf (nodesOf g) a ≤ posOf (nodesOf g) c) :
    ∃ h ∈ allGraphs g, ∃ x, Relation.TransGen (LiftedDep h) x x := by
  -- the entry and the graph of `a`
  obtain ⟨b0, hab0, _⟩ := Relation.TransGen.head'_iff.1 hcyc
  obtain ⟨ea, hea, _, _, hea_id, _, _⟩ := hab0
  obtain ⟨h, hh, na, hna, rfl⟩ := ent_is_node_root hea
  have ha : na.id = a := hea_id
  have hea_span : entOf h.1 na ∈ entsNs h.1 h.2 :=
    (entsN_infix_entsNs hna).subset (entOf_mem_entsN _ _)
  -- no cyclic node is placed before `a`
  have hnot : ∀ ez ∈ nodesOf g, Relation.TransGen (Dep (nodesOf g)) ez.id ez.id →
      ¬ Before (nodesOf g) ez (entOf h.1 na) := by
    intro ez hez hc hb
    have := at_lt_of_before hids hb (at_posOf hids hez) (at_posOf hids hea)
    have h2 := hmin ez.id hc
    have : posOf (nodesOf g) (entOf h.1 na).id = posOf (nodesOf g) a := by rw [← ha]; rfl
    omega
  -- one edge `y -> z` of the cycle, `y` in the span of node `m` of `h`
  have step : ∀ {y z : Nat} {ey : Ent} {m : MNode}, m ∈ h.2 → ey ∈ entsN h.1 m → ey.id = y →
      Dep (nodesOf g) y z → Relation.TransGen (Dep (nodesOf g)) a z → Relation.ReflTransGen (Dep (nodesOf g)) z a →
      ∃ ez ∈ nodesOf g, ez.id = z ∧ ∃ m' ∈ h.2, ez ∈ entsN h.1 m' ∧
        ((m' = m ∧ ey ≠ entOf h.1 m) ∨ LiftedDep h m.id m'.id) := by
    rintro y z ey m hm heym rfl ⟨_, _, ez, hez, _, rfl, hc⟩ haz hback
    obtain ⟨m', hm', hezm', hcase⟩ := lifted_step hids hws hh hea_span hm heym hez hc
      (hnot ez hez (Relation.TransGen.trans_right hback haz))
    exact ⟨ez, hez, rfl, m', hm', hezm', hcase⟩
  -- walk along the cycle
  have key : ∀ y, Relation.TransGen (Dep (nodesOf g)) a y →
      Relation.ReflTransGen (Dep (nodesOf g)) y a →
      ∃ ey ∈ nodesOf g, ey.id = y ∧ ∃ m ∈ h.2, ey ∈ entsN h.1 m ∧
        Relation.TransGen (LiftedDep h) a m.id := by
    intro y hay
    induction hay with
    | single hd =>
      intro hback
      obtain ⟨ez, hez, hidz, m', hm', hezm', hcase⟩ :=
        step hna (entOf_mem_entsN h.1 na) ha hd (Relation.TransGen.single hd) hback
      refine ⟨ez, hez, hidz, m', hm', hezm', ?_⟩
      rcases hcase with ⟨_, hne⟩ | hl
      · exact absurd rfl hne
      · rw [ha] at hl; exact Relation.TransGen.single hl
    | tail hay' hd ih =>
      intro hback
      obtain ⟨ey, hey, heyid, m, hm, heym, hchain⟩ := ih (Relation.ReflTransGen.head hd hback)
      obtain ⟨ez, hez, hidz, m', hm', hezm', hcase⟩ :=
        step hm heym heyid hd (Relation.TransGen.tail hay' hd) hback
      refine ⟨ez, hez, hidz, m', hm', hezm', ?_⟩
      rcases hcase with ⟨rfl, _⟩ | hl
      · exact hchain
      · exact Relation.TransGen.tail hchain hl
  obtain ⟨ey, hey, heyid, m, hm, heym, hchain⟩ := key a hcyc Relation.ReflTransGen.refl
  have : ey = entOf h.1 na := ent_eq_of_id hids hey hea (by rw [heyid]; exact ha.symm)
  rw [this] at heym
  have hnm : na = m := direct_in_span_eq hids hh hna hm heym
  subst hnm
  exact ⟨h, hh, a, by rw [ha] at hchain; exact hchain⟩

/-- **in a well-scoped tree, a cycle of the flat dependency relation gives a cycle of some graph's
    own (lifted) dependency relation** -/
theorem lifted_cycle_of_dep_cycle {g : MGraph} (hids : (idsOf (nodesOf g)).Nodup)
    (hws : WellScoped g) (hc : ∃ a, Relation.TransGen (Dep (nodesOf g)) a a) :
    ∃ h ∈ allGraphs g, ∃ x, Relation.TransGen (LiftedDep h) x x := by
  classical
  -- a cyclic node of least position
  have hex : ∃ n a, posOf (nodesOf g) a = n ∧ Relation.TransGen (Dep (nodesOf g)) a a :=
    let ⟨a, ha⟩ := hc; ⟨_, a, rfl, ha⟩
  obtain ⟨a, hpos, hcyc⟩ := Nat.find_spec hex
  refine lifted_cycle_of_min hids hws hcyc fun c hcc => ?_
  rw [hpos]
  exact Nat.find_min' hex ⟨c, rfl, hcc⟩

/-- a use of a value of `p` by `c` or by a node nested in `c` (both nodes of graph `h`) is a chain
    of the flat dependency relation: `p -> u -> owner of u's graph -> ... -> c` -/
theorem lifted_dep_chain {g h : MGraph} (hh : h ∈ allGraphs g) {p c : MNode} (hp : p ∈ h.2)
    (hc : c ∈ h.2) {u : Ent} (hu : u ∈ entsN h.1 c) (huse : some p.id ∈ u.inputs) :
    Relation.TransGen (Dep (nodesOf g)) p.id c.id := by
  have hsubc : entsN h.1 c ⊆ nodesOf g := (node_infix hh hc).subset
  have hpU : entOf h.1 p ∈ nodesOf g := (node_infix hh hp).subset (entOf_mem_entsN _ _)
  have hdep : Dep (nodesOf g) p.id u.id := ⟨_, hpU, u, hsubc hu, rfl, rfl, Or.inl huse⟩
  rcases owner_chain (nodesOf g) c h.1 hsubc u hu with rfl | hch
  · exact Relation.TransGen.single hdep
  · exact Relation.TransGen.head hdep hch

end IrVerif.Sort
