/-
For the IR version < 10 format (`ScopeFunc9Idem`): the resolution certificate (`replG`, `replNs`, `replF`) under a
change of `info` slots (`setInfo`), and:
the values whose information the proto carries are values the certificate introduces (`emitG ⊆ new`).
-/
import IrVerif.Lemmas.ScopeFunc9Frame
namespace IrVerif.Scope

/-! ### the certificate reads the info of truthy-named initializers it introduces, and nothing else -/

theorem replDecl_setInfo (V : Nat → ValueS) (I : Nat → Info) :
    ∀ (l : List Nat) (T : Table), replDecl (setInfo V I) T l = replDecl V T l
  | [], _ => rfl
  | v :: l, T => by
    simp only [replDecl, setInfo_name, nm_setInfo, replDecl_setInfo V I l]

theorem replRes_setInfo (V : Nat → ValueS) (I : Nat → Info) (outer : List Table) :
    ∀ (l : List (Option Nat)) (T : Table), replRes (setInfo V I) outer T l = replRes V outer T l
  | [], _ => rfl
  | none :: l, T => by simp only [replRes, replRes_setInfo V I outer l]
  | some v :: l, T => by
    simp only [replRes, setInfo_name, nm_setInfo, replRes_setInfo V I outer l]

theorem replOuts_setInfo (V : Nat → ValueS) (I : Nat → Info) (T : Table) :
    ∀ (l : List Nat), replOuts (setInfo V I) T l = replOuts V T l
  | [] => rfl
  | v :: l => by
    simp only [replOuts, setInfo_name, nm_setInfo, replOuts_setInfo V I T l]

theorem replInits_setInfo_eq (V : Nat → ValueS) (I : Nat → Info) (gouts : List Nat) :
    ∀ (inits : List (Name × Nat)) (T : Table),
      (replInits (setInfo V I) gouts T inits).tbl = (replInits V gouts T inits).tbl ∧
      (replInits (setInfo V I) gouts T inits).new = (replInits V gouts T inits).new
  | [], _ => ⟨rfl, rfl⟩
  | (k, v) :: r, T => by
    cases hl : T.lookup k with
    | some u =>
      simp only [replInits, hl]
      exact replInits_setInfo_eq V I gouts r T
    | none =>
      simp only [replInits, hl]
      obtain ⟨a, b⟩ := replInits_setInfo_eq V I gouts r ((k, v) :: T)
      exact ⟨a, by rw [b]⟩

theorem replInits_setInfo (V : Nat → ValueS) (I : Nat → Info) (gouts : List Nat) :
    ∀ (inits : List (Name × Nat)) (T : Table), AgreeT V I (replInits V gouts T inits).new →
      (replInits V gouts T inits).ok → (replInits (setInfo V I) gouts T inits).ok
  | [], _, _ => fun h => h
  | (k, v) :: r, T, h => by
    cases hl : T.lookup k with
    | some u =>
      simp only [replInits, hl] at h ⊢
      exact fun hok => ⟨hok.1, hok.2.1, replInits_setInfo V I gouts r T h hok.2.2⟩
    | none =>
      simp only [replInits, hl] at h ⊢
      refine fun hok => ⟨hok.1, ?_, replInits_setInfo V I gouts r ((k, v) :: T)
        (fun u hu => h u (List.mem_cons_of_mem _ hu)) hok.2.2⟩
      have ht : nameTruthy (V v).name = true := nameTruthy_iff.mpr ⟨k, hok.1.1, hok.1.2.1⟩
      rw [setInfo_info, h v List.mem_cons_self ht]
      exact hok.2.1

theorem replN_tbl_setInfo (V : Nat → ValueS) (I : Nat → Info) (outer : List Table) (T : Table) :
    ∀ (n : NodeT), (replN (setInfo V I) outer T n).tbl = (replN V outer T n).tbl
  | .mk i g ins outs subs => by simp only [replN, replRes_setInfo]

theorem replNs_tbl_setInfo (V : Nat → ValueS) (I : Nat → Info) (outer : List Table) :
    ∀ (ns : List NodeT) (T : Table), (replNs (setInfo V I) outer T ns).tbl = (replNs V outer T ns).tbl
  | [], _ => rfl
  | n :: ns, T => by
    simp only [replNs, replN_tbl_setInfo, replNs_tbl_setInfo V I outer ns]

mutual
theorem replG_setInfo (V : Nat → ValueS) (I : Nat → Info) :
    ∀ (g : GraphT) (outer : List Table), AgreeT V I (replG V outer g).new →
      (replG (setInfo V I) outer g).new = (replG V outer g).new ∧
      ((replG V outer g).ok → (replG (setInfo V I) outer g).ok)
  | .mk gid ins inits nodes outs, outer, h => by
    simp only [replG] at h ⊢
    obtain ⟨i1, i2⟩ := replInits_setInfo_eq V I outs inits (tblIns V ins)
    have i3 := replInits_setInfo V I outs inits (tblIns V ins) h.left.left.left.right
    obtain ⟨n2, n3⟩ := replNs_setInfo V I nodes outer
      (replDecl V (replInits V outs (tblIns V ins) inits).tbl (nodes.flatMap (liveOuts V))).tbl h.left.right
    simp only [tblIns_setInfo, liveOuts_setInfo, i1, i2, replDecl_setInfo, replOuts_setInfo, replNs_tbl_setInfo, n2,
      setInfo_name, true_and]
    exact fun ⟨hNamed, hKeys, hInits, hDecl, hNodes, hOuts⟩ => ⟨hNamed, hKeys, i3 hInits, hDecl, n3 hNodes, hOuts⟩
theorem replNs_setInfo (V : Nat → ValueS) (I : Nat → Info) :
    ∀ (ns : List NodeT) (outer : List Table) (T : Table), AgreeT V I (replNs V outer T ns).new →
      (replNs (setInfo V I) outer T ns).new = (replNs V outer T ns).new ∧
      ((replNs V outer T ns).ok → (replNs (setInfo V I) outer T ns).ok)
  | [], _, _, _ => ⟨rfl, fun h => h⟩
  | n :: ns, outer, T, h => by
    simp only [replNs] at h ⊢
    obtain ⟨a1, a2⟩ := replN_setInfo V I n outer T h.left
    obtain ⟨b1, b2⟩ := replNs_setInfo V I ns outer (replN V outer T n).tbl h.right
    simp only [replN_tbl_setInfo, a1, b1, true_and]
    exact fun hok => ⟨a2 hok.1, b2 hok.2⟩
theorem replN_setInfo (V : Nat → ValueS) (I : Nat → Info) :
    ∀ (n : NodeT) (outer : List Table) (T : Table), AgreeT V I (replN V outer T n).new →
      (replN (setInfo V I) outer T n).new = (replN V outer T n).new ∧
      ((replN V outer T n).ok → (replN (setInfo V I) outer T n).ok)
  | .mk i g ins outs subs, outer, T, h => by
    simp only [replN] at h ⊢
    obtain ⟨a1, a2⟩ := replGs_setInfo V I subs ((replRes V outer T ins).tbl :: outer) h.right
    simp only [replRes_setInfo, stripTrailing_setInfo, setInfo_name, nm_setInfo, a1, true_and]
    exact fun ⟨hRes, hNamed, hBound, hSubs⟩ => ⟨hRes, hNamed, hBound, a2 hSubs⟩
theorem replGs_setInfo (V : Nat → ValueS) (I : Nat → Info) :
    ∀ (gs : List GraphT) (scopes : List Table), AgreeT V I (replGs V scopes gs).new →
      (replGs (setInfo V I) scopes gs).new = (replGs V scopes gs).new ∧
      ((replGs V scopes gs).ok → (replGs (setInfo V I) scopes gs).ok)
  | [], _, _ => ⟨rfl, fun h => h⟩
  | g :: gs, scopes, h => by
    simp only [replGs] at h ⊢
    obtain ⟨a1, a2⟩ := replG_setInfo V I g scopes h.left
    obtain ⟨b1, b2⟩ := replGs_setInfo V I gs scopes h.right
    simp only [a1, b1, true_and]
    exact fun hok => ⟨a2 hok.1, b2 hok.2⟩
end

/-- the declaration phase and the node phase of the certificate of a function -/
def declF (V : Nat → ValueS) : GraphT → RR
  | .mk _ ins _ nodes _ => replDecl V (tblIns V ins) (nodes.flatMap (liveOuts V))
def bodyF (V : Nat → ValueS) : GraphT → RR
  | .mk _ ins _ nodes _ => replNs V [] (replDecl V (tblIns V ins) (nodes.flatMap (liveOuts V))).tbl nodes

theorem replF_new_eq (V : Nat → ValueS) (g : GraphT) :
    (replF V g).new = g.inputs ++ (declF V g).new ++ (bodyF V g).new := by
  cases g; rfl

/-- the certificate of a function: the new info must respect the clause on equally named inputs -/
theorem replF_setInfo (V : Nat → ValueS) (I : Nat → Info) :
    ∀ (g : GraphT), SameByName V I g.inputs → AgreeT V I (bodyF V g).new →
      (replF (setInfo V I) g).new = (replF V g).new ∧ ((replF V g).ok → (replF (setInfo V I) g).ok)
  | .mk gid ins inits nodes outs, hs, h => by
    simp only [GraphT.inputs, bodyF] at hs h
    simp only [replF]
    obtain ⟨n2, n3⟩ := replNs_setInfo V I nodes [] (replDecl V (tblIns V ins) (nodes.flatMap (liveOuts V))).tbl h
    simp only [tblIns_setInfo, liveOuts_setInfo, replDecl_setInfo, replNs_tbl_setInfo, n2, setInfo_name, nm_setInfo,
      setInfo_info, true_and]
    exact fun ⟨hNoInits, hNamed, _, hDecl, hNodes, hOuts⟩ => ⟨hNoInits, hNamed, hs, hDecl, n3 hNodes, hOuts⟩

/-- the values bound in a scope table -/
def tv (T : Table) : List Nat := T.map (·.2)

theorem tv_tblIns (V : Nat → ValueS) (ins : List Nat) (u : Nat) (h : u ∈ tv (tblIns V ins)) : u ∈ ins := by
  simp only [tv, tblIns, List.map_reverse, List.map_map, List.mem_reverse, List.mem_map, Function.comp] at h
  obtain ⟨a, ha, rfl⟩ := h
  exact ha

theorem tv_cons_or (k : Name) (v : Nat) (T : Table) (L : List Nat) (u : Nat) (h : u ∈ tv ((k, v) :: T) ∨ u ∈ L) :
    u ∈ tv T ∨ u ∈ v :: L := by
  simp only [tv, List.map_cons, List.mem_cons] at h ⊢
  rcases h with (rfl | h) | h
  · exact .inr (.inl rfl)
  · exact .inl h
  · exact .inr (.inr h)

theorem replInits_tv (V : Nat → ValueS) (gouts : List Nat) :
    ∀ (inits : List (Name × Nat)) (T : Table), (replInits V gouts T inits).ok →
      (∀ kv ∈ inits, kv.2 ∈ tv T ∨ kv.2 ∈ (replInits V gouts T inits).new) ∧
      (∀ u ∈ tv (replInits V gouts T inits).tbl, u ∈ tv T ∨ u ∈ (replInits V gouts T inits).new)
  | [], _, _ => ⟨fun _ h => (by cases h), fun u hu => .inl hu⟩
  | (k, v) :: r, T, hok => by
    cases hl : T.lookup k with
    | some u =>
      simp only [replInits, hl] at hok ⊢
      obtain ⟨a, b⟩ := replInits_tv V gouts r T hok.2.2
      refine ⟨fun kv hkv => ?_, b⟩
      simp only [List.mem_cons] at hkv
      rcases hkv with rfl | hkv
      · left
        have := ListFacts.mem_of_lookup hl
        rw [hok.2.1] at this
        exact List.mem_map_of_mem (f := (·.2)) this
      · exact a kv hkv
    | none =>
      simp only [replInits, hl] at hok ⊢
      obtain ⟨a, b⟩ := replInits_tv V gouts r ((k, v) :: T) hok.2.2
      have key := fun u => tv_cons_or k v T (replInits V gouts ((k, v) :: T) r).new u
      refine ⟨fun kv hkv => ?_, fun u hu => key u (b u hu)⟩
      simp only [List.mem_cons] at hkv
      rcases hkv with rfl | hkv
      · exact .inr (by simp)
      · exact key _ (a kv hkv)

theorem replDecl_tv (V : Nat → ValueS) :
    ∀ (l : List Nat) (T : Table), ∀ u ∈ tv (replDecl V T l).tbl, u ∈ tv T ∨ u ∈ (replDecl V T l).new
  | [], _, u, hu => .inl hu
  | v :: l, T, u, hu => by
    simp only [replDecl] at hu ⊢
    split at hu
    · rename_i ht
      simp only [ht, if_true]
      exact tv_cons_or _ v T _ u (replDecl_tv V l _ u hu)
    · rename_i ht
      simp only [ht]
      exact replDecl_tv V l T u hu

theorem replRes_tv (V : Nat → ValueS) (outer : List Table) :
    ∀ (l : List (Option Nat)) (T : Table), ∀ u ∈ tv (replRes V outer T l).tbl, u ∈ tv T ∨ u ∈ (replRes V outer T l).new
  | [], _, u, hu => .inl hu
  | none :: l, T, u, hu => by
    simp only [replRes] at hu ⊢
    exact replRes_tv V outer l T u hu
  | some v :: l, T, u, hu => by
    cases hr : resolve (nm V v) (T :: outer) with
    | some w =>
      simp only [replRes, hr] at hu ⊢
      exact replRes_tv V outer l T u hu
    | none =>
      simp only [replRes, hr] at hu ⊢
      exact tv_cons_or _ v T _ u (replRes_tv V outer l _ u hu)

theorem replNs_tv (V : Nat → ValueS) (outer : List Table) :
    ∀ (ns : List NodeT) (T : Table), ∀ u ∈ tv (replNs V outer T ns).tbl, u ∈ tv T ∨ u ∈ (replNs V outer T ns).new
  | [], _, u, hu => .inl hu
  | .mk i g ins outs subs :: ns, T, u, hu => by
    simp only [replNs] at hu ⊢
    rcases replNs_tv V outer ns _ u hu with h | h
    · simp only [replN] at h ⊢
      rcases replRes_tv V outer ins T u h with h' | h'
      · exact .inl h'
      · exact .inr (by simp [h'])
    · exact .inr (List.mem_append_right _ h)

theorem replOuts_mem (V : Nat → ValueS) (T : Table) :
    ∀ (outs : List Nat), (replOuts V T outs).ok → ∀ v ∈ outs, v ∈ tv T ∨ v ∈ (replOuts V T outs).new
  | [], _, v, hv => by cases hv
  | o :: r, hok, v, hv => by
    cases hl : T.lookup (nm V o) with
    | some u =>
      simp only [replOuts, hl] at hok ⊢
      simp only [List.mem_cons] at hv
      rcases hv with rfl | hv
      · left
        have := ListFacts.mem_of_lookup hl
        rw [hok.2.1] at this
        exact List.mem_map_of_mem (f := (·.2)) this
      · exact replOuts_mem V T r hok.2.2 v hv
    | none =>
      simp only [replOuts, hl] at hok ⊢
      simp only [List.mem_cons] at hv
      rcases hv with rfl | hv
      · exact .inr (by simp)
      · rcases replOuts_mem V T r hok.2 v hv with h | h
        · exact .inl h
        · exact .inr (List.mem_cons_of_mem _ h)

mutual
theorem emitG_sub_new (V : Nat → ValueS) :
    ∀ (g : GraphT) (outer : List Table), (replG V outer g).ok → ∀ v ∈ emitG V g, v ∈ (replG V outer g).new
  | .mk gid ins inits nodes outs, outer, hok, v, hv => by
    simp only [replG] at hok ⊢
    obtain ⟨_, _, okI, okD, okN, okO⟩ := hok
    obtain ⟨i1, i2⟩ := replInits_tv V outs inits (tblIns V ins) okI
    obtain ⟨d1, _, _⟩ := replDecl_new V _ _ okD
    have fromT2 : ∀ u ∈ tv (replInits V outs (tblIns V ins) inits).tbl,
        u ∈ ins ∨ u ∈ (replInits V outs (tblIns V ins) inits).new := fun u hu => by
      rcases i2 u hu with h | h
      · exact .inl (tv_tblIns V ins u h)
      · exact .inr h
    simp only [emitG, List.mem_append] at hv
    simp only [List.mem_append]
    rcases hv with (((hv | hv) | hv) | hv) | hv
    · exact .inl (.inl (.inl (.inl hv)))
    · simp only [List.mem_map] at hv
      obtain ⟨kv, hkv, rfl⟩ := hv
      rcases i1 kv hkv with h | h
      · exact .inl (.inl (.inl (.inl (tv_tblIns V ins _ h))))
      · exact .inl (.inl (.inl (.inr h)))
    · rw [← d1] at hv
      exact .inl (.inl (.inr hv))
    · rcases replOuts_mem V _ outs okO v hv with h | h
      · rcases replNs_tv V outer nodes _ v h with h | h
        · rcases replDecl_tv V _ _ v h with h | h
          · rcases fromT2 v h with h | h
            · exact .inl (.inl (.inl (.inl h)))
            · exact .inl (.inl (.inl (.inr h)))
          · exact .inl (.inl (.inr h))
        · exact .inl (.inr h)
      · exact .inr h
    · exact .inl (.inr (emitSubNs_sub_new V nodes outer _ okN v hv))
theorem emitSubNs_sub_new (V : Nat → ValueS) :
    ∀ (ns : List NodeT) (outer : List Table) (T : Table), (replNs V outer T ns).ok →
      ∀ v ∈ emitSubNs V ns, v ∈ (replNs V outer T ns).new
  | [], _, _, _, v, hv => by simp [emitSubNs] at hv
  | n :: ns, outer, T, hok, v, hv => by
    simp only [replNs] at hok ⊢
    simp only [emitSubNs, List.mem_append] at hv
    simp only [List.mem_append]
    rcases hv with hv | hv
    · exact .inl (emitSubN_sub_new V n outer T hok.1 v hv)
    · exact .inr (emitSubNs_sub_new V ns outer _ hok.2 v hv)
theorem emitSubN_sub_new (V : Nat → ValueS) :
    ∀ (n : NodeT) (outer : List Table) (T : Table), (replN V outer T n).ok →
      ∀ v ∈ emitSubN V n, v ∈ (replN V outer T n).new
  | .mk i g ins outs subs, outer, T, hok, v, hv => by
    simp only [replN] at hok ⊢
    simp only [emitSubN] at hv
    simp only [List.mem_append]
    obtain ⟨_, _, _, hSubs⟩ := hok
    exact .inr (emitGs_sub_new V subs _ hSubs v hv)
theorem emitGs_sub_new (V : Nat → ValueS) :
    ∀ (gs : List GraphT) (scopes : List Table), (replGs V scopes gs).ok → ∀ v ∈ emitGs V gs, v ∈ (replGs V scopes gs).new
  | [], _, _, v, hv => by simp [emitGs] at hv
  | g :: gs, scopes, hok, v, hv => by
    simp only [replGs] at hok ⊢
    simp only [emitGs, List.mem_append] at hv
    simp only [List.mem_append]
    rcases hv with hv | hv
    · exact .inl (emitG_sub_new V g scopes hok.1 v hv)
    · exact .inr (emitGs_sub_new V gs scopes hok.2 v hv)
end

theorem replF_ok_nodes (V : Nat → ValueS) (g : GraphT) (hok : (replF V g).ok) : (bodyF V g).ok := by
  obtain ⟨gid, ins, inits, nodes, outs⟩ := g
  simp only [replF] at hok
  obtain ⟨_, _, _, _, hNodes, _⟩ := hok
  exact hNodes

end IrVerif.Scope
