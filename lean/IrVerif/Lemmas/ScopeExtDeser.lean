/-
Every model the extended deserializer returns satisfies the certificate of the extension state `extG`
(`Lemmas/ScopeExtRTDefs.lean`), hence `ReloadableE`, and the source-side certificate of the device configurations
`DevCertG` (`Lemmas/ScopeExtDevIso.lean`).

`ext.quant v` is written once, by `Ext.annotate qt v n` when `v` is created, with the table `qt` of the graph whose
run creates `v`; so every value bound in a graph's own scope table carries `quantOf qt key` (`QT`,
`Lemmas/ScopeExtRun.lean`), the graph outputs that no name of the table binds and the empty-named node outputs
are created beyond an allocation counter at which the annotations are fresh (`QFresh`) and are never annotated.
The configurations of a node are what `resolveShard (top1 :: outer)` returned, written once at the node's creation
index.  The tables of both certificates are the tables of the run (`deserGraph_tables`, through the erasure).
-/
import IrVerif.Lemmas.ScopeExtCtx
import IrVerif.Lemmas.ScopeReplDeser
import IrVerif.Lemmas.ScopeExtDevIso
import IrVerif.Lemmas.ScopeExtDev
import IrVerif.Lemmas.ScopeExtSerTbl
namespace IrVerif.Scope

theorem extNs_setGraph (V : Nat → ValueS) (X : Ext) (outer : List Table) (gid : Nat) : ∀ (ns : List NodeT) (T : Table),
    extNs V X outer T (ns.map (NodeT.setGraph gid)) = extNs V X outer T ns := by
  intro ns
  induction ns with
  | nil => intro T; rfl
  | cons n ns ih =>
    intro T
    obtain ⟨i, g, a, b, c⟩ := n
    simp only [List.map_cons, NodeT.setGraph, extNs, extN, replN, ih]

/-- values that are bound in the table (which holds the annotation of each key) or whose name the table does not
    bind and that carry no annotation: equal names, equal annotations -/
theorem qc_of_roles (V : Nat → ValueS) (X : Ext) (qt : List (Name × SS)) (T : Table) (L : List Nat)
    (hN : NamedV V T) (hQ : QT X qt T)
    (hR : ∀ a ∈ L, InT T a ∨ (T.lookup (nm V a) = none ∧ X.quant a = none)) :
    ∀ a ∈ L, ∀ b ∈ L, (V a).name = (V b).name → X.quant a = X.quant b := by
  intro a ha b hb hab
  have hnm : nm V a = nm V b := by simp only [nm, hab]
  rcases hR a ha with ⟨k, hk⟩ | ⟨h1, h2⟩ <;> rcases hR b hb with ⟨k', hk'⟩ | ⟨h1', h2'⟩
  · have qa := hQ _ hk
    have qb := hQ _ hk'
    simp only at qa qb
    rw [qa, qb, ← hN.nm hk, ← hN.nm hk', hnm]
  · exfalso
    have := hN.nm hk
    rw [hnm] at this
    rw [this] at h1'
    exact lookup_ne_none_of_mem _ _ _ hk h1'
  · exfalso
    have := hN.nm hk'
    rw [← hnm] at this
    rw [this] at h1
    exact lookup_ne_none_of_mem _ _ _ hk' h1
  · rw [h2, h2']

/-- what `deserialize_node_device_configuration` stores satisfies the certificate in the scopes it was resolved in -/
theorem devsCert_deserDevR (V : Nat → ValueS) (scopes : List Table) (hN : ∀ T ∈ scopes, NamedV V T) (devs : List DevP) :
    DevsCert V scopes (devs.map (deserDevR scopes)) := by
  intro d hd s hs
  simp only [List.mem_map] at hd
  obtain ⟨dp, _, rfl⟩ := hd
  simp only [deserDevR, List.mem_map] at hs
  obtain ⟨sp, _, rfl⟩ := hs
  refine ⟨fun v hv => ?_, fun n hn => ?_⟩
  · obtain ⟨hne, hr⟩ := resolveShard_val hv
    obtain ⟨t, ht, hm⟩ := resolve_mem sp.1 scopes v hr
    have hname : (V v).name = some sp.1 := hN t ht _ hm
    refine ⟨by simp [nameTruthy, hname, hne], ?_⟩
    rw [nm_of_name hname]
    exact hr
  · obtain ⟨hne, rfl, hr⟩ := resolveShard_fresh hn
    exact ⟨hne, hr⟩

/-- `V`, `X` are quantified inside the motive: the certificate of a level is wanted for the FINAL store and extension state
    of the whole run, which agree with those of the level on what it wrote -/
theorem deser_cert_cases : DeserECases
    (fun st x outer _ st' x' g => ScopeCtx st outer → ∀ (V : Nat → ValueS) (X : Ext), NamesAgree V st' → (∀ v, st.nv ≤ v → v < st'.nv → CellAgree V st' v) →
        (QFresh st.nv x → (∀ d, d < st'.nv → X.quant d = x'.quant d) → extG V X outer g) ∧
        ((∀ k, k < st'.nn → X.devs k = x'.devs k) → DevCertG V X outer g))
    (fun st x top outer _ _ nps st' x' top' nts => ∀ b, NodeCtx st b top outer →
      (∀ n ∈ eraseNs nps, ∀ y ∈ n.outputs, y ≠ "" → ∃ u, top.lookup y = some u) →
      ∀ (V : Nat → ValueS) (X : Ext), NamesAgree V st' →
        (∀ v, st.nv ≤ v → v < st'.nv → v ∉ top'.map (·.2) → CellAgree V st' v) →
        (QFresh st.nv x → (∀ d, d < st'.nv → X.quant d = x'.quant d) → extNs V X outer top nts) ∧
        ((∀ k, k < st'.nn → X.devs k = x'.devs k) → DevCertNs V X outer top nts))
    (fun st x top outer _ _ _ st' x' top' nt => ∀ b, NodeCtx st b top outer →
      ∀ (V : Nat → ValueS) (X : Ext), NamesAgree V st' →
        (∀ v, st.nv ≤ v → v < st'.nv → v ∉ top'.map (·.2) → CellAgree V st' v) →
        (QFresh st.nv x → (∀ d, d < st'.nv → X.quant d = x'.quant d) → extN V X outer top nt) ∧
        ((∀ k, k < st'.nn → X.devs k = x'.devs k) → DevCertN V X outer top nt))
    (fun st x scopes _ st' x' gts => ScopeCtx st scopes → ∀ (V : Nat → ValueS) (X : Ext), NamesAgree V st' → (∀ v, st.nv ≤ v → v < st'.nv → CellAgree V st' v) →
        (QFresh st.nv x → (∀ d, d < st'.nv → X.quant d = x'.quant d) → extGs V X scopes gts) ∧
        ((∀ k, k < st'.nn → X.devs k = x'.devs k) → DevCertGs V X scopes gts)) where
  graph := fun {st x outer inputs inits vinfo nodes outputs quant st1 _ ins st2 _ tbl2 iv st3 _ tbl3 st4 x4 tbl4 ns
      st5 _ outs} r ihN c V X hV hC => by
    have GT := deserGraph_tables r.core c.fresh c.lt c.named V hV hC
    obtain ⟨rN, dN⟩ := ihN st.nv (c.body r).1 GT.hdecl V X GT.hV4 GT.hCN
    obtain ⟨a5, hnn5, _⟩ := r.outs_steps
    obtain ⟨b5, dO⟩ := r.outs_keeps
    rw [mkGraph_snd]
    refine ⟨fun hq hX => ?_, fun hX => ?_⟩
    · obtain ⟨hq3, c3⟩ := r.qtable3 hq
      obtain ⟨a4, _, c4'⟩ := deserNodesE_run r.nodesE
      have c4 := c4' hq3 c3.2 c3.1
      have hq4 : QFresh st4.nv x4 := hq3.ext a4.qext
      rw [(mkGraph_fst_counters st5 ins outs ns iv).1] at hX
      have hX4 : ∀ d, d < st5.nv → X.quant d = x4.quant d := fun d hd => by rw [hX d hd, b5]
      have hQ4 : QT X (quantTable quant) tbl4 :=
        c4.1.of_eq (fun e he => hX4 e.2 (Nat.lt_of_lt_of_le (c4.2 e he) a5))
      have hnew : ∀ v ∈ (replOuts V tbl4 outs).new, X.quant v = none := fun v hv => by
        obtain ⟨hge, hlt⟩ := GT.outs_new.2 v hv
        rw [hX4 v hlt]
        exact hq4 v hge
      simp only [extG, qcRoles, flatMap_liveOuts_setGraph, replNs_setGraph, extNs_setGraph, GT.t1, GT.t2, GT.t3,
        GT.t4]
      refine ⟨?_, hnew, rN hq3 (fun d hd => hX4 d (Nat.lt_of_lt_of_le hd a5))⟩
      apply qc_of_roles V X (quantTable quant) tbl4 _ GT.named4 hQ4
      intro a ha
      simp only [List.mem_append] at ha
      rcases ha with ((ha | ha) | ha) | ha
      · exact .inl (GT.ins_in a ha)
      · simp only [List.mem_map] at ha
        obtain ⟨e, he, rfl⟩ := ha
        exact .inl (GT.inits_in e he)
      · rw [GT.live] at ha
        exact .inl (GT.decl_in a ha)
      · rcases replOuts_split V tbl4 outs GT.outs_ok a ha with hl | ⟨hl, hn⟩
        · exact .inl ⟨_, lookup_mem _ _ _ hl⟩
        · exact .inr ⟨hl, hnew a hn⟩
    · rw [(mkGraph_fst_counters st5 ins outs ns iv).2.1, hnn5] at hX
      simp only [DevCertG, flatMap_liveOuts_setGraph, DevCertNs_setGraph, GT.t1, GT.t2, GT.t3]
      exact dN (fun k hk => by rw [hX k hk, dO])
  nil := fun _ _ _ _ _ _ _ => ⟨fun _ _ => trivial, fun _ => trivial⟩
  cons := fun {st x top outer vt qt n nps st1 x1 top1 nt st2 x2 top2 nts'} h1 h2 ihn ihN b c hdecl V X hV hC => by
    simp only [eraseNs, List.mem_cons, forall_eq_or_imp] at hdecl
    have e1 := dropX_ok (deserNodeE_erase n st x top outer vt qt) h1
    have e2 := dropX_ok (deserNodesE_erase nps st1 x1 top1 outer vt qt) h2
    obtain ⟨c1, m1, stb1⟩ := c.tail h1
    obtain ⟨m2, stb2⟩ := c1.nodes_mono h2
    have p2 := deserNodes_prim2 st1.nv _ st1 top1 outer _ b st2 top2 nts' c1.fresh c1.ok c1.lt c1.le (Nat.le_refl _) e2
    have hV1 := hV.of_mono m2
    have hC1 := CellAgree.head stb2 p2 m2.nv_le hC
    obtain ⟨a1, _, _, _⟩ := deser_repl_node _ st top outer _ b st1 top1 nt c.fresh c.ok c.lt c.le c.top_named c.named e1
      hdecl.1 V hV1 hC1
    obtain ⟨r1, d1⟩ := ihn b c V X hV1 hC1
    obtain ⟨r2, d2⟩ := ihN b c1
      (fun n' hn' y hy hne => by
        obtain ⟨u, hu⟩ := hdecl.2 n' hn' y hy hne
        exact ⟨u, stb1.lookup y u hu⟩)
      V X hV (fun v hge hlt hnt => hC v (Nat.le_trans m1.nv_le hge) hlt hnt)
    have q2 := (deserNodesE_run h2).run
    refine ⟨fun hq hX => ?_, fun hX => ?_⟩
    · simp only [extNs, a1]
      exact ⟨r1 hq (q2.agree_quant hX),
        r2 (hq.ext (deserNodeE_run h1).run.qext) hX⟩
    · simp only [DevCertNs, a1]
      exact ⟨d1 (q2.agree_devs hX), d2 hX⟩
  node := fun {st x top outer vt qt inputs outputs devs subs st1 x1 top1 ins st2 outs st3 x3 gs} r ihS b c V X hV hC => by
    obtain ⟨c2, n1, _, F⟩ := c.subs r
    have hR := r.core.hres
    have h2 := r.look
    have q1 := F.q1
    have ok1 := F.ok1
    have q2 := F.q2
    have m3 := F.m3
    have hk := mkNode_keeps st3 ins outs gs
    have hnv4 := mkNode_fst_nv st3 ins outs gs
    have hV3 : NamesAgree V st3 := fun v hv => by rw [hV v (by rw [hnv4]; exact hv), (hk v).1]
    have hV2 := hV3.of_mono m3
    have hV1 := hV2.of_quiet q2
    have hVst := hV1.of_quiet q1
    have hOV : ∀ T ∈ outer, NamedV V T := fun T hT => NamedV.of_named (c.named T hT) (c.lt T hT) hVst
    have RR := repl_resolveInputs V outer (eraseVT vt) hOV inputs st top (NamedV.of_named c.top_named c.ok.lt hVst)
      (by rw [hR]; exact hV1)
    rw [hR] at RR
    simp only at RR
    obtain ⟨r1, _, _, r4⟩ := RR
    obtain ⟨rS, dS⟩ := ihS c2 V X hV3
      (fun v hge hlt => by
        have hnt : v ∉ top1.map (·.2) := by
          intro hm
          simp only [List.mem_map] at hm
          obtain ⟨e, he, rfl⟩ := hm
          have := ok1.lt e he
          have := q2.nv_le
          omega
        have := hC v (Nat.le_trans (Nat.le_trans q1.nv_le q2.nv_le) hge) (by rw [hnv4]; exact hlt) hnt
        rw [CellAgree, (hk v).2.1, (hk v).2.2.1] at this
        exact this)
    rw [mkNode_snd]
    refine ⟨fun hq hX => ?_, fun hX => ?_⟩
    · -- an empty-named output is created above the counter and never annotated
      have a3 := (deserSubsE_run r.subsE).qext
      obtain ⟨_, _, b3, _⟩ := repl_lookupOutputs V _ r4 outputs _ _ _ h2 hV2
      rw [hnv4] at hX
      have hX3 : ∀ d, d < st3.nv → X.quant d = x3.quant d := fun d hd => by rw [hX d hd, Ext.setDevs_quant]
      have hq1 : QFresh st1.nv x1 := hq.ext r.res_phase.run.qext
      simp only [extN, r1]
      refine ⟨fun v hv hfalse => ?_, rS (hq1.mono q2.nv_le) hX3⟩
      have hm : v ∈ outs.filter (fun v => !nameTruthy (V v).name) := by
        simp only [List.mem_filter, hv, hfalse, Bool.not_false, and_self]
      obtain ⟨hge, hlt⟩ := b3.2 v hm
      rw [hX3 v (Nat.lt_of_lt_of_le hlt a3.1), a3.2.1 v hlt]
      exact hq1 v hge
    · -- the configurations of this node are what `deserDevR (top1 :: outer)` returned
      rw [mkNode_fst_nn] at hX
      have hX3 : ∀ k, k < st3.nn → X.devs k = x3.devs k := fun k hk => by
        rw [hX k (Nat.lt_succ_of_lt hk)]
        simp only [Ext.setDevs]
        rw [if_neg (Nat.ne_of_lt hk)]
      have hXn : X.devs st3.nn = devs.map (deserDevR (top1 :: outer)) := by
        rw [hX st3.nn (Nat.lt_succ_self _)]
        simp only [Ext.setDevs, if_true]
      simp only [DevCertN, r1]
      refine ⟨?_, dS hX3⟩
      rw [hXn]
      apply devsCert_deserDevR
      intro T hT
      simp only [List.mem_cons] at hT
      rcases hT with rfl | hT
      · exact r4
      · exact hOV T hT
  snil := fun _ _ _ _ _ => ⟨fun _ _ => trivial, fun _ => trivial⟩
  scons := fun {st x scopes gp gps st1 x1 gt st2 x2 gts'} h1 h2 ihG ihS c V X hV hC => by
    obtain ⟨c1, m1⟩ := c.tail h1
    have m2 := c1.subs_mono h2
    have p2 := deserSubs_prim _ st1 scopes st2 gts' c1.fresh c1.lt (dropX_ok (deserSubsE_erase gps st1 x1 scopes) h2)
    obtain ⟨r1, d1⟩ := ihG c V X (hV.of_mono m2)
      (fun v hge hlt => by
        have := hC v hge (Nat.lt_of_lt_of_le hlt m2.nv_le)
        rw [CellAgree, (p2.cell v hlt).1, (p2.cell v hlt).2] at this
        exact this)
    obtain ⟨r2, d2⟩ := ihS c1 V X hV
      (fun v hge hlt => hC v (Nat.le_trans m1.nv_le hge) hlt)
    have q2 := deserSubsE_run h2
    refine ⟨fun hq hX => ?_, fun hX => ?_⟩
    · simp only [extGs]
      exact ⟨r1 hq (q2.agree_quant hX),
        r2 (hq.ext (deserGraphE_run h1).qext) hX⟩
    · simp only [DevCertGs]
      exact ⟨d1 (q2.agree_devs hX), d2 hX⟩

theorem deser_ext_node :
    ∀ (n : NodeE) (st : Store) (x : Ext) (top : Table) (outer : List Table) (vt : List (Name × Info × SS))
      (qt : List (Name × SS)) (b : Nat) (st' : Store) (x' : Ext) (top' : Table) (nt : NodeT),
      Fresh st → TblOK st b top → TablesLt st outer → b ≤ st.nv → Named st top → (∀ T ∈ outer, Named st T) →
      QFresh st.nv x → deserNodeE st x top outer vt qt n = .ok (st', x', top', nt) →
      (∀ y ∈ (eraseN n).outputs, y ≠ "" → ∃ u, top.lookup y = some u) →
      ∀ (V : Nat → ValueS) (X : Ext), NamesAgree V st' →
        (∀ v, st.nv ≤ v → v < st'.nv → v ∉ top'.map (·.2) → CellAgree V st' v) →
        (∀ d, d < st'.nv → X.quant d = x'.quant d) → extN V X outer top nt :=
  fun n _ _ _ _ _ _ b _ _ _ _ hf hok ho hb hn hon hq h _ V X hV hC hX =>
    (deserNodeE_ind deser_cert_cases n h b ⟨⟨hf, ho, hon⟩, hok, hb, hn⟩ V X hV hC).1 hq hX

theorem deser_ext_subs :
    ∀ (gps : List GraphE) (st : Store) (x : Ext) (scopes : List Table) (st' : Store) (x' : Ext) (gts : List GraphT),
      Fresh st → TablesLt st scopes → (∀ T ∈ scopes, Named st T) → QFresh st.nv x →
      deserSubsE st x scopes gps = .ok (st', x', gts) →
      ∀ (V : Nat → ValueS) (X : Ext), NamesAgree V st' → (∀ v, st.nv ≤ v → v < st'.nv → CellAgree V st' v) →
        (∀ d, d < st'.nv → X.quant d = x'.quant d) → extGs V X scopes gts :=
  fun gps _ _ _ _ _ _ hf hs hon hq h V X hV hC hX =>
    (deserSubsE_ind deser_cert_cases gps h ⟨hf, hs, hon⟩ V X hV hC).1 hq hX

theorem deserGraphE_cert_top {p : GraphE} {st : Store} {x : Ext} {g : GraphT}
    (hg : deserGraphE {} {} [] p = .ok (st, x, g)) (V : Nat → ValueS) (X : Ext) (hV : NamesAgree V st)
    (hC : ∀ v, v < st.nv → CellAgree V st v) :
    ((∀ d, d < st.nv → X.quant d = x.quant d) → extG V X [] g) ∧
    ((∀ k, k < st.nn → X.devs k = x.devs k) → DevCertG V X [] g) :=
  have r := deserGraphE_ind deser_cert_cases p hg .empty V X hV (fun v _ => hC v)
  ⟨r.1 (fun _ _ => rfl), r.2⟩

/-- **every model the extended deserializer returns satisfies the extension-state certificate** -/
theorem deserializeE_reloadableE (p : GraphE) (w : WorldE) (h : deserializeE p = .ok w) : ReloadableE w := by
  have he := deserializeE_erase p
  rw [h] at he
  simp only at he
  refine ⟨deserialize_reloadable _ _ he, ?_, deserializeE_wf p w h⟩
  obtain ⟨st, x, g⟩ := w
  exact (deserGraphE_cert_top (deserializeE_ok h) st.vals x (fun _ _ => rfl) (fun _ _ => ⟨rfl, rfl⟩)).1 (fun _ _ => rfl)

end IrVerif.Scope
