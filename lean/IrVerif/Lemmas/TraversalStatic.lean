/-
The static tree-shape predicate of `Model/LinkedSet.lean` (`RWorld.treeShape`: home graphs, ALL
recorded attribute entries, forward direction), evaluated on the coarse view `w.toR` of a world with
editable attributes, implies the dynamic predicate `TWorld.treeShape` (present members, current
attribute dicts, any direction).

`TWorld.attrs` is an association list read by first match: an attribute edit prepends the node's new
dict and the old one stays behind as a stale entry.  The static predicate counts the references of
every recorded entry, stale ones included, so it is the stronger of the two (`treeShape_static_dynamic`
needs no hypothesis on stale entries).  On worlds WITHOUT stale entries (`TWorld.noStale`) in which
every recorded node is a present member with the `recursive` predicate true (`TWorld.allHung`) and
which are homed, the two predicates are equal (`treeShape_static_eq`).

Last part: along a history of `next()` calls and home-respecting node-sequence edits, the static
predicate on the initial world gives acyclicity of every world passed through.
-/
import IrVerif.Lemmas.TraversalTree
import IrVerif.Lemmas.TraversalRefine
import IrVerif.Lemmas.ListFacts
namespace IrVerif.LinkedSet

/-! ### lists -/

theorem nodup_flatMap_congr {α β : Type} (f f' : α → List β) (hm : ∀ x b, b ∈ f' x ↔ b ∈ f x)
    (hn : ∀ x, (f x).Nodup → (f' x).Nodup) : ∀ (l : List α), (l.flatMap f).Nodup → (l.flatMap f').Nodup
  | [], _ => by simp
  | a :: l, h => by
      simp only [List.flatMap_cons] at h ⊢
      obtain ⟨h1, h2, h3⟩ := List.nodup_append.1 h
      refine List.nodup_append.2 ⟨hn a h1, nodup_flatMap_congr f f' hm hn l h2, ?_⟩
      intro b hb c hc e
      subst e
      obtain ⟨y, hy, hby⟩ := List.mem_flatMap.1 hc
      exact h3 b ((hm a b).1 hb) b (List.mem_flatMap.2 ⟨y, hy, (hm y b).1 hby⟩) rfl

theorem Nested.mono {kids kids' : Nat → List Nat} (h : ∀ a b, b ∈ kids a → b ∈ kids' a) {g x : Nat}
    (n : Nested kids g x) : Nested kids' g x := by
  induction n with
  | one hk => exact .one (h _ _ hk)
  | cons hk _ ih => exact .cons (h _ _ hk) ih

/-! ### the direction of the iteration does not matter for the shape of the nest -/

theorem mem_graphsOf_dir (d d' : Dir) (a : AVal) (h : Nat) : h ∈ a.graphsOf d ↔ h ∈ a.graphsOf d' := by
  cases a <;> cases d <;> cases d' <;> simp [AVal.graphsOf]

theorem nodup_graphsOf_dir (d d' : Dir) (a : AVal) (h : (a.graphsOf d).Nodup) : (a.graphsOf d').Nodup := by
  cases a with
  | graph g => simp [AVal.graphsOf]
  | other => simp [AVal.graphsOf]
  | graphs hs =>
    have hn : hs.Nodup := by
      cases d
      · simpa [AVal.graphsOf] using h
      · have h' : hs.reverse.Nodup := by simpa [AVal.graphsOf] using h
        exact ListFacts.nodup_reverse.1 h'
    cases d'
    · simpa [AVal.graphsOf] using hn
    · have : hs.reverse.Nodup := ListFacts.nodup_reverse.2 hn
      simpa [AVal.graphsOf] using this

theorem mem_visit_dir (w : TWorld) (d d' : Dir) (v h : Nat) : h ∈ w.visit d v ↔ h ∈ w.visit d' v := by
  simp only [TWorld.visit, List.mem_flatMap]
  constructor <;> rintro ⟨e, he, hh⟩
  · exact ⟨e, he, (mem_graphsOf_dir d d' e.2 h).1 hh⟩
  · exact ⟨e, he, (mem_graphsOf_dir d d' e.2 h).2 hh⟩

theorem mem_tkids_dir (w : TWorld) (d d' : Dir) (g h : Nat) (hh : h ∈ w.kids d g) : h ∈ w.kids d' g := by
  simp only [TWorld.kids, List.mem_flatMap] at hh ⊢
  obtain ⟨v, hv, hh⟩ := hh
  exact ⟨v, hv, (mem_visit_dir w d d' v h).1 hh⟩

theorem tacyclic_complete (w : TWorld) (d : Dir) :
    w.acyclic d = false ↔ ∃ g, Nested (w.kids d) g g := by
  rw [← toR_acyclic, ← funext (toR_kids w d)]; exact racyclic_complete w.toR d

/-- "no graph nested in itself" does not depend on the direction -/
theorem tacyclic_dir (w : TWorld) (d d' : Dir) (h : w.acyclic d = true) : w.acyclic d' = true := by
  cases e : w.acyclic d' with
  | true => rfl
  | false =>
    obtain ⟨g, hg⟩ := (tacyclic_complete w d').1 e
    have : w.acyclic d = false := (tacyclic_complete w d).2 ⟨g, hg.mono (mem_tkids_dir w d' d)⟩
    rw [h] at this; cases this

/-! ### the static reference list -/

/-- the subgraph references of one recorded dict, forward -/
def dictRefs (p : Nat × PyDict) : List Nat := p.2.live.flatMap fun e => e.2.graphsOf .fwd

/-- every subgraph reference of every recorded attribute entry (stale entries included) -/
def TWorld.srefs (w : TWorld) : List Nat := w.attrs.flatMap dictRefs

def attrRefs : Attr → List Nat
  | .graph h => [h]
  | .graphs hs => hs

theorem flatMap_toAttr_refs (l : List (Nat × AVal)) :
    (l.filterMap (fun e => e.2.toAttr)).flatMap attrRefs = l.flatMap (fun e => e.2.graphsOf .fwd) := by
  have e : attrRefs = fun a =>
      match a with
      | .graph h => [h]
      | .graphs hs => if Dir.fwd = Dir.rev then hs.reverse else hs := by
    funext a; cases a <;> simp [attrRefs]
  rw [e]; exact flatMap_toAttr .fwd l

theorem toR_unshared (w : TWorld) (g0 : Nat) :
    w.toR.unshared g0 = (decide w.srefs.Nodup && !w.srefs.contains g0) := by
  have e : (w.toR.attrs.flatMap fun p => p.2.flatMap attrRefs) = w.srefs := by
    simp only [TWorld.toR, TWorld.srefs, List.flatMap_map]
    congr 1
    funext p
    exact flatMap_toAttr_refs p.2.live
  show (decide (w.toR.attrs.flatMap fun p => p.2.flatMap attrRefs).Nodup &&
    !(w.toR.attrs.flatMap fun p => p.2.flatMap attrRefs).contains g0) = _
  rw [e]

/-- the subgraphs a node's current dict names are the references of a recorded entry -/
theorem visit_recorded (w : TWorld) (v : Nat) :
    w.visit .fwd v = [] ∨ ∃ dct, (v, dct) ∈ w.attrs ∧ w.visit .fwd v = dictRefs (v, dct) := by
  simp only [TWorld.visit, TWorld.dictOf, dictRefs]
  cases e : w.attrs.lookup v with
  | none => left; simp [PyDict.empty, PyDict.live]
  | some dct => right; exact ⟨dct, ListFacts.mem_of_lookup e, rfl⟩

theorem mem_srefs_of_visit (w : TWorld) (d : Dir) (v h : Nat) (hh : h ∈ w.visit d v) : h ∈ w.srefs := by
  have hh := (mem_visit_dir w d .fwd v h).1 hh
  rcases visit_recorded w v with e | ⟨dct, hm, e⟩
  · rw [e] at hh; cases hh
  · rw [e] at hh
    exact List.mem_flatMap.2 ⟨(v, dct), hm, hh⟩

theorem visit_nodup_dir (w : TWorld) (d d' : Dir) (v : Nat) (h : (w.visit d v).Nodup) : (w.visit d' v).Nodup :=
  nodup_flatMap_congr (fun (e : Nat × AVal) => e.2.graphsOf d) (fun e => e.2.graphsOf d')
    (fun e b => mem_graphsOf_dir d' d e.2 b) (fun e => nodup_graphsOf_dir d d' e.2) _ h

/-- when the static reference list has no duplicates, the subgraphs named by the current dicts of
    pairwise different nodes are pairwise different -/
theorem visits_nodup {w : TWorld} (hnd : w.srefs.Nodup) (d : Dir) (vs : List Nat) (hvs : vs.Nodup) :
    (vs.flatMap (w.visit d)).Nodup := by
  refine nodup_flatMap_of (w.visit d) vs hvs ?_ ?_
  · intro v _
    apply visit_nodup_dir w .fwd d
    rcases visit_recorded w v with e | ⟨dct, hm, e⟩
    · rw [e]; exact List.nodup_nil
    · rw [e]; exact (sublist_flatMap_of_mem dictRefs _ _ hm).nodup hnd
  · intro x _ y _ hne b hbx hby
    have hbx := (mem_visit_dir w d .fwd x b).1 hbx
    have hby := (mem_visit_dir w d .fwd y b).1 hby
    rcases visit_recorded w x with e | ⟨dx, hmx, ex⟩
    · rw [e] at hbx; cases hbx
    rcases visit_recorded w y with e | ⟨dy, hmy, ey⟩
    · rw [e] at hby; cases hby
    rw [ex] at hbx
    rw [ey] at hby
    have hp : (x, dx) ≠ (y, dy) := fun e => hne (congrArg Prod.fst e)
    exact ListFacts.flatMap_nodup_disjoint dictRefs _ hnd (x, dx) hmx (y, dy) hmy hp b hbx hby

/-! ### homed worlds: no node is a member of two graphs -/

theorem members_nodup_of_homed {w : TWorld} (hw : TWorldWF w) {home : Nat → Nat}
    (hh : w.toR.homedOk home = true) : w.members.Nodup := by
  refine nodup_flatMap_of _ _ List.nodup_range (fun g _ => toList_nodup (hw.setOf g)) ?_
  intro g _ g' _ hne v hv hv'
  exact hne ((homed_of_ok (w := w.toR) hh g v hv).symm.trans (homed_of_ok (w := w.toR) hh g' v hv'))

/-! ### static tree shape implies dynamic tree shape -/

theorem treeShape_static_dynamic {w : TWorld} (hw : TWorldWF w) (home : Nat → Nat) (d : Dir) (g0 : Nat)
    (h : w.toR.treeShape home g0 = true) : w.treeShape d g0 = true := by
  simp only [RWorld.treeShape, Bool.and_eq_true] at h
  obtain ⟨⟨⟨_, hac⟩, hun⟩, hho⟩ := h
  rw [toR_acyclic] at hac
  rw [toR_unshared] at hun
  simp only [Bool.and_eq_true, decide_eq_true_eq, Bool.not_eq_true', List.contains_eq_mem,
    decide_eq_false_iff_not] at hun
  obtain ⟨hnd, hroot⟩ := hun
  have hmem := members_nodup_of_homed hw hho
  simp only [TWorld.treeShape, Bool.and_eq_true, decide_eq_true_eq, Bool.not_eq_true',
    List.contains_eq_mem, decide_eq_false_iff_not]
  refine ⟨⟨⟨tacyclic_dir w .fwd d hac, hmem⟩, ?_⟩, ?_⟩
  · exact visits_nodup hnd d _ (List.filter_sublist.nodup hmem)
  · intro hin
    obtain ⟨v, _, hv⟩ := List.mem_flatMap.1 hin
    exact hroot (mem_srefs_of_visit w d v g0 hv)

/-! ### worlds without stale entries: the two predicates coincide -/

/-- **no stale entries**: every node is recorded at most once in `TWorld.attrs`, so that the recorded
    dict IS the node's current dict and every recorded attribute entry is a live entry of it
    (`noStale_dictOf`); true for a world on which `setAttr` / `delAttr` were never applied to a node
    that was already recorded -/
def TWorld.noStale (w : TWorld) : Bool := decide (w.attrs.map (·.1)).Nodup

/-- every recorded dict that names a subgraph belongs to a present member on which the `recursive`
    predicate holds (the dynamic predicate does not see the other dicts) -/
def TWorld.allHung (w : TWorld) : Bool :=
  w.attrs.all fun p => (dictRefs p).isEmpty || (w.members.contains p.1 && w.recurse p.1)

/-- without stale entries the recorded dict of a node is its current dict -/
theorem noStale_dictOf {w : TWorld} (hns : w.noStale = true) {p : Nat × PyDict} (hp : p ∈ w.attrs) :
    w.dictOf p.1 = p.2 := by
  simp only [TWorld.noStale, decide_eq_true_eq] at hns
  simp only [TWorld.dictOf, ListFacts.lookup_of_mem_nodup hns hp, Option.getD_some]

theorem noStale_visit {w : TWorld} (hns : w.noStale = true) {p : Nat × PyDict} (hp : p ∈ w.attrs) :
    w.visit .fwd p.1 = dictRefs p := by
  simp only [TWorld.visit, noStale_dictOf hns hp, dictRefs]

theorem hung_mem {w : TWorld} (hu : w.allHung = true) {p : Nat × PyDict} (hp : p ∈ w.attrs) {b : Nat}
    (hb : b ∈ dictRefs p) : p.1 ∈ w.members.filter w.recurse := by
  simp only [TWorld.allHung, List.all_eq_true, Bool.or_eq_true, Bool.and_eq_true, List.isEmpty_iff,
    List.contains_eq_mem, decide_eq_true_eq] at hu
  rcases hu p hp with e | ⟨hm, hr⟩
  · rw [e] at hb; cases hb
  · exact List.mem_filter.2 ⟨hm, hr⟩

theorem refs_nodup_dir {w : TWorld} (d d' : Dir) (h : (w.refs d).Nodup) : (w.refs d').Nodup :=
  nodup_flatMap_congr (w.visit d) (w.visit d') (fun v b => mem_visit_dir w d' d v b)
    (fun v => visit_nodup_dir w d d' v) _ h

theorem mem_refs_dir {w : TWorld} (d d' : Dir) (g : Nat) (h : g ∈ w.refs d) : g ∈ w.refs d' := by
  obtain ⟨v, hv, hg⟩ := List.mem_flatMap.1 h
  exact List.mem_flatMap.2 ⟨v, hv, (mem_visit_dir w d d' v g).1 hg⟩

/-- on a homed world without stale entries in which every dict that names a subgraph is hung, the
    static nesting is the current nesting -/
theorem skids_sub_kids {w : TWorld} {home : Nat → Nat} (hns : w.noStale = true) (hu : w.allHung = true)
    (hho : w.toR.homedOk home = true) (a b : Nat) (hb : b ∈ w.toR.skids .fwd home a) : b ∈ w.kids .fwd a := by
  simp only [RWorld.skids, RWorld.kidsOf, List.mem_flatMap, List.mem_filter, List.mem_map, beq_iff_eq] at hb
  obtain ⟨v, ⟨⟨⟨q, hq, hqv⟩, hhome⟩, hr⟩, hb⟩ := hb
  rw [toR_visit] at hb
  rw [toR_recurse] at hr
  simp only [TWorld.toR, List.mem_map] at hq
  obtain ⟨p, hp, rfl⟩ := hq
  simp only at hqv
  subst hqv
  rw [noStale_visit hns hp] at hb
  have hm := (List.mem_filter.1 (hung_mem hu hp hb)).1
  obtain ⟨g', _, hg'⟩ := List.mem_flatMap.1 hm
  have : home p.1 = g' := homed_of_ok (w := w.toR) hho g' p.1 hg'
  rw [hhome] at this
  subst this
  simp only [TWorld.kids, List.mem_flatMap, List.mem_filter]
  exact ⟨p.1, ⟨hg', hr⟩, by rw [noStale_visit hns hp]; exact hb⟩

theorem treeShape_dynamic_static {w : TWorld} (home : Nat → Nat) (d : Dir) (g0 : Nat)
    (hns : w.noStale = true) (hu : w.allHung = true) (hho : w.toR.homedOk home = true)
    (ht : w.treeShape d g0 = true) : w.toR.treeShape home g0 = true := by
  simp only [TWorld.treeShape, Bool.and_eq_true, decide_eq_true_eq, Bool.not_eq_true',
    List.contains_eq_mem, decide_eq_false_iff_not] at ht
  obtain ⟨⟨⟨hac, _⟩, hrefs⟩, hroot⟩ := ht
  have hac : w.acyclic .fwd = true := tacyclic_dir w d .fwd hac
  have hrefs : (w.refs .fwd).Nodup := refs_nodup_dir d .fwd hrefs
  have hroot : g0 ∉ w.refs .fwd := fun h => hroot (mem_refs_dir .fwd d g0 h)
  have hkeys : (w.attrs.map (·.1)).Nodup := by simpa [TWorld.noStale] using hns
  simp only [RWorld.treeShape, Bool.and_eq_true]
  refine ⟨⟨⟨?_, by rw [toR_acyclic]; exact hac⟩, ?_⟩, hho⟩
  · cases e : w.toR.acyclicStatic .fwd home with
    | true => rfl
    | false =>
      obtain ⟨g, hg⟩ := (sstatic_complete w.toR .fwd home).1 e
      have : w.acyclic .fwd = false := (tacyclic_complete w .fwd).2 ⟨g, hg.mono (skids_sub_kids hns hu hho)⟩
      rw [hac] at this; cases this
  · rw [toR_unshared]
    simp only [Bool.and_eq_true, decide_eq_true_eq, Bool.not_eq_true', List.contains_eq_mem,
      decide_eq_false_iff_not]
    constructor
    · refine nodup_flatMap_of dictRefs w.attrs (ListFacts.nodup_of_map _ hkeys) ?_ ?_
      · intro p hp
        cases e : dictRefs p with
        | nil => exact List.nodup_nil
        | cons b l =>
          have hb : b ∈ dictRefs p := by rw [e]; simp
          rw [← e, ← noStale_visit hns hp]
          exact (sublist_flatMap_of_mem (w.visit .fwd) _ _ (hung_mem hu hp hb)).nodup hrefs
      · intro p hp q hq hne b hbp hbq
        have hne' : p.1 ≠ q.1 := by
          intro e
          apply hne
          have h1 := ListFacts.lookup_of_mem_nodup hkeys hp
          have h2 := ListFacts.lookup_of_mem_nodup hkeys hq
          rw [e] at h1
          have : p.2 = q.2 := Option.some.inj (h1.symm.trans h2)
          exact Prod.ext e this
        refine ListFacts.flatMap_nodup_disjoint (w.visit .fwd) _ hrefs p.1 (hung_mem hu hp hbp) q.1 (hung_mem hu hq hbq)
          hne' b ?_ ?_
        · rw [noStale_visit hns hp]; exact hbp
        · rw [noStale_visit hns hq]; exact hbq
    · intro hin
      obtain ⟨p, hp, hb⟩ := List.mem_flatMap.1 hin
      exact hroot (List.mem_flatMap.2 ⟨p.1, hung_mem hu hp hb, by rw [noStale_visit hns hp]; exact hb⟩)

/-- the two tree-shape predicates are equal on homed worlds without stale entries whose subgraph-naming
    dicts are all hung -/
theorem treeShape_static_eq {w : TWorld} (hw : TWorldWF w) (home : Nat → Nat) (d : Dir) (g0 : Nat)
    (hns : w.noStale = true) (hu : w.allHung = true) (hho : w.toR.homedOk home = true) :
    w.toR.treeShape home g0 = w.treeShape d g0 := by
  cases e : w.treeShape d g0 with
  | true => exact treeShape_dynamic_static home d g0 hns hu hho e
  | false =>
    cases e' : w.toR.treeShape home g0 with
    | false => rfl
    | true => rw [treeShape_static_dynamic hw home d g0 e'] at e; cases e

/-! ### histories of `next()` and node-sequence edits: acyclicity of every world passed through follows
from the static predicate on the initial world -/

/-- what is kept along a history of node-sequence edits that insert nodes into their home graph only -/
structure StaticInv (w : TWorld) (home rk : Nat → Nat) : Prop where
  wf : TWorldWF w
  homed : Homed w.toR home
  ranked : StaticRanked w.toR .fwd rk home

theorem StaticInv.acyclic {w : TWorld} {home rk : Nat → Nat} (h : StaticInv w home rk) (d : Dir) :
    w.acyclic d = true := by
  have := acyclic_of_ranked (ranked_of_static h.homed h.ranked)
  rw [toR_acyclic] at this
  exact tacyclic_dir w .fwd d this

theorem StaticInv.applyAt {w : TWorld} {home rk : Nat → Nat} (h : StaticInv w home rk) (g : Nat) (op : Op)
    (hg : g < w.sets.length) (ht : ∀ v ∈ touched op, home v = g) : StaticInv (w.applyAt g op).1 home rk :=
  ⟨(tapplyAt_ok h.wf (st := []) (fun _ hx => by cases hx) g op).1,
   homed_applyAt (w := w.toR) h.wf h.homed g op hg ht,
   fun v hr x hx => h.ranked v hr x hx⟩

theorem staticInv_of_ok {w : TWorld} {home : Nat → Nat} (hw : TWorldWF w) (hho : w.toR.homedOk home = true)
    (has : w.toR.acyclicStatic .fwd home = true) : StaticInv w home (w.toR.shgt .fwd home) :=
  ⟨hw, homed_of_ok hho, static_ranked_of_acyclic has⟩

/-- admissible history for the excluded set `X`, STATIC form: as `tAdm`, but instead of checking in every
    world passed through that no graph is nested in itself, every edit addresses an existing graph and
    inserts / moves / removes only nodes whose home graph it is -/
def tAdmS (X : List Nat) (home : Nat → Nat) (d : Dir) (fuel : Nat) : TWorld → List TFrame → List TEv → Bool
  | w, _, [] => w.closedB d X
  | w, st, .next :: es =>
      w.closedB d X &&
      (match (tNext w d fuel st).2.2 with
       | .yield _ => true
       | .stop => true
       | _ => false) &&
      tAdmS X home d fuel w (tNext w d fuel st).1 es
  | w, st, .edit g op :: es =>
      w.closedB d X && (touched op).all X.contains &&
      (decide (g < w.sets.length) && (touched op).all fun v => home v == g) &&
      tAdmS X home d fuel (w.applyAt g op).1 st es
  | _, _, .setAttr _ _ _ :: _ => false
  | _, _, .delAttr _ _ :: _ => false

theorem tAdm_of_static (X : List Nat) (home rk : Nat → Nat) (d : Dir) (fuel : Nat) :
    ∀ (es : List TEv) (w : TWorld) (st : List TFrame), StaticInv w home rk →
      tAdmS X home d fuel w st es = true → tAdm X d fuel w st es = true
  | [], w, st, hi, h => by
      simp only [tAdmS] at h
      simp only [tAdm, TWorld.good, hi.acyclic d, h, Bool.and_self]
  | .next :: es, w, st, hi, h => by
      simp only [tAdmS, Bool.and_eq_true] at h
      obtain ⟨⟨hc, hr⟩, ht⟩ := h
      simp only [tAdm, TWorld.good, hi.acyclic d, hc, Bool.and_self, Bool.true_and, Bool.and_eq_true]
      exact ⟨hr, tAdm_of_static X home rk d fuel es w _ hi ht⟩
  | .edit g op :: es, w, st, hi, h => by
      simp only [tAdmS, Bool.and_eq_true, decide_eq_true_eq, List.all_eq_true, beq_iff_eq] at h
      obtain ⟨⟨⟨hc, htx⟩, hg, hth⟩, ht⟩ := h
      simp only [tAdm, TWorld.good, hi.acyclic d, hc, Bool.and_self, Bool.true_and, Bool.and_eq_true,
        List.all_eq_true]
      exact ⟨htx, tAdm_of_static X home rk d fuel es _ st (hi.applyAt g op hg hth) ht⟩
  | .setAttr _ _ _ :: _, _, _, _, h => by simp [tAdmS] at h
  | .delAttr _ _ :: _, _, _, _, h => by simp [tAdmS] at h

end IrVerif.LinkedSet
