/-
Worlds that differ from a certified (`ReloadableM`) world only in the info of function values:
a change of infos that is a function of the name among a function's values (`post_reloadable`), in particular
clearing the info of the truthy-named function values, keeps the certificate; `serializeM` of such a world
writes the same main graph and the same functions up to their value_info.
-/
import IrVerif.Lemmas.ScopeFunc9Sets
import IrVerif.Lemmas.ScopeModelDup
import IrVerif.Lemmas.ListFacts
namespace IrVerif.Scope

/-- `w` is a truthy-named value of one of the functions (input or output of one of its own nodes) -/
def inSB (V : Nat → ValueS) (fs : List (FId × GraphT)) (w : Nat) : Bool :=
  nameTruthy (V w).name && fs.any fun f => (fvals f.2).contains w

theorem inSB_iff (V : Nat → ValueS) (fs : List (FId × GraphT)) (w : Nat) :
    inSB V fs w = true ↔ nameTruthy (V w).name = true ∧ ∃ f ∈ fs, w ∈ fvals f.2 := by
  simp only [inSB, Bool.and_eq_true, List.any_eq_true, List.contains_iff_mem]

/-- the info `J` with the truthy-named function values cleared -/
def clearI (V : Nat → ValueS) (fs : List (FId × GraphT)) (J : Nat → Info) : Nat → Info :=
  fun w => if inSB V fs w then {} else J w

def withInfo (w : MWorld) (I : Nat → Info) : MWorld := ⟨{ w.st with vals := setInfo w.st.vals I }, w.root, w.funcs⟩

theorem ReloadableM.funcs_ok {w : MWorld} (h : ReloadableM w) : ∀ f ∈ w.funcs, (replF w.st.vals f.2).ok := h.2.1

theorem ReloadableM.ids_nodup {w : MWorld} (h : ReloadableM w) : (w.funcs.map (·.1)).Nodup := h.2.2.2

theorem ReloadableM.root_disj {w : MWorld} (h : ReloadableM w) :
    ∀ v ∈ (replG w.st.vals [] w.root).new, ∀ f ∈ w.funcs, v ∉ (replF w.st.vals f.2).new :=
  fun v hv f hf hvf => (List.nodup_append.mp h.2.2.1).2.2 v hv v (List.mem_flatMap.mpr ⟨f, hf, hvf⟩) rfl

theorem ReloadableM.func_nodup {w : MWorld} (h : ReloadableM w) : ∀ f ∈ w.funcs, (replF w.st.vals f.2).new.Nodup :=
  ListFacts.flatMap_nodup_each (fun f : FId × GraphT => (replF w.st.vals f.2).new) (List.nodup_append.mp h.2.2.1).2.1

theorem ReloadableM.func_disj {w : MWorld} (h : ReloadableM w) :
    ∀ f ∈ w.funcs, ∀ g ∈ w.funcs, f ≠ g → ∀ x ∈ (replF w.st.vals f.2).new, x ∉ (replF w.st.vals g.2).new :=
  ListFacts.flatMap_nodup_disjoint (fun f : FId × GraphT => (replF w.st.vals f.2).new) _ (List.nodup_append.mp h.2.2.1).2.1

theorem notS_root (w : MWorld) (h : ReloadableM w) (v : Nat) (hv : v ∈ (replG w.st.vals [] w.root).new) :
    inSB w.st.vals w.funcs v = false := by
  cases hs : inSB w.st.vals w.funcs v with
  | false => rfl
  | true =>
    obtain ⟨ht, f, hf, hvf⟩ := (inSB_iff _ _ _).mp hs
    exact absurd (fvals_truthy_new _ f.2 (h.funcs_ok f hf) v hvf ht) (h.root_disj v hv f hf)

theorem notS_nodes (w : MWorld) (h : ReloadableM w) (f : FId × GraphT) (hf : f ∈ w.funcs) (v : Nat)
    (hv : v ∈ (bodyF w.st.vals f.2).new) : inSB w.st.vals w.funcs v = false := by
  cases hs : inSB w.st.vals w.funcs v with
  | false => rfl
  | true =>
    obtain ⟨ht, g, hg, hvg⟩ := (inSB_iff _ _ _).mp hs
    by_cases he : g = f
    · subst he
      exact absurd hv (fvals_truthy_not_nodes _ g.2 (h.funcs_ok _ hf) (h.func_nodup _ hf) v hvg ht)
    · have h1 := fvals_truthy_new _ g.2 (h.funcs_ok g hg) v hvg ht
      have h2 : v ∈ (replF w.st.vals f.2).new := by
        rw [replF_new_eq]; exact List.mem_append_right _ hv
      exact absurd h2 (h.func_disj g hg _ hf he v h1)

def InfoOutside (w : MWorld) (J : Nat → Info) : Prop := ∀ v, (∀ f ∈ w.funcs, v ∉ fvals f.2) → J v = (w.st.vals v).info

theorem agree_notS (w : MWorld) (J : Nat → Info) (hJ : InfoOutside w J) (v : Nat)
    (ht : nameTruthy (w.st.vals v).name = true) (hs : inSB w.st.vals w.funcs v = false) :
    J v = (w.st.vals v).info := by
  refine hJ v fun f hf hvf => ?_
  have : inSB w.st.vals w.funcs v = true := (inSB_iff _ _ _).mpr ⟨ht, f, hf, hvf⟩
  rw [hs] at this
  cases this

theorem agreeT_root (w : MWorld) (h : ReloadableM w) (J : Nat → Info) (hJ : InfoOutside w J) :
    AgreeT w.st.vals J (replG w.st.vals [] w.root).new :=
  fun v hv ht => agree_notS w J hJ v ht (notS_root w h v hv)

theorem agreeT_nodes (w : MWorld) (h : ReloadableM w) (J : Nat → Info) (hJ : InfoOutside w J)
    (f : FId × GraphT) (hf : f ∈ w.funcs) : AgreeT w.st.vals J (bodyF w.st.vals f.2).new :=
  fun v hv ht => agree_notS w J hJ v ht (notS_nodes w h f hf v hv)

/-- what the post-pass of the IR version < 10 format leaves -/
structure FuncInfo (w : MWorld) (J : Nat → Info) : Prop where
  outside : InfoOutside w J
  byName : ∀ f ∈ w.funcs, SameByName w.st.vals J (fvals f.2)

theorem post_reloadable (w : MWorld) (h : ReloadableM w) (J : Nat → Info) (hJ : FuncInfo w J) :
    ReloadableM (withInfo w J) := by
  obtain ⟨hJ, hSI⟩ := hJ
  obtain ⟨r1, r2⟩ := replG_setInfo w.st.vals J w.root [] (agreeT_root w h J hJ)
  have hF : ∀ f ∈ w.funcs, (replF (setInfo w.st.vals J) f.2).new = (replF w.st.vals f.2).new ∧
      ((replF w.st.vals f.2).ok → (replF (setInfo w.st.vals J) f.2).ok) := by
    intro f hf
    exact replF_setInfo w.st.vals J _
      (fun a ha b hb => hSI _ hf a (List.mem_append_left _ ha) b (List.mem_append_left _ hb))
      (agreeT_nodes w h J hJ f hf)
  refine ⟨r2 h.1, fun f hf => (hF f hf).2 (h.funcs_ok f hf), ?_, h.ids_nodup⟩
  show ((replG (setInfo w.st.vals J) [] w.root).new ++
    w.funcs.flatMap fun f => (replF (setInfo w.st.vals J) f.2).new).Nodup
  rw [r1, ListFacts.flatMap_congr_mem (l := w.funcs) (fun f hf => (hF f hf).1)]
  exact h.2.2.1

/-- clearing the info of the truthy-named function values keeps the certificate; `J` is any info that agrees
    with the world outside the function values -/
theorem clear_reloadable (w : MWorld) (h : ReloadableM w) (J : Nat → Info) (hJ : InfoOutside w J) :
    ReloadableM (withInfo w (clearI w.st.vals w.funcs J)) := by
  refine post_reloadable w h _ ⟨?_, ?_⟩
  · intro v hv
    have hs : inSB w.st.vals w.funcs v = false := by
      cases hs : inSB w.st.vals w.funcs v with
      | false => rfl
      | true =>
        obtain ⟨_, f, hf, hvf⟩ := (inSB_iff _ _ _).mp hs
        exact absurd hvf (hv f hf)
    simp only [clearI, hs, Bool.false_eq_true, if_false]
    exact hJ v hv
  · intro f hf a ha b hb ht hn
    have sa : inSB w.st.vals w.funcs a = true := (inSB_iff _ _ _).mpr ⟨ht, f, hf, ha⟩
    have sb : inSB w.st.vals w.funcs b = true := (inSB_iff _ _ _).mpr ⟨by rw [← hn]; exact ht, f, hf, hb⟩
    simp only [clearI, sa, sb, if_true]

/-- `serializeM` after a change of info slots that spares the values whose information the proto carries:
    same main graph, same functions up to their value_info -/
theorem frame_serializeM (w : MWorld) (J : Nat → Info) (w1 : MWorld) (q : ModelP)
    (hroot : ∀ v ∈ emitG w.st.vals w.root, J v = (w.st.vals v).info)
    (hsub : ∀ f ∈ w.funcs, ∀ v ∈ emitSubNs w.st.vals f.2.nodes, J v = (w.st.vals v).info)
    (hs : serializeM w = .ok (w1, q)) :
    ∃ w2 q2, serializeM (withInfo w J) = .ok (w2, q2) ∧ q2.graph = q.graph ∧ q2.funcs.map eraseF = q.funcs.map eraseF := by
  obtain ⟨ws1, ws2, hp, hf⟩ := serializeM_inv hs
  have e1 : serGraph (withInfo w J).st.vals (withInfo w J).st.tdata (withInfo w J).root = .ok (q.graph, ws1) := by
    show serGraph (setInfo w.st.vals J) w.st.tdata w.root = _
    rw [serGraph_setInfo _ _ _ _ hroot]; exact hp
  obtain ⟨fps', e2, e3⟩ := serFuncs_setInfo_weak w.st.vals J w.st.tdata w.funcs q.funcs ws2 hsub hf
  have e2' : serFuncs (withInfo w J).st.vals (withInfo w J).st.tdata (withInfo w J).funcs = .ok (fps', ws2) := e2
  exact ⟨_, ⟨q.graph, fps'⟩, by simp only [serializeM, e1, e2']; rfl, rfl, e3⟩

/-- `frame_serializeM` when the infos change only at values that a function's certificate introduces outside its
    nested graphs: the certificate introduces every value once -/
theorem frame_serializeM_funcs (w : MWorld) (h : ReloadableM w) (J : Nat → Info) (w1 : MWorld) (q : ModelP)
    (hJ : ∀ v, J v ≠ (w.st.vals v).info →
      ∃ f ∈ w.funcs, OwnVal w.st.vals f.2 v)
    (hs : serializeM w = .ok (w1, q)) :
    ∃ w2 q2, serializeM (withInfo w J) = .ok (w2, q2) ∧ q2.graph = q.graph ∧ q2.funcs.map eraseF = q.funcs.map eraseF := by
  refine frame_serializeM w J w1 q (fun v hv => ?_) (fun f hf v hv => ?_) hs
  · refine Decidable.byContradiction fun hne => ?_
    obtain ⟨g, hg, hn, _⟩ := hJ v hne
    exact h.root_disj v (emitG_sub_new _ _ [] h.1 v hv) g hg hn
  · refine Decidable.byContradiction fun hne => ?_
    obtain ⟨g, hg, hn, hns⟩ := hJ v hne
    by_cases he : g = f
    · subst he; exact hns hv
    · have h1 : v ∈ (replF w.st.vals f.2).new := by
        obtain ⟨k, gid, ins, inits, nodes, outs⟩ := f
        rw [replF_new_eq]
        exact List.mem_append_right _ (emitSubNs_sub_new _ nodes [] _ (replF_ok_nodes _ _ (h.funcs_ok _ hf)) v hv)
      exact h.func_disj g hg f hf he v hn h1

theorem serFunction_no_vinfo (V : Nat → ValueS) (td : TData) (k : FId) (g : GraphT) (fp : FuncP) (ws : Writes)
    (hq : ∀ v ∈ fvals g, shouldCreate (V v) = false) (hs : serFunction V td (k, g) = .ok (fp, ws)) :
    eraseF fp = fp := by
  obtain ⟨gid, ins, inits, nodes, outs⟩ := g
  obtain ⟨vis1, nps, vis2, hi, hn, _, rfl⟩ := serFunction_inv hs
  obtain ⟨_, _, hv1⟩ := serFInputs_ok V ins _ _ hi
  have hv2 := fun e => mem_serNodes_vi V td [] e nodes nps vis2 ws hn
  have : vis1 ++ vis2 = [] := by
    rw [List.eq_nil_iff_forall_not_mem]
    intro e he
    rw [List.mem_append] at he
    rcases he with he | he
    · obtain ⟨v, hv, hsc, _⟩ := (hv1 e).mp he
      rw [hq v (by simp [fvals, GraphT.inputs, hv])] at hsc
      cases hsc
    · obtain ⟨n, hn', he'⟩ := (hv2 e).mp he
      obtain ⟨v, hv, _, hsc, _⟩ := (mem_outVInfo V [] e n.outputs).mp he'
      rw [hq v (by
        simp only [fvals, GraphT.nodes, List.mem_append, List.mem_flatMap]
        exact .inr ⟨n, hn', hv⟩)] at hsc
      cases hsc
  simp only [eraseF, this]

theorem serFuncs_no_vinfo (V : Nat → ValueS) (td : TData) : ∀ (fs : List (FId × GraphT)) (fps : List FuncP) (ws : Writes),
    (∀ f ∈ fs, ∀ v ∈ fvals f.2, shouldCreate (V v) = false) → serFuncs V td fs = .ok (fps, ws) →
    fps.map eraseF = fps
  | [], fps, ws, _, h => by
    simp only [serFuncs, Except.ok.injEq, Prod.mk.injEq] at h
    obtain ⟨rfl, _⟩ := h
    rfl
  | f :: fs, fps, ws, hq, h => by
    obtain ⟨fp, ws1, fps', ws2, a, b, rfl, _⟩ := serFuncs_inv h
    obtain ⟨k, g⟩ := f
    simp only [List.map_cons, serFunction_no_vinfo V td k g fp ws1 (hq (k, g) List.mem_cons_self) a,
      serFuncs_no_vinfo V td fs fps' ws2 (fun f hf => hq f (List.mem_cons_of_mem _ hf)) b]

theorem inits_keyed_of_ok (V : Nat → ValueS) (g : GraphT) (outer : List Table) (hok : (replG V outer g).ok) :
    ∀ kv ∈ g.inits, (V kv.2).name = some kv.1 := by
  obtain ⟨gid, ins, inits, nodes, outs⟩ := g
  simp only [replG] at hok
  have key : ∀ (l : List (Name × Nat)) (T : Table), (replInits V outs T l).ok → ∀ kv ∈ l, (V kv.2).name = some kv.1 := by
    intro l
    induction l with
    | nil => intro _ _ kv hkv; simp at hkv
    | cons a r ih =>
      intro T hok kv hkv
      obtain ⟨k, v⟩ := a
      simp only [replInits] at hok
      simp only [List.mem_cons] at hkv
      split at hok
      · rcases hkv with rfl | hkv
        · exact hok.1.1
        · exact ih _ hok.2.2 kv hkv
      · rcases hkv with rfl | hkv
        · exact hok.1.1
        · exact ih _ hok.2.2 kv hkv
  exact key inits _ hok.2.2.1

end IrVerif.Scope
