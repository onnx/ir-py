/-
The IR built by deserialization, seen as a world of the kernel model (`IrVerif.Kernel`, C01): the
embedding `toKernel` and the proof that `Consistent` (C17) gives the six clauses of `Kernel.WF`.
-/
import IrVerif.Lemmas.KernelOps
import IrVerif.Lemmas.ScopeTree
import IrVerif.Lemmas.ListFacts
namespace IrVerif.Scope

/-- a value cell as a kernel value record (the type / shape / documentation tokens are dropped) -/
def kval (c : ValueS) : Kernel.ValueS :=
  { name := c.name, producer := c.producer, index := c.index.map Int.ofNat, uses := c.uses, graph := c.graph,
    isIn := c.isIn, isOut := c.isOut, isInit := c.isInit, const := c.const }

mutual
/-- the nodes of a graph tree with their creation index, as kernel node records -/
def knodesG : GraphT → List (Nat × Kernel.NodeS)
  | .mk _ _ _ ns _ => knodesNs ns
def knodesNs : List NodeT → List (Nat × Kernel.NodeS)
  | [] => []
  | n :: ns => knodesN n ++ knodesNs ns
def knodesN : NodeT → List (Nat × Kernel.NodeS)
  | .mk i gr a b subs => knodesGs subs ++ [(i, { inputs := a, outputs := b, graph := gr })]
def knodesGs : List GraphT → List (Nat × Kernel.NodeS)
  | [] => []
  | g :: gs => knodesG g ++ knodesGs gs
end

/-- what the kernel records of a graph besides the reference counters and the name authority -/
structure KG where
  inputs : List Nat
  outputs : List Nat
  inits : List (Name × Nat)
  nodes : List Nat

mutual
def kgraphsG : GraphT → List (Nat × KG)
  | .mk i ins inits ns outs => kgraphsNs ns ++ [(i, ⟨ins, outs, inits, ns.map NodeT.id⟩)]
def kgraphsNs : List NodeT → List (Nat × KG)
  | [] => []
  | n :: ns => kgraphsN n ++ kgraphsNs ns
def kgraphsN : NodeT → List (Nat × KG)
  | .mk _ _ _ _ subs => kgraphsGs subs
def kgraphsGs : List GraphT → List (Nat × KG)
  | [] => []
  | g :: gs => kgraphsG g ++ kgraphsGs gs
end

/-- the reference counters of a tracked list: multiplicities, indexed by value id -/
def cnts (nv : Nat) (l : List Nat) : List Nat := (List.range nv).map fun v => l.count v

def kgraph (nv : Nat) (r : KG) : Kernel.GraphS :=
  { inputs := r.inputs, outputs := r.outputs, inCnt := cnts nv r.inputs, outCnt := cnts nv r.outputs,
    inits := r.inits, nodes := r.nodes }

/-- **the embedding**: value `v` is kernel value `v`, the node / graph with creation index `i` is kernel
    node / graph `i`; ids that name nothing are blank records. -/
def toKernel (w : World) : Kernel.World :=
  { vals := (List.range w.st.nv).map fun v => kval (w.st.vals v),
    nodes := (List.range w.st.nn).map fun n => ((knodesG w.root).lookup n).getD {},
    graphs := (List.range w.st.ng).map fun g =>
      match (kgraphsG w.root).lookup g with
      | some r => kgraph w.st.nv r
      | none => {} }

theorem kval_default : kval {} = {} := rfl

theorem val_toKernel (w : World) (hf : Fresh w.st) (v : Nat) : (toKernel w).val v = kval (w.st.vals v) := by
  simp only [Kernel.World.val, toKernel, Kernel.lget_range_map]
  split
  · rfl
  · rename_i h
    rw [hf v (by omega)]; rfl

theorem lookup_none_of_keys_lt {α : Type} (l : List (Nat × α)) (b k : Nat) (h : ∀ e ∈ l, e.1 < b) (hk : b ≤ k) :
    l.lookup k = none := by
  induction l with
  | nil => rfl
  | cons e l ih =>
    obtain ⟨a, r⟩ := e
    have ha := h (a, r) List.mem_cons_self
    have : (k == a) = false := by
      simp only [beq_eq_false_iff_ne, ne_eq]
      intro e; subst e; exact absurd ha (by simp; omega)
    simp only [List.lookup_cons, this]
    exact ih (fun e he => h e (List.mem_cons_of_mem _ he))

theorem node_toKernel (w : World) (hlt : ∀ e ∈ knodesG w.root, e.1 < w.st.nn) (n : Nat) :
    (toKernel w).node n = ((knodesG w.root).lookup n).getD {} := by
  simp only [Kernel.World.node, toKernel, Kernel.lget_range_map]
  split
  · rfl
  · rename_i h
    rw [lookup_none_of_keys_lt _ w.st.nn n hlt (by omega)]; rfl

theorem gr_toKernel (w : World) (hlt : ∀ e ∈ kgraphsG w.root, e.1 < w.st.ng) (g : Nat) :
    (toKernel w).gr g = match (kgraphsG w.root).lookup g with
      | some r => kgraph w.st.nv r
      | none => {} := by
  simp only [Kernel.World.gr, toKernel, Kernel.lget_range_map]
  split
  · rfl
  · rename_i h
    rw [lookup_none_of_keys_lt _ w.st.ng g hlt (by omega)]; rfl

theorem lookup_some_iff {α : Type} (l : List (Nat × α)) (hnd : (l.map (·.1)).Nodup) (k : Nat) (r : α) :
    l.lookup k = some r ↔ (k, r) ∈ l :=
  ⟨ListFacts.mem_of_lookup, ListFacts.lookup_of_mem_nodup hnd⟩

/-! ### the flattened records and `recsG` / `grecsG` -/

def toNRec (e : Nat × Kernel.NodeS) : NRec := ⟨e.1, e.2.inputs, e.2.outputs⟩
def toGRec (e : Nat × KG) : GRec := ⟨e.1, e.2.inputs, e.2.outputs, e.2.inits.map (·.2)⟩

mutual
theorem recsG_knodes : ∀ (g : GraphT), recsG g = (knodesG g).map toNRec
  | .mk _ _ _ ns _ => by simp only [recsG, knodesG]; exact recsNs_knodes ns
theorem recsNs_knodes : ∀ (ns : List NodeT), recsNs ns = (knodesNs ns).map toNRec
  | [] => rfl
  | n :: ns => by simp only [recsNs, knodesNs, List.map_append, recsN_knodes n, recsNs_knodes ns]
theorem recsN_knodes : ∀ (n : NodeT), recsN n = (knodesN n).map toNRec
  | .mk i gr a b subs => by
    simp only [recsN, knodesN, List.map_append, recsGs_knodes subs, List.map_cons, List.map_nil, toNRec]
theorem recsGs_knodes : ∀ (gs : List GraphT), recsGs gs = (knodesGs gs).map toNRec
  | [] => rfl
  | g :: gs => by simp only [recsGs, knodesGs, List.map_append, recsG_knodes g, recsGs_knodes gs]
end

mutual
theorem grecsG_kgraphs : ∀ (g : GraphT), grecsG g = (kgraphsG g).map toGRec
  | .mk i ins inits ns outs => by
    simp only [grecsG, kgraphsG, List.map_append, grecsNs_kgraphs ns, List.map_cons, List.map_nil, toGRec]
theorem grecsNs_kgraphs : ∀ (ns : List NodeT), grecsNs ns = (kgraphsNs ns).map toGRec
  | [] => rfl
  | n :: ns => by simp only [grecsNs, kgraphsNs, List.map_append, grecsN_kgraphs n, grecsNs_kgraphs ns]
theorem grecsN_kgraphs : ∀ (n : NodeT), grecsN n = (kgraphsN n).map toGRec
  | .mk _ _ _ _ subs => by simp only [grecsN, kgraphsN]; exact grecsGs_kgraphs subs
theorem grecsGs_kgraphs : ∀ (gs : List GraphT), grecsGs gs = (kgraphsGs gs).map toGRec
  | [] => rfl
  | g :: gs => by simp only [grecsGs, kgraphsGs, List.map_append, grecsG_kgraphs g, grecsGs_kgraphs gs]
end

/-! ### what `TreeOKG` says about the flattened records -/

/-- initializers are keyed by the non-empty name of their value; keys are distinct -/
def PI (st : Store) (KGs : List (Nat × KG)) : Prop :=
  ∀ e ∈ KGs, (∀ kv ∈ e.2.inits, (st.vals kv.2).name = some kv.1 ∧ kv.1 ≠ "") ∧ (e.2.inits.map (·.1)).Nodup

/-- every node listed by a graph names that graph as its owner -/
def PA (KN : List (Nat × Kernel.NodeS)) (KGs : List (Nat × KG)) : Prop :=
  ∀ e ∈ KGs, ∀ n ∈ e.2.nodes, ∃ rec, (n, rec) ∈ KN ∧ rec.graph = some e.1

/-- every node is listed by the graph it names as its owner -/
def PB (KN : List (Nat × Kernel.NodeS)) (KGs : List (Nat × KG)) : Prop :=
  ∀ x ∈ KN, ∃ e ∈ KGs, x.2.graph = some e.1 ∧ x.1 ∈ e.2.nodes

theorem PI.append {st : Store} {A B : List (Nat × KG)} (ha : PI st A) (hb : PI st B) : PI st (A ++ B) :=
  fun e he => by
    rcases List.mem_append.mp he with h | h
    · exact ha e h
    · exact hb e h

theorem PA.append {KN KN' : List (Nat × Kernel.NodeS)} {A B : List (Nat × KG)} (ha : PA KN A) (hb : PA KN' B) :
    PA (KN ++ KN') (A ++ B) := fun e he n hn => by
  rcases List.mem_append.mp he with h | h
  · obtain ⟨rec, h1, h2⟩ := ha e h n hn
    exact ⟨rec, List.mem_append.mpr (.inl h1), h2⟩
  · obtain ⟨rec, h1, h2⟩ := hb e h n hn
    exact ⟨rec, List.mem_append.mpr (.inr h1), h2⟩

theorem PB.append {KN KN' : List (Nat × Kernel.NodeS)} {A B : List (Nat × KG)} (ha : PB KN A) (hb : PB KN' B) :
    PB (KN ++ KN') (A ++ B) := fun x hx => by
  rcases List.mem_append.mp hx with h | h
  · obtain ⟨e, h1, h2⟩ := ha x h
    exact ⟨e, List.mem_append.mpr (.inl h1), h2⟩
  · obtain ⟨e, h1, h2⟩ := hb x h
    exact ⟨e, List.mem_append.mpr (.inr h1), h2⟩

mutual
theorem treeOK_flatG (st : Store) :
    ∀ (g : GraphT), TreeOKG st g → PI st (kgraphsG g) ∧ PA (knodesG g) (kgraphsG g) ∧ PB (knodesG g) (kgraphsG g)
  | .mk gid ins inits ns outs, h => by
    simp only [TreeOKG] at h
    obtain ⟨h1, h2, h3⟩ := h
    obtain ⟨i1, a1, b1, l1⟩ := treeOK_flatNs st (some gid) ns h3
    simp only [kgraphsG, knodesG]
    refine ⟨i1.append ?_, ?_, ?_⟩
    · intro e he
      simp only [List.mem_singleton] at he
      subst he
      exact ⟨fun kv hkv => (h1 kv hkv).2, h2⟩
    · intro e he n hn
      rcases List.mem_append.mp he with h | h
      · exact a1 e h n hn
      · simp only [List.mem_singleton] at h
        subst h
        simp only [List.mem_map] at hn
        obtain ⟨nd, hnd, rfl⟩ := hn
        exact l1 nd hnd
    · intro x hx
      rcases b1 x hx with ⟨hg, hm⟩ | ⟨e, he, h⟩
      · exact ⟨(gid, ⟨ins, outs, inits, ns.map NodeT.id⟩), by simp, hg, hm⟩
      · exact ⟨e, List.mem_append.mpr (.inl he), h⟩
theorem treeOK_flatNs (st : Store) :
    ∀ (o : Option Nat) (ns : List NodeT), TreeOKNs st o ns →
      PI st (kgraphsNs ns) ∧ PA (knodesNs ns) (kgraphsNs ns) ∧
      (∀ x ∈ knodesNs ns, (x.2.graph = o ∧ x.1 ∈ ns.map NodeT.id) ∨
        ∃ e ∈ kgraphsNs ns, x.2.graph = some e.1 ∧ x.1 ∈ e.2.nodes) ∧
      (∀ n ∈ ns, ∃ rec, (n.id, rec) ∈ knodesNs ns ∧ rec.graph = o)
  | _, [], _ => by
    refine ⟨fun _ he => by simp [kgraphsNs] at he, fun _ he => by simp [kgraphsNs] at he,
      fun _ hx => by simp [knodesNs] at hx, fun _ hn => by simp at hn⟩
  | o, n :: ns, h => by
    simp only [TreeOKNs] at h
    obtain ⟨i1, a1, b1, l1⟩ := treeOK_flatN st o n h.1
    obtain ⟨i2, a2, b2, l2⟩ := treeOK_flatNs st o ns h.2
    simp only [kgraphsNs, knodesNs]
    refine ⟨i1.append i2, a1.append a2, ?_, ?_⟩
    · intro x hx
      rcases List.mem_append.mp hx with hx | hx
      · rcases b1 x hx with ⟨hg, hm⟩ | ⟨e, he, h⟩
        · exact .inl ⟨hg, by simp [hm]⟩
        · exact .inr ⟨e, List.mem_append.mpr (.inl he), h⟩
      · rcases b2 x hx with ⟨hg, hm⟩ | ⟨e, he, h⟩
        · exact .inl ⟨hg, by simp [hm]⟩
        · exact .inr ⟨e, List.mem_append.mpr (.inr he), h⟩
    · intro m hm
      simp only [List.mem_cons] at hm
      rcases hm with rfl | hm
      · obtain ⟨rec, h1, h2⟩ := l1
        exact ⟨rec, List.mem_append.mpr (.inl h1), h2⟩
      · obtain ⟨rec, h1, h2⟩ := l2 m hm
        exact ⟨rec, List.mem_append.mpr (.inr h1), h2⟩
theorem treeOK_flatN (st : Store) :
    ∀ (o : Option Nat) (n : NodeT), TreeOKN st o n →
      PI st (kgraphsN n) ∧ PA (knodesN n) (kgraphsN n) ∧
      (∀ x ∈ knodesN n, (x.2.graph = o ∧ x.1 = n.id) ∨ ∃ e ∈ kgraphsN n, x.2.graph = some e.1 ∧ x.1 ∈ e.2.nodes) ∧
      (∃ rec, (n.id, rec) ∈ knodesN n ∧ rec.graph = o)
  | o, .mk i gr a b subs, h => by
    simp only [TreeOKN] at h
    obtain ⟨i1, a1, b1⟩ := treeOK_flatGs st subs h.2
    simp only [kgraphsN, knodesN, NodeT.id]
    refine ⟨i1, ?_, ?_, ⟨{ inputs := a, outputs := b, graph := gr }, by simp, h.1⟩⟩
    · intro e he n hn
      obtain ⟨rec, h1, h2⟩ := a1 e he n hn
      exact ⟨rec, List.mem_append.mpr (.inl h1), h2⟩
    · intro x hx
      rcases List.mem_append.mp hx with hx | hx
      · exact .inr (b1 x hx)
      · simp only [List.mem_singleton] at hx
        subst hx
        exact .inl ⟨h.1, rfl⟩
theorem treeOK_flatGs (st : Store) :
    ∀ (gs : List GraphT), TreeOKGs st gs →
      PI st (kgraphsGs gs) ∧ PA (knodesGs gs) (kgraphsGs gs) ∧ PB (knodesGs gs) (kgraphsGs gs)
  | [], _ => ⟨fun _ he => by simp [kgraphsGs] at he, fun _ he => by simp [kgraphsGs] at he,
      fun _ hx => by simp [knodesGs] at hx⟩
  | g :: gs, h => by
    simp only [TreeOKGs] at h
    obtain ⟨i1, a1, b1⟩ := treeOK_flatG st g h.1
    obtain ⟨i2, a2, b2⟩ := treeOK_flatGs st gs h.2
    simp only [kgraphsGs, knodesGs]
    exact ⟨i1.append i2, a1.append a2, b1.append b2⟩
end

/-- the node list of every graph is a sublist of the ids of all nodes -/
def PS (KN : List (Nat × Kernel.NodeS)) (KGs : List (Nat × KG)) : Prop :=
  ∀ e ∈ KGs, e.2.nodes.Sublist (KN.map (·.1))

theorem PS.append {KN KN' : List (Nat × Kernel.NodeS)} {A B : List (Nat × KG)} (ha : PS KN A) (hb : PS KN' B) :
    PS (KN ++ KN') (A ++ B) := fun e he => by
  rw [List.map_append]
  rcases List.mem_append.mp he with h | h
  · exact (ha e h).trans (List.sublist_append_left _ _)
  · exact (hb e h).trans (List.sublist_append_right _ _)

mutual
theorem sub_flatG : ∀ (g : GraphT), PS (knodesG g) (kgraphsG g)
  | .mk gid ins inits ns outs => by
    obtain ⟨h1, h2⟩ := sub_flatNs ns
    simp only [kgraphsG, knodesG]
    intro e he
    rcases List.mem_append.mp he with h | h
    · exact h1 e h
    · simp only [List.mem_singleton] at h
      subst h
      exact h2
theorem sub_flatNs : ∀ (ns : List NodeT),
    PS (knodesNs ns) (kgraphsNs ns) ∧ (ns.map NodeT.id).Sublist ((knodesNs ns).map (·.1))
  | [] => ⟨fun _ he => by simp [kgraphsNs] at he, by simp [knodesNs]⟩
  | n :: ns => by
    obtain ⟨h1, h2⟩ := sub_flatN n
    obtain ⟨h3, h4⟩ := sub_flatNs ns
    simp only [kgraphsNs, knodesNs]
    refine ⟨h1.append h3, ?_⟩
    rw [List.map_append, List.map_cons]
    have : (n.id :: ns.map NodeT.id) = [n.id] ++ ns.map NodeT.id := rfl
    rw [this]
    exact List.Sublist.append h2 h4
theorem sub_flatN : ∀ (n : NodeT), PS (knodesN n) (kgraphsN n) ∧ [n.id].Sublist ((knodesN n).map (·.1))
  | .mk i gr a b subs => by
    have h1 := sub_flatGs subs
    simp only [kgraphsN, knodesN, NodeT.id]
    refine ⟨fun e he => ?_, ?_⟩
    · rw [List.map_append]
      exact (h1 e he).trans (List.sublist_append_left _ _)
    · rw [List.map_append]
      exact List.sublist_append_right _ _
theorem sub_flatGs : ∀ (gs : List GraphT), PS (knodesGs gs) (kgraphsGs gs)
  | [] => fun _ he => by simp [kgraphsGs] at he
  | g :: gs => by
    simp only [kgraphsGs, knodesGs]
    exact (sub_flatG g).append (sub_flatGs gs)
end

/-- the store is blank above its counters and the creation indices of the tree are below them
    (true of everything deserialization builds; `C17_consistent` is stated on `World` without it) -/
structure Bounded (w : World) : Prop where
  fresh : Fresh w.st
  node_lt : ∀ r ∈ recsG w.root, r.id < w.st.nn
  graph_lt : ∀ g ∈ grecsG w.root, g.id < w.st.ng

theorem lget_cnts (nv : Nat) (l : List Nat) (hl : ∀ v ∈ l, v < nv) (v : Nat) :
    Kernel.lget (cnts nv l) v = l.count v := by
  simp only [cnts, Kernel.lget_range_map]
  split
  · rfl
  · rename_i h
    symm
    show List.count v l = 0
    rw [List.count_eq_zero]
    intro hm
    exact h (hl v hm)

/-! ### the consistency invariant (the C01 invariant restricted to what deserialization builds) -/

/-- Use-def and ownership links of an IR model are consistent: `recsG w.root` are the nodes of the
    model (of all nested graphs), `grecsG w.root` its graphs. -/
structure Consistent (w : World) : Prop where
  /-- every input slot is registered as a use of the value it holds -/
  use_of_input : ∀ r ∈ recsG w.root, ∀ i v, r.inputs[i]? = some (some v) → (r.id, i) ∈ (w.st.vals v).uses
  /-- every registered use is an input slot of a node of the model that holds the value -/
  input_of_use : ∀ v n i, (n, i) ∈ (w.st.vals v).uses →
    ∃ r ∈ recsG w.root, r.id = n ∧ r.inputs[i]? = some (some v)
  uses_nodup : ∀ v, (w.st.vals v).uses.Nodup
  /-- every output slot points back with producer and index -/
  producer_of_output : ∀ r ∈ recsG w.root, ∀ k v, r.outputs[k]? = some v →
    (w.st.vals v).producer = some r.id ∧ (w.st.vals v).index = some k
  /-- a producer is a node of the model that lists the value at the recorded index -/
  output_of_producer : ∀ v n, (w.st.vals v).producer = some n →
    ∃ r ∈ recsG w.root, r.id = n ∧ ∃ k, (w.st.vals v).index = some k ∧ r.outputs[k]? = some v
  /-- one direction only; the converse is part of `output_of_producer` -/
  index_iff_producer : ∀ v, (w.st.vals v).producer = none → (w.st.vals v).index = none
  node_ids_distinct : ((recsG w.root).map (·.id)).Nodup
  graph_ids_distinct : ((grecsG w.root).map (·.id)).Nodup
  /-- listed inputs / outputs / initializers carry the flag and the owner -/
  owned : ∀ g ∈ grecsG w.root,
    (∀ v ∈ g.inputs, (w.st.vals v).isIn = true ∧ (w.st.vals v).graph = some g.id) ∧
    (∀ v ∈ g.outputs, (w.st.vals v).isOut = true ∧ (w.st.vals v).graph = some g.id) ∧
    (∀ v ∈ g.inits, (w.st.vals v).isInit = true ∧ (w.st.vals v).graph = some g.id)
  /-- a flag implies membership in the collection of the owner, an owner implies a flag:
      a value is owned by at most one graph -/
  owner_of_flag : ∀ v,
    ((w.st.vals v).isIn = true → ∃ g ∈ grecsG w.root, (w.st.vals v).graph = some g.id ∧ v ∈ g.inputs) ∧
    ((w.st.vals v).isOut = true → ∃ g ∈ grecsG w.root, (w.st.vals v).graph = some g.id ∧ v ∈ g.outputs) ∧
    ((w.st.vals v).isInit = true → ∃ g ∈ grecsG w.root, (w.st.vals v).graph = some g.id ∧ v ∈ g.inits) ∧
    ((w.st.vals v).graph ≠ none →
      (w.st.vals v).isIn = true ∨ (w.st.vals v).isOut = true ∨ (w.st.vals v).isInit = true)
  /-- graph inputs and initializers have no producing node -/
  roots : ∀ g ∈ grecsG w.root,
    (∀ v ∈ g.inputs, (w.st.vals v).producer = none) ∧ (∀ v ∈ g.inits, (w.st.vals v).producer = none)
  /-- in every graph of the tree: each listed node carries `node.graph = ` that graph, every
      initializer is keyed by the name of its value, keys are distinct (`TreeOKG`) -/
  tree : TreeOKG w.st w.root

/-- the 12 fields of `Consistent`, read through the embedding `toKernel`, give the six clauses `I_use`, `I_prod`,
    `I_root`, `I_own`, `I_key`, `I_node` of the kernel invariant `Kernel.WF` of C01.
    Correspondence: `use_of_input` + `input_of_use` + `uses_nodup` = `I_use`;
    `producer_of_output` + `output_of_producer` (+ `index_iff_producer`, which is stronger than the
    kernel's clause) = `I_prod`; `roots` (+ `owner_of_flag`) = `I_root`; `owned` + `owner_of_flag` = `I_own`
    (the reference counters are multiplicities by construction of the embedding); `tree` (initializer
    keyed by its non-empty name, distinct keys) = `I_key`; `tree` (`node.graph` = the listing graph) +
    `node_ids_distinct` = `I_node`. -/
theorem consistent_toKernel_WF (w : World) (hc : Consistent w) (hb : Bounded w) : Kernel.WF (toKernel w) := by
  obtain ⟨use_of_input, input_of_use, uses_nodup, producer_of_output, output_of_producer, _, node_ids_distinct,
    graph_ids_distinct, owned, owner_of_flag, roots, tree⟩ := hc
  obtain ⟨hf, hnlt, hglt⟩ := hb
  -- the flattened records
  have eN := recsG_knodes w.root
  have eG := grecsG_kgraphs w.root
  have hKNnd : ((knodesG w.root).map (·.1)).Nodup := by
    have : (recsG w.root).map (·.id) = (knodesG w.root).map (·.1) := by
      rw [eN, List.map_map]; rfl
    rw [← this]; exact node_ids_distinct
  have hKGnd : ((kgraphsG w.root).map (·.1)).Nodup := by
    have : (grecsG w.root).map (·.id) = (kgraphsG w.root).map (·.1) := by
      rw [eG, List.map_map]; rfl
    rw [← this]; exact graph_ids_distinct
  have hKNlt : ∀ e ∈ knodesG w.root, e.1 < w.st.nn := fun e he =>
    hnlt (toNRec e) (by rw [eN]; exact List.mem_map_of_mem he)
  have hKGlt : ∀ e ∈ kgraphsG w.root, e.1 < w.st.ng := fun e he =>
    hglt (toGRec e) (by rw [eG]; exact List.mem_map_of_mem he)
  have hval := val_toKernel w hf
  have hnode := node_toKernel w hKNlt
  have hgr := gr_toKernel w hKGlt
  have recMem : ∀ e, e ∈ knodesG w.root → toNRec e ∈ recsG w.root := fun e he => by
    rw [eN]; exact List.mem_map_of_mem he
  have grecMem : ∀ e, e ∈ kgraphsG w.root → toGRec e ∈ grecsG w.root := fun e he => by
    rw [eG]; exact List.mem_map_of_mem he
  have recInv : ∀ r ∈ recsG w.root, ∃ e ∈ knodesG w.root, toNRec e = r := fun r hr => by
    rw [eN] at hr; exact List.mem_map.mp hr
  have grecInv : ∀ g ∈ grecsG w.root, ∃ e ∈ kgraphsG w.root, toGRec e = g := fun g hg => by
    rw [eG] at hg; exact List.mem_map.mp hg
  -- a kernel node / graph is a record of the tree or blank
  have nodeOf : ∀ n rec, (n, rec) ∈ knodesG w.root → (toKernel w).node n = rec := fun n rec hm => by
    rw [hnode, (lookup_some_iff _ hKNnd n rec).mpr hm]; rfl
  have nodeCases : ∀ n, (toKernel w).node n = {} ∨ ∃ rec, (n, rec) ∈ knodesG w.root ∧ (toKernel w).node n = rec := by
    intro n
    cases hl : (knodesG w.root).lookup n with
    | none => left; rw [hnode, hl]; rfl
    | some rec =>
      right
      have hm := (lookup_some_iff _ hKNnd n rec).mp hl
      exact ⟨rec, hm, nodeOf n rec hm⟩
  have grOf : ∀ g r, (g, r) ∈ kgraphsG w.root → (toKernel w).gr g = kgraph w.st.nv r := fun g r hm => by
    rw [hgr, (lookup_some_iff _ hKGnd g r).mpr hm]
  have grCases : ∀ g, (toKernel w).gr g = {} ∨ ∃ r, (g, r) ∈ kgraphsG w.root ∧ (toKernel w).gr g = kgraph w.st.nv r := by
    intro g
    cases hl : (kgraphsG w.root).lookup g with
    | none => left; rw [hgr, hl]
    | some r =>
      right
      have hm := (lookup_some_iff _ hKGnd g r).mp hl
      exact ⟨r, hm, grOf g r hm⟩
  -- values listed by a graph of the tree are allocated
  have inLt : ∀ e ∈ kgraphsG w.root, (∀ v ∈ e.2.inputs, v < w.st.nv) ∧ (∀ v ∈ e.2.outputs, v < w.st.nv) := by
    intro e he
    have ho := owned (toGRec e) (grecMem e he)
    refine ⟨fun v hv => ?_, fun v hv => ?_⟩
    · have := (ho.1 v hv).1
      apply Nat.lt_of_not_le
      intro hle
      rw [hf v hle] at this
      simp at this
    · have := (ho.2.1 v hv).1
      apply Nat.lt_of_not_le
      intro hle
      rw [hf v hle] at this
      simp at this
  obtain ⟨pI, pA, pB⟩ := treeOK_flatG w.st w.root tree
  have pS := sub_flatG w.root
  refine ⟨⟨?_, ?_⟩, ⟨?_, ?_⟩, ?_, ⟨?_, ?_, ?_, ?_, ?_, ?_⟩, ⟨?_, ?_⟩, ⟨?_, ?_⟩⟩
  · -- I_use, both directions
    intro v n i
    rw [hval]
    constructor
    · intro h
      obtain ⟨r, hr, hid, hin⟩ := input_of_use v n i h
      obtain ⟨e, he, rfl⟩ := recInv r hr
      obtain ⟨m, rec⟩ := e
      simp only [toNRec] at hid hin
      subst hid
      rw [nodeOf m rec he]; exact hin
    · intro h
      rcases nodeCases n with hbl | ⟨rec, hm, hn⟩
      · rw [hbl] at h; simp at h
      · rw [hn] at h
        exact use_of_input (toNRec (n, rec)) (recMem _ hm) i v h
  · intro v; rw [hval]; exact uses_nodup v
  · -- I_prod
    intro n i v
    rw [hval]
    constructor
    · intro h
      rcases nodeCases n with hbl | ⟨rec, hm, hn⟩
      · rw [hbl] at h; simp at h
      · rw [hn] at h
        obtain ⟨h1, h2⟩ := producer_of_output (toNRec (n, rec)) (recMem _ hm) i v h
        simp only [toNRec] at h1
        simp [kval, h1, h2]
    · rintro ⟨h1, h2⟩
      simp only [kval] at h1 h2
      obtain ⟨r, hr, hid, k, hk, hout⟩ := output_of_producer v n h1
      obtain ⟨e, he, rfl⟩ := recInv r hr
      obtain ⟨m, rec⟩ := e
      simp only [toNRec] at hid hout
      subst hid
      rw [hk] at h2
      simp only [Option.map_some, Option.some.injEq, Int.ofNat_eq_natCast, Int.natCast_inj] at h2
      subst h2
      rw [nodeOf m rec he]; exact hout
  · intro v n h
    rw [hval] at h ⊢
    simp only [kval] at h
    obtain ⟨r, _, _, k, hk, _⟩ := output_of_producer v n h
    exact ⟨k, by simp [kval, hk]⟩
  · -- I_root
    intro v h
    rw [hval] at h ⊢
    simp only [kval] at h ⊢
    rcases h with h | h
    · obtain ⟨g, hg, _, hm⟩ := (owner_of_flag v).1 h
      exact (roots g hg).1 v hm
    · obtain ⟨g, hg, _, hm⟩ := (owner_of_flag v).2.2.1 h
      exact (roots g hg).2 v hm
  · -- I_own.cnt
    intro k g v
    rcases grCases g with hbl | ⟨r, hm, hg⟩
    · rw [hbl]; cases k <;> simp [Kernel.ioCnt, Kernel.ioList, Kernel.lget]
    · rw [hg]
      cases k
      · exact lget_cnts _ _ (inLt _ hm).1 v
      · exact lget_cnts _ _ (inLt _ hm).2 v
  · -- io_mem
    intro k g v hv
    rcases grCases g with hbl | ⟨r, hm, hg⟩
    · rw [hbl] at hv; cases k <;> simp [Kernel.ioList] at hv
    · rw [hg] at hv
      rw [hval]
      have ho := owned (toGRec (g, r)) (grecMem _ hm)
      cases k
      · exact ho.1 v hv
      · exact ho.2.1 v hv
  · -- io_flag
    intro k v h
    rw [hval] at h
    cases k
    · obtain ⟨g, hg, h1, h2⟩ := (owner_of_flag v).1 h
      obtain ⟨e, he, rfl⟩ := grecInv g hg
      obtain ⟨gid, r⟩ := e
      exact ⟨gid, by rw [hval]; exact h1, by rw [grOf gid r he]; exact h2⟩
    · obtain ⟨g, hg, h1, h2⟩ := (owner_of_flag v).2.1 h
      obtain ⟨e, he, rfl⟩ := grecInv g hg
      obtain ⟨gid, r⟩ := e
      exact ⟨gid, by rw [hval]; exact h1, by rw [grOf gid r he]; exact h2⟩
  · -- init_mem
    intro g key v hv
    rcases grCases g with hbl | ⟨r, hm, hg⟩
    · rw [hbl] at hv; simp at hv
    · rw [hg] at hv
      rw [hval]
      have ho := owned (toGRec (g, r)) (grecMem _ hm)
      exact ho.2.2 v (List.mem_map.mpr ⟨(key, v), hv, rfl⟩)
  · -- init_flag
    intro v h
    rw [hval] at h
    obtain ⟨g, hg, h1, h2⟩ := (owner_of_flag v).2.2.1 h
    obtain ⟨e, he, rfl⟩ := grecInv g hg
    obtain ⟨gid, r⟩ := e
    simp only [toGRec, List.mem_map] at h2
    obtain ⟨kv, hkv, rfl⟩ := h2
    exact ⟨gid, kv.1, by rw [hval]; exact h1, by rw [grOf gid r he]; exact hkv⟩
  · -- graph_owned
    intro v g h
    rw [hval] at h ⊢
    have := (owner_of_flag v).2.2.2 (by simp only [kval] at h; rw [h]; simp)
    simp only [Kernel.owned, kval, Bool.or_eq_true]
    rcases this with h | h | h
    · exact .inl (.inl h)
    · exact .inl (.inr h)
    · exact .inr h
  · -- I_key.name
    intro g key v hv
    rcases grCases g with hbl | ⟨r, hm, hg⟩
    · rw [hbl] at hv; simp at hv
    · rw [hg] at hv
      rw [hval]
      exact (pI _ hm).1 (key, v) hv
  · intro g
    rcases grCases g with hbl | ⟨r, hm, hg⟩
    · rw [hbl]; simp
    · rw [hg]; exact (pI _ hm).2
  · -- I_node.mem
    intro n g
    constructor
    · intro h
      rcases nodeCases n with hbl | ⟨rec, hm, hn⟩
      · rw [hbl] at h; simp at h
      · rw [hn] at h
        obtain ⟨e, he, h1, h2⟩ := pB _ hm
        simp only at h1 h2
        rw [h] at h1
        simp only [Option.some.injEq] at h1
        obtain ⟨gid, r⟩ := e
        simp only at h1 h2
        subst h1
        rw [grOf g r he]; exact h2
    · intro h
      rcases grCases g with hbl | ⟨r, hm, hg⟩
      · rw [hbl] at h; simp at h
      · rw [hg] at h
        obtain ⟨rec, h1, h2⟩ := pA _ hm n h
        rw [nodeOf n rec h1]; exact h2
  · intro g
    rcases grCases g with hbl | ⟨r, hm, hg⟩
    · rw [hbl]; simp
    · rw [hg]
      exact (pS _ hm).nodup hKNnd

theorem Inv.consistent {st : Store} {g : GraphT} (h : Inv st (recsG g) (grecsG g)) (ht : TreeOKG st g) :
    Consistent ⟨st, g⟩ where
  tree := ht
  use_of_input := fun r hr i v hi => by
    show (r.id, i) ∈ (st.vals v).uses
    rw [h.u v, mem_usesIn]
    exact ⟨r, hr, rfl, hi⟩
  input_of_use := fun v n i hm => by
    have : (n, i) ∈ (st.vals v).uses := hm
    rw [h.u v, mem_usesIn] at this
    exact this
  uses_nodup := fun v => by
    show (st.vals v).uses.Nodup
    rw [h.u v]
    exact usesIn_nodup v _ h.n.nodup
  producer_of_output := h.p.p1
  output_of_producer := fun v n hp => by
    have hp' : (st.vals v).producer = some n := hp
    have hex : ∃ r ∈ recsG g, v ∈ r.outputs := by
      refine Classical.byContradiction fun hne => ?_
      have := (h.p.p2 v (fun r hr hm => hne ⟨r, hr, hm⟩)).1
      rw [hp'] at this
      cases this
    obtain ⟨r, hr, hm⟩ := hex
    obtain ⟨k, hk⟩ := List.getElem?_of_mem hm
    have := h.p.p1 r hr k v hk
    refine ⟨r, hr, ?_, k, this.2, hk⟩
    rw [hp'] at this
    exact (Option.some.inj this.1).symm
  index_iff_producer := fun v hp => by
    have hp' : (st.vals v).producer = none := hp
    refine (h.p.p2 v (fun r hr hm => ?_)).2
    obtain ⟨k, hk⟩ := List.getElem?_of_mem hm
    have := (h.p.p1 r hr k v hk).1
    rw [hp'] at this
    cases this
  node_ids_distinct := h.n.nodup
  graph_ids_distinct := h.o.nodup
  owned := h.o.own
  owner_of_flag := h.o.back
  roots := h.r

theorem deserialize_bounded (p : GraphP) (w : World) (h : deserialize p = .ok w) : Bounded w := by
  have hg := deserialize_inv h
  have hinv := deserGraph_links p {} [] _ _ [] [] Fresh.empty (TablesLt.nil _) Inv.empty hg
  exact ⟨(deserGraph_struct p {} [] _ _ Fresh.empty (TablesLt.nil _) hg).1, hinv.n.lt, hinv.o.lt⟩

end IrVerif.Scope
