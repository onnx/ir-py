/-
C09, general model `IrVerif.WriterN`: weighted sums over the task list and `StepRel`, the case-by-case description of
`step`.
-/
import IrVerif.Model.WriterN
import IrVerif.Lemmas.ListFacts
namespace IrVerif.WriterN

variable {α : Type}


theorem getElem?_lt {α : Type} {l : List α} {i : Nat} {a : α} (h : l[i]? = some a) : i < l.length := by
  rcases Nat.lt_or_ge i l.length with h' | h'
  · exact h'
  · simp [List.getElem?_eq_none h'] at h

theorem getD_set (l : List α) (a q : Nat) (x d : α) :
    (l.set a x).getD q d = if q = a ∧ a < l.length then x else l.getD q d := by
  rw [ListFacts.getD_set]; simp only [eq_comm]

theorem getD_set_lt {l : List α} {a : Nat} (ha : a < l.length) (q : Nat) (x d : α) :
    (l.set a x).getD q d = if q = a then x else l.getD q d := by
  rw [getD_set]; simp only [ha, and_true]

theorem get_set_succ {l : List α} {i : Nat} {x y : α} (h : l[i + 1]? = some y) :
    (l.set i x)[i + 1]? = some y := by
  rw [List.getElem?_set_ne (by omega)]; exact h

theorem get_of_set_ne {α : Type} {l : List α} {i k : Nat} {x y : α} (hx : x ≠ y)
    (h : (l.set i x)[k]? = some y) : l[k]? = some y := by
  rw [List.getElem?_set] at h
  split at h
  · split at h
    · exact absurd (Option.some.inj h) hx
    · cases h
  · exact h

theorem nodup_get_inj {l : List Nat} (hn : l.Nodup) {a b x : Nat} (ha : l[a]? = some x)
    (hb : l[b]? = some x) : a = b := by
  have hla := getElem?_lt ha
  have hlb := getElem?_lt hb
  rw [List.getElem?_eq_getElem hla] at ha
  rw [List.getElem?_eq_getElem hlb] at hb
  simp at ha hb
  exact (List.getElem_inj hn).mp (ha.trans hb.symm)

theorem foldl_set_length {α : Type} (q : List Nat) (fs : List α) (v : α) :
    (q.foldl (fun fs j => fs.set j v) fs).length = fs.length :=
  ListFacts.foldl_proj List.length _ (fun _ _ _ => List.length_set) fs

theorem foldl_set_get (q : List Nat) (fs : List Fut) (j : Nat) :
    (q.foldl (fun fs j => fs.set j Fut.cancelled) fs)[j]? =
      if j ∈ q ∧ j < fs.length then some Fut.cancelled else fs[j]? := by
  induction q generalizing fs with
  | nil => simp
  | cons a q ih =>
      rw [List.foldl_cons, ih, List.length_set]
      by_cases hl : j < fs.length
      · by_cases hq : j ∈ q
        · rw [if_pos ⟨hq, hl⟩, if_pos ⟨List.mem_cons_of_mem a hq, hl⟩]
        · rw [if_neg (c := j ∈ q ∧ j < fs.length) (fun h => hq h.1)]
          by_cases ha : a = j
          · subst ha; rw [if_pos ⟨List.mem_cons_self, hl⟩, List.getElem?_set_self hl]
          · rw [if_neg (fun h => (List.mem_cons.1 h.1).elim (fun e => ha e.symm) hq), List.getElem?_set_ne ha]
      · rw [if_neg (c := j ∈ q ∧ j < fs.length) (fun h => hl h.2),
          if_neg (c := j ∈ a :: q ∧ j < fs.length) (fun h => hl h.2),
          List.getElem?_eq_none (by rw [List.length_set]; omega), List.getElem?_eq_none (by omega)]

theorem exists_mem_not_mem (m l : List Nat) (hm : m.Nodup) (hlen : l.length < m.length) : ∃ x, x ∈ m ∧ x ∉ l := by
  apply Classical.byContradiction
  intro hne
  have := hm.length_le_of_subset (fun x hx => Classical.byContradiction fun hxl => hne ⟨x, hx, hxl⟩)
  omega

theorem mem_of_full {m l : List Nat} (hl : l.Nodup) (hsub : ∀ x ∈ l, x ∈ m)
    (hlen : l.length = m.length) : ∀ x ∈ m, x ∈ l := by
  intro x hx
  apply Classical.byContradiction
  intro hxl
  have h1 := hl.length_le_of_subset (l₂ := m.erase x) (fun y hy => by
    have hne : y ≠ x := fun e => hxl (e ▸ hy)
    exact (List.mem_erase_of_ne hne).2 (hsub y hy))
  have hlen' : (m.erase x).length = m.length - 1 := List.length_erase_of_mem hx
  have hpos : 0 < m.length := List.length_pos_of_mem hx
  omega


/-- `wsum f k l = Σ_j f (k+j) l[j]` -/
def wsum (f : Nat → α → Nat) : Nat → List α → Nat
  | _, [] => 0
  | k, p :: ps => f k p + wsum f (k + 1) ps

theorem wsum_set (f : Nat → α → Nat) : ∀ (l : List α) (k i : Nat) (p x : α),
    l[i]? = some p → wsum f k (l.set i x) + f (k + i) p = wsum f k l + f (k + i) x
  | [], _, _, _, _, h => by simp at h
  | q :: qs, k, 0, p, x, h => by
      simp at h; subst h; simp [wsum]; omega
  | q :: qs, k, i + 1, p, x, h => by
      simp at h
      have := wsum_set f qs (k + 1) i p x h
      simp only [List.set_cons_succ, wsum]
      have e : k + 1 + i = k + (i + 1) := by omega
      rw [e] at this; omega

theorem wsum_set0 (f : Nat → α → Nat) {l : List α} {i : Nat} {p : α} (x : α)
    (h : l[i]? = some p) : wsum f 0 (l.set i x) + f i p = wsum f 0 l + f i x := by
  simpa using wsum_set f l 0 i p x h

theorem wsum_map (f : Nat → α → Nat) (g : α → α) (hg : ∀ i p, f i (g p) = f i p) :
    ∀ (l : List α) (k : Nat), wsum f k (l.map g) = wsum f k l
  | [], _ => rfl
  | q :: qs, k => by simp [wsum, hg, wsum_map f g hg qs (k + 1)]

theorem wsum_replicate (f : Nat → α → Nat) (p : α) (hp : ∀ i, f i p = 0) :
    ∀ (n k : Nat), wsum f k (List.replicate n p) = 0
  | 0, _ => rfl
  | n + 1, k => by simp [List.replicate_succ, wsum, hp, wsum_replicate f p hp n (k + 1)]

theorem wsum_ge (f : Nat → α → Nat) : ∀ (l : List α) (k i : Nat) (p : α),
    l[i]? = some p → f (k + i) p ≤ wsum f k l
  | [], _, _, _, h => by simp at h
  | q :: qs, k, 0, p, h => by simp at h; subst h; simp [wsum]
  | q :: qs, k, i + 1, p, h => by
      simp at h
      have := wsum_ge f qs (k + 1) i p h
      have e : k + 1 + i = k + (i + 1) := by omega
      rw [e] at this; simp only [wsum]; omega

theorem wsum_ge0 (f : Nat → α → Nat) {l : List α} {i : Nat} {p : α} (h : l[i]? = some p) :
    f i p ≤ wsum f 0 l := by simpa using wsum_ge f l 0 i p h

theorem wsum_ge2 (f : Nat → α → Nat) : ∀ (l : List α) (k i j : Nat) (p q : α),
    i < j → l[i]? = some p → l[j]? = some q → f (k + i) p + f (k + j) q ≤ wsum f k l
  | [], _, _, _, _, _, _, h, _ => by simp at h
  | r :: rs, k, 0, j + 1, p, q, _, hi, hj => by
      simp at hi hj; subst hi
      have := wsum_ge f rs (k + 1) j q hj
      have e : k + 1 + j = k + (j + 1) := by omega
      rw [e] at this; simp only [wsum, Nat.add_zero]; omega
  | r :: rs, k, i + 1, j + 1, p, q, hij, hi, hj => by
      simp at hi hj
      have := wsum_ge2 f rs (k + 1) i j p q (by omega) hi hj
      have e1 : k + 1 + i = k + (i + 1) := by omega
      have e2 : k + 1 + j = k + (j + 1) := by omega
      rw [e1, e2] at this; simp only [wsum]; omega

theorem wsum_ge2_ne (f : Nat → α → Nat) {l : List α} {i j : Nat} {p q : α} (hij : i ≠ j)
    (hi : l[i]? = some p) (hj : l[j]? = some q) : f i p + f j q ≤ wsum f 0 l := by
  rcases Nat.lt_or_gt_of_ne hij with hlt | hlt
  · simpa using wsum_ge2 f l 0 i j p q hlt hi hj
  · have := wsum_ge2 f l 0 j i q p hlt hj hi
    simp only [Nat.zero_add] at this; omega

theorem wsum_eq_zero (f : Nat → α → Nat) : ∀ (l : List α) (k : Nat),
    (∀ i p, l[i]? = some p → f (k + i) p = 0) → wsum f k l = 0
  | [], _, _ => rfl
  | q :: qs, k, h => by
      have h0 := h 0 q (by simp)
      have := wsum_eq_zero f qs (k + 1) (fun i p hi => by
        have := h (i + 1) p (by simpa using hi)
        have e : k + 1 + i = k + (i + 1) := by omega
        rw [e]; exact this)
      simp only [wsum]; simp at h0; omega

theorem wsum_le_of_le (f g : Nat → α → Nat) (hfg : ∀ i p, f i p ≤ g i p) :
    ∀ (l : List α) (k : Nat), wsum f k l ≤ wsum g k l
  | [], _ => Nat.le_refl _
  | q :: qs, k => by
      have := wsum_le_of_le f g hfg qs (k + 1)
      have := hfg k q
      simp only [wsum]; omega

theorem wsum_le_length (f : Nat → α → Nat) (c : Nat) (hf : ∀ i p, f i p ≤ c) :
    ∀ (l : List α) (k : Nat), wsum f k l ≤ c * l.length
  | [], _ => by simp [wsum]
  | q :: qs, k => by
      have := wsum_le_length f c hf qs (k + 1)
      have := hf k q
      simp only [wsum, List.length_cons, Nat.mul_succ]; omega

theorem wsum_congr_idx {α : Type} (f g : Nat → α → Nat) :
    ∀ (l : List α) (k : Nat), (∀ i a, l[i]? = some a → f (k + i) a = g (k + i) a) →
      wsum f k l = wsum g k l
  | [], _, _ => rfl
  | a :: as, k, h => by
      have h0 := h 0 a (by simp)
      have := wsum_congr_idx f g as (k + 1) (fun i b hi => by
        have := h (i + 1) b (by simpa using hi)
        have e : k + 1 + i = k + (i + 1) := by omega
        rw [e]; exact this)
      simp only [wsum]; simp at h0; omega

theorem wsum_pos_exists (f : Nat → α → Nat) : ∀ (l : List α) (k : Nat), 0 < wsum f k l →
    ∃ i a, l[i]? = some a ∧ 0 < f (k + i) a
  | [], _, h => by simp [wsum] at h
  | a :: as, k, h => by
      by_cases h0 : 0 < f k a
      · exact ⟨0, a, by simp, by simpa using h0⟩
      · have : 0 < wsum f (k + 1) as := by simp only [wsum] at h; omega
        obtain ⟨i, b, hi, hb⟩ := wsum_pos_exists f as (k + 1) this
        refine ⟨i + 1, b, by simpa using hi, ?_⟩
        have e : k + 1 + i = k + (i + 1) := by omega
        rw [← e]; exact hb

theorem wsum_map_le (f : Nat → α → Nat) (g : α → α) (hg : ∀ i p, f i (g p) ≤ f i p + 1) :
    ∀ (l : List α) (k : Nat), wsum f k (l.map g) ≤ wsum f k l + l.length
  | [], _ => by simp [wsum]
  | q :: qs, k => by
      have := wsum_map_le f g hg qs (k + 1)
      have := hg k q
      simp only [List.map_cons, wsum, List.length_cons]; omega

/-- the callback of tensor `i` has raised -/
def cbExit (cfg : Cfg) (s : State) (i : Nat) : State :=
  { s with log := s.log ++ [i], cbLock := false
           cbIn := if (cfg.pool (cfg.poolOf i)).innerCb then s.cbIn.set (cfg.poolOf i) false else s.cbIn
           tLocks := s.tLocks.set (cfg.obj i) false }

section cbExit
variable (cfg : Cfg) (s : State) (i : Nat)
@[simp] theorem cbExit_pools : (cbExit cfg s i).pools = s.pools := rfl
@[simp] theorem cbExit_tasks : (cbExit cfg s i).tasks = s.tasks := rfl
@[simp] theorem cbExit_inFlight : (cbExit cfg s i).inFlight = s.inFlight := rfl
@[simp] theorem cbExit_oversized : (cbExit cfg s i).oversized = s.oversized := rfl
@[simp] theorem cbExit_files : (cbExit cfg s i).files = s.files := rfl
@[simp] theorem cbExit_cbLock : (cbExit cfg s i).cbLock = false := rfl
@[simp] theorem cbExit_log : (cbExit cfg s i).log = s.log ++ [i] := rfl
@[simp] theorem cbExit_tLocks : (cbExit cfg s i).tLocks = s.tLocks.set (cfg.obj i) false := rfl
@[simp] theorem cbExit_cbIn : (cbExit cfg s i).cbIn =
    if (cfg.pool (cfg.poolOf i)).innerCb then s.cbIn.set (cfg.poolOf i) false else s.cbIn := rfl
end cbExit

/-- the callback of tensor `i` has returned -/
def cbDone (cfg : Cfg) (s : State) (i : Nat) : State :=
  { s with log := s.log ++ [i], cbLock := false
           cbIn := if (cfg.pool (cfg.poolOf i)).innerCb then s.cbIn.set (cfg.poolOf i) false else s.cbIn
           tasks := s.tasks.set i .bAcq }

/-- one constructor per `some` branch of `stepOwner` / `stepTake` / `stepExit` / `stepTask` (the branches inside
    `collectOne`, `budgetTry`, `finishTask`: their `*_cases`), result states as in the model (frame conditions by `rfl`) -/
inductive StepRel (cfg : Cfg) (s : State) : Label → State → Prop
  | submit (q c k j : Nat) (P : PoolSt) : s.pools[q]? = some P → P.owner = .submit k →
      (cfg.pool q).jobs[k]? = some j →
      StepRel cfg s (.owner q c)
        { s with pools := s.pools.set q ({ P with
            queue := P.queue ++ [j]
            owner := if k + 1 < (cfg.pool q).jobs.length then .submit (k + 1) else .collect } : PoolSt) }
  | collect (q c j : Nat) (ok : Bool) (P : PoolSt) : s.pools[q]? = some P → P.owner = .collect →
      ((cfg.pool q).asCompleted = true ∧ j = c ∧ P.collected.contains j = false ∧
          (cfg.pool q).jobs.contains j = true
        ∨ (cfg.pool q).asCompleted = false ∧ (cfg.pool q).jobs[P.collected.length]? = some j) →
      s.futs[j]? = some (if ok then .ok else .err) →
      StepRel cfg s (.owner q c) (collectOne cfg s q P j ok)
  | joinRoot (q c : Nat) (e : Bool) (P : PoolSt) : s.pools[q]? = some P → P.owner = .join e →
      P.exited = (cfg.pool q).size → (cfg.pool q).parent = none →
      StepRel cfg s (.owner q c) { s with pools := s.pools.set q { P with owner := .closed e } }
  | joinSub (q c : Nat) (e : Bool) (P : PoolSt) (jp : Nat) : s.pools[q]? = some P →
      P.owner = .join e → P.exited = (cfg.pool q).size → (cfg.pool q).parent = some jp →
      StepRel cfg s (.owner q c)
        { s with pools := addIdle (s.pools.set q { P with owner := .closed e }) (cfg.jobc jp).pool
                 futs := s.futs.set jp (if e then .err else .ok) }
  | takeSerial (q j : Nat) (rest : List Nat) (P : PoolSt) : s.pools[q]? = some P →
      P.queue = j :: rest → P.idle ≠ 0 → (cfg.jobc j).sub = none →
      StepRel cfg s (.take q)
        { s with pools := s.pools.set q { P with queue := rest, idle := P.idle - 1 }
                 futs := s.futs.set j .running
                 tasks := s.tasks.set (cfg.jobc j).start (firstPc cfg q) }
  | takeSub (q j : Nat) (rest : List Nat) (P : PoolSt) (q' : Nat) : s.pools[q]? = some P →
      P.queue = j :: rest → P.idle ≠ 0 → (cfg.jobc j).sub = some q' →
      StepRel cfg s (.take q)
        { s with pools := createPool cfg (s.pools.set q { P with queue := rest, idle := P.idle - 1 }) q'
                 futs := s.futs.set j .running }
  | exit (q : Nat) (P : PoolSt) : s.pools[q]? = some P → P.queue = [] → P.shutdown = true →
      P.idle > 0 →
      StepRel cfg s (.exit q)
        { s with pools := s.pools.set q { P with idle := P.idle - 1, exited := P.exited + 1 } }
  | cbAcqIn (i : Nat) : s.tasks[i]? = some .cbAcqIn → s.cbIn.getD (cfg.poolOf i) false = false →
      StepRel cfg s (.task i)
        { s with cbIn := s.cbIn.set (cfg.poolOf i) true, tasks := s.tasks.set i .cbAcq }
  | cbAcq (i : Nat) : s.tasks[i]? = some .cbAcq → s.cbLock = false →
      StepRel cfg s (.task i) { s with cbLock := true, tasks := s.tasks.set i .cbBody }
  | cbFail (i : Nat) : s.tasks[i]? = some .cbBody → cfg.cbFails i = true →
      StepRel cfg s (.task i) (finishTask cfg (cbExit cfg s i) i false)
  | cbOk (i : Nat) : s.tasks[i]? = some .cbBody → cfg.cbFails i = false →
      StepRel cfg s (.task i) (cbDone cfg s i)
  | tAcq (i : Nat) : s.tasks[i]? = some .tAcq → s.tLocks.getD (cfg.obj i) false = false →
      StepRel cfg s (.task i)
        { s with tLocks := s.tLocks.set (cfg.obj i) true
                 tasks := s.tasks.set i (afterT cfg (cfg.poolOf i)) }
  | bTry (i : Nat) (p : Pc) : s.tasks[i]? = some p → (p = .bAcq ∨ p = .woken) →
      StepRel cfg s (.task i) (budgetTry cfg s i)
  | writeFail (i : Nat) : s.tasks[i]? = some .write → cfg.fails i = true →
      StepRel cfg s (.task i) { s with tasks := s.tasks.set i (.bRel false) }
  | writeOk (i : Nat) : s.tasks[i]? = some .write → cfg.fails i = false →
      StepRel cfg s (.task i)
        { s with files := writeTask cfg s.files i, tasks := s.tasks.set i (.bRel true) }
  | bRel (i : Nat) (ok : Bool) : s.tasks[i]? = some (.bRel ok) →
      StepRel cfg s (.task i) (budgetRelease cfg s i ok)

theorem futDone_eq {s : State} {j : Nat} {b : Bool} (h : futDone s j = some b) :
    s.futs[j]? = some (if b then .ok else .err) := by
  unfold futDone at h
  split at h <;> simp_all

theorem stepRel_of_step {cfg : Cfg} {s s' : State} {l : Label} (h : step cfg s l = some s') :
    StepRel cfg s l s' := by
  cases l with
  | owner q c =>
      simp only [step, stepOwner] at h
      split at h
      · simp at h
      · rename_i P hP
        split at h
        · simp at h
        · rename_i k hk
          split at h
          · simp at h
          · rename_i j hj
            simp at h; subst h; exact .submit q c k j P hP hk hj
        · rename_i hm
          split at h
          · rename_i hmode
            split at h
            · simp at h
            · rename_i hc
              simp only [Option.map_eq_some_iff] at h
              obtain ⟨b, hb, rfl⟩ := h
              simp only [Bool.or_eq_true, Bool.not_eq_true', not_or, Bool.not_eq_true,
                Bool.not_eq_false] at hc
              exact .collect q c c b P hP hm (Or.inl ⟨hmode, rfl, hc.1, hc.2⟩) (futDone_eq hb)
          · rename_i hmode
            split at h
            · simp at h
            · rename_i j hj
              simp only [Option.map_eq_some_iff] at h
              obtain ⟨b, hb, rfl⟩ := h
              exact .collect q c j b P hP hm (Or.inr ⟨by simpa using hmode, hj⟩) (futDone_eq hb)
        · rename_i e he
          split at h
          · rename_i hex
            split at h
            · rename_i hpar; simp at h; subst h; exact .joinRoot q c e P hP he hex hpar
            · rename_i jp hpar; simp at h; subst h; exact .joinSub q c e P jp hP he hex hpar
          · simp at h
        · simp at h
  | take q =>
      simp only [step, stepTake] at h
      split at h
      · simp at h
      · rename_i P hP
        split at h
        · simp at h
        · rename_i j rest hq
          split at h
          · simp at h
          · rename_i hidle
            split at h
            · rename_i hsub; simp at h; subst h; exact .takeSerial q j rest P hP hq hidle hsub
            · rename_i q' hsub; simp at h; subst h; exact .takeSub q j rest P q' hP hq hidle hsub
  | exit q =>
      simp only [step, stepExit] at h
      split at h
      · simp at h
      · rename_i P hP
        split at h
        · rename_i hc
          simp at h; subst h
          simp at hc
          exact .exit q P hP hc.1.1 hc.1.2 hc.2
        · simp at h
  | task i =>
      simp only [step, stepTask] at h
      split at h
      · rename_i hp
        split at h
        · simp at h
        · rename_i hc; simp at h; subst h; exact .tAcq i hp (by simpa using hc)
      · rename_i hp
        split at h
        · simp at h
        · rename_i hc; simp at h; subst h; exact .cbAcqIn i hp (by simpa using hc)
      · rename_i hp
        split at h
        · simp at h
        · rename_i hc; simp at h; subst h; exact .cbAcq i hp (by simpa using hc)
      · rename_i hp
        split at h
        · simp at h; subst h; exact .cbFail i hp ‹_›
        · rename_i hc; simp at h; subst h; exact .cbOk i hp (by simpa using hc)
      · rename_i hp; simp at h; subst h; exact .bTry i _ hp (Or.inl rfl)
      · rename_i hp; simp at h; subst h; exact .bTry i _ hp (Or.inr rfl)
      · rename_i hp
        split at h
        · simp at h; subst h; exact .writeFail i hp ‹_›
        · rename_i hc; simp at h; subst h; exact .writeOk i hp (by simpa using hc)
      · rename_i ok hp; simp at h; subst h; exact .bRel i ok hp
      · simp at h


theorem finishTask_cases (cfg : Cfg) (s : State) (i : Nat) (ok : Bool) :
    (ok = true ∧ cfg.hasNext i = true ∧
      finishTask cfg s i ok =
        { s with tasks := (s.tasks.set i (.done true)).set (i + 1) (firstPc cfg (cfg.poolOf i)) })
    ∨ ((ok = false ∨ cfg.hasNext i = false) ∧
      finishTask cfg s i ok =
        { s with tasks := s.tasks.set i (.done ok)
                 futs := s.futs.set (cfg.job i) (if ok then .ok else .err)
                 pools := addIdle s.pools (cfg.poolOf i) }) := by
  unfold finishTask
  cases ok <;> cases cfg.hasNext i <;> simp

theorem collectOne_cases (cfg : Cfg) (s : State) (q : Nat) (P : PoolSt) (j : Nat) (ok : Bool) :
    (ok = false ∧ (cfg.pool q).asCompleted = true ∧
      collectOne cfg s q P j ok =
        { s with pools := s.pools.set q { P with collected := j :: P.collected, shutdown := true
                                                 owner := .join true, queue := [] }
                 futs := P.queue.foldl (fun fs x => fs.set x .cancelled) s.futs })
    ∨ (ok = false ∧ (cfg.pool q).asCompleted = false ∧
      collectOne cfg s q P j ok =
        { s with pools := s.pools.set q { P with collected := j :: P.collected, shutdown := true
                                                 owner := .join true } })
    ∨ (ok = true ∧ (j :: P.collected).length = (cfg.pool q).jobs.length ∧
      collectOne cfg s q P j ok =
        { s with pools := s.pools.set q { P with collected := j :: P.collected, shutdown := true
                                                 owner := .join false } })
    ∨ (ok = true ∧ (j :: P.collected).length ≠ (cfg.pool q).jobs.length ∧
      collectOne cfg s q P j ok = { s with pools := s.pools.set q { P with collected := j :: P.collected } }) := by
  unfold collectOne
  cases ok <;> dsimp only [Bool.false_eq_true, if_false, if_true]
  · cases (cfg.pool q).asCompleted <;> simp
  · by_cases h : (j :: P.collected).length = (cfg.pool q).jobs.length
    · rw [if_pos h]; exact Or.inr (Or.inr (Or.inl ⟨rfl, h, rfl⟩))
    · rw [if_neg h]; exact Or.inr (Or.inr (Or.inr ⟨rfl, h, rfl⟩))

theorem finishTask_get {cfg : Cfg} {s : State} {i k : Nat} {ok : Bool} {y : Pc} (hd : ∀ b, .done b ≠ y)
    (hf : .tAcq ≠ y) (h : (finishTask cfg s i ok).tasks[k]? = some y) : s.tasks[k]? = some y := by
  rcases finishTask_cases cfg s i ok with ⟨_, _, e⟩ | ⟨_, e⟩ <;> rw [e] at h
  · exact get_of_set_ne (hd _) (get_of_set_ne hf h)
  · exact get_of_set_ne (hd _) h

theorem budgetTry_cases (cfg : Cfg) (s : State) (i : Nat) :
    (cfg.size i > cfg.capacity ∧ s.oversized = true ∧
        budgetTry cfg s i = { s with tasks := s.tasks.set i .waiting })
    ∨ (cfg.size i > cfg.capacity ∧ s.oversized = false ∧
        budgetTry cfg s i = { s with oversized := true, tasks := s.tasks.set i .write })
    ∨ (cfg.size i ≤ cfg.capacity ∧ s.inFlight + cfg.size i ≤ cfg.capacity ∧
        budgetTry cfg s i =
          { s with inFlight := s.inFlight + cfg.size i, tasks := s.tasks.set i .write })
    ∨ (cfg.size i ≤ cfg.capacity ∧ ¬ s.inFlight + cfg.size i ≤ cfg.capacity ∧
        budgetTry cfg s i = { s with tasks := s.tasks.set i .waiting }) := by
  unfold budgetTry
  by_cases h1 : cfg.size i > cfg.capacity
  · cases h2 : s.oversized <;> simp [h1]
  · by_cases h3 : s.inFlight + cfg.size i ≤ cfg.capacity
    · simp [h1, h3]; omega
    · simp [h1, h3]; omega

theorem run_append {cfg : Cfg} : ∀ (l1 l2 : List Label) {s s1 s2 : State},
    run cfg s l1 = some s1 → run cfg s1 l2 = some s2 → run cfg s (l1 ++ l2) = some s2
  | [], _, s, s1, s2, h1, h2 => by simp [run] at h1; subst h1; simpa using h2
  | l :: ls, l2, s, s1, s2, h1, h2 => by
      simp only [run, List.cons_append] at h1 ⊢
      split at h1
      · simp at h1
      · rename_i s' hs'
        exact run_append ls l2 h1 h2

theorem reachable_of_run {cfg : Cfg} : ∀ (ls : List Label) {s s' : State}, Reachable cfg s →
    run cfg s ls = some s' → Reachable cfg s'
  | [], s, s', hr, h => by simp [run] at h; subst h; exact hr
  | l :: ls, s, s', hr, h => by
      simp only [run] at h
      split at h
      · simp at h
      · rename_i s1 hs1; exact reachable_of_run ls (.step l hr hs1) h

end IrVerif.WriterN
