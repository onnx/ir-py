/-
C18: the clone stage of `extract` against C13's scope walker.

`cloneGO` (Model/Extract.lean) is C18's model of `GraphView.clone()` as far as it decides "raised": the keys of
the cloner's value map, the generation of the clone a key maps to, the clones a finished graph owns.  C13 has
the full heap-level model of the cloner and the decidable scope walker `cloneVerdict` with
`C13_clone_succeeds` (walker accepts => the heap-level clone returns).  This file proves that on every C13 heap
that REPRESENTS the view (`RepG`: same value ids, same lists, graph-valued attributes in order), is regular
(`RegG`: values are value cells with their metadata containers and a non-empty name, initializer names
distinct) and on which no node output is already a key of the value map when its node is cloned (`nrG`:
C13's walker makes no claim there), `cloneGO` and the walker run in lockstep from related states (`stepG` ..): where
`cloneGO` returns the walker accepts, in related states, and where `cloneGO` raises the walker answers a clear error.
-/
import IrVerif.Lemmas.ExtractWalker
import IrVerif.Lemmas.ExtractOwn
import IrVerif.Lemmas.ExtractHyp
namespace IrVerif.Extract
open IrVerif.Clone (Sc WRes wFold wAll)
open IrVerif.Clone.Total (wAll_eq_ok_iff wAll_raises)


mutual
  /-- the graph cell `g` of the heap is the tree: same value ids in the input / initializer / output lists, its
      node cells represent the nodes in order -/
  def RepG (w : Heap) : GraphT → Nat → Prop
    | .mk _ ins inits outs ns, g =>
      ∃ gs, w[g]? = some (Clone.Cell.graph gs) ∧ gs.inputs = ins ∧ gs.inits.map (·.2) = inits ∧
        gs.outputs = outs ∧ Clone.wDict w gs.props = .ok () ∧ Clone.wDict w gs.mstore = .ok () ∧
        RepNs w ns gs.nodes
  def RepNs (w : Heap) : List NodeT → List Nat → Prop
    | [], is => is = []
    | n :: ns, is => ∃ i rest, is = i :: rest ∧ RepN w n i ∧ RepNs w ns rest
  /-- the node cell: same inputs and outputs, its graph-valued attributes (GRAPH: one, GRAPHS: its members,
      other attributes: none) are, in order, the cells of the bodies; no device configuration -/
  def RepN (w : Heap) : NodeT → Nat → Prop
    | .mk ins outs bs, i =>
      ∃ nsr gl, w[i]? = some (Clone.Cell.node nsr) ∧ nsr.inputs = ins ∧ nsr.outputs = outs ∧
        attrGraphs w nsr.attrs = some gl ∧ nsr.dev = [] ∧ Clone.wDict w nsr.props = .ok () ∧
        Clone.wDict w nsr.mstore = .ok () ∧ RepGs w bs gl
  def RepGs (w : Heap) : List GraphT → List Nat → Prop
    | [], gl => gl = []
    | b :: bs, gl => ∃ g rest, gl = g :: rest ∧ RepG w b g ∧ RepGs w bs rest
end

mutual
  /-- graph inputs, initializers and node outputs at any depth are regular values; initializer names of a
      graph are pairwise distinct -/
  def RegG (w : Heap) : GraphT → Prop
    | .mk _ ins inits _ ns =>
      (∀ v, v ∈ ins ++ inits → RegVal w v) ∧ Clone.distinct (inits.filterMap (Clone.wName w)) = true ∧
      RegNs w ns
  def RegNs (w : Heap) : List NodeT → Prop
    | [] => True
    | n :: ns => RegN w n ∧ RegNs w ns
  def RegN (w : Heap) : NodeT → Prop
    | .mk _ outs bs => (∀ o, o ∈ outs → RegVal w o) ∧ RegGs w bs
  def RegGs (w : Heap) : List GraphT → Prop
    | [] => True
    | b :: bs => RegG w b ∧ RegGs w bs
end

mutual
  def depthG : GraphT → Nat
    | .mk _ _ _ _ ns => depthNs ns + 1
  def depthNs : List NodeT → Nat
    | [] => 0
    | n :: ns => max (depthN n) (depthNs ns)
  def depthN : NodeT → Nat
    | .mk _ _ bs => depthGs bs
  def depthGs : List GraphT → Nat
    | [] => 0
    | b :: bs => max (depthG b) (depthGs bs)
end

mutual
  /-- no node output is already a key of the value map when its node is cloned (the map threaded as `cloneG`
      does), and a node lists an output once: where this fails C13's walker makes no claim (the cloner binds a
      second clone for the key) -/
  def nrG (m : List VId) : GraphT → Prop
    | .mk _ ins inits _ ns => nrNs (m ++ ins ++ inits) ns
  def nrNs (m : List VId) : List NodeT → Prop
    | [] => True
    | n :: ns => nrN m n ∧ (∀ m1, cloneN m n = .ok m1 → nrNs m1 ns)
  def nrN (m : List VId) : NodeT → Prop
    | .mk _ outs bs => nrGs m bs ∧ outs.Nodup ∧ (∀ m1, cloneGs m bs = .ok m1 → ∀ o, o ∈ outs → ¬ o ∈ m1)
  def nrGs (m : List VId) : List GraphT → Prop
    | [] => True
    | b :: bs => nrG m b ∧ (∀ m1, cloneG m b = .ok m1 → nrGs m1 bs)
end

/-! ## the simulation -/

/-- the state of `cloneGO` against the state of C13's walker; the model owns (key, generation) pairs, the walker
    keys: `cur` and `ownB` let a node output that is bound afresh not be an owned clone -/
structure SimSt (s : CSt) (A : Sc) : Prop where
  bnd : ∀ v, v ∈ A.bound ↔ v ∈ s.m
  own : ∀ v, v ∈ A.owned ↔ (v, s.outs.count v) ∈ s.owned
  cur : ∀ c, c ∈ s.owned → c.2 = s.outs.count c.1
  prod : ∀ v, v ∈ A.produced ↔ v ∈ s.outs
  ownB : ∀ v, v ∈ A.owned → v ∈ s.m

theorem SimSt.empty : SimSt {} {} :=
  ⟨fun _ => ⟨nofun, nofun⟩, fun _ => ⟨nofun, nofun⟩, fun _ => nofun, fun _ => ⟨nofun, nofun⟩, fun _ => nofun⟩

/-- what a traversal keeps: keys stay keys, and the clone of a key that was bound is not replaced -/
def Ext (s s' : CSt) : Prop :=
  (∀ v, v ∈ s.m → v ∈ s'.m) ∧ (∀ v, v ∈ s.m → s'.outs.count v = s.outs.count v)

theorem Ext.refl (s : CSt) : Ext s s := ⟨fun _ h => h, fun _ _ => rfl⟩
theorem Ext.trans {a b c : CSt} (h1 : Ext a b) (h2 : Ext b c) : Ext a c :=
  ⟨fun v hv => h2.1 v (h1.1 v hv), fun v hv => by rw [h2.2 v (h1.1 v hv), h1.2 v hv]⟩

theorem cloneGO_m {s s' : CSt} {g : GraphT} (h : cloneGO s g = .ok s') : cloneG s.m g = .ok s'.m := by
  have := cloneGO_rel g s; rw [h] at this; exact this
theorem cloneGsO_m {s s' : CSt} {gs : List GraphT} (h : cloneGsO s gs = .ok s') : cloneGs s.m gs = .ok s'.m := by
  have := cloneGsO_rel gs s; rw [h] at this; exact this
theorem cloneNO_m {s s' : CSt} {n : NodeT} (h : cloneNO s n = .ok s') : cloneN s.m n = .ok s'.m := by
  have := cloneNO_rel n s; rw [h] at this; exact this

theorem wAllOutputs_rep {w : Heap} : ∀ (ns : List NodeT) (is : List Nat), RepNs w ns is →
    ∃ l, Clone.wAllOutputs w is = .ok l
  | [], is, h => by
    simp only [RepNs] at h; subst h; exact ⟨[], rfl⟩
  | n :: ns, is, h => by
    simp only [RepNs] at h
    obtain ⟨i, rest, rfl, hn, hrest⟩ := h
    obtain ⟨l, hl⟩ := wAllOutputs_rep ns rest hrest
    cases n with
    | mk ins outs bs =>
      simp only [RepN] at hn
      obtain ⟨nsr, gl, hc, _⟩ := hn
      exact ⟨nsr.outputs ++ l, by
        simp only [Clone.wAllOutputs, Clone.wNodeCell, Clone.wCell, hc, wres_ok_bind, hl]⟩

theorem nodesNamed_rep {w : Heap} : ∀ (ns : List NodeT) (is : List Nat), RepNs w ns is → RegNs w ns →
    wAll (fun n => (Clone.wNodeCell w n).bind fun nsr =>
      wAll (fun o => if (Clone.wName w o).isNone then WRes.err (.unsupported "unnamed value (name authority)")
        else WRes.ok ()) nsr.outputs) is = .ok ()
  | [], is, h, _ => by
    simp only [RepNs] at h; subst h; rfl
  | n :: ns, is, h, hr => by
    simp only [RepNs] at h
    obtain ⟨i, rest, rfl, hn, hrest⟩ := h
    simp only [RegNs] at hr
    have ih := nodesNamed_rep ns rest hrest hr.2
    cases n with
    | mk ins outs bs =>
      simp only [RepN] at hn
      obtain ⟨nsr, gl, hc, _, houts, _⟩ := hn
      simp only [RegN] at hr
      rw [wAll]
      simp only [Clone.wNodeCell, Clone.wCell, hc, wres_ok_bind]
      have : wAll (fun o => if (Clone.wName w o).isNone then WRes.err (.unsupported "unnamed value (name authority)")
          else WRes.ok ()) nsr.outputs = .ok () := by
        apply wAll_eq_ok_iff.2
        intro o ho
        rw [houts] at ho
        obtain ⟨nm, hn, _⟩ := wName_reg (hr.1.1 o ho)
        simp [hn]
      rw [this]
      simp only [wres_ok_bind]
      exact ih


theorem count_append_of_not_mem {v : Nat} {l outs : List Nat} (h : ¬ v ∈ outs) :
    (l ++ outs).count v = l.count v := by
  rw [List.count_append, List.count_eq_zero_of_not_mem h, Nat.add_zero]

/-- what the first five steps of `wGraphStep` and of `cloneGO` establish: inputs and initializers are keys, the
    pending outputs are read off the node cells -/
theorem simG_prefix {w : Heap} {gs : Clone.GraphS} {ns : List NodeT} {inits : List VId} {s : CSt} {A : Sc}
    (hinits : gs.inits.map (·.2) = inits) (hns : RepNs w ns gs.nodes)
    (hrv : ∀ v, v ∈ gs.inputs ++ inits → RegVal w v) (hsim : SimSt s A) :
    ∃ A1 A2 ol, wFold (Clone.wCloneOrGet w) gs.inputs A = .ok A1 ∧
      wFold (Clone.wCloneOrGet w) (gs.inits.map (·.2)) A1 = .ok A2 ∧ Clone.wAllOutputs w gs.nodes = .ok ol ∧
      SimSt { s with m := s.m ++ gs.inputs ++ inits } { A2 with pend := A2.pend ++ ol } := by
  have hrv1 : ∀ v, v ∈ gs.inputs → RegVal w v := fun v hv => hrv v (List.mem_append_left _ hv)
  have hrv2 : ∀ v, v ∈ gs.inits.map (·.2) → RegVal w v :=
    fun v hv => hrv v (List.mem_append_right _ (by rw [← hinits]; exact hv))
  obtain ⟨A1, hA1, hb1, ho1, hp1⟩ := wFold_cloneOrGet (w := w) gs.inputs A hrv1
  obtain ⟨A2, hA2, hb2, ho2, hp2⟩ := wFold_cloneOrGet (w := w) (gs.inits.map (·.2)) A1 hrv2
  obtain ⟨ol, hol⟩ := wAllOutputs_rep ns gs.nodes hns
  refine ⟨A1, A2, ol, hA1, hA2, hol, ?_, ?_, ?_, ?_, ?_⟩
  · intro v
    show v ∈ A2.bound ↔ v ∈ s.m ++ gs.inputs ++ inits
    rw [hb2 v, hb1 v, hsim.bnd v, hinits]
    simp only [List.mem_append]
  · intro v
    show v ∈ A2.owned ↔ (v, s.outs.count v) ∈ s.owned
    rw [ho2, ho1]; exact hsim.own v
  · exact hsim.cur
  · intro v
    show v ∈ A2.produced ↔ v ∈ s.outs
    rw [hp2, hp1]; exact hsim.prod v
  · intro v hv
    have : v ∈ A.owned := by
      have : v ∈ A2.owned := hv
      rw [ho2, ho1] at this; exact this
    show v ∈ s.m ++ gs.inputs ++ inits
    simp only [List.mem_append]
    exact Or.inl (Or.inl (hsim.ownB v this))

/-- the node-output step of `wNode` and of `cloneNO` -/
theorem simN_outputs {s s1 : CSt} {A1 A2 : Sc} {outs outsr : List Nat} (houts : outsr = outs)
    (hsim1 : SimSt s1 A1) (hext1 : Ext s s1)
    (hnb : ∀ o, o ∈ outs → ¬ o ∈ s1.m)
    (hb2 : ∀ v, v ∈ A2.bound ↔ v ∈ A1.bound ∨ v ∈ outsr) (ho2 : A2.owned = A1.owned)
    (hp2 : A2.produced = A1.produced) :
    SimSt { s1 with m := s1.m ++ outs, outs := s1.outs ++ outs }
      { A2 with produced := outsr.reverse ++ A2.produced } ∧
    Ext s { s1 with m := s1.m ++ outs, outs := s1.outs ++ outs } := by
  subst houts
  have hcurv : ∀ c, c ∈ s1.owned → ¬ c.1 ∈ outsr := by
    intro c hc ho
    have hcc := hsim1.cur c hc
    have : (c.1, s1.outs.count c.1) ∈ s1.owned := by rw [← hcc]; exact hc
    exact hnb c.1 ho (hsim1.ownB c.1 ((hsim1.own c.1).mpr this))
  refine ⟨⟨?_, ?_, ?_, ?_, ?_⟩, ?_, ?_⟩
  · intro v
    show v ∈ A2.bound ↔ v ∈ s1.m ++ outsr
    rw [hb2 v, hsim1.bnd v, List.mem_append]
  · intro v
    show v ∈ A2.owned ↔ (v, (s1.outs ++ outsr).count v) ∈ s1.owned
    rw [ho2]
    constructor
    · intro hv1
      have hno : ¬ v ∈ outsr := fun ho => hnb v ho (hsim1.ownB v hv1)
      rw [count_append_of_not_mem hno]
      exact (hsim1.own v).mp hv1
    · intro hv1
      have hno : ¬ v ∈ outsr := hcurv _ hv1
      rw [count_append_of_not_mem hno] at hv1
      exact (hsim1.own v).mpr hv1
  · intro c hc
    show c.2 = (s1.outs ++ outsr).count c.1
    rw [count_append_of_not_mem (hcurv c hc)]
    exact hsim1.cur c hc
  · intro v
    show v ∈ outsr.reverse ++ A2.produced ↔ v ∈ s1.outs ++ outsr
    rw [List.mem_append, List.mem_reverse, hp2, List.mem_append, hsim1.prod v]
    constructor
    · rintro (h | h)
      · exact Or.inr h
      · exact Or.inl h
    · rintro (h | h)
      · exact Or.inr h
      · exact Or.inl h
  · intro v hv
    have hv1 : v ∈ A1.owned := by
      have : v ∈ A2.owned := hv
      rw [ho2] at this; exact this
    show v ∈ s1.m ++ outsr
    exact List.mem_append_left _ (hsim1.ownB v hv1)
  · intro v hv
    show v ∈ s1.m ++ outsr
    exact List.mem_append_left _ (hext1.1 v hv)
  · intro v hv
    show (s1.outs ++ outsr).count v = s.outs.count v
    have hno : ¬ v ∈ outsr := fun ho => hnb v ho (hext1.1 v hv)
    rw [count_append_of_not_mem hno]
    exact hext1.2 v hv

/-- the model's ownership condition against the walker's, at the construction of a graph -/
theorem bad_iff {s s2 : CSt} {A4 : Sc} {ins inits outs : List Nat} (hsim4 : SimSt s2 A4)
    (hcnt : ∀ v, v ∈ ins ++ inits → s2.outs.count v = s.outs.count v) :
    (∀ v, v ∈ ins ++ inits → ((s2.owned.contains (s.cur v) || (s.cur v).2 != 0) = true ↔
        (v ∈ A4.owned ∨ v ∈ A4.produced))) ∧
    (∀ v, v ∈ outs → (s2.owned.contains (s2.cur v) = true ↔ v ∈ A4.owned)) := by
  constructor
  · intro v hv
    have hc := hcnt v hv
    simp only [Bool.or_eq_true, List.contains_eq_mem, decide_eq_true_eq, bne_iff_ne, ne_eq, CSt.cur]
    rw [hsim4.own v, hsim4.prod v, hc]
    constructor
    · rintro (h | h)
      · exact Or.inl h
      · right
        rw [← hc] at h
        exact List.count_pos_iff.mp (Nat.pos_of_ne_zero h)
    · rintro (h | h)
      · exact Or.inl h
      · right
        rw [← hc]
        exact Nat.pos_iff_ne_zero.mp (List.count_pos_iff.mpr h)
  · intro v _
    simp only [List.contains_eq_mem, decide_eq_true_eq, CSt.cur]
    exact (hsim4.own v).symm

theorem Ext.count_listed {s s2 : CSt} {ins inits : List VId} (hext : Ext { s with m := s.m ++ ins ++ inits } s2) :
    ∀ v, v ∈ ins ++ inits → s2.outs.count v = s.outs.count v := by
  intro v hv
  apply hext.2 v
  show v ∈ s.m ++ ins ++ inits
  rw [List.append_assoc]
  exact List.mem_append_right _ hv

theorem wAll_outputs_bound {s : CSt} {A : Sc} (hsim : SimSt s A) {outs : List VId}
    (hall : outs.all (fun v => s.m.contains v) = true) :
    wAll (fun v => if A.bound.contains v then WRes.ok ()
      else WRes.err (.raised "graph output is not in the value map")) outs = .ok () := by
  apply wAll_eq_ok_iff.2
  intro v hv
  have : v ∈ s.m := by simpa using List.all_eq_true.mp hall v hv
  have : v ∈ A.bound := (hsim.bnd v).mpr this
  simp [this]

theorem inputs_bound {s : CSt} {A : Sc} (hsim : SimSt s A) {ins : List (Option VId)}
    (hin : (ins.filterMap id).all (fun v => s.m.contains v) = true) : ∀ v, some v ∈ ins → v ∈ A.bound := by
  intro v hv
  have : v ∈ ins.filterMap id := by simpa [List.mem_filterMap] using hv
  have := List.all_eq_true.mp hin v this
  exact (hsim.bnd v).mpr (by simpa using this)

theorem simG_close {s s2 : CSt} {A4 : Sc} {ins outs inits : List VId} (hsim4 : SimSt s2 A4)
    (hext : Ext { s with m := s.m ++ ins ++ inits } s2) (hall : outs.all (fun v => s2.m.contains v) = true) :
    SimSt { s2 with owned := s2.owned ++ ins.map s.cur ++ outs.map s2.cur ++ inits.map s.cur }
      { A4 with owned := A4.owned ++ ins ++ outs ++ inits } ∧
    Ext s { s2 with owned := s2.owned ++ ins.map s.cur ++ outs.map s2.cur ++ inits.map s.cur } := by
  have hcnt := hext.count_listed
  have hkey : ∀ v, v ∈ s.m ++ ins ++ inits → v ∈ s2.m := hext.1
  refine ⟨⟨hsim4.bnd, ?_, ?_, hsim4.prod, ?_⟩, ?_, ?_⟩
  · intro v
    show v ∈ A4.owned ++ ins ++ outs ++ inits ↔
      (v, s2.outs.count v) ∈ s2.owned ++ ins.map s.cur ++ outs.map s2.cur ++ inits.map s.cur
    simp only [List.mem_append, List.mem_map, CSt.cur, Prod.mk.injEq]
    constructor
    · rintro (((hv' | hv') | hv') | hv')
      · exact Or.inl (Or.inl (Or.inl ((hsim4.own v).mp hv')))
      · exact Or.inl (Or.inl (Or.inr ⟨v, hv', rfl, (hcnt v (List.mem_append_left _ hv')).symm⟩))
      · exact Or.inl (Or.inr ⟨v, hv', rfl, rfl⟩)
      · exact Or.inr ⟨v, hv', rfl, (hcnt v (List.mem_append_right _ hv')).symm⟩
    · rintro (((hv' | ⟨v', hv', rfl, _⟩) | ⟨v', hv', rfl, _⟩) | ⟨v', hv', rfl, _⟩)
      · exact Or.inl (Or.inl (Or.inl ((hsim4.own v).mpr hv')))
      · exact Or.inl (Or.inl (Or.inr hv'))
      · exact Or.inl (Or.inr hv')
      · exact Or.inr hv'
  · intro c hc'
    have hc2 : c ∈ s2.owned ++ ins.map s.cur ++ outs.map s2.cur ++ inits.map s.cur := hc'
    show c.2 = s2.outs.count c.1
    simp only [List.mem_append, List.mem_map, CSt.cur] at hc2
    rcases hc2 with ((hc2 | ⟨v, hv, rfl⟩) | ⟨v, hv, rfl⟩) | ⟨v, hv, rfl⟩
    · exact hsim4.cur c hc2
    · exact (hcnt v (List.mem_append_left _ hv)).symm
    · rfl
    · exact (hcnt v (List.mem_append_right _ hv)).symm
  · intro v hv
    show v ∈ s2.m
    have hv' : v ∈ A4.owned ++ ins ++ outs ++ inits := hv
    simp only [List.mem_append] at hv'
    rcases hv' with ((hv' | hv') | hv') | hv'
    · exact hsim4.ownB v hv'
    · exact hkey v (List.mem_append_left _ (List.mem_append_right _ hv'))
    · simpa using List.all_eq_true.mp hall v hv'
    · exact hkey v (List.mem_append_right _ hv')
  · intro v hv
    exact hkey v (List.mem_append_left _ (List.mem_append_left _ hv))
  · intro v hv
    exact hext.2 v (List.mem_append_left _ (List.mem_append_left _ hv))

/-! ## the simulation, both directions at once -/

/-- the walker's answer against the result of `cloneGO` from related states: both return, in related states,
    or `cloneGO` raises and the walker answers a clear error -/
def SimOut (P : CSt → Prop) (r : Except Err CSt) (x : WRes Sc) : Prop :=
  match r with
  | .ok s' => ∃ A', x = .ok A' ∧ SimSt s' A' ∧ P s'
  | .error _ => ∃ why, x = .err (.raised why)

theorem SimOut.bind {P P' : CSt → Prop} {r : Except Err CSt} {x : WRes Sc} {f : CSt → Except Err CSt}
    {k : Sc → WRes Sc} : SimOut P r x →
    (∀ s1 A1, r = .ok s1 → SimSt s1 A1 → P s1 → SimOut P' (f s1) (k A1)) →
    SimOut P' (match r with | .error e => .error e | .ok s => f s) (x.bind k) := by
  intro h hk
  cases r with
  | error e => obtain ⟨why, rfl⟩ := h; exact ⟨why, rfl⟩
  | ok s1 => obtain ⟨A1, rfl, hsim, hp⟩ := h; exact hk s1 A1 rfl hsim hp

theorem SimOut.mono {P P' : CSt → Prop} {r : Except Err CSt} {x : WRes Sc} (h : SimOut P r x)
    (hp : ∀ s', P s' → P' s') : SimOut P' r x := by
  cases r with
  | error e => exact h
  | ok s1 => obtain ⟨A1, hx, hsim, h1⟩ := h; exact ⟨A1, hx, hsim, hp s1 h1⟩

theorem SimOut.ok {P : CSt → Prop} {s' : CSt} {A' : Sc} (hsim : SimSt s' A') (hp : P s') :
    SimOut P (.ok s') (.ok A') := ⟨A', rfl, hsim, hp⟩

mutual
  theorem stepG (w : Heap) : ∀ (t : GraphT) (fuel g : Nat) (s : CSt) (A : Sc),
      RepG w t g → RegG w t → depthG t ≤ fuel → nrG s.m t → SimSt s A →
      SimOut (Ext s) (cloneGO s t) (Clone.wGraph w false fuel g A)
    | .mk gid ins inits outs ns, fuel, g, s, A, hrep, hreg, hd, hnr, hsim => by
      cases fuel with
      | zero => simp [depthG] at hd
      | succ f =>
        simp only [RepG] at hrep
        obtain ⟨gs, hc, hins, hinits, houts, hd1, hd2, hns⟩ := hrep
        simp only [RegG] at hreg
        obtain ⟨hrv, hdist, hrns⟩ := hreg
        simp only [depthG] at hd
        simp only [nrG] at hnr
        subst hins houts
        -- phases: inputs / initializers become keys (`simG_prefix`), the node loop (`stepNs`), every output is a key,
        -- the constructor `wMkGraph` against the ownership test, translated by `bad_iff`
        obtain ⟨A1, A2, ol, hA1, hA2, hol, hsim1⟩ := simG_prefix hinits hns hrv hsim
        rw [cloneGO, Clone.wGraph]
        simp only [Clone.wGraphStep, Clone.wGraphCell, Clone.wCell, hc, wres_ok_bind, hA1, hA2, hol]
        refine (stepNs w ns gs.nodes f _ _ hns hrns (by omega) hnr hsim1).bind fun s2 A4 _ hsim4 hext => ?_
        have hrv' : ∀ v, v ∈ gs.inputs ++ gs.inits.map (·.2) → RegVal w v := by rw [hinits]; exact hrv
        have hdist' : Clone.distinct ((gs.inits.map (·.2)).filterMap (Clone.wName w)) = true := by
          rw [hinits]; exact hdist
        by_cases hall : gs.outputs.all (fun v => s2.m.contains v) = true
        · rw [if_pos hall, wAll_outputs_bound hsim4 hall, wres_ok_bind]
          obtain ⟨hbi, hbo⟩ := bad_iff (s := s) (outs := gs.outputs) hsim4 hext.count_listed
          split
          · rename_i hbad
            refine wMkGraph_err hrv' hdist' hd1 hd2 ?_
            simp only [Bool.or_eq_true, List.any_eq_true, List.mem_map] at hbad
            rcases hbad with (⟨c, ⟨v, hv, rfl⟩, hcb⟩ | ⟨c, ⟨v, hv, rfl⟩, hcb⟩) | ⟨c, ⟨v, hv, rfl⟩, hcb⟩
            · exact Or.inl ⟨v, hv, (hbi v (List.mem_append_left _ hv)).mp (by simpa using hcb)⟩
            · exact Or.inr (Or.inl ⟨v, hv, (hbo v hv).mp hcb⟩)
            · exact Or.inr (Or.inr ⟨v, by rw [hinits]; exact hv,
                (hbi v (List.mem_append_right _ hv)).mp (by simpa using hcb)⟩)
          · rename_i hgood
            have hg : ((∀ x, x ∈ gs.inputs → ¬ s.cur x ∈ s2.owned ∧ (s.cur x).2 = 0) ∧
                (∀ x, x ∈ gs.outputs → ¬ s2.cur x ∈ s2.owned)) ∧
                (∀ x, x ∈ inits → ¬ s.cur x ∈ s2.owned ∧ (s.cur x).2 = 0) := by
              simpa [Bool.or_eq_false_iff, Bool.or_eq_true, not_or] using hgood
            have hin : ∀ v, v ∈ gs.inputs ++ inits → ¬ v ∈ A4.owned ∧ ¬ v ∈ A4.produced := by
              intro v hv
              have hgv : ¬ s.cur v ∈ s2.owned ∧ (s.cur v).2 = 0 :=
                (List.mem_append.mp hv).elim (hg.1.1 v) (hg.2 v)
              have hnot : ¬ (v ∈ A4.owned ∨ v ∈ A4.produced) := fun hbad => by
                have := (hbi v hv).mpr hbad
                simp only [Bool.or_eq_true, List.contains_eq_mem, decide_eq_true_eq, bne_iff_ne, ne_eq] at this
                exact this.elim hgv.1 fun h' => h' hgv.2
              exact ⟨fun h' => hnot (Or.inl h'), fun h' => hnot (Or.inr h')⟩
            rw [wMkGraph_ok hrv' hdist' hd1 hd2 (fun v hv => hin v (List.mem_append_left _ hv))
              (fun v hv ho => hg.1.2 v hv (by simpa using (hbo v hv).mpr ho))
              (fun v hv => hin v (List.mem_append_right _ (by rw [← hinits]; exact hv)))
              (nodesNamed_rep ns gs.nodes hns hrns)]
            obtain ⟨hsimF, hextF⟩ := simG_close hsim4 hext hall
            exact SimOut.ok (hinits ▸ hsimF) hextF
        · rw [if_neg hall]
          obtain ⟨why, hw⟩ := wAll_raises (l := gs.outputs) (f := fun v => if A4.bound.contains v then WRes.ok ()
              else WRes.err (.raised "graph output is not in the value map"))
            (fun v _ => by by_cases hb : A4.bound.contains v = true
                           · exact Or.inl (if_pos hb)
                           · exact Or.inr ⟨_, if_neg hb⟩)
            (by
              obtain ⟨v, hv, hnm⟩ := List.all_eq_false.mp (Bool.eq_false_iff.mpr hall)
              have hb : ¬ A4.bound.contains v = true := fun hb => by
                have := (hsim4.bnd v).mp (by simpa using hb)
                simp [this] at hnm
              exact ⟨v, hv, by rw [if_neg hb]; nofun⟩)
          exact ⟨why, by rw [hw]; rfl⟩
  theorem stepNs (w : Heap) : ∀ (ns : List NodeT) (is : List Nat) (f : Nat) (s : CSt) (A : Sc),
      RepNs w ns is → RegNs w ns → depthNs ns ≤ f → nrNs s.m ns → SimSt s A →
      SimOut (Ext s) (cloneNsO s ns) (wFold (Clone.wNode w false (Clone.wGraph w false f)) is A)
    | [], is, f, s, A, hrep, _, _, _, hsim => by
      simp only [RepNs] at hrep
      subst hrep
      rw [cloneNsO]
      exact SimOut.ok hsim (Ext.refl s)
    | n :: ns, is, f, s, A, hrep, hreg, hd, hnr, hsim => by
      simp only [RepNs] at hrep
      obtain ⟨i, rest, rfl, hn, hrest⟩ := hrep
      simp only [RegNs] at hreg
      simp only [depthNs] at hd
      simp only [nrNs] at hnr
      rw [cloneNsO, wFold]
      refine (stepN w n i f s A hn hreg.1 (by omega) hnr.1 hsim).bind fun s1 A1 hN hsim1 hext1 => ?_
      exact (stepNs w ns rest f s1 A1 hrest hreg.2 (by omega) (hnr.2 s1.m (cloneNO_m hN)) hsim1).mono
        fun _ => hext1.trans
  theorem stepN (w : Heap) : ∀ (n : NodeT) (i f : Nat) (s : CSt) (A : Sc),
      RepN w n i → RegN w n → depthN n ≤ f → nrN s.m n → SimSt s A →
      SimOut (Ext s) (cloneNO s n) (Clone.wNode w false (Clone.wGraph w false f) i A)
    | .mk ins outs bs, i, f, s, A, hrep, hreg, hd, hnr, hsim => by
      simp only [RepN] at hrep
      obtain ⟨nsr, gl, hc, hins, houts, hattrs, hdev, hd1, hd2, hbs⟩ := hrep
      simp only [RegN] at hreg
      simp only [depthN] at hd
      simp only [nrN] at hnr
      obtain ⟨hnrG, hnd, hnb⟩ := hnr
      rw [cloneNO]
      unfold Clone.wNode
      simp only [Clone.wNodeCell, Clone.wCell, hc, wres_ok_bind]
      by_cases hin : (ins.filterMap id).all (fun v => s.m.contains v) = true
      · have hbound : ∀ v, some v ∈ nsr.inputs → v ∈ A.bound := hins ▸ inputs_bound hsim hin
        rw [if_pos hin, wMapInputs_ok A nsr.inputs hbound, wres_ok_bind, wFold_attrs w _ nsr.attrs gl A hattrs]
        refine (stepGs w bs gl f s A hbs hreg.2 hd hnrG hsim).bind fun s1 A1 hG hsim1 hext1 => ?_
        have hnb1 : ∀ o, o ∈ nsr.outputs → ¬ o ∈ A1.bound := fun o ho hb =>
          hnb s1.m (cloneGsO_m hG) o (houts ▸ ho) ((hsim1.bnd o).mp hb)
        obtain ⟨A2, hA2, hb2, ho2, hp2⟩ := wFold_output (w := w) nsr.outputs A1
          (fun o ho => hreg.1 o (by rw [← houts]; exact ho)) (by rw [houts]; exact hnd) hnb1
        obtain ⟨hsimF, hextF⟩ := simN_outputs (s := s) houts hsim1 hext1
          (fun o ho => hnb s1.m (cloneGsO_m hG) o ho) hb2 ho2 hp2
        simp only [hd1, hd2, wres_ok_bind, hA2, hdev, List.any_nil, Bool.and_false, Bool.false_eq_true, if_false,
          wPassthrough_ok w A nsr.inputs hbound]
        exact SimOut.ok hsimF hextF
      · rw [if_neg hin]
        have hex : ∃ v, some v ∈ nsr.inputs ∧ ¬ v ∈ A.bound := by
          obtain ⟨v, hv, hnm⟩ := List.all_eq_false.mp (Bool.eq_false_iff.mpr hin)
          refine ⟨v, ?_, fun hb => by
            have := (hsim.bnd v).mp hb
            simp [this] at hnm⟩
          rw [hins]
          simpa [List.mem_filterMap] using hv
        exact ⟨"outer-scope value", by rw [wMapInputs_err A nsr.inputs hex]; rfl⟩
  theorem stepGs (w : Heap) : ∀ (bs : List GraphT) (gl : List Nat) (f : Nat) (s : CSt) (A : Sc),
      RepGs w bs gl → RegGs w bs → depthGs bs ≤ f → nrGs s.m bs → SimSt s A →
      SimOut (Ext s) (cloneGsO s bs) (wFold (Clone.wGraph w false f) gl A)
    | [], gl, f, s, A, hrep, _, _, _, hsim => by
      simp only [RepGs] at hrep
      subst hrep
      rw [cloneGsO]
      exact SimOut.ok hsim (Ext.refl s)
    | b :: bs, gl, f, s, A, hrep, hreg, hd, hnr, hsim => by
      simp only [RepGs] at hrep
      obtain ⟨g, rest, rfl, hb, hrest⟩ := hrep
      simp only [RegGs] at hreg
      simp only [depthGs] at hd
      simp only [nrGs] at hnr
      rw [cloneGsO, wFold]
      refine (stepG w b f g s A hb hreg.1 (by omega) hnr.1 hsim).bind fun s1 A1 hG hsim1 hext1 => ?_
      exact (stepGs w bs rest f s1 A1 hrest hreg.2 (by omega) (hnr.2 s1.m (cloneGO_m hG)) hsim1).mono
        fun _ => hext1.trans
end

/-! the two directions, read off -/

theorem simGs (w : Heap) : ∀ (bs : List GraphT) (gl : List Nat) (f : Nat) (s s' : CSt) (A : Sc),
      RepGs w bs gl → RegGs w bs → depthGs bs ≤ f → nrGs s.m bs → SimSt s A → cloneGsO s bs = .ok s' →
      ∃ A', wFold (Clone.wGraph w false f) gl A = .ok A' ∧ SimSt s' A' ∧ Ext s s' :=
  fun bs gl f s _ A hrep hreg hd hnr hsim h => by
    have := stepGs w bs gl f s A hrep hreg hd hnr hsim; rw [h] at this; exact this

theorem errNs (w : Heap) : ∀ (ns : List NodeT) (is : List Nat) (f : Nat) (s : CSt) (A : Sc) (e : Err),
      RepNs w ns is → RegNs w ns → depthNs ns ≤ f → nrNs s.m ns → SimSt s A → cloneNsO s ns = .error e →
      ∃ why, wFold (Clone.wNode w false (Clone.wGraph w false f)) is A = .err (.raised why) :=
  fun ns is f s A _ hrep hreg hd hnr hsim h => by
    have := stepNs w ns is f s A hrep hreg hd hnr hsim; rw [h] at this; exact this

theorem errN (w : Heap) : ∀ (n : NodeT) (i f : Nat) (s : CSt) (A : Sc) (e : Err),
      RepN w n i → RegN w n → depthN n ≤ f → nrN s.m n → SimSt s A → cloneNO s n = .error e →
      ∃ why, Clone.wNode w false (Clone.wGraph w false f) i A = .err (.raised why) :=
  fun n i f s A _ hrep hreg hd hnr hsim h => by
    have := stepN w n i f s A hrep hreg hd hnr hsim; rw [h] at this; exact this

theorem errGs (w : Heap) : ∀ (bs : List GraphT) (gl : List Nat) (f : Nat) (s : CSt) (A : Sc) (e : Err),
      RepGs w bs gl → RegGs w bs → depthGs bs ≤ f → nrGs s.m bs → SimSt s A → cloneGsO s bs = .error e →
      ∃ why, wFold (Clone.wGraph w false f) gl A = .err (.raised why) :=
  fun bs gl f s A _ hrep hreg hd hnr hsim h => by
    have := stepGs w bs gl f s A hrep hreg hd hnr hsim; rw [h] at this; exact this

mutual
  theorem nrG_of_B : ∀ (t : GraphT) (m : List VId), nrGB m t = true → nrG m t
    | .mk _ ins inits _ ns, m, h => by
      rw [nrGB] at h; rw [nrG]; exact nrNs_of_B ns _ h
  theorem nrNs_of_B : ∀ (ns : List NodeT) (m : List VId), nrNsB m ns = true → nrNs m ns
    | [], _, _ => by rw [nrNs]; trivial
    | n :: ns, m, h => by
      rw [nrNsB, Bool.and_eq_true] at h
      rw [nrNs]
      refine ⟨nrN_of_B n m h.1, ?_⟩
      intro m1 hm1
      have h2 := h.2
      rw [hm1] at h2
      exact nrNs_of_B ns m1 h2
  theorem nrN_of_B : ∀ (n : NodeT) (m : List VId), nrNB m n = true → nrN m n
    | .mk _ outs bs, m, h => by
      rw [nrNB, Bool.and_eq_true, Bool.and_eq_true] at h
      rw [nrN]
      refine ⟨nrGs_of_B bs m h.1.1, nodup_of_B h.1.2, ?_⟩
      intro m1 hm1 o ho
      have h2 := h.2
      rw [hm1] at h2
      have := List.all_eq_true.mp h2 o ho
      simpa using this
  theorem nrGs_of_B : ∀ (bs : List GraphT) (m : List VId), nrGsB m bs = true → nrGs m bs
    | [], _, _ => by rw [nrGs]; trivial
    | b :: bs, m, h => by
      rw [nrGsB, Bool.and_eq_true] at h
      rw [nrGs]
      refine ⟨nrG_of_B b m h.1, ?_⟩
      intro m1 hm1
      have h2 := h.2
      rw [hm1] at h2
      exact nrGs_of_B bs m1 h2
end

end IrVerif.Extract
