/-
The TRACE of the device configurations along the round trip of the extended model (`Lemmas/ScopeExtRT.lean`):
node by node, the reloaded node carries the configurations of the proto node with their sharding names resolved
in the SOURCE-side scope tables (the tables of `replG`) renamed by the association.

* `DevTrG V x' hi A outer g p g'` (source `g`, proto `p`, reloaded `g'`), mutual over graph / node list / node /
  subgraph list along the tables of `replG`;
* monotonicity: larger node counter, extended association, `devs` kept below the counter.
-/
import IrVerif.Lemmas.ScopeExtRun
namespace IrVerif.Scope

mutual
/-- the device configurations of the reloaded graph: those of the proto, resolved in the renamed source tables -/
def DevTrG (V : Nat → ValueS) (x' : Ext) (hi : Nat) (A : Assoc) (outer : List Table) :
    GraphT → GraphE → GraphT → Prop
  | .mk _ ins inits nodes outs, .mk _ _ _ nps _ _, .mk _ _ _ nodes' _ =>
    DevTrNs V x' hi A outer (replDecl V (replInits V outs (tblIns V ins) inits).tbl (nodes.flatMap (liveOuts V))).tbl
      nodes nps nodes'
def DevTrNs (V : Nat → ValueS) (x' : Ext) (hi : Nat) (A : Assoc) (outer : List Table) :
    Table → List NodeT → List NodeE → List NodeT → Prop
  | _, [], [], [] => True
  | T, n :: ns, np :: nps, n' :: ns' =>
    DevTrN V x' hi A outer T n np n' ∧ DevTrNs V x' hi A outer (replN V outer T n).tbl ns nps ns'
  | _, _, _, _ => False
def DevTrN (V : Nat → ValueS) (x' : Ext) (hi : Nat) (A : Assoc) (outer : List Table) :
    Table → NodeT → NodeE → NodeT → Prop
  | T, .mk _ _ ins _ subs, .mk _ _ ds gps, .mk i' _ _ _ subs' =>
    (i' < hi ∧ TblIn A (replRes V outer T ins).tbl ∧ (∀ T' ∈ outer, TblIn A T') ∧
      x'.devs i' = ds.map (deserDevR (mapT A (replRes V outer T ins).tbl :: outer.map (mapT A)))) ∧
    DevTrGs V x' hi A ((replRes V outer T ins).tbl :: outer) subs gps subs'
def DevTrGs (V : Nat → ValueS) (x' : Ext) (hi : Nat) (A : Assoc) (scopes : List Table) :
    List GraphT → List GraphE → List GraphT → Prop
  | [], [], [] => True
  | g :: gs, p :: ps, g' :: gs' => DevTrG V x' hi A scopes g p g' ∧ DevTrGs V x' hi A scopes gs ps gs'
  | _, _, _ => False
end

mutual
theorem DevTrG.mono {V : Nat → ValueS} {x x' : Ext} {hi hi' : Nat} {A : Assoc} (B : Assoc) (hhi : hi ≤ hi')
    (hx : ∀ k, k < hi → x'.devs k = x.devs k) :
    ∀ (outer : List Table) (g : GraphT) (p : GraphE) (g' : GraphT),
      DevTrG V x hi A outer g p g' → DevTrG V x' hi' (A ++ B) outer g p g'
  | outer, .mk _ ins inits nodes outs, .mk _ _ _ nps _ _, .mk _ _ _ nodes' _, h => by
    simp only [DevTrG] at h ⊢
    exact DevTrNs.mono B hhi hx outer _ nodes nps nodes' h
theorem DevTrNs.mono {V : Nat → ValueS} {x x' : Ext} {hi hi' : Nat} {A : Assoc} (B : Assoc) (hhi : hi ≤ hi')
    (hx : ∀ k, k < hi → x'.devs k = x.devs k) :
    ∀ (outer : List Table) (T : Table) (ns : List NodeT) (nps : List NodeE) (ns' : List NodeT),
      DevTrNs V x hi A outer T ns nps ns' → DevTrNs V x' hi' (A ++ B) outer T ns nps ns'
  | _, _, [], [], [], _ => by simp only [DevTrNs]
  | outer, T, n :: ns, np :: nps, n' :: ns', h => by
    simp only [DevTrNs] at h ⊢
    exact ⟨DevTrN.mono B hhi hx outer T n np n' h.1, DevTrNs.mono B hhi hx outer _ ns nps ns' h.2⟩
  | _, _, [], [], _ :: _, h => by simp only [DevTrNs] at h
  | _, _, [], _ :: _, _, h => by simp only [DevTrNs] at h
  | _, _, _ :: _, [], _, h => by simp only [DevTrNs] at h
  | _, _, _ :: _, _ :: _, [], h => by simp only [DevTrNs] at h
theorem DevTrN.mono {V : Nat → ValueS} {x x' : Ext} {hi hi' : Nat} {A : Assoc} (B : Assoc) (hhi : hi ≤ hi')
    (hx : ∀ k, k < hi → x'.devs k = x.devs k) :
    ∀ (outer : List Table) (T : Table) (n : NodeT) (np : NodeE) (n' : NodeT),
      DevTrN V x hi A outer T n np n' → DevTrN V x' hi' (A ++ B) outer T n np n'
  | outer, T, .mk _ _ ins _ subs, .mk _ _ ds gps, .mk i' _ _ _ subs', h => by
    simp only [DevTrN] at h ⊢
    obtain ⟨⟨h1, h2, h3, h4⟩, h5⟩ := h
    refine ⟨⟨Nat.lt_of_lt_of_le h1 hhi, h2.append B, fun T' hT' => (h3 T' hT').append B, ?_⟩,
      DevTrGs.mono B hhi hx _ subs gps subs' h5⟩
    rw [hx i' h1, h4, mapT_extend B h2, maps_extend B h3]
theorem DevTrGs.mono {V : Nat → ValueS} {x x' : Ext} {hi hi' : Nat} {A : Assoc} (B : Assoc) (hhi : hi ≤ hi')
    (hx : ∀ k, k < hi → x'.devs k = x.devs k) :
    ∀ (scopes : List Table) (gs : List GraphT) (ps : List GraphE) (gs' : List GraphT),
      DevTrGs V x hi A scopes gs ps gs' → DevTrGs V x' hi' (A ++ B) scopes gs ps gs'
  | _, [], [], [], _ => by simp only [DevTrGs]
  | scopes, g :: gs, p :: ps, g' :: gs', h => by
    simp only [DevTrGs] at h ⊢
    exact ⟨DevTrG.mono B hhi hx scopes g p g' h.1, DevTrGs.mono B hhi hx scopes gs ps gs' h.2⟩
  | _, [], [], _ :: _, h => by simp only [DevTrGs] at h
  | _, [], _ :: _, _, h => by simp only [DevTrGs] at h
  | _, _ :: _, [], _, h => by simp only [DevTrGs] at h
  | _, _ :: _, _ :: _, [], h => by simp only [DevTrGs] at h
end

/-- the same association: larger counter, `devs` kept below the counter -/
theorem DevTrGs.frame {V : Nat → ValueS} {x x' : Ext} {hi hi' : Nat} {A : Assoc} (hhi : hi ≤ hi')
    (hx : ∀ k, k < hi → x'.devs k = x.devs k) (scopes : List Table) (gs : List GraphT) (ps : List GraphE)
    (gs' : List GraphT) (h : DevTrGs V x hi A scopes gs ps gs') : DevTrGs V x' hi' A scopes gs ps gs' := by
  have := DevTrGs.mono [] hhi hx scopes gs ps gs' h
  rwa [List.append_nil] at this

theorem DevTrG.frame {V : Nat → ValueS} {x x' : Ext} {hi hi' : Nat} {A : Assoc} (hhi : hi ≤ hi')
    (hx : ∀ k, k < hi → x'.devs k = x.devs k) (outer : List Table) (g : GraphT) (p : GraphE) (g' : GraphT)
    (h : DevTrG V x hi A outer g p g') : DevTrG V x' hi' A outer g p g' := by
  have := DevTrG.mono [] hhi hx outer g p g' h
  rwa [List.append_nil] at this

/-- `mkGraph` only stamps the graph id on the nodes -/
theorem DevTrNs_setGraph (V : Nat → ValueS) (x' : Ext) (hi : Nat) (A : Assoc) (outer : List Table) (gid : Nat) :
    ∀ (T : Table) (ns : List NodeT) (nps : List NodeE) (nts : List NodeT), DevTrNs V x' hi A outer T ns nps nts →
      DevTrNs V x' hi A outer T ns nps (nts.map (NodeT.setGraph gid))
  | _, [], [], [], _ => by simp only [List.map_nil, DevTrNs]
  | T, n :: ns, np :: nps, nt :: nts, h => by
    simp only [DevTrNs, List.map_cons] at h ⊢
    refine ⟨?_, DevTrNs_setGraph V x' hi A outer gid _ ns nps nts h.2⟩
    obtain ⟨i, g, a, b, c⟩ := nt
    obtain ⟨i0, g0, a0, b0, c0⟩ := n
    obtain ⟨i', o', d', s'⟩ := np
    simp only [DevTrN, NodeT.setGraph] at h ⊢
    exact h.1
  | _, [], [], _ :: _, h => by simp only [DevTrNs] at h
  | _, [], _ :: _, _, h => by simp only [DevTrNs] at h
  | _, _ :: _, [], _, h => by simp only [DevTrNs] at h
  | _, _ :: _, _ :: _, [], h => by simp only [DevTrNs] at h

end IrVerif.Scope
