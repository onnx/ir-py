/-
Helper lemmas for C07: alignment, running offsets, sharding, file image.  Core Lean only.
-/
import IrVerif.Model.Layout
import IrVerif.Lemmas.ListFacts
namespace IrVerif.Layout

/-! ### list facts -/

theorem getElem?_filter_countP {α : Type} (p : α → Bool) :
    ∀ (l : List α) (k : Nat) (hk : k < l.length), p l[k] = true →
      (l.filter p)[(l.take k).countP p]? = some l[k]
  | x :: xs, 0, _, hp => by
      have hx : p x = true := hp
      rw [List.filter_cons_of_pos hx]; rfl
  | x :: xs, k + 1, hk, hp => by
      have ih := getElem?_filter_countP p xs k (Nat.lt_of_succ_lt_succ hk) hp
      rw [List.take_succ_cons, List.getElem_cons_succ]
      by_cases hx : p x = true
      · rw [List.filter_cons_of_pos hx, List.countP_cons_of_pos hx, List.getElem?_cons_succ]; exact ih
      · rw [List.filter_cons_of_neg hx, List.countP_cons_of_neg hx]; exact ih

theorem countP_take_lt {α : Type} (p : α → Bool) (l : List α) (k : Nat) (hk : k < l.length)
    (hp : p l[k] = true) : (l.take k).countP p < (l.filter p).length :=
  (List.getElem?_eq_some_iff.1 (getElem?_filter_countP p l k hk hp)).1

theorem zipIdx_flatMap_fst {α β : Type} (l : List α) (k : Nat) (f : α → List β) :
    (l.zipIdx k).flatMap (fun p => f p.1) = l.flatMap f := by
  induction l generalizing k with
  | nil => rfl
  | cons x xs ih => simp [List.zipIdx_cons, ih]

theorem perm_flatMap_left {α β : Type} (l : List α) (f g : α → List β)
    (h : ∀ a ∈ l, (f a).Perm (g a)) : (l.flatMap f).Perm (l.flatMap g) := by
  induction l with
  | nil => exact List.Perm.refl _
  | cons x xs ih =>
    simp only [List.flatMap_cons]
    exact List.Perm.append (h x (List.mem_cons_self ..))
      (ih (fun a ha => h a (List.mem_cons_of_mem _ ha)))

theorem zipIdx_flatMap_map {α β : Type} (f : Nat → List α → List β) (g : β → α)
    (hf : ∀ i sh, (f i sh).map g = sh) (shards : List (List α)) (start : Nat) :
    ((shards.zipIdx start).flatMap fun p => f p.2 p.1).map g = shards.flatten := by
  induction shards generalizing start with
  | nil => rfl
  | cons sh rest ih =>
    rw [List.zipIdx_cons, List.flatMap_cons, List.map_append, List.flatten_cons, ih, hf]

/-! ### alignment arithmetic -/

theorem roundUp_ge (cur f : Nat) (hf : 0 < f) : cur ≤ (cur + f - 1) / f * f := by
  have h := Nat.div_add_mod (cur + f - 1) f
  have hr := Nat.mod_lt (cur + f - 1) hf
  rw [Nat.mul_comm] at h
  generalize (cur + f - 1) / f * f = m at *
  omega

theorem roundUp_lt (cur f : Nat) (hf : 0 < f) : (cur + f - 1) / f * f < cur + f := by
  have h := Nat.div_add_mod (cur + f - 1) f
  rw [Nat.mul_comm] at h
  generalize (cur + f - 1) / f * f = m at *
  omega

theorem roundUp_mod (cur f : Nat) : (cur + f - 1) / f * f % f = 0 := Nat.mul_mod_left _ _

theorem factor_pos (a : Nat) : 0 < max 4096 a := by omega

theorem alignOffset_ge (cur s : Nat) (al : Option Nat) (thr : Nat) :
    cur ≤ alignOffset cur s al thr := by
  unfold alignOffset
  split
  · exact Nat.le_refl _
  · split
    · exact Nat.le_refl _
    · exact roundUp_ge _ _ (factor_pos _)

theorem alignOffset_zero (s : Nat) (al : Option Nat) (thr : Nat) : alignOffset 0 s al thr = 0 := by
  unfold alignOffset
  split
  · rfl
  · split
    · rfl
    · rename_i a _
      have : (0 + max 4096 a - 1) / max 4096 a = 0 := by
        apply Nat.div_eq_of_lt; have := factor_pos a; omega
      rw [this]; simp

theorem alignOffset_small (cur s : Nat) (al : Option Nat) (thr : Nat) (h : s ≤ thr) :
    alignOffset cur s al thr = cur := by
  unfold alignOffset; split <;> simp [h]

theorem alignOffset_none (cur s thr : Nat) : alignOffset cur s none thr = cur := rfl

theorem alignOffset_aligned (cur s a thr : Nat) (h : thr < s) :
    alignOffset cur s (some a) thr % max 4096 a = 0 := by
  unfold alignOffset
  have : ¬ s ≤ thr := by omega
  simp only [this, if_false]
  exact roundUp_mod _ _

theorem alignOffset_lt (cur s a thr : Nat) :
    alignOffset cur s (some a) thr < cur + max 4096 a := by
  unfold alignOffset
  simp only
  split
  · have := factor_pos a; omega
  · exact roundUp_lt _ _ (factor_pos _)

/-! ### running offsets -/

theorem computeInfosFrom_lengths (al : Option Nat) (thr : Nat) (cur : Nat) (sizes : List Nat) :
    (computeInfosFrom al thr cur sizes).map (·.length) = sizes := by
  induction sizes generalizing cur with
  | nil => rfl
  | cons s rest ih => simp [computeInfosFrom, ih]

theorem computeInfosFrom_length (al : Option Nat) (thr : Nat) (cur : Nat) (sizes : List Nat) :
    (computeInfosFrom al thr cur sizes).length = sizes.length := by
  simpa using congrArg List.length (computeInfosFrom_lengths al thr cur sizes)

theorem computeInfosFrom_zip_length (al : Option Nat) (thr : Nat) :
    ∀ (cur : Nat) (bs : List (List Nat)) (q : Info × List Nat),
      q ∈ (computeInfosFrom al thr cur (bs.map List.length)).zip bs → q.1.length = q.2.length := by
  intro cur bs
  induction bs generalizing cur with
  | nil => intro q hq; simp [computeInfosFrom] at hq
  | cons b rest ih =>
    intro q hq
    simp only [List.map_cons, computeInfosFrom, List.zip_cons_cons, List.mem_cons] at hq
    rcases hq with rfl | hq
    · rfl
    · exact ih _ q hq

theorem computeInfosFrom_ge (al : Option Nat) (thr : Nat) (cur : Nat) (sizes : List Nat) :
    ∀ i ∈ computeInfosFrom al thr cur sizes, cur ≤ i.offset := by
  induction sizes generalizing cur with
  | nil => intro i hi; simp [computeInfosFrom] at hi
  | cons s rest ih =>
    intro i hi
    simp only [computeInfosFrom, List.mem_cons] at hi
    rcases hi with rfl | hi
    · exact alignOffset_ge _ _ _ _
    · have := ih _ i hi
      have := alignOffset_ge cur s al thr
      omega

theorem computeInfosFrom_pairwise (al : Option Nat) (thr : Nat) (cur : Nat) (sizes : List Nat) :
    (computeInfosFrom al thr cur sizes).Pairwise (fun a b => a.offset + a.length ≤ b.offset) := by
  induction sizes generalizing cur with
  | nil => simp [computeInfosFrom]
  | cons s rest ih =>
    simp only [computeInfosFrom, List.pairwise_cons]
    exact ⟨fun b hb => computeInfosFrom_ge _ _ _ _ b hb, ih _⟩

theorem layoutEndFrom_ge (al : Option Nat) (thr : Nat) (cur : Nat) (sizes : List Nat) :
    cur ≤ layoutEndFrom al thr cur sizes := by
  induction sizes generalizing cur with
  | nil => simp [layoutEndFrom]
  | cons t rest ih =>
    simp only [layoutEndFrom]
    have := alignOffset_ge cur t al thr
    have := ih (alignOffset cur t al thr + t)
    omega

theorem computeInfosFrom_le_end (al : Option Nat) (thr : Nat) (cur : Nat) (sizes : List Nat) :
    ∀ i ∈ computeInfosFrom al thr cur sizes, i.stop ≤ layoutEndFrom al thr cur sizes := by
  induction sizes generalizing cur with
  | nil => intro i hi; simp [computeInfosFrom] at hi
  | cons s rest ih =>
    intro i hi
    simp only [computeInfosFrom, List.mem_cons] at hi
    simp only [layoutEndFrom]
    rcases hi with rfl | hi
    · exact layoutEndFrom_ge al thr _ rest
    · exact ih _ i hi

theorem layoutEndFrom_append (al : Option Nat) (thr : Nat) (cur : Nat) (xs ys : List Nat) :
    layoutEndFrom al thr cur (xs ++ ys) = layoutEndFrom al thr (layoutEndFrom al thr cur xs) ys := by
  induction xs generalizing cur with
  | nil => rfl
  | cons x xs ih => simp [layoutEndFrom, ih]

theorem layoutEnd_snoc (al : Option Nat) (thr : Nat) (xs : List Nat) (t : Nat) :
    layoutEnd al thr (xs ++ [t]) = alignOffset (layoutEnd al thr xs) t al thr + t := by
  simp [layoutEnd, layoutEndFrom_append, layoutEndFrom]

theorem layoutEnd_single (al : Option Nat) (thr : Nat) (t : Nat) : layoutEnd al thr [t] = t := by
  simp [layoutEnd, layoutEndFrom, alignOffset_zero]

theorem layoutEndFrom_none (thr cur : Nat) (xs : List Nat) : layoutEndFrom none thr cur xs = cur + xs.sum := by
  induction xs generalizing cur with
  | nil => rfl
  | cons x xs ih => rw [layoutEndFrom, ih, alignOffset_none, List.sum_cons, Nat.add_assoc]

theorem layoutEnd_none (thr : Nat) (xs : List Nat) : layoutEnd none thr xs = xs.sum := by
  rw [layoutEnd, layoutEndFrom_none, Nat.zero_add]

/-- the running offset ends at the end of the last non-empty tensor (zero-length tensors are never
    aligned: `0 ≤ align_threshold`), or nothing was placed -/
theorem layoutEndFrom_attained (al : Option Nat) (athr : Nat) : ∀ (sizes : List Nat) (cur : Nat),
    layoutEndFrom al athr cur sizes = cur ∨
      ∃ inf ∈ computeInfosFrom al athr cur sizes, inf.length ≠ 0 ∧
        inf.offset + inf.length = layoutEndFrom al athr cur sizes
  | [], _ => Or.inl rfl
  | s :: rest, cur => by
      simp only [layoutEndFrom, computeInfosFrom]
      rcases layoutEndFrom_attained al athr rest (alignOffset cur s al athr + s) with h | ⟨inf, hm, h1, h2⟩
      · by_cases hs : s = 0
        · left
          subst hs
          rw [h, alignOffset_small cur 0 al athr (Nat.zero_le _)]; rfl
        · right
          exact ⟨⟨alignOffset cur s al athr, s⟩, List.mem_cons_self .., hs, h.symm⟩
      · right
        exact ⟨inf, List.mem_cons_of_mem _ hm, h1, h2⟩

theorem totalSize_from (al : Option Nat) (thr : Nat) (cur : Nat) (sizes : List Nat) :
    (computeInfosFrom al thr cur sizes).foldl (fun m i => max m i.stop) cur =
      layoutEndFrom al thr cur sizes := by
  induction sizes generalizing cur with
  | nil => rfl
  | cons s rest ih =>
    simp only [computeInfosFrom, List.foldl_cons, layoutEndFrom, Info.stop]
    have := alignOffset_ge cur s al thr
    rw [Nat.max_eq_right (by omega)]
    exact ih _

theorem totalSize_eq_layoutEnd (al : Option Nat) (thr : Nat) (sizes : List Nat) :
    totalSize (computeInfos al thr sizes) = layoutEnd al thr sizes :=
  totalSize_from al thr 0 sizes

/-- adjacent-pair view of the layout: list of (end of previous range, info) -/
def withPrevEnd (al : Option Nat) (thr : Nat) : Nat → List Nat → List (Nat × Info)
  | _, [] => []
  | cur, s :: rest =>
    let off := alignOffset cur s al thr
    (cur, ⟨off, s⟩) :: withPrevEnd al thr (off + s) rest

theorem withPrevEnd_snd (al : Option Nat) (thr : Nat) (cur : Nat) (sizes : List Nat) :
    (withPrevEnd al thr cur sizes).map (·.2) = computeInfosFrom al thr cur sizes := by
  induction sizes generalizing cur with
  | nil => rfl
  | cons s rest ih => simp [withPrevEnd, computeInfosFrom, ih]

theorem withPrevEnd_eq_zip (al : Option Nat) (thr : Nat) (cur : Nat) (sizes : List Nat) :
    withPrevEnd al thr cur sizes =
      List.zip (cur :: (computeInfosFrom al thr cur sizes).map Info.stop)
        (computeInfosFrom al thr cur sizes) := by
  induction sizes generalizing cur with
  | nil => rfl
  | cons s rest ih => simp [withPrevEnd, computeInfosFrom, ih, Info.stop]

theorem aligned_from (al : Option Nat) (thr : Nat) (cur : Nat) (sizes : List Nat) :
    ∀ p ∈ withPrevEnd al thr cur sizes,
      p.1 ≤ p.2.offset ∧
      (al = none ∨ p.2.length ≤ thr → p.2.offset = p.1) ∧
      (∀ a, al = some a → thr < p.2.length →
        p.2.offset % max 4096 a = 0 ∧ p.2.offset < p.1 + max 4096 a) := by
  induction sizes generalizing cur with
  | nil => intro p hp; simp [withPrevEnd] at hp
  | cons s rest ih =>
    intro p hp
    simp only [withPrevEnd, List.mem_cons] at hp
    rcases hp with rfl | hp
    · refine ⟨alignOffset_ge _ _ _ _, ?_, ?_⟩
      · rintro (h | h)
        · subst h; rfl
        · exact alignOffset_small _ _ _ _ h
      · intro a ha hlt
        subst ha
        exact ⟨alignOffset_aligned _ _ _ _ hlt, alignOffset_lt _ _ _ _⟩
    · exact ih _ p hp

/-! ### sharding -/

theorem shardRawGo_ne_nil {α : Type} (size : α → Nat) (limit : Nat) (al : Option Nat) (thr : Nat) :
    ∀ (ts cur : List α) (sz : Nat), shardRawGo size limit al thr cur sz ts ≠ []
  | [], _, _ => by simp [shardRawGo]
  | t :: rest, cur, sz => by
      simp only [shardRawGo]
      split
      · simp
      · exact shardRawGo_ne_nil size limit al thr rest _ _

section Shard
variable {α : Type} (size : α → Nat)

theorem shardRawGo_flatten (limit : Nat) (al : Option Nat) (thr : Nat) (cur : List α) (sz : Nat)
    (ts : List α) : (shardRawGo size limit al thr cur sz ts).flatten = cur ++ ts := by
  induction ts generalizing cur sz with
  | nil => simp [shardRawGo]
  | cons t rest ih =>
    simp only [shardRawGo]
    split
    · simp [ih]
    · simp [ih]

theorem shardRawGo_nonempty (limit : Nat) (al : Option Nat) (thr : Nat) (cur : List α) (sz : Nat)
    (ts : List α) (h : cur ≠ [] ∨ ts ≠ []) :
    ∀ sh ∈ shardRawGo size limit al thr cur sz ts, sh ≠ [] := by
  induction ts generalizing cur sz with
  | nil =>
    intro sh hsh
    simp only [shardRawGo, List.mem_singleton] at hsh
    subst hsh
    simpa using h
  | cons t rest ih =>
    intro sh hsh
    simp only [shardRawGo] at hsh
    split at hsh
    · rename_i hc
      rcases List.mem_cons.mp hsh with rfl | hsh
      · exact hc.2
      · exact ih [t] _ (Or.inl (by simp)) sh hsh
    · exact ih (cur ++ [t]) _ (Or.inl (by simp)) sh hsh

theorem shardRawGo_limit (limit : Nat) (al : Option Nat) (thr : Nat) (cur : List α) (sz : Nat)
    (ts : List α) (hsz : sz = layoutEnd al thr (cur.map size))
    (hinv : sz ≤ limit ∨ cur.length ≤ 1) :
    ∀ sh ∈ shardRawGo size limit al thr cur sz ts,
      layoutEnd al thr (sh.map size) ≤ limit ∨ sh.length ≤ 1 := by
  induction ts generalizing cur sz with
  | nil =>
    intro sh hsh
    simp only [shardRawGo, List.mem_singleton] at hsh
    subst hsh; subst hsz; exact hinv
  | cons t rest ih =>
    intro sh hsh
    simp only [shardRawGo] at hsh
    split at hsh
    · rcases List.mem_cons.mp hsh with rfl | hsh
      · subst hsz; exact hinv
      · refine ih [t] _ ?_ (Or.inr (by simp)) sh hsh
        simp [layoutEnd_single]
    · rename_i hc
      refine ih (cur ++ [t]) _ ?_ ?_ sh hsh
      · subst hsz; simp [layoutEnd_snoc]
      · by_cases hcur : cur = []
        · subst hcur; right; simp
        · left
          have : ¬ (alignOffset sz (size t) al thr + size t > limit) := fun h => hc ⟨h, hcur⟩
          omega

theorem shardRaw_flatten (limit : Nat) (al : Option Nat) (thr : Nat) (ts : List α) :
    (shardRaw size limit al thr ts).flatten = ts := by
  simpa [shardRaw] using shardRawGo_flatten size limit al thr [] 0 ts

theorem shardStGo_eq_raw (limit thr : Nat) (ts : List α) (cur : List α) (sz : Nat) :
    shardStGo size limit cur sz ts = shardRawGo size limit none thr cur sz ts := by
  induction ts generalizing cur sz with
  | nil => rfl
  | cons t rest ih => simp only [shardStGo, shardRawGo, alignOffset_none, ih]; rfl

theorem shardSt_some (limit : Nat) (ts : List α) :
    shardSt size (some limit) ts = shardRaw size limit none 0 ts :=
  shardStGo_eq_raw size limit 0 ts [] 0

theorem shardSt_flatten (limit : Option Nat) (ts : List α) : (shardSt size limit ts).flatten = ts := by
  cases limit with
  | none => simp [shardSt]
  | some l => rw [shardSt_some]; exact shardRaw_flatten size l none 0 ts

end Shard

theorem shardRawGo_mapf {α β : Type} (sa : α → Nat) (sb : β → Nat) (f : α → β) (hf : ∀ a, sb (f a) = sa a)
    (limit : Nat) (al : Option Nat) (thr : Nat) (cur : List α) (sz : Nat) (ts : List α) :
    (shardRawGo sa limit al thr cur sz ts).map (List.map f) =
      shardRawGo sb limit al thr (cur.map f) sz (ts.map f) := by
  induction ts generalizing cur sz with
  | nil => simp [shardRawGo]
  | cons t rest ih =>
    simp only [shardRawGo, List.map_cons, hf]
    have e : (cur.map f ≠ []) ↔ cur ≠ [] := by simp
    simp only [e]
    by_cases hc : alignOffset sz (sa t) al thr + sa t > limit ∧ cur ≠ []
    · rw [if_pos hc, if_pos hc, List.map_cons, ih]; simp
    · rw [if_neg hc, if_neg hc, ih]; simp

/-! ### file image -/

theorem pad_length (img : List Nat) (off : Nat) :
    (img ++ List.replicate (off - img.length) 0).length = max img.length off := by
  rw [List.length_append, List.length_replicate]; omega

theorem pad_getD (img : List Nat) (off k : Nat) :
    (img ++ List.replicate (off - img.length) 0).getD k 0 = img.getD k 0 :=
  ListFacts.getD_append_replicate img _ k 0

theorem splice_getD (l bs : List Nat) (off i : Nat) (hlen : off ≤ l.length) :
    (l.take off ++ bs ++ l.drop (off + bs.length)).getD i 0 =
      if off ≤ i ∧ i < off + bs.length then bs.getD (i - off) 0 else l.getD i 0 := by
  have htake : (l.take off).length = off := by rw [List.length_take, Nat.min_eq_left hlen]
  simp only [List.getD_eq_getElem?_getD]
  rw [List.append_assoc]
  by_cases h1 : i < off
  · rw [if_neg (fun h => Nat.not_le.2 h1 h.1), List.getElem?_append_left (htake.symm ▸ h1),
      List.getElem?_take, if_pos h1]
  · obtain ⟨d, rfl⟩ := Nat.exists_eq_add_of_le (Nat.le_of_not_lt h1)
    rw [List.getElem?_append_right (htake.symm ▸ Nat.le_add_right off d), htake, Nat.add_sub_cancel_left]
    by_cases h2 : d < bs.length
    · rw [if_pos ⟨Nat.le_add_right off d, Nat.add_lt_add_left h2 off⟩, List.getElem?_append_left h2]
    · obtain ⟨e, rfl⟩ := Nat.exists_eq_add_of_le (Nat.le_of_not_lt h2)
      rw [if_neg (fun h => h2 (Nat.lt_of_add_lt_add_left h.2)),
        List.getElem?_append_right (Nat.le_add_right ..), Nat.add_sub_cancel_left, List.getElem?_drop,
        Nat.add_assoc]

theorem writeAt_length (img : List Nat) (off : Nat) (bs : List Nat) :
    (writeAt img off bs).length = if bs = [] then img.length else max img.length (off + bs.length) := by
  unfold writeAt
  split
  · rfl
  · rw [List.length_append, List.length_append, List.length_take, List.length_drop, pad_length,
      Nat.min_eq_left (Nat.le_max_right ..)]
    omega

theorem writeAt_getD (img : List Nat) (off : Nat) (bs : List Nat) (i : Nat) :
    (writeAt img off bs).getD i 0 =
      if off ≤ i ∧ i < off + bs.length then bs.getD (i - off) 0 else img.getD i 0 := by
  unfold writeAt
  by_cases hb : bs = []
  · subst hb
    rw [if_pos rfl, if_neg (fun h => Nat.not_le.2 h.2 h.1)]
  · simp only [hb, if_false]
    rw [splice_getD _ bs off i (by rw [pad_length]; exact Nat.le_max_right ..), pad_getD]

/-- two writes touch disjoint byte ranges (an empty write touches nothing) -/
def Write.disjoint (a b : Write) : Prop :=
  a.1 + a.2.length ≤ b.1 ∨ b.1 + b.2.length ≤ a.1 ∨ a.2 = [] ∨ b.2 = []

theorem Write.disjoint_symm {a b : Write} (h : a.disjoint b) : b.disjoint a := by
  unfold Write.disjoint at *
  rcases h with h | h | h | h
  · exact Or.inr (Or.inl h)
  · exact Or.inl h
  · exact Or.inr (Or.inr (Or.inr h))
  · exact Or.inr (Or.inr (Or.inl h))

theorem Write.pairwise_disjoint_perm {ws ws' : List Write} (hperm : ws'.Perm ws)
    (hd : ws.Pairwise Write.disjoint) : ws'.Pairwise Write.disjoint :=
  (hperm.pairwise_iff (fun h => Write.disjoint_symm h)).mpr hd

theorem applyWrites_cons (img : List Nat) (w : Write) (ws : List Write) :
    applyWrites img (w :: ws) = applyWrites (writeAt img w.1 w.2) ws := rfl

theorem applyWrites_getD_untouched (img : List Nat) (ws : List Write) (i : Nat)
    (h : ∀ w ∈ ws, ¬ (w.1 ≤ i ∧ i < w.1 + w.2.length)) :
    (applyWrites img ws).getD i 0 = img.getD i 0 := by
  induction ws generalizing img with
  | nil => rfl
  | cons w ws ih =>
    rw [applyWrites_cons, ih _ (fun w' hw' => h w' (List.mem_cons_of_mem _ hw'))]
    rw [writeAt_getD]
    have := h w (List.mem_cons_self ..)
    simp [this]

theorem applyWrites_getD_written (img : List Nat) (ws : List Write)
    (hd : ws.Pairwise Write.disjoint) (w : Write) (hw : w ∈ ws) (j : Nat) (hj : j < w.2.length) :
    (applyWrites img ws).getD (w.1 + j) 0 = w.2.getD j 0 := by
  induction ws generalizing img with
  | nil => simp at hw
  | cons v ws ih =>
    rw [applyWrites_cons]
    rw [List.pairwise_cons] at hd
    rcases List.mem_cons.mp hw with rfl | hw'
    · rw [applyWrites_getD_untouched]
      · rw [writeAt_getD]
        have : w.1 ≤ w.1 + j ∧ w.1 + j < w.1 + w.2.length := by omega
        simp [this]
      · intro v hv
        have hdis := hd.1 v hv
        unfold Write.disjoint at hdis
        have hne : w.2 ≠ [] := by intro h; simp [h] at hj
        rcases hdis with h | h | h | h
        · omega
        · omega
        · exact absurd h hne
        · simp [h]
    · exact ih _ hd.2 hw'

theorem applyWrites_length_ge (img : List Nat) (ws : List Write) :
    img.length ≤ (applyWrites img ws).length := by
  induction ws generalizing img with
  | nil => exact Nat.le_refl _
  | cons v ws ih =>
    rw [applyWrites_cons]
    have := ih (writeAt img v.1 v.2)
    rw [writeAt_length] at this
    split at this <;> omega

theorem applyWrites_length_le (img : List Nat) (ws : List Write) (L : Nat) (himg : img.length ≤ L)
    (hws : ∀ w ∈ ws, w.1 + w.2.length ≤ L) : (applyWrites img ws).length ≤ L := by
  induction ws generalizing img with
  | nil => exact himg
  | cons w ws ih =>
    rw [applyWrites_cons]
    apply ih
    · rw [writeAt_length]
      have := hws w (List.mem_cons_self ..)
      split <;> omega
    · exact fun v hv => hws v (List.mem_cons_of_mem _ hv)

theorem applyWrites_length_written (img : List Nat) (ws : List Write) (w : Write) (hw : w ∈ ws)
    (hne : w.2 ≠ []) : w.1 + w.2.length ≤ (applyWrites img ws).length := by
  induction ws generalizing img with
  | nil => simp at hw
  | cons v ws ih =>
    rw [applyWrites_cons]
    rcases List.mem_cons.mp hw with rfl | hw'
    · have := applyWrites_length_ge (writeAt img w.1 w.2) ws
      rw [writeAt_length] at this
      simp only [hne, if_false] at this
      omega
    · exact ih _ hw'

theorem readAt_eq_of_getD (img : List Nat) (off : Nat) (bs : List Nat)
    (hlen : off + bs.length ≤ img.length)
    (h : ∀ j, j < bs.length → img.getD (off + j) 0 = bs.getD j 0) :
    readAt img off bs.length = bs := by
  apply List.ext_getElem
  · simp [readAt]; omega
  · intro j h1 h2
    have := h j h2
    simp only [List.getD_eq_getElem?_getD] at this
    rw [List.getElem?_eq_getElem (by omega), List.getElem?_eq_getElem h2] at this
    simp only [Option.getD_some] at this
    simp [readAt, this]

/-- a record reads the bytes `bs` from the files `files` -/
def Reads (files : List (List Nat)) (p : Placement) (bs : List Nat) : Prop :=
  ∃ img, files[p.shard]? = some img ∧ readAt img p.offset p.length = bs

/-! ### the writes of a layout -/

theorem writesOf_disjoint (al : Option Nat) (thr : Nat) (bs : List (List Nat)) :
    (writesOf al thr bs).Pairwise Write.disjoint := by
  unfold writesOf computeInfos
  generalize 0 = cur
  induction bs generalizing cur with
  | nil => simp [computeInfosFrom]
  | cons b rest ih =>
    simp only [List.map_cons, computeInfosFrom, List.zip_cons_cons, List.pairwise_cons]
    refine ⟨?_, ih _⟩
    intro w hw
    simp only [List.mem_map] at hw
    obtain ⟨p, hp, rfl⟩ := hw
    have := computeInfosFrom_ge _ _ _ _ p.1 (List.of_mem_zip hp).1
    left; simpa using this

theorem serial_length_from (al : Option Nat) (thr : Nat) (bs : List (List Nat)) (cur : Nat)
    (img : List Nat) (himg : img.length = cur) :
    (applyWrites img (((computeInfosFrom al thr cur (bs.map List.length)).zip bs).map
      fun p => (p.1.offset, p.2))).length = layoutEndFrom al thr cur (bs.map List.length) := by
  induction bs generalizing cur img with
  | nil => simpa [computeInfosFrom, applyWrites, layoutEndFrom] using himg
  | cons b rest ih =>
    simp only [List.map_cons, computeInfosFrom, List.zip_cons_cons, applyWrites_cons, layoutEndFrom]
    apply ih
    rw [writeAt_length]
    have hge := alignOffset_ge cur b.length al thr
    split
    · rename_i hb; subst hb
      simp [alignOffset_small, himg]
    · omega

theorem writesOf_stop_le (al : Option Nat) (thr : Nat) (bs : List (List Nat)) :
    ∀ w ∈ writesOf al thr bs, w.1 + w.2.length ≤ layoutEnd al thr (bs.map List.length) := by
  intro w hw
  simp only [writesOf, List.mem_map] at hw
  obtain ⟨p, hp, rfl⟩ := hw
  have hmem := (List.of_mem_zip hp).1
  have hle := computeInfosFrom_le_end al thr 0 _ p.1 hmem
  have hlen : p.1.length = p.2.length := computeInfosFrom_zip_length al thr 0 bs p hp
  simp only [Info.stop] at hle
  simp only [layoutEnd]
  omega

/-! ### the data files of a save -/

/-- the shards of byte strings behind `dataFiles` -/
def byteShards (bs : List (List Nat)) (maxShard : Option Nat) (al : Option Nat) (athr : Nat) :
    List (List (List Nat)) :=
  match maxShard with
  | none => [bs]
  | some m => shardRaw List.length m al athr bs

theorem byteShards_flatten (bs : List (List Nat)) (maxShard : Option Nat) (al : Option Nat)
    (athr : Nat) : (byteShards bs maxShard al athr).flatten = bs := by
  cases maxShard with
  | none => simp [byteShards]
  | some m => exact shardRaw_flatten List.length m al athr bs

theorem place_zip_from (al : Option Nat) (athr : Nat) (total : Nat) (shards : List (List (List Nat)))
    (start : Nat) :
    ((((shards.map (List.map List.length)).zipIdx start).flatMap fun (sh, i) =>
        (computeInfos al athr sh).map fun inf => (⟨i, total, inf.offset, inf.length⟩ : Placement)).zip
      shards.flatten) =
    (shards.zipIdx start).flatMap fun (sh, i) =>
      ((computeInfos al athr (sh.map List.length)).zip sh).map fun q =>
        ((⟨i, total, q.1.offset, q.1.length⟩ : Placement), q.2) := by
  induction shards generalizing start with
  | nil => rfl
  | cons sh rest ih =>
    simp only [List.map_cons, List.zipIdx_cons, List.flatMap_cons, List.flatten_cons]
    rw [List.zip_append (by simp [computeInfos, computeInfosFrom_length]), ih]
    congr 1
    rw [List.zip_map_left]
    simp

theorem dataFiles_eq (bs : List (List Nat)) (maxShard al : Option Nat) (athr : Nat)
    (sched : Option (List Nat)) :
    dataFiles bs maxShard al athr sched = (byteShards bs maxShard al athr).map fun sh =>
      match sched with
      | none => serialImage (writesOf al athr sh)
      | some order => parallelImage (totalSize (computeInfos al athr (sh.map List.length)))
          (reorder (writesOf al athr sh) order) := by
  cases maxShard <;> cases sched <;> rfl

theorem dataFiles_serial (bs : List (List Nat)) (maxShard : Option Nat) (al : Option Nat)
    (athr : Nat) :
    dataFiles bs maxShard al athr none =
      (byteShards bs maxShard al athr).map fun sh => serialImage (writesOf al athr sh) :=
  dataFiles_eq bs maxShard al athr none

/-- without a limit both sides are the one shard with index 0 of 1 -/
theorem placeRaw_eq_placeShards (bs : List (List Nat)) (maxShard al : Option Nat) (athr : Nat) :
    placeRaw (bs.map List.length) maxShard al athr =
      placeShards al athr ((byteShards bs maxShard al athr).map (List.map List.length)) := by
  cases maxShard with
  | none => simp [placeRaw, placeShards, byteShards]
  | some m =>
    rw [placeRaw, byteShards, shardRaw, shardRaw,
      shardRawGo_mapf List.length id List.length (fun _ => rfl) m al athr [] 0 bs]
    rfl

end IrVerif.Layout
