/-
Extended model, MODELS WITH FUNCTIONS: what holds for every model the extended deserializer returns
(`deserializeME_reloadableME`, `Lemmas/ScopeExtFuncDeser.lean`): the second serialization is a fix-point, and the
round trip keeps the core (the data of `IsoM`) and the extension state (`normM` / `normQ`).
-/
import IrVerif.Lemmas.ScopeExtModel
import IrVerif.Lemmas.ScopeExtFuncDeser
import IrVerif.Lemmas.ScopeExtModelDev
namespace IrVerif.Scope

/-- **idempotence for extended models with functions**: deserialize, serialize (raises only for a device
    configuration that cannot be written), deserialize, serialize: the same proto -/
theorem idempotent_extM (ver : Option Int) (p : ModelE) (w : MWorldE) (hd : deserializeME p = .ok w) :
    (∃ e, serializeME ver w = .error (.dev e)) ∨
    ∃ (w1 : MWorldE) (Q : ModelE) (D w2 : MWorldE),
      serializeME ver w = .ok (w1, Q) ∧ deserializeME Q = .ok D ∧ serializeME ver D = .ok (w2, Q) := by
  have h := deserializeME_reloadableME p w hd
  rcases reloadableME_ser ver w h with ⟨w1, Q, hs⟩ | ⟨e, he⟩
  · obtain ⟨D, w2, hD, h2⟩ := reloadableME_fixpoint ver w h w1 Q hs
    exact .inr ⟨w1, Q, D, w2, hs, hD, h2⟩
  · exact .inl ⟨e, he⟩

/-- the round trip of a DESERIALIZED extended model with functions: serialization raises for a device
    configuration, or the reloaded model is the source up to the renaming `σ` (the data of `IsoM`) and carries the
    source metadata / annotations written and read once -/
theorem roundtrip_extM (ver : Option Int) (p : ModelE) (w : MWorldE) (hd : deserializeME p = .ok w) :
    (∃ e, serializeME ver w = .error (.dev e)) ∨
    ∃ (w1 : MWorldE) (Q : ModelE) (D : MWorldE) (σ : Nat → Nat),
      serializeME ver w = .ok (w1, Q) ∧ deserializeME Q = .ok D ∧
      TreeIsoG w.st.vals σ w.root D.root ∧ TreeIsoFs w.st.vals σ w.funcs D.funcs ∧
      (∀ a ∈ domM w.core, ∀ b ∈ domM w.core, σ a = σ b → a = b) ∧
      (∀ v ∈ domM w.core, (D.st.vals (σ v)).name = (w.st.vals v).name) ∧
      (∀ v ∈ emitM w.core, (D.st.vals (σ v)).info = (w.st.vals v).info.emit) ∧
      (∀ kv ∈ allInitsM w.core, ∀ t, (w.st.vals kv.2).const = some t →
        ∃ t', (D.st.vals (σ kv.2)).const = some t' ∧ (D.st.tens t').name = some kv.1 ∧
          D.st.tdata t' = w.st.tdata t) ∧
      (∀ v ∈ emitM w.core, D.ext.vmeta (σ v) = normM (w.ext.vmeta v)) ∧
      (∀ v ∈ emitQM w, D.ext.quant (σ v) = normQ (w.ext.quant v)) := by
  have h := deserializeME_reloadableME p w hd
  rcases reloadableME_ser ver w h with ⟨w1, Q, hs⟩ | ⟨e, he⟩
  · obtain ⟨D, σ, hD, r⟩ := reloadableME_roundtrip_iso ver w h w1 Q hs
    exact .inr ⟨w1, Q, D, σ, hs, hD, r⟩
  · exact .inl ⟨e, he⟩

/-- the round trip of a DESERIALIZED extended model with functions, with the device configurations: when they are
    written (IR version gate open), serialization raises for a device configuration, or the reloaded model is the
    source up to the renaming `σ` and every reloaded node (main graph, nested graphs, function bodies) carries the
    source device configurations with the sharding values renamed by `σ` (BY IDENTITY) -/
theorem roundtrip_extM_devs (ver : Option Int) (hgate : ver = none ∨ ∃ v, ver = some v ∧ ¬ v < 11) (p : ModelE)
    (w : MWorldE) (hd : deserializeME p = .ok w) :
    (∃ e, serializeME ver w = .error (.dev e)) ∨
    ∃ (w1 : MWorldE) (Q : ModelE) (D : MWorldE) (σ : Nat → Nat),
      serializeME ver w = .ok (w1, Q) ∧ deserializeME Q = .ok D ∧
      TreeIsoG w.st.vals σ w.root D.root ∧ TreeIsoFs w.st.vals σ w.funcs D.funcs ∧
      (∀ a ∈ domM w.core, ∀ b ∈ domM w.core, σ a = σ b → a = b) ∧
      DevIsoM w.ext D.ext σ w D := by
  have h := deserializeME_reloadableME p w hd
  rcases reloadableME_ser ver w h with ⟨w1, Q, hs⟩ | ⟨e, he⟩
  · obtain ⟨D, B, hD, hrs, hk, ht, htf, _, _, _, _, hdev⟩ :=
      reloadableME_roundtrip_devs ver hgate w h (deserializeME_devCert p w hd) w1 Q hs
    have hkeys : ∀ v ∈ domM w.core, v ∈ B.map (·.1) := fun v hv => hk ▸ hv
    exact .inr ⟨w1, Q, D, sig B, hs, hD, TreeRelG.iso _ B _ _ ht, TreeRelFs.iso _ B _ _ htf,
      fun a ha b hb he => hrs.sig_inj (hkeys a ha) (hkeys b hb) he, hdev⟩
  · exact .inl ⟨e, he⟩

end IrVerif.Scope
