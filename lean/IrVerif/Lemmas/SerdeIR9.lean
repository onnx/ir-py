import IrVerif.Lemmas.SerdeOutdup
/-! C02, models below IR version 10 whose main graph has values named `domain::name/value`: the round trip
`model_rt9` (SerdeModel) holds for the pre-forms `foldModel m` and `canonDModel m` (`model_rt9W`, `model_rt9D`);
`wfModelD -> wfModel9D`. -/
namespace IrVerif.Serde
open IrVerif.Proto

theorem model_rt9W (m : ModelP) (h : wfModel9W m = true) :
    ∃ x, desModel m = .ok x ∧ serModel x = .ok (normModel9W m) := by
  simp only [wfModel9W, Bool.and_eq_true, Bool.or_eq_true, decide_eq_true_eq] at h
  obtain ⟨x, h1, h2⟩ := model_rt9 (foldModel m) h.1
  rw [desModel_fold m h.2] at h1
  exact ⟨x, h1, h2⟩

theorem outdupGraph_output_names (g : GraphP) :
    (outdupGraph g).outputs.map (·.name) = g.outputs.map (·.name) := by
  cases g
  simp only [outdupGraph, GraphP.outputs, List.map_map]
  apply List.map_congr_left
  intro vo _
  exact outdupVI_name _ _ vo

theorem foldGraph_outputs (g : GraphP) : (foldGraph g).outputs = g.outputs := by
  cases g; rfl

theorem foldTensor_name (t : TensorP) : (foldTensor t).name = t.name := by
  unfold foldTensor; split <;> rfl

/-- what `outdup ∘ fold` keeps of a graph: output names, initializer names, node output names, inputs -/
theorem outdup_fold_fields (g : GraphP) :
    (outdupGraph (foldGraph g)).outputs.map (·.name) = g.outputs.map (·.name) ∧
    (outdupGraph (foldGraph g)).initializers.map (·.name) = g.initializers.map (·.name) ∧
    nodeOutNames (outdupGraph (foldGraph g)).nodes = nodeOutNames g.nodes ∧
    (outdupGraph (foldGraph g)).inputs = g.inputs := by
  refine ⟨by rw [outdupGraph_output_names, foldGraph_outputs], ?_, ?_, ?_⟩
  · cases g
    simp only [foldGraph, outdupGraph, GraphP.initializers, List.map_map]
    apply List.map_congr_left
    intro t _
    exact foldTensor_name t
  · cases g
    simp only [foldGraph, outdupGraph, GraphP.nodes, nodeOutNames_outdupNodes, nodeOutNames_foldNodes]
  · cases g; rfl

theorem model_rt9D (m : ModelP) (h : wfModel9D m = true) :
    ∃ x, desModel m = .ok x ∧ serModel x = .ok (normModel9D m) := by
  simp only [wfModel9D, Bool.and_eq_true, Bool.or_eq_true, decide_eq_true_eq] at h
  obtain ⟨h9, hplain⟩ := h
  obtain ⟨x, h1, h2⟩ := model_rt9 (canonDModel m) h9
  refine ⟨x, ?_, h2⟩
  rw [← h1]
  have h9' := h9
  simp only [wfModel9, Bool.and_eq_true, canonDModel, mergeModel] at h9'
  obtain ⟨⟨⟨⟨⟨hg, hf⟩, _⟩, _⟩, _⟩, _⟩ := h9'
  obtain ⟨f1, f2, f3, _⟩ := outdup_fold_fields m.graph
  unfold canonDModel
  rw [desModel_merge' (outdupModel (foldModel m)) hg hf (by
        rcases hplain with h10 | hp
        · exact Or.inl h10
        · right
          intro n hn hd
          simp only [outdupModel, foldModel] at hn hd
          rw [f1] at hn
          rw [f2, f3] at hd
          obtain ⟨vo, hvo, rfl⟩ := List.mem_map.1 hn
          have := List.all_eq_true.1 hp.2 vo hvo
          have hc : (m.graph.initializers.map (·.name) ++ nodeOutNames m.graph.nodes).contains vo.name = true := by
            simpa using hd
          rw [hc] at this
          simpa using this),
    desModel_outdup' (foldModel m) hg hf]
  symm
  apply desModel_fold
  rcases hplain with h10 | hp
  · exact Or.inl h10
  · exact Or.inr hp.1

/-- `wfModelD` implies `wfModel9D`, with the same canonical form -/
theorem wfModel9D_of_wfD (m : ModelP) (h : wfModelD m = true) :
    wfModel9D m = true ∧ normModel9D m = normModelD m := by
  obtain ⟨h1, h2⟩ := wfModel9_of_wf (canonDModel m) h
  refine ⟨?_, h2⟩
  simp only [wfModel9D, h1, Bool.true_and, Bool.or_eq_true, decide_eq_true_eq, Bool.and_eq_true]
  by_cases hc : m.irVersion ≥ 10
  · exact Or.inl hc
  right
  have hw := h
  simp only [wfModelD, wfModel, Bool.and_eq_true, Bool.or_eq_true, decide_eq_true_eq] at hw
  have hexp := hw.2
  have hir : (canonDModel m).irVersion = m.irVersion := rfl
  rw [hir] at hexp
  have hall := hexp.resolve_left hc
  obtain ⟨f1, f2, f3, f4⟩ := outdup_fold_fields m.graph
  obtain ⟨e1, e2, e3, _⟩ := mergeGraph_fields (outdupGraph (foldGraph m.graph))
  have hscope : ∀ n ∈ scopeNames (m.graph.inputs.map (·.name)) (m.graph.initializers.map (·.name))
      (nodeOutNames m.graph.nodes), parseExperimentalName n = none := by
    intro n hn
    have : (canonDModel m).graph = mergeGraph (outdupGraph (foldGraph m.graph)) := rfl
    rw [this, e1, e2, e3, f4, f2, f3] at hall
    have := List.all_eq_true.1 hall n hn
    simpa using this
  constructor
  · simp only [inputsPlain, List.all_eq_true]
    intro vi hvi
    have := hscope vi.name (mem_scopeNames.2 (Or.inl (List.mem_map_of_mem hvi)))
    simp [this]
  · simp only [outputsPlain, List.all_eq_true, Bool.or_eq_true, Bool.not_eq_true']
    intro vo _
    by_cases hd : vo.name ∈ m.graph.initializers.map (·.name) ++ nodeOutNames m.graph.nodes
    · right
      simp [hscope _ (mem_scopeNames_of_declared hd)]
    · left
      simpa using hd

end IrVerif.Serde
