/-
C09 on top of C07, several data files: the serial image of EVERY planned configuration (`planSingle` and
`planSharded`, Model/WriterPlan.lean) is C07's file model of the whole save,
`Layout.dataFiles (tensors' bytes) maxShard al athr none` = one `Layout.serialImage (Layout.writesOf ..)` per
shard of `Layout.shardRaw` — so `C07_roundtrip` / `C07_readback` speak about every shard file the concurrent
writer leaves.
-/
import IrVerif.Lemmas.WriterLayoutSerial
namespace IrVerif.WriterN

/-! ### the shard loop -/

def setShards (al : Option Nat) (athr : Nat) : List (List Nat) → Nat → List (List TSpec) → List (List Nat)
  | fs, _, [] => fs
  | fs, j, sh :: rest =>
    setShards al athr
      (fs.set j (Layout.applyWrites (fs.getD j []) (Layout.writesOf al athr (sh.map (·.data))))) (j + 1) rest

theorem applyT_planShards (al : Option Nat) (athr : Nat) (S wps : Nat) :
    ∀ (shards : List (List TSpec)) (j st np nj : Nat) (fs : List (List Nat)), j + shards.length ≤ fs.length →
      applyT fs (planShards al athr S wps j st np nj shards).tensors = setShards al athr fs j shards
  | [], _, _, _, _, fs, _ => by simp [planShards, applyT, setShards]
  | sh :: rest, j, st, np, nj, fs, h => by
      rw [ps_tensors, applyT_append, applyT_placeFile al athr j _ sh fs (by simp at h; omega)]
      simp only [setShards]
      exact applyT_planShards al athr S wps rest _ _ _ _ _ (by simp at h ⊢; omega)

theorem setShards_empty (al : Option Nat) (athr : Nat) :
    ∀ (shards : List (List TSpec)) (pre : List (List Nat)),
      setShards al athr (pre ++ List.replicate shards.length []) pre.length shards =
        pre ++ shards.map fun sh => Layout.serialImage (Layout.writesOf al athr (sh.map (·.data)))
  | [], pre => by simp [setShards]
  | sh :: rest, pre => by
      simp only [setShards, List.length_cons, List.replicate_succ, List.map_cons]
      have h1 : (pre ++ ([] : List Nat) :: List.replicate rest.length []).getD pre.length [] = [] := by
        simp [List.getD_eq_getElem?_getD]
      have h2 : (pre ++ ([] : List Nat) :: List.replicate rest.length []).set pre.length
          (Layout.serialImage (Layout.writesOf al athr (sh.map (·.data)))) =
          (pre ++ [Layout.serialImage (Layout.writesOf al athr (sh.map (·.data)))]) ++
            List.replicate rest.length [] := by
        simp
      rw [h1, show Layout.applyWrites [] (Layout.writesOf al athr (sh.map (·.data))) =
        Layout.serialImage (Layout.writesOf al athr (sh.map (·.data))) from rfl, h2]
      have ih := setShards_empty al athr rest
        (pre ++ [Layout.serialImage (Layout.writesOf al athr (sh.map (·.data)))])
      simp only [List.length_append, List.length_singleton] at ih
      rw [ih]; simp

/-- **the serial image of the planned sharded configuration: one C07 serial image per shard** -/
theorem planSharded_serial_eq_C07 (ts : List TSpec) (shards : List (List TSpec)) (al : Option Nat)
    (athr workers capacity : Nat) :
    serialFiles (cfgEmpty (planSharded ts shards al athr workers capacity)) =
      shards.map fun sh => Layout.serialImage (Layout.writesOf al athr (sh.map (·.data))) := by
  rw [serialFiles_eq_applyT]
  have hf : (cfgEmpty (planSharded ts shards al athr workers capacity)).files =
      [] ++ List.replicate shards.length [] := by
    simp only [cfgEmpty, planSharded, List.nil_append]
    rw [List.map_const', planShards_files_length]
  have ht : (cfgEmpty (planSharded ts shards al athr workers capacity)).tensors =
      (planShards al athr shards.length
        (max 1 ((workers - min workers shards.length) / min workers shards.length)) 0 0 0 0 shards).tensors := rfl
  rw [ht, hf, applyT_planShards _ _ _ _ shards 0 0 0 0 _ (by simp)]
  have := setShards_empty al athr shards []
  simpa using this

/-! ### the shards of the tensors and the shards of their bytes -/

theorem byteShards_eq (ts : List TSpec) (maxShard al : Option Nat) (athr : Nat) :
    Layout.byteShards (ts.map (·.data)) maxShard al athr =
      (shardsOf ts maxShard al athr).map (List.map (·.data)) := by
  cases maxShard with
  | none => simp [Layout.byteShards, shardsOf]
  | some m =>
      simp only [Layout.byteShards, shardsOf, Layout.shardRaw]
      have := Layout.shardRawGo_mapf TSpec.nbytes List.length (·.data) (fun _ => rfl) m al athr [] 0 ts
      simpa using this.symm

theorem shardsOf_flatten (ts : List TSpec) (maxShard al : Option Nat) (athr : Nat) :
    (shardsOf ts maxShard al athr).flatten = ts := by
  cases maxShard with
  | none => simp [shardsOf]
  | some m => exact Layout.shardRaw_flatten TSpec.nbytes m al athr ts

theorem shardsOf_single {ts : List TSpec} {maxShard al : Option Nat} {athr : Nat}
    (h1 : (shardsOf ts maxShard al athr).length ≤ 1) : shardsOf ts maxShard al athr = [ts] := by
  have hfl := shardsOf_flatten ts maxShard al athr
  have hne : shardsOf ts maxShard al athr ≠ [] := by
    cases maxShard with
    | none => simp [shardsOf]
    | some m => exact Layout.shardRawGo_ne_nil TSpec.nbytes m al athr ts [] 0
  match hs : shardsOf ts maxShard al athr, hne, h1 with
  | [sh], _, _ => rw [hs] at hfl; simp at hfl; rw [hfl]
  | _ :: _ :: _, _, h => simp at h

/-- **the serial image of every planned configuration: one C07 serial image per shard of `shardsOf`**
    (C07's `dataFiles` of the save, by `dataFiles_eq_shards`) -/
theorem planCfg_serial_eq_C07 {ts : List TSpec} {maxShard al : Option Nat} {athr workers capacity : Nat}
    {cfg : Cfg} (h : planCfg ts maxShard al athr workers capacity = some cfg) :
    serialFiles (cfgEmpty cfg) =
      (shardsOf ts maxShard al athr).map fun sh => Layout.serialImage (Layout.writesOf al athr (sh.map (·.data))) := by
  rcases planCfg_cases h with ⟨h1, _, _, rfl⟩ | ⟨_, _, rfl⟩
  · rw [planSingle_serial_eq_C07, shardsOf_single h1]; rfl
  · exact planSharded_serial_eq_C07 ts _ al athr workers capacity

theorem dataFiles_eq_shards (ts : List TSpec) (maxShard al : Option Nat) (athr : Nat) :
    Layout.dataFiles (ts.map (·.data)) maxShard al athr none =
      (shardsOf ts maxShard al athr).map fun sh => Layout.serialImage (Layout.writesOf al athr (sh.map (·.data))) := by
  rw [Layout.dataFiles_serial, byteShards_eq, List.map_map]; rfl

end IrVerif.WriterN
