/-
C15 part B+: the induction over the traversal under the scoping rule, for an arbitrary name generator (`runTrX gen`;
the default generator is the instance `simpleGen`, `Lemmas/NamesModel.lean`).  The visibility hypothesis of the naming
step (`VisH`, the list form of `VisAt`) is derived from `scopedB` of the part of the tree that is still to be walked
(`Fut`; `Pend`: the graphs entered later).
-/
import IrVerif.Lemmas.NamesGenStep
namespace IrVerif.Names

variable {gen : NameGen}

abbrev FrameX (st st' : FixStX) : Prop := Frame st.toFixSt st'.toFixSt

theorem PVG.frame {c : Cfg} {st st' : FixStX} {v : Nat} (h : PVG c st v st') : FrameX st st' := by
  refine ⟨?_, fun u hu => (h.seen_iff u).mpr (Or.inl hu)⟩
  intro u hu
  by_cases huv : u = v
  · subst huv; rw [h.noop hu]
  · exact h.others u huv

theorem PVG.tail {c : Cfg} {st st' : FixStX} {v : Nat} (h : PVG c st v st') : st'.vstack.tail = st.vstack.tail := by
  by_cases hv : v ∈ st.seen
  · rw [h.noop hv]
  · obtain ⟨n, _, _, _, e, _⟩ := h.fresh hv
    rw [e]; rfl

/-- the visibility hypothesis for a list of values about to be processed: every already-seen initializer of the
graph of a not yet seen value of the list is visible -/
def VisH (c : Cfg) (vs S V : List Nat) : Prop :=
  ∀ v ∈ vs, v ∉ S → ∀ g u, c.io v = some g → c.io u = some g → u ∈ S → u ∈ V

theorem VisH.ext {c : Cfg} {vs vs' S V : List Nat} (E : List Nat) (h : VisH c vs S V) (hs : ∀ v ∈ vs', v ∈ vs) :
    VisH c vs' (S ++ E) (V ++ E) := by
  intro v hv hnS g u h1 h2 hu
  simp only [List.mem_append, not_or] at hnS hu ⊢
  rcases hu with hu | hu
  · exact Or.inl (h v (hs v hv) hnS.1 g u h1 h2 hu)
  · exact Or.inr hu

theorem processValueX_Good (hgen : gen.NonEmpty) {c : Cfg} (hc : c.OK) {st : FixStX} (inv : TInvG c st) {V : List Nat}
    (good : GoodX c st V) {v : Nat} (hC : c.C v) (hsc : v ∈ st.seen → v ∈ V) (hvis : VisAt c st V v) :
    GoodX c (processValueX gen st v) (V ++ [v]) :=
  have pv := processValueX_PVG hgen hc inv good hC hvis
  Good.step hc good hC hsc inv.j1 (inv.unseen v) pv.seen_iff pv.others
    (fun h => congrArg FixStX.toFixSt (pv.noop h)) pv.fresh

/-- `Lvl` for a state with tensors and the invariant `TInvG` -/
structure LvlX (c : Cfg) (st st' : FixStX) (V' : List Nat) (S' : List Nat) : Prop where
  inv : TInvG c st'
  good : GoodX c st' V'
  seenEq : ∀ x, x ∈ st'.seen ↔ x ∈ S'
  frame : FrameX st st'

theorem processValuesX_Lvl (hgen : gen.NonEmpty) {c : Cfg} (hc : c.OK) : ∀ (vs : List Nat) {st : FixStX} {V S : List Nat},
    TInvG c st → GoodX c st V → (∀ x, x ∈ st.seen ↔ x ∈ S) → (∀ v ∈ vs, c.C v) →
    (∀ v ∈ vs, v ∈ S → v ∈ V) → VisH c vs S V →
    LvlX c st (processValuesX gen st vs) (V ++ vs) (S ++ vs) ∧ (processValuesX gen st vs).vstack.tail = st.vstack.tail
  | [], st, V, S, inv, good, hS, _, _, _ => by
    simp only [processValuesX, List.foldl_nil, List.append_nil]
    exact ⟨⟨inv, good, hS, Frame.refl _⟩, trivial⟩
  | v :: vs, st, V, S, inv, good, hS, hC, hsc, hvis => by
    have hva : VisAt c st V v := fun hv g u h1 h2 hus =>
      hvis v List.mem_cons_self (fun h => hv ((hS v).mpr h)) g u h1 h2 ((hS u).mp hus)
    have pv := processValueX_PVG hgen hc inv good (hC v List.mem_cons_self) hva
    have g1 := processValueX_Good hgen hc inv good (hC v List.mem_cons_self)
      (fun h => hsc v List.mem_cons_self ((hS v).mp h)) hva
    have hS1 : ∀ x, x ∈ (processValueX gen st v).seen ↔ x ∈ S ++ [v] := by
      intro x; rw [pv.seen_iff x, hS x]; simp
    have ih := processValuesX_Lvl hgen hc vs pv.inv g1 hS1 (fun u hu => hC u (List.mem_cons_of_mem _ hu))
      (fun u hu h => by
        simp only [List.mem_append, List.mem_singleton] at h ⊢
        rcases h with h | h
        · exact Or.inl (hsc u (List.mem_cons_of_mem _ hu) h)
        · exact Or.inr h)
      (hvis.ext [v] (fun u hu => List.mem_cons_of_mem _ hu))
    rw [processValuesX_cons]
    refine ⟨⟨ih.1.inv, ?_, ?_, pv.frame.trans ih.1.frame⟩, ih.2.trans pv.tail⟩
    · simpa [List.append_assoc] using ih.1.good
    · simpa [List.append_assoc] using ih.1.seenEq


/-- two states that agree on everything values are concerned with -/
structure VEqX (st st' : FixStX) : Prop where
  vname : st'.vname = st.vname
  initOf : st'.initOf = st.initOf
  dicts : st'.dicts = st.dicts
  seen : st'.seen = st.seen
  vcnt : st'.vcnt = st.vcnt
  resV : st'.resV = st.resV
  raised : st'.raised = st.raised
  frozen : st'.frozen = st.frozen
  constOf : st'.constOf = st.constOf

theorem VEqX.of_nodeSide (st : FixStX) (vs ns : List (List String)) (nc : String → Nat) (nn : Nat → Option String)
    (m : Bool) (gl : List (Bool × Nat)) :
    VEqX st { st with vstack := vs, nstack := ns, ncnt := nc, nname := nn, modified := m, glog := gl } :=
  ⟨rfl, rfl, rfl, rfl, rfl, rfl, rfl, rfl, rfl⟩

theorem VEqX.trans {a b c : FixStX} (h1 : VEqX a b) (h2 : VEqX b c) : VEqX a c :=
  ⟨h2.vname.trans h1.vname, h2.initOf.trans h1.initOf, h2.dicts.trans h1.dicts, h2.seen.trans h1.seen,
   h2.vcnt.trans h1.vcnt, h2.resV.trans h1.resV, h2.raised.trans h1.raised, h2.frozen.trans h1.frozen, h2.constOf.trans h1.constOf⟩

theorem TInvG.of_VEqX {c : Cfg} {st st' : FixStX} (h : TInvG c st) (e : VEqX st st') : TInvG c st' :=
  ⟨e.raised ▸ h.nr, h.ok.of_eq e.vname e.initOf e.dicts, e.initOf ▸ h.io, e.resV ▸ h.res,
   fun u => by rw [e.vname]; exact h.j1 u, fun u hu => by rw [e.vname]; exact h.unseen u (e.seen ▸ hu),
   fun u hu => by rw [e.vname]; exact h.outside u hu, fun v t => by rw [e.frozen, e.constOf]; exact h.nofz v t⟩

theorem VEqX.toVEq {st st' : FixStX} (e : VEqX st st') : VEq st.toFixSt st'.toFixSt :=
  ⟨e.vname, e.initOf, e.dicts, e.seen, e.vcnt, e.resV, e.raised⟩

theorem fixNodeNameX_VEq {st : FixStX} (n : Nat) :
    VEqX st (fixNodeNameX gen st n) ∧ (fixNodeNameX gen st n).vstack = st.vstack := by
  rcases fixNodeNameX_cases gen st n with e | ⟨s, e⟩ | e <;> rw [e] <;>
    exact ⟨VEqX.of_nodeSide .., rfl⟩

def pushScopeX (st : FixStX) : FixStX :=
  { st with vstack := topOf st.vstack :: st.vstack, nstack := [] :: st.nstack }

theorem enterGraphX_eq {st : FixStX} (h : st.raised = false) (g : Nat) (isG : Bool) (ins outs bouts : List Nat) :
    enterGraphX gen st g isG ins outs bouts =
      processValuesX gen (processValuesX gen (processValuesX gen (processValuesX gen (pushScopeX st) ins) outs)
        (if isG = true then ((processValuesX gen (processValuesX gen (pushScopeX st) ins) outs).dicts g).map (·.2)
         else [])) bouts := by
  unfold enterGraphX
  rw [if_neg (by simp [h])]
  cases isG <;> simp [processValuesX, pushScopeX]

theorem enterGraphX_Lvl (hgen : gen.NonEmpty) {c : Cfg} (hc : c.OK) (iv : Nat → List Nat) (hiv : ∀ g u, u ∈ iv g ↔ c.io u = some g)
    {st : FixStX} {V S : List Nat} (inv : TInvG c st) (good : GoodX c st V) (hS : ∀ x, x ∈ st.seen ↔ x ∈ S)
    (g : Nat) (isG : Bool) (ins outs bouts : List Nat)
    (hC1 : ∀ v ∈ ins ++ outs ++ bouts, c.C v) (hC2 : isG = true → ∀ u, c.io u = some g → c.C u)
    (hsc : ∀ v ∈ gvals iv g isG ins outs bouts, v ∈ S → v ∈ V) (hvis : VisH c (gvals iv g isG ins outs bouts) S V) :
    LvlX c st (enterGraphX gen st g isG ins outs bouts) (V ++ gvals iv g isG ins outs bouts) (S ++ gvals iv g isG ins outs bouts)
    ∧ (enterGraphX gen st g isG ins outs bouts).vstack.tail = st.vstack := by
  rw [enterGraphX_eq inv.nr]
  generalize hst0 : pushScopeX st = st0
  have e0 : VEqX st st0 := by subst hst0; exact VEqX.of_nodeSide ..
  have etop : topOf st0.vstack = topOf st.vstack := by subst hst0; rfl
  have etail : st0.vstack.tail = st.vstack := by subst hst0; rfl
  have inv0 : TInvG c st0 := inv.of_VEqX e0
  have good0 : GoodX c st0 V := good.of_VEq e0.toVEq etop
  have hS0 : ∀ x, x ∈ st0.seen ↔ x ∈ S := by rw [e0.seen]; exact hS
  have hg := mem_gvals iv g isG ins outs bouts
  obtain ⟨l1, t1⟩ := processValuesX_Lvl hgen hc ins inv0 good0 hS0
    (fun v hv => hC1 v (List.mem_append_left _ (List.mem_append_left _ hv)))
    (fun v hv h => hsc v ((hg v).mpr (Or.inl hv)) h)
    (fun v hv => hvis v ((hg v).mpr (Or.inl hv)))
  obtain ⟨l2, t2⟩ := processValuesX_Lvl hgen hc outs l1.inv l1.good l1.seenEq
    (fun v hv => hC1 v (List.mem_append_left _ (List.mem_append_right _ hv)))
    (fun v hv h => by
      simp only [List.mem_append] at h ⊢
      exact h.elim (fun h => Or.inl (hsc v ((hg v).mpr (Or.inr (Or.inl hv))) h)) Or.inr)
    (hvis.ext ins (fun v hv => (hg v).mpr (Or.inr (Or.inl hv))))
  -- the initializers: a snapshot of the dictionary read now
  have hX : ∀ x, x ∈ (if isG = true then ((processValuesX gen (processValuesX gen st0 ins) outs).dicts g).map (·.2) else [])
      ↔ (isG = true ∧ x ∈ iv g) := by
    intro x
    cases isG with
    | false => simp
    | true => simp only [if_true, true_and]; rw [l2.inv.ok.mem_iff g x, hiv g x, l2.inv.io]
  generalize (if isG = true then ((processValuesX gen (processValuesX gen st0 ins) outs).dicts g).map (·.2) else []) = X
    at hX ⊢
  obtain ⟨l3, t3⟩ := processValuesX_Lvl hgen hc X l2.inv l2.good l2.seenEq
    (fun v hv => hC2 ((hX v).mp hv).1 v ((hiv g v).mp ((hX v).mp hv).2))
    (fun v hv h => by
      simp only [List.mem_append] at h ⊢
      rcases h with (h | h) | h
      · exact Or.inl (Or.inl (hsc v ((hg v).mpr (Or.inr (Or.inr (Or.inl ((hX v).mp hv))))) h))
      · exact Or.inl (Or.inr h)
      · exact Or.inr h)
    (by
      have := hvis.ext (ins ++ outs) (vs' := X) (fun v hv => (hg v).mpr (Or.inr (Or.inr (Or.inl ((hX v).mp hv)))))
      simpa [List.append_assoc] using this)
  -- the outputs of the graph's own nodes
  obtain ⟨l4, t4⟩ := processValuesX_Lvl hgen hc bouts l3.inv l3.good l3.seenEq
    (fun v hv => hC1 v (List.mem_append_right _ hv))
    (fun v hv h => by
      simp only [List.mem_append] at h ⊢
      rcases h with ((h | h) | h) | h
      · exact Or.inl (Or.inl (Or.inl (hsc v ((hg v).mpr (Or.inr (Or.inr (Or.inr hv)))) h)))
      · exact Or.inl (Or.inl (Or.inr h))
      · exact Or.inl (Or.inr h)
      · exact Or.inr h)
    (by
      have := hvis.ext (ins ++ outs ++ X) (vs' := bouts) (fun v hv => (hg v).mpr (Or.inr (Or.inr (Or.inr hv))))
      simpa [List.append_assoc] using this)
  have hY : ∀ x, x ∈ X ↔ x ∈ (if isG = true then iv g else []) := by
    intro x; rw [hX x]; cases isG <;> simp
  have hlist : V ++ gvals iv g isG ins outs bouts = (V ++ ins ++ outs) ++ (if isG = true then iv g else []) ++ bouts := by
    simp [gvals, List.append_assoc]
  refine ⟨⟨l4.inv, l4.good.congr ?_ ?_, ?_, (Frame.of_VEq e0.toVEq).trans (l1.frame.trans (l2.frame.trans (l3.frame.trans l4.frame)))⟩, ?_⟩
  · intro x; simp only [List.mem_append, hg x, hX x, or_assoc]
  · -- the initializers were visited in dictionary order at that moment; different initializers of one graph
    -- had different names, so their relative order does not matter
    intro x _ u hu
    rw [hlist]
    rcases before_seg hY hu with h | ⟨h1, h2, h3⟩
    · exact Or.inl h
    · exact Or.inr (fun e => h3 (hc.inj g u x ((hiv g u).mp ((hX u).mp h1).2) ((hiv g x).mp ((hX x).mp h2).2) e))
  · intro x; rw [l4.seenEq x]; simp only [List.mem_append, hg x, hX x, or_assoc]
  · rw [t4, t3, t2, t1, etail]

theorem exitGraphX_eq {st : FixStX} (h : st.raised = false) :
    exitGraphX st = { st with vstack := st.vstack.tail, nstack := st.nstack.tail } := by
  unfold exitGraphX
  rw [if_neg (by simp [h])]

theorem exitGraphX_VEq {st : FixStX} (h : st.raised = false) :
    VEqX st (exitGraphX st) ∧ (exitGraphX st).vstack = st.vstack.tail := by
  rw [exitGraphX_eq h]
  exact ⟨VEqX.of_nodeSide .., rfl⟩


/-- what the induction knows about the part of the tree that is walked *after* `t`: `Pend g` = the graph `g` is
entered later; `vis` = an initializer of a pending graph that has been seen by the end of `t` is visible then;
`cov` = the graph of every initializer not yet seen is under `t` or pending -/
structure Fut (c : Cfg) (iv : Nat → List Nat) (t : Tr) (S V : List Nat) (Pend : Nat → Prop) : Prop where
  vis : ∀ g, Pend g → ∀ u, c.io u = some g → u ∈ seenAfter iv t S → u ∈ bodyVis t V
  cov : ∀ v, c.C v → v ∉ S → ∀ g, c.io v = some g → g ∈ graphsOf t ∨ Pend g

/-- the visibility hypothesis of the naming step, from the scoping rule of what is still to be walked -/
theorem Fut.visH {c : Cfg} {iv : Nat → List Nat} (hiv : ∀ g u, u ∈ iv g ↔ c.io u = some g) {t : Tr} {S V : List Nat}
    {Pend : Nat → Prop} (f : Fut c iv t S V Pend) (hsc : scopedB iv t S V = true) (vs : List Nat) (hC : ∀ v ∈ vs, c.C v) :
    VisH c vs S V := by
  intro v hv hnS g u h1 h2 hu
  rcases f.cov v (hC v hv) hnS g h1 with hg | hg
  · exact scoped_graph_vis iv t S V g u hsc hg ((hiv g u).mpr h2) hu
  · exact scoped_vis_back iv t S V u hsc hu (f.vis g hg u h2 (seenAfter_mono iv t S u hu))

/-- **the induction over the traversal** for an arbitrary generator: under the scoping rule every step keeps the
invariant (in particular nothing raises), and every graph that is left satisfies the postcondition on its list of
visible values. -/
theorem runTrX_Lvl (hgen : gen.NonEmpty) {c : Cfg} (hc : c.OK) (iv : Nat → List Nat) (hiv : ∀ g u, u ∈ iv g ↔ c.io u = some g) :
    ∀ (t : Tr) {st : FixStX} {V S : List Nat} {Pend : Nat → Prop}, TInvG c st → GoodX c st V → (∀ x, x ∈ st.seen ↔ x ∈ S) →
      HC c t → scopedB iv t S V = true → Fut c iv t S V Pend →
      LvlX c st (runTrX gen t st) (bodyVis t V) (seenAfter iv t S)
      ∧ (runTrX gen t st).vstack.tail = st.vstack.tail
      ∧ ∀ L ∈ allScopes iv t V, ScopeOKX c (runTrX gen t st) L := by
  intro t
  induction t with
  | nil =>
    intro st V S Pend inv good hS _ _ _
    exact ⟨⟨inv, good, hS, Frame.refl _⟩, rfl, fun L hL => by simp [allScopes] at hL⟩
  | node n ins outs subs rest ihs ihr =>
    intro st V S Pend inv good hS hC hsc0 fut
    obtain ⟨hC1, hCs, hCr⟩ := hC.node
    have hsc := hsc0
    simp only [scopedB, Bool.and_eq_true] at hsc
    obtain ⟨⟨hsc1, hsc2⟩, hsc3⟩ := hsc
    have hvis0 := fut.visH hiv hsc0 (nodeVals ins outs) hC1
    -- what the two recursive calls know about their futures
    have fut1 : Fut c iv subs (S ++ nodeVals ins outs) (V ++ nodeVals ins outs) (fun g => Pend g ∨ g ∈ graphsOf rest) := by
      constructor
      · intro g hg u hu hin
        rcases hg with hg | hg
        · have := fut.vis g hg u hu (by simp only [seenAfter]; exact seenAfter_mono iv rest _ u hin)
          simp only [bodyVis] at this
          exact scoped_vis_back iv rest _ _ u hsc3 hin this
        · exact scoped_graph_vis iv rest _ _ g u hsc3 hg ((hiv g u).mpr hu) hin
      · intro v hCv hnS g hg
        have hnS' : v ∉ S := fun h => hnS (List.mem_append_left _ h)
        rcases fut.cov v hCv hnS' g hg with h | h
        · simp only [graphsOf, List.mem_append] at h
          rcases h with h | h
          · exact Or.inl h
          · exact Or.inr (Or.inr h)
        · exact Or.inr (Or.inl h)
    have fut2 : Fut c iv rest (seenAfter iv subs (S ++ nodeVals ins outs)) (bodyVis subs (V ++ nodeVals ins outs)) Pend := by
      constructor
      · intro g hg u hu hin
        have := fut.vis g hg u hu (by simpa only [seenAfter] using hin)
        simpa only [bodyVis] using this
      · intro v hCv hnS g hg
        have hnS' : v ∉ S := fun h => hnS (seenAfter_mono iv subs _ v (List.mem_append_left _ h))
        rcases fut.cov v hCv hnS' g hg with h | h
        · simp only [graphsOf, List.mem_append] at h
          rcases h with h | h
          · exact absurd (graph_inits_seen iv subs _ g v h ((hiv g v).mpr hg)) hnS
          · exact Or.inl h
        · exact Or.inr h
    simp only [runTrX, visitNodeX, bodyVis, seenAfter, allScopes]
    -- the node's name, then its values
    obtain ⟨e1, ev1⟩ := fixNodeNameX_VEq (gen := gen) (st := st) n
    have inv1 := inv.of_VEqX e1
    have good1 : GoodX c (fixNodeNameX gen st n) V := good.of_VEq e1.toVEq (by rw [ev1])
    have hS1 : ∀ x, x ∈ (fixNodeNameX gen st n).seen ↔ x ∈ S := by rw [e1.seen]; exact hS
    obtain ⟨l2, t2⟩ := processValuesX_Lvl hgen hc (nodeVals ins outs) inv1 good1 hS1 hC1 (visible_of_all hsc1) hvis0
    -- the graphs held by the node, then the following nodes
    obtain ⟨l3, t3, s3⟩ := ihs l2.inv l2.good l2.seenEq hCs hsc2 fut1
    obtain ⟨l4, t4, s4⟩ := ihr l3.inv l3.good l3.seenEq hCr hsc3 fut2
    refine ⟨⟨l4.inv, l4.good, l4.seenEq, (Frame.of_VEq e1.toVEq).trans (l2.frame.trans (l3.frame.trans l4.frame))⟩, ?_, ?_⟩
    · rw [t4, t3, t2, ev1]
    · intro L hL
      rcases List.mem_append.mp hL with hL | hL
      · exact (s3 L hL).frame l4.frame
      · exact s4 L hL
  | graph g isG ins outs body rest ihb ihr =>
    intro st V S Pend inv good hS hC hsc0 fut
    obtain ⟨hC1, hC2, hCb, hCr⟩ := hC.graph
    have hsc := hsc0
    simp only [scopedB, Bool.and_eq_true] at hsc
    obtain ⟨⟨hsc1, hsc2⟩, hsc3⟩ := hsc
    have hCg : ∀ v ∈ gvals iv g isG ins outs (bodyOuts body), c.C v := by
      intro v hv
      rcases gvals_mem hv with h | ⟨hG, h⟩
      · exact hC1 v h
      · exact hC2 hG v ((hiv g v).mp h)
    have hvis0 := fut.visH hiv hsc0 (gvals iv g isG ins outs (bodyOuts body)) hCg
    have hown : ∀ v g', c.io v = some g' → g' ∈ (if isG = true then [g] else []) → v ∈ gvals iv g isG ins outs (bodyOuts body) := by
      intro v g' hv hg'
      cases isG with
      | false => simp at hg'
      | true =>
        simp only [if_true, List.mem_singleton] at hg'
        subst hg'
        exact iv_sub_gvals ((hiv g' v).mpr hv)
    have fut1 : Fut c iv body (S ++ gvals iv g isG ins outs (bodyOuts body)) (V ++ gvals iv g isG ins outs (bodyOuts body))
        (fun g' => Pend g' ∨ g' ∈ graphsOf rest) := by
      constructor
      · intro g' hg u hu hin
        apply bodyVis_mono body _ u
        apply List.mem_append_left
        rcases hg with hg | hg
        · have := fut.vis g' hg u hu (by simp only [seenAfter]; exact seenAfter_mono iv rest _ u hin)
          simp only [bodyVis] at this
          exact scoped_vis_back iv rest _ _ u hsc3 hin this
        · exact scoped_graph_vis iv rest _ _ g' u hsc3 hg ((hiv g' u).mpr hu) hin
      · intro v hCv hnS g' hg
        have hnS' : v ∉ S := fun h => hnS (List.mem_append_left _ h)
        rcases fut.cov v hCv hnS' g' hg with h | h
        · simp only [graphsOf, List.mem_append] at h
          rcases h with h | h | h
          · exact absurd (List.mem_append_right _ (hown v g' hg h)) hnS
          · exact Or.inl h
          · exact Or.inr (Or.inr h)
        · exact Or.inr (Or.inl h)
    have fut2 : Fut c iv rest (seenAfter iv body (S ++ gvals iv g isG ins outs (bodyOuts body))) V Pend := by
      constructor
      · intro g' hg u hu hin
        have := fut.vis g' hg u hu (by simpa only [seenAfter] using hin)
        simpa only [bodyVis] using this
      · intro v hCv hnS g' hg
        have hnS' : v ∉ S := fun h => hnS (seenAfter_mono iv body _ v (List.mem_append_left _ h))
        rcases fut.cov v hCv hnS' g' hg with h | h
        · simp only [graphsOf, List.mem_append] at h
          rcases h with h | h | h
          · exact absurd (seenAfter_mono iv body _ v (List.mem_append_right _ (hown v g' hg h))) hnS
          · exact absurd (graph_inits_seen iv body _ g' v h ((hiv g' v).mpr hg)) hnS
          · exact Or.inl h
        · exact Or.inr h
    simp only [runTrX, bodyVis, seenAfter, allScopes]
    -- entered by `_iterate_subgraphs` ...
    obtain ⟨l1, t1⟩ := enterGraphX_Lvl hgen hc iv hiv inv good hS g isG ins outs (bodyOuts body) hC1 hC2 (visible_of_all hsc1) hvis0
    -- ... and again by the nested iterator: everything is seen already
    obtain ⟨l2, t2⟩ := enterGraphX_Lvl hgen hc iv hiv l1.inv l1.good l1.seenEq g isG ins outs (bodyOuts body) hC1 hC2
      (fun v hv _ => List.mem_append_right _ hv) (fun v hv hn => absurd (List.mem_append_right _ hv) hn)
    have good2 : GoodX c (enterGraphX gen (enterGraphX gen st g isG ins outs (bodyOuts body)) g isG ins outs (bodyOuts body)) (V ++ gvals iv g isG ins outs (bodyOuts body)) :=
      l2.good.congr (fun x => by simp only [List.mem_append]; exact ⟨Or.inl, fun h => h.elim id Or.inr⟩)
        (fun x hx u hu => by rw [before_append_mem _ hx] at hu; exact Or.inl hu)
    have hS2 : ∀ x, x ∈ (enterGraphX gen (enterGraphX gen st g isG ins outs (bodyOuts body)) g isG ins outs (bodyOuts body)).seen ↔ x ∈ S ++ gvals iv g isG ins outs (bodyOuts body) := by
      intro x; rw [l2.seenEq x]; simp only [List.mem_append]; exact ⟨fun h => h.elim id Or.inr, Or.inl⟩
    obtain ⟨l3, t3, s3⟩ := ihb l2.inv good2 hS2 hCb hsc2 fut1
    obtain ⟨e4, ev4⟩ := exitGraphX_VEq l3.inv.nr
    have inv4 := l3.inv.of_VEqX e4
    obtain ⟨e5, ev5⟩ := exitGraphX_VEq inv4.nr
    have inv5 := inv4.of_VEqX e5
    have e35 := e4.trans e5
    have hstk : (exitGraphX (exitGraphX (runTrX gen body (enterGraphX gen (enterGraphX gen st g isG ins outs (bodyOuts body)) g isG ins outs (bodyOuts body))))).vstack = st.vstack := by
      rw [ev5, ev4, t3, t2, t1]
    have fr05 : FrameX st (exitGraphX (exitGraphX (runTrX gen body (enterGraphX gen (enterGraphX gen st g isG ins outs (bodyOuts body)) g isG ins outs (bodyOuts body))))) :=
      l1.frame.trans (l2.frame.trans (l3.frame.trans (Frame.of_VEq e35.toVEq)))
    have good5 : GoodX c (exitGraphX (exitGraphX (runTrX gen body (enterGraphX gen (enterGraphX gen st g isG ins outs (bodyOuts body)) g isG ins outs (bodyOuts body))))) V :=
      good.restore fr05 hstk
    have hS5 : ∀ x, x ∈ (exitGraphX (exitGraphX (runTrX gen body (enterGraphX gen (enterGraphX gen st g isG ins outs (bodyOuts body)) g isG ins outs (bodyOuts body))))).seen
        ↔ x ∈ seenAfter iv body (S ++ gvals iv g isG ins outs (bodyOuts body)) := by
      rw [e35.seen]; exact l3.seenEq
    -- the following sibling graphs
    obtain ⟨l6, t6, s6⟩ := ihr inv5 good5 hS5 hCr hsc3 fut2
    refine ⟨⟨l6.inv, l6.good, l6.seenEq, fr05.trans l6.frame⟩, ?_, ?_⟩
    · rw [t6, hstk]
    · intro L hL
      rcases List.mem_cons.mp hL with rfl | hL
      · exact ((l3.good.toScopeOK).of_VEq e35.toVEq).frame l6.frame
      · rcases List.mem_append.mp hL with hL | hL
        · exact ((s3 L hL).of_VEq e35.toVEq).frame l6.frame
        · exact s6 L hL

end IrVerif.Names
