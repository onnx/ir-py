/-
Lemmas/NestKeeps.lean — a nest (graph / node list / bodies) and its image under a pass: the image is SSA, closed and
scoped in any `D'` into which `f` maps the scope `D` of the original (`f = id` for the passes that delete or move,
`f = σ.app` for those that replace values), and the steps the validity proofs of the passes share.  That the image binds
nothing new (`defs ⊆`) is a hypothesis (C14 proves it for every pass).
-/
import IrVerif.Lemmas.SemSyntax
namespace IrVerif.Sem

def KeepsG (f : VId → VId) (g g' : Graph) : Prop :=
  ∀ D D' : List VId, ssaG g = true → closedG g = true → scopedG D g = true → (∀ v ∈ D, f v ∈ D') →
    ssaG g' = true ∧ closedG g' = true ∧ scopedG D' g' = true

def KeepsNodes (f : VId → VId) (ns ns' : List Node) : Prop :=
  ∀ D D' : List VId, ssaNodes ns = true → closedNodes ns = true → scopedNodes D ns = true → (∀ v ∈ D, f v ∈ D') →
    ssaNodes ns' = true ∧ closedNodes ns' = true ∧ scopedNodes D' ns' = true

def KeepsBodies (f : VId → VId) (bs bs' : List Graph) : Prop :=
  ∀ D D' : List VId, ssaBodies bs = true → closedBodies bs = true → scopedBodies D bs = true → (∀ v ∈ D, f v ∈ D') →
    ssaBodies bs' = true ∧ closedBodies bs' = true ∧ scopedBodies D' bs' = true

theorem KeepsBodies.nil (f : VId → VId) : KeepsBodies f [] [] := fun _ _ _ _ _ _ => ⟨rfl, rfl, rfl⟩

theorem validBodies_cons {D' : List VId} {b b' : Graph} {bs bs' : List Graph} (hs : ssaBodies (b :: bs) = true)
    (gd : ∀ v ∈ defsG b', v ∈ defsG b) (bd : ∀ v ∈ defsBodies bs', v ∈ defsBodies bs)
    (g1 : ssaG b' = true) (g2 : closedG b' = true) (g3 : scopedG D' b' = true)
    (k1 : ssaBodies bs' = true) (k2 : closedBodies bs' = true) (k3 : scopedBodies D' bs' = true) :
    ssaBodies (b' :: bs') = true ∧ closedBodies (b' :: bs') = true ∧ scopedBodies D' (b' :: bs') = true := by
  rw [ssaBodies_cons_iff] at hs
  rw [ssaBodies_cons_iff, closedBodies_cons_iff, scopedBodies_cons_iff]
  exact ⟨⟨⟨g1, fun x hx hx' => hs.1.2 x (gd x hx) (bd x hx')⟩, k1⟩, ⟨g2, k2⟩, ⟨g3, k3⟩⟩

theorem validNodes_keep {f : VId → VId} {D D' : List VId} {op : OpId} {attrs : List (String × AttrData)}
    {ins ins' : List (Option VId)} {outs : List VId} {bodies bodies' : List Graph} {ns ns' : List Node}
    (hs : ssaNodes (.mk op attrs ins outs bodies :: ns) = true)
    (hsc : scopedNodes D (.mk op attrs ins outs bodies :: ns) = true) (hD : ∀ v ∈ D, f v ∈ D')
    (hins : ∀ w ∈ ins'.filterMap id, ∃ v ∈ ins.filterMap id, w = f v)
    (bd : ∀ v ∈ defsBodies bodies', v ∈ defsBodies bodies) (nd : ∀ v ∈ defsNodes ns', v ∈ defsNodes ns)
    (b1 : ssaBodies bodies' = true) (b2 : closedBodies bodies' = true) (b3 : scopedBodies D' bodies' = true)
    (k1 : ssaNodes ns' = true) (k2 : closedNodes ns' = true) (k3 : scopedNodes (D' ++ outs) ns' = true) :
    ssaNodes (.mk op attrs ins' outs bodies' :: ns') = true ∧ closedNodes (.mk op attrs ins' outs bodies' :: ns') = true ∧
      scopedNodes D' (.mk op attrs ins' outs bodies' :: ns') = true := by
  refine ⟨ssaNodes_cons_of_sub hs b1 bd k1 nd, closedNodes_cons_iff.2 ⟨b2, k2⟩,
    scopedNodes_cons_iff.2 ⟨⟨fun w hw => ?_, b3⟩, k3⟩⟩
  obtain ⟨v, hv, rfl⟩ := hins w hw
  exact hD v ((scopedNodes_cons_iff.1 hsc).1.1 v hv)

theorem KeepsBodies.cons {f : VId → VId} {b b' : Graph} {bs bs' : List Graph}
    (gd : ∀ v ∈ defsG b', v ∈ defsG b) (bd : ∀ v ∈ defsBodies bs', v ∈ defsBodies bs)
    (hg : KeepsG f b b') (hb : KeepsBodies f bs bs') : KeepsBodies f (b :: bs) (b' :: bs') := by
  intro D D' hs hc hsc hD
  have hs' := ssaBodies_cons_iff.1 hs
  rw [closedBodies_cons_iff] at hc
  rw [scopedBodies_cons_iff] at hsc
  obtain ⟨g1, g2, g3⟩ := hg D D' hs'.1.1 hc.1 hsc.1 hD
  obtain ⟨k1, k2, k3⟩ := hb D D' hs'.2 hc.2 hsc.2 hD
  exact validBodies_cons hs gd bd g1 g2 g3 k1 k2 k3

theorem KeepsNodes.nil (f : VId → VId) : KeepsNodes f [] [] := fun _ _ _ _ _ _ => ⟨rfl, rfl, rfl⟩

/-- a scope and what is appended to it, mapped part by part -/
theorem maps_append {f : VId → VId} {D D' X X' : List VId} (hD : ∀ v ∈ D, f v ∈ D') (hX : ∀ v ∈ X, f v ∈ X') :
    ∀ v ∈ D ++ X, f v ∈ D' ++ X' := fun v hv =>
  (List.mem_append.1 hv).elim (fun h => List.mem_append_left _ (hD v h)) (fun h => List.mem_append_right _ (hX v h))

theorem KeepsNodes.keep {f : VId → VId} {op : OpId} {attrs : List (String × AttrData)} {ins ins' : List (Option VId)}
    {outs : List VId} {bodies bodies' : List Graph} {ns ns' : List Node}
    (hins : ∀ w ∈ ins'.filterMap id, ∃ v ∈ ins.filterMap id, w = f v) (hf : ∀ v ∈ outs, f v = v)
    (bd : ∀ v ∈ defsBodies bodies', v ∈ defsBodies bodies) (nd : ∀ v ∈ defsNodes ns', v ∈ defsNodes ns)
    (hb : KeepsBodies f bodies bodies') (hn : KeepsNodes f ns ns') :
    KeepsNodes f (.mk op attrs ins outs bodies :: ns) (.mk op attrs ins' outs bodies' :: ns') := by
  intro D D' hs hc hsc hD
  have hs' := ssaNodes_cons_iff.1 hs
  have hsc' := scopedNodes_cons_iff.1 hsc
  rw [closedNodes_cons_iff] at hc
  obtain ⟨b1, b2, b3⟩ := hb D D' hs'.1.1.2 hc.1 hsc'.1.2 hD
  obtain ⟨k1, k2, k3⟩ := hn (D ++ outs) (D' ++ outs) hs'.2 hc.2 hsc'.2 (maps_append hD fun v hv => (hf v hv).symm ▸ hv)
  exact validNodes_keep hs hsc hD hins bd nd b1 b2 b3 k1 k2 k3

/-- `X`: what the node newly reads -/
theorem noFwdNodes_keep {X : VId → Prop} {op : OpId} {attrs : List (String × AttrData)} {ins ins' : List (Option VId)}
    {outs : List VId} {bodies bodies' : List Graph} {ns ns' : List Node}
    (hf : noFwdNodes (.mk op attrs ins outs bodies :: ns) = true)
    (hX : ∀ w, X w → w ∉ defsNodes (.mk op attrs ins outs bodies :: ns))
    (hins : ∀ w ∈ ins'.filterMap id, w ∈ ins.filterMap id ∨ X w)
    (hbr : ∀ w ∈ refsBodies bodies', w ∈ refsBodies bodies ∨ X w)
    (bd : ∀ v ∈ defsBodies bodies', v ∈ defsBodies bodies) (nd : ∀ v ∈ defsNodes ns', v ∈ defsNodes ns)
    (hb : noFwdBodies bodies' = true) (hn : noFwdNodes ns' = true) :
    noFwdNodes (.mk op attrs ins' outs bodies' :: ns') = true := by
  have hd : ∀ v ∈ defsNodes (.mk op attrs ins' outs bodies' :: ns'), v ∈ defsNodes (.mk op attrs ins outs bodies :: ns) :=
    fun v hv => mem_defsNodes_cons.2 ((mem_defsNodes_cons.1 hv).imp (defsN_sub_of_bodies bd v) (nd v))
  rw [noFwdNodes_cons_iff] at hf ⊢
  refine ⟨⟨⟨fun x hx hx' => ?_, fun x hx hx' => ?_⟩, hb⟩, hn⟩
  · rcases hins x hx with h | h
    · exact hf.1.1.1 x h (hd x hx')
    · exact hX x h (hd x hx')
  · have hx'' : x ∈ outs ++ defsNodes ns := by
      rw [List.mem_append] at hx' ⊢
      exact hx'.imp id (nd x)
    rcases hbr x hx with h | h
    · exact hf.1.1.2 x h hx''
    · exact hX x h (mem_defsNodes_cons.2 ((List.mem_append.1 hx'').imp (fun h => mem_defsN.2 (Or.inl h)) id))

theorem ssaG_closedG_append_inits {inputs outputs : List VId} {inits L : List (VId × Tensor)} {nodes nodes' : List Node}
    (hs : ssaG (.mk inputs outputs inits nodes) = true) (hc : closedG (.mk inputs outputs inits nodes) = true)
    (hndL : (L.map Prod.fst).Nodup) (hL : ∀ v ∈ L.map Prod.fst, v ∈ defsNodes nodes ∧ v ∉ defsNodes nodes')
    (hsub : ∀ v ∈ defsNodes nodes', v ∈ defsNodes nodes)
    (hout : ∀ v ∈ outsTop nodes, v ∈ outsTop nodes' ∨ v ∈ L.map Prod.fst)
    (k1 : ssaNodes nodes' = true) (k2 : closedNodes nodes' = true) :
    ssaG (.mk inputs outputs (inits ++ L) nodes') = true ∧ closedG (.mk inputs outputs (inits ++ L) nodes') = true := by
  rw [ssaG_iff] at hs ⊢
  rw [closedG_iff] at hc ⊢
  simp only [List.map_append]
  refine ⟨⟨⟨⟨hs.1.1.1, List.nodup_append.2 ⟨hs.1.1.2, hndL, fun a ha b hb hab =>
    hs.1.2 a (List.mem_append_right _ ha) (hab ▸ (hL b hb).1)⟩⟩, fun x hx hx' => ?_⟩, k1⟩, fun v hv => ?_, k2⟩
  · simp only [List.mem_append] at hx
    rcases hx with hx | hx | hx
    · exact hs.1.2 x (List.mem_append_left _ hx) (hsub x hx')
    · exact hs.1.2 x (List.mem_append_right _ hx) (hsub x hx')
    · exact (hL x hx).2 hx'
  · have := hc.1 v hv
    simp only [List.mem_append] at this ⊢
    rcases this with (h | h) | h
    · exact Or.inl (Or.inl h)
    · exact Or.inl (Or.inr (Or.inl h))
    · exact (hout v h).elim Or.inr (fun h' => Or.inl (Or.inr (Or.inr h')))

theorem ssaG_closedG_sub_inits {inputs outputs : List VId} {inits inits' : List (VId × Tensor)} {nodes nodes' : List Node}
    (hs : ssaG (.mk inputs outputs inits nodes) = true) (hc : closedG (.mk inputs outputs inits nodes) = true)
    (hsub : (inits'.map Prod.fst).Sublist (inits.map Prod.fst))
    (hkeep : ∀ v ∈ outputs, v ∈ inits.map Prod.fst → v ∈ inits'.map Prod.fst)
    (hsubn : ∀ v ∈ defsNodes nodes', v ∈ defsNodes nodes) (hout : ∀ v ∈ outputs, v ∈ outsTop nodes → v ∈ outsTop nodes')
    (k1 : ssaNodes nodes' = true) (k2 : closedNodes nodes' = true) :
    ssaG (.mk inputs outputs inits' nodes') = true ∧ closedG (.mk inputs outputs inits' nodes') = true := by
  rw [ssaG_iff] at hs ⊢
  rw [closedG_iff] at hc ⊢
  refine ⟨⟨⟨⟨hs.1.1.1, hsub.nodup hs.1.1.2⟩, fun x hx hx' => hs.1.2 x ?_ (hsubn x hx')⟩, k1⟩, fun v hv => ?_, k2⟩
  · exact List.mem_append.2 ((List.mem_append.1 hx).imp id (fun h => hsub.subset h))
  · have := hc.1 v hv
    simp only [List.mem_append] at this ⊢
    exact this.imp (Or.imp id (hkeep v hv)) (hout v hv)

end IrVerif.Sem
