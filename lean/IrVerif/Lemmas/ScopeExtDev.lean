/-
The device configurations stored by an extended deserializer run (`Model/ScopeExt.lean`), node by node:
`DevSpecG` (of `ScopeExtRTDefs.lean`) holds of what `deserializeE` / `deserializeME` return.

The induction along the run (`deserE_devX_cases`) carries a stronger, positional predicate `DevXG lo hi s x p g`: every
node of `g` has its creation index below `hi` (what later writes leave alone, by `RunE.devs_lt`; the lower bound `lo`
is carried along and nothing uses it), and its stored configurations are the proto configurations resolved in a scope
stack whose tables are `Named` AND `TableLt` in `s` (the bound makes `Named` monotone along the run).  The same
induction shows that the run keeps `DevsOK` (`Lemmas/ScopeExtInv.lean`).
-/
import IrVerif.Lemmas.ScopeExtCtx
namespace IrVerif.Scope

/-- the tables of a scope stack bind names to allocated values that carry them -/
def ScopesOK (s : Store) (scopes : List Table) : Prop := ∀ t ∈ scopes, Named s t ∧ TableLt s t

theorem ScopesOK.keep {s s' : Store} {scopes : List Table} (h : ScopesOK s scopes) (hle : s.nv ≤ s'.nv)
    (hn : ∀ v, v < s.nv → (s'.vals v).name = (s.vals v).name) : ScopesOK s' scopes :=
  fun t ht => ⟨(h t ht).1.keep (h t ht).2 hn, (h t ht).2.mono hle⟩

theorem ScopeCtx.scopesOK {st : Store} {scopes : List Table} (c : ScopeCtx st scopes) : ScopesOK st scopes :=
  fun t ht => ⟨c.named t ht, c.lt t ht⟩

theorem deserDevR_vals {s : Store} {scopes : List Table} (h : ScopesOK s scopes) (devs : List DevP) :
    ∀ d ∈ devs.map (deserDevR scopes), ∀ sp ∈ d.specs, ∀ v, sp.1 = .val v →
      v < s.nv ∧ ∃ t, t ≠ "" ∧ (s.vals v).name = some t := by
  intro d hd sp hs v hv
  obtain ⟨dp, _, rfl⟩ := List.mem_map.mp hd
  simp only [deserDevR, List.mem_map] at hs
  obtain ⟨sp0, _, rfl⟩ := hs
  obtain ⟨hne, hr⟩ := resolveShard_val hv
  obtain ⟨t, ht, hm⟩ := resolve_mem _ _ _ hr
  exact ⟨(h t ht).2 _ hm, sp0.1, hne, (h t ht).1 _ hm⟩

mutual
/-- `DevSpecG` with the creation indices of the nodes in `[lo, hi)` and bounded scope tables -/
def DevXG (lo hi : Nat) (s : Store) (x : Ext) : GraphE → GraphT → Prop
  | .mk _ _ _ nodes _ _, .mk _ _ _ nodes' _ => DevXNs lo hi s x nodes nodes'
def DevXNs (lo hi : Nat) (s : Store) (x : Ext) : List NodeE → List NodeT → Prop
  | [], [] => True
  | n :: ns, n' :: ns' => DevXN lo hi s x n n' ∧ DevXNs lo hi s x ns ns'
  | _, _ => False
def DevXN (lo hi : Nat) (s : Store) (x : Ext) : NodeE → NodeT → Prop
  | .mk _ _ devs subs, .mk id _ _ _ subs' =>
    (lo ≤ id ∧ id < hi ∧ ∃ scopes : List Table, ScopesOK s scopes ∧ x.devs id = devs.map (deserDevR scopes)) ∧
    DevXGs lo hi s x subs subs'
def DevXGs (lo hi : Nat) (s : Store) (x : Ext) : List GraphE → List GraphT → Prop
  | [], [] => True
  | g :: gs, g' :: gs' => DevXG lo hi s x g g' ∧ DevXGs lo hi s x gs gs'
  | _, _ => False
end

mutual
theorem DevXG.mono {lo hi lo' hi' : Nat} {s s' : Store} {x x' : Ext} (hlo : lo' ≤ lo) (hhi : hi ≤ hi')
    (hle : s.nv ≤ s'.nv) (hn : ∀ v, v < s.nv → (s'.vals v).name = (s.vals v).name)
    (hx : ∀ k, lo ≤ k → k < hi → x'.devs k = x.devs k) :
    ∀ (p : GraphE) (g : GraphT), DevXG lo hi s x p g → DevXG lo' hi' s' x' p g
  | .mk _ _ _ nodes _ _, .mk _ _ _ nodes' _, h => by
    simp only [DevXG] at h ⊢
    exact DevXNs.mono hlo hhi hle hn hx nodes nodes' h
theorem DevXNs.mono {lo hi lo' hi' : Nat} {s s' : Store} {x x' : Ext} (hlo : lo' ≤ lo) (hhi : hi ≤ hi')
    (hle : s.nv ≤ s'.nv) (hn : ∀ v, v < s.nv → (s'.vals v).name = (s.vals v).name)
    (hx : ∀ k, lo ≤ k → k < hi → x'.devs k = x.devs k) :
    ∀ (ns : List NodeE) (nts : List NodeT), DevXNs lo hi s x ns nts → DevXNs lo' hi' s' x' ns nts
  | [], [], _ => by simp only [DevXNs]
  | n :: ns, nt :: nts, h => by
    simp only [DevXNs] at h ⊢
    exact ⟨DevXN.mono hlo hhi hle hn hx n nt h.1, DevXNs.mono hlo hhi hle hn hx ns nts h.2⟩
  | [], _ :: _, h => by simp only [DevXNs] at h
  | _ :: _, [], h => by simp only [DevXNs] at h
theorem DevXN.mono {lo hi lo' hi' : Nat} {s s' : Store} {x x' : Ext} (hlo : lo' ≤ lo) (hhi : hi ≤ hi')
    (hle : s.nv ≤ s'.nv) (hn : ∀ v, v < s.nv → (s'.vals v).name = (s.vals v).name)
    (hx : ∀ k, lo ≤ k → k < hi → x'.devs k = x.devs k) :
    ∀ (n : NodeE) (nt : NodeT), DevXN lo hi s x n nt → DevXN lo' hi' s' x' n nt
  | .mk _ _ devs subs, .mk id _ _ _ subs', h => by
    simp only [DevXN] at h ⊢
    obtain ⟨⟨h1, h2, scopes, hs, hd⟩, h3⟩ := h
    exact ⟨⟨Nat.le_trans hlo h1, Nat.lt_of_lt_of_le h2 hhi, scopes, hs.keep hle hn, by rw [hx id h1 h2]; exact hd⟩,
      DevXGs.mono hlo hhi hle hn hx subs subs' h3⟩
theorem DevXGs.mono {lo hi lo' hi' : Nat} {s s' : Store} {x x' : Ext} (hlo : lo' ≤ lo) (hhi : hi ≤ hi')
    (hle : s.nv ≤ s'.nv) (hn : ∀ v, v < s.nv → (s'.vals v).name = (s.vals v).name)
    (hx : ∀ k, lo ≤ k → k < hi → x'.devs k = x.devs k) :
    ∀ (gs : List GraphE) (gts : List GraphT), DevXGs lo hi s x gs gts → DevXGs lo' hi' s' x' gs gts
  | [], [], _ => by simp only [DevXGs]
  | g :: gs, gt :: gts, h => by
    simp only [DevXGs] at h ⊢
    exact ⟨DevXG.mono hlo hhi hle hn hx g gt h.1, DevXGs.mono hlo hhi hle hn hx gs gts h.2⟩
  | [], _ :: _, h => by simp only [DevXGs] at h
  | _ :: _, [], h => by simp only [DevXGs] at h
end

/-- `mkGraph` only stamps the graph id on the nodes -/
theorem DevXNs_setGraph (lo hi : Nat) (s : Store) (x : Ext) (gid : Nat) :
    ∀ (ns : List NodeE) (nts : List NodeT), DevXNs lo hi s x ns nts →
      DevXNs lo hi s x ns (nts.map (NodeT.setGraph gid))
  | [], [], _ => by simp only [List.map_nil, DevXNs]
  | n :: ns, nt :: nts, h => by
    simp only [DevXNs, List.map_cons] at h ⊢
    refine ⟨?_, DevXNs_setGraph lo hi s x gid ns nts h.2⟩
    obtain ⟨i, g, a, b, c⟩ := nt
    obtain ⟨i', o', d', s'⟩ := n
    simp only [DevXN, NodeT.setGraph] at h ⊢
    exact h.1
  | [], _ :: _, h => by simp only [DevXNs] at h
  | _ :: _, [], h => by simp only [DevXNs] at h

mutual
theorem DevXG.spec {lo hi : Nat} {s : Store} {x : Ext} :
    ∀ (p : GraphE) (g : GraphT), DevXG lo hi s x p g → DevSpecG s x p g
  | .mk _ _ _ nodes _ _, .mk _ _ _ nodes' _, h => by
    simp only [DevXG] at h
    simp only [DevSpecG]
    exact DevXNs.spec nodes nodes' h
theorem DevXNs.spec {lo hi : Nat} {s : Store} {x : Ext} :
    ∀ (ns : List NodeE) (nts : List NodeT), DevXNs lo hi s x ns nts → DevSpecNs s x ns nts
  | [], [], _ => by simp only [DevSpecNs]
  | n :: ns, nt :: nts, h => by
    simp only [DevXNs] at h
    simp only [DevSpecNs]
    exact ⟨DevXN.spec n nt h.1, DevXNs.spec ns nts h.2⟩
  | [], _ :: _, h => by simp only [DevXNs] at h
  | _ :: _, [], h => by simp only [DevXNs] at h
theorem DevXN.spec {lo hi : Nat} {s : Store} {x : Ext} :
    ∀ (n : NodeE) (nt : NodeT), DevXN lo hi s x n nt → DevSpecN s x n nt
  | .mk _ _ devs subs, .mk id _ _ _ subs', h => by
    simp only [DevXN] at h
    simp only [DevSpecN]
    obtain ⟨⟨_, _, scopes, hs, hd⟩, h3⟩ := h
    exact ⟨⟨scopes, fun t ht => (hs t ht).1, hd⟩, DevXGs.spec subs subs' h3⟩
theorem DevXGs.spec {lo hi : Nat} {s : Store} {x : Ext} :
    ∀ (gs : List GraphE) (gts : List GraphT), DevXGs lo hi s x gs gts → DevSpecGs s x gs gts
  | [], [], _ => by simp only [DevSpecGs]
  | g :: gs, gt :: gts, h => by
    simp only [DevXGs] at h
    simp only [DevSpecGs]
    exact ⟨DevXG.spec g gt h.1, DevXGs.spec gs gts h.2⟩
  | [], _ :: _, h => by simp only [DevXGs] at h
  | _ :: _, [], h => by simp only [DevXGs] at h
end

/-- `DevXG` along a run; that the run keeps `DevsOK` rides along to share the walk -/
theorem deserE_devX_cases : DeserECases
    (fun st x outer p st' x' g => ScopeCtx st outer → DevXG st.nn st'.nn st' x' p g ∧ (DevsOK st x → DevsOK st' x'))
    (fun st x top outer _ _ ns st' x' _ nts => ∀ b, NodeCtx st b top outer →
      DevXNs st.nn st'.nn st' x' ns nts ∧ (DevsOK st x → DevsOK st' x'))
    (fun st x top outer _ _ n st' x' _ nt => ∀ b, NodeCtx st b top outer →
      DevXN st.nn st'.nn st' x' n nt ∧ (DevsOK st x → DevsOK st' x'))
    (fun st x scopes gs st' x' gts => ScopeCtx st scopes →
      DevXGs st.nn st'.nn st' x' gs gts ∧ (DevsOK st x → DevsOK st' x')) where
  graph := fun {st x outer inputs inits vinfo nodes outputs quant st1 x1 ins st2 x2 tbl2 iv st3 x3 tbl3 st4 x4 tbl4 ns st5 x5
      outs} r ihN c => by
    obtain ⟨c3, nm13, nn3⟩ := c.body r
    obtain ⟨hx4, dk4⟩ := ihN st.nv c3
    have q5 := (r.core.frame c.fresh c.lt).q5
    obtain ⟨c1, c2, _⟩ := mkGraph_fst_counters st5 ins outs ns iv
    refine ⟨?_, fun hd => ?_⟩
    · rw [mkGraph_snd]
      simp only [DevXG]
      apply DevXNs_setGraph
      refine DevXNs.mono (by rw [nn3]; exact Nat.le_refl _) (by rw [c2, q5.nn_eq]; exact Nat.le_refl _)
        (by rw [c1]; exact q5.nv_le) (fun v hv => ?_) (fun k _ _ => by rw [r.outs_keeps.2]) nodes ns hx4
      rw [mkGraph_cell]
      exact q5.names v hv
    · refine (dk4 (hd.keep r.devs3 c3.le nm13)).keep r.outs_keeps.2 (by rw [c1]; exact q5.nv_le) (fun v hv => ?_)
      rw [mkGraph_cell]
      exact q5.names v hv
  nil := fun _ _ => ⟨by simp only [DevXNs], fun hd => hd⟩
  cons := fun {st x top outer vt qt n ns st1 x1 top1 nt st2 x2 top2 nts} h1 h2 ih1 ih2 b c => by
    obtain ⟨c1, m1, _⟩ := c.tail h1
    obtain ⟨hx1, dk1⟩ := ih1 b c
    obtain ⟨m2, _⟩ := c1.nodes_mono h2
    obtain ⟨hx2, dk2⟩ := ih2 b c1
    have fr2 := (deserNodesE_run h2).run
    refine ⟨?_, fun hd => dk2 (dk1 hd)⟩
    simp only [DevXNs]
    exact ⟨DevXN.mono (Nat.le_refl _) m2.nn_le m2.nv_le m2.names (fun k _ hk => fr2.devs_lt hk) n nt hx1,
      DevXNs.mono m1.nn_le (Nat.le_refl _) (Nat.le_refl _) (fun _ _ => rfl) (fun _ _ _ => rfl) ns nts hx2⟩
  node := fun {st x top outer vt qt inputs outputs devs subs st1 x1 top1 ins st2 outs st3 x3 gs} r ihS b c => by
    obtain ⟨c2, _, nm02, F⟩ := c.subs r
    have nn2 : st2.nn = st.nn := by rw [F.q2.nn_eq, F.q1.nn_eq]
    have m3 := F.m3
    obtain ⟨hx3, dk3⟩ := ihS c2
    have hk := mkNode_keeps st3 ins outs gs
    have hnv : (mkNode st3 ins outs gs).1.nv = st3.nv := mkNode_fst_nv st3 ins outs gs
    have hnn : (mkNode st3 ins outs gs).1.nn = st3.nn + 1 := mkNode_fst_nn st3 ins outs gs
    have le23 : st.nn ≤ st3.nn := by rw [← nn2]; exact m3.nn_le
    have hso : ScopesOK (mkNode st3 ins outs gs).1 (top1 :: outer) :=
      c2.scopesOK.keep (by rw [hnv]; exact m3.nv_le) (fun v hv => by rw [(hk v).1, m3.names v hv])
    refine ⟨?_, fun hd => ?_⟩
    · rw [mkNode_snd]
      simp only [DevXN]
      refine ⟨⟨le23, by rw [hnn]; exact Nat.lt_succ_self _, top1 :: outer, hso, by simp only [Ext.setDevs, if_true]⟩, ?_⟩
      refine DevXGs.mono (by rw [nn2]; exact Nat.le_refl _) (by rw [hnn]; exact Nat.le_succ _)
        (by rw [hnv]; exact Nat.le_refl _) (fun v _ => (hk v).1) (fun k _ hk' => ?_) subs gs hx3
      simp only [Ext.setDevs]
      rw [if_neg (Nat.ne_of_lt hk')]
    · -- the device configurations of this node, and those recorded before
      have hd3 := dk3 (hd.keep r.res_phase.devs (Nat.le_trans F.q1.nv_le F.q2.nv_le) nm02)
      intro nid d hdm s hs v hv
      simp only [Ext.setDevs] at hdm
      split at hdm
      · exact deserDevR_vals hso devs d hdm s hs v hv
      · obtain ⟨hlt, t, ht, hnm⟩ := hd3 nid d hdm s hs v hv
        exact ⟨by rw [hnv]; exact hlt, t, ht, by rw [(hk v).1]; exact hnm⟩
  snil := fun _ => ⟨by simp only [DevXGs], fun hd => hd⟩
  scons := fun {st x scopes g gs st1 x1 gt st2 x2 gts} h1 h2 ih1 ih2 c => by
    obtain ⟨c1, m1⟩ := c.tail h1
    obtain ⟨hx1, dk1⟩ := ih1 c
    have m2 := c1.subs_mono h2
    obtain ⟨hx2, dk2⟩ := ih2 c1
    have fr2 := deserSubsE_run h2
    refine ⟨?_, fun hd => dk2 (dk1 hd)⟩
    simp only [DevXGs]
    exact ⟨DevXG.mono (Nat.le_refl _) m2.nn_le m2.nv_le m2.names (fun k _ hk => fr2.devs_lt hk) g gt hx1,
      DevXGs.mono m1.nn_le (Nat.le_refl _) (Nat.le_refl _) (fun _ _ => rfl) (fun _ _ _ => rfl) gs gts hx2⟩

theorem deserGraphE_devX_top {p : GraphE} {st : Store} {x : Ext} {g : GraphT}
    (hg : deserGraphE {} {} [] p = .ok (st, x, g)) : DevXG 0 st.nn st x p g ∧ DevsOK st x :=
  have r := deserGraphE_ind deserE_devX_cases p hg .empty
  ⟨r.1, r.2 (fun _ _ hd => by simp at hd)⟩

/-- **the device configurations stored by `deserialize_graph`**: node by node (nested graphs included), the
    configurations of the proto node resolved in a scope stack whose tables are `Named` in the final store -/
theorem deserializeE_devSpec (p : GraphE) (w : WorldE) (h : deserializeE p = .ok w) : DevSpecG w.st w.ext p w.root := by
  obtain ⟨st, x, g⟩ := w
  exact (deserGraphE_devX_top (deserializeE_ok h)).1.spec p g

theorem deserFunctionE_devX (f : FuncE) (st : Store) (x : Ext) (st' : Store) (x' : Ext) (g : GraphT)
    (hf : Fresh st) (h : deserFunctionE st x f = .ok (st', x', g)) :
    DevXNs st.nn st'.nn st' x' f.nodes g.nodes ∧ (DevsOK st x → DevsOK st' x') := by
  obtain ⟨st1, x1, ins, st2, x2, tbl2, st3, tbl3, ns, outs, r, rfl, rfl⟩ := deserFunctionE_inv h
  have F := r.core.frame hf
  obtain ⟨_, p1⟩ := r.fins_phase
  have p2 := r.decl_phase
  have nn2 : st2.nn = st.nn := by rw [p2.nn_eq, p1.nn_eq]
  obtain ⟨hx3, dk3⟩ := deserNodesE_ind deserE_devX_cases f.nodes r.nodesE st.nv F.body
  obtain ⟨c1, c2, _⟩ := mkGraph_fst_counters st3 ins outs ns []
  refine ⟨?_, fun hd => ?_⟩
  · rw [mkGraph_snd]
    simp only [GraphT.nodes]
    apply DevXNs_setGraph
    refine DevXNs.mono (by rw [nn2]; exact Nat.le_refl _) (by rw [c2]; exact Nat.le_refl _)
      (by rw [c1]; exact Nat.le_refl _) (fun v _ => ?_) (fun _ _ _ => rfl) f.nodes ns hx3
    rw [mkGraph_cell]
  · have hd2 : DevsOK st2 x2 := hd.keep (by rw [p2.devs, p1.devs]) F.le2
      (fun v hv => by rw [F.q2.names v (Nat.lt_of_lt_of_le hv F.le1), F.keep1 v hv])
    refine (dk3 hd2).keep rfl (by rw [c1]; exact Nat.le_refl _) (fun v _ => ?_)
    rw [mkGraph_cell]

/-- the function dict: every entry is the body of a function of `F` read by this run -/
def FuncsDevX (F : List FuncE) (s : Store) (x : Ext) (d : List (FId × GraphT)) : Prop :=
  ∀ e ∈ d, ∃ f ∈ F, f.id = e.1 ∧ DevXNs 0 s.nn s x f.nodes e.2.nodes

/-- `fs`: what is left to read; `F`: the whole list, into which the entries of the dict point -/
theorem deserFuncsE_devX (F : List FuncE) (fs : List FuncE) (st : Store) (x : Ext) (d : List (FId × GraphT)) (st' : Store)
    (x' : Ext) (d' : List (FId × GraphT)) (hf : Fresh st) (hF : ∀ f ∈ fs, f ∈ F) (hd : FuncsDevX F st x d)
    (h : deserFuncsE st x d fs = .ok (st', x', d')) :
    st.nv ≤ st'.nv ∧ (∀ v, v < st.nv → (st'.vals v).name = (st.vals v).name) ∧
    FuncsDevX F st' x' d' ∧ (DevsOK st x → DevsOK st' x') := by
  refine deserFuncsE_ind (P := fun st x d fs st' x' d' => Fresh st → (∀ f ∈ fs, f ∈ F) → FuncsDevX F st x d →
    st.nv ≤ st'.nv ∧ (∀ v, v < st.nv → (st'.vals v).name = (st.vals v).name) ∧
    FuncsDevX F st' x' d' ∧ (DevsOK st x → DevsOK st' x'))
    (fun _ _ _ _ _ hd => ⟨Nat.le_refl _, fun _ _ => rfl, hd, fun h => h⟩) ?_ fs h hf hF hd
  intro st x d f fs st1 x1 g st' x' d' h1 _ ih hf hF hd
  obtain ⟨f1, le1, nm1⟩ := deserFunctionE_frame hf h1
  obtain ⟨hx1, dk1⟩ := deserFunctionE_devX f st x st1 x1 g hf h1
  have r1 := deserFunctionE_run h1
  have hd1 : FuncsDevX F st1 x1 (fdictInsert d f.id g) := by
    intro e he
    rcases kvSet_mem d f.id g e (fdictInsert_eq_kvSet d f.id g ▸ he) with he | rfl
    · obtain ⟨f', hf', hid, hx⟩ := hd e he
      exact ⟨f', hf', hid, DevXNs.mono (Nat.le_refl _) r1.nn_le le1 nm1 (fun k _ hk => r1.devs_lt hk) _ _ hx⟩
    · exact ⟨f, hF f (List.mem_cons_self ..), rfl,
        DevXNs.mono (Nat.zero_le _) (Nat.le_refl _) (Nat.le_refl _) (fun _ _ => rfl) (fun _ _ _ => rfl) _ _ hx1⟩
  obtain ⟨le2, nm2, hd2, dk2⟩ := ih f1 (fun f' hf' => hF f' (List.mem_cons_of_mem _ hf')) hd1
  exact ⟨Nat.le_trans le1 le2, fun v hv => by rw [nm2 v (Nat.lt_of_lt_of_le hv le1), nm1 v hv], hd2,
    fun h => dk2 (dk1 h)⟩

/-- **models with functions**: the device configurations of the main graph (node by node, nested graphs
    included) and of every function body kept in the function dict -/
theorem deserializeME_devSpec (p : ModelE) (w : MWorldE) (h : deserializeME p = .ok w) :
    DevSpecG w.st w.ext p.graph w.root ∧
    ∀ e ∈ w.funcs, ∃ f ∈ p.funcs, f.id = e.1 ∧ DevSpecNs w.st w.ext f.nodes e.2.nodes := by
  obtain ⟨st1, x1, g, fs⟩ := w
  obtain ⟨st, x, hg, hfs⟩ := deserializeME_ok h
  have hx0 := (deserGraphE_devX_top hg).1
  obtain ⟨le1, nm1, hd1, _⟩ := deserFuncsE_devX p.funcs p.funcs st x [] st1 x1 fs (deserGraphE_top_fresh hg) (fun _ hf => hf)
    (fun _ he => by simp at he) hfs
  have r1 := deserFuncsE_run p.funcs hfs
  refine ⟨(DevXG.mono (Nat.le_refl _) r1.nn_le le1 nm1 (fun k _ hk => r1.devs_lt hk) p.graph g hx0).spec p.graph g, ?_⟩
  intro e he
  obtain ⟨f, hf, hid, hx⟩ := hd1 e he
  exact ⟨f, hf, hid, hx.spec _ _⟩

theorem deserNodeE_devsOK :
    ∀ (n : NodeE) (st : Store) (x : Ext) (top : Table) (outer : List Table) (vt : List (Name × Info × SS))
      (qt : List (Name × SS)) (b : Nat) (st' : Store) (x' : Ext) (top' : Table) (nt : NodeT),
      Fresh st → TblOK st b top → TablesLt st outer → b ≤ st.nv → Named st top → (∀ t ∈ outer, Named st t) →
      DevsOK st x → deserNodeE st x top outer vt qt n = .ok (st', x', top', nt) →
      DevsOK st' x' ∧ Named st' top' :=
  fun n _ _ _ _ _ _ b _ _ _ _ hf hok ho hb hn hno hd h =>
    have c : NodeCtx _ b _ _ := ⟨⟨hf, ho, hno⟩, hok, hb, hn⟩
    ⟨(deserNodeE_ind deserE_devX_cases n h b c).2 hd, (c.tail h).1.top_named⟩

theorem deserSubsE_devsOK :
    ∀ (gs : List GraphE) (st : Store) (x : Ext) (scopes : List Table) (st' : Store) (x' : Ext) (gts : List GraphT),
      Fresh st → TablesLt st scopes → (∀ t ∈ scopes, Named st t) → DevsOK st x →
      deserSubsE st x scopes gs = .ok (st', x', gts) → DevsOK st' x' :=
  fun gs _ _ _ _ _ _ hf hs hns hd h =>
    (deserSubsE_ind deserE_devX_cases gs h ⟨hf, hs, hns⟩).2 hd

/-- what the extended deserializer returns: every resolved sharding value is an allocated, named value -/
theorem deserializeE_devsOK (p : GraphE) (w : WorldE) (h : deserializeE p = .ok w) : DevsOK w.st w.ext := by
  obtain ⟨st, x, g⟩ := w
  exact (deserGraphE_devX_top (deserializeE_ok h)).2

/-- models with functions: every resolved sharding value (in the main graph and in the function bodies) is an
    allocated, named value -/
theorem deserializeME_devsOK (p : ModelE) (w : MWorldE) (h : deserializeME p = .ok w) : DevsOK w.st w.ext := by
  obtain ⟨st1, x1, g, fs⟩ := w
  obtain ⟨st, x, hg, hfs⟩ := deserializeME_ok h
  exact (deserFuncsE_devX p.funcs p.funcs st x [] st1 x1 fs (deserGraphE_top_fresh hg) (fun _ hf => hf)
    (fun _ he => by simp at he) hfs).2.2.2 (deserGraphE_devX_top hg).2

end IrVerif.Scope

