/-
Every model WITH FUNCTIONS the extended deserializer returns satisfies `ReloadableME`
(`Lemmas/ScopeExtFuncDefs.lean`) and the certificate of the device configurations `DevCertM`
(`Lemmas/ScopeExtFuncDevDefs.lean`).

* `deser_cert_func`: one function run satisfies the certificates `extF` / `DevCertF` of its body: the tables of
  the certificates are the tables of the run (as in `deser_repl_func`), the node list is certified by
  `deser_cert_cases`, and every input got the metadata of the value_info entry of its name (`NStep` for
  `deserFInputsE`), which the later phases keep (`deserNodesE_run`, `Lemmas/ScopeExtRun.lean`);
* `deser_cert_all_funcs`: the fold over all functions (duplicate identifiers included, as `deser_all_funcs`): the
  names / cells / annotations / metadata of the values and the device configurations of the nodes of a function
  are kept by the later function runs;
* `deserializeME_certs`.
-/
import IrVerif.Lemmas.ScopeExtFuncDefs
import IrVerif.Lemmas.ScopeExtFuncDevDefs
import IrVerif.Lemmas.ScopeExtDeser
import IrVerif.Lemmas.ScopeModelDup
namespace IrVerif.Scope

/-- one function run satisfies the certificate of the extension state and the certificate of the device
    configurations of a function body -/
theorem deser_cert_func (f : FuncE) (st : Store) (x : Ext) (st' : Store) (x' : Ext) (g : GraphT)
    (hf : Fresh st) (h : deserFunctionE st x f = .ok (st', x', g)) :
    ∀ (V : Nat → ValueS) (X : Ext), NamesAgree V st' → (∀ v, st.nv ≤ v → v < st'.nv → CellAgree V st' v) →
      (ExtFresh st x → (∀ d, d < st'.nv → X.quant d = x'.quant d) → (∀ d, d < st'.nv → X.vmeta d = x'.vmeta d) →
        extF V X g) ∧
      ((∀ k, k < st'.nn → X.devs k = x'.devs k) → DevCertF V X g) := by
  intro V X hV hC
  obtain ⟨st1, x1, ins, st2, x2, tbl2, st3, tbl3, ns, outs, r, rfl, rfl⟩ := deserFunctionE_inv h
  have F := r.core.frame hf
  have h3 := r.nodesE
  obtain ⟨c1, c2, _⟩ := mkGraph_fst_counters st3 ins outs ns []
  have hcell := mkGraph_cell st3 ins outs ns []
  rw [c1] at hC
  rw [mkGraph_snd]
  have hV3 : NamesAgree V st3 := fun v hv => by rw [hV v (by rw [c1]; exact hv), hcell]
  obtain ⟨hV2, hV1⟩ := F.agree hV3
  have hC3 : ∀ v, st.nv ≤ v → v < st3.nv → CellAgree V st3 v := fun v h1 h2 => by
    have := hC v h1 h2
    rw [CellAgree, hcell] at this
    exact this
  have T := r.core.tables hf hV3 hC3
  obtain ⟨rN, dN⟩ := deserNodesE_ind deser_cert_cases f.nodes h3 st.nv F.body T.hdecl V X hV3
    (fun v hge hlt _ => hC3 v (Nat.le_trans F.le2 hge) hlt)
  refine ⟨fun hx hXq hXm => ?_, fun hX => ?_⟩
  · rw [c1] at hXq hXm
    obtain ⟨_, p1⟩ := r.fins_phase
    have s1 := p1.nstep hx
    have s2 := r.decl_phase.nstep s1.fresh
    have mm4 := (deserNodesE_run h3).run.mext
    -- the metadata of the inputs: that of the value_info entry of their name
    have hmeta : ∀ a ∈ ins, ∃ n, (V a).name = some n ∧ X.vmeta a = metaOf (vinfoTableE f.vinfo) n := by
      intro a ha
      obtain ⟨hge, hlt1⟩ := F.bins.2 a ha
      obtain ⟨n, k1, k2, _⟩ := s1.new a hge hlt1
      have hlt2 := Nat.lt_of_lt_of_le hlt1 F.q2.nv_le
      exact ⟨n, by rw [hV1 a hlt1, k1], by
        rw [hXm a (Nat.lt_of_lt_of_le hlt2 F.m3.nv_le), mm4.2.1 a hlt2, s2.vmeta a hlt1, k2]⟩
    simp only [extF, flatMap_liveOuts_setGraph, extNs_setGraph, T.decl_tbl]
    refine ⟨fun a ha b hb _ hname => ?_, rN s2.fresh.qfresh hXq⟩
    obtain ⟨na, ka1, ka2⟩ := hmeta a ha
    obtain ⟨nb, kb1, kb2⟩ := hmeta b hb
    rw [ka1, kb1, Option.some.injEq] at hname
    rw [ka2, kb2, hname]
  · rw [c2] at hX
    simp only [DevCertF, flatMap_liveOuts_setGraph, DevCertNs_setGraph, T.decl_tbl]
    exact dN hX

/-- the fold over ALL functions of the proto (the dict keeps a sub-family of their bodies): every body is
    certified with respect to the final store and extension state -/
theorem deser_cert_all_funcs (fps : List FuncE) (st : Store) (x : Ext) (d0 : List (FId × GraphT)) (st' : Store) (x' : Ext)
    (d' : List (FId × GraphT)) (hf : Fresh st) (h : deserFuncsE st x d0 fps = .ok (st', x', d')) :
    ∀ (V : Nat → ValueS) (X : Ext), NamesAgree V st' → (∀ v, st.nv ≤ v → v < st'.nv → CellAgree V st' v) →
      ∃ all, d' = fdictFold d0 all ∧ all.map (·.1) = fps.map (·.id) ∧
        (ExtFresh st x → (∀ d, d < st'.nv → X.quant d = x'.quant d) → (∀ d, d < st'.nv → X.vmeta d = x'.vmeta d) →
          ∀ f ∈ all, extF V X f.2) ∧
        ((∀ k, k < st'.nn → X.devs k = x'.devs k) → ∀ f ∈ all, DevCertF V X f.2) := by
  refine deserFuncsE_ind (P := fun st x d0 fps st' x' d' => Fresh st →
    ∀ (V : Nat → ValueS) (X : Ext), NamesAgree V st' → (∀ v, st.nv ≤ v → v < st'.nv → CellAgree V st' v) →
      ∃ all, d' = fdictFold d0 all ∧ all.map (·.1) = fps.map (·.id) ∧
        (ExtFresh st x → (∀ d, d < st'.nv → X.quant d = x'.quant d) → (∀ d, d < st'.nv → X.vmeta d = x'.vmeta d) →
          ∀ f ∈ all, extF V X f.2) ∧
        ((∀ k, k < st'.nn → X.devs k = x'.devs k) → ∀ f ∈ all, DevCertF V X f.2))
    (fun _ _ _ _ _ _ _ _ => ⟨[], rfl, rfl, by simp, by simp⟩) ?_ fps h hf
  intro st x d0 f fps st1 x1 g st' x' d' h1 h ih hf V X hV hC
  obtain ⟨f1, le1, _⟩ := deserFunctionE_frame hf h1
  have e2 := dropX_ok (deserFuncsE_erase fps st1 x1 (fdictInsert d0 f.id g)) h
  obtain ⟨_, le2, keep2, p2, _⟩ := deser_all_funcs (fps.map FuncE.erase) st1 _ st' d' f1 e2
  have r1 := deserFunctionE_run h1
  have r2 := deserFuncsE_run fps h
  have hV1 : NamesAgree V st1 := fun v hv => by rw [hV v (Nat.lt_of_lt_of_le hv le2), keep2 v hv]
  obtain ⟨a1, b1⟩ := deser_cert_func f st x st1 x1 g hf h1 V X hV1
    (fun v hge hlt => by
      have := hC v hge (Nat.lt_of_lt_of_le hlt le2)
      rw [CellAgree, (p2.cell v hlt).1, (p2.cell v hlt).2] at this
      exact this)
  obtain ⟨all, k1, k2, k3, k4⟩ := ih f1 V X hV (fun v hge hlt => hC v (Nat.le_trans le1 hge) hlt)
  refine ⟨(f.id, g) :: all, by rw [k1]; rfl, by simp [k2], fun hx hXq hXm f' hf' => ?_, fun hX f' hf' => ?_⟩
  · simp only [List.mem_cons] at hf'
    rcases hf' with rfl | hf'
    · exact a1 hx (r2.agree_quant hXq) (r2.agree_vmeta hXm)
    · exact k3 (r1.extFresh hx) hXq hXm f' hf'
  · simp only [List.mem_cons] at hf'
    rcases hf' with rfl | hf'
    · exact b1 (r2.agree_devs hX)
    · exact k4 hX f' hf'

/-- every model with functions the extended deserializer returns satisfies `ReloadableME` and the certificate of
    the device configurations `DevCertM` (no hypothesis on the identifiers of the functions) -/
theorem deserializeME_certs (p : ModelE) (w : MWorldE) (h : deserializeME p = .ok w) : ReloadableME w ∧ DevCertM w := by
  have he := deserializeME_erase p
  rw [h] at he
  simp only at he
  have hR := deserializeM_reloadable_all _ _ he
  have hW := deserializeME_wf p w h
  obtain ⟨st1, x1, g, fs⟩ := w
  obtain ⟨st, x, hg, hfs⟩ := deserializeME_ok h
  have f0 := deserGraphE_top_fresh hg
  have hx0 := (deserGraphE_run hg).extFresh extFresh_empty
  have e2 := dropX_ok (deserFuncsE_erase p.funcs st x []) hfs
  obtain ⟨_, le1, keep1, p1, _⟩ := deser_all_funcs (p.funcs.map FuncE.erase) st [] st1 fs f0 e2
  have rF := deserFuncsE_run p.funcs hfs
  obtain ⟨all, ea, _, eb, ec⟩ := deser_cert_all_funcs p.funcs st x [] st1 x1 fs f0 hfs st1.vals x1 (fun _ _ => rfl)
    (fun _ _ _ => ⟨rfl, rfl⟩)
  obtain ⟨cG, dG⟩ := deserGraphE_cert_top hg st1.vals x1 (fun v hv => keep1 v hv)
    (fun v hlt => ⟨(p1.cell v hlt).1, (p1.cell v hlt).2⟩)
  have hall : ∀ f ∈ fs, ∃ f' ∈ all, f'.2 = f.2 := fun f hf => by
    subst ea
    rcases fdictFold_mem all [] f hf with ⟨f', hf', _⟩ | ⟨f', hf', e⟩
    · simp at hf'
    · exact ⟨f', hf', e⟩
  refine ⟨⟨hR, cG (fun d hd => rF.qext.2.1 d hd), fun f hf => ?_, hW⟩, dG (fun k hk => rF.devs_lt hk),
    fun f hf => ?_⟩
  · obtain ⟨f', hf', e⟩ := hall f hf
    exact e ▸ eb hx0 (fun _ _ => rfl) (fun _ _ => rfl) f' hf'
  · obtain ⟨f', hf', e⟩ := hall f hf
    exact e ▸ ec (fun _ _ => rfl) f' hf'

theorem deserializeME_reloadableME (p : ModelE) (w : MWorldE) (h : deserializeME p = .ok w) : ReloadableME w :=
  (deserializeME_certs p w h).1

theorem deserializeME_devCert (p : ModelE) (w : MWorldE) (h : deserializeME p = .ok w) : DevCertM w :=
  (deserializeME_certs p w h).2

end IrVerif.Scope
