/-
C16: `eval` looks only at the bindings of the free symbols; substitution of bound symbols into an
expression (what a partial `evaluate` does).
-/
import IrVerif.Model.SymExpr
namespace IrVerif.SymExpr

theorem union_empty (b : Env) : Env.union b Env.empty = b := by
  funext s
  simp only [Env.union, Env.empty]
  cases b s <;> rfl

theorem eval_congr (env1 env2 : Env) (e : Expr) (h : ∀ s ∈ free e, env1 s = env2 s) :
    eval env1 e = eval env2 e := by
  induction e with
  | num n => rfl
  | sym s => simp [eval, h s (by simp [free])]
  | inf b => rfl
  | un o a ih => simp [eval, ih (by simpa [free] using h)]
  | bin o a b iha ihb =>
    simp [eval, iha (fun s hs => h s (by simp [free, hs])), ihb (fun s hs => h s (by simp [free, hs]))]

theorem eval_some_bound (env : Env) (e : Expr) (q : Rat) (h : eval env e = some q) :
    ∀ s ∈ free e, env s ≠ none := by
  induction e generalizing q with
  | num n => intro s hs; simp [free] at hs
  | sym x =>
    intro s hs
    simp only [free, List.mem_singleton] at hs
    subst hs
    intro hc
    simp [eval, hc] at h
  | inf b => simp [eval] at h
  | un o a ih =>
    intro s hs
    simp only [eval] at h
    split at h
    · next x ha => exact ih x ha s (by simpa [free] using hs)
    · cases h
  | bin o a b iha ihb =>
    intro s hs
    simp only [eval] at h
    split at h
    · next x y ha hb =>
      rcases List.mem_append.mp hs with hs | hs
      · exact iha x ha s hs
      · exact ihb y hb s hs
    · cases h

theorem eval_subst (b1 b2 : Env) (e : Expr) :
    eval (Env.union b1 b2) e = eval b2 (subst b1 e) := by
  induction e with
  | num n => simp [eval, subst]
  | sym s => cases h : b1 s <;> simp [eval, subst, Env.union, h]
  | inf n => simp [eval, subst]
  | un o a ih => simp [eval, subst, ih]
  | bin o a b iha ihb => simp [eval, subst, iha, ihb]

theorem free_subst (b1 : Env) (e : Expr) (s : String) :
    s ∈ free (subst b1 e) ↔ (s ∈ free e ∧ b1 s = none) := by
  induction e with
  | num n => simp [subst, free]
  | sym x =>
    cases h : b1 x <;> simp [subst, free, h]
    · rintro rfl; exact h
    · rintro rfl; simp [h]
  | inf n => simp [subst, free]
  | un o a ih => simp [subst, free, ih]
  | bin o a b iha ihb =>
    simp only [subst, free, List.mem_append, iha, ihb]
    exact or_and_right.symm

end IrVerif.SymExpr
