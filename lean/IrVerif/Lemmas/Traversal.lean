/-
`Model/Traversal.lean` (the recursive iterator with lazily read, editable attributes): the dict
iterator while it is in step with its dict, stack consistency and its preservation by steps,
`next()` (`tNext` / `tDrain` are the fuel recursions of StackRun at `tStep`) and every edit,
histories.  Runs and frame completion are in TraversalRun.
-/
import IrVerif.Lemmas.LinkedSetTree
import IrVerif.Model.Traversal
namespace IrVerif.LinkedSet

/-! ### the dict iterator while it is in step with its dict -/

theorem firstLive_none {es : List (Option (Nat × AVal))} {i : Nat} (h : firstLive es i = none) :
    es.filterMap id = [] := by
  induction es generalizing i with
  | nil => rfl
  | cons e es ih =>
    cases e with
    | none => simp only [firstLive] at h; simpa using ih h
    | some p => obtain ⟨k, a⟩ := p; simp [firstLive] at h

theorem firstLive_some {es : List (Option (Nat × AVal))} {i j k : Nat} {a : AVal}
    (h : firstLive es i = some (j, k, a)) :
    ∃ n, j = i + n ∧ es.filterMap id = (k, a) :: (es.drop (n + 1)).filterMap id := by
  induction es generalizing i with
  | nil => simp [firstLive] at h
  | cons e es ih =>
    cases e with
    | none =>
      simp only [firstLive] at h
      obtain ⟨n, hj, he⟩ := ih h
      exact ⟨n + 1, by omega, by simpa using he⟩
    | some p =>
      obtain ⟨k', a'⟩ := p
      simp only [firstLive, Option.some.injEq, Prod.mk.injEq] at h
      obtain ⟨rfl, rfl, rfl⟩ := h
      exact ⟨0, rfl, by simp⟩

theorem itOk_iff {dct : PyDict} {it : DictIter} :
    itOk dct it = true ↔ it.used = dct.used ∧ it.len = (itRest dct it).length := by
  simp [itOk, itRest]

/-- an in-step iterator produces the live entries from its position on, one by one, and never
    raises -/
theorem next_synced {dct : PyDict} {it : DictIter} (h : itOk dct it = true) :
    match itRest dct it with
    | [] => (it.next dct).2 = .stop
    | e :: tl => ∃ it', it.next dct = (it', .item e.1 e.2) ∧ itOk dct it' = true ∧ itRest dct it' = tl := by
  obtain ⟨hu, hl⟩ := itOk_iff.1 h
  cases hf : firstLive (dct.entries.drop it.pos) it.pos with
  | none =>
    have := firstLive_none hf
    have e : itRest dct it = [] := this
    rw [e]
    simp [DictIter.next, hu, hf]
  | some r =>
    obtain ⟨j, k, a⟩ := r
    obtain ⟨n, hj, he⟩ := firstLive_some hf
    have e : itRest dct it = (k, a) :: (dct.entries.drop (it.pos + n + 1)).filterMap id := by
      simp [itRest, he, List.drop_drop, Nat.add_assoc]
    rw [e]
    have hlen : it.len ≠ 0 := by rw [hl, e]; simp
    refine ⟨⟨j + 1, it.len - 1, it.used⟩, ?_, ?_, ?_⟩
    · simp [DictIter.next, hu, hf, hlen]
    · apply itOk_iff.2
      refine ⟨hu, ?_⟩
      simp only [itRest, hj]
      rw [hl, e]; simp
    · simp only [itRest, hj]

theorem start_synced (dct : PyDict) :
    itOk dct (DictIter.start dct) = true ∧ itRest dct (DictIter.start dct) = dct.live := by
  constructor
  · apply itOk_iff.2; simp [DictIter.start, itRest, PyDict.used, PyDict.live]
  · simp [DictIter.start, itRest, PyDict.live]

/-! ### the coarse world seen through `toR` -/

theorem toR_setOf (w : TWorld) (g : Nat) : w.toR.setOf g = w.setOf g := rfl

theorem toR_recurse (w : TWorld) (v : Nat) : w.toR.recurse v = w.recurse v := rfl

theorem lookup_map_snd {β γ : Type} (f : β → γ) (v : Nat) : ∀ (l : List (Nat × β)),
    (l.map (fun p => (p.1, f p.2))).lookup v = (l.lookup v).map f
  | [] => rfl
  | (k, b) :: l => by
      simp only [List.map_cons, List.lookup_cons]
      cases v == k
      · exact lookup_map_snd f v l
      · rfl

theorem flatMap_toAttr (d : Dir) : ∀ (l : List (Nat × AVal)),
    (l.filterMap (fun e => e.2.toAttr)).flatMap (fun a =>
      match a with
      | .graph h => [h]
      | .graphs hs => if d = .rev then hs.reverse else hs) = l.flatMap (fun e => e.2.graphsOf d)
  | [] => rfl
  | (k, a) :: l => by
      have ih := flatMap_toAttr d l
      cases a with
      | graph h => simp only [List.filterMap_cons, AVal.toAttr, List.flatMap_cons, AVal.graphsOf]; exact congrArg ([h] ++ ·) ih
      | graphs hs => simp only [List.filterMap_cons, AVal.toAttr, List.flatMap_cons, AVal.graphsOf]; exact congrArg ((if d = .rev then hs.reverse else hs) ++ ·) ih
      | other => simp only [List.filterMap_cons, AVal.toAttr, List.flatMap_cons, AVal.graphsOf]; exact ih

theorem toR_visit (w : TWorld) (d : Dir) (v : Nat) : w.toR.visit d v = w.visit d v := by
  simp only [RWorld.visit, RWorld.attrsOf, TWorld.toR, TWorld.visit, TWorld.dictOf]
  rw [lookup_map_snd (fun (p : PyDict) => p.live.filterMap (fun e => e.2.toAttr)) v w.attrs]
  cases w.attrs.lookup v with
  | none => simp [PyDict.empty, PyDict.live]
  | some dct => exact flatMap_toAttr d dct.live

theorem toR_kids (w : TWorld) (d : Dir) (g : Nat) : w.toR.kids d g = w.kids d g := by
  simp only [RWorld.kids, RWorld.kidsOf, TWorld.kids, toR_setOf]
  congr 1
  funext v
  exact toR_visit w d v

theorem toR_acyclic (w : TWorld) (d : Dir) : w.toR.acyclic d = w.acyclic d := by
  simp only [RWorld.acyclic, TWorld.acyclic]
  have : w.toR.kids d = w.kids d := funext (toR_kids w d)
  rw [this]; rfl

theorem toR_hgt (w : TWorld) (d : Dir) (g : Nat) : w.toR.hgt d g = w.hgt d g := by
  simp only [RWorld.hgt, TWorld.hgt, funext (toR_kids w d)]; rfl

/-! ### worlds and stacks -/

def TWorldWF (w : TWorld) : Prop := ∀ s ∈ w.sets, WF s

theorem TWorldWF.setOf {w : TWorld} (h : TWorldWF w) (g : Nat) : WF (w.setOf g) :=
  WorldWF.setOf (w := w.toR) h g

/-- a frame is consistent: its cursor refers to a box of its graph's container, and a frame that
    has yielded a node is past `notStarted` -/
structure TFrameOK (w : TWorld) (fr : TFrame) : Prop where
  valid : fr.c.Valid (w.setOf fr.g)
  started : fr.mode ≠ .loop → fr.c ≠ .notStarted

def TStackOK (w : TWorld) (st : List TFrame) : Prop := ∀ fr ∈ st, TFrameOK w fr

theorem tframeOK_fresh {w : TWorld} (h : TWorldWF w) (g : Nat) : TFrameOK w (TFrame.fresh g) :=
  ⟨(h.setOf g).root_valid, by simp [TFrame.fresh]⟩

/-- frames that differ only in `mode` -/
theorem TFrameOK.withMode {w : TWorld} {fr : TFrame} (ok : TFrameOK w fr) (m : TMode)
    (hs : fr.c ≠ .notStarted) : TFrameOK w { fr with mode := m } :=
  ⟨ok.valid, fun _ => hs⟩

theorem TFrameOK.toLoop {w : TWorld} {fr : TFrame} (ok : TFrameOK w fr) :
    TFrameOK w { fr with mode := .loop } :=
  ⟨ok.valid, fun h => absurd rfl h⟩

/-! ### the kinds of step -/

theorem tStep_last (w : TWorld) (d : Dir) (fr : TFrame) (rest : List TFrame) (v : Nat)
    (h : fr.mode = .last v) :
    tStep w d (fr :: rest) =
      ((if w.recurse v then { fr with mode := .expand v (DictIter.start (w.dictOf v)) [] }
        else { fr with mode := .loop }) :: rest,
       (if w.recf.isSome then [Out.pred v] else []), none) := by
  simp only [tStep, h]
  split <;> rfl

theorem tStep_pend (w : TWorld) (d : Dir) (fr : TFrame) (rest : List TFrame) (v : Nat) (it : DictIter)
    (h : Nat) (ps : List Nat) (hm : fr.mode = .expand v it (h :: ps)) :
    tStep w d (fr :: rest) =
      (TFrame.fresh h :: { fr with mode := .expand v it ps } :: rest, [Out.enter h], none) := by
  simp [tStep, hm]

theorem tStep_yield (w : TWorld) (d : Dir) (fr : TFrame) (rest : List TFrame) (c' : Cursor) (v : Nat)
    (h1 : fr.mode = .loop) (h3 : iterNext (w.setOf fr.g) d fr.c = (c', .yield v)) :
    tStep w d (fr :: rest) =
      ({ fr with c := c', mode := .last v } :: rest,
       (if fr.c = .notStarted then [Out.enter fr.g] else []) ++ [Out.yield fr.g v], some (.yield v)) := by
  simp [tStep, h1, h3]

theorem tStep_stop (w : TWorld) (d : Dir) (fr : TFrame) (rest : List TFrame) (c' : Cursor)
    (h1 : fr.mode = .loop) (h3 : iterNext (w.setOf fr.g) d fr.c = (c', .stop)) :
    tStep w d (fr :: rest) =
      (rest, (if fr.c = .notStarted then [Out.enter fr.g] else []) ++ [Out.exit fr.g] ++
        (if rest.isEmpty then [] else [Out.exit fr.g]), none) := by
  simp [tStep, h1, h3]

/-- the dict-iterator step of a frame that is expanding a node, by what the iterator returns -/
theorem tStep_entry (w : TWorld) (d : Dir) (fr : TFrame) (rest : List TFrame) (v : Nat) (it it' : DictIter)
    (k : Nat) (a : AVal) (hm : fr.mode = .expand v it []) (hn : it.next (w.dictOf v) = (it', .item k a)) :
    tStep w d (fr :: rest) =
      match a with
      | .graph h => (TFrame.fresh h :: { fr with mode := .expand v it' [] } :: rest, [Out.enter h], none)
      | .graphs hs => ({ fr with mode := .expand v it' (if d = .rev then hs.reverse else hs) } :: rest, [], none)
      | .other => ({ fr with mode := .expand v it' [] } :: rest, [], none) := by
  cases a <;> simp [tStep, hm, hn]

theorem tStep_entries_end (w : TWorld) (d : Dir) (fr : TFrame) (rest : List TFrame) (v : Nat) (it : DictIter)
    (hm : fr.mode = .expand v it []) (hn : (it.next (w.dictOf v)).2 = .stop) :
    tStep w d (fr :: rest) = ({ fr with mode := .loop } :: rest, [], none) := by
  cases hx : it.next (w.dictOf v) with
  | mk it' r =>
    rw [hx] at hn; simp only at hn; subst hn
    simp [tStep, hm, hx]

/-! ### stack consistency is preserved; yields are members -/

theorem tStep_ok {w : TWorld} {d : Dir} (hw : TWorldWF w) {st st' : List TFrame} {o : List Out}
    {r : Option Res} (ok : TStackOK w st) (e : tStep w d st = (st', o, r)) :
    TStackOK w st' ∧ (∀ g v, Out.yield g v ∈ o → v ∈ toList (w.setOf g)) ∧
    (r = none ∨ r = some .stop ∨ r = some .raised ∨ ∃ v, r = some (.yield v)) := by
  obtain ⟨rfl, rfl, rfl⟩ : st' = (tStep w d st).1 ∧ o = (tStep w d st).2.1 ∧ r = (tStep w d st).2.2 := by
    rw [e]; exact ⟨rfl, rfl, rfl⟩
  clear e
  cases st with
  | nil => exact ⟨ok, by simp [tStep], Or.inr (Or.inl rfl)⟩
  | cons fr rest =>
    have okf := ok fr (by simp)
    have okr : TStackOK w rest := fun x hx => ok x (by simp [hx])
    cases hm : fr.mode with
    | last v =>
      rw [tStep_last w d fr rest v hm]
      have hs := okf.started (by rw [hm]; simp)
      refine ⟨List.forall_mem_cons.2 ⟨?_, okr⟩, ?_, Or.inl rfl⟩
      · split
        · exact okf.withMode _ hs
        · exact okf.toLoop
      · intro g v' hmm; split at hmm <;> simp at hmm
    | expand v it pend =>
      have hs := okf.started (by rw [hm]; simp)
      cases pend with
      | cons h ps =>
        rw [tStep_pend w d fr rest v it h ps hm]
        exact ⟨List.forall_mem_cons.2 ⟨tframeOK_fresh hw h, List.forall_mem_cons.2 ⟨okf.withMode _ hs, okr⟩⟩,
          by simp, Or.inl rfl⟩
      | nil =>
        cases hx : it.next (w.dictOf v) with
        | mk it' res =>
          cases res with
          | item k a =>
            rw [tStep_entry w d fr rest v it it' k a hm hx]
            cases a with
            | graph h =>
              exact ⟨List.forall_mem_cons.2
                ⟨tframeOK_fresh hw h, List.forall_mem_cons.2 ⟨okf.withMode _ hs, okr⟩⟩, by simp, Or.inl rfl⟩
            | graphs hs' =>
              exact ⟨List.forall_mem_cons.2 ⟨okf.withMode _ hs, okr⟩, by simp, Or.inl rfl⟩
            | other =>
              exact ⟨List.forall_mem_cons.2 ⟨okf.withMode _ hs, okr⟩, by simp, Or.inl rfl⟩
          | stop =>
            rw [tStep_entries_end w d fr rest v it hm (by rw [hx])]
            exact ⟨List.forall_mem_cons.2 ⟨okf.toLoop, okr⟩, by simp, Or.inl rfl⟩
          | raised =>
            simp only [tStep, hm, hx]
            exact ⟨(by intro x hx; cases hx), (by simp), Or.inr (Or.inr (Or.inl trivial))⟩
    | loop =>
      rcases (hw.setOf fr.g).iterNext_cases d okf.valid with
        ⟨hres, -⟩ | ⟨c', v, hres, -, hmem, hv', hns⟩
      · rw [tStep_stop w d fr rest .done hm hres]
        refine ⟨okr, ?_, Or.inl rfl⟩
        intro g v hmm
        simp only [List.mem_append] at hmm
        rcases hmm with (hmm | hmm) | hmm
        · split at hmm <;> simp at hmm
        · simp at hmm
        · split at hmm <;> simp at hmm
      · rw [tStep_yield w d fr rest c' v hm hres]
        refine ⟨List.forall_mem_cons.2 ⟨⟨hv', fun _ => hns⟩, okr⟩, ?_, Or.inr (Or.inr (Or.inr ⟨v, rfl⟩))⟩
        · intro g v' hmm
          simp only [List.mem_append, List.mem_singleton, Out.yield.injEq] at hmm
          rcases hmm with hmm | ⟨rfl, rfl⟩
          · split at hmm <;> simp at hmm
          · exact hmem

theorem tNext_eq (w : TWorld) (d : Dir) : tNext w d = nextBy (tStep w d) := by
  funext f st
  induction f generalizing st with
  | zero => rfl
  | succ f ih =>
    simp only [tNext, nextBy, ih]
    rcases tStep w d st with ⟨st', o, _ | _ | _ | _ | _⟩ <;> rfl

theorem tDrain_eq (w : TWorld) (d : Dir) : tDrain w d = drainBy (tStep w d) := by
  funext f st
  induction f generalizing st with
  | zero => rfl
  | succ f ih =>
    simp only [tDrain, drainBy, ih]
    rcases tStep w d st with ⟨st', o, _ | _ | _ | _ | _⟩ <;> rfl

theorem tNext_ok {w : TWorld} {d : Dir} (hw : TWorldWF w) (f : Nat) (st : List TFrame)
    (ok : TStackOK w st) :
    TStackOK w (tNext w d f st).1 ∧
    (∀ g v, Out.yield g v ∈ (tNext w d f st).2.1 → v ∈ toList (w.setOf g)) := by
  rw [tNext_eq]
  obtain ⟨h1, h2⟩ := nextBy_inv (step := tStep w d) (I := TStackOK w)
    (Q := fun x => ∀ g v, x = Out.yield g v → v ∈ toList (w.setOf g))
    (fun st ok => ⟨(tStep_ok hw ok rfl).1, fun x hx g v e => (tStep_ok hw ok rfl).2.1 g v (e ▸ hx)⟩) f st ok
  exact ⟨h1, fun g v hm => h2 _ hm g v rfl⟩

/-! ### edits keep the stack consistent -/

theorem tsetOf_applyAt_same (w : TWorld) (g : Nat) (op : Op) (hg : g < w.sets.length) :
    (w.applyAt g op).1.setOf g = (apply (w.setOf g) op).1 :=
  setOf_applyAt_same w.toR g op hg

theorem tsetOf_applyAt_other (w : TWorld) (g g' : Nat) (op : Op) (hne : g' ≠ g) :
    (w.applyAt g op).1.setOf g' = w.setOf g' :=
  setOf_applyAt_other w.toR g g' op hne

theorem tapplyAt_oob (w : TWorld) (g : Nat) (op : Op) (hg : ¬ g < w.sets.length) :
    (w.applyAt g op).1 = w := by
  simp [TWorld.applyAt, List.set_eq_of_length_le (Nat.le_of_not_lt hg)]

/-- the node containers are those of `w.toR` -/
theorem tapplyAt_ok {w : TWorld} (hw : TWorldWF w) {st : List TFrame} (ok : TStackOK w st) (g : Nat) (op : Op) :
    TWorldWF (w.applyAt g op).1 ∧ TStackOK (w.applyAt g op).1 st :=
  ⟨worldWF_applyAt (w := w.toR) hw g op,
    fun fr hfr => ⟨valid_applyAt (w := w.toR) hw g op (ok fr hfr).valid, (ok fr hfr).started⟩⟩

theorem tstackOK_sets {w w' : TWorld} (h : w'.sets = w.sets) {st : List TFrame} (ok : TStackOK w st) :
    TStackOK w' st := by
  intro fr hfr
  have := ok fr hfr
  refine ⟨?_, this.started⟩
  have e : w'.setOf fr.g = w.setOf fr.g := by simp [TWorld.setOf, h]
  rw [e]; exact this.valid

theorem tapplyEv_ok {w : TWorld} (hw : TWorldWF w) {st : List TFrame} (ok : TStackOK w st) (e : TEv) :
    TWorldWF (w.applyEv e) ∧ TStackOK (w.applyEv e) st := by
  cases e with
  | edit g op => exact tapplyAt_ok hw ok g op
  | setAttr v k a => exact ⟨hw, tstackOK_sets (w := w) (w' := w.applyEv (.setAttr v k a)) rfl ok⟩
  | delAttr v k =>
    simp only [TWorld.applyEv, TWorld.delAttr]
    split
    · exact ⟨hw, tstackOK_sets (w := w) (w' := w.setDict v ((w.dictOf v).del k).1) rfl ok⟩
    · exact ⟨hw, ok⟩
  | next => exact ⟨hw, ok⟩

/-- what holds along a history of `next()` calls, edits of node sequences and edits of node
    attributes: every `next()` yields members only; at the end the world and the stack are
    consistent -/
def THistInv (d : Dir) (fuel : Nat) : TWorld → List TFrame → List TEv → Prop
  | w, st, [] => TWorldWF w ∧ TStackOK w st
  | w, st, .next :: es =>
      (∀ g v, Out.yield g v ∈ (tNext w d fuel st).2.1 → v ∈ toList (w.setOf g)) ∧
      THistInv d fuel w (tNext w d fuel st).1 es
  | w, st, e :: es => THistInv d fuel (w.applyEv e) st es

theorem thistory (d : Dir) (fuel : Nat) :
    ∀ (es : List TEv) (w : TWorld) (st : List TFrame), TWorldWF w → TStackOK w st → THistInv d fuel w st es := by
  intro es
  induction es with
  | nil => intro w st hw ok; exact ⟨hw, ok⟩
  | cons e es ih =>
    intro w st hw ok
    obtain ⟨hw', ok'⟩ := tapplyEv_ok hw ok e
    cases e with
    | next =>
      obtain ⟨ok1, hm⟩ := tNext_ok (d := d) hw fuel st ok
      exact ⟨hm, ih w _ hw ok1⟩
    | _ => exact ih _ st hw' ok'

end IrVerif.LinkedSet
