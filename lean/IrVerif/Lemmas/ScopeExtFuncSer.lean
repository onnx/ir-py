/-
The EXTENDED serializer of functions and of models with functions (`serFInputsE`, `serFunctionE`, `serFuncsE`,
`serializeME` of `Model/ScopeExt.lean`): inversion lemmas, and "succeeds or a device configuration cannot be written"
on a certified model (`ReloadableME`); the function side of `Lemmas/ScopeExtSer.lean` / `Lemmas/ScopeExtSerOk.lean`.
-/
import IrVerif.Lemmas.ScopeExtFuncDefs
import IrVerif.Lemmas.ScopeExtSerOk
namespace IrVerif.Scope

theorem serFInputsE_eq (V : Nat → ValueS) (x : Ext) : ∀ (ins : List Nat) (ns : List Name) (vis : List VInfoE),
    serFInputsE V x ins = .ok (ns, vis) ↔ (∀ v ∈ ins, (V v).name ≠ none) ∧ ns = ins.map (nm V) ∧
      vis = (ins.filter fun v => shouldCreateE (V v) (x.vmeta v)).map (viOfE V x)
  | [], ns, vis => by
    simp only [serFInputsE, Except.ok.injEq, Prod.mk.injEq, List.map_nil, List.filter_nil]
    exact ⟨fun h => ⟨nofun, h.1.symm, h.2.symm⟩, fun h => ⟨h.2.1.symm, h.2.2.symm⟩⟩
  | v :: rest, ns, vis => by
    simp only [serFInputsE]
    cases hn : (V v).name with
    | none => simp [hn]
    | some n =>
      have hnm : nm V v = n := nm_of_name hn
      cases hr : serFInputsE V x rest with
      | error e =>
        simp only [List.mem_cons, forall_eq_or_imp]
        refine ⟨nofun, fun h => ?_⟩
        have := (serFInputsE_eq V x rest _ _).mpr ⟨h.1.2, rfl, rfl⟩
        rw [hr] at this
        cases this
      | ok r =>
        obtain ⟨ns', vis'⟩ := r
        obtain ⟨a, rfl, rfl⟩ := (serFInputsE_eq V x rest ns' vis').mp hr
        simp only [Except.ok.injEq, Prod.mk.injEq, List.mem_cons, forall_eq_or_imp, hn, ne_eq, reduceCtorEq, not_false_eq_true,
          true_and, List.map_cons, hnm]
        by_cases hsc : shouldCreateE (V v) (x.vmeta v) = true
        · simp only [hsc, if_true, List.filter_cons_of_pos, List.map_cons, viOfE, hnm]
          exact ⟨fun h => ⟨a, h.1.symm, h.2.symm⟩, fun h => ⟨h.2.1.symm, h.2.2.symm⟩⟩
        · simp only [hsc, Bool.false_eq_true, if_false, List.filter_cons_of_neg, not_false_eq_true]
          exact ⟨fun h => ⟨a, h.1.symm, h.2.symm⟩, fun h => ⟨h.2.1.symm, h.2.2.symm⟩⟩

theorem xserFInputs_ok (V : Nat → ValueS) (x : Ext) (ins : List Nat) (ns : List Name) (vis : List VInfoE)
    (h : serFInputsE V x ins = .ok (ns, vis)) :
    ns = ins.map (nm V) ∧ (∀ v ∈ ins, (V v).name ≠ none) ∧
    ∀ e, e ∈ vis ↔ ∃ v ∈ ins, shouldCreateE (V v) (x.vmeta v) = true ∧ e = viOfE V x v := by
  obtain ⟨a, rfl, rfl⟩ := (serFInputsE_eq V x ins ns vis).mp h
  refine ⟨rfl, a, fun e => ?_⟩
  simp only [List.mem_map, List.mem_filter]
  exact ⟨fun ⟨v, ⟨hv, hs⟩, he⟩ => ⟨v, hv, hs, he.symm⟩, fun ⟨v, hv, hs, he⟩ => ⟨v, ⟨hv, hs⟩, he.symm⟩⟩

theorem xserFunction_inv {V : Nat → ValueS} {x : Ext} {td : TData} {ver : Option Int} {id : FId} {gid : Nat}
    {ins : List Nat} {inits : List (Name × Nat)} {nodes : List NodeT} {outs : List Nat} {fp : FuncE} {ws : Writes}
    (h : serFunctionE V x td ver (id, .mk gid ins inits nodes outs) = .ok (fp, ws)) :
    ∃ vis1 nps qs vis2, serFInputsE V x ins = .ok (ins.map (nm V), vis1) ∧
      serNodesE V x td ver false [] nodes = .ok (nps, qs, vis2, ws) ∧
      (∀ v ∈ outs, (V v).name ≠ none) ∧
      fp = ⟨id, ins.map (nm V), outs.map (nm V), vis1 ++ vis2, nps⟩ := by
  simp only [serFunctionE] at h
  split at h
  · simp at h
  · rename_i insN vis1 hi
    split at h
    · simp at h
    · rename_i outsN ho
      split at h
      · simp at h
      · rename_i nps qs vis2 ws' hn
        simp only [Except.ok.injEq, Prod.mk.injEq] at h
        obtain ⟨rfl, rfl⟩ := h
        have hi' := xliftS_ok hi
        have ho' := xliftS_ok ho
        have := (xserFInputs_ok V x ins insN vis1 hi').1
        subst this
        rw [(serOutNames_ok ho').1]
        exact ⟨vis1, nps, qs, vis2, hi', hn, (serOutNames_ok ho').2, rfl⟩

theorem serFInputsE_of_names (V : Nat → ValueS) (x : Ext) (ins : List Nat) (h : ∀ v ∈ ins, (V v).name ≠ none) :
    ∃ vis, serFInputsE V x ins = .ok (ins.map (nm V), vis) :=
  ⟨_, (serFInputsE_eq V x ins _ _).mpr ⟨h, rfl, rfl⟩⟩

theorem serFuncsE_inv {V : Nat → ValueS} {x : Ext} {td : TData} {ver : Option Int} {f : FId × GraphT}
    {fs : List (FId × GraphT)} {fps : List FuncE} {ws : Writes}
    (h : serFuncsE V x td ver (f :: fs) = .ok (fps, ws)) :
    ∃ fp ws1 fps' ws2, serFunctionE V x td ver f = .ok (fp, ws1) ∧ serFuncsE V x td ver fs = .ok (fps', ws2) ∧
      fps = fp :: fps' ∧ ws = ws1 ++ ws2 := by
  simp only [serFuncsE] at h
  split at h
  · simp at h
  · rename_i fp ws1 h1
    split at h
    · simp at h
    · rename_i fps' ws2 h2
      simp only [Except.ok.injEq, Prod.mk.injEq] at h
      obtain ⟨rfl, rfl⟩ := h
      exact ⟨fp, ws1, fps', ws2, h1, h2, rfl, rfl⟩

theorem serFunctionE_id {V : Nat → ValueS} {x : Ext} {td : TData} {ver : Option Int} :
    ∀ {f : FId × GraphT} {fp : FuncE} {ws : Writes}, serFunctionE V x td ver f = .ok (fp, ws) → fp.id = f.1
  | (id, .mk _ _ _ _ _), fp, ws, h => by
    obtain ⟨_, _, _, _, _, _, _, rfl⟩ := xserFunction_inv h
    rfl

theorem serFuncsE_ids {V : Nat → ValueS} {x : Ext} {td : TData} {ver : Option Int} :
    ∀ {fs : List (FId × GraphT)} {fps : List FuncE} {ws : Writes}, serFuncsE V x td ver fs = .ok (fps, ws) →
      fps.map (·.id) = fs.map (·.1)
  | [], fps, ws, h => by
    simp only [serFuncsE, Except.ok.injEq, Prod.mk.injEq] at h
    obtain ⟨rfl, _⟩ := h
    rfl
  | f :: fs, fps, ws, h => by
    obtain ⟨fp, ws1, fps', ws2, h1, h2, rfl, _⟩ := serFuncsE_inv h
    simp only [List.map_cons, serFunctionE_id h1, serFuncsE_ids h2]

theorem serFuncsE_length {V : Nat → ValueS} {x : Ext} {td : TData} {ver : Option Int}
    {fs : List (FId × GraphT)} {fps : List FuncE} {ws : Writes} (h : serFuncsE V x td ver fs = .ok (fps, ws)) :
    fps.length = fs.length := by
  have := congrArg List.length (serFuncsE_ids h)
  simpa using this

/-- on a certified function the serializer returns, or raises in a device configuration: no other error -/
theorem extF_ser_ok (V : Nat → ValueS) (x : Ext) (td : TData) (ver : Option Int) (id : FId) :
    ∀ (g : GraphT), (replF V g).ok → extF V x g →
      (∃ fp ws, serFunctionE V x td ver (id, g) = .ok (fp, ws)) ∨
      (∃ e, serFunctionE V x td ver (id, g) = .error (.dev e))
  | .mk gid ins inits nodes outs, h, hx => by
    simp only [replF] at h
    obtain ⟨_, hins, _, _, hN, hO⟩ := h
    simp only [extF] at hx
    obtain ⟨vis1, h1⟩ := serFInputsE_of_names V x ins hins
    have h2 := serOutNames_of_names (V := V) (vs := outs) (fun v hv => (hO v hv).1)
    rcases extNs_ser_ok V x td ver nodes [] _ [] false hN hx.2 with ⟨nps, qs, vis, ws, e3⟩ | ⟨e, e3⟩
    · exact .inl ⟨_, _, by simp only [serFunctionE, h1, h2, e3, liftS]; rfl⟩
    · exact .inr ⟨e, by simp only [serFunctionE, h1, h2, e3, liftS]⟩

theorem extFs_ser_ok (V : Nat → ValueS) (x : Ext) (td : TData) (ver : Option Int) :
    ∀ (fs : List (FId × GraphT)), (∀ f ∈ fs, (replF V f.2).ok) → (∀ f ∈ fs, extF V x f.2) →
      (∃ fps ws, serFuncsE V x td ver fs = .ok (fps, ws)) ∨ (∃ e, serFuncsE V x td ver fs = .error (.dev e))
  | [], _, _ => .inl ⟨[], [], rfl⟩
  | f :: fs, h, hx => by
    obtain ⟨id, g⟩ := f
    rcases extF_ser_ok V x td ver id g (h (id, g) (by simp)) (hx (id, g) (by simp)) with ⟨fp, ws1, e1⟩ | ⟨e, e1⟩
    · rcases extFs_ser_ok V x td ver fs (fun f hf => h f (by simp [hf])) (fun f hf => hx f (by simp [hf])) with
        ⟨fps, ws2, e2⟩ | ⟨e, e2⟩
      · exact .inl ⟨_, _, by simp only [serFuncsE, e1, e2]; rfl⟩
      · exact .inr ⟨e, by simp only [serFuncsE, e1, e2]⟩
    · exact .inr ⟨e, by simp only [serFuncsE, e1]⟩

/-- serializing a reloadable extended model with functions does not raise for lack of a name -/
theorem reloadableME_ser (ver : Option Int) (w : MWorldE) (h : ReloadableME w) :
    (∃ w1 Q, serializeME ver w = .ok (w1, Q)) ∨ (∃ e, serializeME ver w = .error (.dev e)) := by
  obtain ⟨⟨hok, hfok, _, _⟩, hext, hfext, _⟩ := h
  rcases extG_ser_ok w.st.vals w.ext w.st.tdata ver w.root [] hok hext with ⟨p, ws1, e1⟩ | ⟨e, e1⟩
  · rcases extFs_ser_ok w.st.vals w.ext w.st.tdata ver w.funcs hfok hfext with ⟨fps, ws2, e2⟩ | ⟨e, e2⟩
    · exact .inl ⟨_, _, by simp only [serializeME, e1, e2]; rfl⟩
    · exact .inr ⟨e, by simp only [serializeME, e1, e2]⟩
  · exact .inr ⟨e, by simp only [serializeME, e1]⟩

end IrVerif.Scope
