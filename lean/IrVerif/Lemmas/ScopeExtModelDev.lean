/-
Extended model, MODELS WITH FUNCTIONS: the sharding values of the node device configurations are preserved BY
IDENTITY by the round trip (`reloadableME_roundtrip_devs`), for the main graph and for every function body: from the
traces exported by the lock-step inductions (`rtE_graph`: `DevTrG`; `rtE_funcs`: `DevTrFs`,
`Lemmas/ScopeExtFuncDevDefs.lean`) and the source-side certificate `DevCertM`, when the configurations are written
(IR version gate open), by `devIso_graph` / `devIso_nodes` (`Lemmas/ScopeExtDevIso.lean`).
-/
import IrVerif.Lemmas.ScopeExtModel
namespace IrVerif.Scope

/-- one function body: trace + certificate + serialization succeeded + gate open ⟹ `DevIsoG` -/
theorem devIso_func (V : Nat → ValueS) (x x' : Ext) (td : TData) (ver : Option Int) (hgate : GateOpen ver) (hi : Nat)
    (A : Assoc) :
    ∀ (id : FId) (g : GraphT) (fp : FuncE) (g' : GraphT) (ws : Writes),
      serFunctionE V x td ver (id, g) = .ok (fp, ws) → DevCertF V x g → DevTrF V x' hi A g fp g' →
      DevIsoG x x' (sig A) g g'
  | id, .mk gid ins inits nodes outs, fp, .mk _ _ _ nodes' _ => fun ws hser hc htr => by
    obtain ⟨vis1, nps, qs, vis2, _, hn, _, rfl⟩ := xserFunction_inv hser
    simp only [DevCertF] at hc
    simp only [DevTrF] at htr
    simp only [DevIsoG]
    exact devIso_nodes V x x' td ver hgate hi A nodes [] _ nps nodes' false [] qs vis2 ws hn hc htr

theorem devIso_funcs (V : Nat → ValueS) (x x' : Ext) (td : TData) (ver : Option Int) (hgate : GateOpen ver) (hi : Nat)
    (A : Assoc) :
    ∀ (fs : List (FId × GraphT)) (fps : List FuncE) (gs : List (FId × GraphT)) (ws : Writes),
      serFuncsE V x td ver fs = .ok (fps, ws) → (∀ f ∈ fs, DevCertF V x f.2) → DevTrFs V x' hi A fs fps gs →
      DevIsoFs x x' (sig A) fs gs
  | [], [], [] => fun _ _ _ _ => by simp only [DevIsoFs]
  | f :: fs, fp :: fps, g :: gs => fun ws hser hc htr => by
    obtain ⟨fp0, ws1, fps', ws2, h1, h2, he, _⟩ := serFuncsE_inv hser
    simp only [List.cons.injEq] at he
    obtain ⟨rfl, rfl⟩ := he
    simp only [DevTrFs] at htr
    simp only [DevIsoFs]
    obtain ⟨id, g0⟩ := f
    exact ⟨devIso_func V x x' td ver hgate hi A id g0 fp g.2 ws1 h1 (hc (id, g0) (List.mem_cons_self ..)) htr.1,
      devIso_funcs V x x' td ver hgate hi A fs fps gs ws2 h2 (fun f' hf' => hc f' (List.mem_cons_of_mem _ hf')) htr.2⟩
  | [], [], _ :: _ => fun _ _ _ h => by simp only [DevTrFs] at h
  | [], _ :: _, _ => fun _ _ _ h => by simp only [DevTrFs] at h
  | _ :: _, [], _ => fun _ _ _ h => by simp only [DevTrFs] at h
  | _ :: _, _ :: _, [] => fun _ _ _ h => by simp only [DevTrFs] at h

/-- **the round trip of a model with functions, with the device configurations**: when they are written (IR version
    gate open) and the source satisfies the certificate `DevCertM` (every sharding value is what its name resolves
    to at its node: in the scope tables of the main graph, resp. in the table of its function body), every reloaded
    node (main graph, nested graphs, function bodies) carries the source configurations with the sharding values
    renamed BY IDENTITY -/
theorem reloadableME_roundtrip_devs (ver : Option Int) (hgate : GateOpen ver) (w : MWorldE)
    (h : ReloadableME w) (hdc : DevCertM w) (w1 : MWorldE) (Q : ModelE) (hser : serializeME ver w = .ok (w1, Q)) :
    ∃ (D : MWorldE) (B : Assoc),
      deserializeME Q = .ok D ∧ RS w.st.vals D.st B ∧ B.map (·.1) = domM w.core ∧
      TreeRelG w.st.vals B w.root D.root ∧ TreeRelFs w.st.vals B w.funcs D.funcs ∧
      InfoOK2 w.st.vals D.st B (emitM w.core) ∧ ConstOK2 w.st.vals w.st.tdata D.st B (allInitsM w.core) ∧
      MetaOKk w.ext D.ext B (emitM w.core) ∧ QuantOKk w.ext D.ext B (emitQM w) ∧
      DevIsoM w.ext D.ext (sig B) w D := by
  obtain ⟨D, B, hD, hrs, hk, ht, htf, hio, hco, hm, hq, htr, htrf⟩ := reloadableME_roundtrip_tr ver w h w1 Q hser
  obtain ⟨p, ws1, fps, ws2, hp, hf, rfl, _⟩ := serializeME_inv hser
  exact ⟨D, B, hD, hrs, hk, ht, htf, hio, hco, hm, hq,
    devIso_graph w.st.vals w.ext D.ext w.st.tdata ver hgate D.st.nn B w.root [] p D.root ws1 hp hdc.1 htr,
    devIso_funcs w.st.vals w.ext D.ext w.st.tdata ver hgate D.st.nn B w.funcs fps D.funcs ws2 hf hdc.2 htrf⟩

end IrVerif.Scope
