/-
Basic facts about the object store and the non-recursive helpers of `IrVerif.Scope`; every `Scope*` lemma file
builds on this one.  Core Lean only.
-/
import IrVerif.Model.Scope
import IrVerif.Lemmas.ListFacts
namespace IrVerif.Scope

@[simp] theorem alloc_snd (st : Store) (c : ValueS) : (st.alloc c).2 = st.nv := rfl
@[simp] theorem alloc_nv (st : Store) (c : ValueS) : (st.alloc c).1.nv = st.nv + 1 := rfl
@[simp] theorem alloc_nn (st : Store) (c : ValueS) : (st.alloc c).1.nn = st.nn := rfl
@[simp] theorem alloc_ng (st : Store) (c : ValueS) : (st.alloc c).1.ng = st.ng := rfl
@[simp] theorem alloc_nt (st : Store) (c : ValueS) : (st.alloc c).1.nt = st.nt := rfl
@[simp] theorem alloc_tens (st : Store) (c : ValueS) : (st.alloc c).1.tens = st.tens := rfl
theorem alloc_vals (st : Store) (c : ValueS) (i : Nat) :
    (st.alloc c).1.vals i = if i = st.nv then c else st.vals i := rfl
@[simp] theorem alloc_vals_self (st : Store) (c : ValueS) : (st.alloc c).1.vals st.nv = c := by
  simp [alloc_vals]
theorem alloc_vals_lt (st : Store) (c : ValueS) {i : Nat} (h : i < st.nv) :
    (st.alloc c).1.vals i = st.vals i := by
  simp [alloc_vals, Nat.ne_of_lt h]

@[simp] theorem modify_nv (st : Store) (v : Nat) (f : ValueS → ValueS) : (st.modify v f).nv = st.nv := rfl
@[simp] theorem modify_nn (st : Store) (v : Nat) (f : ValueS → ValueS) : (st.modify v f).nn = st.nn := rfl
@[simp] theorem modify_ng (st : Store) (v : Nat) (f : ValueS → ValueS) : (st.modify v f).ng = st.ng := rfl
@[simp] theorem modify_nt (st : Store) (v : Nat) (f : ValueS → ValueS) : (st.modify v f).nt = st.nt := rfl
@[simp] theorem modify_tens (st : Store) (v : Nat) (f : ValueS → ValueS) :
    (st.modify v f).tens = st.tens := rfl
theorem modify_vals (st : Store) (v : Nat) (f : ValueS → ValueS) (i : Nat) :
    (st.modify v f).vals i = if i = v then f (st.vals i) else st.vals i := rfl
@[simp] theorem modify_vals_self (st : Store) (v : Nat) (f : ValueS → ValueS) :
    (st.modify v f).vals v = f (st.vals v) := by simp [modify_vals]
theorem modify_vals_ne (st : Store) (v : Nat) (f : ValueS → ValueS) {i : Nat} (h : i ≠ v) :
    (st.modify v f).vals i = st.vals i := by simp [modify_vals, h]

theorem alloc_modify (st : Store) (c : ValueS) (f : ValueS → ValueS) : (st.alloc c).1.modify st.nv f = (st.alloc (f c)).1 := by
  simp only [Store.alloc, Store.modify]
  congr 1
  funext i
  by_cases h : i = st.nv <;> simp [h]

theorem newNamed_eq_alloc (st : Store) (vi : List (Name × Info)) (x : Name) :
    newNamed st vi x = (st.alloc { name := some x, info := (vi.lookup x).getD {} }).1 := by
  unfold newNamed
  cases vi.lookup x with
  | none => rfl
  | some i => exact alloc_modify st _ _

theorem newInit_eq_alloc (st : Store) (vi : List (Name × Info)) (t : TensorP) (tid : Nat) :
    newInit st vi t tid = (st.alloc
      { name := some t.name
        info := ((vi.lookup t.name).map (·.orTensor (tensorInfo t.ty t.sh))).getD (tensorInfo t.ty t.sh)
        const := some tid }).1 := by
  unfold newInit
  cases vi.lookup t.name with
  | none => rfl
  | some i => exact alloc_modify st _ _

@[simp] theorem allocTensor_vals (st : Store) (t : TensorS) : (st.allocTensor t).1.vals = st.vals := rfl
@[simp] theorem allocTensor_nv (st : Store) (t : TensorS) : (st.allocTensor t).1.nv = st.nv := rfl
@[simp] theorem allocTensor_nn (st : Store) (t : TensorS) : (st.allocTensor t).1.nn = st.nn := rfl
@[simp] theorem allocTensor_ng (st : Store) (t : TensorS) : (st.allocTensor t).1.ng = st.ng := rfl

theorem lookup_mem {α : Type} (x : Name) (t : List (Name × α)) (v : α) (h : t.lookup x = some v) :
    (x, v) ∈ t :=
  ListFacts.mem_of_lookup h

theorem lookup_cons_ne {α : Type} (x k : Name) (w : α) (t : List (Name × α)) (h : x ≠ k) :
    List.lookup x ((k, w) :: t) = List.lookup x t := by
  have : (x == k) = false := by simpa using h
  simp [List.lookup_cons, this]

theorem lookup_cons_self {α : Type} (x : Name) (w : α) (t : List (Name × α)) :
    List.lookup x ((x, w) :: t) = some w := by
  simp

theorem resolve_mem (x : Name) (scopes : List Table) (v : Nat) (h : resolve x scopes = some v) :
    ∃ t ∈ scopes, (x, v) ∈ t := by
  induction scopes with
  | nil => simp [resolve] at h
  | cons t ts ih =>
    simp only [resolve] at h
    split at h
    · rename_i w hw
      simp only [Option.some.injEq] at h
      subst h
      exact ⟨t, by simp, lookup_mem _ _ _ hw⟩
    · obtain ⟨t', ht', hm⟩ := ih h
      exact ⟨t', by simp [ht'], hm⟩

end IrVerif.Scope
