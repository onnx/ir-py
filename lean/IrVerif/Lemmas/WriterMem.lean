/-
C09: the memory bound from the code's own reservation rule.  `planArgs` (Model/WriterPlan.lean) computes the
reservation of every tensor with `reservationBytes` = `_reservation_bytes`; the copy loop of
`ExternalTensor.tofile` never holds a buffer larger than that reservation, an in-memory tensor holds exactly its
`nbytes`; the configuration keeps the tensors (reservation, bytes) in input order.
-/
import IrVerif.Lemmas.WriterLayoutShards
import IrVerif.Lemmas.WriterNLocks
namespace IrVerif.WriterN

theorem copyReads_le (chunk : Nat) : ∀ (fuel rem : Nat), ∀ k ∈ copyReads chunk fuel rem, k ≤ min rem chunk
  | 0, _ => by intro k h; simp [copyReads] at h
  | fuel + 1, rem => by
      intro k h
      simp only [copyReads] at h
      split at h
      · simp at h
      · split at h
        · simp at h
        · rcases List.mem_cons.1 h with rfl | h
          · omega
          · have := copyReads_le chunk fuel _ k h; omega

theorem copyReads_sum (chunk : Nat) (hc : 0 < chunk) : ∀ (fuel rem : Nat), rem ≤ fuel →
    (copyReads chunk fuel rem).sum = rem
  | 0, rem, h => by simp [copyReads]; omega
  | fuel + 1, rem, h => by
      simp only [copyReads]
      split
      · simp; omega
      · split
        · omega
        · rw [List.sum_cons, copyReads_sum chunk hc fuel _ (by omega)]; omega

theorem foldr_max_le (l : List Nat) (b : Nat) (h : ∀ k ∈ l, k ≤ b) : l.foldr max 0 ≤ b := by
  induction l with
  | nil => simp
  | cons x xs ih =>
      simp only [List.foldr_cons]
      have := h x (List.mem_cons_self ..)
      have := ih (fun k hk => h k (List.mem_cons_of_mem _ hk))
      omega

/-- what a writer holds never exceeds what `_reservation_bytes` reserves for it -/
theorem peak_le_reservation (chunk : Nat) (a : TArg) :
    peakBytes chunk a ≤ reservationBytes chunk a.external a.data.length := by
  simp only [peakBytes, reservationBytes]
  split
  · exact foldr_max_le _ _ (copyReads_le chunk _ _)
  · exact Nat.le_refl _

theorem reservation_le_nbytes (chunk : Nat) (external : Bool) (len : Nat) :
    reservationBytes chunk external len ≤ len := by
  simp only [reservationBytes]; split <;> omega


def specOf (t : Tensor) : TSpec := ⟨t.obj, t.size, t.fails, t.cbFails, t.data⟩

theorem placeZip_spec (file : Nat) (jobOf : Nat → Nat) : ∀ (infs : List Layout.Info) (sh : List TSpec) (k : Nat),
    infs.length = sh.length → (placeZip file jobOf k infs sh).map specOf = sh
  | [], [], _, _ => rfl
  | [], _ :: _, _, h => by simp at h
  | _ :: _, [], _, h => by simp at h
  | _ :: infs, t :: sh, k, h => by
      simp only [placeZip, List.map_cons, specOf]
      rw [placeZip_spec file jobOf infs sh (k + 1) (by simpa using h)]

theorem placeFile_spec (al : Option Nat) (athr : Nat) (file : Nat) (jobOf : Nat → Nat) (sh : List TSpec) :
    (placeFile al athr file jobOf sh).map specOf = sh := by
  apply placeZip_spec
  simp [fileInfos, Layout.computeInfos, Layout.computeInfosFrom_length]

theorem planShards_spec (al : Option Nat) (athr : Nat) (S wps : Nat) :
    ∀ (shards : List (List TSpec)) (j st np nj : Nat),
      (planShards al athr S wps j st np nj shards).tensors.map specOf = shards.flatten
  | [], _, _, _, _ => by simp [planShards]
  | sh :: rest, j, st, np, nj => by
      rw [ps_tensors, List.map_append, placeFile_spec, planShards_spec al athr S wps rest]
      simp

theorem planCfg_spec {ts : List TSpec} {maxShard al : Option Nat} {athr workers capacity : Nat} {cfg : Cfg}
    (h : planCfg ts maxShard al athr workers capacity = some cfg) :
    cfg.tensors.map specOf = ts ∧ cfg.capacity = max capacity 1 := by
  simp only [planCfg] at h
  split at h
  · split at h
    · cases h; exact ⟨placeFile_spec al athr 0 _ ts, rfl⟩
    · simp at h
  · split at h
    · cases h
      refine ⟨?_, rfl⟩
      show (planShards _ _ _ _ 0 0 0 0 _).tensors.map specOf = ts
      rw [planShards_spec, shardsOf_flatten]
    · simp at h

theorem size_of_spec {cfg : Cfg} {ts : List TSpec} (h : cfg.tensors.map specOf = ts) (i : Nat) :
    cfg.size i = (ts.getD i default).size ∧ (cfg.data i) = (ts.getD i default).data := by
  subst h
  simp only [Cfg.size, Cfg.data, List.getD_eq_getElem?_getD, List.getElem?_map]
  cases cfg.tensors[i]? <;> exact ⟨rfl, rfl⟩

theorem getD_map_spec (chunk : Nat) (args : List TArg) (i : Nat) :
    (args.map (TArg.spec chunk)).getD i default = TArg.spec chunk (args.getD i default) := by
  simp only [List.getD_eq_getElem?_getD, List.getElem?_map]
  cases args[i]? with
  | none => simp [TArg.spec, reservationBytes]; rfl
  | some a => rfl

/-- userspace bytes held by all threads that are between `budget.acquire` and `budget.release` -/
def heldBytes (chunk : Nat) (args : List TArg) (s : State) : Nat :=
  wsum (fun i p => if holds p = true then peakBytes chunk (args.getD i default) else 0) 0 s.tasks

/-- `max(tensor.nbytes)` -/
def maxNbytes (args : List TArg) : Nat := args.foldr (fun a m => max a.data.length m) 0

theorem nbytes_le_max (args : List TArg) (i : Nat) : (args.getD i default).data.length ≤ maxNbytes args := by
  unfold maxNbytes
  induction args generalizing i with
  | nil => simp; rfl
  | cons a as ih =>
      cases i with
      | zero => simp; omega
      | succ i => have := ih i; simp at this ⊢; omega

end IrVerif.WriterN
