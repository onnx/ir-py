/-
Helper lemmas for C08 (`Props/C08.lean`) about the effect interpreter of `Model/AtomicSave.lean`.  The idea:
until `os.replace` every state shows the caller what `s0` showed (`Old`), after it nothing the caller sees
changes any more (`Frozen`).  The control flow of `saveWith` (mkdtemp, try block, handlers, invalidation loop) is
taken apart once, by the first fault index (`saveWith_shape`); `saveWith_two_phase` carries a pair of invariants
along it, for every fault assignment.
Core Lean only.
-/
import IrVerif.Model.AtomicSave
namespace IrVerif.AtomicSave

@[simp] theorem upd_same {α β : Type} [DecidableEq α] (f : α → β) (a : α) (b : β) : upd f a b a = b := by
  simp [upd]

theorem upd_ne {α β : Type} [DecidableEq α] (f : α → β) {a x : α} (b : β) (h : x ≠ a) :
    upd f a b x = f x := by
  simp [upd, h]

theorem upd_pred {α β : Type} [DecidableEq α] {Q : β → Prop} (f : α → β) (a : α) (b : β) (x : α) (hx : Q (f x))
    (hb : Q (f a) → Q b) : Q (upd f a b x) := by
  by_cases h : x = a
  · subst h; rw [upd_same]; exact hb hx
  · rw [upd_ne _ _ h]; exact hx

def content (s : St) (p : Path) : Option Bytes := (s.fs.file p).map s.fs.data

theorem file_map_congr {α : Type} {s0 s : St} {p : Path} {a b : Nat → α} (hf : s.fs.file p = s0.fs.file p)
    (hd : ∀ i, s0.fs.file p = some i → a i = b i) : (s.fs.file p).map a = (s0.fs.file p).map b := by
  rw [hf]
  cases h : s0.fs.file p with
  | none => rfl
  | some i => rw [Option.map_some, Option.map_some, hd i h]

/-- Effects that never rename onto a caller path, never touch `_valid` and never create a
mapping: everything except `os.replace`, `invalidate` and the pre-save `loadSmall`. -/
def Eff.tmpOnly : Eff → Bool
  | .replace => false
  | .invalidate _ => false
  | .loadSmall _ _ => false
  | _ => true

/-- Effects that change no file content, no permission bits, no name of a caller path and no handle. -/
def Eff.noData : Eff → Bool
  | .write _ => false
  | .openTmp => false
  | .replace => false
  | .copymode => false
  | .closeTmp => false
  | .truncate _ => false
  | .openW _ => false
  | .seekW _ _ => false
  | .writeW _ _ => false
  | .closeW _ => false
  | _ => true

/-- Well-formed initial state: every named inode is below the allocation counter, the temporary
file does not exist yet (the `mkdtemp` contract) and no handle is open. -/
structure WF (s : St) : Prop where
  named : ∀ p i, s.fs.file p = some i → i < s.fs.next
  fresh : s.fs.file .tmpFile = none
  nofd : s.fd = none
  nowfd : ∀ w, s.wfd w = none

/-- "Nothing the caller can see has changed since `s0`" — the invariant of every state before
`os.replace` and of every state of a failed save. -/
structure Old (s0 s : St) : Prop where
  user : ∀ n, s.fs.file (.user n) = s0.fs.file (.user n)
  udir : ∀ n, s.fs.isDir (.user n) = s0.fs.isDir (.user n)
  data : ∀ j, j < s0.fs.next → s.fs.data j = s0.fs.data j
  mode : ∀ j, j < s0.fs.next → s.fs.mode j = s0.fs.mode j
  next : s0.fs.next ≤ s.fs.next
  tmp : ∀ i, s.fs.file .tmpFile = some i → s0.fs.next ≤ i
  fd : ∀ i, s.fd = some i → s0.fs.next ≤ i
  wfd : ∀ w i p, s.wfd w = some (i, p) → s0.fs.next ≤ i
  valid : s.valid = s0.valid
  mapped : ∀ i, s.mapped i = s0.mapped i ∨ s.mapped i = none
  replaced : s.replaced = s0.replaced

theorem Old.refl (s : St) (h : WF s) : Old s s :=
  ⟨fun _ => rfl, fun _ => rfl, fun _ _ => rfl, fun _ _ => rfl, Nat.le_refl _,
   fun i hi => by simp [h.fresh] at hi, fun i hi => by simp [h.nofd] at hi,
   fun w i p hw => by simp [h.nowfd] at hw, rfl, fun _ => Or.inl rfl, rfl⟩

theorem old_data_upd {s0 s : St} (h : Old s0 s) {i : Nat} (hi : s0.fs.next ≤ i) (b : Bytes) :
    ∀ j, j < s0.fs.next → upd s.fs.data i b j = s0.fs.data j :=
  fun j hj => (upd_ne _ _ (by omega)).trans (h.data j hj)

theorem old_wfd_upd {s0 s : St} (h : Old s0 s) (w : Nat) {i : Nat} (hi : s0.fs.next ≤ i) (p : Nat) :
    ∀ w' i' p', upd s.wfd w (some (i, p)) w' = some (i', p') → s0.fs.next ≤ i' := by
  intro w' i' p' hw
  simp only [upd] at hw
  split at hw
  · simp only [Option.some.injEq, Prod.mk.injEq] at hw; omega
  · exact h.wfd w' i' p' hw

theorem old_apply (env : Env) {s0 s : St} (e : Eff) (he : e.tmpOnly = true) (h : Old s0 s) :
    Old s0 (apply env s e) := by
  cases e with
  | replace => cases he
  | invalidate i => cases he
  | loadSmall i e => cases he
  | mkdtemp => exact { h with udir := fun n => by simp [apply, upd, h.udir] }
  | openTmp =>
    simp only [apply]
    split
    · rename_i i hi
      exact { h with data := old_data_upd h (h.tmp i hi) _, fd := fun k hk => by simp at hk; exact hk ▸ h.tmp i hi }
    · have hn := h.next
      exact { h with
        user := fun n => by simp [upd, h.user]
        data := old_data_upd h hn _
        mode := fun j hj => (upd_ne _ _ (by omega)).trans (h.mode j hj)
        next := Nat.le_succ_of_le hn
        tmp := fun k hk => by simp [upd] at hk; omega
        fd := fun k hk => by simp at hk; omega }
  | callback i => exact h
  | seek off => exact { h with }
  | write bs =>
    simp only [apply]
    split
    · rename_i i hi
      exact { h with data := old_data_upd h (h.fd i hi) _ }
    · exact h
  | closeTmp => exact { h with fd := fun i hi => by simp [apply] at hi }
  | release i =>
    refine { h with mapped := fun k => ?_ }
    by_cases hk : k = i
    · right; simp [apply, upd, hk]
    · simp [apply, upd, hk]; exact h.mapped k
  | copymode =>
    simp only [apply]
    split
    · rename_i d t hd ht
      have := h.tmp t ht
      exact { h with mode := fun j hj => (upd_ne _ _ (by omega)).trans (h.mode j hj) }
    · exact h
  | removeTmp =>
    exact { h with user := fun n => by simp [apply, upd, h.user], tmp := fun i hi => by simp [apply, upd] at hi }
  | rmdirTmp =>
    simp only [apply]
    split
    · exact h
    · exact { h with udir := fun n => by simp [upd, h.udir] }
  | truncate n =>
    simp only [apply]
    split
    · rename_i i hi
      exact { h with data := old_data_upd h (h.fd i hi) _ }
    · exact h
  | openW w =>
    simp only [apply]
    split
    · rename_i i hi
      exact { h with wfd := old_wfd_upd h w (h.tmp i hi) 0 }
    · exact h
  | seekW w off =>
    simp only [apply]
    split
    · rename_i i p0 hi
      exact { h with wfd := old_wfd_upd h w (h.wfd w i p0 hi) off }
    · exact h
  | writeW w bs =>
    simp only [apply]
    split
    · rename_i i p0 hi
      have := h.wfd w i p0 hi
      exact { h with data := old_data_upd h this _, wfd := old_wfd_upd h w this _ }
    · exact h
  | closeW w =>
    refine { h with wfd := fun w' i' p' hw => ?_ }
    simp only [apply, upd] at hw
    split at hw
    · cases hw
    · exact h.wfd w' i' p' hw

/-- Only `write` and `writeW` have a partial effect (a prefix of the bytes gets through). -/
theorem applyPartial_keeps {P : St → Prop} (env : Env) (s : St) (e : Eff) (p : Nat) (hs : P s)
    (hw : ∀ bs, e = .write bs → P (apply env s (.write (bs.take p))))
    (hW : ∀ w bs, e = .writeW w bs → P (apply env s (.writeW w (bs.take p)))) : P (applyPartial env s e p) := by
  cases e <;> first | exact hs | exact hw _ rfl | exact hW _ _ rfl

theorem old_partial (env : Env) {s0 s : St} (e : Eff) (p : Nat) (h : Old s0 s) :
    Old s0 (applyPartial env s e p) :=
  applyPartial_keeps env s e p h (fun _ _ => old_apply env _ rfl h) (fun _ _ _ => old_apply env _ rfl h)

theorem runList_nil (env : Env) (f : Nat → Option Nat) (n : Nat) (s : St) : runList env f [] n s = ⟨[], s, false⟩ := rfl

theorem runList_cons_some (env : Env) {f : Nat → Option Nat} {n p : Nat} (h : f n = some p)
    (e : Eff) (es : List Eff) (s : St) :
    runList env f (e :: es) n s =
      ⟨[⟨e, true, applyPartial env s e p⟩], applyPartial env s e p, true⟩ := by
  simp [runList, h]

theorem runList_cons_none (env : Env) {f : Nat → Option Nat} {n : Nat} (h : f n = none)
    (e : Eff) (es : List Eff) (s : St) :
    runList env f (e :: es) n s =
      ⟨⟨e, false, apply env s e⟩ :: (runList env f es (n + 1) (apply env s e)).steps,
       (runList env f es (n + 1) (apply env s e)).final,
       (runList env f es (n + 1) (apply env s e)).faulted⟩ := by
  simp [runList, h]

theorem runList_inv (env : Env) (f : Nat → Option Nat) {P : St → Prop} :
    ∀ (es : List Eff) (n : Nat) (s : St), P s →
      (∀ e ∈ es, ∀ s, P s → P (apply env s e)) →
      (∀ e ∈ es, ∀ s p, P s → P (applyPartial env s e p)) →
      P (runList env f es n s).final ∧ ∀ st ∈ (runList env f es n s).steps, P st.st
  | [], _, s, hs, _, _ => by simp [runList, hs]
  | e :: es, n, s, hs, ha, hp => by
    simp only [runList]
    split
    · rename_i p _
      have := hp e (by simp) s p hs
      simp [this]
    · have h1 := ha e (by simp) s hs
      have ih := runList_inv env f es (n + 1) (apply env s e) h1
        (fun e' he' => ha e' (by simp [he'])) (fun e' he' => hp e' (by simp [he']))
      refine ⟨ih.1, ?_⟩
      intro st hst
      simp only [List.mem_cons] at hst
      rcases hst with rfl | hst
      · exact h1
      · exact ih.2 st hst

theorem runList_faultFree_not_faulted (env : Env) :
    ∀ (es : List Eff) (n : Nat) (s : St), (runList env (fun _ => none) es n s).faulted = false
  | [], _, _ => by simp [runList]
  | e :: es, n, s => by
    simp only [runList]
    exact runList_faultFree_not_faulted env es (n + 1) (apply env s e)

theorem runList_none_index (env : Env) :
    ∀ (es : List Eff) (n m : Nat) (s : St),
      runList env (fun _ => none) es n s = runList env (fun _ => none) es m s
  | [], _, _, _ => by simp [runList]
  | e :: es, n, m, s => by
    simp only [runList]
    rw [runList_none_index env es (n + 1) (m + 1)]

theorem runList_length_of_not_faulted (env : Env) (f : Nat → Option Nat) :
    ∀ (es : List Eff) (n : Nat) (s : St), (runList env f es n s).faulted = false →
      (runList env f es n s).steps.length = es.length
  | [], _, _, _ => by simp [runList]
  | e :: es, n, s, h => by
    simp only [runList] at h ⊢
    cases hn : f n with
    | some p => simp [hn] at h
    | none =>
      simp only [hn] at h ⊢
      simp only [List.length_cons]
      rw [runList_length_of_not_faulted env f es (n + 1) (apply env s e) h]

theorem runList_append (env : Env) (f : Nat → Option Nat) :
    ∀ (xs ys : List Eff) (n : Nat) (s : St),
      runList env f (xs ++ ys) n s =
        if (runList env f xs n s).faulted then runList env f xs n s
        else
          ⟨(runList env f xs n s).steps ++ (runList env f ys (n + xs.length) (runList env f xs n s).final).steps,
           (runList env f ys (n + xs.length) (runList env f xs n s).final).final,
           (runList env f ys (n + xs.length) (runList env f xs n s).final).faulted⟩
  | [], ys, n, s => by simp [runList]
  | x :: xs, ys, n, s => by
    cases hn : f n with
    | some p => simp [runList_cons_some env hn]
    | none =>
      simp only [List.cons_append, runList_cons_none env hn]
      rw [runList_append env f xs ys (n + 1) (apply env s x)]
      split
      · simp
      · simp [Nat.add_assoc, Nat.add_comm 1]


theorem runList_congr (env : Env) {f g : Nat → Option Nat} :
    ∀ (es : List Eff) (n : Nat) (s : St), (∀ j, n ≤ j → j < n + es.length → f j = g j) →
      runList env f es n s = runList env g es n s
  | [], _, _, _ => rfl
  | e :: es, n, s, h => by
    have hn := h n (Nat.le_refl n) (by simp)
    have ih := fun s' => runList_congr env es (n + 1) s' (fun j h1 h2 => h j (by omega) (by simp at h2 ⊢; omega))
    simp only [runList, ← hn, ih]

/-- Only the last visited index of a run that raised is a fault index. -/
theorem runList_none_of_visited (env : Env) (f : Nat → Option Nat) :
    ∀ (es : List Eff) (n : Nat) (s : St) (i : Nat), n ≤ i → i < n + (runList env f es n s).steps.length →
      ((runList env f es n s).faulted = false ∨ i + 1 < n + (runList env f es n s).steps.length) → f i = none
  | [], n, _, i, h1, h2, _ => by simp [runList] at h2; omega
  | e :: es, n, s, i, h1, h2, h3 => by
    cases hn : f n with
    | some q =>
      rw [runList_cons_some env hn] at h2 h3
      rcases h3 with h3 | h3
      · cases h3
      · simp at h2 h3; omega
    | none =>
      rw [runList_cons_none env hn] at h2 h3
      by_cases hi : i = n
      · rw [hi]; exact hn
      · exact runList_none_of_visited env f es (n + 1) _ i (by omega) (by simp at h2; omega)
          (h3.imp id fun h => by simp at h; omega)

theorem fault_eq_none_of_not_faulted (env : Env) (f : Nat → Option Nat) (es : List Eff) (n : Nat) (s : St)
    (h : (runList env f es n s).faulted = false) (j : Nat) (h1 : n ≤ j) (h2 : j < n + es.length) : f j = none :=
  runList_none_of_visited env f es n s j h1 (by rw [runList_length_of_not_faulted env f es n s h]; exact h2) (Or.inl h)

theorem runList_eq_faultFree_of_not_faulted (env : Env) (f : Nat → Option Nat) (es : List Eff) (n : Nat) (s : St)
    (h : (runList env f es n s).faulted = false) : runList env f es n s = runList env (fun _ => none) es n s :=
  runList_congr env es n s (fault_eq_none_of_not_faulted env f es n s h)

theorem runList_eq_faultFree_of_late (env : Env) (f : Nat → Option Nat) (es : List Eff) (n : Nat) (s : St)
    (h : ∀ m, n ≤ m → f m = none) : runList env f es n s = runList env (fun _ => none) es n s :=
  runList_congr env es n s fun j h1 _ => h j h1

theorem runList_fault_in_range (env : Env) (f : Nat → Option Nat) {k p : Nat} (hk : f k = some p) (es : List Eff)
    (n : Nat) (s : St) (h1 : n ≤ k) (h2 : k < n + es.length) : (runList env f es n s).faulted = true := by
  cases hf : (runList env f es n s).faulted with
  | true => rfl
  | false => rw [fault_eq_none_of_not_faulted env f es n s hf k h1 h2] at hk; cases hk

theorem runList_faulted_last (env : Env) (f : Nat → Option Nat) :
    ∀ (es : List Eff) (n : Nat) (s : St), (runList env f es n s).faulted = true →
      0 < (runList env f es n s).steps.length ∧
      ∃ p, f (n + (runList env f es n s).steps.length - 1) = some p
  | [], _, _, h => by simp [runList] at h
  | e :: es, n, s, h => by
    cases hn : f n with
    | some q =>
      rw [runList_cons_some env hn]
      exact ⟨by simp, q, by simpa using hn⟩
    | none =>
      rw [runList_cons_none env hn] at h ⊢
      have ih := runList_faulted_last env f es (n + 1) _ h
      refine ⟨by simp, ?_⟩
      rcases ih.2 with ⟨p, hp⟩
      refine ⟨p, ?_⟩
      simp only [List.length_cons]
      have : n + ((runList env f es (n + 1) (apply env s e)).steps.length + 1) - 1 =
          n + 1 + (runList env f es (n + 1) (apply env s e)).steps.length - 1 := by omega
      rw [this]; exact hp

theorem old_content {s0 s : St} (h0 : WF s0) (h : Old s0 s) (n : String) :
    content s (.user n) = content s0 (.user n) :=
  file_map_congr (h.user n) fun i hi => h.data i (h0.named _ _ hi)

theorem old_mode {s0 s : St} (h0 : WF s0) (h : Old s0 s) (n : String) :
    (s.fs.file (.user n)).map s.fs.mode = (s0.fs.file (.user n)).map s0.fs.mode :=
  file_map_congr (h.user n) fun i hi => h.mode i (h0.named _ _ hi)

theorem old_read {s0 s : St} (h0 : WF s0) (h : Old s0 s) (i : Nat) (e : Ext)
    (hm : ∀ m, s0.mapped i = some m → s0.fs.file (.user e.path) = some m) :
    readT s i e = readT s0 i e := by
  simp only [readT, h.valid, h.user]
  cases hv : s0.valid i with
  | false => rfl
  | true =>
    simp only [if_true]
    cases hm0 : s0.mapped i with
    | none =>
      have : s.mapped i = none := by
        rcases h.mapped i with hh | hh
        · rw [hh, hm0]
        · exact hh
      simp only [this]
      cases hf : s0.fs.file (.user e.path) with
      | none => rfl
      | some m => simp [h.data m (h0.named _ _ hf)]
    | some m =>
      have hf := hm m hm0
      have hlt := h0.named _ _ hf
      rcases h.mapped i with hh | hh
      · simp [hh, hm0, h.data m hlt]
      · simp [hh, hf, h.data m hlt]

theorem Old.view {s0 s : St} (h0 : WF s0) (h : Old s0 s) :
    (∀ n, s.fs.file (.user n) = s0.fs.file (.user n) ∧ content s (.user n) = content s0 (.user n) ∧
          (s.fs.file (.user n)).map s.fs.mode = (s0.fs.file (.user n)).map s0.fs.mode) ∧
    s.valid = s0.valid ∧
    (∀ i e, (∀ m, s0.mapped i = some m → s0.fs.file (.user e.path) = some m) → readT s i e = readT s0 i e) :=
  ⟨fun n => ⟨h.user n, old_content h0 h n, old_mode h0 h n⟩, h.valid, fun i e hm => old_read h0 h i e hm⟩

/-! ### After `os.replace`: nothing changes content or caller-visible names any more -/

structure Frozen (s1 s : St) : Prop where
  user : ∀ n, s.fs.file (.user n) = s1.fs.file (.user n)
  data : ∀ j, s.fs.data j = s1.fs.data j
  mode : ∀ j, s.fs.mode j = s1.fs.mode j
  next : s.fs.next = s1.fs.next
  fd : s.fd = s1.fd
  tmp : s1.fs.file .tmpFile = none → s.fs.file .tmpFile = none
  replaced : s.replaced = s1.replaced

theorem Frozen.refl (s : St) : Frozen s s :=
  ⟨fun _ => rfl, fun _ => rfl, fun _ => rfl, rfl, rfl, fun h => h, rfl⟩

theorem frozen_content {s1 s : St} (h : Frozen s1 s) (n : String) :
    content s (.user n) = content s1 (.user n) :=
  file_map_congr (h.user n) fun i _ => h.data i

theorem frozen_apply (env : Env) {s1 s : St} (e : Eff) (he : e.noData = true) (h : Frozen s1 s) :
    Frozen s1 (apply env s e) := by
  cases e with
  | removeTmp =>
    exact ⟨fun n => by simp [apply, upd, h.user], h.data, h.mode, h.next, h.fd,
      fun _ => by simp [apply, upd], h.replaced⟩
  | rmdirTmp =>
    simp only [apply]
    split
    · exact h
    · exact ⟨h.user, h.data, h.mode, h.next, h.fd, h.tmp, h.replaced⟩
  | mkdtemp | callback _ | seek _ | release _ | invalidate _ | loadSmall _ _ =>
    exact ⟨h.user, h.data, h.mode, h.next, h.fd, h.tmp, h.replaced⟩
  | _ => cases he

theorem frozen_partial (env : Env) {s1 s : St} (e : Eff) (p : Nat) (he : e.noData = true)
    (h : Frozen s1 s) : Frozen s1 (applyPartial env s e p) :=
  applyPartial_keeps env s e p h (fun _ hb => by subst hb; cases he) (fun _ _ hb => by subst hb; cases he)

/-- State right after a successful `os.replace` in the run that starts at `s0`. -/
def afterReplace (env : Env) (body : List Eff) (n0 : Nat) (s0 : St) : St :=
  apply env (runList env (fun _ => none) body (n0 + 1) (apply env s0 .mkdtemp)).final .replace

theorem saveWith_fault_mkdtemp (env : Env) (body post : List Eff) {f : Nat → Option Nat} {n0 p : Nat}
    (h : f n0 = some p) (s0 : St) :
    saveWith env body post f n0 s0 = ⟨[⟨.mkdtemp, true, s0⟩], s0, true⟩ := by
  simp [saveWith, runList_cons_some env h, applyPartial]

theorem saveWith_ok_mkdtemp (env : Env) (body post : List Eff) {f : Nat → Option Nat} {n0 : Nat}
    (h : f n0 = none) (s0 : St) :
    saveWith env body post f n0 s0 =
      (let s1 := apply env s0 .mkdtemp
       let b := runList env f (body ++ [.replace]) (n0 + 1) s1
       let c := runList env f [.removeTmp, .rmdirTmp] (n0 + 1 + b.steps.length) b.final
       if b.faulted || c.faulted then ⟨⟨.mkdtemp, false, s1⟩ :: (b.steps ++ c.steps), c.final, true⟩
       else
         let d := runList env f post (n0 + 1 + b.steps.length + c.steps.length) c.final
         ⟨⟨.mkdtemp, false, s1⟩ :: (b.steps ++ c.steps ++ d.steps), d.final, d.faulted⟩) := by
  unfold saveWith
  rw [runList_cons_none env h]
  simp [runList]

/-- The three ways a run of `saveWith` can go. `mkdtemp` fails. Or the `try` block stops at its first fault index `j`:
the body `B` raised, or it ran through and `os.replace` failed (`tail`, leaving the state as it is); the handlers run
from `j + 1`. Or no index up to `os.replace` is a fault: the body is the fault-free one, the replace succeeds, and
clean-up and `post` run as one list from the state right after it. -/
inductive SaveShape (env : Env) (body post : List Eff) (f : Nat → Option Nat) (n0 : Nat) (s0 : St) : Res → Prop
  | mkdtempF (p : Nat) : f n0 = some p → SaveShape env body post f n0 s0 ⟨[⟨.mkdtemp, true, s0⟩], s0, true⟩
  | tryF (B c : Res) (tail : List Step) (j p : Nat) : f n0 = none →
      B = runList env f body (n0 + 1) (apply env s0 .mkdtemp) → (∀ st ∈ tail, st.st = B.final) →
      n0 + (B.steps ++ tail).length = j → f j = some p → (∀ i, n0 ≤ i → i < j → f i = none) →
      c = runList env f [.removeTmp, .rmdirTmp] (j + 1) B.final →
      SaveShape env body post f n0 s0
        ⟨⟨.mkdtemp, false, apply env s0 .mkdtemp⟩ :: (B.steps ++ tail ++ c.steps), c.final, true⟩
  | replaced (B t : Res) : (∀ k, n0 ≤ k → k ≤ n0 + 1 + body.length → f k = none) →
      B = runList env (fun _ => none) body (n0 + 1) (apply env s0 .mkdtemp) →
      t = runList env f ([.removeTmp, .rmdirTmp] ++ post) (n0 + 1 + (body.length + 1)) (afterReplace env body n0 s0) →
      SaveShape env body post f n0 s0
        ⟨⟨.mkdtemp, false, apply env s0 .mkdtemp⟩ ::
          (B.steps ++ ⟨.replace, false, afterReplace env body n0 s0⟩ :: t.steps), t.final, t.faulted⟩

theorem saveWith_shape (env : Env) (body post : List Eff) (f : Nat → Option Nat) (n0 : Nat) (s0 : St) :
    SaveShape env body post f n0 s0 (saveWith env body post f n0 s0) := by
  -- nothing beyond the definition: the length is the bookkeeping between `n0 + 1 + steps.length` and the fault index `j`
  cases hf0 : f n0 with
  | some p => rw [saveWith_fault_mkdtemp env body post hf0]; exact .mkdtempF p hf0
  | none =>
    rw [saveWith_ok_mkdtemp env body post hf0]
    dsimp only
    rw [runList_append env f body [.replace]]
    have hlast := runList_faulted_last env f body (n0 + 1) (apply env s0 .mkdtemp)
    have hlen := runList_length_of_not_faulted env f body (n0 + 1) (apply env s0 .mkdtemp)
    have hno := fault_eq_none_of_not_faulted env f body (n0 + 1) (apply env s0 .mkdtemp)
    have hff := runList_eq_faultFree_of_not_faulted env f body (n0 + 1) (apply env s0 .mkdtemp)
    have hvis := runList_none_of_visited env f body (n0 + 1) (apply env s0 .mkdtemp)
    generalize hB : runList env f body (n0 + 1) (apply env s0 .mkdtemp) = B at hlast hlen hno hff hvis ⊢
    have hfirst : ∀ i, n0 ≤ i → i < n0 + B.steps.length → f i = none := fun i h1 h2 => by
      by_cases hi : i = n0
      · rw [hi]; exact hf0
      · exact hvis i (by omega) (by omega) (Or.inr (by omega))
    cases hBf : B.faulted with
    | true =>
      obtain ⟨_, p, hp⟩ := hlast hBf
      rw [if_pos rfl, hBf, Bool.true_or, if_pos rfl, show n0 + 1 + B.steps.length = n0 + B.steps.length + 1 by omega]
      have h := SaveShape.tryF (post := post) B _ [] (n0 + B.steps.length) p hf0 hB.symm (fun _ h => nomatch h)
        (by rw [List.append_nil]) (by rw [← hp]; congr 1; omega) hfirst rfl
      rwa [List.append_nil] at h
    | false =>
      rw [if_neg Bool.false_ne_true]
      cases hr : f (n0 + 1 + body.length) with
      | some p =>
        rw [runList_cons_some env hr]
        dsimp only
        rw [Bool.true_or, if_pos rfl, show ∀ k, n0 + 1 + k = n0 + k + 1 from fun k => by omega]
        exact .tryF B _ [⟨.replace, true, B.final⟩] _ p hf0 hB.symm (fun st h => by rw [List.mem_singleton.mp h]) rfl
          (by rw [List.length_append, hlen hBf, List.length_singleton, ← hr]; congr 1; omega)
          (fun i h1 h2 => by
            rw [List.length_append, hlen hBf, List.length_singleton] at h2
            by_cases hi : i = n0
            · rw [hi]; exact hf0
            · exact hno hBf i (by omega) (by omega)) rfl
      | none =>
        have hnone : ∀ k, n0 ≤ k → k ≤ n0 + 1 + body.length → f k = none := fun k h1 h2 => by
          by_cases hk : k = n0
          · rw [hk]; exact hf0
          by_cases hk' : k = n0 + 1 + body.length
          · rw [hk']; exact hr
          · exact hno hBf k (by omega) (by omega)
        have hs := SaveShape.replaced (env := env) (s0 := s0) (post := post) _ _ hnone rfl rfl
        rw [runList_append env f [.removeTmp, .rmdirTmp] post] at hs
        have hl : (B.steps ++ [(⟨.replace, false, apply env B.final .replace⟩ : Step)]).length = body.length + 1 := by
          rw [List.length_append, hlen hBf, List.length_singleton]
        rw [runList_cons_none env hr, runList_nil]
        dsimp only
        rw [hl, Bool.false_or]
        obtain rfl := hff hBf
        rw [show apply env (runList env (fun _ => none) body (n0 + 1) (apply env s0 .mkdtemp)).final .replace =
          afterReplace env body n0 s0 from rfl]
        cases hcf : (runList env f [.removeTmp, .rmdirTmp] (n0 + 1 + (body.length + 1))
            (afterReplace env body n0 s0)).faulted with
        | true =>
          rw [if_pos rfl]; rw [hcf, if_pos rfl] at hs; rw [← hcf, List.append_assoc, List.singleton_append]; exact hs
        | false =>
          rw [if_neg Bool.false_ne_true, runList_length_of_not_faulted env f _ _ _ hcf]
          rw [hcf, if_neg Bool.false_ne_true] at hs
          simp only [List.append_assoc, List.singleton_append]
          exact hs

theorem cleanup_tmpOnly : ∀ e ∈ [Eff.removeTmp, Eff.rmdirTmp], e.tmpOnly = true := by
  intro e he; simp at he; rcases he with rfl | rfl <;> rfl

theorem cleanup_noData : ∀ e ∈ [Eff.removeTmp, Eff.rmdirTmp], e.noData = true := by
  intro e he; simp at he; rcases he with rfl | rfl <;> rfl

theorem runList_old (env : Env) (f : Nat → Option Nat) {s0 : St} (es : List Eff)
    (hes : ∀ e ∈ es, e.tmpOnly = true) (n : Nat) (s : St) (h : Old s0 s) :
    Old s0 (runList env f es n s).final ∧ ∀ st ∈ (runList env f es n s).steps, Old s0 st.st :=
  runList_inv env f es n s h (fun e he _ hs => old_apply env e (hes e he) hs)
    (fun e _ _ p hs => old_partial env e p hs)

/-- A two-phase invariant of `saveWith`: `Pre` holds from the start until `os.replace` (kept by `mkdtemp`, the
body, the handlers, and by every failing effect), `Post` holds right after the successful replace and is kept by the
handlers and `post`. -/
structure TwoPhase (env : Env) (body post : List Eff) (n0 : Nat) (s0 : St) (Pre Post : St → Prop) :
    Prop where
  init : Pre s0
  pre_apply : ∀ e ∈ Eff.mkdtemp :: body ++ [.removeTmp, .rmdirTmp], ∀ s, Pre s → Pre (apply env s e)
  pre_partial : ∀ e ∈ body ++ [.removeTmp, .rmdirTmp], ∀ s p, Pre s → Pre (applyPartial env s e p)
  at_replace : Post (afterReplace env body n0 s0)
  post_apply : ∀ e ∈ [Eff.removeTmp, Eff.rmdirTmp] ++ post, ∀ s, Post s → Post (apply env s e)
  post_partial : ∀ e ∈ [Eff.removeTmp, Eff.rmdirTmp] ++ post, ∀ s p, Post s → Post (applyPartial env s e p)

structure TwoPhaseRun (Pre Post : St → Prop) (f : Nat → Option Nat) (n0 hi : Nat) (r : Res) : Prop where
  steps : ∀ st ∈ r.steps, Pre st.st ∨ Post st.st
  final : Pre r.final ∨ Post r.final
  early : (∃ k p, f k = some p ∧ n0 ≤ k ∧ k ≤ hi) → r.faulted = true ∧ Pre r.final ∧ ∀ st ∈ r.steps, Pre st.st
  returned : r.faulted = false → Post r.final

theorem saveWith_two_phase {env : Env} {body post : List Eff} {n0 : Nat} {s0 : St}
    {Pre Post : St → Prop} (tp : TwoPhase env body post n0 s0 Pre Post) (f : Nat → Option Nat) :
    TwoPhaseRun Pre Post f n0 (n0 + 1 + body.length) (saveWith env body post f n0 s0) := by
  have h1 : Pre (apply env s0 .mkdtemp) := tp.pre_apply .mkdtemp (List.mem_cons_self ..) s0 tp.init
  have hB := fun g => runList_inv env g body (n0 + 1) (apply env s0 .mkdtemp) h1
    (fun e he => tp.pre_apply e (List.mem_cons_of_mem _ (List.mem_append_left _ he)))
    (fun e he => tp.pre_partial e (List.mem_append_left _ he))
  have hsh := saveWith_shape env body post f n0 s0
  generalize saveWith env body post f n0 s0 = r at hsh ⊢
  cases hsh with
  | mkdtempF p hp =>
    have hs : ∀ st ∈ [(⟨.mkdtemp, true, s0⟩ : Step)], Pre st.st := fun st hst => by
      rw [List.mem_singleton.mp hst]; exact tp.init
    exact ⟨fun st hst => Or.inl (hs st hst), Or.inl tp.init, fun _ => ⟨rfl, tp.init, hs⟩, fun h => nomatch h⟩
  | tryF B c tail j p hf0 hBe htail hj hp _ hc =>
    have hbb := hB f
    rw [← hBe] at hbb
    have hcc := runList_inv env f [.removeTmp, .rmdirTmp] (j + 1) B.final hbb.1
      (fun e he => tp.pre_apply e (List.mem_cons_of_mem _ (List.mem_append_right _ he)))
      (fun e he => tp.pre_partial e (List.mem_append_right _ he))
    rw [← hc] at hcc
    have hs : ∀ st ∈ (⟨.mkdtemp, false, apply env s0 .mkdtemp⟩ : Step) :: (B.steps ++ tail ++ c.steps),
        Pre st.st := by
      intro st hst
      simp only [List.mem_cons, List.mem_append] at hst
      rcases hst with rfl | (hst | hst) | hst
      · exact h1
      · exact hbb.2 st hst
      · rw [htail st hst]; exact hbb.1
      · exact hcc.2 st hst
    exact ⟨fun st hst => Or.inl (hs st hst), Or.inl hcc.1, fun _ => ⟨rfl, hcc.1, hs⟩, fun h => nomatch h⟩
  | replaced B t hnone hBe ht =>
    have hbb := hB (fun _ => none)
    rw [← hBe] at hbb
    have htt := runList_inv env f ([.removeTmp, .rmdirTmp] ++ post) (n0 + 1 + (body.length + 1)) _ tp.at_replace
      tp.post_apply tp.post_partial
    rw [← ht] at htt
    refine ⟨fun st hst => ?_, Or.inr htt.1, ?_, fun _ => htt.1⟩
    · simp only [List.mem_cons, List.mem_append] at hst
      rcases hst with rfl | hst | rfl | hst
      · exact Or.inl h1
      · exact Or.inl (hbb.2 st hst)
      · exact Or.inr tp.at_replace
      · exact Or.inr (htt.2 st hst)
    · rintro ⟨k, p, hk, hlo, hhi⟩
      rw [hnone k hlo hhi] at hk; cases hk

theorem saveWith_inv (env : Env) (body post : List Eff) {P : St → Prop} (ok : Eff → Bool)
    (hbody : ∀ e ∈ body, ok e = true) (hpost : ∀ e ∈ post, ok e = true)
    (hfix : ok .mkdtemp = true ∧ ok .replace = true ∧ ok .removeTmp = true ∧ ok .rmdirTmp = true)
    (ha : ∀ e, ok e = true → ∀ s, P s → P (apply env s e))
    (hp : ∀ e, ok e = true → ∀ p s, P s → P (applyPartial env s e p))
    (f : Nat → Option Nat) (n0 : Nat) (s0 : St) (h : P s0) :
    P (saveWith env body post f n0 s0).final ∧ ∀ st ∈ (saveWith env body post f n0 s0).steps, P st.st := by
  have hcl : ∀ e ∈ [Eff.removeTmp, Eff.rmdirTmp], ok e = true := fun e he => by
    rcases List.mem_cons.mp he with rfl | he
    · exact hfix.2.2.1
    · rw [List.mem_singleton.mp he]; exact hfix.2.2.2
  have hpre : ∀ e ∈ body ++ [Eff.removeTmp, Eff.rmdirTmp], ok e = true := fun e he =>
    (List.mem_append.mp he).elim (hbody e) (hcl e)
  have hpo : ∀ e ∈ [Eff.removeTmp, Eff.rmdirTmp] ++ post, ok e = true := fun e he =>
    (List.mem_append.mp he).elim (hcl e) (hpost e)
  have tp : TwoPhase env body post n0 s0 P P :=
    { init := h
      pre_apply := fun e he => ha e ((List.mem_cons.mp he).elim (fun h => h ▸ hfix.1) (hpre e))
      pre_partial := fun e he s p => hp e (hpre e he) p s
      at_replace := ha .replace hfix.2.1 _
        (runList_inv env _ body _ _ (ha .mkdtemp hfix.1 s0 h) (fun e he => ha e (hbody e he))
          (fun e he s p => hp e (hbody e he) p s)).1
      post_apply := fun e he => ha e (hpo e he)
      post_partial := fun e he s p => hp e (hpo e he) p s }
  have hr := saveWith_two_phase tp f
  exact ⟨hr.final.elim id id, fun st hst => (hr.steps st hst).elim id id⟩

theorem twoPhase_old (env : Env) (body post : List Eff) (hb : ∀ e ∈ body, e.tmpOnly = true) (s0 : St) (h0 : WF s0)
    (n0 : Nat) : TwoPhase env body post n0 s0 (Old s0) (fun _ => True) where
  init := Old.refl s0 h0
  pre_apply := fun e he _ hs => old_apply env e (by
    rcases List.mem_cons.mp he with rfl | he
    · rfl
    · exact (List.mem_append.mp he).elim (hb e) (cleanup_tmpOnly e)) hs
  pre_partial := fun e _ _ p hs => old_partial env e p hs
  at_replace := trivial
  post_apply := fun _ _ _ _ => trivial
  post_partial := fun _ _ _ _ _ => trivial

theorem twoPhase_old_frozen (env : Env) (body post : List Eff) (hb : ∀ e ∈ body, e.tmpOnly = true)
    (hp : ∀ e ∈ post, e.noData = true) (s0 : St) (h0 : WF s0) (n0 : Nat) :
    TwoPhase env body post n0 s0 (Old s0) (Frozen (afterReplace env body n0 s0)) :=
  { twoPhase_old env body post hb s0 h0 n0 with
    at_replace := Frozen.refl _
    post_apply := fun e he _ hs =>
      frozen_apply env e ((List.mem_append.mp he).elim (cleanup_noData e) (hp e)) hs
    post_partial := fun e he _ p hs =>
      frozen_partial env e p ((List.mem_append.mp he).elim (cleanup_noData e) (hp e)) hs }

theorem saveWith_faultFree_not_faulted (env : Env) (body post : List Eff) (n0 : Nat) (s0 : St) :
    (saveWith env body post (fun _ => none) n0 s0).faulted = false := by
  rw [saveWith_ok_mkdtemp env body post (f := fun _ => none) rfl]
  simp [runList_faultFree_not_faulted]

theorem saveWith_none_frozen (env : Env) (body post : List Eff) (hb : ∀ e ∈ body, e.tmpOnly = true)
    (hp : ∀ e ∈ post, e.noData = true) (s0 : St) (h0 : WF s0) (n0 : Nat) :
    Frozen (afterReplace env body n0 s0) (saveWith env body post (fun _ => none) n0 s0).final :=
  (saveWith_two_phase (twoPhase_old_frozen env body post hb hp s0 h0 n0) _).returned
    (saveWith_faultFree_not_faulted env body post n0 s0)

theorem saveWith_unreplaced_old (env : Env) (body post : List Eff) (hb : ∀ e ∈ body, e.tmpOnly = true)
    (hp : ∀ e ∈ post, e.noData = true) (s0 : St) (h0 : WF s0) (n0 : Nat) (f : Nat → Option Nat) :
    ∀ st ∈ (saveWith env body post f n0 s0).steps, st.st.replaced = false →
      ∀ n, content st.st (.user n) = content s0 (.user n) := by
  intro st hst hrep n
  rcases (saveWith_two_phase (twoPhase_old_frozen env body post hb hp s0 h0 n0) f).steps st hst with ho | hfz
  · exact old_content h0 ho n
  · -- `Frozen` with `replaced = false`: the body removed the temporary file, `os.replace` did nothing, the state is `Old`
    rw [frozen_content hfz]
    have ho2 : Old s0 (runList env (fun _ => none) body (n0 + 1) (apply env s0 .mkdtemp)).final :=
      (runList_old env (fun _ => none) body hb (n0 + 1) _ (old_apply env .mkdtemp rfl (Old.refl s0 h0))).1
    have hr := hfz.replaced
    rw [hrep] at hr
    unfold afterReplace at hr ⊢
    generalize (runList env (fun _ => none) body (n0 + 1) (apply env s0 .mkdtemp)).final = s2 at ho2 hr ⊢
    cases ht : s2.fs.file .tmpFile with
    | some t => simp [apply, ht] at hr
    | none =>
      have : apply env s2 .replace = s2 := by simp [apply, ht]
      rw [this]
      exact old_content h0 ho2 n

theorem saveWith_early_fault (env : Env) (body post : List Eff) (hb : ∀ e ∈ body, e.tmpOnly = true)
    (s0 : St) (h0 : WF s0) (n0 : Nat) (f : Nat → Option Nat) (k p : Nat) (hk : f k = some p)
    (hlo : n0 ≤ k) (hhi : k ≤ n0 + 1 + body.length) :
    (saveWith env body post f n0 s0).faulted = true ∧ Old s0 (saveWith env body post f n0 s0).final ∧
    ∀ st ∈ (saveWith env body post f n0 s0).steps, Old s0 st.st :=
  (saveWith_two_phase (twoPhase_old env body post hb s0 h0 n0) f).early ⟨k, p, hk, hlo, hhi⟩

/-- The first fault `k` is at or before `os.replace` and the two handlers right after it meet none: raised, nothing
visible changed, both temporary paths removed. -/
theorem saveWith_handlers_clean (env : Env) (body post : List Eff) (hb : ∀ e ∈ body, e.tmpOnly = true)
    (s0 : St) (h0 : WF s0) (hdir : s0.fs.isDir .tmpDir = false) (n0 : Nat) (f : Nat → Option Nat)
    (k p : Nat) (hk : f k = some p) (hfirst : ∀ n, n0 ≤ n → n < k → f n = none)
    (h1 : f (k + 1) = none) (h2 : f (k + 1 + 1) = none) (hlo : n0 ≤ k) (hhi : k ≤ n0 + 1 + body.length) :
    (saveWith env body post f n0 s0).faulted = true ∧
    Old s0 (saveWith env body post f n0 s0).final ∧
    (saveWith env body post f n0 s0).final.fs.file .tmpFile = none ∧
    (saveWith env body post f n0 s0).final.fs.isDir .tmpDir = false := by
  have h := saveWith_early_fault env body post hb s0 h0 n0 f k p hk hlo hhi
  refine ⟨h.1, h.2.1, ?_⟩
  have hsh := saveWith_shape env body post f n0 s0
  generalize saveWith env body post f n0 s0 = r at hsh ⊢
  cases hsh with
  | mkdtempF q hq => exact ⟨h0.fresh, hdir⟩
  | tryF B c tail j q hf0 hB htail hj hq hj1 hc =>
    -- both `j` and `k` are the first fault
    have : j = k := Nat.le_antisymm
      (Nat.le_of_not_lt fun hlt => by rw [hj1 k hlo hlt] at hk; cases hk)
      (Nat.le_of_not_lt fun hlt => by rw [hfirst j (by omega) hlt] at hq; cases hq)
    subst this
    rw [hc, runList_cons_none env h1, runList_cons_none env h2]
    simp [runList, apply, upd]
  | replaced B t hnone _ _ => rw [hnone k hlo hhi] at hk; cases hk

theorem writeAt_nil (buf : Bytes) (pos : Nat) : writeAt buf pos [] = buf := by simp [writeAt]

theorem writeAt_ne (buf : Bytes) (pos : Nat) (a : Bytes) (h : a ≠ []) :
    writeAt buf pos a =
      (buf.take pos ++ List.replicate (pos - buf.length) 0) ++ a ++ buf.drop (pos + a.length) := by
  cases a with
  | nil => exact absurd rfl h
  | cons x xs => simp [writeAt]

theorem pad_length (buf : Bytes) (pos : Nat) :
    (buf.take pos ++ List.replicate (pos - buf.length) 0).length = pos := by
  simp [List.length_take]; omega

theorem writeAt_after (P a S b : Bytes) (hb : b ≠ []) :
    writeAt (P ++ a ++ S) (P.length + a.length) b = P ++ a ++ b ++ S.drop b.length := by
  rw [writeAt_ne _ _ _ hb]
  have h1 : List.take (P.length + a.length) (P ++ a ++ S) = P ++ a :=
    List.take_left' (by simp)
  have h2 : P.length + a.length - (P ++ a ++ S).length = 0 := by simp
  have h3 : List.drop (P.length + a.length + b.length) (P ++ a ++ S) = S.drop b.length := by
    rw [List.drop_append]
    have : List.drop (P.length + a.length + b.length) (P ++ a) = [] := by
      apply List.drop_eq_nil_of_le; simp
    rw [this]
    simp
  rw [h1, h2, h3]
  simp

theorem writeAt_append (buf : Bytes) (pos : Nat) (a b : Bytes) :
    writeAt (writeAt buf pos a) (pos + a.length) b = writeAt buf pos (a ++ b) := by
  by_cases ha : a = []
  · subst ha; simp [writeAt_nil]
  by_cases hb : b = []
  · subst hb; simp [writeAt_nil]
  have hab : a ++ b ≠ [] := by simp [ha]
  rw [writeAt_ne _ _ _ ha, writeAt_ne _ _ _ hab]
  have hp := pad_length buf pos
  generalize List.take pos buf ++ List.replicate (pos - buf.length) 0 = P at hp
  subst hp
  rw [writeAt_after _ _ _ _ hb]
  simp [List.drop_drop, Nat.add_assoc]


theorem pad_getD (buf : Bytes) (pos x : Nat) (hx : x < pos) :
    (buf.take pos ++ List.replicate (pos - buf.length) 0).getD x 0 = buf.getD x 0 := by
  simp only [List.getD_eq_getElem?_getD]
  by_cases hl : x < buf.length
  · rw [List.getElem?_append_left (by rw [List.length_take]; omega), List.getElem?_take_of_lt hx]
  · rw [List.getElem?_append_right (by rw [List.length_take]; omega), List.getElem?_eq_none (l := buf) (by omega),
      List.getElem?_replicate]
    split <;> rfl

theorem writeAt_getD (buf : Bytes) (pos : Nat) (bs : Bytes) (x : Nat) :
    (writeAt buf pos bs).getD x 0 =
      if pos ≤ x ∧ x < pos + bs.length then bs.getD (x - pos) 0 else buf.getD x 0 := by
  by_cases hb : bs = []
  · subst hb
    rw [writeAt_nil, if_neg (by simp only [List.length_nil]; omega)]
  -- `writeAt` is `P ++ bs ++ S` with `|P| = pos`: position `x` lies in one of the three pieces
  rw [writeAt_ne _ _ _ hb]
  have hp := pad_length buf pos
  have hg := pad_getD buf pos x
  generalize buf.take pos ++ List.replicate (pos - buf.length) 0 = P at hp hg
  simp only [List.getD_eq_getElem?_getD] at hg ⊢
  by_cases h1 : x < pos
  · rw [if_neg (by omega), List.append_assoc, List.getElem?_append_left (by omega)]
    exact hg h1
  · by_cases h2 : x < pos + bs.length
    · rw [if_pos ⟨by omega, h2⟩, List.getElem?_append_left (by rw [List.length_append]; omega),
        List.getElem?_append_right (by omega), hp]
    · rw [if_neg (by omega), List.getElem?_append_right (by rw [List.length_append]; omega), List.getElem?_drop,
        List.length_append, hp]
      congr 2
      omega

theorem writeAt_length (buf : Bytes) (pos : Nat) (bs : Bytes) (h : pos + bs.length ≤ buf.length) :
    (writeAt buf pos bs).length = buf.length := by
  by_cases hb : bs = []
  · rw [hb, writeAt_nil]
  · rw [writeAt_ne _ _ _ hb, List.length_append, List.length_append, pad_length, List.length_drop]
    omega

def applyAll (env : Env) (es : List Eff) (s : St) : St := es.foldl (apply env) s

theorem applyAll_append (env : Env) (xs ys : List Eff) (s : St) :
    applyAll env (xs ++ ys) s = applyAll env ys (applyAll env xs s) := by
  simp [applyAll, List.foldl_append]

theorem runList_none_final (env : Env) :
    ∀ (es : List Eff) (n : Nat) (s : St),
      (runList env (fun _ => none) es n s).final = applyAll env es s
  | [], _, _ => by simp [runList, applyAll]
  | e :: es, n, s => by
    simp only [runList, applyAll, List.foldl_cons]
    exact runList_none_final env es (n + 1) (apply env s e)

theorem writes_spec (env : Env) (t : Nat) :
    ∀ (chunks : List Bytes) (s : St), s.fd = some t →
      (applyAll env (chunks.map .write) s).fd = some t ∧
      (applyAll env (chunks.map .write) s).fs.file = s.fs.file ∧
      (applyAll env (chunks.map .write) s).fs.data t = writeAt (s.fs.data t) s.pos chunks.flatten ∧
      (applyAll env (chunks.map .write) s).pos = s.pos + chunks.flatten.length
  | [], s, h => by simp [applyAll, h, writeAt_nil]
  | c :: cs, s, h => by
    have ih := writes_spec env t cs (apply env s (.write c)) (by simp [apply, h])
    simp only [List.map_cons, applyAll, List.foldl_cons] at ih ⊢
    refine ⟨ih.1, ?_, ?_, ?_⟩
    · rw [ih.2.1]; simp [apply, h]
    · rw [ih.2.2.1]
      simp only [apply, h, upd_same, List.flatten_cons]
      exact writeAt_append _ _ _ _
    · rw [ih.2.2.2]
      simp [apply, h, Nat.add_assoc]

theorem tensorEffs_spec (env : Env) (t : Nat) (cb : Bool) (i : Nat) (x : Tensor) (s : St)
    (h : s.fd = some t) :
    (applyAll env (tensorEffs cb i x) s).fd = some t ∧
    (applyAll env (tensorEffs cb i x) s).fs.file = s.fs.file ∧
    (applyAll env (tensorEffs cb i x) s).fs.data t = writeAt (s.fs.data t) x.off x.chunks.flatten := by
  have key : ∀ s' : St, s'.fd = some t → s'.fs = s.fs →
      (applyAll env ([.seek x.off] ++ x.chunks.map .write) s').fd = some t ∧
      (applyAll env ([.seek x.off] ++ x.chunks.map .write) s').fs.file = s.fs.file ∧
      (applyAll env ([.seek x.off] ++ x.chunks.map .write) s').fs.data t =
        writeAt (s.fs.data t) x.off x.chunks.flatten := by
    intro s' hfd hfs
    rw [applyAll_append]
    have w := writes_spec env t x.chunks (applyAll env [.seek x.off] s')
      (by simp [applyAll, apply, hfd])
    refine ⟨w.1, ?_, ?_⟩
    · rw [w.2.1]; simp [applyAll, apply, hfs]
    · rw [w.2.2.1]; simp [applyAll, apply, hfs]
  unfold tensorEffs
  cases cb with
  | false => simpa using key s h rfl
  | true =>
    simp only [if_true, List.append_assoc]
    rw [applyAll_append]
    exact key _ (by simp [applyAll, apply, h]) (by simp [applyAll, apply])

theorem writeEffs_spec (env : Env) (t : Nat) (cb : Bool) :
    ∀ (ts : List Tensor) (i : Nat) (s : St), s.fd = some t →
      (applyAll env (writeEffs cb i ts) s).fd = some t ∧
      (applyAll env (writeEffs cb i ts) s).fs.file = s.fs.file ∧
      (applyAll env (writeEffs cb i ts) s).fs.data t =
        ts.foldl (fun b x => writeAt b x.off x.chunks.flatten) (s.fs.data t)
  | [], _, s, h => by simp [writeEffs, applyAll, h]
  | x :: ts, i, s, h => by
    simp only [writeEffs, applyAll_append, List.foldl_cons]
    have h1 := tensorEffs_spec env t cb i x s h
    have ih := writeEffs_spec env t cb ts (i + 1) _ h1.1
    refine ⟨ih.1, ?_, ?_⟩
    · rw [ih.2.1, h1.2.1]
    · rw [ih.2.2, h1.2.2]

theorem releases_spec (env : Env) :
    ∀ (is : List Nat) (s : St),
      (applyAll env (is.map .release) s).fs = s.fs ∧ (applyAll env (is.map .release) s).fd = s.fd
  | [], s => by simp [applyAll]
  | i :: is, s => by
    have ih := releases_spec env is (apply env s (.release i))
    simp only [List.map_cons, applyAll, List.foldl_cons] at ih ⊢
    exact ⟨by rw [ih.1]; simp [apply], by rw [ih.2]; simp [apply]⟩

theorem tryBody_end (cfg : Cfg) (s0 : St) (h0 : WF s0) :
    (applyAll cfg.env (tryBody cfg s0) (apply cfg.env s0 .mkdtemp)).fs.file .tmpFile = some s0.fs.next ∧
    (applyAll cfg.env (tryBody cfg s0) (apply cfg.env s0 .mkdtemp)).fs.data s0.fs.next = image cfg.tensors ∧
    (applyAll cfg.env (tryBody cfg s0) (apply cfg.env s0 .mkdtemp)).fd = none := by
  unfold tryBody
  simp only [applyAll_append]
  have ho : (applyAll cfg.env [.openTmp] (apply cfg.env s0 .mkdtemp)).fd = some s0.fs.next ∧
      (applyAll cfg.env [.openTmp] (apply cfg.env s0 .mkdtemp)).fs.file .tmpFile = some s0.fs.next ∧
      (applyAll cfg.env [.openTmp] (apply cfg.env s0 .mkdtemp)).fs.data s0.fs.next = [] := by
    simp [applyAll, apply, h0.fresh]
  generalize applyAll cfg.env [.openTmp] (apply cfg.env s0 .mkdtemp) = sa at ho
  have hw := writeEffs_spec cfg.env s0.fs.next cfg.cb cfg.tensors 0 sa ho.1
  generalize applyAll cfg.env (writeEffs cfg.cb 0 cfg.tensors) sa = sb at hw
  have hfile : sb.fs.file .tmpFile = some s0.fs.next := by rw [hw.2.1]; exact ho.2.1
  have hdata : sb.fs.data s0.fs.next = image cfg.tensors := by rw [hw.2.2, ho.2.2]; rfl
  have hc : (applyAll cfg.env [.closeTmp] sb).fs = sb.fs ∧ (applyAll cfg.env [.closeTmp] sb).fd = none := by
    simp [applyAll, apply]
  generalize applyAll cfg.env [.closeTmp] sb = sc at hc
  have hr := releases_spec cfg.env (overwritten cfg s0) sc
  generalize applyAll cfg.env ((overwritten cfg s0).map .release) sc = sd at hr
  have hfs : sd.fs = sb.fs := by rw [hr.1, hc.1]
  have hfd : sd.fd = none := by rw [hr.2, hc.2]
  split
  · -- copymode: permission bits only
    simp only [applyAll, List.foldl_cons, List.foldl_nil, apply]
    split
    · rename_i d tt hd ht
      simp only [hfs, hfile, hdata, hfd, and_self]
    · simp only [hfs, hfile, hdata, hfd, and_self]
  · simp only [applyAll, List.foldl_nil, hfs, hfile, hdata, hfd, and_self]


/-! ### The serial save as an instance of `saveWith` -/

theorem writeEffs_mem (cb : Bool) : ∀ (ts : List Tensor) (i : Nat) (e : Eff), e ∈ writeEffs cb i ts →
    (∃ j, e = .callback j) ∨ (∃ o, e = .seek o) ∨ ∃ b, e = .write b
  | [], _, e, he => by simp [writeEffs] at he
  | x :: ts, i, e, he => by
    simp only [writeEffs, tensorEffs, List.mem_append, List.mem_map] at he
    rcases he with ((he | he) | ⟨c, _, rfl⟩) | he
    · split at he <;> simp at he
      exact Or.inl ⟨i, he⟩
    · exact Or.inr (Or.inl ⟨x.off, List.mem_singleton.mp he⟩)
    · exact Or.inr (Or.inr ⟨c, rfl⟩)
    · exact writeEffs_mem cb ts (i + 1) e he

theorem tryBody_forall {P : Eff → Prop} (cfg : Cfg) (s0 : St) (ho : P .openTmp) (hcb : ∀ i, P (.callback i))
    (hs : ∀ o, P (.seek o)) (hw : ∀ b, P (.write b)) (hc : P .closeTmp) (hr : ∀ i, P (.release i))
    (hm : P .copymode) : ∀ e ∈ tryBody cfg s0, P e := by
  intro e he
  simp only [tryBody, List.mem_append, List.mem_map, List.mem_singleton] at he
  rcases he with (((rfl | he) | rfl) | ⟨i, _, rfl⟩) | he
  · exact ho
  · rcases writeEffs_mem _ _ _ e he with ⟨_, rfl⟩ | ⟨_, rfl⟩ | ⟨_, rfl⟩
    · exact hcb _
    · exact hs _
    · exact hw _
  · exact hc
  · exact hr i
  · split at he <;> simp at he
    rw [he]; exact hm

theorem tryBody_tmpOnly (cfg : Cfg) (s0 : St) : ∀ e ∈ tryBody cfg s0, e.tmpOnly = true :=
  tryBody_forall cfg s0 rfl (fun _ => rfl) (fun _ => rfl) (fun _ => rfl) rfl (fun _ => rfl) rfl

theorem tryBodyWith_tmpOnly (cfg : Cfg) (s0 : St) (writer : List Eff) (hw : ∀ e ∈ writer, e.tmpOnly = true) :
    ∀ e ∈ tryBodyWith cfg s0 writer, e.tmpOnly = true := by
  intro e he
  simp only [tryBodyWith, List.mem_append, List.mem_map] at he
  rcases he with (he | ⟨i, _, rfl⟩) | he
  · exact hw e he
  · rfl
  · split at he <;> simp at he; subst he; rfl

theorem postEffs_noData (cfg : Cfg) (s0 : St) : ∀ e ∈ postEffs cfg s0, e.noData = true := by
  intro e he
  simp only [postEffs, List.mem_map] at he
  rcases he with ⟨i, _, rfl⟩
  rfl

/-- The state right after the successful `os.replace` of the serial save. -/
structure Replaced (cfg : Cfg) (s0 s3 : St) : Prop where
  dest : s3.fs.file (.user cfg.env.dest) = some s0.fs.next
  bytes : s3.fs.data s0.fs.next = image cfg.tensors
  others : ∀ n, n ≠ cfg.env.dest → s3.fs.file (.user n) = s0.fs.file (.user n)
  data : ∀ j, j < s0.fs.next → s3.fs.data j = s0.fs.data j
  mode : ∀ j, j < s0.fs.next → s3.fs.mode j = s0.fs.mode j
  next : s0.fs.next ≤ s3.fs.next
  tmp : s3.fs.file .tmpFile = none
  fd : s3.fd = none
  valid : s3.valid = s0.valid
  replaced : s3.replaced = true

theorem save_afterReplace (cfg : Cfg) (s0 : St) (h0 : WF s0) (n0 : Nat) :
    Replaced cfg s0 (afterReplace cfg.env (tryBody cfg s0) n0 s0) := by
  unfold afterReplace
  rw [runList_none_final]
  have he := tryBody_end cfg s0 h0
  have ho : Old s0 (applyAll cfg.env (tryBody cfg s0) (apply cfg.env s0 .mkdtemp)) := by
    rw [← runList_none_final cfg.env (tryBody cfg s0) (n0 + 1)]
    exact (runList_old cfg.env (fun _ => none) (tryBody cfg s0) (tryBody_tmpOnly cfg s0) (n0 + 1) _
      (old_apply cfg.env .mkdtemp rfl (Old.refl s0 h0))).1
  generalize applyAll cfg.env (tryBody cfg s0) (apply cfg.env s0 .mkdtemp) = s2 at he ho
  simp only [apply, he.1]
  refine ⟨by simp [upd], he.2.1, fun n hn => ?_, ho.data, ho.mode, ho.next, by simp [upd], he.2.2,
    ho.valid, rfl⟩
  simp [upd, hn, ho.user]


/-- After the replace: frozen file system, and `_valid` flags only ever go from true to false,
and only for overwritten tensors. -/
structure PostV (cfg : Cfg) (s0 s3 s : St) : Prop where
  frozen : Frozen s3 s
  only : ∀ i, s.valid i = false → s0.valid i = false ∨ i ∈ invalidated cfg s0
  keep : ∀ i, s0.valid i = false → s.valid i = false

theorem twoPhase_save (cfg : Cfg) (s0 : St) (h0 : WF s0) (n0 : Nat) :
    TwoPhase cfg.env (tryBody cfg s0) (postEffs cfg s0) n0 s0 (Old s0)
      (PostV cfg s0 (afterReplace cfg.env (tryBody cfg s0) n0 s0)) :=
  { twoPhase_old cfg.env (tryBody cfg s0) (postEffs cfg s0) (tryBody_tmpOnly cfg s0) s0 h0 n0 with
    at_replace := by
      have hr := save_afterReplace cfg s0 h0 n0
      exact ⟨Frozen.refl _, fun i hi => Or.inl (by rw [← hr.valid]; exact hi),
        fun i hi => by rw [hr.valid]; exact hi⟩
    post_apply := by
      intro e he s hs
      have hfz := (twoPhase_old_frozen cfg.env _ _ (tryBody_tmpOnly cfg s0) (postEffs_noData cfg s0) s0 h0 n0).post_apply
        e he s hs.frozen
      simp only [List.mem_append, List.mem_cons, postEffs, List.mem_map,
        List.not_mem_nil, or_false] at he
      rcases he with (rfl | rfl) | ⟨j, hj, rfl⟩
      · exact ⟨hfz, hs.only, hs.keep⟩
      · refine ⟨hfz, ?_, ?_⟩
        · intro i hi; apply hs.only i; simp only [apply] at hi; split at hi <;> exact hi
        · intro i hi; simp only [apply]; split <;> exact hs.keep i hi
      · refine ⟨hfz, ?_, ?_⟩
        · intro i hi
          by_cases hij : i = j
          · subst hij; exact Or.inr hj
          · simp [apply, upd, hij] at hi; exact hs.only i hi
        · intro i hi
          by_cases hij : i = j
          · simp [apply, upd, hij]
          · simp [apply, upd, hij]; exact hs.keep i hi
    post_partial := by
      intro e he s p hs
      simp only [List.mem_append, List.mem_cons, postEffs, List.mem_map,
        List.not_mem_nil, or_false] at he
      rcases he with (rfl | rfl) | ⟨j, _, rfl⟩ <;> exact hs }

theorem invalidates_spec (env : Env) :
    ∀ (is : List Nat) (s : St) (i : Nat), i ∈ is → (applyAll env (is.map .invalidate) s).valid i = false
  | [], _, _, h => by simp at h
  | j :: is, s, i, h => by
    simp only [List.map_cons, applyAll, List.foldl_cons]
    by_cases hi : i ∈ is
    · exact invalidates_spec env is _ i hi
    · have hij : i = j := by simpa [hi] using h
      subst hij
      have keep : ∀ (is : List Nat) (s : St), s.valid i = false →
          (List.foldl (apply env) s (is.map .invalidate)).valid i = false := by
        intro is
        induction is with
        | nil => intro s hs; simpa using hs
        | cons k ks ih =>
          intro s hs
          simp only [List.map_cons, List.foldl_cons]
          apply ih
          by_cases hk : i = k <;> simp [apply, upd, hk, hs]
      exact keep is _ (by simp [apply])


theorem save_final_cases (cfg : Cfg) (s0 : St) (h0 : WF s0) (n0 : Nat) (f : Nat → Option Nat)
    (hlate : ∀ m, n0 + 1 + (tryBody cfg s0).length < m → f m = none) :
    ((save cfg f n0 s0).faulted = true ∧ Old s0 (save cfg f n0 s0).final) ∨
    ((save cfg f n0 s0).faulted = false ∧
      PostV cfg s0 (afterReplace cfg.env (tryBody cfg s0) n0 s0) (save cfg f n0 s0).final ∧
      ∀ i ∈ invalidated cfg s0, (save cfg f n0 s0).final.valid i = false) := by
  have hr := saveWith_two_phase (twoPhase_save cfg s0 h0 n0) f
  have hsh := saveWith_shape cfg.env (tryBody cfg s0) (postEffs cfg s0) f n0 s0
  unfold save
  generalize saveWith cfg.env (tryBody cfg s0) (postEffs cfg s0) f n0 s0 = r at hsh hr ⊢
  cases hsh with
  | mkdtempF p hp => exact Or.inl ⟨rfl, Old.refl s0 h0⟩
  | tryF B c tail j p hf0 hB htail hj hp _ hc =>
    -- the first fault is at or before `os.replace`, there being none later
    have hjN : j ≤ n0 + 1 + (tryBody cfg s0).length := Nat.le_of_not_lt fun h => by rw [hlate j h] at hp; cases hp
    exact Or.inl ⟨rfl, (hr.early ⟨j, p, hp, by omega, hjN⟩).2.1⟩
  | replaced B t hnone hB ht =>
    -- clean-up and the invalidation loop meet no fault index
    rw [runList_eq_faultFree_of_late cfg.env f _ _ _ (fun m hm => hlate m (by omega))] at ht
    have htf : t.faulted = false := by rw [ht]; exact runList_faultFree_not_faulted ..
    refine Or.inr ⟨htf, hr.returned htf, fun i hi => ?_⟩
    show t.final.valid i = false
    rw [ht, runList_none_final, applyAll_append]
    exact invalidates_spec cfg.env (invalidated cfg s0) _ i hi


def Named (s : St) : Prop := ∀ p i, s.fs.file p = some i → i < s.fs.next

theorem named_apply (env : Env) (e : Eff) (s : St) (h : Named s) : Named (apply env s e) := by
  cases e with
  | openTmp =>
    simp only [apply]
    split
    · exact h
    · intro p i hp
      simp only [upd] at hp
      split at hp
      · simp at hp; simp; omega
      · have := h p i hp; simp; omega
  | replace =>
    simp only [apply]
    split
    · rename_i t ht
      intro p i hp
      simp only [upd] at hp
      split at hp
      · simp at hp
      · split at hp
        · simp at hp; subst hp; exact h _ _ ht
        · exact h p i hp
    · exact h
  | removeTmp =>
    intro p i hp
    simp only [apply, upd] at hp
    split at hp
    · simp at hp
    · exact h p i hp
  | write _ | copymode | rmdirTmp | truncate _ | openW _ | seekW _ _ | writeW _ _ =>
    simp only [apply]
    split <;> exact h
  | _ => exact h

theorem named_partial (env : Env) (e : Eff) (p : Nat) (s : St) (h : Named s) :
    Named (applyPartial env s e p) :=
  applyPartial_keeps env s e p h (fun _ _ => named_apply env _ s h) (fun _ _ _ => named_apply env _ s h)

structure KeptBut (d : String) (s st : St) : Prop where
  file : ∀ n, n ≠ d → st.fs.file (.user n) = s.fs.file (.user n)
  data : ∀ j, j < s.fs.next → st.fs.data j = s.fs.data j
  mode : ∀ j, j < s.fs.next → st.fs.mode j = s.fs.mode j
  next : s.fs.next ≤ st.fs.next

theorem keptBut_of_old {d : String} {s st : St} (h : Old s st) : KeptBut d s st :=
  ⟨fun n _ => h.user n, h.data, h.mode, h.next⟩

theorem keptBut_of_post {cfg : Cfg} {s s3 st : St} (hr : Replaced cfg s s3) (h : Frozen s3 st) :
    KeptBut cfg.env.dest s st :=
  ⟨fun n hn => by rw [h.user, hr.others n hn], fun j hj => by rw [h.data, hr.data j hj],
   fun j hj => by rw [h.mode, hr.mode j hj], by rw [h.next]; exact hr.next⟩

theorem keptBut_content {d : String} {s st : St} (hs : Named s) (h : KeptBut d s st) (n : String)
    (hn : n ≠ d) : content st (.user n) = content s (.user n) :=
  file_map_congr (h.file n hn) fun i hi => h.data i (hs _ _ hi)

theorem save_kept (cfg : Cfg) (s : St) (hs : WF s) (n : Nat) (f : Nat → Option Nat) :
    (∀ st ∈ (save cfg f n s).steps, KeptBut cfg.env.dest s st.st) ∧
    KeptBut cfg.env.dest s (save cfg f n s).final := by
  have hr := save_afterReplace cfg s hs n
  have h := saveWith_two_phase (twoPhase_save cfg s hs n) f
  constructor
  · intro st hst
    rcases h.steps st hst with h1 | h1
    · exact keptBut_of_old h1
    · exact keptBut_of_post hr h1.frozen
  · rcases h.final with h1 | h1
    · exact keptBut_of_old h1
    · exact keptBut_of_post hr h1.frozen

/-- The effects of the serial save and of the handlers: they touch neither the workers' handles nor the memory copies. -/
def Eff.serial : Eff → Bool
  | .openW _ | .seekW _ _ | .writeW _ _ | .closeW _ | .loadSmall _ _ => false
  | _ => true

theorem serial_apply (env : Env) (e : Eff) (he : e.serial = true) (s : St) :
    (apply env s e).wfd = s.wfd ∧ (apply env s e).mem = s.mem := by
  cases e with
  | openW _ | seekW _ _ | writeW _ _ | closeW _ | loadSmall _ _ => cases he
  | openTmp | write _ | copymode | replace | rmdirTmp | truncate _ =>
    simp only [apply]
    split <;> exact ⟨rfl, rfl⟩
  | _ => exact ⟨rfl, rfl⟩

theorem serial_partial (env : Env) (e : Eff) (he : e.serial = true) (p : Nat) (s : St) :
    (applyPartial env s e p).wfd = s.wfd ∧ (applyPartial env s e p).mem = s.mem :=
  applyPartial_keeps (P := fun s' => s'.wfd = s.wfd ∧ s'.mem = s.mem) env s e p ⟨rfl, rfl⟩
    (fun _ _ => serial_apply env _ rfl s) (fun _ _ hb => by subst hb; cases he)

theorem tryBody_serial (cfg : Cfg) (s0 : St) : ∀ e ∈ tryBody cfg s0, e.serial = true :=
  tryBody_forall cfg s0 rfl (fun _ => rfl) (fun _ => rfl) (fun _ => rfl) rfl (fun _ => rfl) rfl

theorem save_frame (cfg : Cfg) (f : Nat → Option Nat) (n0 : Nat) (s0 : St) :
    ((save cfg f n0 s0).final.wfd = s0.wfd ∧ (save cfg f n0 s0).final.mem = s0.mem) ∧
    ∀ st ∈ (save cfg f n0 s0).steps, st.st.wfd = s0.wfd ∧ st.st.mem = s0.mem :=
  saveWith_inv cfg.env (tryBody cfg s0) (postEffs cfg s0) (P := fun s => s.wfd = s0.wfd ∧ s.mem = s0.mem)
    Eff.serial (tryBody_serial cfg s0)
    (fun e he => by rcases List.mem_map.mp he with ⟨i, _, rfl⟩; rfl) ⟨rfl, rfl, rfl, rfl⟩
    (fun e he s h => by rw [(serial_apply cfg.env e he s).1, (serial_apply cfg.env e he s).2]; exact h)
    (fun e he p s h => by rw [(serial_partial cfg.env e he p s).1, (serial_partial cfg.env e he p s).2]; exact h)
    f n0 s0 ⟨rfl, rfl⟩

theorem save_ok_wf (cfg : Cfg) (s0 : St) (h0 : WF s0) (n0 : Nat) (f : Nat → Option Nat)
    (hok : (save cfg f n0 s0).faulted = false) : WF (save cfg f n0 s0).final := by
  have hp : PostV cfg s0 (afterReplace cfg.env (tryBody cfg s0) n0 s0) (save cfg f n0 s0).final :=
    (saveWith_two_phase (twoPhase_save cfg s0 h0 n0) f).returned hok
  have hr := save_afterReplace cfg s0 h0 n0
  refine ⟨?_, hp.frozen.tmp hr.tmp, by rw [hp.frozen.fd, hr.fd], by rw [(save_frame cfg f n0 s0).1.1]; exact h0.nowfd⟩
  exact (saveWith_inv cfg.env (tryBody cfg s0) (postEffs cfg s0) (P := Named) (fun _ => true)
    (fun _ _ => rfl) (fun _ _ => rfl) ⟨rfl, rfl, rfl, rfl⟩
    (fun e _ s h => named_apply cfg.env e s h) (fun e _ p s h => named_partial cfg.env e p s h)
    f n0 s0 h0.named).1

structure Kept (s0 s : St) : Prop where
  file : ∀ n i, s0.fs.file (.user n) = some i → s.fs.file (.user n) = some i
  data : ∀ j, j < s0.fs.next → s.fs.data j = s0.fs.data j
  mode : ∀ j, j < s0.fs.next → s.fs.mode j = s0.fs.mode j
  next : s0.fs.next ≤ s.fs.next

theorem Kept.read {s0 s : St} (h0 : WF s0) (h : Kept s0 s) (n : String) (i : Nat) (hn : s0.fs.file (.user n) = some i) :
    s.fs.file (.user n) = some i ∧ s.fs.data i = s0.fs.data i ∧ s.fs.mode i = s0.fs.mode i :=
  ⟨h.file n i hn, h.data i (h0.named _ _ hn), h.mode i (h0.named _ _ hn)⟩

theorem Kept.refl (s : St) : Kept s s := ⟨fun _ _ h => h, fun _ _ => rfl, fun _ _ => rfl, Nat.le_refl _⟩

theorem kept_trans {d : String} {s0 s st : St} (hd : s0.fs.file (.user d) = none) (h1 : Kept s0 s)
    (h2 : KeptBut d s st) : Kept s0 st := by
  refine ⟨fun n i hn => ?_, fun j hj => ?_, fun j hj => ?_, Nat.le_trans h1.next h2.next⟩
  · have : n ≠ d := by intro h; subst h; rw [hd] at hn; simp at hn
    rw [h2.file n this]; exact h1.file n i hn
  · rw [h2.data j (Nat.lt_of_lt_of_le hj h1.next), h1.data j hj]
  · rw [h2.mode j (Nat.lt_of_lt_of_le hj h1.next), h1.mode j hj]

theorem absent_of_preflight {J : Type} (jobs : List J) (dest : J → String) (fs : FS)
    (h : jobs.any (fun j => existsP fs (.user (dest j))) = false) : ∀ j ∈ jobs, fs.file (.user (dest j)) = none := by
  intro j hj
  have := List.any_eq_false.mp h j hj
  simp only [existsP, Bool.or_eq_true, not_or] at this
  cases hf : fs.file (.user (dest j)) with
  | none => rfl
  | some i => simp [hf] at this

theorem shardLoop_inv (newMode : Nat) (cb : Bool) (f : Nat → Option Nat) (all : List (String × List Tensor))
    {I : St → Prop}
    (hsave : ∀ d ts n s, (d, ts) ∈ all → WF s → I s →
      (∀ st ∈ (save ⟨⟨d, newMode⟩, ts, cb⟩ f n s).steps, I st.st) ∧ I (save ⟨⟨d, newMode⟩, ts, cb⟩ f n s).final) :
    ∀ (jobs : List (String × List Tensor)) (n : Nat) (s : St), (∀ j ∈ jobs, j ∈ all) → WF s → I s →
      (∀ st ∈ (shardLoop newMode cb f jobs n s).steps, I st.st) ∧ I (shardLoop newMode cb f jobs n s).final
  | [], _, s, _, _, hi => by simp [shardLoop, hi]
  | (d, ts) :: rest, n, s, hsub, hs, hi => by
    have h1 := hsave d ts n s (hsub (d, ts) (by simp)) hs hi
    simp only [shardLoop]
    split
    · exact h1
    · rename_i hok
      have ih := shardLoop_inv newMode cb f all hsave rest
        (n + (save ⟨⟨d, newMode⟩, ts, cb⟩ f n s).steps.length) _ (fun j hj => hsub j (by simp [hj]))
        (save_ok_wf ⟨⟨d, newMode⟩, ts, cb⟩ s hs n f (by simpa using hok)) h1.2
      refine ⟨fun st hst => ?_, ih.2⟩
      rcases List.mem_append.mp hst with hst | hst
      · exact h1.1 st hst
      · exact ih.1 st hst

theorem shardLoop_kept (newMode : Nat) (cb : Bool) (f : Nat → Option Nat) (s0 : St)
    (jobs : List (String × List Tensor)) (hj : ∀ j ∈ jobs, s0.fs.file (.user j.1) = none) (n : Nat) (s : St)
    (hs : WF s) (hk : Kept s0 s) :
    (∀ st ∈ (shardLoop newMode cb f jobs n s).steps, Kept s0 st.st) ∧
      Kept s0 (shardLoop newMode cb f jobs n s).final :=
  shardLoop_inv newMode cb f jobs (I := Kept s0)
    (fun d ts n s hm hs hk =>
      have hsv := save_kept ⟨⟨d, newMode⟩, ts, cb⟩ s hs n f
      ⟨fun st hst => kept_trans (hj _ hm) hk (hsv.1 st hst), kept_trans (hj _ hm) hk hsv.2⟩)
    jobs n s (fun _ h => h) hs hk


/-! ### `unload_from_model`: loading the small external tensors first -/

/-- The load phase touches neither the file system nor `_valid`. -/
structure SameFS (s0 s : St) : Prop where
  fs : s.fs = s0.fs
  fd : s.fd = s0.fd
  valid : s.valid = s0.valid
  replaced : s.replaced = s0.replaced
  wfd : s.wfd = s0.wfd

theorem loadEffs_mem : ∀ (small : List (Nat × Ext)) (e : Eff), e ∈ loadEffs small →
    (∃ i x, e = .loadSmall i x) ∨ (∃ i, e = .release i)
  | [], e, h => by simp [loadEffs] at h
  | (i, x) :: r, e, h => by
    simp only [loadEffs, List.mem_cons] at h
    rcases h with rfl | rfl | h
    · exact Or.inl ⟨i, x, rfl⟩
    · exact Or.inr ⟨i, rfl⟩
    · exact loadEffs_mem r e h

theorem load_phase (env : Env) (f : Nat → Option Nat) (small : List (Nat × Ext)) (n : Nat) (s0 : St) :
    SameFS s0 (runList env f (loadEffs small) n s0).final ∧
    ∀ st ∈ (runList env f (loadEffs small) n s0).steps, SameFS s0 st.st := by
  refine runList_inv env f (loadEffs small) n s0 ⟨rfl, rfl, rfl, rfl, rfl⟩ ?_ ?_
  · intro e he s hs
    rcases loadEffs_mem small e he with ⟨i, x, rfl⟩ | ⟨i, rfl⟩
    · exact ⟨hs.fs, hs.fd, hs.valid, hs.replaced, hs.wfd⟩
    · exact ⟨hs.fs, hs.fd, hs.valid, hs.replaced, hs.wfd⟩
  · intro e he s p hs
    rcases loadEffs_mem small e he with ⟨i, x, rfl⟩ | ⟨i, rfl⟩ <;> exact hs

theorem sameFS_wf {s0 s : St} (h0 : WF s0) (h : SameFS s0 s) : WF s :=
  ⟨by rw [h.fs]; exact h0.named, by rw [h.fs]; exact h0.fresh, by rw [h.fd]; exact h0.nofd,
   by rw [h.wfd]; exact h0.nowfd⟩

theorem sameFS_content {s0 s : St} (h : SameFS s0 s) (p : Path) : content s p = content s0 p := by
  simp [content, h.fs]

theorem tryBody_congr (cfg : Cfg) {s0 s : St} (h : s.fs = s0.fs) : tryBody cfg s = tryBody cfg s0 := by
  simp [tryBody, overwritten, h]


theorem unload_cases (cfg : Cfg) (small : List (Nat × Ext)) (f : Nat → Option Nat) (s0 : St) (h0 : WF s0) :
    ∃ l : Res, (∀ st ∈ l.steps, SameFS s0 st.st) ∧ SameFS s0 l.final ∧
      ((l.faulted = true ∧ unload cfg small f s0 = l) ∨
       (WF l.final ∧ tryBody cfg l.final = tryBody cfg s0 ∧ (∀ k p, f k = some p → (loadEffs small).length ≤ k) ∧
        unload cfg small f s0 = ⟨l.steps ++ (save cfg f (loadEffs small).length l.final).steps,
          (save cfg f (loadEffs small).length l.final).final, (save cfg f (loadEffs small).length l.final).faulted⟩)) := by
  have hl := load_phase cfg.env f small 0 s0
  refine ⟨_, hl.2, hl.1, ?_⟩
  cases h : (runList cfg.env f (loadEffs small) 0 s0).faulted with
  | true => exact Or.inl ⟨rfl, by simp [unload, h]⟩
  | false =>
    refine Or.inr ⟨sameFS_wf h0 hl.1, tryBody_congr cfg hl.1.fs, fun k p hk => Nat.le_of_not_lt fun hlt => ?_,
      by simp [unload, h, runList_length_of_not_faulted cfg.env f _ _ _ h]⟩
    rw [fault_eq_none_of_not_faulted cfg.env f _ _ _ h k (Nat.zero_le _) (by omega)] at hk
    cases hk

theorem readT_congr {s0 s : St} (i : Nat) (e : Ext) (hfs : s.fs = s0.fs) (hv : s.valid = s0.valid)
    (hm : s.mapped i = s0.mapped i) : readT s i e = readT s0 i e := by
  simp [readT, hfs, hv, hm]

theorem loads_spec (env : Env) (s0 : St) :
    ∀ (small : List (Nat × Ext)) (s : St), (small.map (·.1)).Nodup → s.fs = s0.fs → s.valid = s0.valid →
      (∀ p ∈ small, s.mapped p.1 = s0.mapped p.1) →
      (∀ p ∈ small, (applyAll env (loadEffs small) s).mem p.1 = readT s0 p.1 p.2) ∧
      (∀ k, k ∉ small.map (·.1) → (applyAll env (loadEffs small) s).mem k = s.mem k)
  | [], s, _, _, _, _ => by simp [loadEffs, applyAll]
  | (i, e) :: r, s, hnd, hfs, hv, hm => by
    simp only [List.map_cons, List.nodup_cons] at hnd
    have hstep : ∀ s1, s1 = apply env (apply env s (.loadSmall i e)) (.release i) →
        s1.fs = s0.fs ∧ s1.valid = s0.valid ∧ (∀ p ∈ r, s1.mapped p.1 = s0.mapped p.1) ∧
        s1.mem i = readT s0 i e ∧ (∀ k, k ≠ i → s1.mem k = s.mem k) := by
      intro s1 h1
      subst h1
      refine ⟨by simpa [apply] using hfs, by simpa [apply] using hv, ?_, ?_, ?_⟩
      · intro p hp
        have hne : p.1 ≠ i := by
          intro h; apply hnd.1; rw [← h]; exact List.mem_map_of_mem hp
        simp only [apply, upd, hne, if_false]
        exact hm p (by simp [hp])
      · simp only [apply, upd_same]
        exact readT_congr i e hfs hv (hm (i, e) (by simp))
      · intro k hk; simp [apply, upd, hk]
    have h1 := hstep _ rfl
    have ih := loads_spec env s0 r _ hnd.2 h1.1 h1.2.1 h1.2.2.1
    simp only [loadEffs, applyAll, List.foldl_cons] at ih ⊢
    constructor
    · intro p hp
      simp only [List.mem_cons] at hp
      rcases hp with rfl | hp
      · rw [ih.2 _ hnd.1]; exact h1.2.2.2.1
      · exact ih.1 p hp
    · intro k hk
      simp only [List.map_cons, List.mem_cons, not_or] at hk
      rw [ih.2 k hk.2]; exact h1.2.2.2.2 k hk.1


/-- The mechanism of `unload_from_model` ("load to memory first", external_data.py 1074-1078): when the load phase
completes, at the end of `unload` the memory copy of every small external tensor is what the tensor read *before*
the save started, whatever the save did to the data file, for every fault assignment of the save. -/
theorem small_loaded_first (cfg : Cfg) (small : List (Nat × Ext))
    (hnd : (small.map (·.1)).Nodup) (s0 : St) (f : Nat → Option Nat)
    (hok : (runList cfg.env f (loadEffs small) 0 s0).faulted = false) :
    ∀ p ∈ small, (unload cfg small f s0).final.mem p.1 = readT s0 p.1 p.2 := by
  intro p hp
  have hl := loads_spec cfg.env s0 small s0 hnd rfl rfl (fun _ _ => rfl)
  have hfin : (runList cfg.env f (loadEffs small) 0 s0).final = applyAll cfg.env (loadEffs small) s0 := by
    rw [runList_eq_faultFree_of_not_faulted cfg.env f _ _ _ hok, runList_none_final]
  unfold unload
  simp only [hok, Bool.false_eq_true, if_false]
  rw [(save_frame cfg f _ _).1.2, hfin]
  exact hl.1 p hp

/-- The common shape of `overwrittenFrom` and `invalidatedFrom`. -/
def extPositions (p : Ext → Bool) : Nat → List Tensor → List Nat
  | _, [] => []
  | i, t :: ts =>
    (match t.ext with
      | some e => if p e then [i] else []
      | none => []) ++ extPositions p (i + 1) ts

theorem overwrittenFrom_eq (fs : FS) (dest : String) : ∀ (ts : List Tensor) (b : Nat),
    overwrittenFrom fs dest b ts = extPositions (fun e => sameFile fs (.user e.path) (.user dest)) b ts
  | [], _ => rfl
  | t :: ts, b => by
    simp only [overwrittenFrom, extPositions, overwrittenFrom_eq fs dest ts]
    cases t.ext <;> rfl

theorem invalidatedFrom_eq (fs : FS) (dest : String) : ∀ (ts : List Tensor) (b : Nat),
    invalidatedFrom fs dest b ts =
      extPositions (fun e => sameFile fs (.user e.path) (.user dest) && e.path == dest) b ts
  | [], _ => rfl
  | t :: ts, b => by
    simp only [invalidatedFrom, extPositions, invalidatedFrom_eq fs dest ts]
    cases t.ext <;> rfl

theorem extPositions_spec (p : Ext → Bool) : ∀ (ts : List Tensor) (b i : Nat),
    i ∈ extPositions p b ts ↔ ∃ t e, ts[i - b]? = some t ∧ b ≤ i ∧ t.ext = some e ∧ p e = true
  | [], b, i => by simp [extPositions]
  | t :: ts, b, i => by
    simp only [extPositions, List.mem_append]
    rw [extPositions_spec p ts (b + 1) i]
    have hsucc : b < i → i - b = (i - (b + 1)) + 1 := by omega
    constructor
    · rintro (h | ⟨t', e, h1, h2, h3, h4⟩)
      · cases he : t.ext with
        | none => simp [he] at h
        | some e =>
          simp only [he] at h
          split at h
          · rename_i hs
            obtain rfl := List.mem_singleton.mp h
            exact ⟨t, e, by simp, Nat.le_refl _, he, hs⟩
          · simp at h
      · exact ⟨t', e, by rw [hsucc (by omega)]; simpa using h1, by omega, h3, h4⟩
    · rintro ⟨t', e, h1, h2, h3, h4⟩
      by_cases hib : i = b
      · subst hib
        simp only [Nat.sub_self, List.getElem?_cons_zero, Option.some.injEq] at h1
        subst h1
        exact Or.inl (by simp [h3, h4])
      · rw [hsucc (by omega)] at h1
        exact Or.inr ⟨t', e, by simpa using h1, by omega, h3, h4⟩

/-- Membership in `overwritten` means what `_write_external_data` 461-466 computes: the tensor at
that position is external and its path and the destination are the same file (same inode). -/
theorem overwritten_spec (fs : FS) (dest : String) (ts : List Tensor) (b i : Nat) :
    i ∈ overwrittenFrom fs dest b ts ↔
      ∃ t e, ts[i - b]? = some t ∧ b ≤ i ∧ t.ext = some e ∧
        sameFile fs (.user e.path) (.user dest) = true := by
  rw [overwrittenFrom_eq, extPositions_spec]

theorem invalidated_spec (fs : FS) (dest : String) (ts : List Tensor) (b i : Nat) :
    i ∈ invalidatedFrom fs dest b ts ↔
      ∃ t e, ts[i - b]? = some t ∧ b ≤ i ∧ t.ext = some e ∧
        sameFile fs (.user e.path) (.user dest) = true ∧ e.path = dest := by
  simp only [invalidatedFrom_eq, extPositions_spec, Bool.and_eq_true, beq_iff_eq]

theorem sameFile_self (fs : FS) (p : Path) : sameFile fs p p = (fs.file p).isSome := by
  unfold sameFile
  cases fs.file p <;> simp

theorem invalidated_iff (cfg : Cfg) (s0 : St) (i : Nat) :
    i ∈ invalidated cfg s0 ↔ (s0.fs.file (.user cfg.env.dest)).isSome = true ∧
      ∃ t e, cfg.tensors[i]? = some t ∧ t.ext = some e ∧ e.path = cfg.env.dest := by
  unfold invalidated
  rw [invalidated_spec]
  constructor
  · rintro ⟨t, e, ht, _, he, hs, hp⟩
    rw [hp, sameFile_self] at hs
    exact ⟨hs, t, e, by simpa using ht, he, hp⟩
  · rintro ⟨hs, t, e, ht, he, hp⟩
    exact ⟨t, e, by simpa using ht, Nat.zero_le _, he, by rw [hp, sameFile_self]; exact hs, hp⟩

theorem invalidated_sub (fs : FS) (dest : String) (ts : List Tensor) (b i : Nat)
    (h : i ∈ invalidatedFrom fs dest b ts) : i ∈ overwrittenFrom fs dest b ts := by
  rcases (invalidated_spec fs dest ts b i).mp h with ⟨t, e, h1, h2, h3, h4, _⟩
  exact (overwritten_spec fs dest ts b i).mpr ⟨t, e, h1, h2, h3, h4⟩

end IrVerif.AtomicSave
