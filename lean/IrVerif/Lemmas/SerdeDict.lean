import IrVerif.Lemmas.SerdeScope
/-! C02, several graph output entries with one name: the ordered-dict facts behind "applying the
entries of one name one after the other = applying their union once": `dict.update` is idempotent and
associative (CPython dicts: assignment keeps the position of a key, new keys are appended). -/
namespace IrVerif.Serde
open IrVerif.Proto

theorem dictGet_eq_lookup (d : Dict) (k : String) : dictGet d k = d.lookup k :=
  ListFacts.find?_fst_eq_lookup d k

theorem dictGet_cons (x : String × String) (d : Dict) (k : String) :
    dictGet (x :: d) k = if x.1 = k then some x.2 else dictGet d k := by
  simp only [dictGet, List.find?_cons]
  by_cases h : x.1 = k <;> simp [h]

theorem dictGet_dictSet_self (d : Dict) (k v : String) : dictGet (dictSet d k v) k = some v := by
  induction d with
  | nil => simp [dictSet, dictGet_cons]
  | cons x xs ih =>
    obtain ⟨k', v'⟩ := x
    by_cases h : k' = k
    · simp [dictSet, h, dictGet_cons]
    · simp [dictSet, h, dictGet_cons, ih]

theorem dictGet_dictSet_ne (d : Dict) {k k' : String} (v : String) (h : k' ≠ k) :
    dictGet (dictSet d k v) k' = dictGet d k' := by
  induction d with
  | nil =>
    have : ¬ k = k' := fun e => h e.symm
    simp [dictSet, this, dictGet]
  | cons x xs ih =>
    obtain ⟨a, b⟩ := x
    by_cases ha : a = k
    · subst ha
      have : ¬ a = k' := fun e => h e.symm
      simp [dictSet, dictGet_cons, this]
    · simp only [dictSet, ha, if_false, dictGet_cons, ih]

theorem dictSet_of_get {d : Dict} {k v : String} (h : dictGet d k = some v) : dictSet d k v = d := by
  induction d with
  | nil => simp [dictGet] at h
  | cons x xs ih =>
    obtain ⟨a, b⟩ := x
    rw [dictGet_cons] at h
    by_cases ha : a = k
    · simp only [ha, if_true, Option.some.injEq] at h
      simp [dictSet, ha, h]
    · simp only [ha, if_false] at h
      simp [dictSet, ha, ih h]

theorem dictUpdate_of_get : ∀ (u d : Dict), (∀ x ∈ u, dictGet d x.1 = some x.2) → dictUpdate d u = d
  | [], _, _ => rfl
  | (k, v) :: u, d, h => by
    simp only [dictUpdate]
    rw [dictSet_of_get (h (k, v) (by simp))]
    exact dictUpdate_of_get u d (fun x hx => h x (List.mem_cons_of_mem _ hx))

theorem dictUpdate_of_subset {d : Dict} (hnd : (dkeys d).Nodup) (u : Dict) (h : ∀ x ∈ u, x ∈ d) :
    dictUpdate d u = d := by
  rw [dictUpdate_eq_dupdate]; exact ListFacts.dupdate_of_subset d hnd u h

theorem dictGet_dictUpdate_not_mem : ∀ (u d : Dict) (k : String), k ∉ dkeys u →
    dictGet (dictUpdate d u) k = dictGet d k
  | [], _, _, _ => rfl
  | (k1, v1) :: u, d, k, h => by
    simp only [dkeys, List.map_cons, List.mem_cons, not_or] at h
    simp only [dictUpdate]
    rw [dictGet_dictUpdate_not_mem u _ k (by simpa [dkeys] using h.2), dictGet_dictSet_ne _ _ h.1]

theorem dictGet_dictUpdate_of_mem : ∀ (u d : Dict), (dkeys u).Nodup → ∀ x ∈ u,
    dictGet (dictUpdate d u) x.1 = some x.2
  | [], _, _, _, hx => by cases hx
  | (k, v) :: u, d, hnd, x, hx => by
    simp only [dkeys, List.map_cons, List.nodup_cons] at hnd
    simp only [dictUpdate]
    rcases List.mem_cons.1 hx with rfl | hx
    · rw [dictGet_dictUpdate_not_mem u _ k (by simpa [dkeys] using hnd.1), dictGet_dictSet_self]
    · exact dictGet_dictUpdate_of_mem u _ (by simpa [dkeys] using hnd.2) x hx

/-- `d.update(u); d.update(u)` = `d.update(u)` -/
theorem dictUpdate_idem (d u : Dict) (h : (dkeys u).Nodup) :
    dictUpdate (dictUpdate d u) u = dictUpdate d u :=
  dictUpdate_of_get u _ (dictGet_dictUpdate_of_mem u d h)

theorem dictSet_dictSet_same (d : Dict) (k v v' : String) :
    dictSet (dictSet d k v') k v = dictSet d k v := by
  induction d with
  | nil => simp [dictSet]
  | cons x xs ih =>
    obtain ⟨a, b⟩ := x
    by_cases ha : a = k
    · simp [dictSet, ha]
    · simp [dictSet, ha, ih]

theorem mem_dkeys_dictSet {d : Dict} {k k1 v1 : String} (h : k ∈ dkeys d) : k ∈ dkeys (dictSet d k1 v1) := by
  rw [dkeys_dictSet]
  split
  · exact h
  · exact List.mem_append_left _ h

/-- assignments to different keys commute when the second key is already present -/
theorem dictSet_comm {d : Dict} {k k1 : String} (v v1 : String) (hne : k ≠ k1) (hk : k ∈ dkeys d) :
    dictSet (dictSet d k1 v1) k v = dictSet (dictSet d k v) k1 v1 := by
  induction d with
  | nil => simp [dkeys] at hk
  | cons x xs ih =>
    obtain ⟨a, b⟩ := x
    by_cases ha : a = k
    · subst ha
      have h1 : ¬ a = k1 := hne
      simp [dictSet, h1]
    · have hk' : k ∈ dkeys xs := by
        simp only [dkeys, List.map_cons, List.mem_cons] at hk
        rcases hk with e | hk
        · exact absurd e.symm ha
        · exact hk
      by_cases ha1 : a = k1
      · subst ha1
        simp [dictSet, ha]
      · simp [dictSet, ha, ha1, ih hk']

theorem dictSet_dictUpdate_comm : ∀ (u e : Dict) (k v : String), k ∉ dkeys u → k ∈ dkeys e →
    dictSet (dictUpdate e u) k v = dictUpdate (dictSet e k v) u
  | [], _, _, _, _, _ => rfl
  | (k1, v1) :: u, e, k, v, hk, hke => by
    simp only [dkeys, List.map_cons, List.mem_cons, not_or] at hk
    simp only [dictUpdate]
    rw [dictSet_dictUpdate_comm u _ k v (by simpa [dkeys] using hk.2) (mem_dkeys_dictSet hke),
      dictSet_comm v v1 hk.1 hke]

theorem dictUpdate_dictSet : ∀ (A d : Dict) (k v : String), (dkeys A).Nodup →
    dictUpdate d (dictSet A k v) = dictSet (dictUpdate d A) k v
  | [], _, _, _, _ => rfl
  | (k', v') :: A, d, k, v, hnd => by
    simp only [dkeys, List.map_cons, List.nodup_cons] at hnd
    by_cases hk : k' = k
    · subst hk
      simp only [dictSet, if_true, dictUpdate]
      rw [dictSet_dictUpdate_comm A _ k' v (by simpa [dkeys] using hnd.1)
        (by rw [dkeys_dictSet]; split <;> simp_all), dictSet_dictSet_same]
    · simp only [dictSet, hk, if_false, dictUpdate]
      exact dictUpdate_dictSet A _ k v (by simpa [dkeys] using hnd.2)

/-- `d.update(A); d.update(B)` = `A.update(B); d.update(A)` -/
theorem dictUpdate_assoc : ∀ (B A d : Dict), (dkeys A).Nodup →
    dictUpdate (dictUpdate d A) B = dictUpdate d (dictUpdate A B)
  | [], _, _, _ => rfl
  | (k, v) :: B, A, d, hnd => by
    simp only [dictUpdate]
    rw [← dictUpdate_dictSet A d k v hnd]
    exact dictUpdate_assoc B _ d (nodup_dkeys_dictSet hnd k v)

/-! ### `deserialize_value_info_proto` applied repeatedly -/

theorem applyInfoT_idem (v : IRValue) (vi : ValueInfoP) :
    applyInfoT (applyInfoT v vi) vi = applyInfoT v vi := by
  simp only [applyInfoT, dictUpdate_idem _ _ (nodup_dkeys_dictOfEntries _)]

theorem foldl_applyInfoT_name (l : List ValueInfoP) (v : IRValue) :
    (l.foldl applyInfoT v).name = v.name := by
  induction l generalizing v with
  | nil => rfl
  | cons x xs ih => simp only [List.foldl_cons, ih, applyInfoT_name]

theorem foldl_applyInfoT_replicate (vi : ValueInfoP) : ∀ (k : Nat) (v : IRValue),
    (List.replicate (k + 1) vi).foldl applyInfoT v = applyInfoT v vi
  | 0, _ => rfl
  | k + 1, v => by
    rw [List.replicate_succ, List.foldl_cons, foldl_applyInfoT_replicate vi k, applyInfoT_idem]

end IrVerif.Serde
