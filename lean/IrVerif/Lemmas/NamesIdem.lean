/-
C15 part B: on a world that already satisfies the postcondition the pass changes nothing.  An object the name generator
was asked about ends with a non-empty name that is not reserved (`Asked`, `AskedN`); the postcondition keeps every unique
name and kept names are reserved, so the generator is never asked; a run that never asks changes nothing (`Unasked`).
-/
import IrVerif.Lemmas.NamesRecOrd
namespace IrVerif.Names

variable {gen : NameGen}

/-- everything a run on a fixed world keeps -/
structure Same (st st' : FixSt) : Prop where
  world : st'.toWorld = st.toWorld
  modified : st'.modified = st.modified
  raised : st'.raised = st.raised

/-- the log only grows, and as long as it has not grown the world, `modified` and `raised` are as at the start -/
def Unasked (w0 : TWorld) (g0 : List (Bool × Nat)) (st : FixStX) : Prop :=
  (∃ l, st.glog = l ++ g0) ∧ (st.glog = g0 → st.tw = w0 ∧ st.modified = false ∧ st.raised = false)

theorem Unasked.grow {w0 : TWorld} {g0 : List (Bool × Nat)} {st st' : FixStX} (h : Unasked w0 g0 st) (e : Bool × Nat)
    (hg : st'.glog = e :: st.glog) : Unasked w0 g0 st' := by
  obtain ⟨l, hl⟩ := h.1
  refine ⟨⟨e :: l, by rw [hg, hl]; rfl⟩, fun h' => ?_⟩
  have := congrArg List.length h'
  rw [hg, hl] at this
  simp at this
  omega

theorem Unasked.step (gen : NameGen) (w0 : TWorld) (g0 : List (Bool × Nat)) : StepInv gen (Unasked w0 g0) where
  pv := fun st v h => by
    rcases processValueX_cases gen st v with e | ⟨s, e⟩ | ⟨_, e⟩ <;> rw [e]
    · exact h
    · exact h
    · exact h.grow _ (renameToX_glog st v _)
  fn := fun st n _ h => by
    rcases fixNodeNameX_cases gen st n with e | ⟨s, e⟩ | e <;> rw [e]
    · exact h
    · exact h
    · exact h.grow (true, n) rfl
  stk := fun _ _ _ h => h

theorem renameToX_ok (st : FixStX) (v : Nat) (p : String) (hr : (renameToX st v p).raised = false) :
    (st.tw.setNameT v (findUnique p (topOf st.vstack) st.resV (st.vcnt p)).1).2 = false
    ∧ (renameToX st v p).seen = v :: st.seen ∧ (renameToX st v p).resV = st.resV := by
  cases hw : (st.tw.setNameT v (findUnique p (topOf st.vstack) st.resV (st.vcnt p)).1).2 with
  | true => simp [renameToX, hw] at hr
  | false => refine ⟨rfl, ?_, ?_⟩ <;> simp [renameToX, hw]

/-- `g0` = the log the call started with (`fixModelX` threads one log through all calls) -/
def Asked (g0 : List (Bool × Nat)) (st : FixStX) : Prop :=
  st.raised = false → ∀ v, (false, v) ∈ st.glog → (false, v) ∈ g0 ∨
    (v ∈ st.seen ∧ ∃ s, st.vname v = some s ∧ s ≠ "" ∧ s ∉ st.resV)

theorem Asked.step (hgen : gen.NonEmpty) (g0 : List (Bool × Nat)) : StepInv gen (Asked g0) where
  pv := fun st v h => by
    rcases processValueX_cases gen st v with e | ⟨s, e⟩ | ⟨hr0, e⟩ <;> rw [e]
    · exact h
    · intro hr u hu
      rcases h hr u hu with a | ⟨b, c⟩
      · exact Or.inl a
      · exact Or.inr ⟨List.mem_cons_of_mem _ b, c⟩
    · intro hr u hu
      have hp := (hgen v (st.vname v)).1
      generalize gen.v v (st.vname v) = p at hr hu hp ⊢
      obtain ⟨hset, hseen, hres⟩ := renameToX_ok st v p hr
      obtain ⟨_, hf2, hf3⟩ := findUnique_spec p (topOf st.vstack) st.resV (st.vcnt p)
      have hne : (findUnique p (topOf st.vstack) st.resV (st.vcnt p)).1 ≠ "" := by
        rcases hf3 with ⟨e, _⟩ | ⟨k, _, e, _⟩
        · rw [e]; exact hp
        · rw [e]; exact sufName_ne_empty _ _
      have key : v ∈ (renameToX st v p).seen ∧ ∃ s, (renameToX st v p).vname v = some s ∧ s ≠ ""
          ∧ s ∉ (renameToX st v p).resV := by
        refine ⟨by rw [hseen]; exact List.mem_cons_self, _, ?_, hne, by rw [hres]; exact hf2⟩
        show (renameToX st v p).tw.vname v = _
        rw [renameToX_tw]; exact setNameT_set _ _ _ hset
      by_cases huv : u = v
      · subst huv; exact Or.inr key
      · rw [renameToX_glog] at hu
        have hu' : (false, u) ∈ st.glog := by
          rcases List.mem_cons.mp hu with e | e
          · exact absurd (Prod.mk.inj e).2 huv
          · exact e
        rcases h hr0 u hu' with a | ⟨b, s, c1, c2, c3⟩
        · exact Or.inl a
        · refine Or.inr ⟨by rw [hseen]; exact List.mem_cons_of_mem _ b, s, ?_, c2, by rw [hres]; exact c3⟩
          show (renameToX st v p).tw.vname u = _
          rw [renameToX_tw, (setNameT_frame st.tw v _).1 u huv]; exact c1
  fn := fun st n _ h => by
    rcases fixNodeNameX_cases gen st n with e | ⟨s, e⟩ | e <;> rw [e]
    · exact h
    · exact h
    · intro hr u hu
      have hu' : (false, u) ∈ st.glog := by
        rcases List.mem_cons.mp hu with e | e
        · cases e
        · exact e
      exact h hr u hu'
  stk := fun _ _ _ h => h

/-- only nodes of `A` are handed to the generator -/
def AskedN (A : Nat → Prop) (st : FixStX) : Prop :=
  ∀ n, (true, n) ∈ st.glog → A n ∧ ∃ s, st.nname n = some s ∧ s ≠ "" ∧ s ∉ st.resN

theorem AskedN.step (hgen : gen.NonEmpty) (A : Nat → Prop) : StepInv gen (AskedN A) A where
  pv := fun st v h => by
    rcases processValueX_cases gen st v with e | ⟨s, e⟩ | ⟨_, e⟩ <;> rw [e]
    · exact h
    · exact h
    · intro m hm
      rw [renameToX_glog] at hm
      have hm' : (true, m) ∈ st.glog := by
        rcases List.mem_cons.mp hm with e | e
        · cases e
        · exact e
      have ne := renameToX_NEq st v (gen.v v (st.vname v))
      obtain ⟨a, s, c1, c2, c3⟩ := h m hm'
      exact ⟨a, s, by rw [ne.nname]; exact c1, c2, by rw [ne.resN]; exact c3⟩
  fn := fun st n hA h => by
    rcases fixNodeNameX_cases gen st n with e | ⟨s, e⟩ | e <;> rw [e]
    · exact h
    · exact h
    · intro m hm
      obtain ⟨_, hf2, hf3⟩ := findUnique_spec (gen.n n (st.nname n)) (topOf st.nstack) st.resN (st.ncnt (gen.n n (st.nname n)))
      by_cases hmn : m = n
      · subst hmn
        refine ⟨hA, _, upd_eq _ _ _, ?_, hf2⟩
        rcases hf3 with ⟨e, _⟩ | ⟨k, _, e, _⟩
        · rw [e]; exact (hgen m (st.nname m)).2
        · rw [e]; exact sufName_ne_empty _ _
      · have hm' : (true, m) ∈ st.glog := by
          rcases List.mem_cons.mp hm with e | e
          · exact absurd (Prod.mk.inj e).2 hmn
          · exact e
        obtain ⟨a, s, c1, c2, c3⟩ := h m hm'
        exact ⟨a, s, (upd_ne _ _ hmn).trans c1, c2, c3⟩
  stk := fun _ _ _ h => h

theorem resN_const (gen : NameGen) (r : List String) (A : Nat → Prop) : StepInv gen (fun st => st.resN = r) A where
  pv := fun st v h => by rw [(processValueX_NEq (gen := gen) st v).resN]; exact h
  fn := fun st n _ h => by
    rcases fixNodeNameX_cases gen st n with e | ⟨s, e⟩ | e <;> rw [e] <;> exact h
  stk := fun _ _ _ h => h

theorem fixTop_unasked_values {w : World} {t : Top} (hok : InitsOk w) (hcl : Closed w.initOf t)
    (iv : Nat → List Nat) (hiv : ∀ g u, u ∈ iv g ↔ w.initOf u = some g)
    (hv : ∀ L ∈ recScopes iv t.tr [] [], InjT w.vname L) :
    ∀ v, (false, v) ∉ (fixTopX simpleGen (twOf w) t []).glog := by
  intro v hin
  have inv := fixTop_TInv hok hcl
  have hX := fixTop_sim w t
  have hA : Asked [] (fixTopX simpleGen (twOf w) t []) :=
    fixTopX_inv (Asked.step simpleGen_nonEmpty []) (twOf w) t [] (fun _ _ => trivial) (fun _ u hu => by simp [initX] at hu)
  have hnr : (fixTopX simpleGen (twOf w) t []).toFixSt.raised = false := by rw [hX]; exact inv.nr
  rcases hA hnr v hin with h | ⟨hs, s, e1, e2, e3⟩
  · simp at h
  have e1' : (fixTop w t).vname v = some s := by rw [← hX]; exact e1
  have hs' : v ∈ (fixTop w t).seen := by rw [← hX]; exact hs
  have e3' : s ∉ (topCfg w t).resV := by rw [← inv.res, ← hX]; exact e3
  -- the value was met by the call, so it lies in a recorded list, where its (unique, non-empty) name is kept
  obtain ⟨_, sc, hseen⟩ := fixTop_recOrd hok hcl iv hiv
  have hin2 : v ∈ seenAfter iv t.tr [] := (hseen v).mp hs'
  have hC : TopC w.initOf t v := seenAfter_TopC hiv hin2
  rcases seen_recorded iv t.tr [] [] v hin2 (by simp) with h | ⟨L, hL, hx⟩
  · simp [Top.tr, bodyVisR] at h
  · have hk : (fixTop w t).vname v = w.vname v :=
      (sc L hL).kept v hx ((hv L hL).named v hx) (fun u hu huv => (hv L hL).inj u hu v hx huv)
    exact e3' ((topCfg_OK hok hcl).res v s hC (hk.symm.trans e1') e2)

theorem fixTop_unasked_nodes {w : World} {t : Top} (hok : InitsOk w) (hcl : Closed w.initOf t)
    (hnd : (allNodes t.body).Nodup) (hn : ∀ L ∈ allNodeScopes t.tr, InjT w.nname L) :
    ∀ n, (true, n) ∉ (fixTopX simpleGen (twOf w) t []).glog := by
  intro n hin
  have inv := fixTop_TInv hok hcl
  have hX := fixTop_sim w t
  have hA := fixTopX_inv ((AskedN.step simpleGen_nonEmpty (· ∈ allNodes t.body)).and
      (resN_const simpleGen (collectTr w t.tr ([], [])).2 _)) (twOf w) t [] (fun _ hn => hn)
    ⟨fun u hu => by simp [initX] at hu, rfl⟩
  obtain ⟨hmem, s, e1, e2, e3⟩ := hA.1 n hin
  have e1' : (fixTop w t).nname n = some s := by rw [← hX]; exact e1
  obtain ⟨nd, _⟩ := fixTop_nodes inv.nr hnd
  have hL : ∃ L ∈ allNodeScopes t.tr, n ∈ L := by
    rcases allNodes_covered t.body n hmem with h | ⟨L, hL, hx⟩
    · exact ⟨bodyNodes t.body, by simp [Top.tr, allNodeScopes], h⟩
    · exact ⟨L, by simp [Top.tr, allNodeScopes, hL], hx⟩
  obtain ⟨L, hL, hx⟩ := hL
  have hk : (fixTop w t).nname n = w.nname n :=
    (nd L hL).kept n hx ((hn L hL).named n hx) (fun u hu hun => (hn L hL).inj u hu n hx hun)
  exact e3 (by
    rw [hA.2]
    exact (collectTr_complete w t.tr ([], [])).2.2 n (by simp [Top.tr, allNodes, hmem]) s (hk.symm.trans e1') e2)

/-- **a world already fixed stays as it is** (one call, whatever the scoping) -/
theorem fixTop_stable {w : World} {t : Top} (hok : InitsOk w) (hcl : Closed w.initOf t)
    (iv : Nat → List Nat) (hiv : ∀ g u, u ∈ iv g ↔ w.initOf u = some g)
    (hv : ∀ L ∈ recScopes iv t.tr [] [], InjT w.vname L)
    (hnd : (allNodes t.body).Nodup) (hn : ∀ L ∈ allNodeScopes t.tr, InjT w.nname L) :
    Same (topInit w t) (fixTop w t) := by
  have hg : (fixTopX simpleGen (twOf w) t []).glog = [] := by
    apply List.eq_nil_iff_forall_not_mem.mpr
    rintro ⟨b, x⟩ hx
    cases b with
    | false => exact fixTop_unasked_values hok hcl iv hiv hv x hx
    | true => exact fixTop_unasked_nodes hok hcl hnd hn x hx
  have hQ : Unasked (twOf w) [] (fixTopX simpleGen (twOf w) t []) :=
    fixTopX_inv (Unasked.step simpleGen (twOf w) []) (twOf w) t [] (fun _ _ => trivial) ⟨⟨[], rfl⟩, fun _ => ⟨rfl, rfl, rfl⟩⟩
  obtain ⟨q1, q2, q3⟩ := hQ.2 hg
  rw [← fixTop_sim w t]
  exact ⟨congrArg TWorld.toWorld q1, q2, q3⟩

theorem fixTop_idempotent {w : World} {t : Top} (hok : InitsOk w) (hcl : Closed w.initOf t)
    (hnd : (allNodes t.body).Nodup) :
    (fixTop (fixTop w t).toWorld t).toWorld = (fixTop w t).toWorld
    ∧ (fixTop (fixTop w t).toWorld t).modified = false
    ∧ (fixTop (fixTop w t).toWorld t).raised = false := by
  have inv := fixTop_TInv hok hcl
  have hiv : ∀ g u, u ∈ w.inits g ↔ w.initOf u = some g := fun g u => hok.mem_iff g u
  have hio : (fixTop w t).toWorld.initOf = w.initOf := inv.io
  have s := fixTop_stable (w := (fixTop w t).toWorld) (t := t) inv.ok (by rw [hio]; exact hcl) w.inits
    (fun g u => by rw [hio]; exact hiv g u)
    (fun L hL => ((fixTop_rec hok hcl w.inits hiv).1 L hL).1) hnd
    (fun L hL => ((fixTop_nodes inv.nr hnd).1 L hL).injT)
  exact ⟨s.world, s.modified, s.raised⟩

theorem fixModel_stable (iv : Nat → List Nat) (w : World) (hok : InitsOk w) (hiv : ∀ g u, u ∈ iv g ↔ w.initOf u = some g) :
    ∀ (tops : List Top), (∀ t ∈ tops, Closed w.initOf t ∧ (allNodes t.body).Nodup
        ∧ (∀ L ∈ recScopes iv t.tr [] [], InjT w.vname L) ∧ (∀ L ∈ allNodeScopes t.tr, InjT w.nname L)) →
      fixModel w tops = (w, false, false)
  | [], _ => rfl
  | t :: ts, h => by
    obtain ⟨a, b, c, d⟩ := h t List.mem_cons_self
    have s := fixTop_stable hok a iv hiv c b d
    have e1 : (fixTop w t).toWorld = w := s.world
    have e2 : (fixTop w t).modified = false := s.modified
    have e3 : (fixTop w t).raised = false := s.raised
    rw [fixModel_cons e3, e1, e2, fixModel_stable iv w hok hiv ts (fun t' ht' => h t' (List.mem_cons_of_mem _ ht'))]
    rfl

theorem fixModel_idempotent (w : World) (tops : List Top) (hok : InitsOk w)
    (hyp : ∀ t ∈ tops, Closed w.initOf t ∧ (allNodes t.body).Nodup) (hdisj : tops.Pairwise (TopDisj w.initOf)) :
    fixModel (fixModel w tops).1 tops = ((fixModel w tops).1, false, false) := by
  have hiv : ∀ g u, u ∈ w.inits g ↔ w.initOf u = some g := fun g u => hok.mem_iff g u
  obtain ⟨_, t2, t3⟩ := fixModel_total tops w hok (fun t ht => (hyp t ht).1)
  refine fixModel_stable w.inits _ t2 (fun g u => by rw [t3]; exact hiv g u) tops
    (fun t ht => ⟨by rw [t3]; exact (hyp t ht).1, (hyp t ht).2, ?_, ?_⟩)
  · exact fun L hL => ((fixModel_recPost w.inits tops w hok hiv hyp hdisj t ht).1 L hL).1
  · exact fun L hL => (fixModel_nodes tops w hok hyp (hdisj.imp (fun h => h.2)) t ht L hL).1

end IrVerif.Names
