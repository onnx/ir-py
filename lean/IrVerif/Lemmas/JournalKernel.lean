import IrVerif.Model.JournalKernel
import IrVerif.Lemmas.Journal
/-!
Helper development for `C20_transparent_kernel` / `C20_transparent_kernel_spelled`: what the kernel instantiation
`kCfg` of the journal model does when nothing is wrapped.  Running the user code of a history of public calls
(`GCall`: plain kernel ops, or spelled ones) on the pristine class table executes exactly the calls of their call
trees, in order, leaves the kernel world of the kernel semantics, and logs the kernel's outcomes with the value a
direct call returns.  (The journaled run is then related to this one by the general theorems of Props/C20.lean.)
-/
namespace IrVerif.Journal

/-- the world after some calls: the argument register holds `reg`, the user code holds `last`, the calls `evs`
    were traced -/
def adv (w : World KState) (reg : List L1 × Bool × Val) (last : Outcome) (evs : List Ev) : World KState :=
  { w with ir := { w := w.ir.w, reg := reg, last := last }, trace := w.trace ++ evs }

theorem adv_nil (w : World KState) : adv w w.ir.reg w.ir.last [] = w := by
  cases w with
  | mk ir table current journals trace log =>
    cases ir
    simp [adv]

theorem adv_adv (w : World KState) (r r' : List L1 × Bool × Val) (l l' : Outcome) (e e' : List Ev) :
    adv (adv w r l e) r' l' e' = adv w r' l' (e ++ e') := by
  simp [adv, List.append_assoc]

theorem runProg_callL1 (disp : Nat → Obj → Val → World KState → World KState × Outcome)
    (c : L1) (rest : Prog KState) (w : World KState) :
    runProg disp (callL1 c rest) w =
      runProg disp rest
        (disp c.slot c.self .none { w with ir := { w.ir with reg := (c.kids.map lift0, c.ok, c.ret) } }).1 := rfl

theorem runProg_callL2 (disp : Nat → Obj → Val → World KState → World KState × Outcome)
    (c : L2) (rest : Prog KState) (w : World KState) :
    runProg disp (callL2 c rest) w =
      runProg disp rest
        { (disp c.slot c.self .none { w with ir := { w.ir with reg := (c.kids, c.ok, c.ret) } }).1 with
          ir := { (disp c.slot c.self .none { w with ir := { w.ir with reg := (c.kids, c.ok, c.ret) } }).1.ir with
            last := (disp c.slot c.self .none { w with ir := { w.ir with reg := (c.kids, c.ok, c.ret) } }).2 } } := rfl

theorem dispatch_pristine (f slot : Nat) (self : Obj) (arg : Val) (w : World KState)
    (h : w.table = pristine) :
    dispatch kCfg (f + 1) slot self arg w = runOrig kCfg (dispatch kCfg f) slot self arg w := by
  show runImpl kCfg (runOrig kCfg (dispatch kCfg f)) (w.table slot) self arg w = _
  rw [h]
  rfl

theorem runOrig_kCfg (disp : Nat → Obj → Val → World KState → World KState × Outcome)
    (slot : Nat) (self : Obj) (arg : Val) (w : World KState) :
    runOrig kCfg disp slot self arg w =
      ((emit (.finish slot self
          (runProg disp (callL1s w.ir.reg.1 (.done (outT slot w.ir.reg.2.1 w.ir.reg.2.2))) (emit (.start slot self) w)).2)
          (runProg disp (callL1s w.ir.reg.1 (.done (outT slot w.ir.reg.2.1 w.ir.reg.2.2))) (emit (.start slot self) w)).1),
       (runProg disp (callL1s w.ir.reg.1 (.done (outT slot w.ir.reg.2.1 w.ir.reg.2.2))) (emit (.start slot self) w)).2) := rfl

/-- level 0: calls that make no calls -/
theorem calls0 (f : Nat) : ∀ (kids : List L0) (rest : Prog KState) (w : World KState),
    w.table = pristine →
    ∃ reg', runProg (dispatch kCfg (f + 1)) (callL1s (kids.map lift0) rest) w =
      runProg (dispatch kCfg (f + 1)) rest (adv w reg' w.ir.last (kids.flatMap evs0)) := by
  intro kids
  induction kids with
  | nil => intro rest w _; exact ⟨w.ir.reg, by simp [callL1s, adv_nil]⟩
  | cons c cs ih =>
    intro rest w hw
    simp only [List.map_cons, callL1s, runProg_callL1]
    rw [dispatch_pristine f _ _ _ _ (by exact hw), runOrig_kCfg]
    simp only [lift0, List.map_nil, callL1s, runProg]
    obtain ⟨reg', h⟩ := ih rest (adv w ([], c.ok, c.ret) w.ir.last (evs0 c)) hw
    refine ⟨reg', ?_⟩
    have e : (emit (.finish c.slot c.self (outT c.slot c.ok c.ret))
        (emit (.start c.slot c.self) { w with ir := { w.ir with reg := ([], c.ok, c.ret) } })) =
        adv w ([], c.ok, c.ret) w.ir.last (evs0 c) := by
      simp [emit, adv, evs0, List.append_assoc]
    rw [e, h, adv_adv]
    simp [List.flatMap_cons, adv]

theorem emit_adv (slot : Nat) (self : Obj) (out : Outcome) (w : World KState) (R r0 : List L1 × Bool × Val)
    (evs : List Ev) :
    emit (.finish slot self out)
        (adv (emit (.start slot self) { w with ir := { w.ir with reg := R } })
          r0 (emit (.start slot self) { w with ir := { w.ir with reg := R } }).ir.last evs) =
      adv w r0 w.ir.last ([.start slot self] ++ evs ++ [.finish slot self out]) := by
  simp [emit, adv, List.append_assoc]

/-- level 1: calls whose callees make no calls -/
theorem calls1 (f : Nat) : ∀ (kids : List L1) (rest : Prog KState) (w : World KState),
    w.table = pristine →
    ∃ reg', runProg (dispatch kCfg (f + 2)) (callL1s kids rest) w =
      runProg (dispatch kCfg (f + 2)) rest (adv w reg' w.ir.last (kids.flatMap evs1)) := by
  intro kids
  induction kids with
  | nil => intro rest w _; exact ⟨w.ir.reg, by simp [callL1s, adv_nil]⟩
  | cons c cs ih =>
    intro rest w hw
    simp only [callL1s, runProg_callL1]
    rw [dispatch_pristine (f + 1) _ _ _ _ (by exact hw), runOrig_kCfg]
    obtain ⟨r0, h0⟩ := calls0 f c.kids (.done (outT c.slot c.ok c.ret))
      (emit (.start c.slot c.self) { w with ir := { w.ir with reg := (c.kids.map lift0, c.ok, c.ret) } }) hw
    rw [h0]
    simp only [runProg]
    rw [emit_adv]
    obtain ⟨reg', h⟩ := ih rest (adv w r0 w.ir.last (evs1 c)) hw
    refine ⟨reg', ?_⟩
    show runProg _ (callL1s cs rest) (adv w r0 w.ir.last (evs1 c)) = _
    rw [h, adv_adv]
    simp [List.flatMap_cons, adv]

/-- level 2: the top-level calls of a public call; the user code keeps what the last one handed back -/
theorem calls2 (f : Nat) : ∀ (kids : List L2) (rest : Prog KState) (w : World KState),
    w.table = pristine →
    ∃ reg', runProg (dispatch kCfg (f + 3)) (callL2s kids rest) w =
      runProg (dispatch kCfg (f + 3)) rest (adv w reg' (lastOf kids w.ir.last) (kids.flatMap evs2)) := by
  intro kids
  induction kids with
  | nil => intro rest w _; exact ⟨w.ir.reg, by simp [callL2s, lastOf, adv_nil]⟩
  | cons c cs ih =>
    intro rest w hw
    simp only [callL2s, runProg_callL2]
    rw [dispatch_pristine (f + 2) _ _ _ _ (by exact hw), runOrig_kCfg]
    obtain ⟨r0, h0⟩ := calls1 f c.kids (.done (outT c.slot c.ok c.ret))
      (emit (.start c.slot c.self) { w with ir := { w.ir with reg := (c.kids, c.ok, c.ret) } }) hw
    rw [h0]
    simp only [runProg]
    rw [emit_adv]
    obtain ⟨reg', h⟩ := ih rest (adv w r0 (outT c.slot c.ok c.ret) (evs2 c)) hw
    refine ⟨reg', ?_⟩
    have e : ({ adv w r0 w.ir.last ([Ev.start c.slot c.self] ++ c.kids.flatMap evs1 ++ [Ev.finish c.slot c.self (outT c.slot c.ok c.ret)]) with
        ir := { (adv w r0 w.ir.last ([Ev.start c.slot c.self] ++ c.kids.flatMap evs1 ++ [Ev.finish c.slot c.self (outT c.slot c.ok c.ret)])).ir with
          last := outT c.slot c.ok c.ret } } : World KState) = adv w r0 (outT c.slot c.ok c.ret) (evs2 c) := by
      simp [adv, evs2]
    rw [e, h, adv_adv]
    simp [List.flatMap_cons, lastOf, adv]

/-- the world after a history: kernel state, register, `last`, trace and log advanced -/
def advH (w : World KState) (ops : List GCall) (reg : List L1 × Bool × Val) (last : Outcome) : World KState :=
  { w with ir := { w := gWorld w.ir.w ops, reg := reg, last := last },
           trace := w.trace ++ gEvs w.ir.w ops, log := w.log ++ gLog w.ir.w ops }

theorem advH_nil (w : World KState) : advH w [] w.ir.reg w.ir.last = w := by
  cases w with
  | mk ir table current journals trace log =>
    cases ir
    simp [advH, gWorld, gEvs, gLog]

theorem gWorld_append (w : KW) (a b : List GCall) :
    gWorld w (a ++ b) = gWorld (gWorld w a) b := by
  simp [gWorld, List.foldl_append]

theorem gEvs_append (w : KW) (a b : List GCall) :
    gEvs w (a ++ b) = gEvs w a ++ gEvs (gWorld w a) b := by
  induction a generalizing w with
  | nil => simp [gEvs, gWorld]
  | cons op rest ih => simp [gEvs, gWorld, ih, List.append_assoc]

theorem gLog_append (w : KW) (a b : List GCall) :
    gLog w (a ++ b) = gLog w a ++ gLog (gWorld w a) b := by
  induction a generalizing w with
  | nil => simp [gLog, gWorld]
  | cons op rest ih => simp [gLog, gWorld, ih]

theorem advH_advH (w : World KState) (a b : List GCall) (r r' : List L1 × Bool × Val) (l l' : Outcome) :
    advH (advH w a r l) b r' l' = advH w (a ++ b) r' l' := by
  simp [advH, gWorld_append, gEvs_append, gLog_append, List.append_assoc]

/-- one public call on the pristine table -/
theorem run_op (f : Nat) (c : GCall) (w : World KState) (hw : w.table = pristine) :
    ∃ reg' last', runBlock kCfg (f + 3) (.attempt (.op (gProg c))) w = (advH w [c] reg' last', none) := by
  obtain ⟨r0, h0⟩ := calls2 f (c.trees w.ir.w)
    (.get fun st' => .put { st' with w := (c.step w.ir.w).1 }
        (.done (outOfV (c.step w.ir.w).2 (if c.direct then valOf st'.last else .none))))
    { w with ir := { w.ir with last := .ret .none } } hw
  refine ⟨r0, lastOf (c.trees w.ir.w) (.ret .none), ?_⟩
  have h1 : runProg (dispatch kCfg (f + 3)) (gProg c) w =
      runProg (dispatch kCfg (f + 3)) (callL2s (c.trees w.ir.w)
        (.get fun st' => .put { st' with w := (c.step w.ir.w).1 }
          (.done (outOfV (c.step w.ir.w).2 (if c.direct then valOf st'.last else .none)))))
        { w with ir := { w.ir with last := .ret .none } } := rfl
  -- the tail of `gProg` writes the kernel state and hands the outcome back: `adv` for the calls becomes `advH` for one public call
  simp only [runBlock, h1, h0, runProg]
  simp [adv, advH, gWorld, gEvs, gLog, gOut]

theorem run_hist (f : Nat) : ∀ (ops : List GCall) (w : World KState), w.table = pristine →
    ∃ reg' last', runBlock kCfg (f + 3) (gBlock ops) w = (advH w ops reg' last', none) := by
  intro ops
  induction ops with
  | nil => intro w _; exact ⟨w.ir.reg, w.ir.last, by simp [gBlock, runBlock, advH_nil]⟩
  | cons op rest ih =>
    intro w hw
    obtain ⟨r1, l1, h1⟩ := run_op f op w hw
    obtain ⟨r2, l2, h2⟩ := ih (advH w [op] r1 l1) hw
    refine ⟨r2, l2, ?_⟩
    show runBlock kCfg (f + 3) (.seq (.attempt (.op (gProg op))) (gBlock rest)) w = _
    rw [runBlock, h1]
    simp only []
    rw [h2, advH_advH]
    rfl

theorem strip_gBlock (ops : List GCall) : strip (gBlock ops) = gBlock ops := by
  induction ops with
  | nil => rfl
  | cons op rest ih => simp [gBlock, strip, ih]

/-- any history with its journals removed, on the pristine table -/
theorem run_gblk_plain (f : Nat) : ∀ (kb : GBlk) (w : World KState), w.table = pristine →
    ∃ reg' last', runBlock kCfg (f + 3) (strip kb.toBlock) w = (advH w kb.allOps reg' last', none) := by
  intro kb
  induction kb with
  | ops l => intro w hw; rw [GBlk.toBlock, strip_gBlock]; exact run_hist f l w hw
  | seq a b iha ihb =>
    intro w hw
    obtain ⟨r1, l1, h1⟩ := iha w hw
    obtain ⟨r2, l2, h2⟩ := ihb (advH w a.allOps r1 l1) hw
    refine ⟨r2, l2, ?_⟩
    show runBlock kCfg (f + 3) (.seq (strip a.toBlock) (strip b.toBlock)) w = _
    rw [runBlock, h1]
    simp only []
    rw [h2, advH_advH]
    rfl
  | withJ j body ih => intro w hw; exact ih w hw

/-! ### the hypotheses of `C20_transparent` hold for `kCfg` -/

theorem callL1s_out (disp : Nat → Obj → Val → World KState → World KState × Outcome) (o : Outcome) :
    ∀ (kids : List L1) (w : World KState), (runProg disp (callL1s kids (.done o)) w).2 = o := by
  intro kids
  induction kids with
  | nil => intro w; rfl
  | cons c cs ih => intro w; rw [callL1s, runProg_callL1]; exact ih _

theorem procNone_kCfg : ProcNone kCfg := by
  intro k hk disp self arg w v hv
  have h : (runProg disp (kCfg.impl k self arg) w).2 = outT k w.ir.reg.2.1 w.ir.reg.2.2 :=
    callL1s_out disp _ w.ir.reg.1 w
  rw [h] at hv
  cases hr : w.ir.reg.2.1 <;> simp [outT, outOfV, retFor, hr, hk] at hv
  exact hv.symm

theorem detailsOk_kCfg : DetailsOk kCfg := fun _ _ _ s => ⟨s, rfl⟩

theorem detailsPure_kCfg : DetailsPure kCfg := by
  intro k self arg s s' h
  simp [kCfg] at h
  exact h.symm

theorem allCall_evs0 (c : L0) : ∀ e ∈ evs0 c, isCall e = true := by
  intro e he
  simp [evs0] at he
  rcases he with h | h <;> subst h <;> rfl

theorem allCall_evs1 (c : L1) : ∀ e ∈ evs1 c, isCall e = true := by
  intro e he
  simp only [evs1, List.mem_append, List.mem_singleton, List.mem_flatMap] at he
  rcases he with (h | ⟨k, _, hk⟩) | h
  · subst h; rfl
  · exact allCall_evs0 k e hk
  · subst h; rfl

theorem allCall_evs2 (c : L2) : ∀ e ∈ evs2 c, isCall e = true := by
  intro e he
  simp only [evs2, List.mem_append, List.mem_singleton, List.mem_flatMap] at he
  rcases he with (h | ⟨k, _, hk⟩) | h
  · subst h; rfl
  · exact allCall_evs1 k e hk
  · subst h; rfl

theorem allCall_gEvs (w : KW) (ops : List GCall) : ∀ e ∈ gEvs w ops, isCall e = true := by
  induction ops generalizing w with
  | nil => intro e he; simp [gEvs] at he
  | cons op rest ih =>
    intro e he
    simp only [gEvs, List.mem_append, List.mem_flatMap] at he
    rcases he with ⟨t, _, ht⟩ | h
    · exact allCall_evs2 t e ht
    · exact ih _ e h

theorem isCall_gEvs (w : KW) (ops : List GCall) :
    (gEvs w ops).filter isCall = gEvs w ops :=
  List.filter_eq_self.mpr (allCall_gEvs w ops)

/-! ### the two instances -/

theorem histBlock_eq (ops : List Kernel.AnyOp) : histBlock ops = gBlock (ops.map gOf) := by
  induction ops with
  | nil => rfl
  | cons op rest ih => simp [histBlock, gBlock, opProg, ih]

theorem KBlk.toBlock_eq (kb : KBlk) : kb.toBlock = kb.toG.toBlock := by
  induction kb with
  | ops l => exact histBlock_eq l
  | seq a b iha ihb => simp [KBlk.toBlock, KBlk.toG, GBlk.toBlock, iha, ihb]
  | withJ j body ih => simp [KBlk.toBlock, KBlk.toG, GBlk.toBlock, ih]

theorem KBlk.allOps_toG (kb : KBlk) : kb.toG.allOps = kb.allOps.map gOf := by
  induction kb with
  | ops l => rfl
  | seq a b iha ihb => simp [KBlk.allOps, KBlk.toG, GBlk.allOps, iha, ihb]
  | withJ j body ih => simpa [KBlk.allOps, KBlk.toG, GBlk.allOps] using ih

theorem gWorld_gOf (w : KW) (ops : List Kernel.AnyOp) : gWorld w (ops.map gOf) = histWorld w ops := by
  induction ops generalizing w with
  | nil => rfl
  | cons op rest ih => simp only [List.map_cons, gWorld, histWorld, List.foldl_cons] at ih ⊢; exact ih _

theorem KBlkX.allOps_toG (kb : KBlkX) : kb.toG.allOps = kb.allCalls.map gOfX := by
  induction kb with
  | ops l => rfl
  | seq a b iha ihb => simp [KBlkX.allCalls, KBlkX.toG, GBlk.allOps, iha, ihb]
  | withJ j body ih => simpa [KBlkX.allCalls, KBlkX.toG, GBlk.allOps] using ih

theorem gWorld_gOfX (w : KW) (cs : List KCall) :
    gWorld w (cs.map gOfX) = histWorld w (cs.map (·.op)) := by
  induction cs generalizing w with
  | nil => rfl
  | cons c rest ih => simp only [List.map_cons, gWorld, histWorld, List.foldl_cons] at ih ⊢; exact ih _

end IrVerif.Journal
