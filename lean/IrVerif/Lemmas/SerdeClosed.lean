import IrVerif.Lemmas.SerdeMutual
/-! C02: the table names of a deserialized well-formed graph, and the reserved names of `serialize_model_into`. -/
namespace IrVerif.Serde
open IrVerif.Proto

/-- the table of a deserialized well-formed graph holds exactly the names of its scope -/
theorem desGraph_table_names (outer : Scopes) : ∀ (g : GraphP) (x : IRGraph), wfGraph outer g = true →
    desGraph outer g = .ok x →
    tableNames x.table = scopeNames (g.inputs.map (·.name)) (g.initializers.map (·.name))
      (nodeOutNames g.nodes)
  | .mk name doc nodes inits inputs outputs vis quant md, x, h, hd => by
    obtain ⟨hw, hwn⟩ := graphWF_of_wf outer name doc nodes inits inputs outputs vis quant md h
    obtain ⟨xs, n1, _, _⟩ := nodes_rt outer vis quant none nodes
      (tblPre inits inputs vis quant (nodeOutNames nodes)) (by rw [tableNames_tblPre]; exact hwn) (Or.inl rfl)
    obtain ⟨idxs, c1, _⟩ := graph_des_closed outer name doc nodes inits inputs outputs vis quant md hw.to0 hw.consOut xs n1
    rw [c1] at hd
    simp only [Except.ok.injEq] at hd
    rw [← hd]
    exact tableNames_tblFinal

theorem getD_name_mem_or_empty (names : List String) (i : Nat) : names.getD i "" = "" ∨ names.getD i "" ∈ names := by
  by_cases h : i < names.length
  · right
    simp [List.getD, List.getElem?_eq_getElem h]
  · left
    have hn : names[i]? = none := List.getElem?_eq_none (by omega)
    simp [List.getD, hn]

theorem refName_mem (names : List String) (r : Ref) : refName [names] r = "" ∨ refName [names] r ∈ names := by
  unfold refName
  cases hu : r.up with
  | zero => simpa using getD_name_mem_or_empty names r.idx
  | succ k => left; simp [List.getD]

/-- every reserved name is the name of a value of the main graph's table -/
theorem reservedNames_subset : ∀ (g : IRGraph), ∀ r ∈ reservedNames g, r ∈ tableNames g.table
  | .mk tbl ins inits nodes outs name doc ops mp, r, hr => by
    simp only [reservedNames, List.mem_append, List.mem_filter, List.mem_flatMap, List.mem_filterMap,
      List.mem_map, decide_eq_true_eq] at hr
    simp only [IRGraph.table]
    rcases hr with ⟨⟨n, _, hn⟩, hne⟩ | ⟨⟨i, _, hi⟩, hne⟩
    · rcases hn with ⟨a, _, ha⟩ | ⟨a, _, ha⟩
      · cases a with
        | none => simp at ha
        | some rf =>
          simp only [Option.map_some, Option.some.injEq] at ha
          rcases refName_mem (tableNames tbl) rf with h0 | hm
          · exact absurd (ha ▸ h0) hne
          · exact ha ▸ hm
      · cases a with
        | none => simp at ha
        | some j =>
          simp only [Option.map_some, Option.some.injEq] at ha
          rcases refName_mem (tableNames tbl) ⟨0, j⟩ with h0 | hm
          · exact absurd (ha ▸ h0) hne
          · exact ha ▸ hm
    · rw [← tableNames_getD] at hi
      rcases getD_name_mem_or_empty (tableNames tbl) i with h0 | hm
      · exact absurd (hi ▸ h0) hne
      · exact hi ▸ hm

/-- when no reserved name has the experimental form, the reserved-name check never fires -/
theorem serExperimentalR_eq (R : List String) (hR : ∀ r ∈ R, parseExperimentalName r = none)
    (f : IRFunction) : serExperimentalR R f = serExperimental f := by
  have hE : ∀ v : IRValue, expEmitR R f.domain f.name v = expEmit f.domain f.name v := by
    intro v
    unfold expEmitR
    split
    · rename_i hc
      have hp := hR _ (by simpa using hc)
      unfold expEmit
      split
      · rfl
      · split
        · simp [hp]
        · rfl
    · rfl
  unfold serExperimentalR serExperimental
  split
  · rfl
  · simp only [hE]

end IrVerif.Serde
