/-
The EXTENDED serializer of functions (`serFInputsE`, `serFunctionE`, `serFuncsE` of `Model/ScopeExt.lean`): the
congruence under the round-trip isomorphism (serializing the reloaded functions gives the same protos; it mirrors
`img2_serFunction` / `img2_serFuncs`, with the hypotheses of `img2E_serNodes`) and the positional form of the device
description of the reloaded functions.
-/
import IrVerif.Lemmas.ScopeExtFuncSer
import IrVerif.Lemmas.ScopeExtIdem
namespace IrVerif.Scope

theorem img2E_serFInputs {V V' : Nat → ValueS} {x x' : Ext} {A : Assoc} {E EQ : List Nat}
    (H : ExtImg V V' x x' A E EQ) (h : Img V V' (sig A) E)
    (hn : ∀ v ∈ A.map (·.1), (V' (sig A v)).name = (V v).name) :
    ∀ (ins : List Nat) (vis : List VInfoE), (∀ v ∈ ins, v ∈ A.map (·.1)) →
      (∀ v ∈ ins, nameTruthy (V v).name = true → v ∈ E) →
      serFInputsE V x ins = .ok (ins.map (nm V), vis) →
      serFInputsE V' x' (ins.map (sig A)) = .ok (ins.map (nm V), vis) := by
  intro ins
  induction ins with
  | nil => intro vis _ _ h; simpa [serFInputsE] using h
  | cons v rest ih =>
    intro vis hK hE hs
    simp only [serFInputsE] at hs
    split at hs
    · simp at hs
    · rename_i n hnv
      split at hs
      · simp at hs
      · rename_i ns' vis' hr
        simp only [Except.ok.injEq, Prod.mk.injEq, List.map_cons, List.cons.injEq] at hs
        obtain ⟨⟨_, hns⟩, rfl⟩ := hs
        subst hns
        have hk := hK v (by simp)
        have ih' := ih vis' (fun w hw => hK w (by simp [hw])) (fun w hw => hE w (by simp [hw])) hr
        have hname : (V' (sig A v)).name = some n := by rw [hn v hk, hnv]
        have hnm : nm V v = n := nm_of_name hnv
        simp only [List.map_cons, serFInputsE, hname, ih', hnm]
        by_cases ht : nameTruthy (V v).name = true
        · have hvE := hE v (by simp) ht
          simp only [H.shouldCreate h hvE, h.info v hvE, emit_emit, H.sorted v hvE]
        · have hf : nameTruthy (V v).name = false := by simpa using ht
          have h1 : shouldCreateE (V v) (x.vmeta v) = false := by simp [shouldCreateE, hf]
          have h2 : shouldCreateE (V' (sig A v)) (x'.vmeta (sig A v)) = false := by
            simp [shouldCreateE, hn v hk, hf]
          simp [h1, h2]

theorem img2E_serFunction {V V' : Nat → ValueS} {td td' : TData} {A : Assoc} {E EQ : List Nat} {x x' : Ext}
    (s' : Store) (ver : Option Int) (hV' : V' = s'.vals)
    (h : Img V V' (sig A) E)
    (hn : ∀ v ∈ A.map (·.1), (V' (sig A v)).name = (V v).name)
    (hinj : ∀ a ∈ A.map (·.1), ∀ b ∈ A.map (·.1), sig A a = sig A b → a = b)
    (hm : MetaOK2 x x' A E) (hq : QuantOK2 x x' A EQ) (hwf : ExtWF x) :
    ∀ (id : FId) (g g' : GraphT) (fp : FuncE) (ws : Writes), TreeRelG V A g g' → (∀ v ∈ emitF V g, v ∈ E) →
      (∀ v ∈ emitQF V g, v ∈ EQ) → extF V x g →
      ConstImg V V' td td' (sig A) (allInitsG g) → DevSpecNs s' x' fp.nodes g'.nodes →
      serFunctionE V x td ver (id, g) = .ok (fp, ws) → ∃ ws', serFunctionE V' x' td' ver (id, g') = .ok (fp, ws')
  | id, .mk _ ins inits nodes outs, .mk _ ins' inits' nodes' outs' => fun fp ws ht hE hEQ hx hc hD hser => by
    have H : ExtImg V V' x x' A E EQ := ExtImg.mk' hn hm hq hwf
    simp only [TreeRelG] at ht
    obtain ⟨rfl, hinK, rfl, _, htn, rfl, houtK⟩ := ht
    obtain ⟨vis1, nps, qs, vis2, hi, hn', houts_n, rfl⟩ := xserFunction_inv hser
    simp only [extF] at hx
    simp only [emitQF] at hEQ
    simp only [GraphT.nodes] at hD
    have e1 := img2E_serFInputs H h hn ins vis1 hinK
      (fun v hv ht => hE v (List.mem_append_left _ (List.mem_append_left _ (List.mem_filter.mpr ⟨hv, ht⟩)))) hi
    have e2 := img2_serOutNames hn outs houtK houts_n
    obtain ⟨ws', e3⟩ := img2E_serNodes s' ver hV' h hn hinj hm hq hwf nodes nodes' false [] nps qs vis2 ws htn
      nofun
      (fun v hv ht => hE v (List.mem_append_left _ (List.mem_append_right _ (List.mem_filter.mpr ⟨hv, ht⟩))))
      (fun v hv => hE v (List.mem_append_right _ hv))
      (fun hA => by cases hA) hEQ (extNs_quietOuts V x nodes [] _ hx.2)
      (fun kv hkv => hc kv (List.mem_append_right _ hkv)) hD hn'
    simp only [List.map_nil] at e3
    exact ⟨ws', by simp only [serFunctionE, e1, e2, e3, liftS]⟩

theorem img2E_serFuncs {V V' : Nat → ValueS} {td td' : TData} {A : Assoc} {E EQ : List Nat} {x x' : Ext}
    (s' : Store) (ver : Option Int) (hV' : V' = s'.vals)
    (h : Img V V' (sig A) E)
    (hn : ∀ v ∈ A.map (·.1), (V' (sig A v)).name = (V v).name)
    (hinj : ∀ a ∈ A.map (·.1), ∀ b ∈ A.map (·.1), sig A a = sig A b → a = b)
    (hm : MetaOK2 x x' A E) (hq : QuantOK2 x x' A EQ) (hwf : ExtWF x) :
    ∀ (fs gs : List (FId × GraphT)) (fps : List FuncE) (ws : Writes), TreeRelFs V A fs gs →
      (∀ v ∈ fs.flatMap (fun f => emitF V f.2), v ∈ E) →
      (∀ v ∈ fs.flatMap (fun f => emitQF V f.2), v ∈ EQ) → (∀ f ∈ fs, extF V x f.2) →
      ConstImg V V' td td' (sig A) (fs.flatMap fun f => allInitsG f.2) →
      DevSpecFs s' x' fps gs →
      serFuncsE V x td ver fs = .ok (fps, ws) → ∃ ws', serFuncsE V' x' td' ver gs = .ok (fps, ws')
  | [], [] => fun fps ws _ _ _ _ _ _ hser => by
    simp only [serFuncsE, Except.ok.injEq, Prod.mk.injEq] at hser
    obtain ⟨rfl, _⟩ := hser
    exact ⟨[], rfl⟩
  | f :: fs, g :: gs => fun fps ws ht hE hEQ hx hc hD hser => by
    simp only [TreeRelFs] at ht
    obtain ⟨fp, ws1, fps', ws2, h1, h2, rfl, _⟩ := serFuncsE_inv hser
    simp only [DevSpecFs] at hD
    obtain ⟨id, fg⟩ := f
    obtain ⟨id', gg⟩ := g
    simp only at ht hD
    obtain ⟨rfl, ht1, ht2⟩ := ht
    obtain ⟨w1, e1⟩ := img2E_serFunction s' ver hV' h hn hinj hm hq hwf id fg gg fp ws1 ht1
      (fun v hv => hE v (List.mem_append_left _ hv)) (fun v hv => hEQ v (List.mem_append_left _ hv)) (hx _ (List.mem_cons_self ..))
      (fun kv hkv => hc kv (List.mem_append_left _ hkv)) hD.1 h1
    obtain ⟨w2, e2⟩ := img2E_serFuncs s' ver hV' h hn hinj hm hq hwf fs gs fps' ws2 ht2
      (fun v hv => hE v (List.mem_append_right _ hv)) (fun v hv => hEQ v (List.mem_append_right _ hv)) (fun f hf => hx f (List.mem_cons_of_mem _ hf))
      (fun kv hkv => hc kv (List.mem_append_right _ hkv)) hD.2 h2
    exact ⟨_, by simp only [serFuncsE, e1, e2]; rfl⟩
  | [], _ :: _ => fun _ _ ht _ _ _ _ _ _ => by simp [TreeRelFs] at ht
  | _ :: _, [] => fun _ _ ht _ _ _ _ _ _ => by simp [TreeRelFs] at ht

theorem devSpecFs_of_mem (s : Store) (x : Ext) : ∀ (fps : List FuncE) (gs : List (FId × GraphT)),
    fps.map (·.id) = gs.map (·.1) → (gs.map (·.1)).Nodup →
    (∀ e ∈ gs, ∃ f ∈ fps, f.id = e.1 ∧ DevSpecNs s x f.nodes e.2.nodes) → DevSpecFs s x fps gs
  | [], [] => fun _ _ _ => by simp [DevSpecFs]
  | f :: fps, g :: gs => fun hk hnd hm => by
    simp only [List.map_cons, List.cons.injEq] at hk
    simp only [List.map_cons, List.nodup_cons] at hnd
    obtain ⟨hk1, hk2⟩ := hk
    obtain ⟨hnd1, hnd2⟩ := hnd
    simp only [DevSpecFs]
    refine ⟨?_, devSpecFs_of_mem s x fps gs hk2 hnd2 (fun e he => ?_)⟩
    · obtain ⟨f', hf', hid, hd⟩ := hm g (by simp)
      simp only [List.mem_cons] at hf'
      rcases hf' with rfl | hf'
      · exact hd
      · exfalso
        apply hnd1
        rw [← hk2, ← hid]
        exact List.mem_map_of_mem (f := fun f : FuncE => f.id) hf'
    · obtain ⟨f', hf', hid, hd⟩ := hm e (by simp [he])
      simp only [List.mem_cons] at hf'
      rcases hf' with rfl | hf'
      · exfalso
        apply hnd1
        rw [← hk1, hid]
        exact List.mem_map_of_mem (f := fun e : FId × GraphT => e.1) he
      · exact ⟨f', hf', hid, hd⟩
  | [], _ :: _ => fun hk _ _ => by simp at hk
  | _ :: _, [] => fun hk _ _ => by simp at hk

end IrVerif.Scope
