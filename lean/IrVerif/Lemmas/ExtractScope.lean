/-
C18: the structural (back-pointer independent) notions — free variables of a nested graph — and their
relation to what the code computes from the `.graph` back pointers.
-/
import IrVerif.Lemmas.Extract
namespace IrVerif.Extract

/-! ## free variables, structurally -/

/-- `v` is a free variable of the nested graph `b`: some node of `b` or of a graph nested in `b` reads it, and
    neither `b` nor a graph nested in `b` defines it.  Purely structural: no back pointer is consulted. -/
def FreeOf (b : GraphT) (v : VId) : Prop := UsedInG b v ∧ ¬ DefInG b v

/-- the `.graph` back pointers are consistent with the structure on the subtree of `b` -/
def BackPtrOK (W : World) (b : GraphT) : Prop :=
  ∀ v, DefInG b v ↔ ∃ k, NestedIn b k ∧ W.graphOf v = some k

theorem backPtrB_sound {W : World} {b : GraphT} (h : backPtrB W b = true) : BackPtrOK W b := by
  intro v
  unfold backPtrB at h
  rw [List.all_eq_true] at h
  have key : ∀ v, (v < W.vals.length ∨ v ∈ defsG b) →
      (v ∈ defsG b ↔ W.graphOf v ∈ (gidsG b).map some) := by
    intro v hv
    have := h v (by
      rw [List.mem_append, List.mem_range]; exact hv)
    simp only [List.contains_eq_mem, beq_iff_eq, decide_eq_decide] at this
    exact this
  have hmap : ∀ v, W.graphOf v ∈ (gidsG b).map some ↔ ∃ k, NestedIn b k ∧ W.graphOf v = some k := by
    intro v
    rw [List.mem_map]
    constructor
    · rintro ⟨k, hk, e⟩; exact ⟨k, (mem_gidsG b k).mp hk, e.symm⟩
    · rintro ⟨k, hk, e⟩; exact ⟨k, (mem_gidsG b k).mpr hk, e.symm⟩
  by_cases hv : v < W.vals.length ∨ v ∈ defsG b
  · rw [← mem_defsG, key v hv, hmap]
  · have h1 : ¬ v ∈ defsG b := fun h => hv (Or.inr h)
    have h0 : ¬ v < W.vals.length := fun h => hv (Or.inl h)
    have h2 : W.graphOf v = none := graphOf_out_of_range (Nat.le_of_not_lt h0)
    constructor
    · intro hd; exact absurd ((mem_defsG b v).mpr hd) h1
    · rintro ⟨k, _, e⟩; rw [h2] at e; cases e

/-- what the code computes from the back pointers (`Outside`) is "not defined inside" when the back pointers
    are consistent and the region's own graph is not nested in the body -/
theorem outside_iff_not_def {W : World} {p : GId} {b : GraphT} {v : VId}
    (hb : BackPtrOK W b) (hp : ¬ NestedIn b p) : Outside W p b v ↔ ¬ DefInG b v := by
  unfold Outside
  constructor
  · rintro (h | h) hd
    · obtain ⟨k, hk, e⟩ := (hb v).mp hd
      rw [h] at e; cases e; exact hp hk
    · obtain ⟨k, hk, e⟩ := (hb v).mp hd
      exact h k hk e
  · intro hnd
    right
    intro k hk e
    exact hnd ((hb v).mpr ⟨k, hk, e⟩)

/-- structural "needs": an input of the node, or a free variable of one of its graph attributes -/
def NeedsS (W : World) (n : NId) (u : VId) : Prop :=
  some u ∈ (W.nodeD n).inputs ∨ ∃ b, b ∈ (W.nodeD n).bodies ∧ FreeOf b u

/-- the back pointers of every graph attribute of node `n` are consistent, and the region's graph `p` is not
    nested in them -/
def BodiesPtrOK (W : World) (p : GId) (n : NId) : Prop :=
  ∀ b, b ∈ (W.nodeD n).bodies → BackPtrOK W b ∧ ¬ NestedIn b p

theorem needs_iff_struct {W : World} {p : GId} {n : NId} {u : VId} (h : BodiesPtrOK W p n) :
    Needs W p n u ↔ NeedsS W n u := by
  unfold Needs NeedsS FreeOf
  constructor
  · rintro (h1 | ⟨b, hb, hu, ho⟩)
    · exact Or.inl h1
    · exact Or.inr ⟨b, hb, hu, (outside_iff_not_def (h b hb).1 (h b hb).2).mp ho⟩
  · rintro (h1 | ⟨b, hb, hu, hd⟩)
    · exact Or.inl h1
    · exact Or.inr ⟨b, hb, hu, (outside_iff_not_def (h b hb).1 (h b hb).2).mpr hd⟩

/-- the required values / nodes, defined from the structure alone -/
inductive ReachS (W : World) (I O : List VId) : VId → Prop
  | out {v : VId} : v ∈ O → ¬ v ∈ I → ReachS W I O v
  | step {v u : VId} {n : NId} : ReachS W I O v → W.prod v = some n → NeedsS W n u → ¬ u ∈ I →
      ReachS W I O u

def NeedNS (W : World) (I O : List VId) (n : NId) : Prop :=
  ∃ v, ReachS W I O v ∧ W.prod v = some n

theorem reach_iff_struct {W : World} {p : GId} {I O : List VId} (h : ∀ n, BodiesPtrOK W p n) (v : VId) :
    Reach W p I O v ↔ ReachS W I O v := by
  constructor
  · intro hr
    induction hr with
    | out ho hi => exact ReachS.out ho hi
    | step _ hp hn hi ih => exact ReachS.step ih hp ((needs_iff_struct (h _)).mp hn) hi
  · intro hr
    induction hr with
    | out ho hi => exact Reach.out ho hi
    | step _ hp hn hi ih => exact Reach.step ih hp ((needs_iff_struct (h _)).mpr hn) hi

theorem needN_iff_struct {W : World} {p : GId} {I O : List VId} (h : ∀ n, BodiesPtrOK W p n) (n : NId) :
    NeedN W p I O n ↔ NeedNS W I O n := by
  unfold NeedN NeedNS
  constructor
  · rintro ⟨v, hr, hp⟩; exact ⟨v, (reach_iff_struct h v).mp hr, hp⟩
  · rintro ⟨v, hr, hp⟩; exact ⟨v, (reach_iff_struct h v).mpr hr, hp⟩

/-! ## lexical free variables are uses (in closed graphs) -/

mutual
  theorem used_of_freeG : ∀ (g : GraphT) (v : VId), closedG g = true → v ∈ freeG g → UsedInG g v
    | .mk gid i w o ns, v, hc, hv => by
      rw [closedG, Bool.and_eq_true] at hc
      rw [freeG, List.mem_filter, List.mem_append] at hv
      obtain ⟨hv, hnb⟩ := hv
      rcases hv with hv | hv
      · obtain ⟨n, hn, hu⟩ := used_of_freeNs ns v hc.2 hv
        exact UsedInG.node (g := .mk gid i w o ns) hn hu
      · exfalso
        rw [List.mem_filter] at hv
        have h1 := List.all_eq_true.mp hc.1 v hv.1
        simp only [List.contains_eq_mem, decide_eq_true_eq, List.mem_append] at h1
        simp only [List.contains_eq_mem, Bool.not_eq_eq_eq_not, Bool.not_true, decide_eq_false_iff_not,
          List.mem_append] at hnb
        rcases h1 with h1 | h1
        · exact hnb h1
        · have := hv.2; simp at this; exact this h1
  theorem used_of_freeNs : ∀ (ns : List NodeT) (v : VId), closedNs ns = true → v ∈ freeNs ns →
      ∃ n, n ∈ ns ∧ UsedInN n v
    | [], v, _, hv => by simp [freeNs] at hv
    | n :: ns, v, hc, hv => by
      rw [closedNs, Bool.and_eq_true] at hc
      rw [freeNs, List.mem_append] at hv
      rcases hv with hv | hv
      · exact ⟨n, List.mem_cons_self, used_of_freeN n v hc.1 hv⟩
      · obtain ⟨m, hm, hu⟩ := used_of_freeNs ns v hc.2 (List.mem_filter.mp hv).1
        exact ⟨m, List.mem_cons_of_mem _ hm, hu⟩
  theorem used_of_freeN : ∀ (n : NodeT) (v : VId), closedN n = true → v ∈ freeN n → UsedInN n v
    | .mk ins outs bs, v, hc, hv => by
      rw [closedN] at hc
      rw [freeN, List.mem_append] at hv
      rcases hv with hv | hv
      · exact UsedInN.direct (n := .mk ins outs bs) (by simpa [List.mem_filterMap] using hv)
      · obtain ⟨b, hb, hu⟩ := used_of_freeGs bs v hc hv
        exact UsedInN.nested (n := .mk ins outs bs) hb hu
  theorem used_of_freeGs : ∀ (gs : List GraphT) (v : VId), closedGs gs = true → v ∈ freeGs gs →
      ∃ g, g ∈ gs ∧ UsedInG g v
    | [], v, _, hv => by simp [freeGs] at hv
    | g :: gs, v, hc, hv => by
      rw [closedGs, Bool.and_eq_true] at hc
      rw [freeGs, List.mem_append] at hv
      rcases hv with hv | hv
      · exact ⟨g, List.mem_cons_self, used_of_freeG g v hc.1 hv⟩
      · obtain ⟨m, hm, hu⟩ := used_of_freeGs gs v hc.2 hv
        exact ⟨m, List.mem_cons_of_mem _ hm, hu⟩
end

theorem mem_freeGs {gs : List GraphT} {v : VId} : v ∈ freeGs gs ↔ ∃ g, g ∈ gs ∧ v ∈ freeG g := by
  induction gs with
  | nil => simp [freeGs]
  | cons g gs ih => rw [freeGs, List.mem_append, ih]; simp

theorem closedGs_mem {gs : List GraphT} {g : GraphT} (h : closedGs gs = true) (hg : g ∈ gs) :
    closedG g = true := by
  induction gs with
  | nil => cases hg
  | cons a t ih =>
    rw [closedGs, Bool.and_eq_true] at h
    rcases List.mem_cons.mp hg with rfl | hg
    · exact h.1
    · exact ih h.2 hg

/-- what the lexical scoping of the semantics lets node `n` read is covered by what the code collects:
    every lexical free variable of a graph attribute is needed -/
def CapturesCover (W : World) (p : GId) (n : NId) : Prop :=
  ∀ u, u ∈ freeN (W.nodeD n) → Needs W p n u

/-- the structural hypotheses on the graphs nested in `n` under which `CapturesCover` holds -/
structure BodiesOK (W : World) (p : GId) (n : NId) : Prop where
  closed : ∀ b, b ∈ (W.nodeD n).bodies → closedG b = true
  wellScoped : ∀ b, b ∈ (W.nodeD n).bodies → ∀ u, u ∈ freeG b → ¬ DefInG b u
  ptr : BodiesPtrOK W p n

theorem capturesCover_of_bodiesOK {W : World} {p : GId} {n : NId} (h : BodiesOK W p n) :
    CapturesCover W p n := by
  intro u hu
  cases hnd : W.nodeD n with
  | mk ins outs bs =>
    rw [hnd, freeN, List.mem_append] at hu
    rcases hu with hu | hu
    · left; rw [hnd]; simpa [List.mem_filterMap] using hu
    · right
      obtain ⟨b, hb, hfb⟩ := mem_freeGs.mp hu
      have hb' : b ∈ (W.nodeD n).bodies := by rw [hnd]; exact hb
      refine ⟨b, hb', used_of_freeG b u (h.closed b hb') hfb, ?_⟩
      exact (outside_iff_not_def (h.ptr b hb').1 (h.ptr b hb').2).mpr (h.wellScoped b hb' u hfb)

theorem bodiesOK_of_B {W : World} {p : GId} {n : NId} (h : bodiesOKB W p n = true) : BodiesOK W p n := by
  unfold bodiesOKB at h
  rw [List.all_eq_true] at h
  refine ⟨?_, ?_, ?_⟩
  · intro b hb
    have := h b hb
    simp only [Bool.and_eq_true] at this
    exact this.1.1.1
  · intro b hb u hu hd
    have := h b hb
    simp only [Bool.and_eq_true] at this
    have hw := this.1.1.2
    unfold wellScopedB at hw
    have := List.all_eq_true.mp hw u hu
    simp only [List.contains_eq_mem, Bool.not_eq_eq_eq_not, Bool.not_true, decide_eq_false_iff_not] at this
    exact this ((mem_defsG b u).mpr hd)
  · intro b hb
    have := h b hb
    simp only [Bool.and_eq_true] at this
    refine ⟨backPtrB_sound this.1.2, ?_⟩
    have hp := this.2
    simp only [List.contains_eq_mem, Bool.not_eq_eq_eq_not, Bool.not_true, decide_eq_false_iff_not] at hp
    exact fun hn => hp ((mem_gidsG b p).mpr hn)

end IrVerif.Extract
