/-
Frame lemma for the fourth editing alphabet `IrVerif.Clone.Edit4` (Model/Clone4.lean): item-level
calls on `graph.inputs` / `graph.outputs` (`insert`, `remove`, `del lst[i]`, `lst[i] = v`, `extend`,
`clear`), `initializers.setdefault`, extended slices (assignment and deletion) and
`convenience.replace_nodes_and_values` with several old and several freshly built new nodes.  With
the extended separation (`CellOutX true`), a call whose receivers and arguments are outside the
protected region `B` leaves every cell of `B` as it was and re-establishes the separation.
-/
import IrVerif.Model.Clone4
import IrVerif.Lemmas.CloneFrame3
namespace IrVerif.Clone

section
variable {strict : Bool} {B : Nat → Prop} {wB : World}

def ArgsOut4 (B : Nat → Prop) (e : Edit4) : Prop := ∀ a ∈ e.args, ¬ B a

/-- what the frame argument needs to know about a tracked list -/
structure IOGood (strict : Bool) (B : Nat → Prop) (sel : IOSel) : Prop where
  hcheck : ∀ g v, Quiet (sel.check g v)
  hclear : ∀ x, CellOutX true strict B (.val x) → CellOutX true strict B (.val (sel.clear x))
  hmark : ∀ x, CellOutX true strict B (.val x) → CellOutX true strict B (.val (sel.mark x))
  hget : ∀ gs, CellOutX true strict B (.graph gs) → ∀ v ∈ sel.get gs, ¬ B v
  hput : ∀ gs l, CellOutX true strict B (.graph gs) → (∀ v ∈ l, ¬ B v) →
    CellOutX true strict B (.graph (sel.put gs l))

theorem ioSel_good (inp : Bool) : IOGood strict B (ioSel inp) := by
  cases inp with
  | true =>
    refine ⟨fun g v => Quiet.checkInput g v, ?_, ?_, ?_, ?_⟩
    · exact fun _ h => h
    · exact fun _ h => h
    · exact fun _ h => h.graph_inputs
    · exact fun _ _ h hl => h.graph_setInputs hl
  | false =>
    refine ⟨fun g v => Quiet.checkOwned g v, ?_, ?_, ?_, ?_⟩
    · exact fun _ h => h
    · exact fun _ h => h
    · exact fun _ h => h.graph_outputs
    · exact fun _ _ h hl => h.graph_setOutputs hl

theorem mem_dropAt {idx : List Nat} : ∀ (l : List Nat) (k x : Nat), x ∈ dropAt idx k l → x ∈ l
  | [], _, _, h => by simp [dropAt] at h
  | y :: ys, k, x, h => by
    unfold dropAt at h
    split at h
    · exact List.mem_cons_of_mem _ (mem_dropAt ys (k + 1) x h)
    · rcases List.mem_cons.mp h with rfl | h1
      · exact List.mem_cons_self
      · exact List.mem_cons_of_mem _ (mem_dropAt ys (k + 1) x h1)

theorem mem_pickAt {data idx : List Nat} {x : Nat} (h : x ∈ pickAt data idx) : x ∈ data := by
  unfold pickAt at h
  obtain ⟨p, _, hp⟩ := List.mem_filterMap.mp h
  exact List.mem_of_getElem? hp

theorem mem_setAt : ∀ (pv : List (Nat × Nat)) (data : List Nat) (x : Nat),
    x ∈ setAt data pv → x ∈ data ∨ ∃ p ∈ pv, p.2 = x
  | [], _, _, h => .inl h
  | p :: rest, data, x, h => by
    have h' : x ∈ setAt (data.set p.1 p.2) rest := h
    rcases mem_setAt rest (data.set p.1 p.2) x h' with h1 | ⟨q, hq, rfl⟩
    · rcases List.mem_or_eq_of_mem_set h1 with h2 | h2
      · exact .inl h2
      · exact .inr ⟨p, List.mem_cons_self, h2.symm⟩
    · exact .inr ⟨q, List.mem_cons_of_mem _ hq, rfl⟩

theorem fsetSliceSel_good {s : St} {sel : IOSel} (hs : IOGood strict B sel) (g a b : Nat) (vs : List Nat)
    (hg : ¬ B g) (hvs : ∀ v ∈ vs, ¬ B v) :
    Hoare (frameL true strict B wB) (setSliceG (sel.check g) sel.clear sel.mark sel.get sel.put g a b vs) s
      (fun _ _ => True) :=
  fsetSliceG_frame g a b vs (hs.hcheck g) hs.hclear hs.hmark hs.hget hs.hput hg hvs

theorem fdelIdxG_good {s : St} {sel : IOSel} (hs : IOGood strict B sel) (g : Nat) (gs : GraphS) (idx : List Nat)
    (hg : ¬ B g) (hgs : s.w[g]? = some (.graph gs)) :
    Hoare (frameL true strict B wB) (delIdxG sel g gs idx) s (fun _ _ => True) := by
  refine Hoare.assume fun hO => ?_
  unfold delIdxG
  have hc := hO.1.1.sep g (.graph gs) hg hgs
  have hdata := hs.hget gs hc
  hbind (fset_good hg (hs.hput gs _ hc (fun v hv => hdata v (mem_dropAt _ _ _ hv)))) with u s1 - - hq1
  exact funsetSeq_frame g sel.clear hs.hclear _ _ s1 (fun v hv => hdata v (mem_pickAt hv))

theorem fioInsert_good {s : St} {sel : IOSel} (hs : IOGood strict B sel) (g : Nat) (i : Int) (v : Nat)
    (hg : ¬ B g) (hv : ¬ B v) :
    Hoare (frameL true strict B wB) (ioInsert sel g i v) s (fun _ _ => True) := by
  unfold ioInsert
  refine fread .graph fun gs _ _ _ => ?_
  refine Hoare.guard fun _ => ?_
  exact fsetSliceSel_good hs g _ _ [v] hg (fun x hx => by simp at hx; subst hx; exact hv)

theorem fioRemove_good {s : St} {sel : IOSel} (hs : IOGood strict B sel) (g v : Nat)
    (hg : ¬ B g) :
    Hoare (frameL true strict B wB) (ioRemove sel g v) s (fun _ _ => True) := by
  unfold ioRemove
  refine fread .graph fun gs _ hgs _ => ?_
  refine Hoare.guard fun _ => ?_
  split
  · exact Hoare.fail
  · exact fdelIdxG_good hs g gs _ hg hgs

theorem fioDelAt_good {s : St} {sel : IOSel} (hs : IOGood strict B sel) (g : Nat) (i : Int)
    (hg : ¬ B g) :
    Hoare (frameL true strict B wB) (ioDelAt sel g i) s (fun _ _ => True) := by
  unfold ioDelAt
  refine fread .graph fun gs _ hgs _ => ?_
  refine Hoare.guard fun _ => ?_
  split
  · exact Hoare.fail
  · exact fdelIdxG_good hs g gs _ hg hgs

theorem fioSetAt_good {s : St} {sel : IOSel} (hs : IOGood strict B sel) (g : Nat) (i : Int) (v : Nat)
    (hg : ¬ B g) (hv : ¬ B v) :
    Hoare (frameL true strict B wB) (ioSetAt sel g i v) s (fun _ _ => True) := by
  unfold ioSetAt
  refine fread .graph fun gs _ _ _ => ?_
  refine Hoare.guard fun _ => ?_
  split
  · exact Hoare.fail
  · exact fsetSliceSel_good hs g _ _ [v] hg (fun x hx => by simp at hx; subst hx; exact hv)

theorem fioExtend_good {s : St} {sel : IOSel} (hs : IOGood strict B sel) (g : Nat) (vs : List Nat)
    (hg : ¬ B g) (hvs : ∀ v ∈ vs, ¬ B v) :
    Hoare (frameL true strict B wB) (ioExtend sel g vs) s (fun _ _ => True) := by
  unfold ioExtend
  refine fread .graph fun gs _ _ _ => ?_
  refine Hoare.guard fun _ => ?_
  exact fsetSliceSel_good hs g _ _ vs hg hvs

theorem fioClear_good {s : St} {sel : IOSel} (hs : IOGood strict B sel) (g : Nat)
    (hg : ¬ B g) :
    Hoare (frameL true strict B wB) (ioClear sel g) s (fun _ _ => True) := by
  unfold ioClear
  refine fread .graph fun gs _ _ _ => ?_
  refine Hoare.guard fun _ => ?_
  exact fsetSliceSel_good hs g _ _ [] hg (fun x hx => by cases hx)

theorem fioSetStep_good {s : St} {sel : IOSel} (hs : IOGood strict B sel) (g : Nat) (a b : Option Int) (st : Int)
    (vs : List Nat) (hg : ¬ B g) (hvs : ∀ v ∈ vs, ¬ B v) :
    Hoare (frameL true strict B wB) (ioSetStep sel g a b st vs) s (fun _ _ => True) := by
  unfold ioSetStep
  refine fread .graph fun gs _ _ hgso => ?_
  have hdata := hs.hget gs (hgso hg)
  refine Hoare.guard fun _ => ?_
  split
  · exact fsetSliceSel_good hs g _ _ vs hg hvs
  · refine Hoare.bindQuiet (Quiet.forM' (hs.hcheck g) _) fun _ _ => ?_
    refine Hoare.guard fun _ => ?_
    dsimp only
    refine Hoare.guard fun _ => ?_
    hbind (funsetSeq_frame g sel.clear hs.hclear _ _ s (fun v hv => hdata v (mem_pickAt hv)))
      with u1 s3 - - hq3
    hbind (fmarkAll_good g vs (hs.hcheck g) hs.hmark hg hvs) with u2 s4 - - hq4
    refine fread .graph fun gs2 _ _ hgs2o => ?_
    refine fset_good hg (hs.hput gs2 _ (hgs2o hg) ?_)
    intro v hv
    rcases mem_setAt _ _ v hv with h1 | ⟨p, hp, rfl⟩
    · exact hdata v h1
    · exact hvs _ (List.of_mem_zip hp).2

theorem fioDelStep_good {s : St} {sel : IOSel} (hs : IOGood strict B sel) (g : Nat) (a b : Option Int) (st : Int)
    (hg : ¬ B g) :
    Hoare (frameL true strict B wB) (ioDelStep sel g a b st) s (fun _ _ => True) := by
  unfold ioDelStep
  refine fread .graph fun gs _ hgs _ => ?_
  refine Hoare.guard fun _ => ?_
  split
  · exact Hoare.fail
  · exact fdelIdxG_good hs g gs _ hg hgs


/-- the nodes built so far and their outputs are outside `B` -/
def BuiltOut (B : Nat → Prop) (built : List (Nat × List Nat)) : Prop :=
  ∀ b ∈ built, ¬ B b.1 ∧ ∀ o ∈ b.2, ¬ B o

theorem resolveRef_out {built : List (Nat × List Nat)} {r : InRef} {v : Nat}
    (h : resolveRef built r = some (some v)) : r.arg = some v ∨ ∃ b ∈ built, v ∈ b.2 := by
  cases r with
  | absent => simp [resolveRef] at h
  | old x =>
    simp only [resolveRef, Option.some.injEq] at h
    subst h
    exact .inl rfl
  | fresh k j =>
    simp only [resolveRef] at h
    split at h
    · next b hb =>
      cases hj : b.2[j]? with
      | none => rw [hj] at h; cases h
      | some y =>
        rw [hj] at h
        simp only [Option.map_some, Option.some.injEq] at h
        subst h
        exact .inr ⟨b, List.mem_of_getElem? hb, List.mem_of_getElem? hj⟩
    · cases h

theorem resolveRefs_out {built : List (Nat × List Nat)} (hb : BuiltOut B built) :
    ∀ (refs : List InRef) (ins : List (Option Nat)), (∀ r ∈ refs, ∀ v, r.arg = some v → ¬ B v) →
      resolveRefs built refs = some ins → ∀ v, some v ∈ ins → ¬ B v
  | [], ins, _, h, v, hv => by
    simp only [resolveRefs, Option.some.injEq] at h
    subst h
    cases hv
  | r :: rest, ins, hr, h, v, hv => by
    unfold resolveRefs at h
    split at h
    · next x xs hx hxs =>
      simp only [Option.some.injEq] at h
      subst h
      rcases List.mem_cons.mp hv with h1 | h1
      · rcases resolveRef_out (h1 ▸ hx) with h2 | ⟨b, hbm, hvb⟩
        · exact hr r List.mem_cons_self v h2
        · exact (hb b hbm).2 v hvb
      · exact resolveRefs_out hb rest xs (fun r' hr' => hr r' (List.mem_cons_of_mem _ hr')) hxs v h1
    · cases h

theorem resolveOuts_out {built : List (Nat × List Nat)} (hb : BuiltOut B built) :
    ∀ (refs : List (Nat × Nat)) (nvs : List Nat), resolveOuts built refs = some nvs → ∀ v ∈ nvs, ¬ B v
  | [], nvs, h, v, hv => by
    simp only [resolveOuts, Option.some.injEq] at h
    subst h
    cases hv
  | r :: rest, nvs, h, v, hv => by
    unfold resolveOuts at h
    split at h
    · next x xs hx hxs =>
      simp only [Option.some.injEq] at h
      subst h
      rcases List.mem_cons.mp hv with h1 | h1
      · subst h1
        unfold outRef at hx
        split at hx
        · next b hbm => exact (hb b (List.mem_of_getElem? hbm)).2 v (List.mem_of_getElem? hx)
        · cases hx
      · exact resolveOuts_out hb rest xs hxs v h1
    · cases h

theorem fbuildNode_good {s : St} (built : List (Nat × List Nat)) (nn : NewNode) (hb : BuiltOut B built)
    (hin : ∀ r ∈ nn.inputs, ∀ v, r.arg = some v → ¬ B v) :
    Hoare (frameL true strict B wB) (buildNode built nn) s (fun r _ => ¬ B r.1 ∧ ∀ o ∈ r.2, ¬ B o) := by
  unfold buildNode
  split
  · exact Hoare.fail
  · next inputs hres =>
    have hins : ∀ v, some v ∈ inputs → ¬ B v := resolveRefs_out hb nn.inputs inputs hin hres
    exact fnewNode_good nn.name nn.op inputs nn.outNames _ hins fun n' outs s9 hI9 hn' houts =>
      Hoare.pure ⟨hn', houts⟩

theorem fbuildNodes_good : ∀ (news : List NewNode) (built : List (Nat × List Nat)) (s : St),
    BuiltOut B built → (∀ nn ∈ news, ∀ r ∈ nn.inputs, ∀ v, r.arg = some v → ¬ B v) →
    Hoare (frameL true strict B wB) (buildNodes built news) s (fun r _ => BuiltOut B r)
  | [], built, s, hb, _ => Hoare.pure hb
  | nn :: rest, built, s, hb, hin => by
    unfold buildNodes
    hbind (fbuildNode_good built nn hb (hin nn List.mem_cons_self)) with b s1 - - hq1
    refine fbuildNodes_good rest (built ++ [b]) s1 ?_ (fun nn' h' => hin nn' (List.mem_cons_of_mem _ h'))
    intro b' hb'
    rcases List.mem_append.mp hb' with h1 | h1
    · exact hb b' h1
    · simp at h1; subst h1; exact hq1

theorem finsertManyAfter_good {s : St} (g anchor : Nat) (news : List Nat)
    (hg : ¬ B g) (hnews : ∀ n ∈ news, ¬ B n) :
    Hoare (frameL true strict B wB) (insertManyAfter g anchor news) s (fun _ _ => True) := by
  unfold insertManyAfter
  refine fread .graph fun gs _ _ _ => ?_
  refine Hoare.guard fun _ => ?_
  refine fread .node fun as _ _ _ => ?_
  refine Hoare.guard fun _ => ?_
  refine Hoare.guard fun _ => ?_
  refine Hoare.bindQuiet Quiet.getWorld fun w _ => ?_
  refine Hoare.bindQuiet (Quiet.forM' (fun n => Quiet.liftE _) _) fun _ _ => ?_
  hbind (fsetNodesGraph_good g news hnews) with u2 s5 - - hq5
  refine fread .graph fun gs2 _ _ hgs2o => ?_
  refine Hoare.ite (fun _ => ?_) fun _ => Hoare.fail
  exact fset_good hg (show CellOutX true strict B (.graph { gs2 with nodes := _ }) from
    hgs2o hg)

theorem freplaceMany_good {s : St} (g ip : Nat) (olds news oldVals newVals : List Nat)
    (hg : ¬ B g) (holds : ∀ n ∈ olds, ¬ B n) (hnews : ∀ n ∈ news, ¬ B n)
    (hov : ∀ o ∈ oldVals, ¬ B o) (hnv : ∀ o ∈ newVals, ¬ B o) :
    Hoare (frameL true strict B wB) (replaceMany g ip olds news oldVals newVals) s (fun _ _ => True) := by
  refine freplaceVals_good oldVals newVals _ hov hnv fun s1 => ?_
  hbind (finsertManyAfter_good g ip news hg hnews) with u3 s4 - - hq4
  exact fremoveSafeM_frame g olds hg holds

theorem applyEdit4_frame (e : Edit4) {s : St} (hI : FInv true strict B wB s) (ha : ArgsOut4 B e) :
    FGoodAt true strict B wB (applyEdit4 e) s (fun _ _ => True) := by
  refine Hoare.frame ?_ hI
  cases e with
  | base3 e => exact FGoodAt.hoare fun hI => applyEdit3_frame e hI ha
  | ioInsert inp g i v =>
    exact fioInsert_good (ioSel_good inp) g i v (ha g List.mem_cons_self) (ha v (List.mem_cons_of_mem _ List.mem_cons_self))
  | ioRemove inp g v => exact fioRemove_good (ioSel_good inp) g v (ha g List.mem_cons_self)
  | ioDelAt inp g i => exact fioDelAt_good (ioSel_good inp) g i (ha g List.mem_cons_self)
  | ioSetAt inp g i v =>
    exact fioSetAt_good (ioSel_good inp) g i v (ha g List.mem_cons_self) (ha v (List.mem_cons_of_mem _ List.mem_cons_self))
  | ioExtend inp g vs =>
    exact fioExtend_good (ioSel_good inp) g vs (ha g List.mem_cons_self)
      (fun v hv => ha v (by simp [Edit4.args, hv]))
  | ioClear inp g => exact fioClear_good (ioSel_good inp) g (ha g List.mem_cons_self)
  | setdefaultInit g key v =>
    have hg : ¬ B g := ha g List.mem_cons_self
    have hv : ¬ B v := ha v (List.mem_cons_of_mem _ List.mem_cons_self)
    unfold applyEdit4
    refine fread .graph fun gs _ _ _ => ?_
    refine Hoare.guard fun _ => ?_
    split
    · exact Hoare.pure trivial
    · exact fsetInitCore_good g key v hg hv
  | ioSetStep inp g a b st vs =>
    exact fioSetStep_good (ioSel_good inp) g a b st vs (ha g List.mem_cons_self)
      (fun v hv => ha v (by simp [Edit4.args, hv]))
  | ioDelStep inp g a b st => exact fioDelStep_good (ioSel_good inp) g a b st (ha g List.mem_cons_self)
  | replaceNodes g ip olds news oldVals newVals =>
    have hg : ¬ B g := ha g List.mem_cons_self
    have holds : ∀ n ∈ olds, ¬ B n := fun n hn => ha n (by simp [Edit4.args, hn])
    have hov : ∀ o ∈ oldVals, ¬ B o := fun o ho => ha o (by simp [Edit4.args, ho])
    have hin : ∀ nn ∈ news, ∀ r ∈ nn.inputs, ∀ v, r.arg = some v → ¬ B v := by
      intro nn hnn r hr v hv
      apply ha v
      simp only [Edit4.args, List.mem_cons, List.mem_append, List.mem_flatMap, List.mem_filterMap]
      exact .inr (.inr (.inr ⟨nn, hnn, r, hr, hv⟩))
    unfold applyEdit4
    refine fread .graph fun gs _ _ _ => ?_
    refine Hoare.guard fun _ => ?_
    hbind (fbuildNodes_good news [] s (fun b hb => by cases hb) hin) with built s2 - - hq2
    split
    · exact Hoare.fail
    · next nvs hnvs =>
      refine freplaceMany_good g ip olds _ oldVals nvs hg holds ?_ hov (resolveOuts_out hq2 newVals nvs hnvs)
      intro n hn
      obtain ⟨b, hb, rfl⟩ := List.mem_map.mp hn
      exact (hq2 b hb).1

end

theorem runHistory4_eq : ∀ (es : List Edit4) (w : World), runHistory4 es w = runHist applyEdit4 es w
  | [], _ => rfl
  | e :: es, w => by
    unfold runHistory4 runHist
    rcases run (applyEdit4 e) w with ⟨r, w1⟩
    simp only [runHistory4_eq es w1]

theorem Edit4.framed : Framed true runHistory4 Edit4.args :=
  Framed.of_step runHistory4_eq fun _ _ e _ hI ha => applyEdit4_frame e hI ha

namespace Frame4

theorem frame_ext4 (B : Nat → Prop) (w : World) (es : List Edit4)
    (hb : ∀ i, B i → i < w.length)
    (hsep : ∀ (i : Nat) (c : Cell), ¬ B i → w[i]? = some c → CellOutX true true B c)
    (hargs : ∀ e ∈ es, ∀ a ∈ e.args, ¬ B a) :
    ∀ i, B i → (runHistory4 es w).2[i]? = w[i]? :=
  Edit4.framed B w es hb hsep hargs

end Frame4
end IrVerif.Clone
