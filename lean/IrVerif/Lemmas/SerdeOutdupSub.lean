import IrVerif.Lemmas.SerdeOutdup
import IrVerif.Lemmas.SerdeAlone
/-! C02, `outdup`: `wf* p -> outdup* p = p`, `des* (canonD* x) = des* x` for the stand-alone entry points, and
`wf* (merge* p) -> merge* (outdup* p) = merge* p` (`canonD* = merge* ∘ outdup* ∘ fold*`). -/
namespace IrVerif.Serde
open IrVerif.Proto

theorem foldl_mdStep_same (V : Dict) (g1 : ValueInfoP) : ∀ rest : List ValueInfoP,
    (∀ x ∈ rest, dictUpdate V (dictOfEntries x.metadata) = dictUpdate V (dictOfEntries g1.metadata)) →
    rest.foldl mdStep (dictUpdate V (dictOfEntries g1.metadata)) = dictUpdate V (dictOfEntries g1.metadata)
  | [], _ => rfl
  | x :: rest, h => by
    rw [List.foldl_cons]
    have : mdStep (dictUpdate V (dictOfEntries g1.metadata)) x
        = dictUpdate V (dictOfEntries g1.metadata) := by
      show dictUpdate (dictUpdate V (dictOfEntries g1.metadata)) (dictOfEntries x.metadata) = _
      rw [← h x (by simp), dictUpdate_idem _ _ (nodup_dkeys_dictOfEntries _)]
    rw [this]
    exact foldl_mdStep_same V g1 rest (fun y hy => h y (List.mem_cons_of_mem _ hy))

theorem foldl_mdStep_replicate (vo : ValueInfoP) (k : Nat) (d : Dict) :
    (List.replicate k vo).foldl mdStep (dictUpdate d (dictOfEntries vo.metadata))
      = dictUpdate d (dictOfEntries vo.metadata) :=
  foldl_mdStep_same d vo _ fun x hx => by rw [List.eq_of_mem_replicate hx]

theorem unionMd_replicate (vo : ValueInfoP) (k : Nat) :
    unionMd (List.replicate (k + 1) vo) = dictOfEntries vo.metadata := by
  rw [unionMd_eq, List.replicate_succ, List.foldl_cons]
  show (List.replicate k vo).foldl mdStep (dictUpdate [] (dictOfEntries vo.metadata)) = _
  rw [foldl_mdStep_replicate, dictUpdate_nil _ (nodup_dkeys_dictOfEntries _)]

theorem entriesOfDict_dictOfEntries {es : List Entry} (h : wfEntries es = true) :
    entriesOfDict (dictOfEntries es) = es := by
  rw [dictOfEntries_of_nodup (nodupStr_iff.1 h)]
  simp [entriesOfDict, pairOf, List.map_map, Function.comp_def]

theorem outdupVI_of_group (S : List String) {outputs : List ValueInfoP} {vo : ValueInfoP}
    (hall : ∀ x ∈ outputs, x.name = vo.name → x = vo) (hwf : wfVI vo = true) (hvo : vo ∈ outputs) :
    outdupVI S outputs vo = vo := by
  unfold outdupVI
  split
  · rw [findVI_of_group hall hvo]
    obtain ⟨k, hk⟩ := filter_of_group hall hvo
    have hs : sameName outputs vo = List.replicate (k + 1) vo := hk
    simp only [wfVI, Bool.and_eq_true] at hwf
    simp only [hs, unionMd_replicate, entriesOfDict_dictOfEntries hwf.2]
  · rfl

mutual
theorem outdupAttr_of_wf (scopes : Scopes) : ∀ a : AttrP, wfAttr scopes a = true → outdupAttr a = a
  | .ref .., _ => rfl
  | .int .., _ => rfl
  | .float .., _ => rfl
  | .string .., _ => rfl
  | .ints .., _ => rfl
  | .floats .., _ => rfl
  | .strings .., _ => rfl
  | .tensor .., _ => rfl
  | .tensors .., _ => rfl
  | .graph n d g, h => by
    simp only [wfAttr] at h
    simp only [outdupAttr, outdupGraph_of_wf scopes g h]
  | .graphs n d gs, h => by
    simp only [wfAttr] at h
    simp only [outdupAttr, outdupGraphs_of_wf scopes gs h]
  | .typeProto .., _ => rfl
  | .typeProtos .., _ => rfl
  | .undefined .., _ => rfl
  | .sparse .., _ => rfl
  | .unknown .., _ => rfl

theorem outdupGraphs_of_wf (scopes : Scopes) : ∀ gs : List GraphP, wfGraphs scopes gs = true →
    outdupGraphs gs = gs
  | [], _ => rfl
  | g :: gs, h => by
    simp only [wfGraphs, Bool.and_eq_true] at h
    simp only [outdupGraphs, outdupGraph_of_wf scopes g h.1, outdupGraphs_of_wf scopes gs h.2]

theorem outdupAttrs_of_wf (scopes : Scopes) : ∀ as : List AttrP, wfAttrs scopes as = true →
    outdupAttrs as = as
  | [], _ => rfl
  | a :: as, h => by
    simp only [wfAttrs, Bool.and_eq_true] at h
    simp only [outdupAttrs, outdupAttr_of_wf scopes a h.1, outdupAttrs_of_wf scopes as h.2]

theorem outdupNode_of_wf (scopes : Scopes) : ∀ n : NodeP, wfNode scopes n = true → outdupNode n = n
  | .mk inputs outputs name opType domain overload doc attrs metadata devcfgs, h => by
    simp only [outdupNode, outdupAttrs_of_wf scopes attrs (wfNode_attrs h)]

theorem outdupNodes_of_wf (scopes : Scopes) : ∀ ns : List NodeP, wfNodes scopes ns = true →
    outdupNodes ns = ns
  | [], _ => rfl
  | n :: ns, h => by
    simp only [wfNodes, Bool.and_eq_true] at h
    simp only [outdupNodes, outdupNode_of_wf scopes n h.1, outdupNodes_of_wf scopes ns h.2]

theorem outdupGraph_of_wf (outer : Scopes) : ∀ g : GraphP, wfGraph outer g = true → outdupGraph g = g
  | .mk name doc nodes inits inputs outputs vis quant md, h => by
    obtain ⟨hw, hwn⟩ := graphWF_of_wf outer name doc nodes inits inputs outputs vis quant md h
    have e1 : outputs.map (outdupVI (scopeNames (inputs.map (·.name)) (inits.map (·.name))
        (nodeOutNames nodes)) outputs) = outputs := by
      have hid : ∀ vo ∈ outputs, outdupVI (scopeNames (inputs.map (·.name)) (inits.map (·.name))
          (nodeOutNames nodes)) outputs vo = id vo :=
        fun vo hvo => outdupVI_of_group _ (fun x hx hn => hw.consOut x hx vo hvo hn)
          (List.all_eq_true.1 hw.wfOut vo hvo) hvo
      rw [List.map_congr_left hid, List.map_id]
    simp only [outdupGraph, outdupNodes_of_wf _ nodes hwn, e1]
end

theorem outdupFunction_of_wf (ver : Int) (f : FunctionP) (h : wfFunction ver f = true) :
    outdupFunction f = f := by
  obtain ⟨_, hattrs, _, hnodes⟩ := wfFunction_parts h
  have e1 := outdupNodes_of_wf _ f.nodes hnodes
  have e2 := outdupAttrs_of_wf _ f.attrProtos hattrs
  cases f
  simp only [outdupFunction] at e1 e2 ⊢
  simp only [e1, e2]

theorem outdupModel_of_wf (m : ModelP) (h : wfModel m = true) : outdupModel m = m := by
  obtain ⟨hg, hf⟩ := wfModel_parts h
  have e1 := outdupGraph_of_wf [] m.graph hg
  have e2 := map_eq_self_of_all (outdupFunction_of_wf m.irVersion) hf
  cases m
  simp only [outdupModel] at e1 e2 ⊢
  simp only [e1, e2]

theorem canonDModel_of_wf (m : ModelP) (h : wfModel m = true) : canonDModel m = m := by
  unfold canonDModel
  rw [foldModel_of_wf m h, outdupModel_of_wf m h, mergeModel_of_wf m h]

theorem desGraph_canonD (outer : Scopes) (g : GraphP) (h : wfGraph outer (canonDGraph g) = true) :
    desGraph outer (canonDGraph g) = desGraph outer g := by
  unfold canonDGraph at h ⊢
  rw [desGraph_merge outer _ h, desGraph_outdup outer _ h, desGraph_fold]

theorem desFunction_canonD (ver : Int) (f : FunctionP) (h : wfFunction ver (canonDFunction f) = true) :
    desFunction (canonDFunction f) = desFunction f := by
  unfold canonDFunction at h ⊢
  rw [desFunction_merge ver _ h, desFunction_outdup ver _ h, desFunction_fold]

theorem desAttr_canonD (scopes : Scopes) (a : AttrP) (h : wfAttr scopes (canonDAttr a) = true) :
    desAttr scopes (canonDAttr a) = desAttr scopes a := by
  unfold canonDAttr at h ⊢
  rw [desAttr_merge scopes _ h, desAttr_outdup scopes _ h, desAttr_fold]

theorem desNode_canonD (outer : Scopes) (vis : List ValueInfoP) (q : List AnnotP) (tbl : List IRValue)
    (n : NodeP) (h : wfNode (tableNames tbl :: outer) (canonDNode n) = true) :
    desNode outer vis q tbl (canonDNode n) = desNode outer vis q tbl n := by
  unfold canonDNode at h ⊢
  rw [desNode_merge outer vis q tbl _ h, desNode_outdup outer vis q tbl _ h, desNode_fold]

theorem foldNode_io (n : NodeP) : (foldNode n).inputs = n.inputs ∧ (foldNode n).outputs = n.outputs := by
  cases n; exact ⟨rfl, rfl⟩

theorem canonDNode_io (n : NodeP) :
    (canonDNode n).inputs = n.inputs ∧ (canonDNode n).outputs = n.outputs := by
  unfold canonDNode
  rw [mergeNode_inputs, mergeNode_outputs, outdupNode_inputs, outdupNode_outputs]
  exact foldNode_io n

/-- `from_proto(NodeProto)`: the stand-alone node and its canonical pre-form deserialize alike -/
theorem desNodeAlone_canonD (n : NodeP) (h : wfNodeAlone (canonDNode n) = true) :
    desNodeAlone (canonDNode n) = desNodeAlone n := by
  obtain ⟨hi, ho⟩ := canonDNode_io n
  simp only [wfNodeAlone, Bool.and_eq_true, hi, ho] at h
  obtain ⟨hnd, hwf⟩ := h
  rw [desNodeAlone_eq n hnd, desNodeAlone_eq _ (by rw [ho]; exact hnd), hi, ho]
  exact desNode_canonD [] [] [] _ n (by rw [tableNames_blank]; exact hwf)

theorem wfEntries_entriesOfDict {d : Dict} (h : (dkeys d).Nodup) : wfEntries (entriesOfDict d) = true := by
  rw [wfEntries, nodupStr_iff]
  simpa [entriesOfDict, dkeys, List.map_map, Function.comp_def] using h

section core
variable {inits : List TensorP} {inputs outputs vis : List ValueInfoP} {quant : List AnnotP}
  {outs : List String}

/-- after the merge the entries of one name are identical; before it they were so too, or differ only below a
    `value_info` entry of that name, whose dict absorbs the difference -/
theorem mergeOutVI_outdup
    (hw' : GraphWF inits inputs (mOutputs inits inputs outputs vis outs) (mVis inits inputs outputs vis outs)
      quant outs) {vo : ValueInfoP} (hvo : vo ∈ outputs) :
    mergeOutVI (mDeclared inits outs) (inputs.map (·.name)) vis
        (outdupVI (scopeNames (inputs.map (·.name)) (inits.map (·.name)) outs) outputs vo)
      = mergeOutVI (mDeclared inits outs) (inputs.map (·.name)) vis vo := by
  by_cases ha : outdupApplies (scopeNames (inputs.map (·.name)) (inits.map (·.name)) outs) outputs vo = true
  · have ha0 := ha
    simp only [outdupApplies, Bool.and_eq_true, List.contains_eq_mem, decide_eq_true_eq,
      List.all_eq_true] at ha
    obtain ⟨hS, hgwf⟩ := ha
    have hwfvo : wfVI vo = true := hgwf vo (List.mem_filter.2 ⟨hvo, by simp⟩)
    have hcons : ∀ x ∈ outputs, x.name = vo.name →
        mergeOutVI (mDeclared inits outs) (inputs.map (·.name)) vis x
          = mergeOutVI (mDeclared inits outs) (inputs.map (·.name)) vis vo := by
      intro x hx hn
      apply hw'.consOut _ (List.mem_map_of_mem hx) _ (List.mem_map_of_mem hvo)
      rw [mergeOutVI_name, mergeOutVI_name, hn]
    -- (A) the entries of this name are identical
    have caseA : (∀ x ∈ outputs, x.name = vo.name → x = vo) →
        mergeOutVI (mDeclared inits outs) (inputs.map (·.name)) vis
          (outdupVI (scopeNames (inputs.map (·.name)) (inits.map (·.name)) outs) outputs vo)
        = mergeOutVI (mDeclared inits outs) (inputs.map (·.name)) vis vo := by
      intro hall
      rw [outdupVI_of_group _ hall hwfvo hvo]
    by_cases hi : vo.name ∈ inputs.map (·.name)
    · apply caseA
      intro x hx hn
      have hM : ∀ y : ValueInfoP, y.name = vo.name →
          mergeOutVI (mDeclared inits outs) (inputs.map (·.name)) vis y = y := by
        intro y hy
        have hin : (inputs.map (·.name)).contains y.name = true := by rw [hy]; simpa using hi
        have hma : mergeApplies (mDeclared inits outs) (inputs.map (·.name)) y = false := by
          simp only [mergeApplies, hin, Bool.not_true, Bool.and_false, Bool.false_and]
        simp only [mergeOutVI, hma, Bool.false_eq_true, if_false]
      rw [← hM x hn, hcons x hx hn, hM vo rfl]
    · have hd : vo.name ∈ mDeclared inits outs := by
        rcases mem_scopeNames.1 hS with h | h | h
        · exact absurd h hi
        · exact List.mem_append_left _ h.1
        · exact List.mem_append_right _ h
      obtain ⟨_, hcase⟩ := merge_at_output hw' hd hi hvo rfl
      rcases hcase with ⟨hvn, hM⟩ | ⟨vi, hvi, hwfvi, hM⟩
      · apply caseA
        intro x hx hn
        obtain ⟨_, hcase'⟩ := merge_at_output hw' hd hi hx hn
        rcases hcase' with ⟨_, hM'⟩ | ⟨vi, hvi, _, _⟩
        · rw [← hM', hcons x hx hn, hM]
        · rw [hvn] at hvi; cases hvi
      · -- (B) a `value_info` entry is united into every entry of the name
        obtain ⟨last, hlast⟩ : ∃ last, findVI outputs vo.name = some last := by
          cases hf : findVI outputs vo.name with
          | some l => exact ⟨l, rfl⟩
          | none => exact absurd (List.mem_map_of_mem hvo) (findVI_none_iff.1 hf)
        obtain ⟨hlm, hln⟩ := findVI_mem hlast
        have hMx : ∀ x ∈ outputs, x.name = vo.name →
            dictUpdate (dictOfEntries vi.metadata) (dictOfEntries x.metadata)
              = dictUpdate (dictOfEntries vi.metadata) (dictOfEntries vo.metadata) := by
          intro x hx hn
          obtain ⟨_, hcase'⟩ := merge_at_output hw' hd hi hx hn
          rcases hcase' with ⟨hvn', _⟩ | ⟨vi', hvi', _, hM'⟩
          · rw [hvi] at hvn'; cases hvn'
          · rw [hvi] at hvi'
            cases hvi'
            have e := hcons x hx hn
            rw [hM, hM'] at e
            have e' := congrArg (fun y : ValueInfoP => dictOfEntries y.metadata) e
            have hnd : ∀ g : ValueInfoP, (dkeys (dictUpdate (dictOfEntries vi.metadata)
                (dictOfEntries g.metadata))).Nodup :=
              fun g => nodup_dkeys_dictUpdate (nodup_dkeys_dictOfEntries _) _
            simpa only [dictOfEntries_entriesOfDict _ (hnd _)] using e'
        have htd := mergeOutVI_type (mDeclared inits outs) (inputs.map (·.name)) vis last
        have htd' := mergeOutVI_type (mDeclared inits outs) (inputs.map (·.name)) vis vo
        have hlt : last.type = vo.type ∧ last.doc = vo.doc := by
          have e := hcons last hlm hln
          exact ⟨by rw [← htd.1, e, htd'.1], by rw [← htd.2, e, htd'.2]⟩
        -- the union over the group, on top of the `value_info` metadata
        have hU : dictUpdate (dictOfEntries vi.metadata) (unionMd (sameName outputs vo))
            = dictUpdate (dictOfEntries vi.metadata) (dictOfEntries vo.metadata) := by
          rw [← foldl_mdStep_union]
          cases hg : sameName outputs vo with
          | nil =>
            have : vo ∈ sameName outputs vo := List.mem_filter.2 ⟨hvo, by simp⟩
            rw [hg] at this; cases this
          | cons g1 rest =>
            have hmem : ∀ x ∈ g1 :: rest, x ∈ outputs ∧ x.name = vo.name := by
              intro x hx
              rw [← hg] at hx
              obtain ⟨a, b⟩ := List.mem_filter.1 hx
              exact ⟨a, by simpa using b⟩
            rw [List.foldl_cons]
            show rest.foldl mdStep (dictUpdate (dictOfEntries vi.metadata) (dictOfEntries g1.metadata)) = _
            rw [foldl_mdStep_same _ g1 rest (fun x hx => by
              rw [hMx x (hmem x (List.mem_cons_of_mem _ hx)).1 (hmem x (List.mem_cons_of_mem _ hx)).2,
                hMx g1 (hmem g1 (by simp)).1 (hmem g1 (by simp)).2])]
            exact hMx g1 (hmem g1 (by simp)).1 (hmem g1 (by simp)).2
        have hndU := nodup_unionMd (sameName outputs vo)
        have happ : mergeApplies (mDeclared inits outs) (inputs.map (·.name))
            { last with metadata := entriesOfDict (unionMd (sameName outputs vo)) } = true := by
          simp only [mergeApplies, hln, Bool.and_eq_true, List.contains_eq_mem, decide_eq_true_eq,
            Bool.not_eq_true', decide_eq_false_iff_not]
          exact ⟨⟨hd, hi⟩, wfEntries_entriesOfDict hndU⟩
        rw [hM]
        simp only [outdupVI, ha0, if_true, hlast, mergeOutVI, hln, hvi, hwfvi,
          dictOfEntries_entriesOfDict _ hndU, hU]
        -- two records, equal field by field: name by `hln`, type and doc string by `hlt`, the rest rewritten above
        cases last; cases vo
        simp_all
  · simp only [outdupVI, ha]
    rfl

end core

theorem mergeGraph_congr_outputs (name doc : String) (nodes : List NodeP) (inits : List TensorP)
    (inputs outputs outputs' vis : List ValueInfoP) (quant : List AnnotP) (md : List Entry)
    (hn : outputs'.map (·.name) = outputs.map (·.name))
    (hm : outputs'.map (mergeOutVI (inits.map (·.name) ++ nodeOutNames nodes) (inputs.map (·.name)) vis)
      = outputs.map (mergeOutVI (inits.map (·.name) ++ nodeOutNames nodes) (inputs.map (·.name)) vis)) :
    mergeGraph (.mk name doc nodes inits inputs outputs' vis quant md)
      = mergeGraph (.mk name doc nodes inits inputs outputs vis quant md) := by
  simp only [mergeGraph, hn, hm]

mutual
theorem mergeAttr_outdup (scopes : Scopes) : ∀ a : AttrP, wfAttr scopes (mergeAttr a) = true →
    mergeAttr (outdupAttr a) = mergeAttr a
  | .ref .., _ => rfl
  | .int .., _ => rfl
  | .float .., _ => rfl
  | .string .., _ => rfl
  | .ints .., _ => rfl
  | .floats .., _ => rfl
  | .strings .., _ => rfl
  | .tensor .., _ => rfl
  | .tensors .., _ => rfl
  | .graph n d g, h => by
    simp only [mergeAttr, wfAttr] at h
    simp only [outdupAttr, mergeAttr, mergeGraph_outdup scopes g h]
  | .graphs n d gs, h => by
    simp only [mergeAttr, wfAttr] at h
    simp only [outdupAttr, mergeAttr, mergeGraphs_outdup scopes gs h]
  | .typeProto .., _ => rfl
  | .typeProtos .., _ => rfl
  | .undefined .., _ => rfl
  | .sparse .., _ => rfl
  | .unknown .., _ => rfl

theorem mergeGraphs_outdup (scopes : Scopes) : ∀ gs : List GraphP, wfGraphs scopes (mergeGraphs gs) = true →
    mergeGraphs (outdupGraphs gs) = mergeGraphs gs
  | [], _ => rfl
  | g :: gs, h => by
    simp only [mergeGraphs, wfGraphs, Bool.and_eq_true] at h
    simp only [outdupGraphs, mergeGraphs, mergeGraph_outdup scopes g h.1, mergeGraphs_outdup scopes gs h.2]

theorem mergeAttrs_outdup (scopes : Scopes) : ∀ as : List AttrP, wfAttrs scopes (mergeAttrs as) = true →
    mergeAttrs (outdupAttrs as) = mergeAttrs as
  | [], _ => rfl
  | a :: as, h => by
    simp only [mergeAttrs, wfAttrs, Bool.and_eq_true] at h
    simp only [outdupAttrs, mergeAttrs, mergeAttr_outdup scopes a h.1, mergeAttrs_outdup scopes as h.2]

theorem mergeNode_outdup (scopes : Scopes) : ∀ n : NodeP, wfNode scopes (mergeNode n) = true →
    mergeNode (outdupNode n) = mergeNode n
  | .mk inputs outputs name opType domain overload doc attrs metadata devcfgs, h => by
    simp only [outdupNode, mergeNode, mergeAttrs_outdup scopes attrs (wfNode_attrs h)]

theorem mergeNodes_outdup (scopes : Scopes) : ∀ ns : List NodeP, wfNodes scopes (mergeNodes ns) = true →
    mergeNodes (outdupNodes ns) = mergeNodes ns
  | [], _ => rfl
  | n :: ns, h => by
    simp only [mergeNodes, wfNodes, Bool.and_eq_true] at h
    simp only [outdupNodes, mergeNodes, mergeNode_outdup scopes n h.1, mergeNodes_outdup scopes ns h.2]

theorem mergeGraph_outdup (outer : Scopes) : ∀ g : GraphP, wfGraph outer (mergeGraph g) = true →
    mergeGraph (outdupGraph g) = mergeGraph g
  | .mk name doc nodes inits inputs outputs vis quant md, h => by
    simp only [mergeGraph] at h
    obtain ⟨hw'', hwn''⟩ := graphWF_of_wf outer name doc (mergeNodes nodes) inits inputs
      (mOutputs inits inputs outputs vis (nodeOutNames nodes))
      (mVis inits inputs outputs vis (nodeOutNames nodes)) quant md h
    have hw' := hw''
    rw [nodeOutNames_mergeNodes] at hw' hwn''
    have hnodes := mergeNodes_outdup _ nodes hwn''
    have hnames : (outputs.map (outdupVI (scopeNames (inputs.map (·.name)) (inits.map (·.name))
        (nodeOutNames nodes)) outputs)).map (·.name) = outputs.map (·.name) := by
      rw [List.map_map]
      apply List.map_congr_left
      intro vo _
      exact outdupVI_name _ outputs vo
    have hmo : (outputs.map (outdupVI (scopeNames (inputs.map (·.name)) (inits.map (·.name))
          (nodeOutNames nodes)) outputs)).map
          (mergeOutVI (inits.map (·.name) ++ nodeOutNames nodes) (inputs.map (·.name)) vis)
        = outputs.map (mergeOutVI (inits.map (·.name) ++ nodeOutNames nodes) (inputs.map (·.name)) vis) := by
      rw [List.map_map]
      apply List.map_congr_left
      intro vo hvo
      exact mergeOutVI_outdup hw' hvo
    simp only [outdupGraph, mergeGraph, nodeOutNames_outdupNodes, hnodes, hnames, hmo]
end

theorem mergeFunction_outdup (ver : Int) (f : FunctionP) (h : wfFunction ver (mergeFunction f) = true) :
    mergeFunction (outdupFunction f) = mergeFunction f := by
  obtain ⟨_, hattrs, _, hnodes⟩ := wfFunction_parts h
  simp only [mergeFunction, outdupFunction, mergeNodes_outdup _ f.nodes hnodes,
    mergeAttrs_outdup _ f.attrProtos hattrs]

theorem map_mergeFunction_outdup (ver : Int) (fs : List FunctionP)
    (h : (fs.map mergeFunction).all (wfFunction ver) = true) :
    (fs.map outdupFunction).map mergeFunction = fs.map mergeFunction := by
  rw [List.map_map]
  exact List.map_congr_left fun f hf => mergeFunction_outdup ver f (List.all_eq_true.1 h _ (List.mem_map_of_mem hf))

theorem mergeModel_outdup (m : ModelP) (h : wfModel (mergeModel m) = true) :
    mergeModel (outdupModel m) = mergeModel m := by
  obtain ⟨hg, hf⟩ := wfModel_parts h
  simp only [mergeModel, outdupModel, mergeGraph_outdup [] m.graph hg,
    map_mergeFunction_outdup m.irVersion m.functions hf]

theorem canonDModel_of_wfX (m : ModelP) (h : wfModel (canonModel m) = true) :
    canonDModel m = canonModel m := by
  unfold canonDModel canonModel at *
  exact mergeModel_outdup _ h

end IrVerif.Serde
