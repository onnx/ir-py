/-
C14: CSE - in a round all of whose rewrites are "stalled" the total Identity-chain depth of the main graph grows by the
number of rewrites; it is bounded by the square of the weighted node count; hence the measure `cseMu` of CSE decreases in
every modifying round on a well-formed model.
-/
import IrVerif.Lemmas.PassFlagsCse
import IrVerif.Lemmas.SemValidCse
import IrVerif.Model.PassFlags3
namespace IrVerif.PassFlags
open IrVerif.Sem IrVerif.Passes

theorem dget_cons (δ : DMap) (k : VId) (d : Nat) (v : VId) :
    dget ((k, d) :: δ) v = if v = k then d else dget δ v := by
  simp only [dget, List.lookup_cons]
  by_cases h : v = k
  · simp [h]
  · have : (v == k) = false := by simpa using h
    simp [h, this]

theorem dget_zero_append (vs : List VId) (δ : DMap) (v : VId) :
    dget (vs.map (fun v => (v, 0)) ++ δ) v = if v ∈ vs then 0 else dget δ v := by
  induction vs with
  | nil => simp
  | cons a l ih =>
    simp only [List.map_cons, List.cons_append, dget_cons, ih, List.mem_cons]
    by_cases h : v = a
    · simp [h]
    · simp [h]

theorem idShape_some {n : Node} {x y : VId} (h : idShape n = some (x, y)) :
    isIdentityOp n.op = true ∧ n.ins = [some x] ∧ n.outs = [y] := ieCandidate_some h

theorem dstep_other (δ : DMap) (n : Node) (v : VId) (hv : v ∉ n.outs) : dget (dstep δ n) v = dget δ v := by
  unfold dstep
  cases h : idShape n with
  | none => simp only [dget_zero_append, if_neg hv]
  | some p =>
    obtain ⟨x, y⟩ := p
    have := (idShape_some h).2.2
    rw [this] at hv
    simp only [dget_cons]
    rw [if_neg (by simpa using hv)]

theorem dstep_id (δ : DMap) (n : Node) (x y : VId) (h : idShape n = some (x, y)) :
    dget (dstep δ n) y = dget δ x + 1 := by
  simp only [dstep, h, dget_cons, if_true]

theorem dstep_plain (δ : DMap) (n : Node) (v : VId) (h : idShape n = none) (hv : v ∈ n.outs) :
    dget (dstep δ n) v = 0 := by
  simp only [dstep, h, dget_zero_append, if_pos hv]

theorem dstep_bound (δ : DMap) (n : Node) (b : Nat) (hb : ∀ v, dget δ v ≤ b) : ∀ v, dget (dstep δ n) v ≤ b + 1 := by
  intro v
  unfold dstep
  cases h : idShape n with
  | none =>
    simp only [dget_zero_append]
    split
    · omega
    · have := hb v; omega
  | some p =>
    obtain ⟨x, y⟩ := p
    simp only [dget_cons]
    split
    · have := hb x; omega
    · have := hb v; omega

theorem dcontrib_bound (δ : DMap) (n : Node) (b : Nat) (hb : ∀ v, dget δ v ≤ b) : dcontrib δ n ≤ b + 1 := by
  unfold dcontrib
  cases h : idShape n with
  | none => simp
  | some p => obtain ⟨x, y⟩ := p; have := hb x; simp only; omega

theorem phiSum_bound : ∀ (ns : List Node) (δ : DMap) (b : Nat), (∀ v, dget δ v ≤ b) →
    phiSum δ ns ≤ ns.length * (b + ns.length)
  | [], _, _, _ => by simp [phiSum]
  | n :: ns, δ, b, hb => by
    have h1 := dcontrib_bound δ n b hb
    have h2 := phiSum_bound ns (dstep δ n) (b + 1) (dstep_bound δ n b hb)
    simp only [phiSum, List.length_cons]
    have e : (ns.length + 1) * (b + (ns.length + 1)) = ns.length * (b + 1 + ns.length) + (b + 1 + ns.length) := by
      rw [Nat.succ_mul]
      have : b + (ns.length + 1) = b + 1 + ns.length := by omega
      rw [this]
    rw [e]
    omega

theorem length_le_cseW : ∀ ns : List Node, ns.length ≤ cseW ns
  | [] => by simp [cseW]
  | n :: ns => by
    have ih := length_le_cseW ns
    have h1 : 1 ≤ cseWt n := by
      cases n with
      | mk op attrs ins outs bodies => simp only [cseWt]; split <;> omega
    simp only [cseW, List.map_cons, List.sum_cons, List.length_cons] at ih ⊢
    omega

theorem cseDepth_le (m : Model) : cseDepth m ≤ cseW m.graph.nodes * cseW m.graph.nodes := by
  have h := phiSum_bound m.graph.nodes [] 0 (fun v => by simp [dget])
  have hl := length_le_cseW m.graph.nodes
  simp only [Nat.zero_add] at h
  exact Nat.le_trans h (Nat.mul_le_mul hl hl)

/-- substitution keeps the Identity shape: `ieCandidate` looks only at the operator and at the lengths of the lists -/
theorem ieCandidate_subst (σ : Subst) (op : OpId) (ins : List (Option VId)) (nouts : List VId) :
    ieCandidate op (substIns σ ins) nouts = (ieCandidate op ins nouts).map (fun p => (σ.app p.1, p.2)) := by
  unfold ieCandidate
  by_cases hop : isIdentityOp op = true
  · simp only [hop, if_true]
    rcases ins with _ | ⟨_ | a, _ | _⟩ <;> rcases nouts with _ | ⟨y, _ | _⟩ <;> rfl
  · simp only [hop, Bool.false_eq_true, if_false, Option.map_none]

/-- `n'` is the copy of `n` that the walk emits under the substitution `σ`, which leaves the outputs of `n` alone: same
    outputs, and the Identity shape of `n` with its input substituted -/
structure Emitted (σ : Subst) (n n' : Node) : Prop where
  outs : n'.outs = n.outs
  shape : idShape n' = (idShape n).map (fun p => (σ.app p.1, p.2))
  app_out : ∀ v ∈ n.outs, σ.app v = v
  app_nout : ∀ v, v ∉ n.outs → σ.app v ∉ n.outs

theorem dcontrib_emitted {σ : Subst} {n n' : Node} {δi δo : DMap} (h : Emitted σ n n')
    (hmain : ∀ v, dget δi v ≤ dget δo (σ.app v)) : dcontrib δi n ≤ dcontrib δo n' := by
  unfold dcontrib
  rw [h.shape]
  cases idShape n with
  | none => simp
  | some p => obtain ⟨x, y⟩ := p; simp only [Option.map_some]; have := hmain x; omega

theorem dstep_emitted {σ : Subst} {n n' : Node} {δi δo : DMap} (h : Emitted σ n n')
    (hmain : ∀ v, dget δi v ≤ dget δo (σ.app v)) (v : VId) :
    dget (dstep δi n) v ≤ dget (dstep δo n') (σ.app v) := by
  by_cases hv : v ∈ n.outs
  · rw [h.app_out v hv]
    cases hsh : idShape n with
    | none => rw [dstep_plain δi _ v hsh hv]; omega
    | some p =>
      obtain ⟨x, y⟩ := p
      have hy := (idShape_some hsh).2.2
      rw [hy, List.mem_singleton] at hv
      subst hv
      rw [dstep_id δi _ x v hsh, dstep_id δo _ (σ.app x) v (by rw [h.shape, hsh]; rfl)]
      have := hmain x; omega
  · rw [dstep_other δi n v hv, dstep_other δo n' (σ.app v) (by rw [h.outs]; exact h.app_nout v hv)]
    exact hmain v

/-- what the depth argument keeps along the walk: the rest `ns` of the list is an ordered SSA list in which no value of the
    substitution or of a dictionary entry is defined, depths only grow under the substitution, and a dictionary entry
    `z = Identity(x)` is deeper than its input -/
structure DepthInv (σ : Subst) (tbl : List Node) (δi δo : DMap) (ns : List Node) : Prop where
  ssa : ssaNodes ns = true
  noFwd : noFwdNodes ns = true
  sub : ∀ p ∈ σ, p.1 ∉ defsNodes ns ∧ p.2 ∉ defsNodes ns
  dict : ∀ n1 ∈ tbl, (∀ v ∈ n1.outs, v ∉ defsNodes ns) ∧ (∀ v ∈ n1.ins.filterMap id, v ∉ defsNodes ns)
  main : ∀ v, dget δi v ≤ dget δo (σ.app v)
  chain : ∀ n1 ∈ tbl, ∀ x z, idShape n1 = some (x, z) → dget δo x + 1 ≤ dget δo z

/-- the head node `n` against the dictionary `tbl` and the tail `ns`: no value of a dictionary entry is an output of `n`,
    no output of `n` is defined later, and the substituted inputs of `n` are defined neither by `n` nor later -/
structure HeadFresh (σ : Subst) (tbl : List Node) (n : Node) (ns : List Node) : Prop where
  dict : ∀ n1 ∈ tbl, (∀ v ∈ n1.outs, v ∉ n.outs) ∧ (∀ v ∈ n1.ins.filterMap id, v ∉ n.outs)
  outs : ∀ v ∈ n.outs, v ∉ defsNodes ns
  ins : ∀ w ∈ (substIns σ n.ins).filterMap id, w ∉ defsNodes (n :: ns)

/-- one node `n`, emitted as `substN σ n`: the invariant holds for the tail with the same substitution and dictionary -/
theorem DepthInv.step {σ : Subst} {tbl : List Node} {δi δo : DMap} {op : OpId} {attrs : List (String × AttrData)}
    {ins : List (Option VId)} {nouts : List VId} {bodies : List Graph} {ns : List Node}
    (h : DepthInv σ tbl δi δo (.mk op attrs ins nouts bodies :: ns)) :
    DepthInv σ tbl (dstep δi (.mk op attrs ins nouts bodies))
      (dstep δo (.mk op attrs (substIns σ ins) nouts (substBodies σ bodies))) ns ∧
    Emitted σ (.mk op attrs ins nouts bodies) (.mk op attrs (substIns σ ins) nouts (substBodies σ bodies)) ∧
    dcontrib δi (.mk op attrs ins nouts bodies) ≤ dcontrib δo (.mk op attrs (substIns σ ins) nouts (substBodies σ bodies)) ∧
    HeadFresh σ tbl (.mk op attrs ins nouts bodies) ns := by
    obtain ⟨hs, hf, hσ, htbl, hmain, hti⟩ := h
    simp only [ssaNodes, ssaN, Bool.and_eq_true, disj_iff] at hs
    simp only [noFwdNodes, noFwdN, Bool.and_eq_true, disj_iff, Node.ins, Node.outs, Node.bodies] at hf
    obtain ⟨⟨_, hsd⟩, hsn⟩ := hs
    obtain ⟨⟨⟨hfi, _⟩, _⟩, hfn⟩ := hf
    have hout_tail : ∀ v ∈ nouts, v ∉ defsNodes ns := fun v hv => hsd v (mem_defsN.2 (.inl hv))
    have hσn : ∀ p ∈ σ, p.1 ∉ defsNodes ns ∧ p.2 ∉ defsNodes ns :=
      fun p hp => ⟨fun h => (hσ p hp).1 (mem_defsNodes_cons.2 (.inr h)), fun h => (hσ p hp).2 (mem_defsNodes_cons.2 (.inr h))⟩
    have hσo : ∀ p ∈ σ, p.1 ∉ nouts ∧ p.2 ∉ nouts :=
      fun p hp => ⟨fun h => (hσ p hp).1 (mem_defsNodes_cons.2 (.inl (mem_defsN.2 (.inl h)))), fun h => (hσ p hp).2 (mem_defsNodes_cons.2 (.inl (mem_defsN.2 (.inl h))))⟩
    have happ_out : ∀ v ∈ nouts, σ.app v = v := fun v hv => app_of_not_key (fun p hp h => (hσo p hp).1 (h ▸ hv))
    have happ_nout : ∀ v, v ∉ nouts → σ.app v ∉ nouts := by
      intro v hv
      rcases Subst.app_cases σ v with h | ⟨p, hp, _, h2⟩
      · rw [h]; exact hv
      · rw [← h2]; exact (hσo p hp).2
    have htbln : ∀ n1 ∈ tbl, (∀ v ∈ n1.outs, v ∉ defsNodes ns) ∧ (∀ v ∈ n1.ins.filterMap id, v ∉ defsNodes ns) :=
      fun n1 h1 => ⟨fun v hv h => (htbl n1 h1).1 v hv (mem_defsNodes_cons.2 (.inr h)), fun v hv h => (htbl n1 h1).2 v hv (mem_defsNodes_cons.2 (.inr h))⟩
    have htblo : ∀ n1 ∈ tbl, (∀ v ∈ n1.outs, v ∉ nouts) ∧ (∀ v ∈ n1.ins.filterMap id, v ∉ nouts) :=
      fun n1 h1 => ⟨fun v hv h => (htbl n1 h1).1 v hv (mem_defsNodes_cons.2 (.inl (mem_defsN.2 (.inl h)))), fun v hv h => (htbl n1 h1).2 v hv (mem_defsNodes_cons.2 (.inl (mem_defsN.2 (.inl h))))⟩
    have hins_sub : ∀ w ∈ (substIns σ ins).filterMap id, w ∉ defsNodes (.mk op attrs ins nouts bodies :: ns) := by
      intro w hw
      obtain ⟨v, hv, rfl⟩ := mem_substIns' hw
      rcases Subst.app_cases σ v with h | ⟨p, hp, _, h2⟩
      · rw [h]; exact hfi v hv
      · rw [← h2]; exact (hσ p hp).2
    have hem : Emitted σ (.mk op attrs ins nouts bodies) (.mk op attrs (substIns σ ins) nouts (substBodies σ bodies)) :=
      ⟨rfl, ieCandidate_subst σ op ins nouts, happ_out, happ_nout⟩
    have hcontrib := dcontrib_emitted hem hmain
    have keep_main := dstep_emitted hem hmain
    have keep_tbl : ∀ n1 ∈ tbl, ∀ x z, idShape n1 = some (x, z) →
        dget (dstep δo (.mk op attrs (substIns σ ins) nouts (substBodies σ bodies))) x + 1 ≤
          dget (dstep δo (.mk op attrs (substIns σ ins) nouts (substBodies σ bodies))) z := by
      intro n1 h1 x z hsh
      obtain ⟨_, hi1, ho1⟩ := idShape_some hsh
      have hz : z ∉ nouts := (htblo n1 h1).1 z (by rw [ho1]; simp)
      have hx : x ∉ nouts := (htblo n1 h1).2 x (by rw [hi1]; simp)
      rw [dstep_other δo (.mk op attrs (substIns σ ins) nouts (substBodies σ bodies)) z hz,
        dstep_other δo (.mk op attrs (substIns σ ins) nouts (substBodies σ bodies)) x hx]
      exact hti n1 h1 x z hsh
    exact ⟨⟨hsn, hfn, hσn, htbln, keep_main, keep_tbl⟩, hem, hcontrib, ⟨htblo, hout_tail, hins_sub⟩⟩

/-- in a run all of whose rewrites are stalled the total chain depth grows by the number of rewrites -/
theorem CseRun.depth {limit : Nat} {gins : List VId} {tbl : List Node} {σ : Subst} {outs : List VId} {ns : List Node}
    {r : IeRes} {c i s : Nat} (h : CseRun limit gins tbl σ outs ns r c i s) : ∀ (δi δo : DMap),
    DepthInv σ tbl δi δo ns → c ≤ s → phiSum δi ns + c ≤ phiSum δo r.nodes := by
  induction h with
  | nil => intro _ _ _ _; simp [phiSum]
  | @skip tbl σ outs n ns r c i s _ _ ih =>
    intro δi δo hI hcs
    obtain ⟨op, attrs, ins, nouts, bodies⟩ := n
    obtain ⟨hT, _, hcontrib, _⟩ := hI.step
    have ih := ih _ _ hT hcs
    simp only [substN, phiSum]
    omega
  | @record tbl σ outs n ns r c i s _ _ _ ih =>
    intro δi δo hI hcs
    obtain ⟨op, attrs, ins, nouts, bodies⟩ := n
    simp only [substN] at ih
    obtain ⟨hT, _, hcontrib, F⟩ := hI.step
    -- the recorded node joins the dictionary: its values are not defined later, and if it is `z = Identity(x)` it is deeper than `x`
    have ih := ih _ _ ⟨hT.ssa, hT.noFwd, hT.sub,
      (by
        intro n1 h1
        rcases List.mem_append.1 h1 with h1 | h1
        · exact hT.dict n1 h1
        · rw [List.mem_singleton] at h1
          subst h1
          exact ⟨F.outs, fun v hv h => F.ins v hv (mem_defsNodes_cons.2 (.inr h))⟩),
      hT.main,
      (by
        intro n1 h1 x z hsh
        rcases List.mem_append.1 h1 with h1 | h1
        · exact hT.chain n1 h1 x z hsh
        · rw [List.mem_singleton] at h1
          subst h1
          obtain ⟨_, hi1, _⟩ := idShape_some hsh
          simp only [Node.ins] at hi1
          have hx : x ∉ nouts := fun h => F.ins x (show x ∈ (substIns σ ins).filterMap id by rw [hi1]; simp) (mem_defsNodes_cons.2 (.inl (mem_defsN.2 (.inl h))))
          rw [dstep_id δo _ x z hsh,
            dstep_other δo (.mk op attrs (substIns σ ins) nouts (substBodies σ bodies)) x hx]
          omega)⟩
      hcs
    simp only [substN, phiSum]
    omega
  | @replace tbl σ outs n n1 ns r c i s _ hfind hrun ih =>
    intro δi δo hI hcs
    obtain ⟨op, attrs, ins, nouts, bodies⟩ := n
    have eo : (Node.mk op attrs ins nouts bodies).outs = nouts := rfl
    have eop : (Node.mk op attrs ins nouts bodies).op = op := rfl
    simp only [eo, eop] at hrun ih hcs ⊢
    simp only [substN] at hfind
    obtain ⟨hT, hem, hcontrib, F⟩ := hI.step
    have hn1 : n1 ∈ tbl := List.mem_of_find?_eq_some hfind
    have hkey := List.find?_some hfind
    simp only [cseKeyMatch, Bool.and_eq_true, beq_iff_eq] at hkey
    have hkop : n1.op = op := hkey.1.1.1
    have hklen : n1.outs.length = nouts.length := hkey.1.1.2
    have hkins : n1.ins = substIns σ ins := hkey.1.2
    have hsl := hrun.stall_le
    -- the rewrite is stalled
    have hst : (isIdentityOp op && nouts.length == 1 &&
        !(cseFixOuts gins (nouts.zip n1.outs) [] [] outs).2.isEmpty) = true := by
      cases hb : (isIdentityOp op && nouts.length == 1 &&
        !(cseFixOuts gins (nouts.zip n1.outs) [] [] outs).2.isEmpty) with
      | true => rfl
      | false => simp only [hb, Bool.false_eq_true, if_false] at hcs; omega
    have hcs' : c ≤ s := by
      simp only [hst, if_true] at hcs; omega
    simp only [Bool.and_eq_true, beq_iff_eq, Bool.not_eq_true', List.isEmpty_eq_false_iff] at hst
    obtain ⟨⟨hid, hlen1⟩, hne⟩ := hst
    -- one output on each side
    obtain ⟨o, rfl⟩ := List.length_eq_one_iff.1 hlen1
    obtain ⟨z, hz⟩ := List.length_eq_one_iff.1 (hklen.trans rfl)
    rw [hz] at hne ih ⊢
    simp only [List.zip_cons_cons, List.zip_nil_right, List.singleton_append] at hne ih ⊢
    -- exactly one Identity node is inserted: `o = Identity(z)`
    have hle := cseFixOuts_le_nouts gins [o] [z] outs
    simp only [List.zip_cons_cons, List.zip_nil_right, List.length_singleton] at hle
    obtain ⟨hidp, _, _, _⟩ := cseFixOuts_wf gins [(o, z)] outs [] [] (fun _ => True) (fun _ _ _ => trivial)
    obtain ⟨mnode, hfx⟩ := List.length_eq_one_iff.1
      (Nat.le_antisymm hle (List.length_pos_iff.2 hne))
    have hm : mnode = identityNode z o := by
      obtain ⟨z', o', e, hl⟩ := hidp mnode (by rw [hfx]; simp)
      simp only [List.lookup_cons, List.lookup_nil] at hl
      by_cases hoo : o' = o
      · subst hoo
        simp at hl
        rw [e, hl]
      · have : (o' == o) = false := by simpa using hoo
        simp [this] at hl
    -- depth of the kept node's output
    have hzo : z ≠ o := fun h => (F.dict n1 hn1).1 z (by rw [hz]; simp) (List.mem_singleton.2 h)
    have hold : dcontrib δi (.mk op attrs ins [o] bodies) ≤ dget δo z := by
      unfold dcontrib
      cases hsh : idShape (.mk op attrs ins [o] bodies) with
      | none => simp
      | some p =>
        obtain ⟨x, y⟩ := p
        simp only
        have hs1 : idShape n1 = some (σ.app x, z) := by
          show ieCandidate n1.op n1.ins n1.outs = some (σ.app x, z)
          rw [hkop, hkins, hz]
          have h' : ieCandidate op (substIns σ ins) [o] = some (σ.app x, y) := by
            have h2 := hem.shape
            rw [hsh] at h2
            exact h2
          obtain ⟨_, hi, _⟩ := ieCandidate_some h'
          rw [hi]
          simp [ieCandidate, hid]
        have := hI.chain n1 hn1 (σ.app x) z hs1
        have := hI.main x
        omega
    -- invariants after the rewrite
    have ih := ih (dstep δi (.mk op attrs ins [o] bodies)) ((o, dget δo z + 1) :: δo) ⟨hT.ssa, hT.noFwd,
      (by
        intro p hp
        rcases List.mem_cons.1 hp with hp | hp
        · subst hp
          exact ⟨F.outs o (List.mem_singleton_self o), (hT.dict n1 hn1).1 z (by rw [hz]; simp)⟩
        · exact hT.sub p hp),
      hT.dict,
      (by
        intro v
        rw [Subst.app_cons]
        by_cases hv : v = o
        · subst hv
          simp only [if_true, dget_cons, if_neg hzo]
          cases hsh : idShape (.mk op attrs ins [v] bodies) with
          | none => rw [dstep_plain δi _ v hsh (by simp [Node.outs])]; omega
          | some p =>
            obtain ⟨x, y⟩ := p
            have hy : y = v := by
              have := (idShape_some hsh).2.2
              simp only [Node.outs, List.cons.injEq, and_true] at this
              exact this.symm
            subst hy
            rw [dstep_id δi _ x y hsh]
            have := hold
            simp only [dcontrib, hsh] at this
            exact this
        · simp only [if_neg hv]
          rw [dstep_other δi (.mk op attrs ins [o] bodies) v (by simpa [Node.outs] using hv)]
          have hne' : σ.app v ≠ o := fun h => hem.app_nout v (by simpa [Node.outs] using hv) (List.mem_singleton.2 h)
          rw [dget_cons, if_neg hne']
          exact hI.main v),
      (by
        intro n1' h1' x z' hsh
        obtain ⟨_, hi1, ho1⟩ := idShape_some hsh
        have hz' : z' ≠ o := fun h => (F.dict n1' h1').1 z' (by rw [ho1]; simp) (List.mem_singleton.2 h)
        have hx' : x ≠ o := fun h => (F.dict n1' h1').2 x (by rw [hi1]; simp) (List.mem_singleton.2 h)
        rw [dget_cons, dget_cons, if_neg hz', if_neg hx']
        exact hI.chain n1' h1' x z' hsh)⟩
      hcs'
    simp only [hfx, hm, phiSum, List.cons_append, List.nil_append]
    have hdi : dcontrib δo (identityNode z o) = dget δo z + 1 := by
      simp [dcontrib, idShape, identityNode, ieCandidate, isIdentityOp, Node.op, Node.ins, Node.outs]
    have hds : dstep δo (identityNode z o) = (o, dget δo z + 1) :: δo := by
      simp [dstep, idShape, identityNode, ieCandidate, isIdentityOp, Node.op, Node.ins, Node.outs]
    rw [hdi, hds]
    omega

theorem cseNodes_depth (limit : Nat) (gins : List VId) (ns tbl : List Node) (σ : Subst) (outs : List VId) (δi δo : DMap)
    (hI : DepthInv σ tbl δi δo ns) (h : cseCnt limit gins tbl σ outs ns ≤ cseStall limit gins tbl σ outs ns) :
    phiSum δi ns + cseCnt limit gins tbl σ outs ns ≤ phiSum δo (cseNodes limit gins tbl σ outs ns).nodes :=
  (cseRun limit gins ns tbl σ outs).depth δi δo hI h

theorem ssa_noFwd_of_valid (m : Model) (hv : validModel m = true) :
    ssaNodes m.graph.nodes = true ∧ noFwdNodes m.graph.nodes = true := by
  simp only [validModel, Bool.and_eq_true] at hv
  have hg := validG_ssa_noFwd hv.1
  cases hm : m.graph with
  | mk inputs outputs inits nodes =>
    rw [hm] at hg
    simp only [ssaG, noFwdG, Bool.and_eq_true] at hg
    exact ⟨hg.1.2, hg.2⟩

theorem cseModel_depth (limit : Nat) (m : Model) (hv : validModel m = true)
    (hall : cseCount limit m ≤ cseStalled limit m) :
    cseDepth m + cseCount limit m ≤ cseDepth (cseModel limit m) := by
  obtain ⟨hs, hf⟩ := ssa_noFwd_of_valid m hv
  cases m with
  | mk g fs =>
    cases g with
    | mk inputs outputs inits nodes =>
      simp only [Graph.nodes] at hs hf
      simp only [cseCount, cseStalled, Graph.inputs, Graph.outputs, Graph.nodes] at hall
      simp only [cseDepth, cseCount, cseModel, Graph.inputs, Graph.outputs, Graph.nodes]
      exact cseNodes_depth limit inputs nodes [] [] outputs [] [] ⟨hs, hf, fun p hp => (nomatch hp),
        fun n1 h1 => (nomatch h1), fun v => (by simp [Subst.app]), fun n1 h1 => (nomatch h1)⟩ hall

theorem cube_step (a W : Nat) (h : a + 1 ≤ W) : a * (a * a + 1) + a * a < W * (W * W + 1) := by
  have h1 : (a + 1) * ((a + 1) * (a + 1) + 1) ≤ W * (W * W + 1) :=
    Nat.mul_le_mul h (Nat.add_le_add_right (Nat.mul_le_mul h h) 1)
  simp only [Nat.add_mul, Nat.mul_add, Nat.mul_one, Nat.one_mul] at h1 ⊢
  omega

/-- the arithmetic of the lexicographic measure `W * (W * W + 1) + (W * W - d)`: `c` rewrites of which `s` are
    stalled take the weight from `W` to `W'` and the depth from `d` to `d'`; either the weight drops, or all rewrites
    are stalled and the depth grows -/
theorem mu_lt (W W' d d' c s : Nat) (hd' : d' ≤ W' * W') (hc : c ≠ 0) (hw : W' + c ≤ W + s) (hsc : s ≤ c)
    (hdep : c ≤ s → d + c ≤ d') :
    W' * (W' * W' + 1) + (W' * W' - d') < W * (W * W + 1) + (W * W - d) := by
  by_cases hlt : W' + 1 ≤ W
  · exact Nat.lt_of_le_of_lt (Nat.add_le_add_left (Nat.sub_le _ _) _)
      (Nat.lt_of_lt_of_le (cube_step W' W hlt) (Nat.le_add_right _ _))
  · obtain rfl : W' = W := by omega
    have := hdep (by omega)
    exact Nat.add_lt_add_left (by omega) _

theorem cseMu_decreases (limit : Nat) (m : Model) (hv : validModel m = true)
    (hcnt : cseCount limit m ≠ 0) : cseMu (cseModel limit m) < cseMu m :=
  mu_lt _ _ _ _ _ _ (cseDepth_le (cseModel limit m)) hcnt (cseModel_weight limit m) (cseStalled_le limit m)
    (cseModel_depth limit m hv)

end IrVerif.PassFlags
