/-
C19 — round trips below IR version 11 (helper development for `C19_roundtrip_legacy`): the IR-version
gate of `_serialize_node_multi_device_into` writes no device field, so every deserialized node comes
back without annotations and the new model without configurations; what remains to show is that the
new nodes are well formed (their value ids exist): `GInv` is an invariant the walk of the deserializer
(`DeserWalk`, `DeviceScope.lean`) keeps, with nothing to say about annotations.
-/
import IrVerif.Lemmas.DeviceRT
namespace IrVerif.Device

structure GInv (w : World) (st : DSt) : Prop where
  ext : Ext w st.w
  models : st.w.models = w.models
  nodes : ∃ extra, st.w.nodes = w.nodes ++ extra ∧ ∀ nd ∈ extra, NodeOK st.w nd ∧ nd.dev = []
  newOK : ∀ k ∈ st.newNodes, w.nodes.length ≤ k ∧ k < st.w.nodes.length

theorem GInv.grow {w : World} {st : DSt} (h : GInv w st) {w2 : World}
    (he : VExt st.w w2) (hn : w2.nodes = st.w.nodes) : GInv w { st with w := w2 } := by
  obtain ⟨extra, hex, hok⟩ := h.nodes
  refine ⟨h.ext.trans he.toExt, by show w2.models = _; rw [he.models, h.models],
    ⟨extra, by show w2.nodes = _; rw [hn, hex], ?_⟩, ?_⟩
  · intro nd hnd; exact ⟨(hok nd hnd).1.ext he.toExt, (hok nd hnd).2⟩
  · intro k hk
    obtain ⟨a, b⟩ := h.newOK k hk
    exact ⟨a, by show k < w2.nodes.length; rw [hn]; exact b⟩

theorem GInv.walk (w : World) (known : List (String × CId)) :
    DeserWalk w true known (fun _ => True) (fun _ => True) (GInv w) where
  down := fun _ _ => trivial
  sub := fun _ _ => trivial
  len := fun h => h.ext.vlen
  grow := fun h he hn => h.grow he hn
  graph := by
    intro st gs b2
    have hfin : VExt st.w { st.w with graphs := st.w.graphs ++ [gs] } := VExt.of_eq rfl rfl rfl rfl
    obtain ⟨extra, hex, hok⟩ := b2.nodes
    exact ⟨b2.ext.trans hfin.toExt, b2.models,
      ⟨extra, hex, fun nd hnd => ⟨(hok nd hnd).1.ext hfin.toExt, (hok nd hnd).2⟩⟩, b2.newOK⟩
  node := by
    intro n vals st sc ins' outs' _ _ _ _ _ _ _ lt1 lt2
    have hgate : (serNodeDev w true (w.node n)).getD [] = [] := by simp [serNodeDev]
    rw [hgate]
    simp only [deserCfgs, true_and]
    intro st4 subs hinv4 e4
    have hnd' : NodeOK st4.w { inputs := ins', outputs := outs', dev := [], subgraphs := subs } := by
      refine ⟨⟨?_, ?_⟩, by simp, by simp⟩
      · intro o ho v hov
        subst hov
        exact Nat.lt_of_lt_of_le (lt1 v ho) e4.len
      · intro v hv
        exact Nat.lt_of_lt_of_le (lt2 v hv) e4.len
    obtain ⟨extra, hex, hok⟩ := hinv4.nodes
    have hvfin : VExt st4.w { st4.w with nodes := st4.w.nodes ++
        [{ inputs := ins', outputs := outs', dev := [], subgraphs := subs }] } :=
      ⟨⟨[], by simp⟩, rfl, ⟨[_], rfl⟩, rfl⟩
    have hextfin := hvfin.toExt
    refine ⟨hinv4.ext.trans hextfin, hinv4.models,
      ⟨extra ++ [{ inputs := ins', outputs := outs', dev := [], subgraphs := subs }],
        by show st4.w.nodes ++ _ = _; rw [hex, List.append_assoc], ?_⟩, ?_⟩
    · intro x hx
      simp only [List.mem_append, List.mem_singleton] at hx
      rcases hx with hx | hx
      · exact ⟨(hok x hx).1.ext hextfin, (hok x hx).2⟩
      · subst hx; exact ⟨hnd'.ext hextfin, rfl⟩
    · intro k hk
      have hk' : k ∈ st4.newNodes ++ [st4.w.nodes.length] := hk
      rw [List.mem_append, List.mem_singleton] at hk'
      rcases hk' with hk' | hk'
      · obtain ⟨a, b⟩ := hinv4.newOK k hk'
        exact ⟨a, Nat.lt_of_lt_of_le b hvfin.nlen⟩
      · subst hk'
        exact ⟨by rw [hex]; simp, by show _ < (st4.w.nodes ++ _).length; simp⟩

/-- a round trip below IR version 11: the world reached satisfies the invariant, the new model has no
    configurations and none of its nodes an annotation -/
theorem roundTrip_legacy_core {w : World} (h : DevOK w) (m : MId) (hir : (w.model m).irVersion < 11)
    (hparts : NamesChain w (w.model m)) :
    DevOK (roundTrip w m).1 ∧
    ((roundTrip w m).2 = .ok →
      (roundTrip w m).1.models.length = w.models.length + 1 ∧
      ((roundTrip w m).1.model w.models.length).cfgs = [] ∧
      ∀ n ∈ ((roundTrip w m).1.model w.models.length).nodes, ((roundTrip w m).1.node n).dev = []) := by
  unfold roundTrip
  cases hser : serModelDev w m with
  | none => exact ⟨h, by simp⟩
  | some protos =>
    simp only
    cases hd : deserModel w m with
    | none => exact ⟨h, by simp⟩
    | some w' =>
      simp only
      unfold deserModel at hd
      simp only at hd
      have hgate : decide ((w.model m).irVersion < 11) = true := by simp [hir]
      rw [hgate] at hd
      cases hdg : deserRoots w true (rtKnown w (w.model m)) (w.graphs.length + 1)
          { w := rtWorld0 w (w.model m) } (w.model m).roots with
      | none => simp [hdg] at hd
      | some r =>
        obtain ⟨st, gs'⟩ := r
        simp only [hdg, Option.some.injEq] at hd
        have hregs : rtRegs (w.model m) = [] := by
          have : ¬ 11 ≤ (w.model m).irVersion := by omega
          simp [rtRegs, this]
        have hw0 : rtWorld0 w (w.model m) = w := by simp [rtWorld0, hregs]
        have hinit : GInv w { w := rtWorld0 w (w.model m) } := by
          rw [hw0]
          exact ⟨Ext.refl w, rfl, ⟨[], by simp, by simp⟩, by simp⟩
        have hinv := ((GInv.walk w _).roots_run _ _ _ _ _ (fun g hg => ⟨trivial, hparts g hg⟩) hdg hinit).1
        obtain ⟨extra, hex, hok⟩ := hinv.nodes
        have hnewc : rtNewCfgs w (w.model m) = [] := by simp [rtNewCfgs, hregs]
        generalize hnm : ({ graph := gs'.headD 0, graphs := st.newGraphs, nodes := st.newNodes, cfgs := rtNewCfgs w (w.model m), irVersion := (w.model m).irVersion, funcs := gs'.tail } : ModelS) = newm at hd
        have hnm1 : newm.nodes = st.newNodes := by rw [← hnm]
        have hnm2 : newm.cfgs = [] := by rw [← hnm]; exact hnewc
        clear hnm
        subst hd
        have hmodel : World.model (rtFinish st.w newm) w.models.length = newm := by
          simp [World.model, rtFinish, hinv.models, List.getD_eq_getElem?_getD]
        have hdev : ∀ k ∈ st.newNodes, k < st.w.nodes.length ∧ (st.w.node k).dev = [] := by
          intro k hk
          obtain ⟨hge, hlt⟩ := hinv.newOK k hk
          refine ⟨hlt, ?_⟩
          have hmem : st.w.node k ∈ extra := node_mem_extra hex hge hlt
          exact (hok _ hmem).2
        refine ⟨?_, fun _ => ⟨by simp [rtFinish, hinv.models], by rw [hmodel]; exact hnm2, ?_⟩⟩
        · refine DevOK_extend h (hinv.ext.trans (Ext.of_eq rfl rfl)) ⟨extra, hex, fun nd hnd => ((hok nd hnd).1).ext (Ext.of_eq rfl rfl)⟩ ?_
          intro ms' hms'
          have hms'' : ms' ∈ st.w.models ++ [newm] := hms'
          rw [hinv.models, List.mem_append, List.mem_singleton] at hms''
          rcases hms'' with h1 | h1
          · exact ⟨ms', h.2 ms' h1, rfl, fun n hn => Or.inl hn⟩
          · subst h1
            refine ⟨{}, ModelOK_default w, hnm2, ?_⟩
            intro n hn
            have hn' : n ∈ st.newNodes := hnm1 ▸ hn
            obtain ⟨hlt, hd0⟩ := hdev n hn'
            refine Or.inr ⟨hlt, ?_⟩
            intro nc hnc
            have hnc' : nc ∈ (st.w.node n).dev := hnc
            rw [hd0] at hnc'; cases hnc'
        · rw [hmodel]
          intro n hn
          exact (hdev n (hnm1 ▸ hn)).2

theorem chainsF_sub {w : World} {ms : ModelS} (hcl : Closed w ms) : ∀ (f : Nat) (ov : List VId) (g : GId),
    g ∈ ms.graphs → (∀ v ∈ ov, v ∈ modelValues w ms) → ∀ vs ∈ chainsF w f ov g, ∀ v ∈ vs, v ∈ modelValues w ms := by
  intro f
  induction f with
  | zero => intro ov g _ _ vs hvs; simp [chainsF] at hvs
  | succ f ih =>
    intro ov g hg hov vs hvs
    have hown : ∀ v ∈ ov ++ ownVals w g, v ∈ modelValues w ms := by
      intro v hv
      rw [List.mem_append] at hv
      rcases hv with hv | hv
      · exact hov v hv
      · unfold ownVals at hv
        simp only [List.mem_append, List.mem_flatten, List.mem_map] at hv
        rcases hv with (hv | hv) | ⟨l, ⟨n, hn, rfl⟩, hv⟩
        · exact mem_modelValues_of_input hg hv
        · exact mem_modelValues_of_init hg hv
        · apply mem_modelValues_of_io (hcl.2.1 g hg n hn)
          simp only [List.mem_append, List.mem_filterMap, id] at hv
          rcases hv with ⟨o, ho, rfl⟩ | hv
          · exact Or.inl ho
          · exact Or.inr hv
    simp only [chainsF, List.mem_cons, List.mem_flatten, List.mem_map] at hvs
    rcases hvs with rfl | ⟨l, ⟨n, hn, rfl⟩, hvs⟩
    · exact hown
    · simp only [List.mem_flatten, List.mem_map] at hvs
      obtain ⟨l2, ⟨sg, hsg, rfl⟩, hvs2⟩ := hvs
      exact ih _ sg (hcl.2.2.1 n (hcl.2.1 g hg n hn) sg hsg) hown vs hvs2

theorem NamesChain_of_unique {w : World} {ms : ModelS} (hcl : Closed w ms) (hU : NamesUnique w ms) :
    NamesChain w ms := by
  intro r hr vs hvs a ha b hb
  have hsub := chainsF_sub hcl _ [] r (hcl.1 r hr) (by simp) vs hvs
  exact hU a (hsub a ha) b (hb |> hsub b)

theorem roundTrip_legacy {w : World} (h : DevOK w) (m : MId) (hir : (w.model m).irVersion < 11)
    (hcl : Closed w (w.model m)) (hU : NamesUnique w (w.model m)) :
    DevOK (roundTrip w m).1 ∧
    ((roundTrip w m).2 = .ok →
      (roundTrip w m).1.models.length = w.models.length + 1 ∧
      ((roundTrip w m).1.model w.models.length).cfgs = [] ∧
      ∀ n ∈ ((roundTrip w m).1.model w.models.length).nodes, ((roundTrip w m).1.node n).dev = []) :=
  roundTrip_legacy_core h m hir (NamesChain_of_unique hcl hU)

end IrVerif.Device
