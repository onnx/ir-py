/-
C15 part B+: the postcondition of NameFixPass for an *arbitrary* name generator (`fixModelX gen`).
This file: the invariant `TInvG` that replaces the shape
invariant of the default generator, and one `_process_value` step.  With a custom generator the shape of a
generated name is arbitrary, so "the setter's guard never fires" is not a property of the counters: it
follows from the scoping rule — every already-seen initializer of the graph of the value being renamed is
visible in the current scope (its name is in the used set), every unseen one still has its reserved name.
-/
import IrVerif.Lemmas.NamesGen
import IrVerif.Lemmas.NamesTotal
namespace IrVerif.Names

/-- the one hypothesis on a generator: it never answers the empty string (`C15_gen_nonempty_necessary`) -/
def NameGen.NonEmpty (gen : NameGen) : Prop := ∀ i nm, gen.v i nm ≠ "" ∧ gen.n i nm ≠ ""

/-! ### the invariant for an arbitrary generator -/

/-- `TInv` without the shape of generated names: a changed name is merely *not reserved*; plus "no tensor
refuses a name" -/
structure TInvG (c : Cfg) (st : FixStX) : Prop where
  nr : st.raised = false
  ok : InitsOk st.toWorld
  io : st.initOf = c.io
  res : st.resV = c.resV
  j1 : ∀ u, st.vname u = c.orig u ∨ ∃ s, st.vname u = some s ∧ s ∉ c.resV
  unseen : ∀ u, u ∉ st.seen → st.vname u = c.orig u
  outside : ∀ u, ¬ c.C u → st.vname u = c.orig u
  /-- no tensor that backs a value refuses a new name -/
  nofz : ∀ v t, st.constOf v = some t → st.frozen t = false

/-- `ScopeOK` / `Good` read on the plain part of a state with tensors -/
abbrev ScopeOKX (c : Cfg) (st : FixStX) (L : List Nat) : Prop := ScopeOK c st.toFixSt L

abbrev GoodX (c : Cfg) (st : FixStX) (V : List Nat) : Prop := Good c st.toFixSt V

/-- everything `_process_value` does to a state that satisfies the invariant -/
structure PVG (c : Cfg) (st : FixStX) (v : Nat) (st' : FixStX) : Prop where
  inv : TInvG c st'
  seen_iff : ∀ u, u ∈ st'.seen ↔ (u ∈ st.seen ∨ u = v)
  others : ∀ u, u ≠ v → st'.vname u = st.vname u
  noop : v ∈ st.seen → st' = st
  fresh : v ∉ st.seen → ∃ n, st'.vname v = some n ∧ n ≠ "" ∧ n ∉ topOf st.vstack ∧
            st'.vstack = (n :: topOf st.vstack) :: st.vstack.tail ∧
            (st.vname v = some n ∨ n ∉ c.resV) ∧
            (∀ s, st.vname v = some s → s ≠ "" → s ∉ topOf st.vstack → n = s)
  nodes : st'.nname = st.nname ∧ st'.nstack = st.nstack ∧ st'.ncnt = st.ncnt ∧ st'.resN = st.resN

/-- the visibility fact the renaming step needs: every seen initializer of the graph of `v` is visible -/
def VisAt (c : Cfg) (st : FixStX) (V : List Nat) (v : Nat) : Prop :=
  v ∉ st.seen → ∀ g u, c.io v = some g → c.io u = some g → u ∈ st.seen → u ∈ V

/-- the renaming branch of `_process_value` for an arbitrary non-empty base name `p` -/
theorem renameToX_PVG {c : Cfg} (hc : c.OK) {st : FixStX} (inv : TInvG c st) {V : List Nat} (good : GoodX c st V)
    {v : Nat} (hC : c.C v) (hv : v ∉ st.seen) (hvis : VisAt c st V v) (p : String) (hpne : p ≠ "")
    (hp : ¬ truthy (st.vname v) = true ∨ (∃ s, st.vname v = some s ∧ s ≠ "" ∧ s ∈ topOf st.vstack)) :
    PVG c st v (renameToX st v p) := by
  obtain ⟨hf1, hf2, hf3⟩ := findUnique_spec p (topOf st.vstack) st.resV (st.vcnt p)
  generalize hr : findUnique p (topOf st.vstack) st.resV (st.vcnt p) = r at hf1 hf2 hf3
  have hne : r.1 ≠ "" := by
    rcases hf3 with ⟨e, _⟩ | ⟨k, _, e, _⟩
    · simpa [e] using hpne
    · simp [e, sufName_ne_empty]
  have hcur : st.vname v ≠ some r.1 := by
    intro e
    rcases hp with h | ⟨s, hs, _, hin⟩
    · exact h (truthy_iff.mpr ⟨r.1, e, hne⟩)
    · rw [hs] at e; cases e; exact hf1 hin
  -- the guards of the setter do not fire
  have hguard : st.toWorld.nameGuard v r.1 = false := by
    unfold World.nameGuard
    cases hio : st.initOf v with
    | none => rfl
    | some g =>
      have hlook : (st.dicts g).lookup r.1 = none := by
        rw [ListFacts.lookup_none_iff]
        intro u hu
        have hk := inv.ok.key_name g r.1 u hu
        by_cases hus : u ∈ st.seen
        · have huV : u ∈ V := hvis hv g u (inv.io ▸ hio) (inv.io ▸ hk.2.2) hus
          exact hf1 ((good.top_iff r.1).mpr ⟨u, huV, hk.1⟩)
        · have hCu : c.C u := hc.closed v g u hC (inv.io ▸ hio) (inv.io ▸ hk.2.2)
          have : r.1 ∈ c.resV := hc.res u r.1 hCu ((inv.unseen u hus) ▸ hk.1) hk.2.1
          exact hf2 (inv.res ▸ this)
      simp only [hlook, Bool.or_false, beq_eq_false_iff_ne]
      exact hne
  obtain ⟨g2, g1, g3, g4⟩ := setNameT_unfrozen st.tw v r.1 (inv.nofz v)
  obtain ⟨hs1, hs2, hs3, hs4, hs5⟩ := setName_guard_ok (w := st.tw.toWorld) inv.ok v r.1 hguard
  have hraise : (st.tw.setNameT v r.1).2 = false := g1.trans hs1
  have hstep : renameToX st v p =
      { st with toWorld := (st.tw.setNameT v r.1).1.toWorld, constOf := (st.tw.setNameT v r.1).1.constOf,
                tname := (st.tw.setNameT v r.1).1.tname, frozen := (st.tw.setNameT v r.1).1.frozen,
                vcnt := updS st.vcnt p r.2, vstack := pushTop st.vstack r.1, glog := (false, v) :: st.glog,
                modified := true, seen := v :: st.seen } := by
    simp only [renameToX, hr, hraise]
    rfl
  have hvn : (renameToX st v p).vname = upd st.vname v (some r.1) := by
    rw [hstep]
    show (st.tw.setNameT v r.1).1.toWorld.vname = _
    rw [g2, hs3]; rfl
  have hw : (renameToX st v p).toWorld = (st.tw.toWorld.setName v r.1).1 := by
    rw [hstep]; exact g2
  have hseen : (renameToX st v p).seen = v :: st.seen := by rw [hstep]
  refine ⟨⟨?_, ?_, ?_, ?_, ?_, ?_, ?_, ?_⟩, ?_, ?_, fun h => absurd h hv, ?_, ?_⟩
  · rw [hstep]; exact inv.nr
  · rw [hw]; exact hs2
  · show (renameToX st v p).toWorld.initOf = c.io
    rw [hw, hs5]; exact inv.io
  · rw [hstep]; exact inv.res
  · intro u
    rw [hvn]
    by_cases huv : u = v
    · subst huv; simp only [upd_eq]; exact Or.inr ⟨r.1, rfl, inv.res ▸ hf2⟩
    · rw [upd_ne _ _ huv]; exact inv.j1 u
  · intro u hu
    rw [hseen] at hu
    have huv : u ≠ v := fun e => hu (e ▸ List.mem_cons_self)
    rw [hvn, upd_ne _ _ huv]
    exact inv.unseen u (fun h => hu (List.mem_cons_of_mem _ h))
  · intro u hu
    have huv : u ≠ v := fun e => hu (e ▸ hC)
    rw [hvn, upd_ne _ _ huv]
    exact inv.outside u hu
  · intro v' t
    rw [hstep]
    show (st.tw.setNameT v r.1).1.constOf v' = some t → (st.tw.setNameT v r.1).1.frozen t = false
    rw [g3, g4]; exact inv.nofz v' t
  · intro u; rw [hseen]; simp only [List.mem_cons]
    exact ⟨fun h => h.elim Or.inr Or.inl, fun h => h.elim Or.inr Or.inl⟩
  · intro u huv; rw [hvn, upd_ne _ _ huv]
  · intro _
    refine ⟨r.1, by rw [hvn]; simp, hne, hf1, by rw [hstep]; exact pushTop_eq _ _, Or.inr (inv.res ▸ hf2), ?_⟩
    intro s hs hsne hstop
    rcases hp with h | ⟨s', hs', _, hin⟩
    · exact absurd (truthy_iff.mpr ⟨s, hs, hsne⟩) h
    · rw [hs'] at hs; cases hs; exact absurd hin hstop
  · rw [hstep]
    refine ⟨?_, rfl, rfl, rfl⟩
    show (st.tw.setNameT v r.1).1.toWorld.nname = st.nname
    rw [g2, hs4]; rfl

theorem processValueX_PVG {gen : NameGen} (hgen : gen.NonEmpty) {c : Cfg} (hc : c.OK) {st : FixStX} (inv : TInvG c st)
    {V : List Nat} (good : GoodX c st V) {v : Nat} (hC : c.C v) (hvis : VisAt c st V v) :
    PVG c st v (processValueX gen st v) := by
  unfold processValueX
  simp only [inv.nr, Bool.false_eq_true, if_false]
  by_cases hv : v ∈ st.seen
  · have : st.seen.contains v = true := by simpa using hv
    simp only [this, if_true]
    exact ⟨inv, fun u => ⟨Or.inl, fun h => h.elim id (fun e => e ▸ hv)⟩, fun _ _ => rfl, fun _ => rfl,
      fun h => absurd hv h, ⟨rfl, rfl, rfl, rfl⟩⟩
  · have : st.seen.contains v = false := by simpa using hv
    simp only [this, Bool.false_eq_true, if_false]
    by_cases ht : truthy (st.vname v) = true
    · obtain ⟨s, hs, hsne⟩ := truthy_iff.mp ht
      simp only [ht, Bool.not_true, Bool.false_eq_true, if_false]
      have hgd : (st.vname v).getD "" = s := by rw [hs]; rfl
      rw [hgd]
      by_cases htop : s ∈ topOf st.vstack
      · have : (topOf st.vstack).contains s = true := by simpa using htop
        simp only [this, Bool.not_true, Bool.false_eq_true, if_false]
        exact renameToX_PVG hc inv good hC hv hvis _ (hgen v (st.vname v)).1 (Or.inr ⟨s, hs, hsne, htop⟩)
      · have : (topOf st.vstack).contains s = false := by simpa using htop
        simp only [this, Bool.not_false, if_true]
        refine ⟨⟨rfl, inv.ok, inv.io, inv.res, inv.j1, ?_, inv.outside, inv.nofz⟩, ?_, fun _ _ => rfl,
          fun h => absurd h hv, ?_, ⟨rfl, rfl, rfl, rfl⟩⟩
        · intro u hu
          exact inv.unseen u (fun h => hu (List.mem_cons_of_mem _ h))
        · intro u; simp only [List.mem_cons]
          exact ⟨fun h => h.elim Or.inr Or.inl, fun h => h.elim Or.inr Or.inl⟩
        · intro _
          exact ⟨s, hs, hsne, htop, pushTop_eq _ _, Or.inl hs,
            fun s' hs' _ _ => by rw [hs] at hs'; exact Option.some.inj hs'⟩
    · have ht' : truthy (st.vname v) = false := by simpa using ht
      simp only [ht', Bool.not_false, if_true]
      exact renameToX_PVG hc inv good hC hv hvis _ (hgen v (st.vname v)).1 (Or.inl ht)

end IrVerif.Names
