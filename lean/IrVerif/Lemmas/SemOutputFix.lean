/-
Lemmas/SemOutputFix.lean — OutputFixPass on a graph (`ofixG`) preserves the denotation:
Identity nodes with fresh outputs appended at the end of a graph alias its outputs.
-/
import IrVerif.Lemmas.SemSubst
namespace IrVerif.Passes
open IrVerif.Sem
variable {Val : Type}

theorem le_foldl_max : ∀ (l : List Nat) (a v : Nat), (v ∈ l ∨ v ≤ a) → v ≤ l.foldl max a
  | [], a, v, h => by simpa using h
  | x :: l, a, v, h => by
    simp only [List.foldl_cons]
    apply le_foldl_max l
    rcases h with h | h
    · rcases List.mem_cons.1 h with h | h
      · right; rw [h]; exact Nat.le_max_right _ _
      · exact Or.inl h
    · right; exact Nat.le_trans h (Nat.le_max_left _ _)

/-- a walk of OutputFixPass over an output list with fresh id `next`: an output is kept or replaced by the output `next`
    of a new Identity node that reads it (`_alias_multi_used_outputs`, `_alias_direct_outputs`) -/
inductive Aliased : List VId → Nat → List VId × List Node × Nat → Prop
  | nil (next : Nat) : Aliased [] next ([], [], next)
  | fresh {o : VId} {rest : List VId} {next : Nat} {r : List VId × List Node × Nat} : Aliased rest (next + 1) r →
      Aliased (o :: rest) next (next :: r.1, identityNode o next :: r.2.1, r.2.2)
  | keep {o : VId} {rest : List VId} {next : Nat} {r : List VId × List Node × Nat} : Aliased rest next r →
      Aliased (o :: rest) next (o :: r.1, r.2.1, r.2.2)

theorem ofixMulti_aliased : ∀ (outs seen : List VId) (next : Nat), Aliased outs next (ofixMulti seen outs next)
  | [], _, next => by rw [ofixMulti]; exact .nil next
  | o :: rest, seen, next => by
    rw [ofixMulti]
    split
    · exact .fresh (ofixMulti_aliased rest seen (next + 1))
    · exact .keep (ofixMulti_aliased rest (o :: seen) next)

theorem ofixDirect_aliased (gi : List VId) : ∀ (outs : List VId) (next : Nat), Aliased outs next (ofixDirect gi outs next)
  | [], next => by rw [ofixDirect]; exact .nil next
  | o :: rest, next => by
    rw [ofixDirect]
    split
    · exact .fresh (ofixDirect_aliased gi rest (next + 1))
    · exact .keep (ofixDirect_aliased gi rest next)

theorem Aliased.mono {outs : List VId} {next : Nat} {r : List VId × List Node × Nat} (h : Aliased outs next r) :
    next ≤ r.2.2 := by
  induction h with
  | nil => exact Nat.le_refl _
  | fresh _ ih => exact Nat.le_of_succ_le ih
  | keep _ ih => exact ih

theorem Aliased.lt {outs : List VId} {next : Nat} {r : List VId × List Node × Nat} (h : Aliased outs next r)
    (hlt : ∀ o ∈ outs, o < next) : ∀ o ∈ r.1, o < r.2.2 := by
  induction h with
  | nil => exact fun _ ho => absurd ho List.not_mem_nil
  | fresh h' ih =>
    intro o ho
    rcases List.mem_cons.1 ho with ho | ho
    · rw [ho]; exact Nat.lt_of_succ_le h'.mono
    · exact ih (fun o' ho' => Nat.lt_succ_of_lt (hlt o' (List.mem_cons_of_mem _ ho'))) o ho
  | keep h' ih =>
    intro o ho
    rcases List.mem_cons.1 ho with ho | ho
    · rw [ho]; exact Nat.lt_of_lt_of_le (hlt _ List.mem_cons_self) h'.mono
    · exact ih (fun o' ho' => hlt o' (List.mem_cons_of_mem _ ho')) o ho

theorem Aliased.spec (I : Interp Val) {outs : List VId} {next : Nat} {r : List VId × List Node × Nat}
    (h : Aliased outs next r) : ∀ E : Env Val, (∀ o ∈ outs, o < next) →
    r.1.map (evalNodes I r.2.1 E) = outs.map E ∧ (∀ v, v < next → evalNodes I r.2.1 E v = E v) := by
  induction h with
  | nil => exact fun E _ => ⟨rfl, fun _ _ => rfl⟩
  | @fresh o rest next r _ ih =>
    intro E hlt
    have hrest : ∀ o' ∈ rest, o' < next := fun o' ho' => hlt o' (List.mem_cons_of_mem _ ho')
    obtain ⟨h1, h2⟩ := ih (E.bind [next] [E o]) (fun o' ho' => Nat.lt_succ_of_lt (hrest o' ho'))
    have hne : ∀ v, v < next → (E.bind [next] [E o]) v = E v := fun v hv =>
      Env.bind_of_not_mem _ _ (fun h => Nat.lt_irrefl _ (List.mem_singleton.1 h ▸ hv))
    simp only [evalNodes, evalN_identityNode, List.map_cons]
    refine ⟨?_, fun v hv => by rw [h2 v (Nat.lt_succ_of_lt hv), hne v hv]⟩
    rw [h1, h2 next (Nat.lt_succ_self _)]
    congr 1
    · simp [Env.bind]
    · exact List.map_congr_left (fun o' ho' => hne o' (hrest o' ho'))
  | @keep o rest next r _ ih =>
    intro E hlt
    obtain ⟨h1, h2⟩ := ih E (fun o' ho' => hlt o' (List.mem_cons_of_mem _ ho'))
    exact ⟨by rw [List.map_cons, List.map_cons, h1, h2 o (hlt o List.mem_cons_self)], h2⟩

theorem ofixMulti_mono (outs seen : List VId) (next : Nat) : next ≤ (ofixMulti seen outs next).2.2 :=
  (ofixMulti_aliased outs seen next).mono

theorem ofixMulti_lt (outs seen : List VId) (next : Nat) (h : ∀ o ∈ outs, o < next) :
    ∀ o ∈ (ofixMulti seen outs next).1, o < (ofixMulti seen outs next).2.2 :=
  (ofixMulti_aliased outs seen next).lt h

theorem ofixDirect_lt (gi : List VId) : ∀ (outs : List VId) (next : Nat), (∀ o ∈ outs, o < next) →
    ∀ o ∈ (ofixDirect gi outs next).1, o < (ofixDirect gi outs next).2.2 :=
  fun outs next => (ofixDirect_aliased gi outs next).lt

theorem evalG_inits_equiv (I : Interp Val) (inputs outputs : List VId) (inits inits' : List (VId × Tensor))
    (nodes : List Node) (hnd : (inits.map Prod.fst).Nodup) (hnd' : (inits'.map Prod.fst).Nodup)
    (hmem : ∀ p, p ∈ inits' ↔ p ∈ inits) (ρ : Env Val) :
    evalG I (.mk inputs outputs inits' nodes) ρ = evalG I (.mk inputs outputs inits nodes) ρ := by
  funext xs
  rw [evalG_mk, evalG_mk]
  congr 2
  funext v
  refine entryEnv_congr I ρ xs hnd' hnd (fun u _ => ?_) (fun t => hmem _)
  simp only [List.mem_map]
  exact ⟨fun ⟨p, hp, e⟩ => ⟨p, (hmem p).1 hp, e⟩, fun ⟨p, hp, e⟩ => ⟨p, (hmem p).2 hp, e⟩⟩

theorem moveToEnd_mem (o : VId) (l : List (VId × Tensor)) (p : VId × Tensor) :
    p ∈ moveToEnd o l ↔ p ∈ l := by
  simp only [moveToEnd, List.mem_append, List.mem_filter]
  constructor
  · rintro (h | h) <;> exact h.1
  · intro h
    by_cases hp : (p.1 != o) = true
    · exact Or.inl ⟨h, hp⟩
    · exact Or.inr ⟨h, by simpa using hp⟩

theorem moveToEnd_nodup (o : VId) (l : List (VId × Tensor)) (h : (l.map Prod.fst).Nodup) :
    ((moveToEnd o l).map Prod.fst).Nodup := by
  have hp : List.Perm (moveToEnd o l) l := by
    simp only [moveToEnd]
    exact List.filter_append_perm _ l
  exact (hp.map Prod.fst).nodup_iff.2 h

theorem foldl_moveToEnd (F : List VId) : ∀ (l : List (VId × Tensor)), (l.map Prod.fst).Nodup →
    ((F.foldl (fun acc o => moveToEnd o acc) l).map Prod.fst).Nodup ∧
    ∀ p, p ∈ F.foldl (fun acc o => moveToEnd o acc) l ↔ p ∈ l := by
  induction F with
  | nil => intro l h; exact ⟨h, fun _ => Iff.rfl⟩
  | cons o F ih =>
    intro l h
    obtain ⟨h1, h2⟩ := ih (moveToEnd o l) (moveToEnd_nodup o l h)
    exact ⟨h1, fun p => (h2 p).trans (moveToEnd_mem o l p)⟩

mutual
theorem ofixG_mono (gi : List VId) : ∀ (g : Graph) (next : Nat), next ≤ (ofixG gi next g).2
  | .mk inputs outputs inits nodes, next => by
    simp only [ofixG]
    exact Nat.le_trans (ofixNodes_mono gi nodes next)
      (Nat.le_trans (ofixMulti_mono outputs [] _) (ofixDirect_aliased gi _ _).mono)
theorem ofixNodes_mono (gi : List VId) : ∀ (ns : List Node) (next : Nat), next ≤ (ofixNodes gi next ns).2
  | [], next => by simp [ofixNodes]
  | .mk op attrs ins outs bodies :: ns, next => by
    simp only [ofixNodes]
    exact Nat.le_trans (ofixBodies_mono gi bodies next) (ofixNodes_mono gi ns _)
theorem ofixBodies_mono (gi : List VId) : ∀ (bs : List Graph) (next : Nat), next ≤ (ofixBodies gi next bs).2
  | [], next => by simp [ofixBodies]
  | b :: bs, next => by
    simp only [ofixBodies]
    exact Nat.le_trans (ofixG_mono gi b next) (ofixBodies_mono gi bs _)
end

theorem ofix_sound (I : Interp Val) (gi : List VId) :
    let G := fun next g (r : Graph × Nat) => ssaG g = true → (∀ v ∈ boutsG g, v < next) →
      ∀ ρ : Env Val, evalG I r.1 ρ = evalG I g ρ
    let Ns := fun next ns (r : List Node × Nat) => ssaNodes ns = true → (∀ v ∈ boutsNodes ns, v < next) →
      ∀ ρ : Env Val, evalNodes I r.1 ρ = evalNodes I ns ρ
    let Bs := fun next bs (r : List Graph × Nat) => ssaBodies bs = true → (∀ v ∈ boutsBodies bs, v < next) →
      ∀ ρ : Env Val, evalBodies I r.1 ρ = evalBodies I bs ρ
    (∀ next g, G next g (ofixG gi next g)) ∧ (∀ next ns, Ns next ns (ofixNodes gi next ns)) ∧
      ∀ next bs, Bs next bs (ofixBodies gi next bs) := by
  intro G Ns Bs
  refine ofixG.mutual_induct_unfolding gi G Ns Bs ?_ ?_ ?_ ?_ ?_
  · -- `rn`: the nodes processed, `r1` / `r2`: the outputs after the multi-use / the direct-output Identity nodes
    intro next inputs outputs inits nodes rn r1 r2 ih hs hb ρ
    simp only [ssaG, Bool.and_eq_true, nodupB_iff] at hs
    obtain ⟨hnd1, hmem1⟩ := foldl_moveToEnd (fixedInputs r2.2.1) inits hs.1.1.2
    simp only
    rw [evalG_inits_equiv I _ _ inits _ _ hs.1.1.2 hnd1 hmem1]
    funext xs
    have ho1 : ∀ o ∈ outputs, o < rn.2 := fun o ho =>
      Nat.lt_of_lt_of_le (hb o (by simp [boutsG, ho])) (ofixNodes_mono gi nodes next)
    rw [evalG_mk, evalG_mk]
    simp only [evalNodes_append]
    rw [ih hs.2 (fun v hv => hb v (by simp [boutsG, hv]))]
    obtain ⟨h1, _⟩ := Aliased.spec I (r := r1) (ofixMulti_aliased outputs [] rn.2)
      (evalNodes I nodes (entryEnv I ρ inputs inits xs)) ho1
    obtain ⟨h3, _⟩ := Aliased.spec I (r := r2) (ofixDirect_aliased gi r1.1 r1.2.2)
      (evalNodes I r1.2.1 (evalNodes I nodes (entryEnv I ρ inputs inits xs))) (ofixMulti_lt outputs [] _ ho1)
    rw [h3, h1]
  · intro _ _ _ _
    rfl
  · intro next op attrs ins outs bodies ns rb rn ihb ih hs hb ρ
    rw [ssaNodes_cons_iff] at hs
    simp only [evalNodes, evalN]
    rw [ihb hs.1.1.2 (fun v hv => hb v (by simp [boutsNodes, boutsN, hv])) ρ]
    exact ih hs.2 (fun v hv => Nat.lt_of_lt_of_le (hb v (by simp [boutsNodes, hv])) (ofixBodies_mono gi bodies next)) _
  · intro _ _ _ _
    rfl
  · intro next b bs r rs ihg ihb hs hb ρ
    rw [ssaBodies_cons_iff] at hs
    simp only [evalBodies]
    rw [ihg hs.1.1 (fun v hv => hb v (by simp [boutsBodies, hv])) ρ,
      ihb hs.2 (fun v hv => Nat.lt_of_lt_of_le (hb v (by simp [boutsBodies, hv])) (ofixG_mono gi b next)) ρ]

theorem ofixG_sound (I : Interp Val) (gi : List VId) : ∀ (g : Graph) (next : Nat), ssaG g = true →
    (∀ v ∈ boutsG g, v < next) → ∀ ρ : Env Val, evalG I (ofixG gi next g).1 ρ = evalG I g ρ :=
  fun g next => (ofix_sound I gi).1 next g

theorem ofixNodes_sound (I : Interp Val) (gi : List VId) : ∀ (ns : List Node) (next : Nat), ssaNodes ns = true →
    (∀ v ∈ boutsNodes ns, v < next) → ∀ ρ : Env Val, evalNodes I (ofixNodes gi next ns).1 ρ = evalNodes I ns ρ :=
  fun ns next => (ofix_sound I gi).2.1 next ns

theorem ofixBodies_sound (I : Interp Val) (gi : List VId) : ∀ (bs : List Graph) (next : Nat), ssaBodies bs = true →
    (∀ v ∈ boutsBodies bs, v < next) → ∀ ρ : Env Val, evalBodies I (ofixBodies gi next bs).1 ρ = evalBodies I bs ρ :=
  fun bs next => (ofix_sound I gi).2.2 next bs

theorem Aliased.length {outs : List VId} {next : Nat} {r : List VId × List Node × Nat} (h : Aliased outs next r) :
    r.1.length = outs.length := by
  induction h with
  | nil => rfl
  | fresh _ ih => simp only [List.length_cons, ih]
  | keep _ ih => simp only [List.length_cons, ih]

theorem ofixBodies_length (gi : List VId) : ∀ (bs : List Graph) (next : Nat),
    (ofixBodies gi next bs).1.length = bs.length
  | [], _ => by simp [ofixBodies]
  | b :: bs, next => by simp [ofixBodies, ofixBodies_length gi bs]

theorem ofixBodies_getElem? (gi : List VId) : ∀ (bs : List Graph) (next : Nat) (k : Nat),
    match bs[k]? with
    | some b => ∃ n', next ≤ n' ∧ (ofixBodies gi next bs).1[k]? = some (ofixG gi n' b).1
    | none => (ofixBodies gi next bs).1[k]? = none
  | [], _, k => by simp [ofixBodies]
  | b :: bs, next, 0 => by
    simp only [List.getElem?_cons_zero, ofixBodies]
    exact ⟨next, Nat.le_refl _, rfl⟩
  | b :: bs, next, k + 1 => by
    have ih := ofixBodies_getElem? gi bs (ofixG gi next b).2 k
    simp only [List.getElem?_cons_succ, ofixBodies]
    cases hk : bs[k]? with
    | none => simpa [hk] using ih
    | some b' =>
      simp only [hk] at ih ⊢
      obtain ⟨n', h1, h2⟩ := ih
      exact ⟨n', Nat.le_trans (ofixG_mono gi b next) h1, h2⟩

theorem lt_freshId_of_mem (m : Model) {v : VId}
    (h : v ∈ refsG m.graph ++ defsG m.graph ++ refsBodies m.funcs ++ defsBodies m.funcs) : v < freshId m := by
  have := le_foldl_max _ 0 v (Or.inl h)
  simp only [freshId]
  exact Nat.lt_of_le_of_lt this (by rw [Nat.add_comm]; exact Nat.lt_succ_self _)

end IrVerif.Passes
