/-
Top-level vocabulary shared by Props/C11 and the recursive-iterator development: `WF`, the
executable abstraction `abs`, and the facts about one operation or one `next()` that the later
files use instead of `Inv` (`WF.iterNext_cases` above all).
-/
import IrVerif.Lemmas.LinkedSetSim
namespace IrVerif.LinkedSet

/-- The representation invariant: there is a list `bs` of live boxes such that `Inv s bs` — the
live boxes form one prev/next cycle through the root, the dict maps exactly the stored values to
their boxes, `_length` is their number, every box is owned by this list, and every erased box's
stored pointers lead to the root, a live box or a box erased strictly later. -/
def WF (s : LSet) : Prop := ∃ bs, Inv s bs

theorem WF.root_valid {s : LSet} (h : WF s) : 0 < size s := by
  obtain ⟨bs, hi⟩ := h
  exact hi.size_pos

theorem WF.apply {s : LSet} (h : WF s) (op : Op) : WF (apply s op).1 := by
  obtain ⟨bs, hi⟩ := h
  exact (sim_apply hi op .fwd .notStarted hi.size_pos).inv

/-- abstraction to the list-with-gaps machine, using only executable functions of the model -/
def abs (s : LSet) (d : Dir) (c : Cursor) : Spec.St := ⟨toList s, d, absCur s d c⟩

theorem abs_eq {s : LSet} {bs : List Nat} (h : Inv s bs) (d : Dir) (c : Cursor) :
    abs s d c = absSt s bs d c := by
  simp only [abs, absSt, h.toList_eq, h.absCur_eq]

theorem acur_inRange {s : LSet} {bs : List Nat} (h : Inv s bs) (d : Dir) (c : Cursor)
    (hc : c.Valid s) : (acur s bs d c).InRange (bs.map (vl s)) := by
  by_cases hd : c = .done
  · subst hd; rw [acur_done]; trivial
  · obtain ⟨hn, hi⟩ := h.acur_index d hd hc
    have hF : ∀ t, posF bs t ≤ bs.length := fun t => List.idxOf_le_length
    have hR : ∀ t, IsNode bs t → posR bs t ≤ bs.length := by
      intro t ht
      unfold posR
      rcases ht with rfl | ht
      · simp
      · have h0 : t ≠ 0 := by rintro rfl; exact h.zero_notin ht
        have := List.idxOf_lt_length_of_mem ht
        simp only [h0, if_false]; omega
    have hG : posGap d bs (tg s d (hop s d c.pos)) ≤ bs.length := by
      cases d
      · exact hF _
      · exact hR _ hn
    rcases hi with hi | hi <;> rw [hi] <;> simp only [Spec.ACur.InRange, List.length_map] <;> exact hG

/-- a `next()` yields the first element of what the generator had left and leaves the rest -/
theorem Inv.next_rest {s : LSet} {bs : List Nat} (h : Inv s bs) (d : Dir) (c : Cursor)
    (hp : c.Valid s) :
    rest s d c = match (iterNext s d c).2 with
      | .yield v => v :: rest s d (iterNext s d c).1
      | _ => [] := by
  have hn := h.next_eq d c hp
  simp only at hn
  obtain ⟨n1, n2, n3⟩ := hn
  have hr := Spec.rest_next (bs.map (vl s)) d (acur s bs d c) (acur_inRange h d c hp)
  rw [(h.rest_eq d c hp).1, hr]
  cases hv : (Spec.next (bs.map (vl s)) d (acur s bs d c)).2 with
  | none => rw [hv] at n3; simp only at n3; simp only [n3]
  | some v =>
    rw [hv] at n3
    simp only at n3
    simp only [n3]
    rw [(h.rest_eq d _ n2).1, n1]

theorem apply_raised_unchanged {s : LSet} (h : WF s) (op : Op) (hf : (apply s op).2 = false) :
    (apply s op).1 = s := by
  obtain ⟨bs, hi⟩ := h
  exact (sim_apply hi op .fwd .notStarted hi.size_pos).unchanged hf

/-- a generator parked on a live box still yields exactly the values after (before) that box -/
theorem Inv.rest_at_live {s : LSet} {l1 l2 : List Nat} {b : Nat} (h : Inv s (l1 ++ b :: l2)) :
    rest s .fwd (.at b) = l2.map (vl s) ∧ rest s .rev (.at b) = l1.reverse.map (vl s) := by
  have hb : b ∈ l1 ++ b :: l2 := by simp
  have hb0 : b ≠ 0 := Nat.ne_of_gt (h.live b hb).1
  have hn1 : b ∉ l1 := nodup_insMid_left h.nodup
  have hv : (Cursor.at b).Valid s := (h.live b hb).2.1
  have hn : IsNode (l1 ++ b :: l2) (Cursor.at b).pos := Or.inr hb
  constructor
  · rw [(h.rest_eq .fwd _ hv).1, acur_def _ _ _ (by simp), if_pos hn]
    simp only [Spec.rest, posAtt, posR, Cursor.pos, hb0, if_false, idxOf_mid hn1]
    rw [show l1 ++ b :: l2 = (l1 ++ [b]) ++ l2 by simp, List.map_append, List.drop_left' (by simp)]
  · rw [(h.rest_eq .rev _ hv).1, acur_def _ _ _ (by simp), if_pos hn]
    simp [Spec.rest, posAtt, posF, Cursor.pos, idxOf_mid hn1]

/-- the value of the box a generator is parked on is not among what it still yields -/
theorem Inv.current_not_in_rest {s : LSet} {bs : List Nat} (h : Inv s bs) (d : Dir) {b x : Nat}
    (hb : val s b = some x) : x ∉ rest s d (.at b) := by
  have hbm : b ∈ bs := (h.isSome_iff b).1 (by simp [hb])
  obtain ⟨l1, l2, rfl⟩ := List.append_of_mem hbm
  have hx : vl s b = x := by simp [vl, hb]
  have hnd := h.vals_nodup
  rw [List.map_append, List.map_cons, hx] at hnd
  obtain ⟨r1, r2⟩ := h.rest_at_live
  cases d with
  | fwd => rw [r1]; exact nodup_insMid_right hnd
  | rev => rw [r2, List.map_reverse]; exact fun hm => nodup_insMid_left hnd (List.mem_reverse.1 hm)

theorem rest_notStarted_eq {s : LSet} (h : WF s) (d : Dir) :
    rest s d .notStarted = match d with
      | .fwd => toList s
      | .rev => (toList s).reverse := by
  obtain ⟨bs, hi⟩ := h
  cases d
  · rfl
  · show toListRev s = _
    rw [hi.toListRev_eq, hi.toList_eq]

theorem toList_nodup {s : LSet} (h : WF s) : (toList s).Nodup := by
  obtain ⟨bs, hi⟩ := h
  rw [hi.toList_eq]; exact hi.vals_nodup

theorem rest_subset_toList {s : LSet} (h : WF s) (d : Dir) (c : Cursor) (hc : c.Valid s) :
    ∀ v ∈ rest s d c, v ∈ toList s := by
  obtain ⟨bs, hi⟩ := h
  rw [(hi.rest_eq d c hc).1, hi.toList_eq]
  generalize acur s bs d c = a
  intro v hv
  cases d <;> cases a <;> simp only [Spec.rest] at hv
  · exact List.mem_of_mem_drop hv
  · exact List.mem_of_mem_drop hv
  · cases hv
  · exact List.mem_of_mem_take (List.mem_reverse.1 hv)
  · exact List.mem_of_mem_take (List.mem_reverse.1 hv)
  · cases hv

/-! ### `untouched` on lists -/

theorem untouched_flatMap {α : Type} (X : List Nat) (f : α → List Nat) : ∀ (l : List α),
    untouched X (l.flatMap f) = l.flatMap (fun x => untouched X (f x))
  | [] => rfl
  | a :: l => by
      simp only [List.flatMap_cons]
      rw [← untouched_flatMap X f l]
      simp [untouched]

theorem untouched_app (X l1 l2 : List Nat) : untouched X (l1 ++ l2) = untouched X l1 ++ untouched X l2 := by
  simp [untouched]

theorem untouched_append (T l1 l2 : List Nat) :
    untouched T (l1 ++ l2) = untouched T l1 ++ untouched T l2 :=
  untouched_app T l1 l2

theorem untouched_nil_of_subset (X l : List Nat) (h : ∀ u ∈ l, u ∈ X) : untouched X l = [] := by
  simp only [untouched]
  apply List.filter_eq_nil_iff.2
  intro u hu
  simpa using h u hu

/-- a listing in blocks `v :: B v`, where the block of a node of `X` lies in `X`: filtering the
    listing is filtering the heads and the blocks -/
theorem untouched_blocks (X : List Nat) (B : Nat → List Nat) (hB : ∀ v, v ∈ X → ∀ u ∈ B v, u ∈ X) :
    ∀ (l : List Nat), untouched X (l.flatMap (fun v => v :: B v)) =
      (untouched X l).flatMap (fun v => v :: untouched X (B v))
  | [] => rfl
  | a :: l => by
      have ih := untouched_blocks X B hB l
      simp only [List.flatMap_cons]
      rw [untouched_app, ih]
      by_cases ha : a ∈ X
      · have h1 : untouched X (a :: B a) = [] :=
          untouched_nil_of_subset X _ (fun u hu => by
            rcases List.mem_cons.1 hu with rfl | hu
            · exact ha
            · exact hB a ha u hu)
        have h2 : untouched X (a :: l) = untouched X l := by simp [untouched, ha]
        rw [h1, h2]; rfl
      · have h1 : untouched X (a :: B a) = a :: untouched X (B a) := by simp [untouched, ha]
        have h2 : untouched X (a :: l) = a :: untouched X l := by simp [untouched, ha]
        rw [h1, h2]; rfl

theorem untouched_mono {T T' l l' : List Nat} (hT : ∀ x ∈ T, x ∈ T')
    (h : untouched T l = untouched T l') : untouched T' l = untouched T' l' := by
  have key : ∀ m : List Nat, untouched T' m = untouched T' (untouched T m) := by
    intro m
    simp only [untouched, List.filter_filter]
    apply List.filter_congr
    intro x _
    by_cases hx : x ∈ T
    · simp [hx, hT x hx]
    · simp [hx]
  rw [key l, key l', h]

theorem untouched_step {s : LSet} (h : WF s) (op : Op) (d : Dir) (c : Cursor) (hc : c.Valid s) :
    untouched (touched op) (rest (apply s op).1 d c) = untouched (touched op) (rest s d c) := by
  obtain ⟨bs, hi⟩ := h
  have hc' := (sim_apply hi op d c hc).valid hc
  obtain ⟨bs', hi', hs, _⟩ := sim_apply hi op d c hc
  have ok : (absSt s bs d c).OK := ⟨hi.vals_nodup, acur_inRange hi d c hc⟩
  obtain ⟨_, u⟩ := Spec.apply_spec ok op
  rw [(hi'.rest_eq d c hc').1, (hi.rest_eq d c hc).1]
  have e1 : Spec.rest (bs'.map (vl (apply s op).1)) d (acur (apply s op).1 bs' d c) =
      (Spec.apply (absSt s bs d c) op).1.rest := by
    rw [← hs]; rfl
  rw [e1, u]; rfl

theorem mem_toList_apply {s : LSet} (h : WF s) (op : Op) {v : Nat}
    (hv : v ∈ toList (apply s op).1) : v ∈ touched op ∨ v ∈ toList s := by
  by_cases ht : v ∈ touched op
  · exact Or.inl ht
  · have hm : v ∈ untouched (touched op) (toList (apply s op).1) :=
      List.mem_filter.2 ⟨hv, by simpa using ht⟩
    have e : untouched (touched op) (toList (apply s op).1) = untouched (touched op) (toList s) :=
      untouched_step h op .fwd .notStarted h.root_valid
    rw [e] at hm
    exact Or.inr (List.mem_filter.1 hm).1

theorem rest_done (s : LSet) (d : Dir) : rest s d .done = [] := by
  rw [rest, drain_done]

/-- everything the later files need to know about one `next()` of a container generator -/
theorem WF.iterNext_cases {s : LSet} (h : WF s) (d : Dir) {c : Cursor} (hc : c.Valid s) :
    (iterNext s d c = (.done, .stop) ∧ rest s d c = []) ∨
    ∃ c' v, iterNext s d c = (c', .yield v) ∧ rest s d c = v :: rest s d c' ∧ v ∈ toList s ∧
      c'.Valid s ∧ c' ≠ .notStarted := by
  obtain ⟨bs, hi⟩ := h
  have hok := hi.iterNext_ok d c hc
  have hnr := hi.next_rest d c hc
  cases hres : iterNext s d c with
  | mk c' res =>
    rw [hres] at hok hnr
    cases res with
    | stop =>
      refine Or.inl ⟨?_, hnr⟩
      by_cases hcd : c = .done
      · subst hcd; rw [← hres]; rfl
      · rw [hi.iterNext_eq d hcd hc, scanRes] at hres
        split at hres
        · exact hres ▸ rfl
        · cases hres
    | yield v =>
      obtain ⟨t, ht, rfl, hvt⟩ := hi.iterNext_yield d hc hres
      exact Or.inr ⟨_, v, rfl, hnr, (hi.mem_toList v).2 ⟨t, ht, hvt⟩, (hi.live t ht).2.1,
        Cursor.noConfusion⟩
    | raised => rcases hok with h | ⟨_, h⟩ <;> cases h
    | fuel => rcases hok with h | ⟨_, h⟩ <;> cases h

theorem WF.iterNth_eq {s : LSet} (h : WF s) (d : Dir) (n : Nat) : ∀ (c : Cursor), c.Valid s →
    iterNth s d n c = (rest s d c)[n]? := by
  induction n with
  | zero =>
    intro c hc
    rcases h.iterNext_cases d hc with ⟨hres, hnr⟩ | ⟨c', v, hres, hnr, -⟩
    · rw [iterNth, hres, hnr]; rfl
    · rw [iterNth, hres, hnr]; rfl
  | succ n ih =>
    intro c hc
    rcases h.iterNext_cases d hc with ⟨hres, hnr⟩ | ⟨c', v, hres, hnr, -, hv', -⟩
    · rw [iterNth, hres, hnr]; rfl
    · rw [iterNth, hres, hnr, List.getElem?_cons_succ]; exact ih c' hv'

/-- `x[i]`: a bounds check, then indexing into `list(x)` or `list(reversed(x))` -/
theorem getItem_eq {s : LSet} (h : WF s) (i : Int) :
    getItem s i =
      if i ≥ (s.length : Int) ∨ i < -(s.length : Int) then none
      else if i < 0 then (toListRev s)[(-i - 1).toNat]? else (toList s)[i.toNat]? := by
  unfold getItem
  rw [h.iterNth_eq .rev _ .notStarted h.root_valid, h.iterNth_eq .fwd _ .notStarted h.root_valid]
  rfl

end IrVerif.LinkedSet
