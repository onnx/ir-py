import IrVerif.Lemmas.SerdeLeaf
/-! Helper lemmas for C02: name tables with distinct names, total versions of the
deserialization steps on well-formed input, node inputs / outputs. -/
namespace IrVerif.Serde
open IrVerif.Proto

theorem lookupLast_of_nodup {names : List String} (h : names.Nodup) {n : String} {i : Nat}
    (hi : names[i]? = some n) : lookupLast names n = some i := by
  induction names generalizing i with
  | nil => simp at hi
  | cons x xs ih =>
    rw [List.nodup_cons] at h
    cases i with
    | zero =>
      simp only [List.getElem?_cons_zero, Option.some.injEq] at hi
      subst hi
      simp [lookupLast, lookupLast_none h.1]
    | succ j =>
      simp only [List.getElem?_cons_succ] at hi
      simp [lookupLast, ih h.2 hi]

theorem lookupLast_mem {names : List String} {n : String} {i : Nat}
    (h : lookupLast names n = some i) : n ∈ names :=
  List.mem_of_getElem? (lookupLast_getElem h)

theorem lookupLast_lt {names : List String} {n : String} {i : Nat}
    (h : lookupLast names n = some i) : i < names.length := by
  have := lookupLast_getElem h
  exact (List.getElem?_eq_some_iff.1 this).1

/-- in a table with distinct names the entry found for `n` is THE value named `n` -/
theorem getD_of_lookup {tbl : List IRValue} (hnd : (tableNames tbl).Nodup) {n : String} {i : Nat}
    (hi : lookupLast (tableNames tbl) n = some i) {v : IRValue} (hv : v ∈ tbl) (hn : v.name = n) :
    tbl.getD i (IRValue.blank "") = v := by
  obtain ⟨j, hj, hjv⟩ := List.getElem_of_mem hv
  have h1 : (tableNames tbl)[j]? = some n := by
    simp [tableNames, List.getElem?_map, List.getElem?_eq_getElem hj, hjv, hn]
  have h2 := lookupLast_of_nodup hnd h1
  rw [hi] at h2
  cases h2
  simp [List.getD, List.getElem?_eq_getElem hj, hjv]

theorem lookupLast_exists {names : List String} {n : String} (h : n ∈ names) :
    ∃ i, lookupLast names n = some i := by
  have := lookupLast_isSome h
  cases hl : lookupLast names n with
  | none => rw [hl] at this; cases this
  | some i => exact ⟨i, rfl⟩

def updName (tbl : List IRValue) (n : String) (f : IRValue → IRValue) : List IRValue :=
  tbl.map fun v => if v.name = n then f v else v

theorem listSet_eq_map {α : Type} (l : List α) (i : Nat) (a : α) :
    listSet l i a = l.set i a := by
  induction l generalizing i with
  | nil => rfl
  | cons x xs ih => cases i <;> simp [listSet, ih]

theorem listSet_eq_updName {tbl : List IRValue} (hnd : (tableNames tbl).Nodup) {n : String} {i : Nat}
    (hi : lookupLast (tableNames tbl) n = some i) (f : IRValue → IRValue) :
    listSet tbl i (f (tbl.getD i (IRValue.blank ""))) = updName tbl n f := by
  rw [listSet_eq_map]
  apply List.ext_getElem?
  intro j
  simp only [updName, List.getElem?_set, List.getElem?_map]
  have hlt : i < tbl.length := by simpa [tableNames] using lookupLast_lt hi
  have hin : (tableNames tbl)[i]? = some n := lookupLast_getElem hi
  by_cases hij : i = j
  · subst hij
    have hname : tbl[i].name = n := by
      simpa [tableNames, List.getElem?_map, List.getElem?_eq_getElem hlt] using hin
    simp [hlt, List.getD, hname]
  · simp only [hij, if_false]
    cases hj : tbl[j]? with
    | none => rfl
    | some u =>
      simp only [Option.map_some, Option.some.injEq]
      have hjn : (tableNames tbl)[j]? = some u.name := by simp [tableNames, List.getElem?_map, hj]
      have : ¬ u.name = n := by
        intro e
        rw [e] at hjn
        have := lookupLast_of_nodup hnd hjn
        rw [hi] at this
        cases this
        exact hij rfl
      simp [this]

theorem tableNames_updName (tbl : List IRValue) (n : String) (f : IRValue → IRValue)
    (hf : ∀ v, (f v).name = v.name) : tableNames (updName tbl n f) = tableNames tbl := by
  simp only [tableNames, updName, List.map_map]
  apply List.map_congr_left
  intro v _
  simp only [Function.comp]
  split <;> simp [hf]

theorem tableNames_getD (tbl : List IRValue) (i : Nat) :
    (tableNames tbl).getD i "" = (tbl.getD i (IRValue.blank "")).name := by
  simp only [tableNames, List.getD, List.getElem?_map]
  cases tbl[i]? <;> rfl

theorem tableNames_set (T : List IRValue) (i : Nat) (v : IRValue)
    (h : v.name = (T.getD i (IRValue.blank "")).name) : tableNames (T.set i v) = tableNames T := by
  rw [← tableNames_getD] at h
  unfold tableNames at h ⊢
  rw [List.map_set, h]
  by_cases hi : i < (T.map (·.name)).length
  · rw [List.getD, List.getElem?_eq_getElem hi]; exact List.set_getElem_self hi
  · exact List.set_eq_of_length_le (by omega)

theorem tableNames_append (a b : List IRValue) : tableNames (a ++ b) = tableNames a ++ tableNames b := by
  simp [tableNames]

/-! ### total versions of the value constructors (they agree with the model on WF input) -/

def tyOf (t : TypeP) : Option IRType :=
  match desTypeForType t with
  | .ok x => x
  | .error _ => none

def shOf (t : TypeP) : Option IRShape :=
  match desTypeForShape t with
  | .ok x => x
  | .error _ => none

/-- `deserialize_value_info_proto` without the error paths -/
def applyInfoT (v : IRValue) (vi : ValueInfoP) : IRValue :=
  { v with shape := shOf vi.type, type := tyOf vi.type,
           mprops := dictUpdate v.mprops (dictOfEntries vi.metadata), doc := vi.doc }

theorem applyInfo_eq (v : IRValue) (vi : ValueInfoP) (h : wfType vi.type = true) :
    applyInfo v vi = .ok (applyInfoT v vi) ∧ serTypeAndShape (tyOf vi.type) (shOf vi.type) = vi.type
      ∧ (tyOf vi.type).isNone = viIsUnset vi.type := by
  obtain ⟨ty, sh, h1, h2, h3⟩ := type_roundtrip vi.type h
  obtain ⟨ty', sh', g3, g4, g5⟩ := applyInfo_ok v vi h
  have e1 : tyOf vi.type = ty := by simp [tyOf, h1]
  have e2 : shOf vi.type = sh := by simp [shOf, h2]
  have h0 : applyInfo v vi = .ok (applyInfoT v vi) := by
    simp [applyInfo, applyInfoT, h1, h2, e1, e2, bind, Except.bind]
  refine ⟨h0, by rw [e1, e2]; exact h3, ?_⟩
  have hty : ty' = ty := by
    rw [h0] at g5
    have := congrArg (fun r => match r with | Except.ok x => x.type | _ => none) g5
    simp only [applyInfoT, e1] at this
    exact this.symm
  rw [e1, ← hty]; exact g4.1

@[simp] theorem applyInfoT_name (v : IRValue) (vi : ValueInfoP) : (applyInfoT v vi).name = v.name := rfl
@[simp] theorem applyInfoT_quant (v : IRValue) (vi : ValueInfoP) : (applyInfoT v vi).quant = v.quant := rfl
@[simp] theorem applyInfoT_const (v : IRValue) (vi : ValueInfoP) : (applyInfoT v vi).const = v.const := rfl
@[simp] theorem applyQuant_name (q : List AnnotP) (v : IRValue) : (applyQuant q v).name = v.name := by
  unfold applyQuant; split <;> rfl

/-- `newValue` without the error paths -/
def newValueT (vis : List ValueInfoP) (q : List AnnotP) (n : String) : IRValue :=
  applyQuant q (match findVI vis n with
    | some vi => applyInfoT (IRValue.blank n) vi
    | none => IRValue.blank n)

@[simp] theorem newValueT_name (vis : List ValueInfoP) (q : List AnnotP) (n : String) :
    (newValueT vis q n).name = n := by
  unfold newValueT
  split <;> simp [IRValue.blank]

theorem findVI_mem {vis : List ValueInfoP} {n : String} {vi : ValueInfoP} (h : findVI vis n = some vi) :
    vi ∈ vis ∧ vi.name = n := by
  have := findLast?_mem h
  exact ⟨this.1, by simpa using this.2⟩

theorem findVI_none_iff {l : List ValueInfoP} {n : String} : findVI l n = none ↔ n ∉ l.map (·.name) := by
  simp only [findVI, findLast?_eq_none_iff, decide_eq_false_iff_not, List.mem_map, not_exists, not_and]

theorem findVI_of_mem {l : List ValueInfoP} (h : (l.map (·.name)).Nodup) {v : ValueInfoP} (hv : v ∈ l) :
    findVI l v.name = some v := by
  exact (findLast?_eq_find? (fun x : ValueInfoP => x.name) v.name l h).trans
    (find?_of_nodup (fun x : ValueInfoP => x.name) h hv)

theorem newValue_eq (vis : List ValueInfoP) (q : List AnnotP) (n : String)
    (h : vis.all wfVI = true) : newValue vis q n = .ok (newValueT vis q n) := by
  unfold newValue newValueT
  cases hf : findVI vis n with
  | none => simp [bind, Except.bind]
  | some vi =>
    have hw : wfType vi.type = true := by
      have := List.all_eq_true.1 h vi (findVI_mem hf).1
      simp only [wfVI, Bool.and_eq_true] at this
      exact this.1
    simp [(applyInfo_eq (IRValue.blank n) vi hw).1, bind, Except.bind]

theorem desNodeInputs_wf (outer : Scopes) (vis : List ValueInfoP) (q : List AnnotP)
    (tbl : List IRValue) (ins : List String)
    (h : ins.all (fun n => n.isEmpty || (resolve (tableNames tbl :: outer) n).isSome) = true) :
    desNodeInputs outer vis q ins tbl =
      .ok (ins.map (fun n => if n = "" then none else resolve (tableNames tbl :: outer) n), tbl) := by
  induction ins with
  | nil => rfl
  | cons n ns ih =>
    simp only [List.all_cons, Bool.and_eq_true] at h
    by_cases hn : n = ""
    · simp [desNodeInputs, hn, ih h.2, bind, Except.bind]
    · have hs : (resolve (tableNames tbl :: outer) n).isSome = true := by
        rcases Bool.or_eq_true_iff.1 h.1 with h1 | h1
        · simp [String.isEmpty_iff] at h1; exact absurd h1 hn
        · exact h1
      cases hr : resolve (tableNames tbl :: outer) n with
      | none => rw [hr] at hs; cases hs
      | some r => simp [desNodeInputs, hn, hr, ih h.2, bind, Except.bind]

theorem desNodeOutputs_wf (names : List String) (outs : List String)
    (h : outs.all (fun n => n.isEmpty || names.contains n) = true) :
    desNodeOutputs names outs = .ok (outs.map (fun n => if n = "" then none else lookupLast names n)) := by
  induction outs with
  | nil => rfl
  | cons n ns ih =>
    simp only [List.all_cons, Bool.and_eq_true] at h
    by_cases hn : n = ""
    · simp [desNodeOutputs, hn, ih h.2, bind, Except.bind]
    · have hm : n ∈ names := by
        rcases Bool.or_eq_true_iff.1 h.1 with h1 | h1
        · simp [String.isEmpty_iff] at h1; exact absurd h1 hn
        · simpa using h1
      obtain ⟨i, hi⟩ := lookupLast_exists hm
      simp [desNodeOutputs, hn, hi, ih h.2, bind, Except.bind]

/-- serializing the inputs of a deserialized node gives the input names back, `""` for a name that does not resolve -/
theorem serInputs_roundtrip (scopes : Scopes) (ins : List String) :
    (ins.map (fun n => if n = "" then none else resolve scopes n)).map
      (fun o : Option Ref => match o with | none => "" | some r => refName scopes r)
    = ins.map (fun n => if n = "" then "" else match resolve scopes n with | some _ => n | none => "") := by
  simp only [List.map_map]
  apply List.map_congr_left
  intro n _
  simp only [Function.comp]
  by_cases hn : n = ""
  · simp [hn]
  · simp only [hn, if_false]
    cases hr : resolve scopes n with
    | none => rfl
    | some r => simp [resolve_refName hr]

theorem trimTrailingEmpty_eq : ∀ (l : List String),
    trimTrailingEmpty l = ListFacts.dropTrailing (fun x => decide (x = "")) l
  | [] => rfl
  | x :: xs => by
    have ih := trimTrailingEmpty_eq xs
    cases h : ListFacts.dropTrailing (fun x => decide (x = "")) xs <;>
      simp only [trimTrailingEmpty, ListFacts.dropTrailing, ih, h, decide_eq_true_eq]

theorem trimTrailingEmpty_idem (l : List String) :
    trimTrailingEmpty (trimTrailingEmpty l) = trimTrailingEmpty l := by
  simp only [trimTrailingEmpty_eq]; exact ListFacts.dropTrailing_idem _ l

end IrVerif.Serde
