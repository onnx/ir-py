/-
Exact effect of `mkNode` (`_core.Node.__init__`) and `mkGraph` (`_core.Graph.__init__`) on the store.
-/
import IrVerif.Lemmas.ScopeFrame
namespace IrVerif.Scope

/-- the input slots of node `nid` (numbered from `i`) that hold `v` -/
def slotsOf (v nid : Nat) : Nat → List (Option Nat) → List (Nat × Nat)
  | _, [] => []
  | i, none :: r => slotsOf v nid (i + 1) r
  | i, some w :: r => if w = v then (nid, i) :: slotsOf v nid (i + 1) r else slotsOf v nid (i + 1) r

@[simp] theorem addUses_nv (st : Store) (nid i : Nat) (ins : List (Option Nat)) :
    (addUses st nid i ins).nv = st.nv := by
  induction ins generalizing st i with
  | nil => rfl
  | cons a r ih => cases a <;> simp [addUses, ih]

@[simp] theorem addUses_nn (st : Store) (nid i : Nat) (ins : List (Option Nat)) :
    (addUses st nid i ins).nn = st.nn := by
  induction ins generalizing st i with
  | nil => rfl
  | cons a r ih => cases a <;> simp [addUses, ih]

@[simp] theorem addUses_ng (st : Store) (nid i : Nat) (ins : List (Option Nat)) :
    (addUses st nid i ins).ng = st.ng := by
  induction ins generalizing st i with
  | nil => rfl
  | cons a r ih => cases a <;> simp [addUses, ih]

theorem addUses_vals (st : Store) (nid i : Nat) (ins : List (Option Nat)) (v : Nat) :
    (addUses st nid i ins).vals v =
      { st.vals v with uses := (st.vals v).uses ++ slotsOf v nid i ins } := by
  induction ins generalizing st i with
  | nil => simp [addUses, slotsOf]
  | cons a r ih =>
    cases a with
    | none => simp [addUses, slotsOf, ih]
    | some w =>
      simp only [addUses, slotsOf]
      rw [ih]
      by_cases h : w = v
      · subst h; simp
      · have : v ≠ w := fun e => h e.symm
        simp [modify_vals, this, h]

@[simp] theorem setProducers_nv (st : Store) (nid i : Nat) (outs : List Nat) :
    (setProducers st nid i outs).nv = st.nv := by
  induction outs generalizing st i with
  | nil => rfl
  | cons a r ih => simp [setProducers, ih]

@[simp] theorem setProducers_nn (st : Store) (nid i : Nat) (outs : List Nat) :
    (setProducers st nid i outs).nn = st.nn := by
  induction outs generalizing st i with
  | nil => rfl
  | cons a r ih => simp [setProducers, ih]

@[simp] theorem setProducers_ng (st : Store) (nid i : Nat) (outs : List Nat) :
    (setProducers st nid i outs).ng = st.ng := by
  induction outs generalizing st i with
  | nil => rfl
  | cons a r ih => simp [setProducers, ih]

theorem setProducers_not_mem (st : Store) (nid i : Nat) (outs : List Nat) (v : Nat) (h : v ∉ outs) :
    (setProducers st nid i outs).vals v = st.vals v := by
  induction outs generalizing st i with
  | nil => rfl
  | cons a r ih =>
    simp only [List.mem_cons, not_or] at h
    simp only [setProducers]
    rw [ih _ _ h.2, modify_vals_ne _ _ _ h.1]

theorem setProducers_mem (st : Store) (nid i : Nat) (outs : List Nat) (hn : outs.Nodup) (k v : Nat)
    (hk : outs[k]? = some v) :
    (setProducers st nid i outs).vals v =
      { st.vals v with producer := some nid, index := some (i + k) } := by
  induction outs generalizing st i k with
  | nil => simp at hk
  | cons a r ih =>
    simp only [List.nodup_cons] at hn
    simp only [setProducers]
    cases k with
    | zero =>
      simp only [List.getElem?_cons_zero, Option.some.injEq] at hk
      subst hk
      rw [setProducers_not_mem _ _ _ _ _ hn.1]
      simp
    | succ k =>
      simp only [List.getElem?_cons_succ] at hk
      rw [ih _ _ hn.2 k hk]
      have hne : v ≠ a := by
        intro e; subst e
        exact hn.1 (List.mem_of_getElem? hk)
      rw [modify_vals_ne _ _ _ hne]
      have : i + 1 + k = i + (k + 1) := by omega
      simp [this]

theorem mkNode_fst_nv (st : Store) (ins : List (Option Nat)) (outs : List Nat) (gs : List GraphT) :
    (mkNode st ins outs gs).1.nv = st.nv := by simp [mkNode]
theorem mkNode_fst_nn (st : Store) (ins : List (Option Nat)) (outs : List Nat) (gs : List GraphT) :
    (mkNode st ins outs gs).1.nn = st.nn + 1 := by simp [mkNode]
theorem mkNode_fst_ng (st : Store) (ins : List (Option Nat)) (outs : List Nat) (gs : List GraphT) :
    (mkNode st ins outs gs).1.ng = st.ng := by simp [mkNode]
theorem mkNode_snd (st : Store) (ins : List (Option Nat)) (outs : List Nat) (gs : List GraphT) :
    (mkNode st ins outs gs).2 = .mk st.nn none ins outs gs := by simp [mkNode]

/-- the cell of `v` after `mkNode`: uses extended by the node's input slots; producer / index set
    when `v` is an output. -/
theorem mkNode_vals (st : Store) (ins : List (Option Nat)) (outs : List Nat) (gs : List GraphT) (v : Nat) :
    (mkNode st ins outs gs).1.vals v =
      { (setProducers st st.nn 0 outs).vals v with
        uses := ((setProducers st st.nn 0 outs).vals v).uses ++ slotsOf v st.nn 0 ins } := by
  simp only [mkNode]
  exact addUses_vals _ _ _ _ _

theorem setProducers_uses (st : Store) (nid i : Nat) (outs : List Nat) (v : Nat) :
    ((setProducers st nid i outs).vals v).uses = (st.vals v).uses := by
  induction outs generalizing st i with
  | nil => rfl
  | cons a r ih =>
    simp only [setProducers]
    rw [ih, modify_vals]
    split <;> rfl

theorem mkNode_keeps (st : Store) (ins : List (Option Nat)) (outs : List Nat) (gs : List GraphT) (v : Nat) :
    let c' := (mkNode st ins outs gs).1.vals v
    let c := st.vals v
    c'.name = c.name ∧ c'.info = c.info ∧ c'.const = c.const ∧ c'.graph = c.graph ∧ c'.isIn = c.isIn ∧
      c'.isOut = c.isOut ∧ c'.isInit = c.isInit := by
  have key : ∀ (outs : List Nat) (st : Store) (i : Nat),
      let c' := (setProducers st st.nn i outs).vals v
      let c := st.vals v
      c'.name = c.name ∧ c'.info = c.info ∧ c'.const = c.const ∧ c'.graph = c.graph ∧ c'.isIn = c.isIn ∧
        c'.isOut = c.isOut ∧ c'.isInit = c.isInit := by
    intro outs
    induction outs with
    | nil => intro st i; simp [setProducers]
    | cons a r ih =>
      intro st i
      simp only [setProducers]
      have := ih (st.modify a fun c => { c with producer := some st.nn, index := some i }) (i + 1)
      simp only [modify_nn] at this
      rw [modify_vals] at this
      split at this <;> simpa using this
  rw [mkNode_vals]
  simpa using key outs st 0

theorem setOwner_counters (st : Store) (gid : Nat) (f : ValueS → ValueS) (vs : List Nat) :
    (setOwner st gid f vs).nv = st.nv ∧ (setOwner st gid f vs).nn = st.nn ∧
    (setOwner st gid f vs).ng = st.ng := by
  induction vs generalizing st with
  | nil => simp [setOwner]
  | cons a r ih => simp [setOwner, ih]

theorem setOwner_not_mem (st : Store) (gid : Nat) (f : ValueS → ValueS) (vs : List Nat) (v : Nat)
    (h : v ∉ vs) : (setOwner st gid f vs).vals v = st.vals v := by
  induction vs generalizing st with
  | nil => rfl
  | cons a r ih =>
    simp only [List.mem_cons, not_or] at h
    simp only [setOwner]
    rw [ih _ h.2, modify_vals_ne _ _ _ h.1]

/-- `setOwner` with an idempotent flag setter: listed cells get the flag and the owner -/
theorem setOwner_mem (st : Store) (gid : Nat) (f : ValueS → ValueS)
    (hf : ∀ c, f { f c with graph := some gid } = { f c with graph := some gid })
    (vs : List Nat) (v : Nat) (h : v ∈ vs) :
    (setOwner st gid f vs).vals v = { f (st.vals v) with graph := some gid } := by
  induction vs generalizing st with
  | nil => simp at h
  | cons a r ih =>
    simp only [setOwner]
    by_cases hr : v ∈ r
    · rw [ih _ hr, modify_vals]
      split
      · rename_i e; subst e; rw [hf]
      · rfl
    · simp only [List.mem_cons] at h
      rcases h with rfl | h
      · rw [setOwner_not_mem _ _ _ _ _ hr]; simp
      · exact absurd h hr

theorem setOwner_name (st : Store) (gid : Nat) (f : ValueS → ValueS) (hf : ∀ c, (f c).name = c.name)
    (vs : List Nat) (v : Nat) : ((setOwner st gid f vs).vals v).name = (st.vals v).name := by
  induction vs generalizing st with
  | nil => rfl
  | cons a r ih =>
    simp only [setOwner]
    rw [ih, modify_vals]
    split
    · exact hf _
    · rfl

theorem setOwner_cell (st : Store) (gid : Nat) (f : ValueS → ValueS)
    (hf : ∀ c, f { f c with graph := some gid } = { f c with graph := some gid })
    (vs : List Nat) (v : Nat) :
    (setOwner st gid f vs).vals v = if v ∈ vs then { f (st.vals v) with graph := some gid } else st.vals v := by
  split
  · rename_i h; exact setOwner_mem _ _ _ hf _ _ h
  · rename_i h; exact setOwner_not_mem _ _ _ _ _ h

/-- the values stored in the initializer dict of the graph built by `mkGraph` -/
def mkGraphInits (st : Store) (ins outs iv : List Nat) : List (Name × Nat) :=
  initDict (setOwner (setOwner st st.ng (fun c => { c with isIn := true }) ins) st.ng
    (fun c => { c with isOut := true }) outs) [] iv

theorem mkGraph_snd (st : Store) (ins outs : List Nat) (ns : List NodeT) (iv : List Nat) :
    (mkGraph st ins outs ns iv).2 =
      .mk st.ng ins (mkGraphInits st ins outs iv) (ns.map (NodeT.setGraph st.ng)) outs := rfl

theorem initDict_congr {st st' : Store} (h : ∀ v, (st'.vals v).name = (st.vals v).name) :
    ∀ (vs : List Nat) (d : List (Name × Nat)), initDict st' d vs = initDict st d vs
  | [], _ => rfl
  | v :: vs, d => by simp only [initDict, h v, initDict_congr h vs]

theorem mkGraphInits_eq (st : Store) (ins outs iv : List Nat) : mkGraphInits st ins outs iv = initDict st [] iv :=
  initDict_congr (fun _ => (setOwner_name _ _ (fun c => { c with isOut := true }) (fun _ => rfl) _ _).trans
    (setOwner_name _ _ (fun c => { c with isIn := true }) (fun _ => rfl) _ _)) iv []

theorem mkGraph_cell (st : Store) (ins outs : List Nat) (ns : List NodeT) (iv : List Nat) (v : Nat) :
    (mkGraph st ins outs ns iv).1.vals v =
      { st.vals v with
        isIn := (st.vals v).isIn || decide (v ∈ ins)
        isOut := (st.vals v).isOut || decide (v ∈ outs)
        isInit := (st.vals v).isInit || decide (v ∈ (mkGraphInits st ins outs iv).map (·.2))
        graph := if v ∈ ins ∨ v ∈ outs ∨ v ∈ (mkGraphInits st ins outs iv).map (·.2) then some st.ng
                 else (st.vals v).graph } := by
  show (setOwner (setOwner (setOwner st st.ng _ ins) st.ng _ outs) st.ng _
    ((mkGraphInits st ins outs iv).map (·.2))).vals v = _
  rw [setOwner_cell _ _ _ (fun _ => rfl), setOwner_cell _ _ _ (fun _ => rfl),
    setOwner_cell _ _ _ (fun _ => rfl)]
  by_cases h1 : v ∈ ins <;> by_cases h2 : v ∈ outs <;>
    by_cases h3 : v ∈ (mkGraphInits st ins outs iv).map (·.2) <;> simp [h1, h2, h3]

theorem setOwner_tens (st : Store) (gid : Nat) (f : ValueS → ValueS) (vs : List Nat) :
    (setOwner st gid f vs).tens = st.tens ∧ (setOwner st gid f vs).nt = st.nt := by
  induction vs generalizing st with
  | nil => exact ⟨rfl, rfl⟩
  | cons a r ih => simp only [setOwner]; rw [(ih _).1, (ih _).2]; exact ⟨rfl, rfl⟩

theorem mkGraph_tens (st : Store) (ins outs : List Nat) (ns : List NodeT) (iv : List Nat) :
    (mkGraph st ins outs ns iv).1.tens = st.tens ∧ (mkGraph st ins outs ns iv).1.nt = st.nt := by
  show (setOwner _ _ _ _).tens = _ ∧ (setOwner _ _ _ _).nt = _
  rw [(setOwner_tens _ _ _ _).1, (setOwner_tens _ _ _ _).2, (setOwner_tens _ _ _ _).1, (setOwner_tens _ _ _ _).2,
    (setOwner_tens _ _ _ _).1, (setOwner_tens _ _ _ _).2]
  exact ⟨rfl, rfl⟩

theorem mkNode_tens (st : Store) (ins : List (Option Nat)) (outs : List Nat) (gs : List GraphT) :
    (mkNode st ins outs gs).1.tens = st.tens ∧ (mkNode st ins outs gs).1.nt = st.nt := by
  have h1 : ∀ (outs : List Nat) (st : Store) (n i : Nat),
      (setProducers st n i outs).tens = st.tens ∧ (setProducers st n i outs).nt = st.nt := by
    intro outs
    induction outs with
    | nil => intro st n i; exact ⟨rfl, rfl⟩
    | cons a r ih => intro st n i; simp only [setProducers]; exact ih _ _ _
  have h2 : ∀ (ins : List (Option Nat)) (st : Store) (n i : Nat),
      (addUses st n i ins).tens = st.tens ∧ (addUses st n i ins).nt = st.nt := by
    intro ins
    induction ins with
    | nil => intro st n i; exact ⟨rfl, rfl⟩
    | cons a r ih =>
      intro st n i
      cases a with
      | none => simp only [addUses]; exact ih _ _ _
      | some w => simp only [addUses]; exact ih _ _ _
  show (addUses _ _ _ _).tens = _ ∧ (addUses _ _ _ _).nt = _
  rw [(h2 _ _ _ _).1, (h2 _ _ _ _).2, (h1 _ _ _ _).1, (h1 _ _ _ _).2]
  exact ⟨rfl, rfl⟩

theorem getElem?_cons_sub {α : Type} (a : α) (r : List α) {i j : Nat} (h : j ≤ i) :
    (a :: r)[i - j]? = if i = j then some a else r[i - (j + 1)]? := by
  by_cases e : i = j
  · subst e; simp
  · have : i - j = (i - (j + 1)) + 1 := by omega
    rw [if_neg e, this, List.getElem?_cons_succ]

theorem mem_slotsOf (v nid : Nat) (ins : List (Option Nat)) :
    ∀ (j : Nat) (n i : Nat), (n, i) ∈ slotsOf v nid j ins ↔ n = nid ∧ j ≤ i ∧ ins[i - j]? = some (some v) := by
  induction ins with
  | nil => intro j n i; simp [slotsOf]
  | cons a r ih =>
    intro j n i
    -- the slots of the tail are the slots of `a :: r` other than `j`
    have tail : (n, i) ∈ slotsOf v nid (j + 1) r ↔
        n = nid ∧ j ≤ i ∧ i ≠ j ∧ (a :: r)[i - j]? = some (some v) := by
      rw [ih]
      constructor
      · rintro ⟨h1, h2, h3⟩
        have hij : i ≠ j := by omega
        refine ⟨h1, by omega, hij, ?_⟩
        rw [getElem?_cons_sub a r (by omega), if_neg hij]; exact h3
      · rintro ⟨h1, h2, hij, h3⟩
        rw [getElem?_cons_sub a r h2, if_neg hij] at h3
        exact ⟨h1, by omega, h3⟩
    have head : i = j → ((a :: r)[i - j]? = some (some v) ↔ a = some v) := by
      rintro rfl; simp
    cases a with
    | none =>
      simp only [slotsOf]
      rw [tail]
      exact ⟨fun ⟨h1, h2, _, h3⟩ => ⟨h1, h2, h3⟩,
        fun ⟨h1, h2, h3⟩ => ⟨h1, h2, fun e => by simpa using (head e).mp h3, h3⟩⟩
    | some w =>
      simp only [slotsOf]
      by_cases hw : w = v
      · subst hw
        simp only [if_true, List.mem_cons, Prod.mk.injEq]
        rw [tail]
        constructor
        · rintro (⟨h1, h2⟩ | ⟨h1, h2, _, h3⟩)
          · exact ⟨h1, Nat.le_of_eq h2.symm, (head h2).mpr rfl⟩
          · exact ⟨h1, h2, h3⟩
        · rintro ⟨h1, h2, h3⟩
          by_cases hij : i = j
          · exact .inl ⟨h1, hij⟩
          · exact .inr ⟨h1, h2, hij, h3⟩
      · simp only [hw, if_false]
        rw [tail]
        exact ⟨fun ⟨h1, h2, _, h3⟩ => ⟨h1, h2, h3⟩,
          fun ⟨h1, h2, h3⟩ => ⟨h1, h2, fun e => hw (by simpa using (head e).mp h3), h3⟩⟩

theorem slotsOf_nodup (v nid : Nat) (ins : List (Option Nat)) : ∀ j, (slotsOf v nid j ins).Nodup := by
  induction ins with
  | nil => intro j; simp [slotsOf]
  | cons a r ih =>
    intro j
    cases a with
    | none => simpa [slotsOf] using ih (j + 1)
    | some w =>
      simp only [slotsOf]
      split
      · refine List.nodup_cons.mpr ⟨?_, ih _⟩
        intro hm
        rw [mem_slotsOf] at hm
        omega
      · exact ih _

end IrVerif.Scope
