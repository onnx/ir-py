/-
Runs of a generator stack for any step function (`some r` = the pending `next()` returns `r`), and
frame completion for one that only looks at the innermost frame.  Instances: `recStep`, `tStep`.
-/
import IrVerif.Model.LinkedSet
namespace IrVerif.LinkedSet

section run
variable {σ : Type}

/-- one `next()`: run until the step function returns (`recNext`, `tNext`) -/
def nextBy (step : σ → σ × List Out × Option Res) : Nat → σ → σ × List Out × Res
  | 0, st => (st, [], .fuel)
  | f + 1, st =>
    match step st with
    | (st', o, some r) => (st', o, r)
    | (st', o, none) => let r := nextBy step f st'; (r.1, o ++ r.2.1, r.2.2)

/-- run to exhaustion (`recDrain`, `tDrain`) -/
def drainBy (step : σ → σ × List Out × Option Res) : Nat → σ → List Out × Res
  | 0, _ => ([], .fuel)
  | f + 1, st =>
    match step st with
    | (st', o, none) => let r := drainBy step f st'; (o ++ r.1, r.2)
    | (st', o, some (.yield _)) => let r := drainBy step f st'; (o ++ r.1, r.2)
    | (_, o, some r) => (o, r)

/-- the step does not end the run: no result, or a yield -/
abbrev GoesOn (r : Option Res) : Prop := r = none ∨ ∃ v, r = some (.yield v)

/-- `Run step st outs st'`: from `st` the machine runs (through any number of yields) to `st'`,
    producing `outs`, without finishing and without raising -/
inductive Run (step : σ → σ × List Out × Option Res) : σ → List Out → σ → Prop
  | refl (st : σ) : Run step st [] st
  | step {st st1 st' : σ} {o outs : List Out} {r : Option Res} :
      step st = (st1, o, r) → GoesOn r →
      Run step st1 outs st' → Run step st (o ++ outs) st'

variable {step : σ → σ × List Out × Option Res}

theorem Run.trans {a b c : σ} {o1 o2 : List Out}
    (h1 : Run step a o1 b) (h2 : Run step b o2 c) : Run step a (o1 ++ o2) c := by
  induction h1 with
  | refl => simpa using h2
  | step e hr _ ih => rw [List.append_assoc]; exact .step e hr (ih h2)

theorem Run.one {st st1 : σ} {o : List Out} {r : Option Res}
    (e : step st = (st1, o, r)) (hr : GoesOn r) : Run step st o st1 := by
  simpa using Run.step e hr (Run.refl st1)

theorem step_cases (r : Option Res) :
    GoesOn r ∨ (∃ r', r = some r' ∧ ∀ v, r' ≠ .yield v) := by
  cases r with
  | none => exact Or.inl (Or.inl rfl)
  | some r =>
    cases r with
    | yield v => exact Or.inl (Or.inr ⟨v, rfl⟩)
    | stop => exact Or.inr ⟨_, rfl, by intro v h; cases h⟩
    | raised => exact Or.inr ⟨_, rfl, by intro v h; cases h⟩
    | fuel => exact Or.inr ⟨_, rfl, by intro v h; cases h⟩

theorem nextBy_cont (f : Nat) {st st' : σ} {o : List Out} (hs : step st = (st', o, none)) :
    nextBy step (f + 1) st =
      ((nextBy step f st').1, o ++ (nextBy step f st').2.1, (nextBy step f st').2.2) := by
  simp only [nextBy, hs]

theorem nextBy_ret (f : Nat) {st st' : σ} {o : List Out} {r : Res} (hs : step st = (st', o, some r)) :
    nextBy step (f + 1) st = (st', o, r) := by
  simp only [nextBy, hs]

theorem drainBy_cont (f : Nat) {st st' : σ} {o : List Out} {r : Option Res}
    (hs : step st = (st', o, r)) (hr : GoesOn r) :
    drainBy step (f + 1) st = (o ++ (drainBy step f st').1, (drainBy step f st').2) := by
  rcases hr with rfl | ⟨v, rfl⟩ <;> simp only [drainBy, hs]

theorem drainBy_end (f : Nat) {st st' : σ} {o : List Out} {r : Res}
    (hs : step st = (st', o, some r)) (hr : ∀ v, r ≠ .yield v) :
    drainBy step (f + 1) st = (o, r) := by
  cases r with
  | yield v => exact absurd rfl (hr v)
  | stop => simp only [drainBy, hs]
  | raised => simp only [drainBy, hs]
  | fuel => simp only [drainBy, hs]

theorem Run.drain {st st' : σ} {outs : List Out} (h : Run step st outs st') :
    ∃ n, ∀ f, drainBy step (n + f) st = (outs ++ (drainBy step f st').1, (drainBy step f st').2) := by
  induction h with
  | refl st => exact ⟨0, fun f => by simp⟩
  | @step st st1 st' o outs r e hr _ ih =>
    obtain ⟨n, hn⟩ := ih
    refine ⟨n + 1, fun f => ?_⟩
    rw [show n + 1 + f = (n + f) + 1 by omega, drainBy_cont _ e hr, hn f, List.append_assoc]

theorem Run.drain_end {st st' st2 : σ} {outs o : List Out} {r : Res} (h : Run step st outs st')
    (e : step st' = (st2, o, some r)) (hr : ∀ v, r ≠ .yield v) :
    ∃ n, ∀ f, n ≤ f → drainBy step f st = (outs ++ o, r) := by
  obtain ⟨n, hn⟩ := h.drain
  refine ⟨n + 1, fun f hf => ?_⟩
  obtain ⟨k, rfl⟩ : ∃ k, f = n + (k + 1) := ⟨f - n - 1, by omega⟩
  rw [hn (k + 1), drainBy_end k e hr]

theorem Run.drain_stop {st fin st2 : σ} {outs : List Out} (h : Run step st outs fin)
    (e : step fin = (st2, [], some .stop)) :
    ∃ n, ∀ f, n ≤ f → drainBy step f st = (outs, .stop) := by
  simpa using h.drain_end e (fun _ h => by cases h)

theorem nextBy_inv {I : σ → Prop} {Q : Out → Prop}
    (hstep : ∀ st, I st → I (step st).1 ∧ ∀ x ∈ (step st).2.1, Q x) :
    ∀ (f : Nat) (st : σ), I st → I (nextBy step f st).1 ∧ ∀ x ∈ (nextBy step f st).2.1, Q x
  | 0, st, h => ⟨h, by simp [nextBy]⟩
  | f + 1, st, h => by
      obtain ⟨h1, h2⟩ := hstep st h
      cases hs : step st with
      | mk st' p =>
        obtain ⟨o, r⟩ := p
        rw [hs] at h1 h2
        cases r with
        | some r => simpa [nextBy, hs] using ⟨h1, h2⟩
        | none =>
          obtain ⟨i1, i2⟩ := nextBy_inv hstep f st' h1
          simp only [nextBy, hs]
          exact ⟨i1, fun x hx => (List.mem_append.1 hx).elim (h2 x) (i2 x)⟩

theorem nextBy_succ : ∀ (f : Nat) (st : σ),
    (nextBy step f st).2.2 ≠ .fuel → nextBy step (f + 1) st = nextBy step f st
  | 0, st, h => by simp [nextBy] at h
  | f + 1, st, h => by
      cases hs : step st with
      | mk st' p =>
        obtain ⟨o, r⟩ := p
        cases r with
        | some r => simp [nextBy, hs]
        | none =>
          have h' : (nextBy step f st').2.2 ≠ .fuel := by simpa [nextBy, hs] using h
          have ih := nextBy_succ f st' h'
          rw [show nextBy step (f + 1 + 1) st =
            (let r := nextBy step (f + 1) st'; (r.1, o ++ r.2.1, r.2.2)) by simp [nextBy, hs]]
          rw [ih]
          simp [nextBy, hs]

theorem drainBy_succ : ∀ (f : Nat) (st : σ),
    (drainBy step f st).2 ≠ .fuel → drainBy step (f + 1) st = drainBy step f st
  | 0, st, h => by simp [drainBy] at h
  | f + 1, st, h => by
      cases hs : step st with
      | mk st' p =>
        obtain ⟨o, r⟩ := p
        rcases step_cases r with hr | ⟨r', rfl, hr⟩
        · rw [drainBy_cont f hs hr] at h
          rw [drainBy_cont (f + 1) hs hr, drainBy_cont f hs hr, drainBy_succ f st' h]
        · rw [drainBy_end (f + 1) hs hr, drainBy_end f hs hr]

theorem drainBy_mono {f f' : Nat} {st : σ} {outs : List Out}
    (h : drainBy step f st = (outs, .stop)) (hf : f ≤ f') : drainBy step f' st = (outs, .stop) := by
  induction hf with
  | refl => exact h
  | step _ ih => rw [drainBy_succ _ st (by rw [ih]; exact Res.noConfusion), ih]

theorem nextBy_of_drain : ∀ (f : Nat) (st : σ) (outs : List Out),
    drainBy step f st = (outs, .stop) →
    (nextBy step f st).2.2 = .stop ∨ ∃ v, (nextBy step f st).2.2 = .yield v
  | 0, _, _, h => by simp [drainBy] at h
  | f + 1, st, outs, h => by
      cases hs : step st with
      | mk st' p =>
        obtain ⟨o, r⟩ := p
        cases r with
        | none =>
          rw [drainBy_cont f hs (Or.inl rfl)] at h
          have h2 : (drainBy step f st').2 = .stop := congrArg Prod.snd h
          have := nextBy_of_drain f st' (drainBy step f st').1 (Prod.ext rfl h2)
          simpa [nextBy, hs] using this
        | some r =>
          cases r with
          | yield v => right; exact ⟨v, by simp [nextBy, hs]⟩
          | stop => left; simp [nextBy, hs]
          | raised => simp [drainBy, hs] at h
          | fuel => simp [drainBy, hs] at h

/-- `fin`: the only state from which the step function returns StopIteration -/
theorem nextBy_run {fin : σ}
    (hstop : ∀ st st' o, step st = (st', o, some .stop) → st = fin ∧ st' = fin ∧ o = []) :
    ∀ (f : Nat) (st st' : σ) (o : List Out) (r : Res), nextBy step f st = (st', o, r) →
    (∀ v, r = .yield v → Run step st o st') ∧ (r = .stop → Run step st o fin ∧ st' = fin)
  | 0, st, st', o, r, e => by
      simp only [nextBy, Prod.mk.injEq] at e
      obtain ⟨_, _, rfl⟩ := e
      exact ⟨fun v h => (by cases h), fun h => (by cases h)⟩
  | f + 1, st, st', o, r, e => by
      cases hs : step st with
      | mk st1 p =>
        obtain ⟨o1, r1⟩ := p
        cases r1 with
        | some r1 =>
          simp only [nextBy, hs, Prod.mk.injEq] at e
          obtain ⟨rfl, rfl, rfl⟩ := e
          refine ⟨fun v h => Run.one hs (Or.inr ⟨v, by rw [h]⟩), fun h => ?_⟩
          subst h
          obtain ⟨rfl, rfl, rfl⟩ := hstop st st1 o1 hs
          exact ⟨.refl _, rfl⟩
        | none =>
          simp only [nextBy, hs, Prod.mk.injEq] at e
          obtain ⟨e1, e2, e3⟩ := e
          obtain ⟨i1, i2⟩ := nextBy_run hstop f st1 (nextBy step f st1).1 (nextBy step f st1).2.1
            (nextBy step f st1).2.2 rfl
          subst e1 e2 e3
          refine ⟨fun v h => Run.step hs (Or.inl rfl) (i1 v h), fun h => ?_⟩
          obtain ⟨j1, j2⟩ := i2 h
          exact ⟨Run.step hs (Or.inl rfl) j1, j2⟩

theorem Run.det {fin : σ} (hfin : ∀ st1 o r, step fin = (st1, o, r) → ¬ GoesOn r)
    {st : σ} {a b : List Out} (h1 : Run step st a fin) (h2 : Run step st b fin) : a = b := by
  generalize hn : fin = fin' at h1
  induction h1 generalizing b with
  | refl st =>
    subst hn
    cases h2 with
    | refl => rfl
    | step e hr _ => exact absurd hr (hfin _ _ _ e)
  | @step st st1 st' o outs r e hr _ ih =>
    subst hn
    cases h2 with
    | refl => exact absurd hr (hfin _ _ _ e)
    | step e' hr' h2' =>
      rw [e] at e'
      simp only [Prod.mk.injEq] at e'
      obtain ⟨rfl, rfl, rfl⟩ := e'
      rw [ih h2' rfl]

/-! ### stuttering refinement: `step` on `σ` against `step'` on `τ` under `φ`, on the states satisfying `I` -/
section refine
variable {τ : Type} {step' : τ → τ × List Out × Option Res} {φ : σ → τ} {I : σ → Prop}
  (sim : ∀ st, I st → I (step st).1 ∧
    ((φ (step st).1 = φ st ∧ (step st).2.1 = [] ∧ (step st).2.2 = none) ∨
     step' (φ st) = (φ (step st).1, (step st).2.1, (step st).2.2)))
include sim

/-- a `next()` that does not exhaust its bound is the same `next()` of the coarser machine, same bound -/
theorem nextBy_refines (f : Nat) (st : σ) (hs : I st) (hf : (nextBy step f st).2.2 ≠ .fuel) :
    I (nextBy step f st).1 ∧
    nextBy step' f (φ st) = (φ (nextBy step f st).1, (nextBy step f st).2.1, (nextBy step f st).2.2) := by
  induction f generalizing st with
  | zero => simp [nextBy] at hf
  | succ f ih =>
    obtain ⟨hs', sim⟩ := sim st hs
    cases hst : step st with
    | mk st1 p =>
      obtain ⟨o, r⟩ := p
      rw [hst] at hs' sim
      simp only at hs' sim
      cases r with
      | some r =>
        rcases sim with ⟨_, _, h3⟩ | sim
        · cases h3
        · rw [nextBy_ret f hst, nextBy_ret f sim]
          exact ⟨hs', rfl⟩
      | none =>
        rw [nextBy_cont f hst] at hf ⊢
        obtain ⟨ih1, ih2⟩ := ih st1 hs' hf
        refine ⟨ih1, ?_⟩
        rcases sim with ⟨e1, e2, _⟩ | sim
        · -- a stutter: the coarser machine has one unit of fuel to spare
          subst e2
          rw [← e1, nextBy_succ f _ (by rw [ih2]; exact hf), ih2]
          rfl
        · rw [nextBy_cont f sim, ih2]

theorem drainBy_refines (f : Nat) (st : σ) (hs : I st) (hf : (drainBy step f st).2 ≠ .fuel) :
    drainBy step' f (φ st) = drainBy step f st := by
  induction f generalizing st with
  | zero => simp [drainBy] at hf
  | succ f ih =>
    obtain ⟨hs', sim⟩ := sim st hs
    cases hst : step st with
    | mk st1 p =>
      obtain ⟨o, r⟩ := p
      rw [hst] at hs' sim
      simp only at hs' sim
      rcases step_cases r with hr | ⟨r', rfl, hr⟩
      · rw [drainBy_cont f hst hr] at hf ⊢
        have ih := ih st1 hs' hf
        rcases sim with ⟨e1, e2, _⟩ | sim
        · subst e2
          rw [← e1, drainBy_succ f _ (by rw [ih]; exact hf), ih]
          simp
        · rw [drainBy_cont f sim hr, ih]
      · rcases sim with ⟨_, _, h3⟩ | sim
        · cases h3
        · rw [drainBy_end f hst hr, drainBy_end f sim hr]

end refine

end run

section machine
variable {F : Type}

/-- the caller's `exit_graph` after a subgraph's iterator is exhausted -/
def popOut (rest : List F) (g : Nat) : List Out := if rest.isEmpty then [] else [Out.exit g]

structure Machine (F : Type) where
  step : List F → List F × List Out × Option Res
  fresh : Nat → F
  gOf : F → Nat

variable (M : Machine F) (OK : F → Prop) (spec : F → List Out) (kids : F → List Nat)
  (V : Nat → List Out) (lt : F → F → Prop)

/-- What one step does to a consistent innermost frame, whatever lies below it.  `spec`: what the frame still
    produces (`V h` = a complete visit of subgraph `h`); `kids`: the subgraphs it is still going to enter, in order. -/
inductive Machine.Progress (fr : F) (rest : List F) : Prop
  | stay (fr' : F) (o : List Out) (r : Option Res) :
      M.step (fr :: rest) = (fr' :: rest, o, r) → GoesOn r →
      OK fr' → M.gOf fr' = M.gOf fr → spec fr = o ++ spec fr' → kids fr = kids fr' → lt fr' fr →
      Progress fr rest
  | call (h : Nat) (fr' : F) :
      M.step (fr :: rest) = (M.fresh h :: fr' :: rest, [Out.enter h], none) →
      OK fr' → M.gOf fr' = M.gOf fr → spec fr = V h ++ spec fr' → kids fr = h :: kids fr' → lt fr' fr →
      Progress fr rest
  | ret : M.step (fr :: rest) = (rest, spec fr ++ popOut rest (M.gOf fr), none) → Progress fr rest

/-- **frame completion**.  Neither a rank nor acyclicity is needed at this level: they only serve to find `P`. -/
theorem Machine.complete (wf : WellFounded lt)
    (law : ∀ fr rest, OK fr → M.Progress OK spec kids V lt fr rest)
    {P : Nat → Prop} {body : Nat → List Out} (hV : ∀ h, P h → V h = Out.enter h :: body h)
    (hC : ∀ h fr' rest, P h → Run M.step (M.fresh h :: fr' :: rest) (body h) (fr' :: rest))
    (fr : F) : ∀ rest, OK fr → (∀ h ∈ kids fr, P h) →
      Run M.step (fr :: rest) (spec fr ++ popOut rest (M.gOf fr)) rest := by
  induction fr using wf.induction with
  | _ fr ih =>
    intro rest ok hP
    cases law fr rest ok with
    | stay fr' o r e hr ok' hg hs hk hlt =>
      rw [hs, List.append_assoc, ← hg]; exact .step e hr (ih fr' hlt rest ok' (hk ▸ hP))
    | call h fr' e ok' hg hs hk hlt =>
      rw [hk] at hP
      have hp := hP h (by simp)
      have := (Run.one e (Or.inl rfl)).trans
        ((hC h fr' rest hp).trans (ih fr' hlt rest ok' fun x hx => hP x (by simp [hx])))
      rw [hs, hV h hp, ← hg]
      simpa [List.append_assoc] using this
    | ret e => exact Run.one e (Or.inl rfl)

end machine

end IrVerif.LinkedSet
