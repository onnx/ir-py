/-
C10 helper lemmas: the shapes of the path strings `posixpath._joinrealpath` builds
(`render l` = "/" + "/".join(l) for absolute ones, `relStr k names` = k times ".." then names for
relative ones) and how `join`, `split`, `abspath` act on them.
-/
import IrVerif.Lemmas.Path
namespace IrVerif.Path

theorem piece_dotdot : Piece DOTDOT := by simp [Piece, DOTDOT]
theorem clean_ne_dotdot {c : Str} (h : Clean c) : c ≠ DOTDOT := h.2.2.1

def render (l : Loc) : Str := '/' :: joinSep l
def relStr (k : Nat) (names : List Str) : Str := joinSep (List.replicate k DOTDOT ++ names)

/-- `k` separators followed by the names joined with the separator: what `normpath` returns for an
absolute path (k = 1 or 2) -/
def absStr (k : Nat) (l : Loc) : Str := List.replicate k '/' ++ joinSep l

theorem absStr_one (l : Loc) : absStr 1 l = render l := by simp [absStr, render]

theorem joinSep_append (A B : List Str) (hA : A ≠ []) (hB : B ≠ []) :
    joinSep (A ++ B) = joinSep A ++ '/' :: joinSep B := by
  induction A with
  | nil => exact absurd rfl hA
  | cons a t ih =>
    cases t with
    | nil =>
      cases B with
      | nil => exact absurd rfl hB
      | cons b B' => simp [joinSep]
    | cons a' t' =>
      have := ih (by simp)
      simp only [List.cons_append, joinSep] at this ⊢
      rw [this]; simp

theorem joinSep_append_singleton (l : List Str) (x : Str) (h : l ≠ []) :
    joinSep (l ++ [x]) = joinSep l ++ '/' :: x :=
  joinSep_append l [x] h (by simp)

/-- a join of pieces is empty or starts with a non-separator -/
theorem joinSep_isabs (l : List Str) (h : ∀ c ∈ l, Piece c) : isabs (joinSep l) = false := by
  cases l with
  | nil => simp [joinSep, isabs]
  | cons a t =>
    have ha := h a (by simp)
    cases a with
    | nil => exact absurd rfl ha.1
    | cons c r =>
      have : c ≠ '/' := by
        intro e; subst e; exact ha.2 (by simp)
      cases t <;> simp [joinSep, isabs, this]

theorem getLast?_append_ne_nil (a x : Str) (h : x ≠ []) : (a ++ x).getLast? = x.getLast? := by
  simp only [List.getLast?_append]
  cases hx : x.getLast? with
  | none => simp [List.getLast?_eq_none_iff] at hx; exact absurd hx h
  | some c => simp

theorem endsWithSep_append_piece (a x : Str) (hx : Piece x) : endsWithSep (a ++ x) = false := by
  unfold endsWithSep
  have hne : x ≠ [] := hx.1
  rw [getLast?_append_ne_nil _ _ hne]
  cases hl : x.getLast? with
  | none => simp
  | some c =>
    have hm : c ∈ x := List.mem_of_getLast? hl
    have : c ≠ '/' := by
      intro e; subst e; exact hx.2 hm
    simp [this]

theorem joinSep_endsWithSep (l : List Str) (h : ∀ c ∈ l, Piece c) :
    endsWithSep (joinSep l) = false := by
  induction l with
  | nil => simp [joinSep, endsWithSep]
  | cons a t ih =>
    cases t with
    | nil => simpa [joinSep] using endsWithSep_append_piece [] a (h a (by simp))
    | cons b t =>
      have hj : joinSep (b :: t) ≠ [] := by
        have hb := (h b (by simp)).1
        cases b with
        | nil => exact absurd rfl hb
        | cons c r => cases t <;> simp [joinSep]
      have := ih (fun c hc => h c (by simp [hc]))
      simp only [joinSep]
      unfold endsWithSep at this ⊢
      rw [show a ++ '/' :: joinSep (b :: t) = (a ++ ['/']) ++ joinSep (b :: t) by simp,
        getLast?_append_ne_nil _ _ hj]
      exact this

theorem joinSep_eq_nil (l : List Str) (h : ∀ c ∈ l, Piece c) : joinSep l = [] ↔ l = [] := by
  constructor
  · intro e
    cases l with
    | nil => rfl
    | cons a t =>
      have ha := (h a (by simp)).1
      cases a with
      | nil => exact absurd rfl ha
      | cons c r => cases t <;> simp [joinSep] at e
  · rintro rfl; rfl

theorem Piece.not_abs {c : Str} (h : Piece c) : isabs c = false := by
  simpa [joinSep] using joinSep_isabs [c] (by simpa using h)

/-- `join(path, name)` on a piece-built relative string -/
theorem pjoin_joinSep (l : List Str) (name : Str) (h : ∀ c ∈ l, Piece c) (hn : Piece name) :
    pjoin (joinSep l) name = joinSep (l ++ [name]) := by
  unfold pjoin
  simp only [hn.not_abs, Bool.false_eq_true, if_false]
  by_cases hl : l = []
  · subst hl; simp [joinSep]
  · have h1 : joinSep l ≠ [] := fun e => hl ((joinSep_eq_nil l h).mp e)
    have h2 := joinSep_endsWithSep l h
    simp only [h1, h2, Bool.false_eq_true, or_self, if_false]
    rw [joinSep_append_singleton l name hl]

theorem render_ne_nil (l : Loc) : render l ≠ [] := by simp [render]

theorem render_endsWithSep (l : Loc) (h : ∀ c ∈ l, Piece c) (hl : l ≠ []) :
    endsWithSep (render l) = false := by
  have h1 : joinSep l ≠ [] := fun e => hl ((joinSep_eq_nil l h).mp e)
  have := joinSep_endsWithSep l h
  unfold endsWithSep at this ⊢
  unfold render
  rw [show '/' :: joinSep l = ['/'] ++ joinSep l by simp, getLast?_append_ne_nil _ _ h1]
  exact this

/-- `join(path, name)` on an absolute rendering -/
theorem pjoin_render (l : Loc) (name : Str) (h : ∀ c ∈ l, Piece c) (hn : Piece name) :
    pjoin (render l) name = render (l ++ [name]) := by
  by_cases hl : l = []
  · subst hl; simp [pjoin, render, hn.not_abs, joinSep, endsWithSep]
  · have h2 := render_endsWithSep l h hl
    unfold pjoin
    simp only [hn.not_abs, Bool.false_eq_true, if_false, h2, or_false]
    unfold render
    simp only [reduceCtorEq, if_false]
    rw [joinSep_append_singleton l name hl]
    simp

theorem relParts_eq_nil {k : Nat} {names : List Str} (h : List.replicate k DOTDOT ++ names = []) :
    k = 0 ∧ names = [] := by
  cases k with
  | zero => exact ⟨rfl, by simpa using h⟩
  | succ k => simp [List.replicate_succ] at h

theorem relPieces (k : Nat) (names : List Str) (h : ∀ c ∈ names, Piece c) :
    ∀ c ∈ List.replicate k DOTDOT ++ names, Piece c := by
  intro c hc
  simp only [List.mem_append, List.mem_replicate] at hc
  rcases hc with ⟨_, rfl⟩ | hc
  · exact piece_dotdot
  · exact h c hc

theorem pjoin_relStr (k : Nat) (names : List Str) (name : Str) (h : ∀ c ∈ names, Piece c)
    (hn : Piece name) : pjoin (relStr k names) name = relStr k (names ++ [name]) := by
  unfold relStr
  rw [pjoin_joinSep _ _ (relPieces k names h) hn, List.append_assoc]


theorem eq_nil_or_snoc {α : Type} (l : List α) : l = [] ∨ ∃ l' x, l = l' ++ [x] := by
  induction l with
  | nil => left; rfl
  | cons a t ih =>
    right
    rcases ih with rfl | ⟨l', x, rfl⟩
    · exact ⟨[], a, rfl⟩
    · exact ⟨a :: l', x, rfl⟩

theorem dropWhile_nosep (u v : Str) (h : '/' ∉ u) :
    (u ++ '/' :: v).dropWhile (· ≠ '/') = '/' :: v := by
  induction u with
  | nil => simp
  | cons c r ih =>
    simp only [List.mem_cons, not_or] at h
    have hc : c ≠ '/' := fun e => h.1 e.symm
    simpa [List.dropWhile, hc] using ih h.2

theorem takeWhile_nosep (u v : Str) (h : '/' ∉ u) :
    (u ++ '/' :: v).takeWhile (· ≠ '/') = u := by
  induction u with
  | nil => simp
  | cons c r ih =>
    simp only [List.mem_cons, not_or] at h
    have hc : c ≠ '/' := fun e => h.1 e.symm
    simpa [List.takeWhile, hc] using ih h.2

theorem dropWhile_nosep' (u : Str) (h : '/' ∉ u) : u.dropWhile (· ≠ '/') = [] := by
  induction u with
  | nil => rfl
  | cons c r ih =>
    simp only [List.mem_cons, not_or] at h
    have hc : c ≠ '/' := fun e => h.1 e.symm
    simpa [List.dropWhile, hc] using ih h.2

theorem takeWhile_nosep' (u : Str) (h : '/' ∉ u) : u.takeWhile (· ≠ '/') = u := by
  induction u with
  | nil => rfl
  | cons c r ih =>
    simp only [List.mem_cons, not_or] at h
    have hc : c ≠ '/' := fun e => h.1 e.symm
    simpa [List.takeWhile, hc] using ih h.2

theorem headPart_append (a x : Str) (h : '/' ∉ x) : headPart (a ++ '/' :: x) = a ++ ['/'] := by
  unfold headPart
  have : (a ++ '/' :: x).reverse = x.reverse ++ '/' :: a.reverse := by simp
  rw [this, dropWhile_nosep _ _ (by simpa using h)]
  simp

theorem tailPart_append (a x : Str) (h : '/' ∉ x) : tailPart (a ++ '/' :: x) = x := by
  unfold tailPart
  have : (a ++ '/' :: x).reverse = x.reverse ++ '/' :: a.reverse := by simp
  rw [this, takeWhile_nosep _ _ (by simpa using h)]
  simp

theorem headPart_nosep (x : Str) (h : '/' ∉ x) : headPart x = [] := by
  unfold headPart
  rw [dropWhile_nosep' _ (by simpa using h)]; rfl

theorem tailPart_nosep (x : Str) (h : '/' ∉ x) : tailPart x = x := by
  unfold tailPart
  rw [takeWhile_nosep' _ (by simpa using h)]; simp

theorem dirname_nosep (x : Str) (h : '/' ∉ x) : dirname x = [] := by
  unfold dirname
  simp [headPart_nosep x h]

theorem dirname_root (x : Str) (h : '/' ∉ x) : dirname ('/' :: x) = ['/'] := by
  have := headPart_append [] x h
  simp only [List.nil_append] at this
  unfold dirname
  simp [this]

theorem dirname_append (a x : Str) (h : '/' ∉ x) (ha : a ≠ []) (he : endsWithSep a = false) :
    dirname (a ++ '/' :: x) = a := by
  unfold dirname
  rw [headPart_append a x h]
  obtain ⟨c, hc⟩ : ∃ c, a.getLast? = some c := by
    cases hl : a.getLast? with
    | none => simp [List.getLast?_eq_none_iff] at hl; exact absurd hl ha
    | some c => exact ⟨c, rfl⟩
  have hcs : c ≠ '/' := by
    intro e; subst e; simp [endsWithSep, hc] at he
  obtain ⟨q, hq⟩ := List.getLast?_eq_some_iff.mp hc
  have hall : (a ++ ['/']).all (· = '/') = false := by
    rw [hq]; simp [hcs]
  simp only [hall, ne_eq, List.append_eq_nil_iff, List.cons_ne_self, and_false, not_false_eq_true,
    and_self, if_true]
  unfold rstripSep
  rw [hq]
  simp [List.dropWhile, hcs]


theorem render_snoc (l : Loc) (x : Str) (hl : l ≠ []) :
    render (l ++ [x]) = render l ++ '/' :: x := by
  simp [render, joinSep_append_singleton l x hl]

theorem parentPath_render (l : Loc) (h : ∀ c ∈ l, Clean c) :
    parentPath (render l) = render l.dropLast := by
  unfold parentPath psplit
  simp only [render_ne_nil, ne_eq, not_false_eq_true, if_true]
  rcases eq_nil_or_snoc l with rfl | ⟨l', x, rfl⟩
  · decide
  · have hx : Clean x := h x (by simp)
    have hl' : ∀ c ∈ l', Piece c := fun c hc => (h c (by simp [hc])).piece
    simp only [List.dropLast_concat]
    by_cases hn : l' = []
    · subst hn
      have : render ([] ++ [x]) = '/' :: x := by simp [render, joinSep]
      rw [this, dirname_root x hx.2.2.2]
      have ht := tailPart_append [] x hx.2.2.2
      simp only [List.nil_append] at ht
      rw [ht]
      simp [hx.2.2.1, render, joinSep]
    · rw [render_snoc l' x hn, dirname_append _ x hx.2.2.2 (render_ne_nil l')
        (render_endsWithSep l' hl' hn), tailPart_append _ x hx.2.2.2]
      simp [hx.2.2.1]

theorem relStr_snoc (k : Nat) (names : List Str) (x : Str)
    (hne : List.replicate k DOTDOT ++ names ≠ []) :
    relStr k (names ++ [x]) = relStr k names ++ '/' :: x := by
  unfold relStr
  rw [← List.append_assoc, joinSep_append_singleton _ x hne]

theorem parentPath_relStr_names (k : Nat) (names : List Str) (x : Str)
    (h : ∀ c ∈ names, Clean c) (hx : Clean x) :
    parentPath (relStr k (names ++ [x])) = relStr k names := by
  have hp := relPieces k names (fun c hc => (h c hc).piece)
  unfold parentPath psplit
  by_cases hne : List.replicate k DOTDOT ++ names = []
  · obtain ⟨rfl, rfl⟩ := relParts_eq_nil hne
    have : relStr 0 ([] ++ [x]) = x := by simp [relStr, joinSep]
    rw [this]
    simp only [hx.1, ne_eq, not_false_eq_true, if_true, dirname_nosep x hx.2.2.2,
      tailPart_nosep x hx.2.2.2, hx.2.2.1, if_false]
    simp [relStr, joinSep]
  · rw [relStr_snoc k names x hne]
    have h1 : relStr k names ≠ [] := fun e => hne ((joinSep_eq_nil _ hp).mp e)
    have h2 : endsWithSep (relStr k names) = false := joinSep_endsWithSep _ hp
    have h3 : relStr k names ++ '/' :: x ≠ [] := by simp
    simp only [h3, ne_eq, not_false_eq_true, if_true, dirname_append _ x hx.2.2.2 h1 h2,
      tailPart_append _ x hx.2.2.2, hx.2.2.1, if_false]

theorem relStr_ups (k : Nat) : relStr (k + 1) [] = relStr k [DOTDOT] := by
  simp [relStr, List.replicate_succ']

/-- `..` of a string of `..`s: `split` gives the tail `..`, so `_joinrealpath` appends one more -/
theorem parentPath_relStr_ups (k : Nat) : parentPath (relStr k []) = relStr (k + 1) [] := by
  cases k with
  | zero => decide
  | succ k =>
    have hp := relPieces k [] (by simp)
    have hpd : Piece DOTDOT := piece_dotdot
    -- relStr (k+1) [] = relStr k [] joined with ".."
    have e1 : relStr (k + 1) [] = joinSep (List.replicate k DOTDOT ++ [DOTDOT]) := by
      simp [relStr, List.replicate_succ']
    have e2 : relStr (k + 2) [] = joinSep ((List.replicate k DOTDOT ++ [DOTDOT]) ++ [DOTDOT]) := by
      simp [relStr, List.replicate_succ']
    have hp1 := relPieces k [DOTDOT] (by simpa using piece_dotdot)
    unfold parentPath psplit
    rw [e2, ← pjoin_joinSep _ _ hp1 hpd, e1]
    by_cases hk : List.replicate k DOTDOT = []
    · have : k = 0 := by
        cases k with
        | zero => rfl
        | succ k => simp [List.replicate_succ] at hk
      subst this
      decide
    · have hne : List.replicate k DOTDOT ++ ([] : List Str) ≠ [] := by simpa using hk
      have hj : joinSep (List.replicate k DOTDOT ++ [DOTDOT]) =
          joinSep (List.replicate k DOTDOT) ++ '/' :: DOTDOT :=
        joinSep_append_singleton _ _ hk
      have hp0 : ∀ c ∈ List.replicate k DOTDOT, Piece c := by simpa using hp
      have h1 : joinSep (List.replicate k DOTDOT) ≠ [] := fun e => hk ((joinSep_eq_nil _ hp0).mp e)
      have h2 := joinSep_endsWithSep _ hp0
      rw [hj]
      have h3 : joinSep (List.replicate k DOTDOT) ++ '/' :: DOTDOT ≠ [] := by simp
      simp only [h3, ne_eq, not_false_eq_true, if_true, dirname_append _ DOTDOT hpd.2 h1 h2,
        tailPart_append _ DOTDOT hpd.2]
      rw [pjoin_joinSep _ _ hp0 hpd, ← hj]

/-- k-th ancestor of a location -/
def up (k : Nat) (l : Loc) : Loc := l.take (l.length - k)

theorem up_zero (l : Loc) : up 0 l = l := by simp [up]

theorem dropLast_up (k : Nat) (l : Loc) : (up k l).dropLast = up (k + 1) l := by
  unfold up
  rw [List.dropLast_eq_take, List.take_take, List.length_take, Nat.min_eq_left (Nat.sub_le _ _),
    Nat.min_eq_left (Nat.sub_le _ _), Nat.sub_sub]

/-- `path` (a string built by `_joinrealpath`) names the location `l` -/
inductive Rep (cwd : Loc) : Str → Loc → Prop
  | abs (l : Loc) : (∀ c ∈ l, Clean c) → Rep cwd (render l) l
  | rel (k : Nat) (names : List Str) : (∀ c ∈ names, Clean c) →
      Rep cwd (relStr k names) (up k cwd ++ names)

theorem Rep.root (cwd : Loc) : Rep cwd ['/'] [] := by
  have := Rep.abs (cwd := cwd) [] (by simp)
  simpa [render, joinSep] using this

theorem Rep.empty (cwd : Loc) : Rep cwd [] cwd := by
  have := Rep.rel (cwd := cwd) 0 [] (by simp)
  simpa [relStr, joinSep, up_zero] using this

theorem Rep.push {cwd : Loc} {path : Str} {l : Loc} (h : Rep cwd path l) {name : Str}
    (hn : Clean name) : Rep cwd (pjoin path name) (l ++ [name]) := by
  cases h with
  | abs l hl =>
    rw [pjoin_render l name (fun c hc => (hl c hc).piece) hn.piece]
    exact Rep.abs _ (clean_snoc hl hn)
  | rel k names hl =>
    rw [pjoin_relStr k names name (fun c hc => (hl c hc).piece) hn.piece, List.append_assoc]
    exact Rep.rel _ _ (clean_snoc hl hn)

theorem Rep.parent {cwd : Loc} {path : Str} {l : Loc} (h : Rep cwd path l) :
    Rep cwd (parentPath path) l.dropLast := by
  cases h with
  | abs l hl =>
    rw [parentPath_render l hl]
    exact Rep.abs _ (fun c hc => hl c (List.dropLast_subset _ hc))
  | rel k names hl =>
    rcases eq_nil_or_snoc names with rfl | ⟨n', x, rfl⟩
    · rw [parentPath_relStr_ups, List.append_nil, dropLast_up]
      have := Rep.rel (cwd := cwd) (k + 1) [] (by simp)
      simpa using this
    · rw [parentPath_relStr_names k n' x (fun c hc => hl c (by simp [hc])) (hl x (by simp)),
        ← List.append_assoc, List.dropLast_concat]
      exact Rep.rel _ _ (fun c hc => hl c (by simp [hc]))


theorem isabs_render (l : Loc) : isabs (render l) = true := by simp [render, isabs]

theorem replicate_append_inj (k1 k2 : Nat) (n1 n2 : List Str)
    (h1 : ∀ c ∈ n1, c ≠ DOTDOT) (h2 : ∀ c ∈ n2, c ≠ DOTDOT)
    (e : List.replicate k1 DOTDOT ++ n1 = List.replicate k2 DOTDOT ++ n2) : k1 = k2 ∧ n1 = n2 := by
  induction k1 generalizing k2 with
  | zero =>
    cases k2 with
    | zero => simpa using e
    | succ k2 =>
      simp only [List.replicate_zero, List.nil_append, List.replicate_succ, List.cons_append] at e
      exact absurd rfl (h1 DOTDOT (by rw [e]; simp))
  | succ k1 ih =>
    cases k2 with
    | zero =>
      simp only [List.replicate_zero, List.nil_append, List.replicate_succ, List.cons_append] at e
      exact absurd rfl (h2 DOTDOT (by rw [← e]; simp))
    | succ k2 =>
      simp only [List.replicate_succ, List.cons_append, List.cons.injEq, true_and] at e
      have := ih k2 e
      exact ⟨by omega, this.2⟩

/-- the constructors read backwards (`cases` on `Rep cwd s l` fails when `s`, `l` are not variables) -/
theorem Rep.inv {cwd : Loc} {s : Str} {l : Loc} (h : Rep cwd s l) :
    ((∀ c ∈ l, Clean c) ∧ s = render l) ∨
    (∃ k names, (∀ c ∈ names, Clean c) ∧ s = relStr k names ∧ l = up k cwd ++ names) := by
  cases h with
  | abs _ hl => exact Or.inl ⟨hl, rfl⟩
  | rel k names hn => exact Or.inr ⟨k, names, hn, rfl, rfl⟩

/-- a path string names at most one location -/
theorem Rep.functional {cwd : Loc} {s : Str} {l1 l2 : Loc} (h1 : Rep cwd s l1) (h2 : Rep cwd s l2) :
    l1 = l2 := by
  rcases h1.inv with ⟨hl, hs⟩ | ⟨k, names, hn, hs, rfl⟩
  · rcases h2.inv with ⟨hl', hs'⟩ | ⟨k', names', hn', hs', rfl⟩
    · have e : joinSep l1 = joinSep l2 := by
        have := hs.symm.trans hs'
        simpa [render] using this
      have := congrArg comps e
      rwa [comps_joinSep_piece _ (fun c hc => (hl c hc).piece),
        comps_joinSep_piece _ (fun c hc => (hl' c hc).piece)] at this
    · have := congrArg isabs (hs.symm.trans hs')
      rw [isabs_render, relStr, joinSep_isabs _ (relPieces k' names' (fun c hc => (hn' c hc).piece))] at this
      exact absurd this (by simp)
  · rcases h2.inv with ⟨hl', hs'⟩ | ⟨k', names', hn', hs', rfl⟩
    · have := congrArg isabs (hs.symm.trans hs')
      rw [isabs_render, relStr, joinSep_isabs _ (relPieces k names (fun c hc => (hn c hc).piece))] at this
      exact absurd this (by simp)
    · have := congrArg comps (hs.symm.trans hs')
      unfold relStr at this
      rw [comps_joinSep_piece _ (relPieces k names (fun c hc => (hn c hc).piece)),
        comps_joinSep_piece _ (relPieces k' names' (fun c hc => (hn' c hc).piece))] at this
      obtain ⟨hk, hnn⟩ := replicate_append_inj k k' names names'
        (fun c hc => (hn c hc).2.2.1) (fun c hc => (hn' c hc).2.2.1) this
      subst hk; subst hnn; rfl

theorem splitroot_rooted (t : Str) (ht : isabs t = false) : splitroot ('/' :: t) = (1, t) := by
  cases t with
  | nil => simp [splitroot]
  | cons c r =>
    have hc : c ≠ '/' := by simpa [isabs] using ht
    simp [splitroot, hc]

theorem normpath_rooted (t : Str) (ht : isabs t = false) :
    normpath ('/' :: t) = '/' :: joinSep ((splitSep t).foldl (normStep true) []).reverse := by
  have habs : isabs ('/' :: t) = true := by simp [isabs]
  rw [normpath_abs _ habs]
  unfold normStack
  rw [splitroot_rooted t ht]
  simp

theorem foldl_normStep_clean_push (names st : List Str) (h : ∀ c ∈ names, Clean c) :
    names.foldl (normStep true) st = names.reverse ++ st := by
  induction names generalizing st with
  | nil => simp
  | cons a t ih =>
    have ha := h a (by simp)
    simp only [List.foldl_cons]
    have : normStep true st a = a :: st := by
      unfold normStep
      simp [ha.1, ha.2.1, ha.2.2.1]
    rw [this, ih _ (fun c hc => h c (by simp [hc]))]
    simp

theorem foldl_normStep_ups (k : Nat) (st : List Str) (h : ∀ c ∈ st, Clean c) :
    (List.replicate k DOTDOT).foldl (normStep true) st = st.drop k := by
  induction k generalizing st with
  | zero => simp
  | succ k ih =>
    simp only [List.replicate_succ, List.foldl_cons]
    have : normStep true st DOTDOT = st.tail := by
      unfold normStep
      have h1 : ¬ (DOTDOT = ([] : Str) ∨ DOTDOT = DOT) := by decide
      have h2 : ¬ (DOTDOT ≠ DOTDOT ∨ (true = false ∧ st = []) ∨ st.head? = some DOTDOT) := by
        simp only [ne_eq, not_true_eq_false, Bool.true_eq_false, false_and, false_or]
        cases st with
        | nil => simp
        | cons x t =>
          simp only [List.head?_cons, Option.some.injEq]
          exact (h x (by simp)).2.2.1
      simp only [h1, h2, if_false]
    rw [this, ih _ (fun c hc => h c (List.mem_of_mem_tail hc))]
    simp

theorem reverse_drop_reverse (k : Nat) (l : Loc) : (l.reverse.drop k).reverse = up k l := by
  unfold up
  rw [List.drop_reverse]
  simp

theorem normStep_skip (st : List Str) : normStep true st [] = st := by simp [normStep]

/-- `abspath(cwd_string, path)` of a string that names `l` is the rendering of `l`
(the last step of `realpath`, posixpath.py:436) -/
theorem Rep.abspath_eq {cwd : Loc} {path : Str} {l : Loc} (h : Rep cwd path l)
    (hcwd : ∀ c ∈ cwd, Clean c) : abspath (render cwd) path = render l := by
  cases h with
  | abs l hl =>
    unfold abspath
    simp only [isabs_render, if_true]
    unfold render
    rw [normpath_rooted _ (joinSep_isabs l (fun c hc => (hl c hc).piece))]
    by_cases hn : l = []
    · subst hn; simp [joinSep, splitSep, normStep_skip]
    · rw [splitSep_joinSep l (fun c hc => (hl c hc).2.2.2) hn, foldl_normStep_clean_push l [] hl]
      simp
  | rel k names hn =>
    have hp := relPieces k names (fun c hc => (hn c hc).piece)
    have hcp : ∀ c ∈ cwd, Piece c := fun c hc => (hcwd c hc).piece
    unfold abspath
    have hna : isabs (relStr k names) = false := joinSep_isabs _ hp
    simp only [hna, Bool.false_eq_true, if_false]
    have key : ∀ M : List Str, (∀ c ∈ M, Piece c) →
        ((splitSep (joinSep M)).foldl (normStep true) []) = (M.foldl (normStep true) []) := by
      intro M hM
      by_cases hMn : M = []
      · subst hMn; simp [joinSep, splitSep, normStep_skip]
      · rw [splitSep_joinSep M (fun c hc => (hM c hc).2) hMn]
    have hfold : ((cwd ++ (List.replicate k DOTDOT ++ names)).foldl (normStep true) []).reverse
        = up k cwd ++ names := by
      rw [List.foldl_append, List.foldl_append, foldl_normStep_clean_push cwd [] hcwd,
        foldl_normStep_ups k _ (by simpa using hcwd), foldl_normStep_clean_push names _ hn]
      simp [reverse_drop_reverse]
    have hMp : ∀ c ∈ cwd ++ (List.replicate k DOTDOT ++ names), Piece c := by
      intro c hc
      rcases List.mem_append.mp hc with hc | hc
      · exact hcp c hc
      · exact hp c hc
    by_cases hL : List.replicate k DOTDOT ++ names = []
    · -- path = "" : join gives cwd + "/" (or "/" itself for the root)
      have hrel : relStr k names = [] := by simp [relStr, hL, joinSep]
      obtain ⟨rfl, rfl⟩ := relParts_eq_nil hL
      rw [hrel]
      simp only [up_zero, List.append_nil]
      by_cases hc : cwd = []
      · subst hc; decide
      · have he := render_endsWithSep cwd hcp hc
        unfold pjoin
        simp only [isabs, Bool.false_eq_true, if_false, render_ne_nil, he, or_self]
        unfold render
        simp only [List.cons_append]
        have hab : isabs (joinSep cwd ++ ['/']) = false := by
          have := joinSep_isabs cwd hcp
          have hne : joinSep cwd ≠ [] := fun e => hc ((joinSep_eq_nil cwd hcp).mp e)
          cases hj : joinSep cwd with
          | nil => exact absurd hj hne
          | cons a r => rw [hj] at this; simpa [isabs] using this
        rw [normpath_rooted _ hab, splitSep_append_sep, splitSep_joinSep cwd (fun c hc' => (hcp c hc').2) hc]
        simp only [splitSep, List.foldl_append, List.foldl_cons, List.foldl_nil, normStep_skip]
        rw [foldl_normStep_clean_push cwd [] hcwd]
        simp
    · have hrne : relStr k names ≠ [] := fun e => hL ((joinSep_eq_nil _ hp).mp e)
      -- the joined string is "/" followed by the join of cwd ++ ups ++ names
      have hj : pjoin (render cwd) (relStr k names) =
          '/' :: joinSep (cwd ++ (List.replicate k DOTDOT ++ names)) := by
        unfold pjoin
        simp only [hna, Bool.false_eq_true, if_false, render_ne_nil, false_or]
        by_cases hc : cwd = []
        · subst hc
          simp [render, joinSep, endsWithSep, relStr]
        · have he := render_endsWithSep cwd hcp hc
          simp only [he, Bool.false_eq_true, if_false]
          unfold render relStr
          rw [joinSep_append cwd _ hc hL]
          simp
      rw [hj, normpath_rooted _ (joinSep_isabs _ hMp), key _ hMp, hfold]
      rfl

end IrVerif.Path
