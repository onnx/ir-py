import IrVerif.Lemmas.SerdeWide
import IrVerif.Lemmas.SerdeNormIdem
/-! C02: `wf* p -> fold* p = p` (so the theorems about `wfModelW` contain those about `wfModel`), and the
field-by-field tensor round trip. -/
namespace IrVerif.Serde
open IrVerif.Proto

theorem filter_id_of_all {α : Type} (f : α → Bool) {l : List α} (h : l.all f = true) : l.filter f = l := by
  rw [List.filter_eq_self]
  exact fun a ha => List.all_eq_true.1 h a ha

theorem foldExternal_of_wf {es : List Entry} (hnd : wfEntries es = true)
    (hk : es.all (fun e => ["location", "offset", "length", "checksum"].contains e.key) = true) :
    foldExternal es = es := by
  unfold foldExternal
  rw [dedupLastBy_of_nodup (fun e : Entry => e.key) (nodupStr_iff.1 hnd)]
  exact filter_id_of_all _ hk

theorem foldTensor_of_wf {t : TensorP} (h : wfTensor t = true) : foldTensor t = t := by
  unfold foldTensor
  split
  · rename_i hloc
    simp only [wfTensor, hloc, if_true, Bool.and_eq_true] at h
    obtain ⟨_, ⟨⟨⟨⟨_, hnd⟩, hk⟩, _⟩, _⟩⟩ := h
    rw [foldExternal_of_wf hnd hk]
  · rfl

theorem map_foldTensor_of_wf {ts : List TensorP} (h : ts.all wfTensor = true) : ts.map foldTensor = ts := by
  induction ts with
  | nil => rfl
  | cons t ts ih =>
    simp only [List.all_cons, Bool.and_eq_true] at h
    simp only [List.map_cons, foldTensor_of_wf h.1, ih h.2]

theorem foldVIs_of_wf {I : List String} {vis : List ValueInfoP} (hnd : nodupStr (vis.map (·.name)) = true)
    (hI : ∀ vi ∈ vis, vi.name ∉ I) : foldVIs I vis = vis := by
  unfold foldVIs dedupLastVI
  rw [dedupLastBy_of_nodup (fun v : ValueInfoP => v.name) (nodupStr_iff.1 hnd)]
  rw [List.filter_eq_self]
  intro v hv
  simpa using hI v hv

mutual
theorem foldAttr_of_wf (scopes : Scopes) : ∀ a : AttrP, wfAttr scopes a = true → foldAttr a = a
  | .ref .., _ => rfl
  | .int .., _ => rfl
  | .float .., _ => rfl
  | .string .., _ => rfl
  | .ints .., _ => rfl
  | .floats .., _ => rfl
  | .strings .., _ => rfl
  | .tensor n d t, h => by
    simp only [wfAttr] at h
    simp only [foldAttr, foldTensor_of_wf h]
  | .tensors n d ts, h => by
    simp only [wfAttr] at h
    simp only [foldAttr, map_foldTensor_of_wf h]
  | .graph n d g, h => by
    simp only [wfAttr] at h
    simp only [foldAttr, foldGraph_of_wf scopes g h]
  | .graphs n d gs, h => by
    simp only [wfAttr] at h
    simp only [foldAttr, foldGraphs_of_wf scopes gs h]
  | .typeProto .., _ => rfl
  | .typeProtos .., _ => rfl
  | .undefined .., _ => rfl
  | .sparse .., _ => rfl
  | .unknown .., _ => rfl

theorem foldGraphs_of_wf (scopes : Scopes) : ∀ gs : List GraphP, wfGraphs scopes gs = true →
    foldGraphs gs = gs
  | [], _ => rfl
  | g :: gs, h => by
    simp only [wfGraphs, Bool.and_eq_true] at h
    simp only [foldGraphs, foldGraph_of_wf scopes g h.1, foldGraphs_of_wf scopes gs h.2]

theorem foldAttrs_of_wf (scopes : Scopes) : ∀ as : List AttrP, wfAttrs scopes as = true →
    foldAttrs as = as
  | [], _ => rfl
  | a :: as, h => by
    simp only [wfAttrs, Bool.and_eq_true] at h
    simp only [foldAttrs, foldAttr_of_wf scopes a h.1, foldAttrs_of_wf scopes as h.2]

theorem foldNode_of_wf (scopes : Scopes) : ∀ n : NodeP, wfNode scopes n = true → foldNode n = n
  | .mk inputs outputs name opType domain overload doc attrs metadata devcfgs, h => by
    simp only [foldNode, foldAttrs_of_wf scopes attrs (wfNode_attrs h)]

theorem foldNodes_of_wf (scopes : Scopes) : ∀ ns : List NodeP, wfNodes scopes ns = true →
    foldNodes ns = ns
  | [], _ => rfl
  | n :: ns, h => by
    simp only [wfNodes, Bool.and_eq_true] at h
    simp only [foldNodes, foldNode_of_wf scopes n h.1, foldNodes_of_wf scopes ns h.2]

theorem foldGraph_of_wf (outer : Scopes) : ∀ g : GraphP, wfGraph outer g = true → foldGraph g = g
  | .mk name doc nodes inits inputs outputs vis quant md, h => by
    obtain ⟨hw, hwn⟩ := graphWF_of_wf outer name doc nodes inits inputs outputs vis quant md h
    have hT : inits.all wfTensor = true := by
      rw [List.all_eq_true]
      intro p hp
      have := List.all_eq_true.1 hw.wfInit p hp
      simp only [Bool.and_eq_true] at this
      exact this.1
    simp only [foldGraph, foldNodes_of_wf _ nodes hwn, map_foldTensor_of_wf hT,
      foldVIs_of_wf (nodupStr_iff.2 hw.nodupVis) (fun vi hvi => (hw.visNotIO vi hvi).1)]
end

theorem foldFunction_of_wf (ver : Int) (f : FunctionP) (h : wfFunction ver f = true) :
    foldFunction f = f := by
  simp only [wfFunction, Bool.and_eq_true] at h
  obtain ⟨⟨⟨⟨⟨⟨⟨⟨⟨⟨⟨⟨_, _⟩, _⟩, _⟩, hattrs⟩, _⟩, _⟩, hvnd⟩, _⟩, hops⟩, _⟩, hnodes⟩, _⟩ := h
  have e1 := foldNodes_of_wf _ f.nodes hnodes
  have e2 := foldAttrs_of_wf _ f.attrProtos hattrs
  have e3 : opsetDict f.opsetImport = f.opsetImport :=
    dictByKey_nodup (fun o : OpsetP => o.domain) _ (nodupStr_iff.1 hops)
  have e4 : dedupLastVI f.valueInfo = f.valueInfo :=
    dedupLastBy_of_nodup (fun v : ValueInfoP => v.name) (nodupStr_iff.1 hvnd)
  cases f
  simp only [foldFunction] at e1 e2 e3 e4 ⊢
  simp only [e1, e2, e3, e4]

theorem foldModel_of_wf (m : ModelP) (h : wfModel m = true) : foldModel m = m := by
  simp only [wfModel, Bool.and_eq_true] at h
  obtain ⟨⟨⟨⟨⟨⟨hg, hf⟩, _⟩, hops⟩, _⟩, _⟩, _⟩ := h
  have e1 := foldGraph_of_wf [] m.graph hg
  have e2 := map_eq_self_of_all (foldFunction_of_wf m.irVersion) hf
  have e3 : opsetDict m.opsetImport = m.opsetImport :=
    dictByKey_nodup (fun o : OpsetP => o.domain) _ (nodupStr_iff.1 hops)
  cases m
  simp only [foldModel] at e1 e2 e3 ⊢
  simp only [e1, e2, e3]

/-- below IR version 10 `wfModel` says that no value of the main graph has a name of the
experimental form; in particular no graph input -/
theorem inputsPlain_of_wf (m : ModelP) (h : wfModel m = true) :
    m.irVersion ≥ 10 ∨ inputsPlain m.graph = true := by
  simp only [wfModel, Bool.and_eq_true, Bool.or_eq_true, decide_eq_true_eq] at h
  rcases h.2 with h10 | hexp
  · exact Or.inl h10
  · right
    simp only [inputsPlain, List.all_eq_true]
    intro vi hvi
    have := List.all_eq_true.1 hexp vi.name
      (mem_scopeNames.2 (Or.inl (List.mem_map_of_mem hvi)))
    simpa using this

theorem foldGraph_inputs (g : GraphP) : (foldGraph g).inputs = g.inputs := by
  cases g; rfl

theorem inputsPlain_of_wfW (m : ModelP) (h : wfModelW m = true) :
    m.irVersion ≥ 10 ∨ inputsPlain m.graph = true := by
  simpa [foldModel, foldGraph_inputs, inputsPlain] using inputsPlain_of_wf _ h

/-! ### tensors, field by field -/

theorem ite_default_eq {α : Type} [DecidableEq α] (a d : α) : (if a = d then d else a) = a := by
  split
  · next h => exact h.symm
  · rfl

theorem copyFromTensorP_eq (p : TensorP) : copyFromTensorP p = p := by
  obtain ⟨name, doc, dt, dims, loc, raw, fd, i32, sd, i64, dd, u64, ext, md⟩ := p
  simp only [copyFromTensorP, mergeTensorP, emptyTensorP, List.nil_append, TensorP.mk.injEq, ite_default_eq,
    and_true, true_and]
  cases raw <;> rfl

/-- the field-by-field transcription agrees with `serTensor` on everything `deserialize_tensor`
produces -/
theorem serTensorF_eq (p : TensorP) (t : IRTensor) (h : desTensor p = .ok t) : serTensorF t = serTensor t := by
  unfold desTensor at h
  split at h
  · obtain ⟨off, _, h⟩ := bind_eq_ok h
    obtain ⟨len, _, h⟩ := bind_eq_ok h
    split at h
    · simp only [Except.ok.injEq] at h
      subst h
      simp [serTensorF, serTensor, emptyTensorP]
    · cases h
  · split at h
    · simp only [Except.ok.injEq] at h
      subst h
      simp [serTensorF, serTensor, emptyTensorP]
    · simp only [Except.ok.injEq] at h
      subst h
      simp only [serTensorF, serTensor, copyFromTensorP_eq]
      split
      · rename_i hm
        have : p.metadata = [] := by
          have := dictOfEntries_isEmpty p.metadata
          rw [hm] at this
          simpa using this.symm
        cases p
        simp_all [dictOfEntries, dictUpdate, sortEntries]
      · rfl

theorem normExternal_props (es : List Entry) (hnd : (es.map (·.key)).Nodup) :
    (extKeys.all (fun k => extGet (normExternal es) k == extGet es k)
      && (normExternal es).all (fun e => extKeys.contains e.key)
      && nodupStr ((normExternal es).map (·.key))) = true := by
  have hf : ∀ k e, es.find? (fun e => e.key = k) = some e → e.key = k :=
    fun k e h => by simpa using List.find?_some h
  have hsub : ((normExternal es).map (·.key)).Sublist extKeys := keys_filterMap_key _ _ hf extKeys
  have hnd' : ((normExternal es).map (·.key)).Nodup := hsub.nodup (by decide)
  simp only [Bool.and_eq_true, List.all_eq_true, beq_iff_eq]
  refine ⟨⟨fun k hk => ?_, fun e he => ?_⟩, nodupStr_iff.2 hnd'⟩
  · rw [extGet_eq hnd', extGet_eq hnd]
    unfold normExternal
    rw [find?_filterMap_key _ hf _ (by decide) k]
    exact congrArg _ (if_pos hk)
  · exact List.contains_iff_mem.2 (hsub.subset (List.mem_map_of_mem he))

theorem dedupLastBy_subset {α : Type} (key : α → String) {a : α} :
    ∀ {l : List α}, a ∈ dedupLastBy key l → a ∈ l
  | [], h => by cases h
  | v :: vs, h => by
    simp only [dedupLastBy] at h
    split at h
    · exact List.mem_cons_of_mem _ (dedupLastBy_subset key h)
    · rcases List.mem_cons.1 h with rfl | h
      · exact List.mem_cons_self
      · exact List.mem_cons_of_mem _ (dedupLastBy_subset key h)

theorem dedupLastBy_nodup {α : Type} (key : α → String) :
    ∀ l : List α, ((dedupLastBy key l).map key).Nodup
  | [] => List.nodup_nil
  | v :: vs => by
    simp only [dedupLastBy]
    split
    · exact dedupLastBy_nodup key vs
    · rename_i hany
      rw [List.map_cons, List.nodup_cons]
      refine ⟨?_, dedupLastBy_nodup key vs⟩
      intro hm
      obtain ⟨w, hw, hwk⟩ := List.mem_map.1 hm
      apply hany
      exact List.any_eq_true.2 ⟨w, dedupLastBy_subset key hw, by simp [hwk]⟩

theorem foldExternal_nodup (es : List Entry) : ((foldExternal es).map (·.key)).Nodup := by
  unfold foldExternal
  exact ((List.filter_sublist).map _).nodup (dedupLastBy_nodup (fun e : Entry => e.key) es)

theorem tensor_fields (p : TensorP) (h : wfTensorW p = true) :
    ∃ t, desTensor p = .ok t ∧ tensorFieldsKept (serTensorF t) p = true := by
  obtain ⟨t, h1, h2, _⟩ := tensor_roundtrip (foldTensor p) h
  rw [desTensor_foldTensor] at h1
  refine ⟨t, h1, ?_⟩
  rw [serTensorF_eq p t h1, h2]
  unfold foldTensor
  split
  · rename_i hloc
    have hp := normExternal_props (foldExternal p.externalData) (foldExternal_nodup _)
    simp only [Bool.and_eq_true] at hp
    have hk : extKeys.all (fun k => extGet (normExternal (foldExternal p.externalData)) k
        == extGet p.externalData k) = true := by
      rw [List.all_eq_true]
      intro k hk
      have := List.all_eq_true.1 hp.1.1 k hk
      rw [extGet_foldExternal p.externalData hk] at this
      exact this
    have h2' : ∀ x ∈ normExternal (foldExternal p.externalData), x.key ∈ extKeys := by
      intro x hx
      simpa using List.all_eq_true.1 hp.1.2 x hx
    simp [tensorFieldsKept, normTensor, hloc, hk, hp.2]
    exact h2'
  · rename_i hloc
    simp [tensorFieldsKept, normTensor, hloc]

end IrVerif.Serde
