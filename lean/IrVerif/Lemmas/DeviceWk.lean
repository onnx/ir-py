/-
C19 - the weak invariant `Wk.DevOK G`: `DevOK` without "one spec per value" and with the axis clauses of `SpecWF`
only for the specs whose target is outside the ghost predicate `G` (`True` stands where a clause of `NodeOK` is
left out).  It is `Inv.DevOK False G` (`Wk.DevOK_iff`), so nothing is proved about it here: the theorems of this
file are the readings of `Lemmas/DeviceInv.lean` / `Lemmas/DeviceOps.lean` at the weak invariant.  `Props/C19.lean`
uses `Wk.DevOK_iff`, `Wk.NodeOK_of_strong`, `Wk.Fresh`, `Wk.stepD_ok`, `Wk.stepD_vlen`; the other readings have no
user in the development.  `Wk.keepIO`, `Wk.Detached`, `Wk.VmOK`, `Wk.CloneInv` have the bodies of their namesakes in
`IrVerif.Device`; `Wk.nodup_reverse'`, `Wk.nodup_map_of_inj_on` at the end are `ListFacts.nodup_reverse`,
`ListFacts.nodup_map_of_inj_on`.  Core Lean only.
-/
import IrVerif.Lemmas.Device
namespace IrVerif.Device.Wk

/-- `SpecWF` with the axis clauses only outside the ghost predicate -/
def SpecWF (G : VId → Prop) (w : World) (numDev : Int) (s : Spec) : Prop :=
  (¬ G s.value → ∀ d ∈ s.dims, ¬ AxisBad (rankOf (w.value s.value)) d.axis) ∧
  (¬ G s.value → (s.dims.map (fun d => normAxis (rankOf (w.value s.value)) d.axis)).Nodup) ∧
  (∀ d ∈ s.dims, 1 ≤ d.numShards) ∧
  (∀ d ∈ s.device, 0 ≤ d ∧ d < numDev)

/-- `NodeOK` without "one spec per value" (`True` in its place) -/
def NodeOK (G : VId → Prop) (w : World) (nd : NodeS) : Prop :=
  NodeIds w nd ∧
  (nd.dev.map (·.cfg)).Nodup ∧
  ∀ nc ∈ nd.dev,
    nc.cfg < w.cfgs.length ∧
    (∀ st, nc.stage = some st → 0 ≤ st) ∧
    True ∧
    ∀ s ∈ nc.specs, InIO nd s.value ∧ SpecWF G w (w.cfg nc.cfg).numDevices s

def DevOK (G : VId → Prop) (w : World) : Prop :=
  (∀ nd ∈ w.nodes, NodeOK G w nd) ∧ (∀ ms ∈ w.models, ModelOK w ms)

/-- the ghost predicate contains every value id from `n` on (the ids that do not exist yet) -/
class Fresh (G : VId → Prop) (n : Nat) : Prop where
  out : ∀ v, n ≤ v → G v

variable {G : VId → Prop}

instance (n : Nat) [h : Fresh G n] : Inv.GhostUp G n := ⟨fun _ b _ hb => h.out b hb⟩

theorem NodeOK_iff {w : World} {nd : NodeS} : NodeOK G w nd ↔ Inv.NodeOK False G w nd := by
  simp only [NodeOK, Inv.NodeOK, SpecWF, Inv.SpecWF, false_implies]

theorem DevOK_iff {w : World} : DevOK G w ↔ Inv.DevOK False G w := by
  simp only [DevOK, Inv.DevOK, NodeOK_iff]

theorem NodeOK_of_strong {w : World} {nd : NodeS} (h : IrVerif.Device.NodeOK w nd) : NodeOK G w nd :=
  NodeOK_iff.2 (Inv.NodeOK.of_strong h)

theorem NodeOK.ext {w w' : World} (h : Ext w w') {nd : NodeS} (hn : NodeOK G w nd) : NodeOK G w' nd :=
  NodeOK_iff.2 (Inv.NodeOK.ext h (NodeOK_iff.1 hn))

theorem DevOK.node {w : World} (h : DevOK G w) (n : NId) : NodeOK G w (w.node n) :=
  NodeOK_iff.2 (Inv.DevOK.node (DevOK_iff.1 h) n)

theorem DevOK.model {w : World} (h : DevOK G w) (m : MId) : ModelOK w (w.model m) :=
  Inv.DevOK.model (DevOK_iff.1 h) m

theorem mergeSpecs_nodup {rank : Option Nat} {v : VId} {axis : Int} {devs : List Int} {newDim : SDim}
    {l sp : List Spec} (h : mergeSpecs rank v axis devs newDim l = some sp)
    (hl : (l.map (·.value)).Nodup) : (sp.map (·.value)).Nodup :=
  IrVerif.Device.mergeSpecs_nodup h hl

theorem InIO_dev (nd : NodeS) (d : List NodeCfg) (v : VId) : InIO { nd with dev := d } v ↔ InIO nd v := Iff.rfl

theorem NodeIds_dev (w : World) (nd : NodeS) (d : List NodeCfg) : NodeIds w { nd with dev := d } ↔ NodeIds w nd := Iff.rfl

def keepIO (nd' : NodeS) (dev : List NodeCfg) : List NodeCfg :=
  dev.map (fun nc => { nc with specs := nc.specs.filter (fun s => decide (InIO nd' s.value)) })

theorem dropSharding_inputs (nd : NodeS) (v : VId) : (dropSharding nd v).inputs = nd.inputs :=
  IrVerif.Device.dropSharding_inputs nd v

theorem dropSharding_outputs (nd : NodeS) (v : VId) : (dropSharding nd v).outputs = nd.outputs :=
  IrVerif.Device.dropSharding_outputs nd v

structure Detached (nd nd' : NodeS) : Prop where
  dev : nd'.dev = keepIO nd' nd.dev
  io : ∀ v, InIO nd' v → InIO nd v

theorem replaceInputNode_detached_none {nd : NodeS} (i : Nat)
    (H : ∀ nc ∈ nd.dev, ∀ s ∈ nc.specs, InIO nd s.value) : Detached nd (replaceInputNode nd i none) :=
  ⟨replaceInputNode_dev i none H, fun _ h => InIO_replace_none h⟩

theorem removeTarget_mem {w : World} {ms : ModelS} {r : CfgRef} {t : CId}
    (h : removeTarget w ms r = some t) : t ∈ ms.cfgs :=
  IrVerif.Device.removeTarget_mem h

theorem vlookup_zip {outs news : List VId} (hlen : outs.length = news.length) (vm : VMap) (a b : VId)
    (h : vlookup ((outs.zip news).reverse ++ vm) a = some b) :
    (a ∈ outs ∧ b ∈ news) ∨ (a ∉ outs ∧ vlookup vm a = some b) :=
  IrVerif.Device.vlookup_zip hlen vm a b h

structure VmOK (w wc : World) (vm : VMap) : Prop where
  lt : ∀ p ∈ vm, p.2 < wc.values.length
  fresh : ∀ p ∈ vm, w.values.length ≤ p.2
  shape : ∀ p ∈ vm, p.1 < w.values.length → (wc.value p.2).shape = (w.value p.1).shape
  inj : (vm.map (·.2)).Nodup

/-- `Inv.CloneInv` at the weak invariant (`CloneInv_iff`) -/
structure CloneInv (G : VId → Prop) (w : World) (cfgs : List CId) (wc : World) (vm : VMap) : Prop where
  ext : Ext w wc
  cfgsEq : wc.cfgs = w.cfgs
  models : wc.models = w.models
  nodes : ∃ extra, wc.nodes = w.nodes ++ extra ∧ ∀ nd ∈ extra, NodeOK G wc nd ∧ ∀ nc ∈ nd.dev, nc.cfg ∈ cfgs
  vmok : VmOK w wc vm
  vals : ∃ extra, wc.values = w.values ++ extra

theorem CloneInv_iff {w : World} {cfgs : List CId} {wc : World} {vm : VMap} :
    CloneInv G w cfgs wc vm ↔ Inv.CloneInv False G w cfgs wc vm := by
  constructor
  · rintro ⟨a, b, c, ⟨extra, hex, hok⟩, e, f⟩
    exact ⟨a, b, c, ⟨extra, hex, fun nd hnd => ⟨NodeOK_iff.1 (hok nd hnd).1, (hok nd hnd).2⟩⟩,
      ⟨e.lt, e.fresh, e.shape, e.inj⟩, f⟩
  · rintro ⟨a, b, c, ⟨extra, hex, hok⟩, e, f⟩
    exact ⟨a, b, c, ⟨extra, hex, fun nd hnd => ⟨NodeOK_iff.2 (hok nd hnd).1, (hok nd hnd).2⟩⟩,
      ⟨e.lt, e.fresh, e.shape, e.inj⟩, f⟩

theorem CloneInv.init (w : World) (cfgs : List CId) : CloneInv G w cfgs w [] :=
  ⟨Ext.refl w, rfl, rfl, ⟨[], by simp, by simp⟩, ⟨by simp, by simp, by simp, by simp⟩, ⟨[], by simp⟩⟩

theorem Ext.of_append {w w' : World} (extra : List ValueS) (hv : w'.values = w.values ++ extra)
    (hc : w'.cfgs = w.cfgs) : Ext w w' :=
  IrVerif.Device.Ext.of_append extra hv hc

theorem DevOK_clone {w : World} [hGf : Fresh G w.values.length] (h : DevOK G w) (m : MId) (hpre : Pre w (.clone m)) :
    DevOK G (cloneModel w m).1 :=
  DevOK_iff.2 (Inv.DevOK_clone (DevOK_iff.1 h) m hpre)

/-! ### every operation preserves `Wk.DevOK G`: `Inv.DevOK_<op>` at `U := False` -/

theorem DevOK_setStage {w : World} (h : DevOK G w) (n : NId) (c : CId) (stage : Int)
    (hpre : Pre w (.setStage n c stage)) : DevOK G (setStage w n c stage).1 :=
  DevOK_iff.2 (Inv.DevOK_setStage (DevOK_iff.1 h) n c stage hpre)

theorem DevOK_replaceInput {w : World} (h : DevOK G w) (n : NId) (i : Int) (val : Option VId)
    (hpre : Pre w (.replaceInput n i val)) : DevOK G (replaceInput w n i val).1 :=
  DevOK_iff.2 (Inv.DevOK_replaceInput (DevOK_iff.1 h) n i val hpre)

theorem DevOK_resizeInputs {w : World} (h : DevOK G w) (n : NId) (k : Nat) :
    DevOK G (resizeInputs w n k).1 :=
  DevOK_iff.2 (Inv.DevOK_resizeInputs (DevOK_iff.1 h) n k)

theorem DevOK_resizeOutputs {w : World} (h : DevOK G w) (n : NId) (k : Nat) :
    DevOK G (resizeOutputs w n k).1 :=
  DevOK_iff.2 (Inv.DevOK_resizeOutputs (DevOK_iff.1 h) n k)

theorem DevOK_rename {w : World} (h : DevOK G w) (v : VId) (s : String) : DevOK G (rename w v s).1 :=
  DevOK_iff.2 (Inv.DevOK_rename (DevOK_iff.1 h) v s)

theorem DevOK_setShape {w : World} (h : DevOK G w) (v : VId) (shape : Option (List Dim))
    (hpre : Pre w (.setShape v shape)) : DevOK G (setShape w v shape).1 :=
  DevOK_iff.2 (Inv.DevOK_setShape (DevOK_iff.1 h) v shape hpre)

theorem DevOK_newModel {w : World} (h : DevOK G w) (ir : Nat) : DevOK G (newModel w ir).1 :=
  DevOK_iff.2 (Inv.DevOK_newModel (DevOK_iff.1 h) ir)

theorem DevOK_newInput {w : World} (h : DevOK G w) (g : GId) (name : String) (shape : Option (List Dim)) :
    DevOK G (newInput w g name shape).1 :=
  DevOK_iff.2 (Inv.DevOK_newInput (DevOK_iff.1 h) g name shape)

theorem DevOK_newInit {w : World} (h : DevOK G w) (g : GId) (name : String) (shape : Option (List Dim)) :
    DevOK G (newInit w g name shape).1 :=
  DevOK_iff.2 (Inv.DevOK_newInit (DevOK_iff.1 h) g name shape)

theorem DevOK_newSubgraph {w : World} (h : DevOK G w) (n : NId) : DevOK G (newSubgraph w n).1 :=
  DevOK_iff.2 (Inv.DevOK_newSubgraph (DevOK_iff.1 h) n)

theorem DevOK_newNode {w : World} (h : DevOK G w) (g : GId) (ins : List (Option VId))
    (outs : List (String × Option (List Dim))) (hpre : Pre w (.newNode g ins outs)) :
    DevOK G (newNode w g ins outs).1 :=
  DevOK_iff.2 (Inv.DevOK_newNode (DevOK_iff.1 h) g ins outs hpre)

theorem DevOK_removeNode {w : World} (h : DevOK G w) (g : GId) (n : NId) (safe : Bool) :
    DevOK G (removeNode w g n safe).1 :=
  DevOK_iff.2 (Inv.DevOK_removeNode (DevOK_iff.1 h) g n safe)

theorem DevOK_addCfg {w : World} (h : DevOK G w) (m : MId) (name : String) (num : Option Int)
    (names : List String) : DevOK G (addCfg w m name num names).1 :=
  DevOK_iff.2 (Inv.DevOK_addCfg (DevOK_iff.1 h) m name num names)

theorem DevOK_removeCfg {w : World} (h : DevOK G w) (m : MId) (r : CfgRef) :
    DevOK G (removeCfg w m r true).1 :=
  DevOK_iff.2 (Inv.DevOK_removeCfg (DevOK_iff.1 h) m r)

theorem DevOK_newFunction {w : World} (h : DevOK G w) (m : MId) : DevOK G (newFunction w m).1 :=
  DevOK_iff.2 (Inv.DevOK_newFunction (DevOK_iff.1 h) m)

theorem DevOK_cloneFunc {w : World} [hGf : Fresh G w.values.length] (h : DevOK G w) (m : MId) (i : Nat) (hpre : Pre w (.cloneFunc m i)) :
    DevOK G (cloneFunc w m i).1 :=
  DevOK_iff.2 (Inv.DevOK_cloneFunc (DevOK_iff.1 h) m i hpre)

theorem DevOK_cloneSub {w : World} [hGf : Fresh G w.values.length] (h : DevOK G w) (n : NId) (g : GId) (hpre : Pre w (.cloneSub n g)) :
    DevOK G (cloneSub w n g).1 :=
  DevOK_iff.2 (Inv.DevOK_cloneSub (DevOK_iff.1 h) n g hpre)

theorem DevOK_shard {w : World} (h : DevOK G w) (n : NId) (v : VId) (c : CId) (axis k : Int)
    (devs : List Int) (stage : Option Int)
    (hpre : Pre w (.shard n v c axis k devs stage)) :
    DevOK G (shard w n v c axis k devs stage).1 :=
  DevOK_iff.2 (Inv.DevOK_shard (DevOK_iff.1 h) n v c axis k devs stage hpre)

theorem DevOK_setDev {w : World} (h : DevOK G w) (n : NId) (dev : List NodeCfg) (hpre : Pre w (.setDev n dev)) :
    DevOK G (setDev w n dev).1 :=
  DevOK_iff.2 (Inv.DevOK_setDev (DevOK_iff.1 h) n dev hpre)

theorem DevOK_setModelCfgs {w : World} (h : DevOK G w) (m : MId) (cfgs : List CId)
    (hpre : Pre w (.setModelCfgs m cfgs)) : DevOK G (setModelCfgs w m cfgs).1 :=
  DevOK_iff.2 (Inv.DevOK_setModelCfgs (DevOK_iff.1 h) m cfgs hpre)

theorem DevOK_attachNode {w : World} (h : DevOK G w) (g : GId) (n : NId) (hpre : Pre w (.attachNode g n)) :
    DevOK G (attachNode w g n).1 :=
  DevOK_iff.2 (Inv.DevOK_attachNode (DevOK_iff.1 h) g n hpre)

theorem nodup_reverse' {α : Type} {l : List α} : l.reverse.Nodup ↔ l.Nodup :=
  ListFacts.nodup_reverse

theorem nodup_map_of_inj_on {α β : Type} {f : α → β} : ∀ {l : List α}, l.Nodup →
    (∀ a ∈ l, ∀ b ∈ l, f a = f b → a = b) → (l.map f).Nodup :=
  fun hl hinj => ListFacts.nodup_map_of_inj_on hl hinj

end IrVerif.Device.Wk
