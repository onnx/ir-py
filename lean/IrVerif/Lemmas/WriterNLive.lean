/-
C09, general model: the invariants together (`Inv`), enabledness (`progress`), and termination for any weights
satisfying `Weights` (`variant` is the instance `stdW`).
-/
import IrVerif.Lemmas.WriterNJobs
namespace IrVerif.WriterN

/-- no step ever un-creates a pool -/
theorem owner_step {cfg : Cfg} {s s' : State} {l : Label} (hst : StepRel cfg s l s') (q0 : Nat) :
    (s'.pl q0).owner = (s.pl q0).owner ∨ (s'.pl q0).owner ≠ .notCreated := by
  have set1 : ∀ {q : Nat} {P P' : PoolSt}, s.pools[q]? = some P →
      (P'.owner = P.owner ∨ P'.owner ≠ .notCreated) →
      ((s.pools.set q P').getD q0 default).owner = (s.pl q0).owner ∨
      ((s.pools.set q P').getD q0 default).owner ≠ .notCreated := by
    intro q P P' hP hnc
    rw [pl_upd hP]; split
    · rename_i e; subst e
      rcases hnc with h | h
      · left; rw [h, pl_of_get hP]
      · exact Or.inr h
    · exact Or.inl rfl
  cases hst with
  | submit q c k j P hP hk hj => exact set1 hP (Or.inr (by simp only; split <;> simp))
  | collect q c j ok P hP hm hjj hf =>
      rcases collectOne_cases cfg s q P j ok with ⟨_, _, e⟩ | ⟨_, _, e⟩ | ⟨_, _, e⟩ | ⟨_, _, e⟩ <;> rw [e]
      · exact set1 hP (Or.inr (by simp))
      · exact set1 hP (Or.inr (by simp))
      · exact set1 hP (Or.inr (by simp))
      · exact set1 hP (Or.inl rfl)
  | joinRoot q c e P hP hm hex hpar => exact set1 hP (Or.inr (by simp))
  | joinSub q c e P jp hP hm hex hpar =>
      simp only [State.pl]; rw [addIdle_owner]; exact set1 hP (Or.inr (by simp))
  | takeSerial q j rest P hP hq hidle hsub =>
      exact set1 (P' := { P with queue := rest, idle := P.idle - 1 }) hP (Or.inl rfl)
  | takeSub q j rest P q' hP hq hidle hsub =>
      simp only [State.pl]; rw [createPool_get]; split
      · exact Or.inr (by simp)
      · exact set1 (P' := { P with queue := rest, idle := P.idle - 1 }) hP (Or.inl rfl)
  | exit q P hP hq hsd hidle =>
      exact set1 (P' := { P with idle := P.idle - 1, exited := P.exited + 1 }) hP (Or.inl rfl)
  | cbAcqIn i hi hl => exact Or.inl rfl
  | cbAcq i hi hl => exact Or.inl rfl
  | cbFail i hi hf => exact Or.inl (finishTask_pl _ i false q0).2
  | cbOk i hi hf => exact Or.inl rfl
  | tAcq i hi hl => exact Or.inl rfl
  | bTry i p hi hp' =>
      rcases budgetTry_cases cfg s i with ⟨_, _, e⟩ | ⟨_, _, e⟩ | ⟨_, _, e⟩ | ⟨_, _, e⟩ <;> rw [e] <;>
        exact Or.inl rfl
  | writeFail i hi hf => exact Or.inl rfl
  | writeOk i hi hf => exact Or.inl rfl
  | bRel i ok hi => unfold budgetRelease; exact Or.inl (finishTask_pl _ i ok q0).2

/-- `S` structure, `L` locks and budget, `P` pool accounting, `W` waiters, `J` jobs' futures, `C` collected futures
    (then `K` outcomes and `G` the callback log: `Reach`) -/
structure Inv (cfg : Cfg) (st : State) : Prop where
  s : SInv cfg st
  l : LInv cfg st
  p : PInv cfg st
  w : WInv cfg st
  j : JInv cfg st
  c : CInv cfg st
  root : (st.pl 0).owner ≠ .notCreated

theorem Inv_init {cfg : Cfg} (wf : WF cfg) : Inv cfg (init cfg) := by
  refine ⟨SInv_init wf, LInv_init cfg, PInv_init wf, WInv_init cfg, JInv_init cfg, CInv_init cfg, ?_⟩
  rw [init_pl]; simp [wf.pools_pos, initPool]

theorem Inv_step {cfg : Cfg} (wf : WF cfg) {s s' : State} {l : Label} (h : Inv cfg s)
    (hr : StepRel cfg s l s') : Inv cfg s' := by
  refine ⟨SInv_step wf h.s hr, LInv_step wf h.s h.l hr, PInv_step wf h.s h.p hr,
    WInv_step h.w hr, JInv_step wf h.s h.j hr, CInv_step wf h.s h.c hr, ?_⟩
  rcases owner_step hr 0 with e | e
  · rw [e]; exact h.root
  · exact e


def free : Pc → Bool
  | .cbBody | .bAcq | .woken | .write | .bRel _ => true
  | _ => false

theorem stepTask_free {cfg : Cfg} {s : State} {i : Nat} {p : Pc} (hi : s.tasks[i]? = some p)
    (hp : free p = true) : (stepTask cfg s i).isSome = true := by
  unfold stepTask
  rw [hi]
  cases p <;> simp [free] at hp ⊢
  · split <;> simp
  · split <;> simp

theorem active_enabled {cfg : Cfg} (wf : WF cfg) {s : State} (h : Inv cfg s) {i : Nat} {p : Pc}
    (hi : s.tasks[i]? = some p) (hp : act p = true) : ∃ k, (stepTask cfg s k).isSome = true := by
  by_cases hE : ∃ (k : Nat) (q : Pc), s.tasks[k]? = some q ∧ free q = true
  · obtain ⟨k, q, hk, hq⟩ := hE
    exact ⟨k, stepTask_free hk hq⟩
  have hnf : ∀ (k : Nat) (q : Pc), s.tasks[k]? = some q → free q = false := by
    intro k q hk
    cases hq : free q
    · rfl
    · exact absurd ⟨k, q, hk, hq⟩ hE
  have hcbF : s.cbLock = false := h.l.cb_free fun k hk => by have := hnf k _ hk; simp [free] at this
  -- somebody about to take the (free) callback lock can run
  by_cases hE2 : ∃ k : Nat, s.tasks[k]? = some .cbAcq
  · obtain ⟨k, hk⟩ := hE2
    exact ⟨k, by unfold stepTask; rw [hk]; simp [hcbF]⟩
  have hnc : ∀ k : Nat, s.tasks[k]? ≠ some .cbAcq := fun k hk => hE2 ⟨k, hk⟩
  -- then nobody holds an inner callback lock: somebody waiting for one can run
  by_cases hE3 : ∃ k : Nat, s.tasks[k]? = some .cbAcqIn
  · obtain ⟨k, hk⟩ := hE3
    have hkl : k < cfg.n := by rw [← h.s.tasks_len]; exact getElem?_lt hk
    have := h.l.cin_free (wf.poolOf_lt hkl) fun k' q hk' _ => by
      have h1 := hnf k' q hk'
      cases q <;> simp [free] at h1 <;> simp [inIn]
      exact absurd hk' (hnc k')
    exact ⟨k, by unfold stepTask; rw [hk, this]; rfl⟩
  have hni : ∀ k : Nat, s.tasks[k]? ≠ some .cbAcqIn := fun k hk => hE3 ⟨k, hk⟩
  obtain ⟨hinf, hov⟩ := h.l.budget_free fun k q hk => by
    have := hnf k q hk; cases q <;> simp [free] at this <;> rfl
  have hnw : ∀ k : Nat, s.tasks[k]? ≠ some .waiting := by
    intro k hk
    have := h.w k hk
    by_cases hc : cfg.size k > cfg.capacity
    · have := this.1 hc; rw [hov] at this; simp at this
    · have := this.2 (by omega); omega
  have hil : i < cfg.n := by rw [← h.s.tasks_len]; exact getElem?_lt hi
  refine ⟨i, ?_⟩
  have hfp := hnf i p hi
  unfold stepTask
  rw [hi]
  cases p <;> simp [free] at hfp <;> simp at hp
  · -- tAcq: nobody is inside a tensor section (all of its program counters have been excluded)
    have := h.l.tl_free (wf.obj_lt i hil) fun k q hk _ => by
      have h1 := hnf k q hk
      cases q <;> simp [free] at h1 <;> simp [inT]
      · exact absurd hk (hni k)
      · exact absurd hk (hnc k)
      · exact absurd hk (hnw k)
    rw [this]; rfl
  · exact absurd hi (hni i)
  · exact absurd hi (hnc i)
  · exact absurd hi (hnw i)

theorem no_act_sum {cfg : Cfg} {s : State}
    (h : ∀ (i : Nat) (p : Pc), s.tasks[i]? = some p → act p = false) (q : Nat) :
    wsum (fActQ cfg q) 0 s.tasks = 0 :=
  wsum_eq_zero _ _ _ (by intro k p hk; simp [fActQ, h k p hk])

/-- with no tensor in progress, the owner of any live pool — or somebody below it — can run -/
theorem owner_progress {cfg : Cfg} (wf : WF cfg) {s : State} (h : Inv cfg s)
    (hna : ∀ (i : Nat) (p : Pc), s.tasks[i]? = some p → act p = false) :
    ∀ q, ownAct (s.pl q).owner = true → ∃ l, (step cfg s l).isSome = true := by
  refine wf.pool_descent fun q ih ho => ?_
  · have hql : q < s.pools.length := pl_lt_of_owner (by intro e; rw [e] at ho; simp [ownAct] at ho)
    have hqn : q < cfg.nPools := by rw [← h.s.pools_len]; exact hql
    have hget := pl_get hql
    have hnc : (s.pl q).owner ≠ .notCreated := by intro e; rw [e] at ho; simp [ownAct] at ho
    have hpool := h.p.pool q hnc
    rw [no_act_sum hna] at hpool
    -- a live sub pool owned from here: descend
    by_cases hO : 0 < wsum (fOwnQ cfg q) 0 s.pools
    · obtain ⟨q', P', hP', hpos⟩ := wsum_pos_exists _ _ _ hO
      simp only [Nat.zero_add, fOwnQ] at hpos
      split at hpos
      · rename_i hc
        have hq'n : q' < cfg.nPools := by rw [← h.s.pools_len]; exact getElem?_lt hP'
        exact ih q' hq'n hc.2 (by rw [pl_of_get hP']; exact hc.1)
      · omega
    have hO0 : wsum (fOwnQ cfg q) 0 s.pools = 0 := by omega
    rw [hO0] at hpool
    have take_or_exit : (s.pl q).idle > 0 → ((s.pl q).queue ≠ [] ∨ (s.pl q).shutdown = true) →
        ∃ l, (step cfg s l).isSome = true := by
      intro hidle hqs
      cases hq : (s.pl q).queue with
      | nil =>
          rcases hqs with hqs | hqs
          · exact absurd hq hqs
          · exact ⟨.exit q, by simp [step, stepExit, hget, hq, hqs, hidle]⟩
      | cons j rest =>
          refine ⟨.take q, ?_⟩
          have : (s.pl q).idle ≠ 0 := by omega
          simp only [step, stepTake, hget, hq, this, if_false]
          split <;> simp
    cases hown : (s.pl q).owner with
    | notCreated => exact absurd hown hnc
    | closed e => rw [hown] at ho; simp [ownAct] at ho
    | submit k =>
        have hk := h.p.sub_lt q k hown
        refine ⟨.owner q 0, ?_⟩
        simp only [step, stepOwner, hget, hown]
        rw [List.getElem?_eq_getElem hk]; simp
    | join e =>
        have hsd : (s.pl q).shutdown = true := (h.p.sd_main q).2 ⟨e, Or.inl hown⟩
        by_cases hex : (s.pl q).exited = (cfg.pool q).size
        · refine ⟨.owner q 0, ?_⟩
          simp only [step, stepOwner, hget, hown, hex, if_true]
          split <;> simp
        · exact take_or_exit (by omega) (Or.inr hsd)
    | collect =>
        obtain ⟨hsd, hex⟩ := (h.p.ok q).running (Or.inl hown)
        have hidle : (s.pl q).idle > 0 := by have := wf.size_pos q hqn; omega
        by_cases hq' : (s.pl q).queue ≠ []
        · exact take_or_exit hidle (Or.inl hq')
        have hq : (s.pl q).queue = [] := by
          cases hh : (s.pl q).queue with
          | nil => rfl
          | cons a b => exact absurd (by rw [hh]; simp) hq'
        have hdone : ∀ j, j ∈ (cfg.pool q).jobs → (futDone s j).isSome = true := by
          intro j hj
          obtain ⟨hjl, hjp, _⟩ := wf.job_pool q j hj
          have hjf : j < s.futs.length := by rw [h.s.futs_len]; exact hjl
          obtain ⟨k, hk⟩ := List.getElem?_of_mem hj
          unfold futDone
          rw [List.getElem?_eq_getElem hjf]
          cases hf : s.futs[j] with
          | ok => rfl
          | err => rfl
          | pending =>
              have := h.j.pend_q q k j (by simp [nsub, hown]; exact getElem?_lt hk) hk
                (by rw [List.getElem?_eq_getElem hjf, hf])
              rw [hq] at this; simp at this
          | running =>
              rcases h.j.run_act j (by rw [List.getElem?_eq_getElem hjf, hf]) with
                ⟨i, p, _, hi, hp⟩ | ⟨q', hsub, hact⟩
              · rw [hna i p hi] at hp; simp at hp
              · exfalso
                obtain ⟨hq'l, hpar, _⟩ := wf.sub_pool j q' hjl hsub
                have hq'len : q' < s.pools.length := by rw [h.s.pools_len]; exact hq'l
                have hg := pl_get hq'len
                have := wsum_ge0 (fOwnQ cfg q) hg
                simp [fOwnQ, hact, parentPool, hpar, hjp] at this
                omega
          | cancelled =>
              have := h.j.canc_sd j (by rw [List.getElem?_eq_getElem hjf, hf])
              rw [hjp, hsd] at this; simp at this
        have hlen := h.c.len q hown
        cases hmode : (cfg.pool q).asCompleted with
        | true =>
            obtain ⟨j, hj, hjn⟩ := exists_mem_not_mem _ _ (wf.jobs_nodup q) hlen
            refine ⟨.owner q j, ?_⟩
            have hc : (s.pl q).collected.contains j = false := by simpa using hjn
            have hc2 : (cfg.pool q).jobs.contains j = true := by simpa using hj
            have := hdone j hj
            simp only [step, stepOwner, hget, hown, hmode, if_true, hc, hc2]
            simp [Option.isSome_map, this]
        | false =>
            refine ⟨.owner q 0, ?_⟩
            have hj := List.getElem?_eq_getElem hlen
            have := hdone _ (List.getElem_mem hlen)
            simp only [step, stepOwner, hget, hown, hmode, hj]
            simp [Option.isSome_map, this]

theorem progress {cfg : Cfg} (wf : WF cfg) {s : State} (h : Inv cfg s) (hnt : terminal s = false) :
    ∃ l, (step cfg s l).isSome = true := by
  by_cases hA : ∃ (i : Nat) (p : Pc), s.tasks[i]? = some p ∧ act p = true
  · obtain ⟨i, p, hi, hp⟩ := hA
    obtain ⟨k, hk⟩ := active_enabled wf h hi hp
    exact ⟨.task k, hk⟩
  have hna : ∀ (i : Nat) (p : Pc), s.tasks[i]? = some p → act p = false := by
    intro i p hi
    cases hp : act p
    · rfl
    · exact absurd ⟨i, p, hi, hp⟩ hA
  refine owner_progress wf h hna 0 ?_
  have hr := h.root
  simp only [terminal] at hnt
  change (match (s.pl 0).owner with | .closed _ => true | _ => false) = false at hnt
  cases ho : (s.pl 0).owner with
  | notCreated => exact absurd ho hr
  | closed e => rw [ho] at hnt; simp at hnt
  | submit k => rfl
  | collect => rfl
  | join e => rfl

/-- `n + 1` extra while the tensor's `notify_all` is still to come (it can put at most `n` waiters back one step) -/
def pcW (n : Nat) : Pc → Nat
  | .notStarted => 11 + (n + 1)
  | .tAcq => 10 + (n + 1)
  | .cbAcqIn => 9 + (n + 1)
  | .cbAcq => 8 + (n + 1)
  | .cbBody => 7 + (n + 1)
  | .bAcq => 6 + (n + 1)
  | .woken => 5 + (n + 1)
  | .waiting => 4 + (n + 1)
  | .write => 3 + (n + 1)
  | .bRel _ => 2 + (n + 1)
  | .done _ => 0

/-- weight of a pool: what its owner still has to do, plus its idle threads (each may still exit) -/
def poolW (cfg : Cfg) (q : Nat) (P : PoolSt) : Nat :=
  P.idle +
  match P.owner with
  | .notCreated => 2 * (cfg.pool q).jobs.length + 6 + (cfg.pool q).size
  | .submit k => ((cfg.pool q).jobs.length - k) + (cfg.pool q).jobs.length + 4
  | .collect => ((cfg.pool q).jobs.length - P.collected.length) + 3
  | .join _ => 2
  | .closed _ => 0

def variant (cfg : Cfg) (s : State) : Nat :=
  wsum (poolW cfg) 0 s.pools + wsum (fun _ p => pcW cfg.n p) 0 s.tasks

/-- `w`: weight of a tensor's program counter; `o q ow c`: of the owner of pool `q` at `ow` having consumed `c` futures
    (an idle pool thread weighs 1).  The laws say that every move of the model pays for what it sets in motion. -/
structure Weights (cfg : Cfg) where
  w : Pc → Nat
  o : Nat → OwnerPc → Nat → Nat
  submit : ∀ q k c, k < (cfg.pool q).jobs.length →
    o q (if k + 1 < (cfg.pool q).jobs.length then .submit (k + 1) else .collect) c < o q (.submit k) c
  collect : ∀ q c, c < (cfg.pool q).jobs.length → o q .collect (c + 1) < o q .collect c
  toJoin : ∀ q e c, o q (.join e) (c + 1) < o q .collect c
  close : ∀ q e c, o q (.closed e) c < o q (.join e) c
  /-- a driver thread that closes its inner pool returns to the outer pool's idle threads -/
  closeSub : ∀ q e c jp, (cfg.pool q).parent = some jp → o q (.closed e) c + 1 < o q (.join e) c
  create : ∀ q c c', (cfg.pool q).size + o q (.submit 0) c' ≤ o q .notCreated c
  first : ∀ q, w (firstPc cfg q) ≤ w .notStarted
  tAcq : ∀ q, w (afterT cfg q) < w .tAcq
  cbAcqIn : ∀ q, (cfg.pool q).innerCb = true → w .cbAcq < w .cbAcqIn
  cbAcq : w .cbBody < w .cbAcq
  cbBody : w .bAcq < w .cbBody
  bAcq : w .waiting < w .bAcq ∧ w .write < w .bAcq
  woken : w .waiting < w .woken ∧ w .write < w .woken
  write : ∀ b, w (.bRel b) < w .write
  /-- `notify_all` puts at most `n` waiters back by one; the thread itself becomes idle -/
  bRel : ∀ b, cfg.n + 1 < w (.bRel b)
  wake : ∀ p, w (wake p) ≤ w p + 1
  done : ∀ b, w (.done b) = 0

variable {cfg : Cfg}

def Weights.pool (W : Weights cfg) (q : Nat) (P : PoolSt) : Nat := P.idle + W.o q P.owner P.collected.length

def variantW (W : Weights cfg) (s : State) : Nat :=
  wsum W.pool 0 s.pools + wsum (fun _ p => W.w p) 0 s.tasks

theorem Weights.addIdle (W : Weights cfg) (ps : List PoolSt) (q : Nat) :
    wsum W.pool 0 (addIdle ps q) ≤ wsum W.pool 0 ps + 1 := by
  unfold WriterN.addIdle
  by_cases h : q < ps.length
  · have := wsum_set0 W.pool (l := ps) (i := q) (p := ps.getD q default)
      { ps.getD q default with idle := (ps.getD q default).idle + 1 } (by simp [List.getD_eq_getElem?_getD, h])
    simp only [Weights.pool] at this ⊢
    omega
  · rw [List.set_eq_of_length_le (by omega)]; omega

theorem variantW_finish (W : Weights cfg) {s : State} (hs : SInv cfg s) {i : Nat} {p : Pc} (ok : Bool)
    (hi : s.tasks[i]? = some p) (hp : act p = true) :
    variantW W (finishTask cfg s i ok) + W.w p ≤ variantW W s + 1 := by
  have hpd : p ≠ .done true := by intro e; subst e; simp at hp
  unfold variantW
  rcases finishTask_cases cfg s i ok with ⟨rfl, hn, e⟩ | ⟨_, e⟩ <;> rw [e]
  · have hnext := hs.next_notStarted hi hpd hn
    have h1 := wsum_set0 (fun _ p => W.w p) (.done true) hi
    have h2 := wsum_set0 (fun _ p => W.w p) (firstPc cfg (cfg.poolOf i)) (get_set_succ (x := .done true) hnext)
    have h3 := W.first (cfg.poolOf i)
    have h4 := W.done true
    dsimp only
    omega
  · have h1 := wsum_set0 (fun _ p => W.w p) (.done ok) hi
    have h4 := W.done ok
    have h5 := W.addIdle s.pools (cfg.poolOf i)
    dsimp only
    omega

theorem variantW_task_lt (W : Weights cfg) {s s' : State} {i : Nat} {p x : Pc} (hi : s.tasks[i]? = some p)
    (hlt : W.w x < W.w p) (hp : s'.pools = s.pools) (ht : s'.tasks = s.tasks.set i x) :
    variantW W s' < variantW W s := by
  have := wsum_set0 (fun _ p => W.w p) x hi
  rw [variantW, variantW, hp, ht]
  omega

theorem variantW_pool_lt (W : Weights cfg) {s s' : State} {q : Nat} {P : PoolSt} (P' : PoolSt)
    (hP : s.pools[q]? = some P) (hlt : W.pool q P' < W.pool q P) (hp : s'.pools = s.pools.set q P')
    (ht : s'.tasks = s.tasks) : variantW W s' < variantW W s := by
  have := wsum_set0 W.pool P' hP
  rw [variantW, variantW, hp, ht]
  omega

theorem variantW_decreases (W : Weights cfg) (wf : WF cfg) {s s' : State} {l : Label} (h : Inv cfg s)
    (hst : StepRel cfg s l s') : variantW W s' < variantW W s := by
  have pset : ∀ {q : Nat} {P : PoolSt} (P' : PoolSt), s.pools[q]? = some P →
      wsum W.pool 0 (s.pools.set q P') + W.pool q P = wsum W.pool 0 s.pools + W.pool q P' :=
    fun P' hP => wsum_set0 W.pool P' hP
  cases hst with
  | submit q c k j P hP hk hj =>
      have := W.submit q k P.collected.length (getElem?_lt hj)
      exact variantW_pool_lt W _ hP (by simp only [Weights.pool, hk]; omega) rfl rfl
  | collect q c j ok P hP hm hjj hf =>
      have hlen := h.c.len q (by rw [pl_of_get hP]; exact hm)
      rw [pl_of_get hP] at hlen
      have h1 := W.collect q P.collected.length hlen
      have h2 := W.toJoin q true P.collected.length
      have h3 := W.toJoin q false P.collected.length
      rcases collectOne_cases cfg s q P j ok with ⟨_, _, e⟩ | ⟨_, _, e⟩ | ⟨_, _, e⟩ | ⟨_, _, e⟩ <;> rw [e] <;>
        exact variantW_pool_lt W _ hP (by simp only [Weights.pool, hm, List.length_cons]; omega) rfl rfl
  | joinRoot q c e P hP hm hex hpar =>
      have := W.close q e P.collected.length
      exact variantW_pool_lt W _ hP (by simp only [Weights.pool, hm]; omega) rfl rfl
  | joinSub q c e P jp hP hm hex hpar =>
      have := pset { P with owner := .closed e } hP
      have h5 := W.addIdle (s.pools.set q { P with owner := .closed e }) (cfg.jobc jp).pool
      have h6 := W.closeSub q e P.collected.length jp hpar
      simp only [variantW, Weights.pool, hm] at this h5 ⊢; omega
  | takeSerial q j rest P hP hq hidle hsub =>
      have hj : j ∈ (s.pl q).queue := by rw [pl_of_get hP, hq]; simp
      have h1 := wsum_set0 (fun _ p => W.w p) (firstPc cfg q) (h.s.start_notStarted wf hj hsub)
      have h2 := W.first q
      have := pset { P with queue := rest, idle := P.idle - 1 } hP
      simp only [variantW, Weights.pool] at this h1 ⊢; omega
  | takeSub q j rest P q' hP hq hidle hsub =>
      obtain ⟨hqq, hfr, hset⟩ := takeSub_facts wf h.s hP hq hsub
      obtain ⟨hf1, _, _, hf4⟩ := h.p.fresh0 q' hfr
      have hget := set_pl_get { P with queue := rest, idle := P.idle - 1 } hqq hset
      have h1 := pset { P with queue := rest, idle := P.idle - 1 } hP
      have h2 := wsum_set0 W.pool { (s.pools.set q { P with queue := rest, idle := P.idle - 1 }).getD q' default with
          owner := .submit 0, idle := (cfg.pool q').size } hget
      simp only [variantW, createPool]
      simp only [Weights.pool, hfr, hf1, hf4, List.length_nil] at h1 h2 ⊢
      have h3 := W.create q' 0 ((s.pools.set q { P with queue := rest, idle := P.idle - 1 }).getD q' default).collected.length
      omega
  | exit q P hP hq hsd hidle =>
      exact variantW_pool_lt W _ hP (by simp only [Weights.pool]; omega) rfl rfl
  | cbAcqIn i hi hl => exact variantW_task_lt W hi (W.cbAcqIn _ (h.l.inner i hi)) rfl rfl
  | cbAcq i hi hl => exact variantW_task_lt W hi W.cbAcq rfl rfl
  | cbFail i hi hf =>
      have := variantW_finish W (s := cbExit cfg s i)
        (SInv_cbExit h.s i) false hi rfl
      have h3 := W.cbBody; have h4 := W.bAcq
      simp only [variantW, cbExit_pools, cbExit_tasks] at this ⊢
      omega
  | cbOk i hi hf => exact variantW_task_lt W hi W.cbBody rfl rfl
  | tAcq i hi hl => exact variantW_task_lt W hi (W.tAcq _) rfl rfl
  | bTry i p hi hp' =>
      have hb := W.bAcq; have hw := W.woken
      rcases budgetTry_cases cfg s i with ⟨_, _, e⟩ | ⟨_, _, e⟩ | ⟨_, _, e⟩ | ⟨_, _, e⟩ <;> rw [e] <;>
        exact variantW_task_lt W hi (by rcases hp' with rfl | rfl <;> omega) rfl rfl
  | writeFail i hi hf => exact variantW_task_lt W hi (W.write _) rfl rfl
  | writeOk i hi hf => exact variantW_task_lt W hi (W.write _) rfl rfl
  | bRel i ok hi =>
      unfold budgetRelease
      have := variantW_finish W (SInv_release h.s i) (i := i) (p := .bRel ok) ok (by simp [hi, wake]) rfl
      have hw := wsum_map_le (fun _ p => W.w p) wake (fun _ p => W.wake p) s.tasks 0
      have hlen := h.s.tasks_len
      have h3 := W.bRel ok
      simp only [variantW] at this ⊢
      omega


def stdO (cfg : Cfg) (q : Nat) : OwnerPc → Nat → Nat
  | .notCreated, _ => 2 * (cfg.pool q).jobs.length + 6 + (cfg.pool q).size
  | .submit k, _ => ((cfg.pool q).jobs.length - k) + (cfg.pool q).jobs.length + 4
  | .collect, c => ((cfg.pool q).jobs.length - c) + 3
  | .join _, _ => 2
  | .closed _, _ => 0

def stdW (cfg : Cfg) : Weights cfg where
  w := pcW cfg.n
  o := stdO cfg
  submit := by intro q k c hk; split <;> simp only [stdO] <;> omega
  collect := by intro q c hc; simp only [stdO]; omega
  toJoin := by intro q e c; simp only [stdO]; omega
  close := fun _ _ _ => Nat.zero_lt_succ _
  closeSub := fun _ _ _ _ _ => Nat.lt_succ_self _
  create := by intro q c c'; simp only [stdO]; omega
  first := fun _ => Nat.add_le_add_right (by decide) _
  tAcq := by intro q; unfold afterT; split <;> exact Nat.add_lt_add_right (by decide) _
  cbAcqIn := fun _ _ => Nat.add_lt_add_right (by decide) _
  cbAcq := Nat.add_lt_add_right (by decide) _
  cbBody := Nat.add_lt_add_right (by decide) _
  bAcq := ⟨Nat.add_lt_add_right (by decide) _, Nat.add_lt_add_right (by decide) _⟩
  woken := ⟨Nat.add_lt_add_right (by decide) _, Nat.add_lt_add_right (by decide) _⟩
  write := fun _ => Nat.add_lt_add_right (by decide) _
  bRel := fun _ => Nat.lt_add_of_pos_left (by decide)
  wake := by
    intro p
    cases p with
    | waiting => show 5 + (cfg.n + 1) ≤ 4 + (cfg.n + 1) + 1; omega
    | _ => exact Nat.le_succ _
  done := fun _ => rfl

theorem poolW_eq (cfg : Cfg) (q : Nat) (P : PoolSt) : poolW cfg q P = (stdW cfg).pool q P := by
  unfold poolW Weights.pool stdW stdO; cases P.owner <;> rfl

theorem variant_eq (cfg : Cfg) (s : State) : variant cfg s = variantW (stdW cfg) s := by
  unfold variant variantW
  rw [show poolW cfg = (stdW cfg).pool from funext fun q => funext (poolW_eq cfg q)]; rfl

theorem variant_decreases {cfg : Cfg} (wf : WF cfg) {s s' : State} {l : Label} (h : Inv cfg s)
    (hst : StepRel cfg s l s') : variant cfg s' < variant cfg s := by
  rw [variant_eq, variant_eq]; exact variantW_decreases _ wf h hst

theorem schedule_boundedW (W : Weights cfg) (wf : WF cfg) : ∀ (ls : List Label) {s s' : State},
    Inv cfg s → run cfg s ls = some s' → ls.length + variantW W s' ≤ variantW W s
  | [], s, s', _, h => by simp [run] at h; subst h; simp
  | l :: ls, s, s', hI, h => by
      simp only [run] at h
      split at h
      · simp at h
      · rename_i s1 hs1
        have hr := stepRel_of_step hs1
        have h1 := variantW_decreases W wf hI hr
        have h2 := schedule_boundedW W wf ls (Inv_step wf hI hr) h
        simp only [List.length_cons]; omega

end IrVerif.WriterN
