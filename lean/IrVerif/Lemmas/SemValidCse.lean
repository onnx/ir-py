/-
Lemmas/SemValidCse.lean — CommonSubexpressionEliminationPass preserves `validModel`: a removed node's uses read the
kept node's outputs (defined earlier, in scope), its graph outputs are replaced by them or re-defined by Identity
nodes that stand where the removed node stood.
-/
import IrVerif.Lemmas.SemValidOutputFix
import IrVerif.Lemmas.SemCse
namespace IrVerif.Passes
open IrVerif.Sem IrVerif.PassFlags

mutual
theorem substG_defs (σ : Subst) : ∀ g : Graph, defsG (substG σ g) = defsG g
  | .mk inputs outputs inits nodes => by simp only [substG, defsG, substNodes_defs σ nodes]
theorem substNodes_defs (σ : Subst) : ∀ ns : List Node, defsNodes (substNodes σ ns) = defsNodes ns
  | [] => by simp [substNodes]
  | n :: ns => by simp only [substNodes, defsNodes, substN_defs σ n, substNodes_defs σ ns]
theorem substN_defs (σ : Subst) : ∀ n : Node, defsN (substN σ n) = defsN n
  | .mk op attrs ins outs bodies => by simp only [substN, defsN, substBodies_defs σ bodies]
theorem substBodies_defs (σ : Subst) : ∀ bs : List Graph, defsBodies (substBodies σ bs) = defsBodies bs
  | [] => by simp [substBodies]
  | b :: bs => by simp only [substBodies, defsBodies, substG_defs σ b, substBodies_defs σ bs]
end

theorem substNodes_outsTop (σ : Subst) : ∀ ns : List Node, outsTop (substNodes σ ns) = outsTop ns
  | [] => by simp [substNodes]
  | .mk op attrs ins outs bodies :: ns => by
    simp only [substNodes, substN, outsTop, Node.outs, substNodes_outsTop σ ns]

mutual
theorem substG_refs (σ : Subst) : ∀ (g : Graph) (w : VId), w ∈ refsG (substG σ g) → w ∈ refsG g ∨ ∃ p ∈ σ, p.2 = w
  | .mk inputs outputs inits nodes, w, h => by
    simp only [substG, refsG, List.mem_append] at h ⊢
    rcases h with h | h
    · exact Or.inl (Or.inl h)
    · exact (substNodes_refs σ nodes w h).imp Or.inr id
theorem substNodes_refs (σ : Subst) : ∀ (ns : List Node) (w : VId), w ∈ refsNodes (substNodes σ ns) →
    w ∈ refsNodes ns ∨ ∃ p ∈ σ, p.2 = w
  | [], w, h => by simp [substNodes, refsNodes] at h
  | n :: ns, w, h => by
    simp only [substNodes, refsNodes, List.mem_append] at h ⊢
    rcases h with h | h
    · exact (substN_refs σ n w h).imp Or.inl id
    · exact (substNodes_refs σ ns w h).imp Or.inr id
theorem substN_refs (σ : Subst) : ∀ (n : Node) (w : VId), w ∈ refsN (substN σ n) → w ∈ refsN n ∨ ∃ p ∈ σ, p.2 = w
  | .mk op attrs ins outs bodies, w, h => by
    simp only [substN, refsN, List.mem_append] at h ⊢
    rcases h with h | h
    · obtain ⟨v, hv, rfl⟩ := mem_substIns' h
      rcases Subst.app_cases σ v with h' | ⟨p, hp, _, h2⟩
      · rw [h']; exact Or.inl (Or.inl hv)
      · exact Or.inr ⟨p, hp, h2⟩
    · exact (substBodies_refs σ bodies w h).imp Or.inr id
theorem substBodies_refs (σ : Subst) : ∀ (bs : List Graph) (w : VId), w ∈ refsBodies (substBodies σ bs) →
    w ∈ refsBodies bs ∨ ∃ p ∈ σ, p.2 = w
  | [], w, h => by simp [substBodies, refsBodies] at h
  | b :: bs, w, h => by
    simp only [substBodies, refsBodies, List.mem_append] at h ⊢
    rcases h with h | h
    · exact (substG_refs σ b w h).imp Or.inl id
    · exact (substBodies_refs σ bs w h).imp Or.inr id
end

theorem subst_keeps (σ : Subst) :
    (∀ g, SubstOK σ (defsG g) → KeepsG σ.app g (substG σ g)) ∧
    (∀ ns, SubstOK σ (defsNodes ns) → KeepsNodes σ.app ns (substNodes σ ns)) ∧
    (∀ n, SubstOK σ (defsBodies n.bodies) → KeepsBodies σ.app n.bodies (substN σ n).bodies) ∧
    ∀ bs, SubstOK σ (defsBodies bs) → KeepsBodies σ.app bs (substBodies σ bs) := by
  refine substG.mutual_induct_unfolding σ (fun g g' => SubstOK σ (defsG g) → KeepsG σ.app g g')
    (fun ns ns' => SubstOK σ (defsNodes ns) → KeepsNodes σ.app ns ns')
    (fun n n' => SubstOK σ (defsBodies n.bodies) → KeepsBodies σ.app n.bodies n'.bodies)
    (fun bs bs' => SubstOK σ (defsBodies bs) → KeepsBodies σ.app bs bs') ?_ ?_ ?_ ?_ ?_ ?_
  · intro inputs outputs inits nodes ih hok D D' hs hc hsc hD
    rw [ssaG_iff] at hs
    rw [closedG_iff] at hc
    simp only [scopedG] at hsc
    obtain ⟨k1, k2, k3⟩ := ih hok.of_defsG.2 (D ++ inputs ++ inits.map Prod.fst) (D' ++ inputs ++ inits.map Prod.fst)
      hs.2 hc.2 hsc
      (app_mem_append (app_mem_append hD (fun p hp h => (hok.of_defsG.1 p hp).1 (List.mem_append_left _ h)))
        (fun p hp h => (hok.of_defsG.1 p hp).1 (List.mem_append_right _ h)))
    exact ⟨by rw [ssaG_iff, substNodes_defs]; exact ⟨hs.1, k1⟩,
      by rw [closedG_iff, substNodes_outsTop]; exact ⟨hc.1, k2⟩, k3⟩
  · intro op attrs ins outs bodies ihb
    exact ihb
  · intro _
    exact KeepsNodes.nil _
  · intro n ns ihn ih hok
    obtain ⟨op, attrs, ins, outs, bodies⟩ := n
    exact .keep (fun w hw => mem_substIns' hw) (fun v hv => hok.app_of_mem (mem_defsNodes_of_mem_outs hv))
      (fun v hv => substBodies_defs σ bodies ▸ hv) (fun v hv => substNodes_defs σ ns ▸ hv)
      (ihn (hok.mono (fun v hv => mem_defsNodes_cons.2 (Or.inl (mem_defsN.2 (Or.inr hv))))))
      (ih (hok.mono (fun v hv => mem_defsNodes_cons.2 (Or.inr hv))))
  · intro _
    exact KeepsBodies.nil _
  · intro b bs ihg ihb hok
    exact .cons (fun v hv => substG_defs σ b ▸ hv) (fun v hv => substBodies_defs σ bs ▸ hv)
      (ihg (hok.mono (fun v hv => mem_defsBodies_cons.2 (Or.inl hv))))
      (ihb (hok.mono (fun v hv => mem_defsBodies_cons.2 (Or.inr hv))))

theorem subst_noFwd (σ : Subst) :
    (∀ g, SubstOK σ (defsG g) → noFwdG g = true → noFwdG (substG σ g) = true) ∧
    (∀ ns, SubstOK σ (defsNodes ns) → noFwdNodes ns = true → noFwdNodes (substNodes σ ns) = true) ∧
    (∀ n, SubstOK σ (defsBodies n.bodies) → noFwdBodies n.bodies = true → noFwdBodies (substN σ n).bodies = true) ∧
    ∀ bs, SubstOK σ (defsBodies bs) → noFwdBodies bs = true → noFwdBodies (substBodies σ bs) = true := by
  refine substG.mutual_induct_unfolding σ (fun g g' => SubstOK σ (defsG g) → noFwdG g = true → noFwdG g' = true)
    (fun ns ns' => SubstOK σ (defsNodes ns) → noFwdNodes ns = true → noFwdNodes ns' = true)
    (fun n n' => SubstOK σ (defsBodies n.bodies) → noFwdBodies n.bodies = true → noFwdBodies n'.bodies = true)
    (fun bs bs' => SubstOK σ (defsBodies bs) → noFwdBodies bs = true → noFwdBodies bs' = true) ?_ ?_ ?_ ?_ ?_ ?_
  · intro inputs outputs inits nodes ih hok hf
    exact ih hok.of_defsG.2 hf
  · intro op attrs ins outs bodies ihb
    exact ihb
  · intro _ h
    exact h
  · intro n ns ihn ih hok hf
    obtain ⟨op, attrs, ins, outs, bodies⟩ := n
    have hf' := noFwdNodes_cons_iff.1 hf
    exact noFwdNodes_keep (X := fun w => ∃ p ∈ σ, p.2 = w) hf (fun w ⟨p, hp, h⟩ => h ▸ (hok p hp).2)
      (fun w hw => mem_substIns_cases hw) (substBodies_refs σ bodies)
      (fun v hv => substBodies_defs σ bodies ▸ hv) (fun v hv => substNodes_defs σ ns ▸ hv)
      (ihn (hok.mono (fun v hv => mem_defsNodes_cons.2 (Or.inl (mem_defsN.2 (Or.inr hv))))) hf'.1.2)
      (ih (hok.mono (fun v hv => mem_defsNodes_cons.2 (Or.inr hv))) hf'.2)
  · intro _ h
    exact h
  · intro b bs ihg ihb hok hf
    rw [noFwdBodies_cons_iff] at hf ⊢
    exact ⟨ihg (hok.mono (fun v hv => mem_defsBodies_cons.2 (Or.inl hv))) hf.1,
      ihb (hok.mono (fun v hv => mem_defsBodies_cons.2 (Or.inr hv))) hf.2⟩

theorem substNodes_valid (σ : Subst) : ∀ (ns : List Node) (D D' : List VId), ssaNodes ns = true →
    closedNodes ns = true → noFwdNodes ns = true → scopedNodes D ns = true → (∀ v ∈ D, σ.app v ∈ D') →
    (∀ p ∈ σ, p.1 ∉ defsNodes ns ∧ p.2 ∉ defsNodes ns) →
    ssaNodes (substNodes σ ns) = true ∧ closedNodes (substNodes σ ns) = true ∧ noFwdNodes (substNodes σ ns) = true ∧
    scopedNodes D' (substNodes σ ns) = true :=
  fun ns D D' hs hc hf hsc hD hσ =>
    have k := (subst_keeps σ).2.1 ns hσ D D' hs hc hsc hD
    ⟨k.1, k.2.1, (subst_noFwd σ).2.1 ns hσ hf, k.2.2⟩

def IdPairs (pairs : List (VId × VId)) (ns : List Node) : Prop :=
  ∀ n ∈ ns, ∃ z o, n = identityNode z o ∧ pairs.lookup o = some z

theorem idPairs_wf {pairs : List (VId × VId)} : ∀ {ns : List Node}, IdPairs pairs ns → (outsTop ns).Nodup →
    defsNodes ns = outsTop ns ∧ (∀ w ∈ refsNodes ns, ∃ o, pairs.lookup o = some w) ∧
    (∀ o ∈ outsTop ns, ∃ z, pairs.lookup o = some z) ∧
    ((∀ w, (∃ o, pairs.lookup o = some w) → w ∉ outsTop ns) →
      ssaNodes ns = true ∧ closedNodes ns = true ∧ noFwdNodes ns = true) ∧
    (∀ D : List VId, (∀ w, (∃ o, pairs.lookup o = some w) → w ∈ D) → scopedNodes D ns = true)
  | [], _, _ => by simp [defsNodes, outsTop, refsNodes, ssaNodes, closedNodes, noFwdNodes, scopedNodes]
  | n :: ns, h, hnd => by
    obtain ⟨z, o, rfl, hl⟩ := h n (by simp)
    have h' : IdPairs pairs ns := fun m hm => h m (List.mem_cons_of_mem _ hm)
    rw [outsTop_identityNode_cons, List.nodup_cons] at hnd
    obtain ⟨i1, i2, i3, i4, i5⟩ := idPairs_wf h' hnd.2
    rw [defsNodes_identityNode_cons, refsNodes_identityNode_cons, outsTop_identityNode_cons, i1]
    refine ⟨rfl, fun w hw => ?_, fun v hv => ?_, fun hsep => ?_, fun D hD => ?_⟩
    · rcases List.mem_cons.1 hw with hw | hw
      · exact ⟨o, hw ▸ hl⟩
      · exact i2 w hw
    · rcases List.mem_cons.1 hv with hv | hv
      · exact ⟨z, hv ▸ hl⟩
      · exact i3 v hv
    · obtain ⟨s1, s2, s3⟩ := i4 (fun w hw hm => hsep w hw (List.mem_cons_of_mem _ hm))
      rw [ssaNodes_identityNode_cons, closedNodes_identityNode_cons, noFwdNodes_identityNode_cons, i1]
      exact ⟨⟨hnd.1, s1⟩, s2, hsep z ⟨o, hl⟩, s3⟩
    · rw [scopedNodes_identityNode_cons]
      exact ⟨hD z ⟨o, hl⟩, i5 _ (fun w hw => List.mem_append_left _ (hD w hw))⟩

/-- every new output is an old output that the removed node did not produce, an output of the kept node, the output of
    one of the new Identity nodes, or a value `rep` already answered with (`Good`) -/
theorem cseFixOuts_wf (gins : List VId) (pairs : List (VId × VId)) : ∀ (todo : List VId) (rep : List (VId × VId))
    (done : List VId) (Good : VId → Prop), (∀ o w, rep.lookup o = some w → Good w) →
    IdPairs pairs (cseFixOuts gins pairs rep done todo).2 ∧
    (outsTop (cseFixOuts gins pairs rep done todo).2).Nodup ∧
    (∀ o ∈ outsTop (cseFixOuts gins pairs rep done todo).2, rep.lookup o = none) ∧
    (∀ o' ∈ (cseFixOuts gins pairs rep done todo).1, o' ∈ done ∨ Good o' ∨ (∃ o, pairs.lookup o = some o') ∨
      (o' ∈ todo ∧ pairs.lookup o' = none) ∨ o' ∈ outsTop (cseFixOuts gins pairs rep done todo).2) := by
  intro todo rep done
  fun_induction cseFixOuts gins pairs rep done todo with
  | case1 =>
    exact fun Good _ => ⟨fun n hn => by simp at hn, by simp [outsTop], fun o ho => by simp [outsTop] at ho,
      fun o' h => Or.inl h⟩
  | case2 rep done o rest w hw ih =>
    intro Good hrep
    obtain ⟨a, b, c, d⟩ := ih Good hrep
    refine ⟨a, b, c, fun o' ho' => ?_⟩
    rcases d o' ho' with h | h | h | h | h
    · rcases List.mem_append.1 h with h | h
      · exact Or.inl h
      · rw [List.mem_singleton] at h
        exact Or.inr (Or.inl (h ▸ hrep o w hw))
    · exact Or.inr (Or.inl h)
    · exact Or.inr (Or.inr (Or.inl h))
    · exact Or.inr (Or.inr (Or.inr (Or.inl ⟨List.mem_cons_of_mem _ h.1, h.2⟩)))
    · exact Or.inr (Or.inr (Or.inr (Or.inr h)))
  | case3 rep done o rest hnone z hz _ r ih =>
    -- an Identity node re-defines `o`
    intro Good hrep
    obtain ⟨a, b, c, d⟩ := ih (fun v => Good v ∨ v = o)
      (fun o1 w h => by
        by_cases h1 : o1 = o
        · subst h1
          simp only [List.lookup_cons, beq_self_eq_true, Option.some.injEq] at h
          exact Or.inr h.symm
        · rw [lookup_cons_ne h1] at h
          exact Or.inl (hrep o1 w h))
    have hnot : o ∉ outsTop r.2 := by
      intro hm
      have := c o hm
      simp at this
    refine ⟨?_, ?_, ?_, ?_⟩
    · intro n hn
      rcases List.mem_cons.1 hn with hn | hn
      · exact ⟨z, o, hn, hz⟩
      · exact a n hn
    · rw [outsTop_identityNode_cons, List.nodup_cons]
      exact ⟨hnot, b⟩
    · intro o1 ho1
      rw [outsTop_identityNode_cons, List.mem_cons] at ho1
      rcases ho1 with ho1 | ho1
      · rw [ho1]; exact hnone
      · have := c o1 ho1
        by_cases h1 : o1 = o
        · exact absurd (h1 ▸ ho1) hnot
        · rwa [lookup_cons_ne h1] at this
    · intro o' ho'
      rw [outsTop_identityNode_cons]
      rcases d o' ho' with h | h | h | h | h
      · rcases List.mem_append.1 h with h | h
        · exact Or.inl h
        · rw [List.mem_singleton] at h
          exact Or.inr (Or.inr (Or.inr (Or.inr (h ▸ List.mem_cons_self))))
      · rcases h with h | h
        · exact Or.inr (Or.inl h)
        · exact Or.inr (Or.inr (Or.inr (Or.inr (h ▸ List.mem_cons_self))))
      · exact Or.inr (Or.inr (Or.inl h))
      · exact Or.inr (Or.inr (Or.inr (Or.inl ⟨List.mem_cons_of_mem _ h.1, h.2⟩)))
      · exact Or.inr (Or.inr (Or.inr (Or.inr (List.mem_cons_of_mem _ h))))
  | case4 rep done o rest _ z hz _ ih =>
    -- the output becomes the kept node's value
    intro Good hrep
    obtain ⟨a, b, c, d⟩ := ih (fun v => Good v ∨ v = z)
      (fun o1 w h => by
        by_cases h1 : o1 = o
        · subst h1
          simp only [List.lookup_cons, beq_self_eq_true, Option.some.injEq] at h
          exact Or.inr h.symm
        · rw [lookup_cons_ne h1] at h
          exact Or.inl (hrep o1 w h))
    refine ⟨a, b, ?_, ?_⟩
    · intro o1 ho1
      have := c o1 ho1
      by_cases h1 : o1 = o
      · subst h1; simp at this
      · rwa [lookup_cons_ne h1] at this
    · intro o' ho'
      rcases d o' ho' with h | h | h | h | h
      · rcases List.mem_append.1 h with h | h
        · exact Or.inl h
        · rw [List.mem_singleton] at h
          exact Or.inr (Or.inr (Or.inl ⟨o, h ▸ hz⟩))
      · rcases h with h | h
        · exact Or.inr (Or.inl h)
        · exact Or.inr (Or.inr (Or.inl ⟨o, h ▸ hz⟩))
      · exact Or.inr (Or.inr (Or.inl h))
      · exact Or.inr (Or.inr (Or.inr (Or.inl ⟨List.mem_cons_of_mem _ h.1, h.2⟩)))
      · exact Or.inr (Or.inr (Or.inr (Or.inr h)))
  | case5 rep done o rest _ hz ih =>
    intro Good hrep
    obtain ⟨a, b, c, d⟩ := ih Good hrep
    refine ⟨a, b, c, fun o' ho' => ?_⟩
    rcases d o' ho' with h | h | h | h | h
    · rcases List.mem_append.1 h with h | h
      · exact Or.inl h
      · rw [List.mem_singleton] at h
        exact Or.inr (Or.inr (Or.inr (Or.inl ⟨h ▸ List.mem_cons_self, h ▸ hz⟩)))
    · exact Or.inr (Or.inl h)
    · exact Or.inr (Or.inr (Or.inl h))
    · exact Or.inr (Or.inr (Or.inr (Or.inl ⟨List.mem_cons_of_mem _ h.1, h.2⟩)))
    · exact Or.inr (Or.inr (Or.inr (Or.inr h)))

/-- what the walk returns is well-formed over the node list `ns0` it was run on: SSA, closed, ordered, scoped in `D'`, its
    outputs bound in `L'` or at the top level, and it binds nothing new -/
abbrev CseWF (D' L' : List VId) (ns0 : List Node) (r : IeRes) : Prop :=
  ssaNodes r.nodes = true ∧ closedNodes r.nodes = true ∧ noFwdNodes r.nodes = true ∧ scopedNodes D' r.nodes = true ∧
  (∀ o ∈ r.outs, o ∈ L' ∨ o ∈ outsTop r.nodes) ∧ ∀ v ∈ defsNodes r.nodes, v ∈ defsNodes ns0

theorem cseNodes_valid (limit : Nat) (gins : List VId) : ∀ (ns tbl : List Node) (σ : Subst) (outs D D' L' : List VId),
    ssaNodes ns = true → closedNodes ns = true → noFwdNodes ns = true → scopedNodes D ns = true →
    (∀ v ∈ D, σ.app v ∈ D') → (∀ p ∈ σ, p.1 ∉ defsNodes ns ∧ p.2 ∉ defsNodes ns) →
    (∀ n1 ∈ tbl, ∀ v ∈ n1.outs, v ∈ L' ∧ v ∉ defsNodes ns) → (∀ v ∈ L', v ∈ D') →
    (∀ o ∈ outs, o ∈ L' ∨ o ∈ outsTop ns) →
    CseWF D' L' ns (cseNodes limit gins tbl σ outs ns)
  | [], _, _, outs, _, _, _, _, _, _, _, _, _, _, _, ho => by
    simp only [cseNodes]
    exact ⟨rfl, rfl, rfl, rfl, ho, fun _ h => h⟩
  | .mk op attrs ins nouts bodies :: ns, tbl, σ, outs, D, D', L', hs, hc, hf, hsc, hD, hσ, htbl, hL, ho => by
    rw [ssaNodes_cons_iff] at hs
    rw [closedNodes_cons_iff] at hc
    rw [noFwdNodes_cons_iff] at hf
    rw [scopedNodes_cons_iff] at hsc
    have hσ' := hσ
    simp only [defsNodes, defsN, List.mem_append, not_or] at hσ
    -- the node is kept (with any dictionary whose entries are live)
    have keep : ∀ tbl' : List Node, (∀ n1 ∈ tbl', ∀ v ∈ n1.outs, v ∈ L' ++ nouts ∧ v ∉ defsNodes ns) →
        CseWF D' L' (.mk op attrs ins nouts bodies :: ns)
          ⟨.mk op attrs (substIns σ ins) nouts (substBodies σ bodies) :: (cseNodes limit gins tbl' σ outs ns).nodes,
            (cseNodes limit gins tbl' σ outs ns).outs, (cseNodes limit gins tbl' σ outs ns).σ⟩ := by
      intro tbl' htbl'
      have hokb : SubstOK σ (defsBodies bodies) := fun p hp => ⟨(hσ p hp).1.1.2, (hσ p hp).2.1.2⟩
      obtain ⟨b1, b2, b4⟩ := (subst_keeps σ).2.2.2 bodies hokb D D' hs.1.1.2 hc.1 hsc.1.2 hD
      have b3 := (subst_noFwd σ).2.2.2 bodies hokb hf.1.2
      obtain ⟨k1, k2, k3, k4, k5, k6⟩ := cseNodes_valid limit gins ns tbl' σ outs (D ++ nouts) (D' ++ nouts) (L' ++ nouts)
        hs.2 hc.2 hf.2 hsc.2
        (app_mem_append hD (fun p hp => (hσ p hp).1.1.1))
        (fun p hp => ⟨(hσ p hp).1.2, (hσ p hp).2.2⟩) htbl'
        (maps_append hL fun _ hv => hv)
        (fun o h => mem_or_append.1 (ho o h))
      obtain ⟨a1, a2, a4⟩ := validNodes_keep (ssaNodes_cons_iff.2 hs) (scopedNodes_cons_iff.2 hsc) hD
        (fun w hw => mem_substIns' hw) (fun v hv => substBodies_defs σ bodies ▸ hv) k6 b1 b2 b4 k1 k2 k4
      refine ⟨a1, a2, ?_, a4, ?_, ?_⟩
      · exact noFwdNodes_keep (X := fun w => ∃ p ∈ σ, p.2 = w) (noFwdNodes_cons_iff.2 hf)
          (fun w ⟨p, hp, h⟩ => h ▸ (hσ' p hp).2) (fun w hw => mem_substIns_cases hw) (substBodies_refs σ bodies)
          (fun v hv => substBodies_defs σ bodies ▸ hv) k6 b3 k3
      · exact fun o h => mem_or_append.2 (k5 o h)
      · intro v hv
        simp only [defsNodes, defsN, substBodies_defs, List.mem_append] at hv ⊢
        exact hv.imp id (k6 v)
    have htbl0 : ∀ n1 ∈ tbl, ∀ v ∈ n1.outs, v ∈ L' ++ nouts ∧ v ∉ defsNodes ns := fun n1 h1 v hv =>
      ⟨List.mem_append_left _ (htbl n1 h1 v hv).1, fun h => (htbl n1 h1 v hv).2 (by
        simp only [defsNodes, List.mem_append]; exact Or.inr h)⟩
    simp only [cseNodes]
    split
    · exact keep tbl htbl0
    · rename_i hskip
      split
      · -- the node is removed: its uses read the outputs of `n1`
        rename_i n1 hfind
        have hskip' : cseSkip limit op attrs bodies = false := by simpa using hskip
        have hbod := cseSkip_false hskip'
        subst hbod
        have hn1 : n1 ∈ tbl := List.mem_of_find?_eq_some hfind
        have hkey := cseKeyMatch_spec (n1 := n1) (n := Node.mk op attrs (substIns σ ins) nouts (substBodies σ []))
          (by have := List.find?_some hfind; exact this)
        have hlen : nouts.length = n1.outs.length := hkey.2.1.symm
        have hn1o : ∀ v ∈ n1.outs, v ∈ L' ∧ v ∉ defsNodes (Node.mk op attrs ins nouts [] :: ns) := htbl n1 hn1
        have hpk : ∀ o z, (nouts.zip n1.outs).lookup o = some z → o ∈ nouts ∧ z ∈ n1.outs := by
          intro o z h
          obtain ⟨h1, h2⟩ := lookup_zip_some nouts n1.outs h
          exact ⟨h1, List.mem_of_getElem? h2⟩
        have hpn : ∀ o ∈ nouts, ∃ z, (nouts.zip n1.outs).lookup o = some z := fun o ho' =>
          lookup_zip_of_mem nouts n1.outs hlen ho'
        obtain ⟨fa, fb, _, fd⟩ := cseFixOuts_wf gins (nouts.zip n1.outs) outs [] [] (fun _ => False)
          (fun o w h => by simp at h)
        obtain ⟨i1, i2, i3, i4, i5⟩ := idPairs_wf fa fb
        have hval : ∀ w, (∃ o, (nouts.zip n1.outs).lookup o = some w) → w ∈ n1.outs := fun w ⟨o, h⟩ => (hpk o w h).2
        have hido : ∀ o ∈ outsTop (cseFixOuts gins (nouts.zip n1.outs) [] [] outs).2, o ∈ nouts := fun o h => by
          obtain ⟨z, hz⟩ := i3 o h
          exact (hpk o z hz).1
        obtain ⟨w1, w2, w3⟩ := i4 (fun w hw hm => (hn1o w (hval w hw)).2 (by
          simp only [defsNodes, defsN, defsBodies, List.append_nil, List.mem_append]; exact Or.inl (hido w hm)))
        have w4 := i5 D' (fun w hw => hL w (hn1o w (hval w hw)).1)
        obtain ⟨k1, k2, k3, k4, k5, k6⟩ := cseNodes_valid limit gins ns tbl (nouts.zip n1.outs ++ σ)
          (cseFixOuts gins (nouts.zip n1.outs) [] [] outs).1 (D ++ nouts)
          (D' ++ outsTop (cseFixOuts gins (nouts.zip n1.outs) [] [] outs).2)
          (L' ++ outsTop (cseFixOuts gins (nouts.zip n1.outs) [] [] outs).2) hs.2 hc.2 hf.2 hsc.2
          (fun v hv => by
            rw [Subst.app_append]
            cases hl : (nouts.zip n1.outs).lookup v with
            | some z => exact List.mem_append_left _ (hL z (hn1o z (hpk v z hl).2).1)
            | none =>
              rcases List.mem_append.1 hv with hv | hv
              · exact List.mem_append_left _ (hD v hv)
              · obtain ⟨z, hz⟩ := hpn v hv
                rw [hl] at hz; cases hz)
          (fun p hp => by
            rcases List.mem_append.1 hp with hp | hp
            · have h1 := (List.of_mem_zip hp).1
              have h2 := (List.of_mem_zip hp).2
              refine ⟨fun h => hs.1.2 p.1 (mem_defsN.2 (Or.inl h1)) h, fun h => ?_⟩
              exact (hn1o p.2 h2).2 (mem_defsNodes_cons.2 (Or.inr h))
            · exact ⟨(hσ p hp).1.2, (hσ p hp).2.2⟩)
          (fun n2 h2 v hv => ⟨List.mem_append_left _ (htbl n2 h2 v hv).1, fun h => (htbl n2 h2 v hv).2 (by
            simp only [defsNodes, List.mem_append]; exact Or.inr h)⟩)
          (maps_append hL fun _ hv => hv)
          (fun o' ho' => by
            rcases fd o' ho' with h | h | h | h | h
            · simp at h
            · exact absurd h id
            · exact Or.inl (List.mem_append_left _ (hn1o o' (hval o' h)).1)
            · have := ho o' h.1
              simp only [outsTop, Node.outs, List.mem_append] at this
              rcases this with h' | h' | h'
              · exact Or.inl (List.mem_append_left _ h')
              · obtain ⟨z, hz⟩ := hpn o' h'
                rw [h.2] at hz; cases hz
              · exact Or.inr h'
            · exact Or.inl (List.mem_append_right _ h))
        refine ⟨?_, ?_, ?_, ?_, ?_, ?_⟩
        · refine ssaNodes_append _ _ (fun w hw hw' => ?_) w1 k1
          rw [i1] at hw
          exact hs.1.2 w (mem_defsN.2 (Or.inl (hido w hw))) (k6 w hw')
        · rw [closedNodes_append, w2, k2]; rfl
        · refine noFwdNodes_append _ _ (fun w hw hw' => ?_) w3 k3
          obtain ⟨o, hl⟩ := i2 w hw
          exact (hn1o w (hpk o w hl).2).2 (mem_defsNodes_cons.2 (Or.inr (k6 w hw')))
        · rw [scopedNodes_append, w4, k4]; rfl
        · intro o h
          rw [outsTop_append]
          exact mem_or_append.2 (k5 o h)
        · intro v hv
          rw [defsNodes_append, List.mem_append, i1] at hv
          simp only [defsNodes, defsN, List.mem_append]
          rcases hv with hv | hv
          · exact Or.inl (Or.inl (hido v hv))
          · exact Or.inr (k6 v hv)
      · -- a new dictionary entry
        refine keep _ (fun n2 h2 v hv => ?_)
        rcases List.mem_append.1 h2 with h2 | h2
        · exact htbl0 n2 h2 v hv
        · rw [List.mem_singleton] at h2
          subst h2
          simp only [Node.outs] at hv
          exact ⟨List.mem_append_right _ hv, fun h => hs.1.2 v (mem_defsN.2 (Or.inl hv)) h⟩

theorem cseModel_valid (limit : Nat) (m : Model) (hv : validModel m = true) : validModel (cseModel limit m) = true := by
  obtain ⟨g, fs⟩ := m
  simp only [validModel, Bool.and_eq_true] at hv ⊢
  cases g with
  | mk inputs outputs inits nodes =>
    refine ⟨?_, hv.2⟩
    have hg := hv.1
    rw [validG_iff] at hg ⊢
    obtain ⟨hs, hc, hf, hsc⟩ := hg
    rw [ssaG_iff] at hs
    rw [closedG_iff] at hc
    simp only [noFwdG] at hf
    simp only [scopedG] at hsc
    obtain ⟨k1, k2, k3, k4, k5, k6⟩ := cseNodes_valid limit inputs nodes [] [] outputs ([] ++ inputs ++ inits.map Prod.fst)
      ([] ++ inputs ++ inits.map Prod.fst) (inputs ++ inits.map Prod.fst) hs.2 hc.2 hf hsc
      (fun v hv => by rw [Subst.app_nil]; exact hv) (fun p hp => by simp at hp) (fun n1 h => by simp at h)
      (fun v hv => by simpa using hv)
      (fun o ho => by
        have := hc.1 o ho
        simp only [List.mem_append] at this ⊢
        rcases this with (h | h) | h
        · exact Or.inl (Or.inl h)
        · exact Or.inl (Or.inr h)
        · exact Or.inr h)
    simp only [cseModel]
    refine ⟨?_, ?_, ?_, ?_⟩
    · rw [ssaG_iff]
      exact ⟨⟨hs.1.1, fun x hx hx' => hs.1.2 x hx (k6 x hx')⟩, k1⟩
    · rw [closedG_iff]
      refine ⟨fun v hv => ?_, k2⟩
      rw [List.mem_append]
      exact k5 v hv
    · simp only [noFwdG]; exact k3
    · simp only [scopedG]; exact k4

end IrVerif.Passes
