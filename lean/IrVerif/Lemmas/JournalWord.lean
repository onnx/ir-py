import IrVerif.Lemmas.JournalCall
/-!
C20: flat enter / exit / operation words over any dispatcher.  A properly nested word (`WellBracketed`, a stack
automaton) has the structure `WB`; what such a word restores is proved by that structure.  Core Lean only.
-/
namespace IrVerif.Journal

variable {σ : Type}

/-- `runFlat` / `runFlatG` over any dispatcher -/
def runFlatBy (disp : Nat → Obj → Val → World σ → World σ × Outcome) : List (FEv σ) → World σ → World σ
  | [], w => w
  | .enter j :: r, w => runFlatBy disp r ((enter j w).getD w)
  | .exit j _ :: r, w => runFlatBy disp r (exit j w)
  | .op p :: r, w =>
      let x := runProg disp p w
      runFlatBy disp r { x.1 with log := x.1.log ++ [x.2] }

theorem runFlat_eq_by (cfg : Cfg σ) (fuel : Nat) : ∀ (u : List (FEv σ)) (w : World σ),
    runFlat cfg fuel u w = runFlatBy (dispatch cfg fuel) u w
  | [], _ => rfl
  | .enter _ :: r, _ => runFlat_eq_by cfg fuel r _
  | .exit _ _ :: r, _ => runFlat_eq_by cfg fuel r _
  | .op _ :: r, _ => runFlat_eq_by cfg fuel r _

theorem runFlatG_eq_by (cfg : Cfg σ) (fuel : Nat) : ∀ (u : List (FEv σ)) (w : World σ),
    runFlatG cfg fuel u w = runFlatBy (dispatchG cfg fuel) u w
  | [], _ => rfl
  | .enter _ :: r, _ => runFlatG_eq_by cfg fuel r _
  | .exit _ _ :: r, _ => runFlatG_eq_by cfg fuel r _
  | .op _ :: r, _ => runFlatG_eq_by cfg fuel r _

theorem runFlatBy_append (disp : Nat → Obj → Val → World σ → World σ × Outcome) : ∀ (u v : List (FEv σ)) (w : World σ),
    runFlatBy disp (u ++ v) w = runFlatBy disp v (runFlatBy disp u w) := by
  intro u
  induction u with
  | nil => intro v w; rfl
  | cons e r ih =>
    intro v w
    cases e with
    | enter j => exact ih v _
    | exit j x => exact ih v _
    | op p => exact ih v _

/-- a flat word keeps what its user code, the `__enter__`s it takes and its `__exit__`s keep -/
theorem runFlatBy_pres {disp : Nat → Obj → Val → World σ → World σ × Outcome} {I : World σ → Prop}
    (hop : ∀ p w, I w → I { (runProg disp p w).1 with log := (runProg disp p w).1.log ++ [(runProg disp p w).2] }) :
    ∀ (u : List (FEv σ)) (w : World σ),
      (∀ j ∈ flatEnters u, ∀ w, I w → (w.journals j).active = false → I (enterRaw j w)) →
      (∀ j ∈ flatExits u, ∀ w, I w → I (exit j w)) → I w → I (runFlatBy disp u w)
  | [], _, _, _, h => h
  | .enter j :: r, w, he, hx, h => by
    have ih := fun w' => runFlatBy_pres hop r w' (fun i hi => he i (List.mem_cons_of_mem _ hi)) hx
    simp only [runFlatBy]
    cases hj : (w.journals j).active with
    | true => rw [enter_of_active j w hj]; exact ih w h
    | false => rw [enter_of_inactive j w hj]; exact ih _ (he j (List.mem_cons_self ..) w h hj)
  | .exit j _ :: r, w, he, hx, h =>
    runFlatBy_pres hop r _ he (fun i hi => hx i (List.mem_cons_of_mem _ hi)) (hx j (List.mem_cons_self ..) w h)
  | .op p :: r, w, he, hx, h => runFlatBy_pres hop r _ he hx (hop p w h)

/-- an active journal's own `__enter__` is refused, and nothing else writes its control fields -/
theorem flatBy_frame_active {disp : Nat → Obj → Val → World σ → World σ × Outcome}
    (hd : CtlFrame disp) (j : Nat) (u : List (FEv σ)) (w : World σ)
    (h : (w.journals j).active = true) (hx : j ∉ flatExits u) :
    ((runFlatBy disp u w).journals j).captured = (w.journals j).captured ∧
    ((runFlatBy disp u w).journals j).previous = (w.journals j).previous ∧
    ((runFlatBy disp u w).journals j).active = true := by
  refine runFlatBy_pres (I := fun w' => (w'.journals j).captured = (w.journals j).captured ∧
    (w'.journals j).previous = (w.journals j).previous ∧ (w'.journals j).active = true)
    (fun p w' h' => ?_) u w (fun i _ w' h' hi => ?_) (fun i hi w' h' => ?_) ⟨rfl, rfl, h⟩
  · have hf := hd p w'
    exact ⟨(hf.captured j).trans h'.1, (hf.previous j).trans h'.2.1, (hf.active j).trans h'.2.2⟩
  · rw [enterRaw_other i j w' (fun e => by rw [e, hi] at h'; cases h'.2.2)]; exact h'
  · rw [exit_other i j w' (fun e => hx (e ▸ hi))]; exact h'

/-- `exit j` looks only at what `j` captured on entry, and while `j` is active nothing else writes that -/
theorem exit_snapshot_flatBy {disp : Nat → Obj → Val → World σ → World σ × Outcome}
    (hd : CtlFrame disp) (j : Nat) (u : List (FEv σ)) (x : Bool)
    (w : World σ) (hj : (w.journals j).active = false) (hu : j ∉ flatExits u) :
    let w' := runFlatBy disp (.enter j :: u ++ [.exit j x]) w
    w'.table = w.table ∧ w'.current = w.current ∧ (w'.journals j).active = false := by
  have hen := enter_of_inactive j w hj
  have hact : ((enterRaw j w).journals j).active = true := by rw [enterRaw_self]
  have hf := flatBy_frame_active hd j u (enterRaw j w) hact hu
  have hcap : ((runFlatBy disp u (enterRaw j w)).journals j).captured = some w.table := by
    rw [hf.1, enterRaw_self]
  have hprev : ((runFlatBy disp u (enterRaw j w)).journals j).previous = w.current := by
    rw [hf.2.1, enterRaw_self]
  simp only [runFlatBy, hen, Option.getD_some, runFlatBy_append]
  simp [exit, hcap, hprev, upd]

/-- a properly nested word, structurally -/
inductive WB : List (FEv σ) → Prop where
  | nil : WB []
  | op (p : Prog σ) {u : List (FEv σ)} : WB u → WB (.op p :: u)
  | block (j : Nat) (x : Bool) {a b : List (FEv σ)} : WB a → j ∉ flatEnters a → WB b →
      WB (.enter j :: a ++ .exit j x :: b)

theorem flatEnters_append (a b : List (FEv σ)) : flatEnters (a ++ b) = flatEnters a ++ flatEnters b := by
  induction a with
  | nil => rfl
  | cons e r ih => cases e <;> simp [flatEnters, ih]

theorem flatExits_append (a b : List (FEv σ)) : flatExits (a ++ b) = flatExits a ++ flatExits b := by
  induction a with
  | nil => rfl
  | cons e r ih => cases e <;> simp [flatExits, ih]

/-- what `wbAux st u = true` says: `u` closes the journals of `st` one after the other, with properly nested words
    (that enter none of the open journals) in between -/
def Closes : List Nat → List (FEv σ) → Prop
  | [], u => WB u
  | t :: st, u => ∃ a x b, u = a ++ .exit t x :: b ∧ WB a ∧ (∀ s ∈ t :: st, s ∉ flatEnters a) ∧ Closes st b

theorem Closes.op (p : Prog σ) : ∀ {st : List Nat} {u : List (FEv σ)}, Closes st u → Closes st (.op p :: u)
  | [], _, h => WB.op p h
  | _ :: _, _, ⟨a, x, b, hu, ha, hs, hb⟩ =>
    ⟨.op p :: a, x, b, by rw [hu]; rfl, WB.op p ha, fun s hs' => by simpa [flatEnters] using hs s hs', hb⟩

/-- at `enter j`, the word up to the matching `exit j` becomes a block: two layers of `Closes` become one -/
theorem closes_of_wbAux : ∀ (u : List (FEv σ)) (st : List Nat), wbAux st u = true → Closes st u := by
  intro u
  induction u with
  | nil =>
    intro st h
    cases st with
    | nil => exact WB.nil
    | cons t st => simp [wbAux] at h
  | cons e r ih =>
    intro st h
    cases e with
    | op p => exact (ih st h).op p
    | exit j x =>
      cases st with
      | nil => simp [wbAux] at h
      | cons t st' =>
        simp only [wbAux, Bool.and_eq_true, beq_iff_eq] at h
        obtain ⟨rfl, h'⟩ := h
        exact ⟨[], x, r, rfl, WB.nil, fun _ _ hm => by simp [flatEnters] at hm, ih st' h'⟩
    | enter j =>
      simp only [wbAux, Bool.and_eq_true, Bool.not_eq_true', List.contains_eq_mem, decide_eq_false_iff_not] at h
      obtain ⟨hj, h'⟩ := h
      obtain ⟨a, x, b, hr, ha, hs, hb⟩ := ih (j :: st) h'
      have hja : j ∉ flatEnters a := hs j (List.mem_cons_self ..)
      cases st with
      | nil => rw [hr]; exact WB.block j x ha hja hb
      | cons t st' =>
        obtain ⟨a', x', b', hb', ha', hs', hb''⟩ := hb
        refine ⟨.enter j :: a ++ .exit j x :: a', x', b', by rw [hr, hb']; simp, WB.block j x ha hja ha', ?_, hb''⟩
        intro s hs1
        have hsj : s ≠ j := fun e => hj (e ▸ hs1)
        simp only [List.cons_append, flatEnters, flatEnters_append, List.mem_cons, List.mem_append, not_or]
        exact ⟨hsj, hs s (List.mem_cons_of_mem _ hs1), hs' s hs1⟩

theorem WB.of_wellBracketed {u : List (FEv σ)} (h : WellBracketed u) : WB u := closes_of_wbAux u [] h

theorem WB.exits_sub {u : List (FEv σ)} (h : WB u) : ∀ j ∈ flatExits u, j ∈ flatEnters u := by
  induction h with
  | nil => intro j hj; simp [flatExits] at hj
  | op p _ ih => intro j hj; exact ih j hj
  | block i x _ _ _ iha ihb =>
    intro j hj
    simp only [List.cons_append, flatExits, flatEnters, flatExits_append, flatEnters_append, List.mem_cons,
      List.mem_append] at hj ⊢
    rcases hj with hj | rfl | hj
    · exact Or.inr (Or.inl (iha j hj))
    · exact Or.inl rfl
    · exact Or.inr (Or.inr (ihb j hj))

theorem WB.append {u v : List (FEv σ)} (hu : WB u) (hv : WB v) : WB (u ++ v) := by
  induction hu with
  | nil => exact hv
  | op p _ ih => exact WB.op p ih
  | @block j x a b ha hja _ _ ihb =>
    have e : (FEv.enter j :: a ++ FEv.exit j x :: b) ++ v = .enter j :: a ++ .exit j x :: (b ++ v) := by simp
    rw [e]
    exact WB.block j x ha hja ihb

theorem restore_WB {disp : Nat → Obj → Val → World σ → World σ × Outcome}
    (hd : CtlFrame disp) {u : List (FEv σ)} (hu : WB u) :
    ∀ (w : World σ), (∀ j ∈ flatEnters u, (w.journals j).active = false) →
      (runFlatBy disp u w).table = w.table ∧ (runFlatBy disp u w).current = w.current ∧
        ∀ i, ((runFlatBy disp u w).journals i).active = (w.journals i).active := by
  induction hu with
  | nil => intro w _; exact ⟨rfl, rfl, fun _ => rfl⟩
  | op p _ ih =>
    intro w hf
    have hc := hd p w
    obtain ⟨h1, h2, h3⟩ := ih { (runProg disp p w).1 with log := (runProg disp p w).1.log ++ [(runProg disp p w).2] }
      (fun j hj' => (hc.active j).trans (hf j hj'))
    exact ⟨h1.trans hc.table, h2.trans hc.current, fun i => (h3 i).trans (hc.active i)⟩
  | @block j x a b ha hja _ iha ihb =>
    intro w hf
    have hj : (w.journals j).active = false := hf j (by simp [flatEnters])
    have hfa : ∀ i ∈ flatEnters a, ((enterRaw j w).journals i).active = false := fun i hi => by
      rw [enterRaw_other j i w (fun e => hja (e ▸ hi))]; exact hf i (by simp [flatEnters, flatEnters_append, hi])
    -- the closed block puts back the table and current journal of `w` whatever `a` is; the flags by `iha`
    obtain ⟨ht, hc, hjj⟩ := exit_snapshot_flatBy hd j a x w hj (fun h => hja (ha.exits_sub j h))
    have hact : ∀ i, ((runFlatBy disp (.enter j :: a ++ [.exit j x]) w).journals i).active = (w.journals i).active := by
      intro i
      by_cases hij : i = j
      · subst hij; rw [hjj, hj]
      · have hen := enter_of_inactive j w hj
        simp only [List.cons_append, runFlatBy, hen, Option.getD_some, runFlatBy_append]
        rw [exit_other j i _ hij, (iha _ hfa).2.2 i, enterRaw_other j i w hij]
    have hsplit : runFlatBy disp (.enter j :: a ++ .exit j x :: b) w =
        runFlatBy disp b (runFlatBy disp (.enter j :: a ++ [.exit j x]) w) := by
      rw [← runFlatBy_append]; simp
    rw [hsplit]
    obtain ⟨h1, h2, h3⟩ := ihb _ (fun i hi => by rw [hact i]; exact hf i (by simp [flatEnters, flatEnters_append, hi]))
    exact ⟨h1.trans ht, h2.trans hc, fun i => (h3 i).trans (hact i)⟩

/-- `i` is exited BEFORE the `j` entered inside it: `exit j` reinstalls the table of the moment `j` was entered, which
    carries the wrappers of the journal `i` that is exited by then -/
theorem improper_nesting_flatBy {disp : Nat → Obj → Val → World σ → World σ × Outcome}
    (hd : CtlFrame disp) (i j : Nat) (hij : i ≠ j)
    (u v : List (FEv σ)) (x y : Bool) (w : World σ)
    (hu : WellBracketed u) (hui : i ∉ flatEnters u)
    (hfresh : ∀ a ∈ flatEnters u, (w.journals a).active = false)
    (hi : (w.journals i).active = false) (hj : (w.journals j).active = false)
    (hvj : j ∉ flatExits v) (hvi : i ∉ flatExits v) :
    let w' := runFlatBy disp (.enter i :: u ++ .enter j :: v ++ [.exit i x, .exit j y]) w
    (∀ k, w'.table k = .wrap i k (w.table k)) ∧ w'.current = some i ∧
      (w'.journals i).active = false ∧ (w'.journals j).active = false := by
  have hen := enter_of_inactive i w hi
  have hfresh1 : ∀ a ∈ flatEnters u, ((enterRaw i w).journals a).active = false := by
    intro a ha
    have hai : a ≠ i := fun e => hui (e ▸ ha)
    rw [enterRaw_other i a w hai]; exact hfresh a ha
  obtain ⟨ht1, hc1, ha1⟩ := restore_WB hd (WB.of_wellBracketed hu) (enterRaw i w) hfresh1
  let w1 := runFlatBy disp u (enterRaw i w)
  have hj1 : (w1.journals j).active = false := by
    show ((runFlatBy disp u (enterRaw i w)).journals j).active = false
    rw [ha1 j, enterRaw_other i j w (fun e => hij e.symm)]; exact hj
  have hi1 : (w1.journals i).active = true := by
    show ((runFlatBy disp u (enterRaw i w)).journals i).active = true
    rw [ha1 i]; simp [enterRaw, upd]
  -- `enter j :: (v ++ [exit i]) ++ [exit j]` restores the snapshot of `w1`
  have hx : j ∉ flatExits (v ++ [FEv.exit (σ := σ) i x]) := by
    simp only [flatExits_append, flatExits, List.mem_append, List.mem_singleton, not_or]
    exact ⟨hvj, fun e => hij e.symm⟩
  have hsnap := exit_snapshot_flatBy hd j (v ++ [.exit i x]) y w1 hj1 hx
  have hw : runFlatBy disp (.enter i :: u ++ .enter j :: v ++ [.exit i x, .exit j y]) w =
      runFlatBy disp (.enter j :: (v ++ [.exit i x]) ++ [.exit j y]) w1 := by
    have e1 : (FEv.enter i :: u ++ FEv.enter j :: v ++ [FEv.exit i x, FEv.exit j y] : List (FEv σ)) =
        FEv.enter i :: (u ++ (FEv.enter j :: (v ++ [FEv.exit i x]) ++ [FEv.exit j y])) := by simp
    rw [e1]
    simp only [runFlatBy, hen, Option.getD_some]
    rw [runFlatBy_append]
  simp only [] at hsnap ⊢
  rw [hw]
  refine ⟨fun k => ?_, ?_, ?_, hsnap.2.2⟩
  · rw [hsnap.1]
    show (runFlatBy disp u (enterRaw i w)).table k = _
    rw [ht1]; rfl
  · rw [hsnap.2.1]
    show (runFlatBy disp u (enterRaw i w)).current = _
    rw [hc1]; rfl
  · -- `i` stays active through `enter j :: v`, is exited, and `exit j` does not touch it
    have hen_j := enter_of_inactive j w1 hj1
    have hi2 : ((enterRaw j w1).journals i).active = true := by
      rw [enterRaw_other j i w1 hij]; exact hi1
    have hf := flatBy_frame_active hd i v (enterRaw j w1) hi2 hvi
    have hcap : ∃ t, ((runFlatBy disp v (enterRaw j w1)).journals i).captured = some t := by
      rw [hf.1, enterRaw_other j i w1 hij]
      have hfi := flatBy_frame_active hd i u (enterRaw i w) (by simp [enterRaw, upd])
        (fun hmem => hui ((WB.of_wellBracketed hu).exits_sub i hmem))
      exact ⟨w.table, by
        show ((runFlatBy disp u (enterRaw i w)).journals i).captured = _
        rw [hfi.1, enterRaw_self]⟩
    obtain ⟨t, hcap⟩ := hcap
    simp only [List.cons_append, List.append_assoc, runFlatBy, hen_j, Option.getD_some, runFlatBy_append,
      List.nil_append]
    rw [exit_other j i _ hij]
    simp [exit, hcap, upd]


end IrVerif.Journal
