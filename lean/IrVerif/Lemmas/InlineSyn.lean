/-
Lemmas/InlineSyn.lean — syntactic invariants of `_inline_calls_in` (`inlG` / `inlNodes` / `inlBodies` / `inlAt`):
a per-operator predicate that holds of the function bodies of the table (no stochastic operator; call depth),
well-formed calls and input/initializer-disjoint subgraphs survive inlining.  With these the rewritten function
bodies are again what a later clone needs (`synOK`).
-/
import IrVerif.Lemmas.InlineWF
namespace IrVerif.Inline
open IrVerif.Sem IrVerif.Passes

/-- what is carried along: a per-operator predicate, input/initializer-disjoint subgraphs, well-formed calls -/
def Syn (q : OpId → Bool) (tbl : List Func) (ns : List FNode) : Prop :=
  opsAllNodes q ns = true ∧ subInitsOKNodes ns = true ∧ callsOKNodes tbl ns = true

theorem fwdOuts_syn (q : OpId → Bool) (hq : q identityOp = true) (tbl : List Func)
    (hid : findFunc tbl identityOp = none) (vm : VMap) (produced vs : List VId) (next : Nat) :
    Syn q tbl (fwdOuts vm produced vs next).nodes := by
  fun_induction fwdOuts vm produced vs next with
  | case1 => simp [Syn, opsAllNodes, subInitsOKNodes, callsOKNodes]
  | case2 _ _ _ _ _ _ _ ih => exact ih
  | case3 _ _ _ _ _ _ _ ih =>
    obtain ⟨a, b, c⟩ := ih
    simp [Syn, opsAllNodes, opsAllN, opsAllBodies, subInitsOKNodes, subInitsOKN, subInitsOKBodies, callsOKNodes, callsOKN,
      callsOKBodies, hq, hid, a, b, c]
  | case4 _ _ _ _ _ ih =>
    obtain ⟨a, b, c⟩ := ih
    simp [Syn, opsAllNodes, opsAllN, opsAllBodies, subInitsOKNodes, subInitsOKN, subInitsOKBodies, callsOKNodes, callsOKN,
      callsOKBodies, hq, hid, a, b, c]

theorem instantiate_syn (q : OpId → Bool) (hq : q identityOp = true) (tbl : List Func)
    (hid : findFunc tbl identityOp = none) (f : Func) (hf : Syn q tbl f.nodes)
    (cattrs : List (String × FAttr)) (cins : List (Option VId)) (next : Nat) :
    Syn q tbl (instantiate f cattrs cins next).nodes := by
  obtain ⟨h1, _, h3⟩ := hf
  obtain ⟨w1, w2, w3⟩ := fwdOuts_syn q hq tbl hid (cloneNodes (attrMap f.params cattrs) (zipPad f.inputs cins) next f.nodes).2.1
    (outsTopF (cloneNodes (attrMap f.params cattrs) (zipPad f.inputs cins) next f.nodes).1) f.outputs
    (cloneNodes (attrMap f.params cattrs) (zipPad f.inputs cins) next f.nodes).2.2
  simp only [instantiate, Syn]
  refine ⟨?_, ?_, ?_⟩
  · rw [opsAllNodes_append, cloneNodes_ops, h1, w1]; rfl
  · rw [subInitsOKNodes_append, cloneNodes_subInits, w2]; rfl
  · rw [callsOKNodes_append, cloneNodes_callsOK tbl _ f.nodes _ _ h3, w3]; rfl

section
variable (q : OpId → Bool) (tbl : List Func) (crit : OpId → Bool) (deeper : Deeper)

def DeepSyn : Prop := ∀ (st : ISt) (ns : List FNode), Syn q tbl ns → Syn q tbl (deeper st ns).2.1

theorem inl_syn (hq : q identityOp = true) (hid : findFunc tbl identityOp = none)
    (ht : ∀ op f, findFunc tbl op = some f → q op = true → Syn q tbl f.nodes) (hd : DeepSyn q tbl deeper) :
    let G := fun (_ : ISt) (_ : Subst) g (r : ISt × FGraph) => opsAllG q g = true → subInitsOKG g = true →
      callsOKG tbl g = true → opsAllG q r.2 = true ∧ subInitsOKG r.2 = true ∧ callsOKG tbl r.2 = true
    let Ns := fun (_ : ISt) (_ : Subst) (_ : List VId) ns (r : IRes) => Syn q tbl ns → Syn q tbl r.nodes
    let Bs := fun (_ : ISt) (_ : Subst) bs (r : ISt × List FGraph) => opsAllBodies q bs = true →
      subInitsOKBodies bs = true → callsOKBodies tbl bs = true →
      opsAllBodies q r.2 = true ∧ subInitsOKBodies r.2 = true ∧ callsOKBodies tbl r.2 = true
    (∀ st σ g, G st σ g (inlG tbl crit deeper st σ g)) ∧
    (∀ st σ outs ns, Ns st σ outs ns (inlNodes tbl crit deeper st σ outs ns)) ∧
    ∀ st σ bs, Bs st σ bs (inlBodies tbl crit deeper st σ bs) := by
  intro G Ns Bs
  refine inlG.mutual_induct_unfolding tbl crit deeper G Ns Bs ?_ ?_ ?_ ?_ ?_ ?_
  · intro st σ inputs outputs inits nodes ih h1 h2 h3
    simp only [opsAllG] at h1
    simp only [subInitsOKG, Bool.and_eq_true] at h2
    simp only [callsOKG] at h3
    obtain ⟨k1, k2, k3⟩ := ih ⟨h1, h2.2, h3⟩
    simp only [opsAllG, subInitsOKG, callsOKG, Bool.and_eq_true]
    exact ⟨k1, ⟨h2.1, k2⟩, k3⟩
  · intro _ _ _ h
    exact h
  · -- a call that is inlined: the inserted nodes are a clone of a function body
    intro st σ outs op attrs ins nouts bodies ns f hsel inst d pairs r ih h
    obtain ⟨h1, h2, h3⟩ := h
    simp only [opsAllNodes, opsAllN, Bool.and_eq_true] at h1
    simp only [subInitsOKNodes, subInitsOKN, Bool.and_eq_true] at h2
    simp only [callsOKNodes, callsOKN, Bool.and_eq_true] at h3
    obtain ⟨hcrit, hff⟩ := of_accepted hsel
    obtain ⟨d1, d2, d3⟩ := hd (st.addInlined op inst.next (inst.bad || nouts.length != f.outputs.length)) _
      (instantiate_syn q hq tbl hid f (ht op f hff h1.1.1) attrs (substIns σ ins) st.next)
    obtain ⟨k1, k2, k3⟩ := ih ⟨h1.2, h2.2, h3.2⟩
    refine ⟨?_, ?_, ?_⟩
    · rw [opsAllNodes_append, d1, k1]; rfl
    · rw [subInitsOKNodes_append, d2, k2]; rfl
    · rw [callsOKNodes_append, d3, k3]; rfl
  · intro st σ outs op attrs ins nouts bodies ns _ rb r ihb ih h
    obtain ⟨h1, h2, h3⟩ := h
    simp only [opsAllNodes, opsAllN, Bool.and_eq_true] at h1
    simp only [subInitsOKNodes, subInitsOKN, Bool.and_eq_true] at h2
    simp only [callsOKNodes, callsOKN, Bool.and_eq_true] at h3
    obtain ⟨b1, b2, b3⟩ := ihb h1.1.2 h2.1 h3.1.2
    obtain ⟨k1, k2, k3⟩ := ih ⟨h1.2, h2.2, h3.2⟩
    refine ⟨?_, ?_, ?_⟩
    · simp only [opsAllNodes, opsAllN, Bool.and_eq_true]; exact ⟨⟨h1.1.1, b1⟩, k1⟩
    · simp only [subInitsOKNodes, subInitsOKN, Bool.and_eq_true]; exact ⟨b2, k2⟩
    · simp only [callsOKNodes, callsOKN, Bool.and_eq_true]
      refine ⟨⟨?_, b3⟩, k3⟩
      cases hf : findFunc tbl op with
      | none => rfl
      | some f =>
        have hc := h3.1.1
        rw [hf] at hc
        simp only at hc ⊢
        have hb := callOK_bodies_nil hc
        subst hb
        simp only [rb, inlBodies]
        simp only [callOK, Bool.and_eq_true, decide_eq_true_eq, List.all_eq_true, List.isEmpty_iff] at hc ⊢
        exact ⟨⟨⟨⟨trivial, hc.1.1.1.2⟩, by simpa [substIns] using hc.1.1.2⟩, hc.1.2⟩, hc.2⟩
  · intro _ _ _ _ _
    exact ⟨rfl, rfl, rfl⟩
  · intro st σ b bs ihg ihb h1 h2 h3
    simp only [opsAllBodies, Bool.and_eq_true] at h1
    simp only [subInitsOKBodies, Bool.and_eq_true] at h2
    simp only [callsOKBodies, Bool.and_eq_true] at h3
    obtain ⟨g1, g2, g3⟩ := ihg h1.1 h2.1 h3.1
    obtain ⟨k1, k2, k3⟩ := ihb h1.2 h2.2 h3.2
    simp only [opsAllBodies, subInitsOKBodies, callsOKBodies, Bool.and_eq_true]
    exact ⟨⟨g1, k1⟩, ⟨g2, k2⟩, ⟨g3, k3⟩⟩

theorem inlG_syn (hq : q identityOp = true) (hid : findFunc tbl identityOp = none)
    (ht : ∀ op f, findFunc tbl op = some f → q op = true → Syn q tbl f.nodes) (hd : DeepSyn q tbl deeper) :
    ∀ (g : FGraph) (st : ISt) (σ : Subst), opsAllG q g = true → subInitsOKG g = true → callsOKG tbl g = true →
    opsAllG q (inlG tbl crit deeper st σ g).2 = true ∧ subInitsOKG (inlG tbl crit deeper st σ g).2 = true ∧
    callsOKG tbl (inlG tbl crit deeper st σ g).2 = true :=
  fun g st σ => (inl_syn q tbl crit deeper hq hid ht hd).1 st σ g

theorem inlBodies_syn (hq : q identityOp = true) (hid : findFunc tbl identityOp = none)
    (ht : ∀ op f, findFunc tbl op = some f → q op = true → Syn q tbl f.nodes) (hd : DeepSyn q tbl deeper) :
    ∀ (bs : List FGraph) (st : ISt) (σ : Subst), opsAllBodies q bs = true → subInitsOKBodies bs = true →
    callsOKBodies tbl bs = true →
    opsAllBodies q (inlBodies tbl crit deeper st σ bs).2 = true ∧ subInitsOKBodies (inlBodies tbl crit deeper st σ bs).2 = true ∧
    callsOKBodies tbl (inlBodies tbl crit deeper st σ bs).2 = true :=
  fun bs st σ => (inl_syn q tbl crit deeper hq hid ht hd).2.2 st σ bs

end

theorem deepSyn_inlAt (q : OpId → Bool) (tbl : List Func) (crit : OpId → Bool) (hq : q identityOp = true)
    (hid : findFunc tbl identityOp = none)
    (ht : ∀ op f, findFunc tbl op = some f → q op = true → Syn q tbl f.nodes) :
    ∀ k, DeepSyn q tbl (inlAt tbl crit k)
  | 0 => fun st ns h => by simpa [inlAt] using h
  | k + 1 => fun st ns h => by
    simp only [inlAt]
    exact (inl_syn q tbl crit _ hq hid ht (deepSyn_inlAt q tbl crit hq hid ht k)).2.1 st [] [] ns h

end IrVerif.Inline
