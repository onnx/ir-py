/-
Erasing the extension state of the extended deserializer (`Model/ScopeExt.lean`) gives the core deserializer
(`Model/Scope.lean`) on the erased proto: same store, same tree, same error; for graphs (`deserGraphE_erase`,
`deserializeE_erase`) and for functions and models (`deserFunctionE_erase`, `deserializeME_erase`).
-/
import IrVerif.Model.ScopeExt
namespace IrVerif.Scope

theorem eraseVT_vinfoTableE (vi : List VInfoE) : eraseVT (vinfoTableE vi) = vinfoTable (vi.map VInfoE.erase) := by
  simp [eraseVT, vinfoTableE, vinfoTable, VInfoE.erase, List.map_reverse, List.map_map, Function.comp_def]

theorem eraseVT_lookup (vt : List (Name × Info × SS)) (n : Name) :
    (eraseVT vt).lookup n = (vt.lookup n).map (·.1) := by
  induction vt with
  | nil => rfl
  | cons a r ih =>
    obtain ⟨k, i, m⟩ := a
    simp only [eraseVT, List.map_cons, List.lookup_cons] at ih ⊢
    split
    · rfl
    · exact ih

theorem deserInputsE_erase (qt : List (Name × SS)) : ∀ (is : List VInfoE) (st : Store) (x : Ext),
    (deserInputsE st x qt is).1 = (deserInputs st (is.map VInfoE.erase)).1 ∧
    (deserInputsE st x qt is).2.2 = (deserInputs st (is.map VInfoE.erase)).2
  | [], st, x => ⟨rfl, rfl⟩
  | i :: is, st, x => by
    simp only [deserInputsE, List.map_cons, deserInputs]
    obtain ⟨a, b⟩ := deserInputsE_erase qt is (st.alloc { name := some i.name, info := i.info }).1
      (((x.merge (st.alloc { name := some i.name, info := i.info }).2 i.mprops).annotate qt
        (st.alloc { name := some i.name, info := i.info }).2 i.name))
    exact ⟨a, by rw [b]; rfl⟩

theorem deserInitsE_erase (vt : List (Name × Info × SS)) (qt : List (Name × SS)) :
    ∀ (ts : List TensorP) (st : Store) (x : Ext) (tbl : Table),
      (deserInitsE st x tbl vt qt ts).1 = (deserInits st tbl (eraseVT vt) ts).1 ∧
      (deserInitsE st x tbl vt qt ts).2.2.1 = (deserInits st tbl (eraseVT vt) ts).2.1 ∧
      (deserInitsE st x tbl vt qt ts).2.2.2 = (deserInits st tbl (eraseVT vt) ts).2.2
  | [] => fun st x tbl => ⟨rfl, rfl, rfl⟩
  | t :: ts => fun st x tbl => by
    simp only [deserInitsE, deserInits]
    by_cases hn : t.name = ""
    · simp only [hn, if_true]
      exact deserInitsE_erase vt qt ts st x tbl
    · simp only [hn, if_false]
      cases hl : tbl.lookup t.name with
      | some v =>
        simp only
        obtain ⟨a, b, c⟩ := deserInitsE_erase vt qt ts
          ((st.allocTensor { name := some t.name, data := t.data, ty := t.ty, sh := t.sh }).1.modify v
            fun c => { c with const := some st.nt }) x tbl
        exact ⟨a, b, by rw [c]⟩
      | none =>
        simp only
        obtain ⟨a, b, c⟩ := deserInitsE_erase vt qt ts
          (newInit (st.allocTensor { name := some t.name, data := t.data, ty := t.ty, sh := t.sh }).1 (eraseVT vt) t st.nt)
          (x.newNamed vt qt st.nv t.name) ((t.name, st.nv) :: tbl)
        exact ⟨a, b, by rw [c]⟩

/-- projection of a result of the extended functions: forget the extension state -/
def dropX {α : Type} : Except Err (Store × Ext × α) → Except Err (Store × α)
  | .ok (st, _, a) => .ok (st, a)
  | .error e => .error e

theorem dropX_ok {α : Type} {r : Except Err (Store × Ext × α)} {r' : Except Err (Store × α)} {st : Store} {x : Ext}
    {a : α} (he : dropX r = r') (h : r = .ok (st, x, a)) : r' = .ok (st, a) := by
  subst h; exact he.symm

theorem declareOutputsE_erase (vt : List (Name × Info × SS)) (qt : List (Name × SS)) :
    ∀ (ns : List Name) (st : Store) (x : Ext) (tbl : Table),
      dropX (declareOutputsE st x tbl vt qt ns) = declareOutputs st tbl (eraseVT vt) ns
  | [] => fun st x tbl => rfl
  | n :: ns => fun st x tbl => by
    simp only [declareOutputsE, declareOutputs]
    by_cases hn : n = ""
    · simp only [hn, if_true]
      exact declareOutputsE_erase vt qt ns st x tbl
    · simp only [hn, if_false]
      cases hl : tbl.lookup n with
      | some v => rfl
      | none => exact declareOutputsE_erase vt qt ns _ _ _

theorem eraseN_outputs (n : NodeE) : (eraseN n).outputs = n.outputs := by
  cases n; rfl

theorem declareNodesE_erase (vt : List (Name × Info × SS)) (qt : List (Name × SS)) :
    ∀ (ns : List NodeE) (st : Store) (x : Ext) (tbl : Table),
      dropX (declareNodesE st x tbl vt qt ns) = declareNodes st tbl (eraseVT vt) (eraseNs ns)
  | [] => fun st x tbl => rfl
  | n :: ns => fun st x tbl => by
    simp only [declareNodesE, eraseNs, declareNodes, eraseN_outputs]
    rw [← declareOutputsE_erase vt qt n.outputs st x tbl]
    cases declareOutputsE st x tbl vt qt n.outputs with
    | error e => rfl
    | ok r => exact declareNodesE_erase vt qt ns r.1 r.2.1 r.2.2

theorem resolveInputsE_erase (outer : List Table) (vt : List (Name × Info × SS)) (qt : List (Name × SS)) :
    ∀ (ns : List Name) (st : Store) (x : Ext) (top : Table),
      (resolveInputsE st x top outer vt qt ns).1 = (resolveInputs st top outer (eraseVT vt) ns).1 ∧
      (resolveInputsE st x top outer vt qt ns).2.2.1 = (resolveInputs st top outer (eraseVT vt) ns).2.1 ∧
      (resolveInputsE st x top outer vt qt ns).2.2.2 = (resolveInputs st top outer (eraseVT vt) ns).2.2
  | [] => fun st x top => ⟨rfl, rfl, rfl⟩
  | n :: ns => fun st x top => by
    simp only [resolveInputsE, resolveInputs]
    by_cases hn : n = ""
    · simp only [hn, if_true]
      obtain ⟨a, b, c⟩ := resolveInputsE_erase outer vt qt ns st x top
      exact ⟨a, b, by rw [c]⟩
    · simp only [hn, if_false]
      cases hl : resolve n (top :: outer) with
      | some v =>
        simp only
        obtain ⟨a, b, c⟩ := resolveInputsE_erase outer vt qt ns st x top
        exact ⟨a, b, by rw [c]⟩
      | none =>
        simp only
        obtain ⟨a, b, c⟩ := resolveInputsE_erase outer vt qt ns (newNamed st (eraseVT vt) n)
          (x.newNamed vt qt st.nv n) ((n, st.nv) :: top)
        exact ⟨a, b, by rw [c]⟩

theorem deserOutputsE_erase (tbl : Table) : ∀ (os : List VInfoE) (st : Store) (x : Ext),
    (deserOutputsE st x tbl os).1 = (deserOutputs st tbl (os.map VInfoE.erase)).1 ∧
    (deserOutputsE st x tbl os).2.2 = (deserOutputs st tbl (os.map VInfoE.erase)).2
  | [], st, x => ⟨rfl, rfl⟩
  | o :: os, st, x => by
    simp only [deserOutputsE, List.map_cons, deserOutputs]
    have e1 : (VInfoE.erase o).name = o.name := rfl
    have e2 : (VInfoE.erase o).info = o.info := rfl
    simp only [e1, e2]
    cases hl : tbl.lookup o.name with
    | some v =>
      simp only
      obtain ⟨a, b⟩ := deserOutputsE_erase tbl os (st.modify v fun c => { c with info := o.info }) (x.merge v o.mprops)
      exact ⟨a, by rw [b]⟩
    | none =>
      simp only
      obtain ⟨a, b⟩ := deserOutputsE_erase tbl os (st.alloc { name := some o.name, info := o.info }).1
        (x.merge (st.alloc { name := some o.name, info := o.info }).2 o.mprops)
      exact ⟨a, by rw [b]⟩

theorem inputNames_erase (is : List VInfoE) : (is.map VInfoE.erase).map (·.name) = is.map (·.name) := by
  simp [VInfoE.erase, List.map_map, Function.comp_def]

mutual
theorem deserGraphE_erase : ∀ (p : GraphE) (st : Store) (x : Ext) (outer : List Table),
    dropX (deserGraphE st x outer p) = deserGraph st outer (eraseG p)
  | .mk inputs inits vinfo nodes outputs quant => fun st x outer => by
    simp only [deserGraphE, eraseG, deserGraph]
    obtain ⟨i1, i2⟩ := deserInputsE_erase (quantTable quant) inputs st x
    rw [← i1, ← i2]
    simp only [inputTable, inputNames_erase, ← eraseVT_vinfoTableE]
    obtain ⟨j1, j2, j3⟩ := deserInitsE_erase (vinfoTableE vinfo) (quantTable quant) inits
      (deserInputsE st x (quantTable quant) inputs).1 (deserInputsE st x (quantTable quant) inputs).2.1
      ((inputs.map (·.name)).zip (deserInputsE st x (quantTable quant) inputs).2.2).reverse
    rw [← j1, ← j2, ← j3]
    generalize deserInitsE (deserInputsE st x (quantTable quant) inputs).1 (deserInputsE st x (quantTable quant) inputs).2.1
      ((inputs.map (·.name)).zip (deserInputsE st x (quantTable quant) inputs).2.2).reverse (vinfoTableE vinfo)
      (quantTable quant) inits = r2
    obtain ⟨st2, x2, tbl2, initVals⟩ := r2
    simp only
    rw [← declareNodesE_erase (vinfoTableE vinfo) (quantTable quant) nodes st2 x2 tbl2]
    cases declareNodesE st2 x2 tbl2 (vinfoTableE vinfo) (quantTable quant) nodes with
    | error e => rfl
    | ok r3 =>
      obtain ⟨st3, x3, tbl3⟩ := r3
      simp only [dropX]
      rw [← deserNodesE_erase nodes st3 x3 tbl3 outer (vinfoTableE vinfo) (quantTable quant)]
      cases deserNodesE st3 x3 tbl3 outer (vinfoTableE vinfo) (quantTable quant) nodes with
      | error e => rfl
      | ok r4 =>
        obtain ⟨st4, x4, tbl4, ns⟩ := r4
        obtain ⟨o1, o2⟩ := deserOutputsE_erase tbl4 outputs st4 x4
        simp only [dropX]
        rw [← o1, ← o2]
theorem deserNodesE_erase : ∀ (ns : List NodeE) (st : Store) (x : Ext) (top : Table) (outer : List Table)
    (vt : List (Name × Info × SS)) (qt : List (Name × SS)),
    dropX (deserNodesE st x top outer vt qt ns) = deserNodes st top outer (eraseVT vt) (eraseNs ns)
  | [] => fun st x top outer vt qt => rfl
  | n :: ns => fun st x top outer vt qt => by
    simp only [deserNodesE, eraseNs, deserNodes]
    rw [← deserNodeE_erase n st x top outer vt qt]
    cases deserNodeE st x top outer vt qt n with
    | error e => rfl
    | ok r =>
      obtain ⟨st1, x1, top1, nt⟩ := r
      simp only [dropX]
      rw [← deserNodesE_erase ns st1 x1 top1 outer vt qt]
      cases deserNodesE st1 x1 top1 outer vt qt ns with
      | error e => rfl
      | ok r2 => rfl
theorem deserNodeE_erase : ∀ (n : NodeE) (st : Store) (x : Ext) (top : Table) (outer : List Table)
    (vt : List (Name × Info × SS)) (qt : List (Name × SS)),
    dropX (deserNodeE st x top outer vt qt n) = deserNode st top outer (eraseVT vt) (eraseN n)
  | .mk inputs outputs devs subs => fun st x top outer vt qt => by
    simp only [deserNodeE, eraseN, deserNode]
    obtain ⟨k1, k2, k3⟩ := resolveInputsE_erase outer vt qt inputs st x top
    rw [← k1, ← k2, ← k3]
    generalize resolveInputsE st x top outer vt qt inputs = r1
    obtain ⟨st1, x1, top1, ins⟩ := r1
    simp only
    cases lookupOutputs st1 top1 outputs with
    | error e => rfl
    | ok r2 =>
      obtain ⟨st2, outs⟩ := r2
      simp only
      rw [← deserSubsE_erase subs st2 x1 (top1 :: outer)]
      cases deserSubsE st2 x1 (top1 :: outer) subs with
      | error e => rfl
      | ok r3 => rfl
theorem deserSubsE_erase : ∀ (gs : List GraphE) (st : Store) (x : Ext) (scopes : List Table),
    dropX (deserSubsE st x scopes gs) = deserSubs st scopes (eraseGs gs)
  | [] => fun st x scopes => rfl
  | g :: gs => fun st x scopes => by
    simp only [deserSubsE, eraseGs, deserSubs]
    rw [← deserGraphE_erase g st x scopes]
    cases deserGraphE st x scopes g with
    | error e => rfl
    | ok r =>
      obtain ⟨st1, x1, gt⟩ := r
      simp only [dropX]
      rw [← deserSubsE_erase gs st1 x1 scopes]
      cases deserSubsE st1 x1 scopes gs with
      | error e => rfl
      | ok r2 => rfl
end

theorem deserializeE_ok {p : GraphE} {st : Store} {x : Ext} {g : GraphT} (h : deserializeE p = .ok ⟨st, x, g⟩) :
    deserGraphE {} {} [] p = .ok (st, x, g) := by
  simp only [deserializeE] at h
  split at h
  · simp at h
  · rename_i hg
    simp only [Except.ok.injEq, WorldE.mk.injEq] at h
    obtain ⟨rfl, rfl, rfl⟩ := h
    exact hg

theorem deserializeME_ok {p : ModelE} {st1 : Store} {x1 : Ext} {g : GraphT} {fs : List (FId × GraphT)}
    (h : deserializeME p = .ok ⟨st1, x1, g, fs⟩) :
    ∃ st x, deserGraphE {} {} [] p.graph = .ok (st, x, g) ∧ deserFuncsE st x [] p.funcs = .ok (st1, x1, fs) := by
  simp only [deserializeME] at h
  split at h
  · simp at h
  · rename_i st x g' hg
    split at h
    · simp at h
    · rename_i hfs
      simp only [Except.ok.injEq, MWorldE.mk.injEq] at h
      obtain ⟨rfl, rfl, rfl, rfl⟩ := h
      exact ⟨st, x, hg, hfs⟩

/-- **erasure**: the extended deserializer run on `p` and the core deserializer run on the erased proto return the
    same store and tree, or the same error -/
theorem deserializeE_erase (p : GraphE) :
    (match deserializeE p with
      | .ok w => deserialize (eraseG p) = .ok w.core
      | .error e => deserialize (eraseG p) = .error e) := by
  simp only [deserializeE, deserialize]
  rw [← deserGraphE_erase p {} {} []]
  cases deserGraphE {} {} [] p with
  | error e => rfl
  | ok r => rfl

theorem deserFInputsE_erase (vt : List (Name × Info × SS)) : ∀ (ns : List Name) (st : Store) (x : Ext),
    (deserFInputsE st x vt ns).1 = (deserFInputs st (eraseVT vt) ns).1 ∧
    (deserFInputsE st x vt ns).2.2 = (deserFInputs st (eraseVT vt) ns).2
  | [], _, _ => ⟨rfl, rfl⟩
  | n :: ns, st, x => by
    simp only [deserFInputsE, deserFInputs]
    obtain ⟨a, b⟩ := deserFInputsE_erase vt ns (newNamed st (eraseVT vt) n) (x.newNamed vt [] st.nv n)
    exact ⟨a, by rw [b]⟩

theorem FuncE.erase_fields (f : FuncE) : f.erase.id = f.id ∧ f.erase.inputs = f.inputs ∧ f.erase.outputs = f.outputs ∧
    f.erase.vinfo = f.vinfo.map VInfoE.erase ∧ f.erase.nodes = eraseNs f.nodes := ⟨rfl, rfl, rfl, rfl, rfl⟩

theorem deserFunctionE_erase (f : FuncE) (st : Store) (x : Ext) :
    dropX (deserFunctionE st x f) = deserFunction st f.erase := by
  simp only [deserFunctionE, deserFunction, FuncE.erase, ← eraseVT_vinfoTableE]
  obtain ⟨a, b⟩ := deserFInputsE_erase (vinfoTableE f.vinfo) f.inputs st x
  rw [← a, ← b]
  generalize deserFInputsE st x (vinfoTableE f.vinfo) f.inputs = r1
  obtain ⟨st1, x1, ins⟩ := r1
  simp only
  rw [← declareNodesE_erase (vinfoTableE f.vinfo) [] f.nodes st1 x1 (finputTable f.inputs ins)]
  cases declareNodesE st1 x1 (finputTable f.inputs ins) (vinfoTableE f.vinfo) [] f.nodes with
  | error e => rfl
  | ok r2 =>
    obtain ⟨st2, x2, tbl2⟩ := r2
    simp only [dropX]
    rw [← deserNodesE_erase f.nodes st2 x2 tbl2 [] (vinfoTableE f.vinfo) []]
    cases deserNodesE st2 x2 tbl2 [] (vinfoTableE f.vinfo) [] f.nodes with
    | error e => rfl
    | ok r3 =>
      obtain ⟨st3, x3, tbl3, ns⟩ := r3
      simp only [dropX]
      cases deserFOutputs tbl3 f.outputs with
      | error e => rfl
      | ok outs => rfl

theorem deserFuncsE_erase : ∀ (fs : List FuncE) (st : Store) (x : Ext) (d : List (FId × GraphT)),
    dropX (deserFuncsE st x d fs) = deserFuncs st d (fs.map FuncE.erase)
  | [] => fun _ _ _ => rfl
  | f :: fs => fun st x d => by
    simp only [deserFuncsE, List.map_cons, deserFuncs]
    rw [← deserFunctionE_erase f st x]
    cases deserFunctionE st x f with
    | error e => rfl
    | ok r => exact deserFuncsE_erase fs r.1 r.2.1 _

theorem deserializeME_erase (p : ModelE) :
    (match deserializeME p with
      | .ok w => deserializeM (eraseM p) = .ok w.core
      | .error e => deserializeM (eraseM p) = .error e) := by
  simp only [deserializeME, deserializeM, eraseM]
  rw [← deserGraphE_erase p.graph {} {} []]
  cases deserGraphE {} {} [] p.graph with
  | error e => rfl
  | ok r =>
    obtain ⟨st, x, g⟩ := r
    simp only [dropX]
    rw [← deserFuncsE_erase p.funcs st x []]
    cases deserFuncsE st x [] p.funcs with
    | error e => rfl
    | ok r2 => rfl

end IrVerif.Scope
