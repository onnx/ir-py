/-
Helper lemmas for C15, part A (name authority): injectivity of decimal printing and of the
generated-name shapes, and the analysis of the `while True` loop.  Core Lean only.
-/
import IrVerif.Model.Names
import IrVerif.Lemmas.ListFacts
namespace IrVerif.Names

/-- decimal printing is injective (from core's `Nat.ofDigitChars_ten_toDigits`) -/
theorem toString_nat_inj {a b : Nat} (h : toString a = toString b) : a = b := by
  have h1 : (Nat.repr a).toList = (Nat.repr b).toList := by
    simpa using congrArg String.toList h
  rw [Nat.toList_repr, Nat.toList_repr] at h1
  have := congrArg (fun l => Nat.ofDigitChars 10 l 0) h1
  simpa [Nat.ofDigitChars_ten_toDigits] using this

theorem string_append_left_cancel {p a b : String} (h : p ++ a = p ++ b) : a = b :=
  (String.append_right_inj p).mp h

theorem valName_inj {a b : Nat} (h : valName a = valName b) : a = b :=
  toString_nat_inj (string_append_left_cancel h)

theorem nodeName_inj (op : String) {a b : Nat} (h : nodeName op a = nodeName op b) : a = b := by
  unfold nodeName at h
  apply toString_nat_inj
  apply string_append_left_cancel (p := "node_" ++ op ++ "_")
  simpa [String.append_assoc] using h

/-! ### the loop -/

/-- more fuel never changes a result -/
theorem uniqueLoop_mono (mk : Nat → String) (seen : List String) :
    ∀ (fuel c : Nat) (r : String × Nat), uniqueLoop mk seen fuel c = some r →
      ∀ fuel', fuel ≤ fuel' → uniqueLoop mk seen fuel' c = some r := by
  intro fuel
  induction fuel with
  | zero => intro c r h; simp [uniqueLoop] at h
  | succ n ih =>
    intro c r h fuel' hle
    obtain ⟨m, rfl⟩ : ∃ m, fuel' = m + 1 := ⟨fuel' - 1, by omega⟩
    simp only [uniqueLoop] at h ⊢
    split
    · rename_i hc
      rw [if_pos hc] at h
      exact ih _ _ h _ (by omega)
    · rename_i hc
      rw [if_neg hc] at h
      exact h

/-- what a successful loop returns: the first candidate at or after `c` that is not seen; every
candidate skipped on the way is seen; the counter ends one past the returned candidate. -/
theorem uniqueLoop_spec (mk : Nat → String) (seen : List String) :
    ∀ (fuel c : Nat) (n : String) (c' : Nat), uniqueLoop mk seen fuel c = some (n, c') →
      ∃ k, c ≤ k ∧ k < c + fuel ∧ n = mk k ∧ c' = k + 1 ∧ n ∉ seen ∧ ∀ j, c ≤ j → j < k → mk j ∈ seen := by
  intro fuel
  induction fuel with
  | zero => intro c n c' h; simp [uniqueLoop] at h
  | succ f ih =>
    intro c n c' h
    simp only [uniqueLoop] at h
    split at h
    · rename_i hc
      obtain ⟨k, h1, h2, h3, h4, h5, h6⟩ := ih _ _ _ h
      refine ⟨k, by omega, by omega, h3, h4, h5, ?_⟩
      intro j hj1 hj2
      by_cases hjc : j = c
      · subst hjc; simpa using hc
      · exact h6 j (by omega) hj2
    · rename_i hc
      simp only [Option.some.injEq, Prod.mk.injEq] at h
      refine ⟨c, by omega, by omega, h.1.symm, h.2.symm, ?_, ?_⟩
      · rw [← h.1]; simpa using hc
      · intro j h1 h2; omega

/-- the loop only looks at candidates `mk j` with `j ≥ c`: seen sets that agree on those give the
same run -/
theorem uniqueLoop_congr (mk : Nat → String) (s1 s2 : List String) :
    ∀ (fuel c : Nat), (∀ j, c ≤ j → (mk j ∈ s1 ↔ mk j ∈ s2)) →
      uniqueLoop mk s1 fuel c = uniqueLoop mk s2 fuel c := by
  intro fuel
  induction fuel with
  | zero => intro c _; rfl
  | succ f ih =>
    intro c h
    simp only [uniqueLoop]
    have hc : s1.contains (mk c) = s2.contains (mk c) := by
      have := h c (Nat.le_refl _)
      rw [Bool.eq_iff_iff]; simpa using this
    rw [hc, ih (c + 1) (fun j hj => h j (by omega))]

/-- **pigeonhole for the loop**: with an injective candidate function, any budget larger than
`|seen|` reaches an unseen candidate. -/
theorem uniqueLoop_total' (mk : Nat → String) (hinj : ∀ a b, mk a = mk b → a = b) :
    ∀ (fuel : Nat) (seen : List String) (c : Nat), seen.length < fuel →
      ∃ r, uniqueLoop mk seen fuel c = some r := by
  intro fuel
  induction fuel with
  | zero => intro seen c h; omega
  | succ f ih =>
    intro seen c hlt
    simp only [uniqueLoop]
    split
    · rename_i hc
      -- remove every copy of the seen candidate `mk c`; later candidates are unaffected
      have hmem : mk c ∈ seen := by simpa using hc
      have hlen : (seen.filter (fun x => x != mk c)).length < seen.length :=
        List.length_filter_lt_length_iff_exists.mpr ⟨mk c, hmem, by simp⟩
      have hcongr : uniqueLoop mk seen f (c + 1)
          = uniqueLoop mk (seen.filter (fun x => x != mk c)) f (c + 1) := by
        apply uniqueLoop_congr
        intro j hj
        have hne : mk j ≠ mk c := fun e => by have := hinj _ _ e; omega
        simp [hne]
      rw [hcongr]
      exact ih _ _ (by omega)
    · exact ⟨_, rfl⟩

theorem uniqueLoop_total (mk : Nat → String) (hinj : ∀ a b, mk a = mk b → a = b)
    (seen : List String) (c : Nat) : ∃ r, uniqueLoop mk seen (seen.length + 1) c = some r :=
  uniqueLoop_total' mk hinj _ seen c (by omega)

/-- the name returned by the unbounded loop: not seen, made from a counter value `≥ c`, and the
counter moves past it -/
theorem uniqueFrom_spec (mk : Nat → String) (hinj : ∀ a b, mk a = mk b → a = b)
    (seen : List String) (c : Nat) :
    ∃ k, c ≤ k ∧ (uniqueFrom mk seen c) = (mk k, k + 1) ∧ mk k ∉ seen
      ∧ ∀ j, c ≤ j → j < k → mk j ∈ seen := by
  obtain ⟨⟨n, c'⟩, hr⟩ := uniqueLoop_total mk hinj seen c
  obtain ⟨k, h1, _, h3, h4, h5, h6⟩ := uniqueLoop_spec mk seen _ c n c' hr
  refine ⟨k, h1, ?_, h3 ▸ h5, h6⟩
  simp [uniqueFrom, hr, h3, h4]

/-! ### one call -/

/-- a generated name is not in the seen set of its namespace at that moment -/
theorem step_fresh (a : Auth) (op : Op) (h : (step a op).2.generated = true) :
    (step a op).2.name ∉ a.seen (step a op).2.isNode := by
  cases op with
  | value name =>
    cases name with
    | some s => simp [step] at h
    | none =>
      obtain ⟨k, _, he, hn, _⟩ := uniqueFrom_spec valName (fun _ _ => valName_inj) a.vnames a.vc
      simp [step, he, Auth.seen, hn]
  | node name o =>
    cases name with
    | some s => simp [step] at h
    | none =>
      obtain ⟨k, _, he, hn, _⟩ := uniqueFrom_spec (nodeName o) (fun _ _ => nodeName_inj o) a.nnames a.nc
      simp [step, he, Auth.seen, hn]

/-- the name an object has after the call is in the seen set afterwards -/
theorem step_registers (a : Auth) (op : Op) :
    (step a op).2.name ∈ (step a op).1.seen (step a op).2.isNode := by
  cases op with
  | value name => cases name <;> simp [step, Auth.seen]
  | node name o => cases name <;> simp [step, Auth.seen]

/-- seen sets never shrink, counters never decrease -/
theorem step_mono (a : Auth) (op : Op) :
    (∀ b x, x ∈ a.seen b → x ∈ (step a op).1.seen b) ∧ a.vc ≤ (step a op).1.vc ∧ a.nc ≤ (step a op).1.nc := by
  cases op with
  | value name =>
    cases name with
    | some s =>
      refine ⟨?_, by simp [step], by simp [step]⟩
      intro b x hx; cases b <;> simp_all [step, Auth.seen]
    | none =>
      obtain ⟨k, hk, he, _, _⟩ := uniqueFrom_spec valName (fun _ _ => valName_inj) a.vnames a.vc
      refine ⟨?_, by simp [step, he]; omega, by simp [step]⟩
      intro b x hx; cases b <;> simp_all [step, Auth.seen]
  | node name o =>
    cases name with
    | some s =>
      refine ⟨?_, by simp [step], by simp [step]⟩
      intro b x hx; cases b <;> simp_all [step, Auth.seen]
    | none =>
      obtain ⟨k, hk, he, _, _⟩ := uniqueFrom_spec (nodeName o) (fun _ _ => nodeName_inj o) a.nnames a.nc
      refine ⟨?_, by simp [step], by simp [step, he]; omega⟩
      intro b x hx; cases b <;> simp_all [step, Auth.seen]

theorem run_cons (op : Op) (ops : List Op) (a : Auth) :
    (run (op :: ops) a).2 = (step a op).2 :: (run ops (step a op).1).2 := by
  simp [run]

theorem run_cons_fst (op : Op) (ops : List Op) (a : Auth) :
    (run (op :: ops) a).1 = (run ops (step a op).1).1 := by
  simp [run]

/-- along any history: seen sets only grow and the counters only increase -/
theorem run_mono (ops : List Op) : ∀ (a : Auth),
    (∀ b x, x ∈ a.seen b → x ∈ (run ops a).1.seen b) ∧ a.vc ≤ (run ops a).1.vc ∧ a.nc ≤ (run ops a).1.nc := by
  induction ops with
  | nil => intro a; simp [run]
  | cons op ops ih =>
    intro a
    obtain ⟨h1, h2, h3⟩ := step_mono a op
    obtain ⟨g1, g2, g3⟩ := ih (step a op).1
    rw [run_cons_fst]
    exact ⟨fun b x hx => g1 b x (h1 b x hx), by omega, by omega⟩

/-- every name a history hands out or registers is in the final seen set of its namespace -/
theorem run_registers (ops : List Op) : ∀ (a : Auth) (e : Ev), e ∈ (run ops a).2 →
    e.name ∈ (run ops a).1.seen e.isNode := by
  induction ops with
  | nil => intro a e h; simp [run] at h
  | cons op ops ih =>
    intro a e h
    rw [run_cons] at h
    rw [run_cons_fst]
    rcases List.mem_cons.mp h with h | h
    · subst h
      exact (run_mono ops (step a op).1).1 _ _ (step_registers a op)
    · exact ih _ _ h

/-! ### `upd` -/

theorem upd_same {α : Type} (f : Nat → α) (i : Nat) : upd f i (f i) = f := by
  funext j; simp only [upd]; split <;> simp_all

@[simp] theorem upd_eq {α : Type} (f : Nat → α) (i : Nat) (x : α) : upd f i x i = x := by simp [upd]
theorem upd_ne {α : Type} (f : Nat → α) {i j : Nat} (x : α) (h : j ≠ i) : upd f i x j = f j := by simp [upd, h]

theorem upd_upd_same {α : Type} (f : Nat → α) (i : Nat) (x y : α) : upd (upd f i x) i y = upd f i y := by
  funext j; simp only [upd]; split <;> rfl

end IrVerif.Names
