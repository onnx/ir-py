/-
C09: the flat model's own invariants `Inv` (Lemmas/WriterInv.lean) are the general ones on `toN cfg` / `absState s`, the
pool-0 reading of `WriterN.Inv` / `WriterN.KInv`: `Inv_of_abs` gives them in every reachable flat state, `Inv.toN` lets
`progress`, stated over the flat `Inv`, use the general argument.  Every flat theorem but `C09_deadlock_free` needs
`reachable_abs` only.
-/
import IrVerif.Lemmas.WriterFlatN
import IrVerif.Lemmas.WriterNDone
namespace IrVerif.Writer

def unPc : WriterN.Pc → Pc
  | .notStarted => .notStarted
  | .tAcq => .tAcq
  | .cbAcqIn => .cbAcq
  | .cbAcq => .cbAcq
  | .cbBody => .cbBody
  | .bAcq => .bAcq
  | .waiting => .waiting
  | .woken => .woken
  | .write => .write
  | .bRel ok => .bRel ok
  | .done ok => .done ok

theorem unPc_absPc (p : Pc) : unPc (absPc p) = p := by cases p <;> rfl

theorem absPc_inj {p q : Pc} (h : absPc p = absPc q) : p = q := by
  rw [← unPc_absPc p, h, unPc_absPc]

def unFut : WriterN.Fut → Fut
  | .pending => .pending
  | .running => .running
  | .cancelled => .cancelled
  | .ok => .ok
  | .err => .err

theorem unFut_absFut (f : Fut) : unFut (absFut f) = f := by cases f <;> rfl

theorem absFut_inj {f g : Fut} (h : absFut f = absFut g) : f = g := by
  rw [← unFut_absFut f, h, unFut_absFut]

theorem abs_tasks_iff (s : State) (i : Nat) (p : Pc) :
    (absState s).tasks[i]? = some (absPc p) ↔ s.tasks[i]? = some p := by
  rw [abs_tasks_get]
  cases s.tasks[i]? with
  | none => simp
  | some q => simp only [Option.map_some, Option.some.injEq]; exact ⟨absPc_inj, congrArg absPc⟩

theorem abs_tasks_some {s : State} {i : Nat} {p' : WriterN.Pc} (h : (absState s).tasks[i]? = some p') :
    ∃ p, s.tasks[i]? = some p ∧ absPc p = p' := by
  rw [abs_tasks_get] at h; exact Option.map_eq_some_iff.1 h

theorem abs_futs_iff (s : State) (j : Nat) (f : Fut) :
    (absState s).futs[j]? = some (absFut f) ↔ s.futs[j]? = some f := by
  show (s.futs.map absFut)[j]? = _ ↔ _
  rw [List.getElem?_map]
  cases s.futs[j]? with
  | none => simp
  | some g => simp only [Option.map_some, Option.some.injEq]; exact ⟨absFut_inj, congrArg absFut⟩

theorem abs_pl0 (s : State) : (absState s).pl 0 = absPool s := rfl

theorem abs_owner (s : State) : ((absState s).pl 0).owner = absMain s.main := rfl

theorem absMain_ne_notCreated (m : MainPc) : absMain m ≠ .notCreated := by cases m <;> simp [absMain]
theorem absMain_submit {m : MainPc} {k : Nat} : absMain m = .submit k ↔ m = .submit k := by
  cases m <;> simp [absMain]
theorem absMain_collect {m : MainPc} : absMain m = .collect ↔ m = .collect := by
  cases m <;> simp [absMain]
theorem absMain_join {m : MainPc} {e : Bool} : absMain m = .join e ↔ m = .join e := by
  cases m <;> simp [absMain]
theorem absMain_closed {m : MainPc} {e : Bool} : absMain m = .closed e ↔ m = .finished e := by
  cases m <;> simp [absMain]

theorem toN_jobs0 (cfg : Cfg) : ((toN cfg).pool 0).jobs = List.range cfg.nJobs := rfl

theorem range_get_some {n k j : Nat} (h : (List.range n)[k]? = some j) : j = k ∧ k < n := by
  rw [range_get] at h
  split at h
  · exact ⟨(Option.some.inj h).symm, ‹_›⟩
  · cases h

theorem holds_abs (p : Pc) : WriterN.holds (absPc p) = holds p := by cases p <;> rfl
theorem inT_abs (p : Pc) : WriterN.inT (absPc p) = inT p := by cases p <;> rfl
theorem act_abs (p : Pc) : WriterN.act (absPc p) = act p := by cases p <;> rfl

theorem fReg_abs (cfg : Cfg) (i : Nat) (p : Pc) : WriterN.fReg (toN cfg) i (absPc p) = fReg cfg i p := by
  simp only [WriterN.fReg, fReg, holds_abs, toN_size, toN_capacity]
theorem fOver_abs (cfg : Cfg) (i : Nat) (p : Pc) : WriterN.fOver (toN cfg) i (absPc p) = fOver cfg i p := by
  simp only [WriterN.fOver, fOver, holds_abs, toN_size, toN_capacity]
theorem fCb_abs (i : Nat) (p : Pc) : WriterN.fCb i (absPc p) = fCb i p := by
  cases p <;> simp [WriterN.fCb, fCb, absPc]
theorem fT_abs (cfg : Cfg) (o i : Nat) (p : Pc) : WriterN.fT (toN cfg) o i (absPc p) = fT cfg o i p := by
  simp only [WriterN.fT, fT, inT_abs, toN_obj]
theorem fActQ_abs (cfg : Cfg) (i : Nat) (p : Pc) : WriterN.fActQ (toN cfg) 0 i (absPc p) = fAct i p := by
  simp only [WriterN.fActQ, fAct, act_abs, toN_poolOf, and_true]

theorem wsum_abs {f : Nat → WriterN.Pc → Nat} {g : Nat → Pc → Nat} (h : ∀ i p, f i (absPc p) = g i p)
    (l : List Pc) : ∀ k, WriterN.wsum f k (l.map absPc) = wsum g k l := by
  induction l with
  | nil => intro k; rfl
  | cons p ps ih => intro k; simp only [List.map_cons, WriterN.wsum, wsum, h, ih]

theorem wsum_abs_tasks {f : Nat → WriterN.Pc → Nat} {g : Nat → Pc → Nat} (h : ∀ i p, f i (absPc p) = g i p)
    (s : State) : WriterN.wsum f 0 (absState s).tasks = wsum g 0 s.tasks :=
  wsum_abs h s.tasks 0

theorem own_abs (cfg : Cfg) (s : State) :
    WriterN.wsum (WriterN.fOwnQ (toN cfg) 0) 0 (absState s).pools = 0 := by
  simp [abs_pools, WriterN.wsum, WriterN.fOwnQ, WriterN.parentPool]

theorem nsub_abs (cfg : Cfg) (s : State) : WriterN.nsub (toN cfg) (absPool s) 0 = nsub cfg s := by
  simp only [WriterN.nsub, nsub, absPool, toN_jobs0, List.length_range]
  cases s.main <;> rfl

variable {cfg : Cfg} {s : State}

theorem SInv_of_abs (h : WriterN.SInv (toN cfg) (absState s)) : SInv cfg s where
  tasks_len := by simpa [absState] using h.tasks_len
  futs_len := by simpa [absState] using h.futs_len
  locks_len := h.locks_len
  q_nodup := h.q_nodup 0
  q_pending := fun j hj => (abs_futs_iff s j .pending).1 (h.q_pending 0 j hj).1
  started := fun i p hi hp hf => by
    have := h.started i (absPc p) ((abs_tasks_iff s i p).2 hi) (fun e => hp (absPc_inj e))
    rw [toN_job] at this
    exact this ((abs_futs_iff s _ .pending).2 hf)
  submitting := fun k hm => by
    obtain ⟨h1, h2⟩ := h.submitting 0 k (absMain_submit.2 hm)
    refine ⟨fun j hj => ?_, fun j hkj hjl => ?_⟩
    · obtain ⟨k', hk', hj'⟩ := h1 j hj
      rw [(range_get_some hj').1]; exact hk'
    · exact (abs_futs_iff s j .pending).1 (h2 j j hkj (by rw [toN_jobs0, range_get, if_pos hjl]))
  order := fun i k p hik hj hk hp => by
    have := h.order i k (absPc p) hik (by rw [toN_job, toN_job]; exact hj)
      ((abs_tasks_iff s k p).2 hk) (fun e => hp (absPc_inj e))
    exact (abs_tasks_iff s i (.done true)).1 this

theorem LInv_of_abs (h : WriterN.LInv (toN cfg) (absState s)) : LInv cfg s where
  reg := h.reg.trans (wsum_abs_tasks (fReg_abs cfg) s)
  over := h.over.trans (wsum_abs_tasks (fOver_abs cfg) s)
  le := h.le
  cb := h.cb.trans (wsum_abs_tasks fCb_abs s)
  tl := fun o ho => (h.tl o ho).trans (wsum_abs_tasks (fT_abs cfg o) s)

theorem PInv_of_abs (h : WriterN.PInv (toN cfg) (absState s)) : PInv cfg s where
  pool := by
    have := h.pool 0 (absMain_ne_notCreated s.main)
    rw [own_abs, wsum_abs_tasks (fActQ_abs cfg)] at this
    exact this
  exited_sd := h.exited_sd 0
  sd_main := by
    have := h.sd_main 0
    simp only [abs_owner, absMain_join, absMain_closed] at this
    exact this
  fin_exit := fun e hm => h.fin_exit 0 e (absMain_closed.2 hm)
  sub_lt := fun k hm => by
    have := h.sub_lt 0 k (absMain_submit.2 hm)
    rwa [toN_jobs0, List.length_range] at this

theorem WInv_of_abs (h : WriterN.WInv (toN cfg) (absState s)) : WInv cfg s := fun i hi => by
  have := h i ((abs_tasks_iff s i .waiting).2 hi)
  rw [toN_size] at this
  exact this

theorem JInv_of_abs (hs : SInv cfg s) (h : WriterN.JInv (toN cfg) (absState s))
    (hk : WriterN.KInv (toN cfg) (absState s)) : JInv cfg s where
  pend_q := fun j hj hf => by
    have hjl : j < cfg.nJobs := by rw [← hs.futs_len]; exact WriterN.getElem?_lt hf
    exact h.pend_q 0 j j (by rw [abs_pl0, nsub_abs]; exact hj)
      (by rw [toN_jobs0, range_get, if_pos hjl]) ((abs_futs_iff s j .pending).2 hf)
  run_act := fun j hf => by
    rcases h.run_act j ((abs_futs_iff s j .running).2 hf) with ⟨i, p', hj, hi, hp⟩ | ⟨q', hq', _⟩
    · obtain ⟨p, hi', rfl⟩ := abs_tasks_some hi
      exact ⟨i, p, by rw [← toN_job]; exact hj, hi', by rw [← act_abs]; exact hp⟩
    · rw [toN_jobc] at hq'; cases hq'
  act_run := fun i p hi hp => by
    have := hk.act_run i (absPc p) ((abs_tasks_iff s i p).2 hi) (by rw [act_abs]; exact hp)
    rw [toN_job] at this
    exact (abs_futs_iff s _ .running).1 this
  canc_sd := fun j hf => by
    have := h.canc_sd j ((abs_futs_iff s j .cancelled).2 hf)
    rw [toN_jobc] at this
    exact this
  ok_done := fun j hf i hi hj =>
    (abs_tasks_iff s i (.done true)).1
      (hk.ok_done j ((abs_futs_iff s j .ok).2 hf) i (by rw [toN_n]; exact hi) (by rw [toN_job]; exact hj))

theorem CInv_of_abs (h : WriterN.CInv (toN cfg) (absState s))
    (hk : WriterN.KInv (toN cfg) (absState s)) : CInv cfg s where
  nodup := h.nodup 0
  lt := fun j hj => List.mem_range.1 (h.mem 0 j hj)
  len := fun hm => by
    have := h.len 0 (absMain_collect.2 hm)
    rwa [toN_jobs0, List.length_range] at this
  sh := fun hm j hj => by
    obtain ⟨k, hk', hj'⟩ := h.sh 0 (by simp [hm]) j hj
    rw [(range_get_some hj').1]; exact hk'
  ok := fun hm j hj => by
    refine (abs_futs_iff s j .ok).1 (hk.cok 0 ?_ j hj)
    rcases hm with hm | hm | hm
    · exact Or.inl (absMain_collect.2 hm)
    · exact Or.inr (Or.inl (absMain_join.2 hm))
    · exact Or.inr (Or.inr (absMain_closed.2 hm))
  all := fun hm => by
    have := hk.call 0 (hm.imp absMain_join.2 absMain_closed.2)
    rwa [toN_jobs0, List.length_range] at this
  sub := fun k hm => h.sub 0 (Or.inr ⟨k, absMain_submit.2 hm⟩)

theorem Inv_of_abs (h : WriterN.Inv (toN cfg) (absState s)) (hk : WriterN.KInv (toN cfg) (absState s)) :
    Inv cfg s :=
  have hs := SInv_of_abs h.s
  ⟨hs, LInv_of_abs h.l, PInv_of_abs h.p, WInv_of_abs h.w, JInv_of_abs hs h.j hk, CInv_of_abs h.c hk⟩

theorem reachable_futs_len {cfg : Cfg} {s : State} (h : Reachable cfg s) : s.futs.length = cfg.nJobs := by
  induction h with
  | init => simp [init]
  | step l _ hst ih => rw [step_futs_length hst]; exact ih

theorem reachable_abs {cfg : Cfg} {s : State} (h : Reachable cfg s) :
    WriterN.Reachable (toN cfg) (absState s) := by
  induction h with
  | init => rw [abs_init]; exact .init
  | step l hr hst ih =>
      have := step_abs cfg _ (reachable_futs_len hr) l
      rw [hst] at this
      exact .step (absLabel l) ih this.symm

theorem reachable_Inv {cfg : Cfg} (wf : WF cfg) {s : State} (h : Reachable cfg s) : Inv cfg s :=
  have hR := WriterN.reachable_all (toN_wf wf) (reachable_abs h)
  Inv_of_abs hR.inv hR.k


theorem abs_pl_succ (s : State) (q : Nat) : (absState s).pl (q + 1) = default := rfl

theorem SInv.toN (h : SInv cfg s) : WriterN.SInv (toN cfg) (absState s) where
  tasks_len := by simpa [absState] using h.tasks_len
  futs_len := by simpa [absState] using h.futs_len
  locks_len := h.locks_len
  pools_len := by simp [absState]
  cbin_len := by simp [absState]
  q_nodup := fun q => by
    cases q with
    | zero => exact h.q_nodup
    | succ q => exact List.nodup_nil
  q_pending := fun q j hj => by
    cases q with
    | zero => exact ⟨(abs_futs_iff s j .pending).2 (h.q_pending j hj), by simp [toN_jobc]⟩
    | succ q => exact absurd hj (List.not_mem_nil)
  started := fun i p' hi hp hf => by
    obtain ⟨p, hi', rfl⟩ := abs_tasks_some hi
    rw [toN_job] at hf
    exact h.started i p hi' (fun e => hp (by rw [e]; rfl)) ((abs_futs_iff s _ .pending).1 hf)
  submitting := fun q k hk => by
    cases q with
    | zero =>
        obtain ⟨h1, h2⟩ := h.submitting k (absMain_submit.1 hk)
        refine ⟨fun j hj => ⟨j, h1 j hj, ?_⟩, fun k' j hkk hj => ?_⟩
        · have hjl : j < cfg.nJobs := by rw [← h.futs_len]; exact WriterN.getElem?_lt (h.q_pending j hj)
          rw [toN_jobs0, range_get, if_pos hjl]
        · obtain ⟨rfl, hl⟩ := range_get_some hj
          exact (abs_futs_iff s j .pending).2 (h2 j hkk hl)
    | succ q => cases hk
  order := fun i k p' hik hj hk hp => by
    obtain ⟨p, hk', rfl⟩ := abs_tasks_some hk
    rw [toN_job, toN_job] at hj
    exact (abs_tasks_iff s i (.done true)).2 (h.order i k p hik hj hk' (fun e => hp (by rw [e]; rfl)))
  created := fun q jp hp _ => by
    cases q with
    | zero => cases hp
    | succ q => rw [toN_pool_succ] at hp; cases hp
  fresh := fun q hq => by
    cases q with
    | zero => exact absurd hq (absMain_ne_notCreated s.main)
    | succ q => exact ⟨rfl, fun j hj => by rw [toN_pool_succ] at hj; exact absurd hj (List.not_mem_nil)⟩

theorem LInv.toN (h : LInv cfg s) : WriterN.LInv (toN cfg) (absState s) where
  reg := h.reg.trans (wsum_abs_tasks (fReg_abs cfg) s).symm
  over := h.over.trans (wsum_abs_tasks (fOver_abs cfg) s).symm
  le := h.le
  cb := h.cb.trans (wsum_abs_tasks fCb_abs s).symm
  tl := fun o ho => (h.tl o ho).trans (wsum_abs_tasks (fT_abs cfg o) s).symm
  cin := fun q hq => by
    rw [toN_nPools] at hq
    have : q = 0 := by omega
    subst this
    symm
    refine (wsum_abs_tasks (g := fun _ _ => 0) (fun i p => ?_) s).trans (wsum_eq_zero _ _ _ fun _ _ _ => rfl)
    simp [WriterN.fIn]
  inner := fun i hi => by
    obtain ⟨p, _, hp⟩ := abs_tasks_some hi
    cases p <;> cases hp

theorem PInv.toN (h : PInv cfg s) : WriterN.PInv (toN cfg) (absState s) where
  pool := fun q hq => by
    cases q with
    | zero =>
        rw [own_abs, wsum_abs_tasks (fActQ_abs cfg)]
        exact h.pool
    | succ q => exact absurd rfl hq
  exited_sd := fun q hq => by
    cases q with
    | zero => exact h.exited_sd hq
    | succ q => cases hq
  sd_main := fun q => by
    cases q with
    | zero =>
        have := h.sd_main
        simp only [abs_owner, absMain_join, absMain_closed]
        exact this
    | succ q => simp [abs_pl_succ]
  fin_exit := fun q e hq => by
    cases q with
    | zero => exact h.fin_exit e (absMain_closed.1 hq)
    | succ q => cases hq
  sub_lt := fun q k hq => by
    cases q with
    | zero =>
        rw [toN_jobs0, List.length_range]
        exact h.sub_lt k (absMain_submit.1 hq)
    | succ q => cases hq
  fresh0 := fun q hq => by
    cases q with
    | zero => exact absurd hq (absMain_ne_notCreated s.main)
    | succ q => exact ⟨rfl, rfl, rfl, rfl⟩

theorem WInv.toN (h : WInv cfg s) : WriterN.WInv (toN cfg) (absState s) := fun i hi => by
  rw [toN_size]; exact h i ((abs_tasks_iff s i .waiting).1 hi)

theorem JInv.toN (h : JInv cfg s) : WriterN.JInv (toN cfg) (absState s) where
  pend_q := fun q k' j hk hj hf => by
    cases q with
    | zero =>
        obtain ⟨rfl, _⟩ := range_get_some hj
        rw [abs_pl0, nsub_abs] at hk
        exact h.pend_q j hk ((abs_futs_iff s j .pending).1 hf)
    | succ q => simp [abs_pl_succ, WriterN.nsub] at hk
  run_act := fun j hf => by
    obtain ⟨i, p, hj, hi, hp⟩ := h.run_act j ((abs_futs_iff s j .running).1 hf)
    exact Or.inl ⟨i, absPc p, by rw [toN_job]; exact hj, (abs_tasks_iff s i p).2 hi, by rw [act_abs]; exact hp⟩
  canc_sd := fun j hf => by
    rw [toN_jobc]; exact h.canc_sd j ((abs_futs_iff s j .cancelled).1 hf)

theorem CInv.toN (h : CInv cfg s) : WriterN.CInv (toN cfg) (absState s) where
  nodup := fun q => by
    cases q with
    | zero => exact h.nodup
    | succ q => exact List.nodup_nil
  mem := fun q j hj => by
    cases q with
    | zero => exact List.mem_range.2 (h.lt j hj)
    | succ q => exact absurd hj (List.not_mem_nil)
  len := fun q hq => by
    cases q with
    | zero =>
        rw [toN_jobs0, List.length_range]
        exact h.len (absMain_collect.1 hq)
    | succ q => cases hq
  sh := fun q ha j hj => by
    cases q with
    | zero =>
        have hm : cfg.mode = .shards := by
          rcases mode_cases cfg with e | e
          · simp [e] at ha
          · exact e
        have hl := h.sh hm j hj
        exact ⟨j, hl, by rw [toN_jobs0, range_get, if_pos (h.lt j hj)]⟩
    | succ q => exact absurd hj (List.not_mem_nil)
  sub := fun q hq => by
    cases q with
    | zero =>
        rcases hq with hq | ⟨k, hq⟩
        · exact absurd hq (absMain_ne_notCreated s.main)
        · exact h.sub k (absMain_submit.1 hq)
    | succ q => rfl

theorem Inv.toN (h : Inv cfg s) : WriterN.Inv (toN cfg) (absState s) :=
  ⟨h.s.toN, h.l.toN, h.p.toN, h.w.toN, h.j.toN, h.c.toN, absMain_ne_notCreated s.main⟩

theorem progress {cfg : Cfg} (wf : WF cfg) {s : State} (h : Inv cfg s) (hnt : terminal s = false) :
    ∃ l, (step cfg s l).isSome = true := by
  obtain ⟨l', hl'⟩ := WriterN.progress (toN_wf wf) h.toN (by rw [abs_terminal]; exact hnt)
  obtain ⟨l, rfl⟩ := step_other cfg s l' hl'
  refine ⟨l, ?_⟩
  rw [← step_abs cfg s h.s.futs_len l, Option.isSome_map] at hl'
  exact hl'


open WriterN (Weights variantW)

def flatO (cfg : Cfg) : WriterN.OwnerPc → Nat → Nat
  | .notCreated, _ => cfg.workers + (cfg.nJobs + cfg.nJobs + 3)
  | .submit k, _ => (cfg.nJobs - k) + cfg.nJobs + 3
  | .collect, c => (cfg.nJobs - c) + 2
  | .join _, _ => 1
  | .closed _, _ => 0

theorem toN_pool_jobs (cfg : Cfg) (q : Nat) : ((toN cfg).pool q).jobs.length ≤ cfg.nJobs := by
  cases q with
  | zero => simp
  | succ q => rw [toN_pool_succ]; exact Nat.zero_le _

/-- the flat model's weights (`pcW`, `mainW`), read on the one-pool configuration -/
def flatW (cfg : Cfg) : Weights (toN cfg) where
  w := fun p => pcW cfg.n (unPc p)
  o := fun _ => flatO cfg
  submit := by
    intro q k c hk; have := toN_pool_jobs cfg q
    split <;> simp only [flatO] <;> omega
  collect := by
    intro q c hc; have := toN_pool_jobs cfg q
    simp only [flatO]; omega
  toJoin := by intro q e c; simp only [flatO]; omega
  close := fun _ _ _ => Nat.zero_lt_succ _
  closeSub := by
    intro q e c jp hp
    cases q with
    | zero => cases hp
    | succ q => rw [toN_pool_succ] at hp; cases hp
  create := by
    intro q c c'
    cases q with
    | zero => simp only [flatO, toN_pool0]; omega
    | succ q => rw [toN_pool_succ]; simp only [flatO]; show 0 + _ ≤ _; omega
  first := fun _ => Nat.add_le_add_right (show 9 ≤ 10 by decide) _
  tAcq := by intro q; unfold WriterN.afterT; split <;> exact Nat.add_lt_add_right (show 8 < 9 by decide) _
  cbAcqIn := by
    intro q hq
    cases q with
    | zero => cases hq
    | succ q => rw [toN_pool_succ] at hq; cases hq
  cbAcq := Nat.add_lt_add_right (show 7 < 8 by decide) _
  cbBody := Nat.add_lt_add_right (show 6 < 7 by decide) _
  bAcq := ⟨Nat.add_lt_add_right (show 4 < 6 by decide) _, Nat.add_lt_add_right (show 3 < 6 by decide) _⟩
  woken := ⟨Nat.add_lt_add_right (show 4 < 5 by decide) _, Nat.add_lt_add_right (show 3 < 5 by decide) _⟩
  write := fun _ => Nat.add_lt_add_right (show 2 < 3 by decide) _
  bRel := fun _ => by rw [toN_n]; exact Nat.lt_add_of_pos_left (show 0 < 2 by decide)
  wake := by
    intro p
    cases p with
    | waiting => show 5 + (cfg.n + 1) ≤ 4 + (cfg.n + 1) + 1; omega
    | _ => exact Nat.le_succ _
  done := fun _ => rfl

theorem variant_abs (cfg : Cfg) (s : State) : variant cfg s = variantW (flatW cfg) (absState s) := by
  unfold variant variantW
  rw [wsum_abs_tasks (g := fun _ p => pcW cfg.n p) (fun _ p => by simp only [flatW, unPc_absPc])]
  simp only [abs_pools, WriterN.wsum, Weights.pool, flatW, absPool, mainW]
  cases s.main <;> simp only [absMain, flatO] <;> omega

def maxSize (cfg : Cfg) : Nat := cfg.tensors.foldr (fun t m => max t.size m) 0

/-- bytes of tensors materialised right now: sizes of all threads holding a reservation -/
def materialised (cfg : Cfg) (s : State) : Nat :=
  wsum (fun i p => if holds p = true then cfg.size i else 0) 0 s.tasks

theorem maxSize_toN (cfg : Cfg) : WriterN.maxSize (toN cfg) = maxSize cfg := by
  simp only [WriterN.maxSize, maxSize, toN, List.foldr_map, toNTensor]

theorem materialised_toN (cfg : Cfg) (s : State) :
    WriterN.materialised (toN cfg) (absState s) = materialised cfg s :=
  wsum_abs_tasks (fun i p => by simp only [holds_abs, toN_size]) s

end IrVerif.Writer
