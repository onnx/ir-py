/-
Frame facts for the helpers of `IrVerif.Scope.deserGraph`: which cells they touch, that they never
touch the link fields (uses, producer, index, graph, flags), bounds of the ids they return.
-/
import IrVerif.Lemmas.ScopeBasic
import IrVerif.Lemmas.ListFacts
namespace IrVerif.Scope

/-- the link fields of a value cell -/
def linksOf (c : ValueS) : List (Nat × Nat) × Option Nat × Option Nat × Option Nat × Bool × Bool × Bool :=
  (c.uses, c.producer, c.index, c.graph, c.isIn, c.isOut, c.isInit)

/-- all cells at or beyond the allocation counter are untouched defaults -/
def Fresh (st : Store) : Prop := ∀ v, st.nv ≤ v → st.vals v = {}

theorem Fresh.empty : Fresh {} := fun _ _ => rfl

/-- every id bound in the tables is allocated -/
def TablesLt (st : Store) (scopes : List Table) : Prop := ∀ t ∈ scopes, ∀ e ∈ t, e.2 < st.nv

def TableLt (st : Store) (t : Table) : Prop := ∀ e ∈ t, e.2 < st.nv

theorem TablesLt.nil (st : Store) : TablesLt st [] := fun _ ht => absurd ht List.not_mem_nil

/-- every id bound in the table was allocated at or after `b` -/
def TableGe (b : Nat) (t : Table) : Prop := ∀ e ∈ t, b ≤ e.2

/-- what a helper that neither builds nodes nor graphs does to the store -/
structure Quiet (st st' : Store) : Prop where
  nv_le : st.nv ≤ st'.nv
  nn_eq : st'.nn = st.nn
  ng_eq : st'.ng = st.ng
  beyond : ∀ v, st'.nv ≤ v → st'.vals v = st.vals v
  links : Fresh st → ∀ v, linksOf (st'.vals v) = linksOf (st.vals v)
  names : ∀ v, v < st.nv → (st'.vals v).name = (st.vals v).name

theorem Quiet.refl (st : Store) : Quiet st st :=
  ⟨Nat.le_refl _, rfl, rfl, fun _ _ => rfl, fun _ _ => rfl, fun _ _ => rfl⟩

theorem Quiet.fresh {st st' : Store} (q : Quiet st st') (h : Fresh st) : Fresh st' := by
  intro v hv
  rw [q.beyond v hv]
  exact h v (Nat.le_trans q.nv_le hv)

theorem Quiet.trans {a b c : Store} (h1 : Quiet a b) (h2 : Quiet b c) : Quiet a c where
  nv_le := Nat.le_trans h1.nv_le h2.nv_le
  nn_eq := by rw [h2.nn_eq, h1.nn_eq]
  ng_eq := by rw [h2.ng_eq, h1.ng_eq]
  beyond := fun v hv => by
    rw [h2.beyond v hv, h1.beyond v (Nat.le_trans h2.nv_le hv)]
  links := fun hf v => by
    rw [h2.links (h1.fresh hf) v, h1.links hf v]
  names := fun v hv => by
    rw [h2.names v (Nat.lt_of_lt_of_le hv h1.nv_le), h1.names v hv]

theorem Quiet.alloc (st : Store) (c : ValueS) (hc : linksOf c = linksOf {}) : Quiet st (st.alloc c).1 where
  nv_le := by simp
  nn_eq := rfl
  ng_eq := rfl
  beyond := fun v hv => by
    simp only [alloc_nv] at hv
    rw [alloc_vals]
    have : v ≠ st.nv := by omega
    simp [this]
  links := fun hf v => by
    rw [alloc_vals]
    split
    · rename_i h
      subst h
      rw [hf st.nv (Nat.le_refl _)]
      exact hc
    · rfl
  names := fun v hv => by
    rw [alloc_vals_lt _ _ hv]

theorem Quiet.modify (st : Store) (v : Nat) (f : ValueS → ValueS) (hv : v < st.nv)
    (hf : ∀ c, linksOf (f c) = linksOf c ∧ (f c).name = c.name) : Quiet st (st.modify v f) where
  nv_le := by simp
  nn_eq := rfl
  ng_eq := rfl
  beyond := fun i hi => by
    simp only [modify_nv] at hi
    rw [modify_vals]
    have : i ≠ v := by omega
    simp [this]
  links := fun _ i => by
    rw [modify_vals]
    split
    · exact (hf _).1
    · rfl
  names := fun i _ => by
    rw [modify_vals]
    split
    · exact (hf _).2
    · rfl

theorem Quiet.allocTensor (st : Store) (t : TensorS) : Quiet st (st.allocTensor t).1 :=
  ⟨Nat.le_refl _, rfl, rfl, fun _ _ => rfl, fun _ _ => rfl, fun _ _ => rfl⟩

theorem TableLt.mono {st st' : Store} {t : Table} (h : TableLt st t) (hle : st.nv ≤ st'.nv) :
    TableLt st' t := fun e he => Nat.lt_of_lt_of_le (h e he) hle

theorem TableLt.cons {st st' : Store} {t : Table} (h : TableLt st t) (hnv : st'.nv = st.nv + 1) (x : Name) :
    TableLt st' ((x, st.nv) :: t) := fun e he => by
  rcases List.mem_cons.mp he with rfl | he
  · simp [hnv]
  · have := h e he; omega

theorem TablesLt.mono {st st' : Store} {ts : List Table} (h : TablesLt st ts) (hle : st.nv ≤ st'.nv) :
    TablesLt st' ts := fun t ht e he => Nat.lt_of_lt_of_le (h t ht e he) hle

theorem deserInputs_spec (st : Store) (is : List VInfoP) :
    Quiet st (deserInputs st is).1 ∧
    (deserInputs st is).1.nv = st.nv + is.length ∧
    (deserInputs st is).2 = List.range' st.nv is.length := by
  induction is generalizing st with
  | nil => exact ⟨Quiet.refl _, by simp [deserInputs], by simp [deserInputs]⟩
  | cons i is ih =>
    simp only [deserInputs]
    have q1 := Quiet.alloc st { name := some i.name, info := i.info } rfl
    obtain ⟨q2, hnv, hvs⟩ := ih (st.alloc { name := some i.name, info := i.info }).1
    refine ⟨q1.trans q2, ?_, ?_⟩
    · rw [hnv]; simp; omega
    · rw [hvs]; simp [List.range'_succ]

/-- the table of the graph whose deserialization started at allocation counter `b` -/
structure TblOK (st : Store) (b : Nat) (t : Table) : Prop where
  lt : TableLt st t
  ge : TableGe b t
  nodup : (t.map (·.2)).Nodup

/-- `t'` is `t` plus bindings of names that `t` did not bind, to ids `≥ lb` -/
structure Stable (lb : Nat) (t t' : Table) : Prop where
  lookup : ∀ x v, t.lookup x = some v → t'.lookup x = some v
  mem : ∀ e ∈ t, e ∈ t'
  grow : ∀ e ∈ t', e ∈ t ∨ lb ≤ e.2

theorem Stable.refl (lb : Nat) (t : Table) : Stable lb t t := ⟨fun _ _ h => h, fun _ h => h, fun _ h => .inl h⟩

theorem Stable.weaken {lb lb' : Nat} {a b : Table} (h : Stable lb a b) (hle : lb' ≤ lb) : Stable lb' a b :=
  ⟨h.lookup, h.mem, fun e he => (h.grow e he).imp id (fun x => Nat.le_trans hle x)⟩

theorem Stable.trans {lb : Nat} {a b c : Table} (h1 : Stable lb a b) (h2 : Stable lb b c) : Stable lb a c :=
  ⟨fun x v h => h2.lookup x v (h1.lookup x v h), fun e he => h2.mem e (h1.mem e he), fun e he => by
    rcases h2.grow e he with h | h
    · exact h1.grow e h
    · exact .inr h⟩

theorem Stable.cons (lb : Nat) (t : Table) (x : Name) (v : Nat) (h : t.lookup x = none) (hv : lb ≤ v) :
    Stable lb t ((x, v) :: t) := by
  refine ⟨fun y w hy => ?_, fun e he => List.mem_cons_of_mem _ he, fun e he => ?_⟩
  · have : y ≠ x := by
      intro e; subst e; rw [h] at hy; cases hy
    rw [lookup_cons_ne _ _ _ _ this]; exact hy
  · simp only [List.mem_cons] at he
    rcases he with rfl | he
    · exact .inr hv
    · exact .inl he

theorem TblOK.mono {st st' : Store} {b : Nat} {t : Table} (h : TblOK st b t) (hle : st.nv ≤ st'.nv) :
    TblOK st' b t := ⟨h.lt.mono hle, h.ge, h.nodup⟩

theorem TblOK.cons_alloc {st : Store} {b : Nat} {t : Table} (h : TblOK st b t) (hb : b ≤ st.nv)
    (x : Name) (c : ValueS) : TblOK (st.alloc c).1 b ((x, st.nv) :: t) := by
  refine ⟨h.lt.cons (by simp) x, ?_, ?_⟩
  · intro e he
    simp only [List.mem_cons] at he
    rcases he with rfl | he
    · exact hb
    · exact h.ge e he
  · simp only [List.map_cons, List.nodup_cons]
    refine ⟨?_, h.nodup⟩
    intro hm
    simp only [List.mem_map] at hm
    obtain ⟨e, he, heq⟩ := hm
    have := h.lt e he
    omega

theorem TblOK.mem_inj {st : Store} {b : Nat} {t : Table} (h : TblOK st b t) {x y : Name} {v : Nat}
    (hx : (x, v) ∈ t) (hy : (y, v) ∈ t) : x = y :=
  ListFacts.vals_unique h.nodup hx hy

theorem TblOK.inj {st : Store} {b : Nat} {t : Table} (h : TblOK st b t) {x y : Name} {v : Nat}
    (hx : t.lookup x = some v) (hy : t.lookup y = some v) : x = y :=
  h.mem_inj (lookup_mem _ _ _ hx) (lookup_mem _ _ _ hy)

theorem lookup_ne_none_of_mem {α : Type} (x : Name) (v : α) (t : List (Name × α)) (h : (x, v) ∈ t) :
    t.lookup x ≠ none := fun hn => ListFacts.lookup_none_iff.mp hn v h

theorem inputTable_mem (is : List VInfoP) (b : Nat) (e : Name × Nat)
    (he : e ∈ inputTable is (List.range' b is.length)) : b ≤ e.2 ∧ e.2 < b + is.length := by
  simp only [inputTable, List.mem_reverse] at he
  have := List.of_mem_zip he
  have h2 := this.2
  simp only [List.mem_range'_1] at h2
  exact h2

theorem inputTable_vals (is : List VInfoP) (b : Nat) (v : Nat) (hv : v ∈ List.range' b is.length) :
    ∃ x, (x, v) ∈ inputTable is (List.range' b is.length) := by
  simp only [inputTable, List.mem_reverse]
  rw [List.mem_iff_getElem] at hv
  obtain ⟨k, hk, hkv⟩ := hv
  simp only [List.length_range'] at hk
  refine ⟨(is.map (·.name))[k]'(by simpa using hk), ?_⟩
  rw [List.mem_iff_getElem]
  refine ⟨k, by simpa using hk, ?_⟩
  simp [hkv]

theorem inputTable_ok (st : Store) (is : List VInfoP) :
    TblOK (deserInputs st is).1 st.nv (inputTable is (deserInputs st is).2) := by
  obtain ⟨_, hnv, hvs⟩ := deserInputs_spec st is
  rw [hvs]
  refine ⟨fun e he => ?_, fun e he => (inputTable_mem is st.nv e he).1, ?_⟩
  · rw [hnv]; exact (inputTable_mem is st.nv e he).2
  · simp only [inputTable, List.map_reverse, ListFacts.nodup_reverse]
    have : (List.map (fun x => x.2) ((List.map (·.name) is).zip (List.range' st.nv is.length))) =
        List.range' st.nv is.length := by
      rw [List.map_snd_zip]
      simp
    rw [this]
    exact List.nodup_range' (step := 1) (by omega)

theorem newInit_quiet (st : Store) (vi : List (Name × Info)) (t : TensorP) (tid : Nat) :
    Quiet st (newInit st vi t tid) ∧ (newInit st vi t tid).nv = st.nv + 1 := by
  rw [newInit_eq_alloc]
  exact ⟨Quiet.alloc st _ rfl, rfl⟩

theorem newInit_tbl {st : Store} {b : Nat} {tb : Table} (h : TblOK st b tb) (hb : b ≤ st.nv)
    (vi : List (Name × Info)) (t : TensorP) (tid : Nat) : TblOK (newInit st vi t tid) b ((t.name, st.nv) :: tb) := by
  rw [newInit_eq_alloc]
  exact TblOK.cons_alloc h hb t.name _

theorem deserInits_spec (vi : List (Name × Info)) (ts : List TensorP) :
    ∀ (st : Store) (tbl : Table) (b : Nat), TblOK st b tbl → b ≤ st.nv →
      Quiet st (deserInits st tbl vi ts).1 ∧ TblOK (deserInits st tbl vi ts).1 b (deserInits st tbl vi ts).2.1 ∧
      Stable st.nv tbl (deserInits st tbl vi ts).2.1 ∧
      ∀ v ∈ (deserInits st tbl vi ts).2.2, ∃ x, x ≠ "" ∧ (x, v) ∈ (deserInits st tbl vi ts).2.1 := by
  induction ts with
  | nil =>
    intro st tbl b h _
    exact ⟨Quiet.refl _, h, Stable.refl _ _, by simp [deserInits]⟩
  | cons t ts ih =>
    intro st tbl b h hb
    simp only [deserInits]
    split
    · exact ih st tbl b h hb
    · rename_i hne
      have qt := Quiet.allocTensor st { name := some t.name, data := t.data, ty := t.ty, sh := t.sh }
      split
      · rename_i v hv
        have hvlt : v < st.nv := h.lt _ (lookup_mem _ _ _ hv)
        have q2 := Quiet.modify (st.allocTensor { name := some t.name, data := t.data, ty := t.ty, sh := t.sh }).1 v
          (fun c => { c with const := some st.nt }) (by simpa using hvlt) (fun _ => ⟨rfl, rfl⟩)
        have hok : TblOK ((st.allocTensor { name := some t.name, data := t.data, ty := t.ty, sh := t.sh }).1.modify v
            fun c => { c with const := some st.nt }) b tbl := ⟨h.lt, h.ge, h.nodup⟩
        obtain ⟨q3, ok3, s3, m3⟩ := ih _ tbl b hok (by simpa using hb)
        refine ⟨(qt.trans q2).trans q3, ok3, s3, ?_⟩
        intro w hw
        simp only [List.mem_cons] at hw
        rcases hw with rfl | hw
        · exact ⟨t.name, hne, s3.mem _ (lookup_mem _ _ _ hv)⟩
        · exact m3 w hw
      · rename_i hnone
        obtain ⟨q2, hnv2⟩ := newInit_quiet (st.allocTensor { name := some t.name, data := t.data, ty := t.ty, sh := t.sh }).1
          vi t st.nt
        have ok2 : TblOK (newInit (st.allocTensor { name := some t.name, data := t.data, ty := t.ty, sh := t.sh }).1
            vi t st.nt) b ((t.name, st.nv) :: tbl) :=
          newInit_tbl (st := (st.allocTensor { name := some t.name, data := t.data, ty := t.ty, sh := t.sh }).1)
            ⟨h.lt, h.ge, h.nodup⟩ hb vi t st.nt
        have hle : st.nv ≤ (newInit (st.allocTensor { name := some t.name, data := t.data, ty := t.ty, sh := t.sh }).1
            vi t st.nt).nv := by rw [hnv2]; simp
        obtain ⟨q4, ok4, s4, m4⟩ := ih _ ((t.name, st.nv) :: tbl) b ok2 (Nat.le_trans hb hle)
        refine ⟨(qt.trans q2).trans q4, ok4,
          (Stable.cons st.nv tbl t.name st.nv hnone (Nat.le_refl _)).trans (s4.weaken hle), ?_⟩
        intro w hw
        simp only [List.mem_cons] at hw
        rcases hw with rfl | hw
        · exact ⟨t.name, hne, s4.mem _ List.mem_cons_self⟩
        · exact m4 w hw

theorem newNamed_quiet (st : Store) (vi : List (Name × Info)) (x : Name) :
    Quiet st (newNamed st vi x) ∧ (newNamed st vi x).nv = st.nv + 1 := by
  rw [newNamed_eq_alloc]
  exact ⟨Quiet.alloc st _ rfl, rfl⟩

theorem newNamed_tbl {st : Store} {b : Nat} {t : Table} (h : TblOK st b t) (hb : b ≤ st.nv)
    (vi : List (Name × Info)) (x : Name) : TblOK (newNamed st vi x) b ((x, st.nv) :: t) := by
  rw [newNamed_eq_alloc]
  exact TblOK.cons_alloc h hb x _

theorem declareOutputs_spec (vi : List (Name × Info)) (xs : List Name) :
    ∀ (st : Store) (tbl : Table) (b : Nat) (st' : Store) (tbl' : Table), TblOK st b tbl → b ≤ st.nv →
      declareOutputs st tbl vi xs = .ok (st', tbl') →
      Quiet st st' ∧ TblOK st' b tbl' ∧ Stable st.nv tbl tbl' ∧
      (∀ x ∈ xs, x ≠ "" → tbl.lookup x = none ∧ ∃ v, tbl'.lookup x = some v ∧ st.nv ≤ v) ∧
      (xs.filter (· ≠ "")).Nodup := by
  induction xs with
  | nil =>
    intro st tbl b st' tbl' h _ he
    simp only [declareOutputs, Except.ok.injEq, Prod.mk.injEq] at he
    obtain ⟨rfl, rfl⟩ := he
    exact ⟨Quiet.refl _, h, Stable.refl _ _, by simp, by simp⟩
  | cons x xs ih =>
    intro st tbl b st' tbl' h hb he
    simp only [declareOutputs] at he
    split at he
    · rename_i hx
      obtain ⟨q, ok, s, m, nd⟩ := ih st tbl b st' tbl' h hb he
      refine ⟨q, ok, s, ?_, ?_⟩
      · intro y hy hne
        simp only [List.mem_cons] at hy
        rcases hy with rfl | hy
        · exact absurd hx hne
        · exact m y hy hne
      · simpa [List.filter_cons, hx] using nd
    · rename_i hx
      split at he
      · simp at he
      · rename_i hnone
        have heq : declareOutputs (newNamed st vi x) ((x, st.nv) :: tbl) vi xs = .ok (st', tbl') := he
        obtain ⟨q1, hnv1⟩ := newNamed_quiet st vi x
        obtain ⟨q, ok, s, m, nd⟩ := ih _ _ b st' tbl' (newNamed_tbl h hb vi x) (by omega) heq
        refine ⟨q1.trans q, ok, (Stable.cons st.nv tbl x st.nv hnone (Nat.le_refl _)).trans (s.weaken q1.nv_le), ?_, ?_⟩
        · intro y hy hne
          simp only [List.mem_cons] at hy
          rcases hy with rfl | hy
          · exact ⟨hnone, st.nv, s.lookup _ _ (lookup_cons_self _ _ _), Nat.le_refl _⟩
          · obtain ⟨h1, v, h2, h3⟩ := m y hy hne
            have hyx : y ≠ x := by
              intro e; subst e; simp at h1
            rw [lookup_cons_ne _ _ _ _ hyx] at h1
            exact ⟨h1, v, h2, by omega⟩
        · have hxne : (x ≠ "") := hx
          simp only [List.filter_cons, ne_eq, hxne, not_false_eq_true, decide_true, ite_true, List.nodup_cons]
          refine ⟨?_, nd⟩
          intro hm
          simp only [List.mem_filter, decide_eq_true_eq] at hm
          obtain ⟨h1, _, _⟩ := m x hm.1 hm.2
          simp at h1

/-- the non-empty output names of a list of node protos, in order -/
def outNames (ns : List NodeP) : List Name := (ns.flatMap NodeP.outputs).filter (· ≠ "")

theorem outNames_cons (n : NodeP) (ns : List NodeP) :
    outNames (n :: ns) = n.outputs.filter (· ≠ "") ++ outNames ns := by
  simp [outNames, List.flatMap_cons, List.filter_append]

theorem declareNodes_spec (vi : List (Name × Info)) (ns : List NodeP) :
    ∀ (st : Store) (tbl : Table) (b : Nat) (st' : Store) (tbl' : Table), TblOK st b tbl → b ≤ st.nv →
      declareNodes st tbl vi ns = .ok (st', tbl') →
      Quiet st st' ∧ TblOK st' b tbl' ∧ Stable st.nv tbl tbl' ∧
      (∀ x ∈ outNames ns, tbl.lookup x = none ∧ ∃ v, tbl'.lookup x = some v ∧ st.nv ≤ v) ∧
      (outNames ns).Nodup := by
  induction ns with
  | nil =>
    intro st tbl b st' tbl' h _ he
    simp only [declareNodes, Except.ok.injEq, Prod.mk.injEq] at he
    obtain ⟨rfl, rfl⟩ := he
    exact ⟨Quiet.refl _, h, Stable.refl _ _, by simp [outNames], by simp [outNames]⟩
  | cons n ns ih =>
    intro st tbl b st' tbl' h hb he
    simp only [declareNodes] at he
    split at he
    · simp at he
    · rename_i st1 tbl1 h1
      obtain ⟨q1, ok1, s1, m1, nd1⟩ := declareOutputs_spec vi n.outputs st tbl b st1 tbl1 h hb h1
      obtain ⟨q2, ok2, s2, m2, nd2⟩ := ih st1 tbl1 b st' tbl' ok1 (Nat.le_trans hb q1.nv_le) he
      refine ⟨q1.trans q2, ok2, s1.trans (s2.weaken q1.nv_le), ?_, ?_⟩
      · intro x hx
        rw [outNames_cons, List.mem_append] at hx
        rcases hx with hx | hx
        · simp only [List.mem_filter, ne_eq, decide_eq_true_eq] at hx
          obtain ⟨a, v, b', c⟩ := m1 x hx.1 hx.2
          exact ⟨a, v, s2.lookup _ _ b', c⟩
        · obtain ⟨a, v, b', c⟩ := m2 x hx
          refine ⟨?_, v, b', Nat.le_trans q1.nv_le c⟩
          cases hl : tbl.lookup x with
          | none => rfl
          | some w => rw [s1.lookup _ _ hl] at a; cases a
      · rw [outNames_cons, List.nodup_append]
        refine ⟨nd1, nd2, ?_⟩
        intro x hx y hy hxy
        subst hxy
        simp only [List.mem_filter, ne_eq, decide_eq_true_eq] at hx
        obtain ⟨_, v, hv, _⟩ := m1 x hx.1 hx.2
        obtain ⟨hnone, _⟩ := m2 x hy
        rw [hv] at hnone; cases hnone

theorem resolve_none_top (x : Name) (top : Table) (outer : List Table)
    (h : resolve x (top :: outer) = none) : top.lookup x = none := by
  simp only [resolve] at h
  split at h
  · cases h
  · assumption

theorem resolveInputs_spec (outer : List Table) (vi : List (Name × Info)) (xs : List Name) :
    ∀ (st : Store) (top : Table) (b : Nat), TblOK st b top → TablesLt st outer → b ≤ st.nv →
      Quiet st (resolveInputs st top outer vi xs).1 ∧
      TblOK (resolveInputs st top outer vi xs).1 b (resolveInputs st top outer vi xs).2.1 ∧
      Stable st.nv top (resolveInputs st top outer vi xs).2.1 ∧
      ∀ v, some v ∈ (resolveInputs st top outer vi xs).2.2 → v < (resolveInputs st top outer vi xs).1.nv := by
  induction xs with
  | nil =>
    intro st top b h _ _
    exact ⟨Quiet.refl _, h, Stable.refl _ _, by simp [resolveInputs]⟩
  | cons x xs ih =>
    intro st top b h ho hb
    simp only [resolveInputs]
    split
    · obtain ⟨q, ok, s, m⟩ := ih st top b h ho hb
      refine ⟨q, ok, s, ?_⟩
      intro v hv
      simp only [List.mem_cons] at hv
      rcases hv with hv | hv
      · cases hv
      · exact m v hv
    · split
      · rename_i v hv
        obtain ⟨q, ok, s, m⟩ := ih st top b h ho hb
        refine ⟨q, ok, s, ?_⟩
        intro w hw
        simp only [List.mem_cons, Option.some.injEq] at hw
        rcases hw with rfl | hw
        · obtain ⟨t, ht, hm⟩ := resolve_mem _ _ _ hv
          have hlt : w < st.nv := by
            simp only [List.mem_cons] at ht
            rcases ht with rfl | ht
            · exact h.lt _ hm
            · exact ho t ht _ hm
          exact Nat.lt_of_lt_of_le hlt q.nv_le
        · exact m w hw
      · rename_i hnone
        have hl := resolve_none_top _ _ _ hnone
        obtain ⟨q1, hnv1⟩ := newNamed_quiet st vi x
        have ok1 := newNamed_tbl h hb vi x
        have ho1 : TablesLt (newNamed st vi x) outer := ho.mono q1.nv_le
        obtain ⟨q, ok, s, m⟩ := ih (newNamed st vi x) ((x, st.nv) :: top) b ok1 ho1 (by omega)
        refine ⟨q1.trans q, ok, (Stable.cons st.nv top x st.nv hl (Nat.le_refl _)).trans (s.weaken q1.nv_le), ?_⟩
        intro w hw
        simp only [List.mem_cons, Option.some.injEq] at hw
        rcases hw with rfl | hw
        · have := q.nv_le
          show st.nv < (resolveInputs (newNamed st vi x) ((x, st.nv) :: top) outer vi xs).1.nv
          omega
        · exact m w hw

/-! ### output values of a node -/

theorem lookupOutputs_spec (top : Table) (xs : List Name) :
    ∀ (st st' : Store) (outs : List Nat), lookupOutputs st top xs = .ok (st', outs) →
      Quiet st st' ∧ outs.length = xs.length ∧
      (∀ w ∈ outs, (∃ y ∈ xs, y ≠ "" ∧ top.lookup y = some w) ∨ (st.nv ≤ w ∧ w < st'.nv)) ∧
      (∀ y ∈ xs, y ≠ "" → ∃ w ∈ outs, top.lookup y = some w) ∧
      (∀ b, TblOK st b top → (xs.filter (· ≠ "")).Nodup → outs.Nodup) := by
  induction xs with
  | nil =>
    intro st st' outs he
    simp only [lookupOutputs, Except.ok.injEq, Prod.mk.injEq] at he
    obtain ⟨rfl, rfl⟩ := he
    exact ⟨Quiet.refl _, rfl, by simp, by simp, by simp⟩
  | cons x xs ih =>
    intro st st' outs he
    simp only [lookupOutputs] at he
    split at he
    · rename_i hx
      split at he
      · simp at he
      · rename_i st2 vs h2
        simp only [Except.ok.injEq, Prod.mk.injEq] at he
        obtain ⟨rfl, rfl⟩ := he
        have q1 := Quiet.alloc st { name := some "" } rfl
        obtain ⟨q2, hl, hm, hc, hn⟩ := ih _ _ _ h2
        refine ⟨q1.trans q2, by simp [hl], ?_, ?_, ?_⟩
        · intro w hw
          simp only [alloc_snd, List.mem_cons] at hw
          rcases hw with rfl | hw
          · right
            have := q2.nv_le
            simp at this
            omega
          · rcases hm w hw with ⟨y, hy, h⟩ | ⟨h1, h2⟩
            · exact .inl ⟨y, by simp [hy], h⟩
            · right; simp at h1; omega
        · intro y hy hne
          simp only [List.mem_cons] at hy
          rcases hy with rfl | hy
          · exact absurd hx hne
          · obtain ⟨w, hw, h⟩ := hc y hy hne
            exact ⟨w, by simp [hw], h⟩
        · intro b hok hnd
          have hnd' : (xs.filter (· ≠ "")).Nodup := by simpa [List.filter_cons, hx] using hnd
          have hvs := hn b (hok.mono (by simp)) hnd'
          simp only [alloc_snd, List.nodup_cons]
          refine ⟨?_, hvs⟩
          intro hmem
          rcases hm _ hmem with ⟨y, _, _, hl'⟩ | ⟨h1, _⟩
          · have := hok.lt _ (lookup_mem _ _ _ hl')
            simp at this
          · simp at h1
            omega
    · rename_i hx
      split at he
      · simp at he
      · rename_i v hv
        split at he
        · simp at he
        · rename_i st1 vs h2
          simp only [Except.ok.injEq, Prod.mk.injEq] at he
          obtain ⟨rfl, rfl⟩ := he
          obtain ⟨q2, hl, hm, hc, hn⟩ := ih _ _ _ h2
          refine ⟨q2, by simp [hl], ?_, ?_, ?_⟩
          · intro w hw
            simp only [List.mem_cons] at hw
            rcases hw with rfl | hw
            · exact .inl ⟨x, by simp, hx, hv⟩
            · rcases hm w hw with ⟨y, hy, h⟩ | h
              · exact .inl ⟨y, by simp [hy], h⟩
              · exact .inr h
          · intro y hy hne
            simp only [List.mem_cons] at hy
            rcases hy with rfl | hy
            · exact ⟨v, by simp, hv⟩
            · obtain ⟨w, hw, h⟩ := hc y hy hne
              exact ⟨w, by simp [hw], h⟩
          · intro b hok hnd
            have hxne : x ≠ "" := hx
            simp only [List.filter_cons, ne_eq, hxne, not_false_eq_true, decide_true, ite_true,
              List.nodup_cons] at hnd
            refine List.nodup_cons.mpr ⟨?_, hn b hok hnd.2⟩
            intro hmem
            rcases hm _ hmem with ⟨y, hy, hyne, hl'⟩ | ⟨h1, _⟩
            · have := hok.inj hv hl'
              subst this
              exact hnd.1 (by simp [List.mem_filter, hy, hyne])
            · have := hok.lt _ (lookup_mem _ _ _ hv)
              omega

theorem deserOutputs_spec (tbl : Table) (os : List VInfoP) :
    ∀ (st : Store) (b : Nat), TblOK st b tbl →
      Quiet st (deserOutputs st tbl os).1 ∧
      ∀ w ∈ (deserOutputs st tbl os).2,
        (∃ x, (x, w) ∈ tbl) ∨ (st.nv ≤ w ∧ w < (deserOutputs st tbl os).1.nv) := by
  induction os with
  | nil =>
    intro st b _
    exact ⟨Quiet.refl _, by simp [deserOutputs]⟩
  | cons o os ih =>
    intro st b h
    simp only [deserOutputs]
    split
    · rename_i v hv
      have hvlt := h.lt _ (lookup_mem _ _ _ hv)
      have q1 := Quiet.modify st v (fun c => { c with info := o.info }) hvlt (fun _ => ⟨rfl, rfl⟩)
      obtain ⟨q2, m⟩ := ih (st.modify v fun c => { c with info := o.info }) b ⟨h.lt, h.ge, h.nodup⟩
      refine ⟨q1.trans q2, ?_⟩
      intro w hw
      simp only [List.mem_cons] at hw
      rcases hw with rfl | hw
      · exact .inl ⟨_, lookup_mem _ _ _ hv⟩
      · exact m w hw
    · have q1 := Quiet.alloc st { name := some o.name, info := o.info } rfl
      obtain ⟨q2, m⟩ := ih (st.alloc { name := some o.name, info := o.info }).1 b (h.mono (by simp))
      refine ⟨q1.trans q2, ?_⟩
      intro w hw
      simp only [alloc_snd, List.mem_cons] at hw
      rcases hw with rfl | hw
      · right
        have := q2.nv_le
        simp at this
        show st.nv ≤ st.nv ∧ st.nv < (deserOutputs (st.alloc { name := some o.name, info := o.info }).1 tbl os).1.nv
        omega
      · rcases m w hw with h1 | ⟨h1, h2⟩
        · exact .inl h1
        · right
          simp at h1
          exact ⟨by omega, h2⟩

end IrVerif.Scope
