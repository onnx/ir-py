/-
C19 - the weak invariant: `Inv.stepD_vlen` (no operation of the alphabet shrinks the value heap, so a ghost
predicate that contains every value id from a bound `N <= values.length` on keeps containing the ids that do not
exist yet) and the step theorem `Inv.stepD_ok`, read at `Wk.DevOK`.  `DeviceWkRT` is imported only so that it is
built.  Core Lean only.
-/
import IrVerif.Lemmas.DeviceWkRT
import IrVerif.Lemmas.DeviceNames
namespace IrVerif.Device.Wk

variable {G : VId → Prop}

theorem stepD_vlen (w : World) [hGf : Fresh G w.values.length] (op : Op) (h : DevOK G w) (hpre : Pre w op) :
    w.values.length ≤ (stepD w op).1.values.length :=
  Inv.stepD_vlen w op (DevOK_iff.1 h) hpre

/-- every operation of the alphabet keeps the weak invariant, when the ghost predicate contains every value id that
    does not exist yet -/
theorem stepD_ok (w : World) [hGf : Fresh G w.values.length] (op : Op) (h : DevOK G w) (hpre : Pre w op) :
    DevOK G (stepD w op).1 :=
  DevOK_iff.2 (Inv.stepD_ok w op (DevOK_iff.1 h) hpre)

end IrVerif.Device.Wk
