/-
One program logic over the cloner monad `IrVerif.Clone.M`.  A `Logic` says what is tracked between
the state a run starts from and the state it ends in: `E` however the run ends, `N` when it returns;
`Hoare L m s Q` assumes the invariant `L.Ok s`.  Instances: `goodL`, `simL`, `covLA`, `resL`,
`Wire.vmL`, `frameL`, each next to the triple form (`GoodAt`, ..) in which theorems are stated.
-/
import IrVerif.Model.Clone
namespace IrVerif.Clone

theorem getElem?_append_singleton {α : Type} {l : List α} {c x : α} {i : Nat} (h : (l ++ [c])[i]? = some x) :
    l[i]? = some x ∨ (i = l.length ∧ x = c) := by
  rcases Nat.lt_or_ge i l.length with hlt | hge
  · rw [List.getElem?_append_left hlt] at h; exact .inl h
  · have hi : i = l.length := by
      have := (List.getElem?_eq_some_iff.mp h).1
      simp at this; omega
    subst hi
    simp at h
    exact .inr ⟨rfl, h.symm⟩


theorem bind_ok {m : M α} {f : α → M β} {s s1 : St} {a : α} (h : m s = (.ok a, s1)) :
    (m >>= f) s = f a s1 := by
  show M.bind m f s = _
  unfold M.bind; rw [h]

theorem bind_err {m : M α} {f : α → M β} {s s1 : St} {e : Err} (h : m s = (.error e, s1)) :
    (m >>= f) s = (.error e, s1) := by
  show M.bind m f s = _
  unfold M.bind; rw [h]

theorem run_withFreshMap (m : M α) (w : World) :
    run (withFreshMap m) w = ((m { w := w }).1, (m { w := w }).2.w) := rfl

theorem run_graphClone {fuel : Nat} {allow : Bool} {g : Nat} {w w' : World} {r : Except Err Nat}
    (h : run (graphClone fuel allow g) w = (r, w')) :
    ∃ s1, cloneGraph allow fuel g { w := w } = (r, s1) ∧ s1.w = w' := by
  unfold graphClone at h
  rw [run_withFreshMap] at h
  exact ⟨_, Prod.ext (congrArg Prod.fst h : _) rfl, (congrArg Prod.snd h : _)⟩

/-- the state `guarded body` ends in when `body`, started in `s`, raised in `s'` -/
def abandoned (s s' : St) : St :=
  { (forM' detachNode (s'.created.drop s.created.length) s').2 with
    created := (forM' detachNode (s'.created.drop s.created.length) s').2.created.take s.created.length }

theorem guarded_ok {body : M Nat} {s s' : St} {x : Nat} (h : body s = (.ok x, s')) :
    guarded body s = (.ok x, s') := by
  simp [guarded, onError, h]

theorem guarded_error {body : M Nat} {s s' : St} {e : Err} (h : body s = (.error e, s')) :
    guarded body s = (.error e, abandoned s s') := by
  simp [guarded, onError, h, abandoned]

theorem readNode_ok {s : St} {n : Nat} {ns : NodeS} (h : s.w[n]? = some (.node ns)) :
    readNode n s = (.ok ns, s) := by
  unfold readNode; rw [h]

theorem readNode_err {s : St} {n : Nat} (h : ∀ ns, s.w[n]? ≠ some (.node ns)) :
    readNode n s = (.error (.unsupported "not a node"), s) := by
  unfold readNode
  split
  · next v hv => exact absurd hv (h v)
  · rfl

theorem forM'_cons_ok {α : Type} {f : α → M Unit} {a : α} {as : List α} {s s1 : St}
    (h : f a s = (.ok (), s1)) : forM' f (a :: as) s = forM' f as s1 :=
  bind_ok h

theorem forM'_cons_err {α : Type} {f : α → M Unit} {a : α} {as : List α} {s s1 : St} {e : Err}
    (h : f a s = (.error e, s1)) : forM' f (a :: as) s = (.error e, s1) :=
  bind_err h

theorem mapM'_cons_ok {α β : Type} {f : α → M β} {a : α} {as : List α} {s s1 s2 : St} {b : β} {bs : List β}
    (h1 : f a s = (.ok b, s1)) (h2 : mapM' f as s1 = (.ok bs, s2)) :
    mapM' f (a :: as) s = (.ok (b :: bs), s2) := by
  show M.bind (f a) (fun b => M.bind (mapM' f as) (fun bs => M.pure (b :: bs))) s = _
  simp only [M.bind, h1, h2, M.pure]

/-! Checks and lookups leave the state as it is, also when they raise (`Quiet`). -/

def Quiet {α : Type} (m : M α) : Prop := ∀ s, (m s).2 = s

theorem Quiet.bind {α β : Type} {m : M α} {f : α → M β} (hm : Quiet m) (hf : ∀ a, Quiet (f a)) :
    Quiet (m >>= f) := by
  intro s
  show (M.bind m f s).2 = s
  unfold M.bind
  have h1 := hm s
  rcases hms : m s with ⟨r, s1⟩
  rw [hms] at h1
  simp only at h1
  subst h1
  cases r with
  | error e => rfl
  | ok a => exact hf a s1

theorem Quiet.pure {α : Type} (a : α) : Quiet (Pure.pure a : M α) := fun _ => rfl
theorem Quiet.fail {α : Type} (e : Err) : Quiet (Clone.fail e : M α) := fun _ => rfl
theorem Quiet.raise {α : Type} (why : String) : Quiet (Clone.raise why : M α) := fun _ => rfl
theorem Quiet.unsupported {α : Type} (why : String) : Quiet (Clone.unsupported why : M α) := fun _ => rfl
theorem Quiet.readVal (i : Nat) : Quiet (readVal i) := fun s => by unfold Clone.readVal; split <;> rfl
theorem Quiet.readNode (i : Nat) : Quiet (readNode i) := fun s => by unfold Clone.readNode; split <;> rfl
theorem Quiet.readGraph (i : Nat) : Quiet (readGraph i) := fun s => by unfold Clone.readGraph; split <;> rfl
theorem Quiet.readType (i : Nat) : Quiet (readType i) := fun s => by unfold Clone.readType; split <;> rfl
theorem Quiet.readShape (i : Nat) : Quiet (readShape i) := fun s => by unfold Clone.readShape; split <;> rfl
theorem Quiet.readDict (i : Nat) : Quiet (readDict i) := fun s => by unfold Clone.readDict; split <;> rfl
theorem Quiet.readAttr (i : Nat) : Quiet (readAttr i) := fun s => by unfold Clone.readAttr; split <;> rfl
theorem Quiet.readFunc (i : Nat) : Quiet (readFunc i) := fun s => by unfold Clone.readFunc; split <;> rfl
theorem Quiet.readTensor (i : Nat) : Quiet (readTensor i) := fun s => by unfold Clone.readTensor; split <;> rfl
theorem Quiet.readModel (i : Nat) : Quiet (readModel i) := fun s => by unfold Clone.readModel; split <;> rfl

theorem Quiet.vmGet (v : Nat) : Quiet (vmGet v) := fun _ => rfl
theorem Quiet.getVm : Quiet getVm := fun _ => rfl
theorem Quiet.pendHas (v : Nat) : Quiet (pendHas v) := fun _ => rfl
theorem Quiet.getWorld : Quiet getWorld := fun _ => rfl
theorem Quiet.liftE {α : Type} (x : Except Err α) : Quiet (liftE x) := by
  cases x <;> intro s <;> rfl

theorem Quiet.forM' {α : Type} {f : α → M Unit} (hf : ∀ a, Quiet (f a)) : ∀ l : List α, Quiet (forM' f l)
  | [] => Quiet.pure _
  | a :: as => by
    unfold Clone.forM'
    exact Quiet.bind (hf a) fun _ => Quiet.forM' hf as

theorem Quiet.guard {α : Type} {c : Prop} [Decidable c] {e : Err} {m : M α} (hm : Quiet m) :
    Quiet (if c then Clone.fail e else m) := by
  split
  · exact Quiet.fail e
  · exact hm

theorem Quiet.ite {α : Type} {c : Prop} [Decidable c] {a b : M α} (ha : Quiet a) (hb : Quiet b) :
    Quiet (if c then a else b) := by
  split
  · exact ha
  · exact hb

theorem Quiet.checkInput (g v : Nat) : Quiet (checkInput g v) :=
  Quiet.bind (Quiet.readVal v) fun _ => Quiet.guard (Quiet.guard (Quiet.pure _))
theorem Quiet.checkOwned (g v : Nat) : Quiet (checkOwned g v) :=
  Quiet.bind (Quiet.readVal v) fun _ => Quiet.guard (Quiet.pure _)
theorem Quiet.checkNamed (v : Nat) : Quiet (checkNamed v) :=
  Quiet.bind (Quiet.readVal v) fun _ => Quiet.guard (Quiet.pure _)
theorem Quiet.checkNodeFree (g n : Nat) : Quiet (checkNodeFree g n) :=
  Quiet.bind (Quiet.readNode n) fun _ => Quiet.guard (Quiet.pure _)
theorem Quiet.checkInitEntry (e : String × Nat) : Quiet (checkInitEntry e) :=
  Quiet.bind (Quiet.readVal e.2) fun _ => Quiet.guard (Quiet.guard (Quiet.pure _))

theorem Quiet.getMapped (v : Nat) : Quiet (getMapped v) := by
  unfold Clone.getMapped
  refine Quiet.bind (Quiet.vmGet v) fun o => ?_
  cases o
  · exact Quiet.raise _
  · exact Quiet.pure _

theorem Quiet.initEntries : ∀ (l : List Nat) (acc : List (String × Nat)), Quiet (initEntries acc l)
  | [], _ => by unfold Clone.initEntries; exact Quiet.pure _
  | v :: rest, acc => by
    unfold Clone.initEntries
    refine Quiet.bind (Quiet.readVal v) fun vs => ?_
    split
    · exact Quiet.raise _
    · exact Quiet.initEntries rest _

theorem Quiet.allOutputs : ∀ l : List Nat, Quiet (allOutputs l)
  | [] => Quiet.pure _
  | n :: ns => by
    unfold Clone.allOutputs
    exact Quiet.bind (Quiet.readNode n) fun _ => Quiet.bind (Quiet.allOutputs ns) fun _ => Quiet.pure _

theorem readVal_cell {i : Nat} {s : St} {v : ValueS} (h : (readVal i s).1 = .ok v) :
    s.w[i]? = some (.val v) := by
  unfold readVal at h
  split at h <;> cases h
  assumption
theorem readNode_cell {i : Nat} {s : St} {v : NodeS} (h : (readNode i s).1 = .ok v) :
    s.w[i]? = some (.node v) := by
  unfold readNode at h
  split at h <;> cases h
  assumption
theorem readGraph_cell {i : Nat} {s : St} {v : GraphS} (h : (readGraph i s).1 = .ok v) :
    s.w[i]? = some (.graph v) := by
  unfold readGraph at h
  split at h <;> cases h
  assumption
theorem readType_cell {i : Nat} {s : St} {v : TypeS} (h : (readType i s).1 = .ok v) :
    s.w[i]? = some (.type v) := by
  unfold readType at h
  split at h <;> cases h
  assumption
theorem readShape_cell {i : Nat} {s : St} {v : ShapeS} (h : (readShape i s).1 = .ok v) :
    s.w[i]? = some (.shape v) := by
  unfold readShape at h
  split at h <;> cases h
  assumption
theorem readDict_cell {i : Nat} {s : St} {v : DictS} (h : (readDict i s).1 = .ok v) :
    s.w[i]? = some (.dict v) := by
  unfold readDict at h
  split at h <;> cases h
  assumption
theorem readAttr_cell {i : Nat} {s : St} {v : AttrS} (h : (readAttr i s).1 = .ok v) :
    s.w[i]? = some (.attr v) := by
  unfold readAttr at h
  split at h <;> cases h
  assumption
theorem readFunc_cell {i : Nat} {s : St} {v : FuncS} (h : (readFunc i s).1 = .ok v) :
    s.w[i]? = some (.func v) := by
  unfold readFunc at h
  split at h <;> cases h
  assumption
theorem readTensor_cell {i : Nat} {s : St} {v : Option String} (h : (readTensor i s).1 = .ok v) :
    s.w[i]? = some (.tensor v) := by
  unfold readTensor at h
  split at h <;> cases h
  assumption
theorem readModel_cell {i : Nat} {s : St} {v : ModelS} (h : (readModel i s).1 = .ok v) :
    s.w[i]? = some (.model v) := by
  unfold readModel at h
  split at h <;> cases h
  assumption

/-- read a value cell and write it back changed: the step behind `_add_usage`, `_producer = ..`,
    `_graph = ..` -/
theorem modVal_eq (f : ValueS → ValueS) {v : Nat} {s : St} {vs : ValueS} (h : s.w[v]? = some (.val vs)) :
    (do let x ← readVal v; setCell v (.val (f x)) : M Unit) s =
      (.ok (), { s with w := s.w.set v (.val (f vs)) }) := by
  show M.bind (readVal v) _ s = _
  simp only [M.bind, readVal, h, setCell]

theorem modVal_err (f : ValueS → ValueS) {v : Nat} {s : St} (h : ∀ vs, s.w[v]? ≠ some (.val vs)) :
    (do let x ← readVal v; setCell v (.val (f x)) : M Unit) s = (.error (.unsupported "not a value"), s) := by
  have : readVal v s = (.error (.unsupported "not a value"), s) := by
    unfold readVal
    split
    · next x hx => exact absurd hx (h x)
    · rfl
  show M.bind (readVal v) _ s = _
  unfold M.bind
  rw [this]



/-- pointwise relation of two lists of equal length -/
inductive All2 {α β : Type} (R : α → β → Prop) : List α → List β → Prop
  | nil : All2 R [] []
  | cons {a : α} {b : β} {as : List α} {bs : List β} : R a b → All2 R as bs → All2 R (a :: as) (b :: bs)

theorem All2.right_forall {α β : Type} {R : α → β → Prop} {P : β → Prop} (h : ∀ a b, R a b → P b) :
    ∀ {l : List α} {l' : List β}, All2 R l l' → ∀ b ∈ l', P b
  | _, _, .nil => by simp
  | _, _, .cons r rs => by
    intro b hb
    rcases List.mem_cons.mp hb with rfl | hb
    · exact h _ _ r
    · exact All2.right_forall h rs b hb

structure Logic where
  E : St → St → Prop
  N : St → St → Prop
  E_trans : ∀ {a b c : St}, E a b → E b c → E a c
  N_trans : ∀ {a b c : St}, N a b → N b c → N a c
  /-- a state that was reached is one to start from -/
  E_self : ∀ {a b : St}, E a b → E b b
  N_self : ∀ {a b : St}, N a b → N b b

/-- the invariant of the logic: `s` is a state to start from -/
def Logic.Ok (L : Logic) (s : St) : Prop := L.E s s ∧ L.N s s

def Hoare (L : Logic) (m : M α) (s : St) (Q : α → St → Prop) : Prop :=
  L.Ok s → L.E s (m s).2 ∧ ∀ a, (m s).1 = .ok a → L.N s (m s).2 ∧ Q a (m s).2

namespace Hoare
variable {L : Logic}

theorem assume {m : M α} {s : St} {Q : α → St → Prop} (h : L.Ok s → Hoare L m s Q) : Hoare L m s Q :=
  fun hO => h hO hO

theorem pure {a : α} {s : St} {Q : α → St → Prop} (hQ : Q a s) : Hoare L (Pure.pure a : M α) s Q :=
  fun hO => ⟨hO.1, by intro b hb; cases hb; exact ⟨hO.2, hQ⟩⟩

theorem fail {e : Err} {s : St} {Q : α → St → Prop} : Hoare L (Clone.fail e : M α) s Q :=
  fun hO => ⟨hO.1, by intro b hb; cases hb⟩

theorem bind {m : M α} {f : α → M β} {s : St} {Q : α → St → Prop} {R : β → St → Prop}
    (hm : Hoare L m s Q) (hf : ∀ a s1, L.E s s1 → L.N s s1 → Q a s1 → Hoare L (f a) s1 R) :
    Hoare L (m >>= f) s R := by
  intro hO
  obtain ⟨hE, hq⟩ := hm hO
  show L.E s (M.bind m f s).2 ∧ ∀ a, (M.bind m f s).1 = .ok a → L.N s (M.bind m f s).2 ∧ R a (M.bind m f s).2
  unfold M.bind
  rcases hms : m s with ⟨r, s1⟩
  rw [hms] at hE hq
  cases r with
  | error e => exact ⟨hE, by intro b hb; cases hb⟩
  | ok a =>
    obtain ⟨hN, hQ⟩ := hq a rfl
    obtain ⟨hE2, hq2⟩ := hf a s1 hE hN hQ ⟨L.E_self hE, L.N_self hN⟩
    exact ⟨L.E_trans hE hE2, fun b hb => ⟨L.N_trans hN (hq2 b hb).1, (hq2 b hb).2⟩⟩

theorem mono {m : M α} {s : St} {Q R : α → St → Prop} (hm : Hoare L m s Q)
    (h : ∀ a s1, L.E s s1 → L.N s s1 → Q a s1 → R a s1) : Hoare L m s R :=
  fun hO => ⟨(hm hO).1, fun a ha => ⟨((hm hO).2 a ha).1, h a _ (hm hO).1 ((hm hO).2 a ha).1 ((hm hO).2 a ha).2⟩⟩

theorem ok {m : M α} {s s1 : St} {a : α} {Q : α → St → Prop} (hm : Hoare L m s Q) (hO : L.Ok s)
    (h : m s = (.ok a, s1)) : L.E s s1 ∧ L.N s s1 ∧ Q a s1 := by
  have h1 := (hm hO).1
  have h2 := (hm hO).2 a (by rw [h])
  rw [h] at h1 h2
  exact ⟨h1, h2⟩

theorem imp {L' : Logic} {m : M α} {s : St} {Q : α → St → Prop} (hm : Hoare L m s Q) (hO : L'.Ok s → L.Ok s)
    (hE : ∀ s1, L.E s s1 → L'.E s s1) (hN : ∀ s1, L.E s s1 → L.N s s1 → L'.N s s1) : Hoare L' m s Q :=
  fun h => ⟨hE _ (hm (hO h)).1, fun a ha => ⟨hN _ (hm (hO h)).1 ((hm (hO h)).2 a ha).1, ((hm (hO h)).2 a ha).2⟩⟩

theorem both {m : M α} {s : St} {Q P : α → St → Prop} (h1 : Hoare L m s Q) (h2 : Hoare L m s P) :
    Hoare L m s (fun a s1 => Q a s1 ∧ P a s1) :=
  fun hO => ⟨(h1 hO).1, fun a ha => ⟨((h1 hO).2 a ha).1, ((h1 hO).2 a ha).2, ((h2 hO).2 a ha).2⟩⟩

theorem andOk {m : M α} {s : St} {Q : α → St → Prop} {P : α → Prop} (h : Hoare L m s Q)
    (hp : ∀ a, (m s).1 = .ok a → P a) : Hoare L m s (fun a s1 => Q a s1 ∧ P a) :=
  fun hO => ⟨(h hO).1, fun a ha => ⟨((h hO).2 a ha).1, ((h hO).2 a ha).2, hp a ha⟩⟩

theorem andState {m : M α} {s : St} {Q : α → St → Prop} {P : St → Prop} (h : Hoare L m s Q)
    (hp : P (m s).2) : Hoare L m s (fun a s1 => Q a s1 ∧ P s1) :=
  fun hO => ⟨(h hO).1, fun a ha => ⟨((h hO).2 a ha).1, ((h hO).2 a ha).2, hp⟩⟩

theorem ofRead {m : M α} {P : α → Prop} (h : Quiet m) {s : St}
    (hP : ∀ a, (m s).1 = .ok a → P a) : Hoare L m s (fun a s1 => s1 = s ∧ P a) := by
  unfold Hoare
  rw [h s]
  exact fun hO => ⟨hO.1, fun a ha => ⟨hO.2, rfl, hP a ha⟩⟩

theorem ofQuiet {m : M α} (h : Quiet m) {s : St} : Hoare L m s (fun _ s1 => s1 = s) :=
  (ofRead (P := fun _ => True) h fun _ _ => trivial).mono fun _ _ _ _ h => h.1

theorem guard {c : Prop} [Decidable c] {e : Err} {m : M α} {s : St} {Q : α → St → Prop}
    (hm : ¬ c → Hoare L m s Q) : Hoare L (if c then Clone.fail e else m) s Q := by
  split
  · exact fail
  · next h => exact hm h

theorem ite {c : Prop} [Decidable c] {a b : M α} {s : St} {Q : α → St → Prop}
    (ha : c → Hoare L a s Q) (hb : ¬ c → Hoare L b s Q) : Hoare L (if c then a else b) s Q := by
  split
  · next h => exact ha h
  · next h => exact hb h

/-- on the raising path it is enough that taking the abandoned clone apart keeps `L.E` -/
theorem guarded {body : M Nat} {s : St} {Q : Nat → St → Prop} (hb : Hoare L body s Q)
    (hclean : ∀ s', L.Ok s → L.E s s' → L.E s (abandoned s s')) : Hoare L (Clone.guarded body) s Q := by
  intro hO
  obtain ⟨hE, hq⟩ := hb hO
  rcases hbs : body s with ⟨r, s'⟩
  rw [hbs] at hE hq
  cases r with
  | ok x => rw [guarded_ok hbs]; exact ⟨hE, hq⟩
  | error e => rw [guarded_error hbs]; exact ⟨hclean s' hO hE, fun a ha => nomatch ha⟩

theorem forM' {f : α → M Unit} : ∀ (l : List α) (s : St),
    (∀ a ∈ l, ∀ s1, L.E s s1 → L.N s s1 → Hoare L (f a) s1 (fun _ _ => True)) →
    Hoare L (Clone.forM' f l) s (fun _ _ => True)
  | [], _, _ => pure trivial
  | a :: as, s, hf => assume fun hO => by
    unfold Clone.forM'
    refine bind (hf a List.mem_cons_self s hO.1 hO.2) fun _ s1 hE1 hN1 _ => ?_
    exact forM' as s1 fun a' ha' s2 hE2 hN2 =>
      hf a' (List.mem_cons_of_mem _ ha') s2 (L.E_trans hE1 hE2) (L.N_trans hN1 hN2)

end Hoare

/-- `Hoare.bind`; each name may be an `rcases` pattern (`⟨hI, hl⟩` takes `L.E s s1` apart, `-` forgets it) -/
macro "hbind " h:term " with " a:rintroPat s1:rintroPat hE:rintroPat hN:rintroPat hq:rintroPat : tactic =>
  `(tactic| (refine Hoare.bind $h ?_; rintro $a $s1 $hE $hN $hq))

/-- the list rule for a relation between the elements and their results that survives the later
    iterations -/
theorem Hoare.mapM2 {L : Logic} {f : α → M β} {R : α → β → St → Prop}
    (hR : ∀ a b s s', R a b s → L.E s s' → L.N s s' → R a b s') : ∀ (l : List α) (s : St),
    (∀ a ∈ l, ∀ s1, L.E s s1 → L.N s s1 → Hoare L (f a) s1 (R a)) →
    Hoare L (Clone.mapM' f l) s (fun r s1 => All2 (fun a b => R a b s1) l r)
  | [], _, _ => Hoare.pure .nil
  | a :: as, s, hf => Hoare.assume fun hO => by
    unfold Clone.mapM'
    hbind (hf a List.mem_cons_self s hO.1 hO.2) with b s1 hE1 hN1 hb
    hbind (Hoare.mapM2 hR as s1 fun a' ha' s2 hE2 hN2 =>
      hf a' (List.mem_cons_of_mem _ ha') s2 (L.E_trans hE1 hE2) (L.N_trans hN1 hN2)) with bs s2 hE2 hN2 hbs
    exact Hoare.pure (.cons (hR _ _ _ _ hb hE2 hN2) hbs)

/-- `Q` must survive the later iterations -/
theorem Hoare.mapM' {α β : Type} {L : Logic} {f : α → M β} {Q : β → St → Prop}
    (hQ : ∀ b s s', Q b s → L.E s s' → L.N s s' → Q b s') (l : List α) (s : St)
    (hf : ∀ a ∈ l, ∀ s1, L.E s s1 → L.N s s1 → Hoare L (f a) s1 Q) :
    Hoare L (Clone.mapM' f l) s (fun r s1 => ∀ b ∈ r, Q b s1) :=
  (Hoare.mapM2 (R := fun _ b s => Q b s) (fun _ => hQ) l s hf).mono fun _ s1 _ _ h =>
    All2.right_forall (P := fun b => Q b s1) (fun _ _ h => h) h

namespace Hoare
variable {L : Logic}

theorem vmGet {s : St} {v : Nat} : Hoare L (Clone.vmGet v) s (fun r s1 => s1 = s ∧ r = s.vm.lookup v) :=
  ofRead (Quiet.vmGet v) fun _ ha => (Except.ok.inj ha).symm
theorem getVm {s : St} : Hoare L Clone.getVm s (fun r s1 => s1 = s ∧ r = s.vm) :=
  ofRead Quiet.getVm fun _ ha => (Except.ok.inj ha).symm

theorem getMapped {s : St} {v : Nat} :
    Hoare L (Clone.getMapped v) s (fun r s1 => s1 = s ∧ s.vm.lookup v = some r) := by
  unfold Clone.getMapped
  refine bind vmGet ?_
  rintro o s1 - - ⟨rfl, rfl⟩
  cases hlk : s1.vm.lookup v with
  | some v' => exact pure ⟨rfl, rfl⟩
  | none => exact fail

theorem readVal {s : St} {i : Nat} :
    Hoare L (Clone.readVal i) s (fun r s1 => s1 = s ∧ s.w[i]? = some (.val r)) :=
  ofRead (Quiet.readVal i) fun _ => readVal_cell
theorem readNode {s : St} {i : Nat} :
    Hoare L (Clone.readNode i) s (fun r s1 => s1 = s ∧ s.w[i]? = some (.node r)) :=
  ofRead (Quiet.readNode i) fun _ => readNode_cell
theorem readGraph {s : St} {i : Nat} :
    Hoare L (Clone.readGraph i) s (fun r s1 => s1 = s ∧ s.w[i]? = some (.graph r)) :=
  ofRead (Quiet.readGraph i) fun _ => readGraph_cell
theorem readType {s : St} {i : Nat} :
    Hoare L (Clone.readType i) s (fun r s1 => s1 = s ∧ s.w[i]? = some (.type r)) :=
  ofRead (Quiet.readType i) fun _ => readType_cell
theorem readShape {s : St} {i : Nat} :
    Hoare L (Clone.readShape i) s (fun r s1 => s1 = s ∧ s.w[i]? = some (.shape r)) :=
  ofRead (Quiet.readShape i) fun _ => readShape_cell
theorem readDict {s : St} {i : Nat} :
    Hoare L (Clone.readDict i) s (fun r s1 => s1 = s ∧ s.w[i]? = some (.dict r)) :=
  ofRead (Quiet.readDict i) fun _ => readDict_cell
theorem readAttr {s : St} {i : Nat} :
    Hoare L (Clone.readAttr i) s (fun r s1 => s1 = s ∧ s.w[i]? = some (.attr r)) :=
  ofRead (Quiet.readAttr i) fun _ => readAttr_cell
theorem readFunc {s : St} {i : Nat} :
    Hoare L (Clone.readFunc i) s (fun r s1 => s1 = s ∧ s.w[i]? = some (.func r)) :=
  ofRead (Quiet.readFunc i) fun _ => readFunc_cell
theorem readTensor {s : St} {i : Nat} :
    Hoare L (Clone.readTensor i) s (fun r s1 => s1 = s ∧ s.w[i]? = some (.tensor r)) :=
  ofRead (Quiet.readTensor i) fun _ => readTensor_cell
theorem readModel {s : St} {i : Nat} :
    Hoare L (Clone.readModel i) s (fun r s1 => s1 = s ∧ s.w[i]? = some (.model r)) :=
  ofRead (Quiet.readModel i) fun _ => readModel_cell

end Hoare

theorem Hoare.bindQuiet {L : Logic} {α β : Type} {m : M α} (hq : Quiet m) {k : α → M β} {s : St} {Q : β → St → Prop}
    (hk : ∀ a, (m s).1 = .ok a → Hoare L (k a) s Q) : Hoare L (m >>= k) s Q := by
  refine Hoare.bind (Hoare.ofRead hq fun a ha => ha) fun a s1 _ _ hq1 => ?_
  obtain ⟨rfl, h⟩ := hq1
  exact hk a h

theorem liftE_ok {α : Type} {x : Except Err α} {s : St} {a : α} (h : (liftE x s).1 = .ok a) : x = .ok a := by
  cases x with
  | ok b => exact congrArg _ (Except.ok.inj h)
  | error e => cases h

structure Reads {α : Type} (rd : Nat → M α) (inj : α → Cell) : Prop where
  quiet : ∀ i, Quiet (rd i)
  cell : ∀ {i s a}, (rd i s).1 = .ok a → s.w[i]? = some (inj a)

theorem Reads.val : Reads readVal .val := ⟨Quiet.readVal, readVal_cell⟩
theorem Reads.node : Reads readNode .node := ⟨Quiet.readNode, readNode_cell⟩
theorem Reads.graph : Reads readGraph .graph := ⟨Quiet.readGraph, readGraph_cell⟩
theorem Reads.model : Reads readModel .model := ⟨Quiet.readModel, readModel_cell⟩


def Logic.prod (L1 L2 : Logic) : Logic where
  E s s' := L1.E s s' ∧ L2.E s s'
  N s s' := L1.N s s' ∧ L2.N s s'
  E_trans h1 h2 := ⟨L1.E_trans h1.1 h2.1, L2.E_trans h1.2 h2.2⟩
  N_trans h1 h2 := ⟨L1.N_trans h1.1 h2.1, L2.N_trans h1.2 h2.2⟩
  E_self h := ⟨L1.E_self h.1, L2.E_self h.2⟩
  N_self h := ⟨L1.N_self h.1, L2.N_self h.2⟩

theorem Hoare.and {L1 L2 : Logic} {m : M α} {s : St} {Q1 Q2 : α → St → Prop}
    (h1 : Hoare L1 m s Q1) (h2 : Hoare L2 m s Q2) :
    Hoare (L1.prod L2) m s (fun a s1 => Q1 a s1 ∧ Q2 a s1) := by
  intro hO
  have a1 := h1 ⟨hO.1.1, hO.2.1⟩
  have a2 := h2 ⟨hO.1.2, hO.2.2⟩
  exact ⟨⟨a1.1, a2.1⟩, fun a ha => ⟨⟨(a1.2 a ha).1, (a2.2 a ha).1⟩, (a1.2 a ha).2, (a2.2 a ha).2⟩⟩

def relL (R : St → St → Prop) (refl : ∀ s, R s s) (trans : ∀ {a b c : St}, R a b → R b c → R a c) : Logic where
  E := R
  N _ _ := True
  E_trans := trans
  N_trans _ _ := trivial
  E_self _ := refl _
  N_self _ := trivial

end IrVerif.Clone
