/-
C14: the passes that delete or move - LiftConstants, Deduplicate, RemoveUnusedNodes, LiftSubgraphInitializers - on C05's
pass models: a zero count means the model is returned as it is, the count is bounded by the drop of the measure, and
LiftSubgraphInitializers applied to its own result lifts nothing.
-/
import IrVerif.Model.PassFlags2
import IrVerif.Lemmas.Sem
import IrVerif.Lemmas.PassInfra
namespace IrVerif.PassFlags
open IrVerif.Sem IrVerif.Passes

/-! ## LiftConstantsToInitializers -/

mutual
theorem liftG_cnt0 (la : Bool) (lim : Nat) : ∀ g : Graph, liftCntG la lim g = 0 → liftG la lim g = g
  | .mk inputs outputs inits nodes, h => by
    simp only [liftCntG] at h
    simp [liftG, liftNodes_cnt0 la lim outputs nodes h]
theorem liftNodes_cnt0 (la : Bool) (lim : Nat) : ∀ (gouts : List VId) (ns : List Node),
    liftCntNodes la lim gouts ns = 0 → liftNodes la lim gouts ns = (ns, [])
  | _, [], _ => rfl
  | gouts, .mk op attrs ins outs bodies :: ns, h => by
    simp only [liftCntNodes] at h
    simp only [liftNodes]
    split at h
    · omega
    · next hc =>
      have h1 : liftCntBodies la lim bodies = 0 := by omega
      have h2 : liftCntNodes la lim gouts ns = 0 := by omega
      simp [hc, liftNodes_cnt0 la lim gouts ns h2, liftBodies_cnt0 la lim bodies h1]
theorem liftBodies_cnt0 (la : Bool) (lim : Nat) : ∀ bs : List Graph,
    liftCntBodies la lim bs = 0 → liftBodies la lim bs = bs
  | [], _ => rfl
  | b :: bs, h => by
    simp only [liftCntBodies] at h
    simp [liftBodies, liftG_cnt0 la lim b (by omega), liftBodies_cnt0 la lim bs (by omega)]
end

mutual
theorem liftG_nodes (la : Bool) (lim : Nat) : ∀ g : Graph,
    nodesG (liftG la lim g) + liftCntG la lim g ≤ nodesG g
  | .mk inputs outputs inits nodes => by
    simp only [liftG, nodesG, liftCntG]
    exact liftNodes_nodes la lim outputs nodes
theorem liftNodes_nodes (la : Bool) (lim : Nat) : ∀ (gouts : List VId) (ns : List Node),
    nodesNodes (liftNodes la lim gouts ns).1 + liftCntNodes la lim gouts ns ≤ nodesNodes ns
  | _, [] => Nat.le_refl _
  | gouts, .mk op attrs ins outs bodies :: ns => by
    have ih := liftNodes_nodes la lim gouts ns
    have ihb := liftBodies_nodes la lim bodies
    cases hc : liftCandidate la lim gouts op attrs outs with
    | some p => simp only [liftNodes, liftCntNodes, nodesNodes, hc]; omega
    | none =>
      simp only [liftNodes, liftCntNodes, nodesNodes, hc]
      have e : nodesBodies (liftBodies la lim bodies) + liftCntBodies la lim bodies ≤ nodesBodies bodies := ihb
      omega
theorem liftBodies_nodes (la : Bool) (lim : Nat) : ∀ bs : List Graph,
    nodesBodies (liftBodies la lim bs) + liftCntBodies la lim bs ≤ nodesBodies bs
  | [] => Nat.le_refl _
  | b :: bs => by
    have := liftG_nodes la lim b
    have := liftBodies_nodes la lim bs
    simp only [liftBodies, liftCntBodies, nodesBodies]; omega
end

/-! ## DeduplicateInitializers -/

theorem dedupInits_nil (lim : Nat) (io : List VId) : ∀ (l : List (VId × Tensor)) (seen : List (DedupKey × VId)),
    (dedupInits lim io seen l).2 = [] → (dedupInits lim io seen l).1 = l
  | [], _, _ => rfl
  | (v, t) :: rest, seen, h => by
    simp only [dedupInits] at h ⊢
    split at h
    · next hc => simp only [hc, if_true]; rw [dedupInits_nil lim io rest seen h]
    · next hc =>
      simp only [hc]
      cases hl : seen.lookup (dedupKey t) with
      | some k => simp [hl] at h
      | none =>
        simp only [hl] at h ⊢
        rw [dedupInits_nil lim io rest _ h]; rfl

theorem dedupInits_len (lim : Nat) (io : List VId) : ∀ (l : List (VId × Tensor)) (seen : List (DedupKey × VId)),
    (dedupInits lim io seen l).1.length + (dedupInits lim io seen l).2.length = l.length
  | [], _ => rfl
  | (v, t) :: rest, seen => by
    simp only [dedupInits]
    split
    · have := dedupInits_len lim io rest seen
      simp only [List.length_cons]; omega
    · cases hl : seen.lookup (dedupKey t) with
      | some k =>
        have := dedupInits_len lim io rest seen
        simp only [List.length_cons]; omega
      | none =>
        have := dedupInits_len lim io rest ((dedupKey t, v) :: seen)
        simp only [List.length_cons]; omega

theorem substIns_nil' (ins : List (Option VId)) : substIns [] ins = ins := by
  simp only [substIns]
  induction ins with
  | nil => rfl
  | cons a l ih =>
    cases a <;> simp_all [Subst.app]

mutual
theorem dedupG_cnt0 (lim : Nat) : ∀ g : Graph, dedupCntG lim g = 0 → dedupG lim [] g = g
  | .mk inputs outputs inits nodes, h => by
    simp only [dedupCntG] at h
    have h1 : (dedupInits lim (inputs ++ outputs) [] inits).2 = [] := List.eq_nil_of_length_eq_zero (by omega)
    have h2 : dedupCntNodes lim nodes = 0 := by omega
    simp only [dedupG, h1, List.nil_append, dedupInits_nil lim _ inits [] h1, dedupNodes_cnt0 lim nodes h2]
theorem dedupNodes_cnt0 (lim : Nat) : ∀ ns : List Node, dedupCntNodes lim ns = 0 → dedupNodes lim [] ns = ns
  | [], _ => rfl
  | .mk op attrs ins outs bodies :: ns, h => by
    simp only [dedupCntNodes] at h
    simp only [dedupNodes, substIns_nil', dedupBodies_cnt0 lim bodies (by omega),
      dedupNodes_cnt0 lim ns (by omega)]
theorem dedupBodies_cnt0 (lim : Nat) : ∀ bs : List Graph, dedupCntBodies lim bs = 0 → dedupBodies lim [] bs = bs
  | [], _ => rfl
  | b :: bs, h => by
    simp only [dedupCntBodies] at h
    simp only [dedupBodies, dedupG_cnt0 lim b (by omega), dedupBodies_cnt0 lim bs (by omega)]
end

mutual
theorem dedupG_inits (lim : Nat) : ∀ (σ : Subst) (g : Graph),
    initsG (dedupG lim σ g) + dedupCntG lim g = initsG g
  | σ, .mk inputs outputs inits nodes => by
    have h1 := dedupInits_len lim (inputs ++ outputs) inits []
    have h2 := dedupNodes_inits lim ((dedupInits lim (inputs ++ outputs) [] inits).2 ++ σ) nodes
    simp only [dedupG, initsG, dedupCntG]; omega
theorem dedupNodes_inits (lim : Nat) : ∀ (σ : Subst) (ns : List Node),
    initsNodes (dedupNodes lim σ ns) + dedupCntNodes lim ns = initsNodes ns
  | _, [] => rfl
  | σ, .mk op attrs ins outs bodies :: ns => by
    have h1 := dedupBodies_inits lim σ bodies
    have h2 := dedupNodes_inits lim σ ns
    simp only [dedupNodes, initsNodes, dedupCntNodes]; omega
theorem dedupBodies_inits (lim : Nat) : ∀ (σ : Subst) (bs : List Graph),
    initsBodies (dedupBodies lim σ bs) + dedupCntBodies lim bs = initsBodies bs
  | _, [] => rfl
  | σ, b :: bs => by
    have h1 := dedupG_inits lim σ b
    have h2 := dedupBodies_inits lim σ bs
    simp only [dedupBodies, initsBodies, dedupCntBodies]; omega
end

/-! ## RemoveUnusedNodes -/

theorem trim_len (ins : List (Option VId)) :
    (trimNone ins).length + (if trimNone ins != ins then 1 else 0) ≤ ins.length := by
  have hp := trimNone_prefix ins
  have hle := hp.length_le
  split
  · next hne =>
    have : (trimNone ins).length ≠ ins.length := by
      intro he
      have := hp.eq_of_length he
      simp [this] at hne
    omega
  · omega

theorem trim_eq_of_zero (ins : List (Option VId))
    (h : (if trimNone ins != ins then 1 else 0) = 0) : trimNone ins = ins := by
  split at h
  · omega
  · next hne => simpa using hne

mutual
theorem dceG_cnt0 : ∀ g : Graph, dceCntG g = 0 → (dceG g).1 = g
  | .mk inputs outputs inits nodes, h => by
    simp only [dceCntG] at h
    simp only [dceG, dceNodes_cnt0 outputs [] nodes h]
theorem dceNodes_cnt0 : ∀ (gouts pre : List VId) (ns : List Node),
    dceCntNodes gouts pre ns = 0 → (dceNodes gouts pre ns).1 = ns
  | _, _, [], _ => rfl
  | gouts, pre, .mk op attrs ins outs bodies :: ns, h => by
    simp only [dceCntNodes] at h
    simp only [dceNodes]
    split at h
    · omega
    · next hc =>
      have h1 : (if trimNone ins != ins then 1 else 0) = 0 := by
        simp only [trimTrailingNone] at h; omega
      have h2 : dceCntBodies bodies = 0 := by omega
      have h3 : dceCntNodes gouts (pre ++ usesN (.mk op attrs ins outs bodies)) ns = 0 := by omega
      rw [if_neg hc]
      simp only [trimTrailingNone, trim_eq_of_zero ins h1, dceBodies_cnt0 bodies h2,
        dceNodes_cnt0 gouts _ ns h3]
theorem dceBodies_cnt0 : ∀ bs : List Graph, dceCntBodies bs = 0 → (dceBodies bs).1 = bs
  | [], _ => rfl
  | b :: bs, h => by
    simp only [dceCntBodies] at h
    simp only [dceBodies, dceG_cnt0 b (by omega), dceBodies_cnt0 bs (by omega)]
end

mutual
theorem dceG_slots : ∀ g : Graph, slotsG (dceG g).1 + dceCntG g ≤ slotsG g
  | .mk inputs outputs inits nodes => by
    simp only [dceG, slotsG, dceCntG]
    exact dceNodes_slots outputs [] nodes
theorem dceNodes_slots : ∀ (gouts pre : List VId) (ns : List Node),
    slotsNodes (dceNodes gouts pre ns).1 + dceCntNodes gouts pre ns ≤ slotsNodes ns
  | _, _, [] => Nat.le_refl _
  | gouts, pre, .mk op attrs ins outs bodies :: ns => by
    have ih := dceNodes_slots gouts (pre ++ usesN (.mk op attrs ins outs bodies)) ns
    have ihb := dceBodies_slots bodies
    have ht := trim_len ins
    simp only [dceNodes, dceCntNodes]
    split
    · simp only [slotsNodes]; omega
    · simp only [slotsNodes, trimTrailingNone]; omega
theorem dceBodies_slots : ∀ bs : List Graph, slotsBodies (dceBodies bs).1 + dceCntBodies bs ≤ slotsBodies bs
  | [] => Nat.le_refl _
  | b :: bs => by
    have := dceG_slots b
    have := dceBodies_slots bs
    simp only [dceBodies, slotsBodies, dceCntBodies]; omega
end

theorem dceG_keeps : ∀ g : Graph, (dceG g).1.inputs = g.inputs ∧ (dceG g).1.outputs = g.outputs ∧
    (dceG g).1.inits = g.inits
  | .mk _ _ _ _ => ⟨rfl, rfl, rfl⟩

/-! ## LiftSubgraphInitializers -/

mutual
theorem lsiG_nil : ∀ g : Graph, (lsiG g).2 = [] → (lsiG g).1 = g
  | .mk inputs outputs inits nodes, h => by
    simp only [lsiG, List.append_eq_nil_iff] at h
    simp only [lsiG, lsiNodes_nil nodes h.2,
      filter_of_not_nil (fun p : VId × Tensor => inputs.contains p.1 || outputs.contains p.1) inits h.1]
theorem lsiNodes_nil : ∀ ns : List Node, (lsiNodes ns).2 = [] → (lsiNodes ns).1 = ns
  | [], _ => rfl
  | .mk op attrs ins outs bodies :: ns, h => by
    simp only [lsiNodes, List.append_eq_nil_iff] at h
    simp only [lsiNodes, lsiBodies_nil bodies h.1, lsiNodes_nil ns h.2]
theorem lsiBodies_nil : ∀ bs : List Graph, (lsiBodies bs).2 = [] → (lsiBodies bs).1 = bs
  | [], _ => rfl
  | b :: bs, h => by
    simp only [lsiBodies, List.append_eq_nil_iff] at h
    simp only [lsiBodies, lsiG_nil b h.1, lsiBodies_nil bs h.2]
end

mutual
theorem lsiG_inits : ∀ g : Graph, initsG (lsiG g).1 + (lsiG g).2.length = initsG g
  | .mk inputs outputs inits nodes => by
    have h1 := filter_len_split (fun p : VId × Tensor => inputs.contains p.1 || outputs.contains p.1) inits
    have h2 := lsiNodes_inits nodes
    simp only [lsiG, initsG, List.length_append]; omega
theorem lsiNodes_inits : ∀ ns : List Node, initsNodes (lsiNodes ns).1 + (lsiNodes ns).2.length = initsNodes ns
  | [] => rfl
  | .mk op attrs ins outs bodies :: ns => by
    have h1 := lsiBodies_inits bodies
    have h2 := lsiNodes_inits ns
    simp only [lsiNodes, initsNodes, List.length_append]; omega
theorem lsiBodies_inits : ∀ bs : List Graph, initsBodies (lsiBodies bs).1 + (lsiBodies bs).2.length = initsBodies bs
  | [] => rfl
  | b :: bs => by
    have h1 := lsiG_inits b
    have h2 := lsiBodies_inits bs
    simp only [lsiBodies, initsBodies, List.length_append]; omega
end

mutual
theorem lsiG_idem : ∀ g : Graph, lsiG (lsiG g).1 = ((lsiG g).1, [])
  | .mk inputs outputs inits nodes => by
    have h1 := filter_not_filter (fun p : VId × Tensor => inputs.contains p.1 || outputs.contains p.1) inits
    have h2 : (inits.filter (fun p => inputs.contains p.1 || outputs.contains p.1)).filter
        (fun p => inputs.contains p.1 || outputs.contains p.1) =
        inits.filter (fun p => inputs.contains p.1 || outputs.contains p.1) := by
      rw [List.filter_filter]; simp only [Bool.and_self]
    simp only [lsiG, lsiNodes_idem nodes, h1, h2, List.append_nil]
theorem lsiNodes_idem : ∀ ns : List Node, lsiNodes (lsiNodes ns).1 = ((lsiNodes ns).1, [])
  | [] => rfl
  | .mk op attrs ins outs bodies :: ns => by
    simp only [lsiNodes, lsiBodies_idem bodies, lsiNodes_idem ns, List.append_nil]
theorem lsiBodies_idem : ∀ bs : List Graph, lsiBodies (lsiBodies bs).1 = ((lsiBodies bs).1, [])
  | [] => rfl
  | b :: bs => by
    simp only [lsiBodies, lsiG_idem b, lsiBodies_idem bs, List.append_nil]
end

/-! ## the four passes on models: counted passes -/

theorem liftCounted (la : Bool) (lim : Nat) :
    PassInfra.Counted (liftConstModel la lim) (fun m => liftCntG la lim m.graph) (fun m => nodesG m.graph) :=
  ⟨fun ⟨g, fs⟩ h => by simp only [liftConstModel, liftG_cnt0 la lim g h], fun m => liftG_nodes la lim m.graph⟩

theorem dedupCounted (lim : Nat) :
    PassInfra.Counted (dedupModel lim) (fun m => dedupCntG lim m.graph) (fun m => initsG m.graph) :=
  ⟨fun ⟨g, fs⟩ h => by simp only [dedupModel, dedupG_cnt0 lim g h], fun m => Nat.le_of_eq (dedupG_inits lim [] m.graph)⟩

theorem dceCounted : PassInfra.Counted dceModel dceCount dceSize := by
  refine ⟨fun m h => ?_, fun m => ?_⟩
  · simp only [dceCount] at h
    have hg := dceG_cnt0 m.graph (by omega)
    have hf : m.funcs.map (fun f => (dceG f).1) = m.funcs :=
      map_eq_self_of_sum_zero dceCntG _ dceG_cnt0 _ (by omega)
    have h2 : m.graph.inits.length - (dceModel m).graph.inits.length = 0 := by omega
    obtain ⟨⟨inputs, outputs, inits, nodes⟩, fs⟩ := m
    simp only at hg hf h2
    simp only [dceModel, hg, hf, Graph.inits, Graph.inputs, Graph.outputs, Graph.nodes] at h2 ⊢
    have hle := List.length_filter_le (fun p : VId × Tensor =>
      (usesG (Graph.mk inputs outputs inits nodes) ++ (dceG (Graph.mk inputs outputs inits nodes)).2).contains p.1 ||
        outputs.contains p.1 || inputs.contains p.1) inits
    rw [filter_eq_of_length _ inits (by omega)]
  · obtain ⟨⟨inputs, outputs, inits, nodes⟩, fs⟩ := m
    have h1 := dceNodes_slots outputs [] nodes
    have h2 := PassInfra.sum_map_add_le slotsG dceCntG _ dceG_slots fs
    have hle := List.length_filter_le (fun p : VId × Tensor =>
      (usesG (Graph.mk inputs outputs inits (dceNodes outputs [] nodes).1) ++
          (dceNodes outputs [] nodes).2).contains p.1 || outputs.contains p.1 ||
        inputs.contains p.1) inits
    simp only [dceSize, dceCount, dceModel, dceG, dceCntG, slotsG, Graph.inits, Graph.inputs,
      Graph.outputs, Graph.nodes] at *
    omega

theorem lsiModel_inits : ∀ m : Model, subInits (lsiModel m) + lsiCount m = subInits m
  | ⟨.mk inputs outputs inits nodes, fs⟩ => by
    simp only [subInits, lsiModel, lsiCount, Graph.nodes]
    exact lsiNodes_inits nodes

theorem lsiCounted : PassInfra.Counted lsiModel lsiCount subInits := by
  refine ⟨fun ⟨⟨inputs, outputs, inits, nodes⟩, fs⟩ h => ?_, fun m => Nat.le_of_eq (lsiModel_inits m)⟩
  simp only [lsiCount, Graph.nodes] at h
  have h0 : (lsiNodes nodes).2 = [] := List.eq_nil_of_length_eq_zero h
  simp only [lsiModel, h0, List.append_nil, lsiNodes_nil nodes h0]

end IrVerif.PassFlags
