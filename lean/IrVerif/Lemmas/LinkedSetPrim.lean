/-
Effect of the two primitive transitions (`eraseBox`, `linkNew`) on every accessor.
-/
import IrVerif.Lemmas.LinkedSetBasic
namespace IrVerif.LinkedSet

/-- the state `eraseBox` returns -/
def er (s : LSet) (n : Nat) : LSet :=
  setErased (setPrev (setNext s (pv s n) (nx s n)) (nx s n) (pv s n)) n

theorem eraseBox_eq (s : LSet) (n : Nat) (h : (val s n).isSome) : eraseBox s n = some (er s n) := by
  unfold eraseBox er
  have : ¬ (val s n).isNone = true := by
    cases hv : val s n <;> simp_all
  simp [this]

theorem eraseBox_none (s : LSet) (n : Nat) (h : val s n = none) : eraseBox s n = none := by
  unfold eraseBox; simp [h]

@[simp] theorem size_er (s : LSet) (n : Nat) : size (er s n) = size s := by simp [er]
@[simp] theorem clock_er (s : LSet) (n : Nat) : (er s n).clock = s.clock + 1 := by simp [er]
@[simp] theorem index_er (s : LSet) (n : Nat) : (er s n).index = s.index := by simp [er]
@[simp] theorem length_er (s : LSet) (n : Nat) : (er s n).length = s.length := by simp [er]

theorem nx_er (s : LSet) (n x : Nat) :
    nx (er s n) x = if x = pv s n ∧ pv s n < size s then nx s n else nx s x := by
  simp only [er, nx_setErased, nx_setPrev, nx_setNext]
theorem pv_er (s : LSet) (n x : Nat) :
    pv (er s n) x = if x = nx s n ∧ nx s n < size s then pv s n else pv s x := by
  simp only [er, pv_setErased, pv_setPrev, pv_setNext, size_setNext]
theorem val_er (s : LSet) (n x : Nat) :
    val (er s n) x = if x = n ∧ n < size s then none else val s x := by
  simp only [er, val_setErased, val_setPrev, val_setNext, size_setNext, size_setPrev]
theorem stp_er (s : LSet) (n x : Nat) :
    stp (er s n) x = if x = n ∧ n < size s then s.clock else stp s x := by
  simp only [er, stp_setErased, stp_setPrev, stp_setNext, size_setNext, size_setPrev,
    clock_setNext, clock_setPrev]
theorem own_er (s : LSet) (n x : Nat) : own (er s n) x = own s x := by
  simp only [er, own_setErased, own_setPrev, own_setNext]

/-- the state `linkNew` returns, without the length / dict update -/
def lnk (s : LSet) (b v : Nat) : LSet :=
  setPrev (setNext (setPrev (setNext (pushBox s v) b (size s)) (size s) b) (size s) (nx (pushBox s v) b))
    (nx (pushBox s v) b) (size s)

/-- the state `linkNew` returns -/
def lnkS (s : LSet) (b v : Nat) : LSet :=
  { lnk s b v with length := s.length + 1, index := dictSet s.index v (size s) }

theorem nx_lnkS (s : LSet) (b v x : Nat) : nx (lnkS s b v) x = nx (lnk s b v) x :=
  nx_with (lnk s b v) _ _ x
theorem pv_lnkS (s : LSet) (b v x : Nat) : pv (lnkS s b v) x = pv (lnk s b v) x :=
  pv_with (lnk s b v) _ _ x
theorem val_lnkS (s : LSet) (b v x : Nat) : val (lnkS s b v) x = val (lnk s b v) x :=
  val_with (lnk s b v) _ _ x
theorem stp_lnkS (s : LSet) (b v x : Nat) : stp (lnkS s b v) x = stp (lnk s b v) x :=
  stp_with (lnk s b v) _ _ x
theorem own_lnkS (s : LSet) (b v x : Nat) : own (lnkS s b v) x = own (lnk s b v) x :=
  own_with (lnk s b v) _ _ x
theorem box_lnkS (s : LSet) (b v x : Nat) : box (lnkS s b v) x = box (lnk s b v) x :=
  box_with (lnk s b v) _ _ x
theorem size_lnkS (s : LSet) (b v : Nat) : size (lnkS s b v) = size (lnk s b v) :=
  size_with (lnk s b v) _ _
theorem clock_lnkS (s : LSet) (b v : Nat) : (lnkS s b v).clock = (lnk s b v).clock :=
  clock_with (lnk s b v) _ _
theorem index_lnkS (s : LSet) (b v : Nat) : (lnkS s b v).index = dictSet s.index v (size s) := rfl
theorem length_lnkS (s : LSet) (b v : Nat) : (lnkS s b v).length = s.length + 1 := rfl

theorem linkNew_eq (s : LSet) (b v : Nat) : linkNew s b v = (lnkS s b v, size s) := by
  simp [linkNew, lnk, lnkS]

@[simp] theorem size_lnk (s : LSet) (b v : Nat) : size (lnk s b v) = size s + 1 := by simp [lnk]
@[simp] theorem clock_lnk (s : LSet) (b v : Nat) : (lnk s b v).clock = s.clock := by simp [lnk]

theorem nx_lnk (s : LSet) (b v x : Nat) (hb : b < size s) :
    nx (lnk s b v) x = if x = size s then nx s b else if x = b then size s else nx s x := by
  simp only [lnk, nx_setPrev, nx_setNext, nx_pushBox, size_setPrev, size_setNext, size_pushBox]
  by_cases h1 : x = size s
  · subst h1; simp; omega
  · by_cases h2 : x = b
    · subst h2; simp [h1]; omega
    · simp [h1, h2]
theorem pv_lnk (s : LSet) (b v x : Nat) (hb : b < size s) (hn : nx s b < size s) :
    pv (lnk s b v) x = if x = nx s b then size s else if x = size s then b else pv s x := by
  have hne : b ≠ size s := by omega
  simp only [lnk, pv_setPrev, pv_setNext, pv_pushBox, nx_pushBox, size_setPrev, size_setNext,
    size_pushBox, hne, if_false]
  by_cases h1 : x = nx s b
  · subst h1; simp; omega
  · by_cases h2 : x = size s
    · subst h2; simp [h1]
    · simp [h1, h2]
theorem val_lnk (s : LSet) (b v x : Nat) :
    val (lnk s b v) x = if x = size s then some v else val s x := by
  simp only [lnk, val_setPrev, val_setNext, val_pushBox]
theorem stp_lnk (s : LSet) (b v x : Nat) :
    stp (lnk s b v) x = if x = size s then 0 else stp s x := by
  simp only [lnk, stp_setPrev, stp_setNext, stp_pushBox]
theorem own_lnk (s : LSet) (b v x : Nat) :
    own (lnk s b v) x = if x = size s then true else own s x := by
  simp only [lnk, own_setPrev, own_setNext, own_pushBox]

end IrVerif.LinkedSet
