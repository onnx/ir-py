/-
The extended serializer (`serGraphE` of `Model/ScopeExt.lean`) never raises for lack of a name on a reloadable
extended model: every value it takes the name of has one (certificate `replG`), and the node outputs it asks the
annotation of without having a name (the trailing outputs dropped by `stripTrailing`) carry none (certificate
`extG`).  What remains is an error of the device configurations (`EErr.dev`), which propagates unchanged.
-/
import IrVerif.Lemmas.ScopeExtSer
namespace IrVerif.Scope

theorem quantOfE_of_name {V : Nat → ValueS} {x : Ext} {v : Nat} (h : (V v).name ≠ none) :
    ∃ q, quantOfE V x v = .ok q := by
  simp only [quantOfE]
  split
  · exact ⟨_, rfl⟩
  · split
    · exact ⟨_, rfl⟩
    · split
      · rename_i hn; exact absurd hn h
      · exact ⟨_, rfl⟩

theorem quantOfE_of_quiet {V : Nat → ValueS} {x : Ext} {v : Nat} (h : x.quant v = none) :
    quantOfE V x v = .ok [] := by
  simp only [quantOfE, h]

theorem quantInputsE_of_names (V : Nat → ValueS) (x : Ext) (keys : List Name) :
    ∀ (l : List Nat), (∀ v ∈ l, (V v).name ≠ none) → ∀ (seen : List Nat),
      ∃ r seen', quantInputsE V x keys l seen = .ok (r, seen') := by
  intro l
  induction l with
  | nil => intro _ seen; exact ⟨[], seen, rfl⟩
  | cons a r ih =>
    intro h seen
    have ih' := ih (fun v hv => h v (by simp [hv]))
    simp only [quantInputsE]
    change ∃ r' seen', (if (!skipIn V keys a && !seen.contains a) = true then _ else _) = _
    by_cases hc : (!skipIn V keys a && !seen.contains a) = true
    · obtain ⟨q, hq⟩ := quantOfE_of_name (x := x) (h a (by simp))
      obtain ⟨r', s', hr⟩ := ih' (a :: seen)
      exact ⟨_, _, by simp only [hc, if_true, hq, hr]; rfl⟩
    · simp only [hc]
      exact ih' seen

theorem quantOnceE_of_names (V : Nat → ValueS) (x : Ext) (l : List Nat) (h : ∀ v ∈ l, (V v).name ≠ none)
    (seen : List Nat) : ∃ r seen', quantOnceE V x l seen = .ok (r, seen') := by
  rw [quantOnceE_eq_inputs]
  exact quantInputsE_of_names V x [] l h seen

/-- the loop over ALL the outputs of a node: an output either has a name or carries no annotation -/
theorem nodeOutsE_of_names (V : Nat → ValueS) (x : Ext) (annot : Bool) (go : List Nat) :
    ∀ (l : List Nat), (∀ v ∈ l, (V v).name ≠ none ∨ x.quant v = none) →
      ∃ q vi, nodeOutsE V x annot go l = .ok (q, vi) := by
  intro l
  induction l with
  | nil => intro _; exact ⟨[], [], rfl⟩
  | cons a r ih =>
    intro h
    obtain ⟨qs, vis, hr⟩ := ih (fun v hv => h v (by simp [hv]))
    simp only [nodeOutsE]
    split
    · exact ⟨_, _, hr⟩
    · have hq : ∃ q, (if annot then quantOfE V x a else .ok []) = .ok q := by
        cases annot with
        | false => exact ⟨[], rfl⟩
        | true =>
          simp only [if_true]
          rcases h a (by simp) with hn | hn
          · exact quantOfE_of_name hn
          · exact ⟨[], quantOfE_of_quiet hn⟩
      obtain ⟨q, hq⟩ := hq
      exact ⟨_, _, by simp only [hq, hr]; rfl⟩

/-- an output of a node without a truthy name is quiet (first clause of `extN`) -/
theorem extN_outs_named_or_quiet {V : Nat → ValueS} {x : Ext} {outs : List Nat}
    (h : ∀ v ∈ outs, nameTruthy (V v).name = false → x.quant v = none) :
    ∀ v ∈ outs, (V v).name ≠ none ∨ x.quant v = none := by
  intro v hv
  cases ht : nameTruthy (V v).name with
  | true => exact .inl (ne_none_of_truthy ht)
  | false => exact .inr (h v hv ht)

mutual
theorem extG_ser_ok (V : Nat → ValueS) (x : Ext) (td : TData) (ver : Option Int) :
    ∀ (g : GraphT) (outer : List Table), (replG V outer g).ok → extG V x outer g →
      (∃ q ws, serGraphE V x td ver g = .ok (q, ws)) ∨ (∃ e, serGraphE V x td ver g = .error (.dev e))
  | .mk gid ins inits nodes outs => fun outer h hx => by
    simp only [replG] at h
    obtain ⟨hins, _, hI, _, hN, hO⟩ := h
    simp only [extG] at hx
    obtain ⟨_, _, hxN⟩ := hx
    have houts := replOuts_names V _ outs hO
    have hinit : ∀ v ∈ inits.map (·.2), (V v).name ≠ none := by
      intro v hv
      simp only [List.mem_map] at hv
      obtain ⟨kv, hkv, rfl⟩ := hv
      rw [(replInits_base V outs inits _ hI kv hkv).1]
      simp
    have e1 := serValuesE_of_names (V := V) (x := x) (vs := ins) hins
    have e5 := serValuesE_of_names (V := V) (x := x) (vs := outs) houts
    obtain ⟨qIn, seen1, e2⟩ := quantInputsE_of_names V x (inits.map (·.1)) ins hins []
    obtain ⟨qInit, seen2, e3⟩ := quantOnceE_of_names V x (inits.map (·.2)) hinit seen1
    obtain ⟨qOut, seen3, e6⟩ := quantOnceE_of_names V x outs houts seen2
    rcases extNs_ser_ok V x td ver nodes outer _ outs true hN hxN with ⟨nps, qs, vis, ws, e4⟩ | ⟨e, e4⟩
    · exact .inl ⟨_, _, by simp only [serGraphE, e1, e2, e3, e4, e5, e6, liftS]; rfl⟩
    · exact .inr ⟨e, by simp only [serGraphE, e1, e2, e3, e4, liftS]⟩
theorem extNs_ser_ok (V : Nat → ValueS) (x : Ext) (td : TData) (ver : Option Int) :
    ∀ (ns : List NodeT) (outer : List Table) (T : Table) (gouts : List Nat) (annot : Bool),
      (replNs V outer T ns).ok → extNs V x outer T ns →
      (∃ nps qs vis ws, serNodesE V x td ver annot gouts ns = .ok (nps, qs, vis, ws)) ∨
      (∃ e, serNodesE V x td ver annot gouts ns = .error (.dev e))
  | [] => fun _ _ _ _ _ _ => .inl ⟨[], [], [], [], rfl⟩
  | n :: ns => fun outer T gouts annot h hx => by
    simp only [replNs] at h
    simp only [extNs] at hx
    rcases extN_ser_ok V x td ver n outer T gouts annot h.1 hx.1 with ⟨np, q1, vi1, ws1, e1⟩ | ⟨e, e1⟩
    · rcases extNs_ser_ok V x td ver ns outer _ gouts annot h.2 hx.2 with ⟨nps, qs, vis, ws2, e2⟩ | ⟨e, e2⟩
      · exact .inl ⟨_, _, _, _, by simp only [serNodesE, e1, e2]; rfl⟩
      · exact .inr ⟨e, by simp only [serNodesE, e1, e2]⟩
    · exact .inr ⟨e, by simp only [serNodesE, e1]⟩
theorem extN_ser_ok (V : Nat → ValueS) (x : Ext) (td : TData) (ver : Option Int) :
    ∀ (n : NodeT) (outer : List Table) (T : Table) (gouts : List Nat) (annot : Bool),
      (replN V outer T n).ok → extN V x outer T n →
      (∃ np q vi ws, serNodeE V x td ver annot gouts n = .ok (np, q, vi, ws)) ∨
      (∃ e, serNodeE V x td ver annot gouts n = .error (.dev e))
  | .mk i g ins outs subs => fun outer T gouts annot h hx => by
    simp only [replN] at h
    obtain ⟨hR, houts, _, hS⟩ := h
    simp only [extN] at hx
    obtain ⟨hq, hxS⟩ := hx
    have e1 := serInputs_of_names (V := V) (ins := ins)
      (fun v hv => ne_none_of_truthy (replRes_truthy V outer ins T hR v hv))
    have e2 := serOutNames_of_names (V := V) (vs := stripTrailing V outs) houts
    obtain ⟨q, vi, e5⟩ := nodeOutsE_of_names V x annot gouts outs (extN_outs_named_or_quiet hq)
    rcases extGs_ser_ok V x td ver subs _ hS hxS with ⟨gps, ws, e3⟩ | ⟨e, e3⟩
    · cases e4 : serDevRsGated V ver (x.devs i) with
      | error e => exact .inr ⟨e, by simp only [serNodeE, e1, e2, e3, e4, liftS]⟩
      | ok ds => exact .inl ⟨_, _, _, _, by simp only [serNodeE, e1, e2, e3, e4, e5, liftS]; rfl⟩
    · exact .inr ⟨e, by simp only [serNodeE, e1, e2, e3, liftS]⟩
theorem extGs_ser_ok (V : Nat → ValueS) (x : Ext) (td : TData) (ver : Option Int) :
    ∀ (gs : List GraphT) (scopes : List Table), (replGs V scopes gs).ok → extGs V x scopes gs →
      (∃ gps ws, serSubsE V x td ver gs = .ok (gps, ws)) ∨ (∃ e, serSubsE V x td ver gs = .error (.dev e))
  | [] => fun _ _ _ => .inl ⟨[], [], rfl⟩
  | g :: gs => fun scopes h hx => by
    simp only [replGs] at h
    simp only [extGs] at hx
    rcases extG_ser_ok V x td ver g scopes h.1 hx.1 with ⟨gp, ws1, e1⟩ | ⟨e, e1⟩
    · rcases extGs_ser_ok V x td ver gs scopes h.2 hx.2 with ⟨gps, ws2, e2⟩ | ⟨e, e2⟩
      · exact .inl ⟨_, _, by simp only [serSubsE, e1, e2]; rfl⟩
      · exact .inr ⟨e, by simp only [serSubsE, e1, e2]⟩
    · exact .inr ⟨e, by simp only [serSubsE, e1]⟩
end

/-- serializing a reloadable extended model does not raise for lack of a name: it succeeds, or a device
    configuration cannot be written -/
theorem reloadableE_ser (ver : Option Int) (w : WorldE) (h : ReloadableE w) :
    (∃ q ws, serGraphE w.st.vals w.ext w.st.tdata ver w.root = .ok (q, ws)) ∨
    (∃ e, serGraphE w.st.vals w.ext w.st.tdata ver w.root = .error (.dev e)) := by
  obtain ⟨⟨hok, _⟩, hext, _⟩ := h
  exact extG_ser_ok w.st.vals w.ext w.st.tdata ver w.root [] hok hext

end IrVerif.Scope
