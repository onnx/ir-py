/-
C15 part B: value steps do not touch node names (`NEq`); the postcondition for the nodes of one graph (`NScopeOK`,
established in `Lemmas/NamesGenNodes.lean` for any generator).  The lemmas on what the step functions of the default
model do once an exception is pending (`*_raised`) and to a node name (`fixNodeName_spec`) are kept as the description
of those functions; nothing uses them: node names are proved for `runTrX` and carried over by `fixTop_sim`.
-/
import IrVerif.Lemmas.NamesTotal
namespace IrVerif.Names

theorem processValue_raised {st : FixSt} (h : st.raised = true) (v : Nat) : processValue st v = st := by
  unfold processValue; simp [h]

theorem processValues_raised {st : FixSt} (h : st.raised = true) : ∀ vs, processValues st vs = st
  | [] => rfl
  | v :: vs => by
    rw [processValues_cons, processValue_raised h, processValues_raised h vs]

theorem fixNodeName_raised {st : FixSt} (h : st.raised = true) (n : Nat) : fixNodeName st n = st := by
  unfold fixNodeName; simp [h]

theorem enterGraph_raised {st : FixSt} (h : st.raised = true) (g : Nat) (isG : Bool) (ins outs bouts : List Nat) :
    enterGraph st g isG ins outs bouts = st := by
  unfold enterGraph; simp [h]

theorem exitGraph_raised {st : FixSt} (h : st.raised = true) : exitGraph st = st := by
  unfold exitGraph; simp [h]

theorem runTr_raised : ∀ (t : Tr) {st : FixSt}, st.raised = true → runTr t st = st := by
  intro t
  induction t with
  | nil => intro st _; rfl
  | node n ins outs subs rest ihs ihr =>
    intro st h
    simp only [runTr, visitNode]
    rw [fixNodeName_raised h, processValues_raised h, ihs h, ihr h]
  | graph g isG ins outs body rest ihb ihr =>
    intro st h
    simp only [runTr]
    rw [enterGraph_raised h, enterGraph_raised h, ihb h, exitGraph_raised h, exitGraph_raised h, ihr h]

/-- the node-side fields -/
structure NEq (st st' : FixSt) : Prop where
  nname : st'.nname = st.nname
  nstack : st'.nstack = st.nstack
  ncnt : st'.ncnt = st.ncnt
  resN : st'.resN = st.resN

theorem NEq.refl (st : FixSt) : NEq st st := ⟨rfl, rfl, rfl, rfl⟩
theorem NEq.trans {a b c : FixSt} (h1 : NEq a b) (h2 : NEq b c) : NEq a c :=
  ⟨h2.nname.trans h1.nname, h2.nstack.trans h1.nstack, h2.ncnt.trans h1.ncnt, h2.resN.trans h1.resN⟩

theorem renameTo_NEq (st : FixSt) (v : Nat) (p : String) : NEq st (renameTo st v p) := by
  unfold renameTo
  dsimp only
  split <;> exact ⟨setName_nname _ _ _, rfl, rfl, rfl⟩

theorem processValue_NEq (st : FixSt) (v : Nat) : NEq st (processValue st v) := by
  unfold processValue
  split
  · exact NEq.refl _
  · split
    · exact NEq.refl _
    · split
      · exact renameTo_NEq _ _ _
      · dsimp only
        split
        · exact ⟨rfl, rfl, rfl, rfl⟩
        · exact renameTo_NEq _ _ _

theorem processValues_NEq : ∀ (vs : List Nat) (st : FixSt), NEq st (processValues st vs)
  | [], st => NEq.refl st
  | v :: vs, st => by
    rw [processValues_cons]
    exact (processValue_NEq st v).trans (processValues_NEq vs _)

theorem enterGraph_nodes {st : FixSt} (h : st.raised = false) (g : Nat) (isG : Bool) (ins outs bouts : List Nat) :
    (enterGraph st g isG ins outs bouts).nname = st.nname ∧ (enterGraph st g isG ins outs bouts).nstack = [] :: st.nstack
    ∧ (enterGraph st g isG ins outs bouts).ncnt = st.ncnt ∧ (enterGraph st g isG ins outs bouts).resN = st.resN := by
  rw [enterGraph_eq h]
  generalize (if isG = true then ((processValues (processValues (pushScope st) ins) outs).dicts g).map (·.2) else []) = X
  have e := (((processValues_NEq ins (pushScope st)).trans (processValues_NEq outs _)).trans
    (processValues_NEq X _)).trans (processValues_NEq bouts _)
  exact ⟨e.nname, e.nstack, e.ncnt, e.resN⟩

structure NScopeOK (c : NCfg) (st : FixSt) (N : List Nat) : Prop where
  inj : ∀ a ∈ N, ∀ b ∈ N, a ≠ b → st.nname a ≠ st.nname b
  named : ∀ n ∈ N, truthy (st.nname n) = true
  /-- `N` is in visiting order: the first holder of a name keeps it -/
  first : FirstB c.orign st.nname N

theorem NScopeOK.injT {c : NCfg} {st : FixSt} {N : List Nat} (h : NScopeOK c st N) : InjT st.nname N :=
  ⟨h.inj, h.named⟩

theorem NScopeOK.kept {c : NCfg} {st : FixSt} {N : List Nat} (h : NScopeOK c st N) : KeptOn c.orign st.nname N :=
  h.first.keptOn

theorem NScopeOK.of_eq {c : NCfg} {st st' : FixSt} {N : List Nat} (h : NScopeOK c st N)
    (e : ∀ n ∈ N, st'.nname n = st.nname n) : NScopeOK c st' N :=
  ⟨fun a ha b hb hab => by rw [e a ha, e b hb]; exact h.inj a ha b hb hab,
   fun n hn => by rw [e n hn]; exact h.named n hn,
   h.first.fin_eq e⟩

/-- what `_assign_node_name` / `_fix_duplicate_node_name` do -/
theorem fixNodeName_spec {st : FixSt} (h : st.raised = false) (n : Nat) :
    ∃ f, (fixNodeName st n).nname = upd st.nname n (some f) ∧ f ≠ "" ∧ f ∉ topOf st.nstack
      ∧ (fixNodeName st n).nstack = (f :: topOf st.nstack) :: st.nstack.tail
      ∧ (st.nname n = some f ∨ f ∉ st.resN)
      ∧ (∀ s, st.nname n = some s → s ≠ "" → s ∉ topOf st.nstack → f = s)
      ∧ (fixNodeName st n).resN = st.resN := by
  unfold fixNodeName
  rw [if_neg (by simp [h])]
  dsimp only
  by_cases ht : truthy (st.nname n) = true
  · obtain ⟨s, hs, hsne⟩ := truthy_iff.mp ht
    have ht2 : truthy (some s) = true := hs ▸ ht
    simp only [hs, ht2, Bool.not_true, Bool.false_eq_true, if_false, Option.getD_some]
    by_cases htop : s ∈ topOf st.nstack
    · have : (topOf st.nstack).contains s = true := by simpa using htop
      simp only [this, Bool.not_true, Bool.false_eq_true, if_false]
      obtain ⟨hf1, hf2, hf3⟩ := findUnique_spec s (topOf st.nstack) st.resN (st.ncnt s)
      refine ⟨_, rfl, ?_, hf1, by rw [pushTop_eq], Or.inr hf2, ?_, trivial⟩
      · rcases hf3 with ⟨e, h1, _⟩ | ⟨k, _, e, _⟩
        · exact absurd htop h1
        · simp [e, sufName_ne_empty]
      · intro s' hs' _ hnot; cases hs'; exact absurd htop hnot
    · have : (topOf st.nstack).contains s = false := by simpa using htop
      simp only [this, Bool.not_false, if_true]
      refine ⟨s, ?_, hsne, htop, by rw [pushTop_eq], Or.inl rfl, fun s' hs' _ _ => (Option.some.inj hs').symm ▸ rfl, trivial⟩
      show st.nname = upd st.nname n (some s)
      rw [← hs, upd_same]
  · have ht' : truthy (st.nname n) = false := by simpa using ht
    simp only [ht', Bool.not_false, if_true]
    obtain ⟨hf1, hf2, hf3⟩ := findUnique_spec "node" (topOf st.nstack) st.resN (st.ncnt "node")
    refine ⟨_, rfl, ?_, hf1, by rw [pushTop_eq], Or.inr hf2, ?_, trivial⟩
    · rcases hf3 with ⟨e, _⟩ | ⟨k, _, e, _⟩
      · simp [e]
      · simp [e, sufName_ne_empty]
    · intro s hs hsne _
      exact absurd (truthy_iff.mpr ⟨s, hs, hsne⟩) ht

theorem exitGraph_nodes {st : FixSt} (h : st.raised = false) :
    (exitGraph st).nname = st.nname ∧ (exitGraph st).nstack = st.nstack.tail ∧ (exitGraph st).resN = st.resN := by
  rw [exitGraph_eq h]; exact ⟨rfl, rfl, rfl⟩

end IrVerif.Names
