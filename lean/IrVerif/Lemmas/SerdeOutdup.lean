import IrVerif.Lemmas.SerdeMergeSub
/-! C02, several graph output entries with one name (`outdup`):
`wf* (merge* (outdup* x)) -> des* (outdup* x) = des* x`, by mutual induction over
attributes, nodes and graphs; both sides have the general closed form `graph_des_closedAll` (no condition
on the names of the output entries) and the final tables agree value by value: applying the entries of
one name one after the other is applying their union (`dictUpdate_assoc`), once or several times
(`dictUpdate_idem`). -/
namespace IrVerif.Serde
open IrVerif.Proto

def mdStep (D : Dict) (e : ValueInfoP) : Dict := dictUpdate D (dictOfEntries e.metadata)

theorem unionMd_eq (es : List ValueInfoP) : unionMd es = es.foldl mdStep [] := rfl

theorem nodup_foldl_mdStep : ∀ (es : List ValueInfoP) (U : Dict), (dkeys U).Nodup →
    (dkeys (es.foldl mdStep U)).Nodup
  | [], _, h => h
  | e :: es, U, h => by
    rw [List.foldl_cons]
    exact nodup_foldl_mdStep es _ (nodup_dkeys_dictUpdate h _)

theorem nodup_unionMd (es : List ValueInfoP) : (dkeys (unionMd es)).Nodup :=
  nodup_foldl_mdStep es [] (by simp [dkeys])

/-- `d.update(e1); d.update(e2); ...` = `d.update(e1 united with e2 ...)` -/
theorem foldl_mdStep_assoc : ∀ (es : List ValueInfoP) (d U : Dict), (dkeys U).Nodup →
    es.foldl mdStep (dictUpdate d U) = dictUpdate d (es.foldl mdStep U)
  | [], _, _, _ => rfl
  | e :: es, d, U, h => by
    rw [List.foldl_cons, List.foldl_cons]
    show es.foldl mdStep (dictUpdate (dictUpdate d U) (dictOfEntries e.metadata)) = _
    rw [dictUpdate_assoc _ U d h]
    exact foldl_mdStep_assoc es d _ (nodup_dkeys_dictUpdate h _)

theorem foldl_mdStep_union (es : List ValueInfoP) (d : Dict) :
    es.foldl mdStep d = dictUpdate d (unionMd es) :=
  foldl_mdStep_assoc es d [] (by simp [dkeys])

/-- applying all entries named `n`, in order: type / shape / doc string of the last one, metadata
united -/
theorem foldl_applyInfoT_group (n : String) : ∀ (outputs : List ValueInfoP) (v : IRValue) (last : ValueInfoP),
    findVI outputs n = some last →
    (outputs.filter (fun w => w.name = n)).foldl applyInfoT v =
      { v with shape := shOf last.type, type := tyOf last.type, doc := last.doc,
               mprops := (outputs.filter (fun w => w.name = n)).foldl mdStep v.mprops }
  | [], _, _, h => by simp [findVI, findLast?] at h
  | x :: xs, v, last, h => by
    simp only [findVI, findLast?] at h
    cases hf : findLast? (fun w : ValueInfoP => w.name = n) xs with
    | some y =>
      rw [hf] at h
      simp only [Option.some.injEq] at h
      subst h
      by_cases hx : x.name = n
      · simp only [List.filter_cons, hx, decide_true, if_true, List.foldl_cons]
        rw [foldl_applyInfoT_group n xs (applyInfoT v x) y hf]
        simp [applyInfoT, mdStep]
      · simp only [List.filter_cons, hx, decide_false, Bool.false_eq_true, if_false]
        exact foldl_applyInfoT_group n xs v y hf
    | none =>
      rw [hf] at h
      have hnone : xs.filter (fun w => w.name = n) = [] := by
        rw [List.filter_eq_nil_iff]
        intro a ha hn
        have := findVI_none_iff.1 (show findVI xs n = none from hf)
        exact this (by
          have : a.name = n := by simpa using hn
          rw [← this]; exact List.mem_map_of_mem ha)
      by_cases hx : x.name = n
      · simp only [hx, decide_true, if_true, Option.some.injEq] at h
        subst h
        simp [hx, hnone, applyInfoT, mdStep]
      · simp [hx] at h

theorem outdupVI_name (S : List String) (outputs : List ValueInfoP) (vo : ValueInfoP) :
    (outdupVI S outputs vo).name = vo.name := by
  unfold outdupVI
  split
  · cases hf : findVI outputs vo.name with
    | none => rfl
    | some last => exact (findVI_mem hf).2
  · rfl

theorem wfVI_of_outdup {S : List String} {outputs : List ValueInfoP} {vo : ValueInfoP} (hvo : vo ∈ outputs)
    (h : wfVI (outdupVI S outputs vo) = true) : wfVI vo = true := by
  unfold outdupVI at h
  split at h
  · rename_i ha
    simp only [outdupApplies, Bool.and_eq_true, List.all_eq_true] at ha
    exact ha.2 vo (List.mem_filter.2 ⟨hvo, by simp⟩)
  · exact h

/-! `sameName`, `outdupApplies` and, where it applies, `outdupVI` look at an entry through its name only -/

theorem sameName_congr (outputs : List ValueInfoP) {x y : ValueInfoP} (h : x.name = y.name) :
    sameName outputs x = sameName outputs y := by
  unfold sameName; rw [h]

theorem outdupApplies_congr (S : List String) (outputs : List ValueInfoP) {x y : ValueInfoP} (h : x.name = y.name) :
    outdupApplies S outputs x = outdupApplies S outputs y := by
  unfold outdupApplies; rw [sameName_congr outputs h, h]

theorem outdupVI_congr {S : List String} {outputs : List ValueInfoP} {x y : ValueInfoP} (h : x.name = y.name)
    (ha : outdupApplies S outputs y = true) (hf : (findVI outputs y.name).isSome = true) :
    outdupVI S outputs x = outdupVI S outputs y := by
  obtain ⟨last, hl⟩ := Option.isSome_iff_exists.1 hf
  simp only [outdupVI, outdupApplies_congr S outputs h, ha, if_true, h, hl, sameName_congr outputs h]

theorem outUpdAll_outdup (S : List String) (outputs : List ValueInfoP) (v : IRValue) :
    outUpdAll (outputs.map (outdupVI S outputs)) v = outUpdAll outputs v := by
  unfold outUpdAll
  rw [filter_map_names _ (outdupVI_name S outputs) v.name outputs]
  cases hg : outputs.filter (fun vi => vi.name = v.name) with
  | nil => rfl
  | cons g rest =>
    have hgm : g ∈ outputs.filter (fun vi => vi.name = v.name) := by rw [hg]; simp
    have hgn : g.name = v.name := by simpa using (List.mem_filter.1 hgm).2
    have hxn : ∀ x ∈ g :: rest, x.name = g.name := by
      intro x hx
      rw [← hg] at hx
      rw [hgn]; simpa using (List.mem_filter.1 hx).2
    have hsn : sameName outputs g = g :: rest := by unfold sameName; rw [hgn, hg]
    by_cases ha : outdupApplies S outputs g = true
    · -- the group becomes copies of one entry `m`, and `applyInfoT v m` is all of the group applied
      obtain ⟨last, hlast⟩ : ∃ last, findVI outputs v.name = some last := by
        cases hf : findVI outputs v.name with
        | some l => exact ⟨l, rfl⟩
        | none =>
          exact absurd (by rw [← hgn]; exact List.mem_map_of_mem (List.mem_filter.1 hgm).1)
            (findVI_none_iff.1 hf)
      have hm : outdupVI S outputs g = { last with metadata := entriesOfDict (unionMd (g :: rest)) } := by
        simp only [outdupVI, ha, if_true, hgn, hlast, hsn]
      have hmap : (g :: rest).map (outdupVI S outputs) = List.replicate (rest.length + 1) (outdupVI S outputs g) := by
        rw [List.eq_replicate_iff]
        refine ⟨by simp, ?_⟩
        intro b hb
        obtain ⟨x, hx, rfl⟩ := List.mem_map.1 hb
        exact outdupVI_congr (hxn x hx) ha (by rw [hgn, hlast]; rfl)
      rw [hmap, foldl_applyInfoT_replicate, hm]
      have := foldl_applyInfoT_group v.name outputs v last hlast
      rw [hg] at this
      rw [this, foldl_mdStep_union]
      simp only [applyInfoT, dictOfEntries_entriesOfDict _ (nodup_unionMd _)]
    · have hall : ∀ x ∈ g :: rest, outdupVI S outputs x = x := by
        intro x hx
        simp only [outdupVI, outdupApplies_congr S outputs (hxn x hx), ha]
        rfl
      rw [List.map_congr_left hall]
      simp

theorem gOutT_outdup (names S : List String) (all : List ValueInfoP) (hS : ∀ s ∈ S, s ∈ names)
    (outputs : List ValueInfoP) :
    (outputs.map (outdupVI S all)).map (gOutT names) = outputs.map (gOutT names) := by
  refine gOutT_map names _ (outdupVI_name S all) outputs fun vo _ hne => ?_
  by_cases ha : outdupApplies S all vo = true
  · simp only [outdupApplies, Bool.and_eq_true, List.contains_eq_mem, decide_eq_true_eq] at ha
    exact lookupLast_isSome (hS _ ha.1)
  · exact absurd (by simp only [outdupVI, ha]; rfl) hne

theorem outdupAttr_name (a : AttrP) : (outdupAttr a).name = a.name := by
  cases a <;> rfl

theorem outdupAttrs_names : ∀ as : List AttrP, (outdupAttrs as).map AttrP.name = as.map AttrP.name
  | [] => rfl
  | a :: as => by simp only [outdupAttrs, List.map_cons, outdupAttr_name, outdupAttrs_names as]

theorem outdupAttrs_any (n : String) : ∀ as : List AttrP,
    (outdupAttrs as).any (fun b => b.name = n) = as.any (fun b => b.name = n)
  | [] => rfl
  | a :: as => by simp only [outdupAttrs, List.any_cons, outdupAttr_name, outdupAttrs_any n as]

theorem outdupNode_outputs (n : NodeP) : (outdupNode n).outputs = n.outputs := by cases n; rfl
theorem outdupNode_inputs (n : NodeP) : (outdupNode n).inputs = n.inputs := by cases n; rfl

theorem nodeOutNames_outdupNodes : ∀ nodes : List NodeP, nodeOutNames (outdupNodes nodes) = nodeOutNames nodes
  | [] => rfl
  | n :: ns => by
    have := nodeOutNames_outdupNodes ns
    simp only [nodeOutNames, outdupNodes, List.flatMap_cons, List.filter_append, outdupNode_outputs] at this ⊢
    rw [this]

theorem declareAll_outdupNodes (vis : List ValueInfoP) (q : List AnnotP) :
    ∀ (nodes : List NodeP) (tbl : List IRValue),
    declareAll vis q (outdupNodes nodes) tbl = declareAll vis q nodes tbl
  | [], _ => rfl
  | n :: ns, tbl => by
    simp only [outdupNodes, declareAll, outdupNode_outputs]
    cases declareOutputs vis q n.outputs tbl with
    | error e => rfl
    | ok t1 => simp only [bind, Except.bind]; exact declareAll_outdupNodes vis q ns t1

mutual
theorem desAttr_outdup (scopes : Scopes) : ∀ a : AttrP, wfAttr scopes (mergeAttr (outdupAttr a)) = true →
    desAttr scopes (outdupAttr a) = desAttr scopes a
  | .ref .., _ => rfl
  | .int .., _ => rfl
  | .float .., _ => rfl
  | .string .., _ => rfl
  | .ints .., _ => rfl
  | .floats .., _ => rfl
  | .strings .., _ => rfl
  | .tensor .., _ => rfl
  | .tensors .., _ => rfl
  | .graph n d g, h => by
    simp only [outdupAttr, mergeAttr, wfAttr] at h
    simp only [outdupAttr, desAttr, desGraph_outdup scopes g h]
  | .graphs n d gs, h => by
    simp only [outdupAttr, mergeAttr, wfAttr] at h
    simp only [outdupAttr, desAttr, desGraphs_outdup scopes gs h]
  | .typeProto .., _ => rfl
  | .typeProtos .., _ => rfl
  | .undefined .., _ => rfl
  | .sparse .., _ => rfl
  | .unknown .., _ => rfl

theorem desGraphs_outdup (scopes : Scopes) : ∀ gs : List GraphP,
    wfGraphs scopes (mergeGraphs (outdupGraphs gs)) = true →
    desGraphs scopes (outdupGraphs gs) = desGraphs scopes gs
  | [], _ => rfl
  | g :: gs, h => by
    simp only [outdupGraphs, mergeGraphs, wfGraphs, Bool.and_eq_true] at h
    simp only [outdupGraphs, desGraphs, desGraph_outdup scopes g h.1, desGraphs_outdup scopes gs h.2]

theorem desAttrs_outdup (scopes : Scopes) : ∀ as : List AttrP,
    wfAttrs scopes (mergeAttrs (outdupAttrs as)) = true →
    desAttrs scopes (outdupAttrs as) = desAttrs scopes as
  | [], _ => rfl
  | a :: as, h => by
    simp only [outdupAttrs, mergeAttrs, wfAttrs, Bool.and_eq_true] at h
    simp only [outdupAttrs, desAttrs, desAttr_outdup scopes a h.1, desAttrs_outdup scopes as h.2]

theorem desAttrsLast_outdup (scopes : Scopes) : ∀ as : List AttrP,
    wfAttrs scopes (mergeAttrs (outdupAttrs as)) = true →
    desAttrsLast scopes (outdupAttrs as) = desAttrsLast scopes as
  | [], _ => rfl
  | a :: as, h => by
    simp only [outdupAttrs, mergeAttrs, wfAttrs, Bool.and_eq_true] at h
    simp only [outdupAttrs, desAttrsLast, outdupAttr_name, outdupAttrs_any, desAttr_outdup scopes a h.1,
      desAttrsLast_outdup scopes as h.2]

theorem desNode_outdup (outer : Scopes) (vis : List ValueInfoP) (q : List AnnotP) (tbl : List IRValue) :
    ∀ n : NodeP, wfNode (tableNames tbl :: outer) (mergeNode (outdupNode n)) = true →
    desNode outer vis q tbl (outdupNode n) = desNode outer vis q tbl n
  | .mk inputs outputs name opType domain overload doc attrs metadata devcfgs, h => by
    simp only [outdupNode, mergeNode, wfNode, Bool.and_eq_true] at h
    obtain ⟨⟨⟨⟨⟨hin, _⟩, _⟩, hattrs⟩, _⟩, _⟩ := h
    simp only [outdupNode, desNode, outdupAttrs_names, desNodeInputs_wf outer vis q tbl inputs hin, bind,
      Except.bind, desAttrsLast_outdup (tableNames tbl :: outer) attrs hattrs]

theorem desNodes_outdup (outer : Scopes) (vis : List ValueInfoP) (q : List AnnotP) :
    ∀ (nodes : List NodeP) (tbl : List IRValue),
    wfNodes (tableNames tbl :: outer) (mergeNodes (outdupNodes nodes)) = true →
    desNodes outer vis q (outdupNodes nodes) tbl = desNodes outer vis q nodes tbl
  | [], _, _ => rfl
  | n :: ns, tbl, h => by
    simp only [outdupNodes, mergeNodes, wfNodes, Bool.and_eq_true] at h
    simp only [outdupNodes, desNodes, desNode_outdup outer vis q tbl n h.1]
    cases hd : desNode outer vis q tbl n with
    | error e => rfl
    | ok r =>
      obtain ⟨x, t1⟩ := r
      have hin := wfNode_inputs h.1
      rw [mergeNode_inputs, outdupNode_inputs] at hin
      have ht : t1 = tbl := desNode_ok_tbl outer vis q tbl t1 n x hin hd
      simp only [bind, Except.bind, ht, desNodes_outdup outer vis q ns tbl h.2]

/-- the hypothesis speaks of `merge (outdup g)`: the facts about the node list come from the merged graph -/
theorem desGraph_outdup (outer : Scopes) : ∀ g : GraphP, wfGraph outer (mergeGraph (outdupGraph g)) = true →
    desGraph outer (outdupGraph g) = desGraph outer g
  | .mk name doc nodes inits inputs outputs vis quant md, h => by
    simp only [outdupGraph, mergeGraph] at h ⊢
    generalize hSdef : scopeNames (inputs.map (·.name)) (inits.map (·.name)) (nodeOutNames nodes) = S at h ⊢
    generalize hOdef : outputs.map (outdupVI S outputs) = dOut at h ⊢
    obtain ⟨_, hwn', hw0D, xs, _, n3D⟩ := merged_graph_nodes outer name doc (outdupNodes nodes) inits inputs dOut
      vis quant md h (fun V tbl hw => desNodes_merge outer V quant (outdupNodes nodes) tbl hw)
    rw [nodeOutNames_outdupNodes] at hwn' hw0D n3D
    rw [hSdef] at hwn'
    have hN : tableNames (tblPre inits inputs vis quant (nodeOutNames nodes)) = S := by
      rw [← hSdef]; exact tableNames_tblPre
    have hw0 : GraphWF0 inits inputs outputs vis (nodeOutNames nodes) := by
      refine ⟨hw0D.nodupNames, hw0D.nonempty, hw0D.nodupInit, hw0D.wfIn, ?_, hw0D.wfVis, hw0D.wfInit⟩
      rw [List.all_eq_true]
      intro vo hvo
      apply wfVI_of_outdup (S := S) hvo
      apply List.all_eq_true.1 hw0D.wfOut
      rw [← hOdef]
      exact List.mem_map_of_mem hvo
    have n3 := n3D
    rw [desNodes_outdup outer vis quant nodes _ (by rw [hN]; exact hwn')] at n3
    refine desGraph_congr outer name doc inits inputs quant md (nodeOutNames_outdupNodes nodes) hw0 hw0D xs n3 n3D ?_ ?_
    · unfold tblFinalAll
      apply List.map_congr_left
      intro v _
      rw [← hOdef]
      exact outUpdAll_outdup S outputs v
    · rw [← hOdef, hSdef]
      exact gOutT_outdup S S outputs (fun _ h => h) outputs
end

theorem desFunction_outdup (ver : Int) (f : FunctionP)
    (h : wfFunction ver (mergeFunction (outdupFunction f)) = true) :
    desFunction (outdupFunction f) = desFunction f := by
  simp only [wfFunction, Bool.and_eq_true, mergeFunction, outdupFunction, nodeOutNames_mergeNodes,
    nodeOutNames_outdupNodes] at h
  obtain ⟨⟨⟨⟨⟨⟨⟨⟨⟨⟨⟨⟨h1, _⟩, _⟩, _⟩, h5⟩, _⟩, h7⟩, _⟩, _⟩, _⟩, _⟩, h12⟩, _⟩ := h
  exact desFunction_congr _ _ h7 (nodupStr_iff.1 h1) (declareAll_outdupNodes _ _ _)
    (desNodes_outdup [] _ [] f.nodes _ (by rw [tableNames_fnTbl]; exact h12)) (desAttrs_outdup [] _ h5)

theorem outdupGraph_valueInfo (g : GraphP) : (outdupGraph g).valueInfo = g.valueInfo := by
  cases g; rfl

theorem outdupGraph_inputs (g : GraphP) : (outdupGraph g).inputs = g.inputs := by
  cases g; rfl

theorem desModel_outdup' (m : ModelP) (hg : wfGraph [] (mergeGraph (outdupGraph m.graph)) = true)
    (hf : ((m.functions.map outdupFunction).map mergeFunction).all (wfFunction m.irVersion) = true) :
    desModel (outdupModel m) = desModel m := by
  simp only [desModel, outdupModel, desGraph_outdup [] m.graph hg,
    desFunctions_map outdupFunction (fun g => wfFunction m.irVersion (mergeFunction g)) (desFunction_outdup m.irVersion) _
      (by rw [List.all_map] at hf; exact hf), outdupGraph_valueInfo]

theorem desModel_outdup (m : ModelP) (h : wfModel (mergeModel (outdupModel m)) = true) :
    desModel (outdupModel m) = desModel m := by
  exact desModel_outdup' m (wfModel_parts h).1 (wfModel_parts h).2

theorem desModel_canonD (m : ModelP) (h : wfModel (canonDModel m) = true) :
    desModel (canonDModel m) = desModel m := by
  have hp := inputsPlain_of_wf _ h
  unfold canonDModel at h ⊢
  rw [desModel_merge _ h, desModel_outdup _ h]
  apply desModel_fold
  rcases hp with hp | hp
  · exact Or.inl (by simpa [canonDModel, mergeModel, outdupModel, foldModel] using hp)
  · right
    simpa [inputsPlain, canonDModel, mergeModel, outdupModel, foldModel, (mergeGraph_fields _).1,
      outdupGraph_inputs, foldGraph_inputs] using hp

end IrVerif.Serde
