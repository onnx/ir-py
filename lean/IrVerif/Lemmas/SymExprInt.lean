/-
C16: on the integer fragment the exact rational evaluator is Python integer arithmetic.
-/
import IrVerif.Lemmas.SymExprArith
namespace IrVerif.SymExpr

theorem ratAbs_intCast (x : Int) : ratAbs (x : Rat) = ((x.natAbs : Int) : Rat) := by
  simp only [ratAbs, cast_natAbs, Int.cast_lt_zero]

theorem ratSign_intCast (x : Int) : ratSign (x : Rat) = ((x.sign : Int) : Rat) := by
  unfold ratSign
  rcases lt_trichotomy x 0 with h | h | h
  · have h' : (x : Rat) < 0 := by exact_mod_cast h
    simp [h', Int.sign_eq_neg_one_of_neg h]
  · subst h; simp
  · have h' : ¬ (x : Rat) < 0 := by
      have : (0 : Rat) < x := by exact_mod_cast h
      exact not_lt.mpr (le_of_lt this)
    have h'' : (x : Rat) ≠ 0 := by
      have : (0 : Rat) < x := by exact_mod_cast h
      exact ne_of_gt this
    simp [h', h'', Int.sign_eq_one_of_pos h]

/-- the integer meaning of an operator is what `evalInt` computes at literals -/
theorem evalUn_int (o : UnOp) (x : Int) (ho : o ≠ .sqrt) :
    evalUn o (x : Rat) =
      (evalInt Env.empty (.un o (.num x))).map (fun (z : Int) => (z : Rat)) := by
  cases o with
  | neg => simp [evalUn, evalInt]
  | floor => simp [evalUn, evalInt]
  | ceil =>
    have h : (-(x : Rat)).floor = -x := by
      have : (-(x : Rat)) = ((-x : Int) : Rat) := by push_cast; ring
      rw [this, Rat.floor_intCast]
    simp [evalUn, evalInt, h]
  | trunc =>
    have h : ratTrunc (x : Rat) = x := by simp [ratTrunc]
    simp [evalUn, evalInt, h]
  | abs => simp [evalUn, evalInt, ratAbs_intCast]
  | sign => simp [evalUn, evalInt, ratSign_intCast]
  | sqrt => exact absurd rfl ho

theorem evalBin_int_fdiv (x y : Int) (hy : y ≠ 0) :
    evalBin .fdiv (x : Rat) (y : Rat) = some ((Int.fdiv x y : Int) : Rat) := by
  have hyq : (y : Rat) ≠ 0 := by exact_mod_cast hy
  simp [evalBin, hyq, floor_div_int x y hy]

theorem evalBin_int_mod (x y : Int) (hy : y ≠ 0) :
    evalBin .mod (x : Rat) (y : Rat) = some ((Int.fmod x y : Int) : Rat) := by
  have hyq : (y : Rat) ≠ 0 := by exact_mod_cast hy
  simp only [evalBin, hyq, if_false, floor_div_int x y hy]
  congr 1
  have h : (x : Rat) = (y : Rat) * ((Int.fdiv x y : Int) : Rat) + ((Int.fmod x y : Int) : Rat) := by
    exact_mod_cast (Int.mul_fdiv_add_fmod x y).symm
  linarith

theorem ite_le_cast (x y a b : Int) :
    (if (x : Rat) ≤ (y : Rat) then (a : Rat) else (b : Rat)) = ((if x ≤ y then a else b : Int) : Rat) := by
  by_cases h : x ≤ y
  · have h' : (x : Rat) ≤ (y : Rat) := by exact_mod_cast h
    simp [h, h']
  · have h' : ¬ (x : Rat) ≤ (y : Rat) := by
      intro hc; exact h (by exact_mod_cast hc)
    simp [h, h']

theorem evalBin_int (o : BinOp) (x y : Int) (h1 : o ≠ .div) (h2 : o ≠ .pow) :
    evalBin o (x : Rat) (y : Rat) =
      (evalInt Env.empty (.bin o (.num x) (.num y))).map (fun (z : Int) => (z : Rat)) := by
  cases o with
  | div => exact absurd rfl h1
  | pow => exact absurd rfl h2
  | fdiv =>
    by_cases hy : y = 0
    · subst hy; simp [evalBin, evalInt]
    · simp [evalInt, hy, evalBin_int_fdiv x y hy]
  | mod =>
    by_cases hy : y = 0
    · subst hy; simp [evalBin, evalInt]
    · simp [evalInt, hy, evalBin_int_mod x y hy]
  | _ => simp [evalBin, evalInt]

theorem eval_eq_evalInt (env : Env) (e : Expr) (h : intFrag e = true) :
    eval env e = (evalInt env e).map (fun (z : Int) => (z : Rat)) := by
  induction e with
  | num n => simp [eval, evalInt]
  | sym s => cases hs : env s <;> simp [eval, evalInt, hs]
  | inf b => simp [intFrag] at h
  | un o a ih =>
    have ho : o ≠ .sqrt := by rintro rfl; simp [intFrag] at h
    have ha : intFrag a = true := by cases o <;> simp_all [intFrag]
    simp only [eval, evalInt, ih ha]
    cases evalInt env a with
    | none => rfl
    | some x => exact evalUn_int o x ho
  | bin o a b iha ihb =>
    have hab : intFrag a = true ∧ intFrag b = true := by
      cases o <;> simp_all [intFrag]
    have ho1 : o ≠ .div := by rintro rfl; simp [intFrag] at h
    have ho2 : o ≠ .pow := by rintro rfl; simp [intFrag] at h
    simp only [eval, evalInt, iha hab.1, ihb hab.2]
    cases evalInt env a with
    | none => rfl
    | some x =>
      cases evalInt env b with
      | none => rfl
      | some y => exact evalBin_int o x y ho1 ho2

end IrVerif.SymExpr
