/-
Python's `d[k] = v` (first position, last value).  The model writes it out once per layer; `dictInsert`, `ssSet`,
`attrSet`, `fdInsert`, `fdictInsert` are shown equal to `kvSet` (`Model/ScopeAttr.lean`), which is `dset` of
`Lemmas/DictFacts.lean` (`kvSet_eq_dset`); the `kv*` lemmas are the DictFacts lemmas read through that equation.
-/
import IrVerif.Model.ScopeAttr
import IrVerif.Lemmas.DictFacts
namespace IrVerif.Scope

open ListFacts
export ListFacts (head_key_not_mem)

section kv
variable {κ β : Type} [DecidableEq κ]

theorem kvSet_eq_dset : @kvSet κ β _ = dset := by
  funext d k v
  induction d with
  | nil => rfl
  | cons e r ih => simp only [kvSet, dset, ih]

theorem kvDict_eq_ddict (l : List (κ × β)) : kvDict l = ddict l := by
  unfold kvDict; rw [kvSet_eq_dset]; rfl

theorem kvSet_keys (d : List (κ × β)) (k : κ) (v : β) :
    (kvSet d k v).map (·.1) = if k ∈ d.map (·.1) then d.map (·.1) else d.map (·.1) ++ [k] := by
  rw [kvSet_eq_dset]; exact dset_keys d k v

theorem kvSet_fresh (d : List (κ × β)) (k : κ) (v : β) (h : k ∉ d.map (·.1)) : kvSet d k v = d ++ [(k, v)] := by
  rw [kvSet_eq_dset]; exact dset_fresh d k v h

theorem kvSet_keys_nodup (d : List (κ × β)) (k : κ) (v : β) (h : (d.map (·.1)).Nodup) :
    ((kvSet d k v).map (·.1)).Nodup := by
  rw [kvSet_eq_dset]; exact dset_keys_nodup d k v h

theorem kvFold_keys_nodup (l d : List (κ × β)) (h : (d.map (·.1)).Nodup) :
    ((l.foldl (fun d e => kvSet d e.1 e.2) d).map (·.1)).Nodup := by
  rw [kvSet_eq_dset]; exact dupdate_keys_nodup l d h

theorem kvDict_nodup (l : List (κ × β)) : ((kvDict l).map (·.1)).Nodup := by
  rw [kvDict_eq_ddict]; exact ddict_nodup l

theorem kvDict_of_nodup (l : List (κ × β)) (h : (l.map (·.1)).Nodup) : kvDict l = l := by
  rw [kvDict_eq_ddict]; exact ddict_of_nodup l h

theorem kvSet_mem (d : List (κ × β)) (k : κ) (v : β) (e : κ × β) (he : e ∈ kvSet d k v) : e ∈ d ∨ e = (k, v) := by
  rw [kvSet_eq_dset] at he; exact dset_mem d k v e he

theorem kvFold_mem (l d : List (κ × β)) (e : κ × β) (h : e ∈ l.foldl (fun d e => kvSet d e.1 e.2) d) :
    e ∈ d ∨ e ∈ l := by
  rw [kvSet_eq_dset] at h; exact dupdate_mem l d e h

theorem kvDict_mem (l : List (κ × β)) (e : κ × β) (h : e ∈ kvDict l) : e ∈ l := by
  rw [kvDict_eq_ddict] at h; exact ddict_mem l e h

theorem kvSet_same (d : List (κ × β)) (k : κ) (v : β) (hm : (k, v) ∈ d) (hnd : (d.map (·.1)).Nodup) :
    kvSet d k v = d := by
  rw [kvSet_eq_dset]; exact dset_same d k v hm hnd

end kv

section kvmap
variable {κ β γ : Type} [DecidableEq κ]

theorem kvDict_map (g : β → γ) (l : List (κ × β)) :
    kvDict (l.map fun e => (e.1, g e.2)) = (kvDict l).map fun e => (e.1, g e.2) := by
  rw [kvDict_eq_ddict, kvDict_eq_ddict]; exact ddict_map g l
end kvmap

theorem dictInsert_eq_kvSet : ∀ (d : List (Name × Nat)) (k : Name) (v : Nat), dictInsert d k v = kvSet d k v
  | [], _, _ => rfl
  | (k', v') :: r, k, v => by simp only [dictInsert, kvSet, dictInsert_eq_kvSet r]

theorem ssSet_eq_kvSet : ∀ (d : SS) (k v : String), ssSet d k v = kvSet d k v
  | [], _, _ => rfl
  | (k', v') :: r, k, v => by simp only [ssSet, kvSet, ssSet_eq_kvSet r]

theorem attrSet_eq_kvSet : ∀ (d : List (String × Bool × String)) (a : String × Bool × String),
    attrSet d a = kvSet d a.1 a.2
  | [], _ => rfl
  | b :: r, a => by simp only [attrSet, kvSet, attrSet_eq_kvSet r]

theorem fdInsert_eq_kvSet : ∀ (d : List (FId × FuncDS)) (k : FId) (f : FuncDS), fdInsert d k f = kvSet d k f
  | [], _, _ => rfl
  | (k', f') :: r, k, f => by simp only [fdInsert, kvSet, fdInsert_eq_kvSet r]

theorem fdictInsert_eq_kvSet : ∀ (d : List (FId × GraphT)) (k : FId) (g : GraphT), fdictInsert d k g = kvSet d k g
  | [], _, _ => rfl
  | (k', g') :: r, k, g => by simp only [fdictInsert, kvSet, fdictInsert_eq_kvSet r]

end IrVerif.Scope
