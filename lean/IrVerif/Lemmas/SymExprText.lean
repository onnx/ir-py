/-
C16: text level.  `parse_symbolic_expression` on the rendered printer output; the `isidentifier`
fast path agrees with the general path.
-/
import IrVerif.Lemmas.SymExprPrint
import IrVerif.Lemmas.SymExprLex
namespace IrVerif.SymExpr

/-- a symbol name the tokenizer reads as one IDENT token -/
def IdentStr (s : String) : Prop := WfTok (.ident s)

theorem parseTokens_ident (s : String) : parseTokens [.ident s] = some (.sym s) :=
  parseTokens_complete (.expr (.term (.upow (.prim (.ident s))) .ttNil) .etNil)

theorem isIdentifier_wf {cs : List Char} (h : isIdentifier cs = true) : WfTok (.ident (String.ofList cs)) := by
  rcases cs with _ | ⟨c, rest⟩
  · simp [isIdentifier] at h
  · simp only [isIdentifier, Bool.and_eq_true, List.all_eq_true] at h
    refine ⟨c, rest, by simp, h.1, ?_⟩
    intro d hd
    have := h.2 d hd
    simp only [identCont, Bool.or_eq_true] at this ⊢
    rcases this with h1 | h1
    · exact Or.inl (Or.inl h1)
    · exact Or.inl (Or.inr h1)

theorem fastpath_agrees {cs : List Char} (h : isIdentifier cs = true) :
    (tokenize cs).bind parseTokens = some (.sym (String.ofList cs)) := by
  have hw := isIdentifier_wf h
  have ht := tokenize_render [.ident (String.ofList cs)] (by simpa [AllWf] using hw)
  simp only [render, tokChars, String.toList_ofList] at ht
  rw [ht]
  exact parseTokens_ident _

theorem parseChars_eq (cs : List Char) : parseChars cs = (tokenize cs).bind parseTokens := by
  unfold parseChars
  by_cases h : isIdentifier cs = true
  · simp only [h, if_true]
    exact (fastpath_agrees h).symm
  · simp only [h]
    cases tokenize cs <;> rfl


theorem wf_name_max : IdentStr "max" := ⟨'m', ['a', 'x'], by decide, by decide, by decide⟩
theorem wf_name_min : IdentStr "min" := ⟨'m', ['i', 'n'], by decide, by decide, by decide⟩
theorem wf_name_floor : IdentStr "floor" := ⟨'f', ['l', 'o', 'o', 'r'], by decide, by decide, by decide⟩
theorem wf_name_ceiling : IdentStr "ceiling" :=
  ⟨'c', ['e', 'i', 'l', 'i', 'n', 'g'], by decide, by decide, by decide⟩
theorem wf_name_abs : IdentStr "Abs" := ⟨'A', ['b', 's'], by decide, by decide, by decide⟩
theorem wf_name_sign : IdentStr "sign" := ⟨'s', ['i', 'g', 'n'], by decide, by decide, by decide⟩
theorem wf_name_sqrt : IdentStr "sqrt" := ⟨'s', ['q', 'r', 't'], by decide, by decide, by decide⟩


theorem AllWf.append {a b : List Tok} (ha : AllWf a) (hb : AllWf b) : AllWf (a ++ b) := by
  intro t ht
  rcases List.mem_append.mp ht with h | h
  · exact ha t h
  · exact hb t h

theorem AllWf.cons {t : Tok} {a : List Tok} (ht : WfTok t) (ha : AllWf a) : AllWf (t :: a) := by
  intro x hx
  rcases List.mem_cons.mp hx with rfl | h
  · exact ht
  · exact ha x h

theorem AllWf.nil : AllWf [] := by intro t ht; cases ht

theorem AllWf.paren {a : List Tok} (ha : AllWf a) : AllWf (paren a) :=
  AllWf.cons trivial (ha.append (AllWf.cons trivial AllWf.nil))

theorem AllWf.wrap {a : List Tok} (k : Nat) (e : Expr) (ha : AllWf a) : AllWf (wrap k e a) := by
  unfold SymExpr.wrap
  split
  · exact ha
  · exact ha.paren

theorem AllWf.call {name : String} {a : List Tok} (hn : IdentStr name) (ha : AllWf a) :
    AllWf (call name a) :=
  AllWf.cons hn (AllWf.cons trivial (ha.append (AllWf.cons trivial AllWf.nil)))

theorem pp_wf (e : Expr) (h : ∀ s ∈ free e, IdentStr s) : AllWf (pp e) := by
  induction e with
  | num n =>
    simp only [pp]
    split
    · exact AllWf.cons trivial (AllWf.cons trivial AllWf.nil)
    · exact AllWf.cons trivial AllWf.nil
  | sym s => exact AllWf.cons (h s (by simp [free])) AllWf.nil
  | inf b =>
    cases b
    · exact AllWf.call wf_name_min AllWf.nil
    · exact AllWf.call wf_name_max AllWf.nil
  | un o a ih =>
    have iha := ih (by simpa [free] using h)
    cases o with
    | neg => exact AllWf.cons trivial (iha.wrap 2 a)
    | floor => exact AllWf.call wf_name_floor iha
    | ceil => exact AllWf.call wf_name_ceiling iha
    | abs => exact AllWf.call wf_name_abs iha
    | sign => exact AllWf.call wf_name_sign iha
    | sqrt => exact AllWf.call wf_name_sqrt iha
    | trunc =>
      exact (AllWf.call wf_name_sign iha).append
        (AllWf.cons trivial (AllWf.call wf_name_floor (AllWf.call wf_name_abs iha)))
  | bin o a b iha ihb =>
    have ha := iha (fun s hs => h s (by simp [free, hs]))
    have hb := ihb (fun s hs => h s (by simp [free, hs]))
    cases o with
    | add => exact (ha.wrap 0 a).append (AllWf.cons trivial (hb.wrap 1 b))
    | sub => exact (ha.wrap 0 a).append (AllWf.cons trivial (hb.wrap 1 b))
    | mul => exact (ha.wrap 1 a).append (AllWf.cons trivial (hb.wrap 2 b))
    | div => exact (ha.wrap 1 a).append (AllWf.cons trivial (hb.wrap 2 b))
    | fdiv => exact (ha.wrap 1 a).append (AllWf.cons trivial (hb.wrap 2 b))
    | mod => exact (ha.wrap 1 a).append (AllWf.cons trivial (hb.wrap 2 b))
    | pow => exact (ha.wrap 4 a).append (AllWf.cons trivial (hb.wrap 2 b))
    | max => exact AllWf.call wf_name_max (ha.append (AllWf.cons trivial hb))
    | min => exact AllWf.call wf_name_min (ha.append (AllWf.cons trivial hb))

theorem parseChars_render_sentence (d : D .expr) (h : AllWf d.flatten) :
    parseChars (render d.flatten) = some (d.sem : Expr) := by
  rw [parseChars_eq, tokenize_render _ h]
  exact parseTokens_complete d

theorem parseChars_render_pp (e : Expr) (h : ∀ s ∈ free e, IdentStr s) :
    parseChars (render (pp e)) = some (norm e) := by
  obtain ⟨d, h1, h2⟩ := (pp_derives e).toExpr
  rw [← h1, ← h2]
  exact parseChars_render_sentence d (h1 ▸ pp_wf e h)

end IrVerif.SymExpr
