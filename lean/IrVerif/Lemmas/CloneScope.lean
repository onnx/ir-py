/-
Helper development for C13_closed_outer (allow_outer_scope_values = True): a node input that the
cloner passes through unchanged is, at that moment, neither bound in the value map nor a pending
output of a graph being cloned — so it is not an input, initializer or node output of the graph
being cloned (nor of an enclosing one): it is a genuine outer-scope value.
Here: `KC`, the logic `covLA` of `CGoodAt`, `QuietTo`, and what each leaf of the cloner does in it.
-/
import IrVerif.Lemmas.CloneSim
import IrVerif.Lemmas.CloneEff
namespace IrVerif.Clone

/-- `v` is known to the cloner: bound in the value map or announced as a pending node output -/
def Cov (s : St) (v : Nat) : Prop := (s.vm.lookup v).isSome = true ∨ v ∈ s.pend
def CovLe (s s' : St) : Prop := ∀ v, Cov s v → Cov s' v

theorem CovLe.refl (s : St) : CovLe s s := fun _ h => h
theorem CovLe.trans {a b c : St} (h1 : CovLe a b) (h2 : CovLe b c) : CovLe a c :=
  fun v h => h2 v (h1 v h)

/-- invariant of `CGoodAt` (`n0` = heap size when the cloner was created) -/
structure KC (n0 : Nat) (s : St) : Prop where
  k : K s
  len : n0 ≤ s.w.length
  ran : ∀ p ∈ s.vm, n0 ≤ p.2
  /-- every node cell made by this cloner is in `_created_nodes` -/
  allc : ∀ (i : Nat) (ns : NodeS), n0 ≤ i → s.w[i]? = some (.node ns) → i ∈ s.created

theorem KC.fresh (s : St) : KC s.w.length { s with vm := [], pend := [], created := [] } :=
  ⟨fun _ hp => (by cases hp), Nat.le_refl _, fun _ hp => (by cases hp),
    fun _ _ hi h => absurd (lt_of_getElem? h) (Nat.not_lt.mpr hi)⟩

/-- the pre-existing inputs of node `n` were unknown to the cloner in state `s` -/
def NodeAvoids (n0 : Nat) (s : St) (w : World) (n : Nat) : Prop :=
  ∃ ns, cNode w n = some ns ∧ ∀ v, some v ∈ ns.inputs → v < n0 → ¬ Cov s v

def CGoodAt (n0 : Nat) (m : M α) (s : St) (Q : α → St → Prop) : Prop :=
  ∀ a, (m s).1 = .ok a → KC n0 (m s).2 ∧ CoreLe s.w (m s).2.w ∧ CovLe s (m s).2 ∧
    (∃ ext, (m s).2.created = s.created ++ ext ∧ ∀ n ∈ ext, NodeAvoids n0 s (m s).2.w n) ∧
    Q a (m s).2

section
variable {n0 : Nat}

theorem NodeAvoids.mono {s s0 : St} {w w' : World} {n : Nat} (h : NodeAvoids n0 s w n)
    (hle : CoreLe w w') (hc : CovLe s0 s) : NodeAvoids n0 s0 w' n := by
  obtain ⟨ns, a, b⟩ := h
  exact ⟨ns, cNode_mono hle a, fun v hv hlt hcov => b v hv hlt (hc v hcov)⟩

/-- `CGoodAt` as a logic.  The created nodes avoid what was known at the start of the step (`A = none`)
    or at a fixed earlier anchor: `clone_node` makes the node after its outputs became known -/
def covLA (n0 : Nat) (A : Option St) : Logic where
  E _ _ := True
  N s s' := KC n0 s' ∧ CoreLe s.w s'.w ∧ CovLe s s' ∧
    ∃ ext, s'.created = s.created ++ ext ∧ ∀ n ∈ ext, NodeAvoids n0 (A.getD s) s'.w n
  E_trans _ _ := trivial
  N_trans := by
    rintro a b c ⟨_, l1, c1, e1, he1, ha1⟩ ⟨k2, l2, c2, e2, he2, ha2⟩
    refine ⟨k2, l1.trans l2, c1.trans c2, e1 ++ e2, by rw [he2, he1, List.append_assoc], fun n hn => ?_⟩
    rcases List.mem_append.mp hn with h | h
    · exact (ha1 n h).mono l2 (CovLe.refl _)
    · cases A with
      | none => exact (ha2 n h).mono (CoreLe.refl _) c1
      | some _ => exact ha2 n h
  E_self _ := trivial
  N_self h := ⟨h.1, CoreLe.refl _, CovLe.refl _, [], by simp, by simp⟩

abbrev covL (n0 : Nat) : Logic := covLA n0 none

theorem KC.ok {s : St} (hK : KC n0 s) : (covL n0).Ok s :=
  ⟨trivial, hK, CoreLe.refl _, CovLe.refl _, [], by simp, by simp⟩

theorem Hoare.cov {m : M α} {s : St} {Q : α → St → Prop} (h : Hoare (covL n0) m s Q) (hK : KC n0 s) :
    CGoodAt n0 m s Q :=
  fun a ha => by obtain ⟨⟨k, l, c, e⟩, q⟩ := (h hK.ok).2 a ha; exact ⟨k, l, c, e, q⟩

theorem CGoodAt.hoare {m : M α} {s : St} {Q : α → St → Prop} (h : KC n0 s → CGoodAt n0 m s Q) :
    Hoare (covL n0) m s Q :=
  fun hO => ⟨trivial, fun a ha => by obtain ⟨k, l, c, e, q⟩ := h hO.2.1 a ha; exact ⟨⟨k, l, c, e⟩, q⟩⟩


/-- `QuietAt` as a relation between states -/
def QuietTo (s s' : St) : Prop :=
  s'.vm = s.vm ∧ s'.pend = s.pend ∧ s'.created = s.created ∧
  ∀ (i : Nat) (ns : NodeS), s'.w[i]? = some (.node ns) →
    (∃ ns0, s.w[i]? = some (.node ns0)) ∨ i ∈ s.created

theorem QuietTo.refl (s : St) : QuietTo s s := ⟨rfl, rfl, rfl, fun _ ns h => .inl ⟨ns, h⟩⟩

theorem QuietTo.trans {a b c : St} (h1 : QuietTo a b) (h2 : QuietTo b c) : QuietTo a c := by
  obtain ⟨a1, a2, a3, a4⟩ := h1
  obtain ⟨b1, b2, b3, b4⟩ := h2
  refine ⟨b1.trans a1, b2.trans a2, b3.trans a3, fun i ns h => ?_⟩
  rcases b4 i ns h with ⟨ns0, h0⟩ | h0
  · exact a4 i ns0 h0
  · exact .inr (a3 ▸ h0)

/-- `m` run from `s` keeps value map, pending set and created list, and every node cell afterwards
    was a node cell before or is a created node -/
def QuietAt (m : M α) (s : St) : Prop :=
  (m s).2.vm = s.vm ∧ (m s).2.pend = s.pend ∧ (m s).2.created = s.created ∧
  ∀ (i : Nat) (ns : NodeS), (m s).2.w[i]? = some (.node ns) →
    (∃ ns0, s.w[i]? = some (.node ns0)) ∨ i ∈ s.created

theorem QuietAt.to {m : M α} {s : St} : QuietAt m s ↔ QuietTo s (m s).2 := Iff.rfl

theorem QuietAt.pure {a : α} {s : St} : QuietAt (Pure.pure a : M α) s := QuietTo.refl s
theorem QuietAt.fail {e : Err} {s : St} : QuietAt (Clone.fail e : M α) s := QuietTo.refl s
theorem QuietAt.unsupported {why : String} {s : St} : QuietAt (Clone.unsupported why : M α) s :=
  QuietAt.fail

theorem QuietAt.bind {m : M α} {f : α → M β} {s : St} (hm : QuietAt m s)
    (hf : ∀ a, (m s).1 = .ok a → QuietAt (f a) (m s).2) : QuietAt (m >>= f) s := by
  show QuietTo s (M.bind m f s).2
  unfold M.bind
  rcases hms : m s with ⟨r, s1⟩
  rw [hms] at hf
  have hm : QuietTo s s1 := by have := QuietAt.to.mp hm; rw [hms] at this; exact this
  cases r with
  | error e => exact hm
  | ok a => exact hm.trans (hf a rfl)

theorem QuietAt.alloc {s : St} {c : Cell} (hc : c.isNode = false) : QuietAt (Clone.alloc c) s := by
  refine ⟨rfl, rfl, rfl, ?_⟩
  intro i ns h
  simp only [Clone.alloc] at h
  rcases getElem?_append_singleton h with h | ⟨-, rfl⟩
  · exact .inl ⟨ns, h⟩
  · cases hc

theorem QuietAt.setCell {s : St} {i : Nat} {c : Cell} (hc : c.isNode = false ∨ i ∈ s.created) :
    QuietAt (Clone.setCell i c) s := by
  refine ⟨rfl, rfl, rfl, ?_⟩
  intro j ns h
  simp only [Clone.setCell] at h
  rw [List.getElem?_set] at h
  split at h
  · next hij =>
    subst hij
    split at h
    · cases h
      rcases hc with hc | hc
      · cases hc
      · exact .inr hc
    · cases h
  · exact .inl ⟨ns, h⟩

theorem QuietAt.ofQuiet {m : M α} (h : Quiet m) (s : St) : QuietAt m s := by
  unfold QuietAt
  rw [h s]
  exact ⟨rfl, rfl, rfl, fun _ ns h => .inl ⟨ns, h⟩⟩

theorem QuietAt.created_eq {m : M α} {s : St} (h : QuietAt m s) : (m s).2.created = s.created := h.2.2.1

theorem QuietAt.mapM' {α β : Type} {f : α → M β} : ∀ (l : List α) (s : St),
    (∀ a ∈ l, ∀ s1, s1.created = s.created → QuietAt (f a) s1) → QuietAt (Clone.mapM' f l) s
  | [], s, _ => QuietAt.pure
  | a :: as, s, h => by
    unfold Clone.mapM'
    have h1 := h a List.mem_cons_self s rfl
    refine QuietAt.bind h1 (fun _ _ => ?_)
    refine QuietAt.bind (QuietAt.mapM' as _ (fun a' ha' s1 hs1 =>
      h a' (List.mem_cons_of_mem _ ha') s1 (hs1.trans h1.created_eq))) (fun _ _ => QuietAt.pure)

/-- a quiet step that satisfies the simulation spec (`SGoodAt`) also satisfies `CGoodAt` -/
theorem Hoare.covOfQuiet {m : M α} {s : St} {Q : α → St → Prop}
    (hs : Hoare simL m s Q) (hq : QuietAt m s) : Hoare (covL n0) m s Q := by
  refine CGoodAt.hoare fun hK a ha => ?_
  obtain ⟨k, l, q⟩ := hs.sim hK.k a ha
  obtain ⟨q1, q2, q3, q4⟩ := hq
  refine ⟨⟨k, Nat.le_trans hK.len l.length_le, by rw [q1]; exact hK.ran, ?_⟩, l, ?_, ⟨[], by simp [q3], by simp⟩, q⟩
  · intro i ns hi h
    rw [q3]
    rcases q4 i ns h with ⟨ns0, h0⟩ | h0
    · exact hK.allc i ns0 hi h0
    · exact h0
  · intro v hv
    unfold Cov at *
    rw [q1, q2]; exact hv


end

theorem Eff.quiet {s s' : St} (h : Eff Lab.quiet s s') : QuietTo s s' := by
  have setVal : ∀ {s : St} {v : Nat} (c : ValueS) (i : Nat) (ns : NodeS),
      (s.w.set v (.val c))[i]? = some (.node ns) → (∃ ns0, s.w[i]? = some (.node ns0)) ∨ i ∈ s.created :=
    fun c i ns h => (QuietAt.setCell (c := .val c) (.inl rfl)).2.2.2 i ns h
  induction h with
  | refl s => exact QuietTo.refl s
  | trans _ _ h1 h2 => exact h1.trans h2
  | alloc s c hc _ => exact QuietAt.alloc hc
  | link _ f _ _ _ => exact ⟨rfl, rfl, rfl, setVal _⟩
  | users _ us _ => exact ⟨rfl, rfl, rfl, setVal _⟩
  | @own s n ns ns' h _ _ _ =>
    refine ⟨rfl, rfl, rfl, fun i x hx => ?_⟩
    by_cases hi : n = i
    · exact .inl ⟨ns, hi ▸ h⟩
    · simp only at hx
      rw [List.getElem?_set_ne hi] at hx
      exact .inl ⟨x, hx⟩
  | vm _ _ _ hp => exact hp.elim
  | pend _ _ hp => exact hp.elim
  | mkNode _ _ hp => exact hp.elim
  | unlink _ _ hp => exact hp.elim
  | forget _ _ hp => exact hp.elim

theorem QuietAt.ofDoes {m : M α} (h : Does Lab.quiet m) (s : St) : QuietAt m s := (h s).quiet

theorem allOutputs_quiet : ∀ (l : List Nat) (s : St), QuietAt (allOutputs l) s :=
  fun l s => .ofQuiet (Quiet.allOutputs l) s

section
variable {n0 : Nat}

theorem QuietAt.pendHas {s : St} {v : Nat} : QuietAt (Clone.pendHas v) s := .ofQuiet (Quiet.pendHas v) s

theorem lookup_cons_isSome {vm : List (Nat × Nat)} {a b v : Nat} (h : (vm.lookup v).isSome = true) :
    (((a, b) :: vm).lookup v).isSome = true := by
  rw [List.lookup_cons]
  cases hva : (v == a) with
  | true => rfl
  | false => exact h

theorem vmSet_cov {s : St} {a b : Nat} (hab : ValSim s.w a b) (hb : n0 ≤ b) :
    Hoare (covL n0) (Clone.vmSet a b) s (fun _ s1 => s1.w = s.w ∧ s1.vm.lookup a = some b) := by
  refine CGoodAt.hoare fun hK _ _ => ?_
  refine ⟨⟨?_, hK.len, ?_, hK.allc⟩, CoreLe.refl _, ?_, ⟨[], by simp [Clone.vmSet], by simp⟩, rfl, ?_⟩
  · intro p hp
    simp only [Clone.vmSet, List.mem_cons] at hp
    rcases hp with h | h
    · subst h; exact hab
    · exact hK.k p h
  · intro p hp
    simp only [Clone.vmSet, List.mem_cons] at hp
    rcases hp with h | h
    · subst h; exact hb
    · exact hK.ran p h
  · intro v hv
    rcases hv with h | h
    · exact .inl (lookup_cons_isSome h)
    · exact .inr h
  · simp [Clone.vmSet]

theorem pendAdd_cov {s : St} (vs : List Nat) :
    Hoare (covL n0) (Clone.pendAdd vs) s (fun _ s1 => s1.w = s.w ∧ ∀ v ∈ vs, Cov s1 v) := by
  refine CGoodAt.hoare fun hK _ _ => ?_
  refine ⟨⟨hK.k, hK.len, hK.ran, hK.allc⟩, CoreLe.refl _, ?_, ⟨[], by simp [Clone.pendAdd], by simp⟩, rfl, ?_⟩
  · intro v hv
    rcases hv with h | h
    · exact .inl h
    · exact .inr (by simp [Clone.pendAdd]; exact .inl h)
  · intro v hv
    exact .inr (by simp [Clone.pendAdd]; exact .inr hv)

theorem pendDiscard_cov {s : St} (o : Nat) (hb : (s.vm.lookup o).isSome = true) :
    Hoare (covL n0) (Clone.pendDiscard o) s (fun _ s1 => s1.w = s.w ∧ s1.vm = s.vm) := by
  refine CGoodAt.hoare fun hK _ _ => ?_
  refine ⟨⟨hK.k, hK.len, hK.ran, hK.allc⟩, CoreLe.refl _, ?_, ⟨[], by simp [Clone.pendDiscard], by simp⟩, rfl, rfl⟩
  intro v hv
  rcases hv with h | h
  · exact .inl h
  · by_cases hvo : v = o
    · subst hvo; exact .inl hb
    · exact .inr (by simp [Clone.pendDiscard]; exact ⟨h, hvo⟩)

theorem copyVal_cov {α : Type} {s : St} {Q : α → St → Prop} (v : Nat) (idx : Option Nat) (k : Nat → M α)
    (hk : ∀ v' s1, KC n0 s1 → ValSim s1.w v v' → n0 ≤ v' → Hoare (covL n0) (k v') s1 Q) :
    Hoare (covL n0) (do
      let vs ← readVal v
      let sh ← copyShape vs.shape
      let ty ← copyType vs.type
      let props ← copyProps vs.props
      let mstore ← copyMeta vs.mstore
      let v' ← alloc (.val { name := vs.name, doc := vs.doc, index := idx, type := ty, shape := sh,
                             const := vs.const, props := props, mstore := mstore })
      k v') s Q := by
  hbind Hoare.readVal with vs s2 - ⟨hK2, hl2, hc2, -⟩ hq2
  obtain ⟨rfl, hvs⟩ := hq2
  hbind (Hoare.covOfQuiet (copyShape_sim vs.shape) (.ofDoes (Does.copyShape trivial _) _)) with sh s3 - ⟨hK3, hl3, hc3, -⟩ hsh
  hbind (Hoare.covOfQuiet (copyType_sim vs.type) (.ofDoes (Does.copyType trivial _) _)) with ty s4 - ⟨hK4, hl4, hc4, -⟩ hty
  hbind (Hoare.covOfQuiet (copyProps_sim vs.props) (.ofDoes (Does.copyProps trivial _) _)) with pr s5 - ⟨hK5, hl5, hc5, -⟩ hpr
  hbind (Hoare.covOfQuiet (copyMeta_sim vs.mstore) (.ofDoes (Does.copyMeta trivial _) _)) with me s6 - ⟨hK6, hl6, hc6, -⟩ hme
  hbind (Hoare.covOfQuiet (alloc_sim _) (QuietAt.alloc rfl)) with v' s7 - ⟨hK7, hl7, hc7, -⟩ hv'
  have hle27 : CoreLe s2.w s7.w := hl3.trans (hl4.trans (hl5.trans (hl6.trans hl7)))
  refine hk v' s7 hK7 ?_ (by rw [hv'.1]; exact hK6.len)
  exact valSim_of_copy (cVal_mono hle27 (cVal_of hvs)) (cVal_ofCore hv'.2.1) rfl rfl rfl
    (optType_mono' (hl5.trans (hl6.trans hl7)) hty)
    (optShape_mono' (hl4.trans (hl5.trans (hl6.trans hl7))) hsh)
    (cDictPair_mono (f := fun d => { data := d.data, invalid := [] }) (hl6.trans hl7) hpr)
    (cDictPair_mono (f := fun d => { data := d.data, invalid := d.invalid }) hl7 hme)

theorem cloneOrGetValue_cov {s : St} (v : Nat) :
    Hoare (covL n0) (cloneOrGetValue v) s (fun r s1 => (ValSim s1.w v r ∧ Cov s1 v) ∧ s1.vm.lookup v = some r) := by
  unfold cloneOrGetValue
  hbind Hoare.vmGet with o s1 - ⟨hK1, hl1, hc1, -⟩ hq1
  obtain ⟨rfl, rfl⟩ := hq1
  cases hlk : s1.vm.lookup v with
  | some v' =>
    exact Hoare.pure ⟨⟨hK1.k (v, v') (ListFacts.mem_of_lookup hlk), .inl (by rw [hlk]; rfl)⟩, hlk⟩
  | none =>
    refine copyVal_cov v none _ fun v' s7 hK7 hsim hv'n => ?_
    hbind (vmSet_cov hsim hv'n) with u s8 - ⟨hK8, hl8, hc8, -⟩ hq8
    exact Hoare.pure ⟨⟨by rw [hq8.1]; exact hsim, .inl (by rw [hq8.2]; rfl)⟩, hq8.2⟩

theorem mapInputs_cov {allow : Bool} (l : List (Option Nat)) (s : St) :
    Hoare (covL n0) (mapInputs allow l) s (fun r s1 => s1 = s ∧ All2 (RefSim s.w) l r ∧
      ∀ v, some v ∈ r → v < n0 → ¬ Cov s v) :=
  Hoare.assume fun hO => (mapInputs_spec allow l s).mono fun r s1 _ _ ⟨hs, hu, hr⟩ => by
    have hK : KC n0 s := hO.2.1
    subst hr
    refine ⟨hs, all2_map_right l fun o _ => ?_, fun v hv hlt => ?_⟩
    · cases o with
      | none => exact .inl rfl
      | some u =>
        cases hlk : s.vm.lookup u with
        | none => exact .inl (by simp [img_of_unbound hlk])
        | some v' => exact .inr ⟨u, v', rfl, by simp [img_of_lookup hlk], hK.k (u, v') (ListFacts.mem_of_lookup hlk)⟩
    · obtain ⟨u, hu', rfl⟩ := mem_map_img hv
      cases hlk : s.vm.lookup u with
      | some v' =>
        rw [img_of_lookup hlk] at hlt
        have := hK.ran (u, v') (ListFacts.mem_of_lookup hlk)
        simp only at this; omega
      | none =>
        rw [img_of_unbound hlk]
        rintro (hc | hc)
        · rw [hlk] at hc; cases hc
        · exact hu ⟨u, hu', hlk, .inr hc⟩

end

/-- `s'` extends `s`: larger heap with the same cores, more known values, more created nodes -/
structure Ext (s s' : St) : Prop where
  core : CoreLe s.w s'.w
  cov : CovLe s s'
  created : ∃ ext, s'.created = s.created ++ ext

theorem Ext.trans {a b c : St} (h1 : Ext a b) (h2 : Ext b c) : Ext a c := by
  obtain ⟨e1, he1⟩ := h1.created
  obtain ⟨e2, he2⟩ := h2.created
  exact ⟨h1.core.trans h2.core, h1.cov.trans h2.cov, ⟨e1 ++ e2, by rw [he2, he1, List.append_assoc]⟩⟩

theorem Ext.mem_created {s s' : St} (h : Ext s s') {n : Nat} (hn : n ∈ s.created) : n ∈ s'.created := by
  obtain ⟨e, he⟩ := h.created
  rw [he]; exact List.mem_append_left _ hn

section
variable {n0 : Nat}

theorem cloneOutput_cov {s : St} (i o : Nat) :
    Hoare (covL n0) (cloneOutput i o) s (fun r s1 => ValSim s1.w o r ∧ s1.vm.lookup o = some r) := by
  refine copyVal_cov o (some i) _ fun v' s7 hK7 hsim hv'n => ?_
  hbind (vmSet_cov hsim hv'n) with u s8 - ⟨hK8, hl8, hc8, -⟩ hq8
  hbind (pendDiscard_cov o (by rw [hq8.2]; rfl)) with u2 s9 - ⟨hK9, hl9, hc9, -⟩ hq9
  exact Hoare.pure ⟨by rw [hq9.1, hq8.1]; exact hsim, by rw [hq9.2]; exact hq8.2⟩

theorem Hoare.covOfDoes {m : M α} {s : St} (hd : Does Lab.quiet m) : Hoare (covL n0) m s (fun _ _ => True) :=
  Hoare.covOfQuiet hd.sim (.ofDoes hd s)

theorem allocNode_covA {A : Option St} {s : St} (c : NodeS)
    (hav : ∀ v, some v ∈ c.inputs → v < n0 → ¬ Cov (A.getD s) v) :
    Hoare (covLA n0 A) (allocNode c) s
      (fun r s1 => coreAt s1.w r = some (Cell.node c).core ∧ r ∈ s1.created) := by
  refine fun hO => ⟨trivial, fun a ha => ?_⟩
  have hK := hO.2.1
  have hs := (allocNode_sim c).sim hK.k a ha
  have e : allocNode c s = (.ok s.w.length, { s with w := s.w ++ [.node c], created := s.created ++ [s.w.length] }) := rfl
  rw [e] at ha hs ⊢
  simp only at ha hs ⊢
  cases ha
  obtain ⟨k, l, q⟩ := hs
  refine ⟨⟨⟨k, by simp; have := hK.len; omega, hK.ran, ?_⟩, l, fun v hv => hv, [s.w.length], rfl, ?_⟩, q, by simp⟩
  · intro i ns hi h
    rcases getElem?_append_singleton h with h | ⟨rfl, -⟩
    · exact List.mem_append_left _ (hK.allc i ns hi h)
    · simp
  · intro n hn
    simp only [List.mem_singleton] at hn
    subst hn
    exact ⟨{ c with graph := none }, cNode_ofCore q, hav⟩

theorem allocNode_cov {s : St} (c : NodeS) (hK : KC n0 s)
    (hav : ∀ v, some v ∈ c.inputs → v < n0 → ¬ Cov s v) :
    CGoodAt n0 (allocNode c) s (fun r s1 => coreAt s1.w r = some (Cell.node c).core ∧ r ∈ s1.created) :=
  (allocNode_covA (A := none) c hav).cov hK

end

/-- outputs of the listed nodes -/
def outsOf (w : World) (nodes : List Nat) : List Nat :=
  nodes.flatMap fun n => match cNode w n with
    | some x => x.outputs
    | none => []

/-- `v` is defined at the top level of graph `gs`: an input, an initializer or a node output -/
def DefTop (w : World) (gs : GraphS) (v : Nat) : Prop :=
  v ∈ gs.inputs ∨ v ∈ gs.inits.map (·.2) ∨ v ∈ outsOf w gs.nodes

/-- the nodes created after the first `k` ones have no pre-existing input satisfying `P` -/
def CreatedAvoid (n0 k : Nat) (s : St) (P : Nat → Prop) : Prop :=
  ∀ n ∈ s.created.drop k, ∃ ns, cNode s.w n = some ns ∧ ∀ v, some v ∈ ns.inputs → v < n0 → ¬ P v

section
variable {n0 : Nat}

theorem allOutputs_cov : ∀ (l : List Nat) (s : St), Hoare (covL n0) (allOutputs l) s (fun r s1 => s1 = s ∧ r = outsOf s.w l)
  | [], s => Hoare.pure ⟨rfl, rfl⟩
  | n :: ns, s => by
    unfold allOutputs
    hbind Hoare.readNode with x s1 - ⟨hK1, hl1, hc1, -⟩ hq1
    obtain ⟨rfl, hx⟩ := hq1
    hbind (allOutputs_cov ns s1) with r s2 - ⟨hK2, hl2, hc2, -⟩ hq2
    obtain ⟨rfl, rfl⟩ := hq2
    refine Hoare.pure ⟨rfl, ?_⟩
    simp [outsOf, cNode_of hx]

theorem CGoodAt.expose {m : M α} {s : St} {Q : α → St → Prop} (hm : CGoodAt n0 m s Q) :
    CGoodAt n0 m s (fun a s1 => Q a s1 ∧ Ext s s1 ∧
      ∃ ext, s1.created = s.created ++ ext ∧ ∀ n ∈ ext, NodeAvoids n0 s s1.w n) := by
  intro a ha
  obtain ⟨k, l, c, ⟨e, he, hav⟩, q⟩ := hm a ha
  exact ⟨k, l, c, ⟨e, he, hav⟩, q, ⟨l, c, ⟨e, he⟩⟩, ⟨e, he, hav⟩⟩

end
end IrVerif.Clone
