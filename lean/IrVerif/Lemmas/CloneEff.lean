/-
What the programs of the cloner can do to its state.  `Eff P s s'`: `s'` is reached from `s` by steps of
the kinds `P` allows; `Does P m`: every run of `m`, however it ends, is such a sequence.  A notion
"the program leaves X alone" is then one induction over `Eff`.
-/
import IrVerif.Lemmas.Clone
namespace IrVerif.Clone

def Cell.isNode : Cell → Bool
  | .node _ => true
  | _ => false

/-- kinds of step: `heap` allocates a cell that is not a node, or rewrites a value cell keeping its
    users, or a node cell keeping its inputs; `book` touches the value map or the pending set; `uses`
    rewrites the users of a value; `nodes` creates a node, takes the inputs of one away, or forgets
    created nodes -/
inductive Lab where
  | heap | book | uses | nodes

abbrev Lab.all : Lab → Prop := fun _ => True

def Lab.noNodes : Lab → Prop
  | .nodes => False
  | _ => True

inductive Eff (P : Lab → Prop) : St → St → Prop
  | refl (s : St) : Eff P s s
  | trans {a b c : St} : Eff P a b → Eff P b c → Eff P a c
  | alloc (s : St) (c : Cell) (hc : c.isNode = false) : P .heap → Eff P s { s with w := s.w ++ [c] }
  | link {s : St} {v : Nat} {vs : ValueS} (h : s.w[v]? = some (.val vs)) (f : ValueS → ValueS)
      (hf : ∀ x, (f x).uses = x.uses) (hc : ∀ x, (Cell.val (f x)).core = (Cell.val x).core) :
      P .heap → Eff P s { s with w := s.w.set v (.val (f vs)) }
  | own {s : St} {n : Nat} {ns ns' : NodeS} (h : s.w[n]? = some (.node ns)) (hin : ns'.inputs = ns.inputs)
      (hc : (Cell.node ns').core = (Cell.node ns).core) : P .heap → Eff P s { s with w := s.w.set n (.node ns') }
  | vm (s : St) (a b : Nat) : P .book → Eff P s { s with vm := (a, b) :: s.vm }
  | pend (s : St) (p : List Nat) : P .book → Eff P s { s with pend := p }
  | users {s : St} {v : Nat} {vs : ValueS} (h : s.w[v]? = some (.val vs)) (us : List (Nat × Nat)) :
      P .uses → Eff P s { s with w := s.w.set v (.val { vs with uses := us }) }
  | mkNode (s : St) (c : NodeS) : P .nodes →
      Eff P s { s with w := s.w ++ [.node c], created := s.created ++ [s.w.length] }
  | unlink {s : St} {n : Nat} {ns : NodeS} (h : s.w[n]? = some (.node ns)) (ns' : NodeS) : P .nodes →
      Eff P s { s with w := s.w.set n (.node ns') }
  | forget (s : St) (k : Nat) : P .nodes → Eff P s { s with created := s.created.take k }

def Lab.quiet : Lab → Prop
  | .heap | .uses => True
  | _ => False

def Does (P : Lab → Prop) (m : M α) : Prop := ∀ s, Eff P s (m s).2

namespace Does
variable {P : Lab → Prop}

theorem bind {m : M α} {f : α → M β} (hm : Does P m) (hf : ∀ a, Does P (f a)) : Does P (m >>= f) := by
  intro s
  show Eff P s (M.bind m f s).2
  unfold M.bind
  have h1 := hm s
  rcases hms : m s with ⟨r, s1⟩
  rw [hms] at h1
  cases r with
  | error e => exact h1
  | ok a => exact h1.trans (hf a s1)

theorem ofQuiet {m : M α} (h : Quiet m) : Does P m := fun s => by rw [h s]; exact .refl s
theorem pure (a : α) : Does P (Pure.pure a : M α) := fun s => .refl s

theorem forM' {f : α → M Unit} (hf : ∀ a, Does P (f a)) : ∀ l : List α, Does P (Clone.forM' f l)
  | [] => pure _
  | a :: as => by unfold Clone.forM'; exact bind (hf a) fun _ => forM' hf as

theorem mapM' {f : α → M β} (hf : ∀ a, Does P (f a)) : ∀ l : List α, Does P (Clone.mapM' f l)
  | [] => pure _
  | a :: as => by unfold Clone.mapM'; exact bind (hf a) fun _ => bind (mapM' hf as) fun _ => pure _

theorem alloc {c : Cell} (hc : c.isNode = false) (hP : P .heap) : Does P (Clone.alloc c) :=
  fun s => .alloc s c hc hP
theorem vmSet (hP : P .book) (a b : Nat) : Does P (Clone.vmSet a b) := fun s => .vm s a b hP
theorem pendAdd (hP : P .book) (vs : List Nat) : Does P (Clone.pendAdd vs) := fun s => .pend s _ hP
theorem pendDiscard (hP : P .book) (v : Nat) : Does P (Clone.pendDiscard v) := fun s => .pend s _ hP
theorem allocNode (hP : P .nodes) (c : NodeS) : Does P (Clone.allocNode c) := fun s => .mkNode s c hP

theorem copyShape (hP : P .heap) : ∀ o, Does P (copyShape o)
  | none => pure _
  | some sh => bind (ofQuiet (Quiet.readShape sh)) fun _ => bind (alloc rfl hP) fun _ => pure _
theorem copyType (hP : P .heap) : ∀ o, Does P (copyType o)
  | none => pure _
  | some t => bind (ofQuiet (Quiet.readType t)) fun _ => bind (alloc rfl hP) fun _ => pure _
theorem copyProps (hP : P .heap) (o : Nat) : Does P (copyProps o) :=
  bind (ofQuiet (Quiet.readDict o)) fun _ => alloc rfl hP
theorem copyMeta (hP : P .heap) (o : Nat) : Does P (copyMeta o) :=
  bind (ofQuiet (Quiet.readDict o)) fun _ => alloc rfl hP

theorem cloneOrGetValue (hh : P .heap) (hb : P .book) (v : Nat) : Does P (cloneOrGetValue v) := by
  unfold Clone.cloneOrGetValue
  refine bind (ofQuiet (Quiet.vmGet v)) fun o => ?_
  cases o with
  | some v' => exact pure _
  | none =>
    exact bind (ofQuiet (Quiet.readVal v)) fun _ => bind (copyShape hh _) fun _ => bind (copyType hh _) fun _ =>
      bind (copyProps hh _) fun _ => bind (copyMeta hh _) fun _ => bind (alloc rfl hh) fun _ =>
      bind (vmSet hb _ _) fun _ => pure _

theorem cloneOutput (hh : P .heap) (hb : P .book) (i o : Nat) : Does P (cloneOutput i o) :=
  bind (ofQuiet (Quiet.readVal o)) fun _ => bind (copyShape hh _) fun _ => bind (copyType hh _) fun _ =>
    bind (copyProps hh _) fun _ => bind (copyMeta hh _) fun _ => bind (alloc rfl hh) fun _ =>
    bind (vmSet hb _ _) fun _ => bind (pendDiscard hb _) fun _ => pure _

theorem cloneOutputs (hh : P .heap) (hb : P .book) : ∀ (os : List Nat) (i : Nat), Does P (cloneOutputs i os)
  | [], _ => by unfold Clone.cloneOutputs; exact pure _
  | o :: os, i => by
    unfold Clone.cloneOutputs
    exact bind (cloneOutput hh hb i o) fun _ => bind (cloneOutputs hh hb os (i + 1)) fun _ => pure _

theorem modVal (hP : P .heap) (v : Nat) (f : ValueS → ValueS) (hf : ∀ x, (f x).uses = x.uses)
    (hc : ∀ x, (Cell.val (f x)).core = (Cell.val x).core) :
    Does P (do let x ← readVal v; setCell v (.val (f x)) : M Unit) := by
  intro s
  by_cases hv : ∃ vs, s.w[v]? = some (.val vs)
  · obtain ⟨vs, hv⟩ := hv
    rw [modVal_eq f hv]
    exact .link hv f hf hc hP
  · rw [modVal_err f fun vs h => hv ⟨vs, h⟩]
    exact .refl s

theorem setProducer (hP : P .heap) (n v : Nat) : Does P (setProducer n v) :=
  modVal hP v (fun vs => { vs with producer := some n }) (fun _ => rfl) fun _ => rfl

theorem setValueOwner (hP : P .heap) (g : Nat) (f : ValueS → ValueS) (hf : ∀ x, (f x).uses = x.uses)
    (hc : ∀ x, (Cell.val (f x)).core = (Cell.val x).core) (v : Nat) : Does P (setValueOwner g f v) :=
  modVal hP v (fun vs => f { vs with graph := some g }) (fun x => by rw [hf]) fun x => by rw [hc]; rfl

theorem addUse (hP : P .uses) (v n i : Nat) : Does P (addUse v n i) := by
  intro s
  by_cases hv : ∃ vs, s.w[v]? = some (.val vs)
  · obtain ⟨vs, hv⟩ := hv
    rw [show Clone.addUse v n i s = _ from modVal_eq _ hv]
    exact .users hv _ hP
  · rw [show Clone.addUse v n i s = _ from modVal_err _ fun vs h => hv ⟨vs, h⟩]
    exact .refl s

theorem addUses (hP : P .uses) (n : Nat) : ∀ (l : List (Option Nat)) (i : Nat), Does P (addUses n i l)
  | [], _ => by unfold Clone.addUses; exact pure _
  | none :: rest, i => by unfold Clone.addUses; exact addUses hP n rest (i + 1)
  | some v :: rest, i => by
    unfold Clone.addUses
    exact bind (addUse hP v n i) fun _ => addUses hP n rest (i + 1)

theorem setNodeGraph (hP : P .heap) (g n : Nat) : Does P (setNodeGraph g n) := by
  intro s
  unfold Clone.setNodeGraph
  by_cases hn : ∃ ns, s.w[n]? = some (.node ns)
  · obtain ⟨ns, hn⟩ := hn
    rw [bind_ok (readNode_ok hn)]
    have hq := Quiet.forM' Quiet.checkNamed ns.outputs s
    rcases hc : Clone.forM' checkNamed ns.outputs s with ⟨r, s1⟩
    rw [hc] at hq
    simp only at hq
    subst hq
    cases r with
    | error e => rw [bind_err hc]; exact .refl _
    | ok u => rw [bind_ok hc]; exact .own hn rfl rfl hP
  · rw [bind_err (readNode_err fun ns h => hn ⟨ns, h⟩)]
    exact .refl s

theorem mkGraph (hP : P .heap) (src : GraphS) (inputs outputs nodes inits : List Nat) :
    Does P (mkGraph src inputs outputs nodes inits) := by
  unfold Clone.mkGraph
  refine bind (ofQuiet (Quiet.initEntries _ _)) fun entries => ?_
  refine bind (copyProps hP _) fun _ => bind (copyMeta hP _) fun _ => bind (alloc rfl hP) fun g => ?_
  refine bind (ofQuiet (Quiet.forM' (Quiet.checkInput g) _)) fun _ => ?_
  refine bind (forM' (setValueOwner hP g _ (by intro; rfl) (by intro; rfl)) _) fun _ => ?_
  refine bind (ofQuiet (Quiet.forM' (Quiet.checkOwned g) _)) fun _ => ?_
  refine bind (forM' (setValueOwner hP g _ (by intro; rfl) (by intro; rfl)) _) fun _ => ?_
  refine bind (ofQuiet (Quiet.forM' (Quiet.checkOwned g) _)) fun _ => ?_
  refine bind (forM' (setValueOwner hP g _ (by intro; rfl) (by intro; rfl)) _) fun _ => ?_
  refine bind (ofQuiet (Quiet.forM' Quiet.checkInitEntry _)) fun _ => ?_
  refine bind (ofQuiet (Quiet.forM' Quiet.checkNamed _)) fun _ => ?_
  refine bind (ofQuiet (Quiet.forM' (Quiet.checkNodeFree g) _)) fun _ => ?_
  exact bind (forM' (setNodeGraph hP g) _) fun _ => pure _

theorem unUse (hP : P .uses) (v n : Nat) : Does P (unUse v n) := by
  intro s
  unfold Clone.unUse
  split
  · next vs hv => exact .users hv _ hP
  · exact .refl s

theorem unUses (hP : P .uses) (n : Nat) : ∀ l : List (Option Nat), Does P (unUses n l)
  | [] => pure _
  | none :: rest => by unfold Clone.unUses; exact unUses hP n rest
  | some v :: rest => by unfold Clone.unUses; exact bind (unUse hP v n) fun _ => unUses hP n rest

theorem detachNode (hu : P .uses) (hn : P .nodes) (n : Nat) : Does P (detachNode n) := by
  unfold Clone.detachNode
  refine bind (ofQuiet (Quiet.readNode n)) fun _ => bind (unUses hu n _) fun _ => ?_
  intro s
  by_cases h : ∃ ns, s.w[n]? = some (.node ns)
  · obtain ⟨ns, h⟩ := h
    rw [bind_ok (readNode_ok h)]
    exact .unlink h _ hn
  · rw [bind_err (readNode_err fun ns h' => h ⟨ns, h'⟩)]
    exact .refl s

end Does

theorem Eff.created_eq {P : Lab → Prop} (hP : ¬ P .nodes) {s s' : St} (h : Eff P s s') : s'.created = s.created := by
  induction h with
  | trans _ _ h1 h2 => exact h2.trans h1
  | mkNode _ _ hp => exact absurd hp hP
  | forget _ _ hp => exact absurd hp hP
  | _ => rfl

end IrVerif.Clone
