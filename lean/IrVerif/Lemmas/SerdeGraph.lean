import IrVerif.Lemmas.SerdeScope
import IrVerif.Lemmas.SerdeDict
/-! C02: the graph level - the steps of `_deserialize_graph` in their order, pieces of `serialize_graph_into`. -/
namespace IrVerif.Serde
open IrVerif.Proto

def inputValT (q : List AnnotP) (vi : ValueInfoP) : IRValue :=
  applyQuant q (applyInfoT (IRValue.blank vi.name) vi)

theorem desGraphInputs_eq (q : List AnnotP) (inputs : List ValueInfoP) (h : inputs.all wfVI = true) :
    desGraphInputs q inputs = .ok (inputs.map (inputValT q)) := by
  induction inputs with
  | nil => rfl
  | cons vi vis ih =>
    simp only [List.all_cons, Bool.and_eq_true] at h
    have hw : wfType vi.type = true := by
      have := h.1; simp only [wfVI, Bool.and_eq_true] at this; exact this.1
    simp [desGraphInputs, (applyInfo_eq (IRValue.blank vi.name) vi hw).1, ih h.2, bind, Except.bind,
      inputValT]

def irT (p : TensorP) : IRTensor :=
  match desTensor p with
  | .ok t => t
  | .error _ => default

theorem irT_spec (p : TensorP) (h : wfTensor p = true) :
    desTensor p = .ok (irT p) ∧ serTensor (irT p) = normTensor p ∧ (irT p).name = p.name
      ∧ (irT p).setName p.name = irT p := by
  obtain ⟨t, h1, h2, h3⟩ := tensor_roundtrip p h
  have : irT p = t := by simp [irT, h1]
  rw [this]
  exact ⟨h1, h2, h3, setName_self p t h1⟩

theorem desTensors_eq (ps : List TensorP) (h : ps.all wfTensor = true) :
    desTensors ps = .ok (ps.map irT) := by
  induction ps with
  | nil => rfl
  | cons p ps ih =>
    simp only [List.all_cons, Bool.and_eq_true] at h
    simp [desTensors, (irT_spec p h.1).1, ih h.2, bind, Except.bind]

theorem irT_dtype (p : TensorP) (h : wfTensor p = true) (hv : validDType p.dataType = true) :
    (irT p).dtype = .ok p.dataType ∧ (irT p).shape = p.dims := by
  have hd := (irT_spec p h).1
  generalize irT p = t at hd ⊢
  unfold desTensor at hd
  split at hd
  · simp only [bind, Except.bind] at hd
    split at hd
    · cases hd
    · split at hd
      · cases hd
      · cases hd
        exact ⟨rfl, rfl⟩
  · split at hd
    · cases hd
      rename_i h8
      exact ⟨by simp [IRTensor.dtype, h8], rfl⟩
    · cases hd
      exact ⟨by simp [IRTensor.dtype, hv], rfl⟩

def setConst (t : IRTensor) (v : IRValue) : IRValue := { v with const := some t }

/-- the value created for the initializer `p` when it is not a graph input (its name is forced to
`p.name`, which is what `irT p` carries on well-formed tensors) -/
def initValT (vis : List ValueInfoP) (q : List AnnotP) (p : TensorP) : IRValue :=
  { applyQuant q (match findVI vis p.name with
      | some vi => fillFrom (initV0 (irT p) p.dataType) (applyInfoT (initV0 (irT p) p.dataType) vi)
      | none => initV0 (irT p) p.dataType) with
    name := p.name }

theorem withName_self (v : IRValue) (n : String) (h : v.name = n) : { v with name := n } = v := by
  cases v; simp_all

theorem newInitValue_eq (vis : List ValueInfoP) (q : List AnnotP) (hvis : vis.all wfVI = true)
    (p : TensorP) (hw : wfTensor p = true) (hv : validDType p.dataType = true) :
    newInitValue vis q (irT p) p.dataType = .ok (initValT vis q p) := by
  have hname : (irT p).name = p.name := (irT_spec p hw).2.2.1
  have _ := hv
  simp only [newInitValue, hname, initValT, bind, Except.bind]
  cases hf : findVI vis p.name with
  | none =>
    simp only [Except.ok.injEq]
    exact (withName_self _ _ (by simp [initV0, IRValue.blank, hname])).symm
  | some vi =>
    have hwt : wfType vi.type = true := by
      have := List.all_eq_true.1 hvis vi (findVI_mem hf).1
      simp only [wfVI, Bool.and_eq_true] at this
      exact this.1
    simp only [(applyInfo_eq (initV0 (irT p) p.dataType) vi hwt).1, Except.ok.injEq]
    exact (withName_self _ _ (by simp [initV0, fillFrom, IRValue.blank, hname])).symm

/-- the initializer that names `v`, if any, becomes its `const_value` -/
def constFrom (ps : List TensorP) (v : IRValue) : IRValue :=
  match ps.find? (fun p => p.name = v.name) with
  | some p => setConst (irT p) v
  | none => v

@[simp] theorem initValT_name (vis : List ValueInfoP) (q : List AnnotP) (p : TensorP) :
    (initValT vis q p).name = p.name := rfl

@[simp] theorem constFrom_name (ps : List TensorP) (v : IRValue) : (constFrom ps v).name = v.name := by
  unfold constFrom; split <;> rfl

theorem constFrom_of_not_mem {ps : List TensorP} {v : IRValue} (h : v.name ∉ ps.map (·.name)) :
    constFrom ps v = v := by
  unfold constFrom
  have : ps.find? (fun p => p.name = v.name) = none := by
    rw [List.find?_eq_none]
    intro p hp hpn
    simp only [decide_eq_true_eq] at hpn
    exact h (by rw [← hpn]; exact List.mem_map_of_mem hp)
  rw [this]

def newInits (names : List String) (ps : List TensorP) : List TensorP :=
  ps.filter fun p => !names.contains p.name

theorem nodup_append_newInits {names : List String} {ps : List TensorP} (hn : names.Nodup)
    (hp : (ps.map (·.name)).Nodup) : (names ++ (newInits names ps).map (·.name)).Nodup := by
  rw [List.nodup_append]
  refine ⟨hn, List.Nodup.sublist (List.Sublist.map _ List.filter_sublist) hp, ?_⟩
  intro a ha b hb e
  subst e
  obtain ⟨p', hp', rfl⟩ := List.mem_map.1 hb
  simp only [newInits, List.mem_filter, Bool.not_eq_true', List.contains_eq_mem, decide_eq_false_iff_not] at hp'
  exact hp'.2 ha

/-- `constFrom`: a tensor whose name the table holds becomes the constant of that value; `newInits`: the others are
    appended; `idxs`: the positions the loop returns, by last lookup of the name -/
theorem desInitializers_spec (vis : List ValueInfoP) (q : List AnnotP) (hvis : vis.all wfVI = true) :
    ∀ (ps : List TensorP) (tbl : List IRValue),
      ps.all (fun t => wfTensor t && validDType t.dataType) = true →
      (∀ p ∈ ps, p.name ≠ "") → (ps.map (·.name)).Nodup → (tableNames tbl).Nodup →
      ∃ idxs, desInitializers vis q (ps.map irT) tbl =
          .ok (tbl.map (constFrom ps) ++ (newInits (tableNames tbl) ps).map (initValT vis q), idxs) ∧
        idxs.map some = ps.map (fun p =>
          lookupLast (tableNames (tbl.map (constFrom ps) ++ (newInits (tableNames tbl) ps).map (initValT vis q))) p.name)
  | [], tbl, _, _, _, _ => by
    refine ⟨[], ?_, rfl⟩
    have : tbl.map (constFrom []) = tbl := by
      have : constFrom [] = id := by funext v; simp [constFrom]
      rw [this, List.map_id]
    simp [desInitializers, newInits, this]
  | p :: ps, tbl, hwf, hne, hnd, htbl => by
    simp only [List.all_cons, Bool.and_eq_true] at hwf
    obtain ⟨⟨hw, hv⟩, hwf'⟩ := hwf
    simp only [List.map_cons, List.nodup_cons] at hnd
    have hpn : p.name ≠ "" := hne p (by simp)
    have hname : (irT p).name = p.name := (irT_spec p hw).2.2.1
    have hrest : ∀ p' ∈ ps, p'.name ≠ "" := fun p' hp' => hne p' (List.mem_cons_of_mem _ hp')
    -- names of the final table
    have hnamesF : ∀ (tb : List IRValue) (qs l : List TensorP),
        tableNames (tb.map (constFrom qs) ++ l.map (initValT vis q))
          = tableNames tb ++ l.map (·.name) := by
      intro tb qs l
      simp [tableNames, List.map_map, Function.comp_def]
    cases hl : lookupLast (tableNames tbl) p.name with
    | some i =>
      -- the initializer names an existing value (a graph input)
      have hmem : p.name ∈ tableNames tbl := lookupLast_mem hl
      have hupd : listSet tbl i (setConst (irT p) (tbl.getD i (IRValue.blank ""))) =
          updName tbl p.name (setConst (irT p)) := listSet_eq_updName htbl hl _
      have hnames1 : tableNames (updName tbl p.name (setConst (irT p))) = tableNames tbl :=
        tableNames_updName _ _ _ (fun _ => rfl)
      obtain ⟨idxs, h1, h2⟩ := desInitializers_spec vis q hvis ps
        (updName tbl p.name (setConst (irT p))) hwf' hrest hnd.2 (by rw [hnames1]; exact htbl)
      have htbl_eq : (updName tbl p.name (setConst (irT p))).map (constFrom ps) = tbl.map (constFrom (p :: ps)) := by
        simp only [updName, List.map_map]
        apply List.map_congr_left
        intro v _
        simp only [Function.comp]
        by_cases hvn : v.name = p.name
        · have h1' : constFrom ps (setConst (irT p) v) = setConst (irT p) v :=
            constFrom_of_not_mem (by show v.name ∉ _; rw [hvn]; exact hnd.1)
          rw [if_pos hvn, h1']
          simp [constFrom, hvn]
        · have : ¬ p.name = v.name := fun e => hvn e.symm
          simp [hvn, constFrom, this]
      have hnew : newInits (tableNames tbl) (p :: ps) = newInits (tableNames tbl) ps := by
        simp [newInits, hmem]
      refine ⟨i :: idxs, ?_, ?_⟩
      · simp only [List.map_cons, desInitializers, hname, hpn, if_false, hl,
          (irT_dtype p hw hv).1, bind, Except.bind]
        have := h1
        rw [hnames1, htbl_eq] at this
        simp only [setConst] at hupd
        simp only [hupd, this, hnew]
      · rw [hnames1, htbl_eq] at h2
        simp only [List.map_cons, h2, hnew, List.cons.injEq, and_true]
        symm
        apply lookupLast_of_nodup
        · rw [hnamesF]
          exact nodup_append_newInits htbl hnd.2
        · rw [hnamesF]
          have := lookupLast_getElem hl
          rw [List.getElem?_append_left (lookupLast_lt hl)]
          exact this
    | none =>
      have hnm : p.name ∉ tableNames tbl := lookupLast_none_not_mem hl
      have hdt := irT_dtype p hw hv
      have hnames1 : tableNames (tbl ++ [initValT vis q p]) = tableNames tbl ++ [p.name] := by
        simp [tableNames]
      have htbl1 : (tableNames (tbl ++ [initValT vis q p])).Nodup := by
        rw [hnames1, List.nodup_append]
        refine ⟨htbl, by simp, ?_⟩
        intro a ha b hb e
        simp only [List.mem_singleton] at hb
        subst hb; subst e; exact hnm ha
      obtain ⟨idxs, h1, h2⟩ := desInitializers_spec vis q hvis ps
        (tbl ++ [initValT vis q p]) hwf' hrest hnd.2 htbl1
      have hcf1 : ∀ v ∈ tbl, constFrom ps v = constFrom (p :: ps) v := by
        intro v hv'
        have : ¬ p.name = v.name := by
          intro e; exact hnm (by rw [e]; exact List.mem_map_of_mem hv')
        simp [constFrom, this]
      have hcf2 : constFrom ps (initValT vis q p) = initValT vis q p :=
        constFrom_of_not_mem (by rw [initValT_name]; exact hnd.1)
      have hnew1 : newInits (tableNames (tbl ++ [initValT vis q p])) ps = newInits (tableNames tbl) ps := by
        simp only [newInits, hnames1]
        apply List.filter_congr
        intro p' hp'
        have : ¬ p'.name = p.name := by
          intro e; exact hnd.1 (by rw [← e]; exact List.mem_map_of_mem hp')
        simp [this]
      have hnew : newInits (tableNames tbl) (p :: ps) = p :: newInits (tableNames tbl) ps := by
        simp [newInits, hnm]
      have hfinal : (tbl ++ [initValT vis q p]).map (constFrom ps)
            ++ (newInits (tableNames (tbl ++ [initValT vis q p])) ps).map (initValT vis q)
          = tbl.map (constFrom (p :: ps)) ++ (newInits (tableNames tbl) (p :: ps)).map (initValT vis q) := by
        rw [hnew1, hnew]
        simp only [List.map_append, List.map_cons, List.map_nil, hcf2, List.append_assoc,
          List.singleton_append]
        congr 1
        exact List.map_congr_left hcf1
      rw [hfinal] at h1 h2
      refine ⟨tbl.length :: idxs, ?_, ?_⟩
      · simp only [List.map_cons, desInitializers, hname, hpn, if_false, hl, hdt.1,
          newInitValue_eq vis q hvis p hw hv, h1, bind, Except.bind]
      · simp only [List.map_cons, h2, List.cons.injEq, and_true]
        symm
        apply lookupLast_of_nodup
        · rw [hnamesF]
          exact nodup_append_newInits htbl (List.nodup_cons.2 hnd)
        · rw [hnamesF, hnew]
          simp [tableNames]

theorem declareOutputs_spec (vis : List ValueInfoP) (q : List AnnotP) (hvis : vis.all wfVI = true) :
    ∀ (outs : List String) (tbl : List IRValue),
      (∀ n ∈ outs.filter (· ≠ ""), n ∉ tableNames tbl) → (outs.filter (· ≠ "")).Nodup →
      declareOutputs vis q outs tbl = .ok (tbl ++ (outs.filter (· ≠ "")).map (newValueT vis q))
  | [], tbl, _, _ => by simp [declareOutputs]
  | n :: ns, tbl, hdis, hnd => by
    by_cases hn : n = ""
    · subst hn
      simp only [declareOutputs, if_true]
      have : (("" : String) :: ns).filter (· ≠ "") = ns.filter (· ≠ "") := by simp
      rw [this] at hdis hnd ⊢
      exact declareOutputs_spec vis q hvis ns tbl hdis hnd
    · have hf : (n :: ns).filter (· ≠ "") = n :: ns.filter (· ≠ "") := by simp [hn]
      rw [hf] at hdis hnd ⊢
      rw [List.nodup_cons] at hnd
      have hnm : n ∉ tableNames tbl := hdis n (by simp)
      simp only [declareOutputs, hn, if_false, lookupLast_none hnm, newValue_eq vis q n hvis, bind,
        Except.bind]
      rw [declareOutputs_spec vis q hvis ns (tbl ++ [newValueT vis q n])]
      · simp
      · intro m hm hmem
        simp only [tableNames_append, List.mem_append] at hmem
        rcases hmem with hmem | hmem
        · exact hdis m (List.mem_cons_of_mem _ hm) hmem
        · simp [tableNames] at hmem
          subst hmem
          exact hnd.1 hm
      · exact hnd.2

theorem nodeOutNames_cons (n : NodeP) (ns : List NodeP) :
    nodeOutNames (n :: ns) = n.outputs.filter (· ≠ "") ++ nodeOutNames ns := by
  simp [nodeOutNames]

theorem declareAll_spec (vis : List ValueInfoP) (q : List AnnotP) (hvis : vis.all wfVI = true) :
    ∀ (nodes : List NodeP) (tbl : List IRValue),
      (∀ n ∈ nodeOutNames nodes, n ∉ tableNames tbl) → (nodeOutNames nodes).Nodup →
      declareAll vis q nodes tbl = .ok (tbl ++ (nodeOutNames nodes).map (newValueT vis q))
  | [], tbl, _, _ => by simp [declareAll, nodeOutNames]
  | n :: ns, tbl, hdis, hnd => by
    rw [nodeOutNames_cons] at hdis hnd ⊢
    rw [List.nodup_append] at hnd
    obtain ⟨hnd1, hnd2, hnd3⟩ := hnd
    simp only [declareAll, bind, Except.bind]
    rw [declareOutputs_spec vis q hvis n.outputs tbl
      (fun m hm => hdis m (List.mem_append_left _ hm)) hnd1]
    simp only
    rw [declareAll_spec vis q hvis ns]
    · simp
    · intro m hm hmem
      simp only [tableNames_append, List.mem_append] at hmem
      rcases hmem with hmem | hmem
      · exact hdis m (List.mem_append_right _ hm) hmem
      · simp only [tableNames, List.map_map, List.mem_map, Function.comp] at hmem
        obtain ⟨a, ha, hae⟩ := hmem
        simp only [newValueT_name] at hae
        subst hae
        exact hnd3 a ha a hm rfl
    · exact hnd2

/-- a value that is a graph output takes the info of the output entry -/
def outUpd (outputs : List ValueInfoP) (v : IRValue) : IRValue :=
  match outputs.find? (fun vi => vi.name = v.name) with
  | some vi => applyInfoT v vi
  | none => v

@[simp] theorem outUpd_name (outputs : List ValueInfoP) (v : IRValue) : (outUpd outputs v).name = v.name := by
  unfold outUpd; split <;> rfl

def gOutT (names : List String) (vi : ValueInfoP) : IRGOut :=
  match lookupLast names vi.name with
  | some i => .tbl i
  | none => .dangling (applyInfoT (IRValue.blank vi.name) vi)

/-- `gOutT` reads only the name of an entry that the scope declares: a name-keeping map of the entries that changes
only such entries is not seen -/
theorem gOutT_map (names : List String) (f : ValueInfoP → ValueInfoP) (hf : ∀ vo, (f vo).name = vo.name)
    (outputs : List ValueInfoP) (h : ∀ vo ∈ outputs, f vo ≠ vo → (lookupLast names vo.name).isSome) :
    (outputs.map f).map (gOutT names) = outputs.map (gOutT names) := by
  rw [List.map_map]
  apply List.map_congr_left
  intro vo hvo
  by_cases hm : f vo = vo
  · simp only [Function.comp, hm]
  · have hs := h vo hvo hm
    simp only [Function.comp, gOutT, hf]
    cases hl : lookupLast names vo.name with
    | none => simp [hl] at hs
    | some i => rfl

/-- what the output phase does to a value in general (several entries may carry its name): every
entry of its name is applied, in order -/
def outUpdAll (outputs : List ValueInfoP) (v : IRValue) : IRValue :=
  (outputs.filter (fun vi => vi.name = v.name)).foldl applyInfoT v

@[simp] theorem outUpdAll_name (outputs : List ValueInfoP) (v : IRValue) :
    (outUpdAll outputs v).name = v.name := foldl_applyInfoT_name _ v

/-- entries with one name are identical -/
def ConsOut (outputs : List ValueInfoP) : Prop :=
  ∀ a ∈ outputs, ∀ b ∈ outputs, a.name = b.name → a = b

theorem consOutputs_iff {l : List ValueInfoP} : consOutputs l = true ↔ ConsOut l := by
  induction l with
  | nil => simp [consOutputs, ConsOut]
  | cons x xs ih =>
    simp only [consOutputs, Bool.and_eq_true, List.all_eq_true, decide_eq_true_eq, ih]
    constructor
    · rintro ⟨h1, h2⟩ a ha b hb hn
      rcases List.mem_cons.1 ha with ea | ha' <;> rcases List.mem_cons.1 hb with eb | hb'
      · rw [ea, eb]
      · rw [ea] at hn ⊢; exact (h1 b hb' hn.symm).symm
      · rw [eb] at hn ⊢; exact h1 a ha' hn
      · exact h2 a ha' b hb' hn
    · intro h
      exact ⟨fun w hw hn => h w (List.mem_cons_of_mem _ hw) x List.mem_cons_self hn,
        fun a ha b hb hn => h a (List.mem_cons_of_mem _ ha) b (List.mem_cons_of_mem _ hb) hn⟩

theorem consOut_of_nodup {l : List ValueInfoP} (h : (l.map (·.name)).Nodup) : ConsOut l := by
  intro a ha b hb hn
  induction l with
  | nil => cases ha
  | cons x xs ih =>
    simp only [List.map_cons, List.nodup_cons] at h
    rcases List.mem_cons.1 ha with ea | ha' <;> rcases List.mem_cons.1 hb with eb | hb'
    · rw [ea, eb]
    · exact absurd (by rw [← ea, hn]; exact List.mem_map_of_mem hb') h.1
    · exact absurd (by rw [← eb, ← hn]; exact List.mem_map_of_mem ha') h.1
    · exact ih h.2 ha' hb'

theorem ConsOut.tail {x : ValueInfoP} {xs : List ValueInfoP} (h : ConsOut (x :: xs)) : ConsOut xs :=
  fun a ha b hb hn => h a (List.mem_cons_of_mem _ ha) b (List.mem_cons_of_mem _ hb) hn

theorem filter_of_group {outputs : List ValueInfoP} {vo : ValueInfoP}
    (hall : ∀ x ∈ outputs, x.name = vo.name → x = vo) (hvo : vo ∈ outputs) :
    ∃ k, outputs.filter (fun vi => vi.name = vo.name) = List.replicate (k + 1) vo := by
  have hall' : ∀ x ∈ outputs.filter (fun vi => vi.name = vo.name), x = vo := by
    intro x hx
    obtain ⟨hx1, hx2⟩ := List.mem_filter.1 hx
    exact hall x hx1 (by simpa using hx2)
  have hmem : vo ∈ outputs.filter (fun vi => vi.name = vo.name) := List.mem_filter.2 ⟨hvo, by simp⟩
  have hrep := List.eq_replicate_iff.2 ⟨rfl, hall'⟩
  have hlen : (outputs.filter (fun vi => vi.name = vo.name)).length ≠ 0 := by
    intro e
    rw [List.length_eq_zero_iff] at e
    rw [e] at hmem; cases hmem
  exact ⟨(outputs.filter (fun vi => vi.name = vo.name)).length - 1, by
    rw [hrep]; congr 1; simp only [List.length_replicate]; omega⟩

theorem filter_of_consOut {outputs : List ValueInfoP} (h : ConsOut outputs) {vo : ValueInfoP}
    (hvo : vo ∈ outputs) :
    ∃ k, outputs.filter (fun vi => vi.name = vo.name) = List.replicate (k + 1) vo :=
  filter_of_group (fun x hx hn => h x hx vo hvo hn) hvo

/-- where the entries named like `v` are identical, applying all of them is applying the first -/
theorem outUpdAll_of_group {outputs : List ValueInfoP} (v : IRValue)
    (hall : ∀ x ∈ outputs, ∀ y ∈ outputs, x.name = v.name → y.name = v.name → x = y) :
    outUpdAll outputs v = outUpd outputs v := by
  unfold outUpdAll outUpd
  cases hf : outputs.find? (fun vi => vi.name = v.name) with
  | none =>
    have : outputs.filter (fun vi => vi.name = v.name) = [] := by
      rw [List.filter_eq_nil_iff]
      intro a ha
      exact List.find?_eq_none.1 hf a ha
    rw [this]; rfl
  | some vo =>
    have hvo : vo ∈ outputs := List.mem_of_find?_eq_some hf
    have hn : vo.name = v.name := by simpa using List.find?_some hf
    obtain ⟨k, hk⟩ := filter_of_group (fun x hx hxn => hall x hx vo hvo (hxn.trans hn) hn) hvo
    rw [hn] at hk
    rw [hk, foldl_applyInfoT_replicate]

theorem outUpdAll_of_cons {outputs : List ValueInfoP} (h : ConsOut outputs) (v : IRValue) :
    outUpdAll outputs v = outUpd outputs v :=
  outUpdAll_of_group v fun x hx y hy hxn hyn => h x hx y hy (hxn.trans hyn.symm)

/-- the output phase in general: no condition on the names of the entries -/
theorem desGraphOutputs_specAll : ∀ (outputs : List ValueInfoP) (tbl : List IRValue),
    outputs.all wfVI = true → (tableNames tbl).Nodup →
    desGraphOutputs outputs tbl =
      .ok (outputs.map (gOutT (tableNames tbl)), tbl.map (outUpdAll outputs))
  | [], tbl, _, _ => by
    have : outUpdAll [] = id := by funext v; simp [outUpdAll]
    simp [desGraphOutputs, this]
  | vi :: vis, tbl, hwf, htbl => by
    simp only [List.all_cons, Bool.and_eq_true] at hwf
    have hwt : wfType vi.type = true := by
      have := hwf.1; simp only [wfVI, Bool.and_eq_true] at this; exact this.1
    cases hl : lookupLast (tableNames tbl) vi.name with
    | some i =>
      have hupd := listSet_eq_updName htbl hl (fun v => applyInfoT v vi)
      have hnames1 : tableNames (updName tbl vi.name (fun v => applyInfoT v vi)) = tableNames tbl :=
        tableNames_updName _ _ _ (fun _ => rfl)
      have ih := desGraphOutputs_specAll vis (updName tbl vi.name (fun v => applyInfoT v vi)) hwf.2
        (by rw [hnames1]; exact htbl)
      have htbl_eq : (updName tbl vi.name (fun v => applyInfoT v vi)).map (outUpdAll vis)
          = tbl.map (outUpdAll (vi :: vis)) := by
        simp only [updName, List.map_map]
        apply List.map_congr_left
        intro v _
        simp only [Function.comp]
        by_cases hvn : v.name = vi.name
        · rw [if_pos hvn]
          simp [outUpdAll, hvn]
        · have : ¬ vi.name = v.name := fun e => hvn e.symm
          simp [hvn, outUpdAll, this]
      simp only [desGraphOutputs, hl, (applyInfo_eq _ vi hwt).1, bind, Except.bind]
      rw [hupd, ih, hnames1, htbl_eq]
      simp [gOutT, hl]
    | none =>
      have hnm : vi.name ∉ tableNames tbl := lookupLast_none_not_mem hl
      have ih := desGraphOutputs_specAll vis tbl hwf.2 htbl
      have htbl_eq : tbl.map (outUpdAll vis) = tbl.map (outUpdAll (vi :: vis)) := by
        apply List.map_congr_left
        intro v hv
        have : ¬ vi.name = v.name := by
          intro e; exact hnm (by rw [e]; exact List.mem_map_of_mem hv)
        simp [outUpdAll, this]
      simp only [desGraphOutputs, hl, (applyInfo_eq _ vi hwt).1, bind, Except.bind, ih, htbl_eq]
      simp [gOutT, hl]

theorem desGraphOutputs_spec (outputs : List ValueInfoP) (tbl : List IRValue)
    (hwf : outputs.all wfVI = true) (hc : ConsOut outputs) (htbl : (tableNames tbl).Nodup) :
    desGraphOutputs outputs tbl =
      .ok (outputs.map (gOutT (tableNames tbl)), tbl.map (outUpd outputs)) := by
  rw [desGraphOutputs_specAll outputs tbl hwf htbl]
  congr 2
  apply List.map_congr_left
  intro v _
  exact outUpdAll_of_cons hc v

/-- the IR-version gate lets multi-device fields through -/
def verAllows : Option Int → Bool
  | none => true
  | some v => decide (11 ≤ v)

/-- what the node list of a well-formed graph must satisfy (provided by the mutual induction) -/
def NodesOK (outer : Scopes) (vis : List ValueInfoP) (q : List AnnotP) (nodes : List NodeP)
    (ver : Option Int) : Prop :=
  ∀ tbl : List IRValue, wfNodes (tableNames tbl :: outer) nodes = true →
    ∃ xs, desNodes outer vis q nodes tbl = .ok (xs, tbl) ∧
      serNodes (tableNames tbl :: outer) ver xs = .ok (normNodes nodes) ∧
      xs.flatMap IRNode.outputs =
        (nodes.flatMap NodeP.outputs).map
          (fun s => if s = "" then none else lookupLast (tableNames tbl) s)

end IrVerif.Serde
