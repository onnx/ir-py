/-
C10 helper lemmas: system calls that are RESTRICTIONS of the kernel's (they may fail where the kernel
would resolve - ENAMETOOLONG, EACCES - but what they return is what the kernel returns), and the two
instances: PATH_MAX only (`sysP`), PATH_MAX + search permissions (`sysA`).
-/
import IrVerif.Lemmas.PathNoLink
namespace IrVerif.Path

/-- `sys` is a restriction of the kernel's system calls on the tree `fs` (for the process whose working
directory is `cwd`), and an `open` that succeeds implies that `os.stat` of the same string does (the same
resolution; `open` needs more permissions, never fewer) -/
structure SysOK (fs : FS) (kfuel : Nat) (cwd : Loc) (sys : Sys) : Prop where
  lstat_r : ∀ p nd, sys.lstat p = some nd → lstat fs kfuel cwd p = some nd
  statFile_r : ∀ p x, sys.statFile p = some x → statFile fs kfuel cwd p = some x
  statId_r : ∀ p x, sys.statId p = some x → statId fs kfuel cwd p = some x
  open_r : ∀ p x, sys.openF p = some x → openFile fs kfuel cwd p = some x
  open_stat : ∀ p x, sys.openF p = some x → sys.statFile p ≠ none ∧ sys.statId p ≠ none

theorem openFile_some (fs : FS) (kfuel : Nat) (cwd : Loc) (p : Str) (i : Nat) (reg : Bool)
    (h : openFile fs kfuel cwd p = some (i, reg)) :
    ∃ l, kresolve fs kfuel cwd p true = some l ∧ fs.get l = some (if reg then Node.file i else Node.other i) := by
  unfold openFile at h
  split at h
  · exact absurd h (by simp)
  cases hk : kresolve fs kfuel cwd p true with
  | none => simp [hk] at h
  | some l =>
    cases hg : fs.get l with
    | none => simp [hk, hg] at h
    | some n =>
      cases n <;> simp [hk, hg] at h
      all_goals obtain ⟨rfl, rfl⟩ := h; exact ⟨l, rfl, hg⟩

theorem lstatRestr_P (fs : FS) (f : Nat) (cwd : Loc) : LstatRestr fs f cwd (lstatP fs f cwd) := by
  intro p nd h
  unfold lstatP at h
  split at h
  · exact absurd h (by simp)
  · exact h

theorem lstatP_short (fs : FS) (kf : Nat) (cwd : Loc) {p : Str} (h : p.length < PATH_MAX) :
    lstatP fs kf cwd p = lstat fs kf cwd p := by
  unfold lstatP
  rw [if_neg (by omega)]

theorem sysP_ok (fs : FS) (kfuel : Nat) (cwd : Loc) : SysOK fs kfuel cwd (sysP fs kfuel cwd) where
  lstat_r := lstatRestr_P fs kfuel cwd
  statFile_r := by
    intro p x h
    simp only [sysP, statFileP] at h
    split at h
    · exact absurd h (by simp)
    · exact h
  statId_r := by
    intro p x h
    simp only [sysP, statIdP] at h
    split at h
    · exact absurd h (by simp)
    · exact h
  open_r := fun _ _ h => h
  open_stat := by
    intro p ⟨i, reg⟩ h
    simp only [sysP] at h ⊢
    have hlen : ¬ PATH_MAX ≤ p.length := by
      intro hl; unfold openFile at h; simp [hl] at h
    obtain ⟨l, hk, hkind⟩ := openFile_some fs kfuel cwd p i reg h
    unfold statFileP statIdP statFile statId
    simp only [hlen, if_false, hk]
    cases reg <;> simp [hkind]

/-- the walk with search permissions is a restriction of the walk -/
theorem walkA_restr (fs : FS) (search : Loc → Bool) : ∀ (f : Nat) (comps : List Str) (cur l : Loc) (fl : Bool),
    walkA fs search f cur comps fl = some l → walk fs f cur comps fl = some l := by
  intro f
  induction f using Nat.strongRecOn with
  | _ f ihf =>
    intro comps
    induction comps with
    | nil => intro cur l fl h; rw [walkA] at h; rw [walk_nil]; exact h
    | cons c rest ih =>
      intro cur l fl h
      rw [walkA] at h
      cases hg : fs.get cur with
      | none => simp [hg] at h
      | some nd =>
        cases nd with
        | file i => simp [hg] at h
        | other i => simp [hg] at h
        | link t => simp [hg] at h
        | dir =>
          simp only [hg] at h
          by_cases hc0 : c = []
          · simp only [hc0, if_true] at h
            rw [hc0, walk_step_skip fs f cur [] rest fl hg (Or.inl rfl)]
            exact ih _ _ _ h
          · simp only [hc0, if_false] at h
            by_cases hs : search cur = false
            · simp [hs] at h
            · simp only [hs] at h
              by_cases hc1 : c = DOT
              · simp only [hc1, if_true] at h
                rw [hc1, walk_step_skip fs f cur DOT rest fl hg (Or.inr rfl)]
                exact ih _ _ _ h
              · simp only [hc1, if_false] at h
                by_cases hc2 : c = DOTDOT
                · simp only [hc2, if_true] at h
                  rw [hc2, walk_step_up fs f cur rest fl hg]
                  exact ih _ _ _ h
                · simp only [hc2, if_false] at h
                  have h1 : ¬ (c = [] ∨ c = DOT) := by rintro (e | e); exact hc0 e; exact hc1 e
                  cases hn : fs.get (cur ++ [c]) with
                  | none => simp [hn] at h
                  | some n =>
                    cases n with
                    | link t =>
                      simp only [hn] at h
                      rw [walk]
                      simp only [hg, h1, hc2, if_false, hn]
                      by_cases hlast : rest = [] ∧ fl = false
                      · simp only [hlast, and_self, if_true] at h ⊢
                        exact h
                      · simp only [hlast, if_false] at h ⊢
                        cases f with
                        | zero => simp at h
                        | succ f' =>
                          simp only at h ⊢
                          exact ihf f' (by omega) _ _ _ _ h
                    | _ =>
                      simp only [hn] at h
                      rw [walk_step_plain fs f cur c rest fl hg h1 hc2 _ hn (by simp)]
                      exact ih _ _ _ h

theorem kresolveA_restr (fs : FS) (search : Loc → Bool) (f : Nat) (cwd : Loc) (p : Str) (fl : Bool) (l : Loc)
    (h : kresolveA fs search f cwd p fl = some l) :
    kresolve fs f cwd p fl = some l ∧ ¬ PATH_MAX ≤ p.length := by
  unfold kresolveA at h
  split at h
  · exact absurd h (by simp)
  · rename_i hc
    have hne : p ≠ [] := fun e => hc (Or.inl e)
    have hlen : ¬ PATH_MAX ≤ p.length := fun e => hc (Or.inr e)
    refine ⟨?_, hlen⟩
    rw [kresolve_of_ne fs f cwd hne]
    exact walkA_restr fs search f _ _ _ _ h

theorem sysA_ok (fs : FS) (search : Loc → Bool) (kfuel : Nat) (cwd : Loc) :
    SysOK fs kfuel cwd (sysA fs search kfuel cwd) where
  lstat_r := by
    intro p nd h
    simp only [sysA] at h
    cases hk : kresolveA fs search kfuel cwd p false with
    | none => simp [hk] at h
    | some l =>
      simp only [hk] at h
      unfold lstat
      rw [(kresolveA_restr fs search kfuel cwd p false l hk).1]
      exact h
  statFile_r := by
    intro p x h
    simp only [sysA] at h
    cases hk : kresolveA fs search kfuel cwd p true with
    | none => simp [hk] at h
    | some l =>
      simp only [hk] at h
      unfold statFile
      rw [(kresolveA_restr fs search kfuel cwd p true l hk).1]
      exact h
  statId_r := by
    intro p x h
    simp only [sysA] at h
    cases hk : kresolveA fs search kfuel cwd p true with
    | none => simp [hk] at h
    | some l =>
      simp only [hk] at h
      unfold statId
      rw [(kresolveA_restr fs search kfuel cwd p true l hk).1]
      exact h
  open_r := by
    intro p x h
    simp only [sysA] at h
    cases hk : kresolveA fs search kfuel cwd p true with
    | none => simp [hk] at h
    | some l =>
      simp only [hk] at h
      obtain ⟨hk', hlen⟩ := kresolveA_restr fs search kfuel cwd p true l hk
      unfold openFile
      simp only [hlen, if_false, hk']
      exact h
  open_stat := by
    intro p x h
    simp only [sysA] at h ⊢
    cases hk : kresolveA fs search kfuel cwd p true with
    | none => simp [hk] at h
    | some l =>
      simp only [hk] at h ⊢
      cases hg : fs.get l with
      | none => simp [hg] at h
      | some nd =>
        cases nd with
        | link t => simp [hg] at h
        | dir => simp [hg] at h
        | file i => simp
        | other i => simp


/-! ### the PATH_MAX model is the instance `sysP` of the general model -/

@[simp] theorem sysP_lstat (fs : FS) (kf : Nat) (cwd : Loc) (p : Str) :
    (sysP fs kf cwd).lstat p = lstatP fs kf cwd p := rfl

/-- same text with `sys.lstat` for `lstatP`: every branch unfolds once and the branch conditions decide the rest -/
theorem joinRealP_eq_V (fs : FS) (kf : Nat) (cwd : Loc) : ∀ fuel path rest seen,
    joinRealP fs kf cwd fuel path rest seen = joinRealV (sysP fs kf cwd) fuel path rest seen := by
  intro fuel path rest seen
  fun_induction joinRealP fs kf cwd fuel path rest seen <;> rw [joinRealV] <;> simp_all +zetaDelta

theorem realpathP_eq_V (fs : FS) (kf fuel : Nat) (cwdS : Str) (cwd : Loc) (p : Str) :
    realpathP fs kf fuel cwdS cwd p = realpathV (sysP fs kf cwd) fuel cwdS p := by
  unfold realpathP realpathV
  rw [joinRealP_eq_V]

theorem checkContainmentP_eq_V (fs : FS) (kf fuel : Nat) (cwdS : Str) (cwd : Loc) (base loc : Str) :
    checkContainmentP fs kf fuel cwdS cwd base loc = checkContainmentV (sysP fs kf cwd) fuel cwdS base loc := by
  unfold checkContainmentP checkContainmentV
  simp only [realpathP_eq_V]
  rfl

theorem readP_eq_V (fs : FS) (kf fuel : Nat) (cwdS : Str) (cwd : Loc) (base loc : Str) (offset length : Nat) :
    readP fs kf fuel cwdS cwd base loc offset length =
      readV (sysP fs kf cwd) fs.data fuel cwdS base loc offset length := by
  unfold readP readV
  simp only [checkContainmentP_eq_V]
  rfl

/-! ### evaluating the non-strict `realpath` on the rendering of a location none of whose prefixes it
takes for a link -/

theorem joinRealV_plain (sys : Sys) (fuel : Nat) : ∀ (suf : List Str) (pre : Loc) (seen : Seen),
    (∀ c ∈ pre, Clean c) → (∀ c ∈ suf, Clean c) →
    (∀ k, k < suf.length → ∀ t, sys.lstat (render (pre ++ suf.take (k + 1))) ≠ some (Node.link t)) →
    joinRealV sys fuel (render pre) suf seen = (render (pre ++ suf), true, seen) := by
  intro suf
  induction suf with
  | nil => intro pre seen _ _ _; rw [joinRealV]; simp
  | cons c rest ih =>
    intro pre seen hpre hsuf hnl
    have hc : Clean c := hsuf c (by simp)
    have hj : pjoin (render pre) c = render (pre ++ [c]) :=
      pjoin_render pre c (fun x hx => (hpre x hx).piece) hc.piece
    have h0 := hnl 0 (by simp)
    simp only [Nat.zero_add, List.take_succ_cons, List.take_zero] at h0
    rw [joinRealV]
    simp only [(not_special_of_clean hc).1, (not_special_of_clean hc).2, if_false, hj]
    have hrec := ih (pre ++ [c]) seen
      (clean_snoc hpre hc)
      (fun x hx => hsuf x (by simp [hx]))
      (by
        intro k hk t
        have := hnl (k + 1) (by simp; omega) t
        simpa [List.take_succ_cons] using this)
    have e : pre ++ [c] ++ rest = pre ++ c :: rest := by simp
    rw [e] at hrec
    cases hl : sys.lstat (render (pre ++ [c])) with
    | none => exact hrec
    | some nd =>
      cases nd with
      | link t => exact absurd hl (h0 t)
      | _ => exact hrec

/-- the non-strict `realpath` over ANY system calls leaves the rendering of a location alone when it
takes none of its prefixes for a link (with the working directory "/") -/
theorem realpathV_render (sys : Sys) (fuel : Nat) (l : Loc) (hl : ∀ c ∈ l, Clean c)
    (hnl : ∀ k, k < l.length → ∀ t, sys.lstat (render (l.take (k + 1))) ≠ some (Node.link t)) :
    realpathV sys fuel (render []) (render l) = render l := by
  have hre : Rep [] (render l) l := Rep.abs l hl
  unfold realpathV
  simp only [isabs_render, if_true]
  have ht : (render l).tail = joinSep l := by simp [render]
  rw [ht]
  by_cases hne : l = []
  · subst hne
    have : splitSep (joinSep ([] : Loc)) = [[]] := by decide
    rw [this, joinRealV]
    simp only [true_or, if_true]
    rw [joinRealV]
    decide
  · rw [splitSep_joinSep l (fun c hc => (hl c hc).2.2.2) hne]
    have e : (['/'] : Str) = render [] := by simp [render, joinSep]
    rw [e, joinRealV_plain sys fuel l [] [] (by simp) hl (by simpa using hnl)]
    simp only [List.nil_append]
    exact hre.abspath_eq (by simp)

/-! ### what the kernel's `os.stat` / `open` answers say; the passing check over any system calls -/

theorem openFile_none_of_kresolve (fs : FS) (kfuel : Nat) (cwd : Loc) (p : Str)
    (h : kresolve fs kfuel cwd p true = none) : openFile fs kfuel cwd p = none := by
  unfold openFile; rw [h]; simp

theorem statId_ino (fs : FS) (f : Nat) (cwd : Loc) (p : Str) (i : Nat)
    (h : statId fs f cwd p = some (StatId.ino i)) :
    ∃ l, kresolve fs f cwd p true = some l ∧ fs.get l = some (Node.file i) := by
  unfold statId at h
  cases hk : kresolve fs f cwd p true with
  | none => simp [hk] at h
  | some l =>
    cases hg : fs.get l with
    | none => simp [hk, hg] at h
    | some n => cases n <;> simp [hk, hg] at h; subst h; exact ⟨l, rfl, hg⟩

theorem statId_dir (fs : FS) (f : Nat) (cwd : Loc) (p : Str) (bl : Loc)
    (h : statId fs f cwd p = some (StatId.dir bl)) :
    kresolve fs f cwd p true = some bl ∧ fs.get bl = some Node.dir := by
  unfold statId at h
  cases hk : kresolve fs f cwd p true with
  | none => simp [hk] at h
  | some l =>
    cases hg : fs.get l with
    | none => simp [hk, hg] at h
    | some n => cases n <;> simp [hk, hg] at h; subst h; exact ⟨rfl, hg⟩

theorem statId_of_file (fs : FS) (f : Nat) (cwd : Loc) (p : Str) (l : Loc) (i : Nat)
    (hk : kresolve fs f cwd p true = some l) (hg : fs.get l = some (Node.file i)) :
    statId fs f cwd p = some (StatId.ino i) := by
  unfold statId; simp [hk, hg]

theorem statId_of_dir (fs : FS) (f : Nat) (cwd : Loc) (p : Str) (bl : Loc)
    (hk : kresolve fs f cwd p true = some bl) (hg : fs.get bl = some Node.dir) :
    statId fs f cwd p = some (StatId.dir bl) := by
  unfold statId; simp [hk, hg]

theorem file_of_regular {fs : FS} {l : Loc} {i : Nat} {reg : Bool}
    (hkind : fs.get l = some (if reg then Node.file i else Node.other i)) (hreg : reg = true) :
    fs.get l = some (Node.file i) := by
  rw [hkind, hreg]; rfl

theorem checkContainmentV_pass (sys : Sys) (fuel : Nat) (cwdS : Str) (base loc : Str) (n : Nat) (reg : Bool)
    (hv : checkContainmentV sys fuel cwdS base loc = Verdict.pass) (hb : base ≠ [])
    (hsf : sys.statFile (tensorPath base loc) = some (n, reg)) :
    reg = true ∧ n ≤ 1 ∧
    (∃ a, sys.statId (tensorPath base loc) = some a ∧
      sys.statId (realpathV sys fuel cwdS (tensorPath base loc)) = some a) ∧
    (∃ c, sys.statId base = some c ∧ sys.statId (realpathV sys fuel cwdS base) = some c) ∧
    realpathV sys fuel cwdS (realpathV sys fuel cwdS (tensorPath base loc)) =
      realpathV sys fuel cwdS (tensorPath base loc) ∧
    realpathV sys fuel cwdS (realpathV sys fuel cwdS base) = realpathV sys fuel cwdS base ∧
    noLinkOn sys.lstat (realpathV sys fuel cwdS (tensorPath base loc)) = true ∧
    noLinkOn sys.lstat (realpathV sys fuel cwdS base) = true ∧
    contained (realpathV sys fuel cwdS base) (realpathV sys fuel cwdS (tensorPath base loc)) = true := by
  unfold checkContainmentV at hv
  rw [if_neg hb] at hv
  split at hv
  · cases hv
  split at hv
  · cases hv
  split at hv
  · cases hv
  rename_i hcont
  rw [hsf] at hv
  dsimp only at hv
  split at hv
  · rename_i a b c d ha hb2 hc hd
    split at hv
    · rename_i hall
      simp only [Bool.and_eq_true, decide_eq_true_eq] at hall
      obtain ⟨⟨⟨⟨⟨⟨⟨hab, hcd⟩, hfp⟩, hfb⟩, hn1⟩, hn2⟩, hn⟩, hr⟩ := hall
      exact ⟨hr, hn, ⟨a, ha, hab ▸ hb2⟩, ⟨c, hc, hcd ▸ hd⟩, hfp, hfb, hn1, hn2, by simpa using hcont⟩
    · cases hv
  · cases hv

theorem SysOK.open_file {fs : FS} {kfuel : Nat} {cwd : Loc} {sys : Sys} (hsys : SysOK fs kfuel cwd sys)
    (p : Str) (i : Nat) (reg : Bool) (ho : sys.openF p = some (i, reg)) :
    ∃ l, kresolve fs kfuel cwd p true = some l ∧ fs.get l = some (if reg then Node.file i else Node.other i) ∧
      sys.statFile p = some (fs.nlink i, reg) := by
  obtain ⟨l, hk, hkind⟩ := openFile_some _ _ _ _ _ _ (hsys.open_r _ _ ho)
  refine ⟨l, hk, hkind, ?_⟩
  have hsfK : statFile fs kfuel cwd p = some (fs.nlink i, reg) := by
    unfold statFile
    cases reg <;> simp [hk, hkind]
  cases hq : sys.statFile p with
  | none => exact absurd hq (hsys.open_stat _ _ ho).1
  | some x => rw [← hsfK, hsys.statFile_r _ _ hq]

theorem statIdP_some (fs : FS) (kfuel : Nat) (cwd : Loc) (p : Str) (x : StatId)
    (h : statIdP fs kfuel cwd p = some x) : p.length < PATH_MAX ∧ statId fs kfuel cwd p = some x := by
  unfold statIdP at h
  split at h
  · cases h
  · exact ⟨by omega, h⟩

end IrVerif.Path
