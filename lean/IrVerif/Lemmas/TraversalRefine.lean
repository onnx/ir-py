/-
The two models of `RecursiveGraphIterator` agree while attributes are not edited: the lazily
reading step machine `tStep` (Model/Traversal.lean) is a stuttering refinement of `recStep`
(Model/LinkedSet.lean, all attributes of a node read in one go) under the frame map `TFrame.toR`.
Every `next()` / drain of the fine model that does not run out of its step bound is the same
`next()` / drain of the coarse model, with the same step bound.
-/
import IrVerif.Lemmas.TraversalRun
namespace IrVerif.LinkedSet

/-! ### edits and frames seen through `toR` -/

theorem toR_applyAt (w : TWorld) (g : Nat) (op : Op) :
    (w.applyAt g op).1.toR = (w.toR.applyAt g op).1 ∧ (w.applyAt g op).2 = (w.toR.applyAt g op).2 := ⟨rfl, rfl⟩

theorem dictOf_applyAt (w : TWorld) (g : Nat) (op : Op) (v : Nat) : (w.applyAt g op).1.dictOf v = w.dictOf v := rfl

theorem toR_frame_applyAt (w : TWorld) (d : Dir) (g : Nat) (op : Op) (fr : TFrame) :
    fr.toR (w.applyAt g op).1 d = fr.toR w d := by
  unfold TFrame.toR
  cases fr.mode <;> simp [dictOf_applyAt]

theorem synced_applyAt (w : TWorld) (g : Nat) (op : Op) (fr : TFrame) :
    fr.synced (w.applyAt g op).1 = fr.synced w := by
  unfold TFrame.synced
  cases fr.mode <;> simp [dictOf_applyAt]

theorem toR_fresh (w : TWorld) (d : Dir) (h : Nat) : (TFrame.fresh h).toR w d = RFrame.fresh h := rfl

/-! ### the specifications coincide -/

theorem toR_specAfter (V : Nat → List Out) (w : TWorld) (d : Dir) (v : Nat) :
    specAfter V w.toR d v = tAfter V w d v := by
  simp only [specAfter, tAfter, toR_recurse, toR_visit]; rfl

theorem toR_specLoop (V : Nat → List Out) (w : TWorld) (d : Dir) (g : Nat) (nodes : List Nat) :
    specLoop V w.toR d g nodes = tLoop V w d g nodes := by
  simp only [specLoop, tLoop, toR_specAfter]

theorem toR_specVisit (w : TWorld) (d : Dir) : ∀ (k h : Nat), specVisit w.toR d k h = tVisit w d k h
  | 0, _ => rfl
  | k + 1, h => by
      have : specVisit w.toR d k = tVisit w d k := funext (toR_specVisit w d k)
      simp only [specVisit, tVisit, this, toR_specLoop, RWorld.nodesOf, toR_setOf]

/-! ### one step -/

theorem map_isEmpty {α β : Type} (f : α → β) (l : List α) : (l.map f).isEmpty = l.isEmpty :=
  List.isEmpty_map

/-- **one step of the fine model is one step of the coarse model, or nothing**: a step that only
    advances the dict iterator over an entry that opens no subgraph (a non-graph attribute, a
    `GRAPHS` tuple that is being unpacked, the end of the entries) leaves the coarse frame
    unchanged; every other step is the coarse step, with the same events and the same result.
    In-step dict iterators stay in step (nothing edits the attributes here). -/
theorem tStep_sim (w : TWorld) (d : Dir) (st : List TFrame) (hs : ∀ fr ∈ st, fr.synced w = true) :
    (∀ fr ∈ (tStep w d st).1, fr.synced w = true) ∧
    (((tStep w d st).1.map (TFrame.toR w d) = st.map (TFrame.toR w d) ∧ (tStep w d st).2.1 = [] ∧
        (tStep w d st).2.2 = none) ∨
     recStep w.toR d (st.map (TFrame.toR w d)) =
       ((tStep w d st).1.map (TFrame.toR w d), (tStep w d st).2.1, (tStep w d st).2.2)) := by
  cases st with
  | nil => exact ⟨by simp [tStep], Or.inr (by simp [tStep, recStep])⟩
  | cons fr rest =>
    have hsr : ∀ x ∈ rest, x.synced w = true := fun x hx => hs x (by simp [hx])
    have hsf := hs fr (by simp)
    cases hm : fr.mode with
    | last v =>
      rw [tStep_last w d fr rest v hm]
      have eR : fr.toR w d = ⟨fr.g, fr.c, some v, []⟩ := by simp [TFrame.toR, hm]
      refine ⟨?_, Or.inr ?_⟩
      · intro x hx
        simp only [List.mem_cons] at hx
        rcases hx with rfl | hx
        · split
          · simpa [TFrame.synced] using (start_synced (w.dictOf v)).1
          · simp [TFrame.synced]
        · exact hsr x hx
      · simp only [List.map_cons, eR]
        rw [recStep_last _ d _ _ v rfl]
        simp only [toR_recurse, toR_visit]
        by_cases hr : w.recurse v = true
        · simp [hr, TFrame.toR, (start_synced (w.dictOf v)).2, TWorld.visit, TWorld.toR]
          rfl
        · simp [hr, TFrame.toR, TWorld.toR]
          rfl
    | expand v it pend =>
      have hok : itOk (w.dictOf v) it = true := by simpa [TFrame.synced, hm] using hsf
      cases pend with
      | cons h ps =>
        rw [tStep_pend w d fr rest v it h ps hm]
        refine ⟨?_, Or.inr ?_⟩
        · refine List.forall_mem_cons.2 ⟨?_, List.forall_mem_cons.2 ⟨?_, hsr⟩⟩
          · simp [TFrame.synced, TFrame.fresh]
          · simpa [TFrame.synced] using hok
        · have eR : fr.toR w d = ⟨fr.g, fr.c, none,
              h :: (ps ++ (itRest (w.dictOf v) it).flatMap (fun e => e.2.graphsOf d))⟩ := by
            simp [TFrame.toR, hm]
          have e2 : TFrame.toR w d { fr with mode := .expand v it ps } = ⟨fr.g, fr.c, none,
              ps ++ (itRest (w.dictOf v) it).flatMap (fun e => e.2.graphsOf d)⟩ := by simp [TFrame.toR]
          simp only [List.map_cons, eR]
          rw [recStep_pending _ d _ _ h _ rfl rfl]
          simp only [toR_fresh, e2]
      | nil =>
        have hn := next_synced hok
        cases hl : itRest (w.dictOf v) it with
        | nil =>
          rw [hl] at hn
          rw [tStep_entries_end w d fr rest v it hm hn]
          refine ⟨?_, Or.inl ⟨?_, rfl, rfl⟩⟩
          · refine List.forall_mem_cons.2 ⟨?_, hsr⟩
            simp [TFrame.synced]
          · simp [TFrame.toR, hm, hl]
        | cons e tl =>
          rw [hl] at hn
          obtain ⟨it', hnx, hok', hl'⟩ := hn
          rw [tStep_entry w d fr rest v it it' e.1 e.2 hm hnx]
          obtain ⟨k, a⟩ := e
          cases a with
          | graph h =>
            refine ⟨?_, Or.inr ?_⟩
            · refine List.forall_mem_cons.2 ⟨?_, List.forall_mem_cons.2 ⟨?_, hsr⟩⟩
              · simp [TFrame.synced, TFrame.fresh]
              · simpa [TFrame.synced] using hok'
            · have eR : fr.toR w d = ⟨fr.g, fr.c, none, h :: tl.flatMap (fun e => e.2.graphsOf d)⟩ := by
                simp [TFrame.toR, hm, hl, AVal.graphsOf]
              have e2 : TFrame.toR w d { fr with mode := .expand v it' [] } = ⟨fr.g, fr.c, none,
                  tl.flatMap (fun e => e.2.graphsOf d)⟩ := by simp [TFrame.toR, hl']
              simp only [List.map_cons, eR]
              rw [recStep_pending _ d _ _ h _ rfl rfl]
              simp only [toR_fresh, e2]
          | graphs hs' =>
            refine ⟨?_, Or.inl ⟨?_, rfl, rfl⟩⟩
            · refine List.forall_mem_cons.2 ⟨?_, hsr⟩
              simpa [TFrame.synced] using hok'
            · simp [TFrame.toR, hm, hl, hl', AVal.graphsOf]
          | other =>
            refine ⟨?_, Or.inl ⟨?_, rfl, rfl⟩⟩
            · refine List.forall_mem_cons.2 ⟨?_, hsr⟩
              simpa [TFrame.synced] using hok'
            · simp [TFrame.toR, hm, hl, hl', AVal.graphsOf]
    | loop =>
      have eR : fr.toR w d = ⟨fr.g, fr.c, none, []⟩ := by simp [TFrame.toR, hm]
      cases hres : iterNext (w.setOf fr.g) d fr.c with
      | mk c' res =>
        cases res with
        | yield v =>
          rw [tStep_yield w d fr rest c' v hm hres]
          refine ⟨?_, Or.inr ?_⟩
          · refine List.forall_mem_cons.2 ⟨?_, hsr⟩
            simp [TFrame.synced]
          · simp only [List.map_cons, eR]
            rw [recStep_yield _ d _ _ c' v rfl rfl (by simpa [toR_setOf] using hres)]
            simp [TFrame.toR]
        | stop =>
          rw [tStep_stop w d fr rest c' hm hres]
          refine ⟨hsr, Or.inr ?_⟩
          simp only [List.map_cons, eR]
          rw [recStep_stop _ d _ _ c' rfl rfl (by simpa [toR_setOf] using hres)]
          simp
        | raised =>
          refine ⟨?_, Or.inr ?_⟩
          · intro x hx
            simp only [tStep, hm, hres, List.mem_cons] at hx
            rcases hx with rfl | hx
            · simp [TFrame.synced]
            · exact hsr x hx
          · simp only [List.map_cons, eR]
            simp [tStep, recStep, hm, hres, toR_setOf, TFrame.toR]
        | fuel =>
          refine ⟨?_, Or.inr ?_⟩
          · intro x hx
            simp only [tStep, hm, hres, List.mem_cons] at hx
            rcases hx with rfl | hx
            · simp [TFrame.synced]
            · exact hsr x hx
          · simp only [List.map_cons, eR]
            simp [tStep, recStep, hm, hres, toR_setOf, TFrame.toR]

/-! ### `next()` and drains -/

theorem tNext_synced (w : TWorld) (d : Dir) (f : Nat) (st : List TFrame)
    (hs : ∀ fr ∈ st, fr.synced w = true) : ∀ fr ∈ (tNext w d f st).1, fr.synced w = true := by
  rw [tNext_eq]
  exact (nextBy_inv (step := tStep w d) (I := fun st => ∀ fr ∈ st, fr.synced w = true) (Q := fun _ => True)
    (fun st hs => ⟨(tStep_sim w d st hs).1, fun _ _ => trivial⟩) f st hs).1

/-- **a `next()` of the fine model is the same `next()` of the coarse model** (same step bound;
    same events, same result, corresponding new stacks), provided it does not exhaust the bound -/
theorem tNext_refines (w : TWorld) (d : Dir) (f : Nat) (st : List TFrame)
    (hs : ∀ fr ∈ st, fr.synced w = true) (hf : (tNext w d f st).2.2 ≠ .fuel) :
    (∀ fr ∈ (tNext w d f st).1, fr.synced w = true) ∧
    recNext w.toR d f (st.map (TFrame.toR w d)) =
      ((tNext w d f st).1.map (TFrame.toR w d), (tNext w d f st).2.1, (tNext w d f st).2.2) := by
  rw [tNext_eq] at hf ⊢
  rw [recNext_eq]
  exact nextBy_refines (φ := List.map (TFrame.toR w d)) (tStep_sim w d) f st hs hf

theorem tDrain_refines (w : TWorld) (d : Dir) (f : Nat) (st : List TFrame)
    (hs : ∀ fr ∈ st, fr.synced w = true) (hf : (tDrain w d f st).2 ≠ .fuel) :
    recDrain w.toR d f (st.map (TFrame.toR w d)) = tDrain w d f st := by
  rw [tDrain_eq] at hf ⊢
  rw [recDrain_eq]
  exact drainBy_refines (φ := List.map (TFrame.toR w d)) (tStep_sim w d) f st hs hf

/-! ### histories without attribute edits -/

/-- the answers (events and result) of the `next()` calls of a history, fine model -/
def tRunHist (d : Dir) (fuel : Nat) : TWorld → List TFrame → List TEv → List (List Out × Res)
  | _, _, [] => []
  | w, st, .next :: es =>
      ((tNext w d fuel st).2.1, (tNext w d fuel st).2.2) :: tRunHist d fuel w (tNext w d fuel st).1 es
  | w, st, .edit g op :: es => tRunHist d fuel (w.applyAt g op).1 st es
  | w, st, .setAttr v k a :: es => tRunHist d fuel (w.setAttr v k a) st es
  | w, st, .delAttr v k :: es => tRunHist d fuel (w.delAttr v k).1 st es

/-- the same for the coarse model -/
def recRunHist (d : Dir) (fuel : Nat) : RWorld → List RFrame → List REv → List (List Out × Res)
  | _, _, [] => []
  | w, st, .next :: es =>
      ((recNext w d fuel st).2.1, (recNext w d fuel st).2.2) :: recRunHist d fuel w (recNext w d fuel st).1 es
  | w, st, .edit g op :: es => recRunHist d fuel (w.applyAt g op).1 st es

/-- the events the coarse model knows: `next()` and edits of node sequences -/
def TEv.toREv : TEv → Option REv
  | .edit g op => some (.edit g op)
  | .next => some .next
  | _ => none

/-- no attribute is edited -/
def TEv.noAttr : TEv → Bool
  | .setAttr _ _ _ => false
  | .delAttr _ _ => false
  | _ => true

theorem trav_refines_rec (d : Dir) (fuel : Nat) : ∀ (es : List TEv) (w : TWorld) (st : List TFrame),
    (∀ e ∈ es, e.noAttr = true) → (∀ fr ∈ st, fr.synced w = true) →
    (∀ a ∈ tRunHist d fuel w st es, a.2 ≠ .fuel) →
    recRunHist d fuel w.toR (st.map (TFrame.toR w d)) (es.filterMap TEv.toREv) = tRunHist d fuel w st es
  | [], _, _, _, _, _ => rfl
  | .next :: es, w, st, hn, hs, hf => by
      have h0 : (tNext w d fuel st).2.2 ≠ .fuel := hf _ (by simp [tRunHist])
      obtain ⟨hs', e⟩ := tNext_refines w d fuel st hs h0
      have ih := trav_refines_rec d fuel es w (tNext w d fuel st).1 (fun x hx => hn x (by simp [hx])) hs'
        (fun a ha => hf a (by simp [tRunHist, ha]))
      simp only [List.filterMap_cons, TEv.toREv, recRunHist, tRunHist, e, ih]
  | .edit g op :: es, w, st, hn, hs, hf => by
      have ih := trav_refines_rec d fuel es (w.applyAt g op).1 st (fun x hx => hn x (by simp [hx]))
        (fun fr hfr => by rw [synced_applyAt]; exact hs fr hfr)
        (fun a ha => hf a (by simpa [tRunHist] using ha))
      simp only [List.filterMap_cons, TEv.toREv, recRunHist, tRunHist]
      rw [← ih, (toR_applyAt w g op).1]
      -- the frame map does not read the node sequences
      exact congrArg (fun f => recRunHist d fuel _ (st.map f) _) (funext fun fr => (toR_frame_applyAt w d g op fr).symm)
  | .setAttr v k a :: es, w, st, hn, _, _ => by
      have := hn (.setAttr v k a) (by simp)
      simp [TEv.noAttr] at this
  | .delAttr v k :: es, w, st, hn, _, _ => by
      have := hn (.delAttr v k) (by simp)
      simp [TEv.noAttr] at this

end IrVerif.LinkedSet
