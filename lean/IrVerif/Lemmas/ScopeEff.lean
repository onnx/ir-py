/-
Lemmas about `Model/ScopeEff.lean`: what an effect at one of serde.py's write sites can change, that replaying the
log of the serializer gives the heap `serializeE` returns, and that every logged write is justified by an
initializer (the extended-model version of `serGraph_writes`).
-/
import IrVerif.Model.ScopeEff
import IrVerif.Lemmas.ScopeIdem
namespace IrVerif.Scope

theorem mem_writeSites (e : Effect) (h : e.site ∈ writeSites) : e.kind = .tensor ∧ e.attr = "name" := by
  simp only [writeSites, List.mem_singleton, Effect.site, WriteSite.mk.injEq] at h
  exact h

/-- an effect at a write site of serde.py is a tensor-name write or nothing at all -/
theorem apply_of_site (e : Effect) (w : WorldE) (h : e.site ∈ writeSites) :
    e.apply w = w ∨ ∃ n, e.apply w = { w with st := w.st.setTensorName e.id n } := by
  obtain ⟨hk, ha⟩ := mem_writeSites e h
  obtain ⟨k, i, a, v⟩ := e
  simp only at hk ha
  subst hk; subst ha
  cases v with
  | optName n => exact .inr ⟨n, rfl⟩
  | info _ => exact .inl rfl
  | optNat _ => exact .inl rfl
  | ss _ => exact .inl rfl
  | optSS _ => exact .inl rfl
  | str _ => exact .inl rfl
  | devs _ => exact .inl rfl

/-- the frame of one step -/
structure SameButTensorNames (w w' : WorldE) : Prop where
  root : w'.root = w.root
  ext : w'.ext = w.ext
  vals : w'.st.vals = w.st.vals
  nv : w'.st.nv = w.st.nv
  nt : w'.st.nt = w.st.nt
  nn : w'.st.nn = w.st.nn
  ng : w'.st.ng = w.st.ng
  payload : ∀ t, (w'.st.tens t).data = (w.st.tens t).data ∧ (w'.st.tens t).ty = (w.st.tens t).ty ∧
    (w'.st.tens t).sh = (w.st.tens t).sh

theorem SameButTensorNames.refl (w : WorldE) : SameButTensorNames w w :=
  ⟨rfl, rfl, rfl, rfl, rfl, rfl, rfl, fun _ => ⟨rfl, rfl, rfl⟩⟩

theorem SameButTensorNames.trans {a b c : WorldE} (h1 : SameButTensorNames a b) (h2 : SameButTensorNames b c) :
    SameButTensorNames a c :=
  ⟨h2.root.trans h1.root, h2.ext.trans h1.ext, h2.vals.trans h1.vals, h2.nv.trans h1.nv, h2.nt.trans h1.nt,
    h2.nn.trans h1.nn, h2.ng.trans h1.ng, fun t => by
      obtain ⟨a1, a2, a3⟩ := h1.payload t
      obtain ⟨b1, b2, b3⟩ := h2.payload t
      exact ⟨b1.trans a1, b2.trans a2, b3.trans a3⟩⟩

theorem apply_frame (e : Effect) (w : WorldE) (h : e.site ∈ writeSites) :
    SameButTensorNames w (e.apply w) ∧ ∀ t, t ≠ e.id → (e.apply w).st.tens t = w.st.tens t := by
  rcases apply_of_site e w h with he | ⟨n, he⟩
  · rw [he]; exact ⟨SameButTensorNames.refl w, fun _ _ => rfl⟩
  · rw [he]
    refine ⟨⟨rfl, rfl, rfl, rfl, rfl, rfl, rfl, fun t => ?_⟩, fun t ht => ?_⟩
    · simp only [Store.setTensorName]
      split <;> simp
    · simp only [Store.setTensorName, if_neg ht]

theorem runEffects_frame : ∀ (es : List Effect) (w : WorldE), (∀ e ∈ es, e.site ∈ writeSites) →
    SameButTensorNames w (runEffects es w) ∧
      ∀ t, (∀ e ∈ es, e.id ≠ t) → (runEffects es w).st.tens t = w.st.tens t
  | [], w, _ => ⟨SameButTensorNames.refl w, fun _ _ => rfl⟩
  | e :: es, w, h => by
    obtain ⟨f1, g1⟩ := apply_frame e w (h e List.mem_cons_self)
    obtain ⟨f2, g2⟩ := runEffects_frame es (e.apply w) (fun x hx => h x (List.mem_cons_of_mem _ hx))
    refine ⟨f1.trans f2, fun t ht => ?_⟩
    show (runEffects es (e.apply w)).st.tens t = w.st.tens t
    rw [g2 t (fun x hx => ht x (List.mem_cons_of_mem _ hx)), g1 t (fun he => ht e List.mem_cons_self he.symm)]

/-- replaying the log of name writes = `Store.writes` -/
theorem runEffects_nameWrites : ∀ (ws : Writes) (st : Store) (x : Ext) (g : GraphT),
    runEffects (ws.map nameWrite) ⟨st, x, g⟩ = ⟨st.writes ws, x, g⟩
  | [], st, x, g => by
    simp [runEffects, Store.writes, applyWrites]
  | (t, n) :: ws, st, x, g => by
    have h1 : (nameWrite (t, n)).apply ⟨st, x, g⟩ = ⟨st.setTensorName t n, x, g⟩ := rfl
    show runEffects (ws.map nameWrite) ((nameWrite (t, n)).apply ⟨st, x, g⟩) = _
    rw [h1, runEffects_nameWrites ws]
    simp [Store.writes, applyWrites, Store.setTensorName]

/-! ### every logged write is justified (extended serializer) -/

/-- a write `(t, n)` is justified by an initializer value whose tensor is `t` and whose name is `n` -/
def JustifiedW (vals : Nat → ValueS) (is : List (Name × Nat)) (w : Nat × Option Name) : Prop :=
  ∃ kv ∈ is, (vals kv.2).const = some w.1 ∧ (vals kv.2).name = w.2

theorem JustifiedW.mono {vals : Nat → ValueS} {is js : List (Name × Nat)} {w : Nat × Option Name}
    (h : JustifiedW vals is w) (hsub : ∀ x ∈ is, x ∈ js) : JustifiedW vals js w :=
  Justified.mono h hsub

theorem serInitsE_writes (vals : Nat → ValueS) (x : Ext) (td : TData) (inames : List (Option Name))
    (is : List (Name × Nat)) :
    ∀ w ∈ (serInitsE vals x td inames is).2.2, JustifiedW vals is w := by
  induction is with
  | nil => simp [serInitsE]
  | cons kv is ih =>
    obtain ⟨k, v⟩ := kv
    intro w hw
    simp only [serInitsE] at hw
    split at hw
    · obtain ⟨kv', hkv, h⟩ := ih w hw
      exact ⟨kv', by simp [hkv], h⟩
    · rename_i t ht
      simp only [List.mem_cons] at hw
      rcases hw with rfl | hw
      · exact ⟨(k, v), by simp, by simp [ht]⟩
      · obtain ⟨kv', hkv, h⟩ := ih w hw
        exact ⟨kv', by simp [hkv], h⟩

mutual
theorem serGraphE_writes (vals : Nat → ValueS) (x : Ext) (td : TData) (ver : Option Int) :
    ∀ (g : GraphT) (p : GraphE) (ws : Writes), serGraphE vals x td ver g = .ok (p, ws) →
      ∀ w ∈ ws, JustifiedW vals (allInitsG g) w
  | .mk id inputs inits nodes outputs, p, ws, h => by
    simp only [serGraphE] at h
    split at h
    · simp at h
    · split at h
      · simp at h
      · split at h
        · simp at h
        · split at h
          · simp at h
          · rename_i nps qNodes vis2 ws2 hn
            split at h
            · simp at h
            · split at h
              · simp at h
              · simp only [Except.ok.injEq, Prod.mk.injEq] at h
                obtain ⟨_, rfl⟩ := h
                intro w hw
                simp only [List.mem_append] at hw
                rcases hw with hw | hw
                · exact (serInitsE_writes vals x td _ inits w hw).mono
                    (fun y hy => by simp only [allInitsG, List.mem_append]; exact .inl hy)
                · exact (serNodesE_writes vals x td ver true outputs nodes _ _ _ _ hn w hw).mono
                    (fun y hy => by simp only [allInitsG, List.mem_append]; exact .inr hy)
theorem serNodesE_writes (vals : Nat → ValueS) (x : Ext) (td : TData) (ver : Option Int) (annot : Bool)
    (gouts : List Nat) :
    ∀ (ns : List NodeT) (nps : List NodeE) (qs : List QuantP) (vis : List VInfoE) (ws : Writes),
      serNodesE vals x td ver annot gouts ns = .ok (nps, qs, vis, ws) → ∀ w ∈ ws, JustifiedW vals (allInitsNs ns) w
  | [], nps, qs, vis, ws, h => by
    simp only [serNodesE, Except.ok.injEq, Prod.mk.injEq] at h
    obtain ⟨_, _, _, rfl⟩ := h
    simp
  | n :: ns, nps, qs, vis, ws, h => by
    simp only [serNodesE] at h
    split at h
    · simp at h
    · rename_i np q vi ws1 h1
      split at h
      · simp at h
      · rename_i nps' qs' vis' ws2 h2
        simp only [Except.ok.injEq, Prod.mk.injEq] at h
        obtain ⟨_, _, _, rfl⟩ := h
        intro w hw
        simp only [List.mem_append] at hw
        rcases hw with hw | hw
        · exact (serNodeE_writes vals x td ver annot gouts n _ _ _ _ h1 w hw).mono
            (fun y hy => by simp only [allInitsNs, List.mem_append]; exact .inl hy)
        · exact (serNodesE_writes vals x td ver annot gouts ns _ _ _ _ h2 w hw).mono
            (fun y hy => by simp only [allInitsNs, List.mem_append]; exact .inr hy)
theorem serNodeE_writes (vals : Nat → ValueS) (x : Ext) (td : TData) (ver : Option Int) (annot : Bool)
    (gouts : List Nat) :
    ∀ (n : NodeT) (np : NodeE) (q : List QuantP) (vi : List VInfoE) (ws : Writes),
      serNodeE vals x td ver annot gouts n = .ok (np, q, vi, ws) → ∀ w ∈ ws, JustifiedW vals (allInitsN n) w
  | .mk id gr inputs outputs subs, np, q, vi, ws, h => by
    simp only [serNodeE] at h
    split at h
    · simp at h
    · split at h
      · simp at h
      · split at h
        · simp at h
        · rename_i gps ws' hs
          split at h
          · simp at h
          · split at h
            · simp at h
            · simp only [Except.ok.injEq, Prod.mk.injEq] at h
              obtain ⟨_, _, _, rfl⟩ := h
              intro w hw
              exact (serSubsE_writes vals x td ver subs _ _ hs w hw).mono (fun y hy => by simpa only [allInitsN] using hy)
theorem serSubsE_writes (vals : Nat → ValueS) (x : Ext) (td : TData) (ver : Option Int) :
    ∀ (gs : List GraphT) (gps : List GraphE) (ws : Writes),
      serSubsE vals x td ver gs = .ok (gps, ws) → ∀ w ∈ ws, JustifiedW vals (allInitsGs gs) w
  | [], gps, ws, h => by
    simp only [serSubsE, Except.ok.injEq, Prod.mk.injEq] at h
    obtain ⟨_, rfl⟩ := h
    simp
  | g :: gs, gps, ws, h => by
    simp only [serSubsE] at h
    split at h
    · simp at h
    · rename_i gp ws1 h1
      split at h
      · simp at h
      · rename_i gps' ws2 h2
        simp only [Except.ok.injEq, Prod.mk.injEq] at h
        obtain ⟨_, rfl⟩ := h
        intro w hw
        simp only [List.mem_append] at hw
        rcases hw with hw | hw
        · exact (serGraphE_writes vals x td ver g _ _ h1 w hw).mono
            (fun y hy => by simp only [allInitsGs, List.mem_append]; exact .inl hy)
        · exact (serSubsE_writes vals x td ver gs _ _ h2 w hw).mono
            (fun y hy => by simp only [allInitsGs, List.mem_append]; exact .inr hy)
end

end IrVerif.Scope
