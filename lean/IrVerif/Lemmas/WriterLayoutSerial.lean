/-
C09 on top of C07: the serial image of the planned single-file configuration IS C07's serial image
`Layout.serialImage (Layout.writesOf …)` of the same tensors — so C07's read-back theorems
(`C07_roundtrip`, `C07_readback_layout`) speak about the file the concurrent writer leaves.
-/
import IrVerif.Lemmas.WriterLayout
import IrVerif.Lemmas.ListFacts
namespace IrVerif.WriterN
open IrVerif.Layout (Info computeInfos computeInfosFrom)

/-- the two models of `seek; write` agree (C07 pads up to the offset, C09 up to the end of the write) -/
theorem writeAt_eq_layout (f : List Nat) (off : Nat) (d : List Nat) :
    writeAt f off d = Layout.writeAt f off d := by
  by_cases hd : d = []
  · subst hd; simp [writeAt, Layout.writeAt]
  · have hlen : (writeAt f off d).length = (Layout.writeAt f off d).length := by
      rw [writeAt_length f off d hd, Layout.writeAt_length]; simp [hd]
    apply List.ext_getElem hlen
    intro k h1 h2
    have e1 : getB (writeAt f off d) k = (writeAt f off d)[k] := by simp [getB, h1]
    have e2 : (Layout.writeAt f off d).getD k 0 = (Layout.writeAt f off d)[k] := by
      simp [List.getD_eq_getElem?_getD, h2]
    rw [← e1, ← e2, getB_writeAt f off d k, Layout.writeAt_getD]
    simp only [getB, List.getD_eq_getElem?_getD]

/-! ### the serial writer as a fold over the tensor list -/

def writeT (fs : List (List Nat)) (t : Tensor) : List (List Nat) :=
  fs.set t.file (writeAt (fs.getD t.file []) t.off t.data)

def applyT (fs : List (List Nat)) (T : List Tensor) : List (List Nat) := T.foldl writeT fs

theorem map_getD_range {α : Type} (l : List α) (d : α) :
    (List.range l.length).map (fun i => l.getD i d) = l :=
  by simpa using ListFacts.map_range_getD l d id l.length (Nat.le_refl _)

theorem serialFiles_eq_applyT (cfg : Cfg) : serialFiles cfg = applyT cfg.files cfg.tensors := by
  unfold serialFiles applyT
  have h : ∀ fs i, writeTask cfg fs i = writeT fs (cfg.tensors.getD i default) := fun _ _ => rfl
  have h2 : (List.range cfg.n).foldl (writeTask cfg) cfg.files =
      ((List.range cfg.tensors.length).map (fun i => cfg.tensors.getD i default)).foldl writeT cfg.files := by
    rw [List.foldl_map]; rfl
  rw [h2, map_getD_range]

theorem applyT_append (fs : List (List Nat)) (A B : List Tensor) :
    applyT fs (A ++ B) = applyT (applyT fs A) B := by
  simp [applyT, List.foldl_append]

theorem set_getD_self (fs : List (List Nat)) (j : Nat) (hj : j < fs.length) :
    fs.set j (fs.getD j []) = fs := by
  apply List.ext_getElem
  · simp
  · intro i h1 h2
    by_cases e : j = i
    · subst e; simp [List.getD_eq_getElem?_getD, hj]
    · simp [List.getElem_set_ne e]

/-! ### one data file -/

theorem applyT_placeZip (j : Nat) (jobOf : Nat → Nat) :
    ∀ (infs : List Info) (sh : List TSpec) (k : Nat) (fs : List (List Nat)), j < fs.length →
      applyT fs (placeZip j jobOf k infs sh) =
        fs.set j (Layout.applyWrites (fs.getD j [])
          ((infs.zip (sh.map (·.data))).map fun p => (p.1.offset, p.2)))
  | [], sh, k, fs, hj => by
      have := set_getD_self fs j hj
      simp only [placeZip, applyT, Layout.applyWrites, List.zip_nil_left, List.map_nil, List.foldl_nil]
      exact this.symm
  | _ :: _, [], k, fs, hj => by
      have := set_getD_self fs j hj
      simp only [placeZip, applyT, Layout.applyWrites, List.map_nil, List.zip_nil_right, List.foldl_nil]
      exact this.symm
  | inf :: infs, t :: sh, k, fs, hj => by
      have ih := applyT_placeZip j jobOf infs sh (k + 1)
        (fs.set j (writeAt (fs.getD j []) inf.offset t.data)) (by simpa using hj)
      simp only [placeZip, applyT, List.foldl_cons, writeT] at ih ⊢
      rw [ih]
      simp only [List.map_cons, List.zip_cons_cons, Layout.applyWrites, List.foldl_cons, List.set_set]
      congr 2
      rw [List.getD_eq_getElem?_getD, List.getElem?_set_self (by simpa using hj)]
      simp [writeAt_eq_layout]

theorem applyT_placeFile (al : Option Nat) (athr : Nat) (j : Nat) (jobOf : Nat → Nat) (sh : List TSpec)
    (fs : List (List Nat)) (hj : j < fs.length) :
    applyT fs (placeFile al athr j jobOf sh) =
      fs.set j (Layout.applyWrites (fs.getD j []) (Layout.writesOf al athr (sh.map (·.data)))) := by
  unfold placeFile
  rw [applyT_placeZip j jobOf _ sh 0 fs hj]
  have : (sh.map (·.data)).map List.length = sh.map TSpec.nbytes := by
    simp [TSpec.nbytes, Function.comp_def]
  simp only [Layout.writesOf, fileInfos, this]

/-- **the serial image of the planned configuration is C07's serial image of the same tensors** -/
theorem planSingle_serial_eq_C07 (ts : List TSpec) (al : Option Nat) (athr workers capacity : Nat) :
    serialFiles (cfgEmpty (planSingle ts al athr workers capacity)) =
      [Layout.serialImage (Layout.writesOf al athr (ts.map (·.data)))] := by
  rw [serialFiles_eq_applyT]
  exact applyT_placeFile al athr 0 _ ts [[]] Nat.one_pos

end IrVerif.WriterN
