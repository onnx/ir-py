/-
Lemmas/Sem.lean — basic facts about the semantics of Model/Sem.lean:
environments, the coincidence lemma (a denotation depends only on the values it reads), the entry environment of a graph
(`entryEnv`, `evalG_mk`, `entryEnv_congr`).
-/
import IrVerif.Model.Sem
namespace IrVerif.Sem
variable {Val : Type}

def EqOn (S : VId → Prop) (ρ1 ρ2 : Env Val) : Prop := ∀ v, S v → ρ1 v = ρ2 v

theorem EqOn.refl (S : VId → Prop) (ρ : Env Val) : EqOn S ρ ρ := fun _ _ => rfl

theorem EqOn.mono {S T : VId → Prop} {ρ1 ρ2 : Env Val} (h : EqOn T ρ1 ρ2) (hST : ∀ v, S v → T v) :
    EqOn S ρ1 ρ2 := fun v hv => h v (hST v hv)

theorem EqOn.symm {S : VId → Prop} {ρ1 ρ2 : Env Val} (h : EqOn S ρ1 ρ2) : EqOn S ρ2 ρ1 :=
  fun v hv => (h v hv).symm

theorem EqOn.trans {S : VId → Prop} {ρ1 ρ2 ρ3 : Env Val} (h : EqOn S ρ1 ρ2) (h' : EqOn S ρ2 ρ3) :
    EqOn S ρ1 ρ3 := fun v hv => (h v hv).trans (h' v hv)

theorem Env.bind_of_mem (ρ : Env Val) {vs : List VId} (rs : List (Option Val)) {u : VId} (h : u ∈ vs) :
    ρ.bind vs rs u = (rs[vs.idxOf u]?).join := by simp [Env.bind, h]

theorem Env.bind_of_not_mem (ρ : Env Val) {vs : List VId} (rs : List (Option Val)) {u : VId} (h : u ∉ vs) :
    ρ.bind vs rs u = ρ u := by simp [Env.bind, h]

theorem bind_cons_ne (ρ : Env Val) {a v : VId} (h : v ≠ a) (vs : List VId) (r : Option Val) (rs : List (Option Val)) :
    ρ.bind (a :: vs) (r :: rs) v = ρ.bind vs rs v := by
  have h2 : (a == v) = false := by simpa using (fun h' : a = v => h h'.symm)
  simp only [Env.bind, List.mem_cons, h, false_or, List.idxOf_cons, h2, cond_false, List.getElem?_cons_succ]

theorem bind_cons_ne_nil (ρ : Env Val) {a v : VId} (h : v ≠ a) (vs : List VId) :
    ρ.bind (a :: vs) [] v = ρ.bind vs [] v := by
  simp [Env.bind, h]

theorem bind_cons_self (ρ : Env Val) (a : VId) (vs : List VId) (rs : List (Option Val)) :
    ρ.bind (a :: vs) rs a = (rs[0]?).join := by
  simp [Env.bind]

theorem bind_single_self (ρ : Env Val) (out : VId) (x : Option Val) : ρ.bind [out] [x] out = x := by
  simp [Env.bind]

theorem bind_single_ne (ρ : Env Val) {out u : VId} (x : Option Val) (h : u ≠ out) : ρ.bind [out] [x] u = ρ u := by
  simp [Env.bind, h]

theorem EqOn.bind {S : VId → Prop} {ρ1 ρ2 : Env Val} (h : EqOn S ρ1 ρ2) (vs : List VId)
    (rs : List (Option Val)) : EqOn S (ρ1.bind vs rs) (ρ2.bind vs rs) := by
  intro v hv
  by_cases hm : v ∈ vs
  · simp [Env.bind, hm]
  · simp [Env.bind, hm, h v hv]

theorem Env.bind_map_of_mem {α : Type} (ρ : Env Val) (f : α → VId) (g : α → Option Val) :
    ∀ (l : List α) (a : α), (l.map f).Nodup → a ∈ l → ρ.bind (l.map f) (l.map g) (f a) = g a
  | [], _, _, h => by simp at h
  | b :: rest, a, hnd, h => by
    simp only [List.map_cons, List.nodup_cons, List.mem_map, not_exists, not_and] at hnd
    by_cases hab : f a = f b
    · have : a = b := by
        rcases List.mem_cons.1 h with h | h
        · exact h
        · exact absurd hab (hnd.1 a h)
      subst this
      simp [Env.bind, List.idxOf_cons_self]
    · have ha : a ∈ rest := by
        rcases List.mem_cons.1 h with h | h
        · exact absurd (by rw [h]) hab
        · exact h
      have ih := Env.bind_map_of_mem ρ f g rest a hnd.2 ha
      have hm : f a ∈ rest.map f := List.mem_map.2 ⟨a, ha, rfl⟩
      simp only [Env.bind, hm, if_true] at ih
      simp only [Env.bind, List.map_cons, List.mem_cons, hab, hm, or_true, if_true]
      have hbeq : (f b == f a) = false := by simpa using (fun h' : f b = f a => hab h'.symm)
      simp only [List.idxOf_cons, hbeq, cond_false]
      simpa using ih

theorem trimNone_prefix : ∀ ins : List (Option VId), trimNone ins <+: ins
  | [] => by simp [trimNone]
  | a :: rest => by
    have ih := trimNone_prefix rest
    rw [trimNone]
    split
    · exact List.nil_prefix
    · exact List.cons_prefix_cons.mpr ⟨rfl, ih⟩

theorem mem_of_mem_trimNone {o : Option VId} {ins : List (Option VId)} (h : o ∈ trimNone ins) : o ∈ ins :=
  (trimNone_prefix ins).subset h

theorem mem_filterMap_trimNone {v : VId} {ins : List (Option VId)}
    (h : v ∈ (trimNone ins).filterMap id) : v ∈ ins.filterMap id := by
  simp only [List.mem_filterMap, id] at h ⊢
  obtain ⟨a, ha, rfl⟩ := h
  exact ⟨_, mem_of_mem_trimNone ha, rfl⟩

theorem trimNone_idem : ∀ ins : List (Option VId), trimNone (trimNone ins) = trimNone ins
  | [] => by simp [trimNone]
  | a :: rest => by
    have ih := trimNone_idem rest
    rw [trimNone]
    split
    · simp [trimNone]
    · rename_i hne
      rw [trimNone, ih, if_neg hne]

theorem filter_not_contains_congr {inputs l l' : List VId} (h : ∀ v ∈ inputs, v ∈ l ↔ v ∈ l') :
    inputs.filter (fun v => !l.contains v) = inputs.filter (fun v => !l'.contains v) := by
  apply List.filter_congr
  intro v hv
  congr 1
  rw [Bool.eq_iff_iff, List.contains_iff_mem, List.contains_iff_mem]
  exact h v hv

theorem filter_not_contains_map_append {inputs : List VId} {inits new : List (VId × Tensor)}
    (h : ∀ v ∈ inputs, v ∉ new.map Prod.fst) :
    inputs.filter (fun v => !((inits ++ new).map Prod.fst).contains v) =
      inputs.filter (fun v => !(inits.map Prod.fst).contains v) := by
  refine filter_not_contains_congr (fun v hv => ?_)
  rw [List.map_append, List.mem_append]
  exact ⟨fun h' => h'.resolve_right (h v hv), Or.inl⟩

/-- the node tag only matters for stochastic operators -/
theorem nodeResults_outs (I : Interp Val) {op : OpId} (h : isStochasticOp op = false) (attrs : List (String × AttrData))
    (outs outs' : List VId) (bodies : List (BodyFn Val)) (args : List (Option Val)) :
    nodeResults I op attrs outs bodies args = nodeResults I op attrs outs' bodies args := by
  simp [nodeResults, h]

theorem evalArgs_congr {S : VId → Prop} {ρ1 ρ2 : Env Val} (h : EqOn S ρ1 ρ2) (ins : List (Option VId))
    (hS : ∀ v ∈ ins.filterMap id, S v) : evalArgs ρ1 ins = evalArgs ρ2 ins := by
  unfold evalArgs
  apply List.map_congr_left
  intro o ho
  cases o with
  | none => rfl
  | some v =>
    simp only [Option.bind]
    exact h v (hS v (by simp [List.mem_filterMap]; exact ho))

mutual
theorem evalG_congr (I : Interp Val) : ∀ (g : Graph) (ρ1 ρ2 : Env Val),
    EqOn (· ∈ refsG g) ρ1 ρ2 → evalG I g ρ1 = evalG I g ρ2
  | .mk inputs outputs inits nodes, ρ1, ρ2, h => by
    funext xs
    simp only [evalG]
    apply List.map_congr_left
    intro v hv
    refine evalNodes_congr I nodes (· ∈ refsG (.mk inputs outputs inits nodes)) _ _ ?_ ?_ v ?_
    · intro w hw; simp [refsG, hw]
    · exact (h.bind _ _).bind _ _
    · simp [refsG, hv]
theorem evalNodes_congr (I : Interp Val) : ∀ (ns : List Node) (S : VId → Prop) (ρ1 ρ2 : Env Val),
    (∀ v ∈ refsNodes ns, S v) → EqOn S ρ1 ρ2 → EqOn S (evalNodes I ns ρ1) (evalNodes I ns ρ2)
  | [], _, _, _, _, h => by simpa [evalNodes] using h
  | n :: ns, S, ρ1, ρ2, hS, h => by
    simp only [evalNodes]
    refine evalNodes_congr I ns S _ _ (fun v hv => hS v (by simp [refsNodes, hv])) ?_
    exact evalN_congr I n S ρ1 ρ2 (fun v hv => hS v (by simp [refsNodes, hv])) h
theorem evalN_congr (I : Interp Val) : ∀ (n : Node) (S : VId → Prop) (ρ1 ρ2 : Env Val),
    (∀ v ∈ refsN n, S v) → EqOn S ρ1 ρ2 → EqOn S (evalN I n ρ1) (evalN I n ρ2)
  | .mk op attrs ins outs bodies, S, ρ1, ρ2, hS, h => by
    simp only [evalN]
    have ha : evalArgs ρ1 (trimNone ins) = evalArgs ρ2 (trimNone ins) :=
      evalArgs_congr h _ (fun v hv => hS v (by
        simp only [refsN, List.mem_append]; exact Or.inl (mem_filterMap_trimNone hv)))
    have hb : evalBodies I bodies ρ1 = evalBodies I bodies ρ2 :=
      evalBodies_congr I bodies ρ1 ρ2 (h.mono (fun v hv => hS v (by simp only [refsN, List.mem_append]; exact Or.inr hv)))
    rw [ha, hb]
    exact h.bind _ _
theorem evalBodies_congr (I : Interp Val) : ∀ (bs : List Graph) (ρ1 ρ2 : Env Val),
    EqOn (· ∈ refsBodies bs) ρ1 ρ2 → evalBodies I bs ρ1 = evalBodies I bs ρ2
  | [], _, _, _ => by simp [evalBodies]
  | b :: bs, ρ1, ρ2, h => by
    simp only [evalBodies]
    have h1 : evalG I b ρ1 = evalG I b ρ2 :=
      evalG_congr I b ρ1 ρ2 (h.mono (fun v hv => by simp [refsBodies, hv]))
    have h2 := evalBodies_congr I bs ρ1 ρ2 (h.mono (fun v hv => by simp [refsBodies, hv]))
    rw [h2, h1]
end

/-- the environment in which the nodes of a graph are evaluated -/
def entryEnv (I : Interp Val) (ρ : Env Val) (inputs : List VId) (inits : List (VId × Tensor)) (xs : List Val) :
    Env Val :=
  (bindInits I ρ inits).bind (inputs.filter (fun v => !(inits.map Prod.fst).contains v)) (xs.map some)

theorem evalG_mk (I : Interp Val) (inputs outputs : List VId) (inits : List (VId × Tensor)) (nodes : List Node)
    (ρ : Env Val) (xs : List Val) :
    evalG I (.mk inputs outputs inits nodes) ρ xs = outputs.map (evalNodes I nodes (entryEnv I ρ inputs inits xs)) := by
  simp only [evalG, entryEnv]

theorem bindInits_mem (I : Interp Val) (ρ : Env Val) {inits : List (VId × Tensor)}
    (hnd : (inits.map Prod.fst).Nodup) {p : VId × Tensor} (hp : p ∈ inits) :
    bindInits I ρ inits p.1 = some (I.tv p.2) :=
  Env.bind_map_of_mem ρ Prod.fst (fun p => some (I.tv p.2)) _ p hnd hp

theorem bindInits_not_mem (I : Interp Val) (ρ : Env Val) {inits : List (VId × Tensor)} {v : VId}
    (hv : v ∉ inits.map Prod.fst) : bindInits I ρ inits v = ρ v :=
  Env.bind_of_not_mem _ _ hv

/-- the entry environment reads the initializers as a set of pairs -/
theorem entryEnv_congr (I : Interp Val) (ρ : Env Val) (xs : List Val) {inputs : List VId}
    {inits inits' : List (VId × Tensor)} (hnd : (inits.map Prod.fst).Nodup) (hnd' : (inits'.map Prod.fst).Nodup)
    (hin : ∀ v ∈ inputs, v ∈ inits.map Prod.fst ↔ v ∈ inits'.map Prod.fst) {v : VId}
    (hv : ∀ t, (v, t) ∈ inits ↔ (v, t) ∈ inits') :
    entryEnv I ρ inputs inits xs v = entryEnv I ρ inputs inits' xs v := by
  simp only [entryEnv, filter_not_contains_congr hin]
  by_cases hfr : v ∈ inputs.filter (fun v => !(inits'.map Prod.fst).contains v)
  · rw [Env.bind_of_mem _ _ hfr, Env.bind_of_mem _ _ hfr]
  · rw [Env.bind_of_not_mem _ _ hfr, Env.bind_of_not_mem _ _ hfr]
    by_cases hvi : v ∈ inits.map Prod.fst
    · obtain ⟨⟨_, t⟩, hq, rfl⟩ := List.mem_map.1 hvi
      rw [bindInits_mem I ρ hnd hq, bindInits_mem I ρ hnd' ((hv t).1 hq)]
    · rw [bindInits_not_mem I ρ hvi, bindInits_not_mem I ρ (fun h => hvi ?_)]
      obtain ⟨⟨_, t⟩, hq, rfl⟩ := List.mem_map.1 h
      exact List.mem_map.2 ⟨_, (hv t).2 hq, rfl⟩

theorem entryEnv_append_inits (I : Interp Val) (ρ : Env Val) (xs : List Val) {inputs : List VId}
    {inits L : List (VId × Tensor)} (hnd : (inits.map Prod.fst).Nodup) (hndL : (L.map Prod.fst).Nodup)
    (hdis : ∀ v ∈ L.map Prod.fst, v ∉ inputs ∧ v ∉ inits.map Prod.fst) :
    (∀ v, v ∉ L.map Prod.fst → entryEnv I ρ inputs (inits ++ L) xs v = entryEnv I ρ inputs inits xs v) ∧
    ∀ p ∈ L, entryEnv I ρ inputs (inits ++ L) xs p.1 = some (I.tv p.2) := by
  have hall : ((inits ++ L).map Prod.fst).Nodup := by
    rw [List.map_append]
    exact List.nodup_append.2 ⟨hnd, hndL, fun a ha b hb hab => (hdis b hb).2 (hab ▸ ha)⟩
  refine ⟨fun v hv => entryEnv_congr I ρ xs hall hnd (fun w hw => ?_) (fun t => ?_), fun p hp => ?_⟩
  · rw [List.map_append, List.mem_append]
    exact ⟨fun h => h.resolve_right (fun h => (hdis w h).1 hw), Or.inl⟩
  · rw [List.mem_append]
    exact ⟨fun h => h.resolve_right (fun h => hv (List.mem_map.2 ⟨_, h, rfl⟩)), Or.inl⟩
  · simp only [entryEnv]
    rw [Env.bind_of_not_mem _ _ (fun h => (hdis p.1 (List.mem_map.2 ⟨p, hp, rfl⟩)).1 (List.mem_filter.1 h).1)]
    exact bindInits_mem I ρ hall (List.mem_append_right _ hp)

theorem evalNodes_append (I : Interp Val) : ∀ (a b : List Node) (ρ : Env Val),
    evalNodes I (a ++ b) ρ = evalNodes I b (evalNodes I a ρ)
  | [], _, _ => by simp [evalNodes]
  | n :: a, b, ρ => by simp only [List.cons_append, evalNodes]; exact evalNodes_append I a b _

theorem evalN_not_outs (I : Interp Val) (n : Node) (ρ : Env Val) (v : VId) (hv : v ∉ n.outs) :
    evalN I n ρ v = ρ v := by
  cases n with
  | mk op attrs ins outs bodies =>
    simp only [Node.outs] at hv
    simp only [evalN]
    exact Env.bind_of_not_mem _ _ hv

theorem evalNodes_not_outs (I : Interp Val) : ∀ (ns : List Node) (ρ : Env Val) (v : VId),
    v ∉ outsTop ns → evalNodes I ns ρ v = ρ v
  | [], _, _, _ => by simp [evalNodes]
  | n :: ns, ρ, v, hv => by
    simp only [outsTop, List.mem_append, not_or] at hv
    simp only [evalNodes]
    rw [evalNodes_not_outs I ns _ v hv.2, evalN_not_outs I n ρ v hv.1]

end IrVerif.Sem
