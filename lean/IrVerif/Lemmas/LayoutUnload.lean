/-
Helper lemmas for C07: the unload step over any classification (`unloadBy`, specified by
`unloadBy_get`).  The model's loops are unfolded only in the `_eq` lemmas.  Core Lean only.
-/
import IrVerif.Lemmas.Layout
namespace IrVerif.Layout

/-! ### zip-assignment -/

theorem assignZip_length (st : List NewConst) (is : List Nat) (ns : List NewConst) :
    (assignZip st is ns).length = st.length := by
  induction is generalizing st ns with
  | nil => simp [assignZip]
  | cons i is ih =>
    cases ns with
    | nil => simp [assignZip]
    | cons n ns => simp [assignZip, ih]

theorem assignZip_not_mem (st : List NewConst) (is : List Nat) (ns : List NewConst) (k : Nat)
    (h : k ∉ is) : (assignZip st is ns)[k]? = st[k]? := by
  induction is generalizing st ns with
  | nil => simp [assignZip]
  | cons i is ih =>
    cases ns with
    | nil => simp [assignZip]
    | cons n ns =>
      simp only [assignZip]
      rw [ih _ _ (fun hk => h (List.mem_cons_of_mem _ hk))]
      have : i ≠ k := fun e => h (e ▸ List.mem_cons_self ..)
      simp [this]

theorem assignZip_mem (st : List NewConst) (is : List Nat) (ns : List NewConst)
    (hnd : is.Nodup) (hlen : is.length = ns.length) (hb : ∀ i ∈ is, i < st.length)
    (j : Nat) (hj : j < is.length) : (assignZip st is ns)[is[j]]? = ns[j]? := by
  induction is generalizing st ns j with
  | nil => simp at hj
  | cons i is ih =>
    cases ns with
    | nil => simp at hlen
    | cons n ns =>
      simp only [assignZip]
      rw [List.nodup_cons] at hnd
      cases j with
      | zero =>
        simp only [List.getElem_cons_zero, List.getElem?_cons_zero]
        rw [assignZip_not_mem _ _ _ _ hnd.1]
        have := hb i (List.mem_cons_self ..)
        simp [this]
      | succ j =>
        simp only [List.getElem_cons_succ, List.getElem?_cons_succ]
        apply ih _ _ hnd.2 (by simpa using hlen)
        intro k hk
        simpa using hb k (List.mem_cons_of_mem _ hk)

/-! ### threshold split -/

/-- generic form of the two classification loops -/
def splitBy (pe pm : Init → Bool) : Nat → List Init → List Nat × List Nat
  | _, [] => ([], [])
  | k, v :: rest =>
    let r := splitBy pe pm (k + 1) rest
    (if pe v then k :: r.1 else r.1, if pm v then k :: r.2 else r.2)

/-- raw backend: the tensor of `v` becomes external (independent of the model: a value with a
    non-string tensor of more than `thr` bytes) -/
def becomesExternalRaw (thr : Int) (v : Init) : Bool :=
  v.hasConst && !v.isString && decide ((v.nbytes : Int) > thr)

/-- safetensors backend: at least `thr` bytes -/
def becomesExternalSt (thr : Int) (v : Init) : Bool :=
  v.hasConst && !v.isString && decide ((v.nbytes : Int) ≥ thr)

/-- raw backend: loaded to memory -/
def memRaw (thr : Int) (v : Init) : Bool :=
  v.hasConst && !v.isString && !decide ((v.nbytes : Int) > thr) && v.isExternal
def memSt (thr : Int) (v : Init) : Bool :=
  v.hasConst && !v.isString && decide ((v.nbytes : Int) < thr) && v.isExternal

theorem splitRawGo_eq (thr : Int) (k : Nat) (vs : List Init) :
    splitRawGo thr k vs = splitBy (becomesExternalRaw thr) (memRaw thr) k vs := by
  induction vs generalizing k with
  | nil => rfl
  | cons v rest ih =>
    simp only [splitRawGo, splitBy, ih, becomesExternalRaw, memRaw]
    by_cases h1 : v.hasConst = true
    · by_cases h2 : v.isString = true
      · simp [h1, h2]
      · by_cases h : (v.nbytes : Int) > thr
        · simp [h1, h2, h]
        · by_cases h3 : v.isExternal = true <;> simp [h1, h2, h, h3]
    · simp [h1]

theorem splitStGo_eq (thr : Int) (k : Nat) (vs : List Init) :
    splitStGo thr k vs = splitBy (becomesExternalSt thr) (memSt thr) k vs := by
  induction vs generalizing k with
  | nil => rfl
  | cons v rest ih =>
    simp only [splitStGo, splitBy, ih, becomesExternalSt, memSt]
    by_cases h1 : v.hasConst = true
    · by_cases h2 : v.isString = true
      · simp [h1, h2]
      · by_cases h : (v.nbytes : Int) < thr
        · by_cases h3 : v.isExternal = true <;> simp [h1, h2, h, h3]
        · simp [h1, h2, h]
    · simp [h1]

theorem splitRaw_eq (thr : Int) (vs : List Init) :
    splitRaw thr vs = splitBy (becomesExternalRaw thr) (memRaw thr) 0 vs := splitRawGo_eq thr 0 vs

theorem splitSt_eq (thr : Int) (vs : List Init) :
    splitSt thr vs = splitBy (becomesExternalSt thr) (memSt thr) 0 vs := splitStGo_eq thr 0 vs

theorem becomesExternalRaw_excl (thr : Int) (v : Init) (h : becomesExternalRaw thr v = true) :
    memRaw thr v = false := by
  simp only [becomesExternalRaw, Bool.and_eq_true, decide_eq_true_eq] at h
  simp [memRaw, h.2]

theorem becomesExternalSt_excl (thr : Int) (v : Init) (h : becomesExternalSt thr v = true) :
    memSt thr v = false := by
  simp only [becomesExternalSt, Bool.and_eq_true, decide_eq_true_eq] at h
  simp [memSt, Int.not_lt.2 h.2]

theorem splitBy_fst (pe pm : Init → Bool) (k : Nat) (vs : List Init) :
    (splitBy pe pm k vs).1 = ((vs.zipIdx k).filter fun p => pe p.1).map (·.2) := by
  induction vs generalizing k with
  | nil => rfl
  | cons v rest ih =>
    rw [splitBy, List.zipIdx_cons, List.filter_cons, ih]
    split <;> rfl

theorem splitBy_swap (pe pm : Init → Bool) (k : Nat) (vs : List Init) :
    (splitBy pe pm k vs).2 = (splitBy pm pe k vs).1 := by
  induction vs generalizing k with
  | nil => rfl
  | cons v rest ih => simp [splitBy, ih]

theorem mem_splitBy_fst (pe pm : Init → Bool) {vs : List Init} {k : Nat} (hk : k < vs.length) :
    k ∈ (splitBy pe pm 0 vs).1 ↔ pe vs[k] = true := by
  simp only [splitBy_fst, List.mem_map, List.mem_filter, List.mem_zipIdx_iff_getElem?]
  constructor
  · rintro ⟨⟨v, i⟩, ⟨h1, h2⟩, rfl⟩
    exact (List.getElem?_eq_some_iff.1 h1).2 ▸ h2
  · exact fun h => ⟨(vs[k], k), ⟨List.getElem?_eq_getElem hk, h⟩, rfl⟩

theorem mem_splitBy_snd (pe pm : Init → Bool) {vs : List Init} {k : Nat} (hk : k < vs.length) :
    k ∈ (splitBy pe pm 0 vs).2 ↔ pm vs[k] = true := by
  rw [splitBy_swap]; exact mem_splitBy_fst pm pe hk

theorem splitBy_lt {pe pm : Init → Bool} {vs : List Init} {k : Nat}
    (h : k ∈ (splitBy pe pm 0 vs).1 ∨ k ∈ (splitBy pe pm 0 vs).2) : k < vs.length := by
  rw [splitBy_swap, splitBy_fst, splitBy_fst] at h
  rcases h with h | h <;> obtain ⟨p, hp, rfl⟩ := List.mem_map.1 h <;>
    exact List.snd_lt_of_mem_zipIdx (List.mem_filter.1 hp).1

theorem splitBy_nodup_fst (pe pm : Init → Bool) (k : Nat) (vs : List Init) :
    (splitBy pe pm k vs).1.Nodup := by
  rw [splitBy_fst]
  refine (List.filter_sublist.map _).nodup ?_
  rw [List.zipIdx_map_snd]; exact List.nodup_range'

theorem splitBy_nodup_snd (pe pm : Init → Bool) (k : Nat) (vs : List Init) :
    (splitBy pe pm k vs).2.Nodup := by
  rw [splitBy_swap]; exact splitBy_nodup_fst pm pe k vs

theorem splitBy_index (pe pm : Init → Bool) (vs : List Init) (j : Nat)
    (hj : j < vs.length) (hp : pe vs[j] = true) :
    (splitBy pe pm 0 vs).1[(vs.take j).countP pe]? = some j := by
  have hc : ((vs.zipIdx 0).take j).countP (fun p => pe p.1) = (vs.take j).countP pe := by
    have e : vs.take j = ((vs.zipIdx 0).take j).map Prod.fst := by
      rw [List.map_take, List.zipIdx_map_fst]
    rw [e, List.countP_map]; rfl
  rw [splitBy_fst, List.getElem?_map, ← hc,
    getElem?_filter_countP (fun p => pe p.1) (vs.zipIdx 0) j (by simpa using hj) (by simpa using hp)]
  simp

theorem splitBy_map_filter_from {α : Type} [Inhabited α] (f : α → Init) (pe pm : Init → Bool)
    (pre vs : List α) :
    (splitBy pe pm pre.length (vs.map f)).1.map (fun i => (pre ++ vs).getD i default) =
      vs.filter (fun v => pe (f v)) := by
  induction vs generalizing pre with
  | nil => simp [splitBy]
  | cons v rest ih =>
    have h := ih (pre ++ [v])
    simp only [List.length_append, List.length_singleton, List.append_assoc, List.singleton_append] at h
    simp only [List.map_cons, splitBy, List.filter_cons]
    by_cases hv : pe (f v) = true
    · simp only [hv, if_true, List.map_cons, h]
      congr 1
      simp [List.getD_eq_getElem?_getD]
    · simp only [hv, Bool.false_eq_true, if_false, h]

/-- the selected positions, read in the list that carries the initializers, are the selected elements -/
theorem splitBy_map_filter {α : Type} [Inhabited α] (f : α → Init) (pe pm : Init → Bool) (vs : List α) :
    (splitBy pe pm 0 (vs.map f)).1.map (fun i => vs.getD i default) = vs.filter fun v => pe (f v) :=
  splitBy_map_filter_from f pe pm [] vs

theorem splitBy_sizes (pe pm : Init → Bool) (vs : List Init) :
    ((splitBy pe pm 0 vs).1.map fun i => (vs.getD i default).nbytes) = (vs.filter pe).map (·.nbytes) := by
  have := splitBy_map_filter id pe pm vs
  simp only [List.map_id, id] at this
  rw [← this]; simp [Function.comp_def]

/-- the two assignment loops of `unloadRaw`, `unloadSt`, `unloadStV`, over any classification -/
def unloadBy (pe pm : Init → Bool) (vs : List Init) (news : List NewConst) : List NewConst :=
  assignZip (assignZip (List.replicate vs.length NewConst.same) (splitBy pe pm 0 vs).1 news)
    (splitBy pe pm 0 vs).2 ((splitBy pe pm 0 vs).2.map fun _ => NewConst.memory)

theorem unloadBy_length (pe pm : Init → Bool) (vs : List Init) (news : List NewConst) :
    (unloadBy pe pm vs news).length = vs.length := by
  rw [unloadBy, assignZip_length, assignZip_length, List.length_replicate]

theorem unloadBy_get (vs : List Init) (pe pm : Init → Bool)
    (hex : ∀ v, pe v = true → pm v = false)
    (news : List NewConst)
    (hnews : news.length = (vs.filter pe).length)
    (k : Nat) (hk : k < vs.length) :
    (unloadBy pe pm vs news)[k]? = some
      (if pe vs[k] then news.getD ((vs.take k).countP pe) .same
       else if pm vs[k] then .memory else .same) := by
  -- the first loop writes at pairwise different positions, the second touches none of them (`hex`)
  have hEs := splitBy_nodup_fst pe pm 0 vs
  have hMs := splitBy_nodup_snd pe pm 0 vs
  have hidx := splitBy_index pe pm vs
  have hpl : news.length = (splitBy pe pm 0 vs).1.length := by
    have := congrArg List.length (splitBy_map_filter id pe pm vs)
    rw [List.length_map, List.map_id] at this
    rw [hnews, this]; rfl
  have hnotE : pe vs[k] = false → k ∉ (splitBy pe pm 0 vs).1 := fun he hm => by
    rw [(mem_splitBy_fst pe pm hk).mp hm] at he; cases he
  have hnotM : pm vs[k] = false → k ∉ (splitBy pe pm 0 vs).2 := fun he hm => by
    rw [(mem_splitBy_snd pe pm hk).mp hm] at he; cases he
  have hkin : pm vs[k] = true → k ∈ (splitBy pe pm 0 vs).2 := (mem_splitBy_snd pe pm hk).mpr
  simp only [unloadBy]
  generalize hext : (splitBy pe pm 0 vs).1 = ext at *
  generalize hmem : (splitBy pe pm 0 vs).2 = mem at *
  have hEb : ∀ i ∈ ext, i < (List.replicate vs.length NewConst.same).length := fun i hi => by
    simpa using splitBy_lt (Or.inl (hext ▸ hi))
  have hMb : ∀ i ∈ mem, i < (assignZip (List.replicate vs.length NewConst.same) ext news).length :=
    fun i hi => by rw [assignZip_length]; simpa using splitBy_lt (Or.inr (hmem ▸ hi))
  cases he : pe vs[k] with
  | true =>
    rw [if_pos rfl]
    have hc := hidx k hk he
    generalize (vs.take k).countP pe = c at *
    obtain ⟨hcl, hck⟩ := List.getElem?_eq_some_iff.1 hc
    rw [assignZip_not_mem _ _ _ _ (hnotM (hex _ he)), ← hck,
      assignZip_mem _ _ _ hEs (by omega) hEb c hcl]
    simp [show c < news.length by omega]
  | false =>
    cases hm : pm vs[k] with
    | true =>
      rw [if_neg Bool.false_ne_true, if_pos rfl]
      obtain ⟨j, hj, hjk⟩ := List.getElem_of_mem (hkin hm)
      subst hjk
      rw [assignZip_mem _ _ _ hMs (by simp) hMb j hj]
      simp [hj]
    | false =>
      rw [if_neg Bool.false_ne_true, if_neg Bool.false_ne_true,
        assignZip_not_mem _ _ _ _ (hnotM hm), assignZip_not_mem _ _ _ _ (hnotE he)]
      simp [hk]

theorem unloadRaw_eq (vs : List Init) (thr : Int) (maxShard : Option Nat) (al : Option Nat) (athr : Nat) :
    unloadRaw vs thr maxShard al athr = unloadBy (becomesExternalRaw thr) (memRaw thr) vs
      ((placeRaw ((vs.filter (becomesExternalRaw thr)).map (·.nbytes)) maxShard al athr).map NewConst.external) := by
  simp only [unloadRaw, unloadBy, splitRaw_eq, splitBy_sizes]

theorem unloadSt_eq (vs : List Init) (thr : Int) (maxShard : Option Nat) :
    unloadSt vs thr maxShard = unloadBy (becomesExternalSt thr) (memSt thr) vs
      ((placeSt ((vs.filter (becomesExternalSt thr)).map (·.nbytes)) maxShard).map NewConst.external) := by
  simp only [unloadSt, unloadBy, splitSt_eq, splitBy_sizes]

theorem extBytes_eq_filter (vb : List (Init × List Nat)) (thr : Int) :
    extBytes vb thr = (vb.filter fun x => becomesExternalRaw thr x.1).map (·.2) := by
  unfold extBytes
  rw [splitRaw_eq, ← splitBy_map_filter (·.1) (becomesExternalRaw thr) (memRaw thr) vb, List.map_map]; rfl

/-- the new states `news` are records for the elements `sel`, in order, each `Q`-related to its
    element -/
def RecordsFor {α : Type} (Q : Placement → α → Prop) (news : List NewConst) (sel : List α) : Prop :=
  news.length = sel.length ∧
  ∀ c (h : c < sel.length), ∃ p, news[c]? = some (.external p) ∧ Q p sel[c]

theorem RecordsFor.mono {α : Type} {Q Q' : Placement → α → Prop} {news : List NewConst} {sel : List α}
    (h : RecordsFor Q news sel) (hq : ∀ p x, Q p x → Q' p x) : RecordsFor Q' news sel :=
  ⟨h.1, fun c hc => (h.2 c hc).imp fun p hp => ⟨hp.1, hq p _ hp.2⟩⟩

/-- the record at a position is the record made for that position's element -/
theorem unloadBy_rel {α : Type} (init : α → Init) (pe pm : Init → Bool)
    (hex : ∀ v, pe v = true → pm v = false) (vs : List α) (news : List NewConst)
    (Q : Placement → α → Prop)
    (hnews : RecordsFor Q news (vs.filter fun v => pe (init v)))
    (k : Nat) (hk : k < vs.length) :
    (pe (init vs[k]) = true →
      ∃ p, (unloadBy pe pm (vs.map init) news)[k]? = some (.external p) ∧ Q p vs[k]) ∧
    (pe (init vs[k]) = false → (unloadBy pe pm (vs.map init) news)[k]? =
      some (if pm (init vs[k]) then .memory else .same)) := by
  have hfl : ((vs.map init).filter pe).length = (vs.filter fun v => pe (init v)).length := by
    rw [List.filter_map, List.length_map]; rfl
  have hcnt : ((vs.map init).take k).countP pe = (vs.take k).countP fun v => pe (init v) := by
    rw [← List.map_take, List.countP_map]; rfl
  have hget := unloadBy_get (vs.map init) pe pm hex news (hnews.1.trans hfl.symm) k
    (by rw [List.length_map]; exact hk)
  rw [List.getElem_map] at hget
  refine ⟨fun he => ?_, fun he => by rw [hget, he]; rfl⟩
  obtain ⟨hcs, hxe⟩ := List.getElem?_eq_some_iff.1
    (getElem?_filter_countP (fun v => pe (init v)) vs k hk he)
  obtain ⟨p, hp, hq⟩ := hnews.2 _ hcs
  exact ⟨p, by rw [hget, if_pos he, hcnt, List.getD_eq_getElem?_getD, hp]; rfl, hxe ▸ hq⟩

theorem unloadBy_same_iff (vs : List Init) (pe pm : Init → Bool)
    (hex : ∀ v, pe v = true → pm v = false) (places : List Placement)
    (hpl : places.length = (vs.filter pe).length) (k : Nat) (hk : k < vs.length) :
    (unloadBy pe pm vs (places.map NewConst.external))[k]? = some .same ↔
      (pe vs[k] || pm vs[k]) = false := by
  rw [unloadBy_get vs pe pm hex _ (by rw [List.length_map, hpl]) k hk]
  cases he : pe vs[k] with
  | true =>
    have hc : (vs.take k).countP pe < places.length := hpl ▸ countP_take_lt pe vs k hk he
    simp [List.getD_eq_getElem?_getD, hc]
  | false => cases pm vs[k] <;> simp

/-! ### placements carry every tensor's own length, in order -/

theorem placeRaw_lengths (sizes : List Nat) (maxShard : Option Nat) (al : Option Nat) (thr : Nat) :
    (placeRaw sizes maxShard al thr).map (·.length) = sizes := by
  have hlen : ∀ sh, (computeInfos al thr sh).map (·.length) = sh := computeInfosFrom_lengths al thr 0
  unfold placeRaw
  cases maxShard with
  | none => rw [List.map_map]; exact hlen sizes
  | some m =>
    exact (zipIdx_flatMap_map (fun i sh => (computeInfos al thr sh).map fun inf => (⟨i, _, inf.offset, inf.length⟩ : Placement))
      Placement.length (fun i sh => by rw [List.map_map]; exact hlen sh) _ 0).trans (shardRaw_flatten id m al thr sizes)

theorem placeSt_lengths (sizes : List Nat) (maxShard : Option Nat) :
    (placeSt sizes maxShard).map (·.length) = sizes :=
  (zipIdx_flatMap_map (fun i sh => sh.map fun n => (⟨i, _, 0, n⟩ : Placement)) Placement.length
    (fun i sh => by rw [List.map_map]; exact List.map_id' sh) _ 0).trans (shardSt_flatten id maxShard sizes)

theorem placeRaw_length (sizes : List Nat) (maxShard : Option Nat) (al : Option Nat) (thr : Nat) :
    (placeRaw sizes maxShard al thr).length = sizes.length := by
  simpa using congrArg List.length (placeRaw_lengths sizes maxShard al thr)

theorem placeSt_length (sizes : List Nat) (maxShard : Option Nat) :
    (placeSt sizes maxShard).length = sizes.length := by
  simpa using congrArg List.length (placeSt_lengths sizes maxShard)

end IrVerif.Layout
