/-
Lemmas/SemValidOutputFix.lean — OutputFixPass preserves `validModel` (the Identity nodes it appends have fresh outputs
above every id of the model and read values of the graph they are appended to).
-/
import IrVerif.Lemmas.SemValid
import IrVerif.Lemmas.SemOutputFix
namespace IrVerif.Passes
open IrVerif.Sem IrVerif.PassFlags

theorem defsNodes_identityNode_cons (x y : VId) (ns : List Node) :
    defsNodes (identityNode x y :: ns) = y :: defsNodes ns := by
  simp only [defsNodes, identityNode, defsN, defsBodies, List.append_nil, List.singleton_append]

theorem refsNodes_identityNode_cons (x y : VId) (ns : List Node) :
    refsNodes (identityNode x y :: ns) = x :: refsNodes ns := by
  simp only [refsNodes, identityNode, refsN, refsBodies, List.append_nil, List.filterMap_cons, id, List.filterMap_nil,
    List.singleton_append]

theorem outsTop_identityNode_cons (x y : VId) (ns : List Node) :
    outsTop (identityNode x y :: ns) = y :: outsTop ns := by
  simp only [outsTop, identityNode, Node.outs, List.singleton_append]

theorem ssaNodes_identityNode_cons {x y : VId} {ns : List Node} :
    ssaNodes (identityNode x y :: ns) = true ↔ y ∉ defsNodes ns ∧ ssaNodes ns = true := by
  simp [ssaNodes, identityNode, ssaN, nodupB, defsN, defsBodies, ssaBodies, disj_iff]

theorem closedNodes_identityNode_cons (x y : VId) (ns : List Node) :
    closedNodes (identityNode x y :: ns) = closedNodes ns := by
  simp only [closedNodes, identityNode, closedN, closedBodies, Bool.true_and]

theorem noFwdNodes_identityNode_cons {x y : VId} {ns : List Node} :
    noFwdNodes (identityNode x y :: ns) = true ↔ x ∉ y :: defsNodes ns ∧ noFwdNodes ns = true := by
  simp [noFwdNodes, identityNode, noFwdN, noFwdBodies, Node.ins, Node.outs, Node.bodies, refsBodies, disj_iff,
    defsNodes, defsN, defsBodies]

theorem scopedNodes_identityNode_cons {D : List VId} {x y : VId} {ns : List Node} :
    scopedNodes D (identityNode x y :: ns) = true ↔ x ∈ D ∧ scopedNodes (D ++ [y]) ns = true := by
  simp [scopedNodes, identityNode, scopedN, scopedBodies, Node.ins, Node.outs]

/-- `ns` = Identity nodes reading values that satisfy `S`, with strictly increasing outputs in `[lo, hi)` -/
inductive IdChain (S : VId → Prop) : Nat → List Node → Nat → Prop
  | nil {lo hi : Nat} : lo ≤ hi → IdChain S lo [] hi
  | cons {lo hi : Nat} {x y : VId} {ns : List Node} : S x → lo ≤ y → IdChain S (y + 1) ns hi →
      IdChain S lo (identityNode x y :: ns) hi

theorem IdChain.le {S : VId → Prop} {lo hi : Nat} {ns : List Node} (h : IdChain S lo ns hi) : lo ≤ hi := by
  induction h with
  | nil h => exact h
  | cons _ hy _ ih => exact Nat.le_trans hy (Nat.le_of_succ_le ih)

theorem IdChain.defs {S : VId → Prop} {lo hi : Nat} {ns : List Node} (h : IdChain S lo ns hi) :
    defsNodes ns = outsTop ns ∧ ∀ v ∈ outsTop ns, lo ≤ v ∧ v < hi := by
  induction h with
  | nil _ => exact ⟨rfl, fun _ h => by simp [outsTop] at h⟩
  | @cons lo hi x y ns _ hy hc ih =>
    rw [defsNodes_identityNode_cons, outsTop_identityNode_cons, ih.1]
    refine ⟨rfl, fun v hv => ?_⟩
    rcases List.mem_cons.1 hv with hv | hv
    · subst hv; exact ⟨hy, Nat.lt_of_succ_le hc.le⟩
    · exact ⟨Nat.le_trans hy (Nat.le_of_succ_le (ih.2 v hv).1), (ih.2 v hv).2⟩

theorem IdChain.refs {S : VId → Prop} {lo hi : Nat} {ns : List Node} (h : IdChain S lo ns hi) :
    ∀ v ∈ refsNodes ns, S v := by
  induction h with
  | nil _ => exact fun _ h => by simp [refsNodes] at h
  | cons hx _ _ ih =>
    intro v hv
    rw [refsNodes_identityNode_cons] at hv
    rcases List.mem_cons.1 hv with hv | hv
    · subst hv; exact hx
    · exact ih v hv

theorem IdChain.wf {S : VId → Prop} {lo hi : Nat} {ns : List Node} (h : IdChain S lo ns hi) (hS : ∀ x, S x → x < lo) :
    ssaNodes ns = true ∧ closedNodes ns = true ∧ noFwdNodes ns = true := by
  induction h with
  | nil _ => exact ⟨rfl, rfl, rfl⟩
  | @cons lo hi x y ns hx hy hc ih =>
    obtain ⟨i1, i2, i3⟩ := ih (fun x hx => Nat.lt_succ_of_lt (Nat.lt_of_lt_of_le (hS x hx) hy))
    have hd := hc.defs
    -- the later outputs are above `y`, the value read is below it
    have hlater : ∀ v ∈ defsNodes ns, y < v := fun v hv => (hd.2 v (hd.1 ▸ hv)).1
    rw [ssaNodes_identityNode_cons, closedNodes_identityNode_cons, noFwdNodes_identityNode_cons]
    refine ⟨⟨fun h => Nat.lt_irrefl _ (hlater y h), i1⟩, i2, fun h => ?_, i3⟩
    have hxy : x < y := Nat.lt_of_lt_of_le (hS x hx) hy
    rcases List.mem_cons.1 h with h | h
    · exact Nat.lt_irrefl _ (h ▸ hxy)
    · exact Nat.lt_asymm hxy (hlater x h)

theorem IdChain.scoped {S : VId → Prop} {lo hi : Nat} {ns : List Node} (h : IdChain S lo ns hi) :
    ∀ D : List VId, (∀ x, S x → x ∈ D) → scopedNodes D ns = true := by
  induction h with
  | nil _ => exact fun _ _ => rfl
  | cons hx _ _ ih =>
    intro D hD
    rw [scopedNodes_identityNode_cons]
    exact ⟨hD _ hx, ih _ (fun x hx => List.mem_append_left _ (hD x hx))⟩

theorem IdChain.mono {S S' : VId → Prop} {lo hi : Nat} {ns : List Node} (h : IdChain S lo ns hi) (hS : ∀ x, S x → S' x) :
    IdChain S' lo ns hi := by
  induction h with
  | nil h => exact .nil h
  | cons hx hy _ ih => exact .cons (hS _ hx) hy ih

theorem Aliased.chain {outs : List VId} {next : Nat} {r : List VId × List Node × Nat} (h : Aliased outs next r)
    (S : VId → Prop) (hS : ∀ o ∈ outs, S o) :
    IdChain S next r.2.1 r.2.2 ∧ ∀ o ∈ r.1, S o ∨ o ∈ outsTop r.2.1 := by
  induction h with
  | nil next => exact ⟨.nil (Nat.le_refl _), fun _ h => absurd h List.not_mem_nil⟩
  | fresh _ ih =>
    obtain ⟨c, m⟩ := ih (fun o' ho' => hS o' (List.mem_cons_of_mem _ ho'))
    refine ⟨.cons (hS _ List.mem_cons_self) (Nat.le_refl _) c, fun v hv => ?_⟩
    rw [outsTop_identityNode_cons, List.mem_cons]
    rcases List.mem_cons.1 hv with hv | hv
    · exact Or.inr (Or.inl hv)
    · exact (m v hv).imp id Or.inr
  | keep _ ih =>
    obtain ⟨c, m⟩ := ih (fun o' ho' => hS o' (List.mem_cons_of_mem _ ho'))
    refine ⟨c, fun v hv => ?_⟩
    rcases List.mem_cons.1 hv with hv | hv
    · exact Or.inl (hv ▸ hS _ List.mem_cons_self)
    · exact m v hv

theorem ofixNodes_outsTop (gi : List VId) : ∀ (ns : List Node) (next : Nat), outsTop (ofixNodes gi next ns).1 = outsTop ns
  | [], _ => by simp [ofixNodes]
  | .mk op attrs ins outs bodies :: ns, next => by
    simp only [ofixNodes, outsTop, Node.outs, ofixNodes_outsTop gi ns]

/-- every member of `X'` is a member of `X` or a fresh value from `[lo, hi)` -/
def OldFresh (X : List VId) (lo hi : Nat) (X' : List VId) : Prop := ∀ v ∈ X', v ∈ X ∨ (lo ≤ v ∧ v < hi)

theorem oldFresh_append {n0 n1 n2 : Nat} {A' A B' B : List VId} (hA : OldFresh A n0 n1 A') (hB : OldFresh B n1 n2 B')
    (h01 : n0 ≤ n1) (h12 : n1 ≤ n2) : OldFresh (A ++ B) n0 n2 (A' ++ B') := by
  intro v hv
  rcases List.mem_append.1 hv with hv | hv
  · exact (hA v hv).imp (List.mem_append_left _) (fun h => ⟨h.1, Nat.lt_of_lt_of_le h.2 h12⟩)
  · exact (hB v hv).imp (List.mem_append_right _) (fun h => ⟨Nat.le_trans h01 h.1, h.2⟩)

theorem oldFresh_disj {n0 n1 n2 : Nat} {A' A B' B : List VId} (hA : OldFresh A n0 n1 A') (hB : OldFresh B n1 n2 B')
    (h01 : n0 ≤ n1) (hAlt : ∀ v ∈ A, v < n0) (hBlt : ∀ v ∈ B, v < n0) (hd : ∀ x ∈ A, x ∉ B) : ∀ x ∈ A', x ∉ B' := by
  intro x hx hx'
  rcases hA x hx with h | h <;> rcases hB x hx' with h' | h'
  · exact hd x h h'
  · exact absurd (Nat.lt_of_lt_of_le (hAlt x h) h01) (Nat.not_lt.2 h'.1)
  · exact absurd (hBlt x h') (Nat.not_lt.2 h.1)
  · exact absurd h.2 (Nat.not_lt.2 h'.1)

/-- every value the pass defines or reads is an old one or a fresh one from `[next, nx)`; the flags and lists are
    parameters so that one record serves the three levels -/
structure OfixWF (next nx : Nat) (s c f sc : Bool) (defs defs0 refs refs0 : List VId) : Prop where
  ssa : s = true
  closed : c = true
  nofwd : f = true
  sco : sc = true
  defs : ∀ v ∈ defs, v ∈ defs0 ∨ (next ≤ v ∧ v < nx)
  refs : ∀ v ∈ refs, v ∈ refs0 ∨ (next ≤ v ∧ v < nx)
  le : next ≤ nx

/-- a chain of Identity nodes appended to a node list that the pass has processed up to `nx` -/
theorem OfixWF.append_chain {next nx hi : Nat} {D defs0 refs0 : List VId} {ns c : List Node} {S : VId → Prop}
    (h : OfixWF next nx (ssaNodes ns) (closedNodes ns) (noFwdNodes ns) (scopedNodes D ns) (defsNodes ns) defs0
      (refsNodes ns) refs0)
    (hb : ∀ v, (v ∈ refs0 ∨ v ∈ defs0) → v < next) (hc : IdChain S nx c hi)
    (hS : ∀ x, S x → x < nx ∧ x ∈ D ++ outsTop ns ∧ (x ∈ refs0 ∨ next ≤ x)) :
    OfixWF next hi (ssaNodes (ns ++ c)) (closedNodes (ns ++ c)) (noFwdNodes (ns ++ c)) (scopedNodes D (ns ++ c))
      (defsNodes (ns ++ c)) defs0 (refsNodes (ns ++ c)) refs0 := by
  obtain ⟨ws, wc, wf⟩ := hc.wf (fun x hx => (hS x hx).1)
  obtain ⟨d1, d2⟩ := hc.defs
  have hold : ∀ v ∈ defsNodes ns, v < nx := fun v hv =>
    (h.defs v hv).elim (fun h' => Nat.lt_of_lt_of_le (hb v (Or.inr h')) h.le) (fun h' => h'.2)
  have holdr : ∀ v ∈ refsNodes ns, v < nx := fun v hv =>
    (h.refs v hv).elim (fun h' => Nat.lt_of_lt_of_le (hb v (Or.inl h')) h.le) (fun h' => h'.2)
  refine ⟨?_, ?_, ?_, ?_, fun v hv => ?_, fun v hv => ?_, Nat.le_trans h.le hc.le⟩
  · exact ssaNodes_append _ _ (fun w hw hw' => absurd (hold w hw) (Nat.not_lt.2 (d2 w (d1 ▸ hw')).1)) h.ssa ws
  · rw [closedNodes_append, h.closed, wc]; rfl
  · exact noFwdNodes_append _ _ (fun w hw hw' => absurd (holdr w hw) (Nat.not_lt.2 (d2 w (d1 ▸ hw')).1)) h.nofwd wf
  · rw [scopedNodes_append, h.sco, hc.scoped _ (fun x hx => (hS x hx).2.1)]; rfl
  · rw [defsNodes_append, List.mem_append] at hv
    rcases hv with hv | hv
    · exact (h.defs v hv).imp id (fun h' => ⟨h'.1, Nat.lt_of_lt_of_le h'.2 hc.le⟩)
    · exact Or.inr ⟨Nat.le_trans h.le (d2 v (d1 ▸ hv)).1, (d2 v (d1 ▸ hv)).2⟩
  · rw [refsNodes_append, List.mem_append] at hv
    rcases hv with hv | hv
    · exact (h.refs v hv).imp id (fun h' => ⟨h'.1, Nat.lt_of_lt_of_le h'.2 hc.le⟩)
    · exact (hS v (hc.refs v hv)).2.2.imp id (fun h' => ⟨h', Nat.lt_of_lt_of_le (hS v (hc.refs v hv)).1 hc.le⟩)

theorem ofix_valid (gi : List VId) :
    let G := fun next g (r : Graph × Nat) => ∀ D : List VId, ssaG g = true → closedG g = true → noFwdG g = true →
      scopedG D g = true → (∀ v, (v ∈ refsG g ∨ v ∈ defsG g) → v < next) →
      OfixWF next r.2 (ssaG r.1) (closedG r.1) (noFwdG r.1) (scopedG D r.1) (defsG r.1) (defsG g) (refsG r.1) (refsG g)
    let Ns := fun next ns (r : List Node × Nat) => ∀ D : List VId, ssaNodes ns = true → closedNodes ns = true →
      noFwdNodes ns = true → scopedNodes D ns = true → (∀ v, (v ∈ refsNodes ns ∨ v ∈ defsNodes ns) → v < next) →
      OfixWF next r.2 (ssaNodes r.1) (closedNodes r.1) (noFwdNodes r.1) (scopedNodes D r.1) (defsNodes r.1) (defsNodes ns)
        (refsNodes r.1) (refsNodes ns)
    let Bs := fun next bs (r : List Graph × Nat) => ∀ D : List VId, ssaBodies bs = true → closedBodies bs = true →
      noFwdBodies bs = true → scopedBodies D bs = true → (∀ v, (v ∈ refsBodies bs ∨ v ∈ defsBodies bs) → v < next) →
      OfixWF next r.2 (ssaBodies r.1) (closedBodies r.1) (noFwdBodies r.1) (scopedBodies D r.1) (defsBodies r.1)
        (defsBodies bs) (refsBodies r.1) (refsBodies bs)
    (∀ next g, G next g (ofixG gi next g)) ∧ (∀ next ns, Ns next ns (ofixNodes gi next ns)) ∧
      ∀ next bs, Bs next bs (ofixBodies gi next bs) := by
  intro G Ns Bs
  refine ofixG.mutual_induct_unfolding gi G Ns Bs ?_ ?_ ?_ ?_ ?_
  · -- `rn`: the nodes processed, `r1`: the outputs after `_alias_multi_used_outputs`, `r2`: after `_alias_direct_outputs`
    intro next inputs outputs inits nodes rn r1 r2 ih D hs hc hf hsc hb
    rw [ssaG_iff] at hs
    rw [closedG_iff] at hc
    simp only [noFwdG] at hf
    simp only [scopedG] at hsc
    simp only [refsG, defsG, List.mem_append] at hb
    have hn := ih (D ++ inputs ++ inits.map Prod.fst) hs.2 hc.2 hf hsc
      (fun v hv => hb v (hv.imp Or.inr Or.inr))
    rw [show ofixNodes gi next nodes = rn from rfl] at hn
    have hot : outsTop rn.1 = outsTop nodes := ofixNodes_outsTop gi nodes next
    have hout : ∀ o ∈ outputs, o < rn.2 := fun o ho =>
      Nat.lt_of_lt_of_le (hb o (Or.inl (Or.inl ho))) hn.le
    obtain ⟨c1, m1⟩ := Aliased.chain (r := r1) (ofixMulti_aliased outputs [] rn.2) (· ∈ outputs) (fun o ho => ho)
    obtain ⟨c2, m2⟩ := Aliased.chain (r := r2) (ofixDirect_aliased gi r1.1 r1.2.2) (· ∈ r1.1) (fun o ho => ho)
    have hbn : ∀ v, (v ∈ outputs ++ refsNodes nodes ∨ v ∈ defsNodes nodes) → v < next := fun v hv =>
      hb v (hv.imp List.mem_append.1 Or.inr)
    have hsco : ∀ x ∈ outputs, x ∈ (D ++ inputs ++ inits.map Prod.fst) ++ outsTop rn.1 := fun x hx => by
      rw [hot]
      exact List.mem_append.2 ((List.mem_append.1 (hc.1 x hx)).imp
        (fun h => List.mem_append.2 ((List.mem_append.1 h).imp (List.mem_append_right _) id)) id)
    have h1 := OfixWF.append_chain { hn with refs := fun v hv => (hn.refs v hv).imp (List.mem_append_right _) id } hbn c1
      (fun x hx => ⟨hout x hx, hsco x hx, Or.inl (List.mem_append_left _ hx)⟩)
    have h2 := h1.append_chain hbn c2 (fun x hx => ⟨ofixMulti_lt outputs [] rn.2 hout x hx, by
        rw [outsTop_append, ← List.append_assoc]
        rcases m1 x hx with h | h
        · exact List.mem_append_left _ (hsco x h)
        · exact List.mem_append_right _ h,
        (m1 x hx).imp (List.mem_append_left _) (fun h => Nat.le_trans hn.le (c1.defs.2 x h).1)⟩)
    obtain ⟨hnd', hmem'⟩ := foldl_moveToEnd (fixedInputs r2.2.1) inits hs.1.1.2
    have hids : ∀ v, v ∈ ((fixedInputs r2.2.1).foldl (fun acc o => moveToEnd o acc) inits).map Prod.fst ↔
        v ∈ inits.map Prod.fst := by
      intro v
      simp only [List.mem_map]
      constructor
      · rintro ⟨p, hp, rfl⟩; exact ⟨p, (hmem' p).1 hp, rfl⟩
      · rintro ⟨p, hp, rfl⟩; exact ⟨p, (hmem' p).2 hp, rfl⟩
    refine ⟨?_, ?_, h2.nofwd, ?_, fun v hv => ?_, fun v hv => ?_, h2.le⟩
    · rw [ssaG_iff]
      refine ⟨⟨⟨hs.1.1.1, hnd'⟩, fun x hx hx' => ?_⟩, h2.ssa⟩
      have hxo : x ∈ inputs ++ inits.map Prod.fst := by
        rw [List.mem_append] at hx ⊢
        exact hx.imp id (hids x).1
      rcases h2.defs x hx' with h | h
      · exact hs.1.2 x hxo h
      · exact absurd (hb x (Or.inr (Or.inl (List.mem_append.1 hxo)))) (Nat.not_lt.2 h.1)
    · rw [closedG_iff]
      refine ⟨fun v hv => ?_, h2.closed⟩
      simp only [List.mem_append, outsTop_append, hot]
      rcases m2 v hv with h | h
      · rcases m1 v h with h' | h'
        · have := hc.1 v h'
          simp only [List.mem_append] at this
          rcases this with (h'' | h'') | h''
          · exact Or.inl (Or.inl h'')
          · exact Or.inl (Or.inr ((hids v).2 h''))
          · exact Or.inr (Or.inl (Or.inl h''))
        · exact Or.inr (Or.inl (Or.inr h'))
      · exact Or.inr (Or.inr h)
    · simp only [scopedG]
      refine scopedNodes_mono _ _ _ (fun v hv => ?_) h2.sco
      simp only [List.mem_append] at hv ⊢
      exact hv.imp id (hids v).2
    · simp only [defsG, List.mem_append] at hv ⊢
      rcases hv with (hv | hv) | hv
      · exact Or.inl (Or.inl (Or.inl hv))
      · exact Or.inl (Or.inl (Or.inr ((hids v).1 hv)))
      · exact (h2.defs v hv).imp Or.inr id
    · simp only [refsG, List.mem_append] at hv ⊢
      rcases hv with hv | hv
      · rcases m2 v hv with h | h
        · rcases m1 v h with h' | h'
          · exact Or.inl (Or.inl h')
          · exact Or.inr ⟨Nat.le_trans hn.le (c1.defs.2 v h').1, Nat.lt_of_lt_of_le (c1.defs.2 v h').2 c2.le⟩
        · exact Or.inr ⟨Nat.le_trans h1.le (c2.defs.2 v h).1, (c2.defs.2 v h).2⟩
      · exact (h2.refs v hv).imp List.mem_append.1 id
  · intro next D _ _ _ _ _
    exact ⟨rfl, rfl, rfl, rfl, fun _ h => Or.inl h, fun _ h => Or.inl h, Nat.le_refl _⟩
  · intro next op attrs ins outs bodies ns rb rn ihb ih D hs hc hf hsc hb
    rw [ssaNodes_cons_iff] at hs
    rw [closedNodes_cons_iff] at hc
    rw [noFwdNodes_cons_iff] at hf
    rw [scopedNodes_cons_iff] at hsc
    simp only [refsNodes, refsN, defsNodes, defsN, List.mem_append] at hb
    have hbd := ihb D hs.1.1.2 hc.1 hf.1.2 hsc.1.2
      (fun v hv => hb v (hv.imp (fun h => Or.inl (Or.inr h)) (fun h => Or.inl (Or.inr h))))
    have hn := ih (D ++ outs) hs.2 hc.2 hf.2 hsc.2
      (fun v hv => Nat.lt_of_lt_of_le (hb v (hv.imp Or.inr Or.inr)) hbd.le)
    have old : ∀ X : List VId, OldFresh X next next X := fun _ v hv => Or.inl hv
    have hdn := oldFresh_append (old outs) hbd.defs (Nat.le_refl _) hbd.le
    have hdefs : OldFresh (defsNodes (.mk op attrs ins outs bodies :: ns)) next rn.2
        (defsNodes (.mk op attrs ins outs (ofixBodies gi next bodies).1 :: (ofixNodes gi rb.2 ns).1)) :=
      oldFresh_append hdn hn.defs hbd.le hn.le
    have ltD : ∀ v ∈ defsNodes (.mk op attrs ins outs bodies :: ns), v < next := fun v hv => hb v (Or.inr (by
      simpa only [defsNodes, defsN, List.mem_append] using hv))
    have ltR : ∀ v ∈ refsNodes (.mk op attrs ins outs bodies :: ns), v < next := fun v hv => hb v (Or.inl (by
      simpa only [refsNodes, refsN, List.mem_append] using hv))
    refine ⟨?_, ?_, ?_, ?_, hdefs, ?_, Nat.le_trans hbd.le hn.le⟩
    · rw [ssaNodes_cons_iff]
      exact ⟨⟨⟨⟨hs.1.1.1.1, oldFresh_disj (old outs) hbd.defs (Nat.le_refl _)
          (fun v hv => ltD v (mem_defsNodes_cons.2 (Or.inl (mem_defsN.2 (Or.inl hv)))))
          (fun v hv => ltD v (mem_defsNodes_cons.2 (Or.inl (mem_defsN.2 (Or.inr hv))))) hs.1.1.1.2⟩, hbd.ssa⟩,
        oldFresh_disj hdn hn.defs hbd.le (fun v hv => ltD v (mem_defsNodes_cons.2 (Or.inl hv)))
          (fun v hv => ltD v (mem_defsNodes_cons.2 (Or.inr hv))) hs.1.2⟩, hn.ssa⟩
    · rw [closedNodes_cons_iff]; exact ⟨hbd.closed, hn.closed⟩
    · rw [noFwdNodes_cons_iff]
      exact ⟨⟨⟨oldFresh_disj (old (ins.filterMap id)) hdefs (Nat.le_refl _)
          (fun v hv => ltR v (by simp only [refsNodes, refsN, List.mem_append]; exact Or.inl (Or.inl hv))) ltD hf.1.1.1,
        oldFresh_disj hbd.refs (oldFresh_append (n1 := rb.2) (fun v hv => Or.inl hv) hn.defs (Nat.le_refl _) hn.le) hbd.le
          (fun v hv => ltR v (by simp only [refsNodes, refsN, List.mem_append]; exact Or.inl (Or.inr hv)))
          (fun v hv => ltD v (by
            simp only [defsNodes, defsN, List.mem_append] at hv ⊢; exact hv.imp (fun h => Or.inl h) id)) hf.1.1.2⟩,
        hbd.nofwd⟩, hn.nofwd⟩
    · rw [scopedNodes_cons_iff]
      exact ⟨⟨hsc.1.1, hbd.sco⟩, hn.sco⟩
    · exact oldFresh_append (oldFresh_append (old (ins.filterMap id)) hbd.refs (Nat.le_refl _) hbd.le) hn.refs hbd.le hn.le
  · intro next D _ _ _ _ _
    exact ⟨rfl, rfl, rfl, rfl, fun _ h => Or.inl h, fun _ h => Or.inl h, Nat.le_refl _⟩
  · intro next b bs r rs ihg ihb D hs hc hf hsc hb
    rw [ssaBodies_cons_iff] at hs
    rw [closedBodies_cons_iff] at hc
    rw [noFwdBodies_cons_iff] at hf
    rw [scopedBodies_cons_iff] at hsc
    simp only [refsBodies, defsBodies, List.mem_append] at hb
    have hg := ihg D hs.1.1 hc.1 hf.1 hsc.1 (fun v hv => hb v (hv.imp Or.inl Or.inl))
    have hr := ihb D hs.2 hc.2 hf.2 hsc.2
      (fun v hv => Nat.lt_of_lt_of_le (hb v (hv.imp Or.inr Or.inr)) hg.le)
    refine ⟨?_, ?_, ?_, ?_, ?_, ?_, Nat.le_trans hg.le hr.le⟩
    · rw [ssaBodies_cons_iff]
      exact ⟨⟨hg.ssa, oldFresh_disj hg.defs hr.defs hg.le (fun v hv => hb v (Or.inr (Or.inl hv)))
        (fun v hv => hb v (Or.inr (Or.inr hv))) hs.1.2⟩, hr.ssa⟩
    · rw [closedBodies_cons_iff]; exact ⟨hg.closed, hr.closed⟩
    · rw [noFwdBodies_cons_iff]; exact ⟨hg.nofwd, hr.nofwd⟩
    · rw [scopedBodies_cons_iff]; exact ⟨hg.sco, hr.sco⟩
    · exact oldFresh_append hg.defs hr.defs hg.le hr.le
    · exact oldFresh_append hg.refs hr.refs hg.le hr.le

theorem ofixNodes_valid (gi : List VId) : ∀ (ns : List Node) (next : Nat) (D : List VId), ssaNodes ns = true →
    closedNodes ns = true → noFwdNodes ns = true → scopedNodes D ns = true →
    (∀ v, (v ∈ refsNodes ns ∨ v ∈ defsNodes ns) → v < next) →
    OfixWF next (ofixNodes gi next ns).2 (ssaNodes (ofixNodes gi next ns).1) (closedNodes (ofixNodes gi next ns).1)
      (noFwdNodes (ofixNodes gi next ns).1) (scopedNodes D (ofixNodes gi next ns).1)
      (defsNodes (ofixNodes gi next ns).1) (defsNodes ns) (refsNodes (ofixNodes gi next ns).1) (refsNodes ns) :=
  fun ns next => (ofix_valid gi).2.1 next ns

theorem ofixBodies_valid (gi : List VId) : ∀ (bs : List Graph) (next : Nat) (D : List VId), ssaBodies bs = true →
    closedBodies bs = true → noFwdBodies bs = true → scopedBodies D bs = true →
    (∀ v, (v ∈ refsBodies bs ∨ v ∈ defsBodies bs) → v < next) →
    OfixWF next (ofixBodies gi next bs).2 (ssaBodies (ofixBodies gi next bs).1) (closedBodies (ofixBodies gi next bs).1)
      (noFwdBodies (ofixBodies gi next bs).1) (scopedBodies D (ofixBodies gi next bs).1)
      (defsBodies (ofixBodies gi next bs).1) (defsBodies bs) (refsBodies (ofixBodies gi next bs).1) (refsBodies bs) :=
  fun bs next => (ofix_valid gi).2.2 next bs

theorem ofixG_validG (gi : List VId) (g : Graph) (next : Nat) (hv : validG g = true)
    (hb : ∀ v, (v ∈ refsG g ∨ v ∈ defsG g) → v < next) : validG (ofixG gi next g).1 = true := by
  rw [validG_iff] at hv ⊢
  have h := (ofix_valid gi).1 next g [] hv.1 hv.2.1 hv.2.2.1 hv.2.2.2 hb
  exact ⟨h.ssa, h.closed, h.nofwd, h.sco⟩

theorem ofixFuncs_valid (gi : List VId) : ∀ (fs : List Graph) (next : Nat), fs.all validG = true →
    (∀ v, (v ∈ refsBodies fs ∨ v ∈ defsBodies fs) → v < next) → (ofixBodies gi next fs).1.all validG = true
  | [], _, _, _ => by simp [ofixBodies]
  | f :: fs, next, hv, hb => by
    simp only [List.all_cons, Bool.and_eq_true] at hv
    simp only [refsBodies, defsBodies, List.mem_append] at hb
    simp only [ofixBodies, List.all_cons, Bool.and_eq_true]
    exact ⟨ofixG_validG gi f next hv.1 (fun v hv' => hb v (hv'.imp Or.inl Or.inl)),
      ofixFuncs_valid gi fs _ hv.2 (fun v hv' => Nat.lt_of_lt_of_le (hb v (hv'.imp Or.inr Or.inr)) (ofixG_mono gi f next))⟩

theorem ofixModel_valid (m : Model) (hv : validModel m = true) : validModel (ofixModel m) = true := by
  simp only [validModel, Bool.and_eq_true] at hv ⊢
  simp only [ofixModel]
  refine ⟨ofixG_validG _ m.graph (freshId m) hv.1 (fun v hv' => lt_freshId_of_mem m ?_),
    ofixFuncs_valid _ m.funcs _ hv.2 (fun v hv' => Nat.lt_of_lt_of_le (lt_freshId_of_mem m ?_) (ofixG_mono _ _ _))⟩
  · simp only [List.mem_append]
    rcases hv' with h | h
    · exact Or.inl (Or.inl (Or.inl h))
    · exact Or.inl (Or.inl (Or.inr h))
  · simp only [List.mem_append]
    rcases hv' with h | h
    · exact Or.inl (Or.inr h)
    · exact Or.inr h

end IrVerif.Passes
