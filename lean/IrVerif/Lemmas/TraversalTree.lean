/-
`TWorld.treeShape` implies that the pre-order stream of a complete recursive iteration yields every
node of the nest exactly once.

Part 1 is pure combinatorics over an abstract forest (`nodes g` = the nodes of graph `g` in
iteration order, `sub v` = the subgraphs entered from node `v`): when every graph has at most one
parent position and the root has none, the pre-order listing to any depth has no duplicates.  The
argument walks *backwards* along the unique parents (`ReachN`: reachability in exactly `j` steps).
Part 2 instantiates it with the world of Model/Traversal.lean.
-/
import IrVerif.Lemmas.TraversalRun
import IrVerif.Lemmas.LinkedSetCycle
import IrVerif.Lemmas.ListFacts
namespace IrVerif.LinkedSet

/-! ### lists -/

theorem nodup_flatMap_of {α β : Type} (f : α → List β) : ∀ (l : List α), l.Nodup → (∀ x ∈ l, (f x).Nodup) →
    (∀ x ∈ l, ∀ y ∈ l, x ≠ y → ∀ b ∈ f x, b ∉ f y) → (l.flatMap f).Nodup
  | [], _, _, _ => by simp
  | a :: l, hnd, hf, hd => by
      have hnd' := List.nodup_cons.1 hnd
      simp only [List.flatMap_cons]
      refine List.nodup_append.2 ⟨hf a (by simp), ?_, ?_⟩
      · exact nodup_flatMap_of f l hnd'.2 (fun x hx => hf x (by simp [hx]))
          (fun x hx y hy => hd x (by simp [hx]) y (by simp [hy]))
      · intro b hb c hc e
        subst e
        obtain ⟨y, hy, hby⟩ := List.mem_flatMap.1 hc
        have hne : a ≠ y := by rintro rfl; exact hnd'.1 hy
        exact hd a (by simp) y (by simp [hy]) hne b hb hby

theorem sublist_flatMap_of_mem {α β : Type} (f : α → List β) : ∀ (l : List α) (x : α), x ∈ l →
    (f x).Sublist (l.flatMap f) :=
  fun _ _ h => (ListFacts.infix_flatMap_of_mem f h).sublist

/-! ### reachability in exactly `j` steps -/

inductive ReachN (E : Nat → Nat → Prop) : Nat → Nat → Nat → Prop
  | zero (g : Nat) : ReachN E 0 g g
  | snoc {j g y x : Nat} : ReachN E j g y → E y x → ReachN E (j + 1) g x

theorem ReachN.cons {E : Nat → Nat → Prop} {j g h x : Nat} (e : E g h) (r : ReachN E j h x) :
    ReachN E (j + 1) g x := by
  induction r with
  | zero => exact .snoc (.zero g) e
  | snoc _ e' ih => exact .snoc (ih e) e'

theorem ReachN.zero_eq {E : Nat → Nat → Prop} {g x : Nat} (r : ReachN E 0 g x) : x = g := by
  cases r; rfl

/-- peel the first edge -/
theorem ReachN.uncons {E : Nat → Nat → Prop} : ∀ {j g x : Nat}, ReachN E (j + 1) g x →
    ∃ h, E g h ∧ ReachN E j h x
  | 0, g, x, r => by
      cases r with
      | snoc r' e => have := r'.zero_eq; subst this; exact ⟨x, e, .zero x⟩
  | j + 1, g, x, r => by
      cases r with
      | snoc r' e =>
        obtain ⟨h, eh, rh⟩ := ReachN.uncons r'
        exact ⟨h, eh, .snoc rh e⟩

/-- with unique parents, walking back `j` steps from `x` ends in one place -/
theorem ReachN.unique {E : Nat → Nat → Prop} (hu : ∀ x y y', E y x → E y' x → y = y') :
    ∀ {j g g' x : Nat}, ReachN E j g x → ReachN E j g' x → g = g'
  | 0, _, _, _, r, r' => by rw [← r.zero_eq, ← r'.zero_eq]
  | j + 1, g, g', x, r, r' => by
      cases r with
      | snoc r1 e1 =>
        cases r' with
        | snoc r2 e2 =>
          have := hu _ _ _ e1 e2
          subst this
          exact ReachN.unique hu r1 r2

/-- with unique parents, a longer walk back from `x` passes through the start of a shorter one -/
theorem ReachN.back {E : Nat → Nat → Prop} (hu : ∀ x y y', E y x → E y' x → y = y') (c : Nat) :
    ∀ {j g g' x : Nat}, ReachN E j g x → ReachN E (j + c) g' x → ReachN E c g' g
  | 0, _, _, _, r, r' => by
      have := r.zero_eq; subst this; simpa using r'
  | j + 1, g, g', x, r, r' => by
      cases r with
      | snoc r1 e1 =>
        have e : j + 1 + c = (j + c) + 1 := by omega
        rw [e] at r'
        cases r' with
        | snoc r2 e2 =>
          have := hu _ _ _ e1 e2
          subst this
          exact ReachN.back hu c r1 r2

theorem ReachN.nested {kids : Nat → List Nat} : ∀ {j g x : Nat}, ReachN (fun a b => b ∈ kids a) (j + 1) g x →
    Nested kids g x
  | 0, g, x, r => by
      obtain ⟨h, e, r'⟩ := r.uncons
      have := r'.zero_eq; subst this; exact .one e
  | j + 1, g, x, r => by
      obtain ⟨h, e, r'⟩ := r.uncons
      exact .cons e (ReachN.nested r')

theorem Nested.reachN {kids : Nat → List Nat} {g x : Nat} (h : Nested kids g x) :
    ∃ j, ReachN (fun a b => b ∈ kids a) (j + 1) g x := by
  induction h with
  | one e => exact ⟨0, .snoc (.zero _) e⟩
  | cons e _ ih => obtain ⟨j, r⟩ := ih; exact ⟨j + 1, ReachN.cons e r⟩

/-! ### part 1: an abstract forest -/

section Forest
variable (nodes sub : Nat → List Nat) (E : Nat → Nat → Prop)

/-- unique parents: a node is in one graph, at one place; a graph hangs under one node, at one
    place; the root under none -/
structure Forest (g0 : Nat) : Prop where
  edge : ∀ g h, E g h ↔ ∃ v ∈ nodes g, h ∈ sub v
  nd : ∀ g, (nodes g).Nodup
  one : ∀ g g' v, v ∈ nodes g → v ∈ nodes g' → g = g'
  snd : ∀ g v, v ∈ nodes g → (sub v).Nodup
  par : ∀ g g' v v' h, v ∈ nodes g → v' ∈ nodes g' → h ∈ sub v → h ∈ sub v' → v = v'
  root : ∀ g v, v ∈ nodes g → g0 ∉ sub v

variable {nodes sub E}

theorem Forest.uparent {g0 : Nat} (F : Forest nodes sub E g0) : ∀ x y y', E y x → E y' x → y = y' := by
  intro x y y' e e'
  obtain ⟨v, hv, hx⟩ := (F.edge y x).1 e
  obtain ⟨v', hv', hx'⟩ := (F.edge y' x).1 e'
  have := F.par y y' v v' x hv hv' hx hx'
  subst this
  exact F.one y y' v hv hv'

theorem mem_preord (hE : ∀ g h, E g h ↔ ∃ v ∈ nodes g, h ∈ sub v) : ∀ (k g u : Nat), u ∈ preord nodes sub k g →
    ∃ j, j < k ∧ ∃ x, ReachN E j g x ∧ u ∈ nodes x
  | 0, _, _, h => by cases h
  | k + 1, g, u, h => by
      simp only [preord, List.mem_flatMap, List.mem_cons] at h
      obtain ⟨v, hv, hu | ⟨hh, hhv, hu⟩⟩ := h
      · subst hu; exact ⟨0, by omega, g, .zero g, hv⟩
      · obtain ⟨j, hj, x, r, hx⟩ := mem_preord hE k hh u hu
        exact ⟨j + 1, by omega, x, ReachN.cons ((hE g hh).2 ⟨v, hv, hhv⟩) r, hx⟩

theorem preord_mem (hE : ∀ g h, E g h ↔ ∃ v ∈ nodes g, h ∈ sub v) : ∀ (k j g x u : Nat), j < k → ReachN E j g x →
    u ∈ nodes x → u ∈ preord nodes sub k g
  | 0, _, _, _, _, h, _, _ => by omega
  | k + 1, 0, g, x, u, _, r, hu => by
      have := r.zero_eq; subst this
      simp only [preord, List.mem_flatMap, List.mem_cons]
      exact ⟨u, hu, Or.inl rfl⟩
  | k + 1, j + 1, g, x, u, hj, r, hu => by
      obtain ⟨h, e, r'⟩ := r.uncons
      obtain ⟨v, hv, hh⟩ := (hE g h).1 e
      simp only [preord, List.mem_flatMap, List.mem_cons]
      exact ⟨v, hv, Or.inr ⟨h, hh, preord_mem hE k j h x u (by omega) r' hu⟩⟩

/-- from `g` every graph is reached in one number of steps only -/
def OneDepth (E : Nat → Nat → Prop) (g : Nat) : Prop := ∀ x j j', ReachN E j g x → ReachN E j' g x → j = j'

theorem oneDepth_root {g0 : Nat} (F : Forest nodes sub E g0) : OneDepth E g0 := by
  have key : ∀ x j c, ReachN E j g0 x → ReachN E (j + (c + 1)) g0 x → False := by
    intro x j c r r'
    have := ReachN.back F.uparent (c + 1) r r'
    cases this with
    | snoc _ e =>
      obtain ⟨v, hv, hx⟩ := (F.edge _ _).1 e
      exact F.root _ v hv hx
  intro x j j' r r'
  rcases Nat.lt_trichotomy j j' with h | h | h
  · obtain ⟨c, rfl⟩ : ∃ c, j' = j + (c + 1) := ⟨j' - j - 1, by omega⟩
    exact (key x j c r r').elim
  · exact h
  · obtain ⟨c, rfl⟩ : ∃ c, j = j' + (c + 1) := ⟨j - j' - 1, by omega⟩
    exact (key x j' c r' r).elim

theorem oneDepth_child {g h : Nat} (H : OneDepth E g) (e : E g h) : OneDepth E h := by
  intro x j j' r r'
  have := H x (j + 1) (j' + 1) (ReachN.cons e r) (ReachN.cons e r')
  omega

/-- **the pre-order listing of a forest has no duplicates** -/
theorem preord_nodup {g0 : Nat} (F : Forest nodes sub E g0) : ∀ (k g : Nat), OneDepth E g →
    (preord nodes sub k g).Nodup
  | 0, _, _ => by simp [preord]
  | k + 1, g, H => by
      -- a node of `g` is not listed again below `g`
      have notBelow : ∀ u v h, u ∈ nodes g → v ∈ nodes g → h ∈ sub v → u ∉ preord nodes sub k h := by
        intro u v h hu hv hh hm
        obtain ⟨j, _, x, r, hx⟩ := mem_preord F.edge k h u hm
        have := F.one x g u hx hu
        subst this
        have e := (F.edge x h).2 ⟨v, hv, hh⟩
        have := H x 0 (j + 1) (.zero x) (ReachN.cons e r)
        omega
      -- two subgraphs entered from nodes of `g` that list a common node are the same subgraph
      have sameSub : ∀ u v v' h h', v ∈ nodes g → v' ∈ nodes g → h ∈ sub v → h' ∈ sub v' →
          u ∈ preord nodes sub k h → u ∈ preord nodes sub k h' → h = h' := by
        intro u v v' h h' hv hv' hh hh' hm hm'
        obtain ⟨j, _, x, r, hx⟩ := mem_preord F.edge k h u hm
        obtain ⟨j', _, x', r', hx'⟩ := mem_preord F.edge k h' u hm'
        have := F.one x x' u hx hx'
        subst this
        have e := (F.edge g h).2 ⟨v, hv, hh⟩
        have e' := (F.edge g h').2 ⟨v', hv', hh'⟩
        have hj := H x (j + 1) (j' + 1) (ReachN.cons e r) (ReachN.cons e' r')
        have : j = j' := by omega
        subst this
        exact ReachN.unique F.uparent r r'
      simp only [preord]
      apply nodup_flatMap_of _ _ (F.nd g)
      · intro v hv
        refine List.nodup_cons.2 ⟨?_, ?_⟩
        · intro hm
          obtain ⟨h, hh, hm⟩ := List.mem_flatMap.1 hm
          exact notBelow v v h hv hv hh hm
        · apply nodup_flatMap_of _ _ (F.snd g v hv)
          · intro h hh
            exact preord_nodup F k h (oneDepth_child H ((F.edge g h).2 ⟨v, hv, hh⟩))
          · intro h hh h' hh' hne u hu hu'
            exact hne (sameSub u v v h h' hv hv hh hh' hu hu')
      · intro v hv v' hv' hne u hu hu'
        rcases List.mem_cons.1 hu with rfl | hu <;> rcases List.mem_cons.1 hu' with e | hu'
        · exact hne e
        · obtain ⟨h', hh', hm'⟩ := List.mem_flatMap.1 hu'
          exact notBelow _ v' h' hv hv' hh' hm'
        · obtain ⟨h, hh, hm⟩ := List.mem_flatMap.1 hu
          subst e
          exact notBelow _ v h hv' hv hh hm
        · obtain ⟨h, hh, hm⟩ := List.mem_flatMap.1 hu
          obtain ⟨h', hh', hm'⟩ := List.mem_flatMap.1 hu'
          have := sameSub u v v' h h' hv hv' hh hh' hm hm'
          subst this
          exact hne (F.par g g v v' h hv hv' hh hh')

end Forest

/-! ### part 2: the world of Model/Traversal.lean -/

theorem mem_nodesD {w : TWorld} (hw : TWorldWF w) (d : Dir) (g v : Nat) :
    v ∈ w.nodesD d g ↔ v ∈ toList (w.setOf g) := by
  unfold TWorld.nodesD
  rw [rest_notStarted_eq (hw.setOf g) d]
  cases d <;> simp

theorem nodesD_nodup {w : TWorld} (hw : TWorldWF w) (d : Dir) (g : Nat) : (w.nodesD d g).Nodup := by
  unfold TWorld.nodesD
  rw [rest_notStarted_eq (hw.setOf g) d]
  cases d
  · exact toList_nodup (hw.setOf g)
  · exact ListFacts.nodup_reverse.2 (toList_nodup (hw.setOf g))

theorem tsetOf_ge_empty (w : TWorld) (g : Nat) (hg : w.sets.length ≤ g) : w.setOf g = empty :=
  setOf_ge_empty w.toR g hg

theorem mem_toList_lt {w : TWorld} {g v : Nat} (h : v ∈ toList (w.setOf g)) : g < w.sets.length := by
  apply Nat.lt_of_not_le
  intro hle
  rw [tsetOf_ge_empty w g hle, toList_empty] at h
  cases h

theorem mem_members {w : TWorld} {g v : Nat} (h : v ∈ toList (w.setOf g)) : v ∈ w.members :=
  List.mem_flatMap.2 ⟨g, List.mem_range.2 (mem_toList_lt h), h⟩

theorem mem_kids_iff {w : TWorld} (hw : TWorldWF w) (d : Dir) (g h : Nat) :
    h ∈ w.kids d g ↔ ∃ v ∈ w.nodesD d g, h ∈ w.subD d v := by
  simp only [TWorld.kids, List.mem_flatMap, List.mem_filter, TWorld.subD]
  constructor
  · rintro ⟨v, ⟨hv, hr⟩, hh⟩
    exact ⟨v, (mem_nodesD hw d g v).2 hv, by simpa [hr] using hh⟩
  · rintro ⟨v, hv, hh⟩
    by_cases hr : w.recurse v = true
    · exact ⟨v, ⟨(mem_nodesD hw d g v).1 hv, hr⟩, by simpa [hr] using hh⟩
    · simp [hr] at hh

/-- the decidable tree-shape predicate gives the forest hypotheses -/
theorem forest_of_treeShape {w : TWorld} {d : Dir} (hw : TWorldWF w) (g0 : Nat)
    (ht : w.treeShape d g0 = true) :
    Forest (w.nodesD d) (w.subD d) (fun a b => b ∈ w.kids d a) g0 := by
  simp only [TWorld.treeShape, Bool.and_eq_true, decide_eq_true_eq, Bool.not_eq_true',
    List.contains_eq_mem, decide_eq_false_iff_not] at ht
  obtain ⟨⟨⟨_, hmem⟩, hrefs⟩, hroot⟩ := ht
  have inRefs : ∀ g v, v ∈ w.nodesD d g → w.recurse v = true → v ∈ w.members.filter w.recurse := by
    intro g v hv hr
    exact List.mem_filter.2 ⟨mem_members ((mem_nodesD hw d g v).1 hv), hr⟩
  refine ⟨fun g h => mem_kids_iff hw d g h, nodesD_nodup hw d, ?_, ?_, ?_, ?_⟩
  · intro g g' v hv hv'
    have h1 := (mem_nodesD hw d g v).1 hv
    have h2 := (mem_nodesD hw d g' v).1 hv'
    apply Classical.byContradiction
    intro hne
    exact ListFacts.flatMap_nodup_disjoint _ _ hmem g (List.mem_range.2 (mem_toList_lt h1)) g'
      (List.mem_range.2 (mem_toList_lt h2)) hne v h1 h2
  · intro g v hv
    unfold TWorld.subD
    by_cases hr : w.recurse v = true
    · simp only [hr, if_true]
      exact (sublist_flatMap_of_mem (w.visit d) _ v (inRefs g v hv hr)).nodup hrefs
    · simp [hr]
  · intro g g' v v' h hv hv' hh hh'
    unfold TWorld.subD at hh hh'
    by_cases hr : w.recurse v = true
    · by_cases hr' : w.recurse v' = true
      · simp only [hr, hr', if_true] at hh hh'
        apply Classical.byContradiction
        intro hne
        exact ListFacts.flatMap_nodup_disjoint _ _ hrefs v (inRefs g v hv hr) v' (inRefs g' v' hv' hr') hne h hh hh'
      · simp [hr'] at hh'
    · simp [hr] at hh
  · intro g v hv hh
    unfold TWorld.subD at hh
    by_cases hr : w.recurse v = true
    · simp only [hr, if_true] at hh
      exact hroot (List.mem_flatMap.2 ⟨v, inRefs g v hv hr, hh⟩)
    · simp [hr] at hh

/-! #### the yields of the specification stream are the pre-order listing -/

theorem yieldsOf_append (a b : List Out) : yieldsOf (a ++ b) = yieldsOf a ++ yieldsOf b := by
  simp [yieldsOf, List.filterMap_append]

theorem yieldsOf_flatMap {α : Type} (f : α → List Out) : ∀ (l : List α),
    yieldsOf (l.flatMap f) = l.flatMap (fun x => yieldsOf (f x))
  | [] => rfl
  | a :: l => by simp only [List.flatMap_cons, yieldsOf_append, yieldsOf_flatMap f l]

theorem yieldsOf_tAfter (V : Nat → List Out) (w : TWorld) (d : Dir) (v : Nat) :
    yieldsOf (tAfter V w d v) = (w.subD d v).flatMap (fun h => yieldsOf (V h)) := by
  unfold tAfter TWorld.subD
  rw [yieldsOf_append]
  have : yieldsOf (if w.recf.isSome then [Out.pred v] else []) = [] := by split <;> rfl
  rw [this]
  split
  · simp [yieldsOf_flatMap]
  · rfl

theorem yieldsOf_tLoop (V : Nat → List Out) (w : TWorld) (d : Dir) (g : Nat) (ns : List Nat) :
    yieldsOf (tLoop V w d g ns) = ns.flatMap (fun v => v :: (w.subD d v).flatMap (fun h => yieldsOf (V h))) := by
  unfold tLoop
  rw [yieldsOf_append, yieldsOf_flatMap]
  have : yieldsOf [Out.exit g] = [] := rfl
  rw [this, List.append_nil]
  congr 1
  funext v
  show yieldsOf ([Out.yield g v] ++ tAfter V w d v) = _
  rw [yieldsOf_append, yieldsOf_tAfter]; rfl

theorem yieldsOf_tVisit (w : TWorld) (d : Dir) : ∀ (k h : Nat),
    yieldsOf (tVisit w d k h) = preord (w.nodesD d) (w.subD d) k h
  | 0, _ => rfl
  | k + 1, h => by
      have ih : (fun h => yieldsOf (tVisit w d k h)) = preord (w.nodesD d) (w.subD d) k :=
        funext (yieldsOf_tVisit w d k)
      simp only [tVisit, yieldsOf_append, yieldsOf_tLoop, ih, preord]
      show [] ++ _ ++ [] = _
      simp [TWorld.nodesD]

/-- the yields of a complete run of a fresh iterator (`C11_trav_preorder`) -/
theorem yieldsOf_top (w : TWorld) (d : Dir) (k g : Nat) :
    yieldsOf (Out.enter g :: tLoop (tVisit w d k) w d g (rest (w.setOf g) d .notStarted)) =
      preord (w.nodesD d) (w.subD d) (k + 1) g := by
  have ih : (fun h => yieldsOf (tVisit w d k h)) = preord (w.nodesD d) (w.subD d) k :=
    funext (yieldsOf_tVisit w d k)
  have e : ∀ l, yieldsOf (Out.enter g :: l) = yieldsOf l := fun _ => rfl
  rw [e, yieldsOf_tLoop, ih]
  rfl

/-- under stable heights, a graph reached in `j` steps is `j` lower -/
theorem hgt_reachN {w : TWorld} {d : Dir} (ha : w.acyclic d = true) :
    ∀ {j g x : Nat}, ReachN (fun a b => b ∈ w.kids d a) j g x → w.hgt d x + j ≤ w.hgt d g
  | 0, _, _, r => by have := r.zero_eq; subst this; omega
  | j + 1, g, x, r => by
      cases r with
      | snoc r' e =>
        have ih := hgt_reachN ha r'
        have : w.hgt d x < w.hgt d _ :=
          hgtG_rank (w.kids d) w.sets.length (List.range w.sets.length) ha (tkids_covered w d) _ x e
        omega

end IrVerif.LinkedSet
