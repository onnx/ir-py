/-
C18: graph-valued attributes as the code reads them (GRAPH / GRAPHS / reference attributes), and the list of
all graphs nested in a graph.
-/
import IrVerif.Lemmas.Implicit
import IrVerif.Lemmas.ExtractHyp
import IrVerif.Lemmas.ListFacts
namespace IrVerif.Extract

theorem procGs_append (W : World) (stack : List GId) : ∀ (a b : List GraphT) (u : Usages),
    procGs W stack u (a ++ b) = procGs W stack (procGs W stack u a) b
  | [], b, u => by simp [procGs]
  | g :: a, b, u => by
    simp only [List.cons_append, procGs]
    exact procGs_append W stack a b _

/-- reading the attribute list branch by branch (`_process_node` 58-79) is processing the flattened list of
    graphs `attrBodies` -/
theorem procAttrs_eq (W : World) (stack : List GId) : ∀ (as : List AttrT) (u : Usages),
    procAttrs W stack u as = procGs W stack u (attrBodies as)
  | [], u => by simp [procAttrs, attrBodies, procGs]
  | .ref :: as, u => by simp only [procAttrs, attrBodies]; exact procAttrs_eq W stack as u
  | .other :: as, u => by simp only [procAttrs, attrBodies]; exact procAttrs_eq W stack as u
  | .graph g :: as, u => by
    simp only [procAttrs, attrBodies, procGs]; exact procAttrs_eq W stack as _
  | .graphs gs :: as, u => by
    simp only [procAttrs, attrBodies]
    rw [procGs_append]
    exact procAttrs_eq W stack as _

/-- extractor 88-102 branch by branch collects the captured values of the flattened list of graphs -/
theorem capturedAttrs_eq (W : World) (p : GId) (ins : List (Option VId)) (outs : List VId) :
    ∀ (as : List AttrT), capturedAttrs W p as = captured W p (.mk ins outs (attrBodies as))
  | [] => by simp [capturedAttrs, attrBodies, captured]
  | .ref :: as => by
    simp only [capturedAttrs, attrBodies]; exact capturedAttrs_eq W p ins outs as
  | .other :: as => by
    simp only [capturedAttrs, attrBodies]; exact capturedAttrs_eq W p ins outs as
  | .graph g :: as => by
    simp only [capturedAttrs, attrBodies, capturedAttrs_eq W p ins outs as]
    simp [captured]
  | .graphs gs :: as => by
    simp only [capturedAttrs, attrBodies, capturedAttrs_eq W p ins outs as]
    simp [captured]

/-! ## all nested graphs -/

theorem self_mem_subsG (g : GraphT) : g ∈ subsG g := by
  cases g with
  | mk gid i w o ns => simp [subsG]

theorem mem_subsGs_of {s c : GraphT} : ∀ {bs : List GraphT}, c ∈ bs → s ∈ subsG c → s ∈ subsGs bs
  | [], h, _ => by cases h
  | b :: bs, h, hs => by
    rw [subsGs, List.mem_append]
    rcases List.mem_cons.mp h with rfl | h
    · exact Or.inl hs
    · exact Or.inr (mem_subsGs_of h hs)

theorem mem_subsNs_of {s : GraphT} {n : NodeT} : ∀ {ns : List NodeT}, n ∈ ns → s ∈ subsN n → s ∈ subsNs ns
  | [], h, _ => by cases h
  | m :: ns, h, hs => by
    rw [subsNs, List.mem_append]
    rcases List.mem_cons.mp h with rfl | h
    · exact Or.inl hs
    · exact Or.inr (mem_subsNs_of h hs)

theorem subsN_eq (n : NodeT) : subsN n = subsGs n.bodies := by
  cases n with
  | mk i o bs => simp [subsN]

theorem subsG_nodes {b s : GraphT} (h : s ∈ subsNs b.nodes) : s ∈ subsG b := by
  cases b with
  | mk gid i w o ns => simp only [subsG, GraphT.nodes_mk] at h ⊢; exact List.mem_cons_of_mem _ h

theorem mem_subsG_of_SubG {b s : GraphT} (h : SubG b s) : s ∈ subsG b := by
  induction h with
  | self => exact self_mem_subsG _
  | @deeper b c s n hn hc _ ih =>
    apply subsG_nodes
    apply mem_subsNs_of hn
    rw [subsN_eq]
    exact mem_subsGs_of hc ih

/-- under `uniqueGidsB`, two graphs nested in the analysed root with the same identity are the same graph -/
theorem uniqueGids_of_B {ns : List NodeT} (h : uniqueGidsB ns = true) {n n' : NodeT} {b b' s s' : GraphT}
    (hn : n ∈ ns) (hb : b ∈ n.bodies) (hs : SubG b s)
    (hn' : n' ∈ ns) (hb' : b' ∈ n'.bodies) (hs' : SubG b' s') (e : s.gid = s'.gid) : s = s' := by
  have hm : s ∈ subsNs ns := mem_subsNs_of hn (by rw [subsN_eq]; exact mem_subsGs_of hb (mem_subsG_of_SubG hs))
  have hm' : s' ∈ subsNs ns :=
    mem_subsNs_of hn' (by rw [subsN_eq]; exact mem_subsGs_of hb' (mem_subsG_of_SubG hs'))
  exact ListFacts.inj_of_nodup_map (nodup_of_B h) hm hm' e

/-- path form of what `analyze_implicit_usage` records (the `C18_captures_*` theorems are stated against the
    structural free variables) -/
theorem captures_path (W : World) (g : GraphT) (k : GId) :
    (∀ v, v ∈ (analyze W g).get k ↔ ∃ n, n ∈ g.nodes ∧ ∃ b, b ∈ n.bodies ∧ CapG W [] b k v) ∧
    ((analyze W g).HasKey k ↔ ∃ n, n ∈ g.nodes ∧ ∃ b, b ∈ n.bodies ∧ NestedIn b k) := by
  unfold analyze
  constructor
  · intro v
    rw [mem_get, (foldl_procN_spec W g.gid k v g.nodes []).1]
    simp [Usages.Has]
  · rw [(foldl_procN_spec W g.gid k 0 g.nodes []).2 k]
    simp [Usages.HasKey]

end IrVerif.Extract
