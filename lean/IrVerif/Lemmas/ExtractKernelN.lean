/-
C18 <- C01, nodes holding subgraphs: a world of the C01 kernel read as a world of the C18 model
WITH the graphs its node attributes hold (`NodeS.attrs`, unfolded `fuel` levels deep as `treeOf` does), the
`.graph` back pointer being the `Value.graph` PROPERTY (`_core.py` 3223-3236: `_graph` when set, else the graph
of the producer).  From the kernel invariant `Kernel.WF` and closedness of the kernel graphs (every graph output
is defined at the top level of its graph: what onnx.checker demands) the back pointers are consistent with the
structure on every subtree (`BackPtrOK`), and every unfolded tree is closed.
-/
import IrVerif.Lemmas.ExtractKernel
import IrVerif.Lemmas.ExtractScope
namespace IrVerif.Extract

/-- `Value.graph` (the property) -/
def kOwner (w : Kernel.World) (v : Nat) : Option Nat :=
  match (w.val v).graph with
  | some g => some g
  | none =>
    match (w.val v).producer with
    | some n => (w.node n).graph
    | none => none

/-- the graphs held by the attributes of kernel node `n`, in `attributes.values()` order -/
def kAttrGraphs (w : Kernel.World) (n : Nat) : List Nat := (w.node n).attrs.flatMap (fun p => p.2)

/-- kernel node `n` with its graph attributes unfolded `fuel` levels deep -/
def kNode (w : Kernel.World) : Nat → Nat → NodeT
  | 0, n => .mk (w.node n).inputs (w.node n).outputs []
  | fuel + 1, n =>
    .mk (w.node n).inputs (w.node n).outputs
      ((kAttrGraphs w n).map (fun g =>
        GraphT.mk g (w.gr g).inputs ((w.gr g).inits.map (·.2)) (w.gr g).outputs
          ((w.gr g).nodes.map (kNode w fuel))))

/-- kernel graph `g` as a tree -/
def kGraph (w : Kernel.World) (fuel g : Nat) : GraphT :=
  .mk g (w.gr g).inputs ((w.gr g).inits.map (·.2)) (w.gr g).outputs ((w.gr g).nodes.map (kNode w fuel))

theorem kNode_succ (w : Kernel.World) (fuel n : Nat) :
    kNode w (fuel + 1) n =
      .mk (w.node n).inputs (w.node n).outputs ((kAttrGraphs w n).map (kGraph w fuel)) := rfl

/-- the kernel world as a C18 world: same creation indices, back pointer = the `graph` property, nodes with
    their subgraphs -/
def ofKernelN (w : Kernel.World) (fuel : Nat) : World :=
  { vals := (List.range w.vals.length).map (fun v =>
      { name := (w.val v).name.getD "", producer := (w.val v).producer, graph := kOwner w v,
        isInit := (w.val v).isInit }),
    nodes := (List.range w.nodes.length).map (kNode w fuel) }

theorem kOwner_fresh {w : Kernel.World} {v : Nat} (h : w.vals.length ≤ v) : kOwner w v = none := by
  unfold kOwner; rw [w.val_fresh v h]

theorem ofKernelN_val (w : Kernel.World) (fuel v : Nat) :
    (ofKernelN w fuel).val v = { name := (w.val v).name.getD "", producer := (w.val v).producer,
                                 graph := kOwner w v, isInit := (w.val v).isInit } := by
  unfold World.val ofKernelN
  rw [List.getD_eq_getElem?_getD, ListFacts.getElem?_range_map]
  split
  · rfl
  · next h => rw [kOwner_fresh (Nat.le_of_not_lt h), w.val_fresh v (Nat.le_of_not_lt h)]; rfl

theorem ofKernelN_graphOf (w : Kernel.World) (fuel v : Nat) : (ofKernelN w fuel).graphOf v = kOwner w v := by
  unfold World.graphOf; rw [ofKernelN_val]

/-- `v` is defined at the top level of kernel graph `g` -/
def TopDef (w : Kernel.World) (g v : Nat) : Prop :=
  v ∈ (w.gr g).inputs ∨ v ∈ (w.gr g).inits.map (·.2) ∨ ∃ n, n ∈ (w.gr g).nodes ∧ v ∈ (w.node n).outputs

/-- every graph output is defined at the top level of its graph (ONNX: onnx.checker rejects anything else) -/
def KClosed (w : Kernel.World) : Prop := ∀ g v, v ∈ (w.gr g).outputs → TopDef w g v

/-- **per graph**: the `graph` property of a value names `g` exactly when `g` defines the value at its top
    level -/
theorem owner_iff {w : Kernel.World} (h : Kernel.WF w) (hc : KClosed w) (g v : Nat) :
    kOwner w v = some g ↔ TopDef w g v := by
  constructor
  · intro ho
    unfold kOwner at ho
    cases hg : (w.val v).graph with
    | some g' =>
      rw [hg] at ho
      simp only [Option.some.injEq] at ho
      subst ho
      have hown := h.own.graph_owned v g' hg
      unfold Kernel.owned at hown
      simp only [Bool.or_eq_true] at hown
      rcases hown with (hin | hout) | hinit
      · obtain ⟨g2, hg2, hm⟩ := h.own.io_flag .inp v hin
        rw [hg] at hg2; cases hg2
        exact Or.inl hm
      · obtain ⟨g2, hg2, hm⟩ := h.own.io_flag .out v hout
        rw [hg] at hg2; cases hg2
        exact hc g' v hm
      · obtain ⟨g2, key, hg2, hm⟩ := h.own.init_flag v hinit
        rw [hg] at hg2; cases hg2
        exact Or.inr (Or.inl (List.mem_map.mpr ⟨_, hm, rfl⟩))
    | none =>
      rw [hg] at ho
      simp only [] at ho
      cases hp : (w.val v).producer with
      | none => rw [hp] at ho; cases ho
      | some n =>
        rw [hp] at ho
        simp only [] at ho
        exact Or.inr (Or.inr ⟨n, (h.node.mem n g).mp ho, mem_outputs_of_producer h hp⟩)
  · intro hd
    unfold kOwner
    rcases hd with hd | hd | ⟨n, hn, ho⟩
    · rw [(h.own.io_mem .inp g v hd).2]
    · obtain ⟨kv, hkv, rfl⟩ := List.mem_map.mp hd
      rw [(h.own.init_mem g kv.1 kv.2 hkv).2]
    · have hp := producer_of_mem_outputs h ho
      have hng := (h.node.mem n g).mpr hn
      cases hg : (w.val v).graph with
      | none => simp only [hp, hng]
      | some g' =>
        simp only [Option.some.injEq]
        have hown := h.own.graph_owned v g' hg
        unfold Kernel.owned at hown
        simp only [Bool.or_eq_true] at hown
        have hroot : ¬ ((w.val v).isIn = true ∨ (w.val v).isInit = true) := by
          intro hr
          have := h.root v hr
          rw [hp] at this; cases this
        rcases hown with (hin | hout) | hinit
        · exact absurd (Or.inl hin) hroot
        · obtain ⟨g2, hg2, hm⟩ := h.own.io_flag .out v hout
          rw [hg] at hg2; cases hg2
          rcases hc g' v hm with hd | hd | ⟨n', hn', ho'⟩
          · exact absurd (Or.inl (h.own.io_mem .inp g' v hd).1) hroot
          · obtain ⟨kv, hkv, rfl⟩ := List.mem_map.mp hd
            exact absurd (Or.inr (h.own.init_mem g' kv.1 kv.2 hkv).1) hroot
          · have hp' := producer_of_mem_outputs h ho'
            rw [hp] at hp'
            cases hp'
            have := (h.node.mem n g').mpr hn'
            rw [hng] at this
            cases this
            rfl
        · exact absurd (Or.inr hinit) hroot

/-! ## the unfolded trees -/

theorem kNode_outputs (w : Kernel.World) (fuel n : Nat) : (kNode w fuel n).outputs = (w.node n).outputs := by
  cases fuel <;> rfl

/-- the bodies of an unfolded kernel node: the graphs its attributes hold, one level less deep -/
theorem mem_kNode_bodies (w : Kernel.World) (fuel n : Nat) (b : GraphT) :
    b ∈ (kNode w fuel n).bodies ↔ ∃ f g, fuel = f + 1 ∧ g ∈ kAttrGraphs w n ∧ b = kGraph w f g := by
  cases fuel with
  | zero => simp [kNode]
  | succ f =>
    rw [kNode_succ]
    simp only [NodeT.bodies_mk, List.mem_map, Nat.add_right_cancel_iff]
    constructor
    · rintro ⟨g, hg, rfl⟩; exact ⟨f, g, rfl, hg, rfl⟩
    · rintro ⟨f', g, rfl, hg, rfl⟩; exact ⟨g, hg, rfl⟩

theorem mem_kGraph_nodes (w : Kernel.World) (fuel g : Nat) (n : NodeT) :
    n ∈ (kGraph w fuel g).nodes ↔ ∃ m, m ∈ (w.gr g).nodes ∧ n = kNode w fuel m := by
  simp only [kGraph, GraphT.nodes_mk, List.mem_map]
  constructor
  · rintro ⟨m, hm, rfl⟩; exact ⟨m, hm, rfl⟩
  · rintro ⟨m, hm, rfl⟩; exact ⟨m, hm, rfl⟩

theorem topDef_kGraph (w : Kernel.World) (fuel g v : Nat) :
    TopDef w g v ↔ v ∈ (kGraph w fuel g).inputs ∨ v ∈ (kGraph w fuel g).inits ∨
      ∃ n, n ∈ (kGraph w fuel g).nodes ∧ v ∈ n.outputs := by
  unfold TopDef
  refine or_congr Iff.rfl (or_congr Iff.rfl ?_)
  constructor
  · rintro ⟨m, hm, ho⟩
    exact ⟨kNode w fuel m, (mem_kGraph_nodes w fuel g _).mpr ⟨m, hm, rfl⟩, by rw [kNode_outputs]; exact ho⟩
  · rintro ⟨n, hn, ho⟩
    obtain ⟨m, hm, rfl⟩ := (mem_kGraph_nodes w fuel g _).mp hn
    exact ⟨m, hm, by rw [kNode_outputs] at ho; exact ho⟩

/-- defined in the unfolded tree = defined at the top level of one of its graphs -/
theorem defInG_kGraph (w : Kernel.World) : ∀ (fuel g v : Nat),
    DefInG (kGraph w fuel g) v ↔ ∃ k, NestedIn (kGraph w fuel g) k ∧ TopDef w k v := by
  intro fuel
  induction fuel using Nat.strongRecOn with
  | _ fuel ih =>
    intro g v
    rw [defInG_iff]
    constructor
    · intro h
      have top : TopDef w g v → ∃ k, NestedIn (kGraph w fuel g) k ∧ TopDef w k v :=
        fun ht => ⟨g, NestedIn.self (b := kGraph w fuel g), ht⟩
      rcases h with h | h | ⟨n, hn, ho | ⟨b, hb, hd⟩⟩
      · exact top ((topDef_kGraph w fuel g v).mpr (Or.inl h))
      · exact top ((topDef_kGraph w fuel g v).mpr (Or.inr (Or.inl h)))
      · exact top ((topDef_kGraph w fuel g v).mpr (Or.inr (Or.inr ⟨n, hn, ho⟩)))
      · obtain ⟨m, _, rfl⟩ := (mem_kGraph_nodes w fuel g n).mp hn
        obtain ⟨f, g', rfl, _, rfl⟩ := (mem_kNode_bodies w fuel m b).mp hb
        obtain ⟨k, hk, ht⟩ := (ih f (Nat.lt_succ_self f) g' v).mp hd
        exact ⟨k, NestedIn.deeper hn hb hk, ht⟩
    · rintro ⟨k, hk, ht⟩
      rcases (nestedIn_iff _ k).mp hk with hkg | ⟨n, hn, c, hc, hk'⟩
      · rw [show k = g from hkg] at ht
        rcases (topDef_kGraph w fuel g v).mp ht with h | h | ⟨n, hn, ho⟩
        · exact Or.inl h
        · exact Or.inr (Or.inl h)
        · exact Or.inr (Or.inr ⟨n, hn, Or.inl ho⟩)
      · obtain ⟨m, _, rfl⟩ := (mem_kGraph_nodes w fuel g n).mp hn
        obtain ⟨f, g', rfl, _, rfl⟩ := (mem_kNode_bodies w fuel m c).mp hc
        exact Or.inr (Or.inr ⟨_, hn, Or.inr ⟨_, hc, (ih f (Nat.lt_succ_self f) g' v).mpr ⟨k, hk', ht⟩⟩⟩)

theorem backPtrOK_kGraph {w : Kernel.World} (h : Kernel.WF w) (hc : KClosed w) (F fuel g : Nat) :
    BackPtrOK (ofKernelN w F) (kGraph w fuel g) := by
  intro v
  rw [defInG_kGraph]
  constructor
  · rintro ⟨k, hk, ht⟩
    exact ⟨k, hk, by rw [ofKernelN_graphOf]; exact (owner_iff h hc k v).mpr ht⟩
  · rintro ⟨k, hk, ho⟩
    rw [ofKernelN_graphOf] at ho
    exact ⟨k, hk, (owner_iff h hc k v).mp ho⟩

theorem mem_outsTop_kNodes (w : Kernel.World) (fuel : Nat) (l : List Nat) (v : Nat) :
    v ∈ outsTop (l.map (kNode w fuel)) ↔ ∃ n, n ∈ l ∧ v ∈ (w.node n).outputs := by
  rw [mem_outsTop]
  constructor
  · rintro ⟨n, hn, hv⟩
    obtain ⟨m, hm, rfl⟩ := List.mem_map.mp hn
    exact ⟨m, hm, by rw [kNode_outputs] at hv; exact hv⟩
  · rintro ⟨m, hm, hv⟩
    exact ⟨kNode w fuel m, List.mem_map.mpr ⟨m, hm, rfl⟩, by rw [kNode_outputs]; exact hv⟩

theorem closedG_kGraph {w : Kernel.World} (hc : KClosed w) : ∀ (fuel g : Nat), closedG (kGraph w fuel g) = true
  | fuel, g => by
    have hclosedNs : closedNs ((w.gr g).nodes.map (kNode w fuel)) = true := by
      generalize (w.gr g).nodes = l
      induction l with
      | nil => rfl
      | cons a l ih =>
        simp only [List.map_cons, closedNs, Bool.and_eq_true]
        refine ⟨?_, ih⟩
        cases fuel with
        | zero => simp [kNode, closedN, closedGs]
        | succ f =>
          rw [kNode_succ, closedN]
          generalize kAttrGraphs w a = gl
          induction gl with
          | nil => rfl
          | cons b gl ihg =>
            simp only [List.map_cons, closedGs, Bool.and_eq_true]
            exact ⟨closedG_kGraph hc f b, ihg⟩
    unfold kGraph
    rw [closedG, Bool.and_eq_true]
    refine ⟨?_, hclosedNs⟩
    rw [List.all_eq_true]
    intro v hv
    simp only [List.contains_eq_mem, decide_eq_true_eq, List.mem_append]
    rcases hc g v hv with h | h | ⟨n, hn, ho⟩
    · exact Or.inl (Or.inl h)
    · exact Or.inl (Or.inr h)
    · exact Or.inr ((mem_outsTop_kNodes w fuel _ v).mpr ⟨n, hn, ho⟩)


theorem kNode_out_of_range {w : Kernel.World} {n : Nat} (h : w.nodes.length ≤ n) (fuel : Nat) :
    kNode w fuel n = .mk [] [] [] := by
  cases fuel with
  | zero => simp only [kNode, w.node_fresh n h]
  | succ f => rw [kNode_succ]; simp only [kAttrGraphs, w.node_fresh n h]; rfl

theorem ofKernelN_nodeD (w : Kernel.World) (fuel n : Nat) : (ofKernelN w fuel).nodeD n = kNode w fuel n := by
  unfold World.nodeD ofKernelN
  rw [ListFacts.getElem?_range_map]
  split
  · rfl
  · next h => rw [kNode_out_of_range (Nat.le_of_not_lt h)]; rfl

theorem kNode_bodies (w : Kernel.World) (fuel n : Nat) (b : GraphT) (hb : b ∈ (kNode w fuel n).bodies) :
    ∃ f g, fuel = f + 1 ∧ b = kGraph w f g := by
  obtain ⟨f, g, hf, _, hb⟩ := (mem_kNode_bodies w fuel n b).mp hb
  exact ⟨f, g, hf, hb⟩

theorem ofKernelN_prod {w : Kernel.World} (h : Kernel.WF w) (fuel v : Nat) :
    (ofKernelN w fuel).prod v = (w.val v).producer := by
  unfold World.prod
  rw [ofKernelN_val]
  simp only []
  cases hp : (w.val v).producer with
  | none => rfl
  | some n =>
    simp only []
    have : (ofKernelN w fuel).nodes.length = w.nodes.length := by simp [ofKernelN]
    rw [this, if_pos (producer_in_range h hp)]

end IrVerif.Extract
