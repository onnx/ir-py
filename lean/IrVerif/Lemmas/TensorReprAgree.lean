/-
About `Model/TensorRepr.lean`: every legal representation answers with the logical tensor's data
(`legal_agrees`, behind `C04_field_agree`); every delivery mechanism of `tofile` performs one
`write` (`C04_tofile_*`); serialize / deserialize return a legal representation.  Core Lean only.
-/
import IrVerif.Lemmas.TensorRepr
namespace IrVerif.TensorRepr
open IrVerif.Pack

variable {d : DType} {dims : List Nat} {bw : Nat} {xs : List Nat}

/-- `htf`: every class but the external and the lazy one writes `tobytes()` in one piece -/
theorem agrees_of (wf : WF d dims bw xs) (r : Rep) (hd : r.dtype = .ok d) (hs : r.shape = dims)
    (hnp : ∃ u, r.numpy = .ok u ∧ obsBits bw u = xs) (htb : r.tobytes = .ok (packLE bw xs))
    (htf : r.tofile = Rep.wrote r.tobytes) : Agrees d dims bw xs r :=
  { dtype := hd, shape := hs,
    nbytes := by rw [Rep.nbytes, hd, hs]; exact nbytesOf_ok wf.hbw,
    numpy := hnp, tobytes := htb, tofile := by rw [htf, htb]; rfl }

theorem WF.packLE_length (wf : WF d dims bw xs) : (packLE bw xs).length = nbytes (prod dims) bw := by
  rw [← wf.len]
  exact TensorRepr.packLE_length bw xs (facts d bw wf.hbw).packable

theorem WF.range_bytes {k : Nat} (wf : WF d dims (8 * k) xs) : ∀ x ∈ xs, x < 256 ^ k :=
  fun x hx => pow256 k ▸ wf.range x hx

theorem arrayBytes_ok (wf : WF d dims bw xs) (elems : List Nat)
    (hu : ∀ e ∈ elems, e < 256 ^ npItemBytes d) (hx : obsBits bw elems = xs) :
    arrayBytes d (npItemBytes d) elems = .ok (packLE bw xs) := by
  subst hx
  cases (facts d bw wf.hbw).storage with
  | nibbles h4 => simp only [arrayBytes, h4, if_true]; exact congrArg _ (pack4_map_mod elems).symm
  | crumbs h4 h2 =>
    simp only [arrayBytes, h4, h2, if_true, Bool.false_eq_true, if_false]
    exact congrArg _ (pack2_map_mod elems).symm
  | bytes k _ h4 h2 _ hi =>
    rw [hi] at hu
    simp only [arrayBytes, h4, h2, wf.hbw, hi, Bool.false_eq_true, if_false, if_true, packLE_whole,
      obsBits_id _ _ (fun e he => pow256 k ▸ hu e he)]

theorem agrees_array (wf : WF d dims bw xs) (elems : List Nat)
    (hu : ∀ e ∈ elems, e < 256 ^ npItemBytes d) (hx : obsBits bw elems = xs) :
    Agrees d dims bw xs (.array d dims elems) :=
  agrees_of wf _ rfl rfl ⟨elems, rfl, hx⟩ (arrayBytes_ok wf elems hu hx) rfl

/-- units given without a logical tensor: they hold their own masked elements -/
theorem array_units_agree {units : List Nat} (hbw : d.bitwidth = some bw) (hl : units.length = prod dims)
    (hu : ∀ u ∈ units, u < 256 ^ npItemBytes d) :
    WF d dims bw (obsBits bw units) ∧ Legal d dims bw (obsBits bw units) (.array d dims units) ∧
    Agrees d dims bw (obsBits bw units) (.array d dims units) :=
  ⟨wf_obsBits hbw hl, Legal.array units hu rfl, agrees_array (wf_obsBits hbw hl) units hu rfl⟩

theorem agrees_arrayMem (wf : WF d dims bw xs) (be nd : Bool) (hnb : (nd && be) = false)
    (h8 : 8 ≤ bw) (hc : be = true → d ≠ .complex64 ∧ d ≠ .complex128) : Agrees d dims bw xs (.arrayMem d dims (memOf (bw / 8) be xs) be nd) := by
  cases (facts d bw wf.hbw).storage with
  | nibbles => exact absurd h8 (by decide)
  | crumbs => exact absurd h8 (by decide)
  | bytes k hk _ _ _ hi =>
    have hlt := wf.range_bytes
    rw [Nat.mul_div_cancel_left k (by decide)]
    have helems : arrayMemElems d (memOf k be xs) be nd = .ok xs := by
      simp only [arrayMemElems, hnb, Bool.false_eq_true, if_false, wf.hbw, Nat.not_lt.mpr h8,
        Nat.mul_div_cancel_left k (by decide : 0 < 8)]
      cases be
      · have : memOf k false xs = xs.flatMap (leBytes k) := by simp [memOf]
        simp only [Bool.false_eq_true, if_false, this]
        exact fromBuffer_flatMap k hk xs hlt
      · have hnc : ¬ (d = .complex64 ∨ d = .complex128) := fun h => h.elim (hc rfl).1 (hc rfl).2
        simp only [if_true, hnc, if_false]
        rw [swapItems_memOf _ hk]
        exact fromBuffer_flatMap k hk xs hlt
    have htb : arrayMemBytes d (memOf k be xs) be nd = .ok (packLE (8 * k) xs) := by
      simp only [arrayMemBytes, helems]
      exact arrayBytes_ok wf xs (hi ▸ hlt) (obsBits_id _ xs wf.range)
    exact agrees_of wf _ (by simp [Rep.dtype, hnb]) rfl ⟨xs, helems, obsBits_id _ xs wf.range⟩ htb rfl

theorem torchBytes_ok (wf : WF d dims bw xs) (elems : List Nat) (ht : d.torchMapped = true)
    (hu : ∀ e ∈ elems, e < 256 ^ npItemBytes d) (hx : obsBits bw elems = xs) :
    torchBytes d elems = .ok (packLE bw xs) := by
  subst hx
  have F := facts d bw wf.hbw
  cases F.storage with
  | nibbles => exact absurd rfl (F.torch ht)
  | crumbs _ h2 =>
    simp only [torchBytes, ht, h2, Bool.not_true, Bool.false_eq_true, if_false, if_true]
    exact congrArg _ (pack2_map_mod elems).symm
  | bytes k _ _ h2 _ hi =>
    rw [hi] at hu
    simp only [torchBytes, ht, h2, wf.hbw, Bool.not_true, Bool.false_eq_true, if_false,
      Nat.mul_div_cancel_left k (by decide : 0 < 8), packLE_whole,
      obsBits_id _ _ (fun e he => pow256 k ▸ hu e he)]

theorem agrees_torch (wf : WF d dims bw xs) (elems : List Nat) (ht : d.torchMapped = true)
    (hu : ∀ e ∈ elems, e < 256 ^ npItemBytes d) (hx : obsBits bw elems = xs) :
    Agrees d dims bw xs (.torch d dims elems) := by
  exact agrees_of wf _ (by simp [Rep.dtype, ht]) rfl ⟨elems, by simp [Rep.numpy, ht], hx⟩
    (torchBytes_ok wf elems ht hu hx) rfl

theorem torchView_mid (wf : WF d dims bw xs) (pre elems post : List Nat)
    (hx : obsBits bw elems = xs) :
    torchView (pre ++ elems ++ post) pre.length (prod dims) = elems := by
  have hl : elems.length = prod dims := by
    rw [← wf.len, ← hx]; simp [obsBits]
  rw [← hl]; exact slice_mid pre elems post

theorem agrees_packed (wf : WF d dims bw xs) (hb : bw = 2 ∨ bw = 4) :
    Agrees d dims bw xs (.packed { dtype := d, dims := dims, raw := packLE bw xs }) := by
  have hlen := wf.packLE_length
  have hv : Packed.valid { dtype := d, dims := dims, raw := packLE bw xs } = .ok () := by
    have : ¬ (bw ≠ 2 ∧ bw ≠ 4) := by omega
    simp [Packed.valid, wf.hbw, this, hlen]
  have htb : (Rep.packed { dtype := d, dims := dims, raw := packLE bw xs }).tobytes
      = .ok (packLE bw xs) := by
    simp [Rep.tobytes, Packed.tobytes, hv]
  refine agrees_of wf _ rfl rfl ⟨xs, ?_, obsBits_id bw xs wf.range⟩ htb rfl
  simp only [Rep.numpy, Packed.numpy, hv, wf.hbw, ← wf.len]
  rw [unpackBits_packLE hb xs wf.range]

theorem agrees_lazy (wf : WF d dims bw xs) (inner : Rep) (h : Agrees d dims bw xs inner) :
    Agrees d dims bw xs (.lazy d dims inner) :=
  { dtype := rfl, shape := rfl,
    nbytes := by simp [Rep.nbytes, Rep.dtype, Rep.shape, nbytesOf_ok wf.hbw],
    numpy := h.numpy, tobytes := h.tobytes, tofile := h.tofile }

theorem proto_dtype {p : Proto} (hd : p.dataType = d.code) : p.dtype = .ok d := by
  simp [Proto.dtype, hd, ofCode_code]

theorem reshape_ok (wf : WF d dims bw xs) : reshape xs (prod dims) = .ok xs := by
  simp [reshape, wf.len]

theorem agrees_of_proto (wf : WF d dims bw xs) (p : Proto) (hd : p.dataType = d.code)
    (hdims : p.dims = dims) (hnp : ∃ u, p.numpy = .ok u ∧ obsBits bw u = xs)
    (htb : p.tobytes = .ok (packLE bw xs)) : Agrees d dims bw xs (.proto p) :=
  agrees_of wf _ (proto_dtype hd) hdims hnp htb rfl

theorem agrees_protoRaw (wf : WF d dims bw xs) (p : Proto) (hd : p.dataType = d.code)
    (hdims : p.dims = dims) (hext : p.external = none) (hraw : p.rawData = some (packLE bw xs)) :
    Agrees d dims bw xs (.proto p) := by
  have F := facts d bw wf.hbw
  apply agrees_of_proto wf p hd hdims
  · refine ⟨xs, ?_, obsBits_id bw xs wf.range⟩
    simp only [Proto.numpy, proto_dtype hd, F.nundef, if_false, hext, Option.isSome_none,
      Bool.false_eq_true, hraw, wf.hbw, hdims, ← wf.len]
    cases F.storage with
    | nibbles => rw [if_pos rfl]; exact congrArg _ (unpack4_pack4 xs wf.range)
    | crumbs => rw [if_neg (by decide), if_pos rfl]; exact congrArg _ (unpack2_pack2 xs wf.range)
    | bytes k hk =>
      rw [if_neg (by omega), if_neg (by omega), Nat.mul_div_cancel_left k (by decide), packLE_whole,
        fromBuffer_flatMap k hk xs wf.range_bytes]
      simp [reshape]
  · simp [Proto.tobytes, hext, proto_dtype hd, F.nundef, F.nstr, hraw]

theorem packLE_eq_nil (hb : 2 ≤ bw) (hp : bw = 2 ∨ bw = 4 ∨ bw % 8 = 0) (h : packLE bw xs = []) :
    xs = [] := by
  have hl := packLE_length bw xs hp
  rw [h] at hl
  rcases Nat.eq_zero_or_pos xs.length with h0 | h0
  · exact List.eq_nil_of_length_eq_zero h0
  · exact absurd hl.symm (Nat.ne_of_gt (nbytes_pos h0 hb))

theorem packLE_nil : packLE bw ([] : List Nat) = [] := by
  simp [packLE, tobytes, pack4, pack2]

/-- a proto with one typed data field: without elements it is the data-free proto (`np.zeros`) -/
theorem agrees_protoData (wf : WF d dims bw xs) (p : Proto) (hd : p.dataType = d.code)
    (hdims : p.dims = dims) (h0 : xs = [] → p = { dataType := d.code, dims := dims })
    (hnp : xs ≠ [] → p.numpy = .ok xs) (htb : xs ≠ [] → p.tobytes = .ok (packLE bw xs)) :
    Agrees d dims bw xs (.proto p) := by
  have F := facts d bw wf.hbw
  have hdt : Proto.dtype { dataType := d.code, dims := dims } = .ok d := proto_dtype rfl
  apply agrees_of_proto wf p hd hdims
  · by_cases hx : xs = []
    · have hn : prod dims = 0 := by rw [← wf.len, hx]; rfl
      rw [h0 hx, hx]
      exact ⟨[], by simp [Proto.numpy, hdt, F.nundef, F.nstr, hn], rfl⟩
    · exact ⟨xs, hnp hx, obsBits_id bw xs wf.range⟩
  · by_cases hx : xs = []
    · rw [h0 hx, hx]
      simp [Proto.tobytes, hdt, F.nundef, F.nstr, packLE_nil]
    · exact htb hx

theorem agrees_protoInt32 (wf : WF d dims bw xs) (ys : List Int) (hl : d.int32Legal = true)
    (hy : if 8 ≤ bw then ys.map (wrap bw) = xs else ys.map (wrap 8) = packLE bw xs) :
    Agrees d dims bw xs (.proto { dataType := d.code, dims := dims, int32Data := ys }) := by
  have F := facts d bw wf.hbw
  obtain ⟨hle, h16, h8s, h32⟩ := F.i32 hl
  have hdt : Proto.dtype { dataType := d.code, dims := dims, int32Data := ys } = .ok d :=
    proto_dtype rfl
  have hnil : xs = [] ↔ ys = [] := by
    constructor
    · intro h
      subst h
      rw [packLE_nil] at hy
      split at hy <;> exact List.map_eq_nil_iff.mp hy
    · intro h
      subst h
      split at hy
      · exact hy.symm
      · exact packLE_eq_nil F.two_le F.packable hy.symm
  -- at most 32 bits: the packed widths 2, 4 (`ys` are the packed bytes), then 8, 16, 32
  have h5 : bw = 2 ∨ bw = 4 ∨ bw = 8 ∨ bw = 16 ∨ bw = 32 := by
    rcases F.range with h | h | h | h | h | h | h <;> omega
  refine agrees_protoData wf _ rfl rfl (fun h => by rw [hnil.mp h]) ?_ ?_
  · intro hne
    have hys := mt hnil.mpr hne
    simp only [Proto.numpy, hdt, F.nundef, F.nstr, if_false, Option.isSome_none,
      Bool.false_eq_true, ne_eq, hys, not_false_eq_true, if_true, int32Numpy, hl, Bool.not_true,
      wf.hbw]
    rcases h5 with h | h | h | h | h <;> subst h <;> simp at hy ⊢
    · rw [hy, ← wf.len]; simp [packLE, tobytes, unpack2_pack2 xs (by simpa using wf.range)]
    · rw [hy, ← wf.len]; simp [packLE, tobytes, unpack4_pack4 xs (by simpa using wf.range)]
    · rw [hy]; exact reshape_ok wf
    · rw [hy]; exact reshape_ok wf
    · rw [hy]; exact reshape_ok wf
  · intro hne
    have hys := mt hnil.mpr hne
    simp only [Proto.tobytes, hdt, F.nundef, F.nstr, if_false, Option.isSome_none,
      Bool.false_eq_true, ne_eq, hys, not_false_eq_true, if_true, not_true_eq_false]
    rcases h5 with h | h | h | h | h <;> subst h <;> simp at hy h16 h8s h32 ⊢
    · simp [h16, h8s, hy, flatMap_leBytes_one _ (packLE_byte 2 xs)]
    · simp [h16, h8s, hy, flatMap_leBytes_one _ (packLE_byte 4 xs)]
    · simp [h16, h8s, hy, packLE, tobytes]
    · simp [h16, hy, packLE, tobytes]
    · simp only [h16, h8s, Bool.false_eq_true, if_false]
      simp [h32, hy, packLE, tobytes]

theorem byteCount_ok (wf : WF d dims bw xs) (e : Ext) (hd : e.dtype = d) (hdims : e.dims = dims)
    (hlen : ∀ l, e.length = some l → l = 0 ∨ l = nbytes (prod dims) bw) :
    e.byteCount = .ok (nbytes (prod dims) bw) := by
  unfold Ext.byteCount
  rcases hl : e.length with _ | l
  · simp [hd, hdims, nbytesOf_ok wf.hbw]
  · cases l with
    | zero => simp [hd, hdims, nbytesOf_ok wf.hbw]
    | succ l =>
      rcases hlen _ hl with h | h
      · omega
      · simp [h]

theorem agrees_external (wf : WF d dims bw xs) (e : Ext) (pre post : List Nat) (hd : e.dtype = d)
    (hdims : e.dims = dims) (hoff : e.offset.getD 0 = pre.length)
    (hlen : ∀ l, e.length = some l → l = 0 ∨ l = nbytes (prod dims) bw) :
    Agrees d dims bw xs (.external e (some (pre ++ packLE bw xs ++ post))) := by
  have F := facts d bw wf.hbw
  have hL := wf.packLE_length
  have hbc := byteCount_ok wf e hd hdims hlen
  have hslice : ((pre ++ packLE bw xs ++ post).drop (e.offset.getD 0)).take (nbytes (prod dims) bw)
      = packLE bw xs := by
    rw [hoff, ← hL]; exact slice_mid pre (packLE bw xs) post
  have hnt : (∃ u, e.numpy (some (pre ++ packLE bw xs ++ post)) = .ok u ∧ obsBits bw u = xs) ∧
      e.tobytes (some (pre ++ packLE bw xs ++ post)) = .ok (packLE bw xs) := by
    by_cases hn : prod dims = 0
    · have hx : xs = [] := List.eq_nil_of_length_eq_zero (by rw [wf.len, hn])
      subst hx
      exact ⟨⟨[], by simp [Ext.numpy, hdims, hn, hd, F.np], rfl⟩,
        by simp [Ext.tobytes, hdims, hn, packLE_nil]⟩
    · suffices hu : e.numpy (some (pre ++ packLE bw xs ++ post)) = .ok xs from
        ⟨⟨xs, hu, obsBits_id bw xs wf.range⟩,
          by simp only [Ext.tobytes, hdims, hn, if_false, hu, hbc, hslice]⟩
      have hpos := nbytes_pos (bw := bw) (Nat.pos_of_ne_zero hn) F.two_le
      have hne : pre ++ packLE bw xs ++ post ≠ [] := by
        intro h
        have := congrArg List.length h
        simp only [List.length_append, List.length_nil] at this
        omega
      have hfit : ¬ (e.offset.getD 0 + nbytes (prod dims) bw > (pre ++ packLE bw xs ++ post).length) := by
        simp only [List.length_append, hoff, hL]; omega
      simp only [Ext.numpy, hdims, hn, if_false, hne, hd, wf.hbw]
      -- count * w is the number of canonical bytes in each class
      cases F.storage with
      | nibbles _ hs =>
        simp only [hs, if_true, Nat.mul_one, hfit, if_false, hslice]
        rw [← wf.len]
        exact congrArg _ (unpack4_pack4 xs wf.range)
      | crumbs _ _ hs =>
        simp only [hs, if_true, Nat.mul_one, hfit, if_false, hslice]
        rw [if_neg (by decide), ← wf.len]
        exact congrArg _ (unpack2_pack2 xs wf.range)
      | bytes k hk _ _ hs =>
        rw [nbytes_whole] at hfit hslice
        simp only [hs, Bool.false_eq_true, if_false, Nat.mul_div_cancel_left k (by decide : 0 < 8), hfit,
          hslice]
        rw [if_neg (by omega), if_neg (by omega), packLE_whole,
          fromLE_flatMap k hk xs wf.range_bytes]
        exact reshape_ok wf
  exact { dtype := by simp [Rep.dtype, hd], shape := hdims,
          nbytes := by simp [Rep.nbytes, Rep.dtype, Rep.shape, hd, hdims, nbytesOf_ok wf.hbw],
          numpy := hnt.1, tobytes := hnt.2,
          tofile := by
            simp only [Rep.tofile, Ext.tofile, hbc, hslice, hL]
            simp }

theorem legal_agrees (wf : WF d dims bw xs) {r : Rep} (h : Legal d dims bw xs r) :
    Agrees d dims bw xs r := by
  induction h with
  | array elems hu hx => exact agrees_array wf elems hu hx
  | torch elems ht hu hx => exact agrees_torch wf elems ht hu hx
  | arrayMem be nd hnb h8 hc => exact agrees_arrayMem wf be nd hnb h8 hc
  | torchView pre elems post ht hu hx =>
    rw [torchView_mid wf pre elems post hx]; exact agrees_torch wf elems ht hu hx
  | packed hb => exact agrees_packed wf hb
  | protoRaw p hd hdims hext hraw => exact agrees_protoRaw wf p hd hdims hext hraw
  | protoInt32 ys hl hy => exact agrees_protoInt32 wf ys hl hy
  | protoInt64 ys hd hy | protoUint64as32 ys hd hy =>
    subst hd hy
    obtain rfl := Option.some.inj wf.hbw
    refine agrees_protoData wf _ rfl rfl (fun h => by rw [List.map_eq_nil_iff.mp h]) ?_ ?_
    · intro hne
      have hys : ys ≠ [] := fun h => hne (by rw [h]; rfl)
      simp [Proto.numpy, Proto.dtype, ofCode_code, hys, reshape, wf.len]
    · intro hne
      have hys : ys ≠ [] := fun h => hne (by rw [h]; rfl)
      simp [Proto.tobytes, Proto.dtype, ofCode_code, hys, packLE, tobytes]
  | protoUint64 hd | protoFloat hd | protoDouble hd =>
    subst hd
    obtain rfl := Option.some.inj wf.hbw
    refine agrees_protoData wf _ rfl rfl (fun h => by rw [h]) ?_ ?_
    · intro hne; simp [Proto.numpy, Proto.dtype, ofCode_code, hne, reshape, wf.len]
    · intro hne; simp [Proto.tobytes, Proto.dtype, ofCode_code, hne, packLE, tobytes]
  | protoComplex64 hd | protoComplex128 hd =>
    subst hd
    obtain rfl := Option.some.inj wf.hbw
    refine agrees_protoData wf _ rfl rfl (fun h => by rw [h]; rfl) ?_ ?_
    · intro hne
      simp [Proto.numpy, Proto.dtype, ofCode_code, splitParts_eq_nil, hne, pairUp_splitParts, reshape,
        wf.len]
    · intro hne
      simp [Proto.tobytes, Proto.dtype, ofCode_code, splitParts_eq_nil, hne, packLE, tobytes,
        splitParts_bytes32, splitParts_bytes64]
  | external e pre post hd hdims hoff hlen => exact agrees_external wf e pre post hd hdims hoff hlen
  | lazy inner _ ih => exact agrees_lazy wf inner ih

theorem splice_nil (img : List Nat) (off : Nat) : splice img off [] = img := by simp [splice]

theorem splice_length (img : List Nat) (off : Nat) (data : List Nat) (h : data ≠ []) :
    (splice img off data).length = max img.length (off + data.length) := by
  simp only [splice, h, if_false, List.length_append, List.length_take, List.length_replicate,
    List.length_drop]
  omega

/-- the image up to position `p`, zero-filled when `p` lies past its end -/
def padTo (img : List Nat) (p : Nat) : List Nat := img.take p ++ List.replicate (p - img.length) 0

theorem padTo_length (img : List Nat) (p : Nat) : (padTo img p).length = p := by
  simp only [padTo, List.length_append, List.length_take, List.length_replicate]; omega

theorem splice_eq (img : List Nat) (p : Nat) {data : List Nat} (h : data ≠ []) :
    splice img p data = padTo img p ++ data ++ img.drop (p + data.length) := by
  rw [splice, if_neg h]; rfl

theorem splice_take (img : List Nat) (p : Nat) {data : List Nat} (h : data ≠ []) :
    (splice img p data).take p = padTo img p := by
  rw [splice_eq img p h, List.append_assoc]; exact List.take_left' (padTo_length img p)

theorem splice_take_add (img : List Nat) (p : Nat) {data : List Nat} (h : data ≠ []) :
    (splice img p data).take (p + data.length) = padTo img p ++ data := by
  rw [splice_eq img p h]
  exact List.take_left' (by rw [List.length_append, padTo_length])

theorem splice_drop_add (img : List Nat) (p : Nat) {data : List Nat} (h : data ≠ []) (k : Nat) :
    (splice img p data).drop (p + data.length + k) = img.drop (p + data.length + k) := by
  rw [splice_eq img p h, List.drop_append, List.drop_of_length_le (by
    rw [List.length_append, padTo_length]; omega), List.nil_append, List.length_append, padTo_length,
    List.drop_drop]
  congr 1; omega

theorem splice_mid (img : List Nat) (p : Nat) {data : List Nat} (h : data ≠ []) :
    ((splice img p data).drop p).take data.length = data := by
  rw [splice_eq img p h, List.append_assoc, List.drop_left' (padTo_length img p)]
  exact List.take_left' rfl

theorem splice_splice (img : List Nat) (p : Nat) (a b : List Nat) :
    splice (splice img p a) (p + a.length) b = splice img p (a ++ b) := by
  by_cases ha : a = []
  · subst ha; simp [splice_nil]
  by_cases hb : b = []
  · subst hb; simp [splice_nil]
  -- the first write already reaches `p + a.length`: no gap to fill before `b`
  have hpad : padTo (splice img p a) (p + a.length) = padTo img p ++ a := by
    rw [padTo, splice_take_add img p ha, splice_length img p a ha,
      show p + a.length - max img.length (p + a.length) = 0 by omega]
    exact List.append_nil _
  rw [splice_eq _ _ hb, hpad, splice_drop_add img p ha, splice_eq img p (by simp [ha] : a ++ b ≠ [])]
  simp [List.append_assoc, Nat.add_assoc]

theorem write_nil (f : Dest) : f.write [] = f := by simp [Dest.write]

def Dest.writePos (f : Dest) : Nat := if f.append then f.img.length else f.pos

theorem write_eq (f : Dest) (data : List Nat) (h : data ≠ []) :
    f.write data = { f with img := splice f.img f.writePos data, pos := f.writePos + data.length } := by
  simp [Dest.write, h, Dest.pwrite, Dest.seek, Dest.writePos]

/-- a non-empty write keeps every byte before the write position (zero-filling a gap past the old
    end), puts the data there, keeps every byte behind it, and leaves the position behind the data -/
theorem write_spec (f : Dest) (data : List Nat) (hne : data ≠ []) :
    (f.write data).pos = f.writePos + data.length ∧
    (f.write data).img.take f.writePos
      = f.img.take f.writePos ++ List.replicate (f.writePos - f.img.length) 0 ∧
    ((f.write data).img.drop f.writePos).take data.length = data ∧
    (f.write data).img.drop (f.writePos + data.length) = f.img.drop (f.writePos + data.length) := by
  rw [write_eq f data hne]
  have h0 := splice_drop_add f.img f.writePos hne 0
  exact ⟨rfl, splice_take _ _ hne, splice_mid _ _ hne, h0⟩

theorem write_write (f : Dest) (a b : List Nat) : (f.write a).write b = f.write (a ++ b) := by
  by_cases ha : a = []
  · subst ha; simp [write_nil]
  by_cases hb : b = []
  · subst hb; simp [write_nil]
  have hab : a ++ b ≠ [] := by simp [ha]
  rw [write_eq f a ha, write_eq _ b hb, write_eq f (a ++ b) hab]
  simp only [Dest.writePos]
  generalize hp : (if f.append then f.img.length else f.pos) = p
  have hlen : (splice f.img p a).length = max f.img.length (p + a.length) := splice_length _ _ _ ha
  have hp' : (if f.append then (splice f.img p a).length else p + a.length) = p + a.length := by
    cases hfa : f.append
    · simp
    · simp only [hfa, if_true] at hp
      simp only [if_true]; rw [hlen]; omega
  simp only [hp', splice_splice, List.length_append, Nat.add_assoc]

theorem writeAll_eq (f : Dest) (cs : List (List Nat)) : f.writeAll cs = f.write cs.flatten := by
  induction cs generalizing f with
  | nil => simp [Dest.writeAll, write_nil]
  | cons c cs ih =>
    have : f.writeAll (c :: cs) = (f.write c).writeAll cs := by simp [Dest.writeAll]
    rw [this, ih, write_write]; simp

theorem chunk_flatten (n : Nat) (hn : 0 < n) (data : List Nat) : (chunk n data).flatten = data := by
  induction h : data.length using Nat.strongRecOn generalizing data with
  | _ k ih =>
    rw [chunk]
    by_cases hd : data = []
    · simp [hd]
    · have hc : ¬ (n = 0 ∨ data = []) := by simp [hd]; omega
      rw [dif_neg hc, List.flatten_cons]
      have hlt : (data.drop n).length < k := by
        have : data.length ≠ 0 := fun h0 => hd (List.eq_nil_of_length_eq_zero h0)
        simp only [List.length_drop]; omega
      rw [ih _ hlt (data.drop n) rfl, List.take_append_drop]

theorem ndTofile_eq_write (f : Dest) (data : List Nat) : f.ndTofile data = f.write data := by
  by_cases h : data = []
  · subst h; cases f; simp [Dest.ndTofile, Dest.write, Dest.seek]
  · simp [Dest.ndTofile, Dest.write, h]

theorem copyRounds_inv (f0 : Dest) (d : Nat) (data : List Nat) (rs : List Nat) :
    ∀ (g : Dest) (c : Nat), c ≤ data.length →
      g = { f0 with img := splice f0.img d (data.take c) } →
      ∃ c', c' ≤ data.length ∧
        copyRounds g d data rs c = ({ f0 with img := splice f0.img d (data.take c') }, c') := by
  induction rs with
  | nil => intro g c hc hg; exact ⟨c, hc, by simp [copyRounds, hg]⟩
  | cons r rs ih =>
    intro g c hc hg
    simp only [copyRounds]
    by_cases h1 : data.length ≤ c
    · exact ⟨c, hc, by simp [h1, hg]⟩
    · by_cases h2 : min r (data.length - c) = 0
      · exact ⟨c, hc, by simp [h1, h2, hg]⟩
      · simp only [h1, h2, if_false]
        have hn : c + min r (data.length - c) ≤ data.length := by omega
        apply ih _ _ hn
        subst hg
        have hlen : (data.take c).length = c := by simp; omega
        simp only [Dest.pwrite]
        have := splice_splice f0.img d (data.take c) ((data.drop c).take (min r (data.length - c)))
        rw [hlen] at this
        rw [this, ← List.take_add]

theorem copyRange_eq_write (f : Dest) (data : List Nat) (rounds : List Nat) :
    f.copyRange data rounds = f.write data := by
  unfold Dest.copyRange
  cases hfa : f.append
  · -- kernel copy, then the rest through write
    obtain ⟨c, hc, hcr⟩ := copyRounds_inv f f.pos data rounds f 0 (Nat.zero_le _)
      (by cases f; simp [splice_nil])
    simp only [Bool.false_eq_true, if_false, hcr, writeAll_eq,
      chunk_flatten copyChunkSize (by decide)]
    by_cases hd : data = []
    · subst hd
      have : c = 0 := by simpa using hc
      subst this
      cases f; simp [Dest.seek, write_nil, splice_nil]
    · have hlen : (data.take c).length = c := by simp; omega
      by_cases hrest : data.drop c = []
      · -- everything was copied by the kernel
        have hcl : c = data.length := by
          have := congrArg List.length hrest
          simp at this; omega
        subst hcl
        rw [hrest, write_nil, write_eq f data hd]
        simp [Dest.seek, Dest.writePos, hfa]
      · rw [write_eq _ _ hrest, write_eq f data hd]
        simp only [Dest.seek, Dest.writePos, hfa, Bool.false_eq_true, if_false]
        have := splice_splice f.img f.pos (data.take c) (data.drop c)
        rw [hlen, List.take_append_drop] at this
        rw [this]
        have : f.pos + c + (data.drop c).length = f.pos + data.length := by
          simp only [List.length_drop]; omega
        rw [this]
  · -- append mode: EBADF, nothing copied, everything through write
    simp only [if_true, Nat.add_zero, List.drop_zero, writeAll_eq,
      chunk_flatten copyChunkSize (by decide)]
    cases f; simp [Dest.seek]

theorem deliver_eq_write (f : Dest) (path : Rep.Path) (data : List Nat) :
    f.deliver path data = f.write data := by
  cases path
  · rfl
  · exact ndTofile_eq_write f data
  · exact copyRange_eq_write f data _
  · simp [Dest.deliver, writeAll_eq, chunk_flatten copyChunkSize (by decide)]

theorem serializeRaw_ok (wf : WF d dims bw xs) {r : Rep} (h : Legal d dims bw xs r) :
    serializeRaw r = .ok { dataType := d.code, dims := dims, rawData := some (packLE bw xs) } := by
  have A := legal_agrees wf h
  simp [serializeRaw, A.dtype, A.tobytes, A.shape]

theorem Legal.proto_external {p : Proto} (h : Legal d dims bw xs (.proto p)) : p.external = none := by
  cases h <;> first | assumption | rfl

theorem serialize_roundtrip (wf : WF d dims bw xs) {r : Rep} (h : Legal d dims bw xs r) :
    ∃ p r', serialize r = .ok p ∧ deserialize p (fileOf r) = .ok r' ∧ Legal d dims bw xs r' := by
  -- every class but the proto-backed and the external one serializes `tobytes()` into `raw_data`
  have hraw : serialize r = serializeRaw r →
      ∃ p r', serialize r = .ok p ∧ deserialize p (fileOf r) = .ok r' ∧ Legal d dims bw xs r' :=
    fun hs => ⟨_, .proto { dataType := d.code, dims := dims, rawData := some (packLE bw xs) },
      by rw [hs]; exact serializeRaw_ok wf h, by simp [deserialize], Legal.protoRaw _ rfl rfl rfl rfl⟩
  cases r with
  | proto p => exact ⟨p, .proto p, rfl, by simp [deserialize, h.proto_external], h⟩
  | external e file =>
    cases h with
    | external e pre post hd hdims hoff hlen =>
      exact ⟨_, .external e _, rfl, by simp [deserialize, fileOf, Proto.dtype, ofCode_code],
        Legal.external e pre post hd hdims hoff hlen⟩
  | array | arrayMem | torch | packed | lazy => exact hraw rfl

end IrVerif.TensorRepr
