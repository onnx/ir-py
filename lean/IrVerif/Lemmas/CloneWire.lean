/-
Helper development for C13_wiring_image: the clone's wiring is the image of the source's wiring
under the cloner's value map.  `GraphWire allow w vm g g'` relates a source graph `g` and its clone
`g'` in a heap `w` through an explicit value map `vm`: inputs, initializers, outputs and node
outputs of the clone are the `vm`-images (exact lookups) of the source's, every node input and
sharding target is the image (`RefImg`), attributes are shared or hold graphs that are again
related, scalar fields and metadata are equal.  The cloner establishes it for every value map
that extends its own at the front and has pairwise different keys (`Fut`): that is what the
walker's invariant (`TInv.nodup`) provides at the end.
-/
import IrVerif.Lemmas.CloneSim
import IrVerif.Lemmas.CloneEff
import IrVerif.Lemmas.CloneTotal
namespace IrVerif.Clone

/-- a reference of the clone (node input, sharding target) is the image of the source's reference
    under the value map; with `allow_outer_scope_values` it may also have been passed through -/
def RefImg (allow : Bool) (vm : List (Nat × Nat)) (r r' : Option Nat) : Prop :=
  r' = r.map (img vm) ∨ (allow = true ∧ r' = r)

def SpecImg (allow : Bool) (vm : List (Nat × Nat)) (sp sp' : DevSpec) : Prop :=
  sp'.payload = sp.payload ∧ RefImg allow vm sp.value sp'.value

def DevImg (allow : Bool) (vm : List (Nat × Nat)) (d d' : List DevCfg) : Prop :=
  All2 (fun c c' => c'.cfg = c.cfg ∧ All2 (SpecImg allow vm) c.specs c'.specs) d d'

/-- defined values (graph inputs, initializers, outputs, node outputs): bound in the map -/
def ValsImg (vm : List (Nat × Nat)) (l l' : List Nat) : Prop :=
  All2 (fun v v' => vm.lookup v = some v') l l'

mutual
inductive AttrWire (allow : Bool) (w : World) (vm : List (Nat × Nat)) : String × Nat → String × Nat → Prop
  | shared (k : String) (a : Nat) (as : AttrS) :
      cAttr w a = some as → as.v.isGraphy = false → AttrWire allow w vm (k, a) (as.name, a)
  | graph (k : String) (a a' : Nat) (as : AttrS) (g g' : Nat) :
      cAttr w a = some as → as.v = .graph g →
      cAttr w a' = some { name := k, doc := as.doc, v := .graph g' } →
      GraphWire allow w vm g g' → AttrWire allow w vm (k, a) (k, a')
  | graphs (k : String) (a a' : Nat) (as : AttrS) (gs gs' : List Nat) :
      cAttr w a = some as → as.v = .graphs gs →
      cAttr w a' = some { name := k, doc := as.doc, v := .graphs gs' } →
      GraphsWire allow w vm gs gs' → AttrWire allow w vm (k, a) (k, a')
inductive AttrsWire (allow : Bool) (w : World) (vm : List (Nat × Nat)) :
    List (String × Nat) → List (String × Nat) → Prop
  | nil : AttrsWire allow w vm [] []
  | cons {x y : String × Nat} {xs ys : List (String × Nat)} :
      AttrWire allow w vm x y → AttrsWire allow w vm xs ys → AttrsWire allow w vm (x :: xs) (y :: ys)
/-- the clone `n'` of node `n`: same operator fields, inputs and sharding targets are images,
    outputs are the bound clones, attributes shared or re-made around the cloned graphs -/
inductive NodeWire (allow : Bool) (w : World) (vm : List (Nat × Nat)) : Nat → Nat → Prop
  | mk (n n' : Nat) (ns ns' : NodeS) (newAttrs : List (String × Nat)) :
      cNode w n = some ns → cNode w n' = some ns' →
      ns'.name = ns.name → ns'.doc = ns.doc → ns'.domain = ns.domain → ns'.opType = ns.opType →
      ns'.overload = ns.overload → ns'.version = ns.version →
      All2 (RefImg allow vm) ns.inputs ns'.inputs →
      ValsImg vm ns.outputs ns'.outputs →
      AttrsWire allow w vm ns.attrs newAttrs → ns'.attrs = dictOf newAttrs →
      PropsSim w ns.props ns'.props → MetaSim w ns.mstore ns'.mstore →
      DevImg allow vm ns.dev ns'.dev → NodeWire allow w vm n n'
inductive NodesWire (allow : Bool) (w : World) (vm : List (Nat × Nat)) : List Nat → List Nat → Prop
  | nil : NodesWire allow w vm [] []
  | cons {x y : Nat} {xs ys : List Nat} :
      NodeWire allow w vm x y → NodesWire allow w vm xs ys → NodesWire allow w vm (x :: xs) (y :: ys)
inductive GraphWire (allow : Bool) (w : World) (vm : List (Nat × Nat)) : Nat → Nat → Prop
  | mk (g g' : Nat) (gs gs' : GraphS) (inits' : List Nat) :
      cGraph w g = some gs → cGraph w g' = some gs' →
      gs'.name = gs.name → gs'.doc = gs.doc → gs'.opsets = gs.opsets →
      ValsImg vm gs.inputs gs'.inputs →
      ValsImg vm (gs.inits.map (·.2)) inits' → (∀ v ∈ inits', ∃ x, cVal w v = some x) →
      gs'.inits = initDict w inits' →
      NodesWire allow w vm gs.nodes gs'.nodes →
      ValsImg vm gs.outputs gs'.outputs →
      PropsSim w gs.props gs'.props → MetaSim w gs.mstore gs'.mstore → GraphWire allow w vm g g'
inductive GraphsWire (allow : Bool) (w : World) (vm : List (Nat × Nat)) : List Nat → List Nat → Prop
  | nil : GraphsWire allow w vm [] []
  | cons {x y : Nat} {xs ys : List Nat} :
      GraphWire allow w vm x y → GraphsWire allow w vm xs ys → GraphsWire allow w vm (x :: xs) (y :: ys)
end


mutual
theorem AttrWire.mono {allow : Bool} {vm : List (Nat × Nat)} {w1 w2 : World} (hle : CoreLe w1 w2) :
    ∀ {x y : String × Nat}, AttrWire allow w1 vm x y → AttrWire allow w2 vm x y
  | _, _, .shared k a as h1 h2 => .shared k a as (cAttr_mono hle h1) h2
  | _, _, .graph k a a' as g g' h1 h2 h3 h4 =>
    .graph k a a' as g g' (cAttr_mono hle h1) h2 (cAttr_mono hle h3) (GraphWire.mono hle h4)
  | _, _, .graphs k a a' as gs gs' h1 h2 h3 h4 =>
    .graphs k a a' as gs gs' (cAttr_mono hle h1) h2 (cAttr_mono hle h3) (GraphsWire.mono hle h4)
theorem AttrsWire.mono {allow : Bool} {vm : List (Nat × Nat)} {w1 w2 : World} (hle : CoreLe w1 w2) :
    ∀ {x y : List (String × Nat)}, AttrsWire allow w1 vm x y → AttrsWire allow w2 vm x y
  | _, _, .nil => .nil
  | _, _, .cons a b => .cons (AttrWire.mono hle a) (AttrsWire.mono hle b)
theorem NodeWire.mono {allow : Bool} {vm : List (Nat × Nat)} {w1 w2 : World} (hle : CoreLe w1 w2) :
    ∀ {x y : Nat}, NodeWire allow w1 vm x y → NodeWire allow w2 vm x y
  | _, _, .mk n n' ns ns' na h1 h2 e1 e2 e3 e4 e5 e6 hin hout hat hd hp hm hdev =>
    .mk n n' ns ns' na (cNode_mono hle h1) (cNode_mono hle h2) e1 e2 e3 e4 e5 e6 hin hout
      (AttrsWire.mono hle hat) hd (hp.mono hle) (hm.mono hle) hdev
theorem NodesWire.mono {allow : Bool} {vm : List (Nat × Nat)} {w1 w2 : World} (hle : CoreLe w1 w2) :
    ∀ {x y : List Nat}, NodesWire allow w1 vm x y → NodesWire allow w2 vm x y
  | _, _, .nil => .nil
  | _, _, .cons a b => .cons (NodeWire.mono hle a) (NodesWire.mono hle b)
theorem GraphWire.mono {allow : Bool} {vm : List (Nat × Nat)} {w1 w2 : World} (hle : CoreLe w1 w2) :
    ∀ {x y : Nat}, GraphWire allow w1 vm x y → GraphWire allow w2 vm x y
  | _, _, .mk g g' gs gs' inits' h1 h2 e1 e2 e3 hin hinit hr hd hn hout hp hm =>
    .mk g g' gs gs' inits' (cGraph_mono hle h1) (cGraph_mono hle h2) e1 e2 e3 hin hinit
      (fun v hv => (hr v hv).imp fun _ hx => cVal_mono hle hx)
      (by rw [hd]; exact (initDict_mono hle hr).symm)
      (NodesWire.mono hle hn) hout (hp.mono hle) (hm.mono hle)
theorem GraphsWire.mono {allow : Bool} {vm : List (Nat × Nat)} {w1 w2 : World} (hle : CoreLe w1 w2) :
    ∀ {x y : List Nat}, GraphsWire allow w1 vm x y → GraphsWire allow w2 vm x y
  | _, _, .nil => .nil
  | _, _, .cons a b => .cons (GraphWire.mono hle a) (GraphsWire.mono hle b)
end

namespace Wire


def Sfx (vm vm' : List (Nat × Nat)) : Prop := ∃ ext, vm' = ext ++ vm

theorem Sfx.refl (vm : List (Nat × Nat)) : Sfx vm vm := ⟨[], rfl⟩
theorem Sfx.trans {a b c : List (Nat × Nat)} (h1 : Sfx a b) (h2 : Sfx b c) : Sfx a c := by
  obtain ⟨e1, rfl⟩ := h1
  obtain ⟨e2, rfl⟩ := h2
  exact ⟨e2 ++ e1, by rw [List.append_assoc]⟩

/-- partial correctness with no invariant: whenever `m` returns `a` in state `s1`, `P a s1` -/
def Post {α : Type} (m : M α) (s : St) (P : α → St → Prop) : Prop :=
  ∀ a s1, m s = (.ok a, s1) → P a s1

theorem Post.eq {α : Type} (m : M α) (s : St) : Post m s (fun a s1 => m s = (.ok a, s1)) := fun _ _ e => e

/-- whatever `m` does and however it ends, the value map only gains bindings at the front -/
def VmMono {α : Type} (m : M α) : Prop := ∀ s, Sfx s.vm (m s).2.vm

def vmL : Logic := relL (fun s s' => Sfx s.vm s'.vm) (fun _ => Sfx.refl _) Sfx.trans

theorem VmMono_iff {α : Type} {m : M α} : VmMono m ↔ ∀ s, Hoare vmL m s (fun _ _ => True) :=
  ⟨fun h s _ => ⟨h s, fun _ _ => ⟨trivial, trivial⟩⟩, fun h s => (h s ⟨Sfx.refl _, trivial⟩).1⟩

theorem _root_.IrVerif.Clone.Eff.sfx {P : Lab → Prop} {s s' : St} (h : Eff P s s') : Sfx s.vm s'.vm := by
  induction h with
  | trans _ _ h1 h2 => exact h1.trans h2
  | vm s a b _ => exact ⟨[(a, b)], rfl⟩
  | _ => exact Sfx.refl _

theorem VmMono.ofDoes {α : Type} {P : Lab → Prop} {m : M α} (h : Does P m) : VmMono m := fun s => (h s).sfx

theorem VmMono.unsupported {α : Type} (why : String) : VmMono (Clone.unsupported why : M α) := fun _ => Sfx.refl _
theorem VmMono.pendHas (v : Nat) : VmMono (pendHas v) := fun _ => Sfx.refl _
theorem VmMono.createdAdd (v : Nat) : VmMono (createdAdd v) := fun _ => Sfx.refl _
theorem VmMono.checkSpecs (allow : Bool) (ns : NodeS) (vm : List (Nat × Nat)) : VmMono (checkSpecs allow ns vm) :=
  .ofDoes (Does.ofQuiet (P := Lab.all) (Quiet.checkSpecs allow ns vm))
theorem VmMono.copyMeta (d : Nat) : VmMono (copyMeta d) := .ofDoes (Does.copyMeta (P := Lab.all) trivial d)

theorem VmMono.guarded {body : M Nat} (hb : VmMono body) : VmMono (guarded body) :=
  VmMono_iff.mpr fun s => (VmMono_iff.mp hb s).guarded fun s' _ hE =>
    hE.trans (Does.forM' (Does.detachNode (P := Lab.all) trivial trivial) _ s').sfx

/-! ### bindings that survive: `Bnd v r vm` says every future value map (front extension with
pairwise different keys) binds `v` to `r` -/

def Fut (vm vmF : List (Nat × Nat)) : Prop := Sfx vm vmF ∧ (vmF.map (·.1)).Nodup

theorem Fut.mono {vm vm' vmF : List (Nat × Nat)} (hs : Sfx vm vm') (h : Fut vm' vmF) : Fut vm vmF :=
  ⟨hs.trans h.1, h.2⟩

def Bnd (v r : Nat) (vm : List (Nat × Nat)) : Prop := ∀ vmF, Fut vm vmF → vmF.lookup v = some r

theorem Bnd.of_lookup {v r : Nat} {vm : List (Nat × Nat)} (h : vm.lookup v = some r) : Bnd v r vm := by
  intro vmF hF
  obtain ⟨⟨ext, rfl⟩, hn⟩ := hF
  exact Total.lookup_ext hn h

theorem Bnd.mono {v r : Nat} {vm vm' : List (Nat × Nat)} (h : Bnd v r vm) (hs : Sfx vm vm') : Bnd v r vm' :=
  fun vmF hF => h vmF (hF.mono hs)

theorem all2_bnd_mono {vm vm' : List (Nat × Nat)} (hs : Sfx vm vm') {l l' : List Nat}
    (h : All2 (fun v r => Bnd v r vm) l l') : All2 (fun v r => Bnd v r vm') l l' :=
  All2.mono (fun _ _ hb => hb.mono hs) h

theorem all2_bnd_vals {vm vmF : List (Nat × Nat)} (hF : Fut vm vmF) {l l' : List Nat}
    (h : All2 (fun v r => Bnd v r vm) l l') : ValsImg vmF l l' :=
  All2.mono (fun _ _ hb => hb vmF hF) h

/-- what the node-input loop does with one input -/
def InRel (allow : Bool) (vm : List (Nat × Nat)) (o o' : Option Nat) : Prop :=
  (∃ v v', o = some v ∧ o' = some v' ∧ vm.lookup v = some v') ∨ (o' = o ∧ (o = none ∨ allow = true))

theorem mapInputs_rel {L : Logic} (allow : Bool) (l : List (Option Nat)) (s : St) :
    Hoare L (mapInputs allow l) s (fun r s1 => s1 = s ∧ All2 (InRel allow s.vm) l r) :=
  (mapInputs_spec allow l s).mono fun r s1 _ _ ⟨hs, hu, hr⟩ => by
    subst hr
    refine ⟨hs, all2_map_right l fun o ho => ?_⟩
    cases o with
    | none => exact .inr ⟨rfl, .inl rfl⟩
    | some u =>
      cases hlk : s.vm.lookup u with
      | some v' => exact .inl ⟨u, v', rfl, by simp [img_of_lookup hlk], hlk⟩
      | none =>
        refine .inr ⟨by simp [img_of_unbound hlk], .inr ?_⟩
        cases allow with
        | true => rfl
        | false => exact absurd ⟨u, ho, hlk, .inl rfl⟩ hu

theorem InRel.refImg {allow : Bool} {vm vmF : List (Nat × Nat)} (hF : Fut vm vmF) {o o' : Option Nat}
    (h : InRel allow vm o o') : RefImg allow vmF o o' := by
  rcases h with ⟨v, v', rfl, rfl, hlk⟩ | ⟨rfl, h2⟩
  · left
    have := Bnd.of_lookup hlk vmF hF
    simp [img, this]
  · rcases h2 with rfl | ha
    · left; rfl
    · right; exact ⟨ha, rfl⟩

theorem all2_length {α β : Type} {R : α → β → Prop} : ∀ {l : List α} {l' : List β}, All2 R l l' → l'.length = l.length
  | _, _, .nil => rfl
  | _, _, .cons _ t => by simp [all2_length t]

theorem inRel_shape {allow : Bool} {vm : List (Nat × Nat)} :
    ∀ {l l' : List (Option Nat)}, All2 (InRel allow vm) l l' → l'.map Option.isSome = l.map Option.isSome
  | _, _, .nil => rfl
  | _, _, .cons h t => by
    simp only [List.map_cons, inRel_shape t, List.cons.injEq, and_true]
    rcases h with ⟨v, v', rfl, rfl, _⟩ | ⟨rfl, _⟩ <;> rfl

theorem remapSpec_img {allow : Bool} {ns : NodeS} {ins : List (Option Nat)} {outs : List Nat}
    {vmIn vmOut vmF : List (Nat × Nat)}
    (hins : All2 (InRel allow vmIn) ns.inputs ins) (hFin : Fut vmIn vmF)
    (houts : All2 (fun o r => Bnd o r vmOut) ns.outputs outs) (hFout : Fut vmOut vmF)
    (sp : DevSpec) (hchk : allow = false → specOuter ns vmOut sp = false) :
    SpecImg allow vmF sp (remapSpec (ioMap ns.inputs ins ns.outputs outs ++ vmOut) sp) := by
  rw [remapSpec_eq]
  refine ⟨rfl, ?_⟩
  cases hv : sp.value with
  | none => exact .inl rfl
  | some v =>
    have bound : ∀ {x}, vmF.lookup v = some x → RefImg allow vmF (some v) (some x) :=
      fun h => .inl (by simp [img, h])
    cases hio : List.lookup v (ioMap ns.inputs ins ns.outputs outs) with
    | some x =>
      simp only [Option.map_some, img_append_some hio]
      rcases mem_ioMap.mp (ListFacts.mem_of_lookup hio) with h1 | h1
      · exact bound (all2_zip houts _ h1 vmF hFout)
      · exact (all2_zip hins _ h1).refImg hFin
    | none =>
      simp only [Option.map_some, img_append_none hio]
      cases hvm : vmOut.lookup v with
      | some b => rw [img_of_lookup hvm]; exact bound (Bnd.of_lookup hvm vmF hFout)
      | none =>
        rw [img_of_unbound hvm]
        cases ha : allow with
        | true => exact .inr ⟨rfl, rfl⟩
        | false =>
          have := specOuter_of_unbound (all2_length houts) (inRel_shape hins) hv hio hvm
          rw [hchk ha] at this; cases this

theorem remapDev_img {allow : Bool} {ns : NodeS} {ins : List (Option Nat)} {outs : List Nat}
    {vmIn vmOut vmF : List (Nat × Nat)}
    (hins : All2 (InRel allow vmIn) ns.inputs ins) (hFin : Fut vmIn vmF)
    (houts : All2 (fun o r => Bnd o r vmOut) ns.outputs outs) (hFout : Fut vmOut vmF)
    (hchk : allow = false → ns.dev.any (fun c => c.specs.any (specOuter ns vmOut)) = false) :
    DevImg allow vmF ns.dev (remapDev (ioMap ns.inputs ins ns.outputs outs ++ vmOut) ns.dev) := by
  refine all2_map_right ns.dev fun c hc => ⟨rfl, all2_map_right c.specs fun sp hsp => ?_⟩
  refine remapSpec_img hins hFin houts hFout sp fun ha => ?_
  have h1 := hchk ha
  rw [List.any_eq_false] at h1
  have h2 := h1 c hc
  simp only [Bool.not_eq_true] at h2
  rw [List.any_eq_false] at h2
  simpa using h2 sp hsp

theorem graphsWire_of_all2 {allow : Bool} {w : World} {vm : List (Nat × Nat)} :
    ∀ {l l' : List Nat}, All2 (GraphWire allow w vm) l l' → GraphsWire allow w vm l l'
  | _, _, .nil => .nil
  | _, _, .cons a b => .cons a (graphsWire_of_all2 b)
theorem nodesWire_of_all2 {allow : Bool} {w : World} {vm : List (Nat × Nat)} :
    ∀ {l l' : List Nat}, All2 (NodeWire allow w vm) l l' → NodesWire allow w vm l l'
  | _, _, .nil => .nil
  | _, _, .cons a b => .cons a (nodesWire_of_all2 b)
theorem attrsWire_of_all2 {allow : Bool} {w : World} {vm : List (Nat × Nat)} :
    ∀ {l l' : List (String × Nat)}, All2 (AttrWire allow w vm) l l' → AttrsWire allow w vm l l'
  | _, _, .nil => .nil
  | _, _, .cons a b => .cons a (attrsWire_of_all2 b)

/-- what the recursive call establishes -/
def GW (allow : Bool) (g g' : Nat) (s : St) : Prop := ∀ vmF, Fut s.vm vmF → GraphWire allow s.w vmF g g'

theorem GW.stable {allow : Bool} {g g' : Nat} {s s' : St} (h : GW allow g g' s) (hl : CoreLe s.w s'.w)
    (hs : Sfx s.vm s'.vm) : GW allow g g' s' := fun vmF hF => (h vmF (hF.mono hs)).mono hl

/-- a bound, readable clone of a defined value -/
def VB (v r : Nat) (s : St) : Prop := Bnd v r s.vm ∧ ValSim s.w v r

theorem VB.stable {v r : Nat} {s s' : St} (h : VB v r s) (hl : CoreLe s.w s'.w) (hs : Sfx s.vm s'.vm) :
    VB v r s' := ⟨h.1.mono hs, h.2.mono hl⟩

theorem Post.guarded {body : M Nat} {s : St} {P : Nat → St → Prop} (h : Post body s P) :
    Post (guarded body) s P := by
  intro a s1 e
  rcases hbs : body s with ⟨r, s'⟩
  cases r with
  | ok x =>
    rw [guarded_ok hbs] at e
    exact h a s1 (by rw [hbs]; exact e)
  | error er =>
    rw [guarded_error hbs] at e
    cases e

end Wire


theorem RefImg.toSim {allow : Bool} {w : World} {vm : List (Nat × Nat)} (hK : ∀ p ∈ vm, ValSim w p.1 p.2)
    {r r' : Option Nat} (h : RefImg allow vm r r') : RefSim w r r' := by
  rcases h with h | ⟨_, h⟩
  · cases r with
    | none => exact .inl h
    | some v =>
      cases hlk : vm.lookup v with
      | none => exact .inl (by rw [h]; simp [img, hlk])
      | some v' =>
        exact .inr ⟨v, v', rfl, by rw [h]; simp [img, hlk], hK (v, v') (ListFacts.mem_of_lookup hlk)⟩
  · exact .inl h

theorem ValsImg.toSim {w : World} {vm : List (Nat × Nat)} (hK : ∀ p ∈ vm, ValSim w p.1 p.2)
    {l l' : List Nat} (h : ValsImg vm l l') : All2 (ValSim w) l l' :=
  All2.mono (fun v v' hlk => hK (v, v') (ListFacts.mem_of_lookup hlk)) h

theorem DevImg.toSim {allow : Bool} {w : World} {vm : List (Nat × Nat)} (hK : ∀ p ∈ vm, ValSim w p.1 p.2)
    {d d' : List DevCfg} (h : DevImg allow vm d d') : DevSim w d d' :=
  All2.mono (fun _ _ ⟨a, b⟩ => ⟨a, All2.mono (fun _ _ ⟨x, y⟩ => ⟨x, y.toSim hK⟩) b⟩) h

mutual
theorem AttrWire.toSim {allow : Bool} {w : World} {vm : List (Nat × Nat)} (hK : ∀ p ∈ vm, ValSim w p.1 p.2) :
    ∀ {x y : String × Nat}, AttrWire allow w vm x y → AttrSim w x y
  | _, _, .shared k a as h1 h2 => .shared k a as h1 h2
  | _, _, .graph k a a' as g g' h1 h2 h3 h4 => .graph k a a' as g g' h1 h2 h3 (GraphWire.toSim hK h4)
  | _, _, .graphs k a a' as gs gs' h1 h2 h3 h4 => .graphs k a a' as gs gs' h1 h2 h3 (GraphsWire.toSim hK h4)
theorem AttrsWire.toSim {allow : Bool} {w : World} {vm : List (Nat × Nat)} (hK : ∀ p ∈ vm, ValSim w p.1 p.2) :
    ∀ {x y : List (String × Nat)}, AttrsWire allow w vm x y → AttrsSim w x y
  | _, _, .nil => .nil
  | _, _, .cons a b => .cons (AttrWire.toSim hK a) (AttrsWire.toSim hK b)
theorem NodeWire.toSim {allow : Bool} {w : World} {vm : List (Nat × Nat)} (hK : ∀ p ∈ vm, ValSim w p.1 p.2) :
    ∀ {x y : Nat}, NodeWire allow w vm x y → NodeSim w x y
  | _, _, .mk n n' ns ns' na h1 h2 e1 e2 e3 e4 e5 e6 hin hout hat hd hp hm hdev =>
    .mk n n' ns ns' na h1 h2 e1 e2 e3 e4 e5 e6 (All2.mono (fun _ _ h => h.toSim hK) hin) (ValsImg.toSim hK hout)
      (AttrsWire.toSim hK hat) hd hp hm (hdev.toSim hK)
theorem NodesWire.toSim {allow : Bool} {w : World} {vm : List (Nat × Nat)} (hK : ∀ p ∈ vm, ValSim w p.1 p.2) :
    ∀ {x y : List Nat}, NodesWire allow w vm x y → NodesSim w x y
  | _, _, .nil => .nil
  | _, _, .cons a b => .cons (NodeWire.toSim hK a) (NodesWire.toSim hK b)
theorem GraphWire.toSim {allow : Bool} {w : World} {vm : List (Nat × Nat)} (hK : ∀ p ∈ vm, ValSim w p.1 p.2) :
    ∀ {x y : Nat}, GraphWire allow w vm x y → GraphSim w x y
  | _, _, .mk g g' gs gs' inits' h1 h2 e1 e2 e3 hin hinit _ hd hn hout hp hm =>
    .mk g g' gs gs' inits' h1 h2 e1 e2 e3 (ValsImg.toSim hK hin) (ValsImg.toSim hK hinit) hd
      (NodesWire.toSim hK hn) (ValsImg.toSim hK hout) hp hm
theorem GraphsWire.toSim {allow : Bool} {w : World} {vm : List (Nat × Nat)} (hK : ∀ p ∈ vm, ValSim w p.1 p.2) :
    ∀ {x y : List Nat}, GraphsWire allow w vm x y → GraphsSim w x y
  | _, _, .nil => .nil
  | _, _, .cons a b => .cons (GraphWire.toSim hK a) (GraphsWire.toSim hK b)
end

end IrVerif.Clone
