/-
The fix-point of the IR version < 10 format of function value info, written with the reserved-name guard
(`serializeM9 true`,
`deserializeM9`): `idempotent_ir9`.
-/
import IrVerif.Lemmas.ScopeFunc9Clear
import IrVerif.Lemmas.ScopeFunc9Inert
namespace IrVerif.Scope

theorem addVInfo_vinfo (E : List VInfoP) (g : GraphP) : (addVInfo E g).vinfo = g.vinfo ++ E := by
  cases g; rfl

/-- a function and its renamed image write the same experimental entries when each value and its image do -/
theorem expOfFunc_pair (Vt Vm W : Nat → ValueS) (A : Assoc) (R : List Name) (k : FId) (g g' : GraphT)
    (ht : TreeRelG Vt A g g') (hlive : liveOuts Vt = liveOuts Vm)
    (hpw : k.overload = "" → ∀ v ∈ g.inputs ++ g.nodes.flatMap (liveOuts Vt), v ∈ A.map (·.1) →
      expEntry W R k (sig A v) = expEntry Vm R k v) :
    expOfFunc W R (k, g') = expOfFunc Vm R (k, g) := by
  obtain ⟨gid, ins, inits, nodes, outs⟩ := g
  obtain ⟨gid', ins', inits', nodes', outs'⟩ := g'
  simp only [TreeRelG] at ht
  obtain ⟨e1, k1, _, _, hN, _, _⟩ := ht
  obtain ⟨e2, k2⟩ := treeRelNs_outputs Vt A nodes nodes' hN
  simp only [GraphT.inputs, GraphT.nodes] at hpw
  simp only [expOfFunc]
  split
  · rfl
  · rename_i hov
    have hov' : k.overload = "" := by simpa using hov
    have hpw := hpw hov'
    rw [expVInfo_eq, expVInfo_eq, expVInfo_eq, expVInfo_eq, e1, e2,
      ← filterMap_live Vm (expEntry Vm R k) (expEntry_of_not_truthy Vm R k) nodes, ← hlive,
      filterMap_map_sig (sig A) (expEntry Vm R k) (expEntry W R k) ins
        (fun v hv => hpw v (List.mem_append_left _ hv) (k1 v hv)),
      filterMap_map_sig (sig A) (expEntry Vm R k) (expEntry W R k) (nodes.flatMap (liveOuts Vt))
        (fun v hv => hpw v (List.mem_append_right _ hv) (k2 v hv))]

theorem post_at_of_new (w : MWorld) (h : ReloadableM w) (vi : List VInfoP) (fids : List FId) (f : FId × GraphT)
    (hf : f ∈ w.funcs) (c : Nat) (hc : c ∈ fvals f.2) (hcn : c ∈ (replF w.st.vals f.2).new)
    (hall : ∀ g ∈ w.funcs, c ∈ fvals g.2 → c ∈ (replF w.st.vals g.2).new) :
    (postFold vi fids w.funcs w.st).vals c = updInfo (tblOf vi fids f.1) (w.st.vals c) := by
  apply postFold_at vi fids c f w.funcs w.st h.ids_nodup hf hc
  intro g hg hne hcg
  exact h.func_disj f hf g hg (Ne.symm hne) c hcn (hall g hg hcg)

theorem post_sameInfo (w : MWorld) (h : ReloadableM w) (vi : List VInfoP) (fids : List FId) (f : FId × GraphT)
    (hf : f ∈ w.funcs) :
    SameByName w.st.vals (fun v => ((postFold vi fids w.funcs w.st).vals v).info) (fvals f.2) := by
  intro a ha b hb ht hn
  show ((postFold vi fids w.funcs w.st).vals a).info.emit = ((postFold vi fids w.funcs w.st).vals b).info.emit
  have hfok := h.2.1
  have htb : nameTruthy (w.st.vals b).name = true := by rw [← hn]; exact ht
  have hat : ∀ c ∈ fvals f.2, nameTruthy (w.st.vals c).name = true →
      (postFold vi fids w.funcs w.st).vals c = updInfo (tblOf vi fids f.1) (w.st.vals c) := fun c hc htc =>
    post_at_of_new w h vi fids f hf c hc (fvals_truthy_new _ f.2 (hfok f hf) c hc htc)
      (fun g hg hcg => fvals_truthy_new _ g.2 (hfok g hg) c hcg htc)
  rw [hat a ha ht, hat b hb htb]
  have base : (w.st.vals a).info.emit = (w.st.vals b).info.emit :=
    fvals_sameInfo w.st.vals f.2 (hfok f hf) a ha b hb ht hn
  obtain ⟨hna, _⟩ := name_some_of_truthy ht
  have hnb : (w.st.vals b).name = some (nm w.st.vals a) := by rw [← hn]; exact hna
  cases hl : (tblOf vi fids f.1).lookup (nm w.st.vals a) with
  | some i => rw [updInfo_some _ _ _ i hna hl, updInfo_some _ _ _ i hnb hl]
  | none => rw [updInfo_none _ _ _ hna hl, updInfo_none _ _ _ hnb hl]; exact base

theorem deserializeM9_inv (P : ModelP) (m : MWorld) (hd : deserializeM9 P = .ok m) :
    ∃ (m0 : MWorld) (J : Nat → Info), deserializeM P = .ok m0 ∧ ReloadableM m0 ∧ m = withInfo m0 J ∧
      FuncInfo m0 J := by
  simp only [deserializeM9] at hd
  split at hd
  · cases hd
  · rename_i m0 hm0
    simp only [Except.ok.injEq] at hd
    have h0 := deserializeM_reloadable_all P m0 hm0
    change MWorld.mk (postFold P.graph.vinfo (m0.funcs.map (·.1)) m0.funcs m0.st) _ _ = m at hd
    have hS := postFold_setInfo P.graph.vinfo (m0.funcs.map (·.1)) m0.funcs m0.st
    have hout := fun v => postFold_out P.graph.vinfo (m0.funcs.map (·.1)) v m0.funcs m0.st
    have hsame := post_sameInfo m0 h0 P.graph.vinfo (m0.funcs.map (·.1))
    generalize postFold P.graph.vinfo (m0.funcs.map (·.1)) m0.funcs m0.st = S at hd hS hout hsame
    subst hd
    exact ⟨m0, fun v => (S.vals v).info, hm0, h0, congrArg (fun s => MWorld.mk s m0.root m0.funcs) hS,
      fun v h => by rw [hout v h], hsame⟩

theorem deserializeM9_reloadable (P : ModelP) (m : MWorld) (hd : deserializeM9 P = .ok m) : ReloadableM m := by
  obtain ⟨m0, J, _, h0, rfl, hFI⟩ := deserializeM9_inv P m hd
  exact post_reloadable m0 h0 J hFI

/-- `c` in `W` and `v` in `V` write the same entry when `W c` is the post-pass (`updInfo T`) applied to a cleared cell
    `d` of the same name and the table returns for that name exactly what was written for `v` -/
theorem expEntry_updInfo (V W : Nat → ValueS) (R : List Name) (k : FId) (v c : Nat) (T : List (Name × Info))
    (d : ValueS) (hname : (W c).name = (V v).name) (hdn : d.name = (V v).name)
    (hW : nameTruthy (V v).name = true → canParseBack R k (nm V v) = true →
      W c = updInfo T d ∧ d.info = {} ∧
        T.lookup (nm V v) = if shouldCreate (V v) then some (V v).info.emit else none) :
    expEntry W R k c = expEntry V R k v := by
  by_cases ht : nameTruthy (V v).name = true
  · by_cases hcp : canParseBack R k (nm V v) = true
    · obtain ⟨hc1, hc2, hlk⟩ := hW ht hcp
      have hc3 : d.name = some (nm V v) := by rw [hdn, (name_some_of_truthy ht).1]
      by_cases hsc : shouldCreate (V v) = true
      · -- an entry was written for `v`: it is read back
        rw [if_pos hsc] at hlk
        have hinfo : (W c).info = (V v).info.emit := by
          rw [hc1]; exact updInfo_some _ _ _ _ hc3 hlk
        apply expEntry_eq V W R k v c hname
        · show ((W c).info.present && nameTruthy (W c).name) = ((V v).info.present && nameTruthy (V v).name)
          rw [hinfo, hname, present_emit]
        · intro _
          rw [hinfo, emit_emit]
      · -- nothing was written for `v`: nothing is read back
        have hscf : shouldCreate (V v) = false := by simpa using hsc
        rw [if_neg hsc] at hlk
        have hval : W c = d := by
          rw [hc1]; exact updInfo_none _ _ _ hc3 hlk
        rw [expEntry_none_of_sc V R k v hscf]
        apply expEntry_none_of_sc
        rw [hval]
        show (d.info.present && nameTruthy d.name) = false
        rw [hc2]; rfl
    · have hcpf : canParseBack R k (nm V v) = false := by simpa using hcp
      rw [expEntry_none_of_cp V R k v hcpf]
      apply expEntry_none_of_cp
      rw [hname]
      exact hcpf
  · have hf' : nameTruthy (V v).name = false := by simpa using ht
    rw [expEntry_of_not_truthy V R k v hf']
    apply expEntry_of_not_truthy
    rw [hname]
    exact hf'

theorem fid_eq (a b : FId) (h1 : a.domain = b.domain) (h2 : a.name = b.name) (h3 : a.overload = b.overload) : a = b := by
  cases a; cases b; simp only at h1 h2 h3; simp [h1, h2, h3]

/-- at the name of a value `v` of function `k` the table holds the info written for `v`, and nothing when nothing
    was written -/
theorem tblOf_exp_lookup (V : Nat → ValueS) (fs : List (FId × GraphT)) (hids : (fs.map (·.1)).Nodup) (R : List Name)
    (vi : List VInfoP) (hvi : ∀ e ∈ vi, e.name ∈ R) (fids : List FId) (k : FId) (g : GraphT) (hf : (k, g) ∈ fs)
    (hk : k.overload = "") (hfid : fids.contains k = true)
    (hSI : SameByName V (fun v => (V v).info) (fvals g))
    (v : Nat) (hv : v ∈ fvals g) (ht : nameTruthy (V v).name = true) (hcp : canParseBack R k (nm V v) = true) :
    (tblOf (vi ++ fs.flatMap (expOfFunc V R)) fids k).lookup (nm V v) =
      if shouldCreate (V v) then some (V v).info.emit else none := by
  have hcp' := hcp
  simp only [canParseBack, Bool.and_eq_true, Bool.not_eq_true', beq_iff_eq] at hcp'
  obtain ⟨hres, hparse⟩ := hcp'
  obtain ⟨hnv, _⟩ := name_some_of_truthy ht
  have hent : ∀ e ∈ vi ++ fs.flatMap (expOfFunc V R), parseExp e.name = some (k.domain, k.name, nm V v) →
      ∃ u ∈ fvals g, shouldCreate (V u) = true ∧ (V v).name = (V u).name ∧ e.info = (V u).info.emit := by
    intro e he hp
    have hname' := parseExp_eq _ _ _ _ hp
    rw [List.mem_append] at he
    rcases he with he | he
    · have := hvi e he
      rw [hname', ← List.contains_iff_mem, hres] at this
      cases this
    · rw [List.mem_flatMap] at he
      obtain ⟨f2, hf2m, he2⟩ := he
      obtain ⟨hov2, u, hu, tu, scu, cpu, rfl⟩ := (mem_expOfFunc _ _ f2 e).mp he2
      simp only [canParseBack, Bool.and_eq_true, Bool.not_eq_true', beq_iff_eq] at cpu
      have hp2 := cpu.2
      simp only at hname'
      rw [hname', hparse] at hp2
      simp only [Option.some.injEq, Prod.mk.injEq] at hp2
      obtain ⟨d1, d2, d3⟩ := hp2
      have hk2 : f2.1 = k := fid_eq _ _ d1.symm d2.symm (by rw [hov2, hk])
      have hf2e : f2 = (k, g) := ListFacts.inj_of_nodup_map hids hf2m hf hk2
      subst hf2e
      refine ⟨u, hu, scu, ?_, rfl⟩
      have hu1 := (name_some_of_truthy (V := V) tu).1
      rw [hnv, hu1]
      exact congrArg some d3
  by_cases hsc : shouldCreate (V v) = true
  · -- an entry was written for `v`: it is read back
    rw [if_pos hsc]
    apply tblOf_lookup_some _ _ k _ _ hk hfid
    · intro e he hp
      obtain ⟨u, hu, _, hnu, hiu⟩ := hent e he hp
      rw [hiu]
      exact (hSI v hv u hu ht hnu).symm
    · refine ⟨⟨formatExp k.domain k.name (nm V v), (V v).info.emit⟩, ?_, hparse⟩
      rw [List.mem_append, List.mem_flatMap]
      exact .inr ⟨(k, g), hf, (mem_expOfFunc _ _ _ _).mpr ⟨hk, v, hv, ht, hsc, hcp, rfl⟩⟩
  · -- nothing was written for `v`: nothing is read back
    rw [if_neg hsc]
    apply tblOf_lookup_none
    intro e he hp
    obtain ⟨u, hu, scu, hnu, _⟩ := hent e he hp
    have hem := hSI v hv u hu ht hnu
    have hp1 : (V u).info.present = true := by
      have : ((V u).info.present && nameTruthy (V u).name) = true := scu
      simp only [Bool.and_eq_true] at this; exact this.1
    have hp2 : (V v).info.present = true := by rw [← present_emit, hem, present_emit]; exact hp1
    apply hsc
    show ((V v).info.present && nameTruthy (V v).name) = true
    rw [hp2, ht]; rfl

theorem reloadableM_fixpoint_at (w : MWorld) (h : ReloadableM w) {w1 D : MWorld} {Q : ModelP}
    (hQ : serializeM w = .ok (w1, Q)) (hD : deserializeM Q = .ok D) : ∃ b, serializeM D = .ok (b, Q) := by
  obtain ⟨a, Qx, Dx, b, x1, x2, x3⟩ := reloadableM_fixpoint w h
  rw [hQ] at x1
  simp only [Except.ok.injEq, Prod.mk.injEq] at x1
  obtain ⟨_, rfl⟩ := x1
  rw [hD] at x2
  simp only [Except.ok.injEq] at x2
  subst x2
  exact ⟨b, x3⟩

/-- in the reload of a certified world every value of a function is its function's own: all node outputs are live -/
theorem reload_own (V : Nat → ValueS) (fs : List (FId × GraphT)) (D : MWorld) (B : Assoc) (hrs : RS V D.st B)
    (htf : TreeRelFs V B fs D.funcs) (RD : ReloadableM D) :
    ∀ f' ∈ D.funcs, ∀ v ∈ fvals f'.2, OwnVal D.st.vals f'.2 v := by
  intro f' hf' v hv
  refine fvals_live _ f'.2 (RD.funcs_ok f' hf') (RD.func_nodup f' hf') (fun n' hn' => ?_) v hv
  obtain ⟨f, hf, _, htg⟩ := (treeRelFs_mem _ B _ _ htf).1 f' hf'
  obtain ⟨k, gid, ins, inits, nodes, outs⟩ := f
  obtain ⟨k', gid', ins', inits', nodes', outs'⟩ := f'
  simp only [TreeRelG] at htg
  obtain ⟨_, _, _, _, hN, _, _⟩ := htg
  exact treeRelNs_live V D.st.vals B (fun v hv => hrs.sig_name hv) nodes nodes' hN n' hn'

/-- the first serialization: the `J`-world writes what the world with the cleared infos writes, up to the value_info
    of the functions, of which the cleared world writes none -/
theorem ir9_first (w0 : MWorld) (h0 : ReloadableM w0) (J : Nat → Info) (hJ : InfoOutside w0 J) (w1' : MWorld)
    (Q' : ModelP) (hQ' : serializeM (withInfo w0 (clearI w0.st.vals w0.funcs J)) = .ok (w1', Q')) :
    ∃ w2 Qm, serializeM (withInfo w0 J) = .ok (w2, Qm) ∧ Qm.graph = Q'.graph ∧
      Qm.funcs.map eraseF = Q'.funcs.map eraseF ∧ Q'.funcs.map eraseF = Q'.funcs := by
  have R' := clear_reloadable w0 h0 J hJ
  obtain ⟨w2, Qm, hsm, hg1, hf1⟩ := frame_serializeM_funcs _ R' J w1' Q' (fun v hne => by
    cases hs : inSB w0.st.vals w0.funcs v with
    | false => exact absurd (show J v = clearI w0.st.vals w0.funcs J v by simp [clearI, hs]) hne
    | true =>
      obtain ⟨ht, f, hf, hvf⟩ := (inSB_iff _ _ _).mp hs
      exact ⟨f, hf, fvals_truthy_own _ f.2 (R'.funcs_ok f hf) (R'.func_nodup f hf) v hvf ht⟩) hQ'
  obtain ⟨ws1', ws2', _, hsf'⟩ := serializeM_inv hQ'
  refine ⟨w2, Qm, hsm, hg1, hf1, serFuncs_no_vinfo _ _ _ _ _ (fun f hf v hv => ?_) hsf'⟩
  show ((clearI w0.st.vals w0.funcs J v).present && nameTruthy (w0.st.vals v).name) = false
  by_cases ht : nameTruthy (w0.st.vals v).name = true
  · have hs : inSB w0.st.vals w0.funcs v = true := (inSB_iff _ _ _).mpr ⟨ht, f, hf, hv⟩
    simp only [clearI, hs, if_true]; rfl
  · simp [ht]

/-- the reload of the IR < 10 proto: a world whose `serializeM` agrees, up to function value_info, with a proto `Q'`
    that has none and loads as `D'`: its IR < 10 proto loads as `D'` followed by the post-pass (the entries `E` are
    inert for the main graph) -/
theorem ir9_reload (w w2 : MWorld) (Qm Q' : ModelP) (D' : MWorld) (E : List VInfoP)
    (hE : w.funcs.flatMap (expOfFunc w.st.vals (reservedNames w.st.vals w.root)) = E)
    (hkeys : ∀ kv ∈ w.root.inits, (w.st.vals kv.2).name = some kv.1) (hsm : serializeM w = .ok (w2, Qm))
    (hg1 : Qm.graph = Q'.graph) (hf1 : Qm.funcs.map eraseF = Q'.funcs.map eraseF)
    (hnv : Q'.funcs.map eraseF = Q'.funcs) (hD' : deserializeM Q' = .ok D') :
    serializeM9 true w = .ok (w2, ⟨addVInfo E Qm.graph, Qm.funcs.map eraseF⟩) ∧
    deserializeM9 ⟨addVInfo E Qm.graph, Qm.funcs.map eraseF⟩ =
      .ok { D' with st := postFold (Qm.graph.vinfo ++ E) (D'.funcs.map (·.1)) D'.funcs D'.st } := by
  have h9 : serializeM9 true w = .ok (w2, ⟨addVInfo E Qm.graph, Qm.funcs.map eraseF⟩) := by
    simp only [serializeM9, hsm, ← hE]; rfl
  obtain ⟨q, hq, hde⟩ := ir9_entries_inert w w2 _ h9 hkeys
  have hqm : q = Qm := by
    rw [hsm] at hq
    simp only [Except.ok.injEq, Prod.mk.injEq] at hq
    exact hq.2.symm
  have hde0 : deserGraph {} [] (addVInfo E Qm.graph) = deserGraph {} [] Q'.graph := by
    have := hde {} []
    rw [hqm] at this
    exact this.trans (congrArg (deserGraph {} []) hg1)
  have hload : deserializeM ⟨addVInfo E Qm.graph, Qm.funcs.map eraseF⟩ = .ok D' := by
    rw [← hD']
    simp only [deserializeM, hde0, hf1, hnv]
  refine ⟨h9, ?_⟩
  simp only [deserializeM9, hload, addVInfo_vinfo]; rfl

/-- the fix-point for a certified world whose function values carry any info that is a function of the name -/
theorem ir9_core (w0 : MWorld) (h0 : ReloadableM w0) (J : Nat → Info)
    (hFI : FuncInfo w0 J) :
    ∃ (m1 : MWorld) (Q : ModelP) (D m2 : MWorld),
      serializeM9 true (withInfo w0 J) = .ok (m1, Q) ∧ deserializeM9 Q = .ok D ∧ serializeM9 true D = .ok (m2, Q) := by
  obtain ⟨hJ, hSI⟩ := hFI
  -- detour through the world `I` with the infos of the truthy-named function values cleared: it is certified, so it
  -- round-trips (`Q'`, `D'`), and frames relate it to the `J`-world before and after the reload
  have R' := clear_reloadable w0 h0 J hJ
  generalize hI : clearI w0.st.vals w0.funcs J = I at R'
  have hI_S : ∀ v, inSB w0.st.vals w0.funcs v = true → I v = {} := fun v hs => by
    rw [← hI]; simp only [clearI, hs, if_true]
  obtain ⟨w1', Q', D', B, hQ', hD', hrs, hdom, htr, htf, hio, _⟩ := reloadableM_roundtrip (withInfo w0 I) R'
  obtain ⟨w2, Qm, hsm, hg1, hf1, hnv⟩ := ir9_first w0 h0 J hJ w1' Q' (by rw [hI]; exact hQ')
  obtain ⟨wsm1, wsm2, hsgm, _⟩ := serializeM_inv hsm
  have hkeys : ∀ kv ∈ (withInfo w0 J).root.inits, ((withInfo w0 J).st.vals kv.2).name = some kv.1 :=
    inits_keyed_of_ok w0.st.vals w0.root [] h0.1
  generalize hE : (withInfo w0 J).funcs.flatMap (expOfFunc (withInfo w0 J).st.vals
      (reservedNames (withInfo w0 J).st.vals (withInfo w0 J).root)) = E
  obtain ⟨h9, h9D⟩ := ir9_reload (withInfo w0 J) w2 Qm Q' D' E hE hkeys hsm hg1 hf1 hnv hD'
  generalize hvi' : Qm.graph.vinfo ++ E = vi' at h9D
  have RD := deserializeM_reloadable_all Q' D' hD'
  obtain ⟨b, x3⟩ := reloadableM_fixpoint_at (withInfo w0 I) R' hQ' hD'
  have hnB : ∀ v ∈ B.map (·.1), (D'.st.vals (sig B v)).name = (w0.st.vals v).name := fun v hv => hrs.sig_name hv
  have flD := reload_own (withInfo w0 I).st.vals w0.funcs D' B hrs htf RD
  generalize hJD : (fun v => ((postFold vi' (D'.funcs.map (·.1)) D'.funcs D'.st).vals v).info) = JD
  have hDw : ({ D' with st := postFold vi' (D'.funcs.map (·.1)) D'.funcs D'.st } : MWorld) = withInfo D' JD := by
    have := postFold_setInfo vi' (D'.funcs.map (·.1)) D'.funcs D'.st
    rw [← hJD]
    exact congrArg (fun s => MWorld.mk s D'.root D'.funcs) this
  have hWval : ∀ c, (withInfo D' JD).st.vals c = (postFold vi' (D'.funcs.map (·.1)) D'.funcs D'.st).vals c := by
    intro c
    rw [← hDw]
  have hJDout : ∀ v, (∀ g' ∈ D'.funcs, v ∉ fvals g'.2) → JD v = (D'.st.vals v).info := fun v h => by
    rw [← hJD]
    show ((postFold vi' (D'.funcs.map (·.1)) D'.funcs D'.st).vals v).info = _
    rw [postFold_out _ _ v _ _ h]
  obtain ⟨w4, QD, hsD, hg2, hf2⟩ := frame_serializeM_funcs D' RD JD b Q' (fun v hne => by
    by_cases hex : ∃ g' ∈ D'.funcs, v ∈ fvals g'.2
    · obtain ⟨g', hg', hvg⟩ := hex
      exact ⟨g', hg', flD g' hg' v hvg⟩
    · exact absurd (hJDout v fun g' hg' hvg => hex ⟨g', hg', hvg⟩) hne) x3
  -- the entries written the second time are the entries written the first time
  have hR : reservedNames (withInfo D' JD).st.vals (withInfo D' JD).root =
      reservedNames (withInfo w0 J).st.vals (withInfo w0 J).root := by
    have := reservedNames_rel (withInfo w0 I).st.vals (withInfo D' JD).st.vals B (fun v hv => hnB v hv) w0.root D'.root htr
    rw [show (withInfo D' JD).root = D'.root from rfl, this]
    exact (reservedNames_setInfo w0.st.vals I w0.root).trans (reservedNames_setInfo w0.st.vals J w0.root).symm
  have hEE : (withInfo D' JD).funcs.flatMap (expOfFunc (withInfo D' JD).st.vals
      (reservedNames (withInfo D' JD).st.vals (withInfo D' JD).root)) = E := by
    rw [hR, ← hE]
    generalize hRdef : reservedNames (withInfo w0 J).st.vals (withInfo w0 J).root = R at hE ⊢
    have hviR : ∀ e ∈ Qm.graph.vinfo, e.name ∈ R := by
      rw [← hRdef]
      exact vinfo_reserved (withInfo w0 J).st.vals _ (withInfo w0 J).root Qm.graph wsm1 hkeys hsgm
    apply flatMap_treeRelFs (withInfo w0 I).st.vals B _ _ w0.funcs D'.funcs htf
    intro f hf g' hg' hkk htg
    obtain ⟨k, g⟩ := f
    obtain ⟨k', gg'⟩ := g'
    simp only at hkk htg
    subst hkk
    apply expOfFunc_pair (withInfo w0 I).st.vals (withInfo w0 J).st.vals (withInfo D' JD).st.vals B R k g gg' htg
    · show liveOuts (setInfo w0.st.vals I) = liveOuts (setInfo w0.st.vals J)
      rw [liveOuts_setInfo, liveOuts_setInfo]
    · intro hk v hv hvB
      obtain ⟨hvf, hsvf⟩ := treeRelG_fvals _ B g gg' htg v hv
      apply expEntry_updInfo (withInfo w0 J).st.vals (withInfo D' JD).st.vals R k v (sig B v)
        (tblOf vi' (D'.funcs.map (·.1)) k) (D'.st.vals (sig B v)) (hnB v hvB) (hnB v hvB)
      intro ht hcp
      have ht : nameTruthy (w0.st.vals v).name = true := ht
      have hcp : canParseBack R k (nm w0.st.vals v) = true := hcp
      have hS : inSB w0.st.vals w0.funcs v = true := (inSB_iff _ _ _).mpr ⟨ht, _, hf, hvf⟩
      refine ⟨?_, ?_, ?_⟩
      · rw [hWval]
        exact post_at_of_new D' RD vi' _ (k, gg') hg' (sig B v) hsvf (flD _ hg' _ hsvf).1
          (fun g'' hg'' h => (flD g'' hg'' _ h).1)
      · have hem : v ∈ emitM (withInfo w0 I) := by
          simp only [emitM, List.mem_append, List.mem_flatMap]
          right
          refine ⟨(k, g), hf, ?_⟩
          obtain ⟨gid, ins, inits, nodes, outs⟩ := g
          simp only [GraphT.inputs, GraphT.nodes, List.mem_append] at hv
          simp only [emitF, List.mem_append, List.mem_filter]
          rcases hv with hv | hv
          · exact .inl (.inl ⟨hv, ht⟩)
          · exact .inl (.inr ⟨hv, ht⟩)
        rw [(hio v hem).2]
        show (I v).emit = {}
        rw [hI_S v hS]; rfl
      · have hfid : (D'.funcs.map (·.1)).contains k = true := by
          rw [List.contains_iff_mem]
          exact List.mem_map_of_mem (f := (·.1)) hg'
        rw [← hvi', ← hE]
        exact tblOf_exp_lookup (withInfo w0 J).st.vals w0.funcs h0.ids_nodup R Qm.graph.vinfo hviR _ k g hf hk hfid
          (hSI (k, g) hf) v hvf ht hcp
  have h9D2 : serializeM9 true (withInfo D' JD) = .ok (w4, ⟨addVInfo E QD.graph, QD.funcs.map eraseF⟩) := by
    simp only [serializeM9, hsD, if_true, hEE]; rfl
  refine ⟨w2, _, _, w4, h9, h9D, ?_⟩
  rw [hDw, h9D2, hg2, hf2, hg1, hf1]

/-- **idempotent_ir9**: the IR version < 10 format, written with the reserved-name guard (`serializeM9 true`), is a
    fix-point of deserialize-then-serialize, for every proto that deserializes -/
theorem idempotent_ir9 (P : ModelP) (m : MWorld) (hd : deserializeM9 P = .ok m) :
    ∃ (m1 : MWorld) (Q : ModelP) (D m2 : MWorld),
      serializeM9 true m = .ok (m1, Q) ∧ deserializeM9 Q = .ok D ∧ serializeM9 true D = .ok (m2, Q) := by
  obtain ⟨m0, J, _, h0, rfl, hFI⟩ := deserializeM9_inv P m hd
  exact ir9_core m0 h0 J hFI

end IrVerif.Scope
