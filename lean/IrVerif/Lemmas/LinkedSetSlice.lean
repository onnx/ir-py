/-
Tuple slicing (`pySlice`): every selected position is inside the list, so the slice is exactly
`[L[start + j * step] | j < count]` with `slice.indices` normalisation.
-/
import IrVerif.Model.LinkedSet
namespace IrVerif.LinkedSet

theorem sliceClip_bounds (n : Nat) (k x : Int) :
    (0 < k → 0 ≤ sliceClip n k x ∧ sliceClip n k x ≤ n) ∧
    (k < 0 → -1 ≤ sliceClip n k x ∧ sliceClip n k x ≤ (n : Int) - 1) := by
  unfold sliceClip
  split
  · split
    · split <;> omega
    · omega
  · split
    · split <;> omega
    · omega

theorem sliceStart_bounds (n : Nat) (k : Int) (st : Option Int) :
    (0 < k → 0 ≤ sliceStart n k st ∧ sliceStart n k st ≤ n) ∧
    (k < 0 → -1 ≤ sliceStart n k st ∧ sliceStart n k st ≤ (n : Int) - 1) := by
  cases st with
  | none => simp only [sliceStart]; constructor <;> intro hk <;> split <;> omega
  | some x => exact sliceClip_bounds n k x

theorem sliceStop_bounds (n : Nat) (k : Int) (sp : Option Int) :
    (0 < k → 0 ≤ sliceStop n k sp ∧ sliceStop n k sp ≤ n) ∧
    (k < 0 → -1 ≤ sliceStop n k sp ∧ sliceStop n k sp ≤ (n : Int) - 1) := by
  cases sp with
  | none => simp only [sliceStop]; constructor <;> intro hk <;> split <;> omega
  | some x => exact sliceClip_bounds n k x

theorem step_lt {a b k : Int} {j : Nat} (hk : 0 < k) (hab : a < b)
    (hj : j < ((b - a - 1) / k + 1).toNat) : 0 ≤ (j : Int) * k ∧ a + j * k < b := by
  have h0 : 0 ≤ (b - a - 1) / k := Int.ediv_nonneg (by omega) (by omega)
  have h1 : (j : Int) * k ≤ (b - a - 1) / k * k :=
    Int.mul_le_mul_of_nonneg_right (by omega) (Int.le_of_lt hk)
  have h2 : (b - a - 1) / k * k ≤ b - a - 1 := Int.ediv_mul_le _ (Int.ne_of_gt hk)
  exact ⟨Int.mul_nonneg (by omega) (by omega), by omega⟩

/-- every position the slice selects lies inside the sequence -/
theorem slice_inRange (n : Nat) (st sp : Option Int) (k : Int) (hk : k ≠ 0) (j : Nat)
    (hj : j < sliceCount (sliceStart n k st) (sliceStop n k sp) k) :
    0 ≤ sliceStart n k st + j * k ∧ sliceStart n k st + j * k < n := by
  have ha := sliceStart_bounds n k st
  have hb := sliceStop_bounds n k sp
  generalize sliceStart n k st = a at *
  generalize sliceStop n k sp = b at *
  unfold sliceCount at hj
  by_cases hneg : k < 0
  · -- a negative step is the positive step `-k` from `-a` towards `-b`
    simp only [hneg, if_true] at hj
    obtain ⟨-, ha2⟩ := ha.2 hneg
    obtain ⟨hb1, -⟩ := hb.2 hneg
    split at hj
    · rename_i hba
      have e : -b - -a - 1 = a - b - 1 := by omega
      have := step_lt (a := -a) (b := -b) (k := -k) (j := j) (by omega) (by omega) (by rw [e]; exact hj)
      rw [Int.mul_neg] at this
      omega
    · omega
  · have hpos : 0 < k := by omega
    simp only [hneg, if_false] at hj
    obtain ⟨ha1, -⟩ := ha.1 hpos
    obtain ⟨-, hb2⟩ := hb.1 hpos
    split at hj
    · rename_i hab
      have := step_lt hpos hab hj
      omega
    · omega

/-- **the slice is `[L[start + j * step] | j < count]`**: nothing is dropped, the length is the
    count of `slice.indices`, element `j` is the element at position `start + j * step` -/
theorem pySlice_spec (L : List Nat) (st sp step : Option Int) :
    (pySlice L st sp step = none ↔ step = some 0) ∧
    ∀ a k cnt, sliceIndices L.length st sp step = some (a, k, cnt) →
      ∃ res, pySlice L st sp step = some res ∧ res.length = cnt ∧
        ∀ j, j < cnt → res[j]? = L[(a + j * k).toNat]? ∧ (a + j * k).toNat < L.length := by
  constructor
  · unfold pySlice sliceIndices
    cases step with
    | none => simp
    | some k =>
      by_cases hk : k = 0 <;> simp [hk]
  · intro a k cnt h
    have hk : k ≠ 0 ∧ a = sliceStart L.length k st ∧
        cnt = sliceCount (sliceStart L.length k st) (sliceStop L.length k sp) k := by
      unfold sliceIndices at h
      simp only at h
      split at h
      · cases h
      · rename_i hk0
        simp only [Option.some.injEq, Prod.mk.injEq] at h
        obtain ⟨rfl, rfl, rfl⟩ := h
        exact ⟨hk0, rfl, rfl⟩
    obtain ⟨hk0, rfl, rfl⟩ := hk
    have inr := slice_inRange L.length st sp k hk0
    generalize sliceStart L.length k st = a at *
    generalize sliceCount a (sliceStop L.length k sp) k = cnt at *
    have key : ∀ (m : Nat), m ≤ cnt →
        ((List.range m).filterMap fun (i : Nat) => L[(a + (i : Int) * k).toNat]?) =
        (List.range m).map fun (i : Nat) => L[(a + (i : Int) * k).toNat]?.getD 0 := by
      intro m
      induction m with
      | zero => intro _; rfl
      | succ m ih =>
        intro hm
        rw [List.range_succ, List.filterMap_append, List.map_append, ih (by omega)]
        congr 1
        obtain ⟨h0, h1⟩ := inr m (by omega)
        have hlt : (a + (m : Int) * k).toNat < L.length := by omega
        simp [List.getElem?_eq_getElem hlt]
    refine ⟨(List.range cnt).filterMap fun (i : Nat) => L[(a + (i : Int) * k).toNat]?, by simp only [pySlice, h], ?_, ?_⟩
    · rw [key cnt (Nat.le_refl _)]; simp
    · intro j hj
      obtain ⟨h0, h1⟩ := inr j hj
      have hlt : (a + (j : Int) * k).toNat < L.length := by omega
      refine ⟨?_, hlt⟩
      rw [key cnt (Nat.le_refl _)]
      simp [hj, List.getElem?_eq_getElem hlt]

end IrVerif.LinkedSet
