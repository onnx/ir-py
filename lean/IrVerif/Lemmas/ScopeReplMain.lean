/-
Round trip of a reloadable model.  `deserGraph` run on the proto that `serGraph` writes for a graph satisfying the
certificate `replG` succeeds and returns the same tree up to a renaming of the values; the values whose type / shape /
documentation the proto carries keep them, and a live node output with an empty name comes back without any.

A graph is read in three parts (`rt_ghead`, `rt_body`, `rt_gtail`), stated over an arbitrary value_info table `vi` because the
extended round trip calls them on the erased run; inputs and initializers are one part because an initializer that names
an input writes into it.
-/
import IrVerif.Lemmas.ScopeReplPhases
import IrVerif.Lemmas.ScopeReplTbl
namespace IrVerif.Scope

theorem replInits_base (V : Nat → ValueS) (go : List Nat) : ∀ (l : List (Name × Nat)) (T : Table),
    (replInits V go T l).ok → ∀ kv ∈ l, (V kv.2).name = some kv.1 ∧ kv.1 ≠ "" ∧ (V kv.2).const ≠ none := by
  intro l
  induction l with
  | nil => intro T _ kv hkv; simp at hkv
  | cons e l ih =>
    obtain ⟨k, v⟩ := e
    intro T hok kv hkv
    simp only [replInits] at hok
    simp only [List.mem_cons] at hkv
    split at hok
    · rcases hkv with rfl | hkv
      · exact hok.1
      · exact ih T hok.2.2 kv hkv
    · rcases hkv with rfl | hkv
      · exact hok.1
      · exact ih _ hok.2.2 kv hkv

theorem replInits_mono (V : Nat → ValueS) (go : List Nat) : ∀ (l : List (Name × Nat)) (T : Table) (x : Name) (u : Nat),
    T.lookup x = some u → (replInits V go T l).tbl.lookup x = some u := by
  intro l
  induction l with
  | nil => intro T x u h; simpa [replInits] using h
  | cons e l ih =>
    obtain ⟨k, v⟩ := e
    intro T x u h
    simp only [replInits]
    split
    · exact ih T x u h
    · rename_i hn
      apply ih
      have hne : x ≠ k := fun e => by subst e; rw [hn] at h; cases h
      rw [lookup_cons_ne _ _ _ _ hne]; exact h

theorem replInits_cases (V : Nat → ValueS) (go : List Nat) : ∀ (l : List (Name × Nat)) (T : Table),
    (replInits V go T l).ok → (l.map (·.1)).Nodup →
    ∀ kv ∈ l, (kv.2 ∈ (replInits V go T l).new ∧ T.lookup kv.1 = none ∧
        (replInits V go T l).tbl.lookup kv.1 = some kv.2 ∧
        (kv.2 ∉ go → (V kv.2).info.ty ≠ none ∧ (V kv.2).info.sh ≠ none)) ∨
      T.lookup kv.1 = some kv.2 := by
  intro l
  induction l with
  | nil => intro T _ _ kv hkv; simp at hkv
  | cons e l ih =>
    obtain ⟨k, v⟩ := e
    intro T hok hnd kv hkv
    simp only [List.map_cons, List.nodup_cons, List.mem_map, not_exists, not_and] at hnd
    simp only [replInits] at hok ⊢
    simp only [List.mem_cons] at hkv
    cases hl : T.lookup k with
    | some u =>
      simp only [hl] at hok ⊢
      rcases hkv with rfl | hkv
      · right; rw [hl, hok.2.1]
      · exact ih T hok.2.2 hnd.2 kv hkv
    | none =>
      simp only [hl] at hok ⊢
      rcases hkv with rfl | hkv
      · left
        exact ⟨by simp, hl, replInits_mono V go l _ _ _ (lookup_cons_self _ _ _), hok.2.1⟩
      · have hne : kv.1 ≠ k := fun e => hnd.1 kv hkv e
        rcases ih _ hok.2.2 hnd.2 kv hkv with ⟨h1, h2, h3, h4⟩ | h
        · left
          rw [lookup_cons_ne _ _ _ _ hne] at h2
          exact ⟨by simp [h1], h2, h3, h4⟩
        · right
          rw [lookup_cons_ne _ _ _ _ hne] at h
          exact h

theorem replDecl_mono (V : Nat → ValueS) : ∀ (l : List Nat) (T : Table), (replDecl V T l).ok →
    ∀ (x : Name) (u : Nat), T.lookup x = some u → (replDecl V T l).tbl.lookup x = some u := by
  intro l
  induction l with
  | nil => intro T _ x u h; simpa [replDecl] using h
  | cons v l ih =>
    intro T hok x u h
    simp only [replDecl] at hok ⊢
    split
    · rename_i ht
      simp only [ht, if_true] at hok
      apply ih _ hok.2
      have hne : x ≠ nm V v := fun e => by subst e; rw [hok.1] at h; cases h
      rw [lookup_cons_ne _ _ _ _ hne]; exact h
    · rename_i ht
      simp only [ht] at hok
      exact ih T hok.2 x u h

theorem replDecl_new (V : Nat → ValueS) : ∀ (l : List Nat) (T : Table), (replDecl V T l).ok →
    (replDecl V T l).new = l.filter (fun v => nameTruthy (V v).name) ∧
    (∀ v ∈ l, (V v).name ≠ none) ∧
    ∀ v ∈ (replDecl V T l).new, (replDecl V T l).tbl.lookup (nm V v) = some v := by
  intro l
  induction l with
  | nil => intro T _; simp [replDecl]
  | cons v l ih =>
    intro T hok
    simp only [replDecl] at hok ⊢
    by_cases ht : nameTruthy (V v).name = true
    · simp only [ht, if_true] at hok ⊢
      obtain ⟨a, b, c⟩ := ih _ hok.2
      refine ⟨by simp [ht, a], fun w hw => ?_, fun w hw => ?_⟩
      · simp only [List.mem_cons] at hw
        rcases hw with rfl | hw
        · exact ne_none_of_truthy ht
        · exact b w hw
      · simp only [List.mem_cons] at hw
        rcases hw with rfl | hw
        · exact replDecl_mono V l _ hok.2 _ _ (lookup_cons_self _ _ _)
        · exact c w hw
    · have hf : nameTruthy (V v).name = false := by simpa using ht
      simp only [hf, Bool.false_eq_true, if_false] at hok ⊢
      obtain ⟨a, b, c⟩ := ih _ hok.2
      refine ⟨by simp [hf, a], fun w hw => ?_, c⟩
      simp only [List.mem_cons] at hw
      rcases hw with rfl | hw
      · exact hok.1
      · exact b w hw

theorem tblIns_lookup_some (V : Nat → ValueS) (ins : List Nat) (x : Name) (u : Nat)
    (h : (tblIns V ins).lookup x = some u) : u ∈ ins ∧ nm V u = x := by
  have := lookup_mem _ _ _ h
  simp only [tblIns, List.mem_reverse, List.mem_map, Prod.mk.injEq] at this
  obtain ⟨v, hv, h1, h2⟩ := this
  subst h2
  exact ⟨hv, h1⟩

theorem tblIns_lookup_none (V : Nat → ValueS) (ins : List Nat) (x : Name)
    (h : (tblIns V ins).lookup x = none) : ∀ u ∈ ins, nm V u ≠ x := by
  intro u hu he
  have : (x, u) ∈ tblIns V ins := by
    simp only [tblIns, List.mem_reverse, List.mem_map, Prod.mk.injEq]
    exact ⟨u, hu, he, rfl⟩
  exact lookup_ne_none_of_mem _ _ _ this h

mutual
/-- the values whose type / shape / documentation the proto of `g` carries: graph inputs, initializers,
    named node outputs, graph outputs, of `g` and of every nested graph (an empty-named node output is
    written as a bare `""`) -/
def emitG (V : Nat → ValueS) : GraphT → List Nat
  | .mk _ ins inits nodes outs =>
    ins ++ inits.map (·.2) ++ (nodes.flatMap (liveOuts V)).filter (fun v => nameTruthy (V v).name) ++ outs ++
      emitSubNs V nodes
def emitSubNs (V : Nat → ValueS) : List NodeT → List Nat
  | [] => []
  | n :: ns => emitSubN V n ++ emitSubNs V ns
def emitSubN (V : Nat → ValueS) : NodeT → List Nat
  | .mk _ _ _ _ subs => emitGs V subs
def emitGs (V : Nat → ValueS) : List GraphT → List Nat
  | [] => []
  | g :: gs => emitG V g ++ emitGs V gs
end

def InfoOK2 (V : Nat → ValueS) (s : Store) (A : Assoc) (L : List Nat) : Prop :=
  ∀ v ∈ L, v ∈ A.map (·.1) ∧ (s.vals (sig A v)).info = (V v).info.emit

def ConstOK2 (V : Nat → ValueS) (td : TData) (s : Store) (A : Assoc) (I : List (Name × Nat)) : Prop :=
  ∀ kv ∈ I, kv.2 ∈ A.map (·.1) ∧ (V kv.2).const ≠ none ∧ ∀ t, (V kv.2).const = some t →
    ∃ t', (s.vals (sig A kv.2)).const = some t' ∧ t' < s.nt ∧ (s.tens t').name = some kv.1 ∧ s.tdata t' = td t

theorem ConstOK2.payload {V : Nat → ValueS} {td : TData} {s : Store} {A : Assoc} {I : List (Name × Nat)}
    (h : ConstOK2 V td s A I) : ∀ kv ∈ I, ∀ t, (V kv.2).const = some t →
      ∃ t', (s.vals (sig A kv.2)).const = some t' ∧ (s.tens t').name = some kv.1 ∧ s.tdata t' = td t :=
  fun kv hkv t htc => by
    obtain ⟨t', h1, _, h3, h4⟩ := (h kv hkv).2.2 t htc
    exact ⟨t', h1, h3, h4⟩

theorem InfoOK2.step {V : Nat → ValueS} {s s' : Store} {A B : Assoc} {L : List Nat} (h : InfoOK2 V s A L)
    (hrs : RS V s A) (hp : Prim s.nv s s') : InfoOK2 V s' (A ++ B) L := by
  intro v hv
  obtain ⟨hk, hi⟩ := h v hv
  refine ⟨mem_keys_append hk, ?_⟩
  rw [sig_append_of_mem hk, (hp.cell _ (hrs.sig_lt hk)).1]
  exact hi

theorem ConstOK2.step {V : Nat → ValueS} {td : TData} {s s' : Store} {A B : Assoc} {I : List (Name × Nat)}
    (h : ConstOK2 V td s A I) (hrs : RS V s A) (hp : Prim s.nv s s') : ConstOK2 V td s' (A ++ B) I := by
  intro kv hkv
  obtain ⟨hk, hne, hc⟩ := h kv hkv
  refine ⟨mem_keys_append hk, hne, fun t ht => ?_⟩
  obtain ⟨t', h1, h2, h3, h4⟩ := hc t ht
  refine ⟨t', ?_, Nat.lt_of_lt_of_le h2 hp.nt_le, ?_, ?_⟩
  · rw [sig_append_of_mem hk, (hp.cell _ (hrs.sig_lt hk)).2]; exact h1
  · rw [hp.tens t' h2]; exact h3
  · simp only [Store.tdata] at h4 ⊢
    rw [hp.tens t' h2]; exact h4

theorem InfoOK2.prim {V : Nat → ValueS} {s s' : Store} {A : Assoc} {L : List Nat} (h : InfoOK2 V s A L)
    (hrs : RS V s A) (hp : Prim s.nv s s') : InfoOK2 V s' A L := by
  have := h.step (B := []) hrs hp
  simpa using this

theorem ConstOK2.prim {V : Nat → ValueS} {td : TData} {s s' : Store} {A : Assoc} {I : List (Name × Nat)}
    (h : ConstOK2 V td s A I) (hrs : RS V s A) (hp : Prim s.nv s s') : ConstOK2 V td s' A I := by
  have := h.step (B := []) hrs hp
  simpa using this

theorem tablesLt_of_RS2 {V : Nat → ValueS} {s : Store} {A : Assoc} (hrs : RS V s A) (Ts : List Table)
    (h : ∀ T ∈ Ts, TblIn A T) : TablesLt s (Ts.map (mapT A)) := by
  intro T hT
  obtain ⟨T0, hT0, rfl⟩ := List.mem_map.mp hT
  exact tableLt_of_RS2 hrs (h T0 hT0)

theorem values_nodup_of_names {V : Nat → ValueS} {l : List (Name × Nat)}
    (hn : ∀ kv ∈ l, (V kv.2).name = some kv.1) (hk : (l.map (·.1)).Nodup) : (l.map (·.2)).Nodup := by
  induction l with
  | nil => simp
  | cons e l ih =>
    simp only [List.map_cons, List.nodup_cons, List.mem_map, not_exists, not_and] at hk ⊢
    refine ⟨fun x hx he => ?_, ih (fun kv hkv => hn kv (List.mem_cons_of_mem _ hkv)) hk.2⟩
    have h1 := hn x (List.mem_cons_of_mem _ hx)
    have h2 := hn e List.mem_cons_self
    rw [he, h2] at h1
    exact hk.1 x hx (Option.some.inj h1).symm

mutual
/-- the values that reload with empty information: live node outputs with an empty name (at any depth)
    that are not outputs of the graph -/
def blankG (V : Nat → ValueS) : GraphT → List Nat
  | .mk _ _ _ nodes outs => (blankNs V nodes).filter (fun v => !outs.contains v)
def blankNs (V : Nat → ValueS) : List NodeT → List Nat
  | [] => []
  | n :: ns => blankN V n ++ blankNs V ns
def blankN (V : Nat → ValueS) : NodeT → List Nat
  | .mk _ _ _ outs subs => (stripTrailing V outs).filter (fun v => !nameTruthy (V v).name) ++ blankGs V subs
def blankGs (V : Nat → ValueS) : List GraphT → List Nat
  | [] => []
  | g :: gs => blankG V g ++ blankGs V gs
end

def BlankOK (s : Store) (A : Assoc) (L : List Nat) : Prop :=
  ∀ v ∈ L, v ∈ A.map (·.1) ∧ (s.vals (sig A v)).info = {}

theorem BlankOK.step {V : Nat → ValueS} {s s' : Store} {A B : Assoc} {L : List Nat} (h : BlankOK s A L)
    (hrs : RS V s A) (hp : Prim s.nv s s') : BlankOK s' (A ++ B) L := by
  intro v hv
  obtain ⟨hk, hi⟩ := h v hv
  exact ⟨mem_keys_append hk, by rw [sig_append_of_mem hk, (hp.cell _ (hrs.sig_lt hk)).1]; exact hi⟩

/-- from `s` under `A` the reload has reached `s'` under `A ++ B` -/
structure RtPost (V : Nat → ValueS) (td : TData) (s : Store) (A B : Assoc) (s' : Store)
    (E : List Nat) (AI : List (Name × Nat)) (BL : List Nat) : Prop where
  rs : RS V s' (A ++ B)
  le : s.nv ≤ s'.nv
  fresh : Fresh s'
  prim : Prim s.nv s s'
  infoOK : InfoOK2 V s' (A ++ B) E
  constOK : ConstOK2 V td s' (A ++ B) AI
  blankOK : BlankOK s' (A ++ B) BL

namespace RtPost
variable {V : Nat → ValueS} {td : TData}

theorem nil {s : Store} {A : Assoc} (hrs : RS V s A) (hf : Fresh s) : RtPost V td s A [] s [] [] [] :=
  ⟨by rw [List.append_nil]; exact hrs, Nat.le_refl _, hf, .refl _ _, fun _ h => absurd h List.not_mem_nil,
    fun _ h => absurd h List.not_mem_nil, fun _ h => absurd h List.not_mem_nil⟩

theorem append {s s1 s2 : Store} {A B1 B2 : Assoc} {E1 E2 : List Nat} {AI1 AI2 : List (Name × Nat)}
    {BL1 BL2 : List Nat} (h1 : RtPost V td s A B1 s1 E1 AI1 BL1)
    (h2 : RtPost V td s1 (A ++ B1) B2 s2 E2 AI2 BL2) :
    RtPost V td s A (B1 ++ B2) s2 (E1 ++ E2) (AI1 ++ AI2) (BL1 ++ BL2) := by
  have e : A ++ (B1 ++ B2) = A ++ B1 ++ B2 := (List.append_assoc _ _ _).symm
  exact {
    rs := e ▸ h2.rs
    le := Nat.le_trans h1.le h2.le
    fresh := h2.fresh
    prim := h1.prim.trans (h2.prim.weaken h1.le)
    infoOK := e ▸ List.forall_mem_append.mpr ⟨h1.infoOK.step (B := B2) h1.rs h2.prim, h2.infoOK⟩
    constOK := e ▸ List.forall_mem_append.mpr ⟨h1.constOK.step (B := B2) h1.rs h2.prim, h2.constOK⟩
    blankOK := e ▸ List.forall_mem_append.mpr ⟨h1.blankOK.step (B := B2) h1.rs h2.prim, h2.blankOK⟩ }

theorem sub {s s' : Store} {A B : Assoc} {E E' : List Nat} {AI AI' : List (Name × Nat)} {BL BL' : List Nat}
    (h : RtPost V td s A B s' E AI BL) (hE : ∀ v ∈ E', v ∈ E) (hAI : ∀ kv ∈ AI', kv ∈ AI) (hBL : ∀ v ∈ BL', v ∈ BL) :
    RtPost V td s A B s' E' AI' BL' :=
  { h with infoOK := fun v hv => h.infoOK v (hE v hv), constOK := fun kv hkv => h.constOK kv (hAI kv hkv),
           blankOK := fun v hv => h.blankOK v (hBL v hv) }

theorem same {s s' s'' : Store} {A B : Assoc} {E : List Nat} {AI : List (Name × Nat)} {BL : List Nat}
    (h : RtPost V td s A B s' E AI BL) (hnv : s''.nv = s'.nv) (hname : ∀ w, (s''.vals w).name = (s'.vals w).name)
    (hp : Prim s'.nv s' s'') (hf : Fresh s'') : RtPost V td s A B s'' E AI BL :=
  { rs := h.rs.same_nv hnv hname
    le := hnv ▸ h.le
    fresh := hf
    prim := h.prim.trans (hp.weaken h.le)
    infoOK := h.infoOK.prim h.rs hp
    constOK := h.constOK.prim h.rs hp
    blankOK := by have := h.blankOK.step (B := []) h.rs hp; simpa using this }
end RtPost

theorem new_of_nodup_append {A B : Assoc} {L N : List Nat} (hB : B.map (·.1) = L)
    (hA : ∀ v ∈ L ++ N, v ∉ A.map (·.1)) (hnd : (L ++ N).Nodup) : ∀ v ∈ N, v ∉ (A ++ B).map (·.1) := by
  intro v hv hm
  rw [List.map_append, List.mem_append, hB] at hm
  rcases hm with hm | hm
  · exact hA v (List.mem_append_right _ hv) hm
  · exact (List.nodup_append.mp hnd).2.2 v hm v hv rfl

theorem vis_src (V : Nat → ValueS) (td : TData) (gouts : List Nat) (nodes : List NodeT) (nps : List NodeP)
    (vis : List VInfoP) (ws : Writes) (hn : serNodes V td gouts nodes = .ok (nps, vis, ws)) (e : VInfoP)
    (he : e ∈ vis) :
    ∃ u, u ∈ (nodes.flatMap (liveOuts V)).filter (fun v => nameTruthy (V v).name) ∧
      shouldCreate (V u) = true ∧ e = ⟨nm V u, (V u).info.emit⟩ := by
  obtain ⟨n, hn', he⟩ := (mem_serNodes_vi V td gouts e nodes nps vis ws hn).mp he
  rw [mem_outVInfo] at he
  obtain ⟨u, hu0, _, hsc, rfl⟩ := he
  have hut : nameTruthy (V u).name = true := by
    simp only [shouldCreate, Bool.and_eq_true] at hsc; exact hsc.2
  refine ⟨u, List.mem_filter.mpr ⟨?_, hut⟩, hsc, rfl⟩
  obtain ⟨i, g, a, b, c⟩ := n
  exact List.mem_flatMap.mpr ⟨_, hn', truthy_mem_stripTrailing V u b hu0 hut⟩

theorem declInfo_of_src {V : Nat → ValueS} {L : List VInfoP} {v : Nat} (ht : nameTruthy (V v).name = true)
    (hsrc : ∀ e ∈ L, e.name = nm V v → shouldCreate (V v) = true ∧ e.info = (V v).info.emit)
    (hent : shouldCreate (V v) = true → ∃ e ∈ L, e.name = nm V v) :
    declInfo (vinfoTable L) (nm V v) = (V v).info.emit := by
  by_cases hsc : shouldCreate (V v) = true
  · simp only [declInfo, vinfoTable_lookup_some L _ _ (fun e he hn => (hsrc e he hn).2) (hent hsc)]
  · simp only [declInfo, vinfoTable_lookup_none L _ (fun e he hn => hsc (hsrc e he hn).1)]
    have hnp : (V v).info.present = false := by
      simp only [shouldCreate, Bool.and_eq_true, ht, and_true] at hsc
      simpa using hsc
    exact (emit_of_not_present hnp).symm

/-- `vi` and `gouts` are arbitrary: function bodies (`rt2_func`) and `rt_nodes` call it on other tables -/
def NodesRT (V : Nat → ValueS) (td : TData) (nodes : List NodeT) : Prop :=
  ∀ (s : Store) (A : Assoc) (T : Table) (outer : List Table) (gouts : List Nat)
    (vi : List (Name × Info)) (nps : List NodeP) (vis : List VInfoP) (ws : Writes),
    serNodes V td gouts nodes = .ok (nps, vis, ws) → (replNs V outer T nodes).ok →
    (replNs V outer T nodes).new.Nodup → (∀ v ∈ (replNs V outer T nodes).new, v ∉ A.map (·.1)) →
    TblIn A T → (∀ T' ∈ outer, TblIn A T') → RS V s A → Fresh s →
    ∃ (s' : Store) (nts : List NodeT) (B : Assoc),
      deserNodes s (mapT A T) (outer.map (mapT A)) vi nps = .ok (s', mapT (A ++ B) (replNs V outer T nodes).tbl, nts) ∧
      B.map (·.1) = (replNs V outer T nodes).new ∧ TblIn (A ++ B) (replNs V outer T nodes).tbl ∧
      TreeRelNs V (A ++ B) nodes nts ∧
      RtPost V td s A B s' (emitSubNs V nodes) (allInitsNs nodes) (blankNs V nodes)

theorem rt_decl (V : Nat → ValueS) (td : TData) (vi : List (Name × Info)) (nodes : List NodeT) (gouts : List Nat)
    (nps : List NodeP) (s : Store) (A : Assoc) (T : Table)
    (hmk : nps.map NodeP.outputs = nodes.map (fun n => (liveOuts V n).map (nm V)))
    (okD : (replDecl V T (nodes.flatMap (liveOuts V))).ok)
    (hnd : (replDecl V T (nodes.flatMap (liveOuts V))).new.Nodup)
    (hnew : ∀ v ∈ (replDecl V T (nodes.flatMap (liveOuts V))).new, v ∉ A.map (·.1))
    (hT : TblIn A T) (hrs : RS V s A) (hfr : Fresh s)
    (hinfo : ∀ v ∈ (replDecl V T (nodes.flatMap (liveOuts V))).new, v ∉ gouts →
      declInfo vi (nm V v) = (V v).info.emit) :
    ∃ (s3 : Store) (B3 : Assoc),
      declareNodes s (mapT A T) vi nps = .ok (s3, mapT (A ++ B3) (replDecl V T (nodes.flatMap (liveOuts V))).tbl) ∧
      B3.map (·.1) = (replDecl V T (nodes.flatMap (liveOuts V))).new ∧
      TblIn (A ++ B3) (replDecl V T (nodes.flatMap (liveOuts V))).tbl ∧ (∀ e ∈ B3, s.nv ≤ e.2) ∧
      RtPost V td s A B3 s3
        ((replDecl V T (nodes.flatMap (liveOuts V))).new.filter (fun v => !gouts.contains v)) [] [] := by
  obtain ⟨B3, s3, e3, r3, k3, t3, l3, i3, g3⟩ := rt2_declNodes V vi nodes nps s A T hmk hrs hT okD hnd hnew
  refine ⟨s3, B3, e3, k3, t3, g3, ?_⟩
  exact
    { rs := r3, le := l3, fresh := declareNodes_fresh vi nps _ _ _ _ e3 hfr
      prim := declareNodes_prim s.nv vi nps s _ s3 _ (Nat.le_refl _) e3
      infoOK := fun v hv => by
        obtain ⟨hv, hg⟩ := List.mem_filter.mp hv
        have hk : v ∈ (A ++ B3).map (·.1) := by rw [List.map_append, k3]; exact List.mem_append_right _ hv
        exact ⟨hk, by rw [i3 v hv]; exact hinfo v hv (by simpa using hg)⟩
      constOK := by simp [ConstOK2], blankOK := by simp [BlankOK] }

theorem rt_body (V : Nat → ValueS) (td : TData) (vi : List (Name × Info)) (nodes : List NodeT)
    (hN : NodesRT V td nodes) (outer : List Table) (gouts : List Nat) (nps : List NodeP) (vis : List VInfoP)
    (ws : Writes) (s : Store) (A : Assoc) (T : Table)
    (hser : serNodes V td gouts nodes = .ok (nps, vis, ws))
    (okD : (replDecl V T (nodes.flatMap (liveOuts V))).ok)
    (okN : (replNs V outer (replDecl V T (nodes.flatMap (liveOuts V))).tbl nodes).ok)
    (hnd : ((replDecl V T (nodes.flatMap (liveOuts V))).new ++
      (replNs V outer (replDecl V T (nodes.flatMap (liveOuts V))).tbl nodes).new).Nodup)
    (hnew : ∀ v ∈ (replDecl V T (nodes.flatMap (liveOuts V))).new ++
      (replNs V outer (replDecl V T (nodes.flatMap (liveOuts V))).tbl nodes).new, v ∉ A.map (·.1))
    (hT : TblIn A T) (hO : ∀ T' ∈ outer, TblIn A T') (hrs : RS V s A) (hfr : Fresh s)
    (hinfo : ∀ v ∈ (replDecl V T (nodes.flatMap (liveOuts V))).new, v ∉ gouts →
      declInfo vi (nm V v) = (V v).info.emit) :
    ∃ (s3 s4 : Store) (nts : List NodeT) (B3 B4 : Assoc),
      declareNodes s (mapT A T) vi nps = .ok (s3, mapT (A ++ B3) (replDecl V T (nodes.flatMap (liveOuts V))).tbl) ∧
      deserNodes s3 (mapT (A ++ B3) (replDecl V T (nodes.flatMap (liveOuts V))).tbl) (outer.map (mapT A)) vi nps =
        .ok (s4, mapT (A ++ (B3 ++ B4))
          (replNs V outer (replDecl V T (nodes.flatMap (liveOuts V))).tbl nodes).tbl, nts) ∧
      B3.map (·.1) = (replDecl V T (nodes.flatMap (liveOuts V))).new ∧
      B4.map (·.1) = (replNs V outer (replDecl V T (nodes.flatMap (liveOuts V))).tbl nodes).new ∧
      TblIn (A ++ (B3 ++ B4)) (replNs V outer (replDecl V T (nodes.flatMap (liveOuts V))).tbl nodes).tbl ∧
      TreeRelNs V (A ++ (B3 ++ B4)) nodes nts ∧
      RtPost V td s A (B3 ++ B4) s4
        ((replDecl V T (nodes.flatMap (liveOuts V))).new.filter (fun v => !gouts.contains v) ++ emitSubNs V nodes)
        (allInitsNs nodes) (blankNs V nodes) := by
  obtain ⟨hndD, hndN, _⟩ := List.nodup_append.mp hnd
  obtain ⟨s3, B3, e3, k3, t3, _, post3⟩ := rt_decl V td vi nodes gouts nps s A T
    (serNodes_outputs V td gouts nodes nps vis ws hser) okD hndD (fun v hv => hnew v (List.mem_append_left _ hv))
    hT hrs hfr hinfo
  obtain ⟨s4, nts, B4, e4, k4, t4, tr4, post4⟩ := hN s3 (A ++ B3) _ outer gouts vi nps vis ws hser okN hndN
    (new_of_nodup_append k3 hnew hnd) t3 (fun T' hT' e he => mem_keys_append (hO T' hT' e he)) post3.rs post3.fresh
  rw [maps_extend B3 hO, List.append_assoc] at e4
  rw [List.append_assoc] at t4 tr4
  exact ⟨s3, s4, nts, B3, B4, e3, e4, k3, k4, t4, tr4, by simpa using post3.append post4⟩

theorem rt_ghead (V : Nat → ValueS) (td : TData) (vi : List (Name × Info)) (gouts ins : List Nat)
    (inits : List (Name × Nat)) (s : Store) (A : Assoc) (hrs : RS V s A) (hfr : Fresh s)
    (hins_n : ∀ v ∈ ins, (V v).name ≠ none) (hkn : (inits.map (·.1)).Nodup)
    (okI : (replInits V gouts (tblIns V ins) inits).ok)
    (hnd : (ins ++ (replInits V gouts (tblIns V ins) inits).new).Nodup)
    (hnew : ∀ v ∈ ins ++ (replInits V gouts (tblIns V ins) inits).new, v ∉ A.map (·.1))
    (hinfo : ∀ kv ∈ inits, kv.2 ∈ (replInits V gouts (tblIns V ins) inits).new → kv.2 ∉ gouts →
      initInfo vi kv.1 (mkT V td kv) = (V kv.2).info.emit) :
    ∃ (s1 s2 : Store) (B2 : Assoc),
      deserInputs s (ins.map (viOf V)) = (s1, List.range' s.nv ins.length) ∧
      inputTable (ins.map (viOf V)) (List.range' s.nv ins.length) =
        mapT (A ++ ins.zip (List.range' s.nv ins.length)) (tblIns V ins) ∧
      deserInits s1 (mapT (A ++ ins.zip (List.range' s.nv ins.length)) (tblIns V ins)) vi (inits.map (mkT V td)) =
        (s2, mapT (A ++ (ins.zip (List.range' s.nv ins.length) ++ B2)) (replInits V gouts (tblIns V ins) inits).tbl,
          inits.map fun kv => sig (A ++ (ins.zip (List.range' s.nv ins.length) ++ B2)) kv.2) ∧
      B2.map (·.1) = (replInits V gouts (tblIns V ins) inits).new ∧
      (∀ e ∈ ins.zip (List.range' s.nv ins.length) ++ B2, s.nv ≤ e.2) ∧
      TblIn (A ++ (ins.zip (List.range' s.nv ins.length) ++ B2)) (replInits V gouts (tblIns V ins) inits).tbl ∧
      (∀ kv ∈ inits, kv.2 ∈ (A ++ (ins.zip (List.range' s.nv ins.length) ++ B2)).map (·.1)) ∧
      ins.map (sig (A ++ (ins.zip (List.range' s.nv ins.length) ++ B2))) = List.range' s.nv ins.length ∧
      RtPost V td s A (ins.zip (List.range' s.nv ins.length) ++ B2) s2
        (ins ++ (replInits V gouts (tblIns V ins) inits).new.filter (fun v => !gouts.contains v)) inits [] := by
  obtain ⟨hndI, hndR, _⟩ := List.nodup_append.mp hnd
  have hnewI : ∀ v ∈ ins, v ∉ A.map (·.1) := fun v hv => hnew v (List.mem_append_left _ hv)
  have hbase := replInits_base V gouts inits _ okI
  have hvn : (inits.map (·.2)).Nodup := values_nodup_of_names (fun kv hkv => (hbase kv hkv).1) hkn
  obtain ⟨r1, hi1⟩ := rt_inputs V ins s A hrs hndI hnewI hins_n
  obtain ⟨q1, hnv1, hids⟩ := deserInputs_spec s (ins.map (viOf V))
  simp only [List.length_map] at hids hnv1
  have p1 := deserInputs_prim s.nv (ins.map (viOf V)) s (Nat.le_refl _)
  have htbl1 := rt2_inputTable V A ins (List.range' s.nv ins.length) (by simp) hndI hnewI
  have ok1 := inputTable_ok s (ins.map (viOf V))
  rw [hids, htbl1] at ok1
  have hk1 : (ins.zip (List.range' s.nv ins.length)).map (·.1) = ins := keys_zip _ _ (by simp)
  have hsig1 := sig_zip A ins (List.range' s.nv ins.length) (by simp) hndI hnewI
  have hzge : ∀ e ∈ ins.zip (List.range' s.nv ins.length), s.nv ≤ e.2 := fun e he =>
    (List.mem_range'_1.mp (List.of_mem_zip he).2).1
  generalize hB1 : ins.zip (List.range' s.nv ins.length) = B1 at *
  generalize hs1 : (deserInputs s (ins.map (viOf V))).1 = s1 at *
  have hinsA1 : ∀ v ∈ ins, v ∈ (A ++ B1).map (·.1) := fun v hv => by
    rw [List.map_append, hk1]; exact List.mem_append_right _ hv
  have hmk : ∀ kv ∈ inits, (mkT V td kv).name = kv.1 := by
    intro kv hkv
    have := nm_of_name (hbase kv hkv).1
    unfold mkT
    split <;> simp [this]
  obtain ⟨B2, e2t, r2, e2v, k2, t2, m2, l2, c1, c2, c4, _⟩ :=
    rt2_inits V vi gouts (mkT V td) inits s1 (A ++ B1) (tblIns V ins) hmk r1 (tblIn_tblIns V _ ins hinsA1) okI hvn
      (new_of_nodup_append hk1 hnew hnd)
  obtain ⟨q2, _, _, _⟩ := deserInits_spec vi (inits.map (mkT V td)) s1 (mapT (A ++ B1) (tblIns V ins)) s.nv ok1 q1.nv_le
  have p2 := deserInits_prim s.nv vi (inits.map (mkT V td)) s1 (mapT (A ++ B1) (tblIns V ins)) ok1.ge q1.nv_le
  have c3 := (deserInits_steps (B := False) vi (inits.map (mkT V td)) s1 (mapT (A ++ B1) (tblIns V ins)) (Nat.le_refl _)
    False.elim).info_keep
  generalize hs2 : (deserInits s1 (mapT (A ++ B1) (tblIns V ins)) vi (inits.map (mkT V td))).1 = s2 at *
  rw [List.append_assoc] at e2t r2 e2v t2 m2 c1 c2
  refine ⟨s1, s2, B2, Prod.ext hs1 hids, htbl1, Prod.ext hs2 (Prod.ext e2t e2v), k2,
    fun e he => (List.mem_append.mp he).elim (hzge e) fun h => Nat.le_trans q1.nv_le (c4 e h), t2, m2, ?_, ?_⟩
  · refine (List.map_congr_left fun v hv => ?_).trans hsig1
    rw [← List.append_assoc]; exact sig_append_of_mem (hinsA1 v hv)
  · exact
    { rs := r2, le := Nat.le_trans q1.nv_le q2.nv_le, fresh := q2.fresh (q1.fresh hfr), prim := p1.trans p2
      infoOK := fun v hv => by
        rcases List.mem_append.mp hv with hv | hv
        · have hm := hinsA1 v hv
          refine ⟨by rw [← List.append_assoc]; exact mem_keys_append hm, ?_⟩
          rw [← List.append_assoc, sig_append_of_mem hm, c3 _ (r1.sig_lt hm) (Nat.not_le_of_lt (r1.sig_lt hm))]
          exact hi1 v hv
        · obtain ⟨hv, hg⟩ := List.mem_filter.mp hv
          obtain ⟨kv, hkv, rfl⟩ := List.mem_map.mp (replInits_new_sub V gouts inits (tblIns V ins) v hv)
          exact ⟨m2 kv hkv, by rw [c1 kv hkv hv]; exact hinfo kv hkv hv (by simpa using hg)⟩
      constOK := fun kv hkv => by
        refine ⟨m2 kv hkv, (hbase kv hkv).2.2, fun t ht => ?_⟩
        obtain ⟨t', h1, h2, h3⟩ := c2 kv hkv
        exact ⟨t', h1, h2, by rw [h3], by simp [Store.tdata, h3, mkT, ht]⟩
      blankOK := by simp [BlankOK] }

theorem rt_gtail (V : Nat → ValueS) (td : TData) (outs : List Nat) (s s4 : Store) (A B : Assoc) (T : Table)
    (E : List Nat) (AI : List (Name × Nat)) (BL : List Nat) (post : RtPost V td s A B s4 E AI BL)
    (hT : TblIn (A ++ B) T) (okO : (replOuts V T outs).ok) (hndO : (replOuts V T outs).new.Nodup)
    (hnewO : ∀ v ∈ (replOuts V T outs).new, v ∉ (A ++ B).map (·.1)) :
    ∃ (s5 : Store) (B5 : Assoc),
      deserOutputs s4 (mapT (A ++ B) T) (outs.map (viOf V)) = (s5, outs.map (sig (A ++ (B ++ B5)))) ∧
      B5.map (·.1) = (replOuts V T outs).new ∧ (∀ e ∈ B5, s4.nv ≤ e.2) ∧
      (∀ v ∈ outs, v ∈ (A ++ (B ++ B5)).map (·.1)) ∧ RS V s5 (A ++ (B ++ B5)) ∧ s4.nv ≤ s5.nv ∧ s5.nt = s4.nt ∧ s5.tens = s4.tens ∧
      InfoOK2 V s5 (A ++ (B ++ B5)) (E.filter (fun v => !outs.contains v) ++ outs) ∧
      ConstOK2 V td s5 (A ++ (B ++ B5)) AI ∧ BlankOK s5 (A ++ (B ++ B5)) (BL.filter fun v => !outs.contains v) := by
  obtain ⟨B5, e5, r5, k5, m5, l5, g5, o4, o5, o6, o7, o8⟩ := rt2_outputs V outs s4 (A ++ B) T post.rs hT okO hndO hnewO
  generalize hs5 : (deserOutputs s4 (mapT (A ++ B) T) (outs.map (viOf V))).1 = s5 at *
  rw [List.append_assoc] at e5 r5 m5 o4 o8
  have hold : ∀ v, v ∈ (A ++ B).map (·.1) → v ∈ (A ++ (B ++ B5)).map (·.1) ∧
      sig (A ++ (B ++ B5)) v = sig (A ++ B) v := fun v hv => by
    rw [← List.append_assoc]; exact ⟨mem_keys_append hv, sig_append_of_mem hv⟩
  have hkeep : ∀ v, v ∈ (A ++ B).map (·.1) → v ∉ outs →
      s5.vals (sig (A ++ (B ++ B5)) v) = s4.vals (sig (A ++ B) v) := by
    intro v hm hvo
    rw [(hold v hm).2]
    refine o4 _ (post.rs.sig_lt hm) fun o ho heq => hvo ?_
    rw [← (hold v hm).2] at heq
    exact r5.sig_inj (m5 o ho) (hold v hm).1 heq ▸ ho
  refine ⟨s5, B5, Prod.ext hs5 e5, k5, g5, m5, r5, l5, o7, o6, ?_, ?_, ?_⟩
  · intro v hv
    rcases List.mem_append.mp hv with hv | hv
    · obtain ⟨hv, hg⟩ := List.mem_filter.mp hv
      obtain ⟨hm, hi⟩ := post.infoOK v hv
      exact ⟨(hold v hm).1, by rw [hkeep v hm (by simpa using hg)]; exact hi⟩
    · exact ⟨m5 v hv, o8 v hv⟩
  · intro kv hkv
    obtain ⟨hm, hne, hc⟩ := post.constOK kv hkv
    refine ⟨(hold _ hm).1, hne, fun t ht => ?_⟩
    obtain ⟨t', h1, h2, h3, h4⟩ := hc t ht
    exact ⟨t', by rw [(hold _ hm).2, o5 _ (post.rs.sig_lt hm)]; exact h1, by rw [o7]; exact h2, by rw [o6]; exact h3,
      by simp only [Store.tdata] at h4 ⊢; rw [o6]; exact h4⟩
  · intro v hv
    obtain ⟨hv, hg⟩ := List.mem_filter.mp hv
    obtain ⟨hm, hi⟩ := post.blankOK v hv
    exact ⟨(hold v hm).1, by rw [hkeep v hm (by simpa using hg)]; exact hi⟩

def NodeRT (V : Nat → ValueS) (td : TData) (n : NodeT) : Prop :=
  ∀ (s : Store) (A : Assoc) (T : Table) (outer : List Table) (gouts : List Nat)
    (vi : List (Name × Info)) (np : NodeP) (vis : List VInfoP) (ws : Writes),
    serNode V td gouts n = .ok (np, vis, ws) → (replN V outer T n).ok →
    (replN V outer T n).new.Nodup → (∀ v ∈ (replN V outer T n).new, v ∉ A.map (·.1)) →
    TblIn A T → (∀ T' ∈ outer, TblIn A T') → RS V s A → Fresh s →
    ∃ (s' : Store) (n' : NodeT) (B : Assoc),
      deserNode s (mapT A T) (outer.map (mapT A)) vi np = .ok (s', mapT (A ++ B) (replN V outer T n).tbl, n') ∧
      B.map (·.1) = (replN V outer T n).new ∧ TblIn (A ++ B) (replN V outer T n).tbl ∧ TreeRelN V (A ++ B) n n' ∧
      RtPost V td s A B s' (emitSubN V n) (allInitsN n) (blankN V n)

theorem nodesRT_cons {V : Nat → ValueS} {td : TData} {n : NodeT} {rest : List NodeT} (ihn : NodeRT V td n)
    (ihr : NodesRT V td rest) : NodesRT V td (n :: rest) := by
  intro s A T outer gouts vi nps vis ws hser hok hnd hnew hT hO hrs hfr
  obtain ⟨np, vi1, ws1, nps', vis', ws2, h1, h2, rfl, _⟩ := serNodes_inv hser
  simp only [replNs] at hok hnd hnew ⊢
  obtain ⟨hnd1, hnd2, _⟩ := List.nodup_append.mp hnd
  obtain ⟨s1, n', B1, e1, k1, t1, tr1, post1⟩ := ihn s A T outer gouts vi np vi1 ws1 h1
    hok.1 hnd1 (fun v hv => hnew v (List.mem_append_left _ hv)) hT hO hrs hfr
  obtain ⟨s2, nts, B2, e2, k2, t2, tr2, post2⟩ := ihr s1 (A ++ B1)
    (replN V outer T n).tbl outer gouts vi nps' vis' ws2 h2 hok.2 hnd2 (new_of_nodup_append k1 hnew hnd)
    t1 (fun T' hT' => (hO T' hT').append _) post1.rs post1.fresh
  rw [maps_extend B1 hO] at e2
  rw [List.append_assoc] at e2 t2 tr2
  refine ⟨s2, n' :: nts, B1 ++ B2, by simp only [deserNodes, e1, e2], by simp [k1, k2], t2, ?_, post1.append post2⟩
  simp only [TreeRelNs]
  exact ⟨by rw [← List.append_assoc]; exact TreeRelN.mono V (A ++ B1) B2 n n' tr1, tr2⟩


def GraphRT (V : Nat → ValueS) (td : TData) (g : GraphT) : Prop :=
  ∀ (s : Store) (A : Assoc) (outer : List Table) (p : GraphP) (ws : Writes),
    serGraph V td g = .ok (p, ws) → (replG V outer g).ok → (replG V outer g).new.Nodup →
    (∀ v ∈ (replG V outer g).new, v ∉ A.map (·.1)) → (∀ T ∈ outer, TblIn A T) → RS V s A → Fresh s →
    ∃ (s' : Store) (g' : GraphT) (B : Assoc),
      deserGraph s (outer.map (mapT A)) p = .ok (s', g') ∧ B.map (·.1) = (replG V outer g).new ∧
      TreeRelG V (A ++ B) g g' ∧ RtPost V td s A B s' (emitG V g) (allInitsG g) (blankG V g)

def SubsRT (V : Nat → ValueS) (td : TData) (subs : List GraphT) : Prop :=
  ∀ (s : Store) (A : Assoc) (scopes : List Table) (gps : List GraphP) (ws : Writes),
    serSubs V td subs = .ok (gps, ws) → (replGs V scopes subs).ok → (replGs V scopes subs).new.Nodup →
    (∀ v ∈ (replGs V scopes subs).new, v ∉ A.map (·.1)) → (∀ T ∈ scopes, TblIn A T) → RS V s A → Fresh s →
    ∃ (s' : Store) (gts : List GraphT) (B : Assoc),
      deserSubs s (scopes.map (mapT A)) gps = .ok (s', gts) ∧ B.map (·.1) = (replGs V scopes subs).new ∧
      TreeRelGs V (A ++ B) subs gts ∧ RtPost V td s A B s' (emitGs V subs) (allInitsGs subs) (blankGs V subs)

theorem subsRT_cons {V : Nat → ValueS} {td : TData} {g : GraphT} {rest : List GraphT} (ihg : GraphRT V td g)
    (ihr : SubsRT V td rest) : SubsRT V td (g :: rest) := by
  intro s A scopes gps ws hser hok hnd hnew hO hrs hfr
  obtain ⟨gp, ws1, gps', ws2, h1, h2, rfl, _⟩ := serSubs_inv hser
  simp only [replGs] at hok hnd hnew ⊢
  obtain ⟨hnd1, hnd2, _⟩ := List.nodup_append.mp hnd
  obtain ⟨s1, g', B1, e1, k1, tr1, post1⟩ := ihg s A scopes gp ws1 h1 hok.1 hnd1
    (fun v hv => hnew v (List.mem_append_left _ hv)) hO hrs hfr
  obtain ⟨s2, gts, B2, e2, k2, tr2, post2⟩ := ihr s1 (A ++ B1) scopes gps' ws2 h2 hok.2 hnd2
    (new_of_nodup_append k1 hnew hnd) (fun T hT => (hO T hT).append _) post1.rs post1.fresh
  rw [maps_extend B1 hO] at e2
  rw [List.append_assoc] at tr2
  refine ⟨s2, g' :: gts, B1 ++ B2, by simp only [deserSubs, e1, e2], by simp [k1, k2], ?_, post1.append post2⟩
  simp only [TreeRelGs]
  exact ⟨by rw [← List.append_assoc]; exact TreeRelG.mono V (A ++ B1) B2 g g' tr1, tr2⟩

theorem nodeRT_of_subs {V : Nat → ValueS} {td : TData} (i : Nat) (g : Option Nat) (ins : List (Option Nat))
    (outs : List Nat) {subs : List GraphT} (hS : SubsRT V td subs) : NodeRT V td (.mk i g ins outs subs) := by
  intro s A T outer gouts vi np vis ws hser hok hnd hnew hT hO hrs hfr
  obtain ⟨gps, ws', hs, rfl, _⟩ := serNode_inv hser
  simp only [replN] at hok hnd hnew ⊢
  obtain ⟨okR, houtn, hlook, okG⟩ := hok
  have hndAll := hnd
  obtain ⟨hnd12, hndG, _⟩ := List.nodup_append.mp hnd
  obtain ⟨B1, s1, B2, s2, e1, e2, k1, k2, ⟨r1, l1, f1, p1, g1⟩, ⟨r2, l2, f2, p2, g2⟩, _, t1, hO12, m1, _, hLkeys, io2,
    hscopes⟩ := rt_nhead V vi outer ins outs s A T hrs hfr hT hO okR houtn hlook hnd12
      (fun v hv => hnew v (List.mem_append_left _ hv))
  generalize hT1 : (replRes V outer T ins).tbl = T1 at *
  have hT12 : TblIn (A ++ B1 ++ B2) T1 := hO12 T1 List.mem_cons_self
  have post1 : RtPost V td s A B1 s1 [] [] [] :=
    { rs := r1, le := l1, fresh := f1, prim := p1, infoOK := by simp [InfoOK2], constOK := by simp [ConstOK2]
      blankOK := by simp [BlankOK] }
  have post2 : RtPost V td s1 (A ++ B1) B2 s2 [] []
      ((stripTrailing V outs).filter (fun v => !nameTruthy (V v).name)) :=
    { rs := r2, le := l2, fresh := f2, prim := p2, infoOK := by simp [InfoOK2], constOK := by simp [ConstOK2]
      blankOK := fun v hv => ⟨hLkeys v (List.mem_filter.mp hv).1,
        io2 v (List.mem_filter.mp hv).1 (by simpa using (List.mem_filter.mp hv).2)⟩ }
  obtain ⟨s3, gts, B3, e3, k3, tr3, post3⟩ := hS s2 (A ++ B1 ++ B2) (T1 :: outer) gps ws' hs okG hndG
    (by rw [List.append_assoc]; exact new_of_nodup_append (B := B1 ++ B2) (by rw [List.map_append, k1, k2]) hnew hndAll)
    hO12 r2 f2
  rw [hscopes] at e3
  have pm := mkNode_prim s3.nv s3 (ins.map (Option.map (sig (A ++ B1)))) ((stripTrailing V outs).map (sig (A ++ B1 ++ B2))) gts
  obtain ⟨f4, trN⟩ := rt_nobj V i g ins outs subs gts s1 s2 s3 A B1 B2 B3 r1 r2 l2 post3.le post3.fresh m1 hLkeys tr3
  have hB : A ++ (B1 ++ B2 ++ B3) = A ++ B1 ++ B2 ++ B3 := by simp [List.append_assoc]
  have post4 := ((post1.append post2).append (List.append_assoc A B1 B2 ▸ post3)).same (mkNode_fst_nv _ _ _ _)
    (fun w => (mkNode_keeps _ _ _ _ w).1) pm f4
  refine ⟨(mkNode s3 (ins.map (Option.map (sig (A ++ B1)))) ((stripTrailing V outs).map (sig (A ++ B1 ++ B2))) gts).1,
    (mkNode s3 (ins.map (Option.map (sig (A ++ B1)))) ((stripTrailing V outs).map (sig (A ++ B1 ++ B2))) gts).2,
    B1 ++ B2 ++ B3, ?_, ?_, ?_, ?_, post4⟩
  · simp only [deserNode, e1, e2, e3, hB]
    rw [mapT_extend B3 hT12, mapT_extend B2 t1]
  · simp [k1, k2, k3]
  · rw [hB]; exact hT12.append _
  · rw [hB]; exact trN

theorem graphRT_of_nodes {V : Nat → ValueS} {td : TData} (gid : Nat) (ins : List Nat) (inits : List (Name × Nat))
    {nodes : List NodeT} (outs : List Nat) (hN : NodesRT V td nodes) : GraphRT V td (.mk gid ins inits nodes outs) := by
  intro s A outer p ws hser hok hnd hnew hO hrs hfr
  obtain ⟨nps, vis2, ws2, hn, rfl, _⟩ := serGraph_inv hser
  simp only [replG] at hok hnd hnew ⊢
  obtain ⟨hins_n, hkn, okI', okD', okN', okO'⟩ := hok
  generalize hri : replInits V outs (tblIns V ins) inits = ri at okI' okD' okN' okO' hnd hnew ⊢
  generalize hrd : replDecl V ri.tbl (nodes.flatMap (liveOuts V)) = rd at okD' okN' okO' hnd hnew ⊢
  generalize hrn : replNs V outer rd.tbl nodes = rn at okN' okO' hnd hnew ⊢
  generalize hro : replOuts V rn.tbl outs = ro at okO' hnd hnew ⊢
  have hnd4 := (List.nodup_append.mp hnd).1
  have hnew4 : ∀ v ∈ ins ++ ri.new ++ rd.new ++ rn.new, v ∉ A.map (·.1) := fun v hv => hnew v (List.mem_append_left _ hv)
  rw [List.append_assoc (ins ++ ri.new)] at hnd4 hnew4
  have hnd2 := (List.nodup_append.mp hnd4).1
  have hnew2 : ∀ v ∈ ins ++ ri.new, v ∉ A.map (·.1) := fun v hv => hnew4 v (List.mem_append_left _ hv)
  obtain ⟨hndI, _, hdisjI⟩ := List.nodup_append.mp hnd2
  have okI : (replInits V outs (tblIns V ins) inits).ok := by rw [hri]; exact okI'
  have okD : (replDecl V ri.tbl (nodes.flatMap (liveOuts V))).ok := by rw [hrd]; exact okD'
  have hbase := replInits_base V outs inits _ okI
  have hcases := replInits_cases V outs inits _ okI hkn
  rw [hri] at hcases
  obtain ⟨hdnew, hLn, hdlook⟩ := replDecl_new V _ _ okD
  rw [hrd] at hdnew hdlook
  have hvis1 := mem_serInits_vi V td (ins.map fun v => (V v).name)
  have hvis2 := fun e => mem_serNodes_vi V td outs e nodes nps vis2 ws2 hn
  have htens := serInits_tensors V td (ins.map fun v => (V v).name) inits (fun kv hkv => (hbase kv hkv).2.2)
  generalize hLdef : (serInits V td (ins.map fun v => (V v).name) inits).1 ++ vis2 = L at *
  generalize hvi : vinfoTable L = vi
  have hT3 : ∀ v, v ∈ ri.new ∨ v ∈ rd.new → rd.tbl.lookup (nm V v) = some v := by
    intro v hv
    rcases hv with hv | hv
    · have hm := replInits_new_sub V outs inits (tblIns V ins) v (by rw [hri]; exact hv)
      simp only [List.mem_map] at hm
      obtain ⟨kv, hkv, rfl⟩ := hm
      rcases hcases kv hkv with ⟨_, _, h3, _⟩ | h
      · rw [nm_of_name (hbase kv hkv).1, ← hrd]
        exact replDecl_mono V _ _ okD _ _ h3
      · exact absurd rfl (hdisjI kv.2 (tblIns_lookup_some V ins _ _ h).1 kv.2 hv)
    · exact hdlook v hv
  -- every value_info entry carrying the name of a new definition was written for that definition
  have hsrc : ∀ v, v ∈ ri.new ∨ v ∈ rd.new → ∀ e ∈ L, e.name = nm V v →
      shouldCreate (V v) = true ∧ e.info = (V v).info.emit := by
    intro v hv e he hname
    have hlv := hT3 v hv
    rw [← hLdef, List.mem_append] at he
    rcases he with he | he
    · rw [hvis1] at he
      obtain ⟨kv', hkv', hsc, hnin, rfl⟩ := he
      simp only at hname
      have hnew' : kv'.2 ∈ ri.new := by
        rcases hcases kv' hkv' with ⟨h1, _⟩ | h
        · exact h1
        · exfalso
          apply hnin
          obtain ⟨hm, hnm⟩ := tblIns_lookup_some V ins _ _ h
          exact List.mem_map.mpr ⟨kv'.2, hm, rfl⟩
      have := hT3 kv'.2 (.inl hnew')
      rw [hname, hlv] at this
      have hEq : v = kv'.2 := Option.some.inj this
      rw [hEq]; exact ⟨hsc, rfl⟩
    · obtain ⟨u, hmem, hsc, rfl⟩ := vis_src V td _ nodes nps vis2 _ hn e he
      rw [← hdnew] at hmem
      simp only at hname ⊢
      have := hT3 u (.inr hmem)
      rw [hname, hlv] at this
      have hEq : v = u := Option.some.inj this
      rw [hEq]; exact ⟨hsc, rfl⟩
  have hinfoI : ∀ kv ∈ inits, kv.2 ∈ ri.new → kv.2 ∉ outs → initInfo vi kv.1 (mkT V td kv) = (V kv.2).info.emit := by
    intro kv hkv hvni hvo
    have hknm : nm V kv.2 = kv.1 := nm_of_name (hbase kv hkv).1
    have hkt : nameTruthy (V kv.2).name = true := by simp [nameTruthy, (hbase kv hkv).1, (hbase kv hkv).2.1]
    rcases hcases kv hkv with ⟨_, hln, _, hinfo⟩ | h
    · obtain ⟨hty, hsh⟩ := hinfo hvo
      have hent : (⟨kv.1, (V kv.2).info.emit⟩ : VInfoP) ∈ L := by
        rw [← hLdef, List.mem_append]
        left
        rw [hvis1]
        refine ⟨kv, hkv, ?_, ?_, by rw [hknm]⟩
        · simp only [shouldCreate, Info.present, Bool.and_eq_true, Bool.or_eq_true]
          exact ⟨.inl (by simpa [Option.isSome_iff_ne_none] using hty), hkt⟩
        · intro hm
          simp only [List.mem_map] at hm
          obtain ⟨u, hu0, hname⟩ := hm
          have : nm V u = kv.1 := by simp [nm, hname, (hbase kv hkv).1]
          exact tblIns_lookup_none V ins _ hln u hu0 this
      have hlook : vi.lookup kv.1 = some (V kv.2).info.emit := by
        rw [← hvi]
        exact vinfoTable_lookup_some L kv.1 _
          (fun e he hname => (hsrc kv.2 (.inl hvni) e he (by rw [hknm]; exact hname)).2) ⟨_, hent, rfl⟩
      simp only [initInfo, hlook]
      exact emit_orTensor hty hsh
    · exact absurd rfl (hdisjI kv.2 (tblIns_lookup_some V ins _ _ h).1 kv.2 hvni)
  have hinfoD : ∀ v ∈ rd.new, v ∉ outs → declInfo vi (nm V v) = (V v).info.emit := by
    intro v hvl hvo
    obtain ⟨hvf, ht⟩ := List.mem_filter.mp (hdnew ▸ hvl)
    rw [← hvi]
    refine declInfo_of_src ht (hsrc v (.inr hvl)) fun hsc => ⟨⟨nm V v, (V v).info.emit⟩, ?_, rfl⟩
    rw [← hLdef, List.mem_append]
    right
    rw [hvis2]
    obtain ⟨n, hn', hvn'⟩ := List.mem_flatMap.mp hvf
    refine ⟨n, hn', ?_⟩
    rw [mem_outVInfo]
    obtain ⟨i, g, a, b, c⟩ := n
    exact ⟨v, stripTrailing_sub V b v hvn', hvo, hsc, rfl⟩
  obtain ⟨s1, s2, B2, e1, htbl1, e2, k2, _, t2, m2, hsigI, post2⟩ := rt_ghead V td vi outs ins inits s A hrs hfr hins_n hkn okI
    (by rw [hri]; exact hnd2) (by rw [hri]; exact hnew2) (by rw [hri]; exact hinfoI)
  rw [hri] at e2 k2 t2 post2
  have hk1 : (ins.zip (List.range' s.nv ins.length)).map (·.1) = ins := keys_zip _ _ (by simp)
  generalize hB12 : ins.zip (List.range' s.nv ins.length) ++ B2 = B12 at *
  have k12 : B12.map (·.1) = ins ++ ri.new := by rw [← hB12, List.map_append, hk1, k2]
  obtain ⟨s3, s4, nts, B3, B4, e3, e4, k3, k4, t4, tr4, post34⟩ :=
    rt_body V td vi nodes hN outer outs nps vis2 ws2 s2 (A ++ B12) ri.tbl hn okD (by rw [hrd, hrn]; exact okN')
      (by rw [hrd, hrn]; exact (List.nodup_append.mp hnd4).2.1)
      (by rw [hrd, hrn]; exact new_of_nodup_append k12 hnew4 hnd4) t2
      (fun T' hT' e he => mem_keys_append (hO T' hT' e he)) post2.rs post2.fresh (by rw [hrd]; exact hinfoD)
  rw [hrd] at e3 e4 k3 k4 t4 post34
  rw [hrn] at e4 k4 t4
  rw [maps_extend B12 hO] at e4
  have post4 := post2.append post34
  generalize hB14 : B12 ++ (B3 ++ B4) = B14 at *
  rw [List.append_assoc A B12 (B3 ++ B4), hB14] at e4 t4 tr4
  have k14 : B14.map (·.1) = ins ++ ri.new ++ rd.new ++ rn.new := by
    rw [← hB14, List.map_append, List.map_append, k12, k3, k4]; simp [List.append_assoc]
  obtain ⟨s5, B5, e5, k5, _, m5, r5, l5, nt5, tens5, io5, co5, bo5⟩ := rt_gtail V td outs s s4 A B14 rn.tbl _ _ _ post4 t4
    (by rw [hro]; exact okO') (by rw [hro]; exact (List.nodup_append.mp hnd).2.1)
    (by rw [hro]; exact new_of_nodup_append k14 hnew hnd)
  rw [hro] at k5
  have hrun : deserGraph s (outer.map (mapT A))
      (GraphP.mk (ins.map (viOf V)) (serInits V td (ins.map fun v => (V v).name) inits).2.1 L nps
        (outs.map (viOf V))) =
      .ok (mkGraph s5 (List.range' s.nv ins.length) (outs.map (sig (A ++ (B14 ++ B5)))) nts
        (inits.map fun kv => sig (A ++ B12) kv.2)) := by
    simp only [deserGraph, hvi, htens, e1, htbl1, e2, e3, e4, e5]
  generalize hA5 : A ++ (B14 ++ B5) = A5 at *
  have hold : ∀ v, v ∈ (A ++ B12).map (·.1) → v ∈ A5.map (·.1) ∧ sig A5 v = sig (A ++ B12) v := fun v hv => by
    have e : A5 = A ++ B12 ++ (B3 ++ B4 ++ B5) := by rw [← hA5, ← hB14]; simp [List.append_assoc]
    rw [e]; exact ⟨mem_keys_append hv, sig_append_of_mem hv⟩
  obtain ⟨c1', _, _⟩ := mkGraph_fst_counters s5 (List.range' s.nv ins.length) (outs.map (sig A5)) nts
    (inits.map fun kv => sig (A ++ B12) kv.2)
  have hnames6 : ∀ w, ((mkGraph s5 (List.range' s.nv ins.length) (outs.map (sig A5)) nts
      (inits.map fun kv => sig (A ++ B12) kv.2)).1.vals w).name = (s5.vals w).name := by
    intro w; rw [mkGraph_cell]
  have hsnd6 := mkGraph_snd s5 (List.range' s.nv ins.length) (outs.map (sig A5)) nts
    (inits.map fun kv => sig (A ++ B12) kv.2)
  have p6 := mkGraph_prim s5.nv s5 (List.range' s.nv ins.length) (outs.map (sig A5)) nts
    (inits.map fun kv => sig (A ++ B12) kv.2)
  generalize hmg : mkGraph s5 (List.range' s.nv ins.length) (outs.map (sig A5)) nts
    (inits.map fun kv => sig (A ++ B12) kv.2) = mg at hrun c1' hnames6 hsnd6 p6
  obtain ⟨s6, g6⟩ := mg
  simp only at c1' hnames6 hsnd6 p6
  have hTL := tablesLt_of_RS2 hrs outer hO
  obtain ⟨f6, _⟩ := deserGraph_struct _ s _ s6 g6 hfr hTL hrun
  have pfull := deserGraph_prim _ s _ s6 g6 hfr hTL hrun
  have hinsK : ∀ v ∈ ins, v ∈ (A ++ B12).map (·.1) := fun v hv => by
    rw [List.map_append, k12]; exact List.mem_append_right _ (List.mem_append_left _ hv)
  refine ⟨s6, g6, B14 ++ B5, hrun, ?_, ?_,
    { rs := by rw [hA5]; exact r5.same_nv c1' hnames6, le := ?_, fresh := f6, prim := pfull,
      infoOK := ?_, constOK := ?_, blankOK := ?_ }⟩
  · rw [List.map_append, k14, k5]
  · rw [hA5, hsnd6]
    simp only [TreeRelG]
    refine ⟨?_, fun v hv => (hold v (hinsK v hv)).1, ?_, fun kv hkv => (hold _ (m2 kv hkv)).1, ?_, trivial, m5⟩
    · exact ((List.map_congr_left fun v hv => (hold v (hinsK v hv)).2).trans hsigI).symm
    · have hnm : ∀ kv ∈ inits, ((s5.vals (sig (A ++ B12) kv.2)).name).getD "" = kv.1 := by
        intro kv hkv
        have := r5.sig_name (hold _ (m2 kv hkv)).1
        rw [(hold _ (m2 kv hkv)).2] at this
        rw [this, (hbase kv hkv).1]
        rfl
      rw [mkGraphInits_of_keys s5 _ _ inits _ hnm hkn]
      exact List.map_congr_left (fun kv hkv => by rw [(hold _ (m2 kv hkv)).2])
    · have := TreeRelNs.mono V (A ++ B14) B5 nodes nts tr4
      rw [List.append_assoc, hA5] at this
      exact TreeRelNs_setGraph V _ _ nodes nts this
  · rw [c1']; exact Nat.le_trans post4.le l5
  · rw [hA5]
    refine fun v hv => (io5.prim r5 p6) v ?_
    by_cases hvo : v ∈ outs
    · exact List.mem_append_right _ hvo
    · refine List.mem_append_left _ (List.mem_filter.mpr ⟨?_, by simpa using hvo⟩)
      have hf : ∀ {l : List Nat}, v ∈ l → v ∈ l.filter (fun v => !outs.contains v) := fun h =>
        List.mem_filter.mpr ⟨h, by simpa using hvo⟩
      simp only [emitG, List.mem_append] at hv
      simp only [List.mem_append]
      rcases hv with (((hv | hv) | hv) | hv) | hv
      · exact .inl (.inl hv)
      · obtain ⟨kv, hkv, rfl⟩ := List.mem_map.mp hv
        rcases hcases kv hkv with ⟨h1, _⟩ | h
        · exact .inl (.inr (hf h1))
        · exact .inl (.inl (tblIns_lookup_some V ins _ _ h).1)
      · exact .inr (.inl (hf (by rw [hdnew]; exact hv)))
      · exact absurd hv hvo
      · exact .inr (.inr hv)
  · rw [hA5]
    exact fun kv hkv => (co5.prim r5 p6) kv (by simpa [allInitsG] using hkv)
  · rw [hA5]
    intro v hv
    have := bo5.step (B := []) r5 p6
    simp only [List.append_nil] at this
    exact this v (by simpa [blankG] using hv)

mutual
theorem graphRT (V : Nat → ValueS) (td : TData) : ∀ g : GraphT, GraphRT V td g
  | .mk gid ins inits nodes outs => graphRT_of_nodes gid ins inits outs (nodesRT V td nodes)
theorem nodesRT (V : Nat → ValueS) (td : TData) : ∀ nodes : List NodeT, NodesRT V td nodes
  | [] => by
    intro s A T outer gouts vi nps vis ws hser _ _ _ hT _ hrs hfr
    simp only [serNodes, Except.ok.injEq, Prod.mk.injEq] at hser
    obtain ⟨rfl, _, _⟩ := hser
    exact ⟨s, [], [], by simp [deserNodes, replNs], by simp [replNs], by simpa [replNs] using hT, by simp [TreeRelNs],
      .nil hrs hfr⟩
  | n :: rest => nodesRT_cons (nodeRT V td n) (nodesRT V td rest)
theorem nodeRT (V : Nat → ValueS) (td : TData) : ∀ n : NodeT, NodeRT V td n
  | .mk i g ins outs subs => nodeRT_of_subs i g ins outs (subsRT V td subs)
theorem subsRT (V : Nat → ValueS) (td : TData) : ∀ subs : List GraphT, SubsRT V td subs
  | [] => by
    intro s A scopes gps ws hser _ _ _ _ hrs hfr
    simp only [serSubs, Except.ok.injEq, Prod.mk.injEq] at hser
    obtain ⟨rfl, _⟩ := hser
    exact ⟨s, [], [], by simp [deserSubs], by simp [replGs], by simp [TreeRelGs], .nil hrs hfr⟩
  | g :: rest => subsRT_cons (graphRT V td g) (subsRT V td rest)
end

theorem rt2_graph (V : Nat → ValueS) (td : TData) :
    ∀ (g : GraphT) (s : Store) (A : Assoc) (outer : List Table) (p : GraphP) (ws : Writes),
      serGraph V td g = .ok (p, ws) → (replG V outer g).ok → (replG V outer g).new.Nodup →
      (∀ v ∈ (replG V outer g).new, v ∉ A.map (·.1)) → (∀ T ∈ outer, TblIn A T) → RS V s A → Fresh s →
      ∃ (s' : Store) (g' : GraphT) (B : Assoc),
        deserGraph s (outer.map (mapT A)) p = .ok (s', g') ∧ RS V s' (A ++ B) ∧ s.nv ≤ s'.nv ∧
        B.map (·.1) = (replG V outer g).new ∧ TreeRelG V (A ++ B) g g' ∧
        Fresh s' ∧ Prim s.nv s s' ∧ InfoOK2 V s' (A ++ B) (emitG V g) ∧
        ConstOK2 V td s' (A ++ B) (allInitsG g) := by
  intro g s A outer p ws h1 h2 h3 h4 h5 h6 h7
  obtain ⟨s', g', B, e, k, tr, h⟩ := graphRT V td g s A outer p ws h1 h2 h3 h4 h5 h6 h7
  exact ⟨s', g', B, e, h.rs, h.le, k, tr, h.fresh, h.prim, h.infoOK, h.constOK⟩

theorem rt2_node (V : Nat → ValueS) (td : TData) :
    ∀ (n : NodeT) (s : Store) (A : Assoc) (T : Table) (outer : List Table) (gouts : List Nat)
      (vi : List (Name × Info)) (np : NodeP) (vis : List VInfoP) (ws : Writes),
      serNode V td gouts n = .ok (np, vis, ws) → (replN V outer T n).ok →
      (replN V outer T n).new.Nodup → (∀ v ∈ (replN V outer T n).new, v ∉ A.map (·.1)) →
      TblIn A T → (∀ T' ∈ outer, TblIn A T') → RS V s A → Fresh s →
      ∃ (s' : Store) (n' : NodeT) (B : Assoc),
        deserNode s (mapT A T) (outer.map (mapT A)) vi np = .ok (s', mapT (A ++ B) (replN V outer T n).tbl, n') ∧
        RS V s' (A ++ B) ∧ s.nv ≤ s'.nv ∧ B.map (·.1) = (replN V outer T n).new ∧
        TblIn (A ++ B) (replN V outer T n).tbl ∧
        TreeRelN V (A ++ B) n n' ∧ Fresh s' ∧ Prim s.nv s s' ∧
        InfoOK2 V s' (A ++ B) (emitSubN V n) ∧
        ConstOK2 V td s' (A ++ B) (allInitsN n) := by
  intro n s A T outer gouts vi np vis ws h1 h2 h3 h4 h5 h6 h7 h8
  obtain ⟨s', n', B, e, k, t, tr, h⟩ := nodeRT V td n s A T outer gouts vi np vis ws h1 h2 h3 h4 h5 h6 h7 h8
  exact ⟨s', n', B, e, h.rs, h.le, k, t, tr, h.fresh, h.prim, h.infoOK, h.constOK⟩

theorem rt2_subs (V : Nat → ValueS) (td : TData) :
    ∀ (subs : List GraphT) (s : Store) (A : Assoc) (scopes : List Table) (gps : List GraphP) (ws : Writes),
      serSubs V td subs = .ok (gps, ws) → (replGs V scopes subs).ok → (replGs V scopes subs).new.Nodup →
      (∀ v ∈ (replGs V scopes subs).new, v ∉ A.map (·.1)) → (∀ T ∈ scopes, TblIn A T) → RS V s A → Fresh s →
      ∃ (s' : Store) (gts : List GraphT) (B : Assoc),
        deserSubs s (scopes.map (mapT A)) gps = .ok (s', gts) ∧ RS V s' (A ++ B) ∧ s.nv ≤ s'.nv ∧
        B.map (·.1) = (replGs V scopes subs).new ∧ TreeRelGs V (A ++ B) subs gts ∧
        Fresh s' ∧ Prim s.nv s s' ∧ InfoOK2 V s' (A ++ B) (emitGs V subs) ∧
        ConstOK2 V td s' (A ++ B) (allInitsGs subs) := by
  intro subs s A scopes gps ws h1 h2 h3 h4 h5 h6 h7
  obtain ⟨s', gts, B, e, k, tr, h⟩ := subsRT V td subs s A scopes gps ws h1 h2 h3 h4 h5 h6 h7
  exact ⟨s', gts, B, e, h.rs, h.le, k, tr, h.fresh, h.prim, h.infoOK, h.constOK⟩

end IrVerif.Scope
