/-
C14: CSE on C05's pass model, facts about a run of the walk (`CseRun`): zero count, node accounting, and a weighted node
count that is a measure except for one kind of rewrite: a one-output Identity node replaced by another Identity node
(`cseStall` counts these; they are eliminations: `CseRun.stall_le`).
Before that, one fact about C05's `substG`: the empty substitution changes nothing (`substG_nil`).
-/
import IrVerif.Model.PassFlags2
import IrVerif.Lemmas.CseRun
import IrVerif.Lemmas.PassFlagsIdentity
namespace IrVerif.PassFlags
open IrVerif.Sem IrVerif.Passes

mutual
theorem substG_nil : ∀ g : Graph, substG [] g = g
  | .mk inputs outputs inits nodes => by simp only [substG, substNodes_nil nodes]
theorem substNodes_nil : ∀ ns : List Node, substNodes [] ns = ns
  | [] => rfl
  | n :: ns => by simp only [substNodes, substN_nil n, substNodes_nil ns]
theorem substN_nil : ∀ n : Node, substN [] n = n
  | .mk op attrs ins outs bodies => by simp only [substN, substIns_nil', substBodies_nil bodies]
theorem substBodies_nil : ∀ bs : List Graph, substBodies [] bs = bs
  | [] => rfl
  | b :: bs => by simp only [substBodies, substG_nil b, substBodies_nil bs]
end

theorem CseRun.cnt0 {limit : Nat} {gins : List VId} {tbl : List Node} {σ : Subst} {outs : List VId} {ns : List Node}
    {r : IeRes} {c i s : Nat} (h : CseRun limit gins tbl σ outs ns r c i s) (hσ : σ = []) (hc : c = 0) :
    r = ⟨ns, outs, []⟩ := by
  induction h with
  | nil => rw [hσ]
  | skip _ _ ih => rw [ih hσ hc, hσ, substN_nil]
  | record _ _ _ ih => rw [ih hσ hc, hσ, substN_nil]
  | replace => omega

/-- exact accounting of the top-level node list: one node leaves per elimination, one enters per
    inserted Identity -/
theorem CseRun.length {limit : Nat} {gins : List VId} {tbl : List Node} {σ : Subst} {outs : List VId} {ns : List Node}
    {r : IeRes} {c i s : Nat} (h : CseRun limit gins tbl σ outs ns r c i s) : r.nodes.length + c = ns.length + i := by
  induction h with
  | nil => rfl
  | skip _ _ ih => simp only [List.length_cons]; omega
  | record _ _ _ ih => simp only [List.length_cons]; omega
  | replace _ _ _ ih => simp only [List.length_cons, List.length_append]; omega

/-- keys of `pairs` not yet in the `replaced` dictionary -/
def openKeys (pairs rep : List (VId × VId)) : Nat :=
  ((pairs.map Prod.fst).filter (fun k => (rep.lookup k).isNone)).length

theorem openKeys_cons_le (pairs rep : List (VId × VId)) (e : VId × VId) :
    openKeys pairs (e :: rep) ≤ openKeys pairs rep := by
  obtain ⟨k, v⟩ := e
  apply filter_len_mono
  intro a ha
  simp only [List.lookup_cons] at ha
  split at ha
  · simp at ha
  · exact ha

theorem openKeys_cons_lt (pairs rep : List (VId × VId)) (o w z : VId) (hp : pairs.lookup o = some z)
    (hr : rep.lookup o = none) : openKeys pairs ((o, w) :: rep) < openKeys pairs rep := by
  apply filter_len_lt _ _ _ _ o
  · exact List.mem_map.2 ⟨(o, z), ListFacts.mem_of_lookup hp, rfl⟩
  · simp
  · simp [hr]
  · intro a ha
    simp only [List.lookup_cons] at ha
    split at ha
    · simp at ha
    · exact ha

/-- an Identity node is inserted at most once per replaced value -/
theorem cseFixOuts_len (gins : List VId) (pairs : List (VId × VId)) : ∀ (outs : List VId) (rep : List (VId × VId))
    (done : List VId), (cseFixOuts gins pairs rep done outs).2.length ≤ openKeys pairs rep
  | [], _, _ => by simp [cseFixOuts]
  | o :: rest, rep, done => by
    simp only [cseFixOuts]
    cases hr : rep.lookup o with
    | some w => exact cseFixOuts_len gins pairs rest rep _
    | none =>
      cases hp : pairs.lookup o with
      | none => exact cseFixOuts_len gins pairs rest rep _
      | some z =>
        simp only
        split
        · have ih := cseFixOuts_len gins pairs rest ((o, o) :: rep) (done ++ [o])
          have := openKeys_cons_lt pairs rep o o z hp hr
          simp only [List.length_cons]; omega
        · have ih := cseFixOuts_len gins pairs rest ((o, z) :: rep) (done ++ [z])
          have := openKeys_cons_le pairs rep (o, z)
          omega

theorem cseFixOuts_wt (gins : List VId) (pairs : List (VId × VId)) : ∀ (outs : List VId) (rep : List (VId × VId))
    (done : List VId), cseW (cseFixOuts gins pairs rep done outs).2 = (cseFixOuts gins pairs rep done outs).2.length
  | [], _, _ => by simp [cseFixOuts, cseW]
  | o :: rest, rep, done => by
    simp only [cseFixOuts]
    cases hr : rep.lookup o with
    | some w => exact cseFixOuts_wt gins pairs rest rep _
    | none =>
      cases hp : pairs.lookup o with
      | none => exact cseFixOuts_wt gins pairs rest rep _
      | some z =>
        simp only
        split
        · have ih := cseFixOuts_wt gins pairs rest ((o, o) :: rep) (done ++ [o])
          simp only [cseW, List.map_cons, List.sum_cons, List.length_cons] at ih ⊢
          have : cseWt (identityNode z o) = 1 := by simp [cseWt, identityNode, isIdentityOp]
          rw [this, ih]; omega
        · exact cseFixOuts_wt gins pairs rest ((o, z) :: rep) (done ++ [z])

theorem cseFixOuts_le_nouts (gins : List VId) (nouts zs outs : List VId) :
    (cseFixOuts gins (nouts.zip zs) [] [] outs).2.length ≤ nouts.length := by
  have h := cseFixOuts_len gins (nouts.zip zs) outs [] []
  have h2 : openKeys (nouts.zip zs) [] ≤ nouts.length := by
    simp only [openKeys]
    refine Nat.le_trans (List.length_filter_le _ _) ?_
    simp only [List.length_map, List.length_zip]
    exact Nat.min_le_left _ _
  omega

theorem cseW_append (a b : List Node) : cseW (a ++ b) = cseW a + cseW b := by
  simp [cseW, List.sum_append]

theorem cseW_cons (n : Node) (ns : List Node) : cseW (n :: ns) = cseWt n + cseW ns := by
  simp only [cseW, List.map_cons, List.sum_cons]

theorem cseWt_substN (σ : Subst) : ∀ n : Node, cseWt (substN σ n) = cseWt n
  | .mk _ _ _ _ _ => rfl

/-- a stalled rewrite is an elimination -/
theorem CseRun.stall_le {limit : Nat} {gins : List VId} {tbl : List Node} {σ : Subst} {outs : List VId} {ns : List Node}
    {r : IeRes} {c i s : Nat} (h : CseRun limit gins tbl σ outs ns r c i s) : s ≤ c := by
  induction h with
  | nil => exact Nat.le_refl _
  | skip _ _ ih => exact ih
  | record _ _ _ ih => exact ih
  | replace _ _ _ ih => split <;> omega

theorem CseRun.weight {limit : Nat} {gins : List VId} {tbl : List Node} {σ : Subst} {outs : List VId} {ns : List Node}
    {r : IeRes} {c i s : Nat} (h : CseRun limit gins tbl σ outs ns r c i s) : cseW r.nodes + c ≤ cseW ns + s := by
  induction h with
  | nil => exact Nat.le_refl _
  | skip _ _ ih => simp only [cseW_cons, cseWt_substN]; omega
  | record _ _ _ ih => simp only [cseW_cons, cseWt_substN]; omega
  | @replace tbl σ outs n n1 ns r c i s _ _ _ ih =>
    -- at most one Identity node, of weight 1, enters per output of the eliminated node; that node weighs 1 + #outputs,
    -- unless it is itself a one-output Identity node (weight 1): then the rewrite is stalled if a node enters
    have hj := cseFixOuts_le_nouts gins n.outs n1.outs outs
    rw [cseW_append, cseFixOuts_wt, cseW_cons]
    generalize (cseFixOuts gins (n.outs.zip n1.outs) [] [] outs).2 = ids at hj ⊢
    obtain ⟨op, attrs, ins, nouts, bodies⟩ := n
    simp only [cseWt, Node.op, Node.outs] at hj ⊢
    by_cases hid : (isIdentityOp op && nouts.length == 1) = true
    · have h1 : nouts.length = 1 := by simp only [Bool.and_eq_true, beq_iff_eq] at hid; exact hid.2
      simp only [hid, if_true, Bool.true_and]
      cases ids with
      | nil => simp only [List.length_nil, List.isEmpty_nil, Bool.not_true, Bool.false_eq_true, if_false]; omega
      | cons a l => simp only [List.length_cons, List.isEmpty_cons, Bool.not_false, if_true] at hj ⊢; omega
    · simp only [hid, Bool.false_eq_true, if_false, Bool.false_and]; omega

theorem cseModel_weight (limit : Nat) : ∀ m : Model,
    cseW (cseModel limit m).graph.nodes + cseCount limit m ≤ cseW m.graph.nodes + cseStalled limit m
  | ⟨.mk inputs outputs inits nodes, fs⟩ => (cseRun limit inputs nodes [] [] outputs).weight

theorem cseStalled_le (limit : Nat) (m : Model) : cseStalled limit m ≤ cseCount limit m :=
  (cseRun limit _ _ _ _ _).stall_le

end IrVerif.PassFlags
