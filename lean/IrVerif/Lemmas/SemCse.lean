/-
Lemmas/SemCse.lean — CommonSubexpressionEliminationPass on a node list (`cseNodes`, `cseFixOuts`) preserves the
denotation (`CseEntryOK`: a live dictionary entry; `OutOK`, `FixRel`: the graph outputs); at the end two facts about `CseRun`.
-/
import IrVerif.Lemmas.SemSubst
import IrVerif.Lemmas.CseRun
import Mathlib.Data.List.Basic
namespace IrVerif.Passes
open IrVerif.Sem
variable {Val : Type}

theorem forall2_comp {α β γ : Type} {R : α → β → Prop} {S : β → γ → Prop} {T : α → γ → Prop}
    (h : ∀ a b c, R a b → S b c → T a c) {l1 : List α} {l2 : List β} {l3 : List γ}
    (h1 : List.Forall₂ R l1 l2) (h2 : List.Forall₂ S l2 l3) : List.Forall₂ T l1 l3 := by
  induction h1 generalizing l3 with
  | nil => cases h2; exact .nil
  | cons r _ ih => cases h2 with | cons s t => exact .cons (h _ _ _ r s) (ih t)

theorem forall2_imp {α β : Type} {R S : α → β → Prop} (h : ∀ a b, R a b → S a b) {l1 : List α} {l2 : List β}
    (h1 : List.Forall₂ R l1 l2) : List.Forall₂ S l1 l2 := by
  induction h1 with
  | nil => exact .nil
  | cons r _ ih => exact .cons (h _ _ r) ih

theorem forall2_map_eq {α β γ : Type} {R : α → β → Prop} {f : α → γ} {g : β → γ}
    (h : ∀ a b, R a b → f a = g b) {l1 : List α} {l2 : List β} (h1 : List.Forall₂ R l1 l2) :
    l1.map f = l2.map g := by
  induction h1 with
  | nil => rfl
  | cons r _ ih => rw [List.map_cons, List.map_cons, h _ _ r, ih]

/-- an output before and after `cseFixOuts`: unchanged, the kept node's value `z`, or unchanged and now defined by an
    Identity node that reads `z` -/
def FixRel (pairs : List (VId × VId)) (ρ' ρ'' : Env Val) (o o' : VId) : Prop :=
  match pairs.lookup o with
  | none => o' = o
  | some z => o' = z ∨ (o' = o ∧ ρ'' o = ρ' z)

/-- the `replaced` dictionary only holds sound replacements -/
def RepOK (pairs : List (VId × VId)) (ρ' : Env Val) (rep : List (VId × VId)) : Prop :=
  ∀ y w, rep.lookup y = some w → ∃ z, pairs.lookup y = some z ∧ (w = z ∨ (w = y ∧ ρ' y = ρ' z))

theorem cseFixOuts_spec (I : Interp Val) (gins : List VId) (pairs : List (VId × VId))
    (hz : ∀ y z, pairs.lookup y = some z → pairs.lookup z = none) :
    ∀ (todo : List VId) (rep : List (VId × VId)) (done : List VId) (ρ' : Env Val), RepOK pairs ρ' rep →
    ∃ mid, (cseFixOuts gins pairs rep done todo).1 = done ++ mid ∧
      (∀ v, (pairs.lookup v = none ∨ rep.lookup v ≠ none) →
        evalNodes I (cseFixOuts gins pairs rep done todo).2 ρ' v = ρ' v) ∧
      List.Forall₂ (FixRel pairs ρ' (evalNodes I (cseFixOuts gins pairs rep done todo).2 ρ')) todo mid := by
  intro todo rep done
  fun_induction cseFixOuts gins pairs rep done todo with
  | case1 => exact fun ρ' _ => ⟨[], by simp, fun v _ => by simp [evalNodes], List.Forall₂.nil⟩
  | case2 rep done o rest w hr ih =>
    intro ρ' hrep
    obtain ⟨mid, h1, h3, h4⟩ := ih ρ' hrep
    refine ⟨w :: mid, by rw [h1]; simp, h3, List.Forall₂.cons ?_ h4⟩
    obtain ⟨z, hz1, hz2⟩ := hrep o w hr
    simp only [FixRel, hz1]
    rcases hz2 with rfl | ⟨rfl, h5⟩
    · exact Or.inl rfl
    · refine Or.inr ⟨rfl, ?_⟩
      rw [h3 w (Or.inr (by simp [hr])), h5]
  | case3 rep done o rest hr z hl _ r ih =>
    -- Identity node `o' = Identity(z)`, o' takes over the id of o
    intro ρ' hrep
    have hzo : z ≠ o := fun h => by
      have := hz o z hl; rw [h, hl] at this; cases this
    have hne : ∀ v, v ≠ o → (ρ'.bind [o] [ρ' z]) v = ρ' v := fun v hv =>
      Env.bind_of_not_mem _ _ (by simpa using hv)
    have hrep1 : RepOK pairs (ρ'.bind [o] [ρ' z]) ((o, o) :: rep) := by
      intro y w hy
      by_cases hyo : y = o
      · subst hyo
        simp only [List.lookup_cons, beq_self_eq_true, Option.some.injEq] at hy
        subst hy
        refine ⟨z, hl, Or.inr ⟨rfl, ?_⟩⟩
        rw [hne z hzo]; simp [Env.bind]
      · rw [lookup_cons_ne hyo] at hy
        obtain ⟨z2, hz1, hz2⟩ := hrep y w hy
        refine ⟨z2, hz1, hz2.imp id (fun h => ⟨h.1, ?_⟩)⟩
        have hz2o : z2 ≠ o := fun h' => by
          have := hz y z2 hz1; rw [h', hl] at this; cases this
        rw [hne y hyo, hne z2 hz2o]; exact h.2
    obtain ⟨mid, h1, h3, h4⟩ := ih (ρ'.bind [o] [ρ' z]) hrep1
    refine ⟨o :: mid, by rw [h1]; simp, ?_, ?_⟩
    · intro v hv
      simp only [evalNodes, evalN_identityNode]
      have hvo : v ≠ o := by
        rintro rfl
        rcases hv with hv | hv
        · rw [hl] at hv; cases hv
        · exact hv hr
      rw [h3 v (hv.imp id (fun h => by rw [lookup_cons_ne hvo]; exact h)), hne v hvo]
    · simp only [evalNodes, evalN_identityNode]
      refine List.Forall₂.cons ?_ (forall2_imp ?_ h4)
      · simp only [FixRel, hl]
        refine Or.inr ⟨trivial, ?_⟩
        rw [h3 o (Or.inr (by simp))]
        simp [Env.bind]
      · intro a b hab
        simp only [FixRel] at hab ⊢
        cases hl' : pairs.lookup a with
        | none => simpa [hl'] using hab
        | some z' =>
          simp only [hl'] at hab ⊢
          refine hab.imp id (fun h => ⟨h.1, ?_⟩)
          have : z' ≠ o := fun h' => by
            have := hz a z' hl'; rw [h', hl] at this; cases this
          rw [h.2, hne z' this]
  | case4 rep done o rest hr z hl _ ih =>
    intro ρ' hrep
    have hrep1 : RepOK pairs ρ' ((o, z) :: rep) := by
      intro y w hy
      by_cases hyo : y = o
      · subst hyo
        simp only [List.lookup_cons, beq_self_eq_true, Option.some.injEq] at hy
        exact ⟨z, hl, Or.inl hy.symm⟩
      · rw [lookup_cons_ne hyo] at hy
        exact hrep y w hy
    obtain ⟨mid, h1, h3, h4⟩ := ih ρ' hrep1
    refine ⟨z :: mid, by rw [h1]; simp, ?_, List.Forall₂.cons ?_ h4⟩
    · intro v hv
      refine h3 v (hv.imp id (fun h => ?_))
      by_cases hvo : v = o
      · subst hvo; simp
      · rw [lookup_cons_ne hvo]; exact h
    · simp [FixRel, hl]
  | case5 rep done o rest _ hl ih =>
    intro ρ' hrep
    obtain ⟨mid, h1, h3, h4⟩ := ih ρ' hrep
    refine ⟨o :: mid, by rw [h1]; simp, h3, List.Forall₂.cons ?_ h4⟩
    simp [FixRel, hl]

/-- graph output `o0` of the old graph is now `o`: `σ.app o0`, or the output of an inserted Identity node with that value
    (none of the three ids is bound by the remaining nodes `D`) -/
def OutOK (σ : Subst) (ρ' : Env Val) (D : List VId) (o0 o : VId) : Prop :=
  o = σ.app o0 ∨ (o0 ∉ D ∧ o ∉ D ∧ σ.app o0 ∉ D ∧ ρ' o = ρ' (σ.app o0))

/-- a dictionary entry: a kept node without bodies whose stored outputs are what re-evaluating it
    now would give, and whose inputs and outputs are not bound again by the remaining nodes -/
def CseEntryOK (I : Interp Val) (D : List VId) (ρ' : Env Val) (n1 : Node) : Prop :=
  n1.bodies = [] ∧ n1.outs.Nodup ∧ (∀ v ∈ n1.outs, v ∉ D) ∧ (∀ v ∈ n1.ins.filterMap id, v ∉ D) ∧
  EqOn (· ∈ n1.outs) ρ' (evalN I n1 ρ')

theorem evalN_congr_ins (I : Interp Val) (op attrs ins outs) (ρ1 ρ2 : Env Val)
    (h : ∀ v ∈ ins.filterMap id, ρ1 v = ρ2 v) (v : VId) (hv : v ∈ outs) :
    evalN I (.mk op attrs ins outs []) ρ1 v = evalN I (.mk op attrs ins outs []) ρ2 v :=
  evalN_outs_congr I _ ρ1 ρ2 (fun u hu => h u ((mem_refsN_mk.1 hu).elim id (fun h' => absurd h' List.not_mem_nil))) v hv

theorem CseEntryOK.frame {I : Interp Val} {D D' : List VId} {ρ' ρ1' : Env Val} {n1 : Node}
    (h : CseEntryOK I D ρ' n1) (hD : ∀ v ∈ D', v ∈ D) (hfr : ∀ v, v ∉ D → ρ1' v = ρ' v) :
    CseEntryOK I D' ρ1' n1 := by
  obtain ⟨hb, hnd, ho, hi, he⟩ := h
  refine ⟨hb, hnd, fun v hv h' => ho v hv (hD v h'), fun v hv h' => hi v hv (hD v h'), ?_⟩
  cases n1 with
  | mk op attrs ins outs bodies =>
    simp only [Node.bodies] at hb
    subst hb
    simp only [Node.outs, Node.ins] at ho hi he ⊢
    intro v hv
    rw [hfr v (ho v hv), he v hv]
    exact (evalN_congr_ins I op attrs ins outs ρ1' ρ' (fun u hu => hfr u (hi u hu)) v hv).symm

theorem OutOK.frame {σ : Subst} {D D' : List VId} {ρ' ρ1' : Env Val} {o0 o : VId}
    (h : OutOK σ ρ' D o0 o) (hD : ∀ v ∈ D', v ∈ D) (hfr : ∀ v, v ∉ D → ρ1' v = ρ' v) :
    OutOK σ ρ1' D' o0 o := by
  rcases h with h | ⟨h1, h2, h3, h4⟩
  · exact Or.inl h
  · exact Or.inr ⟨fun h' => h1 (hD _ h'), fun h' => h2 (hD _ h'), fun h' => h3 (hD _ h'),
      by rw [hfr o h2, hfr _ h3, h4]⟩

theorem cseKeyMatch_spec {n1 n : Node} (h : cseKeyMatch n1 n = true) :
    n1.op = n.op ∧ n1.outs.length = n.outs.length ∧ n1.ins = n.ins ∧ n1.attrs = n.attrs := by
  simp only [cseKeyMatch, Bool.and_eq_true, beq_iff_eq] at h
  exact ⟨h.1.1.1, h.1.1.2, h.1.2, h.2⟩

theorem cseSkip_false {limit : Nat} {op : OpId} {attrs : List (String × AttrData)} {bodies : List Graph}
    (h : cseSkip limit op attrs bodies = false) : bodies = [] := by
  simp only [cseSkip, Bool.or_eq_false_iff, Bool.not_eq_false'] at h
  exact List.isEmpty_iff.1 h.1.1

theorem isNonDeterministicOp_eq (op : OpId) : isNonDeterministicOp op = isStochasticOp op := rfl

theorem cseSkip_false_stochastic {limit : Nat} {op : OpId} {attrs : List (String × AttrData)}
    {bodies : List Graph} (h : cseSkip limit op attrs bodies = false) : isStochasticOp op = false := by
  simp only [cseSkip, Bool.or_eq_false_iff, isNonDeterministicOp_eq] at h
  exact h.2

/-- every dictionary entry still evaluates to its stored outputs and is not bound again by the nodes to come
    (`CseEntryOK`), so a node equal to an entry after substitution may be dropped -/
theorem cseNodes_sound (I : Interp Val) (limit : Nat) (gins : List VId) :
    ∀ (ns tbl : List Node) (σ : Subst) (outs outs0 : List VId) (ρ ρ' : Env Val),
    RelOn (fun _ => True) σ ρ ρ' → SubstOK σ (defsNodes ns) →
    ssaNodes ns = true → closedNodes ns = true → noFwdNodes ns = true →
    (∀ n1 ∈ tbl, CseEntryOK I (defsNodes ns) ρ' n1) →
    List.Forall₂ (OutOK σ ρ' (defsNodes ns)) outs0 outs →
    outs0.map (evalNodes I ns ρ) =
      (cseNodes limit gins tbl σ outs ns).outs.map (evalNodes I (cseNodes limit gins tbl σ outs ns).nodes ρ')
  | [], tbl, σ, outs, outs0, ρ, ρ', hrel, _, _, _, _, _, hout => by
    simp only [cseNodes, evalNodes]
    refine forall2_map_eq ?_ hout
    intro o0 o h
    rcases h with h | ⟨_, _, _, h4⟩
    · rw [h]; exact hrel o0 trivial
    · rw [h4]; exact hrel o0 trivial
  | .mk op attrs ins nouts bodies :: ns, tbl, σ, outs, outs0, ρ, ρ', hrel, hok, hs, hc, hf, htbl, hout => by
    rw [ssaNodes_cons_iff] at hs
    rw [closedNodes_cons_iff] at hc
    simp only [noFwdNodes, noFwdN, Bool.and_eq_true, disj_iff, Node.ins] at hf
    obtain ⟨⟨⟨⟨hnd, _⟩, hsb⟩, hdn⟩, hsn⟩ := hs
    obtain ⟨⟨⟨hfw, _⟩, _⟩, hfn⟩ := hf
    have hDsub : ∀ v ∈ defsNodes ns, v ∈ defsNodes (.mk op attrs ins nouts bodies :: ns) :=
      fun v hv => by simp only [defsNodes, List.mem_append]; exact Or.inr hv
    have hoD : ∀ v ∈ nouts, v ∈ defsNodes (.mk op attrs ins nouts bodies :: ns) :=
      fun v hv => mem_defsNodes_of_mem_outs hv
    have hoD' : ∀ v ∈ nouts, v ∉ defsNodes ns := fun v hv h => hdn v (by simp [defsN, hv]) h
    have hokn : SubstOK σ (defsNodes ns) := hok.mono hDsub
    have hoko : SubstOK σ nouts := hok.mono hoD
    have hins' : ∀ v ∈ (substIns σ ins).filterMap id,
        v ∉ defsNodes (.mk op attrs ins nouts bodies :: ns) := by
      intro v hv
      obtain ⟨u, hu, rfl⟩ := mem_substIns' hv
      exact hok.app_not_mem (hfw u hu)
    -- evaluating the (substituted) node on both sides
    have hstep : RelOn (fun _ => True) σ (evalN I (.mk op attrs ins nouts bodies) ρ)
        (evalN I (.mk op attrs (substIns σ ins) nouts (substBodies σ bodies)) ρ') := by
      have := substN_sound I (fun _ => True) (.mk op attrs ins nouts bodies) σ ρ ρ' hrel
        (hok.mono (fun v hv => mem_defsNodes_cons.2 (Or.inl hv)))
        (fun _ _ => trivial) (by simpa [closedN] using hc.1)
      simpa [substN] using this
    have hframe : ∀ v, v ∉ defsNodes (.mk op attrs ins nouts bodies :: ns) →
        evalN I (.mk op attrs (substIns σ ins) nouts (substBodies σ bodies)) ρ' v = ρ' v := by
      intro v hv
      simp only [evalN]
      exact Env.bind_of_not_mem _ _ (fun h => hv (hoD v h))
    have keepTbl : ∀ n1 ∈ tbl, CseEntryOK I (defsNodes ns)
        (evalN I (.mk op attrs (substIns σ ins) nouts (substBodies σ bodies)) ρ') n1 :=
      fun n1 h1 => (htbl n1 h1).frame hDsub hframe
    have keepOut : List.Forall₂ (OutOK σ
        (evalN I (.mk op attrs (substIns σ ins) nouts (substBodies σ bodies)) ρ') (defsNodes ns)) outs0 outs :=
      forall2_imp (fun a b h => h.frame hDsub hframe) hout
    simp only [cseNodes]
    split
    · -- not a candidate
      simp only [evalNodes]
      exact cseNodes_sound I limit gins ns tbl σ outs outs0 _ _ hstep hokn hsn hc.2 hfn keepTbl keepOut
    · rename_i hskip
      have hbodies : bodies = [] := cseSkip_false (by simpa using hskip)
      have hst : isStochasticOp op = false := cseSkip_false_stochastic (by simpa using hskip)
      subst hbodies
      split
      · -- found in the dictionary
        rename_i n1 hfind
        have hn1 := List.mem_of_find?_eq_some hfind
        have hkm := List.find?_some hfind
        obtain ⟨hop, hlen, hins, hattrs⟩ := cseKeyMatch_spec hkm
        simp only [Node.op, Node.outs, Node.ins, Node.attrs] at hop hlen hins hattrs
        obtain ⟨hb1, hnd1, ho1, hi1, he1⟩ := htbl n1 hn1
        have hzmem : ∀ y z, (nouts.zip n1.outs).lookup y = some z → y ∈ nouts ∧ z ∈ n1.outs ∧
            n1.outs[nouts.idxOf y]? = some z := by
          intro y z h
          obtain ⟨h1, h2⟩ := lookup_zip_some nouts n1.outs h
          exact ⟨h1, List.mem_of_getElem? h2, h2⟩
        have hz : ∀ y z, (nouts.zip n1.outs).lookup y = some z → (nouts.zip n1.outs).lookup z = none := by
          intro y z h
          exact ListFacts.lookup_zip_eq_none (fun h' => ho1 z (hzmem y z h).2.1 (hoD z h')) _
        obtain ⟨mid, hmid, hfr, hfix⟩ := cseFixOuts_spec I gins (nouts.zip n1.outs) hz outs [] [] ρ'
          (fun y w h => by simp at h)
        simp only [List.nil_append] at hmid
        simp only [evalNodes, evalNodes_append]
        have hfr' : ∀ v, v ∉ nouts →
            evalNodes I (cseFixOuts gins (nouts.zip n1.outs) [] [] outs).2 ρ' v = ρ' v :=
          fun v hv => hfr v (Or.inl (ListFacts.lookup_zip_eq_none hv _))
        have hfrD : ∀ v, v ∉ defsNodes (.mk op attrs ins nouts [] :: ns) →
            evalNodes I (cseFixOuts gins (nouts.zip n1.outs) [] [] outs).2 ρ' v = ρ' v :=
          fun v hv => hfr' v (fun h => hv (hoD v h))
        have hok1 : SubstOK (nouts.zip n1.outs ++ σ) (defsNodes ns) := by
          intro p hp
          rcases List.mem_append.1 hp with hp | hp
          · obtain ⟨h1, h2⟩ := List.of_mem_zip hp
            exact ⟨hoD' _ h1, fun h => ho1 _ h2 (hDsub _ h)⟩
          · exact hokn p hp
        have hrel1 : RelOn (fun _ => True) (nouts.zip n1.outs ++ σ) (evalN I (.mk op attrs ins nouts []) ρ)
            (evalNodes I (cseFixOuts gins (nouts.zip n1.outs) [] [] outs).2 ρ') := by
          intro v _
          rw [Subst.app_append]
          cases hl : (nouts.zip n1.outs).lookup v with
          | some z =>
            simp only
            obtain ⟨hv1, hz1, hz2⟩ := hzmem v z hl
            rw [hfr z (Or.inl (hz v z hl)), he1 z hz1]
            cases n1 with
            | mk op1 attrs1 ins1 outs1 bodies1 =>
              simp only [Node.bodies, Node.outs] at hb1 hnd1 hz1 hz2 hop hins hattrs hlen
              subst hb1 hop hins hattrs
              simp only [evalN, evalBodies]
              rw [Env.bind_of_mem _ _ hv1, Env.bind_of_mem _ _ hz1, ← hrel.args ins (fun _ _ => trivial)]
              have hidx : outs1.idxOf z = nouts.idxOf v := by
                obtain ⟨hlt, heq⟩ := List.getElem?_eq_some_iff.1 hz2
                rw [← heq]
                exact hnd1.idxOf_getElem _ hlt
              rw [hidx, nodeResults_outs I hst _ nouts outs1]
          | none =>
            simp only
            have hv : v ∉ nouts := not_mem_of_lookup_zip_none nouts n1.outs hlen.symm hl
            simp only [evalN]
            rw [Env.bind_of_not_mem _ _ hv, hfr' _ (hoko.app_not_mem hv)]
            exact hrel v trivial
        have htbl1 : ∀ n2 ∈ tbl, CseEntryOK I (defsNodes ns)
            (evalNodes I (cseFixOuts gins (nouts.zip n1.outs) [] [] outs).2 ρ') n2 :=
          fun n2 h2 => (htbl n2 h2).frame hDsub hfrD
        have hout1 : List.Forall₂ (OutOK (nouts.zip n1.outs ++ σ)
            (evalNodes I (cseFixOuts gins (nouts.zip n1.outs) [] [] outs).2 ρ') (defsNodes ns)) outs0
            (cseFixOuts gins (nouts.zip n1.outs) [] [] outs).1 := by
          rw [hmid]
          refine forall2_comp ?_ hout hfix
          intro o0 o o' hpre hfx
          simp only [FixRel] at hfx
          rcases hpre with hpre | ⟨h1, h2, h3, h4⟩
          · -- o = σ o0
            cases hl : (nouts.zip n1.outs).lookup o with
            | some z =>
              simp only [hl] at hfx
              obtain ⟨ho_in, hz1, _⟩ := hzmem o z hl
              have ho0 : o0 = o := by
                rcases Subst.app_cases σ o0 with h | ⟨p, hp, _, h2⟩
                · rw [hpre, h]
                · exact absurd (by rw [h2, ← hpre]; exact ho_in) (hoko p hp).2
              have happ : Subst.app (nouts.zip n1.outs ++ σ) o0 = z := by
                rw [Subst.app_append, ho0, hl]
              rcases hfx with hfx | ⟨hfx1, hfx2⟩
              · exact Or.inl (by rw [hfx, happ])
              · refine Or.inr ⟨by rw [ho0]; exact hoD' o ho_in, by rw [hfx1]; exact hoD' o ho_in,
                  by rw [happ]; exact fun h => ho1 z hz1 (hDsub _ h), ?_⟩
                rw [happ, hfx1, hfx2, hfr z (Or.inl (hz o z hl))]
            | none =>
              simp only [hl] at hfx
              have ho_nin : o ∉ nouts := not_mem_of_lookup_zip_none nouts n1.outs hlen.symm hl
              have ho0 : o0 ∉ nouts := fun h => ho_nin (by rw [hpre, hoko.app_of_mem h]; exact h)
              refine Or.inl ?_
              rw [hfx, Subst.app_append, ListFacts.lookup_zip_eq_none ho0, hpre]
          · -- already an alias of an earlier removed output
            have ho_nin : o ∉ nouts := fun h => h2 (hoD o h)
            have ho0 : o0 ∉ nouts := fun h => h1 (hoD o0 h)
            have hs0 : σ.app o0 ∉ nouts := fun h => h3 (hoD _ h)
            rw [ListFacts.lookup_zip_eq_none ho_nin] at hfx
            simp only at hfx
            refine Or.inr ⟨fun h => h1 (hDsub _ h), by rw [hfx]; exact fun h => h2 (hDsub _ h), ?_, ?_⟩
            · rw [Subst.app_append, ListFacts.lookup_zip_eq_none ho0]; exact fun h => h3 (hDsub _ h)
            · rw [Subst.app_append, ListFacts.lookup_zip_eq_none ho0, hfx, hfr' o ho_nin, hfr' _ hs0, h4]
        exact cseNodes_sound I limit gins ns tbl _ _ outs0 _ _ hrel1 hok1 hsn hc.2 hfn htbl1 hout1
      · -- new dictionary entry
        simp only [evalNodes]
        refine cseNodes_sound I limit gins ns _ σ outs outs0 _ _ hstep hokn hsn hc.2 hfn ?_ keepOut
        intro n1 h1
        rcases List.mem_append.1 h1 with h1 | h1
        · exact keepTbl n1 h1
        · simp only [List.mem_singleton] at h1
          subst h1
          refine ⟨by simp [Node.bodies, substBodies], by simpa [Node.outs] using hnd,
            fun v hv => hoD' v (by simpa [Node.outs] using hv),
            fun v hv h => hins' v (by simpa [Node.ins] using hv) (hDsub v h), ?_⟩
          simp only [Node.outs, substBodies] at hframe ⊢
          intro v hv
          exact evalN_congr_ins I op attrs (substIns σ ins) nouts ρ' _
            (fun u hu => (hframe u (hins' u hu)).symm) v hv

theorem forall2_refl {α : Type} {R : α → α → Prop} (h : ∀ a, R a a) : ∀ l : List α, List.Forall₂ R l l
  | [] => List.Forall₂.nil
  | a :: l => List.Forall₂.cons (h a) (forall2_refl h l)

theorem cseFixOuts_length (gins : List VId) (pairs : List (VId × VId)) (todo : List VId) (rep : List (VId × VId))
    (done : List VId) : (cseFixOuts gins pairs rep done todo).1.length = done.length + todo.length := by
  fun_induction cseFixOuts gins pairs rep done todo with
  | case1 => simp
  | case3 _ _ _ _ _ _ _ _ r ih => simp only [r] at ih ⊢; simp [ih]; omega
  | case2 _ _ _ _ _ _ ih | case4 _ _ _ _ _ _ _ _ ih | case5 _ _ _ _ _ _ ih => simp [ih]; omega

section
variable {limit : Nat} {gins : List VId} {tbl : List Node} {σ : Subst} {outs : List VId} {ns : List Node} {r : IeRes}
  {c i s : Nat} (h : PassFlags.CseRun limit gins tbl σ outs ns r c i s)
include h

theorem _root_.IrVerif.PassFlags.CseRun.outs_length :
    r.outs.length = outs.length := by
  induction h with
  | nil => rfl
  | skip _ _ ih => exact ih
  | record _ _ _ ih => exact ih
  | replace _ _ _ ih => rw [ih, cseFixOuts_length]; simp

theorem _root_.IrVerif.PassFlags.CseRun.keeps_stochastic :
    ∀ n ∈ ns, isStochasticOp n.op = true → ∃ n' ∈ r.nodes, n'.op = n.op ∧ n'.outs = n.outs ∧ n'.attrs = n.attrs := by
  -- a stochastic node is skipped, so it is the head only of a `skip` step
  have hskip : ∀ n : Node, isStochasticOp n.op = true → cseSkip limit n.op n.attrs n.bodies = true := fun n hst => by
    simp only [cseSkip, Bool.or_eq_true, isNonDeterministicOp_eq]
    exact Or.inr hst
  induction h with
  | nil => exact fun _ hn => absurd hn List.not_mem_nil
  | @skip _ σ _ n0 _ _ _ _ _ _ _ ih =>
    intro n hn hst
    rcases List.mem_cons.1 hn with rfl | hn
    · exact ⟨_, List.mem_cons_self, by cases n <;> exact ⟨rfl, rfl, rfl⟩⟩
    · exact (ih n hn hst).imp fun _ h => ⟨List.mem_cons_of_mem _ h.1, h.2⟩
  | record hs _ _ ih =>
    intro n hn hst
    rcases List.mem_cons.1 hn with rfl | hn
    · rw [hskip n hst] at hs; cases hs
    · exact (ih n hn hst).imp fun _ h => ⟨List.mem_cons_of_mem _ h.1, h.2⟩
  | replace hs _ _ ih =>
    intro n hn hst
    rcases List.mem_cons.1 hn with rfl | hn
    · rw [hskip n hst] at hs; cases hs
    · exact (ih n hn hst).imp fun _ h => ⟨List.mem_append_right _ h.1, h.2⟩

end

end IrVerif.Passes
