/-
`heapq` (Model/Heap.lean): `_siftdown` / `_siftup` re-establish the heap invariant and keep the multiset of entries.

`HeapFrom s h`: every relation `h[(j-1)/2] <= h[j]` whose parent index is at least `s` holds (`isHeap` = `HeapFrom 0`;
what `heapify` maintains while it walks `reversed(range(n//2))`).  CPython's `_siftup` first moves the smaller child up
until a leaf is reached (`siftupLoop`: invariant `InvA`, the list -- with the duplicate left in the hole -- is a heap
from `s`, resp. from `s+1` while the hole is still at `s`), then bubbles the new item up with `_siftdown`
(`siftdownLoop`: invariant `InvB`, the classical 'heap with a hole').  The multiset of entries is kept: `List.Perm`.
-/
import IrVerif.Model.Heap
import IrVerif.Lemmas.ListFacts

namespace IrVerif.Sort.Heap
open IrVerif.ListFacts (getD_set getD_set_ne getD_set_self count_set_add)

def HeapFrom (s : Nat) (h : List Nat) : Prop :=
  ∀ j, j < h.length → j ≠ 0 → s ≤ (j - 1) / 2 → h.getD ((j - 1) / 2) 0 ≤ h.getD j 0

theorem isHeap_iff (h : List Nat) : isHeap h = true ↔ HeapFrom 0 h := by
  unfold isHeap HeapFrom
  simp only [List.all_eq_true, List.mem_range, Bool.or_eq_true, beq_iff_eq, decide_eq_true_eq]
  constructor
  · intro hh j hj h0 _
    rcases hh j hj with h1 | h1
    · exact absurd h1 h0
    · exact h1
  · intro hh j hj
    by_cases h0 : j = 0
    · exact Or.inl h0
    · exact Or.inr (hh j hj h0 (Nat.zero_le _))

theorem lt_of_child {q c : Nat} (h : c = 2 * q + 1 ∨ c = 2 * q + 2) : q < c := by omega

theorem parent_of_child {q c : Nat} (h : c = 2 * q + 1 ∨ c = 2 * q + 2) : (c - 1) / 2 = q := by omega

theorem child_parent {c : Nat} (h0 : c ≠ 0) : c = 2 * ((c - 1) / 2) + 1 ∨ c = 2 * ((c - 1) / 2) + 2 := by omega

theorem parent_unique {q r c : Nat} (h1 : c = 2 * q + 1 ∨ c = 2 * q + 2) (h2 : c = 2 * r + 1 ∨ c = 2 * r + 2) :
    q = r :=
  (parent_of_child h1).symm.trans (parent_of_child h2)

/-- `p` lies in the subtree rooted at `s` -/
inductive Desc (s : Nat) : Nat → Prop
  | refl : Desc s s
  | child {p q : Nat} : Desc s p → (q = 2 * p + 1 ∨ q = 2 * p + 2) → Desc s q

theorem Desc.le {s p : Nat} (h : Desc s p) : s ≤ p := by
  induction h with
  | refl => exact Nat.le_refl _
  | child _ hq ih => omega

theorem Desc.parent {s p : Nat} (h : Desc s p) (hne : p ≠ s) : Desc s ((p - 1) / 2) := by
  cases h with
  | refl => exact absurd rfl hne
  | child hp hq =>
    rw [parent_of_child hq]; exact hp

theorem desc_zero : ∀ n : Nat, Desc 0 n := by
  intro n
  induction n using Nat.strongRecOn with
  | _ n ih =>
    by_cases h0 : n = 0
    · subst h0; exact Desc.refl
    · exact Desc.child (ih ((n - 1) / 2) (lt_of_child (child_parent h0))) (child_parent h0)

/-- the heap relations listed by parent: no subtraction or division in the index arithmetic below -/
theorem heapFrom_iff (s : Nat) (h : List Nat) : HeapFrom s h ↔
    ∀ q c, s ≤ q → c < h.length → (c = 2 * q + 1 ∨ c = 2 * q + 2) → h.getD q 0 ≤ h.getD c 0 := by
  constructor
  · intro hh q c hs hc hqc
    have hq := parent_of_child hqc
    have := hh c hc (Nat.ne_of_gt (Nat.zero_lt_of_lt (lt_of_child hqc))) (hq.symm ▸ hs)
    rwa [hq] at this
  · intro hh j hj h0 hs
    exact hh _ j hs hj (child_parent h0)

/-! ## `_siftdown`: bubble the new item up -/

/-- `b1`: the relations that do not touch the hole `p`; `b2`: `v` fits above the children of the hole; `b3`: parent of the
    hole ≤ children of the hole -/
structure InvB (s v : Nat) (h : List Nat) (p : Nat) : Prop where
  lt : p < h.length
  desc : Desc s p
  b1 : ∀ q c, s ≤ q → c < h.length → (c = 2 * q + 1 ∨ c = 2 * q + 2) → c ≠ p → q ≠ p → h.getD q 0 ≤ h.getD c 0
  b2 : ∀ c, c < h.length → (c = 2 * p + 1 ∨ c = 2 * p + 2) → v ≤ h.getD c 0
  b3 : ∀ q c, s ≤ q → (p = 2 * q + 1 ∨ p = 2 * q + 2) → c < h.length → (c = 2 * p + 1 ∨ c = 2 * p + 2) →
    h.getD q 0 ≤ h.getD c 0

theorem InvB.final {s v : Nat} {h : List Nat} {p : Nat} (inv : InvB s v h p)
    (hend : ∀ q, s ≤ q → (p = 2 * q + 1 ∨ p = 2 * q + 2) → h.getD q 0 ≤ v) : HeapFrom s (h.set p v) := by
  rw [heapFrom_iff]
  intro q c hs hc hqc
  rw [List.length_set] at hc
  by_cases hcp : c = p
  · rw [hcp] at hqc ⊢
    rw [getD_set_self h v inv.lt, getD_set_ne h v (Nat.ne_of_gt (lt_of_child hqc))]
    exact hend q hs hqc
  · rw [getD_set_ne h v (Ne.symm hcp)]
    by_cases hqp : q = p
    · rw [hqp, getD_set_self h v inv.lt]
      exact inv.b2 c hc (hqp ▸ hqc)
    · rw [getD_set_ne h v (Ne.symm hqp)]
      exact inv.b1 q c hs hc hqc hcp hqp

theorem InvB.step {s v : Nat} {h : List Nat} {p q : Nat} (inv : InvB s v h p) (hq : Desc s q)
    (hpq : p = 2 * q + 1 ∨ p = 2 * q + 2) (hlt : v < h.getD q 0) : InvB s v (h.set p (h.getD q 0)) q := by
  have hqp := lt_of_child hpq
  have hql := Nat.lt_trans hqp inv.lt
  refine ⟨by rw [List.length_set]; exact hql, hq, ?_, ?_, ?_⟩
  · intro r c hs hc hrc _ hrq
    rw [List.length_set] at hc
    have hcp : c ≠ p := fun e => hrq (parent_unique (e ▸ hrc) hpq)
    rw [getD_set_ne h _ (Ne.symm hcp)]
    by_cases hrp : r = p
    · rw [hrp, getD_set_self h _ inv.lt]
      exact inv.b3 q c hq.le hpq hc (hrp ▸ hrc)
    · rw [getD_set_ne h _ (Ne.symm hrp)]
      exact inv.b1 r c hs hc hrc hcp hrp
  · intro c hc hqc
    rw [List.length_set] at hc
    by_cases hcp : c = p
    · rw [hcp, getD_set_self h _ inv.lt]
      exact Nat.le_of_lt hlt
    · rw [getD_set_ne h _ (Ne.symm hcp)]
      exact Nat.le_trans (Nat.le_of_lt hlt) (inv.b1 q c hq.le hc hqc hcp (Nat.ne_of_lt hqp))
  · intro r c hs hqr hc hqc
    rw [List.length_set] at hc
    have hrp : r ≠ p := Nat.ne_of_lt (Nat.lt_trans (lt_of_child hqr) hqp)
    have hgq : h.getD r 0 ≤ h.getD q 0 := inv.b1 r q hs hql hqr (Nat.ne_of_lt hqp) hrp
    rw [getD_set_ne h _ (Ne.symm hrp)]
    by_cases hcp : c = p
    · rw [hcp, getD_set_self h _ inv.lt]
      exact hgq
    · rw [getD_set_ne h _ (Ne.symm hcp)]
      exact Nat.le_trans hgq (inv.b1 q c hq.le hc hqc hcp (Nat.ne_of_lt hqp))

/-- moving the entry at `c` into the hole `p`: the hole is at `c` now -/
theorem perm_move (h : List Nat) {p c : Nat} (v : Nat) (hp : p < h.length) (hc : c < h.length) (hne : p ≠ c) :
    ((h.set p (h.getD c 0)).set c v).Perm (h.set p v) := by
  refine List.perm_iff_count.2 fun a => ?_
  have e1 := count_set_add (d := 0) (h.set p (h.getD c 0)) c v a (by rw [List.length_set]; exact hc)
  have e2 := count_set_add (d := 0) h p (h.getD c 0) a hp
  have e3 := count_set_add (d := 0) h p v a hp
  rw [getD_set_ne h _ hne] at e1
  omega

theorem set_getD_self (h : List Nat) {p : Nat} (hp : p < h.length) : h.set p (h.getD p 0) = h := by
  rw [List.getD_eq_getElem?_getD, List.getElem?_eq_getElem hp, Option.getD_some, List.set_getElem_self]

theorem siftdownLoop_spec (s v : Nat) : ∀ (f : Nat) (h : List Nat) (p : Nat), InvB s v h p → p ≤ f →
    HeapFrom s ((siftdownLoop v s f h p).1.set (siftdownLoop v s f h p).2 v) ∧
    ((siftdownLoop v s f h p).1.set (siftdownLoop v s f h p).2 v).Perm (h.set p v)
  | 0, h, p, inv, hf => by
    simp only [siftdownLoop]
    exact ⟨inv.final (fun q _ hpq => by omega), .rfl⟩
  | f + 1, h, p, inv, hf => by
    unfold siftdownLoop
    have hsp := inv.desc.le
    by_cases hps : p > s
    · simp only [hps, if_true]
      have hdq := inv.desc.parent (Nat.ne_of_gt hps)
      have hpq := child_parent (Nat.ne_of_gt (Nat.zero_lt_of_lt hps))
      generalize (p - 1) / 2 = q at hdq hpq ⊢
      have hqp := lt_of_child hpq
      by_cases hlt : v < h.getD q 0
      · simp only [hlt, if_true]
        have ih := siftdownLoop_spec s v f _ _ (inv.step hdq hpq hlt) (by omega)
        exact ⟨ih.1, ih.2.trans (perm_move h v inv.lt (Nat.lt_trans hqp inv.lt) (Nat.ne_of_gt hqp))⟩
      · simp only [hlt, if_false]
        refine ⟨inv.final (fun r _ hpr => ?_), .rfl⟩
        rw [← parent_unique hpq hpr]
        exact Nat.le_of_not_lt hlt
    · simp only [hps, if_false]
      exact ⟨inv.final (fun q _ hpq => by omega), .rfl⟩

theorem siftdown_spec {s : Nat} {h : List Nat} {p : Nat} (inv : InvB s (h.getD p 0) h p) :
    HeapFrom s (siftdown h s p) ∧ (siftdown h s p).Perm h := by
  have hs := siftdownLoop_spec s (h.getD p 0) h.length h p inv (by have := inv.lt; omega)
  rw [set_getD_self h inv.lt] at hs
  exact hs

/-! ## `_siftup`: move the smaller child up until a leaf, then `_siftdown` -/

structure InvA (s : Nat) (h : List Nat) (p : Nat) : Prop where
  lt : p < h.length
  desc : Desc s p
  heap : HeapFrom (if p = s then s + 1 else s) h

/-- the child `_siftup` selects -/
def pick (h : List Nat) (p : Nat) : Nat :=
  if 2 * p + 1 + 1 < h.length && !(h.getD (2 * p + 1) 0 < h.getD (2 * p + 1 + 1) 0) then 2 * p + 1 + 1 else 2 * p + 1

theorem pick_spec (h : List Nat) (p : Nat) (hc : 2 * p + 1 < h.length) :
    (pick h p = 2 * p + 1 ∨ pick h p = 2 * p + 2) ∧ pick h p < h.length ∧
    ∀ c, c < h.length → (c = 2 * p + 1 ∨ c = 2 * p + 2) → h.getD (pick h p) 0 ≤ h.getD c 0 := by
  unfold pick
  split
  · rename_i hh
    simp only [Bool.and_eq_true, decide_eq_true_eq, Bool.not_eq_true', decide_eq_false_iff_not] at hh
    refine ⟨Or.inr rfl, hh.1, ?_⟩
    rintro c _ (rfl | hc2)
    · omega
    · rw [show c = 2 * p + 1 + 1 from hc2]
      exact Nat.le_refl _
  · rename_i hh
    simp only [Bool.and_eq_true, decide_eq_true_eq, Bool.not_eq_true', decide_eq_false_iff_not, not_and,
      Decidable.not_not] at hh
    refine ⟨Or.inl rfl, hc, ?_⟩
    rintro c hcl (rfl | hc2)
    · exact Nat.le_refl _
    · rw [show c = 2 * p + 1 + 1 from hc2] at hcl ⊢
      exact Nat.le_of_lt (hh hcl)

theorem InvA.step {s : Nat} {h : List Nat} {p : Nat} (inv : InvA s h p) (hc : 2 * p + 1 < h.length) :
    InvA s (h.set p (h.getD (pick h p) 0)) (pick h p) ∧ p < pick h p ∧ pick h p < h.length := by
  obtain ⟨hpk, hlt, hmin⟩ := pick_spec h p hc
  have hsp := inv.desc.le
  have hpp := lt_of_child hpk
  have hh := (heapFrom_iff _ _).mp inv.heap
  refine ⟨⟨by rw [List.length_set]; exact hlt, Desc.child inv.desc hpk, ?_⟩, hpp, hlt⟩
  rw [if_neg (Nat.ne_of_gt (Nat.lt_of_le_of_lt hsp hpp)), heapFrom_iff]
  intro q c hs hcl hqc
  rw [List.length_set] at hcl
  by_cases hcp : c = p
  · -- the relation above the hole: only required when p is not the root of the subtree
    rw [hcp] at hqc ⊢
    have hqp := lt_of_child hqc
    rw [if_neg (Nat.ne_of_gt (Nat.lt_of_le_of_lt hs hqp))] at hh
    rw [getD_set_self h _ inv.lt, getD_set_ne h _ (Nat.ne_of_gt hqp)]
    exact Nat.le_trans (hh q p hs inv.lt hqc) (hh p (pick h p) hsp hlt hpk)
  · rw [getD_set_ne h _ (Ne.symm hcp)]
    by_cases hqp : q = p
    · rw [hqp, getD_set_self h _ inv.lt]
      exact hmin c hcl (hqp ▸ hqc)
    · rw [getD_set_ne h _ (Ne.symm hqp)]
      exact hh q c (by split <;> omega) hcl hqc

theorem siftupLoop_spec (s v : Nat) : ∀ (f : Nat) (h : List Nat) (p : Nat), InvA s h p → h.length - p ≤ f →
    InvA s (siftupLoop h.length f h p).1 (siftupLoop h.length f h p).2 ∧
    ¬ 2 * (siftupLoop h.length f h p).2 + 1 < h.length ∧
    ((siftupLoop h.length f h p).1.set (siftupLoop h.length f h p).2 v).Perm (h.set p v)
  | 0, h, p, inv, hf => by have := inv.lt; omega
  | f + 1, h, p, inv, hf => by
    unfold siftupLoop
    by_cases hc : 2 * p + 1 < h.length
    · simp only [hc, if_true]
      have hst := inv.step hc
      have hpk : (if 2 * p + 1 + 1 < h.length && !(h.getD (2 * p + 1) 0 < h.getD (2 * p + 1 + 1) 0) then 2 * p + 1 + 1
          else 2 * p + 1) = pick h p := rfl
      rw [hpk]
      have ih := siftupLoop_spec s v f (h.set p (h.getD (pick h p) 0)) (pick h p) hst.1
        (by rw [List.length_set]; omega)
      rw [List.length_set] at ih
      exact ⟨ih.1, ih.2.1, ih.2.2.trans (perm_move h v inv.lt hst.2.2 (by omega))⟩
    · simp only [hc, if_false]
      exact ⟨inv, by simp, .rfl⟩

theorem siftup_spec {h : List Nat} {pos : Nat} (hpos : pos < h.length) (hh : HeapFrom (pos + 1) h) :
    HeapFrom pos (siftup h pos) ∧ (siftup h pos).Perm h := by
  have inv0 : InvA pos h pos := ⟨hpos, Desc.refl, by simpa using hh⟩
  have hA := siftupLoop_spec pos (h.getD pos 0) h.length h pos inv0 (by omega)
  unfold siftup
  generalize siftupLoop h.length h.length h pos = r at hA
  obtain ⟨invA, hleaf, hperm⟩ := hA
  rw [set_getD_self h hpos] at hperm
  have hlen : r.1.length = h.length := by simpa using hperm.length_eq
  have hr2 : r.2 < r.1.length := invA.lt
  have hhp := (heapFrom_iff _ _).mp invA.heap
  have invB : InvB pos ((r.1.set r.2 (h.getD pos 0)).getD r.2 0) (r.1.set r.2 (h.getD pos 0)) r.2 := by
    refine ⟨by rw [List.length_set]; exact hr2, invA.desc, ?_, ?_, ?_⟩
    · intro q c hs hc hqc hcp hqp
      rw [List.length_set] at hc
      rw [getD_set_ne _ _ (Ne.symm hcp), getD_set_ne _ _ (Ne.symm hqp)]
      exact hhp q c (by split <;> omega) hc hqc
    · intro c hc hcp
      rw [List.length_set, hlen] at hc
      omega
    · intro _ c _ _ hc hcp
      rw [List.length_set, hlen] at hc
      omega
  have hB := siftdown_spec invB
  exact ⟨hB.1, hB.2.trans hperm⟩

/-! ## `heapify`, `heappush`, `heappop` -/

theorem heapify_aux : ∀ (k : Nat) (x : List Nat), k ≤ x.length / 2 → HeapFrom k x →
    HeapFrom 0 ((List.range k).reverse.foldl siftup x) ∧ ((List.range k).reverse.foldl siftup x).Perm x
  | 0, x, _, hh => ⟨by simpa using hh, .rfl⟩
  | k + 1, x, hk, hh => by
    rw [List.range_succ, List.reverse_append, List.reverse_singleton, List.singleton_append, List.foldl_cons]
    have hs := siftup_spec (h := x) (pos := k) (by omega) hh
    have ih := heapify_aux k (siftup x k) (by rw [hs.2.length_eq]; omega) hs.1
    exact ⟨ih.1, ih.2.trans hs.2⟩

theorem heapify_spec (x : List Nat) :
    HeapFrom 0 (heapify x) ∧ (heapify x).Perm x := by
  unfold heapify
  refine heapify_aux (x.length / 2) x (Nat.le_refl _) ?_
  intro j hj h0 hs
  omega

theorem getD_append_left (h : List Nat) (x : Nat) {j : Nat} (hj : j < h.length) : (h ++ [x]).getD j 0 = h.getD j 0 := by
  simp [List.getD_eq_getElem?_getD, List.getElem?_append_left hj]

theorem heappush_spec {h : List Nat} (x : Nat) (hh : HeapFrom 0 h) :
    HeapFrom 0 (heappush h x) ∧ (heappush h x).Perm (x :: h) := by
  have hlen : (h ++ [x]).length = h.length + 1 := by simp
  have inv : InvB 0 ((h ++ [x]).getD h.length 0) (h ++ [x]) h.length := by
    refine ⟨by omega, desc_zero _, ?_, ?_, ?_⟩
    · intro q c _ hc hqc hcp _
      have hc' : c < h.length := by omega
      rw [getD_append_left h x hc', getD_append_left h x (by omega)]
      exact (heapFrom_iff _ _).mp hh q c (Nat.zero_le _) hc' hqc
    · intro c hc hcp; omega
    · intro _ c _ _ hc hcp; omega
  have hs := siftdown_spec inv
  exact ⟨hs.1, hs.2.trans (List.perm_append_singleton x h)⟩

theorem heappop_spec {h : List Nat} (hh : HeapFrom 0 h) (hne : h ≠ []) :
    ∃ m, (heappop h).1 = some m ∧ HeapFrom 0 (heappop h).2 ∧ (m :: (heappop h).2).Perm h := by
  obtain ⟨l, last, rfl⟩ : ∃ l last, h = l ++ [last] := ⟨h.dropLast, h.getLast hne, (List.dropLast_concat_getLast hne).symm⟩
  unfold heappop
  simp only [List.getLast?_append, List.getLast?_singleton, Option.some_or, List.dropLast_concat]
  by_cases hl : l = []
  · subst hl
    refine ⟨last, by simp, ?_, by simp⟩
    simp only [List.isEmpty_nil, if_true]
    intro j hj; simp at hj
  · have hle : l.isEmpty = false := by simpa using hl
    have hpos : 0 < l.length := List.length_pos_iff.mpr hl
    simp only [hle, Bool.false_eq_true, if_false]
    have h1 : HeapFrom 1 (l.set 0 last) := by
      rw [heapFrom_iff]
      intro q c hs hc hqc
      rw [List.length_set] at hc
      rw [getD_set_ne _ _ (by omega : 0 ≠ q), getD_set_ne _ _ (by omega : 0 ≠ c)]
      have := (heapFrom_iff _ _).mp hh q c (Nat.zero_le _) (by simp; omega) hqc
      rwa [getD_append_left l last (by omega), getD_append_left l last hc] at this
    have hs := siftup_spec (h := l.set 0 last) (pos := 0) (by rw [List.length_set]; exact hpos) h1
    refine ⟨l.getD 0 0, rfl, hs.1, ?_⟩
    cases l with
    | nil => exact absurd rfl hl
    | cons a t => exact (hs.2.cons a).trans ((List.perm_append_singleton last t).symm.cons a)

/-! ## the root is a minimum; refinement of the abstract priority queue -/

theorem root_le {h : List Nat} (hh : HeapFrom 0 h) : ∀ i, i < h.length → h.getD 0 0 ≤ h.getD i 0 := by
  intro i
  induction i using Nat.strongRecOn with
  | _ i ih =>
    intro hi
    by_cases h0 : i = 0
    · subst h0; exact Nat.le_refl _
    · have hp : (i - 1) / 2 < i := by omega
      exact Nat.le_trans (ih _ hp (by omega)) (hh i hi h0 (Nat.zero_le _))

theorem heappop_fst {h : List Nat} (hne : h ≠ []) : (heappop h).1 = some (h.getD 0 0) := by
  obtain ⟨l, last, rfl⟩ : ∃ l last, h = l ++ [last] := ⟨h.dropLast, h.getLast hne, (List.dropLast_concat_getLast hne).symm⟩
  unfold heappop
  simp only [List.getLast?_append, List.getLast?_singleton, Option.some_or, List.dropLast_concat]
  cases l with
  | nil => simp
  | cons a t => simp

/-- `heappop` on a heap: the popped key is in the heap, below every key; the rest is a heap holding the other keys -/
theorem heappop_min {h : List Nat} (hh : HeapFrom 0 h) (hne : h ≠ []) :
    ∃ m, (heappop h).1 = some m ∧ m ∈ h ∧ (∀ x ∈ h, m ≤ x) ∧ HeapFrom 0 (heappop h).2 ∧
      (m :: (heappop h).2).Perm h := by
  obtain ⟨m, h1, h2, h3⟩ := heappop_spec hh hne
  have hm : m = h.getD 0 0 := by rw [heappop_fst hne] at h1; exact (Option.some.inj h1).symm
  have hpos : 0 < h.length := List.length_pos_iff.mpr hne
  refine ⟨m, h1, ?_, ?_, h2, h3⟩
  · rw [hm, List.getD_eq_getElem?_getD, List.getElem?_eq_getElem hpos]; simp
  · intro x hx
    obtain ⟨i, hi, rfl⟩ := List.getElem_of_mem hx
    have := root_le hh i hi
    rw [hm]
    simpa [List.getD_eq_getElem?_getD, List.getElem?_eq_getElem hi] using this

theorem minOf_spec : ∀ (q : List Nat), q ≠ [] → ∃ m, minOf q = some m ∧ m ∈ q ∧ ∀ x ∈ q, m ≤ x
  | [], h => absurd rfl h
  | x :: xs, _ => by
    by_cases hx : xs = []
    · subst hx; exact ⟨x, by simp [minOf], by simp, by simp⟩
    · obtain ⟨m, h1, h2, h3⟩ := minOf_spec xs hx
      refine ⟨if x ≤ m then x else m, by simp [minOf, h1], ?_, ?_⟩
      · split
        · simp
        · exact List.mem_cons_of_mem _ h2
      · intro y hy
        rcases List.mem_cons.1 hy with rfl | hy
        · split <;> omega
        · have := h3 y hy
          split <;> omega

theorem minOf_eq {q : List Nat} {m : Nat} (hm : m ∈ q) (hle : ∀ x ∈ q, m ≤ x) : minOf q = some m := by
  obtain ⟨m', h1, h2, h3⟩ := minOf_spec q (List.ne_nil_of_mem hm)
  have : m' = m := Nat.le_antisymm (h3 m hm) (hle m' h2)
  rw [h1, this]

/-- a binary heap and a list holding the same keys answer every sequence of pushes and pops alike -/
theorem run_refines : ∀ (ops : List (Option Nat)) (h q : List Nat), HeapFrom 0 h → h.Perm q →
    runHeap h ops = runAbs q ops
  | [], _, _, _, _ => rfl
  | some v :: os, h, q, hh, hc => by
    have hs := heappush_spec v hh
    simp only [runHeap, runAbs]
    exact run_refines os _ _ hs.1 (hs.2.trans (hc.cons v))
  | none :: os, h, q, hh, hc => by
    simp only [runHeap, runAbs]
    by_cases hne : h = []
    · subst hne
      obtain rfl := hc.nil_eq
      simp only [heappop, absPop, minOf, List.getLast?_nil]
      rw [run_refines os [] [] hh hc]
    · obtain ⟨m, h1, h2, h3, h4, h5⟩ := heappop_min hh hne
      have hmq : m ∈ q := hc.subset h2
      have hmin : minOf q = some m := minOf_eq hmq (fun x hx => h3 x (hc.symm.subset hx))
      have hrest : (heappop h).2.Perm (q.erase m) := ((h5.trans hc).trans (List.perm_cons_erase hmq)).cons_inv
      have habs : absPop q = (some m, q.erase m) := by simp [absPop, hmin]
      rw [h1, habs, run_refines os _ _ h4 hrest]

/-- popping `k <= len` times from the abstract queue: the keys come out in increasing order, each is in the queue -/
theorem runAbs_pops : ∀ (k : Nat) (q : List Nat), k ≤ q.length →
    ∃ l : List Nat, runAbs q (List.replicate k none) = l.map some ∧ l.Pairwise (· ≤ ·) ∧ (∀ x ∈ l, x ∈ q) ∧
      l.length = k
  | 0, _, _ => ⟨[], rfl, List.Pairwise.nil, by simp, rfl⟩
  | k + 1, q, hk => by
    have hne : q ≠ [] := by intro e; subst e; simp at hk
    obtain ⟨m, h1, h2, h3⟩ := minOf_spec q hne
    have habs : absPop q = (some m, q.erase m) := by simp [absPop, h1]
    obtain ⟨l, e1, e2, e3, e4⟩ := runAbs_pops k (q.erase m) (by rw [List.length_erase_of_mem h2]; omega)
    refine ⟨m :: l, ?_, ?_, ?_, by simp [e4]⟩
    · simp only [List.replicate_succ, runAbs, habs, e1, List.map_cons]
    · exact List.pairwise_cons.2 ⟨fun x hx => h3 x (List.mem_of_mem_erase (e3 x hx)), e2⟩
    · intro x hx
      rcases List.mem_cons.1 hx with rfl | hx
      · exact h2
      · exact List.mem_of_mem_erase (e3 x hx)

end IrVerif.Sort.Heap
