/-
C15 part B, ill-scoped models: one call and the whole pass **without the scoping rule** (pairwise different non-empty
names on every list of recorded values, every value met is named; unique names are kept and the first holder of a name
keeps it).  The induction is in `Lemmas/NamesRec.lean`, the per-call statement `fixTop_recOrd` in
`Lemmas/NamesTotal.lean`.
-/
import IrVerif.Lemmas.NamesModel
namespace IrVerif.Names

/-- one `_fix_graph_names` call, **no scoping hypothesis**: the values recorded in every scope end with pairwise
different non-empty names, and every value the call can meet ends with a non-empty name -/
theorem fixTop_rec {w : World} {t : Top} (hok : InitsOk w) (hcl : Closed w.initOf t)
    (iv : Nat → List Nat) (hiv : ∀ g u, u ∈ iv g ↔ w.initOf u = some g) :
    (∀ L ∈ recScopes iv t.tr [] [], InjT (fixTop w t).vname L ∧ ∀ x ∈ L, TopC w.initOf t x)
    ∧ (∀ u, TopC w.initOf t u → truthy ((fixTop w t).vname u) = true) := by
  obtain ⟨_, sc, hseen⟩ := fixTop_recOrd hok hcl iv hiv
  constructor
  · intro L hL
    refine ⟨(sc L hL).injT, ?_⟩
    exact fun x hx => seenAfter_TopC hiv ((hseen x).mp ((sc L hL).seen x hx).1)
  · intro u hu
    have hin : u ∈ seenAfter iv t.tr [] := by
      rcases hu with h | ⟨g, hg, h⟩
      · exact mentioned_seen iv t.tr [] u h
      · exact graph_inits_seen iv t.tr [] g u hg ((hiv g u).mpr h)
    rcases seen_recorded iv t.tr [] [] u hin (by simp) with h | ⟨L, hL, hx⟩
    · simp [Top.tr, bodyVisR] at h
    · exact ((sc L hL).seen u hx).2

/-- the whole pass, **no scoping hypothesis**: on every list of recorded values pairwise different non-empty names, and
the first holder of a name keeps it (hence unique names are kept: `FirstB.keptOn`; names compared with those of the input
world); every value a call can meet ends named -/
theorem fixModel_recPost (iv : Nat → List Nat) (tops : List Top) (w : World) (h : InitsOk w)
    (hiv : ∀ g u, u ∈ iv g ↔ w.initOf u = some g)
    (hyp : ∀ t ∈ tops, Closed w.initOf t ∧ (allNodes t.body).Nodup)
    (hdisj : tops.Pairwise (TopDisj w.initOf)) :
    ∀ t ∈ tops,
      (∀ L ∈ recScopes iv t.tr [] [], PostOn w.vname (fixModel w tops).1.vname L)
      ∧ (∀ u, TopC w.initOf t u → truthy ((fixModel w tops).1.vname u) = true) := by
  intro t ht
  obtain ⟨w', ok', io', hv, _⟩ := fixModel_calls tops w h hyp t ht
  have hv := hv (hdisj.imp (fun d => d.1))
  have hcl' : Closed w'.initOf t := by rw [io']; exact (hyp t ht).1
  have hiv' : ∀ g u, u ∈ iv g ↔ w'.initOf u = some g := fun g u => by rw [io']; exact hiv g u
  obtain ⟨r1, r2⟩ := fixTop_rec ok' hcl' iv hiv'
  rw [io'] at r1 r2
  refine ⟨fun L hL => ⟨(r1 L hL).1.of_eq (fun x hx => (hv x ((r1 L hL).2 x hx)).2), ?_⟩,
    fun u hu => by rw [(hv u hu).2]; exact r2 u hu⟩
  exact (((fixTop_recOrd ok' hcl' iv hiv').2.1 L hL).first.fin_eq (fun x hx => (hv x ((r1 L hL).2 x hx)).2)).orig_eq
    (fun x hx => ((hv x ((r1 L hL).2 x hx)).1).symm)

end IrVerif.Names
