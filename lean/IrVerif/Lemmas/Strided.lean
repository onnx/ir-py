/-
Helper development for the strided-memory theorems of C04 (`Model/Strided.lean`): where the
logical element of a multi-index sits (`addr`), and the copy walk `gather` as the row-major
enumeration (`indices` of `Lemmas/RowMajor.lean`).
-/
import IrVerif.Model.Strided
import IrVerif.Lemmas.TensorReprAgree
import IrVerif.Lemmas.RowMajor
import IrVerif.Lemmas.ListFacts
namespace IrVerif.Strided
open IrVerif.Pack IrVerif.TensorRepr

/-- the byte address of the element with the given multi-index: `base + Σ index_k * stride_k` -/
def addr : List Int → Int → List Nat → Int
  | st :: sts, p, i :: is => addr sts (p + (i : Int) * st) is
  | _, p, _ => p

/-- the item bytes of the logical element at a multi-index -/
def Arr.itemAt (a : Arr) (idx : List Nat) : List Nat := item a.storage a.itemsize (addr a.strides a.offset idx)

/-- the value (bit pattern) of the logical element at a multi-index -/
def Arr.valueAt (a : Arr) (idx : List Nat) : Nat := ofLeBytes (leItem a.bigEndian a.complex (a.itemAt idx))

theorem gather_eq (storage : List Nat) (isz : Nat) (shape : List Nat) :
    ∀ (strides : List Int) (p : Int), strides.length = shape.length →
      gather storage isz shape strides p = (indices shape).map (fun idx => item storage isz (addr strides p idx)) := by
  induction shape with
  | nil => intro strides p _; cases strides <;> simp [gather, indices, addr]
  | cons n ns ih =>
    intro strides p h
    cases strides with
    | nil => simp at h
    | cons st sts =>
      have hl : sts.length = ns.length := by simpa using h
      simp only [gather, indices, List.map_flatMap, List.map_map]
      congr 1
      funext i
      rw [ih sts _ hl]
      apply List.map_congr_left
      intro idx _
      simp [addr]

theorem leItem_length (be cplx : Bool) (it : List Nat) : (leItem be cplx it).length = it.length := by
  unfold leItem
  cases be <;> cases cplx <;> simp
  omega

theorem leItem_mem (be cplx : Bool) (it : List Nat) : ∀ b ∈ leItem be cplx it, b ∈ it := by
  unfold leItem
  intro b hb
  cases be <;> cases cplx <;> simp at hb
  · exact hb
  · exact hb
  · exact hb
  · rcases hb with h | h
    · exact List.mem_of_mem_take h
    · exact List.mem_of_mem_drop h

theorem item_mem (storage : List Nat) (isz : Nat) (p : Int) : ∀ b ∈ item storage isz p, b ∈ storage := by
  intro b hb
  unfold item at hb
  split at hb
  · simp at hb
  · exact List.mem_of_mem_drop (List.mem_of_mem_take hb)

theorem items_eq (a : Arr) (h : a.strides.length = a.shape.length) :
    a.items = (indices a.shape).map a.itemAt :=
  gather_eq a.storage a.itemsize a.shape a.strides a.offset h

theorem units_eq (a : Arr) (h : a.strides.length = a.shape.length) :
    a.units = (indices a.shape).map a.valueAt := by
  unfold Arr.units
  rw [items_eq a h, List.map_map]
  rfl

theorem inBounds_elim {a : Arr} (h : a.inBounds = true) :
    a.strides.length = a.shape.length ∧ ∀ it ∈ a.items, it.length = a.itemsize := by
  unfold Arr.inBounds at h
  simp only [Bool.and_eq_true, beq_iff_eq, List.all_eq_true] at h
  exact h

theorem leItem_wf {a : Arr} (hib : a.inBounds = true) (hbytes : ∀ b ∈ a.storage, b < 256)
    {it : List Nat} (hit : it ∈ a.items) :
    (leItem a.bigEndian a.complex it).length = a.itemsize ∧
    ∀ b ∈ leItem a.bigEndian a.complex it, b < 256 :=
  ⟨by rw [leItem_length, (inBounds_elim hib).2 it hit], fun b hb => by
    -- an item of the walk is the item at some multi-index, cut out of the storage
    rw [items_eq a (inBounds_elim hib).1] at hit
    obtain ⟨idx, _, rfl⟩ := List.mem_map.mp hit
    exact hbytes b (item_mem _ _ _ b (leItem_mem _ _ _ b hb))⟩

theorem units_lt {a : Arr} (hib : a.inBounds = true) (hbytes : ∀ b ∈ a.storage, b < 256) :
    ∀ u ∈ a.units, u < 256 ^ a.itemsize := by
  intro u hu
  unfold Arr.units at hu
  obtain ⟨it, hit, rfl⟩ := List.mem_map.mp hu
  obtain ⟨hl, hb⟩ := leItem_wf hib hbytes hit
  exact hl ▸ ofLeBytes_lt _ hb

theorem flatMap_units {a : Arr} (hib : a.inBounds = true) (hbytes : ∀ b ∈ a.storage, b < 256) :
    a.units.flatMap (leBytes a.itemsize) = a.items.flatMap (leItem a.bigEndian a.complex) := by
  unfold Arr.units
  rw [List.flatMap_map]
  apply ListFacts.flatMap_congr_mem
  intro it hit
  obtain ⟨hl, hb⟩ := leItem_wf hib hbytes hit
  exact hl ▸ leBytes_ofLeBytes _ hb

/-- the transcribed `Tensor.tobytes` over strided memory is `tobytes` of the denoted representation -/
theorem tobytes_eq_rep (d : DType) (a : Arr) (nd : Bool) (hisz : a.itemsize = npItemBytes d)
    (hib : a.inBounds = true) (hbytes : ∀ b ∈ a.storage, b < 256) :
    a.tobytes d nd = (a.toRep d nd).tobytes := by
  unfold Arr.tobytes Arr.toRep
  by_cases hnb : (nd && a.bigEndian) = true
  · simp [hnb, Rep.tobytes, arrayMemBytes, arrayMemElems]
  · simp only [hnb, Bool.false_eq_true, ↓reduceIte, Rep.tobytes, arrayBytes]
    split
    · rfl
    · split
      · rfl
      · cases d.bitwidth with
        | none => rfl
        | some bw =>
          simp only [← hisz]
          by_cases h : bw = 8 * a.itemsize <;> simp [h, flatMap_units hib hbytes]

theorem torchTobytes_eq_rep (d : DType) (bw : Nat) (a : Arr) (hbw : d.bitwidth = some bw)
    (hisz : a.itemsize = npItemBytes d) (hle : a.bigEndian = false)
    (hib : a.inBounds = true) (hbytes : ∀ b ∈ a.storage, b < 256) :
    a.torchTobytes d = (a.toTorchRep d).tobytes := by
  unfold Arr.torchTobytes Arr.toTorchRep
  simp only [Rep.tobytes, torchBytes, hbw]
  split
  · rfl
  · split
    · rfl
    · rename_i ht h2
      have F := facts d bw hbw
      -- a torch type that is not packed has whole bytes: no 4-bit type is mapped
      have hw : bw / 8 = a.itemsize := by
        rw [hisz]
        cases F.storage with
        | nibbles => exact absurd rfl (F.torch (by simpa using ht))
        | crumbs _ h2' => exact absurd h2' h2
        | bytes k _ _ _ _ hi => rw [hi, Nat.mul_div_cancel_left k (by decide)]
      rw [hw, flatMap_units hib hbytes, hle]
      have : leItem false a.complex = id := by funext it; simp [leItem]
      rw [this]
      simp

theorem wf_strided {d : DType} {bw : Nat} {a : Arr} (hbw : d.bitwidth = some bw)
    (hib : a.inBounds = true) : WF d a.shape bw (obsBits bw a.units) :=
  wf_obsBits hbw (by rw [units_eq a (inBounds_elim hib).1, List.length_map, indices_length])

theorem legal_strided (d : DType) (bw : Nat) (a : Arr) (nd : Bool) (hbw : d.bitwidth = some bw)
    (hisz : a.itemsize = npItemBytes d) (hnb : (nd && a.bigEndian) = false)
    (hib : a.inBounds = true) (hbytes : ∀ b ∈ a.storage, b < 256) :
    WF d a.shape bw (obsBits bw a.units) ∧ Legal d a.shape bw (obsBits bw a.units) (a.toRep d nd) := by
  refine ⟨wf_strided hbw hib, ?_⟩
  unfold Arr.toRep
  simp only [hnb, Bool.false_eq_true, ↓reduceIte]
  exact Legal.array a.units (by rw [← hisz]; exact units_lt hib hbytes) rfl

theorem legal_strided_torch (d : DType) (bw : Nat) (a : Arr)
    (hisz : a.itemsize = npItemBytes d) (ht : d.torchMapped = true)
    (hib : a.inBounds = true) (hbytes : ∀ b ∈ a.storage, b < 256) :
    Legal d a.shape bw (obsBits bw a.units) (a.toTorchRep d) :=
  Legal.torch a.units ht (by rw [← hisz]; exact units_lt hib hbytes) rfl

end IrVerif.Strided
