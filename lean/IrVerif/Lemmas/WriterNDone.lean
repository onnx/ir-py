/-
C09, general model: running and completed futures (`KInv`) — what a successful return implies for every tensor, and
that a pool closed with an error has a failed tensor below it — and the induction over reachable states for `Inv`,
`KInv`, `GInv` (`reachable_all`).
-/
import IrVerif.Lemmas.WriterNLog
namespace IrVerif.WriterN

/-- Whoever works on a job finds its future running (`act_run`, `own_run`); a successful future means its tensors are
    written or its inner pool closed without error (`ok_done`, `ok_sub`); what an owner has consumed without seeing an
    error is `ok`, and is everything once it joins (`cok`, `call`); a failed future has a failed tensor or an inner pool
    closed with an error, and an owner that has seen an error has consumed a failed future (`err_cause`, `closed_err`). -/
structure KInv (cfg : Cfg) (s : State) : Prop where
  act_run : ∀ i p, s.tasks[i]? = some p → act p = true → s.futs[cfg.job i]? = some .running
  own_run : ∀ q jp, (cfg.pool q).parent = some jp → ownAct (s.pl q).owner = true →
    s.futs[jp]? = some .running
  ok_done : ∀ j : Nat, s.futs[j]? = some .ok → ∀ i, i < cfg.n → cfg.job i = j →
    s.tasks[i]? = some (.done true)
  ok_sub : ∀ (j q' : Nat), s.futs[j]? = some .ok → (cfg.jobc j).sub = some q' →
    (s.pl q').owner = .closed false
  cok : ∀ q, ((s.pl q).owner = .collect ∨ (s.pl q).owner = .join false ∨ (s.pl q).owner = .closed false) →
    ∀ j ∈ (s.pl q).collected, s.futs[j]? = some .ok
  call : ∀ q, ((s.pl q).owner = .join false ∨ (s.pl q).owner = .closed false) →
    (s.pl q).collected.length = (cfg.pool q).jobs.length
  err_cause : ∀ j : Nat, s.futs[j]? = some .err →
    (∃ i, cfg.job i = j ∧ s.tasks[i]? = some (.done false)) ∨
    (∃ q', (cfg.jobc j).sub = some q' ∧ (s.pl q').owner = .closed true)
  closed_err : ∀ q, ((s.pl q).owner = .join true ∨ (s.pl q).owner = .closed true) →
    ∃ j, j ∈ (s.pl q).collected ∧ s.futs[j]? = some .err

theorem KInv_init {cfg : Cfg} (wf : WF cfg) : KInv cfg (init cfg) := by
  have hown : ∀ q, (q = 0 ∧ ((init cfg).pl q).owner = .submit 0) ∨ ((init cfg).pl q).owner = .notCreated := by
    intro q
    rcases init_pl_cases cfg q with ⟨h0, e⟩ | e <;> rw [e]
    · exact Or.inl ⟨h0, rfl⟩
    · exact Or.inr rfl
  refine ⟨?_, ?_, ?_, ?_, ?_, ?_, ?_, ?_⟩
  · intro i p hi hp; simp [init, List.getElem?_replicate] at hi; rw [← hi.2] at hp; simp at hp
  · intro q jp hpar ho
    exfalso
    rcases hown q with ⟨rfl, _⟩ | e
    · rw [wf.root] at hpar; simp at hpar
    · rw [e] at ho; simp [ownAct] at ho
  · intro j hj; simp [init, List.getElem?_replicate] at hj
  · intro j q' hj; simp [init, List.getElem?_replicate] at hj
  · intro q hq; rcases hown q with ⟨_, e⟩ | e <;> rw [e] at hq <;> simp at hq
  · intro q hq; rcases hown q with ⟨_, e⟩ | e <;> rw [e] at hq <;> simp at hq
  · intro j hj; simp [init, List.getElem?_replicate] at hj
  · intro q hq; rcases hown q with ⟨_, e⟩ | e <;> rw [e] at hq <;> simp at hq

theorem KInv_congr {cfg : Cfg} {s s' : State} (h : KInv cfg s) (ht : s'.tasks = s.tasks)
    (hf : s'.futs = s.futs) (ho : ∀ q, (s'.pl q).owner = (s.pl q).owner)
    (hc : ∀ q, (s'.pl q).collected = (s.pl q).collected) : KInv cfg s' := by
  refine ⟨by rw [ht, hf]; exact h.act_run, fun q jp hp hq => by rw [ho] at hq; rw [hf]; exact h.own_run q jp hp hq,
    by rw [ht, hf]; exact h.ok_done, fun j q' hj hs => by rw [hf] at hj; rw [ho]; exact h.ok_sub j q' hj hs,
    fun q hq j hj => by rw [ho] at hq; rw [hc] at hj; rw [hf]; exact h.cok q hq j hj,
    fun q hq => by rw [ho] at hq; rw [hc]; exact h.call q hq, fun j hj => ?_,
    fun q hq => by rw [ho] at hq; rw [hc, hf]; exact h.closed_err q hq⟩
  rw [hf] at hj
  rcases h.err_cause j hj with ⟨i, h1, h2⟩ | ⟨q', h1, h2⟩
  · exact Or.inl ⟨i, h1, by rw [ht]; exact h2⟩
  · exact Or.inr ⟨q', h1, by rw [ho]; exact h2⟩

theorem KInv_set {cfg : Cfg} {s s' : State} (h : KInv cfg s) {i : Nat} {p x : Pc}
    (hi : s.tasks[i]? = some p) (hp : act p = true)
    (ht : s'.tasks = s.tasks.set i x) (hf : s'.futs = s.futs) (hps : s'.pools = s.pools) :
    KInv cfg s' := by
  have hpl : ∀ q, s'.pl q = s.pl q := fun q => by simp [State.pl, hps]
  refine ⟨?_, fun q jp hpar hq => by rw [hpl] at hq; rw [hf]; exact h.own_run q jp hpar hq, ?_,
    fun j q' hj hs => by rw [hf] at hj; rw [hpl]; exact h.ok_sub j q' hj hs,
    fun q hq j hj => by rw [hpl] at hq hj; rw [hf]; exact h.cok q hq j hj,
    fun q hq => by rw [hpl] at hq ⊢; exact h.call q hq, fun j hj => ?_,
    fun q hq => by rw [hpl] at hq ⊢; rw [hf]; exact h.closed_err q hq⟩
  · intro k q hk hq
    rw [hf]; rw [ht] at hk
    by_cases e : i = k
    · subst e; exact h.act_run i p hi hp
    · simp only [List.getElem?_set, e, if_false] at hk; exact h.act_run k q hk hq
  · intro j hj k hk hjk
    rw [hf] at hj; rw [ht]
    have := h.ok_done j hj k hk hjk
    by_cases e : i = k
    · subst e
      have := h.act_run i p hi hp
      rw [hjk, hj] at this; simp at this
    · simp only [List.getElem?_set, e, if_false]; exact this
  ·
    rw [hf] at hj
    rcases h.err_cause j hj with ⟨i', h1, h2⟩ | ⟨q', h1, h2⟩
    · have e : i ≠ i' := by intro e; subst e; rw [hi] at h2; simp at h2; subst h2; simp at hp
      exact Or.inl ⟨i', h1, by rw [ht]; simp only [List.getElem?_set, e, if_false]; exact h2⟩
    · exact Or.inr ⟨q', h1, by rw [hpl]; exact h2⟩

theorem KInv_wake {cfg : Cfg} {s : State} (h : KInv cfg s) :
    KInv cfg { s with tasks := s.tasks.map wake } := by
  refine ⟨?_, h.own_run, ?_, h.ok_sub, h.cok, h.call, fun j hj => ?_, h.closed_err⟩
  · intro k q hk hq
    simp only [List.getElem?_map, Option.map_eq_some_iff] at hk
    obtain ⟨q0, hq0, rfl⟩ := hk
    exact h.act_run k q0 hq0 (by rw [act_wake] at hq; exact hq)
  · intro j hj k hk hjk
    simp [h.ok_done j hj k hk hjk, wake]
  · rcases h.err_cause j hj with ⟨i', h1, h2⟩ | ⟨q', h1, h2⟩
    · exact Or.inl ⟨i', h1, by simp [h2, wake]⟩
    · exact Or.inr ⟨q', h1, h2⟩

theorem K_complete {cfg : Cfg} {s : State} (h : KInv cfg s) {j0 : Nat} (ok : Bool)
    (hrun : s.futs[j0]? = some .running)
    (hact : ∀ (i : Nat) (p : Pc), s.tasks[i]? = some p → act p = true → cfg.job i ≠ j0)
    (hown : ∀ q, (cfg.pool q).parent = some j0 → ownAct (s.pl q).owner = false)
    (hokd : ok = true → ∀ i, i < cfg.n → cfg.job i = j0 → s.tasks[i]? = some (.done true))
    (hoks : ok = true → ∀ q', (cfg.jobc j0).sub = some q' → (s.pl q').owner = .closed false)
    (herr : ok = false → (∃ i, cfg.job i = j0 ∧ s.tasks[i]? = some (.done false)) ∨
      (∃ q', (cfg.jobc j0).sub = some q' ∧ (s.pl q').owner = .closed true)) :
    KInv cfg { s with futs := s.futs.set j0 (if ok then .ok else .err) } := by
  have hjf := getElem?_lt hrun
  have other : ∀ {j : Nat} {g : Fut}, s.futs[j]? = some g → g ≠ .running →
      (s.futs.set j0 (if ok then .ok else .err))[j]? = some g := by
    intro j g hj hg
    rw [List.getElem?_set_ne (fun e => by subst e; rw [hrun] at hj; exact hg (Option.some.inj hj).symm)]
    exact hj
  have old : ∀ {j : Nat} {g : Fut}, (s.futs.set j0 (if ok then .ok else .err))[j]? = some g → j ≠ j0 →
      s.futs[j]? = some g := by
    intro j g hj hne; rwa [List.getElem?_set_ne (Ne.symm hne)] at hj
  have new : ∀ {g : Fut}, (s.futs.set j0 (if ok then .ok else .err))[j0]? = some g →
      g = if ok then .ok else .err := by
    intro g hj; rw [List.getElem?_set_self hjf] at hj; exact (Option.some.inj hj).symm
  refine ⟨fun i p hi hp => ?_, fun q jp hpar hq => ?_, fun j hj i hi hji => ?_, fun j q' hj hsub => ?_,
    fun q hq j hj => other (h.cok q hq j hj) nofun, h.call, fun j hj => ?_, fun q hq => ?_⟩
  · exact (List.getElem?_set_ne (Ne.symm (hact i p hi hp))).trans (h.act_run i p hi hp)
  · have hne : jp ≠ j0 := by intro e; subst e; exact Bool.noConfusion ((hown q hpar).symm.trans hq)
    exact (List.getElem?_set_ne (Ne.symm hne)).trans (h.own_run q jp hpar hq)
  · by_cases e : j = j0
    · subst e; have := new hj; cases ok <;> simp at this; exact hokd rfl i hi hji
    · exact h.ok_done j (old hj e) i hi hji
  · by_cases e : j = j0
    · subst e; have := new hj; cases ok <;> simp at this; exact hoks rfl q' hsub
    · exact h.ok_sub j q' (old hj e) hsub
  · by_cases e : j = j0
    · subst e; have := new hj; cases ok <;> simp at this; exact herr rfl
    · exact h.err_cause j (old hj e)
  · obtain ⟨j, h1, h2⟩ := h.closed_err q hq; exact ⟨j, h1, other h2 nofun⟩

theorem KInv_finish {cfg : Cfg} (wf : WF cfg) {s : State} (h : KInv cfg s) (hs : SInv cfg s)
    {i : Nat} {p : Pc} (ok : Bool) (hi : s.tasks[i]? = some p) (hp : act p = true) :
    KInv cfg (finishTask cfg s i ok) := by
  have hlt := getElem?_lt hi
  have hil : i < cfg.n := by rw [← hs.tasks_len]; exact hlt
  have hpd : p ≠ .done true := by intro e; subst e; simp at hp
  have hpn : p ≠ .notStarted := by intro e; subst e; simp at hp
  have hrun := h.act_run i p hi hp
  have hjf : cfg.job i < s.futs.length := getElem?_lt hrun
  have hser := wf.job_serial i hil
  rcases finishTask_cases cfg s i ok with ⟨rfl, hn, e⟩ | ⟨hno, e⟩
  · rw [e]
    have hnext := hs.next_notStarted hi hpd hn
    obtain ⟨hlt1, hj1⟩ := hasNext_iff.1 hn
    refine ⟨?_, h.own_run, ?_, h.ok_sub, h.cok, h.call, fun j hj => ?_, h.closed_err⟩
    · intro k q hk hq
      by_cases e2 : i + 1 = k
      · subst e2; rw [hj1]; exact hrun
      · simp only [List.getElem?_set, e2, if_false] at hk
        by_cases e1 : i = k
        · subst e1; simp [hlt] at hk; subst hk; simp at hq
        · simp only [e1, if_false] at hk; exact h.act_run k q hk hq
    · intro j hj k hk hjk
      have := h.ok_done j hj k hk hjk
      have hne : cfg.job i ≠ j := by intro e3; rw [e3, hj] at hrun; simp at hrun
      have e1 : i ≠ k := by intro e1; subst e1; exact hne hjk
      have e2 : i + 1 ≠ k := by intro e2; subst e2; rw [hj1] at hjk; exact hne hjk
      simp only [List.getElem?_set, e1, e2, if_false]; exact this
    · rcases h.err_cause j hj with ⟨i', h1, h2⟩ | ⟨q', h1, h2⟩
      · have e1 : i ≠ i' := by intro e1; subst e1; rw [hi] at h2; simp at h2; subst h2; simp at hp
        have e2 : i + 1 ≠ i' := by intro e2; subst e2; rw [hnext] at h2; simp at h2
        exact Or.inl ⟨i', h1, by simp only [List.getElem?_set, e1, e2, if_false]; exact h2⟩
      · exact Or.inr ⟨q', h1, h2⟩
  · rw [e]
    -- the tensor is done, then the future of its job completes, then the thread is idle again
    have h1 : KInv cfg { s with tasks := s.tasks.set i (.done ok) } := KInv_set h hi hp rfl rfl rfl
    have hdone : (s.tasks.set i (.done ok))[i]? = some (.done ok) := by simp [hlt]
    have h2 := K_complete h1 (j0 := cfg.job i) ok hrun (fun k q hk hq e1 => ?_) (fun q hpar => ?_)
      (fun hok k hk hjk => ?_) (fun _ q' hsub => by rw [hser] at hsub; cases hsub)
      (fun hok => Or.inl ⟨i, rfl, hok ▸ hdone⟩)
    · exact KInv_congr h2 rfl rfl (fun q => addIdle_owner _ _ _) (fun q => addIdle_collected _ _ _)
    ·
      by_cases e2 : i = k
      · subst e2; rw [hdone] at hk; cases hk; simp at hq
      · have hk' : s.tasks[k]? = some q := by
          simpa only [List.getElem?_set, e2, if_false] using hk
        exact e2 (hs.act_unique hi hk' hp hq e1.symm)
    ·
      cases ho : ownAct (s.pl q).owner with
      | false => exact ho
      | true =>
        have hql : q < cfg.nPools := by
          rw [← hs.pools_len]; exact pl_lt_of_owner (by intro e2; rw [e2] at ho; simp [ownAct] at ho)
        have := (wf.parent_sub q _ hql hpar).2
        rw [hser] at this; cases this
    ·
      subst hok
      have hnn : cfg.hasNext i = false := hno.resolve_left (by decide)
      rcases Nat.lt_trichotomy k i with hlt' | heq | hgt
      · have := hs.order k i p hlt' hjk.symm hi hpn
        have e1 : i ≠ k := by omega
        simp only [List.getElem?_set, e1, if_false]; exact this
      · subst heq; exact hdone
      · exfalso
        have := wf.contig i k hgt hk hjk
        have : cfg.hasNext i = true := hasNext_iff.2 ⟨by omega, this⟩
        rw [hnn] at this; simp at this

theorem K_futs {cfg : Cfg} {s : State} (h : KInv cfg s) {fs : List Fut}
    (hR : ∀ j : Nat, s.futs[j]? = some .running → fs[j]? = some .running)
    (hO : ∀ j : Nat, fs[j]? = some .ok ↔ s.futs[j]? = some .ok)
    (hE : ∀ j : Nat, fs[j]? = some .err ↔ s.futs[j]? = some .err) :
    KInv cfg { s with futs := fs } :=
  ⟨fun i p hi hp => hR _ (h.act_run i p hi hp), fun q jp hpar hq => hR _ (h.own_run q jp hpar hq),
   fun j hj => h.ok_done j ((hO j).1 hj), fun j q' hj hs => h.ok_sub j q' ((hO j).1 hj) hs,
   fun q hq j hj => (hO j).2 (h.cok q hq j hj), h.call, fun j hj => h.err_cause j ((hE j).1 hj),
   fun q hq => by obtain ⟨j, h1, h2⟩ := h.closed_err q hq; exact ⟨j, h1, (hE j).2 h2⟩⟩

theorem K_set_pool {cfg : Cfg} {s : State} (h : KInv cfg s) {q : Nat} {P P' : PoolSt}
    (hP : s.pools[q]? = some P)
    (hact : ownAct P'.owner = true → ownAct P.owner = true ∨
      ∀ jp, (cfg.pool q).parent = some jp → s.futs[jp]? = some .running)
    (hcl : P.owner = .closed false → P'.owner = .closed false)
    (hcok : (P'.owner = .collect ∨ P'.owner = .join false ∨ P'.owner = .closed false) →
      ∀ j ∈ P'.collected, s.futs[j]? = some .ok)
    (hcall : (P'.owner = .join false ∨ P'.owner = .closed false) →
      P'.collected.length = (cfg.pool q).jobs.length)
    (hcle : P.owner = .closed true → P'.owner = .closed true)
    (hce : (P'.owner = .join true ∨ P'.owner = .closed true) →
      ∃ j, j ∈ P'.collected ∧ s.futs[j]? = some .err) :
    KInv cfg { s with pools := s.pools.set q P' } := by
  have hplq := pl_of_get hP
  have hpl : ∀ q', ({ s with pools := s.pools.set q P' } : State).pl q' = if q' = q then P' else s.pl q' :=
    fun q' => pl_upd hP q'
  refine ⟨h.act_run, ?_, h.ok_done, ?_, ?_, ?_, ?_, ?_⟩
  · intro q' jp hpar hq'
    rw [hpl] at hq'
    split at hq'
    · rename_i e; subst e
      rcases hact hq' with h1 | h1
      · exact h.own_run q' jp hpar (by rw [hplq]; exact h1)
      · exact h1 jp hpar
    · exact h.own_run q' jp hpar hq'
  · intro j q' hj hsub
    rw [hpl]; split
    · rename_i e; subst e
      have := h.ok_sub j q' hj hsub
      rw [hplq] at this; exact hcl this
    · exact h.ok_sub j q' hj hsub
  · intro q' hq' j hj
    rw [hpl] at hq' hj
    by_cases e : q' = q
    · simp only [e, if_true] at hq' hj; exact hcok hq' j hj
    · simp only [e, if_false] at hq' hj; exact h.cok q' hq' j hj
  · intro q' hq'
    rw [hpl] at hq' ⊢
    split at hq'
    · rename_i e; subst e; simp only [if_true]; exact hcall hq'
    · rename_i e; simp only [e, if_false]; exact h.call q' hq'
  · intro j hj
    rcases h.err_cause j hj with h1 | ⟨q', h1, h2⟩
    · exact Or.inl h1
    · refine Or.inr ⟨q', h1, ?_⟩
      rw [hpl]; split
      · rename_i e; subst e; rw [hplq] at h2; exact hcle h2
      · exact h2
  · intro q' hq'
    rw [hpl] at hq' ⊢
    by_cases e : q' = q
    · simp only [e, if_true] at hq' ⊢; exact hce hq'
    · simp only [e, if_false] at hq' ⊢; exact h.closed_err q' hq'

theorem K_same_pool {cfg : Cfg} {s : State} (h : KInv cfg s) {q : Nat} {P P' : PoolSt}
    (hP : s.pools[q]? = some P) (ho : P'.owner = P.owner) (hc : P'.collected = P.collected) :
    KInv cfg { s with pools := s.pools.set q P' } := by
  have hplq := pl_of_get hP
  refine K_set_pool h hP (fun x => Or.inl (by rw [← ho]; exact x)) (fun x => by rw [ho]; exact x)
    (fun hq j hj => h.cok q (by rw [hplq, ← ho]; exact hq) j (by rw [hplq, ← hc]; exact hj))
    (fun hq => by rw [hc, ← hplq]; exact h.call q (by rw [hplq, ← ho]; exact hq))
    (fun x => by rw [ho]; exact x)
    (fun hq => by rw [hc, ← hplq]; exact h.closed_err q (by rw [hplq, ← ho]; exact hq))

/-- the owner of pool `q` has joined its threads and leaves the executor with what it has collected -/
theorem K_close {cfg : Cfg} {s : State} (h : KInv cfg s) {q : Nat} {P : PoolSt} {e : Bool}
    (hP : s.pools[q]? = some P) (hm : P.owner = .join e) :
    KInv cfg { s with pools := s.pools.set q { P with owner := .closed e } } := by
  have hplq := pl_of_get hP
  refine K_set_pool h hP (hact := fun x => by simp [ownAct] at x) (hcl := fun x => by rw [hm] at x; simp at x)
    (hcle := fun x => by rw [hm] at x; simp at x) (hcok := fun hq j hj => ?_) (hcall := fun hq => ?_)
    (hce := fun hq => ?_)
  · simp at hq; subst hq
    exact h.cok q (Or.inr (Or.inl (by rw [hplq]; exact hm))) j (by rw [hplq]; exact hj)
  · simp at hq; subst hq
    have := h.call q (Or.inl (by rw [hplq]; exact hm)); rw [hplq] at this; exact this
  · simp at hq; subst hq
    have := h.closed_err q (Or.inl (by rw [hplq]; exact hm)); rw [hplq] at this; exact this

theorem K_start_task {cfg : Cfg} {s : State} (h : KInv cfg s) {k : Nat} {x : Pc}
    (hk : s.tasks[k]? = some .notStarted) (hrun : s.futs[cfg.job k]? = some .running) :
    KInv cfg { s with tasks := s.tasks.set k x } := by
  refine ⟨?_, h.own_run, ?_, h.ok_sub, h.cok, h.call, fun j hj => ?_, h.closed_err⟩
  · intro i p hi hp
    by_cases e : k = i
    · subst e; exact hrun
    · simp only [List.getElem?_set, e, if_false] at hi; exact h.act_run i p hi hp
  · intro j hj i hi hji
    have := h.ok_done j hj i hi hji
    by_cases e : k = i
    · subst e; rw [hk] at this; simp at this
    · simp only [List.getElem?_set, e, if_false]; exact this
  · rcases h.err_cause j hj with ⟨i', h1, h2⟩ | h1
    · have e : k ≠ i' := by intro e; subst e; rw [hk] at h2; simp at h2
      exact Or.inl ⟨i', h1, by simp only [List.getElem?_set, e, if_false]; exact h2⟩
    · exact Or.inr h1

theorem K_set_fut_sub {cfg : Cfg} (wf : WF cfg) {s : State} (h : KInv cfg s)
    (htl : s.tasks.length = cfg.n) (hpll : s.pools.length = cfg.nPools) {q jp : Nat} {e : Bool} (hql : q < cfg.nPools) (hpar : (cfg.pool q).parent = some jp)
    (hclosed : (s.pl q).owner = .closed e) (hold : s.futs[jp]? = some .running) :
    KInv cfg { s with futs := s.futs.set jp (if e then .err else .ok) } := by
  obtain ⟨hjpl, hjsub⟩ := wf.parent_sub q jp hql hpar
  have hnot : ∀ i, i < cfg.n → cfg.job i ≠ jp := fun i hi e1 => by
    have := wf.job_serial i hi; rw [e1, hjsub] at this; cases this
  have hq' : ∀ q', (cfg.jobc jp).sub = some q' → q' = q := fun q' hsub => by
    rw [hjsub] at hsub; exact (Option.some.inj hsub).symm
  have := K_complete h (!e) hold (fun i p hi _ => hnot i (by rw [← htl]; exact getElem?_lt hi))
    (fun q' hpar' => ?_) (fun _ i hi hji => absurd hji (hnot i hi))
    (fun he q' hsub => by rw [hq' q' hsub, hclosed]; cases e <;> simp at he ⊢)
    (fun he => Or.inr ⟨q, hjsub, by rw [hclosed]; cases e <;> simp at he ⊢⟩)
  · cases e <;> exact this
  · cases ho : ownAct (s.pl q').owner with
    | false => rfl
    | true =>
      have hq'l : q' < cfg.nPools := by
        rw [← hpll]; exact pl_lt_of_owner (by intro e2; rw [e2] at ho; simp [ownAct] at ho)
      rw [hq' q' (wf.parent_sub q' jp hq'l hpar').2, hclosed] at ho; cases ho

theorem set_get_iff {l : List Fut} {j : Nat} {f0 new g : Fut} (hj : l[j]? = some f0) (h0 : f0 ≠ g) (h1 : new ≠ g)
    (x : Nat) : (l.set j new)[x]? = some g ↔ l[x]? = some g := by
  by_cases e : j = x
  · subst e
    rw [List.getElem?_set_self (getElem?_lt hj), hj]
    exact ⟨fun h => absurd (Option.some.inj h) h1, fun h => absurd (Option.some.inj h) h0⟩
  · rw [List.getElem?_set_ne e]

theorem cancel_get_iff {fs : List Fut} {Q : List Nat} (hQ : ∀ x ∈ Q, fs[x]? = some .pending) {g : Fut}
    (h0 : Fut.pending ≠ g) (h1 : Fut.cancelled ≠ g) (x : Nat) :
    (Q.foldl (fun fs x => fs.set x Fut.cancelled) fs)[x]? = some g ↔ fs[x]? = some g := by
  rw [foldl_set_get]; split
  · rename_i hin
    rw [hQ x hin.1]
    exact ⟨fun h => absurd (Option.some.inj h) h1, fun h => absurd (Option.some.inj h) h0⟩
  · rfl

theorem KInv_step {cfg : Cfg} (wf : WF cfg) {s s' : State} {l : Label} (hI : Inv cfg s)
    (h : KInv cfg s) (hst : StepRel cfg s l s') : KInv cfg s' := by
  have hs := hI.s
  have setrun : ∀ {j : Nat}, s.futs[j]? = some .pending →
      KInv cfg { s with futs := s.futs.set j .running } := fun {j} hpj =>
    K_futs h (fun x hx => by
        rw [List.getElem?_set_ne (fun e => by subst e; rw [hpj] at hx; cases hx)]; exact hx)
      (set_get_iff hpj nofun nofun) (set_get_iff hpj nofun nofun)
  cases hst with
  | submit q c k j P hP hk hj =>
      have hplq := pl_of_get hP
      have hcol : P.collected = [] := by
        have := hI.c.sub q (Or.inr ⟨k, by rw [hplq]; exact hk⟩); rw [hplq] at this; exact this
      refine K_set_pool h hP (hact := fun _ => Or.inl (by rw [hk]; rfl))
        (hcl := fun x => by rw [hk] at x; simp at x) (hcle := fun x => by rw [hk] at x; simp at x)
        (hcok := fun _ j' hj' => by simp [hcol] at hj') (hcall := fun hq => ?_) (hce := fun hq => ?_)
      · simp only at hq; rcases hq with hq | hq <;> (split at hq <;> simp at hq)
      · simp only at hq; rcases hq with hq | hq <;> (split at hq <;> simp at hq)
  | collect q c j ok P hP hm hjj hf =>
      have hplq := pl_of_get hP
      have hcokP := h.cok q (Or.inl (by rw [hplq]; exact hm))
      rw [hplq] at hcokP
      have hnc : ∀ {b : Bool}, P.owner = .closed b → False := fun x => by rw [hm] at x; simp at x
      have hok' : s.futs[j]? = some .ok → ∀ x ∈ j :: P.collected, s.futs[x]? = some .ok := by
        intro hf x hx; simp at hx; rcases hx with rfl | hx
        · exact hf
        · exact hcokP x hx
      have stays : ∀ {P' : PoolSt} {F : Prop}, ownAct P'.owner = true → ownAct P.owner = true ∨ F :=
        fun _ => Or.inl (by rw [hm]; rfl)
      rcases collectOne_cases cfg s q P j ok with ⟨rfl, _, e⟩ | ⟨rfl, _, e⟩ | ⟨rfl, hl, e⟩ | ⟨rfl, _, e⟩ <;> rw [e]
      · -- cancel: first the futures, then the pool record
        have hqp : ∀ x ∈ P.queue, s.futs[x]? = some .pending := fun x hx =>
          (hs.q_pending q x (by rw [hplq]; exact hx)).1
        have h1 := K_futs h (fs := P.queue.foldl (fun fs x => fs.set x .cancelled) s.futs)
          (fun x => (cancel_get_iff hqp (g := .running) nofun nofun x).2) (cancel_get_iff hqp nofun nofun)
          (cancel_get_iff hqp nofun nofun)
        exact K_set_pool h1 hP (hact := stays) (hcl := fun x => (hnc x).elim) (hcle := fun x => (hnc x).elim)
          (hcok := fun hq => by simp at hq) (hcall := fun hq => by simp at hq)
          (hce := fun _ => ⟨j, by simp, (cancel_get_iff hqp (g := .err) nofun nofun j).2 hf⟩)
      · exact K_set_pool h hP (hact := stays) (hcl := fun x => (hnc x).elim) (hcle := fun x => (hnc x).elim)
          (hcok := fun hq => by simp at hq) (hcall := fun hq => by simp at hq) (hce := fun _ => ⟨j, by simp, hf⟩)
      · exact K_set_pool h hP (hact := stays) (hcl := fun x => (hnc x).elim) (hcle := fun x => (hnc x).elim)
          (hcok := fun _ => hok' hf) (hcall := fun _ => hl) (hce := fun hq => by simp at hq)
      · exact K_set_pool h hP (hact := stays) (hcl := fun x => (hnc x).elim) (hcle := fun x => (hnc x).elim)
          (hcok := fun _ => hok' hf) (hcall := fun hq => by simp [hm] at hq) (hce := fun hq => by simp [hm] at hq)
  | joinRoot q c e P hP hm hex hpar => exact K_close h hP hm
  | joinSub q c e P jp hP hm hex hpar =>
      have hplq := pl_of_get hP
      have hql : q < cfg.nPools := by rw [← hs.pools_len]; exact getElem?_lt hP
      have hold := h.own_run q jp hpar (by rw [hplq, hm]; rfl)
      have h1 := K_close h hP hm
      have h2 : KInv cfg { s with pools := addIdle (s.pools.set q { P with owner := .closed e })
                                            (cfg.jobc jp).pool } :=
        KInv_congr h1 rfl rfl (fun q' => addIdle_owner _ _ _) (fun q' => addIdle_collected _ _ _)
      have hcl : (({ s with pools := addIdle (s.pools.set q { P with owner := .closed e })
                                       (cfg.jobc jp).pool } : State).pl q).owner = .closed e := by
        simp only [State.pl]; rw [addIdle_owner, pl_upd hP]; simp
      exact K_set_fut_sub wf h2 hs.tasks_len (by simp [addIdle_length, hs.pools_len]) hql hpar hcl hold
  | takeSerial q j rest P hP hq hidle hsub =>
      have hplq := pl_of_get hP
      obtain ⟨_, _, hpj, hpool, hjl, hncP⟩ := take_facts hs hP hq
      have hjq : j ∈ (s.pl q).queue := by rw [hplq, hq]; simp
      have hst := hs.start_notStarted wf hjq hsub
      have hjf : j < s.futs.length := getElem?_lt hpj
      have h1 := setrun hpj
      have h2 := K_same_pool h1 (P' := { P with queue := rest, idle := P.idle - 1 }) hP rfl rfl
      exact K_start_task h2 hst (by
        show (s.futs.set j .running)[cfg.job (cfg.jobc j).start]? = some .running
        rw [wf.start_job j hjl hsub]; simp [hjf])
  | takeSub q j rest P q' hP hq hidle hsub =>
      obtain ⟨_, _, hpj, _, hjl, _⟩ := take_facts hs hP hq
      have hpar := (wf.sub_pool j q' hjl hsub).2.1
      have hjf : j < s.futs.length := getElem?_lt hpj
      obtain ⟨hqq, hfr, hset⟩ := takeSub_facts wf hs hP hq hsub
      have hget := set_pl_get { P with queue := rest, idle := P.idle - 1 } hqq hset
      have h1 := setrun hpj
      have h2 := K_same_pool h1 (P' := { P with queue := rest, idle := P.idle - 1 }) hP rfl rfl
      exact K_set_pool h2 (q := q')
        (P' := { (s.pools.set q { P with queue := rest, idle := P.idle - 1 }).getD q' default with
                 owner := .submit 0, idle := (cfg.pool q').size }) hget
        (fun _ => Or.inr (fun jp' hp' => by
          rw [hpar] at hp'; simp at hp'; subst hp'
          show (s.futs.set j .running)[j]? = some .running
          simp [hjf]))
        (fun x => by rw [hfr] at x; simp at x) (fun hq' => by simp at hq') (fun hq' => by simp at hq')
        (fun x => by rw [hfr] at x; simp at x) (fun hq' => by simp at hq')
  | exit q P hP hq hsd hidle =>
      exact K_same_pool h (P' := { P with idle := P.idle - 1, exited := P.exited + 1 }) hP rfl rfl
  | cbAcqIn i hi hl => exact KInv_set h hi rfl rfl rfl rfl
  | cbAcq i hi hl => exact KInv_set h hi rfl rfl rfl rfl
  | cbFail i hi hf =>
      refine KInv_finish wf ?_ (SInv_cbExit hs i) false hi rfl
      exact KInv_congr h rfl rfl (fun _ => rfl) (fun _ => rfl)
  | cbOk i hi hf => exact KInv_set h hi rfl rfl rfl rfl
  | tAcq i hi hl => exact KInv_set h hi rfl rfl rfl rfl
  | bTry i p hi hp' =>
      have hp1 : act p = true := by rcases hp' with rfl | rfl <;> rfl
      rcases budgetTry_cases cfg s i with ⟨_, _, e⟩ | ⟨_, _, e⟩ | ⟨_, _, e⟩ | ⟨_, _, e⟩ <;> rw [e] <;>
        exact KInv_set h hi hp1 rfl rfl rfl
  | writeFail i hi hf => exact KInv_set h hi rfl rfl rfl rfl
  | writeOk i hi hf => exact KInv_set h hi rfl rfl rfl rfl
  | bRel i ok hi =>
      unfold budgetRelease
      refine KInv_finish wf (p := .bRel ok) ?_ ?_ ok (by simp [hi, wake]) rfl
      · exact KInv_congr (s := { s with tasks := s.tasks.map wake }) (KInv_wake h) rfl rfl
          (fun _ => rfl) (fun _ => rfl)
      · exact SInv_release hs i

theorem closed_ok_all {cfg : Cfg} (wf : WF cfg) {s : State} (hI : Inv cfg s) (h : KInv cfg s)
    (hroot : (s.pl 0).owner = .closed false) : ∀ q, q < cfg.nPools → (s.pl q).owner = .closed false :=
  wf.pool_induction hroot fun q jp _ _ _ hjsub hmem hpar =>
    -- the parent pool has consumed all its futures, all `ok`
    h.ok_sub jp q (h.cok _ (Or.inr (Or.inr hpar)) jp
      (mem_of_full (hI.c.nodup _) (hI.c.mem _) (h.call _ (Or.inr hpar)) jp hmem)) hjsub

theorem all_done_of_closed_ok {cfg : Cfg} (wf : WF cfg) {s : State} (hI : Inv cfg s) (h : KInv cfg s)
    (hroot : (s.pl 0).owner = .closed false) : ∀ i, i < cfg.n → s.tasks[i]? = some (.done true) := by
  intro i hi
  have hjl := wf.job_lt i hi
  have hql := wf.poolOf_lt hi
  have hcl := closed_ok_all wf hI h hroot (cfg.poolOf i) hql
  have hall := h.call _ (Or.inr hcl)
  have hmem := mem_of_full (hI.c.nodup _) (hI.c.mem _) hall (cfg.job i) (wf.pool_job _ hjl)
  have hok := h.cok _ (Or.inr (Or.inr hcl)) (cfg.job i) hmem
  exact h.ok_done _ hok i hi rfl


theorem closed_err_cause {cfg : Cfg} (wf : WF cfg) {s : State} (hI : Inv cfg s) (h : KInv cfg s) :
    ∀ q, (s.pl q).owner = .closed true → ∃ i : Nat, s.tasks[i]? = some (.done false) := by
  refine wf.pool_descent fun q ih ho => ?_
  obtain ⟨j, hj1, hj2⟩ := h.closed_err q (Or.inr ho)
  rcases h.err_cause j hj2 with ⟨i, _, hi⟩ | ⟨q', hsub, hq'⟩
  · exact ⟨i, hi⟩
  · -- the failed job ran the sub-writer of pool `q'`, which is owned from `q`
    have hjl : j < cfg.nJobs := by rw [← hI.s.futs_len]; exact getElem?_lt hj2
    obtain ⟨hq'l, hpar, _⟩ := wf.sub_pool j q' hjl hsub
    have hjp := (wf.job_pool q j (hI.c.mem q j hj1)).2.1
    exact ih q' hq'l (by simp [parentPool, hpar, hjp]) hq'

/-- `Inv`, and on top of it (their step lemmas use it) the invariants about outcomes and about the callback log -/
structure Reach (cfg : Cfg) (s : State) : Prop where
  inv : Inv cfg s
  k : KInv cfg s
  g : GInv s

theorem reachable_all {cfg : Cfg} (wf : WF cfg) {s : State} (h : Reachable cfg s) : Reach cfg s := by
  induction h with
  | init => exact ⟨Inv_init wf, KInv_init wf, GInv_init cfg⟩
  | step l _ hst ih =>
      have hr := stepRel_of_step hst
      exact ⟨Inv_step wf ih.inv hr, KInv_step wf ih.inv ih.k hr, GInv_step wf ih.inv.s ih.g hr⟩

theorem reachable_Inv {cfg : Cfg} (wf : WF cfg) {s : State} (h : Reachable cfg s) : Inv cfg s :=
  (reachable_all wf h).inv

theorem finished_ok_all_done {cfg : Cfg} (wf : WF cfg) {s : State} (h : Reachable cfg s)
    (hm : (s.pl 0).owner = .closed false) : ∀ i, i < cfg.n → s.tasks[i]? = some (.done true) :=
  have hR := reachable_all wf h
  all_done_of_closed_ok wf hR.inv hR.k hm

end IrVerif.WriterN
