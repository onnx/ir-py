/-
C14: flag honesty and idempotence of OutputFixPass on C05's pass model.
-/
import IrVerif.Model.PassFlags2
import IrVerif.Lemmas.SemOutputFix
import IrVerif.Lemmas.PassInfra
namespace IrVerif.Passes
open IrVerif.Sem

/-! what holds of every walk of OutputFixPass over an output list, whichever outputs it replaces (`Aliased`) -/

theorem Aliased.len0 {outs : List VId} {next : Nat} {r : List VId × List Node × Nat} (h : Aliased outs next r)
    (h0 : r.2.1.length = 0) : r = (outs, [], next) := by
  induction h with
  | nil => rfl
  | fresh _ _ => simp at h0
  | keep _ ih => rw [ih h0]

theorem Aliased.mem {outs : List VId} {next : Nat} {r : List VId × List Node × Nat} (h : Aliased outs next r) :
    ∀ x ∈ r.1, x ∈ outs ∨ next ≤ x := by
  induction h with
  | nil => exact fun _ h => absurd h List.not_mem_nil
  | fresh _ ih =>
    intro x hx
    rcases List.mem_cons.1 hx with hx | hx
    · exact Or.inr (Nat.le_of_eq hx.symm)
    · exact (ih x hx).imp (List.mem_cons_of_mem _) Nat.le_of_succ_le
  | keep _ ih =>
    intro x hx
    rcases List.mem_cons.1 hx with hx | hx
    · exact Or.inl (hx ▸ List.mem_cons_self)
    · exact (ih x hx).imp_left (List.mem_cons_of_mem _)

theorem Aliased.nobodies {outs : List VId} {next : Nat} {r : List VId × List Node × Nat} (h : Aliased outs next r) :
    ∀ n ∈ r.2.1, n.bodies = [] := by
  induction h with
  | nil => exact fun _ h => absurd h List.not_mem_nil
  | fresh _ ih => exact fun n hn => (List.mem_cons.1 hn).elim (fun e => e ▸ rfl) (ih n)
  | keep _ ih => exact ih

end IrVerif.Passes

namespace IrVerif.PassFlags
open IrVerif.Sem IrVerif.Passes

/-! ## no Identity node inserted: nothing changes -/

mutual
theorem ofixG_cnt0 (gi : List VId) : ∀ (g : Graph) (next : Nat),
    ofixCntG gi next g = 0 → ofixG gi next g = (g, next)
  | .mk inputs outputs inits nodes, next, h => by
    simp only [ofixCntG] at h
    have hn := ofixNodes_cnt0 gi nodes next (by omega)
    simp only [hn] at h
    have h1 := (ofixMulti_aliased outputs [] next).len0 (by omega)
    simp only [h1, List.length_nil, Nat.add_zero] at h
    have h2 := (ofixDirect_aliased gi outputs next).len0 (by omega)
    simp only [ofixG, hn, h1, h2, fixedInputs, List.filterMap_nil, List.foldl_nil, List.append_nil]
theorem ofixNodes_cnt0 (gi : List VId) : ∀ (ns : List Node) (next : Nat),
    ofixCntNodes gi next ns = 0 → ofixNodes gi next ns = (ns, next)
  | [], _, _ => rfl
  | .mk op attrs ins outs bodies :: ns, next, h => by
    simp only [ofixCntNodes] at h
    have hb := ofixBodies_cnt0 gi bodies next (by omega)
    simp only [hb] at h
    have hn := ofixNodes_cnt0 gi ns next (by omega)
    simp only [ofixNodes, hb, hn]
theorem ofixBodies_cnt0 (gi : List VId) : ∀ (bs : List Graph) (next : Nat),
    ofixCntBodies gi next bs = 0 → ofixBodies gi next bs = (bs, next)
  | [], _, _ => rfl
  | b :: bs, next, h => by
    simp only [ofixCntBodies] at h
    have hg := ofixG_cnt0 gi b next (by omega)
    simp only [hg] at h
    have hb := ofixBodies_cnt0 gi bs next (by omega)
    simp only [ofixBodies, hg, hb]
end

/-! ## after the pass every output list is duplicate free and holds no graph input -/

theorem ofixMulti_clean : ∀ (outs seen : List VId) (next : Nat), (∀ o ∈ outs, o < next) → (∀ s ∈ seen, s < next) →
    (ofixMulti seen outs next).1.Nodup ∧ ∀ x ∈ (ofixMulti seen outs next).1, x ∉ seen
  | [], _, _, _, _ => by simp [ofixMulti]
  | o :: rest, seen, next, ho, hs => by
    have hrest : ∀ o' ∈ rest, o' < next := fun o' h => ho o' (List.mem_cons_of_mem _ h)
    simp only [ofixMulti]
    split
    · next hc =>
      have ih := ofixMulti_clean rest seen (next + 1) (fun o' h => Nat.lt_succ_of_lt (hrest o' h))
        (fun s h => Nat.lt_succ_of_lt (hs s h))
      have hnot : next ∉ (ofixMulti seen rest (next + 1)).1 := by
        intro hm
        rcases (ofixMulti_aliased rest seen (next + 1)).mem next hm with h | h
        · exact absurd (hrest next h) (Nat.lt_irrefl _)
        · omega
      refine ⟨List.nodup_cons.2 ⟨hnot, ih.1⟩, fun x hx => ?_⟩
      rcases List.mem_cons.1 hx with hx | hx
      · intro hm; rw [hx] at hm; exact absurd (hs next hm) (Nat.lt_irrefl _)
      · exact ih.2 x hx
    · next hc =>
      have ih := ofixMulti_clean rest (o :: seen) next hrest (fun s h => by
        rcases List.mem_cons.1 h with h | h
        · rw [h]; exact ho o List.mem_cons_self
        · exact hs s h)
      refine ⟨List.nodup_cons.2 ⟨fun hm => ih.2 o hm List.mem_cons_self, ih.1⟩, fun x hx => ?_⟩
      rcases List.mem_cons.1 hx with hx | hx
      · rw [hx]; intro hm; exact hc (by simpa using hm)
      · intro hm; exact ih.2 x hx (List.mem_cons_of_mem _ hm)

theorem ofixMulti_of_clean : ∀ (l seen : List VId) (n : Nat), l.Nodup → (∀ x ∈ l, x ∉ seen) →
    ofixMulti seen l n = (l, [], n)
  | [], _, _, _, _ => rfl
  | o :: rest, seen, n, hnd, hd => by
    have hnd' := List.nodup_cons.1 hnd
    have ho : seen.contains o = false := by
      have := hd o List.mem_cons_self
      simpa using this
    have ih := ofixMulti_of_clean rest (o :: seen) n hnd'.2 (fun x hx hm => by
      rcases List.mem_cons.1 hm with hm | hm
      · rw [hm] at hx; exact hnd'.1 hx
      · exact hd x (List.mem_cons_of_mem _ hx) hm)
    simp only [ofixMulti, ho, Bool.false_eq_true, if_false, ih]

theorem ofixDirect_mem (gi : List VId) : ∀ (outs : List VId) (next : Nat) (x : VId),
    x ∈ (ofixDirect gi outs next).1 → (x ∈ outs ∧ x ∉ gi) ∨ next ≤ x
  | [], _, x, h => by simp [ofixDirect] at h
  | o :: rest, next, x, h => by
    simp only [ofixDirect] at h
    split at h
    · rcases List.mem_cons.1 h with h | h
      · right; exact Nat.le_of_eq h.symm
      · rcases ofixDirect_mem gi rest (next + 1) x h with h | h
        · left; exact ⟨List.mem_cons_of_mem _ h.1, h.2⟩
        · right; exact Nat.le_of_succ_le h
    · next hc =>
      rcases List.mem_cons.1 h with h | h
      · left; rw [h]; exact ⟨List.mem_cons_self, by simpa using hc⟩
      · rcases ofixDirect_mem gi rest next x h with h | h
        · left; exact ⟨List.mem_cons_of_mem _ h.1, h.2⟩
        · right; exact h

theorem ofixDirect_nodup (gi : List VId) : ∀ (outs : List VId) (next : Nat), outs.Nodup → (∀ o ∈ outs, o < next) →
    (ofixDirect gi outs next).1.Nodup
  | [], _, _, _ => by simp [ofixDirect]
  | o :: rest, next, hnd, ho => by
    have hnd' := List.nodup_cons.1 hnd
    have hrest : ∀ o' ∈ rest, o' < next := fun o' h => ho o' (List.mem_cons_of_mem _ h)
    simp only [ofixDirect]
    split
    · have ih := ofixDirect_nodup gi rest (next + 1) hnd'.2 (fun o' h => Nat.lt_succ_of_lt (hrest o' h))
      refine List.nodup_cons.2 ⟨fun hm => ?_, ih⟩
      rcases ofixDirect_mem gi rest (next + 1) next hm with h | h
      · exact absurd (hrest next h.1) (Nat.lt_irrefl _)
      · omega
    · have ih := ofixDirect_nodup gi rest next hnd'.2 hrest
      refine List.nodup_cons.2 ⟨fun hm => ?_, ih⟩
      rcases ofixDirect_mem gi rest next o hm with h | h
      · exact hnd'.1 h.1
      · exact absurd (Nat.lt_of_lt_of_le (ho o List.mem_cons_self) h) (Nat.lt_irrefl _)

theorem ofixDirect_of_clean (gi : List VId) : ∀ (l : List VId) (n : Nat), (∀ x ∈ l, x ∉ gi) →
    ofixDirect gi l n = (l, [], n)
  | [], _, _ => rfl
  | o :: rest, n, hd => by
    have ho : gi.contains o = false := by
      have := hd o List.mem_cons_self
      simpa using this
    have ih := ofixDirect_of_clean gi rest n (fun x hx => hd x (List.mem_cons_of_mem _ hx))
    simp only [ofixDirect, ho, Bool.false_eq_true, if_false, ih]

theorem ofixNodes_nobodies (gi : List VId) : ∀ (ns : List Node) (n' : Nat), (∀ n ∈ ns, n.bodies = []) →
    ofixCntNodes gi n' ns = 0 ∧ ofixNodes gi n' ns = (ns, n')
  | [], _, _ => ⟨rfl, rfl⟩
  | .mk op attrs ins outs bodies :: ns, n', h => by
    have hb : bodies = [] := h (.mk op attrs ins outs bodies) List.mem_cons_self
    subst hb
    have ih := ofixNodes_nobodies gi ns n' (fun n hn => h n (List.mem_cons_of_mem _ hn))
    refine ⟨?_, ?_⟩ <;> simp [ofixCntNodes, ofixCntBodies, ofixBodies, ofixNodes, ih.1, ih.2]

theorem ofixCntNodes_append (gi : List VId) : ∀ (a b : List Node) (n : Nat),
    ofixCntNodes gi n (a ++ b) = ofixCntNodes gi n a + ofixCntNodes gi (ofixNodes gi n a).2 b
  | [], b, n => by simp [ofixCntNodes, ofixNodes]
  | .mk op attrs ins outs bodies :: a, b, n => by
    simp only [List.cons_append, ofixCntNodes, ofixNodes, ofixCntNodes_append gi a b]
    omega

mutual
/-- on the result the count is 0: the processed nodes are clean (induction), the inserted Identity nodes have no
    bodies, and the new output list is `Nodup` and free of graph inputs because fresh ids are at least `next` -/
theorem ofixG_clean (gi : List VId) : ∀ (g : Graph) (next : Nat), (∀ v ∈ gi, v < next) →
    (∀ v ∈ boutsG g, v < next) → ∀ n', ofixCntG gi n' (ofixG gi next g).1 = 0
  | .mk inputs outputs inits nodes, next, hgi, hb, n' => by
    have hbo : ∀ v ∈ outputs, v < next := fun v hv => hb v (by simp [boutsG, hv])
    have hbn : ∀ v ∈ boutsNodes nodes, v < next := fun v hv => hb v (by simp [boutsG, hv])
    have hm := ofixNodes_mono gi nodes next
    have ho1 : ∀ o ∈ outputs, o < (ofixNodes gi next nodes).2 := fun o ho => Nat.lt_of_lt_of_le (hbo o ho) hm
    have hmm := ofixMulti_mono outputs [] (ofixNodes gi next nodes).2
    have hc1 := ofixMulti_clean outputs [] (ofixNodes gi next nodes).2 ho1 (by simp)
    have hlt1 := ofixMulti_lt outputs [] (ofixNodes gi next nodes).2 ho1
    have hnd2 := ofixDirect_nodup gi _ _ hc1.1 hlt1
    have hng : ∀ x ∈ (ofixDirect gi (ofixMulti [] outputs (ofixNodes gi next nodes).2).1
        (ofixMulti [] outputs (ofixNodes gi next nodes).2).2.2).1, x ∉ gi := by
      intro x hx hg
      rcases ofixDirect_mem gi _ _ x hx with h | h
      · exact h.2 hg
      · exact absurd (Nat.lt_of_lt_of_le (hgi x hg) (Nat.le_trans hm (Nat.le_trans hmm h))) (Nat.lt_irrefl _)
    have ihn := ofixNodes_clean gi nodes next hgi hbn
    have hcn : ∀ n'', ofixCntNodes gi n'' (ofixG gi next (.mk inputs outputs inits nodes)).1.nodes = 0 ∧
        ofixNodes gi n'' (ofixG gi next (.mk inputs outputs inits nodes)).1.nodes =
          ((ofixG gi next (.mk inputs outputs inits nodes)).1.nodes, n'') := by
      intro n''
      have hz : ofixCntNodes gi n'' (ofixG gi next (.mk inputs outputs inits nodes)).1.nodes = 0 := by
        simp only [ofixG, Graph.nodes, List.append_assoc]
        rw [ofixCntNodes_append, ihn n'', ofixNodes_cnt0 gi _ n'' (ihn n'')]
        simp only [Nat.zero_add]
        exact (ofixNodes_nobodies gi _ n'' (fun n hn => by
          rcases List.mem_append.1 hn with hn | hn
          · exact (ofixMulti_aliased _ _ _).nobodies n hn
          · exact (ofixDirect_aliased gi _ _).nobodies n hn)).1
      exact ⟨hz, ofixNodes_cnt0 gi _ n'' hz⟩
    have hg : (ofixG gi next (.mk inputs outputs inits nodes)).1 =
        .mk inputs (ofixDirect gi (ofixMulti [] outputs (ofixNodes gi next nodes).2).1
            (ofixMulti [] outputs (ofixNodes gi next nodes).2).2.2).1
          (ofixG gi next (.mk inputs outputs inits nodes)).1.inits
          (ofixG gi next (.mk inputs outputs inits nodes)).1.nodes := by
      simp only [ofixG, Graph.inits, Graph.nodes]
    rw [hg]
    simp only [ofixCntG, (hcn n').1, (hcn n').2, ofixMulti_of_clean _ [] n' hnd2 (by simp),
      ofixDirect_of_clean gi _ n' hng]
    rfl
theorem ofixNodes_clean (gi : List VId) : ∀ (ns : List Node) (next : Nat), (∀ v ∈ gi, v < next) →
    (∀ v ∈ boutsNodes ns, v < next) → ∀ n', ofixCntNodes gi n' (ofixNodes gi next ns).1 = 0
  | [], _, _, _, _ => rfl
  | .mk op attrs ins outs bodies :: ns, next, hgi, hb, n' => by
    have hm := ofixBodies_mono gi bodies next
    have ihb := ofixBodies_clean gi bodies next hgi (fun v hv => hb v (by simp [boutsNodes, boutsN, hv]))
    have ihn := ofixNodes_clean gi ns (ofixBodies gi next bodies).2
      (fun v hv => Nat.lt_of_lt_of_le (hgi v hv) hm)
      (fun v hv => Nat.lt_of_lt_of_le (hb v (by simp [boutsNodes, hv])) hm)
    simp only [ofixNodes, ofixCntNodes, ihb n', ihn]
theorem ofixBodies_clean (gi : List VId) : ∀ (bs : List Graph) (next : Nat), (∀ v ∈ gi, v < next) →
    (∀ v ∈ boutsBodies bs, v < next) → ∀ n', ofixCntBodies gi n' (ofixBodies gi next bs).1 = 0
  | [], _, _, _, _ => rfl
  | b :: bs, next, hgi, hb, n' => by
    have hm := ofixG_mono gi b next
    have ihg := ofixG_clean gi b next hgi (fun v hv => hb v (by simp [boutsBodies, hv]))
    have ihb := ofixBodies_clean gi bs (ofixG gi next b).2
      (fun v hv => Nat.lt_of_lt_of_le (hgi v hv) hm)
      (fun v hv => Nat.lt_of_lt_of_le (hb v (by simp [boutsBodies, hv])) hm)
    simp only [ofixBodies, ofixCntBodies, ihg n', ihb]
end

/-! ## graph inputs are untouched -/

theorem ginsNodes_append : ∀ (a b : List Node), ginsNodes (a ++ b) = ginsNodes a ++ ginsNodes b
  | [], _ => rfl
  | .mk op attrs ins outs bodies :: a, b => by
    simp only [List.cons_append, ginsNodes, ginsNodes_append a b, List.append_assoc]

theorem ginsNodes_nobodies : ∀ (ns : List Node), (∀ n ∈ ns, n.bodies = []) → ginsNodes ns = []
  | [], _ => rfl
  | .mk op attrs ins outs bodies :: ns, h => by
    have hb : bodies = [] := h (.mk op attrs ins outs bodies) List.mem_cons_self
    subst hb
    simp only [ginsNodes, ginsBodies, List.nil_append]
    exact ginsNodes_nobodies ns (fun n hn => h n (List.mem_cons_of_mem _ hn))

mutual
theorem ofixG_gins (gi : List VId) : ∀ (g : Graph) (next : Nat), ginsG (ofixG gi next g).1 = ginsG g
  | .mk inputs outputs inits nodes, next => by
    have h1 : ginsNodes (ofixMulti [] outputs (ofixNodes gi next nodes).2).2.1 = [] :=
      ginsNodes_nobodies _ (ofixMulti_aliased _ _ _).nobodies
    have h2 : ginsNodes (ofixDirect gi (ofixMulti [] outputs (ofixNodes gi next nodes).2).1
        (ofixMulti [] outputs (ofixNodes gi next nodes).2).2.2).2.1 = [] :=
      ginsNodes_nobodies _ (ofixDirect_aliased gi _ _).nobodies
    simp only [ofixG, ginsG, ginsNodes_append, ofixNodes_gins gi nodes next, h1, h2, List.append_nil]
theorem ofixNodes_gins (gi : List VId) : ∀ (ns : List Node) (next : Nat), ginsNodes (ofixNodes gi next ns).1 = ginsNodes ns
  | [], _ => rfl
  | .mk op attrs ins outs bodies :: ns, next => by
    simp only [ofixNodes, ginsNodes, ofixBodies_gins gi bodies next, ofixNodes_gins gi ns]
theorem ofixBodies_gins (gi : List VId) : ∀ (bs : List Graph) (next : Nat), ginsBodies (ofixBodies gi next bs).1 = ginsBodies bs
  | [], _ => rfl
  | b :: bs, next => by
    simp only [ofixBodies, ginsBodies, ofixG_gins gi b next, ofixBodies_gins gi bs]
end

mutual
theorem ginsG_sub_defs {v : VId} : ∀ g : Graph, v ∈ ginsG g → v ∈ defsG g
  | .mk inputs outputs inits nodes, h => by
    simp only [ginsG, List.mem_append] at h
    simp only [defsG, List.mem_append]
    rcases h with h | h
    · exact Or.inl (Or.inl h)
    · exact Or.inr (ginsNodes_sub_defs nodes h)
theorem ginsNodes_sub_defs {v : VId} : ∀ ns : List Node, v ∈ ginsNodes ns → v ∈ defsNodes ns
  | [], h => by simp [ginsNodes] at h
  | .mk op attrs ins outs bodies :: ns, h => by
    simp only [ginsNodes, List.mem_append] at h
    simp only [defsNodes, defsN, List.mem_append]
    rcases h with h | h
    · exact Or.inl (Or.inr (ginsBodies_sub_defs bodies h))
    · exact Or.inr (ginsNodes_sub_defs ns h)
theorem ginsBodies_sub_defs {v : VId} : ∀ bs : List Graph, v ∈ ginsBodies bs → v ∈ defsBodies bs
  | [], h => by simp [ginsBodies] at h
  | b :: bs, h => by
    simp only [ginsBodies, List.mem_append] at h
    simp only [defsBodies, List.mem_append]
    rcases h with h | h
    · exact Or.inl (ginsG_sub_defs b h)
    · exact Or.inr (ginsBodies_sub_defs bs h)
end

end IrVerif.PassFlags

namespace IrVerif.PassInfra
open IrVerif.Sem IrVerif.Passes IrVerif.PassFlags

theorem ofixCount_ofixModel (m : Model) : ofixCount (ofixModel m) = 0 := by
  have hgi : ∀ v ∈ ginsG m.graph ++ ginsBodies m.funcs, v < freshId m := by
    intro v hv
    apply lt_freshId_of_mem
    simp only [List.mem_append] at hv ⊢
    rcases hv with hv | hv
    · exact Or.inl (Or.inl (Or.inr (ginsG_sub_defs _ hv)))
    · exact Or.inr (ginsBodies_sub_defs _ hv)
  have hbg : ∀ v ∈ boutsG m.graph, v < freshId m := by
    intro v hv
    apply lt_freshId_of_mem
    simp only [List.mem_append]
    exact Or.inl (Or.inl (Or.inl ((mem_refsG v m.graph).2 (Or.inr hv))))
  have hbf : ∀ v ∈ boutsBodies m.funcs, v < freshId m := by
    intro v hv
    apply lt_freshId_of_mem
    simp only [List.mem_append]
    exact Or.inl (Or.inr ((mem_refsBodies v m.funcs).2 (Or.inr hv)))
  have hm := ofixG_mono (ginsG m.graph ++ ginsBodies m.funcs) m.graph (freshId m)
  have c1 := ofixG_clean (ginsG m.graph ++ ginsBodies m.funcs) m.graph (freshId m) hgi hbg
  have c2 := ofixBodies_clean (ginsG m.graph ++ ginsBodies m.funcs) m.funcs _
    (fun v hv => Nat.lt_of_lt_of_le (hgi v hv) hm) (fun v hv => Nat.lt_of_lt_of_le (hbf v hv) hm)
  simp only [ofixCount, ofixModel, ofixG_gins, ofixBodies_gins, c1, c2]

/-- OutputFix counts the Identity nodes it inserts, and that count is its own measure: it is 0 after the pass -/
theorem ofixCounted : Counted ofixModel ofixCount ofixCount := by
  refine ⟨fun m h => ?_, fun m => by rw [ofixCount_ofixModel]; omega⟩
  simp only [ofixCount] at h
  have h1 := ofixG_cnt0 (ginsG m.graph ++ ginsBodies m.funcs) m.graph (freshId m) (by omega)
  simp only [h1] at h
  have h2 := ofixBodies_cnt0 (ginsG m.graph ++ ginsBodies m.funcs) m.funcs (freshId m) (by omega)
  obtain ⟨g, fs⟩ := m
  simp only at h1 h2
  simp only [ofixModel, h1, h2]

end IrVerif.PassInfra
