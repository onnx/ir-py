/-
Helper development for C18_eval: evaluating a node list under an arbitrary interpretation of the
operators, and the agreement of the extracted list with the source list on every required value.
-/
import IrVerif.Lemmas.Extract
namespace IrVerif.Extract

/-! An environment gives every value id a value; an interpretation gives, for a node of the table and an
environment, the value of each of its outputs.  Nodes with graph attributes are interpreted as a whole
(whatever their bodies compute); the only constraint used is `LocalAt`, at the nodes of the source list: the
result may depend only on the node's inputs and on the values its nested graphs capture. -/

abbrev Env (α : Type) := VId → α
abbrev Interp (α : Type) := NId → Env α → VId → α

def NotProducedIn (W : World) (l : List NId) (u : VId) : Prop :=
  ∀ m, m ∈ l → ¬ u ∈ (W.nodeD m).outputs

theorem NotProducedIn.cons {W : World} {n : NId} {l : List NId} {u : VId}
    (hn : ¬ u ∈ (W.nodeD n).outputs) (hl : NotProducedIn W l u) : NotProducedIn W (n :: l) u := by
  intro m hm
  rcases List.mem_cons.mp hm with rfl | hm
  · exact hn
  · exact hl m hm

def LocalAt {α : Type} (W : World) (p : GId) (F : Interp α) (n : NId) : Prop :=
  ∀ (e e' : Env α), (∀ u, Needs W p n u → e u = e' u) → ∀ o, o ∈ (W.nodeD n).outputs → F n e o = F n e' o

def Local {α : Type} (W : World) (p : GId) (F : Interp α) : Prop := ∀ n, LocalAt W p F n

def evalNode {α : Type} (W : World) (F : Interp α) (e : Env α) (n : NId) : Env α :=
  fun v => if v ∈ (W.nodeD n).outputs then F n e v else e v

def evalNodes {α : Type} (W : World) (F : Interp α) (ns : List NId) (e : Env α) : Env α :=
  ns.foldl (evalNode W F) e

theorem evalNodes_append {α : Type} {W : World} {F : Interp α} (l1 l2 : List NId) (e : Env α) :
    evalNodes W F (l1 ++ l2) e = evalNodes W F l2 (evalNodes W F l1 e) := by
  unfold evalNodes
  rw [List.foldl_append]

/-- one node of the extracted graph: the values in `fz` (boundary inputs whose consumers were rewired to the
    graph input, D153) are never overwritten -/
def evalNodeFz {α : Type} (W : World) (F : Interp α) (fz : List VId) (e : Env α) (n : NId) : Env α :=
  fun v => if v ∈ fz then e v else if v ∈ (W.nodeD n).outputs then F n e v else e v

def evalNodesFz {α : Type} (W : World) (F : Interp α) (fz : List VId) (ns : List NId) (e : Env α) : Env α :=
  ns.foldl (evalNodeFz W F fz) e

theorem evalNodesFz_nil {α : Type} (W : World) (F : Interp α) (ns : List NId) (e : Env α) :
    evalNodesFz W F [] ns e = evalNodes W F ns e := by
  have hf : evalNodeFz W F [] = evalNode W F := by
    funext e n v
    simp [evalNodeFz, evalNode]
  unfold evalNodesFz evalNodes
  rw [hf]

theorem evalNodesFz_not_produced {α : Type} {W : World} {F : Interp α} {fz : List VId} {u : VId} :
    ∀ (l : List NId) (e : Env α), NotProducedIn W l u → evalNodesFz W F fz l e u = e u
  | [], e, _ => rfl
  | n :: l, e, h => by
    unfold evalNodesFz
    simp only [List.foldl_cons]
    have h1 : NotProducedIn W l u := fun m hm => h m (List.mem_cons_of_mem _ hm)
    have := evalNodesFz_not_produced (F := F) (fz := fz) l (evalNodeFz W F fz e n) h1
    unfold evalNodesFz at this
    rw [this]
    unfold evalNodeFz
    simp [h n List.mem_cons_self]

theorem evalNodes_not_produced {α : Type} {W : World} {F : Interp α} {u : VId} (l : List NId) (e : Env α)
    (h : NotProducedIn W l u) : evalNodes W F l e u = e u := by
  rw [← evalNodesFz_nil]
  exact evalNodesFz_not_produced l e h

theorem evalNodesFz_append {α : Type} {W : World} {F : Interp α} {fz : List VId} (l1 l2 : List NId)
    (e : Env α) :
    evalNodesFz W F fz (l1 ++ l2) e = evalNodesFz W F fz l2 (evalNodesFz W F fz l1 e) := by
  unfold evalNodesFz
  rw [List.foldl_append]

/-- single assignment + topological order of the source node list, relative to what a node needs -/
def TopoSorted (W : World) (p : GId) : List NId → Prop
  | [] => True
  | n :: rest => (∀ u, Needs W p n u → NotProducedIn W (n :: rest) u) ∧ TopoSorted W p rest

structure SourceOK (W : World) (p : GId) (g : List NId) : Prop where
  nodup : g.Nodup
  /-- `producer()` of an output of a node of the list is that node -/
  prodOut : ∀ n, n ∈ g → ∀ o, o ∈ (W.nodeD n).outputs → W.prod o = some n
  /-- a value whose `producer()` is `n` is among the outputs of `n` -/
  outProd : ∀ v n, W.prod v = some n → v ∈ (W.nodeD n).outputs
  sorted : TopoSorted W p g

/-- with consistent producer pointers a value without producer is produced by no node of the list -/
theorem notProduced_of_prod_none {W : World} {p : GId} {g : List NId} (hS : SourceOK W p g) {u : VId}
    (hp : W.prod u = none) : NotProducedIn W g u := by
  intro m hm ho
  have := hS.prodOut m hm u ho
  rw [hp] at this
  cases this

theorem TopoSorted.tail {W : World} {p : GId} : ∀ {pre l : List NId}, TopoSorted W p (pre ++ l) → TopoSorted W p l
  | [], _, h => h
  | _ :: pre, _, h => TopoSorted.tail (pre := pre) h.2

section
variable {α : Type} {W : World} {p : GId} {F : Interp α} {I O : List VId} {g : List NId}
variable (keep : NId → Bool) (fz : List VId) (env0 env1 : Env α)

/-- the core induction: `pre` has been executed on both sides; the extracted side runs the kept nodes and
    never overwrites the values in `fz ⊆ I` -/
theorem evalNodesFz_filter_agree (hF : ∀ n, n ∈ g → LocalAt W p F n) (hS : SourceOK W p g)
    (hkeep : ∀ n, n ∈ g → (keep n = true ↔ NeedN W p I O n))
    (hfz : ∀ u, u ∈ fz → u ∈ I)
    (hI : ∀ u, u ∈ I → env1 u = evalNodes W F g env0 u) :
    ∀ (l pre : List NId), g = pre ++ l →
      (∀ u, (u ∈ I ∨ Reach W p I O u) → NotProducedIn W l u →
        evalNodesFz W F fz (pre.filter keep) env1 u = evalNodes W F g env0 u) →
      ∀ u, (u ∈ I ∨ Reach W p I O u) →
        evalNodesFz W F fz (g.filter keep) env1 u = evalNodes W F g env0 u
  | [], pre, hg, h => by
    intro u hu
    have : g = pre := by simpa using hg
    subst this
    exact h u hu (fun m hm => by cases hm)
  | n :: rest, pre, hg, h => by
    apply evalNodesFz_filter_agree hF hS hkeep hfz hI rest (pre ++ [n]) (by simp [hg])
    intro u hu hnp
    have hng : n ∈ g := by rw [hg]; simp
    have hT : evalNodes W F g env0 = evalNodes W F (n :: rest) (evalNodes W F pre env0) := by
      rw [hg, evalNodes_append]
    have hsorted : TopoSorted W p (n :: rest) := by
      have := hS.sorted; rw [hg] at this; exact this.tail
    -- a value produced by `n` is produced by no node of `pre`
    have hnpre : ∀ v, v ∈ (W.nodeD n).outputs → NotProducedIn W (pre.filter keep) v := by
      intro v hvo m hm hmo
      have hpv : W.prod v = some n := hS.prodOut n hng v hvo
      have hmpre : m ∈ pre := (List.mem_filter.mp hm).1
      have hmg : m ∈ g := by rw [hg]; exact List.mem_append_left _ hmpre
      have := hS.prodOut m hmg v hmo
      rw [hpv] at this
      cases this
      have hnd := hS.nodup
      rw [hg] at hnd
      exact (List.nodup_append.mp hnd).2.2 n hmpre n List.mem_cons_self rfl
    rw [List.filter_append]
    by_cases hk : keep n = true
    · have hN : NeedN W p I O n := (hkeep n hng).mp hk
      simp only [List.filter_cons, hk, if_true, List.filter_nil]
      rw [evalNodesFz_append]
      by_cases hufz : u ∈ fz
      · -- frozen boundary input: still the value supplied at the boundary
        have e1 : evalNodesFz W F fz [n] (evalNodesFz W F fz (pre.filter keep) env1) u
            = evalNodesFz W F fz (pre.filter keep) env1 u := by
          simp [evalNodesFz, evalNodeFz, hufz]
        rw [e1]
        by_cases huo : u ∈ (W.nodeD n).outputs
        · rw [evalNodesFz_not_produced _ _ (hnpre u huo)]
          exact hI u (hfz u hufz)
        · exact h u hu (hnp.cons huo)
      · by_cases huo : u ∈ (W.nodeD n).outputs
        · have hneeds : ∀ w, Needs W p n w →
              evalNodesFz W F fz (pre.filter keep) env1 w = evalNodes W F pre env0 w := by
            intro w hw
            have hnpw : NotProducedIn W (n :: rest) w := hsorted.1 w hw
            rw [h w (hN.reach hw) hnpw, hT, evalNodes_not_produced _ _ hnpw]
          have e1 : evalNodesFz W F fz [n] (evalNodesFz W F fz (pre.filter keep) env1) u
              = F n (evalNodesFz W F fz (pre.filter keep) env1) u := by
            simp [evalNodesFz, evalNodeFz, huo, hufz]
          rw [e1, hF n hng _ _ hneeds u huo, hT]
          have e2 : evalNodes W F (n :: rest) (evalNodes W F pre env0)
              = evalNodes W F rest (evalNode W F (evalNodes W F pre env0) n) := by
            simp [evalNodes]
          rw [e2, evalNodes_not_produced _ _ hnp]
          simp [evalNode, huo]
        · have hnp' : NotProducedIn W (n :: rest) u := hnp.cons huo
          have e1 : evalNodesFz W F fz [n] (evalNodesFz W F fz (pre.filter keep) env1) u
              = evalNodesFz W F fz (pre.filter keep) env1 u := by
            simp [evalNodesFz, evalNodeFz, huo, hufz]
          rw [e1]
          exact h u hu hnp'
    · have hk' : keep n = false := by simpa using hk
      simp only [List.filter_cons, hk', Bool.false_eq_true, if_false, List.filter_nil, List.append_nil]
      by_cases huo : u ∈ (W.nodeD n).outputs
      · have hpu : W.prod u = some n := hS.prodOut n hng u huo
        have huI : u ∈ I := by
          rcases hu with hu | hu
          · exact hu
          · exact absurd ((hkeep n hng).mpr ⟨u, hu, hpu⟩) hk
        rw [evalNodesFz_not_produced _ _ (hnpre u huo)]
        exact hI u huI
      · exact h u hu (hnp.cons huo)

end

end IrVerif.Extract
