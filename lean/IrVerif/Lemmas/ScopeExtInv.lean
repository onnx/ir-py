/-
An invariant of the extension state of `Model/ScopeExt.lean`: every value a sharding spec was RESOLVED to is an
allocated value of the model that carries a non-empty name (so serializing that spec never raises for lack of a
value or of a name, and writes the name the proto had).  Here: the invariant `DevsOK`, that `Ext.merge` /
`annotate` / `newNamed` leave `devs` alone, and what `resolveShard` returns; that a run keeps the invariant is proved
along the run in `Lemmas/ScopeExtDev.lean`.
-/
import IrVerif.Lemmas.ScopeExt
import IrVerif.Lemmas.ScopeTree
import IrVerif.Lemmas.ScopeModel
namespace IrVerif.Scope

/-- every resolved sharding value is allocated and named -/
def DevsOK (st : Store) (x : Ext) : Prop :=
  ∀ n d, d ∈ x.devs n → ∀ s ∈ d.specs, ∀ v, s.1 = ShardV.val v →
    v < st.nv ∧ ∃ t, t ≠ "" ∧ (st.vals v).name = some t

theorem DevsOK.keep {st st' : Store} {x x' : Ext} (h : DevsOK st x) (hd : x'.devs = x.devs) (hle : st.nv ≤ st'.nv)
    (hn : ∀ v, v < st.nv → (st'.vals v).name = (st.vals v).name) : DevsOK st' x' := by
  intro n d hdm s hs v hv
  rw [hd] at hdm
  obtain ⟨hlt, t, ht, hnm⟩ := h n d hdm s hs v hv
  exact ⟨Nat.lt_of_lt_of_le hlt hle, t, ht, by rw [hn v hlt]; exact hnm⟩

theorem Ext.merge_devs (x : Ext) (v : Nat) (es : SS) : (x.merge v es).devs = x.devs := by
  unfold Ext.merge
  split <;> rfl

theorem Ext.merge_quant (x : Ext) (v : Nat) (es : SS) : (x.merge v es).quant = x.quant := by
  unfold Ext.merge
  split <;> rfl

theorem Ext.annotate_devs (x : Ext) (qt : List (Name × SS)) (v : Nat) (n : Name) : (x.annotate qt v n).devs = x.devs := by
  unfold Ext.annotate
  split <;> rfl

theorem Ext.newNamed_devs (x : Ext) (vt : List (Name × Info × SS)) (qt : List (Name × SS)) (v : Nat) (n : Name) :
    (x.newNamed vt qt v n).devs = x.devs := by
  unfold Ext.newNamed
  split
  · rw [Ext.annotate_devs, Ext.merge_devs]
  · rw [Ext.annotate_devs]

theorem resolveShard_val {scopes : List Table} {n : Name} {v : Nat} (h : resolveShard scopes n = ShardV.val v) :
    n ≠ "" ∧ resolve n scopes = some v := by
  unfold resolveShard at h
  split at h
  · simp at h
  · rename_i hn
    split at h
    · rename_i w hw
      simp only [ShardV.val.injEq] at h
      subst h
      exact ⟨hn, hw⟩
    · simp at h

theorem resolveShard_fresh {scopes : List Table} {n m : Name} (h : resolveShard scopes n = ShardV.fresh m) :
    n ≠ "" ∧ m = n ∧ resolve n scopes = none := by
  unfold resolveShard at h
  split at h
  · simp at h
  · rename_i hn
    split at h
    · simp at h
    · rename_i hw
      simp only [ShardV.fresh.injEq] at h
      exact ⟨hn, h.symm, hw⟩

theorem named_keep_all {st st' : Store} {ts : List Table} (h : ∀ t ∈ ts, Named st t) (hl : TablesLt st ts)
    (hn : ∀ v, v < st.nv → (st'.vals v).name = (st.vals v).name) : ∀ t ∈ ts, Named st' t :=
  fun t ht => (h t ht).keep (hl t ht) hn

end IrVerif.Scope
