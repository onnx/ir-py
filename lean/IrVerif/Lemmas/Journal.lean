/-
Helper development for C20 (journaling), the blocks of `with` statements: a block runs a properly nested word
(`block_word`); the simulation between a journaled and a plain run; the accounting of entries.  Core Lean only.
-/
import IrVerif.Lemmas.JournalWord
namespace IrVerif.Journal

variable {σ : Type}

/-- `runBlock` / `runBlockG` over any dispatcher -/
def runBlockBy (disp : Nat → Obj → Val → World σ → World σ × Outcome) : Block σ → World σ → World σ × Option Nat
  | .skip, w => (w, none)
  | .op p, w =>
      let r := runProg disp p w
      ({ r.1 with log := r.1.log ++ [r.2] },
        match r.2 with
        | .ret _ => none
        | .raise e => some e)
  | .seq a b, w =>
      let r := runBlockBy disp a w
      match r.2 with
      | none => runBlockBy disp b r.1
      | some e => (r.1, some e)
  | .withJ j body, w =>
      match enter j w with
      | none => (w, some enterExn)
      | some w1 =>
        let r := runBlockBy disp body w1
        (exit j r.1, r.2)
  | .attempt body, w => ((runBlockBy disp body w).1, none)

theorem runBlock_eq_by (cfg : Cfg σ) (fuel : Nat) : ∀ (b : Block σ), runBlock cfg fuel b = runBlockBy (dispatch cfg fuel) b
  | .skip => rfl
  | .op _ => rfl
  | .seq a b => by funext w; simp only [runBlock, runBlockBy, runBlock_eq_by cfg fuel a, runBlock_eq_by cfg fuel b]; rfl
  | .withJ _ body => by funext w; simp only [runBlock, runBlockBy, runBlock_eq_by cfg fuel body]; rfl
  | .attempt body => by funext w; simp only [runBlock, runBlockBy, runBlock_eq_by cfg fuel body]

theorem runBlockG_eq_by (cfg : Cfg σ) (fuel : Nat) : ∀ (b : Block σ), runBlockG cfg fuel b = runBlockBy (dispatchG cfg fuel) b
  | .skip => rfl
  | .op _ => rfl
  | .seq a b => by funext w; simp only [runBlockG, runBlockBy, runBlockG_eq_by cfg fuel a, runBlockG_eq_by cfg fuel b]; rfl
  | .withJ _ body => by funext w; simp only [runBlockG, runBlockBy, runBlockG_eq_by cfg fuel body]; rfl
  | .attempt body => by funext w; simp only [runBlockG, runBlockBy, runBlockG_eq_by cfg fuel body]

theorem runBlockBy_withJ_refused (disp : Nat → Obj → Val → World σ → World σ × Outcome) (j : Nat) (body : Block σ) (w : World σ)
    (h : (w.journals j).active = true) :
    runBlockBy disp (.withJ j body) w = (w, some enterExn) := by
  simp [runBlockBy, enter, h]

theorem runBlockBy_withJ_entered (disp : Nat → Obj → Val → World σ → World σ × Outcome) (j : Nat) (body : Block σ) (w : World σ)
    (h : (w.journals j).active = false) :
    runBlockBy disp (.withJ j body) w =
      (exit j (runBlockBy disp body (enterRaw j w)).1, (runBlockBy disp body (enterRaw j w)).2) := by
  simp [runBlockBy, enter, h]

theorem runBlock_withJ_refused (cfg : Cfg σ) (fuel j : Nat) (body : Block σ) (w : World σ)
    (h : (w.journals j).active = true) :
    runBlock cfg fuel (.withJ j body) w = (w, some enterExn) := by
  rw [runBlock_eq_by]; exact runBlockBy_withJ_refused _ j body w h

theorem runBlock_withJ_entered (cfg : Cfg σ) (fuel j : Nat) (body : Block σ) (w : World σ)
    (h : (w.journals j).active = false) :
    runBlock cfg fuel (.withJ j body) w =
      (exit j (runBlock cfg fuel body (enterRaw j w)).1, (runBlock cfg fuel body (enterRaw j w)).2) := by
  simp only [runBlock_eq_by]; exact runBlockBy_withJ_entered _ j body w h

/-- the `with` statements that are not refused, the user code that is reached: a properly nested word -/
theorem block_word {disp : Nat → Obj → Val → World σ → World σ × Outcome}
    (hd : CtlFrame disp) :
    ∀ (b : Block σ) (w : World σ), ∃ u, WB u ∧ (∀ j ∈ flatEnters u, (w.journals j).active = false) ∧
      (runBlockBy disp b w).1 = runFlatBy disp u w := by
  intro b
  induction b with
  | skip => intro w; exact ⟨[], WB.nil, (fun _ h => by cases h), rfl⟩
  | op p => intro w; exact ⟨[.op p], WB.op p WB.nil, fun _ h => by simp [flatEnters] at h, rfl⟩
  | seq a b iha ihb =>
    intro w
    obtain ⟨u1, h1, f1, e1⟩ := iha w
    simp only [runBlockBy]
    split
    · obtain ⟨u2, h2, f2, e2⟩ := ihb (runBlockBy disp a w).1
      refine ⟨u1 ++ u2, h1.append h2, fun j hj => ?_, by rw [e2, e1, runFlatBy_append]⟩
      rw [flatEnters_append, List.mem_append] at hj
      rcases hj with hj | hj
      · exact f1 j hj
      · rw [← (restore_WB hd h1 w f1).2.2 j, ← e1]; exact f2 j hj
    · exact ⟨u1, h1, f1, e1⟩
  | withJ j body ih =>
    intro w
    cases hj : (w.journals j).active with
    | true => rw [runBlockBy_withJ_refused disp j body w hj]; exact ⟨[], WB.nil, (fun _ h => by cases h), rfl⟩
    | false =>
      rw [runBlockBy_withJ_entered disp j body w hj]
      obtain ⟨u, hu, fu, eu⟩ := ih (enterRaw j w)
      have hju : j ∉ flatEnters u := fun h => by
        have := fu j h; rw [enterRaw_self] at this; cases this
      refine ⟨.enter j :: u ++ .exit j false :: [], WB.block j false hu hju WB.nil, fun i hi => ?_, ?_⟩
      · simp only [List.cons_append, flatEnters, flatEnters_append, List.append_nil, List.mem_cons] at hi
        rcases hi with rfl | hi
        · exact hj
        · rw [← enterRaw_other j i w (fun e => hju (e ▸ hi))]; exact fu i hi
      · simp only [List.cons_append, runFlatBy, enter, hj, Bool.false_eq_true, if_false, Option.getD_some,
          runFlatBy_append, eu]
  | attempt body ih => intro w; exact ih w

theorem blockBy_frame_active {disp : Nat → Obj → Val → World σ → World σ × Outcome}
    (hd : CtlFrame disp) (b : Block σ) (w : World σ) (i : Nat)
    (hi : (w.journals i).active = true) :
    ((runBlockBy disp b w).1.journals i).captured = (w.journals i).captured ∧
    ((runBlockBy disp b w).1.journals i).previous = (w.journals i).previous ∧
    ((runBlockBy disp b w).1.journals i).active = true := by
  obtain ⟨u, hu, fu, e⟩ := block_word hd b w
  rw [e]
  exact flatBy_frame_active hd i u w hi (fun h => by rw [fu i (hu.exits_sub i h)] at hi; cases hi)

theorem blockBy_restore {disp : Nat → Obj → Val → World σ → World σ × Outcome}
    (hd : CtlFrame disp) (b : Block σ) (w : World σ) :
    (runBlockBy disp b w).1.table = w.table ∧ (runBlockBy disp b w).1.current = w.current ∧
      ∀ i, ((runBlockBy disp b w).1.journals i).active = (w.journals i).active := by
  obtain ⟨u, hu, fu, e⟩ := block_word hd b w
  rw [e]; exact restore_WB hd hu w fu

theorem runBlock_frame_active (cfg : Cfg σ) (fuel : Nat) (b : Block σ) (w : World σ) (i : Nat)
    (h : (w.journals i).active = true) :
    ((runBlock cfg fuel b w).1.journals i).captured = (w.journals i).captured ∧
    ((runBlock cfg fuel b w).1.journals i).previous = (w.journals i).previous ∧
    ((runBlock cfg fuel b w).1.journals i).active = true := by
  rw [runBlock_eq_by]; exact blockBy_frame_active (runProg_frame cfg fuel) b w i h

theorem block_restore (cfg : Cfg σ) (fuel : Nat) (b : Block σ) (w : World σ) :
    (runBlock cfg fuel b w).1.table = w.table ∧ (runBlock cfg fuel b w).1.current = w.current ∧
      ∀ i, ((runBlock cfg fuel b w).1.journals i).active = (w.journals i).active := by
  rw [runBlock_eq_by]; exact blockBy_restore (runProg_frame cfg fuel) b w

/-- `impl` is a stack of wrappers, all made for slot `k`, around the original of slot `k`. -/
def ChainFor (k : Nat) : Impl → Prop
  | .orig k' => k' = k
  | .wrap _ k' inner => k' = k ∧ ChainFor k inner

/-- every slot of the table holds wrappers around its own original -/
def Chain (t : Table) : Prop := ∀ k, ChainFor k (t k)

theorem chain_pristine : Chain pristine := fun _ => rfl

/-- every table captured by a journal is a chain -/
def CapturedOk (w : World σ) : Prop := ∀ j t, (w.journals j).captured = some t → Chain t

/-- constructors and property setters return None (`_init_wrapper` and `_setter_wrapper` discard
    what the original returned) -/
def ProcNone (cfg : Cfg σ) : Prop :=
  ∀ k, (kindOf k = .init ∨ kindOf k = .setter) →
    ∀ (disp : Nat → Obj → Val → World σ → World σ × Outcome)
    (self : Obj) (arg : Val) (w : World σ) (v : Val),
    (runProg disp (cfg.impl k self arg) w).2 = .ret v → v = .none

/-- the wrappers' `details` expressions never raise -/
def DetailsOk (cfg : Cfg σ) : Prop := ∀ k self arg s, ∃ s', cfg.details k self arg s = some s'

/-- evaluating a `details` expression leaves the state (including one-shot iterable arguments) as
    it was -/
def DetailsPure (cfg : Cfg σ) : Prop :=
  ∀ k self arg s s', cfg.details k self arg s = some s' → s' = s

theorem details_eq {cfg : Cfg σ} (hok : DetailsOk cfg) (hpure : DetailsPure cfg)
    (k : Nat) (self : Obj) (arg : Val) (s : σ) : cfg.details k self arg s = some s := by
  obtain ⟨s', h⟩ := hok k self arg s
  rw [h, hpure k self arg s s' h]

/-- `w` (any wrappers installed) and `w0` (no wrapper anywhere) are in the same IR state, with the
    same outcomes so far and the same original functions executed so far. -/
structure Rel (w w0 : World σ) : Prop where
  ir : w.ir = w0.ir
  log : w.log = w0.log
  calls : w.trace.filter isCall = w0.trace.filter isCall
  chain : Chain w.table
  plain : w0.table = pristine

theorem Rel.record {w w0 : World σ} (h : Rel w w0) (j k t : Nat) : Rel (record j k t w) w0 :=
  ⟨h.ir, h.log, h.calls, h.chain, h.plain⟩

theorem Rel.emit {w w0 : World σ} (h : Rel w w0) (e : Ev) : Rel (emit e w) (emit e w0) := by
  refine ⟨h.ir, h.log, ?_, h.chain, h.plain⟩
  show List.filter isCall (w.trace ++ [e]) = List.filter isCall (w0.trace ++ [e])
  rw [List.filter_append, List.filter_append, h.calls]

theorem runProg_rel {disp disp0 : Nat → Obj → Val → World σ → World σ × Outcome}
    (hd : ∀ s o a w w0, Rel w w0 →
      Rel (disp s o a w).1 (disp0 s o a w0).1 ∧ (disp s o a w).2 = (disp0 s o a w0).2) :
    ∀ (p : Prog σ) (w w0 : World σ), Rel w w0 →
      Rel (runProg disp p w).1 (runProg disp0 p w0).1 ∧
      (runProg disp p w).2 = (runProg disp0 p w0).2 := by
  intro p
  induction p with
  | done o => intro w w0 h; exact ⟨h, rfl⟩
  | get k ih =>
    intro w w0 h
    simp only [runProg]
    rw [h.ir]
    exact ih _ w w0 h
  | put s k ih =>
    intro w w0 h
    simp only [runProg]
    exact ih _ _ ⟨rfl, h.log, h.calls, h.chain, h.plain⟩
  | call slot self arg k ih =>
    intro w w0 h
    simp only [runProg]
    have h1 := hd slot self arg w w0 h
    rw [h1.2]
    exact ih _ _ _ h1.1

theorem runImpl_rel (cfg : Cfg σ) (hd : ∀ k s a st, cfg.details k s a st = some st)
    {body body0 : Nat → Obj → Val → World σ → World σ × Outcome}
    (hb : ∀ k s a w w0, Rel w w0 →
      Rel (body k s a w).1 (body0 k s a w0).1 ∧ (body k s a w).2 = (body0 k s a w0).2)
    (hnone : ∀ k, (kindOf k = .init ∨ kindOf k = .setter) →
      ∀ s a w0 v, (body0 k s a w0).2 = .ret v → v = .none)
    (k : Nat) :
    ∀ (impl : Impl), ChainFor k impl → ∀ (s : Obj) (a : Val) (w w0 : World σ), Rel w w0 →
      Rel (runImpl cfg body impl s a w).1 (body0 k s a w0).1 ∧
      (runImpl cfg body impl s a w).2 = (body0 k s a w0).2
  | .orig _, hc, s, a, w, w0, h => by cases hc; exact hb _ s a w w0 h
  | .wrap j k' inner, ⟨hk, hc⟩, s, a, w, w0, h => by
    subst hk
    obtain ⟨h1, h2⟩ := runImpl_rel cfg hd hb hnone k' inner hc s a w w0 h
    rw [runImpl_wrap, wrapU_of_details cfg hd]
    refine ⟨?_, ?_⟩
    · split
      · exact h1.record _ _ _
      · exact h1
    · rw [fwd_snd_of_none k' _ (fun hk v hv => hnone k' hk s a w0 v (by rw [← h2]; exact hv))]; exact h2

theorem runOrig_rel (cfg : Cfg σ) {disp disp0 : Nat → Obj → Val → World σ → World σ × Outcome}
    (hd : ∀ s o a w w0, Rel w w0 →
      Rel (disp s o a w).1 (disp0 s o a w0).1 ∧ (disp s o a w).2 = (disp0 s o a w0).2) :
    ∀ k s a w w0, Rel w w0 →
      Rel (runOrig cfg disp k s a w).1 (runOrig cfg disp0 k s a w0).1 ∧
      (runOrig cfg disp k s a w).2 = (runOrig cfg disp0 k s a w0).2 := by
  intro k s a w w0 h
  have h1 := runProg_rel hd (cfg.impl k s a) _ _ (h.emit (.start k s))
  simp only [runOrig]
  refine ⟨?_, h1.2⟩
  rw [h1.2]
  exact h1.1.emit _

theorem dispatch_rel (cfg : Cfg σ) (hinit : ProcNone cfg)
    (hdet : ∀ k s a st, cfg.details k s a st = some st) :
    ∀ (f slot : Nat) (s : Obj) (a : Val) (w w0 : World σ), Rel w w0 →
      Rel (dispatch cfg f slot s a w).1 (dispatch cfg f slot s a w0).1 ∧
      (dispatch cfg f slot s a w).2 = (dispatch cfg f slot s a w0).2 := by
  intro f
  induction f with
  | zero => intro slot s a w w0 h; exact ⟨h, rfl⟩
  | succ f ih =>
    intro slot s a w w0 h
    have hb := runOrig_rel cfg ih
    have hnone : ∀ k, (kindOf k = .init ∨ kindOf k = .setter) → ∀ s a (w0 : World σ) v,
        (runOrig cfg (dispatch cfg f) k s a w0).2 = .ret v → v = .none := by
      intro k hk s a w0 v hv
      exact hinit k hk _ s a _ v hv
    have := runImpl_rel cfg hdet hb hnone slot (w.table slot) (h.chain slot) s a w w0 h
    simp only [dispatch]
    rw [h.plain]
    simpa [pristine, runImpl] using this

/-- No `__enter__` is refused: no re-entry inside the block, and the block's journals are not active when it starts. -/
theorem block_rel (cfg : Cfg σ) (hinit : ProcNone cfg)
    (hdet : ∀ k s a st, cfg.details k s a st = some st) (fuel : Nat) :
    ∀ (b : Block σ) (w w0 : World σ), Rel w w0 → NoReentry b →
      (∀ j ∈ journalsOf b, (w.journals j).active = false) →
      Rel (runBlock cfg fuel b w).1 (runBlock cfg fuel (strip b) w0).1 ∧
      (runBlock cfg fuel b w).2 = (runBlock cfg fuel (strip b) w0).2 := by
  intro b
  induction b with
  | skip => intro w w0 h _ _; exact ⟨h, rfl⟩
  | op p =>
    intro w w0 h _ _
    have h1 := runProg_rel (dispatch_rel cfg hinit hdet fuel) p w w0 h
    simp only [runBlock, strip]
    rw [h1.2]
    refine ⟨⟨h1.1.ir, ?_, h1.1.calls, h1.1.chain, h1.1.plain⟩, rfl⟩
    show (runProg (dispatch cfg fuel) p w).1.log ++ _ = (runProg (dispatch cfg fuel) p w0).1.log ++ _
    rw [h1.1.log]
  | seq a b iha ihb =>
    intro w w0 h hn hfresh
    have hfa : ∀ j ∈ journalsOf a, (w.journals j).active = false :=
      fun j hj => hfresh j (by simp [journalsOf, hj])
    have h1 := iha w w0 h hn.1 hfa
    simp only [runBlock, strip]
    rw [← h1.2]
    split
    · have hfb : ∀ j ∈ journalsOf b, ((runBlock cfg fuel a w).1.journals j).active = false := by
        intro j hj
        rw [(block_restore cfg fuel a w).2.2]
        exact hfresh j (by simp [journalsOf, hj])
      exact ihb _ _ h1.1 hn.2 hfb
    · exact ⟨h1.1, rfl⟩
  | withJ j body ih =>
    intro w w0 h hn hfresh
    have hj : (w.journals j).active = false := hfresh j (by simp [journalsOf])
    have hrel : Rel (enterRaw j w) w0 := by
      refine ⟨h.ir, h.log, ?_, ?_, h.plain⟩
      · show List.filter isCall (w.trace ++ [Ev.enter j]) = _
        rw [List.filter_append]; simpa [isCall] using h.calls
      · intro k; exact ⟨rfl, h.chain k⟩
    have hfb : ∀ i ∈ journalsOf body, ((enterRaw j w).journals i).active = false := by
      intro i hi
      have hij : i ≠ j := by intro e; subst e; exact hn.1 hi
      rw [enterRaw_other j i w hij]
      exact hfresh i (by simp [journalsOf, hi])
    have h1 := ih (enterRaw j w) w0 hrel hn.2 hfb
    -- `exit j` puts back the table captured on entry: `w.table`, a chain table
    have hcap : ((runBlock cfg fuel body (enterRaw j w)).1.journals j).captured = some w.table := by
      rw [(runBlock_frame_active cfg fuel body (enterRaw j w) j (by rw [enterRaw_self])).1, enterRaw_self]
    rw [runBlock_withJ_entered cfg fuel j body w hj]
    simp only [strip]
    refine ⟨?_, h1.2⟩
    simp only [exit, hcap]
    refine ⟨h1.1.ir, h1.1.log, ?_, h.chain, h1.1.plain⟩
    show List.filter isCall (_ ++ [Ev.exit j]) = _
    rw [List.filter_append]; simpa [isCall] using h1.1.calls
  | attempt body ih =>
    intro w w0 h hn hfresh
    exact ⟨(ih w w0 h hn hfresh).1, rfl⟩

def ent (j : Nat) (w : World σ) : List Entry := (w.journals j).entries

def b2n (b : Bool) : Nat := if b then 1 else 0

theorem ent_record (j i k t : Nat) (w : World σ) :
    ent j (record i k t w) = if i = j then ent j w ++ [mkEntry k t] else ent j w := by
  unfold ent
  by_cases h : i = j
  · subst h; rw [record_self, if_pos rfl]
  · rw [record_other i k t j w (fun e => h e.symm), if_neg h]

theorem expectedFor_calls_append (owner : Obj → Obj) (j : Nat) (act : Bool) :
    ∀ (e1 e2 : List Ev), (∀ e ∈ e1, isCall e = true) →
      expectedFor owner j act (e1 ++ e2) = expectedFor owner j act e1 ++ expectedFor owner j act e2 := by
  intro e1
  induction e1 with
  | nil => intro e2 _; simp [expectedFor]
  | cons e t ih =>
    intro e2 h
    have ht : ∀ x ∈ t, isCall x = true := fun x hx => h x (List.mem_cons_of_mem _ hx)
    have he := h e (List.mem_cons_self ..)
    cases e with
    | start k s =>
      simp only [List.cons_append, expectedFor]
      exact ih e2 ht
    | finish k s o =>
      cases o with
      | ret v =>
        simp only [List.cons_append, expectedFor]
        split <;> simp [ih e2 ht]
      | raise x => simp only [List.cons_append, expectedFor]; exact ih e2 ht
    | enter i => simp [isCall] at he
    | exit i => simp [isCall] at he

/-- what a computation step does to the trace and to journal `j`'s entries, the table being `T` -/
def CallSpec (owner : Obj → Obj) (j : Nat) (act : Bool) (T : Table)
    (f : World σ → World σ × Outcome) : Prop :=
  ∀ w, w.table = T → (f w).1.table = T ∧
    ∃ evs, (f w).1.trace = w.trace ++ evs ∧ (∀ e ∈ evs, isCall e = true) ∧
      ent j (f w).1 = ent j w ++ expectedFor owner j act evs

theorem runProg_callSpec (owner : Obj → Obj) (j : Nat) (act : Bool) (T : Table)
    {disp : Nat → Obj → Val → World σ → World σ × Outcome}
    (hd : ∀ s o a, CallSpec owner j act T (disp s o a)) :
    ∀ (p : Prog σ), CallSpec owner j act T (runProg disp p) := by
  intro p
  induction p with
  | done o => intro w hw; exact ⟨hw, [], by simp [runProg], by simp, by simp [runProg, expectedFor]⟩
  | get k ih => intro w hw; simpa [runProg] using ih _ w hw
  | put s k ih =>
    intro w hw
    have := ih { w with ir := s } hw
    simpa [runProg, ent] using this
  | call slot self arg k ih =>
    intro w hw
    obtain ⟨ht1, evs1, htr1, hc1, he1⟩ := hd slot self arg w hw
    obtain ⟨ht2, evs2, htr2, hc2, he2⟩ := ih (disp slot self arg w).2 (disp slot self arg w).1 ht1
    refine ⟨by simpa [runProg] using ht2, evs1 ++ evs2, ?_, ?_, ?_⟩
    · simp only [runProg]; rw [htr2, htr1, List.append_assoc]
    · intro e he
      rcases List.mem_append.mp he with h | h
      · exact hc1 e h
      · exact hc2 e h
    · simp only [runProg]
      rw [he2, he1, expectedFor_calls_append owner j act evs1 evs2 hc1, List.append_assoc]

/-- entries contributed after the original returned by `n` layers of journal `j`'s wrappers -/
def post (owner : Obj → Obj) (k s n : Nat) (o : Outcome) : List Entry :=
  if isRet o = true then List.replicate n (mkEntry k (targetOf owner k s)) else []

theorem targetOf_init (owner : Obj → Obj) (k s : Nat) (h : kindOf k = .init) : targetOf owner k s = s := by
  simp [targetOf, h]

/-- what the original function of a slot does (as seen from journal `j`) -/
def BodySpec (owner : Obj → Obj) (j : Nat) (act : Bool) (T : Table)
    (body : Nat → Obj → Val → World σ → World σ × Outcome) : Prop :=
  ∀ k s a w, w.table = T → (body k s a w).1.table = T ∧
    ∃ evs, (body k s a w).1.trace = w.trace ++ [.start k s] ++ evs ++ [.finish k s (body k s a w).2] ∧
      (∀ e ∈ evs, isCall e = true) ∧
      ent j (body k s a w).1 = ent j w ++ expectedFor owner j act evs

/-- `details` may write but does not raise: a wrapper is `record` after the original, when it returned.  The original runs in
    `w₁` (`w`, or `w` after the `put` of `details`); the constructor wrapper's `details` writes `s''` afterwards. -/
theorem wrapU_of_detailsOk (cfg : Cfg σ) (hdet : DetailsOk cfg) (j k : Nat) (f : World σ → World σ × Outcome)
    (s : Obj) (a : Val) (w : World σ) :
    ∃ w₁ s'', (w₁ = w ∨ ∃ s', w₁ = { w with ir := s' }) ∧ isRet (wrapU cfg j k f s a w).2 = isRet (f w₁).2 ∧
      (wrapU cfg j k f s a w).1 =
        if isRet (f w₁).2 = true then record j k (targetOf cfg.owner k s) { (f w₁).1 with ir := s'' } else (f w₁).1 := by
  cases hk : kindOf k
  · obtain ⟨s', hs⟩ := hdet k s a (f w).1.ir
    refine ⟨w, s', Or.inl rfl, ?_, ?_⟩ <;> simp only [wrapU, hk, hs, targetOf_init cfg.owner k s hk] <;>
      cases (f w).2 <;> simp [isRet]
  all_goals
    obtain ⟨s', hs⟩ := hdet k s a w.ir
    refine ⟨{ w with ir := s' }, (f { w with ir := s' }).1.ir, Or.inr ⟨s', rfl⟩, ?_, ?_⟩ <;>
      simp only [wrapU, hk, hs] <;> cases (f { w with ir := s' }).2 <;> simp [isRet]

/-- one entry per wrapper of `j` in the chain when the original returned.  `o` is the outcome the ORIGINAL finished
    with; a wrapper may change the value handed back, not whether the call returns. -/
theorem runImpl_spec (cfg : Cfg σ) (hdet : DetailsOk cfg) (j : Nat) (act : Bool) (T : Table)
    {body : Nat → Obj → Val → World σ → World σ × Outcome}
    (hb : BodySpec cfg.owner j act T body) (k : Nat) :
    ∀ (impl : Impl), ChainFor k impl → ∀ (s : Obj) (a : Val) (w : World σ), w.table = T →
      (runImpl cfg body impl s a w).1.table = T ∧
      ∃ evs o, (runImpl cfg body impl s a w).1.trace = w.trace ++ [.start k s] ++ evs ++ [.finish k s o] ∧
        (∀ e ∈ evs, isCall e = true) ∧
        isRet (runImpl cfg body impl s a w).2 = isRet o ∧
        ent j (runImpl cfg body impl s a w).1 =
          ent j w ++ expectedFor cfg.owner j act evs ++ post cfg.owner k s (impl.cnt j) o := by
  intro impl
  induction impl with
  | orig k' =>
    intro hc s a w hw
    simp only [ChainFor] at hc
    subst hc
    obtain ⟨ht, evs, htr, hcalls, he⟩ := hb k' s a w hw
    refine ⟨by simpa [runImpl] using ht, evs, (body k' s a w).2, by simpa [runImpl] using htr, hcalls, rfl, ?_⟩
    simp [runImpl, Impl.cnt, post, he]
  | wrap i k' inner ih =>
    intro hc s a w hw
    obtain ⟨hk, hc⟩ := hc
    subst hk
    obtain ⟨w₁, s'', hw₁, hret', hwd⟩ := wrapU_of_detailsOk cfg hdet i k' (runImpl cfg body inner s a) s a w
    -- `table`, `trace` and the entries do not see `ir`
    have h₁ : w₁.table = T ∧ w₁.trace = w.trace ∧ ent j w₁ = ent j w := by
      rcases hw₁ with rfl | ⟨s', rfl⟩ <;> exact ⟨hw, rfl, rfl⟩
    obtain ⟨ht, evs, o, htr, hcalls, hret, he⟩ := ih hc s a w₁ h₁.1
    rw [h₁.2.1] at htr
    rw [h₁.2.2] at he
    rw [runImpl_wrap, hwd]
    refine ⟨?_, evs, o, ?_, hcalls, hret'.trans hret, ?_⟩ <;> cases ho : isRet (runImpl cfg body inner s a w₁).2 <;>
      rw [hret] at ho <;> simp only [if_true, Bool.false_eq_true, if_false]
    iterate 2 exact ht
    iterate 2 exact htr
    · rw [he]; simp [post, ho]
    · rw [ent_record]
      show (if i = j then ent j (runImpl cfg body inner s a w₁).1 ++ _ else ent j (runImpl cfg body inner s a w₁).1) = _
      rw [he]
      simp only [post, ho, Impl.cnt, if_true]
      by_cases hij : i = j
      · simp [hij, Nat.add_comm 1, List.replicate_succ', List.append_assoc]
      · simp [hij]

theorem runOrig_bodySpec (cfg : Cfg σ) (j : Nat) (act : Bool) (T : Table)
    {disp : Nat → Obj → Val → World σ → World σ × Outcome}
    (hd : ∀ s o a, CallSpec cfg.owner j act T (disp s o a)) :
    BodySpec cfg.owner j act T (runOrig cfg disp) := by
  intro k s a w hw
  have hw' : (emit (.start k s) w).table = T := hw
  obtain ⟨ht, evs, htr, hcalls, he⟩ := runProg_callSpec cfg.owner j act T hd (cfg.impl k s a) _ hw'
  refine ⟨ht, evs, ?_, hcalls, ?_⟩
  · show (runProg disp (cfg.impl k s a) (emit (.start k s) w)).1.trace ++ [_] = _
    rw [htr]; rfl
  · exact he

/-- one whole call, seen from a journal that has `b2n act` layers installed -/
theorem expected_call (owner : Obj → Obj) (j : Nat) (act : Bool) (k s : Nat) (o : Outcome)
    (evs : List Ev) (hcalls : ∀ e ∈ evs, isCall e = true) :
    expectedFor owner j act (.start k s :: (evs ++ [.finish k s o])) =
      expectedFor owner j act evs ++ post owner k s (b2n act) o := by
  have happ := expectedFor_calls_append owner j act evs [.finish k s o] hcalls
  cases act <;> cases o <;> simp [expectedFor, happ, post, b2n, isRet]

theorem dispatch_callSpec (cfg : Cfg σ) (hdet : DetailsOk cfg) (j : Nat) (act : Bool) (T : Table)
    (hT : Chain T) (hcnt : ∀ k, (T k).cnt j = b2n act) :
    ∀ (f slot : Nat) (s : Obj) (a : Val), CallSpec cfg.owner j act T (dispatch cfg f slot s a) := by
  intro f
  induction f with
  | zero =>
    intro slot s a w hw
    exact ⟨hw, [], by simp [dispatch], by simp, by simp [dispatch, expectedFor]⟩
  | succ f ih =>
    intro slot s a w hw
    have hb := runOrig_bodySpec cfg j act T ih
    have hc : ChainFor slot (w.table slot) := by rw [hw]; exact hT slot
    obtain ⟨ht, evs, o, htr, hcalls, _, he⟩ := runImpl_spec cfg hdet j act T hb slot (w.table slot) hc s a w hw
    simp only [dispatch]
    refine ⟨ht, .start slot s :: (evs ++ [.finish slot s o]), ?_, ?_, ?_⟩
    · rw [htr]; simp
    · intro e he'
      rcases List.mem_cons.mp he' with h | h
      · subst h; rfl
      · rcases List.mem_append.mp h with h | h
        · exact hcalls e h
        · simp at h; subst h; rfl
    · rw [he, expected_call cfg.owner j act slot s o evs hcalls, hw, hcnt slot]
      simp [List.append_assoc]

/-- the events of a block leave `act` as it was: later events are accounted for independently -/
def Balanced (owner : Obj → Obj) (j : Nat) (act : Bool) (evs : List Ev) : Prop :=
  ∀ rest, expectedFor owner j act (evs ++ rest) =
    expectedFor owner j act evs ++ expectedFor owner j act rest

theorem cnt_enter (j i : Nat) (t : Table) (k : Nat) :
    (Impl.wrap i k (t k)).cnt j = (if i = j then 1 else 0) + (t k).cnt j := rfl

theorem ent_enterRaw (j i : Nat) (w : World σ) : ent j (enterRaw i w) = ent j w := enterRaw_entries i j w

theorem ent_exit (j i : Nat) (w : World σ) : ent j (exit i w) = ent j w := exit_entries i j w

theorem trace_exit_some (i : Nat) (w : World σ) (t : Table) (h : (w.journals i).captured = some t) :
    (exit i w).trace = w.trace ++ [.exit i] := by
  simp [exit, h]

/-- `act`: whether `j` is entered around the block; the class table then carries `b2n act` wrappers of `j` per slot,
    which is what makes one call yield one entry.  `Balanced` only strengthens the induction. -/
theorem block_entries (cfg : Cfg σ) (hdet : DetailsOk cfg) (fuel : Nat) (j : Nat) :
    ∀ (b : Block σ) (w : World σ) (act : Bool), Chain w.table →
      (∀ k, (w.table k).cnt j = b2n act) → (w.journals j).active = act →
      ∃ evs, (runBlock cfg fuel b w).1.trace = w.trace ++ evs ∧
        ent j (runBlock cfg fuel b w).1 = ent j w ++ expectedFor cfg.owner j act evs ∧
        Balanced cfg.owner j act evs := by
  intro b
  induction b with
  | skip =>
    intro w act _ _ _
    exact ⟨[], by simp [runBlock], by simp [runBlock, expectedFor], fun rest => by simp [expectedFor]⟩
  | op p =>
    intro w act hch hcnt _
    obtain ⟨_, evs, htr, hcalls, he⟩ :=
      runProg_callSpec cfg.owner j act w.table (dispatch_callSpec cfg hdet j act w.table hch hcnt fuel) p w rfl
    exact ⟨evs, htr, he, fun rest => expectedFor_calls_append cfg.owner j act evs rest hcalls⟩
  | seq a b iha ihb =>
    intro w act hch hcnt hact
    obtain ⟨evs1, htr1, he1, hb1⟩ := iha w act hch hcnt hact
    have hres := (block_restore cfg fuel a w).1
    simp only [runBlock]
    split
    · have hch' : Chain (runBlock cfg fuel a w).1.table := by rw [hres]; exact hch
      have hcnt' : ∀ k, ((runBlock cfg fuel a w).1.table k).cnt j = b2n act := by rw [hres]; exact hcnt
      have hact' : ((runBlock cfg fuel a w).1.journals j).active = act := by
        rw [(block_restore cfg fuel a w).2.2]; exact hact
      obtain ⟨evs2, htr2, he2, hb2⟩ := ihb _ act hch' hcnt' hact'
      refine ⟨evs1 ++ evs2, by rw [htr2, htr1, List.append_assoc], ?_, ?_⟩
      · rw [he2, he1, hb1 evs2, List.append_assoc]
      · intro rest
        rw [List.append_assoc, hb1 (evs2 ++ rest), hb2 rest, hb1 evs2, List.append_assoc]
    · exact ⟨evs1, htr1, he1, hb1⟩
  | withJ i body ih =>
    intro w act hch hcnt hact
    cases hi : (w.journals i).active with
    | true =>
      -- refused: nothing happens
      rw [runBlock_withJ_refused cfg fuel i body w hi]
      exact ⟨[], by simp, by simp [expectedFor], fun rest => by simp [expectedFor]⟩
    | false =>
      rw [runBlock_withJ_entered cfg fuel i body w hi]
      have hacti : ((enterRaw i w).journals i).active = true := by rw [enterRaw_self]
      have hcapt := runBlock_frame_active cfg fuel body (enterRaw i w) i hacti
      have hcap : ((runBlock cfg fuel body (enterRaw i w)).1.journals i).captured = some w.table := by
        rw [hcapt.1, enterRaw_self]
      have hch1 : Chain (enterRaw i w).table := fun k => ⟨rfl, hch k⟩
      -- inside, `j` is active iff it was, or it is the journal just entered (then it was not: `hi`)
      have hjf : i = j → act = false := fun e => by rw [← hact, ← e]; exact hi
      have hcnt1 : ∀ k, ((enterRaw i w).table k).cnt j = b2n (if i = j then true else act) := by
        intro k
        show (Impl.wrap i k (w.table k)).cnt j = _
        rw [cnt_enter, hcnt k]
        by_cases hij : i = j
        · simp [hij, hjf hij, b2n]
        · simp [hij]
      have hactj : ((enterRaw i w).journals j).active = (if i = j then true else act) := by
        by_cases hij : i = j
        · subst hij; rw [enterRaw_self, if_pos rfl]
        · rw [enterRaw_other i j w (fun e => hij e.symm), if_neg hij]; exact hact
      have hback : (if i = j then false else if i = j then true else act) = act := by
        by_cases hij : i = j
        · rw [if_pos hij, hjf hij]
        · rw [if_neg hij, if_neg hij]
      obtain ⟨evs, htr, he, hb⟩ := ih (enterRaw i w) _ hch1 hcnt1 hactj
      refine ⟨.enter i :: (evs ++ [.exit i]), ?_, ?_, ?_⟩
      · show (exit i _).trace = _
        rw [trace_exit_some i _ _ hcap, htr]; simp [enterRaw]
      · show ent _ (exit i _) = _
        rw [ent_exit, he, ent_enterRaw]
        have := hb [.exit i]
        simp only [expectedFor] at this ⊢
        rw [this]; simp
      · intro rest
        have h1 := hb (.exit i :: rest)
        have h2 := hb [.exit i]
        simp only [List.cons_append, List.append_assoc, List.nil_append, List.append_nil, expectedFor, hback] at h1 h2 ⊢
        rw [h1, h2]
  | attempt body ih =>
    intro w act hch hcnt hact
    exact ih w act hch hcnt hact

theorem expectedFor_inactive_calls (owner : Obj → Obj) (j : Nat) : ∀ (evs : List Ev),
    (∀ e ∈ evs, isCall e = true) → expectedFor owner j false evs = [] := by
  intro evs
  induction evs with
  | nil => intro _; rfl
  | cons e t ih =>
    intro h
    have ht := ih (fun x hx => h x (List.mem_cons_of_mem _ hx))
    have he := h e (List.mem_cons_self ..)
    cases e with
    | start k s => simpa [expectedFor] using ht
    | finish k s o => cases o <;> simpa [expectedFor] using ht
    | enter i => simp [isCall] at he
    | exit i => simp [isCall] at he

/-- nested calls are accounted by the table that is current now, the call itself by the layers the captured
    implementation carries -/
theorem callCaptured_spec (cfg : Cfg σ) (hdet : DetailsOk cfg) (j : Nat) (act : Bool) (f k : Nat)
    (c : Captured) (hc : ChainFor k c.impl) (arg : Val) (w : World σ) (hch : Chain w.table)
    (hcnt : ∀ k, (w.table k).cnt j = b2n act) :
    (callCaptured cfg (f + 1) c arg w).1.table = w.table ∧
    ∃ evs o, (callCaptured cfg (f + 1) c arg w).1.trace =
        w.trace ++ [.start k c.self] ++ evs ++ [.finish k c.self o] ∧
      (∀ e ∈ evs, isCall e = true) ∧
      isRet (callCaptured cfg (f + 1) c arg w).2 = isRet o ∧
      ent j (callCaptured cfg (f + 1) c arg w).1 =
        ent j w ++ expectedFor cfg.owner j act evs ++ post cfg.owner k c.self (c.impl.cnt j) o := by
  have hb := runOrig_bodySpec cfg j act w.table (dispatch_callSpec cfg hdet j act w.table hch hcnt f)
  exact runImpl_spec cfg hdet j act w.table hb k c.impl hc c.self arg w rfl

/-! ### entries hold no strong reference

The `Entry` of the run theorems has the slot, the target's id and a handle, and `record` (the only writer of entries)
builds `Handle.weak`; the lemmas below say that no run adds an entry in another way.  The entry with all its fields is
`EntryFull` (Model/Journal.lean, `C20_no_strong_ref`).  Both are facts about how the model is written; that the real
entries keep no IR object alive is established by the gc + weakref oracle of harness/c20.py. -/

/-- no entry of any journal designates an IR instance other than weakly -/
def AllWeak (w : World σ) : Prop := ∀ i, heldBy (w.journals i) = []

theorem allWeak_stable : Stable (AllWeak (σ := σ)) where
  put := fun _ _ h => h
  emit := fun _ _ h => h
  record := fun w j k t h i => by
    by_cases hi : i = j
    · subst hi
      have := h i
      simp only [heldBy] at this
      simp [heldBy, record_self, List.flatMap_append, this, mkEntry, Entry.strong]
    · rw [record_other j k t i w hi]; exact h i

theorem heldBy_enterRaw (j i : Nat) (w : World σ) :
    heldBy ((enterRaw j w).journals i) = heldBy (w.journals i) := by
  simp only [heldBy, enterRaw_entries]

theorem heldBy_exit (j i : Nat) (w : World σ) : heldBy ((exit j w).journals i) = heldBy (w.journals i) := by
  simp only [heldBy, exit_entries]

theorem flat_allWeak {disp : Nat → Obj → Val → World σ → World σ × Outcome}
    (hp : ∀ (p : Prog σ) (w : World σ), AllWeak w → AllWeak (runProg disp p w).1)
    (u : List (FEv σ)) (w : World σ) (h : AllWeak w) : AllWeak (runFlatBy disp u w) :=
  runFlatBy_pres (fun p w h i => hp p w h i) u w (fun j _ w h _ i => by rw [heldBy_enterRaw]; exact h i)
    (fun j _ w h i => by rw [heldBy_exit]; exact h i) h

theorem block_allWeak (cfg : Cfg σ) (fuel : Nat) (b : Block σ) (w : World σ) (h : AllWeak w) :
    AllWeak (runBlock cfg fuel b w).1 := by
  obtain ⟨u, _, _, e⟩ := block_word (runProg_frame cfg fuel) b w
  rw [runBlock_eq_by, e]
  exact flat_allWeak (runProg_stable allWeak_stable
    (fun s o a w' h' => dispatch_stable allWeak_stable cfg fuel s o a w' h')) u w h

/-- objects reachable from `roots` along strong references `edges` -/
inductive Reach (edges : Obj → List Obj) (roots : List Obj) : Obj → Prop where
  | root {o : Obj} : o ∈ roots → Reach edges roots o
  | step {a b : Obj} : Reach edges roots a → b ∈ edges a → Reach edges roots b

end IrVerif.Journal
