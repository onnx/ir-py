/-
The IR version < 10 format in the extended model: every model `deserializeME9` returns satisfies the certificate
`ReloadableME` (`deserializeME9_reloadableME`).  The certificate of the extension state reads the store only through
names and the extension state only through the quantization annotations (`extG_info`), and equally named inputs of
a function get the same metadata merged (`foldE_vmeta_at`, from the closed form `foldE_eq`).
-/
import IrVerif.Lemmas.ScopeExt9Top
namespace IrVerif.Scope

mutual
theorem extG_info (V : Nat → ValueS) (I : Nat → Info) (x x' : Ext) (hq : x'.quant = x.quant) :
    ∀ (g : GraphT) (outer : List Table), extG V x outer g → extG (setInfo V I) x' outer g
  | .mk gid ins inits nodes outs, outer, hx => by
    simp only [extG] at hx ⊢
    simp only [qcRoles, tblIns_setInfo, liveOuts_setInfo, (replInits_setInfo_eq V I outs inits (tblIns V ins)).1,
      replDecl_setInfo, replOuts_setInfo, replNs_tbl_setInfo, setInfo_name, hq]
    exact ⟨hx.1, hx.2.1, extNs_info V I x x' hq nodes outer _ hx.2.2⟩
theorem extNs_info (V : Nat → ValueS) (I : Nat → Info) (x x' : Ext) (hq : x'.quant = x.quant) :
    ∀ (ns : List NodeT) (outer : List Table) (T : Table), extNs V x outer T ns → extNs (setInfo V I) x' outer T ns
  | [], _, _, _ => by simp only [extNs]
  | n :: ns, outer, T, hx => by
    simp only [extNs] at hx ⊢
    rw [replN_tbl_setInfo]
    exact ⟨extN_info V I x x' hq n outer T hx.1, extNs_info V I x x' hq ns outer _ hx.2⟩
theorem extN_info (V : Nat → ValueS) (I : Nat → Info) (x x' : Ext) (hq : x'.quant = x.quant) :
    ∀ (n : NodeT) (outer : List Table) (T : Table), extN V x outer T n → extN (setInfo V I) x' outer T n
  | .mk i g ins outs subs, outer, T, hx => by
    simp only [extN] at hx ⊢
    simp only [setInfo_name, replRes_setInfo, hq]
    exact ⟨hx.1, extGs_info V I x x' hq subs _ hx.2⟩
theorem extGs_info (V : Nat → ValueS) (I : Nat → Info) (x x' : Ext) (hq : x'.quant = x.quant) :
    ∀ (gs : List GraphT) (scopes : List Table), extGs V x scopes gs → extGs (setInfo V I) x' scopes gs
  | [], _, _ => by simp only [extGs]
  | g :: gs, scopes, hx => by
    simp only [extGs] at hx ⊢
    exact ⟨extG_info V I x x' hq g scopes hx.1, extGs_info V I x x' hq gs scopes hx.2⟩
end

theorem extN_setInfo (V : Nat → ValueS) (I : Nat → Info) (x x' : Ext) (hq : x'.quant = x.quant) :
    ∀ (n : NodeT) (outer : List Table) (T : Table), AgreeT V I (replN V outer T n).new → extN V x outer T n →
      extN (setInfo V I) x' outer T n :=
  fun n outer T _ => extN_info V I x x' hq n outer T
theorem extGs_setInfo (V : Nat → ValueS) (I : Nat → Info) (x x' : Ext) (hq : x'.quant = x.quant) :
    ∀ (gs : List GraphT) (scopes : List Table), AgreeT V I (replGs V scopes gs).new → extGs V x scopes gs →
      extGs (setInfo V I) x' scopes gs :=
  fun gs scopes _ => extGs_info V I x x' hq gs scopes

theorem foldE_vmeta_at (vi : List VInfoE) (fids : List FId) (v : Nat) (k : FId) (gid : Nat) (ins : List Nat)
    (its : List (Name × Nat)) (nodes : List NodeT) (outs : List Nat)
    (hnd : ins.Nodup) (hv : v ∈ ins) (hno : v ∉ nodes.flatMap NodeT.outputs) :
    ∀ (fs : List (FId × GraphT)) (sx : Store × Ext), (fs.map (·.1)).Nodup → (k, GraphT.mk gid ins its nodes outs) ∈ fs →
      (∀ g ∈ fs, g ≠ (k, GraphT.mk gid ins its nodes outs) → v ∉ fvals g.2) →
      (fs.foldl (applyExpFuncE vi fids) sx).2.vmeta v = updMeta (tblE vi fids k) (sx.1.vals v) (sx.2.vmeta v) := by
  intro fs sx hids hf hother
  obtain ⟨pre, post, rfl, hpre, hpost⟩ := split_at_key (fun g => v ∉ fvals g.2) _ fs hids hf hother
  obtain ⟨a, b, rfl⟩ := List.append_of_mem hv
  have hab : v ∉ a ∧ v ∉ b := by
    rw [List.nodup_append, List.nodup_cons] at hnd
    exact ⟨fun h => hnd.2.2 v h v List.mem_cons_self rfl, hnd.2.1.1⟩
  have hfs : ∀ l : List (FId × GraphT), (∀ g ∈ l, v ∉ fvals g.2) → ∀ s ∈ l.flatMap (funcSteps sx.1.vals vi fids), s.1 ≠ v := by
    intro l hl s hs e
    obtain ⟨g, hg, hs⟩ := List.mem_flatMap.mp hs
    exact hl g hg (e ▸ metaSteps_key hs)
  have hl : ∀ l : List Nat, v ∉ l → ∀ s ∈ metaSteps sx.1.vals (tblE vi fids k) l, s.1 ≠ v :=
    fun l hl s hs e => hl (e ▸ metaSteps_key hs)
  -- split the functions at `k` and the inputs at `v`: every merge but the one for `v` has another key
  rw [foldE_eq, List.flatMap_append, List.flatMap_cons, Ext.mergeAll_append, Ext.mergeAll_append,
    Ext.mergeAll_vmeta_other _ v _ (hfs post hpost), funcSteps]
  simp only [fvals, GraphT.inputs, GraphT.nodes, metaSteps_append, Ext.mergeAll_append, List.append_assoc]
  rw [Ext.mergeAll_vmeta_other _ v _ (hl _ hno), show v :: b = [v] ++ b from rfl, metaSteps_append, Ext.mergeAll_append,
    Ext.mergeAll_vmeta_other _ v _ (hl b hab.2)]
  rw [Ext.mergeAll_single, Ext.mergeAll_vmeta_other _ v _ (hl a hab.1), Ext.mergeAll_vmeta_other _ v _ (hfs pre hpre)]

/-- a truthy-named input of a certified function is not an output of one of its nodes (such an output would be
    declared, and the certificate introduces every value once) -/
theorem input_not_output (V : Nat → ValueS) (g : GraphT) (hok : (replF V g).ok) (hnd : (replF V g).new.Nodup)
    (v : Nat) (hv : v ∈ g.inputs) (ht : nameTruthy (V v).name = true) : v ∉ g.nodes.flatMap NodeT.outputs := by
  intro ho
  rw [replF_new_eq, List.nodup_append] at hnd
  exact (List.nodup_append.1 hnd.1).2.2 v hv v (truthy_output_declared V g hok v ho ht) rfl

theorem deserializeME9_reloadableME (p : ModelE) (w : MWorldE) (hd : deserializeME9 p = .ok w) : ReloadableME w := by
  have hR := deserializeME9_core_reloadable p w hd
  have hwf := deserializeME9_wf p w hd
  have he := deserializeME9_erase p
  rw [hd] at he
  obtain ⟨m0, J, hm0, _, hwc, _⟩ := deserializeM9_inv (eraseM p) w.core he
  simp only [deserializeME9] at hd
  split at hd
  · cases hd
  · rename_i m hm
    simp only [Except.ok.injEq] at hd
    have hRm := deserializeME_reloadableME p m hm
    obtain ⟨hM, hxG, hxF, _⟩ := hRm
    have hM0 := hM
    obtain ⟨_, hfok, _, hids⟩ := hM
    -- the store after the post-pass: the infos changed, nothing else
    have hme := deserializeME_erase p
    rw [hm] at hme
    obtain rfl : m.core = m0 := Except.ok.inj (hme.symm.trans hm0)
    have hvals : w.st.vals = setInfo m.st.vals J := congrArg (fun x : MWorld => x.st.vals) hwc
    have hquant : w.ext.quant = m.ext.quant := by
      rw [← hd]
      rw [foldE_eq]
      exact Ext.mergeAll_quant _ _
    have hroot : w.root = m.root := by rw [← hd]
    have hfuncs : w.funcs = m.funcs := by rw [← hd]
    refine ⟨hR, ?_, ?_, hwf⟩
    · rw [hvals, hroot]
      exact extG_info m.st.vals J m.ext w.ext hquant m.root [] hxG
    · intro f hf
      rw [hfuncs] at hf
      obtain ⟨k, gid, ins, inits, nodes, outs⟩ := f
      have hxf := hxF _ hf
      simp only [extF] at hxf ⊢
      rw [hvals]
      refine ⟨?_, ?_⟩
      · intro a ha b hb ht hn
        simp only [setInfo_name] at ht hn
        have htb : nameTruthy (m.st.vals b).name = true := by rw [← hn]; exact ht
        have hndf : (replF m.st.vals (GraphT.mk gid ins inits nodes outs)).new.Nodup := hM0.func_nodup _ hf
        have hinsnd : ins.Nodup := by
          have h1 := hndf
          rw [replF_new_eq, List.nodup_append] at h1
          have h2 := h1.1
          rw [List.nodup_append] at h2
          exact h2.1
        have key : ∀ c ∈ ins, nameTruthy (m.st.vals c).name = true →
            w.ext.vmeta c = updMeta (tblE p.graph.vinfo (m.funcs.map (·.1)) k) (m.st.vals c) (m.ext.vmeta c) := by
          intro c hc htc
          rw [← hd]
          show (m.funcs.foldl (applyExpFuncE p.graph.vinfo (m.funcs.map (·.1))) (m.st, m.ext)).2.vmeta c = _
          apply foldE_vmeta_at _ _ c k gid ins inits nodes outs hinsnd hc
            (input_not_output m.st.vals _ (hfok _ hf) hndf c hc htc) m.funcs (m.st, m.ext) hids hf
          intro g hg hne hcg
          exact hM0.func_disj _ hf g hg (Ne.symm hne) c
            (fvals_truthy_new m.st.vals (GraphT.mk gid ins inits nodes outs) (hfok _ hf) c
              (List.mem_append_left _ hc) htc)
            (fvals_truthy_new m.st.vals g.2 (hfok g hg) c hcg htc)
        rw [key a ha ht, key b hb htb, hxf.1 a ha b hb ht hn]
        simp only [updMeta, hn]
      · rw [tblIns_setInfo, liveOuts_setInfo, replDecl_setInfo]
        exact extNs_info m.st.vals J m.ext w.ext hquant nodes [] _ hxf.2

/-- the part of the fix-point of the IR < 10 format of the extended model that is proved (see
    `C17_idempotent_ext_ir9_partial` in Props/C17Ext9.lean, which is stated from `roundtrip_ext_ir9_partial`) -/
theorem idempotent_ext_ir9_partial (ver : Option Int) (p : ModelE) (w : MWorldE) (hd : deserializeME9 p = .ok w) :
    ReloadableM w.core ∧ ExtWF w.ext ∧
    ((∃ e, serializeME9 ver w = .error e ∧ serializeME ver w = .error e) ∨
     ∃ (w1 : MWorldE) (Q q : ModelE) (E : List VInfoE),
      serializeME9 ver w = .ok (w1, Q) ∧ serializeME ver w = .ok (w1, q) ∧
      Q.funcs = (q.funcs.map fun f => { f with vinfo := [] }) ∧
      Q.graph.vinfo = q.graph.vinfo ++ E ∧
      (∀ (st : Store) (x : Ext) (outer : List Table), deserGraphE st x outer Q.graph = deserGraphE st x outer q.graph) ∧
      (∀ e ∈ E, ExpEntryOK w e)) := by
  have hR := deserializeME9_reloadableME p w hd
  refine ⟨hR.1, hR.2.2.2, ?_⟩
  rcases roundtrip_ext_ir9_partial ver w hR with ⟨e, he⟩ | ⟨w1, Q, q, E, _, _, _, h1, h2, h3, h4, h5, h6, _⟩
  · refine .inl ⟨_, he, ?_⟩
    simp only [serializeME9] at he
    split at he
    · rename_i e' he'; cases he; exact he'
    · cases he
  · exact .inr ⟨w1, Q, q, E, h1, h2, h3, h4, h6, h5⟩

end IrVerif.Scope
