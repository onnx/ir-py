/-
C16: the model printer `pp` (minimal parentheses) produces a sentence of the grammar whose
derivation denotes `norm e`; hence `parseTokens (pp e) = some (norm e)`.
-/
import IrVerif.Lemmas.SymExprParse
namespace IrVerif.SymExpr

abbrev PExpr := Derives .expr
abbrev PTerm := Derives .term
abbrev PUnary := Derives .unary
abbrev PPower := Derives .power
abbrev PPrim := Derives .primary

/-- `ts` derives from the nonterminal of binding level `k` and denotes `e` -/
def P : Nat → List Tok → Expr → Prop
  | 0 => PExpr
  | 1 => PTerm
  | 2 => PUnary
  | 3 => PPower
  | _ => PPrim

theorem PPrim.num (n : Nat) : PPrim [.num n] (.num n) := ⟨.num n, rfl, rfl⟩
theorem PPrim.toPower {ts e} : PPrim ts e → PPower ts e
  | ⟨d, h1, h2⟩ => ⟨.prim d, by simp [D.flatten, h1], by simp only [D.sem, h2]⟩
theorem PPower.toUnary {ts e} : PPower ts e → PUnary ts e
  | ⟨d, h1, h2⟩ => ⟨.upow d, by simp [D.flatten, h1], by simp only [D.sem, h2]⟩
theorem PUnary.toTerm {ts e} : PUnary ts e → PTerm ts e
  | ⟨d, h1, h2⟩ => ⟨.term d .ttNil, by simp [D.flatten, h1], by simp only [D.sem, h2]⟩
theorem PTerm.toExpr {ts e} : PTerm ts e → PExpr ts e
  | ⟨d, h1, h2⟩ => ⟨.expr d .etNil, by simp [D.flatten, h1], by simp only [D.sem, h2]⟩
theorem PExpr.paren {ts e} : PExpr ts e → PPrim (paren ts) e
  | ⟨d, h1, h2⟩ => ⟨.paren d, by simp [D.flatten, h1, SymExpr.paren], by simp only [D.sem, h2]⟩

theorem P.step {ts e} : ∀ {k : Nat}, P (k + 1) ts e → P k ts e
  | 0, h => PTerm.toExpr h
  | 1, h => PUnary.toTerm h
  | 2, h => PPower.toUnary h
  | 3, h => PPrim.toPower h
  | _ + 4, h => h

theorem P.down {k j : Nat} {ts e} (h : P k ts e) (hjk : j ≤ k) : P j ts e := by
  induction hjk with
  | refl => exact h
  | step _ ih => exact ih h.step

theorem P.toExpr {k : Nat} {ts e} (h : P k ts e) : PExpr ts e :=
  P.down (j := 0) h (Nat.zero_le _)

/-- `wrap`: parenthesise when the operand binds looser than the position requires -/
theorem P.wrap {a : Expr} {ts : List Tok} {e : Expr} (k : Nat) (h : P (level a) ts e) :
    P k (wrap k a ts) e := by
  unfold SymExpr.wrap
  by_cases hk : k ≤ level a
  · simp only [hk, if_true]
    exact h.down hk
  · simp only [hk, if_false]
    have h0 : PExpr ts e := h.toExpr
    have h4 : P (k + 4) (paren ts) e := h0.paren
    exact P.down h4 (by omega)


/-! ### appending one more operand to an iteration (left-associativity) -/

theorem exprTail_snoc : (tl : D .exprTail) → (o : AddOp) → (t : D .term) →
    ∃ tl' : D .exprTail, tl'.flatten = tl.flatten ++ o.tok :: t.flatten ∧
      ∀ acc, (tl'.sem : Expr → Expr) acc = .bin o.bin ((tl.sem : Expr → Expr) acc) (t.sem : Expr)
  | .etNil, o, t => ⟨.etCons o t .etNil, by simp [D.flatten], fun acc => by simp [D.sem]⟩
  | .etCons o' t' tl, o, t => by
    obtain ⟨tl', h1, h2⟩ := exprTail_snoc tl o t
    exact ⟨.etCons o' t' tl', by simp [D.flatten, h1], fun acc => by simp [D.sem, h2]⟩

theorem termTail_snoc : (tl : D .termTail) → (o : MulOp) → (u : D .unary) →
    ∃ tl' : D .termTail, tl'.flatten = tl.flatten ++ o.tok :: u.flatten ∧
      ∀ acc, (tl'.sem : Expr → Expr) acc = .bin o.bin ((tl.sem : Expr → Expr) acc) (u.sem : Expr)
  | .ttNil, o, u => ⟨.ttCons o u .ttNil, by simp [D.flatten], fun acc => by simp [D.sem]⟩
  | .ttCons o' u' tl, o, u => by
    obtain ⟨tl', h1, h2⟩ := termTail_snoc tl o u
    exact ⟨.ttCons o' u' tl', by simp [D.flatten, h1], fun acc => by simp [D.sem, h2]⟩

theorem PExpr.addOp {l r a b} (o : AddOp) : PExpr l a → PTerm r b →
    PExpr (l ++ o.tok :: r) (.bin o.bin a b)
  | ⟨.expr t tl, h1, h2⟩, ⟨dr, h3, h4⟩ => by
    obtain ⟨tl', h5, h6⟩ := exprTail_snoc tl o dr
    simp only [D.flatten] at h1
    simp only [D.sem] at h2
    exact ⟨.expr t tl', by simp [D.flatten, h5, ← h1, h3], by simp only [D.sem, h6, h2, h4]⟩

theorem PTerm.mulOp {l r a b} (o : MulOp) : PTerm l a → PUnary r b →
    PTerm (l ++ o.tok :: r) (.bin o.bin a b)
  | ⟨.term u tl, h1, h2⟩, ⟨dr, h3, h4⟩ => by
    obtain ⟨tl', h5, h6⟩ := termTail_snoc tl o dr
    simp only [D.flatten] at h1
    simp only [D.sem] at h2
    exact ⟨.term u tl', by simp [D.flatten, h5, ← h1, h3], by simp only [D.sem, h6, h2, h4]⟩

theorem PUnary.neg {ts a} : PUnary ts a → PUnary (.op .minus :: ts) (.un .neg a)
  | ⟨d, h1, h2⟩ => ⟨.neg d, by simp [D.flatten, h1], by simp only [D.sem, h2]⟩

theorem PPrim.pow {l r a b} : PPrim l a → PUnary r b → PPower (l ++ .op .dstar :: r) (.bin .pow a b)
  | ⟨dl, h1, h2⟩, ⟨dr, h3, h4⟩ => ⟨.pow dl dr, by simp [D.flatten, h1, h3], by simp only [D.sem, h2, h4]⟩

theorem PExpr.call1 {ts a} (f : Fn1) : PExpr ts a → PPrim (call f.name ts) (.un f.un a)
  | ⟨d, h1, h2⟩ => ⟨.call1 f d, by simp [D.flatten, h1, call], by simp only [D.sem, h2]⟩

theorem PExpr.callN2 {l r a b} (f : FnN) : PExpr l a → PExpr r b →
    PPrim (call f.name (l ++ .comma :: r)) (.bin f.bin a b)
  | ⟨dl, h1, h2⟩, ⟨dr, h3, h4⟩ =>
    ⟨.callN f (.argsCons dl (.atCons dr .atNil)), by simp [D.flatten, h1, h3, call], by
      simp [D.sem, FnN.apply, h2, h4]⟩

theorem PPrim.callN0 (f : FnN) : PPrim (call f.name []) (.inf f.emptyNeg) :=
  ⟨.callN f .argsNil, by simp [D.flatten, call], by simp [D.sem, FnN.apply]⟩

/-- the printer's output derives from the nonterminal of the expression's level and denotes
    the normalised expression -/
theorem pp_derives (e : Expr) : P (level e) (pp e) (norm e) := by
  induction e with
  | num n =>
    by_cases hn : n < 0
    · simp only [level, pp, norm, hn, if_true]
      exact PUnary.neg (PPrim.num n.natAbs).toPower.toUnary
    · simp only [level, pp, norm, hn, if_false]
      have : ((n.natAbs : Nat) : Int) = n := Int.natAbs_of_nonneg (by omega)
      exact ⟨.num n.natAbs, rfl, by simp [D.sem, this]⟩
  | sym s => exact ⟨.ident s, rfl, rfl⟩
  | inf b =>
    cases b
    · exact PPrim.callN0 .min
    · exact PPrim.callN0 .max
  | un o a ih =>
    have ih0 : PExpr (pp a) (norm a) := ih.toExpr
    cases o with
    | neg => exact PUnary.neg (P.wrap 2 ih)
    | floor => exact PExpr.call1 .floor ih0
    | ceil => exact PExpr.call1 .ceiling ih0
    | abs => exact PExpr.call1 .abs ih0
    | sign => exact PExpr.call1 .sign ih0
    | sqrt => exact PExpr.call1 .sqrt ih0
    | trunc =>
      have hs : PTerm (call "sign" (pp a)) (.un .sign (norm a)) :=
        (((PExpr.call1 .sign ih0).toPower).toUnary).toTerm
      have ha : PExpr (call "Abs" (pp a)) (.un .abs (norm a)) :=
        (((((PExpr.call1 .abs ih0).toPower).toUnary).toTerm)).toExpr
      have hf : PUnary (call "floor" (call "Abs" (pp a))) (.un .floor (.un .abs (norm a))) :=
        ((PExpr.call1 .floor ha).toPower).toUnary
      exact PTerm.mulOp .star hs hf
  | bin o a b iha ihb =>
    have iha0 : PExpr (pp a) (norm a) := iha.toExpr
    have ihb0 : PExpr (pp b) (norm b) := ihb.toExpr
    cases o with
    | add => exact PExpr.addOp .plus (P.wrap 0 iha) (P.wrap 1 ihb)
    | sub => exact PExpr.addOp .minus (P.wrap 0 iha) (P.wrap 1 ihb)
    | mul => exact PTerm.mulOp .star (P.wrap 1 iha) (P.wrap 2 ihb)
    | div => exact PTerm.mulOp .slash (P.wrap 1 iha) (P.wrap 2 ihb)
    | fdiv => exact PTerm.mulOp .dslash (P.wrap 1 iha) (P.wrap 2 ihb)
    | mod => exact PTerm.mulOp .percent (P.wrap 1 iha) (P.wrap 2 ihb)
    | pow => exact PPrim.pow (P.wrap 4 iha) (P.wrap 2 ihb)
    | max => exact PExpr.callN2 .max iha0 ihb0
    | min => exact PExpr.callN2 .min iha0 ihb0

theorem parseTokens_pp (e : Expr) : parseTokens (pp e) = some (norm e) :=
  (pp_derives e).toExpr.parse

end IrVerif.SymExpr
