/-
Helper development for C13_failed_clone_no_residue: when `clone_graph` raises, the nodes it had
created are detached again, so no usage record by a new node is left on a pre-existing value.
Invariant (on every path, also the raising ones):
  R  every usage record by a new node on a pre-existing value is justified: that node cell
     consumes the value at that input position;
  D  every new node cell is in the cloner's `_created_nodes` or consumes nothing (all inputs `None`).
`guarded_res` and `cloneGraph_res` also bound the created list on the RAISING path; a `Logic` (`E` on
every path, `N` on the normal one) cannot say that, so this conjunct is carried beside the triple.
-/
import IrVerif.Lemmas.CloneScope
namespace IrVerif.Clone

structure RInv (n0 : Nat) (s : St) : Prop where
  r : ∀ (v : Nat) (vs : ValueS), v < n0 → s.w[v]? = some (.val vs) → ∀ u ∈ vs.uses, n0 ≤ u.1 →
        ∃ ns, s.w[u.1]? = some (.node ns) ∧ ns.inputs[u.2]? = some (some v)
  d : ∀ (n : Nat) (ns : NodeS), n0 ≤ n → s.w[n]? = some (.node ns) →
        n ∈ s.created ∨ ∀ x ∈ ns.inputs, x = none
  len : n0 ≤ s.w.length
  cr : ∀ n ∈ s.created, n0 ≤ n ∧ ∃ ns, s.w[n]? = some (.node ns)

/-- node cells keep their inputs -/
def NodesFwd (s s' : St) : Prop :=
  ∀ (n : Nat) (ns : NodeS), s.w[n]? = some (.node ns) →
    ∃ ns', s'.w[n]? = some (.node ns') ∧ ns'.inputs = ns.inputs

theorem NodesFwd.refl (s : St) : NodesFwd s s := fun _ ns h => ⟨ns, h, rfl⟩
theorem NodesFwd.trans {a b c : St} (h1 : NodesFwd a b) (h2 : NodesFwd b c) : NodesFwd a c := by
  intro n ns h
  obtain ⟨ns1, e1, i1⟩ := h1 n ns h
  obtain ⟨ns2, e2, i2⟩ := h2 n ns1 e1
  exact ⟨ns2, e2, i2.trans i1⟩

/-- on every path `RInv` is kept; on the normal path node inputs are kept and `Q` holds -/
def RGoodAt (n0 : Nat) (m : M α) (s : St) (Q : α → St → Prop) : Prop :=
  RInv n0 (m s).2 ∧ ∀ a, (m s).1 = .ok a → NodesFwd s (m s).2 ∧ Q a (m s).2

section
variable {n0 : Nat}

/-- `RGoodAt` as a logic; `N` also says that the created list only grows at the end -/
def resL (n0 : Nat) : Logic where
  E _ s' := RInv n0 s'
  N s s' := NodesFwd s s' ∧ s.created <+: s'.created
  E_trans _ h2 := h2
  N_trans h1 h2 := ⟨h1.1.trans h2.1, h1.2.trans h2.2⟩
  E_self h := h
  N_self _ := ⟨NodesFwd.refl _, List.prefix_refl _⟩

theorem RInv.ok {s : St} (hI : RInv n0 s) : (resL n0).Ok s := ⟨hI, NodesFwd.refl _, List.prefix_refl _⟩

theorem usesBounded_spec {w : World} (h : usesBounded w = true) :
    ∀ (i : Nat) (vs : ValueS), w[i]? = some (.val vs) → ∀ u ∈ vs.uses, u.1 < w.length := by
  intro i vs hi u hu
  unfold usesBounded at h
  rw [List.all_eq_true] at h
  have := h _ (List.mem_of_getElem? hi)
  simp only [List.all_eq_true] at this
  simpa using this u hu

theorem RInv.init {w : World} (hb : ∀ (v : Nat) (vs : ValueS), w[v]? = some (.val vs) → ∀ u ∈ vs.uses, u.1 < w.length) :
    RInv w.length { w := w } :=
  ⟨fun v vs _ hvs u hu hun => absurd (hb v vs hvs u hu) (Nat.not_lt.mpr hun),
    fun _ _ hn hns => absurd (lt_of_getElem? hns) (Nat.not_lt.mpr hn), Nat.le_refl _, fun _ hn => nomatch hn⟩

theorem Hoare.res {m : M α} {s : St} {Q : α → St → Prop} (h : Hoare (resL n0) m s Q) (hI : RInv n0 s) :
    RGoodAt n0 m s Q := ⟨(h hI.ok).1, fun a ha => ⟨((h hI.ok).2 a ha).1.1, ((h hI.ok).2 a ha).2⟩⟩

theorem RGoodAt.hoare {m : M α} {s : St} {Q : α → St → Prop}
    (h : RInv n0 s → RGoodAt n0 m s (fun a s1 => s.created <+: s1.created ∧ Q a s1)) :
    Hoare (resL n0) m s Q :=
  fun hO => ⟨(h hO.1).1, fun a ha => ⟨⟨((h hO.1).2 a ha).1, ((h hO.1).2 a ha).2.1⟩, ((h hO.1).2 a ha).2.2⟩⟩

theorem RGoodAt.raise {why : String} {s : St} {Q : α → St → Prop} (hI : RInv n0 s) :
    RGoodAt n0 (Clone.raise why : M α) s Q := (Hoare.fail (e := .raised why)).res hI
theorem RGoodAt.unsupported {why : String} {s : St} {Q : α → St → Prop} (hI : RInv n0 s) :
    RGoodAt n0 (Clone.unsupported why : M α) s Q := (Hoare.fail (e := .unsupported why)).res hI

/-! ### calm steps: no usage record of a pre-existing value, no node input, no created-list change,
no new node cell -/

structure CalmTo (n0 : Nat) (s s' : St) : Prop where
  created : s'.created = s.created
  len : s.w.length ≤ s'.w.length
  uses : ∀ (v : Nat) (vs' : ValueS), v < n0 → s'.w[v]? = some (.val vs') →
    ∃ vs, s.w[v]? = some (.val vs) ∧ vs'.uses = vs.uses
  fwd : NodesFwd s s'
  bwd : ∀ (n : Nat) (ns' : NodeS), s'.w[n]? = some (.node ns') →
    ∃ ns, s.w[n]? = some (.node ns) ∧ ns'.inputs = ns.inputs

abbrev CalmAt (n0 : Nat) (m : M α) (s : St) : Prop := CalmTo n0 s (m s).2

theorem CalmTo.refl (n0 : Nat) (s : St) : CalmTo n0 s s :=
  ⟨rfl, Nat.le_refl _, fun _ vs _ h => ⟨vs, h, rfl⟩, NodesFwd.refl _, fun _ ns h => ⟨ns, h, rfl⟩⟩


theorem CalmTo.trans {a b c : St} (h1 : CalmTo n0 a b) (h2 : CalmTo n0 b c) : CalmTo n0 a c := by
  refine ⟨h2.created.trans h1.created, Nat.le_trans h1.len h2.len, ?_, h1.fwd.trans h2.fwd, ?_⟩
  · intro v vs' hv h
    obtain ⟨vs1, e1, u1⟩ := h2.uses v vs' hv h
    obtain ⟨vs0, e0, u0⟩ := h1.uses v vs1 hv e1
    exact ⟨vs0, e0, u1.trans u0⟩
  · intro n ns' h
    obtain ⟨ns1, e1, i1⟩ := h2.bwd n ns' h
    obtain ⟨ns0, e0, i0⟩ := h1.bwd n ns1 e1
    exact ⟨ns0, e0, i1.trans i0⟩

/-- the heap and the created list are as before -/
theorem CalmTo.ofSameHeap {s s' : St} (hw : s'.w = s.w) (hc : s'.created = s.created) : CalmTo n0 s s' :=
  ⟨hc, by rw [hw]; exact Nat.le_refl _, fun v vs _ hv => ⟨vs, by rw [← hw]; exact hv, rfl⟩,
    fun n ns hn => ⟨ns, by rw [hw]; exact hn, rfl⟩, fun n ns hn => ⟨ns, by rw [← hw]; exact hn, rfl⟩⟩

theorem CalmAt.fail {e : Err} {s : St} : CalmAt n0 (Clone.fail e : M α) s := CalmTo.refl _ _
theorem CalmAt.raise {why : String} {s : St} : CalmAt n0 (Clone.raise why : M α) s := CalmAt.fail
theorem CalmAt.unsupported {why : String} {s : St} : CalmAt n0 (Clone.unsupported why : M α) s :=
  CalmAt.fail

/-- a calm step keeps the invariant -/
theorem RGoodAt.ofCalm {m : M α} {s : St} (hc : CalmAt n0 m s) :
    Hoare (resL n0) m s (fun _ _ => True) := by
  refine RGoodAt.hoare fun hI => ⟨⟨?_, ?_, Nat.le_trans hI.len hc.len, ?_⟩,
    fun a _ => ⟨hc.fwd, by rw [hc.created]; exact List.prefix_refl _, trivial⟩⟩
  rotate_left 2
  · intro n hn
    rw [hc.created] at hn
    obtain ⟨a, ns, hns⟩ := hI.cr n hn
    obtain ⟨ns', hns', _⟩ := hc.fwd n ns hns
    exact ⟨a, ns', hns'⟩
  · intro v vs' hv h u hu hn
    obtain ⟨vs, h0, e⟩ := hc.uses v vs' hv h
    obtain ⟨ns, hns, hin⟩ := hI.r v vs hv h0 u (e ▸ hu) hn
    obtain ⟨ns', hns', e'⟩ := hc.fwd u.1 ns hns
    exact ⟨ns', hns', by rw [e']; exact hin⟩
  · intro n ns' hn h
    obtain ⟨ns, h0, e⟩ := hc.bwd n ns' h
    rcases hI.d n ns hn h0 with hd | hd
    · exact .inl (by rw [hc.created]; exact hd)
    · exact .inr (by rw [e]; exact hd)

end


/-- calm from every state that already holds the pre-existing part of the heap -/
def Calm (n0 : Nat) (m : M α) : Prop := ∀ s, n0 ≤ s.w.length → CalmAt n0 m s

section
variable {n0 : Nat}

theorem Calm.fail {e : Err} : Calm n0 (Clone.fail e : M α) := fun _ _ => CalmAt.fail
theorem Calm.unsupported {why : String} : Calm n0 (Clone.unsupported why : M α) := fun _ _ => CalmAt.fail

theorem calm_alloc {c : Cell} (hc : c.isNode = false) : Calm n0 (alloc c) := by
  intro s hs
  have app : ∀ (i : Nat), i < s.w.length → (s.w ++ [c])[i]? = s.w[i]? :=
    fun i hi => List.getElem?_append_left hi
  refine ⟨rfl, by simp [alloc], ?_, ?_, ?_⟩
  · intro v vs' hv h
    simp only [alloc] at h
    rw [app v (by omega)] at h
    exact ⟨vs', h, rfl⟩
  · intro n ns h
    exact ⟨ns, by simp only [alloc]; rw [app n (lt_of_getElem? h)]; exact h, rfl⟩
  · intro n ns' h
    simp only [alloc] at h
    rcases getElem?_append_singleton h with h | ⟨-, rfl⟩
    · exact ⟨ns', h, rfl⟩
    · cases hc

/-- read a value cell and write it back with the same users -/
theorem calm_modVal (v : Nat) (f : ValueS → ValueS) (hf : ∀ x, (f x).uses = x.uses) :
    Calm n0 (do let vs ← readVal v; setCell v (.val (f vs))) := by
  intro s _
  show CalmTo n0 s ((do let vs ← readVal v; setCell v (.val (f vs)) : M Unit) s).2
  by_cases hv : ∃ vs, s.w[v]? = some (.val vs)
  · obtain ⟨vs, hv⟩ := hv
    rw [modVal_eq f hv]
    have hl : v < s.w.length := lt_of_getElem? hv
    refine ⟨rfl, by simp, ?_, ?_, ?_⟩
    · intro x xs' hx h
      simp only at h
      by_cases hxv : v = x
      · subst hxv
        rw [List.getElem?_set_self hl] at h
        cases h
        exact ⟨vs, hv, hf vs⟩
      · rw [List.getElem?_set_ne hxv] at h
        exact ⟨xs', h, rfl⟩
    · intro n ns h
      have : v ≠ n := by intro e; subst e; rw [hv] at h; cases h
      exact ⟨ns, by simp only; rw [List.getElem?_set_ne this]; exact h, rfl⟩
    · intro n ns' h
      simp only at h
      by_cases hnv : v = n
      · subst hnv
        rw [List.getElem?_set_self hl] at h
        cases h
      · rw [List.getElem?_set_ne hnv] at h
        exact ⟨ns', h, rfl⟩
  · rw [modVal_err f fun vs h => hv ⟨vs, h⟩]
    exact CalmTo.refl _ _


theorem calmAt_setNode {s : St} {n : Nat} {ns c' : NodeS} (h : s.w[n]? = some (.node ns))
    (hin : c'.inputs = ns.inputs) : CalmAt n0 (setCell n (.node c')) s := by
  have hl : n < s.w.length := lt_of_getElem? h
  refine ⟨rfl, by simp [setCell], ?_, ?_, ?_⟩
  · intro v vs' _ hv
    simp only [setCell] at hv
    have : n ≠ v := by
      intro e; subst e
      rw [List.getElem?_set_self hl] at hv; cases hv
    rw [List.getElem?_set_ne this] at hv
    exact ⟨vs', hv, rfl⟩
  · intro m ms hm
    simp only [setCell]
    by_cases hnm : n = m
    · subst hnm
      rw [h] at hm; cases hm
      exact ⟨c', List.getElem?_set_self hl, hin⟩
    · exact ⟨ms, by rw [List.getElem?_set_ne hnm]; exact hm, rfl⟩
  · intro m ms' hm
    simp only [setCell] at hm
    by_cases hnm : n = m
    · subst hnm
      rw [List.getElem?_set_self hl] at hm
      cases hm
      exact ⟨ns, h, hin⟩
    · rw [List.getElem?_set_ne hnm] at hm
      exact ⟨ms', hm, rfl⟩


def Lab.calm : Lab → Prop
  | .heap | .book => True
  | _ => False

theorem Eff.calm {s s' : St} (h : Eff Lab.calm s s') : n0 ≤ s.w.length → CalmTo n0 s s' := by
  induction h with
  | refl s => exact fun _ => CalmTo.refl _ _
  | trans _ _ h1 h2 => exact fun hs => (h1 hs).trans (h2 (Nat.le_trans hs (h1 hs).len))
  | alloc s c hc _ => exact fun hs => calm_alloc hc s hs
  | @link s v vs h f hf _ _ =>
    intro hs
    have := calm_modVal (n0 := n0) v f hf s hs
    rw [CalmAt, modVal_eq f h] at this
    exact this
  | own h hin _ _ => exact fun _ => calmAt_setNode h hin
  | vm _ _ _ _ => exact fun _ => .ofSameHeap rfl rfl
  | pend _ _ _ => exact fun _ => .ofSameHeap rfl rfl
  | users _ _ hp => exact hp.elim
  | mkNode _ _ hp => exact hp.elim
  | unlink _ _ hp => exact hp.elim
  | forget _ _ hp => exact hp.elim

end

section
variable {n0 : Nat}

def addedUses (us : List (Nat × Nat)) (n i : Nat) : List (Nat × Nat) :=
  if us.contains (n, i) then us else us ++ [(n, i)]

theorem mem_addedUses {us : List (Nat × Nat)} {n i : Nat} {u : Nat × Nat} (h : u ∈ addedUses us n i) :
    u ∈ us ∨ u = (n, i) := by
  unfold addedUses at h
  split at h
  · exact .inl h
  · rcases List.mem_append.mp h with h | h
    · exact .inl h
    · exact .inr (by simpa using h)

theorem addUse_res {s : St} (v n i : Nat)
    (hn : ∃ ns, s.w[n]? = some (.node ns) ∧ ns.inputs[i]? = some (some v)) :
    Hoare (resL n0) (addUse v n i) s (fun _ _ => True) := by
  refine RGoodAt.hoare fun hI => ?_
  unfold RGoodAt
  by_cases hv : ∃ vs, s.w[v]? = some (.val vs)
  · obtain ⟨vs, hv⟩ := hv
    have hl : v < s.w.length := lt_of_getElem? hv
    have hnode : ∀ (m : Nat) (ms : NodeS), s.w[m]? = some (.node ms) →
        (s.w.set v (.val { vs with uses := addedUses vs.uses n i }))[m]? = some (.node ms) := by
      intro m ms hm
      have : v ≠ m := by intro e; subst e; rw [hv] at hm; cases hm
      rw [List.getElem?_set_ne this]; exact hm
    rw [show addUse v n i s = _ from modVal_eq (fun vs => { vs with uses := addedUses vs.uses n i }) hv]
    refine ⟨⟨?_, ?_, by simp; exact hI.len, fun m hm => ⟨(hI.cr m hm).1, by
      obtain ⟨ms, hms⟩ := (hI.cr m hm).2; exact ⟨ms, hnode m ms hms⟩⟩⟩, fun _ _ => ⟨fun m ms hm => ⟨ms, hnode m ms hm, rfl⟩, List.prefix_refl _, trivial⟩⟩
    · intro x xs hx hxs u hu hun
      simp only at hxs
      by_cases hxv : v = x
      · subst hxv
        rw [List.getElem?_set_self hl] at hxs
        cases hxs
        rcases mem_addedUses hu with h | h
        · obtain ⟨ms, hms, hin⟩ := hI.r v vs hx hv u h hun
          exact ⟨ms, hnode _ ms hms, hin⟩
        · subst h
          obtain ⟨ms, hms, hin⟩ := hn
          exact ⟨ms, hnode _ ms hms, hin⟩
      · rw [List.getElem?_set_ne hxv] at hxs
        obtain ⟨ms, hms, hin⟩ := hI.r x xs hx hxs u hu hun
        exact ⟨ms, hnode _ ms hms, hin⟩
    · intro m ms hm hms
      simp only at hms
      have : v ≠ m := by
        intro e; subst e
        rw [List.getElem?_set_self hl] at hms; cases hms
      rw [List.getElem?_set_ne this] at hms
      exact hI.d m ms hm hms
  · rw [show addUse v n i s = _ from
      modVal_err (fun vs => { vs with uses := addedUses vs.uses n i }) fun vs h => hv ⟨vs, h⟩]
    exact ⟨hI, by intro b hb; cases hb⟩

theorem addUses_res (n : Nat) : ∀ (l : List (Option Nat)) (k : Nat) (s : St), (∃ ns, s.w[n]? = some (.node ns) ∧ ∀ j v, l[j]? = some (some v) → ns.inputs[k + j]? = some (some v)) →
    Hoare (resL n0) (addUses n k l) s (fun _ _ => True)
  | [], k, s, _ => Hoare.pure trivial
  | none :: rest, k, s, hn => by
    unfold addUses
    obtain ⟨ns, hns, hin⟩ := hn
    exact addUses_res n rest (k + 1) s ⟨ns, hns, fun j v hj => by
      have := hin (j + 1) v (by simpa using hj)
      rw [show k + 1 + j = k + (j + 1) by omega]; exact this⟩
  | some v :: rest, k, s, hn => by
    unfold addUses
    obtain ⟨ns, hns, hin⟩ := hn
    hbind (addUse_res v n k ⟨ns, hns, by simpa using hin 0 v (by simp)⟩) with u s1 hI1 hf1 -
    obtain ⟨ns1, hns1, e1⟩ := hf1.1 n ns hns
    exact addUses_res n rest (k + 1) s1 ⟨ns1, hns1, fun j x hj => by
      have := hin (j + 1) x (by simpa using hj)
      rw [e1, show k + 1 + j = k + (j + 1) by omega]; exact this⟩

theorem allocNode_res {s : St} (c : NodeS) :
    Hoare (resL n0) (allocNode c) s (fun r s1 => s1.w[r]? = some (.node c)) := by
  refine RGoodAt.hoare fun hI => ?_
  have e : allocNode c s = (.ok s.w.length, { s with w := s.w ++ [.node c], created := s.created ++ [s.w.length] }) := rfl
  unfold RGoodAt; rw [e]
  have app : ∀ (i : Nat) (x : Cell), s.w[i]? = some x → (s.w ++ [Cell.node c])[i]? = some x :=
    fun i x h => by rw [List.getElem?_append_left (lt_of_getElem? h)]; exact h
  refine ⟨⟨?_, ?_, by simp; have := hI.len; omega, ?_⟩, fun a ha => ?_⟩
  · intro v vs hv hvs u hu hun
    simp only at hvs
    rw [List.getElem?_append_left (by have := hI.len; omega)] at hvs
    obtain ⟨ms, hms, hin⟩ := hI.r v vs hv hvs u hu hun
    exact ⟨ms, app _ _ hms, hin⟩
  · intro m ms hm hms
    simp only at hms ⊢
    rcases getElem?_append_singleton hms with hms | ⟨rfl, -⟩
    · rcases hI.d m ms hm hms with h | h
      · exact .inl (List.mem_append_left _ h)
      · exact .inr h
    · exact .inl (by simp)
  · intro n hn
    simp only [List.mem_append, List.mem_singleton] at hn
    rcases hn with h | h
    · obtain ⟨a, ns, hns⟩ := hI.cr n h
      exact ⟨a, ns, app _ _ hns⟩
    · subst h; exact ⟨hI.len, c, by simp⟩
  · cases ha
    exact ⟨fun m ms hm => ⟨ms, app _ _ hm, rfl⟩, List.prefix_append _ _, by simp⟩

theorem RGoodAt.calm {m : M α} {s : St} (hd : Does Lab.calm m) :
    Hoare (resL n0) m s (fun _ _ => True) :=
  Hoare.assume fun hO => RGoodAt.ofCalm ((hd s).calm hO.1.len)

theorem cloneAttr_res {rec : Nat → M Nat} (hrec : ∀ g s, Hoare (resL n0) (rec g) s (fun _ _ => True))
    (key : String) (a : Nat) {s : St} : Hoare (resL n0) (cloneAttr rec key a) s (fun _ _ => True) := by
  unfold cloneAttr
  hbind (RGoodAt.calm (Does.ofQuiet (Quiet.readAttr a))) with as s1 - - -
  split
  · next g hg =>
    hbind (hrec g s1) with g' s2 - - -
    hbind (RGoodAt.calm (Does.alloc rfl trivial)) with a' s3 - - -
    exact Hoare.pure trivial
  · next gs hg =>
    hbind (Hoare.mapM' (Q := fun _ _ => True) (fun _ _ _ _ _ _ => trivial) gs s1 fun g _ s _ _ => hrec g s)
      with gs' s2 - - -
    hbind (RGoodAt.calm (Does.alloc rfl trivial)) with a' s3 - - -
    exact Hoare.pure trivial
  · exact Hoare.pure trivial

theorem getElem?_of_inputs {l : List (Option Nat)} : ∀ j v, l[j]? = some (some v) → l[0 + j]? = some (some v) := by
  intro j v h; simpa using h

theorem cloneNode_res {allow : Bool} {rec : Nat → M Nat}
    (hrec : ∀ g s, Hoare (resL n0) (rec g) s (fun _ _ => True)) (n : Nat) {s : St} :
    Hoare (resL n0) (cloneNode allow rec n) s (fun _ _ => True) := by
  unfold cloneNode
  hbind (RGoodAt.calm (Does.ofQuiet (Quiet.readNode n))) with ns s1 - - -
  hbind (RGoodAt.calm (Does.ofQuiet (Quiet.mapInputs allow ns.inputs))) with ins s2 - - -
  hbind (Hoare.mapM' (Q := fun _ _ => True) (fun _ _ _ _ _ _ => trivial) ns.attrs s2
    fun ka _ s _ _ => cloneAttr_res hrec ka.1 ka.2) with attrs s3 - - -
  hbind (RGoodAt.calm (Does.copyProps trivial ns.props)) with pr s4 - - -
  hbind (RGoodAt.calm (Does.copyMeta trivial ns.mstore)) with me s5 - - -
  hbind (RGoodAt.calm (Does.cloneOutputs trivial trivial ns.outputs 0)) with outs s6 - - -
  hbind (RGoodAt.calm (Does.ofQuiet Quiet.getVm)) with vm s7 - - -
  hbind (RGoodAt.calm (Does.ofQuiet (Quiet.checkSpecs allow ns vm))) with u0 s7' - - -
  hbind (allocNode_res _) with n' s8 - - hq8
  hbind (RGoodAt.calm (Does.forM' (Does.setProducer trivial n') outs)) with u s9 - hf9 -
  obtain ⟨ns9, hns9, e9⟩ := hf9.1 n' _ hq8
  hbind (addUses_res n' ins 0 s9 ⟨ns9, hns9, fun j v hj => by rw [e9]; simpa using hj⟩) with u2 s10 - - -
  exact Hoare.pure trivial

theorem cloneGraphStep_res {allow : Bool} {rec : Nat → M Nat}
    (hrec : ∀ g s, Hoare (resL n0) (rec g) s (fun _ _ => True)) (g : Nat) {s : St} :
    Hoare (resL n0) (cloneGraphStep allow rec g) s (fun _ _ => True) := by
  unfold cloneGraphStep
  hbind (RGoodAt.calm (Does.ofQuiet (Quiet.readGraph g))) with gs s1 - - -
  hbind (RGoodAt.calm (Does.mapM' (Does.cloneOrGetValue trivial trivial) gs.inputs)) with inputs s2 - - -
  hbind (RGoodAt.calm (Does.mapM' (Does.cloneOrGetValue trivial trivial) (gs.inits.map (·.2)))) with inits s3 - - -
  hbind (RGoodAt.calm (Does.ofQuiet (Quiet.allOutputs gs.nodes))) with pouts s4 - - -
  hbind (RGoodAt.calm (Does.pendAdd trivial pouts)) with u s5 - - -
  hbind (Hoare.mapM' (Q := fun _ _ => True) (fun _ _ _ _ _ _ => trivial) gs.nodes s5
    fun n _ s _ _ => cloneNode_res hrec n) with nodes s6 - - -
  hbind (RGoodAt.calm (Does.mapM' (fun v => Does.ofQuiet (Quiet.getMapped v)) gs.outputs)) with outputs s7 - - -
  exact RGoodAt.calm (Does.mkGraph trivial gs inputs outputs nodes inits)

end

/-! ### taking an abandoned clone apart -/

/-- value cell `v` carries no usage record by node `n` -/
def NoRec (w : World) (v n : Nat) : Prop :=
  ∀ vs, w[v]? = some (.val vs) → ∀ u ∈ vs.uses, u.1 ≠ n

/-- `s'` comes from `s` by deleting usage records of node `n` only -/
structure Dropped (n : Nat) (s s' : St) : Prop where
  created : s'.created = s.created
  len : s'.w.length = s.w.length
  nodes : ∀ (m : Nat) (ms : NodeS), s'.w[m]? = some (.node ms) ↔ s.w[m]? = some (.node ms)
  vals : ∀ (v : Nat) (vs' : ValueS), s'.w[v]? = some (.val vs') →
    ∃ vs, s.w[v]? = some (.val vs) ∧ ∀ u ∈ vs'.uses, u ∈ vs.uses
  norec : ∀ v, NoRec s.w v n → NoRec s'.w v n

theorem Dropped.refl (n : Nat) (s : St) : Dropped n s s :=
  ⟨rfl, rfl, fun _ _ => Iff.rfl, fun _ vs h => ⟨vs, h, fun _ hu => hu⟩, fun _ h => h⟩

theorem Dropped.trans {n : Nat} {a b c : St} (h1 : Dropped n a b) (h2 : Dropped n b c) : Dropped n a c :=
  ⟨h2.created.trans h1.created, h2.len.trans h1.len,
    fun m ms => (h2.nodes m ms).trans (h1.nodes m ms),
    fun v vs' h => by
      obtain ⟨vs1, e1, s1⟩ := h2.vals v vs' h
      obtain ⟨vs0, e0, s0⟩ := h1.vals v vs1 e1
      exact ⟨vs0, e0, fun u hu => s0 u (s1 u hu)⟩,
    fun v h => h2.norec v (h1.norec v h)⟩

theorem unUse_dropped (v n : Nat) (s : St) :
    (unUse v n s).1 = .ok () ∧ Dropped n s (unUse v n s).2 ∧ NoRec (unUse v n s).2.w v n := by
  unfold unUse
  split
  · next vs hv =>
    have hl : v < s.w.length := lt_of_getElem? hv
    refine ⟨rfl, ⟨rfl, by simp, ?_, ?_, ?_⟩, ?_⟩
    · intro m ms
      simp only
      by_cases hvm : v = m
      · subst hvm
        rw [List.getElem?_set_self hl, hv]
        constructor <;> intro h <;> cases h
      · rw [List.getElem?_set_ne hvm]
    · intro x xs' h
      simp only at h
      by_cases hvx : v = x
      · subst hvx
        rw [List.getElem?_set_self hl] at h
        cases h
        exact ⟨vs, hv, fun u hu => (List.mem_filter.mp hu).1⟩
      · rw [List.getElem?_set_ne hvx] at h
        exact ⟨xs', h, fun _ hu => hu⟩
    · intro x hx xs h u hu
      simp only at h
      by_cases hvx : v = x
      · subst hvx
        rw [List.getElem?_set_self hl] at h
        cases h
        have := (List.mem_filter.mp hu).2
        simpa using this
      · rw [List.getElem?_set_ne hvx] at h
        exact hx xs h u hu
    · intro xs h u hu
      simp only at h
      rw [List.getElem?_set_self hl] at h
      cases h
      have := (List.mem_filter.mp hu).2
      simpa using this
  · next hnv =>
    refine ⟨rfl, Dropped.refl _ _, ?_⟩
    intro vs h
    exact absurd h (by intro h'; exact hnv vs h')

theorem unUses_dropped (n : Nat) : ∀ (l : List (Option Nat)) (s : St),
    (unUses n l s).1 = .ok () ∧ Dropped n s (unUses n l s).2 ∧
      ∀ v, some v ∈ l → NoRec (unUses n l s).2.w v n
  | [], s => ⟨rfl, Dropped.refl _ _, by simp⟩
  | none :: rest, s => by
    unfold unUses
    obtain ⟨a, b, c⟩ := unUses_dropped n rest s
    refine ⟨a, b, ?_⟩
    intro v hv
    rcases List.mem_cons.mp hv with h | h
    · cases h
    · exact c v h
  | some x :: rest, s => by
    unfold unUses
    obtain ⟨a1, b1, c1⟩ := unUse_dropped x n s
    rcases hu : unUse x n s with ⟨r, s1⟩
    rw [hu] at a1 b1 c1
    simp only at a1
    subst a1
    rw [bind_ok hu]
    obtain ⟨a2, b2, c2⟩ := unUses_dropped n rest s1
    refine ⟨a2, b1.trans b2, ?_⟩
    intro v hv
    rcases List.mem_cons.mp hv with h | h
    · cases h; exact b2.norec _ c1
    · exact c2 v h

section
variable {n0 : Nat}

/-- `detachNode`: keeps the invariant, empties the inputs of the node, changes no other node cell
    and not the created list -/
theorem detachNode_res (n : Nat) {s : St} (hI : RInv n0 s) (hn : n0 ≤ n) :
    RInv n0 (detachNode n s).2 ∧ (detachNode n s).2.created = s.created ∧
    (∀ (m : Nat) (ms : NodeS), m ≠ n →
      ((detachNode n s).2.w[m]? = some (.node ms) ↔ s.w[m]? = some (.node ms))) ∧
    (∀ ns', (detachNode n s).2.w[n]? = some (.node ns') → ∀ x ∈ ns'.inputs, x = none) ∧
    ((∃ ns, s.w[n]? = some (.node ns)) → (detachNode n s).1 = .ok ()) := by
  by_cases hnode : ∃ ns, s.w[n]? = some (.node ns)
  · obtain ⟨ns, hc⟩ := hnode
    obtain ⟨a, b, cc⟩ := unUses_dropped n ns.inputs s
    rcases hu : unUses n ns.inputs s with ⟨r, s1⟩
    rw [hu] at a b cc
    simp only at a
    subst a
    have hn1 : s1.w[n]? = some (.node ns) := (b.nodes n ns).mpr hc
    have hl1 : n < s1.w.length := lt_of_getElem? hn1
    have : detachNode n s = (.ok (), { s1 with w := s1.w.set n (.node { ns with
        inputs := ns.inputs.map (fun _ => none),
        dev := ns.dev.map fun c => { c with specs := c.specs.filter fun sp =>
          match sp.value with
          | some v => !ns.inputs.contains (some v) || ns.outputs.contains v
          | none => true } }) }) := by
      unfold detachNode
      rw [bind_ok (readNode_ok hc), bind_ok hu, bind_ok (readNode_ok hn1)]
      rfl
    rw [this]
    simp only
    have hother : ∀ (m : Nat), m ≠ n → ∀ x, (s1.w.set n x)[m]? = s1.w[m]? :=
      fun m hm x => List.getElem?_set_ne (Ne.symm hm)
    have hcr : ∀ m ∈ s1.created, n0 ≤ m ∧ ∃ ms, (s1.w.set n (Cell.node { ns with
        inputs := ns.inputs.map (fun _ => none),
        dev := ns.dev.map fun c => { c with specs := c.specs.filter fun sp =>
          match sp.value with
          | some v => !ns.inputs.contains (some v) || ns.outputs.contains v
          | none => true } }))[m]? = some (.node ms) := by
      intro m hm
      rw [b.created] at hm
      obtain ⟨a, ms, hms⟩ := hI.cr m hm
      refine ⟨a, ?_⟩
      by_cases hmn : m = n
      · subst hmn; exact ⟨_, List.getElem?_set_self hl1⟩
      · exact ⟨ms, by rw [hother m hmn]; exact (b.nodes m ms).mpr hms⟩
    refine ⟨⟨?_, ?_, by simp; rw [b.len]; exact hI.len, hcr⟩, b.created, ?_, ?_, fun _ => trivial⟩
    · intro v vs hv hvs u hu' hun
      have hvn : v ≠ n := by omega
      rw [hother v hvn] at hvs
      obtain ⟨vs0, hvs0, hsub⟩ := b.vals v vs hvs
      obtain ⟨ms, hms, hin⟩ := hI.r v vs0 hv hvs0 u (hsub u hu') hun
      by_cases hun' : u.1 = n
      · exfalso
        rw [hun', hc] at hms
        cases hms
        have hmem : some v ∈ ns.inputs := List.mem_of_getElem? hin
        exact cc v hmem vs hvs u hu' hun'
      · refine ⟨ms, ?_, hin⟩
        rw [hother u.1 hun']
        exact (b.nodes u.1 ms).mpr hms
    · intro m ms hm hms
      by_cases hmn : m = n
      · subst hmn
        rw [List.getElem?_set_self hl1] at hms
        cases hms
        exact .inr (by intro x hx; simp at hx; exact hx.2.symm)
      · rw [hother m hmn] at hms
        have := (b.nodes m ms).mp hms
        rcases hI.d m ms hm this with h | h
        · exact .inl (by rw [b.created]; exact h)
        · exact .inr h
    · intro m ms hmn
      rw [hother m hmn]
      exact b.nodes m ms
    · intro ns' h
      rw [List.getElem?_set_self hl1] at h
      cases h
      intro x hx
      simp at hx
      exact hx.2.symm
  · have hne : ∀ ns, s.w[n]? ≠ some (.node ns) := fun ns h => hnode ⟨ns, h⟩
    have : detachNode n s = (.error (.unsupported "not a node"), s) := by
      unfold detachNode
      rw [bind_err (readNode_err hne)]
    rw [this]
    exact ⟨hI, rfl, fun _ _ _ => Iff.rfl, fun ns' h => absurd h (hne ns'), fun h => absurd h hnode⟩

theorem forM'_detach : ∀ (L : List Nat) (s : St), RInv n0 s → (∀ n ∈ L, n ∈ s.created) →
    RInv n0 (forM' detachNode L s).2 ∧ (forM' detachNode L s).2.created = s.created ∧
    (∀ n ∈ L, ∀ ns', (forM' detachNode L s).2.w[n]? = some (.node ns') → ∀ x ∈ ns'.inputs, x = none) ∧
    (∀ (m : Nat) (ms : NodeS), m ∉ L →
      ((forM' detachNode L s).2.w[m]? = some (.node ms) ↔ s.w[m]? = some (.node ms)))
  | [], s, hI, _ => ⟨hI, rfl, by simp, fun _ _ _ => Iff.rfl⟩
  | n :: rest, s, hI, hL => by
    have hn := hI.cr n (hL n List.mem_cons_self)
    obtain ⟨h1, h2, h3, h4, h5⟩ := detachNode_res n hI hn.1
    have hok := h5 hn.2
    rcases hd : detachNode n s with ⟨r, s1⟩
    rw [hd] at h1 h2 h3 h4 hok
    simp only at h1 h2 h3 h4 hok
    subst hok
    unfold forM'
    rw [bind_ok hd]
    obtain ⟨g1, g2, g3, g4⟩ := forM'_detach rest s1 h1 (fun m hm => by rw [h2]; exact hL m (List.mem_cons_of_mem _ hm))
    refine ⟨g1, g2.trans h2, ?_, ?_⟩
    · intro m hm ms' hms' x hx
      rcases List.mem_cons.mp hm with rfl | hm'
      · by_cases hmr : m ∈ rest
        · exact g3 m hmr ms' hms' x hx
        · exact h4 ms' ((g4 m ms' hmr).mp hms') x hx
      · exact g3 m hm' ms' hms' x hx
    · intro m ms hm
      have hmn : m ≠ n := fun e => hm (e ▸ List.mem_cons_self)
      have hmr : m ∉ rest := fun e => hm (List.mem_cons_of_mem _ e)
      exact (g4 m ms hmr).trans (h3 m ms hmn)

theorem guarded_res {body : M Nat} {Q : Nat → St → Prop} {s : St} (hb : RGoodAt n0 body s Q) :
    RGoodAt n0 (guarded body) s Q ∧
    (∀ e, (guarded body s).1 = .error e → (guarded body s).2.created.length ≤ s.created.length) := by
  rcases hbs : body s with ⟨r, s'⟩
  obtain ⟨hI', hq⟩ := hb
  rw [hbs] at hI' hq
  cases r with
  | ok x =>
    have e := guarded_ok hbs
    unfold RGoodAt
    rw [e]
    exact ⟨⟨hI', hq⟩, fun e' he' => by cases he'⟩
  | error e =>
    have hL : ∀ n ∈ s'.created.drop s.created.length, n ∈ s'.created := fun n hn => List.mem_of_mem_drop hn
    obtain ⟨g1, g2, g3, g4⟩ := forM'_detach (s'.created.drop s.created.length) s' hI' hL
    unfold RGoodAt
    rw [guarded_error hbs]
    simp only [abandoned]
    refine ⟨⟨⟨g1.r, ?_, g1.len, ?_⟩, by intro a ha; cases ha⟩, fun _ _ => by simp [List.length_take]; omega⟩
    · intro m ms hm hms
      rcases g1.d m ms hm hms with h | h
      · rw [g2] at h
        have : m ∈ s'.created.take s.created.length ∨ m ∈ s'.created.drop s.created.length := by
          rw [← List.take_append_drop s.created.length s'.created] at h
          exact List.mem_append.mp h
        rcases this with h' | h'
        · exact .inl (by rw [g2]; exact h')
        · exact .inr (g3 m h' ms hms)
      · exact .inr h
    · intro m hm
      exact g1.cr m (List.mem_of_mem_take hm)

theorem cloneGraph_res {allow : Bool} : ∀ (fuel g : Nat) (s : St), RInv n0 s →
    RGoodAt n0 (cloneGraph allow fuel g) s (fun _ s1 => ∃ ext, s1.created = s.created ++ ext) ∧
    (∀ e, (cloneGraph allow fuel g s).1 = .error e →
      (cloneGraph allow fuel g s).2.created.length ≤ s.created.length)
  | 0, _, s, hI => ⟨Hoare.fail.res hI, fun _ _ => Nat.le_refl _⟩
  | f + 1, g, s, hI => by
    refine guarded_res (Hoare.res (.mono (cloneGraphStep_res (fun g' s' => RGoodAt.hoare fun hI' => ?_) g)
      fun _ _ _ hN _ => hN.2.imp fun _ h => h.symm) hI)
    obtain ⟨h1, h2⟩ := (cloneGraph_res f g' s' hI').1
    exact ⟨h1, fun a ha => ⟨(h2 a ha).1, (h2 a ha).2.imp fun _ h => h.symm, trivial⟩⟩

end

theorem graphClone_no_residue {w w' : World} {fuel : Nat} {allow : Bool} {g : Nat} {e : Err}
    (hub : usesBounded w = true)
    (h : run (graphClone fuel allow g) w = (.error e, w')) :
    ∀ (i : Nat) (c : Cell), w[i]? = some c → w'[i]? = some c := by
  obtain ⟨hres, _⟩ := graphClone_result h
  have hbound := usesBounded_spec hub
  obtain ⟨⟨hR, _⟩, hcr⟩ := cloneGraph_res (n0 := w.length) (allow := allow) fuel g { w := w } (RInv.init hbound)
  obtain ⟨s1, hms, rfl⟩ := run_graphClone h
  rw [hms] at hR hcr
  have hcreated : s1.created = [] := by
    have := hcr e rfl
    simpa using this
  -- no usage record by a new node is left on a pre-existing value
  have hnone : ∀ (v : Nat) (vs : ValueS), v < w.length → s1.w[v]? = some (.val vs) →
      ∀ u ∈ vs.uses, u.1 < w.length := by
    intro v vs hv hvs u hu
    rcases Nat.lt_or_ge u.1 w.length with hlt | hge
    · exact hlt
    · exfalso
      obtain ⟨ns, hns, hin⟩ := hR.r v vs hv hvs u hu hge
      rcases hR.d u.1 ns hge hns with hd | hd
      · rw [hcreated] at hd; cases hd
      · have := hd (some v) (List.mem_of_getElem? hin)
        cases this
  intro i c hc
  obtain ⟨c', hc', hsame⟩ := hres.old i c hc
  rw [hc']
  have hi : i < w.length := lt_of_getElem? hc
  cases c with
  | val vs =>
    obtain ⟨vs', rfl, _⟩ := eraseUses_val hsame.1
    have hu : vs'.uses = vs.uses := by
      have h2 := hsame.2
      simp only [Cell.usesOf] at h2
      have f1 : vs'.uses.filter (fun u => decide (u.1 < w.length)) = vs'.uses :=
        List.filter_eq_self.mpr (fun u hu => by simpa using hnone i vs' hi hc' u hu)
      have f2 : vs.uses.filter (fun u => decide (u.1 < w.length)) = vs.uses :=
        List.filter_eq_self.mpr (fun u hu => by simpa using hbound i vs hc u hu)
      rw [f1, f2] at h2
      exact h2
    rw [Cell.eq_of_eraseUses hsame.1 hu]
  | _ => rw [eraseUses_other hsame.1 (by intro v hv; cases hv)]

end IrVerif.Clone
