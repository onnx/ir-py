/-
C10 helper lemmas: `os.path.realpath` (the transcribed `_joinrealpath`, with its `seen` cache and
loop detection) computes the kernel's resolution whenever the kernel resolves the path.
-/
import IrVerif.Lemmas.PathFS
namespace IrVerif.Path

theorem jr_nil (fs : FS) (kf : Nat) (cwd : Loc) (pf : Nat) (path : Str) (seen : Seen) :
    joinReal fs kf cwd pf path [] seen = (path, true, seen) := by
  rw [joinReal]

theorem jr_skip (fs : FS) (kf : Nat) (cwd : Loc) (pf : Nat) (path : Str) (name : Str)
    (rest : List Str) (seen : Seen) (h : name = [] ∨ name = DOT) :
    joinReal fs kf cwd pf path (name :: rest) seen = joinReal fs kf cwd pf path rest seen := by
  rw [joinReal]
  simp only [h, if_true]

theorem jr_up (fs : FS) (kf : Nat) (cwd : Loc) (pf : Nat) (path : Str)
    (rest : List Str) (seen : Seen) :
    joinReal fs kf cwd pf path (DOTDOT :: rest) seen =
      joinReal fs kf cwd pf (parentPath path) rest seen := by
  rw [joinReal]
  have h1 : ¬ (DOTDOT = ([] : Str) ∨ DOTDOT = DOT) := by decide
  simp only [h1, if_false, if_true]

theorem jr_plain (fs : FS) (kf : Nat) (cwd : Loc) (pf : Nat) (path : Str) (name : Str)
    (rest : List Str) (seen : Seen) (h1 : ¬ (name = [] ∨ name = DOT)) (h2 : name ≠ DOTDOT)
    (hl : ∀ t, lstat fs kf cwd (pjoin path name) ≠ some (Node.link t)) :
    joinReal fs kf cwd pf path (name :: rest) seen =
      joinReal fs kf cwd pf (pjoin path name) rest seen := by
  rw [joinReal]
  simp only [h1, h2, if_false]

theorem jr_link_done (fs : FS) (kf : Nat) (cwd : Loc) (pf : Nat) (path : Str) (name : Str)
    (rest : List Str) (seen : Seen) (h1 : ¬ (name = [] ∨ name = DOT)) (h2 : name ≠ DOTDOT)
    (t : Str) (hl : lstat fs kf cwd (pjoin path name) = some (Node.link t)) (p : Str)
    (hs : Seen.find seen (pjoin path name) = some (some p)) :
    joinReal fs kf cwd pf path (name :: rest) seen = joinReal fs kf cwd pf p rest seen := by
  rw [joinReal]
  simp only [h1, h2, if_false, hl, hs]

theorem jr_link_fresh (fs : FS) (kf : Nat) (cwd : Loc) (pf : Nat) (path : Str) (name : Str)
    (rest : List Str) (seen : Seen) (h1 : ¬ (name = [] ∨ name = DOT)) (h2 : name ≠ DOTDOT)
    (t : Str) (hl : lstat fs kf cwd (pjoin path name) = some (Node.link t))
    (hs : Seen.find seen (pjoin path name) = none) (p1 : Str) (s1 : Seen)
    (hr : joinReal fs kf cwd pf (if isabs t then ['/'] else path)
        (splitSep (if isabs t then t.tail else t)) ((pjoin path name, none) :: seen) = (p1, true, s1)) :
    joinReal fs kf cwd (pf + 1) path (name :: rest) seen =
      joinReal fs kf cwd (pf + 1) p1 rest ((pjoin path name, some p1) :: s1) := by
  rw [joinReal]
  simp only [h1, h2, if_false, hl, hs, hr]
  simp


theorem find_cons (k : Str) (v : Option Str) (s : Seen) (q : Str) :
    Seen.find ((k, v) :: s) q = if k = q then some v else Seen.find s q := by
  simp [Seen.find]

theorem walk_realLoc (fs : FS) : ∀ (f : Nat) (comps : List Str) (cur l : Loc),
    walk fs f cur comps true = some l → (∀ c ∈ comps, '/' ∉ c) → RealLoc fs cur → RealLoc fs l := by
  intro f
  induction f using Nat.strongRecOn with
  | _ f ihf =>
    intro comps
    induction comps with
    | nil => intro cur l h _ hc; rw [walk_nil] at h; cases h; exact hc
    | cons c rest ih =>
      intro cur l h hns hc
      obtain ⟨hd, st⟩ := walk_cons_inv fs f cur c rest l h
      have hrd : RealDir fs cur := ⟨hc.1, hd⟩
      have hns' : ∀ c ∈ rest, '/' ∉ c := fun x hx => hns x (by simp [hx])
      cases st with
      | skip h1 hw => exact ih _ _ hw hns' hc
      | up h2 hw => exact ih _ _ hw hns' hrd.dropLast.realLoc
      | plain n h1 h2 hn hnl hw =>
        exact ih _ _ hw hns' ⟨Chain.snoc hrd (Clean.of_guards h1 h2 (hns c (by simp))), n, hn, hnl⟩
      | link t f' h1 h2 hn hf hw =>
        subst hf
        exact ihf f' (by omega) _ _ _ hw (fun x hx => by
          rcases List.mem_append.mp hx with hx | hx
          · exact splitSep_noSep t x hx
          · exact hns' x hx) (hrd.startLoc t).realLoc

theorem kresolve_realLoc {fs : FS} {f : Nat} {cwd : Loc} {p : Str} {l : Loc} (hcwd : RealDir fs cwd)
    (h : kresolve fs f cwd p true = some l) : RealLoc fs l :=
  walk_realLoc fs f _ _ l (kresolve_some h).2 (splitSep_noSep p) (hcwd.startLoc p).realLoc

/-- the kernel walks the pieces of the target string; `_joinrealpath` first strips the leading
separator of an absolute target (posixpath.py:450-452): same walk -/
theorem walk_target_eq (fs : FS) (g : Nat) (cur : Loc) (t : Str) :
    walk fs g (startLoc cur t) (splitSep (if isabs t then t.tail else t)) true =
      walk fs g (startLoc cur t) (splitSep t) true := by
  by_cases ha : isabs t = true
  · cases t with
    | nil => simp [isabs] at ha
    | cons c r =>
      have hc : c = '/' := by simpa [isabs] using ha
      subst hc
      simp only [ha, if_true, List.tail_cons, splitSep_sep_cons, startLoc]
      rw [walk_step_skip fs g [] [] _ true fs.get_root (Or.inl rfl)]
  · simp [ha]

/-- `np` spells a symbolic link whose target the kernel resolves to `l'` with `g` links -/
def LinkTo (fs : FS) (cwd : Loc) (np : Str) (g : Nat) (l' : Loc) : Prop :=
  ∃ cur name t, Rep cwd np (cur ++ [name]) ∧ fs.get (cur ++ [name]) = some (Node.link t) ∧
    walk fs g (startLoc cur t) (splitSep t) true = some l'

/-- every description of the link agrees on where it is and on its target -/
theorem LinkTo.walk {fs : FS} {cwd : Loc} {np : Str} {g : Nat} {l' : Loc} (h : LinkTo fs cwd np g l')
    {cur : Loc} {c t : Str} (hr : Rep cwd np (cur ++ [c])) (hn : fs.get (cur ++ [c]) = some (Node.link t)) :
    walk fs g (startLoc cur t) (splitSep t) true = some l' := by
  obtain ⟨cur2, name2, t2, hr2, hg2, hw⟩ := h
  obtain ⟨e1, e2⟩ := List.append_singleton_inj.mp (Rep.functional hr2 hr)
  subst e1; subst e2
  rw [hn] at hg2
  cases hg2
  exact hw

/-- finished entries of the `seen` cache name what the kernel resolves the link to -/
def DoneOK (fs : FS) (cwd : Loc) (seen : Seen) : Prop :=
  ∀ np p, Seen.find seen np = some (some p) → ∀ g l', LinkTo fs cwd np g l' → Rep cwd p l'

/-- entries in progress need at least the `f` links still available: no false loop report -/
def ProgOK (fs : FS) (cwd : Loc) (f : Nat) (seen : Seen) : Prop :=
  ∀ np, Seen.find seen np = some none → ∀ g l', LinkTo fs cwd np g l' → f ≤ g

/-- **simulation**: when the kernel resolves the components (following links) to `l`,
`_joinrealpath` returns ok with a string naming `l`; cached entries stay right and no false symlink
loop is reported. -/
theorem joinReal_sim (fs : FS) (kf : Nat) (cwd : Loc) (hcwd : RealDir fs cwd) :
    ∀ (f : Nat) (comps : List Str) (cur l : Loc) (pf : Nat) (path : Str) (seen : Seen),
      walk fs f cur comps true = some l → (∀ c ∈ comps, '/' ∉ c) → Chain fs cur → f ≤ pf →
      Rep cwd path cur → DoneOK fs cwd seen → ProgOK fs cwd f seen →
      ∃ path' seen', joinReal fs kf cwd pf path comps seen = (path', true, seen') ∧
        Rep cwd path' l ∧ DoneOK fs cwd seen' ∧
        (∀ k, Seen.find seen' k = some none → Seen.find seen k = some none) := by
  intro f
  induction f using Nat.strongRecOn with
  | _ f ihf =>
    intro comps
    induction comps with
    | nil =>
      intro cur l pf path seen h _ _ _ hr hdone _
      rw [walk_nil] at h; cases h
      exact ⟨path, seen, jr_nil .., hr, hdone, fun k hk => hk⟩
    | cons c rest ih =>
      intro cur l pf path seen h hns hc hpf hr hdone hprog
      obtain ⟨hd, st⟩ := walk_cons_inv fs f cur c rest l h
      have hrd : RealDir fs cur := ⟨hc, hd⟩
      have hns' : ∀ c ∈ rest, '/' ∉ c := fun x hx => hns x (by simp [hx])
      cases st with
      | skip h1 hw =>
        rw [jr_skip _ _ _ _ _ _ _ _ h1]
        exact ih _ _ _ _ _ hw hns' hc hpf hr hdone hprog
      | up h2 hw =>
        subst h2
        rw [jr_up]
        exact ih _ _ _ _ _ hw hns' hrd.dropLast.1 hpf hr.parent hdone hprog
      | plain n h1 h2 hn hnl hw =>
        have hcl : Clean c := Clean.of_guards h1 h2 (hns c (by simp))
        have hls := lstat_rep fs kf cwd hcwd hr hrd hcl
        rw [jr_plain _ _ _ _ _ _ _ _ h1 h2 (by
          intro t; rw [hls, hn]; intro e; exact hnl t (Option.some.inj e))]
        exact ih _ _ _ _ _ hw hns' (Chain.snoc hrd hcl) hpf (hr.push hcl) hdone hprog
      | link t f' h1 h2 hn hf hw =>
        subst hf
        obtain ⟨l1, k, hk, hw1, hw2⟩ := walk_append_inv fs f' (splitSep t) _ rest l hw
        have hcl : Clean c := Clean.of_guards h1 h2 (hns c (by simp))
        have hls := lstat_rep fs kf cwd hcwd hr hrd hcl
        rw [hn] at hls
        have hnp : Rep cwd (pjoin path c) (cur ++ [c]) := hr.push hcl
        have hl1 : Chain fs l1 := (walk_realLoc fs k _ _ _ hw1 (splitSep_noSep t) (hrd.startLoc t).realLoc).1
        -- the links that are left after this one's target cover the remaining components
        have hprogW : ∀ s, ProgOK fs cwd (f' + 1) s → ProgOK fs cwd (f' - k) s := by
          intro s hs np hf g l' hwg
          have := hs np hf g l' hwg
          omega
        have hlt : LinkTo fs cwd (pjoin path c) k l1 := ⟨cur, c, t, hnp, hn, hw1⟩
        cases hfind : Seen.find seen (pjoin path c) with
        | some v =>
          cases v with
          | some p =>
            rw [jr_link_done _ _ _ _ _ _ _ _ h1 h2 t hls p hfind]
            have hp : Rep cwd p l1 := hdone _ _ hfind k l1 hlt
            exact ihf (f' - k) (by omega) rest l1 l pf p seen hw2 hns' hl1 (by omega) hp hdone (hprogW _ hprog)
          | none =>
            have := hprog _ hfind k l1 hlt
            omega
        | none =>
          obtain ⟨pf', rfl⟩ : ∃ pf', pf = pf' + 1 := ⟨pf - 1, by omega⟩
          -- the target is resolved with the LEAST budget `m` that suffices: meeting this link again while it is in
          -- progress would resolve its target with fewer links, so the entry put in progress now satisfies `ProgOK m`
          obtain ⟨m, hm1, hm2, hm3⟩ := exists_min_fuel
            (fun g => walk fs g (startLoc cur t) (splitSep t) true = some l1) k hw1
          have hstart : Chain fs (startLoc cur t) := (hrd.startLoc t).1
          have hpath0 : Rep cwd (if isabs t then ['/'] else path) (startLoc cur t) := by
            unfold startLoc; split
            · exact Rep.root cwd
            · exact hr
          have hdone0 : DoneOK fs cwd ((pjoin path c, none) :: seen) := by
            intro np p hf
            rw [find_cons] at hf
            split at hf
            · simp at hf
            · exact hdone np p hf
          have hprog0 : ProgOK fs cwd m ((pjoin path c, none) :: seen) := by
            intro np hf g l' hlg
            rw [find_cons] at hf
            split at hf
            · rename_i e; subst e
              have hwg := hlg.walk hnp hn
              have := walk_det fs g k _ _ _ _ hwg hw1
              subst this
              exact hm3 g hwg
            · have := hprog np hf g l' hlg
              omega
          have hwm : walk fs m (startLoc cur t) (splitSep (if isabs t then t.tail else t)) true =
              some l1 := by rw [walk_target_eq]; exact hm1
          obtain ⟨p1, s1, hj1, hp1, hdone1, hprog1⟩ :=
            ihf m (by omega) _ _ _ pf' _ _ hwm (splitSep_noSep _) hstart (by omega) hpath0 hdone0 hprog0
          rw [jr_link_fresh _ _ _ _ _ _ _ _ h1 h2 t hls hfind p1 s1 hj1]
          have hdone2 : DoneOK fs cwd ((pjoin path c, some p1) :: s1) := by
            intro np p hf g l' hlg
            rw [find_cons] at hf
            split at hf
            · rename_i e; subst e
              have := walk_det fs g k _ _ _ _ (hlg.walk hnp hn) hw1
              subst this
              cases hf
              exact hp1
            · exact hdone1 np p hf g l' hlg
          have hsub : ∀ q, Seen.find ((pjoin path c, some p1) :: s1) q = some none →
              Seen.find seen q = some none := by
            intro q hq
            rw [find_cons] at hq
            split at hq
            · simp at hq
            · rename_i hne
              have := hprog1 q hq
              rw [find_cons] at this
              simpa [hne] using this
          have hprog2 : ProgOK fs cwd (f' + 1) ((pjoin path c, some p1) :: s1) := by
            intro np hf
            exact hprog np (hsub np hf)
          obtain ⟨p2, s2, hj2, hp2, hdone3, hprog3⟩ :=
            ihf (f' - k) (by omega) rest l1 l (pf' + 1) p1 _ hw2 hns' hl1 (by omega) hp1 hdone2 (hprogW _ hprog2)
          exact ⟨p2, s2, hj2, hp2, hdone3, fun q hq => hsub q (hprog3 q hq)⟩


theorem doneOK_nil (fs : FS) (cwd : Loc) : DoneOK fs cwd [] := by
  intro np p h; simp [Seen.find] at h

theorem progOK_nil (fs : FS) (cwd : Loc) (f : Nat) : ProgOK fs cwd f [] := by
  intro np h; simp [Seen.find] at h

/-- **`os.path.realpath` is right on every path the kernel resolves**: if the kernel (following
symbolic links, with any ELOOP bound `f`) resolves `p` to the location `l`, the transcribed
`realpath` returns exactly the rendering "/" + "/".join(l) of that location. -/
theorem realpath_of_kresolve (fs : FS) (kf pf : Nat) (cwd : Loc) (hcwd : RealDir fs cwd) (p : Str)
    (f : Nat) (l : Loc) (h : kresolve fs f cwd p true = some l) (hpf : f ≤ pf) :
    realpath fs kf pf (render cwd) cwd p = render l ∧ Chain fs l := by
  have hw : walk fs f (startLoc cwd p) (splitSep (if isabs p then p.tail else p)) true = some l := by
    rw [walk_target_eq]; exact (kresolve_some h).2
  have hpath0 : Rep cwd (if isabs p then ['/'] else []) (startLoc cwd p) := by
    unfold startLoc; split
    · exact Rep.root cwd
    · exact Rep.empty cwd
  obtain ⟨p', s', hj, hr, _, _⟩ := joinReal_sim fs kf cwd hcwd f _ _ l pf _ []
    hw (splitSep_noSep _) (hcwd.startLoc p).1 hpf hpath0 (doneOK_nil fs cwd)
    (progOK_nil fs cwd f)
  refine ⟨?_, (kresolve_realLoc hcwd h).1⟩
  unfold realpath
  simp only [hj]
  exact hr.abspath_eq hcwd.1.1

theorem kresolve_render (fs : FS) (kf : Nat) (cwd : Loc) (l : Loc) (h : RealLoc fs l) :
    kresolve fs kf cwd (render l) true = some l := by
  obtain ⟨hl, n, hn, hnl⟩ := h
  rw [kresolve_render_walk fs kf cwd l (fun c hc => (hl.1 c hc).2.2.2)]
  rcases eq_nil_or_snoc l with rfl | ⟨l', x, rfl⟩
  · rw [walk_nil]
  · have hrd : RealDir fs l' := by simpa using hl.realDir_dropLast
    have := walk_real_prefix fs kf l' [] [x] true (by simpa using hrd)
    simp only [List.nil_append] at this
    have hx : Clean x := hl.1 x (by simp)
    rw [this, walk_step_plain fs kf l' x [] true hrd.2 (not_special_of_clean hx).1
      (not_special_of_clean hx).2 n hn hnl, walk_nil]

theorem comps_render (l : Loc) (hl : ∀ c ∈ l, Clean c) : comps (render l) = l := by
  unfold render
  rw [comps_cons_sep, comps_joinSep l hl]


/-- `os.path.realpath` is idempotent on what the kernel resolves: the rendering of the location a path
resolves to is a fixed point (for every recursion bound at or above the kernel's) -/
theorem realpath_fixed_of_kresolve (fs : FS) (kf pf : Nat) (cwd : Loc) (hcwd : RealDir fs cwd) (p : Str)
    (l : Loc) (h : kresolve fs kf cwd p true = some l) (hpf : kf ≤ pf) :
    realpath fs kf pf (render cwd) cwd (render l) = render l := by
  exact (realpath_of_kresolve fs kf pf cwd hcwd (render l) kf l (kresolve_render fs kf cwd l (kresolve_realLoc hcwd h)) hpf).1

end IrVerif.Path
