/-
Round trip of the EXTENDED model (`Model/ScopeExt.lean`): shared definitions.

* `normM` / `normQ`: what merged metadata / a quantization annotation becomes when it is written (sorted) and
  read back;
* `MetaOK2` / `QuantOK2`: the extension state of the reloaded model on the images of the emitted values;
* `DevSpecG`: generic description of the device configurations an extended deserializer run stores
  (positional in the result tree);
* `extG`: the certificate of the extension state (next to `replG`): equally named values of one graph carry the
  same annotation, graph outputs that nothing binds and empty-named node outputs carry none; `ReloadableE`.
-/
import IrVerif.Lemmas.ScopeReplIdem
import IrVerif.Lemmas.ScopeExt
import IrVerif.Lemmas.ScopeExtInv
import IrVerif.Lemmas.ScopeExtLocal
namespace IrVerif.Scope

/-- merged metadata after one write / read: `metadata_props.update(sorted entries)` on a fresh value -/
def normM (m : SS) : SS := ssUpdate [] (ssSorted m)

/-- an annotation after one write / read -/
def normQ : Option SS → Option SS
  | none => none
  | some ps => some (ssOfEntries (ssSorted ps))

/-- the `ValueInfoProto` that `serialize_value_into` writes for `v` in the extended model -/
def viOfE (V : Nat → ValueS) (x : Ext) (v : Nat) : VInfoE := ⟨nm V v, (V v).info.emit, ssSorted (x.vmeta v)⟩

/-- what `Ext.annotate` stores for a fresh value named `n` -/
def quantOf (qt : List (Name × SS)) (n : Name) : Option SS :=
  match qt.lookup n with
  | none => none
  | some ps => if ps.isEmpty then none else some (ssOfEntries ps)

/-- what `Ext.newNamed` merges into a fresh value named `n` -/
def metaOf (vt : List (Name × Info × SS)) (n : Name) : SS :=
  match vt.lookup n with
  | some e => ssUpdate [] e.2
  | none => []

/-- a fresh extension state above the allocation counter -/
def ExtFresh (st : Store) (x : Ext) : Prop := ∀ d, st.nv ≤ d → x.vmeta d = [] ∧ x.quant d = none

mutual
/-- the values whose quantization annotation `serGraphE` looks at: as `emitG`, with ALL live node outputs -/
def emitQG (V : Nat → ValueS) : GraphT → List Nat
  | .mk _ ins inits nodes outs =>
    ins ++ inits.map (·.2) ++ nodes.flatMap (liveOuts V) ++ outs ++ emitQSubNs V nodes
def emitQSubNs (V : Nat → ValueS) : List NodeT → List Nat
  | [] => []
  | n :: ns => emitQSubN V n ++ emitQSubNs V ns
def emitQSubN (V : Nat → ValueS) : NodeT → List Nat
  | .mk _ _ _ _ subs => emitQGs V subs
def emitQGs (V : Nat → ValueS) : List GraphT → List Nat
  | [] => []
  | g :: gs => emitQG V g ++ emitQGs V gs
end

/-- the images of the values `L` carry the source metadata (written and read once) -/
def MetaOK2 (x x' : Ext) (A : Assoc) (L : List Nat) : Prop :=
  ∀ v ∈ L, x'.vmeta (sig A v) = normM (x.vmeta v)

/-- the images of the values `L` carry the source annotation (written and read once) -/
def QuantOK2 (x x' : Ext) (A : Assoc) (L : List Nat) : Prop :=
  ∀ v ∈ L, x'.quant (sig A v) = normQ (x.quant v)

mutual
/-- no node output without a (truthy) name carries an annotation -/
def QuietOutsG (V : Nat → ValueS) (x : Ext) : GraphT → Prop
  | .mk _ _ _ nodes _ => QuietOutsNs V x nodes
def QuietOutsNs (V : Nat → ValueS) (x : Ext) : List NodeT → Prop
  | [] => True
  | n :: ns => QuietOutsN V x n ∧ QuietOutsNs V x ns
def QuietOutsN (V : Nat → ValueS) (x : Ext) : NodeT → Prop
  | .mk _ _ _ outs subs => (∀ v ∈ outs, nameTruthy (V v).name = false → x.quant v = none) ∧ QuietOutsGs V x subs
def QuietOutsGs (V : Nat → ValueS) (x : Ext) : List GraphT → Prop
  | [] => True
  | g :: gs => QuietOutsG V x g ∧ QuietOutsGs V x gs
end

mutual
/-- the device configurations stored by an extended deserializer run, node by node: the configurations of the
    proto node with their sharding names resolved in SOME scope stack whose tables bind names to values that
    carry them -/
def DevSpecG (s : Store) (x : Ext) : GraphE → GraphT → Prop
  | .mk _ _ _ nodes _ _, .mk _ _ _ nodes' _ => DevSpecNs s x nodes nodes'
def DevSpecNs (s : Store) (x : Ext) : List NodeE → List NodeT → Prop
  | [], [] => True
  | n :: ns, n' :: ns' => DevSpecN s x n n' ∧ DevSpecNs s x ns ns'
  | _, _ => False
def DevSpecN (s : Store) (x : Ext) : NodeE → NodeT → Prop
  | .mk _ _ devs subs, .mk id _ _ _ subs' =>
    (∃ scopes : List Table, (∀ t ∈ scopes, Named s t) ∧ x.devs id = devs.map (deserDevR scopes)) ∧
    DevSpecGs s x subs subs'
def DevSpecGs (s : Store) (x : Ext) : List GraphE → List GraphT → Prop
  | [], [] => True
  | g :: gs, g' :: gs' => DevSpecG s x g g' ∧ DevSpecGs s x gs gs'
  | _, _ => False
end

/-- the values of one graph whose annotation is written under their name -/
def qcRoles (V : Nat → ValueS) (ins : List Nat) (inits : List (Name × Nat)) (nodes : List NodeT) (outs : List Nat) :
    List Nat :=
  ins ++ inits.map (·.2) ++ (nodes.flatMap (liveOuts V)).filter (fun v => nameTruthy (V v).name) ++ outs

mutual
/-- the certificate of the extension state, along the tables of `replG` -/
def extG (V : Nat → ValueS) (x : Ext) (outer : List Table) : GraphT → Prop
  | .mk _ ins inits nodes outs =>
    (∀ a ∈ qcRoles V ins inits nodes outs, ∀ b ∈ qcRoles V ins inits nodes outs,
      (V a).name = (V b).name → x.quant a = x.quant b) ∧
    (∀ v ∈ (replOuts V (replNs V outer (replDecl V (replInits V outs (tblIns V ins) inits).tbl
        (nodes.flatMap (liveOuts V))).tbl nodes).tbl outs).new, x.quant v = none) ∧
    extNs V x outer (replDecl V (replInits V outs (tblIns V ins) inits).tbl (nodes.flatMap (liveOuts V))).tbl nodes
def extNs (V : Nat → ValueS) (x : Ext) (outer : List Table) : Table → List NodeT → Prop
  | _, [] => True
  | T, n :: ns => extN V x outer T n ∧ extNs V x outer (replN V outer T n).tbl ns
def extN (V : Nat → ValueS) (x : Ext) (outer : List Table) : Table → NodeT → Prop
  | T, .mk _ _ ins outs subs =>
    (∀ v ∈ outs, nameTruthy (V v).name = false → x.quant v = none) ∧
    extGs V x ((replRes V outer T ins).tbl :: outer) subs
def extGs (V : Nat → ValueS) (x : Ext) (scopes : List Table) : List GraphT → Prop
  | [] => True
  | g :: gs => extG V x scopes g ∧ extGs V x scopes gs
end

/-- the resolution certificate of the core model, the certificate of the extension state and
    the representation invariant of the extension state (dicts with distinct keys, no empty annotation) -/
def ReloadableE (w : WorldE) : Prop :=
  Reloadable w.core ∧ extG w.st.vals w.ext [] w.root ∧ ExtWF w.ext

end IrVerif.Scope
