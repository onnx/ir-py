import IrVerif.Lemmas.SerdeWideLeaf
/-! C02: `des* (fold* p) = des* p` for attributes, nodes, graphs (arbitrary nesting), functions and models, with no
hypothesis on `p` except, for models below IR version 10, `inputsPlain m.graph`. -/
namespace IrVerif.Serde
open IrVerif.Proto

theorem foldAttr_name (a : AttrP) : (foldAttr a).name = a.name := by
  cases a <;> rfl

theorem foldAttrs_names : ∀ as : List AttrP, (foldAttrs as).map AttrP.name = as.map AttrP.name
  | [] => rfl
  | a :: as => by simp only [foldAttrs, List.map_cons, foldAttr_name, foldAttrs_names as]

theorem foldAttrs_any (n : String) : ∀ as : List AttrP,
    (foldAttrs as).any (fun b => b.name = n) = as.any (fun b => b.name = n)
  | [] => rfl
  | a :: as => by simp only [foldAttrs, List.any_cons, foldAttr_name, foldAttrs_any n as]

theorem foldNode_outputs (n : NodeP) : (foldNode n).outputs = n.outputs := by
  cases n; rfl

theorem foldNode_inputs (n : NodeP) : (foldNode n).inputs = n.inputs := by
  cases n; rfl

theorem declareAll_foldNodes (vis : List ValueInfoP) (q : List AnnotP) :
    ∀ (nodes : List NodeP) (tbl : List IRValue),
    declareAll vis q (foldNodes nodes) tbl = declareAll vis q nodes tbl
  | [], _ => rfl
  | n :: ns, tbl => by
    simp only [foldNodes, declareAll, foldNode_outputs]
    cases declareOutputs vis q n.outputs tbl with
    | error e => rfl
    | ok t1 => simp only [bind, Except.bind]; exact declareAll_foldNodes vis q ns t1

theorem nodeOutNames_foldNodes : ∀ nodes : List NodeP, nodeOutNames (foldNodes nodes) = nodeOutNames nodes
  | [] => rfl
  | n :: ns => by
    have := nodeOutNames_foldNodes ns
    simp only [nodeOutNames, foldNodes, List.flatMap_cons, List.filter_append, foldNode_outputs] at this ⊢
    rw [this]

theorem desNode_congr {S : List String} {vis vis' : List ValueInfoP} (hv : VisAgree S vis vis')
    (outer : Scopes) (q : List AnnotP) (tbl : List IRValue) (hS : ∀ s ∈ S, s ∈ tableNames tbl) :
    ∀ n : NodeP, desNode outer vis q tbl n = desNode outer vis' q tbl n
  | .mk inputs outputs name opType domain overload doc attrs metadata devcfgs => by
    simp only [desNode, desNodeInputs_congr hv outer q inputs tbl hS]

theorem desNode_names (outer : Scopes) (vis : List ValueInfoP) (q : List AnnotP) (tbl tbl' : List IRValue)
    (x : IRNode) : ∀ n : NodeP, desNode outer vis q tbl n = .ok (x, tbl') →
    ∀ s ∈ tableNames tbl, s ∈ tableNames tbl'
  | .mk inputs outputs name opType domain overload doc attrs metadata devcfgs, h => by
    simp only [desNode] at h
    obtain ⟨⟨ins, t1⟩, hi, h⟩ := bind_eq_ok h
    obtain ⟨outs, _, h⟩ := bind_eq_ok h
    obtain ⟨as, _, h⟩ := bind_eq_ok h
    simp only [Except.ok.injEq, Prod.mk.injEq] at h
    rw [← h.2]
    exact desNodeInputs_names outer vis q inputs tbl t1 ins hi

theorem desNodes_congr {S : List String} {vis vis' : List ValueInfoP} (hv : VisAgree S vis vis')
    (outer : Scopes) (q : List AnnotP) : ∀ (nodes : List NodeP) (tbl : List IRValue),
    (∀ s ∈ S, s ∈ tableNames tbl) → desNodes outer vis q nodes tbl = desNodes outer vis' q nodes tbl
  | [], _, _ => rfl
  | n :: ns, tbl, hS => by
    simp only [desNodes]
    rw [desNode_congr hv outer q tbl hS n]
    cases hd : desNode outer vis' q tbl n with
    | error e => rfl
    | ok r =>
      obtain ⟨x, t1⟩ := r
      simp only [bind, Except.bind]
      have hd' : desNode outer vis q tbl n = .ok (x, t1) := by
        rw [desNode_congr hv outer q tbl hS n]; exact hd
      rw [desNodes_congr hv outer q ns t1
        (fun s hs => desNode_names outer vis q tbl t1 x n hd' s (hS s hs))]

theorem desGraphInputs_names (q : List AnnotP) : ∀ (inputs : List ValueInfoP) (tbl : List IRValue),
    desGraphInputs q inputs = .ok tbl → tableNames tbl = inputs.map (·.name)
  | [], tbl, h => by
    simp only [desGraphInputs, Except.ok.injEq] at h
    rw [← h]; rfl
  | vi :: vis, tbl, h => by
    simp only [desGraphInputs] at h
    obtain ⟨v, hv, h⟩ := bind_eq_ok h
    obtain ⟨vs, hvs, h⟩ := bind_eq_ok h
    simp only [Except.ok.injEq] at h
    have hn : v.name = vi.name := by
      simp only [applyInfo] at hv
      obtain ⟨sh, _, hv⟩ := bind_eq_ok hv
      obtain ⟨ty, _, hv⟩ := bind_eq_ok hv
      simp only [Except.ok.injEq] at hv
      rw [← hv]; rfl
    have hq : (applyQuant q v).name = v.name := by
      simp only [applyQuant]; split <;> rfl
    rw [← h]
    simp only [tableNames, List.map_cons, hq, hn]
    have := desGraphInputs_names q vis vs hvs
    simp only [tableNames] at this
    rw [this]

mutual
theorem desAttr_fold (scopes : Scopes) : ∀ a : AttrP, desAttr scopes (foldAttr a) = desAttr scopes a
  | .ref .. => rfl
  | .int .. => rfl
  | .float .. => rfl
  | .string .. => rfl
  | .ints .. => rfl
  | .floats .. => rfl
  | .strings .. => rfl
  | .tensor n d t => by simp only [foldAttr, desAttr, desTensor_foldTensor]
  | .tensors n d ts => by simp only [foldAttr, desAttr, desTensors_foldTensor]
  | .graph n d g => by simp only [foldAttr, desAttr, desGraph_fold scopes g]
  | .graphs n d gs => by simp only [foldAttr, desAttr, desGraphs_fold scopes gs]
  | .typeProto .. => rfl
  | .typeProtos .. => rfl
  | .undefined .. => rfl
  | .sparse .. => rfl
  | .unknown .. => rfl

theorem desGraphs_fold (scopes : Scopes) : ∀ gs : List GraphP,
    desGraphs scopes (foldGraphs gs) = desGraphs scopes gs
  | [] => rfl
  | g :: gs => by simp only [foldGraphs, desGraphs, desGraph_fold scopes g, desGraphs_fold scopes gs]

theorem desAttrs_fold (scopes : Scopes) : ∀ as : List AttrP,
    desAttrs scopes (foldAttrs as) = desAttrs scopes as
  | [] => rfl
  | a :: as => by simp only [foldAttrs, desAttrs, desAttr_fold scopes a, desAttrs_fold scopes as]

theorem desAttrsLast_fold (scopes : Scopes) : ∀ as : List AttrP,
    desAttrsLast scopes (foldAttrs as) = desAttrsLast scopes as
  | [] => rfl
  | a :: as => by
    simp only [foldAttrs, desAttrsLast, foldAttr_name, foldAttrs_any, desAttr_fold scopes a,
      desAttrsLast_fold scopes as]

theorem desNode_fold (outer : Scopes) (vis : List ValueInfoP) (q : List AnnotP) (tbl : List IRValue) :
    ∀ n : NodeP, desNode outer vis q tbl (foldNode n) = desNode outer vis q tbl n
  | .mk inputs outputs name opType domain overload doc attrs metadata devcfgs => by
    simp only [foldNode, desNode, foldAttrs_names]
    cases desNodeInputs outer vis q inputs tbl with
    | error e => rfl
    | ok r =>
      obtain ⟨ins, t1⟩ := r
      simp only [bind, Except.bind, desAttrsLast_fold (tableNames t1 :: outer) attrs]

theorem desNodes_fold (outer : Scopes) (vis : List ValueInfoP) (q : List AnnotP) :
    ∀ (nodes : List NodeP) (tbl : List IRValue),
    desNodes outer vis q (foldNodes nodes) tbl = desNodes outer vis q nodes tbl
  | [], _ => rfl
  | n :: ns, tbl => by
    simp only [foldNodes, desNodes, desNode_fold outer vis q tbl n]
    cases desNode outer vis q tbl n with
    | error e => rfl
    | ok r =>
      obtain ⟨x, t1⟩ := r
      simp only [bind, Except.bind, desNodes_fold outer vis q ns t1]

theorem desGraph_fold (outer : Scopes) : ∀ g : GraphP, desGraph outer (foldGraph g) = desGraph outer g
  | .mk name doc nodes inits inputs outputs vis quant md => by
    have hv : VisAgree (inputs.map (·.name)) (foldVIs (inputs.map (·.name)) vis) vis :=
      fun n hn => findVI_foldVIs _ vis hn
    simp only [foldGraph, desGraph, desTensors_foldTensor, bind, Except.bind]
    cases h0 : desGraphInputs quant inputs with
    | error e => rfl
    | ok tbl0 =>
      have hS0 : ∀ s ∈ inputs.map (·.name), s ∈ tableNames tbl0 := by
        rw [desGraphInputs_names quant inputs tbl0 h0]; exact fun s hs => hs
      simp only []
      cases desTensors inits with
      | error e => rfl
      | ok tensors =>
        simp only []
        rw [desInitializers_congr hv quant tensors tbl0 hS0]
        cases h1 : desInitializers vis quant tensors tbl0 with
        | error e => rfl
        | ok r1 =>
          obtain ⟨tbl1, is⟩ := r1
          have hS1 : ∀ s ∈ inputs.map (·.name), s ∈ tableNames tbl1 :=
            fun s hs => desInitializers_names vis quant tensors tbl0 tbl1 is h1 s (hS0 s hs)
          simp only []
          rw [declareAll_foldNodes, declareAll_congr hv quant nodes tbl1 hS1]
          cases h2 : declareAll vis quant nodes tbl1 with
          | error e => rfl
          | ok tbl2 =>
            have hS2 : ∀ s ∈ inputs.map (·.name), s ∈ tableNames tbl2 :=
              fun s hs => declareAll_names vis quant nodes tbl1 tbl2 h2 s (hS1 s hs)
            simp only []
            rw [desNodes_fold outer _ quant nodes tbl2, desNodes_congr hv outer quant nodes tbl2 hS2]
end

theorem functionInputs_congr {vis vis' : List ValueInfoP} (h : ∀ n, findVI vis n = findVI vis' n) :
    ∀ ns : List String, functionInputs vis ns = functionInputs vis' ns
  | [] => rfl
  | n :: ns => by
    simp only [functionInputs, newValue_congr [] (h n), functionInputs_congr h ns]

theorem desFunction_fold (f : FunctionP) : desFunction (foldFunction f) = desFunction f := by
  have hv : VisAgree [] (dedupLastVI f.valueInfo) f.valueInfo := fun n _ => findVI_dedupLastVI _ n
  have hS : ∀ (tbl : List IRValue), ∀ s ∈ ([] : List String), s ∈ tableNames tbl := by
    intro tbl s hs; cases hs
  simp only [desFunction, foldFunction, opsetDict_idem, desAttrs_fold]
  rw [functionInputs_congr (fun n => findVI_dedupLastVI f.valueInfo n)]
  cases functionInputs f.valueInfo f.inputs with
  | error e => rfl
  | ok tbl0 =>
    simp only [bind, Except.bind]
    rw [declareAll_foldNodes, declareAll_congr hv [] f.nodes tbl0 (hS tbl0)]
    cases declareAll f.valueInfo [] f.nodes tbl0 with
    | error e => rfl
    | ok tbl1 =>
      simp only []
      rw [desNodes_fold [] _ [] f.nodes tbl1, desNodes_congr hv [] [] f.nodes tbl1 (hS tbl1)]
      rfl

/-- a function list whose members (after `T`) satisfy `p` deserializes alike when each such member does -/
theorem desFunctions_map (T : FunctionP → FunctionP) (p : FunctionP → Bool)
    (h : ∀ f, p (T f) = true → desFunction (T f) = desFunction f) : ∀ fs : List FunctionP,
    (fs.map T).all p = true → desFunctions (fs.map T) = desFunctions fs
  | [], _ => rfl
  | f :: fs, hl => by
    simp only [List.map_cons, List.all_cons, Bool.and_eq_true] at hl
    simp only [List.map_cons, desFunctions, h f hl.1, desFunctions_map T p h fs hl.2]

theorem map_eq_self_of_all {α : Type} {p : α → Bool} {f : α → α} (h : ∀ a, p a = true → f a = a) {l : List α}
    (hl : l.all p = true) : l.map f = l :=
  (List.map_congr_left fun a ha => h a (List.all_eq_true.1 hl a ha)).trans (List.map_id l)

theorem foldGraph_valueInfo (g : GraphP) :
    (foldGraph g).valueInfo = foldVIs (g.inputs.map (·.name)) g.valueInfo := by
  cases g; rfl

theorem applyExperimental_congr {m m' : List (String × ValueInfoP)}
    (h : ∀ vn, findLast? (fun e => e.1 = vn) m = findLast? (fun e => e.1 = vn) m') :
    ∀ (is : List Nat) (tbl : List IRValue), applyExperimental m is tbl = applyExperimental m' is tbl
  | [], _ => rfl
  | i :: is, tbl => by
    simp only [applyExperimental, h]
    cases findLast? (fun e => e.1 = (tbl.getD i (IRValue.blank "")).name) m' with
    | none => exact applyExperimental_congr h is tbl
    | some e =>
      simp only []
      cases applyInfo (tbl.getD i (IRValue.blank "")) e.2 with
      | error e => rfl
      | ok v => simp only [bind, Except.bind]; exact applyExperimental_congr h is _

/-- the experimental decoding finds the same entry in the folded list, for every function and value
name, when no graph input has a name of the experimental form -/
theorem experimentalFor_fold (I : List String) (V : List ValueInfoP)
    (hI : ∀ i ∈ I, parseExperimentalName i = none) (d nm vn : String) :
    findLast? (fun e => e.1 = vn) (experimentalFor (foldVIs I V) d nm)
      = findLast? (fun e => e.1 = vn) (experimentalFor V d nm) := by
  rw [findLast?_experimentalFor, findLast?_experimentalFor]
  congr 1
  unfold foldVIs dedupLastVI
  have e1 := findLast?_filter_g (fun v : ValueInfoP => v.name)
    (fun k => decide (parseExperimentalName k = some (d, nm, vn))) (fun v => !I.contains v.name)
    (by
      intro v hv
      simp only [decide_eq_true_eq] at hv
      simp only [Bool.not_eq_true', List.contains_eq_mem, decide_eq_false_iff_not]
      intro hm
      rw [hI _ hm] at hv
      cases hv)
    (dedupLastBy (fun v : ValueInfoP => v.name) V)
  have e2 := findLast?_dedupLastBy_g (fun v : ValueInfoP => v.name)
    (fun k => decide (parseExperimentalName k = some (d, nm, vn))) V
  exact e1.trans e2

theorem applyExperimentalFn_congr {V V' : List ValueInfoP}
    (h : ∀ d nm vn, findLast? (fun e => e.1 = vn) (experimentalFor V d nm)
      = findLast? (fun e => e.1 = vn) (experimentalFor V' d nm)) (f : IRFunction) :
    applyExperimentalFn V f = applyExperimentalFn V' f := by
  unfold applyExperimentalFn
  split
  · cases hg : f.graph with
    | mk tbl ins inits nodes outs name doc opsets mprops =>
      simp only [applyExperimental_congr (h f.domain f.name)]
  · rfl

theorem applyExperimentalAll_congr {V V' : List ValueInfoP}
    (h : ∀ d nm vn, findLast? (fun e => e.1 = vn) (experimentalFor V d nm)
      = findLast? (fun e => e.1 = vn) (experimentalFor V' d nm)) :
    ∀ fs : List IRFunction, applyExperimentalAll V fs = applyExperimentalAll V' fs
  | [] => rfl
  | f :: fs => by
    simp only [applyExperimentalAll, applyExperimentalFn_congr h f, applyExperimentalAll_congr h fs]

theorem desModel_fold (m : ModelP) (h : m.irVersion ≥ 10 ∨ inputsPlain m.graph = true) :
    desModel (foldModel m) = desModel m := by
  simp only [desModel, foldModel, desGraph_fold, opsetDict_idem,
    desFunctions_map foldFunction (fun _ => true) (fun f _ => desFunction_fold f) _ (List.all_eq_true.2 fun _ _ => rfl)]
  by_cases hlt : m.irVersion < 10
  · have hI : ∀ i ∈ m.graph.inputs.map (·.name), parseExperimentalName i = none := by
      rcases h with h | h
      · omega
      · intro i hi
        obtain ⟨vi, hvi, rfl⟩ := List.mem_map.1 hi
        have := List.all_eq_true.1 h vi hvi
        simpa using this
    have key := applyExperimentalAll_congr (experimentalFor_fold _ m.graph.valueInfo hI)
    simp only [hlt, if_true, foldGraph_valueInfo, key]
  · simp only [hlt, if_false]

end IrVerif.Serde
