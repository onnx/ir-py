/-
Lemmas on Model/PassInfra.lean (C14): list sums and filters, PassManager rounds, counted passes, successful runs, the
ClearMetadata loop.
-/
import IrVerif.Model.PassInfra
import IrVerif.Lemmas.ListFacts
namespace IrVerif.PassInfra

theorem sum_map_set {α : Type} (f : α → Nat) : ∀ (l : List α) (i : Nat) (x : α) (h : i < l.length),
    ((l.set i x).map f).sum + f l[i] = (l.map f).sum + f x
  | [], _, _, h => by simp at h
  | a :: l, 0, x, _ => by simp; omega
  | a :: l, i + 1, x, h => by
    have := sum_map_set f l i x (by simpa using h)
    simp only [List.set_cons_succ, List.map_cons, List.sum_cons, List.getElem_cons_succ]
    omega

theorem length_filter_lt {α : Type} (p : α → Bool) (l : List α) (x : α) (hx : x ∈ l) (hp : p x = false) :
    (l.filter p).length < l.length :=
  List.length_filter_lt_length_iff_exists.2 ⟨x, hx, by simp [hp]⟩

theorem sum_map_filter_le {α : Type} (f : α → Nat) (p : α → Bool) : ∀ (l : List α),
    ((l.filter p).map f).sum ≤ (l.map f).sum
  | [] => by simp
  | a :: l => by
    have := sum_map_filter_le f p l
    simp only [List.filter_cons]
    split <;> simp only [List.map_cons, List.sum_cons] <;> omega

theorem sum_map_map_le {α : Type} (f : α → Nat) (g : α → α) (hle : ∀ x, f (g x) ≤ f x) :
    ∀ (l : List α), ((l.map g).map f).sum ≤ (l.map f).sum
  | [] => by simp
  | a :: l => by
    have := sum_map_map_le f g hle l
    have := hle a
    simp only [List.map_cons, List.sum_cons]; omega

theorem sum_map_add_le {α : Type} (μ c : α → Nat) (g : α → α) (h : ∀ x, μ (g x) + c x ≤ μ x) :
    ∀ (l : List α), ((l.map g).map μ).sum + (l.map c).sum ≤ (l.map μ).sum
  | [] => Nat.le_refl _
  | a :: l => by
    have := sum_map_add_le μ c g h l
    have := h a
    simp only [List.map_cons, List.sum_cons]; omega

theorem sum_map_map_lt {α : Type} (f : α → Nat) (g : α → α) (hle : ∀ x, f (g x) ≤ f x) :
    ∀ (l : List α) (x : α), x ∈ l → f (g x) < f x → ((l.map g).map f).sum < (l.map f).sum
  | a :: l, x, hx, hlt => by
    have h1 := sum_map_map_le f g hle l
    have h2 := hle a
    simp only [List.map_cons, List.sum_cons]
    rcases List.mem_cons.1 hx with rfl | hx
    · omega
    · have := sum_map_map_lt f g hle l x hx hlt
      omega

/-- a PassManager with `early_stop` around a pure pass, under an invariant: at most measure + 1 rounds, then a fixpoint -/
theorem pure_rounds_inv {S : Type} (f : S → S) (flag : S → Bool) (μ : S → Nat) (Inv : S → Prop)
    (hinv : ∀ s, Inv s → Inv (f s)) (hhon : ∀ s, Inv s → flag s = false → f s = s)
    (hdec : ∀ s, Inv s → flag s = true → μ (f s) < μ s) :
    ∀ (n : Nat) (s : S) (m : ModelId) (acc : Bool), Inv s →
      (mgrLoop (fun s m => (f s, Except.ok ⟨m, flag s⟩)) true n s m acc).2.2.length ≤ μ s + 1 ∧
      ∀ s' r fl, μ s < n →
        mgrLoop (fun s m => (f s, Except.ok ⟨m, flag s⟩)) true n s m acc = (s', .ok r, fl) →
        f s' = s' ∧ flag s' = false ∧ Inv s'
  | 0, s, m, acc, _ => by
    simp only [mgrLoop, List.length_nil]
    exact ⟨by omega, fun s' r fl hn _ => by omega⟩
  | n + 1, s, m, acc, hi => by
    simp only [mgrLoop]
    cases hfl : flag s with
    | false =>
      simp only [Bool.not_false, Bool.and_self, if_true, List.length_cons, List.length_nil]
      refine ⟨by omega, fun s' r fl _ h => ?_⟩
      simp only [Prod.mk.injEq] at h
      have e := hhon s hi hfl
      rw [← h.1, e]
      exact ⟨e, hfl, hi⟩
    | true =>
      simp only [Bool.not_true, Bool.false_and, Bool.false_eq_true, if_false, List.length_cons]
      have ih := pure_rounds_inv f flag μ Inv hinv hhon hdec n (f s) m (acc || true) (hinv s hi)
      have hlt := hdec s hi hfl
      refine ⟨by have := ih.1; omega, fun s' r fl hn h => ?_⟩
      simp only [Prod.mk.injEq] at h
      obtain ⟨ha, hb, _⟩ := h
      exact ih.2 s' r _ (by omega) (by rw [← ha, ← hb])

/-- a pass `f` that counts its rewrites (`modified = bool(count)`): counting nothing it returns its input, and a
    measure drops by at least the count -/
structure Counted {S : Type} (f : S → S) (cnt μ : S → Nat) : Prop where
  cnt0 : ∀ s, cnt s = 0 → f s = s
  drop : ∀ s, μ (f s) + cnt s ≤ μ s

theorem Counted.honest {S : Type} {f : S → S} {cnt μ : S → Nat} (c : Counted f cnt μ) {s : S}
    (h : (cnt s != 0) = false) : f s = s :=
  c.cnt0 s (by simpa using h)

theorem Counted.lt {S : Type} {f : S → S} {cnt μ : S → Nat} (c : Counted f cnt μ) {s : S}
    (h : (cnt s != 0) = true) : μ (f s) < μ s := by
  have := c.drop s
  simp only [bne_iff_ne, ne_eq] at h
  omega

theorem guard_ok {W : Type} {ip : Bool} {rq : W → ModelId → W × Bool} {c : W → ModelId → W × CallRet}
    {en : W → ModelId → W × Bool} {w w' : W} {m : ModelId} {r : PassResult}
    (h : guard ip rq c en w m = (w', .ok r)) :
    (∃ w1 w2, rq w m = (w1, false) ∧ c w1 m = (w2, .result r) ∧ en w2 r.model = (w', false)) ∧
    (ip = true → r.model = m) ∧ (ip = false → r.model ≠ m) := by
  unfold guard at h
  split at h
  · simp at h
  · next w1 h1 =>
    split at h
    · simp at h
    · simp at h
    · next w2 r2 h2 =>
      split at h
      · simp at h
      · next w3 h3 =>
        split at h
        · simp at h
        · split at h
          · simp at h
          · next hA hB =>
            simp only [Prod.mk.injEq, Except.ok.injEq] at h
            obtain ⟨rfl, rfl⟩ := h
            refine ⟨⟨w1, w2, h1, h2, h3⟩, ?_, ?_⟩
            · intro hip; subst hip; simpa using hA
            · intro hip; subst hip; simpa using hB

theorem guard_noHook_ok {W : Type} {ip : Bool} {c : W → ModelId → W × CallRet} {w w' : W}
    {m : ModelId} {r : PassResult} (h : guard ip noHook c noHook w m = (w', .ok r)) :
    c w m = (w', .result r) := by
  obtain ⟨⟨w1, w2, h1, h2, h3⟩, _⟩ := guard_ok h
  simp only [noHook, Prod.mk.injEq] at h1 h3
  obtain ⟨rfl, _⟩ := h1
  obtain ⟨rfl, _⟩ := h3
  exact h2

theorem toCallRet_result {W : Type} {x : Res W} {w' : W} {r : PassResult}
    (h : toCallRet x = (w', .result r)) : x = (w', .ok r) := by
  obtain ⟨a, b⟩ := x
  cases b <;> simp_all [toCallRet]

theorem mgr_run_ok {W : Type} {cl : W → ModelId → W × ModelId} {ps : List (Pass W)} {steps : Nat} {es : Bool}
    {w w' : W} {m : ModelId} {r : PassResult} (h : (Pass.mgr ps steps es).run cl w m = (w', .ok r)) :
    mgrLoop (fun w m => runSeq cl ps w m false) es steps w m false =
      (w', .ok r, (mgrLoop (fun w m => runSeq cl ps w m false) es steps w m false).2.2) := by
  simp only [Pass.run] at h
  have h2 := toCallRet_result (guard_noHook_ok h)
  simp only [mgrCall, Prod.mk.injEq] at h2
  exact Prod.ext h2.1 (Prod.ext h2.2 rfl)

theorem mgrLoop_succ_ok {W : Type} {round : W → ModelId → Res W} {es : Bool} {n : Nat} {w w' : W} {m : ModelId}
    {acc : Bool} {r : PassResult} {fl : List Bool} (h : mgrLoop round es (n + 1) w m acc = (w', .ok r, fl)) :
    ∃ w1 r1, round w m = (w1, .ok r1) ∧
      ((r1.modified = false ∧ es = true ∧ w' = w1 ∧ r = ⟨r1.model, acc || r1.modified⟩ ∧ fl = [r1.modified]) ∨
       ((r1.modified = true ∨ es = false) ∧
        ∃ fl', mgrLoop round es n w1 r1.model (acc || r1.modified) = (w', .ok r, fl') ∧ fl = r1.modified :: fl')) := by
  simp only [mgrLoop] at h
  split at h
  · simp at h
  · next w1 r1 h1 =>
    refine ⟨w1, r1, h1, ?_⟩
    split at h
    · next hstop =>
      simp only [Bool.and_eq_true, Bool.not_eq_eq_eq_not, Bool.not_true] at hstop
      simp only [Prod.mk.injEq, Except.ok.injEq] at h
      exact Or.inl ⟨hstop.1, hstop.2, h.1.symm, h.2.1.symm, h.2.2.symm⟩
    · next hgo =>
      simp only [Prod.mk.injEq] at h
      refine Or.inr ⟨?_, _, by rw [← h.1, ← h.2.1], h.2.2.symm⟩
      revert hgo
      cases r1.modified <;> cases es <;> simp

theorem mgrLoop_total {W : Type} (round : W → ModelId → Res W) (es : Bool)
    (ht : ∀ w m, ∃ w' b, round w m = (w', .ok ⟨m, b⟩)) :
    ∀ (n : Nat) (w : W) (m : ModelId) (acc : Bool),
    ∃ w' b fl, mgrLoop round es n w m acc = (w', .ok ⟨m, b⟩, fl)
  | 0, w, m, acc => ⟨w, acc, [], rfl⟩
  | n + 1, w, m, acc => by
    obtain ⟨w1, b1, h1⟩ := ht w m
    simp only [mgrLoop, h1]
    split
    · exact ⟨_, _, _, rfl⟩
    · obtain ⟨w2, b2, fl, h2⟩ := mgrLoop_total round es ht n w1 m (acc || b1)
      exact ⟨w2, b2, b1 :: fl, by simp [h2]⟩

theorem traverse_count {S σ : Type} (rw : σ → S → Option S) :
    ∀ (xs : List σ) (s : S) (c : Nat),
    c ≤ (traverse rw xs s c).2 ∧ ((traverse rw xs s c).2 = c → (traverse rw xs s c).1 = s)
  | [], s, c => by simp [traverse]
  | x :: xs, s, c => by
    simp only [traverse]
    split
    · exact traverse_count rw xs s c
    · next s' h =>
      have ih := traverse_count rw xs s' (c + 1)
      exact ⟨by omega, fun e => by omega⟩

theorem traverse_measure {S σ : Type} (rw : σ → S → Option S) (μ : S → Nat)
    (hdec : ∀ x s s', rw x s = some s' → μ s' < μ s) :
    ∀ (xs : List σ) (s : S) (c : Nat),
    μ (traverse rw xs s c).1 + (traverse rw xs s c).2 ≤ μ s + c
  | [], s, c => by simp [traverse]
  | x :: xs, s, c => by
    simp only [traverse]
    split
    · exact traverse_measure rw μ hdec xs s c
    · next s' h =>
      have ih := traverse_measure rw μ hdec xs s' (c + 1)
      have := hdec x s s' h
      omega

theorem countingLeaf_run {S σ : Type} (cl : S → ModelId → S × ModelId) (sites : S → List σ)
    (rw : σ → S → Option S) (s : S) (m : ModelId) :
    (Pass.leaf (countingLeaf sites rw)).run cl s m =
      ((countingPass sites rw s).1, .ok ⟨m, (countingPass sites rw s).2⟩) := by
  simp [Pass.run, guard, countingLeaf, noHook]

namespace ClearMeta

theorem not_dirty_iff (i : Item) : i.dirty = false ↔ i = clean := by
  cases i with
  | mk n d => cases d <;> simp [Item.dirty, clean]

theorem loop_true : ∀ (ns : List (Nat × Item)) (gs : List Item) (ch : List Nat),
    (loop ns gs ch true).2.2 = true
  | [], _, _ => rfl
  | (g, it) :: rest, gs, ch => by
    simp only [loop]
    split <;> simp [loop_true rest]

theorem loop_false : ∀ (ns : List (Nat × Item)) (gs : List Item) (ch : List Nat),
    (loop ns gs ch false).2.2 = false → (loop ns gs ch false).1 = ns ∧ (loop ns gs ch false).2.1 = gs
  | [], _, _, _ => ⟨rfl, rfl⟩
  | (g, it) :: rest, gs, ch, h => by
    simp only [loop] at h ⊢
    split at h
    · simp [loop_true] at h
    · next hb =>
      rw [if_neg hb]
      cases hd : it.dirty
      · simp only [hd] at h ⊢
        have ih := loop_false rest gs ch (by simpa using h)
        have : it = clean := (not_dirty_iff it).1 hd
        simp_all
      · simp [hd, loop_true] at h

def NotDirty (gs : List Item) (g : Nat) : Prop := (gs.getD g clean).dirty = false

theorem clean_not_dirty : clean.dirty = false := rfl

theorem notDirty_set (gs : List Item) (g g' : Nat) (h : NotDirty gs g) :
    NotDirty (gs.set g' clean) g := by
  unfold NotDirty at *
  simp only [List.getD_eq_getElem?_getD, List.getElem?_set] at *
  split
  · split <;> simp [clean_not_dirty]
  · exact h

theorem notDirty_set_self (gs : List Item) (g : Nat) : NotDirty (gs.set g clean) g := by
  unfold NotDirty
  simp only [List.getD_eq_getElem?_getD, List.getElem?_set]
  simp only [if_true]
  split <;> simp [clean_not_dirty]

theorem loop_mono : ∀ (ns : List (Nat × Item)) (gs : List Item) (ch : List Nat) (md : Bool) (g : Nat),
    NotDirty gs g → NotDirty (loop ns gs ch md).2.1 g
  | [], _, _, _, _, h => h
  | (g0, it) :: rest, gs, ch, md, g, h => by
    simp only [loop]
    split
    · exact loop_mono rest _ _ _ g (notDirty_set gs g g0 h)
    · exact loop_mono rest _ _ _ g h

theorem loop_clean : ∀ (ns : List (Nat × Item)) (gs : List Item) (ch : List Nat) (md : Bool),
    (∀ g ∈ ch, NotDirty gs g) →
    ∀ p ∈ (loop ns gs ch md).1, p.2 = clean ∧ NotDirty (loop ns gs ch md).2.1 p.1
  | [], _, _, _, _, p, hp => by simp [loop] at hp
  | (g0, it) :: rest, gs, ch, md, hinv, p, hp => by
    simp only [loop] at hp ⊢
    split at hp
    · next hc =>
      rw [if_pos hc]
      have hinv' : ∀ g ∈ g0 :: ch, NotDirty (gs.set g0 clean) g := by
        intro g hg
        rcases List.mem_cons.1 hg with rfl | hg
        · exact notDirty_set_self gs g
        · exact notDirty_set gs g g0 (hinv g hg)
      rcases List.mem_cons.1 hp with rfl | hp
      · exact ⟨rfl, loop_mono rest _ _ _ g0 (notDirty_set_self gs g0)⟩
      · exact loop_clean rest _ _ _ hinv' p hp
    · next hc =>
      rw [if_neg hc]
      rcases List.mem_cons.1 hp with rfl | hp
      · refine ⟨rfl, loop_mono rest _ _ _ g0 ?_⟩
        simp only [Bool.and_eq_true, Bool.not_eq_eq_eq_not, Bool.not_true, not_and,
          Bool.not_eq_true] at hc
        by_cases hm : ch.contains g0 = true
        · exact hinv g0 (by simpa using hm)
        · exact hc (by simpa using hm)
      · exact loop_clean rest _ _ _ hinv p hp

theorem loop_of_clean : ∀ (ns : List (Nat × Item)) (gs : List Item) (ch : List Nat) (md : Bool),
    (∀ p ∈ ns, p.2 = clean ∧ NotDirty gs p.1) → loop ns gs ch md = (ns, gs, md)
  | [], _, _, _, _ => rfl
  | (g0, it) :: rest, gs, ch, md, h => by
    obtain ⟨hit, hg⟩ := h (g0, it) List.mem_cons_self
    simp only at hit hg
    subst hit
    have ih := loop_of_clean rest gs ch md (fun p hp => h p (List.mem_cons_of_mem _ hp))
    unfold NotDirty at hg
    simp only [List.getD_eq_getElem?_getD] at hg
    simp [loop, hg, ih, clean_not_dirty]

theorem dirty_size {i : Item} (h : i.dirty = true) : 1 ≤ itemSize i := by
  cases i with
  | mk n d =>
    cases d <;> simp_all [Item.dirty, itemSize]
    omega

theorem loop_size : ∀ (ns : List (Nat × Item)) (gs : List Item) (ch : List Nat) (md : Bool),
    size ⟨(loop ns gs ch md).1, (loop ns gs ch md).2.1⟩ +
      (if (loop ns gs ch md).2.2 && !md then 1 else 0) ≤ size ⟨ns, gs⟩
  | [], gs, _, md => by cases md <;> simp [loop, size]
  | (g0, it) :: rest, gs, ch, md => by
    simp only [loop]
    have hcz : itemSize clean = 0 := rfl
    by_cases hc : (!ch.contains g0 && (gs.getD g0 clean).dirty) = true
    · rw [if_pos hc]
      simp only [Bool.and_eq_true, Bool.not_eq_eq_eq_not, Bool.not_true] at hc
      have ih := loop_size rest (gs.set g0 clean) (g0 :: ch) true
      have hlt : g0 < gs.length := by
        by_cases hl : g0 < gs.length
        · exact hl
        · have : gs.getD g0 clean = clean := by
            simp [List.getD_eq_getElem?_getD, List.getElem?_eq_none (Nat.le_of_not_lt hl)]
          rw [this] at hc; simp [clean_not_dirty] at hc
      have hset := sum_map_set itemSize gs g0 clean hlt
      have hd : 1 ≤ itemSize gs[g0] := by
        apply dirty_size
        have : gs.getD g0 clean = gs[g0] := by simp [List.getD_eq_getElem?_getD, hlt]
        rw [← this]; exact hc.2
      simp only [size, List.map_cons, List.sum_cons, Bool.not_true, Bool.and_false] at ih ⊢
      split <;> omega
    · rw [if_neg hc]
      have ih := loop_size rest gs ch (if it.dirty = true then true else md)
      simp only [size, List.map_cons, List.sum_cons] at ih ⊢
      cases hd : it.dirty
      · simp only [hd, Bool.false_eq_true, if_false] at ih ⊢
        omega
      · have := dirty_size hd
        simp only [hd, if_true, Bool.not_true, Bool.and_false, Bool.false_eq_true, if_false] at ih ⊢
        split <;> omega

end ClearMeta

namespace InitInputs

theorem length_erase_lt (l : List Nat) (x : Nat) (h : l.contains x = true) :
    (l.erase x).length < l.length := by
  have hm : x ∈ l := by simpa using h
  rw [List.length_erase_of_mem hm]
  have : 0 < l.length := List.length_pos_of_mem hm
  omega

end InitInputs

namespace Dce

theorem trimmed_length_le (l : List (Option Nat)) : (trimmed l).length ≤ l.length := by
  simp only [trimmed, List.length_reverse]
  exact Nat.le_trans (List.dropWhile_sublist _).length_le (by simp)

end Dce

end IrVerif.PassInfra

namespace IrVerif.PassFlags

theorem filter_eq_of_length {α : Type} (p : α → Bool) (l : List α) (h : (l.filter p).length = l.length) :
    l.filter p = l :=
  List.filter_eq_self.2 (List.length_filter_eq_length_iff.1 h)

theorem map_eq_self_of_sum_zero {α : Type} (c : α → Nat) (f : α → α) (hf : ∀ a, c a = 0 → f a = a) (l : List α)
    (h : (l.map c).sum = 0) : l.map f = l :=
  (List.map_congr_left (fun a ha => hf a ((ListFacts.sum_map_eq_zero_iff c l).1 h a ha))).trans (List.map_id l)

theorem filter_of_not_nil {α : Type} (p : α → Bool) (l : List α) (h : l.filter (fun a => !p a) = []) :
    l.filter p = l :=
  List.filter_eq_self.2 (fun a ha => by simpa using List.filter_eq_nil_iff.1 h a ha)

theorem filter_len_split {α : Type} (p : α → Bool) : ∀ l : List α,
    (l.filter p).length + (l.filter (fun a => !p a)).length = l.length
  | [] => rfl
  | a :: l => by
    have := filter_len_split p l
    simp only [List.filter_cons]
    cases hp : p a <;> simp <;> omega

theorem filter_not_filter {α : Type} (p : α → Bool) (l : List α) :
    (l.filter p).filter (fun a => !p a) = [] := by
  rw [List.filter_eq_nil_iff]
  intro a ha
  simp [(List.mem_filter.1 ha).2]

theorem filter_of_any_false {α : Type} (p : α → Bool) (l : List α) (h : l.any (fun a => !p a) = false) :
    l.filter p = l :=
  List.filter_eq_self.2 (fun a ha => by simpa using List.any_eq_false.1 h a ha)

theorem filter_lt_of_any {α : Type} (p : α → Bool) (l : List α) (h : l.any (fun a => !p a) = true) :
    (l.filter p).length < l.length := by
  obtain ⟨x, hx, hp⟩ := List.any_eq_true.1 h
  exact PassInfra.length_filter_lt p l x hx (by simpa using hp)

theorem any_not_filter {α : Type} (p : α → Bool) (l : List α) :
    (l.filter p).any (fun a => !p a) = false := by
  rw [List.any_eq_false]
  intro a ha
  simp [(List.mem_filter.1 ha).2]

theorem filter_len_mono {α : Type} (p q : α → Bool) (h : ∀ a, p a = true → q a = true) : ∀ l : List α,
    (l.filter p).length ≤ (l.filter q).length
  | [] => Nat.le_refl _
  | a :: l => by
    have ih := filter_len_mono p q h l
    simp only [List.filter_cons]
    cases hp : p a
    · simp only [Bool.false_eq_true, if_false]
      cases q a
      · exact ih
      · simp only [if_true, List.length_cons]; omega
    · simp only [h a hp, if_true, List.length_cons]; omega

theorem filter_len_lt {α : Type} (p q : α → Bool) (h : ∀ a, p a = true → q a = true) : ∀ (l : List α) (x : α),
    x ∈ l → p x = false → q x = true → (l.filter p).length < (l.filter q).length
  | [], _, hx, _, _ => by simp at hx
  | a :: l, x, hx, hp, hq => by
    have hm := filter_len_mono p q h l
    simp only [List.filter_cons]
    rcases List.mem_cons.1 hx with e | hx
    · subst e
      simp only [hp, hq, Bool.false_eq_true, if_false, if_true, List.length_cons]; omega
    · have ih := filter_len_lt p q h l x hx hp hq
      cases hpa : p a
      · simp only [Bool.false_eq_true, if_false]
        cases q a
        · exact ih
        · simp only [if_true, List.length_cons]; omega
      · simp only [h a hpa, if_true, List.length_cons]; omega

end IrVerif.PassFlags
