/-
C12 — glue between positions in the universe (what the Kahn loop works on) and node ids
(what the tree and the result are expressed in); the two halves of step 5: the re-link as list algebra, the buckets.
-/
import IrVerif.Lemmas.SortTree

namespace IrVerif.Sort
open List

/-- position `i` of the universe holds entry `e` -/
def At (U : List Ent) (i : Nat) (e : Ent) : Prop := U[i]? = some e

theorem At.lt {U : List Ent} {i : Nat} {e : Ent} (h : At U i e) : i < U.length := by
  unfold At at h
  by_contra hc
  rw [List.getElem?_eq_none (Nat.le_of_not_lt hc)] at h
  simp at h

theorem At.mem {U : List Ent} {i : Nat} {e : Ent} (h : At U i e) : e ∈ U :=
  List.mem_of_getElem? h

theorem At.getElem {U : List Ent} {i : Nat} {e : Ent} (h : At U i e) : U[i]'h.lt = e := by
  have := h; unfold At at this
  rw [List.getElem?_eq_getElem h.lt] at this
  exact Option.some.inj this

theorem at_of_lt {U : List Ent} {i : Nat} (h : i < U.length) : At U i U[i] :=
  List.getElem?_eq_getElem h

theorem at_of_mem {U : List Ent} {e : Ent} (h : e ∈ U) : ∃ i, At U i e := by
  obtain ⟨i, hi, rfl⟩ := List.mem_iff_getElem.1 h
  exact ⟨i, at_of_lt hi⟩

theorem At.fun {U : List Ent} {i : Nat} {e e' : Ent} (h : At U i e) (h' : At U i e') : e = e' := by
  unfold At at h h'; rw [h] at h'; exact Option.some.inj h'

theorem At.inj {U : List Ent} (hnd : (idsOf U).Nodup) {i j : Nat} {e e' : Ent}
    (h : At U i e) (h' : At U j e') (hid : e.id = e'.id) : i = j := by
  have hi : i < (idsOf U).length := by simp [idsOf, h.lt]
  have hj : j < (idsOf U).length := by simp [idsOf, h'.lt]
  apply (hnd.getElem_inj_iff (hi := hi) (hj := hj)).1
  simp only [idsOf, List.getElem_map, h.getElem, h'.getElem, hid]

theorem indexOfId_some {U : List Ent} {a i : Nat} (h : indexOfId U a = some i) :
    ∃ e, At U i e ∧ e.id = a := by
  unfold indexOfId at h
  obtain ⟨hi, hp, _⟩ := List.findIdx?_eq_some_iff_getElem.1 h
  exact ⟨U[i], at_of_lt hi, by simpa using hp⟩

theorem indexOfId_at {U : List Ent} (hnd : (idsOf U).Nodup) {i : Nat} {e : Ent} (h : At U i e) :
    indexOfId U e.id = some i := by
  unfold indexOfId
  rw [List.findIdx?_eq_some_iff_getElem]
  refine ⟨h.lt, by simp [h.getElem], ?_⟩
  intro j hji hp
  have hj : j < U.length := Nat.lt_trans hji h.lt
  have hid : (U[j]).id = e.id := by simpa using hp
  have := At.inj hnd (at_of_lt hj) h hid
  omega

theorem mem_predsAt {U : List Ent} {j : Nat} {ec : Ent} (hj : At U j ec) {i : Nat} :
    i ∈ predsAt U j ↔
      ∃ a, (some a ∈ ec.inputs ∨ a ∈ ec.subNodes) ∧ indexOfId U a = some i := by
  have hj' : U[j]? = some ec := hj
  simp only [predsAt, hj', predsOfEnt, List.mem_append, List.mem_filterMap]
  constructor
  · rintro (⟨o, ho, hb⟩ | ⟨a, ha, hb⟩)
    · cases o with
      | none => simp at hb
      | some a => exact ⟨a, Or.inl ho, by simpa using hb⟩
    · exact ⟨a, Or.inr ha, hb⟩
  · rintro ⟨a, ha | ha, hb⟩
    · exact Or.inl ⟨some a, ha, by simpa using hb⟩
    · exact Or.inr ⟨a, ha, hb⟩

/-- predecessor lists only mention positions of the universe -/
theorem predsAt_lt (U : List Ent) : ∀ c, c < U.length → ∀ p ∈ predsAt U c, p < U.length := by
  intro c hc p hp
  obtain ⟨a, _, hb⟩ := (mem_predsAt (at_of_lt hc)).1 hp
  obtain ⟨e, he, _⟩ := indexOfId_some hb
  exact he.lt

/-- the position-level edge relation, read on entries -/
theorem edge_iff {U : List Ent} (hnd : (idsOf U).Nodup) {i j : Nat} {e ec : Ent}
    (hi : At U i e) (hj : At U j ec) :
    Edge U.length (predsAt U) i j ↔ (some e.id ∈ ec.inputs ∨ e.id ∈ ec.subNodes) := by
  constructor
  · rintro ⟨_, _, hmem⟩
    obtain ⟨a, ha, hb⟩ := (mem_predsAt hj).1 hmem
    obtain ⟨e', he', hid⟩ := indexOfId_some hb
    have := hi.fun he'
    subst this
    rw [hid]; exact ha
  · intro h
    exact ⟨hi.lt, hj.lt, (mem_predsAt hj).2 ⟨e.id, h, indexOfId_at hnd hi⟩⟩

/-- the dependency relation of `Graph.sort` on node ids: `a` is in the universe and is the
    producer of an input of `b` or a direct node of an attribute graph of `b` -/
def Dep (U : List Ent) (a b : Nat) : Prop :=
  ∃ ea ∈ U, ∃ eb ∈ U, ea.id = a ∧ eb.id = b ∧ (some a ∈ eb.inputs ∨ a ∈ eb.subNodes)

def posOf (U : List Ent) (a : Nat) : Nat := (idsOf U).idxOf a

def idAt (U : List Ent) (i : Nat) : Nat := ((U[i]?).map Ent.id).getD 0

theorem at_posOf {U : List Ent} (hnd : (idsOf U).Nodup) {e : Ent} (he : e ∈ U) :
    At U (posOf U e.id) e := by
  obtain ⟨i, hi⟩ := at_of_mem he
  have : posOf U e.id = i := by
    unfold posOf
    have hlt : i < (idsOf U).length := by simp [idsOf, hi.lt]
    have hget : (idsOf U)[i] = e.id := by simp [idsOf, hi.getElem]
    rw [← hget]; exact hnd.idxOf_getElem i hlt
  rw [this]; exact hi

theorem idAt_at {U : List Ent} {i : Nat} {e : Ent} (h : At U i e) : idAt U i = e.id := by
  have h' : U[i]? = some e := h
  simp [idAt, h']

theorem edge_of_dep {U : List Ent} (hnd : (idsOf U).Nodup) {a b : Nat} (h : Dep U a b) :
    Edge U.length (predsAt U) (posOf U a) (posOf U b) := by
  obtain ⟨ea, hea, eb, heb, rfl, rfl, hc⟩ := h
  exact (edge_iff hnd (at_posOf hnd hea) (at_posOf hnd heb)).2 hc

theorem dep_of_edge {U : List Ent} (hnd : (idsOf U).Nodup) {i j : Nat}
    (h : Edge U.length (predsAt U) i j) : Dep U (idAt U i) (idAt U j) := by
  have hi := at_of_lt h.1
  have hj := at_of_lt h.2.1
  rw [idAt_at hi, idAt_at hj]
  exact ⟨_, hi.mem, _, hj.mem, rfl, rfl, (edge_iff hnd hi hj).1 h⟩

theorem cycle_pos_iff {U : List Ent} (hnd : (idsOf U).Nodup) :
    (∃ x, Relation.TransGen (Edge U.length (predsAt U)) x x) ↔
    (∃ a, Relation.TransGen (Dep U) a a) := by
  constructor
  · rintro ⟨x, hx⟩
    exact ⟨idAt U x, Relation.TransGen.lift (idAt U) (fun _ _ h => dep_of_edge hnd h) _ _ hx⟩
  · rintro ⟨a, ha⟩
    exact ⟨posOf U a, Relation.TransGen.lift (posOf U) (fun _ _ h => edge_of_dep hnd h) _ _ ha⟩

/-! ## re-linking -/

theorem appendMove_eq {l : List Nat} (hnd : l.Nodup) (x : Nat) :
    appendMove l x = l.erase x ++ [x] := by
  unfold appendMove
  split
  · rename_i h
    obtain ⟨ys, rfl⟩ := List.getLast?_eq_some_iff.1 h
    have hx : x ∉ ys := by
      intro hm
      exact (List.nodup_append.1 hnd).2.2 x hm x (by simp) rfl
    rw [List.erase_append_right _ hx]; simp
  · rfl

theorem erase_append_nodup {l : List Nat} (hnd : l.Nodup) (x : Nat) : (l.erase x ++ [x]).Nodup := by
  rw [List.nodup_append]
  refine ⟨hnd.erase x, by simp, ?_⟩
  intro a ha b hb
  simp at hb; subst hb
  exact ((hnd.mem_erase_iff).1 ha).1

theorem relink_eq (cur xs : List Nat) (hc : cur.Nodup) (hx : xs.Nodup) :
    relink cur xs = cur.filter (fun a => decide (a ∉ xs)) ++ xs := by
  induction xs generalizing cur with
  | nil => simp [relink]
  | cons x xs ih =>
    rw [List.nodup_cons] at hx
    have hstep : relink cur (x :: xs) = relink (cur.erase x ++ [x]) xs := by
      simp only [relink, List.foldl_cons, appendMove_eq hc x]
    have hnd' := erase_append_nodup hc x
    rw [hstep, ih _ hnd' hx.2, List.filter_append, hc.erase_eq_filter, List.filter_filter]
    have hx1 : decide (x ∉ xs) = true := by simp [hx.1]
    simp only [List.filter_cons, hx1, if_true, List.filter_nil, List.append_assoc,
      List.singleton_append]
    congr 1
    apply List.filter_congr
    intro a _
    by_cases hax : a = x <;> simp [hax, hx.1]

/-- re-linking a graph with a duplicate-free arrangement of all its nodes yields that arrangement -/
theorem relink_perm {cur xs : List Nat} (hc : cur.Nodup) (hp : xs.Perm cur) : relink cur xs = xs := by
  have hx : xs.Nodup := hp.nodup_iff.2 hc
  rw [relink_eq cur xs hc hx]
  have : cur.filter (fun a => decide (a ∉ xs)) = [] := by
    rw [List.filter_eq_nil_iff]
    intro a ha; simp [hp.mem_iff.2 ha]
  rw [this]; simp

/-! ## buckets -/

theorem filterMap_range_getElem? (A U : List Ent) :
    (List.range' A.length U.length).filterMap (fun i => (A ++ U)[i]?) = U := by
  induction U generalizing A with
  | nil => simp
  | cons e U ih =>
    have h1 : (A ++ e :: U)[A.length]? = some e := by simp
    have h2 := ih (A ++ [e])
    simp only [List.length_append, List.length_singleton, List.append_assoc,
      List.singleton_append] at h2
    simp only [List.length_cons, List.range'_succ, List.filterMap_cons, h1]
    rw [h2]

theorem filterMap_range (U : List Ent) : (List.range U.length).filterMap (fun i => U[i]?) = U := by
  have := filterMap_range_getElem? [] U
  simpa [List.range_eq_range'] using this

/-- after a complete run, a bucket holds the ids of the entries labelled with that graph -/
theorem bucket_perm {U : List Ent} {out : List Nat} (hp : out.Perm (List.range U.length))
    (k : Nat) : (bucket U out k).Perm ((U.filter (fun e => e.gid == k)).map Ent.id) := by
  unfold bucket
  have h1 : (out.filterMap (fun i => U[i]?)).Perm U := by
    have := hp.filterMap (fun i => U[i]?)
    rwa [filterMap_range] at this
  exact (h1.filter _).map _

theorem bucket_append (U : List Ent) (l1 l2 : List Nat) (k : Nat) :
    bucket U (l1 ++ l2) k = bucket U l1 k ++ bucket U l2 k := by
  simp [bucket, List.filterMap_append, List.filter_append]

theorem bucket_single {U : List Ent} {i : Nat} {e : Ent} (h : At U i e) (k : Nat) (hk : e.gid = k) :
    bucket U [i] k = [e.id] := by
  have h' : U[i]? = some e := h
  simp [bucket, h', hk]

theorem mem_bucket {U : List Ent} {l : List Nat} {i : Nat} {e : Ent} (hi : i ∈ l) (h : At U i e)
    (k : Nat) (hk : e.gid = k) : e.id ∈ bucket U l k := by
  have h' : U[i]? = some e := h
  simp only [bucket, List.mem_map, List.mem_filter, List.mem_filterMap]
  exact ⟨e, ⟨⟨i, hi, h'⟩, by simp [hk]⟩, rfl⟩

/-- order in the popped list carries over to the bucket of a graph -/
theorem bucket_before {U : List Ent} {out : List Nat} {i j : Nat} {ei ej : Ent}
    (hb : Before out i j) (hi : At U i ei) (hj : At U j ej) (k : Nat) (hki : ei.gid = k)
    (hkj : ej.gid = k) : Before (bucket U out k) ei.id ej.id := by
  obtain ⟨l1, l2, rfl, hj2⟩ := hb
  refine ⟨bucket U l1 k, bucket U l2 k, ?_, mem_bucket hj2 hj k hkj⟩
  rw [bucket_append, show i :: l2 = [i] ++ l2 from rfl, bucket_append, bucket_single hi k hki]
  simp

/-- inside a span every entry reaches the span's root along "direct node of an attribute graph of" -/
theorem owner_chain (U : List Ent) : ∀ m : MNode, ∀ k, entsN k m ⊆ U → ∀ e ∈ entsN k m,
    e = entOf k m ∨ Relation.TransGen (Dep U) e.id m.id := by
  intro m
  induction m using MNode.ind with
  | h n ih =>
    intro k hsub e he
    rcases mem_entsN.1 he with rfl | ⟨g, hg, m', hm', hin⟩
    · exact Or.inl rfl
    · right
      have hsub' : entsN g.1 m' ⊆ entsN k n :=
        ((entsN_infix_entsNs hm').trans (entsNs_infix_entsN hg)).subset
      have hstep : Dep U m'.id n.id := by
        refine ⟨entOf g.1 m', hsub (hsub' (entOf_mem_entsN _ _)), entOf k n,
          hsub (entOf_mem_entsN _ _), rfl, rfl, Or.inr ?_⟩
        exact mem_subNodeIds hg hm'
      rcases ih g hg m' hm' g.1 (fun x hx => hsub (hsub' hx)) e hin with rfl | hchain
      · exact Relation.TransGen.single hstep
      · exact Relation.TransGen.tail hchain hstep

end IrVerif.Sort
