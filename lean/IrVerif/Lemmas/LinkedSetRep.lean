/-
`Links`: consecutive boxes of a list are linked both ways; unlinking / linking lemmas.
-/
import IrVerif.Lemmas.LinkedSetPrim
namespace IrVerif.LinkedSet

/-- last element of `a :: l` -/
def lastOr (a : Nat) : List Nat → Nat
  | [] => a
  | b :: l => lastOr b l
/-- first element of `l ++ [z]` -/
def headOr (z : Nat) : List Nat → Nat
  | [] => z
  | q :: _ => q

@[simp] theorem lastOr_nil (a : Nat) : lastOr a [] = a := rfl
@[simp] theorem lastOr_cons (a b : Nat) (l : List Nat) : lastOr a (b :: l) = lastOr b l := rfl
@[simp] theorem headOr_nil (z : Nat) : headOr z [] = z := rfl
@[simp] theorem headOr_cons (z q : Nat) (l : List Nat) : headOr z (q :: l) = q := rfl

theorem lastOr_mem : ∀ (l : List Nat) (a : Nat), lastOr a l ∈ a :: l
  | [], a => by simp
  | b :: l, a => by
      have := lastOr_mem l b
      simp only [lastOr_cons]; exact List.mem_cons_of_mem _ this
theorem headOr_mem (l : List Nat) (z : Nat) : headOr z l ∈ l ++ [z] := by cases l <;> simp

theorem lastOr_append_singleton : ∀ (l : List Nat) (a x : Nat), lastOr a (l ++ [x]) = x
  | [], a, x => rfl
  | b :: l, a, x => by simp [lastOr_append_singleton l b x]

theorem lastOr_eq_of_ne_nil : ∀ (l : List Nat) (a a' : Nat), l ≠ [] → lastOr a l = lastOr a' l
  | [], _, _, h => by simp at h
  | b :: l, a, a', _ => by simp

/-- `b` is the root or a live box -/
def IsNode (bs : List Nat) (b : Nat) : Prop := b = 0 ∨ b ∈ bs

instance (bs : List Nat) (b : Nat) : Decidable (IsNode bs b) :=
  inferInstanceAs (Decidable (b = 0 ∨ b ∈ bs))

theorem mem_insMid {l1 l2 : List Nat} {n b : Nat} : b ∈ l1 ++ n :: l2 ↔ b = n ∨ b ∈ l1 ++ l2 := by
  rw [List.perm_middle.mem_iff, List.mem_cons]

theorem nodup_insMid {l1 l2 : List Nat} {n : Nat} :
    (l1 ++ n :: l2).Nodup ↔ n ∉ l1 ++ l2 ∧ (l1 ++ l2).Nodup := by
  rw [List.perm_middle.nodup_iff, List.nodup_cons]

theorem nodup_insMid_left {l1 l2 : List Nat} {n : Nat} (h : (l1 ++ n :: l2).Nodup) : n ∉ l1 :=
  fun hm => (nodup_insMid.1 h).1 (List.mem_append_left _ hm)

theorem nodup_insMid_right {l1 l2 : List Nat} {n : Nat} (h : (l1 ++ n :: l2).Nodup) : n ∉ l2 :=
  fun hm => (nodup_insMid.1 h).1 (List.mem_append_right _ hm)

theorem IsNode.lastOr (l1 l2 : List Nat) : IsNode (l1 ++ l2) (lastOr 0 l1) :=
  (List.mem_cons.1 (lastOr_mem l1 0)).imp_right (List.mem_append_left l2)

theorem IsNode.headOr (l1 l2 : List Nat) : IsNode (l1 ++ l2) (headOr 0 l2) :=
  ((List.mem_append.1 (headOr_mem l2 0)).imp (List.mem_append_right l1) List.mem_singleton.1).symm

theorem IsNode.insMid {l1 l2 : List Nat} {x : Nat} (n : Nat) (h : IsNode (l1 ++ l2) x) :
    IsNode (l1 ++ n :: l2) x :=
  h.imp_right fun hm => mem_insMid.2 (Or.inr hm)

theorem IsNode.ne {bs : List Nat} {x b : Nat} (hx : IsNode bs x) (hb0 : b ≠ 0) (hb : b ∉ bs) : x ≠ b := by
  rintro rfl
  exact hx.elim hb0 hb

/-- consecutive boxes of the list are linked both ways -/
def Links (s : LSet) : List Nat → Prop
  | x :: y :: r => nx s x = y ∧ pv s y = x ∧ Links s (y :: r)
  | _ => True

@[simp] theorem Links_nil (s : LSet) : Links s [] = True := by simp [Links]
@[simp] theorem Links_single (s : LSet) (x : Nat) : Links s [x] = True := by simp [Links]
theorem Links_cons2 (s : LSet) (x y : Nat) (r : List Nat) :
    Links s (x :: y :: r) ↔ nx s x = y ∧ pv s y = x ∧ Links s (y :: r) := by simp [Links]

/-- frame: `Links s (x :: l ++ [z])` reads `nx` on `x :: l` and `pv` on `l ++ [z]` only -/
theorem Links_frame {s s' : LSet} : ∀ (l : List Nat) (x z : Nat), Links s (x :: l ++ [z]) →
    (∀ y ∈ x :: l, nx s' y = nx s y) → (∀ y ∈ l ++ [z], pv s' y = pv s y) →
    Links s' (x :: l ++ [z])
  | [], x, z, h, hn, hp => by
      simp only [List.cons_append, List.nil_append, Links_cons2, Links_single, and_true] at *
      rw [hn x (by simp), hp z (by simp)]; exact h
  | y :: l, x, z, h, hn, hp => by
      simp only [List.cons_append, Links_cons2] at *
      refine ⟨?_, ?_, ?_⟩
      · rw [hn x (by simp)]; exact h.1
      · rw [hp y (by simp)]; exact h.2.1
      · exact Links_frame l y z h.2.2 (fun w hw => hn w (List.mem_cons_of_mem _ hw))
          (fun w hw => hp w (List.mem_cons_of_mem _ hw))

theorem Links_into {s : LSet} : ∀ (l1 : List Nat) (a x : Nat) (r : List Nat),
    Links s (a :: l1 ++ x :: r) → nx s (lastOr a l1) = x ∧ pv s x = lastOr a l1
  | [], a, x, r, h => by
      simp only [List.cons_append, List.nil_append, Links_cons2] at h
      exact ⟨h.1, h.2.1⟩
  | b :: l1, a, x, r, h => by
      simp only [List.cons_append, Links_cons2] at h
      exact Links_into l1 b x r h.2.2

theorem Links_outof {s : LSet} : ∀ (pre : List Nat) (x : Nat) (l2 : List Nat) (z : Nat),
    Links s (pre ++ x :: l2 ++ [z]) → nx s x = headOr z l2 ∧ pv s (headOr z l2) = x
  | [], x, [], z, h => by simpa [Links_cons2] using h
  | [], x, q :: l2, z, h => by
      simp only [List.nil_append, List.cons_append, Links_cons2] at h
      exact ⟨h.1, h.2.1⟩
  | [a], x, l2, z, h => by
      simp only [List.cons_append, List.nil_append, Links_cons2] at h
      exact Links_outof [] x l2 z (by simpa using h.2.2)
  | a :: b :: pre, x, l2, z, h => by
      simp only [List.cons_append, Links_cons2] at h
      exact Links_outof (b :: pre) x l2 z (by simpa using h.2.2)

theorem lastOr_ne {a b : Nat} {l : List Nat} (h : a ∉ b :: l) : a ≠ lastOr b l :=
  fun e => h (e ▸ lastOr_mem l b)

theorem headOr_ne {b z : Nat} {l : List Nat} (h1 : b ∉ l) (h2 : b ≠ z) : b ≠ headOr z l :=
  fun e => (List.mem_append.1 (e ▸ headOr_mem l z)).elim h1 fun hm => h2 (List.mem_singleton.1 hm)

/-- unlinking `n` from `a :: l1 ++ n :: l2 ++ [z]` -/
theorem Links_unlink {s s' : LSet} : ∀ (l1 : List Nat) (a n : Nat) (l2 : List Nat) (z : Nat),
    Links s (a :: l1 ++ n :: l2 ++ [z]) →
    (a :: l1 ++ n :: l2).Nodup → z ∉ l1 ++ n :: l2 →
    (∀ x, nx s' x = if x = lastOr a l1 then headOr z l2 else nx s x) →
    (∀ x, pv s' x = if x = headOr z l2 then lastOr a l1 else pv s x) →
    Links s' (a :: l1 ++ l2 ++ [z])
  | [], a, n, l2, z, h, hnd, hz, hnx, hpv => by
      simp only [lastOr_nil, List.cons_append, List.nil_append] at *
      cases l2 with
      | nil =>
        simp only [headOr_nil, List.nil_append, Links_cons2, Links_single, and_true] at *
        simp [hnx, hpv]
      | cons q l2 =>
        simp only [headOr_cons, List.cons_append, Links_cons2] at *
        obtain ⟨ha, hnd⟩ := List.nodup_cons.1 hnd
        obtain ⟨hq, -⟩ := List.nodup_cons.1 (List.nodup_cons.1 hnd).2
        refine ⟨by simp [hnx], by simp [hpv], ?_⟩
        apply Links_frame l2 q z h.2.2.2.2
        · intro y hy
          have : y ≠ a := fun e => ha (e ▸ List.mem_cons_of_mem _ hy)
          rw [hnx]; simp [this]
        · intro y hy
          have : y ≠ q := by
            rintro rfl
            exact (List.mem_append.1 hy).elim hq fun hm =>
              hz (List.mem_cons_of_mem _ (List.mem_singleton.1 hm ▸ List.mem_cons_self))
          rw [hpv]; simp [this]
  | b :: l1, a, n, l2, z, h, hnd, hz, hnx, hpv => by
      simp only [List.cons_append, Links_cons2, lastOr_cons] at h hnx hpv ⊢
      obtain ⟨ha, hnd'⟩ := List.nodup_cons.1 hnd
      obtain ⟨hb, -⟩ := List.nodup_cons.1 hnd'
      have h1 : a ≠ lastOr b l1 := lastOr_ne fun hm => ha (List.mem_append_left _ hm)
      have h2 : b ≠ headOr z l2 :=
        headOr_ne (fun hm => hb (List.mem_append_right _ (List.mem_cons_of_mem _ hm)))
          fun e => hz (e ▸ List.mem_cons_self)
      exact ⟨by rw [hnx]; simp [h1, h.1], by rw [hpv]; simp [h2, h.2.1],
        Links_unlink l1 b n l2 z (by simpa using h.2.2) hnd'
          (fun hm => hz (List.mem_cons_of_mem _ hm)) hnx hpv⟩

/-- linking a new box `m` into `a :: l1 ++ l2 ++ [z]` after the last box of `a :: l1` -/
theorem Links_link {s s' : LSet} : ∀ (l1 : List Nat) (a m : Nat) (l2 : List Nat) (z : Nat),
    Links s (a :: l1 ++ l2 ++ [z]) →
    (a :: l1 ++ l2).Nodup → z ∉ l1 ++ l2 → m ∉ a :: l1 ++ l2 ++ [z] →
    (∀ x, nx s' x = if x = m then headOr z l2 else if x = lastOr a l1 then m else nx s x) →
    (∀ x, pv s' x = if x = headOr z l2 then m else if x = m then lastOr a l1 else pv s x) →
    Links s' (a :: l1 ++ m :: l2 ++ [z])
  | [], a, m, l2, z, h, hnd, hz, hm, hnx, hpv => by
      simp only [lastOr_nil, List.cons_append, List.nil_append] at *
      have hma : m ≠ a := fun e => hm (e ▸ List.mem_cons_self)
      cases l2 with
      | nil =>
        simp only [headOr_nil, List.nil_append, Links_cons2, Links_single, and_true] at *
        have hmz : m ≠ z := fun e => hm (e ▸ List.mem_cons_of_mem _ List.mem_cons_self)
        refine ⟨by simp [hnx, hma.symm], ?_, by simp [hnx], by simp [hpv]⟩
        rw [hpv]; simp [hmz]
      | cons q l2 =>
        simp only [headOr_cons, List.cons_append, Links_cons2] at *
        have hmq : m ≠ q := fun e => hm (e ▸ List.mem_cons_of_mem _ List.mem_cons_self)
        obtain ⟨ha, hnd⟩ := List.nodup_cons.1 hnd
        obtain ⟨hq, -⟩ := List.nodup_cons.1 hnd
        refine ⟨by simp [hnx, hma.symm], ?_, by simp [hnx], by simp [hpv], ?_⟩
        · rw [hpv]; simp [hmq]
        · apply Links_frame l2 q z h.2.2
          · intro y hy
            have h1 : y ≠ m := fun e => hm (e ▸ List.mem_cons_of_mem _ (List.mem_append_left _ hy))
            have h2 : y ≠ a := fun e => ha (e ▸ hy)
            rw [hnx]; simp [h1, h2]
          · intro y hy
            have h1 : y ≠ m := fun e => hm (e ▸ List.mem_cons_of_mem _ (List.mem_cons_of_mem _ hy))
            have h2 : y ≠ q := by
              rintro rfl
              exact (List.mem_append.1 hy).elim hq fun hm' =>
                hz (List.mem_singleton.1 hm' ▸ List.mem_cons_self)
            rw [hpv]; simp [h1, h2]
  | b :: l1, a, m, l2, z, h, hnd, hz, hm, hnx, hpv => by
      simp only [List.cons_append, Links_cons2, lastOr_cons] at h hnx hpv ⊢
      obtain ⟨ha, hnd'⟩ := List.nodup_cons.1 hnd
      obtain ⟨hb, -⟩ := List.nodup_cons.1 hnd'
      have hma : a ≠ m := fun e => hm (e ▸ List.mem_cons_self)
      have hmb : b ≠ m := fun e => hm (e ▸ List.mem_cons_of_mem _ List.mem_cons_self)
      have h1 : a ≠ lastOr b l1 := lastOr_ne fun hm' => ha (List.mem_append_left _ hm')
      have h2 : b ≠ headOr z l2 :=
        headOr_ne (fun hm' => hb (List.mem_append_right _ hm')) fun e => hz (e ▸ List.mem_cons_self)
      exact ⟨by rw [hnx]; simp [h1, hma, h.1], by rw [hpv]; simp [h2, hmb, h.2.1],
        Links_link l1 b m l2 z (by simpa using h.2.2) hnd' (fun hm' => hz (List.mem_cons_of_mem _ hm'))
          (fun hm' => hm (List.mem_cons_of_mem _ hm')) hnx hpv⟩

end IrVerif.LinkedSet
