/-
Helper lemmas for the C04 theorems about `Model/TensorRepr.lean`: facts about the element-type
tables, decoding of little-endian buffers, complex pairs, file slices.  Core Lean only.
-/
import IrVerif.Lemmas.TensorReprSpec
import IrVerif.Lemmas.Pack
namespace IrVerif.TensorRepr
open IrVerif.Pack

theorem DType.mem_all (d : DType) : d ∈ DType.all := by cases d <;> decide

/-- the form in which a fact about all element types is one closed proposition, evaluated once -/
theorem DType.forall_of_all {p : DType → Prop} (h : ∀ d ∈ DType.all, p d) (d : DType) : p d :=
  h d (DType.mem_all d)

theorem ofCode_code : ∀ d : DType, DType.ofCode d.code = some d :=
  DType.forall_of_all (by decide +kernel)

/-- a dict `t` and its reversal `{v: k for k, v in t.items()}` are mutually inverse as soon as every
    row is found again from its key and from its value -/
theorem lookup_iff_rfind {α β : Type} [BEq α] [LawfulBEq α] [DecidableEq β] {t : List (α × β)}
    (h : ∀ q ∈ t, t.lookup q.1 = some q.2 ∧
      (t.reverse.find? (fun p => p.2 = q.2)).map (·.1) = some q.1) (a : α) (b : β) :
    t.lookup a = some b ↔ (t.reverse.find? (fun p => p.2 = b)).map (·.1) = some a := by
  constructor
  · intro hl
    obtain ⟨l₁, l₂, ht, _⟩ := List.lookup_eq_some_iff.mp hl
    exact (h (a, b) (ht ▸ List.mem_append_right _ List.mem_cons_self)).2
  · intro hf
    obtain ⟨p, hp, rfl⟩ := Option.map_eq_some_iff.mp hf
    have hb : p.2 = b := by simpa using List.find?_some hp
    exact hb ▸ (h p (List.mem_reverse.mp (List.mem_of_find?_eq_some hp))).1

theorem npRows : ∀ q ∈ DType.npTable, DType.ofNpName q.1 = some q.2 ∧ q.2.npName = some q.1 := by
  decide +kernel

theorem shortRows :
    ∀ q ∈ DType.shortNameTable, q.1.shortName = some q.2 ∧ DType.ofShortName q.2 = some q.1 := by
  decide +kernel

theorem ofNpName_iff (s : String) (d : DType) : DType.ofNpName s = some d ↔ d.npName = some s :=
  lookup_iff_rfind npRows s d

theorem shortName_iff (d : DType) (s : String) :
    d.shortName = some s ↔ DType.ofShortName s = some d :=
  lookup_iff_rfind shortRows d s

theorem DType.named : ∀ d : DType, d.shortName.isSome = true ∧ (d ≠ .undefined → d.npName.isSome = true) :=
  DType.forall_of_all (by decide +kernel)

/-- what the proofs use about the element-type tables for a type of `bw` bits (`facts`) -/
structure Facts (d : DType) (bw : Nat) : Prop where
  range : bw = 2 ∨ bw = 4 ∨ bw = 8 ∨ bw = 16 ∨ bw = 32 ∨ bw = 64 ∨ bw = 128
  pack4 : d.bytePack4 = true ↔ bw = 4
  pack2 : d.bytePack2 = true ↔ bw = 2
  sub : d.extSubByte = true ↔ (bw = 4 ∨ bw = 2)
  item : npItemBytes d = if bw < 8 then 1 else bw / 8
  np : d.npName.isSome = true
  i32 : d.int32Legal = true → bw ≤ 32 ∧ (d.int32Bytes16 = true ↔ bw = 16) ∧
        (d.int32Bytes8 = true ↔ (bw = 8 ∨ bw = 4 ∨ bw = 2)) ∧ (d = .int32 ↔ bw = 32)
  torch : d.torchMapped = true → bw ≠ 4
  nundef : d ≠ .undefined
  nstr : d ≠ .string

instance (d : DType) (bw : Nat) : Decidable (Facts d bw) :=
  decidable_of_iff
    ((bw = 2 ∨ bw = 4 ∨ bw = 8 ∨ bw = 16 ∨ bw = 32 ∨ bw = 64 ∨ bw = 128) ∧
     (d.bytePack4 = true ↔ bw = 4) ∧ (d.bytePack2 = true ↔ bw = 2) ∧
     (d.extSubByte = true ↔ (bw = 4 ∨ bw = 2)) ∧ (npItemBytes d = if bw < 8 then 1 else bw / 8) ∧
     d.npName.isSome = true ∧
     (d.int32Legal = true → bw ≤ 32 ∧ (d.int32Bytes16 = true ↔ bw = 16) ∧
        (d.int32Bytes8 = true ↔ (bw = 8 ∨ bw = 4 ∨ bw = 2)) ∧ (d = .int32 ↔ bw = 32)) ∧
     (d.torchMapped = true → bw ≠ 4) ∧ d ≠ .undefined ∧ d ≠ .string)
    ⟨fun ⟨a, b, c, e, f, g, h, i, j, k⟩ => ⟨a, b, c, e, f, g, h, i, j, k⟩,
     fun ⟨a, b, c, e, f, g, h, i, j, k⟩ => ⟨a, b, c, e, f, g, h, i, j, k⟩⟩

/-- UNDEFINED and STRING have no bit width -/
theorem facts_all : ∀ d ∈ DType.all, ∀ bw ∈ d.bitwidth, Facts d bw := by decide +kernel

theorem facts (d : DType) (bw : Nat) (h : d.bitwidth = some bw) : Facts d bw :=
  facts_all d (DType.mem_all d) bw h

theorem Facts.packable {d : DType} {bw : Nat} (F : Facts d bw) : bw = 2 ∨ bw = 4 ∨ bw % 8 = 0 := by
  rcases F.range with rfl | rfl | rfl | rfl | rfl | rfl | rfl <;> decide

theorem Facts.two_le {d : DType} {bw : Nat} (F : Facts d bw) : 2 ≤ bw := by
  rcases F.range with rfl | rfl | rfl | rfl | rfl | rfl | rfl <;> decide

theorem Facts.units_le {d : DType} {bw : Nat} (F : Facts d bw) : 2 ^ bw ≤ 256 ^ npItemBytes d := by
  rw [F.item]
  rcases F.range with rfl | rfl | rfl | rfl | rfl | rfl | rfl <;> decide

/-- how a type of `bw` bits is stored, with what the literal type sets of the byte builders and the
    numpy item size say in that class.  For `cases`: the bit width becomes `4`, `2`, `8 * k`. -/
inductive Storage (d : DType) : Nat → Prop
  | nibbles (h4 : d.bytePack4 = true) (hs : d.extSubByte = true) (hi : npItemBytes d = 1) :
      Storage d 4
  | crumbs (h4 : d.bytePack4 = false) (h2 : d.bytePack2 = true) (hs : d.extSubByte = true)
      (hi : npItemBytes d = 1) : Storage d 2
  | bytes (k : Nat) (hk : 0 < k) (h4 : d.bytePack4 = false) (h2 : d.bytePack2 = false)
      (hs : d.extSubByte = false) (hi : npItemBytes d = k) : Storage d (8 * k)

theorem Facts.storage {d : DType} {bw : Nat} (F : Facts d bw) : Storage d bw := by
  have h4 := F.pack4
  have h2 := F.pack2
  have hs := F.sub
  have hi := F.item
  rcases F.range with rfl | rfl | rfl | rfl | rfl | rfl | rfl
  · exact .crumbs (by simpa using h4) (by simpa using h2) (by simpa using hs) hi
  · exact .nibbles (by simpa using h4) (by simpa using hs) hi
  · exact .bytes 1 (by decide) (by simpa using h4) (by simpa using h2) (by simpa using hs) hi
  · exact .bytes 2 (by decide) (by simpa using h4) (by simpa using h2) (by simpa using hs) hi
  · exact .bytes 4 (by decide) (by simpa using h4) (by simpa using h2) (by simpa using hs) hi
  · exact .bytes 8 (by decide) (by simpa using h4) (by simpa using h2) (by simpa using hs) hi
  · exact .bytes 16 (by decide) (by simpa using h4) (by simpa using h2) (by simpa using hs) hi

theorem fromLE_nil (w : Nat) : fromLE w [] = [] := by
  rw [fromLE]; simp

theorem fromLE_cons (w : Nat) (hw : 0 < w) (x : Nat) (hx : x < 256 ^ w) (rest : List Nat) :
    fromLE w (leBytes w x ++ rest) = x :: fromLE w rest := by
  rw [fromLE]
  have hl := leBytes_length w x
  have hc : ¬ (w = 0 ∨ ((leBytes w x ++ rest).take w).length < w) := by
    rw [List.take_left' hl, hl]; omega
  rw [dif_neg hc, List.take_left' hl, List.drop_left' hl, ofLeBytes_leBytes w x hx]

theorem fromLE_flatMap (w : Nat) (hw : 0 < w) (xs : List Nat) (h : ∀ x ∈ xs, x < 256 ^ w) :
    fromLE w (xs.flatMap (leBytes w)) = xs := by
  induction xs with
  | nil => simpa using fromLE_nil w
  | cons x xs ih =>
    rw [List.flatMap_cons, fromLE_cons w hw x (h x (by simp)), ih (fun y hy => h y (by simp [hy]))]

theorem fromBuffer_flatMap (w : Nat) (hw : 0 < w) (xs : List Nat) (h : ∀ x ∈ xs, x < 256 ^ w) :
    fromBuffer w (xs.flatMap (leBytes w)) = .ok xs := by
  have hw0 : w ≠ 0 := by omega
  have hl : (xs.flatMap (leBytes w)).length % w = 0 := by
    rw [flatMap_leBytes_length]; exact Nat.mul_mod_left _ _
  simp only [fromBuffer, hw0, if_false, hl, if_true, fromLE_flatMap w hw xs h]

theorem wrap_lt (k : Nat) (x : Int) : wrap k x < 2 ^ k := by
  unfold wrap
  have hp : (0 : Int) < 2 ^ k := Int.pow_pos (by decide)
  have h1 := Int.emod_lt_of_pos x hp
  have h0 := Int.emod_nonneg x (Int.ne_of_gt hp)
  have : ((x % 2 ^ k).toNat : Int) < ((2 ^ k : Nat) : Int) := by
    rw [Int.toNat_of_nonneg h0]; simpa using h1
  exact Int.ofNat_lt.mp this

theorem pairUp_splitParts (hb : Nat) (xs : List Nat) : pairUp hb (splitParts hb xs) = .ok xs := by
  induction xs with
  | nil => rfl
  | cons x xs ih =>
    simp only [splitParts, List.flatMap_cons, List.cons_append, List.nil_append] at *
    simp only [pairUp, ih, Nat.mod_add_div']

theorem splitParts_eq_nil (hb : Nat) (xs : List Nat) : splitParts hb xs = [] ↔ xs = [] := by
  cases xs <;> simp [splitParts]

theorem pow256 (k : Nat) : (256 : Nat) ^ k = 2 ^ (8 * k) := by
  rw [Nat.pow_mul]

theorem splitParts_bytes (w : Nat) (xs : List Nat) :
    (splitParts (8 * w) xs).flatMap (leBytes w) = xs.flatMap (leBytes (w + w)) := by
  induction xs with
  | nil => rfl
  | cons x xs ih =>
    simp only [splitParts, List.flatMap_cons, List.cons_append, List.nil_append] at *
    rw [ih, leBytes_add w w x, ← leBytes_mod w x, pow256, List.append_assoc]

theorem splitParts_bytes32 (xs : List Nat) :
    (splitParts 32 xs).flatMap (leBytes 4) = xs.flatMap (leBytes 8) :=
  splitParts_bytes 4 xs

theorem splitParts_bytes64 (xs : List Nat) :
    (splitParts 64 xs).flatMap (leBytes 8) = xs.flatMap (leBytes 16) :=
  splitParts_bytes 8 xs

theorem packLE_length (bw : Nat) (xs : List Nat) (h : bw = 2 ∨ bw = 4 ∨ bw % 8 = 0) :
    (packLE bw xs).length = nbytes xs.length bw :=
  tobytes_length bw xs h

theorem packLE_whole (k : Nat) (xs : List Nat) : packLE (8 * k) xs = xs.flatMap (leBytes k) := by
  rw [packLE, tobytes, if_neg (by omega), if_neg (by omega), Nat.mul_div_cancel_left k (by decide)]

theorem packLE_byte (bw : Nat) (xs : List Nat) : ∀ b ∈ packLE bw xs, b < 256 :=
  tobytes_byte bw xs

theorem slice_mid (pre mid post : List Nat) :
    ((pre ++ mid ++ post).drop pre.length).take mid.length = mid := by
  simp [List.append_assoc]

theorem swapItems_nil (w : Nat) : swapItems w [] = [] := by
  rw [swapItems]; simp

theorem swapItems_cons (w : Nat) (hw : 0 < w) (x : Nat) (rest : List Nat) :
    swapItems w ((leBytes w x).reverse ++ rest) = leBytes w x ++ swapItems w rest := by
  rw [swapItems]
  have hl : ((leBytes w x).reverse).length = w := by simp [leBytes_length]
  have hc : ¬ (w = 0 ∨ (((leBytes w x).reverse ++ rest).take w).length < w) := by
    rw [List.take_left' hl, hl]; omega
  rw [dif_neg hc, List.take_left' hl, List.drop_left' hl, List.reverse_reverse]

theorem swapItems_memOf (w : Nat) (hw : 0 < w) (xs : List Nat) :
    swapItems w (memOf w true xs) = xs.flatMap (leBytes w) := by
  induction xs with
  | nil => simpa [memOf] using swapItems_nil w
  | cons x xs ih =>
    simp only [memOf, List.flatMap_cons, if_true] at *
    rw [swapItems_cons w hw, ih]

theorem memOf_length (w : Nat) (be : Bool) (xs : List Nat) : (memOf w be xs).length = xs.length * w := by
  induction xs with
  | nil => simp [memOf]
  | cons x xs ih =>
    simp only [memOf, List.flatMap_cons, List.length_append] at *
    rw [ih]
    cases be <;> simp [leBytes_length, Nat.add_mul] <;> omega

theorem obsBits_id (bw : Nat) (xs : List Nat) (h : ∀ x ∈ xs, x < 2 ^ bw) : obsBits bw xs = xs :=
  map_mod_id (2 ^ bw) xs h

theorem wf_obsBits {d : DType} {dims : List Nat} {bw : Nat} {units : List Nat}
    (hbw : d.bitwidth = some bw) (hl : units.length = prod dims) :
    WF d dims bw (obsBits bw units) := by
  refine ⟨hbw, by rw [obsBits, List.length_map, hl], fun x hx => ?_⟩
  obtain ⟨u, _, rfl⟩ := List.mem_map.mp hx
  exact Nat.mod_lt _ (Nat.two_pow_pos bw)

theorem nbytesOf_ok {d : DType} {dims : List Nat} {bw : Nat} (h : d.bitwidth = some bw) :
    nbytesOf d dims = .ok (nbytes (prod dims) bw) := by
  simp [nbytesOf, h]

theorem unpackBits_packLE {bw : Nat} (hb : bw = 2 ∨ bw = 4) (xs : List Nat)
    (hr : ∀ x ∈ xs, x < 2 ^ bw) : unpackBits bw (packLE bw xs) xs.length = xs := by
  rcases hb with hb | hb <;> subst hb
  · simpa [unpackBits, packLE, tobytes] using unpack2_pack2 xs (by simpa using hr)
  · simpa [unpackBits, packLE, tobytes] using unpack4_pack4 xs (by simpa using hr)

end IrVerif.TensorRepr
