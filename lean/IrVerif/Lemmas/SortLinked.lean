/-
C12 ↔ C11: the re-linking step of `Graph.sort` (`graph.extend(reversed(sorted_nodes))`) on C11's list-level
specification of the container (`LinkedSet.Spec`) is the `relink` of `Model/Sort.lean`; composed with C11's
`C11_rep_toList` for the pointer-level container in `toList_extend_eq_relink`.
-/
import IrVerif.Props.C11
import IrVerif.Lemmas.SortPos

namespace IrVerif.Sort
open List
open IrVerif.LinkedSet (LSet toList)

/-- on a duplicate-free sequence the abstract `append` of C11 (`Spec.append`: do nothing when the
    value is the last element, else unlink it if present and link it after the last box) is
    `appendMove` -/
theorem spec_append_L (st : LinkedSet.Spec.St) (hnd : st.L.Nodup) (x : Nat) :
    (LinkedSet.Spec.append st x).L = appendMove st.L x := by
  rw [appendMove_eq hnd]
  unfold LinkedSet.Spec.append LinkedSet.Spec.insertOneAfter
  by_cases hlast : st.L.getLast? = some x
  · -- already the last element
    simp only [hlast, if_true]
    obtain ⟨ys, hys⟩ := List.getLast?_eq_some_iff.1 hlast
    have hx : x ∉ ys := by
      intro hm
      rw [hys] at hnd
      exact (List.nodup_append.1 hnd).2.2 x hm x (by simp) rfl
    rw [hys, List.erase_append_right _ hx]; simp
  · simp only [hlast, if_false]
    -- the sequence after unlinking `x`
    have hst1 : (if x ∈ st.L then LinkedSet.Spec.removeIdx st (st.L.idxOf x) else st).L
        = st.L.erase x := by
      split
      · simp only [LinkedSet.Spec.removeIdx]
        exact (List.erase_eq_eraseIdx_of_idxOf rfl).symm
      · rename_i hm; simp [List.erase_of_not_mem hm]
    cases hl : st.L.getLast? with
    | none =>
      have : st.L = [] := List.getLast?_eq_none_iff.1 hl
      simp [LinkedSet.Spec.insertIdx, this]
    | some a =>
      have hax : a ≠ x := by intro h; apply hlast; rw [hl, h]
      obtain ⟨ys, hys⟩ := List.getLast?_eq_some_iff.1 hl
      have ha : a ∉ ys := by
        intro hm
        rw [hys] at hnd
        exact (List.nodup_append.1 hnd).2.2 a hm a (by simp) rfl
      have herase : st.L.erase x = ys.erase x ++ [a] := by
        rw [hys, List.erase_append]
        split
        · rfl
        · have : [a].erase x = [a] := by
            apply List.erase_of_not_mem; simp; exact fun h => hax h.symm
          rw [this, List.erase_of_not_mem (by assumption)]
      have ha' : a ∉ ys.erase x := fun hm => ha (List.mem_of_mem_erase hm)
      simp only [LinkedSet.Spec.insertIdx, hst1]
      rw [herase, List.idxOf_append, if_neg ha', List.idxOf_cons_self]
      have : 0 + (ys.erase x).length + 1 = (ys.erase x ++ [a]).length := by simp
      rw [this, List.insertIdx_length_self]

theorem spec_extend_L (st : LinkedSet.Spec.St) (hnd : st.L.Nodup) (xs : List Nat) :
    (LinkedSet.Spec.extend st xs).L = relink st.L xs := by
  induction xs generalizing st with
  | nil => simp [LinkedSet.Spec.extend, relink]
  | cons x xs ih =>
    have h1 := spec_append_L st hnd x
    have hnd' : (LinkedSet.Spec.append st x).L.Nodup := by
      rw [h1, appendMove_eq hnd]
      exact erase_append_nodup hnd x
    simp only [LinkedSet.Spec.extend, relink, List.foldl_cons]
    rw [ih _ hnd', h1]
    rfl

theorem toList_extend_eq_relink {s : LSet} (h : LinkedSet.WF s) (xs : List Nat) :
    LinkedSet.toList (LinkedSet.apply s (.extend xs)).1 = relink (LinkedSet.toList s) xs := by
  have hnd := LinkedSet.toList_nodup h
  obtain ⟨h1, _⟩ := LinkedSet.C11_rep_toList h (.extend xs)
  rw [h1]
  exact spec_extend_L ⟨LinkedSet.toList s, .fwd, .done⟩ hnd xs

end IrVerif.Sort
