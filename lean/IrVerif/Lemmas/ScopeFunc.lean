/-
Functions: certificate, round trip and second serialization for `deserFunction` / `serFunction`, on top of the
development for graphs (a function is a graph without initializers and without enclosing scopes; its
outputs must be bound in its scope).  What `deserFunction` builds: `ScopeFuncDeser`.
-/
import IrVerif.Model.ScopeFunc
import IrVerif.Lemmas.ScopeReplIdem
namespace IrVerif.Scope

theorem deserFInputs_spec (vi : List (Name × Info)) : ∀ (xs : List Name) (st : Store),
    (deserFInputs st vi xs).2 = List.range' st.nv xs.length ∧
    (deserFInputs st vi xs).1.nv = st.nv + xs.length ∧
    (Fresh st → Fresh (deserFInputs st vi xs).1) ∧
    Prim st.nv st (deserFInputs st vi xs).1 ∧
    (∀ v, v < st.nv → ((deserFInputs st vi xs).1.vals v).name = (st.vals v).name) := by
  intro xs
  induction xs with
  | nil => intro st; exact ⟨rfl, rfl, fun h => h, Prim.refl _ _, fun _ _ => rfl⟩
  | cons x xs ih =>
    intro st
    obtain ⟨q, hnv⟩ := newNamed_quiet st vi x
    obtain ⟨a, b, c, d, e⟩ := ih (newNamed st vi x)
    simp only [deserFInputs, List.length_cons, List.range'_succ]
    refine ⟨by rw [a, hnv], by rw [b, hnv]; omega, fun h => c (q.fresh h), ?_, fun v hv => ?_⟩
    · exact (newNamed_prim st.nv st vi x (Nat.le_refl _)).trans (d.weaken (by omega))
    · rw [e v (by omega), q.names v hv]

theorem finputTable_eq (V : Nat → ValueS) (ins ds : List Nat) :
    finputTable (ins.map (nm V)) ds = inputTable (ins.map (viOf V)) ds := by
  have : (ins.map (viOf V)).map (·.name) = ins.map (nm V) := by
    rw [List.map_map]; rfl
  simp only [finputTable, inputTable, this]

theorem rt2_finputs (V : Nat → ValueS) (vi : List (Name × Info)) :
    ∀ (ins : List Nat) (s : Store) (A : Assoc), RS V s A → ins.Nodup → (∀ v ∈ ins, v ∉ A.map (·.1)) →
      (∀ v ∈ ins, (V v).name ≠ none) →
      RS V (deserFInputs s vi (ins.map (nm V))).1 (A ++ ins.zip (List.range' s.nv ins.length)) ∧
      ∀ v ∈ ins, ((deserFInputs s vi (ins.map (nm V))).1.vals
        (sig (A ++ ins.zip (List.range' s.nv ins.length)) v)).info = declInfo vi (nm V v) := by
  intro ins
  induction ins with
  | nil => intro s A h _ _ _; exact ⟨by simpa [deserFInputs] using h, by simp⟩
  | cons v rest ih =>
    intro s A h hnd hA hn
    simp only [List.nodup_cons] at hnd
    simp only [List.map_cons, deserFInputs, List.length_cons, List.range'_succ, List.zip_cons_cons]
    have hvA := hA v List.mem_cons_self
    obtain ⟨q, hnv⟩ := newNamed_quiet s vi (nm V v)
    have h1 := h.alloc_named vi hvA (name_some_of_ne_none (hn v (by simp)))
    obtain ⟨r, hi⟩ := ih (newNamed s vi (nm V v)) (A ++ [(v, s.nv)]) h1 hnd.2
      (not_mem_keys_snoc hA hnd.1)
      (fun w hw => hn w (List.mem_cons_of_mem _ hw))
    rw [hnv] at r hi
    have e : A ++ (v, s.nv) :: rest.zip (List.range' (s.nv + 1) rest.length) =
        (A ++ [(v, s.nv)]) ++ rest.zip (List.range' (s.nv + 1) rest.length) := by simp
    rw [e]
    refine ⟨r, fun w hw => ?_⟩
    simp only [List.mem_cons] at hw
    rcases hw with rfl | hw
    · rw [sig_append_of_mem mem_keys_snoc, sig_append_single hvA]
      obtain ⟨_, _, _, pr, _⟩ := deserFInputs_spec vi (rest.map (nm V)) (newNamed s vi (nm V w))
      rw [(pr.cell s.nv (by omega)).1]
      exact newNamed_cell s vi (nm V w)
    · exact hi w hw

theorem serFInputs_ok (V : Nat → ValueS) : ∀ (ins : List Nat) (ns : List Name) (vis : List VInfoP),
    serFInputs V ins = .ok (ns, vis) →
    ns = ins.map (nm V) ∧ (∀ v ∈ ins, (V v).name ≠ none) ∧
    ∀ e, e ∈ vis ↔ ∃ v ∈ ins, shouldCreate (V v) = true ∧ e = ⟨nm V v, (V v).info.emit⟩ := by
  intro ins
  induction ins with
  | nil =>
    intro ns vis h
    simp only [serFInputs, Except.ok.injEq, Prod.mk.injEq] at h
    obtain ⟨rfl, rfl⟩ := h
    exact ⟨rfl, by simp, by simp⟩
  | cons v rest ih =>
    intro ns vis h
    simp only [serFInputs] at h
    split at h
    · simp at h
    · rename_i n hn
      split at h
      · simp at h
      · rename_i ns' vis' hr
        simp only [Except.ok.injEq, Prod.mk.injEq] at h
        obtain ⟨rfl, rfl⟩ := h
        obtain ⟨a, b, c⟩ := ih ns' vis' hr
        have hnm : nm V v = n := nm_of_name hn
        refine ⟨by simp [a, hnm], fun w hw => ?_, fun e => ?_⟩
        · simp only [List.mem_cons] at hw
          rcases hw with rfl | hw
          · rw [hn]; simp
          · exact b w hw
        · by_cases hsc : shouldCreate (V v) = true
          · simp only [hsc, if_true, List.mem_cons, c e]
            constructor
            · rintro (rfl | ⟨u, hu, h1, h2⟩)
              · exact ⟨v, .inl rfl, hsc, by rw [hnm]⟩
              · exact ⟨u, .inr hu, h1, h2⟩
            · rintro ⟨u, hu, h1, h2⟩
              rcases hu with rfl | hu
              · left; rw [h2, hnm]
              · exact .inr ⟨u, hu, h1, h2⟩
          · have hf : shouldCreate (V v) = false := by simpa using hsc
            simp only [hf, Bool.false_eq_true, if_false, c e]
            constructor
            · rintro ⟨u, hu, h1, h2⟩
              exact ⟨u, List.mem_cons_of_mem _ hu, h1, h2⟩
            · rintro ⟨u, hu, h1, h2⟩
              rcases List.mem_cons.mp hu with rfl | hu
              · rw [hf] at h1; cases h1
              · exact ⟨u, hu, h1, h2⟩

theorem serFInputs_of_names (V : Nat → ValueS) : ∀ (ins : List Nat), (∀ v ∈ ins, (V v).name ≠ none) →
    ∃ vis, serFInputs V ins = .ok (ins.map (nm V), vis) := by
  intro ins
  induction ins with
  | nil => intro _; exact ⟨[], rfl⟩
  | cons v rest ih =>
    intro h
    obtain ⟨vis, hv⟩ := ih (fun w hw => h w (List.mem_cons_of_mem _ hw))
    have hn := name_some_of_ne_none (h v List.mem_cons_self)
    exact ⟨if shouldCreate (V v) then ⟨nm V v, (V v).info.emit⟩ :: vis else vis,
      by simp only [serFInputs, hn, hv, List.map_cons]⟩

theorem serFunction_inv {V : Nat → ValueS} {td : TData} {id : FId} {gid : Nat} {ins : List Nat}
    {inits : List (Name × Nat)} {nodes : List NodeT} {outs : List Nat} {fp : FuncP} {ws : Writes}
    (h : serFunction V td (id, .mk gid ins inits nodes outs) = .ok (fp, ws)) :
    ∃ vis1 nps vis2, serFInputs V ins = .ok (ins.map (nm V), vis1) ∧ serNodes V td [] nodes = .ok (nps, vis2, ws) ∧
      (∀ v ∈ outs, (V v).name ≠ none) ∧
      fp = ⟨id, ins.map (nm V), outs.map (nm V), vis1 ++ vis2, nps⟩ := by
  simp only [serFunction] at h
  split at h
  · simp at h
  · rename_i insN vis1 hi
    split at h
    · simp at h
    · rename_i outsN ho
      split at h
      · simp at h
      · rename_i nps vis2 ws' hn
        simp only [Except.ok.injEq, Prod.mk.injEq] at h
        obtain ⟨rfl, rfl⟩ := h
        have := (serFInputs_ok V ins insN vis1 hi).1
        subst this
        rw [(serOutNames_ok ho).1]
        exact ⟨vis1, nps, vis2, hi, hn, (serOutNames_ok ho).2, rfl⟩

/-- the certificate of a function graph: no initializers, no enclosing scope; inputs that share a (usable)
    name share what the proto says about that name; every output is bound in the function's scope -/
def replF (V : Nat → ValueS) : GraphT → RR
  | .mk _ ins inits nodes outs =>
    ⟨[],
      ins ++ (replDecl V (tblIns V ins) (nodes.flatMap (liveOuts V))).new ++
        (replNs V [] (replDecl V (tblIns V ins) (nodes.flatMap (liveOuts V))).tbl nodes).new,
      inits = [] ∧ (∀ v ∈ ins, (V v).name ≠ none) ∧
        (∀ a ∈ ins, ∀ b ∈ ins, nameTruthy (V a).name = true → (V a).name = (V b).name →
          (V a).info.emit = (V b).info.emit) ∧
        (replDecl V (tblIns V ins) (nodes.flatMap (liveOuts V))).ok ∧
        (replNs V [] (replDecl V (tblIns V ins) (nodes.flatMap (liveOuts V))).tbl nodes).ok ∧
        (∀ v ∈ outs, (V v).name ≠ none ∧
          (replNs V [] (replDecl V (tblIns V ins) (nodes.flatMap (liveOuts V))).tbl nodes).tbl.lookup (nm V v) = some v)⟩

/-- the values whose type / shape / documentation the proto of a function carries: named inputs and
    named node outputs, of the function and of every nested graph -/
def emitF (V : Nat → ValueS) : GraphT → List Nat
  | .mk _ ins _ nodes _ =>
    ins.filter (fun v => nameTruthy (V v).name) ++
      (nodes.flatMap (liveOuts V)).filter (fun v => nameTruthy (V v).name) ++ emitSubNs V nodes

theorem rt2_foutputs (A : Assoc) (T : Table) (V : Nat → ValueS) : ∀ (outs : List Nat),
    (∀ v ∈ outs, T.lookup (nm V v) = some v) → deserFOutputs (mapT A T) (outs.map (nm V)) = .ok (outs.map (sig A)) := by
  intro outs
  induction outs with
  | nil => intro _; rfl
  | cons v rest ih =>
    intro h
    have hl : (mapT A T).lookup (nm V v) = some (sig A v) := by rw [lookup_mapT, h v List.mem_cons_self]; rfl
    simp only [List.map_cons, deserFOutputs, hl, ih (fun w hw => h w (List.mem_cons_of_mem _ hw))]

theorem replDecl_new_unbound (V : Nat → ValueS) : ∀ (l : List Nat) (T : Table), (replDecl V T l).ok →
    ∀ v ∈ (replDecl V T l).new, T.lookup (nm V v) = none := by
  intro l
  induction l with
  | nil => intro T _ v hv; simp [replDecl] at hv
  | cons a l ih =>
    intro T hok v hv
    simp only [replDecl] at hok hv
    split at hok
    · rename_i ht
      simp only [ht, if_true, List.mem_cons] at hv
      rcases hv with rfl | hv
      · exact hok.1
      · have := ih _ hok.2 v hv
        by_cases hne : nm V v = nm V a
        · rw [hne]; exact hok.1
        · rw [lookup_cons_ne _ _ _ _ hne] at this; exact this
    · rename_i ht
      simp only [ht] at hv
      exact ih T hok.2 v hv

/-- the inputs of a function, created by name: the run, the table, the association of the new values -/
theorem rt_fhead (V : Nat → ValueS) (vi : List (Name × Info)) (ins : List Nat) (s : Store) (A : Assoc) (hrs : RS V s A)
    (hnd : ins.Nodup) (hnew : ∀ v ∈ ins, v ∉ A.map (·.1)) (hn : ∀ v ∈ ins, (V v).name ≠ none) :
    (deserFInputs s vi (ins.map (nm V))).2 = List.range' s.nv ins.length ∧
    (deserFInputs s vi (ins.map (nm V))).1.nv = s.nv + ins.length ∧
    (Fresh s → Fresh (deserFInputs s vi (ins.map (nm V))).1) ∧ Prim s.nv s (deserFInputs s vi (ins.map (nm V))).1 ∧
    finputTable (ins.map (nm V)) (List.range' s.nv ins.length) =
      mapT (A ++ ins.zip (List.range' s.nv ins.length)) (tblIns V ins) ∧
    (ins.zip (List.range' s.nv ins.length)).map (·.1) = ins ∧
    ins.map (sig (A ++ ins.zip (List.range' s.nv ins.length))) = List.range' s.nv ins.length ∧
    (∀ v ∈ ins, v ∈ (A ++ ins.zip (List.range' s.nv ins.length)).map (·.1)) ∧
    RS V (deserFInputs s vi (ins.map (nm V))).1 (A ++ ins.zip (List.range' s.nv ins.length)) ∧
    ∀ v ∈ ins, ((deserFInputs s vi (ins.map (nm V))).1.vals
      (sig (A ++ ins.zip (List.range' s.nv ins.length)) v)).info = declInfo vi (nm V v) := by
  obtain ⟨r1, hi1⟩ := rt2_finputs V vi ins s A hrs hnd hnew hn
  obtain ⟨hids, hnv1, hf1, p1, _⟩ := deserFInputs_spec vi (ins.map (nm V)) s
  simp only [List.length_map] at hids hnv1
  have hk1 : (ins.zip (List.range' s.nv ins.length)).map (·.1) = ins := keys_zip _ _ (by simp)
  refine ⟨hids, hnv1, hf1, p1, ?_, hk1, sig_zip A ins _ (by simp) hnd hnew, fun v hv => ?_, r1, hi1⟩
  · rw [finputTable_eq]
    exact rt2_inputTable V A ins _ (by simp) hnd hnew
  · rw [List.map_append, hk1]; exact List.mem_append_right _ hv

/-- the outputs of a function and `Function(...)`, after the body has been read up to `s4` under `A ++ B` -/
theorem rt_ftail (V : Nat → ValueS) (td : TData) (gid : Nat) (ins outs : List Nat) (nodes nts : List NodeT)
    (s s4 : Store) (A B : Assoc) (T : Table) {E : List Nat} {AI : List (Name × Nat)} {BL : List Nat}
    (post : RtPost V td s A B s4 E AI BL) (hle : s.nv + ins.length ≤ s4.nv) (hT : TblIn (A ++ B) T)
    (hO : ∀ v ∈ outs, T.lookup (nm V v) = some v) (htr : TreeRelNs V (A ++ B) nodes nts)
    (hsig : ins.map (sig (A ++ B)) = List.range' s.nv ins.length) (hins : ∀ v ∈ ins, v ∈ (A ++ B).map (·.1)) :
    deserFOutputs (mapT (A ++ B) T) (outs.map (nm V)) = .ok (outs.map (sig (A ++ B))) ∧
    TreeRelG V (A ++ B) (.mk gid ins [] nodes outs)
      (mkGraph s4 (List.range' s.nv ins.length) (outs.map (sig (A ++ B))) nts []).2 ∧
    RtPost V td s A B (mkGraph s4 (List.range' s.nv ins.length) (outs.map (sig (A ++ B))) nts []).1 E AI BL := by
  have houtK : ∀ v ∈ outs, v ∈ (A ++ B).map (·.1) := fun v hv => hT.lookup (hO v hv)
  refine ⟨rt2_foutputs (A ++ B) T V outs hO, ?_, ?_⟩
  · rw [mkGraph_snd]
    simp only [TreeRelG]
    exact ⟨hsig.symm, hins, by simp [mkGraphInits, initDict], fun kv hkv => by simp at hkv,
      TreeRelNs_setGraph V _ _ nodes nts htr, trivial, houtK⟩
  · refine post.same (mkGraph_fst_counters _ _ _ _ _).1 (fun w => by rw [mkGraph_cell]) (mkGraph_prim _ _ _ _ _ _) ?_
    refine mkGraph_fresh _ _ _ _ _ post.fresh (fun v hv => ?_) (fun v hv => ?_) (fun v hv => by simp at hv)
    · rw [List.mem_range'_1] at hv; omega
    · obtain ⟨o, ho, rfl⟩ := List.mem_map.mp hv
      exact post.rs.sig_lt (houtK o ho)

theorem rt2_func (V : Nat → ValueS) (td : TData) :
    ∀ (id : FId) (g : GraphT) (s : Store) (A : Assoc) (fp : FuncP) (ws : Writes),
      serFunction V td (id, g) = .ok (fp, ws) → (replF V g).ok → (replF V g).new.Nodup →
      (∀ v ∈ (replF V g).new, v ∉ A.map (·.1)) → RS V s A → Fresh s →
      ∃ (s' : Store) (g' : GraphT) (B : Assoc),
        deserFunction s fp = .ok (s', g') ∧ fp.id = id ∧ B.map (·.1) = (replF V g).new ∧ TreeRelG V (A ++ B) g g' ∧
        RtPost V td s A B s' (emitF V g) (allInitsG g) []
  | id, .mk gid ins inits nodes outs, s, A, fp, ws, hser, hok, hnd, hnew, hrs, hfr => by
    obtain ⟨vis1, nps, vis2, hi, hn, houts_n, rfl⟩ := serFunction_inv hser
    simp only [replF] at hok hnd hnew ⊢
    obtain ⟨hinits, hins_n, hsame, okD, okN, hO⟩ := hok
    subst hinits
    rw [List.append_assoc] at hnd hnew
    obtain ⟨hndI, hndDN, _⟩ := List.nodup_append.mp hnd
    have okD' := okD
    generalize hrd : replDecl V (tblIns V ins) (nodes.flatMap (liveOuts V)) = rd at okD okN hO hnd hndDN hnew ⊢
    obtain ⟨hdnew, _, hdlook⟩ := replDecl_new V _ _ okD'
    have hdunb := replDecl_new_unbound V _ _ okD'
    rw [hrd] at hdnew hdlook hdunb
    obtain ⟨_, _, hvis1⟩ := serFInputs_ok V ins _ _ hi
    have hvis2 := fun e => mem_serNodes_vi V td [] e nodes nps vis2 ws hn
    generalize hLdef : vis1 ++ vis2 = L at *
    generalize hvi : vinfoTable L = vi
    -- what a lookup in the function's value_info returns
    have hsrcIn : ∀ a ∈ ins, nameTruthy (V a).name = true → ∀ e ∈ L, e.name = nm V a →
        e.info = (V a).info.emit ∧ ∃ b ∈ ins, shouldCreate (V b) = true ∧ (V b).name = (V a).name := by
      intro a ha hta e he hname
      rw [← hLdef, List.mem_append] at he
      rcases he with he | he
      · rw [hvis1] at he
        obtain ⟨b, hb, hsc, rfl⟩ := he
        simp only at hname ⊢
        have htb : nameTruthy (V b).name = true := by
          simp only [shouldCreate, Bool.and_eq_true] at hsc; exact hsc.2
        have hnameq : (V b).name = (V a).name := by
          rw [(name_some_of_truthy htb).1, hname, (name_some_of_truthy hta).1]
        exact ⟨hsame b hb a ha htb hnameq, b, hb, hsc, hnameq⟩
      · obtain ⟨u, hmem, hsc, rfl⟩ := vis_src V td _ nodes nps vis2 _ hn e he
        rw [← hdnew] at hmem
        simp only at hname
        exact absurd hname (tblIns_lookup_none V ins _ (hdunb u hmem) a ha).symm
    have hsrcOut : ∀ v ∈ rd.new, ∀ e ∈ L, e.name = nm V v → shouldCreate (V v) = true ∧ e.info = (V v).info.emit := by
      intro v hv e he hname
      rw [← hLdef, List.mem_append] at he
      rcases he with he | he
      · rw [hvis1] at he
        obtain ⟨b, hb, _, rfl⟩ := he
        simp only at hname
        exact absurd hname (tblIns_lookup_none V ins _ (hdunb v hv) b hb)
      · obtain ⟨u, hmem, hsc, rfl⟩ := vis_src V td _ nodes nps vis2 _ hn e he
        rw [← hdnew] at hmem
        simp only at hname ⊢
        have h1 := hdlook u hmem
        have h2 := hdlook v hv
        rw [hname, h2] at h1
        have hEq : v = u := Option.some.inj h1
        rw [hEq]; exact ⟨hsc, rfl⟩
    have hinfoIn : ∀ v ∈ ins, nameTruthy (V v).name = true → declInfo vi (nm V v) = (V v).info.emit := by
      intro v hv ht
      rw [← hvi]
      refine declInfo_of_src ht (fun e he hname => ?_) fun hsc => ⟨⟨nm V v, (V v).info.emit⟩, ?_, rfl⟩
      · -- the entry may have been written for another, equally named input: it says the same
        obtain ⟨h1, b, hb, hscb, hnameq⟩ := hsrcIn v hv ht e he hname
        refine ⟨?_, h1⟩
        simp only [shouldCreate, Bool.and_eq_true] at hscb ⊢
        have htb : nameTruthy (V b).name = true := hscb.2
        refine ⟨?_, ht⟩
        rw [← present_emit, ← hsame b hb v hv htb hnameq, present_emit]
        exact hscb.1
      · rw [← hLdef, List.mem_append]
        left
        rw [hvis1]
        exact ⟨v, hv, hsc, rfl⟩
    have hinfoOut : ∀ v ∈ rd.new, v ∉ ([] : List Nat) → declInfo vi (nm V v) = (V v).info.emit := by
      intro v hvl _
      obtain ⟨hv, ht⟩ := List.mem_filter.mp (hdnew ▸ hvl)
      rw [← hvi]
      refine declInfo_of_src ht (hsrcOut v hvl) fun hsc => ⟨⟨nm V v, (V v).info.emit⟩, ?_, rfl⟩
      rw [← hLdef, List.mem_append]
      right
      rw [hvis2]
      obtain ⟨n, hn', hvn'⟩ := List.mem_flatMap.mp hv
      refine ⟨n, hn', ?_⟩
      rw [mem_outVInfo]
      obtain ⟨i, g, a, b, c⟩ := n
      exact ⟨v, stripTrailing_sub V b v hvn', by simp, hsc, rfl⟩
    have hnewI : ∀ v ∈ ins, v ∉ A.map (·.1) := fun v hv => hnew v (List.mem_append_left _ hv)
    obtain ⟨hids, hnv1, hf1, p1, htbl1, hk1, hsig1, hinsA1, r1, hi1⟩ := rt_fhead V vi ins s A hrs hndI hnewI hins_n
    generalize hB1 : ins.zip (List.range' s.nv ins.length) = B1 at *
    generalize hs1 : (deserFInputs s vi (ins.map (nm V))).1 = s1 at *
    have post1 : RtPost V td s A B1 s1 (ins.filter fun v => nameTruthy (V v).name) [] [] :=
      { rs := r1, le := by omega, fresh := hf1 hfr, prim := p1
        infoOK := fun v hv => by
          obtain ⟨hv, ht⟩ := List.mem_filter.mp hv
          exact ⟨hinsA1 v hv, by rw [hi1 v hv]; exact hinfoIn v hv ht⟩
        constOK := by simp [ConstOK2], blankOK := by simp [BlankOK] }
    obtain ⟨s3, s4, nts, B3, B4, e3, e4, k3, k4, t4, tr4, post34⟩ :=
      rt_body V td vi nodes (nodesRT V td nodes) [] [] nps vis2 ws s1 (A ++ B1) (tblIns V ins) hn
        (by rw [hrd]; exact okD) (by rw [hrd]; exact okN) (by rw [hrd]; exact hndDN)
        (by rw [hrd]; exact new_of_nodup_append hk1 hnew hnd)
        (tblIn_tblIns V _ ins hinsA1) (fun _ hT => by simp at hT) r1 post1.fresh (by rw [hrd]; exact hinfoOut)
    rw [hrd] at e3 e4 k3 k4 t4 post34
    have post4 := post1.append post34
    generalize hB : B1 ++ (B3 ++ B4) = B at *
    simp only [List.map_nil] at e4
    rw [List.append_assoc A B1 (B3 ++ B4), hB] at e4 t4 tr4
    have hinsB : ∀ v ∈ ins, v ∈ (A ++ B).map (·.1) := fun v hv => by
      rw [← hB, ← List.append_assoc]; exact mem_keys_append (hinsA1 v hv)
    have hsigB : ins.map (sig (A ++ B)) = List.range' s.nv ins.length :=
      (List.map_congr_left fun v hv => by rw [← hB, ← List.append_assoc]; exact sig_append_of_mem (hinsA1 v hv)).trans hsig1
    obtain ⟨e5, trG, post6⟩ := rt_ftail V td gid ins outs nodes nts s s4 A B _ post4 (by have := post34.le; omega) t4
      (fun v hv => (hO v hv).2) tr4 hsigB hinsB
    refine ⟨_, _, B, by simp only [deserFunction, hvi, hids, hs1, htbl1, e3, e4, e5], trivial, ?_, trG,
      post6.sub (fun v hv => ?_) (fun kv hkv => by simpa [allInitsG] using hkv) (fun _ h => absurd h List.not_mem_nil)⟩
    · rw [← hB, List.map_append, List.map_append, hk1, k3, k4, List.append_assoc]
    · simp only [emitF, List.mem_append] at hv
      rcases hv with (hv | hv) | hv
      · exact List.mem_append_left _ hv
      · exact List.mem_append_right _ (List.mem_append_left _
          (List.mem_filter.mpr ⟨by rw [hdnew]; exact hv, by simp⟩))
      · exact List.mem_append_right _ (List.mem_append_right _ hv)

theorem img2_serFInputs {V V' : Nat → ValueS} {A : Assoc} {E : List Nat} (h : Img V V' (sig A) E)
    (hn : ∀ v ∈ A.map (·.1), (V' (sig A v)).name = (V v).name) :
    ∀ (ins : List Nat) (vis : List VInfoP), (∀ v ∈ ins, v ∈ A.map (·.1)) →
      (∀ v ∈ ins, nameTruthy (V v).name = true → v ∈ E) →
      serFInputs V ins = .ok (ins.map (nm V), vis) →
      serFInputs V' (ins.map (sig A)) = .ok (ins.map (nm V), vis) := by
  intro ins
  induction ins with
  | nil => intro vis _ _ h; simpa [serFInputs] using h
  | cons v rest ih =>
    intro vis hK hE hs
    simp only [serFInputs] at hs
    split at hs
    · simp at hs
    · rename_i n hnv
      split at hs
      · simp at hs
      · rename_i ns' vis' hr
        simp only [Except.ok.injEq, Prod.mk.injEq, List.map_cons, List.cons.injEq] at hs
        obtain ⟨⟨_, hns⟩, rfl⟩ := hs
        subst hns
        have hk := hK v List.mem_cons_self
        have ih' := ih vis' (fun w hw => hK w (List.mem_cons_of_mem _ hw)) (fun w hw => hE w (List.mem_cons_of_mem _ hw)) hr
        have hname : (V' (sig A v)).name = some n := by rw [hn v hk, hnv]
        have hnm : nm V v = n := nm_of_name hnv
        simp only [List.map_cons, serFInputs, hname, ih', hnm]
        by_cases ht : nameTruthy (V v).name = true
        · have hvE := hE v List.mem_cons_self ht
          simp only [h.shouldCreate hvE, h.info v hvE, emit_emit]
        · have hf : nameTruthy (V v).name = false := by simpa using ht
          have h1 : shouldCreate (V v) = false := by simp [shouldCreate, hf]
          have h2 : shouldCreate (V' (sig A v)) = false := by simp [shouldCreate, hn v hk, hf]
          simp [h1, h2]

theorem img2_serFunction {V V' : Nat → ValueS} {td td' : TData} {A : Assoc} {E : List Nat} (h : Img V V' (sig A) E)
    (hn : ∀ v ∈ A.map (·.1), (V' (sig A v)).name = (V v).name)
    (hinj : ∀ a ∈ A.map (·.1), ∀ b ∈ A.map (·.1), sig A a = sig A b → a = b) :
    ∀ (id : FId) (g g' : GraphT) (fp : FuncP) (ws : Writes), TreeRelG V A g g' → (∀ v ∈ emitF V g, v ∈ E) →
      ConstImg V V' td td' (sig A) (allInitsG g) →
      serFunction V td (id, g) = .ok (fp, ws) → ∃ ws', serFunction V' td' (id, g') = .ok (fp, ws')
  | id, .mk _ ins inits nodes outs, .mk _ ins' inits' nodes' outs', fp, ws, ht, hE, hc, hser => by
    simp only [TreeRelG] at ht
    obtain ⟨rfl, hinK, rfl, _, htn, rfl, houtK⟩ := ht
    obtain ⟨vis1, nps, vis2, hi, hn', houts_n, rfl⟩ := serFunction_inv hser
    have e1 := img2_serFInputs h hn ins vis1 hinK
      (fun v hv ht => hE v (by simp only [emitF, List.mem_append, List.mem_filter]; exact .inl (.inl ⟨hv, ht⟩))) hi
    have e2 := img2_serOutNames hn outs houtK houts_n
    obtain ⟨ws', e3⟩ := img2_serNodes h hn hinj nodes nodes' [] nps vis2 ws htn (fun _ hv => by simp at hv)
      (fun v hv ht => hE v (by simp only [emitF, List.mem_append, List.mem_filter]; exact .inl (.inr ⟨hv, ht⟩)))
      (fun v hv => hE v (by simp only [emitF, List.mem_append]; exact .inr hv))
      (fun kv hkv => hc kv (List.mem_append_right _ hkv)) hn'
    simp only [List.map_nil] at e3
    exact ⟨ws', by simp only [serFunction, e1, e2, e3]⟩

end IrVerif.Scope
