/-
Kernel: the primitives on node outputs; allocation of values and nodes.
-/
import IrVerif.Lemmas.KernelUse
namespace IrVerif.Kernel

abbrev OutputFrame :=
  Frame (fun x => { x with producer := none, index := none }) (fun x => { x with outputs := [] }) id

theorem attachOutput_outputFrame (w : World) (n v : Nat) : OutputFrame w (attachOutput w n v) := by
  unfold attachOutput
  simp only []
  split
  · exact (Frame.setVal w v _).trans (Frame.setNode _ n _)
  · exact Frame.bump w

theorem getElem?_concat_eq_some (l : List Nat) (a x i : Nat) :
    (l ++ [a])[i]? = some x ↔ l[i]? = some x ∨ (i = l.length ∧ a = x) := by
  by_cases h : i < l.length
  · rw [List.getElem?_append_left h]
    have : i ≠ l.length := Nat.ne_of_lt h
    simp [this]
  · rw [List.getElem?_append_right (Nat.le_of_not_lt h), List.getElem?_eq_none (Nat.le_of_not_lt h)]
    cases hk : i - l.length with
    | zero => have : i = l.length := by omega
              simp [this]
    | succ k => have : i ≠ l.length := by omega
                simp [this]
theorem attachOutput_I_prod (w : World) (n v : Nat) (h : I_prod w) : I_prod (attachOutput w n v) := by
  unfold attachOutput
  simp only []
  split
  · rename_i hg
    have hnot : ∀ m i, (w.node m).outputs[i]? ≠ some v := fun m i hc => by
      have := ((h.1 m i v).1 hc).1; rw [hg.1] at this; cases this
    refine ⟨fun m i u => ?_, fun u m => ?_⟩
    · rw [World.node_setNode, World.val_setNode, World.val_setVal]
      by_cases hu : u = v
      · subst hu
        by_cases hm : m = n
        · subst hm; simp [getElem?_concat_eq_some, hnot]; omega
        · simp [hm, hnot, Ne.symm hm]
      · by_cases hm : m = n
        · subst hm; simp [hu, getElem?_concat_eq_some, Ne.symm hu, h.1]
        · simp [hu, hm, h.1]
    · rw [World.val_setNode, World.val_setVal]
      by_cases hu : u = v
      · subst hu; simp; exact fun _ => ⟨_, rfl⟩
      · simp only [hu, if_false]; exact h.2 u m
  · exact h
theorem attachOutput_I_root (w : World) (n v : Nat) (h : I_root w) : I_root (attachOutput w n v) := by
  unfold attachOutput
  simp only []
  split
  · rename_i hg
    unfold I_root at *
    intro u
    simp
    split
    · subst_vars; simp [hg]
    · exact h u
  · exact h

/-- a fresh id holds the blank record, which a new one agrees with on every field but name and const tensor -/
theorem allocVal_frame {bn : NodeS → NodeS} {bg : GraphS → GraphS} (w : World) (x : ValueS)
    (hx : { x with name := none, const := none } = ({} : ValueS) := by rfl) :
    Frame (fun y => { y with name := none, const := none }) bn bg w (allocVal w x).1 :=
  Frame.setVal w _ x (by rw [w.val_fresh _ (Nat.le_refl _)]; exact hx)

theorem addOutput_I_use (w : World) (n : Nat) (h : I_use w) : I_use (addOutput w n) :=
  (attachOutput_outputFrame _ _ _).I_use ((allocVal_frame (bn := id) (bg := id) w {}).I_use h)
theorem addOutput_I_prod (w : World) (n : Nat) (h : I_prod w) : I_prod (addOutput w n) :=
  attachOutput_I_prod _ _ _ ((allocVal_frame (bn := id) (bg := id) w {}).I_prod h)
theorem addOutput_I_root (w : World) (n : Nat) (h : I_root w) : I_root (addOutput w n) :=
  attachOutput_I_root _ _ _ ((allocVal_frame (bn := id) (bg := id) w {}).I_root h)

theorem detachLast_outputFrame (w : World) (n : Nat) : OutputFrame w (detachLast w n) := by
  unfold detachLast
  split
  · exact Frame.bump w
  · split
    · exact (Frame.setVal w _ _).trans (Frame.setNode _ n _)
    · exact Frame.bump w

theorem detachLast_I_root (w : World) (n : Nat) (h : I_root w) : I_root (detachLast w n) := by
  unfold detachLast
  split
  · exact h
  · split
    · unfold I_root at *
      intro u; simp
      split
      · simp
      · exact h u
    · exact h

theorem detachLast_I_prod (w : World) (n : Nat) (h : I_prod w) : I_prod (detachLast w n) := by
  unfold detachLast
  split
  · exact h
  · rename_i v hlast
    split
    · rw [List.getLast?_eq_getElem?] at hlast
      have hvp := (h.1 n _ v).1 hlast
      -- `v` sits at the last position of `n` and nowhere else
      have hno : ∀ m i, (w.node m).outputs[i]? = some v → m = n ∧ i = (w.node n).outputs.length - 1 := by
        intro m i hc
        have := (h.1 m i v).1 hc
        rw [hvp.1, hvp.2] at this
        exact ⟨(Option.some.inj this.1).symm, by have := Option.some.inj this.2; omega⟩
      refine ⟨fun m i u => ?_, fun u m => ?_⟩
      · simp only [World.node_setNode, World.node_setVal, World.val_setNode, World.val_setVal]
        by_cases hu : u = v
        · subst hu
          simp only [↓reduceIte, reduceCtorEq, false_and, iff_false]
          by_cases hm : m = n
          · subst hm
            simp only [↓reduceIte, List.getElem?_dropLast]
            split
            · intro hc; have := (hno m i hc).2; omega
            · simp
          · simp only [hm, ↓reduceIte]
            intro hc; exact hm (hno m i hc).1
        · simp only [hu, ↓reduceIte]
          rw [← h.1]
          by_cases hm : m = n
          · subst hm
            simp only [↓reduceIte, List.getElem?_dropLast]
            constructor
            · intro hc; split at hc
              · exact hc
              · cases hc
            · intro hc
              have hlt := (List.getElem?_eq_some_iff.1 hc).1
              rw [if_pos]
              · exact hc
              · apply Nat.lt_of_le_of_ne (by omega)
                intro e; rw [e, hlast] at hc; exact hu (Option.some.inj hc).symm
          · simp only [hm, ↓reduceIte]
      · rw [World.val_setNode, World.val_setVal]
        by_cases hu : u = v
        · subst hu; simp
        · simp only [hu, ↓reduceIte]; exact h.2 u m
    · exact h
theorem allocNode_I_use (w : World) (k : Nat) (name : Option String) (opType : String) (h : I_use w) :
    I_use (w.setNode w.nodes.length
      { inputs := List.replicate k none, name := name, opType := opType }) := by
  have hfresh := w.node_fresh w.nodes.length (Nat.le_refl _)
  obtain ⟨h1, h2⟩ := h
  unfold I_use
  simp
  refine ⟨?_, h2⟩
  intro v m i
  rw [h1]
  split
  · subst_vars; simp [hfresh, List.getElem?_replicate]
  · rfl

end IrVerif.Kernel
