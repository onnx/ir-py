/-
Payload-level idempotence of the three extensions of `Model/ScopeExt.lean`, and the representation invariant of
the extension state that it needs.

The serialize-deserialize fix-point of the extended model has two halves: (a) the FLOW — which entry of the
re-serialized proto reaches which value of the reloaded model — and (b) the PAYLOAD — what an entry that was
written by the serializer becomes when it is read (merged / annotated / resolved) and written again.  This file
proves (b) under the representation invariant `ExtWF`, which every model the extended deserializer returns
satisfies (`deserializeE_wf`, `Lemmas/ScopeExtRun.lean`): merged metadata has distinct keys, so what is
written sorted is read back as written and merging it again (graph-output entries over a creation entry)
changes nothing; a quantization annotation is a non-empty dict with distinct keys, so it is written and read
back unchanged; a device configuration that the serializer wrote is read back — in ANY scope stack whose tables
bind names to values carrying them — as a configuration that serializes to the same proto.
Half (a) is the lock-step induction `rtE_graph` (`Lemmas/ScopeExtRT.lean`), assembled with (b) in
`reloadableE_fixpoint` (`Lemmas/ScopeExtTop.lean`).
-/
import IrVerif.Lemmas.ScopeExtInv
import IrVerif.Lemmas.ScopeMeta
namespace IrVerif.Scope

theorem ssUpdate_nil (es : SS) : ssUpdate [] es = ssOfEntries es := rfl

theorem ssUpdate_eq_dupdate (d l : SS) : ssUpdate d l = ListFacts.dupdate d l := by
  show l.foldl (fun d e => ssSet d e.1 e.2) d = _
  simp only [ssSet_eq_kvSet, kvSet_eq_dset]; rfl

theorem ssOfEntries_ne_nil (es : SS) (h : es ≠ []) : ssOfEntries es ≠ [] := by
  cases es with
  | nil => exact absurd rfl h
  | cons e l =>
    show ssUpdate [] (e :: l) ≠ []
    rw [ssUpdate_eq_dupdate]
    exact ListFacts.dupdate_ne_nil l _ (ListFacts.dset_ne_nil [] e.1 e.2)

/-- `d.update(e)` for entries `e` that `d` already has changes nothing -/
theorem ssUpdate_sub (d : SS) (hn : (d.map (·.1)).Nodup) (l : SS) (h : ∀ e ∈ l, e ∈ d) : ssUpdate d l = d := by
  rw [ssUpdate_eq_dupdate]; exact ListFacts.dupdate_of_subset d hn l h

theorem ssUpdate_nodup (d es : SS) (hn : (d.map (·.1)).Nodup) : ((ssUpdate d es).map (·.1)).Nodup :=
  ssFold_keys_nodup es d hn

theorem ssSorted_ne_nil (d : SS) (h : d ≠ []) : ssSorted d ≠ [] := by
  intro he
  have := (ssSorted_perm d).length_eq
  rw [he] at this
  cases d with
  | nil => exact h rfl
  | cons _ _ => simp at this

theorem ssSorted_isEmpty (m : SS) : (ssSorted m).isEmpty = m.isEmpty := by
  cases m with
  | nil => simp [ssSorted]
  | cons e r =>
    have h0 := ssSorted_ne_nil (e :: r) (by simp)
    cases hs : ssSorted (e :: r) with
    | nil => exact absurd hs h0
    | cons _ _ => rfl

/-- metadata: what `serialize_value_into` writes for a value (sorted by key) is read back, by the creation
    entry of the reloaded value, as it was written; a graph-output entry carrying the same metadata merged over it
    changes nothing; and the reloaded metadata is written again as it was -/
theorem meta_payload_fix (m : SS) (hn : (m.map (·.1)).Nodup) :
    ssUpdate [] (ssSorted m) = ssSorted m ∧
    ssUpdate (ssUpdate [] (ssSorted m)) (ssSorted m) = ssUpdate [] (ssSorted m) ∧
    ssSorted (ssUpdate [] (ssSorted m)) = ssSorted m := by
  have h1 : ssUpdate [] (ssSorted m) = ssSorted m := by rw [ssUpdate_nil]; exact ss_rt m hn
  refine ⟨h1, ?_, ?_⟩
  · rw [h1]; exact ssUpdate_sub _ (ssSorted_nodup m hn) _ fun _ h => h
  · rw [h1]; exact ssSorted_idem m

/-- quantization annotation: a non-empty dict with distinct keys is written (sorted), read back by
    `_deserialize_quantization_annotation` as a non-empty dict, and written again as it was -/
theorem quant_payload_fix (ps : SS) (hn : (ps.map (·.1)).Nodup) (hne : ps ≠ []) :
    (ssSorted ps).isEmpty = false ∧ ssOfEntries (ssSorted ps) ≠ [] ∧
    ssSorted (ssOfEntries (ssSorted ps)) = ssSorted ps := by
  have h0 := ssSorted_ne_nil ps hne
  refine ⟨?_, ?_, ss_fix ps hn⟩
  · cases h : ssSorted ps with
    | nil => exact absurd h h0
    | cons _ _ => rfl
  · rw [ss_rt ps hn]; exact h0

theorem serSpecs_names : ∀ (sp : List (Option String × String)) (ps : List (String × String)),
    serSpecs sp = .ok ps → ∀ s ∈ ps, s.1 ≠ ""
  | [], ps, h => by
    simp only [serSpecs, Except.ok.injEq] at h
    subst h
    simp
  | (none, _) :: _, _, h => by simp [serSpecs] at h
  | (some n, t) :: r, ps, h => by
    simp only [serSpecs] at h
    split at h
    · simp at h
    · rename_i hn
      split at h
      · simp at h
      · rename_i r' hr
        simp only [Except.ok.injEq] at h
        subst h
        intro s hs
        simp only [List.mem_cons] at hs
        rcases hs with rfl | hs
        · exact hn
        · exact serSpecs_names r r' hr s hs

theorem serDev_names (d : DevS) (p : DevP) (h : serDev d = .ok p) : p.cfg ≠ "" ∧ ∀ s ∈ p.specs, s.1 ≠ "" := by
  simp only [serDev] at h
  split at h
  · simp at h
  · rename_i c _
    split at h
    · simp at h
    · rename_i hc
      split at h
      · simp at h
      · rename_i sp hs
        simp only [Except.ok.injEq] at h
        subst h
        exact ⟨hc, serSpecs_names _ _ hs⟩

theorem serSpecs_of_names (f : String → Option String) : ∀ (ps : List (String × String)),
    (∀ s ∈ ps, s.1 ≠ "" ∧ f s.1 = some s.1) → serSpecs (ps.map fun s => (f s.1, s.2)) = .ok ps
  | [], _ => rfl
  | (n, t) :: r, h => by
    obtain ⟨hn, hf⟩ := h (n, t) (by simp)
    simp only [List.map_cons, hf, serSpecs]
    simp only at hn
    rw [if_neg hn, serSpecs_of_names f r (fun s hs => h s (by simp [hs]))]

/-- the name a resolved sharding value is written under, in scopes whose tables bind names to values that carry
    them: the name it was resolved from -/
theorem specName_resolveShard (vals : Nat → ValueS) (scopes : List Table)
    (hs : ∀ t ∈ scopes, ∀ e ∈ t, (vals e.2).name = some e.1) (n : Name) (hn : n ≠ "") :
    specName vals (resolveShard scopes n) = some n := by
  simp only [resolveShard, hn, if_false]
  cases hr : resolve n scopes with
  | none => rfl
  | some v =>
    obtain ⟨t, ht, hm⟩ := resolve_mem n scopes v hr
    exact hs t ht _ hm

/-- device configuration: what `serialize_node_device_configuration` wrote is read back — the sharding values
    resolved in ANY scope stack whose tables bind names to values carrying them — as a configuration that is
    written again as it was -/
theorem dev_payload_fix (vals : Nat → ValueS) (d : DevR) (p : DevP) (h : serDevR vals d = .ok p)
    (vals' : Nat → ValueS) (scopes : List Table) (hs : ∀ t ∈ scopes, ∀ e ∈ t, (vals' e.2).name = some e.1) :
    serDevR vals' (deserDevR scopes p) = .ok p := by
  obtain ⟨hc, hsp⟩ := serDev_names _ _ h
  simp only [serDevR, deserDevR, List.map_map]
  simp only [serDev, nonEmpty, hc, if_false]
  have := serSpecs_of_names (fun n => specName vals' (resolveShard scopes n)) p.specs
    (fun s hs' => ⟨hsp s hs', specName_resolveShard vals' scopes hs s.1 (hsp s hs')⟩)
  simp only [Function.comp_def]
  rw [this]

theorem devs_payload_fix (vals : Nat → ValueS) (vals' : Nat → ValueS) (scopes : List Table)
    (hs : ∀ t ∈ scopes, ∀ e ∈ t, (vals' e.2).name = some e.1) :
    ∀ (ds : List DevR) (ps : List DevP), serDevRs vals ds = .ok ps →
      serDevRs vals' (ps.map (deserDevR scopes)) = .ok ps
  | [], ps, h => by
    simp only [serDevRs, Except.ok.injEq] at h
    subst h
    rfl
  | d :: r, ps, h => by
    simp only [serDevRs] at h
    split at h
    · simp at h
    · rename_i p hp
      split at h
      · simp at h
      · rename_i ps' hr
        simp only [Except.ok.injEq] at h
        subst h
        simp only [List.map_cons, serDevRs, dev_payload_fix vals d p hp vals' scopes hs,
          devs_payload_fix vals vals' scopes hs r ps' hr]

/-- merged metadata and quantization annotations are dicts: distinct keys; an annotation is never empty -/
def ExtWF (x : Ext) : Prop :=
  ∀ v, ((x.vmeta v).map (·.1)).Nodup ∧ ∀ ps, x.quant v = some ps → (ps.map (·.1)).Nodup ∧ ps ≠ []

theorem ExtWF.empty : ExtWF {} := fun _ => ⟨by simp, fun _ h => by simp at h⟩

theorem ExtWF.merge {x : Ext} (h : ExtWF x) (v : Nat) (es : SS) : ExtWF (x.merge v es) := by
  unfold Ext.merge
  split
  · exact h
  · intro u
    simp only [Ext.setMeta]
    refine ⟨?_, (h u).2⟩
    split
    · exact ssUpdate_nodup _ _ (h v).1
    · exact (h u).1

theorem ExtWF.annotate {x : Ext} (h : ExtWF x) (qt : List (Name × SS)) (v : Nat) (n : Name) :
    ExtWF (x.annotate qt v n) := by
  unfold Ext.annotate
  split
  · exact h
  · rename_i ps _
    intro u
    simp only [Ext.setQuant]
    refine ⟨(h u).1, fun qs hq => ?_⟩
    split at hq
    · split at hq
      · simp at hq
      · rename_i hne
        simp only [Option.some.injEq] at hq
        subst hq
        refine ⟨ssOfEntries_nodup ps, ssOfEntries_ne_nil ps ?_⟩
        intro he
        subst he
        simp at hne
    · exact (h u).2 qs hq

theorem ExtWF.setDevs {x : Ext} (h : ExtWF x) (n : Nat) (d : List DevR) : ExtWF (x.setDevs n d) := h

end IrVerif.Scope
