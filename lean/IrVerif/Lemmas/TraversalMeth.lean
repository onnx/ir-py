/-
The public mutating methods of `Attributes` (`AMeth`, Model/Traversal.lean) as sequences of primitive
dict writes: the insertion-ordered-mapping view of `PyDict` (`live`) under `set` / `del`, the effect
of every method on that view, and the world after a method call.
-/
import IrVerif.Lemmas.TraversalLocal
namespace IrVerif.LinkedSet

/-! ### `live` under the primitive writes -/

theorem filterMap_id_map_some {α : Type} : ∀ (l : List α), (l.map some).filterMap id = l
  | [] => rfl
  | a :: l => by simp [filterMap_id_map_some l]

theorem filterMap_setSlot_some (k : Nat) (a : AVal) : ∀ (es : List (Option (Nat × AVal))),
    (es.map (setSlot k (some a))).filterMap id =
      (es.filterMap id).map (fun e => if e.1 == k then (k, a) else e)
  | [] => rfl
  | none :: es => by simpa [setSlot] using filterMap_setSlot_some k a es
  | some (k', a') :: es => by
      have ih := filterMap_setSlot_some k a es
      by_cases h : k' = k
      · subst h
        simp [setSlot, ih]
      · simp [setSlot, h, ih]

theorem filterMap_setSlot_none (k : Nat) : ∀ (es : List (Option (Nat × AVal))),
    (es.map (setSlot k none)).filterMap id = (es.filterMap id).filter (fun e => e.1 != k)
  | [] => rfl
  | none :: es => by simpa [setSlot] using filterMap_setSlot_none k es
  | some (k', a') :: es => by
      have ih := filterMap_setSlot_none k es
      by_cases h : k' = k
      · subst h
        simp [setSlot, ih]
      · simp [setSlot, h, ih]

theorem live_set (d : PyDict) (k : Nat) (a : AVal) : (d.set k a).live = omSet d.live k a := by
  have hh : (d.live.any fun e => e.1 == k) = d.has k := rfl
  unfold omSet
  rw [hh]
  unfold PyDict.set
  cases h : d.has k with
  | true =>
    simp only [↓reduceIte]
    exact filterMap_setSlot_some k a d.entries
  | false =>
    simp only [Bool.false_eq_true, ↓reduceIte]
    by_cases hu : d.usable = 0
    · simp [hu, PyDict.live]
    · simp [hu, PyDict.live]

theorem live_del (d : PyDict) (k : Nat) : (d.del k).1.live = omDel d.live k := by
  unfold PyDict.del omDel
  cases h : d.has k with
  | true =>
    simp only [↓reduceIte]
    exact filterMap_setSlot_none k d.entries
  | false =>
    simp only [Bool.false_eq_true, ↓reduceIte]
    symm
    apply List.filter_eq_self.2
    intro e he
    have h2 : d.live.any (fun e => e.1 == k) = false := h
    have := List.any_eq_false.1 h2 e he
    simpa using this

theorem live_prim (d : PyDict) (p : APrim) :
    (d.prim p).live = match p with
      | .set k a => omSet d.live k a
      | .del k => omDel d.live k := by
  cases p with
  | set k a => exact live_set d k a
  | del k => exact live_del d k

/-! ### the documented effect of every method on the insertion-ordered mapping -/

theorem omDel_absent (l : List (Nat × AVal)) (k : Nat) (h : l.any (fun e => e.1 == k) = false) : omDel l k = l := by
  apply List.filter_eq_self.2
  intro e he
  have := List.any_eq_false.1 h e he
  simpa using this

theorem foldl_updPrims : ∀ (kvs : List (Nat × Option AVal)) (d : PyDict),
    (((updPrims kvs).1.foldl PyDict.prim d).live, (updPrims kvs).2) = updEffect d.live kvs
  | [], _ => rfl
  | (k, some a) :: r, d => by
      simp only [updPrims, List.foldl_cons, updEffect, PyDict.prim]
      rw [foldl_updPrims r (d.set k a), live_set]
  | (_, none) :: _, _ => rfl

theorem length_omDel_le (l : List (Nat × AVal)) (k : Nat) (a : AVal) (tl : List (Nat × AVal)) (h : l = (k, a) :: tl) :
    (omDel l k).length ≤ tl.length := by
  subst h
  simp only [omDel, List.filter_cons]
  simp only [bne_self_eq_false, Bool.false_eq_true, if_false]
  exact List.length_filter_le _ _

theorem clear_live : ∀ (n : Nat) (d : PyDict), d.live.length ≤ n → ((clearPrims n d).foldl PyDict.prim d).live = []
  | 0, d, h => by
      simp only [clearPrims, List.foldl_nil]
      exact List.eq_nil_of_length_eq_zero (by omega)
  | n + 1, d, h => by
      cases hl : d.live with
      | nil => simp [clearPrims, PyDict.firstKey, hl]
      | cons e tl =>
        obtain ⟨k, a⟩ := e
        have hf : d.firstKey = some k := by simp [PyDict.firstKey, hl]
        simp only [clearPrims, hf, List.foldl_cons, PyDict.prim]
        apply clear_live n
        rw [live_del]
        have := length_omDel_le d.live k a tl hl
        rw [hl] at h
        simp only [List.length_cons] at h
        omega

/-- **every method has its documented effect** on the mapping, and raises exactly when documented -/
theorem meth_effect (d : PyDict) (m : AMeth) : ((m.run d).1.live, (m.run d).2) = m.effect d.live := by
  have hh : d.has = fun k => d.live.any (fun e => e.1 == k) := rfl
  unfold AMeth.run
  cases m with
  | setitem k a =>
    cases a with
    | some a => simp [AMeth.prims, AMeth.effect, PyDict.prim, live_set]
    | none => simp [AMeth.prims, AMeth.effect]
  | add k a => simp [AMeth.prims, AMeth.effect, PyDict.prim, live_set]
  | update kvs => exact foldl_updPrims kvs d
  | delitem k =>
    simp only [AMeth.prims, AMeth.effect, hh]
    cases h : d.live.any (fun e => e.1 == k) with
    | true => simp [PyDict.prim, live_del]
    | false => simp [omDel_absent _ _ h]
  | pop k dflt =>
    simp only [AMeth.prims, AMeth.effect, hh]
    cases h : d.live.any (fun e => e.1 == k) with
    | true => simp [PyDict.prim, live_del]
    | false => simp [omDel_absent _ _ h]
  | popitem =>
    simp only [AMeth.prims, AMeth.effect, PyDict.firstKey]
    cases hl : d.live with
    | nil => simp [hl]
    | cons e tl => simp [PyDict.prim, live_del, hl]
  | clear =>
    simp only [AMeth.prims, AMeth.effect]
    rw [clear_live d.used d (Nat.le_refl _)]
  | setdefault k a =>
    simp only [AMeth.prims, AMeth.effect, hh]
    cases h : d.live.any (fun e => e.1 == k) with
    | true => simp
    | false =>
      cases a with
      | some a => simp [PyDict.prim, live_set, omSet, h]
      | none => simp

/-! ### the world after a method call -/

theorem dictOf_applyPrimEv (w : TWorld) (v : Nat) (p : APrim) :
    (w.applyEv (p.toEv v)).dictOf v = (w.dictOf v).prim p ∧ AgreeOff v w (w.applyEv (p.toEv v)) := by
  cases p with
  | set k a => exact ⟨dictOf_setDict_self w v _, agreeOff_setAttr w v k a⟩
  | del k =>
    refine ⟨?_, agreeOff_delAttr w v k⟩
    simp only [APrim.toEv, TWorld.applyEv, TWorld.delAttr, PyDict.prim]
    by_cases h : (w.dictOf v).has k = true
    · simp [PyDict.del, h, dictOf_setDict_self]
    · simp [PyDict.del, h]

theorem foldl_prims_world (v : Nat) : ∀ (ps : List APrim) (w : TWorld),
    ((ps.map (APrim.toEv v)).foldl TWorld.applyEv w).dictOf v = ps.foldl PyDict.prim (w.dictOf v) ∧
    AgreeOff v w ((ps.map (APrim.toEv v)).foldl TWorld.applyEv w)
  | [], w => ⟨rfl, AgreeOff.refl v w⟩
  | p :: ps, w => by
      obtain ⟨h1, h2⟩ := dictOf_applyPrimEv w v p
      obtain ⟨i1, i2⟩ := foldl_prims_world v ps (w.applyEv (p.toEv v))
      simp only [List.map_cons, List.foldl_cons]
      exact ⟨by rw [i1, h1], h2.trans i2⟩

theorem mem_live_set (dct : PyDict) (k : Nat) (a : AVal) : (k, a) ∈ (dct.set k a).live := by
  rw [live_set]
  unfold omSet
  split
  · rename_i hk
    obtain ⟨e, he, hek⟩ := List.any_eq_true.1 hk
    exact List.mem_map.2 ⟨e, he, by simp [hek]⟩
  · simp

end IrVerif.LinkedSet
