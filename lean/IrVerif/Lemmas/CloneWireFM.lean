/-
Wiring image and value-map bijection for `Function.clone` and `Model.clone`, lifted from the
graph-level development (Lemmas/CloneWire.lean, Lemmas/CloneTotal.lean).
`funcCloneCore` is the body `Function.clone` runs under its own cloner; `funcClone` is
`withFreshMap funcCloneCore` by definition, so the cloner's FINAL value map of a function clone is
the `vm` component of the state `funcCloneCore` ends in.
-/
import IrVerif.Lemmas.CloneSpec
import IrVerif.Lemmas.CloneModelTotal
import IrVerif.Lemmas.CloneIrregular
namespace IrVerif.Clone

/-- the clone `f'` of function `f` is its image under the value map `vm` -/
def FuncWire (w : World) (vm : List (Nat × Nat)) (f f' : Nat) : Prop :=
  ∃ fs fs' newAttrs, cFunc w f = some fs ∧ cFunc w f' = some fs' ∧ fs'.domain = fs.domain ∧
    fs'.name = fs.name ∧ fs'.overload = fs.overload ∧ GraphWire false w vm fs.graph fs'.graph ∧
    All2 (fun (ka : String × Nat) r => ∃ as, cAttr w ka.2 = some as ∧ AttrWire false w vm (as.name, ka.2) r)
      fs.attrs newAttrs ∧
    fs'.attrs = dictOf newAttrs

theorem FuncWire.mono {w1 w2 : World} (hle : CoreLe w1 w2) {vm : List (Nat × Nat)} {f f' : Nat}
    (h : FuncWire w1 vm f f') : FuncWire w2 vm f f' := by
  obtain ⟨fs, fs', na, a, b, c, d, e, g, hat, hd⟩ := h
  exact ⟨fs, fs', na, cFunc_mono hle a, cFunc_mono hle b, c, d, e, g.mono hle,
    All2.mono (fun _ _ ⟨as, x, y⟩ => ⟨as, cAttr_mono hle x, y.mono hle⟩) hat, hd⟩

theorem FuncWire.toSim {w : World} {vm : List (Nat × Nat)} (hK : ∀ p ∈ vm, ValSim w p.1 p.2) {f f' : Nat}
    (h : FuncWire w vm f f') : FuncSim w f f' := by
  obtain ⟨fs, fs', na, a, b, c, d, e, g, hat, hd⟩ := h
  exact ⟨fs, fs', na, a, b, c, d, e, g.toSim hK,
    All2.mono (fun _ _ ⟨as, x, y⟩ => ⟨as, x, y.toSim hK⟩) hat, hd⟩

/-- a cloner's final value map: pairwise different keys, injective, every pair relates equally
    observed values and its target is an object created after the first `n0` -/
def VmOk (n0 : Nat) (w : World) (vm : List (Nat × Nat)) : Prop :=
  (vm.map (·.1)).Nodup ∧ (∀ p ∈ vm, ∀ q ∈ vm, p.2 = q.2 → p = q) ∧
    ∀ p ∈ vm, n0 ≤ p.2 ∧ ValSim w p.1 p.2

theorem VmOk.mono {n0 n1 : Nat} {w1 w2 : World} {vm : List (Nat × Nat)} (h : VmOk n1 w1 vm) (hn : n0 ≤ n1)
    (hle : CoreLe w1 w2) : VmOk n0 w2 vm :=
  ⟨h.1, h.2.1, fun p hp => ⟨Nat.le_trans hn (h.2.2 p hp).1, (h.2.2 p hp).2.mono hle⟩⟩

theorem VmOk.sim {n0 : Nat} {w : World} {vm : List (Nat × Nat)} (h : VmOk n0 w vm) :
    ∀ p ∈ vm, ValSim w p.1 p.2 := fun p hp => (h.2.2 p hp).2

/-- `Model.clone`: the clone `m'` is the image of `m`.  Header fields and device configurations equal,
    `metadata_props` equal, `meta` empty (`Model.clone` does not copy it), the main graph is the image
    under ITS cloner's map, the functions correspond position by position (same keys, same order) and
    each is the image under ITS OWN cloner's map; every one of these maps is `VmOk` -/
def ModelWire (n0 : Nat) (w : World) (m m' : Nat) : Prop :=
  ∃ ms ms', cModel w m = some ms ∧ cModel w m' = some ms' ∧ ms'.header = ms.header ∧ ms'.dev = ms.dev ∧
    (∃ vm, GraphWire false w vm ms.graph ms'.graph ∧ VmOk n0 w vm) ∧
    All2 (fun f f' => ∃ vm, FuncWire w vm f f' ∧ VmOk n0 w vm) ms.funcs ms'.funcs ∧
    PropsSim w ms.props ms'.props ∧ cDict w ms'.mstore = some {}

theorem ModelWire.toSim {n0 : Nat} {w : World} {m m' : Nat} (h : ModelWire n0 w m m') : ModelSim w m m' := by
  obtain ⟨ms, ms', a, b, c, d, ⟨vm, hg, hv⟩, hf, hp, _⟩ := h
  exact ⟨ms, ms', a, b, c, d, hg.toSim hv.sim, All2.mono (fun _ _ ⟨_, x, y⟩ => x.toSim y.sim) hf, hp⟩

/-- the identifier under which `Model.functions` files a function -/
def funcKey (w : World) (f : Nat) : Option (String × String × String) :=
  (cFunc w f).map fun fs => (fs.domain, fs.name, fs.overload)

theorem FuncWire.key {w : World} {vm : List (Nat × Nat)} {f f' : Nat} (h : FuncWire w vm f f') :
    funcKey w f' = funcKey w f ∧ (funcKey w f).isSome := by
  obtain ⟨fs, fs', _, a, b, c, d, e, _⟩ := h
  simp [funcKey, a, b, c, d, e]

theorem ModelWire.keys {n0 : Nat} {w : World} {m m' : Nat} (h : ModelWire n0 w m m') :
    ∃ ms ms', cModel w m = some ms ∧ cModel w m' = some ms' ∧
      ms'.funcs.map (funcKey w) = ms.funcs.map (funcKey w) := by
  obtain ⟨ms, ms', a, b, _, _, _, hf, _⟩ := h
  refine ⟨ms, ms', a, b, ?_⟩
  generalize ms.funcs = l at hf
  generalize ms'.funcs = l' at hf
  induction hf with
  | nil => rfl
  | cons h1 _ ih =>
    obtain ⟨_, hw, _⟩ := h1
    simp only [List.map_cons, hw.key.1, ih]

open Wire in
theorem funcCloneCore_spec {n0 : Nat} (fuel f : Nat) {s : St} :
    Hoare (cloneL n0) (funcCloneCore fuel f) s (fun f' s1 => FuncSim s1.w f f' ∧
      ∀ vmF, Fut s1.vm vmF → FuncWire s1.w vmF f f') := by
  have hrec : ∀ g s, Hoare (cloneL n0) (cloneGraph false fuel g) s
      (fun g' s1 => GraphSim s1.w g g' ∧ GW false g g' s1) :=
    fun g s => (cloneGraph_spec fuel g s).mono fun _ _ _ _ h => ⟨h.1, h.2.2⟩
  unfold funcCloneCore
  hbind Hoare.readFunc with fs s1 hE1 hN1 hq1
  obtain ⟨rfl, hfs⟩ := hq1
  hbind (hrec fs.graph s1) with g' s2 hE2 hN2 hg'
  obtain ⟨⟨hK2, hl2, -⟩, -⟩ := hN2
  hbind (Hoare.mapM2 (L := cloneL n0)
    (R := fun (ka : String × Nat) r s => ∃ as, cAttr s.w ka.2 = some as ∧ AttrSim s.w (as.name, ka.2) r ∧
      ∀ vmF, Fut s.vm vmF → AttrWire false s.w vmF (as.name, ka.2) r)
    (fun _ _ _ _ ⟨as, x, y, z⟩ hE hN =>
      ⟨as, cAttr_mono (cloneLA.core hN) x, y.mono (cloneLA.core hN), fun vmF hF => (z vmF (hF.mono (cloneLA.sfx hE))).mono (cloneLA.core hN)⟩)
    fs.attrs s2
    (fun ka _ s3 _ hN3 => by
      hbind Hoare.readAttr with as s4 hE4 hN4 hq4
      obtain ⟨rfl, has⟩ := hq4
      refine (cloneAttr_spec hrec as.name ka.2).mono ?_
      intro r s5 _ hN5 hr
      exact ⟨as, cAttr_mono (cloneLA.core hN5) (cAttr_of has), hr.1, hr.2⟩)) with attrs s3 hE3 hN3 hattrs
  obtain ⟨⟨hK3, hl3, -⟩, -⟩ := hN3
  refine (alloc_clone _ rfl).mono ?_
  intro f' s4 hE4 hN4 hf'
  have hl4 := cloneLA.core hN4
  have hsrc := cFunc_mono (hl2.trans (hl3.trans hl4)) (cFunc_of hfs)
  exact ⟨⟨fs, _, attrs, hsrc, cFunc_ofCore hf'.2.1, rfl, rfl, rfl, hg'.1.mono (hl3.trans hl4),
      All2.mono (fun _ _ ⟨as, x, y, _⟩ => ⟨as, cAttr_mono hl4 x, y.mono hl4⟩) hattrs, rfl⟩,
    fun vmF hF => ⟨fs, _, attrs, hsrc, cFunc_ofCore hf'.2.1, rfl, rfl, rfl,
      (hg'.2 vmF (hF.mono ((cloneLA.sfx hE3).trans (cloneLA.sfx hE4)))).mono (hl3.trans hl4),
      All2.mono (fun _ _ ⟨as, x, _, z⟩ => ⟨as, cAttr_mono hl4 x, (z vmF (hF.mono (cloneLA.sfx hE4))).mono hl4⟩) hattrs, rfl⟩⟩

theorem funcClone_sim (fuel f : Nat) {s : St} (hK : K s) :
    SGoodAt (funcClone fuel f) s (fun f' s1 => FuncSim s1.w f f') :=
  (withFreshMap_sim ((funcCloneCore_spec fuel f).freshSim.mono fun _ _ _ _ h => h.1) (fun _ _ _ _ _ h => h)).sim hK

theorem modelClone_sim (fuel m : Nat) {s : St} (hK : K s) :
    SGoodAt (modelClone fuel m) s (fun m' s1 => ModelSim s1.w m m') := by
  refine Hoare.sim ?_ hK
  unfold modelClone
  hbind Hoare.readModel with ms s1 - ⟨hK1, hl1⟩ hq1
  obtain ⟨rfl, hms⟩ := hq1
  hbind (SGoodAt.hoare (graphClone_sim fuel ms.graph)) with g' s2 - ⟨hK2, hl2⟩ hg'
  hbind (Hoare.mapM2 (L := simL) (R := fun f r s => FuncSim s.w f r) (fun _ _ _ _ h _ hN => h.mono hN.2) ms.funcs s2
    (fun f _ s3 _ _ => SGoodAt.hoare (funcClone_sim fuel f))) with fs s3 - ⟨hK3, hl3⟩ hfs
  hbind (copyProps_sim ms.props) with pr s4 - ⟨hK4, hl4⟩ hpr
  hbind (alloc_sim _) with me s5 - ⟨hK5, hl5⟩ hme
  refine (alloc_sim _).mono ?_
  rintro m' s6 - ⟨-, hl6⟩ hm'
  refine ⟨ms, _, cModel_mono (hl2.trans (hl3.trans (hl4.trans (hl5.trans hl6)))) (cModel_of hms),
    cModel_ofCore hm'.2.1, rfl, rfl, hg'.mono (hl3.trans (hl4.trans (hl5.trans hl6))),
    All2.mono (fun _ _ h => FuncSim.mono (hl4.trans (hl5.trans hl6)) h) hfs, ?_⟩
  obtain ⟨d, a, b⟩ := hpr
  exact ⟨d, _, cDict_mono (hl5.trans hl6) a, cDict_mono (hl5.trans hl6) b, rfl⟩

theorem funcClone_wiring {w : World} {fuel f : Nat} {A : Sc} (h : funcVerdict fuel w f = .ok A) :
    ∃ f' s', funcCloneCore fuel f { w := w } = (.ok f', s') ∧
      run (funcClone fuel f) w = (.ok f', s'.w) ∧ FuncWire s'.w s'.vm f f' ∧
      (∀ p ∈ s'.vm, ValSim s'.w p.1 p.2) ∧ CoreLe w s'.w ∧ Total.TInv w s' A := by
  obtain ⟨f', s', h1, hT⟩ := Total.funcCloneCore_verdict fuel w f h
  obtain ⟨-, hN, -, hW⟩ := (funcCloneCore_spec fuel f).ok (KC.fresh { w := w }).okL h1
  have hK := (cloneLA.kc hN).k
  have hle := cloneLA.core hN
  refine ⟨f', s', h1, by rw [funcClone_core, run_withFreshMap, h1], hW s'.vm ⟨Wire.Sfx.refl _, ?_⟩, hK, hle, hT⟩
  rw [hT.keys]
  exact hT.nodup

theorem vmOk_of_tinv {w : World} {s' : St} {A : Sc} (hT : Total.TInv w s' A)
    (hK : ∀ p ∈ s'.vm, ValSim s'.w p.1 p.2) : VmOk w.length s'.w s'.vm :=
  ⟨by rw [hT.keys]; exact hT.nodup, hT.inj, fun p hp => ⟨(hT.vals p hp).1, hK p hp⟩⟩

/-! ### `Model.clone`: every step runs on an extension of the source heap -/

open Total Local in
/-- An entry point with a fresh cloner, run in any state whose heap extends the source heap.  Stated
    on runs: each cloner's own value map is gone after `withFreshMap`, no logic on the outer state sees it. -/
theorem fresh_at {w : World} {m : M Nat} {γ : Type} {v : World → WRes γ} {P : Nat → Nat → World → Prop}
    (hm : ∀ w1 s, Inv w1 false s → GoodAt w1 false (withFreshMap m) s (NewId w1))
    (hverdict : ∀ w1 c, v w1 = .ok c → ∃ a w', run (withFreshMap m) w1 = (.ok a, w') ∧ P w1.length a w')
    (hloc : ∀ ext, LocP (v w) (v (w ++ ext)) (fun _ => True))
    {c : γ} (hv : v w = .ok c) {s : St} {ext : World} (hs : s.w = w ++ ext) :
    ∃ a s', withFreshMap m s = (.ok a, s') ∧ (∃ ext', s'.w = s.w ++ ext') ∧ s'.vm = s.vm ∧
      P s.w.length a s'.w := by
  have hl := hloc ext
  rw [hv] at hl
  have hv1 : v s.w = .ok c := by rw [hs]; exact hl.ok_eq
  obtain ⟨a, w', hr, hP⟩ := hverdict s.w c hv1
  obtain ⟨ext2, he2⟩ := run_prefix (hm s.w) hr
  exact ⟨a, { s with w := w' }, by rw [withFreshMap_run, hr], ⟨ext2, he2⟩, rfl, hP⟩

open Total Local in
theorem graphClone_at {w : World} {fuel g : Nat} {A : Sc} (hv : cloneVerdict fuel false w g = .ok A)
    {s : St} {ext : World} (hs : s.w = w ++ ext) :
    ∃ g' s', graphClone fuel false g s = (.ok g', s') ∧ (∃ ext', s'.w = s.w ++ ext') ∧ s'.vm = s.vm ∧
      ∃ vm, GraphWire false s'.w vm g g' ∧ VmOk s.w.length s'.w vm := by
  refine fresh_at (m := cloneGraph false fuel g) (v := fun w1 => cloneVerdict fuel false w1 g)
    (P := fun n0 g' w' => ∃ vm, GraphWire false w' vm g g' ∧ VmOk n0 w' vm)
    (fun w1 s hI => graphClone_good fuel g hI) (fun w1 c hc => ?_) (fun ext => cloneVerdict_loc ext fuel false g) hv hs
  obtain ⟨g', s', _, h2, hW, hK, _, hT⟩ := graphClone_wiring hc
  exact ⟨g', s'.w, h2, s'.vm, hW, vmOk_of_tinv hT hK⟩

open Total Local in
theorem funcClone_at {w : World} {fuel f : Nat} {A : Sc} (hv : funcVerdict fuel w f = .ok A)
    {s : St} {ext : World} (hs : s.w = w ++ ext) :
    ∃ f' s', funcClone fuel f s = (.ok f', s') ∧ (∃ ext', s'.w = s.w ++ ext') ∧ s'.vm = s.vm ∧
      ∃ vm, FuncWire s'.w vm f f' ∧ VmOk s.w.length s'.w vm := by
  rw [funcClone_core]
  refine fresh_at (m := funcCloneCore fuel f) (v := fun w1 => funcVerdict fuel w1 f)
    (P := fun n0 f' w' => ∃ vm, FuncWire w' vm f f' ∧ VmOk n0 w' vm)
    (fun w1 s hI => by rw [← funcClone_core]; exact funcClone_good fuel f hI) (fun w1 c hc => ?_)
    (fun ext => funcVerdict_loc ext fuel f) hv hs
  obtain ⟨f', s', _, h2, hW, hK, _, hT⟩ := funcClone_wiring hc
  rw [← funcClone_core]
  exact ⟨f', s'.w, h2, s'.vm, hW, vmOk_of_tinv hT hK⟩

theorem funcs_at {w : World} {fuel : Nat} : ∀ (fs : List Nat) (s : St) (ext : World), s.w = w ++ ext →
    (∀ f ∈ fs, ∃ A, funcVerdict fuel w f = .ok A) →
    ∃ fs' s', mapM' (funcClone fuel) fs s = (.ok fs', s') ∧ (∃ ext', s'.w = s.w ++ ext') ∧ s'.vm = s.vm ∧
      All2 (fun f f' => ∃ vm, FuncWire s'.w vm f f' ∧ VmOk s.w.length s'.w vm) fs fs'
  | [], s, _, _, _ => ⟨[], s, rfl, ⟨[], by simp⟩, rfl, .nil⟩
  | f :: fs, s, ext, hs, hv => by
    obtain ⟨A, hA⟩ := hv f List.mem_cons_self
    obtain ⟨f', s1, h1, ⟨e1, he1⟩, hvm1, vm, hW, hO⟩ := funcClone_at hA hs
    have hs1 : s1.w = w ++ (ext ++ e1) := by rw [he1, hs, List.append_assoc]
    obtain ⟨fs', s2, h2, ⟨e2, he2⟩, hvm2, hall⟩ :=
      funcs_at fs s1 (ext ++ e1) hs1 (fun g hg => hv g (List.mem_cons_of_mem _ hg))
    have hle : CoreLe s1.w s2.w := by rw [he2]; exact CoreLe.appendList _ _
    have hlen : s.w.length ≤ s1.w.length := by rw [he1]; simp
    refine ⟨f' :: fs', s2, mapM'_cons_ok h1 h2, ⟨e1 ++ e2, by rw [he2, he1, List.append_assoc]⟩,
      hvm2.trans hvm1, .cons ⟨vm, hW.mono hle, hO.mono (Nat.le_refl _) hle⟩ ?_⟩
    exact All2.mono (fun _ _ ⟨vm', a, b⟩ => ⟨vm', a, b.mono hlen (CoreLe.refl _)⟩) hall

theorem wDict_ok {w : World} {d : Nat} (h : wDict w d = .ok ()) : ∃ x, w[d]? = some (.dict x) := by
  unfold wDict wCell at h
  cases hc : w[d]? with
  | none => rw [hc] at h; cases h
  | some c =>
    rw [hc] at h
    cases c <;> simp [WRes.bind] at h
    exact ⟨_, rfl⟩

theorem modelClone_wiring {w : World} {fuel m : Nat} (h : modelVerdict fuel w m = .ok ()) :
    ∃ m' w', run (modelClone fuel m) w = (.ok m', w') ∧ ModelWire w.length w' m m' ∧ CoreLe w w' := by
  unfold modelVerdict at h
  obtain ⟨ms, hms, h⟩ := Irr.bind_ok h
  obtain ⟨A0, hg, h⟩ := Irr.bind_ok h
  obtain ⟨_, hfs, hd⟩ := Irr.bind_ok h
  have hmc := Irr.wModelCell_ok hms
  obtain ⟨dx, hdx⟩ := wDict_ok hd
  have hfv : ∀ f ∈ ms.funcs, ∃ A, funcVerdict fuel w f = .ok A := by
    intro f hf
    have := Total.wAll_eq_ok_iff.1 hfs f hf
    obtain ⟨A, hA, _⟩ := Irr.bind_ok this
    exact ⟨A, hA⟩
  have hs0 : ({ w := w } : St).w = w ++ [] := by simp
  obtain ⟨g', s1, h1, ⟨e1, he1⟩, _, vmG, hWG, hOG⟩ := graphClone_at hg hs0
  have hs1 : s1.w = w ++ e1 := he1
  obtain ⟨fs', s2, h2, ⟨e2, he2⟩, _, hall⟩ := funcs_at ms.funcs s1 e1 hs1 hfv
  have hd2 : s2.w[ms.props]? = some (.dict dx) := by
    rw [he2, hs1, List.append_assoc]; exact Local.get_ext _ hdx
  let c1 : Cell := .dict { data := dx.data, invalid := [] }
  let c2 : Cell := .dict {}
  let c3 : Cell := .model { graph := g', funcs := fs', header := ms.header, dev := ms.dev,
                            props := s2.w.length, mstore := s2.w.length + 1 }
  have hrun : modelClone fuel m { w := w } = (.ok (s2.w.length + 2), { s2 with w := s2.w ++ [c1] ++ [c2] ++ [c3] }) := by
    unfold modelClone
    show M.bind (readModel m) _ _ = _
    simp only [M.bind, readModel, hmc, h1, h2, copyProps, readDict, hd2, alloc, bind, List.length_append,
      List.length_cons, List.length_nil, c1, c2, c3]
  have hfin : s2.w ++ [c1] ++ [c2] ++ [c3] = w ++ (e1 ++ e2 ++ [c1, c2, c3]) := by
    rw [he2, hs1]; simp
  have hle1 : CoreLe s1.w (s2.w ++ [c1] ++ [c2] ++ [c3]) := by
    rw [he2]; simp only [List.append_assoc]; exact CoreLe.appendList _ _
  have hle2 : CoreLe s2.w (s2.w ++ [c1] ++ [c2] ++ [c3]) := by
    simp only [List.append_assoc]; exact CoreLe.appendList _ _
  have hlen1 : w.length ≤ s1.w.length := by rw [hs1]; simp
  refine ⟨s2.w.length + 2, s2.w ++ [c1] ++ [c2] ++ [c3], by simp only [run, hrun], ?_, by rw [hfin]; exact CoreLe.appendList _ _⟩
  refine ⟨ms, { graph := g', funcs := fs', header := ms.header, dev := ms.dev,
                props := s2.w.length, mstore := s2.w.length + 1 }, ?_, ?_, rfl, rfl,
    ⟨vmG, hWG.mono hle1, hOG.mono (Nat.le_refl _) hle1⟩, ?_, ?_, ?_⟩
  · rw [hfin]; exact cModel_of (Local.get_ext _ hmc)
  · apply cModel_of
    simp [c3]
  · exact All2.mono (fun _ _ ⟨vm', a, b⟩ => ⟨vm', a.mono hle2, b.mono hlen1 hle2⟩) hall
  · refine ⟨dx, { data := dx.data, invalid := [] }, cDict_mono hle2 (cDict_of hd2), ?_, rfl⟩
    apply cDict_of
    simp [c1]
  · apply cDict_of
    simp [c2]

end IrVerif.Clone
