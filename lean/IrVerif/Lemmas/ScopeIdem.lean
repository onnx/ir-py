/-
The serializer only reads what an isomorphism preserves (`Img`): its helpers write the same lists for the renamed
values (`img_serValues` .. `img_serInits`, used by `img2_serGraph` in `ScopeReplIdem`).
-/
import IrVerif.Lemmas.ScopeRTMain
namespace IrVerif.Scope

/-- what `Iso` says about the images of the values in `U` -/
structure Img (V V' : Nat → ValueS) (σ : Nat → Nat) (U : List Nat) : Prop where
  name : ∀ v ∈ U, (V' (σ v)).name = (V v).name
  info : ∀ v ∈ U, (V' (σ v)).info = (V v).info.emit
  inj : ∀ a ∈ U, ∀ b ∈ U, σ a = σ b → a = b

theorem Img.viOf {V V' : Nat → ValueS} {σ : Nat → Nat} {U : List Nat} (h : Img V V' σ U) {v : Nat} (hv : v ∈ U) :
    viOf V' (σ v) = viOf V v := by
  simp only [Scope.viOf, nm, h.name v hv, h.info v hv, emit_emit]

theorem Img.shouldCreate {V V' : Nat → ValueS} {σ : Nat → Nat} {U : List Nat} (h : Img V V' σ U) {v : Nat}
    (hv : v ∈ U) : shouldCreate (V' (σ v)) = shouldCreate (V v) := by
  simp only [Scope.shouldCreate, h.name v hv, h.info v hv, present_emit]

theorem img_serValues {V V' : Nat → ValueS} {σ : Nat → Nat} {U : List Nat} (h : Img V V' σ U) :
    ∀ (vs : List Nat), (∀ v ∈ vs, v ∈ U) → (∀ v ∈ vs, (V v).name ≠ none) →
      serValues V' (vs.map σ) = .ok (vs.map (viOf V)) := by
  intro vs hU hn
  rw [serValues_of_names (V := V') (vs := vs.map σ) (fun w hw => by
    simp only [List.mem_map] at hw
    obtain ⟨v, hv, rfl⟩ := hw
    rw [h.name v (hU v hv)]; exact hn v hv)]
  congr 1
  rw [List.map_map]
  exact List.map_congr_left (fun v hv => h.viOf (hU v hv))

theorem img_serInputs {V V' : Nat → ValueS} {σ : Nat → Nat} {U : List Nat}
    (hn : ∀ v ∈ U, (V' (σ v)).name = (V v).name) :
    ∀ (ins : List (Option Nat)), (∀ v, some v ∈ ins → v ∈ U ∧ (V v).name ≠ none) →
      serInputs V' (ins.map (Option.map σ)) = .ok (ins.map (inName V)) := by
  intro ins hU
  rw [serInputs_of_names (V := V') (ins := ins.map (Option.map σ)) (fun w hw => by
    simp only [List.mem_map] at hw
    obtain ⟨o, ho, he⟩ := hw
    cases o with
    | none => simp at he
    | some v =>
      simp only [Option.map_some, Option.some.injEq] at he
      subst he
      rw [hn v (hU v ho).1]; exact (hU v ho).2)]
  congr 1
  rw [List.map_map]
  apply List.map_congr_left
  intro o ho
  cases o with
  | none => rfl
  | some v => simp [inName, nm, hn v (hU v ho).1]

theorem img_stripTrailing {V V' : Nat → ValueS} {σ : Nat → Nat} {U : List Nat}
    (hn : ∀ v ∈ U, (V' (σ v)).name = (V v).name) :
    ∀ (l : List Nat), (∀ v ∈ l, v ∈ U) → stripTrailing V' (l.map σ) = (stripTrailing V l).map σ := fun l hU => by
  simp only [stripTrailing_eq]
  exact ListFacts.dropTrailing_map σ _ _ l fun a ha => by rw [hn a (hU a ha)]

theorem outVInfo_strip (V : Nat → ValueS) (gouts : List Nat) :
    ∀ (outs : List Nat), outVInfo V gouts (stripTrailing V outs) = outVInfo V gouts outs := by
  intro outs
  induction outs with
  | nil => rfl
  | cons a r ih =>
    by_cases hs : stripTrailing V r = []
    · rw [stripTrailing_cons_nil V a r hs]
      rw [hs] at ih
      have hr : outVInfo V gouts r = [] := by rw [← ih]; rfl
      split
      · simp [outVInfo, hr]
      · rename_i hf
        simp only [outVInfo, hr]
        have : shouldCreate (V a) = false := by
          simp only [shouldCreate, Bool.and_eq_false_iff]
          right; simpa using hf
        simp [this]
    · rw [stripTrailing_cons_ne V a r hs]
      simp only [outVInfo, ih]

/-- the value_info entries of node outputs: only named outputs have one, so names (on `K`) and the
    information of the named ones (in `E`) are all that matters -/
theorem img_outVInfo {V V' : Nat → ValueS} {σ : Nat → Nat} {K E : List Nat} (h : Img V V' σ E)
    (hn : ∀ v ∈ K, (V' (σ v)).name = (V v).name) (hinj : ∀ a ∈ K, ∀ b ∈ K, σ a = σ b → a = b)
    (gouts : List Nat) (hg : ∀ v ∈ gouts, v ∈ K) :
    ∀ (l : List Nat), (∀ v ∈ l, v ∈ K) → (∀ v ∈ l, nameTruthy (V v).name = true → v ∈ E) →
      outVInfo V' (gouts.map σ) (l.map σ) = outVInfo V gouts l := by
  intro l
  induction l with
  | nil => intro _ _; rfl
  | cons a r ih =>
    intro hK hE
    have ha := hK a List.mem_cons_self
    have ih' := ih (fun v hv => hK v (List.mem_cons_of_mem _ hv)) (fun v hv => hE v (List.mem_cons_of_mem _ hv))
    simp only [List.map_cons, outVInfo, ih']
    have hc : (gouts.map σ).contains (σ a) = gouts.contains a := by
      simp only [List.contains_eq_mem, List.mem_map, decide_eq_decide]
      constructor
      · rintro ⟨b, hb, he⟩
        rw [← hinj b (hg b hb) a ha he]; exact hb
      · exact fun hm => ⟨a, hm, rfl⟩
    rw [hc]
    by_cases ht : nameTruthy (V a).name = true
    · have haE := hE a List.mem_cons_self ht
      simp only [h.shouldCreate haE, h.name a haE, h.info a haE, emit_emit]
    · have hf : nameTruthy (V a).name = false := by simpa using ht
      have h1 : shouldCreate (V a) = false := by simp [shouldCreate, hf]
      have h2 : shouldCreate (V' (σ a)) = false := by simp [shouldCreate, hn a ha, hf]
      simp [h1, h2]

theorem img_serOutNames {V V' : Nat → ValueS} {σ : Nat → Nat} {U : List Nat}
    (hn : ∀ v ∈ U, (V' (σ v)).name = (V v).name) :
    ∀ (vs : List Nat), (∀ v ∈ vs, v ∈ U) → (∀ v ∈ vs, (V v).name ≠ none) →
      serOutNames V' (vs.map σ) = .ok (vs.map (nm V)) := by
  intro vs hU hne
  rw [serOutNames_of_names (V := V') (vs := vs.map σ) (fun w hw => by
    simp only [List.mem_map] at hw
    obtain ⟨v, hv, rfl⟩ := hw
    rw [hn v (hU v hv)]; exact hne v hv)]
  congr 1
  rw [List.map_map]
  exact List.map_congr_left (fun v hv => by simp only [Function.comp, nm, hn v (hU v hv)])

theorem img_serInits {V V' : Nat → ValueS} {td td' : TData} {σ : Nat → Nat} {U : List Nat} (h : Img V V' σ U)
    (inames : List (Option Name)) :
    ∀ (its : List (Name × Nat)), (∀ kv ∈ its, kv.2 ∈ U) → (∀ kv ∈ its, (V kv.2).const ≠ none) →
      (∀ kv ∈ its, ∀ t, (V kv.2).const = some t → ∃ t', (V' (σ kv.2)).const = some t' ∧ td' t' = td t) →
      (serInits V' td' inames (its.map fun kv => (kv.1, σ kv.2))).1 = (serInits V td inames its).1 ∧
      (serInits V' td' inames (its.map fun kv => (kv.1, σ kv.2))).2.1 = (serInits V td inames its).2.1 := by
  intro its
  induction its with
  | nil => intro _ _ _; exact ⟨rfl, rfl⟩
  | cons kv its ih =>
    obtain ⟨k, v⟩ := kv
    intro hU hne hc
    obtain ⟨i1, i2⟩ := ih (fun kv hkv => hU kv (List.mem_cons_of_mem _ hkv)) (fun kv hkv => hne kv (List.mem_cons_of_mem _ hkv))
      (fun kv hkv => hc kv (List.mem_cons_of_mem _ hkv))
    have hv := hU (k, v) List.mem_cons_self
    obtain ⟨t, h1⟩ : ∃ t, (V v).const = some t := by
      cases hcv : (V v).const with
      | none => exact absurd hcv (hne (k, v) List.mem_cons_self)
      | some t => exact ⟨t, rfl⟩
    obtain ⟨t', h2, h3⟩ := hc (k, v) List.mem_cons_self t h1
    simp only [List.map_cons, serInits, h1, h2, i1, i2, h.shouldCreate hv, h.name v hv, h.info v hv, emit_emit, h3]
    simp

mutual
theorem img_serGraph {V V' : Nat → ValueS} {td td' : TData} {σ : Nat → Nat} {U : List Nat} (h : Img V V' σ U) :
    ∀ (g g' : GraphT) (od : List Nat) (p : GraphP) (ws : Writes), TreeIsoG V σ g g' → SerG V od g →
      (∀ v ∈ od, v ∈ U) → (∀ v ∈ allDefsG V g, v ∈ U) →
      (∀ kv ∈ allInitsG g, ∀ t, (V kv.2).const = some t → ∃ t', (V' (σ kv.2)).const = some t' ∧ td' t' = td t) →
      serGraph V td g = .ok (p, ws) → ∃ ws', serGraph V' td' g' = .ok (p, ws')
  | .mk _ ins inits nodes outs, .mk _ ins' inits' nodes' outs' => by
    have ih := img_serNodes (td := td) (td' := td') h nodes
    intro od p ws ht hS hod hU hc hser
    simp only [TreeIsoG] at ht
    obtain ⟨rfl, rfl, htn, rfl⟩ := ht
    obtain ⟨nps, vis2, ws2, hn, rfl, _⟩ := serGraph_inv hser
    simp only [SerG] at hS
    obtain ⟨_, _, hins_t, hinits, _, _, houts, hSN⟩ := hS
    have hD : defsOf V (.mk 0 ins inits nodes outs) = ins ++ newInits ins inits ++ nodes.flatMap (liveOuts V) := rfl
    have hdefs : ∀ v, v ∈ ins ∨ v ∈ newInits ins inits ∨ v ∈ nodes.flatMap (liveOuts V) → v ∈ U := by
      intro v hv
      apply hU
      simp only [allDefsG, defsOf, List.mem_append]
      rcases hv with hv | hv | hv
      · exact .inl (.inl (.inl hv))
      · exact .inl (.inl (.inr hv))
      · exact .inl (.inr hv)
    have hinsU : ∀ v ∈ ins, v ∈ U := fun v hv => hdefs v (.inl hv)
    have hinitU : ∀ kv ∈ inits, kv.2 ∈ U := by
      intro kv hkv
      by_cases hi : kv.2 ∈ ins
      · exact hinsU _ hi
      · refine hdefs _ (.inr (.inl ?_))
        simp only [newInits, List.mem_filter, List.mem_map]
        exact ⟨⟨kv, hkv, rfl⟩, by simpa using hi⟩
    have houtU : ∀ v ∈ outs, v ∈ U := by
      intro v hv
      have := (houts v hv).1
      simp only [defsOf, List.mem_append] at this
      rcases this with (h1 | h1) | h1
      · exact hdefs v (.inl h1)
      · exact hdefs v (.inr (.inl h1))
      · exact hdefs v (.inr (.inr h1))
    have e1 := img_serValues h ins hinsU (fun v hv => ne_none_of_truthy (hins_t v hv))
    have e5 := img_serValues h outs houtU (fun v hv => ne_none_of_truthy (houts v hv).2)
    have hnames : (ins.map σ).map (fun v => (V' v).name) = ins.map (fun v => (V v).name) := by
      rw [List.map_map]
      exact List.map_congr_left (fun v hv => h.name v (hinsU v hv))
    obtain ⟨e2, e3⟩ := img_serInits (td := td) (td' := td') h (ins.map fun v => (V v).name) inits hinitU
      (fun kv hkv => (hinits kv hkv).2.2) (fun kv hkv => hc kv (List.mem_append_left _ hkv))
    obtain ⟨ws2', e4⟩ := ih nodes' (defsOf V (.mk 0 ins inits nodes outs) ++ od) outs nps vis2 ws2 htn hSN
      (fun v hv => by
        simp only [List.mem_append] at hv
        rcases hv with hv | hv
        · simp only [defsOf, List.mem_append] at hv
          rcases hv with (h1 | h1) | h1
          · exact hdefs v (.inl h1)
          · exact hdefs v (.inr (.inl h1))
          · exact hdefs v (.inr (.inr h1))
        · exact hod v hv)
      houtU (fun v hv => hdefs v (.inr (.inr hv)))
      (fun v hv => hU v (List.mem_append_right _ hv))
      (fun kv hkv => hc kv (List.mem_append_right _ hkv)) hn
    exact ⟨_, by simp only [serGraph, e1, hnames, e2, e3, e4, e5]; rfl⟩
termination_by structural g => g
theorem img_serNodes {V V' : Nat → ValueS} {td td' : TData} {σ : Nat → Nat} {U : List Nat} (h : Img V V' σ U) :
    ∀ (ns ns' : List NodeT) (vis gouts : List Nat) (nps : List NodeP) (vi : List VInfoP) (ws : Writes),
      TreeIsoNs V σ ns ns' → SerNs V vis gouts ns → (∀ v ∈ vis, v ∈ U) → (∀ v ∈ gouts, v ∈ U) →
      (∀ v ∈ ns.flatMap (liveOuts V), v ∈ U) → (∀ v ∈ allDefsNs V ns, v ∈ U) →
      (∀ kv ∈ allInitsNs ns, ∀ t, (V kv.2).const = some t → ∃ t', (V' (σ kv.2)).const = some t' ∧ td' t' = td t) →
      serNodes V td gouts ns = .ok (nps, vi, ws) →
      ∃ ws', serNodes V' td' (gouts.map σ) ns' = .ok (nps, vi, ws')
  | [], [] => by
    intro _ _ nps vi ws _ _ _ _ _ _ _ hser
    simp only [serNodes, Except.ok.injEq, Prod.mk.injEq] at hser
    obtain ⟨rfl, rfl, _⟩ := hser
    exact ⟨[], rfl⟩
  | n :: ns, n' :: ns' => by
    have ihn := img_serNode (td := td) (td' := td') h n
    have ihr := img_serNodes (td := td) (td' := td') h ns
    intro vis gouts nps vi ws ht hS hvis hg hL hU hc hser
    simp only [TreeIsoNs] at ht
    simp only [SerNs] at hS
    simp only [serNodes] at hser
    split at hser
    · simp at hser
    · rename_i np vi1 ws1 h1
      split at hser
      · simp at hser
      · rename_i nps' vis' ws2 h2
        simp only [Except.ok.injEq, Prod.mk.injEq] at hser
        obtain ⟨rfl, rfl, _⟩ := hser
        obtain ⟨w1, e1⟩ := ihn n' vis gouts np vi1 ws1 ht.1 hS.1 hvis hg
          (fun v hv => hL v (List.mem_append_left _ hv))
          (fun v hv => hU v (List.mem_append_left _ hv)) (fun kv hkv => hc kv (List.mem_append_left _ hkv)) h1
        obtain ⟨w2, e2⟩ := ihr ns' vis gouts nps' vis' ws2 ht.2 hS.2 hvis hg
          (fun v hv => hL v (List.mem_append_right _ hv))
          (fun v hv => hU v (List.mem_append_right _ hv)) (fun kv hkv => hc kv (List.mem_append_right _ hkv)) h2
        exact ⟨_, by simp only [serNodes, e1, e2]; rfl⟩
  | [], _ :: _ => fun _ _ _ _ _ ht => by simp [TreeIsoNs] at ht
  | _ :: _, [] => fun _ _ _ _ _ ht => by simp [TreeIsoNs] at ht
termination_by structural ns => ns
theorem img_serNode {V V' : Nat → ValueS} {td td' : TData} {σ : Nat → Nat} {U : List Nat} (h : Img V V' σ U) :
    ∀ (n n' : NodeT) (vis gouts : List Nat) (np : NodeP) (vi : List VInfoP) (ws : Writes),
      TreeIsoN V σ n n' → SerN V vis gouts n → (∀ v ∈ vis, v ∈ U) → (∀ v ∈ gouts, v ∈ U) →
      (∀ v ∈ liveOuts V n, v ∈ U) → (∀ v ∈ allDefsN V n, v ∈ U) →
      (∀ kv ∈ allInitsN n, ∀ t, (V kv.2).const = some t → ∃ t', (V' (σ kv.2)).const = some t' ∧ td' t' = td t) →
      serNode V td gouts n = .ok (np, vi, ws) → ∃ ws', serNode V' td' (gouts.map σ) n' = .ok (np, vi, ws')
  | .mk _ _ ins outs subs, .mk _ _ ins' outs' subs' => by
    have ih := img_serSubs (td := td) (td' := td') h subs
    intro vis gouts np vi ws ht hS hvis hg hL hU hc hser
    simp only [TreeIsoN] at ht
    obtain ⟨rfl, rfl, hts⟩ := ht
    simp only [SerN] at hS
    obtain ⟨hins, houtn, hSG⟩ := hS
    obtain ⟨gps, ws', hs, rfl, rfl, _⟩ := serNode_inv hser
    simp only [liveOuts] at hL
    have e1 := img_serInputs h.name ins (fun v hv => ⟨hvis v (hins v hv).1, ne_none_of_truthy (hins v hv).2⟩)
    have e2 : stripTrailing V' ((stripTrailing V outs).map σ) = (stripTrailing V outs).map σ := by
      rw [img_stripTrailing h.name _ hL, stripTrailing_idem]
    have e3 := img_serOutNames h.name (stripTrailing V outs) hL (fun v hv => houtn v (stripTrailing_sub V outs v hv))
    obtain ⟨ws'', e4⟩ := ih subs' vis gps ws' hts hSG hvis
      (fun v hv => hU v (by simpa [allDefsN] using hv)) (fun kv hkv => hc kv (by simpa [allInitsN] using hkv)) hs
    have e5 : outVInfo V' (gouts.map σ) ((stripTrailing V outs).map σ) = outVInfo V gouts outs := by
      rw [img_outVInfo h h.name h.inj gouts hg _ hL (fun v hv _ => hL v hv), outVInfo_strip]
    exact ⟨_, by simp only [serNode, e1, e2, e3, e4, e5]; rfl⟩
termination_by structural n => n
theorem img_serSubs {V V' : Nat → ValueS} {td td' : TData} {σ : Nat → Nat} {U : List Nat} (h : Img V V' σ U) :
    ∀ (gs gs' : List GraphT) (vis : List Nat) (gps : List GraphP) (ws : Writes),
      TreeIsoGs V σ gs gs' → SerGs V vis gs → (∀ v ∈ vis, v ∈ U) → (∀ v ∈ allDefsGs V gs, v ∈ U) →
      (∀ kv ∈ allInitsGs gs, ∀ t, (V kv.2).const = some t → ∃ t', (V' (σ kv.2)).const = some t' ∧ td' t' = td t) →
      serSubs V td gs = .ok (gps, ws) → ∃ ws', serSubs V' td' gs' = .ok (gps, ws')
  | [], [] => by
    intro _ gps ws _ _ _ _ _ hser
    simp only [serSubs, Except.ok.injEq, Prod.mk.injEq] at hser
    obtain ⟨rfl, _⟩ := hser
    exact ⟨[], rfl⟩
  | g :: gs, g' :: gs' => by
    have ihg := img_serGraph (td := td) (td' := td') h g
    have ihr := img_serSubs (td := td) (td' := td') h gs
    intro vis gps ws ht hS hvis hU hc hser
    simp only [TreeIsoGs] at ht
    simp only [SerGs] at hS
    obtain ⟨gp, ws1, gps', ws2, h1, h2, rfl, _⟩ := serSubs_inv hser
    obtain ⟨w1, e1⟩ := ihg g' vis gp ws1 ht.1 hS.1 hvis
      (fun v hv => hU v (List.mem_append_left _ hv)) (fun kv hkv => hc kv (List.mem_append_left _ hkv)) h1
    obtain ⟨w2, e2⟩ := ihr gs' vis gps' ws2 ht.2 hS.2 hvis
      (fun v hv => hU v (List.mem_append_right _ hv)) (fun kv hkv => hc kv (List.mem_append_right _ hkv)) h2
    exact ⟨_, by simp only [serSubs, e1, e2]; rfl⟩
  | [], _ :: _ => fun _ _ _ ht => by simp [TreeIsoGs] at ht
  | _ :: _, [] => fun _ _ _ ht => by simp [TreeIsoGs] at ht
termination_by structural gs => gs
end

end IrVerif.Scope
