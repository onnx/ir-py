/-
Facts of the core certificate `replG` (`Lemmas/ScopeRepl.lean`) and of the association that the round trip of the
extended model uses: where an entry of a table of `replInits` / `replDecl` / `replRes` / `replNs` comes from (it was
there, or it binds a new value), that lookups survive the later phases, how the graph outputs split into bound and new
ones, and the image of a new value under an extended association.
-/
import IrVerif.Lemmas.ScopeReplPhases
namespace IrVerif.Scope

theorem sig_append_new {A B : Assoc} {v : Nat} (hA : v ∉ A.map (·.1)) (hB : v ∈ B.map (·.1)) :
    (v, sig (A ++ B) v) ∈ B := by
  obtain ⟨d, hd⟩ := lookup_isSome_of_mem_keys hB
  have : sig (A ++ B) v = d := by
    simp [sig, List.lookup_append, lookup_none_of_not_mem_keys hA, hd]
  rw [this]
  exact ListFacts.mem_of_lookup hd

theorem replInits_tbl_mem (V : Nat → ValueS) (go : List Nat) : ∀ (l : List (Name × Nat)) (T : Table),
    ∀ e ∈ (replInits V go T l).tbl, e ∈ T ∨ (e ∈ l ∧ e.2 ∈ (replInits V go T l).new) := by
  intro l
  induction l with
  | nil => intro T e he; exact .inl (by simpa [replInits] using he)
  | cons kv l ih =>
    obtain ⟨k, v⟩ := kv
    intro T e he
    simp only [replInits] at he ⊢
    split at he
    · rename_i u hl
      simp only
      rcases ih T e he with h | ⟨h1, h2⟩
      · exact .inl h
      · exact .inr ⟨by simp [h1], h2⟩
    · rename_i hl
      simp only
      rcases ih _ e he with h | ⟨h1, h2⟩
      · simp only [List.mem_cons] at h
        rcases h with rfl | h
        · exact .inr ⟨by simp, by simp⟩
        · exact .inl h
      · exact .inr ⟨by simp [h1], by simp [h2]⟩

theorem replDecl_tbl_mem (V : Nat → ValueS) : ∀ (l : List Nat) (T : Table),
    ∀ e ∈ (replDecl V T l).tbl, e ∈ T ∨ (e.2 ∈ (replDecl V T l).new ∧ e.1 = nm V e.2) := by
  intro l
  induction l with
  | nil => intro T e he; exact .inl (by simpa [replDecl] using he)
  | cons v l ih =>
    intro T e he
    simp only [replDecl] at he ⊢
    split at he
    · rename_i ht
      simp only [ht, if_true]
      rcases ih _ e he with h | ⟨h1, h2⟩
      · simp only [List.mem_cons] at h
        rcases h with rfl | h
        · exact .inr ⟨by simp, rfl⟩
        · exact .inl h
      · exact .inr ⟨by simp [h1], h2⟩
    · rename_i ht
      simp only [ht]
      exact ih T e he

theorem replRes_tbl_mem (V : Nat → ValueS) (outer : List Table) : ∀ (l : List (Option Nat)) (T : Table),
    ∀ e ∈ (replRes V outer T l).tbl, e ∈ T ∨ (e.2 ∈ (replRes V outer T l).new ∧ e.1 = nm V e.2) := by
  intro l
  induction l with
  | nil => intro T e he; exact .inl (by simpa [replRes] using he)
  | cons a l ih =>
    intro T e he
    cases a with
    | none =>
      simp only [replRes] at he ⊢
      exact ih T e he
    | some v =>
      simp only [replRes] at he ⊢
      split at he
      · rename_i u hr
        simp only
        exact ih T e he
      · rename_i hr
        simp only
        rcases ih _ e he with h | ⟨h1, h2⟩
        · simp only [List.mem_cons] at h
          rcases h with rfl | h
          · exact .inr ⟨by simp, rfl⟩
          · exact .inl h
        · exact .inr ⟨by simp [h1], h2⟩

theorem replRes_lookup_mono (V : Nat → ValueS) (outer : List Table) : ∀ (l : List (Option Nat)) (T : Table)
    (y : Name) (u : Nat), T.lookup y = some u → (replRes V outer T l).tbl.lookup y = some u := by
  intro l
  induction l with
  | nil => intro T y u h; simpa [replRes] using h
  | cons a l ih =>
    intro T y u h
    cases a with
    | none => simp only [replRes]; exact ih T y u h
    | some v =>
      simp only [replRes]
      split
      · exact ih T y u h
      · rename_i hr
        apply ih
        have hne : y ≠ nm V v := fun e => by
          subst e
          rw [resolve_none_top _ _ _ hr] at h
          cases h
        rw [lookup_cons_ne _ _ _ _ hne]; exact h

theorem replN_lookup_mono (V : Nat → ValueS) (outer : List Table) : ∀ (n : NodeT) (T : Table)
    (y : Name) (u : Nat), T.lookup y = some u → (replN V outer T n).tbl.lookup y = some u
  | .mk _ _ ins _ _ => fun T y u h => by
    simp only [replN]
    exact replRes_lookup_mono V outer ins T y u h

theorem replNs_lookup_mono (V : Nat → ValueS) (outer : List Table) : ∀ (ns : List NodeT) (T : Table)
    (y : Name) (u : Nat), T.lookup y = some u → (replNs V outer T ns).tbl.lookup y = some u
  | [] => fun T y u h => by simpa [replNs] using h
  | n :: ns => fun T y u h => by
    simp only [replNs]
    exact replNs_lookup_mono V outer ns _ y u (replN_lookup_mono V outer n T y u h)

theorem replOuts_split (V : Nat → ValueS) (T : Table) : ∀ (outs : List Nat), (replOuts V T outs).ok →
    ∀ v ∈ outs, T.lookup (nm V v) = some v ∨ (T.lookup (nm V v) = none ∧ v ∈ (replOuts V T outs).new) := by
  intro outs
  induction outs with
  | nil => intro _ v hv; simp at hv
  | cons a r ih =>
    intro hok v hv
    simp only [replOuts] at hok ⊢
    simp only [List.mem_cons] at hv
    cases hl : T.lookup (nm V a) with
    | some u =>
      simp only [hl] at hok ⊢
      rcases hv with rfl | hv
      · left; rw [hl, hok.2.1]
      · exact ih hok.2.2 v hv
    | none =>
      simp only [hl] at hok ⊢
      rcases hv with rfl | hv
      · exact .inr ⟨hl, by simp⟩
      · rcases ih hok.2 v hv with h | ⟨h1, h2⟩
        · exact .inl h
        · exact .inr ⟨h1, by simp [h2]⟩

theorem replN_tbl_mem (V : Nat → ValueS) (outer : List Table) : ∀ (n : NodeT) (T : Table),
    ∀ e ∈ (replN V outer T n).tbl, e ∈ T ∨ e.2 ∈ (replN V outer T n).new
  | .mk _ _ ins _ _ => fun T e he => by
    simp only [replN] at he ⊢
    rcases replRes_tbl_mem V outer ins T e he with h | ⟨h, _⟩
    · exact .inl h
    · exact .inr (by simp [h])

theorem replNs_tbl_mem (V : Nat → ValueS) (outer : List Table) : ∀ (ns : List NodeT) (T : Table),
    ∀ e ∈ (replNs V outer T ns).tbl, e ∈ T ∨ e.2 ∈ (replNs V outer T ns).new
  | [] => fun T e he => .inl (by simpa [replNs] using he)
  | n :: ns => fun T e he => by
    simp only [replNs] at he ⊢
    rcases replNs_tbl_mem V outer ns _ e he with h | h
    · rcases replN_tbl_mem V outer n T e h with h' | h'
      · exact .inl h'
      · exact .inr (by simp [h'])
    · exact .inr (by simp [h])

theorem tableLt_of_RS2 {V : Nat → ValueS} {s : Store} {A : Assoc} (hrs : RS V s A) {T : Table} (h : TblIn A T) :
    TableLt s (mapT A T) := by
  intro e he
  simp only [mapT, List.mem_map] at he
  obtain ⟨e0, he0, rfl⟩ := he
  exact hrs.sig_lt (h e0 he0)

theorem deserOutputs_fresh (tbl : Table) (os : List VInfoP) (st : Store) (hlt : TableLt st tbl) (hf : Fresh st) :
    Fresh (deserOutputs st tbl os).1 :=
  (deserOutputs_steps (B := True) (PC := fun _ => False) tbl os st (Nat.le_refl _) (fun _ => hlt)).quiet.fresh hf

/-- the inputs and the outputs of a node, before its nested graphs are read: `B1`, `s1` after `resolveInputs`
    (placeholders), `B2`, `s2` after `lookupOutputs` (the outputs with an empty name) -/
theorem rt_nhead (V : Nat → ValueS) (vi : List (Name × Info)) (outer : List Table) (ins : List (Option Nat)) (outs : List Nat)
    (s : Store) (A : Assoc) (T : Table) (hrs : RS V s A) (hfr : Fresh s) (hT : TblIn A T) (hO : ∀ T' ∈ outer, TblIn A T')
    (okR : (replRes V outer T ins).ok) (houtn : ∀ v ∈ stripTrailing V outs, (V v).name ≠ none)
    (hlook : ∀ v ∈ stripTrailing V outs, nameTruthy (V v).name = true →
      (replRes V outer T ins).tbl.lookup (nm V v) = some v)
    (hnd : ((replRes V outer T ins).new ++ (stripTrailing V outs).filter (fun v => !nameTruthy (V v).name)).Nodup)
    (hnew : ∀ v ∈ (replRes V outer T ins).new ++ (stripTrailing V outs).filter (fun v => !nameTruthy (V v).name),
      v ∉ A.map (·.1)) :
    ∃ (B1 : Assoc) (s1 : Store) (B2 : Assoc) (s2 : Store),
      resolveInputs s (mapT A T) (outer.map (mapT A)) vi (ins.map (inName V)) =
        (s1, mapT (A ++ B1) (replRes V outer T ins).tbl, ins.map (Option.map (sig (A ++ B1)))) ∧
      lookupOutputs s1 (mapT (A ++ B1) (replRes V outer T ins).tbl) ((stripTrailing V outs).map (nm V)) =
        .ok (s2, (stripTrailing V outs).map (sig (A ++ B1 ++ B2))) ∧
      B1.map (·.1) = (replRes V outer T ins).new ∧
      B2.map (·.1) = (stripTrailing V outs).filter (fun v => !nameTruthy (V v).name) ∧
      (RS V s1 (A ++ B1) ∧ s.nv ≤ s1.nv ∧ Fresh s1 ∧ Prim s.nv s s1 ∧ ∀ e ∈ B1, s.nv ≤ e.2) ∧
      (RS V s2 (A ++ B1 ++ B2) ∧ s1.nv ≤ s2.nv ∧ Fresh s2 ∧ Prim s1.nv s1 s2 ∧ ∀ e ∈ B2, s1.nv ≤ e.2) ∧
      s2.nn = s1.nn ∧ TblIn (A ++ B1) (replRes V outer T ins).tbl ∧
      (∀ T' ∈ (replRes V outer T ins).tbl :: outer, TblIn (A ++ B1 ++ B2) T') ∧
      (∀ v, some v ∈ ins → v ∈ (A ++ B1).map (·.1)) ∧
      (∀ v ∈ stripTrailing V outs, ¬ nameTruthy (V v).name = true → v ∉ (A ++ B1).map (·.1)) ∧
      (∀ v ∈ stripTrailing V outs, v ∈ (A ++ B1 ++ B2).map (·.1)) ∧
      (∀ v ∈ stripTrailing V outs, ¬ nameTruthy (V v).name = true → (s2.vals (sig (A ++ B1 ++ B2) v)).info = {}) ∧
      ((replRes V outer T ins).tbl :: outer).map (mapT (A ++ B1 ++ B2)) =
        mapT (A ++ B1) (replRes V outer T ins).tbl :: outer.map (mapT A) := by
  obtain ⟨hndR, hndE, hdisjE⟩ := List.nodup_append.mp hnd
  obtain ⟨B1, s1, e1, r1, k1, t1, l1, m1, g1⟩ := rt2_resolveInputs V vi outer ins s A T hrs hT hO okR hndR
    (fun v hv => hnew v (List.mem_append_left _ hv))
  have f1 : Fresh s1 := by
    have := resolveInputs_fresh (outer.map (mapT A)) vi (ins.map (inName V)) s (mapT A T) hfr
    rw [e1] at this; exact this
  have p1 : Prim s.nv s s1 := by
    have := resolveInputs_prim s.nv (outer.map (mapT A)) vi (ins.map (inName V)) s (mapT A T) (Nat.le_refl _)
    rw [e1] at this; exact this
  generalize hT1 : (replRes V outer T ins).tbl = T1 at *
  have hnotAB1 : ∀ v ∈ stripTrailing V outs, ¬ nameTruthy (V v).name = true → v ∉ (A ++ B1).map (·.1) := by
    intro v hv hf hm
    have hvE : v ∈ (stripTrailing V outs).filter (fun v => !nameTruthy (V v).name) :=
      List.mem_filter.mpr ⟨hv, by simpa using hf⟩
    rw [List.map_append, List.mem_append, k1] at hm
    rcases hm with hm | hm
    · exact hnew v (List.mem_append_right _ hvE) hm
    · exact hdisjE v hm v hvE rfl
  obtain ⟨B2, s2, e2, r2, k2, l2, fr2, io2, g2, tn2, nt2⟩ := rt2_lookupOutputs V (mapT (A ++ B1) T1)
    (stripTrailing V outs) s1 (A ++ B1) r1 houtn hndE
    (fun v hv ht => ⟨by rw [lookup_mapT, hlook v hv ht]; rfl, t1.lookup (hlook v hv ht)⟩) hnotAB1
  have sp2 := (lookupOutputs_spec _ _ _ _ _ e2).1
  refine ⟨B1, s1, B2, s2, e1, e2, k1, k2, ⟨r1, l1, f1, p1, g1⟩,
    ⟨r2, l2, sp2.fresh f1, ⟨fun v hv => by rw [fr2 v hv]; exact ⟨rfl, rfl⟩, by rw [nt2]; exact Nat.le_refl _,
      fun t _ => by rw [tn2]⟩, g2⟩, sp2.nn_eq, t1, fun T' hT' => ?_, m1, hnotAB1, fun v hv => ?_, io2, ?_⟩
  · rcases List.mem_cons.mp hT' with rfl | hT'
    · exact t1.append _
    · exact ((hO T' hT').append _).append _
  · by_cases ht : nameTruthy (V v).name = true
    · exact mem_keys_append (t1.lookup (hlook v hv ht))
    · rw [List.map_append, List.mem_append, k2]
      exact .inr (List.mem_filter.mpr ⟨hv, by simpa using ht⟩)
  · simp only [List.map_cons]
    rw [mapT_extend B2 t1, List.append_assoc, maps_extend (B1 ++ B2) hO]

/-- the node object: `mkNode` on images below the counter keeps the store fresh, and the built node is the image of the
    source node -/
theorem rt_nobj (V : Nat → ValueS) (i : Nat) (g : Option Nat) (ins : List (Option Nat)) (outs : List Nat) (subs gts : List GraphT)
    (s1 s2 s3 : Store) (A B1 B2 B3 : Assoc) (r1 : RS V s1 (A ++ B1)) (r2 : RS V s2 (A ++ B1 ++ B2)) (l2 : s1.nv ≤ s2.nv)
    (l3 : s2.nv ≤ s3.nv) (f3 : Fresh s3) (m1 : ∀ v, some v ∈ ins → v ∈ (A ++ B1).map (·.1))
    (hL : ∀ v ∈ stripTrailing V outs, v ∈ (A ++ B1 ++ B2).map (·.1)) (tr3 : TreeRelGs V (A ++ B1 ++ B2 ++ B3) subs gts) :
    Fresh (mkNode s3 (ins.map (Option.map (sig (A ++ B1)))) ((stripTrailing V outs).map (sig (A ++ B1 ++ B2))) gts).1 ∧
    TreeRelN V (A ++ B1 ++ B2 ++ B3) (.mk i g ins outs subs)
      (mkNode s3 (ins.map (Option.map (sig (A ++ B1)))) ((stripTrailing V outs).map (sig (A ++ B1 ++ B2))) gts).2 := by
  constructor
  · apply mkNode_fresh _ _ _ _ f3
    · intro v hv
      simp only [List.mem_map] at hv
      obtain ⟨o, ho, he⟩ := hv
      cases o with
      | none => simp at he
      | some w =>
        simp only [Option.map_some, Option.some.injEq] at he
        subst he
        exact Nat.lt_of_lt_of_le (r1.sig_lt (m1 w ho)) (Nat.le_trans l2 l3)
    · intro v hv
      simp only [List.mem_map] at hv
      obtain ⟨w, hw, rfl⟩ := hv
      exact Nat.lt_of_lt_of_le (r2.sig_lt (hL w hw)) l3
  · rw [mkNode_snd]
    simp only [TreeRelN]
    refine ⟨?_, fun v hv => mem_keys_append (mem_keys_append (m1 v hv)), ?_, ?_, tr3⟩
    · apply List.map_congr_left
      intro o ho
      cases o with
      | none => rfl
      | some v =>
        simp only [Option.map_some, Option.some.injEq]
        rw [List.append_assoc (A ++ B1), sig_append_of_mem (m1 v ho)]
    · rw [map_sig_append hL]
    · intro v hv
      exact mem_keys_append (hL v hv)

end IrVerif.Scope
