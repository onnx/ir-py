/-
C12 — the stateful model (`Model/SortState.lean`): reading the tree off a world (`unfoldG`), the
container writes of step 5 (`applyWrites`) on C11's pointer-level containers, and the abstraction
of a world.
-/
import IrVerif.Lemmas.SortLinked
import IrVerif.Lemmas.SortEffect
import IrVerif.Model.SortState
import Mathlib.Data.List.Forall2

namespace IrVerif.Sort
open List
open IrVerif.LinkedSet (LSet RWorld WorldWF)

/-! ### `mapO` -/

theorem mapO_some {α β : Type} {f : α → Option β} :
    ∀ {l : List α} {r : List β}, mapO f l = some r → List.Forall₂ (fun a b => f a = some b) l r := by
  intro l
  induction l with
  | nil => intro r h; simp [mapO] at h; subst h; exact List.Forall₂.nil
  | cons a as ih =>
    intro r h
    simp only [mapO] at h
    cases hfa : f a with
    | none => simp [hfa] at h
    | some b =>
      simp only [hfa] at h
      cases hr : mapO f as with
      | none => simp [hr] at h
      | some bs =>
        simp only [hr, Option.some.injEq] at h
        subst h
        exact List.Forall₂.cons hfa (ih hr)

theorem mapO_congr {α β : Type} {f g : α → Option β} {l : List α} (h : ∀ a ∈ l, f a = g a) :
    mapO f l = mapO g l := by
  induction l with
  | nil => rfl
  | cons a as ih =>
    simp only [mapO]
    rw [h a (by simp), ih (fun x hx => h x (List.mem_cons_of_mem _ hx))]

theorem mapO_none_of_mem {α β : Type} {f : α → Option β} {l : List α} {a : α} (ha : a ∈ l)
    (hf : f a = none) : mapO f l = none := by
  induction l with
  | nil => simp at ha
  | cons x xs ih =>
    simp only [mapO]
    rcases List.mem_cons.1 ha with rfl | h
    · simp [hf]
    · cases f x with
      | none => rfl
      | some b => simp [ih h]

/-! ### `firsts` -/

theorem mem_firsts {l : List Nat} {x : Nat} : x ∈ firsts l ↔ x ∈ l := by
  induction l with
  | nil => simp [firsts]
  | cons a as ih =>
    simp only [firsts, List.mem_cons, List.mem_filter, bne_iff_ne, ne_eq, ih]
    constructor
    · rintro (h | ⟨h, _⟩)
      · exact Or.inl h
      · exact Or.inr h
    · rintro (h | h)
      · exact Or.inl h
      · by_cases hx : x = a
        · exact Or.inl hx
        · exact Or.inr ⟨h, hx⟩

theorem firsts_nodup (l : List Nat) : (firsts l).Nodup := by
  induction l with
  | nil => simp [firsts]
  | cons a as ih =>
    rw [firsts]
    -- the head was filtered out of the tail
    exact List.nodup_cons.2 ⟨fun h => by simpa using (List.mem_filter.1 h).2, ih.filter _⟩

/-! ### reading the tree off the world -/

theorem unfold_succ {w : SWorld} {k g : Nat} {t : MGraph} (h : unfoldG w (k + 1) g = some t) :
    t.1 = g ∧ List.Forall₂ (fun v n => n.id = v ∧ n.inputs = w.inputsOf v ∧
      List.Forall₂ (fun h sg => unfoldG w k h = some sg) (w.subsOf v) n.subs) (w.order g) t.2 := by
  simp only [unfoldG, Option.map_eq_some_iff] at h
  obtain ⟨ns, hns, rfl⟩ := h
  refine ⟨rfl, ?_⟩
  refine (mapO_some hns).imp ?_
  intro v n hn
  simp only [Option.map_eq_some_iff] at hn
  obtain ⟨subs, hsubs, rfl⟩ := hn
  exact ⟨rfl, rfl, mapO_some hsubs⟩

theorem forall₂_ids {w : SWorld} {k : Nat} {vs : List Nat} {ns : List MNode}
    (h : List.Forall₂ (fun v n => n.id = v ∧ n.inputs = w.inputsOf v ∧
      List.Forall₂ (fun h sg => unfoldG w k h = some sg) (w.subsOf v) n.subs) vs ns) :
    ns.map MNode.id = vs := by
  induction h with
  | nil => rfl
  | cons h1 _ ih => simp [h1.1, ih]

theorem forall₂_mem_right {α β : Type} {R : α → β → Prop} {l1 : List α} {l2 : List β}
    (h : List.Forall₂ R l1 l2) {b : β} (hb : b ∈ l2) : ∃ a ∈ l1, R a b := by
  induction h with
  | nil => simp at hb
  | cons h1 _ ih =>
    rcases List.mem_cons.1 hb with rfl | hb
    · exact ⟨_, by simp, h1⟩
    · obtain ⟨a, ha, hr⟩ := ih hb
      exact ⟨a, List.mem_cons_of_mem _ ha, hr⟩

theorem forall₂_mem_left {α β : Type} {R : α → β → Prop} {l1 : List α} {l2 : List β}
    (h : List.Forall₂ R l1 l2) {a : α} (ha : a ∈ l1) : ∃ b ∈ l2, R a b :=
  forall₂_mem_right h.flip ha

/-- every graph of the tree read off the world has, as node sequence, what its container holds -/
theorem unfold_orders {w : SWorld} : ∀ {k g : Nat} {t : MGraph}, unfoldG w k g = some t →
    ∀ h ∈ allGraphs t, h.2.map MNode.id = w.order h.1 := by
  intro k
  induction k with
  | zero => intro g t h; simp [unfoldG] at h
  | succ k ih =>
    intro g t hu h hh
    obtain ⟨hg, hall⟩ := unfold_succ hu
    rcases mem_allGraphs.1 hh with rfl | ⟨m, hm, hin⟩
    · rw [hg]; exact forall₂_ids hall
    · obtain ⟨v, _, _, _, hsubs⟩ := forall₂_mem_right hall hm
      obtain ⟨sg, hsg, hcase⟩ := mem_subgraphsN.1 hin
      obtain ⟨h', _, hu'⟩ := forall₂_mem_right hsubs hsg
      exact ih hu' h (mem_allGraphs.2 hcase)

/-- the tree read off a world depends only on the node sequences, the attribute graphs and the
    input producers -/
theorem unfold_congr {w1 w2 : SWorld} (ho : ∀ g, w1.order g = w2.order g)
    (hs : ∀ v, w1.subsOf v = w2.subsOf v) (hi : ∀ v, w1.inputsOf v = w2.inputsOf v) :
    ∀ k g, unfoldG w1 k g = unfoldG w2 k g := by
  intro k
  induction k with
  | zero => intro g; rfl
  | succ k ih =>
    intro g
    simp only [unfoldG, ho g]
    congr 1
    apply mapO_congr
    intro v _
    rw [hs v, hi v]
    congr 1
    apply mapO_congr
    intro h _
    exact ih h

/-! ### a graph nested in itself -/

/-- `h` is the value of a graph attribute of a node of `g` -/
def Nests (w : SWorld) (g h : Nat) : Prop := ∃ v ∈ w.order g, h ∈ w.subsOf v

theorem unfold_none_of_descent {w : SWorld} (S : Nat → Prop)
    (hS : ∀ g, S g → ∃ h, Nests w g h ∧ S h) : ∀ k g, S g → unfoldG w k g = none := by
  intro k
  induction k with
  | zero => intro g _; rfl
  | succ k ih =>
    intro g hg
    obtain ⟨h, ⟨v, hv, hh⟩, hsh⟩ := hS g hg
    simp only [unfoldG]
    rw [mapO_none_of_mem hv]
    · rfl
    · rw [mapO_none_of_mem hh (ih h hsh)]; rfl

/-- a graph from which a graph nested in itself can be reached cannot be read off with any depth
    bound -/
theorem unfold_none_of_self_nested {w : SWorld} {g : Nat}
    (h : ∃ c, Relation.ReflTransGen (Nests w) g c ∧ Relation.TransGen (Nests w) c c) :
    ∀ k, unfoldG w k g = none := by
  intro k
  apply unfold_none_of_descent
    (fun g => ∃ c, Relation.ReflTransGen (Nests w) g c ∧ Relation.TransGen (Nests w) c c) _ k g h
  rintro g ⟨c, hgc, hcc⟩
  rcases Relation.ReflTransGen.cases_head hgc with rfl | ⟨g', hstep, hrest⟩
  · obtain ⟨c', hstep, hrest⟩ := Relation.TransGen.head'_iff.1 hcc
    exact ⟨c', hstep, g, hrest, hcc⟩
  · exact ⟨g', hstep, c, hrest, hcc⟩

/-! ### the container writes of step 5 -/

theorem applyWrites_frame (w : SWorld) (ws : List (Nat × List Nat)) :
    (applyWrites w ws).inputs = w.inputs ∧ (applyWrites w ws).rw.attrs = w.rw.attrs ∧
    (applyWrites w ws).rw.sets.length = w.rw.sets.length ∧ (applyWrites w ws).rw.recf = w.rw.recf := by
  induction ws generalizing w with
  | nil => exact ⟨rfl, rfl, rfl, rfl⟩
  | cons p ps ih =>
    obtain ⟨h1, h2, h3, h4⟩ := ih (applyWrite w p)
    simp only [applyWrites, List.foldl_cons] at *
    refine ⟨h1, h2, ?_, h4⟩
    rw [h3]; simp [applyWrite, RWorld.applyAt]

theorem worldWF_applyWrite {w : SWorld} (hw : WorldWF w.rw) (p : Nat × List Nat) :
    WorldWF (applyWrite w p).rw := by
  intro s hs
  simp only [applyWrite, RWorld.applyAt] at hs
  rcases List.mem_or_eq_of_mem_set hs with h | h
  · exact hw s h
  · rw [h]; exact LinkedSet.C11_rep_step (hw.setOf p.1) _

theorem worldWF_applyWrites {w : SWorld} (hw : WorldWF w.rw) (ws : List (Nat × List Nat)) :
    WorldWF (applyWrites w ws).rw := by
  induction ws generalizing w with
  | nil => exact hw
  | cons p ps ih => exact ih (worldWF_applyWrite hw p)

theorem setOf_applyWrite_other (w : SWorld) (p : Nat × List Nat) (k : Nat) (hk : k ≠ p.1) :
    (applyWrite w p).rw.setOf k = w.rw.setOf k :=
  LinkedSet.setOf_applyAt_other w.rw p.1 k _ hk

theorem setOf_applyWrite_oob (w : SWorld) (p : Nat × List Nat) (hk : w.rw.sets.length ≤ p.1) :
    (applyWrite w p).rw = w.rw := by
  simp only [applyWrite, RWorld.applyAt]
  rw [List.set_eq_of_length_le hk]

theorem applyWrites_setOf_other (w : SWorld) (ws : List (Nat × List Nat)) (k : Nat) (hk : k ∉ ws.map Prod.fst) :
    (applyWrites w ws).rw.setOf k = w.rw.setOf k := by
  induction ws generalizing w with
  | nil => rfl
  | cons p ps ih =>
    simp only [List.map_cons, List.mem_cons, not_or] at hk
    simp only [applyWrites, List.foldl_cons] at *
    rw [ih (applyWrite w p) hk.2, setOf_applyWrite_other w p k hk.1]

/-- writes with distinct targets: a container addressed by `(k, xs)` has received exactly `extend(xs)` -/
theorem applyWrites_setOf (w : SWorld) (ws : List (Nat × List Nat)) (hnd : (ws.map Prod.fst).Nodup) :
    ∀ k xs, (k, xs) ∈ ws → k < w.rw.sets.length →
      (applyWrites w ws).rw.setOf k = (LinkedSet.apply (w.rw.setOf k) (.extend xs)).1 := by
  induction ws generalizing w with
  | nil => exact fun _ _ h => by simp at h
  | cons p ps ih =>
    simp only [List.map_cons, List.nodup_cons] at hnd
    have ih1 := applyWrites_setOf_other (applyWrite w p) ps
    have ih2 := ih (applyWrite w p) hnd.2
    simp only [applyWrites, List.foldl_cons] at *
    intro k xs hmem hlt
    rcases List.mem_cons.1 hmem with h | h
    · subst h
      rw [ih1 _ hnd.1]
      exact LinkedSet.setOf_applyAt_same w.rw _ _ hlt
    · have hne : k ≠ p.1 := by
        intro hc; subst hc
        exact hnd.1 (List.mem_map.2 ⟨(p.1, xs), h, rfl⟩)
      have hlen : (applyWrite w p).rw.sets.length = w.rw.sets.length := by
        simp [applyWrite, RWorld.applyAt]
      rw [ih2 k xs h (by rw [hlen]; exact hlt), setOf_applyWrite_other w p k hne]

/-! ### the abstraction of a world -/

theorem toList_empty : LinkedSet.toList LinkedSet.empty = [] := LinkedSet.C11_rep_empty.2

theorem order_out_of_range {w : SWorld} {k : Nat} (h : w.rw.sets.length ≤ k) : w.order k = [] := by
  simp only [SWorld.order, LinkedSet.RWorld.setOf, List.getD]
  rw [List.getElem?_eq_none h]
  exact toList_empty

theorem order_eq_abs (w : SWorld) (g : Nat) :
    w.order g = (w.rw.sets.map LinkedSet.toList).getD g [] := by
  simp only [SWorld.order, RWorld.setOf, List.getD, List.getElem?_map]
  cases w.rw.sets[g]? with
  | none => simp [toList_empty]
  | some s => rfl

/-- one write, on sequences -/
def absWrite (A : List (List Nat)) (p : Nat × List Nat) : List (List Nat) :=
  A.set p.1 (relink (A.getD p.1 []) p.2)

theorem abs_applyWrite {w : SWorld} (hw : WorldWF w.rw) (p : Nat × List Nat) :
    (applyWrite w p).rw.sets.map LinkedSet.toList = absWrite (w.rw.sets.map LinkedSet.toList) p := by
  simp only [applyWrite, RWorld.applyAt, absWrite, List.map_set]
  congr 1
  rw [← order_eq_abs]
  exact (toList_extend_eq_relink (hw.setOf p.1) p.2)

theorem abs_applyWrites {w : SWorld} (hw : WorldWF w.rw) (ws : List (Nat × List Nat)) :
    (applyWrites w ws).rw.sets.map LinkedSet.toList =
      ws.foldl absWrite (w.rw.sets.map LinkedSet.toList) := by
  induction ws generalizing w with
  | nil => rfl
  | cons p ps ih =>
    simp only [applyWrites, List.foldl_cons] at *
    rw [ih (worldWF_applyWrite hw p), abs_applyWrite hw p]

/-- the keys of `sorted_nodes_by_graph` are graphs of the tree -/
theorem sortKeys_sub {t : MGraph} {k : Nat} (hk : k ∈ sortKeys (nodesOf t)) :
    k ∈ gidsOf (allGraphs t) := by
  obtain ⟨e, he, rfl⟩ := List.mem_map.1 (mem_firsts.1 hk)
  obtain ⟨h, hh, x, _, rfl⟩ := ent_is_node_root he
  exact List.mem_map.2 ⟨h, hh, rfl⟩

/-- a graph of the tree that owns a node is a key -/
theorem sortKeys_of_node {t h : MGraph} (hh : h ∈ allGraphs t) {x : MNode} (hx : x ∈ h.2) :
    h.1 ∈ sortKeys (nodesOf t) := by
  apply mem_firsts.2
  exact List.mem_map.2 ⟨entOf h.1 x, (node_infix hh hx).subset (entOf_mem_entsN _ _), rfl⟩

theorem order_applyWrite {w : SWorld} (hw : LinkedSet.WorldWF w.rw) (p : Nat × List Nat) (k : Nat) :
    (applyWrite w p).order k =
      if k = p.1 ∧ p.1 < w.rw.sets.length then relink (w.order k) p.2 else w.order k := by
  rw [order_eq_abs, abs_applyWrite hw, order_eq_abs]
  simp only [absWrite, List.getD_eq_getElem?_getD, List.getElem?_set, List.length_map]
  by_cases h1 : p.1 = k
  · subst h1
    by_cases h2 : p.1 < w.rw.sets.length
    · simp [h2]
    · simp [h2]
  · have h1' : ¬ k = p.1 := fun h => h1 h.symm
    simp [h1, h1']

theorem sortW_cases (w : SWorld) (order : List Nat) (g : Nat) :
    (unfoldG w w.fuel g = none ∧ sortW w order g = ⟨.recursionError, w, []⟩) ∨
    (∃ t, unfoldG w w.fuel g = some t ∧ sortModel t = none ∧ sortW w order g = ⟨.valueError, w, []⟩) ∨
    (∃ t, unfoldG w w.fuel g = some t ∧ sortModel t ≠ none ∧ sortW w order g =
      ⟨.ok, applyWrites w (order.map fun k => (k, bucket (nodesOf t) (kahn (nodesOf t).length (predsAt (nodesOf t))) k)),
        order.map fun k => (k, bucket (nodesOf t) (kahn (nodesOf t).length (predsAt (nodesOf t))) k)⟩) := by
  unfold sortW sortModel
  cases unfoldG w w.fuel g with
  | none => exact Or.inl ⟨rfl, rfl⟩
  | some t =>
    refine Or.inr ?_
    by_cases h1 : sharedGraph (nodesOf t) = true
    · exact Or.inl ⟨t, rfl, by simp [h1], by simp [h1]⟩
    · by_cases h2 : ((kahn (nodesOf t).length (predsAt (nodesOf t))).length != (nodesOf t).length) = true
      · exact Or.inl ⟨t, rfl, by simp [h1, h2], by simp [h1, h2]⟩
      · exact Or.inr ⟨t, rfl, by simp [h1, h2], by simp [h1, h2]⟩

theorem sortW_world (w : SWorld) (order : List Nat) (g : Nat) :
    (sortW w order g).world = applyWrites w (sortW w order g).trace := by
  rcases sortW_cases w order g with ⟨_, h⟩ | ⟨_, _, _, h⟩ | ⟨_, _, _, h⟩ <;> rw [h] <;> rfl

end IrVerif.Sort
