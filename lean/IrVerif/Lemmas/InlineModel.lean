/-
Lemmas/InlineModel.lean — the run of the InlinePass model on a valid model, as the property theorems of C05 use it:
what `validF` gives (`ValidF`), the main graph (`mainRun`, `inline_main_sound`, `inline_main_run`) and the loop over the
functions at the state the main graph leaves (`inline_loop`); together `inline_sound_at`.
-/
import IrVerif.Lemmas.InlineFuncs
import IrVerif.Lemmas.InlineDepth
import IrVerif.Lemmas.InlineUnused
import IrVerif.Lemmas.SemOutputFix
namespace IrVerif.Inline
open IrVerif.Sem IrVerif.Passes

structure ValidF (m : FModel) : Prop where
  noident : findFunc m.funcs identityOp = none
  graph : validG (eraseG m.graph) = true
  funcs : ∀ f ∈ m.funcs, validG (eraseG f.graph) = true
  nodup : (m.funcs.map (·.id)).Nodup
  depth : ∀ f ∈ m.funcs, lvl m.funcs m.funcs.length f.id = true
  callsG : callsOKG m.funcs m.graph = true
  callsF : ∀ f ∈ m.funcs, callsOKNodes m.funcs f.nodes = true
  bodies : ∀ f ∈ m.funcs, opsAllNodes (fun op => !isStochasticOp op) f.nodes = true ∧ subInitsOKNodes f.nodes = true

theorem ValidF.of {m : FModel} (hv : validF m = true) : ValidF m := by
  simp only [validF, Bool.and_eq_true, List.all_eq_true, decide_eq_true_eq, Option.isNone_iff_eq_none] at hv
  obtain ⟨⟨⟨⟨⟨⟨hid, hvm⟩, hnd⟩, hl⟩, hcg⟩, hcf⟩, hfb⟩ := hv
  simp only [validModel, eraseModel, Bool.and_eq_true, List.all_eq_true, List.mem_map, forall_exists_index,
    and_imp, forall_apply_eq_imp_iff₂] at hvm
  exact ⟨hid, hvm.1, hvm.2, hnd, hl, hcg, hcf, hfb⟩

theorem depthOK_of_valid {m : FModel} (V : ValidF m) : depthOK m.funcs.length m.funcs = true := by
  simp only [depthOK, List.all_eq_true]; exact V.depth

theorem ValidF.closedF {m : FModel} (V : ValidF m) {f : Func} (hf : f ∈ m.funcs) :
    closedNodes (eraseNodes f.nodes) = true := by
  have := ((validG_iff _).1 (V.funcs f hf)).2.1
  simp only [Func.graph, eraseG, closedG, Bool.and_eq_true] at this
  exact this.2

theorem ValidF.bound {m : FModel} {f : Func} (hf : f ∈ m.funcs) (v : VId)
    (hv : v ∈ refsG (eraseG f.graph) ∨ v ∈ defsG (eraseG f.graph)) : v < freshF m := by
  refine lt_freshId_of_mem (eraseModel m) ?_
  have hfm : eraseG f.graph ∈ (eraseModel m).funcs := List.mem_map.2 ⟨f, hf, rfl⟩
  simp only [List.mem_append]
  rcases hv with h | h
  · exact Or.inl (Or.inr (mem_refsBodies_of_mem hfm h))
  · exact Or.inr (mem_defsBodies_of_mem hfm h)

theorem tblOK_of_valid {m : FModel} (V : ValidF m) {Val : Type} (I : Interp Val) (k d : Nat)
    (hk : ∀ f ∈ m.funcs, lvl m.funcs k f.id = true) (hkd : k ≤ d) : TblOK I (fenv I m.funcs d) m.funcs :=
  ⟨fun _ _ hf => fenv_unfold I m.funcs k hk hkd hf, fun _ f hf => (V.bodies f (findFunc_some hf).1).1,
    fun _ f hf => (V.bodies f (findFunc_some hf).1).2, fun _ _ hf => V.closedF (findFunc_some hf).1,
    fun _ f hf => V.callsF f (findFunc_some hf).1, V.noident, fenv_none I m.funcs d V.noident⟩

theorem inlineRun_funcs (crit : OpId → Bool) (m : FModel) : (inlineRun crit m).model.funcs =
    (inlineRun crit m).tbl.filter (fun f => !(inlineRun crit m).st.inlined.contains f.id) := rfl

theorem inlineModel_pos {crit : OpId → Bool} {m : FModel} (h : runOK crit m = true) :
    inlineModel crit m = (inlineRun crit m).model := by
  unfold inlineModel; rw [if_pos h]

theorem inlineModel_neg {crit : OpId → Bool} {m : FModel} (h : ¬runOK crit m = true) : inlineModel crit m = m := by
  unfold inlineModel; rw [if_neg h]

theorem inlNodes_outs_length (tbl : List Func) (crit : OpId → Bool) (deeper : Deeper) :
    ∀ (ns : List FNode) (st : ISt) (σ : Subst) (outs : List VId),
    (inlNodes tbl crit deeper st σ outs ns).outs.length = outs.length
  | [], _, _, _ => by simp only [inlNodes]
  | .mk op attrs ins nouts bodies :: ns, st, σ, outs => by
    simp only [inlNodes]
    split <;> simp only [inlNodes_outs_length tbl crit deeper ns, List.length_map]

theorem inlG_outputs_length (tbl : List Func) (crit : OpId → Bool) (deeper : Deeper) (st : ISt) (σ : Subst) (g : FGraph) :
    (inlG tbl crit deeper st σ g).2.outputs.length = g.outputs.length := by
  cases g with
  | mk inputs outputs inits nodes => simp only [inlG, FGraph.outputs, inlNodes_outs_length]

/-- `_inline_calls_in` on the main graph of a valid model (any criteria, nested calls to any depth) -/
theorem inline_main_sound (crit : OpId → Bool) {m : FModel} (V : ValidF m) (k : Nat)
    (hk : ∀ f ∈ m.funcs, lvl m.funcs k f.id = true) :
    (∀ (Val : Type) (I : Interp Val) (d : Nat), k ≤ d →
      evalGF I (fenv I m.funcs d) [] m.graph Env.empty = evalGF I (fenv I m.funcs d) [] (mainRun crit m).2 Env.empty) ∧
    (mainRun crit m).2.outputs.length = m.graph.outputs.length ∧ freshF m ≤ (mainRun crit m).1.next := by
  have hvg := (validG_iff _).1 V.graph
  have hbound : ∀ v, (v ∈ refsG (eraseG m.graph) ∨ v ∈ defsG (eraseG m.graph)) → v < freshF m := by
    intro v hv
    refine lt_freshId_of_mem (eraseModel m) ?_
    simp only [eraseModel, List.mem_append]
    rcases hv with h | h
    · exact Or.inl (Or.inl (Or.inl h))
    · exact Or.inl (Or.inl (Or.inr h))
  have key := fun (Val : Type) (I : Interp Val) (d : Nat) (hd : k ≤ d) =>
    (inl_sound I (fenv I m.funcs d) [] m.funcs crit (inlAt m.funcs crit m.funcs.length) (freshF m)
      (tblOK_of_valid V I k d hk hd) (deepOK_inlAt I _ [] m.funcs crit (tblOK_of_valid V I k d hk hd) m.funcs.length)).1
      ⟨freshF m, [], 0, false, false⟩ [] m.graph Env.empty Env.empty (fun v _ => by rw [Subst.app_nil])
      (fun p hp => by simp at hp) hvg.1 hvg.2.1 hvg.2.2.1 (fun v hv => hbound v (Or.inl hv))
      (fun v hv => hbound v (Or.inr hv)) (Nat.le_refl _) (fun p hp => by simp at hp) V.callsG
  -- the counter does not depend on the interpretation: read it off at a trivial one
  exact ⟨fun Val I d hd => (key Val I d hd).1, inlG_outputs_length _ _ _ _ _ _,
    (key Unit ⟨fun _ _ _ _ _ => [], fun _ => ()⟩ k (Nat.le_refl _)).2.1⟩

theorem inlG_inputs_inits (tbl : List Func) (crit : OpId → Bool) (deeper : Deeper) (st : ISt) (σ : Subst) (g : FGraph) :
    (inlG tbl crit deeper st σ g).2.inputs = g.inputs ∧ (inlG tbl crit deeper st σ g).2.inits = g.inits := by
  cases g with
  | mk inputs outputs inits nodes => simp [inlG, FGraph.inputs, FGraph.inits]

theorem inline_main_run (crit : OpId → Bool) {m : FModel} (V : ValidF m) :
    (mainRun crit m).1.stuck = false ∧ opsAllG (notAcc m.funcs crit) (mainRun crit m).2 = true ∧
    (∀ op ∈ (mainRun crit m).1.inlined, crit op = true) := by
  have hall : opsAllG (lvl m.funcs (m.funcs.length + 1)) m.graph = true :=
    opsAllG_mono (p := fun _ => true) (fun op _ => lvl_mono m.funcs _ op (lvl_of_funcs V.depth op)) m.graph
      (opsAllG_true m.graph)
  have hlt := lvlTbl_ht (lvlTbl_self m.funcs V.nodup)
  obtain ⟨a, b, c, _⟩ := (inl_lvl m.funcs m.funcs crit (inlAt m.funcs crit m.funcs.length) m.funcs.length V.noident
    (hlt m.funcs.length)
    (deepL_inlAt m.funcs m.funcs crit V.noident (fun _ => rfl) hlt m.funcs.length m.funcs.length (Nat.le_refl _))).1
    ⟨freshF m, [], 0, false, false⟩ [] m.graph hall
  refine ⟨a, b, fun op hop => ?_⟩
  rcases c op hop with h | h
  · simp at h
  · exact h

/-- `inlFuncs_den` at the state the main graph leaves -/
theorem inline_loop (crit : OpId → Bool) {m : FModel} (V : ValidF m) {Val : Type} (I : Interp Val) (k d : Nat)
    (hk : ∀ f ∈ m.funcs, lvl m.funcs k f.id = true) (hd : k ≤ d) :
    DenOK I (fenv I m.funcs d) (inlineRun crit m).tbl ∧
    LoopOut m.funcs crit (mainRun crit m).1 ((inlineRun crit m).st, (inlineRun crit m).tbl) := by
  have ht := tblOK_of_valid V I k d hk hd
  have ctx : LoopCtx (fenv I m.funcs d) m.funcs (freshF m) := by
    refine ⟨V.nodup, ht.noidentΦ, V.noident, fun f hf => ?_⟩
    have hvf := (validG_iff _).1 (V.funcs f hf)
    have hs := hvf.1
    have hfw := hvf.2.2.1
    simp only [Func.graph, eraseG, ssaG, Bool.and_eq_true] at hs
    simp only [Func.graph, eraseG, noFwdG] at hfw
    refine ⟨hs.2, hfw, fun v hv => ?_, fun v hv => ?_, fun v hv => ?_⟩
    · exact ValidF.bound hf v (Or.inl (by simp only [Func.graph, eraseG, refsG, List.mem_append]; exact Or.inr hv))
    · exact ValidF.bound hf v (Or.inr (by simp only [Func.graph, eraseG, defsG, List.mem_append]; exact Or.inr hv))
    · exact ValidF.bound hf v (Or.inl (by simp only [Func.graph, eraseG, refsG, List.mem_append]; exact Or.inl hv))
  exact inlFuncs_den ctx crit m.funcs.length V.depth (m.funcs.map (·.id)) (mainRun crit m).1 m.funcs V.nodup
    (SigEq.refl _) (inline_main_sound crit V m.funcs.length V.depth).2.2 (fun g hg _ => hg) ht.den
    { syn := fun f hf => ⟨⟨(V.bodies f hf).1, (V.bodies f hf).2, V.callsF f hf⟩, V.closedF hf⟩
      lvl := lvlTbl_self m.funcs V.nodup
      inlined := (inline_main_run crit V).2.2
      done := fun g hg h => absurd (List.mem_map.2 ⟨g, hg, rfl⟩) h }

/-- what the loop leaves apart from the denotations: it does not depend on the interpretation, so it is read off at a
    trivial one -/
theorem inline_loop_syn (crit : OpId → Bool) {m : FModel} (V : ValidF m) :
    LoopOut m.funcs crit (mainRun crit m).1 ((inlineRun crit m).st, (inlineRun crit m).tbl) :=
  (inline_loop crit V (⟨fun _ _ _ _ _ => [], fun _ => ()⟩ : Interp Unit) _ _ V.depth (Nat.le_refl _)).2

theorem kept_of_notAcc (crit : OpId → Bool) {m : FModel} (V : ValidF m) (op : OpId)
    (h : notAcc m.funcs crit op = true) :
    ((findFunc m.funcs op).isNone || !(inlineRun crit m).st.inlined.contains op) = true := by
  simp only [notAcc, Bool.not_eq_true', Bool.and_eq_false_iff] at h
  simp only [Bool.or_eq_true, Bool.not_eq_true', Option.isNone_iff_eq_none]
  rcases h with h | h
  · right
    cases hc : (inlineRun crit m).st.inlined.contains op with
    | false => rfl
    | true => rw [(inline_loop_syn crit V).inlined op (by simpa using hc)] at h; cases h
  · left
    cases hf : findFunc m.funcs op with
    | none => rfl
    | some f => rw [hf] at h; cases h

theorem inlineRun_kept (crit : OpId → Bool) {m : FModel} (V : ValidF m) :
    ∀ g ∈ (inlineRun crit m).model.funcs,
      opsAllNodes (fun op => (findFunc m.funcs op).isNone || !(inlineRun crit m).st.inlined.contains op) g.nodes = true := by
  intro g hg
  rw [inlineRun_funcs] at hg
  obtain ⟨hgm, hk⟩ := List.mem_filter.1 hg
  rcases (inline_loop_syn crit V).done g hgm List.not_mem_nil with h | h
  · simp only [Bool.not_eq_true', List.contains_eq_mem, decide_eq_false_iff_not] at hk
    exact absurd h hk
  · exact opsAllNodes_mono (kept_of_notAcc crit V) _ h

theorem inlineRun_lvl (crit : OpId → Bool) {m : FModel} (V : ValidF m) (j : Nat) (op : OpId)
    (h : lvl m.funcs j op = true) : lvl (inlineRun crit m).model.funcs j op = true := by
  refine lvl_result m.funcs _ (fun op hn => ?_) (fun op g' hf' j hj => ?_) j op h
  · rw [inlineRun_funcs]
    exact findFunc_filter_none _ _ (findFunc_none_of_ids (inlineRun_ids crit m) hn)
  · obtain ⟨hm', hid'⟩ := findFunc_some hf'
    rw [inlineRun_funcs] at hm'
    exact (inline_loop_syn crit V).lvl g' (List.mem_filter.1 hm').1 j (hid' ▸ hj)

theorem findFunc_kept (crit : OpId → Bool) (m : FModel) {op : OpId}
    (h : (!(inlineRun crit m).st.inlined.contains op) = true) :
    findFunc (inlineRun crit m).model.funcs op = findFunc (inlineRun crit m).tbl op := by
  rw [inlineRun_funcs]
  exact findFunc_filter _ (fun o => !(inlineRun crit m).st.inlined.contains o) op (Or.inl h)

/-- InlinePass at any unrolling depth `k` that covers the call trees of the model -/
theorem inline_sound_at (crit : OpId → Bool) (m : FModel) (hv : validF m = true) (k : Nat)
    (hk : ∀ f ∈ m.funcs, lvl m.funcs k f.id = true) :
    (∀ (Val : Type) (I : Interp Val) (d : Nat), k ≤ d → ∀ xs : List Val,
      denoteAt d I (inlineModel crit m) xs = denoteAt d I m xs) ∧
    (inlineModel crit m).graph.outputs.length = m.graph.outputs.length ∧
    (inlineModel crit m).graph.inputs = m.graph.inputs ∧ (inlineModel crit m).graph.inits = m.graph.inits := by
  have V := ValidF.of hv
  obtain ⟨hsound, hlen, _⟩ := inline_main_sound crit V k hk
  by_cases hfall : runOK crit m = true
  · rw [inlineModel_pos hfall, inlineRun_graph]
    simp only [runOK, Bool.and_eq_true] at hfall
    obtain ⟨⟨⟨⟨_, hdang⟩, _⟩, _⟩, _⟩ := hfall
    simp only [noDangling, Bool.and_eq_true, List.all_eq_true] at hdang
    refine ⟨fun Val I d hd xs => ?_, hlen, (inlG_inputs_inits _ _ _ _ _ _).1, (inlG_inputs_inits _ _ _ _ _ _).2⟩
    simp only [denoteAt]
    rw [hsound Val I d hd, ← inlineRun_graph]
    have hdenfin := (inline_loop crit V I k d hk hd).1
    -- the function environment of the result
    have hres := fenv_result I (inlineRun crit m).model.funcs (fenv I m.funcs d)
      (fun op => (findFunc m.funcs op).isNone || !(inlineRun crit m).st.inlined.contains op)
      (fun op f' hf' => by
        have hk : (!(inlineRun crit m).st.inlined.contains op) = true := by
          obtain ⟨hmem, hfid⟩ := findFunc_some hf'
          rw [inlineRun_funcs] at hmem
          rw [← hfid]; exact (List.mem_filter.1 hmem).2
        rw [findFunc_kept crit m hk] at hf'
        exact hdenfin op f' hf')
      (fun op hnone hok => by
        simp only [Bool.or_eq_true, Option.isNone_iff_eq_none] at hok
        rcases hok with h | h
        · exact fenv_none I m.funcs d h
        · rw [findFunc_kept crit m h] at hnone
          exact fenv_none I m.funcs d (findFunc_none_of_ids (inlineRun_ids crit m).symm hnone))
      (fun f' hf' => hdang.2 f' hf')
    refine congrFun (evalGF_congrΦ I _ _ _ (fun op hop => ?_) [] _ Env.empty hdang.1) xs
    exact hres d op hop (lvl_mono_le _ hd op (inlineRun_lvl crit V k op (lvl_of_funcs hk op)))
  · rw [inlineModel_neg hfall]
    exact ⟨fun _ _ _ _ _ => rfl, rfl, rfl, rfl⟩

end IrVerif.Inline
