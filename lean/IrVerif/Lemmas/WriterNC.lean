/-
C09: the writer without a callback (`Model/WriterNC.lean`) refines the general model — every macro step is a non-empty
run of model steps — and has the same enabled labels as the model (`enabledNC_iff`).
-/
import IrVerif.Lemmas.WriterNLive
import IrVerif.Model.WriterNC
namespace IrVerif.WriterN

theorem fuse_run {cfg : Cfg} {i : Nat} : ∀ (k : Nat) {s s' : State}, fuse cfg i k s = some s' →
    ∃ m, run cfg s (List.replicate m (.task i)) = some s'
  | 0, s, s', h => by simp [fuse] at h; subst h; exact ⟨0, rfl⟩
  | k + 1, s, s', h => by
      simp only [fuse] at h
      split at h
      · split at h
        · cases hst : step cfg s (.task i) with
          | none => rw [hst] at h; simp at h
          | some s1 =>
              rw [hst] at h; simp only [Option.bind_some] at h
              obtain ⟨m, hm⟩ := fuse_run k h
              refine ⟨m + 1, ?_⟩
              simp only [List.replicate_succ, run, hst]; exact hm
        · simp at h; subst h; exact ⟨0, rfl⟩
      · simp at h; subst h; exact ⟨0, rfl⟩

theorem stepNC_run {cfg : Cfg} {s s' : State} {l : Label} (h : stepNC cfg s l = some s') :
    ∃ ls, ls ≠ [] ∧ run cfg s ls = some s' := by
  have one : ∀ {l' : Label}, step cfg s l' = some s' → ∃ ls, ls ≠ [] ∧ run cfg s ls = some s' := by
    intro l' h'; exact ⟨[l'], by simp, by simp [run, h']⟩
  cases l with
  | owner q c => exact one (l' := .owner q c) h
  | take q => exact one (l' := .take q) h
  | exit q => exact one (l' := .exit q) h
  | task i =>
      -- one model step, then `k` more fused ones
      have go : ∀ (k : Nat) {s1 : State}, step cfg s (.task i) = some s1 → fuse cfg i k s1 = some s' →
          ∃ ls, ls ≠ [] ∧ run cfg s ls = some s' := by
        intro k s1 hst hk
        obtain ⟨m, hm⟩ := fuse_run k hk
        exact ⟨.task i :: List.replicate m (.task i), by simp, by simp only [run, hst]; exact hm⟩
      simp only [stepNC] at h
      split at h
      · -- tAcq
        cases hst : step cfg s (.task i) with
        | none => rw [hst] at h; simp at h
        | some s1 =>
            rw [hst] at h; simp only [Option.bind_some] at h
            split at h
            · simp at h; subst h; exact one hst
            · exact go 3 hst h
      · -- cbAcqIn
        rename_i hp
        simp only [fuse, hp, isCbPc, if_true] at h
        cases hst : step cfg s (.task i) with
        | none => rw [hst] at h; simp at h
        | some s1 => rw [hst] at h; exact go 2 hst h
      · -- cbAcq
        rename_i hp
        simp only [fuse, hp, isCbPc, if_true] at h
        cases hst : step cfg s (.task i) with
        | none => rw [hst] at h; simp at h
        | some s1 => rw [hst] at h; exact go 2 hst h
      · simp at h
      · exact one h

theorem reachableNC_reachable {cfg : Cfg} {s : State} (h : ReachableNC cfg s) : Reachable cfg s := by
  induction h with
  | init => exact .init
  | step l _ hst ih =>
      obtain ⟨ls, _, hr⟩ := stepNC_run hst
      exact reachable_of_run ls ih hr

theorem runNC_run {cfg : Cfg} : ∀ (ls : List Label) {s s' : State}, runNC cfg s ls = some s' →
    ∃ ls', ls.length ≤ ls'.length ∧ run cfg s ls' = some s'
  | [], s, s', h => by simp [runNC] at h; subst h; exact ⟨[], by simp, rfl⟩
  | l :: ls, s, s', h => by
      simp only [runNC] at h
      split at h
      · simp at h
      · rename_i s1 hs1
        obtain ⟨l1, hne, h1⟩ := stepNC_run hs1
        obtain ⟨l2, hlen, h2⟩ := runNC_run ls h
        refine ⟨l1 ++ l2, ?_, run_append l1 l2 h1 h2⟩
        have : 0 < l1.length := List.length_pos_iff.2 hne
        simp only [List.length_cons, List.length_append]; omega

/-! ### at the synchronisation points of the writer without a callback no callback lock is held -/

/-- program counters a task can be observed at -/
def goodPc (cfg : Cfg) (i : Nat) (p : Pc) : Prop :=
  p ≠ .cbBody ∧ (p = .cbAcqIn → (cfg.pool (cfg.poolOf i)).innerCb = true)

structure NCInv (cfg : Cfg) (s : State) : Prop where
  cb : s.cbLock = false
  cbin : ∀ q, s.cbIn.getD q false = false
  good : ∀ i p, s.tasks[i]? = some p → goodPc cfg i p

theorem NCInv_init (cfg : Cfg) : NCInv cfg (init cfg) := by
  refine ⟨rfl, fun q => ?_, fun i p h => ?_⟩
  · simp only [init, List.getD_eq_getElem?_getD, List.getElem?_replicate]; split <;> rfl
  · simp only [init, List.getElem?_replicate] at h
    split at h
    · simp at h; subst h; exact ⟨by simp, by simp⟩
    · simp at h

theorem getD_set_false {l : List Bool} (h : ∀ q, l.getD q false = false) (a q : Nat) :
    (l.set a false).getD q false = false := by
  rw [getD_set]; split
  · rfl
  · exact h q

theorem good_set {cfg : Cfg} {ts : List Pc} {i : Nat} {x : Pc} (hx : goodPc cfg i x)
    (h : ∀ k p, ts[k]? = some p → goodPc cfg k p) : ∀ k p, (ts.set i x)[k]? = some p → goodPc cfg k p := by
  intro k p hk
  simp only [List.getElem?_set] at hk
  split at hk
  · rename_i e; subst e
    split at hk
    · simp at hk; subst hk; exact hx
    · simp at hk
  · exact h k p hk

theorem good_plain {cfg : Cfg} {i : Nat} {x : Pc} (h1 : x ≠ .cbBody) (h2 : x ≠ .cbAcqIn) :
    goodPc cfg i x := ⟨h1, fun e => absurd e h2⟩

theorem finishTask_good {cfg : Cfg} {s : State} {i : Nat} {ok : Bool}
    (h : ∀ k p, s.tasks[k]? = some p → goodPc cfg k p) :
    ∀ k p, (finishTask cfg s i ok).tasks[k]? = some p → goodPc cfg k p := by
  unfold finishTask
  split
  · exact good_set (good_plain (by simp [firstPc]) (by simp [firstPc]))
      (good_set (good_plain (by simp) (by simp)) h)
  · exact good_set (good_plain (by simp) (by simp)) h

theorem finishTask_cb (cfg : Cfg) (s : State) (i : Nat) (ok : Bool) :
    (finishTask cfg s i ok).cbLock = s.cbLock ∧ (finishTask cfg s i ok).cbIn = s.cbIn := by
  unfold finishTask; split <;> exact ⟨rfl, rfl⟩

theorem NCInv_step_other {cfg : Cfg} {s s' : State} {l : Label} (hI : NCInv cfg s)
    (hst : StepRel cfg s l s')
    (hl : ∀ i, l = .task i → s.tasks[i]? ≠ some .tAcq ∧ s.tasks[i]? ≠ some .cbAcqIn ∧
      s.tasks[i]? ≠ some .cbAcq) : NCInv cfg s' := by
  cases hst with
  | submit q c k j P hP hk hj => exact ⟨hI.cb, hI.cbin, hI.good⟩
  | collect q c j ok P hP hm hjj hf =>
      rcases collectOne_cases cfg s q P j ok with ⟨_, _, e⟩ | ⟨_, _, e⟩ | ⟨_, _, e⟩ | ⟨_, _, e⟩ <;> rw [e] <;>
        exact ⟨hI.cb, hI.cbin, hI.good⟩
  | joinRoot q c e P hP hm hex hpar => exact ⟨hI.cb, hI.cbin, hI.good⟩
  | joinSub q c e P jp hP hm hex hpar => exact ⟨hI.cb, hI.cbin, hI.good⟩
  | takeSerial q j rest P hP hq hidle hsub =>
      exact ⟨hI.cb, hI.cbin, good_set (good_plain (by simp [firstPc]) (by simp [firstPc])) hI.good⟩
  | takeSub q j rest P q' hP hq hidle hsub => exact ⟨hI.cb, hI.cbin, hI.good⟩
  | exit q P hP hq hsd hidle => exact ⟨hI.cb, hI.cbin, hI.good⟩
  | cbAcqIn i hi hlk => exact absurd hi (hl i rfl).2.1
  | cbAcq i hi hlk => exact absurd hi (hl i rfl).2.2
  | cbFail i hi hf => exact absurd rfl (hI.good i _ hi).1
  | cbOk i hi hf => exact absurd rfl (hI.good i _ hi).1
  | tAcq i hi hlk => exact absurd hi (hl i rfl).1
  | bTry i p hi hp =>
      rcases budgetTry_cases cfg s i with ⟨_, _, e⟩ | ⟨_, _, e⟩ | ⟨_, _, e⟩ | ⟨_, _, e⟩ <;> rw [e] <;>
        exact ⟨hI.cb, hI.cbin, good_set (good_plain (by simp) (by simp)) hI.good⟩
  | writeFail i hi hf => exact ⟨hI.cb, hI.cbin, good_set (good_plain (by simp) (by simp)) hI.good⟩
  | writeOk i hi hf => exact ⟨hI.cb, hI.cbin, good_set (good_plain (by simp) (by simp)) hI.good⟩
  | bRel i ok hi =>
      unfold budgetRelease
      have hw : ∀ k p, (s.tasks.map wake)[k]? = some p → goodPc cfg k p := by
        intro k p hk
        simp only [List.getElem?_map, Option.map_eq_some_iff] at hk
        obtain ⟨p0, hp0, rfl⟩ := hk
        -- `wake` moves only `waiting`, and moves it to `woken`
        by_cases e : p0 = .waiting
        · subst e; exact good_plain (x := .woken) nofun nofun
        · have hw : wake p0 = p0 := by
            cases p0 with
            | waiting => exact absurd rfl e
            | _ => rfl
          rw [hw]; exact hI.good k p0 hp0
      refine ⟨?_, ?_, finishTask_good hw⟩
      · rw [(finishTask_cb cfg _ i ok).1]; exact hI.cb
      · rw [(finishTask_cb cfg _ i ok).2]; exact hI.cbin

theorem cbFails_false {cfg : Cfg} (hnc : ncb cfg = true) (i : Nat) : cfg.cbFails i = false := by
  by_cases h : i < cfg.n
  · simp only [ncb, List.all_eq_true, List.mem_range] at hnc
    simpa using hnc i h
  · simp only [Cfg.cbFails, Cfg.n] at h ⊢
    simp [List.getD_eq_getElem?_getD, List.getElem?_eq_none (Nat.le_of_not_gt h)]
    rfl

theorem fuse_stop {cfg : Cfg} {i : Nat} {s : State} {p : Pc} (hi : s.tasks[i]? = some p)
    (hp : isCbPc p = false) (k : Nat) : fuse cfg i k s = some s := by
  cases k with
  | zero => rfl
  | succ k => simp [fuse, hi, hp]

theorem fuse_body {cfg : Cfg} (hnc : ncb cfg = true) {i : Nat} {t : State}
    (hi : t.tasks[i]? = some .cbBody) (k : Nat) : fuse cfg i (k + 1) t = some (cbDone cfg t i) := by
  have hlt := getElem?_lt hi
  have h1 : step cfg t (.task i) = some (cbDone cfg t i) := by
    simp [step, stepTask, hi, cbFails_false hnc i, cbDone]
  simp only [fuse, hi, isCbPc, if_true, h1, Option.bind_some]
  exact fuse_stop (p := .bAcq) (by simp [cbDone, hlt]) rfl k

theorem fuse_acq {cfg : Cfg} (hnc : ncb cfg = true) {i : Nat} {t : State}
    (hi : t.tasks[i]? = some .cbAcq) (hcb : t.cbLock = false) (k : Nat) :
    fuse cfg i (k + 2) t =
      some (cbDone cfg { t with cbLock := true, tasks := t.tasks.set i .cbBody } i) := by
  have hlt := getElem?_lt hi
  have h1 : step cfg t (.task i) = some { t with cbLock := true, tasks := t.tasks.set i .cbBody } := by
    simp [step, stepTask, hi, hcb]
  simp only [fuse, hi, isCbPc, if_true, h1, Option.bind_some]
  exact fuse_body hnc (t := { t with cbLock := true, tasks := t.tasks.set i .cbBody })
    (by show (t.tasks.set i Pc.cbBody)[i]? = some Pc.cbBody; simp [hlt]) k

theorem fuse_acqIn {cfg : Cfg} (hnc : ncb cfg = true) {i : Nat} {t : State}
    (hi : t.tasks[i]? = some .cbAcqIn) (hin : t.cbIn.getD (cfg.poolOf i) false = false)
    (hcb : t.cbLock = false) (k : Nat) :
    fuse cfg i (k + 3) t =
      some (cbDone cfg { t with cbIn := t.cbIn.set (cfg.poolOf i) true, cbLock := true
                                tasks := (t.tasks.set i .cbAcq).set i .cbBody } i) := by
  have hlt := getElem?_lt hi
  have h1 : step cfg t (.task i) =
      some { t with cbIn := t.cbIn.set (cfg.poolOf i) true, tasks := t.tasks.set i .cbAcq } := by
    have hin' : t.cbIn[cfg.poolOf i]?.getD false = false := by simpa [List.getD_eq_getElem?_getD] using hin
    simp [step, stepTask, hi, hin']
  simp only [fuse, hi, isCbPc, if_true, h1, Option.bind_some]
  exact fuse_acq hnc (t := { t with cbIn := t.cbIn.set (cfg.poolOf i) true, tasks := t.tasks.set i .cbAcq })
    (by show (t.tasks.set i Pc.cbAcq)[i]? = some Pc.cbAcq; simp [hlt]) hcb k

theorem NCInv_cbDone {cfg : Cfg} {t : State} {i : Nat} (ts : List Pc)
    (hcbin : ∀ q, q ≠ cfg.poolOf i → t.cbIn.getD q false = false)
    (hown : (cfg.pool (cfg.poolOf i)).innerCb = false → t.cbIn.getD (cfg.poolOf i) false = false)
    (htasks : t.tasks.set i .bAcq = ts.set i .bAcq)
    (hgood : ∀ k p, ts[k]? = some p → goodPc cfg k p) : NCInv cfg (cbDone cfg t i) := by
  refine ⟨rfl, fun q => ?_, ?_⟩
  · simp only [cbDone]
    split
    · rw [getD_set]
      split
      · rfl
      · rename_i hq
        by_cases e : q = cfg.poolOf i
        · subst e
          simp only [true_and, Nat.not_lt] at hq
          simp [List.getD_eq_getElem?_getD, List.getElem?_eq_none hq]
        · exact hcbin q e
    · rename_i hic
      by_cases e : q = cfg.poolOf i
      · subst e; exact hown (by simpa using hic)
      · exact hcbin q e
  · simp only [cbDone, htasks]
    exact good_set (good_plain (by simp) (by simp)) hgood

def entered (cfg : Cfg) (s : State) (i : Nat) : State :=
  { s with tLocks := s.tLocks.set (cfg.obj i) true, tasks := s.tasks.set i (afterT cfg (cfg.poolOf i)) }

/-- the two conjuncts are the cases "not enabled" / "enabled" of the model's step -/
theorem stepNC_task {cfg : Cfg} (hnc : ncb cfg = true) {s : State} (hI : NCInv cfg s) (i : Nat) :
    (step cfg s (.task i) = none → stepNC cfg s (.task i) = none) ∧
    (∀ s1, step cfg s (.task i) = some s1 → ∃ s', stepNC cfg s (.task i) = some s' ∧ NCInv cfg s') := by
  cases hp : s.tasks[i]? with
  | none => simp [step, stepTask, stepNC, hp]
  | some p =>
    have hlt := getElem?_lt hp
    have other : p ≠ .tAcq → p ≠ .cbAcqIn → p ≠ .cbAcq → p ≠ .cbBody →
        stepNC cfg s (.task i) = step cfg s (.task i) := by
      -- `stepNC` has an arm of its own for these four program counters only
      intro h1 h2 h3 h4
      simp only [stepNC, hp]
      cases p with
      | tAcq => exact absurd rfl h1
      | cbAcqIn => exact absurd rfl h2
      | cbAcq => exact absurd rfl h3
      | cbBody => exact absurd rfl h4
      | _ => rfl
    by_cases e1 : p = .tAcq
    · subst e1
      by_cases hlk : s.tLocks.getD (cfg.obj i) false = true
      · have : step cfg s (.task i) = none := by
          simp only [step, stepTask, hp, hlk, if_true]
        simp [stepNC, hp, this]
      · have hlk' : s.tLocks.getD (cfg.obj i) false = false := by simpa using hlk
        have hst : step cfg s (.task i) = some (entered cfg s i) := by
          simp only [step, stepTask, hp, hlk', entered]; rfl
        refine ⟨fun h => by rw [hst] at h; simp at h, fun s1 h1 => ?_⟩
        simp only [stepNC, hp, hst, Option.bind_some]
        by_cases hic : (cfg.pool (cfg.poolOf i)).innerCb = true
        · have ha : afterT cfg (cfg.poolOf i) = .cbAcqIn := by simp [afterT, hic]
          have hti : (entered cfg s i).tasks[i]? = some .cbAcqIn := by
            show (s.tasks.set i (afterT cfg (cfg.poolOf i)))[i]? = _
            rw [ha]; simp [hlt]
          split
          · refine ⟨_, rfl, hI.cb, hI.cbin, ?_⟩
            show ∀ k p, (s.tasks.set i (afterT cfg (cfg.poolOf i)))[k]? = some p → goodPc cfg k p
            rw [ha]
            exact good_set ⟨by simp, fun _ => hic⟩ hI.good
          · refine ⟨_, fuse_acqIn hnc (k := 0) hti (hI.cbin _) hI.cb, ?_⟩
            refine NCInv_cbDone s.tasks (fun q hq => ?_) (fun h => by rw [hic] at h; simp at h)
              (by simp [entered]) hI.good
            show ((entered cfg s i).cbIn.set (cfg.poolOf i) true).getD q false = false
            rw [getD_set]; simp [hq]; exact hI.cbin q
        · have ha : afterT cfg (cfg.poolOf i) = .cbAcq := by simp [afterT, hic]
          have hti : (entered cfg s i).tasks[i]? = some .cbAcq := by
            show (s.tasks.set i (afterT cfg (cfg.poolOf i)))[i]? = _
            rw [ha]; simp [hlt]
          split
          · refine ⟨_, rfl, hI.cb, hI.cbin, ?_⟩
            show ∀ k p, (s.tasks.set i (afterT cfg (cfg.poolOf i)))[k]? = some p → goodPc cfg k p
            rw [ha]
            exact good_set (good_plain (by simp) (by simp)) hI.good
          · refine ⟨_, fuse_acq hnc (k := 1) hti hI.cb, ?_⟩
            exact NCInv_cbDone s.tasks (fun q _ => hI.cbin q) (fun _ => hI.cbin _) (by simp [entered]) hI.good
    · by_cases e2 : p = .cbAcqIn
      · subst e2
        have hic := (hI.good i _ hp).2 rfl
        have hf := fuse_acqIn hnc (k := 0) hp (hI.cbin _) hI.cb
        refine ⟨fun h => ?_, fun _ _ => ⟨_, by simp only [stepNC, hp]; exact hf, ?_⟩⟩
        · have hfree := hI.cbin (cfg.poolOf i)
          simp only [step, stepTask, hp, hfree] at h
          simp at h
        · refine NCInv_cbDone s.tasks (fun q hq => ?_) (fun h => by rw [hic] at h; simp at h)
            (by simp) hI.good
          simp only; rw [getD_set]; simp [hq]; exact hI.cbin q
      · by_cases e3 : p = .cbAcq
        · subst e3
          have hf := fuse_acq hnc (k := 1) hp hI.cb
          refine ⟨fun h => ?_, fun _ _ => ⟨_, by simp only [stepNC, hp]; exact hf, ?_⟩⟩
          · simp only [step, stepTask, hp, hI.cb] at h
            simp at h
          · exact NCInv_cbDone s.tasks (fun q _ => hI.cbin q) (fun _ => hI.cbin _) (by simp) hI.good
        · have e4 : p ≠ .cbBody := (hI.good i p hp).1
          rw [other e1 e2 e3 e4]
          refine ⟨id, fun s1 h1 => ⟨s1, h1, ?_⟩⟩
          refine NCInv_step_other hI (stepRel_of_step h1) (fun k hk => ?_)
          cases hk
          rw [hp]
          exact ⟨by simpa using e1, by simpa using e2, by simpa using e3⟩

theorem stepNC_other {cfg : Cfg} {s : State} {l : Label} (hl : ∀ i, l ≠ .task i) :
    stepNC cfg s l = step cfg s l := by
  cases l with
  | task i => exact absurd rfl (hl i)
  | _ => rfl

theorem NCInv_stepNC {cfg : Cfg} (hnc : ncb cfg = true) {s s' : State} {l : Label}
    (hI : NCInv cfg s) (hst : stepNC cfg s l = some s') : NCInv cfg s' := by
  by_cases hl : ∃ i, l = .task i
  · obtain ⟨i, rfl⟩ := hl
    obtain ⟨h0, h1⟩ := stepNC_task hnc hI i
    cases hs : step cfg s (.task i) with
    | none => rw [h0 hs] at hst; simp at hst
    | some s1 =>
        obtain ⟨s'', e, hI'⟩ := h1 s1 hs
        rw [e] at hst; cases hst; exact hI'
  · have hl' : ∀ i, l ≠ .task i := fun i e => hl ⟨i, e⟩
    rw [stepNC_other hl'] at hst
    refine NCInv_step_other hI (stepRel_of_step hst) (fun i e => absurd e (hl' i))

theorem reachableNC_NCInv {cfg : Cfg} (hnc : ncb cfg = true) {s : State} (h : ReachableNC cfg s) :
    NCInv cfg s := by
  induction h with
  | init => exact NCInv_init cfg
  | step l _ hst ih => exact NCInv_stepNC hnc ih hst

theorem enabledNC_iff {cfg : Cfg} (hnc : ncb cfg = true) {s : State} (hI : NCInv cfg s) (l : Label) :
    (stepNC cfg s l).isSome = (step cfg s l).isSome := by
  by_cases hl : ∃ i, l = .task i
  · obtain ⟨i, rfl⟩ := hl
    obtain ⟨h0, h1⟩ := stepNC_task hnc hI i
    cases hs : step cfg s (.task i) with
    | none => rw [h0 hs]
    | some s1 => obtain ⟨s'', e, _⟩ := h1 s1 hs; rw [e]; rfl
  · rw [stepNC_other (fun i e => hl ⟨i, e⟩)]

theorem reachableNC_of_runNC {cfg : Cfg} : ∀ (ls : List Label) {s s' : State}, ReachableNC cfg s →
    runNC cfg s ls = some s' → ReachableNC cfg s'
  | [], s, s', hr, h => by simp [runNC] at h; subst h; exact hr
  | l :: ls, s, s', hr, h => by
      simp only [runNC] at h
      split at h
      · simp at h
      · rename_i s1 hs1; exact reachableNC_of_runNC ls (.step l hr hs1) h

end IrVerif.WriterN
