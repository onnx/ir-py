/-
Kernel: the rejection reasons of C06 as decidable conditions on (world, call), and the histories with their
outcome lists (`outcomesAny`).  Used by `C06_rejects_*` / `C06_retry` in `Props/C06.lean`.  The histories from a given
world (`runFrom`, `runFrom_append`, `runFrom_WF`, `runAny_WF`) are also what `C01_history`, `C01_history_from`
(`Props/C01.lean`), `C14_wf_replay` (`Props/C14.lean`) and `KInv.call` (`Lemmas/PassKernel.lean`) stand on.
The rejection lemmas are about the validation half of a call: when the rejecting condition holds, `guardOp` returns
the world it was given.
-/
import IrVerif.Lemmas.KernelOps
namespace IrVerif.Kernel

/-- the place a call offers a value for: tracked graph inputs, tracked graph outputs, the initializer mapping -/
inductive Slot where
  | inp
  | out
  | init
  deriving DecidableEq, Repr

def Slot.ofKind : IOKind → Slot
  | .inp => .inp
  | .out => .out

def offeredIO (g : Nat) (k : IOKind) : IOMut → List (Nat × Slot × Nat)
  | .append v => [(g, .ofKind k, v)]
  | .extend vs => vs.map (fun v => (g, .ofKind k, v))
  | .insert _ v => [(g, .ofKind k, v)]
  | .setItem _ v => [(g, .ofKind k, v)]
  | .setSlice _ _ _ vs => vs.map (fun v => (g, .ofKind k, v))
  | _ => []

def offeredInit (w : World) (g : Nat) : InitMut → List (Nat × Slot × Nat)
  | .setItem _ v => [(g, .init, v)]
  | .add v => [(g, .init, v)]
  | .register v => [(g, .init, v)]
  | .setdefault key v => if (lookupInit (w.gr g).inits key).isSome then [] else [(g, .init, v)]
  | _ => []

/-- every (graph, slot, value) a single call offers for ownership: the mutators of the tracked input / output
lists, of the initializer mapping (`update` is not listed: its entries are checked by a dry run, `C06_atomic`),
`Graph(inputs, outputs, initializers=…)` (the graph being created is `w.graphs.length`; the initializers as the
dict the constructor builds), and `Value.replace_all_uses_with` on an output of graph `g` (the replacement
becomes an output of `g`) -/
def offered (w : World) : Op → List (Nat × Slot × Nat)
  | .io g k m => offeredIO g k m
  | .init g m => offeredInit w g m
  | .newGraph ins outs _ inits =>
    ins.map (fun v => (w.graphs.length, Slot.inp, v)) ++ outs.map (fun v => (w.graphs.length, Slot.out, v)) ++
      (initDict w inits).map (fun p => (w.graphs.length, Slot.init, p.2))
  | .rauw v r _ =>
    if (w.val v).isOut then
      match (w.val v).graph with
      | some g => [(g, Slot.out, r)]
      | none => []
    else []
  | _ => []

/-- `v` is owned by a graph other than `g` -/
def foreignTo (w : World) (g v : Nat) : Bool :=
  decide ((w.val v).graph ≠ none ∧ (w.val v).graph ≠ some g)

/-- `v` is the output of a node -/
def produced (w : World) (v : Nat) : Bool := decide ((w.val v).producer ≠ none)

/-- the ownership checks of the three slots (for the initializer mapping: the part of `initOK` that does not
depend on the key) -/
def slotOK (w : World) (g : Nat) : Slot → Nat → Bool
  | .inp, v => checkIO w g .inp v
  | .out, v => checkIO w g .out v
  | .init, v => decide ((w.val v).producer = none) &&
      (decide ((w.val v).graph = none) || decide ((w.val v).graph = some g))

theorem slotOK_ofKind (w : World) (g : Nat) (k : IOKind) (v : Nat) :
    slotOK w g (.ofKind k) v = checkIO w g k v := by cases k <;> rfl

theorem initOK_of_slot (w : World) (g : Nat) (key : String) (v : Nat) (h : slotOK w g .init v = false) :
    initOK w g key v = false := by
  -- the slot check is the conjunction of the third and fourth conjunct of `initOK`
  cases hok : initOK w g key v with
  | false => rfl
  | true =>
    obtain ⟨-, -, hp, hg, -⟩ := (initOK_iff w g key v).1 hok
    rcases hg with hg | hg <;> simp [slotOK, hp, hg] at h

theorem slotOK_foreign (w : World) (g : Nat) (s : Slot) (v : Nat) (h : foreignTo w g v = true) :
    slotOK w g s v = false := by
  simp only [foreignTo, decide_eq_true_eq] at h
  cases s <;> simp [slotOK, checkIO, h.1, h.2]

theorem slotOK_produced (w : World) (g : Nat) (s : Slot) (v : Nat) (hs : s ≠ .out) (h : produced w v = true) :
    slotOK w g s v = false := by
  simp only [produced, decide_eq_true_eq] at h
  cases s <;> simp_all [slotOK, checkIO]

theorem all_false_of_mem {α : Type} (l : List α) (p : α → Bool) (a : α) (ha : a ∈ l) (hp : p a = false) :
    l.all p = false := by
  rw [List.all_eq_false]; exact ⟨a, ha, by simp [hp]⟩

theorem ioMut_rejects (w : World) (g : Nat) (k : IOKind) (m : IOMut)
    (h : ∃ p ∈ offeredIO g k m, slotOK w p.1 p.2.1 p.2.2 = false) : ∃ kd, ioMut w g k m = (w, .raised kd) := by
  obtain ⟨⟨g', s, v⟩, hm, hp⟩ := h
  cases m <;> simp only [offeredIO, List.mem_singleton, List.mem_map, Prod.mk.injEq, List.not_mem_nil] at hm
  case append v' =>
    obtain ⟨rfl, rfl, rfl⟩ := hm
    rw [slotOK_ofKind] at hp
    exact ⟨"ValueError", by simp [ioMut, guardOp, hp]⟩
  case insert i v' =>
    obtain ⟨rfl, rfl, rfl⟩ := hm
    rw [slotOK_ofKind] at hp
    exact ⟨"ValueError", by simp [ioMut, guardOp, hp]⟩
  case setItem i v' =>
    obtain ⟨rfl, rfl, rfl⟩ := hm
    rw [slotOK_ofKind] at hp
    exact ⟨"IndexError|ValueError", by simp [ioMut, guardOp, hp]⟩
  case extend vs =>
    obtain ⟨v', hv', rfl, rfl, rfl⟩ := hm
    rw [slotOK_ofKind] at hp
    have := all_false_of_mem vs (checkIO w _ k) _ hv' hp
    exact ⟨"ValueError", by simp only [ioMut, guardOp, this, Bool.not_false, ↓reduceIte]⟩
  case setSlice a b c vs =>
    obtain ⟨v', hv', rfl, rfl, rfl⟩ := hm
    rw [slotOK_ofKind] at hp
    have := all_false_of_mem vs (checkIO w _ k) _ hv' hp
    simp only [ioMut]
    split
    · exact ⟨_, rfl⟩
    · exact ⟨"ValueError", by simp only [guardOp, this, Bool.not_false, Bool.true_or, ↓reduceIte]⟩

theorem initMut_rejects (w : World) (g : Nat) (m : InitMut)
    (h : ∃ p ∈ offeredInit w g m, slotOK w p.1 p.2.1 p.2.2 = false) : ∃ kd, initMut w g m = (w, .raised kd) := by
  obtain ⟨⟨g', s, v⟩, hm, hp⟩ := h
  cases m <;> simp only [offeredInit, List.mem_singleton, Prod.mk.injEq, List.not_mem_nil] at hm
  case setItem key v' =>
    obtain ⟨rfl, rfl, rfl⟩ := hm
    exact ⟨"ValueError", by simp [initMut, initSetItem, guardOp, initOK_of_slot _ _ _ _ hp]⟩
  case add v' =>
    obtain ⟨rfl, rfl, rfl⟩ := hm
    exact ⟨"TypeError|ValueError", by simp [initMut, guardOp, initOK_of_slot _ _ _ _ hp]⟩
  case register v' =>
    obtain ⟨rfl, rfl, rfl⟩ := hm
    exact ⟨"ValueError", by simp [initMut, guardOp, initOK_of_slot _ _ _ _ hp]⟩
  case setdefault key v' =>
    split at hm
    · simp at hm
    · rename_i hpres
      simp only [List.mem_singleton, Prod.mk.injEq] at hm
      obtain ⟨rfl, rfl, rfl⟩ := hm
      have hpres' : (lookupInit (w.gr g').inits key).isSome = false := by simpa using hpres
      exact ⟨"ValueError", by simp [initMut, guardOp, hpres', initOK_of_slot _ _ _ _ hp]⟩

/-- a call that offers a value to a slot whose ownership check refuses it is rejected with the world untouched -/
theorem step_rejects_offered (w : World) (op : Op)
    (h : ∃ p ∈ offered w op, slotOK w p.1 p.2.1 p.2.2 = false) : ∃ kd, step w op = (w, .raised kd) := by
  cases op <;> simp only [offered, List.not_mem_nil, false_and, exists_false] at h
  case io g k m => exact ioMut_rejects w g k m h
  case init g m => exact initMut_rejects w g m h
  case newGraph ins outs nodes inits =>
    obtain ⟨⟨g', s, v⟩, hm, hp⟩ := h
    simp only [List.mem_append, List.mem_map, Prod.mk.injEq] at hm
    rcases hm with (⟨v', hv', rfl, rfl, rfl⟩ | ⟨v', hv', rfl, rfl, rfl⟩) | ⟨p, hp', rfl, rfl, rfl⟩
    · have := all_false_of_mem ins (checkIO w w.graphs.length .inp) _ hv' hp
      exact ⟨"ValueError", by simp only [step, newGraph, guardOp, this, Bool.not_false, Bool.true_or, ↓reduceIte]⟩
    · have := all_false_of_mem outs (checkIO w w.graphs.length .out) _ hv' hp
      exact ⟨"ValueError", by simp only [step, newGraph, guardOp, this, Bool.not_false, Bool.true_or, Bool.or_true, ↓reduceIte]⟩
    · have := all_false_of_mem (initDict w inits) (fun p => initOK w w.graphs.length p.1 p.2) _ hp'
        (initOK_of_slot _ _ _ _ hp)
      exact ⟨"ValueError", by simp only [step, newGraph, guardOp, this, Bool.not_false, Bool.true_or, Bool.or_true, ↓reduceIte]⟩
  case rauw v r rgo =>
    obtain ⟨⟨g', s, v'⟩, hm, hp⟩ := h
    split at hm
    · rename_i hout
      split at hm
      · rename_i g hg
        simp only [List.mem_singleton, Prod.mk.injEq] at hm
        obtain ⟨rfl, rfl, rfl⟩ := hm
        have hp' : checkIO w g' .out v' = false := hp
        exact ⟨"ValueError", by simp [step, rauw, guardOp, hout, hg, hp']⟩
      · simp at hm
    · simp at hm

/-! ### nodes -/

/-- every (graph, node) a call offers for membership -/
def offeredNodes (w : World) : Op → List (Nat × Nat)
  | .append g n => [(g, n)]
  | .extend g ns => ns.map (fun n => (g, n))
  | .insertAfter g _ ns => ns.map (fun n => (g, n))
  | .insertBefore g _ ns => ns.map (fun n => (g, n))
  | .newGraph _ _ ns _ => ns.map (fun n => (w.graphs.length, n))
  | _ => []

/-- every (graph, node) a call requires to be a member already: the anchor of an insertion, the nodes to remove -/
def requiredMembers : Op → List (Nat × Nat)
  | .insertAfter g a _ => [(g, a)]
  | .insertBefore g a _ => [(g, a)]
  | .remove g ns _ => ns.map (fun n => (g, n))
  | _ => []

/-- `n` belongs to a graph other than `g` -/
def foreignNode (w : World) (g n : Nat) : Bool :=
  decide ((w.node n).graph ≠ none ∧ (w.node n).graph ≠ some g)

def notMember (w : World) (g n : Nat) : Bool := decide ((w.node n).graph ≠ some g)

theorem nodeAcceptable_foreign (w : World) (g n : Nat) (h : foreignNode w g n = true) :
    nodeAcceptable w g n = false := by
  simp only [foreignNode, decide_eq_true_eq] at h
  simp [nodeAcceptable, nodeAddable, h.1, h.2]

theorem any_true_of_mem {α : Type} (l : List α) (p : α → Bool) (a : α) (ha : a ∈ l) (hp : p a = true) :
    l.any p = true := by
  rw [List.any_eq_true]; exact ⟨a, ha, hp⟩

theorem step_rejects_node (w : World) (op : Op)
    (h : (∃ p ∈ offeredNodes w op, foreignNode w p.1 p.2 = true) ∨
         (∃ p ∈ requiredMembers op, notMember w p.1 p.2 = true)) :
    step w op = (w, .raised "ValueError") := by
  rcases h with ⟨⟨g', n⟩, hm, hp⟩ | ⟨⟨g', n⟩, hm, hp⟩
  · have hacc := nodeAcceptable_foreign w g' n hp
    cases op <;> simp only [offeredNodes, List.mem_singleton, List.mem_map, Prod.mk.injEq, List.not_mem_nil] at hm
    case append g n' =>
      obtain ⟨rfl, rfl⟩ := hm
      simp [step, graphAppend, guardOp, hacc]
    case extend g ns =>
      obtain ⟨n', hn', rfl, rfl⟩ := hm
      have := all_false_of_mem ns (nodeAcceptable w _) _ hn' hacc
      simp only [step, graphExtend, guardOp, this, Bool.not_false, ↓reduceIte]
    case insertAfter g a ns =>
      obtain ⟨n', hn', rfl, rfl⟩ := hm
      have := all_false_of_mem ns (nodeAcceptable w _) _ hn' hacc
      simp only [step, graphInsertAfter, guardOp, this, Bool.not_false, Bool.or_true, ↓reduceIte]
    case insertBefore g a ns =>
      obtain ⟨n', hn', rfl, rfl⟩ := hm
      have := all_false_of_mem ns (nodeAcceptable w _) _ hn' hacc
      simp only [step, graphInsertBefore, guardOp, this, Bool.not_false, Bool.or_true, ↓reduceIte]
    case newGraph ins outs ns inits =>
      obtain ⟨n', hn', rfl, rfl⟩ := hm
      have := all_false_of_mem ns (nodeAcceptable w _) _ hn' hacc
      simp only [step, newGraph, guardOp, this, Bool.not_false, Bool.true_or, Bool.or_true, ↓reduceIte]
  · simp only [notMember, decide_eq_true_eq] at hp
    cases op <;> simp only [requiredMembers, List.mem_singleton, List.mem_map, Prod.mk.injEq, List.not_mem_nil] at hm
    case insertAfter g a ns =>
      obtain ⟨rfl, rfl⟩ := hm
      simp [step, graphInsertAfter, guardOp, hp]
    case insertBefore g a ns =>
      obtain ⟨rfl, rfl⟩ := hm
      simp [step, graphInsertBefore, guardOp, hp]
    case remove g ns safe =>
      obtain ⟨n', hn', rfl, rfl⟩ := hm
      have := any_true_of_mem ns
        (fun n => decide ((w.node n).graph ≠ some g) || (safe && unsafeToRemove w g ns n)) _ hn' (by simp [hp])
      simp only [step, graphRemove, guardOp]
      rw [if_pos]
      simpa using this

/-! ### histories with their outcome lists -/

/-- the outcome of every call of a history run from `w` -/
def outcomesFrom (w : World) : List AnyOp → List Outcome
  | [] => []
  | o :: os => (stepAny w o).2 :: outcomesFrom (stepAny w o).1 os

/-- the outcome list of a history from the empty world (what the caller of the library sees call by call) -/
def outcomesAny (ops : List AnyOp) : List Outcome := outcomesFrom World.empty ops

def runFrom (w : World) (ops : List AnyOp) : World := ops.foldl (fun w o => (stepAny w o).1) w

theorem runAny_eq (ops : List AnyOp) : runAny ops = runFrom World.empty ops := rfl

theorem runFrom_append (w : World) (a b : List AnyOp) : runFrom w (a ++ b) = runFrom (runFrom w a) b := by
  simp [runFrom, List.foldl_append]

theorem outcomesFrom_append (a b : List AnyOp) : ∀ w : World,
    outcomesFrom w (a ++ b) = outcomesFrom w a ++ outcomesFrom (runFrom w a) b := by
  induction a with
  | nil => intro w; rfl
  | cons o os ih => intro w; simp [outcomesFrom, runFrom, ih]

theorem outcomesFrom_length (ops : List AnyOp) : ∀ w : World, (outcomesFrom w ops).length = ops.length := by
  induction ops with
  | nil => intro w; rfl
  | cons o os ih => intro w; simp [outcomesFrom, ih]

theorem runFrom_WF (ops : List AnyOp) (w : World) (h : WF w) : WF (runFrom w ops) :=
  foldl_inv WF _ (fun a b ha => stepAny_WF a b ha) ops w h

theorem runAny_WF (ops : List AnyOp) : WF (runAny ops) := runFrom_WF ops _ WF_empty

/-- the calls C06 claims all-or-nothing: every single call, `rename_values`, and the multi-pair
`replace_all_uses_with` of /repo (`rauwManyExact`; commit c936126, fix of D82).  The other composites, and the loop
without the up-front check (`rauwMany`), are sequences of public calls -/
def atomicCall : AnyOp → Bool
  | .one _ => true
  | .conv (.renameValues _ _) => true
  | .conv (.rauwManyExact _ _ _) => true
  | _ => false

/-! ### the dict `Graph(initializers=…)` builds has the key `""` as soon as one initializer has no name -/

theorem dictSet_key_mem (d : List (String × Nat)) (k : String) (v : Nat) : ∃ p ∈ dictSet d k v, p.1 = k :=
  ⟨(k, v), (mem_dictSet ..).2 (Or.inl ⟨rfl, rfl⟩), rfl⟩

theorem dictSet_key_keep (d : List (String × Nat)) (k k' : String) (v : Nat) (h : ∃ p ∈ d, p.1 = k') :
    ∃ p ∈ dictSet d k v, p.1 = k' := by
  obtain ⟨⟨k'', u⟩, hq, rfl⟩ := h
  by_cases hqk : k'' = k
  · exact hqk ▸ dictSet_key_mem d k v
  · exact ⟨(k'', u), (mem_dictSet ..).2 (Or.inr ⟨hqk, hq⟩), rfl⟩

theorem initDict_fold_key (w : World) (k : String) : ∀ (vs : List Nat) (d : List (String × Nat)),
    ((∃ p ∈ d, p.1 = k) ∨ ∃ v ∈ vs, (w.val v).name.getD "" = k) →
    ∃ p ∈ vs.foldl (fun d v => dictSet d ((w.val v).name.getD "") v) d, p.1 = k := by
  intro vs
  induction vs with
  | nil => intro d h; rcases h with h | ⟨v, hv, _⟩
           · exact h
           · cases hv
  | cons a as ih =>
    intro d h
    simp only [List.foldl_cons]
    apply ih
    rcases h with h | ⟨v, hv, hk⟩
    · exact Or.inl (dictSet_key_keep _ _ _ _ h)
    · rcases List.mem_cons.mp hv with rfl | hv
      · exact Or.inl (hk ▸ dictSet_key_mem _ _ _)
      · exact Or.inr ⟨v, hv, hk⟩

theorem initDict_empty_key (w : World) (vs : List Nat) (v : Nat) (hv : v ∈ vs) (h : falsy (w.val v).name = true) :
    ∃ p ∈ initDict w vs, p.1 = "" := by
  apply initDict_fold_key
  refine Or.inr ⟨v, hv, ?_⟩
  unfold falsy at h
  cases hn : (w.val v).name with
  | none => rfl
  | some s => simp [hn] at h; simp [h]

theorem newGraph_rejects_unnamed (w : World) (ins outs ns inits : List Nat) (v : Nat) (hv : v ∈ inits)
    (h : falsy (w.val v).name = true) : newGraph w ins outs ns inits = (w, .raised "ValueError") := by
  obtain ⟨p, hp, hk⟩ := initDict_empty_key w inits v hv h
  have := all_false_of_mem (initDict w inits) (fun p => initOK w w.graphs.length p.1 p.2) p hp
    (by simp [initOK, hk])
  simp only [newGraph, guardOp, this, Bool.not_false, Bool.true_or, Bool.or_true, ↓reduceIte]

end IrVerif.Kernel
