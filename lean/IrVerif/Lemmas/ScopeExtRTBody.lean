/-
The lock-step round trip of the extended model by phase: the four statements of the induction (`RtEGraph` ..), the
declared node outputs and the node list (`rtE_decl`, `rtE_body`; graphs and functions alike), the graph outputs
(`rtE_outputs`: they change values that exist, so they are no frame step).
-/
import IrVerif.Lemmas.ScopeExtRTAux
import IrVerif.Lemmas.ScopeExtSerTbl
import IrVerif.Lemmas.ScopeExtDevTr
namespace IrVerif.Scope

/-- `O`: values whose information and metadata are only settled later (graph outputs); `DQ`: declared values whose
    annotation the serializer looks at -/
theorem rtE_decl (V : Nat → ValueS) (x : Ext) (td : TData) (nodes : List NodeT)
    (s2 : Store) (x2 : Ext) (A2 : Assoc) (T2 : Table)
    (vt : List (Name × Info × SS)) (qt : List (Name × SS)) (I O DQ : List Nat) (nps : List NodeE) (rd : RR)
    (hrd : replDecl V T2 (nodes.flatMap (liveOuts V)) = rd)
    (hn : (eraseNs nps).map NodeP.outputs = nodes.map fun n => (liveOuts V n).map (nm V))
    (okD : rd.ok)
    (hndD : rd.new.Nodup)
    (hnewD : ∀ v ∈ rd.new, v ∉ A2.map (·.1))
    (t2 : TblIn A2 T2) (r2 : RS V s2 A2) (f2 : Fresh s2) (xf2 : ExtFresh s2 x2)
    (hTM2 : TblM x2 A2 vt I T2)
    (hback : ∀ v ∈ rd.new, v ∉ O →
      metaOf vt (nm V v) = normM (x.vmeta v) ∧ declInfo (eraseVT vt) (nm V v) = (V v).info.emit)
    (hDQ : ∀ v ∈ DQ, v ∈ rd.new ∧ quantOf qt (nm V v) = normQ (x.quant v)) :
    ∃ (s3 : Store) (x3 : Ext) (B3 : Assoc),
      declareNodesE s2 x2 (mapT A2 T2) vt qt nps =
        .ok (s3, x3, mapT (A2 ++ B3) rd.tbl) ∧
      RtEPost V x td s2 x2 A2 B3 s3 x3 (rd.new.filter (fun v => !O.contains v)) DQ [] ∧
      B3.map (·.1) = rd.new ∧
      TblIn (A2 ++ B3) rd.tbl ∧
      TblM x3 (A2 ++ B3) vt I rd.tbl := by
  subst hrd
  obtain ⟨s3, B3, e3, k3, t3, g3, post3⟩ := rt_decl V td (eraseVT vt) nodes O (eraseNs nps) s2 A2 T2 hn okD hndD hnewD t2 r2 f2
    (fun v hv hvo => (hback v hv hvo).2)
  obtain ⟨x3, h3E⟩ := declareNodesE_of_core vt qt nps s2 x2 _ s3 _ e3
  have ph := declareNodesE_phase vt qt nps s2 x2 _ s3 x3 _ h3E
  have ns3 := ph.nstep xf2
  have hNew3 : ∀ v ∈ (replDecl V T2 (nodes.flatMap (liveOuts V))).new, v ∈ (A2 ++ B3).map (·.1) ∧
      x3.vmeta (sig (A2 ++ B3) v) = metaOf vt (nm V v) ∧ x3.quant (sig (A2 ++ B3) v) = quantOf qt (nm V v) := by
    intro v hv
    have hm3 : v ∈ (A2 ++ B3).map (·.1) := by rw [List.map_append, k3]; exact List.mem_append_right _ hv
    exact ⟨hm3, ns3.new_sig post3.rs hm3 (g3 _ (sig_append_new (hnewD v hv) (by rw [k3]; exact hv)))⟩
  have hrdmem := replDecl_tbl_mem V (nodes.flatMap (liveOuts V)) T2
  refine ⟨s3, x3, B3, h3E,
    { toRtPost := post3, run := ph.run, ge := g3, metaOK := fun v hv => ?_, quantOK := fun v hv => ?_ },
    k3, t3, fun e he hI => ?_⟩
  · obtain ⟨hv, hg⟩ := List.mem_filter.mp hv
    exact ⟨(hNew3 v hv).1, by rw [(hNew3 v hv).2.1]; exact (hback v hv (by simpa using hg)).1⟩
  · obtain ⟨hv', hq⟩ := hDQ v hv
    exact ⟨(hNew3 v hv').1, by rw [(hNew3 v hv').2.2]; exact hq⟩
  · rcases hrdmem e he with h | ⟨h, hn'⟩
    · exact hTM2.step (B := B3) t2 r2 ns3.keep e h hI
    · rw [hn']; exact (hNew3 _ h).2.1

def RtEGraph (V : Nat → ValueS) (x : Ext) (td : TData) (ver : Option Int) (g : GraphT) : Prop :=
  ∀ (s : Store) (xs : Ext) (A : Assoc) (outer : List Table) (q : GraphE) (ws : Writes),
    serGraphE V x td ver g = .ok (q, ws) → (replG V outer g).ok → (replG V outer g).new.Nodup →
    extG V x outer g →
    (∀ v ∈ (replG V outer g).new, v ∉ A.map (·.1)) → (∀ T ∈ outer, TblIn A T) → RS V s A → Fresh s →
    ExtFresh s xs →
    ∃ (s' : Store) (x' : Ext) (g' : GraphT) (B : Assoc),
      deserGraphE s xs (outer.map (mapT A)) q = .ok (s', x', g') ∧
      RtEPost V x td s xs A B s' x' (emitG V g) (emitQG V g) (allInitsG g) ∧
      B.map (·.1) = (replG V outer g).new ∧ TreeRelG V (A ++ B) g g' ∧ DevTrG V x' s'.nn (A ++ B) outer g q g'

def RtENode (V : Nat → ValueS) (x : Ext) (td : TData) (ver : Option Int) (n : NodeT) : Prop :=
  ∀ (s : Store) (xs : Ext) (A : Assoc) (T : Table) (outer : List Table) (annot : Bool)
    (gouts : List Nat) (vt : List (Name × Info × SS)) (qt : List (Name × SS)) (I : List Nat)
    (np : NodeE) (qs : List QuantP) (vis : List VInfoE) (ws : Writes),
    serNodeE V x td ver annot gouts n = .ok (np, qs, vis, ws) → (replN V outer T n).ok →
    (replN V outer T n).new.Nodup → extN V x outer T n →
    (∀ v ∈ (replN V outer T n).new, v ∉ A.map (·.1)) →
    TblIn A T → (∀ T' ∈ outer, TblIn A T') → RS V s A → Fresh s → ExtFresh s xs →
    TblM xs A vt I T →
    ∃ (s' : Store) (x' : Ext) (n' : NodeT) (B : Assoc),
      deserNodeE s xs (mapT A T) (outer.map (mapT A)) vt qt np =
        .ok (s', x', mapT (A ++ B) (replN V outer T n).tbl, n') ∧
      RtENsPost V x td s xs A B s' x' (emitSubN V n) (emitQSubN V n) (allInitsN n) vt I (replN V outer T n).tbl
        (liveOuts V n) ∧
      B.map (·.1) = (replN V outer T n).new ∧ TreeRelN V (A ++ B) n n' ∧ DevTrN V x' s'.nn (A ++ B) outer T n np n'

def RtESubs (V : Nat → ValueS) (x : Ext) (td : TData) (ver : Option Int) (subs : List GraphT) : Prop :=
  ∀ (s : Store) (xs : Ext) (A : Assoc) (scopes : List Table) (gps : List GraphE) (ws : Writes),
    serSubsE V x td ver subs = .ok (gps, ws) → (replGs V scopes subs).ok → (replGs V scopes subs).new.Nodup →
    extGs V x scopes subs →
    (∀ v ∈ (replGs V scopes subs).new, v ∉ A.map (·.1)) → (∀ T ∈ scopes, TblIn A T) → RS V s A → Fresh s →
    ExtFresh s xs →
    ∃ (s' : Store) (x' : Ext) (gts : List GraphT) (B : Assoc),
      deserSubsE s xs (scopes.map (mapT A)) gps = .ok (s', x', gts) ∧
      RtEPost V x td s xs A B s' x' (emitGs V subs) (emitQGs V subs) (allInitsGs subs) ∧
      B.map (·.1) = (replGs V scopes subs).new ∧ TreeRelGs V (A ++ B) subs gts ∧
      DevTrGs V x' s'.nn (A ++ B) scopes subs gps gts

def RtENodes (V : Nat → ValueS) (x : Ext) (td : TData) (ver : Option Int) (nodes : List NodeT) : Prop :=
    ∀ (s : Store) (xs : Ext) (A : Assoc) (T : Table) (outer : List Table) (annot : Bool)
      (gouts : List Nat) (vt : List (Name × Info × SS)) (qt : List (Name × SS)) (I : List Nat)
      (nps : List NodeE) (qs : List QuantP) (vis : List VInfoE) (ws : Writes),
      serNodesE V x td ver annot gouts nodes = .ok (nps, qs, vis, ws) → (replNs V outer T nodes).ok →
      (replNs V outer T nodes).new.Nodup → extNs V x outer T nodes →
      (∀ v ∈ (replNs V outer T nodes).new, v ∉ A.map (·.1)) →
      TblIn A T → (∀ T' ∈ outer, TblIn A T') → RS V s A → Fresh s → ExtFresh s xs →
      TblM xs A vt I T →
      ∃ (s' : Store) (x' : Ext) (nts : List NodeT) (B : Assoc),
        deserNodesE s xs (mapT A T) (outer.map (mapT A)) vt qt nps =
          .ok (s', x', mapT (A ++ B) (replNs V outer T nodes).tbl, nts) ∧
        RtENsPost V x td s xs A B s' x' (emitSubNs V nodes) (emitQSubNs V nodes) (allInitsNs nodes) vt I
          (replNs V outer T nodes).tbl (nodes.flatMap (liveOuts V)) ∧
        B.map (·.1) = (replNs V outer T nodes).new ∧ TreeRelNs V (A ++ B) nodes nts ∧
        DevTrNs V x' s'.nn (A ++ B) outer T nodes nps nts

theorem rtE_body (V : Nat → ValueS) (x : Ext) (td : TData) (ver : Option Int) (nodes : List NodeT)
    (ihN : RtENodes V x td ver nodes)
    (s2 : Store) (x2 : Ext) (A2 : Assoc) (T2 : Table) (outer : List Table) (annot : Bool) (gouts : List Nat)
    (vt : List (Name × Info × SS)) (qt : List (Name × SS)) (I O DQ : List Nat)
    (nps : List NodeE) (qs : List QuantP) (vis : List VInfoE) (ws : Writes) (rd rn : RR)
    (hrd : replDecl V T2 (nodes.flatMap (liveOuts V)) = rd) (hrn : replNs V outer rd.tbl nodes = rn)
    (hn : serNodesE V x td ver annot gouts nodes = .ok (nps, qs, vis, ws))
    (okD : rd.ok)
    (okN : rn.ok)
    (hndD : rd.new.Nodup)
    (hndN : rn.new.Nodup)
    (hdisj : ∀ a ∈ rd.new,
      ∀ b ∈ rn.new, a ≠ b)
    (hextN : extNs V x outer rd.tbl nodes)
    (hnewD : ∀ v ∈ rd.new, v ∉ A2.map (·.1))
    (hnewN : ∀ v ∈ rn.new, v ∉ A2.map (·.1))
    (t2 : TblIn A2 T2) (hO : ∀ T' ∈ outer, TblIn A2 T') (r2 : RS V s2 A2) (f2 : Fresh s2) (xf2 : ExtFresh s2 x2)
    (hTM2 : TblM x2 A2 vt I T2)
    (hback : ∀ v ∈ rd.new, v ∉ O →
      metaOf vt (nm V v) = normM (x.vmeta v) ∧ declInfo (eraseVT vt) (nm V v) = (V v).info.emit)
    (hDQ : ∀ v ∈ DQ, v ∈ rd.new ∧ quantOf qt (nm V v) = normQ (x.quant v)) :
    ∃ (s3 : Store) (x3 : Ext) (B3 : Assoc) (s4 : Store) (x4 : Ext) (nts : List NodeT) (B4 : Assoc),
      declareNodesE s2 x2 (mapT A2 T2) vt qt nps =
        .ok (s3, x3, mapT (A2 ++ B3) rd.tbl) ∧
      deserNodesE s3 x3 (mapT (A2 ++ B3) rd.tbl) (outer.map (mapT A2)) vt qt
          nps =
        .ok (s4, x4, mapT (A2 ++ (B3 ++ B4)) rn.tbl,
          nts) ∧
      RtENsPost V x td s2 x2 A2 (B3 ++ B4) s4 x4
        (rd.new.filter (fun v => !O.contains v) ++ emitSubNs V nodes)
        (DQ ++ emitQSubNs V nodes) (allInitsNs nodes) vt I rn.tbl (nodes.flatMap (liveOuts V)) ∧
      B3.map (·.1) = rd.new ∧
      B4.map (·.1) = rn.new ∧
      TreeRelNs V (A2 ++ (B3 ++ B4)) nodes nts ∧
      DevTrNs V x4 s4.nn (A2 ++ (B3 ++ B4)) outer rd.tbl nodes nps nts := by
  subst hrn
  obtain ⟨s3, x3, B3, h3E, P3, k3, t3, hTM3⟩ := rtE_decl V x td nodes s2 x2 A2 T2 vt qt I O DQ nps rd hrd
    (xserNodes_outputs V x td ver annot gouts nodes nps qs vis ws hn) okD hndD hnewD t2 r2 f2 xf2 hTM2 hback hDQ
  obtain ⟨s4, x4, nts, B4, e4, P4, k4, tr4, dt4⟩ :=
    ihN s3 x3 (A2 ++ B3) _ outer annot gouts vt qt I nps qs vis ws hn okN hndN hextN
      (fun v hv hm => by
        rw [List.map_append, List.mem_append, k3] at hm
        rcases hm with hm | hm
        · exact hnewN v hv hm
        · exact hdisj v hm v hv rfl)
      t3 (fun T' hT' => (hO T' hT').append _) P3.rs P3.fresh (P3.xfresh xf2) hTM3
  rw [maps_extend B3 hO] at e4
  rw [List.append_assoc] at e4 tr4 dt4
  exact ⟨s3, x3, B3, s4, x4, nts, B4, h3E, e4, P3.thenNs P4, k3, k4, tr4, dt4⟩

/-- the graph-output loop on the entries the serializer wrote; the point is `hmerge`: merging the sorted entries
    into `[]` or into `normM` of the same dict gives `normM` -/
theorem outsE_meta (V : Nat → ValueS) (x : Ext) (σ : Nat → Nat) (hwf : ExtWF x) :
    ∀ (vs : List Nat) (s : Store) (xs : Ext) (tbl : Table),
      (deserOutputsE s xs tbl (vs.map (viOfE V x))).2.2 = vs.map σ →
      (∀ a ∈ vs, ∀ b ∈ vs, σ a = σ b → x.vmeta a = x.vmeta b) →
      (∀ v ∈ vs, xs.vmeta (σ v) = [] ∨ xs.vmeta (σ v) = normM (x.vmeta v)) →
      (∀ v ∈ vs, (deserOutputsE s xs tbl (vs.map (viOfE V x))).2.1.vmeta (σ v) = normM (x.vmeta v)) ∧
      (∀ d, (∀ v ∈ vs, σ v ≠ d) → (deserOutputsE s xs tbl (vs.map (viOfE V x))).2.1.vmeta d = xs.vmeta d) ∧
      (deserOutputsE s xs tbl (vs.map (viOfE V x))).2.1.quant = xs.quant
  | [] => fun s xs tbl _ _ _ => ⟨nofun, fun _ _ => rfl, rfl⟩
  | v :: rest => fun s xs tbl heq hcoh hpre => by
    have hpf := meta_payload_fix (x.vmeta v) (hwf v).1
    have hmerge : ∀ (m : SS), (m = [] ∨ m = normM (x.vmeta v)) → ssUpdate m (ssSorted (x.vmeta v)) = normM (x.vmeta v) := by
      intro m hm
      rcases hm with rfl | rfl
      · rfl
      · exact hpf.2.1
    -- after the first entry has been merged into the value `σ v` (found in the scope, or just created)
    have key : ∀ (s' : Store) r, deserOutputsE s' (xs.merge (σ v) (ssSorted (x.vmeta v))) tbl (rest.map (viOfE V x)) = r →
        r.2.2 = rest.map σ →
        (∀ w ∈ v :: rest, r.2.1.vmeta (σ w) = normM (x.vmeta w)) ∧
        (∀ d, (∀ w ∈ v :: rest, σ w ≠ d) → r.2.1.vmeta d = xs.vmeta d) ∧ r.2.1.quant = xs.quant := by
      intro s' r hr heq'
      subst hr
      have hmv : (xs.merge (σ v) (ssSorted (x.vmeta v))).vmeta (σ v) = normM (x.vmeta v) := by
        rw [Ext.merge_vmeta]
        simp only [if_true]
        exact hmerge _ (hpre v (by simp))
      obtain ⟨a, b, c⟩ := outsE_meta V x σ hwf rest s' (xs.merge (σ v) (ssSorted (x.vmeta v))) tbl heq'
        (fun a ha b hb => hcoh a (by simp [ha]) b (by simp [hb]))
        (fun w hw => by
          by_cases hwu : σ w = σ v
          · right
            have : x.vmeta w = x.vmeta v := hcoh w (by simp [hw]) v (by simp) hwu
            rw [hwu, this]; exact hmv
          · rw [Ext.merge_vmeta, if_neg hwu]
            exact hpre w (by simp [hw]))
      refine ⟨fun w hw => ?_, fun d hd => ?_, by rw [c, Ext.merge_quant]⟩
      · simp only [List.mem_cons] at hw
        by_cases hr : ∃ w' ∈ rest, σ w' = σ w
        · obtain ⟨w', hw', he⟩ := hr
          have hm : x.vmeta w' = x.vmeta w := hcoh w' (by simp [hw']) w (by
            rcases hw with rfl | hw
            · simp
            · simp [hw]) he
          rw [← he, ← hm]
          exact a w' hw'
        · rcases hw with rfl | hw
          · rw [b (σ w) (fun w' hw' he => hr ⟨w', hw', he⟩)]
            exact hmv
          · exact absurd ⟨w, hw, rfl⟩ hr
      · rw [b d (fun w hw => hd w (by simp [hw])), Ext.merge_vmeta]
        have : d ≠ σ v := fun e' => hd v (by simp) e'.symm
        simp [this]
    simp only [List.map_cons, deserOutputsE] at heq ⊢
    have hvn : (viOfE V x v).name = nm V v := rfl
    have hvm : (viOfE V x v).mprops = ssSorted (x.vmeta v) := rfl
    simp only [hvn, hvm] at heq ⊢
    cases hl : tbl.lookup (nm V v) with
    | some u =>
      simp only [hl, List.cons.injEq] at heq ⊢
      obtain ⟨hu, heq'⟩ := heq
      subst hu
      exact key _ _ rfl heq'
    | none =>
      simp only [hl, List.cons.injEq] at heq ⊢
      obtain ⟨hu, heq'⟩ := heq
      have hu' : (s.alloc { name := some (nm V v), info := (viOfE V x v).info }).2 = σ v := hu
      rw [hu'] at heq' ⊢
      exact key _ _ rfl heq'

/-- an output entry overwrites the information and merges the metadata of the value its name is bound to in `T` (of a
    fresh value otherwise).  `hmo`, `hqo`: what the bound outputs carry before -/
theorem rtE_outputs (V : Nat → ValueS) (x : Ext) (td : TData) (hwf : ExtWF x) (outs : List Nat) (s : Store) (xs : Ext)
    (A B : Assoc) (s4 : Store) (x4 : Ext) (T : Table) (E EQ : List Nat) (AI : List (Name × Nat)) (ro : RR)
    (hro : replOuts V T outs = ro) (P : RtEPost V x td s xs A B s4 x4 E EQ AI) (hxf : ExtFresh s xs)
    (t4 : TblIn (A ++ B) T)
    (hTnew : ∀ e ∈ T, e.2 ∉ A.map (·.1)) (okO : ro.ok) (hndO : ro.new.Nodup)
    (hnewO : ∀ v ∈ ro.new, v ∉ (A ++ B).map (·.1))
    (hmo : ∀ v ∈ outs, T.lookup (nm V v) = some v →
      x4.vmeta (sig (A ++ B) v) = [] ∨ x4.vmeta (sig (A ++ B) v) = normM (x.vmeta v))
    (hqo : ∀ v ∈ outs, T.lookup (nm V v) = some v → x4.quant (sig (A ++ B) v) = normQ (x.quant v))
    (hqn : ∀ v ∈ ro.new, x.quant v = none) :
    ∃ (s5 : Store) (x5 : Ext) (B5 : Assoc),
      deserOutputsE s4 x4 (mapT (A ++ B) T) (outs.map (viOfE V x)) = (s5, x5, outs.map (sig (A ++ (B ++ B5)))) ∧
      RtEPost V x td s xs A (B ++ B5) s5 x5 (E.filter (fun v => !outs.contains v) ++ outs) (EQ ++ outs) AI ∧
      B5.map (·.1) = ro.new ∧ (∀ v ∈ outs, v ∈ (A ++ (B ++ B5)).map (·.1)) ∧
      x5.quant = x4.quant ∧ x5.devs = x4.devs ∧ s5.nn = s4.nn := by
  subst hro
  obtain ⟨s5, B5, hc5', k5, g5, m5, r5, l5, _, _, io5, co5, _⟩ :=
    rt_gtail V td outs s s4 A B T E AI [] P.toRtPost t4 okO hndO hnewO
  have hsplit := replOuts_split V T outs okO
  have hc5 : deserOutputs s4 (mapT (A ++ B) T) ((outs.map (viOfE V x)).map VInfoE.erase) =
      (s5, outs.map (sig (A ++ (B ++ B5)))) := by
    rw [map_viOfE_erase]; exact hc5'
  obtain ⟨x5, h5E, hnn5, hd5⟩ := outsE_bridge (mapT (A ++ B) T) (outs.map (viOfE V x)) s4 x4 s5 _ hc5
  have hTlt := tableLt_of_RS2 P.rs t4
  have h45 : ∀ v, v ∈ (A ++ B).map (·.1) → sig (A ++ (B ++ B5)) v = sig (A ++ B) v := fun v hv => by
    rw [← List.append_assoc]; exact sig_append_of_mem hv
  have hold : ∀ v, v ∈ (A ++ B).map (·.1) → v ∈ (A ++ (B ++ B5)).map (·.1) := fun v hv => by
    rw [← List.append_assoc]; exact mem_keys_append hv
  have hnewge : ∀ v ∈ (replOuts V T outs).new, s4.nv ≤ sig (A ++ (B ++ B5)) v := fun v hv => by
    have := sig_append_new (hnewO v hv) (by rw [k5]; exact hv)
    rw [List.append_assoc] at this
    exact g5 _ this
  have om := outsE_meta V x (sig (A ++ (B ++ B5))) hwf outs s4 x4 (mapT (A ++ B) T) (by rw [h5E])
    (fun a ha b hb he => by rw [r5.sig_inj (m5 a ha) (m5 b hb) he])
    (fun v hv => by
      rcases hsplit v hv with hb | ⟨_, hvnew⟩
      · rw [h45 v (t4.lookup hb)]
        exact hmo v hv hb
      · exact .inl (P.xfresh hxf _ (hnewge v hvnew)).1)
  rw [h5E] at om
  obtain ⟨om1, om2, om3⟩ := om
  have hnotout : ∀ v, v ∈ (A ++ B).map (·.1) → v ∉ outs → ∀ o ∈ outs, sig (A ++ (B ++ B5)) o ≠ sig (A ++ B) v := by
    intro v hmem hvo o ho heq
    rw [← h45 v hmem] at heq
    exact hvo (r5.sig_inj (m5 o ho) (hold v hmem) heq ▸ ho)
  -- a value that `A` does not bind is a value of this graph: its image lies beyond the start of the run
  have hBge : ∀ v, v ∈ (A ++ (B ++ B5)).map (·.1) → v ∉ A.map (·.1) → s.nv ≤ sig (A ++ (B ++ B5)) v := by
    intro v hv hnA
    have hB : v ∈ (B ++ B5).map (·.1) := by
      rw [List.map_append, List.mem_append] at hv
      exact hv.resolve_left hnA
    rcases List.mem_append.mp (sig_append_new hnA hB) with h | h
    · exact P.ge _ h
    · exact Nat.le_trans P.le (g5 _ h)
  have hTge : TableGe s.nv (mapT (A ++ B) T) := by
    intro e he
    simp only [mapT, List.mem_map] at he
    obtain ⟨e0, he0, rfl⟩ := he
    have := hBge e0.2 (hold _ (t4 e0 he0)) (hTnew e0 he0)
    rw [h45 _ (t4 e0 he0)] at this
    exact this
  have hp5 : Prim s.nv s4 s5 := by
    have := deserOutputs_prim s.nv (mapT (A ++ B) T) (outs.map (viOf V)) s4 hTge P.le
    rw [hc5'] at this; exact this
  have hf5 : Fresh s5 := by
    have := deserOutputs_fresh (mapT (A ++ B) T) (outs.map (viOf V)) s4 hTlt P.fresh
    rw [hc5'] at this; exact this
  refine ⟨s5, x5, B5, h5E, ?_, k5, m5, om3, hd5, hnn5⟩
  exact {
    rs := r5
    le := Nat.le_trans P.le l5
    fresh := hf5
    prim := P.prim.trans hp5
    infoOK := io5
    constOK := co5
    blankOK := nofun
    run := P.run.outputs (fun e he => ⟨hTge e he, hTlt e he⟩) h5E
    ge := fun e he => by
      rcases List.mem_append.mp he with h | h
      · exact P.ge e h
      · exact Nat.le_trans P.le (g5 e h)
    metaOK := fun v hv => by
      rcases List.mem_append.mp hv with hv | hv
      · obtain ⟨hv, hg⟩ := List.mem_filter.mp hv
        obtain ⟨hm, he⟩ := P.metaOK v hv
        exact ⟨hold v hm, by rw [h45 v hm, om2 _ (hnotout v hm (by simpa using hg))]; exact he⟩
      · exact ⟨m5 v hv, om1 v hv⟩
    quantOK := fun v hv => by
      rcases List.mem_append.mp hv with hv | hv
      · obtain ⟨hm, he⟩ := P.quantOK v hv
        exact ⟨hold v hm, by rw [om3, h45 v hm]; exact he⟩
      · refine ⟨m5 v hv, ?_⟩
        rcases hsplit v hv with hb | ⟨_, hvnew⟩
        · rw [om3, h45 v (t4.lookup hb)]
          exact hqo v hv hb
        · rw [om3, (P.xfresh hxf _ (hnewge v hvnew)).2, hqn v hvnew]
          rfl }

end IrVerif.Scope
