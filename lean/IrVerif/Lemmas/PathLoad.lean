/-
C10 helper lemmas for `load()`'s base directory: decomposition of a model path into directory
part and file name, and of the kernel walk along it; the tensors `set_base_dir`'s walker reaches.
-/
import IrVerif.Lemmas.PathFS
namespace IrVerif.Path

theorem mem_takeWhile_imp' (q : Char → Bool) (l : Str) (x : Char) (h : x ∈ l.takeWhile q) :
    q x = true := by
  induction l with
  | nil => simp at h
  | cons a t ih =>
    by_cases ha : q a = true
    · simp only [List.takeWhile, ha, List.mem_cons] at h
      rcases h with rfl | h
      · exact ha
      · exact ih h
    · simp [List.takeWhile, ha] at h

theorem dropWhile_head (q : Char → Bool) (l : Str) :
    l.dropWhile q = [] ∨ ∃ x t, l.dropWhile q = x :: t ∧ q x = false := by
  induction l with
  | nil => left; rfl
  | cons a t ih =>
    by_cases h : q a = true
    · simpa [List.dropWhile, h] using ih
    · right
      exact ⟨a, t, by simp [List.dropWhile, h], by simpa using h⟩

/-- a path string is its directory part (empty or ending with a separator) followed by its
last piece (no separator inside) -/
theorem head_tail_decomp (p : Str) :
    p = headPart p ++ tailPart p ∧ '/' ∉ tailPart p ∧
      (headPart p = [] ∨ ∃ h', headPart p = h' ++ ['/']) := by
  refine ⟨?_, ?_, ?_⟩
  · unfold headPart tailPart
    rw [← List.reverse_append, List.takeWhile_append_dropWhile, List.reverse_reverse]
  · unfold tailPart
    intro hm
    rw [List.mem_reverse] at hm
    have := mem_takeWhile_imp' _ _ _ hm
    simp at this
  · unfold headPart
    rcases dropWhile_head (· ≠ '/') p.reverse with h | ⟨x, t, h, hx⟩
    · left; rw [h]; rfl
    · right
      have hx' : x = '/' := by simpa using hx
      subst hx'
      exact ⟨t.reverse, by rw [h]; simp⟩

theorem all_sep_replicate (s : Str) (h : s.all (· = '/') = true) : s = List.replicate s.length '/' := by
  apply List.eq_replicate_iff.mpr
  refine ⟨rfl, ?_⟩
  intro b hb
  have := List.all_eq_true.mp h b hb
  simpa using this

/-- a string is its right-stripped part followed by separators only -/
theorem rstrip_decomp (s : Str) :
    ∃ n, s = rstripSep s ++ List.replicate n '/' ∧
      (rstripSep s = [] ∨ endsWithSep (rstripSep s) = false) := by
  unfold rstripSep
  refine ⟨(s.reverse.takeWhile (· = '/')).length, ?_, ?_⟩
  · have h1 := all_sep_replicate (s.reverse.takeWhile (· = '/'))
      (List.all_eq_true.mpr fun b hb => by simpa using mem_takeWhile_imp' _ _ _ hb)
    have h2 := List.takeWhile_append_dropWhile (p := (· = '/')) (l := s.reverse)
    have h3 : s = (s.reverse.dropWhile (· = '/')).reverse ++ (s.reverse.takeWhile (· = '/')).reverse := by
      rw [← List.reverse_append, h2, List.reverse_reverse]
    rw [h1, List.reverse_replicate] at h3
    exact h3
  · rcases dropWhile_head (· = '/') s.reverse with h | ⟨x, t, h, hx⟩
    · left; rw [h]; rfl
    · right
      rw [h]
      have hx' : x ≠ '/' := by simpa using hx
      simp [endsWithSep, hx']


theorem isabs_append (a b : Str) (ha : a ≠ []) : isabs (a ++ b) = isabs a := by
  cases a with
  | nil => exact absurd rfl ha
  | cons c r => rfl

theorem Option.bind_eq_some' {α β : Type} {o : Option α} {g : α → Option β} {b : β}
    (h : o.bind g = some b) : ∃ a, o = some a ∧ g a = some b :=
  Option.bind_eq_some_iff.mp h

/-- the base directory `load()` assigns resolves, in the kernel, to the very directory in which the
kernel looked up the model file's name when it opened the model path -/
theorem load_base_is_model_dir (fs : FS) (f : Nat) (cwd : Loc) (p : Str) (l : Loc)
    (hn : Clean (tailPart p)) (h : kresolve fs f cwd p true = some l) :
    ∃ d, kresolve fs f cwd (loadDir p) true = some d ∧ fs.get d = some Node.dir ∧
      walk fs f d [tailPart p] true = some l := by
  obtain ⟨hp, hns, hh⟩ := head_tail_decomp p
  have hdn_def : dirname p = (if headPart p ≠ [] ∧ (headPart p).all (· = '/') = false
      then rstripSep (headPart p) else headPart p) := rfl
  have hlb_def : loadDir p = (if dirname p = [] then DOT else dirname p) := rfl
  generalize tailPart p = name at *
  generalize headPart p = hdp at *
  have hname : splitSep name = [name] := splitSep_of_noSep _ hns
  have hpne : p ≠ [] := by
    intro e; rw [e] at hp
    have := (List.append_eq_nil_iff.mp hp.symm).2
    exact hn.1 this
  rw [kresolve_of_ne fs f cwd hpne] at h
  rcases hh with hh | ⟨h', hh⟩
  · -- bare file name
    subst hh
    have hpe : p = name := by simpa using hp
    subst hpe
    have hab : isabs p = false := hn.piece.not_abs
    have hd0 : dirname p = [] := by rw [hdn_def]; simp
    have hlb : loadDir p = DOT := by rw [hlb_def]; simp [hd0]
    rw [hname] at h
    simp only [startLoc, hab, Bool.false_eq_true, if_false] at h
    obtain ⟨hd, _⟩ := walk_cons_inv fs f cwd _ _ l h
    refine ⟨cwd, ?_, hd, h⟩
    rw [hlb]
    unfold kresolve
    have : splitSep DOT = [DOT] := by decide
    simp only [show DOT ≠ ([] : Str) by decide, if_false, startLoc,
      show isabs DOT = false by decide, Bool.false_eq_true, this]
    rw [walk_step_skip fs f cwd DOT [] true hd (Or.inr rfl), walk_nil]
  · subst hh
    have hpe : p = h' ++ '/' :: name := by simpa using hp
    have hne : h' ++ ['/'] ≠ [] := by simp
    by_cases hall : (h' ++ ['/']).all (· = '/') = true
    · -- "/", "//", ... then the file name
      have hrep := all_sep_replicate _ hall
      have hh'r : h' = List.replicate h'.length '/' := by
        have : h' ++ ['/'] = List.replicate h'.length '/' ++ ['/'] := by
          rw [← List.replicate_succ']
          simpa using hrep
        exact List.append_cancel_right this
      have hdn : dirname p = h' ++ ['/'] := by rw [hdn_def]; simp [hall]
      have hlb : loadDir p = h' ++ ['/'] := by rw [hlb_def]; simp [hdn]
      have habp : isabs p = true := by
        rw [hpe, hh'r]
        cases h'.length <;> simp [isabs, List.replicate_succ]
      have habh : isabs (h' ++ ['/']) = true := by
        rw [hh'r]
        cases h'.length <;> simp [isabs, List.replicate_succ]
      have hs' : splitSep h' = List.replicate (h'.length + 1) [] := by
        have := splitSep_replicate h'.length []
        rw [List.append_nil, ← hh'r] at this
        rw [this]; simp [splitSep, List.replicate_succ']
      have hsplit : splitSep p = List.replicate (h'.length + 1) [] ++ [name] := by
        rw [hpe, splitSep_append_sep, hname, hs']
      rw [hsplit] at h
      simp only [startLoc, habp, if_true] at h
      rw [walk_empties fs f [] fs.get_root] at h
      refine ⟨[], ?_, fs.get_root, h⟩
      rw [hlb]
      unfold kresolve
      simp only [hne, if_false, startLoc, habh, if_true]
      have : splitSep (h' ++ ['/']) = List.replicate (h'.length + 2) [] := by
        rw [splitSep_append_sep, hs']
        simp [splitSep, List.replicate_succ']
      rw [this, ← List.append_nil (List.replicate _ []), walk_empties fs f [] fs.get_root, walk_nil]
    · have hall' : (h' ++ ['/']).all (· = '/') = false := by simpa using hall
      have hdn : dirname p = rstripSep (h' ++ ['/']) := by rw [hdn_def]; simp [hall']
      obtain ⟨n, hdec, hends⟩ := rstrip_decomp (h' ++ ['/'])
      generalize rstripSep (h' ++ ['/']) = d0 at *
      have hd0ne : d0 ≠ [] := by
        intro e
        rw [e, List.nil_append] at hdec
        rw [hdec] at hall'
        simp at hall'
      have hends' : endsWithSep d0 = false := by
        rcases hends with e | e
        · exact absurd e hd0ne
        · exact e
      have hlb : loadDir p = d0 := by rw [hlb_def]; simp [hdn, hd0ne]
      obtain ⟨j, rfl⟩ : ∃ j, n = j + 1 := by
        cases n with
        | zero =>
          rw [List.replicate_zero, List.append_nil] at hdec
          have : endsWithSep (h' ++ ['/']) = true := by simp [endsWithSep]
          rw [hdec, hends'] at this
          exact absurd this (by simp)
        | succ j => exact ⟨j, rfl⟩
      have hpe2 : p = d0 ++ '/' :: (List.replicate j '/' ++ name) := by
        rw [hp, hdec]
        simp [List.replicate_succ]
      have hsplit2 : splitSep p = splitSep d0 ++ (List.replicate j [] ++ [name]) := by
        rw [hpe2, splitSep_append_sep, splitSep_replicate, hname]
      have hab : isabs p = isabs d0 := by
        rw [hpe2]; exact isabs_append _ _ hd0ne
      rw [hsplit2] at h
      obtain ⟨d1, hw1, h2⟩ := walk_append_some fs f _ _ _ l h
      have hd : fs.get d1 = some Node.dir := by
        cases j with
        | zero => exact (walk_cons_inv fs f d1 _ _ l (by simpa using h2)).1
        | succ j => rw [List.replicate_succ] at h2; exact (walk_cons_inv fs f d1 _ _ l h2).1
      rw [walk_empties fs f d1 hd] at h2
      refine ⟨d1, ?_, hd, h2⟩
      rw [hlb]
      rw [kresolve_of_ne fs f cwd hd0ne]
      have : startLoc cwd d0 = startLoc cwd p := by unfold startLoc; rw [hab]
      rw [this]
      exact hw1


theorem loadDir_ne_nil (p : Str) : loadDir p ≠ [] := by
  unfold loadDir
  simp only
  split
  · simp [DOT]
  · assumption

/-- prefixing the (real) working directory does not change what the kernel resolves, from
whatever directory the resulting absolute string is resolved later -/
theorem kresolve_join_cwd (fs : FS) (f : Nat) (cwd cwd' : Loc) (hcwd : RealDir fs cwd) (s : Str)
    (hs : s ≠ []) :
    kresolve fs f cwd' (pjoin (render cwd) s) true = kresolve fs f cwd s true := by
  unfold kresolve
  simp only [pjoin_ne_nil _ _ hs, hs, if_false]
  by_cases ha : isabs s = true
  · have : pjoin (render cwd) s = s := by unfold pjoin; simp [ha]
    rw [this]
    simp [startLoc, ha]
  · have ha' : isabs s = false := by simpa using ha
    have hj : isabs (pjoin (render cwd) s) = true := by
      unfold pjoin
      simp only [ha', Bool.false_eq_true, if_false, render_ne_nil, false_or]
      split <;> simp [render, isabs]
    simp only [startLoc, hj, ha', if_true, Bool.false_eq_true, if_false]
    by_cases hc : cwd = []
    · subst hc
      have : pjoin (render []) s = '/' :: s := by
        unfold pjoin; simp [ha', render, joinSep, endsWithSep]
      rw [this, splitSep_sep_cons, walk_step_skip fs f [] [] _ true fs.get_root (Or.inl rfl)]
    · have he := render_endsWithSep cwd (fun c h => (hcwd.1.1 c h).piece) hc
      have : pjoin (render cwd) s = render cwd ++ '/' :: s := by
        unfold pjoin; simp [ha', he, render_ne_nil]
      rw [this, splitSep_append_sep, splitSep_render cwd hcwd.1.1 hc, List.cons_append,
        walk_step_skip fs f [] [] _ true fs.get_root (Or.inl rfl)]
      have := walk_real_prefix fs f cwd [] (splitSep s) true (by simpa using hcwd)
      simpa using this

/-! ### the walker `_all_tensors` reaches every tensor position of a graph -/

mutual
theorem reachGraph_sub : ∀ (g : GTree) (x : String), x ∈ reachGraph g → x ∈ g.inits ∨ x ∈ walkGraphNodes g
  | GTree.mk i nodes, x, h => by
    simp only [reachGraph, List.mem_append] at h
    rcases h with h | h
    · exact Or.inl h
    · exact Or.inr (by simpa [walkGraphNodes] using reachNodes_sub nodes x h)
theorem reachNodes_sub : ∀ (ns : List NTree) (x : String), x ∈ reachNodes ns → x ∈ walkNodes ns
  | [], x, h => by simp [reachNodes] at h
  | n :: ns, x, h => by
    simp only [reachNodes, List.mem_append] at h
    simp only [walkNodes, List.mem_append]
    rcases h with h | h
    · exact Or.inl (reachNode_sub n x h)
    · exact Or.inr (reachNodes_sub ns x h)
theorem reachNode_sub : ∀ (n : NTree) (x : String), x ∈ reachNode n → x ∈ walkNode n
  | NTree.mk ta gs, x, h => by
    simp only [reachNode, List.mem_append] at h
    simp only [walkNode, List.mem_append]
    rcases h with h | h
    · exact Or.inl (Or.inl h)
    · rcases reachGraphs_sub gs x h with h' | h'
      · exact Or.inl (Or.inr h')
      · exact Or.inr h'
theorem reachGraphs_sub : ∀ (gs : List GTree) (x : String), x ∈ reachGraphs gs →
    x ∈ initsOf gs ∨ x ∈ walkGraphs gs
  | [], x, h => by simp [reachGraphs] at h
  | g :: gs, x, h => by
    simp only [reachGraphs, List.mem_append] at h
    simp only [initsOf, walkGraphs, List.mem_append]
    rcases h with h | h
    · rcases reachGraph_sub g x h with h' | h'
      · exact Or.inl (Or.inl h')
      · exact Or.inr (Or.inl h')
    · rcases reachGraphs_sub gs x h with h' | h'
      · exact Or.inl (Or.inr h')
      · exact Or.inr (Or.inr h')
end

theorem reachGraph_allTensors (g : GTree) (x : String) (h : x ∈ reachGraph g) : x ∈ allTensors g :=
  List.mem_append.mpr (reachGraph_sub g x h)

theorem reachFuncs_sub : ∀ (fs : List GTree) (x : String), x ∈ reachFuncs fs → x ∈ funcsTensors fs
  | [], x, h => by simp [reachFuncs] at h
  | f :: fs, x, h => by
    simp only [reachFuncs, List.mem_append] at h
    simp only [funcsTensors, List.mem_append]
    exact h.imp (reachGraph_allTensors f x) (reachFuncs_sub fs x)

end IrVerif.Path
