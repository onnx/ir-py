/-
The rank function that `Ranked` / `StaticRanked` (Lemmas/LinkedSetRec.lean) ask for, derived from
the decidable predicates `RWorld.acyclic` / `RWorld.acyclicStatic` / `RWorld.homedOk` of the model.
-/
import IrVerif.Lemmas.LinkedSetRec
namespace IrVerif.LinkedSet

theorem foldr_max_ge (f : Nat → Nat) : ∀ (l : List Nat) (h : Nat), h ∈ l →
    f h + 1 ≤ l.foldr (fun h m => max (f h + 1) m) 0
  | [], _, hm => by cases hm
  | x :: l, h, hm => by
      simp only [List.foldr_cons]
      rcases List.mem_cons.1 hm with rfl | hm
      · exact Nat.le_max_left _ _
      · exact Nat.le_trans (foldr_max_ge f l h hm) (Nat.le_max_right _ _)

/-- one more unit of fuel never lowers the height -/
theorem hgtG_succ_ge (kids : Nat → List Nat) (k g h : Nat) (hk : h ∈ kids g) :
    hgtG kids k h + 1 ≤ hgtG kids (k + 1) g := by
  simp only [hgtG]
  exact foldr_max_ge (hgtG kids k) (kids g) h hk

/-- a graph without subgraphs has height 0 whatever the fuel -/
theorem hgtG_leaf (kids : Nat → List Nat) (g : Nat) (hg : kids g = []) : ∀ k, hgtG kids k g = 0
  | 0 => rfl
  | k + 1 => by simp [hgtG, hg]

/-- **the height is a rank**: where the height is stable, it strictly decreases along the
    nesting -/
theorem hgtG_rank (kids : Nat → List Nat) (n : Nat) (gs : List Nat) (hs : stableG kids n gs = true)
    (hall : ∀ g, kids g ≠ [] → g ∈ gs) (g h : Nat) (hk : h ∈ kids g) :
    hgtG kids n h < hgtG kids n g := by
  have hg : g ∈ gs := hall g (by intro e; rw [e] at hk; cases hk)
  have := List.all_eq_true.1 hs g hg
  have e : hgtG kids n g = hgtG kids (n + 1) g := by simpa using this
  rw [e]
  exact hgtG_succ_ge kids n g h hk

theorem kidsOf_mem {w : RWorld} {d : Dir} {vs : List Nat} {v h : Nat} (hv : v ∈ vs)
    (hr : w.recurse v = true) (hh : h ∈ w.visit d v) : h ∈ w.kidsOf d vs := by
  simp only [RWorld.kidsOf, List.mem_flatMap, List.mem_filter]
  exact ⟨v, ⟨hv, hr⟩, hh⟩

theorem setOf_ge_empty (w : RWorld) (g : Nat) (hg : w.sets.length ≤ g) : w.setOf g = empty := by
  simp [RWorld.setOf, List.getD, List.getElem?_eq_none hg]

theorem rkids_covered (w : RWorld) (d : Dir) (g : Nat) (hne : w.kids d g ≠ []) :
    g ∈ List.range w.sets.length := by
  apply List.mem_range.2
  apply Nat.lt_of_not_le
  intro hle
  apply hne
  simp [RWorld.kids, RWorld.kidsOf, setOf_ge_empty w g hle, toList_empty]

theorem skids_covered (w : RWorld) (d : Dir) (home : Nat → Nat) (g : Nat) (hne : w.skids d home g ≠ []) :
    g ∈ w.attrs.map (fun p => home p.1) := by
  simp only [RWorld.skids, RWorld.kidsOf] at hne
  have : ∃ x, x ∈ ((w.attrs.map (·.1)).filter (fun v => home v == g)) := by
    cases hx : (w.attrs.map (·.1)).filter (fun v => home v == g) with
    | nil => simp [hx] at hne
    | cons x _ => exact ⟨x, by simp⟩
  obtain ⟨x, hx⟩ := this
  obtain ⟨hx1, hx2⟩ := List.mem_filter.1 hx
  obtain ⟨p, hp, rfl⟩ := List.mem_map.1 hx1
  exact List.mem_map.2 ⟨p, hp, by simpa using hx2⟩

/-- the dynamic nesting is ranked by the height when no graph is nested in itself -/
theorem ranked_of_acyclic {w : RWorld} {d : Dir} (ha : w.acyclic d = true) : Ranked w d (w.hgt d) := by
  intro g v hv hrec h hh
  have hk : h ∈ w.kids d g := kidsOf_mem hv hrec hh
  exact hgtG_rank (w.kids d) w.sets.length (List.range w.sets.length) ha (rkids_covered w d) g h hk

theorem visit_mem_attrs {w : RWorld} {d : Dir} {v h : Nat} (hh : h ∈ w.visit d v) :
    v ∈ w.attrs.map (·.1) := by
  cases hl : w.attrs.lookup v with
  | none => simp [RWorld.visit, RWorld.attrsOf, hl] at hh
  | some as =>
    have := List.lookup_eq_some_iff.1 hl
    obtain ⟨l1, l2, e, _⟩ := this
    rw [e]; simp

/-- the static nesting is ranked by its height when it has no cycle -/
theorem static_ranked_of_acyclic {w : RWorld} {d : Dir} {home : Nat → Nat}
    (ha : w.acyclicStatic d home = true) : StaticRanked w d (w.shgt d home) home := by
  intro v hrec h hh
  have hv := visit_mem_attrs hh
  have hk : h ∈ w.skids d home (home v) :=
    kidsOf_mem (List.mem_filter.2 ⟨hv, by simp⟩) hrec hh
  exact hgtG_rank (w.skids d home) w.attrs.length (w.attrs.map (fun (p : Nat × List Attr) => home p.1)) ha
    (skids_covered w d home) _ h hk

theorem homed_of_ok {w : RWorld} {home : Nat → Nat} (h : w.homedOk home = true) : Homed w home := by
  intro g v hv
  by_cases hg : g < w.sets.length
  · have := List.all_eq_true.1 h g (List.mem_range.2 hg)
    have := List.all_eq_true.1 this v hv
    simpa using this
  · rw [setOf_ge_empty w g (Nat.le_of_not_lt hg), toList_empty] at hv
    cases hv

theorem hgtG_le (kids : Nat → List Nat) : ∀ k g, hgtG kids k g ≤ k
  | 0, _ => Nat.le_refl _
  | k + 1, g => by
      simp only [hgtG]
      generalize kids g = l
      induction l with
      | nil => simp
      | cons x l ih =>
        simp only [List.foldr_cons]
        exact Nat.max_le.2 ⟨Nat.succ_le_succ (hgtG_le kids k x), ih⟩

end IrVerif.LinkedSet
