/-
C16: the Unicode-parametric tokenizer instantiated with the ASCII classification is
the ASCII tokenizer.
-/
import IrVerif.Model.SymLexU
import IrVerif.Lemmas.SymExprToken
namespace IrVerif.SymExpr

theorem alpha_identStart {c : Char} (h : isAlpha c = true) : identStart c = true := by
  simp [identStart, h]

/-- the four classes of the ASCII classification are disjoint: its value with all three tests -/
theorem asciiClass_cases (c : Char) :
    (isSpace c = true ∧ isDigit c = false ∧ isAlpha c = false ∧ asciiClass c = .space) ∨
    (isSpace c = false ∧ isDigit c = true ∧ isAlpha c = false ∧
      asciiClass c = .digit (some (digitVal c))) ∨
    (isSpace c = false ∧ isDigit c = false ∧ isAlpha c = true ∧ asciiClass c = .alpha) ∨
    (isSpace c = false ∧ isDigit c = false ∧ isAlpha c = false ∧ asciiClass c = .other) := by
  have h1 : isDigit c = true → isSpace c = false := digit_notSpace
  have h2 : isAlpha c = true → isSpace c = false := fun h => identStart_notSpace (alpha_identStart h)
  have h3 : isAlpha c = true → isDigit c = false := fun h => identStart_notDigit (alpha_identStart h)
  unfold asciiClass
  cases hs : isSpace c <;> cases hd : isDigit c <;> cases ha : isAlpha c <;> simp_all

theorem asciiClass_isSpace (c : Char) : (asciiClass c).isSpace = isSpace c := by
  rcases asciiClass_cases c with h | h | h | h <;> simp [h, CClass.isSpace]

theorem asciiClass_isDigit (c : Char) : (asciiClass c).isDigit = isDigit c := by
  rcases asciiClass_cases c with h | h | h | h <;> simp [h, CClass.isDigit]

theorem asciiClass_isAlpha (c : Char) : (asciiClass c).isAlpha = isAlpha c := by
  rcases asciiClass_cases c with h | h | h | h <;> simp [h, CClass.isAlpha]

theorem asciiClass_isAlnum (c : Char) : (asciiClass c).isAlnum = isAlnum c := by
  rcases asciiClass_cases c with h | h | h | h <;> simp [h, CClass.isAlnum, isAlnum]

theorem asciiClass_digit {c : Char} (h : isDigit c = true) : asciiClass c = .digit (some (digitVal c)) := by
  rcases asciiClass_cases c with h' | h' | h' | h' <;> simp_all

theorem asciiClass_notDigit {c : Char} (h : isDigit c = false) : ∀ v, asciiClass c ≠ .digit v := by
  rcases asciiClass_cases c with h' | h' | h' | h' <;> simp_all

theorem takeDigitsK_ascii : ∀ (cs : List Char) (acc : Nat),
    takeDigitsK asciiClass (some acc) cs = ((some (takeDigits acc cs).1), (takeDigits acc cs).2)
  | [], acc => rfl
  | c :: cs, acc => by
    by_cases hd : isDigit c = true
    · simp only [takeDigitsK, asciiClass_digit hd, takeDigits, hd, if_true]
      exact takeDigitsK_ascii cs _
    · have hd' : isDigit c = false := by simpa using hd
      simp only [takeDigits, hd', Bool.false_eq_true, if_false]
      unfold takeDigitsK
      split
      · next v hv => exact absurd hv (asciiClass_notDigit hd' v)
      · rfl

theorem takeIdentK_ascii : ∀ (cs acc : List Char), takeIdentK asciiClass acc cs = takeIdent acc cs
  | [], acc => rfl
  | c :: cs, acc => by
    simp only [takeIdentK, takeIdent, identCont, asciiClass_isAlnum]
    by_cases h : (isAlnum c || c == '_' || c == '.') = true
    · simp only [h, if_true]; exact takeIdentK_ascii cs _
    · simp only [h]; rfl

/-- an equation of functions: the recursive calls are rewritten before the token match is met -/
theorem tokenizeAuxK_ascii : ∀ f : Nat, tokenizeAuxK asciiClass f = tokenizeAux f
  | 0 => rfl
  | f + 1 => by
    funext cs
    rcases cs with _ | ⟨c, cs⟩
    · rfl
    · simp only [tokenizeAuxK, tokenizeAux, tokenizeAuxK_ascii f, asciiClass_isSpace,
        asciiClass_isDigit, asciiClass_isAlpha, identStart, takeDigitsK_ascii, takeIdentK_ascii]
      -- what is left are the two compiled `match`es on `c, cs`: different constants, same body
      rfl

theorem tokenizeK_ascii (cs : List Char) : tokenizeK asciiClass cs = tokenize cs :=
  congrFun (tokenizeAuxK_ascii _) cs

end IrVerif.SymExpr
