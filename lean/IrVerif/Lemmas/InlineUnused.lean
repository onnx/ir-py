/-
Lemmas/InlineUnused.lean — RemoveUnusedFunctionsPass and RemoveUnusedOpsetsPass: deleting functions that no remaining node
calls (`findFunc_filter`, `fenv_filter_closed`) and rewriting opset imports (`fenv_map_domains`) keep the function environment.
-/
import IrVerif.Lemmas.InlineSem
namespace IrVerif.Inline
open IrVerif.Sem IrVerif.Passes
variable {Val : Type}

theorem findFunc_filter (fs : List Func) (keep : OpId → Bool) (op : OpId)
    (h : keep op = true ∨ findFunc fs op = none) :
    findFunc (fs.filter (fun f => keep f.id)) op = findFunc fs op := by
  induction fs with
  | nil => rfl
  | cons f fs ih =>
    by_cases hid : f.id = op
    · have hk : keep f.id = true := by
        rcases h with h | h
        · rw [hid]; exact h
        · simp [findFunc, hid] at h
      have hk' : keep op = true := hid ▸ hk
      simp [findFunc, hk', hid]
    · have hne : (f.id == op) = false := by simpa using hid
      have ih' := ih (by
        rcases h with h | h
        · exact Or.inl h
        · right; simpa [findFunc, List.find?_cons, hne] using h)
      simp only [findFunc] at ih' ⊢
      by_cases hk : keep f.id = true
      · simp only [List.filter_cons, hk, if_true, List.find?_cons, hne]; exact ih'
      · simp only [List.filter_cons, hk, List.find?_cons, hne]; exact ih'

/-- deleting functions: the function environment is unchanged at the operators that are kept or are not
    functions, provided the kept functions call only kept functions -/
theorem fenv_filter_closed (I : Interp Val) (fs : List Func) (keep : OpId → Bool)
    (hcl : ∀ op f, findFunc fs op = some f → keep op = true →
      opsAllNodes (fun o => keep o || (findFunc fs o).isNone) f.nodes = true) :
    ∀ (d : Nat) (op : OpId), (keep op = true ∨ findFunc fs op = none) →
      fenv I (fs.filter (fun f => keep f.id)) d op = fenv I fs d op
  | 0, _, _ => by rw [fenv_zero, fenv_zero]
  | d + 1, op, h => by
    rw [fenv_succ, fenv_succ, findFunc_filter fs keep op h]
    cases hf : findFunc fs op with
    | none => rw [Option.map_none, Option.map_none]
    | some f =>
      have hk : keep op = true := h.resolve_right (by rw [hf]; exact Option.some_ne_none f)
      refine congrArg some (funcDen_congrΦ I _ _ _ (fun o ho => ?_) f (hcl op f hf hk))
      refine fenv_filter_closed I fs keep hcl d o ?_
      simpa only [Bool.or_eq_true, Option.isNone_iff_eq_none] using ho

theorem reachIter_subset (tbl : List Func) : ∀ (k : Nat) (used : List OpId) (op : OpId), op ∈ used →
    op ∈ reachIter tbl k used
  | 0, _, _, h => h
  | k + 1, used, op, h => reachIter_subset tbl k _ op (by simp [reachStep, h])

theorem findFunc_map_domains (fs : List Func) (g : Func → List String) (op : OpId) :
    findFunc (fs.map (fun f => { f with domains := g f })) op =
      (findFunc fs op).map (fun f => { f with domains := g f }) := by
  induction fs with
  | nil => rfl
  | cons f fs ih =>
    simp only [findFunc] at ih ⊢
    simp only [List.map_cons, List.find?_cons]
    cases h : (f.id == op) with
    | true => simp
    | false => simp only [ih]

theorem fenv_map_domains (I : Interp Val) (fs : List Func) (g : Func → List String) :
    ∀ d, fenv I (fs.map (fun f => { f with domains := g f })) d = fenv I fs d
  | 0 => rfl
  | d + 1 => by
    funext op
    simp only [fenv, findFunc_map_domains, fenv_map_domains I fs g d]
    cases findFunc fs op with
    | none => rfl
    | some f => rfl

end IrVerif.Inline
