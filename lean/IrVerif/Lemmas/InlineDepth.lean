/-
Lemmas/InlineDepth.lean — the call depth of a non-recursive function table is at most its number of functions
(a chain of calls of strictly decreasing exact depth consists of distinct functions), so the denotation of a model
at its canonical depth (`denoteF`) is the denotation at every larger depth.  Used by `C05_inline_canonical`.
-/
import IrVerif.Lemmas.InlineSem
namespace IrVerif.Inline
open IrVerif.Sem IrVerif.Passes

/-- an operator of exact call depth `d + 1` heads a chain of `d + 1` distinct functions -/
theorem lvl_chain (fs : List Func) : ∀ (d : Nat) (op : OpId), lvl fs (d + 1) op = true → lvl fs d op = false →
    ∃ l : List OpId, l.length = d + 1 ∧ l.Nodup ∧ ∀ x ∈ l, x ∈ fs.map (·.id) ∧ lvl fs (d + 1) x = true
  | 0, op, h1, h0 => by
    refine ⟨[op], rfl, by simp, fun x hx => ?_⟩
    simp only [List.mem_singleton] at hx
    subst hx
    refine ⟨?_, h1⟩
    simp only [lvl] at h0
    cases hf : findFunc fs x with
    | none => rw [hf] at h0; simp at h0
    | some f => exact List.mem_map.2 ⟨f, (findFunc_some hf).1, (findFunc_some hf).2⟩
  | d + 1, op, h1, h0 => by
    rw [lvl] at h1 h0
    cases hf : findFunc fs op with
    | none => rw [hf] at h0; simp at h0
    | some f =>
      rw [hf] at h1 h0
      simp only at h1 h0
      have hex : ∃ op' ∈ opsNodes f.nodes, lvl fs d op' = false := by
        apply Classical.byContradiction
        intro hne
        have : opsAllNodes (lvl fs d) f.nodes = true := by
          rw [opsAllNodes_iff]
          intro op' hop'
          cases hl : lvl fs d op' with
          | true => rfl
          | false => exact absurd ⟨op', hop', hl⟩ hne
        rw [this] at h0; cases h0
      obtain ⟨op', hop', hl'⟩ := hex
      have hl1 : lvl fs (d + 1) op' = true := (opsAllNodes_iff _ _).1 h1 op' hop'
      obtain ⟨l, hlen, hnd, hall⟩ := lvl_chain fs d op' hl1 hl'
      have hopl : lvl fs (d + 1) op = false := by
        rw [lvl, hf]; exact h0
      refine ⟨op :: l, by simp [hlen], List.nodup_cons.2 ⟨fun hmem => ?_, hnd⟩, fun x hx => ?_⟩
      · have := (hall op hmem).2
        rw [hopl] at this; cases this
      · rcases List.mem_cons.1 hx with hx | hx
        · subst hx
          refine ⟨List.mem_map.2 ⟨f, (findFunc_some hf).1, (findFunc_some hf).2⟩, ?_⟩
          rw [lvl, hf]; exact h1
        · exact ⟨(hall x hx).1, lvl_mono fs _ x (hall x hx).2⟩

/-- a finite call tree in a table of `n` functions has depth at most `n` -/
theorem lvl_le_length (fs : List Func) : ∀ (k : Nat) (op : OpId), lvl fs k op = true → lvl fs fs.length op = true
  | 0, op, h => lvl_mono_le fs (Nat.zero_le _) op h
  | k + 1, op, h => by
    cases hk : lvl fs k op with
    | true => exact lvl_le_length fs k op hk
    | false =>
      obtain ⟨l, hlen, hnd, hall⟩ := lvl_chain fs k op h hk
      have hle := List.Nodup.length_le_of_subset hnd (fun x hx => (hall x hx).1)
      rw [hlen, List.length_map] at hle
      exact lvl_mono_le fs hle op h

theorem depthOK_canonical (fs : List Func) (k : Nat) (h : depthOK k fs = true) : depthOK fs.length fs = true := by
  simp only [depthOK, List.all_eq_true] at h ⊢
  exact fun f hf => lvl_le_length fs k f.id (h f hf)

/-- at every depth from the number of functions on a model whose call trees are that shallow denotes what it
    denotes at its canonical depth -/
theorem denoteAt_of_depthOK (m : FModel) (hl : depthOK m.funcs.length m.funcs = true) {Val : Type} (I : Interp Val)
    (d : Nat) (hd : m.funcs.length ≤ d) (xs : List Val) : denoteAt d I m xs = denoteF I m xs := by
  simp only [depthOK, List.all_eq_true] at hl
  simp only [denoteF, denoteAt]
  have hall : ∀ (g : FGraph), opsAllG (lvl m.funcs m.funcs.length) g = true := fun g =>
    opsAllG_mono (p := fun _ => true) (fun op _ => lvl_of_funcs hl op) g (opsAllG_true g)
  exact congrFun (evalGF_congrΦ I _ _ (lvl m.funcs m.funcs.length)
    (fun op hop => fenv_stable I m.funcs _ op hop d hd) [] m.graph Env.empty (hall m.graph)) xs

end IrVerif.Inline
