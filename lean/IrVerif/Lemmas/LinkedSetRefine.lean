/-
Refinement of concrete cursors to the abstract list-with-gaps cursors, for the two primitive
transitions (`rmv`: a present value is removed; `lnkS`: an absent value is linked in).
-/
import IrVerif.Lemmas.LinkedSetScan
namespace IrVerif.LinkedSet

/-- index of node `t` counted from the front; the root counts as "past the end" -/
def posF (bs : List Nat) (t : Nat) : Nat := bs.idxOf t
/-- number of boxes up to and including node `t`; the root counts as 0 -/
def posR (bs : List Nat) (t : Nat) : Nat := if t = 0 then 0 else bs.idxOf t + 1

/-- the index of an `att` cursor parked on node `t` -/
def posAtt : Dir → List Nat → Nat → Nat
  | .fwd => posR
  | .rev => posF

/-- the index of a `gap` cursor that resolves to node `t` -/
def posGap : Dir → List Nat → Nat → Nat
  | .fwd => posF
  | .rev => posR

/-- abstract cursor computed from the box list (ghost) -/
def acur (s : LSet) (bs : List Nat) (d : Dir) (c : Cursor) : Spec.ACur :=
  match c with
  | .done => .done
  | c => if IsNode bs c.pos then .att (posAtt d bs c.pos) else .gap (posGap d bs (tg s d (hop s d c.pos)))

theorem acur_def (s : LSet) (bs : List Nat) (d : Dir) {c : Cursor} (hc : c ≠ .done) :
    acur s bs d c =
      if IsNode bs c.pos then .att (posAtt d bs c.pos) else .gap (posGap d bs (tg s d (hop s d c.pos))) := by
  cases c with
  | done => exact absurd rfl hc
  | notStarted => rfl
  | «at» b => rfl

/-! ### index arithmetic on duplicate-free lists -/

/-- all the index arithmetic below is this fact and `omega` -/
theorem idxOf_insMid {l1 l2 : List Nat} {n t : Nat} (htn : t ≠ n) :
    (l1 ++ n :: l2).idxOf t =
      if l1.length ≤ (l1 ++ l2).idxOf t then (l1 ++ l2).idxOf t + 1 else (l1 ++ l2).idxOf t := by
  rw [List.idxOf_append, List.idxOf_append]
  by_cases h1 : t ∈ l1
  · have := List.idxOf_lt_length_of_mem h1
    rw [if_pos h1, if_pos h1, if_neg (by omega)]
  · rw [if_neg h1, if_neg h1, List.idxOf_cons, beq_false_of_ne (Ne.symm htn), cond_false,
      if_pos (Nat.le_add_left _ _)]
    omega

theorem eq_of_idxOf_mid {l1 l2 : List Nat} {n x : Nat} (e : (l1 ++ n :: l2).idxOf x = l1.length) :
    x = n := by
  by_cases hx : x = n
  · exact hx
  · rw [idxOf_insMid hx] at e
    split at e <;> omega

theorem headOr_posF {l1 l2 : List Nat} (hnd : (l1 ++ l2).Nodup) (h0 : 0 ∉ l1 ++ l2) :
    posF (l1 ++ l2) (headOr 0 l2) = l1.length := by
  unfold posF
  cases l2 with
  | nil => rw [headOr_nil, List.idxOf_eq_length h0, List.append_nil]
  | cons q l2 =>
    rw [headOr_cons]
    exact idxOf_mid fun hm => (nodup_insMid.1 hnd).1 (List.mem_append_left _ hm)

theorem lastOr_posR (l1 r : List Nat) (hnd : (l1 ++ r).Nodup) (h0 : 0 ∉ l1) :
    posR (l1 ++ r) (lastOr 0 l1) = l1.length := by
  rcases List.eq_nil_or_concat l1 with rfl | ⟨A, x, rfl⟩
  · rfl
  · rw [List.concat_eq_append] at *
    have hx : x ≠ 0 := fun e => h0 (e ▸ List.mem_append_right _ (List.mem_singleton.2 rfl))
    rw [List.append_assoc, List.singleton_append] at hnd ⊢
    rw [lastOr_append_singleton, posR, if_neg hx,
      idxOf_mid fun hm => (nodup_insMid.1 hnd).1 (List.mem_append_left _ hm),
      List.length_append, List.length_singleton]

theorem posF_rmv {l1 l2 : List Nat} {n t : Nat} (hnd : (l1 ++ n :: l2).Nodup)
    (h0 : 0 ∉ l1 ++ n :: l2) :
    posF (l1 ++ l2) (if t = n then headOr 0 l2 else t) =
      if l1.length < posF (l1 ++ n :: l2) t then posF (l1 ++ n :: l2) t - 1 else posF (l1 ++ n :: l2) t := by
  obtain ⟨hn, hnd'⟩ := nodup_insMid.1 hnd
  by_cases htn : t = n
  · subst htn
    rw [if_pos rfl, headOr_posF hnd' fun hm => h0 (mem_insMid.2 (Or.inr hm)), posF,
      idxOf_mid fun hm => hn (List.mem_append_left _ hm), if_neg (Nat.lt_irrefl _)]
  · rw [if_neg htn, posF, posF, idxOf_insMid htn]
    split <;> split <;> omega

theorem posR_rmv {l1 l2 : List Nat} {n t : Nat} (hnd : (l1 ++ n :: l2).Nodup)
    (h0 : 0 ∉ l1 ++ n :: l2) :
    posR (l1 ++ l2) (if t = n then lastOr 0 l1 else t) =
      if l1.length < posR (l1 ++ n :: l2) t then posR (l1 ++ n :: l2) t - 1 else posR (l1 ++ n :: l2) t := by
  obtain ⟨hn, hnd'⟩ := nodup_insMid.1 hnd
  by_cases htn : t = n
  · subst htn
    have hn0 : t ≠ 0 := fun e => h0 (e ▸ mem_insMid.2 (Or.inl rfl))
    rw [if_pos rfl, lastOr_posR l1 l2 hnd' fun hm => h0 (List.mem_append_left _ hm), posR,
      if_neg hn0, idxOf_mid fun hm => hn (List.mem_append_left _ hm), if_pos (Nat.lt_succ_self _)]
    rfl
  · rw [if_neg htn, posR, posR]
    by_cases ht0 : t = 0
    · simp only [if_pos ht0, Nat.not_lt_zero, if_false]
    · simp only [if_neg ht0]
      rw [idxOf_insMid htn]
      split <;> split <;> omega

theorem posF_ins {l1 l2 : List Nat} {m t : Nat} (hm : m ∉ l1 ++ l2) (hm0 : m ≠ 0)
    (ht : IsNode (l1 ++ l2) t) :
    posF (l1 ++ m :: l2) t =
      if l1.length ≤ posF (l1 ++ l2) t then posF (l1 ++ l2) t + 1 else posF (l1 ++ l2) t :=
  idxOf_insMid (IsNode.ne ht hm0 hm)

theorem posR_ins {l1 l2 : List Nat} {m t : Nat} (hm : m ∉ l1 ++ l2) (hm0 : m ≠ 0)
    (ht : IsNode (l1 ++ l2) t) :
    posR (l1 ++ m :: l2) t =
      if l1.length < posR (l1 ++ l2) t then posR (l1 ++ l2) t + 1 else posR (l1 ++ l2) t := by
  unfold posR
  by_cases ht0 : t = 0
  · simp only [if_pos ht0, Nat.not_lt_zero, if_false]
  · simp only [if_neg ht0]
    rw [idxOf_insMid (IsNode.ne ht hm0 hm)]
    split <;> split <;> omega

/-! ### resolution through tombstones is stable under the primitive transitions -/

theorem hop_rmv {s : LSet} {l1 l2 : List Nat} {n v : Nat} (h : Inv s (l1 ++ n :: l2)) (d : Dir)
    {x : Nat} (hx : x ≠ 0) (hxb : x ∉ l1 ++ l2) : hop (rmv s n v) d x = hop s d x := by
  cases d with
  | fwd => rw [hop, hop, h.nx_rmv, if_neg ((IsNode.lastOr l1 l2).ne hx hxb).symm]
  | rev => rw [hop, hop, h.pv_rmv, if_neg ((IsNode.headOr l1 l2).ne hx hxb).symm]

theorem hop_node_rmv {s : LSet} {l1 l2 : List Nat} {n : Nat} (h : Inv s (l1 ++ n :: l2)) (d : Dir) :
    IsNode (l1 ++ l2) (hop s d n) := by
  cases d with
  | fwd => rw [hop, h.around.2.1]; exact .headOr l1 l2
  | rev => rw [hop, h.around.1]; exact .lastOr l1 l2

theorem Tgt_rmv {s : LSet} {l1 l2 : List Nat} {n v : Nat} (h : Inv s (l1 ++ n :: l2)) (d : Dir)
    {x t : Nat} (ht : Tgt s (l1 ++ n :: l2) d x t) : x < size s →
    Tgt (rmv s n v) (l1 ++ l2) d x (if t = n then hop s d n else t) := by
  have hn0 : n ≠ 0 := by have := (h.live n (by simp)).1; omega
  have hnd := h.nodup
  induction ht with
  | root => intro _; simp only [Ne.symm hn0, if_false]; exact .root
  | @live x hx =>
    intro _
    by_cases hxn : x = n
    · subst hxn
      simp only [if_true]
      have hnb : x ∉ l1 ++ l2 := (nodup_insMid.1 hnd).1
      refine .hop hn0 hnb ?_
      rw [hop_rmv h d hn0 hnb]
      exact Tgt.of_node (hop_node_rmv h d)
    · simp only [hxn, if_false]
      exact .live ((mem_insMid.1 hx).resolve_left hxn)
  | @hop x t hx0 hxb _ ih =>
    intro hx
    have hxb' : x ∉ l1 ++ l2 := fun hm => hxb (mem_insMid.2 (Or.inr hm))
    refine .hop hx0 hxb' ?_
    rw [hop_rmv h d hx0 hxb']
    exact ih (h.hop_lt d hx)

theorem hop_lnk {s : LSet} {l1 l2 : List Nat} {v : Nat} (h : Inv s (l1 ++ l2)) (d : Dir)
    {x : Nat} (hx : x ≠ 0) (hxb : x ∉ l1 ++ l2) (hxs : x < size s) :
    hop (lnkS s (lastOr 0 l1) v) d x = hop s d x := by
  cases d with
  | fwd =>
    rw [hop, hop, h.nx_lnk, if_neg (Nat.ne_of_lt hxs), if_neg ((IsNode.lastOr l1 l2).ne hx hxb).symm]
  | rev =>
    rw [hop, hop, h.pv_lnk, if_neg ((IsNode.headOr l1 l2).ne hx hxb).symm, if_neg (Nat.ne_of_lt hxs)]

theorem Tgt_lnk {s : LSet} {l1 l2 : List Nat} {v : Nat} (h : Inv s (l1 ++ l2)) (d : Dir)
    {x t : Nat} (ht : Tgt s (l1 ++ l2) d x t) : x < size s →
    Tgt (lnkS s (lastOr 0 l1) v) (l1 ++ size s :: l2) d x t := by
  induction ht with
  | root => intro _; exact .root
  | @live x hx => intro _; exact .live (mem_insMid.2 (Or.inr hx))
  | @hop x t hx0 hxb _ ih =>
    intro hx
    have hxb' : x ∉ l1 ++ size s :: l2 :=
      fun hm => (mem_insMid.1 hm).elim (Nat.ne_of_lt hx) hxb
    refine .hop hx0 hxb' ?_
    rw [hop_lnk h d hx0 hxb hx]
    exact ih (h.hop_lt d hx)

/-! ### the abstract cursor follows `Spec.curRemove` / `Spec.curInsert` -/

section
variable {s : LSet} {l1 l2 : List Nat} {n : Nat}

theorem gap_rmv (h : Inv s (l1 ++ n :: l2)) (d : Dir) (t : Nat) :
    Spec.curRemove d l1.length (.gap (posGap d (l1 ++ n :: l2) t)) =
      .gap (posGap d (l1 ++ l2) (if t = n then hop s d n else t)) := by
  obtain ⟨hpn, hqn, _, _⟩ := h.around
  cases d with
  | fwd =>
    simp only [posGap, hop, hqn, posF_rmv h.nodup h.zero_notin, Spec.curRemove]
    exact (apply_ite _ _ _ _).symm
  | rev =>
    simp only [posGap, hop, hpn, posR_rmv h.nodup h.zero_notin, Spec.curRemove]
    exact (apply_ite _ _ _ _).symm

theorem att_rmv (h : Inv s (l1 ++ n :: l2)) (d : Dir) {t : Nat} (htn : t ≠ n) :
    Spec.curRemove d l1.length (.att (posAtt d (l1 ++ n :: l2) t)) = .att (posAtt d (l1 ++ l2) t) := by
  cases d with
  | fwd =>
    have := posR_rmv (t := t) h.nodup h.zero_notin
    simp only [htn, if_false] at this
    have hne : l1.length + 1 ≠ posR (l1 ++ n :: l2) t := by
      unfold posR
      by_cases hc0 : t = 0
      · simp [hc0]
      · simp only [hc0, if_false]
        intro e
        exact htn (eq_of_idxOf_mid (l1 := l1) (l2 := l2) (by omega))
    simp only [posAtt, this, Spec.curRemove, hne, if_false]
    exact (apply_ite _ _ _ _).symm
  | rev =>
    have := posF_rmv (t := t) h.nodup h.zero_notin
    simp only [htn, if_false] at this
    have hne : l1.length ≠ posF (l1 ++ n :: l2) t := fun e => htn (eq_of_idxOf_mid e.symm)
    simp only [posAtt, this, Spec.curRemove, hne, if_false]
    exact (apply_ite _ _ _ _).symm

theorem att_rmv_self (h : Inv s (l1 ++ n :: l2)) (d : Dir) :
    Spec.curRemove d l1.length (.att (posAtt d (l1 ++ n :: l2) n)) =
      .gap (posGap d (l1 ++ l2) (hop s d n)) := by
  have hn0 : n ≠ 0 := Nat.ne_of_gt h.mid_lt.1
  have hn1 : n ∉ l1 := fun hm => (nodup_insMid.1 h.nodup).1 (List.mem_append_left _ hm)
  obtain ⟨hpn, hqn, _, _⟩ := h.around
  have hk : posR (l1 ++ n :: l2) n = l1.length + 1 := by simp [posR, hn0, idxOf_mid hn1]
  have hk2 : posF (l1 ++ n :: l2) n = l1.length := by simp [posF, idxOf_mid hn1]
  cases d with
  | fwd =>
    have := posF_rmv (t := n) h.nodup h.zero_notin
    simp only [if_true] at this
    simp [posAtt, posGap, hop, hqn, this, Spec.curRemove, hk, hk2]
  | rev =>
    have := posR_rmv (t := n) h.nodup h.zero_notin
    simp only [if_true] at this
    simp [posAtt, posGap, hop, hpn, this, Spec.curRemove, hk, hk2]

theorem acur_rmv {v : Nat} (h : Inv s (l1 ++ n :: l2)) (hv : val s n = some v) (d : Dir) (c : Cursor)
    (hp : c.Valid s) :
    acur (rmv s n v) (l1 ++ l2) d c =
      Spec.curRemove d l1.length (acur s (l1 ++ n :: l2) d c) := by
  have h' := inv_rmv h hv
  obtain ⟨hnb, -⟩ := nodup_insMid.1 h.nodup
  have hn0 : n ≠ 0 := Nat.ne_of_gt h.mid_lt.1
  have hsz := size_rmv s n v
  by_cases hcd : c = .done
  · subst hcd; cases d <;> simp [acur, Spec.curRemove]
  rw [acur_def _ _ _ hcd, acur_def _ _ _ hcd]
  by_cases hb : IsNode (l1 ++ n :: l2) c.pos
  · by_cases hbn : c.pos = n
    · -- the cursor's own box is erased: it becomes a gap cursor
      have : ¬ (IsNode (l1 ++ l2) c.pos) := by rw [hbn]; exact not_or.2 ⟨hn0, hnb⟩
      rw [if_neg this, if_pos hb, hbn, att_rmv_self h d, hop_rmv h d hn0 hnb,
        h'.tg_eq (by rw [hsz]; exact h.hop_lt d h.mid_lt.2.1) (Tgt.of_node (hop_node_rmv h d))]
    · have hb' : IsNode (l1 ++ l2) c.pos :=
        hb.imp_right fun hm => (mem_insMid.1 hm).resolve_left hbn
      rw [if_pos hb', if_pos hb, att_rmv h d hbn]
  · have hb' : ¬ (IsNode (l1 ++ l2) c.pos) := fun hh => hb (IsNode.insMid n hh)
    have hlt : hop s d c.pos < size s := h.hop_lt d hp
    rw [if_neg hb', if_neg hb, hop_rmv h d (fun e => hb (Or.inl e)) (fun hm => hb' (Or.inr hm)),
      h'.tg_eq (by rw [hsz]; exact hlt) (Tgt_rmv (v := v) h d (h.tg_spec d hlt) hlt), gap_rmv h d]

end

section
variable {s : LSet} {l1 l2 : List Nat} {m : Nat}

theorem att_ins (d : Dir) (hm : m ∉ l1 ++ l2) (hm0 : m ≠ 0) {t : Nat} (ht : IsNode (l1 ++ l2) t) :
    Spec.curInsert d l1.length (.att (posAtt d (l1 ++ l2) t)) = .att (posAtt d (l1 ++ m :: l2) t) := by
  cases d with
  | fwd =>
    simp only [posAtt, posR_ins hm hm0 ht, Spec.curInsert]
    exact (apply_ite _ _ _ _).symm
  | rev =>
    simp only [posAtt, posF_ins hm hm0 ht, Spec.curInsert]
    exact (apply_ite _ _ _ _).symm

theorem gap_ins (d : Dir) (hm : m ∉ l1 ++ l2) (hm0 : m ≠ 0) {t : Nat} (ht : IsNode (l1 ++ l2) t) :
    Spec.curInsert d l1.length (.gap (posGap d (l1 ++ l2) t)) = .gap (posGap d (l1 ++ m :: l2) t) := by
  cases d with
  | fwd =>
    simp only [posGap, posF_ins hm hm0 ht, Spec.curInsert]
    exact (apply_ite _ _ _ _).symm
  | rev =>
    simp only [posGap, posR_ins hm hm0 ht, Spec.curInsert]
    exact (apply_ite _ _ _ _).symm

theorem acur_lnk {v : Nat} (h : Inv s (l1 ++ l2)) (hv : ∀ b ∈ l1 ++ l2, val s b ≠ some v) (d : Dir)
    (c : Cursor) (hp : c.Valid s) :
    acur (lnkS s (lastOr 0 l1) v) (l1 ++ size s :: l2) d c =
      Spec.curInsert d l1.length (acur s (l1 ++ l2) d c) := by
  have h' := inv_lnk h hv
  have hm : size s ∉ l1 ++ l2 := by
    intro hc; have := (h.live _ hc).2.1; omega
  have hm0 : size s ≠ 0 := by have := h.size_pos; omega
  have hsz : size (lnkS s (lastOr 0 l1) v) = size s + 1 := by rw [size_lnkS]; simp
  by_cases hcd : c = .done
  · subst hcd; cases d <;> simp [acur, Spec.curInsert]
  have hcm : c.pos ≠ size s := Nat.ne_of_lt hp
  rw [acur_def _ _ _ hcd, acur_def _ _ _ hcd]
  by_cases hb : IsNode (l1 ++ l2) c.pos
  · rw [if_pos (IsNode.insMid _ hb), if_pos hb, att_ins d hm hm0 hb]
  · have hb' : ¬ (IsNode (l1 ++ size s :: l2) c.pos) :=
      fun hh => hb (hh.imp_right fun hm => (mem_insMid.1 hm).resolve_left hcm)
    have hlt : hop s d c.pos < size s := h.hop_lt d hp
    have ht := h.tg_spec d hlt
    rw [if_neg hb', if_neg hb, hop_lnk h d (fun e => hb (Or.inl e)) (fun hm => hb (Or.inr hm)) hp,
      h'.tg_eq (by rw [hsz]; omega) (Tgt_lnk (v := v) h d ht hlt), gap_ins d hm hm0 ht.node]

end

end IrVerif.LinkedSet
