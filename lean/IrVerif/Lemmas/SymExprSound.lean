/-
C16: everything the parser accepts has a derivation tree of the documented grammar (so texts
outside the grammar raise), with the tree's meaning as the parse result.
-/
import IrVerif.Lemmas.SymExprParse
namespace IrVerif.SymExpr

theorem addOpOf_some {ts ts' : List Tok} {o : BinOp} (h : addOpOf ts = some (o, ts')) :
    ∃ ao : AddOp, ts = ao.tok :: ts' ∧ o = ao.bin := by
  unfold addOpOf at h
  split at h
  · cases h; exact ⟨.plus, rfl, rfl⟩
  · cases h; exact ⟨.minus, rfl, rfl⟩
  · cases h

theorem mulOpOf_some {ts ts' : List Tok} {o : BinOp} (h : mulOpOf ts = some (o, ts')) :
    ∃ mo : MulOp, ts = mo.tok :: ts' ∧ o = mo.bin := by
  unfold mulOpOf at h
  split at h
  · cases h; exact ⟨.star, rfl, rfl⟩
  · cases h; exact ⟨.slash, rfl, rfl⟩
  · cases h; exact ⟨.dslash, rfl, rfl⟩
  · cases h; exact ⟨.percent, rfl, rfl⟩
  · cases h

theorem applyFn_name {name : String} {args : List Expr} {e : Expr} (h : applyFn name args = some e) :
    (∃ fn : FnN, name = fn.name) ∨ (∃ fn : Fn1, name = fn.name) ∨ (∃ fn : Fn2, name = fn.name) := by
  by_cases h1 : name = "max" ∨ name = "Max" ∨ name = "min" ∨ name = "Min"
  · rcases h1 with h1 | h1 | h1 | h1
    · exact .inl ⟨.max, h1⟩
    · exact .inl ⟨.Max, h1⟩
    · exact .inl ⟨.min, h1⟩
    · exact .inl ⟨.Min, h1⟩
  by_cases h2 : name = "floor" ∨ name = "ceiling" ∨ name = "sqrt" ∨ name = "Abs" ∨ name = "sign"
  · rcases h2 with h2 | h2 | h2 | h2 | h2
    · exact .inr (.inl ⟨.floor, h2⟩)
    · exact .inr (.inl ⟨.ceiling, h2⟩)
    · exact .inr (.inl ⟨.sqrt, h2⟩)
    · exact .inr (.inl ⟨.abs, h2⟩)
    · exact .inr (.inl ⟨.sign, h2⟩)
  by_cases h3 : name = "mod" ∨ name = "Mod"
  · rcases h3 with h3 | h3
    · exact .inr (.inr ⟨.mod, h3⟩)
    · exact .inr (.inr ⟨.Mod, h3⟩)
  simp only [not_or] at h1 h2 h3
  simp [applyFn, h1, h2, h3] at h

/-- what the function table accepts -/
theorem applyFn_some {name : String} {args : List Expr} {e : Expr} (h : applyFn name args = some e) :
    (∃ fn : FnN, name = fn.name ∧ e = fn.apply args) ∨
    (∃ fn : Fn1, name = fn.name ∧ ∃ a, args = [a] ∧ e = .un fn.un a) ∨
    (∃ fn : Fn2, name = fn.name ∧ ∃ a b, args = [a, b] ∧ e = .bin .mod a b) := by
  rcases applyFn_name h with ⟨fn, rfl⟩ | ⟨fn, rfl⟩ | ⟨fn, rfl⟩
  · rw [applyFn_fnN] at h
    exact .inl ⟨fn, rfl, (Option.some.inj h).symm⟩
  · rw [applyFn_fn1] at h
    match args, h with
    | [a], h => exact .inr (.inl ⟨fn, rfl, a, rfl, (Option.some.inj h).symm⟩)
  · rw [applyFn_fn2] at h
    match args, h with
    | [a, b], h => exact .inr (.inr ⟨fn, rfl, a, b, rfl, (Option.some.inj h).symm⟩)

theorem argsTail_sem_nil {d : D .argsTail} (h : (d.sem : List Expr) = []) : d = .atNil := by
  cases d with
  | atNil => rfl
  | atCons e tl => simp [D.sem] at h

theorem argsTail_sem_single {d : D .argsTail} {b : Expr} (h : (d.sem : List Expr) = [b]) :
    ∃ db : D .expr, d = .atCons db .atNil ∧ (db.sem : Expr) = b := by
  cases d with
  | atNil => simp [D.sem] at h
  | atCons e tl =>
    simp only [D.sem, List.cons.injEq] at h
    exact ⟨e, by rw [argsTail_sem_nil h.2], h.1⟩

/-- what each parsing function returns is a derivation of the consumed prefix -/
structure Sound (f : Nat) : Prop where
  expr : ∀ ts e r, parseExpr f ts = some (e, r) →
    ∃ d : D .expr, ts = d.flatten ++ r ∧ (d.sem : Expr) = e
  exprLoop : ∀ acc ts e r, exprLoop f acc ts = some (e, r) →
    ∃ d : D .exprTail, ts = d.flatten ++ r ∧ (d.sem : Expr → Expr) acc = e
  term : ∀ ts e r, parseTerm f ts = some (e, r) →
    ∃ d : D .term, ts = d.flatten ++ r ∧ (d.sem : Expr) = e
  termLoop : ∀ acc ts e r, termLoop f acc ts = some (e, r) →
    ∃ d : D .termTail, ts = d.flatten ++ r ∧ (d.sem : Expr → Expr) acc = e
  unary : ∀ ts e r, parseUnary f ts = some (e, r) →
    ∃ d : D .unary, ts = d.flatten ++ r ∧ (d.sem : Expr) = e
  power : ∀ ts e r, parsePower f ts = some (e, r) →
    ∃ d : D .power, ts = d.flatten ++ r ∧ (d.sem : Expr) = e
  primary : ∀ ts e r, parsePrimary f ts = some (e, r) →
    ∃ d : D .primary, ts = d.flatten ++ r ∧ (d.sem : Expr) = e
  args : ∀ acc ts as r, argsLoop f acc ts = some (as, r) →
    ∃ d : D .argsTail, ts = d.flatten ++ r ∧ as = acc ++ (d.sem : List Expr)

theorem sound_zero : Sound 0 := by
  constructor <;> intros <;> simp_all [parseExpr, exprLoop, parseTerm, termLoop, parseUnary,
    parsePower, parsePrimary, argsLoop]

theorem sound_succ (f : Nat) (ih : Sound f) : Sound (f + 1) := by
  constructor
  · -- parseExpr
    intro ts e r h
    simp only [parseExpr] at h
    split at h
    · next l r1 h1 =>
      obtain ⟨dt, ht, hst⟩ := ih.term ts l r1 h1
      obtain ⟨dl, hl, hsl⟩ := ih.exprLoop l r1 e r h
      exact ⟨.expr dt dl, by simp [D.flatten, ht, hl], by simp only [D.sem, hst, hsl]⟩
    · cases h
  · -- exprLoop
    intro acc ts e r h
    simp only [exprLoop] at h
    split at h
    · next o ts' h0 =>
      obtain ⟨ao, rfl, rfl⟩ := addOpOf_some h0
      split at h
      · next rt ts'' h1 =>
        obtain ⟨dt, ht, hst⟩ := ih.term ts' rt ts'' h1
        obtain ⟨dl, hl, hsl⟩ := ih.exprLoop _ ts'' e r h
        exact ⟨.etCons ao dt dl, by simp [D.flatten, ht, hl], by simp only [D.sem, hst, hsl]⟩
      · cases h
    · cases h
      exact ⟨.etNil, by simp [D.flatten], rfl⟩
  · -- parseTerm
    intro ts e r h
    simp only [parseTerm] at h
    split at h
    · next l r1 h1 =>
      obtain ⟨du, hu, hsu⟩ := ih.unary ts l r1 h1
      obtain ⟨dl, hl, hsl⟩ := ih.termLoop l r1 e r h
      exact ⟨.term du dl, by simp [D.flatten, hu, hl], by simp only [D.sem, hsu, hsl]⟩
    · cases h
  · -- termLoop
    intro acc ts e r h
    simp only [termLoop] at h
    split at h
    · next o ts' h0 =>
      obtain ⟨mo, rfl, rfl⟩ := mulOpOf_some h0
      split at h
      · next rt ts'' h1 =>
        obtain ⟨du, hu, hsu⟩ := ih.unary ts' rt ts'' h1
        obtain ⟨dl, hl, hsl⟩ := ih.termLoop _ ts'' e r h
        exact ⟨.ttCons mo du dl, by simp [D.flatten, hu, hl], by simp only [D.sem, hsu, hsl]⟩
      · cases h
    · cases h
      exact ⟨.ttNil, by simp [D.flatten], rfl⟩
  · -- parseUnary
    intro ts e r h
    rw [parseUnary.eq_def] at h
    split at h
    · cases h
    · next _ _ f' ts' heq =>
      cases heq
      split at h
      · next e' r' h1 =>
        cases h
        obtain ⟨du, hu, hsu⟩ := ih.unary _ _ _ h1
        exact ⟨.neg du, by simp [D.flatten, hu], by simp only [D.sem, hsu]⟩
      · cases h
    · next _ _ _ _ heq _ =>
      cases heq
      obtain ⟨dp, hp, hsp⟩ := ih.power _ _ _ h
      exact ⟨.upow dp, by simp [D.flatten, hp], by simp only [D.sem, hsp]⟩
  · -- parsePower
    intro ts e r h
    simp only [parsePower] at h
    split at h
    · next _ b ts' h1 =>
      obtain ⟨db, hb, hsb⟩ := ih.primary _ _ _ h1
      split at h
      · next e' r' h2 =>
        cases h
        obtain ⟨du, hu, hsu⟩ := ih.unary _ _ _ h2
        exact ⟨.pow db du, by simp [D.flatten, hb, hu], by simp only [D.sem, hsb, hsu]⟩
      · cases h
    · next _ b r1 _ h1 =>
      cases h
      obtain ⟨db, hb, hsb⟩ := ih.primary _ _ _ h1
      exact ⟨.prim db, by simp [D.flatten, hb], by simp only [D.sem, hsb]⟩
    · cases h
  · -- parsePrimary
    intro ts e r h
    rw [parsePrimary.eq_def] at h
    split at h
    · cases h
    · cases h
    · next _ _ _ n _ _ =>
      cases h
      exact ⟨.num n, rfl, rfl⟩
    · next _ _ f' name ts' heq =>
      cases heq
      split at h
      · -- `name()`
        split at h
        · next e' h1 =>
          cases h
          rcases applyFn_some h1 with ⟨fn, rfl, rfl⟩ | ⟨fn, _, a, ha, _⟩ | ⟨fn, _, a, b, ha, _⟩
          · exact ⟨.callN fn .argsNil, by simp [D.flatten], rfl⟩
          · cases ha
          · cases ha
        · cases h
      · split at h
        · next a r1 h1 =>
          obtain ⟨da, hda, hsa⟩ := ih.expr ts' a r1 h1
          split at h
          · next as r2 h2 =>
            obtain ⟨dtl, hdtl, hstl⟩ := ih.args [a] r1 as (.rparen :: r2) h2
            split at h
            · next e' h3 =>
              cases h
              rcases applyFn_some h3 with ⟨fn, rfl, rfl⟩ | ⟨fn, rfl, a', ha, rfl⟩ |
                  ⟨fn, rfl, a', b', ha, rfl⟩
              · exact ⟨.callN fn (.argsCons da dtl), by simp [D.flatten, hda, hdtl],
                  by simp only [D.sem, hstl, hsa, List.cons_append, List.nil_append]⟩
              · -- one argument
                rw [hstl] at ha
                simp only [List.cons_append, List.nil_append, List.cons.injEq] at ha
                cases argsTail_sem_nil ha.2
                exact ⟨.call1 fn da, by simp [D.flatten, hda, hdtl], by simp only [D.sem, hsa, ha.1]⟩
              · -- two arguments
                rw [hstl] at ha
                simp only [List.cons_append, List.nil_append, List.cons.injEq] at ha
                obtain ⟨db, rfl, hsb⟩ := argsTail_sem_single ha.2
                exact ⟨.call2 fn da db, by simp [D.flatten, hda, hdtl],
                  by simp only [D.sem, hsa, ha.1, hsb]⟩
            · cases h
          · cases h
        · cases h
    · next _ _ _ name _ _ _ =>
      cases h
      exact ⟨.ident name, rfl, rfl⟩
    · next _ _ f' ts' heq =>
      cases heq
      split at h
      · next e' r1 h1 =>
        cases h
        obtain ⟨de, hde, hse⟩ := ih.expr _ _ _ h1
        exact ⟨.paren de, by simp [D.flatten, hde], by simp only [D.sem, hse]⟩
      · cases h
    · cases h
  · -- argsLoop
    intro acc ts as r h
    rw [argsLoop.eq_def] at h
    split at h
    · cases h
    · next _ _ _ _ f' ts' heq =>
      cases heq
      split at h
      · next a r1 h1 =>
        obtain ⟨da, hda, hsa⟩ := ih.expr _ _ _ h1
        obtain ⟨dtl, hdtl, hstl⟩ := ih.args _ _ _ _ h
        exact ⟨.atCons da dtl, by simp [D.flatten, hda, hdtl], by simp [D.sem, hstl, hsa]⟩
      · cases h
    · cases h
      exact ⟨.atNil, by simp [D.flatten], by simp [D.sem]⟩

theorem sound_all : ∀ f, Sound f
  | 0 => sound_zero
  | f + 1 => sound_succ f (sound_all f)

/-- whatever `parseTokens` accepts is a sentence of the grammar, parsed to its meaning -/
theorem parseTokens_sound {ts : List Tok} {e : Expr} (h : parseTokens ts = some e) :
    Derives .expr ts e := by
  simp only [parseTokens] at h
  cases h1 : parseExpr (fuelFor ts) ts with
  | none => simp [h1] at h
  | some p =>
    obtain ⟨e', r⟩ := p
    rcases r with _ | ⟨t, r'⟩
    · simp only [h1, Option.some.injEq] at h
      obtain ⟨d, hd, hs⟩ := (sound_all _).expr ts e' [] h1
      exact ⟨d, by simpa using hd.symm, by rw [hs, h]⟩
    · simp [h1] at h

/-- sound at the fuel `g`, then complete at the fuel `parseTokens` starts with -/
theorem parseTokens_of_parseExpr {g : Nat} {ts : List Tok} {e : Expr}
    (h : parseExpr g ts = some (e, [])) : parseTokens ts = some e := by
  obtain ⟨d, hd, hs⟩ := (sound_all g).expr ts e [] h
  exact Derives.parse ⟨d, by simpa using hd.symm, hs⟩

theorem parseExpr_fuel_indep {ts : List Tok} {g : Nat} (hg : fuelFor ts ≤ g) :
    (match parseExpr g ts with | some (e, []) => some e | _ => none) = parseTokens ts := by
  cases hp : parseTokens ts with
  | some e =>
    obtain ⟨d, rfl, rfl⟩ := parseTokens_sound hp
    rw [parseExpr_of_fuel d hg]
  | none =>
    cases hg2 : parseExpr g ts with
    | none => rfl
    | some p =>
      obtain ⟨e, r⟩ := p
      cases r with
      | nil => rw [parseTokens_of_parseExpr hg2] at hp; cases hp
      | cons t r' => rfl

end IrVerif.SymExpr
