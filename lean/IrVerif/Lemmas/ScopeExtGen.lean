/-
What `Ext.merge` / `annotate` / `newNamed` do to `vmeta` and `quant`, and the certificate-free description of a
phase that creates values by name: every new value gets the metadata of its value_info entry and the annotation of
its name, everything below the allocation counter is kept (`NStep`; the phases themselves are walked in
`Lemmas/ScopeExtRun.lean`).
-/
import IrVerif.Lemmas.ScopeExtRTDefs
namespace IrVerif.Scope

theorem normM_nil : normM [] = [] := by
  simp [normM, ssSorted, ssUpdate]

theorem normM_eq (m : SS) (hn : (m.map (·.1)).Nodup) : normM m = ssSorted m := (meta_payload_fix m hn).1

theorem ssSorted_normM (m : SS) (hn : (m.map (·.1)).Nodup) : ssSorted (normM m) = ssSorted m :=
  (meta_payload_fix m hn).2.2

theorem normM_isEmpty (m : SS) (hn : (m.map (·.1)).Nodup) : (normM m).isEmpty = m.isEmpty := by
  rw [normM_eq m hn, ssSorted_isEmpty]

theorem normQ_of_quantOf {ps : SS} (hne : ps ≠ []) :
    (if (ssSorted ps).isEmpty then none else some (ssOfEntries (ssSorted ps))) = normQ (some ps) := by
  have h0 := ssSorted_ne_nil ps hne
  cases h : ssSorted ps with
  | nil => exact absurd h h0
  | cons a r => simp [normQ, h]

theorem mem_emitG {V : Nat → ValueS} {gid : Nat} {ins : List Nat} {inits : List (Name × Nat)} {nodes : List NodeT}
    {outs : List Nat} {v : Nat} : v ∈ emitG V (.mk gid ins inits nodes outs) ↔ v ∈ ins ∨ v ∈ inits.map (·.2) ∨
      (v ∈ nodes.flatMap (liveOuts V) ∧ nameTruthy (V v).name = true) ∨ v ∈ outs ∨ v ∈ emitSubNs V nodes := by
  simp only [emitG, List.mem_append, List.mem_filter, or_assoc]

theorem mem_emitQG {V : Nat → ValueS} {gid : Nat} {ins : List Nat} {inits : List (Name × Nat)} {nodes : List NodeT}
    {outs : List Nat} {v : Nat} : v ∈ emitQG V (.mk gid ins inits nodes outs) ↔ v ∈ ins ∨ v ∈ inits.map (·.2) ∨
      v ∈ nodes.flatMap (liveOuts V) ∨ v ∈ outs ∨ v ∈ emitQSubNs V nodes := by
  simp only [emitQG, List.mem_append, or_assoc]

theorem ssUpdate_nil_right (d : SS) : ssUpdate d [] = d := rfl

theorem Ext.merge_vmeta (x : Ext) (v : Nat) (es : SS) (d : Nat) :
    (x.merge v es).vmeta d = if d = v then ssUpdate (x.vmeta v) es else x.vmeta d := by
  unfold Ext.merge
  cases es with
  | nil =>
    simp only [List.isEmpty_nil, if_true, ssUpdate_nil_right]
    split
    · rename_i h; rw [h]
    · rfl
  | cons e r => simp [Ext.setMeta]

theorem Ext.annotate_vmeta (x : Ext) (qt : List (Name × SS)) (v : Nat) (n : Name) :
    (x.annotate qt v n).vmeta = x.vmeta := by
  unfold Ext.annotate
  split <;> rfl

theorem Ext.annotate_quant_ne (x : Ext) (qt : List (Name × SS)) (v : Nat) (n : Name) {d : Nat} (h : d ≠ v) :
    (x.annotate qt v n).quant d = x.quant d := by
  unfold Ext.annotate
  split
  · rfl
  · simp [Ext.setQuant, h]

theorem Ext.annotate_quant_self (x : Ext) (qt : List (Name × SS)) (v : Nat) (n : Name) (hx : x.quant v = none) :
    (x.annotate qt v n).quant v = quantOf qt n := by
  unfold Ext.annotate quantOf
  cases qt.lookup n with
  | none => simpa using hx
  | some ps => simp [Ext.setQuant]

theorem Ext.newNamed_vmeta_ne (x : Ext) (vt : List (Name × Info × SS)) (qt : List (Name × SS)) (v : Nat) (n : Name)
    {d : Nat} (h : d ≠ v) : (x.newNamed vt qt v n).vmeta d = x.vmeta d := by
  unfold Ext.newNamed
  split
  · rw [Ext.annotate_vmeta, Ext.merge_vmeta]; simp [h]
  · rw [Ext.annotate_vmeta]

theorem Ext.newNamed_quant_ne (x : Ext) (vt : List (Name × Info × SS)) (qt : List (Name × SS)) (v : Nat) (n : Name)
    {d : Nat} (h : d ≠ v) : (x.newNamed vt qt v n).quant d = x.quant d := by
  unfold Ext.newNamed
  split
  · rw [Ext.annotate_quant_ne _ _ _ _ h, Ext.merge_quant]
  · rw [Ext.annotate_quant_ne _ _ _ _ h]

theorem Ext.newNamed_vmeta_self (x : Ext) (vt : List (Name × Info × SS)) (qt : List (Name × SS)) (v : Nat) (n : Name)
    (hx : x.vmeta v = []) : (x.newNamed vt qt v n).vmeta v = metaOf vt n := by
  unfold Ext.newNamed metaOf
  cases vt.lookup n with
  | some e => simp only; rw [Ext.annotate_vmeta, Ext.merge_vmeta]; simp [hx]
  | none => simp only; rw [Ext.annotate_vmeta]; exact hx

theorem Ext.newNamed_quant_self (x : Ext) (vt : List (Name × Info × SS)) (qt : List (Name × SS)) (v : Nat) (n : Name)
    (hx : x.quant v = none) : (x.newNamed vt qt v n).quant v = quantOf qt n := by
  unfold Ext.newNamed
  split
  · exact Ext.annotate_quant_self _ _ _ _ (by rw [Ext.merge_quant]; exact hx)
  · exact Ext.annotate_quant_self _ _ _ _ hx

theorem extFresh_empty : ExtFresh ({} : Store) ({} : Ext) := fun _ _ => ⟨rfl, rfl⟩

theorem ExtFresh.mono {st st' : Store} {x : Ext} (h : ExtFresh st x) (hle : st.nv ≤ st'.nv) : ExtFresh st' x :=
  fun d hd => h d (Nat.le_trans hle hd)

/-- from `(st, x)` to `(st', x')`: names and the extension state of allocated values are kept, every new value got
    the metadata of the entry of its name in `vt` and the annotation of its name in `qt` -/
structure NStep (st st' : Store) (x x' : Ext) (vt : List (Name × Info × SS)) (qt : List (Name × SS)) : Prop where
  le : st.nv ≤ st'.nv
  names : ∀ d, d < st.nv → (st'.vals d).name = (st.vals d).name
  vmeta : ∀ d, d < st.nv → x'.vmeta d = x.vmeta d
  quant : ∀ d, d < st.nv → x'.quant d = x.quant d
  new : ∀ d, st.nv ≤ d → d < st'.nv →
    ∃ n, (st'.vals d).name = some n ∧ x'.vmeta d = metaOf vt n ∧ x'.quant d = quantOf qt n
  fresh : ExtFresh st' x'

theorem NStep.same {st st' : Store} {x : Ext} {vt : List (Name × Info × SS)} {qt : List (Name × SS)}
    (hf : ExtFresh st x) (hnv : st'.nv = st.nv) (hn : ∀ d, (st'.vals d).name = (st.vals d).name) :
    NStep st st' x x vt qt :=
  ⟨by omega, fun d _ => hn d, fun _ _ => rfl, fun _ _ => rfl, fun d h1 h2 => by omega, by
    intro d hd; exact hf d (by omega)⟩

theorem NStep.trans {a b c : Store} {x y z : Ext} {vt : List (Name × Info × SS)} {qt : List (Name × SS)}
    (h1 : NStep a b x y vt qt) (h2 : NStep b c y z vt qt) : NStep a c x z vt qt where
  le := Nat.le_trans h1.le h2.le
  names := fun d hd => by rw [h2.names d (Nat.lt_of_lt_of_le hd h1.le), h1.names d hd]
  vmeta := fun d hd => by rw [h2.vmeta d (Nat.lt_of_lt_of_le hd h1.le), h1.vmeta d hd]
  quant := fun d hd => by rw [h2.quant d (Nat.lt_of_lt_of_le hd h1.le), h1.quant d hd]
  new := fun d h1' h2' => by
    by_cases hb : d < b.nv
    · obtain ⟨n, e1, e2, e3⟩ := h1.new d h1' hb
      exact ⟨n, by rw [h2.names d hb, e1], by rw [h2.vmeta d hb, e2], by rw [h2.quant d hb, e3]⟩
    · exact h2.new d (by omega) h2'
  fresh := h2.fresh

theorem NStep.one {st st1 : Store} {x : Ext} (vt : List (Name × Info × SS)) (qt : List (Name × SS)) (n : Name)
    (hf : ExtFresh st x) (hnv : st1.nv = st.nv + 1) (hname : (st1.vals st.nv).name = some n)
    (hkeep : ∀ d, d < st.nv → (st1.vals d).name = (st.vals d).name) :
    NStep st st1 x (x.newNamed vt qt st.nv n) vt qt where
  le := by omega
  names := hkeep
  vmeta := fun d hd => Ext.newNamed_vmeta_ne _ _ _ _ _ (by omega)
  quant := fun d hd => Ext.newNamed_quant_ne _ _ _ _ _ (by omega)
  new := fun d h1 h2 => by
    have : d = st.nv := by omega
    subst this
    exact ⟨n, hname, Ext.newNamed_vmeta_self _ _ _ _ _ (hf _ (Nat.le_refl _)).1,
      Ext.newNamed_quant_self _ _ _ _ _ (hf _ (Nat.le_refl _)).2⟩
  fresh := fun d hd => by
    rw [Ext.newNamed_vmeta_ne _ _ _ _ _ (by omega), Ext.newNamed_quant_ne _ _ _ _ _ (by omega)]
    exact hf d (by omega)

mutual
theorem extG_quiet (V : Nat → ValueS) (x : Ext) : ∀ (g : GraphT) (outer : List Table), extG V x outer g → QuietOutsG V x g
  | .mk _ ins inits nodes outs, outer, h => by
    simp only [extG] at h
    simp only [QuietOutsG]
    exact extNs_quietOuts V x nodes outer _ h.2.2
theorem extNs_quietOuts (V : Nat → ValueS) (x : Ext) : ∀ (ns : List NodeT) (outer : List Table) (T : Table),
    extNs V x outer T ns → QuietOutsNs V x ns
  | [] => fun _ _ _ => trivial
  | n :: ns => fun outer T h => by
    simp only [extNs] at h
    exact ⟨extN_quiet V x n outer T h.1, extNs_quietOuts V x ns outer _ h.2⟩
theorem extN_quiet (V : Nat → ValueS) (x : Ext) : ∀ (n : NodeT) (outer : List Table) (T : Table),
    extN V x outer T n → QuietOutsN V x n
  | .mk _ _ ins outs subs => fun outer T h => by
    simp only [extN] at h
    exact ⟨h.1, extGs_quiet V x subs _ h.2⟩
theorem extGs_quiet (V : Nat → ValueS) (x : Ext) : ∀ (gs : List GraphT) (scopes : List Table),
    extGs V x scopes gs → QuietOutsGs V x gs
  | [], _, _ => trivial
  | g :: gs, scopes, h => by
    simp only [extGs] at h
    exact ⟨extG_quiet V x g scopes h.1, extGs_quiet V x gs scopes h.2⟩
end

theorem QuietOutsNs.outs {V : Nat → ValueS} {x : Ext} : ∀ {ns : List NodeT}, QuietOutsNs V x ns →
    ∀ n ∈ ns, ∀ v ∈ n.outputs, nameTruthy (V v).name = false → x.quant v = none
  | [], _, _, hn => nomatch hn
  | m :: _, h, n, hn => by
    rcases List.mem_cons.mp hn with rfl | hn
    · obtain ⟨i, g, a, b, c⟩ := n
      exact h.1.1
    · exact h.2.outs n hn

end IrVerif.Scope
