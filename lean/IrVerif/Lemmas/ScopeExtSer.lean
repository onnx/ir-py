/-
The extended serializer (`serGraphE` of `Model/ScopeExt.lean`): inversion lemmas, the entries of the value_info list,
the entries of the quantization_annotation list.
-/
import IrVerif.Lemmas.ScopeExtGen
namespace IrVerif.Scope

theorem xliftS_ok {α : Type} {e : Except SErr α} {a : α} (h : liftS e = .ok a) : e = .ok a := by
  cases e with
  | ok b => simpa [liftS] using h
  | error _ => simp [liftS] at h

theorem xserValues_ok {V : Nat → ValueS} {x : Ext} {vs : List Nat} {ps : List VInfoE} (h : serValuesE V x vs = .ok ps) :
    ps = vs.map (viOfE V x) ∧ ∀ v ∈ vs, (V v).name ≠ none := by
  induction vs generalizing ps with
  | nil =>
    simp only [serValuesE, Except.ok.injEq] at h
    subst h; simp
  | cons v vs ih =>
    simp only [serValuesE] at h
    split at h
    · simp at h
    · rename_i p hp
      split at h
      · simp at h
      · rename_i ps' hps
        simp only [Except.ok.injEq] at h
        subst h
        obtain ⟨e1, e2⟩ := ih hps
        simp only [serValueE] at hp
        split at hp
        · simp at hp
        · rename_i n hn
          simp only [Except.ok.injEq] at hp
          subst hp
          refine ⟨by simp [e1, viOfE, nm, hn], fun w hw => ?_⟩
          simp only [List.mem_cons] at hw
          rcases hw with rfl | hw
          · simp [hn]
          · exact e2 w hw

theorem serValuesE_of_names {V : Nat → ValueS} {x : Ext} {vs : List Nat} (h : ∀ v ∈ vs, (V v).name ≠ none) :
    serValuesE V x vs = .ok (vs.map (viOfE V x)) := by
  induction vs with
  | nil => rfl
  | cons v vs ih =>
    have hv := h v (by simp)
    have := ih (fun w hw => h w (by simp [hw]))
    cases hn : (V v).name with
    | none => exact absurd hn hv
    | some n => simp [serValuesE, serValueE, hn, this, viOfE, nm]

theorem xserGraph_inv {V : Nat → ValueS} {x : Ext} {td : TData} {ver : Option Int} {gid : Nat} {ins : List Nat}
    {inits : List (Name × Nat)} {nodes : List NodeT} {outs : List Nat} {q : GraphE} {ws : Writes}
    (h : serGraphE V x td ver (.mk gid ins inits nodes outs) = .ok (q, ws)) :
    ∃ qIn seen1 qInit seen2 nps qNodes vis2 ws2 qOut seen3,
      (∀ v ∈ ins, (V v).name ≠ none) ∧ (∀ v ∈ outs, (V v).name ≠ none) ∧
      quantInputsE V x (inits.map (·.1)) ins [] = .ok (qIn, seen1) ∧
      quantOnceE V x (inits.map (·.2)) seen1 = .ok (qInit, seen2) ∧
      serNodesE V x td ver true outs nodes = .ok (nps, qNodes, vis2, ws2) ∧
      quantOnceE V x outs seen2 = .ok (qOut, seen3) ∧
      q = .mk (ins.map (viOfE V x)) (serInitsE V x td (ins.map fun v => (V v).name) inits).2.1
            ((serInitsE V x td (ins.map fun v => (V v).name) inits).1 ++ vis2) nps (outs.map (viOfE V x))
            (qIn ++ qInit ++ qNodes ++ qOut) := by
  simp only [serGraphE] at h
  split at h
  · simp at h
  · rename_i insP hi
    split at h
    · simp at h
    · rename_i qIn seen1 hq1
      split at h
      · simp at h
      · rename_i qInit seen2 hq2
        split at h
        · simp at h
        · rename_i nps qNodes vis2 ws2 hn
          split at h
          · simp at h
          · rename_i outsP ho
            split at h
            · simp at h
            · rename_i qOut seen3 hq3
              simp only [Except.ok.injEq, Prod.mk.injEq] at h
              obtain ⟨rfl, _⟩ := h
              obtain ⟨e1, n1⟩ := xserValues_ok (xliftS_ok hi)
              obtain ⟨e2, n2⟩ := xserValues_ok (xliftS_ok ho)
              exact ⟨qIn, seen1, qInit, seen2, nps, qNodes, vis2, ws2, qOut, seen3, n1, n2, xliftS_ok hq1, xliftS_ok hq2, hn,
                xliftS_ok hq3, by rw [e1, e2]⟩

structure GraphSerE (V : Nat → ValueS) (x : Ext) (td : TData) (ver : Option Int) (ins : List Nat)
    (inits : List (Name × Nat)) (nodes : List NodeT) (outs : List Nat) (qIn : List QuantP) (seen1 : List Nat)
    (qInit : List QuantP) (seen2 : List Nat) (nps : List NodeE) (qNodes : List QuantP) (vis2 : List VInfoE) (ws2 : Writes)
    (qOut : List QuantP) (seen3 : List Nat) : Prop where
  ins_named : ∀ v ∈ ins, (V v).name ≠ none
  outs_named : ∀ v ∈ outs, (V v).name ≠ none
  qins : quantInputsE V x (inits.map (·.1)) ins [] = .ok (qIn, seen1)
  qinits : quantOnceE V x (inits.map (·.2)) seen1 = .ok (qInit, seen2)
  nodesE : serNodesE V x td ver true outs nodes = .ok (nps, qNodes, vis2, ws2)
  qouts : quantOnceE V x outs seen2 = .ok (qOut, seen3)

theorem xserGraph_run {V : Nat → ValueS} {x : Ext} {td : TData} {ver : Option Int} {gid : Nat} {ins : List Nat}
    {inits : List (Name × Nat)} {nodes : List NodeT} {outs : List Nat} {q : GraphE} {ws : Writes}
    (h : serGraphE V x td ver (.mk gid ins inits nodes outs) = .ok (q, ws)) :
    ∃ qIn seen1 qInit seen2 nps qNodes vis2 ws2 qOut seen3,
      GraphSerE V x td ver ins inits nodes outs qIn seen1 qInit seen2 nps qNodes vis2 ws2 qOut seen3 ∧
      q = .mk (ins.map (viOfE V x)) (serInitsE V x td (ins.map fun v => (V v).name) inits).2.1
            ((serInitsE V x td (ins.map fun v => (V v).name) inits).1 ++ vis2) nps (outs.map (viOfE V x))
            (qIn ++ qInit ++ qNodes ++ qOut) := by
  obtain ⟨qIn, seen1, qInit, seen2, nps, qNodes, vis2, ws2, qOut, seen3, a, b, c, d, e, f, g⟩ := xserGraph_inv h
  exact ⟨qIn, seen1, qInit, seen2, nps, qNodes, vis2, ws2, qOut, seen3, ⟨a, b, c, d, e, f⟩, g⟩

theorem xserNodes_inv {V : Nat → ValueS} {x : Ext} {td : TData} {ver : Option Int} {annot : Bool} {go : List Nat}
    {n : NodeT} {ns : List NodeT} {nps : List NodeE} {qs : List QuantP} {vis : List VInfoE} {ws : Writes}
    (h : serNodesE V x td ver annot go (n :: ns) = .ok (nps, qs, vis, ws)) :
    ∃ np q1 vi1 ws1 nps' qs' vis' ws2, serNodeE V x td ver annot go n = .ok (np, q1, vi1, ws1) ∧
      serNodesE V x td ver annot go ns = .ok (nps', qs', vis', ws2) ∧ nps = np :: nps' ∧ qs = q1 ++ qs' ∧
      vis = vi1 ++ vis' := by
  simp only [serNodesE] at h
  split at h
  · simp at h
  · rename_i np q1 vi1 ws1 h1
    split at h
    · simp at h
    · rename_i nps' qs' vis' ws2 h2
      simp only [Except.ok.injEq, Prod.mk.injEq] at h
      obtain ⟨rfl, rfl, rfl, _⟩ := h
      exact ⟨np, q1, vi1, ws1, nps', qs', vis', ws2, h1, h2, rfl, rfl, rfl⟩

theorem xserNode_inv {V : Nat → ValueS} {x : Ext} {td : TData} {ver : Option Int} {annot : Bool} {go : List Nat}
    {i : Nat} {g : Option Nat} {ins : List (Option Nat)} {outs : List Nat} {subs : List GraphT} {np : NodeE}
    {q : List QuantP} {vi : List VInfoE} {ws : Writes}
    (h : serNodeE V x td ver annot go (.mk i g ins outs subs) = .ok (np, q, vi, ws)) :
    ∃ gps ds, serSubsE V x td ver subs = .ok (gps, ws) ∧ serDevRsGated V ver (x.devs i) = .ok ds ∧
      nodeOutsE V x annot go outs = .ok (q, vi) ∧
      np = .mk (ins.map (inName V)) ((stripTrailing V outs).map (nm V)) ds gps ∧
      (∀ v, some v ∈ ins → (V v).name ≠ none) ∧ (∀ v ∈ stripTrailing V outs, (V v).name ≠ none) := by
  simp only [serNodeE] at h
  split at h
  · simp at h
  · rename_i insN hi
    split at h
    · simp at h
    · rename_i outsN ho
      split at h
      · simp at h
      · rename_i gps ws' hs
        split at h
        · simp at h
        · rename_i ds hd
          split at h
          · simp at h
          · rename_i q' vi' hno
            simp only [Except.ok.injEq, Prod.mk.injEq] at h
            obtain ⟨rfl, rfl, rfl, rfl⟩ := h
            obtain ⟨e1, n1⟩ := serInputs_ok (xliftS_ok hi)
            obtain ⟨e2, n2⟩ := serOutNames_ok (xliftS_ok ho)
            exact ⟨gps, ds, hs, hd, xliftS_ok hno, by rw [e1, e2], n1, n2⟩

theorem xserSubs_inv {V : Nat → ValueS} {x : Ext} {td : TData} {ver : Option Int} {g : GraphT} {gs : List GraphT}
    {gps : List GraphE} {ws : Writes} (h : serSubsE V x td ver (g :: gs) = .ok (gps, ws)) :
    ∃ gp ws1 gps' ws2, serGraphE V x td ver g = .ok (gp, ws1) ∧ serSubsE V x td ver gs = .ok (gps', ws2) ∧
      gps = gp :: gps' := by
  simp only [serSubsE] at h
  split at h
  · simp at h
  · rename_i gp ws1 h1
    split at h
    · simp at h
    · rename_i gps' ws2 h2
      simp only [Except.ok.injEq, Prod.mk.injEq] at h
      obtain ⟨rfl, _⟩ := h
      exact ⟨gp, ws1, gps', ws2, h1, h2, rfl⟩

theorem xserInits_tensors (V : Nat → ValueS) (x : Ext) (td : TData) (inames : List (Option Name)) :
    ∀ (l : List (Name × Nat)), (serInitsE V x td inames l).2.1 = (serInits V td inames l).2.1
  | [] => rfl
  | (k, v) :: r => by
    simp only [serInitsE, serInits]
    have := xserInits_tensors V x td inames r
    cases hc : (V v).const with
    | none => simpa using this
    | some t => simp [this]

theorem xserNodes_outputs (V : Nat → ValueS) (x : Ext) (td : TData) (ver : Option Int) (annot : Bool) (go : List Nat) :
    ∀ (ns : List NodeT) (nps : List NodeE) (qs : List QuantP) (vis : List VInfoE) (ws : Writes),
      serNodesE V x td ver annot go ns = .ok (nps, qs, vis, ws) →
      (eraseNs nps).map NodeP.outputs = ns.map (fun n => (liveOuts V n).map (nm V))
  | [] => fun nps qs vis ws h => by
    simp only [serNodesE, Except.ok.injEq, Prod.mk.injEq] at h
    obtain ⟨rfl, _⟩ := h
    rfl
  | n :: ns => fun nps qs vis ws h => by
    obtain ⟨np, q1, vi1, ws1, nps', qs', vis', ws2, h1, h2, rfl, _, _⟩ := xserNodes_inv h
    obtain ⟨i, g, a, b, c⟩ := n
    obtain ⟨gps, ds, _, _, _, rfl, _, _⟩ := xserNode_inv h1
    simp only [eraseNs, List.map_cons, xserNodes_outputs V x td ver annot go ns nps' qs' vis' ws2 h2]
    rfl

theorem mem_xserInits_vi (V : Nat → ValueS) (x : Ext) (td : TData) (inames : List (Option Name)) (e : VInfoE) :
    ∀ (l : List (Name × Nat)), e ∈ (serInitsE V x td inames l).1 ↔
      ∃ kv ∈ l, shouldCreateE (V kv.2) (x.vmeta kv.2) = true ∧ (V kv.2).name ∉ inames ∧ e = viOfE V x kv.2
  | [] => by simp [serInitsE]
  | (k, v) :: r => by
    have ih := mem_xserInits_vi V x td inames e r
    have hfst : (serInitsE V x td inames ((k, v) :: r)).1 =
        (if shouldCreateE (V v) (x.vmeta v) && !(inames.contains (V v).name) then
          [(⟨(V v).name.getD "", (V v).info.emit, ssSorted (x.vmeta v)⟩ : VInfoE)] else []) ++
          (serInitsE V x td inames r).1 := by
      simp only [serInitsE]
      cases (V v).const <;> rfl
    rw [hfst, List.mem_append, ih]
    constructor
    · rintro (h | ⟨kv, hkv, h⟩)
      · split at h
        · rename_i hc
          simp only [Bool.and_eq_true, Bool.not_eq_true', List.contains_eq_mem, decide_eq_false_iff_not] at hc
          simp only [List.mem_singleton] at h
          exact ⟨(k, v), by simp, hc.1, hc.2, by rw [h]; rfl⟩
        · simp at h
      · exact ⟨kv, by simp [hkv], h⟩
    · rintro ⟨kv, hkv, h1, h2, h3⟩
      simp only [List.mem_cons] at hkv
      rcases hkv with rfl | hkv
      · left
        have : (shouldCreateE (V v) (x.vmeta v) && !(inames.contains (V v).name)) = true := by
          simp [h1, h2]
        rw [this, if_pos rfl, h3]
        simp [viOfE, nm]
      · exact .inr ⟨kv, hkv, h1, h2, h3⟩

theorem nodeOutsE_vis (V : Nat → ValueS) (x : Ext) (annot : Bool) (go : List Nat) :
    ∀ (l : List Nat) (qs : List QuantP) (vis : List VInfoE), nodeOutsE V x annot go l = .ok (qs, vis) →
      vis = (l.filter fun u => !go.contains u && shouldCreateE (V u) (x.vmeta u)).map (viOfE V x)
  | [] => fun qs vis h => by
    simp only [nodeOutsE, Except.ok.injEq, Prod.mk.injEq] at h
    exact h.2.symm
  | v :: r => fun qs vis h => by
    simp only [nodeOutsE] at h
    by_cases hg : go.contains v = true
    · simp only [hg, if_true] at h
      rw [nodeOutsE_vis V x annot go r qs vis h, List.filter_cons_of_neg (by rw [hg]; simp)]
    · simp only [hg, Bool.false_eq_true, if_false] at h
      split at h
      · simp at h
      · split at h
        · simp at h
        · rename_i qs' vis' hr
          simp only [Except.ok.injEq, Prod.mk.injEq] at h
          obtain ⟨_, rfl⟩ := h
          rw [nodeOutsE_vis V x annot go r qs' vis' hr]
          by_cases hsc : shouldCreateE (V v) (x.vmeta v) = true
          · rw [if_pos hsc, List.filter_cons_of_pos (by rw [Bool.eq_false_iff.mpr hg, hsc]; rfl)]
            rfl
          · rw [if_neg hsc, List.filter_cons_of_neg (by simp [hsc])]

theorem mem_nodeOutsE_vi (V : Nat → ValueS) (x : Ext) (annot : Bool) (go : List Nat) (e : VInfoE) (l : List Nat)
    (qs : List QuantP) (vis : List VInfoE) (h : nodeOutsE V x annot go l = .ok (qs, vis)) :
    e ∈ vis ↔ ∃ u ∈ l, u ∉ go ∧ shouldCreateE (V u) (x.vmeta u) = true ∧ e = viOfE V x u := by
  rw [nodeOutsE_vis V x annot go l qs vis h]
  simp only [List.mem_map, List.mem_filter, Bool.and_eq_true, Bool.not_eq_eq_eq_not, Bool.not_true,
    List.contains_eq_mem, decide_eq_false_iff_not]
  exact ⟨fun ⟨u, ⟨hu, hg, hs⟩, he⟩ => ⟨u, hu, hg, hs, he.symm⟩, fun ⟨u, hu, hg, hs, he⟩ => ⟨u, ⟨hu, hg, hs⟩, he.symm⟩⟩

theorem mem_xserNodes_vi (V : Nat → ValueS) (x : Ext) (td : TData) (ver : Option Int) (annot : Bool) (go : List Nat)
    (e : VInfoE) : ∀ (ns : List NodeT) (nps : List NodeE) (qs : List QuantP) (vis : List VInfoE) (ws : Writes),
      serNodesE V x td ver annot go ns = .ok (nps, qs, vis, ws) →
      (e ∈ vis ↔ ∃ n ∈ ns, ∃ u ∈ n.outputs, u ∉ go ∧ shouldCreateE (V u) (x.vmeta u) = true ∧ e = viOfE V x u)
  | [] => fun nps qs vis ws h => by
    simp only [serNodesE, Except.ok.injEq, Prod.mk.injEq] at h
    obtain ⟨_, _, rfl, _⟩ := h
    simp
  | n :: ns => fun nps qs vis ws h => by
    obtain ⟨np, q1, vi1, ws1, nps', qs', vis', ws2, h1, h2, _, _, rfl⟩ := xserNodes_inv h
    obtain ⟨i, g, a, b, c⟩ := n
    obtain ⟨gps, ds, _, _, hno, _, _, _⟩ := xserNode_inv h1
    rw [List.mem_append, mem_nodeOutsE_vi V x annot go e b q1 vi1 hno,
      mem_xserNodes_vi V x td ver annot go e ns nps' qs' vis' ws2 h2]
    constructor
    · rintro (h | ⟨n, hn, h⟩)
      · exact ⟨.mk i g a b c, by simp, h⟩
      · exact ⟨n, by simp [hn], h⟩
    · rintro ⟨n, hn, h⟩
      simp only [List.mem_cons] at hn
      rcases hn with rfl | hn
      · exact .inl h
      · exact .inr ⟨n, hn, h⟩

theorem mem_xserNodes_vi_live {V : Nat → ValueS} {x : Ext} {td : TData} {ver : Option Int} {annot : Bool} {go : List Nat}
    {ns : List NodeT} {nps : List NodeE} {qs : List QuantP} {vis : List VInfoE} {ws : Writes}
    (h : serNodesE V x td ver annot go ns = .ok (nps, qs, vis, ws)) (e : VInfoE) :
    e ∈ vis ↔ ∃ u ∈ (ns.flatMap (liveOuts V)).filter (fun v => nameTruthy (V v).name), u ∉ go ∧
      shouldCreateE (V u) (x.vmeta u) = true ∧ e = viOfE V x u := by
  rw [mem_xserNodes_vi V x td ver annot go e ns nps qs vis ws h]
  constructor
  · rintro ⟨⟨i, g, a, b, c⟩, hn, u, hu, hgo, hsc, rfl⟩
    have hut : nameTruthy (V u).name = true := by
      simp only [shouldCreateE, Bool.and_eq_true] at hsc; exact hsc.2
    exact ⟨u, List.mem_filter.mpr ⟨List.mem_flatMap.mpr ⟨_, hn, truthy_mem_stripTrailing V u b hu hut⟩, hut⟩, hgo, hsc, rfl⟩
  · rintro ⟨u, hu, hgo, hsc, rfl⟩
    obtain ⟨⟨i, g, a, b, c⟩, hn, hun⟩ := List.mem_flatMap.mp (List.mem_filter.mp hu).1
    exact ⟨_, hn, u, stripTrailing_sub V b u hun, hgo, hsc, rfl⟩

theorem vinfoTableE_lookup_some (L : List VInfoE) (n : Name) (i : Info) (m : SS)
    (hall : ∀ e ∈ L, e.name = n → e.info = i ∧ e.mprops = m) (hex : ∃ e ∈ L, e.name = n) :
    (vinfoTableE L).lookup n = some (i, m) :=
  ListFacts.lookup_reverse_map_some (fun e : VInfoE => e.name) (fun e => (e.info, e.mprops)) L n (i, m)
    (fun e he hn => Prod.ext (hall e he hn).1 (hall e he hn).2) hex

theorem vinfoTableE_lookup_none (L : List VInfoE) (n : Name) (h : ∀ e ∈ L, e.name ≠ n) :
    (vinfoTableE L).lookup n = none :=
  ListFacts.lookup_reverse_map_none (fun e : VInfoE => e.name) (fun e => (e.info, e.mprops)) L n h

theorem quantTable_lookup_some (Q : List QuantP) (n : Name) (P : SS)
    (hall : ∀ a ∈ Q, a.name = n → a.params = P) (hex : ∃ a ∈ Q, a.name = n) :
    (quantTable Q).lookup n = some P :=
  ListFacts.lookup_reverse_map_some (fun a : QuantP => a.name) (fun a => a.params) Q n P hall hex

theorem quantTable_lookup_none (Q : List QuantP) (n : Name) (h : ∀ a ∈ Q, a.name ≠ n) :
    (quantTable Q).lookup n = none :=
  ListFacts.lookup_reverse_map_none (fun a : QuantP => a.name) (fun a => a.params) Q n h

/-- the entry written for `v`, if any -/
def QEnt (V : Nat → ValueS) (x : Ext) (v : Nat) (a : QuantP) : Prop :=
  ∃ ps, x.quant v = some ps ∧ ps.isEmpty = false ∧ (V v).name = some a.name ∧ a.params = ssSorted ps

theorem quantOfE_mem {V : Nat → ValueS} {x : Ext} {v : Nat} {q : List QuantP} (h : quantOfE V x v = .ok q) :
    (∀ a ∈ q, QEnt V x v a) ∧ (∀ a, QEnt V x v a → a ∈ q) := by
  simp only [quantOfE] at h
  cases hq : x.quant v with
  | none =>
    simp only [hq, Except.ok.injEq] at h
    subst h
    exact ⟨fun a ha => by simp at ha, fun a ⟨ps, h1, _⟩ => by rw [hq] at h1; cases h1⟩
  | some ps =>
    simp only [hq] at h
    cases ps with
    | nil =>
      simp only [List.isEmpty_nil, if_true, Except.ok.injEq] at h
      subst h
      exact ⟨fun a ha => by simp at ha, fun a ⟨ps', h1, h2, _⟩ => by
        rw [hq] at h1; simp only [Option.some.injEq] at h1; subst h1; simp at h2⟩
    | cons p r =>
      simp only [List.isEmpty_cons, Bool.false_eq_true, if_false] at h
      cases hn : (V v).name with
      | none => simp [hn] at h
      | some n =>
        simp only [hn, Except.ok.injEq] at h
        subst h
        refine ⟨fun a ha => ?_, fun a ⟨ps', h1, _, h3, h4⟩ => ?_⟩
        · simp only [List.mem_singleton] at ha
          subst ha
          exact ⟨p :: r, hq, rfl, hn, rfl⟩
        · rw [hq] at h1
          rw [hn] at h3
          simp only [Option.some.injEq] at h1 h3
          subst h1
          obtain ⟨an, ap⟩ := a
          simp only at h3 h4
          subst h3; subst h4
          simp

/-- the inputs skipped by the input loop: their name is an initializer key -/
def skipIn (V : Nat → ValueS) (keys : List Name) (v : Nat) : Bool :=
  match (V v).name with | some n => keys.contains n | none => false

/-- the input loop writes a value once (`seen`) and skips inputs named like an initializer -/
theorem quantInputsE_mem (V : Nat → ValueS) (x : Ext) (keys : List Name) :
    ∀ (l seen : List Nat) (r : List QuantP) (seen' : List Nat),
    quantInputsE V x keys l seen = .ok (r, seen') →
    (∀ a ∈ r, ∃ v ∈ l, QEnt V x v a) ∧
    (∀ v ∈ l, skipIn V keys v = true ∨ v ∈ seen ∨ ∀ a, QEnt V x v a → a ∈ r) ∧
    (∀ v, v ∈ seen' ↔ v ∈ seen ∨ (v ∈ l ∧ skipIn V keys v = false))
  | [] => fun seen r seen' h => by
    simp only [quantInputsE, Except.ok.injEq, Prod.mk.injEq] at h
    obtain ⟨rfl, rfl⟩ := h
    simp
  | v :: vs => fun seen r seen' h => by
    simp only [quantInputsE] at h
    change (if (!skipIn V keys v && !seen.contains v) = true then _ else _) = _ at h
    by_cases hc : (!skipIn V keys v && !seen.contains v) = true
    · simp only [hc, if_true] at h
      simp only [Bool.and_eq_true, Bool.not_eq_true', List.contains_eq_mem, decide_eq_false_iff_not] at hc
      obtain ⟨hk, hsm⟩ := hc
      split at h
      · simp at h
      · rename_i q hq
        split at h
        · simp at h
        · rename_i r' seen'' hr
          simp only [Except.ok.injEq, Prod.mk.injEq] at h
          obtain ⟨rfl, rfl⟩ := h
          obtain ⟨a, b, c⟩ := quantInputsE_mem V x keys vs (v :: seen) r' seen'' hr
          obtain ⟨q1, q2⟩ := quantOfE_mem hq
          refine ⟨fun e he => ?_, fun w hw => ?_, fun w => ?_⟩
          · simp only [List.mem_append] at he
            rcases he with he | he
            · exact ⟨v, by simp, q1 e he⟩
            · obtain ⟨u, hu, h'⟩ := a e he
              exact ⟨u, by simp [hu], h'⟩
          · simp only [List.mem_cons] at hw
            rcases hw with rfl | hw
            · exact .inr (.inr (fun e he => List.mem_append.mpr (.inl (q2 e he))))
            · rcases b w hw with h | h | h
              · exact .inl h
              · simp only [List.mem_cons] at h
                rcases h with rfl | h
                · exact .inr (.inr (fun e he => List.mem_append.mpr (.inl (q2 e he))))
                · exact .inr (.inl h)
              · exact .inr (.inr (fun e he => List.mem_append.mpr (.inr (h e he))))
          · rw [c w]
            simp only [List.mem_cons]
            constructor
            · rintro ((h | h) | h)
              · subst h; exact .inr ⟨.inl rfl, hk⟩
              · exact .inl h
              · exact .inr ⟨.inr h.1, h.2⟩
            · rintro (h | ⟨h | h, h2⟩)
              · exact .inl (.inr h)
              · exact .inl (.inl h)
              · exact .inr ⟨h, h2⟩
    · simp only [hc, Bool.false_eq_true, if_false] at h
      have hc' : skipIn V keys v = true ∨ v ∈ seen := by
        simp only [Bool.and_eq_true, Bool.not_eq_true', List.contains_eq_mem, decide_eq_false_iff_not, not_and,
          Decidable.not_not] at hc
        by_cases hk : skipIn V keys v = true
        · exact .inl hk
        · exact .inr (hc (by simpa using hk))
      obtain ⟨a, b, c⟩ := quantInputsE_mem V x keys vs seen r seen' h
      refine ⟨fun e he => ?_, fun w hw => ?_, fun w => ?_⟩
      · obtain ⟨u, hu, h'⟩ := a e he
        exact ⟨u, by simp [hu], h'⟩
      · simp only [List.mem_cons] at hw
        rcases hw with rfl | hw
        · rcases hc' with h | h
          · exact .inl h
          · exact .inr (.inl h)
        · exact b w hw
      · rw [c w]
        simp only [List.mem_cons]
        constructor
        · rintro (h | h)
          · exact .inl h
          · exact .inr ⟨.inr h.1, h.2⟩
        · rintro (h | ⟨h | h, h2⟩)
          · exact .inl h
          · subst h
            rcases hc' with h | h
            · rw [h] at h2; cases h2
            · exact .inl h
          · exact .inr ⟨h, h2⟩

theorem quantOnceE_eq_inputs (V : Nat → ValueS) (x : Ext) : ∀ (l seen : List Nat),
    quantOnceE V x l seen = quantInputsE V x [] l seen
  | [], _ => rfl
  | v :: vs, seen => by
    simp only [quantOnceE, quantInputsE, quantOnceE_eq_inputs V x vs]
    cases (V v).name <;> rfl

theorem quantOnceE_mem (V : Nat → ValueS) (x : Ext) (l seen : List Nat) (r : List QuantP) (seen' : List Nat)
    (h : quantOnceE V x l seen = .ok (r, seen')) :
    (∀ a ∈ r, ∃ v ∈ l, QEnt V x v a) ∧ (∀ v ∈ l, v ∈ seen ∨ ∀ a, QEnt V x v a → a ∈ r) ∧
    (∀ v, v ∈ seen' ↔ v ∈ seen ∨ v ∈ l) := by
  rw [quantOnceE_eq_inputs] at h
  have hk : ∀ v, skipIn V [] v = false := fun v => by
    unfold skipIn; cases (V v).name <;> rfl
  obtain ⟨a, b, c⟩ := quantInputsE_mem V x [] l seen r seen' h
  refine ⟨a, fun v hv => ?_, fun v => ?_⟩
  · rcases b v hv with hs | hs
    · rw [hk] at hs; cases hs
    · exact hs
  · rw [c v]; simp [hk]

theorem nodeOutsE_qmem (V : Nat → ValueS) (x : Ext) (go : List Nat) :
    ∀ (l : List Nat) (qs : List QuantP) (vis : List VInfoE), nodeOutsE V x true go l = .ok (qs, vis) →
      (∀ a ∈ qs, ∃ v ∈ l, QEnt V x v a) ∧ (∀ v ∈ l, v ∉ go → ∀ a, QEnt V x v a → a ∈ qs)
  | [] => fun qs vis h => by
    simp only [nodeOutsE, Except.ok.injEq, Prod.mk.injEq] at h
    obtain ⟨rfl, _⟩ := h
    simp
  | v :: r => fun qs vis h => by
    simp only [nodeOutsE] at h
    by_cases hg : go.contains v = true
    · simp only [hg, if_true] at h
      have hgm : v ∈ go := by simpa using hg
      obtain ⟨a, b⟩ := nodeOutsE_qmem V x go r qs vis h
      refine ⟨fun e he => ?_, fun w hw hwg => ?_⟩
      · obtain ⟨u, hu, h'⟩ := a e he
        exact ⟨u, by simp [hu], h'⟩
      · simp only [List.mem_cons] at hw
        rcases hw with rfl | hw
        · exact absurd hgm hwg
        · exact b w hw hwg
    · simp only [hg, Bool.false_eq_true, if_false, if_true] at h
      split at h
      · simp at h
      · rename_i q hq
        split at h
        · simp at h
        · rename_i qs' vis' hr
          simp only [Except.ok.injEq, Prod.mk.injEq] at h
          obtain ⟨rfl, _⟩ := h
          obtain ⟨a, b⟩ := nodeOutsE_qmem V x go r qs' vis' hr
          obtain ⟨q1, q2⟩ := quantOfE_mem hq
          refine ⟨fun e he => ?_, fun w hw hwg => ?_⟩
          · simp only [List.mem_append] at he
            rcases he with he | he
            · exact ⟨v, by simp, q1 e he⟩
            · obtain ⟨u, hu, h'⟩ := a e he
              exact ⟨u, by simp [hu], h'⟩
          · simp only [List.mem_cons] at hw
            rcases hw with rfl | hw
            · exact fun e he => List.mem_append.mpr (.inl (q2 e he))
            · exact fun e he => List.mem_append.mpr (.inr (b w hw hwg e he))

theorem xserNodes_qmem (V : Nat → ValueS) (x : Ext) (td : TData) (ver : Option Int) (go : List Nat) :
    ∀ (ns : List NodeT) (nps : List NodeE) (qs : List QuantP) (vis : List VInfoE) (ws : Writes),
      serNodesE V x td ver true go ns = .ok (nps, qs, vis, ws) →
      (∀ a ∈ qs, ∃ n ∈ ns, ∃ v ∈ n.outputs, QEnt V x v a) ∧
      (∀ n ∈ ns, ∀ v ∈ n.outputs, v ∉ go → ∀ a, QEnt V x v a → a ∈ qs)
  | [] => fun nps qs vis ws h => by
    simp only [serNodesE, Except.ok.injEq, Prod.mk.injEq] at h
    obtain ⟨_, rfl, _⟩ := h
    simp
  | n :: ns => fun nps qs vis ws h => by
    obtain ⟨np, q1, vi1, ws1, nps', qs', vis', ws2, h1, h2, _, rfl, _⟩ := xserNodes_inv h
    obtain ⟨i, g, a, b, c⟩ := n
    obtain ⟨gps, ds, _, _, hno, _, _, _⟩ := xserNode_inv h1
    obtain ⟨p1, p2⟩ := nodeOutsE_qmem V x go b q1 vi1 hno
    obtain ⟨r1, r2⟩ := xserNodes_qmem V x td ver go ns nps' qs' vis' ws2 h2
    refine ⟨fun e he => ?_, fun m hm v hv hvg e he => ?_⟩
    · simp only [List.mem_append] at he
      rcases he with he | he
      · obtain ⟨v, hv, h'⟩ := p1 e he
        exact ⟨.mk i g a b c, by simp, v, hv, h'⟩
      · obtain ⟨m, hm, h'⟩ := r1 e he
        exact ⟨m, by simp [hm], h'⟩
    · simp only [List.mem_cons] at hm
      rcases hm with rfl | hm
      · exact List.mem_append.mpr (.inl (p2 v hv hvg e he))
      · exact List.mem_append.mpr (.inr (r2 m hm v hv hvg e he))

end IrVerif.Scope
