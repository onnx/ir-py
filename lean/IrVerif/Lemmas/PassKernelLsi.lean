/-
C14: LiftSubgraphInitializersToMainGraph as a kernel program renames only the initializers it lifts: after a
run that returns, a value that had a name has exactly that name or is an initializer of the main graph.
-/
import IrVerif.Lemmas.PassKernelOuts
import IrVerif.Lemmas.KernelInit
namespace IrVerif.PassKernel
open IrVerif.Kernel IrVerif.Kernel.World

/-- `u` is an initializer of graph `main` (after the pass: lifted, or there all along) -/
def Lifted (main : Nat) (w : World) (u : Nat) : Prop := (w.val u).isInit = true ∧ (w.val u).graph = some main

/-- an accepted `initializers.pop(key)`: only the popped value changes, and it is no initializer afterwards -/
theorem initPop_ok (w : World) (g : Nat) (key : String) (v : Nat) (hl : lookupInit (w.gr g).inits key = some v) :
    (∀ u, u ≠ v → ((initMut w g (.pop key)).1.val u) = w.val u) ∧
    ((initMut w g (.pop key)).1.val v).isInit = false := by
  simp only [initMut]
  have hb : (lookupInit (w.gr g).inits key).isNone = false := by simp [hl]
  rw [hb, guardOp_fst _ _ _ _ rfl]
  refine ⟨fun u hu => ?_, ?_⟩
  · rw [initDel_val w g key v hl, if_neg hu]
  · rw [initDel_val w g key v hl, if_pos rfl]; rfl

/-- `Value.name = s` for a value that is no initializer: every other value is untouched -/
theorem setName_noninit_val (w : World) (v : Nat) (s : Option String) (hi : (w.val v).isInit = false) (u : Nat) (hu : u ≠ v) :
    ((setName w v s).1.val u) = w.val u := by
  unfold setName; simp only [hi, Bool.false_and, Bool.or_false, Bool.false_eq_true, if_false]
  cases hb : (decide ((w.val v).name ≠ s) && constLocked w v) with
  | true => rw [guardOp_true]
  | false =>
    rw [guardOp_fst _ _ _ _ rfl]
    split
    · rfl
    · rw [setNamePlain_val, if_neg hu]

/-- an accepted `register_initializer(v)`: `v` is an initializer of the graph, every other value is untouched -/
theorem initRegister_ok (w : World) (g v : Nat) (h : (initMut w g (.register v)).2 = .ok) :
    Lifted g (initMut w g (.register v)).1 v ∧ ∀ u, u ≠ v → ((initMut w g (.register v)).1.val u) = w.val u := by
  simp only [initMut] at h ⊢
  have hbad := guardOp_ok _ _ _ _ h
  rw [hbad, guardOp_fst _ _ _ _ rfl]
  simp only [Bool.or_eq_false_iff, Bool.not_eq_false'] at hbad
  obtain ⟨⟨⟨⟨_, _⟩, hold⟩, _⟩, hok⟩ := hbad  -- the five guards of `.register`; `hold`: the key is free or `v`'s, `hok`: `initOK`
  refine ⟨?_, fun u hu => ?_⟩
  · unfold Lifted
    rw [initPut_val _ _ _ _ hok, if_pos rfl]
    exact ⟨rfl, rfl⟩
  · rw [initPut_val _ _ _ _ hok, if_neg hu]
    split
    · rename_i hlu
      rw [hlu] at hold
      simp only [ne_eq, decide_eq_false_iff_not, Classical.not_not] at hold
      exact absurd hold hu
    · rfl

/-- what the fold carries: in a run that has not raised, a value that had a name has it or was lifted -/
def LsiNames (w0 : World) (main : Nat) (st : KSt) : Prop :=
  st.raised = false → ∀ u nm, (w0.val u).name = some nm → (st.w.val u).name = some nm ∨ Lifted main st.w u

theorem lsiInitK_names (w0 : World) (main g : Nat) (outN inN : List String) (p : KSt × List (String × Nat) × Nat)
    (key : String) (h : LsiNames w0 main p.1) : LsiNames w0 main (lsiInitK main g outN inN p key).1 := by
  refine lsiInitK_elim (P := fun r => LsiNames w0 main r.1) h (fun hc => nomatch hc) (fun hc => nomatch hc)
    (fun v nn c hr' hl => ?_)
  intro hr3 u nm hn
  unfold lsiLift at hr3 ⊢
  obtain ⟨hr2, hok3⟩ := KSt.call_ok hr3
  obtain ⟨hr1, _⟩ := KSt.call_ok hr2
  -- the three worlds
  have e1 : (p.1.call (.one (.init g (.pop key)))).w = (initMut p.1.w g (.pop key)).1 := KSt.call_w _ _ hr'
  have e2 := KSt.call_w (p.1.call (.one (.init g (.pop key)))) (.one (.setName v (some nn))) hr1
  have e3 := KSt.call_w ((p.1.call (.one (.init g (.pop key)))).call (.one (.setName v (some nn))))
    (.one (.init main (.register v))) hr2
  obtain ⟨hpop, hpopv⟩ := initPop_ok p.1.w g key v hl
  simp only [stepAny, step] at e2 e3 hok3
  have hreg := initRegister_ok _ main v hok3
  by_cases huv : u = v
  · subst huv
    right
    rw [e3]; exact hreg.1
  · have hv1 : ((p.1.call (.one (.init g (.pop key)))).w.val v).isInit = false := by rw [e1]; exact hpopv
    have hu3 : ((((p.1.call (.one (.init g (.pop key)))).call (.one (.setName v (some nn)))).call
        (.one (.init main (.register v)))).w.val u) = p.1.w.val u := by
      rw [e3, hreg.2 u huv, e2, setName_noninit_val _ v _ hv1 u huv, e1, hpop u huv]
    rcases h hr' u nm hn with hk | hk
    · left; rw [hu3]; exact hk
    · right; unfold Lifted at hk ⊢; rw [hu3]; exact hk

theorem lsiModelK_names (fuel : Nat) (w : World) (g : Nat) : LsiNames w g (lsiModelK fuel w g).1 :=
  lsiModelK_ind (P := fun s _ => LsiNames w g s)
    (fun sub outN inN p key hp => lsiInitK_names w g sub outN inN p key hp) fuel w (fun _ _ _ hn => Or.inl hn)

end IrVerif.PassKernel
