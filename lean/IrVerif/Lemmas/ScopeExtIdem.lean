/-
Congruence of the EXTENDED serializer under the round-trip isomorphism: `serGraphE` reads, besides what the core
serializer reads, the merged metadata of every value it emits, the quantization annotation of every value it
looks at (`emitQG`) and the device configurations of the nodes.  When the reloaded extension state carries the
written-and-read-once payloads (`MetaOK2`, `QuantOK2`, `DevSpecG`), serializing the reloaded model gives the same
proto (`img2E_serGraph`; it mirrors `img2_serGraph` in `ScopeReplIdem.lean`).
-/
import IrVerif.Lemmas.ScopeExtSer
namespace IrVerif.Scope

/-- the pointwise agreement of the two extended states: on the images of the emitted values `E` the merged
    metadata is written as in the source; on the images of the values `EQ` (that have an image at all) the
    annotation is written as in the source -/
structure ExtImg (V V' : Nat → ValueS) (x x' : Ext) (A : Assoc) (E EQ : List Nat) : Prop where
  sorted : ∀ v ∈ E, ssSorted (x'.vmeta (sig A v)) = ssSorted (x.vmeta v)
  empty : ∀ v ∈ E, (x'.vmeta (sig A v)).isEmpty = (x.vmeta v).isEmpty
  quant : ∀ v ∈ EQ, v ∈ A.map (·.1) → quantOfE V' x' (sig A v) = quantOfE V x v

theorem quantOfE_norm {V V' : Nat → ValueS} {x x' : Ext} {v v' : Nat} (hwf : ExtWF x)
    (hname : (V' v').name = (V v).name) (hq : x'.quant v' = normQ (x.quant v)) :
    quantOfE V' x' v' = quantOfE V x v := by
  simp only [quantOfE, hq, hname]
  cases hx : x.quant v with
  | none => simp only [normQ]
  | some ps =>
    obtain ⟨hnd, hne⟩ := (hwf v).2 ps hx
    obtain ⟨_, h2, h3⟩ := quant_payload_fix ps hnd hne
    have e1 : (ssOfEntries (ssSorted ps)).isEmpty = false := by
      cases hs : ssOfEntries (ssSorted ps) with
      | nil => exact absurd hs h2
      | cons _ _ => rfl
    have e2 : ps.isEmpty = false := by
      cases ps with
      | nil => exact absurd rfl hne
      | cons _ _ => rfl
    simp only [normQ, e1, e2, h3]

theorem ExtImg.mk' {V V' : Nat → ValueS} {x x' : Ext} {A : Assoc} {E EQ : List Nat}
    (hn : ∀ v ∈ A.map (·.1), (V' (sig A v)).name = (V v).name)
    (hm : MetaOK2 x x' A E) (hq : QuantOK2 x x' A EQ) (hwf : ExtWF x) : ExtImg V V' x x' A E EQ :=
  ⟨fun v hv => by rw [hm v hv, ssSorted_normM _ (hwf v).1],
   fun v hv => by rw [hm v hv, normM_isEmpty _ (hwf v).1],
   fun v hv hk => quantOfE_norm hwf (hn v hk) (hq v hv)⟩

section
variable {V V' : Nat → ValueS} {x x' : Ext} {A : Assoc} {E EQ : List Nat}

theorem ExtImg.serValue (H : ExtImg V V' x x' A E EQ) (h : Img V V' (sig A) E) {v : Nat} (hv : v ∈ E) :
    serValueE (V' (sig A v)) (x'.vmeta (sig A v)) = serValueE (V v) (x.vmeta v) := by
  simp only [serValueE, h.name v hv, h.info v hv, emit_emit, H.sorted v hv]

theorem ExtImg.shouldCreate (H : ExtImg V V' x x' A E EQ) (h : Img V V' (sig A) E) {v : Nat} (hv : v ∈ E) :
    shouldCreateE (V' (sig A v)) (x'.vmeta (sig A v)) = shouldCreateE (V v) (x.vmeta v) := by
  simp only [shouldCreateE, presentE, h.name v hv, h.info v hv, present_emit, H.empty v hv]

theorem contains_map_sig (hinj : ∀ a ∈ A.map (·.1), ∀ b ∈ A.map (·.1), sig A a = sig A b → a = b)
    (l : List Nat) (hl : ∀ v ∈ l, v ∈ A.map (·.1)) (a : Nat) (ha : a ∈ A.map (·.1)) :
    (l.map (sig A)).contains (sig A a) = l.contains a := by
  simp only [List.contains_eq_mem, List.mem_map, decide_eq_decide]
  constructor
  · rintro ⟨b, hb, he⟩
    rw [← hinj b (hl b hb) a ha he]; exact hb
  · exact fun hm => ⟨a, hm, rfl⟩

theorem img2E_serValues (H : ExtImg V V' x x' A E EQ) (h : Img V V' (sig A) E) :
    ∀ (vs : List Nat), (∀ v ∈ vs, v ∈ E) → serValuesE V' x' (vs.map (sig A)) = serValuesE V x vs := by
  intro vs
  induction vs with
  | nil => intro _; rfl
  | cons a r ih =>
    intro hU
    simp only [List.map_cons, serValuesE, H.serValue h (hU a (by simp)), ih (fun v hv => hU v (by simp [hv]))]

/-- the input loop of the annotation list on the renamed values: the `seen` list goes through the (injective) renaming -/
theorem img2E_quantInputs (H : ExtImg V V' x x' A E EQ)
    (hn : ∀ v ∈ A.map (·.1), (V' (sig A v)).name = (V v).name)
    (hinj : ∀ a ∈ A.map (·.1), ∀ b ∈ A.map (·.1), sig A a = sig A b → a = b) (ik : List Name) :
    ∀ (vs seen : List Nat) (r : List QuantP) (seen' : List Nat), (∀ v ∈ vs, v ∈ A.map (·.1)) → (∀ v ∈ vs, v ∈ EQ) →
      (∀ v ∈ seen, v ∈ A.map (·.1)) → quantInputsE V x ik vs seen = .ok (r, seen') →
      quantInputsE V' x' ik (vs.map (sig A)) (seen.map (sig A)) = .ok (r, seen'.map (sig A)) ∧
      ∀ v ∈ seen', v ∈ A.map (·.1)
  | [], seen, r, seen', _, _, hs, hser => by
    simp only [quantInputsE, Except.ok.injEq, Prod.mk.injEq] at hser
    obtain ⟨rfl, rfl⟩ := hser
    exact ⟨rfl, hs⟩
  | a :: vs, seen, r, seen', hK, hQ, hs, hser => by
    have ha := hK a (by simp)
    have hc := contains_map_sig hinj seen hs a ha
    simp only [quantInputsE] at hser
    simp only [List.map_cons, quantInputsE, hn a ha, hc]
    change (if (!skipIn V ik a && !seen.contains a) = true then _ else _) = _ at hser
    change (if (!skipIn V ik a && !seen.contains a) = true then _ else _) = _ ∧ _
    by_cases hcond : (!skipIn V ik a && !seen.contains a) = true
    · rw [if_pos hcond] at hser ⊢
      split at hser
      · simp at hser
      · rename_i q hq
        split at hser
        · simp at hser
        · rename_i r' s' hr
          simp only [Except.ok.injEq, Prod.mk.injEq] at hser
          obtain ⟨rfl, rfl⟩ := hser
          obtain ⟨e, hk⟩ := img2E_quantInputs H hn hinj ik vs (a :: seen) r' s' (fun v hv => hK v (by simp [hv]))
            (fun v hv => hQ v (by simp [hv]))
            (fun v hv => by
              simp only [List.mem_cons] at hv
              rcases hv with rfl | hv
              · exact ha
              · exact hs v hv) hr
          simp only [List.map_cons] at e
          refine ⟨?_, hk⟩
          simp only [H.quant a (hQ a (by simp)) ha, hq, e]
    · rw [if_neg hcond] at hser ⊢
      exact img2E_quantInputs H hn hinj ik vs seen r seen' (fun v hv => hK v (by simp [hv]))
        (fun v hv => hQ v (by simp [hv])) hs hser

theorem img2E_quantOnce (H : ExtImg V V' x x' A E EQ)
    (hn : ∀ v ∈ A.map (·.1), (V' (sig A v)).name = (V v).name)
    (hinj : ∀ a ∈ A.map (·.1), ∀ b ∈ A.map (·.1), sig A a = sig A b → a = b)
    (vs seen : List Nat) (r : List QuantP) (seen' : List Nat) (hK : ∀ v ∈ vs, v ∈ A.map (·.1)) (hQ : ∀ v ∈ vs, v ∈ EQ)
    (hs : ∀ v ∈ seen, v ∈ A.map (·.1)) (hser : quantOnceE V x vs seen = .ok (r, seen')) :
    quantOnceE V' x' (vs.map (sig A)) (seen.map (sig A)) = .ok (r, seen'.map (sig A)) ∧
    ∀ v ∈ seen', v ∈ A.map (·.1) := by
  rw [quantOnceE_eq_inputs] at hser ⊢
  exact img2E_quantInputs H hn hinj [] vs seen r seen' hK hQ hs hser

theorem img2E_serInits {td td' : TData} (H : ExtImg V V' x x' A E EQ) (h : Img V V' (sig A) E)
    (inames : List (Option Name)) :
    ∀ (its : List (Name × Nat)), (∀ kv ∈ its, kv.2 ∈ E) → ConstImg V V' td td' (sig A) its →
      (serInitsE V' x' td' inames (its.map fun kv => (kv.1, sig A kv.2))).1 = (serInitsE V x td inames its).1 ∧
      (serInitsE V' x' td' inames (its.map fun kv => (kv.1, sig A kv.2))).2.1 = (serInitsE V x td inames its).2.1 := by
  intro its
  induction its with
  | nil => intro _ _; exact ⟨rfl, rfl⟩
  | cons kv its ih =>
    obtain ⟨k, v⟩ := kv
    intro hU hc
    obtain ⟨i1, i2⟩ := ih (fun kv hkv => hU kv (by simp [hkv])) (fun kv hkv => hc kv (by simp [hkv]))
    have hv := hU (k, v) (by simp)
    obtain ⟨hne, hct⟩ := hc (k, v) (by simp)
    obtain ⟨t, h1⟩ : ∃ t, (V v).const = some t := by
      cases hcv : (V v).const with
      | none => exact absurd hcv hne
      | some t => exact ⟨t, rfl⟩
    obtain ⟨t', h2, h3⟩ := hct t h1
    simp only [List.map_cons, serInitsE, h1, h2, i1, i2, H.shouldCreate h hv, h.name v hv, h.info v hv, emit_emit,
      H.sorted v hv, h3]
    simp

/-- the loop over the outputs of a node: a stripped trailing output has no value_info entry and, when it
    carries no annotation, no annotation entry -/
theorem nodeOutsE_strip (V : Nat → ValueS) (x : Ext) (annot : Bool) (gouts : List Nat) :
    ∀ (outs : List Nat), (annot = true → ∀ v ∈ outs, nameTruthy (V v).name = false → x.quant v = none) →
      nodeOutsE V x annot gouts (stripTrailing V outs) = nodeOutsE V x annot gouts outs := by
  intro outs
  induction outs with
  | nil => intro _; rfl
  | cons a r ih =>
    intro hq
    have ih' := ih (fun ha v hv => hq ha v (by simp [hv]))
    by_cases hs : stripTrailing V r = []
    · rw [stripTrailing_cons_nil V a r hs]
      rw [hs] at ih'
      have hr : nodeOutsE V x annot gouts r = .ok ([], []) := by rw [← ih']; rfl
      split
      · simp only [nodeOutsE, hr]
      · rename_i hf
        have hf' : nameTruthy (V a).name = false := by simpa using hf
        have hsc : shouldCreateE (V a) (x.vmeta a) = false := by simp [shouldCreateE, hf']
        have hqa : (if annot = true then quantOfE V x a else .ok []) = .ok [] := by
          cases annot with
          | false => rfl
          | true => simp only [if_true, quantOfE, hq rfl a (by simp) hf']
        simp only [nodeOutsE, hr, hqa, hsc]
        split <;> simp
    · rw [stripTrailing_cons_ne V a r hs]
      simp only [nodeOutsE, ih']

theorem img2E_nodeOuts (H : ExtImg V V' x x' A E EQ) (h : Img V V' (sig A) E)
    (hn : ∀ v ∈ A.map (·.1), (V' (sig A v)).name = (V v).name)
    (hinj : ∀ a ∈ A.map (·.1), ∀ b ∈ A.map (·.1), sig A a = sig A b → a = b)
    (annot : Bool) (gouts : List Nat) (hg : ∀ v ∈ gouts, v ∈ A.map (·.1)) :
    ∀ (l : List Nat), (∀ v ∈ l, v ∈ A.map (·.1)) → (∀ v ∈ l, nameTruthy (V v).name = true → v ∈ E) →
      (annot = true → ∀ v ∈ l, v ∈ EQ) →
      nodeOutsE V' x' annot (gouts.map (sig A)) (l.map (sig A)) = nodeOutsE V x annot gouts l := by
  intro l
  induction l with
  | nil => intro _ _ _; rfl
  | cons a r ih =>
    intro hK hE hQ
    have ha := hK a (by simp)
    have ih' := ih (fun v hv => hK v (by simp [hv])) (fun v hv => hE v (by simp [hv]))
      (fun hA v hv => hQ hA v (by simp [hv]))
    have hc := contains_map_sig hinj gouts hg a ha
    have hqa : (if annot = true then quantOfE V' x' (sig A a) else .ok []) =
        (if annot = true then quantOfE V x a else .ok []) := by
      cases annot with
      | false => rfl
      | true => simp only [if_true, H.quant a (hQ rfl a (by simp)) ha]
    simp only [List.map_cons, nodeOutsE, ih', hc, hqa]
    by_cases ht : nameTruthy (V a).name = true
    · have haE := hE a (by simp) ht
      simp only [H.shouldCreate h haE, h.name a haE, h.info a haE, emit_emit, H.sorted a haE]
    · have hf : nameTruthy (V a).name = false := by simpa using ht
      have h1 : shouldCreateE (V a) (x.vmeta a) = false := by simp [shouldCreateE, hf]
      have h2 : shouldCreateE (V' (sig A a)) (x'.vmeta (sig A a)) = false := by simp [shouldCreateE, hn a ha, hf]
      simp only [h1, h2, Bool.false_eq_true, ↓reduceIte]

end

/-- device configurations: the proto configurations resolved in name-preserving scopes serialize to the proto
    configurations -/
theorem img2E_devs {V : Nat → ValueS} (s' : Store) (ver : Option Int) (scopes : List Table)
    (hs : ∀ t ∈ scopes, Named s' t) (ds : List DevR) (ps : List DevP)
    (h : serDevRsGated V ver ds = .ok ps) : serDevRsGated s'.vals ver (ps.map (deserDevR scopes)) = .ok ps := by
  have key : serDevRs V ds = .ok ps → serDevRs s'.vals (ps.map (deserDevR scopes)) = .ok ps :=
    devs_payload_fix V s'.vals scopes (fun t ht e he => hs t ht e he) ds ps
  cases ver with
  | none => exact key h
  | some v =>
    simp only [serDevRsGated] at h ⊢
    by_cases hv : v < 11
    · simp only [hv, if_true, Except.ok.injEq] at h ⊢
      subst h
      rfl
    · simp only [hv, if_false] at h ⊢
      exact key h

mutual
/-- serializing the renamed graph `g'` in the reloaded store / extension state gives the proto of `g` -/
theorem img2E_serGraph {V V' : Nat → ValueS} {td td' : TData} {A : Assoc} {E EQ : List Nat} {x x' : Ext}
    (s' : Store) (ver : Option Int) (hV' : V' = s'.vals)
    (h : Img V V' (sig A) E)
    (hn : ∀ v ∈ A.map (·.1), (V' (sig A v)).name = (V v).name)
    (hinj : ∀ a ∈ A.map (·.1), ∀ b ∈ A.map (·.1), sig A a = sig A b → a = b)
    (hm : MetaOK2 x x' A E) (hq : QuantOK2 x x' A EQ) (hwf : ExtWF x) :
    ∀ (g g' : GraphT) (q : GraphE) (ws : Writes), TreeRelG V A g g' → (∀ v ∈ emitG V g, v ∈ E) →
      (∀ v ∈ emitQG V g, v ∈ EQ) → QuietOutsG V x g →
      ConstImg V V' td td' (sig A) (allInitsG g) → DevSpecG s' x' q g' →
      serGraphE V x td ver g = .ok (q, ws) → ∃ ws', serGraphE V' x' td' ver g' = .ok (q, ws')
  | .mk _ ins inits nodes outs, .mk _ ins' inits' nodes' outs' => fun q ws ht hE hEQ hQ hc hD hser => by
    have H : ExtImg V V' x x' A E EQ := ExtImg.mk' hn hm hq hwf
    simp only [TreeRelG] at ht
    obtain ⟨rfl, hinsK, rfl, hinitK, htn, rfl, houtK⟩ := ht
    obtain ⟨qIn, seen1, qInit, seen2, nps, qNodes, vis2, ws2, qOut, seen3, h1, h5, h2, h3, h4, h6, rfl⟩ :=
      xserGraph_inv hser
    simp only [DevSpecG] at hD
    simp only [QuietOutsG] at hQ
    have hinsU : ∀ v ∈ ins, v ∈ E := fun v hv => hE v (mem_emitG.mpr (.inl hv))
    have hinitU : ∀ kv ∈ inits, kv.2 ∈ E := fun kv hkv =>
      hE _ (mem_emitG.mpr (.inr (.inl (List.mem_map_of_mem hkv))))
    have houtU : ∀ v ∈ outs, v ∈ E := fun v hv => hE v (mem_emitG.mpr (.inr (.inr (.inr (.inl hv)))))
    have hliveU : ∀ v ∈ nodes.flatMap (liveOuts V), nameTruthy (V v).name = true → v ∈ E := fun v hv ht =>
      hE v (mem_emitG.mpr (.inr (.inr (.inl ⟨hv, ht⟩))))
    have hinsQ : ∀ v ∈ ins, v ∈ EQ := fun v hv => hEQ v (mem_emitQG.mpr (.inl hv))
    have hinitQ : ∀ v ∈ inits.map (·.2), v ∈ EQ := fun v hv =>
      hEQ v (mem_emitQG.mpr (.inr (.inl hv)))
    have hinitK' : ∀ v ∈ inits.map (·.2), v ∈ A.map (·.1) := by
      intro v hv
      simp only [List.mem_map] at hv
      obtain ⟨kv, hkv, rfl⟩ := hv
      exact hinitK kv hkv
    have houtQ : ∀ v ∈ outs, v ∈ EQ := fun v hv => hEQ v (mem_emitQG.mpr (.inr (.inr (.inr (.inl hv)))))
    have hliveQ : ∀ v ∈ nodes.flatMap (liveOuts V), v ∈ EQ := fun v hv =>
      hEQ v (mem_emitQG.mpr (.inr (.inr (.inl hv))))
    have e1 := (img2E_serValues H h ins hinsU).trans (serValuesE_of_names h1)
    have e6 := (img2E_serValues H h outs houtU).trans (serValuesE_of_names h5)
    have hnames : (ins.map (sig A)).map (fun v => (V' v).name) = ins.map (fun v => (V v).name) := by
      rw [List.map_map]
      exact List.map_congr_left (fun v hv => h.name v (hinsU v hv))
    have hkeys : (inits.map fun kv => (kv.1, sig A kv.2)).map (·.1) = inits.map (·.1) := by
      rw [List.map_map]; rfl
    have hvals : (inits.map fun kv => (kv.1, sig A kv.2)).map (·.2) = (inits.map (·.2)).map (sig A) := by
      rw [List.map_map, List.map_map]; rfl
    obtain ⟨e2, hs1⟩ := img2E_quantInputs H hn hinj (inits.map (·.1)) ins [] qIn seen1 hinsK hinsQ
      (fun _ hv => by simp at hv) h2
    simp only [List.map_nil] at e2
    obtain ⟨e3, hs2⟩ := img2E_quantOnce H hn hinj (inits.map (·.2)) seen1 qInit seen2 hinitK' hinitQ hs1 h3
    obtain ⟨e4a, e4b⟩ := img2E_serInits (td := td) (td' := td') H h (ins.map fun v => (V v).name) inits hinitU
      (fun kv hkv => hc kv (List.mem_append_left _ hkv))
    obtain ⟨ws2', e5⟩ := img2E_serNodes s' ver hV' h hn hinj hm hq hwf nodes nodes' true outs nps qNodes vis2 ws2
      htn houtK hliveU (fun v hv => hE v (List.mem_append_right _ hv)) (fun _ => hliveQ)
      (fun v hv => hEQ v (List.mem_append_right _ hv)) hQ
      (fun kv hkv => hc kv (List.mem_append_right _ hkv)) hD h4
    obtain ⟨e7, _⟩ := img2E_quantOnce H hn hinj outs seen2 qOut seen3 houtK houtQ hs2 h6
    exact ⟨_, by simp only [serGraphE, e1, hkeys, hvals, e2, e3, hnames, e4a, e4b, e5, e6, e7, liftS]; rfl⟩
termination_by structural g => g
theorem img2E_serNodes {V V' : Nat → ValueS} {td td' : TData} {A : Assoc} {E EQ : List Nat} {x x' : Ext}
    (s' : Store) (ver : Option Int) (hV' : V' = s'.vals)
    (h : Img V V' (sig A) E)
    (hn : ∀ v ∈ A.map (·.1), (V' (sig A v)).name = (V v).name)
    (hinj : ∀ a ∈ A.map (·.1), ∀ b ∈ A.map (·.1), sig A a = sig A b → a = b)
    (hm : MetaOK2 x x' A E) (hq : QuantOK2 x x' A EQ) (hwf : ExtWF x) :
    ∀ (ns ns' : List NodeT) (annot : Bool) (gouts : List Nat) (nps : List NodeE) (qs : List QuantP)
      (vi : List VInfoE) (ws : Writes),
      TreeRelNs V A ns ns' → (∀ v ∈ gouts, v ∈ A.map (·.1)) →
      (∀ v ∈ ns.flatMap (liveOuts V), nameTruthy (V v).name = true → v ∈ E) → (∀ v ∈ emitSubNs V ns, v ∈ E) →
      (annot = true → ∀ v ∈ ns.flatMap (liveOuts V), v ∈ EQ) → (∀ v ∈ emitQSubNs V ns, v ∈ EQ) →
      QuietOutsNs V x ns → ConstImg V V' td td' (sig A) (allInitsNs ns) → DevSpecNs s' x' nps ns' →
      serNodesE V x td ver annot gouts ns = .ok (nps, qs, vi, ws) →
      ∃ ws', serNodesE V' x' td' ver annot (gouts.map (sig A)) ns' = .ok (nps, qs, vi, ws')
  | [], [] => fun _ _ nps qs vi ws _ _ _ _ _ _ _ _ _ hser => by
    simp only [serNodesE, Except.ok.injEq, Prod.mk.injEq] at hser
    obtain ⟨rfl, rfl, rfl, _⟩ := hser
    exact ⟨[], rfl⟩
  | n :: ns, n' :: ns' => fun annot gouts nps qs vi ws ht hg hL hU hLQ hUQ hQ hc hD hser => by
    simp only [TreeRelNs] at ht
    simp only [QuietOutsNs] at hQ
    obtain ⟨np, q1, vi1, ws1, nps', qs', vis', ws2, h1, h2, rfl, rfl, rfl⟩ := xserNodes_inv hser
    simp only [DevSpecNs] at hD
    obtain ⟨w1, e1⟩ := img2E_serNode s' ver hV' h hn hinj hm hq hwf n n' annot gouts np q1 vi1 ws1 ht.1 hg
      (fun v hv => hL v (List.mem_append_left _ hv)) (fun v hv => hU v (List.mem_append_left _ hv))
      (fun ha v hv => hLQ ha v (List.mem_append_left _ hv)) (fun v hv => hUQ v (List.mem_append_left _ hv)) hQ.1
      (fun kv hkv => hc kv (List.mem_append_left _ hkv)) hD.1 h1
    obtain ⟨w2, e2⟩ := img2E_serNodes s' ver hV' h hn hinj hm hq hwf ns ns' annot gouts nps' qs' vis' ws2 ht.2 hg
      (fun v hv => hL v (List.mem_append_right _ hv)) (fun v hv => hU v (List.mem_append_right _ hv))
      (fun ha v hv => hLQ ha v (List.mem_append_right _ hv)) (fun v hv => hUQ v (List.mem_append_right _ hv)) hQ.2
      (fun kv hkv => hc kv (List.mem_append_right _ hkv)) hD.2 h2
    exact ⟨_, by simp only [serNodesE, e1, e2]; rfl⟩
  | [], _ :: _ => fun _ _ _ _ _ _ ht => by simp [TreeRelNs] at ht
  | _ :: _, [] => fun _ _ _ _ _ _ ht => by simp [TreeRelNs] at ht
termination_by structural ns => ns
theorem img2E_serNode {V V' : Nat → ValueS} {td td' : TData} {A : Assoc} {E EQ : List Nat} {x x' : Ext}
    (s' : Store) (ver : Option Int) (hV' : V' = s'.vals)
    (h : Img V V' (sig A) E)
    (hn : ∀ v ∈ A.map (·.1), (V' (sig A v)).name = (V v).name)
    (hinj : ∀ a ∈ A.map (·.1), ∀ b ∈ A.map (·.1), sig A a = sig A b → a = b)
    (hm : MetaOK2 x x' A E) (hq : QuantOK2 x x' A EQ) (hwf : ExtWF x) :
    ∀ (n n' : NodeT) (annot : Bool) (gouts : List Nat) (np : NodeE) (q : List QuantP) (vi : List VInfoE)
      (ws : Writes),
      TreeRelN V A n n' → (∀ v ∈ gouts, v ∈ A.map (·.1)) →
      (∀ v ∈ liveOuts V n, nameTruthy (V v).name = true → v ∈ E) → (∀ v ∈ emitSubN V n, v ∈ E) →
      (annot = true → ∀ v ∈ liveOuts V n, v ∈ EQ) → (∀ v ∈ emitQSubN V n, v ∈ EQ) →
      QuietOutsN V x n → ConstImg V V' td td' (sig A) (allInitsN n) → DevSpecN s' x' np n' →
      serNodeE V x td ver annot gouts n = .ok (np, q, vi, ws) →
      ∃ ws', serNodeE V' x' td' ver annot (gouts.map (sig A)) n' = .ok (np, q, vi, ws')
  | .mk id _ ins outs subs, .mk id' _ ins' outs' subs' => fun annot gouts np q vi ws ht hg hL hU hLQ hUQ hQ hc hD hser => by
    have H : ExtImg V V' x x' A E EQ := ExtImg.mk' hn hm hq hwf
    simp only [TreeRelN] at ht
    obtain ⟨rfl, hinK, rfl, hliveK, hts⟩ := ht
    obtain ⟨gps, ds, hs, hd, hno, rfl, hins_n, hlive_n⟩ := xserNode_inv hser
    simp only [DevSpecN] at hD
    obtain ⟨⟨scopes, hNamed, hdevs⟩, hDs⟩ := hD
    simp only [QuietOutsN] at hQ
    obtain ⟨hquiet, hQs⟩ := hQ
    simp only [liveOuts] at hL hLQ
    have e1 := img2_serInputs hn ins (fun v hv => ⟨hinK v hv, hins_n v hv⟩)
    have e2 : stripTrailing V' ((stripTrailing V outs).map (sig A)) = (stripTrailing V outs).map (sig A) := by
      rw [img2_stripTrailing hn _ hliveK, stripTrailing_idem]
    have e3 := img2_serOutNames hn (stripTrailing V outs) hliveK hlive_n
    obtain ⟨ws'', e4⟩ := img2E_serSubs s' ver hV' h hn hinj hm hq hwf subs subs' gps ws hts
      hU hUQ hQs hc hDs hs
    have e5 : nodeOutsE V' x' annot (gouts.map (sig A)) ((stripTrailing V outs).map (sig A)) = .ok (q, vi) := by
      rw [img2E_nodeOuts H h hn hinj annot gouts hg _ hliveK hL hLQ,
        nodeOutsE_strip V x annot gouts outs (fun _ => hquiet), hno]
    have e6 : serDevRsGated V' ver (x'.devs id') = .ok ds := by
      rw [hdevs, hV']
      exact img2E_devs s' ver scopes hNamed _ ds hd
    exact ⟨_, by simp only [serNodeE, e1, e2, e3, e4, e5, e6, liftS]; rfl⟩
termination_by structural n => n
theorem img2E_serSubs {V V' : Nat → ValueS} {td td' : TData} {A : Assoc} {E EQ : List Nat} {x x' : Ext}
    (s' : Store) (ver : Option Int) (hV' : V' = s'.vals)
    (h : Img V V' (sig A) E)
    (hn : ∀ v ∈ A.map (·.1), (V' (sig A v)).name = (V v).name)
    (hinj : ∀ a ∈ A.map (·.1), ∀ b ∈ A.map (·.1), sig A a = sig A b → a = b)
    (hm : MetaOK2 x x' A E) (hq : QuantOK2 x x' A EQ) (hwf : ExtWF x) :
    ∀ (gs gs' : List GraphT) (gps : List GraphE) (ws : Writes),
      TreeRelGs V A gs gs' → (∀ v ∈ emitGs V gs, v ∈ E) → (∀ v ∈ emitQGs V gs, v ∈ EQ) → QuietOutsGs V x gs →
      ConstImg V V' td td' (sig A) (allInitsGs gs) → DevSpecGs s' x' gps gs' →
      serSubsE V x td ver gs = .ok (gps, ws) → ∃ ws', serSubsE V' x' td' ver gs' = .ok (gps, ws')
  | [], [] => fun gps ws _ _ _ _ _ _ hser => by
    simp only [serSubsE, Except.ok.injEq, Prod.mk.injEq] at hser
    obtain ⟨rfl, _⟩ := hser
    exact ⟨[], rfl⟩
  | g :: gs, g' :: gs' => fun gps ws ht hU hUQ hQ hc hD hser => by
    simp only [TreeRelGs] at ht
    simp only [QuietOutsGs] at hQ
    obtain ⟨gp, ws1, gps', ws2, h1, h2, rfl⟩ := xserSubs_inv hser
    simp only [DevSpecGs] at hD
    obtain ⟨w1, e1⟩ := img2E_serGraph s' ver hV' h hn hinj hm hq hwf g g' gp ws1 ht.1
      (fun v hv => hU v (List.mem_append_left _ hv)) (fun v hv => hUQ v (List.mem_append_left _ hv)) hQ.1
      (fun kv hkv => hc kv (List.mem_append_left _ hkv)) hD.1 h1
    obtain ⟨w2, e2⟩ := img2E_serSubs s' ver hV' h hn hinj hm hq hwf gs gs' gps' ws2 ht.2
      (fun v hv => hU v (List.mem_append_right _ hv)) (fun v hv => hUQ v (List.mem_append_right _ hv)) hQ.2
      (fun kv hkv => hc kv (List.mem_append_right _ hkv)) hD.2 h2
    exact ⟨_, by simp only [serSubsE, e1, e2]; rfl⟩
  | [], _ :: _ => fun _ _ ht => by simp [TreeRelGs] at ht
  | _ :: _, [] => fun _ _ ht => by simp [TreeRelGs] at ht
termination_by structural gs => gs
end

end IrVerif.Scope
