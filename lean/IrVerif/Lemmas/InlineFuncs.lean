/-
Lemmas/InlineFuncs.lean — the loop of InlinePass over the functions that are left in the model (`inlFuncs`):
a function body whose calls are inlined in place denotes the same function (under the function environment of
the model before the pass), and the function environment of the RESULT agrees with it on every function that
is kept.  This is what `C05_inline` needs for a criterion that keeps functions whose bodies contain accepted
calls.
-/
import IrVerif.Lemmas.InlineSound
import IrVerif.Lemmas.InlineSyn
import IrVerif.Lemmas.InlineRun
namespace IrVerif.Inline
open IrVerif.Sem IrVerif.Passes
variable {Val : Type}

def sig (f : Func) : OpId × List (String × Option AttrData) × Nat × Nat :=
  (f.id, f.params, f.inputs.length, f.outputs.length)

def SigEq (a b : List Func) : Prop := a.map sig = b.map sig

theorem SigEq.refl (a : List Func) : SigEq a a := rfl

theorem findFunc_sig : ∀ {a b : List Func}, SigEq a b → ∀ (op : OpId),
    (findFunc a op = none → findFunc b op = none) ∧
    (∀ f, findFunc a op = some f → ∃ f', findFunc b op = some f' ∧ sig f' = sig f)
  | [], [], _, op => by simp [findFunc]
  | [], _ :: _, h, _ => by simp [SigEq] at h
  | _ :: _, [], h, _ => by simp [SigEq] at h
  | x :: a, y :: b, h, op => by
    simp only [SigEq, List.map_cons, List.cons.injEq] at h
    have ih := findFunc_sig (a := a) (b := b) h.2 op
    have hid : x.id = y.id := by have := congrArg Prod.fst h.1; exact this
    simp only [findFunc, List.find?_cons] at ih ⊢
    rw [← hid]
    cases hx : (x.id == op) with
    | true => simp only [Option.some.injEq, reduceCtorEq, false_imp_iff, true_and]; intro f hf; exact ⟨y, rfl, hf ▸ h.1.symm⟩
    | false => exact ih

theorem callOK_sig {f f' : Func} (h : sig f' = sig f) (attrs : List (String × FAttr)) (ins : List (Option VId))
    (outs : List VId) (bodies : List FGraph) : callOK f' attrs ins outs bodies = callOK f attrs ins outs bodies := by
  simp only [sig, Prod.mk.injEq] at h
  simp only [callOK, h.2.1, h.2.2.1, h.2.2.2]

mutual
theorem callsOKG_sig {a b : List Func} (h : SigEq a b) : ∀ g : FGraph, callsOKG a g = callsOKG b g
  | .mk _ _ _ nodes => by simp only [callsOKG]; exact callsOKNodes_sig h nodes
theorem callsOKNodes_sig {a b : List Func} (h : SigEq a b) : ∀ ns : List FNode, callsOKNodes a ns = callsOKNodes b ns
  | [] => by simp [callsOKNodes]
  | n :: ns => by simp only [callsOKNodes, callsOKN_sig h n, callsOKNodes_sig h ns]
theorem callsOKN_sig {a b : List Func} (h : SigEq a b) : ∀ n : FNode, callsOKN a n = callsOKN b n
  | .mk op attrs ins outs bodies => by
    simp only [callsOKN, callsOKBodies_sig h bodies]
    congr 1
    cases hf : findFunc a op with
    | none => rw [(findFunc_sig h op).1 hf]
    | some f =>
      obtain ⟨f', hf', hs⟩ := (findFunc_sig h op).2 f hf
      rw [hf']
      exact (callOK_sig hs attrs ins outs bodies).symm
theorem callsOKBodies_sig {a b : List Func} (h : SigEq a b) : ∀ bs : List FGraph, callsOKBodies a bs = callsOKBodies b bs
  | [] => by simp [callsOKBodies]
  | g :: bs => by simp only [callsOKBodies, callsOKG_sig h g, callsOKBodies_sig h bs]
end

theorem findFunc_replaceFunc_ne (tbl : List Func) (f' : Func) {op : OpId} (h : op ≠ f'.id) :
    findFunc (replaceFunc tbl f') op = findFunc tbl op := by
  induction tbl with
  | nil => rfl
  | cons g tbl ih =>
    simp only [findFunc, replaceFunc, List.map_cons, List.find?_cons] at ih ⊢
    by_cases hg : g.id = f'.id
    · have h1 : (g.id == f'.id) = true := by simpa using hg
      have h2 : (f'.id == op) = false := by simpa using (fun h' : f'.id = op => h h'.symm)
      have h3 : (g.id == op) = false := by rw [hg]; exact h2
      simp only [h1, if_true, h2, h3]
      exact ih
    · have h1 : (g.id == f'.id) = false := by simpa using hg
      simp only [h1, Bool.false_eq_true, if_false]
      cases (g.id == op) with
      | true => rfl
      | false => exact ih

theorem findFunc_replaceFunc_self (tbl : List Func) (f' : Func) (h : ∃ f ∈ tbl, f.id = f'.id) :
    findFunc (replaceFunc tbl f') f'.id = some f' := by
  induction tbl with
  | nil => obtain ⟨f, hf, _⟩ := h; simp at hf
  | cons g tbl ih =>
    simp only [findFunc, replaceFunc, List.map_cons, List.find?_cons] at ih ⊢
    by_cases hg : g.id = f'.id
    · have h1 : (g.id == f'.id) = true := by simpa using hg
      simp [h1]
    · have h1 : (g.id == f'.id) = false := by simpa using hg
      simp only [h1, Bool.false_eq_true, if_false]
      refine ih ?_
      obtain ⟨f, hf, hid⟩ := h
      rcases List.mem_cons.1 hf with hf | hf
      · exact absurd (hf ▸ hid) hg
      · exact ⟨f, hf, hid⟩

theorem sigEq_replaceFunc (tbl : List Func) (hnd : (tbl.map (·.id)).Nodup) {f f' : Func} (hf : f ∈ tbl)
    (hs : sig f' = sig f) : SigEq (replaceFunc tbl f') tbl := by
  have hid : f'.id = f.id := by have := congrArg Prod.fst hs; exact this
  unfold SigEq replaceFunc
  rw [List.map_map]
  apply List.map_congr_left
  intro g hg
  simp only [Function.comp]
  by_cases h : g.id = f'.id
  · have : g = f := eq_of_nodup_ids hnd hg hf (h.trans hid)
    have h1 : (g.id == f'.id) = true := by simpa using h
    simp only [h1, if_true]
    rw [this]; exact hs
  · have : (g.id == f'.id) = false := by simpa using h
    simp [this]

theorem mem_replaceFunc_of_ne {tbl : List Func} {f' g : Func} (hg : g ∈ tbl) (h : g.id ≠ f'.id) :
    g ∈ replaceFunc tbl f' := by
  unfold replaceFunc
  refine List.mem_map.2 ⟨g, hg, ?_⟩
  have : (g.id == f'.id) = false := by simpa using h
  simp [this]

theorem mem_replaceFunc' {tbl : List Func} {f' g : Func} (hg : g ∈ replaceFunc tbl f') :
    g = f' ∨ (g ∈ tbl ∧ g.id ≠ f'.id) := by
  unfold replaceFunc at hg
  obtain ⟨x, hx, rfl⟩ := List.mem_map.1 hg
  by_cases h : x.id = f'.id
  · simp [h]
  · have : (x.id == f'.id) = false := by simpa using h
    simp [this, hx, h]

theorem mem_replaceFunc {tbl : List Func} {f' g : Func} (hg : g ∈ replaceFunc tbl f') : g = f' ∨ g ∈ tbl :=
  (mem_replaceFunc' hg).imp id And.left

theorem findFunc_ne_none_of_mem {tbl : List Func} {g : Func} (hg : g ∈ tbl) : findFunc tbl g.id ≠ none := by
  unfold findFunc
  intro hn
  rw [List.find?_eq_none] at hn
  exact absurd (by simp) (hn g hg)

theorem inlFuncs_mem (crit : OpId → Bool) (budget : Nat) : ∀ (ids : List OpId) (st : ISt) (tbl : List Func) (g : Func),
    g ∈ tbl → g.id ∉ ids → g ∈ (inlFuncs crit budget st tbl ids).2
  | [], _, _, _, hg, _ => by simpa [inlFuncs] using hg
  | id :: rest, st, tbl, g, hg, hid => by
    simp only [List.mem_cons, not_or] at hid
    rw [inlFuncs]
    split
    · exact inlFuncs_mem crit budget rest st tbl g hg hid.2
    · split
      · exact inlFuncs_mem crit budget rest st tbl g hg hid.2
      · rename_i f hf
        refine inlFuncs_mem crit budget rest _ _ g (mem_replaceFunc_of_ne hg ?_) hid.2
        have := (findFunc_some hf).2
        simp only
        rw [this]; exact hid.1

def DenOK (I : Interp Val) (Φ : FEnv Val) (tbl : List Func) : Prop :=
  ∀ op g, findFunc tbl op = some g → Φ op = some (funcDen I Φ g)

/-- what is fixed during the loop: `T0` and `Φ` are the function table and the function environment of the model before
    the pass; the functions of `T0` are well-formed with value ids below `N` -/
structure LoopCtx (Φ : FEnv Val) (T0 : List Func) (N : Nat) : Prop where
  nd : (T0.map (·.id)).Nodup
  noidentΦ : Φ identityOp = none
  noident : findFunc T0 identityOp = none
  valid0 : ∀ f ∈ T0, ssaNodes (eraseNodes f.nodes) = true ∧ noFwdNodes (eraseNodes f.nodes) = true ∧
    (∀ v ∈ refsNodes (eraseNodes f.nodes), v < N) ∧ (∀ v ∈ defsNodes (eraseNodes f.nodes), v < N) ∧
    (∀ v ∈ f.outputs, v < N)

def SynTbl (T0 tbl : List Func) : Prop :=
  ∀ g ∈ tbl, Syn (fun op => !isStochasticOp op) T0 g.nodes ∧ closedNodes (eraseNodes g.nodes) = true

theorem map_app_nil (l : List VId) : l.map (Subst.app []) = l := by
  conv => rhs; rw [← List.map_id l]
  apply List.map_congr_left
  intro v _; exact Subst.app_nil v

theorem tblOK_loop {I : Interp Val} {Φ : FEnv Val} {T0 : List Func} {N : Nat} (ctx : LoopCtx Φ T0 N)
    {tbl : List Func} (hsig : SigEq tbl T0) (hden : DenOK I Φ tbl) (hsyn : SynTbl T0 tbl) : TblOK I Φ tbl := by
  refine ⟨hden, fun op g hg => (hsyn g (findFunc_some hg).1).1.1, fun op g hg => (hsyn g (findFunc_some hg).1).1.2.1,
    fun op g hg => (hsyn g (findFunc_some hg).1).2, fun op g hg => ?_,
    (findFunc_sig (Eq.symm hsig) identityOp).1 ctx.noident, ctx.noidentΦ⟩
  rw [callsOKNodes_sig hsig]; exact (hsyn g (findFunc_some hg).1).1.2.2

/-- the hypothesis `q op = true` is not used: it is the shape of the parameter `ht` of `inl_syn` -/
theorem synTbl_ht {T0 tbl : List Func} (hsig : SigEq tbl T0) (hsyn : SynTbl T0 tbl) :
    ∀ op f, findFunc tbl op = some f → (fun op => !isStochasticOp op) op = true →
      Syn (fun op => !isStochasticOp op) tbl f.nodes := by
  intro op f hf _
  obtain ⟨⟨a, b, c⟩, _⟩ := hsyn f (findFunc_some hf).1
  exact ⟨a, b, by rw [callsOKNodes_sig hsig]; exact c⟩

def LvlTbl (T0 tbl : List Func) : Prop :=
  ∀ g ∈ tbl, ∀ j, lvl T0 (j + 1) g.id = true → opsAllNodes (lvl T0 j) g.nodes = true

theorem isSome_of_sig {tbl T0 : List Func} (hsig : SigEq tbl T0) (op : OpId) :
    (findFunc tbl op).isSome = (findFunc T0 op).isSome := by
  cases h : findFunc tbl op with
  | none => rw [(findFunc_sig hsig op).1 h]
  | some f => obtain ⟨f', hf', _⟩ := (findFunc_sig hsig op).2 f h; rw [hf']; rfl

theorem notAcc_sig {tbl T0 : List Func} (hsig : SigEq tbl T0) (crit : OpId → Bool) :
    notAcc tbl crit = notAcc T0 crit := by
  funext op
  simp only [notAcc, isSome_of_sig hsig]

theorem lvlTbl_ht {T0 tbl : List Func} (hl : LvlTbl T0 tbl) :
    ∀ j op f, findFunc tbl op = some f → lvl T0 (j + 1) op = true → opsAllNodes (lvl T0 j) f.nodes = true := by
  intro j op f hf h
  obtain ⟨hmem, hid⟩ := findFunc_some hf
  exact hl f hmem j (hid ▸ h)

/-- the invariant of Lemmas/InlineSyn.lean for the predicate "call depth at most `j`" -/
theorem lvl_syn_ht {T0 tbl : List Func} (hsig : SigEq tbl T0) (hsyn : SynTbl T0 tbl) (hl : LvlTbl T0 tbl) (j : Nat) :
    ∀ op f, findFunc tbl op = some f → lvl T0 j op = true → Syn (lvl T0 j) tbl f.nodes := by
  intro op f hf h
  obtain ⟨hmem, hid⟩ := findFunc_some hf
  obtain ⟨⟨_, b, c⟩, _⟩ := hsyn f hmem
  refine ⟨?_, b, by rw [callsOKNodes_sig hsig]; exact c⟩
  cases j with
  | zero =>
    -- a function has no call depth 0
    simp only [lvl, Option.isNone_iff_eq_none] at h
    have := isSome_of_sig hsig op
    rw [hf, h] at this
    cases this
  | succ j' => exact opsAllNodes_mono (lvl_mono T0 j') f.nodes (hl f hmem j' (hid ▸ h))

/-- what the loop keeps, apart from the denotations, while the functions `ids` are still to come -/
structure LoopInv (T0 : List Func) (crit : OpId → Bool) (ids : List OpId) (st : ISt) (tbl : List Func) : Prop where
  syn : SynTbl T0 tbl
  lvl : LvlTbl T0 tbl
  inlined : ∀ op ∈ st.inlined, crit op = true
  done : ∀ g ∈ tbl, g.id ∉ ids → g.id ∈ st.inlined ∨ opsAllNodes (notAcc T0 crit) g.nodes = true

structure LoopOut (T0 : List Func) (crit : OpId → Bool) (st0 : ISt) (r : ISt × List Func) : Prop
    extends LoopInv T0 crit [] r.1 r.2 where
  stuck : r.1.stuck = st0.stuck

/-- **the loop over the functions**: every function keeps its denotation, and `LoopOut` -/
theorem inlFuncs_den {I : Interp Val} {Φ : FEnv Val} {T0 : List Func} {N : Nat} (ctx : LoopCtx Φ T0 N)
    (crit : OpId → Bool) (budget : Nat) (hlb : ∀ f ∈ T0, lvl T0 budget f.id = true) :
    ∀ (ids : List OpId) (st : ISt) (tbl : List Func),
    ids.Nodup → SigEq tbl T0 → N ≤ st.next → (∀ g ∈ tbl, g.id ∈ ids → g ∈ T0) →
    DenOK I Φ tbl → LoopInv T0 crit ids st tbl →
    DenOK I Φ (inlFuncs crit budget st tbl ids).2 ∧ LoopOut T0 crit st (inlFuncs crit budget st tbl ids)
  | [], _, _, _, _, _, _, hden, inv => by
    simp only [inlFuncs]
    exact ⟨hden, inv, rfl⟩
  | id :: rest, st, tbl, hnd, hsig, hN, horig, hden, ⟨hsyn, hlv, hinl, hdone⟩ => by
    simp only [List.nodup_cons] at hnd
    have horig' : ∀ g ∈ tbl, g.id ∈ rest → g ∈ T0 := fun g hg h => horig g hg (List.mem_cons_of_mem _ h)
    rw [inlFuncs]
    split
    · rename_i hin
      refine inlFuncs_den ctx crit budget hlb rest st tbl hnd.2 hsig hN horig' hden ⟨hsyn, hlv, hinl, fun g hg h => ?_⟩
      by_cases hgid : g.id = id
      · left; rw [hgid]; simpa using hin
      · exact hdone g hg (by simp only [List.mem_cons, not_or]; exact ⟨hgid, h⟩)
    · split
      · rename_i hnone
        refine inlFuncs_den ctx crit budget hlb rest st tbl hnd.2 hsig hN horig' hden ⟨hsyn, hlv, hinl, fun g hg h => ?_⟩
        by_cases hgid : g.id = id
        · -- there is no function with this identifier
          exact absurd (hgid ▸ hnone) (findFunc_ne_none_of_mem hg)
        · exact hdone g hg (by simp only [List.mem_cons, not_or]; exact ⟨hgid, h⟩)
      · rename_i f hf
        obtain ⟨hfmem, hfid⟩ := findFunc_some hf
        have hf0 : f ∈ T0 := horig f hfmem (by rw [hfid]; exact List.mem_cons_self)
        have ht := tblOK_loop ctx hsig hden hsyn
        obtain ⟨v1, v2, v3, v4, v5⟩ := ctx.valid0 f hf0
        obtain ⟨⟨s1, s2, _⟩, s3⟩ := hsyn f hfmem
        have hcalls := ht.calls _ f hf
        have key := fun (α : List (String × AttrData)) (ρ : Env Val) =>
          (inl_sound I Φ α tbl crit (inlAt tbl crit budget) N ht (deepOK_inlAt I Φ α tbl crit ht budget)).2.1
            st [] _ f.nodes f.outputs ρ ρ rfl (fun v _ => by rw [Subst.app_nil]) (fun p hp => by simp at hp) v1 s3 v2 v3 v4 hN
            (fun p hp => by simp at hp) hcalls
        simp only [map_app_nil] at key
        have hidt := ht.noident
        have hsynR := (inl_syn (fun op => !isStochasticOp op) tbl crit (inlAt tbl crit budget) (by decide) hidt
          (synTbl_ht hsig hsyn)
          (deepSyn_inlAt (fun op => !isStochasticOp op) tbl crit (by decide) hidt (synTbl_ht hsig hsyn) budget)).2.1
          st [] f.outputs f.nodes ⟨s1, s2, hcalls⟩
        -- call depth of the body: every call tree of `T0` is at most `budget` deep
        have hbody : opsAllNodes (lvl T0 (budget + 1)) f.nodes = true := by
          exact opsAllNodes_mono (p := fun _ => true) (fun op _ => lvl_mono T0 budget op (lvl_of_funcs hlb op)) f.nodes
            (opsAllNodes_true f.nodes)
        have hlvR := (inl_lvl T0 tbl crit (inlAt tbl crit budget) budget ctx.noident (lvlTbl_ht hlv budget)
          (deepL_inlAt T0 tbl crit ctx.noident (isSome_of_sig hsig) (lvlTbl_ht hlv) budget budget
            (Nat.le_refl _))).2.1 st [] f.outputs f.nodes hbody
        -- the rewritten body is not deeper than the body was
        have hlvl' : ∀ j, lvl T0 (j + 1) f.id = true →
            opsAllNodes (lvl T0 j) (inlNodes tbl crit (inlAt tbl crit budget) st [] f.outputs f.nodes).nodes = true := by
          intro j hj
          have hidl : lvl T0 j identityOp = true := lvl_of_none ctx.noident j
          have hfj : opsAllNodes (lvl T0 j) f.nodes = true := hlv f hfmem j hj
          exact ((inl_syn (lvl T0 j) tbl crit (inlAt tbl crit budget) hidl hidt (lvl_syn_ht hsig hsyn hlv j)
            (deepSyn_inlAt (lvl T0 j) tbl crit hidl hidt (lvl_syn_ht hsig hsyn hlv j) budget)).2.1
            st [] f.outputs f.nodes ⟨hfj, s2, hcalls⟩).1
        generalize hR : inlNodes tbl crit (inlAt tbl crit budget) st [] f.outputs f.nodes = R at key hsynR hlvR hlvl'
        -- the rewritten function denotes the same
        have hsame : funcDen I Φ { f with nodes := R.nodes, outputs := R.outs } = funcDen I Φ f := by
          funext cattrs args
          simp only [funcDen]
          obtain ⟨k1, k2, _⟩ := key (bindParams f.params cattrs) (Env.empty.bind f.inputs args)
          rw [k2, List.map_map]
          apply List.map_congr_left
          intro v hv
          exact (k1 v (v5 v hv)).symm
        have hlen : R.outs.length = f.outputs.length := by
          rw [(key [] Env.empty).2.1, List.length_map]
        have hsig' : sig { f with nodes := R.nodes, outputs := R.outs } = sig f := by
          simp only [sig, hlen]
        have hndt : (tbl.map (·.id)).Nodup := by
          have : tbl.map (·.id) = T0.map (·.id) := by
            have := congrArg (List.map Prod.fst) hsig
            rw [List.map_map, List.map_map] at this
            exact this
          rw [this]; exact ctx.nd
        obtain ⟨l1, l2, l3, l4⟩ := hlvR
        obtain ⟨r1, r⟩ := inlFuncs_den ctx crit budget hlb rest R.st
          (replaceFunc tbl { f with nodes := R.nodes, outputs := R.outs }) hnd.2
          (Eq.trans (sigEq_replaceFunc tbl hndt hfmem hsig') hsig) (Nat.le_trans hN (key [] Env.empty).2.2.1)
          -- the functions still to come are those of `T0`
          (fun g hg h => by
            rcases mem_replaceFunc hg with hg | hg
            · rw [hg] at h; simp only at h; rw [hfid] at h; exact absurd h hnd.1
            · exact horig' g hg h)
          (fun op g hg => by
            by_cases hop : op = f.id
            · subst hop
              have := findFunc_replaceFunc_self tbl { f with nodes := R.nodes, outputs := R.outs } ⟨f, hfmem, rfl⟩
              simp only at this
              rw [this] at hg
              simp only [Option.some.injEq] at hg
              rw [← hg, hsame]
              exact hden f.id f (hfid ▸ hf)
            · rw [findFunc_replaceFunc_ne tbl _ (by simpa using hop)] at hg
              exact hden op g hg)
          { syn := fun g hg => by
              rcases mem_replaceFunc hg with hg | hg
              · rw [hg]
                simp only
                exact ⟨⟨hsynR.1, hsynR.2.1, by rw [← callsOKNodes_sig hsig]; exact hsynR.2.2⟩, (key [] Env.empty).2.2.2.2.1⟩
              · exact hsyn g hg
            lvl := fun g hg j hj => by
              rcases mem_replaceFunc hg with hg | hg
              · rw [hg] at hj ⊢
                simp only at hj ⊢
                exact hlvl' j hj
              · exact hlv g hg j hj
            inlined := fun op hop => (l3 op hop).elim (hinl op) (fun h => h)
            done := fun g hg h => by
              rcases mem_replaceFunc' hg with hg' | hg'
              · right
                rw [hg']
                simp only
                rw [← notAcc_sig hsig]; exact l2
              · -- the only function with the identifier `id` is `f`, which was replaced
                have hgid : g.id ≠ id := fun e => hg'.2 (e.trans hfid.symm)
                exact (hdone g hg'.1 (by simp only [List.mem_cons, not_or]; exact ⟨hgid, h⟩)).imp (l4 _) (fun h => h) }
        exact ⟨r1, { r with stuck := r.stuck.trans l1 }⟩

theorem opsAllNodes_and {p q : OpId → Bool} {ns : List FNode} (hp : opsAllNodes p ns = true) (hq : opsAllNodes q ns = true) :
    opsAllNodes (fun op => p op && q op) ns = true := by
  rw [opsAllNodes_iff] at hp hq ⊢
  intro op hop
  simp [hp op hop, hq op hop]

/-- the function environment of the table `T` after the pass agrees with `Φ` on every operator that is kept or is
    not a function, at every depth that unrolls its call tree in `T` -/
theorem fenv_result (I : Interp Val) (T : List Func) (Φ : FEnv Val) (ok : OpId → Bool)
    (hden : DenOK I Φ T)
    (hnone : ∀ op, findFunc T op = none → ok op = true → Φ op = none)
    (hbody : ∀ f' ∈ T, opsAllNodes ok f'.nodes = true) :
    ∀ (e : Nat) (op : OpId), ok op = true → lvl T e op = true → fenv I T e op = Φ op
  | 0, op, hok, hl => by
    simp only [lvl, Option.isNone_iff_eq_none] at hl
    rw [hnone op hl hok]; rfl
  | e + 1, op, hok, hl => by
    rw [lvl] at hl
    cases hf : findFunc T op with
    | none => rw [fenv_none I T _ hf, hnone op hf hok]
    | some f' =>
      rw [hf] at hl
      simp only [fenv, hf, Option.map_some]
      rw [hden op f' hf]
      congr 1
      refine funcDen_congrΦ I _ _ _ (fun o ho => ?_) f' (opsAllNodes_and hl (hbody f' (findFunc_some hf).1))
      simp only [Bool.and_eq_true] at ho
      exact fenv_result I T Φ ok hden hnone hbody e o ho.2 ho.1

/-- call depth in the table `T` after the pass: not deeper than in the table `T0` before -/
theorem lvl_result (T0 T : List Func)
    (hnone : ∀ op, findFunc T0 op = none → findFunc T op = none)
    (hT : ∀ op g', findFunc T op = some g' →
      ∀ j, lvl T0 (j + 1) op = true → opsAllNodes (lvl T0 j) g'.nodes = true) :
    ∀ (j : Nat) (op : OpId), lvl T0 j op = true → lvl T j op = true
  | 0, op, h => by
    simp only [lvl, Option.isNone_iff_eq_none] at h ⊢
    exact hnone op h
  | j + 1, op, h => by
    rw [lvl]
    cases hf : findFunc T op with
    | none => rfl
    | some g' => exact opsAllNodes_mono (lvl_result T0 T hnone hT j) g'.nodes (hT op g' hf j h)

theorem lvlTbl_self (T0 : List Func) (hnd : (T0.map (·.id)).Nodup) : LvlTbl T0 T0 := by
  intro g hg j hj
  rw [lvl] at hj
  cases hf : findFunc T0 g.id with
  | none => exact absurd hf (findFunc_ne_none_of_mem hg)
  | some g' =>
    rw [hf] at hj
    simp only at hj
    obtain ⟨hm, hid⟩ := findFunc_some hf
    have : g' = g := eq_of_nodup_ids hnd hm hg hid
    rw [← this]; exact hj

end IrVerif.Inline
