/-
Helper development for C13_frame: every editing call of the alphabet `IrVerif.Clone.Edit` writes
only to the cells named by its arguments, to cells reached from those through the pointers that
the call follows (`followed`), and to fresh cells.  Hence, for any set `B` of cells such that no
cell outside `B` has a followed pointer into `B`, an edit whose arguments are outside `B` leaves
every cell of `B` exactly as it was, and re-establishes the separation.
Also here: the frame logic (`FInv`, `frameL`, `fread`, `fset_good`), `Framed` / `Framed.of_step`, which
every alphabet instantiates, and the well-formedness lemmas.  Trap: `applyEdit3_frame`,
`applyEdit4_frame`, `rewrapModel_frame` and five `_good` of CloneFrame3 are in the form `FGoodAt`,
everything else in the form of the logic.
-/
import IrVerif.Lemmas.Clone
namespace IrVerif.Clone

def OptOut (B : Nat → Prop) : Option Nat → Prop
  | none => True
  | some x => ¬ B x

/-- the pointers an edit follows out of this cell do not lead into `B` -/
def CellOut (strict : Bool) (B : Nat → Prop) : Cell → Prop
  | .val v => OptOut B v.type ∧ OptOut B v.shape ∧ ¬ B v.props ∧ ¬ B v.mstore ∧ OptOut B v.graph ∧
      OptOut B v.const
  | .node n => (strict = true → ∀ v, some v ∈ n.inputs → ¬ B v) ∧ ¬ B n.props ∧ ¬ B n.mstore
  | .graph g => (∀ v ∈ g.outputs, ¬ B v) ∧ ¬ B g.props ∧ ¬ B g.mstore
  | .model m => ¬ B m.props ∧ ¬ B m.mstore
  | _ => True

/-- `CellOut` plus, when `u = true`, the pointers followed only by the calls of the extended alphabet
    (`Edit2`): the users of a value, the outputs of a node, the inputs and initializers of a graph -/
def CellOutX (u strict : Bool) (B : Nat → Prop) : Cell → Prop
  | .val v => OptOut B v.type ∧ OptOut B v.shape ∧ ¬ B v.props ∧ ¬ B v.mstore ∧ OptOut B v.graph ∧
      OptOut B v.const ∧ (u = true → ∀ x ∈ v.uses, ¬ B x.1)
  | .node n => (strict = true → ∀ v, some v ∈ n.inputs → ¬ B v) ∧ ¬ B n.props ∧ ¬ B n.mstore ∧
      (u = true → ∀ o ∈ n.outputs, ¬ B o)
  | .graph g => (∀ v ∈ g.outputs, ¬ B v) ∧ ¬ B g.props ∧ ¬ B g.mstore ∧
      (u = true → (∀ v ∈ g.inputs, ¬ B v) ∧ (∀ e ∈ g.inits, ¬ B e.2))
  | .model m => ¬ B m.props ∧ ¬ B m.mstore
  | _ => True

theorem CellOutX.of_cellOut {strict : Bool} {B : Nat → Prop} {c : Cell} (h : CellOut strict B c) :
    CellOutX false strict B c := by
  cases c with
  | val v => obtain ⟨a, b, c, d, e, f⟩ := h; exact ⟨a, b, c, d, e, f, fun h => by cases h⟩
  | node n => obtain ⟨a, b, c⟩ := h; exact ⟨a, b, c, fun h => by cases h⟩
  | graph g => obtain ⟨a, b, c⟩ := h; exact ⟨a, b, c, fun h => by cases h⟩
  | model m => exact h
  | _ => trivial

section
variable {u strict : Bool} {B : Nat → Prop}

theorem CellOutX.const {v : ValueS} (h : CellOutX u strict B (.val v)) : OptOut B v.const := h.2.2.2.2.2.1
theorem CellOutX.val_type {v : ValueS} (h : CellOutX u strict B (.val v)) : OptOut B v.type := h.1

/-! a field update keeps the separation when the new pointer does not lead into `B`; the fields
that are not named (name, doc, flags, producer, ..) are not looked at -/

theorem CellOutX.val_setType {v : ValueS} (h : CellOutX u strict B (.val v)) {t : Option Nat} (ht : OptOut B t) :
    CellOutX u strict B (.val { v with type := t }) := ⟨ht, h.2⟩
theorem CellOutX.val_setShape {v : ValueS} (h : CellOutX u strict B (.val v)) {t : Option Nat} (ht : OptOut B t) :
    CellOutX u strict B (.val { v with shape := t }) := ⟨h.1, ht, h.2.2⟩
theorem CellOutX.val_setGraph {v : ValueS} (h : CellOutX u strict B (.val v)) {g : Option Nat} (hg : OptOut B g) :
    CellOutX u strict B (.val { v with graph := g }) :=
  ⟨h.1, h.2.1, h.2.2.1, h.2.2.2.1, hg, h.2.2.2.2.2⟩
theorem CellOutX.val_setConst {v : ValueS} (h : CellOutX u strict B (.val v)) {t : Option Nat} (ht : OptOut B t) :
    CellOutX u strict B (.val { v with const := t }) :=
  ⟨h.1, h.2.1, h.2.2.1, h.2.2.2.1, h.2.2.2.2.1, ht, h.2.2.2.2.2.2⟩
theorem CellOutX.val_setUses {v : ValueS} (h : CellOutX u strict B (.val v)) {us : List (Nat × Nat)}
    (hu : u = true → ∀ x ∈ us, ¬ B x.1) : CellOutX u strict B (.val { v with uses := us }) :=
  ⟨h.1, h.2.1, h.2.2.1, h.2.2.2.1, h.2.2.2.2.1, h.2.2.2.2.2.1, hu⟩
theorem CellOutX.graph_outputs {g : GraphS} (h : CellOutX u strict B (.graph g)) : ∀ v ∈ g.outputs, ¬ B v := h.1
theorem CellOutX.graph_setOutputs {g : GraphS} (h : CellOutX u strict B (.graph g)) {l : List Nat}
    (hl : ∀ v ∈ l, ¬ B v) : CellOutX u strict B (.graph { g with outputs := l }) := ⟨hl, h.2⟩
theorem CellOutX.graph_inputs {g : GraphS} (h : CellOutX true strict B (.graph g)) : ∀ v ∈ g.inputs, ¬ B v :=
  (h.2.2.2 rfl).1
theorem CellOutX.graph_setInputs {g : GraphS} (h : CellOutX u strict B (.graph g)) {l : List Nat}
    (hl : ∀ v ∈ l, ¬ B v) : CellOutX u strict B (.graph { g with inputs := l }) :=
  ⟨h.1, h.2.1, h.2.2.1, fun hu => ⟨hl, (h.2.2.2 hu).2⟩⟩
theorem CellOutX.val_uses {v : ValueS} (h : CellOutX u strict B (.val v)) : u = true → ∀ x ∈ v.uses, ¬ B x.1 :=
  h.2.2.2.2.2.2

end

/-- the usage records of a value that were made by nodes of `B` -/
noncomputable def usesByB (B : Nat → Prop) (c : Cell) : List (Nat × Nat) :=
  c.usesOf.filter (fun u => @decide (B u.1) (Classical.propDecidable _))

/-- how a cell of the protected region may differ from what it was: not at all (`strict`), or only
    in usage records made by nodes outside the region -/
def CellRel (strict : Bool) (B : Nat → Prop) (c0 c : Cell) : Prop :=
  if strict then c = c0 else c.eraseUses = c0.eraseUses ∧ usesByB B c = usesByB B c0

def OptRel (strict : Bool) (B : Nat → Prop) : Option Cell → Option Cell → Prop
  | none, none => True
  | some a, some b => CellRel strict B a b
  | _, _ => False

theorem CellRel.refl (strict : Bool) (B : Nat → Prop) (c : Cell) : CellRel strict B c c := by
  unfold CellRel; split <;> simp

theorem OptRel.refl (strict : Bool) (B : Nat → Prop) (o : Option Cell) : OptRel strict B o o := by
  cases o with
  | none => trivial
  | some c => exact CellRel.refl strict B c

theorem CellRel.trans {strict : Bool} {B : Nat → Prop} {a b c : Cell} (h1 : CellRel strict B a b)
    (h2 : CellRel strict B b c) : CellRel strict B a c := by
  unfold CellRel at *
  split at h1
  · next hs => simp only [hs, if_true] at h2 ⊢; rw [h2, h1]
  · next hs => simp only [hs] at h2 ⊢; exact ⟨h2.1.trans h1.1, h2.2.trans h1.2⟩

/-- `B` is a region of the heap `wB` that the running edit must not touch -/
structure FInv (ex strict : Bool) (B : Nat → Prop) (wB : World) (s : St) : Prop where
  bound : ∀ i, B i → i < s.w.length
  same : ∀ i, B i → OptRel strict B (wB[i]?) (s.w[i]?)
  sep : ∀ (i : Nat) (c : Cell), ¬ B i → s.w[i]? = some c → CellOutX ex strict B c

def FGoodAt (ex strict : Bool) (B : Nat → Prop) (wB : World) (m : M α) (s : St) (Q : α → St → Prop) : Prop :=
  FInv ex strict B wB (m s).2 ∧ s.w.length ≤ (m s).2.w.length ∧ ∀ a, (m s).1 = .ok a → Q a (m s).2

def frameL (ex strict : Bool) (B : Nat → Prop) (wB : World) : Logic where
  E s s' := FInv ex strict B wB s' ∧ s.w.length ≤ s'.w.length
  N _ _ := True
  E_trans h1 h2 := ⟨h2.1, Nat.le_trans h1.2 h2.2⟩
  N_trans _ _ := trivial
  E_self h := ⟨h.1, Nat.le_refl _⟩
  N_self _ := trivial

section
variable {ex strict : Bool} {B : Nat → Prop} {wB : World}

theorem FInv.ok {s : St} (hI : FInv ex strict B wB s) : (frameL ex strict B wB).Ok s :=
  ⟨⟨hI, Nat.le_refl _⟩, trivial⟩

theorem Hoare.frame {m : M α} {s : St} {Q : α → St → Prop} (h : Hoare (frameL ex strict B wB) m s Q)
    (hI : FInv ex strict B wB s) : FGoodAt ex strict B wB m s Q :=
  ⟨(h hI.ok).1.1, (h hI.ok).1.2, fun a ha => ((h hI.ok).2 a ha).2⟩

theorem FGoodAt.hoare {m : M α} {s : St} {Q : α → St → Prop}
    (h : FInv ex strict B wB s → FGoodAt ex strict B wB m s Q) : Hoare (frameL ex strict B wB) m s Q :=
  fun hO => ⟨⟨(h hO.1.1).1, (h hO.1.1).2.1⟩, fun a ha => ⟨trivial, (h hO.1.1).2.2 a ha⟩⟩

theorem FGoodAt.unsupported {why : String} {s : St} {Q : α → St → Prop} (hI : FInv ex strict B wB s) :
    FGoodAt ex strict B wB (Clone.unsupported why : M α) s Q := (Hoare.fail (e := .unsupported why)).frame hI

theorem FInv.alloc {s : St} {c : Cell} (hI : FInv ex strict B wB s) (hc : CellOutX ex strict B c) :
    FInv ex strict B wB { s with w := s.w ++ [c] } := by
  refine ⟨?_, ?_, ?_⟩
  · intro i hi
    have := hI.bound i hi
    simp only [List.length_append, List.length_cons, List.length_nil]
    omega
  · intro i hi
    have := hI.bound i hi
    simp only
    rw [List.getElem?_append_left this]
    exact hI.same i hi
  · intro i c' hi hc'
    simp only at hc'
    rcases getElem?_append_singleton hc' with h | ⟨-, rfl⟩
    · exact hI.sep i c' hi h
    · exact hc

theorem falloc_good {s : St} {c : Cell} (hc : CellOutX ex strict B c) :
    Hoare (frameL ex strict B wB) (Clone.alloc c) s (fun r s1 => ¬ B r ∧ r < s1.w.length) := by
  refine FGoodAt.hoare fun hI => ?_
  refine ⟨hI.alloc hc, by simp [Clone.alloc], ?_⟩
  intro a ha
  simp only [Clone.alloc, Except.ok.injEq] at ha
  subst ha
  refine ⟨fun hb => Nat.lt_irrefl _ (hI.bound _ hb), by simp [Clone.alloc]⟩

theorem FInv.set {s : St} {i : Nat} {c : Cell} (hI : FInv ex strict B wB s) (hi : ¬ B i) (hc : CellOutX ex strict B c) :
    FInv ex strict B wB { s with w := s.w.set i c } := by
  refine ⟨?_, ?_, ?_⟩
  · intro j hj
    simpa using hI.bound j hj
  · intro j hj
    have : i ≠ j := fun h => hi (h ▸ hj)
    simp only
    rw [List.getElem?_set_ne this]
    exact hI.same j hj
  · intro j c' hj hc'
    simp only at hc'
    rw [List.getElem?_set] at hc'
    split at hc'
    · split at hc'
      · cases hc'; exact hc
      · cases hc'
    · exact hI.sep j c' hj hc'

theorem fset_good {s : St} {i : Nat} {c : Cell} (hi : ¬ B i)
    (hc : CellOutX ex strict B c) : Hoare (frameL ex strict B wB) (setCell i c) s (fun _ _ => True) :=
  FGoodAt.hoare fun hI => ⟨hI.set hi hc, by simp [setCell], fun _ _ => trivial⟩

/-- for a cell outside `B` the separation says where its followed pointers do not lead -/
theorem fread {α β : Type} {rd : Nat → M α} {inj : α → Cell} (r : Reads rd inj) {i : Nat} {k : α → M β} {s : St}
    {Q : β → St → Prop}
    (hk : ∀ a, FInv ex strict B wB s → s.w[i]? = some (inj a) → (¬ B i → CellOutX ex strict B (inj a)) →
      Hoare (frameL ex strict B wB) (k a) s Q) : Hoare (frameL ex strict B wB) (rd i >>= k) s Q := by
  refine Hoare.assume fun hO => Hoare.bindQuiet (r.quiet i) fun a ha => ?_
  exact hk a hO.1.1 (r.cell ha) fun hi => hO.1.1.sep i _ hi (r.cell ha)

/-- read a cell outside `B` and write it back changed by `f`, which keeps the separation -/
theorem fmodify {α : Type} {rd : Nat → M α} {inj : α → Cell} (r : Reads rd inj) {i : Nat} {f : α → α} {s : St}
    (hi : ¬ B i) (hf : ∀ a, CellOutX ex strict B (inj a) → CellOutX ex strict B (inj (f a))) :
    Hoare (frameL ex strict B wB) (rd i >>= fun a => setCell i (inj (f a))) s (fun _ _ => True) :=
  fread r fun a _ _ ho => fset_good hi (hf a (ho hi))

theorem ownerDict_good {s : St} (o : Nat) (which : Which) (ho : ¬ B o) :
    Hoare (frameL ex strict B wB) (ownerDict o which) s (fun r s1 => s1 = s ∧ ¬ B r) := by
  refine FGoodAt.hoare fun hI => ?_
  unfold FGoodAt ownerDict
  split
  · next v h =>
    obtain ⟨_, _, c, d, _⟩ := hI.sep o _ ho h
    exact ⟨hI, Nat.le_refl _, by intro a ha; cases ha; exact ⟨rfl, by cases which <;> assumption⟩⟩
  · next v h =>
    obtain ⟨_, c, d, _⟩ := hI.sep o _ ho h
    exact ⟨hI, Nat.le_refl _, by intro a ha; cases ha; exact ⟨rfl, by cases which <;> assumption⟩⟩
  · next v h =>
    obtain ⟨_, c, d, _⟩ := hI.sep o _ ho h
    exact ⟨hI, Nat.le_refl _, by intro a ha; cases ha; exact ⟨rfl, by cases which <;> assumption⟩⟩
  · next v h =>
    obtain ⟨c, d⟩ := hI.sep o _ ho h
    exact ⟨hI, Nat.le_refl _, by intro a ha; cases ha; exact ⟨rfl, by cases which <;> assumption⟩⟩
  · exact ⟨hI, Nat.le_refl _, by intro a ha; cases ha⟩

theorem usesByB_filter_ne {B : Nat → Prop} {us : List (Nat × Nat)} {n i : Nat} (hn : ¬ B n) :
    (us.filter (fun u => u != (n, i))).filter (fun u => @decide (B u.1) (Classical.propDecidable _)) =
      us.filter (fun u => @decide (B u.1) (Classical.propDecidable _)) := by
  rw [List.filter_filter]
  apply List.filter_congr
  intro u _
  by_cases hu : B u.1
  · have : u ≠ (n, i) := by intro h; rw [h] at hu; exact hn hu
    simp [hu, this]
  · simp [hu]

/-- writing the users of a value of the protected region by a node outside it (weak mode only) -/
theorem FInv.setUsesIn {s : St} {v : Nat} {vs : ValueS} {us : List (Nat × Nat)}
    (hI : FInv ex false B wB s) (hv : s.w[v]? = some (.val vs)) (hvB : B v)
    (hus : us.filter (fun u => @decide (B u.1) (Classical.propDecidable _)) =
      vs.uses.filter (fun u => @decide (B u.1) (Classical.propDecidable _))) :
    FInv ex false B wB { s with w := s.w.set v (.val { vs with uses := us }) } := by
  refine ⟨?_, ?_, ?_⟩
  · intro j hj; simpa using hI.bound j hj
  · intro j hj
    by_cases hjv : v = j
    · subst hjv
      have h0 := hI.same v hj
      rw [hv] at h0
      simp only
      rw [List.getElem?_set_self (lt_of_getElem? hv)]
      cases hw : wB[v]? with
      | none => rw [hw] at h0; exact h0
      | some c0 =>
        rw [hw] at h0
        exact CellRel.trans h0 (by
          show CellRel false B (.val vs) (.val { vs with uses := us })
          unfold CellRel
          simp only [Bool.false_eq_true, if_false]
          exact ⟨rfl, hus⟩)
    · simp only
      rw [List.getElem?_set_ne hjv]
      exact hI.same j hj
  · intro j c' hj hc'
    simp only at hc'
    rw [List.getElem?_set] at hc'
    split at hc'
    · split at hc'
      · next hjv _ =>
        cases hc'
        subst hjv
        exact absurd hvB hj
      · cases hc'
    · exact hI.sep j c' hj hc'

theorem fremoveUse_good {s : St} (v n i : Nat) (hv : strict = true → ¬ B v)
    (hn : ¬ B n) : Hoare (frameL ex strict B wB) (removeUse v n i) s (fun _ _ => True) := by
  unfold removeUse
  refine fread .val fun vs hI1 h hvso => ?_
  refine Hoare.ite (fun _ => ?_) fun _ => Hoare.fail
  by_cases hvB : B v
  · cases strict with
    | true => exact absurd hvB (hv rfl)
    | false =>
      exact FGoodAt.hoare fun _ => ⟨hI1.setUsesIn h hvB (usesByB_filter_ne hn), by simp [setCell], fun _ _ => trivial⟩
  · exact fset_good hvB ((hvso hvB).val_setUses fun hu x hx => (hvso hvB).val_uses hu x (List.mem_filter.mp hx).1)

theorem faddUse_good {s : St} (v n i : Nat) (hv : strict = true → ¬ B v)
    (hn : ¬ B n) : Hoare (frameL ex strict B wB) (addUse v n i) s (fun _ _ => True) := by
  unfold addUse
  refine fread .val fun vs hI1 h hvso => ?_
  by_cases hvB : B v
  · cases strict with
    | true => exact absurd hvB (hv rfl)
    | false =>
      refine FGoodAt.hoare fun _ => ⟨hI1.setUsesIn h hvB ?_, by simp [setCell], fun _ _ => trivial⟩
      split
      · rfl
      · rw [List.filter_append]
        have : List.filter (fun u => @decide (B u.1) (Classical.propDecidable _)) [(n, i)] = [] := by
          simp [List.filter, hn]
        rw [this]; simp
  · have a7 := (hvso hvB).val_uses
    refine fset_good hvB ((hvso hvB).val_setUses fun hu x hx => ?_)
    split at hx
    · exact a7 hu x hx
    · rcases List.mem_append.mp hx with hx | hx
      · exact a7 hu x hx
      · simp at hx; subst hx; exact hn

theorem faddUses_good (n : Nat) (hn : ¬ B n) :
    ∀ (l : List (Option Nat)) (i : Nat) (s : St), (∀ v, some v ∈ l → ¬ B v) →
      Hoare (frameL ex strict B wB) (addUses n i l) s (fun _ _ => True)
  | [], i, s, _ => Hoare.pure trivial
  | none :: rest, i, s, hl => by
    unfold addUses
    exact faddUses_good n hn rest (i + 1) s (fun v hv => hl v (List.mem_cons_of_mem _ hv))
  | some v :: rest, i, s, hl => by
    unfold addUses
    hbind (faddUse_good v n i (fun _ => hl v List.mem_cons_self) hn) with u s1 - - hq1
    exact faddUses_good n hn rest (i + 1) s1 (fun v hv => hl v (List.mem_cons_of_mem _ hv))

theorem fmkOutputs_good (n : Nat) :
    ∀ (k i : Nat) (s : St), Hoare (frameL ex strict B wB) (mkOutputs n i k) s (fun r _ => ∀ v ∈ r, ¬ B v)
  | 0, i, s => Hoare.pure (by simp)
  | k + 1, i, s => by
    unfold mkOutputs
    hbind (falloc_good (c := .dict {}) trivial) with pr s1 - - hpr
    hbind (falloc_good (c := .dict {}) trivial) with me s2 - - hme
    have hc : CellOutX ex strict B (.val { producer := some n, index := some i, props := pr, mstore := me }) :=
      ⟨trivial, trivial, hpr.1, hme.1, trivial, trivial, fun _ x hx => by cases hx⟩
    hbind (falloc_good hc) with v s3 - - hv
    hbind (fmkOutputs_good n k (i + 1) s3) with rest s4 - - hrest
    refine Hoare.pure ?_
    intro x hx
    rcases List.mem_cons.mp hx with h | h
    · subst h; exact hv.1
    · exact hrest x h

theorem fsetOutputNames_good :
    ∀ (vs : List Nat) (nms : List String) (s : St), (∀ v ∈ vs, ¬ B v) →
      Hoare (frameL ex strict B wB) (setOutputNames vs nms) s (fun _ _ => True)
  | [], _, s, _ => by unfold setOutputNames; exact Hoare.pure trivial
  | _ :: _, [], s, _ => by unfold setOutputNames; exact Hoare.pure trivial
  | v :: vs, nm :: nms, s, h => by
    unfold setOutputNames
    refine fread .val fun x _ _ hxo => ?_
    have hv := h v List.mem_cons_self
    hbind (fset_good hv (show CellOutX ex strict B (.val { x with name := some nm }) from hxo hv))
      with u s2 - - hq2
    exact fsetOutputNames_good vs nms s2 (fun y hy => h y (List.mem_cons_of_mem _ hy))

/-- building a node, then `k`: the prefix `appendNode`, `Edit3.replaceNode` and `buildNode` share -/
theorem fnewNode_good {α : Type} {s : St} {Q : α → St → Prop} (name : String) (op : String)
    (inputs : List (Option Nat)) (outNames : List String) (k : Nat → List Nat → M α)
    (hins : ∀ v, some v ∈ inputs → ¬ B v)
    (hk : ∀ n outs s1, FInv ex strict B wB s1 → ¬ B n → (∀ o ∈ outs, ¬ B o) →
      Hoare (frameL ex strict B wB) (k n outs) s1 Q) :
    Hoare (frameL ex strict B wB) (do
      let props ← alloc (.dict {})
      let mstore ← alloc (.dict {})
      let n ← alloc (.node { name := some name, opType := op, inputs := inputs, props := props,
                             mstore := mstore })
      let outs ← mkOutputs n 0 outNames.length
      let nn ← readNode n
      setCell n (.node { nn with outputs := outs })
      addUses n 0 inputs
      setOutputNames outs outNames
      k n outs) s Q := by
  hbind (falloc_good (c := .dict {}) trivial) with pr s2 ⟨hI2, hl2⟩ - hpr
  hbind (falloc_good (c := .dict {}) trivial) with me s3 ⟨hI3, hl3⟩ - hme
  have hc : CellOutX ex strict B
      (.node { name := some name, opType := op, inputs := inputs, props := pr, mstore := me }) :=
    ⟨fun _ => hins, hpr.1, hme.1, fun _ o ho => by cases ho⟩
  hbind (falloc_good hc) with n s4 ⟨hI4, hl4⟩ - hn
  hbind (fmkOutputs_good n outNames.length 0 s4) with outs s5 ⟨hI5, hl5⟩ - houts
  refine fread .node fun nn _ _ hnno => ?_
  obtain ⟨b1, b2, b3, _⟩ := hnno hn.1
  hbind (fset_good hn.1 (show CellOutX ex strict B (.node { nn with outputs := outs }) from
    ⟨b1, b2, b3, fun _ => houts⟩)) with u s7 ⟨hI7, hl7⟩ - hq7
  hbind (faddUses_good n hn.1 inputs 0 s7 hins) with u2 s8 ⟨hI8, hl8⟩ - hq8
  hbind (fsetOutputNames_good outs outNames s8 houts) with u3 s9 ⟨hI9, hl9⟩ - hq9
  exact hk n outs s9 hI9 hn.1 houts

/-- renaming the tensor that backs a value: the tensor cell is reached through `const` -/
theorem frenameTensor_good {s : St} (t : Option Nat) (x : Option String) (ht : OptOut B t) :
    Hoare (frameL ex strict B wB) (renameTensor t x) s (fun _ _ => True) := by
  unfold renameTensor
  cases t with
  | none => exact Hoare.pure trivial
  | some i =>
    hbind Hoare.readTensor with nm0 s3 - - hq3
    exact fset_good ht (c := .tensor x) trivial

def ArgsOut (B : Nat → Prop) (e : Edit) : Prop := ∀ a ∈ e.args, ¬ B a

theorem optOut_of_toList {B : Nat → Prop} {o : Option Nat} (h : ∀ a ∈ o.toList, ¬ B a) : OptOut B o := by
  cases o with
  | none => trivial
  | some x => exact h x (by simp)

theorem applyEdit0_frame (e : Edit) {s : St} (ha : ArgsOut B e) :
    Hoare (frameL ex strict B wB) (applyEdit0 e) s (fun _ _ => True) := by
  cases e with
  | setName v nm =>
    have hv : ¬ B v := ha v List.mem_cons_self
    unfold applyEdit0
    refine fread .val fun vs hI1 _ hvso => ?_
    have hvo := hvso hv
    refine Hoare.ite (fun _ => Hoare.pure trivial) fun _ => ?_
    · refine Hoare.ite (fun _ => ?_) fun _ => ?_
      · split
        · next nm1 gid oldstr hgid hnameq hne =>
          refine Hoare.guard fun _ => ?_
          refine fread .graph fun gs hI2 _ hgso => ?_
          have hgB : ¬ B gid := by
            obtain ⟨_, _, _, _, e, _⟩ := hvo
            rw [hgid] at e; exact e
          have hgo := hgso hgB
          refine Hoare.guard fun _ => ?_
          hbind (frenameTensor_good _ _ hvo.const) with u0 s2' - - hq2'
          hbind (fset_good hv (show CellOutX ex strict B (.val { vs with name := _ }) from hvo))
            with u s3 - - hq3
          refine Hoare.ite (fun _ => ?_) fun _ => Hoare.fail
          obtain ⟨g1, g2, g3, g4⟩ := hgo
          refine fset_good hgB (show CellOutX ex strict B (.graph { gs with inits := _ }) from
            ⟨g1, g2, g3, fun hu => ⟨(g4 hu).1, fun e he => ?_⟩⟩)
          rcases List.mem_append.mp he with he | he
          · exact (g4 hu).2 e (List.mem_filter.mp he).1
          · simp at he; subst he; exact hv
        · exact Hoare.fail
      · hbind (frenameTensor_good _ _ hvo.const) with u0 s3 - - hq2
        exact fset_good hv (show CellOutX ex strict B (.val { vs with name := nm }) from hvo)
  | setType v t =>
    have hv : ¬ B v := ha v List.mem_cons_self
    unfold applyEdit0
    refine fread .val fun vs _ _ hvso => ?_
    cases t with
    | none => exact fset_good hv ((hvso hv).val_setType (t := none) trivial)
    | some ts =>
      simp only
      hbind (falloc_good (c := .type ts) trivial) with i s2 - - hi
      exact fset_good hv ((hvso hv).val_setType (t := some i) hi.1)
  | setDtype v dt =>
    have hv : ¬ B v := ha v List.mem_cons_self
    unfold applyEdit0
    refine fread .val fun vs _ _ hvso => ?_
    have a := (hvso hv).val_type
    split
    · hbind (falloc_good (c := .type { dtype := dt }) trivial) with i s2 - - hi
      exact fset_good hv ((hvso hv).val_setType (t := some i) hi.1)
    · next t ht =>
      rw [ht] at a
      hbind Hoare.readType with ts s2 - - hq2
      exact fset_good a (c := .type { ts with dtype := dt }) trivial
  | setTypeDenot v dn =>
    have hv : ¬ B v := ha v List.mem_cons_self
    unfold applyEdit0
    refine fread .val fun vs _ _ hvso => ?_
    obtain ⟨a, b, c, d, e⟩ := hvso hv
    split
    · exact Hoare.fail
    · next t ht =>
      rw [ht] at a
      hbind Hoare.readType with ts s2 - - hq2
      split
      · exact fset_good a (c := .type { ts with denot := dn }) trivial
      · exact fset_good a (c := .type { ts with wrap := _ }) trivial
  | setShape v sh =>
    have hv : ¬ B v := ha v List.mem_cons_self
    unfold applyEdit0
    refine fread .val fun vs _ _ hvso => ?_
    cases sh with
    | none => exact fset_good hv ((hvso hv).val_setShape (t := none) trivial)
    | some ss =>
      simp only
      hbind (falloc_good (c := .shape ss) trivial) with i s2 - - hi
      exact fset_good hv ((hvso hv).val_setShape (t := some i) hi.1)
  | setDim v i d =>
    have hv : ¬ B v := ha v List.mem_cons_self
    unfold applyEdit0
    refine fread .val fun vs _ _ hvso => ?_
    obtain ⟨_, b, _, _, _⟩ := hvso hv
    split
    · exact Hoare.fail
    · next sh hsh =>
      rw [hsh] at b
      hbind Hoare.readShape with ss s2 - - hq2
      refine Hoare.guard fun _ => ?_
      refine Hoare.ite (fun _ => ?_) fun _ => Hoare.fail
      exact fset_good b (c := .shape { ss with dims := _ }) trivial
  | setDimDenot v i dn =>
    have hv : ¬ B v := ha v List.mem_cons_self
    unfold applyEdit0
    refine fread .val fun vs _ _ hvso => ?_
    obtain ⟨_, b, _, _, _⟩ := hvso hv
    split
    · exact Hoare.fail
    · next sh hsh =>
      rw [hsh] at b
      hbind Hoare.readShape with ss s2 - - hq2
      refine Hoare.ite (fun _ => ?_) fun _ => Hoare.fail
      exact fset_good b (c := .shape { ss with denots := _ }) trivial
  | setConst v t =>
    have hv : ¬ B v := ha v List.mem_cons_self
    unfold applyEdit0
    refine fread .val fun vs _ _ hvso => ?_
    exact fset_good hv ((hvso hv).val_setConst (optOut_of_toList fun x hx => ha x (List.mem_cons_of_mem _ hx)))
  | setDoc v d =>
    have hv : ¬ B v := ha v List.mem_cons_self
    exact fmodify (f := fun vs => { vs with doc := d }) .val hv fun _ h => h
  | dictSet o which k x =>
    have ho : ¬ B o := ha o List.mem_cons_self
    unfold applyEdit0
    hbind (ownerDict_good o which ho) with di s1 - - hq1
    obtain ⟨rfl, hdi⟩ := hq1
    hbind Hoare.readDict with d s2 - - hq2
    exact fset_good hdi (c := .dict _) trivial
  | dictDel o which k =>
    have ho : ¬ B o := ha o List.mem_cons_self
    unfold applyEdit0
    hbind (ownerDict_good o which ho) with di s1 - - hq1
    obtain ⟨rfl, hdi⟩ := hq1
    hbind Hoare.readDict with d s2 - - hq2
    refine Hoare.ite (fun _ => ?_) fun _ => Hoare.fail
    exact fset_good hdi (c := .dict _) trivial
  | metaInvalidate o k =>
    have ho : ¬ B o := ha o List.mem_cons_self
    unfold applyEdit0
    hbind (ownerDict_good o .mstore ho) with di s1 - - hq1
    obtain ⟨rfl, hdi⟩ := hq1
    hbind Hoare.readDict with d s2 - - hq2
    exact fset_good hdi (c := .dict _) trivial
  | replaceInput n i v =>
    have hn : ¬ B n := ha n List.mem_cons_self
    have hvB : OptOut B v := optOut_of_toList (fun a h => ha a (List.mem_cons_of_mem _ h))
    unfold applyEdit0
    refine fread .node fun ns _ _ hnso => ?_
    obtain ⟨hin, hp, hm⟩ := hnso hn
    split
    · next hlt =>
      have hset : CellOutX ex strict B (.node { ns with inputs := ns.inputs.set i v }) := by
        refine ⟨?_, hp, hm⟩
        intro hs x hx
        rcases List.mem_or_eq_of_mem_set hx with h1 | h1
        · exact hin hs x h1
        · rw [← h1] at hvB; exact hvB
      hbind (fset_good hn hset) with u s2 - - hq2
      have hold : ∀ o, (ns.inputs[i]?).join = some o → strict = true → ¬ B o := by
        intro o ho hs
        apply hin hs o
        cases hget : ns.inputs[i]? with
        | none => rw [hget] at ho; cases ho
        | some x =>
          rw [hget] at ho
          simp at ho
          subst ho
          exact List.mem_of_getElem? hget
      have hrem : Hoare (frameL ex strict B wB) (removeUseOpt (ns.inputs[i]?).join n i) s2 (fun _ _ => True) := by
        unfold removeUseOpt
        split
        · next o ho => exact fremoveUse_good o n i (hold o ho) hn
        · exact Hoare.pure trivial
      hbind hrem with u3 s3 - - hq3
      have hadd : Hoare (frameL ex strict B wB) (addUseOpt v n i) s3 (fun _ _ => True) := by
        unfold addUseOpt
        cases v with
        | none => exact Hoare.pure trivial
        | some x => exact faddUse_good x n i (fun _ => hvB) hn
      hbind hadd with u4 s4 - - hq4
      unfold dropShardingStep
      split
      · split
        · refine fread .node fun nn _ _ hnno => ?_
          obtain ⟨a1, a2, a3⟩ := hnno hn
          refine fset_good hn ?_
          unfold dropSharding
          split
          · exact ⟨a1, a2, a3⟩
          · exact ⟨a1, a2, a3⟩
        · exact Hoare.pure trivial
      · exact Hoare.pure trivial
    · exact Hoare.fail
  | setNodeName n nm =>
    have hn : ¬ B n := ha n List.mem_cons_self
    exact fmodify (f := fun ns => { ns with name := nm }) .node hn fun _ h => h
  | setOpType n nm =>
    have hn : ¬ B n := ha n List.mem_cons_self
    exact fmodify (f := fun ns => { ns with opType := nm }) .node hn fun _ h => h
  | setAttr n k p =>
    have hn : ¬ B n := ha n List.mem_cons_self
    unfold applyEdit0
    refine fread .node fun ns _ _ hnso => ?_
    have := hnso hn
    hbind (falloc_good (c := .attr { name := k, v := .plain p }) trivial) with a s2 - - hq2
    exact fset_good hn (show CellOutX ex strict B (.node { ns with attrs := _ }) from this)
  | delAttr n k =>
    have hn : ¬ B n := ha n List.mem_cons_self
    unfold applyEdit0
    refine fread .node fun ns _ _ hnso => ?_
    refine Hoare.ite (fun _ => ?_) fun _ => Hoare.fail
    exact fset_good hn (show CellOutX ex strict B (.node { ns with attrs := _ }) from hnso hn)
  | setGraphName g nm =>
    have hg : ¬ B g := ha g List.mem_cons_self
    exact fmodify (f := fun gs => { gs with name := nm }) .graph hg fun _ h => h
  | setOpset g dom ver =>
    have hg : ¬ B g := ha g List.mem_cons_self
    unfold applyEdit0
    refine fread .graph fun gs _ _ hgso => ?_
    exact fset_good hg (show CellOutX ex strict B (.graph { gs with opsets := _ }) from hgso hg)
  | removeNode g n =>
    have hg : ¬ B g := ha g List.mem_cons_self
    have hn : ¬ B n := ha n (List.mem_cons_of_mem _ List.mem_cons_self)
    unfold applyEdit0
    refine fread .graph fun gs _ _ hgso => ?_
    refine fread .node fun ns _ _ hnso => ?_
    refine Hoare.guard fun _ => ?_
    refine Hoare.guard fun _ => ?_
    hbind (fset_good hn (show CellOutX ex strict B (.node { ns with graph := none }) from hnso hn))
      with u s3 - - hq3
    exact fset_good hg (show CellOutX ex strict B (.graph { gs with nodes := _ }) from hgso hg)
  | appendNode g name op inputs outNames =>
    have hg : ¬ B g := ha g List.mem_cons_self
    have hins : ∀ v, some v ∈ inputs → ¬ B v := by
      intro v hv
      apply ha v
      simp only [Edit.args, List.mem_cons, List.mem_filterMap, id]
      exact .inr ⟨some v, hv, rfl⟩
    unfold applyEdit0
    refine fread .graph fun gs _ _ _ => ?_
    refine Hoare.guard fun _ => ?_
    refine fnewNode_good name op inputs outNames _ hins fun n outs s9 hI9 hn _ => ?_
    refine fread .node fun nn2 _ _ hnn2o => ?_
    hbind (fset_good hn (show CellOutX ex strict B (.node { nn2 with graph := some g }) from
      hnn2o hn)) with u4 s11 - - hq11
    refine fread .graph fun gs2 _ _ hgs2o => ?_
    exact fset_good hg (show CellOutX ex strict B (.graph { gs2 with nodes := _ }) from
      hgs2o hg)
  | appendOutput g v =>
    have hg : ¬ B g := ha g List.mem_cons_self
    have hv : ¬ B v := ha v (List.mem_cons_of_mem _ List.mem_cons_self)
    unfold applyEdit0
    refine fread .graph fun gs _ _ hgso => ?_
    refine Hoare.guard fun _ => ?_
    refine fread .val fun vs _ _ hvso => ?_
    refine Hoare.guard fun _ => ?_
    hbind (fset_good hv (c := .val { vs with isOut := true, graph := some g })
      ((hvso hv).val_setGraph (g := some g) hg)) with u s3 - - hq3
    refine fset_good hg ((hgso hg).graph_setOutputs fun x hx => ?_)
    rcases List.mem_append.mp hx with h | h
    · exact (hgso hg).graph_outputs x h
    · simp at h; subst h; exact hv
  | popOutput g =>
    have hg : ¬ B g := ha g List.mem_cons_self
    unfold applyEdit0
    refine fread .graph fun gs _ _ hgso => ?_
    obtain ⟨go, gp, gm⟩ := hgso hg
    refine Hoare.guard fun _ => ?_
    split
    · exact Hoare.fail
    · next v hv =>
      have hvB : ¬ B v := go v (List.mem_of_getLast? hv)
      have hdrop : CellOutX ex strict B (.graph { gs with outputs := gs.outputs.dropLast }) :=
        ⟨fun x hx => go x (List.dropLast_subset _ hx), gp, gm⟩
      hbind (fset_good hg hdrop) with u s2 - - hq2
      split
      · exact Hoare.pure trivial
      · refine fread .val fun vs _ _ hvso => ?_
        obtain ⟨a, b, c, d, e⟩ := hvso hvB
        refine fset_good hvB ?_
        split
        · exact ⟨a, b, c, d, e⟩
        · exact ⟨a, b, c, d, trivial, e.2⟩

  | _ => exact Hoare.fail

theorem applyEdit_frame (e : Edit) {s : St} (ha : ArgsOut B e) :
    Hoare (frameL ex strict B wB) (applyEdit e) s (fun _ _ => True) := by
  cases e with
  | setNodeDomain n x => exact fmodify (f := fun ns => { ns with domain := x }) .node (ha n List.mem_cons_self) fun _ h => h
  | setNodeOverload n x => exact fmodify (f := fun ns => { ns with overload := x }) .node (ha n List.mem_cons_self) fun _ h => h
  | setNodeVersion n x => exact fmodify (f := fun ns => { ns with version := x }) .node (ha n List.mem_cons_self) fun _ h => h
  | setNodeDoc n x => exact fmodify (f := fun ns => { ns with doc := x }) .node (ha n List.mem_cons_self) fun _ h => h
  | setDev n d => exact fmodify (f := fun ns => { ns with dev := d }) .node (ha n List.mem_cons_self) fun _ h => h
  | setGraphDoc g x =>
    exact fmodify (f := fun gs => { gs with doc := x }) .graph (ha g List.mem_cons_self) fun _ h => h
  | setFuncName f x =>
    have hf : ¬ B f := ha f List.mem_cons_self
    show Hoare (frameL ex strict B wB) (do let fs ← readFunc f; setCell f (.func { fs with name := x })) s _
    hbind Hoare.readFunc with fs s1 - - hq1
    exact fset_good hf (c := .func _) trivial
  | setModelHeader m x =>
    exact fmodify (f := fun ms => { ms with header := x }) .model (ha m List.mem_cons_self) fun _ h => h
  -- the model's last case
  | _ => exact applyEdit0_frame _ ha

end

/-! Every alphabet runs a history the same way: each call from a fresh cloner state on the heap the
previous call left, whether that call returned or raised. -/

def runHist {E : Type} (apply : E → M Unit) : List E → World → List (Except Err Unit) × World
  | [], w => ([], w)
  | e :: es, w =>
    match run (apply e) w with
    | (r, w1) =>
      match runHist apply es w1 with
      | (rs, w2) => (r :: rs, w2)

theorem runHistory_eq : ∀ (es : List Edit) (w : World), runHistory es w = runHist applyEdit es w
  | [], _ => rfl
  | e :: es, w => by
    unfold runHistory runHist
    rcases run (applyEdit e) w with ⟨r, w1⟩
    simp only [runHistory_eq es w1]

section
variable {ex strict : Bool} {B : Nat → Prop} {wB : World} {E : Type} {apply : E → M Unit} {args : E → List Nat}

theorem FInv.restart {s : St} (h : FInv ex strict B wB s) : FInv ex strict B wB { w := s.w } :=
  ⟨h.bound, h.same, h.sep⟩

theorem runHist_inv
    (hstep : ∀ (e : E) (s : St), FInv ex strict B wB s → (∀ a ∈ args e, ¬ B a) →
      FGoodAt ex strict B wB (apply e) s (fun _ _ => True)) :
    ∀ (es : List E) (w : World), FInv ex strict B wB { w := w } → (∀ e ∈ es, ∀ a ∈ args e, ¬ B a) →
      FInv ex strict B wB { w := (runHist apply es w).2 }
  | [], _, h, _ => h
  | e :: es, w, h, ha => by
    have h1 := (hstep e _ h (ha e List.mem_cons_self)).1
    unfold runHist run
    rcases hm : apply e { w := w } with ⟨r, s1⟩
    rw [hm] at h1
    simp only
    have h2 := runHist_inv hstep es s1.w h1.restart (fun e' he' => ha e' (List.mem_cons_of_mem _ he'))
    rcases hr : runHist apply es s1.w with ⟨rs, w2⟩
    rw [hr] at h2
    exact h2

theorem OptRel.eq_of_strict {a b : Option Cell} (h : OptRel true B a b) : b = a := by
  cases a <;> cases b
  · rfl
  · exact h.elim
  · exact h.elim
  · exact congrArg some (by simpa [OptRel, CellRel] using h)

/-- the frame theorem of an alphabet (`ex`: its calls follow the pointers of the extended separation too) -/
def Framed (ex : Bool) (runH : List E → World → List (Except Err Unit) × World) (args : E → List Nat) : Prop :=
  ∀ (B : Nat → Prop) (w : World) (es : List E), (∀ i, B i → i < w.length) →
    (∀ (i : Nat) (c : Cell), ¬ B i → w[i]? = some c → CellOutX ex true B c) →
    (∀ e ∈ es, ∀ a ∈ args e, ¬ B a) → ∀ i, B i → (runH es w).2[i]? = w[i]?

theorem Framed.of_step {runH : List E → World → List (Except Err Unit) × World}
    (hrun : ∀ es w, runH es w = runHist apply es w)
    (hstep : ∀ (B : Nat → Prop) (wB : World) (e : E) (s : St), FInv ex true B wB s → (∀ a ∈ args e, ¬ B a) →
      FGoodAt ex true B wB (apply e) s (fun _ _ => True)) : Framed ex runH args := by
  intro B w es hb hsep hargs i hi
  rw [hrun]
  exact ((runHist_inv (hstep B w) es w ⟨hb, fun _ _ => OptRel.refl _ _ _, hsep⟩ hargs).same i hi).eq_of_strict

end

theorem Edit.framed : Framed false runHistory Edit.args :=
  Framed.of_step runHistory_eq fun _ _ e _ hI ha => (applyEdit_frame e ha).frame hI


theorem constTarget_tensor {w : World} (hwf : wellFormed w = true) {i : Nat} (h : ConstTarget w i) :
    ∃ nm, w[i]? = some (.tensor nm) := by
  obtain ⟨j, vs, hj, hc⟩ := h
  unfold wellFormed at hwf
  rw [Bool.and_eq_true] at hwf
  have := hwf.2
  unfold constTyped at this
  rw [List.all_eq_true] at this
  have := this _ (List.mem_of_getElem? hj)
  simp only [hc] at this
  split at this
  · next nm h => exact ⟨nm, h⟩
  · cases this

/-- no editing call follows a pointer out of a usage record -/
theorem followed_eraseUses (c : Cell) : followed c.eraseUses = followed c := by cases c <;> rfl

theorem followed_oldSame {n0 : Nat} {c0 c : Cell} (h : OldSame n0 c0 c) : followed c = followed c0 := by
  rw [← followed_eraseUses c, h.1, followed_eraseUses]

theorem cellOut_of_followed {B : Nat → Prop} {c : Cell} (h : ∀ p ∈ followed c, ¬ B p) : CellOut true B c := by
  cases c with
  | val v =>
    simp only [followed, List.mem_append, List.mem_cons] at h
    exact ⟨optOut_of_toList (fun p hp => h p (by simp [hp])), optOut_of_toList (fun p hp => h p (by simp [hp])),
      h _ (by simp), h _ (by simp), optOut_of_toList (fun p hp => h p (by simp [hp])),
      optOut_of_toList (fun p hp => h p (by simp [hp]))⟩
  | node n =>
    simp only [followed, List.mem_append, List.mem_cons, List.mem_filterMap, id] at h
    exact ⟨fun _ v hv => h v (.inl ⟨some v, hv, rfl⟩), h _ (by simp), h _ (by simp)⟩
  | graph g =>
    simp only [followed, List.mem_append, List.mem_cons] at h
    exact ⟨fun v hv => h v (.inl hv), h _ (by simp), h _ (by simp)⟩
  | model m =>
    simp only [followed, List.mem_cons] at h
    exact ⟨h _ (by simp), h _ (by simp)⟩
  | _ => trivial

theorem wellFormed_spec {w : World} (h : wellFormed w = true) {i : Nat} {c : Cell}
    (hc : w[i]? = some c) : ∀ p ∈ followed c, p < w.length := by
  unfold wellFormed at h
  rw [Bool.and_eq_true, List.all_eq_true] at h
  have := h.1 c (List.mem_of_getElem? hc)
  rw [List.all_eq_true] at this
  intro p hp
  simpa using this p hp

theorem cellOutX_of_followed {B : Nat → Prop} {c : Cell} (h : ∀ p ∈ followed c, ¬ B p)
    (h2 : ∀ p ∈ followed2 c, ¬ B p) : CellOutX true true B c := by
  have base := cellOut_of_followed h
  cases c with
  | val v =>
    obtain ⟨a, b, c, d, e, f⟩ := base
    exact ⟨a, b, c, d, e, f, fun _ x hx => h2 x.1 (by simp only [followed2]; exact List.mem_map.mpr ⟨x, hx, rfl⟩)⟩
  | node n =>
    obtain ⟨a, b, c⟩ := base
    exact ⟨a, b, c, fun _ x hx => h2 x (by simpa [followed2] using hx)⟩
  | graph g =>
    obtain ⟨a, b, c⟩ := base
    refine ⟨a, b, c, fun _ => ⟨fun x hx => h2 x (by simp [followed2, hx]), fun e he => h2 e.2 ?_⟩⟩
    simp only [followed2, List.mem_append, List.mem_map]
    exact .inr ⟨e, he, rfl⟩
  | model m => exact base
  | _ => trivial

theorem wellFormed2_spec {w : World} (h : wellFormed2 w = true) {i : Nat} {c : Cell}
    (hc : w[i]? = some c) : wellFormed w = true ∧ ∀ p ∈ followed2 c, p < w.length := by
  unfold wellFormed2 at h
  rw [Bool.and_eq_true, List.all_eq_true] at h
  refine ⟨h.1, ?_⟩
  have := h.2 c (List.mem_of_getElem? hc)
  rw [List.all_eq_true] at this
  intro p hp
  simpa using this p hp

/-- the cells a clone created as the region of an alphabet's frame theorem -/
theorem Framed.new_cells {ex : Bool} {E : Type} {runH : List E → World → List (Except Err Unit) × World}
    {args : E → List Nat} (hF : Framed ex runH args) {w w' : World} (es : List E)
    (hargs : ∀ e ∈ es, ∀ a ∈ args e, ¬ (w.length ≤ a ∧ a < w'.length))
    (hsep : ∀ (j : Nat) (c : Cell), j < w.length → w'[j]? = some c →
      CellOutX ex true (fun i => w.length ≤ i ∧ i < w'.length) c) :
    ∀ i, w.length ≤ i → i < w'.length → (runH es w').2[i]? = w'[i]? := by
  intro i h1 h2
  refine hF (fun i => w.length ≤ i ∧ i < w'.length) w' es (fun i hi => hi.2) ?_ hargs i ⟨h1, h2⟩
  intro j c hj hc
  exact hsep j c ((Nat.lt_or_ge j w.length).resolve_right fun h => hj ⟨h, lt_of_getElem? hc⟩) hc

/-- the original edited with the first alphabet, for both settings of `allow_outer_scope_values` -/
theorem frame_orig_edited {w w' : World} {allow : Bool} (hwf : wellFormed w = true)
    (hres : CloneResult w allow w') (es : List Edit)
    (hargs : ∀ e ∈ es, ∀ a ∈ e.args, ¬ (w.length ≤ a ∧ a < w'.length)) :
    ∀ i, w.length ≤ i → i < w'.length → (runHistory es w').2[i]? = w'[i]? := by
  refine Edit.framed.new_cells es hargs fun j c hjlt hc => ?_
  obtain ⟨c', hc', hsame⟩ := hres.old j _ (List.getElem?_eq_getElem hjlt)
  rw [hc] at hc'
  cases hc'
  refine .of_cellOut (cellOut_of_followed ?_)
  rw [followed_oldSame hsame]
  intro p hp hB
  have := wellFormed_spec hwf (List.getElem?_eq_getElem hjlt) p hp
  omega

/-- `wellFormed2`, not `wellFormed`: the cells outside the region are the original's, whose users /
    outputs / inputs / initializers must be known to be in range -/
theorem Framed.orig_edited {E : Type} {runH : List E → World → List (Except Err Unit) × World}
    {args : E → List Nat} (hF : Framed true runH args) {w w' : World} (hwf : wellFormed2 w = true)
    (hres : CloneResult w false w') (es : List E)
    (hargs : ∀ e ∈ es, ∀ a ∈ args e, ¬ (w.length ≤ a ∧ a < w'.length)) :
    ∀ i, w.length ≤ i → i < w'.length → (runH es w').2[i]? = w'[i]? := by
  refine hF.new_cells es hargs fun j c hjlt hc => ?_
  have heq := hres.oldEq rfl j _ (List.getElem?_eq_getElem hjlt)
  rw [hc] at heq
  cases heq
  obtain ⟨hwf1, hf2⟩ := wellFormed2_spec hwf (List.getElem?_eq_getElem hjlt)
  apply cellOutX_of_followed
  · intro p hp hB
    have := wellFormed_spec hwf1 (List.getElem?_eq_getElem hjlt) p hp
    omega
  · intro p hp hB
    have := hf2 p hp
    omega

end IrVerif.Clone
