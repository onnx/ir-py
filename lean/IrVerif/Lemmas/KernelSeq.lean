/-
Kernel ↔ C11: the kernel's node-sequence operations, as pure list functions (`seqApply`), are the
abstract list operations that the pointer-level `LinkedSet` model refines (`C11_rep_toList`), and they are
what the kernel's graph calls do to `(w.gr g).nodes`.
-/
import IrVerif.Lemmas.KernelNode
import IrVerif.Model.LinkedSet
namespace IrVerif.Kernel
open IrVerif.LinkedSet

theorem idxOf?_eq_idxOf (l : List Nat) (a : Nat) :
    l.idxOf? a = if a ∈ l then some (l.idxOf a) else none := by
  induction l with
  | nil => simp
  | cons x xs ih =>
    simp only [List.idxOf?_cons, List.idxOf_cons, List.mem_cons, ih]
    by_cases h : x = a
    · subst h; simp
    · have h' : ¬ a = x := fun e => h e.symm
      have hb : (x == a) = false := by simp [h]
      simp [h', hb]

theorem insertIdx_eq_take_drop (l : List Nat) (p x : Nat) (h : p ≤ l.length) :
    l.insertIdx p x = l.take p ++ x :: l.drop p := by
  induction l generalizing p with
  | nil => simp at h; subst h; simp
  | cons a as ih =>
    cases p with
    | zero => simp
    | succ p => simp [List.insertIdx_succ_cons, ih p (by simpa using h)]

theorem eraseIdx_idxOf (l : List Nat) (x : Nat) : l.eraseIdx (l.idxOf x) = l.erase x :=
  (List.erase_eq_eraseIdx_of_idxOf rfl).symm

/-- the kernel's `_insert_one_after` on the abstract sequence is C11's -/
theorem spec_insertOneAfter (L : List Nat) (d : Dir) (c : Spec.ACur) (anchor : Option Nat) (x : Nat)
    (ha : ∀ a, anchor = some a → a ∈ L) :
    (Spec.insertOneAfter ⟨L, d, c⟩ anchor x).1.L = linkAfter L anchor x ∧
    (Spec.insertOneAfter ⟨L, d, c⟩ anchor x).2 = some x := by
  unfold Spec.insertOneAfter linkAfter
  by_cases hax : anchor = some x
  · have hx : x ∈ L := ha x hax
    simp [hax, hx]
  · simp only [hax, if_false, false_and]
    refine ⟨?_, by simp⟩
    have h1 : (if x ∈ L then Spec.removeIdx ⟨L, d, c⟩ (L.idxOf x) else ⟨L, d, c⟩).L = L.erase x := by
      split
      · simp [Spec.removeIdx, eraseIdx_idxOf]
      · rename_i hx; simp [List.erase_of_not_mem hx]
    simp only [Spec.insertIdx]
    cases anchor with
    | none => simp [insertAfter, h1]
    | some a =>
      have hne : a ≠ x := fun e => hax (by rw [e])
      have hal : a ∈ L.erase x := (List.mem_erase_of_ne hne).2 (ha a rfl)
      simp only [insertAfter, h1, idxOf?_eq_idxOf, hal, if_true]
      exact insertIdx_eq_take_drop _ _ _ (List.idxOf_lt_length_of_mem hal)

/-- `_insert_many_after` on the abstract sequence, with the kernel's `linkAfter` -/
def linkManyL (l : List Nat) (anchor : Option Nat) : List Nat → List Nat
  | [] => l
  | x :: xs => linkManyL (linkAfter l anchor x) (some x) xs

/-- the node-sequence operations of the kernel as pure list functions (what `graphAppend`,
`extendMut`, `linkMany`, `nodeUnlink` do to `(w.gr g).nodes`); `false` = the call is rejected -/
def seqApply (l : List Nat) : LinkedSet.Op → List Nat × Bool
  | .append v => (linkAfter l l.getLast? v, true)
  | .extend vs => (vs.foldl (fun l v => linkAfter l l.getLast? v) l, true)
  | .insertAfter a vs => if a ∈ l then (linkManyL l (some a) vs, true) else (l, false)
  | .insertBefore a vs => if a ∈ l then (linkManyL l (predOf l a) vs, true) else (l, false)
  | .remove v => if v ∈ l then (l.erase v, true) else (l, false)

theorem mem_linkAfter_self (l : List Nat) (a : Option Nat) (x : Nat) (h : l.Nodup) : x ∈ linkAfter l a x := by
  rw [mem_linkAfter _ _ _ _ h]; exact Or.inl rfl

theorem spec_insertManyAfter (d : Dir) : ∀ (xs : List Nat) (L : List Nat) (c : Spec.ACur) (anchor : Option Nat),
    L.Nodup → (∀ a, anchor = some a → a ∈ L) →
    (Spec.insertManyAfter ⟨L, d, c⟩ anchor xs).L = linkManyL L anchor xs
  | [], L, c, anchor, _, _ => rfl
  | x :: xs, L, c, anchor, hn, ha => by
    obtain ⟨h1, h2⟩ := spec_insertOneAfter L d c anchor x ha
    simp only [Spec.insertManyAfter, linkManyL]
    have e : (Spec.insertOneAfter ⟨L, d, c⟩ anchor x).1 =
        ⟨linkAfter L anchor x, d, (Spec.insertOneAfter ⟨L, d, c⟩ anchor x).1.c⟩ := by
      rw [← h1]
      have hd : (Spec.insertOneAfter ⟨L, d, c⟩ anchor x).1.d = d := by
        unfold Spec.insertOneAfter; split
        · rfl
        · simp only [Spec.insertIdx]; split <;> rfl
      cases hs : (Spec.insertOneAfter ⟨L, d, c⟩ anchor x).1 with
      | mk L' d' c' => rw [hs] at hd; simp at hd; subst hd; rfl
    rw [e, h2]
    exact spec_insertManyAfter d xs _ _ (some x) (nodup_linkAfter _ _ _ hn)
      (fun a ha' => by cases ha'; exact mem_linkAfter_self _ _ _ hn)

theorem spec_append (L : List Nat) (d : Dir) (c : Spec.ACur) (x : Nat) :
    (Spec.append ⟨L, d, c⟩ x).L = linkAfter L L.getLast? x ∧ (Spec.append ⟨L, d, c⟩ x).d = d := by
  unfold Spec.append
  refine ⟨(spec_insertOneAfter L d c L.getLast? x (fun _ ha => List.mem_of_getLast? ha)).1, ?_⟩
  unfold Spec.insertOneAfter; split
  · rfl
  · simp only [Spec.insertIdx]; split <;> rfl

theorem spec_extend (d : Dir) : ∀ (xs : List Nat) (L : List Nat) (c : Spec.ACur),
    (Spec.extend ⟨L, d, c⟩ xs).L = xs.foldl (fun l v => linkAfter l l.getLast? v) L
  | [], _, _ => rfl
  | x :: xs, L, c => by
    obtain ⟨h1, h2⟩ := spec_append L d c x
    simp only [Spec.extend, List.foldl_cons]
    cases hs : Spec.append ⟨L, d, c⟩ x with
    | mk L' d' c' =>
      rw [hs] at h1 h2; simp at h1 h2; subst h1 h2
      exact spec_extend d' xs _ c'

theorem predOf_eq (L : List Nat) (a : Nat) (h : a ∈ L) : Spec.predOf L a = predOf L a := by
  unfold Spec.predOf predOf
  simp only [idxOf?_eq_idxOf, h, if_true]
  cases hi : L.idxOf a with
  | zero => simp
  | succ i => simp

theorem predOf_mem (L : List Nat) (a p : Nat) (h : predOf L a = some p) : p ∈ L := by
  unfold predOf at h
  split at h
  · exact List.mem_of_getElem? h
  · simp at h

/-- every node-sequence operation of the kernel, as a list function, is C11's abstract operation -/
theorem seqApply_eq_spec (L : List Nat) (hn : L.Nodup) (op : LinkedSet.Op) :
    (Spec.apply ⟨L, .fwd, .done⟩ op).1.L = (seqApply L op).1 ∧
    (Spec.apply ⟨L, .fwd, .done⟩ op).2 = (seqApply L op).2 := by
  cases op with
  | append v => exact ⟨(spec_append L _ _ v).1, rfl⟩
  | extend vs => exact ⟨spec_extend _ vs L _, rfl⟩
  | insertAfter a vs =>
    simp only [Spec.apply, Spec.insertAfter, seqApply]
    split
    · rename_i h
      exact ⟨spec_insertManyAfter _ vs L _ (some a) hn (fun b hb => by cases hb; exact h), rfl⟩
    · exact ⟨rfl, rfl⟩
  | insertBefore a vs =>
    simp only [Spec.apply, Spec.insertBefore, seqApply]
    split
    · rename_i h
      rw [predOf_eq L a h]
      exact ⟨spec_insertManyAfter _ vs L _ _ hn (fun b hb => predOf_mem L a b hb), rfl⟩
    · exact ⟨rfl, rfl⟩
  | remove v =>
    simp only [Spec.apply, Spec.remove, seqApply]
    split
    · simp [Spec.removeIdx, eraseIdx_idxOf]
    · exact ⟨rfl, rfl⟩

/-! ### what the kernel's graph calls do to the node sequence -/

theorem assignNames_namingFrame (w : World) (g n : Nat) : NamingFrame w (assignNames w g n) :=
  foldl_inv (NamingFrame w) _ (fun a b ha => ha.trans (registerValue_namingFrame a g b)) _ _
    (registerNode_namingFrame w g n)

theorem nodeAddable_congr {w w' : World} (hf : NamingFrame w w') (g n : Nat) :
    nodeAddable w' g n = nodeAddable w g n := by
  have h : (w'.node n).graph = (w.node n).graph := (congrArg NodeS.graph (hf.node n) :)
  simp [nodeAddable, h]

/-- one `_insert_one_after` of the kernel: names first, then the link -/
theorem link_step (w : World) (g : Nat) (anchor : Option Nat) (n : Nat) (ha : nodeAddable w g n = true) :
    ((nodeLink (assignNames w g n) g anchor n).gr g).nodes = linkAfter (w.gr g).nodes anchor n ∧
    (∀ m, nodeAddable w g m = true → nodeAddable (nodeLink (assignNames w g n) g anchor n) g m = true) := by
  have hs := assignNames_namingFrame w g n
  have ha' : nodeAddable (assignNames w g n) g n = true := by rw [nodeAddable_congr hs]; exact ha
  constructor
  · rw [nodeLink_gr _ _ _ _ ha', if_pos rfl, (congrArg GraphS.nodes (hs.gr g) :)]
  · intro m hm
    have hm' : nodeAddable (assignNames w g n) g m = true := by rw [nodeAddable_congr hs]; exact hm
    simp only [nodeAddable, nodeLink_node _ _ _ _ ha'] at hm' ⊢
    split
    · simp
    · exact hm'

theorem addable_of_acceptable {w : World} {g n : Nat} (h : nodeAcceptable w g n = true) :
    nodeAddable w g n = true := by
  simp [nodeAcceptable] at h; exact h.1

theorem nodes_graphAppend (w : World) (g n : Nat) (ha : nodeAcceptable w g n = true) :
    ((graphAppend w g n).1.gr g).nodes = (seqApply (w.gr g).nodes (.append n)).1 := by
  unfold graphAppend
  rw [guardOp_fst _ _ _ _ (by simp [ha])]
  exact (link_step w g _ n (addable_of_acceptable ha)).1

theorem nodes_extendMut (g : Nat) : ∀ (ns : List Nat) (w : World), (∀ n ∈ ns, nodeAddable w g n = true) →
    ((extendMut w g ns).gr g).nodes = ns.foldl (fun l v => linkAfter l l.getLast? v) (w.gr g).nodes
  | [], _, _ => rfl
  | n :: ns, w, h => by
    obtain ⟨h1, h2⟩ := link_step w g (w.gr g).nodes.getLast? n (h n List.mem_cons_self)
    simp only [extendMut, List.foldl_cons]
    have := nodes_extendMut g ns _ (fun m hm => h2 m (h m (List.mem_cons_of_mem _ hm)))
    simp only [extendMut] at this
    rw [this, h1]

theorem nodes_graphExtend (w : World) (g : Nat) (ns : List Nat) (ha : ns.all (nodeAcceptable w g) = true) :
    ((graphExtend w g ns).1.gr g).nodes = (seqApply (w.gr g).nodes (.extend ns)).1 := by
  unfold graphExtend
  rw [guardOp_fst _ _ _ _ (by simp [ha])]
  exact nodes_extendMut g ns w (fun n hn => addable_of_acceptable ((List.all_eq_true.1 ha) n hn))

theorem nodes_linkMany (g : Nat) : ∀ (ns : List Nat) (w : World) (anchor : Option Nat),
    (∀ n ∈ ns, nodeAddable w g n = true) →
    ((linkMany w g anchor ns).gr g).nodes = linkManyL (w.gr g).nodes anchor ns
  | [], _, _, _ => rfl
  | n :: ns, w, anchor, h => by
    obtain ⟨h1, h2⟩ := link_step w g anchor n (h n List.mem_cons_self)
    have := nodes_linkMany g ns _ (some n) (fun m hm => h2 m (h m (List.mem_cons_of_mem _ hm)))
    simp only [linkMany, List.foldl_cons, linkManyL] at this ⊢
    rw [this, h1]

theorem nodes_graphInsertAfter (w : World) (hw : I_node w) (g a : Nat) (ns : List Nat)
    (ha : (w.node a).graph = some g) (hns : ns.all (nodeAcceptable w g) = true) :
    ((graphInsertAfter w g a ns).1.gr g).nodes = (seqApply (w.gr g).nodes (.insertAfter a ns)).1 := by
  have hmem : a ∈ (w.gr g).nodes := (hw.mem a g).1 ha
  unfold graphInsertAfter
  rw [guardOp_fst _ _ _ _ (by simp [ha, hns])]
  simp only [seqApply, hmem, if_true]
  exact nodes_linkMany g ns w _ (fun n hn => addable_of_acceptable ((List.all_eq_true.1 hns) n hn))

theorem nodes_graphInsertBefore (w : World) (hw : I_node w) (g a : Nat) (ns : List Nat)
    (ha : (w.node a).graph = some g) (hns : ns.all (nodeAcceptable w g) = true) :
    ((graphInsertBefore w g a ns).1.gr g).nodes = (seqApply (w.gr g).nodes (.insertBefore a ns)).1 := by
  have hmem : a ∈ (w.gr g).nodes := (hw.mem a g).1 ha
  unfold graphInsertBefore
  rw [guardOp_fst _ _ _ _ (by simp [ha, hns])]
  simp only [seqApply, hmem, if_true]
  exact nodes_linkMany g ns w _ (fun n hn => addable_of_acceptable ((List.all_eq_true.1 hns) n hn))

/-- removing one node (`Graph.remove(n)`, not `safe`) -/
theorem nodes_graphRemove_one (w : World) (hw : I_node w) (g n : Nat) (ha : (w.node n).graph = some g) :
    ((graphRemove w g [n] false).1.gr g).nodes = (seqApply (w.gr g).nodes (.remove n)).1 := by
  have hmem : n ∈ (w.gr g).nodes := (hw.mem n g).1 ha
  unfold graphRemove
  rw [guardOp_fst _ _ _ _ (by simp [ha])]
  simp [seqApply, hmem, ha, nodeUnlink, dedup]

end IrVerif.Kernel
