/-
C15 part B: vocabulary of the NameFixPass postcondition and facts about the lists the specification functions of
`Model/Names.lean` enumerate.
-/
import IrVerif.Model.Names
import IrVerif.Lemmas.NamesOrder
namespace IrVerif.Names

/-- the values the call for `t` can meet -/
def TopC (io : Nat → Option Nat) (t : Top) (u : Nat) : Prop :=
  u ∈ mentioned t.tr ∨ ∃ g ∈ graphsOf t.tr, io u = some g

/-- two top-level graphs share neither values (initializers included) nor nodes -/
def TopDisj (io : Nat → Option Nat) (a b : Top) : Prop :=
  (∀ u, TopC io a u → ¬ TopC io b u) ∧ (∀ n ∈ allNodes a.body, n ∉ allNodes b.body)

/-- pairwise different, truthy names on a list of ids -/
structure InjT (f : Nat → Option String) (L : List Nat) : Prop where
  inj : ∀ a ∈ L, ∀ b ∈ L, a ≠ b → f a ≠ f b
  named : ∀ a ∈ L, truthy (f a) = true

/-- kept-if-unique on a list, between two name tables -/
def KeptOn (f f' : Nat → Option String) (L : List Nat) : Prop :=
  ∀ v ∈ L, truthy (f v) = true → (∀ u ∈ L, u ≠ v → f u ≠ f v) → f' v = f v

theorem FirstB.keptOn {orig fin : Nat → Option String} {L : List Nat} (h : FirstB orig fin L) : KeptOn orig fin L :=
  fun v hv h1 h2 => h v hv h1 (fun u hu => h2 u (before_sub hu) (fun e => not_mem_before (e ▸ hu)))

/-- the postcondition on one list: pairwise different non-empty names, first holder keeps (hence unique names are
kept: `FirstB.keptOn`) -/
def PostOn (orig fin : Nat → Option String) (L : List Nat) : Prop :=
  InjT fin L ∧ FirstB orig fin L

theorem bodyOuts_sub_mentioned : ∀ (t : Tr) (v : Nat), v ∈ bodyOuts t → v ∈ mentioned t := by
  intro t
  induction t with
  | nil => intro v h; simp [bodyOuts] at h
  | node n ins outs subs rest _ ihr =>
    intro v h
    simp only [bodyOuts, List.mem_append] at h
    simp only [mentioned, nodeVals, List.mem_append]
    rcases h with h | h
    · exact Or.inl (Or.inr h)
    · exact Or.inr (Or.inr (ihr v h))
  | graph g isG ins outs body rest _ ihr =>
    intro v h
    simp only [bodyOuts] at h
    simp only [mentioned, List.mem_append]
    exact Or.inr (Or.inr (ihr v h))

theorem bodyVis_mem : ∀ (t : Tr) (V : List Nat) (x : Nat), x ∈ bodyVis t V → x ∈ V ∨ x ∈ mentioned t := by
  intro t
  induction t with
  | nil => intro V x h; exact Or.inl h
  | node n ins outs subs rest ihs ihr =>
    intro V x h
    simp only [bodyVis] at h
    simp only [mentioned, List.mem_append]
    rcases ihr _ x h with h | h
    · rcases ihs _ x h with h | h
      · rcases List.mem_append.mp h with h | h
        · exact Or.inl h
        · exact Or.inr (Or.inl h)
      · exact Or.inr (Or.inr (Or.inl h))
    · exact Or.inr (Or.inr (Or.inr h))
  | graph g isG ins outs body rest _ ihr =>
    intro V x h
    simp only [bodyVis] at h
    simp only [mentioned, List.mem_append]
    rcases ihr _ x h with h | h
    · exact Or.inl h
    · exact Or.inr (Or.inr (Or.inr h))

theorem bodyVis_mono : ∀ (t : Tr) (V : List Nat) (x : Nat), x ∈ V → x ∈ bodyVis t V := by
  intro t
  induction t with
  | nil => intro V x h; exact h
  | node n ins outs subs rest ihs ihr =>
    intro V x h
    simp only [bodyVis]
    exact ihr _ x (ihs _ x (List.mem_append_left _ h))
  | graph g isG ins outs body rest _ ihr =>
    intro V x h
    simp only [bodyVis]
    exact ihr _ x h

theorem mem_gvals (iv : Nat → List Nat) (g : Nat) (isG : Bool) (ins outs bouts : List Nat) (v : Nat) :
    v ∈ gvals iv g isG ins outs bouts ↔ (v ∈ ins ∨ v ∈ outs ∨ (isG = true ∧ v ∈ iv g) ∨ v ∈ bouts) := by
  unfold gvals; cases isG <;> simp

theorem gvals_mem {iv : Nat → List Nat} {g : Nat} {isG : Bool} {ins outs bouts : List Nat} {x : Nat}
    (h : x ∈ gvals iv g isG ins outs bouts) : x ∈ ins ++ outs ++ bouts ∨ (isG = true ∧ x ∈ iv g) := by
  simp only [List.mem_append]
  rcases (mem_gvals iv g isG ins outs bouts x).mp h with h | h | h | h
  · exact Or.inl (Or.inl (Or.inl h))
  · exact Or.inl (Or.inl (Or.inr h))
  · exact Or.inr h
  · exact Or.inl (Or.inr h)

theorem allScopes_mem (iv : Nat → List Nat) : ∀ (t : Tr) (V : List Nat) (L : List Nat), L ∈ allScopes iv t V →
    ∀ x ∈ L, x ∈ V ∨ x ∈ mentioned t ∨ ∃ g ∈ graphsOf t, x ∈ iv g := by
  intro t
  induction t with
  | nil => intro V L h; simp [allScopes] at h
  | node n ins outs subs rest ihs ihr =>
    intro V L h x hx
    simp only [allScopes, List.mem_append] at h
    simp only [mentioned, graphsOf, List.mem_append]
    rcases h with h | h
    · rcases ihs _ L h x hx with h | h | ⟨g, hg, h⟩
      · rcases List.mem_append.mp h with h | h
        · exact Or.inl h
        · exact Or.inr (Or.inl (Or.inl h))
      · exact Or.inr (Or.inl (Or.inr (Or.inl h)))
      · exact Or.inr (Or.inr ⟨g, Or.inl hg, h⟩)
    · rcases ihr _ L h x hx with h | h | ⟨g, hg, h⟩
      · rcases bodyVis_mem subs _ x h with h | h
        · rcases List.mem_append.mp h with h | h
          · exact Or.inl h
          · exact Or.inr (Or.inl (Or.inl h))
        · exact Or.inr (Or.inl (Or.inr (Or.inl h)))
      · exact Or.inr (Or.inl (Or.inr (Or.inr h)))
      · exact Or.inr (Or.inr ⟨g, Or.inr hg, h⟩)
  | graph g isG ins outs body rest ihb ihr =>
    intro V L h x hx
    simp only [allScopes, List.mem_cons, List.mem_append] at h
    simp only [mentioned, graphsOf, List.mem_append]
    have hgv : ∀ y, y ∈ V ++ gvals iv g isG ins outs (bodyOuts body) →
        y ∈ V ∨ ((y ∈ ins ∨ y ∈ outs) ∨ y ∈ mentioned body ∨ y ∈ mentioned rest)
          ∨ ∃ g', (g' ∈ (if isG = true then [g] else []) ∨ g' ∈ graphsOf body ∨ g' ∈ graphsOf rest) ∧ y ∈ iv g' := by
      intro y hy
      rcases List.mem_append.mp hy with hy | hy
      · exact Or.inl hy
      · rcases gvals_mem hy with hy | ⟨hG, hy⟩
        · rcases List.mem_append.mp hy with hy | hy
          · exact Or.inr (Or.inl (Or.inl (List.mem_append.mp hy)))
          · exact Or.inr (Or.inl (Or.inr (Or.inl (bodyOuts_sub_mentioned body y hy))))
        · exact Or.inr (Or.inr ⟨g, Or.inl (by simp [hG]), hy⟩)
    rcases h with rfl | h | h
    · rcases bodyVis_mem body _ x hx with h | h
      · exact hgv x h
      · exact Or.inr (Or.inl (Or.inr (Or.inl h)))
    · rcases ihb _ L h x hx with h | h | ⟨g', hg, h⟩
      · exact hgv x h
      · exact Or.inr (Or.inl (Or.inr (Or.inl h)))
      · exact Or.inr (Or.inr ⟨g', Or.inr (Or.inl hg), h⟩)
    · rcases ihr _ L h x hx with h | h | ⟨g', hg, h⟩
      · exact Or.inl h
      · exact Or.inr (Or.inl (Or.inr (Or.inr h)))
      · exact Or.inr (Or.inr ⟨g', Or.inr (Or.inr hg), h⟩)

theorem scope_sub_TopC {io : Nat → Option Nat} {iv : Nat → List Nat} (hiv : ∀ g u, u ∈ iv g ↔ io u = some g)
    {t : Top} {L : List Nat} (hL : L ∈ allScopes iv t.tr []) : ∀ x ∈ L, TopC io t x := by
  intro x hx
  rcases allScopes_mem iv t.tr [] L hL x hx with h | h | ⟨g, hg, h⟩
  · simp at h
  · exact Or.inl h
  · exact Or.inr ⟨g, hg, (hiv g x).mp h⟩

theorem InjT.of_eq {f f' : Nat → Option String} {L : List Nat} (h : InjT f L) (e : ∀ x ∈ L, f' x = f x) : InjT f' L :=
  ⟨fun a ha b hb hab => by rw [e a ha, e b hb]; exact h.inj a ha b hb hab, fun a ha => by rw [e a ha]; exact h.named a ha⟩

/-- what is fixed for the node names during one `_fix_graph_names` call: the names at its start, the reserved names -/
structure NCfg where
  orign : Nat → Option String
  resN : List String


def topNCfg (w : World) (t : Top) : NCfg :=
  { orign := w.nname, resN := (collectTr w t.tr ([], [])).2 }

theorem bodyNodes_sub_allNodes : ∀ (t : Tr) (n : Nat), n ∈ bodyNodes t → n ∈ allNodes t := by
  intro t
  induction t with
  | nil => intro n h; simp [bodyNodes] at h
  | node m ins outs subs rest ihs ihr =>
    intro n h
    simp only [bodyNodes, allNodes, List.mem_cons, List.mem_append] at h ⊢
    rcases h with h | h | h
    · exact Or.inl h
    · exact Or.inr (Or.inl (ihs n h))
    · exact Or.inr (Or.inr (ihr n h))
  | graph g isG ins outs body rest _ ihr =>
    intro n h
    simp only [bodyNodes, allNodes, List.mem_append] at h ⊢
    exact Or.inr (ihr n h)

theorem allNodeScopes_sub : ∀ (t : Tr) (L : List Nat), L ∈ allNodeScopes t → ∀ n ∈ L, n ∈ allNodes t := by
  intro t
  induction t with
  | nil => intro L h; simp [allNodeScopes] at h
  | node m ins outs subs rest ihs ihr =>
    intro L h n hn
    simp only [allNodeScopes, List.mem_append] at h
    simp only [allNodes, List.mem_cons, List.mem_append]
    rcases h with h | h
    · exact Or.inr (Or.inl (ihs L h n hn))
    · exact Or.inr (Or.inr (ihr L h n hn))
  | graph g isG ins outs body rest ihb ihr =>
    intro L h n hn
    simp only [allNodeScopes, List.mem_cons, List.mem_append] at h
    simp only [allNodes, List.mem_append]
    rcases h with rfl | h | h
    · exact Or.inl (bodyNodes_sub_allNodes body n hn)
    · exact Or.inl (ihb L h n hn)
    · exact Or.inr (ihr L h n hn)

theorem allNodes_covered : ∀ (t : Tr) (n : Nat), n ∈ allNodes t → n ∈ bodyNodes t ∨ ∃ L ∈ allNodeScopes t, n ∈ L := by
  intro t
  induction t with
  | nil => intro n h; simp [allNodes] at h
  | node m ins outs subs rest ihs ihr =>
    intro n h
    simp only [allNodes, List.mem_cons, List.mem_append] at h
    simp only [bodyNodes, allNodeScopes, List.mem_cons, List.mem_append]
    rcases h with h | h | h
    · exact Or.inl (Or.inl h)
    · rcases ihs n h with h | ⟨L, hL, hx⟩
      · exact Or.inl (Or.inr (Or.inl h))
      · exact Or.inr ⟨L, Or.inl hL, hx⟩
    · rcases ihr n h with h | ⟨L, hL, hx⟩
      · exact Or.inl (Or.inr (Or.inr h))
      · exact Or.inr ⟨L, Or.inr hL, hx⟩
  | graph g isG ins outs body rest ihb ihr =>
    intro n h
    simp only [allNodes, List.mem_append] at h
    simp only [bodyNodes, allNodeScopes, List.mem_cons, List.mem_append]
    rcases h with h | h
    · rcases ihb n h with h | ⟨L, hL, hx⟩
      · exact Or.inr ⟨_, Or.inl rfl, h⟩
      · exact Or.inr ⟨L, Or.inr (Or.inl hL), hx⟩
    · rcases ihr n h with h | ⟨L, hL, hx⟩
      · exact Or.inl h
      · exact Or.inr ⟨L, Or.inr (Or.inr hL), hx⟩

theorem mem_recVals {S V vs : List Nat} {x : Nat} : x ∈ recVals S V vs ↔ x ∈ V ∨ (x ∈ vs ∧ x ∉ S) := by
  simp [recVals, List.mem_filter]

theorem recVals_nil (S V : List Nat) : recVals S V [] = V := by simp [recVals]

theorem recVals_snoc_in {S V A : List Nat} {v : Nat} (h : v ∈ S) : recVals S V (A ++ [v]) = recVals S V A := by
  simp [recVals, List.filter_append, h]

theorem recVals_snoc_out {S V A : List Nat} {v : Nat} (h : v ∉ S) :
    recVals S V (A ++ [v]) = recVals S V A ++ [v] := by
  simp [recVals, List.filter_append, h]

theorem recVals_all_seen {S V vs : List Nat} (h : ∀ x ∈ vs, x ∈ S) : recVals S V vs = V := by
  have : vs.filter (fun v => !S.contains v) = [] := by
    rw [List.filter_eq_nil_iff]
    intro x hx
    simp [h x hx]
  unfold recVals
  rw [this, List.append_nil]

theorem recVals_split4 (S V a b m d : List Nat) :
    recVals S V (a ++ b ++ m ++ d)
      = (V ++ a.filter (fun v => !S.contains v) ++ b.filter (fun v => !S.contains v))
          ++ m.filter (fun v => !S.contains v) ++ d.filter (fun v => !S.contains v) := by
  simp [recVals, List.filter_append, List.append_assoc]

/-! ### static facts about the scoping rule -/

theorem visible_of_all {vs S V : List Nat} (h : vs.all (fun v => !S.contains v || V.contains v) = true) :
    ∀ v ∈ vs, v ∈ S → v ∈ V := by
  intro v hv hS
  have := List.all_eq_true.mp h v hv
  simp only [Bool.or_eq_true, Bool.not_eq_true', List.contains_eq_mem, decide_eq_false_iff_not, decide_eq_true_eq] at this
  exact this.elim (fun h => absurd hS h) id

theorem seenAfter_mono (iv : Nat → List Nat) : ∀ (t : Tr) (S : List Nat) (x : Nat), x ∈ S → x ∈ seenAfter iv t S := by
  intro t
  induction t with
  | nil => intro S x h; exact h
  | node n ins outs subs rest ihs ihr =>
    intro S x h
    simp only [seenAfter]
    exact ihr _ x (ihs _ x (List.mem_append_left _ h))
  | graph g isG ins outs body rest ihb ihr =>
    intro S x h
    simp only [seenAfter]
    exact ihr _ x (ihb _ x (List.mem_append_left _ h))

/-- a value that was seen before the items of `t` and is visible after them was visible before them -/
theorem scoped_vis_back (iv : Nat → List Nat) : ∀ (t : Tr) (S V : List Nat) (u : Nat),
    scopedB iv t S V = true → u ∈ S → u ∈ bodyVis t V → u ∈ V := by
  intro t
  induction t with
  | nil => intro S V u _ _ h; exact h
  | node n ins outs subs rest ihs ihr =>
    intro S V u hsc hS hV
    simp only [scopedB, Bool.and_eq_true] at hsc
    obtain ⟨⟨hsc1, hsc2⟩, hsc3⟩ := hsc
    simp only [bodyVis] at hV
    have h1 := ihr _ _ u hsc3 (seenAfter_mono iv subs _ u (List.mem_append_left _ hS)) hV
    have h2 := ihs _ _ u hsc2 (List.mem_append_left _ hS) h1
    rcases List.mem_append.mp h2 with h | h
    · exact h
    · exact visible_of_all hsc1 u h hS
  | graph g isG ins outs body rest _ ihr =>
    intro S V u hsc hS hV
    simp only [scopedB, Bool.and_eq_true] at hsc
    simp only [bodyVis] at hV
    exact ihr _ _ u hsc.2 (seenAfter_mono iv body _ u (List.mem_append_left _ hS)) hV

theorem iv_sub_gvals {iv : Nat → List Nat} {g : Nat} {ins outs bouts : List Nat} {u : Nat} (h : u ∈ iv g) :
    u ∈ gvals iv g true ins outs bouts := by
  simp [gvals, h]

/-- an initializer of a graph that is still to be entered under `t`: if it was seen already it is visible now -/
theorem scoped_graph_vis (iv : Nat → List Nat) : ∀ (t : Tr) (S V : List Nat) (g u : Nat),
    scopedB iv t S V = true → g ∈ graphsOf t → u ∈ iv g → u ∈ S → u ∈ V := by
  intro t
  induction t with
  | nil => intro S V g u _ hg; simp [graphsOf] at hg
  | node n ins outs subs rest ihs ihr =>
    intro S V g u hsc hg hu hS
    simp only [scopedB, Bool.and_eq_true] at hsc
    obtain ⟨⟨hsc1, hsc2⟩, hsc3⟩ := hsc
    simp only [graphsOf, List.mem_append] at hg
    have h2 : u ∈ V ++ nodeVals ins outs := by
      rcases hg with hg | hg
      · exact ihs _ _ g u hsc2 hg hu (List.mem_append_left _ hS)
      · have := ihr _ _ g u hsc3 hg hu (seenAfter_mono iv subs _ u (List.mem_append_left _ hS))
        exact scoped_vis_back iv subs _ _ u hsc2 (List.mem_append_left _ hS) this
    rcases List.mem_append.mp h2 with h | h
    · exact h
    · exact visible_of_all hsc1 u h hS
  | graph g0 isG ins outs body rest ihb ihr =>
    intro S V g u hsc hg hu hS
    simp only [scopedB, Bool.and_eq_true] at hsc
    obtain ⟨⟨hsc1, hsc2⟩, hsc3⟩ := hsc
    simp only [graphsOf, List.mem_append] at hg
    rcases hg with hg | hg | hg
    · cases isG with
      | false => simp at hg
      | true =>
        simp only [if_true, List.mem_singleton] at hg
        subst hg
        exact visible_of_all hsc1 u (iv_sub_gvals hu) hS
    · have h2 := ihb _ _ g u hsc2 hg hu (List.mem_append_left _ hS)
      rcases List.mem_append.mp h2 with h | h
      · exact h
      · exact visible_of_all hsc1 u h hS
    · exact ihr _ _ g u hsc3 hg hu (seenAfter_mono iv body _ u (List.mem_append_left _ hS))

/-- after the items of `t` every initializer of every `Graph` under `t` has been seen -/
theorem graph_inits_seen (iv : Nat → List Nat) : ∀ (t : Tr) (S : List Nat) (g u : Nat),
    g ∈ graphsOf t → u ∈ iv g → u ∈ seenAfter iv t S := by
  intro t
  induction t with
  | nil => intro S g u hg; simp [graphsOf] at hg
  | node n ins outs subs rest ihs ihr =>
    intro S g u hg hu
    simp only [graphsOf, List.mem_append] at hg
    simp only [seenAfter]
    rcases hg with hg | hg
    · exact seenAfter_mono iv rest _ u (ihs _ g u hg hu)
    · exact ihr _ g u hg hu
  | graph g0 isG ins outs body rest ihb ihr =>
    intro S g u hg hu
    simp only [graphsOf, List.mem_append] at hg
    simp only [seenAfter]
    rcases hg with hg | hg | hg
    · cases isG with
      | false => simp at hg
      | true =>
        simp only [if_true, List.mem_singleton] at hg
        subst hg
        exact seenAfter_mono iv rest _ u (seenAfter_mono iv body _ u (List.mem_append_right _ (iv_sub_gvals hu)))
    · exact seenAfter_mono iv rest _ u (ihb _ g u hg hu)
    · exact ihr _ g u hg hu

/-! ### which values the traversal meets and where they are recorded -/

theorem mentioned_seen (iv : Nat → List Nat) : ∀ (t : Tr) (S : List Nat) (v : Nat), v ∈ mentioned t → v ∈ seenAfter iv t S := by
  intro t
  induction t with
  | nil => intro S v h; simp [mentioned] at h
  | node n ins outs subs rest ihs ihr =>
    intro S v h
    simp only [mentioned, List.mem_append] at h
    simp only [seenAfter]
    rcases h with h | h | h
    · exact seenAfter_mono iv rest _ v (seenAfter_mono iv subs _ v (List.mem_append_right _ h))
    · exact seenAfter_mono iv rest _ v (ihs _ v h)
    · exact ihr _ v h
  | graph g isG ins outs body rest ihb ihr =>
    intro S v h
    simp only [mentioned, List.mem_append] at h
    simp only [seenAfter]
    rcases h with (h | h) | h | h
    · exact seenAfter_mono iv rest _ v (seenAfter_mono iv body _ v (List.mem_append_right _ (by simp [gvals, h])))
    · exact seenAfter_mono iv rest _ v (seenAfter_mono iv body _ v (List.mem_append_right _ (by simp [gvals, h])))
    · exact seenAfter_mono iv rest _ v (ihb _ v h)
    · exact ihr _ v h

theorem seenAfter_sub (iv : Nat → List Nat) : ∀ (t : Tr) (S : List Nat) (x : Nat), x ∈ seenAfter iv t S →
    x ∈ S ∨ x ∈ mentioned t ∨ ∃ g ∈ graphsOf t, x ∈ iv g := by
  intro t
  induction t with
  | nil => intro S x h; exact Or.inl h
  | node n ins outs subs rest ihs ihr =>
    intro S x h
    simp only [seenAfter] at h
    simp only [mentioned, graphsOf, List.mem_append]
    rcases ihr _ x h with h | h | ⟨g, hg, h⟩
    · rcases ihs _ x h with h | h | ⟨g, hg, h⟩
      · rcases List.mem_append.mp h with h | h
        · exact Or.inl h
        · exact Or.inr (Or.inl (Or.inl h))
      · exact Or.inr (Or.inl (Or.inr (Or.inl h)))
      · exact Or.inr (Or.inr ⟨g, Or.inl hg, h⟩)
    · exact Or.inr (Or.inl (Or.inr (Or.inr h)))
    · exact Or.inr (Or.inr ⟨g, Or.inr hg, h⟩)
  | graph g0 isG ins outs body rest ihb ihr =>
    intro S x h
    simp only [seenAfter] at h
    simp only [mentioned, graphsOf, List.mem_append]
    rcases ihr _ x h with h | h | ⟨g, hg, h⟩
    · rcases ihb _ x h with h | h | ⟨g, hg, h⟩
      · rcases List.mem_append.mp h with h | h
        · exact Or.inl h
        · rcases gvals_mem h with h | ⟨hG, h⟩
          · rcases List.mem_append.mp h with h | h
            · exact Or.inr (Or.inl (Or.inl (List.mem_append.mp h)))
            · exact Or.inr (Or.inl (Or.inr (Or.inl (bodyOuts_sub_mentioned body x h))))
          · exact Or.inr (Or.inr ⟨g0, Or.inl (by simp [hG]), h⟩)
      · exact Or.inr (Or.inl (Or.inr (Or.inl h)))
      · exact Or.inr (Or.inr ⟨g, Or.inr (Or.inl hg), h⟩)
    · exact Or.inr (Or.inl (Or.inr (Or.inr h)))
    · exact Or.inr (Or.inr ⟨g, Or.inr (Or.inr hg), h⟩)


theorem seenAfter_TopC {io : Nat → Option Nat} {iv : Nat → List Nat} (hiv : ∀ g u, u ∈ iv g ↔ io u = some g)
    {t : Top} {x : Nat} (h : x ∈ seenAfter iv t.tr []) : TopC io t x := by
  rcases seenAfter_sub iv t.tr [] x h with h | h | ⟨g, hg, h⟩
  · simp at h
  · exact Or.inl h
  · exact Or.inr ⟨g, hg, (hiv g x).mp h⟩

theorem bodyVisR_mono (iv : Nat → List Nat) : ∀ (t : Tr) (S V : List Nat) (x : Nat), x ∈ V → x ∈ bodyVisR iv t S V := by
  intro t
  induction t with
  | nil => intro S V x h; exact h
  | node n ins outs subs rest ihs ihr =>
    intro S V x h
    exact ihr _ _ x (ihs _ _ x (mem_recVals.mpr (Or.inl h)))
  | graph g isG ins outs body rest _ ihr => intro S V x h; exact ihr _ _ x h

theorem seen_recorded (iv : Nat → List Nat) : ∀ (t : Tr) (S V : List Nat) (x : Nat), x ∈ seenAfter iv t S → x ∉ S →
    x ∈ bodyVisR iv t S V ∨ ∃ L ∈ recScopes iv t S V, x ∈ L := by
  intro t
  induction t with
  | nil => intro S V x h hn; exact absurd h hn
  | node n ins outs subs rest ihs ihr =>
    intro S V x h hn
    simp only [seenAfter] at h
    simp only [bodyVisR, recScopes, List.mem_append]
    by_cases h2 : x ∈ seenAfter iv subs (S ++ nodeVals ins outs)
    · have key : x ∈ bodyVisR iv subs (S ++ nodeVals ins outs) (recVals S V (nodeVals ins outs))
          ∨ ∃ L ∈ recScopes iv subs (S ++ nodeVals ins outs) (recVals S V (nodeVals ins outs)), x ∈ L := by
        by_cases h1 : x ∈ S ++ nodeVals ins outs
        · have hx : x ∈ nodeVals ins outs := (List.mem_append.mp h1).resolve_left hn
          exact Or.inl (bodyVisR_mono iv subs _ _ x (mem_recVals.mpr (Or.inr ⟨hx, hn⟩)))
        · exact ihs _ _ x h2 h1
      rcases key with hv | ⟨L, hL, hx⟩
      · exact Or.inl (bodyVisR_mono iv rest _ _ x hv)
      · exact Or.inr ⟨L, Or.inl hL, hx⟩
    · rcases ihr _ (bodyVisR iv subs (S ++ nodeVals ins outs) (recVals S V (nodeVals ins outs))) x h h2 with hv | ⟨L, hL, hx⟩
      · exact Or.inl hv
      · exact Or.inr ⟨L, Or.inr hL, hx⟩
  | graph g isG ins outs body rest ihb ihr =>
    intro S V x h hn
    simp only [seenAfter] at h
    simp only [bodyVisR, recScopes, List.mem_cons, List.mem_append]
    by_cases h2 : x ∈ seenAfter iv body (S ++ gvals iv g isG ins outs (bodyOuts body))
    · right
      by_cases h1 : x ∈ S ++ gvals iv g isG ins outs (bodyOuts body)
      · have hx : x ∈ gvals iv g isG ins outs (bodyOuts body) := (List.mem_append.mp h1).resolve_left hn
        exact ⟨_, Or.inl rfl, bodyVisR_mono iv body _ _ x (mem_recVals.mpr (Or.inr ⟨hx, hn⟩))⟩
      · rcases ihb _ (recVals S V (gvals iv g isG ins outs (bodyOuts body))) x h2 h1 with hv | ⟨L, hL, hx⟩
        · exact ⟨_, Or.inl rfl, hv⟩
        · exact ⟨L, Or.inr (Or.inl hL), hx⟩
    · rcases ihr _ V x h h2 with hv | ⟨L, hL, hx⟩
      · exact Or.inl hv
      · exact Or.inr ⟨L, Or.inr (Or.inr hL), hx⟩

end IrVerif.Names
