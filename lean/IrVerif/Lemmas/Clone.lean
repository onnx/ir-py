/-
Helper development for C13: the invariant `Inv` that every function of the cloner maintains, as a
logic (`goodL`) of Lemmas/CloneLogic.lean, and the walk of each function in it:
  * the heap only grows; pre-existing cells keep their content, except that the usage list of a
    pre-existing value may gain records of *new* nodes (a captured outer value);
  * every binding of the value map maps to a new value;
  * every new cell refers (through the ownership pointers) only to new cells.
Also here: the node-input loop as a pure function (`mapInputsPure`), `ioMap`, `CloneResult`.
-/
import IrVerif.Lemmas.CloneLogic
import IrVerif.Lemmas.ListFacts
namespace IrVerif.Clone

def Cell.eraseUses : Cell → Cell
  | .val v => .val { v with uses := [] }
  | c => c

def Cell.usesOf : Cell → List (Nat × Nat)
  | .val v => v.uses
  | _ => []

/-- `c` is `c0` except for usage records by new nodes (`n0 ≤ id`): those may have been added to
    its users (and removed again when a clone is abandoned) -/
def OldSame (n0 : Nat) (c0 c : Cell) : Prop :=
  c.eraseUses = c0.eraseUses ∧
    c.usesOf.filter (fun u => u.1 < n0) = c0.usesOf.filter (fun u => u.1 < n0)

theorem OldSame.refl (n0 : Nat) (c : Cell) : OldSame n0 c c := ⟨rfl, rfl⟩

theorem OldSame.trans {n0 : Nat} {a b c : Cell} (h1 : OldSame n0 a b) (h2 : OldSame n0 b c) :
    OldSame n0 a c := ⟨h2.1.trans h1.1, h2.2.trans h1.2⟩

/-- only a value cell has usage records to erase -/
theorem eraseUses_other {c c0 : Cell} (h : c.eraseUses = c0.eraseUses) (hn : ∀ v, c0 ≠ .val v) :
    c = c0 := by
  have e0 : c0.eraseUses = c0 := by
    cases c0 with
    | val v => exact absurd rfl (hn v)
    | _ => rfl
  cases c with
  | val v => exact absurd (h.trans e0).symm (hn _)
  | _ => exact h.trans e0

theorem Cell.eq_of_eraseUses {c c0 : Cell} (h : c.eraseUses = c0.eraseUses) (hu : c.usesOf = c0.usesOf) :
    c = c0 := by
  have key : ∀ d : Cell, d = match d.eraseUses with
      | .val v => .val { v with uses := d.usesOf }
      | x => x := by
    intro d
    cases d <;> rfl
  calc c = _ := key c
    _ = _ := by rw [h, hu]
    _ = c0 := (key c0).symm

theorem eraseUses_val {c : Cell} {vs0 : ValueS} (h : c.eraseUses = (Cell.val vs0).eraseUses) :
    ∃ vs, c = .val vs ∧ { vs with uses := [] } = { vs0 with uses := [] } := by
  cases c <;> simp [Cell.eraseUses] at h
  next vs => exact ⟨vs, rfl, by cases vs; cases vs0; simp_all⟩

/-- `x` is an id in `[lo, hi)` -/
abbrev In (lo hi : Nat) (x : Nat) : Prop := lo ≤ x ∧ x < hi
def OptIn (lo hi : Nat) : Option Nat → Prop
  | none => True
  | some x => In lo hi x

theorem In.mono {lo hi hi' x} (h : In lo hi x) (hh : hi ≤ hi') : In lo hi' x := by
  obtain ⟨h1, h2⟩ := h
  exact ⟨h1, by omega⟩
theorem OptIn.mono {lo hi hi' x} (h : OptIn lo hi x) (hh : hi ≤ hi') : OptIn lo hi' x := by
  cases x with
  | none => trivial
  | some x => exact In.mono h hh

def AttrV.isGraphy : AttrV → Bool
  | .graph _ => true
  | .graphs _ => true
  | _ => false

theorem AttrV.isGraphy_eq_false {v : AttrV} (h1 : ∀ g, v ≠ .graph g) (h2 : ∀ gs, v ≠ .graphs gs) :
    v.isGraphy = false := by
  cases v with
  | plain p => rfl
  | ref p => rfl
  | graph g => exact absurd rfl (h1 g)
  | graphs gs => exact absurd rfl (h2 gs)

/-- a pre-existing attribute object that holds no graph (the cloner shares those) -/
def SharedAttr (w0 : World) (a : Nat) : Prop :=
  ∃ as, w0[a]? = some (.attr as) ∧ as.v.isGraphy = false

/-- `i` is the `const_value` of a value of heap `w` -/
def ConstTarget (w : World) (i : Nat) : Prop :=
  ∃ (j : Nat) (vs : ValueS), w[j]? = some (Cell.val vs) ∧ vs.const = some i

/-- the tensor of a new value is new or the tensor of a pre-existing value (tensors are shared) -/
def ConstOk (w0 : World) (lo : Nat) : Option Nat → Prop
  | none => True
  | some c => lo ≤ c ∨ ConstTarget w0 c

/-- every sharding spec of the node targets one of the node's own inputs or outputs -/
def DevLocal (n : NodeS) : Prop :=
  ∀ c ∈ n.dev, ∀ sp ∈ c.specs, ∀ v, sp.value = some v → some v ∈ n.inputs ∨ v ∈ n.outputs

theorem devLocalB_spec {n : NodeS} (h : devLocalB n = true) : DevLocal n := by
  intro c hc sp hsp v hv
  unfold devLocalB at h
  rw [List.all_eq_true] at h
  have h1 := h c hc
  rw [List.all_eq_true] at h1
  have h2 := h1 sp hsp
  rw [hv] at h2
  simpa using h2

theorem devLocalW_spec {w : World} (h : devLocalW w = true) {i : Nat} {n : NodeS}
    (hi : w[i]? = some (.node n)) : DevLocal n := by
  unfold devLocalW at h
  rw [List.all_eq_true] at h
  exact devLocalB_spec (h _ (List.mem_of_getElem? hi))

/-- the ownership pointers of a new cell stay inside the new part `[lo, hi)` of the heap; node
    inputs too unless outer-scope values are allowed -/
def CellOk (w0 : World) (lo hi : Nat) (allow : Bool) : Cell → Prop
  | .val v => OptIn lo hi v.type ∧ OptIn lo hi v.shape ∧ In lo hi v.props ∧ In lo hi v.mstore ∧
      OptIn lo hi v.graph ∧ OptIn lo hi v.producer ∧ ConstOk w0 lo v.const ∧ (∀ u ∈ v.uses, lo ≤ u.1)
  | .node n => (∀ v ∈ n.outputs, In lo hi v) ∧ In lo hi n.props ∧ In lo hi n.mstore ∧
      OptIn lo hi n.graph ∧ (∀ ka ∈ n.attrs, In lo hi ka.2 ∨ SharedAttr w0 ka.2) ∧
      (allow = false → ∀ v, some v ∈ n.inputs → In lo hi v) ∧ (devLocalW w0 = true → DevLocal n) ∧
      (allow = false → ∀ c ∈ n.dev, ∀ sp ∈ c.specs, ∀ v, sp.value = some v → In lo hi v)
  | .graph g => (∀ v ∈ g.inputs, In lo hi v) ∧ (∀ v ∈ g.outputs, In lo hi v) ∧
      (∀ e ∈ g.inits, In lo hi e.2) ∧ (∀ v ∈ g.nodes, In lo hi v) ∧ In lo hi g.props ∧
      In lo hi g.mstore
  | .attr a => match a.v with
      | .graph g => In lo hi g
      | .graphs gs => ∀ g ∈ gs, In lo hi g
      | _ => True
  | .func f => In lo hi f.graph ∧ (∀ ka ∈ f.attrs, In lo hi ka.2 ∨ SharedAttr w0 ka.2)
  | .model m => In lo hi m.graph ∧ (∀ f ∈ m.funcs, In lo hi f) ∧ In lo hi m.props ∧
      In lo hi m.mstore
  | .type _ => True
  | .shape _ => True
  | .dict _ => True
  | .tensor _ => True

section
variable {w0 : World} {lo hi : Nat} {allow : Bool}

theorem CellOk.val_graph {v : ValueS} (h : CellOk w0 lo hi allow (.val v)) : OptIn lo hi v.graph := h.2.2.2.2.1
theorem CellOk.val_producer {v : ValueS} (h : CellOk w0 lo hi allow (.val v)) : OptIn lo hi v.producer :=
  h.2.2.2.2.2.1
theorem CellOk.val_const {v : ValueS} (h : CellOk w0 lo hi allow (.val v)) : ConstOk w0 lo v.const :=
  h.2.2.2.2.2.2.1
theorem CellOk.node_outputs {n : NodeS} (h : CellOk w0 lo hi allow (.node n)) : ∀ v ∈ n.outputs, In lo hi v := h.1
theorem CellOk.node_graph {n : NodeS} (h : CellOk w0 lo hi allow (.node n)) : OptIn lo hi n.graph := h.2.2.2.1
theorem CellOk.node_inputs {n : NodeS} (h : CellOk w0 lo hi allow (.node n)) :
    allow = false → ∀ v, some v ∈ n.inputs → In lo hi v := h.2.2.2.2.2.1
theorem CellOk.node_devLocal {n : NodeS} (h : CellOk w0 lo hi allow (.node n)) :
    devLocalW w0 = true → DevLocal n := h.2.2.2.2.2.2.1
theorem CellOk.node_devIn {n : NodeS} (h : CellOk w0 lo hi allow (.node n)) :
    allow = false → ∀ c ∈ n.dev, ∀ sp ∈ c.specs, ∀ v, sp.value = some v → In lo hi v := h.2.2.2.2.2.2.2

end

theorem CellOk.mono {w0 lo hi hi' allow c} (h : CellOk w0 lo hi allow c) (hh : hi ≤ hi') :
    CellOk w0 lo hi' allow c := by
  cases c with
  | val v =>
    obtain ⟨a, b, c, d, e, f, k⟩ := h
    exact ⟨a.mono hh, b.mono hh, c.mono hh, d.mono hh, e.mono hh, f.mono hh, k⟩
  | node n =>
    obtain ⟨a, b, c, d, e, f, f2, f3⟩ := h
    refine ⟨fun v hv => (a v hv).mono hh, b.mono hh, c.mono hh, d.mono hh, ?_, fun ha v hv => (f ha v hv).mono hh, f2,
      fun ha c hc sp hsp v hv => (f3 ha c hc sp hsp v hv).mono hh⟩
    intro ka hka
    rcases e ka hka with h | h
    · exact .inl (h.mono hh)
    · exact .inr h
  | graph g =>
    obtain ⟨a, b, c, d, e, f⟩ := h
    exact ⟨fun v hv => (a v hv).mono hh, fun v hv => (b v hv).mono hh, fun v hv => (c v hv).mono hh,
      fun v hv => (d v hv).mono hh, e.mono hh, f.mono hh⟩
  | attr a =>
    obtain ⟨nm, doc, v⟩ := a
    cases v with
    | plain p => trivial
    | ref p => trivial
    | graph g => exact In.mono h hh
    | graphs gs => exact fun g hgm => In.mono (h g hgm) hh
  | func f =>
    obtain ⟨a, e⟩ := h
    refine ⟨a.mono hh, ?_⟩
    intro ka hka
    rcases e ka hka with h | h
    · exact .inl (h.mono hh)
    · exact .inr h
  | model m =>
    obtain ⟨a, b, c, d⟩ := h
    exact ⟨a.mono hh, fun v hv => (b v hv).mono hh, c.mono hh, d.mono hh⟩
  | _ => trivial


theorem lt_of_getElem? {w : World} {i : Nat} {c : Cell} (h : w[i]? = some c) : i < w.length := by
  rcases Nat.lt_or_ge i w.length with h' | h'
  · exact h'
  · rw [List.getElem?_eq_none h'] at h; cases h

structure Inv (w0 : World) (allow : Bool) (s : St) : Prop where
  len : w0.length ≤ s.w.length
  old : ∀ (i : Nat) (c0 : Cell), w0[i]? = some c0 → ∃ c, s.w[i]? = some c ∧ OldSame w0.length c0 c
  vm : ∀ p ∈ s.vm, In w0.length s.w.length p.2
  cells : ∀ (i : Nat) (c : Cell), w0.length ≤ i → s.w[i]? = some c → CellOk w0 w0.length s.w.length allow c
  /-- without outer-scope values nothing pre-existing changes at all -/
  oldEq : allow = false → ∀ (i : Nat) (c0 : Cell), w0[i]? = some c0 → s.w[i]? = some c0
  /-- the nodes this cloner created are new -/
  created : ∀ n ∈ s.created, In w0.length s.w.length n

/-- running `m` from `s` keeps the invariant (also when it raises), never shrinks the heap, and a
    normal result satisfies `Q` -/
def GoodAt (w0 : World) (allow : Bool) (m : M α) (s : St) (Q : α → St → Prop) : Prop :=
  Inv w0 allow (m s).2 ∧ s.w.length ≤ (m s).2.w.length ∧ ∀ a, (m s).1 = .ok a → Q a (m s).2

def Good (w0 : World) (allow : Bool) (m : M α) (Q : St → α → St → Prop) : Prop :=
  ∀ s, Inv w0 allow s → GoodAt w0 allow m s (Q s)

def goodL (w0 : World) (allow : Bool) : Logic where
  E s s' := Inv w0 allow s' ∧ s.w.length ≤ s'.w.length
  N _ _ := True
  E_trans h1 h2 := ⟨h2.1, Nat.le_trans h1.2 h2.2⟩
  N_trans _ _ := trivial
  E_self h := ⟨h.1, Nat.le_refl _⟩
  N_self _ := trivial

section
variable {w0 : World} {allow : Bool}

theorem Inv.ok {s : St} (hI : Inv w0 allow s) : (goodL w0 allow).Ok s := ⟨⟨hI, Nat.le_refl _⟩, trivial⟩

theorem Hoare.good {m : M α} {s : St} {Q : α → St → Prop} (h : Hoare (goodL w0 allow) m s Q)
    (hI : Inv w0 allow s) : GoodAt w0 allow m s Q :=
  ⟨(h hI.ok).1.1, (h hI.ok).1.2, fun a ha => ((h hI.ok).2 a ha).2⟩

theorem GoodAt.hoare {m : M α} {s : St} {Q : α → St → Prop} (h : Inv w0 allow s → GoodAt w0 allow m s Q) :
    Hoare (goodL w0 allow) m s Q :=
  fun hO => ⟨⟨(h hO.1.1).1, (h hO.1.1).2.1⟩, fun a ha => ⟨trivial, (h hO.1.1).2.2 a ha⟩⟩

theorem GoodAt.unsupported {why : String} {s : St} {Q : α → St → Prop} (hI : Inv w0 allow s) :
    GoodAt w0 allow (unsupported why : M α) s Q := (Hoare.fail (e := .unsupported why)).good hI

theorem Inv.alloc {s : St} {c : Cell} (hI : Inv w0 allow s)
    (hc : CellOk w0 w0.length (s.w.length + 1) allow c) :
    Inv w0 allow { s with w := s.w ++ [c] } := by
  refine ⟨by simp; have := hI.len; omega, ?_, ?_, ?_, ?_, ?_⟩
  rotate_left 3
  · intro ha i c0 h0
    have h1 := hI.oldEq ha i c0 h0
    simp only; rw [List.getElem?_append_left (lt_of_getElem? h1)]; exact h1
  · intro n hn
    have := hI.created n hn
    simp only [List.length_append, List.length_cons, List.length_nil]
    exact ⟨this.1, by have := this.2; omega⟩
  · intro i c0 h0
    obtain ⟨c', h1, h2⟩ := hI.old i c0 h0
    exact ⟨c', by simp only; rw [List.getElem?_append_left (lt_of_getElem? h1)]; exact h1, h2⟩
  · intro p hp
    have := hI.vm p hp
    simp only [List.length_append, List.length_cons, List.length_nil]
    exact ⟨this.1, by have := this.2; omega⟩
  · intro i c' hi hc'
    simp only [List.length_append, List.length_cons, List.length_nil] at *
    rcases getElem?_append_singleton hc' with h | ⟨-, rfl⟩
    · exact (hI.cells i c' hi h).mono (by omega)
    · exact hc

theorem alloc_good {s : St} {c : Cell}
    (hc : CellOk w0 w0.length (s.w.length + 1) allow c) :
    Hoare (goodL w0 allow) (alloc c) s (fun r s1 => r = s.w.length ∧ s1.w.length = s.w.length + 1 ∧
      s1.vm = s.vm) := by
  refine GoodAt.hoare fun hI => ?_
  refine ⟨hI.alloc hc, by simp [Clone.alloc], ?_⟩
  intro a ha
  simp only [Clone.alloc, Except.ok.injEq] at ha
  subst ha
  simp [Clone.alloc]

/-- overwriting a *new* cell by a well-formed cell -/
theorem Inv.setNew {s : St} {i : Nat} {c : Cell} (hI : Inv w0 allow s) (hi : w0.length ≤ i)
    (hc : CellOk w0 w0.length s.w.length allow c) :
    Inv w0 allow { s with w := s.w.set i c } := by
  refine ⟨by simp; exact hI.len, ?_, ?_, ?_, ?_, ?_⟩
  rotate_left 3
  · intro ha j c0 h0
    have hj : j < w0.length := lt_of_getElem? h0
    simp only; rw [List.getElem?_set_ne (by omega)]; exact hI.oldEq ha j c0 h0
  · intro n hn
    simpa using hI.created n hn
  · intro j c0 h0
    obtain ⟨c', h1, h2⟩ := hI.old j c0 h0
    have hj : j < w0.length := lt_of_getElem? h0
    exact ⟨c', by simp only; rw [List.getElem?_set_ne (by omega)]; exact h1, h2⟩
  · intro p hp
    simpa using hI.vm p hp
  · intro j c' hj hc'
    simp only [List.length_set] at *
    rw [List.getElem?_set] at hc'
    split at hc'
    · split at hc'
      · cases hc'; exact hc
      · cases hc'
    · exact hI.cells j c' hj hc'

theorem setNew_good {s : St} {i : Nat} {c : Cell} (hi : w0.length ≤ i)
    (hc : CellOk w0 w0.length s.w.length allow c) :
    Hoare (goodL w0 allow) (setCell i c) s (fun _ s1 => s1.w.length = s.w.length ∧ s1.vm = s.vm) :=
  GoodAt.hoare fun hI => ⟨hI.setNew hi hc, by simp [setCell], by intro a _; simp [setCell]⟩

theorem vmGet_good {s : St} {v : Nat} :
    Hoare (goodL w0 allow) (vmGet v) s (fun r s1 => s1 = s ∧ ∀ x, r = some x → In w0.length s.w.length x) :=
  Hoare.vmGet.mono fun _ _ ⟨hI, _⟩ _ ⟨hs, hr⟩ => ⟨hs, fun x hx => by
    subst hs hr
    exact hI.vm (v, x) (ListFacts.mem_of_lookup hx)⟩

theorem vmSet_good {s : St} {a b : Nat} (hb : In w0.length s.w.length b) :
    Hoare (goodL w0 allow) (vmSet a b) s (fun _ s1 => s1.w = s.w) := by
  refine GoodAt.hoare fun hI => ?_
  refine ⟨⟨hI.len, hI.old, ?_, hI.cells, hI.oldEq, hI.created⟩, Nat.le_refl _, by intro _ _; rfl⟩
  intro p hp
  simp only [Clone.vmSet, List.mem_cons] at hp
  rcases hp with h | h
  · subst h; exact hb
  · exact hI.vm p h

abbrev NewId (w0 : World) : Nat → St → Prop := fun r s1 => In w0.length s1.w.length r
abbrev NewOpt (w0 : World) : Option Nat → St → Prop := fun r s1 => OptIn w0.length s1.w.length r

theorem allocNew_good {s : St} {c : Cell}
    (hc : CellOk w0 w0.length (s.w.length + 1) allow c) :
    Hoare (goodL w0 allow) (Clone.alloc c) s (NewId w0) :=
  Hoare.assume fun hO => (alloc_good hc).mono (by
    intro a s1 _ _ ⟨h1, h2, _⟩
    have := hO.1.1.len
    subst h1
    exact ⟨by omega, by omega⟩)

theorem copyShape_good {s : St} (o : Option Nat) :
    Hoare (goodL w0 allow) (copyShape o) s (NewOpt w0) := by
  cases o with
  | none => exact Hoare.pure trivial
  | some sh =>
    unfold copyShape
    hbind Hoare.readShape with ss s1 ⟨hI1, hl1⟩ - hq1
    hbind (allocNew_good (by trivial)) with i s2 ⟨hI2, hl2⟩ - hq2
    exact Hoare.pure hq2

theorem copyType_good {s : St} (o : Option Nat) :
    Hoare (goodL w0 allow) (copyType o) s (NewOpt w0) := by
  cases o with
  | none => exact Hoare.pure trivial
  | some sh =>
    unfold copyType
    hbind Hoare.readType with ss s1 ⟨hI1, hl1⟩ - hq1
    hbind (allocNew_good (by trivial)) with i s2 ⟨hI2, hl2⟩ - hq2
    exact Hoare.pure hq2

theorem copyProps_good {s : St} (o : Nat) :
    Hoare (goodL w0 allow) (copyProps o) s (NewId w0) := by
  unfold copyProps
  hbind Hoare.readDict with ss s1 ⟨hI1, hl1⟩ - hq1
  exact allocNew_good (by trivial)

theorem copyMeta_good {s : St} (o : Nat) :
    Hoare (goodL w0 allow) (copyMeta o) s (NewId w0) := by
  unfold copyMeta
  hbind Hoare.readDict with ss s1 ⟨hI1, hl1⟩ - hq1
  exact allocNew_good (by trivial)

/-- the tensor of a value the cloner reads is a legitimate tensor for a new value -/
theorem constOk_of_read {s : St} {v : Nat} {vs : ValueS} (hI : Inv w0 allow s)
    (h : s.w[v]? = some (.val vs)) : ConstOk w0 w0.length vs.const := by
  rcases Nat.lt_or_ge v w0.length with hlt | hge
  · obtain ⟨c0, hc0⟩ : ∃ c0, w0[v]? = some c0 := ⟨w0[v], List.getElem?_eq_getElem hlt⟩
    obtain ⟨c, h1, h2⟩ := hI.old v c0 hc0
    rw [h] at h1
    cases h1
    -- equal up to usage records: `c0` is a value cell with the same `const_value`
    obtain ⟨v0, rfl, he⟩ := eraseUses_val h2.1.symm
    cases hc : vs.const with
    | none => trivial
    | some t => exact .inr ⟨v, v0, hc0, (congrArg ValueS.const he).trans hc⟩
  · exact (hI.cells v _ hge h).val_const

/-- the copy of a value shared by `_clone_or_get_value` and the output loop of `clone_node`; then `k` -/
theorem copyVal_good {α : Type} {s : St} {Q : α → St → Prop} (v : Nat) (idx : Option Nat) (k : Nat → M α)
    (hk : ∀ v' s1, Inv w0 allow s1 → NewId w0 v' s1 → Hoare (goodL w0 allow) (k v') s1 Q) :
    Hoare (goodL w0 allow) (do
      let vs ← readVal v
      let sh ← copyShape vs.shape
      let ty ← copyType vs.type
      let props ← copyProps vs.props
      let mstore ← copyMeta vs.mstore
      let v' ← alloc (.val { name := vs.name, doc := vs.doc, index := idx, type := ty, shape := sh,
                             const := vs.const, props := props, mstore := mstore })
      k v') s Q := by
  hbind Hoare.readVal with vs s2 ⟨hI2, hl2⟩ - hq2
  have hconst := constOk_of_read hI2 (by rw [hq2.1] at *; exact hq2.2)
  hbind (copyShape_good vs.shape) with sh s3 ⟨hI3, hl3⟩ - hsh
  hbind (copyType_good vs.type) with ty s4 ⟨hI4, hl4⟩ - hty
  hbind (copyProps_good vs.props) with pr s5 ⟨hI5, hl5⟩ - hpr
  hbind (copyMeta_good vs.mstore) with me s6 ⟨hI6, hl6⟩ - hme
  have hc : CellOk w0 w0.length (s6.w.length + 1) allow
      (.val { name := vs.name, doc := vs.doc, index := idx, type := ty, shape := sh, const := vs.const,
              props := pr, mstore := me }) :=
    ⟨OptIn.mono hty (by omega), OptIn.mono hsh (by omega), In.mono hpr (by omega),
      In.mono hme (by omega), trivial, trivial, hconst, fun u hu => by cases hu⟩
  hbind (allocNew_good hc) with v' s7 ⟨hI7, hl7⟩ - hv'
  exact hk v' s7 hI7 hv'

theorem cloneOrGetValue_good {s : St} (v : Nat) :
    Hoare (goodL w0 allow) (cloneOrGetValue v) s (NewId w0) := by
  unfold cloneOrGetValue
  hbind vmGet_good with o s1 ⟨hI1, hl1⟩ - hq1
  obtain ⟨rfl, hq1⟩ := hq1
  cases o with
  | some v' => exact Hoare.pure (hq1 v' rfl)
  | none =>
    refine copyVal_good v none _ fun v' s7 hI7 hv' => ?_
    hbind (vmSet_good hv') with u s8 ⟨hI8, hl8⟩ - hq8
    exact Hoare.pure (by rw [NewId, hq8]; exact hv')

theorem mapM'_good {α β : Type} {f : α → M β} {Q : β → St → Prop}
    (hQ : ∀ b s s', Q b s → s.w.length ≤ s'.w.length → Q b s') (l : List α) (s : St)
    (hf : ∀ a ∈ l, ∀ s1, Inv w0 allow s1 → s.w.length ≤ s1.w.length → Hoare (goodL w0 allow) (f a) s1 Q) :
    Hoare (goodL w0 allow) (mapM' f l) s (fun r s1 => ∀ b ∈ r, Q b s1) :=
  Hoare.mapM' (L := goodL w0 allow) (fun b s s' h hE _ => hQ b s s' h hE.2) l s
    fun a ha s1 hE _ => hf a ha s1 hE.1 hE.2

theorem forM'_good {f : α → M Unit} (l : List α) (s : St)
    (hf : ∀ a ∈ l, ∀ s1, Inv w0 allow s1 → s.w.length ≤ s1.w.length →
      Hoare (goodL w0 allow) (f a) s1 (fun _ _ => True)) :
    Hoare (goodL w0 allow) (forM' f l) s (fun _ _ => True) :=
  Hoare.forM' (L := goodL w0 allow) l s fun a ha s1 hE _ => hf a ha s1 hE.1 hE.2

theorem NewId.stable (b : Nat) (s s' : St) (h : NewId w0 b s) (hl : s.w.length ≤ s'.w.length) :
    NewId w0 b s' := In.mono h hl

/-- adding a usage record by a new node keeps the invariant, whether the value is new or old -/
theorem Inv.setUses {s : St} {v : Nat} {vs : ValueS} {us : List (Nat × Nat)} (hI : Inv w0 allow s)
    (hv : s.w[v]? = some (.val vs))
    (hus : us.filter (fun u => u.1 < w0.length) = vs.uses.filter (fun u => u.1 < w0.length))
    (hva : allow = false → w0.length ≤ v) :
    Inv w0 allow { s with w := s.w.set v (.val { vs with uses := us }) } := by
  rcases Nat.lt_or_ge v w0.length with hlt | hge
  · refine ⟨by simp; exact hI.len, ?_, ?_, ?_, ?_, ?_⟩
    rotate_left 3
    · intro ha
      have := hva ha
      omega
    · intro n hn
      simpa using hI.created n hn
    · intro j c0 h0
      obtain ⟨c', h1, h2⟩ := hI.old j c0 h0
      by_cases hj : v = j
      · subst hj
        rw [hv] at h1
        cases h1
        refine ⟨.val { vs with uses := us }, by simp only; exact List.getElem?_set_self (lt_of_getElem? hv), ?_⟩
        exact OldSame.trans h2 ⟨rfl, hus⟩
      · exact ⟨c', by simp only; rw [List.getElem?_set_ne hj]; exact h1, h2⟩
    · intro p hp
      simpa using hI.vm p hp
    · intro j c' hj hc'
      simp only [List.length_set] at *
      rw [List.getElem?_set_ne (by omega)] at hc'
      exact hI.cells j c' hj hc'
  · obtain ⟨a1, a2, a3, a4, a5, a6, a7, a8⟩ := hI.cells v (.val vs) hge hv
    refine hI.setNew hge (show CellOk _ _ _ _ (.val { vs with uses := us }) from
      ⟨a1, a2, a3, a4, a5, a6, a7, fun u hu => ?_⟩)
    rcases Nat.lt_or_ge u.1 w0.length with hlt | hge'
    · have hm : u ∈ us.filter (fun u => decide (u.1 < w0.length)) := List.mem_filter.mpr ⟨hu, by simpa using hlt⟩
      rw [hus] at hm
      have := a8 u (List.mem_filter.mp hm).1
      omega
    · exact hge'

theorem addUse_good {s : St} (v n : Nat) (i : Nat) (hn : w0.length ≤ n)
    (hva : allow = false → w0.length ≤ v) :
    Hoare (goodL w0 allow) (addUse v n i) s (fun _ _ => True) := by
  unfold addUse
  hbind Hoare.readVal with vs s1 ⟨hI1, hl1⟩ - hq1
  obtain ⟨rfl, hv⟩ := hq1
  refine GoodAt.hoare fun _ => ⟨hI1.setUses hv ?_ hva, by simp [setCell], fun _ _ => trivial⟩
  split
  · rfl
  · rw [List.filter_append]
    have : List.filter (fun u => decide (u.1 < w0.length)) [(n, i)] = [] := by
      simp [List.filter, Nat.not_lt.mpr hn]
    rw [this]; simp

theorem addUses_good (n : Nat) (hn : w0.length ≤ n) :
    ∀ (l : List (Option Nat)) (i : Nat) (s : St), (allow = false → ∀ v, some v ∈ l → w0.length ≤ v) →
      Hoare (goodL w0 allow) (addUses n i l) s (fun _ _ => True)
  | [], i, s, _ => Hoare.pure trivial
  | none :: rest, i, s, hl => by
    unfold addUses
    exact addUses_good n hn rest (i + 1) s (fun ha v hv => hl ha v (List.mem_cons_of_mem _ hv))
  | some v :: rest, i, s, hl => by
    unfold addUses
    hbind (addUse_good v n i hn (fun ha => hl ha v List.mem_cons_self)) with u s1 ⟨hI1, hl1⟩ - hq1
    exact addUses_good n hn rest (i + 1) s1 (fun ha v hv => hl ha v (List.mem_cons_of_mem _ hv))

theorem mkOutputs_good (n : Nat) (hn0 : w0.length ≤ n) :
    ∀ (k i : Nat) (s : St), Inv w0 allow s → n < s.w.length →
      GoodAt w0 allow (mkOutputs n i k) s (fun r s1 => ∀ v ∈ r, In w0.length s1.w.length v)
  | 0, i, s, hI, _ => (Hoare.pure (by simp)).good hI
  | k + 1, i, s, hI, hn => by
    refine Hoare.good ?_ hI
    unfold mkOutputs
    hbind (allocNew_good (by trivial)) with pr s1 ⟨hI1, hl1⟩ - hpr
    hbind (allocNew_good (by trivial)) with me s2 ⟨hI2, hl2⟩ - hme
    have hc : CellOk w0 w0.length (s2.w.length + 1) allow
        (.val { producer := some n, index := some i, props := pr, mstore := me }) :=
      ⟨trivial, trivial, In.mono hpr (by omega), In.mono hme (by omega), trivial,
        ⟨hn0, by omega⟩, trivial, fun u hu => by cases hu⟩
    hbind (allocNew_good hc) with v s3 ⟨hI3, hl3⟩ - hv
    hbind (GoodAt.hoare fun hI3 => mkOutputs_good n hn0 k (i + 1) s3 hI3 (by omega)) with rest s4 ⟨hI4, hl4⟩ - hrest
    refine Hoare.pure ?_
    intro x hx
    rcases List.mem_cons.mp hx with h | h
    · subst h; exact In.mono hv hl4
    · exact hrest x h

theorem Inv.pendSet {s : St} (hI : Inv w0 allow s) (pd : List Nat) :
    Inv w0 allow { s with pend := pd } :=
  ⟨hI.len, hI.old, hI.vm, hI.cells, hI.oldEq, hI.created⟩

theorem pendAdd_good {s : St} (vs : List Nat) :
    Hoare (goodL w0 allow) (pendAdd vs) s (fun _ s1 => s1.w = s.w) :=
  GoodAt.hoare fun hI => ⟨hI.pendSet _, Nat.le_refl _, fun _ _ => rfl⟩

theorem pendDiscard_good {s : St} (v : Nat) :
    Hoare (goodL w0 allow) (pendDiscard v) s (fun _ s1 => s1.w = s.w) :=
  GoodAt.hoare fun hI => ⟨hI.pendSet _, Nat.le_refl _, fun _ _ => rfl⟩

theorem createdAdd_good {s : St} (n : Nat) (hn : In w0.length s.w.length n) :
    Hoare (goodL w0 allow) (createdAdd n) s (fun _ s1 => s1.w = s.w) := by
  refine GoodAt.hoare fun hI => ?_
  refine ⟨⟨hI.len, hI.old, hI.vm, hI.cells, hI.oldEq, ?_⟩, Nat.le_refl _, fun _ _ => rfl⟩
  intro x hx
  simp only [Clone.createdAdd, List.mem_append, List.mem_singleton] at hx
  rcases hx with h | h
  · exact hI.created x h
  · subst h; exact hn


/-- what `mapInputs` (the node-input loop of `clone_node`, `_cloner.py` 171-195) answers -/
def mapInputsPure (allow : Bool) (s : St) : List (Option Nat) → Except Err (List (Option Nat))
  | [] => .ok []
  | none :: rest => (mapInputsPure allow s rest).map (none :: ·)
  | some v :: rest =>
    match s.vm.lookup v with
    | some v' => (mapInputsPure allow s rest).map (some v' :: ·)
    | none =>
      if allow then
        if s.pend.contains v then .error (.raised "value defined by a later node of the graph being cloned")
        else (mapInputsPure allow s rest).map (some v :: ·)
      else .error (.raised "outer-scope value")

theorem mapInputs_eq_pure (allow : Bool) (s : St) :
    ∀ l, mapInputs allow l s = (mapInputsPure allow s l, s)
  | [] => rfl
  | none :: rest => by
    have ih := mapInputs_eq_pure allow s rest
    unfold mapInputs mapInputsPure
    show M.bind (mapInputs allow rest) _ s = _
    unfold M.bind
    rw [ih]
    cases mapInputsPure allow s rest <;> rfl
  | some v :: rest => by
    have ih := mapInputs_eq_pure allow s rest
    unfold mapInputs mapInputsPure
    show M.bind (vmGet v) _ s = _
    unfold M.bind vmGet
    simp only
    cases hlk : s.vm.lookup v with
    | some v' =>
      simp only
      show M.bind (mapInputs allow rest) _ s = _
      unfold M.bind
      rw [ih]
      cases mapInputsPure allow s rest <;> rfl
    | none =>
      simp only
      cases allow with
      | false => rfl
      | true =>
        simp only [if_true]
        show M.bind (pendHas v) _ s = _
        unfold M.bind pendHas
        simp only
        cases hp : s.pend.contains v with
        | true => rfl
        | false =>
          simp only [Bool.false_eq_true, if_false]
          show M.bind (mapInputs true rest) _ s = _
          unfold M.bind
          rw [ih]
          cases mapInputsPure true s rest <;> rfl

theorem Quiet.mapInputs (allow : Bool) (l : List (Option Nat)) : Quiet (mapInputs allow l) :=
  fun s => by rw [mapInputs_eq_pure]

/-- image of a value under a value map (a value the map does not bind is its own image) -/
def img (vm : List (Nat × Nat)) (v : Nat) : Nat := (vm.lookup v).getD v

theorem img_of_lookup {vm : List (Nat × Nat)} {v v' : Nat} (h : vm.lookup v = some v') : img vm v = v' := by
  simp [img, h]

theorem img_of_unbound {vm : List (Nat × Nat)} {v : Nat} (h : vm.lookup v = none) : img vm v = v := by
  simp [img, h]

/-- an input the cloner cannot resolve: not bound in the value map and either outer-scope values
    are not allowed, or it is the output of a node of the graph that is still to be cloned -/
def Unresolved (allow : Bool) (s : St) (l : List (Option Nat)) : Prop :=
  ∃ v, some v ∈ l ∧ s.vm.lookup v = none ∧ (allow = false ∨ v ∈ s.pend)

theorem unresolved_cons {allow : Bool} {s : St} {x : Option Nat} {rest : List (Option Nat)}
    (hx : ∀ v, x = some v → ¬ (s.vm.lookup v = none ∧ (allow = false ∨ v ∈ s.pend))) :
    Unresolved allow s (x :: rest) ↔ Unresolved allow s rest := by
  constructor
  · rintro ⟨v, hv, h⟩
    rcases List.mem_cons.mp hv with h' | h'
    · exact absurd h (hx v h'.symm)
    · exact ⟨v, h', h⟩
  · rintro ⟨v, hv, h⟩
    exact ⟨v, List.mem_cons_of_mem _ hv, h⟩

theorem mapInputsPure_spec (allow : Bool) (s : St) : ∀ l : List (Option Nat),
    (Unresolved allow s l → ∃ why, mapInputsPure allow s l = .error (.raised why)) ∧
    (¬ Unresolved allow s l → mapInputsPure allow s l = .ok (l.map (Option.map (img s.vm))))
  | [] => ⟨fun ⟨_, hv, _⟩ => (nomatch hv), fun _ => rfl⟩
  | x :: rest => by
    obtain ⟨ih1, ih2⟩ := mapInputsPure_spec allow s rest
    have step : ∀ f : Option Nat, (Unresolved allow s (x :: rest) ↔ Unresolved allow s rest) →
        f = x.map (img s.vm) →
        (Unresolved allow s (x :: rest) → ∃ why, (mapInputsPure allow s rest).map (f :: ·) = .error (.raised why)) ∧
        (¬ Unresolved allow s (x :: rest) →
          (mapInputsPure allow s rest).map (f :: ·) = .ok ((x :: rest).map (Option.map (img s.vm)))) := by
      intro f hu hf
      refine ⟨fun h => ?_, fun h => ?_⟩
      · obtain ⟨why, hw⟩ := ih1 (hu.mp h)
        exact ⟨why, by rw [hw]; rfl⟩
      · rw [ih2 fun h' => h (hu.mpr h'), hf]; rfl
    have stop : ∀ why v, x = some v → s.vm.lookup v = none → (allow = false ∨ v ∈ s.pend) →
        (Unresolved allow s (x :: rest) → ∃ why', (Except.error (.raised why) : Except Err (List (Option Nat))) = .error (.raised why')) ∧
        (¬ Unresolved allow s (x :: rest) →
          (Except.error (.raised why) : Except Err _) = .ok ((x :: rest).map (Option.map (img s.vm)))) :=
      fun why v hx hlk hp => ⟨fun _ => ⟨why, rfl⟩, fun h => absurd ⟨v, hx ▸ List.mem_cons_self, hlk, hp⟩ h⟩
    cases x with
    | none =>
      unfold mapInputsPure
      exact step none (unresolved_cons fun v hv => by cases hv) rfl
    | some v =>
      unfold mapInputsPure
      cases hlk : s.vm.lookup v with
      | some v' =>
        exact step (some v') (unresolved_cons fun x hx h => by cases hx; rw [hlk] at h; cases h.1)
          (by simp [img, hlk])
      | none =>
        simp only
        cases allow with
        | false => exact stop _ v rfl hlk (.inl rfl)
        | true =>
          simp only [if_true]
          cases hp : s.pend.contains v with
          | true => exact stop _ v rfl hlk (.inr (by simpa using hp))
          | false =>
            have hvp : v ∉ s.pend := by simpa using hp
            exact step (some v) (unresolved_cons fun x hx h => by
              cases hx
              rcases h.2 with h2 | h2
              · cases h2
              · exact hvp h2) (by simp [img, hlk])

theorem mapInputsPure_ok {allow : Bool} {s : St} {l r : List (Option Nat)} (h : mapInputsPure allow s l = .ok r) :
    ¬ Unresolved allow s l ∧ r = l.map (Option.map (img s.vm)) := by
  by_cases hu : Unresolved allow s l
  · obtain ⟨why, hw⟩ := (mapInputsPure_spec allow s l).1 hu
    rw [hw] at h; cases h
  · rw [(mapInputsPure_spec allow s l).2 hu] at h
    cases h; exact ⟨hu, rfl⟩

theorem mapInputs_spec {L : Logic} (allow : Bool) (l : List (Option Nat)) (s : St) :
    Hoare L (mapInputs allow l) s
      (fun r s1 => s1 = s ∧ ¬ Unresolved allow s l ∧ r = l.map (Option.map (img s.vm))) :=
  Hoare.ofRead (Quiet.mapInputs allow l) fun r h => by
    rw [mapInputs_eq_pure] at h
    exact mapInputsPure_ok h

theorem map_img_shape (vm : List (Nat × Nat)) (l : List (Option Nat)) :
    (l.map (Option.map (img vm))).map Option.isSome = l.map Option.isSome := by
  rw [List.map_map]
  exact List.map_congr_left fun o _ => by cases o <;> rfl

theorem mem_map_img {vm : List (Nat × Nat)} {l : List (Option Nat)} {v : Nat}
    (h : some v ∈ l.map (Option.map (img vm))) : ∃ u, some u ∈ l ∧ v = img vm u := by
  obtain ⟨o, ho, hov⟩ := List.mem_map.mp h
  cases o with
  | none => cases hov
  | some u => cases hov; exact ⟨u, ho, rfl⟩

theorem mapInputs_good (l : List (Option Nat)) (s : St) :
    Hoare (goodL w0 allow) (mapInputs allow l) s
      (fun r s1 => s1 = s ∧ r.map Option.isSome = l.map Option.isSome ∧
        (allow = false → ∀ v, some v ∈ r → In w0.length s.w.length v)) :=
  Hoare.assume fun hO => (mapInputs_spec allow l s).mono fun r s1 _ _ ⟨hs, hu, hr⟩ => by
    subst hr
    refine ⟨hs, map_img_shape _ _, fun ha v hv => ?_⟩
    obtain ⟨u, hu', rfl⟩ := mem_map_img hv
    cases hlk : s.vm.lookup u with
    | none => exact absurd ⟨u, hu', hlk, .inl ha⟩ hu
    | some v' => rw [img_of_lookup hlk]; exact hO.1.1.vm (u, v') (ListFacts.mem_of_lookup hlk)

theorem dictSet_append_new {β : Type} (d : List (String × β)) (k : String) (v : β)
    (h : d.any (fun e => e.1 == k) = false) : dictSet d k v = d ++ [(k, v)] := by
  unfold dictSet
  rw [h]
  rfl

theorem mem_dictSet {β : Type} {d : List (String × β)} {k : String} {v : β} {e : String × β}
    (h : e ∈ dictSet d k v) : e ∈ d ∨ e = (k, v) := by
  unfold dictSet at h
  split at h
  · rcases List.mem_map.mp h with ⟨x, hx, rfl⟩
    split
    · exact .inr rfl
    · exact .inl hx
  · rcases List.mem_append.mp h with h | h
    · exact .inl h
    · exact .inr (by simpa using h)

theorem mem_dictOf_aux {β : Type} (xs : List (String × β)) :
    ∀ (acc : List (String × β)) (e : String × β),
      e ∈ xs.foldl (fun d e => dictSet d e.1 e.2) acc → e ∈ acc ∨ e ∈ xs := by
  induction xs with
  | nil => intro acc e h; exact .inl h
  | cons x xs ih =>
    intro acc e h
    simp only [List.foldl_cons] at h
    rcases ih _ e h with h | h
    · rcases mem_dictSet h with h | h
      · exact .inl h
      · exact .inr (by rw [h]; exact List.mem_cons_self)
    · exact .inr (List.mem_cons_of_mem _ h)

theorem mem_dictOf {β : Type} {xs : List (String × β)} {e : String × β} (h : e ∈ dictOf xs) :
    e ∈ xs := by
  rcases mem_dictOf_aux xs [] e h with h | h
  · cases h
  · exact h

/-- an attribute entry of a new node: a new attribute object or a shared graph-free one -/
abbrev AttrOk (w0 : World) : String × Nat → St → Prop :=
  fun r s1 => In w0.length s1.w.length r.2 ∨ SharedAttr w0 r.2

theorem AttrOk.stable (b : String × Nat) (s s' : St) (h : AttrOk w0 b s)
    (hl : s.w.length ≤ s'.w.length) : AttrOk w0 b s' := by
  rcases h with h | h
  · exact .inl (In.mono h hl)
  · exact .inr h

theorem sharedAttr_of_read {s : St} {a : Nat} {as : AttrS} (hI : Inv w0 allow s)
    (ha : s.w[a]? = some (.attr as)) (hg : as.v.isGraphy = false) :
    In w0.length s.w.length a ∨ SharedAttr w0 a := by
  rcases Nat.lt_or_ge a w0.length with hlt | hge
  · right
    obtain ⟨c0, hc0⟩ : ∃ c0, w0[a]? = some c0 := ⟨w0[a], List.getElem?_eq_getElem hlt⟩
    obtain ⟨c, h1, h2⟩ := hI.old a c0 hc0
    rw [ha] at h1
    cases h1
    rw [eraseUses_other h2.1.symm (by intro v hv; cases hv)] at hc0
    exact ⟨_, hc0, hg⟩
  · exact .inl ⟨hge, lt_of_getElem? ha⟩

theorem cloneAttr_good {rec : Nat → M Nat}
    (hrec : ∀ g s, Hoare (goodL w0 allow) (rec g) s (NewId w0))
    (key : String) (a : Nat) {s : St} :
    Hoare (goodL w0 allow) (cloneAttr rec key a) s (AttrOk w0) := by
  unfold cloneAttr
  hbind Hoare.readAttr with as s1 ⟨hI1, hl1⟩ - hq1
  obtain ⟨rfl, ha⟩ := hq1
  split
  · next g hg =>
    hbind (hrec g s1) with g' s2 ⟨hI2, hl2⟩ - hg'
    have hc : CellOk w0 w0.length (s2.w.length + 1) allow
        (.attr { name := key, doc := as.doc, v := .graph g' }) := In.mono hg' (by omega)
    hbind (allocNew_good hc) with a' s3 ⟨hI3, hl3⟩ - ha'
    exact Hoare.pure (.inl ha')
  · next gs hg =>
    hbind (mapM'_good (NewId.stable) gs s1 (fun g _ s2 hI2 _ => hrec g s2)) with gs' s2 ⟨hI2, hl2⟩ - hgs'
    have hc : CellOk w0 w0.length (s2.w.length + 1) allow
        (.attr { name := key, doc := as.doc, v := .graphs gs' }) :=
      fun g hg => In.mono (hgs' g hg) (by omega)
    hbind (allocNew_good hc) with a' s3 ⟨hI3, hl3⟩ - ha'
    exact Hoare.pure (.inl ha')
  · next h1 h2 => exact Hoare.pure (sharedAttr_of_read hI1 ha (AttrV.isGraphy_eq_false h1 h2))

theorem cloneOutput_good (i o : Nat) {s : St} :
    Hoare (goodL w0 allow) (cloneOutput i o) s (NewId w0) := by
  refine copyVal_good o (some i) _ fun o' s6 hI6 ho' => ?_
  hbind (vmSet_good ho') with u s7 ⟨hI7, hl7⟩ - hq7
  hbind (pendDiscard_good o) with u2 s8 ⟨hI8, hl8⟩ - hq8
  exact Hoare.pure (by rw [NewId, hq8, hq7]; exact ho')

theorem cloneOutputs_good :
    ∀ (os : List Nat) (i : Nat) (s : St), Hoare (goodL w0 allow) (cloneOutputs i os) s (fun r s1 => ∀ v ∈ r, In w0.length s1.w.length v)
  | [], i, s => by unfold cloneOutputs; exact Hoare.pure (by simp)
  | o :: os, i, s => by
    unfold cloneOutputs
    hbind (cloneOutput_good i o) with o' s1 ⟨hI1, hl1⟩ - ho'
    hbind (cloneOutputs_good os (i + 1) s1) with rest s2 ⟨hI2, hl2⟩ - hrest
    refine Hoare.pure ?_
    intro x hx
    rcases List.mem_cons.mp hx with h | h
    · subst h; exact In.mono ho' hl2
    · exact hrest x h

theorem setProducer_good (n v : Nat) {s : St}
    (hn : In w0.length s.w.length n) (hv : w0.length ≤ v) :
    Hoare (goodL w0 allow) (setProducer n v) s (fun _ _ => True) := by
  unfold setProducer
  hbind Hoare.readVal with vs s1 ⟨hI1, hl1⟩ - hq1
  obtain ⟨rfl, hvs⟩ := hq1
  obtain ⟨a, b, c, d, e, _, k⟩ := hI1.cells v _ hv hvs
  exact (setNew_good hv (c := .val { vs with producer := some n }) ⟨a, b, c, d, e, hn, k⟩).mono
    (fun _ _ _ _ _ => trivial)

theorem allocNode_good {s : St} {c : NodeS}
    (hc : CellOk w0 w0.length (s.w.length + 1) allow (.node c)) :
    Hoare (goodL w0 allow) (allocNode c) s (NewId w0) := by
  unfold allocNode
  hbind (allocNew_good hc) with n' s1 ⟨hI1, hl1⟩ - hn'
  hbind (createdAdd_good n' hn') with u s2 ⟨hI2, hl2⟩ - hq2
  exact Hoare.pure (by rw [NewId, hq2]; exact hn')

theorem cloneOutputs_length :
    ∀ (os : List Nat) (i : Nat) (s : St) (r : List Nat), (cloneOutputs i os s).1 = .ok r →
      r.length = os.length
  | [], i, s, r, h => by
    simp [cloneOutputs, pure, M.pure] at h
    subst h; rfl
  | o :: os, i, s, r, h => by
    unfold cloneOutputs at h
    change (M.bind (cloneOutput i o) _ s).1 = _ at h
    unfold M.bind at h
    rcases h1 : cloneOutput i o s with ⟨r1, s1⟩
    rw [h1] at h
    cases r1 with
    | error e => cases h
    | ok o' =>
      simp only at h
      change (M.bind (cloneOutputs (i + 1) os) _ s1).1 = _ at h
      unfold M.bind at h
      rcases h2 : cloneOutputs (i + 1) os s1 with ⟨r2, s2⟩
      rw [h2] at h
      cases r2 with
      | error e => cases h
      | ok rest =>
        simp only [pure, M.pure] at h
        cases h
        have := cloneOutputs_length os (i + 1) s1 rest (by rw [h2])
        simp [this]

theorem lookup_isSome_of_mem {v x : Nat} {l : List (Nat × Nat)} (h : (v, x) ∈ l) : (l.lookup v).isSome :=
  ListFacts.lookup_isSome_iff.mpr (List.mem_map.mpr ⟨_, h, rfl⟩)

/-- the pairs of `ioMap`: an output with its clone, or an input that is there with its image -/
theorem mem_ioMap {ins0 ins : List (Option Nat)} {outs0 outs : List Nat} {a b : Nat} :
    (a, b) ∈ ioMap ins0 ins outs0 outs ↔ (a, b) ∈ outs0.zip outs ∨ (some a, some b) ∈ ins0.zip ins := by
  unfold ioMap
  rw [List.mem_append, List.mem_filterMap]
  refine or_congr_right ⟨?_, fun h => ⟨_, h, rfl⟩⟩
  rintro ⟨⟨qa, qb⟩, hq, hqe⟩
  cases qa <;> cases qb <;> simp at hqe
  obtain ⟨rfl, rfl⟩ := hqe
  exact hq

theorem ioMap_mem {ins0 ins : List (Option Nat)} {outs0 outs : List Nat} {a b : Nat}
    (hab : (a, b) ∈ ioMap ins0 ins outs0 outs) : some b ∈ ins ∨ b ∈ outs :=
  (mem_ioMap.mp hab).elim (fun h => .inr (List.of_mem_zip h).2) (fun h => .inl (List.of_mem_zip h).2)

/-- a value that is an input or output of the source node is a key of `ioMap` -/
theorem ioMap_local {ns : NodeS} {ins : List (Option Nat)} {outs : List Nat}
    (hlen : outs.length = ns.outputs.length)
    (hpos : ins.map Option.isSome = ns.inputs.map Option.isSome) {v0 : Nat}
    (hl : some v0 ∈ ns.inputs ∨ v0 ∈ ns.outputs) :
    ∃ x, List.lookup v0 (ioMap ns.inputs ins ns.outputs outs) = some x := by
  apply Option.isSome_iff_exists.mp
  rcases hl with h1 | h1
  · obtain ⟨i, hi, hget⟩ := List.getElem_of_mem h1
    have hilen : i < ins.length := by
      have := congrArg List.length hpos
      simp at this
      omega
    have hsome : (ins[i]).isSome := by
      have h1' : (ins.map Option.isSome)[i]'(by simpa using hilen) = (ns.inputs.map Option.isSome)[i]'(by simpa using hi) := by
        simp only [hpos]
      simp only [List.getElem_map] at h1'
      rw [h1', hget]; rfl
    obtain ⟨x, hx⟩ := Option.isSome_iff_exists.mp hsome
    apply lookup_isSome_of_mem (x := x)
    unfold ioMap
    apply List.mem_append_right
    apply List.mem_filterMap.mpr
    refine ⟨(some v0, some x), ?_, rfl⟩
    rw [List.mem_iff_getElem]
    refine ⟨i, by simp; omega, ?_⟩
    simp [hget, hx]
  · obtain ⟨i, hi, hget⟩ := List.getElem_of_mem h1
    apply lookup_isSome_of_mem (x := outs[i]'(by omega))
    unfold ioMap
    apply List.mem_append_left
    rw [List.mem_iff_getElem]
    refine ⟨i, by simp; omega, ?_⟩
    simp [hget]

theorem ioMap_lookup_none {ins0 ins : List (Option Nat)} {outs0 outs : List Nat} {v : Nat}
    (h1 : ins0.contains (some v) = false) (h2 : outs0.contains v = false) :
    (ioMap ins0 ins outs0 outs).lookup v = none := by
  cases hl : (ioMap ins0 ins outs0 outs).lookup v with
  | none => rfl
  | some x =>
    exfalso
    rcases mem_ioMap.mp (ListFacts.mem_of_lookup hl) with h | h
    · have : outs0.contains v = true := by simpa using (List.of_mem_zip h).1
      rw [h2] at this; cases this
    · have : ins0.contains (some v) = true := by simpa using (List.of_mem_zip h).1
      rw [h1] at this; cases this

theorem remapSpec_eq (vm : List (Nat × Nat)) (sp : DevSpec) :
    remapSpec vm sp = { sp with value := sp.value.map (img vm) } := by
  rcases sp with ⟨val, pay⟩
  unfold remapSpec img
  cases val with
  | none => rfl
  | some v => simp only [Option.map_some]; cases vm.lookup v <;> rfl

theorem img_append_some {m vm : List (Nat × Nat)} {v x : Nat} (h : m.lookup v = some x) : img (m ++ vm) v = x := by
  rw [img, ListFacts.lookup_append_some h]; rfl

theorem img_append_none {m vm : List (Nat × Nat)} {v : Nat} (h : m.lookup v = none) : img (m ++ vm) v = img vm v := by
  rw [img, ListFacts.lookup_append_none h]; rfl

/-- a spec of the remapped annotation is the remap of a spec of the source's -/
theorem mem_remapDev {vm : List (Nat × Nat)} {d : List DevCfg} {c : DevCfg} {sp : DevSpec} {v : Nat}
    (hc : c ∈ remapDev vm d) (hsp : sp ∈ c.specs) (hv : sp.value = some v) :
    ∃ c0 ∈ d, ∃ sp0 ∈ c0.specs, ∃ v0, sp0.value = some v0 ∧ v = img vm v0 := by
  unfold remapDev at hc
  obtain ⟨c0, hc0, rfl⟩ := List.mem_map.mp hc
  obtain ⟨sp0, hsp0, rfl⟩ := List.mem_map.mp hsp
  rw [remapSpec_eq] at hv
  cases hv0 : sp0.value with
  | none => rw [hv0] at hv; cases hv
  | some v0 => rw [hv0] at hv; exact ⟨c0, hc0, sp0, hsp0, v0, hv0, (Option.some.inj hv).symm⟩

/-- a spec target that neither `ioMap` nor the global map binds is outer -/
theorem specOuter_of_unbound {ns : NodeS} {ins : List (Option Nat)} {outs : List Nat} {vm : List (Nat × Nat)}
    (hlen : outs.length = ns.outputs.length) (hpos : ins.map Option.isSome = ns.inputs.map Option.isSome)
    {sp : DevSpec} {v : Nat} (hv : sp.value = some v)
    (hio : (ioMap ns.inputs ins ns.outputs outs).lookup v = none) (hvm : vm.lookup v = none) :
    specOuter ns vm sp = true := by
  have hnl : ¬ (some v ∈ ns.inputs ∨ v ∈ ns.outputs) := fun hl => by
    obtain ⟨x, hx⟩ := ioMap_local hlen hpos hl
    rw [hio] at hx; cases hx
  have h1 : ns.inputs.contains (some v) = false := by
    cases h : ns.inputs.contains (some v) with
    | false => rfl
    | true => exact absurd (.inl (by simpa using h)) hnl
  have h2 : ns.outputs.contains v = false := by
    cases h : ns.outputs.contains v with
    | false => rfl
    | true => exact absurd (.inr (by simpa using h)) hnl
  simp only [specOuter, hv, h1, h2, hvm]
  rfl

/-- remapping local sharding specs through the correspondence of the node's own inputs and outputs
    (completed by any other map) yields specs that are local to the new node -/
theorem devLocal_remap {ns : NodeS} {ins : List (Option Nat)} {outs : List Nat} (vm : List (Nat × Nat))
    (hloc : DevLocal ns) (hlen : outs.length = ns.outputs.length)
    (hpos : ins.map Option.isSome = ns.inputs.map Option.isSome) :
    ∀ c ∈ remapDev (ioMap ns.inputs ins ns.outputs outs ++ vm) ns.dev, ∀ sp ∈ c.specs, ∀ v,
      sp.value = some v → some v ∈ ins ∨ v ∈ outs := by
  intro c hc sp hsp v hv
  obtain ⟨c0, hc0, sp0, hsp0, v0, hv0, rfl⟩ := mem_remapDev hc hsp hv
  obtain ⟨x, hx⟩ := ioMap_local hlen hpos (hloc c0 hc0 sp0 hsp0 v0 hv0)
  rw [img_append_some hx]
  exact ioMap_mem (ListFacts.mem_of_lookup hx)

/-- when no spec is outer (`checkSpecs` passed), every remapped spec value is an image of `ioMap` or
    of the global value map -/
theorem remap_resolved {ns : NodeS} {ins : List (Option Nat)} {outs : List Nat} {vm : List (Nat × Nat)}
    (hlen : outs.length = ns.outputs.length)
    (hpos : ins.map Option.isSome = ns.inputs.map Option.isSome)
    (hno : ns.dev.any (fun c => c.specs.any (specOuter ns vm)) = false) :
    ∀ c ∈ remapDev (ioMap ns.inputs ins ns.outputs outs ++ vm) ns.dev, ∀ sp ∈ c.specs, ∀ v,
      sp.value = some v → (some v ∈ ins ∨ v ∈ outs) ∨ ∃ a, (a, v) ∈ vm := by
  intro c hc sp hsp v hv
  obtain ⟨c0, hc0, sp0, hsp0, v0, hv0, rfl⟩ := mem_remapDev hc hsp hv
  cases hio : (ioMap ns.inputs ins ns.outputs outs).lookup v0 with
  | some x => rw [img_append_some hio]; exact .inl (ioMap_mem (ListFacts.mem_of_lookup hio))
  | none =>
    rw [img_append_none hio]
    cases hvm : vm.lookup v0 with
    | some b => rw [img_of_lookup hvm]; exact .inr ⟨v0, ListFacts.mem_of_lookup hvm⟩
    | none =>
      exfalso
      have hso : specOuter ns vm sp0 = false := by
        rw [List.any_eq_false] at hno
        have := hno c0 hc0
        simp only [Bool.not_eq_true] at this
        rw [List.any_eq_false] at this
        simpa using this sp0 hsp0
      rw [specOuter_of_unbound hlen hpos hv0 hio hvm] at hso
      cases hso

theorem devLocal_of_read {s : St} {n : Nat} {ns : NodeS} (hI : Inv w0 allow s)
    (hd : devLocalW w0 = true) (h : s.w[n]? = some (.node ns)) : DevLocal ns := by
  rcases Nat.lt_or_ge n w0.length with hlt | hge
  · obtain ⟨c, h1, h2⟩ := hI.old n _ (List.getElem?_eq_getElem hlt)
    rw [h] at h1
    cases h1
    have hc0 := eraseUses_other h2.1.symm (by intro v hv; cases hv)
    exact devLocalW_spec hd (by rw [List.getElem?_eq_getElem hlt, hc0])
  · exact (hI.cells n _ hge h).node_devLocal hd

theorem Quiet.checkSpecs (allow : Bool) (ns : NodeS) (vm : List (Nat × Nat)) :
    Quiet (checkSpecs allow ns vm) := Quiet.guard (Quiet.pure _)

theorem checkSpecs_spec {L : Logic} {s : St} (allow : Bool) (ns : NodeS) (vm : List (Nat × Nat)) :
    Hoare L (checkSpecs allow ns vm) s (fun _ s1 => s1 = s ∧
      (allow = false → ns.dev.any (fun c => c.specs.any (specOuter ns vm)) = false)) := by
  unfold checkSpecs
  split
  · exact Hoare.fail
  · next hcond =>
    refine Hoare.pure ⟨rfl, fun ha => ?_⟩
    subst ha
    simpa using hcond

theorem cloneNode_good {rec : Nat → M Nat}
    (hrec : ∀ g s, Hoare (goodL w0 allow) (rec g) s (NewId w0))
    (n : Nat) {s : St} :
    Hoare (goodL w0 allow) (cloneNode allow rec n) s (NewId w0) := by
  unfold cloneNode
  hbind Hoare.readNode with ns s1 ⟨hI1, hl1⟩ - hq1
  hbind (mapInputs_good ns.inputs s1) with ins s2 ⟨hI2, hl2⟩ - hins
  obtain ⟨rfl, hshape, hins⟩ := hins
  hbind (mapM'_good (AttrOk.stable) ns.attrs s2
    (fun ka _ s3 hI3 _ => cloneAttr_good hrec ka.1 ka.2)) with attrs s3 ⟨hI3, hl3⟩ - hattrs
  hbind (copyProps_good ns.props) with pr s4 ⟨hI4, hl4⟩ - hpr
  hbind (copyMeta_good ns.mstore) with me s5 ⟨hI5, hl5⟩ - hme
  hbind ((cloneOutputs_good ns.outputs 0 s5).andOk (fun a h => cloneOutputs_length _ _ _ a h))
    with outs s6 ⟨hI6, hl6⟩ - houts
  obtain ⟨houts, hlen⟩ := houts
  hbind Hoare.getVm with vm s7 ⟨hI7, hl7⟩ - hq7
  obtain ⟨rfl, rfl⟩ := hq7
  hbind (checkSpecs_spec allow ns s7.vm) with u0 s7' ⟨hI7', hl7'⟩ - hq7'
  obtain ⟨rfl, hno⟩ := hq7'
  have hc : CellOk w0 w0.length (s7'.w.length + 1) allow
      (.node { name := ns.name, doc := ns.doc, domain := ns.domain, opType := ns.opType,
               overload := ns.overload, version := ns.version, inputs := ins, outputs := outs,
               attrs := dictOf attrs, dev := remapDev (ioMap ns.inputs ins ns.outputs outs ++ s7'.vm) ns.dev,
               props := pr, mstore := me }) := by
    have l6 : s7'.w.length ≤ s7'.w.length + 1 := Nat.le_succ _
    have l5 := Nat.le_trans hl6 l6
    have l4 := Nat.le_trans hl5 l5
    have l3 := Nat.le_trans hl4 l4
    have l2 := Nat.le_trans hl3 l3
    refine ⟨fun v hv => In.mono (houts v hv) l6, In.mono hpr l4, In.mono hme l5, trivial, ?_, ?_, ?_, ?_⟩
    · intro ka hka
      rcases hattrs ka (mem_dictOf hka) with h | h
      · exact .inl (In.mono h l3)
      · exact .inr h
    · intro ha v hv
      exact In.mono (hins ha v hv) l2
    · intro hd
      exact devLocal_remap _ (devLocal_of_read hI1 (by exact hd) (by rw [hq1.1]; exact hq1.2)) hlen hshape
    · intro ha c hc sp hsp v hv
      rcases remap_resolved hlen hshape (hno ha) c hc sp hsp v hv with (h1 | h1) | ⟨a, h1⟩
      · exact In.mono (hins ha v h1) l2
      · exact In.mono (houts v h1) l6
      · exact In.mono (hI7'.vm _ h1) l6
  hbind (allocNode_good hc) with n' s8 ⟨hI8, hl8⟩ - hn'
  hbind (forM'_good outs s8 (fun v hv s9 hI9 hl9 =>
    setProducer_good n' v (In.mono hn' hl9) (houts v hv).1)) with u s9 ⟨hI9, hl9⟩ - hq9
  hbind (addUses_good n' hn'.1 ins 0 s9 (fun ha v hv => (hins ha v hv).1)) with u2 s10 ⟨hI10, hl10⟩ - hq10
  exact Hoare.pure (In.mono hn' (Nat.le_trans hl9 hl10))

theorem getMapped_good (v : Nat) {s : St} :
    Hoare (goodL w0 allow) (getMapped v) s (NewId w0) :=
  Hoare.getMapped.mono fun r _ ⟨hI, _⟩ _ ⟨hs, hlk⟩ => hs ▸ hI.vm (v, r) (ListFacts.mem_of_lookup (hs ▸ hlk))

/-- the ownership flags `Graph.__init__` sets do not occur in `CellOk`: for them `hf` is the identity -/
theorem setValueOwner_good (g : Nat) (f : ValueS → ValueS) (v : Nat) {s : St}
    (hf : ∀ x hi, CellOk w0 w0.length hi allow (.val x) → CellOk w0 w0.length hi allow (.val (f x)))
    (hg : In w0.length s.w.length g) (hv : w0.length ≤ v) :
    Hoare (goodL w0 allow) (setValueOwner g f v) s (fun _ _ => True) := by
  unfold setValueOwner
  hbind Hoare.readVal with vs s1 ⟨hI1, hl1⟩ - hq1
  obtain ⟨rfl, hvs⟩ := hq1
  obtain ⟨a, b, c, d, _, e⟩ := hI1.cells v _ hv hvs
  exact (setNew_good hv (hf { vs with graph := some g } _ ⟨a, b, c, d, hg, e⟩)).mono (fun _ _ _ _ _ => trivial)

theorem initEntries_good :
    ∀ (l : List Nat) (acc : List (String × Nat)) (s : St), (∀ e ∈ acc, In w0.length s.w.length e.2) → (∀ v ∈ l, In w0.length s.w.length v) →
      Hoare (goodL w0 allow) (initEntries acc l) s
        (fun r s1 => s1 = s ∧ ∀ e ∈ r, In w0.length s.w.length e.2)
  | [], acc, s, hacc, _ => by unfold initEntries; exact Hoare.pure ⟨rfl, hacc⟩
  | v :: rest, acc, s, hacc, hl => by
    unfold initEntries
    hbind Hoare.readVal with vs s1 ⟨hI1, hl1⟩ - hq1
    obtain ⟨rfl, _⟩ := hq1
    split
    · exact Hoare.fail
    · next nm _ =>
      refine initEntries_good rest _ s1 ?_ (fun x hx => hl x (List.mem_cons_of_mem _ hx))
      intro e he
      rcases mem_dictSet he with h | h
      · exact hacc e h
      · rw [h]; exact hl v List.mem_cons_self

theorem setNodeGraph_good (g n : Nat) {s : St}
    (hg : In w0.length s.w.length g) (hn : w0.length ≤ n) :
    Hoare (goodL w0 allow) (setNodeGraph g n) s (fun _ _ => True) := by
  unfold setNodeGraph
  hbind Hoare.readNode with ns s1 ⟨hI1, hl1⟩ - hq1
  obtain ⟨rfl, hns⟩ := hq1
  obtain ⟨a, b, c, _, d, e⟩ := hI1.cells n _ hn hns
  hbind (Hoare.ofQuiet (Quiet.forM' Quiet.checkNamed ns.outputs)) with u s2 ⟨hI2, hl2⟩ - hq2
  refine (setNew_good hn (c := .node { ns with graph := some g }) ?_).mono (fun _ _ _ _ _ => trivial)
  exact CellOk.mono ⟨a, b, c, hg, d, e⟩ hl2

/-- a step that may only run on new ids, applied to a list of new ids -/
theorem forNew_good {f : Nat → M Unit} (l : List Nat) {s : St}
    (hl : ∀ v ∈ l, In w0.length s.w.length v)
    (hf : ∀ v s1, Inv w0 allow s1 → s.w.length ≤ s1.w.length → In w0.length s1.w.length v →
      Hoare (goodL w0 allow) (f v) s1 (fun _ _ => True)) :
    Hoare (goodL w0 allow) (forM' f l) s (fun _ _ => True) :=
  forM'_good l s (fun v hv s1 hI1 hl1 => hf v s1 hI1 hl1 (In.mono (hl v hv) hl1))

theorem mkGraph_good (src : GraphS) (inputs outputs nodes inits : List Nat) {s : St}
    (hin : ∀ v ∈ inputs, In w0.length s.w.length v)
    (hout : ∀ v ∈ outputs, In w0.length s.w.length v)
    (hnodes : ∀ v ∈ nodes, In w0.length s.w.length v)
    (hinits : ∀ v ∈ inits, In w0.length s.w.length v) :
    Hoare (goodL w0 allow) (mkGraph src inputs outputs nodes inits) s (NewId w0) := by
  unfold mkGraph
  hbind (initEntries_good inits [] s (by simp) hinits) with entries s0 ⟨hI0, hl0⟩ - hent
  obtain ⟨rfl, hent⟩ := hent
  hbind (copyProps_good src.props) with pr s3 ⟨hI3, hl3⟩ - hpr
  hbind (copyMeta_good src.mstore) with me s4 ⟨hI4, hl4⟩ - hme
  have l4 : s0.w.length ≤ s4.w.length + 1 := Nat.le_succ_of_le (Nat.le_trans hl3 hl4)
  have hc : CellOk w0 w0.length (s4.w.length + 1) allow
      (.graph { name := src.name, doc := src.doc, inputs := inputs, outputs := outputs,
                inits := entries, nodes := nodes, opsets := src.opsets, props := pr, mstore := me }) :=
    ⟨fun v hv => (hin v hv).mono l4, fun v hv => (hout v hv).mono l4, fun e he => (hent e he).mono l4,
      fun v hv => (hnodes v hv).mono l4, In.mono hpr (Nat.le_succ_of_le hl4), In.mono hme (Nat.le_succ _)⟩
  hbind (allocNew_good hc) with g s5 ⟨hI5, hl5⟩ - hg
  have l5 : s0.w.length ≤ s5.w.length := Nat.le_trans hl3 (Nat.le_trans hl4 hl5)
  -- the checks leave the state alone; every later state is at least as long as `s5`
  hbind (Hoare.ofQuiet (Quiet.forM' (Quiet.checkInput g) inputs)) with u s6 ⟨hI6, hl6⟩ - hq6
  subst hq6
  hbind (forNew_good inputs (fun v hv => (hin v hv).mono l5)
    (fun v s' hI' hl' hv => setValueOwner_good g (fun v => { v with isIn := true }) v (fun _ _ h => h)
      (In.mono hg hl') hv.1)) with u2 s7 ⟨hI7, hl7⟩ - hq7
  hbind (Hoare.ofQuiet (Quiet.forM' (Quiet.checkOwned g) outputs)) with u4 s10 ⟨hI10, hl10⟩ - hq10
  subst hq10
  hbind (forNew_good outputs (fun v hv => (hout v hv).mono (Nat.le_trans l5 hl7))
    (fun v s' hI' hl' hv => setValueOwner_good g (fun v => { v with isOut := true }) v (fun _ _ h => h)
      (In.mono hg (Nat.le_trans hl7 hl')) hv.1)) with u5 s11 ⟨hI11, hl11⟩ - hq11
  have l11 : s6.w.length ≤ s11.w.length := Nat.le_trans hl7 hl11
  hbind (Hoare.ofQuiet (Quiet.forM' (Quiet.checkOwned g) (entries.map (fun e => e.2))))
    with u7 s15 ⟨hI15, hl15⟩ - hq15
  subst hq15
  have hent11 : ∀ v ∈ entries.map (fun e => e.2), In w0.length s15.w.length v := by
    intro v hv
    rcases List.mem_map.mp hv with ⟨e, he, rfl⟩
    exact (hent e he).mono (Nat.le_trans l5 l11)
  hbind (forNew_good (entries.map (fun e => e.2)) hent11
    (fun v s' hI' hl' hv => setValueOwner_good g (fun v => { v with isInit := true }) v (fun _ _ h => h)
      (In.mono hg (Nat.le_trans l11 hl')) hv.1)) with u8 s16 ⟨hI16, hl16⟩ - hq16
  have l16 : s6.w.length ≤ s16.w.length := Nat.le_trans l11 hl16
  hbind (Hoare.ofQuiet (Quiet.forM' Quiet.checkInitEntry entries)) with u9 s17 ⟨hI17, hl17⟩ - hq17
  subst hq17
  hbind (Hoare.ofQuiet (Quiet.forM' Quiet.checkNamed inputs)) with u11 s20 ⟨hI20, hl20⟩ - hq20
  subst hq20
  hbind (Hoare.ofQuiet (Quiet.forM' (Quiet.checkNodeFree g) nodes)) with u12 s21 ⟨hI21, hl21⟩ - hq21
  subst hq21
  hbind (forNew_good nodes (fun v hv => (hnodes v hv).mono (Nat.le_trans l5 l16))
    (fun v s' hI' hl' hv => setNodeGraph_good g v (In.mono hg (Nat.le_trans l16 hl')) hv.1))
    with u13 s22 ⟨hI22, hl22⟩ - hq22
  exact Hoare.pure (In.mono hg (Nat.le_trans l16 hl22))

theorem unUse_good {s : St} (v n : Nat) (hn : w0.length ≤ n)
    (hva : allow = false → w0.length ≤ v) :
    Hoare (goodL w0 allow) (unUse v n) s (fun _ _ => True) := by
  refine GoodAt.hoare fun hI => ?_
  unfold GoodAt unUse
  split
  · next vs hv =>
    refine ⟨hI.setUses hv ?_ hva, by simp, fun _ _ => trivial⟩
    rw [List.filter_filter]
    apply List.filter_congr
    intro u _
    by_cases hu : u.1 < w0.length
    · have : u.1 ≠ n := by omega
      simp [hu, this]
    · simp [hu]
  · exact ⟨hI, Nat.le_refl _, fun _ _ => trivial⟩

theorem unUses_good (n : Nat) (hn : w0.length ≤ n) :
    ∀ (l : List (Option Nat)) (s : St), (allow = false → ∀ v, some v ∈ l → w0.length ≤ v) →
      Hoare (goodL w0 allow) (unUses n l) s (fun _ _ => True)
  | [], s, _ => Hoare.pure trivial
  | none :: rest, s, hl => by
    unfold unUses
    exact unUses_good n hn rest s (fun ha v hv => hl ha v (List.mem_cons_of_mem _ hv))
  | some v :: rest, s, hl => by
    unfold unUses
    hbind (unUse_good v n hn (fun ha => hl ha v List.mem_cons_self)) with u s1 ⟨hI1, hl1⟩ - hq1
    exact unUses_good n hn rest s1 (fun ha v hv => hl ha v (List.mem_cons_of_mem _ hv))

theorem detachNode_good {s : St} (n : Nat) (hn : w0.length ≤ n) :
    Hoare (goodL w0 allow) (detachNode n) s (fun _ _ => True) := by
  unfold detachNode
  hbind Hoare.readNode with ns s1 ⟨hI1, hl1⟩ - hq1
  obtain ⟨rfl, hns⟩ := hq1
  have hin := (hI1.cells n _ hn hns).node_inputs
  hbind (unUses_good n hn ns.inputs s1 (fun ha v hv => (hin ha v hv).1)) with u s2 ⟨hI2, hl2⟩ - hq2
  hbind Hoare.readNode with ns2 s3 ⟨hI3, hl3⟩ - hq3
  obtain ⟨rfl, hns2⟩ := hq3
  obtain ⟨a, b, c, d, e, _, f2, f3⟩ := hI3.cells n _ hn hns2
  refine (setNew_good hn (c := .node { ns2 with inputs := ns2.inputs.map (fun _ => none), dev := _ })
    ⟨a, b, c, d, e, ?_, ?_, ?_⟩).mono (fun _ _ _ _ _ => trivial)
  rotate_left 2
  · intro ha c' hc' sp hsp v hv
    simp only [List.mem_map] at hc'
    obtain ⟨c0, hc0, rfl⟩ := hc'
    simp only [List.mem_filter] at hsp
    exact f3 ha c0 hc0 sp hsp.1 v hv
  · intro _ v hv
    simp at hv
  · intro hd c' hc' sp hsp v hv
    right
    simp only [List.mem_map] at hc'
    obtain ⟨c0, hc0, rfl⟩ := hc'
    simp only [List.mem_filter] at hsp
    obtain ⟨hsp0, hkeep⟩ := hsp
    rw [hv] at hkeep
    have hloc := f2 hd c0 hc0 sp hsp0 v hv
    rcases hloc with h1 | h1
    · rcases (by simpa using hkeep : ¬ some v ∈ ns2.inputs ∨ v ∈ ns2.outputs) with h2 | h2
      · exact absurd h1 h2
      · exact h2
    · exact h1

theorem guarded_good {body : M Nat} {Q : Nat → St → Prop} {s : St}
    (hb : Hoare (goodL w0 allow) body s Q) : Hoare (goodL w0 allow) (guarded body) s Q := by
  refine hb.guarded fun s' _ ⟨h1, h2⟩ => ?_
  obtain ⟨d1, d2, _⟩ := (forM'_good (w0 := w0) (allow := allow) (f := detachNode)
    (s'.created.drop s.created.length) s'
    (fun n hn s1 hI1 _ => detachNode_good n (h1.created n (List.mem_of_mem_drop hn)).1)).good h1
  exact ⟨⟨d1.len, d1.old, d1.vm, d1.cells, d1.oldEq, fun n hn => d1.created n (List.mem_of_mem_take hn)⟩,
    Nat.le_trans h2 d2⟩

theorem cloneGraphStep_good {rec : Nat → M Nat}
    (hrec : ∀ g s, Hoare (goodL w0 allow) (rec g) s (NewId w0))
    (g : Nat) {s : St} :
    Hoare (goodL w0 allow) (cloneGraphStep allow rec g) s (NewId w0) := by
  unfold cloneGraphStep
  hbind Hoare.readGraph with gs s1 ⟨hI1, hl1⟩ - hq1
  hbind (mapM'_good NewId.stable gs.inputs s1 (fun v _ s2 hI2 _ => cloneOrGetValue_good v))
    with inputs s2 ⟨hI2, hl2⟩ - hin
  hbind (mapM'_good NewId.stable (gs.inits.map (·.2)) s2 (fun v _ s3 hI3 _ => cloneOrGetValue_good v))
    with inits s3a ⟨hI3a, hl3a⟩ - hinits
  hbind (Hoare.ofQuiet (Quiet.allOutputs gs.nodes)) with pouts s3b ⟨hI3b, hl3b⟩ - hq3b
  subst hq3b
  hbind (pendAdd_good pouts) with u0 s3 ⟨hI3, hl3⟩ - hq3
  hbind (mapM'_good NewId.stable gs.nodes s3 (fun n _ s4 hI4 _ => cloneNode_good hrec n))
    with nodes s4 ⟨hI4, hl4⟩ - hnodes
  hbind (mapM'_good NewId.stable gs.outputs s4 (fun v _ s5 hI5 _ => getMapped_good v))
    with outputs s5 ⟨hI5, hl5⟩ - hout
  exact mkGraph_good gs inputs outputs nodes inits
    (fun v hv => In.mono (hin v hv) (by omega)) hout
    (fun v hv => In.mono (hnodes v hv) (by omega)) (fun v hv => In.mono (hinits v hv) (by omega))

theorem cloneGraph_good : ∀ (fuel g : Nat) (s : St), Hoare (goodL w0 allow) (cloneGraph allow fuel g) s (NewId w0)
  | 0, _, _ => Hoare.fail
  | f + 1, g, _ =>
    guarded_good (cloneGraphStep_good (fun g' s' => cloneGraph_good f g' s') g)

theorem withFreshMap_good {m : M α} {Q : α → St → Prop} {s : St}
    (hm : Hoare (goodL w0 allow) m { s with vm := [], pend := [], created := [] } Q)
    (hQ : ∀ a s1 vm pd cr, Q a s1 → Q a { s1 with vm := vm, pend := pd, created := cr }) :
    Hoare (goodL w0 allow) (withFreshMap m) s Q := by
  refine GoodAt.hoare fun hI => ?_
  have hI0 : Inv w0 allow { s with vm := [], pend := [], created := [] } :=
    ⟨hI.len, hI.old, by simp, hI.cells, hI.oldEq, by simp⟩
  obtain ⟨h1, h2, h3⟩ := hm.good hI0
  unfold GoodAt withFreshMap
  rcases hms : m { s with vm := [], pend := [], created := [] } with ⟨r, s'⟩
  rw [hms] at h1 h2 h3
  refine ⟨⟨h1.len, h1.old, ?_, h1.cells, h1.oldEq, ?_⟩, h2, ?_⟩
  · intro p hp
    exact In.mono (hI.vm p hp) h2
  · intro n hn
    exact In.mono (hI.created n hn) h2
  · intro a ha
    exact hQ a s' s.vm s.pend s.created (h3 a ha)

theorem graphClone_good (fuel : Nat) (g : Nat) {s : St} (hI : Inv w0 allow s) :
    GoodAt w0 allow (graphClone fuel allow g) s (NewId w0) :=
  (withFreshMap_good (cloneGraph_good fuel g _) (fun _ _ _ _ _ h => h)).good hI

end

theorem Inv.init (w : World) (allow : Bool) : Inv w allow { w := w } :=
  ⟨Nat.le_refl _, fun _ c0 h => ⟨c0, h, OldSame.refl _ _⟩, by simp,
    fun i c hi hc => by
      have hn : w[i]? = none := List.getElem?_eq_none hi
      rw [hn] at hc
      exact absurd hc (by simp),
    fun _ _ _ h => h, by simp⟩

theorem funcClone_good {w0 : World} (fuel : Nat) (f : Nat) {s : St} (hI : Inv w0 false s) :
    GoodAt w0 false (funcClone fuel f) s (NewId w0) := by
  refine (withFreshMap_good ?_ (fun _ _ _ _ _ h => h)).good hI
  hbind Hoare.readFunc with fs s2 ⟨hI2, hl2⟩ - hq2
  hbind (cloneGraph_good fuel fs.graph s2) with g' s3 ⟨hI3, hl3⟩ - hg'
  hbind (mapM'_good (AttrOk.stable) fs.attrs s3 (fun ka _ s4 hI4 _ => by
    hbind Hoare.readAttr with as s5 ⟨hI5, hl5⟩ - hq5
    exact cloneAttr_good (fun g s => cloneGraph_good fuel g s) as.name ka.2))
    with attrs s4 ⟨hI4, hl4⟩ - hattrs
  refine allocNew_good ⟨In.mono hg' (by omega), ?_⟩
  intro ka hka
  rcases hattrs ka (mem_dictOf hka) with h | h
  · exact .inl (In.mono h (by omega))
  · exact .inr h

theorem modelClone_good {w0 : World} (fuel : Nat) (m : Nat) {s : St} (hI : Inv w0 false s) :
    GoodAt w0 false (modelClone fuel m) s (NewId w0) := by
  refine Hoare.good ?_ hI
  unfold modelClone
  hbind Hoare.readModel with ms s1 ⟨hI1, hl1⟩ - hq1
  hbind (GoodAt.hoare (graphClone_good fuel ms.graph)) with g' s2 ⟨hI2, hl2⟩ - hg'
  hbind (mapM'_good NewId.stable ms.funcs s2 (fun f _ s3 hI3 _ => GoodAt.hoare (funcClone_good fuel f)))
    with fs s3 ⟨hI3, hl3⟩ - hfs
  hbind (copyProps_good ms.props) with pr s4 ⟨hI4, hl4⟩ - hpr
  hbind (allocNew_good (by trivial)) with me s5 ⟨hI5, hl5⟩ - hme
  exact allocNew_good ⟨In.mono hg' (by omega), fun f hf => In.mono (hfs f hf) (by omega),
    In.mono hpr (by omega), In.mono hme (by omega)⟩


/-- the heap after a clone: the part before `w.length` is the pre-existing world -/
structure CloneResult (w : World) (allow : Bool) (w' : World) : Prop where
  grows : w.length ≤ w'.length
  /-- pre-existing cells keep their content; only the usage list of a value may gain records
      of new nodes -/
  old : ∀ (i : Nat) (c0 : Cell), w[i]? = some c0 → ∃ c, w'[i]? = some c ∧ OldSame w.length c0 c
  /-- and nothing at all changes when outer-scope values are not allowed -/
  oldEq : allow = false → ∀ (i : Nat) (c0 : Cell), w[i]? = some c0 → w'[i]? = some c0
  /-- every new cell refers only to new cells -/
  cells : ∀ (i : Nat) (c : Cell), w.length ≤ i → w'[i]? = some c → CellOk w w.length w'.length allow c

theorem CloneResult.of_good {w : World} {allow : Bool} {m : M Nat}
    (hm : ∀ s, Inv w allow s → GoodAt w allow m s (NewId w)) {r : Except Err Nat} {w' : World}
    (h : run m w = (r, w')) :
    CloneResult w allow w' ∧ ∀ g', r = .ok g' → w.length ≤ g' ∧ g' < w'.length := by
  obtain ⟨hI, _, hq⟩ := hm _ (Inv.init w allow)
  unfold run at h
  rcases hms : m { w := w } with ⟨r1, s1⟩
  rw [hms] at hI hq h
  simp only [Prod.mk.injEq] at h
  obtain ⟨rfl, rfl⟩ := h
  exact ⟨⟨hI.len, hI.old, hI.oldEq, hI.cells⟩, fun g' hg' => hq g' hg'⟩

theorem graphClone_result {w w' : World} {fuel g : Nat} {allow : Bool} {r : Except Err Nat}
    (h : run (graphClone fuel allow g) w = (r, w')) :
    CloneResult w allow w' ∧ ∀ g', r = .ok g' → w.length ≤ g' ∧ g' < w'.length :=
  CloneResult.of_good (fun s hI => graphClone_good fuel g hI) h

theorem funcClone_result {w w' : World} {fuel f : Nat} {r : Except Err Nat}
    (h : run (funcClone fuel f) w = (r, w')) :
    CloneResult w false w' ∧ ∀ f', r = .ok f' → w.length ≤ f' ∧ f' < w'.length :=
  CloneResult.of_good (fun s hI => funcClone_good fuel f hI) h

theorem modelClone_result {w w' : World} {fuel m : Nat} {r : Except Err Nat}
    (h : run (modelClone fuel m) w = (r, w')) :
    CloneResult w false w' ∧ ∀ m', r = .ok m' → w.length ≤ m' ∧ m' < w'.length :=
  CloneResult.of_good (fun s hI => modelClone_good fuel m hI) h

theorem cellOk_attr {w0 : World} {lo hi : Nat} {allow : Bool} {as : AttrS}
    (h : CellOk w0 lo hi allow (.attr as)) {j : Nat}
    (hj : as.v = .graph j ∨ ∃ gs, as.v = .graphs gs ∧ j ∈ gs) : In lo hi j := by
  obtain ⟨nm, doc, v⟩ := as
  rcases hj with hj | ⟨gs, hj, hm⟩
  · simp only at hj; subst hj; exact h
  · simp only at hj; subst hj; exact h j hm

theorem old_attr_same {w w' : World} {allow : Bool} (h : CloneResult w allow w') {a : Nat}
    (hs : SharedAttr w a) : ∃ as, w'[a]? = some (.attr as) ∧ as.v.isGraphy = false := by
  obtain ⟨as, h0, hg⟩ := hs
  obtain ⟨c, h1, h2⟩ := h.old a _ h0
  rw [eraseUses_other h2.1 (by intro v hv; cases hv)] at h1
  exact ⟨_, h1, hg⟩

theorem CloneResult.old_eq {w w' : World} (hres : CloneResult w false w') {i : Nat} (hi : i < w.length) :
    w'[i]? = w[i]? := by
  rw [hres.oldEq rfl i _ (List.getElem?_eq_getElem hi), List.getElem?_eq_getElem hi]

theorem closed_sharding_of_result {w w' : World} {allow : Bool} (hd : devLocalW w = true)
    (hres : CloneResult w allow w') {i : Nat} (hin : In w.length w'.length i) :
    ∀ n, w'[i]? = some (.node n) → ∀ c ∈ n.dev, ∀ sp ∈ c.specs, ∀ v, sp.value = some v →
      (some v ∈ n.inputs ∨ v ∈ n.outputs) ∧ (allow = false → w.length ≤ v ∧ v < w'.length) := by
  intro n hn c hc sp hsp v hv
  have hok := hres.cells i _ hin.1 hn
  have hl := hok.node_devLocal hd c hc sp hsp v hv
  refine ⟨hl, fun ha => ?_⟩
  rcases hl with h1 | h1
  · exact hok.node_inputs ha v h1
  · exact hok.node_outputs v h1

end IrVerif.Clone
