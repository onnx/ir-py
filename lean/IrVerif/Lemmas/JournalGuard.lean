import IrVerif.Lemmas.Journal
/-!
C20: the wrappers with the `journal._active` check everywhere (`dispatchG`, `runBlockG`, `runFlatG`).  The invariant
"every wrapper installed in the class table belongs to an active journal" and the equality of the checked and the
unchecked semantics wherever it holds; and what holds of the checked wrappers in ANY world: a journal that is not active
receives no entry, whatever wrappers of it are still installed or kept.  Core Lean only.
-/
namespace IrVerif.Journal

variable {σ : Type}

/-- every wrapper installed in the class table (every layer of every slot) was made by a journal that is active -/
def TableActive (w : World σ) : Prop := ∀ k, ∀ j ∈ (w.table k).layers, (w.journals j).active = true

theorem tableActive_stable : Stable (TableActive (σ := σ)) where
  put := fun _ _ h => h
  emit := fun _ _ h => h
  record := fun w j k t h k' i hi => by rw [record_active]; exact h k' i hi

theorem TableActive.of_ctl {w w' : World σ} (ht : w'.table = w.table)
    (ha : ∀ i, (w'.journals i).active = (w.journals i).active) (h : TableActive w) : TableActive w' := by
  intro k j hj
  rw [ht] at hj
  rw [ha j]
  exact h k j hj

theorem TableActive.of_sameCtl {w w' : World σ} (h : SameCtl w w') (ht : TableActive w) : TableActive w' :=
  ht.of_ctl h.table h.active

theorem tableActive_pristine (w : World σ) (h : w.table = pristine) : TableActive w := by
  intro k j hj
  rw [h] at hj
  simp [pristine, Impl.layers] at hj

theorem tableActive_enterRaw (j : Nat) (w : World σ) (h : TableActive w) : TableActive (enterRaw j w) := by
  intro k i hi
  by_cases hij : i = j
  · subst hij; simp [enterRaw, upd]
  · rw [enterRaw_other j i w hij]
    have hi' : i ∈ (Impl.wrap j k (w.table k)).layers := hi
    simp only [Impl.layers, List.mem_cons] at hi'
    rcases hi' with h1 | h1
    · exact absurd h1 hij
    · exact h k i h1

theorem runProg_congr {I : World σ → Prop} (hI : Stable I)
    {d d' : Nat → Obj → Val → World σ → World σ × Outcome}
    (hd : ∀ s o a w, I w → d' s o a w = d s o a w) (hdI : ∀ s o a w, I w → I (d s o a w).1) :
    ∀ (p : Prog σ) (w : World σ), I w → runProg d' p w = runProg d p w := by
  intro p
  induction p with
  | done o => intro w _; rfl
  | get k ih => intro w h; simp only [runProg]; exact ih _ w h
  | put s k ih => intro w h; simp only [runProg]; exact ih _ (hI.put w s h)
  | call slot self arg k ih =>
    intro w h
    simp only [runProg]
    rw [hd slot self arg w h]
    exact ih _ _ (hdI slot self arg w h)

theorem runOrig_congr {I : World σ → Prop} (hI : Stable I) (cfg : Cfg σ)
    {d d' : Nat → Obj → Val → World σ → World σ × Outcome}
    (hd : ∀ s o a w, I w → d' s o a w = d s o a w) (hdI : ∀ s o a w, I w → I (d s o a w).1) :
    ∀ k s a w, I w → runOrig cfg d' k s a w = runOrig cfg d k s a w := by
  intro k s a w h
  simp only [runOrig]
  rw [runProg_congr hI hd hdI _ _ (hI.emit _ _ h)]

theorem runImplGuarded_congr {I : World σ → Prop} (hI : Stable I) (cfg : Cfg σ)
    {body body' : Nat → Obj → Val → World σ → World σ × Outcome}
    (hb : ∀ k s a w, I w → body' k s a w = body k s a w) :
    ∀ (impl : Impl) (s : Obj) (a : Val) (w : World σ), I w →
      runImplGuarded cfg body' impl s a w = runImplGuarded cfg body impl s a w
  | .orig k, s, a, w, hw => hb k s a w hw
  | .wrap j k inner, s, a, w, hw => by
    have ih := fun w' hw' => runImplGuarded_congr hI cfg hb inner s a w' hw'
    rw [runImplGuarded_wrap, runImplGuarded_wrap, ih w hw, wrapU_congr cfg j k hI.put ih s a w hw]

/-- the checked wrapper chain is the unchecked one wherever its journals are active -/
theorem runImplGuarded_eq_inv {I : World σ → Prop} (hI : Stable I) (cfg : Cfg σ)
    {body bodyG : Nat → Obj → Val → World σ → World σ × Outcome}
    (hb : ∀ k s a w, I w → bodyG k s a w = body k s a w)
    (hbI : ∀ k s a w, I w → I (body k s a w).1) :
    ∀ (impl : Impl) (s : Obj) (a : Val) (w : World σ), I w →
      (∀ w', I w' → ∀ j ∈ impl.layers, (w'.journals j).active = true) →
      runImplGuarded cfg bodyG impl s a w = runImpl cfg body impl s a w
  | .orig k, s, a, w, hw, _ => hb k s a w hw
  | .wrap j k inner, s, a, w, hw, hact => by
    have hin : ∀ w', I w' → ∀ i ∈ inner.layers, (w'.journals i).active = true :=
      fun w' hw' i hi => hact w' hw' i (by simp [Impl.layers, hi])
    have ih : ∀ w', I w' → runImplGuarded cfg bodyG inner s a w' = runImpl cfg body inner s a w' :=
      fun w' hw' => runImplGuarded_eq_inv hI cfg hb hbI inner s a w' hw' hin
    rw [runImplGuarded_wrap, runImpl_wrap, if_pos]
    · -- both run the same wrapper over functions that agree on the worlds of `I`
      exact wrapU_congr cfg j k hI.put ih s a w hw
    · split
      · rw [ih w hw]; exact hact _ (runImpl_stable hI cfg hbI inner s a w hw) j (by simp [Impl.layers])
      · exact hact w hw j (by simp [Impl.layers])

/-- every layer active: the case for everything reachable through the class table of a properly nested history -/
theorem runImplGuarded_eq_of_active (cfg : Cfg σ)
    {body : Nat → Obj → Val → World σ → World σ × Outcome}
    (hb : ∀ k s a w, SameCtl w (body k s a w).1)
    (impl : Impl) (s : Obj) (a : Val) (w : World σ) (hact : ∀ j ∈ impl.layers, (w.journals j).active = true) :
    runImplGuarded cfg body impl s a w = runImpl cfg body impl s a w :=
  runImplGuarded_eq_inv (sameCtl_stable w) cfg (fun _ _ _ _ _ => rfl) (fun k s a w' h => h.trans (hb k s a w'))
    impl s a w (SameCtl.refl w) (fun w' h' j hj => by rw [h'.active j]; exact hact j hj)

/-- all journals of the chain INACTIVE: the original runs on the same world (no `details` evaluation, no entry) -/
theorem runImplGuarded_inactive (cfg : Cfg σ) {body : Nat → Obj → Val → World σ → World σ × Outcome}
    (hb : ∀ k s a w, SameCtl w (body k s a w).1) :
    ∀ (impl : Impl) (s : Obj) (a : Val) (w : World σ), (∀ j ∈ impl.layers, (w.journals j).active = false) →
      (runImplGuarded cfg body impl s a w).1 = (body impl.base s a w).1 ∧
      isRet (runImplGuarded cfg body impl s a w).2 = isRet (body impl.base s a w).2
  | .orig k, s, a, w, _ => ⟨rfl, rfl⟩
  | .wrap j k inner, s, a, w, hact => by
    obtain ⟨h1, h2⟩ := runImplGuarded_inactive cfg hb inner s a w (fun i hi => hact i (by simp [Impl.layers, hi]))
    rw [runImplGuarded_stale cfg hb j k inner s a w (hact j (by simp [Impl.layers]))]
    exact ⟨h1, (fwd_isRet k _).trans h2⟩

/-- **the link**: with every installed wrapper active, the checked lookup does what the unchecked one does - the call
    itself and, recursively, every nested instrumented call -/
theorem dispatchG_eq (cfg : Cfg σ) : ∀ (f slot : Nat) (s : Obj) (a : Val) (w : World σ), TableActive w →
    dispatchG cfg f slot s a w = dispatch cfg f slot s a w := by
  intro f
  induction f with
  | zero => intro slot s a w _; rfl
  | succ f ih =>
    intro slot s a w ht
    simp only [dispatchG, dispatch]
    refine runImplGuarded_eq_inv (sameCtl_stable w) cfg ?_ ?_ (w.table slot) s a w (SameCtl.refl w) ?_
    · intro k s' a' w' h'
      exact runOrig_congr tableActive_stable cfg ih
        (fun s o a w h => dispatch_stable tableActive_stable cfg f s o a w h) k s' a' w'
        (TableActive.of_sameCtl h' ht)
    · intro k s' a' w' h'
      exact runOrig_stable (sameCtl_stable w) cfg
        (fun s o a w'' h => dispatch_stable (sameCtl_stable w) cfg f s o a w'' h) k s' a' w' h'
    · intro w' h' j hj
      rw [h'.active j]
      exact ht slot j hj

theorem runProgG_eq (cfg : Cfg σ) (f : Nat) (p : Prog σ) (w : World σ) (ht : TableActive w) :
    runProg (dispatchG cfg f) p w = runProg (dispatch cfg f) p w :=
  runProg_congr tableActive_stable (dispatchG_eq cfg f)
    (fun s o a w h => dispatch_stable tableActive_stable cfg f s o a w h) p w ht

/-- a kept callable: with the table's wrappers all active, the nested lookups of the checked code are those of
    `callCapturedGuarded` (which `C20_captured_after_exit_guarded` and its companions are about) -/
theorem callCapturedG_eq (cfg : Cfg σ) (f : Nat) (c : Captured) (arg : Val) (w : World σ) (ht : TableActive w) :
    callCapturedG cfg f c arg w = callCapturedGuarded cfg f c arg w := by
  cases f with
  | zero => rfl
  | succ f =>
    refine runImplGuarded_congr (sameCtl_stable w) cfg (fun k s a w' h' => ?_) c.impl c.self arg w (SameCtl.refl w)
    exact runOrig_congr tableActive_stable cfg (dispatchG_eq cfg f)
      (fun s o a w h => dispatch_stable tableActive_stable cfg f s o a w h) k s a w'
      (TableActive.of_sameCtl h' ht)

theorem tableActive_block (cfg : Cfg σ) (fuel : Nat) (b : Block σ) (w : World σ) (h : TableActive w) :
    TableActive (runBlock cfg fuel b w).1 := by
  intro k j hj
  rw [(block_restore cfg fuel b w).1] at hj
  rw [(block_restore cfg fuel b w).2.2 j]
  exact h k j hj

theorem runBlockG_eq (cfg : Cfg σ) (fuel : Nat) : ∀ (b : Block σ) (w : World σ), TableActive w →
    runBlockG cfg fuel b w = runBlock cfg fuel b w := by
  intro b
  induction b with
  | skip => intro w _; rfl
  | op p => intro w h; simp only [runBlockG, runBlock]; rw [runProgG_eq cfg fuel p w h]
  | seq a b iha ihb =>
    intro w h
    simp only [runBlockG, runBlock]
    rw [iha w h]
    split
    · exact ihb _ (tableActive_block cfg fuel a w h)
    · rfl
  | withJ j body ih =>
    intro w h
    simp only [runBlockG, runBlock]
    cases hj : (w.journals j).active with
    | true => simp [enter, hj]
    | false =>
      simp only [enter, hj, Bool.false_eq_true, if_false]
      rw [ih (enterRaw j w) (tableActive_enterRaw j w h)]
  | attempt body ih =>
    intro w h
    simp only [runBlockG, runBlock]
    rw [ih w h]

/-- at EVERY prefix of a properly nested word.  Past the exit of a closed block the world has the table and the flags
    it had before the block (`restore_WB`), so the invariant there is the one before it. -/
theorem guard_WB (cfg : Cfg σ) (fuel : Nat) {u : List (FEv σ)} (hu : WB u) :
    ∀ (w : World σ), (∀ j ∈ flatEnters u, (w.journals j).active = false) → TableActive w →
      ∀ u1 u2, u = u1 ++ u2 →
        runFlatBy (dispatchG cfg fuel) u1 w = runFlatBy (dispatch cfg fuel) u1 w ∧
          TableActive (runFlatBy (dispatch cfg fuel) u1 w) := by
  induction hu with
  | nil =>
    intro w _ h0 u1 u2 e
    obtain ⟨rfl, -⟩ := List.append_eq_nil_iff.mp e.symm
    exact ⟨rfl, h0⟩
  | @op p r _ ih =>
    intro w hf h0 u1 u2 e
    cases u1 with
    | nil => exact ⟨rfl, h0⟩
    | cons e' u1' =>
      simp only [List.cons_append, List.cons.injEq] at e
      obtain ⟨rfl, hr⟩ := e
      have hc := runProg_frame cfg fuel p w
      simp only [runFlatBy]
      rw [runProgG_eq cfg fuel p w h0]
      exact ih { (runProg (dispatch cfg fuel) p w).1 with
          log := (runProg (dispatch cfg fuel) p w).1.log ++ [(runProg (dispatch cfg fuel) p w).2] }
        (fun j hj' => (hc.active j).trans (hf j hj')) (TableActive.of_ctl hc.table hc.active h0) u1' u2 hr
  | @block j x a b ha hja hb iha ihb =>
    intro w hf h0 u1 u2 e
    have hj : (w.journals j).active = false := hf j (by simp [flatEnters])
    have hen := enter_of_inactive j w hj
    have hfa : ∀ i ∈ flatEnters a, ((enterRaw j w).journals i).active = false := fun i hi => by
      rw [enterRaw_other j i w (fun e => hja (e ▸ hi))]; exact hf i (by simp [flatEnters, flatEnters_append, hi])
    have h1 := tableActive_enterRaw j w h0
    cases u1 with
    | nil => exact ⟨rfl, h0⟩
    | cons e' u1' =>
      simp only [List.cons_append, List.cons.injEq] at e
      obtain ⟨rfl, hr⟩ := e
      simp only [runFlatBy, hen, Option.getD_some]
      rcases List.append_eq_append_iff.mp hr with ⟨c, hc, hc'⟩ | ⟨c, hc, -⟩
      · cases c with
        | nil => exact iha _ hfa h1 u1' [] (by simpa using hc.symm)
        | cons e'' c' =>
          simp only [List.cons_append, List.cons.injEq] at hc'
          obtain ⟨rfl, hb'⟩ := hc'
          subst hc
          have e2 : runFlatBy (dispatch cfg fuel) (.enter j :: a ++ [.exit j x]) w =
              exit j (runFlatBy (dispatch cfg fuel) a (enterRaw j w)) := by
            simp only [List.cons_append, runFlatBy, hen, Option.getD_some, runFlatBy_append]
          obtain ⟨hta, -, haa⟩ := restore_WB (runProg_frame cfg fuel) (WB.block j x ha hja WB.nil) w
            (fun i hi => hf i (by
              simp only [List.cons_append, flatEnters, flatEnters_append, List.append_nil, List.mem_cons,
                List.mem_append] at hi ⊢
              rcases hi with hi | hi
              · exact Or.inl hi
              · exact Or.inr (Or.inl hi)))
          rw [e2] at hta haa
          simp only [runFlatBy_append, runFlatBy]
          rw [(iha _ hfa h1 a [] (by simp)).1]
          exact ihb _ (fun i hi => by rw [haa i]; exact hf i (by simp [flatEnters, flatEnters_append, hi]))
            (TableActive.of_ctl hta haa h0) c' u2 hb'
      · exact iha _ hfa h1 u1' c hc

def Silent (j : Nat) (E : List Entry) (w : World σ) : Prop :=
  (w.journals j).active = false ∧ (w.journals j).entries = E

theorem silent_record (j : Nat) (E : List Entry) (i k t : Nat) (w : World σ) (hij : i ≠ j)
    (h : Silent j E w) : Silent j E (record i k t w) := by
  unfold Silent; rw [record_other i k t j w (fun e => hij e.symm)]; exact h

/-- `record i` happens behind a test of `i`'s flag in a `Silent` world: `i` is not the inactive `j` -/
theorem dispatchG_silent (cfg : Cfg σ) (j : Nat) (E : List Entry) :
    ∀ (f slot : Nat) (s : Obj) (a : Val) (w : World σ), Silent j E w →
      Silent j E (dispatchG cfg f slot s a w).1 :=
  dispatchG_pres cfg (fun _ _ h => h) (fun _ _ h => h)
    (fun i w0 h0 ha w k t h => silent_record j E i k t w (fun e => by rw [e, h0.1] at ha; cases ha) h)

theorem runFlatG_silent (cfg : Cfg σ) (fuel j : Nat) (E : List Entry) (u : List (FEv σ)) (w : World σ)
    (hu : j ∉ flatEnters u) (h : Silent j E w) : Silent j E (runFlatG cfg fuel u w) := by
  rw [runFlatG_eq_by]
  refine runFlatBy_pres (fun p w h => runProg_pres (fun _ _ h => h) (dispatchG_silent cfg j E fuel) p w h) u w
    (fun i hi w h _ => ?_) (fun i _ w h => ⟨?_, by rw [exit_entries]; exact h.2⟩) h
  · unfold Silent; rw [enterRaw_other i j w (fun e => hu (e ▸ hi))]; exact h
  · by_cases hij : j = i
    · subst hij
      simp only [exit]
      split
      · exact h.1
      · simp [upd]
    · rw [exit_other i j w hij]; exact h.1

end IrVerif.Journal
