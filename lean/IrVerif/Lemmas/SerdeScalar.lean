import IrVerif.Model.SerdeScalar
/-!
Lemmas for the typed scalar level of C02 (`IrVerif/Model/SerdeScalar.lean`): dimensions and shapes
with int64 range, INT / FLOAT / STRING attribute payloads, float32 <-> double conversion on bit
patterns (all float32 patterns, by case analysis on the sign / exponent / mantissa digits), UTF-8.
-/
namespace IrVerif.Serde
open IrVerif.Proto

/-! ## dimensions -/

theorem normDen_getD (o : Option String) : (normDen o).getD "" = o.getD "" := by
  cases o with
  | none => rfl
  | some s =>
    simp only [normDen]
    split
    · rename_i h; simp only [Option.getD]; exact (String.isEmpty_iff.mp h).symm
    · rfl

theorem normDen_idem (o : Option String) : normDen (normDen o) = normDen o := by
  cases o with
  | none => rfl
  | some s =>
    by_cases h : s.isEmpty = true <;> simp [normDen, h]

/-- proto -> IR -> proto on one dimension -/
theorem serDimC_desDimF (d : DimF) (h : wfDimF d = true) : serDimC (desDimF d) = .ok (normDimF d) := by
  obtain ⟨v, den⟩ := d
  cases v with
  | unset => rfl
  | param s => rfl
  | value v =>
    simp only [wfDimF] at h
    simp [serDimC, desDimF, desDimVal, h, normDimF]

/-- IR -> proto: ok exactly in the int64 range, ValueError outside -/
theorem serDimC_ok_iff (d : IRDimF) : (∃ r, serDimC d = .ok r) ↔ irShapeInRange [d] = true := by
  obtain ⟨dim, den⟩ := d
  cases dim with
  | int v =>
    by_cases h : inInt64 v = true
    · simp [serDimC, irShapeInRange, h]
    · simp [serDimC, irShapeInRange, h]
  | sym s => cases s <;> simp [serDimC, irShapeInRange]

theorem serDimC_error (d : IRDimF) (h : irShapeInRange [d] = false) : serDimC d = .error "ValueError" := by
  obtain ⟨dim, den⟩ := d
  cases dim with
  | int v =>
    have : inInt64 v = false := by simpa [irShapeInRange] using h
    simp [serDimC, this]
  | sym s => simp [irShapeInRange] at h

/-- IR -> proto -> IR: the dimension comes back, the denotation normalised (`None` for "") -/
theorem desDimF_serDimC (d : IRDimF) (r : DimF) (h : serDimC d = .ok r) :
    desDimF r = ⟨d.dim, normDen d.den⟩ ∧ wfDimF r = true := by
  obtain ⟨dim, den⟩ := d
  cases dim with
  | int v =>
    by_cases hv : inInt64 v = true
    · simp only [serDimC, hv, if_true, Except.ok.injEq] at h
      subst h; exact ⟨rfl, hv⟩
    · simp [serDimC, hv] at h
  | sym s =>
    cases s with
    | none => simp only [serDimC, Except.ok.injEq] at h; subst h; exact ⟨rfl, rfl⟩
    | some s => simp only [serDimC, Except.ok.injEq] at h; subst h; exact ⟨rfl, rfl⟩

/-- agreement with the unchecked model of `Model/Serde.lean` once presence bits are forgotten -/
theorem toP_normDimF (d : DimF) : (normDimF d).toP = serDim (desDim d.toP) := by
  obtain ⟨v, den⟩ := d
  simp only [normDimF, DimF.toP, serDim, desDim, normDen_getD]
  cases v <;> rfl

theorem toPair_desDimF (d : DimF) : (desDimF d).toPair = desDim d.toP := rfl

/-- proto -> IR -> proto on one dimension, field by field: the selected member of the `value` oneof
and its payload, the denotation (as a string; its presence bit unless the string is empty), and the
agreement with the unchecked `serDim (desDim _)` of `Model/Serde.lean` -/
theorem dim_fields (d : DimF) (h : wfDimF d = true) :
    ∃ r, serDimC (desDimF d) = .ok r ∧ r.val = d.val ∧ r.den = normDen d.den ∧
      r.den.getD "" = d.den.getD "" ∧ (d.den ≠ some "" → r.den = d.den) ∧
      r.toP = serDim (desDim d.toP) ∧ r.toP = d.toP := by
  refine ⟨normDimF d, serDimC_desDimF d h, rfl, rfl, normDen_getD d.den, ?_, toP_normDimF d, ?_⟩
  · intro hne
    simp only [normDimF]
    cases hd : d.den with
    | none => rfl
    | some s =>
      have : s ≠ "" := fun e => hne (by rw [hd, e])
      simp [normDen, this]
  · simp only [DimF.toP, normDimF, normDen_getD]

theorem serShapeC_desShapeF (s : ShapeF) (h : s.all wfDimF = true) :
    serShapeC (desShapeF s) = .ok (s.map normDimF) := by
  induction s with
  | nil => rfl
  | cons d ds ih =>
    simp only [List.all_cons, Bool.and_eq_true] at h
    have ih' := ih h.2
    simp only [desShapeF] at ih'
    simp [desShapeF, serShapeC, serDimC_desDimF d h.1, ih', bind, Except.bind]

theorem serShapeC_ok_iff (s : IRShapeF) : (∃ r, serShapeC s = .ok r) ↔ irShapeInRange s = true := by
  induction s with
  | nil => simp [serShapeC, irShapeInRange]
  | cons d ds ih =>
    have hsplit : irShapeInRange (d :: ds) = (irShapeInRange [d] && irShapeInRange ds) := by
      simp [irShapeInRange]
    rw [hsplit, Bool.and_eq_true, ← ih, ← serDimC_ok_iff]
    constructor
    · rintro ⟨r, hr⟩
      cases hd : serDimC d with
      | error e => simp [serShapeC, hd, bind, Except.bind] at hr
      | ok p =>
        cases hs : serShapeC ds with
        | error e => simp [serShapeC, hd, hs, bind, Except.bind] at hr
        | ok ps => exact ⟨⟨p, rfl⟩, ⟨ps, rfl⟩⟩
    · rintro ⟨⟨p, hp⟩, ⟨ps, hps⟩⟩
      exact ⟨p :: ps, by simp [serShapeC, hp, hps, bind, Except.bind]⟩

theorem serShapeC_error (s : IRShapeF) (h : irShapeInRange s = false) : serShapeC s = .error "ValueError" := by
  induction s with
  | nil => simp [irShapeInRange] at h
  | cons d ds ih =>
    have hsplit : irShapeInRange (d :: ds) = (irShapeInRange [d] && irShapeInRange ds) := by
      simp [irShapeInRange]
    rw [hsplit] at h
    by_cases hd : irShapeInRange [d] = true
    · obtain ⟨p, hp⟩ := (serDimC_ok_iff d).2 hd
      have hds : irShapeInRange ds = false := by simpa [hd] using h
      simp [serShapeC, hp, ih hds, bind, Except.bind]
    · have := serDimC_error d (by simpa using hd)
      simp [serShapeC, this, bind, Except.bind]

theorem toP_shape (s : ShapeF) : (s.map normDimF).map DimF.toP = serShape (desShape (s.map DimF.toP)) := by
  simp [serShape, desShape, List.map_map, Function.comp_def, toP_normDimF]

/-! ## INT -/

theorem serAttrIntC_ok_iff (n : Int) : (∃ r, serAttrIntC n = .ok r) ↔ inInt64 n = true := by
  by_cases h : inInt64 n = true <;> simp [serAttrIntC, h]

theorem serAttrIntC_error (n : Int) (h : inInt64 n = false) : serAttrIntC n = .error "ValueError" := by
  simp [serAttrIntC, h]

theorem inInt64_iff (n : Int) : inInt64 n = true ↔ -(2 : Int) ^ 63 ≤ n ∧ n < (2 : Int) ^ 63 := by
  have h : (2 : Int) ^ 63 = 9223372036854775808 := by decide
  rw [h]
  unfold inInt64 int64Min int64Max
  rw [Bool.and_eq_true, decide_eq_true_eq, decide_eq_true_eq]
  omega

/-! ## positional notation (bit fields of a float pattern, payload bits of a UTF-8 sequence) -/

theorem digit_div (B a x : Nat) (hx : x < B) : (a * B + x) / B = a := by
  rw [Nat.mul_comm, Nat.mul_add_div (Nat.zero_lt_of_lt hx), Nat.div_eq_of_lt hx, Nat.add_zero]

theorem digit_mod (B a x : Nat) (hx : x < B) : (a * B + x) % B = x := by
  rw [Nat.mul_comm, Nat.mul_add_mod, Nat.mod_eq_of_lt hx]

/-- `P` stands for `C * B`, so that a literal such as `2 ^ 63` can be used as it is written -/
theorem digits3 (B C P a x y : Nat) (hP : P = C * B) (hx : x < C) (hy : y < B) :
    (a * P + x * B + y) / P = a ∧ (a * P + x * B + y) / B % C = x ∧ (a * P + x * B + y) % B = y := by
  subst hP
  have e : a * (C * B) + x * B + y = (a * C + x) * B + y := by rw [Nat.add_mul, Nat.mul_assoc]
  have d : (a * (C * B) + x * B + y) / B = a * C + x := by rw [e, digit_div B _ y hy]
  refine ⟨?_, ?_, ?_⟩
  · rw [Nat.mul_comm C B, ← Nat.div_div_eq_div_mul, Nat.mul_comm B C, d, digit_div C a x hx]
  · rw [d, digit_mod C a x hx]
  · rw [e, digit_mod B _ y hy]

theorem exists_digits2 (B n : Nat) (hB : 0 < B) : ∃ a x, x < B ∧ n = a * B + x :=
  ⟨n / B, n % B, Nat.mod_lt _ hB, (Nat.div_add_mod' n B).symm⟩

theorem exists_digits3 (B C P n : Nat) (hP : P = C * B) (hB : 0 < B) (hC : 0 < C) :
    ∃ a x y, x < C ∧ y < B ∧ n = a * P + x * B + y := by
  obtain ⟨q, y, hy, rfl⟩ := exists_digits2 B n hB
  obtain ⟨a, x, hx, rfl⟩ := exists_digits2 C q hC
  exact ⟨a, x, y, hx, hy, by rw [hP, Nat.add_mul, Nat.mul_assoc]⟩

/-! ## float32 <-> double -/

theorem f64_fields (s E M : Nat) (hE : E < 2048) (hM : M < 2 ^ 52) :
    (s * 2 ^ 63 + E * 2 ^ 52 + M) / 2 ^ 63 = s ∧ (s * 2 ^ 63 + E * 2 ^ 52 + M) / 2 ^ 52 % 2048 = E ∧
      (s * 2 ^ 63 + E * 2 ^ 52 + M) % 2 ^ 52 = M :=
  digits3 (2 ^ 52) 2048 (2 ^ 63) s E M rfl hE hM

theorem f32_fields (s e m : Nat) (he : e < 256) (hm : m < 2 ^ 23) :
    (s * 2 ^ 31 + e * 2 ^ 23 + m) / 2 ^ 31 = s ∧ f32Exp (s * 2 ^ 31 + e * 2 ^ 23 + m) = e ∧
      f32Man (s * 2 ^ 31 + e * 2 ^ 23 + m) = m :=
  digits3 (2 ^ 23) 256 (2 ^ 31) s e m rfl he hm

theorem exists_f64_fields (x : Nat) : ∃ s E M, E < 2048 ∧ M < 2 ^ 52 ∧ x = s * 2 ^ 63 + E * 2 ^ 52 + M :=
  exists_digits3 (2 ^ 52) 2048 (2 ^ 63) x rfl (by decide) (by decide)

theorem exists_f32_fields (b : Nat) : ∃ s e m, e < 256 ∧ m < 2 ^ 23 ∧ b = s * 2 ^ 31 + e * 2 ^ 23 + m :=
  exists_digits3 (2 ^ 23) 256 (2 ^ 31) b rfl (by decide) (by decide)

theorem rneShift_digits (q r sh : Nat) (hr : r < 2 ^ sh) :
    rneShift (q * 2 ^ sh + r) sh = if 2 ^ sh < 2 * r ∨ (2 * r = 2 ^ sh ∧ q % 2 = 1) then q + 1 else q := by
  unfold rneShift
  simp only [digit_div _ q r hr, digit_mod _ q r hr]

theorem rneShift_exact (q sh : Nat) : rneShift (q * 2 ^ sh) sh = q := by
  have h := rneShift_digits q 0 sh (Nat.two_pow_pos sh)
  rw [Nat.add_zero] at h
  rw [h, if_neg]
  have := Nat.two_pow_pos sh
  omega

theorem rneShift_zero (sh : Nat) : rneShift 0 sh = 0 := by
  have := rneShift_exact 0 sh; rwa [Nat.zero_mul] at this

/-- the normal-range candidate of the narrowing and the clamp to infinity, as named atoms (omega must
not see several products with large literals at once: its atom comparison unfolds them in unary) -/
def normC (E M : Nat) : Nat := (E - 897) * 2 ^ 23 + rneShift (2 ^ 52 + M) 29
def clampInf (c : Nat) : Nat := if c < inf32 then c else inf32

theorem clampInf_le (c : Nat) : clampInf c ≤ inf32 := by unfold clampInf; split <;> omega
theorem clampInf_of_lt (c : Nat) (h : c < inf32) : clampInf c = c := by unfold clampInf; rw [if_pos h]
theorem clampInf_of_ge (c : Nat) (h : inf32 ≤ c) : clampInf c = inf32 := by
  unfold clampInf; rw [if_neg (by omega)]
theorem clampInf_mono {a b : Nat} (h : a ≤ b) : clampInf a ≤ clampInf b := by
  unfold clampInf; split <;> split <;> omega

/-- `f64ToF32` without the sign: the image of the non-negative double with fields `E`, `M` -/
def narrowPos (E M : Nat) : Nat :=
  if E = 2047 then
    if M = 0 then inf32 else inf32 + quietMan (M / 2 ^ 29) (2 ^ 22)
  else if 897 ≤ E then clampInf (normC E M)
  else if E = 0 then rneShift M 925
  else rneShift (2 ^ 52 + M) (926 - E)

theorem f64ToF32_sign (s E M : Nat) (hE : E < 2048) (hM : M < 2 ^ 52) :
    f64ToF32 (s * 2 ^ 63 + E * 2 ^ 52 + M) = s * 2 ^ 31 + narrowPos E M := by
  obtain ⟨h1, h2, h3⟩ := f64_fields s E M hE hM
  unfold f64ToF32 narrowPos normC clampInf
  simp only [h1, h2, h3]
  split
  · split
    · rfl
    · rw [Nat.add_assoc]
  · split
    · rfl
    · split <;> rfl

theorem narrowPos_inf : narrowPos 2047 0 = inf32 := rfl

theorem narrowPos_nan (M : Nat) (h : M ≠ 0) : narrowPos 2047 M = inf32 + quietMan (M / 2 ^ 29) (2 ^ 22) := by
  unfold narrowPos; rw [if_pos rfl, if_neg h]

theorem narrowPos_hi (E M : Nat) (h : 897 ≤ E) (h' : E < 2047) : narrowPos E M = clampInf (normC E M) := by
  unfold narrowPos; rw [if_neg (show ¬ E = 2047 by omega), if_pos h]

theorem narrowPos_zero (M : Nat) : narrowPos 0 M = rneShift M 925 := by
  unfold narrowPos
  rw [if_neg (show ¬ (0 : Nat) = 2047 by decide), if_neg (show ¬ 897 ≤ 0 by decide), if_pos rfl]

theorem narrowPos_lo (E M : Nat) (h0 : E ≠ 0) (h : E < 897) : narrowPos E M = rneShift (2 ^ 52 + M) (926 - E) := by
  unfold narrowPos
  rw [if_neg (show ¬ E = 2047 by omega), if_neg (show ¬ 897 ≤ E by omega), if_neg h0]

theorem f64ToF32_pos (E M : Nat) (hE : E < 2048) (hM : M < 2 ^ 52) : f64ToF32 (E * 2 ^ 52 + M) = narrowPos E M := by
  have h := f64ToF32_sign 0 E M hE hM
  rwa [Nat.zero_mul, Nat.zero_add, Nat.zero_add] at h

theorem f32ToF64_fields (s e m : Nat) (he : e < 256) (hm : m < 2 ^ 23) :
    f32ToF64 (s * 2 ^ 31 + e * 2 ^ 23 + m) =
      if e = 255 then
        if m = 0 then s * 2 ^ 63 + 2047 * 2 ^ 52 else s * 2 ^ 63 + 2047 * 2 ^ 52 + quietMan m (2 ^ 22) * 2 ^ 29
      else if e = 0 then
        if m = 0 then s * 2 ^ 63
        else s * 2 ^ 63 + (874 + m.log2) * 2 ^ 52 + (m - 2 ^ m.log2) * 2 ^ (52 - m.log2)
      else s * 2 ^ 63 + (e + 896) * 2 ^ 52 + m * 2 ^ 29 := by
  obtain ⟨h1, h2, h3⟩ := f32_fields s e m he hm
  unfold f32ToF64
  simp only [h1, h2, h3]

theorem quietMan_quiet (m : Nat) : quietMan (quietMan m (2 ^ 22)) (2 ^ 22) = quietMan m (2 ^ 22) := by
  unfold quietMan; split <;> simp <;> omega

theorem quietMan_bounds (m : Nat) (hm : m < 2 ^ 23) :
    2 ^ 22 ≤ quietMan m (2 ^ 22) ∧ quietMan m (2 ^ 22) < 2 ^ 23 := by
  unfold quietMan; split <;> omega

/-- a subnormal float32 significand `m` with leading bit `k` is, as a double, the normal significand
`m * 2^(52-k)`: hidden bit `2^52` plus the payload below -/
theorem subnormal_sig (m : Nat) (h0 : m ≠ 0) (hm : m < 2 ^ 23) :
    m.log2 < 23 ∧ (m - 2 ^ m.log2) * 2 ^ (52 - m.log2) < 2 ^ 52 ∧
      2 ^ 52 + (m - 2 ^ m.log2) * 2 ^ (52 - m.log2) = m * 2 ^ (52 - m.log2) := by
  generalize hk : m.log2 = k
  have hk23 : k < 23 := by rw [← hk]; exact (Nat.log2_lt h0).2 hm
  have hlo : 2 ^ k ≤ m := by rw [← hk]; exact Nat.log2_self_le h0
  have hhi : m < 2 ^ (k + 1) := by rw [← hk]; exact Nat.lt_log2_self
  have hpow : 2 ^ k * 2 ^ (52 - k) = 2 ^ 52 := by rw [← Nat.pow_add]; congr 1; omega
  refine ⟨hk23, ?_, ?_⟩
  · rw [← hpow]
    apply Nat.mul_lt_mul_of_lt_of_le _ (Nat.le_refl _) (Nat.two_pow_pos _)
    rw [Nat.pow_succ] at hhi; omega
  · rw [← hpow, ← Nat.add_mul]; congr 1; omega

def quietFields (e m : Nat) : Nat := if e = 255 ∧ m ≠ 0 then quietMan m (2 ^ 22) else m

theorem quietFields_lt (e m : Nat) (hm : m < 2 ^ 23) : quietFields e m < 2 ^ 23 := by
  unfold quietFields; split
  · exact (quietMan_bounds m hm).2
  · exact hm

theorem isNaN32_fields (s e m : Nat) (he : e < 256) (hm : m < 2 ^ 23) :
    isNaN32 (s * 2 ^ 31 + e * 2 ^ 23 + m) = (e == 255 && m != 0) := by
  obtain ⟨_, h2, h3⟩ := f32_fields s e m he hm
  unfold isNaN32; rw [h2, h3]

theorem quiet32_fields (s e m : Nat) (he : e < 256) (hm : m < 2 ^ 23) :
    quiet32 (s * 2 ^ 31 + e * 2 ^ 23 + m) = s * 2 ^ 31 + e * 2 ^ 23 + quietFields e m := by
  obtain ⟨_, _, h3⟩ := f32_fields s e m he hm
  unfold quiet32 quietFields quietMan
  rw [isNaN32_fields s e m he hm, h3]
  by_cases hn : e = 255 ∧ m ≠ 0
  · rw [if_pos hn]
    by_cases hq : m < 2 ^ 22
    · rw [if_pos (by simp [hn.1, hn.2, hq]), if_neg (by omega)]; omega
    · rw [if_neg (by simp [hq]), if_pos (by omega)]
  · rw [if_neg hn, if_neg]
    simp only [Bool.and_eq_true, beq_iff_eq, bne_iff_ne, ne_eq, decide_eq_true_eq]
    exact fun h => hn h.1

theorem narrow_widen (s e m : Nat) (he : e < 256) (hm : m < 2 ^ 23) :
    f64ToF32 (f32ToF64 (s * 2 ^ 31 + e * 2 ^ 23 + m)) = s * 2 ^ 31 + e * 2 ^ 23 + quietFields e m := by
  have hinf : inf32 = 255 * 2 ^ 23 := rfl
  rw [f32ToF64_fields s e m he hm]
  unfold quietFields
  by_cases h1 : e = 255
  · subst h1
    by_cases h0 : m = 0
    · subst h0
      rw [if_pos rfl, if_pos rfl, ← Nat.add_zero (s * 2 ^ 63 + 2047 * 2 ^ 52),
        f64ToF32_sign s 2047 0 (by decide) (by decide), narrowPos_inf, if_neg (show ¬ (255 = 255 ∧ (0 : Nat) ≠ 0) from fun h => h.2 rfl), hinf]
    · obtain ⟨q1, q2⟩ := quietMan_bounds m hm
      rw [if_pos rfl, if_neg h0, f64ToF32_sign s 2047 _ (by decide) (by omega), narrowPos_nan _ (by omega),
        Nat.mul_div_cancel _ (by decide), quietMan_quiet, if_pos ⟨rfl, h0⟩, hinf, Nat.add_assoc]
  · rw [if_neg h1, if_neg (show ¬ (e = 255 ∧ m ≠ 0) from fun h => h1 h.1)]
    by_cases h0 : e = 0
    · subst h0
      rw [if_pos rfl]
      by_cases hm0 : m = 0
      · subst hm0
        have e0 : s * 2 ^ 63 = s * 2 ^ 63 + 0 * 2 ^ 52 + 0 := by omega
        rw [if_pos rfl, e0, f64ToF32_sign s 0 0 (by decide) (by decide), narrowPos_zero, rneShift_zero, Nat.zero_mul, Nat.add_zero]
      · obtain ⟨hk, hM, hsig⟩ := subnormal_sig m hm0 hm
        rw [if_neg hm0, f64ToF32_sign s _ _ (by omega) hM, narrowPos_lo _ _ (by omega) (by omega),
          show 926 - (874 + m.log2) = 52 - m.log2 by omega, hsig, rneShift_exact, Nat.zero_mul, Nat.add_zero]
    · have hr : 2 ^ 52 + m * 2 ^ 29 = (2 ^ 23 + m) * 2 ^ 29 := by omega
      rw [if_neg h0, f64ToF32_sign s _ _ (by omega) (by omega), narrowPos_hi _ _ (by omega) (by omega)]
      unfold normC
      rw [hr, rneShift_exact, clampInf_of_lt _ (by omega)]
      omega

theorem quiet32_of_not_nan (b : Nat) (h : isNaN32 b = false) : quiet32 b = b := by
  simp [quiet32, h]

/-- proto -> IR -> proto on the float payload, ALL float32 bit patterns: widening then narrowing
returns the same bits, except that a signalling NaN comes back with the quiet bit -/
theorem f64ToF32_f32ToF64 (b : Nat) (hb : b < 2 ^ 32) : f64ToF32 (f32ToF64 b) = quiet32 b := by
  obtain ⟨s, e, m, he, hm, rfl⟩ := exists_f32_fields b
  rw [narrow_widen s e m he hm, quiet32_fields s e m he hm]

/-- the bits survive exactly for everything that is not a NaN (zeros of both signs, subnormals,
normals, infinities) and for quiet NaNs (payload kept) -/
theorem f64ToF32_f32ToF64_exact (b : Nat) (hb : b < 2 ^ 32)
    (h : isNaN32 b = false ∨ 2 ^ 22 ≤ f32Man b) : f64ToF32 (f32ToF64 b) = b := by
  rw [f64ToF32_f32ToF64 b hb]
  rcases h with h | h
  · exact quiet32_of_not_nan b h
  · unfold quiet32
    rw [if_neg]
    simp only [Bool.and_eq_true, decide_eq_true_eq, not_and, Nat.not_lt]
    exact fun _ => h

theorem isNaN32_quiet32 (b : Nat) : isNaN32 (quiet32 b) = isNaN32 b := by
  obtain ⟨s, e, m, he, hm, rfl⟩ := exists_f32_fields b
  rw [quiet32_fields s e m he hm, isNaN32_fields s e _ he (quietFields_lt e m hm), isNaN32_fields s e m he hm]
  unfold quietFields
  by_cases hn : e = 255 ∧ m ≠ 0
  · have hq : quietMan m (2 ^ 22) ≠ 0 := by have := (quietMan_bounds m hm).1; omega
    rw [if_pos hn, bne_iff_ne.2 hq, bne_iff_ne.2 hn.2]
  · rw [if_neg hn]

theorem f32ToF64_quiet32 (b : Nat) : f32ToF64 (quiet32 b) = f32ToF64 b := by
  obtain ⟨s, e, m, he, hm, rfl⟩ := exists_f32_fields b
  rw [quiet32_fields s e m he hm, f32ToF64_fields s e _ he (quietFields_lt e m hm), f32ToF64_fields s e m he hm]
  unfold quietFields
  by_cases hn : e = 255 ∧ m ≠ 0
  · have := (quietMan_bounds m hm).1
    rw [if_pos hn, if_pos hn.1, if_pos hn.1, if_neg hn.2, if_neg (by omega), quietMan_quiet]
  · rw [if_neg hn]

/-- every double that IS a float32 value (the image of the widening) survives IR -> proto -> IR
exactly: narrowing is the identity on representable values, for all classes incl. NaNs -/
theorem f32ToF64_f64ToF32_of_representable (x : Nat) (h : ∃ b, b < 2 ^ 32 ∧ x = f32ToF64 b) :
    f32ToF64 (f64ToF32 x) = x := by
  obtain ⟨b, hb, rfl⟩ := h
  rw [f64ToF32_f32ToF64 b hb, f32ToF64_quiet32]

/-- narrowing is idempotent through the widening: what `to_proto` stores is a fixed point -/
theorem f64ToF32_idem (b : Nat) (hb : b < 2 ^ 32) :
    f64ToF32 (f32ToF64 (f64ToF32 (f32ToF64 b))) = f64ToF32 (f32ToF64 b) := by
  rw [f32ToF64_f64ToF32_of_representable _ ⟨b, hb, rfl⟩]

theorem f32ToF64_lt (b : Nat) (hb : b < 2 ^ 32) : f32ToF64 b < 2 ^ 64 := by
  obtain ⟨s, e, m, he, hm, rfl⟩ := exists_f32_fields b
  have hs : s < 2 := by omega
  -- omega runs out of recursion depth when products with 2^31- and 2^63-sized literals meet
  clear hb
  rw [f32ToF64_fields s e m he hm]
  split
  · split
    · omega
    · have := (quietMan_bounds m hm).2
      omega
  · split
    · split
      · omega
      · rename_i h0
        obtain ⟨hk, hM, _⟩ := subnormal_sig m h0 hm
        omega
    · omega

theorem not_nan_of_le_inf (b : Nat) (h : b ≤ inf32) : isNaN32 b = false := by
  have hinf : inf32 = 255 * 2 ^ 23 := rfl
  obtain ⟨s, e, m, he, hm, rfl⟩ := exists_f32_fields b
  rw [isNaN32_fields s e m he hm]
  by_cases h1 : e = 255
  · have : m = 0 := by omega
    simp [this]
  · simp [h1]

theorem f32ToF64_le_inf (b : Nat) (h : b ≤ inf32) : f32ToF64 b ≤ 2047 * 2 ^ 52 := by
  have hinf : inf32 = 255 * 2 ^ 23 := rfl
  obtain ⟨s, e, m, he, hm, rfl⟩ := exists_f32_fields b
  have hs : s = 0 := by omega
  have h255 : e = 255 → m = 0 := by omega
  subst hs
  clear h
  rw [f32ToF64_fields 0 e m he hm]
  split
  · rename_i h1
    rw [if_pos (h255 h1)]; omega
  · split
    · split
      · omega
      · rename_i h0
        obtain ⟨hk, hM, _⟩ := subnormal_sig m h0 hm
        omega
    · omega

theorem rneShift_le (sig sh : Nat) : rneShift sig sh ≤ sig / 2 ^ sh + 1 := by
  unfold rneShift; simp only []; split <;> omega

/-! ### monotonicity, faithful rounding, round-to-nearest-even in the normal range -/

theorem rneShift_mono {a b : Nat} (sh : Nat) (h : a ≤ b) : rneShift a sh ≤ rneShift b sh := by
  have hp : 0 < 2 ^ sh := Nat.two_pow_pos sh
  have hq : a / 2 ^ sh ≤ b / 2 ^ sh := Nat.div_le_div_right h
  have ha := Nat.div_add_mod a (2 ^ sh)
  have hb := Nat.div_add_mod b (2 ^ sh)
  unfold rneShift
  simp only []
  generalize 2 ^ sh = p at *
  generalize ha' : a / p = qa at *
  generalize hb' : b / p = qb at *
  generalize a % p = ra at *
  generalize b % p = rb at *
  by_cases hlt : qa < qb
  · split <;> split <;> omega
  · have : qa = qb := by omega
    subst this
    split <;> split <;> omega

theorem rneShift_small_of_lt (sig sh k : Nat) (hs : sig < 2 ^ k) (h : k + 1 ≤ sh) : rneShift sig sh = 0 := by
  have hp : 2 ^ (k + 1) ≤ 2 ^ sh := Nat.pow_le_pow_right (by decide) h
  rw [Nat.pow_succ] at hp
  have hlt : sig < 2 ^ sh := by omega
  unfold rneShift
  simp only [Nat.div_eq_of_lt hlt, Nat.mod_eq_of_lt hlt]
  rw [if_neg (by omega)]

theorem rneShift_le_of_lt (sig sh k : Nat) (h : sig < 2 ^ (k + sh)) : rneShift sig sh ≤ 2 ^ k := by
  have hq : sig / 2 ^ sh < 2 ^ k := by
    rw [Nat.div_lt_iff_lt_mul (Nat.two_pow_pos sh), ← Nat.pow_add]; exact h
  exact Nat.le_trans (rneShift_le sig sh) hq

theorem narrowPos_le_next (E M : Nat) (hE : E < 2047) (hM : M < 2 ^ 52) : narrowPos E M ≤ narrowPos (E + 1) 0 := by
  by_cases h1 : 897 ≤ E
  · rw [narrowPos_hi E M h1 hE]
    by_cases h46 : E = 2046
    · rw [h46, narrowPos_inf]; exact clampInf_le _
    · rw [narrowPos_hi (E + 1) 0 (by omega) (by omega)]
      apply clampInf_mono
      unfold normC
      have hr := rneShift_le_of_lt (2 ^ 52 + M) 29 24 (by omega)
      have hp : 2 ^ 23 * 2 ^ 29 = 2 ^ 52 + 0 := by rw [← Nat.pow_add]
      rw [← hp, rneShift_exact]
      omega
  · by_cases h0 : E = 0
    · rw [h0, narrowPos_zero, rneShift_small_of_lt M 925 52 hM (by decide)]; exact Nat.zero_le _
    · rw [narrowPos_lo E M h0 (by omega)]
      by_cases h3 : E < 873
      · rw [rneShift_small_of_lt _ (926 - E) 53 (by omega) (by omega)]; exact Nat.zero_le _
      · -- subnormal results: both sides are at most / exactly `2 ^ (E - 873)`
        have hl := rneShift_le_of_lt (2 ^ 52 + M) (926 - E) (E - 873)
          (by rw [show E - 873 + (926 - E) = 53 by omega]; omega)
        by_cases h96 : E = 896
        · rw [h96] at hl ⊢
          exact hl
        · have hp : 2 ^ (E - 873) * 2 ^ (926 - (E + 1)) = 2 ^ 52 + 0 := by
            rw [← Nat.pow_add, show E - 873 + (926 - (E + 1)) = 52 by omega]
          rw [narrowPos_lo (E + 1) 0 (by omega) (by omega), ← hp, rneShift_exact]
          exact hl

theorem narrowPos_le_of_exp_lt (E M : Nat) (hM : M < 2 ^ 52) :
    ∀ E', E < E' → E' ≤ 2047 → narrowPos E M ≤ narrowPos E' 0
  | 0, h, _ => absurd h (Nat.not_lt_zero _)
  | n + 1, h, hn => by
    by_cases e : E = n
    · rw [← e]; exact narrowPos_le_next E M (by omega) hM
    · exact Nat.le_trans (narrowPos_le_of_exp_lt E M hM n (by omega) (by omega))
        (narrowPos_le_next n 0 (by omega) (by decide))

theorem narrowPos_mono_man (E M M' : Nat) (hE : E < 2047) (h : M ≤ M') : narrowPos E M ≤ narrowPos E M' := by
  by_cases h1 : 897 ≤ E
  · rw [narrowPos_hi E M h1 hE, narrowPos_hi E M' h1 hE]
    apply clampInf_mono
    unfold normC
    have := rneShift_mono 29 (show 2 ^ 52 + M ≤ 2 ^ 52 + M' by omega)
    omega
  · by_cases h0 : E = 0
    · subst h0
      rw [narrowPos_zero, narrowPos_zero]
      exact rneShift_mono _ h
    · rw [narrowPos_lo E M h0 (by omega), narrowPos_lo E M' h0 (by omega)]
      exact rneShift_mono _ (by omega)

theorem narrowPos_le_inf (E M : Nat) (hE : E < 2048) (hM : M < 2 ^ 52) (hnan : E = 2047 → M = 0) :
    narrowPos E M ≤ inf32 := by
  by_cases h47 : E = 2047
  · rw [h47, hnan h47, narrowPos_inf]; exact Nat.le_refl _
  · exact narrowPos_le_of_exp_lt E M hM 2047 (by omega) (Nat.le_refl _)

theorem f64ToF32_lt (x : Nat) (hx : x < 2 ^ 64) : f64ToF32 x < 2 ^ 32 := by
  have hinf : inf32 = 255 * 2 ^ 23 := rfl
  obtain ⟨s, E, M, hE, hM, rfl⟩ := exists_f64_fields x
  have hs : s < 2 := by omega
  clear hx
  rw [f64ToF32_sign s E M hE hM]
  suffices narrowPos E M < 2 ^ 31 by omega
  by_cases hnan : E = 2047 ∧ M ≠ 0
  · have := (quietMan_bounds (M / 2 ^ 29) (by omega)).2
    rw [hnan.1, narrowPos_nan M hnan.2]
    omega
  · have := narrowPos_le_inf E M hE hM (fun h => Classical.byContradiction fun hm => hnan ⟨h, hm⟩)
    omega

/-- the narrowing is monotone on the non-negative doubles up to +inf (bit-pattern order = value order
there, on both sides) -/
theorem f64ToF32_mono (x y : Nat) (hxy : x ≤ y) (hy : y ≤ 2047 * 2 ^ 52) : f64ToF32 x ≤ f64ToF32 y := by
  obtain ⟨E, M, hMx, rfl⟩ := exists_digits2 (2 ^ 52) x (by decide)
  obtain ⟨E', M', hMy, rfl⟩ := exists_digits2 (2 ^ 52) y (by decide)
  have hEy : E' ≤ 2047 := by omega
  have hEx : E ≤ E' := by omega
  have hlex : E = E' → M ≤ M' := by omega
  have htop : E' = 2047 → M' = 0 := by omega
  clear hxy hy
  rw [f64ToF32_pos E M (by omega) hMx, f64ToF32_pos E' M' (by omega) hMy]
  by_cases heq : E = E'
  · subst heq
    by_cases h47 : E = 2047
    · have hM' := htop h47
      have hM0 : M = 0 := by have := hlex rfl; omega
      rw [hM0, hM']; exact Nat.le_refl _
    · exact narrowPos_mono_man E M M' (by omega) (hlex rfl)
  · have h1 := narrowPos_le_of_exp_lt E M hMx E' (by omega) hEy
    by_cases h47 : E' = 2047
    · rw [h47] at h1 ⊢; rw [htop h47]; exact h1
    · exact Nat.le_trans h1 (narrowPos_mono_man E' 0 M' (by omega) (Nat.zero_le _))

/-- sign symmetry: the narrowing of `-x` is the narrowing of `x` with the sign bit -/
theorem f64ToF32_neg (x : Nat) (hx : x < 2 ^ 63) : f64ToF32 (2 ^ 63 + x) = 2 ^ 31 + f64ToF32 x := by
  obtain ⟨E, M, hM, rfl⟩ := exists_digits2 (2 ^ 52) x (by decide)
  have hE : E < 2048 := by omega
  have e1 : 2 ^ 63 + (E * 2 ^ 52 + M) = 1 * 2 ^ 63 + E * 2 ^ 52 + M := by rw [Nat.one_mul, Nat.add_assoc]
  rw [e1, f64ToF32_sign 1 E M hE hM, f64ToF32_pos E M hE hM, Nat.one_mul]

/-- faithful rounding: a double between two adjacent non-negative float32 values narrows to one of
the two (monotonicity + identity on the representable values) -/
theorem f64ToF32_faithful (b x : Nat) (hb : b + 1 ≤ inf32) (h1 : f32ToF64 b ≤ x) (h2 : x ≤ f32ToF64 (b + 1)) :
    f64ToF32 x = b ∨ f64ToF32 x = b + 1 := by
  have hinf : inf32 = 255 * 2 ^ 23 := rfl
  have htop := f32ToF64_le_inf (b + 1) hb
  have m1 := f64ToF32_mono _ _ h1 (by omega)
  have m2 := f64ToF32_mono _ _ h2 htop
  rw [f64ToF32_f32ToF64_exact b (by omega) (Or.inl (not_nan_of_le_inf b (by omega)))] at m1
  rw [f64ToF32_f32ToF64_exact (b + 1) (by omega) (Or.inl (not_nan_of_le_inf (b + 1) hb))] at m2
  omega

theorem f32ToF64_normal (e m : Nat) (h0 : e ≠ 0) (he : e < 255) (hm : m < 2 ^ 23) :
    f32ToF64 (e * 2 ^ 23 + m) = (e + 896) * 2 ^ 52 + m * 2 ^ 29 := by
  have h := f32ToF64_fields 0 e m (by omega) hm
  rwa [if_neg (by omega), if_neg h0, Nat.zero_mul, Nat.zero_add, Nat.zero_add] at h

/-- round to nearest, ties to even, in the normal range: the doubles strictly between the normal
float32 value `b` and its successor are `f32ToF64 b + d`, `0 < d < 2^29` (the successor of the
largest finite float32 is the pattern of infinity: the overflow threshold) -/
theorem f64ToF32_nearest_normal (b d : Nat) (hb : b < inf32) (he : f32Exp b ≠ 0) (hd : d < 2 ^ 29) :
    f64ToF32 (f32ToF64 b + d) = if d < 2 ^ 28 ∨ (d = 2 ^ 28 ∧ b % 2 = 0) then b else b + 1 := by
  have hinf : inf32 = 255 * 2 ^ 23 := rfl
  obtain ⟨s, e, m, he8, hm, rfl⟩ := exists_f32_fields b
  rw [(f32_fields s e m he8 hm).2.1] at he
  have hs : s = 0 := by omega
  subst hs
  rw [Nat.zero_mul, Nat.zero_add] at hb ⊢
  have he255 : e < 255 := by omega
  have hM : m * 2 ^ 29 + d < 2 ^ 52 := by clear hb; omega
  have hpar : (e * 2 ^ 23 + m) % 2 = (2 ^ 23 + m) % 2 := by clear hb hM; omega
  have hsig : 2 ^ 52 + (m * 2 ^ 29 + d) = (2 ^ 23 + m) * 2 ^ 29 + d := by clear hb hM hpar; omega
  have hc : ∀ c, (e + 896 - 897) * 2 ^ 23 + (2 ^ 23 + m + c) = e * 2 ^ 23 + m + c := fun c => by
    clear hb hM hpar hsig; omega
  rw [hpar, f32ToF64_normal e m he he255 hm, Nat.add_assoc, f64ToF32_pos _ _ (by omega) hM,
    narrowPos_hi _ _ (by omega) (by omega)]
  unfold normC
  rw [hsig, rneShift_digits _ d 29 hd]
  have hp2 : (2 ^ 23 + m) % 2 < 2 := Nat.mod_lt _ (by decide)
  generalize (2 ^ 23 + m) % 2 = par at hp2 ⊢
  by_cases hup : 2 ^ 29 < 2 * d ∨ 2 * d = 2 ^ 29 ∧ par = 1
  · rw [if_pos hup, if_neg (by omega), hc 1]
    by_cases hlt : e * 2 ^ 23 + m + 1 < inf32
    · rw [clampInf_of_lt _ hlt]
    · rw [clampInf_of_ge _ (by omega)]; omega
  · rw [if_neg hup, if_pos (by omega), ← Nat.add_zero (2 ^ 23 + m), hc 0, Nat.add_zero, clampInf_of_lt _ hb]

/-! ## UTF-8 -/

theorem isCont_add (x : Nat) (hx : x < 64) : isCont (128 + x) = true := by
  simp only [isCont, Bool.and_eq_true, decide_eq_true_eq]; omega

theorem exists_of_isCont (b : Nat) (h : isCont b = true) : ∃ x, x < 64 ∧ b = 128 + x := by
  simp only [isCont, Bool.and_eq_true, decide_eq_true_eq] at h
  exact ⟨b - 128, by omega, by omega⟩

theorem isSurrogate_eq_false (c : Nat) (h : c < 0xD800 ∨ 0xDFFF < c) : isSurrogate c = false := by
  simp only [isSurrogate, Bool.and_eq_false_iff, decide_eq_false_iff_not]; omega

theorem digits4 (a x y z : Nat) (hx : x < 64) (hy : y < 64) (hz : z < 64) :
    (a * 262144 + x * 4096 + y * 64 + z) / 262144 = a ∧ (a * 262144 + x * 4096 + y * 64 + z) / 4096 % 64 = x ∧
    (a * 262144 + x * 4096 + y * 64 + z) / 64 % 64 = y ∧ (a * 262144 + x * 4096 + y * 64 + z) % 64 = z := by
  have e : a * 262144 + x * 4096 + y * 64 + z = (a * 4096 + x * 64 + y) * 64 + z := by
    rw [Nat.add_mul, Nat.add_mul, Nat.mul_assoc, Nat.mul_assoc]
  have d : (a * 262144 + x * 4096 + y * 64 + z) / 64 = a * 4096 + x * 64 + y := by rw [e, digit_div 64 _ z hz]
  obtain ⟨h1, h2, h3⟩ := digits3 64 64 4096 a x y rfl hx hy
  refine ⟨?_, ?_, ?_, ?_⟩
  · rw [show 262144 = 64 * 4096 from rfl, ← Nat.div_div_eq_div_mul, d, h1]
  · rw [show 4096 = 64 * 64 from rfl, ← Nat.div_div_eq_div_mul, d, h2]
  · rw [d, h3]
  · rw [e, digit_mod 64 _ z hz]

theorem exists_digits4 (c : Nat) : ∃ a x y z, x < 64 ∧ y < 64 ∧ z < 64 ∧ c = a * 262144 + x * 4096 + y * 64 + z := by
  obtain ⟨q, z, hz, rfl⟩ := exists_digits2 64 c (by decide)
  obtain ⟨a, x, y, hx, hy, rfl⟩ := exists_digits3 64 64 4096 q rfl (by decide) (by decide)
  exact ⟨a, x, y, z, hx, hy, hz, by rw [Nat.add_mul, Nat.add_mul, Nat.mul_assoc, Nat.mul_assoc]⟩

/-! Encoder and decoder on a code point given by its base-64 digits above the lead byte. -/

theorem utf8Enc1_one (c : Nat) (h : c < 128) : utf8Enc1 c = [c] := by unfold utf8Enc1; rw [if_pos h]

theorem utf8Enc1_two (a x : Nat) (ha : 2 ≤ a) (ha' : a < 32) (hx : x < 64) :
    utf8Enc1 (a * 64 + x) = [192 + a, 128 + x] := by
  unfold utf8Enc1
  rw [if_neg (by omega), if_pos (by omega), digit_div 64 a x hx, digit_mod 64 a x hx]

theorem utf8Enc1_three (a x y : Nat) (hlo : 2048 ≤ a * 4096 + x * 64 + y) (ha : a < 16) (hx : x < 64) (hy : y < 64) :
    utf8Enc1 (a * 4096 + x * 64 + y) = [224 + a, 128 + x, 128 + y] := by
  unfold utf8Enc1
  rw [if_neg (by omega), if_neg (by omega), if_pos (by omega)]
  obtain ⟨h1, h2, h3⟩ := digits3 64 64 4096 a x y rfl hx hy
  rw [h1, h2, h3]

theorem utf8Enc1_four (a x y z : Nat) (hlo : 65536 ≤ a * 262144 + x * 4096 + y * 64 + z)
    (hx : x < 64) (hy : y < 64) (hz : z < 64) :
    utf8Enc1 (a * 262144 + x * 4096 + y * 64 + z) = [240 + a, 128 + x, 128 + y, 128 + z] := by
  unfold utf8Enc1
  rw [if_neg (by omega), if_neg (by omega), if_neg (by omega)]
  obtain ⟨h1, h2, h3, h4⟩ := digits4 a x y z hx hy hz
  rw [h1, h2, h3, h4]

theorem utf8Dec1_two (a x : Nat) (r : List Nat) (ha : 2 ≤ a) (ha' : a < 32) (hx : x < 64) :
    utf8Dec1 ((192 + a) :: (128 + x) :: r) = some (a * 64 + x, 2) := by
  unfold utf8Dec1
  dsimp only
  rw [if_neg (by omega), if_neg (by omega), if_pos (by omega), if_pos (isCont_add x hx),
    Nat.add_sub_cancel_left, Nat.add_sub_cancel_left]

theorem utf8Dec1_three (a x y : Nat) (r : List Nat) (hlo : 2048 ≤ a * 4096 + x * 64 + y)
    (hs : isSurrogate (a * 4096 + x * 64 + y) = false) (ha : a < 16) (hx : x < 64) (hy : y < 64) :
    utf8Dec1 ((224 + a) :: (128 + x) :: (128 + y) :: r) = some (a * 4096 + x * 64 + y, 3) := by
  unfold utf8Dec1
  dsimp only
  rw [if_neg (by omega), if_neg (by omega), if_neg (by omega), if_pos (by omega)]
  simp only [Nat.add_sub_cancel_left, isCont_add x hx, isCont_add y hy, hs, hlo, decide_true, Bool.not_false,
    Bool.and_self, if_true]

theorem utf8Dec1_four (a x y z : Nat) (r : List Nat) (hlo : 65536 ≤ a * 262144 + x * 4096 + y * 64 + z)
    (hhi : a * 262144 + x * 4096 + y * 64 + z ≤ 1114111) (hx : x < 64) (hy : y < 64) (hz : z < 64) :
    utf8Dec1 ((240 + a) :: (128 + x) :: (128 + y) :: (128 + z) :: r)
      = some (a * 262144 + x * 4096 + y * 64 + z, 4) := by
  unfold utf8Dec1
  dsimp only
  rw [if_neg (by omega), if_neg (by omega), if_neg (by omega), if_neg (by omega), if_pos (by omega)]
  simp only [Nat.add_sub_cancel_left, isCont_add x hx, isCont_add y hy, isCont_add z hz, hlo, hhi, decide_true,
    Bool.and_self, if_true]

/-- decoding is complete: the encoding of every scalar value decodes to it -/
theorem utf8Dec1_enc1 (c : Nat) (rest : List Nat) (hc : c < 0x110000) (hs : isSurrogate c = false) :
    utf8Dec1 (utf8Enc1 c ++ rest) = some (c, (utf8Enc1 c).length) := by
  by_cases h0 : c < 128
  · rw [utf8Enc1_one c h0]; unfold utf8Dec1; dsimp only [List.cons_append, List.nil_append]; rw [if_pos h0]; rfl
  by_cases h1 : c < 2048
  · obtain ⟨a, x, hx, rfl⟩ := exists_digits2 64 c (by decide)
    rw [utf8Enc1_two a x (by omega) (by omega) hx]
    exact utf8Dec1_two a x rest (by omega) (by omega) hx
  by_cases h2 : c < 65536
  · obtain ⟨a, x, y, hx, hy, rfl⟩ := exists_digits3 64 64 4096 c rfl (by decide) (by decide)
    rw [utf8Enc1_three a x y (by omega) (by omega) hx hy]
    exact utf8Dec1_three a x y rest (by omega) hs (by omega) hx hy
  · obtain ⟨a, x, y, z, hx, hy, hz, rfl⟩ := exists_digits4 c
    rw [utf8Enc1_four a x y z (by omega) hx hy hz]
    exact utf8Dec1_four a x y z rest (by omega) (by omega) hx hy hz

theorem ite_some_inv {α : Type} {p : Prop} [Decidable p] {a b : α}
    (h : (if p then some a else none) = some b) : p ∧ a = b :=
  Option.ite_some_none_eq_some.mp h

/-- decoding one code point is sound and strict: the bytes consumed are exactly the (unique,
shortest) encoding of a scalar value -/
theorem utf8Dec1_sound (l : List Nat) (c n : Nat) (h : utf8Dec1 l = some (c, n)) :
    isSurrogate c = false ∧ c < 0x110000 ∧ n = (utf8Enc1 c).length ∧ l = utf8Enc1 c ++ l.drop n := by
  suffices hk : isSurrogate c = false ∧ c < 0x110000 ∧ ∃ r, l = utf8Enc1 c ++ r ∧ n = (utf8Enc1 c).length by
    obtain ⟨h1, h2, r, rfl, rfl⟩ := hk
    exact ⟨h1, h2, rfl, by rw [List.drop_left]⟩
  unfold utf8Dec1 at h
  cases l with
  | nil => exact absurd h (by simp)
  | cons b0 rest =>
    dsimp only at h
    by_cases h0 : b0 < 128
    · rw [if_pos h0] at h
      obtain ⟨rfl, rfl⟩ := Prod.mk.inj (Option.some.inj h)
      rw [utf8Enc1_one b0 h0]
      exact ⟨isSurrogate_eq_false _ (by omega), by omega, rest, rfl, rfl⟩
    rw [if_neg h0] at h
    by_cases h1 : b0 < 194
    · rw [if_pos h1] at h; exact absurd h (by simp)
    rw [if_neg h1] at h
    by_cases h2 : b0 < 224
    · rw [if_pos h2] at h
      obtain ⟨a, rfl⟩ : ∃ a, b0 = 192 + a := ⟨b0 - 192, by omega⟩
      cases rest with
      | nil => exact absurd h (by simp)
      | cons b1 r =>
        obtain ⟨hc, h⟩ := ite_some_inv h
        obtain ⟨x, hx, rfl⟩ := exists_of_isCont b1 hc
        rw [Nat.add_sub_cancel_left, Nat.add_sub_cancel_left] at h
        obtain ⟨rfl, rfl⟩ := Prod.mk.inj h
        rw [utf8Enc1_two a x (by omega) (by omega) hx]
        exact ⟨isSurrogate_eq_false _ (by omega), by omega, r, rfl, rfl⟩
    rw [if_neg h2] at h
    by_cases h3 : b0 < 240
    · rw [if_pos h3] at h
      obtain ⟨a, rfl⟩ : ∃ a, b0 = 224 + a := ⟨b0 - 224, by omega⟩
      match rest, h with
      | b1 :: b2 :: r, h =>
        obtain ⟨hc, h⟩ := ite_some_inv h
        simp only [Bool.and_eq_true, decide_eq_true_eq, Bool.not_eq_true'] at hc
        obtain ⟨⟨⟨c1, c2⟩, hlo⟩, hs⟩ := hc
        obtain ⟨x, hx, rfl⟩ := exists_of_isCont b1 c1
        obtain ⟨y, hy, rfl⟩ := exists_of_isCont b2 c2
        simp only [Nat.add_sub_cancel_left] at hlo hs h
        obtain ⟨rfl, rfl⟩ := Prod.mk.inj h
        rw [utf8Enc1_three a x y hlo (by omega) hx hy]
        exact ⟨hs, by omega, r, rfl, rfl⟩
    rw [if_neg h3] at h
    by_cases h4 : b0 < 245
    · rw [if_pos h4] at h
      obtain ⟨a, rfl⟩ : ∃ a, b0 = 240 + a := ⟨b0 - 240, by omega⟩
      match rest, h with
      | b1 :: b2 :: b3 :: r, h =>
        obtain ⟨hc, h⟩ := ite_some_inv h
        simp only [Bool.and_eq_true, decide_eq_true_eq] at hc
        obtain ⟨⟨⟨⟨c1, c2⟩, c3⟩, hlo⟩, hhi⟩ := hc
        obtain ⟨x, hx, rfl⟩ := exists_of_isCont b1 c1
        obtain ⟨y, hy, rfl⟩ := exists_of_isCont b2 c2
        obtain ⟨z, hz, rfl⟩ := exists_of_isCont b3 c3
        simp only [Nat.add_sub_cancel_left] at hlo hhi h
        obtain ⟨rfl, rfl⟩ := Prod.mk.inj h
        rw [utf8Enc1_four a x y z hlo hx hy hz]
        exact ⟨isSurrogate_eq_false _ (by omega), by omega, r, rfl, rfl⟩
    · rw [if_neg h4] at h; exact absurd h (by simp)

theorem utf8Enc1_length (c : Nat) : 1 ≤ (utf8Enc1 c).length := by
  unfold utf8Enc1
  split
  · exact Nat.le_refl _
  split
  · exact Nat.le_succ 1
  split
  · exact Nat.le_add_left 1 2
  · exact Nat.le_add_left 1 3

theorem utf8DecFuel_step (fuel : Nat) (l : List Nat) (c n : Nat) (h : utf8Dec1 l = some (c, n)) :
    utf8DecFuel (fuel + 1) l = (utf8DecFuel fuel (l.drop n)).map (c :: ·) := by
  cases l with
  | nil => simp [utf8Dec1] at h
  | cons b bs => simp only [utf8DecFuel, h]

/-- bytes -> str -> bytes: whatever decodes, encodes back to the same bytes (the direction of C02) -/
theorem utf8Enc_of_decFuel (fuel : Nat) (bs cps : List Nat) (h : utf8DecFuel fuel bs = some cps) :
    utf8Enc cps = .ok bs := by
  induction fuel generalizing bs cps with
  | zero =>
    cases bs with
    | nil => simp only [utf8DecFuel, Option.some.injEq] at h; subst h; rfl
    | cons b bs => simp [utf8DecFuel] at h
  | succ fuel ih =>
    cases bs with
    | nil => simp only [utf8DecFuel, Option.some.injEq] at h; subst h; rfl
    | cons b bs =>
      cases hd : utf8Dec1 (b :: bs) with
      | none => simp [utf8DecFuel, hd] at h
      | some cn =>
        obtain ⟨c, n⟩ := cn
        rw [utf8DecFuel_step fuel _ c n hd] at h
        cases hr : utf8DecFuel fuel ((b :: bs).drop n) with
        | none => simp [hr] at h
        | some cps' =>
          simp only [hr, Option.map_some, Option.some.injEq] at h
          subst h
          obtain ⟨hs, _, _, hl⟩ := utf8Dec1_sound _ c n hd
          have := ih _ _ hr
          simp only [utf8Enc, hs, Bool.false_eq_true, if_false, this, bind, Except.bind]
          rw [← hl]

theorem utf8Enc_of_dec (bs cps : List Nat) (h : utf8Dec bs = some cps) : utf8Enc cps = .ok bs :=
  utf8Enc_of_decFuel _ bs cps h

/-- str -> bytes -> str: every encodable string decodes back to itself -/
theorem utf8DecFuel_of_enc (cps bs : List Nat) (hw : cps.all (fun c => decide (c < 0x110000)) = true)
    (h : utf8Enc cps = .ok bs) (fuel : Nat) (hf : bs.length ≤ fuel) : utf8DecFuel fuel bs = some cps := by
  induction cps generalizing bs fuel with
  | nil =>
    simp only [utf8Enc, Except.ok.injEq] at h; subst h
    cases fuel <;> rfl
  | cons c cs ih =>
    simp only [List.all_cons, Bool.and_eq_true, decide_eq_true_eq] at hw
    by_cases hs : isSurrogate c = true
    · simp [utf8Enc, hs] at h
    · have hs' : isSurrogate c = false := by simpa using hs
      cases hr : utf8Enc cs with
      | error e => simp [utf8Enc, hs', hr, bind, Except.bind] at h
      | ok r =>
        simp only [utf8Enc, hs', Bool.false_eq_true, if_false, hr, bind, Except.bind, Except.ok.injEq] at h
        subst h
        have h1 := utf8Enc1_length c
        cases fuel with
        | zero => simp only [List.length_append] at hf; omega
        | succ fuel =>
          rw [utf8DecFuel_step fuel _ c _ (utf8Dec1_enc1 c r hw.1 hs'), List.drop_left,
            ih r hw.2 hr fuel (by simp only [List.length_append] at hf; omega)]
          rfl

theorem utf8Dec_of_enc (cps bs : List Nat) (hw : cps.all (fun c => decide (c < 0x110000)) = true)
    (h : utf8Enc cps = .ok bs) : utf8Dec bs = some cps :=
  utf8DecFuel_of_enc cps bs hw h _ (Nat.le_refl _)

/-- `str.encode` succeeds exactly when there is no lone surrogate -/
theorem utf8Enc_ok_iff (cps : List Nat) :
    (∃ bs, utf8Enc cps = .ok bs) ↔ cps.all (fun c => !isSurrogate c) = true := by
  induction cps with
  | nil => simp [utf8Enc]
  | cons c cs ih =>
    simp only [List.all_cons, Bool.and_eq_true, Bool.not_eq_true', ← ih]
    by_cases hs : isSurrogate c = true
    · simp [utf8Enc, hs]
    · have hs' : isSurrogate c = false := by simpa using hs
      cases hr : utf8Enc cs <;> simp [utf8Enc, hs', hr, bind, Except.bind]

theorem utf8Enc_error (cps : List Nat) (h : cps.all (fun c => !isSurrogate c) = false) :
    utf8Enc cps = .error "UnicodeEncodeError" := by
  induction cps with
  | nil => simp at h
  | cons c cs ih =>
    by_cases hs : isSurrogate c = true
    · simp [utf8Enc, hs]
    · have hs' : isSurrogate c = false := by simpa using hs
      have : cs.all (fun c => !isSurrogate c) = false := by simpa [hs'] using h
      simp [utf8Enc, hs', ih this, bind, Except.bind]

/-! ## attributes -/

/-- proto -> IR -> proto on the STRING payload: ALL byte strings (valid UTF-8 or not) come back -/
theorem serAttrStringC_desAttrString (s : Option (List Nat)) :
    serAttrStringC (desAttrString s) = .ok (s.getD []) := by
  unfold desAttrString
  cases h : utf8Dec (s.getD []) with
  | none => rfl
  | some cps => exact utf8Enc_of_dec _ _ h

/-- a whole INT / FLOAT / STRING attribute, every field -/
theorem serAttrScalarC_desAttrScalar (a : AttrScalarP) (h : wfScalarP a.val = true) :
    serAttrScalarC (desAttrScalar a) = .ok (normAttrScalarP a) := by
  obtain ⟨name, doc, val⟩ := a
  cases val with
  | int i =>
    have hi : inInt64 (i.getD 0) = true := by
      cases i with
      | none => decide
      | some i => simpa [wfScalarP] using h
    simp [serAttrScalarC, desAttrScalar, desAttrInt, serAttrIntC, hi, normAttrScalarP, bind, Except.bind, Except.map]
  | float b =>
    have hb : b.getD 0 < 2 ^ 32 := by
      cases b with
      | none => decide
      | some b => simpa [wfScalarP] using h
    simp [serAttrScalarC, desAttrScalar, desAttrFloat, serAttrFloatC, normAttrScalarP, bind, Except.bind, Except.map,
      f64ToF32_f32ToF64 _ hb]
  | string s =>
    simp [serAttrScalarC, desAttrScalar, serAttrStringC_desAttrString, normAttrScalarP, bind, Except.bind, Except.map]

/-- the unchecked model of `Model/Serde.lean` on the rendering of the same attribute (`r_attr`) -/
theorem toAttrP_roundtrip (scopes : Scopes) (a : AttrScalarP) :
    (desAttr scopes a.toAttrP >>= serAttr scopes none) = .ok a.toAttrP := by
  obtain ⟨name, doc, val⟩ := a
  cases val <;> simp [AttrScalarP.toAttrP, desAttr, serAttr, bind, Except.bind]

end IrVerif.Serde
