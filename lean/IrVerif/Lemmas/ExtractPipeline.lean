/-
C18: the `extract` pipeline stage by stage: what a successful call went through, which stage raises which error, the
pipeline with the ownership checks against the one without, the argument checks after D460.diff.
-/
import IrVerif.Lemmas.ExtractOwn
import IrVerif.Lemmas.ListFacts
namespace IrVerif.Extract

theorem findSubgraph_err {W : World} {fn : Bool} {g I O : List VId} {p : GId} {e : Err}
    (h : findSubgraph W fn g I O p = .error e) : e = .unbounded ∨ e = .sortKey := by
  unfold findSubgraph at h
  simp only [] at h
  split at h
  · split at h
    · cases h
    · cases h; exact Or.inr rfl
  · cases h; exact Or.inl rfl

theorem checkArgs_eq (W : World) (T : Target) (m : NameMap) (l : List Arg) :
    checkArgs W T m l = (ListFacts.mapE (checkArg W T m) l).map fun _ => () := by
  induction l with
  | nil => rfl
  | cons a t ih =>
    rw [checkArgs, ListFacts.mapE, ih]
    cases checkArg W T m a with
    | error e => rfl
    | ok u => cases ListFacts.mapE (checkArg W T m) t <;> rfl

theorem checkArgs_error_iff (W : World) (T : Target) (m : NameMap) (e : Err) (l : List Arg) :
    checkArgs W T m l = .error e ↔
      ∃ pre a post, l = pre ++ a :: post ∧ (∀ b, b ∈ pre → checkArg W T m b = .ok ()) ∧
        checkArg W T m a = .error e := by
  have h1 : checkArgs W T m l = .error e ↔ ListFacts.mapE (checkArg W T m) l = .error e := by
    rw [checkArgs_eq]; cases ListFacts.mapE (checkArg W T m) l <;> simp [Except.map]
  rw [h1, ListFacts.mapE_eq_error_iff]
  constructor
  · rintro ⟨pre, a, post, hl, hpre, ha⟩
    exact ⟨pre, a, post, hl, fun b hb => (hpre b hb).elim fun _ h => h, ha⟩
  · rintro ⟨pre, a, post, hl, hpre, ha⟩
    exact ⟨pre, a, post, hl, fun b hb => ⟨(), hpre b hb⟩, ha⟩

theorem checkArgs_err {W : World} {T : Target} {m : NameMap} {l : List Arg} {e : Err}
    (h : checkArgs W T m l = .error e) : e = .nameNotFound ∨ e = .notOwned := by
  obtain ⟨_, a, _, _, _, ha⟩ := (checkArgs_error_iff W T m e l).mp h
  cases a with
  | obj v => simp only [checkArg] at ha; split at ha <;> cases ha; exact Or.inr rfl
  | name s => simp only [checkArg] at ha; split at ha <;> cases ha; exact Or.inl rfl

theorem checkArgs_append_ok {W : World} {T : Target} {m : NameMap} {l1 l2 : List Arg}
    (h : checkArgs W T m (l1 ++ l2) = .ok ()) : checkArgs W T m l1 = .ok () ∧ checkArgs W T m l2 = .ok () := by
  rw [checkArgs_eq, ListFacts.mapE_append] at h
  rw [checkArgs_eq, checkArgs_eq]
  cases h1 : ListFacts.mapE (checkArg W T m) l1 with
  | error e => rw [h1] at h; cases h
  | ok r1 =>
    cases h2 : ListFacts.mapE (checkArg W T m) l2 with
    | error e => rw [h1, h2] at h; cases h
    | ok r2 => exact ⟨rfl, rfl⟩

theorem extract_ok {W : World} {T : Target} {ins outs : List Arg} {view : View}
    (h : extract W T ins outs = .ok view) :
    ∃ p inited m', (∃ o rest, view.outputs = o :: rest ∧ W.graphOf o = some p) ∧
      findSubgraph W (T.kind == Kind.function) T.nodes view.inputs view.outputs p = .ok (view.nodes, inited) ∧
      (∀ v, v ∈ view.inits → v ∈ inited) ∧
      cloneG [] (.mk 0 view.inputs view.inits view.outputs (view.nodes.map W.nodeD)) = .ok m' ∧
      (∃ im, viewInits W inited [] = .ok im ∧ view.inits = im.map (·.2)) ∧
      checkArgs W T (valueMapping W T) (ins ++ outs) = .ok () ∧
      view.inputs = ins.map (resolveArg (valueMapping W T)) ∧
      view.outputs = outs.map (resolveArg (valueMapping W T)) := by
  unfold extract at h
  simp only [] at h
  split at h
  · cases h
  · rename_i hok
    split at h
    · cases h
    · rename_i o0 rest hout
      split at h
      · cases h
      · rename_i parent hpar
        split at h
        · cases h
        · rename_i nodes inited hfind
          split at h
          · cases h
          · rename_i im him
            split at h
            · cases h
            · rename_i m' hclone
              cases h
              refine ⟨parent, inited, m', ⟨o0, rest, hout, hpar⟩, ?_, ?_, hclone, ⟨im, him, rfl⟩, hok, rfl, rfl⟩
              · exact hfind
              · intro v hv
                rcases viewInits_mem inited [] im him v hv with h' | h'
                · exact h'
                · simp at h'

/-- the argument checks come first: an argument error of `extract` is the error of the first failing
    argument in `itertools.chain(inputs, outputs)` -/
theorem extract_arg_error (W : World) (T : Target) (ins outs : List Arg) (e : Err)
    (he : e = .nameNotFound ∨ e = .notOwned) :
    extract W T ins outs = .error e ↔ checkArgs W T (valueMapping W T) (ins ++ outs) = .error e := by
  unfold extract
  simp only []
  constructor
  · intro h
    split at h
    · rename_i e' he'; cases h; exact he'
    · exfalso
      split at h
      · cases h; rcases he with h' | h' <;> cases h'
      · split at h
        · cases h; rcases he with h' | h' <;> cases h'
        · split at h
          · rename_i e' he'
            cases h
            rcases findSubgraph_err he' with h' | h' <;> subst h' <;> rcases he with h' | h' <;> cases h'
          · split at h
            · rename_i e' he'
              cases h
              have := (viewInits_err_named _ _ _ he').1
              subst this
              rcases he with h' | h' <;> cases h'
            · split at h
              · rename_i e' he'
                cases h
                rcases cloneG_err _ _ _ he' with h' | h' <;> subst h' <;> rcases he with h' | h' <;> cases h'
              · cases h
  · intro h
    rw [h]

theorem extractO_rel (W : World) (T : Target) (ins outs : List Arg) :
    (∀ view, extractO W T ins outs = .ok view ↔ extract W T ins outs = .ok view ∧
      ∃ s, cloneGO {} (.mk 0 view.inputs view.inits view.outputs (view.nodes.map W.nodeD)) = .ok s) ∧
    (∀ e, extractO W T ins outs = .error e → e = .cloneOwned ∨ extract W T ins outs = .error e) := by
  unfold extractO extract
  simp only []
  cases hc : checkArgs W T (valueMapping W T) (ins ++ outs) with
  | error e => simp
  | ok u =>
    cases u
    simp only []
    cases ho : outs.map (resolveArg (valueMapping W T)) with
    | nil => simp
    | cons o0 rest =>
      simp only []
      cases hg : W.graphOf o0 with
      | none => simp
      | some parent =>
        simp only []
        cases hf : findSubgraph W (T.kind == Kind.function) T.nodes (ins.map (resolveArg (valueMapping W T)))
            (o0 :: rest) parent with
        | error e => simp
        | ok r =>
          obtain ⟨nodes, inited⟩ := r
          simp only []
          cases hv : viewInits W inited [] with
          | error e => simp
          | ok im =>
            simp only []
            have hrel := cloneGO_rel (.mk 0 (ins.map (resolveArg (valueMapping W T))) (im.map (·.2)) (o0 :: rest)
              (nodes.map W.nodeD)) {}
            cases hcl : cloneGO {} (.mk 0 (ins.map (resolveArg (valueMapping W T))) (im.map (·.2)) (o0 :: rest)
                (nodes.map W.nodeD)) with
            | error e =>
              rw [hcl] at hrel
              refine ⟨fun view => ⟨nofun, fun ⟨hview, s, hs⟩ => ?_⟩, fun e' he' => ?_⟩
              · -- the view can only be the one at hand, on which `cloneGO` raised
                split at hview
                · cases hview
                · cases hview
                  rw [hcl] at hs
                  cases hs
              · cases he'
                rcases hrel with hrel | hrel
                · exact Or.inl hrel
                · exact Or.inr (by simp only [hrel])
            | ok s =>
              rw [hcl] at hrel
              simp only [OwnRel] at hrel
              simp only [hrel, Except.ok.injEq, reduceCtorEq, false_imp_iff, implies_true, and_true]
              rintro view
              constructor
              · rintro rfl; exact ⟨rfl, s, hcl⟩
              · exact fun h => h.1

theorem extractO_eq_rest (W : World) (T : Target) (ins outs : List Arg) :
    extractO W T ins outs =
      match checkArgs W T (valueMapping W T) (ins ++ outs) with
      | .error e => .error e
      | .ok () => extractRest W T ins outs := by
  unfold extractO extractRest
  rfl

theorem checkArgF_of_checkArg {W : World} {T : Target} {m : NameMap} (isIn : Bool) {a : Arg}
    (h : checkArg W T m a = .ok ()) : checkArgF W T m isIn a = .ok () := by
  cases a with
  | obj v =>
    simp only [checkArg] at h
    simp only [checkArgF]
    split at h
    · cases h
    · rename_i hc
      rw [if_neg]
      intro hc'
      apply hc
      simp only [Bool.and_eq_true] at hc' ⊢
      exact hc'.1
  | name s => simpa [checkArg, checkArgF] using h

theorem checkArgsF_of_checkArgs {W : World} {T : Target} {m : NameMap} (isIn : Bool) : ∀ {l : List Arg},
    checkArgs W T m l = .ok () → checkArgsF W T m isIn l = .ok ()
  | [], _ => rfl
  | a :: l, h => by
    simp only [checkArgs] at h
    cases ha : checkArg W T m a with
    | error e => rw [ha] at h; cases h
    | ok u =>
      cases u
      rw [ha] at h
      simp only [] at h
      simp only [checkArgsF, checkArgF_of_checkArg isIn ha]
      exact checkArgsF_of_checkArgs isIn h

end IrVerif.Extract
