/-
C16: an independent specification of the tokenizer (longest-match lexer), the proof that
`tokenize` implements exactly it, and that it reads back what `render` writes.
-/
import IrVerif.Lemmas.SymExprToken
namespace IrVerif.SymExpr

/-- **Lexer specification** (maximal munch): blanks separate and are dropped; a number is a
    maximal run of digits (its decimal value); an identifier starts with a letter or `_` and is a
    maximal run of letters, digits, `_`, `.`; `//` and `**` are preferred over `/` and `*`; the
    other tokens are single characters; nothing else is a token. -/
inductive Lex : List Char → List Tok → Prop
  | nil : Lex [] []
  | space {c cs ts} : isSpace c = true → Lex cs ts → Lex (c :: cs) ts
  | num {d ds rest ts} : (∀ x ∈ d :: ds, isDigit x = true) → notHead isDigit rest → Lex rest ts →
      Lex (d :: ds ++ rest) (.num (Nat.ofDigitChars 10 (d :: ds) 0) :: ts)
  | ident {c cs rest ts} : identStart c = true → (∀ x ∈ cs, identCont x = true) →
      notHead identCont rest → Lex rest ts →
      Lex (c :: cs ++ rest) (.ident (String.ofList (c :: cs)) :: ts)
  | dslash {rest ts} : Lex rest ts → Lex ('/' :: '/' :: rest) (.op .dslash :: ts)
  | dstar {rest ts} : Lex rest ts → Lex ('*' :: '*' :: rest) (.op .dstar :: ts)
  | slash {rest ts} : notHead (· == '/') rest → Lex rest ts → Lex ('/' :: rest) (.op .slash :: ts)
  | star {rest ts} : notHead (· == '*') rest → Lex rest ts → Lex ('*' :: rest) (.op .star :: ts)
  | plus {rest ts} : Lex rest ts → Lex ('+' :: rest) (.op .plus :: ts)
  | minus {rest ts} : Lex rest ts → Lex ('-' :: rest) (.op .minus :: ts)
  | percent {rest ts} : Lex rest ts → Lex ('%' :: rest) (.op .percent :: ts)
  | lparen {rest ts} : Lex rest ts → Lex ('(' :: rest) (.lparen :: ts)
  | rparen {rest ts} : Lex rest ts → Lex (')' :: rest) (.rparen :: ts)
  | comma {rest ts} : Lex rest ts → Lex (',' :: rest) (.comma :: ts)

theorem takeDigits_spec (cs : List Char) (acc n : Nat) (rest : List Char)
    (h : takeDigits acc cs = (n, rest)) :
    ∃ ds, cs = ds ++ rest ∧ (∀ x ∈ ds, isDigit x = true) ∧ notHead isDigit rest ∧
      n = Nat.ofDigitChars 10 ds acc := by
  rw [takeDigits_eq] at h
  cases h
  exact ⟨_, List.takeWhile_append_dropWhile.symm, List.all_eq_true.mp List.all_takeWhile,
    notHead_dropWhile _ _, rfl⟩

theorem takeIdent_spec (cs acc name rest : List Char) (h : takeIdent acc cs = (name, rest)) :
    ∃ xs, cs = xs ++ rest ∧ (∀ x ∈ xs, identCont x = true) ∧ notHead identCont rest ∧
      name = acc.reverse ++ xs := by
  rw [takeIdent_eq] at h
  cases h
  exact ⟨_, List.takeWhile_append_dropWhile.symm, List.all_eq_true.mp List.all_takeWhile,
    notHead_dropWhile _ _, rfl⟩

/-- `hlen`: a token has at least one character -/
theorem tokenizeAux_cons {cs rest : List Char} {t : Tok} {ts : List Tok}
    (hstep : ∀ f, tokenizeAux (f + 1) cs = (tokenizeAux f rest).map (t :: ·))
    (ih : ∀ f, rest.length < f → tokenizeAux f rest = some ts)
    (hlen : rest.length < cs.length := by simp <;> omega) :
    ∀ f, cs.length < f → tokenizeAux f cs = some (t :: ts) := by
  intro f hf
  obtain ⟨f', rfl⟩ : ∃ f', f = f' + 1 := ⟨f - 1, by omega⟩
  rw [hstep, ih f' (by omega)]
  rfl

theorem tokenizeAux_of_lex {cs : List Char} {ts : List Tok} (h : Lex cs ts) :
    ∀ f, cs.length < f → tokenizeAux f cs = some ts := by
  induction h with
  | nil =>
    intro f hf
    obtain ⟨f', rfl⟩ : ∃ f', f = f' + 1 := ⟨f - 1, by omega⟩
    rfl
  | space hc _ ih =>
    intro f hf
    obtain ⟨f', rfl⟩ : ∃ f', f = f' + 1 := ⟨f - 1, by omega⟩
    rw [tokenizeAux_space hc]
    exact ih f' (by simpa using hf)
  | num hds hr _ ih => exact tokenizeAux_cons (tokenizeAux_num hds hr) ih
  | ident hc hcs hr _ ih => exact tokenizeAux_cons (tokenizeAux_ident hc hcs hr) ih
  | dslash _ ih => exact tokenizeAux_cons (tokenizeAux_op .dslash nofun nofun) ih
  | dstar _ ih => exact tokenizeAux_cons (tokenizeAux_op .dstar nofun nofun) ih
  | slash hr _ ih => exact tokenizeAux_cons (tokenizeAux_op .slash (fun _ => hr) nofun) ih
  | star hr _ ih => exact tokenizeAux_cons (tokenizeAux_op .star nofun (fun _ => hr)) ih
  | plus _ ih => exact tokenizeAux_cons (tokenizeAux_op .plus nofun nofun) ih
  | minus _ ih => exact tokenizeAux_cons (tokenizeAux_op .minus nofun nofun) ih
  | percent _ ih => exact tokenizeAux_cons (tokenizeAux_op .percent nofun nofun) ih
  | lparen _ ih => exact tokenizeAux_cons tokenizeAux_lparen ih
  | rparen _ ih => exact tokenizeAux_cons tokenizeAux_rparen ih
  | comma _ ih => exact tokenizeAux_cons tokenizeAux_comma ih


theorem map_cons_eq_some {o : Option (List Tok)} {t : Tok} {ts : List Tok}
    (h : o.map (t :: ·) = some ts) : ∃ ts', o = some ts' ∧ ts = t :: ts' := by
  cases o with
  | none => simp at h
  | some x => exact ⟨x, rfl, by simpa using h.symm⟩

theorem lex_of_tokenizeAux : ∀ (f : Nat) (cs : List Char) (ts : List Tok),
    tokenizeAux f cs = some ts → Lex cs ts
  | 0, _, _, h => by simp [tokenizeAux] at h
  | f + 1, [], ts, h => by
    simp only [tokenizeAux, Option.some.injEq] at h
    subst h
    exact Lex.nil
  | f + 1, c :: cs, ts, h => by
    have ih := lex_of_tokenizeAux f
    rw [tokenizeAux.eq_def] at h
    dsimp only at h
    by_cases hsp : isSpace c = true
    · rw [if_pos hsp] at h
      exact Lex.space hsp (ih _ _ h)
    · rw [if_neg hsp] at h
      by_cases hd : isDigit c = true
      · rw [if_pos hd] at h
        cases htd : takeDigits 0 (c :: cs) with
        | mk n rest =>
          simp only [htd] at h
          obtain ⟨ts', h1, rfl⟩ := map_cons_eq_some h
          obtain ⟨ds, hcs, hds, hr, hn⟩ := takeDigits_spec _ _ _ _ htd
          rcases ds with _ | ⟨d, ds⟩
          · -- impossible: the first character is a digit, so the remainder cannot start with it
            simp only [List.nil_append] at hcs
            rw [← hcs] at hr
            simp [notHead, hd] at hr
          · rw [hcs, hn]
            exact Lex.num hds hr (ih _ _ h1)
      · rw [if_neg hd] at h
        by_cases hi : identStart c = true
        · rw [if_pos hi] at h
          cases hti : takeIdent [] (c :: cs) with
          | mk name rest =>
            simp only [hti] at h
            obtain ⟨ts', h1, rfl⟩ := map_cons_eq_some h
            obtain ⟨xs, hcs, hxs, hr, hn⟩ := takeIdent_spec _ _ _ _ hti
            rcases xs with _ | ⟨x, xs⟩
            · simp only [List.nil_append] at hcs
              rw [← hcs] at hr
              simp [notHead, identStart_cont hi] at hr
            · simp only [List.reverse_nil, List.nil_append] at hn
              have hx : x = c := by
                have := congrArg List.head? hcs
                simpa using this.symm
              subst hx
              rw [hcs, hn]
              exact Lex.ident hi (fun y hy => hxs y (by simp [hy])) hr (ih _ _ h1)
        · rw [if_neg hi] at h
          split at h
          · obtain ⟨ts', h1, rfl⟩ := map_cons_eq_some h
            exact Lex.dslash (ih _ _ h1)
          · obtain ⟨ts', h1, rfl⟩ := map_cons_eq_some h
            exact Lex.dstar (ih _ _ h1)
          · obtain ⟨ts', h1, rfl⟩ := map_cons_eq_some h
            exact Lex.plus (ih _ _ h1)
          · obtain ⟨ts', h1, rfl⟩ := map_cons_eq_some h
            exact Lex.minus (ih _ _ h1)
          · obtain ⟨ts', h1, rfl⟩ := map_cons_eq_some h
            rename_i hno
            refine Lex.star ?_ (ih _ _ h1)
            rcases cs with _ | ⟨c2, r⟩
            · trivial
            · simp only [notHead, beq_eq_false_iff_ne]
              rintro rfl
              exact hno _ rfl
          · obtain ⟨ts', h1, rfl⟩ := map_cons_eq_some h
            refine Lex.slash ?_ (ih _ _ h1)
            rcases cs with _ | ⟨c2, r⟩
            · trivial
            · simp only [notHead, beq_eq_false_iff_ne]
              rintro rfl
              simp_all
          · obtain ⟨ts', h1, rfl⟩ := map_cons_eq_some h
            exact Lex.percent (ih _ _ h1)
          · obtain ⟨ts', h1, rfl⟩ := map_cons_eq_some h
            exact Lex.lparen (ih _ _ h1)
          · obtain ⟨ts', h1, rfl⟩ := map_cons_eq_some h
            exact Lex.rparen (ih _ _ h1)
          · obtain ⟨ts', h1, rfl⟩ := map_cons_eq_some h
            exact Lex.comma (ih _ _ h1)
          · simp at h

theorem tokenize_iff_lex (cs : List Char) (ts : List Tok) : tokenize cs = some ts ↔ Lex cs ts :=
  ⟨lex_of_tokenizeAux _ cs ts, fun h => tokenizeAux_of_lex h _ (Nat.lt_succ_self _)⟩

theorem tokenize_of_tokenizeAux {g : Nat} {cs : List Char} {toks : List Tok}
    (h : tokenizeAux g cs = some toks) : tokenize cs = some toks :=
  (tokenize_iff_lex cs toks).mpr (lex_of_tokenizeAux g cs toks h)

theorem tokenizeAux_eq_tokenize {g : Nat} {cs : List Char} (hg : cs.length < g) :
    tokenizeAux g cs = tokenize cs := by
  cases ht : tokenize cs with
  | some toks => exact tokenizeAux_of_lex ((tokenize_iff_lex cs toks).mp ht) g hg
  | none =>
    cases hg2 : tokenizeAux g cs with
    | none => rfl
    | some toks => rw [tokenize_of_tokenizeAux hg2] at ht; cases ht

/-- the text after a token in `render`: nothing, or a space and more -/
def Sep (r : List Char) : Prop := r = [] ∨ ∃ r', r = ' ' :: r'

theorem Sep.notHead {p : Char → Bool} (hp : p ' ' = false) {r : List Char} (h : Sep r) :
    notHead p r := by
  rcases h with rfl | ⟨r', rfl⟩
  · trivial
  · exact hp

theorem Lex.tok {t : Tok} (ht : WfTok t) {r : List Char} (hr : Sep r) {ts : List Tok}
    (h : Lex r ts) : Lex (tokChars t ++ r) (t :: ts) := by
  cases t with
  | num n =>
    have hall := toDigits_isDigit n
    have hval : Nat.ofDigitChars 10 (Nat.toDigits 10 n) 0 = n := Nat.ofDigitChars_ten_toDigits
    have hne := Nat.toDigits_ne_nil (n := n) (b := 10)
    simp only [tokChars]
    generalize Nat.toDigits 10 n = ds at hne hall hval
    rcases ds with _ | ⟨d, ds⟩
    · exact absurd rfl hne
    · rw [← hval]
      exact Lex.num hall (hr.notHead (by decide)) h
  | ident s =>
    obtain ⟨c, cs, hs, hc, hcs⟩ := ht
    have hstr : s = String.ofList (c :: cs) := by rw [← hs]; simp
    simp only [tokChars, hs]
    rw [hstr]
    exact Lex.ident hc hcs (hr.notHead (by decide)) h
  | op o =>
    cases o
    · exact Lex.plus h
    · exact Lex.minus h
    · exact Lex.star (hr.notHead (by decide)) h
    · exact Lex.slash (hr.notHead (by decide)) h
    · exact Lex.dslash h
    · exact Lex.percent h
    · exact Lex.dstar h
  | lparen => exact Lex.lparen h
  | rparen => exact Lex.rparen h
  | comma => exact Lex.comma h

theorem lex_render : (ts : List Tok) → AllWf ts → Lex (render ts) ts
  | [], _ => Lex.nil
  | [t], h => by
    have := Lex.tok (h t (by simp)) (Or.inl rfl) Lex.nil
    simpa [render] using this
  | t :: t2 :: ts, h =>
    Lex.tok (h t (by simp)) (Or.inr ⟨_, rfl⟩)
      (Lex.space (by decide) (lex_render (t2 :: ts) (fun x hx => h x (by simp [hx]))))

theorem tokenize_render (ts : List Tok) (h : AllWf ts) : tokenize (render ts) = some ts :=
  (tokenize_iff_lex _ ts).mpr (lex_render ts h)

end IrVerif.SymExpr
