/-
C14.  First half: Model/Kernel's primitives, walked once for any relation that sees nothing but value names and
output lists (`Blind`, `BlindNew`); Lemmas/PassKernelOuts reuses the walk (`OE.frame`).  Second half: 'names of kept
objects are kept'.  A value that has a name keeps exactly that name through every public call the four programs of
Model/PassKernel2.lean issue, unless the call is `Value.name = ...` for this very value (`stepAny_NK`); `NInv` carries
this along a program.
-/
import IrVerif.Lemmas.PassKernel
import IrVerif.Lemmas.KernelFaithful
namespace IrVerif.PassKernel
open IrVerif.Kernel IrVerif.Kernel.World

/-- a relation between a world and a later one that sees nothing but value names and output lists: it is transitive
    and holds whenever both are the same -/
structure Blind (R : World → World → Prop) : Prop where
  same : ∀ {w w'}, (∀ u, (w'.val u).name = (w.val u).name) → (∀ g, (w'.gr g).outputs = (w.gr g).outputs) → R w w'
  trans : ∀ {a b c}, R a b → R b c → R a c

/-- ... that also holds across the creation of a value and the naming of a value that has no name -/
structure BlindNew (R : World → World → Prop) : Prop extends Blind R where
  alloc : ∀ w r, R w (allocVal w r).1
  nameNew : ∀ w v s, (w.val v).name = none → R w (setNamePlain w v s)

section
variable {R : World → World → Prop}

namespace Blind

/-- the kernel's frame of a primitive feeds the relation when its blanking spares names and output lists -/
theorem of_frame (F : Blind R) {bv : ValueS → ValueS} {bn : NodeS → NodeS} {bg : GraphS → GraphS} {w w' : World}
    (h : Kernel.Frame bv bn bg w w') (h1 : ∀ x, (bv x).name = x.name := by intro; rfl)
    (h2 : ∀ r, (bg r).outputs = r.outputs := by intro; rfl) : R w w' :=
  F.same (fun u => Kernel.Frame.keep _ h1 (h.val u)) (fun g => Kernel.Frame.keep _ h2 (h.gr g))

theorem refl (F : Blind R) (w : World) : R w w := F.same (fun _ => rfl) (fun _ => rfl)

theorem setVal (F : Blind R) (w : World) (v : Nat) (r : ValueS) (h : r.name = (w.val v).name) : R w (w.setVal v r) :=
  F.of_frame (Kernel.Frame.setVal (bv := fun x => { (default : ValueS) with name := x.name }) (bn := id) (bg := id) w v r
    (by rw [h]))

theorem setNode (F : Blind R) (w : World) (n : Nat) (r : NodeS) : R w (w.setNode n r) := F.same (fun _ => rfl) (fun _ => rfl)

theorem setGr (F : Blind R) (w : World) (g : Nat) (r : GraphS) (h : r.outputs = (w.gr g).outputs) : R w (w.setGr g r) :=
  F.of_frame (Kernel.Frame.setGr (bv := id) (bn := id) (bg := fun x => { (default : GraphS) with outputs := x.outputs }) w g r
    (by rw [h]))

theorem bump (F : Blind R) (w : World) : R w (bump w) := F.same (fun _ => rfl) (fun _ => rfl)

theorem noteName (F : Blind R) (w : World) (g : Nat) (s : Option String) : R w (noteName w g s) :=
  F.same (fun _ => by rw [val_noteName]) (fun _ => by rw [gr_noteName])

end Blind

theorem foldl_frame {β : Type} (F : Blind R) (f : World → β → World) (hf : ∀ w b, R w (f w b)) (l : List β) (w : World) :
    R w (l.foldl f w) :=
  ListFacts.foldl_rtrans R F.refl F.trans f (fun a b _ => hf a b) w

theorem iter_frame (F : Blind R) (f : World → World) (hf : ∀ w, R w (f w)) (k : Nat) (w : World) : R w (iter f k w) :=
  iter_inv (R w) f (fun a h => F.trans h (hf a)) k w (F.refl w)

theorem guardOp_frame (F : Blind R) {bad : Bool} {kind : String} {w w' : World} (h : bad = false → R w w') :
    R w (guardOp bad kind w w').1 := by
  unfold guardOp; split
  · exact F.refl w
  · rename_i hb
    split <;> exact h (by simpa using hb)

theorem andThen_frame (F : Blind R) (w : World) (r : World × Outcome) (f : World → World × Outcome) (h1 : R w r.1)
    (h2 : ∀ w1, R w1 (f w1).1) : R w (andThen r f).1 := by
  unfold andThen; split
  · exact F.trans h1 (h2 _)
  · exact h1

theorem setInput_frame (F : Blind R) (w : World) (n i : Nat) (nv : Option Nat) : R w (setInput w n i nv) :=
  F.of_frame (setInput_inputFrame w n i nv)


theorem rauwUses_frame (F : Blind R) (w : World) (v r : Nat) : R w (rauwUses w v r) := by
  unfold rauwUses
  exact foldl_frame F _ (fun w (u : Nat × Nat) => setInput_frame F w u.1 u.2 (some r)) _ w

theorem detachInputs_frame (F : Blind R) (w : World) (n : Nat) : R w (detachInputs w n) := by
  unfold detachInputs
  exact foldl_frame F _ (fun w i => setInput_frame F w n i none) _ w

theorem nodeUnlink_frame (F : Blind R) (w : World) (g n : Nat) : R w (nodeUnlink w g n) :=
  F.of_frame (nodeUnlink_nodeFrame w g n)


theorem nodeLink_frame (F : Blind R) (w : World) (g : Nat) (a : Option Nat) (n : Nat) : R w (nodeLink w g a n) :=
  F.of_frame (nodeLink_nodeFrame w g a n)


theorem registerNode_frame (F : Blind R) (w : World) (g n : Nat) : R w (registerNode w g n) := by
  unfold registerNode; split
  · exact F.setGr _ _ _ rfl
  · simp only []; exact F.trans (F.setGr _ _ _ (by rfl)) (F.setNode _ _ _)

theorem unsetInit_frame (F : Blind R) (w : World) (v : Nat) : R w (unsetInit w v) := by
  unfold unsetInit; exact F.setVal _ _ _ rfl

theorem initDel_frame (F : Blind R) (w : World) (g : Nat) (key : String) : R w (initDel w g key) := by
  unfold initDel; split
  · exact F.bump w
  · exact F.trans (unsetInit_frame F w _) (F.setGr _ _ _ (by rfl))

/-- the part of `initPut` after the value got its name -/
theorem initPut_tail_frame (F : Blind R) (w1 : World) (g : Nat) (key : String) (v : Nat) :
    R w1 (let w2 := match lookupInit (w1.gr g).inits key with
            | some old => unsetInit w1 old
            | none => w1
          let w3 := w2.setVal v { w2.val v with isInit := true, graph := some g }
          noteName (w3.setGr g { w3.gr g with inits := dictSet (w3.gr g).inits key v }) g (some key)) := by
  simp only []
  refine F.trans ?_ (F.noteName _ _ _)
  refine F.trans ?_ (F.setGr _ _ _ (by rfl))
  refine F.trans ?_ (F.setVal _ _ _ (by rfl))
  split
  · exact unsetInit_frame F w1 _
  · exact F.refl w1

theorem attachOutput_frame (F : Blind R) (w : World) (n v : Nat) : R w (attachOutput w n v) :=
  F.of_frame (attachOutput_outputFrame w n v)


theorem graphRemove_frame (F : Blind R) (w : World) (g : Nat) (ns : List Nat) (safe : Bool) :
    R w (graphRemove w g ns safe).1 := by
  unfold graphRemove
  refine guardOp_frame F (fun _ => foldl_frame F _ (fun w n => ?_) _ _)
  refine F.trans ?_ (nodeUnlink_frame F _ g n)
  split
  · exact detachInputs_frame F w n
  · exact F.refl w

theorem addOutput_frame (F : BlindNew R) (w : World) (n : Nat) : R w (addOutput w n) := by
  unfold addOutput
  exact F.trans (F.alloc w {}) (attachOutput_frame F.toBlind _ _ _)

theorem newNodeMut_frame (F : BlindNew R) (w : World) (opType : String) (name : Option String)
    (inputs : List (Option Nat)) (numOutputs : Option Int) (outputs : Option (List Nat)) :
    R w (newNodeMut w opType name inputs numOutputs outputs) := by
  unfold newNodeMut; simp only []
  refine F.trans ?_ (foldl_frame F.toBlind _ (fun w (p : Nat × Option Nat) => setInput_frame F.toBlind w _ p.1 p.2) _ _)
  split
  · exact F.trans (F.setNode w _ _) (foldl_frame F.toBlind _ (fun w v => attachOutput_frame F.toBlind w _ v) _ _)
  · exact F.trans (F.setNode w _ _) (iter_frame F.toBlind _ (fun w => addOutput_frame F w _) _ _)

theorem registerValue_frame (F : BlindNew R) (w : World) (g v : Nat) : R w (registerValue w g v) := by
  unfold registerValue
  split
  · exact F.setGr _ _ _ rfl
  · rename_i hnone
    simp only []
    split
    · exact F.trans (F.setGr _ _ _ (by rfl)) (F.bump _)
    · exact F.trans (F.setGr _ _ _ (by rfl)) (F.nameNew _ v _ (by exact hnone))

theorem assignNames_frame (F : BlindNew R) (w : World) (g n : Nat) : R w (assignNames w g n) := by
  unfold assignNames
  exact F.trans (registerNode_frame F.toBlind w g n) (foldl_frame F.toBlind _ (fun w o => registerValue_frame F w g o) _ _)

theorem linkMany_frame (F : BlindNew R) (w : World) (g : Nat) (anchor : Option Nat) (ns : List Nat) :
    R w (linkMany w g anchor ns) := by
  unfold linkMany
  exact foldl_inv (fun p : World × Option Nat => R w p.1) _
    (fun p n hp => F.trans hp (F.trans (assignNames_frame F p.1 g n) (nodeLink_frame F.toBlind _ g p.2 n)))
    ns (w, anchor) (F.refl w)

theorem graphInsertBefore_frame (F : BlindNew R) (w : World) (g a : Nat) (ns : List Nat) :
    R w (graphInsertBefore w g a ns).1 := by
  unfold graphInsertBefore
  exact guardOp_frame F.toBlind (fun _ => linkMany_frame F w g _ ns)

theorem newValue_frame (F : BlindNew R) (w : World) (name : Option String) : R w (newValue w name).1 := by
  unfold newValue
  exact guardOp_frame F.toBlind (fun _ => F.alloc w _)

theorem newNode_frame (F : BlindNew R) (w : World) (opType : String) (name : Option String) (inputs : List (Option Nat))
    (numOutputs : Option Int) (outputs : Option (List Nat)) :
    R w (newNode w opType name inputs numOutputs outputs none).1 := by
  unfold newNode
  exact guardOp_frame F.toBlind (fun _ => newNodeMut_frame F w opType name inputs numOutputs outputs)

end

def NE (w w' : World) : Prop := ∀ u, (w'.val u).name = (w.val u).name
/-- `x = none`: every value -/
def NK (x : Option Nat) (w w' : World) : Prop :=
  ∀ u nm, x ≠ some u → (w.val u).name = some nm → (w'.val u).name = some nm

theorem NE.nk {w w' : World} (h : NE w w') (x : Option Nat) : NK x w w' := fun u nm _ hn => by rw [h u]; exact hn
theorem NK.refl (x : Option Nat) (w : World) : NK x w w := fun _ _ _ h => h
theorem NK.trans {x : Option Nat} {a b c : World} (h1 : NK x a b) (h2 : NK x b c) : NK x a c :=
  fun u nm hx hn => h2 u nm hx (h1 u nm hx hn)
theorem NK.weaken {w w' : World} (h : NK none w w') (x : Option Nat) : NK x w w' :=
  fun u nm _ hn => h u nm (by simp) hn

theorem NE.frame : Blind NE where
  same h _ := h
  trans h1 h2 u := (h2 u).trans (h1 u)

theorem setNamePlain_NK (w : World) (v : Nat) (s : Option String) : NK (some v) w (setNamePlain w v s) := by
  intro u nm hx hn
  rw [setNamePlain_val]; split
  · subst_vars; simp at hx
  · exact hn

theorem NK.frame (x : Option Nat) : BlindNew (NK x) where
  same h _ := NE.nk h x
  trans := NK.trans
  alloc w r u nm _ hn := by
    unfold allocVal; simp only [val_setVal]
    split
    · subst_vars; rw [val_fresh w _ (Nat.le_refl _)] at hn; simp at hn
    · exact hn
  nameNew w v s hnone u nm _ hn := by
    rw [setNamePlain_val]; split
    · subst_vars; rw [hnone] at hn; simp at hn
    · exact hn

theorem NE.of_frame {bv : ValueS → ValueS} {bn : NodeS → NodeS} {bg : GraphS → GraphS} {w w' : World}
    (h : Kernel.Frame bv bn bg w w') (h1 : ∀ x, (bv x).name = x.name := by intro; rfl) : NE w w' :=
  fun u => Kernel.Frame.keep _ h1 (h.val u)

theorem ioInsert_NE (w : World) (g : Nat) (k : IOKind) (pos v : Nat) : NE w (ioInsert w g k pos v) :=
  NE.of_frame (ioInsert_ioFrame w g k pos v)

theorem ioRemoveAt_NE (w : World) (g : Nat) (k : IOKind) (pos : Nat) : NE w (ioRemoveAt w g k pos) :=
  NE.of_frame (ioRemoveAt_ioFrame w g k pos)

theorem ioReplaceMany_NE (w : World) (g : Nat) (k : IOKind) (ps vs : List Nat) : NE w (ioReplaceMany w g k ps vs) := by
  unfold ioReplaceMany
  exact foldl_frame NE.frame _
    (fun w (p : Nat × Nat) => NE.frame.trans (ioRemoveAt_NE w g k p.1) (ioInsert_NE _ g k p.1 p.2)) _ w

theorem initPut_NK (w : World) (g : Nat) (key : String) (v : Nat) : NK (some v) w (initPut w g key v) := by
  unfold initPut; split
  · have h1 : NK (some v) w (if falsy (w.val v).name then setNamePlain w v (some key) else w) := by
      split
      · exact setNamePlain_NK w v _
      · exact NK.refl _ w
    exact NK.trans h1 ((initPut_tail_frame NE.frame _ g key v).nk _)
  · exact (NE.frame.bump w).nk _

theorem initPut_NE (w : World) (g : Nat) (key : String) (v : Nat) (hf : falsy (w.val v).name = false) :
    NE w (initPut w g key v) := by
  unfold initPut; split
  · have h1 : (if falsy (w.val v).name then setNamePlain w v (some key) else w) = w := by simp [hf]
    have := initPut_tail_frame NE.frame (if falsy (w.val v).name then setNamePlain w v (some key) else w) g key v
    rw [h1] at this
    simp only [h1]
    exact this
  · exact NE.frame.bump w

theorem rauw_NK (w : World) (v r : Nat) (rgo : Bool) : NK none w (rauw w v r rgo).1 := by
  unfold rauw; simp only []
  refine guardOp_frame (NK.frame none).toBlind (fun _ => ?_)
  refine NK.trans ?_ (rauwUses_frame (NK.frame none).toBlind _ v r)
  split
  · exact (ioReplaceMany_NE _ _ _ _ _).nk _
  · exact NK.refl _ _

theorem rauwSeq_NK (rgo : Bool) : ∀ (ps : List (Nat × Nat)) (w : World), NK none w (rauwSeq w rgo ps).1
  | [], w => NK.refl _ w
  | (v, r) :: rest, w => by
    simp only [rauwSeq]
    exact andThen_frame (NK.frame none).toBlind w _ _ (rauw_NK w v r rgo) (fun w1 => rauwSeq_NK rgo rest w1)

theorem rauwMany_NK (w : World) (vs rs : List Nat) (rgo : Bool) : NK none w (rauwMany w vs rs rgo).1 := by
  unfold rauwMany; split
  · exact NK.refl _ w
  · exact rauwSeq_NK rgo _ w

theorem rauwManyExact_NK (w : World) (vs rs : List Nat) (rgo : Bool) : NK none w (rauwManyExact w vs rs rgo).1 := by
  unfold rauwManyExact; split
  · exact NK.refl _ w
  · exact guardOp_frame (NK.frame none).toBlind (fun _ => rauwSeq_NK rgo _ w)

theorem graphRemove_NK (w : World) (g : Nat) (ns : List Nat) (safe : Bool) : NK none w (graphRemove w g ns safe).1 :=
  graphRemove_frame (NK.frame none).toBlind w g ns safe

theorem graphInsertBefore_NK (w : World) (g a : Nat) (ns : List Nat) : NK none w (graphInsertBefore w g a ns).1 :=
  graphInsertBefore_frame (NK.frame none) w g a ns

theorem newValue_NK (w : World) (name : Option String) : NK none w (newValue w name).1 :=
  newValue_frame (NK.frame none) w name

theorem newNode_NK (w : World) (opType : String) (name : Option String) (inputs : List (Option Nat))
    (numOutputs : Option Int) (outputs : Option (List Nat)) :
    NK none w (newNode w opType name inputs numOutputs outputs none).1 :=
  newNode_frame (NK.frame none) w opType name inputs numOutputs outputs

theorem setConst_NK (w : World) (v : Nat) (locked : Bool) : NK none w (setConst w v locked).1 := by
  unfold setConst; simp only []
  refine guardOp_frame (NK.frame none).toBlind (fun _ => ?_)
  intro u nm _ hn
  rw [val_setVal]; split
  · subst_vars; exact hn
  · exact hn

theorem ioSetItem_NK (w : World) (g : Nat) (k : IOKind) (i : Int) (v : Nat) : NK none w (ioMut w g k (.setItem i v)).1 := by
  simp only [ioMut]
  refine guardOp_frame (NK.frame none).toBlind (fun _ => ?_)
  unfold atPos; split
  · exact (NE.frame.trans (ioRemoveAt_NE w g k _) (ioInsert_NE _ g k _ v)).nk _
  · exact (NE.frame.bump w).nk _

theorem initPop_NK (w : World) (g : Nat) (key : String) : NK none w (initMut w g (.pop key)).1 := by
  simp only [initMut]
  exact guardOp_frame (NK.frame none).toBlind (fun _ => initDel_frame (NK.frame none).toBlind w g key)

theorem initRegister_NK (w : World) (g v : Nat) : NK none w (initMut w g (.register v)).1 := by
  simp only [initMut]
  refine guardOp_frame (NK.frame none).toBlind (fun hb => ?_)
  refine (initPut_NE w g _ v ?_).nk _
  simp only [Bool.or_eq_false_iff] at hb
  obtain ⟨⟨⟨⟨h1, h2⟩, _⟩, _⟩, _⟩ := hb  -- the five guards of `.register`; `h1`: a name, `h2`: not the empty one
  cases hn : (w.val v).name with
  | none => simp [hn] at h1
  | some s =>
    simp only [hn, Option.getD_some, decide_eq_false_iff_not] at h2
    simp [falsy, h2]

theorem setName_NK (w : World) (v : Nat) (s : Option String) : NK (some v) w (setName w v s).1 := by
  unfold setName; simp only []
  refine guardOp_frame (NK.frame (some v)).toBlind (fun _ => ?_)
  split
  · exact NK.refl _ w
  · split
    · split
      · exact ((initDel_frame (NK.frame (some v)).toBlind w _ _).trans (setNamePlain_NK _ v _)).trans (initPut_NK _ _ _ v)
      · exact NK.refl _ w
    · exact setNamePlain_NK w v s

/-- the calls the programs of Model/PassKernel2.lean issue, with the value they may rename: `none` = outside the class -/
def nameTarget : AnyOp → Option (Option Nat)
  | .one (.newValue _) => some none
  | .one (.setConst _ _) => some none
  | .one (.newNode _ _ _ _ _ none) => some none
  | .one (.io _ _ (.setItem _ _)) => some none
  | .one (.insertBefore _ _ _) => some none
  | .one (.setName v _) => some (some v)
  | .one (.remove _ _ _) => some none
  | .one (.rauw _ _ _) => some none
  | .one (.init _ (.register _)) => some none
  | .one (.init _ (.pop _)) => some none
  | .conv (.rauwMany _ _ _) => some none
  | .conv (.rauwManyExact _ _ _) => some none
  | _ => none

theorem stepAny_NK (w : World) (op : AnyOp) (x : Option Nat) (h : nameTarget op = some x) : NK x w (stepAny w op).1 := by
  unfold nameTarget at h
  split at h <;> simp only [Option.some.injEq, reduceCtorEq] at h <;> subst h <;> simp only [stepAny, step, stepConv]
  · exact newValue_NK w _
  · exact setConst_NK w _ _
  · exact newNode_NK w _ _ _ _ _
  · exact ioSetItem_NK w _ _ _ _
  · exact graphInsertBefore_NK w _ _ _
  · exact setName_NK w _ _
  · exact graphRemove_NK w _ _ _
  · exact rauw_NK w _ _ _
  · exact initRegister_NK w _ _
  · exact initPop_NK w _ _
  · exact rauwMany_NK w _ _ _
  · exact rauwManyExact_NK w _ _ _

/-- along a program started in `w0`: a value that had a name keeps exactly that name as long as the program issued no
    `Value.name = ...` for it; every call is one of the calls `nameTarget` knows; with `strict`: the only values the
    program renames are values that had no name at the start (values it created itself) -/
structure NInv (strict : Bool) (w0 : World) (s : KSt) : Prop where
  kept : ∀ u nm, (w0.val u).name = some nm → (∀ t, AnyOp.one (.setName u t) ∉ s.trace) → (s.w.val u).name = some nm
  cls : ∀ op ∈ s.trace, (nameTarget op).isSome = true
  tgt : strict = true → ∀ u t, AnyOp.one (.setName u t) ∈ s.trace → (w0.val u).name = none

theorem NInv.init (strict : Bool) (w : World) : NInv strict w (KSt.init w) :=
  ⟨fun _ _ h _ => h, fun _ h => by simp at h, fun _ _ _ h => by simp at h⟩

theorem NInv.fail {strict : Bool} {w0 : World} {s : KSt} (h : NInv strict w0 s) : NInv strict w0 s.fail :=
  ⟨h.kept, h.cls, h.tgt⟩

theorem nameTarget_some {op : AnyOp} {u : Nat} (h : nameTarget op = some (some u)) : ∃ t, op = .one (.setName u t) := by
  unfold nameTarget at h
  split at h <;> simp only [Option.some.injEq, reduceCtorEq] at h
  subst h
  exact ⟨_, rfl⟩

theorem NInv.call_gen {strict : Bool} {w0 : World} {s : KSt} (h : NInv strict w0 s) (op : AnyOp)
    (hop : (nameTarget op).isSome = true)
    (ht : strict = true → ∀ u t, op = .one (.setName u t) → (w0.val u).name = none) : NInv strict w0 (s.call op) := by
  unfold KSt.call
  split
  · exact h
  · refine ⟨fun u nm hn hnot => ?_, fun o ho => ?_, fun hs u t hm => ?_⟩
    · have h1 := h.kept u nm hn (fun t ht => hnot t (List.mem_cons_of_mem _ ht))
      obtain ⟨x, hx⟩ := Option.isSome_iff_exists.1 hop
      refine stepAny_NK s.w op x hx u nm (fun hxu => ?_) h1
      subst hxu
      obtain ⟨t, rfl⟩ := nameTarget_some hx
      exact hnot t List.mem_cons_self
    · rcases List.mem_cons.1 ho with rfl | ho
      · exact hop
      · exact h.cls o ho
    · rcases List.mem_cons.1 hm with hm | hm
      · exact ht hs u t hm.symm
      · exact h.tgt hs u t hm

theorem NInv.call {strict : Bool} {w0 : World} {s : KSt} (h : NInv strict w0 s) (op : AnyOp)
    (hop : nameTarget op = some none) : NInv strict w0 (s.call op) :=
  h.call_gen op (by rw [hop]; rfl) (fun _ u t he => by subst he; simp [nameTarget] at hop)

theorem NInv.call_setName {w0 : World} {s : KSt} (h : NInv false w0 s) (v : Nat) (t : Option String) :
    NInv false w0 (s.call (.one (.setName v t))) :=
  h.call_gen _ rfl (fun hs => by simp at hs)

theorem NInv.call_setName_new {strict : Bool} {w0 : World} {s : KSt} (h : NInv strict w0 s) (v : Nat) (t : Option String)
    (hv : (w0.val v).name = none) : NInv strict w0 (s.call (.one (.setName v t))) :=
  h.call_gen _ rfl (fun _ u t' he => by
    have : u = v := by injection he with he; injection he with he; exact he.symm
    subst this; exact hv)

/-- the id the next constructor call allocates belonged to no named value at the start -/
theorem NInv.fresh_unnamed {w0 : World} {s : KSt} (h : NInv true w0 s) : (w0.val s.w.vals.length).name = none := by
  cases hn : (w0.val s.w.vals.length).name with
  | none => rfl
  | some nm =>
    by_cases hex : ∃ t, AnyOp.one (.setName s.w.vals.length t) ∈ s.trace
    · obtain ⟨t, ht⟩ := hex
      rw [h.tgt rfl _ t ht] at hn; simp at hn
    · have := h.kept _ nm hn (fun t ht => hex ⟨t, ht⟩)
      rw [val_fresh s.w _ (Nat.le_refl _)] at this
      simp at this

theorem cseOutputsK_ninv (w0 : World) (s : KSt) (g n : Nat) (rvs nvs : List Nat) (h : NInv false w0 s) :
    NInv false w0 (cseOutputsK s g n rvs nvs) := by
  rw [cseOutputsK_eq]
  refine foldl_inv (fun p : KSt × List (Nat × Nat) => NInv false w0 p.1) _ (fun p io hp => ?_) _ _ h
  exact cseOutStep_elim (P := fun r => NInv false w0 r.1) hp (fun _ _ _ => hp.call _ rfl)
    (fun _ _ => (((hp.call _ rfl).call _ rfl).call _ rfl).call _ rfl) (fun _ _ _ => (hp.call_setName _ _).call _ rfl)

theorem cseReplaceK_ninv (w0 : World) (exact : Bool) (s : KSt) (g n : Nat) (rvs nvs : List Nat) (h : NInv false w0 s) :
    NInv false w0 (cseReplaceK exact s g n rvs nvs) := by
  unfold cseReplaceK
  refine NInv.call (NInv.call ?_ _ (by cases exact <;> rfl)) _ rfl
  split
  · exact cseOutputsK_ninv w0 s g n rvs nvs h
  · exact h

theorem cseModelK_ninv (exact : Bool) (akey : Nat → Option Nat) (w : World) (g : Nat) :
    NInv false w (cseModelK exact akey w g).1 :=
  cseModelK_ind (P := fun s _ => NInv false w s) (fun p n hp => cseStepK_elim (P := fun r => NInv false w r.1) hp (fun _ => hp)
      (fun _ => cseReplaceK_ninv w exact p.1 g n _ _ hp)) w
    (NInv.init false w)

/-! ## LiftConstants: renames only the values it creates -/

theorem lcNodeK_ninv (w0 : World) (liftAll : Bool) (big tnamed : Nat → Bool) (p : KSt × Nat) (n : Nat)
    (h : NInv true w0 p.1) : NInv true w0 (lcNodeK liftAll big tnamed p n).1 := by
  refine lcNodeK_elim (P := fun r => NInv true w0 r.1) h h.fail (fun g o nm => ?_)
  unfold lcLift
  refine NInv.call (NInv.call (NInv.call ?_ _ rfl) _ rfl) _ rfl
  split
  · exact ((h.call _ rfl).call _ rfl).call_setName_new _ _ h.fresh_unnamed
  · exact (h.call _ rfl).call _ rfl

theorem lcModelK_ninv (liftAll : Bool) (big tnamed : Nat → Bool) (fuel : Nat) (w : World) (g : Nat) :
    NInv true w (lcModelK liftAll big tnamed fuel w g).1 :=
  lcGraphK_ind (P := fun p => NInv true w p.1) (fun p n hp => lcNodeK_ninv w liftAll big tnamed p n hp) fuel _ g
    (NInv.init true w)

theorem lsiModelK_ninv (fuel : Nat) (w : World) (g : Nat) : NInv false w (lsiModelK fuel w g).1 :=
  lsiModelK_ind (P := fun s _ => NInv false w s)
    (fun _ _ _ _ _ hp => lsiInitK_elim (P := fun r => NInv false w r.1) hp hp.fail (hp.call _ rfl).fail
      (fun _ _ _ _ _ => ((hp.call _ rfl).call_setName _ _).call _ rfl)) fuel w (NInv.init false w)

/-! ## Deduplicate: renames nothing -/

theorem ddModelK_ninv (hkey tkey : Nat → Option Nat) (fuel : Nat) (w : World) (g : Nat) :
    NInv true w (ddModelK hkey tkey fuel w g).1 :=
  ddModelK_ind (P := fun s _ => NInv true w s)
    (fun _ _ _ hp => ddInitK_elim (P := fun r => NInv true w r.1) hp (fun _ => hp) (fun _ => (hp.call _ rfl).fail)
      (fun _ _ => (hp.call _ rfl).call _ rfl)) fuel w g
    (NInv.init true w)

theorem NInv.all_kept {w0 : World} {s : KSt} (h : NInv true w0 s) (u : Nat) (nm : String)
    (hn : (w0.val u).name = some nm) : (s.w.val u).name = some nm :=
  h.kept u nm hn (fun t ht => by rw [h.tgt rfl u t ht] at hn; simp at hn)

end IrVerif.PassKernel
