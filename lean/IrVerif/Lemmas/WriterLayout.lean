/-
C09 on top of C07: the configuration `planCfg` builds from the arguments of a save (Model/WriterPlan.lean)
satisfies `WriterN.Layout` (pairwise disjoint ranges — from `Layout.computeInfosFrom_pairwise`, the lemma
behind `C07_disjoint`) and `Prealloc` (zero start image, as long as the last end — from
`Layout.totalSize_eq_layoutEnd`), the two hypotheses of the byte-identity theorems of C09.  A bare
`Layout cfg` is the structure of Model/WriterN.lean; `Layout.` with a dot is the namespace of C07's model.
-/
import IrVerif.Lemmas.Layout
import IrVerif.Lemmas.WriterNFiles
import IrVerif.Model.WriterPlan
namespace IrVerif.WriterN
open IrVerif.Layout (Info computeInfos computeInfosFrom layoutEnd layoutEndFrom alignOffset totalSize)

/-! ### the preallocation step -/

theorem preallocImage_eq (al : Option Nat) (athr : Nat) (sh : List TSpec) (old : List Nat) :
    preallocImage al athr sh old = List.replicate (layoutEnd al athr (sh.map TSpec.nbytes)) 0 := by
  simp [preallocImage, truncate, openWb, fileInfos, Layout.totalSize_eq_layoutEnd]

/-! ### one data file -/

def toInfo (t : Tensor) : Info := ⟨t.off, t.data.length⟩

theorem placeZip_infos (file : Nat) (jobOf : Nat → Nat) (al : Option Nat) (athr : Nat) :
    ∀ (sh : List TSpec) (k cur : Nat),
      (placeZip file jobOf k (computeInfosFrom al athr cur (sh.map TSpec.nbytes)) sh).map toInfo =
        computeInfosFrom al athr cur (sh.map TSpec.nbytes)
  | [], _, _ => rfl
  | t :: rest, k, cur => by
      simp only [List.map_cons, computeInfosFrom, placeZip, toInfo]
      rw [placeZip_infos file jobOf al athr rest]
      rfl

theorem placeFile_infos (al : Option Nat) (athr : Nat) (file : Nat) (jobOf : Nat → Nat) (sh : List TSpec) :
    (placeFile al athr file jobOf sh).map toInfo = computeInfos al athr (sh.map TSpec.nbytes) :=
  placeZip_infos file jobOf al athr sh 0 0

theorem placeZip_file (file : Nat) (jobOf : Nat → Nat) : ∀ (infs : List Info) (sh : List TSpec) (k : Nat),
    ∀ t ∈ placeZip file jobOf k infs sh, t.file = file
  | [], _, _ => by intro t h; simp [placeZip] at h
  | _ :: _, [], _ => by intro t h; simp [placeZip] at h
  | inf :: infs, x :: sh, k => by
      intro t h
      simp only [placeZip, List.mem_cons] at h
      rcases h with rfl | h
      · rfl
      · exact placeZip_file file jobOf infs sh (k + 1) t h

theorem placeFile_file (al : Option Nat) (athr : Nat) (file : Nat) (jobOf : Nat → Nat) (sh : List TSpec) :
    ∀ t ∈ placeFile al athr file jobOf sh, t.file = file :=
  placeZip_file file jobOf _ sh 0

theorem placeFile_pairwise (al : Option Nat) (athr : Nat) (file : Nat) (jobOf : Nat → Nat)
    (sh : List TSpec) :
    (placeFile al athr file jobOf sh).Pairwise (fun a b => a.off + a.data.length ≤ b.off) := by
  have h : (computeInfos al athr (sh.map TSpec.nbytes)).Pairwise _ :=
    Layout.computeInfosFrom_pairwise al athr 0 _
  rw [← placeFile_infos al athr file jobOf sh, List.pairwise_map] at h
  exact h

theorem placeFile_pairwise_sameFile (al : Option Nat) (athr : Nat) (file : Nat) (jobOf : Nat → Nat)
    (sh : List TSpec) :
    (placeFile al athr file jobOf sh).Pairwise
      (fun a b => a.file = b.file → a.off + a.data.length ≤ b.off) :=
  List.Pairwise.imp (S := fun (a b : Tensor) => a.file = b.file → a.off + a.data.length ≤ b.off)
    (fun h _ => h) (placeFile_pairwise al athr file jobOf sh)

theorem placeFile_end (al : Option Nat) (athr : Nat) (file : Nat) (jobOf : Nat → Nat) (sh : List TSpec) :
    layoutEnd al athr (sh.map TSpec.nbytes) = 0 ∨
      ∃ t ∈ placeFile al athr file jobOf sh, t.data ≠ [] ∧
        layoutEnd al athr (sh.map TSpec.nbytes) = t.off + t.data.length := by
  rcases Layout.layoutEndFrom_attained al athr (sh.map TSpec.nbytes) 0 with h | ⟨inf, hm, h1, h2⟩
  · exact Or.inl h
  · right
    have hm' : inf ∈ (placeFile al athr file jobOf sh).map toInfo := by
      rw [placeFile_infos]; exact hm
    obtain ⟨t, ht, rfl⟩ := List.mem_map.1 hm'
    refine ⟨t, ht, ?_, h2.symm⟩
    intro e; apply h1; simp [toInfo, e]

/-! ### what the byte theorems need, on lists -/

/-- tensors and start images of the data files `j, j+1, ..` of a plan: ranges in one file are ordered
    and disjoint, every tensor goes to one of these files, every start image is all zeros and as long
    as the end of some non-empty tensor of that file (or empty) -/
structure PlanOK (j : Nat) (tensors : List Tensor) (files : List (List Nat)) : Prop where
  pw : tensors.Pairwise (fun a b => a.file = b.file → a.off + a.data.length ≤ b.off)
  range : ∀ t ∈ tensors, j ≤ t.file ∧ t.file < j + files.length
  zeros : ∀ f ∈ files, ∀ b ∈ f, b = 0
  tight : ∀ φ, (files.getD φ []).length = 0 ∨
    ∃ t ∈ tensors, t.file = j + φ ∧ t.data ≠ [] ∧ (files.getD φ []).length = t.off + t.data.length

theorem PlanOK.nil (j : Nat) : PlanOK j [] [] :=
  ⟨List.Pairwise.nil, fun _ h => (nomatch h), fun _ h => (nomatch h), fun _ => Or.inl rfl⟩

theorem PlanOK.cons {j : Nat} {ts seg : List Tensor} {files : List (List Nat)} {f : List Nat}
    (H : PlanOK (j + 1) ts files)
    (hpw : seg.Pairwise (fun a b => a.file = b.file → a.off + a.data.length ≤ b.off))
    (hfile : ∀ t ∈ seg, t.file = j) (hz : ∀ b ∈ f, b = 0)
    (ht : f.length = 0 ∨ ∃ t ∈ seg, t.data ≠ [] ∧ f.length = t.off + t.data.length) :
    PlanOK j (seg ++ ts) (f :: files) := by
  refine ⟨List.pairwise_append.2 ⟨hpw, H.pw, fun a ha b hb hf => ?_⟩, fun t ht' => ?_,
    fun g hg => ?_, fun φ => ?_⟩
  · -- a later file is a later index
    have := (H.range b hb).1; have := hfile a ha; omega
  · rw [List.length_cons]
    rcases List.mem_append.1 ht' with h | h
    · rw [hfile t h]; omega
    · have := H.range t h; omega
  · rcases List.mem_cons.1 hg with rfl | hg
    · exact hz
    · exact H.zeros g hg
  · cases φ with
    | zero =>
        rcases ht with h | ⟨t, hts, hd, he⟩
        · exact Or.inl h
        · exact Or.inr ⟨t, List.mem_append_left _ hts, hfile t hts, hd, he⟩
    | succ φ =>
        rw [List.getD_cons_succ]
        rcases H.tight φ with h | ⟨t, hts, hf, hd, he⟩
        · exact Or.inl h
        · exact Or.inr ⟨t, List.mem_append_right _ hts, by omega, hd, he⟩

theorem cfg_get {cfg : Cfg} {i : Nat} (hi : i < cfg.n) :
    cfg.tensors.getD i default = cfg.tensors[i]'hi := by
  have hi' : i < cfg.tensors.length := hi
  rw [List.getD_eq_getElem?_getD, List.getElem?_eq_getElem hi']; rfl

theorem layout_of_planOK {cfg : Cfg} (h : PlanOK 0 cfg.tensors cfg.files) : Layout cfg := by
  refine ⟨fun i hi => ?_, ?_⟩
  · simp only [Cfg.file, cfg_get hi]
    simpa using (h.range _ (List.getElem_mem _)).2
  · have key : ∀ i j, i < j → (hj : j < cfg.n) → cfg.file i = cfg.file j →
        cfg.off i + (cfg.data i).length ≤ cfg.off j := by
      intro i j hij hj hf
      have hi : i < cfg.n := by omega
      have := (List.pairwise_iff_getElem.1 h.pw) i j hi hj hij
      simp only [Cfg.file, Cfg.off, Cfg.data, cfg_get hi, cfg_get hj] at hf ⊢
      exact this hf
    intro i j hi hj hne hf
    rcases Nat.lt_or_gt_of_ne hne with hlt | hlt
    · exact Or.inl (key i j hlt hj hf)
    · exact Or.inr (key j i hlt hi hf.symm)

theorem prealloc_of_planOK {cfg : Cfg} (h : PlanOK 0 cfg.tensors cfg.files) : Prealloc cfg := by
  refine ⟨fun φ k => ?_, fun φ => ?_⟩
  · simp only [getB, List.getD_eq_getElem?_getD]
    cases hf : cfg.files[φ]? with
    | none => simp
    | some f =>
        simp only [Option.getD_some]
        cases hk : f[k]? with
        | none => rfl
        | some b =>
            have := h.zeros f (List.mem_of_getElem? hf) b (List.mem_of_getElem? hk)
            simp [this]
  · rcases h.tight φ with e | ⟨t, ht, hf, hd, e⟩
    · exact Or.inl e
    · right
      obtain ⟨i, hi, rfl⟩ := List.mem_iff_getElem.1 ht
      have hi' : i < cfg.n := hi
      refine ⟨i, hi', ?_, ?_, ?_⟩
      · simp only [Cfg.file, cfg_get hi']; exact hf.trans (Nat.zero_add φ)
      · simp only [Cfg.data, cfg_get hi']; exact hd
      · simp only [Cfg.off, Cfg.data, cfg_get hi']; exact e

/-! ### the single-file writer -/

theorem replicate_zeros (n : Nat) : ∀ b ∈ List.replicate n 0, b = 0 := by
  intro b hb; exact (List.mem_replicate.1 hb).2

theorem PlanOK.cons_file (al : Option Nat) (athr : Nat) {j : Nat} {ts : List Tensor}
    {files : List (List Nat)} (jobOf : Nat → Nat) (sh : List TSpec) (par : Bool)
    (H : PlanOK (j + 1) ts files) :
    PlanOK j (placeFile al athr j jobOf sh ++ ts)
      ((if par then preallocImage al athr sh else openWb []) :: files) := by
  refine H.cons (placeFile_pairwise_sameFile al athr j jobOf sh) (placeFile_file al athr j jobOf sh)
    (fun b hb => ?_) ?_
  · split at hb
    · rw [preallocImage_eq] at hb; exact replicate_zeros _ b hb
    · exact absurd hb List.not_mem_nil
  · split
    · rw [preallocImage_eq, List.length_replicate]; exact placeFile_end al athr j jobOf sh
    · exact Or.inl rfl

theorem planSingle_ok (ts : List TSpec) (al : Option Nat) (athr : Nat) (workers capacity : Nat) :
    PlanOK 0 (planSingle ts al athr workers capacity).tensors
      (planSingle ts al athr workers capacity).files := by
  simpa [planSingle] using (PlanOK.nil 1).cons_file al athr (fun k => k) ts true

/-! ### the shard loop -/

/-- does the driver of this shard run `_write_parallel`? -/
def isSub (wps : Nat) (sh : List TSpec) : Bool := decide (1 < wps ∧ 1 < sh.length)

def npN (wps np : Nat) (sh : List TSpec) : Nat := if isSub wps sh then np + 1 else np
def njN (wps nj : Nat) (sh : List TSpec) : Nat := if isSub wps sh then nj + sh.length else nj

section
variable (al : Option Nat) (athr : Nat) (S wps : Nat)

theorem ps_tensors (j st np nj : Nat) (sh : List TSpec) (rest : List (List TSpec)) :
    (planShards al athr S wps j st np nj (sh :: rest)).tensors =
      placeFile al athr j (fun k => if isSub wps sh then S + nj + k else j) sh ++
        (planShards al athr S wps (j + 1) (st + sh.length) (npN wps np sh) (njN wps nj sh) rest).tensors := by
  simp only [planShards, npN, njN, isSub]
  split
  · rename_i h; simp [h]
  · rename_i h; simp [h]

theorem ps_files (j st np nj : Nat) (sh : List TSpec) (rest : List (List TSpec)) :
    (planShards al athr S wps j st np nj (sh :: rest)).files =
      (if isSub wps sh then preallocImage al athr sh else openWb []) ::
        (planShards al athr S wps (j + 1) (st + sh.length) (npN wps np sh) (njN wps nj sh) rest).files := by
  simp only [planShards, npN, njN, isSub]
  split
  · rename_i h; simp [h]
  · rename_i h; simp [h]

theorem planShards_files_length : ∀ (shards : List (List TSpec)) (j st np nj : Nat),
    (planShards al athr S wps j st np nj shards).files.length = shards.length
  | [], _, _, _, _ => rfl
  | sh :: rest, j, st, np, nj => by
      rw [ps_files, List.length_cons, planShards_files_length rest, List.length_cons]

theorem planShards_planOK : ∀ (shards : List (List TSpec)) (j st np nj : Nat),
    PlanOK j (planShards al athr S wps j st np nj shards).tensors
      (planShards al athr S wps j st np nj shards).files
  | [], j, _, _, _ => PlanOK.nil j
  | sh :: rest, j, st, np, nj => by
      rw [ps_tensors, ps_files]
      exact (planShards_planOK rest _ _ _ _).cons_file al athr _ sh (isSub wps sh)

end

theorem planSharded_ok (ts : List TSpec) (shards : List (List TSpec)) (al : Option Nat) (athr : Nat)
    (workers capacity : Nat) :
    PlanOK 0 (planSharded ts shards al athr workers capacity).tensors
      (planSharded ts shards al athr workers capacity).files :=
  planShards_planOK al athr _ _ shards 0 0 0 0

/-- the two concurrent cases of `planCfg`: one data file written by a parallel writer, or several shard
    drivers -/
theorem planCfg_cases {ts : List TSpec} {maxShard al : Option Nat} {athr workers capacity : Nat} {cfg : Cfg}
    (h : planCfg ts maxShard al athr workers capacity = some cfg) :
    ((shardsOf ts maxShard al athr).length ≤ 1 ∧ 1 < workers ∧ 1 < ts.length ∧
      cfg = planSingle ts al athr workers capacity) ∨
    (1 < (shardsOf ts maxShard al athr).length ∧ 1 < workers ∧
      cfg = planSharded ts (shardsOf ts maxShard al athr) al athr workers capacity) := by
  simp only [planCfg] at h
  split at h
  · rename_i h1
    split at h
    · rename_i h2; cases h; exact Or.inl ⟨h1, h2.1, h2.2, rfl⟩
    · cases h
  · rename_i h1
    split at h
    · rename_i h2; cases h; exact Or.inr ⟨Nat.lt_of_not_le h1, h2, rfl⟩
    · cases h

/-- **the configuration of every concurrent save has disjoint ranges and a zero start image** -/
theorem planCfg_ok {ts : List TSpec} {maxShard al : Option Nat} {athr workers capacity : Nat} {cfg : Cfg}
    (h : planCfg ts maxShard al athr workers capacity = some cfg) : PlanOK 0 cfg.tensors cfg.files := by
  rcases planCfg_cases h with ⟨_, _, _, rfl⟩ | ⟨_, _, rfl⟩
  · exact planSingle_ok ts al athr workers capacity
  · exact planSharded_ok ts _ al athr workers capacity

theorem planCfg_layout {ts : List TSpec} {maxShard al : Option Nat} {athr workers capacity : Nat} {cfg : Cfg}
    (h : planCfg ts maxShard al athr workers capacity = some cfg) : Layout cfg :=
  layout_of_planOK (planCfg_ok h)

theorem planCfg_prealloc {ts : List TSpec} {maxShard al : Option Nat} {athr workers capacity : Nat}
    {cfg : Cfg} (h : planCfg ts maxShard al athr workers capacity = some cfg) : Prealloc cfg :=
  prealloc_of_planOK (planCfg_ok h)

end IrVerif.WriterN
