/-
What `deserFunction` builds: the phases of a run and their frame (`FuncRun`, `FuncRun.frame`), the certificate
`replF` of the result (`deser_repl_func`) and the frame of the whole run (`deserFunction_frame`).
-/
import IrVerif.Lemmas.ScopeFunc
import IrVerif.Lemmas.ScopeReplDeser
namespace IrVerif.Scope

theorem deserFInputs_named (vi : List (Name × Info)) : ∀ (xs : List Name) (st : Store),
    (deserFInputs st vi xs).2.map (fun v => ((deserFInputs st vi xs).1.vals v).name) = xs.map some ∧
    ∀ v ∈ (deserFInputs st vi xs).2, ((deserFInputs st vi xs).1.vals v).info =
      declInfo vi (((deserFInputs st vi xs).1.vals v).name.getD "") := by
  intro xs
  induction xs with
  | nil => intro st; exact ⟨rfl, by simp [deserFInputs]⟩
  | cons x xs ih =>
    intro st
    obtain ⟨q, hnv⟩ := newNamed_quiet st vi x
    obtain ⟨a, b⟩ := ih (newNamed st vi x)
    obtain ⟨_, _, _, pr, keep⟩ := deserFInputs_spec vi xs (newNamed st vi x)
    have hname0 : ((deserFInputs (newNamed st vi x) vi xs).1.vals st.nv).name = some x := by
      rw [keep st.nv (by omega), newNamed_name]
    simp only [deserFInputs, List.map_cons]
    refine ⟨by rw [hname0, a], fun v hv => ?_⟩
    simp only [List.mem_cons] at hv
    rcases hv with rfl | hv
    · rw [hname0, (pr.cell st.nv (by omega)).1]
      exact newNamed_cell st vi x
    · exact b v hv

theorem finputTable_ok (vi : List (Name × Info)) (xs : List Name) (st : Store) :
    TblOK (deserFInputs st vi xs).1 st.nv (finputTable xs (deserFInputs st vi xs).2) := by
  obtain ⟨hids, hnv, _, _, _⟩ := deserFInputs_spec vi xs st
  rw [hids]
  have hmem : ∀ e ∈ finputTable xs (List.range' st.nv xs.length), st.nv ≤ e.2 ∧ e.2 < st.nv + xs.length := by
    intro e he
    simp only [finputTable, List.mem_reverse] at he
    have := (List.of_mem_zip he).2
    rw [List.mem_range'_1] at this
    exact this
  refine ⟨fun e he => by rw [hnv]; exact (hmem e he).2, fun e he => (hmem e he).1, ?_⟩
  simp only [finputTable, List.map_reverse, ListFacts.nodup_reverse]
  have : (List.map (fun x => x.2) (xs.zip (List.range' st.nv xs.length))) = List.range' st.nv xs.length := by
    rw [List.map_snd_zip]
    simp
  rw [this]
  exact List.nodup_range' (step := 1) (by omega)

theorem zip_map_eq {α β γ : Type} (f : β → γ) (g : α → γ) : ∀ (l1 : List α) (l2 : List β),
    l2.map f = l1.map g → ∀ e ∈ l1.zip l2, f e.2 = g e.1 := by
  intro l1
  induction l1 with
  | nil => intro l2 _ e he; simp at he
  | cons a r ih =>
    intro l2 h e he
    cases l2 with
    | nil => simp at he
    | cons b t =>
      simp only [List.map_cons, List.cons.injEq] at h
      simp only [List.zip_cons_cons, List.mem_cons] at he
      rcases he with rfl | he
      · exact h.1
      · exact ih t h.2 e he

theorem deserFOutputs_mem (tbl : Table) : ∀ (ys : List Name) (outs : List Nat), deserFOutputs tbl ys = .ok outs →
    ∀ v ∈ outs, ∃ y, tbl.lookup y = some v := by
  intro ys
  induction ys with
  | nil =>
    intro outs h v hv
    simp only [deserFOutputs, Except.ok.injEq] at h
    subst h; simp at hv
  | cons y ys ih =>
    intro outs h v hv
    simp only [deserFOutputs] at h
    split at h
    · simp at h
    · rename_i u hu
      split at h
      · simp at h
      · rename_i vs hr
        simp only [Except.ok.injEq] at h
        subst h
        simp only [List.mem_cons] at hv
        rcases hv with rfl | hv
        · exact ⟨y, hu⟩
        · exact ih vs hr v hv

/-- stated over the parts of the function, so that a run of the extended model gives one through its erasure lemmas -/
structure FuncRun (st : Store) (vi : List (Name × Info)) (inputs : List Name) (nodes : List NodeP)
    (outputs : List Name) (st1 : Store) (ins : List Nat) (st2 : Store) (tbl2 : Table) (st3 : Store) (tbl3 : Table)
    (ns : List NodeT) (outs : List Nat) : Prop where
  hin : deserFInputs st vi inputs = (st1, ins)
  hdecl : declareNodes st1 (finputTable inputs ins) vi nodes = .ok (st2, tbl2)
  hnodes : deserNodes st2 tbl2 [] vi nodes = .ok (st3, tbl3, ns)
  houts : deserFOutputs tbl3 outputs = .ok outs

theorem deserFunction_run {st : Store} {f : FuncP} {st' : Store} {g : GraphT} (h : deserFunction st f = .ok (st', g)) :
    ∃ st1 ins st2 tbl2 st3 tbl3 ns outs,
      FuncRun st (vinfoTable f.vinfo) f.inputs f.nodes f.outputs st1 ins st2 tbl2 st3 tbl3 ns outs ∧
      mkGraph st3 ins outs ns [] = (st', g) := by
  simp only [deserFunction] at h
  split at h
  · simp at h
  · rename_i st2 tbl2 h2
    split at h
    · simp at h
    · rename_i st3 tbl3 ns h3
      split at h
      · simp at h
      · rename_i outs h4
        simp only [Except.ok.injEq] at h
        exact ⟨_, _, st2, tbl2, st3, tbl3, ns, outs, ⟨rfl, h2, h3, h4⟩, h⟩

structure FuncRun.Frame (st : Store) (vi : List (Name × Info)) (inputs : List Name) (nodes : List NodeP)
    (st1 : Store) (ins : List Nat) (st2 : Store) (tbl2 : Table) (st3 : Store) (tbl3 : Table) (outs : List Nat) :
    Prop where
  hins : ins = List.range' st.nv inputs.length
  nv1 : st1.nv = st.nv + inputs.length
  p1 : Prim st.nv st st1
  keep1 : ∀ v, v < st.nv → (st1.vals v).name = (st.vals v).name
  names1 : ins.map (fun v => (st1.vals v).name) = inputs.map some
  info1 : ∀ v ∈ ins, (st1.vals v).info = declInfo vi ((st1.vals v).name.getD "")
  ok1 : TblOK st1 st.nv (finputTable inputs ins)
  n1 : Named st1 (finputTable inputs ins)
  f1 : Fresh st1
  le1 : st.nv ≤ st1.nv
  q2 : Quiet st1 st2
  ok2 : TblOK st2 st.nv tbl2
  m2 : ∀ x ∈ outNames nodes, (finputTable inputs ins).lookup x = none ∧ ∃ v, tbl2.lookup x = some v ∧ st1.nv ≤ v
  n2 : Named st2 tbl2
  f2 : Fresh st2
  le2 : st.nv ≤ st2.nv
  m3 : Mono st.nv st2 st3
  ok3 : TblOK st3 st.nv tbl3
  n3 : Named st3 tbl3
  f3 : Fresh st3
  bouts : ∀ v ∈ outs, v < st3.nv

theorem FuncRun.frame {st vi inputs nodes outputs st1 ins st2 tbl2 st3 tbl3 ns outs}
    (r : FuncRun st vi inputs nodes outputs st1 ins st2 tbl2 st3 tbl3 ns outs) (hf : Fresh st) :
    FuncRun.Frame st vi inputs nodes st1 ins st2 tbl2 st3 tbl3 outs := by
  obtain ⟨hins, nv1, hf1, p1, keep1⟩ := deserFInputs_spec vi inputs st
  obtain ⟨names1, info1⟩ := deserFInputs_named vi inputs st
  have ok1 := finputTable_ok vi inputs st
  simp only [r.hin] at hins nv1 hf1 p1 keep1 names1 info1 ok1
  have n1 : Named st1 (finputTable inputs ins) := fun e he => by
    simp only [finputTable, List.mem_reverse] at he
    exact zip_map_eq (fun v => (st1.vals v).name) some inputs ins names1 e he
  have le1 : st.nv ≤ st1.nv := by rw [nv1]; omega
  obtain ⟨q2, ok2, _, m2, _⟩ := declareNodes_spec vi nodes _ _ st.nv st2 tbl2 ok1 le1 r.hdecl
  have f2 := q2.fresh (hf1 hf)
  have n2 := declareNodes_named vi nodes _ _ st2 tbl2 n1 ok1.lt r.hdecl
  have le2 : st.nv ≤ st2.nv := Nat.le_trans le1 q2.nv_le
  obtain ⟨f3, m3, ok3, _⟩ := deserNodes_struct nodes st2 tbl2 [] vi st.nv st3 tbl3 ns f2 ok2 (TablesLt.nil _) le2 r.hnodes
  obtain ⟨_, n3⟩ := deserNodes_tree nodes st2 tbl2 [] vi st.nv st3 tbl3 ns f2 ok2 (TablesLt.nil _) le2 n2 r.hnodes
  refine ⟨hins, nv1, p1, keep1, names1, info1, ok1, n1, hf1 hf, le1, q2, ok2, m2, n2, f2, le2, m3, ok3, n3, f3,
    fun v hv => ?_⟩
  obtain ⟨y, hy⟩ := deserFOutputs_mem tbl3 outputs outs r.houts v hv
  exact ok3.lt _ (lookup_mem _ _ _ hy)

theorem FuncRun.Frame.le3 {st vi inputs nodes st1 ins st2 tbl2 st3 tbl3 outs}
    (F : FuncRun.Frame st vi inputs nodes st1 ins st2 tbl2 st3 tbl3 outs) : st.nv ≤ st3.nv :=
  Nat.le_trans F.le2 F.m3.nv_le

theorem FuncRun.Frame.bins {st vi inputs nodes st1 ins st2 tbl2 st3 tbl3 outs}
    (F : FuncRun.Frame st vi inputs nodes st1 ins st2 tbl2 st3 tbl3 outs) : Incr st.nv st1.nv ins := by
  rw [F.hins, F.nv1]; exact incr_range' _ _

theorem FuncRun.Frame.agree {st vi inputs nodes st1 ins st2 tbl2 st3 tbl3 outs}
    (F : FuncRun.Frame st vi inputs nodes st1 ins st2 tbl2 st3 tbl3 outs) {V : Nat → ValueS}
    (hV : NamesAgree V st3) : NamesAgree V st2 ∧ NamesAgree V st1 :=
  ⟨hV.of_mono F.m3, (hV.of_mono F.m3).of_quiet F.q2⟩

theorem FuncRun.Frame.names_ins {st vi inputs nodes st1 ins st2 tbl2 st3 tbl3 outs}
    (F : FuncRun.Frame st vi inputs nodes st1 ins st2 tbl2 st3 tbl3 outs) {V : Nat → ValueS}
    (hV1 : NamesAgree V st1) : ins.map (fun v => (V v).name) = inputs.map some := by
  rw [← F.names1]
  exact List.map_congr_left fun v hv => hV1 v (F.bins.2 v hv).2

theorem FuncRun.Frame.tblIns {st vi inputs nodes st1 ins st2 tbl2 st3 tbl3 outs}
    (F : FuncRun.Frame st vi inputs nodes st1 ins st2 tbl2 st3 tbl3 outs) {V : Nat → ValueS}
    (hV1 : NamesAgree V st1) : tblIns V ins = finputTable inputs ins := by
  have h : inputs = ins.map (nm V) := by
    have := congrArg (List.map (fun o : Option Name => o.getD "")) (F.names_ins hV1)
    rw [List.map_map, List.map_map] at this
    rw [show ((fun o : Option Name => o.getD "") ∘ some) = id from rfl, List.map_id] at this
    exact this.symm
  rw [tblIns_eq_zip, finputTable, h]

/-- the run of one function body against the certificate read with the names of `V` -/
structure FuncTables (V : Nat → ValueS) (inputs : List Name) (nodes : List NodeP) (ins : List Nat) (st1 st2 : Store)
    (tbl2 : Table) (st3 : Store) (tbl3 : Table) (ns : List NodeT) : Prop where
  tblIns : tblIns V ins = finputTable inputs ins
  hdecl : ∀ n ∈ nodes, ∀ y ∈ n.outputs, y ≠ "" → ∃ u, tbl2.lookup y = some u
  decl_tbl : (replDecl V (Scope.tblIns V ins) (ns.flatMap (liveOuts V))).tbl = tbl2
  decl_ok : (replDecl V (Scope.tblIns V ins) (ns.flatMap (liveOuts V))).ok
  decl_new : Incr st1.nv st2.nv (replDecl V (Scope.tblIns V ins) (ns.flatMap (liveOuts V))).new
  nodes_tbl : (replNs V [] tbl2 ns).tbl = tbl3
  nodes_ok : (replNs V [] tbl2 ns).ok
  nodes_new : Incr st2.nv st3.nv (replNs V [] tbl2 ns).new

theorem FuncRun.tables {st vi inputs nodes outputs st1 ins st2 tbl2 st3 tbl3 ns outs}
    (r : FuncRun st vi inputs nodes outputs st1 ins st2 tbl2 st3 tbl3 ns outs) (hf : Fresh st) {V : Nat → ValueS}
    (hV3 : NamesAgree V st3) (hC3 : ∀ v, st.nv ≤ v → v < st3.nv → CellAgree V st3 v) :
    FuncTables V inputs nodes ins st1 st2 tbl2 st3 tbl3 ns := by
  have F := r.frame hf
  obtain ⟨hV2, hV1⟩ := F.agree hV3
  have E1 := F.tblIns hV1
  have hdeclared : ∀ n ∈ nodes, ∀ y ∈ n.outputs, y ≠ "" → ∃ u, tbl2.lookup y = some u := by
    intro n hn y hy hne
    obtain ⟨_, v, hv, _⟩ := F.m2 y (by
      simp only [outNames, List.mem_filter, List.mem_flatMap]
      exact ⟨⟨n, hn, hy⟩, by simpa using hne⟩)
    exact ⟨v, hv⟩
  obtain ⟨rn1, rn2, I4, rn4⟩ := deser_repl_nodes nodes st2 tbl2 [] vi st.nv st3 tbl3 ns F.f2 F.ok2
    (TablesLt.nil _) F.le2 F.n2 (fun _ hT => by simp at hT) r.hnodes hdeclared V hV3
    (fun v hge hlt _ => hC3 v (Nat.le_trans F.le2 hge) hlt)
  obtain ⟨rd1, rd2, rd3, I3⟩ := repl_declareNodes V vi tbl2 nodes st1 _ st2 tbl2 r.hdecl hV2 (fun _ _ h => h)
  have hlive : (ns.flatMap (liveOuts V)).filter (fun v => nameTruthy (V v).name) =
      nodes.flatMap (fun n => declared tbl2 n.outputs) := by
    rw [List.filter_flatMap]
    exact flatMap_congr_map rn4
  obtain ⟨df1, df2, df3⟩ := replDecl_filter V (ns.flatMap (liveOuts V)) (finputTable inputs ins)
  rw [hlive] at df1 df2 df3
  rw [← E1] at df1 df2 df3 rd1 rd2 rd3
  exact ⟨E1, hdeclared, df1.trans rd1, df3.mpr ⟨rd2, replNs_live_names V [] ns tbl2 rn2⟩, by rw [df2, rd3]; exact I3,
    rn1, rn2, I4⟩

theorem deser_repl_func (f : FuncP) (st st' : Store) (g : GraphT) (hf : Fresh st)
    (h : deserFunction st f = .ok (st', g)) :
    ∀ (V : Nat → ValueS), NamesAgree V st' → (∀ v, st.nv ≤ v → v < st'.nv → CellAgree V st' v) →
      (replF V g).ok ∧ Incr st.nv st'.nv (replF V g).new := by
  intro V hV hC
  obtain ⟨st1, ins, st2, tbl2, st3, tbl3, ns, outs, r, h5⟩ := deserFunction_run h
  have F := r.frame hf
  have p2 := declareNodes_prim st1.nv (vinfoTable f.vinfo) f.nodes st1 _ st2 _ (Nat.le_refl _) r.hdecl
  have p3 := deserNodes_prim2 st2.nv f.nodes st2 tbl2 [] (vinfoTable f.vinfo) st.nv st3 tbl3 ns F.f2 F.ok2
    (TablesLt.nil _) F.le2 (Nat.le_refl _) r.hnodes
  obtain ⟨c1, _, _⟩ := mkGraph_fst_counters st3 ins outs ns []
  have hcell := mkGraph_cell st3 ins outs ns []
  obtain ⟨rfl, rfl⟩ : (mkGraph st3 ins outs ns []).1 = st' ∧ (mkGraph st3 ins outs ns []).2 = g := by rw [h5]; simp
  rw [mkGraph_snd]
  have hV3 : NamesAgree V st3 := fun v hv => by rw [hV v (by rw [c1]; exact hv), hcell]
  obtain ⟨_, hV1⟩ := F.agree hV3
  have hC3 : ∀ v, st.nv ≤ v → v < st3.nv → CellAgree V st3 v := fun v h1 h2 => by
    have := hC v h1 (by rw [c1]; exact h2)
    rw [CellAgree, hcell] at this
    exact this
  have T := r.tables hf hV3 hC3
  have hinsV := F.names_ins hV1
  have hins_n : ∀ v ∈ ins, (V v).name ≠ none := by
    intro v hv
    have : (V v).name ∈ ins.map (fun v => (V v).name) := List.mem_map_of_mem hv
    rw [hinsV, List.mem_map] at this
    obtain ⟨i, _, hi⟩ := this
    rw [← hi]; simp
  have hVinfo : ∀ v ∈ ins, (V v).info = declInfo (vinfoTable f.vinfo) (nm V v) := by
    intro v hv
    obtain ⟨hge, hlt⟩ := F.bins.2 v hv
    have hlt2 : v < st2.nv := Nat.lt_of_lt_of_le hlt F.q2.nv_le
    rw [(hC3 v hge (Nat.lt_of_lt_of_le hlt2 F.m3.nv_le)).1, (p3.cell v hlt2).1, (p2.cell v hlt).1, F.info1 v hv]
    simp only [nm, hV1 v hlt]
  have hsame : ∀ a ∈ ins, ∀ b ∈ ins, nameTruthy (V a).name = true → (V a).name = (V b).name →
      (V a).info.emit = (V b).info.emit := by
    intro a ha b hb _ hname
    rw [hVinfo a ha, hVinfo b hb]
    simp only [nm, hname]
  have hNV3 : NamedV V tbl3 := NamedV.of_named F.n3 F.ok3.lt hV3
  have hO : ∀ v ∈ outs, (V v).name ≠ none ∧ tbl3.lookup (nm V v) = some v := by
    intro v hv
    obtain ⟨y, hy⟩ := deserFOutputs_mem tbl3 f.outputs outs r.houts v hv
    have hname := hNV3 _ (lookup_mem _ _ _ hy)
    exact ⟨by rw [hname]; simp, by rw [nm_of_name hname]; exact hy⟩
  simp only [replF, flatMap_liveOuts_setGraph, replNs_setGraph, T.decl_tbl, T.nodes_tbl]
  refine ⟨⟨by simp [mkGraphInits, initDict], hins_n, hsame, T.decl_ok, T.nodes_ok, hO⟩, ?_⟩
  rw [c1]
  exact (F.bins.append T.decl_new F.le1 F.q2.nv_le).append T.nodes_new F.le2 F.m3.nv_le

theorem deserFunction_frame (f : FuncP) (st st' : Store) (g : GraphT) (hf : Fresh st)
    (h : deserFunction st f = .ok (st', g)) :
    Fresh st' ∧ st.nv ≤ st'.nv ∧ (∀ v, v < st.nv → (st'.vals v).name = (st.vals v).name) ∧ Prim st.nv st st' := by
  obtain ⟨st1, ins, st2, tbl2, st3, tbl3, ns, outs, r, h5⟩ := deserFunction_run h
  have F := r.frame hf
  have p2 := declareNodes_prim st.nv (vinfoTable f.vinfo) f.nodes _ _ st2 _ F.le1 r.hdecl
  have p3 := deserNodes_prim2 st.nv f.nodes st2 tbl2 [] (vinfoTable f.vinfo) st.nv st3 tbl3 ns F.f2 F.ok2
    (TablesLt.nil _) F.le2 F.le2 r.hnodes
  obtain ⟨c1, _, _⟩ := mkGraph_fst_counters st3 ins outs ns []
  obtain rfl : (mkGraph st3 ins outs ns []).1 = st' := by rw [h5]
  refine ⟨?_, by rw [c1]; exact F.le3, fun v hv => ?_, ((F.p1.trans p2).trans p3).trans (mkGraph_prim st.nv st3 ins outs ns [])⟩
  · refine mkGraph_fresh _ _ _ _ _ F.f3 (fun v hv => ?_) F.bouts (fun v hv => by simp at hv)
    exact Nat.lt_of_lt_of_le (F.bins.2 v hv).2 (Nat.le_trans F.q2.nv_le F.m3.nv_le)
  · rw [mkGraph_cell]
    show (st3.vals v).name = _
    rw [F.m3.names v (Nat.lt_of_lt_of_le hv F.le2), F.q2.names v (Nat.lt_of_lt_of_le hv F.le1), F.keep1 v hv]

end IrVerif.Scope
