/-
Lemmas/SemIdentity.lean — IdentityEliminationPass on a graph (`ieG`) preserves the denotation.
Simulation: old environment ρ and new environment ρ' with `ρ v = ρ' (σ v)` for every value `v` (`RelOn` at the trivial
predicate; `Rel` in the statements about single levels).
-/
import IrVerif.Lemmas.SemSubst
namespace IrVerif.Passes
open IrVerif.Sem
variable {Val : Type}

theorem ieCandidate_some {op : OpId} {ins : List (Option VId)} {outs : List VId} {x y : VId}
    (h : ieCandidate op ins outs = some (x, y)) : isIdentityOp op = true ∧ ins = [some x] ∧ outs = [y] := by
  unfold ieCandidate at h
  split at h
  · rename_i hop
    split at h
    · simp only [Option.some.injEq, Prod.mk.injEq] at h
      obtain ⟨rfl, rfl⟩ := h
      exact ⟨hop, rfl, rfl⟩
    · simp at h
  · simp at h

theorem substIns_eq_singleton {σ : Subst} {ins : List (Option VId)} {x : VId}
    (h : substIns σ ins = [some x]) : ∃ x0, ins = [some x0] ∧ σ.app x0 = x := by
  unfold substIns at h
  match ins, h with
  | [some x0], h => exact ⟨x0, rfl, by simpa using h⟩
  | [none], h => simp at h

theorem ie_sound (I : Interp Val) (ii : List VId) :
    let G := fun σ g g' => SubstOK σ (defsG g) → ssaG g = true → closedG g = true → noFwdG g = true →
      SimG I (fun _ => True) σ g g'
    let Ns := fun (_ : List VId) σ outs ns (r : IeRes) => ∀ outs0 : List VId, outs = outs0.map σ.app →
      SubstOK σ (defsNodes ns) → ssaNodes ns = true → closedNodes ns = true → noFwdNodes ns = true →
      SimNodes I (fun _ => True) σ r.σ ns r.nodes ∧ r.outs = outs0.map r.σ.app
    let Bs := fun σ bs bs' => SubstOK σ (defsBodies bs) → ssaBodies bs = true → closedBodies bs = true →
      noFwdBodies bs = true → SimBodies I (fun _ => True) σ bs bs'
    (∀ σ g, G σ g (ieG ii σ g)) ∧ (∀ loc σ outs ns, Ns loc σ outs ns (ieNodes ii loc σ outs ns)) ∧
      ∀ σ bs, Bs σ bs (ieBodies ii σ bs) := by
  intro G Ns Bs
  -- a node that stays
  have keep : ∀ {loc σ outs op attrs ins nouts bodies ns}, Ns loc σ outs ns (ieNodes ii loc σ outs ns) →
      Bs σ bodies (ieBodies ii σ bodies) →
      Ns loc σ outs (.mk op attrs ins nouts bodies :: ns)
        ⟨.mk op attrs (substIns σ ins) nouts (ieBodies ii σ bodies) :: (ieNodes ii loc σ outs ns).nodes,
          (ieNodes ii loc σ outs ns).outs, (ieNodes ii loc σ outs ns).σ⟩ := by
    intro loc σ outs op attrs ins nouts bodies ns ih ihb outs0 ho hok hs hc hf
    rw [ssaNodes_cons_iff] at hs
    rw [closedNodes_cons_iff] at hc
    simp only [noFwdNodes, noFwdN, Bool.and_eq_true] at hf
    obtain ⟨k1, k2⟩ := ih outs0 ho (hok.mono (fun v hv => mem_defsNodes_cons.2 (Or.inr hv))) hs.2 hc.2 hf.2
    exact ⟨.keep (fun _ _ => trivial) (hok.mono (fun v hv => mem_defsNodes_of_mem_outs hv))
      (ihb (hok.mono (fun v hv => mem_defsNodes_cons.2 (Or.inl (mem_defsN.2 (Or.inr hv))))) hs.1.1.2 hc.1 hf.1.2) k1, k2⟩
  refine ieG.mutual_induct_unfolding ii G Ns Bs ?_ ?_ ?_ ?_ ?_ ?_ ?_
  · intro σ inputs outputs inits nodes ih hok hs hc hf ρ ρ' hrel
    obtain ⟨k1, k2⟩ := ih outputs (hok.map_eq (closedG_outputs hc)).symm hok.of_defsG.2 (ssaG_iff.1 hs).2
      (closedG_iff.1 hc).2 hf
    exact evalG_sim I hrel hok.of_defsG.1 (fun _ _ => trivial) k1 k2
  · intro _ σ outs outs0 ho _ _ _ _
    exact ⟨fun _ _ h => h, ho⟩
  · intro loc σ outs op attrs ins nouts bodies ns x y _ _ r ih ihb
    exact keep ih ihb
  · -- an Identity node that goes: from here on its output is read as its input
    intro loc σ outs op attrs ins nouts bodies ns x y hcand _ ih outs0 ho hok hs hc hf
    obtain ⟨hop, hins, hout⟩ := ieCandidate_some hcand
    obtain ⟨x0, hins0, hx0⟩ := substIns_eq_singleton hins
    subst hout hins0
    rw [ssaNodes_cons_iff] at hs
    rw [closedNodes_cons_iff] at hc
    simp only [noFwdNodes, noFwdN, Bool.and_eq_true, disj_iff, Node.ins] at hf
    have hokn : SubstOK σ (defsNodes ns) := hok.mono (fun v hv => mem_defsNodes_cons.2 (Or.inr hv))
    have hoko : SubstOK σ [y] := hok.mono (fun v hv => mem_defsNodes_of_mem_outs hv)
    have hy : y ∉ defsNodes ns := fun h => hs.1.2 y (by simp [defsN]) h
    have hx : x ∉ defsNodes ns := by
      rw [← hx0]
      exact hokn.app_not_mem (fun h => hf.1.1.1 x0 (by simp) (mem_defsNodes_cons.2 (Or.inr h)))
    have hok1 : SubstOK ((y, x) :: σ) (defsNodes ns) := by
      intro p hp
      rcases List.mem_cons.1 hp with rfl | hp
      · exact ⟨hy, hx⟩
      · exact hokn p hp
    have hmapeq : outs.map (fun o => if o = y then x else o) = outs0.map (Subst.app ((y, x) :: σ)) := by
      rw [ho, List.map_map]
      apply List.map_congr_left
      intro o _
      simp only [Function.comp, Subst.app_cons]
      by_cases ho : o = y
      · subst ho
        rw [hoko.app_of_mem (by simp)]
      · have : σ.app o ≠ y := by
          rcases Subst.app_cases σ o with h | ⟨p, hp, _, h2⟩
          · rw [h]; exact ho
          · rw [← h2]; exact fun h => (hoko p hp).2 (by simp [h])
        simp [ho, this]
    obtain ⟨k1, k2⟩ := ih outs0 hmapeq hok1 hs.2 hc.2 hf.2
    refine ⟨fun ρ ρ' hrel => k1 _ _ (fun v _ => ?_), k2⟩
    rw [Subst.app_cons]
    simp only [evalN]
    by_cases hv : v = y
    · subst hv
      have hargs : evalArgs ρ (trimNone [some x0]) = [ρ x0] := by
        simp [trimNone, evalArgs]
      simp only [if_true, hargs, nodeResults, hop, List.length_singleton, beq_self_eq_true,
        Bool.and_self, if_true]
      rw [Env.bind_of_mem _ _ (by simp)]
      simp only [List.idxOf_cons_self, List.getElem?_cons_zero, Option.join_some]
      rw [← hx0]; exact hrel x0 trivial
    · simp only [hv, if_false]
      rw [Env.bind_of_not_mem _ _ (by simpa using hv)]
      exact hrel v trivial
  · intro loc σ outs op attrs ins nouts bodies ns _ r ih ihb
    exact keep ih ihb
  · intro σ _ _ _ _ ρ ρ' _
    rfl
  · intro σ b bs ihg ihb hok hs hc hf
    rw [ssaBodies_cons_iff] at hs
    rw [closedBodies_cons_iff] at hc
    rw [noFwdBodies_cons_iff] at hf
    exact SimBodies.cons (ihg (hok.mono (fun v hv => mem_defsBodies_cons.2 (Or.inl hv))) hs.1.1 hc.1 hf.1)
      (ihb (hok.mono (fun v hv => mem_defsBodies_cons.2 (Or.inr hv))) hs.2 hc.2 hf.2)

theorem ieG_sound (I : Interp Val) (ii : List VId) : ∀ (g : Graph) (σ : Subst) (ρ ρ' : Env Val),
    Rel σ ρ ρ' → SubstOK σ (defsG g) → ssaG g = true → closedG g = true → noFwdG g = true →
    evalG I g ρ = evalG I (ieG ii σ g) ρ' :=
  fun g σ ρ ρ' hrel hok hs hc hf => (ie_sound I ii).1 σ g hok hs hc hf ρ ρ' hrel.relOn

theorem ieNodes_sound (I : Interp Val) (ii loc : List VId) : ∀ (ns : List Node) (σ : Subst) (outs0 : List VId)
    (ρ ρ' : Env Val), Rel σ ρ ρ' → SubstOK σ (defsNodes ns) → ssaNodes ns = true →
    closedNodes ns = true → noFwdNodes ns = true →
    Rel (ieNodes ii loc σ (outs0.map σ.app) ns).σ (evalNodes I ns ρ)
        (evalNodes I (ieNodes ii loc σ (outs0.map σ.app) ns).nodes ρ') ∧
    (ieNodes ii loc σ (outs0.map σ.app) ns).outs = outs0.map (ieNodes ii loc σ (outs0.map σ.app) ns).σ.app :=
  fun ns σ outs0 ρ ρ' hrel hok hs hc hf =>
    have k := (ie_sound I ii).2.1 loc σ _ ns outs0 rfl hok hs hc hf
    ⟨Rel.of_relOn (k.1 ρ ρ' hrel.relOn), k.2⟩

theorem ieBodies_sound (I : Interp Val) (ii : List VId) : ∀ (bs : List Graph) (σ : Subst) (ρ ρ' : Env Val),
    Rel σ ρ ρ' → SubstOK σ (defsBodies bs) → ssaBodies bs = true → closedBodies bs = true →
    noFwdBodies bs = true → evalBodies I bs ρ = evalBodies I (ieBodies ii σ bs) ρ' :=
  fun bs σ ρ ρ' hrel hok hs hc hf => (ie_sound I ii).2.2 σ bs hok hs hc hf ρ ρ' hrel.relOn

theorem ieNodes_outs_length (ii loc : List VId) : ∀ (ns : List Node) (σ : Subst) (outs : List VId),
    (ieNodes ii loc σ outs ns).outs.length = outs.length
  | [], _, _ => by simp [ieNodes]
  | .mk op attrs ins nouts bodies :: ns, σ, outs => by
    simp only [ieNodes]
    split
    · split
      · exact ieNodes_outs_length ii loc ns σ outs
      · rw [ieNodes_outs_length ii loc ns _ _, List.length_map]
    · exact ieNodes_outs_length ii loc ns σ outs

end IrVerif.Passes
