/-
Helper development for C18: when does the clone of the view SUCCEED.
`cloneG/cloneNs/cloneN/cloneGs` (keys of the cloner's value map) return as soon as the lexical free variables
of what is cloned are already keys of the map.
-/
import IrVerif.Lemmas.ExtractClone
import IrVerif.Lemmas.ExtractScope
import IrVerif.Lemmas.ExtractEval
namespace IrVerif.Extract

mutual
  /-- the clone of a graph returns when every lexical free variable of the graph is a key of the value map -/
  theorem cloneG_of_free : ∀ (g : GraphT) (m : List VId), (∀ v, v ∈ freeG g → v ∈ m) →
      ∃ m', cloneG m g = .ok m'
    | .mk gid ins inits outs ns, m, h => by
      have hns : ∀ v, v ∈ freeNs ns → v ∈ m ++ ins ++ inits := by
        intro v hv
        by_cases hd : v ∈ ins ++ inits
        · rcases List.mem_append.mp hd with hd | hd
          · simp [hd]
          · simp [hd]
        · have : v ∈ freeG (.mk gid ins inits outs ns) := by
            rw [freeG, List.mem_filter]
            refine ⟨List.mem_append_left _ hv, ?_⟩
            simpa using hd
          have := h v this
          simp [this]
      obtain ⟨m1, h1, hsub, houts⟩ := cloneNs_of_free ns _ hns
      rw [cloneG, h1]
      simp only []
      have hall : outs.all (fun v => m1.contains v) = true := by
        rw [List.all_eq_true]
        intro o ho
        simp only [List.contains_eq_mem, decide_eq_true_eq]
        by_cases hot : o ∈ outsTop ns
        · exact houts o hot
        · by_cases hd : o ∈ ins ++ inits
          · apply hsub
            rcases List.mem_append.mp hd with hd | hd
            · simp [hd]
            · simp [hd]
          · have : o ∈ freeG (.mk gid ins inits outs ns) := by
              rw [freeG, List.mem_filter]
              refine ⟨List.mem_append_right _ ?_, ?_⟩
              · rw [List.mem_filter]; exact ⟨ho, by simpa using hot⟩
              · simpa using hd
            apply hsub
            have := h o this
            simp [this]
      rw [if_pos hall]
      exact ⟨m1, rfl⟩
  theorem cloneNs_of_free : ∀ (ns : List NodeT) (m : List VId), (∀ v, v ∈ freeNs ns → v ∈ m) →
      ∃ m', cloneNs m ns = .ok m' ∧ (∀ v, v ∈ m → v ∈ m') ∧ (∀ v, v ∈ outsTop ns → v ∈ m')
    | [], m, _ => ⟨m, by rw [cloneNs], fun _ h => h, fun v hv => by simp [outsTop] at hv⟩
    | n :: ns, m, h => by
      have hn : ∀ v, v ∈ freeN n → v ∈ m := fun v hv => h v (by rw [freeNs]; exact List.mem_append_left _ hv)
      obtain ⟨m1, h1, hsub1, hout1⟩ := cloneN_of_free n m hn
      have hrest : ∀ v, v ∈ freeNs ns → v ∈ m1 := by
        intro v hv
        by_cases ho : v ∈ n.outputs
        · exact hout1 v ho
        · apply hsub1
          apply h v
          rw [freeNs]
          apply List.mem_append_right
          rw [List.mem_filter]
          exact ⟨hv, by simpa using ho⟩
      obtain ⟨m2, h2, hsub2, hout2⟩ := cloneNs_of_free ns m1 hrest
      refine ⟨m2, ?_, fun v hv => hsub2 v (hsub1 v hv), ?_⟩
      · rw [cloneNs, h1]; exact h2
      · intro v hv
        rw [outsTop, List.mem_append] at hv
        rcases hv with hv | hv
        · exact hsub2 v (hout1 v hv)
        · exact hout2 v hv
  theorem cloneN_of_free : ∀ (n : NodeT) (m : List VId), (∀ v, v ∈ freeN n → v ∈ m) →
      ∃ m', cloneN m n = .ok m' ∧ (∀ v, v ∈ m → v ∈ m') ∧ (∀ v, v ∈ n.outputs → v ∈ m')
    | .mk ins outs bs, m, h => by
      have hin : (ins.filterMap id).all (fun v => m.contains v) = true := by
        rw [List.all_eq_true]
        intro v hv
        simp only [List.contains_eq_mem, decide_eq_true_eq]
        exact h v (by rw [freeN]; exact List.mem_append_left _ hv)
      have hbs : ∀ v, v ∈ freeGs bs → v ∈ m := fun v hv => h v (by rw [freeN]; exact List.mem_append_right _ hv)
      obtain ⟨m1, h1, hsub1⟩ := cloneGs_of_free bs m hbs
      refine ⟨m1 ++ outs, ?_, fun v hv => List.mem_append_left _ (hsub1 v hv), fun v hv => ?_⟩
      · rw [cloneN, if_pos hin, h1]
      · simp only [NodeT.outputs_mk] at hv
        exact List.mem_append_right _ hv
  theorem cloneGs_of_free : ∀ (gs : List GraphT) (m : List VId), (∀ v, v ∈ freeGs gs → v ∈ m) →
      ∃ m', cloneGs m gs = .ok m' ∧ (∀ v, v ∈ m → v ∈ m')
    | [], m, _ => ⟨m, by rw [cloneGs], fun _ h => h⟩
    | g :: gs, m, h => by
      have hg : ∀ v, v ∈ freeG g → v ∈ m := fun v hv => h v (by rw [freeGs]; exact List.mem_append_left _ hv)
      obtain ⟨m1, h1⟩ := cloneG_of_free g m hg
      have hsub1 := (cloneG_spec g m m1 h1).1
      have hrest : ∀ v, v ∈ freeGs gs → v ∈ m1 :=
        fun v hv => hsub1 v (h v (by rw [freeGs]; exact List.mem_append_right _ hv))
      obtain ⟨m2, h2, hsub2⟩ := cloneGs_of_free gs m1 hrest
      exact ⟨m2, by rw [cloneGs, h1]; exact h2, fun v hv => hsub2 v (hsub1 v hv)⟩
end

/-- the top-level node loop of the clone of the view, over a suffix `l` of the source list `g` filtered by
    `keep`: it returns when the map already holds what the kept nodes of `l` read from before `l` -/
theorem cloneNs_filter_ok {W : World} {p : GId} (keep : NId → Bool) (good : VId → Prop) :
    ∀ (l : List NId) (m : List VId),
      TopoSorted W p l →
      (∀ n, n ∈ l → keep n = true → ∀ u, u ∈ freeN (W.nodeD n) → Needs W p n u) →
      (∀ n, n ∈ l → keep n = true → ∀ u, Needs W p n u → good u) →
      (∀ u, good u → u ∈ m ∨ ∃ k, keep k = true ∧ k ∈ l ∧ u ∈ (W.nodeD k).outputs) →
      ∃ m', cloneNs m ((l.filter keep).map W.nodeD) = .ok m' ∧ (∀ v, v ∈ m → v ∈ m') ∧
        (∀ k, k ∈ l → keep k = true → ∀ o, o ∈ (W.nodeD k).outputs → o ∈ m')
  | [], m, _, _, _, _ => ⟨m, by simp [cloneNs], fun _ h => h, fun k hk => by cases hk⟩
  | a :: l, m, hs, hfree, hneed, hgood => by
    by_cases hk : keep a = true
    · -- the head is kept: everything it reads is already in the map
      have hin : ∀ u, u ∈ freeN (W.nodeD a) → u ∈ m := by
        intro u hu
        have hN := hfree a List.mem_cons_self hk u hu
        rcases hgood u (hneed a List.mem_cons_self hk u hN) with h' | ⟨k, _, hkl, hko⟩
        · exact h'
        · exact absurd hko (hs.1 u hN k hkl)
      obtain ⟨m1, h1, hsub1, hout1⟩ := cloneN_of_free (W.nodeD a) m hin
      obtain ⟨m2, h2, hsub2, hout2⟩ := cloneNs_filter_ok keep good l m1 hs.2
        (fun n hn => hfree n (List.mem_cons_of_mem _ hn))
        (fun n hn => hneed n (List.mem_cons_of_mem _ hn))
        (by
          intro u hu
          rcases hgood u hu with h' | ⟨k, hkk, hkl, hko⟩
          · exact Or.inl (hsub1 u h')
          · rcases List.mem_cons.mp hkl with rfl | hkl
            · exact Or.inl (hout1 u hko)
            · exact Or.inr ⟨k, hkk, hkl, hko⟩)
      refine ⟨m2, ?_, fun v hv => hsub2 v (hsub1 v hv), ?_⟩
      · rw [List.filter_cons_of_pos hk, List.map_cons, cloneNs, h1]; exact h2
      · intro k hkl hkk o ho
        rcases List.mem_cons.mp hkl with rfl | hkl
        · exact hsub2 o (hout1 o ho)
        · exact hout2 k hkl hkk o ho
    · obtain ⟨m2, h2, hsub2, hout2⟩ := cloneNs_filter_ok keep good l m hs.2
        (fun n hn => hfree n (List.mem_cons_of_mem _ hn))
        (fun n hn => hneed n (List.mem_cons_of_mem _ hn))
        (by
          intro u hu
          rcases hgood u hu with h' | ⟨k, hkk, hkl, hko⟩
          · exact Or.inl h'
          · rcases List.mem_cons.mp hkl with rfl | hkl
            · exact absurd hkk hk
            · exact Or.inr ⟨k, hkk, hkl, hko⟩)
      refine ⟨m2, ?_, hsub2, ?_⟩
      · rw [List.filter_cons_of_neg hk]; exact h2
      · intro k hkl hkk o ho
        rcases List.mem_cons.mp hkl with rfl | hkl
        · exact absurd hkk hk
        · exact hout2 k hkl hkk o ho

end IrVerif.Extract
