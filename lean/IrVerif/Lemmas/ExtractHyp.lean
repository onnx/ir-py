/-
C18: the decidable checkers of Model/Extract.lean imply the hypotheses of the theorems (so the share of
generated cases on which the driver reports `true` is the share on which the theorems apply).
-/
import IrVerif.Lemmas.ExtractSem
import IrVerif.Lemmas.ListFacts
namespace IrVerif.Extract

theorem isInit_lt {W : World} {u : VId} (h : W.isInit u = true) : u < W.vals.length := by
  refine Nat.lt_of_not_le fun hle => ?_
  rw [isInit_out_of_range hle] at h
  cases h

theorem forall_isInit {W : World} {q : VId → Bool}
    (h : (List.range W.vals.length).all (fun u => !W.isInit u || q u) = true) :
    ∀ u, W.isInit u = true → q u = true := by
  intro u hu
  have := List.all_eq_true.mp h u (List.mem_range.mpr (isInit_lt hu))
  simpa [hu] using this

theorem cover_of_B {W : World} {p : GId} {g : List NId} (h : g.all (bodiesOKB W p) = true) :
    ∀ n, n ∈ g → CapturesCover W p n :=
  fun n hn => capturesCover_of_bodiesOK (bodiesOK_of_B (List.all_eq_true.mp h n hn))

theorem nodup_of_B {l : List Nat} : nodupB l = true → l.Nodup :=
  (ListFacts.nodupB_iff_of_eqns _ rfl (fun _ _ => rfl) l).1

theorem topoSorted_of_B {W : World} {p : GId} : ∀ {g : List NId}, topoSortedB W p g = true → TopoSorted W p g
  | [], _ => trivial
  | n :: rest, h => by
    rw [topoSortedB, Bool.and_eq_true] at h
    refine ⟨?_, topoSorted_of_B h.2⟩
    intro u hu m hm
    have hu' : u ∈ neededBy W p n := by
      unfold neededBy; rw [List.mem_append]; exact needs_iff.mp hu
    have := List.all_eq_true.mp (List.all_eq_true.mp h.1 u hu') m hm
    simpa using this

/-- decidable form of the two producer-pointer clauses of `SourceOK` -/
def ptrOKB (W : World) (g : List NId) : Bool :=
  g.all (fun n => (W.nodeD n).outputs.all (fun o => W.prod o == some n)) &&
  (List.range W.vals.length).all (fun v => match W.prod v with
    | some n => (W.nodeD n).outputs.contains v
    | none => true)

theorem ptrOK_of_B {W : World} {g : List NId} (h : ptrOKB W g = true) :
    (∀ n, n ∈ g → ∀ o, o ∈ (W.nodeD n).outputs → W.prod o = some n) ∧
    (∀ v n, W.prod v = some n → v ∈ (W.nodeD n).outputs) := by
  unfold ptrOKB at h
  rw [Bool.and_eq_true] at h
  obtain ⟨h2, h3⟩ := h
  constructor
  · intro n hn o ho
    have := List.all_eq_true.mp (List.all_eq_true.mp h2 n hn) o ho
    simpa using this
  · intro v n hp
    by_cases hv : v < W.vals.length
    · have := List.all_eq_true.mp h3 v (List.mem_range.mpr hv)
      rw [hp] at this
      simpa using this
    · rw [prod_out_of_range (Nat.le_of_not_lt hv)] at hp; cases hp

theorem sourceOK_of_B {W : World} {p : GId} {g : List NId} (h : sourceOKB W p g = true) :
    SourceOK W p g ∧ (∀ u, W.isInit u = true → NotProducedIn W g u) := by
  unfold sourceOKB at h
  simp only [Bool.and_eq_true] at h
  obtain ⟨⟨⟨⟨h1, h2⟩, h3⟩, h4⟩, h5⟩ := h
  obtain ⟨hpo, hop⟩ := ptrOK_of_B (show ptrOKB W g = true by unfold ptrOKB; rw [Bool.and_eq_true]; exact ⟨h2, h3⟩)
  refine ⟨⟨nodup_of_B h1, hpo, hop, topoSorted_of_B h5⟩, ?_⟩
  · intro u hu m hm
    simpa using List.all_eq_true.mp (forall_isInit h4 u hu) m hm

theorem initNames_of_B {W : World} (h : initNamesB W = true) :
    ∀ u u', W.isInit u = true → W.isInit u' = true → (W.val u).name = (W.val u').name → u = u' := by
  intro u u' hu hu' hn
  have := List.all_eq_true.mp (List.all_eq_true.mp h u (List.mem_range.mpr (isInit_lt hu))) u'
    (List.mem_range.mpr (isInit_lt hu'))
  simp only [hu, hu', hn, Bool.and_self, BEq.rfl, Bool.not_true, Bool.false_or, beq_iff_eq] at this
  exact this

end IrVerif.Extract
