/-
C16: the character classes of the tokenizer, and one equation of `tokenizeAux` per kind of token start.
-/
import IrVerif.Model.SymExpr
namespace IrVerif.SymExpr

def notHead (p : Char → Bool) : List Char → Prop
  | [] => True
  | c :: _ => p c = false

/-- the two scanning loops of the tokenizer are `takeWhile` / `dropWhile` -/
theorem takeDigits_eq (cs : List Char) (acc : Nat) :
    takeDigits acc cs = (Nat.ofDigitChars 10 (cs.takeWhile isDigit) acc, cs.dropWhile isDigit) := by
  induction cs generalizing acc with
  | nil => rfl
  | cons c cs ih =>
    by_cases hc : isDigit c = true
    · simp [takeDigits, hc, ih, Nat.ofDigitChars_cons, digitVal, Nat.mul_comm]
    · simp [takeDigits, hc]

theorem takeIdent_eq (cs acc : List Char) :
    takeIdent acc cs = (acc.reverse ++ cs.takeWhile identCont, cs.dropWhile identCont) := by
  induction cs generalizing acc with
  | nil => simp [takeIdent]
  | cons c cs ih =>
    by_cases hc : identCont c = true
    · simp [takeIdent, hc, ih]
    · simp [takeIdent, hc]

theorem span_append {p : Char → Bool} (ds r : List Char) (hds : ∀ c ∈ ds, p c = true)
    (hr : notHead p r) : (ds ++ r).takeWhile p = ds ∧ (ds ++ r).dropWhile p = r := by
  induction ds with
  | nil => cases r <;> simp_all [notHead]
  | cons c cs ih => simp [hds c (by simp), ih (fun d hd => hds d (by simp [hd]))]

theorem notHead_dropWhile (p : Char → Bool) (cs : List Char) : notHead p (cs.dropWhile p) := by
  induction cs with
  | nil => trivial
  | cons c cs ih =>
    by_cases hc : p c = true
    · simpa [hc] using ih
    · simp [hc, notHead]

theorem takeDigits_append (ds : List Char) (acc : Nat) (r : List Char)
    (hds : ∀ c ∈ ds, isDigit c = true) (hr : notHead isDigit r) :
    takeDigits acc (ds ++ r) = (Nat.ofDigitChars 10 ds acc, r) := by
  rw [takeDigits_eq, (span_append ds r hds hr).1, (span_append ds r hds hr).2]

theorem takeIdent_append (cs acc : List Char) (r : List Char)
    (hcs : ∀ c ∈ cs, identCont c = true) (hr : notHead identCont r) :
    takeIdent acc (cs ++ r) = (acc.reverse ++ cs, r) := by
  rw [takeIdent_eq, (span_append cs r hcs hr).1, (span_append cs r hcs hr).2]

theorem isDigit_iff (c : Char) : isDigit c = true ↔ 48 ≤ c.toNat ∧ c.toNat ≤ 57 := by
  simp [isDigit, Char.le_def, UInt32.le_iff_toNat_le]

theorem isAlpha_iff (c : Char) :
    isAlpha c = true ↔ (97 ≤ c.toNat ∧ c.toNat ≤ 122) ∨ (65 ≤ c.toNat ∧ c.toNat ≤ 90) := by
  simp [isAlpha, Char.le_def, UInt32.le_iff_toNat_le]

theorem identStart_iff (c : Char) :
    identStart c = true ↔ (97 ≤ c.toNat ∧ c.toNat ≤ 122) ∨ (65 ≤ c.toNat ∧ c.toNat ≤ 90) ∨ c.toNat = 95 := by
  have h95 : (c == '_') = true ↔ c.toNat = 95 := by
    constructor
    · intro h; have := eq_of_beq h; subst this; rfl
    · intro h
      have : c = '_' := by apply Char.ext; apply UInt32.toNat_inj.mp; simpa using h
      simp [this]
  simp only [identStart, Bool.or_eq_true, isAlpha_iff, h95]
  omega

theorem digit_notSpace {c : Char} (h : isDigit c = true) : isSpace c = false := by
  rw [isDigit_iff] at h
  simp [isSpace]; omega

theorem identStart_notSpace {c : Char} (h : identStart c = true) : isSpace c = false := by
  rw [identStart_iff] at h
  simp [isSpace]; omega

theorem identStart_notDigit {c : Char} (h : identStart c = true) : isDigit c = false := by
  rw [identStart_iff] at h
  cases hd : isDigit c with
  | false => rfl
  | true => rw [isDigit_iff] at hd; omega

theorem identStart_cont {c : Char} (h : identStart c = true) : identCont c = true := by
  simp only [identStart, Bool.or_eq_true] at h
  simp only [identCont, isAlnum, Bool.or_eq_true]
  rcases h with h | h
  · exact Or.inl (Or.inl (Or.inl h))
  · exact Or.inl (Or.inr h)

theorem toDigits_isDigit (n : Nat) : ∀ c ∈ Nat.toDigits 10 n, isDigit c = true := by
  intro c hc
  have h := Nat.isDigit_of_mem_toDigits (by decide) (by decide) hc
  rw [isDigit_iff]
  simp [Char.isDigit, UInt32.le_iff_toNat_le] at h
  omega

/-- identifier tokens must carry an identifier text; other tokens are always printable -/
def WfTok : Tok → Prop
  | .ident s => ∃ c cs, s.toList = c :: cs ∧ identStart c = true ∧ ∀ d ∈ cs, identCont d = true
  | _ => True

def AllWf (ts : List Tok) : Prop := ∀ t ∈ ts, WfTok t

/-! The body is unfolded once (`eq_def`) and its tests are rewritten one by one, so that the
eleven-way `match` on the punctuation is only looked at where a punctuation character is read. -/

theorem tokenizeAux_space {c : Char} (hc : isSpace c = true) (f : Nat) (cs : List Char) :
    tokenizeAux (f + 1) (c :: cs) = tokenizeAux f cs := by
  rw [tokenizeAux.eq_def]
  dsimp only
  rw [if_pos hc]

theorem tokenizeAux_num {d : Char} {ds rest : List Char} (hds : ∀ x ∈ d :: ds, isDigit x = true)
    (hr : notHead isDigit rest) (f : Nat) :
    tokenizeAux (f + 1) (d :: ds ++ rest) =
      (tokenizeAux f rest).map (Tok.num (Nat.ofDigitChars 10 (d :: ds) 0) :: ·) := by
  have hd := hds d (by simp)
  have hs : ¬ isSpace d = true := by simp [digit_notSpace hd]
  rw [List.cons_append, tokenizeAux.eq_def]
  dsimp only
  rw [if_neg hs, if_pos hd, ← List.cons_append, takeDigits_append (d :: ds) 0 rest hds hr]

theorem tokenizeAux_ident {c : Char} {cs rest : List Char} (hc : identStart c = true)
    (hcs : ∀ x ∈ cs, identCont x = true) (hr : notHead identCont rest) (f : Nat) :
    tokenizeAux (f + 1) (c :: cs ++ rest) =
      (tokenizeAux f rest).map (Tok.ident (String.ofList (c :: cs)) :: ·) := by
  have hall : ∀ d ∈ c :: cs, identCont d = true := by
    intro d hd
    rcases List.mem_cons.mp hd with rfl | hd
    · exact identStart_cont hc
    · exact hcs d hd
  have hs : ¬ isSpace c = true := by simp [identStart_notSpace hc]
  have hd : ¬ isDigit c = true := by simp [identStart_notDigit hc]
  rw [List.cons_append, tokenizeAux.eq_def]
  dsimp only
  rw [if_neg hs, if_neg hd, if_pos hc, ← List.cons_append,
    takeIdent_append (c :: cs) [] rest hall hr]
  rfl

theorem tokenizeAux_op (o : Op) {r : List Char} (hs : o = .slash → notHead (· == '/') r)
    (ht : o = .star → notHead (· == '*') r) (f : Nat) :
    tokenizeAux (f + 1) (opChars o ++ r) = (tokenizeAux f r).map (Tok.op o :: ·) := by
  cases o
  case slash =>
    rcases r with _ | ⟨c, r⟩
    · simp [opChars, tokenizeAux, isSpace, isDigit, identStart, isAlpha]
    · have : c ≠ '/' := by simpa [notHead] using hs rfl
      simp [opChars, tokenizeAux, isSpace, isDigit, identStart, isAlpha, this]
  case star =>
    rcases r with _ | ⟨c, r⟩
    · simp [opChars, tokenizeAux, isSpace, isDigit, identStart, isAlpha]
    · have : c ≠ '*' := by simpa [notHead] using ht rfl
      simp [opChars, tokenizeAux, isSpace, isDigit, identStart, isAlpha, this]
  all_goals simp [opChars, tokenizeAux, isSpace, isDigit, identStart, isAlpha]

theorem tokenizeAux_lparen {r : List Char} (f : Nat) :
    tokenizeAux (f + 1) ('(' :: r) = (tokenizeAux f r).map (Tok.lparen :: ·) := by
  rw [tokenizeAux.eq_def]
  dsimp only
  rw [if_neg (by decide), if_neg (by decide), if_neg (by decide)]
  rfl

theorem tokenizeAux_rparen {r : List Char} (f : Nat) :
    tokenizeAux (f + 1) (')' :: r) = (tokenizeAux f r).map (Tok.rparen :: ·) := by
  rw [tokenizeAux.eq_def]
  dsimp only
  rw [if_neg (by decide), if_neg (by decide), if_neg (by decide)]
  rfl

theorem tokenizeAux_comma {r : List Char} (f : Nat) :
    tokenizeAux (f + 1) (',' :: r) = (tokenizeAux f r).map (Tok.comma :: ·) := by
  rw [tokenizeAux.eq_def]
  dsimp only
  rw [if_neg (by decide), if_neg (by decide), if_neg (by decide)]
  rfl

end IrVerif.SymExpr
