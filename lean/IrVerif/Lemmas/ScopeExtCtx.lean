/-
What a level of a run of the extended deserializer starts from (`ScopeCtx` for a graph or a list of nested graphs,
`NodeCtx` for a node or a node list of the graph that started at `b`), and how that context passes to the next level
(`ScopeCtx.body`, `NodeCtx.tail`, `NodeCtx.subs`, `ScopeCtx.tail`): the hypotheses the inductions along a run share.
-/
import IrVerif.Lemmas.ScopeExtRun
import IrVerif.Lemmas.ScopeExtInv
import IrVerif.Lemmas.ScopeFuncDeser
namespace IrVerif.Scope

structure ScopeCtx (st : Store) (scopes : List Table) : Prop where
  fresh : Fresh st
  lt : TablesLt st scopes
  named : ∀ T ∈ scopes, Named st T

structure NodeCtx (st : Store) (b : Nat) (top : Table) (outer : List Table) : Prop extends ScopeCtx st outer where
  ok : TblOK st b top
  le : b ≤ st.nv
  top_named : Named st top

theorem ScopeCtx.empty : ScopeCtx {} [] := ⟨fun _ _ => rfl, nofun, nofun⟩

theorem ScopeCtx.keep {st st' : Store} {scopes : List Table} (c : ScopeCtx st scopes) (hf : Fresh st')
    (hle : st.nv ≤ st'.nv) (hn : ∀ v, v < st.nv → (st'.vals v).name = (st.vals v).name) : ScopeCtx st' scopes :=
  ⟨hf, c.lt.mono hle, named_keep_all c.named c.lt hn⟩

section
variable {st : Store} {x : Ext} {outer : List Table}

theorem ScopeCtx.body {inputs : List VInfoE} {inits : List TensorP} {vinfo : List VInfoE} {nodes : List NodeE}
    {outputs : List VInfoE} {quant : List QuantP} {st1 : Store} {x1 : Ext} {ins : List Nat} {st2 : Store} {x2 : Ext}
    {tbl2 : Table} {iv : List Nat} {st3 : Store} {x3 : Ext} {tbl3 : Table} {st4 : Store} {x4 : Ext} {tbl4 : Table}
    {ns : List NodeT} {st5 : Store} {x5 : Ext} {outs : List Nat} (c : ScopeCtx st outer)
    (r : GraphRunE st x outer inputs inits vinfo nodes outputs quant st1 x1 ins st2 x2 tbl2 iv st3 x3 tbl3 st4 x4 tbl4
      ns st5 x5 outs) :
    NodeCtx st3 st.nv tbl3 outer ∧ (∀ v, v < st.nv → (st3.vals v).name = (st.vals v).name) ∧ st3.nn = st.nn := by
  have F := r.core.frame c.fresh c.lt
  have n1 := deserInputs_named (inputs.map VInfoE.erase) st
  rw [r.core.hin] at n1
  have n2 := deserInits_named (vinfoTable (vinfo.map VInfoE.erase)) inits st1 _ n1 F.ok1.lt
  rw [r.core.hinit] at n2
  have nm : ∀ v, v < st.nv → (st3.vals v).name = (st.vals v).name := fun v hv => by
    rw [F.q3.names v (Nat.lt_of_lt_of_le hv F.le2), F.q2.names v (Nat.lt_of_lt_of_le hv F.q1.nv_le), F.q1.names v hv]
  exact ⟨⟨c.keep F.f3 F.le3 nm, F.ok3, F.le3, declareNodes_named _ _ st2 tbl2 st3 tbl3 n2 F.ok2.lt r.core.hdecl⟩, nm,
    by rw [F.q3.nn_eq, F.q2.nn_eq, F.q1.nn_eq]⟩

variable {b : Nat} {top : Table} {vt : List (Name × Info × SS)} {qt : List (Name × SS)}

theorem NodeCtx.nodes_mono {ns : List NodeE} {st' : Store} {x' : Ext} {top' : Table} {nts : List NodeT}
    (c : NodeCtx st b top outer) (h : deserNodesE st x top outer vt qt ns = .ok (st', x', top', nts)) :
    Mono b st st' ∧ Stable st.nv top top' :=
  have s := deserNodes_struct _ st top outer _ b st' top' nts c.fresh c.ok c.lt c.le
    (dropX_ok (deserNodesE_erase ns st x top outer vt qt) h)
  ⟨s.2.1, s.2.2.2⟩

theorem NodeCtx.tail {n : NodeE} {st1 : Store} {x1 : Ext} {top1 : Table} {nt : NodeT} (c : NodeCtx st b top outer)
    (h1 : deserNodeE st x top outer vt qt n = .ok (st1, x1, top1, nt)) :
    NodeCtx st1 b top1 outer ∧ Mono b st st1 ∧ Stable st.nv top top1 := by
  have e1 := dropX_ok (deserNodeE_erase n st x top outer vt qt) h1
  obtain ⟨f1, m1, ok1, s1⟩ := deserNode_struct _ st top outer _ b st1 top1 nt c.fresh c.ok c.lt c.le e1
  exact ⟨⟨c.toScopeCtx.keep f1 m1.nv_le m1.names, ok1, Nat.le_trans c.le m1.nv_le,
    (deserNode_tree _ st top outer _ b st1 top1 nt c.fresh c.ok c.lt c.le c.top_named e1).2⟩, m1, s1⟩

theorem NodeCtx.subs {inputs outputs : List Name} {subs : List GraphE} {st1 : Store} {x1 : Ext}
    {top1 : Table} {ins : List (Option Nat)} {st2 : Store} {outs : List Nat} {st3 : Store} {x3 : Ext}
    {gs : List GraphT} (c : NodeCtx st b top outer)
    (r : NodeRunE st x top outer vt qt inputs outputs subs st1 x1 top1 ins st2 outs st3 x3 gs) :
    ScopeCtx st2 (top1 :: outer) ∧ Named st1 top1 ∧ (∀ v, v < st.nv → (st2.vals v).name = (st.vals v).name) ∧
      NodeRun.Frame b st top outer outputs st1 top1 ins st2 outs st3 := by
  have F := r.core.frame c.fresh c.ok c.lt c.le
  have n1 := resolveInputs_named outer (eraseVT vt) inputs st top c.top_named c.ok.lt
  rw [r.core.hres] at n1
  have nm : ∀ v, v < st.nv → (st2.vals v).name = (st.vals v).name := fun v hv => by
    rw [F.q2.names v (Nat.lt_of_lt_of_le hv F.q1.nv_le), F.q1.names v hv]
  refine ⟨⟨F.f2, F.hts, fun T hT => ?_⟩, n1, nm, F⟩
  rcases List.mem_cons.mp hT with rfl | hT
  · exact n1.keep F.ok1.lt F.q2.names
  · exact (c.named T hT).keep (c.lt T hT) nm

end

theorem ScopeCtx.subs_mono {st : Store} {x : Ext} {scopes : List Table} {gs : List GraphE} {st' : Store} {x' : Ext}
    {gts : List GraphT} (c : ScopeCtx st scopes) (h : deserSubsE st x scopes gs = .ok (st', x', gts)) :
    Mono st.nv st st' :=
  (deserSubs_struct _ st scopes st' gts c.fresh c.lt (dropX_ok (deserSubsE_erase gs st x scopes) h)).2

theorem ScopeCtx.tail {st : Store} {x : Ext} {scopes : List Table} {g : GraphE} {st1 : Store} {x1 : Ext} {gt : GraphT}
    (c : ScopeCtx st scopes) (h1 : deserGraphE st x scopes g = .ok (st1, x1, gt)) :
    ScopeCtx st1 scopes ∧ Mono st.nv st st1 := by
  obtain ⟨f1, m1⟩ := deserGraph_struct _ st scopes st1 gt c.fresh c.lt (dropX_ok (deserGraphE_erase g st x scopes) h1)
  exact ⟨c.keep f1 m1.nv_le m1.names, m1⟩

theorem FuncRunE.core {st : Store} {x : Ext} {vt : List (Name × Info × SS)} {inputs : List Name} {nodes : List NodeE}
    {outputs : List Name} {st1 : Store} {x1 : Ext} {ins : List Nat} {st2 : Store} {x2 : Ext} {tbl2 : Table} {st3 : Store}
    {x3 : Ext} {tbl3 : Table} {ns : List NodeT} {outs : List Nat}
    (r : FuncRunE st x vt inputs nodes outputs st1 x1 ins st2 x2 tbl2 st3 x3 tbl3 ns outs) :
    FuncRun st (eraseVT vt) inputs (eraseNs nodes) outputs st1 ins st2 tbl2 st3 tbl3 ns outs := by
  obtain ⟨a, b⟩ := deserFInputsE_erase vt inputs st x
  rw [r.finsE] at a b
  exact ⟨Prod.ext a.symm b.symm, dropX_ok (declareNodesE_erase vt [] nodes st1 x1 (finputTable inputs ins)) r.declE,
    dropX_ok (deserNodesE_erase nodes st2 x2 tbl2 [] vt []) r.nodesE, r.outsE⟩

theorem FuncRun.Frame.body {st : Store} {vi : List (Name × Info)} {inputs : List Name} {nodes : List NodeP} {st1 : Store}
    {ins : List Nat} {st2 : Store} {tbl2 : Table} {st3 : Store} {tbl3 : Table} {outs : List Nat}
    (F : FuncRun.Frame st vi inputs nodes st1 ins st2 tbl2 st3 tbl3 outs) : NodeCtx st2 st.nv tbl2 [] :=
  ⟨⟨F.f2, nofun, nofun⟩, F.ok2, F.le2, F.n2⟩

theorem deserFunctionE_frame {f : FuncE} {st : Store} {x : Ext} {st1 : Store} {x1 : Ext} {g : GraphT} (hf : Fresh st)
    (h : deserFunctionE st x f = .ok (st1, x1, g)) :
    Fresh st1 ∧ st.nv ≤ st1.nv ∧ ∀ v, v < st.nv → (st1.vals v).name = (st.vals v).name :=
  have r := deserFunction_frame f.erase st st1 g hf (dropX_ok (deserFunctionE_erase f st x) h)
  ⟨r.1, r.2.1, r.2.2.1⟩

end IrVerif.Scope
