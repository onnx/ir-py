/-
A run of the extended deserializer (`Model/ScopeExt.lean`), described once.  The extension state is changed by three
primitives only (`Ext.merge`, `Ext.annotate`, `Ext.setDevs`): `Ext.Steps pm pq pn x x'` says at which values / node
indices; what a run keeps is a lemma about that relation.  Each helper phase is walked once (`PhaseE`); a successful run
is taken apart by `deserGraphE_ind` .. `deserSubsE_ind` over `DeserECases`, with the phase equations as `GraphRunE` /
`NodeRunE` (`FuncRunE`, `deserFuncsE_ind` for functions); `deserGraphE_run` .. is the frame `RunE` of such a run.
-/
import IrVerif.Lemmas.ScopeExtGen
namespace IrVerif.Scope

def QExt (n n' : Nat) (x x' : Ext) : Prop :=
  n ≤ n' ∧ (∀ d, d < n → x'.quant d = x.quant d) ∧ (∀ d, n' ≤ d → x'.quant d = x.quant d)

def QFresh (n : Nat) (x : Ext) : Prop := ∀ d, n ≤ d → x.quant d = none

def QT (x : Ext) (qt : List (Name × SS)) (T : Table) : Prop := ∀ e ∈ T, x.quant e.2 = quantOf qt e.1

def MExt (n n' : Nat) (x x' : Ext) : Prop :=
  n ≤ n' ∧ (∀ d, d < n → x'.vmeta d = x.vmeta d) ∧ (∀ d, n' ≤ d → x'.vmeta d = x.vmeta d)

def TblBd (b n : Nat) (T : Table) : Prop := ∀ e ∈ T, b ≤ e.2 ∧ e.2 < n

theorem QFresh.ext {n n' : Nat} {x x' : Ext} (h : QFresh n x) (e : QExt n n' x x') : QFresh n' x' :=
  fun d hd => by rw [e.2.2 d hd]; exact h d (Nat.le_trans e.1 hd)

theorem ExtFresh.qfresh {st : Store} {x : Ext} (h : ExtFresh st x) : QFresh st.nv x := fun d hd => (h d hd).2

theorem QFresh.mono {n n' : Nat} {x : Ext} (h : QFresh n x) (hle : n ≤ n') : QFresh n' x :=
  fun d hd => h d (Nat.le_trans hle hd)

theorem QT.ext {n n' : Nat} {x x' : Ext} {qt : List (Name × SS)} {T : Table} (h : QT x qt T)
    (hlt : ∀ e ∈ T, e.2 < n) (e : QExt n n' x x') : QT x' qt T :=
  fun a ha => by rw [e.2.1 _ (hlt a ha)]; exact h a ha

theorem QT.of_eq {x x' : Ext} {qt : List (Name × SS)} {T : Table} (h : QT x qt T)
    (hq : ∀ e ∈ T, x'.quant e.2 = x.quant e.2) : QT x' qt T :=
  fun a ha => by rw [hq a ha]; exact h a ha

theorem Ext.setDevs_quant (x : Ext) (n : Nat) (d : List DevR) : (x.setDevs n d).quant = x.quant := rfl

theorem TblBd.mono {b n n' : Nat} {T : Table} (h : TblBd b n T) (hle : n ≤ n') : TblBd b n' T :=
  fun e he => ⟨(h e he).1, Nat.lt_of_lt_of_le (h e he).2 hle⟩

theorem TblBd.cons {b n : Nat} {T : Table} (h : TblBd b n T) (k : Name) (hb : b ≤ n) :
    TblBd b (n + 1) ((k, n) :: T) := by
  intro e he
  simp only [List.mem_cons] at he
  rcases he with rfl | he
  · exact ⟨hb, Nat.lt_succ_self _⟩
  · exact ⟨(h e he).1, Nat.lt_succ_of_lt (h e he).2⟩

theorem ExtFresh.ext {st st' : Store} {x x' : Ext} (h : ExtFresh st x) (q : QExt st.nv st'.nv x x')
    (m : MExt st.nv st'.nv x x') : ExtFresh st' x' := fun d hd => by
  rw [m.2.2 d hd, q.2.2 d hd]
  exact h d (Nat.le_trans m.1 hd)

/-- what an extended deserializer run does to the extension state: metadata merged into a value of `pm`, a value of
    `pq` annotated, the configurations of a node of `pn` stored -/
inductive Ext.Steps (pm pq pn : Nat → Prop) : Ext → Ext → Prop
  | refl (x : Ext) : Ext.Steps pm pq pn x x
  | merge {x x' : Ext} (v : Nat) (es : SS) : pm v → Ext.Steps pm pq pn (x.merge v es) x' → Ext.Steps pm pq pn x x'
  | annotate {x x' : Ext} (qt : List (Name × SS)) (v : Nat) (n : Name) : pq v →
      Ext.Steps pm pq pn (x.annotate qt v n) x' → Ext.Steps pm pq pn x x'
  | setDevs {x x' : Ext} (k : Nat) (d : List DevR) : pn k → Ext.Steps pm pq pn (x.setDevs k d) x' →
      Ext.Steps pm pq pn x x'

namespace Ext.Steps
variable {pm pq pn pm' pq' pn' : Nat → Prop} {x y z : Ext}

theorem trans (h1 : Ext.Steps pm pq pn x y) (h2 : Ext.Steps pm pq pn y z) : Ext.Steps pm pq pn x z := by
  induction h1 with
  | refl => exact h2
  | merge v es hv _ ih => exact .merge v es hv (ih h2)
  | annotate qt v n hv _ ih => exact .annotate qt v n hv (ih h2)
  | setDevs k d hk _ ih => exact .setDevs k d hk (ih h2)

theorem mono (hm : ∀ v, pm v → pm' v) (hq : ∀ v, pq v → pq' v) (hn : ∀ k, pn k → pn' k)
    (h : Ext.Steps pm pq pn x y) : Ext.Steps pm' pq' pn' x y := by
  induction h with
  | refl => exact .refl _
  | merge v es h _ ih => exact .merge v es (hm v h) ih
  | annotate qt v n h _ ih => exact .annotate qt v n (hq v h) ih
  | setDevs k d h _ ih => exact .setDevs k d (hn k h) ih

theorem newNamed (vt : List (Name × Info × SS)) (qt : List (Name × SS)) {v : Nat} (n : Name) (hm : pm v) (hq : pq v) :
    Ext.Steps pm pq pn x (x.newNamed vt qt v n) := by
  unfold Ext.newNamed
  split
  · exact .merge v _ hm (.annotate qt v n hq (.refl _))
  · exact .annotate qt v n hq (.refl _)

theorem wf (h : Ext.Steps pm pq pn x y) (hw : ExtWF x) : ExtWF y := by
  induction h with
  | refl => exact hw
  | merge v es _ _ ih => exact ih (hw.merge v es)
  | annotate qt v n _ _ ih => exact ih (hw.annotate qt v n)
  | setDevs k d _ _ ih => exact ih (hw.setDevs k d)

theorem quant_eq (h : Ext.Steps pm pq pn x y) {d : Nat} (hd : ¬ pq d) : y.quant d = x.quant d := by
  induction h with
  | refl => rfl
  | merge v es _ _ ih => rw [ih, Ext.merge_quant]
  | annotate qt v n hv _ ih => rw [ih, Ext.annotate_quant_ne _ _ _ _ (fun (e : d = v) => hd (e ▸ hv))]
  | setDevs k d' _ _ ih => rw [ih]; rfl

theorem vmeta_eq (h : Ext.Steps pm pq pn x y) {d : Nat} (hd : ¬ pm d) : y.vmeta d = x.vmeta d := by
  induction h with
  | refl => rfl
  | merge v es hv _ ih => rw [ih, Ext.merge_vmeta, if_neg (fun (e : d = v) => hd (e ▸ hv))]
  | annotate qt v n _ _ ih => rw [ih, Ext.annotate_vmeta]
  | setDevs k d' _ _ ih => rw [ih]; rfl

theorem devs_eq (h : Ext.Steps pm pq pn x y) {k : Nat} (hk : ¬ pn k) : y.devs k = x.devs k := by
  induction h with
  | refl => rfl
  | merge v es _ _ ih => rw [ih, Ext.merge_devs]
  | annotate qt v n _ _ ih => rw [ih, Ext.annotate_devs]
  | setDevs k' d' hk' _ ih =>
    rw [ih]
    simp only [Ext.setDevs]
    rw [if_neg (fun (e : k = k') => hk (e ▸ hk'))]

theorem devs_same (h : Ext.Steps pm pq (fun _ => False) x y) : y.devs = x.devs :=
  funext fun _ => h.devs_eq (fun hp => hp)

theorem quant_same (h : Ext.Steps pm (fun _ => False) pn x y) : y.quant = x.quant :=
  funext fun _ => h.quant_eq (fun hp => hp)

end Ext.Steps

abbrev inR (a b : Nat) : Nat → Prop := fun v => a ≤ v ∧ v < b

/-- `bd` for every lower bound `b`: a graph uses the counter at its own start.  `quantNew` (under `QFresh`) serves the
    annotation tables along a run, `nstep` (under `ExtFresh`) the round trip -/
structure PhaseE (vt : List (Name × Info × SS)) (qt : List (Name × SS)) (st st' : Store) (x x' : Ext)
    (tbl tbl' : Table) : Prop where
  nv_le : st.nv ≤ st'.nv
  nn_eq : st'.nn = st.nn
  steps : Ext.Steps (inR st.nv st'.nv) (inR st.nv st'.nv) (fun _ => False) x x'
  bd : ∀ b, b ≤ st.nv → TblBd b st.nv tbl → TblBd b st'.nv tbl'
  quantNew : QFresh st.nv x → ∀ e ∈ tbl', e ∈ tbl ∨ (st.nv ≤ e.2 ∧ e.2 < st'.nv ∧ x'.quant e.2 = quantOf qt e.1)
  nstep : ExtFresh st x → NStep st st' x x' vt qt

namespace PhaseE
variable {vt : List (Name × Info × SS)} {qt : List (Name × SS)}

theorem store {st st' : Store} (x : Ext) (tbl : Table) (hnv : st'.nv = st.nv) (hnn : st'.nn = st.nn)
    (hn : ∀ d, (st'.vals d).name = (st.vals d).name) : PhaseE vt qt st st' x x tbl tbl :=
  ⟨by omega, hnn, .refl _, fun _ _ h => hnv ▸ h, fun _ _ he => .inl he, fun hf => .same hf hnv hn⟩

theorem trans {a b c : Store} {x y z : Ext} {t u w : Table} (h1 : PhaseE vt qt a b x y t u)
    (h2 : PhaseE vt qt b c y z u w) : PhaseE vt qt a c x z t w where
  nv_le := Nat.le_trans h1.nv_le h2.nv_le
  nn_eq := by rw [h2.nn_eq, h1.nn_eq]
  steps :=
    (h1.steps.mono (fun _ h => ⟨h.1, Nat.lt_of_lt_of_le h.2 h2.nv_le⟩) (fun _ h => ⟨h.1, Nat.lt_of_lt_of_le h.2 h2.nv_le⟩)
      (fun _ h => h)).trans
    (h2.steps.mono (fun _ h => ⟨Nat.le_trans h1.nv_le h.1, h.2⟩) (fun _ h => ⟨Nat.le_trans h1.nv_le h.1, h.2⟩)
      (fun _ h => h))
  bd := fun b hb hT => h2.bd b (Nat.le_trans hb h1.nv_le) (h1.bd b hb hT)
  quantNew := fun hf e he => by
    have hf1 : QFresh b.nv y := fun d hd => by
      rw [h1.steps.quant_eq (fun hp => by have := hp.2; omega)]
      exact hf d (Nat.le_trans h1.nv_le hd)
    rcases h2.quantNew hf1 e he with hu | ⟨h3, h4, h5⟩
    · rcases h1.quantNew hf e hu with ht | ⟨h3, h4, h5⟩
      · exact .inl ht
      · exact .inr ⟨h3, Nat.lt_of_lt_of_le h4 h2.nv_le, by
          rw [h2.steps.quant_eq (fun hp => by have := hp.1; omega)]; exact h5⟩
    · exact .inr ⟨Nat.le_trans h1.nv_le h3, h4, h5⟩
  nstep := fun hf => (h1.nstep hf).trans (h2.nstep (h1.nstep hf).fresh)

theorem push {st st' : Store} (x : Ext) (tbl : Table) (n : Name) (hnv : st'.nv = st.nv + 1) (hnn : st'.nn = st.nn)
    (hname : (st'.vals st.nv).name = some n) (hkeep : ∀ d, d < st.nv → (st'.vals d).name = (st.vals d).name) :
    PhaseE vt qt st st' x (x.newNamed vt qt st.nv n) tbl ((n, st.nv) :: tbl) where
  nv_le := by omega
  nn_eq := hnn
  steps := .newNamed vt qt n ⟨Nat.le_refl _, by omega⟩ ⟨Nat.le_refl _, by omega⟩
  bd := fun _ hb hT => hnv ▸ hT.cons n hb
  quantNew := fun hf e he => by
    simp only [List.mem_cons] at he
    rcases he with rfl | he
    · exact .inr ⟨Nat.le_refl _, by omega, Ext.newNamed_quant_self _ _ _ _ _ (hf _ (Nat.le_refl _))⟩
    · exact .inl he
  nstep := fun hf => .one vt qt n hf hnv hname hkeep

variable {st st' : Store} {x x' : Ext} {tbl tbl' : Table}

theorem devs (h : PhaseE vt qt st st' x x' tbl tbl') : x'.devs = x.devs := h.steps.devs_same

theorem qtable (h : PhaseE vt qt st st' x x' tbl tbl') (hf : QFresh st.nv x) (hlt : TableLt st tbl) (hq : QT x qt tbl) :
    QT x' qt tbl' ∧ TableLt st' tbl' := by
  refine ⟨fun e he => ?_, fun e he => ?_⟩
  · rcases h.quantNew hf e he with ht | ⟨_, _, h5⟩
    · rw [h.steps.quant_eq (fun hp => by have := hp.1; have := hlt e ht; omega)]
      exact hq e ht
    · exact h5
  · rcases h.quantNew hf e he with ht | ⟨_, h4, _⟩
    · exact Nat.lt_of_lt_of_le (hlt e ht) h.nv_le
    · exact h4

end PhaseE

theorem declareOutputsE_phase (vt : List (Name × Info × SS)) (qt : List (Name × SS)) :
    ∀ (ns : List Name) (st : Store) (x : Ext) (tbl : Table) (st' : Store) (x' : Ext) (tbl' : Table),
      declareOutputsE st x tbl vt qt ns = .ok (st', x', tbl') → PhaseE vt qt st st' x x' tbl tbl'
  | [] => fun st x tbl st' x' tbl' h => by
    simp only [declareOutputsE, Except.ok.injEq, Prod.mk.injEq] at h
    obtain ⟨rfl, rfl, rfl⟩ := h
    exact .store x tbl rfl rfl (fun _ => rfl)
  | n :: ns => fun st x tbl st' x' tbl' h => by
    simp only [declareOutputsE] at h
    by_cases hn : n = ""
    · simp only [hn, if_true] at h
      exact declareOutputsE_phase vt qt ns st x tbl st' x' tbl' h
    · simp only [hn, if_false] at h
      cases hl : tbl.lookup n with
      | some v => simp [hl] at h
      | none =>
        simp only [hl] at h
        obtain ⟨q, hnv⟩ := newNamed_quiet st (eraseVT vt) n
        exact (PhaseE.push x tbl n hnv q.nn_eq (newNamed_name _ _ _) q.names).trans
          (declareOutputsE_phase vt qt ns _ _ _ st' x' tbl' h)

theorem declareNodesE_phase (vt : List (Name × Info × SS)) (qt : List (Name × SS)) :
    ∀ (ns : List NodeE) (st : Store) (x : Ext) (tbl : Table) (st' : Store) (x' : Ext) (tbl' : Table),
      declareNodesE st x tbl vt qt ns = .ok (st', x', tbl') → PhaseE vt qt st st' x x' tbl tbl'
  | [] => fun st x tbl st' x' tbl' h => by
    simp only [declareNodesE, Except.ok.injEq, Prod.mk.injEq] at h
    obtain ⟨rfl, rfl, rfl⟩ := h
    exact .store x tbl rfl rfl (fun _ => rfl)
  | n :: ns => fun st x tbl st' x' tbl' h => by
    simp only [declareNodesE] at h
    split at h
    · simp at h
    · rename_i st1 x1 tbl1 h1
      exact (declareOutputsE_phase vt qt _ _ _ _ _ _ _ h1).trans (declareNodesE_phase vt qt ns st1 x1 tbl1 st' x' tbl' h)

theorem resolveInputsE_phase (outer : List Table) (vt : List (Name × Info × SS)) (qt : List (Name × SS)) :
    ∀ (ns : List Name) (st : Store) (x : Ext) (top : Table),
      PhaseE vt qt st (resolveInputsE st x top outer vt qt ns).1 x (resolveInputsE st x top outer vt qt ns).2.1 top
        (resolveInputsE st x top outer vt qt ns).2.2.1
  | [] => fun st x top => .store x top rfl rfl (fun _ => rfl)
  | n :: ns => fun st x top => by
    simp only [resolveInputsE]
    by_cases hn : n = ""
    · simp only [hn, if_true]
      exact resolveInputsE_phase outer vt qt ns st x top
    · simp only [hn, if_false]
      cases hl : resolve n (top :: outer) with
      | some v =>
        simp only
        exact resolveInputsE_phase outer vt qt ns st x top
      | none =>
        simp only
        obtain ⟨q, hnv⟩ := newNamed_quiet st (eraseVT vt) n
        exact (PhaseE.push x top n hnv q.nn_eq (newNamed_name _ _ _) q.names).trans
          (resolveInputsE_phase outer vt qt ns _ _ _)

theorem deserInitsE_phase (vt : List (Name × Info × SS)) (qt : List (Name × SS)) :
    ∀ (ts : List TensorP) (st : Store) (x : Ext) (tbl : Table),
      PhaseE vt qt st (deserInitsE st x tbl vt qt ts).1 x (deserInitsE st x tbl vt qt ts).2.1 tbl
        (deserInitsE st x tbl vt qt ts).2.2.1
  | [] => fun st x tbl => .store x tbl rfl rfl (fun _ => rfl)
  | t :: ts => fun st x tbl => by
    simp only [deserInitsE]
    by_cases hn : t.name = ""
    · simp only [hn, if_true]
      exact deserInitsE_phase vt qt ts st x tbl
    · simp only [hn, if_false]
      cases hl : tbl.lookup t.name with
      | some v =>
        simp only
        refine PhaseE.trans ?_ (deserInitsE_phase vt qt ts
          ((st.allocTensor { name := some t.name, data := t.data, ty := t.ty, sh := t.sh }).1.modify v
            fun c => { c with const := some st.nt }) x tbl)
        exact .store x tbl rfl rfl (fun d => by
          simp only [Store.modify, Store.allocTensor]
          split <;> rfl)
      | none =>
        simp only
        obtain ⟨q, hnv⟩ := newInit_quiet (st.allocTensor { name := some t.name, data := t.data, ty := t.ty, sh := t.sh }).1
          (eraseVT vt) t st.nt
        exact (PhaseE.push (st := st) x tbl t.name hnv q.nn_eq (newInit_name _ _ _ _) q.names).trans
          (deserInitsE_phase vt qt ts _ _ _)

theorem deserFInputsE_phase (vt : List (Name × Info × SS)) : ∀ (ns : List Name) (st : Store) (x : Ext) (tbl : Table),
    ∃ tbl', PhaseE vt [] st (deserFInputsE st x vt ns).1 x (deserFInputsE st x vt ns).2.1 tbl tbl'
  | [] => fun st x tbl => ⟨tbl, .store x tbl rfl rfl (fun _ => rfl)⟩
  | n :: ns => fun st x tbl => by
    simp only [deserFInputsE]
    obtain ⟨q, hnv⟩ := newNamed_quiet st (eraseVT vt) n
    obtain ⟨tbl', h⟩ := deserFInputsE_phase vt ns (newNamed st (eraseVT vt) n) (x.newNamed vt [] st.nv n)
      ((n, st.nv) :: tbl)
    exact ⟨tbl', (PhaseE.push x tbl n hnv q.nn_eq (newNamed_name _ _ _) q.names).trans h⟩

theorem deserInputsE_steps (qt : List (Name × SS)) : ∀ (is : List VInfoE) (st : Store) (x : Ext),
    st.nv ≤ (deserInputsE st x qt is).1.nv ∧ (deserInputsE st x qt is).1.nn = st.nn ∧
    Ext.Steps (inR st.nv (deserInputsE st x qt is).1.nv) (inR st.nv (deserInputsE st x qt is).1.nv) (fun _ => False) x
      (deserInputsE st x qt is).2.1 ∧
    (∀ v ∈ (deserInputsE st x qt is).2.2, st.nv ≤ v ∧ v < (deserInputsE st x qt is).1.nv) ∧
    (QFresh st.nv x → QT (deserInputsE st x qt is).2.1 qt ((is.map (·.name)).zip (deserInputsE st x qt is).2.2))
  | [], st, x => ⟨Nat.le_refl _, rfl, .refl _, fun v hv => by simp [deserInputsE] at hv,
      fun _ e he => by simp [deserInputsE] at he⟩
  | i :: is, st, x => by
    simp only [deserInputsE, alloc_snd, List.map_cons]
    obtain ⟨a, b, c, d, e⟩ := deserInputsE_steps qt is (st.alloc { name := some i.name, info := i.info }).1
      ((x.merge st.nv i.mprops).annotate qt st.nv i.name)
    simp only [alloc_nv] at a c d e
    have hv : inR st.nv (deserInputsE (st.alloc { name := some i.name, info := i.info }).1
        ((x.merge st.nv i.mprops).annotate qt st.nv i.name) qt is).1.nv st.nv := ⟨Nat.le_refl _, by omega⟩
    refine ⟨by omega, b, .merge _ _ hv (.annotate _ _ _ hv
      (c.mono (fun _ h => ⟨by have := h.1; omega, h.2⟩) (fun _ h => ⟨by have := h.1; omega, h.2⟩) (fun _ h => h))), ?_, ?_⟩
    · intro v hv'
      simp only [List.mem_cons] at hv'
      rcases hv' with rfl | hv'
      · exact hv
      · exact ⟨by have := (d v hv').1; omega, (d v hv').2⟩
    · intro hf e' he
      simp only [List.zip_cons_cons, List.mem_cons] at he
      rcases he with rfl | he
      · rw [c.quant_eq (fun hp => by have := hp.1; omega)]
        exact Ext.annotate_quant_self _ _ _ _ (by rw [Ext.merge_quant]; exact hf _ (Nat.le_refl _))
      · refine e (fun d' hd' => ?_) e' he
        rw [Ext.annotate_quant_ne _ _ _ _ (by omega), Ext.merge_quant]
        exact hf d' (by omega)

theorem deserInputsE_new (qt : List (Name × SS)) : ∀ (is : List VInfoE) (st : Store) (x : Ext), ExtFresh st x →
    ∀ i (h : i < is.length), (deserInputsE st x qt is).2.1.vmeta (st.nv + i) = ssUpdate [] is[i].mprops ∧
      (deserInputsE st x qt is).2.1.quant (st.nv + i) = quantOf qt is[i].name
  | [] => fun _ _ _ i h => by simp at h
  | e :: is => fun st x hf i hi => by
    simp only [deserInputsE, alloc_snd]
    obtain ⟨_, _, c, _⟩ := deserInputsE_steps qt is (st.alloc { name := some e.name, info := e.info }).1
      ((x.merge st.nv e.mprops).annotate qt st.nv e.name)
    cases i with
    | zero =>
      simp only [Nat.add_zero, List.getElem_cons_zero]
      rw [c.vmeta_eq (fun hp => by have := hp.1; simp only [alloc_nv] at this; omega),
        c.quant_eq (fun hp => by have := hp.1; simp only [alloc_nv] at this; omega), Ext.annotate_vmeta, Ext.merge_vmeta]
      exact ⟨by simp [(hf st.nv (Nat.le_refl _)).1],
        Ext.annotate_quant_self _ _ _ _ (by rw [Ext.merge_quant]; exact (hf st.nv (Nat.le_refl _)).2)⟩
    | succ k =>
      have := deserInputsE_new qt is (st.alloc { name := some e.name, info := e.info }).1
        ((x.merge st.nv e.mprops).annotate qt st.nv e.name) (fun d hd => by
          have hd' : st.nv + 1 ≤ d := hd
          rw [Ext.annotate_vmeta, Ext.merge_vmeta, Ext.annotate_quant_ne _ _ _ _ (by omega), Ext.merge_quant,
            if_neg (by omega)]
          exact hf d (by omega)) k (by simpa using hi)
      simp only [List.getElem_cons_succ]
      rw [show st.nv + (k + 1) = st.nv + 1 + k by omega]
      exact this

theorem deserOutputsE_steps (tbl : Table) : ∀ (os : List VInfoE) (st : Store) (x : Ext),
    st.nv ≤ (deserOutputsE st x tbl os).1.nv ∧ (deserOutputsE st x tbl os).1.nn = st.nn ∧
    Ext.Steps (fun v => (∃ n, (n, v) ∈ tbl) ∨ inR st.nv (deserOutputsE st x tbl os).1.nv v) (fun _ => False)
      (fun _ => False) x (deserOutputsE st x tbl os).2.1
  | [], st, x => ⟨Nat.le_refl _, rfl, .refl _⟩
  | o :: os, st, x => by
    simp only [deserOutputsE]
    cases hl : tbl.lookup o.name with
    | some v =>
      simp only
      obtain ⟨a, b, c⟩ := deserOutputsE_steps tbl os (st.modify v fun c => { c with info := o.info }) (x.merge v o.mprops)
      exact ⟨a, b, .merge v _ (.inl ⟨_, lookup_mem _ _ _ hl⟩) c⟩
    | none =>
      simp only
      obtain ⟨a, b, c⟩ := deserOutputsE_steps tbl os (st.alloc { name := some o.name, info := o.info }).1
        (x.merge (st.alloc { name := some o.name, info := o.info }).2 o.mprops)
      simp only [alloc_nv, alloc_snd] at a c ⊢
      exact ⟨by omega, b, .merge _ _ (.inr ⟨Nat.le_refl _, by omega⟩)
        (c.mono (fun _ h => h.imp id (fun h => ⟨by have := h.1; omega, h.2⟩)) (fun _ h => h) (fun _ h => h))⟩

structure RunE (n n' k k' : Nat) (x x' : Ext) : Prop where
  nv_le : n ≤ n'
  nn_le : k ≤ k'
  steps : Ext.Steps (inR n n') (inR n n') (inR k k') x x'

namespace RunE
variable {n n' k k' : Nat} {x x' : Ext}

theorem refl (n k : Nat) (x : Ext) : RunE n n k k x x := ⟨Nat.le_refl _, Nat.le_refl _, .refl _⟩

theorem trans {n1 n2 n3 k1 k2 k3 : Nat} {x y z : Ext} (h1 : RunE n1 n2 k1 k2 x y) (h2 : RunE n2 n3 k2 k3 y z) :
    RunE n1 n3 k1 k3 x z :=
  ⟨Nat.le_trans h1.nv_le h2.nv_le, Nat.le_trans h1.nn_le h2.nn_le,
    (h1.steps.mono (fun _ h => ⟨h.1, Nat.lt_of_lt_of_le h.2 h2.nv_le⟩) (fun _ h => ⟨h.1, Nat.lt_of_lt_of_le h.2 h2.nv_le⟩)
      (fun _ h => ⟨h.1, Nat.lt_of_lt_of_le h.2 h2.nn_le⟩)).trans
    (h2.steps.mono (fun _ h => ⟨Nat.le_trans h1.nv_le h.1, h.2⟩) (fun _ h => ⟨Nat.le_trans h1.nv_le h.1, h.2⟩)
      (fun _ h => ⟨Nat.le_trans h1.nn_le h.1, h.2⟩))⟩

theorem qext (h : RunE n n' k k' x x') : QExt n n' x x' :=
  ⟨h.nv_le, fun _ hd => h.steps.quant_eq (fun hp => by have := hp.1; omega),
    fun _ hd => h.steps.quant_eq (fun hp => by have := hp.2; omega)⟩

theorem mext (h : RunE n n' k k' x x') : MExt n n' x x' :=
  ⟨h.nv_le, fun _ hd => h.steps.vmeta_eq (fun hp => by have := hp.1; omega),
    fun _ hd => h.steps.vmeta_eq (fun hp => by have := hp.2; omega)⟩

theorem wf (h : RunE n n' k k' x x') (hw : ExtWF x) : ExtWF x' := h.steps.wf hw

theorem devs_lt (h : RunE n n' k k' x x') {j : Nat} (hj : j < k) : x'.devs j = x.devs j :=
  h.steps.devs_eq (fun hp => by have := hp.1; omega)

theorem agree_quant {X : Ext} (h : RunE n n' k k' x x') (hX : ∀ d, d < n' → X.quant d = x'.quant d) :
    ∀ d, d < n → X.quant d = x.quant d := fun d hd => by rw [hX d (Nat.lt_of_lt_of_le hd h.nv_le), h.qext.2.1 d hd]

theorem agree_vmeta {X : Ext} (h : RunE n n' k k' x x') (hX : ∀ d, d < n' → X.vmeta d = x'.vmeta d) :
    ∀ d, d < n → X.vmeta d = x.vmeta d := fun d hd => by rw [hX d (Nat.lt_of_lt_of_le hd h.nv_le), h.mext.2.1 d hd]

theorem agree_devs {X : Ext} (h : RunE n n' k k' x x') (hX : ∀ j, j < k' → X.devs j = x'.devs j) :
    ∀ j, j < k → X.devs j = x.devs j := fun j hj => by rw [hX j (Nat.lt_of_lt_of_le hj h.nn_le), h.devs_lt hj]

theorem extFresh {st st' : Store} (h : RunE st.nv st'.nv k k' x x') (hf : ExtFresh st x) : ExtFresh st' x' :=
  hf.ext h.qext h.mext

end RunE

theorem PhaseE.run {vt : List (Name × Info × SS)} {qt : List (Name × SS)} {st st' : Store} {x x' : Ext} {t t' : Table}
    (h : PhaseE vt qt st st' x x' t t') : RunE st.nv st'.nv st.nn st'.nn x x' :=
  ⟨h.nv_le, by rw [h.nn_eq]; exact Nat.le_refl _, h.steps.mono (fun _ h => h) (fun _ h => h) (fun _ h => h.elim)⟩

theorem inputsE_bridge (qt : List (Name × SS)) (is : List VInfoE) (st : Store) (x : Ext) (s1 : Store) (ids : List Nat)
    (h : deserInputs st (is.map VInfoE.erase) = (s1, ids)) (hf : ExtFresh st x) :
    ∃ x1, deserInputsE st x qt is = (s1, x1, ids) ∧ RunE st.nv s1.nv st.nn s1.nn x x1 ∧
      ∀ i (hi : i < is.length), x1.vmeta (st.nv + i) = ssUpdate [] is[i].mprops ∧
        x1.quant (st.nv + i) = quantOf qt is[i].name := by
  obtain ⟨a, b⟩ := deserInputsE_erase qt is st x
  obtain ⟨l, n, st1, _⟩ := deserInputsE_steps qt is st x
  rw [h] at a b
  simp only at a b
  exact ⟨_, Prod.ext a (Prod.ext rfl b),
    a ▸ ⟨l, Nat.le_of_eq n.symm, st1.mono (fun _ h => h) (fun _ h => h) (fun _ h => h.elim)⟩, deserInputsE_new qt is st x hf⟩

theorem initsE_bridge (vt : List (Name × Info × SS)) (qt : List (Name × SS)) (ts : List TensorP) (st : Store) (x : Ext)
    (tbl : Table) (s2 : Store) (t2 : Table) (iv : List Nat)
    (h : deserInits st tbl (eraseVT vt) ts = (s2, t2, iv)) :
    ∃ x2, deserInitsE st x tbl vt qt ts = (s2, x2, t2, iv) ∧ PhaseE vt qt st s2 x x2 tbl t2 := by
  obtain ⟨a, b, c⟩ := deserInitsE_erase vt qt ts st x tbl
  rw [h] at a b c
  simp only at a b c
  exact ⟨_, Prod.ext a (Prod.ext rfl (Prod.ext b c)), a ▸ b ▸ deserInitsE_phase vt qt ts st x tbl⟩

theorem resolveE_bridge (outer : List Table) (vt : List (Name × Info × SS)) (qt : List (Name × SS)) (ns : List Name)
    (st : Store) (x : Ext) (top : Table) (s1 : Store) (t1 : Table) (l1 : List (Option Nat))
    (h : resolveInputs st top outer (eraseVT vt) ns = (s1, t1, l1)) :
    ∃ x1, resolveInputsE st x top outer vt qt ns = (s1, x1, t1, l1) ∧ PhaseE vt qt st s1 x x1 top t1 := by
  obtain ⟨a, b, c⟩ := resolveInputsE_erase outer vt qt ns st x top
  rw [h] at a b c
  simp only at a b c
  exact ⟨_, Prod.ext a (Prod.ext rfl (Prod.ext b c)), a ▸ b ▸ resolveInputsE_phase outer vt qt ns st x top⟩

theorem outsE_bridge (tbl : Table) (os : List VInfoE) (st : Store) (x : Ext) (s5 : Store) (outs : List Nat)
    (h : deserOutputs st tbl (os.map VInfoE.erase) = (s5, outs)) :
    ∃ x5, deserOutputsE st x tbl os = (s5, x5, outs) ∧ s5.nn = st.nn ∧ x5.devs = x.devs := by
  obtain ⟨a, b⟩ := deserOutputsE_erase tbl os st x
  rw [h] at a b
  simp only at a b
  exact ⟨_, Prod.ext a (Prod.ext rfl b), a ▸ (deserOutputsE_steps tbl os st x).2.1,
    (deserOutputsE_steps tbl os st x).2.2.devs_same⟩

theorem RunE.outputs {n k : Nat} {x x4 x5 : Ext} {s4 s5 : Store} {tbl : Table} {os : List VInfoE} {l : List Nat}
    (h : RunE n s4.nv k s4.nn x x4) (hT : TblBd n s4.nv tbl) (he : deserOutputsE s4 x4 tbl os = (s5, x5, l)) :
    RunE n s5.nv k s5.nn x x5 := by
  obtain ⟨o1, o2, o3⟩ := deserOutputsE_steps tbl os s4 x4
  rw [he] at o1 o2 o3
  simp only at o1 o2 o3
  rw [o2]
  refine ⟨Nat.le_trans h.nv_le o1, h.nn_le,
    (h.steps.mono (fun _ h => ⟨h.1, Nat.lt_of_lt_of_le h.2 o1⟩) (fun _ h => ⟨h.1, Nat.lt_of_lt_of_le h.2 o1⟩)
      (fun _ h => h)).trans (o3.mono (fun v hv => ?_) (fun _ h => h.elim) (fun _ h => h.elim))⟩
  rcases hv with ⟨m, hm⟩ | hv
  · exact ⟨(hT _ hm).1, Nat.lt_of_lt_of_le (hT _ hm).2 o1⟩
  · exact ⟨Nat.le_trans h.nv_le hv.1, hv.2⟩

theorem mem_inputTable_zip {is : List VInfoE} {ins : List Nat} {e : Name × Nat}
    (h : e ∈ inputTable (is.map VInfoE.erase) ins) : e ∈ (is.map (·.name)).zip ins := by
  simp only [inputTable, inputNames_erase, List.mem_reverse] at h
  exact h

structure GraphRunE (st : Store) (x : Ext) (outer : List Table) (inputs : List VInfoE) (inits : List TensorP)
    (vinfo : List VInfoE) (nodes : List NodeE) (outputs : List VInfoE) (quant : List QuantP)
    (st1 : Store) (x1 : Ext) (ins : List Nat) (st2 : Store) (x2 : Ext) (tbl2 : Table) (iv : List Nat)
    (st3 : Store) (x3 : Ext) (tbl3 : Table) (st4 : Store) (x4 : Ext) (tbl4 : Table) (ns : List NodeT)
    (st5 : Store) (x5 : Ext) (outs : List Nat) : Prop where
  inputsE : deserInputsE st x (quantTable quant) inputs = (st1, x1, ins)
  initsE : deserInitsE st1 x1 (inputTable (inputs.map VInfoE.erase) ins) (vinfoTableE vinfo) (quantTable quant) inits =
    (st2, x2, tbl2, iv)
  declE : declareNodesE st2 x2 tbl2 (vinfoTableE vinfo) (quantTable quant) nodes = .ok (st3, x3, tbl3)
  nodesE : deserNodesE st3 x3 tbl3 outer (vinfoTableE vinfo) (quantTable quant) nodes = .ok (st4, x4, tbl4, ns)
  outsE : deserOutputsE st4 x4 tbl4 outputs = (st5, x5, outs)

structure NodeRunE (st : Store) (x : Ext) (top : Table) (outer : List Table) (vt : List (Name × Info × SS))
    (qt : List (Name × SS)) (inputs outputs : List Name) (subs : List GraphE)
    (st1 : Store) (x1 : Ext) (top1 : Table) (ins : List (Option Nat)) (st2 : Store) (outs : List Nat)
    (st3 : Store) (x3 : Ext) (gs : List GraphT) : Prop where
  resE : resolveInputsE st x top outer vt qt inputs = (st1, x1, top1, ins)
  look : lookupOutputs st1 top1 outputs = .ok (st2, outs)
  subsE : deserSubsE st2 x1 (top1 :: outer) subs = .ok (st3, x3, gs)

namespace GraphRunE
variable {st : Store} {x : Ext} {outer : List Table} {inputs : List VInfoE} {inits : List TensorP}
  {vinfo : List VInfoE} {nodes : List NodeE} {outputs : List VInfoE} {quant : List QuantP}
  {st1 : Store} {x1 : Ext} {ins : List Nat} {st2 : Store} {x2 : Ext} {tbl2 : Table} {iv : List Nat}
  {st3 : Store} {x3 : Ext} {tbl3 : Table} {st4 : Store} {x4 : Ext} {tbl4 : Table} {ns : List NodeT}
  {st5 : Store} {x5 : Ext} {outs : List Nat}
  (r : GraphRunE st x outer inputs inits vinfo nodes outputs quant st1 x1 ins st2 x2 tbl2 iv st3 x3 tbl3 st4 x4 tbl4
    ns st5 x5 outs)
include r

theorem core : GraphRun st outer (inputs.map VInfoE.erase) inits (vinfo.map VInfoE.erase) (eraseNs nodes)
    (outputs.map VInfoE.erase) st1 ins st2 tbl2 iv st3 tbl3 st4 tbl4 ns st5 outs := by
  obtain ⟨i1, i2⟩ := deserInputsE_erase (quantTable quant) inputs st x
  obtain ⟨j1, j2, j3⟩ := deserInitsE_erase (vinfoTableE vinfo) (quantTable quant) inits st1 x1
    (inputTable (inputs.map VInfoE.erase) ins)
  obtain ⟨o1, o2⟩ := deserOutputsE_erase tbl4 outputs st4 x4
  rw [r.inputsE] at i1 i2
  rw [r.initsE] at j1 j2 j3
  rw [r.outsE] at o1 o2
  refine ⟨Prod.ext i1.symm i2.symm, ?_, ?_, ?_, Prod.ext o1.symm o2.symm⟩
  · rw [← eraseVT_vinfoTableE]; exact Prod.ext j1.symm (Prod.ext j2.symm j3.symm)
  · rw [← eraseVT_vinfoTableE]; exact dropX_ok (declareNodesE_erase _ _ nodes st2 x2 tbl2) r.declE
  · rw [← eraseVT_vinfoTableE]; exact dropX_ok (deserNodesE_erase nodes st3 x3 tbl3 outer _ _) r.nodesE

theorem inputs_steps :
    st.nv ≤ st1.nv ∧ st1.nn = st.nn ∧ Ext.Steps (inR st.nv st1.nv) (inR st.nv st1.nv) (fun _ => False) x x1 ∧
    TblBd st.nv st1.nv (inputTable (inputs.map VInfoE.erase) ins) ∧
    (QFresh st.nv x → QT x1 (quantTable quant) (inputTable (inputs.map VInfoE.erase) ins)) := by
  obtain ⟨a, b, c, d, e⟩ := deserInputsE_steps (quantTable quant) inputs st x
  rw [r.inputsE] at a b c d e
  exact ⟨a, b, c, fun e' he => d e'.2 (List.of_mem_zip (mem_inputTable_zip he)).2,
    fun hf e' he => e hf e' (mem_inputTable_zip he)⟩

theorem inits_phase : PhaseE (vinfoTableE vinfo) (quantTable quant) st1 st2 x1 x2
    (inputTable (inputs.map VInfoE.erase) ins) tbl2 := by
  have := deserInitsE_phase (vinfoTableE vinfo) (quantTable quant) inits st1 x1 (inputTable (inputs.map VInfoE.erase) ins)
  rwa [r.initsE] at this

theorem decl_phase : PhaseE (vinfoTableE vinfo) (quantTable quant) st2 st3 x2 x3 tbl2 tbl3 :=
  declareNodesE_phase _ _ _ _ _ _ _ _ _ r.declE

theorem outs_steps : st4.nv ≤ st5.nv ∧ st5.nn = st4.nn ∧
    Ext.Steps (fun v => (∃ n, (n, v) ∈ tbl4) ∨ inR st4.nv st5.nv v) (fun _ => False) (fun _ => False) x4 x5 := by
  have := deserOutputsE_steps tbl4 outputs st4 x4
  rwa [r.outsE] at this

theorem run1 : RunE st.nv st1.nv st.nn st1.nn x x1 := by
  obtain ⟨i1, i2, i3, _, _⟩ := r.inputs_steps
  exact ⟨i1, by rw [i2]; exact Nat.le_refl _, i3.mono (fun _ h => h) (fun _ h => h) (fun _ h => h.elim)⟩

theorem run3 : RunE st.nv st3.nv st.nn st3.nn x x3 := (r.run1.trans r.inits_phase.run).trans r.decl_phase.run

theorem qtable3 (hq : QFresh st.nv x) : QFresh st3.nv x3 ∧ QT x3 (quantTable quant) tbl3 ∧ TableLt st3 tbl3 := by
  obtain ⟨_, _, _, i4, b1⟩ := r.inputs_steps
  have q1 := hq.ext r.run1.qext
  have c2 := r.inits_phase.qtable q1 (fun e he => (i4 e he).2) (b1 hq)
  have q2 := q1.ext r.inits_phase.run.qext
  exact ⟨q2.ext r.decl_phase.run.qext, r.decl_phase.qtable q2 c2.2 c2.1⟩

theorem devs3 : x3.devs = x.devs := by
  rw [r.decl_phase.devs, r.inits_phase.devs, r.inputs_steps.2.2.1.devs_same]

theorem outs_keeps : x5.quant = x4.quant ∧ x5.devs = x4.devs :=
  ⟨r.outs_steps.2.2.quant_same, r.outs_steps.2.2.devs_same⟩

theorem tbl3_bd : TblBd st.nv st3.nv tbl3 := by
  obtain ⟨i1, _, _, i4, _⟩ := r.inputs_steps
  exact r.decl_phase.bd _ (Nat.le_trans i1 r.inits_phase.nv_le) (r.inits_phase.bd _ i1 i4)

theorem assemble : deserGraphE st x outer (.mk inputs inits vinfo nodes outputs quant) =
      .ok ((mkGraph st5 ins outs ns iv).1, x5, (mkGraph st5 ins outs ns iv).2) := by
  simp only [deserGraphE, r.inputsE, r.initsE, r.declE, r.nodesE, r.outsE]

end GraphRunE

namespace NodeRunE
variable {st : Store} {x : Ext} {top : Table} {outer : List Table} {vt : List (Name × Info × SS)}
  {qt : List (Name × SS)} {inputs outputs : List Name} {subs : List GraphE}
  {st1 : Store} {x1 : Ext} {top1 : Table} {ins : List (Option Nat)} {st2 : Store} {outs : List Nat}
  {st3 : Store} {x3 : Ext} {gs : List GraphT}
  (r : NodeRunE st x top outer vt qt inputs outputs subs st1 x1 top1 ins st2 outs st3 x3 gs)
include r

theorem core : NodeRun st top outer (eraseVT vt) inputs outputs (eraseGs subs) st1 top1 ins st2 outs st3 gs := by
  obtain ⟨k1, k2, k3⟩ := resolveInputsE_erase outer vt qt inputs st x top
  rw [r.resE] at k1 k2 k3
  exact ⟨Prod.ext k1.symm (Prod.ext k2.symm k3.symm), r.look, dropX_ok (deserSubsE_erase subs st2 x1 (top1 :: outer)) r.subsE⟩

theorem res_phase : PhaseE vt qt st st1 x x1 top top1 := by
  have := resolveInputsE_phase outer vt qt inputs st x top
  rwa [r.resE] at this

end NodeRunE

structure DeserECases
    (PG : Store → Ext → List Table → GraphE → Store → Ext → GraphT → Prop)
    (PNs : Store → Ext → Table → List Table → List (Name × Info × SS) → List (Name × SS) → List NodeE →
      Store → Ext → Table → List NodeT → Prop)
    (PN : Store → Ext → Table → List Table → List (Name × Info × SS) → List (Name × SS) → NodeE →
      Store → Ext → Table → NodeT → Prop)
    (PS : Store → Ext → List Table → List GraphE → Store → Ext → List GraphT → Prop) : Prop where
  graph : ∀ {st x outer inputs inits vinfo nodes outputs quant st1 x1 ins st2 x2 tbl2 iv st3 x3 tbl3 st4 x4 tbl4 ns
      st5 x5 outs},
    GraphRunE st x outer inputs inits vinfo nodes outputs quant st1 x1 ins st2 x2 tbl2 iv st3 x3 tbl3 st4 x4 tbl4 ns
      st5 x5 outs →
    PNs st3 x3 tbl3 outer (vinfoTableE vinfo) (quantTable quant) nodes st4 x4 tbl4 ns →
    PG st x outer (.mk inputs inits vinfo nodes outputs quant) (mkGraph st5 ins outs ns iv).1 x5
      (mkGraph st5 ins outs ns iv).2
  nil : ∀ {st x top outer vt qt}, PNs st x top outer vt qt [] st x top []
  cons : ∀ {st x top outer vt qt n ns st1 x1 top1 nt st2 x2 top2 nts},
    deserNodeE st x top outer vt qt n = .ok (st1, x1, top1, nt) →
    deserNodesE st1 x1 top1 outer vt qt ns = .ok (st2, x2, top2, nts) →
    PN st x top outer vt qt n st1 x1 top1 nt → PNs st1 x1 top1 outer vt qt ns st2 x2 top2 nts →
    PNs st x top outer vt qt (n :: ns) st2 x2 top2 (nt :: nts)
  node : ∀ {st x top outer vt qt inputs outputs devs subs st1 x1 top1 ins st2 outs st3 x3 gs},
    NodeRunE st x top outer vt qt inputs outputs subs st1 x1 top1 ins st2 outs st3 x3 gs →
    PS st2 x1 (top1 :: outer) subs st3 x3 gs →
    PN st x top outer vt qt (.mk inputs outputs devs subs) (mkNode st3 ins outs gs).1
      (x3.setDevs st3.nn (devs.map (deserDevR (top1 :: outer)))) top1 (mkNode st3 ins outs gs).2
  snil : ∀ {st x scopes}, PS st x scopes [] st x []
  scons : ∀ {st x scopes g gs st1 x1 gt st2 x2 gts},
    deserGraphE st x scopes g = .ok (st1, x1, gt) → deserSubsE st1 x1 scopes gs = .ok (st2, x2, gts) →
    PG st x scopes g st1 x1 gt → PS st1 x1 scopes gs st2 x2 gts → PS st x scopes (g :: gs) st2 x2 (gt :: gts)

section
variable
  {PG : Store → Ext → List Table → GraphE → Store → Ext → GraphT → Prop}
  {PNs : Store → Ext → Table → List Table → List (Name × Info × SS) → List (Name × SS) → List NodeE →
    Store → Ext → Table → List NodeT → Prop}
  {PN : Store → Ext → Table → List Table → List (Name × Info × SS) → List (Name × SS) → NodeE →
    Store → Ext → Table → NodeT → Prop}
  {PS : Store → Ext → List Table → List GraphE → Store → Ext → List GraphT → Prop}

mutual
theorem deserGraphE_ind (H : DeserECases PG PNs PN PS) : ∀ (p : GraphE) {st : Store} {x : Ext} {outer : List Table}
    {st' : Store} {x' : Ext} {g : GraphT}, deserGraphE st x outer p = .ok (st', x', g) → PG st x outer p st' x' g
  | .mk inputs inits vinfo nodes outputs quant, st, x, outer, st', x', g, h => by
    simp only [deserGraphE] at h
    split at h
    · simp at h
    · rename_i st3 x3 tbl3 h3
      split at h
      · simp at h
      · rename_i st4 x4 tbl4 ns h4
        simp only [Except.ok.injEq, Prod.mk.injEq] at h
        obtain ⟨rfl, rfl, rfl⟩ := h
        exact H.graph ⟨rfl, rfl, h3, h4, rfl⟩ (deserNodesE_ind H nodes h4)
theorem deserNodesE_ind (H : DeserECases PG PNs PN PS) : ∀ (ns : List NodeE) {st : Store} {x : Ext} {top : Table}
    {outer : List Table} {vt : List (Name × Info × SS)} {qt : List (Name × SS)} {st' : Store} {x' : Ext} {top' : Table}
    {nts : List NodeT},
    deserNodesE st x top outer vt qt ns = .ok (st', x', top', nts) → PNs st x top outer vt qt ns st' x' top' nts
  | [], st, x, top, outer, vt, qt, st', x', top', nts, h => by
    simp only [deserNodesE, Except.ok.injEq, Prod.mk.injEq] at h
    obtain ⟨rfl, rfl, rfl, rfl⟩ := h
    exact H.nil
  | n :: ns, st, x, top, outer, vt, qt, st', x', top', nts, h => by
    simp only [deserNodesE] at h
    split at h
    · simp at h
    · rename_i st1 x1 top1 nt h1
      split at h
      · simp at h
      · rename_i st2 x2 top2 nts' h2
        simp only [Except.ok.injEq, Prod.mk.injEq] at h
        obtain ⟨rfl, rfl, rfl, rfl⟩ := h
        exact H.cons h1 h2 (deserNodeE_ind H n h1) (deserNodesE_ind H ns h2)
theorem deserNodeE_ind (H : DeserECases PG PNs PN PS) : ∀ (n : NodeE) {st : Store} {x : Ext} {top : Table}
    {outer : List Table} {vt : List (Name × Info × SS)} {qt : List (Name × SS)} {st' : Store} {x' : Ext} {top' : Table}
    {nt : NodeT},
    deserNodeE st x top outer vt qt n = .ok (st', x', top', nt) → PN st x top outer vt qt n st' x' top' nt
  | .mk inputs outputs devs subs, st, x, top, outer, vt, qt, st', x', top', nt, h => by
    simp only [deserNodeE] at h
    split at h
    · simp at h
    · rename_i st2 outs h2
      split at h
      · simp at h
      · rename_i st3 x3 gs h3
        simp only [Except.ok.injEq, Prod.mk.injEq] at h
        obtain ⟨rfl, rfl, rfl, rfl⟩ := h
        exact H.node ⟨rfl, h2, h3⟩ (deserSubsE_ind H subs h3)
theorem deserSubsE_ind (H : DeserECases PG PNs PN PS) : ∀ (gs : List GraphE) {st : Store} {x : Ext}
    {scopes : List Table} {st' : Store} {x' : Ext} {gts : List GraphT},
    deserSubsE st x scopes gs = .ok (st', x', gts) → PS st x scopes gs st' x' gts
  | [], st, x, scopes, st', x', gts, h => by
    simp only [deserSubsE, Except.ok.injEq, Prod.mk.injEq] at h
    obtain ⟨rfl, rfl, rfl⟩ := h
    exact H.snil
  | g :: gs, st, x, scopes, st', x', gts, h => by
    simp only [deserSubsE] at h
    split at h
    · simp at h
    · rename_i st1 x1 gt h1
      split at h
      · simp at h
      · rename_i st2 x2 gts' h2
        simp only [Except.ok.injEq, Prod.mk.injEq] at h
        obtain ⟨rfl, rfl, rfl⟩ := h
        exact H.scons h1 h2 (deserGraphE_ind H g h1) (deserSubsE_ind H gs h2)
end
end

structure RunNs (st : Store) (x : Ext) (top : Table) (qt : List (Name × SS)) (st' : Store) (x' : Ext) (top' : Table) :
    Prop where
  run : RunE st.nv st'.nv st.nn st'.nn x x'
  bd : ∀ b, b ≤ st.nv → TblBd b st.nv top → TblBd b st'.nv top'
  qtable : QFresh st.nv x → TableLt st top → QT x qt top → QT x' qt top' ∧ TableLt st' top'

theorem deserE_run_cases : DeserECases (fun st x _ _ st' x' _ => RunE st.nv st'.nv st.nn st'.nn x x')
    (fun st x top _ _ qt _ st' x' top' _ => RunNs st x top qt st' x' top')
    (fun st x top _ _ qt _ st' x' top' _ => RunNs st x top qt st' x' top')
    (fun st x _ _ st' x' _ => RunE st.nv st'.nv st.nn st'.nn x x') where
  graph := fun {st x _ _ _ _ _ _ _ _ _ ins _ _ _ iv _ _ _ st4 _ _ ns st5 _ outs} r ihN => by
    obtain ⟨c1, c2, _⟩ := mkGraph_fst_counters st5 ins outs ns iv
    rw [c1, c2]
    exact (r.run3.trans ihN.run).outputs (ihN.bd st.nv r.run3.nv_le r.tbl3_bd) r.outsE
  nil := ⟨.refl _ _ _, fun _ _ h => h, fun _ hlt hq => ⟨hq, hlt⟩⟩
  cons := fun _ _ ih1 ih2 => ⟨ih1.run.trans ih2.run, fun b hb hT => ih2.bd b (Nat.le_trans hb ih1.run.nv_le) (ih1.bd b hb hT),
    fun hf hlt hq => ih2.qtable (hf.ext ih1.run.qext) (ih1.qtable hf hlt hq).2 (ih1.qtable hf hlt hq).1⟩
  node := fun {st x _ _ _ _ _ outputs _ _ _ _ top1 _ st2 _ st3 _ _} r ihS => by
    have a := r.res_phase
    obtain ⟨q2, _⟩ := lookupOutputs_spec _ outputs _ _ _ r.look
    have r3 : RunE st.nv st3.nv st.nn st3.nn x _ :=
      (a.run.trans ⟨q2.nv_le, by rw [q2.nn_eq]; exact Nat.le_refl _, .refl _⟩).trans ihS
    refine ⟨?_, fun b hb hT => by
      rw [mkNode_fst_nv]; exact (a.bd b hb hT).mono (Nat.le_trans q2.nv_le ihS.nv_le), fun hf hlt hq => ?_⟩
    · rw [mkNode_fst_nv, mkNode_fst_nn]
      exact r3.trans ⟨Nat.le_refl _, Nat.le_succ _, .setDevs _ _ ⟨Nat.le_refl _, Nat.lt_succ_self _⟩ (.refl _)⟩
    obtain ⟨c1, c2⟩ := a.qtable hf hlt hq
    have hlt2 : ∀ e ∈ top1, e.2 < st2.nv := fun e he => Nat.lt_of_lt_of_le (c2 e he) q2.nv_le
    exact ⟨(c1.ext hlt2 ihS.qext).of_eq (fun _ _ => by rw [Ext.setDevs_quant]),
      fun e he => by rw [mkNode_fst_nv]; exact Nat.lt_of_lt_of_le (hlt2 e he) ihS.nv_le⟩
  snil := .refl _ _ _
  scons := fun _ _ ih1 ih2 => ih1.trans ih2

theorem deserGraphE_run {p : GraphE} {st : Store} {x : Ext} {outer : List Table} {st' : Store} {x' : Ext} {g : GraphT}
    (h : deserGraphE st x outer p = .ok (st', x', g)) : RunE st.nv st'.nv st.nn st'.nn x x' :=
  deserGraphE_ind deserE_run_cases p h

theorem deserNodesE_run {ns : List NodeE} {st : Store} {x : Ext} {top : Table} {outer : List Table}
    {vt : List (Name × Info × SS)} {qt : List (Name × SS)} {st' : Store} {x' : Ext} {top' : Table} {nts : List NodeT}
    (h : deserNodesE st x top outer vt qt ns = .ok (st', x', top', nts)) : RunNs st x top qt st' x' top' :=
  deserNodesE_ind deserE_run_cases ns h

theorem deserNodeE_run {n : NodeE} {st : Store} {x : Ext} {top : Table} {outer : List Table}
    {vt : List (Name × Info × SS)} {qt : List (Name × SS)} {st' : Store} {x' : Ext} {top' : Table} {nt : NodeT}
    (h : deserNodeE st x top outer vt qt n = .ok (st', x', top', nt)) : RunNs st x top qt st' x' top' :=
  deserNodeE_ind deserE_run_cases n h

theorem deserSubsE_run {gs : List GraphE} {st : Store} {x : Ext} {scopes : List Table} {st' : Store} {x' : Ext}
    {gts : List GraphT} (h : deserSubsE st x scopes gs = .ok (st', x', gts)) : RunE st.nv st'.nv st.nn st'.nn x x' :=
  deserSubsE_ind deserE_run_cases gs h

theorem deserNodeE_mext :
    ∀ (n : NodeE) (st : Store) (x : Ext) (top : Table) (outer : List Table) (vt : List (Name × Info × SS))
      (qt : List (Name × SS)) (st' : Store) (x' : Ext) (top' : Table) (nt : NodeT),
      deserNodeE st x top outer vt qt n = .ok (st', x', top', nt) →
      MExt st.nv st'.nv x x' ∧ (∀ b, b ≤ st.nv → TblBd b st.nv top → TblBd b st'.nv top') :=
  fun _ _ _ _ _ _ _ _ _ _ _ h => ⟨(deserNodeE_run h).run.mext, (deserNodeE_run h).bd⟩

theorem deserSubsE_mext :
    ∀ (gs : List GraphE) (st : Store) (x : Ext) (scopes : List Table) (st' : Store) (x' : Ext) (gts : List GraphT),
      deserSubsE st x scopes gs = .ok (st', x', gts) → MExt st.nv st'.nv x x' :=
  fun _ _ _ _ _ _ _ h => (deserSubsE_run h).mext

theorem deserNodeE_wf :
    ∀ (n : NodeE) (st : Store) (x : Ext) (top : Table) (outer : List Table) (vt : List (Name × Info × SS))
      (qt : List (Name × SS)) (st' : Store) (x' : Ext) (top' : Table) (nt : NodeT),
      ExtWF x → deserNodeE st x top outer vt qt n = .ok (st', x', top', nt) → ExtWF x' :=
  fun _ _ _ _ _ _ _ _ _ _ _ hw h => (deserNodeE_run h).run.wf hw

theorem deserSubsE_wf :
    ∀ (gs : List GraphE) (st : Store) (x : Ext) (scopes : List Table) (st' : Store) (x' : Ext) (gts : List GraphT),
      ExtWF x → deserSubsE st x scopes gs = .ok (st', x', gts) → ExtWF x' :=
  fun _ _ _ _ _ _ _ hw h => (deserSubsE_run h).wf hw

theorem deserGraphE_top_fresh {p : GraphE} {st : Store} {x : Ext} {g : GraphT}
    (hg : deserGraphE {} {} [] p = .ok (st, x, g)) : Fresh st :=
  (deserGraph_struct _ {} [] st g (fun _ _ => rfl) (fun _ ht => by simp at ht)
    (dropX_ok (deserGraphE_erase p {} {} []) hg)).1

theorem deserializeE_wf (p : GraphE) (w : WorldE) (h : deserializeE p = .ok w) : ExtWF w.ext := by
  obtain ⟨st, x, g⟩ := w
  exact (deserGraphE_run (deserializeE_ok h)).wf ExtWF.empty

structure FuncRunE (st : Store) (x : Ext) (vt : List (Name × Info × SS)) (inputs : List Name) (nodes : List NodeE)
    (outputs : List Name) (st1 : Store) (x1 : Ext) (ins : List Nat) (st2 : Store) (x2 : Ext) (tbl2 : Table)
    (st3 : Store) (x3 : Ext) (tbl3 : Table) (ns : List NodeT) (outs : List Nat) : Prop where
  finsE : deserFInputsE st x vt inputs = (st1, x1, ins)
  declE : declareNodesE st1 x1 (finputTable inputs ins) vt [] nodes = .ok (st2, x2, tbl2)
  nodesE : deserNodesE st2 x2 tbl2 [] vt [] nodes = .ok (st3, x3, tbl3, ns)
  outsE : deserFOutputs tbl3 outputs = .ok outs

theorem deserFunctionE_inv {f : FuncE} {st : Store} {x : Ext} {st' : Store} {x' : Ext} {g : GraphT}
    (h : deserFunctionE st x f = .ok (st', x', g)) :
    ∃ st1 x1 ins st2 x2 tbl2 st3 tbl3 ns outs,
      FuncRunE st x (vinfoTableE f.vinfo) f.inputs f.nodes f.outputs st1 x1 ins st2 x2 tbl2 st3 x' tbl3 ns outs ∧
      st' = (mkGraph st3 ins outs ns []).1 ∧ g = (mkGraph st3 ins outs ns []).2 := by
  simp only [deserFunctionE] at h
  split at h
  · simp at h
  · rename_i st2 x2 tbl2 h2
    split at h
    · simp at h
    · rename_i st3 x3 tbl3 ns h3
      split at h
      · simp at h
      · rename_i outs ho
        simp only [Except.ok.injEq, Prod.mk.injEq] at h
        obtain ⟨rfl, rfl, rfl⟩ := h
        exact ⟨_, _, _, st2, x2, tbl2, st3, tbl3, ns, outs, ⟨rfl, h2, h3, ho⟩, rfl, rfl⟩

namespace FuncRunE
variable {st : Store} {x : Ext} {vt : List (Name × Info × SS)} {inputs : List Name} {nodes : List NodeE}
  {outputs : List Name} {st1 : Store} {x1 : Ext} {ins : List Nat} {st2 : Store} {x2 : Ext} {tbl2 : Table} {st3 : Store}
  {x3 : Ext} {tbl3 : Table} {ns : List NodeT} {outs : List Nat}

theorem fins_phase (r : FuncRunE st x vt inputs nodes outputs st1 x1 ins st2 x2 tbl2 st3 x3 tbl3 ns outs) :
    ∃ t, PhaseE vt [] st st1 x x1 [] t := by
  have := deserFInputsE_phase vt inputs st x []
  rwa [r.finsE] at this

theorem decl_phase (r : FuncRunE st x vt inputs nodes outputs st1 x1 ins st2 x2 tbl2 st3 x3 tbl3 ns outs) :
    PhaseE vt [] st1 st2 x1 x2 (finputTable inputs ins) tbl2 := declareNodesE_phase _ _ _ _ _ _ _ _ _ r.declE

theorem run (r : FuncRunE st x vt inputs nodes outputs st1 x1 ins st2 x2 tbl2 st3 x3 tbl3 ns outs) :
    RunE st.nv st3.nv st.nn st3.nn x x3 :=
  r.fins_phase.elim fun _ p1 => (p1.run.trans r.decl_phase.run).trans (deserNodesE_run r.nodesE).1

end FuncRunE

theorem deserFunctionE_run {f : FuncE} {st : Store} {x : Ext} {st' : Store} {x' : Ext} {g : GraphT}
    (h : deserFunctionE st x f = .ok (st', x', g)) : RunE st.nv st'.nv st.nn st'.nn x x' := by
  obtain ⟨st1, x1, ins, st2, x2, tbl2, st3, tbl3, ns, outs, r, rfl, _⟩ := deserFunctionE_inv h
  obtain ⟨c1, c2, _⟩ := mkGraph_fst_counters st3 ins outs ns []
  rw [c1, c2]
  exact r.run

theorem deserFuncsE_ind {P : Store → Ext → List (FId × GraphT) → List FuncE → Store → Ext → List (FId × GraphT) → Prop}
    (nil : ∀ st x d, P st x d [] st x d)
    (cons : ∀ {st x d f fs st1 x1 g st' x' d'}, deserFunctionE st x f = .ok (st1, x1, g) →
      deserFuncsE st1 x1 (fdictInsert d f.id g) fs = .ok (st', x', d') → P st1 x1 (fdictInsert d f.id g) fs st' x' d' →
      P st x d (f :: fs) st' x' d') :
    ∀ (fs : List FuncE) {st : Store} {x : Ext} {d : List (FId × GraphT)} {st' : Store} {x' : Ext}
      {d' : List (FId × GraphT)}, deserFuncsE st x d fs = .ok (st', x', d') → P st x d fs st' x' d'
  | [], st, x, d, st', x', d', h => by
    simp only [deserFuncsE, Except.ok.injEq, Prod.mk.injEq] at h
    obtain ⟨rfl, rfl, rfl⟩ := h
    exact nil _ _ _
  | f :: fs, st, x, d, st', x', d', h => by
    simp only [deserFuncsE] at h
    split at h
    · simp at h
    · rename_i st1 x1 g h1
      exact cons h1 h (deserFuncsE_ind nil cons fs h)

theorem deserFuncsE_run (fs : List FuncE) {st : Store} {x : Ext} {d : List (FId × GraphT)} {st' : Store} {x' : Ext}
    {d' : List (FId × GraphT)} (h : deserFuncsE st x d fs = .ok (st', x', d')) : RunE st.nv st'.nv st.nn st'.nn x x' :=
  deserFuncsE_ind (P := fun st x _ _ st' x' _ => RunE st.nv st'.nv st.nn st'.nn x x') (fun _ _ _ => .refl _ _ _)
    (fun h1 _ ih => (deserFunctionE_run h1).trans ih) fs h

theorem deserializeME_wf (p : ModelE) (w : MWorldE) (h : deserializeME p = .ok w) : ExtWF w.ext := by
  obtain ⟨st1, x1, g, fs⟩ := w
  obtain ⟨st, x, hg, hfs⟩ := deserializeME_ok h
  exact (deserFuncsE_run p.funcs hfs).wf ((deserGraphE_run hg).wf ExtWF.empty)

end IrVerif.Scope
