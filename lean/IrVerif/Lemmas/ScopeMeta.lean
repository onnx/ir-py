/-
The decorations of a model (`Model/ScopeMeta.lean`: what stays on the carrier it was read from).  A well-formed
decorated model that serializes reloads to its canonical form, which serializes to the same proto (`rtModelD`); a
reloaded model is well formed (`wfDeserModelD`); its functions dict has the keys of the core's (`keyFold`).
-/
import IrVerif.Lemmas.ScopeDict
import IrVerif.Lemmas.ListFacts
namespace IrVerif.Scope

theorem keysNodupB_iff (l : List String) : keysNodupB l = true ↔ l.Nodup :=
  ListFacts.nodupB_iff_of_eqns _ rfl (fun _ _ => rfl) l

theorem fidsNodupB_iff (l : List FId) : fidsNodupB l = true ↔ l.Nodup :=
  ListFacts.nodupB_iff_of_eqns _ rfl (fun _ _ => rfl) l

theorem ssFold_keys_nodup (l d : SS) (h : (d.map (·.1)).Nodup) :
    ((l.foldl (fun d e => ssSet d e.1 e.2) d).map (·.1)).Nodup := by
  simp only [ssSet_eq_kvSet]
  exact kvFold_keys_nodup l d h

theorem ssOfEntries_nodup (es : SS) : ((ssOfEntries es).map (·.1)).Nodup :=
  ssFold_keys_nodup es [] (by simp)

theorem ssOfEntries_of_nodup (l : SS) (h : (l.map (·.1)).Nodup) : ssOfEntries l = l := by
  unfold ssOfEntries; simp only [ssSet_eq_kvSet]; exact kvDict_of_nodup l h

/-- reading what was read changes nothing (opset imports: written in dict order) -/
theorem ssOfEntries_idem (es : SS) : ssOfEntries (ssOfEntries es) = ssOfEntries es :=
  ssOfEntries_of_nodup _ (ssOfEntries_nodup es)

theorem ssLe_trans (a b c : String × String) : ssLe a b = true → ssLe b c = true → ssLe a c = true := by
  simp only [ssLe, decide_eq_true_eq]
  exact String.le_trans

theorem ssLe_total (a b : String × String) : (ssLe a b || ssLe b a) = true := by
  simp only [ssLe, Bool.or_eq_true, decide_eq_true_eq]
  exact String.le_total _ _

theorem ssSorted_perm (d : SS) : (ssSorted d).Perm d := List.mergeSort_perm d ssLe

theorem ssSorted_nodup (d : SS) (h : (d.map (·.1)).Nodup) : ((ssSorted d).map (·.1)).Nodup :=
  ((ssSorted_perm d).map (·.1)).nodup_iff.mpr h

theorem ssSorted_idem (d : SS) : ssSorted (ssSorted d) = ssSorted d :=
  List.mergeSort_of_pairwise (List.pairwise_mergeSort ssLe_trans ssLe_total d)

/-- metadata written sorted by key is read back as it was written -/
theorem ss_rt (d : SS) (h : (d.map (·.1)).Nodup) : ssOfEntries (ssSorted d) = ssSorted d :=
  ssOfEntries_of_nodup _ (ssSorted_nodup d h)

theorem ss_fix (d : SS) (h : (d.map (·.1)).Nodup) : ssSorted (ssOfEntries (ssSorted d)) = ssSorted d := by
  rw [ss_rt d h, ssSorted_idem]

theorem optOut_idem (o : Option String) : optOut (optOut o) = optOut o := by
  cases o with
  | none => rfl
  | some s =>
    by_cases h : s = ""
    · simp [optOut, h]
    · simp [optOut, h]

theorem serSpecs_rt : ∀ (sp : List (Option String × String)) (ps : List (String × String)),
    serSpecs sp = .ok ps → ps.map (fun s => (nonEmpty s.1, s.2)) = sp
  | [], ps, h => by
    simp only [serSpecs, Except.ok.injEq] at h
    subst h; rfl
  | (none, _) :: _, ps, h => by simp [serSpecs] at h
  | (some n, t) :: r, ps, h => by
    simp only [serSpecs] at h
    split at h
    · simp at h
    · rename_i hn
      split at h
      · simp at h
      · rename_i r' hr
        simp only [Except.ok.injEq] at h
        subst h
        have ih := serSpecs_rt r r' hr
        simp only [List.map_cons, ih]
        simp [nonEmpty, hn]

theorem serDev_rt (d : DevS) (p : DevP) (h : serDev d = .ok p) : deserDev p = d := by
  obtain ⟨cfg, stage, specs⟩ := d
  simp only [serDev] at h
  split at h
  · simp at h
  · rename_i c
    split at h
    · simp at h
    · rename_i hne
      split at h
      · simp at h
      · rename_i sp hsp
        simp only [Except.ok.injEq] at h
        subst h
        have ih := serSpecs_rt specs sp hsp
        simp only [deserDev, ih]
        simp [nonEmpty, hne]

theorem serDevs_rt : ∀ (ds : List DevS) (ps : List DevP), serDevs ds = .ok ps → ps.map deserDev = ds
  | [], ps, h => by
    simp only [serDevs, Except.ok.injEq] at h
    subst h; rfl
  | d :: r, ps, h => by
    simp only [serDevs] at h
    split at h
    · simp at h
    · rename_i p hp
      split at h
      · simp at h
      · rename_i ps' hr
        simp only [Except.ok.injEq] at h
        subst h
        simp [serDev_rt d p hp, serDevs_rt r ps' hr]

theorem serDevsGated_rt (ver : Int) (ds : List DevS) (ps : List DevP) (h : serDevsGated ver ds = .ok ps) :
    ps.map deserDev = (if ver < 11 then [] else ds) ∧ serDevsGated ver (ps.map deserDev) = .ok ps := by
  simp only [serDevsGated] at h
  split at h
  · rename_i hv
    simp only [Except.ok.injEq] at h
    subst h
    simp [serDevsGated, hv]
  · rename_i hv
    have := serDevs_rt ds ps h
    simp only [hv, if_false, this, serDevsGated]
    exact ⟨trivial, h⟩

mutual
theorem rtGraphD (ver : Int) : ∀ (W : GraphDS) (Q : GraphDP), wfGraphDB W = true → serGraphD ver W = .ok Q →
    deserGraphD Q = canonGraphD ver W ∧ serGraphD ver (deserGraphD Q) = .ok Q
  | .mk name doc m ns, Q, hw, h => by
    simp only [serGraphD] at h
    split at h
    · simp at h
    · rename_i ns' hn
      simp only [Except.ok.injEq] at h
      subst h
      simp only [wfGraphDB, Bool.and_eq_true] at hw
      obtain ⟨r1, r2⟩ := rtNodesD ver ns ns' hw.2 hn
      have hk := (keysNodupB_iff _).mp hw.1
      exact ⟨by simp only [deserGraphD, canonGraphD, r1, ss_rt m hk],
        by simp only [deserGraphD, serGraphD, r2, optOut_idem, ss_fix m hk]⟩
theorem rtNodesD (ver : Int) : ∀ (W : List NodeDS) (Q : List NodeDP), wfNodesDB W = true →
    serNodesD ver W = .ok Q → deserNodesD Q = canonNodesD ver W ∧ serNodesD ver (deserNodesD Q) = .ok Q
  | [], Q, _, h => by
    simp only [serNodesD, Except.ok.injEq] at h
    subst h
    exact ⟨rfl, rfl⟩
  | n :: ns, Q, hw, h => by
    simp only [serNodesD] at h
    split at h
    · simp at h
    · rename_i p hp
      split at h
      · simp at h
      · rename_i ps hps
        simp only [Except.ok.injEq] at h
        subst h
        simp only [wfNodesDB, Bool.and_eq_true] at hw
        obtain ⟨a1, a2⟩ := rtNodeD ver n p hw.1 hp
        obtain ⟨b1, b2⟩ := rtNodesD ver ns ps hw.2 hps
        exact ⟨by simp only [deserNodesD, canonNodesD, a1, b1], by simp only [deserNodesD, serNodesD, a2, b2]⟩
theorem rtNodeD (ver : Int) : ∀ (W : NodeDS) (Q : NodeDP), wfNodeDB W = true → serNodeD ver W = .ok Q →
    deserNodeD Q = canonNodeD ver W ∧ serNodeD ver (deserNodeD Q) = .ok Q
  | .mk tok doc m devs subs, Q, hw, h => by
    simp only [serNodeD] at h
    split at h
    · simp at h
    · rename_i gs hg
      split at h
      · simp at h
      · rename_i ds hd
        simp only [Except.ok.injEq] at h
        subst h
        simp only [wfNodeDB, Bool.and_eq_true] at hw
        obtain ⟨a1, a2⟩ := rtGraphsD ver subs gs hw.2 hg
        obtain ⟨b1, b2⟩ := serDevsGated_rt ver devs ds hd
        have hk := (keysNodupB_iff _).mp hw.1
        exact ⟨by simp only [deserNodeD, canonNodeD, a1, b1, ss_rt m hk],
          by simp only [deserNodeD, serNodeD, a2, b2, optOut_idem, ss_fix m hk]⟩
theorem rtGraphsD (ver : Int) : ∀ (W : List GraphDS) (Q : List GraphDP), wfGraphsDB W = true →
    serGraphsD ver W = .ok Q → deserGraphsD Q = canonGraphsD ver W ∧ serGraphsD ver (deserGraphsD Q) = .ok Q
  | [], Q, _, h => by
    simp only [serGraphsD, Except.ok.injEq] at h
    subst h
    exact ⟨rfl, rfl⟩
  | g :: gs, Q, hw, h => by
    simp only [serGraphsD] at h
    split at h
    · simp at h
    · rename_i p hp
      split at h
      · simp at h
      · rename_i ps hps
        simp only [Except.ok.injEq] at h
        subst h
        simp only [wfGraphsDB, Bool.and_eq_true] at hw
        obtain ⟨a1, a2⟩ := rtGraphD ver g p hw.1 hp
        obtain ⟨b1, b2⟩ := rtGraphsD ver gs ps hw.2 hps
        exact ⟨by simp only [deserGraphsD, canonGraphsD, a1, b1], by simp only [deserGraphsD, serGraphsD, a2, b2]⟩
end

/-! what deserialization builds satisfies the representation invariant -/
mutual
theorem wfDeserGraphD : ∀ (X : GraphDP), wfGraphDB (deserGraphD X) = true
  | .mk _ _ m ns => by
    simp only [deserGraphD, wfGraphDB, Bool.and_eq_true]
    exact ⟨(keysNodupB_iff _).mpr (ssOfEntries_nodup m), wfDeserNodesD ns⟩
theorem wfDeserNodesD : ∀ (X : List NodeDP), wfNodesDB (deserNodesD X) = true
  | [] => rfl
  | n :: ns => by
    simp only [deserNodesD, wfNodesDB, Bool.and_eq_true]
    exact ⟨wfDeserNodeD n, wfDeserNodesD ns⟩
theorem wfDeserNodeD : ∀ (X : NodeDP), wfNodeDB (deserNodeD X) = true
  | .mk _ _ m _ subs => by
    simp only [deserNodeD, wfNodeDB, Bool.and_eq_true]
    exact ⟨(keysNodupB_iff _).mpr (ssOfEntries_nodup m), wfDeserGraphsD subs⟩
theorem wfDeserGraphsD : ∀ (X : List GraphDP), wfGraphsDB (deserGraphsD X) = true
  | [] => rfl
  | g :: gs => by
    simp only [deserGraphsD, wfGraphsDB, Bool.and_eq_true]
    exact ⟨wfDeserGraphD g, wfDeserGraphsD gs⟩
end

abbrev AttrE := String × Bool × String

theorem attrFold_eq (l d : List AttrE) : l.foldl attrSet d = l.foldl (fun d e => kvSet d e.1 e.2) d :=
  congrArg (fun f => l.foldl f d) (funext fun d => funext fun a => attrSet_eq_kvSet d a)

theorem attrDict_nodup (l : List AttrE) : ((attrDict l).map (·.1)).Nodup := by
  rw [attrDict, attrFold_eq]
  exact kvFold_keys_nodup l [] (by simp)

theorem attrDict_of_nodup (l : List AttrE) (h : (l.map (·.1)).Nodup) : attrDict l = l := by
  rw [attrDict, attrFold_eq]
  exact kvDict_of_nodup l h

/-- the attributes after a round trip: the valued ones, then the valueless ones reduced to their name -/
def canonAttrs (l : List AttrE) : List AttrE :=
  l.filter (·.2.1) ++ (l.filter fun a => !a.2.1).map (fun a => (a.1, false, ""))

theorem canonAttrs_keys_perm (l : List AttrE) : ((canonAttrs l).map (·.1)).Perm (l.map (·.1)) := by
  have h := (List.filter_append_perm (fun a : AttrE => a.2.1) l).map (·.1)
  simpa [canonAttrs, List.map_append, List.map_map, Function.comp_def] using h

theorem canonAttrs_filter_valued (l : List AttrE) : (canonAttrs l).filter (·.2.1) = l.filter (·.2.1) := by
  simp [canonAttrs, List.filter_append, List.filter_filter, List.filter_map, Function.comp_def]

theorem canonAttrs_filter_valueless (l : List AttrE) :
    ((canonAttrs l).filter fun a => !a.2.1).map (·.1) = (l.filter fun a => !a.2.1).map (·.1) := by
  have h1 : (l.filter (·.2.1)).filter (fun a => !a.2.1) = [] := by
    rw [List.filter_filter]
    simp
  simp [canonAttrs, List.filter_append, h1, List.filter_map, Function.comp_def, List.map_map]

theorem rtFuncD (ver : Int) (id : FId) (f : FuncDS) (p : FuncDP) (hw : wfFuncDB f = true)
    (h : serFuncD ver id f = .ok p) :
    p.id = id ∧ deserFuncD p = canonFuncD ver f ∧ serFuncD ver id (deserFuncD p) = .ok p := by
  simp only [serFuncD] at h
  split at h
  · simp at h
  · rename_i ns hn
    simp only [Except.ok.injEq] at h
    subst h
    simp only [wfFuncDB, Bool.and_eq_true] at hw
    obtain ⟨⟨⟨w1, w2⟩, w3⟩, w4⟩ := hw
    have k1 := (keysNodupB_iff _).mp w1
    have k2 := (keysNodupB_iff _).mp w2
    have k3 := (keysNodupB_iff _).mp w3
    obtain ⟨r1, r2⟩ := rtNodesD ver f.nodes ns w4 hn
    have ha : attrDict (f.attrs.filter (·.2.1) ++ ((f.attrs.filter fun a => !a.2.1).map (·.1)).map fun n => (n, false, ""))
        = canonAttrs f.attrs := by
      have e : (f.attrs.filter (·.2.1) ++ ((f.attrs.filter fun a => !a.2.1).map (·.1)).map fun n => (n, false, ""))
          = canonAttrs f.attrs := by simp [canonAttrs, List.map_map, Function.comp_def]
      rw [e]
      exact attrDict_of_nodup _ ((canonAttrs_keys_perm f.attrs).nodup_iff.mpr k3)
    have hd : deserFuncD ⟨id, optOut f.doc, f.opsets, ssSorted f.mprops, f.attrs.filter (·.2.1),
        (f.attrs.filter fun a => !a.2.1).map (·.1), ns⟩ = canonFuncD ver f := by
      simp only [deserFuncD, canonFuncD, ha, r1, ss_rt f.mprops k2, ssOfEntries_of_nodup f.opsets k1, canonAttrs]
    refine ⟨rfl, hd, ?_⟩
    rw [hd]
    have hn' : serNodesD ver (canonNodesD ver f.nodes) = .ok ns := by rw [← r1]; exact r2
    simp only [serFuncD, canonFuncD, hn', optOut_idem, ssSorted_idem]
    have e1 := canonAttrs_filter_valued f.attrs
    have e2 := canonAttrs_filter_valueless f.attrs
    simp only [canonAttrs] at e1 e2
    rw [e1, e2]

theorem deserFuncsD_keys_nodup : ∀ (fs : List FuncDP) (d : List (FId × FuncDS)), (d.map (·.1)).Nodup →
    ((deserFuncsD d fs).map (·.1)).Nodup
  | [], _, h => h
  | f :: fs, d, h => deserFuncsD_keys_nodup fs _ (by rw [fdInsert_eq_kvSet]; exact kvSet_keys_nodup d f.id _ h)

theorem fdInsert_wf (d : List (FId × FuncDS)) (k : FId) (f : FuncDS) (hd : ∀ e ∈ d, wfFuncDB e.2 = true)
    (hf : wfFuncDB f = true) : ∀ e ∈ fdInsert d k f, wfFuncDB e.2 = true := fun e he =>
  (kvSet_mem d k f e (fdInsert_eq_kvSet d k f ▸ he)).elim (hd e) fun h => by rw [h]; exact hf

theorem wfDeserFuncD (f : FuncDP) : wfFuncDB (deserFuncD f) = true := by
  simp only [wfFuncDB, deserFuncD, Bool.and_eq_true]
  exact ⟨⟨⟨(keysNodupB_iff _).mpr (ssOfEntries_nodup _), (keysNodupB_iff _).mpr (ssOfEntries_nodup _)⟩,
    (keysNodupB_iff _).mpr (attrDict_nodup _)⟩, wfDeserNodesD f.nodes⟩

theorem deserFuncsD_wf : ∀ (fs : List FuncDP) (d : List (FId × FuncDS)), (∀ e ∈ d, wfFuncDB e.2 = true) →
    ∀ e ∈ deserFuncsD d fs, wfFuncDB e.2 = true
  | [], _, h => h
  | f :: fs, d, h => deserFuncsD_wf fs _ (fdInsert_wf d f.id _ h (wfDeserFuncD f))

theorem rtFuncsD (ver : Int) : ∀ (fs : List (FId × FuncDS)) (ps : List FuncDP) (d : List (FId × FuncDS)),
    (∀ f ∈ fs, wfFuncDB f.2 = true) → ((d ++ fs).map (·.1)).Nodup → serFuncsD ver fs = .ok ps →
    deserFuncsD d ps = d ++ fs.map (fun f => (f.1, canonFuncD ver f.2)) ∧
    serFuncsD ver (fs.map fun f => (f.1, canonFuncD ver f.2)) = .ok ps
  | [], ps, d, _, _, h => by
    simp only [serFuncsD, Except.ok.injEq] at h
    subst h
    simp [deserFuncsD, serFuncsD]
  | f :: fs, ps, d, hw, hk, h => by
    simp only [serFuncsD] at h
    split at h
    · simp at h
    · rename_i p hp
      split at h
      · simp at h
      · rename_i ps' hps
        simp only [Except.ok.injEq] at h
        subst h
        obtain ⟨i1, i2, i3⟩ := rtFuncD ver f.1 f.2 p (hw f List.mem_cons_self) hp
        have hfresh := head_key_not_mem hk
        obtain ⟨a1, a2⟩ := rtFuncsD ver fs ps' (d ++ [(f.1, canonFuncD ver f.2)])
          (fun g hg => hw g (List.mem_cons_of_mem _ hg)) (by simpa using hk) hps
        refine ⟨?_, ?_⟩
        · simp only [deserFuncsD, i1, i2]
          rw [fdInsert_eq_kvSet, kvSet_fresh d f.1 _ hfresh, a1]
          simp
        · simp only [List.map_cons, serFuncsD, a2]
          rw [← i2, i3]

theorem rtModelD (W : ModelDS) (Q : ModelDP) (hw : wfModelDB W = true) (h : serModelD W = .ok Q) :
    deserModelD Q = canonModelD W ∧ serModelD (deserModelD Q) = .ok Q := by
  simp only [serModelD] at h
  split at h
  · simp at h
  · rename_i g hg
    split at h
    · simp at h
    · rename_i fs hfs
      simp only [Except.ok.injEq] at h
      subst h
      simp only [wfModelDB, Bool.and_eq_true, List.all_eq_true] at hw
      obtain ⟨⟨⟨⟨w1, w2⟩, w3⟩, w4⟩, w5⟩ := hw
      have k1 := (keysNodupB_iff _).mp w1
      have k2 := (keysNodupB_iff _).mp w2
      have k4 := (fidsNodupB_iff _).mp w4
      obtain ⟨g1, g2⟩ := rtGraphD W.ver W.graph g w3 hg
      obtain ⟨f1, f2⟩ := rtFuncsD W.ver W.funcs fs [] w5 (by simpa using k4) hfs
      simp only [List.nil_append] at f1
      have hd : deserModelD ⟨W.ver, W.opt.map optOut, W.opsets, ssSorted W.mprops,
          if W.ver < 11 then [] else W.cfgs, g, fs⟩ = canonModelD W := by
        simp only [deserModelD, canonModelD, g1, f1, ss_rt W.mprops k2, ssOfEntries_of_nodup W.opsets k1]
      refine ⟨hd, ?_⟩
      rw [hd]
      have hg' : serGraphD W.ver (canonGraphD W.ver W.graph) = .ok g := by rw [← g1]; exact g2
      simp only [serModelD, canonModelD, hg', f2, ssSorted_idem, List.map_map]
      have e1 : (optOut ∘ optOut) = optOut := funext fun o => optOut_idem o
      rw [e1]
      -- the device configurations are written from IR version 11 on; `canonModelD` drops them below
      by_cases hv : W.ver < 11 <;> simp [hv]

theorem wfDeserModelD (X : ModelDP) : wfModelDB (deserModelD X) = true := by
  simp only [wfModelDB, deserModelD, Bool.and_eq_true, List.all_eq_true]
  exact ⟨⟨⟨⟨(keysNodupB_iff _).mpr (ssOfEntries_nodup _), (keysNodupB_iff _).mpr (ssOfEntries_nodup _)⟩,
    wfDeserGraphD X.graph⟩, (fidsNodupB_iff _).mpr (deserFuncsD_keys_nodup X.funcs [] (by simp))⟩,
    deserFuncsD_wf X.funcs [] (by simp)⟩

/-! ### the functions dict of the decorations follows the functions dict of the core -/

/-- the keys of `{f.identifier(): f for f in fs}`, as a function of the identifiers alone -/
def keyFold (d : List FId) : List FId → List FId
  | [] => d
  | k :: ks => keyFold (if k ∈ d then d else d ++ [k]) ks

theorem deserFuncsD_keys : ∀ (fs : List FuncDP) (d : List (FId × FuncDS)),
    (deserFuncsD d fs).map (·.1) = keyFold (d.map (·.1)) (fs.map (·.id))
  | [], _ => rfl
  | f :: fs, d => by
    simp only [deserFuncsD, List.map_cons, keyFold]
    rw [deserFuncsD_keys fs, fdInsert_eq_kvSet, kvSet_keys]

theorem deserFuncs_keys : ∀ (fs : List FuncP) (st : Store) (d : List (FId × GraphT)) (st' : Store)
    (d' : List (FId × GraphT)), deserFuncs st d fs = .ok (st', d') →
    d'.map (·.1) = keyFold (d.map (·.1)) (fs.map (·.id))
  | [], _, _, _, _, h => by
    simp only [deserFuncs, Except.ok.injEq, Prod.mk.injEq] at h
    rw [← h.2]; rfl
  | f :: fs, st, d, st', d', h => by
    simp only [deserFuncs] at h
    split at h
    · simp at h
    · rename_i st1 g _
      simp only [List.map_cons, keyFold]
      rw [deserFuncs_keys fs st1 _ st' d' h, fdictInsert_eq_kvSet, kvSet_keys]

end IrVerif.Scope
