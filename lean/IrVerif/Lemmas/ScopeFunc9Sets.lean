/-
Set-theoretic facts used by the fix-point of the IR version < 10 format: where the values of a function
(`fvals`: inputs and outputs of its own nodes) sit in the certificate, equally named function values carry the
same emitted info, the reserved names are preserved by a renaming that keeps names (`TreeRelG`).
-/
import IrVerif.Lemmas.ScopeFunc9Cert
import IrVerif.Lemmas.ScopeFunc9Post
import IrVerif.Lemmas.ListFacts
namespace IrVerif.Scope

theorem filterMap_strip {β : Type} (V : Nat → ValueS) (G : Nat → Option β)
    (hG : ∀ v, nameTruthy (V v).name = false → G v = none) :
    ∀ (l : List Nat), (stripTrailing V l).filterMap G = l.filterMap G := by
  intro l
  induction l with
  | nil => rfl
  | cons a r ih =>
    by_cases hs : stripTrailing V r = []
    · rw [stripTrailing_cons_nil V a r hs]
      rw [hs] at ih
      simp only [List.filterMap_nil] at ih
      by_cases ht : nameTruthy (V a).name = true
      · simp only [ht, if_true, List.filterMap_cons, List.filterMap_nil, ← ih]
      · have hf : nameTruthy (V a).name = false := by simpa using ht
        simp only [hf, Bool.false_eq_true, if_false, List.filterMap_nil, List.filterMap_cons, hG a hf, ← ih]
    · rw [stripTrailing_cons_ne V a r hs]
      simp only [List.filterMap_cons, ih]

theorem filterMap_live {β : Type} (V : Nat → ValueS) (G : Nat → Option β)
    (hG : ∀ v, nameTruthy (V v).name = false → G v = none) :
    ∀ (ns : List NodeT), (ns.flatMap (liveOuts V)).filterMap G = (ns.flatMap NodeT.outputs).filterMap G
  | [] => rfl
  | .mk i g ins outs subs :: ns => by
    simp only [List.flatMap_cons, List.filterMap_append, liveOuts, NodeT.outputs, filterMap_strip V G hG,
      filterMap_live V G hG ns]

theorem filterMap_map_sig {β : Type} (σ : Nat → Nat) (G G' : Nat → Option β) :
    ∀ (l : List Nat), (∀ v ∈ l, G' (σ v) = G v) → (l.map σ).filterMap G' = l.filterMap G
  | [], _ => rfl
  | a :: r, h => by
    simp only [List.map_cons, List.filterMap_cons, h a List.mem_cons_self,
      filterMap_map_sig σ G G' r (fun v hv => h v (List.mem_cons_of_mem _ hv))]

theorem truthy_output_declared (V : Nat → ValueS) (g : GraphT) (hok : (replF V g).ok) (v : Nat)
    (hv : v ∈ g.nodes.flatMap NodeT.outputs) (ht : nameTruthy (V v).name = true) : v ∈ (declF V g).new := by
  obtain ⟨gid, ins, inits, nodes, outs⟩ := g
  obtain ⟨n, hn, hv⟩ := List.mem_flatMap.1 hv
  simp only [replF] at hok
  simp only [declF]
  obtain ⟨_, _, _, hDecl, _, _⟩ := hok
  obtain ⟨d1, _, _⟩ := replDecl_new V _ _ hDecl
  rw [d1, List.mem_filter]
  refine ⟨List.mem_flatMap.mpr ⟨n, hn, ?_⟩, ht⟩
  obtain ⟨i, g, a, b, c⟩ := n
  exact truthy_mem_stripTrailing V v b hv ht

theorem fvals_truthy_top (V : Nat → ValueS) (g : GraphT) (hok : (replF V g).ok) (v : Nat) (hv : v ∈ fvals g)
    (ht : nameTruthy (V v).name = true) : v ∈ g.inputs ∨ v ∈ (declF V g).new := by
  simp only [fvals, List.mem_append] at hv
  rcases hv with hv | hv
  · exact .inl hv
  · exact .inr (truthy_output_declared V g hok v hv ht)

theorem fvals_truthy_new (V : Nat → ValueS) (g : GraphT) (hok : (replF V g).ok) (v : Nat) (hv : v ∈ fvals g)
    (ht : nameTruthy (V v).name = true) : v ∈ (replF V g).new := by
  rw [replF_new_eq]
  simp only [List.mem_append]
  rcases fvals_truthy_top V g hok v hv ht with h | h
  · exact .inl (.inl h)
  · exact .inl (.inr h)

theorem fvals_truthy_not_nodes (V : Nat → ValueS) (g : GraphT) (hok : (replF V g).ok)
    (hnd : (replF V g).new.Nodup) (v : Nat) (hv : v ∈ fvals g) (ht : nameTruthy (V v).name = true) :
    v ∉ (bodyF V g).new := by
  rw [replF_new_eq, List.nodup_append] at hnd
  exact fun hN => hnd.2.2 v (List.mem_append.2 (fvals_truthy_top V g hok v hv ht)) v hN rfl

theorem fvals_sameInfo (V : Nat → ValueS) (g : GraphT) (hok : (replF V g).ok) :
    SameByName V (fun v => (V v).info) (fvals g) := by
  intro a ha b hb ht hn
  obtain ⟨gid, ins, inits, nodes, outs⟩ := g
  have htb : nameTruthy (V b).name = true := by rw [← hn]; exact ht
  have hnm : nm V a = nm V b := by simp only [nm, hn]
  have ta := fvals_truthy_top V _ hok a ha ht
  have tb := fvals_truthy_top V _ hok b hb htb
  simp only [replF] at hok
  obtain ⟨_, _, hsame, okD, _, _⟩ := hok
  obtain ⟨_, _, hlook⟩ := replDecl_new V _ _ okD
  have hunb := replDecl_new_unbound V _ _ okD
  rcases ta with ta | ta <;> rcases tb with tb | tb
  · exact hsame a ta b tb ht hn
  · exact absurd hnm (tblIns_lookup_none V ins _ (hunb b tb) a ta)
  · exact absurd hnm.symm (tblIns_lookup_none V ins _ (hunb a ta) b tb)
  · have h1 := hlook a ta
    have h2 := hlook b tb
    rw [hnm, h2] at h1
    rw [Option.some.inj h1]

/-- the live node outputs without a usable name -/
def liveNT (V : Nat → ValueS) (ns : List NodeT) : List Nat :=
  ns.flatMap fun n => (liveOuts V n).filter fun v => !nameTruthy (V v).name

theorem liveNT_sub_new (V : Nat → ValueS) (outer : List Table) : ∀ (ns : List NodeT) (T : Table),
    ∀ v ∈ liveNT V ns, v ∈ (replNs V outer T ns).new
  | [], _, v, hv => by simp [liveNT] at hv
  | .mk i g ins outs subs :: ns, T, v, hv => by
    simp only [liveNT, List.flatMap_cons, List.mem_append] at hv
    simp only [replNs, List.mem_append]
    rcases hv with hv | hv
    · left
      simp only [replN, List.mem_append]
      exact .inl (.inr hv)
    · exact .inr (liveNT_sub_new V outer ns _ v hv)

theorem liveNT_emitSub_disjoint (V : Nat → ValueS) (outer : List Table) : ∀ (ns : List NodeT) (T : Table),
    (replNs V outer T ns).ok → (replNs V outer T ns).new.Nodup → ∀ v ∈ liveNT V ns, v ∉ emitSubNs V ns
  | [], _, _, _, v, hv => by simp [liveNT] at hv
  | .mk i g ins outs subs :: ns, T, hok, hnd, v, hv => by
    simp only [replNs] at hok hnd
    rw [List.nodup_append] at hnd
    obtain ⟨n1, n2, n3⟩ := hnd
    have hv0 := hv
    simp only [liveNT, List.flatMap_cons, List.mem_append] at hv
    simp only [emitSubNs, List.mem_append, not_or]
    have hsub1 := emitSubN_sub_new V (.mk i g ins outs subs) outer T hok.1
    have hsub2 := emitSubNs_sub_new V ns outer _ hok.2
    rcases hv with hv | hv
    · constructor
      · intro he
        simp only [emitSubN] at he
        simp only [replN] at hok n1
        obtain ⟨⟨_, _, _, hSubs⟩, _⟩ := hok
        have hin := emitGs_sub_new V subs _ hSubs v he
        rw [List.nodup_append] at n1
        exact n1.2.2 v (List.mem_append_right _ hv) v hin rfl
      · intro he
        have h1 : v ∈ (replN V outer T (.mk i g ins outs subs)).new := by
          simp only [replN, List.mem_append]
          exact .inl (.inr hv)
        exact n3 v h1 v (hsub2 v he) rfl
    · constructor
      · intro he
        exact n3 v (hsub1 v he) v (liveNT_sub_new V outer ns _ v hv) rfl
      · exact liveNT_emitSub_disjoint V outer ns _ hok.2 n2 v hv

/-- `v` is introduced by the certificate of `g` itself, not for a nested graph -/
def OwnVal (V : Nat → ValueS) (g : GraphT) (v : Nat) : Prop := v ∈ (replF V g).new ∧ v ∉ emitSubNs V g.nodes

theorem fvals_truthy_own (V : Nat → ValueS) (g : GraphT) (hok : (replF V g).ok) (hnd : (replF V g).new.Nodup)
    (v : Nat) (hv : v ∈ fvals g) (ht : nameTruthy (V v).name = true) : OwnVal V g v := by
  obtain ⟨gid, ins, inits, nodes, outs⟩ := g
  refine ⟨fvals_truthy_new V _ hok v hv ht, fun he => ?_⟩
  exact fvals_truthy_not_nodes V _ hok hnd v hv ht (emitSubNs_sub_new V nodes [] _ (replF_ok_nodes V _ hok) v he)

/-- in a world where every output of the function's own nodes is live, so is every value of the function -/
theorem fvals_live (V : Nat → ValueS) (g : GraphT) (hok : (replF V g).ok) (hnd : (replF V g).new.Nodup)
    (hlive : ∀ n ∈ g.nodes, liveOuts V n = n.outputs) (v : Nat) (hv : v ∈ fvals g) : OwnVal V g v := by
  by_cases ht : nameTruthy (V v).name = true
  · exact fvals_truthy_own V g hok hnd v hv ht
  · obtain ⟨gid, ins, inits, nodes, outs⟩ := g
    simp only [GraphT.nodes, OwnVal] at hlive ⊢
    have hf : nameTruthy (V v).name = false := by simpa using ht
    have hokN : (replNs V [] _ nodes).ok := replF_ok_nodes V _ hok
    have hsub := emitSubNs_sub_new V nodes [] _ hokN
    rw [replF_new_eq] at hnd ⊢
    simp only [GraphT.inputs, declF, bodyF] at hnd ⊢
    rw [List.nodup_append] at hnd
    simp only [fvals, GraphT.inputs, GraphT.nodes, List.mem_append, List.mem_flatMap] at hv
    rcases hv with hv | ⟨n, hn, hv⟩
    · refine ⟨by simp [hv], fun he => ?_⟩
      exact hnd.2.2 v (by simp [hv]) v (hsub v he) rfl
    · have hl : v ∈ liveNT V nodes := by
        simp only [liveNT, List.mem_flatMap, List.mem_filter]
        exact ⟨n, hn, by rw [hlive n hn]; exact hv, by simp [hf]⟩
      refine ⟨?_, liveNT_emitSub_disjoint V [] nodes _ hokN hnd.2.1 v hl⟩
      simp only [List.mem_append]
      exact .inr (liveNT_sub_new V [] nodes _ v hl)

theorem treeRelNs_outputs (V : Nat → ValueS) (A : Assoc) : ∀ (ns ns' : List NodeT), TreeRelNs V A ns ns' →
    ns'.flatMap NodeT.outputs = (ns.flatMap (liveOuts V)).map (sig A) ∧
    (∀ v ∈ ns.flatMap (liveOuts V), v ∈ A.map (·.1))
  | [], [], _ => ⟨rfl, fun _ h => (by cases h)⟩
  | n :: ns, n' :: ns', h => by
    simp only [TreeRelNs] at h
    obtain ⟨a, b⟩ := treeRelNs_outputs V A ns ns' h.2
    obtain ⟨i, g, ins, outs, subs⟩ := n
    obtain ⟨i', g', ins', outs', subs'⟩ := n'
    have h1 := h.1
    simp only [TreeRelN] at h1
    obtain ⟨_, _, e, hk, _⟩ := h1
    refine ⟨by simp only [List.flatMap_cons, NodeT.outputs, liveOuts, List.map_append, a, e], fun v hv => ?_⟩
    simp only [List.flatMap_cons, List.mem_append, liveOuts] at hv
    rcases hv with hv | hv
    · exact hk v hv
    · exact b v hv
  | [], _ :: _, h => by simp [TreeRelNs] at h
  | _ :: _, [], h => by simp [TreeRelNs] at h

theorem liveOuts_sub (V : Nat → ValueS) (nodes : List NodeT) (v : Nat) (h : v ∈ nodes.flatMap (liveOuts V)) :
    v ∈ nodes.flatMap NodeT.outputs := by
  simp only [List.mem_flatMap] at h ⊢
  obtain ⟨n, hn, hv⟩ := h
  obtain ⟨i, g, a, b, c⟩ := n
  exact ⟨_, hn, stripTrailing_sub V b v hv⟩

theorem treeRelG_fvals (V : Nat → ValueS) (A : Assoc) (g g' : GraphT) (h : TreeRelG V A g g') (v : Nat)
    (hv : v ∈ g.inputs ++ g.nodes.flatMap (liveOuts V)) : v ∈ fvals g ∧ sig A v ∈ fvals g' := by
  obtain ⟨gid, ins, inits, nodes, outs⟩ := g
  obtain ⟨gid', ins', inits', nodes', outs'⟩ := g'
  simp only [TreeRelG] at h
  obtain ⟨e1, _, _, _, hN, _, _⟩ := h
  obtain ⟨e2, _⟩ := treeRelNs_outputs V A nodes nodes' hN
  simp only [GraphT.inputs, GraphT.nodes, List.mem_append] at hv
  simp only [fvals, GraphT.inputs, GraphT.nodes, List.mem_append, e1, e2]
  rcases hv with hv | hv
  · exact ⟨.inl hv, .inl (List.mem_map_of_mem hv)⟩
  · exact ⟨.inr (liveOuts_sub V nodes v hv), .inr (List.mem_map_of_mem hv)⟩

/-- in the image of a renaming that keeps names, every node output is live -/
theorem treeRelNs_live (V W : Nat → ValueS) (A : Assoc)
    (hn : ∀ v ∈ A.map (·.1), (W (sig A v)).name = (V v).name) : ∀ (ns ns' : List NodeT), TreeRelNs V A ns ns' →
    ∀ n' ∈ ns', liveOuts W n' = n'.outputs
  | [], [], _, n', hn' => by cases hn'
  | n :: ns, m :: ns', h, n', hn' => by
    simp only [TreeRelNs] at h
    simp only [List.mem_cons] at hn'
    rcases hn' with rfl | hn'
    · obtain ⟨i, g, ins, outs, subs⟩ := n
      obtain ⟨i', g', ins', outs', subs'⟩ := n'
      have h1 := h.1
      simp only [TreeRelN] at h1
      obtain ⟨_, _, e, hk, _⟩ := h1
      simp only [liveOuts, NodeT.outputs, e]
      rw [img2_stripTrailing hn _ hk, stripTrailing_idem]
    · exact treeRelNs_live V W A hn ns ns' h.2 n' hn'
  | [], _ :: _, h, _, _ => by simp [TreeRelNs] at h
  | _ :: _, [], h, _, _ => by simp [TreeRelNs] at h

theorem treeRelFs_mem (V : Nat → ValueS) (A : Assoc) : ∀ (fs gs : List (FId × GraphT)), TreeRelFs V A fs gs →
    (∀ g ∈ gs, ∃ f ∈ fs, f.1 = g.1 ∧ TreeRelG V A f.2 g.2) ∧ (∀ f ∈ fs, ∃ g ∈ gs, f.1 = g.1 ∧ TreeRelG V A f.2 g.2)
  | [], [], _ => ⟨fun _ h => (by cases h), fun _ h => (by cases h)⟩
  | f :: fs, g :: gs, h => by
    simp only [TreeRelFs] at h
    obtain ⟨a, b⟩ := treeRelFs_mem V A fs gs h.2.2
    constructor
    · intro g' hg'
      simp only [List.mem_cons] at hg'
      rcases hg' with rfl | hg'
      · exact ⟨f, by simp, h.1, h.2.1⟩
      · obtain ⟨f', hf', e⟩ := a g' hg'
        exact ⟨f', by simp [hf'], e⟩
    · intro f' hf'
      simp only [List.mem_cons] at hf'
      rcases hf' with rfl | hf'
      · exact ⟨g, by simp, h.1, h.2.1⟩
      · obtain ⟨g', hg', e⟩ := b f' hf'
        exact ⟨g', by simp [hg'], e⟩
  | [], _ :: _, h => by simp [TreeRelFs] at h
  | _ :: _, [], h => by simp [TreeRelFs] at h

theorem flatMap_treeRelFs (V : Nat → ValueS) (A : Assoc) (h1 h2 : FId × GraphT → List VInfoP) :
    ∀ (fs gs : List (FId × GraphT)), TreeRelFs V A fs gs →
      (∀ f ∈ fs, ∀ g ∈ gs, f.1 = g.1 → TreeRelG V A f.2 g.2 → h2 g = h1 f) → gs.flatMap h2 = fs.flatMap h1
  | [], [], _, _ => rfl
  | f :: fs, g :: gs, h, hp => by
    simp only [TreeRelFs] at h
    simp only [List.flatMap_cons, hp f List.mem_cons_self g List.mem_cons_self h.1 h.2.1,
      flatMap_treeRelFs V A h1 h2 fs gs h.2.2 (fun f' hf' g' hg' => hp f' (List.mem_cons_of_mem _ hf') g' (List.mem_cons_of_mem _ hg'))]
  | [], _ :: _, h, _ => by simp [TreeRelFs] at h
  | _ :: _, [], h, _ => by simp [TreeRelFs] at h

theorem filterMap_id_map (σ : Nat → Nat) : ∀ (l : List (Option Nat)),
    (l.map (Option.map σ)).filterMap id = (l.filterMap id).map σ
  | [] => rfl
  | none :: r => by simp [filterMap_id_map σ r]
  | some v :: r => by simp [filterMap_id_map σ r]

theorem resNodes_eq (V W : Nat → ValueS) (A : Assoc)
    (hn : ∀ v ∈ A.map (·.1), (W (sig A v)).name = (V v).name) : ∀ (ns ns' : List NodeT), TreeRelNs V A ns ns' →
    (ns'.flatMap fun n => n.inputs.filterMap id ++ n.outputs).filterMap (nameNE W) =
      (ns.flatMap fun n => n.inputs.filterMap id ++ n.outputs).filterMap (nameNE V)
  | [], [], _ => rfl
  | n :: ns, n' :: ns', h => by
    simp only [TreeRelNs] at h
    have ih := resNodes_eq V W A hn ns ns' h.2
    obtain ⟨i, g, ins, outs, subs⟩ := n
    obtain ⟨i', g', ins', outs', subs'⟩ := n'
    have h1 := h.1
    simp only [TreeRelN] at h1
    obtain ⟨e1, k1, e2, k2, _⟩ := h1
    have hpt : ∀ v ∈ A.map (·.1), nameNE W (sig A v) = nameNE V v := fun v hv => by
      simp only [nameNE, hn v hv]
    have a : ((ins.map (Option.map (sig A))).filterMap id).filterMap (nameNE W) = (ins.filterMap id).filterMap (nameNE V) := by
      rw [filterMap_id_map]
      apply filterMap_map_sig
      intro v hv
      apply hpt
      apply k1
      simp only [List.mem_filterMap, id] at hv
      obtain ⟨o, ho, rfl⟩ := hv
      exact ho
    have b : ((stripTrailing V outs).map (sig A)).filterMap (nameNE W) = outs.filterMap (nameNE V) := by
      rw [filterMap_map_sig (sig A) (nameNE V) (nameNE W) _ (fun v hv => hpt v (k2 v hv))]
      exact filterMap_strip V (nameNE V) (nameNE_of_not_truthy V) outs
    rw [List.flatMap_cons, List.flatMap_cons, List.filterMap_append, List.filterMap_append, ih]
    simp only [List.filterMap_append, NodeT.inputs, NodeT.outputs, e1, e2, a, b]
  | [], _ :: _, h => by simp [TreeRelNs] at h
  | _ :: _, [], h => by simp [TreeRelNs] at h

theorem reservedNames_rel (V W : Nat → ValueS) (A : Assoc)
    (hn : ∀ v ∈ A.map (·.1), (W (sig A v)).name = (V v).name) (g g' : GraphT) (h : TreeRelG V A g g') :
    reservedNames W g' = reservedNames V g := by
  obtain ⟨gid, ins, inits, nodes, outs⟩ := g
  obtain ⟨gid', ins', inits', nodes', outs'⟩ := g'
  simp only [TreeRelG] at h
  obtain ⟨_, _, e, _, hN, _, _⟩ := h
  rw [reservedNames_eq, reservedNames_eq, resNodes_eq V W A hn nodes nodes' hN, e]
  simp only [List.map_map]
  rfl

end IrVerif.Scope
