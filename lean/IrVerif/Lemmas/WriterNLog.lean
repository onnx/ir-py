/-
C09, general model: the callback log (`GInv`), and what holds once the root owner has left its executor
(`closed_quiet`, `locks_free_of_no_act`), from which `C09_error_quiescent` is read off.
-/
import IrVerif.Lemmas.WriterNLive
namespace IrVerif.WriterN

def pastCb : Pc → Bool
  | .notStarted | .tAcq | .cbAcqIn | .cbAcq | .cbBody => false
  | _ => true

def called (s : State) (k : Nat) : Prop := ∃ p, s.tasks[k]? = some p ∧ pastCb p = true

structure GInv (s : State) : Prop where
  nodup : s.log.Nodup
  mem : ∀ k, k ∈ s.log ↔ called s k

theorem GInv_init (cfg : Cfg) : GInv (init cfg) := by
  refine ⟨by simp [init], fun k => ?_⟩
  simp only [init, List.not_mem_nil, called, false_iff]
  rintro ⟨p, hp, hc⟩
  simp [List.getElem?_replicate] at hp
  rw [← hp.2] at hc; simp [pastCb] at hc

theorem pastCb_wake (p : Pc) : pastCb (wake p) = pastCb p := by cases p <;> rfl
theorem pastCb_firstPc (cfg : Cfg) (q : Nat) : pastCb (firstPc cfg q) = false := rfl
theorem pastCb_afterT (cfg : Cfg) (q : Nat) : pastCb (afterT cfg q) = false := by
  unfold afterT; split <;> rfl

/-- tensor `k` is at a program counter satisfying `π`; `called` is `taskSat pastCb` -/
def taskSat (π : Pc → Bool) (s : State) (k : Nat) : Prop := ∃ p, s.tasks[k]? = some p ∧ π p = true

theorem taskSat_set_iff {π : Pc → Bool} {s s' : State} {i : Nat} {p x : Pc} (hi : s.tasks[i]? = some p)
    (ht : s'.tasks = s.tasks.set i x) (k : Nat) :
    taskSat π s' k ↔ if k = i then π x = true else taskSat π s k := by
  have hlt := getElem?_lt hi
  unfold taskSat
  rw [ht]
  by_cases e : k = i
  · subst e; simp [hlt]
  · have e' : ¬ i = k := fun h => e h.symm
    simp only [List.getElem?_set, e, e', if_false]

theorem taskSat_set {π : Pc → Bool} {s s' : State} {i : Nat} {p x : Pc} (hi : s.tasks[i]? = some p)
    (ht : s'.tasks = s.tasks.set i x) (hpx : π x = π p) (k : Nat) :
    taskSat π s' k ↔ taskSat π s k := by
  rw [taskSat_set_iff hi ht]
  split
  · rename_i e; subst e; rw [hpx]; exact ⟨fun h => ⟨p, hi, h⟩, fun ⟨q, hq, h⟩ => by rw [hi] at hq; cases hq; exact h⟩
  · rfl

theorem taskSat_set_true {π : Pc → Bool} {s s' : State} {i : Nat} {p x : Pc} (hi : s.tasks[i]? = some p)
    (ht : s'.tasks = s.tasks.set i x) (hx : π x = true) (k : Nat) :
    taskSat π s' k ↔ (k = i ∨ taskSat π s k) := by
  rw [taskSat_set_iff hi ht]
  split
  · rename_i e; simp [e, hx]
  · rename_i e; simp [e]

theorem taskSat_wake {π : Pc → Bool} (hπ : ∀ p, π (wake p) = π p) {s : State} (k : Nat) :
    taskSat π { s with tasks := s.tasks.map wake } k ↔ taskSat π s k := by
  unfold taskSat
  simp only [List.getElem?_map, Option.map_eq_some_iff]
  constructor
  · rintro ⟨p, ⟨q, hq, rfl⟩, hp⟩; exact ⟨q, hq, by rw [hπ] at hp; exact hp⟩
  · rintro ⟨q, hq, hp⟩; exact ⟨wake q, ⟨q, hq, rfl⟩, by rw [hπ]; exact hp⟩

/-- finishing a tensor counts as moving it to `done`: `π` does not see the start of the next tensor of the job -/
theorem taskSat_finish {π : Pc → Bool} (h0 : π .notStarted = false) {cfg : Cfg}
    (hfirst : ∀ q, π (firstPc cfg q) = false) {s : State} (hs : SInv cfg s) {i : Nat} {p : Pc} (ok : Bool)
    (hi : s.tasks[i]? = some p) (hp : act p = true) (k : Nat) :
    taskSat π (finishTask cfg s i ok) k ↔ taskSat π { s with tasks := s.tasks.set i (.done ok) } k := by
  have hpd : p ≠ .done true := by intro e; subst e; simp at hp
  rcases finishTask_cases cfg s i ok with ⟨rfl, hn, e⟩ | ⟨_, e⟩ <;> rw [e]
  · exact taskSat_set (s := { s with tasks := s.tasks.set i (.done true) }) (i := i + 1)
      (get_set_succ (hs.next_notStarted hi hpd hn)) rfl ((hfirst _).trans h0.symm) k
  · exact taskSat_set_iff hi rfl k |>.trans (taskSat_set_iff hi rfl k).symm

theorem called_finish {cfg : Cfg} {s : State} (hs : SInv cfg s) {i : Nat} {p : Pc} (ok : Bool)
    (hi : s.tasks[i]? = some p) (hp : act p = true) (k : Nat) :
    called (finishTask cfg s i ok) k ↔ (k = i ∨ called s k) :=
  (taskSat_finish rfl (pastCb_firstPc cfg) hs ok hi hp k).trans (taskSat_set_true hi rfl rfl k)

theorem GInv_step {cfg : Cfg} (wf : WF cfg) {s s' : State} {l : Label} (hs : SInv cfg s)
    (h : GInv s) (hst : StepRel cfg s l s') : GInv s' := by
  have frame : ∀ {s' : State}, s'.log = s.log → (∀ k, called s' k ↔ called s k) → GInv s' := by
    intro s' hl hc
    exact ⟨by rw [hl]; exact h.nodup, fun k => by rw [hl, hc]; exact h.mem k⟩
  -- the callback of tensor `i` ends: `i` is new in the log and among the called tensors
  have logged : ∀ {s' : State} {i : Nat}, s.tasks[i]? = some .cbBody → s'.log = s.log ++ [i] →
      (∀ k, called s' k ↔ (k = i ∨ called s k)) → GInv s' := by
    intro s' i hi hl hc
    have hni : i ∉ s.log := by
      intro hin
      obtain ⟨p, hp, hc⟩ := (h.mem i).1 hin
      rw [hi] at hp; cases hp; simp [pastCb] at hc
    refine ⟨?_, fun k => ?_⟩
    · rw [hl]
      exact List.nodup_append.2 ⟨h.nodup, by simp, by
        intro a ha b hb; simp at hb; subst hb; intro e; subst e; exact hni ha⟩
    · rw [hl, hc, List.mem_append, h.mem k, List.mem_singleton]; exact Or.comm
  cases hst with
  | submit q c k j P hP hk hj => exact frame rfl (fun _ => Iff.rfl)
  | collect q c j ok P hP hm hjj hf =>
      rcases collectOne_cases cfg s q P j ok with ⟨_, _, e⟩ | ⟨_, _, e⟩ | ⟨_, _, e⟩ | ⟨_, _, e⟩ <;> rw [e] <;>
        exact frame rfl (fun _ => Iff.rfl)
  | joinRoot q c e P hP hm hex hpar => exact frame rfl (fun _ => Iff.rfl)
  | joinSub q c e P jp hP hm hex hpar => exact frame rfl (fun _ => Iff.rfl)
  | takeSerial q j rest P hP hq hidle hsub =>
      have hj : j ∈ (s.pl q).queue := by rw [pl_of_get hP, hq]; simp
      exact frame rfl (taskSat_set (hs.start_notStarted wf hj hsub) rfl (pastCb_firstPc cfg q))
  | takeSub q j rest P q' hP hq hidle hsub => exact frame rfl (fun _ => Iff.rfl)
  | exit q P hP hq hsd hidle => exact frame rfl (fun _ => Iff.rfl)
  | cbAcqIn i hi hl => exact frame rfl (taskSat_set hi rfl rfl)
  | cbAcq i hi hl => exact frame rfl (taskSat_set hi rfl rfl)
  | cbFail i hi hf => exact logged hi (by simp) (called_finish (SInv_cbExit hs i) false hi rfl)
  | cbOk i hi hf => exact logged hi rfl (taskSat_set_true hi rfl rfl)
  | tAcq i hi hl => exact frame rfl (taskSat_set hi rfl (pastCb_afterT _ _))
  | bTry i p hi hp' =>
      rcases budgetTry_cases cfg s i with ⟨_, _, e⟩ | ⟨_, _, e⟩ | ⟨_, _, e⟩ | ⟨_, _, e⟩ <;> rw [e] <;>
        exact frame rfl (taskSat_set hi rfl (by rcases hp' with rfl | rfl <;> rfl))
  | writeFail i hi hf => exact frame rfl (taskSat_set hi rfl rfl)
  | writeOk i hi hf => exact frame rfl (taskSat_set hi rfl rfl)
  | bRel i ok hi =>
      unfold budgetRelease
      refine frame (by simp) (fun k => ?_)
      rw [called_finish (p := .bRel ok) (SInv_release hs i) ok (by simp [hi, wake]) rfl k]
      refine (or_congr_right (taskSat_wake pastCb_wake (s := s) k)).trans ?_
      exact ⟨fun h1 => h1.elim (fun e => e ▸ ⟨_, hi, rfl⟩) id, Or.inr⟩

theorem locks_free_of_no_act {cfg : Cfg} {s : State} (hl : LInv cfg s)
    (hna : ∀ (i : Nat) (p : Pc), s.tasks[i]? = some p → act p = false) :
    s.inFlight = 0 ∧ s.oversized = false ∧ s.cbLock = false ∧
      (∀ o, o < cfg.nObjs → s.tLocks.getD o false = false) ∧
      (∀ q, q < cfg.nPools → s.cbIn.getD q false = false) := by
  -- every program counter that holds the budget or a lock is one of a tensor in progress
  have z : ∀ π : Pc → Bool, (∀ p, π p = true → act p = true) →
      ∀ (k : Nat) (p : Pc), s.tasks[k]? = some p → π p = false := by
    intro π hπ k p hk
    cases h : π p
    · rfl
    · have := hπ p h; rw [hna k p hk] at this; cases this
  obtain ⟨h1, h2⟩ := hl.budget_free (z holds (by intro p; cases p <;> simp [holds]))
  refine ⟨h1, h2, hl.cb_free fun k hk => by have := hna k _ hk; simp at this, fun o ho => ?_, fun q hq => ?_⟩
  · exact hl.tl_free ho fun k p hk _ => z inT (by intro p; cases p <;> simp [inT]) k p hk
  · exact hl.cin_free hq fun k p hk _ => z inIn (by intro p; cases p <;> simp [inIn]) k p hk

theorem closed_all {cfg : Cfg} (wf : WF cfg) {s : State} (h : Inv cfg s) {e : Bool}
    (hroot : (s.pl 0).owner = .closed e) (q : Nat) : ownAct (s.pl q).owner = false := by
  rcases Nat.lt_or_ge q cfg.nPools with hq | hq
  · revert q
    refine wf.pool_induction (by rw [hroot]; rfl) fun q jp hqn hjp _ _ _ hcl => ?_
    cases ho : ownAct (s.pl q).owner with
    | false => rfl
    | true =>
      exfalso
      have hpp : parentPool cfg q = some (cfg.jobc jp).pool := by simp [parentPool, hjp]
      have hql : q < s.pools.length := by rw [h.s.pools_len]; exact hqn
      have hget := pl_get hql
      have hge := wsum_ge0 (fOwnQ cfg (cfg.jobc jp).pool) hget
      simp only [fOwnQ, ho, hpp, and_self, if_true] at hge
      -- the owning pool exists and its owner has left: it is closed, all threads exited
      have hcr := h.s.own_created wf hqn ho hpp
      cases hop : (s.pl (cfg.jobc jp).pool).owner with
      | notCreated => exact hcr hop
      | submit k => rw [hop] at hcl; simp [ownAct] at hcl
      | collect => rw [hop] at hcl; simp [ownAct] at hcl
      | join e' => rw [hop] at hcl; simp [ownAct] at hcl
      | closed e' =>
          have hex := h.p.fin_exit _ e' hop
          have hpool := h.p.pool _ hcr
          omega
  · rw [pl_default_of_ge (by rw [h.s.pools_len]; exact hq)]; rfl

theorem closed_quiet {cfg : Cfg} (wf : WF cfg) {s : State} (hI : Inv cfg s) {e : Bool}
    (hm : (s.pl 0).owner = .closed e) :
    (∀ q, ownAct (s.pl q).owner = false) ∧
    (∀ q, (s.pl q).owner ≠ .notCreated → (s.pl q).exited = (cfg.pool q).size ∧ (s.pl q).idle = 0) ∧
    (∀ (i : Nat) (p : Pc), s.tasks[i]? = some p → act p = false) := by
  have hcl : ∀ q, ownAct (s.pl q).owner = false := closed_all wf hI hm
  have hpoolq : ∀ q, (s.pl q).owner ≠ .notCreated →
      (s.pl q).exited = (cfg.pool q).size ∧ (s.pl q).idle = 0 ∧ wsum (fActQ cfg q) 0 s.tasks = 0 := by
    intro q hnc
    have hpool := hI.p.pool q hnc
    have := hcl q
    cases ho : (s.pl q).owner with
    | notCreated => exact absurd ho hnc
    | closed e' => have hex := hI.p.fin_exit q e' ho; exact ⟨hex, by omega, by omega⟩
    | submit k => rw [ho] at this; simp [ownAct] at this
    | collect => rw [ho] at this; simp [ownAct] at this
    | join e' => rw [ho] at this; simp [ownAct] at this
  refine ⟨hcl, fun q hnc => ⟨(hpoolq q hnc).1, (hpoolq q hnc).2.1⟩, fun i p hi => ?_⟩
  cases hp : act p
  · rfl
  · exfalso
    have hz := (hpoolq _ (hI.s.act_created wf hi hp)).2.2
    have := wsum_ge0 (fActQ cfg (cfg.poolOf i)) hi
    simp [fActQ, hp] at this
    omega

end IrVerif.WriterN
