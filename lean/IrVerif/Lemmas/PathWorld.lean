/-
C10 helper lemmas: the entry points on zero-size tensors (`bodyZ`) in closed form, `callT` by cases, and the
histories of operations on several tensors (`runMicro`, with `os.chdir`: `runMicroC`; one tensor: `runSess`).
-/
import IrVerif.Lemmas.PathCall
namespace IrVerif.Path

/-- a zero-size tensor read through numpy / `__array__` / tobytes / serialisation: no open event at
all, no byte, the mapping (if any) untouched or dropped; the only possible event is the check, and
when the check rejects the call raises -/
theorem zero_nontofile (e : Env) (st : TState) (ep : EntryPoint) (hep : ep ≠ EntryPoint.tofile) :
    (∀ p oi, Ev.openEv p oi ∉ (runBody e st (bodyZ ep)).2.1) ∧
    (∀ bytes, (runBody e st (bodyZ ep)).1 = ReadResult.ok bytes → bytes = []) ∧
    (∀ i, (runBody e st (bodyZ ep)).2.2.raw = some i → st.raw = some i) ∧
    ((runBody e st (bodyZ ep)).2.1 = [] ∨
      (runBody e st (bodyZ ep)).2.1 = [Ev.check (checkContainment e.fs e.kfuel e.fuel e.cwdS e.cwd e.base e.loc)]) ∧
    (rejecting (checkContainment e.fs e.kfuel e.fuel e.cwdS e.cwd e.base e.loc) = true →
      (runBody e st (bodyZ ep)).2.1 ≠ [] → (runBody e st (bodyZ ep)).1 = ReadResult.raised) := by
  obtain ⟨raw, arr⟩ := st
  cases ep with
  | tofile => exact absurd rfl hep
  | tobytes =>
    simp [runBody, bodyZ, execStmts, execStmt, execPrim]
  | numpy =>
    cases arr <;>
    by_cases hv : rejecting (checkContainment e.fs e.kfuel e.fuel e.cwdS e.cwd e.base e.loc) = true <;>
    simp [runBody, bodyZ, loadBodyZ, execStmts, execStmt, execPrims, execPrim, hv]
  | array =>
    cases arr <;>
    by_cases hv : rejecting (checkContainment e.fs e.kfuel e.fuel e.cwdS e.cwd e.base e.loc) = true <;>
    simp [runBody, bodyZ, loadBodyZ, execStmts, execStmt, execPrims, execPrim, hv]
  | serializeRaw =>
    cases arr <;>
    by_cases hv : rejecting (checkContainment e.fs e.kfuel e.fuel e.cwdS e.cwd e.base e.loc) = true <;>
    simp [runBody, bodyZ, loadBodyZ, execStmts, execStmt, execPrims, execPrim, hv, TState.fresh]

/-- `tofile` of a zero-size tensor is the same statement list as `tofile` of any tensor -/
theorem zero_tofile (fs : FS) (kfuel fuel : Nat) (cwdS : Str) (cwd : Loc) (base loc : Str)
    (offset length : Nat) (st : TState) :
    runBody { fs := fs, kfuel := kfuel, fuel := fuel, cwdS := cwdS, cwd := cwd, base := base, loc := loc,
              offset := offset, length := length } st (bodyZ EntryPoint.tofile) =
      call fs kfuel fuel cwdS cwd base loc offset length EntryPoint.tofile st := rfl

theorem callT_cases (fs : FS) (kfuel fuel : Nat) (cwdS : Str) (cwd : Loc) (p : TensorP) (b : BaseVal)
    (ep : EntryPoint) (st : TState) :
    (b.kind = BaseKind.bytes ∧ callT fs kfuel fuel cwdS cwd p b ep st =
        (if p.zero = true ∧ ep = EntryPoint.tobytes then ReadResult.ok [] else ReadResult.raised, [], st))
    ∨ (b.kind ≠ BaseKind.bytes ∧ p.zero = true ∧ ep ≠ EntryPoint.tofile ∧
        callT fs kfuel fuel cwdS cwd p b ep st = runBody
          { fs := fs, kfuel := kfuel, fuel := fuel, cwdS := cwdS, cwd := cwd, base := b.s, loc := p.loc,
            offset := p.offset, length := p.length } st (bodyZ ep))
    ∨ (b.kind ≠ BaseKind.bytes ∧ (p.zero = true → ep = EntryPoint.tofile) ∧
        callT fs kfuel fuel cwdS cwd p b ep st = call fs kfuel fuel cwdS cwd b.s p.loc p.offset p.length ep st) := by
  unfold callT
  by_cases hk : b.kind = BaseKind.bytes
  · exact Or.inl ⟨hk, by rw [if_pos hk]⟩
  · rw [if_neg hk]
    by_cases hz : p.zero = true
    · rw [if_pos hz]
      by_cases hep : ep = EntryPoint.tofile
      · subst hep
        exact Or.inr (Or.inr ⟨hk, fun _ => rfl, zero_tofile _ _ _ _ _ _ _ _ _ _⟩)
      · exact Or.inr (Or.inl ⟨hk, hz, hep, rfl⟩)
    · rw [if_neg hz]
      exact Or.inr (Or.inr ⟨hk, fun h => absurd h hz, rfl⟩)

theorem runMicro_cons (kfuel fuel : Nat) (cwdS : Str) (cwd : Loc) (ps : Nat → TensorP) (w : World) (x : MOp)
    (xs : List MOp) :
    runMicro kfuel fuel cwdS cwd ps w (x :: xs) =
      (stepWorld kfuel fuel cwdS cwd ps w x).2.toList ++
        runMicro kfuel fuel cwdS cwd ps (stepWorld kfuel fuel cwdS cwd ps w x).1 xs := by
  cases h : (stepWorld kfuel fuel cwdS cwd ps w x).2 <;> simp [runMicro, h]

theorem stepWorld_entry (kfuel fuel : Nat) (cwdS : Str) (cwd : Loc) (ps : Nat → TensorP) (w : World) (x : MOp)
    (e : WLog) (h : (stepWorld kfuel fuel cwdS cwd ps w x).2 = some e) :
    ∃ st, e.events = (callT e.fs kfuel fuel cwdS cwd (ps e.t) e.base e.ep st).2.1 ∧
      e.res = (callT e.fs kfuel fuel cwdS cwd (ps e.t) e.base e.ep st).1 := by
  cases x with
  | setFS fs => cases h
  | rebase t b => cases h
  | release t => cases h
  | beginLoad => cases h
  | call t ep => cases h; exact ⟨(w.ts t).st, rfl, rfl⟩
  | loadOne t =>
    by_cases hab : w.aborted = true
    · simp [stepWorld, hab] at h
    · simp only [stepWorld, hab, Bool.false_eq_true, if_false, Option.some.injEq] at h
      subst h
      exact ⟨(w.ts t).st, rfl, rfl⟩

/-- every log entry of a history is the output of a `callT` in the tree / base of that moment -/
theorem runMicro_entries (kfuel fuel : Nat) (cwdS : Str) (cwd : Loc) (ps : Nat → TensorP) :
    ∀ (mops : List MOp) (w : World), ∀ e ∈ runMicro kfuel fuel cwdS cwd ps w mops,
      ∃ st, e.events = (callT e.fs kfuel fuel cwdS cwd (ps e.t) e.base e.ep st).2.1 ∧
        e.res = (callT e.fs kfuel fuel cwdS cwd (ps e.t) e.base e.ep st).1
  | [], w, e, he => by simp [runMicro] at he
  | x :: xs, w, e, he => by
    rw [runMicro_cons, List.mem_append, Option.mem_toList] at he
    rcases he with he | he
    · exact stepWorld_entry kfuel fuel cwdS cwd ps w x e he
    · exact runMicro_entries kfuel fuel cwdS cwd ps xs _ e he

theorem mem_upto {α : Type} {pre post : List α} {e x : α} (h : x ∈ pre ++ [e]) : x ∈ pre ++ e :: post := by
  rcases List.mem_append.mp h with h | h
  · exact List.mem_append_left _ h
  · exact List.mem_append_right _ (List.mem_cons.mpr (Or.inl (List.mem_singleton.mp h)))

theorem runMicroC_cons (kfuel fuel : Nat) (ps : Nat → TensorP) (cwdS : Str) (w : World) (x : MOp) (xs : List CMOp) :
    runMicroC kfuel fuel ps cwdS w (CMOp.m x :: xs) =
      (stepWorld kfuel fuel cwdS (comps cwdS) ps w x).2.toList.map (fun e => (cwdS, e)) ++
        runMicroC kfuel fuel ps cwdS (stepWorld kfuel fuel cwdS (comps cwdS) ps w x).1 xs := by
  cases h : (stepWorld kfuel fuel cwdS (comps cwdS) ps w x).2 <;> simp [runMicroC, h]

theorem runMicroC_entries (kfuel fuel : Nat) (ps : Nat → TensorP) :
    ∀ (mops : List CMOp) (cwdS : Str) (w : World), ∀ ce ∈ runMicroC kfuel fuel ps cwdS w mops,
      ∃ st, ce.2.events = (callT ce.2.fs kfuel fuel ce.1 (comps ce.1) (ps ce.2.t) ce.2.base ce.2.ep st).2.1 ∧
        ce.2.res = (callT ce.2.fs kfuel fuel ce.1 (comps ce.1) (ps ce.2.t) ce.2.base ce.2.ep st).1
  | [], cwdS, w, ce, he => by simp [runMicroC] at he
  | CMOp.chdir c :: xs, cwdS, w, ce, he => by
    simp only [runMicroC] at he
    exact runMicroC_entries kfuel fuel ps xs c w ce he
  | CMOp.m x :: xs, cwdS, w, ce, he => by
    rw [runMicroC_cons, List.mem_append, List.mem_map] at he
    rcases he with ⟨e, he, rfl⟩ | he
    · exact stepWorld_entry kfuel fuel cwdS (comps cwdS) ps w x e (Option.mem_toList.mp he)
    · exact runMicroC_entries kfuel fuel ps xs cwdS _ ce he

def Step.toWOp : Step → WOp
  | Step.setFS fs => WOp.setFS fs
  | Step.setBase b => WOp.setBase 0 { kind := BaseKind.str, s := b }
  | Step.release => WOp.release 0
  | Step.call ep => WOp.call 0 ep

def LogEntry.toWLog (e : LogEntry) : WLog :=
  { t := 0, fs := e.fs, base := { kind := BaseKind.str, s := e.base }, ep := e.ep, res := e.res, events := e.events }

theorem runSess_sim (kfuel fuel : Nat) (cwdS : Str) (cwd : Loc) (loc : Str) (offset length : Nat) :
    ∀ (steps : List Step) (s : Sess) (w : World), w.fs = s.fs →
      w.ts 0 = { base := { kind := BaseKind.str, s := s.base }, st := s.st } →
      runMicro kfuel fuel cwdS cwd (fun _ => { loc := loc, offset := offset, length := length, zero := false }) w
          (expandAll (steps.map Step.toWOp)) =
        (runSess kfuel fuel cwdS cwd loc offset length s steps).2.map LogEntry.toWLog
  | [], s, w, _, _ => rfl
  | x :: xs, s, w, hfs, hts => by
    cases x with
    | setFS fs =>
      simp only [List.map_cons, expandAll, Step.toWOp, WOp.expand, List.singleton_append, runMicro_cons, stepWorld,
        Option.toList, List.nil_append, runSess, stepSess]
      exact runSess_sim kfuel fuel cwdS cwd loc offset length xs _ _ rfl hts
    | setBase b =>
      simp only [List.map_cons, expandAll, Step.toWOp, WOp.expand, List.singleton_append, runMicro_cons, stepWorld,
        Option.toList, List.nil_append, runSess, stepSess]
      refine runSess_sim kfuel fuel cwdS cwd loc offset length xs _ _ hfs ?_
      simp [World.set, TSess.rebase, hts]
    | release =>
      simp only [List.map_cons, expandAll, Step.toWOp, WOp.expand, List.singleton_append, runMicro_cons, stepWorld,
        Option.toList, List.nil_append, runSess, stepSess]
      refine runSess_sim kfuel fuel cwdS cwd loc offset length xs _ _ hfs ?_
      simp [World.set, hts]
    | call ep =>
      have hc : callT w.fs kfuel fuel cwdS cwd { loc := loc, offset := offset, length := length, zero := false }
          (w.ts 0).base ep (w.ts 0).st = call s.fs kfuel fuel cwdS cwd s.base loc offset length ep s.st := by
        rw [hts, hfs]; simp [callT]
      simp only [List.map_cons, expandAll, Step.toWOp, WOp.expand, List.singleton_append, runMicro_cons, stepWorld,
        Option.toList, runSess, stepSess, hc]
      rw [runSess_sim kfuel fuel cwdS cwd loc offset length xs
        { fs := s.fs, base := s.base, st := (call s.fs kfuel fuel cwdS cwd s.base loc offset length ep s.st).2.2 }
        (w.set 0 { base := (w.ts 0).base, st := (call s.fs kfuel fuel cwdS cwd s.base loc offset length ep s.st).2.2 })
        hfs (by simp [World.set, hts])]
      simp [LogEntry.toWLog, hts, hfs]

end IrVerif.Path
