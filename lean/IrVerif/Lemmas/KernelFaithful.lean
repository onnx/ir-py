/-
Kernel: the mutation phase of a call never meets a failing check once the call's validation has
passed (`late` — the ghost counter of checks that fail after the first write — does not move).  This is
what makes `C06_atomic` a theorem about the model rather than a definition: `guardOp` reports a raise
whenever `late` moved, with the partially written world.
-/
import IrVerif.Lemmas.KernelOps
import IrVerif.Lemmas.KernelSeq
import IrVerif.Lemmas.ListFacts
namespace IrVerif.Kernel

/-! ### primitives: a passing check means the effect branch -/

theorem setInput_late (w : World) (n i : Nat) (nv : Option Nat) (h : i < (w.node n).inputs.length) :
    (setInput w n i nv).late = w.late := by
  unfold setInput
  simp only [h, if_true]
  cases (w.node n).inputs.getD i none <;> cases nv <;> simp

theorem setInput_len (w : World) (n i : Nat) (nv : Option Nat) (m : Nat) :
    ((setInput w n i nv).node m).inputs.length = (w.node m).inputs.length := by
  rw [setInput_inputs]; split
  · subst_vars; simp
  · rfl

theorem attachOutput_late (w : World) (n v : Nat)
    (h : (w.val v).producer = none ∧ (w.val v).isIn = false ∧ (w.val v).isInit = false) :
    (attachOutput w n v).late = w.late := by
  unfold attachOutput; simp [h]

theorem ioInsert_late (w : World) (g : Nat) (k : IOKind) (pos v : Nat) (h : checkIO w g k v = true) :
    (ioInsert w g k pos v).late = w.late := by
  unfold ioInsert setIO; simp [h]

theorem unsetIO_late (w : World) (g : Nat) (k : IOKind) (v : Nat) : (unsetIO w g k v).late = w.late := by
  unfold unsetIO; simp only []; split <;> simp

theorem ioRemoveAt_late (w : World) (g : Nat) (k : IOKind) (pos : Nat) (h : pos < (ioList k (w.gr g)).length) :
    (ioRemoveAt w g k pos).late = w.late := by
  unfold ioRemoveAt
  rw [List.getElem?_eq_getElem h]
  simp [unsetIO_late]

theorem unsetInit_late (w : World) (v : Nat) : (unsetInit w v).late = w.late := rfl

theorem initDel_late (w : World) (g : Nat) (key : String) (h : (lookupInit (w.gr g).inits key).isSome) :
    (initDel w g key).late = w.late := by
  unfold initDel
  cases hl : lookupInit (w.gr g).inits key with
  | none => simp [hl] at h
  | some old => simp [unsetInit_late]

theorem initPut_late (w : World) (g : Nat) (key : String) (v : Nat) (h : initOK w g key v = true) :
    (initPut w g key v).late = w.late := by
  unfold initPut
  simp only [h, if_true]
  have h1 : (if falsy (w.val v).name = true then setNamePlain w v (some key) else w).late = w.late := by
    split <;> simp
  split <;> simp [unsetInit_late, h1]

theorem nodeLink_late (w : World) (g : Nat) (a : Option Nat) (n : Nat) (h : nodeAddable w g n = true) :
    (nodeLink w g a n).late = w.late := by
  unfold nodeLink; simp [h]

theorem nodeUnlink_late (w : World) (g n : Nat) (h : (w.node n).graph = some g) :
    (nodeUnlink w g n).late = w.late := by
  unfold nodeUnlink; simp [h]

theorem registerNode_late (w : World) (g n : Nat) : (registerNode w g n).late = w.late := by
  unfold registerNode; split <;> simp

theorem registerValue_late (w : World) (g v : Nat)
    (h : (w.val v).name = none → (w.val v).isInit = false ∧ constLocked w v = false) :
    (registerValue w g v).late = w.late := by
  unfold registerValue
  split
  · simp
  · rename_i hn
    obtain ⟨h1, h2⟩ := h hn
    simp [h1, h2]


theorem guardOp_late (bad : Bool) (kind : String) (w w' : World) (h : bad = false → w'.late = w.late) :
    (guardOp bad kind w w').1.late = w.late := by
  unfold guardOp
  cases bad with
  | true => rfl
  | false => simp [h rfl]

/-- a call that ends in `guardOp` and does not move `late` can only raise from its validation -/
theorem guardOp_atomic_of_late (bad : Bool) (kind : String) (w w' : World) (k : String)
    (h : (guardOp bad kind w w').1.late = w.late) (hr : (guardOp bad kind w w').2 = .raised k) :
    (guardOp bad kind w w').1 = w := by
  unfold guardOp at h hr ⊢
  cases bad with
  | true => rfl
  | false =>
    simp only [Bool.false_eq_true, if_false] at h hr ⊢
    split at hr
    · cases hr
    · rename_i hne
      simp only [hne, if_false] at h

theorem guardOp_atomic (bad : Bool) (kind : String) (w w' : World) (k : String)
    (h : bad = false → w'.late = w.late) (hr : (guardOp bad kind w w').2 = .raised k) :
    (guardOp bad kind w w').1 = w :=
  guardOp_atomic_of_late bad kind w w' k (guardOp_late bad kind w w' h) hr

theorem iter_late {f : World → World} (P : World → Prop) (hP : ∀ a, P a → P (f a) ∧ (f a).late = a.late) :
    ∀ (c : Nat) (w : World), P w → (iter f c w).late = w.late ∧ P (iter f c w) := fun c w h =>
  iter_inv (fun a => a.late = w.late ∧ P a) f (fun a ha => ⟨(hP a ha.2).2.trans ha.1, (hP a ha.2).1⟩) c w ⟨rfl, h⟩

theorem replaceInput_late (w : World) (n : Nat) (idx : Int) (nv : Option Nat) :
    (replaceInput w n idx nv).1.late = w.late := by
  apply guardOp_late
  intro hb
  apply setInput_late
  simp at hb; omega

theorem popInput_late (w : World) (n : Nat) (h : 0 < (w.node n).inputs.length) :
    (popInput w n).late = w.late ∧ ((popInput w n).node n).inputs.length = (w.node n).inputs.length - 1 := by
  unfold popInput
  have hne : ¬ (w.node n).inputs.length = 0 := by omega
  simp only [hne, if_false]
  constructor
  · simp; exact setInput_late _ _ _ _ (by omega)
  · simp [setInput_len]

theorem iter_popInput_late (n : Nat) : ∀ (c : Nat) (w : World), c ≤ (w.node n).inputs.length →
    (iter (fun w => popInput w n) c w).late = w.late
  | 0, _, _ => rfl
  | c + 1, w, h => by
    obtain ⟨h1, h2⟩ := popInput_late w n (by omega)
    simp only [iter]
    rw [iter_popInput_late n c _ (by omega), h1]

theorem resizeInputs_late (w : World) (n : Nat) (k : Int) : (resizeInputs w n k).1.late = w.late := by
  apply guardOp_late
  intro _
  split
  · exact iter_popInput_late n _ w (by omega)
  · simp

theorem detachLast_uses (w : World) (n u : Nat) : ((detachLast w n).val u).uses = (w.val u).uses := by
  unfold detachLast; split
  · rfl
  · split
    · simp; split <;> simp_all
    · rfl

theorem detachLast_step (w : World) (n : Nat) (h : (w.node n).outputs ≠ [])
    (hu : ∀ v, (w.node n).outputs.getLast? = some v → (w.val v).uses = []) :
    (detachLast w n).late = w.late ∧ ((detachLast w n).node n).outputs = (w.node n).outputs.dropLast := by
  unfold detachLast
  cases hl : (w.node n).outputs.getLast? with
  | none => simp [List.getLast?_eq_none_iff] at hl; exact absurd hl h
  | some v => simp [hu v hl]

theorem mem_drop_dropLast (l : List Nat) (j v : Nat) (h : v ∈ l.dropLast.drop j) : v ∈ l.drop j := by
  obtain ⟨t, ht⟩ := List.dropLast_prefix l
  have : l.drop j = l.dropLast.drop j ++ t.drop (j - l.dropLast.length) := by
    conv => lhs; rw [← ht]
    exact List.drop_append
  rw [this]; exact List.mem_append_left _ h

/-- the hypothesis is on the `c` outputs the loop will meet: `detachLast` writes no use list, so they stay unused -/
theorem iter_detachLast_late (n : Nat) : ∀ (c : Nat) (w : World), c ≤ (w.node n).outputs.length →
    (∀ v ∈ (w.node n).outputs.drop ((w.node n).outputs.length - c), (w.val v).uses = []) →
    (iter (fun w => detachLast w n) c w).late = w.late
  | 0, _, _, _ => rfl
  | c + 1, w, h, hu => by
    have hne : (w.node n).outputs ≠ [] := by intro e; simp [e] at h
    have hlast : ∀ v, (w.node n).outputs.getLast? = some v → (w.val v).uses = [] := by
      intro v hv
      apply hu v
      rw [List.getLast?_eq_getElem?] at hv
      have := List.getElem?_eq_some_iff.1 hv
      obtain ⟨hlt, he⟩ := this
      rw [List.mem_drop_iff_getElem]
      exact ⟨c, by omega, by rw [← he]; congr 1; omega⟩
    obtain ⟨h1, h2⟩ := detachLast_step w n hne hlast
    simp only [iter]
    rw [iter_detachLast_late n c _ (by rw [h2]; simp; omega) ?_, h1]
    intro v hv
    rw [detachLast_uses]
    apply hu v
    rw [h2] at hv
    simp only [List.length_dropLast] at hv
    have := mem_drop_dropLast _ _ _ hv
    have e : (w.node n).outputs.length - 1 - c = (w.node n).outputs.length - (c + 1) := by omega
    rw [e] at this; exact this

theorem addOutput_late (w : World) (n : Nat) : (addOutput w n).late = w.late := by
  unfold addOutput
  rw [attachOutput_late]
  · rfl
  · simp [allocVal]

theorem iter_addOutput_late (n c : Nat) (w : World) : (iter (fun w => addOutput w n) c w).late = w.late :=
  iter_inv (fun a : World => a.late = w.late) _ (fun a ha => (addOutput_late a n).trans ha) c w rfl

theorem resizeOutputs_core (w : World) (n newSize : Nat)
    (hb : ((w.node n).outputs.drop newSize).any (fun v => decide ((w.val v).uses ≠ [])) = false) :
    (if newSize ≤ (w.node n).outputs.length then
        iter (fun w => detachLast w n) ((w.node n).outputs.length - newSize) w
      else iter (fun w => addOutput w n) (newSize - (w.node n).outputs.length) w).late = w.late := by
  split
  · rename_i hle
    apply iter_detachLast_late n _ w (by omega)
    intro v hv
    rw [Nat.sub_sub_self hle] at hv
    simp only [List.any_eq_false] at hb
    simpa using hb v hv
  · exact iter_addOutput_late n _ w

theorem resizeOutputs_late (w : World) (n : Nat) (k : Int) : (resizeOutputs w n k).1.late = w.late := by
  apply guardOp_late
  intro hb
  exact resizeOutputs_core w n _ hb


theorem mem_dedup (l : List Nat) (a : Nat) : a ∈ dedup l ↔ a ∈ l := by
  induction l with
  | nil => simp [dedup]
  | cons x xs ih =>
    simp only [dedup, List.mem_cons, List.mem_filter, ih]
    by_cases h : a = x <;> simp [h]

theorem nodup_dedup (l : List Nat) : (dedup l).Nodup := by
  induction l with
  | nil => simp [dedup]
  | cons x xs ih =>
    simp only [dedup, List.nodup_cons, List.mem_filter]
    exact ⟨by simp, ih.filter _⟩

theorem checkIO_eq (w : World) (g : Nat) (k : IOKind) (v : Nat) :
    checkIO w g k v = true ↔ (((w.val v).graph = none ∨ (w.val v).graph = some g) ∧
      (k = .out ∨ (w.val v).producer = none)) := by
  simp [checkIO]

theorem constLocked_congr {w w' : World} (hc : ∀ v, (w'.val v).const = (w.val v).const) (hl : w'.locked = w.locked)
    (v : Nat) : constLocked w' v = constLocked w v := by
  simp [constLocked, hc, hl]

theorem Frame.constLocked {bv bn bg} {w w' : World} (hf : Frame bv bn bg w w') (v : Nat)
    (h1 : ∀ x, (bv x).const = x.const := by intro; rfl) : constLocked w' v = Kernel.constLocked w v :=
  constLocked_congr (fun u => Frame.keep _ h1 (hf.val u)) hf.locked v

/-- how the phases of the constructor of graph `g` may move a world: nodes untouched; producers, const
data untouched; an owner pointer that was free or `g` stays free or `g`; a non-empty name stays -/
structure Grow (g : Nat) (w a : World) : Prop where
  outs : ∀ n, (a.node n).outputs = (w.node n).outputs
  ngraph : ∀ n, (a.node n).graph = (w.node n).graph
  prod : ∀ v, (a.val v).producer = (w.val v).producer
  locked : ∀ v, constLocked a v = constLocked w v
  owner : ∀ v, ((w.val v).graph = none ∨ (w.val v).graph = some g) → ((a.val v).graph = none ∨ (a.val v).graph = some g)
  name : ∀ v s, (w.val v).name = some s → s ≠ "" → (a.val v).name = some s
  named : ∀ v, (w.val v).name ≠ none → (a.val v).name ≠ none

theorem Grow.refl (g : Nat) (w : World) : Grow g w w :=
  ⟨fun _ => rfl, fun _ => rfl, fun _ => rfl, fun _ => rfl, fun _ h => h, fun _ _ h _ => h, fun _ h => h⟩

theorem Grow.trans {g : Nat} {a b c : World} (h1 : Grow g a b) (h2 : Grow g b c) : Grow g a c :=
  ⟨fun n => (h2.outs n).trans (h1.outs n), fun n => (h2.ngraph n).trans (h1.ngraph n),
   fun v => (h2.prod v).trans (h1.prod v), fun v => (h2.locked v).trans (h1.locked v),
   fun v h => h2.owner v (h1.owner v h), fun v s h hs => h2.name v s (h1.name v s h hs) hs,
   fun v h => h2.named v (h1.named v h)⟩

theorem Grow.checkIO {g : Nat} {w a : World} (h : Grow g w a) (k : IOKind) (v : Nat) (hc : checkIO w g k v = true) :
    checkIO a g k v = true := by
  rw [checkIO_eq] at hc ⊢
  exact ⟨h.owner v hc.1, by rw [h.prod]; exact hc.2⟩

theorem grow_of_vals (g : Nat) (w a : World) (hn : ∀ n, a.node n = w.node n)
    (hp : ∀ v, (a.val v).producer = (w.val v).producer) (hlk : ∀ v, constLocked a v = constLocked w v)
    (ho : ∀ v, ((w.val v).graph = none ∨ (w.val v).graph = some g) → ((a.val v).graph = none ∨ (a.val v).graph = some g))
    (hnm : ∀ v s, (w.val v).name = some s → s ≠ "" → (a.val v).name = some s)
    (hnd : ∀ v, (w.val v).name ≠ none → (a.val v).name ≠ none) : Grow g w a :=
  ⟨fun n => by rw [hn], fun n => by rw [hn], hp, hlk, ho, hnm, hnd⟩

theorem ioInsert_grow (w : World) (g : Nat) (k : IOKind) (pos v : Nat) : Grow g w (ioInsert w g k pos v) := by
  have hf := ioInsert_ioFrame w g k pos v
  have hname : ∀ u, ((ioInsert w g k pos v).val u).name = (w.val u).name := fun u => (congrArg ValueS.name (hf.val u) :)
  refine grow_of_vals g w _ hf.node (fun u => (congrArg ValueS.producer (hf.val u) :))
    (fun u => hf.constLocked u) ?_ (fun u s h _ => (hname u).trans h)
    (fun u h => by rw [hname]; exact h)
  by_cases hc : checkIO w g k v = true
  · intro u h; rw [ioInsert_val _ _ _ _ _ hc]; split
    · simp
    · exact h
  · simp only [ioInsert, hc]; exact fun _ h => h
theorem checkIO_ioInsert (w : World) (g : Nat) (k : IOKind) (pos v u : Nat) (h : checkIO w g k u = true) :
    checkIO (ioInsert w g k pos v) g k u = true := (ioInsert_grow w g k pos v).checkIO k u h

theorem checkIO_ioRemoveAt (w : World) (g : Nat) (k : IOKind) (pos u : Nat) (h : checkIO w g k u = true) :
    checkIO (ioRemoveAt w g k pos) g k u = true := by
  rw [checkIO_eq] at h ⊢
  cases hv : (ioList k (w.gr g))[pos]? with
  | none => simp [ioRemoveAt, hv]; exact h
  | some v =>
    rw [ioRemoveAt_val _ _ _ _ _ hv]
    split
    · rename_i hc; obtain ⟨hu, -⟩ := hc; subst hu
      refine ⟨?_, by cases k <;> simp_all [released, setIoFlag]⟩
      rw [released_graph]; split
      · exact h.1
      · exact Or.inl rfl
    · exact h

theorem ioInsert_len (w : World) (g : Nat) (k : IOKind) (pos v : Nat) (hc : checkIO w g k v = true) :
    (ioList k ((ioInsert w g k pos v).gr g)).length = (ioList k (w.gr g)).length + 1 := by
  rw [ioInsert_gr _ _ _ _ _ hc]; simp [insertAt]; omega

theorem ioRemoveAt_len (w : World) (g : Nat) (k : IOKind) (pos : Nat) (h : pos < (ioList k (w.gr g)).length) :
    (ioList k ((ioRemoveAt w g k pos).gr g)).length = (ioList k (w.gr g)).length - 1 := by
  have hv : (ioList k (w.gr g))[pos]? = some (ioList k (w.gr g))[pos] := List.getElem?_eq_getElem h
  rw [ioRemoveAt_gr _ _ _ _ _ hv]; simp [List.length_eraseIdx, h]

theorem enumFrom_mem_val {α : Type} : ∀ (l : List α) (s i : Nat) (a : α), (i, a) ∈ enumFrom s l → a ∈ l
  | [], _, _, _, h => by simp [enumFrom] at h
  | x :: xs, s, i, a, h => by
    simp only [enumFrom, List.mem_cons, Prod.mk.injEq] at h
    rcases h with ⟨_, rfl⟩ | h
    · exact List.mem_cons_self
    · exact List.mem_cons_of_mem _ (enumFrom_mem_val xs (s + 1) i a h)

theorem ioInsertMany_grow (g : Nat) (k : IOKind) (w : World) (vs : List Nat) (pos : Nat) (a : World)
    (hg : Grow g w a) (h : ∀ v ∈ vs, checkIO w g k v = true) :
    (ioInsertMany a g k pos vs).late = a.late ∧ Grow g w (ioInsertMany a g k pos vs) :=
  ListFacts.foldl_inv_mem (fun x : World => x.late = a.late ∧ Grow g w x) _ (fun x hx p hp =>
    ⟨(ioInsert_late _ _ _ _ _ (hx.2.checkIO k p.2 (h p.2 (enumFrom_mem_val vs pos p.1 p.2 hp)))).trans hx.1,
      hx.2.trans (ioInsert_grow x g k p.1 p.2)⟩) ⟨rfl, hg⟩

theorem ioInsertMany_late (g : Nat) (k : IOKind) (vs : List Nat) (pos : Nat) (w : World)
    (h : ∀ u ∈ vs, checkIO w g k u = true) : (ioInsertMany w g k pos vs).late = w.late :=
  (ioInsertMany_grow g k w vs pos w (Grow.refl g w) h).1

theorem iter_removeAt_late (g : Nat) (k : IOKind) (p : Nat) : ∀ (c : Nat) (w : World),
    p + c ≤ (ioList k (w.gr g)).length →
    (iter (fun w => ioRemoveAt w g k p) c w).late = w.late ∧
    (∀ u, checkIO w g k u = true → checkIO (iter (fun w => ioRemoveAt w g k p) c w) g k u = true)
  | 0, _, _ => ⟨rfl, fun _ h => h⟩
  | c + 1, w, h => by
    have hp : p < (ioList k (w.gr g)).length := by omega
    obtain ⟨h1, h2⟩ := iter_removeAt_late g k p c (ioRemoveAt w g k p) (by rw [ioRemoveAt_len _ _ _ _ hp]; omega)
    simp only [iter]
    exact ⟨by rw [h1, ioRemoveAt_late _ _ _ _ hp], fun u hu => h2 u (checkIO_ioRemoveAt _ _ _ _ _ hu)⟩

theorem normIndex_lt (len : Nat) (i : Int) (p : Nat) (h : normIndex len i = some p) : p < len := by
  unfold normIndex at h
  simp only [] at h
  by_cases hi : i < 0 <;> simp [hi] at h <;> omega

theorem idxOf?_lt (l : List Nat) (v p : Nat) (h : l.idxOf? v = some p) : p < l.length := by
  rw [idxOf?_eq_idxOf] at h
  split at h
  · rename_i hm; simp at h; subst h; exact List.idxOf_lt_length_of_mem hm
  · simp at h

theorem atPos_late (o : Option Nat) (f : Nat → World) (w : World) (ho : o.isSome)
    (hf : ∀ p, o = some p → (f p).late = w.late) : (atPos o f w).late = w.late := by
  unfold atPos
  cases o with
  | none => simp at ho
  | some p => exact hf p rfl

theorem ioReplaceMany_late (g : Nat) (k : IOKind) : ∀ (pv : List (Nat × Nat)) (w : World),
    (∀ p ∈ pv, p.1 < (ioList k (w.gr g)).length ∧ checkIO w g k p.2 = true) →
    (pv.foldl (fun w p => ioInsert (ioRemoveAt w g k p.1) g k p.1 p.2) w).late = w.late
  | [], _, _ => rfl
  | p :: pv, w, h => by
    obtain ⟨hp, hc⟩ := h p List.mem_cons_self
    have hc' := checkIO_ioRemoveAt w g k p.1 p.2 hc
    simp only [List.foldl_cons]
    rw [ioReplaceMany_late g k pv]
    · rw [ioInsert_late _ _ _ _ _ hc', ioRemoveAt_late _ _ _ _ hp]
    · intro q hq
      obtain ⟨hq1, hq2⟩ := h q (List.mem_cons_of_mem _ hq)
      refine ⟨?_, checkIO_ioInsert _ _ _ _ _ _ (checkIO_ioRemoveAt _ _ _ _ _ hq2)⟩
      rw [ioInsert_len _ _ _ _ _ hc', ioRemoveAt_len _ _ _ _ hp]; omega

/-- positions removed largest first stay valid -/
theorem removeDesc_late (g : Nat) (k : IOKind) : ∀ (ps : List Nat) (w : World),
    ps.Pairwise (fun a b => b < a) → (∀ p ∈ ps, p < (ioList k (w.gr g)).length) →
    (ps.foldl (fun w p => ioRemoveAt w g k p) w).late = w.late
  | [], _, _, _ => rfl
  | p :: ps, w, hs, h => by
    have hp := h p List.mem_cons_self
    rw [List.pairwise_cons] at hs
    simp only [List.foldl_cons]
    rw [removeDesc_late g k ps _ hs.2, ioRemoveAt_late _ _ _ _ hp]
    intro q hq
    rw [ioRemoveAt_len _ _ _ _ hp]
    have := hs.1 q hq
    omega

theorem ioRemoveMany_late (w : World) (g : Nat) (k : IOKind) (ps : List Nat) (hn : ps.Nodup)
    (h : ∀ p ∈ ps, p < (ioList k (w.gr g)).length) : (ioRemoveMany w g k ps).late = w.late := by
  unfold ioRemoveMany
  apply removeDesc_late
  · have hp := List.pairwise_mergeSort (le := fun a b => decide (b ≤ a))
      (fun a b c h1 h2 => by simp at *; omega) (fun a b => by simp; omega) ps
    have hnd : (ps.mergeSort (fun a b => decide (b ≤ a))).Nodup := (List.mergeSort_perm ps _).nodup_iff.2 hn
    have hboth := hp.and hnd
    exact hboth.imp (fun {a b} hab => by simp at hab; omega)
  · intro p hp; exact h p (List.mem_mergeSort.1 hp)

theorem sliceIndices_pos (len : Nat) (start stop step : Option Int) (ix : SliceIx)
    (h : sliceIndices len start stop step = some ix) :
    ix.pos.Nodup ∧ (∀ p ∈ ix.pos, p < len) ∧ ix.start ≤ len ∧ ix.stop ≤ len := by
  unfold sliceIndices at h
  by_cases hst : step.getD 1 = 0
  · simp only [hst, if_true, reduceCtorEq] at h
  · simp only [hst, if_false, Option.some.injEq] at h
    subst h
    exact ⟨nodup_dedup _, fun p hp => by rw [mem_dedup, List.mem_filter] at hp; exact of_decide_eq_true hp.2,
      Nat.min_le_right _ _, Nat.min_le_right _ _⟩

theorem ioMut_late (w : World) (g : Nat) (k : IOKind) (m : IOMut) : (ioMut w g k m).1.late = w.late := by
  cases m <;> simp only [ioMut]
  case append v =>
    apply guardOp_late; intro hb; exact ioInsert_late _ _ _ _ _ (by simpa using hb)
  case extend vs =>
    apply guardOp_late; intro hb
    exact ioInsertMany_late g k vs _ w (by simpa using hb)
  case insert i v =>
    apply guardOp_late; intro hb; exact ioInsert_late _ _ _ _ _ (by simpa using hb)
  case pop i =>
    apply guardOp_late; intro hb
    exact atPos_late _ _ _ (by simpa using hb) (fun p hp => ioRemoveAt_late _ _ _ _ (normIndex_lt _ _ _ hp))
  case remove v =>
    apply guardOp_late; intro hb
    exact atPos_late _ _ _ (by simpa using hb) (fun p hp => ioRemoveAt_late _ _ _ _ (idxOf?_lt _ _ _ hp))
  case clear =>
    apply guardOp_late; intro _
    exact (iter_removeAt_late g k 0 _ w (by omega)).1
  case setItem i v =>
    apply guardOp_late; intro hb
    simp at hb
    refine atPos_late _ _ _ (by simpa using hb.1) (fun p hp => ?_)
    have hlt := normIndex_lt _ _ _ hp
    rw [ioInsert_late _ _ _ _ _ (checkIO_ioRemoveAt _ _ _ _ _ hb.2), ioRemoveAt_late _ _ _ _ hlt]
  case setSlice start stop step vs =>
    split
    · rfl
    · rename_i ix hix
      obtain ⟨hnd, hlt, hs1, hs2⟩ := sliceIndices_pos _ _ _ _ _ hix
      apply guardOp_late; intro hb
      simp at hb
      split
      · obtain ⟨h1, h2⟩ := iter_removeAt_late g k ix.start (ix.stop - ix.start) w (by omega)
        rw [ioInsertMany_late g k vs _ _ (fun u hu => h2 u (hb.1 u hu)), h1]
      · rename_i hst
        unfold ioReplaceMany
        apply ioReplaceMany_late
        intro p hp
        have := List.of_mem_zip hp
        exact ⟨hlt _ this.1, hb.1 _ this.2⟩
  case delItem i =>
    apply guardOp_late; intro hb
    exact atPos_late _ _ _ (by simpa using hb) (fun p hp => ioRemoveAt_late _ _ _ _ (normIndex_lt _ _ _ hp))
  case delSlice start stop step =>
    split
    · rfl
    · rename_i ix hix
      obtain ⟨hnd, hlt, -, -⟩ := sliceIndices_pos _ _ _ _ _ hix
      apply guardOp_late; intro _
      exact ioRemoveMany_late _ _ _ _ hnd hlt
  case reverse => apply guardOp_late; intro _; rfl
  case sort keys rev => apply guardOp_late; intro _; rfl


theorem withName_late (o : Option String) (f : String → World) (w : World) (ho : o.isSome)
    (hf : ∀ p, o = some p → (f p).late = w.late) : (withName o f w).late = w.late := by
  unfold withName
  cases o with
  | none => simp at ho
  | some p => exact hf p rfl

theorem lookupInit_head (k : String) (v : Nat) (t : List (String × Nat)) : lookupInit ((k, v) :: t) k = some v := by
  simp [lookupInit]

theorem dictDel_head_len (k : String) (v : Nat) (t : List (String × Nat))
    (hn : (((k, v) :: t).map Prod.fst).Nodup) : (dictDel ((k, v) :: t) k).length = t.length := by
  simp only [List.map_cons, List.nodup_cons, List.mem_map, not_exists, not_and] at hn
  have : dictDel ((k, v) :: t) k = t := by
    simp only [dictDel, List.filter_cons, ne_eq, not_true_eq_false, decide_false]
    simp only [Bool.false_eq_true, if_false]
    rw [List.filter_eq_self]
    intro p hp
    simp
    intro e
    exact hn.1 p hp e
  rw [this]

theorem initClear_late (g : Nat) : ∀ (c : Nat) (w : World), WF w → c ≤ (w.gr g).inits.length →
    (iter (fun w => withName ((w.gr g).inits.head?.map (·.1)) (fun k => initDel w g k) w) c w).late = w.late
  | 0, _, _, _ => rfl
  | c + 1, w, hw, h => by
    simp only [iter]
    have hne : (w.gr g).inits ≠ [] := by intro e; simp [e] at h
    obtain ⟨⟨k, v⟩, t, hl⟩ := List.exists_cons_of_ne_nil hne
    have hlook : lookupInit (w.gr g).inits k = some v := by rw [hl]; exact lookupInit_head k v t
    have hstep : withName ((w.gr g).inits.head?.map (·.1)) (fun k => initDel w g k) w = initDel w g k := by
      simp [withName, hl]
    rw [hstep]
    have hlate := initDel_late w g k (by simp [hlook])
    have hlen : ((initDel w g k).gr g).inits.length = t.length := by
      rw [initDel_gr _ _ _ _ hlook]; simp
      have := hw.key.keys g
      rw [hl] at this ⊢
      exact dictDel_head_len k v t this
    rw [initClear_late g c _ (initDel_WF _ _ _ hw) (by rw [hlen]; rw [hl] at h; simp at h; omega), hlate]

theorem initSetItem_late (w : World) (g : Nat) (key : String) (v : Nat) : (initSetItem w g key v).1.late = w.late := by
  apply guardOp_late; intro hb; exact initPut_late _ _ _ _ (by simpa using hb)

theorem initSetItem_ok_of (w : World) (g : Nat) (key : String) (v : Nat) : (initSetItem w g key v).1.late = w.late :=
  initSetItem_late w g key v

theorem initUpdateSeq_late (g : Nat) : ∀ (kvs : List (String × Nat)) (w : World),
    (initUpdateSeq w g kvs).1.late = w.late
  | [], _ => rfl
  | (k, v) :: rest, w => by
    unfold initUpdateSeq
    have h1 := initSetItem_late w g k v
    split
    · rename_i w1 heq
      rw [heq] at h1
      rw [initUpdateSeq_late g rest w1]; exact h1
    · exact h1

theorem initMut_late (w : World) (hw : WF w) (g : Nat) (m : InitMut) : (initMut w g m).1.late = w.late := by
  cases m <;> simp only [initMut]
  case setItem key v => exact initSetItem_late _ _ _ _
  case delItem key => apply guardOp_late; intro hb; exact initDel_late _ _ _ (by simpa using hb)
  case add v =>
    apply guardOp_late; intro hb
    simp at hb
    refine withName_late _ _ _ (by simpa using hb.1) (fun p hp => initPut_late _ _ _ _ ?_)
    have := hb.2; rw [hp] at this; simpa using this
  case pop key => apply guardOp_late; intro hb; exact initDel_late _ _ _ (by simpa using hb)
  case popitem =>
    apply guardOp_late; intro hb
    have hne : (w.gr g).inits ≠ [] := by intro e; simp [e] at hb
    obtain ⟨⟨k, v⟩, t, hl⟩ := List.exists_cons_of_ne_nil hne
    have hlook : lookupInit (w.gr g).inits k = some v := by rw [hl]; exact lookupInit_head k v t
    have : withName ((w.gr g).inits.head?.map (·.1)) (fun k => initDel w g k) w = initDel w g k := by
      simp [withName, hl]
    rw [this]
    exact initDel_late _ _ _ (by simp [hlook])
  case clear => apply guardOp_late; intro _; exact initClear_late g _ w hw (Nat.le_refl _)
  case update kvs => apply guardOp_late; intro _; exact initUpdateSeq_late g kvs w
  case setdefault key v =>
    apply guardOp_late; intro hb
    split
    · rfl
    · rename_i hp; simp [hp] at hb; exact initPut_late _ _ _ _ hb
  case register v =>
    apply guardOp_late; intro hb
    simp at hb
    exact initPut_late _ _ _ _ hb.2


theorem setName_late (w : World) (hw : WF w) (v : Nat) (s : Option String) : (setName w v s).1.late = w.late := by
  unfold setName
  simp only []
  apply guardOp_late
  intro hb
  split
  · rfl
  · rename_i hne
    split
    · rename_i hi
      simp [hne, hi] at hb
      obtain ⟨hlk, hb⟩ := hb
      split
      · rename_i new g old heq
        have hq : s = some new ∧ (w.val v).graph = some g ∧ (w.val v).name = some old := by
          revert heq; split <;> simp_all
        rw [heq] at hb
        simp at hb
        obtain ⟨hnew, hfree⟩ := hb
        have hlook := init_lookup w hw.own hw.key v g old hi hq.2.1 hq.2.2
        have hprod : (w.val v).producer = none := hw.root v (Or.inr hi)
        rw [initPut_late, late_setNamePlain, initDel_late _ _ _ (by simp [hlook])]
        -- re-keying: after `initDel ; setNamePlain` the value is `clearedInit` with the new name, which `initOK` accepts
        have hval : ((setNamePlain (initDel w g old) v (some new)).val v) =
            { clearedInit (w.val v) with name := some new } := by
          rw [setNamePlain_val]; simp [initDel_val _ _ _ _ hlook]
        apply initOK_of_named _ _ _ _ hnew <;> rw [hval]
        · simpa using hprod
        · exact clearedInit_owner (Or.inr hq.2.1)
      · rename_i hnone
        rw [hnone] at hb
    · simp


/-- a fold of `setInput` whose indices are in range (`setInput` keeps every length) -/
theorem setInputFold_late {β : Type} (n i : β → Nat) (nv : β → Option Nat) (l : List β) (w : World)
    (h : ∀ b ∈ l, i b < (w.node (n b)).inputs.length) :
    (l.foldl (fun w b => setInput w (n b) (i b) (nv b)) w).late = w.late :=
  (ListFacts.foldl_inv_mem (fun a : World => a.late = w.late ∧ ∀ b ∈ l, i b < (a.node (n b)).inputs.length) _
    (fun a ha b hb => ⟨(setInput_late _ _ _ _ (ha.2 b hb)).trans ha.1,
      fun b' hb' => by rw [setInput_len]; exact ha.2 b' hb'⟩) ⟨rfl, h⟩).1

theorem rauwUses_late (w : World) (hw : I_use w) (v r : Nat) : (rauwUses w v r).late = w.late := by
  unfold rauwUses
  apply setInputFold_late (β := Nat × Nat) Prod.fst Prod.snd (fun _ => some r)
  intro u hu
  have := (hw.1 v u.1 u.2).1 hu
  exact (List.getElem?_eq_some_iff.1 this).1

theorem enumFrom_mem {α : Type} : ∀ (l : List α) (s i : Nat) (a : α), (i, a) ∈ enumFrom s l → s ≤ i ∧ i < s + l.length
  | [], _, _, _, h => by simp [enumFrom] at h
  | x :: xs, s, i, a, h => by
    simp only [enumFrom, List.mem_cons, Prod.mk.injEq] at h
    rcases h with ⟨rfl, _⟩ | h
    · simp
    · have := enumFrom_mem xs (s + 1) i a h
      simp; omega

theorem rauw_late (w : World) (hw : WF w) (v r : Nat) (rgo : Bool) : (rauw w v r rgo).1.late = w.late := by
  unfold rauw
  simp only []
  apply guardOp_late
  intro hb
  by_cases hout : (w.val v).isOut = true
  · simp only [hout, if_true]
    cases hg : (w.val v).graph with
    | none => simp [hout, hg] at hb
    | some g =>
      simp [hout, hg] at hb
      have hrep : (ioReplaceMany w g .out
          (((enumFrom 0 (w.gr g).outputs).filter (fun p => p.2 = v)).map (·.1))
          (List.replicate (w.gr g).outputs.length r)).late = w.late := by
        unfold ioReplaceMany
        apply ioReplaceMany_late
        intro p hp
        have hz := List.of_mem_zip hp
        refine ⟨?_, ?_⟩
        · obtain ⟨q, hq, hqe⟩ := List.mem_map.1 hz.1
          have hq' := (List.mem_filter.1 hq).1
          have := enumFrom_mem (w.gr g).outputs 0 q.1 q.2 hq'
          rw [← hqe]; simp [ioList]; omega
        · have := List.eq_of_mem_replicate hz.2
          rw [this]; exact hb.2
      rw [rauwUses_late _ (ioReplaceMany_WF _ _ _ _ _ hw).use, hrep]
  · simp only [hout]
    exact rauwUses_late _ hw.use _ _


theorem init_named (w : World) (hw : WF w) (v : Nat) (hi : (w.val v).isInit = true) : (w.val v).name ≠ none := by
  obtain ⟨g, key, _, hm⟩ := hw.own.init_flag v hi
  rw [(hw.key.name g key v hm).1]; simp

/-- what naming steps keep: outputs of every node, const / locked data, and names only get set -/
structure NameStep (w w' : World) : Prop where
  outs : ∀ n, (w'.node n).outputs = (w.node n).outputs
  graph : ∀ n, (w'.node n).graph = (w.node n).graph
  locked : ∀ v, constLocked w' v = constLocked w v
  named : ∀ v, (w.val v).name ≠ none → (w'.val v).name ≠ none

theorem NameStep.refl (w : World) : NameStep w w := ⟨fun _ => rfl, fun _ => rfl, fun _ => rfl, fun _ h => h⟩
theorem NameStep.trans {a b c : World} (h1 : NameStep a b) (h2 : NameStep b c) : NameStep a c :=
  ⟨fun n => (h2.outs n).trans (h1.outs n), fun n => (h2.graph n).trans (h1.graph n),
   fun v => (h2.locked v).trans (h1.locked v), fun v h => h2.named v (h1.named v h)⟩

theorem NameStep.namable {w w' : World} (h : NameStep w w') (v : Nat) (hv : valNamable w v = true) :
    valNamable w' v = true := by
  simp only [valNamable, Bool.not_eq_true', Bool.and_eq_false_iff, decide_eq_false_iff_not] at hv ⊢
  rcases hv with hv | hv
  · exact Or.inl (h.named v hv)
  · exact Or.inr (by rw [h.locked]; exact hv)

theorem NameStep.acceptable {w w' : World} (h : NameStep w w') (g n : Nat) (hn : nodeAcceptable w g n = true) :
    nodeAcceptable w' g n = true := by
  simp only [nodeAcceptable, nodeAddable, Bool.and_eq_true, List.all_eq_true] at hn ⊢
  rw [h.graph, h.outs]
  exact ⟨hn.1, fun o ho => h.namable o (hn.2 o ho)⟩

theorem nameStep_of_namingFrame {w w' : World} (hf : NamingFrame w w')
    (hnamed : ∀ v, (w.val v).name ≠ none → (w'.val v).name ≠ none) : NameStep w w' :=
  ⟨fun n => (congrArg NodeS.outputs (hf.node n) :), fun n => (congrArg NodeS.graph (hf.node n) :),
   fun v => hf.constLocked v, hnamed⟩

theorem registerValue_name (w : World) (g v u : Nat) (h : (w.val u).name ≠ none) :
    ((registerValue w g v).val u).name = (w.val u).name := by
  unfold registerValue
  split
  · rfl
  · rename_i hnone
    simp only []
    split
    · rfl
    · rw [setNamePlain_val]; split
      · subst_vars; exact absurd hnone h
      · rfl

theorem registerValue_nameStep (w : World) (g v : Nat) : NameStep w (registerValue w g v) :=
  nameStep_of_namingFrame (registerValue_namingFrame w g v) (fun u h => by rw [registerValue_name w g v u h]; exact h)

theorem registerNode_nameStep (w : World) (g n : Nat) : NameStep w (registerNode w g n) :=
  nameStep_of_namingFrame (registerNode_namingFrame w g n)
    (fun u h => by unfold registerNode; split <;> exact h)

theorem nodeLink_nameStep_other (w : World) (g : Nat) (a : Option Nat) (n : Nat) :
    (∀ m, ((nodeLink w g a n).node m).outputs = (w.node m).outputs) ∧
    (∀ v, constLocked (nodeLink w g a n) v = constLocked w v) ∧
    (∀ v, ((nodeLink w g a n).val v).name = (w.val v).name) :=
  have hf := nodeLink_nodeFrame w g a n
  ⟨fun m => (congrArg NodeS.outputs (hf.node m) :), fun v => hf.constLocked v,
   fun v => (congrArg ValueS.name (hf.val v) :)⟩

theorem registerOutputs_facts (g : Nat) (os : List Nat) (w : World) (hw : WF w) (h : ∀ o ∈ os, valNamable w o = true) :
    (os.foldl (fun w o => registerValue w g o) w).late = w.late ∧
      NameStep w (os.foldl (fun w o => registerValue w g o) w) ∧ WF (os.foldl (fun w o => registerValue w g o) w) :=
  ListFacts.foldl_inv_mem (fun a : World => a.late = w.late ∧ NameStep w a ∧ WF a) _
    (fun a ha o ho => by
      have hl : (registerValue a g o).late = a.late := by
        apply registerValue_late
        intro hn
        have hv := ha.2.1.namable o (h o ho)
        simp [valNamable, hn] at hv
        refine ⟨?_, hv⟩
        cases hi : (a.val o).isInit with
        | false => rfl
        | true => exact absurd hn (init_named a ha.2.2 o hi)
      exact ⟨hl.trans ha.1, ha.2.1.trans (registerValue_nameStep a g o), registerValue_WF a g o ha.2.2⟩)
    ⟨rfl, NameStep.refl w, hw⟩

theorem assignNames_facts (w : World) (hw : WF w) (g n : Nat) (ha : nodeAcceptable w g n = true) :
    (assignNames w g n).late = w.late ∧ NameStep w (assignNames w g n) ∧ WF (assignNames w g n) := by
  have hn0 := registerNode_nameStep w g n
  simp only [nodeAcceptable, Bool.and_eq_true, List.all_eq_true] at ha
  obtain ⟨hl, hs, hwf⟩ := registerOutputs_facts g (w.node n).outputs (registerNode w g n) (registerNode_WF w g n hw)
    (fun o ho => hn0.namable o (ha.2 o ho))
  exact ⟨by unfold assignNames; rw [hl, registerNode_late], hn0.trans hs, hwf⟩

/-- one accepted node: names, then the link; nothing fails late and the other nodes stay acceptable -/
theorem link_facts (w : World) (hw : WF w) (g : Nat) (anchor : Option Nat) (n : Nat)
    (ha : nodeAcceptable w g n = true) :
    (nodeLink (assignNames w g n) g anchor n).late = w.late ∧
    WF (nodeLink (assignNames w g n) g anchor n) ∧
    (∀ m, nodeAcceptable w g m = true → nodeAcceptable (nodeLink (assignNames w g n) g anchor n) g m = true) := by
  obtain ⟨hl, hstep, hwf⟩ := assignNames_facts w hw g n ha
  have hacc := ha
  simp only [nodeAcceptable, Bool.and_eq_true, List.all_eq_true] at hacc
  have hadd : nodeAddable (assignNames w g n) g n = true := by
    have := hstep.graph n
    simp only [nodeAddable, this]; exact hacc.1
  refine ⟨?_, nodeLink_WF _ _ _ _ hwf, ?_⟩
  · rw [nodeLink_late _ _ _ _ hadd, hl]
  · intro m hm
    have hm' := hstep.acceptable g m hm
    obtain ⟨ho, hlk, hnm⟩ := nodeLink_nameStep_other (assignNames w g n) g anchor n
    simp only [nodeAcceptable, Bool.and_eq_true, List.all_eq_true] at hm' ⊢
    refine ⟨?_, ?_⟩
    · have := (link_step w g anchor n (addable_of_acceptable ha)).2 m (addable_of_acceptable hm)
      exact this
    · rw [ho]
      intro o hoo
      have := hm'.2 o hoo
      simp only [valNamable, hlk, hnm] at this ⊢
      exact this

theorem extendMut_late (g : Nat) (ns : List Nat) (w : World) (hw : WF w) (h : ∀ n ∈ ns, nodeAcceptable w g n = true) :
    (extendMut w g ns).late = w.late :=
  (ListFacts.foldl_inv_mem (fun a : World => a.late = w.late ∧ WF a ∧ ∀ n ∈ ns, nodeAcceptable a g n = true) _
    (fun a ha n hn => by
      obtain ⟨h1, h2, h3⟩ := link_facts a ha.2.1 g (a.gr g).nodes.getLast? n (ha.2.2 n hn)
      exact ⟨h1.trans ha.1, h2, fun m hm => h3 m (ha.2.2 m hm)⟩) ⟨rfl, hw, h⟩).1

theorem linkMany_late (g : Nat) (ns : List Nat) (w : World) (anchor : Option Nat) (hw : WF w)
    (h : ∀ n ∈ ns, nodeAcceptable w g n = true) : (linkMany w g anchor ns).late = w.late :=
  (ListFacts.foldl_inv_mem
    (fun p : World × Option Nat => p.1.late = w.late ∧ WF p.1 ∧ ∀ n ∈ ns, nodeAcceptable p.1 g n = true) _
    (fun p hp n hn => by
      obtain ⟨h1, h2, h3⟩ := link_facts p.1 hp.2.1 g p.2 n (hp.2.2 n hn)
      exact ⟨h1.trans hp.1, h2, fun m hm => h3 m (hp.2.2 m hm)⟩) ⟨rfl, hw, h⟩).1

theorem graphAppend_late (w : World) (hw : WF w) (g n : Nat) : (graphAppend w g n).1.late = w.late := by
  apply guardOp_late; intro hb
  exact (link_facts w hw g _ n (by simpa using hb)).1

theorem graphExtend_late (w : World) (hw : WF w) (g : Nat) (ns : List Nat) : (graphExtend w g ns).1.late = w.late := by
  apply guardOp_late; intro hb
  exact extendMut_late g ns w hw (by simpa using hb)

theorem graphInsertAfter_late (w : World) (hw : WF w) (g a : Nat) (ns : List Nat) :
    (graphInsertAfter w g a ns).1.late = w.late := by
  apply guardOp_late; intro hb
  simp at hb
  exact linkMany_late g ns w _ hw hb.2

theorem graphInsertBefore_late (w : World) (hw : WF w) (g a : Nat) (ns : List Nat) :
    (graphInsertBefore w g a ns).1.late = w.late := by
  apply guardOp_late; intro hb
  simp at hb
  exact linkMany_late g ns w _ hw hb.2


theorem setInput_graph (w : World) (n i : Nat) (nv : Option Nat) (m : Nat) :
    ((setInput w n i nv).node m).graph = (w.node m).graph :=
  (congrArg NodeS.graph ((setInput_inputFrame w n i nv).node m) :)

theorem detachInputs_late (w : World) (n : Nat) : (detachInputs w n).late = w.late :=
  setInputFold_late (fun _ => n) id (fun _ => none) _ w (fun i hi => by simpa using hi)

theorem detachInputs_graph (w : World) (n m : Nat) : ((detachInputs w n).node m).graph = (w.node m).graph :=
  foldl_inv (fun a : World => (a.node m).graph = (w.node m).graph) _
    (fun a i ha => by rw [setInput_graph]; exact ha) _ w rfl

theorem removeFold_late (g : Nat) (safe : Bool) : ∀ (ns : List Nat) (w : World), ns.Nodup →
    (∀ n ∈ ns, (w.node n).graph = some g) →
    (ns.foldl (fun w n => nodeUnlink (if safe then detachInputs w n else w) g n) w).late = w.late
  | [], _, _, _ => rfl
  | n :: ns, w, hn, h => by
    rw [List.nodup_cons] at hn
    simp only [List.foldl_cons]
    have hpre : (if safe then detachInputs w n else w).late = w.late ∧
        ∀ m, ((if safe then detachInputs w n else w).node m).graph = (w.node m).graph := by
      split
      · exact ⟨detachInputs_late w n, fun m => detachInputs_graph w n m⟩
      · exact ⟨rfl, fun _ => rfl⟩
    have hg := (hpre.2 n).trans (h n List.mem_cons_self)
    rw [removeFold_late g safe ns _ hn.2, nodeUnlink_late _ _ _ hg, hpre.1]
    intro m hm
    have hne : m ≠ n := fun e => hn.1 (e ▸ hm)
    rw [nodeUnlink_node _ _ _ hg, if_neg hne, hpre.2]
    exact h m (List.mem_cons_of_mem _ hm)

theorem graphRemove_late (w : World) (g : Nat) (ns : List Nat) (safe : Bool) :
    (graphRemove w g ns safe).1.late = w.late := by
  apply guardOp_late; intro hb
  apply removeFold_late g safe _ w (nodup_dedup ns)
  intro n hn
  rw [mem_dedup] at hn
  simp only [List.any_eq_false] at hb
  have := hb n hn
  simp at this
  exact this.1

theorem sortApply_late (w : World) (hw : WF w) (orders : List (Nat × List Nat)) : (sortApply w orders).late = w.late := by
  unfold sortApply
  refine (foldl_inv (fun a => a.late = w.late ∧ WF a) _ (fun a p ha => ?_) orders w ⟨rfl, hw⟩).1
  split
  · rename_i hc
    simp at hc
    exact ⟨(extendMut_late p.1 p.2 a ha.2 hc.2).trans ha.1, extendMut_WF _ _ _ ha.2⟩
  · exact ha


theorem valNamable_congr {w w' : World} (u : Nat) (h1 : (w'.val u).name = (w.val u).name)
    (h2 : (w'.val u).const = (w.val u).const) (h3 : w'.locked = w.locked) : valNamable w' u = valNamable w u := by
  simp [valNamable, constLocked, h1, h2, h3]

theorem Frame.valNamable {bv bn bg} {w w' : World} (hf : Frame bv bn bg w w') (u : Nat)
    (h1 : ∀ x, (bv x).name = x.name := by intro; rfl) (h2 : ∀ x, (bv x).const = x.const := by intro; rfl) :
    valNamable w' u = Kernel.valNamable w u :=
  valNamable_congr u (Frame.keep _ h1 (hf.val u)) (Frame.keep _ h2 (hf.val u)) hf.locked

theorem attachOutput_frame (w : World) (n v u : Nat) (hne : u ≠ v) : (attachOutput w n v).val u = w.val u := by
  unfold attachOutput; simp only []; split <;> simp [hne]

theorem attachOutput_node (w : World) (n v m : Nat) :
    ((attachOutput w n v).node m).inputs = (w.node m).inputs ∧ ((attachOutput w n v).node m).graph = (w.node m).graph :=
  ⟨(congrArg NodeS.inputs ((attachOutput_outputFrame w n v).node m) :),
   (congrArg NodeS.graph ((attachOutput_outputFrame w n v).node m) :)⟩

theorem attachOutput_namable (w : World) (n v u : Nat) : valNamable (attachOutput w n v) u = valNamable w u :=
  (attachOutput_outputFrame w n v).valNamable u

theorem attachFold_late (n : Nat) : ∀ (os : List Nat) (w : World), os.Nodup →
    (∀ v ∈ os, (w.val v).producer = none ∧ (w.val v).isIn = false ∧ (w.val v).isInit = false) →
    (os.foldl (fun w v => attachOutput w n v) w).late = w.late
  | [], _, _, _ => rfl
  | v :: os, w, hn, h => by
    rw [List.nodup_cons] at hn
    simp only [List.foldl_cons]
    rw [attachFold_late n os _ hn.2, attachOutput_late _ _ _ (h v List.mem_cons_self)]
    intro u hu
    have hne : u ≠ v := fun e => hn.1 (e ▸ hu)
    rw [attachOutput_frame _ _ _ _ hne]
    exact h u (List.mem_cons_of_mem _ hu)

theorem addOutput_node (w : World) (n m : Nat) :
    ((addOutput w n).node m).inputs = (w.node m).inputs ∧ ((addOutput w n).node m).graph = (w.node m).graph := by
  unfold addOutput; exact attachOutput_node _ _ _ _

theorem setInput_outputs (w : World) (n i : Nat) (nv : Option Nat) (m : Nat) :
    ((setInput w n i nv).node m).outputs = (w.node m).outputs :=
  (congrArg NodeS.outputs ((setInput_inputFrame w n i nv).node m) :)

theorem setInput_namable (w : World) (n i : Nat) (nv : Option Nat) (u : Nat) :
    valNamable (setInput w n i nv) u = valNamable w u :=
  (setInput_inputFrame w n i nv).valNamable u

/-- every output of node `n` can take a generated name -/
def OutsNamable (n : Nat) (a : World) : Prop := ∀ o ∈ (a.node n).outputs, valNamable a o = true

theorem attachOutput_outs (w : World) (n v : Nat) (o : Nat) (ho : o ∈ ((attachOutput w n v).node n).outputs) :
    o ∈ (w.node n).outputs ∨ o = v := by
  unfold attachOutput at ho; simp only [] at ho
  split at ho
  · simp at ho; exact ho
  · exact Or.inl ho

theorem attachOutput_outsNamable (w : World) (n v : Nat) (h : OutsNamable n w) (hv : valNamable w v = true) :
    OutsNamable n (attachOutput w n v) := by
  intro o ho
  rw [attachOutput_namable]
  rcases attachOutput_outs w n v o ho with h1 | h1
  · exact h o h1
  · subst h1; exact hv

theorem allocVal_namable (w : World) (u : Nat) (hu : u < w.vals.length) :
    valNamable (allocVal w {}).1 u = valNamable w u := by
  have hne : u ≠ w.vals.length := by omega
  apply valNamable_congr <;> simp [allocVal, hne] <;> rfl

theorem addOutput_outsNamable (w : World) (n : Nat) (h : OutsNamable n w)
    (hb : ∀ o ∈ (w.node n).outputs, o < w.vals.length) :
    OutsNamable n (addOutput w n) ∧ (∀ o ∈ ((addOutput w n).node n).outputs, o < (addOutput w n).vals.length) := by
  unfold addOutput
  have hfresh : valNamable (allocVal w {}).1 w.vals.length = true := by
    simp [valNamable, constLocked, allocVal]
  have hlen : (attachOutput (allocVal w {}).1 n w.vals.length).vals.length = w.vals.length + 1 := by
    unfold attachOutput; simp only []; split <;> simp [allocVal]
  constructor
  · apply attachOutput_outsNamable _ _ _ _ hfresh
    intro o ho
    have ho' : o ∈ (w.node n).outputs := ho
    rw [allocVal_namable w o (hb o ho')]; exact h o ho'
  · intro o ho
    rw [hlen]
    rcases attachOutput_outs _ n _ o ho with h1 | h1
    · have : o ∈ (w.node n).outputs := h1
      have := hb o this; omega
    · omega

/-- the tail of `newNodeMut`: registering the uses keeps what the output phase established -/
theorem newNode_tail (w wb : World) (n : Nat) (inputs : List (Option Nat))
    (hlate : wb.late = w.late) (hlen : (wb.node n).inputs.length = inputs.length) (hgraph : (wb.node n).graph = none) :
    ((enumFrom 0 inputs).foldl (fun a p => setInput a n p.1 p.2) wb).late = w.late ∧
    (((enumFrom 0 inputs).foldl (fun a p => setInput a n p.1 p.2) wb).node n).graph = none ∧
    (OutsNamable n wb → OutsNamable n ((enumFrom 0 inputs).foldl (fun a p => setInput a n p.1 p.2) wb)) := by
  refine ⟨?_, ?_, ?_⟩
  · rw [setInputFold_late (β := Nat × Option Nat) (fun _ => n) Prod.fst Prod.snd _ wb (fun p hp => by
      have := enumFrom_mem inputs 0 p.1 p.2 hp; rw [hlen]; omega), hlate]
  · exact foldl_inv (fun a : World => (a.node n).graph = none) _ (fun a b ha => by rw [setInput_graph]; exact ha) _ wb hgraph
  · intro hnam
    exact foldl_inv (OutsNamable n) _ (fun a b ha => by
      intro o ho; rw [setInput_outputs] at ho; rw [setInput_namable]; exact ha o ho) _ wb hnam

theorem attachFold_namable (n : Nat) (w : World) (l : List Nat) (a : World)
    (ha : ∀ v, valNamable a v = valNamable w v) (hq : OutsNamable n a) (hl : ∀ v ∈ l, valNamable w v = true) :
    OutsNamable n (l.foldl (fun w v => attachOutput w n v) a) :=
  (ListFacts.foldl_inv_mem (fun x : World => (∀ v, valNamable x v = valNamable w v) ∧ OutsNamable n x) _
    (fun x hx v hv => ⟨fun u => by rw [attachOutput_namable]; exact hx.1 u,
      attachOutput_outsNamable x n v hx.2 (by rw [hx.1]; exact hl v hv)⟩) ⟨ha, hq⟩).2

/-- what the mutation phase of `Node(…)` hands to `graph.append`: no failed check, the new node in no graph, and its
    outputs nameable when the given ones were -/
theorem newNodeMut_facts (w : World) (opType : String) (name : Option String) (inputs : List (Option Nat))
    (numOutputs : Option Int) (outputs : Option (List Nat)) (hb : newNodeBad w numOutputs outputs = false) :
    (newNodeMut w opType name inputs numOutputs outputs).late = w.late ∧
    ((newNodeMut w opType name inputs numOutputs outputs).node w.nodes.length).graph = none ∧
    ((∀ os, outputs = some os → ∀ o ∈ os, valNamable w o = true) →
      OutsNamable w.nodes.length (newNodeMut w opType name inputs numOutputs outputs)) := by
  have hfresh := w.node_fresh w.nodes.length (Nat.le_refl _)
  have hwa_nam : ∀ v, valNamable (w.setNode w.nodes.length
      { inputs := List.replicate inputs.length none, name := name, opType := opType }) v = valNamable w v :=
    fun v => valNamable_congr v rfl rfl rfl
  have hempty : OutsNamable w.nodes.length (w.setNode w.nodes.length
      { inputs := List.replicate inputs.length none, name := name, opType := opType }) := by
    intro o ho; simp at ho
  cases outputs with
  | some os =>
    have hv : outputsValid w os = true := by
      cases numOutputs <;> simp [newNodeBad] at hb <;> simp [hb]
    simp only [outputsValid, Bool.and_eq_true, List.all_eq_true, decide_eq_true_eq] at hv
    unfold newNodeMut
    simp only []
    have ht := newNode_tail w (os.foldl (fun a v => attachOutput a w.nodes.length v) (w.setNode w.nodes.length
        { inputs := List.replicate inputs.length none, name := name, opType := opType })) w.nodes.length inputs
      (by rw [attachFold_late _ os _ hv.2 (fun v hv' => by simpa using hv.1 v hv')]; rfl)
      (foldl_inv (fun a : World => (a.node w.nodes.length).inputs.length = inputs.length) _
        (fun a b ha => by rw [(attachOutput_node a _ b _).1]; exact ha) os _ (by simp))
      (foldl_inv (fun a : World => (a.node w.nodes.length).graph = none) _
        (fun a b ha => by rw [(attachOutput_node a _ b _).2]; exact ha) os _ (by simp))
    exact ⟨ht.1, ht.2.1, fun hnm => ht.2.2 (attachFold_namable _ w os _ hwa_nam hempty (hnm os rfl))⟩
  | none =>
    unfold newNodeMut
    simp only []
    have ht := newNode_tail w (iter (fun a => addOutput a w.nodes.length) ((numOutputs.getD 1).toNat) (w.setNode w.nodes.length
        { inputs := List.replicate inputs.length none, name := name, opType := opType })) w.nodes.length inputs
      (by rw [iter_addOutput_late]; rfl)
      (iter_inv (fun a : World => (a.node w.nodes.length).inputs.length = inputs.length) _
        (fun a ha => by rw [(addOutput_node a _ _).1]; exact ha) _ _ (by simp))
      (iter_inv (fun a : World => (a.node w.nodes.length).graph = none) _
        (fun a ha => by rw [(addOutput_node a _ _).2]; exact ha) _ _ (by simp))
    refine ⟨ht.1, ht.2.1, fun _ => ht.2.2 ?_⟩
    exact (iter_inv (fun a : World => OutsNamable w.nodes.length a ∧ ∀ o ∈ (a.node w.nodes.length).outputs, o < a.vals.length) _
      (fun a ha => addOutput_outsNamable a _ ha.1 ha.2) _ _ ⟨hempty, by intro o ho; simp at ho⟩).1

theorem newNode_late (w : World) (hw : WF w) (opType : String) (name : Option String) (inputs : List (Option Nat))
    (numOutputs : Option Int) (outputs : Option (List Nat)) (graph : Option Nat) :
    (newNode w opType name inputs numOutputs outputs graph).1.late = w.late := by
  apply guardOp_late
  intro hb
  simp only [Bool.or_eq_false_iff] at hb
  obtain ⟨h1, h2, h3⟩ := newNodeMut_facts w opType name inputs numOutputs outputs hb.1
  cases graph with
  | none => exact h1
  | some g =>
    simp only []
    have hnm : ∀ os, outputs = some os → ∀ o ∈ os, valNamable w o = true := by
      intro os hos o ho
      have := hb.2
      simp [hos] at this
      exact this o ho
    have hwf := newNodeMut_WF w opType name inputs numOutputs outputs hw
    have hacc : nodeAcceptable (newNodeMut w opType name inputs numOutputs outputs) g w.nodes.length = true := by
      simp only [nodeAcceptable, nodeAddable, h2, Bool.and_eq_true, List.all_eq_true]
      exact ⟨by simp, h3 hnm⟩
    rw [(link_facts _ hwf g _ _ hacc).1, h1]


theorem Grow.nameStep {g : Nat} {w a : World} (h : Grow g w a) : NameStep w a :=
  ⟨h.outs, h.ngraph, h.locked, h.named⟩

theorem Grow.initOK {g : Nat} {w a : World} (h : Grow g w a) (key : String) (v : Nat)
    (hn : (w.val v).name = some key) (hc : initOK w g key v = true) : initOK a g key v = true := by
  rw [initOK_iff] at hc
  obtain ⟨h1, _, h3, h4, _⟩ := hc
  exact initOK_of_named _ _ _ _ h1 (h.name v key hn h1) (by rw [h.prod]; exact h3) (h.owner v h4)

theorem initPut_grow (w : World) (g : Nat) (key : String) (v : Nat) (hkey : (w.val v).name = some key) :
    Grow g w (initPut w g key v) := by
  have hf := initPut_initFrame w g key v
  by_cases hok : initOK w g key v = true
  · apply grow_of_vals g w _ hf.node (fun u => (congrArg ValueS.producer (hf.val u) :)) (fun u => hf.constLocked u)
    · intro u h; rw [initPut_val _ _ _ _ hok]; split
      · simp
      · split
        · exact clearedInit_owner h
        · exact h
    · intro u s h _; rw [initPut_val _ _ _ _ hok]; split
      · subst_vars; rw [hkey] at h; simpa using h
      · split
        · simpa using h
        · exact h
    · intro u h; rw [initPut_val _ _ _ _ hok]; split
      · simp
      · split
        · simpa using h
        · exact h
  · simp only [initPut, hok]; exact ⟨fun _ => rfl, fun _ => rfl, fun _ => rfl, fun _ => rfl, fun _ h => h, fun _ _ h _ => h, fun _ h => h⟩

theorem registerValue_grow (w : World) (g v : Nat) : Grow g w (registerValue w g v) := by
  have hs := registerValue_nameStep w g v
  have hf := registerValue_namingFrame w g v
  refine ⟨hs.outs, hs.graph, fun u => (congrArg ValueS.producer (hf.val u) :), hs.locked, fun u h => ?_,
    fun u s h _ => ?_, hs.named⟩
  · rw [(congrArg ValueS.graph (hf.val u) :)]; exact h
  · rw [registerValue_name w g v u (by rw [h]; exact Option.some_ne_none s)]; exact h

theorem dictSet_mem_sub (d : List (String × Nat)) (k : String) (v : Nat) (p : String × Nat)
    (hp : p ∈ dictSet d k v) : p ∈ d ∨ p = (k, v) := by
  cases p with
  | mk k' u => exact ((mem_dictSet ..).1 hp).elim (fun h => Or.inr (by rw [h.1, h.2])) (fun h => Or.inl h.2)

theorem initDict_mem (w : World) (vs : List Nat) (p : String × Nat) (hp : p ∈ initDict w vs) :
    p.1 = (w.val p.2).name.getD "" := by
  unfold initDict at hp
  exact foldl_inv (fun d : List (String × Nat) => ∀ q ∈ d, q.1 = (w.val q.2).name.getD "") _
    (fun d v hd q hq => (dictSet_mem_sub _ _ _ _ hq).elim (hd q) (fun h => by subst h; rfl)) vs [] (by simp) p hp

theorem initFold_grow (g : Nat) (w : World) : ∀ (d : List (String × Nat)) (a : World), Grow g w a →
    (∀ p ∈ d, initOK w g p.1 p.2 = true ∧ (w.val p.2).name = some p.1) →
    (d.foldl (fun a p => initPut a g p.1 p.2) a).late = a.late ∧ Grow g w (d.foldl (fun a p => initPut a g p.1 p.2) a)
  | d, a, hg, h => ListFacts.foldl_inv_mem (fun x : World => x.late = a.late ∧ Grow g w x) _ (fun x hx p hp => by
    obtain ⟨hok, hnm⟩ := h p hp
    have hkey : p.1 ≠ "" := ((initOK_iff w g p.1 p.2).1 hok).1
    exact ⟨(initPut_late _ _ _ _ (hx.2.initOK p.1 p.2 hnm hok)).trans hx.1,
      hx.2.trans (initPut_grow x g p.1 p.2 (hx.2.name p.2 p.1 hnm hkey))⟩) ⟨rfl, hg⟩

theorem newGraph_late (w : World) (hw : WF w) (inputs outputs nodes inits : List Nat) :
    (newGraph w inputs outputs nodes inits).1.late = w.late := by
  unfold newGraph
  simp only []
  apply guardOp_late
  intro hb
  simp only [Bool.or_eq_false_iff, Bool.not_eq_false', List.all_eq_true] at hb
  obtain ⟨⟨⟨⟨hin, hout⟩, hinit⟩, hnodes⟩, hnam⟩ := hb
  -- the fresh graph record
  have hfresh := w.gr_fresh w.graphs.length (Nat.le_refl _)
  have hw0 : WF (w.setGr w.graphs.length {}) := allocGraph_WF w hw
  have hg0 : Grow w.graphs.length w (w.setGr w.graphs.length {}) :=
    grow_of_vals _ _ _ (fun _ => rfl) (fun _ => rfl) (fun _ => rfl) (fun _ h => h) (fun _ _ h _ => h) (fun _ h => h)
  obtain ⟨l1, g1⟩ := ioInsertMany_grow w.graphs.length .inp w inputs 0 _ hg0 hin
  obtain ⟨l2, g2⟩ := ioInsertMany_grow w.graphs.length .out w outputs 0 _ g1 hout
  have w2 := ioInsertMany_WF _ w.graphs.length .out 0 outputs (ioInsertMany_WF _ w.graphs.length .inp 0 inputs hw0)
  have hd : ∀ p ∈ initDict w inits, initOK w w.graphs.length p.1 p.2 = true ∧ (w.val p.2).name = some p.1 := by
    intro p hp
    have hok := hinit p hp
    refine ⟨hok, ?_⟩
    have hk := initDict_mem w inits p hp
    have hne : p.1 ≠ "" := ((initOK_iff w _ p.1 p.2).1 hok).1
    cases hn : (w.val p.2).name with
    | none => rw [hn] at hk; exact absurd hk hne
    | some s => rw [hn] at hk; simp at hk; rw [hk]
  obtain ⟨l3, g3⟩ := initFold_grow w.graphs.length w (initDict w inits) _ g2 hd
  have w3 := foldl_inv WF _ (fun a p ha => initPut_WF a w.graphs.length p.1 p.2 ha) (initDict w inits) _ w2
  have s3 : NameStep w _ := g3.nameStep
  obtain ⟨l4, s4, w4⟩ := registerOutputs_facts w.graphs.length inputs _ w3
    (fun o ho => s3.namable o (hnam o ho))
  have s34 := s3.trans s4
  have hreg : ∀ a : World, (initDict w inits).foldl (fun a p => registerValue a w.graphs.length p.2) a =
      ((initDict w inits).map (·.2)).foldl (fun a o => registerValue a w.graphs.length o) a := by
    intro a; rw [List.foldl_map]
  obtain ⟨l5, s5, w5⟩ := registerOutputs_facts w.graphs.length ((initDict w inits).map (·.2)) _ w4
    (fun o ho => by
      obtain ⟨p, hp, rfl⟩ := List.mem_map.1 ho
      have hnm := (hd p hp).2
      have : (w.val p.2).name ≠ none := by rw [hnm]; simp
      have := s34.named p.2 this
      simp [valNamable, this])
  have s345 := s34.trans s5
  rw [hreg]
  rw [extendMut_late _ nodes _ w5 (fun n hn => s345.acceptable _ n (hnodes n hn)), l5, l4, l3, l2, l1]
  rfl


theorem withAttrs_late (r : World × Outcome) (n : Nat) (as : List (String × List Nat)) :
    (withAttrs r n as).1.late = r.1.late := by
  unfold withAttrs; split <;> rfl

theorem setNodeName_late (w : World) (n : Nat) (s : Option String) : (setNodeName w n s).1.late = w.late := by
  apply guardOp_late; intro _; simp only []; split <;> rfl

theorem graphSort_late (w : World) (hw : WF w) (g : Nat) : (graphSort w g).1.late = w.late := by
  unfold graphSort; split
  · rfl
  · exact guardOp_late _ _ _ _ (fun _ => sortApply_late _ hw _)

theorem step_late (w : World) (hw : WF w) (op : Op) : (step w op).1.late = w.late := by
  cases op <;> simp only [step]
  case newValue name => exact guardOp_late _ _ _ _ (fun _ => rfl)
  case setConst v lk => exact guardOp_late _ _ _ _ (fun _ => rfl)
  case newNode opType name inputs numOutputs outputs graph => exact newNode_late _ hw _ _ _ _ _ _
  case newGraph inputs outputs nodes inits => exact newGraph_late _ hw _ _ _ _
  case replaceInput n idx v => exact replaceInput_late _ _ _ _
  case resizeInputs n k => exact resizeInputs_late _ _ _
  case resizeOutputs n k => exact resizeOutputs_late _ _ _
  case rauw v r rgo => exact rauw_late _ hw _ _ _
  case io g k m => exact ioMut_late _ _ _ _
  case init g m => exact initMut_late _ hw _ _
  case setName v s => exact setName_late _ hw _ _
  case append g n => exact graphAppend_late _ hw _ _
  case extend g ns => exact graphExtend_late _ hw _ _
  case insertAfter g a ns => exact graphInsertAfter_late _ hw _ _ _
  case insertBefore g a ns => exact graphInsertBefore_late _ hw _ _ _
  case remove g ns safe => exact graphRemove_late _ _ _ _
  case sortOk orders => exact guardOp_late _ _ _ _ (fun _ => sortApply_late _ hw _)
  case sortCycle => rfl
  case attrEdit => exact guardOp_late _ _ _ _ (fun _ => rfl)
  case newNodeAttrs opType name inputs numOutputs outputs graph attrs =>
    rw [withAttrs_late]; exact newNode_late _ hw _ _ _ _ _ _
  case sort g => exact graphSort_late _ hw _
  case setNodeName n s => exact setNodeName_late _ _ _
  case setOpType n s => exact guardOp_late _ _ _ _ (fun _ => rfl)
  case clearConst v => exact guardOp_late _ _ _ _ (fun _ => rfl)
  case attrSet n key gs => exact guardOp_late _ _ _ _ (fun _ => rfl)
  case attrDel n key strict => exact guardOp_late _ _ _ _ (fun _ => rfl)
  case attrClear n => exact guardOp_late _ _ _ _ (fun _ => rfl)

/-- what a public call returns on `w`: the validation refused it and the world is `w` itself, or `guardOp` ran around a
    mutation phase - for `Node(…, attributes=…)` followed by the attribute dict of the new node -/
inductive Guarded (w : World) : World × Outcome → Prop where
  | rejected (k : String) : Guarded w (w, .raised k)
  | guard (bad : Bool) (kind : String) (w' : World) : Guarded w (guardOp bad kind w w')
  | attrs {r : World × Outcome} (n : Nat) (as : List (String × List Nat)) : Guarded w r → Guarded w (withAttrs r n as)

theorem Guarded.atomic {w : World} {r : World × Outcome} (h : Guarded w r) :
    r.1.late = w.late → ∀ {k}, r.2 = .raised k → r.1 = w := by
  induction h with
  | rejected k => intros; rfl
  | guard bad kind w' => intro hl k hr; exact guardOp_atomic_of_late bad kind w w' k hl hr
  | @attrs r n as _ ih =>
    intro hl k hr
    rw [withAttrs_late] at hl
    cases hg : r.2 with
    | ok => simp [withAttrs, hg] at hr
    | raised k' =>
      have e : withAttrs r n as = r := by simp [withAttrs, hg]
      rw [e]; exact ih hl hg

theorem ioMut_guarded (w : World) (g : Nat) (kd : IOKind) (m : IOMut) : Guarded w (ioMut w g kd m) := by
  cases m <;> simp only [ioMut]
  case setSlice => split; exact .rejected _; exact .guard ..
  case delSlice => split; exact .rejected _; exact .guard ..
  case iadd => exact .rejected _
  case imul => exact .rejected _
  all_goals exact .guard ..

theorem initMut_guarded (w : World) (g : Nat) (m : InitMut) : Guarded w (initMut w g m) := by
  cases m <;> exact .guard ..

theorem step_guarded (w : World) (op : Op) : Guarded w (step w op) := by
  cases op <;> simp only [step]
  case io => exact ioMut_guarded ..
  case init => exact initMut_guarded ..
  case newNodeAttrs => exact .attrs _ _ (.guard ..)
  case sort => unfold graphSort; split; exact .rejected _; exact .guard ..
  all_goals exact .guard ..

/-! ### `convenience.replace_all_uses_with` with the exact up-front check (fix D82) -/

theorem rauwSeq_late (rgo : Bool) : ∀ (ps : List (Nat × Nat)) (w : World), WF w → (rauwSeq w rgo ps).1.late = w.late
  | [], _, _ => rfl
  | (v, r) :: rest, w, hw => by
    unfold rauwSeq andThen
    split
    · rw [rauwSeq_late rgo rest _ (rauw_WF w v r rgo hw)]; exact rauw_late w hw v r rgo
    · exact rauw_late w hw v r rgo

theorem rauwManyExact_guarded (w : World) (vs rs : List Nat) (rgo : Bool) : Guarded w (rauwManyExact w vs rs rgo) := by
  unfold rauwManyExact; split; exact .rejected _; exact .guard ..

/-- with the exact check in front the multi-pair call is all or nothing -/
theorem rauwManyExact_atomic (w : World) (hw : WF w) (vs rs : List Nat) (rgo : Bool) (k : String)
    (h : (rauwManyExact w vs rs rgo).2 = .raised k) : (rauwManyExact w vs rs rgo).1 = w := by
  refine (rauwManyExact_guarded w vs rs rgo).atomic ?_ h
  unfold rauwManyExact; split
  · rfl
  · exact guardOp_late _ _ _ _ (fun _ => rauwSeq_late rgo _ w hw)


theorem dedupPairs_nodup : ∀ (l acc r : List (Nat × String)), dedupPairs acc l = some r →
    (acc.map Prod.fst).Nodup → (r.map Prod.fst).Nodup
  | [], acc, r, h, hn => by simp [dedupPairs] at h; subst h; exact hn
  | (v, n) :: rest, acc, r, h, hn => by
    unfold dedupPairs at h
    split at h
    · split at h
      · exact dedupPairs_nodup rest acc r h hn
      · simp at h
    · rename_i hnone
      apply dedupPairs_nodup rest _ r h
      simp only [List.map_append, List.map_cons, List.map_nil]
      rw [List.nodup_append]
      refine ⟨hn, by simp, ?_⟩
      intro a ha b hb
      simp at hb; subst hb
      intro e; subst e
      obtain ⟨p, hp, hpe⟩ := List.mem_map.1 ha
      have := List.find?_eq_none.1 hnone p hp
      simp at this; exact this hpe

/-- phase 1 of `rename_values`: the renamed initializers leave their mappings -/
theorem renameDel_facts : ∀ (l : List (Nat × String)) (a : World), (l.map Prod.fst).Nodup → WF a →
    (∀ p ∈ l, (a.val p.1).isInit = true) →
    (l.foldl renameDelStep a).late = a.late ∧
    WF (l.foldl renameDelStep a) ∧
    (∀ u, ((l.foldl renameDelStep a).val u) = if u ∈ l.map Prod.fst then clearedInit (a.val u) else a.val u)
  | [], a, _, ha, _ => ⟨rfl, ha, fun u => by simp⟩
  | p :: l, a, hn, ha, hi => by
    simp only [List.map_cons, List.nodup_cons] at hn
    have hip := hi p List.mem_cons_self
    obtain ⟨g, key, hg, hm⟩ := ha.own.init_flag p.1 hip
    have hname := (ha.key.name g key p.1 hm).1
    have hlook := lookupInit_of_mem _ _ _ (ha.key.keys g) hm
    simp only [List.foldl_cons, renameDelStep, hg, hname]
    have hval : ∀ u, (initDel a g key).val u = if u = p.1 then clearedInit (a.val p.1) else a.val u :=
      fun u => initDel_val a g key p.1 hlook u
    obtain ⟨h1, h2, h3⟩ := renameDel_facts l (initDel a g key) hn.2 (initDel_WF _ _ _ ha) (by
      intro q hq
      have hne : q.1 ≠ p.1 := fun e => hn.1 (List.mem_map.2 ⟨q, hq, e⟩)
      rw [hval, if_neg hne]; exact hi q (List.mem_cons_of_mem _ hq))
    refine ⟨h1.trans (initDel_late _ _ _ (by simp [hlook])), h2, ?_⟩
    intro u
    rw [h3 u, hval]
    by_cases hu : u = p.1
    · subst hu; simp [hn.1]
    · have : (u ∈ List.map Prod.fst (p :: l)) ↔ (u ∈ List.map Prod.fst l) := by
        simp only [List.map_cons, List.mem_cons, hu, false_or]
      simp only [hu, if_false, this]

theorem clearedInit_facts (x : ValueS) :
    (clearedInit x).isInit = false ∧ (clearedInit x).name = x.name ∧ (clearedInit x).producer = x.producer ∧
    (clearedInit x).const = x.const ∧ ((clearedInit x).graph = x.graph ∨ (clearedInit x).graph = none) := by
  refine ⟨rfl, rfl, rfl, rfl, ?_⟩
  rw [clearedInit_graph]; split
  · exact Or.inl rfl
  · exact Or.inr rfl

/-- phase 2: plain renames of values none of which is an initializer any more -/
theorem renameSet_facts : ∀ (l : List (Nat × String)) (a : World), (l.map Prod.fst).Nodup → WF a →
    (∀ p ∈ l, (a.val p.1).isInit = false) →
    (l.foldl (fun w p => setNameIfPlain w p.1 (some p.2)) a).late = a.late ∧
    WF (l.foldl (fun w p => setNameIfPlain w p.1 (some p.2)) a) ∧
    (∀ u, ((l.foldl (fun w p => setNameIfPlain w p.1 (some p.2)) a).val u) =
      match l.find? (fun p => p.1 = u) with
      | some p => { a.val u with name := some p.2 }
      | none => a.val u) ∧
    (∀ g, (l.foldl (fun w p => setNameIfPlain w p.1 (some p.2)) a).gr g = a.gr g) ∧
    (l.foldl (fun w p => setNameIfPlain w p.1 (some p.2)) a).locked = a.locked
  | [], a, _, ha, _ => ⟨rfl, ha, fun u => by simp, fun _ => rfl, rfl⟩
  | p :: l, a, hn, ha, hi => by
    simp only [List.map_cons, List.nodup_cons] at hn
    have hip := hi p List.mem_cons_self
    have hstep : setNameIfPlain a p.1 (some p.2) =
        if (a.val p.1).name = some p.2 then a else setNamePlain a p.1 (some p.2) := by simp [setNameIfPlain, hip]
    have hstep_val : ∀ u, (setNameIfPlain a p.1 (some p.2)).val u =
        if u = p.1 then { a.val p.1 with name := some p.2 } else a.val u := by
      intro u
      rw [hstep]; split
      · rename_i he; split
        · subst_vars; rw [← he]
        · rfl
      · exact setNamePlain_val _ _ _ _
    have hstep_late : (setNameIfPlain a p.1 (some p.2)).late = a.late := by rw [hstep]; split <;> simp
    have hstep_gr : ∀ g, (setNameIfPlain a p.1 (some p.2)).gr g = a.gr g := by
      intro g; rw [hstep]; split
      · rfl
      · exact setNamePlain_gr _ _ _ _
    have hstep_lk : (setNameIfPlain a p.1 (some p.2)).locked = a.locked := by
      rw [hstep]; split
      · rfl
      · exact setNamePlain_locked _ _ _
    obtain ⟨h1, h2, h3, h4, h5⟩ := renameSet_facts l (setNameIfPlain a p.1 (some p.2)) hn.2
      (setNameIfPlain_WF _ _ _ ha) (by
        intro q hq
        have hne : q.1 ≠ p.1 := fun e => hn.1 (List.mem_map.2 ⟨q, hq, e⟩)
        rw [hstep_val, if_neg hne]; exact hi q (List.mem_cons_of_mem _ hq))
    simp only [List.foldl_cons]
    refine ⟨h1.trans hstep_late, h2, ?_, fun g => (h4 g).trans (hstep_gr g), h5.trans hstep_lk⟩
    intro u
    rw [h3 u, List.find?_cons]
    by_cases hu : p.1 = u
    · subst hu
      have : l.find? (fun q => q.1 = p.1) = none := by
        rw [List.find?_eq_none]; intro q hq; simp
        exact fun e => hn.1 (List.mem_map.2 ⟨q, hq, e⟩)
      simp [this, hstep_val]
    · have hu' : ¬ u = p.1 := fun e => hu e.symm
      simp [hu, hstep_val, hu']


/-- phase 3: the renamed initializers go back under their new names -/
theorem renamePut_late (gOf : Nat → Option Nat) : ∀ (l : List (Nat × String)) (a : World),
    (l.map Prod.fst).Nodup → WF a →
    (∀ p ∈ l, (a.val p.1).isInit = false ∧ (a.val p.1).name = some p.2 ∧ p.2 ≠ "" ∧
      (a.val p.1).producer = none ∧ ∃ g, gOf p.1 = some g ∧ ((a.val p.1).graph = none ∨ (a.val p.1).graph = some g)) →
    (l.foldl (renamePutStep gOf) a).late = a.late
  | [], _, _, _, _ => rfl
  | p :: l, a, hn, ha, h => by
    simp only [List.map_cons, List.nodup_cons] at hn
    obtain ⟨hi, hname, hne, hprod, g, hg, hgr⟩ := h p List.mem_cons_self
    have hok := initOK_of_named a g p.2 p.1 hne hname hprod hgr
    simp only [List.foldl_cons, renamePutStep, hg]
    rw [renamePut_late gOf l _ hn.2 (initPut_WF _ _ _ _ ha), initPut_late _ _ _ _ hok]
    intro q hq
    have hqne : q.1 ≠ p.1 := fun e => hn.1 (List.mem_map.2 ⟨q, hq, e⟩)
    have hqi := (h q (List.mem_cons_of_mem _ hq)).1
    have hsame : (initPut a g p.2 p.1).val q.1 = a.val q.1 := by
      rw [initPut_val _ _ _ _ hok, if_neg hqne]
      split
      · rename_i hl
        have hm := lookupInit_some _ _ _ hl
        have := (ha.own.init_mem g p.2 q.1 hm).1
        rw [hqi] at this; cases this
      · rfl
    rw [hsame]
    exact h q (List.mem_cons_of_mem _ hq)


theorem renameValues_late (w : World) (hw : WF w) (vs : List Nat) (names : List String) :
    (renameValues w vs names).1.late = w.late := by
  unfold renameValues
  split
  · rfl
  · split
    · rfl
    · rename_i pairs hp
      simp only []
      apply guardOp_late
      intro hb
      simp only [Bool.or_eq_false_iff] at hb
      obtain ⟨hbad, _⟩ := hb
      have hnd : (pairs.map Prod.fst).Nodup := dedupPairs_nodup _ _ _ hp (by simp)
      have hsub : ((pairs.filter (fun p => (w.val p.1).isInit)).map Prod.fst).Sublist (pairs.map Prod.fst) :=
        List.Sublist.map _ List.filter_sublist
      have hndi := hnd.sublist hsub
      have hii : ∀ p ∈ pairs.filter (fun p => (w.val p.1).isInit), (w.val p.1).isInit = true :=
        fun p hp' => (List.mem_filter.1 hp').2
      obtain ⟨l1, w1, v1⟩ := renameDel_facts _ w hndi hw hii
      have hni : ∀ p ∈ pairs, (((pairs.filter (fun p => (w.val p.1).isInit)).foldl
          renameDelStep w).val p.1).isInit = false := by
        intro p hpp
        rw [v1 p.1]
        split
        · rfl
        · rename_i hnot
          cases hi : (w.val p.1).isInit with
          | false => rfl
          | true => exact absurd (List.mem_map.2 ⟨p, List.mem_filter.2 ⟨hpp, hi⟩, rfl⟩) hnot
      obtain ⟨l2, w2, v2, g2, k2⟩ := renameSet_facts pairs _ hnd w1 hni
      refine Eq.trans (renamePut_late (fun v => (w.val v).graph) _ _ hndi w2 ?_) (l2.trans l1)
      intro p hpi
      have hpp := (List.mem_filter.1 hpi).1
      have hinit := hii p hpi
      rw [v2 p.1, ListFacts.find?_of_nodup Prod.fst hnd hpp, v1 p.1,
        if_pos (List.mem_map.2 ⟨p, hpi, rfl⟩)]
      obtain ⟨g, key, hg, hm⟩ := hw.own.init_flag p.1 hinit
      have hb1 : p.2 ≠ "" := by
        unfold renameBad at hbad
        rw [List.any_eq_false] at hbad
        have := hbad p hpi
        intro he
        apply this
        simp [he]
      refine ⟨rfl, rfl, hb1, ?_, g, hg, ?_⟩
      · exact hw.root p.1 (Or.inr hinit)
      · exact clearedInit_owner (Or.inr hg)

theorem renameValues_guarded (w : World) (vs : List Nat) (names : List String) : Guarded w (renameValues w vs names) := by
  unfold renameValues
  split; exact .rejected _
  split; exact .rejected _
  exact .guard ..

end IrVerif.Kernel
