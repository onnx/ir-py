/-
Property theorems of the attribute layer `IrVerif.Model.ScopeAttr` (C03 / C17): node attributes of the main
graph, of subgraphs and of function bodies — scalar / list kinds, tensors, type protos (opaque payload tokens),
reference attributes, GRAPH / GRAPHS attributes (sub trees), doc strings, duplicate names.
The combinations with the core model and the decorations (`C03_roundtrip_attrs`, `C17_idempotent_attrs`) are at
the end of `Props/C03.lean` / `Props/C17.lean`.
-/
import IrVerif.Lemmas.ScopeAttr
namespace IrVerif.Scope

/-- **C03_attr_roundtrip**: IR -> proto -> IR on the node attributes.  Hypothesis `wfModelAB W` (decidable,
    evaluated by the driver on every generated model; a representation invariant of the real objects): every
    `Attributes` dict has distinct keys, function identifiers are distinct, a reference attribute has a
    non-empty `ref_attr_name` and a type that is an `AttributeType` member.  If serialization does not raise
    (it raises for an attribute of type UNDEFINED / SPARSE_* and for a value `None`), deserializing the proto
    succeeds and gives `canonModelA W`: the same attributes under the same names in the same order, same types,
    same payload tokens, same reference names, the same graphs at the same places — only a doc_string `""` is
    gone; that model serializes to the same proto; and when no doc_string is `""` (`normModelAB`, a Boolean the driver
    reports for every generated model) the reloaded tree IS `W`. -/
theorem C03_attr_roundtrip (W : ModelAS) (Q : ModelAP) (hw : wfModelAB W = true) (h : serModelA W = .ok Q) :
    deserModelA Q = .ok (canonModelA W) ∧ serModelA (canonModelA W) = .ok Q ∧
    (normModelAB W = true → deserModelA Q = .ok W) := by
  obtain ⟨h1, h2⟩ := rtModelA W Q hw h
  exact ⟨h1, h2, fun hn => by rw [h1, canonModelA_id W hn]⟩

/-- **C03_attr_subs**: the alignment with `NodeP.subs` / `NodeT.subs` is kept by serialization: for every node
    (anywhere in the tree) whose attribute dict satisfies the invariant, the graphs written are the serialized
    graphs of its GRAPH / GRAPHS attributes concatenated in dict order (`subsOfS` ↦ `subsOfP`), no attribute of
    the written list is shadowed (`survivors`), and reading the node back gives the graphs back in that order. -/
theorem C03_attr_subs (W : NodeAS) (Q : NodeAP) (hw : wfNodeAB W = true) (h : serNodeA W = .ok Q) :
    serGraphsA (subsOfS W.attrs) = .ok (subsOfP Q.attrs) ∧ survivors Q.attrs = Q.attrs ∧
    deserGraphsA (subsOfP Q.attrs) = .ok (subsOfS (canonNodeA W).attrs) := by
  obtain ⟨attrs⟩ := W
  simp only [serNodeA] at h
  split at h
  · simp at h
  · rename_i ps hp
    simp only [Except.ok.injEq] at h
    subst h
    have hw' := hw
    simp only [wfNodeAB, Bool.and_eq_true] at hw'
    obtain ⟨_, _, a3⟩ := rtAttrsA attrs ps hw'.2 hp
    have hk := (keysNodupB_iff _).mp hw'.1
    have hsurv : survivors ps = ps := by
      have hnd : ((ps.map fun a => (a.name, a)).map (·.1)).Nodup := by
        simp only [List.map_map, Function.comp_def]
        have : (ps.map fun a => a.name) = ps.map AttrP.name := rfl
        rw [this, a3]; exact hk
      simp only [survivors, kvDict_of_nodup _ hnd, List.map_map, Function.comp_def, List.map_id']
    refine ⟨serAttrsA_subs attrs ps hw'.2 hp, hsurv, ?_⟩
    have hser : serNodeA (.mk attrs) = .ok (.mk ps) := by simp only [serNodeA, hp]
    obtain ⟨r1, _⟩ := rtNodeA (.mk attrs) (.mk ps) hw hser
    have := deserNodeA_subs ps (canonAttrsA attrs) (by simpa only [canonNodeA] using r1)
    rw [hsurv] at this
    simpa only [NodeAP.attrs, canonNodeA, NodeAS.attrs] using this

/-- **C17_attr_subs**: the alignment on the way in, for EVERY `NodeProto` attribute list (duplicate names,
    reference attributes that carry graphs, stray payloads): when the node deserializes, the graphs held by its
    attributes, in dict order, are the deserialized graphs of the SURVIVING attributes (first position of a
    name, attribute of its last occurrence) that are not references, in order — a shadowed attribute and a
    reference attribute contribute no graph. -/
theorem C17_attr_subs (X : NodeAP) (W : NodeAS) (h : deserNodeA X = .ok W) :
    deserGraphsA (subsOfP (survivors X.attrs)) = .ok (subsOfS W.attrs) := by
  obtain ⟨as⟩ := X
  obtain ⟨bs⟩ := W
  exact deserNodeA_subs as bs h

/-- **C17_attr_wf**: what deserialization builds satisfies the representation invariant (the hypothesis of
    `C03_attr_roundtrip`), whatever the proto. -/
theorem C17_attr_wf (X : ModelAP) (W : ModelAS) (h : deserModelA X = .ok W) : wfModelAB W = true :=
  wfDeserModelA X W h

/-- **C17_attr_idempotent**: for EVERY attribute proto tree `X` (duplicate attribute names, duplicate function
    identifiers, reference attributes with a payload, any type number, undecodable leaves): if deserialization
    succeeds, serializing the result either raises — and then it is the TypeError "Unsupported attribute type" of
    `_fill_in_value_for_attribute` (`AErr.unsupported`: a surviving attribute of type UNDEFINED that is not a
    reference, `Attr(name, UNDEFINED, None)`; never a SPARSE_* or a missing value, see the `example`s) — or writes
    a proto `Q` that deserializes to the canonical form of the first result, which serializes to `Q` again: `Q` is
    a fix-point of deserialize-then-serialize. -/
theorem C17_attr_idempotent (X : ModelAP) (W : ModelAS) (hd : deserModelA X = .ok W) :
    serModelA W = .error .unsupported ∨
    ∃ Q, serModelA W = .ok Q ∧ deserModelA Q = .ok (canonModelA W) ∧ serModelA (canonModelA W) = .ok Q := by
  cases hs : serModelA W with
  | error e => exact .inl (by rw [unsupModelA X W e hd hs])
  | ok Q =>
    obtain ⟨h1, h2⟩ := rtModelA W Q (wfDeserModelA X W hd) hs
    exact .inr ⟨Q, rfl, h1, h2⟩

/-! ### non-vacuity -/

/-- a model with every kind of attribute (the hypotheses of `C03_attr_roundtrip` hold, serialization succeeds) -/
def exAttrW : ModelAS :=
  ⟨.mk [.mk [.leaf "axis" none 2 (some "08"), .graph "body" (some "d") (.mk [.mk [.ref "to" none "dtype" 2]]),
      .leaf "value" none 4 (some "t0"), .graphs "branches" none [.mk [], .mk [.mk [.leaf "tp" none 13 (some "tp0")]]]]],
   [(⟨"d", "f", ""⟩, [.mk [.ref "alpha" (some "doc") "alpha" 1]])]⟩

example : wfModelAB exAttrW = true ∧ normModelAB exAttrW = true ∧ (serModelA exAttrW).toBool = true := by decide

/-- a doc_string `""`: `wfModelAB` holds, `normModelAB` does not, the reloaded tree differs from the original -/
example : ∃ W : ModelAS, wfModelAB W = true ∧ normModelAB W = false ∧ canonModelA W ≠ W :=
  ⟨⟨.mk [.mk [.leaf "a" (some "") 2 (some "x")]], []⟩, by decide, by decide,
    by simp [canonModelA, canonGraphA, canonNodesA, canonNodeA, canonAttrsA, canonAttrA, optOut]⟩

/-- `wfModelAB` is needed: an empty `ref_attr_name` is written and read back as a plain attribute -/
example : ∃ (W : ModelAS) (Q : ModelAP) (D : ModelAS), wfModelAB W = false ∧ serModelA W = .ok Q ∧
    deserModelA Q = .ok D ∧ D ≠ canonModelA W :=
  ⟨⟨.mk [.mk [.ref "a" none "" 2]], []⟩, _, _, by decide, rfl, rfl,
    by simp [canonModelA, canonGraphA, canonNodesA, canonNodeA, canonAttrsA, canonAttrA]⟩

/-- `wfModelAB` is needed: two attributes under one name are written both, one is read back -/
example : ∃ (W : ModelAS) (Q : ModelAP) (D : ModelAS), wfModelAB W = false ∧ serModelA W = .ok Q ∧
    deserModelA Q = .ok D ∧ D ≠ canonModelA W :=
  ⟨⟨.mk [.mk [.leaf "a" none 2 (some "x"), .leaf "a" none 2 (some "y")]], []⟩, _, _, by decide, rfl, rfl,
    by simp [canonModelA, canonGraphA, canonNodesA, canonNodeA, canonAttrsA, canonAttrA]⟩

/-- a proto with duplicate names, a shadowed GRAPH attribute, a reference attribute of type GRAPH with a graph
    payload: deserialization succeeds, serialization succeeds (hypotheses of `C17_attr_idempotent`), and the
    proto written differs from the input -/
def exAttrX : ModelAP :=
  ⟨.mk [.mk [.mk "a" none none 5 "" true (.mk [.mk []]) [], .mk "b" none (some "r") 5 "" true (.mk [.mk []]) [],
      .mk "a" (some "") none 2 "07" true emptyGAP []]], []⟩

example : ∃ W Q, deserModelA exAttrX = .ok W ∧ serModelA W = .ok Q ∧ Q.graph ≠ exAttrX.graph :=
  ⟨_, _, rfl, rfl, by simp [exAttrX, emptyGAP]⟩

/-- the survivors of `exAttrX`'s node hold no graph: the shadowed GRAPH attribute and the reference do not count -/
example : subsOfP (survivors (exAttrX.graph.nodes.head!).attrs) = [] := by decide

/-- serialization after deserialization raises for a surviving UNDEFINED attribute ... -/
example : (match deserModelA ⟨.mk [.mk [.mk "a" none none 0 "" true emptyGAP []]], []⟩ with
    | .ok W => (match serModelA W with | .error .unsupported => true | _ => false) | .error _ => false) = true := by decide

/-- ... and not for a shadowed one -/
example : (match deserModelA ⟨.mk [.mk [.mk "a" none none 0 "" true emptyGAP [], .mk "a" none none 2 "1" true emptyGAP []]], []⟩ with
    | .ok W => (serModelA W).toBool | .error _ => false) = true := by decide

/-- deserialization raises: unknown type number (also on a reference), SPARSE_TENSOR, undecodable leaf; a
    shadowed attribute does not raise; a function that is shadowed in the functions dict does -/
example : (deserModelA ⟨.mk [.mk [.mk "a" none (some "r") 15 "" true emptyGAP []]], []⟩).toBool = false ∧
    (deserModelA ⟨.mk [.mk [.mk "a" none none 11 "" true emptyGAP []]], []⟩).toBool = false ∧
    (deserModelA ⟨.mk [.mk [.mk "a" none (some "r") 11 "" true emptyGAP []]], []⟩).toBool = true ∧
    (deserModelA ⟨.mk [.mk [.mk "a" none none 8 "ff" false emptyGAP []]], []⟩).toBool = false ∧
    (deserModelA ⟨.mk [.mk [.mk "a" none none 11 "" true emptyGAP [], .mk "a" none none 2 "1" true emptyGAP []]], []⟩).toBool = true ∧
    (deserModelA ⟨.mk [], [⟨⟨"", "f", ""⟩, [.mk [.mk "a" none none 11 "" true emptyGAP []]]⟩, ⟨⟨"", "f", ""⟩, []⟩]⟩).toBool = false := by
  decide

end IrVerif.Scope
