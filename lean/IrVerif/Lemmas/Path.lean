/-
C10, the string-level path algebra: `splitSep` / `comps`, containment, `normpath` of an absolute path (`normStack`).
`join`, `split`, `dirname` on the strings `realpath` builds are in `Lemmas/PathStr.lean`.
-/
import IrVerif.Model.Path
import IrVerif.Lemmas.ListFacts
namespace IrVerif.Path

theorem splitSep_ne_nil (s : Str) : splitSep s ≠ [] := by
  cases s with
  | nil => simp [splitSep]
  | cons c cs =>
    simp only [splitSep]
    split
    · simp
    · split <;> simp

/-- splitting distributes over a separator -/
theorem splitSep_append_sep (a r : Str) :
    splitSep (a ++ '/' :: r) = splitSep a ++ splitSep r := by
  induction a with
  | nil =>
    have := splitSep_ne_nil r
    simp only [List.nil_append, splitSep]
    cases h : splitSep r with
    | nil => exact absurd h this
    | cons x t => simp
  | cons c a ih =>
    have hne := splitSep_ne_nil a
    simp only [List.cons_append, splitSep, ih]
    cases h : splitSep a with
    | nil => exact absurd h hne
    | cons x t =>
      simp only [List.cons_append]
      split <;> simp

theorem splitSep_sep_cons (cs : Str) : splitSep ('/' :: cs) = [] :: splitSep cs := by
  rw [splitSep]
  cases h : splitSep cs with
  | nil => exact absurd h (splitSep_ne_nil cs)
  | cons a t => simp

theorem splitSep_replicate (k : Nat) (t : Str) :
    splitSep (List.replicate k '/' ++ t) = List.replicate k [] ++ splitSep t := by
  induction k with
  | zero => simp
  | succ k ih => rw [List.replicate_succ, List.cons_append, splitSep_sep_cons, ih]; simp [List.replicate_succ]

theorem comps_nil : comps [] = [] := by simp [comps, splitSep]

theorem comps_append_sep (a r : Str) : comps (a ++ '/' :: r) = comps a ++ comps r := by
  simp [comps, splitSep_append_sep]

theorem endsWithSep_iff (p : Str) : endsWithSep p = true ↔ ∃ q, p = q ++ ['/'] := by
  unfold endsWithSep
  constructor
  · intro h
    cases hl : p.getLast? with
    | none => simp [hl] at h
    | some c =>
      simp [hl] at h
      subst h
      rcases List.getLast?_eq_some_iff.mp hl with ⟨q, hq⟩
      exact ⟨q, hq⟩
  · rintro ⟨q, rfl⟩
    simp

/-- components of the base with a separator appended are the components of the base -/
theorem comps_sepBase (b : Str) : comps (sepBase b) = comps b := by
  unfold sepBase
  split
  · rfl
  · have := comps_append_sep b []
    simpa [comps_nil] using this

/-- character-level containment implies component-level containment -/
theorem contained_comps (b p : Str) (h : contained b p = true) : comps b <+: comps p := by
  unfold contained at h
  simp only [Bool.or_eq_true, beq_iff_eq] at h
  rcases h with h | h
  · subst h; exact List.prefix_refl _
  · rw [List.isPrefixOf_iff_prefix] at h
    obtain ⟨r, hr⟩ := h
    have hsb : ∃ q, sepBase b = q ++ ['/'] := by
      unfold sepBase
      split
      · rename_i he; exact (endsWithSep_iff b).mp he
      · exact ⟨b, rfl⟩
    obtain ⟨q, hq⟩ := hsb
    have : p = q ++ '/' :: r := by rw [← hr, hq]; simp
    rw [this, comps_append_sep, ← comps_sepBase b, hq]
    have := comps_append_sep q []
    simp only [comps_nil, List.append_nil] at this
    rw [this]
    exact List.prefix_append _ _


/-- a component that names a directory entry: not empty, not "." / "..", no separator -/
def Clean (c : Str) : Prop := c ≠ [] ∧ c ≠ DOT ∧ c ≠ DOTDOT ∧ '/' ∉ c

theorem clean_snoc {l : List Str} {x : Str} (hl : ∀ c ∈ l, Clean c) (hx : Clean x) : ∀ c ∈ l ++ [x], Clean c := by
  intro c hc
  rcases List.mem_append.mp hc with h | h
  · exact hl c h
  · rw [List.mem_singleton.mp h]; exact hx

theorem splitSep_noSep (s : Str) : ∀ x ∈ splitSep s, '/' ∉ x := by
  induction s with
  | nil => simp [splitSep]
  | cons c cs ih =>
    have hne := splitSep_ne_nil cs
    simp only [splitSep]
    cases h : splitSep cs with
    | nil => exact absurd h hne
    | cons y t =>
      rw [h] at ih
      simp only
      split
      · intro x hx
        simp only [List.mem_cons] at hx
        rcases hx with rfl | hx
        · simp
        · exact ih x (by simpa using hx)
      · rename_i hc
        intro x hx
        simp only [List.mem_cons] at hx
        rcases hx with rfl | hx
        · have := ih y (by simp)
          simp only [List.mem_cons, not_or]
          exact ⟨fun e => hc e.symm, this⟩
        · exact ih x (by simp [hx])

theorem splitSep_of_noSep (a : Str) (h : '/' ∉ a) : splitSep a = [a] := by
  induction a with
  | nil => simp [splitSep]
  | cons c cs ih =>
    simp only [List.mem_cons, not_or] at h
    have hc : ¬ c = '/' := fun e => h.1 e.symm
    simp only [splitSep, ih h.2]
    simp [hc]

theorem comps_of_clean (a : Str) (h : Clean a) : comps a = [a] := by
  simp [comps, splitSep_of_noSep a h.2.2.2, h.1]

theorem comps_cons_sep (x : Str) : comps ('/' :: x) = comps x := by
  have := comps_append_sep [] x
  simpa [comps_nil] using this

theorem comps_replicate_sep (n : Nat) (x : Str) : comps (List.replicate n '/' ++ x) = comps x := by
  induction n with
  | zero => simp
  | succ n ih => simp [List.replicate_succ, comps_cons_sep, ih]

/-- a non-empty piece without separator (names, and also "." and "..") -/
def Piece (c : Str) : Prop := c ≠ [] ∧ '/' ∉ c

theorem Clean.piece {c : Str} (h : Clean c) : Piece c := ⟨h.1, h.2.2.2⟩
theorem splitSep_joinSep (l : List Str) (h : ∀ c ∈ l, '/' ∉ c) (hne : l ≠ []) :
    splitSep (joinSep l) = l := by
  induction l with
  | nil => exact absurd rfl hne
  | cons a t ih =>
    cases t with
    | nil => simpa [joinSep] using splitSep_of_noSep a (h a (by simp))
    | cons b t =>
      simp only [joinSep, splitSep_append_sep]
      rw [ih (fun c hc => h c (by simp [hc])) (by simp), splitSep_of_noSep a (h a (by simp))]
      simp

theorem comps_joinSep_piece (l : List Str) (h : ∀ c ∈ l, Piece c) : comps (joinSep l) = l := by
  cases l with
  | nil => simp [joinSep, comps_nil]
  | cons a t =>
    unfold comps
    rw [splitSep_joinSep _ (fun c hc => (h c hc).2) (by simp)]
    apply List.filter_eq_self.mpr
    intro c hc
    simpa using (h c hc).1

theorem comps_joinSep (l : List Str) (h : ∀ c ∈ l, Clean c) : comps (joinSep l) = l :=
  comps_joinSep_piece l (fun c hc => (h c hc).piece)

theorem normStep_clean (stack : List Str) (comp : Str) (hs : ∀ c ∈ stack, Clean c)
    (hc : '/' ∉ comp) : ∀ c ∈ normStep true stack comp, Clean c := by
  unfold normStep
  split
  · exact hs
  · rename_i h1
    simp only [not_or] at h1
    split
    · rename_i h2
      have hdd : comp ≠ DOTDOT := by
        rcases h2 with h2 | h2 | h2
        · exact h2
        · simp at h2
        · cases stack with
          | nil => simp at h2
          | cons x t =>
            simp at h2
            exact absurd h2 (hs x (by simp)).2.2.1
      intro c hcm
      simp only [List.mem_cons] at hcm
      rcases hcm with rfl | hcm
      · exact ⟨h1.1, h1.2, hdd, hc⟩
      · exact hs c hcm
    · intro c hcm
      exact hs c (List.mem_of_mem_tail hcm)

theorem foldl_normStep_clean (l : List Str) (stack : List Str) (hs : ∀ c ∈ stack, Clean c)
    (hl : ∀ x ∈ l, '/' ∉ x) : ∀ c ∈ l.foldl (normStep true) stack, Clean c :=
  ListFacts.foldl_inv_mem (fun st => ∀ c ∈ st, Clean c) _ (fun st h x hx => normStep_clean st x h (hl x hx)) hs

theorem splitroot_abs (p : Str) (h : isabs p = true) : (splitroot p).1 ≠ 0 := by
  cases p with
  | nil => simp [isabs] at h
  | cons c r =>
    simp [isabs] at h
    subst h
    unfold splitroot
    simp only [if_true]
    split
    · simp
    · split
      · split
        · simp
        · split <;> simp
      · simp

/-- the stack computed by `normpath` for an absolute path -/
def normStack (p : Str) : List Str :=
  ((splitSep (splitroot p).2).foldl (normStep true) []).reverse

theorem normStack_clean (p : Str) : ∀ c ∈ normStack p, Clean c := by
  intro c hc
  unfold normStack at hc
  rw [List.mem_reverse] at hc
  exact foldl_normStep_clean _ [] (by simp) (splitSep_noSep _) c hc

/-- for an absolute path the components of the normal form are exactly the normalisation stack,
and `normpath` renders them after 1 or 2 slashes -/
theorem normpath_abs (p : Str) (h : isabs p = true) :
    normpath p = List.replicate (splitroot p).1 '/' ++ joinSep (normStack p) := by
  have h0 := splitroot_abs p h
  have hp : p ≠ [] := by intro e; subst e; simp [isabs] at h
  unfold normpath normStack
  simp only [hp, if_false]
  have hb : ((splitroot p).1 != 0) = true := by simpa using h0
  rw [hb]
  have : List.replicate (splitroot p).1 '/' ++
      joinSep ((splitSep (splitroot p).2).foldl (normStep true) []).reverse ≠ [] := by
    cases hn : (splitroot p).1 with
    | zero => exact absurd hn h0
    | succ n => simp [List.replicate_succ]
  simp only [this, if_false]

theorem comps_normpath_abs (p : Str) (h : isabs p = true) : comps (normpath p) = normStack p := by
  rw [normpath_abs p h, comps_replicate_sep, comps_joinSep _ (normStack_clean p)]

theorem isabs_abspath_arg (cwd p : Str) (hcwd : isabs cwd = true) :
    isabs (if isabs p then p else pjoin cwd p) = true := by
  split
  · assumption
  · rename_i hp
    unfold pjoin
    simp only [hp]
    have hne : cwd ≠ [] := by intro e; subst e; simp [isabs] at hcwd
    cases cwd with
    | nil => exact absurd rfl hne
    | cons c r =>
      simp [isabs] at hcwd
      subst hcwd
      simp only [Bool.false_eq_true, if_false]
      split <;> simp [isabs]

theorem comps_abspath_clean (cwd p : Str) (hcwd : isabs cwd = true) : ∀ c ∈ comps (abspath cwd p), Clean c := by
  unfold abspath
  rw [comps_normpath_abs _ (isabs_abspath_arg cwd _ hcwd)]
  exact normStack_clean _

theorem isabs_normpath_abs (p : Str) (h : isabs p = true) : isabs (normpath p) = true := by
  rw [normpath_abs p h]
  have := splitroot_abs p h
  cases hn : (splitroot p).1 with
  | zero => exact absurd hn this
  | succ n => simp [List.replicate_succ, isabs]

theorem cleanB_clean (c : Str) (h : cleanB c = true) : Clean c := by
  unfold cleanB at h
  simp only [Bool.and_eq_true, bne_iff_ne, ne_eq, Bool.not_eq_true', List.contains_eq_mem,
    decide_eq_false_iff_not] at h
  exact ⟨h.1.1.1, h.1.1.2, h.1.2, h.2⟩

end IrVerif.Path
