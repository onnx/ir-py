/-
C12 — structural facts about the node universe of a graph tree (pre-order spans, owners,
per-graph filters).  Everything here is about `Model/Sort.lean`'s traversal functions.
-/
import IrVerif.Lemmas.SortKahn
import Mathlib.Data.List.Basic
import Mathlib.Data.List.Pairwise
import Mathlib.Data.List.Nodup
import IrVerif.Lemmas.ListFacts

namespace IrVerif.Sort
open List

/-! ## flat characterisations and the induction principle -/

theorem entsNs_eq (gid : Nat) (ns : List MNode) : entsNs gid ns = ns.flatMap (entsN gid) := by
  induction ns with
  | nil => simp [entsNs]
  | cons n ns ih => simp [entsNs, ih]

theorem entsGs_eq (gs : List MGraph) : entsGs gs = gs.flatMap (fun g => entsNs g.1 g.2) := by
  induction gs with
  | nil => simp [entsGs]
  | cons g gs ih => obtain ⟨k, ns⟩ := g; simp [entsGs, ih]

theorem subgraphsNs_eq (ns : List MNode) : subgraphsNs ns = ns.flatMap subgraphsN := by
  induction ns with
  | nil => simp [subgraphsNs]
  | cons n ns ih => simp [subgraphsNs, ih]

theorem subgraphsGs_eq (gs : List MGraph) :
    subgraphsGs gs = gs.flatMap (fun g => g :: subgraphsNs g.2) := by
  induction gs with
  | nil => simp [subgraphsGs]
  | cons g gs ih => obtain ⟨k, ns⟩ := g; simp [subgraphsGs, ih]

theorem subgraphsN_eq (n : MNode) : subgraphsN n = subgraphsGs n.subs := by
  cases n; simp [subgraphsN, MNode.subs]

mutual
theorem MNode.ind_aux {P : MNode → Prop}
    (h : ∀ n : MNode, (∀ g ∈ n.subs, ∀ m ∈ g.2, P m) → P n) : ∀ n : MNode, P n
  | .mk i ins subs => h (.mk i ins subs) (MNode.ind_auxGs h subs)
theorem MNode.ind_auxGs {P : MNode → Prop}
    (h : ∀ n : MNode, (∀ g ∈ n.subs, ∀ m ∈ g.2, P m) → P n) :
    ∀ gs : List (Nat × List MNode), ∀ g ∈ gs, ∀ m ∈ g.2, P m
  | [] => by simp
  | (k, ns) :: gs => by
    intro g hg m hm
    rcases List.mem_cons.1 hg with h1 | h1
    · rw [h1] at hm; exact MNode.ind_auxNs h ns m hm
    · exact MNode.ind_auxGs h gs g h1 m hm
theorem MNode.ind_auxNs {P : MNode → Prop}
    (h : ∀ n : MNode, (∀ g ∈ n.subs, ∀ m ∈ g.2, P m) → P n) :
    ∀ ns : List MNode, ∀ m ∈ ns, P m
  | [] => by simp
  | n :: ns => by
    intro m hm
    rcases List.mem_cons.1 hm with h1 | h1
    · rw [h1]; exact MNode.ind_aux h n
    · exact MNode.ind_auxNs h ns m h1
end

/-- structural induction over a node tree: to prove `P n` assume `P` for every node of every
    attribute graph of `n` -/
theorem MNode.ind {P : MNode → Prop}
    (h : ∀ n : MNode, (∀ g ∈ n.subs, ∀ m ∈ g.2, P m) → P n) (n : MNode) : P n :=
  MNode.ind_aux h n

/-! ## membership -/

theorem mem_subNodeIds {gs : List MGraph} {g : MGraph} {m : MNode} (hg : g ∈ gs) (hm : m ∈ g.2) :
    m.id ∈ subNodeIds gs := by
  simp only [subNodeIds, List.mem_flatMap, List.mem_map]
  exact ⟨g, hg, m, hm, rfl⟩

/-- the universe entry of node `n` of graph `k` -/
def entOf (k : Nat) (n : MNode) : Ent := ⟨n.id, k, n.inputs, subNodeIds n.subs⟩

theorem entsN_cons (k : Nat) (n : MNode) : entsN k n = entOf k n :: entsGs n.subs := by
  cases n
  simp [entsN, entOf, MNode.id, MNode.inputs, MNode.subs]

theorem mem_entsNs {k : Nat} {ns : List MNode} {e : Ent} :
    e ∈ entsNs k ns ↔ ∃ m ∈ ns, e ∈ entsN k m := by
  simp [entsNs_eq, List.mem_flatMap]

theorem mem_entsGs {gs : List MGraph} {e : Ent} :
    e ∈ entsGs gs ↔ ∃ g ∈ gs, ∃ m ∈ g.2, e ∈ entsN g.1 m := by
  simp only [entsGs_eq, List.mem_flatMap, mem_entsNs]

theorem mem_entsN {k : Nat} {n : MNode} {e : Ent} :
    e ∈ entsN k n ↔ e = entOf k n ∨ ∃ g ∈ n.subs, ∃ m ∈ g.2, e ∈ entsN g.1 m := by
  rw [entsN_cons, List.mem_cons, mem_entsGs]

theorem entOf_mem_entsN (k : Nat) (n : MNode) : entOf k n ∈ entsN k n := by
  rw [entsN_cons]; simp

theorem mem_subgraphsNs {ns : List MNode} {h : MGraph} :
    h ∈ subgraphsNs ns ↔ ∃ m ∈ ns, h ∈ subgraphsN m := by
  simp [subgraphsNs_eq, List.mem_flatMap]

theorem mem_subgraphsN {n : MNode} {h : MGraph} :
    h ∈ subgraphsN n ↔ ∃ g ∈ n.subs, h = g ∨ ∃ m ∈ g.2, h ∈ subgraphsN m := by
  rw [subgraphsN_eq, subgraphsGs_eq]
  simp only [List.mem_flatMap, List.mem_cons, mem_subgraphsNs]

theorem mem_allGraphs {g h : MGraph} :
    h ∈ allGraphs g ↔ h = g ∨ ∃ m ∈ g.2, h ∈ subgraphsN m := by
  simp only [allGraphs, List.mem_cons, mem_subgraphsNs]

/-- graphs nested in a node of a nested graph are nested -/
theorem subgraphsN_trans : ∀ n : MNode, ∀ h ∈ subgraphsN n, ∀ m ∈ h.2,
    ∀ h' ∈ subgraphsN m, h' ∈ subgraphsN n := by
  intro n
  induction n using MNode.ind with
  | h n ih =>
    intro h hh m hm h' hh'
    obtain ⟨g, hg, hcase⟩ := mem_subgraphsN.1 hh
    rcases hcase with rfl | ⟨m', hm', hin⟩
    · exact mem_subgraphsN.2 ⟨h, hg, Or.inr ⟨m, hm, hh'⟩⟩
    · exact mem_subgraphsN.2 ⟨g, hg, Or.inr ⟨m', hm', ih g hg m' hm' h hin m hm h' hh'⟩⟩

theorem allGraphs_trans {g h : MGraph} (hh : h ∈ allGraphs g) {m : MNode} (hm : m ∈ h.2)
    {h' : MGraph} (hh' : h' ∈ subgraphsN m) : h' ∈ allGraphs g := by
  rcases mem_allGraphs.1 hh with rfl | ⟨m0, hm0, hin⟩
  · exact mem_allGraphs.2 (Or.inr ⟨m, hm, hh'⟩)
  · exact mem_allGraphs.2 (Or.inr ⟨m0, hm0, subgraphsN_trans m0 h hin m hm h' hh'⟩)

/-! ## spans are contiguous -/

theorem entsN_infix_entsNs {k : Nat} {ns : List MNode} {m : MNode} (hm : m ∈ ns) :
    entsN k m <:+: entsNs k ns := by
  rw [entsNs_eq]; exact ListFacts.infix_flatMap_of_mem _ hm

theorem entsNs_infix_entsN {k : Nat} {n : MNode} {g : MGraph} (hg : g ∈ n.subs) :
    entsNs g.1 g.2 <:+: entsN k n := by
  rw [entsN_cons, entsGs_eq]
  exact List.infix_cons (ListFacts.infix_flatMap_of_mem (fun g : MGraph => entsNs g.1 g.2) hg)

/-- the span of a nested graph lies inside the span of the node it is nested in -/
theorem subgraph_infix : ∀ n : MNode, ∀ k, ∀ h ∈ subgraphsN n, entsNs h.1 h.2 <:+: entsN k n := by
  intro n
  induction n using MNode.ind with
  | h n ih =>
    intro k h hh
    obtain ⟨g, hg, hcase⟩ := mem_subgraphsN.1 hh
    rcases hcase with rfl | ⟨m', hm', hin⟩
    · exact entsNs_infix_entsN hg
    · exact ((ih g hg m' hm' g.1 h hin).trans (entsN_infix_entsNs hm')).trans
        (entsNs_infix_entsN hg)

theorem graph_infix {g h : MGraph} (hh : h ∈ allGraphs g) : entsNs h.1 h.2 <:+: nodesOf g := by
  rcases mem_allGraphs.1 hh with rfl | ⟨m, hm, hin⟩
  · exact List.infix_refl _
  · exact (subgraph_infix m g.1 h hin).trans (entsN_infix_entsNs hm)

theorem node_infix {g h : MGraph} (hh : h ∈ allGraphs g) {m : MNode} (hm : m ∈ h.2) :
    entsN h.1 m <:+: nodesOf g :=
  (entsN_infix_entsNs hm).trans (graph_infix hh)

/-! ## owners -/

/-- every entry of a span other than its root has its owner inside the span -/
theorem owner_in_span : ∀ m : MNode, ∀ k, ∀ e ∈ entsN k m,
    e = entOf k m ∨ ∃ o ∈ entsN k m, e.id ∈ o.subNodes := by
  intro m
  induction m using MNode.ind with
  | h n ih =>
    intro k e he
    rcases mem_entsN.1 he with rfl | ⟨g, hg, m', hm', hin⟩
    · exact Or.inl rfl
    · right
      have hsub : entsN g.1 m' ⊆ entsN k n :=
        ((entsN_infix_entsNs hm').trans (entsNs_infix_entsN hg)).subset
      rcases ih g hg m' hm' g.1 e hin with rfl | ⟨o, ho, hoe⟩
      · refine ⟨entOf k n, entOf_mem_entsN k n, ?_⟩
        exact mem_subNodeIds hg hm'
      · exact ⟨o, hsub ho, hoe⟩

/-- every entry of a span is the entry of the span's root or of a node of a nested graph -/
theorem ent_is_node : ∀ m : MNode, ∀ k, ∀ e ∈ entsN k m,
    e = entOf k m ∨ ∃ h ∈ subgraphsN m, ∃ x ∈ h.2, e = entOf h.1 x := by
  intro m
  induction m using MNode.ind with
  | h n ih =>
    intro k e he
    rcases mem_entsN.1 he with rfl | ⟨g, hg, m', hm', hin⟩
    · exact Or.inl rfl
    · right
      rcases ih g hg m' hm' g.1 e hin with rfl | ⟨h, hh, x, hx, rfl⟩
      · exact ⟨g, mem_subgraphsN.2 ⟨g, hg, Or.inl rfl⟩, m', hm', rfl⟩
      · exact ⟨h, mem_subgraphsN.2 ⟨g, hg, Or.inr ⟨m', hm', hh⟩⟩, x, hx, rfl⟩

theorem ent_is_node_root {g : MGraph} {e : Ent} (he : e ∈ nodesOf g) :
    ∃ h ∈ allGraphs g, ∃ x ∈ h.2, e = entOf h.1 x := by
  obtain ⟨m, hm, hin⟩ := mem_entsNs.1 he
  rcases ent_is_node m g.1 e hin with rfl | ⟨h, hh, x, hx, rfl⟩
  · exact ⟨g, mem_allGraphs.2 (Or.inl rfl), m, hm, rfl⟩
  · exact ⟨h, mem_allGraphs.2 (Or.inr ⟨m, hm, hh⟩), x, hx, rfl⟩

/-- a nested graph has an owner entry that holds all its nodes as `subNodes` and precedes its
    whole span -/
theorem graph_owner_before : ∀ m : MNode, ∀ k, ∀ h ∈ subgraphsN m,
    ∃ o ∈ entsN k m, (∀ x ∈ h.2, x.id ∈ o.subNodes) ∧
      ∀ e ∈ entsNs h.1 h.2, Before (entsN k m) o e := by
  intro m
  induction m using MNode.ind with
  | h n ih =>
    intro k h hh
    obtain ⟨g, hg, hcase⟩ := mem_subgraphsN.1 hh
    rcases hcase with rfl | ⟨m', hm', hin⟩
    · refine ⟨entOf k n, entOf_mem_entsN k n, ?_, ?_⟩
      · exact fun x hx => mem_subNodeIds hg hx
      · intro e he
        refine ⟨[], entsGs n.subs, by rw [entsN_cons]; rfl, ?_⟩
        rw [entsGs_eq]
        exact List.mem_flatMap.2 ⟨h, hg, he⟩
    · obtain ⟨o, ho, hall, hbef⟩ := ih g hg m' hm' g.1 h hin
      have hinf : entsN g.1 m' <:+: entsN k n :=
        (entsN_infix_entsNs hm').trans (entsNs_infix_entsN hg)
      exact ⟨o, hinf.subset ho, hall, fun e he => (hbef e he).of_infix hinf⟩

theorem graph_owner (m : MNode) (k : Nat) (h : MGraph) (hh : h ∈ subgraphsN m) :
    ∃ o ∈ entsN k m, ∀ x ∈ h.2, x.id ∈ o.subNodes := by
  obtain ⟨o, ho, hall, _⟩ := graph_owner_before m k h hh
  exact ⟨o, ho, hall⟩

/-! ## ids of a span = root id + all `subNodes` of the span (as multisets) -/

def idsOf (es : List Ent) : List Nat := es.map Ent.id
def subAll (es : List Ent) : List Nat := es.flatMap Ent.subNodes

theorem ids_perm_Ns {ns : List MNode}
    (h : ∀ m ∈ ns, ∀ k, (idsOf (entsN k m)).Perm (m.id :: subAll (entsN k m))) (k : Nat) :
    (idsOf (entsNs k ns)).Perm (ns.map MNode.id ++ subAll (entsNs k ns)) := by
  induction ns with
  | nil => simp [entsNs, idsOf, subAll]
  | cons n ns ih =>
    have h1 := h n (by simp) k
    have h2 := ih (fun m hm => h m (List.mem_cons_of_mem _ hm))
    rw [List.perm_iff_count] at h1 h2 ⊢
    intro a
    have := h1 a; have := h2 a
    simp only [entsNs, idsOf, subAll, List.map_append, List.flatMap_append, List.count_append,
      List.map_cons, List.count_cons] at *
    omega

theorem ids_perm_Gs {gs : List MGraph}
    (h : ∀ g ∈ gs, ∀ m ∈ g.2, ∀ k, (idsOf (entsN k m)).Perm (m.id :: subAll (entsN k m))) :
    (idsOf (entsGs gs)).Perm (subNodeIds gs ++ subAll (entsGs gs)) := by
  induction gs with
  | nil => simp [entsGs, idsOf, subAll, subNodeIds]
  | cons g gs ih =>
    obtain ⟨k, ns⟩ := g
    have h1 := ids_perm_Ns (h (k, ns) (by simp)) k
    have h2 := ih (fun g hg => h g (List.mem_cons_of_mem _ hg))
    rw [List.perm_iff_count] at h1 h2 ⊢
    intro a
    have := h1 a; have := h2 a
    simp only [entsGs, idsOf, subAll, subNodeIds, List.map_append, List.flatMap_append,
      List.count_append, List.flatMap_cons] at *
    omega

theorem ids_perm_N : ∀ m : MNode, ∀ k, (idsOf (entsN k m)).Perm (m.id :: subAll (entsN k m)) := by
  intro m
  induction m using MNode.ind with
  | h n ih =>
    intro k
    have := ids_perm_Gs ih
    rw [entsN_cons]
    simp only [idsOf, subAll, List.map_cons, List.flatMap_cons] at *
    exact List.Perm.cons _ this

theorem ids_perm_root (g : MGraph) :
    (idsOf (nodesOf g)).Perm (g.2.map MNode.id ++ subAll (nodesOf g)) :=
  ids_perm_Ns (fun m _ => ids_perm_N m) g.1

/-- with distinct node ids, a node id occurs in the `subNodes` of at most one entry -/
theorem owner_unique {g : MGraph} (hnd : (idsOf (nodesOf g)).Nodup) {e1 e2 : Ent}
    (h1 : e1 ∈ nodesOf g) (h2 : e2 ∈ nodesOf g) {x : Nat} (hx1 : x ∈ e1.subNodes)
    (hx2 : x ∈ e2.subNodes) : e1 = e2 := by
  by_contra hne
  have hnd2 : (g.2.map MNode.id ++ subAll (nodesOf g)).Nodup := (ids_perm_root g).nodup_iff.1 hnd
  have hsub : (subAll (nodesOf g)).Nodup := (List.nodup_append.1 hnd2).2.1
  have hpw := (List.nodup_flatMap.1 hsub).2
  have : Std.Symm (Function.onFun List.Disjoint Ent.subNodes) :=
    ⟨fun a b (h : List.Disjoint _ _) => List.disjoint_left.2 (fun x hx hy => List.disjoint_left.1 h hy hx)⟩
  have := hpw.forall h1 h2 hne
  exact List.disjoint_left.1 this hx1 hx2

/-- with distinct node ids, the nodes of the sorted graph itself are nobody's `subNodes` -/
theorem root_not_owned {g : MGraph} (hnd : (idsOf (nodesOf g)).Nodup) {m : MNode} (hm : m ∈ g.2)
    {e : Ent} (he : e ∈ nodesOf g) : m.id ∉ e.subNodes := by
  intro hx
  have hnd2 : (g.2.map MNode.id ++ subAll (nodesOf g)).Nodup := (ids_perm_root g).nodup_iff.1 hnd
  have := (List.nodup_append.1 hnd2).2.2 m.id (List.mem_map.2 ⟨m, hm, rfl⟩) m.id
    (List.mem_flatMap.2 ⟨e, he, hx⟩)
  exact this rfl

/-- entries with the same id are equal when ids are distinct -/
theorem ent_eq_of_id {es : List Ent} (hnd : (idsOf es).Nodup) {e1 e2 : Ent} (h1 : e1 ∈ es)
    (h2 : e2 ∈ es) (h : e1.id = e2.id) : e1 = e2 :=
  List.inj_on_of_nodup_map hnd h1 h2 h

/-- in a tree whose root graph lists each of its own nodes once, a node listed twice is a direct
    node of an attribute graph of some node of the universe -/
theorem dup_is_owned (g : MGraph)
    (hroot : ∀ n ∈ g.2, (idsOf (nodesOf g)).count n.id = 1) :
    ∀ p, 2 ≤ (idsOf (nodesOf g)).count p → ∃ o ∈ nodesOf g, p ∈ o.subNodes := by
  intro p hp
  have hmem : p ∈ idsOf (nodesOf g) := List.count_pos_iff.1 (by omega)
  obtain ⟨e, he, rfl⟩ := List.mem_map.1 hmem
  obtain ⟨h, hh, x, hx, rfl⟩ := ent_is_node_root he
  rcases mem_allGraphs.1 hh with rfl | ⟨m, hm, hin⟩
  · have := hroot x hx
    simp only [entOf] at hp this
    omega
  · obtain ⟨o, ho, hall⟩ := graph_owner m g.1 h hin
    exact ⟨o, mem_entsNs.2 ⟨m, hm, ho⟩, hall x hx⟩

/-! ## per-graph filters of the universe -/

def gidsOf (hs : List MGraph) : List Nat := hs.map Prod.fst

theorem gid_of_span (m : MNode) (k : Nat) {e : Ent} (he : e ∈ entsN k m) :
    e.gid = k ∨ e.gid ∈ gidsOf (subgraphsN m) := by
  rcases ent_is_node m k e he with rfl | ⟨h, hh, x, _, rfl⟩
  · exact Or.inl rfl
  · exact Or.inr (List.mem_map.2 ⟨h, hh, rfl⟩)

theorem filter_gid_nil_N (m : MNode) (k0 k : Nat) (h0 : k ≠ k0) (h : k ∉ gidsOf (subgraphsN m)) :
    (entsN k0 m).filter (fun e => e.gid == k) = [] := by
  rw [List.filter_eq_nil_iff]
  intro e he
  rcases gid_of_span m k0 he with h1 | h1
  · simp [h1]; exact fun h => h0 h.symm
  · simp; intro h2; exact h (h2 ▸ h1)

theorem filter_gid_nil_Ns (ns : List MNode) (k0 k : Nat) (h0 : k ≠ k0)
    (h : k ∉ gidsOf (subgraphsNs ns)) : (entsNs k0 ns).filter (fun e => e.gid == k) = [] := by
  rw [List.filter_eq_nil_iff]
  intro e he
  obtain ⟨m, hm, hin⟩ := mem_entsNs.1 he
  have hk : k ∉ gidsOf (subgraphsN m) := by
    intro hc
    obtain ⟨h', hh', rfl⟩ := List.mem_map.1 hc
    exact h (List.mem_map.2 ⟨h', mem_subgraphsNs.2 ⟨m, hm, hh'⟩, rfl⟩)
  have := filter_gid_nil_N m k0 k h0 hk
  rw [List.filter_eq_nil_iff] at this
  exact this e hin

theorem filter_gid_nil_Gs (gs : List MGraph) (k : Nat) (h : k ∉ gidsOf (subgraphsGs gs)) :
    (entsGs gs).filter (fun e => e.gid == k) = [] := by
  rw [List.filter_eq_nil_iff]
  intro e he
  obtain ⟨g, hg, m, hm, hin⟩ := mem_entsGs.1 he
  have hsub : ∀ h' ∈ subgraphsN m, h' ∈ subgraphsGs gs := by
    intro h' hh'
    rw [subgraphsGs_eq]
    exact List.mem_flatMap.2 ⟨g, hg, List.mem_cons_of_mem _ (mem_subgraphsNs.2 ⟨m, hm, hh'⟩)⟩
  have hgin : g ∈ subgraphsGs gs := by
    rw [subgraphsGs_eq]; exact List.mem_flatMap.2 ⟨g, hg, by simp⟩
  rcases gid_of_span m g.1 hin with h1 | h1
  · simp [h1]; intro h2; exact h (List.mem_map.2 ⟨g, hgin, h2⟩)
  · simp; intro h2
    obtain ⟨h', hh', h3⟩ := List.mem_map.1 h1
    exact h (List.mem_map.2 ⟨h', hsub h' hh', by rw [h3, h2]⟩)

/-- the entries of graph `k0` in the span of its own node list, when no nested graph is `k0` -/
theorem filter_gid_self_Ns (ns : List MNode) (k0 : Nat) (h : k0 ∉ gidsOf (subgraphsNs ns)) :
    ((entsNs k0 ns).filter (fun e => e.gid == k0)).map Ent.id = ns.map MNode.id := by
  induction ns with
  | nil => simp [entsNs]
  | cons n ns ih =>
    have h1 : k0 ∉ gidsOf (subgraphsN n) := by
      intro hc; apply h; simp only [subgraphsNs, gidsOf, List.map_append, List.mem_append]
      exact Or.inl hc
    have h2 : k0 ∉ gidsOf (subgraphsNs ns) := by
      intro hc; apply h; simp only [subgraphsNs, gidsOf, List.map_append, List.mem_append]
      exact Or.inr hc
    rw [subgraphsN_eq] at h1
    simp only [entsNs, List.filter_append, List.map_append, ih h2, entsN_cons, List.map_cons]
    rw [List.filter_cons]
    simp [entOf, filter_gid_nil_Gs n.subs k0 h1]

/- distinct graph ids: no id of one span occurs in another (`hdisj`), so the filter is empty on every span without `h` -/
mutual
theorem filter_gid_N : ∀ (n : MNode) (k0 : Nat) (h : MGraph), h ∈ subgraphsN n →
    (k0 :: gidsOf (subgraphsN n)).Nodup →
    ((entsN k0 n).filter (fun e => e.gid == h.1)).map Ent.id = h.2.map MNode.id
  | .mk i ins subs, k0, h, hh, hnd => by
    simp only [subgraphsN] at hh hnd
    rw [List.nodup_cons] at hnd
    have hne : h.1 ≠ k0 := fun hc => hnd.1 (hc ▸ List.mem_map.2 ⟨h, hh, rfl⟩)
    have hne' : ¬ k0 = h.1 := fun hc => hne hc.symm
    simp only [entsN, List.filter_cons]
    simp only [beq_iff_eq, hne', if_false]
    exact filter_gid_Gs subs h hh hnd.2
theorem filter_gid_Gs : ∀ (gs : List (Nat × List MNode)) (h : MGraph), h ∈ subgraphsGs gs →
    (gidsOf (subgraphsGs gs)).Nodup →
    ((entsGs gs).filter (fun e => e.gid == h.1)).map Ent.id = h.2.map MNode.id
  | [], h, hh, _ => by simp [subgraphsGs] at hh
  | (k, ns) :: gs, h, hh, hnd => by
    simp only [subgraphsGs, List.mem_cons, List.mem_append] at hh
    simp only [subgraphsGs, gidsOf, List.map_cons, List.map_append, List.cons_append] at hnd
    rw [List.nodup_cons, List.nodup_append] at hnd
    obtain ⟨hk, hnd1, hnd2, hdisj⟩ := hnd
    simp only [entsGs, List.filter_append, List.map_append]
    rcases hh with (rfl | hh) | hh
    · -- the graph itself
      have h1 : k ∉ gidsOf (subgraphsNs ns) := fun hc => hk (List.mem_append.2 (Or.inl hc))
      have h2 : k ∉ gidsOf (subgraphsGs gs) := fun hc => hk (List.mem_append.2 (Or.inr hc))
      rw [filter_gid_self_Ns ns k h1, filter_gid_nil_Gs gs k h2]; simp
    · -- nested in a node of this graph
      have hmem : h.1 ∈ gidsOf (subgraphsNs ns) := List.mem_map.2 ⟨h, hh, rfl⟩
      have h2 : h.1 ∉ gidsOf (subgraphsGs gs) := fun hc => hdisj h.1 hmem h.1 hc rfl
      rw [filter_gid_Ns ns k h hh (List.nodup_cons.2 ⟨fun hc => hk (List.mem_append.2 (Or.inl hc)), hnd1⟩),
        filter_gid_nil_Gs gs h.1 h2]; simp
    · have hmem : h.1 ∈ gidsOf (subgraphsGs gs) := List.mem_map.2 ⟨h, hh, rfl⟩
      have h1 : h.1 ∉ gidsOf (subgraphsNs ns) := fun hc => hdisj h.1 hc h.1 hmem rfl
      have h0 : h.1 ≠ k := fun hc => hk (List.mem_append.2 (Or.inr (hc ▸ hmem)))
      rw [filter_gid_nil_Ns ns k h.1 h0 h1, filter_gid_Gs gs h hh hnd2]; simp
theorem filter_gid_Ns : ∀ (ns : List MNode) (k0 : Nat) (h : MGraph), h ∈ subgraphsNs ns →
    (k0 :: gidsOf (subgraphsNs ns)).Nodup →
    ((entsNs k0 ns).filter (fun e => e.gid == h.1)).map Ent.id = h.2.map MNode.id
  | [], _, h, hh, _ => by simp [subgraphsNs] at hh
  | n :: ns, k0, h, hh, hnd => by
    simp only [subgraphsNs, List.mem_append] at hh
    simp only [subgraphsNs, gidsOf, List.map_append] at hnd
    rw [List.nodup_cons, List.nodup_append] at hnd
    obtain ⟨hk, hnd1, hnd2, hdisj⟩ := hnd
    simp only [entsNs, List.filter_append, List.map_append]
    rcases hh with hh | hh
    · have hmem : h.1 ∈ gidsOf (subgraphsN n) := List.mem_map.2 ⟨h, hh, rfl⟩
      have h2 : h.1 ∉ gidsOf (subgraphsNs ns) := fun hc => hdisj h.1 hmem h.1 hc rfl
      have h0 : h.1 ≠ k0 := fun hc => hk (List.mem_append.2 (Or.inl (hc ▸ hmem)))
      rw [filter_gid_N n k0 h hh (List.nodup_cons.2 ⟨fun hc => hk (List.mem_append.2 (Or.inl hc)), hnd1⟩),
        filter_gid_nil_Ns ns k0 h.1 h0 h2]; simp
    · have hmem : h.1 ∈ gidsOf (subgraphsNs ns) := List.mem_map.2 ⟨h, hh, rfl⟩
      have h1 : h.1 ∉ gidsOf (subgraphsN n) := fun hc => hdisj h.1 hc h.1 hmem rfl
      have h0 : h.1 ≠ k0 := fun hc => hk (List.mem_append.2 (Or.inr (hc ▸ hmem)))
      rw [filter_gid_nil_N n k0 h.1 h0 h1,
        filter_gid_Ns ns k0 h hh (List.nodup_cons.2 ⟨fun hc => hk (List.mem_append.2 (Or.inr hc)), hnd2⟩)]
      simp
end

/-- **the entries labelled with a graph's id are exactly that graph's nodes, in order** -/
theorem filter_gid_root {g : MGraph} (hnd : (gidsOf (allGraphs g)).Nodup) {h : MGraph}
    (hh : h ∈ allGraphs g) :
    ((nodesOf g).filter (fun e => e.gid == h.1)).map Ent.id = h.2.map MNode.id := by
  simp only [allGraphs, gidsOf, List.map_cons] at hnd
  rcases List.mem_cons.1 hh with rfl | hh
  · exact filter_gid_self_Ns h.2 h.1 (List.nodup_cons.1 hnd).1
  · exact filter_gid_Ns g.2 g.1 h hh hnd

end IrVerif.Sort
