/-
Kernel: node membership (`nodeLink`, `nodeUnlink`) on the abstract node sequence.
-/
import IrVerif.Lemmas.KernelInit
namespace IrVerif.Kernel


theorem mem_insertAfter (l : List Nat) (a : Option Nat) (x m : Nat) :
    m ∈ insertAfter l a x ↔ m = x ∨ m ∈ l := by
  unfold insertAfter
  cases a with
  | none => simp
  | some a =>
    simp only []
    cases l.idxOf? a with
    | none => simp [or_comm]
    | some i =>
      simp only []
      have h : m ∈ l ↔ m ∈ l.take (i + 1) ∨ m ∈ l.drop (i + 1) := by
        rw [← List.mem_append, List.take_append_drop]
      simp only [List.mem_append, List.mem_cons, h]
      grind

theorem nodup_insertAfter (l : List Nat) (a : Option Nat) (x : Nat) (h : l.Nodup) (hx : x ∉ l) :
    (insertAfter l a x).Nodup := by
  unfold insertAfter
  cases a with
  | none => simp [h, hx]
  | some a =>
    simp only []
    cases l.idxOf? a with
    | none => simp [List.nodup_append, h]; exact fun a ha e => hx (e ▸ ha)
    | some i =>
      simp only []
      have h' : (l.take (i + 1) ++ l.drop (i + 1)).Nodup := by rw [List.take_append_drop]; exact h
      have hx1 : x ∉ l.take (i + 1) := fun hm => hx (List.mem_of_mem_take hm)
      have hx2 : x ∉ l.drop (i + 1) := fun hm => hx (List.mem_of_mem_drop hm)
      rw [List.nodup_append] at h' ⊢
      obtain ⟨h1, h2, h3⟩ := h'
      refine ⟨h1, ?_, ?_⟩
      · simp [h2, hx2]
      · intro p hp q hq
        simp at hq
        rcases hq with rfl | hq
        · intro e; subst e; exact hx1 hp
        · exact h3 p hp q hq

theorem mem_linkAfter (l : List Nat) (a : Option Nat) (x m : Nat) (h : l.Nodup) :
    m ∈ linkAfter l a x ↔ m = x ∨ m ∈ l := by
  unfold linkAfter
  split
  · rename_i hc; constructor
    · exact Or.inr
    · rintro (rfl | hm)
      · exact hc.2
      · exact hm
  · rw [mem_insertAfter, h.mem_erase_iff]
    by_cases hm : m = x <;> simp [hm]

theorem nodup_linkAfter (l : List Nat) (a : Option Nat) (x : Nat) (h : l.Nodup) : (linkAfter l a x).Nodup := by
  unfold linkAfter
  split
  · exact h
  · exact nodup_insertAfter _ _ _ (h.erase x) (by rw [h.mem_erase_iff]; simp)

theorem nodeLink_gr (w : World) (g : Nat) (a : Option Nat) (n : Nat) (h : nodeAddable w g n = true) (g' : Nat) :
    (nodeLink w g a n).gr g' = if g' = g then { w.gr g with nodes := linkAfter (w.gr g).nodes a n } else w.gr g' := by
  simp only [nodeLink, h, if_true, World.gr_setGr, World.gr_setNode]

theorem nodeLink_node (w : World) (g : Nat) (a : Option Nat) (n : Nat) (h : nodeAddable w g n = true) (m : Nat) :
    (nodeLink w g a n).node m = if m = n then { w.node n with graph := some g } else w.node m := by
  simp only [nodeLink, h, if_true, World.node_setGr, World.node_setNode]

theorem nodeUnlink_gr (w : World) (g n : Nat) (h : (w.node n).graph = some g) (g' : Nat) :
    (nodeUnlink w g n).gr g' = if g' = g then { w.gr g with nodes := (w.gr g).nodes.erase n } else w.gr g' := by
  simp only [nodeUnlink, h, if_true, World.gr_setGr, World.gr_setNode]

theorem nodeUnlink_node (w : World) (g n : Nat) (h : (w.node n).graph = some g) (m : Nat) :
    (nodeUnlink w g n).node m = if m = n then { w.node n with graph := none } else w.node m := by
  simp only [nodeUnlink, h, if_true, World.node_setGr, World.node_setNode]

theorem nodeLink_I_node (w : World) (g : Nat) (a : Option Nat) (n : Nat) (h : I_node w) :
    I_node (nodeLink w g a n) := by
  by_cases hadd : nodeAddable w g n = true
  · have hfree : ∀ g', n ∈ (w.gr g').nodes → g' = g := fun g' hm => by
      have := (h.mem n g').2 hm
      simpa [nodeAddable, this, eq_comm] using hadd
    constructor
    · intro m g'
      rw [nodeLink_node _ _ _ _ hadd, nodeLink_gr _ _ _ _ hadd]
      by_cases hg : g' = g
      · subst hg
        rw [if_pos rfl]
        show _ ↔ m ∈ linkAfter (w.gr g').nodes a n
        rw [mem_linkAfter _ _ _ _ (h.nodup g')]
        by_cases hm : m = n
        · subst hm; simp
        · rw [if_neg hm]; simp only [hm, false_or]; exact h.mem m g'
      · rw [if_neg hg]
        by_cases hm : m = n
        · subst hm
          rw [if_pos rfl]
          exact ⟨fun e => absurd (Option.some.inj e).symm hg, fun hmem => absurd (hfree g' hmem) hg⟩
        · rw [if_neg hm]; exact h.mem m g'
    · intro g'
      rw [nodeLink_gr _ _ _ _ hadd]; split
      · subst_vars; exact nodup_linkAfter _ _ _ (h.nodup _)
      · exact h.nodup g'
  · simp only [nodeLink, hadd]; exact I_node_bump h

theorem nodeUnlink_I_node (w : World) (g n : Nat) (h : I_node w) : I_node (nodeUnlink w g n) := by
  by_cases hg : (w.node n).graph = some g
  · constructor
    · intro m g'
      rw [nodeUnlink_node _ _ _ hg, nodeUnlink_gr _ _ _ hg]
      by_cases hgg : g' = g
      · subst hgg
        rw [if_pos rfl]
        show _ ↔ m ∈ (w.gr g').nodes.erase n
        rw [(h.nodup g').mem_erase_iff]
        by_cases hm : m = n
        · subst hm; simp
        · rw [if_neg hm]; simp only [ne_eq, hm, not_false_eq_true, true_and]; exact h.mem m g'
      · rw [if_neg hgg]
        by_cases hm : m = n
        · subst hm
          rw [if_pos rfl]
          refine ⟨fun e => (by cases e), fun hmem => ?_⟩
          rw [(h.mem m g').2 hmem] at hg
          exact absurd (Option.some.inj hg) hgg
        · rw [if_neg hm]; exact h.mem m g'
    · intro g'
      rw [nodeUnlink_gr _ _ _ hg]; split
      · subst_vars; exact (h.nodup _).erase n
      · exact h.nodup g'
  · simp only [nodeUnlink, hg]; exact I_node_bump h

/-! ### frames of `nodeLink` / `nodeUnlink` -/

abbrev NodeFrame := Frame id (fun x => { x with graph := none }) (fun r => { r with nodes := [] })

theorem nodeLink_nodeFrame (w : World) (g : Nat) (a : Option Nat) (n : Nat) : NodeFrame w (nodeLink w g a n) := by
  unfold nodeLink; split
  · exact (Frame.setNode w n _).trans (Frame.setGr _ g _)
  · exact Frame.bump w

theorem nodeUnlink_nodeFrame (w : World) (g n : Nat) : NodeFrame w (nodeUnlink w g n) := by
  unfold nodeUnlink; split
  · exact (Frame.setNode w n _).trans (Frame.setGr _ g _)
  · exact Frame.bump w

abbrev NamingFrame :=
  Frame (fun x => { x with name := none }) (fun x : NodeS => { x with name := none })
    (fun r => { r with vCtr := 0, nCtr := 0, vNames := [], nNames := [] })

theorem registerValue_namingFrame (w : World) (g v : Nat) : NamingFrame w (registerValue w g v) := by
  unfold registerValue; split
  · exact Frame.setGr w g _
  · simp only []
    split
    · exact (Frame.setGr w g _).trans (Frame.bump _)
    · exact (Frame.setGr w g _).trans (setNamePlain_nameFrame _ v _)

theorem registerNode_namingFrame (w : World) (g n : Nat) : NamingFrame w (registerNode w g n) := by
  unfold registerNode; split
  · exact Frame.setGr w g _
  · exact (Frame.setGr w g _).trans (Frame.setNode _ n _)

end IrVerif.Kernel
