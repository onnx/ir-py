/-
Helper development for the ExternalTensor lifecycle theorems of C04 (`Model/ExtLife.lean`):
the representation invariant of the object state, its preservation by every call, and the
characterisation of every read as the read of a fresh object.
-/
import IrVerif.Model.ExtLife
import IrVerif.Lemmas.TensorReprAgree
namespace IrVerif.ExtLife
open IrVerif.Pack IrVerif.TensorRepr

theorem numpy_eq_decode (e : Ext) (bytes : List Nat) (hn : prod e.dims ≠ 0) (hb : bytes ≠ []) :
    e.numpy (some bytes) = decode e bytes := by
  unfold Ext.numpy decode
  simp only [hn, hb, if_false]
  cases e.dtype.bitwidth <;> rfl

/-- what the slots of a reachable object satisfy: a mapping is never empty; a tensor without
    elements never maps; an array, when held, is `decode` of the mapping (`[]` without elements).
    `valid`, `baseDir` and `pinned` are free: no read path depends on them beyond its first guard. -/
structure Inv (e : Ext) (s : St) : Prop where
  rawNe : ∀ b, s.raw = some b → b ≠ []
  rawZero : prod e.dims = 0 → s.raw = none
  arrZero : prod e.dims = 0 → ∀ u, s.arr = some u → u = [] ∧ e.dtype.npName.isSome = true
  arrPos : prod e.dims ≠ 0 → ∀ u, s.arr = some u → ∃ b, s.raw = some b ∧ decode e b = .ok u

theorem Inv.congr {e : Ext} {s s' : St} (h : Inv e s) (hr : s'.raw = s.raw) (ha : s'.arr = s.arr) :
    Inv e s' :=
  ⟨hr ▸ h.rawNe, fun h0 => hr ▸ h.rawZero h0, ha ▸ h.arrZero, by rw [ha, hr]; exact h.arrPos⟩

theorem inv_init (e : Ext) (fs : FS) (d : Nat) : Inv e (init fs d).st :=
  ⟨by simp [init], by simp [init], by simp [init], by simp [init]⟩

theorem inv_dropArr {e : Ext} {s : St} (h : Inv e s) : Inv e { s with arr := none } :=
  ⟨h.rawNe, h.rawZero, by simp, by simp⟩

/-- the inode `_load` maps: the named file of a tensor with elements, when it exists and is not
    empty -/
def mapped (e : Ext) : Option (List Nat) → Option (List Nat)
  | some b => if prod e.dims = 0 ∨ b = [] then none else some b
  | none => none

theorem mapped_some {e : Ext} {file : Option (List Nat)} {b : List Nat} (h : mapped e file = some b) :
    prod e.dims ≠ 0 ∧ b ≠ [] ∧ file = some b := by
  cases file with
  | none => cases h
  | some b0 =>
    simp only [mapped] at h
    split at h
    · cases h
    · rename_i hn
      cases h
      exact ⟨fun hz => hn (.inl hz), fun hb => hn (.inr hb), rfl⟩

theorem numpy_ok {e : Ext} {file : Option (List Nat)} {u : List Nat} (h : e.numpy file = .ok u) :
    (prod e.dims = 0 → u = [] ∧ e.dtype.npName.isSome = true) ∧
    (prod e.dims ≠ 0 → ∃ b, mapped e file = some b ∧ decode e b = .ok u) := by
  refine ⟨fun hz => ?_, fun hz => ?_⟩
  · unfold Ext.numpy at h
    simp only [hz, if_true] at h
    split at h <;> cases h
    exact ⟨rfl, by assumption⟩
  · cases file with
    | none => simp [Ext.numpy, hz] at h
    | some bytes =>
      by_cases hb : bytes = []
      · simp [Ext.numpy, hz, hb] at h
      · exact ⟨bytes, by simp [mapped, hz, hb], (numpy_eq_decode e bytes hz hb) ▸ h⟩

/-- the mapping is replaced as soon as there is an inode to map, also when decoding it then fails -/
theorem load_spec {e : Ext} {s : St} (hv : s.valid = true) (ha : s.arr = none)
    (file : Option (List Nat)) :
    (load e file s).2 = (match e.numpy file with | .ok _ => none | .error err => some err) ∧
    (load e file s).1.arr = (e.numpy file).toOption ∧
    (load e file s).1.raw = (match mapped e file with | some b => some b | none => s.raw) ∧
    (load e file s).1.valid = s.valid ∧ (load e file s).1.baseDir = s.baseDir := by
  by_cases hz : prod e.dims = 0
  · unfold load Ext.numpy mapped
    simp only [hv, ha, hz]
    cases file <;> cases e.dtype.npName.isSome <;> simp [ha, hv, Except.toOption]
  · cases file with
    | none => simp [load, Ext.numpy, mapped, hv, ha, hz, Except.toOption]
    | some bytes =>
      by_cases hb : bytes = []
      · simp [load, Ext.numpy, mapped, hv, ha, hz, hb, Except.toOption]
      · rw [numpy_eq_decode e bytes hz hb]
        unfold load mapped
        simp only [hv, ha, hz, hb]
        cases decode e bytes <;> simp [Except.toOption]

theorem load_arr {e : Ext} {s : St} (hv : s.valid = true) (ha : s.arr = none)
    {file : Option (List Nat)} {u : List Nat} (hu : (load e file s).1.arr = some u) :
    e.numpy file = .ok u := by
  rw [(load_spec hv ha file).2.1] at hu
  cases hn : e.numpy file with
  | ok u' => rw [hn] at hu; cases hu; rfl
  | error err => rw [hn] at hu; cases hu

theorem inv_load {e : Ext} {s : St} (hi : Inv e s) (hv : s.valid = true) (ha : s.arr = none)
    (file : Option (List Nat)) : Inv e (load e file s).1 := by
  have hraw := (load_spec (e := e) hv ha file).2.2.1
  refine ⟨fun b hb => ?_, fun hz => ?_, fun hz u hu => (numpy_ok (load_arr hv ha hu)).1 hz,
    fun hz u hu => ?_⟩
  · rw [hraw] at hb
    cases hm : mapped e file with
    | none => rw [hm] at hb; exact hi.rawNe b hb
    | some b0 => rw [hm] at hb; cases hb; exact (mapped_some hm).2.1
  · rw [hraw, show mapped e file = none by cases file <;> simp [mapped, hz]]; exact hi.rawZero hz
  · obtain ⟨b, hm, hd⟩ := (numpy_ok (load_arr hv ha hu)).2 hz
    exact ⟨b, by rw [hraw, hm], hd⟩

/-- the file content the mapping-based entry points answer from, as a function of the state -/
def seenS (s : St) (file : Option (List Nat)) : Option (List Nat) :=
  match s.arr, s.raw with
  | some _, some b => some b
  | _, _ => file

theorem seen_eq (w : World) : seen w = seenS w.st (cur w) := rfl

/-- what the invariant is for: the array held is what a fresh `numpy()` returns on the seen file -/
theorem Inv.held_fresh {e : Ext} {s : St} (hi : Inv e s) {u : List Nat} (ha : s.arr = some u)
    (file : Option (List Nat)) : e.numpy (seenS s file) = .ok u := by
  by_cases hz : prod e.dims = 0
  · obtain ⟨rfl, hnp⟩ := hi.arrZero hz u ha
    simp [Ext.numpy, hz, hnp]
  · obtain ⟨b, hb, hd⟩ := hi.arrPos hz u ha
    simp [seenS, ha, hb, numpy_eq_decode e b hz (hi.rawNe b hb), hd]

/-- how a read changes the state: the base directory never; array and mapping either not at all,
    or to what `_load` made of an object without an array -/
def ReadState (e : Ext) (file : Option (List Nat)) (s s' : St) : Prop :=
  s'.baseDir = s.baseDir ∧ s'.valid = s.valid ∧
  ((s'.arr = s.arr ∧ s'.raw = s.raw) ∨
   (s.valid = true ∧ s.arr = none ∧ s'.arr = (load e file s).1.arr ∧ s'.raw = (load e file s).1.raw))

theorem doNumpy_spec {e : Ext} {s : St} (hi : Inv e s) (hv : s.valid = true)
    (file : Option (List Nat)) (hold : Bool) :
    (doNumpy e file s hold).2 =
      (match e.numpy (seenS s file) with | .ok u => Obs.units u | .error err => Obs.raised err) ∧
    ReadState e file s (doNumpy e file s hold).1 := by
  unfold doNumpy ReadState
  simp only [hv, Bool.not_true, Bool.false_eq_true, ↓reduceIte]
  cases ha : s.arr with
  | none =>
    obtain ⟨h2, harr, _, hval, hbd⟩ := load_spec (e := e) hv ha file
    simp only [Option.isNone_none, ↓reduceIte, seenS]
    cases hn : e.numpy file with
    | ok u => rw [hn] at h2 harr; simp [h2, harr, hval, hbd, hv, ha, hn, Except.toOption]
    | error err => rw [hn] at h2 harr; simp [h2, hval, hbd, hv, ha, hn]
  | some u =>
    simp [hi.held_fresh ha file, ha, hv]

theorem doTobytes_spec {e : Ext} {s : St} (hi : Inv e s) (hv : s.valid = true)
    (file : Option (List Nat)) :
    (doTobytes e file s).2 =
      (match e.tobytes (seenS s file) with | .ok b => Obs.bytes b | .error err => Obs.raised err) ∧
    ReadState e file s (doTobytes e file s).1 := by
  unfold doTobytes ReadState
  by_cases hz : prod e.dims = 0
  · simp [hv, hz, Ext.tobytes]
  · simp only [hv, hz, Bool.not_true, Bool.false_eq_true, ↓reduceIte]
    cases ha : s.arr with
    | none =>
      obtain ⟨h2, harr, hraw, hval, hbd⟩ := load_spec (e := e) hv ha file
      simp only [Option.isNone_none, Bool.or_true, ↓reduceIte, seenS, Ext.tobytes, hz]
      cases hn : e.numpy file with
      | error err => rw [hn] at h2; simp [h2, hval, hbd, hv, ha, hn]
      | ok u =>
        -- a successful load mapped the named file: the slice is cut from it
        rw [hn] at h2
        obtain ⟨b, hm, _⟩ := (numpy_ok hn).2 hz
        obtain ⟨_, _, rfl⟩ := mapped_some hm
        rw [hm] at hraw
        cases e.byteCount <;> simp [h2, hraw, hval, hbd, hv, ha, hn]
    | some u =>
      obtain ⟨b, hb, hd⟩ := hi.arrPos hz u ha
      simp only [hb, Option.isNone_some, Bool.or_self, Bool.false_eq_true, ↓reduceIte, seenS, ha,
        Ext.tobytes, hz, numpy_eq_decode e b hz (hi.rawNe b hb), hd]
      cases e.byteCount <;> simp [hv, ha, hb]

theorem doTofile_spec (e : Ext) (s : St) (hv : s.valid = true) (file : Option (List Nat)) :
    (doTofile e file s).2 =
      (match e.tofile file with | .ok (b, r) => Obs.wrote b r | .error err => Obs.raised err) ∧
    (doTofile e file s).1 = s := by
  unfold doTofile
  simp only [hv]
  cases e.tofile file with
  | ok p => cases p; simp
  | error err => simp

theorem read_invalid (e : Ext) (s : St) (hv : s.valid = false) (file : Option (List Nat)) (hold : Bool) :
    (doNumpy e file s hold).2 = .raised "ValueError" ∧ (doTobytes e file s).2 = .raised "ValueError" ∧
    (doTofile e file s).2 = .raised "ValueError" ∧
    (doNumpy e file s hold).1 = s ∧ (doTobytes e file s).1 = s ∧ (doTofile e file s).1 = s := by
  simp [doNumpy, doTobytes, doTofile, hv]

theorem ReadState.refl (e : Ext) (file : Option (List Nat)) (s : St) : ReadState e file s s :=
  ⟨rfl, rfl, .inl ⟨rfl, rfl⟩⟩

theorem step_read_state {e : Ext} {w : World} (hi : Inv e w.st) (en : Entry) (hold : Bool) :
    ReadState e (cur w) w.st (step e w (.read en hold)).1.st ∧ (step e w (.read en hold)).1.fs = w.fs := by
  refine ⟨?_, by cases en <;> rfl⟩
  cases hv : w.st.valid with
  | false =>
    -- an invalidated object raises before it touches anything
    obtain ⟨_, _, _, h1, h2, h3⟩ := read_invalid e w.st hv (cur w) hold
    cases en <;> simp only [step, h1, h2, h3] <;> exact .refl _ _ _
  | true =>
    cases en
    · exact (doNumpy_spec hi hv _ _).2
    · exact (doNumpy_spec hi hv _ _).2
    · exact (doTobytes_spec hi hv _).2
    · simp only [step, (doTofile_spec e _ hv _).2]; exact .refl _ _ _

theorem ReadState.inv {e : Ext} {file : Option (List Nat)} {s s' : St} (hi : Inv e s)
    (h : ReadState e file s s') : Inv e s' :=
  h.2.2.elim (fun ⟨ha, hr⟩ => hi.congr hr ha) (fun ⟨hv, ha0, ha, hr⟩ => (inv_load hi hv ha0 file).congr hr ha)

theorem release_arr (s : St) :
    (doRelease s).1.arr = none ∧ (doRelease s).1.valid = s.valid ∧
    (doRelease s).1.baseDir = s.baseDir ∧
    (((doRelease s).2 = .done ∧ (doRelease s).1.raw = none) ∨
     ((doRelease s).2 = .raised "BufferError" ∧ (doRelease s).1.raw = s.raw)) := by
  unfold doRelease
  cases hr : s.raw with
  | none => simp
  | some b => cases hp : s.pinned <;> simp

theorem setBaseDir_ne (s : St) (d : Nat) (hne : d ≠ s.baseDir) :
    (doSetBaseDir s d).1.arr = none ∧ (doSetBaseDir s d).1.valid = s.valid ∧
    (((doSetBaseDir s d).2 = .done ∧ (doSetBaseDir s d).1.baseDir = d) ∨
     ((doSetBaseDir s d).2 = .raised "BufferError" ∧ (doSetBaseDir s d).1.baseDir = s.baseDir)) := by
  obtain ⟨ha, hv, hb, hr⟩ := release_arr s
  simp only [doSetBaseDir, ne_eq, hne, not_false_eq_true, ↓reduceIte]
  rcases hr with ⟨h2, _⟩ | ⟨h2, _⟩ <;> simp [h2, ha, hv, hb]

theorem inv_doRelease {e : Ext} {s : St} (h : Inv e s) : Inv e (doRelease s).1 := by
  unfold doRelease
  simp only
  split
  · exact inv_dropArr h
  · split
    · exact inv_dropArr h
    · exact ⟨by simp, by simp, by simp, by simp⟩

theorem inv_doSetBaseDir {e : Ext} {s : St} (h : Inv e s) (d : Nat) : Inv e (doSetBaseDir s d).1 := by
  unfold doSetBaseDir
  split
  · have hr := inv_doRelease (e := e) h
    dsimp only
    split
    · exact hr
    · exact hr.congr rfl rfl
  · exact h.congr rfl rfl

theorem inv_step {e : Ext} {w : World} (h : Inv e w.st) (op : Op) : Inv e (step e w op).1.st := by
  cases op with
  | read en hold => exact (step_read_state h en hold).1.inv h
  | release => exact inv_doRelease h
  | invalidate => exact h.congr rfl rfl
  | setBaseDir d => exact inv_doSetBaseDir h d
  | dropHolds => exact h.congr rfl rfl
  | put d c => exact h
  | del d => exact h

theorem inv_run {e : Ext} (ops : List Op) {w : World} (h : Inv e w.st) : Inv e (run e w ops).1.st := by
  induction ops generalizing w with
  | nil => exact h
  | cons op ops ih => exact ih (inv_step h op)

theorem inv_reach (e : Ext) (fs : FS) (d : Nat) (ops : List Op) : Inv e (run e (init fs d) ops).1.st :=
  inv_run ops (inv_init e fs d)

theorem read_obs {e : Ext} {w : World} (h : Inv e w.st) (hv : w.st.valid = true) (en : Entry)
    (hold : Bool) :
    (step e w (.read en hold)).2 = fresh e en (if en = .tofile then cur w else seen w) := by
  cases en
  · simp only [step, fresh, seen_eq]; exact (doNumpy_spec h hv _ _).1
  · simp only [step, fresh, seen_eq]; exact (doNumpy_spec h hv _ _).1
  · simp only [step, fresh, seen_eq]; exact (doTobytes_spec h hv _).1
  · simp only [step, fresh]; exact (doTofile_spec e _ hv _).1

theorem step_valid_false {e : Ext} {w : World} (hv : w.st.valid = false) (op : Op) :
    (step e w op).1.st.valid = false := by
  cases op with
  | read en hold =>
    have R := read_invalid e w.st hv (cur w) hold
    cases en <;> simp [step, R, hv]
  | release => exact (release_arr w.st).2.1.trans hv
  | invalidate => rfl
  | setBaseDir d =>
    by_cases hd : d = w.st.baseDir
    · simp only [step, doSetBaseDir, hd, ne_eq, not_true_eq_false, ↓reduceIte]; exact hv
    · exact (setBaseDir_ne w.st d hd).2.1.trans hv
  | dropHolds => exact hv
  | put d c => exact hv
  | del d => exact hv

theorem run_valid_false {e : Ext} (ops : List Op) {w : World} (hv : w.st.valid = false) :
    (run e w ops).1.st.valid = false := by
  induction ops generalizing w with
  | nil => exact hv
  | cons op ops ih => exact ih (step_valid_false hv op)

theorem run_append (e : Ext) (w : World) (a b : List Op) :
    (run e w (a ++ b)).1 = (run e (run e w a).1 b).1 := by
  induction a generalizing w with
  | nil => rfl
  | cons op a ih => simp only [List.cons_append, run]; exact ih _

theorem read_obs_invalid (e : Ext) (w : World) (hv : w.st.valid = false) (en : Entry) (hold : Bool) :
    (step e w (.read en hold)).2 = .raised "ValueError" := by
  have R := read_invalid e w.st hv (cur w) hold
  cases en <;> simp [step, R]

theorem coherent_iff (w : World) : coherent w = true ↔
    ∀ u b, w.st.arr = some u → w.st.raw = some b → cur w = some b := by
  unfold coherent
  cases ha : w.st.arr with
  | none => simp
  | some u =>
    cases hr : w.st.raw with
    | none => simp
    | some b => simp

theorem seen_of_coherent {w : World} (h : coherent w = true) : seen w = cur w := by
  unfold seen
  cases ha : w.st.arr with
  | none => rfl
  | some u =>
    cases hr : w.st.raw with
    | none => rfl
    | some b => exact ((coherent_iff w).mp h u b ha hr).symm

theorem seen_of_arr_none {w : World} (h : w.st.arr = none) : seen w = cur w := by
  unfold seen; simp [h]

theorem coherent_of_arr_none {w : World} (h : w.st.arr = none) : coherent w = true := by
  unfold coherent; simp [h]

theorem fsGet_put_ne (fs : FS) (d b : Nat) (c : List Nat) (h : d ≠ b) : fsGet (fsPut fs d c) b = fsGet fs b := by
  unfold fsGet fsPut
  simp only [List.lookup]
  have : (b == d) = false := by simp; exact fun h' => h h'.symm
  simp [this]

theorem fsGet_del_ne (fs : FS) (d b : Nat) (h : d ≠ b) : fsGet (fsDel fs d) b = fsGet fs b := by
  unfold fsGet fsDel
  induction fs with
  | nil => rfl
  | cons p fs ih =>
    obtain ⟨k, v⟩ := p
    by_cases hp : k = d
    · subst hp
      have hb : (b == k) = false := by simp; exact fun h' => h h'.symm
      simp [List.lookup_cons, hb]
      simpa using ih
    · have : (k != d) = true := by simp [hp]
      simp only [List.filter_cons, this, ↓reduceIte, List.lookup_cons]
      split
      · rfl
      · simpa using ih

theorem load_coherent {e : Ext} {s : St} (hi : Inv e s) (hv : s.valid = true) (ha : s.arr = none)
    (file : Option (List Nat)) (u b : List Nat)
    (h1 : (load e file s).1.arr = some u) (h2 : (load e file s).1.raw = some b) : file = some b := by
  by_cases hz : prod e.dims = 0
  · rw [(inv_load hi hv ha file).rawZero hz] at h2; cases h2
  · obtain ⟨b', hm, _⟩ := (numpy_ok (load_arr hv ha h1)).2 hz
    rw [(load_spec hv ha file).2.2.1, hm] at h2
    cases h2
    exact (mapped_some hm).2.2

theorem coherent_step {e : Ext} {w : World} (hi : Inv e w.st) (hc : coherent w = true) (op : Op)
    (hq : op.disturbs w = false) : coherent (step e w op).1 = true := by
  -- the environment only changes the file system: enough that a loaded object still sees its file
  have hfs : ∀ w' : World, w'.st = w.st → (loaded w.st = true → cur w' = cur w) →
      coherent w' = true := by
    intro w' hst hcur
    apply (coherent_iff _).mpr
    intro u b h1 h2
    rw [hst] at h1 h2
    rw [hcur (by simp [loaded, h1, h2])]
    exact (coherent_iff _).mp hc u b h1 h2
  cases op with
  | read en hold =>
    obtain ⟨⟨hb, _, hs⟩, hfs⟩ := step_read_state hi en hold
    apply (coherent_iff _).mpr
    intro u b h1 h2
    show fsGet (step e w (.read en hold)).1.fs (step e w (.read en hold)).1.st.baseDir = some b
    rw [hfs, hb]
    rcases hs with ⟨ha, hr⟩ | ⟨hv, ha, ha', hr'⟩
    · exact (coherent_iff _).mp hc u b (ha ▸ h1) (hr ▸ h2)
    · exact load_coherent hi hv ha (cur w) u b (ha' ▸ h1) (hr' ▸ h2)
  | release => exact coherent_of_arr_none (release_arr w.st).1
  | invalidate => exact (coherent_iff _).mpr ((coherent_iff w).mp hc)
  | setBaseDir d =>
    by_cases hd : d = w.st.baseDir
    · apply (coherent_iff _).mpr
      intro u b h1 h2
      simp only [step, doSetBaseDir, hd, ne_eq, not_true_eq_false, ↓reduceIte] at h1 h2
      show fsGet w.fs _ = some b
      simp only [step, doSetBaseDir, hd, ne_eq, not_true_eq_false, ↓reduceIte]
      exact (coherent_iff _).mp hc u b h1 h2
    · exact coherent_of_arr_none (setBaseDir_ne w.st d hd).1
  | dropHolds => exact (coherent_iff _).mpr ((coherent_iff w).mp hc)
  | put d c =>
    exact hfs _ rfl (fun hl => by
      simp only [Op.disturbs, hl, Bool.true_and, beq_eq_false_iff_ne, ne_eq] at hq
      exact fsGet_put_ne _ _ _ _ hq)
  | del d =>
    exact hfs _ rfl (fun hl => by
      simp only [Op.disturbs, hl, Bool.true_and, beq_eq_false_iff_ne, ne_eq] at hq
      exact fsGet_del_ne _ _ _ hq)

theorem coherent_run {e : Ext} (ops : List Op) {w : World} (hi : Inv e w.st) (hc : coherent w = true)
    (hq : quiet e w ops = true) : coherent (run e w ops).1 = true := by
  induction ops generalizing w with
  | nil => exact hc
  | cons op ops ih =>
    simp only [quiet, Bool.and_eq_true, Bool.not_eq_true'] at hq
    exact ih (inv_step hi op) (coherent_step hi hc op hq.1) hq.2

/-! The history theorems of `Props/C04.lean` are the following at `w = (run e (init fs d) ops).1`. -/

theorem read_any {e : Ext} {w : World} (hi : Inv e w.st) (en : Entry) (hold : Bool) :
    (step e w (.read en hold)).2 =
      if w.st.valid = true then fresh e en (if en = .tofile then cur w else seen w)
      else .raised "ValueError" := by
  by_cases hv : w.st.valid = true
  · rw [if_pos hv]; exact read_obs hi hv en hold
  · rw [if_neg hv]; exact read_obs_invalid e _ (by simpa using hv) en hold

theorem read_after_release {e : Ext} {w : World} (hi : Inv e w.st) (hv : w.st.valid = true)
    (en : Entry) (hold : Bool) :
    (step e (step e w .release).1 (.read en hold)).2 = fresh e en (cur w) := by
  obtain ⟨harr, hval, hbd, _⟩ := release_arr w.st
  have hcur : cur (step e w .release).1 = cur w := by simp only [step, cur]; rw [hbd]
  rw [read_obs (inv_step hi .release) (hval.trans hv) en hold, seen_of_arr_none harr, hcur]
  split <;> rfl

theorem read_after_setBaseDir {e : Ext} {w : World} (hi : Inv e w.st) {d' : Nat}
    (hne : d' ≠ w.st.baseDir) (hv : w.st.valid = true) :
    (((step e w (.setBaseDir d')).2 = .done ∧ (step e w (.setBaseDir d')).1.st.baseDir = d') ∨
      ((step e w (.setBaseDir d')).2 = .raised "BufferError" ∧
        (step e w (.setBaseDir d')).1.st.baseDir = w.st.baseDir)) ∧
    ∀ (en : Entry) (hold : Bool),
      (step e (step e w (.setBaseDir d')).1 (.read en hold)).2
        = fresh e en (fsGet w.fs (step e w (.setBaseDir d')).1.st.baseDir) := by
  obtain ⟨harr, hval, hres⟩ := setBaseDir_ne w.st d' hne
  refine ⟨hres, fun en hold => ?_⟩
  rw [read_obs (inv_step hi (.setBaseDir d')) (hval.trans hv) en hold, seen_of_arr_none harr]
  have : cur (step e w (.setBaseDir d')).1 = fsGet w.fs (step e w (.setBaseDir d')).1.st.baseDir := rfl
  rw [this]
  split <;> rfl

end IrVerif.ExtLife
