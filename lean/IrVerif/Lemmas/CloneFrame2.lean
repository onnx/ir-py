/-
Frame lemma for the extended editing alphabet `IrVerif.Clone.Edit2` (graph inputs, initializer
mapping, sort, insert_before/after, replace_all_uses_with, resize_inputs/outputs, model.functions):
with the extended separation (`CellOutX true`: also the users of a value, the outputs of a node, the
inputs and initializers of a graph do not lead into the protected region `B`), an edit whose
arguments are outside `B` leaves every cell of `B` as it was and re-establishes the separation.
-/
import IrVerif.Lemmas.CloneFrame
namespace IrVerif.Clone

section
variable {strict : Bool} {B : Nat → Prop} {wB : World}

def ArgsOut2 (B : Nat → Prop) (e : Edit2) : Prop := ∀ a ∈ e.args, ¬ B a

theorem fforM'_good {f : α → M Unit} (l : List α) (s : St)
    (hf : ∀ a ∈ l, ∀ s1, FInv true strict B wB s1 → Hoare (frameL true strict B wB) (f a) s1 (fun _ _ => True)) :
    Hoare (frameL true strict B wB) (forM' f l) s (fun _ _ => True) :=
  Hoare.forM' (L := frameL true strict B wB) l s fun a ha s1 hE _ => hf a ha s1 hE.1

theorem fsetName_good {s : St} (v : Nat) (nm : Option String) (hv : ¬ B v) :
    Hoare (frameL true strict B wB) (applyEdit0 (.setName v nm)) s (fun _ _ => True) :=
  applyEdit0_frame (.setName v nm) fun a ha => by simp [Edit.args] at ha; subst ha; exact hv

theorem fclearInputs_good {s : St} (n : Nat) (hn : ¬ B n) (l : List Nat) :
    Hoare (frameL true strict B wB) (forM' (fun i => applyEdit0 (.replaceInput n i none)) l) s (fun _ _ => True) :=
  fforM'_good _ _ fun i _ _ _ => applyEdit0_frame (.replaceInput n i none) fun a ha => by
    simp [Edit.args] at ha; subst ha; exact hn

theorem funsetOwner_good {s : St} (g : Nat) (clear : ValueS → ValueS) (v : Nat)
    (hv : ¬ B v)
    (hclear : ∀ x, CellOutX true strict B (.val x) → CellOutX true strict B (.val (clear x))) :
    Hoare (frameL true strict B wB) (unsetOwner g clear v) s (fun _ _ => True) := by
  unfold unsetOwner
  refine fread .val fun vs _ _ hvso => ?_
  refine Hoare.guard fun _ => ?_
  have hc := hclear vs (hvso hv)
  refine fset_good hv ?_
  split
  · exact hc
  · obtain ⟨a1, a2, a3, a4, _, a6⟩ := hc
    exact ⟨a1, a2, a3, a4, trivial, a6⟩

theorem fassertOwner_good {s : St} (g v : Nat) :
    Hoare (frameL true strict B wB) (assertOwner g v) s (fun _ _ => True) := by
  unfold assertOwner
  refine fread .val fun vs _ _ _ => ?_
  refine Hoare.guard fun _ => ?_
  exact Hoare.pure trivial

theorem frenameIfUnnamed_good {s : St} (v : Nat) (key : String) (vs : ValueS)
    (hv : ¬ B v) :
    Hoare (frameL true strict B wB) (renameIfUnnamed v key vs) s (fun _ _ => True) := by
  unfold renameIfUnnamed
  split
  · exact fsetName_good v (some key) hv
  · exact Hoare.pure trivial

theorem funsetOldInit_good {s : St} (g : Nat) (key : String)
    (hg : ¬ B g) :
    Hoare (frameL true strict B wB) (unsetOldInit g key) s (fun _ _ => True) := by
  unfold unsetOldInit
  refine fread .graph fun gs _ _ hgso => ?_
  obtain ⟨go, gp, gm, gx⟩ := hgso hg
  split
  · next old hold =>
    have hoB : ¬ B old := (gx rfl).2 _ (ListFacts.mem_of_lookup hold)
    exact funsetOwner_good g _ old hoB (fun x hx => hx)
  · exact Hoare.pure trivial

theorem fsetInitFinish_good {s : St} (g : Nat) (key : String) (v : Nat)
    (hg : ¬ B g) (hv : ¬ B v) :
    Hoare (frameL true strict B wB) (setInitFinish g key v) s (fun _ _ => True) := by
  unfold setInitFinish
  refine fread .val fun vs2 _ _ hvs2o => ?_
  refine Hoare.guard fun _ => ?_
  hbind (fset_good hv (c := .val { vs2 with isInit := true, graph := some g })
    ((hvs2o hv).val_setGraph (g := some g) hg)) with u2 s7 - - hq7
  refine fread .graph fun gs3 _ _ hgs3o => ?_
  obtain ⟨go3, gp3, gm3, gx3⟩ := hgs3o hg
  refine fset_good hg (show CellOutX true strict B
    (.graph { gs3 with inits := dictSet gs3.inits key v }) from
    ⟨go3, gp3, gm3, fun hu => ⟨(gx3 hu).1, fun e he => ?_⟩⟩)
  rcases mem_dictSet he with h1 | h1
  · exact (gx3 hu).2 e h1
  · rw [h1]; exact hv

theorem fsetInitCore_good {s : St} (g : Nat) (key : String) (v : Nat)
    (hg : ¬ B g) (hv : ¬ B v) :
    Hoare (frameL true strict B wB) (setInitCore g key v) s (fun _ _ => True) := by
  unfold setInitCore
  refine fread .graph fun gs _ _ _ => ?_
  refine Hoare.guard fun _ => ?_
  refine fread .val fun vs _ _ _ => ?_
  refine Hoare.guard fun _ => Hoare.guard fun _ => Hoare.guard fun _ =>
    Hoare.guard fun _ => ?_
  hbind (frenameIfUnnamed_good v key vs hv) with u0 s3 - - hq3
  hbind (funsetOldInit_good g key hg) with u1 s4 - - hq4
  exact fsetInitFinish_good g key v hg hv

theorem funsetOutput_good {s : St} (g v : Nat) (still : Bool)
    (hv : ¬ B v) :
    Hoare (frameL true strict B wB) (unsetOutput g v still) s (fun _ _ => True) := by
  unfold unsetOutput
  split
  · exact fassertOwner_good g v
  · exact funsetOwner_good g _ v hv (fun x hx => hx)

theorem fsetOutputAt_good {s : St} (g i r : Nat)
    (hg : ¬ B g) (hr : ¬ B r) :
    Hoare (frameL true strict B wB) (setOutputAt g i r) s (fun _ _ => True) := by
  unfold setOutputAt
  refine fread .val fun rs _ _ hrso => ?_
  refine Hoare.guard fun _ => ?_
  hbind (fset_good hr (c := .val { rs with isOut := true, graph := some g })
    ((hrso hr).val_setGraph (g := some g) hg)) with u2 s2 - - hq2
  refine fread .graph fun gs _ _ hgso => ?_
  refine fset_good hg ((hgso hg).graph_setOutputs fun x hx => ?_)
  rcases List.mem_or_eq_of_mem_set hx with h1 | h1
  · exact (hgso hg).graph_outputs x h1
  · rw [h1]; exact hr

theorem freplaceOutputAt_good {s : St} (g v r i : Nat)
    (hg : ¬ B g) (hv : ¬ B v) (hr : ¬ B r) :
    Hoare (frameL true strict B wB) (replaceOutputAt g v r i) s (fun _ _ => True) := by
  unfold replaceOutputAt
  refine fread .graph fun gs _ _ _ => ?_
  refine fread .val fun rs _ _ _ => ?_
  refine Hoare.guard fun _ => ?_
  hbind (funsetOutput_good g v _ hv) with u0 s3 - - hq3
  exact fsetOutputAt_good g i r hg hr

theorem freplaceOutputs_good (g v r : Nat) (hg : ¬ B g) (hv : ¬ B v) (hr : ¬ B r) :
    ∀ (l : List Nat) (s : St), Hoare (frameL true strict B wB) (replaceOutputs g v r l) s (fun _ _ => True)
  | [], s => by unfold replaceOutputs; exact Hoare.pure trivial
  | i :: is, s => by
    unfold replaceOutputs
    refine fread .graph fun gs _ _ _ => ?_
    split
    · hbind (freplaceOutputAt_good g v r i hg hv hr) with u0 s2 - - hq2
      exact freplaceOutputs_good g v r hg hv hr is s2
    · exact freplaceOutputs_good g v r hg hv hr is s

theorem frauwOutputs_good {s : St} (v r : Nat) (outs : Bool)
    (hv : ¬ B v) (hr : ¬ B r) :
    Hoare (frameL true strict B wB) (rauwOutputs v r outs) s (fun _ _ => True) := by
  unfold rauwOutputs
  refine fread .val fun vs _ _ hvso => ?_
  obtain ⟨_, _, _, _, a5, _⟩ := hvso hv
  split
  · split
    · exact Hoare.fail
    · next g hgq =>
      rw [hgq] at a5
      refine Hoare.guard fun _ => ?_
      refine fread .graph fun gs _ _ _ => ?_
      exact freplaceOutputs_good g v r a5 hv hr _ s
  · exact Hoare.pure trivial

theorem finsertNode_good {s : St} (after : Bool) (g anchor n : Nat)
    (hg : ¬ B g) (hn : ¬ B n) :
    Hoare (frameL true strict B wB) (insertNode after g anchor n) s (fun _ _ => True) := by
  unfold insertNode
  refine fread .graph fun gs _ _ _ => ?_
  refine Hoare.guard fun _ => ?_
  refine fread .node fun as hI2 _ _ => ?_
  refine Hoare.guard fun _ => ?_
  refine Hoare.bindQuiet Quiet.getWorld fun w _ => ?_
  refine Hoare.bindQuiet (Quiet.liftE _) fun _ _ => ?_
  refine fread .node fun ns _ _ hnso => ?_
  hbind (fset_good hn (show CellOutX true strict B (.node { ns with graph := some g }) from
    hnso hn)) with u0 s4 - - hq4
  refine fread .graph fun gs2 _ _ hgs2o => ?_
  refine Hoare.ite (fun _ => ?_) fun _ => Hoare.fail
  exact fset_good hg (show CellOutX true strict B (.graph { gs2 with nodes := _ }) from
    hgs2o hg)

theorem fclearProducer_good {s : St} (v : Nat) (hv : ¬ B v) :
    Hoare (frameL true strict B wB) (clearProducer v) s (fun _ _ => True) := by
  exact fmodify (f := fun vs => { vs with producer := none, index := none }) .val hv fun _ h => h

theorem fcheckNoUses_good {s : St} (v : Nat) :
    Hoare (frameL true strict B wB) (checkNoUses v) s (fun _ _ => True) := by
  unfold checkNoUses
  refine fread .val fun vs _ _ _ => ?_
  refine Hoare.ite (fun _ => ?_) fun _ => Hoare.fail
  exact Hoare.pure trivial

theorem fdropShardingOf_good {s : St} (n v : Nat) (hn : ¬ B n) :
    Hoare (frameL true strict B wB) (dropShardingOf n v) s (fun _ _ => True) := by
  unfold dropShardingOf
  refine fread .node fun ns _ _ hnso => ?_
  obtain ⟨a1, a2, a3, a4⟩ := hnso hn
  refine fset_good hn ?_
  unfold dropSharding
  split
  · exact ⟨a1, a2, a3, a4⟩
  · exact ⟨a1, a2, a3, a4⟩

theorem applyEdit2_frame (e : Edit2) {s : St} (ha : ArgsOut2 B e) :
    Hoare (frameL true strict B wB) (applyEdit2 e) s (fun _ _ => True) := by
  cases e with
  | base e => exact applyEdit_frame e ha
  | appendInput g v =>
    have hg : ¬ B g := ha g List.mem_cons_self
    have hv : ¬ B v := ha v (List.mem_cons_of_mem _ List.mem_cons_self)
    unfold applyEdit2
    refine fread .graph fun gs _ _ hgso => ?_
    refine Hoare.guard fun _ => ?_
    refine fread .val fun vs _ _ hvso => ?_
    refine Hoare.guard fun _ => ?_
    refine Hoare.guard fun _ => ?_
    hbind (fset_good hv (c := .val { vs with isIn := true, graph := some g })
      ((hvso hv).val_setGraph (g := some g) hg)) with u0 s3 - - hq3
    refine fset_good hg ((hgso hg).graph_setInputs fun x hx => ?_)
    rcases List.mem_append.mp hx with h1 | h1
    · exact (hgso hg).graph_inputs x h1
    · simp at h1; subst h1; exact hv
  | popInput g =>
    have hg : ¬ B g := ha g List.mem_cons_self
    unfold applyEdit2
    refine fread .graph fun gs _ _ hgso => ?_
    obtain ⟨go, gp, gm, gx⟩ := hgso hg
    refine Hoare.guard fun _ => ?_
    split
    · exact Hoare.fail
    · next v hv =>
      have hvB : ¬ B v := (gx rfl).1 v (List.mem_of_getLast? hv)
      have hdrop : CellOutX true strict B (.graph { gs with inputs := gs.inputs.dropLast }) :=
        ⟨go, gp, gm, fun hu => ⟨fun x hx => (gx hu).1 x (List.dropLast_subset _ hx), (gx hu).2⟩⟩
      hbind (fset_good hg hdrop) with u s2 - - hq2
      split
      · exact fassertOwner_good g v
      · exact funsetOwner_good g _ v hvB (fun x hx => hx)
  | setInit g key v =>
    exact fsetInitCore_good g key v (ha g List.mem_cons_self) (ha v (List.mem_cons_of_mem _ List.mem_cons_self))
  | delInit g key =>
    have hg : ¬ B g := ha g List.mem_cons_self
    unfold applyEdit2
    refine fread .graph fun gs _ _ hgso => ?_
    obtain ⟨go, gp, gm, gx⟩ := hgso hg
    refine Hoare.guard fun _ => ?_
    split
    · exact Hoare.fail
    · next v hv =>
      have hvB : ¬ B v := (gx rfl).2 _ (ListFacts.mem_of_lookup hv)
      hbind (funsetOwner_good g _ v hvB (fun x hx => hx)) with u0 s2 - - hq2
      refine fread .graph fun gs2 _ _ hgs2o => ?_
      obtain ⟨go2, gp2, gm2, gx2⟩ := hgs2o hg
      exact fset_good hg (show CellOutX true strict B
        (.graph { gs2 with inits := dictErase gs2.inits key }) from
        ⟨go2, gp2, gm2, fun hu => ⟨(gx2 hu).1, fun e he => (gx2 hu).2 e (List.mem_filter.mp he).1⟩⟩)
  | registerInit g v =>
    have hg : ¬ B g := ha g List.mem_cons_self
    have hv : ¬ B v := ha v (List.mem_cons_of_mem _ List.mem_cons_self)
    unfold applyEdit2
    refine fread .graph fun gs _ _ _ => ?_
    refine fread .val fun vs _ _ _ => ?_
    split
    · exact Hoare.fail
    · refine Hoare.guard fun _ => Hoare.guard fun _ => Hoare.guard fun _ => ?_
      exact fsetInitCore_good g _ v hg hv
  | sort g =>
    have hg : ¬ B g := ha g List.mem_cons_self
    unfold applyEdit2
    refine fread .graph fun gs _ _ hgso => ?_
    refine Hoare.bindQuiet Quiet.getWorld fun w _ => ?_
    refine Hoare.bindQuiet (Quiet.liftE _) fun order _ => ?_
    exact fset_good hg (show CellOutX true strict B (.graph { gs with nodes := order }) from
      hgso hg)
  | insertBefore g anchor n =>
    exact finsertNode_good false g anchor n (ha g List.mem_cons_self) (ha n (List.mem_cons_of_mem _ (List.mem_cons_of_mem _ List.mem_cons_self)))
  | insertAfter g anchor n =>
    exact finsertNode_good true g anchor n (ha g List.mem_cons_self) (ha n (List.mem_cons_of_mem _ (List.mem_cons_of_mem _ List.mem_cons_self)))
  | replaceAllUses v r outs =>
    have hv : ¬ B v := ha v List.mem_cons_self
    have hr : ¬ B r := ha r (List.mem_cons_of_mem _ List.mem_cons_self)
    unfold applyEdit2
    hbind (frauwOutputs_good v r outs hv hr) with u0 s1 - - hq1
    refine fread .val fun vs _ _ hvso => ?_
    obtain ⟨_, _, _, _, _, _, a7⟩ := hvso hv
    refine fforM'_good _ _ ?_
    intro u hu s3 hI3
    refine applyEdit0_frame (.replaceInput u.1 u.2 (some r)) ?_
    intro a haa
    simp [Edit.args] at haa
    rcases haa with rfl | rfl
    · exact a7 rfl u hu
    · exact hr
  | resizeInputs n k =>
    have hn : ¬ B n := ha n List.mem_cons_self
    unfold applyEdit2
    refine fread .node fun ns _ _ hnso => ?_
    obtain ⟨a1, a2, a3, a4⟩ := hnso hn
    split
    · exact Hoare.pure trivial
    · split
      · hbind (fclearInputs_good n hn ((List.range ns.inputs.length).drop k)) with u0 s2 - - hq2
        refine fread .node fun ns2 _ _ hns2o => ?_
        obtain ⟨b1, b2, b3, b4⟩ := hns2o hn
        exact fset_good hn (show CellOutX true strict B (.node { ns2 with inputs := ns2.inputs.take k }) from
          ⟨fun hs x hx => b1 hs x (List.mem_of_mem_take hx), b2, b3, b4⟩)
      · refine fset_good hn (show CellOutX true strict B
          (.node { ns with inputs := ns.inputs ++ List.replicate (k - ns.inputs.length) none }) from
          ⟨fun hs x hx => ?_, a2, a3, a4⟩)
        rcases List.mem_append.mp hx with h1 | h1
        · exact a1 hs x h1
        · simp at h1
  | resizeOutputs n k =>
    have hn : ¬ B n := ha n List.mem_cons_self
    unfold applyEdit2
    refine fread .node fun ns _ _ hnso => ?_
    obtain ⟨a1, a2, a3, a4⟩ := hnso hn
    split
    · exact Hoare.pure trivial
    · split
      · have hrem : ∀ x ∈ ns.outputs.drop k, ¬ B x := fun x hx => a4 rfl x (List.mem_of_mem_drop hx)
        hbind (fforM'_good _ _ (fun x _ s3 hI3 => fcheckNoUses_good x))
          with u0 s2 - - hq2
        hbind (fforM'_good _ _ (fun x hx s3 hI3 => fclearProducer_good x (hrem x hx)))
          with u1 s3 - - hq3
        refine fread .node fun ns2 _ hns2 hns2o => ?_
        obtain ⟨b1, b2, b3, b4⟩ := hns2o hn
        hbind (fset_good hn (show CellOutX true strict B (.node { ns2 with outputs := ns2.outputs.take k }) from
          ⟨b1, b2, b3, fun hu x hx => b4 hu x (List.mem_of_mem_take hx)⟩)) with u2 s5 - - hq5
        exact fforM'_good _ _ (fun x _ s6 hI6 => fdropShardingOf_good n x hn)
      · hbind (fmkOutputs_good n (k - ns.outputs.length) ns.outputs.length s) with outs s2 - - houts
        refine fread .node fun ns2 _ _ hns2o => ?_
        obtain ⟨b1, b2, b3, b4⟩ := hns2o hn
        refine fset_good hn (show CellOutX true strict B (.node { ns2 with outputs := ns2.outputs ++ outs }) from
          ⟨b1, b2, b3, fun hu x hx => ?_⟩)
        rcases List.mem_append.mp hx with h1 | h1
        · exact b4 hu x h1
        · exact houts x h1
  | putFunc m idx f =>
    have hm : ¬ B m := ha m List.mem_cons_self
    unfold applyEdit2
    refine fread .model fun ms _ _ hmso => ?_
    have hmo := hmso hm
    hbind Hoare.readFunc with fs s2 - - hq2
    split
    · exact fset_good hm (show CellOutX true strict B (.model { ms with funcs := _ }) from hmo)
    · refine Hoare.ite (fun _ => ?_) fun _ => Hoare.fail
      exact fset_good hm (show CellOutX true strict B (.model { ms with funcs := _ }) from hmo)
  | delFunc m i =>
    have hm : ¬ B m := ha m List.mem_cons_self
    unfold applyEdit2
    refine fread .model fun ms _ _ hmso => ?_
    have hmo := hmso hm
    refine Hoare.ite (fun _ => ?_) fun _ => Hoare.fail
    exact fset_good hm (show CellOutX true strict B (.model { ms with funcs := _ }) from hmo)

end

theorem runHistory2_eq : ∀ (es : List Edit2) (w : World), runHistory2 es w = runHist applyEdit2 es w
  | [], _ => rfl
  | e :: es, w => by
    unfold runHistory2 runHist
    rcases run (applyEdit2 e) w with ⟨r, w1⟩
    simp only [runHistory2_eq es w1]

theorem runHistory2_inv {strict : Bool} {B : Nat → Prop} {wB : World} (es : List Edit2) (w : World)
    (h : FInv true strict B wB { w := w }) (ha : ∀ e ∈ es, ArgsOut2 B e) :
    FInv true strict B wB { w := (runHistory2 es w).2 } := by
  rw [runHistory2_eq]
  exact runHist_inv (fun e _ hI ha => (applyEdit2_frame e ha).frame hI) es w h ha

theorem fdelInit_good {strict : Bool} {B : Nat → Prop} {wB : World} {s : St} (g : Nat) (key : String) (hg : ¬ B g) :
    Hoare (frameL true strict B wB) (applyEdit2 (.delInit g key)) s (fun _ _ => True) :=
  applyEdit2_frame (.delInit g key) fun a ha => by simp [Edit2.args] at ha; subst ha; exact hg

theorem Edit2.framed : Framed true runHistory2 Edit2.args :=
  Framed.of_step runHistory2_eq fun _ _ e _ hI ha => (applyEdit2_frame e ha).frame hI

end IrVerif.Clone
