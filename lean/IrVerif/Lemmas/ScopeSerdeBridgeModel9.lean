import IrVerif.Lemmas.ScopeSerdeBridgeModel9Deser
/-!
The C02/C03 bridge for models in the IR version < 10 format, serialization: the experimental entries (`expOfFunc` /
`serExperimentalR`) and the reserved names of the two models agree; the fragment is `sharedSM9`.
-/
namespace IrVerif.Bridge
open IrVerif.Proto IrVerif.Serde

theorem expVInfo_append (vals : Nat → Scope.ValueS) (R : List Scope.Name) (id : Scope.FId) :
    ∀ a b : List Nat, Scope.expVInfo vals R id (a ++ b) = Scope.expVInfo vals R id a ++ Scope.expVInfo vals R id b
  | [], _ => rfl
  | v :: a, b => by
    simp only [List.cons_append, Scope.expVInfo, expVInfo_append vals R id a b]
    split <;> rfl

theorem expV_blank (st : Scope.Store) (R : List Scope.Name) (id : Scope.FId) (w : Nat) (rest : List Nat)
    (h : cellAt st w = blankCell) :
    Scope.expVInfo st.vals R id (w :: rest) = Scope.expVInfo st.vals R id rest := by
  have hn : (st.vals w).name = some "" := by simpa [cellAt, blankCell] using congrArg Cell.name h
  simp [Scope.expVInfo, hn, Scope.nameTruthy]

theorem absInfo_serValueAs (nm : String) (v : IRValue) : absInfo (serValueAs nm v) = absInfo (serValue v) := rfl

theorem expV_one (st : Scope.Store) (R : List Scope.Name) (id : Scope.FId) (w : Nat) (rest : List Nat)
    (v : IRValue) (h : cellAt st w = absCell v) (hv : valOK v = true) :
    Scope.expVInfo st.vals R id (w :: rest)
      = (expEmitR R id.domain id.name v).map absVI ++ Scope.expVInfo st.vals R id rest := by
  obtain ⟨f1, f2, _⟩ := cell_fields h
  have hsc := shouldCreate_of_valOK hv (st.vals w) f1 f2
  have hinfo : absInfo (serValue v) = (absInfoV v).emit := by
    simp only [valOK, Bool.and_eq_true, decide_eq_true_eq] at hv; exact hv.2
  have hne := experimentalName_ne_empty id.domain id.name v.name
  simp only [Scope.expVInfo, hsc, f1, f2, Option.getD_some, Scope.canParseBack, parseExp_eq_parseExperimentalName,
    formatExp_eq_experimentalName, expEmitR, expEmit, Scope.nameTruthy]
  have hne' : experimentalName id.domain id.name v.name ≠ "" := by
    intro e; rw [e] at hne; simp at hne
  have hcell : (⟨experimentalName id.domain id.name v.name, (absInfoV v).emit⟩ : Scope.VInfoP)
      = absVI (serValueAs (experimentalName id.domain id.name v.name) v) := by
    simp only [absVI, serValueAs, hne, Bool.false_eq_true, if_false]
    rw [← hinfo]
    rfl
  -- the four guards of `expVInfo` are the four guards of `expEmitR` / `expEmit`
  by_cases hR : experimentalName id.domain id.name v.name ∈ R
  · simp [hR]
  · by_cases hnm : v.name = ""
    · simp [hnm]
    · by_cases hs : shouldCreateVI v = true
      · by_cases hp : parseExperimentalName (experimentalName id.domain id.name v.name)
            = some (id.domain, id.name, v.name)
        · rw [hcell]
          simp [hR, hnm, hs, hp, isEmpty_decide]
        · simp [hR, hnm, hs, hp, isEmpty_decide]
      · simp [hR, hnm, hs, isEmpty_decide]

theorem expV_tbl (st : Scope.Store) (tbl : List IRValue) (b : Nat) (R : List Scope.Name) (id : Scope.FId)
    (hs : ∀ i, i < tbl.length → cellAt st (b + i) = absCell (tbl.getD i (IRValue.blank "")))
    (hok : ∀ v ∈ tbl, (valOK v && tensOK v) = true) :
    ∀ is : List Nat, (∀ i ∈ is, i < tbl.length) →
    Scope.expVInfo st.vals R id (is.map (b + ·))
      = (is.flatMap fun i => expEmitR R id.domain id.name (tbl.getD i (IRValue.blank ""))).map absVI
  | [], _ => rfl
  | i :: is, h => by
    have hi := h i (by simp)
    have hvo := valOK_tensOK_getD hok hi
    rw [List.map_cons, expV_one st R id _ _ _ (hs i hi) hvo.1,
      expV_tbl st tbl b R id hs hok is (fun j hj => h j (List.mem_cons_of_mem _ hj))]
    simp

theorem expV_outs (st : Scope.Store) (tbl : List IRValue) (b : Nat) (R : List Scope.Name) (id : Scope.FId)
    (hs : ∀ i, i < tbl.length → cellAt st (b + i) = absCell (tbl.getD i (IRValue.blank "")))
    (hok : ∀ v ∈ tbl, (valOK v && tensOK v) = true) :
    ∀ (outs : List (Option Nat)) (K : Nat), outs.all (outOK tbl.length) = true →
    (∀ j, K ≤ j → j < K + numNone outs → cellAt st j = blankCell) →
    Scope.expVInfo st.vals R id (absOutsB b K outs)
      = ((optNats outs).flatMap fun i => expEmitR R id.domain id.name (tbl.getD i (IRValue.blank ""))).map absVI
  | [], _, _, _ => rfl
  | none :: outs, K, h, hb => by
    simp only [List.all_cons, Bool.and_eq_true] at h
    rw [absOutsB, expV_blank st R id K _ (hb K (Nat.le_refl _) (by simp [numNone])),
      expV_outs st tbl b R id hs hok outs (K + 1) h.2 (fun j h1 h2 => hb j (by omega) (by simp [numNone]; omega))]
    rfl
  | some i :: outs, K, h, hb => by
    simp only [List.all_cons, Bool.and_eq_true, outOK, decide_eq_true_eq] at h
    have hvo := valOK_tensOK_getD hok h.1
    rw [absOutsB, expV_one st R id _ _ _ (hs i h.1) hvo.1,
      expV_outs st tbl b R id hs hok outs K h.2 (fun j h1 h2 => hb j h1 (by simpa [numNone] using h2))]
    simp [optNats]

theorem optNats_append : ∀ a b : List (Option Nat), optNats (a ++ b) = optNats a ++ optNats b
  | [], _ => rfl
  | none :: a, b => by simp [optNats, optNats_append a b]
  | some i :: a, b => by simp [optNats, optNats_append a b]

theorem expV_nodes (st : Scope.Store) (tbl : List IRValue) (b : Nat) (R : List Scope.Name) (id : Scope.FId)
    (lens : List Nat)
    (hs : ∀ i, i < tbl.length → cellAt st (b + i) = absCell (tbl.getD i (IRValue.blank "")))
    (hok : ∀ v ∈ tbl, (valOK v && tensOK v) = true) :
    ∀ (xs : List IRNode) (K nn ng : Nat), okNodes (tbl.length :: lens) xs = true →
    ShowsAt st K (cellsNodes xs) →
    Scope.expVInfo st.vals R id ((treeNodes [b] K nn ng xs).flatMap Scope.NodeT.outputs)
      = ((optNats (xs.flatMap IRNode.outputs)).flatMap
          fun i => expEmitR R id.domain id.name (tbl.getD i (IRValue.blank ""))).map absVI
  | [], _, _, _, _, _ => rfl
  | x :: xs, K, nn, ng, hokN, hsh => by
    obtain ⟨hokx, hokxs⟩ := Bool.and_eq_true_iff.1 hokN
    have hsh' : ShowsAt st K (cellsNode x ++ cellsNodes xs) := hsh
    have hb0 := showsAt_left hsh'
    rw [cellsNode_eq] at hb0
    have ih := expV_nodes st tbl b R id lens hs hok xs _ (nn + nnNode x) (ng + ngNode x) hokxs (showsAt_right hsh')
    show Scope.expVInfo st.vals R id ((treeNode [b] K nn ng x :: treeNodes [b] (K + (cellsNode x).length)
      (nn + nnNode x) (ng + ngNode x) xs).flatMap Scope.NodeT.outputs) = _
    simp only [List.flatMap_cons, treeNode_outputs, expVInfo_append,
      expV_outs st tbl b R id hs hok x.outputs K (okNode_io hokx).2 (showsAt_blank hb0), ih, optNats_append,
      List.flatMap_append, List.map_append]

theorem func_exp (st : Scope.Store) (R : List Scope.Name) (f : IRFunction) (k nn ng : Nat)
    (hok : okF f = true) (hsh : ShowsAt st k (cellsG f.graph)) :
    Scope.expOfFunc st.vals R (fidOf f, treeG [] k nn ng f.graph) = (serExperimentalR R f).map absVI := by
  obtain ⟨domain, name, overload, graph, attrs⟩ := f
  cases graph with
  | mk tbl inputs inits nodes outputs gname doc opsets mprops =>
  simp only [okF, okG, Bool.and_eq_true, IRGraph.outputs] at hok
  obtain ⟨⟨⟨⟨⟨hv, hin⟩, _⟩, hnodesOK⟩, _⟩, _⟩ := hok
  have hv' : ∀ v ∈ tbl, (valOK v && tensOK v) = true := List.all_eq_true.1 hv
  have hin' : ∀ i ∈ inputs, i < tbl.length := fun i hi => of_decide_eq_true (List.all_eq_true.1 hin i hi)
  simp only [cellsG] at hsh
  have hsT := showsAt_left (showsAt_left hsh)
  have hsN := showsAt_right (showsAt_left hsh)
  simp only [List.length_map] at hsN
  have hs := showsAt_tbl hsT
  by_cases hov : overload = ""
  · subst hov
    have e1 := expV_tbl st tbl k R ⟨domain, name, ""⟩ hs hv' inputs hin'
    have e2 := expV_nodes st tbl k R ⟨domain, name, ""⟩ [] hs hv' nodes (k + tbl.length) nn ng hnodesOK hsN
    simp only [Scope.expOfFunc, fidOf, treeG, serExperimentalR, IRGraph.table, IRGraph.inputs, IRGraph.nodes,
      outputs_setGraph, e1, e2]
    have h1 : (("" : String) != "") = false := by decide
    have h2 : (!("" : String).isEmpty) = false := by decide
    simp only [h1, h2, Bool.false_eq_true, if_false, List.map_append]
  · have h1 : (overload != "") = true := by simpa using hov
    have h2 : (!overload.isEmpty) = true := by simp [isEmpty_decide, hov]
    simp only [Scope.expOfFunc, fidOf, serExperimentalR, h1, h2, if_true, List.map_nil]

theorem funcs_exp (st : Scope.Store) (R : List Scope.Name) : ∀ (fs : List IRFunction) (k nn ng : Nat),
    fs.all okF = true → ShowsAt st k (cellsFs fs) →
    (treeFs k nn ng fs).flatMap (Scope.expOfFunc st.vals R) = (fs.flatMap (serExperimentalR R)).map absVI
  | [], _, _, _, _, _ => rfl
  | f :: fs, k, nn, ng, hok, hsh => by
    simp only [List.all_cons, Bool.and_eq_true] at hok
    simp only [cellsFs] at hsh
    simp only [treeFs, List.flatMap_cons, List.map_append, func_exp st R f k nn ng hok.1 (showsAt_left hsh),
      funcs_exp st R fs _ _ _ hok.2 (showsAt_right hsh)]

def resName (vals : Nat → Scope.ValueS) (v : Nat) : Option Scope.Name :=
  match (vals v).name with
  | some n => if n = "" then none else some n
  | none => none

theorem reservedNames_unfold (vals : Nat → Scope.ValueS) (a : Nat) (b : List Nat) (inits : List (Scope.Name × Nat))
    (nodes : List Scope.NodeT) (e : List Nat) :
    Scope.reservedNames vals (.mk a b inits nodes e)
      = ((nodes.flatMap fun n => n.inputs.filterMap id ++ n.outputs).filterMap (resName vals))
        ++ (inits.map (·.1)).filter (· != "") := rfl

theorem res_name (st : Scope.Store) (w : Nat) (n : String) (h : (st.vals w).name = some n) :
    resName st.vals w = if n = "" then none else some n := by
  simp [resName, h]

theorem filter_nonempty_cons (s : String) (l : List String) (h : s ≠ "") :
    (s :: l).filter (· ≠ "") = s :: l.filter (· ≠ "") := by simp [h]

theorem filter_nonempty_cons_empty (l : List String) : ("" :: l).filter (· ≠ "") = l.filter (· ≠ "") := by simp

theorem res_ins (st : Scope.Store) (scN : Scopes) (lens bases : List Nat) (hl : lens = scN.map List.length)
    (hs : SeesOuter st scN bases) : ∀ ins : List (Option Ref), ins.all (refOKF lens) = true →
    ((absInsB bases ins).filterMap id).filterMap (resName st.vals)
      = (ins.filterMap fun r => r.map (refName scN)).filter (· ≠ "")
  | [], _ => rfl
  | none :: ins, h => by
    simp only [List.all_cons, Bool.and_eq_true] at h
    have ih := res_ins st scN lens bases hl hs ins h.2
    have e0 : (absInsB bases (none :: ins)).filterMap id = (absInsB bases ins).filterMap id := rfl
    have e1 : ((none :: ins).filterMap fun r => r.map (refName scN))
        = (ins.filterMap fun r => r.map (refName scN)) := rfl
    rw [e0, e1]
    exact ih
  | some r :: ins, h => by
    simp only [List.all_cons, Bool.and_eq_true, refOKF, decide_eq_true_eq] at h
    have ih := res_ins st scN lens bases hl hs ins h.2
    have hr : r.idx < (scN.getD r.up []).length := by
      have := h.1
      rw [hl, getD_map_length] at this
      exact this
    have f1 := res_name st _ _ (hs r hr)
    have e0 : (absInsB bases (some r :: ins)).filterMap id = refId bases r :: (absInsB bases ins).filterMap id := rfl
    have e1 : ((some r :: ins).filterMap fun r => r.map (refName scN))
        = refName scN r :: (ins.filterMap fun r => r.map (refName scN)) := rfl
    rw [e0, e1]
    by_cases he : refName scN r = ""
    · rw [List.filterMap_cons_none (by rw [f1, if_pos he]), he, filter_nonempty_cons_empty]
      exact ih
    · rw [List.filterMap_cons_some (by rw [f1, if_neg he]), filter_nonempty_cons _ _ he, ih]

def nameNE? : Option String → Option String
  | some n => if n = "" then none else some n
  | none => none

theorem names_nonEmpty (sc : Scopes) : ∀ outs : List (Option Nat),
    ((outs.map (nameOfOutS sc)).map some).filterMap nameNE?
      = (outs.filterMap fun j => j.map fun i => refName sc ⟨0, i⟩).filter (· ≠ "")
  | [] => rfl
  | none :: outs => by simpa [nameOfOutS, nameNE?] using names_nonEmpty sc outs
  | some i :: outs => by
    by_cases he : refName sc ⟨0, i⟩ = "" <;> simpa [nameOfOutS, nameNE?, he] using names_nonEmpty sc outs

/-- `resName` reads the name only: `outNames_at` -/
theorem res_outs (st : Scope.Store) (tbl : List IRValue) (outer : Scopes) (b : Nat)
    (hs : ∀ i, i < tbl.length → cellAt st (b + i) = absCell (tbl.getD i (IRValue.blank "")))
    (outs : List (Option Nat)) (K : Nat) (h : outs.all (outOK tbl.length) = true)
    (hb : ∀ j, K ≤ j → j < K + numNone outs → cellAt st j = blankCell) :
    (absOutsB b K outs).filterMap (resName st.vals)
      = (outs.filterMap fun j => j.map fun i => refName (tableNames tbl :: outer) ⟨0, i⟩).filter (· ≠ "") := by
  rw [← names_nonEmpty, ← outNames_at st tbl outer b hs outs K h hb, List.filterMap_map]
  rfl

theorem res_nodes (st : Scope.Store) (tbl : List IRValue) (outer : Scopes) (lens bases : List Nat) (b : Nat)
    (hl : lens = outer.map List.length) (hsees : SeesOuter st (tableNames tbl :: outer) (b :: bases))
    (hs : ∀ i, i < tbl.length → cellAt st (b + i) = absCell (tbl.getD i (IRValue.blank ""))) :
    ∀ (xs : List IRNode) (K nn ng : Nat), okNodes (tbl.length :: lens) xs = true → ShowsAt st K (cellsNodes xs) →
    ((treeNodes (b :: bases) K nn ng xs).flatMap fun n => n.inputs.filterMap id ++ n.outputs).filterMap
        (resName st.vals)
      = (xs.flatMap fun n =>
          (n.inputs.filterMap fun r => r.map (refName (tableNames tbl :: outer))) ++
          (n.outputs.filterMap fun j => j.map fun i => refName (tableNames tbl :: outer) ⟨0, i⟩)).filter (· ≠ "")
  | [], _, _, _, _, _ => rfl
  | x :: xs, K, nn, ng, hokN, hsh => by
    obtain ⟨hokx, hokxs⟩ := Bool.and_eq_true_iff.1 hokN
    obtain ⟨hin, hout⟩ := okNode_io hokx
    have hsh' : ShowsAt st K (cellsNode x ++ cellsNodes xs) := hsh
    have hb0 := showsAt_left hsh'
    rw [cellsNode_eq] at hb0
    have ih := res_nodes st tbl outer lens bases b hl hsees hs xs _ (nn + nnNode x) (ng + ngNode x) hokxs
      (showsAt_right hsh')
    have e1 := res_ins st (tableNames tbl :: outer) (tbl.length :: lens) (b :: bases)
      (by simp [hl, tableNames]) hsees x.inputs hin
    have e2 := res_outs st tbl outer b hs x.outputs K hout (showsAt_blank hb0)
    show ((treeNode (b :: bases) K nn ng x :: treeNodes (b :: bases) (K + (cellsNode x).length) (nn + nnNode x)
      (ng + ngNode x) xs).flatMap fun n => n.inputs.filterMap id ++ n.outputs).filterMap (resName st.vals) = _
    simp only [List.flatMap_cons, treeNode_inputs, treeNode_outputs, List.filterMap_append, List.filter_append,
      e1, e2, ih]

theorem io_setGraph (g : Nat) (ns : List Scope.NodeT) :
    ((ns.map (Scope.NodeT.setGraph g)).flatMap fun n => n.inputs.filterMap id ++ n.outputs)
      = ns.flatMap fun n => n.inputs.filterMap id ++ n.outputs := by
  induction ns with
  | nil => rfl
  | cons n ns ih =>
    cases n
    rw [List.map_cons, List.flatMap_cons, List.flatMap_cons, ih]
    rfl

theorem filter_bne_eq (l : List String) : l.filter (· != "") = l.filter (· ≠ "") := by
  apply List.filter_congr
  intro x _
  by_cases h : x = "" <;> simp [h]

theorem reserved_eq (st : Scope.Store) (g : IRGraph) (hok : okG [] g = true) (hsh : ShowsAt st 0 (cellsG g)) :
    Scope.reservedNames st.vals (treeG [] 0 0 0 g) = Serde.reservedNames g := by
  cases g with
  | mk tbl inputs inits nodes outputs name doc opsets mprops =>
  simp only [okG, Bool.and_eq_true] at hok
  obtain ⟨⟨⟨⟨_, _⟩, _⟩, hnodesOK⟩, _⟩ := hok
  simp only [cellsG] at hsh
  have hsT := showsAt_left (showsAt_left hsh)
  have hsN := showsAt_right (showsAt_left hsh)
  simp only [List.length_map] at hsN
  have hs := showsAt_tbl hsT
  have hsees := seesOuter_cons (seesOuter_nil st) tbl 0 hs
  have e := res_nodes st tbl [] [] [] 0 rfl hsees hs nodes (0 + tbl.length) 0 0 hnodesOK hsN
  simp only [treeG, reservedNames_unfold, io_setGraph, e, Serde.reservedNames, filter_bne_eq]
  congr 2
  rw [List.map_map]
  rfl

end IrVerif.Bridge

namespace IrVerif.Scope
open IrVerif.Proto

theorem absGFull_addValueInfo (g : Proto.GraphP) (extra : List Proto.ValueInfoP) :
    Bridge.absGFull (Serde.GraphP.addValueInfo g extra) = addVInfo (extra.map Bridge.absVI) (Bridge.absGFull g) := by
  cases g
  simp [Serde.GraphP.addValueInfo, Bridge.absGFull, addVInfo]

/-- **C02/C03 bridge, serialization of models in the IR version < 10 format**: for every C02 IR model satisfying the
    decidable `GOKM9` and every Scope model world whose core is its abstraction, whenever C02's `serModel` returns `q`
    the Scope writer with the reserved-name guard (`serializeM9 true`) returns `absM q`. -/
theorem C03_bridge_serialize_model9 (x : Serde.IRModel) (q : Proto.ModelP) (w : MWorld)
    (hok : Bridge.GOKM9 x = true) (hq : Serde.serModel x = .ok q) (hw : Bridge.coreOfM w = Bridge.absIRM x) :
    ∃ w', serializeM9 true w = .ok (w', Bridge.absM q) := by
  simp only [Bridge.GOKM9, Bool.and_eq_true, decide_eq_true_eq] at hok
  obtain ⟨⟨hokg, hokf⟩, hver⟩ := hok
  have hroot : w.root = Bridge.treeG [] 0 0 0 x.graph := congrArg Bridge.CoreM.root hw
  have hfuncs : w.funcs = Bridge.treeFs (Bridge.cellsG x.graph).length (Bridge.nnG x.graph) (Bridge.ngG x.graph)
      x.functions := congrArg Bridge.CoreM.funcs hw
  have hsh : Bridge.ShowsAt w.st 0 (Bridge.cellsG x.graph ++ Bridge.cellsFs x.functions) :=
    Bridge.showsAt_of_cells (congrArg Bridge.CoreM.cells hw)
  have hge : ¬ x.irVersion ≥ 10 := by omega
  simp only [Serde.serModel, bind, Except.bind, hge, if_false] at hq
  split at hq
  · cases hq
  · rename_i g hg
    split at hq
    · cases hq
    · rename_i fs hfs
      cases hq
      obtain ⟨ws1, h1⟩ := Bridge.ser_graph_br w.st (some x.irVersion) x.graph [] [] [] 0 0 0 g hokg rfl
        (Bridge.seesOuter_nil _) (Bridge.showsAt_left hsh) hg
      have hshF := Bridge.showsAt_right hsh
      rw [Nat.zero_add] at hshF
      obtain ⟨qs1, ws2, h2, h3⟩ := Bridge.funcs_ser w.st x.irVersion x.functions _ (Bridge.nnG x.graph)
        (Bridge.ngG x.graph) fs hokf hshF hfs
      simp only [hge, if_false] at h3
      have hres := Bridge.reserved_eq w.st x.graph hokg (Bridge.showsAt_left hsh)
      have hexp := Bridge.funcs_exp w.st (Serde.reservedNames x.graph) x.functions (Bridge.cellsG x.graph).length
        (Bridge.nnG x.graph) (Bridge.ngG x.graph) hokf hshF
      refine ⟨⟨w.st.writes (ws1 ++ ws2), w.root, w.funcs⟩, ?_⟩
      simp only [serializeM9, serializeM, hroot, hfuncs, h1, h2, if_true, hres, hexp, Bridge.absM,
        absGFull_addValueInfo, h3]

end IrVerif.Scope

namespace IrVerif.Bridge
open IrVerif.Proto IrVerif.Serde

theorem okG_mapTable (u : IRValue → IRValue) (lens : List Nat) (G : IRGraph)
    (hu : ∀ v ∈ G.table, (valOK (u v) && tensOK (u v)) = true) (hok : okG lens G = true) :
    okG lens (mapTable u G) = true := by
  cases G with
  | mk tbl inputs inits nodes outs name doc ops mp =>
  simp only [okG, Bool.and_eq_true] at hok
  obtain ⟨⟨⟨⟨_, h2⟩, h3⟩, h4⟩, h5⟩ := hok
  simp only [mapTable, okG, Bool.and_eq_true, List.length_map, h2, h3, h4, h5, and_true]
  rw [List.all_map, List.all_eq_true]
  intro v hv
  exact hu v hv

theorem mem_experimentalFor (V : List ValueInfoP) (d n : String) (e : String × ValueInfoP)
    (he : e ∈ experimentalFor V d n) : e.2 ∈ V := by
  simp only [experimentalFor, List.mem_filterMap] at he
  obtain ⟨vi, hvi, hh⟩ := he
  split at hh
  · split at hh
    · cases hh; exact hvi
    · cases hh
  · cases hh

theorem okF_postF (V : List ValueInfoP) (hV : ∀ vi ∈ V, wfType vi.type = true ∧ vi.metadata = []) (x : IRFunction)
    (hok : okF x = true) (hT : ∀ v ∈ x.graph.table, v = IRValue.blank v.name) : okF (postF V x) = true := by
  unfold postF
  split
  · simp only [okF, Bool.and_eq_true] at hok ⊢
    refine ⟨okG_mapTable _ [] x.graph ?_ hok.1, ?_⟩
    · intro v hv
      have hb := hT v hv
      unfold expUpd
      cases hf : findLast? (fun e => e.1 = v.name) (experimentalFor V x.domain x.name) with
      | none =>
        rw [hb]
        exact (OKv_blank v.name).val
      | some e =>
        obtain ⟨a, b⟩ := hV e.2 (mem_experimentalFor V _ _ e (findLast?_mem hf).1)
        rw [hb]
        exact (OKv_applyInfoT (v := IRValue.blank v.name) rfl rfl a b).val
    · cases hg : x.graph with
      | mk tbl inputs inits nodes outs name doc ops mp =>
        have := hok.2
        rw [hg] at this
        simpa [mapTable, IRGraph.outputs] using this
  · exact hok

/-- `sharedSM9` is not empty: the main graph calls the function `d::f` and carries the
    experimental entry `d::f/b` for the function's node output `b` -/
def exampleModel9 : ModelP :=
  { irVersion := 9, producerName := "p", producerVersion := "", domain := "", modelVersion := 0, doc := "",
    opsetImport := [], metadata := [],
    graph := .mk "g" "" [.mk ["x"] ["y"] "n" "f" "d" "" "" [] [] []] []
      [⟨"x", .tensor (some 1) none "", "", []⟩] [⟨"y", .tensor (some 1) none "", "", []⟩]
      [⟨"d::f/b", .tensor (some 1) (some [⟨.value 2, ""⟩]) "", "", []⟩] [] [],
    functions := [{ name := "f", domain := "d", overload := "", doc := "", inputs := ["a"], outputs := ["b"],
                    attrNames := [], attrProtos := [],
                    nodes := [.mk ["a"] ["b", ""] "n" "Relu" "" "" "" [] [] []], opsetImport := [],
                    valueInfo := [], metadata := [] }],
    configuration := [] }

example : sharedSM9 exampleModel9 = true := by decide

end IrVerif.Bridge

namespace IrVerif.Scope
open IrVerif.Proto

/-- on the fragment `sharedSM9` every model C02 deserializes satisfies the hypothesis `GOKM9` of
    `C03_bridge_serialize_model9` -/
theorem C03_bridge_gok_model9 (m : Proto.ModelP) (h : Bridge.sharedSM9 m = true) (x : Serde.IRModel)
    (hx : Serde.desModel m = .ok x) : Bridge.GOKM9 x = true := by
  simp only [Bridge.sharedSM9, Bridge.sharedM9, Bridge.noValueMetaFull, Bridge.canonTensorsFull, Bool.and_eq_true,
    decide_eq_true_eq] at h
  obtain ⟨⟨⟨⟨⟨hwf, hver⟩, _⟩, hnm⟩, hct⟩, hside⟩ := h
  obtain ⟨hg, hf, _, hdes⟩ := Bridge.desModel_wf m hwf
  have hV := Bridge.wfGraph_vis hg
  have hVm := Bridge.wfVI_noMeta hV (by
    have := Bridge.allG_self hnm
    simp only [Bridge.noValueMeta, Bool.and_eq_true] at this
    exact this.2)
  have hvis : ∀ f ∈ m.functions, f.valueInfo = [] :=
    fun f hfm => Bridge.wfFunction_noVis (List.all_eq_true.1 hf f hfm) hver
  obtain ⟨g, g1, okg⟩ := Bridge.graph_gok [] [] rfl m.graph hg hnm hct
  obtain ⟨fs, f1, okfs, f4⟩ := Bridge.funcs_gok m.irVersion m.functions hf hside
  obtain ⟨fs', e1, e2, _, e4⟩ := Bridge.funcs_facts m.irVersion m.graph.valueInfo hV m.functions hf hvis
  rw [f1] at e1
  cases e1
  rw [hdes g fs _ g1 f1 f4 ((if_pos hver).trans e4)] at hx
  cases hx
  have hpost : (fs.map (Bridge.postF m.graph.valueInfo)).all Bridge.okF = true := by
    rw [List.all_map, List.all_eq_true]
    intro y hy
    exact Bridge.okF_postF m.graph.valueInfo hVm y (List.all_eq_true.1 okfs y hy)
      (e2 y hy).blank
  obtain ⟨_, _, _, _, hokG⟩ := Bridge.setOpsets_inv g (Serde.opsetDict m.opsetImport)
  simp only [Bridge.GOKM9, Bridge.GOKFull, hokG, okg, hpost, Bool.and_self,
    Bool.true_and, decide_eq_true_eq]
  exact hver

/-- **C02/C03 bridge for models in the IR version < 10 format, both directions**: for every model `m` of the decidable
    fragment `sharedSM9` the Scope model (`deserializeM9` / `serializeM9 true`, the code as it is) deserializes
    `absM m` to the abstraction of C02's IR model and serializes it to `absM` of C02's documented normal form
    `normModel m` (`C02_model`). -/
theorem C03_bridge_serde_model9 (m : Proto.ModelP) (h : Bridge.sharedSM9 m = true) :
    ∃ x w w', Serde.desModel m = .ok x ∧ Serde.serModel x = .ok (Serde.normModel m) ∧
      deserializeM9 (Bridge.absM m) = .ok w ∧ Bridge.coreOfM w = Bridge.absIRM x ∧
      serializeM9 true w = .ok (w', Bridge.absM (Serde.normModel m)) := by
  have hM : Bridge.sharedM9 m = true := by
    simp only [Bridge.sharedSM9, Bool.and_eq_true] at h; exact h.1.1.1
  have hwf : Serde.wfModel m = true := by
    simp only [Bridge.sharedM9, Bool.and_eq_true] at hM; exact hM.1.1
  obtain ⟨x, w, h1, h2, h3⟩ := C03_bridge_deserialize_model9 m hM
  obtain ⟨x', r1, r2⟩ := Serde.model_rt m hwf
  rw [h1] at r1
  cases r1
  obtain ⟨w', h4⟩ := C03_bridge_serialize_model9 x _ w (C03_bridge_gok_model9 m h x h1) r2 h3
  exact ⟨x, w, w', h1, r2, h2, h3, h4⟩

end IrVerif.Scope
