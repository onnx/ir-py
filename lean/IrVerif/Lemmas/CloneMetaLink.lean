import IrVerif.Lemmas.CloneMeta
import IrVerif.Lemmas.CloneWire
/-! # The link between `IrVerif.Clone.Meta` and the `mstore` cells of `IrVerif.Clone`

In the heap model `IrVerif.Clone` a `meta` store is a `dict` cell whose values are opaque atoms
(`String`): what the harness sends there is `str(value)`, i.e. what printing can see of the stored
object, NOT its identity.  `IrVerif.Clone.Meta` keeps the identities (a heap of `list` / `dict`
cells).  The two are tied here by

* the ABSTRACTION `absStore enc k h st`: the `DictS` whose value for a key is `enc` of the unfolding
  (`Meta.obs`, depth `k`) of the stored value in the Python heap `h` (`enc`, `k` arbitrary);
* the EMBEDDING `embStore d`: the `Meta.Store` holding the atoms of `d` (a section of the
  abstraction: `absStore enc k h (embStore d) = d` whenever `enc (.atom s) = s`).

`copyMeta_refines`: the one call of the cloner where `deep_copy` acts commutes with the abstraction,
for BOTH values of the flag.  `refines_all`: so does every family of (source store, clone store)
cell pairs with equal content (`MetaSim`: what the wiring image `GraphWire` gives for every owner
pair of a clone), in every order, with the Python heap threaded as `cloneMetaAll` does. -/
namespace IrVerif.Clone.MetaLink
open IrVerif.Clone.Meta

/-- the embedding of a main-model store: its atoms -/
def embStore (d : DictS) : Store :=
  { data := d.data.map fun e => (e.1, PyVal.atom e.2), invalid := d.invalid }

/-- the abstraction of a refined store: per key what can be seen of the value (identities are not
    visible), encoded by `enc`; a dangling reference yields the empty store -/
def absStore (enc : Tree → String) (k : Nat) (h : PyHeap) (st : Store) : DictS :=
  match obsStore k h st with
  | (some kts, inv) => { data := kts.map fun e => (e.1, enc e.2), invalid := inv }
  | (none, inv) => { data := [], invalid := inv }

/-- no value of the store is a dangling reference (`storeOkB`) -/
def StoreOk (h : PyHeap) (st : Store) : Prop := ∀ e ∈ st.data, Faithful.SrcOk h e.2

theorem StoreOk.mono {h h2 : PyHeap} {st : Store} (hs : StoreOk h st) (hl : h.length ≤ h2.length) :
    StoreOk h2 st := by
  intro e he j hj
  have := hs e he j hj
  omega

theorem storeOk_of_B {h : PyHeap} {st : Store} (hb : storeOkB h st = true) : StoreOk h st := by
  intro e he j hj
  exact Meta.storeOk_of_B hb e.1 j (by rw [← hj]; exact he)

theorem absStore_congr (enc : Tree → String) {k : Nat} {h h' : PyHeap} {st st' : Store}
    (he : obsStore k h' st' = obsStore k h st) : absStore enc k h' st' = absStore enc k h st := by
  unfold absStore
  rw [he]

/-! ## the embedding is a section of the abstraction -/

theorem optAll_map_some {α β : Type} (f : α → β) : ∀ xs : List α,
    optAll (xs.map fun x => some (f x)) = some (xs.map f)
  | [] => rfl
  | x :: xs => by simp [optAll, optAll_map_some f xs]

theorem absStore_embStore (enc : Tree → String) (henc : ∀ s, enc (.atom s) = s) (k : Nat)
    (h : PyHeap) (d : DictS) : absStore enc k h (embStore d) = d := by
  have h1 : (embStore d).data.map (fun e => obs k h e.2) = d.data.map fun e => some (Tree.atom e.2) := by
    simp only [embStore, List.map_map]
    apply List.map_congr_left
    intro e _
    cases k <;> simp [obs]
  have h2 : (embStore d).data.map (·.1) = d.data.map (·.1) := by
    simp [embStore, List.map_map, Function.comp_def]
  unfold absStore obsStore
  rw [h1, h2, optAll_map_some]
  simp only [Option.map_some, List.zip_map', List.map_map]
  cases d with
  | mk data invalid =>
    simp only [embStore, DictS.mk.injEq, and_true]
    conv => rhs; rw [← List.map_id data]
    apply List.map_congr_left
    intro e _
    simp [henc]

/-- deep or shallow, `clone_meta` of an embedded store is the embedded store and allocates nothing -/
theorem cloneData_atoms (b : Bool) (fuel : Nat) (h : PyHeap) : ∀ (d : List (String × String)),
    cloneData b fuel (d.map fun e => (e.1, PyVal.atom e.2)) h =
      .ok (d.map fun e => (e.1, PyVal.atom e.2), h)
  | [] => rfl
  | e :: d => by
    have ih := cloneData_atoms b fuel h d
    cases b
    · simp [cloneData, ih]
    · cases fuel <;> simp [cloneData, deepcopy, dc, ih]

theorem cloneMeta_embStore (b : Bool) (fuel : Nat) (h : PyHeap) (d : DictS) :
    cloneMeta b fuel (embStore d) h = .ok (embStore d, h) := by
  simp [cloneMeta, embStore, cloneData_atoms]

theorem cloneMetaAll_embStore (b : Bool) (fuel : Nat) (h : PyHeap) : ∀ ds : List DictS,
    cloneMetaAll b fuel (ds.map embStore) h = .ok (ds.map embStore, h)
  | [] => rfl
  | d :: ds => by simp [cloneMetaAll, cloneMeta_embStore, cloneMetaAll_embStore b fuel h ds]

/-! ## `clone_meta` and the abstraction -/

/-- what one `clone_meta` call does to a closed heap, for both values of `deep_copy` -/
theorem cloneMeta_link (b : Bool) (fuel : Nat) (st st' : Store) (h h' : PyHeap)
    (hwf : HeapClosed h) (hst : StoreOk h st) (hc : cloneMeta b fuel st h = .ok (st', h')) :
    HeapClosed h' ∧ StoreOk h' st' ∧ h.length ≤ h'.length ∧
    (∀ i, i < h.length → h'[i]? = h[i]?) ∧ ∀ k, obsStore k h' st' = obsStore k h st := by
  cases b with
  | false =>
    obtain ⟨st2, h2, hd, hi⟩ := shallow_meta_shared fuel st h
    rw [h2] at hc
    simp only [Except.ok.injEq, Prod.mk.injEq] at hc
    obtain ⟨rfl, rfl⟩ := hc
    refine ⟨hwf, ?_, Nat.le_refl _, fun _ _ => rfl, fun k => by simp only [obsStore, hd, hi]⟩
    intro e he
    exact hst e (hd ▸ he)
  | true =>
    have hf := Faithful.deep_copy_meta_faithful fuel st st' h h' hwf hst hc
    obtain ⟨d, hd, rfl⟩ := cloneMeta_ok hc
    obtain ⟨_, hlen, hpre, _, hc1, hc2⟩ := Faithful.cloneData_faithful fuel st.data d h h' hwf hst hd
    exact ⟨hc1, hc2, hlen, hpre, hf⟩

theorem obsStore_ext {h h2 : PyHeap} (hwf : HeapClosed h)
    (hpre : ∀ i, i < h.length → h2[i]? = h[i]?) {st : Store} (hst : StoreOk h st) (k : Nat) :
    obsStore k h2 st = obsStore k h st := by
  have : st.data.map (fun e => obs k h2 e.2) = st.data.map (fun e => obs k h e.2) :=
    List.map_congr_left fun e he => Faithful.obs_ext hwf hpre k e.2 (hst e he)
  simp only [obsStore, this]

theorem all2_imp_mem {α β : Type} {R S : α → β → Prop} :
    ∀ {xs : List α} {ys : List β}, All2 R xs ys → (∀ x ∈ xs, ∀ y, R x y → S x y) → All2 S xs ys
  | _, _, .nil, _ => .nil
  | _, _, .cons r rs, f =>
    .cons (f _ (List.mem_cons_self ..) _ r) (all2_imp_mem rs fun x hx => f x (List.mem_cons_of_mem _ hx))

/-- all the stores of a clone, the Python heap threaded: closedness, frame, and every clone store
    observes (in the FINAL heap) like its source (in the INITIAL heap) -/
theorem cloneMetaAll_link (b : Bool) (fuel : Nat) :
    ∀ (ss ss' : List Store) (h h' : PyHeap), HeapClosed h → (∀ s ∈ ss, StoreOk h s) →
      cloneMetaAll b fuel ss h = .ok (ss', h') →
      HeapClosed h' ∧ h.length ≤ h'.length ∧ (∀ i, i < h.length → h'[i]? = h[i]?) ∧
      (∀ s' ∈ ss', StoreOk h' s') ∧
      All2 (fun s s' => ∀ k, obsStore k h' s' = obsStore k h s) ss ss' := by
  intro ss
  induction ss with
  | nil =>
    intro ss' h h' hwf _ hc
    simp only [cloneMetaAll, Except.ok.injEq, Prod.mk.injEq] at hc
    obtain ⟨rfl, rfl⟩ := hc
    exact ⟨hwf, Nat.le_refl _, fun _ _ => rfl, fun s hs => (by cases hs), .nil⟩
  | cons s rest ih =>
    intro ss' h h' hwf hok hc
    simp only [cloneMetaAll] at hc
    split at hc
    · cases hc
    · rename_i s1 h1 h1e
      split at hc
      · cases hc
      · rename_i rest' h2 h2e
        simp only [Except.ok.injEq, Prod.mk.injEq] at hc
        obtain ⟨rfl, rfl⟩ := hc
        obtain ⟨hwf1, hok1, hlen1, hpre1, hobs1⟩ :=
          cloneMeta_link b fuel s s1 h h1 hwf (hok s (List.mem_cons_self ..)) h1e
        have hokr : ∀ s ∈ rest, StoreOk h1 s := fun s hs =>
          (hok s (List.mem_cons_of_mem _ hs)).mono hlen1
        obtain ⟨hwf2, hlen2, hpre2, hok2, hall⟩ := ih rest' h1 h2 hwf1 hokr h2e
        refine ⟨hwf2, by omega, ?_, ?_, .cons ?_ ?_⟩
        · intro i hi
          rw [hpre2 i (by omega), hpre1 i hi]
        · intro s' hs'
          rcases List.mem_cons.1 hs' with rfl | hs'
          · exact hok1.mono hlen2
          · exact hok2 s' hs'
        · intro k
          rw [obsStore_ext hwf1 hpre2 hok1 k, hobs1 k]
        · refine all2_imp_mem hall fun s hs s' r k => ?_
          rw [r k, obsStore_ext hwf hpre1 (hok s (List.mem_cons_of_mem _ hs)) k]

/-! ## the commuting squares -/

/-- **one call.**  `Cloner.clone_meta(old, new, deep_copy=b)` of `IrVerif.Clone.Meta`, followed by the
    abstraction, is `copyMeta` of `IrVerif.Clone` on the abstraction: when the source cell holds
    the abstraction of the refined source store, the new cell holds the abstraction of the refined
    clone store in the heap AFTER the (deep or shallow) copy. -/
theorem copyMeta_refines (b : Bool) (fuel : Nat) (enc : Tree → String) (k : Nat)
    (st st' : Store) (h h' : PyHeap) (hwf : HeapClosed h) (hst : StoreOk h st)
    (hc : cloneMeta b fuel st h = .ok (st', h')) (s : St) (old : Nat)
    (hold : s.w[old]? = some (.dict (absStore enc k h st))) :
    copyMeta old s = (.ok s.w.length, { s with w := s.w ++ [.dict (absStore enc k h' st')] }) := by
  obtain ⟨_, _, _, _, hobs⟩ := cloneMeta_link b fuel st st' h h' hwf hst hc
  rw [absStore_congr enc (hobs k)]
  show M.bind (readDict old) (fun (d : DictS) => alloc (.dict { data := d.data, invalid := d.invalid })) s = _
  simp only [M.bind, readDict, hold, alloc]

theorem all2_of_map {α : Type} {f : α → Store} {R : Store → Store → Prop} {Q : α → Prop}
    {S : α → Store → Prop} (hS : ∀ p s', Q p → R (f p) s' → S p s') :
    ∀ {ps : List α} {ss' : List Store}, All2 R (ps.map f) ss' → (∀ p ∈ ps, Q p) → All2 S ps ss'
  | [], _, h, _ => by cases h; exact .nil
  | p :: ps, _, h, hq => by
    cases h with
    | cons r rs =>
      exact .cons (hS p _ (hq p (List.mem_cons_self ..)) r)
        (all2_of_map hS rs fun p hp => hq p (List.mem_cons_of_mem _ hp))

theorem dict_eq_of_sim {x x' : DictS} (hd : x'.data = x.data) (hi : x'.invalid = x.invalid) : x' = x := by
  cases x; cases x'; simp_all

/-- **a whole clone.**  `ps`: pairs (source `meta` store cell, clone `meta` store cell) with equal
    content in the heap `w'` after cloning - for the clones of `IrVerif.Clone` every owner pair of
    the wiring image is one - in ANY order; `σ`: the refined content of the source cells in a closed
    Python heap `h`, consistent with the main heap `w` before cloning through the abstraction.
    Then `cloneMetaAll b` on the refined sources yields refined clone stores whose abstraction in the
    final Python heap is exactly what the main model put into the clone's cells; the sources stay
    consistent in the final Python heap, which is closed again. -/
theorem refines_all (b : Bool) (fuel : Nat) (enc : Tree → String) (k : Nat) {w w' : World}
    (hle : CoreLe w w') (ps : List (Nat × Nat)) (hps : ∀ p ∈ ps, MetaSim w' p.1 p.2)
    (σ : Nat → Store) (h : PyHeap) (hwf : HeapClosed h) (hok : ∀ p ∈ ps, StoreOk h (σ p.1))
    (hcons : ∀ p ∈ ps, cDict w p.1 = some (absStore enc k h (σ p.1)))
    (ss' : List Store) (h' : PyHeap)
    (hc : cloneMetaAll b fuel (ps.map fun p => σ p.1) h = .ok (ss', h')) :
    All2 (fun p st' => cDict w' p.2 = some (absStore enc k h' st')) ps ss' ∧
    (∀ p ∈ ps, cDict w' p.1 = some (absStore enc k h' (σ p.1))) ∧
    HeapClosed h' ∧ (∀ s' ∈ ss', StoreOk h' s') ∧
    h.length ≤ h'.length ∧ (∀ i, i < h.length → h'[i]? = h[i]?) := by
  have hok' : ∀ s ∈ ps.map (fun p => σ p.1), StoreOk h s := by
    intro s hs
    obtain ⟨p, hp, rfl⟩ := List.mem_map.1 hs
    exact hok p hp
  obtain ⟨hwf', hlen, hpre, hok2, hall⟩ := cloneMetaAll_link b fuel _ ss' h h' hwf hok' hc
  refine ⟨?_, ?_, hwf', hok2, hlen, hpre⟩
  · refine all2_of_map (Q := fun p => p ∈ ps) ?_ hall (fun p hp => hp)
    intro p s' hp hr
    obtain ⟨x, x', hx, hx', hd, hi⟩ := hps p hp
    have h1 := cDict_mono hle (hcons p hp)
    rw [hx] at h1
    rw [hx', dict_eq_of_sim hd hi, Option.some.inj h1, absStore_congr enc (hr k)]
  · intro p hp
    rw [cDict_mono hle (hcons p hp), absStore_congr enc (obsStore_ext hwf hpre (hok p hp) k)]

/-- the frame part for `deep_copy=True`: after ANY history of in-place edits of objects reached
    from the clone's stores the refined sources still abstract to the same main-model cells -/
theorem frame_all (fuel : Nat) (enc : Tree → String) (k : Nat) (ss ss' : List Store)
    (h h' : PyHeap) (hwf : HeapClosed h) (hc : cloneMetaAll true fuel ss h = .ok (ss', h'))
    (es : List PyEdit) (hh : ReachHistory (rootsOf ss') es h') (st : Store) (hst : StoreOk h st) :
    absStore enc k (runPyHistory es h') st = absStore enc k h st := by
  obtain ⟨_, hobs⟩ := deep_copy_meta_frame_all fuel ss ss' h h' hc es hh
  apply absStore_congr
  have : st.data.map (fun e => obs k (runPyHistory es h') e.2) = st.data.map (fun e => obs k h e.2) := by
    apply List.map_congr_left
    intro e he
    apply hobs e.2 _ k
    apply reach_closed hwf
    intro j hj
    simp only [List.mem_singleton] at hj
    exact hst e he j hj.symm
  simp only [obsStore, this]

/-! ## the `meta` store cells of a clone of `IrVerif.Clone` -/

/-- the `meta` store of an owner (value, node, graph) -/
def mstoreOf (w : World) (o : Nat) : Option Nat :=
  match coreAt w o with
  | some (.val v) => some v.mstore
  | some (.node n) => some n.mstore
  | some (.graph g) => some g.mstore
  | _ => none

/-- `o'` is the clone of the owner `o` in the wiring image of a clone (`C13_wiring_image`): a pair of
    the cloner's value map, a pair of `NodeWire`-related nodes or of `GraphWire`-related graphs (at any
    nesting depth: the relations are stated for the nested graphs too).  `GraphWire g g'` describes
    `g'` completely (its inputs, initializers and outputs are images under the value map, its nodes
    are `NodeWire`-related position by position, the graphs its attributes hold are `GraphWire`
    related), so every owner of a clone is the second component of such a pair. -/
inductive WiredOwner (allow : Bool) (w : World) (vm : List (Nat × Nat)) : Nat → Nat → Prop
  | value {v v' : Nat} : (v, v') ∈ vm → ValSim w v v' → WiredOwner allow w vm v v'
  | node {n n' : Nat} : NodeWire allow w vm n n' → WiredOwner allow w vm n n'
  | graph {g g' : Nat} : GraphWire allow w vm g g' → WiredOwner allow w vm g g'

theorem mstoreOf_val {w : World} {v : Nat} {vs : ValueS} (h : cVal w v = some vs) :
    mstoreOf w v = some vs.mstore := by
  unfold cVal at h
  unfold mstoreOf
  split at h <;> simp_all

theorem mstoreOf_node {w : World} {v : Nat} {vs : NodeS} (h : cNode w v = some vs) :
    mstoreOf w v = some vs.mstore := by
  unfold cNode at h
  unfold mstoreOf
  split at h <;> simp_all

theorem mstoreOf_graph {w : World} {v : Nat} {vs : GraphS} (h : cGraph w v = some vs) :
    mstoreOf w v = some vs.mstore := by
  unfold cGraph at h
  unfold mstoreOf
  split at h <;> simp_all

theorem vinfo_mstore {w : World} {v : Nat} {i : VInfo} (h : vinfo w v = some i) :
    ∃ vs m, cVal w v = some vs ∧ cDict w vs.mstore = some m ∧ m.data = i.mdata ∧
      m.invalid = i.minvalid := by
  unfold vinfo at h
  split at h
  · cases h
  · rename_i vs hvs
    split at h
    · rename_i ty sh p m _ _ _ hm
      cases h
      exact ⟨vs, m, hvs, hm, rfl, rfl⟩
    · cases h

/-- the stores of a wired owner pair have equal content (in the heap after cloning) -/
theorem WiredOwner.metaSim {allow : Bool} {w : World} {vm : List (Nat × Nat)} {o o' : Nat}
    (h : WiredOwner allow w vm o o') :
    ∃ c c', mstoreOf w o = some c ∧ mstoreOf w o' = some c' ∧ MetaSim w c c' := by
  cases h with
  | value _ hs =>
    obtain ⟨i, h1, h2⟩ := hs
    obtain ⟨vs, m, hv, hm, hd, hi⟩ := vinfo_mstore h1
    obtain ⟨vs', m', hv', hm', hd', hi'⟩ := vinfo_mstore h2
    exact ⟨_, _, mstoreOf_val hv, mstoreOf_val hv', m, m', hm, hm', by rw [hd, hd'], by rw [hi, hi']⟩
  | node hn =>
    cases hn with
    | mk n n' ns ns' na h1 h2 _ _ _ _ _ _ _ _ _ _ _ hm _ =>
      exact ⟨_, _, mstoreOf_node h1, mstoreOf_node h2, hm⟩
  | graph hg =>
    cases hg with
    | mk g g' gs gs' inits' h1 h2 _ _ _ _ _ _ _ _ _ _ hm =>
      exact ⟨_, _, mstoreOf_graph h1, mstoreOf_graph h2, hm⟩

/-- the store cell pairs of a list of wired owner pairs -/
theorem wired_pairs {allow : Bool} {w : World} {vm : List (Nat × Nat)} :
    ∀ (os : List (Nat × Nat)), (∀ o ∈ os, WiredOwner allow w vm o.1 o.2) →
      ∃ ps : List (Nat × Nat),
        All2 (fun o p => mstoreOf w o.1 = some p.1 ∧ mstoreOf w o.2 = some p.2) os ps ∧
        ∀ p ∈ ps, MetaSim w p.1 p.2
  | [], _ => ⟨[], .nil, fun p hp => by cases hp⟩
  | o :: os, h => by
    obtain ⟨ps, h1, h2⟩ := wired_pairs os fun o ho => h o (List.mem_cons_of_mem _ ho)
    obtain ⟨c, c', hc, hc', hm⟩ := (h o (List.mem_cons_self ..)).metaSim
    refine ⟨(c, c') :: ps, .cons ⟨hc, hc'⟩ h1, ?_⟩
    intro p hp
    rcases List.mem_cons.1 hp with rfl | hp
    · exact hm
    · exact h2 p hp

end IrVerif.Clone.MetaLink
