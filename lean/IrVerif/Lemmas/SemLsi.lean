/-
Lemmas/SemLsi.lean — LiftSubgraphInitializersToMainGraphPass on the main graph (`lsiNodes`, `lsiMain_sound`)
preserves the denotation: an initializer of a subgraph is bound once, at the entry of the main graph.
-/
import IrVerif.Model.Passes
import IrVerif.Lemmas.SemSyntax
namespace IrVerif.Passes
open IrVerif.Sem
variable {Val : Type}

/-! the lifted initializers of a nest are bound in it, each once -/
theorem lsi_ids :
    let G := fun g (r : Graph × List (VId × Tensor)) => ssaG g = true →
      (r.2.map Prod.fst).Nodup ∧ ∀ v ∈ r.2.map Prod.fst, v ∈ defsG g
    let Ns := fun ns (r : List Node × List (VId × Tensor)) => ssaNodes ns = true →
      (r.2.map Prod.fst).Nodup ∧ ∀ v ∈ r.2.map Prod.fst, v ∈ defsNodes ns
    let Bs := fun bs (r : List Graph × List (VId × Tensor)) => ssaBodies bs = true →
      (r.2.map Prod.fst).Nodup ∧ ∀ v ∈ r.2.map Prod.fst, v ∈ defsBodies bs
    (∀ g, G g (lsiG g)) ∧ (∀ ns, Ns ns (lsiNodes ns)) ∧ ∀ bs, Bs bs (lsiBodies bs) := by
  intro G Ns Bs
  refine lsiG.mutual_induct_unfolding G Ns Bs ?_ ?_ ?_ ?_ ?_
  · intro inputs outputs inits nodes ih hs
    rw [ssaG_iff] at hs
    obtain ⟨⟨⟨_, hndt⟩, hdisj⟩, hsn⟩ := hs
    obtain ⟨h1, h2⟩ := ih hsn
    have hsubl : List.Sublist ((inits.filter (fun p => !(inputs.contains p.1 || outputs.contains p.1))).map Prod.fst)
        (inits.map Prod.fst) := List.filter_sublist.map Prod.fst
    simp only [List.map_append]
    refine ⟨List.nodup_append.2 ⟨hsubl.nodup hndt, h1, ?_⟩, ?_⟩
    · intro a ha b hb hab
      subst hab
      exact hdisj a (by simp only [List.mem_append]; exact Or.inr (hsubl.subset ha)) (h2 a hb)
    · intro v hv
      simp only [defsG, List.mem_append] at hv ⊢
      rcases hv with hv | hv
      · exact Or.inl (Or.inr (hsubl.subset hv))
      · exact Or.inr (h2 v hv)
  · intro _
    simp
  · intro op attrs ins outs bodies ns ihb ih hs
    rw [ssaNodes_cons_iff] at hs
    obtain ⟨⟨⟨_, hsb⟩, hdn⟩, hsn⟩ := hs
    obtain ⟨h1, h2⟩ := ihb hsb
    obtain ⟨h3, h4⟩ := ih hsn
    simp only [List.map_append]
    refine ⟨List.nodup_append.2 ⟨h1, h3, ?_⟩, ?_⟩
    · intro a ha b hb hab
      subst hab
      exact hdn a (mem_defsN.2 (Or.inr (h2 a ha))) (h4 a hb)
    · intro v hv
      simp only [defsNodes, defsN, List.mem_append] at hv ⊢
      rcases hv with hv | hv
      · exact Or.inl (Or.inr (h2 v hv))
      · exact Or.inr (h4 v hv)
  · intro _
    simp
  · intro b bs ihg ihb hs
    rw [ssaBodies_cons_iff] at hs
    obtain ⟨⟨hsg, hd⟩, hsb⟩ := hs
    obtain ⟨h1, h2⟩ := ihg hsg
    obtain ⟨h3, h4⟩ := ihb hsb
    simp only [List.map_append]
    refine ⟨List.nodup_append.2 ⟨h1, h3, ?_⟩, ?_⟩
    · intro a ha c hc hac
      subst hac
      exact hd a (h2 a ha) (h4 a hc)
    · intro v hv
      simp only [defsBodies, List.mem_append] at hv ⊢
      exact hv.imp (h2 v) (h4 v)

theorem lsiBodies_ids : ∀ bs : List Graph, ssaBodies bs = true →
    ((lsiBodies bs).2.map Prod.fst).Nodup ∧ ∀ v ∈ (lsiBodies bs).2.map Prod.fst, v ∈ defsBodies bs :=
  lsi_ids.2.2

def AgreeOn (D : List VId) (ρ ρ' : Env Val) : Prop := ∀ v ∈ D, ρ v = ρ' v

/-- the processed nest evaluates, in an environment that agrees on the scope and already holds the initializers
    that were moved out (`r.2`), to what the original evaluates to -/
theorem lsi_sound (I : Interp Val) :
    let G := fun g (r : Graph × List (VId × Tensor)) => ∀ (D : List VId) (ρ ρ' : Env Val), scopedG D g = true →
      ssaG g = true → closedG g = true → AgreeOn D ρ ρ' → (∀ p ∈ r.2, ρ' p.1 = some (I.tv p.2)) →
      evalG I g ρ = evalG I r.1 ρ'
    let Ns := fun ns (r : List Node × List (VId × Tensor)) => ∀ (D : List VId) (ρ ρ' : Env Val),
      scopedNodes D ns = true → ssaNodes ns = true → closedNodes ns = true → AgreeOn D ρ ρ' →
      (∀ p ∈ r.2, ρ' p.1 = some (I.tv p.2)) → AgreeOn (D ++ outsTop ns) (evalNodes I ns ρ) (evalNodes I r.1 ρ')
    let Bs := fun bs (r : List Graph × List (VId × Tensor)) => ∀ (D : List VId) (ρ ρ' : Env Val),
      scopedBodies D bs = true → ssaBodies bs = true → closedBodies bs = true → AgreeOn D ρ ρ' →
      (∀ p ∈ r.2, ρ' p.1 = some (I.tv p.2)) → evalBodies I bs ρ = evalBodies I r.1 ρ'
    (∀ g, G g (lsiG g)) ∧ (∀ ns, Ns ns (lsiNodes ns)) ∧ ∀ bs, Bs bs (lsiBodies bs) := by
  intro G Ns Bs
  refine lsiG.mutual_induct_unfolding G Ns Bs ?_ ?_ ?_ ?_ ?_
  · intro inputs outputs inits nodes ih D ρ ρ' hsc hs hc hag hL
    funext xs
    simp only [scopedG] at hsc
    rw [ssaG_iff] at hs
    rw [closedG_iff] at hc
    obtain ⟨⟨⟨_, hndt⟩, hdisj⟩, hsn⟩ := hs
    simp only [evalG]
    have hfree : inputs.filter (fun v => !((inits.filter (fun p => inputs.contains p.1 || outputs.contains p.1)).map
          Prod.fst).contains v) = inputs.filter (fun v => !(inits.map Prod.fst).contains v) := by
      refine filter_not_contains_congr (fun v hv => ?_)
      simp only [List.mem_map, List.mem_filter]
      constructor
      · rintro ⟨q, ⟨hq, _⟩, rfl⟩; exact ⟨q, hq, rfl⟩
      · rintro ⟨q, hq, rfl⟩; exact ⟨q, ⟨hq, by simp [hv]⟩, rfl⟩
    rw [hfree]
    have hndk : ((inits.filter (fun p => inputs.contains p.1 || outputs.contains p.1)).map Prod.fst).Nodup :=
      (List.filter_sublist.map Prod.fst).nodup hndt
    have hag1 : AgreeOn (D ++ inputs ++ inits.map Prod.fst)
        ((bindInits I ρ inits).bind (inputs.filter (fun v => !(inits.map Prod.fst).contains v)) (xs.map some))
        ((bindInits I ρ' (inits.filter (fun p => inputs.contains p.1 || outputs.contains p.1))).bind
          (inputs.filter (fun v => !(inits.map Prod.fst).contains v)) (xs.map some)) := by
      intro v hv
      by_cases hfr : v ∈ inputs.filter (fun v => !(inits.map Prod.fst).contains v)
      · rw [Env.bind_of_mem _ _ hfr, Env.bind_of_mem _ _ hfr]
      · rw [Env.bind_of_not_mem _ _ hfr, Env.bind_of_not_mem _ _ hfr]
        by_cases hvi : v ∈ inits.map Prod.fst
        · obtain ⟨q, hq, rfl⟩ := List.mem_map.1 hvi
          rw [bindInits_mem I ρ hndt hq]
          by_cases hk : (inputs.contains q.1 || outputs.contains q.1) = true
          · rw [bindInits_mem I ρ' hndk (List.mem_filter.2 ⟨hq, hk⟩)]
          · rw [bindInits_not_mem I ρ' (not_mem_map_fst_filter hndt hq hk)]
            exact (hL q (by
              simp only [List.mem_append]
              exact Or.inl (List.mem_filter.2 ⟨hq, by simpa using hk⟩))).symm
        · have hvk : v ∉ (inits.filter (fun p => inputs.contains p.1 || outputs.contains p.1)).map Prod.fst :=
            fun h => hvi ((List.filter_sublist.map Prod.fst).subset h)
          rw [bindInits_not_mem I ρ hvi, bindInits_not_mem I ρ' hvk]
          simp only [List.mem_append] at hv
          rcases hv with (hv | hv) | hv
          · exact hag v hv
          · exact absurd (List.mem_filter.2 ⟨hv, not_contains_iff.2 hvi⟩) hfr
          · exact absurd hv hvi
    have hLn : ∀ p ∈ (lsiNodes nodes).2,
        ((bindInits I ρ' (inits.filter (fun p => inputs.contains p.1 || outputs.contains p.1))).bind
          (inputs.filter (fun v => !(inits.map Prod.fst).contains v)) (xs.map some)) p.1 = some (I.tv p.2) := by
      intro p hp
      have hpd : p.1 ∈ defsNodes nodes := (lsi_ids.2.1 nodes hsn).2 p.1 (List.mem_map.2 ⟨p, hp, rfl⟩)
      have h1 : p.1 ∉ inputs.filter (fun v => !(inits.map Prod.fst).contains v) := fun h =>
        hdisj p.1 (by simp [(List.mem_filter.1 h).1]) hpd
      have h2 : p.1 ∉ (inits.filter (fun p => inputs.contains p.1 || outputs.contains p.1)).map Prod.fst :=
        fun h => hdisj p.1 (by
          simp only [List.mem_append]; exact Or.inr ((List.filter_sublist.map Prod.fst).subset h)) hpd
      rw [Env.bind_of_not_mem _ _ h1, bindInits_not_mem I ρ' h2]
      exact hL p (List.mem_append_right _ hp)
    have key := ih _ _ _ hsc hsn hc.2 hag1 hLn
    apply List.map_congr_left
    intro o ho
    refine key o ?_
    have := hc.1 o ho
    simp only [List.mem_append] at this ⊢
    rcases this with (h | h) | h
    · exact Or.inl (Or.inl (Or.inr h))
    · exact Or.inl (Or.inr h)
    · exact Or.inr h
  · intro D ρ ρ' _ _ _ hag _
    simpa [evalNodes, outsTop] using hag
  · intro op attrs ins outs bodies ns ihb ih D ρ ρ' hsc hs hc hag hL
    simp only [scopedNodes, scopedN, Bool.and_eq_true, List.all_eq_true, List.contains_iff_mem, Node.ins,
      Node.outs] at hsc
    rw [ssaNodes_cons_iff] at hs
    rw [closedNodes_cons_iff] at hc
    obtain ⟨⟨hin, hscb⟩, hscn⟩ := hsc
    obtain ⟨⟨⟨_, hsb⟩, hdn⟩, hsn⟩ := hs
    simp only [evalNodes]
    have hstep : AgreeOn (D ++ outs) (evalN I (.mk op attrs ins outs bodies) ρ)
        (evalN I (.mk op attrs ins outs (lsiBodies bodies).1) ρ') := by
      simp only [evalN]
      have hargs : evalArgs ρ (trimNone ins) = evalArgs ρ' (trimNone ins) :=
        evalArgs_congr (S := (· ∈ D)) hag _ (fun v hv => hin v (mem_filterMap_trimNone hv))
      rw [hargs, ihb D ρ ρ' hscb hsb hc.1 hag
        (fun p hp => hL p (List.mem_append_left _ hp))]
      intro v hv
      by_cases hvo : v ∈ outs
      · rw [Env.bind_of_mem _ _ hvo, Env.bind_of_mem _ _ hvo]
      · rw [Env.bind_of_not_mem _ _ hvo, Env.bind_of_not_mem _ _ hvo]
        exact hag v ((List.mem_append.1 hv).resolve_right hvo)
    have hL' : ∀ p ∈ (lsiNodes ns).2,
        evalN I (.mk op attrs ins outs (lsiBodies bodies).1) ρ' p.1 = some (I.tv p.2) := by
      intro p hp
      have hpd : p.1 ∈ defsNodes ns := (lsi_ids.2.1 ns hsn).2 p.1 (List.mem_map.2 ⟨p, hp, rfl⟩)
      simp only [evalN]
      rw [Env.bind_of_not_mem _ _ (fun h => hdn p.1 (by simp [defsN, h]) hpd)]
      exact hL p (List.mem_append_right _ hp)
    have := ih (D ++ outs) _ _ hscn hsn hc.2 hstep hL'
    intro v hv
    exact this v (by rw [List.append_assoc]; exact hv)
  · intro _ _ _ _ _ _ _ _
    rfl
  · intro b bs ihg ihb D ρ ρ' hsc hs hc hag hL
    rw [scopedBodies_cons_iff] at hsc
    rw [ssaBodies_cons_iff] at hs
    rw [closedBodies_cons_iff] at hc
    simp only [evalBodies]
    rw [ihg D ρ ρ' hsc.1 hs.1.1 hc.1 hag
          (fun p hp => hL p (List.mem_append_left _ hp)),
        ihb D ρ ρ' hsc.2 hs.2 hc.2 hag
          (fun p hp => hL p (List.mem_append_right _ hp))]

theorem lsiBodies_sound (I : Interp Val) : ∀ (bs : List Graph) (D : List VId) (ρ ρ' : Env Val),
    scopedBodies D bs = true → ssaBodies bs = true → closedBodies bs = true → AgreeOn D ρ ρ' →
    (∀ p ∈ (lsiBodies bs).2, ρ' p.1 = some (I.tv p.2)) →
    evalBodies I bs ρ = evalBodies I (lsiBodies bs).1 ρ' :=
  (lsi_sound I).2.2

/-- main graph: the lifted initializers are appended to its own -/
theorem lsiMain_sound (I : Interp Val) (inputs outputs : List VId) (inits : List (VId × Tensor))
    (nodes : List Node) (hs : ssaG (.mk inputs outputs inits nodes) = true)
    (hc : closedG (.mk inputs outputs inits nodes) = true)
    (hsc : scopedG [] (.mk inputs outputs inits nodes) = true) (ρ : Env Val) :
    evalG I (.mk inputs outputs (inits ++ (lsiNodes nodes).2) (lsiNodes nodes).1) ρ =
      evalG I (.mk inputs outputs inits nodes) ρ := by
  funext xs
  simp only [scopedG] at hsc
  rw [ssaG_iff] at hs
  rw [closedG_iff] at hc
  obtain ⟨⟨⟨_, hndt⟩, hdisj⟩, hsn⟩ := hs
  obtain ⟨hndL, hLsub⟩ := lsi_ids.2.1 nodes hsn
  have hdis : ∀ v ∈ (lsiNodes nodes).2.map Prod.fst, v ∉ inputs ∧ v ∉ inits.map Prod.fst := fun v hv =>
    ⟨fun h => hdisj v (List.mem_append_left _ h) (hLsub v hv), fun h => hdisj v (List.mem_append_right _ h) (hLsub v hv)⟩
  obtain ⟨e1, e2⟩ := entryEnv_append_inits I ρ xs (inputs := inputs) hndt hndL hdis
  rw [evalG_mk, evalG_mk]
  refine List.map_congr_left (fun o ho => ((lsi_sound I).2.1 nodes _ _ _ hsc hsn hc.2 (fun v hv => ?_) e2 o ?_).symm)
  · refine (e1 v (fun h => ?_)).symm
    rcases List.mem_append.1 hv with hv | hv
    · exact (hdis v h).1 (by simpa using hv)
    · exact (hdis v h).2 hv
  · simp only [List.nil_append]
    exact hc.1 o ho

end IrVerif.Passes
