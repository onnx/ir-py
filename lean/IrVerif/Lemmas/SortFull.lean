/-
C12 — the full stateful model (`Model/SortFull.lean`): the checking phase of fix D89 makes every later check
and every name setter of the re-linking phase succeed (`writeAll_ok`), the naming half never touches the
containers, and under ownership consistency the buckets by `node.graph` are the buckets by container.
-/
import IrVerif.Lemmas.SortState
import IrVerif.Model.SortFull

namespace IrVerif.Sort
open List
open IrVerif.LinkedSet (LSet RWorld WorldWF)

/-- what the re-linking phase may change: names that were `None` (node, value, backing tensor), the name
    authorities, the containers.  Everything else is as before (a frame condition; monotone in the names only). -/
structure Mono (w w' : FWorld) : Prop where
  graph : ∀ n, (w'.nodes n).graph = (w.nodes n).graph
  outputs : ∀ n, (w'.nodes n).outputs = (w.nodes n).outputs
  opType : ∀ n, (w'.nodes n).opType = (w.nodes n).opType
  nname : ∀ n s, (w.nodes n).name = some s → (w'.nodes n).name = some s
  locked : ∀ v, (w'.vals v).locked = (w.vals v).locked
  owner : ∀ v, (w'.vals v).owner = (w.vals v).owner
  vname : ∀ v s, (w.vals v).name = some s → (w'.vals v).name = some s

theorem Mono.refl (w : FWorld) : Mono w w :=
  ⟨fun _ => rfl, fun _ => rfl, fun _ => rfl, fun _ _ h => h, fun _ => rfl, fun _ => rfl, fun _ _ h => h⟩

theorem Mono.trans {a b c : FWorld} (h1 : Mono a b) (h2 : Mono b c) : Mono a c :=
  ⟨fun n => (h2.graph n).trans (h1.graph n), fun n => (h2.outputs n).trans (h1.outputs n),
   fun n => (h2.opType n).trans (h1.opType n), fun n s h => h2.nname n s (h1.nname n s h),
   fun v => (h2.locked v).trans (h1.locked v), fun v => (h2.owner v).trans (h1.owner v),
   fun v s h => h2.vname v s (h1.vname v s h)⟩

theorem mono_setAuth (w : FWorld) (k : Nat) (a : AuthR) : Mono w (w.setAuth k a) :=
  ⟨fun _ => rfl, fun _ => rfl, fun _ => rfl, fun _ _ h => h, fun _ => rfl, fun _ => rfl, fun _ _ h => h⟩

theorem mono_noteNodeName (w : FWorld) (k : Nat) (s : String) : Mono w (noteNodeName w k s) :=
  mono_setAuth w k _

theorem mono_noteValName (w : FWorld) (k : Nat) (s : String) : Mono w (noteValName w k s) :=
  mono_setAuth w k _

theorem sw_setAuth (w : FWorld) (k : Nat) (a : AuthR) : (w.setAuth k a).sw = w.sw := rfl
theorem sw_setNode (w : FWorld) (n : Nat) (r : NodeR) : (w.setNode n r).sw = w.sw := rfl
theorem sw_setVal (w : FWorld) (v : Nat) (r : ValR) : (w.setVal v r).sw = w.sw := rfl

theorem mono_noteNodeNameO (w : FWorld) (ko : Option Nat) (s : String) : Mono w (noteNodeNameO w ko s) := by
  cases ko with
  | none => exact Mono.refl w
  | some k => exact mono_noteNodeName w k s

theorem mono_noteValNameO (w : FWorld) (ko : Option Nat) (s : String) : Mono w (noteValNameO w ko s) := by
  cases ko with
  | none => exact Mono.refl w
  | some k => exact mono_noteValName w k s

theorem sw_noteNodeNameO (w : FWorld) (ko : Option Nat) (s : String) : (noteNodeNameO w ko s).sw = w.sw := by
  cases ko <;> rfl
theorem sw_noteValNameO (w : FWorld) (ko : Option Nat) (s : String) : (noteValNameO w ko s).sw = w.sw := by
  cases ko <;> rfl

theorem setNode_field {β : Type} (f : NodeR → β) {w : FWorld} {n : Nat} {r : NodeR}
    (h : f r = f (w.nodes n)) (m : Nat) : f ((w.setNode n r).nodes m) = f (w.nodes m) := by
  simp only [FWorld.setNode]
  split
  · subst_vars; exact h
  · rfl

theorem setVal_field {β : Type} (f : ValR → β) {w : FWorld} {v : Nat} {r : ValR}
    (h : f r = f (w.vals v)) (m : Nat) : f ((w.setVal v r).vals m) = f (w.vals m) := by
  simp only [FWorld.setVal]
  split
  · subst_vars; exact h
  · rfl

theorem mono_setNode (w : FWorld) (n : Nat) (r : NodeR) (hg : r.graph = (w.nodes n).graph)
    (ho : r.outputs = (w.nodes n).outputs) (hop : r.opType = (w.nodes n).opType)
    (h : ∀ s, (w.nodes n).name = some s → r.name = some s) : Mono w (w.setNode n r) := by
  refine ⟨setNode_field (·.graph) hg, setNode_field (·.outputs) ho, setNode_field (·.opType) hop, ?_,
    fun _ => rfl, fun _ => rfl, fun _ _ h => h⟩
  intro m s' hs
  simp only [FWorld.setNode]
  split
  · subst_vars; exact h s' hs
  · exact hs

/-- naming a node that has no name -/
theorem mono_setNodeName (w : FWorld) (n : Nat) (r : NodeR) (hg : r.graph = (w.nodes n).graph)
    (ho : r.outputs = (w.nodes n).outputs) (hop : r.opType = (w.nodes n).opType)
    (h : (w.nodes n).name = none) : Mono w (w.setNode n r) :=
  mono_setNode w n r hg ho hop (fun s hs => by rw [h] at hs; cases hs)

/-- naming a value that has no name -/
theorem mono_setValName (w : FWorld) (v : Nat) (r : ValR) (hl : r.locked = (w.vals v).locked)
    (ho : r.owner = (w.vals v).owner) (h : (w.vals v).name = none) : Mono w (w.setVal v r) := by
  refine ⟨fun _ => rfl, fun _ => rfl, fun _ => rfl, fun _ _ h => h, setVal_field (·.locked) hl,
    setVal_field (·.owner) ho, ?_⟩
  intro m s' hs
  simp only [FWorld.setVal]
  split
  · subst_vars; rw [h] at hs; cases hs
  · exact hs

theorem mono_setAuth_setNode (w : FWorld) (k : Nat) (A : AuthR) (n : Nat) (r : NodeR)
    (hg : r.graph = (w.nodes n).graph) (ho : r.outputs = (w.nodes n).outputs)
    (hop : r.opType = (w.nodes n).opType) (h : (w.nodes n).name = none) :
    Mono w ((w.setAuth k A).setNode n r) :=
  (mono_setAuth w k A).trans (mono_setNodeName (w.setAuth k A) n r hg ho hop h)

theorem mono_setAuth_setVal (w : FWorld) (k : Nat) (A : AuthR) (v : Nat) (r : ValR)
    (hl : r.locked = (w.vals v).locked) (ho : r.owner = (w.vals v).owner) (h : (w.vals v).name = none) :
    Mono w ((w.setAuth k A).setVal v r) :=
  (mono_setAuth w k A).trans (mono_setValName (w.setAuth k A) v r hl ho h)

theorem freshNode_mono (w : FWorld) (k n : Nat) (h : (w.nodes n).name = none) :
    Mono w (freshNode w k n) ∧ (freshNode w k n).sw = w.sw := by
  unfold freshNode
  refine ⟨?_, ?_⟩
  · refine Mono.trans ?_ (mono_noteNodeName _ _ _)
    refine Mono.trans ?_ (mono_noteNodeNameO _ _ _)
    exact mono_setAuth_setNode w k _ n _ rfl rfl rfl h
  · simp only [noteNodeName, sw_setAuth, sw_noteNodeNameO, sw_setNode]

theorem regNode_mono (w : FWorld) (k n : Nat) : Mono w (regNode w k n) ∧ (regNode w k n).sw = w.sw := by
  unfold regNode
  split
  · exact ⟨mono_noteNodeName w k _, rfl⟩
  · rename_i hn; exact freshNode_mono w k n hn

theorem ValR.locked_map (r : ValR) (s : Option String) (f : Option String) :
    ({ r with name := s, const := r.const.map (fun c => (c.1, f)) } : ValR).locked = r.locked := by
  unfold ValR.locked
  cases r.const with
  | none => rfl
  | some c => rfl

theorem freshVal_mono (w : FWorld) (k v : Nat) (h : (w.vals v).name = none) :
    Mono w (freshVal w k v) ∧ (freshVal w k v).sw = w.sw := by
  unfold freshVal
  refine ⟨?_, ?_⟩
  · refine Mono.trans ?_ (mono_noteValName _ _ _)
    refine Mono.trans ?_ (mono_noteValNameO _ _ _)
    exact mono_setAuth_setVal w k _ v _ (ValR.locked_map _ _ _) rfl h
  · simp only [noteValName, sw_setAuth, sw_noteValNameO, sw_setVal]

/-- `register_or_name_value`: raises only for an unnamed value whose tensor refuses a name -/
theorem regVal_mono (w : FWorld) (k v : Nat) :
    Mono w (regVal w k v).1 ∧ (regVal w k v).1.sw = w.sw ∧
    ((regVal w k v).2 = true → valNamable w v = false) := by
  unfold regVal
  split
  · exact ⟨mono_noteValName w k _, rfl, fun h => by simp at h⟩
  · rename_i hn
    split
    · rename_i hl
      exact ⟨mono_setAuth w k _, rfl, fun _ => by simp [valNamable, hn, hl]⟩
    · obtain ⟨h1, h2⟩ := freshVal_mono w k v hn
      exact ⟨h1, h2, fun h => by simp at h⟩

theorem valNamable_mono {w w' : FWorld} (h : Mono w w') {v : Nat} (hv : valNamable w v = true) :
    valNamable w' v = true := by
  simp only [valNamable, Bool.not_eq_true', Bool.and_eq_false_iff] at hv ⊢
  rcases hv with hv | hv
  · left
    cases hs : (w.vals v).name with
    | none => rw [hs] at hv; simp at hv
    | some s => rw [h.vname v s hs]; rfl
  · right; rw [h.locked v]; exact hv

theorem nodeOK_mono {w w' : FWorld} (h : Mono w w') {k n : Nat} (hn : nodeOK w k n = true) :
    nodeOK w' k n = true := by
  simp only [nodeOK, Bool.and_eq_true, List.all_eq_true] at hn ⊢
  rw [h.graph n, h.outputs n]
  exact ⟨hn.1, fun o ho => valNamable_mono h (hn.2 o ho)⟩

theorem seqF_fold_sw {α : Type} (f : α → FWorld → FR) (hf : ∀ x w, (f x w).1.sw = w.sw) (xs : List α) (r : FR) :
    (xs.foldl (fun r x => seqF r (f x)) r).1.sw = r.1.sw :=
  ListFacts.foldl_proj (fun r : FR => r.1.sw) _ (fun r x _ => by
    unfold seqF
    split
    · rfl
    · exact hf x r.1) r

theorem regVals_sw (k : Nat) (os : List Nat) (r : FR) :
    (os.foldl (fun r o => seqF r (fun w => regVal w k o)) r).1.sw = r.1.sw :=
  seqF_fold_sw (fun o w => regVal w k o) (fun o w => (regVal_mono w k o).2.1) os r

theorem seqF_sw (r : FR) (f : FWorld → FR) : (seqF r f).1.sw = if r.2 then r.1.sw else (f r.1).1.sw := by
  unfold seqF
  split <;> simp_all

theorem nameNode_sw (w : FWorld) (k n : Nat) : (nameNode w k n).1.sw = w.sw := by
  unfold nameNode
  split
  · rfl
  · simp only
    rw [seqF_sw, regVals_sw]
    split
    · exact (regNode_mono w k n).2
    · simp only [sw_setNode]
      rw [regVals_sw]; exact (regNode_mono w k n).2

theorem nameNodes_fold_sw (k : Nat) (xs : List Nat) (r : FR) :
    (xs.foldl (fun r n => seqF r (fun w => nameNode w k n)) r).1.sw = r.1.sw :=
  seqF_fold_sw (fun n w => nameNode w k n) (fun n w => nameNode_sw w k n) xs r

theorem nameNodes_sw (w : FWorld) (k : Nat) (xs : List Nat) : (nameNodes w k xs).1.sw = w.sw := by
  unfold nameNodes
  split
  · rfl
  · exact nameNodes_fold_sw k xs (w, false)

/-- `Graph.extend` in ANY world: the container of `p.1` receives `extend(p.2)` exactly when nothing raised; otherwise
    no container changes -/
theorem extendF_sw (w : FWorld) (p : Nat × List Nat) :
    (extendF w p).1.sw = if (extendF w p).2 then w.sw else applyWrite w.sw p := by
  by_cases h : (nameNodes w p.1 p.2).2 = true
  · have e : extendF w p = nameNodes w p.1 p.2 := by simp [extendF, seqF, h]
    rw [e]; simp [h, nameNodes_sw]
  · have e : extendF w p = ({ (nameNodes w p.1 p.2).1 with sw := applyWrite (nameNodes w p.1 p.2).1.sw p }, false) := by
      simp [extendF, seqF, h]
    rw [e]; simp [nameNodes_sw]

/-- a fold of steps each of which, after the checking phase, raises nothing and changes names only -/
theorem seqF_fold_ok {α : Type} (w0 : FWorld) (f : α → FWorld → FR) (xs : List α) (w : FWorld) (hm : Mono w0 w)
    (hstep : ∀ x ∈ xs, ∀ w, Mono w0 w → (f x w).2 = false ∧ Mono w0 (f x w).1) :
    (xs.foldl (fun r x => seqF r (f x)) (w, false)).2 = false ∧
    Mono w0 (xs.foldl (fun r x => seqF r (f x)) (w, false)).1 :=
  ListFacts.foldl_inv_mem (fun r : FR => r.2 = false ∧ Mono w0 r.1) _ (fun r hr x hx => by
    simp only [seqF, hr.1, Bool.false_eq_true, if_false]; exact hstep x hx r.1 hr.2) ⟨rfl, hm⟩

/-- the fold of `register_or_name_value` over outputs that can all be named -/
theorem regVals_ok (w0 : FWorld) (k : Nat) (os : List Nat) (w : FWorld) (hm : Mono w0 w)
    (hall : ∀ o ∈ os, valNamable w0 o = true) :
    (os.foldl (fun r o => seqF r (fun w => regVal w k o)) (w, false)).2 = false ∧
    Mono w0 (os.foldl (fun r o => seqF r (fun w => regVal w k o)) (w, false)).1 :=
  seqF_fold_ok w0 (fun o w => regVal w k o) os w hm fun o ho w hm => by
    obtain ⟨h1, _, h3⟩ := regVal_mono w k o
    refine ⟨?_, hm.trans h1⟩
    cases hb : (regVal w k o).2 with
    | false => rfl
    | true =>
      have := h3 hb
      rw [valNamable_mono hm (hall o ho)] at this
      cases this

/-- `_set_node_graph_to_self_and_assign_names` on a node that passed the checking phase and already
    belongs to `k`: nothing raises, `node.graph` is what it was -/
theorem nameNode_ok {w0 w : FWorld} (hm : Mono w0 w) {k n : Nat} (hok : nodeOK w0 k n = true)
    (hg : (w0.nodes n).graph = some k) :
    (nameNode w k n).2 = false ∧ Mono w0 (nameNode w k n).1 := by
  have hok' := nodeOK_mono hm hok
  unfold nameNode
  simp only [hok', Bool.not_true, Bool.false_eq_true, if_false]
  have hall : ∀ o ∈ (w.nodes n).outputs, valNamable w0 o = true := by
    simp only [nodeOK, Bool.and_eq_true, List.all_eq_true] at hok
    rw [hm.outputs n]; exact hok.2
  obtain ⟨h1, h2⟩ := regVals_ok w0 k (w.nodes n).outputs (regNode w k n) (hm.trans (regNode_mono w k n).1) hall
  generalize (w.nodes n).outputs.foldl (fun r o => seqF r (fun w => regVal w k o)) (regNode w k n, false) = r at h1 h2
  simp only [seqF, h1, Bool.false_eq_true, if_false]
  refine ⟨trivial, ?_⟩
  have hgr : (r.1.nodes n).graph = some k := by rw [h2.graph n]; exact hg
  exact h2.trans (mono_setNode r.1 n _ hgr.symm rfl rfl (fun s hs => hs))

/-- `Graph.extend` after the checking phase: nothing raises; only names / authorities change (and the container of
    `p.1`: `extendF_sw`) -/
theorem extendF_ok {w0 w : FWorld} (hm : Mono w0 w) (p : Nat × List Nat)
    (hall : ∀ n ∈ p.2, nodeOK w0 p.1 n = true ∧ (w0.nodes n).graph = some p.1) :
    (extendF w p).2 = false ∧ Mono w0 (extendF w p).1 := by
  unfold extendF nameNodes
  have hchk : p.2.all (nodeOK w p.1) = true := by
    rw [List.all_eq_true]; intro n hn; exact nodeOK_mono hm (hall n hn).1
  simp only [hchk, Bool.not_true, Bool.false_eq_true, if_false]
  obtain ⟨h1, h2⟩ := seqF_fold_ok w0 (fun n w => nameNode w p.1 n) p.2 w hm
    (fun n hn _ hm' => nameNode_ok hm' (hall n hn).1 (hall n hn).2)
  generalize p.2.foldl (fun r n => seqF r (fun w => nameNode w p.1 n)) (w, false) = r at h1 h2
  simp only [seqF, h1, Bool.false_eq_true, if_false]
  -- `Mono` does not look at the containers: the world after the container write differs in `sw` only
  exact ⟨trivial, h2.graph, h2.outputs, h2.opType, h2.nname, h2.locked, h2.owner, h2.vname⟩

theorem writeStep_raise {s : WSt} {p : Nat × List Nat} (hl : s.late = false) (he : (extendF s.world p).2 = true) :
    writeStep s p = ⟨(extendF s.world p).1, true, s.trace⟩ := by
  simp only [writeStep, hl, Bool.false_eq_true, if_false, he, if_true]

theorem writeStep_ok {s : WSt} {p : Nat × List Nat} (hl : s.late = false) (he : (extendF s.world p).2 = false) :
    writeStep s p = ⟨(extendF s.world p).1, false, s.trace ++ [p]⟩ := by
  simp only [writeStep, hl, Bool.false_eq_true, if_false, he]

/-- step 6 after a passed checking phase -/
theorem writeAll_ok (w0 : FWorld) : ∀ (ws : List (Nat × List Nat)) (s : WSt), s.late = false →
    Mono w0 s.world →
    (∀ p ∈ ws, ∀ n ∈ p.2, nodeOK w0 p.1 n = true ∧ (w0.nodes n).graph = some p.1) →
    (ws.foldl writeStep s).late = false ∧ Mono w0 (ws.foldl writeStep s).world ∧
    (ws.foldl writeStep s).world.sw = applyWrites s.world.sw ws ∧
    (ws.foldl writeStep s).trace = s.trace ++ ws := by
  intro ws
  induction ws with
  | nil => intro s hl hm _; exact ⟨hl, hm, rfl, by simp⟩
  | cons p ps ih =>
    intro s hl hm hall
    obtain ⟨h1, h2⟩ := extendF_ok hm p (hall p (by simp))
    have h3 : (extendF s.world p).1.sw = applyWrite s.world.sw p := by rw [extendF_sw, h1]; rfl
    simp only [List.foldl_cons, writeStep_ok hl h1]
    obtain ⟨i1, i2, i3, i4⟩ := ih ⟨(extendF s.world p).1, false, s.trace ++ [p]⟩ rfl h2
      (fun q hq => hall q (List.mem_cons_of_mem _ hq))
    refine ⟨i1, i2, ?_, ?_⟩
    · rw [i3]; simp only [applyWrites, List.foldl_cons]; rw [h3]
    · rw [i4]; simp

/-! ### buckets by `node.graph` vs buckets by container -/

theorem mem_popped_sub {u : List Ent} {out : List Nat} {e : Ent}
    (he : e ∈ out.filterMap (fun i => u[i]?)) : e ∈ u := by
  obtain ⟨i, _, hi⟩ := List.mem_filterMap.1 he
  exact List.mem_of_getElem? hi

theorem bucketF_eq_bucket {w : FWorld} {u : List Ent} (hc : Consistent w u) (out : List Nat) (k : Nat) :
    bucketF w u out k = bucket u out k := by
  unfold bucketF bucket poppedIds
  rw [List.filter_map]
  congr 1
  apply List.filter_congr
  intro e he
  simp only [Function.comp, hc e (mem_popped_sub he)]
  simp

theorem keysF_eq_sortKeys {w : FWorld} {u : List Ent} (hc : Consistent w u) : keysF w u = sortKeys u := by
  unfold keysF sortKeys
  congr 1
  induction u with
  | nil => rfl
  | cons e es ih =>
    have he := hc e (by simp)
    simp only [List.filterMap_cons, he, List.map_cons]
    rw [ih (fun x hx => hc x (List.mem_cons_of_mem _ hx))]

theorem mem_bucketF_graph {w : FWorld} {u : List Ent} {out : List Nat} {k n : Nat}
    (h : n ∈ bucketF w u out k) : (w.nodes n).graph = some k := by
  unfold bucketF at h
  have := (List.mem_filter.1 h).2
  simpa using this

theorem mem_poppedIds {u : List Ent} {out : List Nat} {i : Nat} (h : i ∈ poppedIds u out) :
    ∃ e ∈ u, e.id = i := by
  obtain ⟨e, he, rfl⟩ := List.mem_map.1 h
  exact ⟨e, mem_popped_sub he, rfl⟩

theorem checked_buckets {w : FWorld} {u : List Ent} {out order : List Nat}
    (hchk : ¬ (order.map (fun k => (k, bucketF w u out k))).any (fun p => !p.2.all (nodeOK w p.1)) = true) :
    ∀ p ∈ order.map (fun k => (k, bucketF w u out k)), ∀ n ∈ p.2,
      nodeOK w p.1 n = true ∧ (w.nodes n).graph = some p.1 := by
  intro p hp n hn
  refine ⟨?_, ?_⟩
  · simp only [List.any_eq_true, Bool.not_eq_true', not_exists, not_and, Bool.not_eq_false] at hchk
    exact List.all_eq_true.1 (hchk p hp) n hn
  · obtain ⟨k, _, rfl⟩ := List.mem_map.1 hp
    exact mem_bucketF_graph hn

/-- everything `sortF` does, branch by branch -/
theorem sortF_spec (w : FWorld) (order : List Nat) (g : Nat) :
    (sortF w order g).out ≠ .late ∧ Mono w (sortF w order g).world ∧
    ((sortF w order g).out ≠ .ok → (sortF w order g).trace = [] ∧ (sortF w order g).world = w) ∧
    (sortF w order g).world.sw = applyWrites w.sw (sortF w order g).trace := by
  generalize hr : sortF w order g = r
  -- the four stops before any write
  have hstop : ∀ o : FOut, o ≠ .late → r = ⟨o, w, []⟩ → r.out ≠ .late ∧ Mono w r.world ∧
      (r.out ≠ .ok → r.trace = [] ∧ r.world = w) ∧ r.world.sw = applyWrites w.sw r.trace := by
    rintro o ho rfl
    exact ⟨ho, Mono.refl w, fun _ => ⟨rfl, rfl⟩, rfl⟩
  unfold sortF at hr
  cases hu : unfoldG w.sw w.sw.fuel g with
  | none => rw [hu] at hr; exact hstop _ (by simp) hr.symm
  | some t =>
    rw [hu] at hr
    simp only at hr
    generalize nodesOf t = u at hr
    generalize kahn u.length (predsAt u) = out at hr
    by_cases h1 : sharedGraph u = true
    · rw [if_pos h1] at hr; exact hstop _ (by simp) hr.symm
    rw [if_neg h1] at hr
    by_cases h2 : (poppedIds u out).any (fun i => (w.nodes i).graph.isNone) = true
    · rw [if_pos h2] at hr; exact hstop _ (by simp) hr.symm
    rw [if_neg h2] at hr
    by_cases h3 : (out.length != u.length) = true
    · rw [if_pos h3] at hr; exact hstop _ (by simp) hr.symm
    rw [if_neg h3] at hr
    by_cases hchk : (order.map (fun k => (k, bucketF w u out k))).any (fun p => !p.2.all (nodeOK w p.1)) = true
    · rw [if_pos hchk] at hr; exact hstop _ (by simp) hr.symm
    · rw [if_neg hchk] at hr
      subst hr
      obtain ⟨h1, h2, h3, h4⟩ := writeAll_ok w _ ⟨w, false, []⟩ rfl (Mono.refl w) (checked_buckets hchk)
      unfold writeAll
      simp only [h1, Bool.false_eq_true, if_false]
      refine ⟨by simp, h2, fun h => absurd rfl h, ?_⟩
      rw [h3, h4]; rfl

end IrVerif.Sort
