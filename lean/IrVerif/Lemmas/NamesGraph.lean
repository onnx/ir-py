/-
C15 part A, graph level: every name carried by an object the graph owns is known to the
authority, along any history of the operations that attach, detach, name and rename objects.
-/
import IrVerif.Lemmas.Names
namespace IrVerif.Names

/-- every name carried by an owned value / node is in the authority's seen set -/
structure Carried (st : GSt) : Prop where
  values : ∀ v ∈ st.vown, ∀ s, st.vname v = some s → s ∈ st.auth.vnames
  nodes : ∀ n ∈ st.nown, ∀ s, st.nname n = some s → s ∈ st.auth.nnames

theorem note_mono (a : Auth) (b : Bool) (name : Option String) :
    (∀ x, x ∈ a.vnames → x ∈ (a.note b name).vnames) ∧ (∀ x, x ∈ a.nnames → x ∈ (a.note b name).nnames) := by
  cases name with
  | none => exact ⟨fun _ h => h, fun _ h => h⟩
  | some s =>
    cases b
    · exact ⟨fun x h => by simp [Auth.note, h], fun x h => by simpa [Auth.note] using h⟩
    · exact ⟨fun x h => by simpa [Auth.note] using h, fun x h => by simp [Auth.note, h]⟩

theorem note_mem (a : Auth) (b : Bool) (s : String) :
    s ∈ (a.note b (some s)).seen b := by
  cases b <;> simp [Auth.note, Auth.seen]

/-- seen sets never shrink at the graph level either -/
theorem gstep_mono (st : GSt) (op : GOp) :
    (∀ x, x ∈ st.auth.vnames → x ∈ (gstep st op).auth.vnames) ∧ (∀ x, x ∈ st.auth.nnames → x ∈ (gstep st op).auth.nnames) := by
  cases op with
  | regValue v =>
    have := (step_mono st.auth (.value (st.vname v))).1
    exact ⟨fun x h => this false x h, fun x h => this true x h⟩
  | regNode n o =>
    have := (step_mono st.auth (.node (st.nname n) o)).1
    exact ⟨fun x h => this false x h, fun x h => this true x h⟩
  | noteValue v => exact note_mono _ _ _
  | setValue v name =>
    simp only [gstep]
    split
    · exact ⟨fun _ h => h, fun _ h => h⟩
    · dsimp only
      split
      · exact note_mono _ _ _
      · exact ⟨fun _ h => h, fun _ h => h⟩
  | setNode n name =>
    simp only [gstep]
    split
    · exact note_mono _ _ _
    · exact ⟨fun _ h => h, fun _ h => h⟩
  | dropValue v => exact ⟨fun _ h => h, fun _ h => h⟩
  | dropNode n => exact ⟨fun _ h => h, fun _ h => h⟩

theorem grun_nil (st : GSt) : grun [] st = st := rfl
theorem grun_cons (op : GOp) (ops : List GOp) (st : GSt) : grun (op :: ops) st = grun ops (gstep st op) := rfl
theorem grun_append (a b : List GOp) (st : GSt) : grun (a ++ b) st = grun b (grun a st) := by
  simp [grun, List.foldl_append]

theorem grun_mono (ops : List GOp) (st : GSt) :
    (∀ x, x ∈ st.auth.vnames → x ∈ (grun ops st).auth.vnames) ∧ (∀ x, x ∈ st.auth.nnames → x ∈ (grun ops st).auth.nnames) :=
  ListFacts.foldl_rtrans
    (fun a b : GSt => (∀ x, x ∈ a.auth.vnames → x ∈ b.auth.vnames) ∧ ∀ x, x ∈ a.auth.nnames → x ∈ b.auth.nnames)
    (fun _ => ⟨fun _ h => h, fun _ h => h⟩) (fun h1 h2 => ⟨fun x h => h2.1 x (h1.1 x h), fun x h => h2.2 x (h1.2 x h)⟩)
    gstep (fun a op _ => gstep_mono a op) st

theorem gstep_carried (st : GSt) (op : GOp) (h : Carried st) : Carried (gstep st op) := by
  obtain ⟨m1, m2⟩ := gstep_mono st op
  cases op with
  | regValue v =>
    refine ⟨?_, fun n hn s hs => m2 s (h.nodes n hn s hs)⟩
    intro u hu s hs
    simp only [gstep] at hu hs ⊢
    by_cases huv : u = v
    · subst huv
      simp only [upd_eq, Option.some.injEq] at hs
      subst hs
      have := step_registers st.auth (.value (st.vname u))
      have hk : (step st.auth (.value (st.vname u))).2.isNode = false := by
        cases st.vname u <;> simp [step]
      rw [hk] at this
      simpa [Auth.seen] using this
    · rw [upd_ne _ _ huv] at hs
      rcases List.mem_cons.mp hu with e | hu
      · exact absurd e huv
      · exact m1 s (h.values u hu s hs)
  | regNode n o =>
    refine ⟨fun v hv s hs => m1 s (h.values v hv s hs), ?_⟩
    intro u hu s hs
    simp only [gstep] at hu hs ⊢
    by_cases hun : u = n
    · subst hun
      simp only [upd_eq, Option.some.injEq] at hs
      subst hs
      have := step_registers st.auth (.node (st.nname u) o)
      have hk : (step st.auth (.node (st.nname u) o)).2.isNode = true := by
        cases st.nname u <;> simp [step]
      rw [hk] at this
      simpa [Auth.seen] using this
    · rw [upd_ne _ _ hun] at hs
      rcases List.mem_cons.mp hu with e | hu
      · exact absurd e hun
      · exact m2 s (h.nodes u hu s hs)
  | noteValue v =>
    refine ⟨?_, fun n hn s hs => m2 s (h.nodes n hn s hs)⟩
    intro u hu s hs
    simp only [gstep] at hu hs ⊢
    rcases List.mem_cons.mp hu with rfl | hu
    · rw [hs]; simpa [Auth.seen] using note_mem st.auth false s
    · exact (note_mono _ _ _).1 s (h.values u hu s hs)
  | setValue v name =>
    by_cases he : st.vname v = name
    · simp only [gstep, he, if_true]; exact h
    · refine ⟨?_, fun n hn s hs => ?_⟩
      · intro u hu s hs
        simp only [gstep, he, if_false] at hu hs ⊢
        by_cases huv : u = v
        · subst huv
          simp only [upd_eq] at hs
          subst hs
          have : st.vown.contains u = true := by simpa using hu
          simp only [this, if_true]
          simpa [Auth.seen] using note_mem st.auth false s
        · rw [upd_ne _ _ huv] at hs
          have := h.values u hu s hs
          split
          · exact (note_mono _ _ _).1 s this
          · exact this
      · have hn' : n ∈ st.nown := by simpa [gstep, he] using hn
        have hs' : st.nname n = some s := by simpa [gstep, he] using hs
        exact m2 s (h.nodes n hn' s hs')
  | setNode n name =>
    refine ⟨fun v hv s hs => ?_, ?_⟩
    · have hv' : v ∈ st.vown := by simpa [gstep] using hv
      have hs' : st.vname v = some s := by simpa [gstep] using hs
      exact m1 s (h.values v hv' s hs')
    · intro u hu s hs
      simp only [gstep] at hu hs ⊢
      by_cases hun : u = n
      · subst hun
        simp only [upd_eq] at hs
        subst hs
        have : st.nown.contains u = true := by simpa using hu
        simp only [this, if_true]
        simpa [Auth.seen] using note_mem st.auth true s
      · rw [upd_ne _ _ hun] at hs
        have := h.nodes u hu s hs
        split
        · exact (note_mono _ _ _).2 s this
        · exact this
  | dropValue v =>
    refine ⟨fun u hu s hs => ?_, fun n hn s hs => h.nodes n hn s hs⟩
    have hu' : u ∈ st.vown := by
      have : u ∈ st.vown.filter (· != v) := hu
      exact (List.mem_filter.mp this).1
    exact h.values u hu' s hs
  | dropNode n =>
    refine ⟨fun u hu s hs => h.values u hu s hs, fun u hu s hs => ?_⟩
    have hu' : u ∈ st.nown := by
      have : u ∈ st.nown.filter (· != n) := hu
      exact (List.mem_filter.mp this).1
    exact h.nodes u hu' s hs

theorem grun_carried (ops : List GOp) (st : GSt) (h : Carried st) : Carried (grun ops st) :=
  ListFacts.foldl_inv Carried gstep gstep_carried ops st h

/-! ### a step other than the user's assignment to an object keeps the name the object has -/

theorem gstep_keeps_value (st : GSt) (op : GOp) (v : Nat) (s : String) (h : st.vname v = some s)
    (hop : ∀ name, op ≠ .setValue v name) : (gstep st op).vname v = some s := by
  cases op with
  | regValue u =>
    simp only [gstep]
    by_cases huv : v = u
    · subst huv; simp [h, step]
    · rw [upd_ne _ _ huv]; exact h
  | regNode n o => exact h
  | noteValue u => exact h
  | setValue u name =>
    simp only [gstep]
    split
    · exact h
    · have : v ≠ u := fun e => hop name (by rw [e])
      simp only; rw [upd_ne _ _ this]; exact h
  | setNode n name => exact h
  | dropValue u => exact h
  | dropNode n => exact h

theorem gstep_keeps_node (st : GSt) (op : GOp) (n : Nat) (s : String) (h : st.nname n = some s)
    (hop : ∀ name, op ≠ .setNode n name) : (gstep st op).nname n = some s := by
  cases op with
  | regValue u => exact h
  | regNode m o =>
    simp only [gstep]
    by_cases hnm : n = m
    · subst hnm; simp [h, step]
    · rw [upd_ne _ _ hnm]; exact h
  | noteValue u => exact h
  | setValue u name =>
    simp only [gstep]
    split <;> exact h
  | setNode m name =>
    have : n ≠ m := fun e => hop name (by rw [e])
    simp only [gstep]; rw [upd_ne _ _ this]; exact h
  | dropValue u => exact h
  | dropNode m => exact h

end IrVerif.Names
