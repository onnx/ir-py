/-
Reloadable IR models: the certificate `replG` re-runs the scope discipline of the deserializer over an
IR model (tables of the model's own values, equality checks instead of allocations).  It holds of
everything the deserializer builds (placeholders for dangling names, fresh values for unproduced graph
outputs, duplicate input names, shadowing included: `deserialize_reloadable`), of every `Serializable` model
(`Serializable.reloadable`, `ScopeSerRepl`), and it is what the round trip needs.
-/
import IrVerif.Lemmas.ScopeRTMain
namespace IrVerif.Scope

/-! ### tables of source values and their images -/

/-- the scope table of the second run: the table of source values, renamed -/
def mapT (A : Assoc) (T : Table) : Table := T.map fun e => (e.1, sig A e.2)

/-- every value bound in `T` has an image -/
def TblIn (A : Assoc) (T : Table) : Prop := ∀ e ∈ T, e.2 ∈ A.map (·.1)

theorem lookup_mapT (A : Assoc) (T : Table) (x : Name) : (mapT A T).lookup x = (T.lookup x).map (sig A) := by
  induction T with
  | nil => rfl
  | cons e T ih =>
    obtain ⟨k, v⟩ := e
    simp only [mapT, List.map_cons, List.lookup_cons]
    split
    · rfl
    · exact ih

theorem resolve_mapT (A : Assoc) (x : Name) : ∀ (Ts : List Table),
    resolve x (Ts.map (mapT A)) = (resolve x Ts).map (sig A)
  | [] => rfl
  | T :: Ts => by
    simp only [List.map_cons, resolve, lookup_mapT]
    cases T.lookup x with
    | some v => rfl
    | none => exact resolve_mapT A x Ts

theorem mapT_extend {A : Assoc} (B : Assoc) {T : Table} (h : TblIn A T) : mapT (A ++ B) T = mapT A T := by
  apply List.map_congr_left
  intro e he
  rw [sig_append_of_mem (h e he)]

theorem mapT_cons (A : Assoc) (k : Name) (v : Nat) (T : Table) : mapT A ((k, v) :: T) = (k, sig A v) :: mapT A T := rfl

theorem TblIn.append {A : Assoc} (B : Assoc) {T : Table} (h : TblIn A T) : TblIn (A ++ B) T :=
  fun e he => mem_keys_append (h e he)

theorem TblIn.cons {A : Assoc} {T : Table} {k : Name} {v : Nat} (h : TblIn A T) (hv : v ∈ A.map (·.1)) :
    TblIn A ((k, v) :: T) := fun e he => by
  simp only [List.mem_cons] at he
  rcases he with rfl | he
  · exact hv
  · exact h e he

theorem mapT_snoc_cons {A : Assoc} {T : Table} (k : Name) {v : Nat} (d : Nat) (hv : v ∉ A.map (·.1)) (hT : TblIn A T) :
    (k, d) :: mapT A T = mapT (A ++ [(v, d)]) ((k, v) :: T) := by
  rw [mapT_cons, sig_append_single hv, mapT_extend _ hT]

theorem TblIn.snoc_cons {A : Assoc} {T : Table} (k : Name) {v : Nat} (d : Nat) (hT : TblIn A T) :
    TblIn (A ++ [(v, d)]) ((k, v) :: T) := (hT.append _).cons mem_keys_snoc

theorem TblIn.lookup {A : Assoc} {T : Table} (h : TblIn A T) {x : Name} {v : Nat} (hl : T.lookup x = some v) :
    v ∈ A.map (·.1) := h _ (ListFacts.mem_of_lookup hl)

/-- result of one phase of the certificate: the scope afterwards, the values the phase introduced (in the
    order in which a deserializer run creates them), and the conditions -/
structure RR where
  tbl : Table
  new : List Nat
  ok : Prop

/-- `{v.name: v for v in inputs}`, newest first -/
def tblIns (V : Nat → ValueS) (ins : List Nat) : Table := (ins.map fun v => (nm V v, v)).reverse

/-- the initializer dict: a key bound in the scope (a graph input) must be bound to this value; any
    other key introduces the value.  Keyed by its non-empty name, with a tensor; an initializer of its
    own that is not a graph output has a type and a shape (it would receive them from its tensor). -/
def replInits (V : Nat → ValueS) (gouts : List Nat) : Table → List (Name × Nat) → RR
  | T, [] => ⟨T, [], True⟩
  | T, (k, v) :: r =>
    match T.lookup k with
    | some u =>
      ⟨(replInits V gouts T r).tbl, (replInits V gouts T r).new,
        ((V v).name = some k ∧ k ≠ "" ∧ (V v).const ≠ none) ∧ u = v ∧ (replInits V gouts T r).ok⟩
    | none =>
      ⟨(replInits V gouts ((k, v) :: T) r).tbl, v :: (replInits V gouts ((k, v) :: T) r).new,
        ((V v).name = some k ∧ k ≠ "" ∧ (V v).const ≠ none) ∧
        (v ∉ gouts → (V v).info.ty ≠ none ∧ (V v).info.sh ≠ none) ∧ (replInits V gouts ((k, v) :: T) r).ok⟩

/-- declaring the (live) node outputs of a graph: a non-empty name must be unbound -/
def replDecl (V : Nat → ValueS) : Table → List Nat → RR
  | T, [] => ⟨T, [], True⟩
  | T, v :: r =>
    if nameTruthy (V v).name then
      ⟨(replDecl V ((nm V v, v) :: T) r).tbl, v :: (replDecl V ((nm V v, v) :: T) r).new,
        T.lookup (nm V v) = none ∧ (replDecl V ((nm V v, v) :: T) r).ok⟩
    else
      ⟨(replDecl V T r).tbl, (replDecl V T r).new, (V v).name ≠ none ∧ (replDecl V T r).ok⟩

/-- the inputs of a node: a name bound in the scope stack must be bound to this value (innermost first);
    an unbound name introduces the value (a placeholder) in the current scope -/
def replRes (V : Nat → ValueS) (outer : List Table) : Table → List (Option Nat) → RR
  | T, [] => ⟨T, [], True⟩
  | T, none :: r => replRes V outer T r
  | T, some v :: r =>
    match resolve (nm V v) (T :: outer) with
    | some u =>
      ⟨(replRes V outer T r).tbl, (replRes V outer T r).new,
        nameTruthy (V v).name = true ∧ u = v ∧ (replRes V outer T r).ok⟩
    | none =>
      ⟨(replRes V outer ((nm V v, v) :: T) r).tbl, v :: (replRes V outer ((nm V v, v) :: T) r).new,
        nameTruthy (V v).name = true ∧ (replRes V outer ((nm V v, v) :: T) r).ok⟩

/-- graph outputs: a name bound in the graph's own scope must be bound to this value; an unbound name
    introduces the value (which is not entered into the scope) -/
def replOuts (V : Nat → ValueS) (T : Table) : List Nat → RR
  | [] => ⟨T, [], True⟩
  | v :: r =>
    match T.lookup (nm V v) with
    | some u => ⟨T, (replOuts V T r).new, (V v).name ≠ none ∧ u = v ∧ (replOuts V T r).ok⟩
    | none => ⟨T, v :: (replOuts V T r).new, (V v).name ≠ none ∧ (replOuts V T r).ok⟩

mutual
/-- the certificate of a graph nested in the scopes `outer` -/
def replG (V : Nat → ValueS) (outer : List Table) : GraphT → RR
  | .mk _ ins inits nodes outs =>
    ⟨[],
      ins ++ (replInits V outs (tblIns V ins) inits).new ++
        (replDecl V (replInits V outs (tblIns V ins) inits).tbl (nodes.flatMap (liveOuts V))).new ++
        (replNs V outer (replDecl V (replInits V outs (tblIns V ins) inits).tbl (nodes.flatMap (liveOuts V))).tbl nodes).new ++
        (replOuts V (replNs V outer (replDecl V (replInits V outs (tblIns V ins) inits).tbl
          (nodes.flatMap (liveOuts V))).tbl nodes).tbl outs).new,
      (∀ v ∈ ins, (V v).name ≠ none) ∧ (inits.map (·.1)).Nodup ∧
        (replInits V outs (tblIns V ins) inits).ok ∧
        (replDecl V (replInits V outs (tblIns V ins) inits).tbl (nodes.flatMap (liveOuts V))).ok ∧
        (replNs V outer (replDecl V (replInits V outs (tblIns V ins) inits).tbl (nodes.flatMap (liveOuts V))).tbl nodes).ok ∧
        (replOuts V (replNs V outer (replDecl V (replInits V outs (tblIns V ins) inits).tbl
          (nodes.flatMap (liveOuts V))).tbl nodes).tbl outs).ok⟩
def replNs (V : Nat → ValueS) (outer : List Table) : Table → List NodeT → RR
  | T, [] => ⟨T, [], True⟩
  | T, n :: ns =>
    ⟨(replNs V outer (replN V outer T n).tbl ns).tbl,
      (replN V outer T n).new ++ (replNs V outer (replN V outer T n).tbl ns).new,
      (replN V outer T n).ok ∧ (replNs V outer (replN V outer T n).tbl ns).ok⟩
def replN (V : Nat → ValueS) (outer : List Table) : Table → NodeT → RR
  | T, .mk _ _ ins outs subs =>
    ⟨(replRes V outer T ins).tbl,
      (replRes V outer T ins).new ++ (stripTrailing V outs).filter (fun v => !nameTruthy (V v).name) ++
        (replGs V ((replRes V outer T ins).tbl :: outer) subs).new,
      (replRes V outer T ins).ok ∧ (∀ v ∈ stripTrailing V outs, (V v).name ≠ none) ∧
        (∀ v ∈ stripTrailing V outs, nameTruthy (V v).name = true →
          (replRes V outer T ins).tbl.lookup (nm V v) = some v) ∧
        (replGs V ((replRes V outer T ins).tbl :: outer) subs).ok⟩
def replGs (V : Nat → ValueS) (scopes : List Table) : List GraphT → RR
  | [] => ⟨[], [], True⟩
  | g :: gs => ⟨[], (replG V scopes g).new ++ (replGs V scopes gs).new, (replG V scopes g).ok ∧ (replGs V scopes gs).ok⟩
end

/-- **Reloadable**: the model is what a deserializer run produces from the names it carries — every
    reference resolves, innermost scope first, to the value it refers to, or refers to a value that is
    introduced at that point (placeholder, unproduced graph output); every introduced value is
    introduced once. -/
def Reloadable (w : World) : Prop :=
  (replG w.st.vals [] w.root).ok ∧ (replG w.st.vals [] w.root).new.Nodup

theorem replInits_new_sub (V : Nat → ValueS) (go : List Nat) : ∀ (l : List (Name × Nat)) (T : Table),
    ∀ x ∈ (replInits V go T l).new, x ∈ l.map (·.2) := by
  intro l
  induction l with
  | nil => intro T x hx; simp [replInits] at hx
  | cons e l ih =>
    obtain ⟨k', v'⟩ := e
    intro T x hx
    simp only [replInits] at hx
    split at hx
    · simp only [List.map_cons, List.mem_cons]
      exact .inr (ih _ x hx)
    · simp only [List.mem_cons] at hx
      simp only [List.map_cons, List.mem_cons]
      rcases hx with rfl | hx
      · exact .inl rfl
      · exact .inr (ih _ x hx)

end IrVerif.Scope
