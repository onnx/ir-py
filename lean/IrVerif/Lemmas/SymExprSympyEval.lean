/-
C16: the evaluation half of the SymPy-surface theorem.  The tree `surf s` the repository's parser
returns on the text SymPy's `str()` prints for `s` (`Lemmas/SymExprSympy.lean`) has, under EVERY
binding, exactly the value of the SymPy object's meaning `sden s` ("no value" cases included):
reading `-3*N/4` as `((-3)*N)/4`, `a - b` for `a + (-b)`, `x/(c*d)` for `x * c**-1 * d**-1`,
`1/N` for `N**-1`, `sqrt(N)` for `N**(1/2)`, `M/N**(2/3)` for `M*N**(-2/3)` preserves the exact
value (`eval_surf`).

One induction (`vinv_all`) over `ValRel p` serves two theorems: `p := True` is equality (`eval_surfX`,
under `denNZ`), `p := False` is "no value, or the same value" (`surf_refines`, no side condition:
at a zero base the text may only lose its value, `M/0**(-2)` against `M*0**2`).
-/
import IrVerif.Lemmas.SymExprSympy
namespace IrVerif.SymExpr

def omul : Option Rat → Option Rat → Option Rat
  | some x, some y => some (x * y)
  | _, _ => none

def evalProd (env : Env) : List Expr → Option Rat
  | [] => some 1
  | e :: es => omul (eval env e) (evalProd env es)

def frac (m : Bool) : Option Rat → Option Rat → Option Rat
  | some n, some d => if d = 0 then none else some ((if m then -n else n) / d)
  | _, _ => none

theorem omul_assoc (a b c : Option Rat) : omul (omul a b) c = omul a (omul b c) := by
  cases a <;> cases b <;> cases c <;> simp [omul, mul_assoc]

theorem omul_one (a : Option Rat) : omul a (some 1) = a := by cases a <;> simp [omul]
theorem one_omul (a : Option Rat) : omul (some 1) a = a := by cases a <;> simp [omul]

theorem eval_mul (env : Env) (a b : Expr) :
    eval env (.bin .mul a b) = omul (eval env a) (eval env b) := by
  simp only [eval]
  cases eval env a <;> cases eval env b <;> simp [omul, evalBin]

theorem eval_foldl_mul (env : Env) (es : List Expr) (a : Expr) :
    eval env (es.foldl (fun acc y => .bin .mul acc y) a) = omul (eval env a) (evalProd env es) := by
  induction es generalizing a with
  | nil => simp [evalProd, omul_one]
  | cons e es ih => simp only [List.foldl_cons, ih, eval_mul, evalProd, omul_assoc]

theorem eval_foldBin_mul (env : Env) (es : List Expr) :
    eval env (foldBin .mul (.num 1) es) = evalProd env es := by
  cases es with
  | nil => simp [foldBin, evalProd, eval]
  | cons a rest => simp only [foldBin, eval_foldl_mul, evalProd]

theorem evalProd_append (env : Env) (a b : List Expr) :
    evalProd env (a ++ b) = omul (evalProd env a) (evalProd env b) := by
  induction a with
  | nil => simp [evalProd, one_omul]
  | cons x a ih => simp only [List.cons_append, evalProd, ih, omul_assoc]

theorem frac_false_one (a : Option Rat) : frac false (omul a (some 1)) (some 1) = a := by
  cases a <;> simp [frac, omul]

theorem omul_none_left (b : Option Rat) : omul none b = none := rfl
theorem omul_none_right (a : Option Rat) : omul a none = none := by cases a <;> rfl
theorem frac_none_left (m : Bool) (d : Option Rat) : frac m none d = none := rfl
theorem frac_none_right (m : Bool) (n : Option Rat) : frac m n none = none := by cases n <;> rfl

theorem frac_mul (s1 s2 : Bool) : ∀ (n1 n2 d1 d2 : Option Rat),
    omul (frac s1 n1 d1) (frac s2 n2 d2) = frac (xor s1 s2) (omul n1 n2) (omul d1 d2)
  | none, _, _, _ => by simp only [frac_none_left, omul_none_left]
  | some _, none, _, _ => by simp only [frac_none_left, omul_none_right]
  | some _, some _, none, _ => by simp only [frac_none_right, omul_none_left]
  | some _, some _, some _, none => by simp only [frac_none_right, omul_none_right]
  | some n1, some n2, some d1, some d2 => by
    simp only [frac, omul]
    by_cases h1 : d1 = 0
    · simp [h1]
    · by_cases h2 : d2 = 0
      · simp [h2]
      · simp only [h1, h2, if_false, mul_eq_zero, or_self, div_mul_div_comm]
        congr 2
        cases s1 <;> cases s2 <;> simp

theorem frac_neg (n d : Option Rat) : frac false n d = (frac true n d).map (fun v => -v) := by
  cases n <;> cases d <;> simp [frac]
  split <;> simp [neg_div]

theorem eval_mulNumerE (env : Env) (m : Bool) (x : Expr) (rest : List Expr) :
    eval env (mulNumerE m (x :: rest)) = frac m (evalProd env (x :: rest)) (some 1) := by
  simp only [mulNumerE, eval_foldl_mul, evalProd]
  cases m <;> cases h1 : eval env x <;> cases h2 : evalProd env rest <;>
    simp [omul, frac, eval, evalUn, h1]

theorem eval_mulBodyE (env : Env) (m : Bool) (fs : List (SExpr × SF)) :
    eval env (mulBodyE m fs) =
      frac m (evalProd env (mulNumE fs)) (evalProd env (mulDenE fs)) := by
  have hN : ∀ A : List Expr, eval env (mulNumerE m (if A.isEmpty then [Expr.num 1] else A)) =
      frac m (evalProd env A) (some 1) := by
    intro A
    cases A with
    | nil => simp [eval_mulNumerE, evalProd, eval, omul]
    | cons x rest => simp [eval_mulNumerE]
  simp only [mulBodyE]
  cases hD : mulDenE fs with
  | nil => simp only [hN, evalProd]
  | cons d ds =>
    simp only [eval, hN, eval_foldBin_mul]
    cases h1 : evalProd env (mulNumE fs) <;> cases h2 : evalProd env (d :: ds) <;>
      simp [frac, evalBin]

theorem stripNeg_foldl (rest : List Expr) (acc : Expr) :
    stripNeg (rest.foldl (fun a y => .bin .mul a y) acc) =
      rest.foldl (fun a y => .bin .mul a y) (stripNeg acc) := by
  induction rest generalizing acc with
  | nil => rfl
  | cons y rest ih => simp only [List.foldl_cons, ih, stripNeg]

theorem stripNeg_mulBodyE (fs : List (SExpr × SF)) :
    stripNeg (mulBodyE true fs) = mulBodyE false fs := by
  have hN : ∀ A : List Expr, stripNeg (mulNumerE true (if A.isEmpty then [Expr.num 1] else A)) =
      mulNumerE false (if A.isEmpty then [Expr.num 1] else A) := by
    intro A
    cases A with
    | nil => simp [mulNumerE, stripNeg]
    | cons x rest => simp [mulNumerE, stripNeg_foldl, stripNeg]
  simp only [mulBodyE]
  cases mulDenE fs with
  | nil => simp only [hN]
  | cons d ds => simp only [stripNeg, hN]

def sgnF (f : SExpr) : Bool := isNum f && negCoeff f

def sgnL : List SExpr → Bool
  | [] => false
  | f :: fs => xor (sgnF f) (sgnL fs)

/-- `a` has no value or the value of `b`, and the two are equal when `p` holds: equality for
    `p := True`, "never another value" for `p := False` -/
def ValRel (p : Prop) (a b : Option Rat) : Prop := (∀ v, a = some v → b = some v) ∧ (p → a = b)

theorem ValRel.of_eq {p : Prop} {a b : Option Rat} (h : a = b) : ValRel p a b :=
  ⟨fun _ hv => h ▸ hv, fun _ => h⟩

theorem ValRel.refl {p : Prop} (a : Option Rat) : ValRel p a a := ValRel.of_eq rfl

theorem ValRel.trans {p : Prop} {a b c : Option Rat} (h1 : ValRel p a b) (h2 : ValRel p b c) : ValRel p a c :=
  ⟨fun v hv => h2.1 v (h1.1 v hv), fun hp => (h1.2 hp).trans (h2.2 hp)⟩

theorem ValRel.none {p : Prop} (hp : ¬ p) (b : Option Rat) : ValRel p Option.none b :=
  ⟨fun _ h => (by cases h), fun h => absurd h hp⟩

theorem ValRel.cases {p : Prop} {a b : Option Rat} (h : ValRel p a b) :
    a = b ∨ (a = Option.none ∧ ¬ p) := by
  cases ha : a with
  | none =>
    by_cases hp : p
    · exact Or.inl (ha ▸ h.2 hp)
    · exact Or.inr ⟨rfl, hp⟩
  | some v => exact Or.inl (h.1 v ha).symm

/-- `ValRel p` is a congruence for every operation that has no value as soon as an argument has
    none -/
theorem ValRel.map₂ {p : Prop} (F : Option Rat → Option Rat → Option Rat)
    (hl : ∀ b, F Option.none b = Option.none) (hr : ∀ a, F a Option.none = Option.none)
    {a a' b b' : Option Rat} (h1 : ValRel p a a') (h2 : ValRel p b b') :
    ValRel p (F a b) (F a' b') := by
  rcases h1.cases with rfl | ⟨rfl, hp⟩
  · rcases h2.cases with rfl | ⟨rfl, hp⟩
    · exact ValRel.refl _
    · rw [hr]; exact ValRel.none hp _
  · rw [hl]; exact ValRel.none hp _

theorem ValRel.map {p : Prop} (F : Option Rat → Option Rat) (h0 : F Option.none = Option.none)
    {a a' : Option Rat} (h : ValRel p a a') : ValRel p (F a) (F a') := by
  rcases h.cases with rfl | ⟨rfl, hp⟩
  · exact ValRel.refl _
  · rw [h0]; exact ValRel.none hp _

theorem omul_mono {p : Prop} {a a' b b' : Option Rat} (h1 : ValRel p a a') (h2 : ValRel p b b') :
    ValRel p (omul a b) (omul a' b') :=
  ValRel.map₂ omul omul_none_left omul_none_right h1 h2

theorem frac_mono {p : Prop} {m : Bool} {n n' d d' : Option Rat} (h1 : ValRel p n n')
    (h2 : ValRel p d d') : ValRel p (frac m n d) (frac m n' d') :=
  ValRel.map₂ (frac m) (frac_none_left m) (frac_none_right m) h1 h2

theorem map_neg_mono {p : Prop} {a b : Option Rat} (h : ValRel p a b) :
    ValRel p (a.map (fun v => -v)) (b.map (fun v => -v)) :=
  ValRel.map (Option.map (fun v => -v)) rfl h

/-- the value of a binary node as an operation on the values of its children -/
def evalBinO (o : BinOp) : Option Rat → Option Rat → Option Rat
  | some x, some y => evalBin o x y
  | _, _ => none

theorem eval_bin_eq (env : Env) (o : BinOp) (a b : Expr) :
    eval env (.bin o a b) = evalBinO o (eval env a) (eval env b) := by
  simp only [eval]
  cases eval env a <;> cases eval env b <;> rfl

theorem evalBinO_mono {p : Prop} (o : BinOp) {a a' b b' : Option Rat} (h1 : ValRel p a a')
    (h2 : ValRel p b b') : ValRel p (evalBinO o a b) (evalBinO o a' b') :=
  ValRel.map₂ (evalBinO o) (fun _ => rfl) (fun a => by cases a <;> rfl) h1 h2

theorem eval_bin_mono {p : Prop} (env : Env) (o : BinOp) {a a' b b' : Expr}
    (h1 : ValRel p (eval env a) (eval env a')) (h2 : ValRel p (eval env b) (eval env b')) :
    ValRel p (eval env (.bin o a b)) (eval env (.bin o a' b')) := by
  rw [eval_bin_eq, eval_bin_eq]
  exact evalBinO_mono o h1 h2

theorem eval_un_mono {p : Prop} (env : Env) (o : UnOp) {a a' : Expr}
    (h : ValRel p (eval env a) (eval env a')) : ValRel p (eval env (.un o a)) (eval env (.un o a')) :=
  ValRel.map (fun x => match x with | some x => evalUn o x | none => none) rfl h

/-- what the induction carries: the value of the surface tree against the value of the meaning;
    a power with a negative exponent is one over its denominator entry (for equality: when the
    exponent is a literal or the base is not zero under the binding); the negated exponent `apow`
    prints has the negated value -/
def ValueInv (p : Prop) (env : Env) (s : SExpr) : Prop :=
  ValRel p (eval env (sfOf s).e) (eval env (sden s)) ∧
  (isDenPow s = true → (p → denNZf env s = true) →
    ValRel p (frac false (some 1) (eval env (sfOf s).den)) (eval env (sden s))) ∧
  (negCoeff s = true → ValRel p (eval env (sfOf s).neg) ((eval env (sden s)).map (fun v => -v)))

theorem eval_num (env : Env) (n : Int) : eval env (.num n) = some (n : Rat) := rfl

theorem sden_int (z : Int) : sden (.int z) = .num z := rfl
theorem sden_rat (p : Int) (q : Nat) : sden (.rat p q) = .bin .div (.num p) (.num q) := rfl
theorem sden_sym (x : String) : sden (.sym x) = .sym x := rfl

theorem sden_add (ts : List SExpr) : sden (.add ts) = foldBin .add (.num 0) (ts.map sden) := by
  simp only [sden, para, paraL_eq, sdenAlg, List.map_map, Function.comp_def]
  rfl

theorem sden_mul (fs : List SExpr) : sden (.mul fs) = foldBin .mul (.num 1) (fs.map sden) := by
  simp only [sden, para, paraL_eq, sdenAlg, List.map_map, Function.comp_def]
  rfl

theorem sden_fn (f : SFn) (args : List SExpr) : sden (.fn f args) = fnExpr f (args.map sden) := by
  simp only [sden, para, paraL_eq, sdenAlg, List.map_map, Function.comp_def]
  rfl

theorem sden_pow (b e : SExpr) : sden (.pow b e) =
    if isHalf e then .un .sqrt (sden b)
    else if isNegHalf e then .bin .div (.num 1) (.un .sqrt (sden b))
    else .bin .pow (sden b) (sden e) := by
  simp only [sden, para]; rfl

theorem evalProd_lit (env : Env) (n : Nat) :
    evalProd env (if n ≠ 1 then [Expr.num (n : Int)] else []) = some (((n : Nat) : Int) : Rat) := by
  by_cases h : n = 1
  · subst h; simp [evalProd]
  · simp [h, evalProd, eval, omul]

theorem mulNumE_cons (p : SExpr × SF) (rest : List (SExpr × SF)) :
    mulNumE (p :: rest) = mulNumE [p] ++ mulNumE rest := by
  obtain ⟨f, sf⟩ := p
  simp [mulNumE]

theorem mulDenE_cons (p : SExpr × SF) (rest : List (SExpr × SF)) :
    mulDenE (p :: rest) = mulDenE [p] ++ mulDenE rest := by
  obtain ⟨f, sf⟩ := p
  simp [mulDenE]

/-- one factor: its value is `± numerator entries / denominator entries` -/
theorem fac_rel {p : Prop} (env : Env) (f : SExpr) (h : ValueInv p env f)
    (hd : p → denNZf env f = true) :
    ValRel p (frac (sgnF f) (evalProd env (mulNumE [(f, sfOf f)])) (evalProd env (mulDenE [(f, sfOf f)])))
      (eval env (sden f)) := by
  have other : (mulNumE [(f, sfOf f)] = [(sfOf f).e]) → (mulDenE [(f, sfOf f)] = []) →
      sgnF f = false →
      ValRel p (frac (sgnF f) (evalProd env (mulNumE [(f, sfOf f)])) (evalProd env (mulDenE [(f, sfOf f)])))
        (eval env (sden f)) := by
    intro h1 h2 h3
    rw [h1, h2, h3]
    simp only [evalProd, frac_false_one]
    exact h.1
  cases f with
  | int z =>
    refine ValRel.of_eq ?_
    simp only [mulNumE, mulDenE, List.append_nil, sgnF, isNum, negCoeff, Bool.true_and, sden_int,
      evalProd_lit]
    simp only [eval, evalProd, frac, cast_natAbs]
    by_cases hz : z < 0 <;> simp [hz]
  | rat p' q =>
    refine ValRel.of_eq ?_
    simp only [mulNumE, mulDenE, List.append_nil, sgnF, isNum, negCoeff, Bool.true_and, sden_rat,
      evalProd_lit]
    simp only [eval, evalBin, frac, cast_natAbs]
    by_cases hq : q = 0
    · subst hq; simp
    · by_cases hz : p' < 0 <;> simp [hz, hq]
  | pow b x =>
    by_cases hn : negCoeff x = true
    · have := h.2.1 hn hd
      simp only [mulNumE, mulDenE, hn, if_true, List.append_nil, sgnF, isNum,
        Bool.false_and, evalProd, omul_one]
      exact this
    · have hn' : negCoeff x = false := by simpa using hn
      exact other (by simp [mulNumE, hn']) (by simp [mulDenE, hn']) rfl
  | sym x => exact other rfl rfl rfl
  | add ts => exact other rfl rfl rfl
  | mul gs => exact other rfl rfl rfl
  | fn g args => exact other rfl rfl rfl

theorem prod_rel {p : Prop} (env : Env) : ∀ fs : List SExpr,
    (∀ f ∈ fs, ValueInv p env f ∧ (p → denNZf env f = true)) →
    ValRel p (frac (sgnL fs) (evalProd env (mulNumE (sfL fs))) (evalProd env (mulDenE (sfL fs))))
      (evalProd env (fs.map sden))
  | [], _ => by simp [evalProd, sfL, mulNumE, mulDenE, sgnL, frac]; exact ValRel.refl _
  | f :: rest, h => by
    have ih := prod_rel env rest (fun g hg => h g (by simp [hg]))
    have h1 := fac_rel env f (h f (by simp)).1 (h f (by simp)).2
    have hs : sfL (f :: rest) = (f, sfOf f) :: sfL rest := rfl
    rw [hs, mulNumE_cons, mulDenE_cons, evalProd_append, evalProd_append, sgnL, ← frac_mul]
    simp only [List.map_cons, evalProd]
    exact omul_mono h1 ih

theorem sgnL_swf (f : SExpr) (rest : List SExpr) (h : ∀ g ∈ rest, isNum g = false) :
    sgnL (f :: rest) = negCoeff (.mul (f :: rest)) := by
  have hr : sgnL rest = false := by
    induction rest with
    | nil => rfl
    | cons g rest ih =>
      simp [sgnL, sgnF, h g (by simp), ih (fun x hx => h x (by simp [hx]))]
  cases f <;> simp [sgnL, sgnF, isNum, negCoeff, hr]

theorem denNZ_add (env : Env) (ts : List SExpr) : denNZ env (.add ts) = ts.all (denNZ env) := by
  simp only [denNZ, para, paraL_eq, denNZAlg, List.all_map, Function.comp_def]
  rfl

theorem denNZ_mul (env : Env) (fs : List SExpr) :
    denNZ env (.mul fs) = fs.all (fun g => denNZ env g && denNZf env g) := by
  simp only [denNZ, para, paraL_eq, denNZAlg, List.all_map, Function.comp_def]

theorem denNZ_pow (env : Env) (b e : SExpr) :
    denNZ env (.pow b e) = (denNZ env b && denNZ env e) := by
  simp [denNZ, para, denNZAlg]

theorem denNZ_fn (env : Env) (f : SFn) (args : List SExpr) :
    denNZ env (.fn f args) = args.all (denNZ env) := by
  simp only [denNZ, para, paraL_eq, denNZAlg, List.all_map, Function.comp_def]
  rfl

theorem vinv_mul {p : Prop} (env : Env) (f : SExpr) (rest : List SExpr)
    (hnum : ∀ g ∈ rest, isNum g = false) (ih : ∀ g ∈ f :: rest, ValueInv p env g)
    (hnz : p → ∀ g ∈ f :: rest, denNZf env g = true) : ValueInv p env (.mul (f :: rest)) := by
  have hsd : ValRel p (frac (negCoeff (.mul (f :: rest))) (evalProd env (mulNumE (sfL (f :: rest))))
      (evalProd env (mulDenE (sfL (f :: rest))))) (eval env (sden (.mul (f :: rest)))) := by
    rw [sden_mul, eval_foldBin_mul, ← sgnL_swf f rest hnum]
    exact prod_rel env (f :: rest) (fun g hg => ⟨ih g hg, fun hp => hnz hp g hg⟩)
  generalize f :: rest = fs at *
  refine ⟨?_, nofun, ?_⟩
  · rw [sf_mul, eval_mulBodyE]
    exact hsd
  · intro hn
    have generic : ValRel p (eval env (mulBodyE false (sfL fs)))
        ((eval env (sden (.mul fs))).map (fun v => -v)) := by
      rw [eval_mulBodyE, frac_neg]
      rw [hn] at hsd
      exact map_neg_mono hsd
    rw [sf_neg_mul]
    match fs, ih, generic with
    | [], _, g => exact g
    | [_], _, g => exact g
    | [c, y], ih, g =>
      by_cases hc : isNegOne c = true
      · simp only [hc, if_true]
        cases c with
        | int z =>
          have hz : z = -1 := by simpa [isNegOne] using hc
          subst hz
          refine ValRel.trans (ih y (by simp)).1 (ValRel.of_eq ?_)
          rw [sden_mul]
          simp only [List.map_cons, List.map_nil, foldBin, List.foldl_cons, List.foldl_nil,
            eval_mul, sden_int, eval_num]
          cases eval env (sden y) with
          | none => simp [omul]
          | some v => simp [omul]
        | _ => simp [isNegOne] at hc
      · have hc' : isNegOne c = false := by simpa using hc
        simp only [hc', Bool.false_eq_true, if_false]
        exact g
    | _ :: _ :: _ :: _, _, g => exact g

/-- the tree of a term whose text starts with `-`, after `_print_Add` removed that `-`, has the
    negated value -/
theorem strip_eval (env : Env) (s : SExpr) (hw : SWfX s) (hA : isAddS s = false) {r : List Tok}
    (hr : (tkOf s).toks = Tok.op .minus :: r) :
    eval env (stripNeg (sfOf s).e) = (eval env (sfOf s).e).map (fun v => -v) := by
  cases s with
  | int z =>
    rw [tk_int] at hr
    rw [sf_int]
    by_cases hz : z < 0
    · simp only [hz, decide_true, numE, if_true, stripNeg, eval, evalUn, Option.map_some, neg_neg]
    · simp [hz, ppNat] at hr
  | rat p q =>
    rw [tk_rat] at hr
    rw [sf_rat]
    by_cases hz : p < 0
    · simp only [hz, decide_true, numE, if_true, stripNeg, eval, evalUn, evalBin]
      split <;> simp [neg_div]
    · simp [hz, ppNat] at hr
  | sym x => cases hr
  | add ts => simp [isAddS] at hA
  | mul fs =>
    rw [tk_mul] at hr
    by_cases hn : negCoeff (.mul fs) = true
    · rw [sf_mul, hn, stripNeg_mulBodyE, eval_mulBodyE, eval_mulBodyE, frac_neg]
    · have hn' : negCoeff (.mul fs) = false := by simpa using hn
      simp only [hn', Bool.false_eq_true, if_false] at hr
      exact absurd hr (mulBody_head (lv := 50) (by omega) fs (facOk_of_swf fs hw) r)
  | pow b e => exact absurd hr (pow_head b e hw r)
  | fn f args =>
    rw [tk_fn] at hr
    simp [call] at hr

def signedTerm (s : SExpr) : Bool × Expr := addStepE (s, tkOf s) (s, sfOf s)

def TermOk (p : Prop) (env : Env) (s : SExpr) : Prop := ∀ acc1 acc2,
  ValRel p (eval env acc1) (eval env acc2) →
  ValRel p (eval env (.bin (if (signedTerm s).1 then .sub else .add) acc1 (signedTerm s).2))
    (eval env (.bin .add acc2 (sden s)))

theorem termOk {p : Prop} (env : Env) (s : SExpr) (hs : ValueInv p env s) (hw : SWfX s) :
    TermOk p env s := by
  intro acc1 acc2 hacc
  by_cases hA : isAddS s = true
  · simp only [signedTerm, addStepE_add hA, Bool.false_eq_true, if_false]
    exact eval_bin_mono env .add hacc hs.1
  · have hA' : isAddS s = false := by simpa using hA
    by_cases hm : ∃ r, (tkOf s).toks = Tok.op .minus :: r
    · obtain ⟨r, hr⟩ := hm
      have h1 := strip_eval env s hw hA' hr
      simp only [signedTerm, addStepE_minus hA' hr, if_true]
      -- subtracting the term without its sign is adding the term
      have heq : eval env (.bin .sub acc1 (stripNeg (sfOf s).e)) =
          eval env (.bin .add acc1 (sfOf s).e) := by
        simp only [eval, h1]
        cases eval env acc1 <;> cases eval env (sfOf s).e <;> simp [evalBin, sub_eq_add_neg]
      rw [heq]
      exact eval_bin_mono env .add hacc hs.1
    · have hm' : ∀ r, (tkOf s).toks ≠ Tok.op .minus :: r := fun r hr => hm ⟨r, hr⟩
      simp only [signedTerm, addStepE_other hA' hm', Bool.false_eq_true, if_false]
      exact eval_bin_mono env .add hacc hs.1

theorem add_fold {p : Prop} (env : Env) : ∀ (rest : List SExpr) (acc1 acc2 : Expr),
    ValRel p (eval env acc1) (eval env acc2) → (∀ s ∈ rest, TermOk p env s) →
    ValRel p (eval env ((rest.map signedTerm).foldl
        (fun acc mt => .bin (if mt.1 then .sub else .add) acc mt.2) acc1))
      (eval env ((rest.map sden).foldl (fun acc x => .bin .add acc x) acc2))
  | [], _, _, h, _ => by simpa using h
  | s :: rest, acc1, acc2, h, hs => by
    simp only [List.map_cons, List.foldl_cons]
    exact add_fold env rest _ _ (hs s (by simp) acc1 acc2 h) (fun t ht => hs t (by simp [ht]))

theorem vinv_add {p : Prop} (env : Env) (t : SExpr) (rest : List SExpr)
    (hw : ∀ s ∈ t :: rest, SWfX s) (ih : ∀ s ∈ t :: rest, ValueInv p env s) :
    ValueInv p env (.add (t :: rest)) := by
  refine ⟨?_, nofun, nofun⟩
  rw [sf_add, sden_add]
  simp only [addJoinE, foldBin, List.map_cons]
  exact add_fold env rest _ _ (ih t (by simp)).1
    (fun s hs => termOk env s (ih s (by simp [hs])) (hw s (by simp [hs])))

theorem foldl_mono {p : Prop} (env : Env) (o : BinOp) (g1 g2 : SExpr → Expr) :
    ∀ (l : List SExpr) (a1 a2 : Expr), ValRel p (eval env a1) (eval env a2) →
    (∀ a ∈ l, ValRel p (eval env (g1 a)) (eval env (g2 a))) →
    ValRel p (eval env ((l.map g1).foldl (fun acc x => .bin o acc x) a1))
      (eval env ((l.map g2).foldl (fun acc x => .bin o acc x) a2))
  | [], _, _, h, _ => by simpa using h
  | x :: l, a1, a2, h, hl => by
    simp only [List.map_cons, List.foldl_cons]
    exact foldl_mono env o g1 g2 l _ _ (eval_bin_mono env o h (hl x (by simp)))
      (fun a ha => hl a (by simp [ha]))

theorem fnExpr_mono {p : Prop} (env : Env) (f : SFn) (args : List SExpr) (g1 g2 : SExpr → Expr)
    (har : arityOk f args.length = true)
    (h : ∀ a ∈ args, ValRel p (eval env (g1 a)) (eval env (g2 a))) :
    ValRel p (eval env (fnExpr f (args.map g1))) (eval env (fnExpr f (args.map g2))) := by
  have many : ∀ (o : BinOp) (u : Expr), ValRel p (eval env (foldBin o u (args.map g1)))
      (eval env (foldBin o u (args.map g2))) := by
    intro o u
    match args, h with
    | [], _ => exact ValRel.refl _
    | a :: rest, h =>
      simp only [List.map_cons, foldBin]
      exact foldl_mono env o g1 g2 rest _ _ (h a (by simp)) (fun x hx => h x (by simp [hx]))
  cases f with
  | max => exact many .max _
  | min => exact many .min _
  | mod =>
    match args, har, h with
    | [a, b], _, h => exact eval_bin_mono env .mod (h a (by simp)) (h b (by simp))
  | floor =>
    match args, har, h with
    | [a], _, h => exact eval_un_mono env .floor (h a (by simp))
  | ceiling =>
    match args, har, h with
    | [a], _, h => exact eval_un_mono env .ceil (h a (by simp))
  | abs =>
    match args, har, h with
    | [a], _, h => exact eval_un_mono env .abs (h a (by simp))
  | sign =>
    match args, har, h with
    | [a], _, h => exact eval_un_mono env .sign (h a (by simp))

theorem vinv_fn {p : Prop} (env : Env) (f : SFn) (args : List SExpr)
    (har : arityOk f args.length = true) (ih : ∀ a ∈ args, ValueInv p env a) :
    ValueInv p env (.fn f args) := by
  refine ⟨?_, nofun, nofun⟩
  rw [sf_fn, sden_fn]
  exact fnExpr_mono env f args _ _ har (fun a ha => (ih a ha).1)

/-- `ratPow` is the integer power of the field wherever that is a finite rational -/
theorem ratPow_eq (x v : Rat) :
    ratPow x v = if v.den = 1 ∧ (x ≠ 0 ∨ 0 ≤ v.num) then some (x ^ v.num) else none := by
  unfold ratPow
  by_cases hd : v.den = 1
  · by_cases hn : 0 ≤ v.num
    · obtain ⟨k, hk⟩ := Int.eq_ofNat_of_zero_le hn
      simp [hd, hk]
    · obtain ⟨k, hk⟩ : ∃ k : Nat, v.num = -(k : Int) := ⟨(-v.num).toNat, by omega⟩
      have hk0 : k ≠ 0 := by omega
      by_cases hx : x = 0 <;> simp [hd, hk, hk0, hx]
  · simp [hd]

/-- `b**v` against `1 / b**(-v)`: never another value, and the same when `v < 0` or `b ≠ 0` -/
theorem ratPow_inv_rel {p : Prop} (x v : Rat) (h : p → v < 0 ∨ x ≠ 0) :
    ValRel p (frac false (some 1) (ratPow x (-v))) (ratPow x v) := by
  rw [ratPow_eq, ratPow_eq, Rat.den_neg_eq_den, Rat.num_neg_eq_neg_num]
  by_cases hd : v.den = 1
  · by_cases hx : x = 0
    · subst hx
      rcases lt_trichotomy v.num 0 with hn | hn | hn
      · have h1 : (0 : Rat) ^ (-v.num) = 0 := zero_zpow _ (by omega)
        have h2 : ¬ 0 ≤ v.num := by omega
        refine ValRel.of_eq ?_
        simp [hd, hn.le, h1, h2, frac]
      · refine ValRel.of_eq ?_
        simp [hd, hn, frac]
      · -- `0 ** v` is `0` but `1 / 0 ** (-v)` has no value: the case the hypothesis excludes
        have h2 : ¬ v.num ≤ 0 := by omega
        simp only [hd, h2, ne_eq, not_true_eq_false, Left.nonneg_neg_iff, or_self, and_false,
          if_false, frac]
        exact ValRel.none (fun hp => (h hp).elim (fun hv => h2 (Rat.num_neg.mpr hv).le)
          (fun hx => hx rfl)) _
    · have h1 : x ^ v.num ≠ 0 := zpow_ne_zero _ hx
      refine ValRel.of_eq ?_
      simp [hd, hx, frac, h1, zpow_neg]
  · refine ValRel.of_eq ?_
    simp [hd, frac]

theorem den_negone (x : Rat) : ratPow x (((-1 : Int)) : Rat) = frac false (some 1) (some x) := by
  rw [ratPow_eq]
  by_cases hx : x = 0 <;> simp [hx, frac]

theorem eval_div (env : Env) (a b : Expr) : eval env (.bin .div a b) =
    match eval env a, eval env b with
    | some x, some y => if y = 0 then none else some (x / y)
    | _, _ => none := by
  simp only [eval]
  cases eval env a <;> cases eval env b <;> simp [evalBin]

theorem eval_numE (env : Env) (z : Int) :
    eval env (numE (decide (z < 0)) z.natAbs) = some (z : Rat) := by
  by_cases hz : z < 0 <;> simp only [numE, hz, decide_true, decide_false, if_true, eval, evalUn,
    cast_natAbs, if_false, neg_neg, Bool.false_eq_true]

theorem eval_pow (env : Env) (a b : Expr) : eval env (.bin .pow a b) =
    match eval env a, eval env b with
    | some x, some y => ratPow x y
    | _, _ => none := by
  simp only [eval]
  cases eval env a <;> cases eval env b <;> simp [evalBin]

theorem pow_negone_eq (env : Env) (X : Expr) :
    eval env (.bin .pow X (.num (-1))) = eval env (.bin .div (.num 1) X) := by
  rw [eval_pow, eval_div, eval_num, eval_num]
  cases eval env X with
  | none => rfl
  | some x =>
    simp only []
    rw [den_negone x]
    simp [frac]

theorem frac_one_eq_div (env : Env) (X : Expr) :
    frac false (some 1) (eval env X) = eval env (.bin .div (.num 1) X) := by
  rw [eval_div, eval_num]
  cases eval env X <;> simp [frac]

theorem lit_neg_value (env : Env) {e : SExpr} (hl : litExp e = true) (hn : negCoeff e = true)
    {v : Rat} (hv : eval env (sden e) = some v) : v < 0 := by
  cases e with
  | int z =>
    have hz : z < 0 := by simpa [negCoeff] using hn
    simp only [sden_int, eval_num, Option.some.injEq] at hv
    rw [← hv]; exact_mod_cast hz
  | rat p q =>
    have hp : p < 0 := by simpa [negCoeff] using hn
    rw [sden_rat, eval_div, eval_num, eval_num] at hv
    by_cases hq : q = 0
    · simp [hq] at hv
    · have hq' : ((q : Int) : Rat) ≠ 0 := by exact_mod_cast hq
      simp only [hq', if_false, Option.some.injEq] at hv
      have hq0 : (0 : Rat) < ((q : Int) : Rat) :=
        lt_of_le_of_ne (by exact_mod_cast Int.natCast_nonneg q) (Ne.symm hq')
      rw [← hv]
      exact div_neg_of_neg_of_pos (by exact_mod_cast hp) hq0
  | _ => simp [litExp] at hl

theorem denNZf_pow {env : Env} {b e : SExpr} (hn : negCoeff e = true)
    (h : denNZf env (.pow b e) = true) : litExp e = true ∨ eval env (sden b) ≠ some 0 := by
  simpa [denNZf, hn] using h

theorem vinv_pow {p : Prop} (env : Env) (b e : SExpr) (hb : ValueInv p env b) (he : ValueInv p env e) :
    ValueInv p env (.pow b e) := by
  have hsq : ValRel p (eval env (.un .sqrt (sfOf b).e)) (eval env (.un .sqrt (sden b))) :=
    eval_un_mono env .sqrt hb.1
  have hone : ValRel p (eval env (Expr.num 1)) (eval env (Expr.num 1)) := ValRel.refl _
  refine ⟨?_, ?_, nofun⟩
  · rw [sf_pow, sden_pow]
    cases expView e with
    | half => exact hsq
    | negHalf => exact eval_bin_mono env .div hone hsq
    | negOne =>
      show ValRel p (eval env (.bin .div (.num 1) (sfOf b).e))
        (eval env (.bin .pow (sden b) (.num (-1))))
      rw [pow_negone_eq]
      exact eval_bin_mono env .div hone hb.1
    | other h0 h2 h1 =>
      simp only [h0, h2, h1, Bool.false_eq_true, if_false]
      exact eval_bin_mono env .pow hb.1 he.1
  · intro hn hside
    rw [sf_den, sden_pow]
    cases expView e with
    | half => cases hn
    | negHalf =>
      show ValRel p (frac false (some 1) (eval env (.un .sqrt (sfOf b).e)))
        (eval env (.bin .div (.num 1) (.un .sqrt (sden b))))
      rw [← frac_one_eq_div]
      exact frac_mono (ValRel.refl _) hsq
    | negOne =>
      show ValRel p (frac false (some 1) (eval env (sfOf b).e))
        (eval env (.bin .pow (sden b) (.num (-1))))
      rw [pow_negone_eq, ← frac_one_eq_div]
      exact frac_mono (ValRel.refl _) hb.1
    | other h0 h2 h1 =>
      simp only [h0, h1, h2, Bool.false_eq_true, if_false]
      -- the entry is `b ** (-e)`, by the third clause for the exponent
      have hden : ValRel p (eval env (.bin .pow (sfOf b).e (sfOf e).neg))
          (evalBinO .pow (eval env (sden b)) ((eval env (sden e)).map (fun v => -v))) := by
        rw [eval_bin_eq]
        exact evalBinO_mono .pow hb.1 (he.2.2 hn)
      refine ValRel.trans (frac_mono (ValRel.refl _) hden) ?_
      rw [eval_pow]
      cases hbv : eval env (sden b) with
      | none => exact ValRel.refl _
      | some bv =>
        cases hev : eval env (sden e) with
        | none => exact ValRel.refl _
        | some v =>
          refine ratPow_inv_rel bv v (fun hp => ?_)
          rcases denNZf_pow hn (hside hp) with hl | hnz
          · exact Or.inl (lit_neg_value env hl hn hev)
          · exact Or.inr (fun h0 => hnz (by rw [hbv, h0]))

theorem eval_numE_pos (env : Env) (z : Int) (hz : z < 0) :
    eval env (numE (decide (0 < z)) z.natAbs) = some (-(z : Rat)) := by
  have h : ¬ (0 < z) := by omega
  simp only [numE, h, decide_false, Bool.false_eq_true, if_false, eval, cast_natAbs, hz, if_true]

theorem vinv_int {p : Prop} (env : Env) (z : Int) : ValueInv p env (.int z) := by
  refine ⟨ValRel.of_eq ?_, nofun, fun hn => ValRel.of_eq ?_⟩
  · simp only [sfOf, para, surfAlg, sden_int, eval_numE, eval]
  · have hz : z < 0 := by simpa [negCoeff] using hn
    simp only [sfOf, para, surfAlg, sden_int, eval_numE_pos env z hz, eval_num, Option.map]

theorem vinv_rat {p : Prop} (env : Env) (p' : Int) (q : Nat) : ValueInv p env (.rat p' q) := by
  refine ⟨ValRel.of_eq ?_, nofun, fun hn => ValRel.of_eq ?_⟩
  · simp only [sfOf, para, surfAlg, sden_rat, eval_div, eval_numE, eval]
  · have hp : p' < 0 := by simpa [negCoeff] using hn
    simp only [sfOf, para, surfAlg, sden_rat, eval_div, eval_numE_pos env p' hp, eval_num]
    by_cases hq : q = 0
    · simp [hq]
    · simp [hq, neg_div]

theorem vinv_all {p : Prop} (env : Env) :
    ∀ s, SWfX s → (p → denNZ env s = true) → ValueInv p env s := by
  refine SWfX.ind (fun z _ => vinv_int env z) (fun p' q _ => vinv_rat env p' q) ?_ ?_ ?_ ?_ ?_
  · exact fun x _ =>
      ⟨ValRel.refl _, nofun, nofun⟩
  · intro t rest hw ih hnz
    simp only [denNZ_add, List.all_eq_true] at hnz
    exact vinv_add env t rest hw (fun a ha => ih a ha (fun hp => hnz hp a ha))
  · intro f rest _ hnum ih hnz
    simp only [denNZ_mul, List.all_eq_true, Bool.and_eq_true] at hnz
    exact vinv_mul env f rest hnum (fun a ha => ih a ha (fun hp => (hnz hp a ha).1))
      (fun hp a ha => (hnz hp a ha).2)
  · intro b e _ ihb ihe hnz
    simp only [denNZ_pow, Bool.and_eq_true] at hnz
    exact vinv_pow env b e (ihb (fun hp => (hnz hp).1)) (ihe (fun hp => (hnz hp).2))
  · intro f args har ih hnz
    simp only [denNZ_fn, List.all_eq_true] at hnz
    exact vinv_fn env f args har (fun a ha => ih a ha (fun hp => hnz hp a ha))

theorem denOk_denNZf (env : Env) (g : SExpr) (h : denOk g = true) : denNZf env g = true := by
  cases g with
  | pow b e =>
    simp only [denOk, Bool.or_eq_true] at h
    simp only [denNZf, Bool.or_eq_true]
    exact Or.inl h
  | _ => rfl

theorem swf_denNZ (env : Env) : ∀ s, SWf s → denNZ env s = true := by
  apply SExpr.ind
  · intro z _; rfl
  · intro p q _; rfl
  · intro x _; rfl
  · intro ts ih hw
    simp only [SWf, swf_add, Bool.and_eq_true, List.all_eq_true] at hw
    simp only [denNZ_add, List.all_eq_true]
    exact fun a ha => ih a ha (hw.2 a ha)
  · intro fs ih hw
    simp only [SWf, swf_mul, Bool.and_eq_true, List.all_eq_true, Bool.not_eq_true'] at hw
    simp only [denNZ_mul, List.all_eq_true, Bool.and_eq_true]
    intro a ha
    exact ⟨ih a ha (hw.1 a ha).1.1, denOk_denNZf env a (hw.1 a ha).1.2⟩
  · intro b e ihb ihe hw
    simp only [SWf, swf_pow, Bool.and_eq_true] at hw
    simp only [denNZ_pow, Bool.and_eq_true]
    exact ⟨ihb hw.1.1, ihe hw.1.2⟩
  · intro f args ih hw
    simp only [SWf, swf_fn, Bool.and_eq_true, List.all_eq_true] at hw
    simp only [denNZ_fn, List.all_eq_true]
    exact fun a ha => ih a ha (hw.1 a ha)

/-- The tree the parser returns on SymPy's text has the value of the SymPy object's meaning
    (`none` = no value on both sides) under every binding that makes no denominator with a
    symbolic exponent vanish. -/
theorem eval_surfX (s : SExpr) (h : SWfX s) (env : Env) (hnz : denNZ env s = true) :
    eval env (surf s) = eval env (sden s) :=
  (vinv_all (p := True) env s h (fun _ => hnz)).1.2 trivial

theorem eval_surf (s : SExpr) (h : SWf s) (env : Env) : eval env (surf s) = eval env (sden s) :=
  eval_surfX s (swf_imp_swfX s h) env (swf_denNZ env s h)

/-- Under EVERY binding, whenever the tree the parser returns on SymPy's text has a value, it is
    the value of the SymPy object's meaning: the text is never mis-read, it can only lose its value
    where a denominator with a symbolic exponent has a zero base. -/
theorem surf_refines (s : SExpr) (h : SWfX s) (env : Env) (v : Rat)
    (hv : eval env (surf s) = some v) : eval env (sden s) = some v :=
  (vinv_all (p := False) env s h (fun hp => hp.elim)).1.1 v hv

end IrVerif.SymExpr
