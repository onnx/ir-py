/-
The association between source values and round-tripped values, and the scope table it induces.
-/
import IrVerif.Lemmas.ScopeRT
namespace IrVerif.Scope

abbrev Assoc := List (Nat × Nat)

/-- the round-tripped id of source value `v` -/
def sig (A : Assoc) (v : Nat) : Nat := (A.lookup v).getD 0

theorem lookup_isSome_of_mem_keys {A : Assoc} {v : Nat} (h : v ∈ A.map (·.1)) : ∃ d, A.lookup v = some d :=
  Option.isSome_iff_exists.mp (ListFacts.lookup_isSome_iff.mpr h)

theorem lookup_none_of_not_mem_keys {A : Assoc} {v : Nat} (h : v ∉ A.map (·.1)) : A.lookup v = none :=
  ListFacts.lookup_none_iff.mpr fun d hm => h (List.mem_map_of_mem (f := (·.1)) hm)

theorem sig_append_of_mem {A B : Assoc} {v : Nat} (h : v ∈ A.map (·.1)) : sig (A ++ B) v = sig A v := by
  obtain ⟨d, hd⟩ := lookup_isSome_of_mem_keys h
  simp [sig, ListFacts.lookup_append_some hd, hd]

theorem mem_keys_append {A B : Assoc} {v : Nat} (h : v ∈ A.map (·.1)) : v ∈ (A ++ B).map (·.1) := by
  rw [List.map_append]
  exact List.mem_append_left _ h

theorem mem_keys_snoc {A : Assoc} {v d : Nat} : v ∈ (A ++ [(v, d)]).map (·.1) := by
  rw [List.map_append]
  exact List.mem_append_right _ List.mem_cons_self

theorem sig_append_single {A : Assoc} {v d : Nat} (h : v ∉ A.map (·.1)) : sig (A ++ [(v, d)]) v = d := by
  simp [sig, List.lookup_append, lookup_none_of_not_mem_keys h]

theorem not_mem_keys_snoc {A : Assoc} {v d : Nat} {rest : List Nat} (hA : ∀ w ∈ v :: rest, w ∉ A.map (·.1))
    (hv : v ∉ rest) : ∀ w ∈ rest, w ∉ (A ++ [(v, d)]).map (·.1) := fun w hw hm => by
  simp only [List.map_append, List.map_cons, List.map_nil, List.mem_append, List.mem_singleton] at hm
  rcases hm with hm | rfl
  · exact hA w (List.mem_cons_of_mem _ hw) hm
  · exact hv hw

/-! ### the table induced by an association -/

/-- the scope entry of source value `v`: values with an empty name are never bound -/
def entryOf (V : Nat → ValueS) (A : Assoc) (v : Nat) : Option (Name × Nat) :=
  if nameTruthy (V v).name then some (nm V v, sig A v) else none

/-- the scope after the definitions `P` were processed in this order (newest first) -/
def tableOf (V : Nat → ValueS) (A : Assoc) (P : List Nat) : Table := (P.filterMap (entryOf V A)).reverse

theorem tableOf_append (V : Nat → ValueS) (A : Assoc) (P Q : List Nat) :
    tableOf V A (P ++ Q) = tableOf V A Q ++ tableOf V A P := by
  simp [tableOf, List.filterMap_append, List.reverse_append]

theorem tableOf_cons (V : Nat → ValueS) (A : Assoc) (v : Nat) (P : List Nat) :
    tableOf V A (v :: P) = tableOf V A P ++ (entryOf V A v).toList := by
  simp only [tableOf, List.filterMap_cons]
  cases h : entryOf V A v <;> simp

/-- only the images of values with a usable name matter for the induced table -/
theorem tableOf_congr (V : Nat → ValueS) (A B : Assoc) (P : List Nat)
    (h : ∀ v ∈ P, nameTruthy (V v).name = true → sig A v = sig B v) : tableOf V A P = tableOf V B P := by
  induction P with
  | nil => rfl
  | cons v P ih =>
    rw [tableOf_cons, tableOf_cons, ih (fun w hw => h w (List.mem_cons_of_mem _ hw))]
    by_cases ht : nameTruthy (V v).name = true
    · simp [entryOf, ht, h v List.mem_cons_self ht]
    · simp [entryOf, ht]

theorem tableOf_extend (V : Nat → ValueS) (A B : Assoc) (P : List Nat) (h : ∀ v ∈ P, v ∈ A.map (·.1)) :
    tableOf V (A ++ B) P = tableOf V A P :=
  tableOf_congr V _ _ P (fun v hv _ => sig_append_of_mem (h v hv))

/-! ### the state of a round-trip run -/

/-- `A` relates source values to allocated cells of `s` carrying the same name; it is kept in creation order, new pairs
    are appended (the `sig_append_*` lemmas rely on it) -/
structure RS (V : Nat → ValueS) (s : Store) (A : Assoc) : Prop where
  keys_nodup : (A.map (·.1)).Nodup
  vals_lt : ∀ e ∈ A, e.2 < s.nv
  vals_nodup : (A.map (·.2)).Nodup
  names : ∀ e ∈ A, (s.vals e.2).name = (V e.1).name

theorem RS.empty {V : Nat → ValueS} {s : Store} : RS V s [] :=
  ⟨by simp, fun _ he => by simp at he, by simp, fun _ he => by simp at he⟩

theorem RS.sig_lt {V : Nat → ValueS} {s : Store} {A : Assoc} (h : RS V s A) {v : Nat}
    (hv : v ∈ A.map (·.1)) : sig A v < s.nv := by
  obtain ⟨d, hd⟩ := lookup_isSome_of_mem_keys hv
  have := h.vals_lt _ (ListFacts.mem_of_lookup hd)
  simpa [sig, hd] using this

theorem RS.sig_name {V : Nat → ValueS} {s : Store} {A : Assoc} (h : RS V s A) {v : Nat}
    (hv : v ∈ A.map (·.1)) : (s.vals (sig A v)).name = (V v).name := by
  obtain ⟨d, hd⟩ := lookup_isSome_of_mem_keys hv
  have := h.names _ (ListFacts.mem_of_lookup hd)
  simpa [sig, hd] using this

theorem RS.sig_inj {V : Nat → ValueS} {s : Store} {A : Assoc} (h : RS V s A) {a b : Nat}
    (ha : a ∈ A.map (·.1)) (hb : b ∈ A.map (·.1)) (he : sig A a = sig A b) : a = b := by
  obtain ⟨da, hda⟩ := lookup_isSome_of_mem_keys ha
  obtain ⟨db, hdb⟩ := lookup_isSome_of_mem_keys hb
  simp only [sig, hda, hdb, Option.getD_some] at he
  subst he
  exact ListFacts.vals_unique h.vals_nodup (ListFacts.mem_of_lookup hda) (ListFacts.mem_of_lookup hdb)

theorem RS.sig_ne_of_not_mem {V : Nat → ValueS} {s : Store} {A : Assoc} (h : RS V s A) {l : List Nat} {w : Nat}
    (hl : ∀ x ∈ l, x ∈ A.map (·.1)) (hw : w ∈ A.map (·.1)) (hm : w ∉ l) : ∀ x ∈ l, sig A x ≠ sig A w :=
  fun x hx e => hm (h.sig_inj (hl x hx) hw e ▸ hx)

theorem RS.alloc {V : Nat → ValueS} {s : Store} {A : Assoc} (h : RS V s A) (v : Nat) (c : ValueS)
    (hv : v ∉ A.map (·.1)) (hc : c.name = (V v).name) : RS V (s.alloc c).1 (A ++ [(v, s.nv)]) where
  keys_nodup := by
    simp only [List.map_append, List.map_cons, List.map_nil]
    rw [List.nodup_append]
    exact ⟨h.keys_nodup, by simp, fun a ha b hb hab => by
      simp only [List.mem_singleton] at hb; subst hb; subst hab; exact hv ha⟩
  vals_lt := fun e he => by
    simp only [List.mem_append, List.mem_singleton] at he
    rcases he with he | rfl
    · have := h.vals_lt e he; simp; omega
    · simp
  vals_nodup := by
    simp only [List.map_append, List.map_cons, List.map_nil]
    rw [List.nodup_append]
    refine ⟨h.vals_nodup, by simp, fun a ha b hb hab => ?_⟩
    simp only [List.mem_singleton] at hb; subst hb; subst hab
    simp only [List.mem_map] at ha
    obtain ⟨e, he, heq⟩ := ha
    have := h.vals_lt e he
    omega
  names := fun e he => by
    simp only [List.mem_append, List.mem_singleton] at he
    rcases he with he | rfl
    · rw [alloc_vals_lt _ _ (h.vals_lt e he)]; exact h.names e he
    · simp [hc]

theorem RS.step {V : Nat → ValueS} {s s' : Store} {A : Assoc} (h : RS V s A) (hle : s.nv ≤ s'.nv)
    (hn : ∀ v, v < s.nv → (s'.vals v).name = (s.vals v).name) : RS V s' A where
  keys_nodup := h.keys_nodup
  vals_lt := fun e he => Nat.lt_of_lt_of_le (h.vals_lt e he) hle
  vals_nodup := h.vals_nodup
  names := fun e he => by rw [hn _ (h.vals_lt e he)]; exact h.names e he

theorem RS.same_nv {V : Nat → ValueS} {s s' : Store} {A : Assoc} (h : RS V s A) (hnv : s'.nv = s.nv)
    (hn : ∀ v, (s'.vals v).name = (s.vals v).name) : RS V s' A :=
  h.step (by rw [hnv]; exact Nat.le_refl _) (fun v _ => hn v)

theorem RS.alloc_named {V : Nat → ValueS} {s : Store} {A : Assoc} (h : RS V s A) (vi : List (Name × Info)) {v : Nat}
    {x : Name} (hv : v ∉ A.map (·.1)) (hx : (V v).name = some x) : RS V (newNamed s vi x) (A ++ [(v, s.nv)]) := by
  have h1 := h.alloc v { name := some x } hv (by simp [hx])
  unfold newNamed
  split
  · exact h1.same_nv rfl fun w => by rw [modify_vals]; split <;> rfl
  · exact h1

theorem sig_zip (A : Assoc) :
    ∀ (vs ds : List Nat), vs.length = ds.length → vs.Nodup → (∀ v ∈ vs, v ∉ A.map (·.1)) →
      vs.map (sig (A ++ vs.zip ds)) = ds := by
  intro vs
  induction vs generalizing A with
  | nil =>
    intro ds hl _ _
    cases ds with
    | nil => rfl
    | cons d ds => simp at hl
  | cons v rest ih =>
    intro ds hl hnd hA
    cases ds with
    | nil => simp at hl
    | cons d ds =>
      simp only [List.nodup_cons] at hnd
      simp only [List.length_cons, Nat.add_right_cancel_iff] at hl
      have hAv := hA v List.mem_cons_self
      have e : A ++ (v :: rest).zip (d :: ds) = (A ++ [(v, d)]) ++ rest.zip ds := by simp
      rw [e]
      simp only [List.map_cons]
      congr 1
      · rw [sig_append_of_mem mem_keys_snoc, sig_append_single hAv]
      · exact ih (A ++ [(v, d)]) ds hl hnd.2 (not_mem_keys_snoc hA hnd.1)

theorem keys_zip (vs ds : List Nat) (hl : vs.length = ds.length) : (vs.zip ds).map (·.1) = vs :=
  List.map_fst_zip (Nat.le_of_eq hl)

end IrVerif.Scope
