/-
The stages and hooks of a pass pipeline (Model/Clone2.lean) are histories of `Edit2` calls: each
keeps the frame invariant of a region that its edits' arguments avoid.
-/
import IrVerif.Model.Clone2
import IrVerif.Lemmas.CloneFrame2
namespace IrVerif.Clone

theorem rewrapModel_frame {B : Nat → Prop} {wB : World} {s : St} (header m : Nat)
    (hI : FInv true true B wB s) :
    FGoodAt true true B wB (rewrapModel header m) s (fun _ _ => True) := by
  refine Hoare.frame ?_ hI
  unfold rewrapModel
  hbind Hoare.readModel with ms s1 - - hq1
  hbind (show Hoare (frameL true true B wB) (copyProps ms.props) s1 (fun r _ => ¬ B r) by
    unfold copyProps
    hbind Hoare.readDict with d s2 - - hq2
    exact (falloc_good (c := .dict { data := d.data, invalid := [] }) trivial).mono
      (fun _ _ _ _ h => h.1)) with pr s2 - - hpr
  hbind (falloc_good (c := .dict {}) trivial) with me s3 - - hme
  exact (falloc_good (c := .model ⟨ms.graph, ms.funcs, header, ms.dev, pr, me⟩) ⟨hpr, hme.1⟩).mono
    (fun _ _ _ _ _ => trivial)

theorem callChecked_snd (d : Decl) (m : Nat) (r : Except Err Nat × World) : (callChecked d m r).2 = r.2 := by
  rcases r with ⟨x, w⟩
  cases x with
  | error e => rfl
  | ok m1 =>
    simp only [callChecked]
    split
    · rfl
    · split <;> rfl

theorem stageCall_inv {B : Nat → Prop} {wB : World} (st : Stage) (m : Nat) (w : World)
    (hI : FInv true true B wB { w := w }) (ha : ∀ e ∈ st.edits m w, ArgsOut2 B e) :
    FInv true true B wB { w := (stageCall st m w).2 } := by
  have hed := runHistory2_inv (strict := true) (st.edits m w) w hI ha
  unfold stageCall
  cases st with
  | inPlace edits => exact hed
  | rewrap edits header =>
    simp only [Stage.edits] at hed
    have := (rewrapModel_frame header m hed).1
    simp only [run]
    exact this.restart

theorem runStage_eq (d : Decl) (st : Stage) (m : Nat) (w : World) :
    runStage d st m w = callChecked d m (stageCall st m w) := by
  cases st <;> rfl

theorem runStages_inv {B : Nat → Prop} {wB : World} :
    ∀ (ps : List (Decl × Stage)) (m : Nat) (w : World), FInv true true B wB { w := w } →
      (∀ p ∈ ps, ∀ m' w1, ∀ e ∈ p.2.edits m' w1, ArgsOut2 B e) →
      FInv true true B wB { w := (runStages ps m w).2 }
  | [], _, _, h, _ => h
  | p :: rest, m, w, h, ha => by
    have hst := stageCall_inv p.2 m w h (ha p List.mem_cons_self m w)
    rw [← callChecked_snd p.1 m, ← runStage_eq] at hst
    unfold runStages
    rcases hr : runStage p.1 p.2 m w with ⟨x, w1⟩
    rw [hr] at hst
    cases x with
    | error e => exact hst
    | ok m1 => exact runStages_inv rest m1 w1 hst (fun q hq => ha q (List.mem_cons_of_mem _ hq))

theorem runHook_snd (why : String) (h : Hook) (m : Nat) (w : World) :
    (runHook why h m w).2 = (runHistory2 (h.edits m w) w).2 := by
  unfold runHook; split <;> rfl

theorem runHook_inv {B : Nat → Prop} {wB : World} (why : String) (h : Hook) (m : Nat) (w : World)
    (hI : FInv true true B wB { w := w }) (ha : ∀ e ∈ h.edits m w, ArgsOut2 B e) :
    FInv true true B wB { w := (runHook why h m w).2 } := by
  rw [runHook_snd]; exact runHistory2_inv (strict := true) _ w hI ha

end IrVerif.Clone
