/-
Helper lemmas for C07 (shard file names): decimal padding is injective; `posixSplit_join`; what
the suffix-peeling loop guarantees (`PeelSpec`); `shardBasename_injective2`.  Core Lean only.
-/
import IrVerif.Lemmas.Layout
namespace IrVerif.Layout

/-! ### decimal digits -/

/-- value of a digit string (what `int(s)` computes for ASCII digits) -/
def valOf (l : List Char) : Nat := l.foldl (fun a c => a * 10 + (c.toNat - 48)) 0

theorem digitChar_val : ∀ d, d < 10 → (Char.ofNat (48 + d)).toNat - 48 = d := by decide

theorem digitsAux_val (fuel n : Nat) (acc : List Char) (h : n < 10 ^ fuel) :
    (digitsAux fuel n acc).foldl (fun a c => a * 10 + (c.toNat - 48)) 0 =
      acc.foldl (fun a c => a * 10 + (c.toNat - 48)) n := by
  induction fuel generalizing n acc with
  | zero =>
    have : n = 0 := by simp at h; omega
    subst this; rfl
  | succ fuel ih =>
    simp only [digitsAux]
    have hd := digitChar_val (n % 10) (Nat.mod_lt _ (by decide))
    split
    · rename_i h0
      simp only [List.foldl_cons, hd]
      have : n % 10 = n := by omega
      rw [this]; simp
    · rename_i h0
      rw [ih]
      · simp only [List.foldl_cons, hd]
        have : n / 10 * 10 + n % 10 = n := by omega
        rw [this]
      · rw [Nat.pow_succ] at h
        omega

theorem valOf_digits (n : Nat) : valOf (digits n) = n := by
  unfold valOf digits
  rw [digitsAux_val]
  · rfl
  · exact Nat.lt_of_lt_of_le (Nat.lt_pow_self (by decide)) (Nat.pow_le_pow_right (by decide) (by omega))

theorem valOf_zeros (k : Nat) (l : List Char) : valOf (List.replicate k '0' ++ l) = valOf l := by
  unfold valOf
  rw [List.foldl_append]
  have : (List.replicate k '0').foldl (fun a c => a * 10 + (c.toNat - 48)) 0 = 0 := by
    induction k with
    | zero => rfl
    | succ k ih => simpa [List.replicate_succ] using ih
  rw [this]

theorem valOf_pad5 (n : Nat) : valOf (pad5 n) = n := by
  unfold pad5; simp only []; rw [valOf_zeros, valOf_digits]

theorem pad5_injective {i j : Nat} (h : pad5 i = pad5 j) : i = j := by
  have := congrArg valOf h
  simpa [valOf_pad5] using this

/-! ### file name decomposition -/

theorem splitext_append (p : List Char) : (splitext p).1 ++ (splitext p).2 = p := by
  unfold splitext
  simp only []
  split
  · split
    · simp
    · simp
  · simp

/-- the file-name part of a shard name, for a file name `filename` -/
def shardBasename (filename : List Char) (idx total : Nat) (sc : Option Nat) : List Char :=
  let r := peelSuffixes (filename.length + 1) sc filename []
  r.1 ++ '-' :: pad5 idx ++ "-of-".toList ++ pad5 total ++ r.2.reverse.flatten

theorem shardFilename_eq (base : List Char) (idx total : Nat) (sc : Option Nat) (h : total ≠ 1) :
    shardFilename base idx total sc =
      if (posixSplit base).1 ≠ [] then
        posixJoin (posixSplit base).1 (shardBasename (posixSplit base).2 idx total sc)
      else shardBasename (posixSplit base).2 idx total sc := by
  unfold shardFilename shardBasename
  simp [h]

theorem shardBasename_head (filename : List Char) (total : Nat) (sc : Option Nat) (i j : Nat) :
    (shardBasename filename i total sc).head? = (shardBasename filename j total sc).head? := by
  unfold shardBasename
  simp only []
  cases (peelSuffixes (filename.length + 1) sc filename []).1 <;> simp

theorem posixJoin_injective (a : List Char) {b c : List Char} (hh : b.head? = c.head?)
    (h : posixJoin a b = posixJoin a c) : b = c := by
  unfold posixJoin at h
  rw [hh] at h
  split at h
  · exact h
  · split at h
    · exact List.append_cancel_left h
    · have := List.append_cancel_left h
      simpa using this

/-! ### the directory of a shard name -/

theorem rfindSucc_eq_zero (c : Char) (l : List Char) : rfindSucc c l = 0 ↔ c ∉ l := by
  induction l with
  | nil => simp [rfindSucc]
  | cons x xs ih =>
    simp only [rfindSucc, List.mem_cons, not_or]
    by_cases hr : rfindSucc c xs > 0
    · simp only [hr, if_true]
      constructor
      · intro h; omega
      · intro h; exact absurd (ih.mpr h.2) (by omega)
    · have h0 : rfindSucc c xs = 0 := by omega
      simp only [hr, if_false]
      by_cases hx : x = c
      · simp [hx]
      · simp only [hx, if_false, true_iff]
        exact ⟨fun h => hx h.symm, ih.mp h0⟩

theorem not_mem_drop_rfindSucc (c : Char) (l : List Char) : c ∉ l.drop (rfindSucc c l) := by
  induction l with
  | nil => simp [rfindSucc]
  | cons x xs ih =>
    simp only [rfindSucc]
    by_cases hr : rfindSucc c xs > 0
    · simpa [hr] using ih
    · have h0 : rfindSucc c xs = 0 := by omega
      have hx' := (rfindSucc_eq_zero c xs).mp h0
      by_cases hx : x = c
      · simpa [hr, hx] using hx'
      · simp only [hr, hx, if_false, List.drop_zero, List.mem_cons, not_or]
        exact ⟨fun h => hx h.symm, hx'⟩

theorem rfindSucc_append_cons (c : Char) (a b : List Char) (hb : c ∉ b) :
    rfindSucc c (a ++ c :: b) = a.length + 1 := by
  induction a with
  | nil => simp [rfindSucc, (rfindSucc_eq_zero c b).mpr hb]
  | cons y a ih => simp [rfindSucc, ih]

theorem digitsAux_mem (fuel n : Nat) (acc : List Char) :
    ∀ c ∈ digitsAux fuel n acc, c ∈ acc ∨ ∃ d, d < 10 ∧ c = Char.ofNat (48 + d) := by
  induction fuel generalizing n acc with
  | zero => intro c hc; exact Or.inl hc
  | succ fuel ih =>
    intro c hc
    simp only [digitsAux] at hc
    split at hc
    · rcases List.mem_cons.mp hc with h | h
      · exact Or.inr ⟨n % 10, Nat.mod_lt _ (by decide), h⟩
      · exact Or.inl h
    · rcases ih _ _ c hc with h | h
      · rcases List.mem_cons.mp h with h | h
        · exact Or.inr ⟨n % 10, Nat.mod_lt _ (by decide), h⟩
        · exact Or.inl h
      · exact Or.inr h

theorem digit_ne_slash : ∀ d, d < 10 → Char.ofNat (48 + d) ≠ '/' := by decide

theorem pad5_chars (n : Nat) : ∀ c ∈ pad5 n, ∃ d, d < 10 ∧ c = Char.ofNat (48 + d) := by
  intro c h
  simp only [pad5, List.mem_append, List.mem_replicate] at h
  rcases h with ⟨_, h⟩ | h
  · exact ⟨0, by decide, h⟩
  · rcases digitsAux_mem _ _ _ _ h with h | h
    · simp at h
    · exact h

theorem slash_not_mem_pad5 (n : Nat) : '/' ∉ pad5 n := by
  intro h
  obtain ⟨d, hd, e⟩ := pad5_chars n _ h
  exact digit_ne_slash d hd e.symm

theorem dropWhile_nil_all {α : Type} (p : α → Bool) (l : List α) (h : l.dropWhile p = []) :
    ∀ x ∈ l, p x = true := by
  induction l with
  | nil => intro x hx; simp at hx
  | cons y ys ih =>
    intro x hx
    by_cases hy : p y = true
    · rw [List.dropWhile_cons_of_pos hy] at h
      rcases List.mem_cons.mp hx with rfl | hx
      · exact hy
      · exact ih h x hx
    · rw [List.dropWhile_cons_of_neg hy] at h
      simp at h

theorem rstripSlash_props (h : List Char) (hne : h ≠ List.replicate h.length '/') :
    rstripSlash h ≠ [] ∧ (rstripSlash h).getLast? ≠ some '/' := by
  unfold rstripSlash
  constructor
  · intro hnil
    have : h.reverse.dropWhile (· = '/') = [] := by simpa using hnil
    have hall := dropWhile_nil_all _ _ this
    apply hne
    rw [List.eq_replicate_iff]
    exact ⟨rfl, fun b hb => by simpa using hall b (by simpa using hb)⟩
  · rw [List.getLast?_reverse]
    intro hh
    have hne' : h.reverse.dropWhile (· = '/') ≠ [] := by
      intro e; rw [e] at hh; simp at hh
    have := List.head_dropWhile_not (· = '/') hne'
    rw [List.head?_eq_some_head hne'] at hh
    simp only [Option.some.injEq] at hh
    rw [hh] at this
    simp at this

theorem rstripSlash_snoc (d : List Char) (hd : d.getLast? ≠ some '/') :
    rstripSlash (d ++ ['/']) = d := by
  unfold rstripSlash
  simp only [List.reverse_append, List.reverse_cons, List.reverse_nil, List.nil_append,
    List.singleton_append]
  rw [List.dropWhile_cons_of_pos (by simp)]
  cases hrev : d.reverse with
  | nil => simp [List.reverse_eq_nil_iff.mp hrev]
  | cons x xs =>
    have hx : x ≠ '/' := by
      intro e
      apply hd
      rw [← List.head?_reverse, hrev, e]; rfl
    rw [List.dropWhile_cons_of_neg (by simpa using hx)]
    rw [← hrev, List.reverse_reverse]

theorem posixSplit_append_slash (a f : List Char) (hf : '/' ∉ f) :
    posixSplit (a ++ '/' :: f) =
      (if a ++ ['/'] ≠ List.replicate (a ++ ['/']).length '/' then rstripSlash (a ++ ['/'])
        else a ++ ['/'], f) := by
  unfold posixSplit
  simp only [rfindSucc_append_cons '/' a f hf]
  rw [show a ++ '/' :: f = (a ++ ['/']) ++ f by simp, List.take_left' (by simp),
    List.drop_left' (by simp)]
  simp

theorem posixSplit_join (p f : List Char) (hf : '/' ∉ f) (hfne : f ≠ []) (hdir : (posixSplit p).1 ≠ []) :
    posixSplit (posixJoin (posixSplit p).1 f) = ((posixSplit p).1, f) := by
  have hhead : f.head? ≠ some '/' := by
    intro h
    cases f with
    | nil => simp at h
    | cons x xs => simp at h; exact hf (by simp [h])
  -- shape of the directory part
  have hshape : (posixSplit p).1 = List.replicate (posixSplit p).1.length '/' ∨
      (posixSplit p).1.getLast? ≠ some '/' := by
    unfold posixSplit
    simp only []
    split
    · rename_i hc
      exact Or.inr (rstripSlash_props _ hc.2).2
    · rename_i hc
      by_cases h0 : List.take (rfindSucc '/' p) p = []
      · simp at hdir
        unfold posixSplit at hdir
        simp [h0] at hdir
      · exact Or.inl (Classical.byContradiction fun h1 => hc ⟨h0, h1⟩)
  generalize (posixSplit p).1 = d at *
  rcases hshape with hrep | hlast
  · -- d is all slashes: join = d ++ f
    obtain ⟨k, hk⟩ : ∃ k, d = List.replicate k '/' ++ ['/'] := by
      refine ⟨d.length - 1, ?_⟩
      have hpos : 0 < d.length := List.length_pos_iff.mpr hdir
      rw [hrep]
      rw [← List.replicate_succ']
      congr 1
      simp; omega
    have hj : posixJoin d f = List.replicate k '/' ++ '/' :: f := by
      unfold posixJoin
      simp only [hhead, if_false]
      have : d.getLast? = some '/' := by rw [hk]; simp
      simp [hk]
    rw [hj, posixSplit_append_slash _ f hf, ← hk, if_neg (fun h => h hrep)]
  · -- d does not end with a slash: join = d ++ "/" ++ f
    have hj : posixJoin d f = d ++ '/' :: f := by
      unfold posixJoin
      simp only [hhead, if_false]
      have : ¬ (d = [] ∨ d.getLast? = some '/') := by
        rintro (h | h)
        · exact hdir h
        · exact hlast h
      simp [this]
    have hnrep : d ++ ['/'] ≠ List.replicate (d ++ ['/']).length '/' := by
      intro h
      have hall := (List.eq_replicate_iff.mp h).2
      apply hlast
      cases hrev : d.reverse with
      | nil => exact absurd (List.reverse_eq_nil_iff.mp hrev) hdir
      | cons x xs =>
        have hx : x ∈ d := by
          have : x ∈ d.reverse := by rw [hrev]; simp
          simpa using this
        have := hall x (by simp [hx])
        rw [← List.head?_reverse, hrev, this]; rfl
    rw [hj, posixSplit_append_slash d f hf, if_pos hnrep, rstripSlash_snoc d hlast]

/-! ### shape of the peeled suffixes; names across different shard counts -/

theorem rfindSucc_get (c : Char) (l : List Char) (n : Nat) (h : rfindSucc c l = n + 1) :
    l[n]? = some c := by
  induction l generalizing n with
  | nil => simp [rfindSucc] at h
  | cons x xs ih =>
    simp only [rfindSucc] at h
    by_cases hr : rfindSucc c xs > 0
    · simp only [hr, if_true] at h
      obtain ⟨m, hm⟩ : ∃ m, rfindSucc c xs = m + 1 := ⟨rfindSucc c xs - 1, by omega⟩
      have : n = m + 1 := by omega
      subst this
      simpa using ih m hm
    · simp only [hr, if_false] at h
      by_cases hx : x = c
      · simp only [hx, if_true] at h
        have : n = 0 := by omega
        subst this; simp [hx]
      · simp [hx] at h

theorem splitext_suffix_head (p : List Char) (h : (splitext p).2 ≠ []) :
    (splitext p).2.head? = some '.' := by
  revert h
  unfold splitext
  simp only []
  split
  · rename_i hgt
    split
    · intro _
      obtain ⟨n, hn⟩ : ∃ n, rfindSucc '.' p = n + 1 := ⟨rfindSucc '.' p - 1, by omega⟩
      simp only [hn, Nat.add_sub_cancel]
      rw [List.head?_drop]
      exact rfindSucc_get '.' p n hn
    · intro h; exact absurd rfl h
  · intro h; exact absurd rfl h

theorem splitext_fst_length (p : List Char) (h : (splitext p).2 ≠ []) :
    (splitext p).1.length < p.length := by
  have := congrArg List.length (splitext_append p)
  simp only [List.length_append] at this
  have : 0 < (splitext p).2.length := List.length_pos_iff.mpr h
  omega

/-- what the suffix-peeling loop guarantees about its result `r`, started with `name` and `acc` -/
structure PeelSpec (count : Option Nat) (name : List Char) (acc : List (List Char))
    (r : List Char × List (List Char)) : Prop where
  suffixes : ∃ new, r.2 = acc ++ new ∧ ∀ s ∈ new, s.head? = some '.' ∧ isExtensionSuffix s = true
  bound : ∀ c, count = some c → r.2.length ≤ max acc.length c
  maximal : (∀ c, count = some c → r.2.length < c) →
    (splitext r.1).2 = [] ∨ isExtensionSuffix (splitext r.1).2 = false
  append : r.1 ++ r.2.reverse.flatten = name ++ acc.reverse.flatten

theorem peel_body (fuel : Nat) (count : Option Nat) (name : List Char) (acc : List (List Char))
    (ih : ∀ name' acc', name'.length < fuel →
      PeelSpec count name' acc' (peelSuffixes fuel count name' acc'))
    (hf : name.length < fuel + 1) (hroom : ∀ c, count = some c → acc.length < c) :
    PeelSpec count name acc
      (if (splitext name).2 = [] ∨ ¬ isExtensionSuffix (splitext name).2 = true then (name, acc)
       else peelSuffixes fuel count (splitext name).1 (acc ++ [(splitext name).2])) := by
  by_cases hstop : (splitext name).2 = [] ∨ ¬ isExtensionSuffix (splitext name).2 = true
  · rw [if_pos hstop]
    refine ⟨⟨[], by simp, by simp⟩, fun c _ => by simp; omega, fun _ => ?_, rfl⟩
    rcases hstop with h | h
    · exact Or.inl h
    · exact Or.inr (by simpa using h)
  · rw [if_neg hstop]
    have hne : (splitext name).2 ≠ [] := fun h => hstop (Or.inl h)
    have hext : isExtensionSuffix (splitext name).2 = true := by
      by_cases h : isExtensionSuffix (splitext name).2 = true
      · exact h
      · exact absurd (Or.inr h) hstop
    have hlt := splitext_fst_length name hne
    obtain ⟨⟨new, hnew, hall⟩, hbound, hmax, happ⟩ :=
      ih (splitext name).1 (acc ++ [(splitext name).2]) (by omega)
    refine ⟨⟨(splitext name).2 :: new, by rw [hnew]; simp, ?_⟩, ?_, hmax, ?_⟩
    · intro s hs
      rcases List.mem_cons.mp hs with rfl | hs
      · exact ⟨splitext_suffix_head name hne, hext⟩
      · exact hall s hs
    · intro c hc
      have h1 := hbound c hc
      have h2 := hroom c hc
      simp only [List.length_append, List.length_singleton] at h1
      omega
    · -- stem and suffix of this round put together again
      rw [happ]
      simp only [List.reverse_append, List.reverse_cons, List.reverse_nil, List.nil_append,
        List.flatten_cons, 
        List.singleton_append]
      rw [← List.append_assoc, splitext_append]

theorem peelSuffixes_spec (fuel : Nat) (count : Option Nat) (name : List Char)
    (acc : List (List Char)) (hf : name.length < fuel) :
    PeelSpec count name acc (peelSuffixes fuel count name acc) := by
  induction fuel generalizing name acc with
  | zero => omega
  | succ fuel ih =>
    cases count with
    | none =>
      simp only [peelSuffixes, if_true]
      exact peel_body fuel none name acc ih hf (by simp)
    | some c =>
      by_cases hc : acc.length < c
      · simp only [peelSuffixes, hc, decide_true, if_true]
        exact peel_body fuel (some c) name acc ih hf (by intro c' h; cases h; exact hc)
      · simp only [peelSuffixes, hc, decide_false, Bool.false_eq_true, if_false]
        refine ⟨⟨[], by simp, by simp⟩, fun c' _ => by simp; omega, fun h => ?_, rfl⟩
        exact absurd (h c rfl) hc

theorem peelSuffixes_append (count : Option Nat) (name : List Char) :
    (peelSuffixes (name.length + 1) count name []).1 ++
      (peelSuffixes (name.length + 1) count name []).2.reverse.flatten = name := by
  simpa using (peelSuffixes_spec (name.length + 1) count name [] (Nat.lt_succ_self _)).append

theorem slash_not_mem_shardBasename (filename : List Char) (idx total : Nat) (sc : Option Nat)
    (h : '/' ∉ filename) : '/' ∉ shardBasename filename idx total sc := by
  have hsplit := peelSuffixes_append sc filename
  unfold shardBasename
  simp only []
  generalize (peelSuffixes (filename.length + 1) sc filename []).1 = stem at *
  generalize (peelSuffixes (filename.length + 1) sc filename []).2.reverse.flatten = ext at *
  subst hsplit
  simp only [List.mem_append, not_or] at h
  simp only [List.mem_append, List.mem_cons, not_or]
  exact ⟨⟨⟨⟨h.1, by decide, slash_not_mem_pad5 idx⟩, by decide⟩, slash_not_mem_pad5 total⟩, h.2⟩

theorem digit_ne_dash : ∀ d, d < 10 → Char.ofNat (48 + d) ≠ '-' := by decide

theorem dash_not_mem_pad5 (n : Nat) : '-' ∉ pad5 n := by
  intro h
  obtain ⟨d, hd, e⟩ := pad5_chars n _ h
  exact digit_ne_dash d hd e.symm

theorem split_at_first (c : Char) (a b x y : List Char) (ha : c ∉ a) (hb : c ∉ b)
    (h : a ++ c :: x = b ++ c :: y) : a = b ∧ x = y := by
  induction a generalizing b with
  | nil =>
    cases b with
    | nil => simpa using h
    | cons b0 bs =>
      simp only [List.nil_append, List.cons_append, List.cons.injEq] at h
      exact absurd (by simp [h.1]) hb
  | cons a0 as ih =>
    cases b with
    | nil =>
      simp only [List.nil_append, List.cons_append, List.cons.injEq] at h
      exact absurd (by simp [h.1]) ha
    | cons b0 bs =>
      simp only [List.cons_append, List.cons.injEq] at h
      have := ih bs (fun m => ha (List.mem_cons_of_mem _ m)) (fun m => hb (List.mem_cons_of_mem _ m)) h.2
      exact ⟨by rw [h.1, this.1], this.2⟩

theorem shardBasename_injective2 (filename : List Char) (sc : Option Nat) {i j t t' : Nat}
    (h : shardBasename filename i t sc = shardBasename filename j t' sc) : i = j ∧ t = t' := by
  unfold shardBasename at h
  simp only [] at h
  simp only [List.append_assoc] at h
  have h1 := List.append_cancel_left h
  simp only [List.cons_append, List.cons.injEq, true_and] at h1
  -- pad5 i ++ '-' :: 'o' :: 'f' :: '-' :: (pad5 t ++ ext)
  have h2 : pad5 i ++ '-' :: ("of-".toList ++ (pad5 t ++
        (peelSuffixes (filename.length + 1) sc filename []).2.reverse.flatten)) =
      pad5 j ++ '-' :: ("of-".toList ++ (pad5 t' ++
        (peelSuffixes (filename.length + 1) sc filename []).2.reverse.flatten)) := by
    simpa using h1
  obtain ⟨hij, hrest⟩ := split_at_first '-' _ _ _ _ (dash_not_mem_pad5 i) (dash_not_mem_pad5 j) h2
  have h3 := List.append_cancel_left hrest
  have h4 := List.append_cancel_right h3
  exact ⟨pad5_injective hij, pad5_injective h4⟩

theorem shardBasename_injective (filename : List Char) (total : Nat) (sc : Option Nat) {i j : Nat}
    (h : shardBasename filename i total sc = shardBasename filename j total sc) : i = j :=
  (shardBasename_injective2 filename sc h).1

end IrVerif.Layout
