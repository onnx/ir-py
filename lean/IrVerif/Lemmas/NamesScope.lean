/-
C15 part B: the per-scope postcondition of NameFixPass (`ScopeOK`, `Good`) and one `_process_value` step under it
(`Good.step`), on the plain state `FixSt`; a state with tensors reads them on its plain part.  The plain model (`TInv` /
`PV`) carries what needs no scoping rule (`Lemmas/NamesTotal.lean`, `NamesRec.lean`, `NamesIdem.lean`); the postcondition
under the scoping rule is proved for any generator (`Lemmas/NamesGenScope.lean`) and transferred by `fixTop_sim`.
-/
import IrVerif.Lemmas.NamesFix
import IrVerif.Lemmas.NamesOrder
import IrVerif.Lemmas.NamesVocab
namespace IrVerif.Names

/-- what the postcondition says about one list `L` of values that are visible together -/
structure ScopeOK (c : Cfg) (st : FixSt) (L : List Nat) : Prop where
  inj : ∀ a ∈ L, ∀ b ∈ L, a ≠ b → st.vname a ≠ st.vname b
  seen : ∀ u ∈ L, u ∈ st.seen ∧ truthy (st.vname u) = true
  /-- `L` is in visiting order: the first holder of a name keeps it -/
  first : FirstB c.orig st.vname L

theorem ScopeOK.injT {c : Cfg} {st : FixSt} {L : List Nat} (h : ScopeOK c st L) : InjT st.vname L :=
  ⟨h.inj, fun a ha => (h.seen a ha).2⟩

theorem ScopeOK.kept {c : Cfg} {st : FixSt} {L : List Nat} (h : ScopeOK c st L) : KeptOn c.orig st.vname L :=
  h.first.keptOn

/-- `V` = the values recorded in the innermost scope: the innermost used-name set is exactly the
set of their names -/
structure Good (c : Cfg) (st : FixSt) (V : List Nat) : Prop extends ScopeOK c st V where
  top_iff : ∀ s, s ∈ topOf st.vstack ↔ ∃ u ∈ V, st.vname u = some s

/-- names of values that were already seen do not change -/
structure Frame (st st' : FixSt) : Prop where
  names : ∀ u ∈ st.seen, st'.vname u = st.vname u
  seen : ∀ u ∈ st.seen, u ∈ st'.seen

theorem Frame.refl (st : FixSt) : Frame st st := ⟨fun _ _ => rfl, fun _ h => h⟩
theorem Frame.trans {a b c : FixSt} (h1 : Frame a b) (h2 : Frame b c) : Frame a c :=
  ⟨fun u hu => (h2.names u (h1.seen u hu)).trans (h1.names u hu), fun u hu => h2.seen u (h1.seen u hu)⟩

theorem ScopeOK.frame {c : Cfg} {st st' : FixSt} {L : List Nat} (h : ScopeOK c st L) (f : Frame st st') :
    ScopeOK c st' L := by
  have e : ∀ u ∈ L, st'.vname u = st.vname u := fun u hu => f.names u (h.seen u hu).1
  refine ⟨?_, ?_, ?_⟩
  · intro a ha b hb hab; rw [e a ha, e b hb]; exact h.inj a ha b hb hab
  · intro u hu; rw [e u hu]; exact ⟨f.seen u (h.seen u hu).1, (h.seen u hu).2⟩
  · exact h.first.fin_eq e

theorem ScopeOK.congr {c : Cfg} {st : FixSt} {L L' : List Nat} (h : ScopeOK c st L) (e : ∀ x, x ∈ L' ↔ x ∈ L)
    (ho : ∀ v ∈ L', ∀ u ∈ before v L, u ∈ before v L' ∨ c.orig u ≠ c.orig v) :
    ScopeOK c st L' :=
  ⟨fun a ha b hb => h.inj a ((e a).mp ha) b ((e b).mp hb), fun u hu => h.seen u ((e u).mp hu),
   h.first.transfer (fun v hv => (e v).mp hv) ho⟩

theorem Good.congr {c : Cfg} {st : FixSt} {V V' : List Nat} (h : Good c st V) (e : ∀ x, x ∈ V' ↔ x ∈ V)
    (ho : ∀ v ∈ V', ∀ u ∈ before v V, u ∈ before v V' ∨ c.orig u ≠ c.orig v) :
    Good c st V' :=
  { toScopeOK := h.toScopeOK.congr e ho
    top_iff := fun s => (h.top_iff s).trans
      ⟨fun ⟨u, hu, hs⟩ => ⟨u, (e u).mpr hu, hs⟩, fun ⟨u, hu, hs⟩ => ⟨u, (e u).mp hu, hs⟩⟩ }

theorem Good.restore {c : Cfg} {st st' : FixSt} {V : List Nat} (good : Good c st V) (fr : Frame st st')
    (hstk : st'.vstack = st.vstack) : Good c st' V :=
  { toScopeOK := good.toScopeOK.frame fr
    top_iff := fun s => by
      rw [hstk, good.top_iff s]
      constructor
      · rintro ⟨u, hu, hs⟩; exact ⟨u, hu, by rw [fr.names u (good.seen u hu).1]; exact hs⟩
      · rintro ⟨u, hu, hs⟩; exact ⟨u, hu, by rw [← fr.names u (good.seen u hu).1]; exact hs⟩ }

theorem PV.frame {c : Cfg} {st st' : FixSt} {v : Nat} (h : PV c st v st') : Frame st st' := by
  refine ⟨?_, fun u hu => (h.seen_iff u).mpr (Or.inl hu)⟩
  intro u hu
  by_cases huv : u = v
  · subst huv; rw [h.noop hu]
  · exact h.others u huv

theorem PV.tail {c : Cfg} {st st' : FixSt} {v : Nat} (h : PV c st v st') : st'.vstack.tail = st.vstack.tail := by
  by_cases hv : v ∈ st.seen
  · rw [h.noop hv]
  · obtain ⟨n, _, _, _, e, _⟩ := h.fresh hv
    rw [e]; rfl

/-- **one more object in a scope** (values and nodes alike): `U` = the used-name set = the names `f` gives the objects `L`
recorded so far; the new object `x` gets the name `n ∉ U`, its original name whenever that is non-empty and free -/
theorem scope_snoc {orig f f' : Nat → Option String} {res U : List String} {L : List Nat} {x : Nat} {n : String}
    (inj : ∀ a ∈ L, ∀ b ∈ L, a ≠ b → f a ≠ f b) (first : FirstB orig f L)
    (top_iff : ∀ s, s ∈ U ↔ ∃ u ∈ L, f u = some s)
    (hgen : ∀ u ∈ L, f u = orig u ∨ ∃ s, f u = some s ∧ s ∉ res)
    (hcol : ∀ s, orig x = some s → s ≠ "" → s ∈ res)
    (hx : x ∉ L) (hoth : ∀ u ∈ L, f' u = f u) (hself : f' x = some n) (hnU : n ∉ U)
    (hkeep : ∀ s, orig x = some s → s ≠ "" → s ∉ U → n = s) :
    (∀ a ∈ L ++ [x], ∀ b ∈ L ++ [x], a ≠ b → f' a ≠ f' b) ∧ FirstB orig f' (L ++ [x])
    ∧ ∀ s, s ∈ n :: U ↔ ∃ u ∈ L ++ [x], f' u = some s := by
  -- if the original name of `x` is carried by no object recorded so far it is free, hence kept
  have hnew : truthy (orig x) = true → (∀ u ∈ L, orig u ≠ orig x) → f' x = orig x := by
    intro h1 h2
    obtain ⟨s, hs, hsne⟩ := truthy_iff.mp h1
    have hnot : s ∉ U := by
      intro hin
      obtain ⟨u, hu, hus⟩ := (top_iff s).mp hin
      rcases hgen u hu with h | ⟨s', e1, e2⟩
      · exact h2 u hu (by rw [← h, hus, hs])
      · rw [hus] at e1; cases e1
        exact e2 (hcol s hs hsne)
    rw [hself, hkeep s hs hsne hnot, hs]
  have key : ∀ a ∈ L, f' a ≠ f' x := by
    intro a ha e
    rw [hoth a ha, hself] at e
    exact hnU ((top_iff n).mpr ⟨a, ha, e⟩)
  refine ⟨?_, (first.fin_eq hoth).snoc hx hnew, ?_⟩
  · intro a ha b hb hab
    simp only [List.mem_append, List.mem_singleton] at ha hb
    rcases ha with ha | rfl <;> rcases hb with hb | rfl
    · rw [hoth a ha, hoth b hb]; exact inj a ha b hb hab
    · exact key a ha
    · exact fun e => key b hb e.symm
    · exact absurd rfl hab
  · intro s
    rw [List.mem_cons]
    simp only [List.mem_append, List.mem_singleton]
    constructor
    · rintro (rfl | h)
      · exact ⟨x, Or.inr rfl, hself⟩
      · obtain ⟨u, hu, hus⟩ := (top_iff s).mp h
        exact ⟨u, Or.inl hu, by rw [hoth u hu]; exact hus⟩
    · rintro ⟨u, hu | rfl, hus⟩
      · exact Or.inr ((top_iff s).mpr ⟨u, hu, by rw [← hoth u hu]; exact hus⟩)
      · rw [hself] at hus; exact Or.inl (Option.some.inj hus).symm

/-- one `_process_value` under the scoping rule, from the facts `PV` / `PVG` give about the step -/
theorem Good.step {c : Cfg} (hc : c.OK) {st st' : FixSt} {V : List Nat} (good : Good c st V) {v : Nat} (hC : c.C v)
    (hsc : v ∈ st.seen → v ∈ V)
    (hj1 : ∀ u, st.vname u = c.orig u ∨ ∃ s, st.vname u = some s ∧ s ∉ c.resV)
    (hunseen : v ∉ st.seen → st.vname v = c.orig v)
    (seen_iff : ∀ u, u ∈ st'.seen ↔ (u ∈ st.seen ∨ u = v))
    (others : ∀ u, u ≠ v → st'.vname u = st.vname u)
    (noop : v ∈ st.seen → st' = st)
    (fresh : v ∉ st.seen → ∃ n, st'.vname v = some n ∧ n ≠ "" ∧ n ∉ topOf st.vstack ∧
      st'.vstack = (n :: topOf st.vstack) :: st.vstack.tail ∧
      (st.vname v = some n ∨ n ∉ c.resV) ∧
      (∀ s, st.vname v = some s → s ≠ "" → s ∉ topOf st.vstack → n = s)) :
    Good c st' (V ++ [v]) := by
  by_cases hv : v ∈ st.seen
  · rw [noop hv]
    refine good.congr (fun x => by simp only [List.mem_append, List.mem_singleton]; exact ⟨fun h => h.elim id (fun e => e ▸ hsc hv), Or.inl⟩) ?_
    intro x hx u hu
    have hxV : x ∈ V := (List.mem_append.mp hx).elim id (fun e => by simp at e; exact e ▸ hsc hv)
    rw [before_append_mem _ hxV]; exact Or.inl hu
  · obtain ⟨n, hn, hnne, hntop, hstk, _, hnkeep⟩ := fresh hv
    have hvV : v ∉ V := fun h => hv (good.seen v h).1
    have hoth : ∀ u ∈ V, st'.vname u = st.vname u := fun u hu => others u (fun e => hvV (e ▸ hu))
    obtain ⟨inj, first, top⟩ := scope_snoc good.inj good.first good.top_iff (fun u _ => hj1 u)
      (fun s hs hsne => hc.res v s hC hs hsne) hvV hoth hn hntop
      (fun s hs => hnkeep s ((hunseen hv).trans hs))
    refine { inj := inj, seen := ?_, first := first, top_iff := by rw [hstk]; exact top }
    intro u hu
    simp only [List.mem_append, List.mem_singleton] at hu
    rcases hu with hu | rfl
    · rw [hoth u hu]; exact ⟨(seen_iff u).mpr (Or.inl (good.seen u hu).1), (good.seen u hu).2⟩
    · exact ⟨(seen_iff u).mpr (Or.inr rfl), truthy_iff.mpr ⟨n, hn, hnne⟩⟩

theorem processValue_Good {c : Cfg} (hc : c.OK) {st : FixSt} (inv : TInv c st) {V : List Nat}
    (good : Good c st V) {v : Nat} (hC : c.C v) (hsc : v ∈ st.seen → v ∈ V) :
    Good c (processValue st v) (V ++ [v]) :=
  have pv := processValue_PV hc inv hC
  good.step hc hC hsc (fun u => (inv.j1 u).imp id (fun ⟨s, e1, e2, _⟩ => ⟨s, e1, e2⟩)) (inv.unseen v)
    pv.seen_iff pv.others pv.noop pv.fresh

/-- `V'` = the values recorded in the innermost scope afterwards, `S'` = the values seen afterwards -/
structure Lvl (c : Cfg) (st st' : FixSt) (V' : List Nat) (S' : List Nat) : Prop where
  inv : TInv c st'
  good : Good c st' V'
  seenEq : ∀ x, x ∈ st'.seen ↔ x ∈ S'
  frame : Frame st st'


/-! ### steps that do not touch values -/

theorem InitsOk.of_eq {w w' : World} (h : InitsOk w) (e1 : w'.vname = w.vname) (e2 : w'.initOf = w.initOf)
    (e3 : w'.dicts = w.dicts) : InitsOk w' :=
  ⟨fun g k v hm => by rw [e1, e2]; exact h.key_name g k v (e3 ▸ hm), fun g => by rw [e3]; exact h.keys_nodup g,
   fun v g hv => by rw [e3]; exact h.complete v g (e2 ▸ hv)⟩

/-- two states that agree on everything values are concerned with -/
structure VEq (st st' : FixSt) : Prop where
  vname : st'.vname = st.vname
  initOf : st'.initOf = st.initOf
  dicts : st'.dicts = st.dicts
  seen : st'.seen = st.seen
  vcnt : st'.vcnt = st.vcnt
  resV : st'.resV = st.resV
  raised : st'.raised = st.raised

/-- the scope stacks, the node side and `modified` are nothing values are concerned with -/
theorem VEq.of_nodeSide (st : FixSt) (vs ns : List (List String)) (nc : String → Nat) (nn : Nat → Option String)
    (m : Bool) : VEq st { st with vstack := vs, nstack := ns, ncnt := nc, nname := nn, modified := m } :=
  ⟨rfl, rfl, rfl, rfl, rfl, rfl, rfl⟩

theorem VEq.trans {a b c : FixSt} (h1 : VEq a b) (h2 : VEq b c) : VEq a c :=
  ⟨h2.vname.trans h1.vname, h2.initOf.trans h1.initOf, h2.dicts.trans h1.dicts, h2.seen.trans h1.seen,
   h2.vcnt.trans h1.vcnt, h2.resV.trans h1.resV, h2.raised.trans h1.raised⟩

theorem TInv.of_VEq {c : Cfg} {st st' : FixSt} (h : TInv c st) (e : VEq st st') : TInv c st' :=
  ⟨e.raised ▸ h.nr, h.ok.of_eq e.vname e.initOf e.dicts, e.initOf ▸ h.io, e.resV ▸ h.res,
   fun u => by rw [e.vname, e.vcnt]; exact h.j1 u, fun u hu => by rw [e.vname]; exact h.unseen u (e.seen ▸ hu),
   fun u hu => by rw [e.vname]; exact h.outside u hu⟩

theorem ScopeOK.of_VEq {c : Cfg} {st st' : FixSt} {L : List Nat} (h : ScopeOK c st L) (e : VEq st st') :
    ScopeOK c st' L :=
  ⟨fun a ha b hb hab => by rw [e.vname]; exact h.inj a ha b hb hab,
   fun u hu => by rw [e.vname, e.seen]; exact h.seen u hu,
   by rw [e.vname]; exact h.first⟩

theorem Good.of_VEq {c : Cfg} {st st' : FixSt} {V : List Nat} (h : Good c st V) (e : VEq st st')
    (et : topOf st'.vstack = topOf st.vstack) : Good c st' V :=
  { toScopeOK := h.toScopeOK.of_VEq e
    top_iff := fun s => by rw [et, e.vname]; exact h.top_iff s }

theorem Frame.of_VEq {st st' : FixSt} (e : VEq st st') : Frame st st' :=
  ⟨fun u _ => by rw [e.vname], fun u hu => by rw [e.seen]; exact hu⟩

theorem fixNodeName_VEq {st : FixSt} (n : Nat) :
    VEq st (fixNodeName st n) ∧ (fixNodeName st n).vstack = st.vstack := by
  unfold fixNodeName
  split
  · exact ⟨VEq.of_nodeSide .., rfl⟩
  · dsimp only
    split
    · exact ⟨VEq.of_nodeSide .., rfl⟩
    · split <;> exact ⟨VEq.of_nodeSide .., rfl⟩

/-! ### entering a graph -/

/-- what the hypotheses of the traversal say about the values the call can meet -/
structure HC (c : Cfg) (t : Tr) : Prop where
  ment : ∀ v ∈ mentioned t, c.C v
  graphs : ∀ g ∈ graphsOf t, ∀ u, c.io u = some g → c.C u

def pushScope (st : FixSt) : FixSt :=
  { st with vstack := topOf st.vstack :: st.vstack, nstack := [] :: st.nstack }

/-- `enter_graph` is the push followed by four runs of `_process_value`: inputs, outputs, the initializers as the
dictionary holds them at that moment (none for a function), the outputs of the graph's own nodes -/
theorem enterGraph_eq {st : FixSt} (h : st.raised = false) (g : Nat) (isG : Bool) (ins outs bouts : List Nat) :
    enterGraph st g isG ins outs bouts =
      processValues (processValues (processValues (processValues (pushScope st) ins) outs)
        (if isG = true then ((processValues (processValues (pushScope st) ins) outs).dicts g).map (·.2) else []))
        bouts := by
  unfold enterGraph
  rw [if_neg (by simp [h])]
  cases isG <;> simp [processValues, pushScope]

/-! ### leaving a graph; what the hypotheses say about the items of a tree -/

theorem exitGraph_eq {st : FixSt} (h : st.raised = false) :
    exitGraph st = { st with vstack := st.vstack.tail, nstack := st.nstack.tail } := by
  unfold exitGraph
  rw [if_neg (by simp [h])]

theorem exitGraph_VEq {st : FixSt} (h : st.raised = false) :
    VEq st (exitGraph st) ∧ (exitGraph st).vstack = st.vstack.tail := by
  rw [exitGraph_eq h]
  exact ⟨VEq.of_nodeSide .., rfl⟩

theorem HC.node {c : Cfg} {n : Nat} {ins : List (Option Nat)} {outs : List Nat} {subs rest : Tr}
    (h : HC c (.node n ins outs subs rest)) :
    (∀ v ∈ nodeVals ins outs, c.C v) ∧ HC c subs ∧ HC c rest := by
  refine ⟨fun v hv => h.ment v (by simp [mentioned, hv]), ⟨?_, ?_⟩, ⟨?_, ?_⟩⟩
  · intro v hv; exact h.ment v (by simp [mentioned, hv])
  · intro g hg; exact h.graphs g (by simp [graphsOf, hg])
  · intro v hv; exact h.ment v (by simp [mentioned, hv])
  · intro g hg; exact h.graphs g (by simp [graphsOf, hg])

theorem HC.graph {c : Cfg} {g : Nat} {isG : Bool} {ins outs : List Nat} {body rest : Tr}
    (h : HC c (.graph g isG ins outs body rest)) :
    (∀ v ∈ ins ++ outs ++ bodyOuts body, c.C v) ∧ (isG = true → ∀ u, c.io u = some g → c.C u) ∧ HC c body ∧ HC c rest := by
  refine ⟨fun v hv => h.ment v ?_, fun hG => h.graphs g (by simp [graphsOf, hG]), ⟨?_, ?_⟩, ⟨?_, ?_⟩⟩
  · simp only [List.mem_append] at hv; simp only [mentioned, List.mem_append]
    rcases hv with hv | hv
    · exact Or.inl hv
    · exact Or.inr (Or.inl (bodyOuts_sub_mentioned body v hv))
  · intro v hv; exact h.ment v (by simp [mentioned, hv])
  · intro g' hg; exact h.graphs g' (by simp [graphsOf, hg])
  · intro v hv; exact h.ment v (by simp [mentioned, hv])
  · intro g' hg; exact h.graphs g' (by simp [graphsOf, hg])

end IrVerif.Names
