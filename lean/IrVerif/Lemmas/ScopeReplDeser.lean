/-
What the deserializer builds is reloadable: `deserGraph` satisfies the certificate `replG` (the scope
tables of the certificate are the tables of the run), and the values it introduces carry increasing
creation indices.
-/
import IrVerif.Lemmas.ScopeReplIdem
import IrVerif.Lemmas.ScopeTree
namespace IrVerif.Scope

def Incr (a b : Nat) (L : List Nat) : Prop := L.Pairwise (· < ·) ∧ ∀ v ∈ L, a ≤ v ∧ v < b

theorem Incr.nil (a b : Nat) : Incr a b [] := ⟨List.Pairwise.nil, fun _ h => by simp at h⟩

theorem Incr.mono {a b a' b' : Nat} {L : List Nat} (h : Incr a b L) (ha : a' ≤ a) (hb : b ≤ b') : Incr a' b' L :=
  ⟨h.1, fun v hv => ⟨Nat.le_trans ha (h.2 v hv).1, Nat.lt_of_lt_of_le (h.2 v hv).2 hb⟩⟩

theorem Incr.append {a b c : Nat} {L1 L2 : List Nat} (h1 : Incr a b L1) (h2 : Incr b c L2) (hab : a ≤ b)
    (hbc : b ≤ c) : Incr a c (L1 ++ L2) := by
  refine ⟨List.pairwise_append.mpr ⟨h1.1, h2.1, fun x hx y hy => ?_⟩, fun v hv => ?_⟩
  · exact Nat.lt_of_lt_of_le (h1.2 x hx).2 (h2.2 y hy).1
  · rcases List.mem_append.mp hv with hv | hv
    · exact ⟨(h1.2 v hv).1, Nat.lt_of_lt_of_le (h1.2 v hv).2 hbc⟩
    · exact ⟨Nat.le_trans hab (h2.2 v hv).1, (h2.2 v hv).2⟩

theorem Incr.cons {a b v : Nat} {L : List Nat} (hv : a ≤ v) (hvb : v < b) (h : Incr (v + 1) b L) : Incr a b (v :: L) := by
  refine ⟨List.pairwise_cons.mpr ⟨fun y hy => ?_, h.1⟩, fun w hw => ?_⟩
  · have := (h.2 y hy).1; omega
  · simp only [List.mem_cons] at hw
    rcases hw with rfl | hw
    · exact ⟨hv, hvb⟩
    · have := h.2 w hw; omega

theorem Incr.nodup {a b : Nat} {L : List Nat} (h : Incr a b L) : L.Nodup :=
  h.1.imp (fun hlt => Nat.ne_of_lt hlt)

theorem Incr.sublist {a b : Nat} {L L' : List Nat} (h : Incr a b L) (hs : L'.Sublist L) : Incr a b L' :=
  ⟨h.1.sublist hs, fun v hv => h.2 v (hs.subset hv)⟩

theorem Incr.le {a b : Nat} {L : List Nat} (h : Incr a b L) (hne : L ≠ []) : a < b := by
  cases L with
  | nil => exact absurd rfl hne
  | cons v r => have := h.2 v List.mem_cons_self; omega

theorem incr_range' (a n : Nat) : Incr a (a + n) (List.range' a n) := by
  induction n generalizing a with
  | zero => exact Incr.nil _ _
  | succ n ih =>
    rw [List.range'_succ]
    refine Incr.cons (Nat.le_refl _) (by omega) ?_
    have := ih (a + 1)
    have e : a + 1 + n = a + (n + 1) := by omega
    rw [e] at this
    exact this

def NamesAgree (V : Nat → ValueS) (st : Store) : Prop := ∀ v, v < st.nv → (V v).name = (st.vals v).name

def NamedV (V : Nat → ValueS) (T : Table) : Prop := ∀ e ∈ T, (V e.2).name = some e.1

theorem NamedV.of_named {V : Nat → ValueS} {st : Store} {T : Table} (h : Named st T) (hlt : TableLt st T)
    (hV : NamesAgree V st) : NamedV V T := fun e he => by rw [hV _ (hlt e he)]; exact h e he

theorem NamedV.nm {V : Nat → ValueS} {T : Table} (h : NamedV V T) {x : Name} {v : Nat} (hm : (x, v) ∈ T) :
    nm V v = x := nm_of_name (h _ hm)

theorem NamedV.cons {V : Nat → ValueS} {T : Table} (h : NamedV V T) {x : Name} {v : Nat}
    (hv : (V v).name = some x) : NamedV V ((x, v) :: T) := fun e he => by
  simp only [List.mem_cons] at he
  rcases he with rfl | he
  · exact hv
  · exact h e he

theorem repl_resolveInputs (V : Nat → ValueS) (outer : List Table) (vi : List (Name × Info))
    (hO : ∀ T ∈ outer, NamedV V T) :
    ∀ (xs : List Name) (st : Store) (top : Table), NamedV V top →
      NamesAgree V (resolveInputs st top outer vi xs).1 →
      (replRes V outer top (resolveInputs st top outer vi xs).2.2).tbl = (resolveInputs st top outer vi xs).2.1 ∧
      (replRes V outer top (resolveInputs st top outer vi xs).2.2).ok ∧
      Incr st.nv (resolveInputs st top outer vi xs).1.nv (replRes V outer top (resolveInputs st top outer vi xs).2.2).new ∧
      NamedV V (resolveInputs st top outer vi xs).2.1 := by
  intro xs
  induction xs with
  | nil => intro st top hT _; exact ⟨rfl, trivial, Incr.nil _ _, hT⟩
  | cons x xs ih =>
    intro st top hT hV
    simp only [resolveInputs] at hV ⊢
    by_cases hx : x = ""
    · simp only [hx, if_true] at hV ⊢
      simp only [replRes]
      exact ih st top hT hV
    · simp only [hx, if_false] at hV ⊢
      cases hr : resolve x (top :: outer) with
      | some v =>
        simp only [hr] at hV ⊢
        obtain ⟨a, b, c, d⟩ := ih st top hT hV
        have hname : (V v).name = some x := by
          obtain ⟨T', hT', hm⟩ := resolve_mem _ _ _ hr
          simp only [List.mem_cons] at hT'
          rcases hT' with rfl | hT'
          · exact hT _ hm
          · exact hO T' hT' _ hm
        simp only [replRes, nm_of_name hname, hr]
        exact ⟨a, ⟨by simp [nameTruthy, hname, hx], trivial, b⟩, c, d⟩
      | none =>
        simp only [hr] at hV ⊢
        obtain ⟨q, hnv⟩ := newNamed_quiet st vi x
        have sx := resolveInputs_steps (B := False) (PC := fun _ => False) outer vi xs (newNamed st vi x) ((x, st.nv) :: top) (Nat.le_refl _)
        have hle := sx.nv_le
        have hname : (V st.nv).name = some x := by
          rw [hV st.nv (by omega), sx.names st.nv (by omega), newNamed_name]
        have hT' : NamedV V ((x, st.nv) :: top) := hT.cons hname
        obtain ⟨a, b, c, d⟩ := ih (newNamed st vi x) ((x, st.nv) :: top) hT' hV
        have hnm : nm V st.nv = x := nm_of_name hname
        simp only [replRes, hnm, hr]
        refine ⟨a, ⟨by simp [nameTruthy, hname, hx], b⟩, ?_, d⟩
        exact Incr.cons (Nat.le_refl _) (by omega) (by rw [hnv] at c; exact c)

/-- `T` may be any scope LATER than the one after the declaration (`Tf` in `repl_declareOutputs`) -/
def declared (T : Table) (xs : List Name) : List Nat :=
  (xs.filter (· ≠ "")).map fun y => (T.lookup y).getD 0

theorem repl_lookupOutputs (V : Nat → ValueS) (top : Table) (hT : NamedV V top) :
    ∀ (ys : List Name) (st st' : Store) (outs : List Nat), lookupOutputs st top ys = .ok (st', outs) →
      NamesAgree V st' →
      (∀ v ∈ outs, (V v).name ≠ none) ∧
      (∀ v ∈ outs, nameTruthy (V v).name = true → top.lookup (nm V v) = some v) ∧
      Incr st.nv st'.nv (outs.filter (fun v => !nameTruthy (V v).name)) ∧
      outs.filter (fun v => nameTruthy (V v).name) = declared top ys := by
  intro ys
  induction ys with
  | nil =>
    intro st st' outs h _
    simp only [lookupOutputs, Except.ok.injEq, Prod.mk.injEq] at h
    obtain ⟨rfl, rfl⟩ := h
    exact ⟨by simp, by simp, Incr.nil _ _, rfl⟩
  | cons y ys ih =>
    intro st st' outs h hV
    simp only [lookupOutputs] at h
    by_cases hy : y = ""
    · simp only [hy, if_true] at h
      split at h
      · simp at h
      · rename_i st2 vs hrest
        simp only [Except.ok.injEq, Prod.mk.injEq, alloc_snd] at h
        obtain ⟨rfl, rfl⟩ := h
        obtain ⟨q, _⟩ := lookupOutputs_spec top ys _ _ _ hrest
        have hnv := q.nv_le
        simp only [alloc_nv] at hnv
        have hname : (V st.nv).name = some "" := by
          rw [hV st.nv (by omega), q.names st.nv (by simp)]
          simp
        obtain ⟨a, b, c, d⟩ := ih _ _ _ hrest hV
        have hf : nameTruthy (V st.nv).name = false := by simp [nameTruthy, hname]
        refine ⟨fun v hv => ?_, fun v hv ht => ?_, ?_, ?_⟩
        · simp only [List.mem_cons] at hv
          rcases hv with rfl | hv
          · rw [hname]; simp
          · exact a v hv
        · simp only [List.mem_cons] at hv
          rcases hv with rfl | hv
          · rw [hf] at ht; cases ht
          · exact b v hv ht
        · simp only [List.filter_cons, hf, Bool.not_false, if_true]
          exact Incr.cons (Nat.le_refl _) (by omega) (by simpa using c)
        · simp only [declared, List.filter_cons, hf, hy, ne_eq, not_true_eq_false, decide_false, Bool.false_eq_true, if_false]
          exact d
    · simp only [hy, if_false] at h
      split at h
      · simp at h
      · rename_i v hl
        split at h
        · simp at h
        · rename_i st2 vs hrest
          simp only [Except.ok.injEq, Prod.mk.injEq] at h
          obtain ⟨rfl, rfl⟩ := h
          obtain ⟨a, b, c, d⟩ := ih _ _ _ hrest hV
          have hname : (V v).name = some y := hT _ (lookup_mem _ _ _ hl)
          have ht : nameTruthy (V v).name = true := by simp [nameTruthy, hname, hy]
          refine ⟨fun w hw => ?_, fun w hw htw => ?_, ?_, ?_⟩
          · simp only [List.mem_cons] at hw
            rcases hw with rfl | hw
            · rw [hname]; simp
            · exact a w hw
          · simp only [List.mem_cons] at hw
            rcases hw with rfl | hw
            · rw [nm_of_name hname]; exact hl
            · exact b w hw htw
          · simp only [List.filter_cons, ht, Bool.not_true, Bool.false_eq_true, if_false]
            exact c
          · simp only [declared, List.filter_cons, ht, if_true, hy, ne_eq, not_false_eq_true, decide_true, List.map_cons,
              hl, Option.getD_some] at d ⊢
            rw [d]

theorem deserOutputs_frame2 (tbl : Table) (os : List VInfoP) :
    ∀ (st : Store), ∀ w, w < st.nv → w ∉ (deserOutputs st tbl os).2 → (deserOutputs st tbl os).1.vals w = st.vals w := fun st w hw hn =>
  (deserOutputs_steps (B := False) (PC := fun _ => False) tbl os st (Nat.le_refl _) False.elim).cell_keep w hw
    (fun h => h.elim hn (Nat.not_le_of_lt hw)) (fun h => h)

theorem deserOutputs_frame (tbl : Table) (os : List VInfoP) :
    ∀ (st : Store), ∀ w, w < st.nv → w ∉ tbl.map (·.2) → (deserOutputs st tbl os).1.vals w = st.vals w := fun st w hw hn =>
  deserOutputs_frame2 tbl os st w hw
    (fun hm => (deserOutputs_mem tbl os st w hm).elim hn (Nat.not_le_of_lt hw))

theorem deserOutputs_names (tbl : Table) (os : List VInfoP) :
    ∀ (st : Store), st.nv ≤ (deserOutputs st tbl os).1.nv ∧
      (∀ w, w < st.nv → ((deserOutputs st tbl os).1.vals w).name = (st.vals w).name) ∧
      (∀ w, w < st.nv → ((deserOutputs st tbl os).1.vals w).const = (st.vals w).const) := fun st =>
  have h := deserOutputs_steps (B := False) (PC := fun _ => False) tbl os st (Nat.le_refl _) False.elim
  ⟨h.nv_le, h.names, fun w hw => h.const_keep w hw (fun h => h)⟩

theorem repl_deserOutputs (V : Nat → ValueS) (tbl : Table) (hT : NamedV V tbl) :
    ∀ (os : List VInfoP) (st : Store), NamesAgree V (deserOutputs st tbl os).1 →
      (replOuts V tbl (deserOutputs st tbl os).2).ok ∧
      Incr st.nv (deserOutputs st tbl os).1.nv (replOuts V tbl (deserOutputs st tbl os).2).new := by
  intro os
  induction os with
  | nil => intro st _; exact ⟨trivial, Incr.nil _ _⟩
  | cons o os ih =>
    intro st hV
    simp only [deserOutputs] at hV ⊢
    cases hl : tbl.lookup o.name with
    | some v =>
      simp only [hl] at hV ⊢
      obtain ⟨a, b⟩ := ih _ hV
      have hname : (V v).name = some o.name := hT _ (lookup_mem _ _ _ hl)
      simp only [replOuts, nm_of_name hname, hl]
      exact ⟨⟨by rw [hname]; simp, trivial, a⟩, by simpa using b⟩
    | none =>
      simp only [hl, alloc_snd] at hV ⊢
      obtain ⟨a, b⟩ := ih _ hV
      obtain ⟨hle, hnames, _⟩ := deserOutputs_names tbl os (st.alloc { name := some o.name, info := o.info }).1
      simp only [alloc_nv] at hle hnames b
      have hname : (V st.nv).name = some o.name := by
        rw [hV st.nv (by omega), hnames st.nv (by omega)]
        simp
      simp only [replOuts, nm_of_name hname, hl]
      exact ⟨⟨by rw [hname]; simp, a⟩, Incr.cons (Nat.le_refl _) (by omega) b⟩

theorem replDecl_filter (V : Nat → ValueS) : ∀ (L : List Nat) (T : Table),
    (replDecl V T L).tbl = (replDecl V T (L.filter (fun v => nameTruthy (V v).name))).tbl ∧
    (replDecl V T L).new = (replDecl V T (L.filter (fun v => nameTruthy (V v).name))).new ∧
    ((replDecl V T L).ok ↔ (replDecl V T (L.filter (fun v => nameTruthy (V v).name))).ok ∧ ∀ v ∈ L, (V v).name ≠ none) := by
  intro L
  induction L with
  | nil => intro T; simp [replDecl]
  | cons v r ih =>
    intro T
    by_cases ht : nameTruthy (V v).name = true
    · obtain ⟨a, b, c⟩ := ih ((nm V v, v) :: T)
      simp only [List.filter_cons, ht, if_true, replDecl]
      refine ⟨a, by rw [b], ?_⟩
      rw [c]
      constructor
      · rintro ⟨h1, h2, h3⟩
        refine ⟨⟨h1, h2⟩, fun w hw => ?_⟩
        simp only [List.mem_cons] at hw
        rcases hw with rfl | hw
        · exact ne_none_of_truthy ht
        · exact h3 w hw
      · rintro ⟨⟨h1, h2⟩, h3⟩
        exact ⟨h1, h2, fun w hw => h3 w (List.mem_cons_of_mem _ hw)⟩
    · have hf : nameTruthy (V v).name = false := by simpa using ht
      obtain ⟨a, b, c⟩ := ih T
      simp only [List.filter_cons, hf, Bool.false_eq_true, if_false, replDecl]
      refine ⟨a, b, ?_⟩
      rw [c]
      constructor
      · rintro ⟨h1, h2, h3⟩
        refine ⟨h2, fun w hw => ?_⟩
        simp only [List.mem_cons] at hw
        rcases hw with rfl | hw
        · exact h1
        · exact h3 w hw
      · rintro ⟨h2, h3⟩
        exact ⟨h3 v List.mem_cons_self, h2, fun w hw => h3 w (List.mem_cons_of_mem _ hw)⟩

theorem declareOutputs_keep (vi : List (Name × Info)) (xs : List Name) :
    ∀ (st : Store) (tbl : Table) (st' : Store) (tbl' : Table), declareOutputs st tbl vi xs = .ok (st', tbl') →
      st.nv ≤ st'.nv ∧ (∀ v, v < st.nv → (st'.vals v).name = (st.vals v).name) ∧
      (∀ x v, tbl.lookup x = some v → tbl'.lookup x = some v) := by
  induction xs with
  | nil =>
    intro st tbl st' tbl' h
    simp only [declareOutputs, Except.ok.injEq, Prod.mk.injEq] at h
    obtain ⟨rfl, rfl⟩ := h
    exact ⟨Nat.le_refl _, fun _ _ => rfl, fun _ _ h => h⟩
  | cons x xs ih =>
    intro st tbl st' tbl' h
    simp only [declareOutputs] at h
    split at h
    · exact ih _ _ _ _ h
    · split at h
      · simp at h
      · rename_i hn
        obtain ⟨q, hnv⟩ := newNamed_quiet st vi x
        obtain ⟨a, b, c⟩ := ih _ _ _ _ h
        refine ⟨by omega, fun v hv => by rw [b v (by omega), q.names v hv], fun y v hy => ?_⟩
        apply c
        have hne : y ≠ x := fun e => by subst e; rw [hn] at hy; cases hy
        rw [lookup_cons_ne _ _ _ _ hne]; exact hy

theorem declareNodes_keep (vi : List (Name × Info)) (ns : List NodeP) :
    ∀ (st : Store) (tbl : Table) (st' : Store) (tbl' : Table), declareNodes st tbl vi ns = .ok (st', tbl') →
      st.nv ≤ st'.nv ∧ (∀ v, v < st.nv → (st'.vals v).name = (st.vals v).name) ∧
      (∀ x v, tbl.lookup x = some v → tbl'.lookup x = some v) := by
  induction ns with
  | nil =>
    intro st tbl st' tbl' h
    simp only [declareNodes, Except.ok.injEq, Prod.mk.injEq] at h
    obtain ⟨rfl, rfl⟩ := h
    exact ⟨Nat.le_refl _, fun _ _ => rfl, fun _ _ h => h⟩
  | cons n ns ih =>
    intro st tbl st' tbl' h
    simp only [declareNodes] at h
    split at h
    · simp at h
    · rename_i st1 tbl1 h1
      obtain ⟨a1, b1, c1⟩ := declareOutputs_keep vi _ _ _ _ _ h1
      obtain ⟨a2, b2, c2⟩ := ih _ _ _ _ h
      exact ⟨by omega, fun v hv => by rw [b2 v (by omega), b1 v hv], fun x v hx => c2 x v (c1 x v hx)⟩

theorem repl_declareOutputs (V : Nat → ValueS) (vi : List (Name × Info)) (Tf : Table) :
    ∀ (xs : List Name) (st : Store) (tbl : Table) (st' : Store) (tbl' : Table),
      declareOutputs st tbl vi xs = .ok (st', tbl') → NamesAgree V st' →
      (∀ x v, tbl'.lookup x = some v → Tf.lookup x = some v) →
      (replDecl V tbl (declared Tf xs)).tbl = tbl' ∧ (replDecl V tbl (declared Tf xs)).ok ∧
      (replDecl V tbl (declared Tf xs)).new = declared Tf xs ∧ Incr st.nv st'.nv (declared Tf xs) := by
  intro xs
  induction xs with
  | nil =>
    intro st tbl st' tbl' h _ _
    simp only [declareOutputs, Except.ok.injEq, Prod.mk.injEq] at h
    obtain ⟨rfl, rfl⟩ := h
    exact ⟨rfl, trivial, rfl, Incr.nil _ _⟩
  | cons x xs ih =>
    intro st tbl st' tbl' h hV hTf
    simp only [declareOutputs] at h
    by_cases hx : x = ""
    · simp only [hx, if_true] at h
      have : declared Tf ("" :: xs) = declared Tf xs := by simp [declared]
      rw [hx, this]
      exact ih _ _ _ _ h hV hTf
    · simp only [hx, if_false] at h
      split at h
      · simp at h
      · rename_i hn
        obtain ⟨q, hnv⟩ := newNamed_quiet st vi x
        obtain ⟨hle, hkeep, hlk⟩ := declareOutputs_keep vi _ _ _ _ _ h
        obtain ⟨a, b, c, d⟩ := ih _ _ _ _ h hV hTf
        have hhead : (Tf.lookup x).getD 0 = st.nv := by
          rw [hTf x st.nv (hlk x st.nv (lookup_cons_self _ _ _))]; rfl
        have hdecl : declared Tf (x :: xs) = st.nv :: declared Tf xs := by
          simp [declared, hx, hhead]
        have hname : (V st.nv).name = some x := by
          rw [hV st.nv (by omega), hkeep st.nv (by omega), newNamed_name]
        have ht : nameTruthy (V st.nv).name = true := by simp [nameTruthy, hname, hx]
        rw [hdecl]
        simp only [replDecl, ht, if_true, nm_of_name hname]
        exact ⟨a, ⟨hn, b⟩, by rw [c], Incr.cons (Nat.le_refl _) (by omega) (by rw [hnv] at d; exact d)⟩

theorem repl_declareNodes (V : Nat → ValueS) (vi : List (Name × Info)) (Tf : Table) :
    ∀ (ns : List NodeP) (st : Store) (tbl : Table) (st' : Store) (tbl' : Table),
      declareNodes st tbl vi ns = .ok (st', tbl') → NamesAgree V st' →
      (∀ x v, tbl'.lookup x = some v → Tf.lookup x = some v) →
      (replDecl V tbl (ns.flatMap fun n => declared Tf n.outputs)).tbl = tbl' ∧
      (replDecl V tbl (ns.flatMap fun n => declared Tf n.outputs)).ok ∧
      (replDecl V tbl (ns.flatMap fun n => declared Tf n.outputs)).new = (ns.flatMap fun n => declared Tf n.outputs) ∧
      Incr st.nv st'.nv (ns.flatMap fun n => declared Tf n.outputs) := by
  intro ns
  induction ns with
  | nil =>
    intro st tbl st' tbl' h _ _
    simp only [declareNodes, Except.ok.injEq, Prod.mk.injEq] at h
    obtain ⟨rfl, rfl⟩ := h
    exact ⟨rfl, trivial, rfl, Incr.nil _ _⟩
  | cons n ns ih =>
    intro st tbl st' tbl' h hV hTf
    simp only [declareNodes] at h
    split at h
    · simp at h
    · rename_i st1 tbl1 h1
      obtain ⟨le2, keep2, lk2⟩ := declareNodes_keep vi _ _ _ _ _ h
      obtain ⟨le1, _, _⟩ := declareOutputs_keep vi _ _ _ _ _ h1
      have hV1 : NamesAgree V st1 := fun v hv => by rw [hV v (by omega), keep2 v hv]
      obtain ⟨a1, b1, c1, d1⟩ := repl_declareOutputs V vi Tf n.outputs st tbl st1 tbl1 h1 hV1
        (fun x v hx => hTf x v (lk2 x v hx))
      obtain ⟨a2, b2, c2, d2⟩ := ih st1 tbl1 st' tbl' h hV hTf
      simp only [List.flatMap_cons]
      obtain ⟨at1, an1, ao1⟩ := replDecl_append V (declared Tf n.outputs) (ns.flatMap fun n => declared Tf n.outputs) tbl
      rw [at1, an1, ao1, a1, c1, c2]
      exact ⟨a2, ⟨b1, b2⟩, rfl, d1.append d2 le1 le2⟩

/-- `{v.name: v for v in values}` on top of `d`, names read from `V` -/
def dictOf (V : Nat → ValueS) : List (Name × Nat) → List Nat → List (Name × Nat)
  | d, [] => d
  | d, v :: vs => dictOf V (dictInsert d (nm V v) v) vs

theorem initDict_eq_dictOf (V : Nat → ValueS) (st : Store) : ∀ (vs : List Nat) (d : List (Name × Nat)),
    (∀ v ∈ vs, (st.vals v).name = (V v).name) → initDict st d vs = dictOf V d vs := by
  intro vs
  induction vs with
  | nil => intro d _; rfl
  | cons v vs ih =>
    intro d h
    simp only [initDict, dictOf]
    rw [h v List.mem_cons_self]
    exact ih _ (fun w hw => h w (List.mem_cons_of_mem _ hw))

theorem replInits_append (V : Nat → ValueS) (go : List Nat) : ∀ (l1 l2 : List (Name × Nat)) (T : Table),
    (replInits V go T (l1 ++ l2)).tbl = (replInits V go (replInits V go T l1).tbl l2).tbl ∧
    (replInits V go T (l1 ++ l2)).new = (replInits V go T l1).new ++ (replInits V go (replInits V go T l1).tbl l2).new ∧
    ((replInits V go T (l1 ++ l2)).ok ↔ (replInits V go T l1).ok ∧ (replInits V go (replInits V go T l1).tbl l2).ok) := by
  intro l1
  induction l1 with
  | nil => intro l2 T; simp [replInits]
  | cons e r ih =>
    obtain ⟨k, v⟩ := e
    intro l2 T
    simp only [List.cons_append, replInits]
    split
    · obtain ⟨a, b, c⟩ := ih l2 T
      refine ⟨a, b, ?_⟩
      rw [c]
      exact ⟨fun h => ⟨⟨h.1, h.2.1, h.2.2.1⟩, h.2.2.2⟩, fun h => ⟨h.1.1, h.1.2.1, h.1.2.2, h.2⟩⟩
    · obtain ⟨a, b, c⟩ := ih l2 ((k, v) :: T)
      refine ⟨a, by simp [b], ?_⟩
      rw [c]
      exact ⟨fun h => ⟨⟨h.1, h.2.1, h.2.2.1⟩, h.2.2.2⟩, fun h => ⟨h.1.1, h.1.2.1, h.1.2.2, h.2⟩⟩

theorem dictInsert_same (d : List (Name × Nat)) (k : Name) (v : Nat) (hm : (k, v) ∈ d) (hnd : (d.map (·.1)).Nodup) :
    dictInsert d k v = d :=
  (dictInsert_eq_kvSet d k v).trans (kvSet_same d k v hm hnd)

theorem initInfo_full (vi : List (Name × Info)) (k : Name) (tp : TensorP) :
    (initInfo vi k tp).ty ≠ none ∧ (initInfo vi k tp).sh ≠ none := by
  unfold initInfo
  split
  · rename_i i _
    cases hty : i.ty <;> cases hsh : i.sh <;> simp [Info.orTensor, tensorInfo, hty, hsh]
  · simp [tensorInfo]

theorem deserInits_keep (vi : List (Name × Info)) (ts : List TensorP) :
    ∀ (st : Store) (tbl : Table),
      st.nv ≤ (deserInits st tbl vi ts).1.nv ∧
      (∀ v, v < st.nv → ((deserInits st tbl vi ts).1.vals v).name = (st.vals v).name) ∧
      (∀ v, v < st.nv → ((deserInits st tbl vi ts).1.vals v).info = (st.vals v).info) ∧
      (∀ v, v < st.nv → (st.vals v).const ≠ none → ((deserInits st tbl vi ts).1.vals v).const ≠ none) := fun st tbl =>
  have h := deserInits_steps (B := False) vi ts st tbl (Nat.le_refl _) False.elim
  ⟨h.nv_le, h.names, fun v hv => h.info_keep v hv (Nat.not_le_of_lt hv), h.const_some⟩

theorem deserInits_cells (vi : List (Name × Info)) (ts : List TensorP) :
    ∀ (st : Store) (tbl : Table), TableLt st tbl →
      (∀ v ∈ (deserInits st tbl vi ts).2.2, ((deserInits st tbl vi ts).1.vals v).const ≠ none) ∧
      (∀ v ∈ (deserInits st tbl vi ts).2.2, st.nv ≤ v →
        ((deserInits st tbl vi ts).1.vals v).info.ty ≠ none ∧ ((deserInits st tbl vi ts).1.vals v).info.sh ≠ none) ∧
      (∀ v ∈ (deserInits st tbl vi ts).2.2, v < (deserInits st tbl vi ts).1.nv) := by
  induction ts with
  | nil => intro st tbl _; simp [deserInits]
  | cons t ts ih =>
    intro st tbl hlt
    simp only [deserInits]
    split
    · exact ih st tbl hlt
    · split
      · rename_i v hv
        have hvlt : v < st.nv := hlt _ (lookup_mem _ _ _ hv)
        obtain ⟨a, b, c⟩ := ih ((st.allocTensor { name := some t.name, data := t.data, ty := t.ty, sh := t.sh }).1.modify v
          fun c => { c with const := some st.nt }) tbl (fun e he => by simpa using hlt e he)
        obtain ⟨k1, _, _, k4⟩ := deserInits_keep vi ts ((st.allocTensor { name := some t.name, data := t.data, ty := t.ty, sh := t.sh }).1.modify v
          fun c => { c with const := some st.nt }) tbl
        refine ⟨fun w hw => ?_, fun w hw hge => ?_, fun w hw => ?_⟩
        · simp only [List.mem_cons] at hw
          rcases hw with rfl | hw
          · exact k4 w (by simpa using hvlt) (by simp)
          · exact a w hw
        · simp only [List.mem_cons] at hw
          rcases hw with rfl | hw
          · omega
          · exact b w hw (by simpa using hge)
        · simp only [List.mem_cons] at hw
          rcases hw with rfl | hw
          · simp only [modify_nv, allocTensor_nv] at k1
            show w < (deserInits _ _ vi ts).1.nv
            omega
          · exact c w hw
      · obtain ⟨q, hnv⟩ := newInit_quiet (st.allocTensor { name := some t.name, data := t.data, ty := t.ty, sh := t.sh }).1 vi t st.nt
        obtain ⟨nc1, nc2, nc3, _, _⟩ := newInit_cell (st.allocTensor { name := some t.name, data := t.data, ty := t.ty, sh := t.sh }).1 vi t st.nt
        have h0 : (st.allocTensor { name := some t.name, data := t.data, ty := t.ty, sh := t.sh }).1.nv = st.nv := rfl
        obtain ⟨a, b, c⟩ := ih (newInit (st.allocTensor { name := some t.name, data := t.data, ty := t.ty, sh := t.sh }).1 vi t st.nt)
          ((t.name, st.nv) :: tbl) (fun e he => by
            rw [hnv, h0]
            simp only [List.mem_cons] at he
            rcases he with rfl | he
            · simp
            · have := hlt e he; omega)
        obtain ⟨k1, _, k3, k4⟩ := deserInits_keep vi ts (newInit (st.allocTensor { name := some t.name, data := t.data, ty := t.ty, sh := t.sh }).1 vi t st.nt)
          ((t.name, st.nv) :: tbl)
        rw [hnv, h0] at k1 k3 k4 b
        refine ⟨fun w hw => ?_, fun w hw hge => ?_, fun w hw => ?_⟩
        · simp only [List.mem_cons] at hw
          rcases hw with rfl | hw
          · apply k4 st.nv (by omega)
            rw [← h0, nc2]; simp
          · exact a w hw
        · simp only [List.mem_cons] at hw
          rcases hw with rfl | hw
          · show ((deserInits _ _ vi ts).1.vals st.nv).info.ty ≠ none ∧ ((deserInits _ _ vi ts).1.vals st.nv).info.sh ≠ none
            rw [k3 st.nv (by omega), ← h0, nc1]
            exact initInfo_full vi t.name t
          · by_cases hw0 : w = st.nv
            · subst hw0
              show ((deserInits _ _ vi ts).1.vals st.nv).info.ty ≠ none ∧ ((deserInits _ _ vi ts).1.vals st.nv).info.sh ≠ none
              rw [k3 st.nv (by omega), ← h0, nc1]
              exact initInfo_full vi t.name t
            · exact b w hw (by omega)
        · simp only [List.mem_cons] at hw
          rcases hw with rfl | hw
          · show st.nv < (deserInits _ _ vi ts).1.nv
            omega
          · exact c w hw

theorem mem_keys_lookup {d : List (Name × Nat)} {k : Name} (h : k ∈ d.map (·.1)) : ∃ u, (k, u) ∈ d := by
  simp only [List.mem_map] at h
  obtain ⟨e, he, rfl⟩ := h
  exact ⟨e.2, he⟩

theorem repl_deserInits (V : Nat → ValueS) (go : List Nat) (vi : List (Name × Info)) (T0 : Table) :
    ∀ (ts : List TensorP) (st : Store) (tbl : Table) (d0 : List (Name × Nat)),
      (replInits V go T0 d0).tbl = tbl → (replInits V go T0 d0).ok → (d0.map (·.1)).Nodup →
      (∀ e ∈ d0, tbl.lookup e.1 = some e.2) → NamedV V tbl → TableLt st tbl →
      NamesAgree V (deserInits st tbl vi ts).1 →
      (∀ v ∈ (deserInits st tbl vi ts).2.2, (V v).const ≠ none) →
      (∀ v ∈ (deserInits st tbl vi ts).2.2, st.nv ≤ v → v ∉ go → (V v).info.ty ≠ none ∧ (V v).info.sh ≠ none) →
      (replInits V go T0 (dictOf V d0 (deserInits st tbl vi ts).2.2)).tbl = (deserInits st tbl vi ts).2.1 ∧
      (replInits V go T0 (dictOf V d0 (deserInits st tbl vi ts).2.2)).ok ∧
      (∃ N, (replInits V go T0 (dictOf V d0 (deserInits st tbl vi ts).2.2)).new = (replInits V go T0 d0).new ++ N ∧
        Incr st.nv (deserInits st tbl vi ts).1.nv N) ∧
      NamedV V (deserInits st tbl vi ts).2.1 ∧
      ((dictOf V d0 (deserInits st tbl vi ts).2.2).map (·.1)).Nodup := by
  intro ts
  induction ts with
  | nil =>
    intro st tbl d0 h1 h2 h3 _ h5 _ _ _ _
    exact ⟨h1, h2, ⟨[], by simp [deserInits, dictOf], Incr.nil _ _⟩, h5, h3⟩
  | cons t ts ih =>
    intro st tbl d0 h1 h2 h3 h4 h5 hlt hV hc hi
    simp only [deserInits] at hV hc hi ⊢
    by_cases hk : t.name = ""
    · simp only [hk, if_true] at hV hc hi ⊢
      exact ih st tbl d0 h1 h2 h3 h4 h5 hlt hV hc hi
    · simp only [hk, if_false] at hV hc hi ⊢
      cases hl : tbl.lookup t.name with
      | some v =>
        simp only [hl] at hV hc hi ⊢
        have hvname : (V v).name = some t.name := h5 _ (lookup_mem _ _ _ hl)
        have hnmv : nm V v = t.name := nm_of_name hvname
        have hvlt : v < st.nv := hlt _ (lookup_mem _ _ _ hl)
        simp only [dictOf, hnmv]
        have hlt' : TableLt ((st.allocTensor { name := some t.name, data := t.data, ty := t.ty, sh := t.sh }).1.modify v
            fun c => { c with const := some st.nt }) tbl := fun e he => by simpa using hlt e he
        by_cases hmem : t.name ∈ d0.map (·.1)
        · -- the key is already in the dict, with the same value
          obtain ⟨u, hu⟩ := mem_keys_lookup hmem
          have := h4 _ hu
          simp only at this
          rw [hl] at this
          have huv : v = u := Option.some.inj this
          subst huv
          rw [dictInsert_same d0 t.name v hu h3]
          exact ih _ tbl d0 h1 h2 h3 h4 h5 hlt' hV (fun w hw => hc w (List.mem_cons_of_mem _ hw))
            (fun w hw hge => hi w (List.mem_cons_of_mem _ hw) (by simpa using hge))
        · rw [dictInsert_fresh d0 t.name v hmem]
          obtain ⟨at1, an1, ao1⟩ := replInits_append V go d0 [(t.name, v)] T0
          have e1 : (replInits V go tbl [(t.name, v)]).tbl = tbl := by simp [replInits, hl]
          have e2 : (replInits V go tbl [(t.name, v)]).new = [] := by simp [replInits, hl]
          have e3 : (replInits V go tbl [(t.name, v)]).ok := by
            simp only [replInits, hl]
            exact ⟨⟨hvname, hk, hc v List.mem_cons_self⟩, trivial, trivial⟩
          rw [h1] at at1 an1 ao1
          have hres := ih _ tbl (d0 ++ [(t.name, v)]) (by rw [at1, e1]) (ao1.mpr ⟨h2, e3⟩)
            (by
              rw [List.map_append, List.nodup_append]
              exact ⟨h3, by simp, fun a ha b hb hab => by
                simp only [List.map_cons, List.map_nil, List.mem_singleton] at hb
                subst hb; subst hab; exact hmem ha⟩)
            (fun e he => by
              simp only [List.mem_append, List.mem_singleton] at he
              rcases he with he | rfl
              · exact h4 e he
              · exact hl)
            h5 hlt' hV (fun w hw => hc w (List.mem_cons_of_mem _ hw)) (fun w hw hge => hi w (List.mem_cons_of_mem _ hw) (by simpa using hge))
          obtain ⟨r1, r2, ⟨N, r3, r4⟩, r5, r6⟩ := hres
          refine ⟨r1, r2, ⟨N, ?_, by simpa using r4⟩, r5, r6⟩
          rw [r3, an1, e2]; simp
      | none =>
        simp only [hl] at hV hc hi ⊢
        obtain ⟨q, hnv⟩ := newInit_quiet (st.allocTensor { name := some t.name, data := t.data, ty := t.ty, sh := t.sh }).1 vi t st.nt
        have h0 : (st.allocTensor { name := some t.name, data := t.data, ty := t.ty, sh := t.sh }).1.nv = st.nv := rfl
        obtain ⟨k1, k2, _, _⟩ := deserInits_keep vi ts (newInit (st.allocTensor { name := some t.name, data := t.data, ty := t.ty, sh := t.sh }).1 vi t st.nt)
          ((t.name, st.nv) :: tbl)
        rw [hnv, h0] at k1 k2
        have hvname : (V st.nv).name = some t.name := by
          rw [hV st.nv (by show st.nv < (deserInits _ _ vi ts).1.nv; omega)]
          show ((deserInits _ _ vi ts).1.vals st.nv).name = _
          rw [k2 st.nv (by omega), ← h0, newInit_name]
        have hnmv : nm V st.nv = t.name := nm_of_name hvname
        simp only [dictOf, hnmv]
        have hmem : t.name ∉ d0.map (·.1) := by
          intro hm
          obtain ⟨u, hu⟩ := mem_keys_lookup hm
          have := h4 _ hu
          simp only at this
          rw [hl] at this
          cases this
        rw [dictInsert_fresh d0 t.name st.nv hmem]
        obtain ⟨at1, an1, ao1⟩ := replInits_append V go d0 [(t.name, st.nv)] T0
        rw [h1] at at1 an1 ao1
        have e1 : (replInits V go tbl [(t.name, st.nv)]).tbl = (t.name, st.nv) :: tbl := by simp [replInits, hl]
        have e2 : (replInits V go tbl [(t.name, st.nv)]).new = [st.nv] := by simp [replInits, hl]
        have e3 : (replInits V go tbl [(t.name, st.nv)]).ok := by
          simp only [replInits, hl]
          exact ⟨⟨hvname, hk, hc st.nv List.mem_cons_self⟩, fun hgo => hi st.nv List.mem_cons_self (Nat.le_refl _) hgo, trivial⟩
        have hlt' : TableLt (newInit (st.allocTensor { name := some t.name, data := t.data, ty := t.ty, sh := t.sh }).1 vi t st.nt)
            ((t.name, st.nv) :: tbl) := fun e he => by
          rw [hnv, h0]
          simp only [List.mem_cons] at he
          rcases he with rfl | he
          · simp
          · have := hlt e he; omega
        have hres := ih _ ((t.name, st.nv) :: tbl) (d0 ++ [(t.name, st.nv)]) (by rw [at1, e1]) (ao1.mpr ⟨h2, e3⟩)
          (by
            rw [List.map_append, List.nodup_append]
            exact ⟨h3, by simp, fun a ha b hb hab => by
              simp only [List.map_cons, List.map_nil, List.mem_singleton] at hb
              subst hb; subst hab; exact hmem ha⟩)
          (fun e he => by
            simp only [List.mem_append, List.mem_singleton] at he
            rcases he with he | rfl
            · have hb := h4 e he
              have hne : e.1 ≠ t.name := fun heq => by rw [heq, hl] at hb; cases hb
              rw [lookup_cons_ne _ _ _ _ hne]; exact hb
            · exact lookup_cons_self _ _ _)
          (h5.cons hvname) hlt' hV (fun w hw => hc w (List.mem_cons_of_mem _ hw))
          (fun w hw hge => hi w (List.mem_cons_of_mem _ hw) (by rw [hnv, h0] at hge; omega))
        obtain ⟨r1, r2, ⟨N, r3, r4⟩, r5, r6⟩ := hres
        refine ⟨r1, r2, ⟨st.nv :: N, ?_, ?_⟩, r5, r6⟩
        · rw [r3, an1, e2]; simp
        · rw [hnv, h0] at r4
          exact Incr.cons (Nat.le_refl _) (by show st.nv < (deserInits _ _ vi ts).1.nv; omega) r4

theorem deserInputs_name_list (is : List VInfoP) : ∀ (st : Store),
    (deserInputs st is).2.map (fun v => ((deserInputs st is).1.vals v).name) = is.map (fun i => some i.name) := by
  induction is with
  | nil => intro st; rfl
  | cons i is ih =>
    intro st
    simp only [deserInputs, List.map_cons, alloc_snd]
    obtain ⟨q, _, _⟩ := deserInputs_spec (st.alloc { name := some i.name, info := i.info }).1 is
    congr 1
    · rw [q.names st.nv (by simp)]; simp
    · exact ih _

theorem tblIns_eq_zip (V : Nat → ValueS) (ins : List Nat) : tblIns V ins = ((ins.map (nm V)).zip ins).reverse := by
  simp only [tblIns]
  congr 1
  induction ins with
  | nil => rfl
  | cons a r ih => simp [ih]

theorem tblIns_eq_inputTable (V : Nat → ValueS) (is : List VInfoP) (ins : List Nat)
    (h : ins.map (fun v => (V v).name) = is.map (fun i => some i.name)) : tblIns V ins = inputTable is ins := by
  have h2 : is.map (·.name) = ins.map (nm V) := by
    have := congrArg (List.map (fun o : Option Name => o.getD "")) h
    rw [List.map_map, List.map_map] at this
    exact this.symm
  simp only [tblIns_eq_zip, inputTable, h2]

theorem liveOuts_setGraph (V : Nat → ValueS) (gid : Nat) (n : NodeT) : liveOuts V (n.setGraph gid) = liveOuts V n := by
  obtain ⟨i, g, a, b, c⟩ := n; rfl

theorem flatMap_liveOuts_setGraph (V : Nat → ValueS) (gid : Nat) (ns : List NodeT) :
    (ns.map (NodeT.setGraph gid)).flatMap (liveOuts V) = ns.flatMap (liveOuts V) := by
  induction ns with
  | nil => rfl
  | cons n ns ih => simp only [List.map_cons, List.flatMap_cons, liveOuts_setGraph, ih]

theorem replNs_setGraph (V : Nat → ValueS) (outer : List Table) (gid : Nat) : ∀ (ns : List NodeT) (T : Table),
    replNs V outer T (ns.map (NodeT.setGraph gid)) = replNs V outer T ns := by
  intro ns
  induction ns with
  | nil => intro T; rfl
  | cons n ns ih =>
    intro T
    obtain ⟨i, g, a, b, c⟩ := n
    simp only [List.map_cons, NodeT.setGraph, replNs, replN, ih]

theorem replNs_live_names (V : Nat → ValueS) (outer : List Table) : ∀ (ns : List NodeT) (T : Table),
    (replNs V outer T ns).ok → ∀ v ∈ ns.flatMap (liveOuts V), (V v).name ≠ none := by
  intro ns
  induction ns with
  | nil => intro T _ v hv; simp at hv
  | cons n ns ih =>
    intro T hok v hv
    obtain ⟨i, g, a, b, c⟩ := n
    simp only [replNs, replN] at hok
    simp only [List.flatMap_cons, List.mem_append, liveOuts] at hv
    rcases hv with hv | hv
    · exact hok.1.2.1 v hv
    · exact ih _ hok.2 v hv

theorem flatMap_congr_map {α β : Type} {l1 : List α} {l2 : List β} {f : α → List Nat} {g : β → List Nat}
    (h : l1.map f = l2.map g) : l1.flatMap f = l2.flatMap g := by
  show (l1.map f).flatten = (l2.map g).flatten
  rw [h]

def CellAgree (V : Nat → ValueS) (st : Store) (v : Nat) : Prop :=
  (V v).info = (st.vals v).info ∧ (V v).const = (st.vals v).const

/-- names agree with an earlier store when they agree with a later one: a name is final once its cell is allocated -/
theorem NamesAgree.back {V : Nat → ValueS} {st st' : Store} (hle : st.nv ≤ st'.nv)
    (hn : ∀ v, v < st.nv → (st'.vals v).name = (st.vals v).name) (hV : NamesAgree V st') : NamesAgree V st :=
  fun v hv => by rw [hV v (Nat.lt_of_lt_of_le hv hle), hn v hv]

theorem NamesAgree.of_mono {V : Nat → ValueS} {b : Nat} {st st' : Store} (m : Mono b st st') (hV : NamesAgree V st') :
    NamesAgree V st := hV.back m.nv_le m.names

theorem NamesAgree.of_quiet {V : Nat → ValueS} {st st' : Store} (q : Quiet st st') (hV : NamesAgree V st') :
    NamesAgree V st := hV.back q.nv_le q.names

/-- the cells a node leaves unbound stay unbound and untouched while the nodes after it are read -/
theorem CellAgree.head {V : Nat → ValueS} {st1 st' : Store} {top1 top' : Table} {lo : Nat}
    (stb : Stable st1.nv top1 top') (p : Prim st1.nv st1 st') (hle : st1.nv ≤ st'.nv)
    (hC : ∀ v, lo ≤ v → v < st'.nv → v ∉ top'.map (·.2) → CellAgree V st' v) :
    ∀ v, lo ≤ v → v < st1.nv → v ∉ top1.map (·.2) → CellAgree V st1 v := fun v hge hlt hnt => by
  have hnt' : v ∉ top'.map (·.2) := fun hm => by
    obtain ⟨e, he, rfl⟩ := List.mem_map.mp hm
    rcases stb.grow e he with h' | h'
    · exact hnt (List.mem_map_of_mem h')
    · omega
  have := hC v hge (Nat.lt_of_lt_of_le hlt hle) hnt'
  rwa [CellAgree, (p.cell v hlt).1, (p.cell v hlt).2] at this

def InT (T : Table) (v : Nat) : Prop := ∃ k, (k, v) ∈ T

/-- the run of one graph against the certificate read with the names of `V` -/
structure GraphTables (V : Nat → ValueS) (outer : List Table) (st : Store) (inputs : List VInfoP) (nodes : List NodeP)
    (ins : List Nat) (tbl2 : Table) (iv : List Nat) (st3 : Store) (tbl3 : Table) (st4 : Store) (tbl4 : Table)
    (ns : List NodeT) (st5 : Store) (outs : List Nat) : Prop where
  t1 : tblIns V ins = inputTable inputs ins
  t2 : (replInits V outs (inputTable inputs ins) (mkGraphInits st5 ins outs iv)).tbl = tbl2
  t3 : (replDecl V tbl2 (ns.flatMap (liveOuts V))).tbl = tbl3
  t4 : (replNs V outer tbl3 ns).tbl = tbl4
  outs_ok : (replOuts V tbl4 outs).ok
  outs_new : Incr st4.nv st5.nv (replOuts V tbl4 outs).new
  live : (ns.flatMap (liveOuts V)).filter (fun v => nameTruthy (V v).name) =
    nodes.flatMap (fun n => declared tbl3 n.outputs)
  named4 : NamedV V tbl4
  ins_in : ∀ v ∈ ins, InT tbl4 v
  inits_in : ∀ e ∈ mkGraphInits st5 ins outs iv, InT tbl4 e.2
  decl_in : ∀ v ∈ nodes.flatMap (fun n => declared tbl3 n.outputs), InT tbl4 v
  hdecl : ∀ n ∈ nodes, ∀ y ∈ n.outputs, y ≠ "" → ∃ u, tbl3.lookup y = some u
  hV4 : NamesAgree V st4
  hCN : ∀ v, st3.nv ≤ v → v < st4.nv → v ∉ tbl4.map (·.2) → CellAgree V st4 v
  ins_names : ∀ v ∈ ins, (V v).name ≠ none
  keys : ((mkGraphInits st5 ins outs iv).map (·.1)).Nodup
  inits_ok : (replInits V outs (inputTable inputs ins) (mkGraphInits st5 ins outs iv)).ok
  decl_ok : (replDecl V tbl2 (ns.flatMap (liveOuts V))).ok
  nodes_ok : (replNs V outer tbl3 ns).ok
  new : Incr st.nv st5.nv (ins ++ (replInits V outs (inputTable inputs ins) (mkGraphInits st5 ins outs iv)).new ++
    (replDecl V tbl2 (ns.flatMap (liveOuts V))).new ++ (replNs V outer tbl3 ns).new ++ (replOuts V tbl4 outs).new)

/-- given what the run of the nodes establishes (the induction hypothesis, or `deser_repl_nodes`) -/
theorem deserGraph_tables_of {inputs : List VInfoP} {inits : List TensorP} {vinfo : List VInfoP} {nodes : List NodeP}
    {outputs : List VInfoP} {st : Store} {outer : List Table} {st1 : Store} {ins : List Nat} {st2 : Store} {tbl2 : Table}
    {iv : List Nat} {st3 : Store} {tbl3 : Table} {st4 : Store} {tbl4 : Table} {ns : List NodeT} {st5 : Store}
    {outs : List Nat}
    (r : GraphRun st outer inputs inits vinfo nodes outputs st1 ins st2 tbl2 iv st3 tbl3 st4 tbl4 ns st5 outs)
    (hf : Fresh st) (ho : TablesLt st outer) (hon : ∀ T ∈ outer, Named st T)
    (V : Nat → ValueS) (hV : NamesAgree V (mkGraph st5 ins outs ns iv).1)
    (hC : ∀ v, st.nv ≤ v → v < (mkGraph st5 ins outs ns iv).1.nv → CellAgree V (mkGraph st5 ins outs ns iv).1 v)
    (hN : Fresh st3 → TblOK st3 st.nv tbl3 → TablesLt st3 outer → st.nv ≤ st3.nv → Named st3 tbl3 →
      (∀ T ∈ outer, Named st3 T) → (∀ n ∈ nodes, ∀ y ∈ n.outputs, y ≠ "" → ∃ u, tbl3.lookup y = some u) →
      NamesAgree V st4 → (∀ v, st3.nv ≤ v → v < st4.nv → v ∉ tbl4.map (·.2) → CellAgree V st4 v) →
      (replNs V outer tbl3 ns).tbl = tbl4 ∧ (replNs V outer tbl3 ns).ok ∧
      Incr st3.nv st4.nv (replNs V outer tbl3 ns).new ∧
      ns.map (fun n => (liveOuts V n).filter (fun v => nameTruthy (V v).name)) =
        nodes.map (fun n => declared tbl3 n.outputs)) :
    GraphTables V outer st inputs nodes ins tbl2 iv st3 tbl3 st4 tbl4 ns st5 outs := by
  obtain ⟨q1, hnv1, hins, ok1, f1, q2, ok2, stb2, miv, f2, le2, q3, ok3, stb3, m3, _, f3, _, le3, f4, m4, ok4, stb4, le4,
    q5, mo, _, _, _, _⟩ := r.frame hf ho
  have h3 := r.hdecl
  have h4 := r.hnodes
  have n1 := deserInputs_named inputs st
  have hnl := deserInputs_name_list inputs st
  rw [r.hin] at n1 hnl
  have n2 := deserInits_named (vinfoTable vinfo) inits st1 _ n1 ok1.lt
  obtain ⟨cc1, cc2, cc3⟩ := deserInits_cells (vinfoTable vinfo) inits st1 (inputTable inputs ins) ok1.lt
  rw [r.hinit] at n2 cc1 cc2 cc3
  have n3 := declareNodes_named (vinfoTable vinfo) nodes _ _ st3 tbl3 n2 ok2.lt h3
  obtain ⟨_, n4⟩ := deserNodes_tree nodes st3 tbl3 outer (vinfoTable vinfo) st.nv st4 tbl4 ns f3 ok3
    (ho.mono le3) le3 n3 h4
  have p3 := declareNodes_prim st2.nv (vinfoTable vinfo) nodes st2 _ st3 _ (Nat.le_refl _) h3
  have p4 := deserNodes_prim2 st3.nv nodes st3 tbl3 outer (vinfoTable vinfo) st.nv st4 tbl4 ns f3 ok3 (ho.mono le3) le3
    (Nat.le_refl _) h4
  obtain ⟨_, _, o5c⟩ := deserOutputs_names tbl4 outputs st4
  have ofr := deserOutputs_frame tbl4 outputs st4
  have ofr2 := deserOutputs_frame2 tbl4 outputs st4
  rw [r.houts] at o5c ofr ofr2
  obtain ⟨c1, _, _⟩ := mkGraph_fst_counters st5 ins outs ns iv
  have hcell := mkGraph_cell st5 ins outs ns iv
  have hV5 : NamesAgree V st5 := fun v hv => by rw [hV v (by rw [c1]; exact hv), hcell]
  have hV4 := hV5.of_quiet q5
  have hV3 := hV4.of_mono m4
  have hV2 := hV3.of_quiet q3
  have hV1 := hV2.of_quiet q2
  have hC5 : ∀ v, st.nv ≤ v → v < st5.nv → CellAgree V st5 v := fun v h1 h2 => by
    have := hC v h1 (by rw [c1]; exact h2)
    rw [CellAgree, hcell] at this
    exact this
  have hinsV : ins.map (fun v => (V v).name) = inputs.map (fun i => some i.name) := by
    rw [← hnl]
    apply List.map_congr_left
    intro v hv
    have hvlt : v < st1.nv := by
      rw [hins, List.mem_range'_1] at hv
      rw [hnv1]; omega
    exact hV1 v hvlt
  have E1 := tblIns_eq_inputTable V inputs ins hinsV
  have hins_n : ∀ v ∈ ins, (V v).name ≠ none := by
    intro v hv
    have : (V v).name ∈ ins.map (fun v => (V v).name) := List.mem_map_of_mem hv
    rw [hinsV, List.mem_map] at this
    obtain ⟨i, _, hi⟩ := this
    rw [← hi]; simp
  have I1 : Incr st.nv st1.nv ins := by
    rw [hins, hnv1]; exact incr_range' _ _
  have hinitlt : ∀ v ∈ iv, st.nv ≤ v ∧ v < st2.nv := by
    intro v hv
    obtain ⟨x, _, hx⟩ := miv v hv
    exact ⟨ok2.ge _ hx, ok2.lt _ hx⟩
  have hdict : mkGraphInits st5 ins outs iv = dictOf V [] iv := by
    unfold mkGraphInits
    apply initDict_eq_dictOf
    intro v hv
    have hlt := (hinitlt v hv).2
    have hlt5 : v < st5.nv := Nat.lt_of_lt_of_le hlt (Nat.le_trans q3.nv_le (Nat.le_trans m4.nv_le q5.nv_le))
    rw [show ((setOwner (setOwner st5 st5.ng (fun c => { c with isIn := true }) ins) st5.ng
        (fun c => { c with isOut := true }) outs).vals v).name = (st5.vals v).name from
      (setOwner_name _ _ (fun c => { c with isOut := true }) (fun _ => rfl) _ _).trans
        (setOwner_name _ _ (fun c => { c with isIn := true }) (fun _ => rfl) _ _)]
    exact (hV5 v hlt5).symm
  have hconstV : ∀ v ∈ iv, (V v).const ≠ none := by
    intro v hv
    obtain ⟨hge, hlt⟩ := hinitlt v hv
    have hlt3 : v < st3.nv := Nat.lt_of_lt_of_le hlt q3.nv_le
    have hlt4 : v < st4.nv := Nat.lt_of_lt_of_le hlt3 m4.nv_le
    rw [(hC5 v hge (Nat.lt_of_lt_of_le hlt4 q5.nv_le)).2, o5c v hlt4, (p4.cell v hlt3).2, (p3.cell v hlt).2]
    exact cc1 v hv
  have hinfoV : ∀ v ∈ iv, st1.nv ≤ v → v ∉ outs → (V v).info.ty ≠ none ∧ (V v).info.sh ≠ none := by
    intro v hv hge1 hno
    obtain ⟨hge, hlt⟩ := hinitlt v hv
    have hlt3 : v < st3.nv := Nat.lt_of_lt_of_le hlt q3.nv_le
    have hlt4 : v < st4.nv := Nat.lt_of_lt_of_le hlt3 m4.nv_le
    rw [(hC5 v hge (Nat.lt_of_lt_of_le hlt4 q5.nv_le)).1, ofr2 v hlt4 hno, (p4.cell v hlt3).1, (p3.cell v hlt).1]
    exact cc2 v hv hge1
  have RI := repl_deserInits V outs (vinfoTable vinfo) (inputTable inputs ins) inits st1 (inputTable inputs ins) []
    (by simp [replInits]) (by simp [replInits]) (by simp) (fun _ he => by simp at he)
    (NamedV.of_named n1 ok1.lt hV1) ok1.lt (by rw [r.hinit]; exact hV2) (by rw [r.hinit]; exact hconstV)
    (by rw [r.hinit]; exact hinfoV)
  rw [r.hinit] at RI
  obtain ⟨ri1, ri2, ⟨N2, ri3, I2⟩, _, ri5⟩ := RI
  simp only [replInits, List.nil_append] at ri3
  have hdeclared : ∀ n ∈ nodes, ∀ y ∈ n.outputs, y ≠ "" → ∃ u, tbl3.lookup y = some u := by
    intro n hn y hy hne
    obtain ⟨_, v, hv, _⟩ := m3 y (by
      simp only [outNames, List.mem_filter, List.mem_flatMap]
      exact ⟨⟨n, hn, hy⟩, by simpa using hne⟩)
    exact ⟨v, hv⟩
  have hCN : ∀ v, st3.nv ≤ v → v < st4.nv → v ∉ tbl4.map (·.2) → CellAgree V st4 v := by
    intro v hge hlt hn
    have := hC5 v (Nat.le_trans le3 hge) (Nat.lt_of_lt_of_le hlt q5.nv_le)
    rw [CellAgree, ofr v hlt hn] at this
    exact this
  have hon3 : ∀ T ∈ outer, Named st3 T := fun T hT => (hon T hT).keep (ho T hT) (fun v hv => by
    rw [q3.names v (Nat.lt_of_lt_of_le hv le2), q2.names v (Nat.lt_of_lt_of_le hv q1.nv_le), q1.names v hv])
  obtain ⟨rn1, rn2, I4, rn4⟩ := hN f3 ok3 (ho.mono le3) le3 n3 hon3 hdeclared hV4 hCN
  have RD := repl_declareNodes V (vinfoTable vinfo) tbl3 nodes st2 tbl2 st3 tbl3 h3 hV3 (fun _ _ h => h)
  obtain ⟨rd1, rd2, rd3, I3⟩ := RD
  have hlive : (ns.flatMap (liveOuts V)).filter (fun v => nameTruthy (V v).name) =
      nodes.flatMap (fun n => declared tbl3 n.outputs) := by
    rw [List.filter_flatMap]
    exact flatMap_congr_map rn4
  obtain ⟨df1, df2, df3⟩ := replDecl_filter V (ns.flatMap (liveOuts V)) tbl2
  rw [hlive] at df1 df2 df3
  have RO := repl_deserOutputs V tbl4 (NamedV.of_named n4 ok4.lt hV4) outputs st4 (by rw [r.houts]; exact hV5)
  rw [r.houts] at RO
  obtain ⟨ro1, I5⟩ := RO
  refine ⟨E1, by rw [hdict]; exact ri1, df1.trans rd1, rn1, ro1, I5, hlive, NamedV.of_named n4 ok4.lt hV4,
    ?_, ?_, ?_, hdeclared, hV4, hCN, hins_n, by rw [hdict]; exact ri5,
    by rw [hdict]; exact ri2, df3.mpr ⟨rd2, replNs_live_names V outer ns tbl3 rn2⟩, rn2, ?_⟩
  · intro v hv
    rw [hins] at hv
    obtain ⟨x, hx⟩ := inputTable_vals inputs st.nv v hv
    rw [← hins] at hx
    exact ⟨x, stb4.mem _ (stb3.mem _ (stb2.mem _ hx))⟩
  · intro e he
    obtain ⟨x, _, hx⟩ := miv e.2 (mkGraphInits_sub _ _ _ _ e he)
    exact ⟨x, stb4.mem _ (stb3.mem _ hx)⟩
  · intro v hv
    simp only [List.mem_flatMap, declared, List.mem_map, List.mem_filter, decide_eq_true_eq] at hv
    obtain ⟨n, hn, y, ⟨hy, hne⟩, rfl⟩ := hv
    obtain ⟨u, hu⟩ := hdeclared n hn y hy hne
    rw [hu]
    exact ⟨y, stb4.mem _ (lookup_mem _ _ _ hu)⟩
  · rw [hdict, ri3, df2, rd3]
    exact (((I1.append I2 q1.nv_le q2.nv_le).append I3 (Nat.le_trans q1.nv_le q2.nv_le) q3.nv_le).append I4
      le3 m4.nv_le).append I5 le4 q5.nv_le

mutual
/-- the certificate is read through values `V` that agree with the store at the END of the run: a name is final once its
    cell is allocated, so the same `V` serves the induction hypothesis at every intermediate store -/
theorem deser_repl_graph :
    ∀ (p : GraphP) (st : Store) (outer : List Table) (st' : Store) (g : GraphT),
      Fresh st → TablesLt st outer → (∀ T ∈ outer, Named st T) → deserGraph st outer p = .ok (st', g) →
      ∀ (V : Nat → ValueS), NamesAgree V st' → (∀ v, st.nv ≤ v → v < st'.nv → CellAgree V st' v) →
        (replG V outer g).ok ∧ Incr st.nv st'.nv (replG V outer g).new
  | .mk inputs inits vinfo nodes outputs => by
    have ih := deser_repl_nodes nodes
    intro st outer st' g hf ho hon h V hV hC
    obtain ⟨s1, ins, st2, tbl2, iv, st3, tbl3, st4, tbl4, ns, st5, outs, r, rfl, rfl⟩ := deserGraph_run h
    have GT := deserGraph_tables_of r hf ho hon V hV hC fun f3 ok3 ho3 le3 n3 hon3 hd hV4 hCN =>
      ih st3 tbl3 outer (vinfoTable vinfo) st.nv st4 tbl4 ns f3 ok3 ho3 le3 n3 hon3 r.hnodes hd V hV4 hCN
    rw [mkGraph_snd, (mkGraph_fst_counters st5 ins outs ns iv).1]
    simp only [replG, flatMap_liveOuts_setGraph, replNs_setGraph, GT.t1, GT.t2, GT.t3, GT.t4]
    exact ⟨⟨GT.ins_names, GT.keys, GT.inits_ok, GT.decl_ok, GT.nodes_ok, GT.outs_ok⟩, GT.new⟩
theorem deser_repl_nodes :
    ∀ (nps : List NodeP) (st : Store) (top : Table) (outer : List Table) (vi : List (Name × Info)) (b : Nat)
      (st' : Store) (top' : Table) (nts : List NodeT),
      Fresh st → TblOK st b top → TablesLt st outer → b ≤ st.nv → Named st top → (∀ T ∈ outer, Named st T) →
      deserNodes st top outer vi nps = .ok (st', top', nts) →
      (∀ n ∈ nps, ∀ y ∈ n.outputs, y ≠ "" → ∃ u, top.lookup y = some u) →
      ∀ (V : Nat → ValueS), NamesAgree V st' →
        (∀ v, st.nv ≤ v → v < st'.nv → v ∉ top'.map (·.2) → CellAgree V st' v) →
        (replNs V outer top nts).tbl = top' ∧ (replNs V outer top nts).ok ∧
        Incr st.nv st'.nv (replNs V outer top nts).new ∧
        nts.map (fun n => (liveOuts V n).filter (fun v => nameTruthy (V v).name)) =
          nps.map (fun n => declared top n.outputs)
  | [] => by
    intro st top outer vi b st' top' nts _ _ _ _ _ _ h _ V _ _
    simp only [deserNodes, Except.ok.injEq, Prod.mk.injEq] at h
    obtain ⟨rfl, rfl, rfl⟩ := h
    exact ⟨rfl, trivial, Incr.nil _ _, rfl⟩
  | n :: nps => by
    have ihn := deser_repl_node n
    have ihr := deser_repl_nodes nps
    intro st top outer vi b st' top' nts hf hok ho hb hn hon h hdecl V hV hC
    obtain ⟨st1, top1, nt, nts', h1, h2, rfl⟩ := deserNodes_inv h
    obtain ⟨f1, m1, ok1, stb1⟩ := deserNode_struct n st top outer vi b st1 top1 nt hf hok ho hb h1
    obtain ⟨_, n1⟩ := deserNode_tree n st top outer vi b st1 top1 nt hf hok ho hb hn h1
    obtain ⟨_, m2, _, stb2⟩ := deserNodes_struct nps st1 top1 outer vi b st' top' nts' f1 ok1
      (ho.mono m1.nv_le) (Nat.le_trans hb m1.nv_le) h2
    have p2 := deserNodes_prim2 st1.nv nps st1 top1 outer vi b st' top' nts' f1 ok1 (ho.mono m1.nv_le)
      (Nat.le_trans hb m1.nv_le) (Nat.le_refl _) h2
    have hV1 := hV.of_mono m2
    have hon1 : ∀ T ∈ outer, Named st1 T := fun T hT => (hon T hT).keep (ho T hT) m1.names
    obtain ⟨a1, a2, a3, a4⟩ := ihn st top outer vi b st1 top1 nt hf hok ho hb hn hon h1
      (fun y hy hne => hdecl n List.mem_cons_self y hy hne) V hV1 (CellAgree.head stb2 p2 m2.nv_le hC)
    obtain ⟨b1, b2, b3, b4⟩ := ihr st1 top1 outer vi b st' top' nts' f1 ok1 (ho.mono m1.nv_le)
      (Nat.le_trans hb m1.nv_le) n1 hon1 h2
      (fun n' hn' y hy hne => by
        obtain ⟨u, hu⟩ := hdecl n' (List.mem_cons_of_mem _ hn') y hy hne
        exact ⟨u, stb1.lookup y u hu⟩)
      V hV
      (fun v hge hlt hnt => hC v (Nat.le_trans m1.nv_le hge) hlt hnt)
    simp only [replNs, a1]
    refine ⟨b1, ⟨a2, b2⟩, a3.append b3 m1.nv_le m2.nv_le, ?_⟩
    simp only [List.map_cons, a4, b4]
    congr 1
    apply List.map_congr_left
    intro n' hn'
    simp only [declared]
    apply List.map_congr_left
    intro y hy
    simp only [List.mem_filter, decide_eq_true_eq] at hy
    obtain ⟨u, hu⟩ := hdecl n' (List.mem_cons_of_mem _ hn') y hy.1 hy.2
    rw [hu, stb1.lookup y u hu]
theorem deser_repl_node :
    ∀ (n : NodeP) (st : Store) (top : Table) (outer : List Table) (vi : List (Name × Info)) (b : Nat)
      (st' : Store) (top' : Table) (nt : NodeT),
      Fresh st → TblOK st b top → TablesLt st outer → b ≤ st.nv → Named st top → (∀ T ∈ outer, Named st T) →
      deserNode st top outer vi n = .ok (st', top', nt) →
      (∀ y ∈ n.outputs, y ≠ "" → ∃ u, top.lookup y = some u) →
      ∀ (V : Nat → ValueS), NamesAgree V st' →
        (∀ v, st.nv ≤ v → v < st'.nv → v ∉ top'.map (·.2) → CellAgree V st' v) →
        (replN V outer top nt).tbl = top' ∧ (replN V outer top nt).ok ∧
        Incr st.nv st'.nv (replN V outer top nt).new ∧
        (liveOuts V nt).filter (fun v => nameTruthy (V v).name) = declared top n.outputs
  | .mk inputs outputs subs => by
    have ih := deser_repl_subs subs
    intro st top outer vi b st' top' nt hf hok ho hb hn hon h hdecl V hV hC
    obtain ⟨st1, top1, ins, st2, outs, st3, gs, r, rfl, rfl, rfl⟩ := deserNode_run h
    have fr := r.frame hf hok ho hb
    have n1 := resolveInputs_named outer vi inputs st top hn hok.lt
    rw [r.hres] at n1
    have hk := mkNode_keeps st3 ins outs gs
    have hnv4 := mkNode_fst_nv st3 ins outs gs
    have hV3 : NamesAgree V st3 := fun v hv => by rw [hV v (by rw [hnv4]; exact hv), (hk v).1]
    have hV2 := hV3.of_mono fr.m3
    have hV1 := hV2.of_quiet fr.q2
    have hVst := hV1.of_quiet fr.q1
    have hOV : ∀ T ∈ outer, NamedV V T := fun T hT => NamedV.of_named (hon T hT) (ho T hT) hVst
    obtain ⟨a1, a2, a3, a4⟩ := repl_resolveInputs V outer vi hOV inputs st top (NamedV.of_named hn hok.lt hVst)
      (by rw [r.hres]; exact hV1)
    rw [r.hres] at a1 a2 a3 a4
    obtain ⟨b1, b2, b3, b4⟩ := repl_lookupOutputs V _ a4 outputs _ _ _ r.hlook hV2
    have hon2 : ∀ T ∈ top1 :: outer, Named st2 T := by
      intro T hT
      simp only [List.mem_cons] at hT
      rcases hT with rfl | hT
      · exact n1.keep fr.ok1.lt fr.q2.names
      · exact (hon T hT).keep (ho T hT) (fun v hv => by
          rw [fr.q2.names v (Nat.lt_of_lt_of_le hv fr.q1.nv_le), fr.q1.names v hv])
    obtain ⟨c1, c2⟩ := ih st2 _ st3 gs fr.f2 fr.hts hon2 r.hsubs V hV3
      (fun v hge hlt => by
        have hnt : v ∉ top1.map (·.2) := by
          intro hm
          simp only [List.mem_map] at hm
          obtain ⟨e, he, rfl⟩ := hm
          have := fr.ok1.lt e he
          have := fr.q2.nv_le
          omega
        have := hC v (Nat.le_trans (Nat.le_trans fr.q1.nv_le fr.q2.nv_le) hge) (by rw [hnv4]; exact hlt) hnt
        rw [CellAgree, (hk v).2.1, (hk v).2.2.1] at this
        exact this)
    rw [mkNode_snd]
    simp only [replN, liveOuts, a1]
    refine ⟨trivial, ⟨a2, ?_, ?_, c1⟩, ?_, ?_⟩
    · intro v hv; exact b1 v (stripTrailing_sub V outs v hv)
    · intro v hv ht; exact b2 v (stripTrailing_sub V outs v hv) ht
    · rw [hnv4]
      refine (a3.append ?_ fr.q1.nv_le fr.q2.nv_le).append c2 (Nat.le_trans fr.q1.nv_le fr.q2.nv_le) fr.m3.nv_le
      exact b3.sublist ((stripTrailing_sublist V outs).filter _)
    · rw [stripTrailing_filter_truthy, b4]
      simp only [declared, NodeP.outputs]
      apply List.map_congr_left
      intro y hy
      simp only [List.mem_filter, decide_eq_true_eq] at hy
      obtain ⟨u, hu⟩ := hdecl y hy.1 hy.2
      rw [hu, fr.s1.lookup y u hu]
theorem deser_repl_subs :
    ∀ (gps : List GraphP) (st : Store) (scopes : List Table) (st' : Store) (gts : List GraphT),
      Fresh st → TablesLt st scopes → (∀ T ∈ scopes, Named st T) → deserSubs st scopes gps = .ok (st', gts) →
      ∀ (V : Nat → ValueS), NamesAgree V st' → (∀ v, st.nv ≤ v → v < st'.nv → CellAgree V st' v) →
        (replGs V scopes gts).ok ∧ Incr st.nv st'.nv (replGs V scopes gts).new
  | [] => by
    intro st scopes st' gts _ _ _ h V _ _
    simp only [deserSubs, Except.ok.injEq, Prod.mk.injEq] at h
    obtain ⟨rfl, rfl⟩ := h
    exact ⟨trivial, Incr.nil _ _⟩
  | gp :: gps => by
    have ihg := deser_repl_graph gp
    have ihr := deser_repl_subs gps
    intro st scopes st' gts hf hs hon h V hV hC
    obtain ⟨st1, gt, gts', h1, h2, rfl⟩ := deserSubs_inv h
    obtain ⟨f1, m1⟩ := deserGraph_struct gp st scopes st1 gt hf hs h1
    obtain ⟨_, m2⟩ := deserSubs_struct gps st1 scopes st' gts' f1 (hs.mono m1.nv_le) h2
    have p2 := deserSubs_prim gps st1 scopes st' gts' f1 (hs.mono m1.nv_le) h2
    have hV1 := hV.of_mono m2
    obtain ⟨a1, a2⟩ := ihg st scopes st1 gt hf hs hon h1 V hV1
      (fun v hge hlt => by
        have := hC v hge (Nat.lt_of_lt_of_le hlt m2.nv_le)
        rw [CellAgree, (p2.cell v hlt).1, (p2.cell v hlt).2] at this
        exact this)
    obtain ⟨b1, b2⟩ := ihr st1 scopes st' gts' f1 (hs.mono m1.nv_le)
      (fun T hT => (hon T hT).keep (hs T hT) m1.names) h2 V hV
      (fun v hge hlt => hC v (Nat.le_trans m1.nv_le hge) hlt)
    simp only [replGs]
    exact ⟨⟨a1, b1⟩, a2.append b2 m1.nv_le m2.nv_le⟩
end

theorem deserGraph_tables {inputs : List VInfoP} {inits : List TensorP} {vinfo : List VInfoP} {nodes : List NodeP}
    {outputs : List VInfoP} {st : Store} {outer : List Table} {st1 : Store} {ins : List Nat} {st2 : Store} {tbl2 : Table}
    {iv : List Nat} {st3 : Store} {tbl3 : Table} {st4 : Store} {tbl4 : Table} {ns : List NodeT} {st5 : Store}
    {outs : List Nat}
    (r : GraphRun st outer inputs inits vinfo nodes outputs st1 ins st2 tbl2 iv st3 tbl3 st4 tbl4 ns st5 outs)
    (hf : Fresh st) (ho : TablesLt st outer) (hon : ∀ T ∈ outer, Named st T)
    (V : Nat → ValueS) (hV : NamesAgree V (mkGraph st5 ins outs ns iv).1)
    (hC : ∀ v, st.nv ≤ v → v < (mkGraph st5 ins outs ns iv).1.nv → CellAgree V (mkGraph st5 ins outs ns iv).1 v) :
    GraphTables V outer st inputs nodes ins tbl2 iv st3 tbl3 st4 tbl4 ns st5 outs :=
  deserGraph_tables_of r hf ho hon V hV hC fun f3 ok3 ho3 le3 n3 hon3 hd hV4 hCN =>
    deser_repl_nodes nodes st3 tbl3 outer (vinfoTable vinfo) st.nv st4 tbl4 ns f3 ok3 ho3 le3 n3 hon3 r.hnodes hd V hV4 hCN

theorem deserialize_reloadable (p : GraphP) (w : World) (h : deserialize p = .ok w) : Reloadable w := by
  obtain ⟨h1, h2⟩ := deser_repl_graph p {} [] _ _ Fresh.empty (TablesLt.nil _) (fun _ ht => absurd ht List.not_mem_nil)
    (deserialize_inv h) w.st.vals (fun _ _ => rfl) (fun _ _ _ => ⟨rfl, rfl⟩)
  exact ⟨h1, h2.nodup⟩

end IrVerif.Scope
