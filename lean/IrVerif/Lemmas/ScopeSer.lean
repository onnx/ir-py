/-
What the serializer writes when it does not raise (it raises exactly when a name it needs is `None`), and the log of
tensor-name writes: replaying it gives every tensor the name of the last write to it and changes nothing else.
-/
import IrVerif.Lemmas.ScopeBasic
namespace IrVerif.Scope

/-- the name written for value `v` -/
def nm (V : Nat → ValueS) (v : Nat) : Name := ((V v).name).getD ""

theorem nameTruthy_iff {o : Option Name} : nameTruthy o = true ↔ ∃ x, o = some x ∧ x ≠ "" := by
  cases o with
  | none => simp [nameTruthy]
  | some x => simp [nameTruthy]

theorem nm_of_name {V : Nat → ValueS} {v : Nat} {x : Name} (h : (V v).name = some x) : nm V v = x := by
  simp [nm, h]

theorem name_some_of_truthy {V : Nat → ValueS} {v : Nat} (h : nameTruthy (V v).name = true) :
    (V v).name = some (nm V v) ∧ nm V v ≠ "" := by
  obtain ⟨x, hx, hne⟩ := nameTruthy_iff.mp h
  rw [nm_of_name hx]; exact ⟨hx, hne⟩

theorem name_some_of_ne_none {V : Nat → ValueS} {v : Nat} (h : (V v).name ≠ none) :
    (V v).name = some (nm V v) := by
  cases hn : (V v).name with
  | none => exact absurd hn h
  | some x => simp [nm, hn]

theorem nameTruthy_false_of {V : Nat → ValueS} {v : Nat} (hn : (V v).name ≠ none)
    (ht : ¬ nameTruthy (V v).name = true) : (V v).name = some "" ∧ nm V v = "" := by
  cases h : (V v).name with
  | none => exact absurd h hn
  | some x =>
    have : x = "" := by
      simp only [nameTruthy, h] at ht
      simpa using ht
    subst this
    simp [nm, h]

theorem ne_none_of_truthy {V : Nat → ValueS} {v : Nat} (h : nameTruthy (V v).name = true) : (V v).name ≠ none := by
  rw [(name_some_of_truthy h).1]; simp

/-- the `ValueInfoProto` written for value `v` -/
def viOf (V : Nat → ValueS) (v : Nat) : VInfoP := ⟨nm V v, (V v).info.emit⟩

theorem serValues_eq (V : Nat → ValueS) (vs : List Nat) :
    serValues V vs = if ∀ v ∈ vs, (V v).name ≠ none then .ok (vs.map (viOf V)) else .error .nameNone := by
  induction vs with
  | nil => rfl
  | cons v vs ih =>
    rw [serValues, serValue]
    cases hn : (V v).name with
    | none => exact (if_neg (fun h => h v List.mem_cons_self hn)).symm
    | some n =>
      by_cases h : ∀ w ∈ vs, (V w).name ≠ none
      · rw [ih, if_pos h, if_pos (List.forall_mem_cons.mpr ⟨by simp [hn], h⟩)]; simp [viOf, nm, hn]
      · rw [ih, if_neg h, if_neg (fun h' => h (List.forall_mem_cons.mp h').2)]

theorem serValues_ok {V : Nat → ValueS} {vs : List Nat} {ps : List VInfoP} (h : serValues V vs = .ok ps) :
    ps = vs.map (viOf V) ∧ ∀ v ∈ vs, (V v).name ≠ none := by
  rw [serValues_eq] at h
  split at h
  · exact ⟨(Except.ok.inj h).symm, ‹_›⟩
  · cases h

theorem serValues_of_names {V : Nat → ValueS} {vs : List Nat} (h : ∀ v ∈ vs, (V v).name ≠ none) :
    serValues V vs = .ok (vs.map (viOf V)) := by
  rw [serValues_eq, if_pos h]

def inName (V : Nat → ValueS) : Option Nat → Name
  | none => ""
  | some v => nm V v

open Classical in
theorem serInputs_eq (V : Nat → ValueS) (ins : List (Option Nat)) :
    serInputs V ins = if ∀ v, some v ∈ ins → (V v).name ≠ none then .ok (ins.map (inName V)) else .error .nameNone := by
  induction ins with
  | nil => simp [serInputs]
  | cons a r ih =>
    by_cases h : ∀ v, some v ∈ r → (V v).name ≠ none
    · rw [if_pos h] at ih
      cases a with
      | none =>
        rw [serInputs, ih, if_pos (fun v hv => h v ((List.mem_cons.mp hv).resolve_left (by simp)))]
        rfl
      | some w =>
        rw [serInputs]
        cases hn : (V w).name with
        | none => exact (if_neg (fun h => h w List.mem_cons_self hn)).symm
        | some n =>
          rw [ih, if_pos (fun v hv => (List.mem_cons.mp hv).elim (fun e => by simp [Option.some.inj e, hn]) (h v))]
          simp [inName, nm, hn]
    · rw [if_neg h] at ih
      rw [if_neg (fun h' => h fun v hv => h' v (List.mem_cons_of_mem _ hv))]
      cases a with
      | none => rw [serInputs, ih]
      | some w => rw [serInputs, ih]; cases (V w).name <;> rfl

theorem serInputs_ok {V : Nat → ValueS} {ins : List (Option Nat)} {ns : List Name}
    (h : serInputs V ins = .ok ns) : ns = ins.map (inName V) ∧ ∀ v, some v ∈ ins → (V v).name ≠ none := by
  rw [serInputs_eq] at h
  split at h
  · exact ⟨(Except.ok.inj h).symm, ‹_›⟩
  · cases h

theorem serInputs_of_names {V : Nat → ValueS} {ins : List (Option Nat)}
    (h : ∀ v, some v ∈ ins → (V v).name ≠ none) : serInputs V ins = .ok (ins.map (inName V)) := by
  rw [serInputs_eq, if_pos h]

theorem serOutNames_eq (V : Nat → ValueS) (vs : List Nat) :
    serOutNames V vs = if ∀ v ∈ vs, (V v).name ≠ none then .ok (vs.map (nm V)) else .error .nameNone := by
  induction vs with
  | nil => rfl
  | cons v vs ih =>
    rw [serOutNames]
    cases hn : (V v).name with
    | none => exact (if_neg (fun h => h v List.mem_cons_self hn)).symm
    | some n =>
      by_cases h : ∀ w ∈ vs, (V w).name ≠ none
      · rw [ih, if_pos h, if_pos (List.forall_mem_cons.mpr ⟨by simp [hn], h⟩)]; simp [nm, hn]
      · rw [ih, if_neg h, if_neg (fun h' => h (List.forall_mem_cons.mp h').2)]

theorem serOutNames_ok {V : Nat → ValueS} {vs : List Nat} {ns : List Name} (h : serOutNames V vs = .ok ns) :
    ns = vs.map (nm V) ∧ ∀ v ∈ vs, (V v).name ≠ none := by
  rw [serOutNames_eq] at h
  split at h
  · exact ⟨(Except.ok.inj h).symm, ‹_›⟩
  · cases h

theorem serOutNames_of_names {V : Nat → ValueS} {vs : List Nat} (h : ∀ v ∈ vs, (V v).name ≠ none) :
    serOutNames V vs = .ok (vs.map (nm V)) := by
  rw [serOutNames_eq, if_pos h]

/-- `_remove_trailing_outputs` drops the trailing run of outputs whose name is not truthy -/
theorem stripTrailing_eq (V : Nat → ValueS) :
    ∀ (l : List Nat), stripTrailing V l = ListFacts.dropTrailing (fun v => !nameTruthy (V v).name) l
  | [] => rfl
  | a :: r => by
    have ih := stripTrailing_eq V r
    cases h : ListFacts.dropTrailing (fun v => !nameTruthy (V v).name) r with
    | nil => simp only [stripTrailing, ListFacts.dropTrailing, ih, h]; by_cases ht : nameTruthy (V a).name = true <;> simp [ht]
    | cons b t => simp only [stripTrailing, ListFacts.dropTrailing, ih, h]

theorem stripTrailing_sublist (V : Nat → ValueS) (l : List Nat) : (stripTrailing V l).Sublist l := by
  rw [stripTrailing_eq]; exact ListFacts.dropTrailing_sublist _ l

theorem stripTrailing_sub (V : Nat → ValueS) (vs : List Nat) : ∀ v ∈ stripTrailing V vs, v ∈ vs :=
  fun _ hv => (stripTrailing_sublist V vs).subset hv

theorem truthy_mem_stripTrailing (V : Nat → ValueS) (v : Nat) (outs : List Nat) (hv : v ∈ outs)
    (ht : nameTruthy (V v).name = true) : v ∈ stripTrailing V outs := by
  rw [stripTrailing_eq]; exact ListFacts.mem_dropTrailing_of_not hv (by simp [ht])

theorem stripTrailing_cons_ne (V : Nat → ValueS) (a : Nat) (r : List Nat) (h : stripTrailing V r ≠ []) :
    stripTrailing V (a :: r) = a :: stripTrailing V r := by
  simp only [stripTrailing_eq] at h ⊢; exact ListFacts.dropTrailing_cons_ne _ a h

theorem stripTrailing_cons_nil (V : Nat → ValueS) (a : Nat) (r : List Nat) (h : stripTrailing V r = []) :
    stripTrailing V (a :: r) = if nameTruthy (V a).name then [a] else [] := by
  simp only [stripTrailing, h]

theorem stripTrailing_idem (V : Nat → ValueS) (l : List Nat) : stripTrailing V (stripTrailing V l) = stripTrailing V l := by
  simp only [stripTrailing_eq]; exact ListFacts.dropTrailing_idem _ l

theorem stripTrailing_filter_truthy (V : Nat → ValueS) (l : List Nat) :
    (stripTrailing V l).filter (fun v => nameTruthy (V v).name) = l.filter (fun v => nameTruthy (V v).name) := by
  have := ListFacts.filter_not_dropTrailing (fun v => !nameTruthy (V v).name) l
  simpa only [stripTrailing_eq, Bool.not_not] using this

theorem present_emit (i : Info) : i.emit.present = i.present := by
  cases i with
  | mk ty sh doc => simp [Info.emit, Info.present]

theorem emit_of_not_present {i : Info} (h : i.present = false) : i.emit = {} := by
  cases i with
  | mk ty sh doc =>
    simp only [Info.present, Bool.or_eq_false_iff, Option.isSome_eq_false_iff, Option.isNone_iff_eq_none] at h
    simp [Info.emit, h.1, h.2]

theorem emit_orTensor {i t : Info} (h1 : i.ty ≠ none) (h2 : i.sh ≠ none) : (i.emit).orTensor t = i.emit := by
  cases i with
  | mk ty sh doc =>
    cases ty with
    | none => exact absurd rfl h1
    | some a =>
      cases sh with
      | none => exact absurd rfl h2
      | some b => simp [Info.emit, Info.orTensor]

theorem emit_emit (i : Info) : i.emit.emit = i.emit := by
  cases i with
  | mk ty sh doc => cases ty <;> simp [Info.emit]

theorem emit_falsy_out {i : Info} (h1 : i.ty = none) (h2 : i.doc = none) : ({} : Info) = i.emit :=
  (emit_of_not_present (by simp [Info.present, h1, h2])).symm

mutual
def allInitsG : GraphT → List (Name × Nat)
  | .mk _ _ inits nodes _ => inits ++ allInitsNs nodes
def allInitsNs : List NodeT → List (Name × Nat)
  | [] => []
  | n :: ns => allInitsN n ++ allInitsNs ns
def allInitsN : NodeT → List (Name × Nat)
  | .mk _ _ _ _ subs => allInitsGs subs
def allInitsGs : List GraphT → List (Name × Nat)
  | [] => []
  | g :: gs => allInitsG g ++ allInitsGs gs
end


theorem serGraph_inv {V : Nat → ValueS} {td : TData} {gid : Nat} {ins : List Nat} {inits : List (Name × Nat)}
    {nodes : List NodeT} {outs : List Nat} {p : GraphP} {ws : Writes}
    (h : serGraph V td (.mk gid ins inits nodes outs) = .ok (p, ws)) :
    ∃ nps vis2 ws2, serNodes V td outs nodes = .ok (nps, vis2, ws2) ∧
      p = .mk (ins.map (viOf V)) (serInits V td (ins.map fun v => (V v).name) inits).2.1
        ((serInits V td (ins.map fun v => (V v).name) inits).1 ++ vis2) nps (outs.map (viOf V)) ∧
      ws = (serInits V td (ins.map fun v => (V v).name) inits).2.2 ++ ws2 ∧
      (∀ v ∈ ins, (V v).name ≠ none) ∧ (∀ v ∈ outs, (V v).name ≠ none) := by
  simp only [serGraph] at h
  split at h
  · simp at h
  · rename_i insP hi
    split at h
    · simp at h
    · rename_i nps vis2 ws2 hn
      split at h
      · simp at h
      · rename_i outsP ho
        simp only [Except.ok.injEq, Prod.mk.injEq] at h
        obtain ⟨rfl, rfl⟩ := h
        rw [(serValues_ok hi).1, (serValues_ok ho).1]
        exact ⟨nps, vis2, ws2, hn, rfl, rfl, (serValues_ok hi).2, (serValues_ok ho).2⟩

theorem serNodes_inv {V : Nat → ValueS} {td : TData} {go : List Nat} {n : NodeT} {ns : List NodeT}
    {nps : List NodeP} {vis : List VInfoP} {ws : Writes} (h : serNodes V td go (n :: ns) = .ok (nps, vis, ws)) :
    ∃ np vi1 ws1 nps' vis' ws2, serNode V td go n = .ok (np, vi1, ws1) ∧
      serNodes V td go ns = .ok (nps', vis', ws2) ∧ nps = np :: nps' ∧ vis = vi1 ++ vis' ∧ ws = ws1 ++ ws2 := by
  simp only [serNodes] at h
  split at h
  · simp at h
  · rename_i np vi1 ws1 h1
    split at h
    · simp at h
    · rename_i nps' vis' ws2 h2
      simp only [Except.ok.injEq, Prod.mk.injEq] at h
      obtain ⟨rfl, rfl, rfl⟩ := h
      exact ⟨np, vi1, ws1, nps', vis', ws2, h1, h2, rfl, rfl, rfl⟩

theorem serNode_inv {V : Nat → ValueS} {td : TData} {go : List Nat} {i : Nat} {g : Option Nat}
    {ins : List (Option Nat)} {outs : List Nat} {subs : List GraphT} {np : NodeP} {vi : List VInfoP} {ws : Writes}
    (h : serNode V td go (.mk i g ins outs subs) = .ok (np, vi, ws)) :
    ∃ gps ws', serSubs V td subs = .ok (gps, ws') ∧
      np = .mk (ins.map (inName V)) ((stripTrailing V outs).map (nm V)) gps ∧ vi = outVInfo V go outs ∧ ws = ws' ∧
      (∀ v, some v ∈ ins → (V v).name ≠ none) ∧ (∀ v ∈ stripTrailing V outs, (V v).name ≠ none) := by
  simp only [serNode] at h
  split at h
  · simp at h
  · rename_i insN hi
    split at h
    · simp at h
    · rename_i outsN ho
      split at h
      · simp at h
      · rename_i gps ws' hs
        simp only [Except.ok.injEq, Prod.mk.injEq] at h
        obtain ⟨rfl, rfl, rfl⟩ := h
        rw [(serInputs_ok hi).1, (serOutNames_ok ho).1]
        exact ⟨gps, ws', hs, rfl, rfl, rfl, (serInputs_ok hi).2, (serOutNames_ok ho).2⟩

theorem serSubs_inv {V : Nat → ValueS} {td : TData} {g : GraphT} {gs : List GraphT} {gps : List GraphP}
    {ws : Writes} (h : serSubs V td (g :: gs) = .ok (gps, ws)) :
    ∃ gp ws1 gps' ws2, serGraph V td g = .ok (gp, ws1) ∧ serSubs V td gs = .ok (gps', ws2) ∧ gps = gp :: gps' ∧
      ws = ws1 ++ ws2 := by
  simp only [serSubs] at h
  split at h
  · simp at h
  · rename_i gp ws1 h1
    split at h
    · simp at h
    · rename_i gps' ws2 h2
      simp only [Except.ok.injEq, Prod.mk.injEq] at h
      obtain ⟨rfl, rfl⟩ := h
      exact ⟨gp, ws1, gps', ws2, h1, h2, rfl, rfl⟩

def lastWrite : Writes → Nat → Option (Option Name)
  | [], _ => none
  | (t', n) :: ws, t => match lastWrite ws t with
    | some m => some m
    | none => if t = t' then some n else none

theorem applyWrites_eq (ws : Writes) (f : Nat → TensorS) (t : Nat) :
    applyWrites ws f t = match lastWrite ws t with
      | some n => { f t with name := n }
      | none => f t := by
  induction ws generalizing f with
  | nil => rfl
  | cons w ws ih =>
    obtain ⟨t', n⟩ := w
    simp only [applyWrites, lastWrite, ih]
    cases lastWrite ws t with
    | some m => by_cases h : t = t' <;> simp [h]
    | none => by_cases h : t = t' <;> simp [h]

theorem lastWrite_mem {ws : Writes} {t : Nat} {n : Option Name} (h : lastWrite ws t = some n) : (t, n) ∈ ws := by
  induction ws with
  | nil => simp [lastWrite] at h
  | cons w ws ih =>
    obtain ⟨t', n'⟩ := w
    simp only [lastWrite] at h
    cases hl : lastWrite ws t with
    | some m => rw [hl] at h; exact List.mem_cons_of_mem _ (ih (hl.trans h))
    | none =>
      rw [hl] at h
      by_cases ht : t = t'
      · simp only [ht, if_true, Option.some.injEq] at h; simp [ht, h]
      · simp [ht] at h

theorem lastWrite_none {ws : Writes} {t : Nat} (h : lastWrite ws t = none) : ∀ n, (t, n) ∉ ws := by
  induction ws with
  | nil => simp
  | cons w ws ih =>
    obtain ⟨t', n'⟩ := w
    simp only [lastWrite] at h
    cases hl : lastWrite ws t with
    | some m => rw [hl] at h; simp at h
    | none =>
      rw [hl] at h
      have ht : t ≠ t' := fun e => by simp [e] at h
      intro n hn
      simp only [List.mem_cons, Prod.mk.injEq] at hn
      rcases hn with ⟨e, _⟩ | hn
      · exact ht e
      · exact ih hl n hn

theorem applyWrites_data (ws : Writes) (f : Nat → TensorS) (t : Nat) :
    (applyWrites ws f t).data = (f t).data ∧ (applyWrites ws f t).ty = (f t).ty ∧
    (applyWrites ws f t).sh = (f t).sh := by
  rw [applyWrites_eq]; split <;> simp

theorem tdata_writes (st : Store) (ws : Writes) : (st.writes ws).tdata = st.tdata := by
  funext t
  have := applyWrites_data ws st.tens t
  simp [Store.tdata, Store.writes, this]

theorem applyWrites_name (ws : Writes) (f : Nat → TensorS) (t : Nat) :
    ((applyWrites ws f t).name = (f t).name ∧ ∀ n, (t, n) ∉ ws) ∨
    ∃ n, (t, n) ∈ ws ∧ (applyWrites ws f t).name = n := by
  rw [applyWrites_eq]
  cases h : lastWrite ws t with
  | none => exact .inl ⟨rfl, lastWrite_none h⟩
  | some n => exact .inr ⟨n, lastWrite_mem h, rfl⟩

theorem applyWrites_idem (ws : Writes) (f : Nat → TensorS) :
    applyWrites ws (applyWrites ws f) = applyWrites ws f := by
  funext t
  rw [applyWrites_eq ws (applyWrites ws f), applyWrites_eq ws f]
  cases lastWrite ws t <;> rfl

theorem writes_idem (st : Store) (ws : Writes) : (st.writes ws).writes ws = st.writes ws := by
  simp [Store.writes, applyWrites_idem]

/-- a write `(t, n)` is justified by an initializer value whose tensor is `t` and whose name is `n` -/
def Justified (vals : Nat → ValueS) (is : List (Name × Nat)) (w : Nat × Option Name) : Prop :=
  ∃ kv ∈ is, (vals kv.2).const = some w.1 ∧ (vals kv.2).name = w.2

theorem serInits_writes (vals : Nat → ValueS) (td : TData) (inames : List (Option Name))
    (is : List (Name × Nat)) :
    ∀ w ∈ (serInits vals td inames is).2.2, Justified vals is w := by
  induction is with
  | nil => simp [serInits]
  | cons kv is ih =>
    obtain ⟨k, v⟩ := kv
    intro w hw
    simp only [serInits] at hw
    split at hw
    · obtain ⟨kv', hkv, h⟩ := ih w hw
      exact ⟨kv', by simp [hkv], h⟩
    · rename_i t ht
      simp only [List.mem_cons] at hw
      rcases hw with rfl | hw
      · exact ⟨(k, v), by simp, by simp [ht]⟩
      · obtain ⟨kv', hkv, h⟩ := ih w hw
        exact ⟨kv', by simp [hkv], h⟩

theorem Justified.mono {vals : Nat → ValueS} {is js : List (Name × Nat)} {w : Nat × Option Name}
    (h : Justified vals is w) (hsub : ∀ x ∈ is, x ∈ js) : Justified vals js w := by
  obtain ⟨kv, hkv, h⟩ := h
  exact ⟨kv, hsub kv hkv, h⟩

mutual
theorem serGraph_writes (vals : Nat → ValueS) (td : TData) :
    ∀ (g : GraphT) (p : GraphP) (ws : Writes), serGraph vals td g = .ok (p, ws) →
      ∀ w ∈ ws, Justified vals (allInitsG g) w
  | .mk id inputs inits nodes outputs, p, ws, h => by
    obtain ⟨nps, vis2, ws2, hn, _, rfl, _⟩ := serGraph_inv h
    intro w hw
    rcases List.mem_append.mp hw with hw | hw
    · exact (serInits_writes vals td _ inits w hw).mono (fun _ hx => List.mem_append_left _ hx)
    · exact (serNodes_writes vals td outputs nodes _ _ _ hn w hw).mono (fun _ hx => List.mem_append_right _ hx)
theorem serNodes_writes (vals : Nat → ValueS) (td : TData) (gouts : List Nat) :
    ∀ (ns : List NodeT) (nps : List NodeP) (vis : List VInfoP) (ws : Writes),
      serNodes vals td gouts ns = .ok (nps, vis, ws) → ∀ w ∈ ws, Justified vals (allInitsNs ns) w
  | [], nps, vis, ws, h => by
    simp only [serNodes, Except.ok.injEq, Prod.mk.injEq] at h
    obtain ⟨_, _, rfl⟩ := h
    simp
  | n :: ns, nps, vis, ws, h => by
    obtain ⟨np, vi, ws1, nps', vis', ws2, h1, h2, _, _, rfl⟩ := serNodes_inv h
    intro w hw
    rcases List.mem_append.mp hw with hw | hw
    · exact (serNode_writes vals td gouts n _ _ _ h1 w hw).mono (fun _ hx => List.mem_append_left _ hx)
    · exact (serNodes_writes vals td gouts ns _ _ _ h2 w hw).mono (fun _ hx => List.mem_append_right _ hx)
theorem serNode_writes (vals : Nat → ValueS) (td : TData) (gouts : List Nat) :
    ∀ (n : NodeT) (np : NodeP) (vi : List VInfoP) (ws : Writes),
      serNode vals td gouts n = .ok (np, vi, ws) → ∀ w ∈ ws, Justified vals (allInitsN n) w
  | .mk id gr inputs outputs subs, np, vi, ws, h => by
    obtain ⟨gps, ws', hs, _, _, rfl, _⟩ := serNode_inv h
    intro w hw
    exact (serSubs_writes vals td subs _ _ hs w hw).mono (fun x hx => by simpa only [allInitsN] using hx)
theorem serSubs_writes (vals : Nat → ValueS) (td : TData) :
    ∀ (gs : List GraphT) (gps : List GraphP) (ws : Writes),
      serSubs vals td gs = .ok (gps, ws) → ∀ w ∈ ws, Justified vals (allInitsGs gs) w
  | [], gps, ws, h => by
    simp only [serSubs, Except.ok.injEq, Prod.mk.injEq] at h
    obtain ⟨_, rfl⟩ := h
    simp
  | g :: gs, gps, ws, h => by
    obtain ⟨gp, ws1, gps', ws2, h1, h2, _, rfl⟩ := serSubs_inv h
    intro w hw
    rcases List.mem_append.mp hw with hw | hw
    · exact (serGraph_writes vals td g _ _ h1 w hw).mono (fun _ hx => List.mem_append_left _ hx)
    · exact (serSubs_writes vals td gs _ _ h2 w hw).mono (fun _ hx => List.mem_append_right _ hx)
end

end IrVerif.Scope
