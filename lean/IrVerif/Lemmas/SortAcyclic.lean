/-
C12 — a well-scoped tree all of whose graphs are already in order has no dependency cycle:
the post-order numbering of the tree increases along every edge of `Dep` (the pre-order rank falls from a node to
the nodes of its attribute graphs).  First the span lemmas of SortTree again, for `post*`; then `dep_before_post`.
-/
import IrVerif.Lemmas.SortStable

namespace IrVerif.Sort
open List

mutual
/-- post-order listing of node ids: the nodes of the attribute graphs first, then the node -/
def postN : MNode → List Nat
  | .mk i _ subs => postGs subs ++ [i]
def postGs : List (Nat × List MNode) → List Nat
  | [] => []
  | (_, ns) :: gs => postNs ns ++ postGs gs
def postNs : List MNode → List Nat
  | [] => []
  | n :: ns => postN n ++ postNs ns
end

theorem postNs_eq (ns : List MNode) : postNs ns = ns.flatMap postN := by
  induction ns with
  | nil => simp [postNs]
  | cons n ns ih => simp [postNs, ih]

theorem postGs_eq (gs : List MGraph) : postGs gs = gs.flatMap (fun g => postNs g.2) := by
  induction gs with
  | nil => simp [postGs]
  | cons g gs ih => obtain ⟨k, ns⟩ := g; simp [postGs, ih]

theorem postN_eq (n : MNode) : postN n = postGs n.subs ++ [n.id] := by
  cases n; simp [postN, MNode.id, MNode.subs]

theorem postNs_append (l1 l2 : List MNode) : postNs (l1 ++ l2) = postNs l1 ++ postNs l2 := by
  simp [postNs_eq]

/-! ### same elements as the pre-order span -/

theorem post_perm_Ns {ns : List MNode}
    (h : ∀ m ∈ ns, ∀ k, (postN m).Perm (idsOf (entsN k m))) (k : Nat) :
    (postNs ns).Perm (idsOf (entsNs k ns)) := by
  induction ns with
  | nil => simp [postNs, entsNs, idsOf]
  | cons n ns ih =>
    simp only [postNs, entsNs, idsOf, List.map_append]
    exact (h n (by simp) k).append (ih (fun m hm => h m (List.mem_cons_of_mem _ hm)))

theorem post_perm_Gs {gs : List MGraph}
    (h : ∀ g ∈ gs, ∀ m ∈ g.2, ∀ k, (postN m).Perm (idsOf (entsN k m))) :
    (postGs gs).Perm (idsOf (entsGs gs)) := by
  induction gs with
  | nil => simp [postGs, entsGs, idsOf]
  | cons g gs ih =>
    obtain ⟨k, ns⟩ := g
    simp only [postGs, entsGs, idsOf, List.map_append]
    exact (post_perm_Ns (h (k, ns) (by simp)) k).append
      (ih (fun g hg => h g (List.mem_cons_of_mem _ hg)))

theorem post_perm_N : ∀ m : MNode, ∀ k, (postN m).Perm (idsOf (entsN k m)) := by
  intro m
  induction m using MNode.ind with
  | h n ih =>
    intro k
    rw [postN_eq, entsN_cons]
    have := post_perm_Gs ih
    simp only [idsOf, List.map_cons] at *
    refine (List.perm_append_comm).trans ?_
    exact List.Perm.cons _ this

theorem post_perm_root (g : MGraph) : (postNs g.2).Perm (idsOf (nodesOf g)) :=
  post_perm_Ns (fun m _ => post_perm_N m) g.1

/-! ### post-order spans are contiguous -/

theorem postN_infix_postNs {ns : List MNode} {m : MNode} (hm : m ∈ ns) :
    postN m <:+: postNs ns := by
  rw [postNs_eq]; exact ListFacts.infix_flatMap_of_mem _ hm

theorem postNs_infix_postN {n : MNode} {g : MGraph} (hg : g ∈ n.subs) :
    postNs g.2 <:+: postN n := by
  rw [postN_eq, postGs_eq]
  exact (ListFacts.infix_flatMap_of_mem (fun g : MGraph => postNs g.2) hg).trans
    (List.prefix_append _ _).isInfix

theorem post_subgraph_infix : ∀ n : MNode, ∀ h ∈ subgraphsN n, postNs h.2 <:+: postN n := by
  intro n
  induction n using MNode.ind with
  | h n ih =>
    intro h hh
    obtain ⟨g, hg, hcase⟩ := mem_subgraphsN.1 hh
    rcases hcase with rfl | ⟨m', hm', hin⟩
    · exact postNs_infix_postN hg
    · exact ((ih g hg m' hm' h hin).trans (postN_infix_postNs hm')).trans (postNs_infix_postN hg)

theorem post_graph_infix {g h : MGraph} (hh : h ∈ allGraphs g) : postNs h.2 <:+: postNs g.2 := by
  rcases mem_allGraphs.1 hh with rfl | ⟨m, hm, hin⟩
  · exact List.infix_refl _
  · exact (post_subgraph_infix m h hin).trans (postN_infix_postNs hm)

theorem id_mem_postN (m : MNode) : m.id ∈ postN m := by rw [postN_eq]; simp

/-- **the post-order rank increases along every dependency** of a well-scoped tree whose graphs
    are all in order -/
theorem dep_before_post {g : MGraph} (hids : (idsOf (nodesOf g)).Nodup) (hws : WellScoped g)
    (hord : ∀ h ∈ allGraphs g, OrderedG h) {a b : Nat} (hd : Dep (nodesOf g) a b) :
    Before (postNs g.2) a b := by
  obtain ⟨ea, hea, eb, heb, rfl, rfl, hcase⟩ := hd
  rcases hcase with hin | hsub
  · -- `eb` uses a value produced by `ea`
    obtain ⟨h', hh', x, hx, rfl⟩ := ent_is_node_root hea
    have heb_in := hws h' hh' x hx eb heb hin
    obtain ⟨c', hc', hebc'⟩ := mem_entsNs.1 heb_in
    have hb := hord h' hh' x hx c' hc' ⟨eb, hebc', hin⟩
    have hcur := graph_ids_nodup hids hh'
    obtain ⟨L1, n, L2, m', hsplit, hn, hm', hm'id⟩ := before_map_split hb
    have hnmem : n ∈ h'.2 := by rw [hsplit]; simp
    have hm'mem : m' ∈ h'.2 := by rw [hsplit]; simp [hm']
    have h1 : n = x := List.inj_on_of_nodup_map hcur hnmem hx hn
    have h2 : m' = c' := List.inj_on_of_nodup_map hcur hm'mem hc' hm'id
    subst h1 h2
    have hbid : eb.id ∈ postNs L2 := by
      have : eb.id ∈ postN m' :=
        (post_perm_N m' h'.1).mem_iff.2 (List.mem_map.2 ⟨eb, hebc', rfl⟩)
      exact (postN_infix_postNs hm').subset this
    have hdecomp : postNs h'.2 = (postNs L1 ++ postGs n.subs) ++ n.id :: postNs L2 := by
      rw [hsplit, postNs_append]
      simp only [postNs, postN_eq, List.append_assoc, List.singleton_append]
    exact Before.of_infix (post_graph_infix hh') ⟨_, _, hdecomp, hbid⟩
  · -- `ea` is a direct node of an attribute graph of `eb`
    obtain ⟨h'', hh'', nb, hnb, rfl⟩ := ent_is_node_root heb
    have hsub' : ea.id ∈ subNodeIds nb.subs := hsub
    simp only [subNodeIds, List.mem_flatMap, List.mem_map] at hsub'
    obtain ⟨g', hg', m, hm, hmid⟩ := hsub'
    have hmem : ea.id ∈ postGs nb.subs := by
      rw [← hmid, postGs_eq]
      exact List.mem_flatMap.2 ⟨g', hg', (postN_infix_postNs hm).subset (id_mem_postN m)⟩
    obtain ⟨X, Y, hXY⟩ := List.mem_iff_append.1 hmem
    have hb : Before (postN nb) ea.id nb.id :=
      ⟨X, Y ++ [nb.id], by rw [postN_eq, hXY]; simp, by simp⟩
    exact Before.of_infix ((postN_infix_postNs hnb).trans (post_graph_infix hh'')) hb

/-- a well-scoped tree all of whose graphs are in order has no dependency cycle -/
theorem ordered_acyclic {g : MGraph} (hids : (idsOf (nodesOf g)).Nodup) (hws : WellScoped g)
    (hord : ∀ h ∈ allGraphs g, OrderedG h) :
    ¬ ∃ a, Relation.TransGen (Dep (nodesOf g)) a a := by
  have hnd : (postNs g.2).Nodup := (post_perm_root g).nodup_iff.2 hids
  rintro ⟨a, ha⟩
  exact Nat.lt_irrefl _ (idxOf_lt_of_transGen hnd (fun _ _ hd => dep_before_post hids hws hord hd) ha)

end IrVerif.Sort
