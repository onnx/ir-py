/-
The link invariants of deserialization (uses <-> input slots, producer/index <-> output slots, node
ids, ownership flags <-> graph collections) and their preservation by each primitive step.
-/
import IrVerif.Lemmas.ScopeStruct
namespace IrVerif.Scope

/-- what the invariants need to know about a node -/
structure NRec where
  id : Nat
  inputs : List (Option Nat)
  outputs : List Nat

/-- what the invariants need to know about a graph -/
structure GRec where
  id : Nat
  inputs : List Nat
  outputs : List Nat
  inits : List Nat

mutual
/-- the nodes of a graph tree in creation order (the nodes of nested graphs before their owner) -/
def recsG : GraphT → List NRec
  | .mk _ _ _ ns _ => recsNs ns
def recsNs : List NodeT → List NRec
  | [] => []
  | n :: ns => recsN n ++ recsNs ns
def recsN : NodeT → List NRec
  | .mk i _ a b subs => recsGs subs ++ [⟨i, a, b⟩]
def recsGs : List GraphT → List NRec
  | [] => []
  | g :: gs => recsG g ++ recsGs gs
end

mutual
/-- the graphs of a graph tree in creation order (nested graphs before the graph that holds them) -/
def grecsG : GraphT → List GRec
  | .mk i ins inits ns outs => grecsNs ns ++ [⟨i, ins, outs, inits.map (·.2)⟩]
def grecsNs : List NodeT → List GRec
  | [] => []
  | n :: ns => grecsN n ++ grecsNs ns
def grecsN : NodeT → List GRec
  | .mk _ _ _ _ subs => grecsGs subs
def grecsGs : List GraphT → List GRec
  | [] => []
  | g :: gs => grecsG g ++ grecsGs gs
end

theorem recsNs_setGraph (gid : Nat) (ns : List NodeT) : recsNs (ns.map (NodeT.setGraph gid)) = recsNs ns := by
  induction ns with
  | nil => rfl
  | cons n ns ih =>
    obtain ⟨i, g, a, b, s⟩ := n
    simp [recsNs, recsN, NodeT.setGraph, ih]

theorem grecsNs_setGraph (gid : Nat) (ns : List NodeT) : grecsNs (ns.map (NodeT.setGraph gid)) = grecsNs ns := by
  induction ns with
  | nil => rfl
  | cons n ns ih =>
    obtain ⟨i, g, a, b, s⟩ := n
    simp [grecsNs, grecsN, NodeT.setGraph, ih]

def usesIn (v : Nat) (R : List NRec) : List (Nat × Nat) := R.flatMap fun r => slotsOf v r.id 0 r.inputs

/-- `uses` of every value = the input slots holding it, in creation order -/
def InvU (st : Store) (R : List NRec) : Prop := ∀ v, (st.vals v).uses = usesIn v R

structure InvP (st : Store) (R : List NRec) : Prop where
  p1 : ∀ r ∈ R, ∀ k v, r.outputs[k]? = some v →
    (st.vals v).producer = some r.id ∧ (st.vals v).index = some k
  p2 : ∀ v, (∀ r ∈ R, v ∉ r.outputs) → (st.vals v).producer = none ∧ (st.vals v).index = none

structure InvN (st : Store) (R : List NRec) : Prop where
  lt : ∀ r ∈ R, r.id < st.nn
  nodup : (R.map (·.id)).Nodup

structure InvO (st : Store) (G : List GRec) : Prop where
  own : ∀ g ∈ G,
    (∀ v ∈ g.inputs, (st.vals v).isIn = true ∧ (st.vals v).graph = some g.id) ∧
    (∀ v ∈ g.outputs, (st.vals v).isOut = true ∧ (st.vals v).graph = some g.id) ∧
    (∀ v ∈ g.inits, (st.vals v).isInit = true ∧ (st.vals v).graph = some g.id)
  back : ∀ v,
    ((st.vals v).isIn = true → ∃ g ∈ G, (st.vals v).graph = some g.id ∧ v ∈ g.inputs) ∧
    ((st.vals v).isOut = true → ∃ g ∈ G, (st.vals v).graph = some g.id ∧ v ∈ g.outputs) ∧
    ((st.vals v).isInit = true → ∃ g ∈ G, (st.vals v).graph = some g.id ∧ v ∈ g.inits) ∧
    ((st.vals v).graph ≠ none →
      (st.vals v).isIn = true ∨ (st.vals v).isOut = true ∨ (st.vals v).isInit = true)
  lt : ∀ g ∈ G, g.id < st.ng
  nodup : (G.map (·.id)).Nodup

/-- graph inputs and initializer values have no producer -/
def InvR (st : Store) (G : List GRec) : Prop :=
  ∀ g ∈ G, (∀ v ∈ g.inputs, (st.vals v).producer = none) ∧ (∀ v ∈ g.inits, (st.vals v).producer = none)

structure Inv (st : Store) (R : List NRec) (G : List GRec) : Prop where
  u : InvU st R
  p : InvP st R
  n : InvN st R
  o : InvO st G
  r : InvR st G

/-- a cell with default link fields -/
def Unlinked (c : ValueS) : Prop := linksOf c = linksOf {}

theorem linksOf_eq {a b : ValueS} (h : linksOf a = linksOf b) :
    a.uses = b.uses ∧ a.producer = b.producer ∧ a.index = b.index ∧ a.graph = b.graph ∧
    a.isIn = b.isIn ∧ a.isOut = b.isOut ∧ a.isInit = b.isInit := by
  simp only [linksOf, Prod.mk.injEq] at h
  exact h

theorem InvO.congr {st st' : Store} {G : List GRec} (h : InvO st G) (hng : st.ng ≤ st'.ng)
    (he : ∀ v, (st'.vals v).graph = (st.vals v).graph ∧ (st'.vals v).isIn = (st.vals v).isIn ∧
      (st'.vals v).isOut = (st.vals v).isOut ∧ (st'.vals v).isInit = (st.vals v).isInit) : InvO st' G := by
  refine ⟨fun g hg => ?_, fun v => ?_, fun g hg => Nat.lt_of_lt_of_le (h.lt g hg) hng, h.nodup⟩
  · obtain ⟨a, b, c⟩ := h.own g hg
    exact ⟨fun v hv => by rw [(he v).2.1, (he v).1]; exact a v hv,
      fun v hv => by rw [(he v).2.2.1, (he v).1]; exact b v hv,
      fun v hv => by rw [(he v).2.2.2, (he v).1]; exact c v hv⟩
  · rw [(he v).1, (he v).2.1, (he v).2.2.1, (he v).2.2.2]
    exact h.back v

/-! ### quiet steps preserve everything -/

theorem Inv.quiet {st st' : Store} {R : List NRec} {G : List GRec} (h : Inv st R G) (q : Quiet st st')
    (hf : Fresh st) : Inv st' R G := by
  have hl : ∀ v, _ := fun v => linksOf_eq (q.links hf v)
  refine ⟨?_, ⟨?_, ?_⟩, ⟨?_, h.n.nodup⟩, h.o.congr (by rw [q.ng_eq]; exact Nat.le_refl _) fun v => (hl v).2.2.2, ?_⟩
  rotate_right
  · intro g hg
    refine ⟨fun v hv => ?_, fun v hv => ?_⟩
    · rw [(hl v).2.1]; exact (h.r g hg).1 v hv
    · rw [(hl v).2.1]; exact (h.r g hg).2 v hv
  · intro v; rw [(hl v).1]; exact h.u v
  · intro r hr k v hk
    rw [(hl v).2.1, (hl v).2.2.1]; exact h.p.p1 r hr k v hk
  · intro v hv
    rw [(hl v).2.1, (hl v).2.2.1]; exact h.p.p2 v hv
  · intro r hr; rw [q.nn_eq]; exact h.n.lt r hr

theorem usesIn_append (v : Nat) (R S : List NRec) : usesIn v (R ++ S) = usesIn v R ++ usesIn v S := by
  simp [usesIn, List.flatMap_append]

theorem Inv.of_mkNode {st : Store} {R : List NRec} {G : List GRec} (h : Inv st R G)
    (ins : List (Option Nat)) (outs : List Nat) (gs : List GraphT)
    (hprod : ∀ v ∈ outs, (st.vals v).producer = none) (hnd : outs.Nodup)
    (hunown : ∀ v ∈ outs, (st.vals v).graph = none) :
    Inv (mkNode st ins outs gs).1 (R ++ [⟨st.nn, ins, outs⟩]) G := by
  have hk := mkNode_keeps st ins outs gs
  refine ⟨?_, ⟨?_, ?_⟩, ⟨?_, ?_⟩, h.o.congr (by rw [mkNode_fst_ng]; exact Nat.le_refl _) fun v => (hk v).2.2.2, ?_⟩
  rotate_right
  · intro g hg
    obtain ⟨a, _, c⟩ := h.o.own g hg
    refine ⟨fun v hv => ?_, fun v hv => ?_⟩
    · have hv' : v ∉ outs := fun hm => by
        have := hunown v hm; rw [(a v hv).2] at this; cases this
      rw [mkNode_vals, setProducers_not_mem _ _ _ _ _ hv']
      exact (h.r g hg).1 v hv
    · have hv' : v ∉ outs := fun hm => by
        have := hunown v hm; rw [(c v hv).2] at this; cases this
      rw [mkNode_vals, setProducers_not_mem _ _ _ _ _ hv']
      exact (h.r g hg).2 v hv
  · intro v
    rw [mkNode_vals, usesIn_append]
    simp only [setProducers_uses, h.u v]
    simp [usesIn]
  · intro r hr k v hkv
    rw [mkNode_vals]
    simp only [List.mem_append, List.mem_singleton] at hr
    rcases hr with hr | rfl
    · have hp := h.p.p1 r hr k v hkv
      have hv : v ∉ outs := by
        intro hm
        have := hprod v hm
        rw [hp.1] at this
        cases this
      rw [setProducers_not_mem _ _ _ _ _ hv]
      exact hp
    · rw [setProducers_mem _ _ _ _ hnd k v hkv]
      simp
  · intro v hv
    have hv' : v ∉ outs := by
      have := hv ⟨st.nn, ins, outs⟩ (List.mem_append_right _ List.mem_cons_self)
      exact this
    rw [mkNode_vals, setProducers_not_mem _ _ _ _ _ hv']
    exact h.p.p2 v (fun r hr => hv r (List.mem_append_left _ hr))
  · intro r hr
    rw [mkNode_fst_nn]
    simp only [List.mem_append, List.mem_singleton] at hr
    rcases hr with hr | rfl
    · have := h.n.lt r hr; omega
    · simp
  · simp only [List.map_append, List.map_cons, List.map_nil]
    rw [List.nodup_append]
    refine ⟨h.n.nodup, by simp, ?_⟩
    intro a ha b hb hab
    simp only [List.mem_singleton] at hb
    subst hb; subst hab
    simp only [List.mem_map] at ha
    obtain ⟨r, hr, hid⟩ := ha
    have := h.n.lt r hr
    omega

theorem mkGraphInits_sub (st : Store) (ins outs iv : List Nat) :
    ∀ e ∈ mkGraphInits st ins outs iv, e.2 ∈ iv := by
  intro e he
  rcases initDict_vals _ _ _ e he with h | h
  · simp at h
  · exact h

theorem Inv.of_mkGraph {st : Store} {R : List NRec} {G : List GRec} (h : Inv st R G)
    (ins outs : List Nat) (ns : List NodeT) (iv : List Nat)
    (hun : ∀ v, v ∈ ins ∨ v ∈ outs ∨ v ∈ iv → (st.vals v).graph = none ∧ (st.vals v).isIn = false ∧
      (st.vals v).isOut = false ∧ (st.vals v).isInit = false)
    (hroot : ∀ v, v ∈ ins ∨ v ∈ iv → (st.vals v).producer = none) :
    Inv (Scope.mkGraph st ins outs ns iv).1 R
      (G ++ [⟨st.ng, ins, outs, (mkGraphInits st ins outs iv).map (·.2)⟩]) := by
  obtain ⟨c1, c2, c3⟩ := mkGraph_fst_counters st ins outs ns iv
  have hdv : ∀ v, v ∈ (mkGraphInits st ins outs iv).map (·.2) → v ∈ iv := by
    intro v hv
    simp only [List.mem_map] at hv
    obtain ⟨e, he, rfl⟩ := hv
    exact mkGraphInits_sub _ _ _ _ e he
  -- cells owned by an earlier graph are not touched
  have hold : ∀ v, (st.vals v).graph ≠ none →
      (mkGraph st ins outs ns iv).1.vals v = st.vals v := by
    intro v hg
    have hn : ¬ (v ∈ ins ∨ v ∈ outs ∨ v ∈ iv) := fun hm => hg (hun v hm).1
    rw [mkGraph_cell]
    have h1 : v ∉ ins := fun x => hn (.inl x)
    have h2 : v ∉ outs := fun x => hn (.inr (.inl x))
    have h3 : v ∉ (mkGraphInits st ins outs iv).map (·.2) := fun x => hn (.inr (.inr (hdv v x)))
    simp [h1, h2, h3]
  refine ⟨?_, ⟨?_, ?_⟩, ⟨?_, h.n.nodup⟩, ⟨?_, ?_, ?_, ?_⟩, ?_⟩
  rotate_right
  · intro g hg
    simp only [List.mem_append, List.mem_singleton] at hg
    rcases hg with hg | rfl
    · refine ⟨fun v hv => ?_, fun v hv => ?_⟩
      · rw [mkGraph_cell]; exact (h.r g hg).1 v hv
      · rw [mkGraph_cell]; exact (h.r g hg).2 v hv
    · refine ⟨fun v hv => ?_, fun v hv => ?_⟩
      · rw [mkGraph_cell]; exact hroot v (.inl hv)
      · rw [mkGraph_cell]; exact hroot v (.inr (hdv v hv))
  · intro v; rw [mkGraph_cell]; exact h.u v
  · intro r hr k v hk; rw [mkGraph_cell]; exact h.p.p1 r hr k v hk
  · intro v hv; rw [mkGraph_cell]; exact h.p.p2 v hv
  · intro r hr; rw [c2]; exact h.n.lt r hr
  · intro g hg
    simp only [List.mem_append, List.mem_singleton] at hg
    rcases hg with hg | rfl
    · obtain ⟨a, b, c⟩ := h.o.own g hg
      refine ⟨fun v hv => ?_, fun v hv => ?_, fun v hv => ?_⟩
      · have := a v hv
        rw [hold v (by rw [this.2]; simp)]; exact this
      · have := b v hv
        rw [hold v (by rw [this.2]; simp)]; exact this
      · have := c v hv
        rw [hold v (by rw [this.2]; simp)]; exact this
    · refine ⟨fun v hv => ?_, fun v hv => ?_, fun v hv => ?_⟩ <;> rw [mkGraph_cell] <;> simp [hv]
  · intro v
    rw [mkGraph_cell]
    obtain ⟨b1, b2, b3, b4⟩ := h.o.back v
    by_cases hm : v ∈ ins ∨ v ∈ outs ∨ v ∈ (mkGraphInits st ins outs iv).map (·.2)
    · have hu := hun v (by
        rcases hm with x | x | x
        · exact .inl x
        · exact .inr (.inl x)
        · exact .inr (.inr (hdv v x)))
      let gr : GRec := ⟨st.ng, ins, outs, (mkGraphInits st ins outs iv).map (·.2)⟩
      refine ⟨?_, ?_, ?_, ?_⟩
      · simp only [hm, if_true, hu.2.1, Bool.false_or, decide_eq_true_eq]
        exact fun x => ⟨gr, by simp [gr], rfl, x⟩
      · simp only [hm, if_true, hu.2.2.1, Bool.false_or, decide_eq_true_eq]
        exact fun x => ⟨gr, by simp [gr], rfl, x⟩
      · simp only [hm, if_true, hu.2.2.2, Bool.false_or, decide_eq_true_eq]
        exact fun x => ⟨gr, by simp [gr], rfl, x⟩
      · intro _
        simp only [hu.2.1, hu.2.2.1, hu.2.2.2, Bool.false_or, decide_eq_true_eq]
        exact hm
    · have h1 : v ∉ ins := fun x => hm (.inl x)
      have h2 : v ∉ outs := fun x => hm (.inr (.inl x))
      have h3 : v ∉ (mkGraphInits st ins outs iv).map (·.2) := fun x => hm (.inr (.inr x))
      simp only [h1, h2, h3, decide_false, Bool.or_false]
      refine ⟨fun x => ?_, fun x => ?_, fun x => ?_, b4⟩
      · obtain ⟨g, hg, e⟩ := b1 x; exact ⟨g, by simp [hg], e⟩
      · obtain ⟨g, hg, e⟩ := b2 x; exact ⟨g, by simp [hg], e⟩
      · obtain ⟨g, hg, e⟩ := b3 x; exact ⟨g, by simp [hg], e⟩
  · intro g hg
    rw [c3]
    simp only [List.mem_append, List.mem_singleton] at hg
    rcases hg with hg | rfl
    · have := h.o.lt g hg; omega
    · simp
  · simp only [List.map_append, List.map_cons, List.map_nil]
    rw [List.nodup_append]
    refine ⟨h.o.nodup, by simp, ?_⟩
    intro a ha b hb hab
    simp only [List.mem_singleton] at hb
    subst hb; subst hab
    simp only [List.mem_map] at ha
    obtain ⟨g, hg, hid⟩ := ha
    have := h.o.lt g hg
    omega

theorem mem_usesIn (v : Nat) (R : List NRec) (n i : Nat) :
    (n, i) ∈ usesIn v R ↔ ∃ r ∈ R, r.id = n ∧ r.inputs[i]? = some (some v) := by
  simp only [usesIn, List.mem_flatMap]
  constructor
  · rintro ⟨r, hr, hm⟩
    rw [mem_slotsOf] at hm
    exact ⟨r, hr, hm.1.symm, by simpa using hm.2.2⟩
  · rintro ⟨r, hr, rfl, h⟩
    exact ⟨r, hr, by rw [mem_slotsOf]; exact ⟨rfl, Nat.zero_le _, by simpa using h⟩⟩

theorem usesIn_nodup (v : Nat) (R : List NRec) (h : (R.map (·.id)).Nodup) : (usesIn v R).Nodup := by
  induction R with
  | nil => simp [usesIn]
  | cons r R ih =>
    simp only [List.map_cons, List.nodup_cons] at h
    have : usesIn v (r :: R) = slotsOf v r.id 0 r.inputs ++ usesIn v R := by simp [usesIn]
    rw [this, List.nodup_append]
    refine ⟨slotsOf_nodup _ _ _ _, ih h.2, ?_⟩
    intro a ha b hb hab
    subst hab
    obtain ⟨n, i⟩ := a
    rw [mem_slotsOf] at ha
    rw [mem_usesIn] at hb
    obtain ⟨r', hr', hid, _⟩ := hb
    apply h.1
    rw [List.mem_map]
    exact ⟨r', hr', by rw [hid, ha.1]⟩

theorem Inv.empty : Inv ({} : Store) [] [] where
  u := fun _ => rfl
  p := ⟨fun _ hr => by simp at hr, fun _ _ => ⟨rfl, rfl⟩⟩
  n := ⟨fun _ hr => by simp at hr, by simp⟩
  o := ⟨fun _ hg => by simp at hg, fun _ => by simp, fun _ hg => by simp at hg, by simp⟩
  r := fun _ hg => by simp at hg

end IrVerif.Scope
