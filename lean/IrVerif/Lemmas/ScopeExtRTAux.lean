/-
What the lock-step round trip (`Lemmas/ScopeExtRT.lean`) carries of the extension state: `XKeep`, `MetaOKk`, `QuantOKk`,
`TblQ`, `TblM`; the postcondition all levels share (`RtEPost`, with `append`; `RtENsPost` at node level).
-/
import IrVerif.Lemmas.ScopeExtSer
import IrVerif.Lemmas.ScopeExtRun
import IrVerif.Lemmas.ScopeReplTbl
namespace IrVerif.Scope

structure XKeep (b : Nat) (x x' : Ext) : Prop where
  vmeta : ∀ d, d < b → x'.vmeta d = x.vmeta d
  quant : ∀ d, d < b → x'.quant d = x.quant d

theorem XKeep.weaken {b b' : Nat} {x y : Ext} (h : XKeep b x y) (hb : b' ≤ b) : XKeep b' x y :=
  ⟨fun d hd => h.vmeta d (by omega), fun d hd => h.quant d (by omega)⟩

theorem NStep.keep {st st' : Store} {x x' : Ext} {vt : List (Name × Info × SS)} {qt : List (Name × SS)}
    (h : NStep st st' x x' vt qt) : XKeep st.nv x x' := ⟨h.vmeta, h.quant⟩

theorem RunE.keep {n n' k k' : Nat} {x x' : Ext} (h : RunE n n' k k' x x') : XKeep n x x' := ⟨h.mext.2.1, h.qext.2.1⟩

/-- `MetaOK2` on values that all have an image under `A` -/
def MetaOKk (x x' : Ext) (A : Assoc) (L : List Nat) : Prop :=
  ∀ v ∈ L, v ∈ A.map (·.1) ∧ x'.vmeta (sig A v) = normM (x.vmeta v)

/-- `QuantOK2` on values that all have an image under `A` -/
def QuantOKk (x x' : Ext) (A : Assoc) (L : List Nat) : Prop :=
  ∀ v ∈ L, v ∈ A.map (·.1) ∧ x'.quant (sig A v) = normQ (x.quant v)

theorem MetaOKk.ok2 {x x' : Ext} {A : Assoc} {L : List Nat} (h : MetaOKk x x' A L) : MetaOK2 x x' A L :=
  fun v hv => (h v hv).2

theorem QuantOKk.ok2 {x x' : Ext} {A : Assoc} {L : List Nat} (h : QuantOKk x x' A L) : QuantOK2 x x' A L :=
  fun v hv => (h v hv).2

theorem MetaOKk.step {V : Nat → ValueS} {s : Store} {x xa xb : Ext} {A B : Assoc} {L : List Nat}
    (h : MetaOKk x xa A L) (hrs : RS V s A) (hk : XKeep s.nv xa xb) : MetaOKk x xb (A ++ B) L := by
  intro v hv
  obtain ⟨hm, he⟩ := h v hv
  exact ⟨mem_keys_append hm, by rw [sig_append_of_mem hm, hk.vmeta _ (hrs.sig_lt hm)]; exact he⟩

theorem QuantOKk.step {V : Nat → ValueS} {s : Store} {x xa xb : Ext} {A B : Assoc} {L : List Nat}
    (h : QuantOKk x xa A L) (hrs : RS V s A) (hk : XKeep s.nv xa xb) : QuantOKk x xb (A ++ B) L := by
  intro v hv
  obtain ⟨hm, he⟩ := h v hv
  exact ⟨mem_keys_append hm, by rw [sig_append_of_mem hm, hk.quant _ (hrs.sig_lt hm)]; exact he⟩

theorem MetaOKk.prim {V : Nat → ValueS} {s : Store} {x xa xb : Ext} {A : Assoc} {L : List Nat}
    (h : MetaOKk x xa A L) (hrs : RS V s A) (hk : XKeep s.nv xa xb) : MetaOKk x xb A L := by
  have := h.step (B := []) hrs hk
  simpa using this

theorem QuantOKk.prim {V : Nat → ValueS} {s : Store} {x xa xb : Ext} {A : Assoc} {L : List Nat}
    (h : QuantOKk x xa A L) (hrs : RS V s A) (hk : XKeep s.nv xa xb) : QuantOKk x xb A L := by
  have := h.step (B := []) hrs hk
  simpa using this

/-- the store part `RtPost` of the core, the run, and the extension state at the images of the emitted values `E` and of
    the values `EQ` whose annotation is looked at -/
structure RtEPost (V : Nat → ValueS) (x : Ext) (td : TData) (s : Store) (xs : Ext) (A B : Assoc) (s' : Store) (x' : Ext)
    (E EQ : List Nat) (AI : List (Name × Nat)) : Prop extends RtPost V td s A B s' E AI [] where
  run : RunE s.nv s'.nv s.nn s'.nn xs x'
  ge : ∀ e ∈ B, s.nv ≤ e.2
  metaOK : MetaOKk x x' (A ++ B) E
  quantOK : QuantOKk x x' (A ++ B) EQ

namespace RtEPost
variable {V : Nat → ValueS} {x : Ext} {td : TData} {s s' : Store} {xs x' : Ext} {A B : Assoc} {E EQ : List Nat}
  {AI : List (Name × Nat)}

theorem keep (P : RtEPost V x td s xs A B s' x' E EQ AI) : XKeep s.nv xs x' := P.run.keep

theorem nn (P : RtEPost V x td s xs A B s' x' E EQ AI) : s.nn ≤ s'.nn := P.run.nn_le

theorem devs (P : RtEPost V x td s xs A B s' x' E EQ AI) : ∀ k, k < s.nn → x'.devs k = xs.devs k :=
  fun _ hk => P.run.devs_lt hk

theorem xfresh (P : RtEPost V x td s xs A B s' x' E EQ AI) (hf : ExtFresh s xs) : ExtFresh s' x' := P.run.extFresh hf

theorem lists {E' EQ' : List Nat} {AI' : List (Name × Nat)} (P : RtEPost V x td s xs A B s' x' E EQ AI)
    (hi : InfoOK2 V s' (A ++ B) E') (hc : ConstOK2 V td s' (A ++ B) AI') (hm : MetaOKk x x' (A ++ B) E')
    (hq : QuantOKk x x' (A ++ B) EQ') : RtEPost V x td s xs A B s' x' E' EQ' AI' :=
  ⟨⟨P.rs, P.le, P.fresh, P.prim, hi, hc, P.blankOK⟩, P.run, P.ge, hm, hq⟩

theorem quiet (rs : RS V s' (A ++ B)) (le : s.nv ≤ s'.nv) (fresh : Fresh s') (prim : Prim s.nv s s')
    (run : RunE s.nv s'.nv s.nn s'.nn xs x') (ge : ∀ e ∈ B, s.nv ≤ e.2) : RtEPost V x td s xs A B s' x' [] [] [] :=
  ⟨⟨rs, le, fresh, prim, nofun, nofun, nofun⟩, run, ge, nofun, nofun⟩

theorem nil (hrs : RS V s A) (hf : Fresh s) : RtEPost V x td s xs A [] s xs [] [] [] :=
  { toRtPost := .nil hrs hf, run := .refl _ _ _, ge := nofun, metaOK := nofun, quantOK := nofun }

theorem append {s1 s2 : Store} {x1 x2 : Ext} {B1 B2 : Assoc} {E1 E2 EQ1 EQ2 : List Nat} {AI1 AI2 : List (Name × Nat)}
    (h1 : RtEPost V x td s xs A B1 s1 x1 E1 EQ1 AI1) (h2 : RtEPost V x td s1 x1 (A ++ B1) B2 s2 x2 E2 EQ2 AI2) :
    RtEPost V x td s xs A (B1 ++ B2) s2 x2 (E1 ++ E2) (EQ1 ++ EQ2) (AI1 ++ AI2) := by
  have e : A ++ (B1 ++ B2) = A ++ B1 ++ B2 := (List.append_assoc _ _ _).symm
  exact {
    toRtPost := h1.toRtPost.append h2.toRtPost
    run := h1.run.trans h2.run
    ge := fun e he => by
      rcases List.mem_append.mp he with he | he
      · exact h1.ge e he
      · exact Nat.le_trans h1.le (h2.ge e he)
    metaOK := e ▸ List.forall_mem_append.mpr ⟨h1.metaOK.step (B := B2) h1.rs h2.keep, h2.metaOK⟩
    quantOK := e ▸ List.forall_mem_append.mpr ⟨h1.quantOK.step (B := B2) h1.rs h2.keep, h2.quantOK⟩ }

theorem mkGraph {s4 : Store} {x4 : Ext} (h : RtEPost V x td s xs A B s4 x4 E EQ AI) (ins outs : List Nat)
    (ns : List NodeT) (iv : List Nat) (hf : Fresh (IrVerif.Scope.mkGraph s4 ins outs ns iv).1) :
    RtEPost V x td s xs A B (IrVerif.Scope.mkGraph s4 ins outs ns iv).1 x4 E EQ AI := by
  obtain ⟨c1, c2, _⟩ := mkGraph_fst_counters s4 ins outs ns iv
  exact {
    toRtPost := h.toRtPost.same c1 (fun w => by rw [mkGraph_cell]) (mkGraph_prim s4.nv s4 ins outs ns iv) hf
    run := by rw [c1, c2]; exact h.run
    ge := h.ge
    metaOK := h.metaOK
    quantOK := h.quantOK }

theorem mkNode {s3 : Store} {x3 : Ext} (h : RtEPost V x td s xs A B s3 x3 E EQ AI) (ins : List (Option Nat))
    (outs : List Nat) (gs : List GraphT) (dr : List DevR) (hf : Fresh (IrVerif.Scope.mkNode s3 ins outs gs).1) :
    RtEPost V x td s xs A B (IrVerif.Scope.mkNode s3 ins outs gs).1 (x3.setDevs s3.nn dr) E EQ AI :=
  { toRtPost := h.toRtPost.same (mkNode_fst_nv _ _ _ _) (fun w => (mkNode_keeps _ _ _ _ w).1)
      (mkNode_prim s3.nv s3 ins outs gs) hf
    run := by
      rw [mkNode_fst_nv, mkNode_fst_nn]
      exact h.run.trans ⟨Nat.le_refl _, Nat.le_succ _,
        .setDevs s3.nn dr ⟨Nat.le_refl _, Nat.lt_succ_self _⟩ (.refl _)⟩
    ge := h.ge
    metaOK := h.metaOK
    quantOK := h.quantOK }

end RtEPost

def TblQ (x' : Ext) (A : Assoc) (qt : List (Name × SS)) (T : Table) : Prop :=
  ∀ e ∈ T, x'.quant (sig A e.2) = quantOf qt e.1

/-- the metadata of the values bound in a table of source values, the graph inputs `I` excepted -/
def TblM (x' : Ext) (A : Assoc) (vt : List (Name × Info × SS)) (I : List Nat) (T : Table) : Prop :=
  ∀ e ∈ T, e.2 ∉ I → x'.vmeta (sig A e.2) = metaOf vt e.1

theorem TblQ_iff {x' : Ext} {A : Assoc} {qt : List (Name × SS)} {T : Table} : TblQ x' A qt T ↔ QT x' qt (mapT A T) := by
  simp only [TblQ, QT, mapT, List.forall_mem_map]

theorem TblQ.step {V : Nat → ValueS} {s : Store} {xa xb : Ext} {A B : Assoc} {qt : List (Name × SS)} {T : Table}
    (h : TblQ xa A qt T) (hT : TblIn A T) (hrs : RS V s A) (hk : XKeep s.nv xa xb) : TblQ xb (A ++ B) qt T := by
  intro e he
  have hm := hT e he
  rw [sig_append_of_mem hm, hk.quant _ (hrs.sig_lt hm)]
  exact h e he

theorem TblM.step {V : Nat → ValueS} {s : Store} {xa xb : Ext} {A B : Assoc} {vt : List (Name × Info × SS)}
    {I : List Nat} {T : Table}
    (h : TblM xa A vt I T) (hT : TblIn A T) (hrs : RS V s A) (hk : XKeep s.nv xa xb) : TblM xb (A ++ B) vt I T := by
  intro e he hI
  have hm := hT e he
  rw [sig_append_of_mem hm, hk.vmeta _ (hrs.sig_lt hm)]
  exact h e he hI

/-- what a node or a node list shows beyond `RtEPost`: the table `T'` it leaves (bound values have images and, the graph
    inputs `I` excepted, carry the metadata `vt` holds for their key) and that its empty-named live outputs `L` are not
    annotated -/
structure RtENsPost (V : Nat → ValueS) (x : Ext) (td : TData) (s : Store) (xs : Ext) (A B : Assoc) (s' : Store) (x' : Ext)
    (E EQ : List Nat) (AI : List (Name × Nat)) (vt : List (Name × Info × SS)) (I : List Nat)
    (T' : Table) (L : List Nat) : Prop extends RtEPost V x td s xs A B s' x' E EQ AI where
  tblIn : TblIn (A ++ B) T'
  tblM : TblM x' (A ++ B) vt I T'
  quiet : ∀ v ∈ L, nameTruthy (V v).name = false → v ∈ (A ++ B).map (·.1) ∧ x'.quant (sig (A ++ B) v) = none

theorem RtEPost.thenNs {V : Nat → ValueS} {x : Ext} {td : TData} {s s1 s2 : Store} {xs x1 x2 : Ext} {A B1 B2 : Assoc}
    {E1 E2 EQ1 EQ2 : List Nat} {AI1 AI2 : List (Name × Nat)} {vt : List (Name × Info × SS)}
    {I : List Nat} {T' : Table} {L : List Nat} (h1 : RtEPost V x td s xs A B1 s1 x1 E1 EQ1 AI1)
    (h2 : RtENsPost V x td s1 x1 (A ++ B1) B2 s2 x2 E2 EQ2 AI2 vt I T' L) :
    RtENsPost V x td s xs A (B1 ++ B2) s2 x2 (E1 ++ E2) (EQ1 ++ EQ2) (AI1 ++ AI2) vt I T' L := by
  have e : A ++ (B1 ++ B2) = A ++ B1 ++ B2 := (List.append_assoc _ _ _).symm
  exact { toRtEPost := h1.append h2.toRtEPost, tblIn := e ▸ h2.tblIn, tblM := e ▸ h2.tblM,
          quiet := e ▸ h2.quiet }

/-- a node, then the rest of the list: the quiet outputs of the node stay quiet -/
theorem RtENsPost.append {V : Nat → ValueS} {x : Ext} {td : TData} {s s1 s2 : Store} {xs x1 x2 : Ext} {A B1 B2 : Assoc}
    {E1 E2 EQ1 EQ2 : List Nat} {AI1 AI2 : List (Name × Nat)} {vt : List (Name × Info × SS)}
    {I : List Nat} {T1 T2 : Table} {L1 L2 : List Nat} (h1 : RtENsPost V x td s xs A B1 s1 x1 E1 EQ1 AI1 vt I T1 L1)
    (h2 : RtENsPost V x td s1 x1 (A ++ B1) B2 s2 x2 E2 EQ2 AI2 vt I T2 L2) :
    RtENsPost V x td s xs A (B1 ++ B2) s2 x2 (E1 ++ E2) (EQ1 ++ EQ2) (AI1 ++ AI2) vt I T2 (L1 ++ L2) :=
  { h1.toRtEPost.thenNs h2 with
    quiet := fun v hv hf => by
      rcases List.mem_append.mp hv with hv | hv
      · obtain ⟨hm, he⟩ := h1.quiet v hv hf
        rw [← List.append_assoc]
        exact ⟨mem_keys_append hm, by rw [sig_append_of_mem hm, h2.keep.quant _ (h1.rs.sig_lt hm)]; exact he⟩
      · exact (h1.toRtEPost.thenNs h2).quiet v hv hf }

theorem NStep.new_sig {V : Nat → ValueS} {s s' : Store} {xs x' : Ext} {vt : List (Name × Info × SS)}
    {qt : List (Name × SS)} {A : Assoc} {v : Nat} (ns : NStep s s' xs x' vt qt) (hrs : RS V s' A)
    (hm : v ∈ A.map (·.1)) (hge : s.nv ≤ sig A v) :
    x'.vmeta (sig A v) = metaOf vt (nm V v) ∧ x'.quant (sig A v) = quantOf qt (nm V v) := by
  obtain ⟨n, hn1, hn2, hn3⟩ := ns.new _ hge (hrs.sig_lt hm)
  have hname : (V v).name = some n := by rw [← hrs.sig_name hm]; exact hn1
  rw [nm_of_name hname]
  exact ⟨hn2, hn3⟩

theorem declareNodesE_of_core (vt : List (Name × Info × SS)) (qt : List (Name × SS)) (ns : List NodeE) (st : Store)
    (x : Ext) (tbl : Table) (st' : Store) (tbl' : Table)
    (h : declareNodes st tbl (eraseVT vt) (eraseNs ns) = .ok (st', tbl')) :
    ∃ x', declareNodesE st x tbl vt qt ns = .ok (st', x', tbl') := by
  have he := declareNodesE_erase vt qt ns st x tbl
  rw [h] at he
  cases hd : declareNodesE st x tbl vt qt ns with
  | error e => rw [hd] at he; simp [dropX] at he
  | ok r =>
    obtain ⟨a, b, c⟩ := r
    rw [hd] at he
    simp only [dropX, Except.ok.injEq, Prod.mk.injEq] at he
    obtain ⟨rfl, rfl⟩ := he
    exact ⟨b, rfl⟩

theorem map_viOfE_erase (V : Nat → ValueS) (x : Ext) (vs : List Nat) :
    (vs.map (viOfE V x)).map VInfoE.erase = vs.map (viOf V) := by
  simp [List.map_map, Function.comp_def, viOfE, VInfoE.erase, viOf]

end IrVerif.Scope
