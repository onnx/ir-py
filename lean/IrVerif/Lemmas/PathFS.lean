/-
C10 helper lemmas: the kernel walk on chains of real directories, `os.lstat` on the strings
`_joinrealpath` builds, fuel monotonicity.
-/
import IrVerif.Lemmas.PathStr
namespace IrVerif.Path

/-- names are entry names and every proper prefix of `l` is a directory -/
def Chain (fs : FS) (l : Loc) : Prop :=
  (∀ c ∈ l, Clean c) ∧ ∀ pre, pre <+: l → pre ≠ l → fs.get pre = some Node.dir

/-- a chain of real directories (no symbolic link on the way) ending in a directory -/
def RealDir (fs : FS) (l : Loc) : Prop := Chain fs l ∧ fs.get l = some Node.dir

/-- a location reached through real directories that exists and is not a symbolic link -/
def RealLoc (fs : FS) (l : Loc) : Prop :=
  Chain fs l ∧ ∃ nd, fs.get l = some nd ∧ ∀ t, nd ≠ Node.link t

theorem Node.dir_ne_link (t : Str) : Node.dir ≠ Node.link t := by simp
theorem Node.file_ne_link (i : Nat) (t : Str) : Node.file i ≠ Node.link t := by simp
theorem Node.link_or_not (n : Node) : (∃ t, n = Node.link t) ∨ ∀ t, n ≠ Node.link t := by cases n <;> simp

theorem kresolve_of_ne (fs : FS) (f : Nat) (cwd : Loc) {p : Str} (hp : p ≠ []) (fl : Bool) :
    kresolve fs f cwd p fl = walk fs f (startLoc cwd p) (splitSep p) fl := by
  unfold kresolve; rw [if_neg hp]

theorem kresolve_some {fs : FS} {f : Nat} {cwd : Loc} {p : Str} {fl : Bool} {l : Loc}
    (h : kresolve fs f cwd p fl = some l) : p ≠ [] ∧ walk fs f (startLoc cwd p) (splitSep p) fl = some l := by
  unfold kresolve at h
  split at h
  · cases h
  · exact ⟨‹_›, h⟩

/-- `os.lstat` when the kernel's walk stops at the last entry without following it -/
theorem lstat_of_kresolve {fs : FS} {f : Nat} {cwd : Loc} {p : Str} {l : Loc}
    (h : kresolve fs f cwd p false = (fs.get l).map fun _ => l) : lstat fs f cwd p = fs.get l := by
  unfold lstat; rw [h]; cases h' : fs.get l <;> simp [h']

theorem pjoin_ne_nil (a b : Str) (hb : b ≠ []) : pjoin a b ≠ [] := by
  unfold pjoin
  split
  · exact hb
  · split <;> simp [hb]

theorem FS.get_root (fs : FS) : fs.get [] = some Node.dir := by simp [FS.get]

theorem RealDir.root (fs : FS) : RealDir fs [] := by
  refine ⟨⟨by simp, ?_⟩, fs.get_root⟩
  intro pre hp hne
  exact absurd (List.prefix_nil.mp hp) hne

theorem RealDir.realLoc {fs : FS} {l : Loc} (h : RealDir fs l) : RealLoc fs l :=
  ⟨h.1, Node.dir, h.2, Node.dir_ne_link⟩

theorem RealDir.startLoc {fs : FS} {cur : Loc} (h : RealDir fs cur) (t : Str) : RealDir fs (startLoc cur t) := by
  unfold Path.startLoc; split
  · exact RealDir.root fs
  · exact h

theorem RealDir.get_prefix {fs : FS} {l pre : Loc} (h : RealDir fs l) (hp : pre <+: l) :
    fs.get pre = some Node.dir := by
  by_cases e : pre = l
  · subst e; exact h.2
  · exact h.1.2 pre hp e

theorem RealDir.prefix {fs : FS} {l pre : Loc} (h : RealDir fs l) (hp : pre <+: l) :
    RealDir fs pre := by
  refine ⟨⟨fun c hc => h.1.1 c (hp.subset hc), ?_⟩, h.get_prefix hp⟩
  intro q hq _
  exact h.get_prefix (hq.trans hp)

theorem RealDir.dropLast {fs : FS} {l : Loc} (h : RealDir fs l) : RealDir fs l.dropLast :=
  h.prefix (List.dropLast_prefix l)

theorem RealDir.up {fs : FS} {l : Loc} (h : RealDir fs l) (k : Nat) : RealDir fs (up k l) :=
  h.prefix (List.take_prefix _ l)

theorem Chain.snoc {fs : FS} {l : Loc} (h : RealDir fs l) {c : Str} (hc : Clean c) :
    Chain fs (l ++ [c]) := by
  refine ⟨clean_snoc h.1.1 hc, ?_⟩
  · intro pre hp hne
    rcases List.prefix_concat_iff.mp hp with e | hp'
    · exact absurd e hne
    · exact h.get_prefix hp'

theorem Chain.realDir_dropLast {fs : FS} {l : Loc} (h : Chain fs l) : RealDir fs l.dropLast := by
  rcases eq_nil_or_snoc l with rfl | ⟨l', x, rfl⟩
  · simpa using RealDir.root fs
  · simp only [List.dropLast_concat]
    have hp : l' <+: l' ++ [x] := List.prefix_append _ _
    have hne : l' ≠ l' ++ [x] := by
      intro e
      have := congrArg List.length e
      simp at this
    refine ⟨⟨fun c hc => h.1 c (by simp [hc]), ?_⟩, h.2 l' hp hne⟩
    intro q hq hqne
    refine h.2 q (hq.trans hp) ?_
    intro e
    subst e
    have := hq.length_le
    simp at this
    omega

/-! ### the walk -/

theorem walk_nil (fs : FS) (f : Nat) (cur : Loc) (fl : Bool) : walk fs f cur [] fl = some cur := by
  rw [walk]

theorem not_special_of_clean {c : Str} (h : Clean c) : ¬ (c = [] ∨ c = DOT) ∧ c ≠ DOTDOT :=
  ⟨by rintro (e | e); exact h.1 e; exact h.2.1 e, h.2.2.1⟩

theorem Clean.of_guards {c : Str} (h1 : ¬ (c = [] ∨ c = DOT)) (h2 : c ≠ DOTDOT) (hns : '/' ∉ c) : Clean c :=
  ⟨fun e => h1 (Or.inl e), fun e => h1 (Or.inr e), h2, hns⟩

theorem walk_step_plain (fs : FS) (f : Nat) (cur : Loc) (c : Str) (rest : List Str) (fl : Bool)
    (hd : fs.get cur = some Node.dir) (h1 : ¬ (c = [] ∨ c = DOT)) (h2 : c ≠ DOTDOT) (n : Node)
    (hn : fs.get (cur ++ [c]) = some n) (hnl : ∀ t, n ≠ Node.link t) :
    walk fs f cur (c :: rest) fl = walk fs f (cur ++ [c]) rest fl := by
  cases n with
  | link t => exact absurd rfl (hnl t)
  | _ => rw [walk]; simp only [hd, h1, h2, if_false, hn]

theorem walk_step_none (fs : FS) (f : Nat) (cur : Loc) (c : Str) (rest : List Str) (fl : Bool)
    (hd : fs.get cur = some Node.dir) (h1 : ¬ (c = [] ∨ c = DOT)) (h2 : c ≠ DOTDOT)
    (hn : fs.get (cur ++ [c]) = none) :
    walk fs f cur (c :: rest) fl = none := by
  rw [walk]
  simp only [hd, h1, h2, if_false, hn]

theorem walk_step_skip (fs : FS) (f : Nat) (cur : Loc) (c : Str) (rest : List Str) (fl : Bool)
    (hd : fs.get cur = some Node.dir) (hc : c = [] ∨ c = DOT) :
    walk fs f cur (c :: rest) fl = walk fs f cur rest fl := by
  rw [walk]
  simp only [hd, hc, if_true]

/-- empty pieces (doubled or trailing separators) are no lookup -/
theorem walk_empties (fs : FS) (f : Nat) (cur : Loc) (hd : fs.get cur = some Node.dir) (n : Nat) (rest : List Str)
    (fl : Bool) : walk fs f cur (List.replicate n [] ++ rest) fl = walk fs f cur rest fl := by
  induction n with
  | zero => simp
  | succ n ih =>
    rw [List.replicate_succ, List.cons_append, walk_step_skip fs f cur [] _ fl hd (Or.inl rfl), ih]

theorem walk_step_up (fs : FS) (f : Nat) (cur : Loc) (rest : List Str) (fl : Bool)
    (hd : fs.get cur = some Node.dir) :
    walk fs f cur (DOTDOT :: rest) fl = walk fs f cur.dropLast rest fl := by
  rw [walk]
  have h1 : ¬ (DOTDOT = ([] : Str) ∨ DOTDOT = DOT) := by decide
  simp only [hd, h1, if_false, if_true]

theorem walk_not_dir (fs : FS) (f : Nat) (cur : Loc) (c : Str) (rest : List Str) (fl : Bool)
    (hd : fs.get cur ≠ some Node.dir) : walk fs f cur (c :: rest) fl = none := by
  rw [walk]
  split
  · rename_i h; exact absurd h hd
  · rfl

/-- walking names along a chain of real directories just descends -/
theorem walk_real_prefix (fs : FS) (f : Nat) (suf : List Str) :
    ∀ (pre : Loc) (rest : List Str) (fl : Bool), RealDir fs (pre ++ suf) →
      walk fs f pre (suf ++ rest) fl = walk fs f (pre ++ suf) rest fl := by
  induction suf with
  | nil => intro pre rest fl _; simp
  | cons c suf ih =>
    intro pre rest fl h
    have hpre : fs.get pre = some Node.dir := h.get_prefix (List.prefix_append _ _)
    have hc : Clean c := h.1.1 c (by simp)
    have hpc : fs.get (pre ++ [c]) = some Node.dir :=
      h.get_prefix (by
        have : pre ++ c :: suf = (pre ++ [c]) ++ suf := by simp
        rw [this]; exact List.prefix_append _ _)
    rw [List.cons_append, walk_step_plain fs f pre c _ fl hpre (not_special_of_clean hc).1 (not_special_of_clean hc).2 Node.dir hpc Node.dir_ne_link]
    have := ih (pre ++ [c]) rest fl (by simpa using h)
    simpa using this

theorem walk_ups (fs : FS) (f : Nat) (cwd : Loc) (h : RealDir fs cwd) (rest : List Str) (fl : Bool)
    (k : Nat) : ∀ j, walk fs f (up j cwd) (List.replicate k DOTDOT ++ rest) fl =
      walk fs f (up (j + k) cwd) rest fl := by
  induction k with
  | zero => intro j; simp
  | succ k ih =>
    intro j
    rw [List.replicate_succ, List.cons_append, walk_step_up fs f _ _ fl (h.up j).2, dropLast_up,
      ih (j + 1)]
    congr 2
    omega

theorem walk_last_nofollow (fs : FS) (f : Nat) (cur : Loc) (name : Str)
    (hd : fs.get cur = some Node.dir) (hc : Clean name) :
    walk fs f cur [name] false = (fs.get (cur ++ [name])).map fun _ => cur ++ [name] := by
  obtain ⟨h1, h2⟩ := not_special_of_clean hc
  rw [walk]
  simp only [hd, h1, h2, if_false]
  cases hn : fs.get (cur ++ [name]) with
  | none => rfl
  | some n => cases n <;> simp [walk]

theorem splitSep_render (l : Loc) (hl : ∀ c ∈ l, Clean c) (hne : l ≠ []) :
    splitSep (render l) = [] :: l := by
  unfold render
  rw [splitSep_sep_cons, splitSep_joinSep l (fun c hc => (hl c hc).2.2.2) hne]

theorem kresolve_absStr_split (fs : FS) (f : Nat) (cwd : Loc) (k : Nat) (hk : 1 ≤ k) (l : Loc) (fl : Bool) :
    kresolve fs f cwd (absStr k l) fl = walk fs f [] (splitSep (joinSep l)) fl := by
  obtain ⟨j, rfl⟩ : ∃ j, k = j + 1 := ⟨k - 1, by omega⟩
  unfold kresolve absStr
  have hne : List.replicate (j + 1) '/' ++ joinSep l ≠ [] := by simp [List.replicate_succ]
  have hab : isabs (List.replicate (j + 1) '/' ++ joinSep l) = true := by simp [List.replicate_succ, isabs]
  simp only [hne, if_false, startLoc, hab, if_true]
  rw [splitSep_replicate, walk_empties fs f [] fs.get_root]

/-- the kernel resolves an absolute normal form by walking its names from the root -/
theorem kresolve_absStr_walk (fs : FS) (f : Nat) (cwd : Loc) (k : Nat) (hk : 1 ≤ k) (l : Loc)
    (hl : ∀ c ∈ l, '/' ∉ c) (fl : Bool) : kresolve fs f cwd (absStr k l) fl = walk fs f [] l fl := by
  rw [kresolve_absStr_split fs f cwd k hk]
  by_cases hne : l = []
  · subst hne
    have : splitSep (joinSep ([] : Loc)) = [[]] := by decide
    rw [this, walk_step_skip fs f [] [] _ fl fs.get_root (Or.inl rfl)]
  · rw [splitSep_joinSep l hl hne]

theorem kresolve_render_walk (fs : FS) (f : Nat) (cwd : Loc) (l : Loc) (hl : ∀ c ∈ l, '/' ∉ c) (fl : Bool) :
    kresolve fs f cwd (render l) fl = walk fs f [] l fl := by
  rw [← absStr_one]; exact kresolve_absStr_walk fs f cwd 1 (Nat.le_refl 1) l hl fl

theorem kresolve_render_snoc (fs : FS) (f : Nat) (cwd : Loc) (l : Loc) (x : Str) (hl : RealDir fs l) (hx : Clean x) :
    kresolve fs f cwd (render (l ++ [x])) false = (fs.get (l ++ [x])).map fun _ => l ++ [x] := by
  rw [kresolve_render_walk fs f cwd _ (fun c hc => (clean_snoc hl.1.1 hx c hc).2.2.2)]
  have := walk_real_prefix fs f l [] [x] false (by simpa using hl)
  simp only [List.nil_append] at this
  rw [this, walk_last_nofollow fs f l x hl.2 hx]

theorem lstat_render_snoc (fs : FS) (f : Nat) (cwd : Loc) (l : Loc) (x : Str) (hl : RealDir fs l) (hx : Clean x) :
    lstat fs f cwd (render (l ++ [x])) = fs.get (l ++ [x]) :=
  lstat_of_kresolve (kresolve_render_snoc fs f cwd l x hl hx)

/-- `os.lstat(join(path, name))` for a `path` naming the real directory `cur` is the entry
`cur/name` itself (posixpath.py:468-476) -/
theorem lstat_rep (fs : FS) (kf : Nat) (cwd : Loc) (hcwd : RealDir fs cwd) {path : Str} {cur : Loc}
    (hr : Rep cwd path cur) (hcur : RealDir fs cur) {name : Str} (hn : Clean name) :
    lstat fs kf cwd (pjoin path name) = fs.get (cur ++ [name]) := by
  refine lstat_of_kresolve ?_
  rcases (hr.push hn).inv with ⟨hl, hs⟩ | ⟨k, names, hnm, hs, hl⟩
  · rw [hs]; exact kresolve_render_snoc fs kf cwd cur name hcur hn
  · have hpieces := relPieces k names (fun c hc => (hnm c hc).piece)
    have hne : List.replicate k DOTDOT ++ names ≠ [] := by
      intro e
      obtain ⟨rfl, rfl⟩ := relParts_eq_nil e
      have : pjoin path name ≠ [] := pjoin_ne_nil _ _ hn.1
      exact this (by rw [hs]; rfl)
    have hab : isabs (relStr k names) = false := joinSep_isabs _ hpieces
    rw [hs, kresolve_of_ne fs kf cwd (p := relStr k names) (fun e => hne ((joinSep_eq_nil _ hpieces).mp e))]
    simp only [startLoc, hab, Bool.false_eq_true, if_false]
    unfold relStr
    rw [splitSep_joinSep _ (fun c hc => (hpieces c hc).2) hne]
    rcases eq_nil_or_snoc names with rfl | ⟨n', x, rfl⟩
    · -- no name after the `..`s: `cur ++ [name]` is the ancestor `up k cwd` of the working directory, a directory
      simp only [List.append_nil] at hl
      have hu := walk_ups fs kf cwd hcwd [] false k 0
      simp only [List.append_nil, Nat.zero_add, up_zero] at hu
      rw [List.append_nil, hu, walk_nil, ← hl]
      have : fs.get (cur ++ [name]) = some Node.dir := by
        rw [hl]; exact (hcwd.up k).2
      rw [this]; rfl
    · have hl' : cur ++ [name] = (up k cwd ++ n') ++ [x] := by rw [hl]; simp
      obtain ⟨hc', hx⟩ := List.append_singleton_inj.mp hl'
      subst hx
      have hu := walk_ups fs kf cwd hcwd (n' ++ [name]) false k 0
      simp only [Nat.zero_add, up_zero] at hu
      rw [hu]
      have := walk_real_prefix fs kf n' (up k cwd) [name] false (by rw [← hc']; exact hcur)
      rw [this, ← hc', walk_last_nofollow fs kf cur name hcur.2 hn]


theorem walk_step_link (fs : FS) (f : Nat) (cur : Loc) (c : Str) (rest : List Str) (t : Str)
    (hd : fs.get cur = some Node.dir) (h1 : ¬ (c = [] ∨ c = DOT)) (h2 : c ≠ DOTDOT)
    (hn : fs.get (cur ++ [c]) = some (Node.link t)) :
    walk fs (f + 1) cur (c :: rest) true = walk fs f (startLoc cur t) (splitSep t ++ rest) true := by
  rw [walk]
  simp only [hd, h1, h2, if_false, hn, Bool.true_eq_false, and_false]

theorem walk_step_link_zero (fs : FS) (cur : Loc) (c : Str) (rest : List Str) (t : Str)
    (hd : fs.get cur = some Node.dir) (h1 : ¬ (c = [] ∨ c = DOT)) (h2 : c ≠ DOTDOT)
    (hn : fs.get (cur ++ [c]) = some (Node.link t)) :
    walk fs 0 cur (c :: rest) true = none := by
  rw [walk]
  simp only [hd, h1, h2, if_false, hn, Bool.true_eq_false, and_false]

/-- what a successful walk (following links) did at its first component; following a link costs one
unit of the link budget and continues with the target's components in front of the remaining ones -/
inductive WalkStep (fs : FS) (f : Nat) (cur : Loc) (c : Str) (rest : List Str) (l : Loc) : Prop
  | skip : (c = [] ∨ c = DOT) → walk fs f cur rest true = some l → WalkStep fs f cur c rest l
  | up : c = DOTDOT → walk fs f cur.dropLast rest true = some l → WalkStep fs f cur c rest l
  | plain (n : Node) : ¬ (c = [] ∨ c = DOT) → c ≠ DOTDOT → fs.get (cur ++ [c]) = some n →
      (∀ t, n ≠ Node.link t) → walk fs f (cur ++ [c]) rest true = some l → WalkStep fs f cur c rest l
  | link (t : Str) (f' : Nat) : ¬ (c = [] ∨ c = DOT) → c ≠ DOTDOT →
      fs.get (cur ++ [c]) = some (Node.link t) → f = f' + 1 →
      walk fs f' (startLoc cur t) (splitSep t ++ rest) true = some l → WalkStep fs f cur c rest l

theorem walk_cons_inv (fs : FS) (f : Nat) (cur : Loc) (c : Str) (rest : List Str) (l : Loc)
    (h : walk fs f cur (c :: rest) true = some l) :
    fs.get cur = some Node.dir ∧ WalkStep fs f cur c rest l := by
  by_cases hd : fs.get cur = some Node.dir
  · refine ⟨hd, ?_⟩
    by_cases h1 : c = [] ∨ c = DOT
    · rw [walk_step_skip fs f cur c rest true hd h1] at h; exact .skip h1 h
    by_cases h2 : c = DOTDOT
    · subst h2; rw [walk_step_up fs f cur rest true hd] at h; exact .up rfl h
    cases hn : fs.get (cur ++ [c]) with
    | none => rw [walk_step_none fs f cur c rest true hd h1 h2 hn] at h; cases h
    | some n =>
      rcases n.link_or_not with ⟨t, rfl⟩ | hnl
      · cases f with
        | zero => rw [walk_step_link_zero fs cur c rest t hd h1 h2 hn] at h; cases h
        | succ f' => rw [walk_step_link fs f' cur c rest t hd h1 h2 hn] at h; exact .link t f' h1 h2 hn rfl h
      · rw [walk_step_plain fs f cur c rest true hd h1 h2 n hn hnl] at h; exact .plain n h1 h2 hn hnl h
  · rw [walk_not_dir fs f cur c rest true hd] at h
    exact absurd h (by simp)

theorem walk_mono (fs : FS) : ∀ (f : Nat) (comps : List Str) (cur l : Loc) (g : Nat),
    walk fs f cur comps true = some l → f ≤ g → walk fs g cur comps true = some l := by
  intro f
  induction f using Nat.strongRecOn with
  | _ f ihf =>
    intro comps
    induction comps with
    | nil => intro cur l g h _; rw [walk_nil] at h ⊢; exact h
    | cons c rest ih =>
      intro cur l g h hg
      obtain ⟨hd, st⟩ := walk_cons_inv fs f cur c rest l h
      cases st with
      | skip h1 hw => rw [walk_step_skip fs g cur c rest true hd h1]; exact ih _ _ g hw hg
      | up h2 hw => subst h2; rw [walk_step_up fs g cur rest true hd]; exact ih _ _ g hw hg
      | plain n h1 h2 hn hnl hw =>
        rw [walk_step_plain fs g cur c rest true hd h1 h2 n hn hnl]; exact ih _ _ g hw hg
      | link t f' h1 h2 hn hf hw =>
        subst hf
        obtain ⟨g', rfl⟩ : ∃ g', g = g' + 1 := ⟨g - 1, by omega⟩
        rw [walk_step_link fs g' cur c rest t hd h1 h2 hn]
        exact ihf f' (by omega) _ _ _ g' hw (by omega)

theorem walk_det (fs : FS) (f g : Nat) (comps : List Str) (cur l1 l2 : Loc)
    (h1 : walk fs f cur comps true = some l1) (h2 : walk fs g cur comps true = some l2) : l1 = l2 := by
  have a := walk_mono fs f comps cur l1 (max f g) h1 (Nat.le_max_left _ _)
  have b := walk_mono fs g comps cur l2 (max f g) h2 (Nat.le_max_right _ _)
  rw [a] at b
  exact Option.some.inj b

/-- a successful walk over `a ++ b` splits: the part over `a` follows `k` links at most and reaches
some `d`, the part over `b` continues from `d` with the links that are left -/
theorem walk_append_inv (fs : FS) : ∀ (f : Nat) (a : List Str) (cur : Loc) (b : List Str) (l : Loc),
    walk fs f cur (a ++ b) true = some l →
    ∃ d k, k ≤ f ∧ walk fs k cur a true = some d ∧ walk fs (f - k) d b true = some l := by
  intro f
  induction f using Nat.strongRecOn with
  | _ f ihf =>
    intro a
    induction a with
    | nil =>
      intro cur b l h
      exact ⟨cur, 0, Nat.zero_le _, walk_nil .., by simpa using h⟩
    | cons c a ih =>
      intro cur b l h
      rw [List.cons_append] at h
      obtain ⟨hd, st⟩ := walk_cons_inv fs f cur c (a ++ b) l h
      cases st with
      | skip h1 hw =>
        obtain ⟨d, k, hk, ha, hb⟩ := ih _ _ _ hw
        exact ⟨d, k, hk, by rw [walk_step_skip fs k cur c a true hd h1]; exact ha, hb⟩
      | up h2 hw =>
        subst h2
        obtain ⟨d, k, hk, ha, hb⟩ := ih _ _ _ hw
        exact ⟨d, k, hk, by rw [walk_step_up fs k cur a true hd]; exact ha, hb⟩
      | plain n h1 h2 hn hnl hw =>
        obtain ⟨d, k, hk, ha, hb⟩ := ih _ _ _ hw
        exact ⟨d, k, hk, by rw [walk_step_plain fs k cur c a true hd h1 h2 n hn hnl]; exact ha, hb⟩
      | link t f' h1 h2 hn hf hw =>
        subst hf
        rw [← List.append_assoc] at hw
        obtain ⟨d, k, hk, ha, hb⟩ := ihf f' (by omega) _ _ _ _ hw
        refine ⟨d, k + 1, by omega, ?_, ?_⟩
        · rw [walk_step_link fs k cur c a t hd h1 h2 hn]; exact ha
        · have : f' + 1 - (k + 1) = f' - k := by omega
          rw [this]; exact hb

theorem walk_append_of (fs : FS) : ∀ (k : Nat) (a : List Str) (cur d : Loc) (j : Nat) (b : List Str) (l : Loc),
    walk fs k cur a true = some d → walk fs j d b true = some l →
    walk fs (k + j) cur (a ++ b) true = some l := by
  intro k
  induction k using Nat.strongRecOn with
  | _ k ihk =>
    intro a
    induction a with
    | nil =>
      intro cur d j b l ha hb
      rw [walk_nil] at ha; cases ha
      exact walk_mono fs j b cur l (k + j) hb (by omega)
    | cons c a ih =>
      intro cur d j b l ha hb
      rw [List.cons_append]
      obtain ⟨hd, st⟩ := walk_cons_inv fs k cur c a d ha
      cases st with
      | skip h1 hw => rw [walk_step_skip fs _ cur c _ true hd h1]; exact ih _ _ _ _ _ hw hb
      | up h2 hw => subst h2; rw [walk_step_up fs _ cur _ true hd]; exact ih _ _ _ _ _ hw hb
      | plain n h1 h2 hn hnl hw =>
        rw [walk_step_plain fs _ cur c _ true hd h1 h2 n hn hnl]; exact ih _ _ _ _ _ hw hb
      | link t k' h1 h2 hn hf hw =>
        subst hf
        have e : k' + 1 + j = (k' + j) + 1 := by omega
        rw [e, walk_step_link fs (k' + j) cur c _ t hd h1 h2 hn, ← List.append_assoc]
        exact ihk k' (by omega) _ _ _ _ _ _ hw hb

theorem walk_append_some (fs : FS) (f : Nat) (a : List Str) (cur : Loc) (b : List Str) (l : Loc)
    (h : walk fs f cur (a ++ b) true = some l) :
    ∃ d, walk fs f cur a true = some d ∧ walk fs f d b true = some l := by
  obtain ⟨d, k, hk, ha, hb⟩ := walk_append_inv fs f a cur b l h
  exact ⟨d, walk_mono fs k a cur d f ha hk, walk_mono fs (f - k) b d l f hb (by omega)⟩

theorem exists_min_fuel (P : Nat → Prop) (f : Nat) (h : P f) : ∃ m, P m ∧ m ≤ f ∧ ∀ g, P g → m ≤ g := by
  induction f using Nat.strongRecOn with
  | _ f ih =>
    by_cases hm : ∀ g, P g → f ≤ g
    · exact ⟨f, h, Nat.le_refl _, hm⟩
    · have : ∃ g, P g ∧ g < f := by
        apply Classical.byContradiction
        intro hc
        apply hm
        intro g hg
        apply Classical.byContradiction
        intro hlt
        exact hc ⟨g, hg, by omega⟩
      obtain ⟨g, hg, hlt⟩ := this
      obtain ⟨m, hm1, hm2, hm3⟩ := ih g hlt hg
      exact ⟨m, hm1, by omega, hm3⟩

end IrVerif.Path
