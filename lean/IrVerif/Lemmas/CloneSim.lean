/-
Helper development for C13_faithful: the observation of an object (what serialization and every
public accessor except the use-def back links can see), the simulation relation "clone and
original are observationally the same", and what each leaf of the cloner does to it (logic `simL`);
the recursive functions are walked in Lemmas/CloneSpec.lean.
-/
import IrVerif.Lemmas.Clone
import IrVerif.Lemmas.CloneEff
import IrVerif.Lemmas.ListFacts
namespace IrVerif.Clone

/-! ### cores: a cell without the back links (users, owning graph, ownership flags, producer) -/

/-- every cell of `w1` is still there in `w2` with the same core -/
def CoreLe (w1 w2 : World) : Prop := ∀ (i : Nat) (c : Cell), coreAt w1 i = some c → coreAt w2 i = some c

theorem CoreLe.refl (w : World) : CoreLe w w := fun _ _ h => h
theorem CoreLe.trans {a b c : World} (h1 : CoreLe a b) (h2 : CoreLe b c) : CoreLe a c :=
  fun i x h => h2 i x (h1 i x h)

theorem coreAt_lt {w : World} {i : Nat} {c : Cell} (h : coreAt w i = some c) : i < w.length := by
  unfold coreAt at h
  rcases Nat.lt_or_ge i w.length with h' | h'
  · exact h'
  · rw [List.getElem?_eq_none h'] at h; cases h

theorem CoreLe.append (w : World) (c : Cell) : CoreLe w (w ++ [c]) := by
  intro i x h
  have := coreAt_lt h
  unfold coreAt at *
  rw [List.getElem?_append_left this]
  exact h

theorem CoreLe.appendList (w : World) : ∀ ext : World, CoreLe w (w ++ ext)
  | [] => by rw [List.append_nil]; exact CoreLe.refl _
  | c :: ext => by
    have h1 := CoreLe.append w c
    have h2 := CoreLe.appendList (w ++ [c]) ext
    rw [List.append_assoc] at h2
    exact h1.trans h2

theorem CoreLe.length_le {w1 w2 : World} (h : CoreLe w1 w2) : w1.length ≤ w2.length := by
  rcases Nat.lt_or_ge w2.length w1.length with hlt | hge
  · exfalso
    have : w2.length < w1.length := hlt
    obtain ⟨c, hc⟩ : ∃ c, coreAt w1 w2.length = some c := by
      unfold coreAt; rw [List.getElem?_eq_getElem this]; exact ⟨_, rfl⟩
    have := coreAt_lt (h _ _ hc)
    omega
  · exact hge

/-- overwriting a cell by one with the same core -/
theorem CoreLe.set {w : World} {i : Nat} {c c' : Cell} (h : w[i]? = some c) (hc : c'.core = c.core) :
    CoreLe w (w.set i c') := by
  intro j x hx
  unfold coreAt at *
  by_cases hij : i = j
  · subst hij
    rw [List.getElem?_set_self (lt_of_getElem? h)]
    rw [h] at hx
    simp only [Option.map_some] at hx ⊢
    rw [hc]; exact hx
  · rw [List.getElem?_set_ne hij]; exact hx

theorem coreAt_append_new (w : World) (c : Cell) : coreAt (w ++ [c]) w.length = some c.core := by
  unfold coreAt
  simp

/-- two values with the same observation -/
def ValSim (w : World) (v v' : Nat) : Prop := ∃ i, vinfo w v = some i ∧ vinfo w v' = some i

/-- a reference is kept as it is (`None`, an outer-scope value) or replaced by a value with the
    same observation (in particular the same name) -/
def RefSim (w : World) (r r' : Option Nat) : Prop :=
  r' = r ∨ ∃ v v', r = some v ∧ r' = some v' ∧ ValSim w v v'

/-- same entries (`metadata_props`) -/
def PropsSim (w : World) (d d' : Nat) : Prop :=
  ∃ x x', cDict w d = some x ∧ cDict w d' = some x' ∧ x'.data = x.data
/-- same entries and same invalidated keys (`meta`) -/
def MetaSim (w : World) (d d' : Nat) : Prop :=
  ∃ x x', cDict w d = some x ∧ cDict w d' = some x' ∧ x'.data = x.data ∧ x'.invalid = x.invalid

def SpecSim (w : World) (sp sp' : DevSpec) : Prop :=
  sp'.payload = sp.payload ∧ RefSim w sp.value sp'.value
def DevSim (w : World) (d d' : List DevCfg) : Prop :=
  All2 (fun c c' => c'.cfg = c.cfg ∧ All2 (SpecSim w) c.specs c'.specs) d d'

/-- the initializer dictionary Python builds from a list of values
    (`{initializer.name: initializer for ...}`) -/
def initDict (w : World) (vs : List Nat) : List (String × Nat) :=
  vs.foldl (fun acc v => match cVal w v with
    | some x => match x.name with
      | some nm => dictSet acc nm v
      | none => acc
    | none => acc) []

/-- one step of that fold -/
def initStep (w : World) (acc : List (String × Nat)) (v : Nat) : List (String × Nat) :=
  match cVal w v with
  | some x => match x.name with
    | some nm => dictSet acc nm v
    | none => acc
  | none => acc

theorem initDict_eq (w : World) (vs : List Nat) : initDict w vs = vs.foldl (initStep w) [] := rfl

mutual
/-- an attribute entry of the original and the entry made from it: the same attribute object
    (graph-free attributes are shared), filed under its own name; or a new attribute object with
    the same name and doc string holding observationally equal graphs -/
inductive AttrSim (w : World) : String × Nat → String × Nat → Prop
  | shared (k : String) (a : Nat) (as : AttrS) :
      cAttr w a = some as → as.v.isGraphy = false → AttrSim w (k, a) (as.name, a)
  | graph (k : String) (a a' : Nat) (as : AttrS) (g g' : Nat) :
      cAttr w a = some as → as.v = .graph g →
      cAttr w a' = some { name := k, doc := as.doc, v := .graph g' } →
      GraphSim w g g' → AttrSim w (k, a) (k, a')
  | graphs (k : String) (a a' : Nat) (as : AttrS) (gs gs' : List Nat) :
      cAttr w a = some as → as.v = .graphs gs →
      cAttr w a' = some { name := k, doc := as.doc, v := .graphs gs' } →
      GraphsSim w gs gs' → AttrSim w (k, a) (k, a')
inductive AttrsSim (w : World) : List (String × Nat) → List (String × Nat) → Prop
  | nil : AttrsSim w [] []
  | cons {x y : String × Nat} {xs ys : List (String × Nat)} :
      AttrSim w x y → AttrsSim w xs ys → AttrsSim w (x :: xs) (y :: ys)
/-- nodes with the same operator fields, pairwise related inputs, outputs and attributes (the
    attribute container of the copy is the Python `dict` built from the copied attributes), equal
    metadata and related device annotations -/
inductive NodeSim (w : World) : Nat → Nat → Prop
  | mk (n n' : Nat) (ns ns' : NodeS) (newAttrs : List (String × Nat)) :
      cNode w n = some ns → cNode w n' = some ns' →
      ns'.name = ns.name → ns'.doc = ns.doc → ns'.domain = ns.domain → ns'.opType = ns.opType →
      ns'.overload = ns.overload → ns'.version = ns.version →
      All2 (RefSim w) ns.inputs ns'.inputs →
      All2 (ValSim w) ns.outputs ns'.outputs →
      AttrsSim w ns.attrs newAttrs → ns'.attrs = dictOf newAttrs →
      PropsSim w ns.props ns'.props → MetaSim w ns.mstore ns'.mstore →
      DevSim w ns.dev ns'.dev → NodeSim w n n'
inductive NodesSim (w : World) : List Nat → List Nat → Prop
  | nil : NodesSim w [] []
  | cons {x y : Nat} {xs ys : List Nat} : NodeSim w x y → NodesSim w xs ys → NodesSim w (x :: xs) (y :: ys)
/-- graphs with the same name, doc string and opset imports, pairwise observationally equal
    inputs, initializers, nodes and outputs, and equal metadata -/
inductive GraphSim (w : World) : Nat → Nat → Prop
  | mk (g g' : Nat) (gs gs' : GraphS) (inits' : List Nat) :
      cGraph w g = some gs → cGraph w g' = some gs' →
      gs'.name = gs.name → gs'.doc = gs.doc → gs'.opsets = gs.opsets →
      All2 (ValSim w) gs.inputs gs'.inputs →
      All2 (ValSim w) (gs.inits.map (·.2)) inits' → gs'.inits = initDict w inits' →
      NodesSim w gs.nodes gs'.nodes →
      All2 (ValSim w) gs.outputs gs'.outputs →
      PropsSim w gs.props gs'.props → MetaSim w gs.mstore gs'.mstore → GraphSim w g g'
inductive GraphsSim (w : World) : List Nat → List Nat → Prop
  | nil : GraphsSim w [] []
  | cons {x y : Nat} {xs ys : List Nat} : GraphSim w x y → GraphsSim w xs ys → GraphsSim w (x :: xs) (y :: ys)
end

/-! ### everything above is stable when the heap grows and back links change -/

theorem All2.mono {α β : Type} {R S : α → β → Prop} (h : ∀ a b, R a b → S a b) :
    ∀ {l : List α} {l' : List β}, All2 R l l' → All2 S l l'
  | _, _, .nil => .nil
  | _, _, .cons r rs => .cons (h _ _ r) (All2.mono h rs)

section
variable {w1 w2 : World} (hle : CoreLe w1 w2)
include hle

theorem cType_mono {i : Nat} {t : TypeS} (h : cType w1 i = some t) : cType w2 i = some t := by
  unfold cType at *
  cases hc : coreAt w1 i with
  | none => rw [hc] at h; cases h
  | some c => rw [hle i c hc]; rw [hc] at h; exact h

theorem cShape_mono {i : Nat} {t : ShapeS} (h : cShape w1 i = some t) : cShape w2 i = some t := by
  unfold cShape at *
  cases hc : coreAt w1 i with
  | none => rw [hc] at h; cases h
  | some c => rw [hle i c hc]; rw [hc] at h; exact h

theorem cDict_mono {i : Nat} {t : DictS} (h : cDict w1 i = some t) : cDict w2 i = some t := by
  unfold cDict at *
  cases hc : coreAt w1 i with
  | none => rw [hc] at h; cases h
  | some c => rw [hle i c hc]; rw [hc] at h; exact h

theorem cVal_mono {i : Nat} {t : ValueS} (h : cVal w1 i = some t) : cVal w2 i = some t := by
  unfold cVal at *
  cases hc : coreAt w1 i with
  | none => rw [hc] at h; cases h
  | some c => rw [hle i c hc]; rw [hc] at h; exact h

theorem cNode_mono {i : Nat} {t : NodeS} (h : cNode w1 i = some t) : cNode w2 i = some t := by
  unfold cNode at *
  cases hc : coreAt w1 i with
  | none => rw [hc] at h; cases h
  | some c => rw [hle i c hc]; rw [hc] at h; exact h

theorem cGraph_mono {i : Nat} {t : GraphS} (h : cGraph w1 i = some t) : cGraph w2 i = some t := by
  unfold cGraph at *
  cases hc : coreAt w1 i with
  | none => rw [hc] at h; cases h
  | some c => rw [hle i c hc]; rw [hc] at h; exact h

theorem cAttr_mono {i : Nat} {t : AttrS} (h : cAttr w1 i = some t) : cAttr w2 i = some t := by
  unfold cAttr at *
  cases hc : coreAt w1 i with
  | none => rw [hc] at h; cases h
  | some c => rw [hle i c hc]; rw [hc] at h; exact h

theorem optType_mono {o : Option Nat} {t : Option TypeS} (h : optType w1 o = some t) :
    optType w2 o = some t := by
  cases o with
  | none => exact h
  | some i =>
    simp only [optType] at *
    cases hc : cType w1 i with
    | none => rw [hc] at h; cases h
    | some x => rw [cType_mono hle hc]; rw [hc] at h; exact h

theorem optShape_mono {o : Option Nat} {t : Option (List Dim × List (Option String))}
    (h : optShape w1 o = some t) : optShape w2 o = some t := by
  cases o with
  | none => exact h
  | some i =>
    simp only [optShape] at *
    cases hc : cShape w1 i with
    | none => rw [hc] at h; cases h
    | some x => rw [cShape_mono hle hc]; rw [hc] at h; exact h

theorem vinfo_mono {v : Nat} {i : VInfo} (h : vinfo w1 v = some i) : vinfo w2 v = some i := by
  unfold vinfo at *
  cases hv : cVal w1 v with
  | none => rw [hv] at h; cases h
  | some vs =>
    rw [hv] at h
    rw [cVal_mono hle hv]
    simp only at h ⊢
    cases ht : optType w1 vs.type with
    | none => rw [ht] at h; cases h
    | some ty =>
      cases hs : optShape w1 vs.shape with
      | none => rw [ht, hs] at h; cases h
      | some sh =>
        cases hp : cDict w1 vs.props with
        | none => rw [ht, hs, hp] at h; cases h
        | some p =>
          cases hm : cDict w1 vs.mstore with
          | none => rw [ht, hs, hp, hm] at h; cases h
          | some m =>
            rw [ht, hs, hp, hm] at h
            rw [optType_mono hle ht, optShape_mono hle hs, cDict_mono hle hp, cDict_mono hle hm]
            exact h

theorem ValSim.mono {v v' : Nat} (h : ValSim w1 v v') : ValSim w2 v v' := by
  obtain ⟨i, a, b⟩ := h
  exact ⟨i, vinfo_mono hle a, vinfo_mono hle b⟩

theorem RefSim.mono {r r' : Option Nat} (h : RefSim w1 r r') : RefSim w2 r r' := by
  rcases h with h | ⟨v, v', a, b, c⟩
  · exact .inl h
  · exact .inr ⟨v, v', a, b, c.mono hle⟩

theorem PropsSim.mono {d d' : Nat} (h : PropsSim w1 d d') : PropsSim w2 d d' := by
  obtain ⟨x, x', a, b, c⟩ := h
  exact ⟨x, x', cDict_mono hle a, cDict_mono hle b, c⟩

theorem MetaSim.mono {d d' : Nat} (h : MetaSim w1 d d') : MetaSim w2 d d' := by
  obtain ⟨x, x', a, b, c⟩ := h
  exact ⟨x, x', cDict_mono hle a, cDict_mono hle b, c⟩

theorem DevSim.mono {d d' : List DevCfg} (h : DevSim w1 d d') : DevSim w2 d d' :=
  All2.mono (fun _ _ ⟨a, b⟩ => ⟨a, All2.mono (fun _ _ ⟨x, y⟩ => ⟨x, y.mono hle⟩) b⟩) h

theorem initDict_mono_aux (vs : List Nat) (hv : ∀ v ∈ vs, ∃ x, cVal w1 v = some x) :
    ∀ acc, vs.foldl (initStep w2) acc = vs.foldl (initStep w1) acc := by
  induction vs with
  | nil => intro acc; rfl
  | cons v vs ih =>
    intro acc
    obtain ⟨x, hx⟩ := hv v List.mem_cons_self
    have : initStep w2 acc v = initStep w1 acc v := by unfold initStep; rw [cVal_mono hle hx, hx]
    rw [List.foldl_cons, List.foldl_cons, this]
    exact ih (fun v' hv' => hv v' (List.mem_cons_of_mem _ hv')) _

theorem initDict_mono {vs : List Nat} (hv : ∀ v ∈ vs, ∃ x, cVal w1 v = some x) :
    initDict w2 vs = initDict w1 vs := initDict_mono_aux hle vs hv []

end

theorem ValSim.readable_right {w : World} {v v' : Nat} (h : ValSim w v v') : ∃ x, cVal w v' = some x := by
  obtain ⟨i, _, b⟩ := h
  unfold vinfo at b
  cases hv : cVal w v' with
  | none => rw [hv] at b; cases b
  | some x => exact ⟨x, rfl⟩

theorem All2.left_forall {α β : Type} {R : α → β → Prop} {P : α → Prop} (h : ∀ a b, R a b → P a) :
    ∀ {l : List α} {l' : List β}, All2 R l l' → ∀ a ∈ l, P a
  | _, _, .nil => by simp
  | _, _, .cons r rs => by
    intro a ha
    rcases List.mem_cons.mp ha with rfl | ha
    · exact h _ _ r
    · exact All2.left_forall h rs a ha

mutual
theorem AttrSim.mono {w1 w2 : World} (hle : CoreLe w1 w2) : ∀ {x y : String × Nat}, AttrSim w1 x y → AttrSim w2 x y
  | _, _, .shared k a as h1 h2 => .shared k a as (cAttr_mono hle h1) h2
  | _, _, .graph k a a' as g g' h1 h2 h3 h4 =>
      .graph k a a' as g g' (cAttr_mono hle h1) h2 (cAttr_mono hle h3) (GraphSim.mono hle h4)
  | _, _, .graphs k a a' as gs gs' h1 h2 h3 h4 =>
      .graphs k a a' as gs gs' (cAttr_mono hle h1) h2 (cAttr_mono hle h3) (GraphsSim.mono hle h4)
theorem AttrsSim.mono {w1 w2 : World} (hle : CoreLe w1 w2) : ∀ {x y : List (String × Nat)}, AttrsSim w1 x y → AttrsSim w2 x y
  | _, _, .nil => .nil
  | _, _, .cons a b => .cons (AttrSim.mono hle a) (AttrsSim.mono hle b)
theorem NodeSim.mono {w1 w2 : World} (hle : CoreLe w1 w2) : ∀ {x y : Nat}, NodeSim w1 x y → NodeSim w2 x y
  | _, _, .mk n n' ns ns' na h1 h2 a b c d e f hin hout hat hd hp hm hdev =>
      .mk n n' ns ns' na (cNode_mono hle h1) (cNode_mono hle h2) a b c d e f
        (All2.mono (fun _ _ h => h.mono hle) hin) (All2.mono (fun _ _ h => h.mono hle) hout)
        (AttrsSim.mono hle hat) hd (hp.mono hle) (hm.mono hle) (hdev.mono hle)
theorem NodesSim.mono {w1 w2 : World} (hle : CoreLe w1 w2) : ∀ {x y : List Nat}, NodesSim w1 x y → NodesSim w2 x y
  | _, _, .nil => .nil
  | _, _, .cons a b => .cons (NodeSim.mono hle a) (NodesSim.mono hle b)
theorem GraphSim.mono {w1 w2 : World} (hle : CoreLe w1 w2) : ∀ {x y : Nat}, GraphSim w1 x y → GraphSim w2 x y
  | _, _, .mk g g' gs gs' inits' h1 h2 a b c hin hinit hd hn hout hp hm =>
      .mk g g' gs gs' inits' (cGraph_mono hle h1) (cGraph_mono hle h2) a b c
        (All2.mono (fun _ _ h => h.mono hle) hin) (All2.mono (fun _ _ h => h.mono hle) hinit)
        (by rw [hd]; exact (initDict_mono hle (All2.right_forall (fun _ _ h => h.readable_right) hinit)).symm)
        (NodesSim.mono hle hn) (All2.mono (fun _ _ h => h.mono hle) hout) (hp.mono hle) (hm.mono hle)
theorem GraphsSim.mono {w1 w2 : World} (hle : CoreLe w1 w2) : ∀ {x y : List Nat}, GraphsSim w1 x y → GraphsSim w2 x y
  | _, _, .nil => .nil
  | _, _, .cons a b => .cons (GraphSim.mono hle a) (GraphsSim.mono hle b)
end


/-- every binding of the value map relates observationally equal values -/
def K (s : St) : Prop := ∀ p ∈ s.vm, ValSim s.w p.1 p.2

/-- when `m` returns normally from `s`: the value map is still sound, every cell that existed is
    still there with the same core, and the result satisfies `Q`.  (Nothing is claimed when `m`
    raises: an abandoned clone is taken apart again.) -/
def SGoodAt (m : M α) (s : St) (Q : α → St → Prop) : Prop :=
  ∀ a, (m s).1 = .ok a → K (m s).2 ∧ CoreLe s.w (m s).2.w ∧ Q a (m s).2

/-- `SGoodAt` as a logic: nothing is claimed when the run raises -/
def simL : Logic where
  E _ _ := True
  N s s' := K s' ∧ CoreLe s.w s'.w
  E_trans _ _ := trivial
  N_trans h1 h2 := ⟨h2.1, h1.2.trans h2.2⟩
  E_self _ := trivial
  N_self h := ⟨h.1, CoreLe.refl _⟩

theorem K.ok {s : St} (hK : K s) : simL.Ok s := ⟨trivial, hK, CoreLe.refl _⟩

theorem Hoare.sim {m : M α} {s : St} {Q : α → St → Prop} (h : Hoare simL m s Q) (hK : K s) : SGoodAt m s Q :=
  fun a ha => ⟨((h hK.ok).2 a ha).1.1, ((h hK.ok).2 a ha).1.2, ((h hK.ok).2 a ha).2⟩

theorem SGoodAt.hoare {m : M α} {s : St} {Q : α → St → Prop} (h : K s → SGoodAt m s Q) : Hoare simL m s Q :=
  fun hO => ⟨trivial, fun a ha => ⟨⟨(h hO.2.1 a ha).1, (h hO.2.1 a ha).2.1⟩, (h hO.2.1 a ha).2.2⟩⟩

theorem SGoodAt.unsupported {why : String} {s : St} {Q : α → St → Prop} :
    SGoodAt (Clone.unsupported why : M α) s Q := by
  intro b hb; cases hb

theorem K.mono {s s' : St} (hK : K s) (hle : CoreLe s.w s'.w) (hvm : s'.vm = s.vm) : K s' := by
  intro p hp
  rw [hvm] at hp
  exact (hK p hp).mono hle

theorem alloc_sim {s : St} (c : Cell) :
    Hoare simL (Clone.alloc c) s (fun r s1 => r = s.w.length ∧ coreAt s1.w r = some c.core ∧ s1.vm = s.vm) := by
  refine SGoodAt.hoare fun hK => ?_
  intro a ha
  simp only [Clone.alloc, Except.ok.injEq] at ha
  subst ha
  exact ⟨hK.mono (CoreLe.append _ _) rfl, CoreLe.append _ _, rfl, coreAt_append_new _ _, rfl⟩

theorem Eff.coreLe {s s' : St} (h : Eff Lab.quiet s s') : CoreLe s.w s'.w ∧ s'.vm = s.vm := by
  induction h with
  | refl s => exact ⟨CoreLe.refl _, rfl⟩
  | trans _ _ h1 h2 => exact ⟨h1.1.trans h2.1, h2.2.trans h1.2⟩
  | alloc s c _ _ => exact ⟨CoreLe.append _ _, rfl⟩
  | link h f _ hc _ => exact ⟨CoreLe.set h (hc _), rfl⟩
  | own h _ hc _ => exact ⟨CoreLe.set h hc, rfl⟩
  | users h us _ => exact ⟨CoreLe.set h rfl, rfl⟩
  | vm _ _ _ hp => exact hp.elim
  | pend _ _ hp => exact hp.elim
  | mkNode _ _ hp => exact hp.elim
  | unlink _ _ hp => exact hp.elim
  | forget _ _ hp => exact hp.elim

/-- a program made of steps that only write back links or allocate keeps the simulation invariant -/
theorem Does.sim {m : M α} (hd : Does Lab.quiet m) {s : St} : Hoare simL m s (fun _ _ => True) :=
  SGoodAt.hoare fun hK _ _ => ⟨hK.mono (hd s).coreLe.1 (hd s).coreLe.2, (hd s).coreLe.1, trivial⟩

/-- an operation on the cloner's bookkeeping (pending outputs, created nodes) -/
theorem SGoodAt.bookkeeping {m : M α} {s : St} (hK : K s)
    (h : ∀ s, (m s).2.w = s.w ∧ (m s).2.vm = s.vm) : SGoodAt m s (fun _ s1 => s1.w = s.w) := by
  intro a _
  obtain ⟨hw, hvm⟩ := h s
  refine ⟨?_, by rw [hw]; exact CoreLe.refl _, hw⟩
  intro p hp
  rw [hvm] at hp
  rw [hw]
  exact hK p hp


theorem cVal_of {w : World} {i : Nat} {v : ValueS} (h : w[i]? = some (.val v)) :
    cVal w i = some { v with uses := [], graph := none, isIn := false, isOut := false,
                             isInit := false, producer := none } := by
  simp [cVal, coreAt, h, Cell.core]
theorem cNode_of {w : World} {i : Nat} {v : NodeS} (h : w[i]? = some (.node v)) :
    cNode w i = some { v with graph := none } := by
  simp [cNode, coreAt, h, Cell.core]
theorem cGraph_of {w : World} {i : Nat} {v : GraphS} (h : w[i]? = some (.graph v)) :
    cGraph w i = some v := by
  simp [cGraph, coreAt, h, Cell.core]
theorem cType_of {w : World} {i : Nat} {v : TypeS} (h : w[i]? = some (.type v)) :
    cType w i = some v := by
  simp [cType, coreAt, h, Cell.core]
theorem cShape_of {w : World} {i : Nat} {v : ShapeS} (h : w[i]? = some (.shape v)) :
    cShape w i = some v := by
  simp [cShape, coreAt, h, Cell.core]
theorem cDict_of {w : World} {i : Nat} {v : DictS} (h : w[i]? = some (.dict v)) :
    cDict w i = some v := by
  simp [cDict, coreAt, h, Cell.core]
theorem cAttr_of {w : World} {i : Nat} {v : AttrS} (h : w[i]? = some (.attr v)) :
    cAttr w i = some v := by
  simp [cAttr, coreAt, h, Cell.core]

theorem cVal_ofCore {w : World} {i : Nat} {v : ValueS} (h : coreAt w i = some (Cell.val v).core) :
    cVal w i = some { v with uses := [], graph := none, isIn := false, isOut := false,
                             isInit := false, producer := none } := by
  simp [cVal, h, Cell.core]
theorem cNode_ofCore {w : World} {i : Nat} {v : NodeS} (h : coreAt w i = some (Cell.node v).core) :
    cNode w i = some { v with graph := none } := by
  simp [cNode, h, Cell.core]
theorem cGraph_ofCore {w : World} {i : Nat} {v : GraphS} (h : coreAt w i = some (Cell.graph v).core) :
    cGraph w i = some v := by
  simp [cGraph, h, Cell.core]
theorem cType_ofCore {w : World} {i : Nat} {v : TypeS} (h : coreAt w i = some (Cell.type v).core) :
    cType w i = some v := by
  simp [cType, h, Cell.core]
theorem cShape_ofCore {w : World} {i : Nat} {v : ShapeS} (h : coreAt w i = some (Cell.shape v).core) :
    cShape w i = some v := by
  simp [cShape, h, Cell.core]
theorem cDict_ofCore {w : World} {i : Nat} {v : DictS} (h : coreAt w i = some (Cell.dict v).core) :
    cDict w i = some v := by
  simp [cDict, h, Cell.core]
theorem cAttr_ofCore {w : World} {i : Nat} {v : AttrS} (h : coreAt w i = some (Cell.attr v).core) :
    cAttr w i = some v := by
  simp [cAttr, h, Cell.core]

theorem copyShape_sim {s : St} (o : Option Nat) :
    Hoare simL (copyShape o) s (fun r s1 => ∃ sh, optShape s1.w o = some sh ∧ optShape s1.w r = some sh) := by
  cases o with
  | none => exact Hoare.pure ⟨none, rfl, rfl⟩
  | some a =>
    unfold copyShape
    hbind Hoare.readShape with ss s1 - ⟨hK1, hl1⟩ hq1
    obtain ⟨rfl, hss⟩ := hq1
    hbind (alloc_sim _) with i s2 - ⟨hK2, hl2⟩ hq2
    refine Hoare.pure ⟨some (ss.dims, ss.denots), ?_, ?_⟩
    · simp [optShape, cShape_mono hl2 (cShape_of hss)]
    · simp [optShape, cShape_ofCore hq2.2.1]

theorem copyType_sim {s : St} (o : Option Nat) :
    Hoare simL (copyType o) s (fun r s1 => ∃ ty, optType s1.w o = some ty ∧ optType s1.w r = some ty) := by
  cases o with
  | none => exact Hoare.pure ⟨none, rfl, rfl⟩
  | some a =>
    unfold copyType
    hbind Hoare.readType with ts s1 - ⟨hK1, hl1⟩ hq1
    obtain ⟨rfl, hts⟩ := hq1
    hbind (alloc_sim _) with i s2 - ⟨hK2, hl2⟩ hq2
    refine Hoare.pure ⟨some ts, ?_, ?_⟩
    · simp [optType, cType_mono hl2 (cType_of hts)]
    · simp [optType, cType_ofCore hq2.2.1]

theorem copyProps_sim {s : St} (old : Nat) :
    Hoare simL (copyProps old) s (fun r s1 => ∃ d, cDict s1.w old = some d ∧
      cDict s1.w r = some { data := d.data, invalid := [] }) := by
  unfold copyProps
  hbind Hoare.readDict with d s1 - ⟨hK1, hl1⟩ hq1
  obtain ⟨rfl, hd⟩ := hq1
  refine (alloc_sim _).mono ?_
  rintro r s2 - ⟨-, hl2⟩ hq2
  exact ⟨d, cDict_mono hl2 (cDict_of hd), cDict_ofCore hq2.2.1⟩

theorem copyMeta_sim {s : St} (old : Nat) :
    Hoare simL (copyMeta old) s (fun r s1 => ∃ d, cDict s1.w old = some d ∧
      cDict s1.w r = some { data := d.data, invalid := d.invalid }) := by
  unfold copyMeta
  hbind Hoare.readDict with d s1 - ⟨hK1, hl1⟩ hq1
  obtain ⟨rfl, hd⟩ := hq1
  refine (alloc_sim _).mono ?_
  rintro r s2 - ⟨-, hl2⟩ hq2
  exact ⟨d, cDict_mono hl2 (cDict_of hd), cDict_ofCore hq2.2.1⟩

/-- assembling the observation of a value from its parts -/
theorem vinfo_of_parts {w : World} {v : Nat} {vs : ValueS} {ty : Option TypeS}
    {sh : Option (List Dim × List (Option String))} {p m : DictS}
    (hv : cVal w v = some vs) (ht : optType w vs.type = some ty) (hs : optShape w vs.shape = some sh)
    (hp : cDict w vs.props = some p) (hm : cDict w vs.mstore = some m) :
    vinfo w v = some { name := vs.name, doc := vs.doc, const := vs.const, type := ty, shape := sh,
                       props := p.data, mdata := m.data, minvalid := m.invalid } := by
  simp [vinfo, hv, ht, hs, hp, hm]

theorem valSim_of_copy {w : World} {v v' : Nat} {vs vs' : ValueS}
    (hv : cVal w v = some vs) (hv' : cVal w v' = some vs')
    (hname : vs'.name = vs.name) (hdoc : vs'.doc = vs.doc) (hconst : vs'.const = vs.const)
    (ht : ∃ t, optType w vs.type = some t ∧ optType w vs'.type = some t)
    (hs : ∃ t, optShape w vs.shape = some t ∧ optShape w vs'.shape = some t)
    (hp : ∃ d, cDict w vs.props = some d ∧ cDict w vs'.props = some { data := d.data, invalid := [] })
    (hm : ∃ d, cDict w vs.mstore = some d ∧
      cDict w vs'.mstore = some { data := d.data, invalid := d.invalid }) : ValSim w v v' := by
  obtain ⟨ty, t1, t2⟩ := ht
  obtain ⟨sh, s1, s2⟩ := hs
  obtain ⟨p, p1, p2⟩ := hp
  obtain ⟨m, m1, m2⟩ := hm
  refine ⟨_, vinfo_of_parts hv t1 s1 p1 m1, ?_⟩
  rw [vinfo_of_parts hv' t2 s2 p2 m2, hname, hdoc, hconst]

theorem optType_mono' {w1 w2 : World} (hle : CoreLe w1 w2) {a b : Option Nat}
    (h : ∃ t, optType w1 a = some t ∧ optType w1 b = some t) :
    ∃ t, optType w2 a = some t ∧ optType w2 b = some t := by
  obtain ⟨t, x, y⟩ := h
  exact ⟨t, optType_mono hle x, optType_mono hle y⟩

theorem optShape_mono' {w1 w2 : World} (hle : CoreLe w1 w2) {a b : Option Nat}
    (h : ∃ t, optShape w1 a = some t ∧ optShape w1 b = some t) :
    ∃ t, optShape w2 a = some t ∧ optShape w2 b = some t := by
  obtain ⟨t, x, y⟩ := h
  exact ⟨t, optShape_mono hle x, optShape_mono hle y⟩

theorem cDictPair_mono {w1 w2 : World} (hle : CoreLe w1 w2) {a b : Nat} {f : DictS → DictS}
    (h : ∃ d, cDict w1 a = some d ∧ cDict w1 b = some (f d)) :
    ∃ d, cDict w2 a = some d ∧ cDict w2 b = some (f d) := by
  obtain ⟨t, x, y⟩ := h
  exact ⟨t, cDict_mono hle x, cDict_mono hle y⟩

theorem mem_of_lookup' {v x : Nat} : ∀ {l : List (Nat × Nat)}, l.lookup v = some x → (v, x) ∈ l :=
  ListFacts.mem_of_lookup


theorem graphsSim_of_all2 {w : World} : ∀ {l l' : List Nat}, All2 (GraphSim w) l l' → GraphsSim w l l'
  | _, _, .nil => .nil
  | _, _, .cons a b => .cons a (graphsSim_of_all2 b)
theorem nodesSim_of_all2 {w : World} : ∀ {l l' : List Nat}, All2 (NodeSim w) l l' → NodesSim w l l'
  | _, _, .nil => .nil
  | _, _, .cons a b => .cons a (nodesSim_of_all2 b)
theorem attrsSim_of_all2 {w : World} : ∀ {l l' : List (String × Nat)}, All2 (AttrSim w) l l' → AttrsSim w l l'
  | _, _, .nil => .nil
  | _, _, .cons a b => .cons a (attrsSim_of_all2 b)

theorem all2_map_right {α β : Type} {R : α → β → Prop} {f : α → β} :
    ∀ l : List α, (∀ a ∈ l, R a (f a)) → All2 R l (l.map f)
  | [], _ => .nil
  | a :: as, h => .cons (h a List.mem_cons_self) (all2_map_right as fun b hb => h b (List.mem_cons_of_mem _ hb))

/-- every pair of a remapping relates a value to itself or to an equally observed value -/
def PairsSim (w : World) (m : List (Nat × Nat)) : Prop := ∀ p ∈ m, p.2 = p.1 ∨ ValSim w p.1 p.2

theorem pairsSim_append {w : World} {m1 m2 : List (Nat × Nat)} (h1 : PairsSim w m1) (h2 : PairsSim w m2) :
    PairsSim w (m1 ++ m2) := by
  intro p hp
  rcases List.mem_append.mp hp with h | h
  · exact h1 p h
  · exact h2 p h

theorem remapSpec_simP {w : World} {m : List (Nat × Nat)} (h : PairsSim w m) (sp : DevSpec) :
    SpecSim w sp (remapSpec m sp) := by
  unfold remapSpec
  split
  · exact ⟨rfl, .inl rfl⟩
  · next v hv =>
    split
    · exact ⟨rfl, .inl rfl⟩
    · next v' hv' =>
      rcases h (v, v') (ListFacts.mem_of_lookup hv') with h1 | h1
      · simp only at h1; subst h1; exact ⟨rfl, .inl hv.symm⟩
      · exact ⟨rfl, .inr ⟨v, v', hv, rfl, h1⟩⟩

theorem remapDev_simP {w : World} {m : List (Nat × Nat)} (h : PairsSim w m) (d : List DevCfg) :
    DevSim w d (remapDev m d) :=
  all2_map_right d fun c _ => ⟨rfl, all2_map_right c.specs fun sp _ => remapSpec_simP h sp⟩

theorem remapDev_sim {s : St} (hK : K s) (d : List DevCfg) : DevSim s.w d (remapDev s.vm d) :=
  remapDev_simP (fun p hp => .inr (hK p hp)) d

theorem all2_zip {α β : Type} {R : α → β → Prop} : ∀ {l : List α} {l' : List β}, All2 R l l' →
    ∀ p ∈ l.zip l', R p.1 p.2
  | _, _, .nil, p, hp => by simp at hp
  | _, _, .cons h t, p, hp => by
    rw [List.zip_cons_cons] at hp
    rcases List.mem_cons.mp hp with h1 | h1
    · subst h1; exact h
    · exact all2_zip t p h1

theorem ioMap_pairs {w : World} {ins newIns : List (Option Nat)} {outs newOuts : List Nat}
    (hins : All2 (RefSim w) ins newIns) (houts : All2 (ValSim w) outs newOuts) :
    PairsSim w (ioMap ins newIns outs newOuts) := by
  rintro ⟨a, b⟩ hp
  rcases mem_ioMap.mp hp with h1 | h1
  · exact .inr (all2_zip houts _ h1)
  · rcases all2_zip hins _ h1 with h2 | ⟨v, v', e1, e2, h2⟩
    · simp at h2; exact .inl h2
    · simp at e1 e2; subst e1 e2; exact .inr h2

theorem allocNode_sim {s : St} (c : NodeS) :
    Hoare simL (allocNode c) s (fun r s1 => coreAt s1.w r = some (Cell.node c).core) := by
  unfold allocNode
  hbind (alloc_sim _) with n' s1 - ⟨hK1, hl1⟩ hn'
  hbind (SGoodAt.hoare fun hK => SGoodAt.bookkeeping (m := createdAdd n') hK (fun _ => ⟨rfl, rfl⟩)) with u s2 - ⟨hK2, hl2⟩ hq2
  exact Hoare.pure (by rw [hq2]; exact hn'.2.1)

theorem initEntries_sim : ∀ (l : List Nat) (acc : List (String × Nat)) (s : St), Hoare simL (initEntries acc l) s (fun r s1 => s1 = s ∧ r = l.foldl (initStep s.w) acc ∧
      ∀ v ∈ l, ∃ x, cVal s.w v = some x)
  | [], acc, s => by unfold initEntries; exact Hoare.pure ⟨rfl, rfl, by simp⟩
  | v :: rest, acc, s => by
    unfold initEntries
    hbind Hoare.readVal with vs s1 - ⟨hK1, hl1⟩ hq1
    obtain ⟨rfl, hvs⟩ := hq1
    split
    · exact Hoare.fail
    · next nm hnm =>
      refine (initEntries_sim rest (dictSet acc nm v) s1).mono ?_
      intro r s2 _ _ ⟨h1, h2, h3⟩
      refine ⟨h1, ?_, ?_⟩
      · rw [h2]
        simp only [List.foldl_cons]
        congr 1
        simp [initStep, cVal_of hvs, hnm]
      · intro x hx
        rcases List.mem_cons.mp hx with rfl | hx
        · exact ⟨_, cVal_of hvs⟩
        · exact h3 x hx

theorem mkGraph_sim (src : GraphS) (inputs outputs nodes inits : List Nat) {s : St} :
    Hoare simL (mkGraph src inputs outputs nodes inits) s (fun r s1 => ∃ gs', cGraph s1.w r = some gs' ∧
      gs'.name = src.name ∧ gs'.doc = src.doc ∧ gs'.opsets = src.opsets ∧ gs'.inputs = inputs ∧
      gs'.outputs = outputs ∧ gs'.nodes = nodes ∧ gs'.inits = initDict s1.w inits ∧
      PropsSim s1.w src.props gs'.props ∧ MetaSim s1.w src.mstore gs'.mstore) := by
  unfold mkGraph
  hbind (initEntries_sim inits [] s) with entries s0 - ⟨hK0, hl0⟩ hent
  obtain ⟨rfl, hent, hread⟩ := hent
  hbind (copyProps_sim src.props) with pr s3 - ⟨hK3, hl3⟩ hpr
  hbind (copyMeta_sim src.mstore) with me s4 - ⟨hK4, hl4⟩ hme
  hbind (alloc_sim _) with g s5 - ⟨hK5, hl5⟩ hg
  hbind (Hoare.ofQuiet (Quiet.forM' (Quiet.checkInput g) inputs)) with u s6 - ⟨hK6, hl6⟩ hq6
  hbind (Does.sim (Does.forM' (Does.setValueOwner trivial g (fun v => { v with isIn := true }) (fun _ => rfl) fun _ => rfl) inputs))
    with u2 s7 - ⟨hK7, hl7⟩ hq7
  hbind (Hoare.ofQuiet (Quiet.forM' (Quiet.checkOwned g) outputs)) with u3 s8 - ⟨hK8, hl8⟩ hq8
  hbind (Does.sim (Does.forM' (Does.setValueOwner trivial g (fun v => { v with isOut := true }) (fun _ => rfl) fun _ => rfl) outputs))
    with u4 s9 - ⟨hK9, hl9⟩ hq9
  hbind (Hoare.ofQuiet (Quiet.forM' (Quiet.checkOwned g) (entries.map (fun e => e.2))))
    with u5 s10 - ⟨hK10, hl10⟩ hq10
  hbind (Does.sim (Does.forM' (Does.setValueOwner trivial g (fun v => { v with isInit := true }) (fun _ => rfl) fun _ => rfl) _))
    with u6 s11 - ⟨hK11, hl11⟩ hq11
  hbind (Hoare.ofQuiet (Quiet.forM' Quiet.checkInitEntry entries)) with u7 s12 - ⟨hK12, hl12⟩ hq12
  hbind (Hoare.ofQuiet (Quiet.forM' Quiet.checkNamed inputs)) with u8 s13 - ⟨hK13, hl13⟩ hq13
  hbind (Hoare.ofQuiet (Quiet.forM' (Quiet.checkNodeFree g) nodes)) with u9 s14 - ⟨hK14, hl14⟩ hq14
  hbind (Does.sim (Does.forM' (Does.setNodeGraph trivial g) nodes)) with u10 s15 - ⟨hK15, hl15⟩ hq15
  have l5 : CoreLe s5.w s15.w :=
    hl6.trans (hl7.trans (hl8.trans (hl9.trans (hl10.trans (hl11.trans (hl12.trans (hl13.trans (hl14.trans hl15))))))))
  have l0 : CoreLe s0.w s15.w := hl3.trans (hl4.trans (hl5.trans l5))
  refine Hoare.pure ⟨_, cGraph_mono l5 (cGraph_ofCore hg.2.1), rfl, rfl, rfl, rfl, rfl, rfl, ?_, ?_, ?_⟩
  · show entries = initDict s15.w inits
    rw [initDict_mono l0 hread, hent, initDict_eq]
  · obtain ⟨d, a, b⟩ := hpr
    exact ⟨d, _, cDict_mono (hl4.trans (hl5.trans l5)) a, cDict_mono (hl4.trans (hl5.trans l5)) b, rfl⟩
  · obtain ⟨d, a, b⟩ := hme
    exact ⟨d, _, cDict_mono (hl5.trans l5) a, cDict_mono (hl5.trans l5) b, rfl, rfl⟩

theorem withFreshMap_sim {m : M α} {Q : α → St → Prop} {s : St}
    (h : Hoare simL m { s with vm := [], pend := [], created := [] } Q)
    (hQ : ∀ a s1 vm pd cr, Q a s1 → Q a { s1 with vm := vm, pend := pd, created := cr }) :
    Hoare simL (withFreshMap m) s Q := by
  refine SGoodAt.hoare fun hK => ?_
  have h := h.sim (s := { s with vm := [], pend := [], created := [] }) (by intro p hp; cases hp)
  intro a ha
  unfold withFreshMap at ha ⊢
  rcases hms : m { s with vm := [], pend := [], created := [] } with ⟨r, s'⟩
  rw [hms] at ha
  simp only at ha ⊢
  subst ha
  obtain ⟨h1, h2, h3⟩ := h a (by rw [hms])
  rw [hms] at h1 h2 h3
  refine ⟨?_, h2, hQ a s' s.vm s.pend s.created h3⟩
  intro p hp
  exact (hK p hp).mono h2

/-- same identifier, observationally equal bodies, attribute parameters related like node
    attributes -/
def FuncSim (w : World) (f f' : Nat) : Prop :=
  ∃ fs fs' newAttrs, cFunc w f = some fs ∧ cFunc w f' = some fs' ∧ fs'.domain = fs.domain ∧
    fs'.name = fs.name ∧ fs'.overload = fs.overload ∧ GraphSim w fs.graph fs'.graph ∧
    All2 (fun (ka : String × Nat) r => ∃ as, cAttr w ka.2 = some as ∧ AttrSim w (as.name, ka.2) r)
      fs.attrs newAttrs ∧
    fs'.attrs = dictOf newAttrs

/-- same header fields and device configurations, observationally equal graph and functions,
    equal `metadata_props` -/
def ModelSim (w : World) (m m' : Nat) : Prop :=
  ∃ ms ms', cModel w m = some ms ∧ cModel w m' = some ms' ∧ ms'.header = ms.header ∧
    ms'.dev = ms.dev ∧ GraphSim w ms.graph ms'.graph ∧ All2 (FuncSim w) ms.funcs ms'.funcs ∧
    PropsSim w ms.props ms'.props

theorem cFunc_mono {w1 w2 : World} (hle : CoreLe w1 w2) {i : Nat} {t : FuncS}
    (h : cFunc w1 i = some t) : cFunc w2 i = some t := by
  unfold cFunc at *
  cases hc : coreAt w1 i with
  | none => rw [hc] at h; cases h
  | some c => rw [hle i c hc]; rw [hc] at h; exact h

theorem cModel_mono {w1 w2 : World} (hle : CoreLe w1 w2) {i : Nat} {t : ModelS}
    (h : cModel w1 i = some t) : cModel w2 i = some t := by
  unfold cModel at *
  cases hc : coreAt w1 i with
  | none => rw [hc] at h; cases h
  | some c => rw [hle i c hc]; rw [hc] at h; exact h

theorem FuncSim.mono {w1 w2 : World} (hle : CoreLe w1 w2) {f f' : Nat} (h : FuncSim w1 f f') :
    FuncSim w2 f f' := by
  obtain ⟨fs, fs', na, a, b, c, d, e, g, hat, hd⟩ := h
  exact ⟨fs, fs', na, cFunc_mono hle a, cFunc_mono hle b, c, d, e, g.mono hle,
    All2.mono (fun _ _ ⟨as, x, y⟩ => ⟨as, cAttr_mono hle x, y.mono hle⟩) hat, hd⟩

theorem cFunc_of {w : World} {i : Nat} {v : FuncS} (h : w[i]? = some (.func v)) : cFunc w i = some v := by
  simp [cFunc, coreAt, h, Cell.core]
theorem cModel_of {w : World} {i : Nat} {v : ModelS} (h : w[i]? = some (.model v)) : cModel w i = some v := by
  simp [cModel, coreAt, h, Cell.core]
theorem cFunc_ofCore {w : World} {i : Nat} {v : FuncS} (h : coreAt w i = some (Cell.func v).core) :
    cFunc w i = some v := by
  simp [cFunc, h, Cell.core]
theorem cModel_ofCore {w : World} {i : Nat} {v : ModelS} (h : coreAt w i = some (Cell.model v).core) :
    cModel w i = some v := by
  simp [cModel, h, Cell.core]

theorem sim_of_run {m : M Nat} {Q : Nat → St → Prop} (hm : ∀ s, K s → SGoodAt m s Q) {w w' : World}
    {r : Nat} (h : run m w = (.ok r, w')) : ∃ s', s'.w = w' ∧ CoreLe w w' ∧ Q r s' := by
  have hK0 : K { w := w } := by intro p hp; cases hp
  have hq := hm _ hK0
  unfold run at h
  rcases hms : m { w := w } with ⟨r1, s1⟩
  rw [hms] at h
  simp only [Prod.mk.injEq] at h
  obtain ⟨rfl, rfl⟩ := h
  obtain ⟨_, hl, hq⟩ := hq r (by rw [hms])
  rw [hms] at hl hq
  exact ⟨s1, rfl, hl, hq⟩

end IrVerif.Clone
