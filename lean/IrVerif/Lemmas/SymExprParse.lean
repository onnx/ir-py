/-
C16: the recursive-descent parser of `Model/SymExpr.lean` against the documented grammar
(derivation trees `D`): every derivation parses to its meaning, with the fuel `parseTokens`
starts with (the converse is `Lemmas/SymExprSound.lean`).
-/
import IrVerif.Model.SymExpr
namespace IrVerif.SymExpr

def Derives (n : NT) (ts : List Tok) (v : Den n) : Prop := ∃ d : D n, d.flatten = ts ∧ d.sem = v

def headIs (p : Tok → Bool) : List Tok → Bool
  | [] => false
  | t :: _ => p t

def isLP : Tok → Bool
  | .lparen => true
  | _ => false
def isPow : Tok → Bool
  | .op .dstar => true
  | _ => false
def isMul : Tok → Bool
  | .op .star => true | .op .slash => true | .op .dslash => true | .op .percent => true
  | _ => false
def isAdd : Tok → Bool
  | .op .plus => true | .op .minus => true
  | _ => false

/-- what may follow a complete phrase: after a primary no `(`; then in addition no `**`, no
    multiplicative, no additive operator -/
def okPrim (r : List Tok) : Prop := headIs isLP r = false
def okPow (r : List Tok) : Prop := okPrim r ∧ headIs isPow r = false
def okTerm (r : List Tok) : Prop := okPow r ∧ headIs isMul r = false
def okExpr (r : List Tok) : Prop := okTerm r ∧ headIs isAdd r = false

theorem okExpr_nil : okExpr [] := by simp [okExpr, okTerm, okPow, okPrim, headIs]
theorem okExpr_rparen (r : List Tok) : okExpr (.rparen :: r) := by
  simp [okExpr, okTerm, okPow, okPrim, headIs, isLP, isPow, isMul, isAdd]
theorem okExpr_comma (r : List Tok) : okExpr (.comma :: r) := by
  simp [okExpr, okTerm, okPow, okPrim, headIs, isLP, isPow, isMul, isAdd]

theorem addOpOf_tok (o : AddOp) (ts : List Tok) : addOpOf (o.tok :: ts) = some (o.bin, ts) := by
  cases o <;> rfl
theorem mulOpOf_tok (o : MulOp) (ts : List Tok) : mulOpOf (o.tok :: ts) = some (o.bin, ts) := by
  cases o <;> rfl

theorem addOpOf_none {r : List Tok} (h : headIs isAdd r = false) : addOpOf r = none := by
  rcases r with _ | ⟨t, ts⟩
  · rfl
  · rcases t with _ | _ | o | _ | _ | _ <;> try rfl
    cases o <;> simp_all [headIs, isAdd, addOpOf]

theorem mulOpOf_none {r : List Tok} (h : headIs isMul r = false) : mulOpOf r = none := by
  rcases r with _ | ⟨t, ts⟩
  · rfl
  · rcases t with _ | _ | o | _ | _ | _ <;> try rfl
    cases o <;> simp_all [headIs, isMul, mulOpOf]

theorem okTerm_exprTail (tl : D .exprTail) {r : List Tok} (h : okExpr r) : okTerm (tl.flatten ++ r) := by
  cases tl with
  | etNil => exact h.1
  | etCons o t tl =>
    cases o <;> simp [D.flatten, AddOp.tok, okTerm, okPow, okPrim, headIs, isLP, isPow, isMul]

theorem okPow_termTail (tl : D .termTail) {r : List Tok} (h : okTerm r) : okPow (tl.flatten ++ r) := by
  cases tl with
  | ttNil => exact h.1
  | ttCons o u tl =>
    cases o <;> simp [D.flatten, MulOp.tok, okPow, okPrim, headIs, isLP, isPow]

theorem okExpr_argsTail (tl : D .argsTail) (r : List Tok) : okExpr (tl.flatten ++ .rparen :: r) := by
  cases tl with
  | atNil => exact okExpr_rparen r
  | atCons e tl => exact okExpr_comma _

/-- the recursion depth of the parser on a derivation -/
def D.need : D n → Nat
  | .expr t tl => 1 + max t.need tl.need
  | .etNil => 1
  | .etCons _ t tl => 1 + max t.need tl.need
  | .term u tl => 1 + max u.need tl.need
  | .ttNil => 1
  | .ttCons _ u tl => 1 + max u.need tl.need
  | .neg u => 1 + u.need
  | .upow p => 1 + p.need
  | .prim p => 1 + p.need
  | .pow b e => 1 + max b.need e.need
  | .num _ => 1
  | .ident _ => 1
  | .paren e => 1 + e.need
  | .call1 _ a => 1 + max a.need 1
  | .call2 _ a b => 1 + max a.need (1 + max b.need 1)
  | .callN _ args => 1 + args.need
  | .argsNil => 0
  | .argsCons e tl => max e.need tl.need
  | .atNil => 1
  | .atCons e tl => 1 + max e.need tl.need


def goodStart : List Tok → Prop
  | [] => False
  | t :: _ => t ≠ .rparen

def primStart : List Tok → Prop
  | .num _ :: _ => True
  | .ident _ :: _ => True
  | .lparen :: _ => True
  | _ => False

theorem primStart.good : {ts : List Tok} → primStart ts → goodStart ts
  | .num _ :: _, _ => by simp [goodStart]
  | .ident _ :: _, _ => by simp [goodStart]
  | .lparen :: _, _ => by simp [goodStart]

def StartsOK : (n : NT) → D n → Prop
  | .expr, d => ∀ r, goodStart (d.flatten ++ r)
  | .term, d => ∀ r, goodStart (d.flatten ++ r)
  | .unary, d => ∀ r, goodStart (d.flatten ++ r)
  | .power, d => ∀ r, primStart (d.flatten ++ r)
  | .primary, d => ∀ r, primStart (d.flatten ++ r)
  | _, _ => True

theorem startsOK_all {n : NT} (d : D n) : StartsOK n d := by
  induction d with
  | expr t tl iht _ => intro r; simpa [D.flatten, List.append_assoc] using iht (tl.flatten ++ r)
  | term u tl ihu _ => intro r; simpa [D.flatten, List.append_assoc] using ihu (tl.flatten ++ r)
  | neg u _ => intro r; simp [D.flatten, goodStart]
  | upow p ih => intro r; exact (ih r).good
  | prim p ih => intro r; simpa [D.flatten] using ih r
  | pow b e ihb _ => intro r; simpa [D.flatten, List.append_assoc] using ihb (.op .dstar :: (e.flatten ++ r))
  | num n => intro r; simp [D.flatten, primStart]
  | ident s => intro r; simp [D.flatten, primStart]
  | paren e _ => intro r; simp [D.flatten, primStart]
  | call1 f a _ => intro r; simp [D.flatten, primStart]
  | call2 f a b _ _ => intro r; simp [D.flatten, primStart]
  | callN f args _ => intro r; simp [D.flatten, primStart]
  | _ => trivial

theorem expr_goodStart (d : D .expr) (r : List Tok) : goodStart (d.flatten ++ r) :=
  startsOK_all d r


/-- the call part of `parsePrimary` after `IDENT (`, for a non-`)` start: one expression, the
    comma loop, the closing parenthesis, the function table -/
theorem parsePrimary_call (f : Nat) (name : String) (ts : List Tok) (h : goodStart ts) :
    parsePrimary (f + 1) (.ident name :: .lparen :: ts) =
      match parseExpr f ts with
      | some (a, r) =>
        match argsLoop f [a] r with
        | some (args, .rparen :: r') =>
          match applyFn name args with
          | some e => some (e, r')
          | none => none
        | _ => none
      | none => none := by
  rcases ts with _ | ⟨t, ts⟩
  · simp [goodStart] at h
  · rcases t with _ | _ | _ | _ | _ | _ <;> first | rfl | simp [goodStart] at h

theorem parseUnary_primStart (f : Nat) (ts : List Tok) (h : primStart ts) :
    parseUnary (f + 1) ts = parsePower f ts := by
  rcases ts with _ | ⟨t, ts⟩
  · simp [primStart] at h
  · rcases t with _ | _ | _ | _ | _ | _ <;> first | rfl | simp [primStart] at h

theorem parsePower_noPow (f : Nat) (ts : List Tok) (b : Expr) (r : List Tok)
    (h : parsePrimary f ts = some (b, r)) (hr : headIs isPow r = false) :
    parsePower (f + 1) ts = some (b, r) := by
  simp only [parsePower, h]
  rcases r with _ | ⟨t, r'⟩
  · rfl
  · rcases t with _ | _ | o | _ | _ | _ <;> try rfl
    cases o <;> first | rfl | simp [headIs, isPow] at hr

theorem parsePower_pow (f : Nat) (ts ts' : List Tok) (b e : Expr) (r : List Tok)
    (h : parsePrimary f ts = some (b, .op .dstar :: ts')) (h2 : parseUnary f ts' = some (e, r)) :
    parsePower (f + 1) ts = some (.bin .pow b e, r) := by
  simp only [parsePower, h, h2]

theorem parsePrimary_ident (f : Nat) (s : String) (r : List Tok) (hr : okPrim r) :
    parsePrimary (f + 1) (.ident s :: r) = some (.sym s, r) := by
  rcases r with _ | ⟨t, r'⟩
  · rfl
  · rcases t with _ | _ | _ | _ | _ | _ <;> first | rfl | simp [okPrim, headIs, isLP] at hr

theorem argsLoop_rparen (f : Nat) (acc : List Expr) (r : List Tok) :
    argsLoop (f + 1) acc (.rparen :: r) = some (acc, .rparen :: r) := rfl

/- `args` has no parsing function: the call branch of `parsePrimary` stands in, its unit of fuel is
   charged to `callN` (hence `need .argsNil = 0`, no `1 +` at `.argsCons`). -/
def Complete : (n : NT) → D n → Prop
  | .expr, d => ∀ f r, d.need ≤ f → okExpr r →
      parseExpr f (d.flatten ++ r) = some ((d.sem : Expr), r)
  | .exprTail, d => ∀ f acc r, d.need ≤ f → okExpr r →
      exprLoop f acc (d.flatten ++ r) = some ((d.sem : Expr → Expr) acc, r)
  | .term, d => ∀ f r, d.need ≤ f → okTerm r →
      parseTerm f (d.flatten ++ r) = some ((d.sem : Expr), r)
  | .termTail, d => ∀ f acc r, d.need ≤ f → okTerm r →
      termLoop f acc (d.flatten ++ r) = some ((d.sem : Expr → Expr) acc, r)
  | .unary, d => ∀ f r, d.need ≤ f → okPow r →
      parseUnary f (d.flatten ++ r) = some ((d.sem : Expr), r)
  | .power, d => ∀ f r, d.need ≤ f → okPow r →
      parsePower f (d.flatten ++ r) = some ((d.sem : Expr), r)
  | .primary, d => ∀ f r, d.need ≤ f → okPrim r →
      parsePrimary f (d.flatten ++ r) = some ((d.sem : Expr), r)
  | .args, d => ∀ f name r, d.need ≤ f →
      parsePrimary (f + 1) (.ident name :: .lparen :: (d.flatten ++ .rparen :: r)) =
        match applyFn name (d.sem : List Expr) with
        | some e => some (e, r)
        | none => none
  | .argsTail, d => ∀ f acc r, d.need ≤ f →
      argsLoop f acc (d.flatten ++ .rparen :: r) = some (acc ++ (d.sem : List Expr), .rparen :: r)

theorem applyFn_fn1 (f : Fn1) (args : List Expr) :
    applyFn f.name args = match args with
      | [a] => some (.un f.un a)
      | _ => none := by
  cases f <;> rcases args with _ | ⟨a, _ | ⟨b, rest⟩⟩ <;> simp [applyFn, Fn1.name, Fn1.un]

theorem applyFn_fn2 (f : Fn2) (args : List Expr) :
    applyFn f.name args = match args with
      | [a, b] => some (.bin .mod a b)
      | _ => none := by
  cases f <;> rcases args with _ | ⟨a, _ | ⟨b, _ | ⟨c, rest⟩⟩⟩ <;> simp [applyFn, Fn2.name]

theorem applyFn_fnN (f : FnN) (args : List Expr) :
    applyFn f.name args = some (f.apply args) := by
  cases f <;> cases args <;> simp [applyFn, FnN.name, FnN.bin, FnN.emptyNeg, FnN.apply]

theorem fuel_succ {n f : Nat} (h : 1 + n ≤ f) : ∃ g, f = g + 1 ∧ n ≤ g :=
  ⟨f - 1, by omega, by omega⟩

theorem complete_all {n : NT} (d : D n) : Complete n d := by
  induction d with
  | expr t tl iht ihtl =>
    intro f r hf hr
    simp only [D.need] at hf
    obtain ⟨f, rfl, hg⟩ := fuel_succ hf
    simp only [D.flatten, List.append_assoc, parseExpr]
    rw [iht f (tl.flatten ++ r) (Nat.max_le.mp hg).1 (okTerm_exprTail tl hr)]
    exact ihtl f _ r (Nat.max_le.mp hg).2 hr
  | etNil =>
    intro f acc r hf hr
    simp only [D.need] at hf
    obtain ⟨f, rfl, _⟩ := fuel_succ (n := 0) hf
    simp [D.flatten, exprLoop, addOpOf_none hr.2, D.sem]
  | etCons o t tl iht ihtl =>
    intro f acc r hf hr
    simp only [D.need] at hf
    obtain ⟨f, rfl, hg⟩ := fuel_succ hf
    simp only [D.flatten, exprLoop, List.cons_append, List.append_assoc, addOpOf_tok]
    rw [iht f (tl.flatten ++ r) (Nat.max_le.mp hg).1 (okTerm_exprTail tl hr)]
    exact ihtl f _ r (Nat.max_le.mp hg).2 hr
  | term u tl ihu ihtl =>
    intro f r hf hr
    simp only [D.need] at hf
    obtain ⟨f, rfl, hg⟩ := fuel_succ hf
    simp only [D.flatten, List.append_assoc, parseTerm]
    rw [ihu f (tl.flatten ++ r) (Nat.max_le.mp hg).1 (okPow_termTail tl hr)]
    exact ihtl f _ r (Nat.max_le.mp hg).2 hr
  | ttNil =>
    intro f acc r hf hr
    simp only [D.need] at hf
    obtain ⟨f, rfl, _⟩ := fuel_succ (n := 0) hf
    simp [D.flatten, termLoop, mulOpOf_none hr.2, D.sem]
  | ttCons o u tl ihu ihtl =>
    intro f acc r hf hr
    simp only [D.need] at hf
    obtain ⟨f, rfl, hg⟩ := fuel_succ hf
    simp only [D.flatten, termLoop, List.cons_append, List.append_assoc, mulOpOf_tok]
    rw [ihu f (tl.flatten ++ r) (Nat.max_le.mp hg).1 (okPow_termTail tl hr)]
    exact ihtl f _ r (Nat.max_le.mp hg).2 hr
  | neg u ih =>
    intro f r hf hr
    simp only [D.need] at hf
    obtain ⟨f, rfl, hg⟩ := fuel_succ hf
    simp only [D.flatten, List.cons_append, parseUnary]
    rw [ih f r hg hr]
    rfl
  | upow p ih =>
    intro f r hf hr
    simp only [D.need] at hf
    obtain ⟨f, rfl, hg⟩ := fuel_succ hf
    simp only [D.flatten]
    rw [parseUnary_primStart f _ (startsOK_all p r)]
    exact ih f r hg hr
  | prim p ih =>
    intro f r hf hr
    simp only [D.need] at hf
    obtain ⟨f, rfl, hg⟩ := fuel_succ hf
    simp only [D.flatten]
    exact parsePower_noPow f _ _ r (ih f r hg hr.1) hr.2
  | pow b e ihb ihe =>
    intro f r hf hr
    simp only [D.need] at hf
    obtain ⟨f, rfl, hg⟩ := fuel_succ hf
    simp only [D.flatten, List.append_assoc, List.cons_append]
    refine parsePower_pow f _ (e.flatten ++ r) _ _ r ?_ (ihe f r (Nat.max_le.mp hg).2 hr)
    exact ihb f _ (Nat.max_le.mp hg).1 (by simp [okPrim, headIs, isLP])
  | num n =>
    intro f r hf _
    simp only [D.need] at hf
    obtain ⟨f, rfl, _⟩ := fuel_succ (n := 0) hf
    simp [D.flatten, parsePrimary, D.sem]
  | ident s =>
    intro f r hf hr
    simp only [D.need] at hf
    obtain ⟨f, rfl, _⟩ := fuel_succ (n := 0) hf
    simpa [D.flatten, D.sem] using parsePrimary_ident f s r hr
  | paren e ih =>
    intro f r hf _
    simp only [D.need] at hf
    obtain ⟨f, rfl, hg⟩ := fuel_succ hf
    have h := ih f (.rparen :: r) hg (okExpr_rparen r)
    simp only [D.flatten, List.append_assoc, List.cons_append, List.nil_append, parsePrimary, h]
    rfl
  | call1 fn a ih =>
    intro f r hf _
    -- one unit for `parsePrimary`, and `argsLoop` needs one to see the `)`
    simp only [D.need] at hf
    obtain ⟨f, rfl, hg⟩ := fuel_succ hf
    obtain ⟨f, rfl, _⟩ := fuel_succ (n := 0) (Nat.max_le.mp hg).2
    have h := ih (f + 1) (.rparen :: r) (Nat.max_le.mp hg).1 (okExpr_rparen r)
    simp only [D.flatten, List.append_assoc, List.cons_append, List.nil_append]
    rw [parsePrimary_call _ _ _ (expr_goodStart a _), h]
    simp only [argsLoop_rparen, applyFn_fn1]
    rfl
  | call2 fn a b iha ihb =>
    intro f r hf _
    simp only [D.need] at hf
    obtain ⟨f, rfl, hg⟩ := fuel_succ hf
    obtain ⟨f, rfl, hf2⟩ := fuel_succ (Nat.max_le.mp hg).2
    obtain ⟨f, rfl, _⟩ := fuel_succ (n := 0) ((Nat.max_le.mp hf2).2)
    have ha := iha (f + 2) (.comma :: (b.flatten ++ .rparen :: r)) (Nat.max_le.mp hg).1
      (okExpr_comma _)
    have hb := ihb (f + 1) (.rparen :: r) ((Nat.max_le.mp hf2).1) (okExpr_rparen r)
    simp only [D.flatten, List.append_assoc, List.cons_append, List.nil_append]
    rw [parsePrimary_call _ _ _ (expr_goodStart a _), ha]
    simp only [argsLoop, hb, List.cons_append, List.nil_append, applyFn_fn2]
    rfl
  | callN fn args ih =>
    intro f r hf _
    simp only [D.need] at hf
    obtain ⟨f, rfl, hg⟩ := fuel_succ hf
    have h := ih f fn.name r hg
    simp only [D.flatten, List.append_assoc, List.cons_append, List.nil_append]
    rw [h, applyFn_fnN]
    rfl
  | argsNil =>
    intro f name r _
    simp only [D.flatten, List.nil_append, parsePrimary, D.sem]
    rfl
  | argsCons e tl ihe ihtl =>
    intro f name r hf
    simp only [D.need] at hf
    have he := ihe f (tl.flatten ++ .rparen :: r) (Nat.max_le.mp hf).1 (okExpr_argsTail tl r)
    have htl := ihtl f [(e.sem : Expr)] r (Nat.max_le.mp hf).2
    simp only [D.flatten, List.append_assoc]
    rw [parsePrimary_call _ _ _ (expr_goodStart e _), he]
    simp only [htl, D.sem, List.cons_append, List.nil_append]
  | atNil =>
    intro f acc r hf
    simp only [D.need] at hf
    obtain ⟨f, rfl, _⟩ := fuel_succ (n := 0) hf
    simp [D.flatten, argsLoop_rparen, D.sem]
  | atCons e tl ihe ihtl =>
    intro f acc r hf
    simp only [D.need] at hf
    obtain ⟨f, rfl, hg⟩ := fuel_succ hf
    have he := ihe f (tl.flatten ++ .rparen :: r) (Nat.max_le.mp hg).1 (okExpr_argsTail tl r)
    have htl := ihtl f (acc ++ [(e.sem : Expr)]) r (Nat.max_le.mp hg).2
    simp only [D.flatten, List.append_assoc, List.cons_append, argsLoop, he, htl, D.sem]
    simp


/-- levels the parser has already passed inside a phrase of this nonterminal -/
def NT.rank : NT → Nat
  | .expr => 1 | .term => 2 | .unary => 3 | .power => 4 | .primary => 5
  | _ => 0

/-- 5 per token: a phrase of rank `r` has already used `r` of the five levels of its first token;
    tails and argument lists (rank 0) may be empty, the others are not -/
theorem bound_all {n : NT} (d : D n) :
    d.need + n.rank ≤ 5 * d.flatten.length + 1 ∧ (0 < n.rank → 1 ≤ d.flatten.length) := by
  induction d <;> simp only [NT.rank, D.need, D.flatten, List.length_append, List.length_cons,
    List.length_nil] at * <;> omega

theorem parseExpr_of_fuel (d : D .expr) {g : Nat} (h : fuelFor d.flatten ≤ g) :
    parseExpr g d.flatten = some ((d.sem : Expr), []) := by
  have hb : d.need + 1 ≤ 5 * d.flatten.length + 1 := (bound_all d).1
  have hc := complete_all d g [] (by simp only [fuelFor] at h; omega) okExpr_nil
  simpa using hc

theorem parseTokens_complete (d : D .expr) : parseTokens d.flatten = some (d.sem : Expr) := by
  simp only [parseTokens, parseExpr_of_fuel d (Nat.le_refl _)]

theorem Derives.parse {ts : List Tok} {e : Expr} : Derives .expr ts e → parseTokens ts = some e
  | ⟨d, h1, h2⟩ => h1 ▸ h2 ▸ parseTokens_complete d

end IrVerif.SymExpr
