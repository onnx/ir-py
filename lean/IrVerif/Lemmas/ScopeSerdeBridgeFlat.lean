import IrVerif.Lemmas.ScopeSerdeBridgeSer
/-!
The C02/C03 bridge on graphs without nested graphs: there the abstractions of the nested bridge are those of
`ScopeSerdeBridge` (`absGFull_eq_absG`, `absIRFull_eq_absIR`, `GOKFull_eq_GOK`), and deserialization introduces no
nested graph (`desGraph_noSub`); hence `C03_bridge_deserialize_partial`, `C03_bridge_roundtrip_partial`.
`C03_bridge_serialize_partial` speaks of every IR graph with `GOK`: `absIR`, `GOK` and `absG` do not look at the graphs
held by attributes, so it is `C03_bridge_serialize` at the graph stripped of them (`stripG`).
-/
namespace IrVerif.Bridge
open IrVerif.Proto IrVerif.Serde

theorem subsAttrs_leaf : ∀ as : List AttrP, as.all (fun a => !hasGraphAttr a) = true → subsAttrs as = []
  | [], _ => by simp [subsAttrs]
  | a :: as, h => by
    simp only [List.all_cons, Bool.and_eq_true, Bool.not_eq_true'] at h
    simp [subsAttrs, subsAttr_leaf a h.1, subsAttrs_leaf as (by simpa using h.2)]

theorem allAttrs_leaf (f : GraphP → Bool) : ∀ as : List AttrP, as.all (fun a => !hasGraphAttr a) = true →
    allAttrs f as = true
  | [], _ => rfl
  | a :: as, h => by
    simp only [List.all_cons, Bool.and_eq_true, Bool.not_eq_true'] at h
    have ha : allAttr f a = true := by
      cases a with
      | graph | graphs => exact Bool.noConfusion h.1
      | _ => rfl
    show (allAttr f a && allAttrs f as) = true
    rw [ha, allAttrs_leaf f as h.2]
    rfl

theorem allNodes_leaf (f : GraphP → Bool) : ∀ ns : List NodeP,
    ns.all (fun n => n.attrs.all fun a => !hasGraphAttr a) = true → allNodes f ns = true
  | [], _ => rfl
  | .mk _ _ _ _ _ _ _ attrs _ _ :: ns, h => by
    simp only [List.all_cons, Bool.and_eq_true, NodeP.attrs] at h
    show (allAttrs f attrs && allNodes f ns) = true
    rw [allAttrs_leaf f attrs h.1, allNodes_leaf f ns h.2]
    rfl

theorem allG_noSub (f : GraphP → Bool) (p : GraphP) (h : noSubgraphs p = true) : allG f p = f p := by
  cases p with
  | mk name doc nodes inits inputs outputs vis quant metadata =>
    show (f _ && allNodes f nodes) = f _
    rw [allNodes_leaf f nodes h, Bool.and_true]

theorem absNsFull_eq : ∀ ns : List NodeP, ns.all (fun n => n.attrs.all fun a => !hasGraphAttr a) = true →
    absNsFull ns = ns.map absN
  | [], _ => by simp [absNsFull]
  | n :: ns, h => by
    simp only [List.all_cons, Bool.and_eq_true] at h
    cases n with
    | mk inputs outputs name opType domain overload doc attrs metadata devcfgs =>
      simp only [absNsFull, absNFull, List.map_cons, absN, absNsFull_eq ns h.2]
      rw [subsAttrs_leaf attrs h.1]
      rfl

theorem absGFull_eq_absG (p : GraphP) (h : noSubgraphs p = true) : absGFull p = absG p := by
  cases p with
  | mk name doc nodes inits inputs outputs vis quant metadata =>
    simp only [noSubgraphs] at h
    simp only [absGFull, absG, absNsFull_eq nodes h]
    rfl

theorem leaf_attrs : ∀ as : List IRAttr, as.all (fun a => !irHasGraph a) = true →
    cellsAttrs as = [] ∧ nnAttrs as = 0 ∧ ngAttrs as = 0 ∧ (∀ lens, okAttrs lens as = true) ∧
      ∀ B k nn ng, treeAttrs B k nn ng as = []
  | [], _ => by simp [cellsAttrs, nnAttrs, ngAttrs, treeAttrs, okAttrs]
  | a :: as, h => by
    simp only [List.all_cons, Bool.and_eq_true, Bool.not_eq_true'] at h
    obtain ⟨a1, a2, a3, a5⟩ := leaf_ir a h.1
    obtain ⟨b1, b2, b3, b4, b5⟩ := leaf_attrs as (by simpa using h.2)
    refine ⟨by simp [cellsAttrs, a1, b1], by simp [nnAttrs, a2, b2], by simp [ngAttrs, a3, b3], ?_, ?_⟩
    · intro lens; simp [okAttrs, okAttr_leaf lens a h.1, b4 lens]
    · intro B k nn ng; simp [treeAttrs, a5, b5]

theorem getD_singleton_zero (u : Nat) : ([0] : List Nat).getD u 0 = 0 := by
  cases u <;> simp [List.getD]

theorem absInsB_zero (ins : List (Option Ref)) : absInsB [0] ins = absIns ins := by
  simp only [absInsB, absIns]
  apply List.map_congr_left
  intro r _
  cases r with
  | none => rfl
  | some r =>
    simp only [Option.map_some, refId]
    rw [getD_singleton_zero, Nat.zero_add]

theorem nodes_flat : ∀ (ns : List IRNode) (k nid : Nat),
    ns.all (fun n => (attrsOf n).all fun a => !irHasGraph a) = true →
    cellsNodes ns = List.replicate (numNoneNodes ns) blankCell ∧ nnNodes ns = ns.length ∧ ngNodes ns = 0 ∧
      treeNodes [0] k nid 0 ns = absNodes k nid ns
  | [], _, _, _ => by simp [cellsNodes, numNoneNodes, nnNodes, ngNodes, treeNodes, absNodes]
  | n :: ns, k, nid, h => by
    simp only [List.all_cons, Bool.and_eq_true] at h
    cases n with
    | mk domain opType overload name doc ins outs attrs mprops devcfgs =>
      obtain ⟨a1, a2, a3, _, a5⟩ := leaf_attrs attrs h.1
      obtain ⟨b1, b2, b3, b4⟩ := nodes_flat ns (k + numNone outs) (nid + 1) h.2
      refine ⟨?_, ?_, ?_, ?_⟩
      · simp only [cellsNodes, cellsNode, a1, b1, numNoneNodes, IRNode.outputs, List.append_nil]
        rw [List.replicate_append_replicate]
      · simp [nnNodes, nnNode, a2, b2]; omega
      · simp [ngNodes, ngNode, a3, b3]
      · simp only [treeNodes, treeNode, absNodes, cellsNode, a1, a2, a3, a5, nnNode, ngNode, List.append_nil,
          List.length_replicate, Nat.add_zero, Nat.zero_add, List.headD_cons, absInsB_zero, absOutsB_zero,
          IRNode.inputs, IRNode.outputs, b4]

theorem absIRFull_eq_absIR (g : IRGraph) (h : noSubIR g = true) : absIRFull g = absIR g := by
  cases g with
  | mk tbl inputs inits nodes outs name doc opsets mprops =>
    simp only [noSubIR, IRGraph.nodes] at h
    obtain ⟨b1, _, b3, b4⟩ := nodes_flat nodes tbl.length 0 h
    simp only [absIRFull, absIR, cellsG, treeG, b1, b3, IRGraph.table, IRGraph.nodes, IRGraph.outputs,
      IRGraph.inputs, IRGraph.initializers, Nat.zero_add, Nat.add_zero, b4, absGOutsB_zero, List.length_replicate]
    simp

theorem desAttrs_leaf (scN : Scopes) : ∀ (as : List AttrP) (xs : List IRAttr),
    as.all (fun a => !hasGraphAttr a) = true → desAttrs scN as = .ok xs → xs.all (fun x => !irHasGraph x) = true
  | [], xs, _, h => by cases h; rfl
  | a :: as, xs, hl, h => by
    simp only [List.all_cons, Bool.and_eq_true, Bool.not_eq_true'] at hl
    obtain ⟨x, xs', h1, h2, rfl⟩ := bind2_ok (h : (desAttr scN a >>= fun x => desAttrs scN as >>= fun xs =>
      Except.ok (x :: xs)) = _)
    simp [desAttr_leaf scN a hl.1 x h1, desAttrs_leaf scN as xs' (by simpa using hl.2) h2]

theorem desNodes_leaf (outer : Scopes) (vis : List ValueInfoP) (q : List AnnotP) (tbl : List IRValue) :
    ∀ ns : List NodeP, wfNodes (tableNames tbl :: outer) ns = true →
    ns.all (fun n => n.attrs.all fun a => !hasGraphAttr a) = true →
    ∃ xs, desNodes outer vis q ns tbl = .ok (xs, tbl) ∧ xs.all (fun x => (attrsOf x).all fun a => !irHasGraph a) = true
  | [], _, _ => ⟨[], rfl, rfl⟩
  | .mk inputs outputs name opType domain overload doc attrs metadata devcfgs :: ns, hw, hl => by
    obtain ⟨hw1, hw2⟩ := Bool.and_eq_true_iff.1 hw
    simp only [List.all_cons, Bool.and_eq_true, NodeP.attrs] at hl
    have hwa : wfAttrs (tableNames tbl :: outer) attrs = true := by
      simp only [wfNode, Bool.and_eq_true] at hw1; exact hw1.1.1.2
    obtain ⟨as, a1, _, a3⟩ := attrs_rt (tableNames tbl :: outer) none attrs hwa (Or.inl rfl)
    obtain ⟨xs, b1, b2⟩ := desNodes_leaf outer vis q tbl ns hw2 hl.2
    refine ⟨_, desNodes_cons (desNode_wf outer vis q tbl inputs outputs name opType domain overload doc attrs metadata
      devcfgs hw1 as a1 a3) b1, ?_⟩
    rw [List.all_cons, b2, Bool.and_true]
    exact desAttrs_leaf _ attrs as hl.1 a1

theorem desGraph_noSub (outer : Scopes) (p : GraphP) (g : IRGraph) (hwf : wfGraph outer p = true)
    (h : noSubgraphs p = true) (hg : desGraph outer p = .ok g) : noSubIR g = true := by
  cases p with
  | mk name doc nodes inits inputs outputs vis quant metadata =>
    obtain ⟨_, _, _, _, _, hwn, _, _, hdes⟩ :=
      desGraph_wf outer name doc nodes inits inputs outputs vis quant metadata hwf
    obtain ⟨xs, h1, h2⟩ := desNodes_leaf outer vis quant _ nodes hwn h
    rw [hdes xs h1] at hg
    cases hg
    exact h2

theorem refOKF_single (n : Nat) (o : Option Ref) : refOKF [n] o = refOK n o := by
  cases o with
  | none => rfl
  | some r =>
    obtain ⟨u, i⟩ := r
    cases u with
    | zero => simp [refOKF, refOK]
    | succ u => simp [refOKF, refOK, List.getD]

theorem okNodes_flat (n : Nat) : ∀ ns : List IRNode,
    ns.all (fun x => (attrsOf x).all fun a => !irHasGraph a) = true →
    okNodes [n] ns = ns.all (fun x => x.inputs.all (refOK n) && x.outputs.all (outOK n))
  | [], _ => by simp [okNodes]
  | x :: xs, h => by
    simp only [List.all_cons, Bool.and_eq_true] at h
    cases x with
    | mk domain opType overload name doc ins outs attrs mprops devcfgs =>
      obtain ⟨_, _, _, hokA, _⟩ := leaf_attrs attrs h.1
      have ha := hokA [n]
      have e : ins.all (refOKF [n]) = ins.all (refOK n) := by
        congr 1; funext o; exact refOKF_single n o
      simp only [okNodes, okNode, ha, e, okNodes_flat n xs h.2, List.all_cons, List.headD_cons, Bool.and_true,
        IRNode.inputs, IRNode.outputs]

theorem GOKFull_eq_GOK (g : IRGraph) (h : noSubIR g = true) : GOKFull g = GOK g := by
  cases g with
  | mk tbl inputs inits nodes outs name doc opsets mprops =>
    simp only [noSubIR, IRGraph.nodes] at h
    simp only [GOKFull, okG, GOK, okNodes_flat tbl.length nodes h, IRGraph.table, IRGraph.nodes, IRGraph.outputs,
      IRGraph.inputs, IRGraph.initializers]
    rfl

def stripN : IRNode → IRNode
  | .mk d o ov n doc ins outs attrs mp dc => .mk d o ov n doc ins outs (attrs.filter fun a => !irHasGraph a) mp dc

def stripG : IRGraph → IRGraph
  | .mk t i n ns o name doc ops mp => .mk t i n (ns.map stripN) o name doc ops mp

theorem stripN_io (x : IRNode) : (stripN x).inputs = x.inputs ∧ (stripN x).outputs = x.outputs := by
  cases x; exact ⟨rfl, rfl⟩

theorem noSubIR_stripG (g : IRGraph) : noSubIR (stripG g) = true := by
  cases g with
  | mk t i n ns o name doc ops mp =>
    simp only [noSubIR, stripG, IRGraph.nodes, List.all_map, List.all_eq_true]
    intro x _
    cases x
    simp [stripN, attrsOf, List.all_filter]

theorem absNodes_strip : ∀ (ns : List IRNode) (k nid : Nat), absNodes k nid (ns.map stripN) = absNodes k nid ns
  | [], _, _ => rfl
  | x :: ns, k, nid => by
    simp only [List.map_cons, absNodes, (stripN_io x).1, (stripN_io x).2, absNodes_strip ns]

theorem numNoneNodes_strip : ∀ ns : List IRNode, numNoneNodes (ns.map stripN) = numNoneNodes ns
  | [] => rfl
  | x :: ns => by simp only [List.map_cons, numNoneNodes, (stripN_io x).2, numNoneNodes_strip ns]

theorem absIR_stripG (g : IRGraph) : absIR (stripG g) = absIR g := by
  cases g
  simp only [absIR, stripG, IRGraph.table, IRGraph.nodes, IRGraph.outputs, IRGraph.inputs, IRGraph.initializers,
    absNodes_strip, numNoneNodes_strip]

theorem GOK_stripG (g : IRGraph) : GOK (stripG g) = GOK g := by
  cases g
  simp only [GOK, stripG, IRGraph.table, IRGraph.nodes, IRGraph.outputs, IRGraph.inputs, IRGraph.initializers,
    List.all_map, Function.comp_def, stripN_io]
  rfl

theorem serAttrs_filter {scN : Scopes} {ver : Option Int} : ∀ {xs : List IRAttr} {as : List AttrP},
    serAttrs scN ver xs = .ok as →
    ∃ as', serAttrs scN ver (xs.filter fun a => !irHasGraph a) = .ok as' ∧
      as'.all (fun a => !hasGraphAttr a) = true
  | [], _, _ => ⟨[], rfl, rfl⟩
  | x :: xs, as, h => by
    obtain ⟨a, as0, h1, h2, rfl⟩ := serAttrs_cons_ok h
    obtain ⟨as', e1, e2⟩ := serAttrs_filter h2
    by_cases hl : irHasGraph x = true
    · exact ⟨as', by simpa [List.filter, hl] using e1, e2⟩
    · have hl' : irHasGraph x = false := by simpa using hl
      refine ⟨a :: as', ?_, by simp [(serAttr_kind h1).trans hl', e2]⟩
      simp only [List.filter, hl', Bool.not_false, serAttrs, h1, e1, bind, Except.bind]

theorem serNode_strip {scN : Scopes} {ver : Option Int} : ∀ {x : IRNode} {np : NodeP},
    Serde.serNode scN ver x = .ok np →
    ∃ np', Serde.serNode scN ver (stripN x) = .ok np' ∧ absN np' = absN np ∧
      np'.attrs.all (fun a => !hasGraphAttr a) = true
  | .mk d o ov n doc ins outs attrs mp dc, np, h => by
    simp only [Serde.serNode, bind, Except.bind] at h
    split at h
    · cases h
    · rename_i as has
      obtain ⟨as', e1, e2⟩ := serAttrs_filter has
      cases dc with
      | nil =>
        simp only [List.isEmpty_nil, if_true] at h
        cases h
        exact ⟨.mk _ _ n o d ov doc as' (sortEntries mp) [],
          by simp only [stripN, Serde.serNode, e1, List.isEmpty_nil, if_true, bind, Except.bind], rfl, e2⟩
      | cons c cs =>
        simp only [List.isEmpty_cons, Bool.false_eq_true, if_false] at h
        split at h
        · cases h
        · rename_i dcs hdcs
          cases h
          exact ⟨.mk _ _ n o d ov doc as' (sortEntries mp) dcs, by
            simp only [stripN, Serde.serNode, e1, List.isEmpty_cons, Bool.false_eq_true, if_false, hdcs, bind,
              Except.bind], rfl, e2⟩

theorem serNodes_strip {scN : Scopes} {ver : Option Int} : ∀ {xs : List IRNode} {nps : List NodeP},
    Serde.serNodes scN ver xs = .ok nps →
    ∃ nps', Serde.serNodes scN ver (xs.map stripN) = .ok nps' ∧ nps'.map absN = nps.map absN ∧
      nps'.all (fun n => n.attrs.all fun a => !hasGraphAttr a) = true
  | [], _, h => by cases h; exact ⟨[], rfl, rfl, rfl⟩
  | x :: xs, nps, h => by
    obtain ⟨np, nps0, h1, h2, rfl⟩ := serNodes_cons_ok h
    obtain ⟨np', a1, a2, a3⟩ := serNode_strip h1
    obtain ⟨nps', b1, b2, b3⟩ := serNodes_strip h2
    exact ⟨np' :: nps', by simp only [List.map_cons, Serde.serNodes, a1, b1, bind, Except.bind],
      by simp only [List.map_cons, a2, b2], by simp only [List.all_cons, a3, b3, Bool.and_self]⟩

theorem flatMap_outputs_strip : ∀ ns : List IRNode,
    (ns.map stripN).flatMap IRNode.outputs = ns.flatMap IRNode.outputs
  | [] => rfl
  | x :: ns => by simp only [List.map_cons, List.flatMap_cons, (stripN_io x).2, flatMap_outputs_strip ns]

def setNodes : GraphP → List NodeP → GraphP
  | .mk a b _ c d e f g h, ns => .mk a b ns c d e f g h

/-- serializing the stripped graph: the same proto up to the nodes, whose `absN` is unchanged -/
theorem serGraph_strip {ver : Option Int} {g : IRGraph} {q : GraphP} (h : Serde.serGraph [] ver g = .ok q) :
    ∃ nps, Serde.serGraph [] ver (stripG g) = .ok (setNodes q nps) ∧ absG (setNodes q nps) = absG q ∧
      noSubgraphs (setNodes q nps) = true := by
  cases g with
  | mk t i n ns o name doc ops mp =>
    simp only [Serde.serGraph, bind, Except.bind] at h
    split at h
    · cases h
    · rename_i nps hns
      cases h
      obtain ⟨nps', b1, b2, b3⟩ := serNodes_strip hns
      refine ⟨nps', ?_, ?_, b3⟩
      · simp only [stripG, Serde.serGraph, b1, bind, Except.bind, flatMap_outputs_strip, setNodes]
      · simp only [setNodes, absG, GraphP.nodes, b2, GraphP.inputs, GraphP.initializers, GraphP.valueInfo,
          GraphP.outputs]

end IrVerif.Bridge

namespace IrVerif.Scope
open IrVerif.Proto

/-- **C02/C03 bridge, deserialization** (graphs whose nodes have no GRAPH / GRAPHS attribute): on the shared fragment
    both models deserialize, and C02's IR, abstracted to the Scope world, IS the world the Scope model
    deserializes from the abstracted proto.  The restriction of `C03_bridge_deserialize` to the fragment. -/
theorem C03_bridge_deserialize_partial (p : Proto.GraphP) (h : Bridge.shared p = true) :
    ∃ g w, Serde.desGraph [] p = .ok g ∧ deserialize (Bridge.absG p) = .ok w ∧
      Bridge.coreOf w = Bridge.absIR g := by
  simp only [Bridge.shared, Bool.and_eq_true] at h
  obtain ⟨g, w, h1, h2, h3⟩ := C03_bridge_deserialize p h.1
  rw [Bridge.absGFull_eq_absG p h.2] at h2
  rw [Bridge.absIRFull_eq_absIR g (Bridge.desGraph_noSub [] p g h.1 h.2 h1)] at h3
  exact ⟨g, w, h1, h2, h3⟩

/-- **C02/C03 bridge, serialization**: for every C02 IR graph satisfying the decidable `GOK` and every Scope world
    whose core is its abstraction, whenever C02's serializer returns `q` the Scope serializer returns `absG q`.
    `absIR` and `GOK` ignore the graphs held by attributes, so this is `C03_bridge_serialize` at the graph without them. -/
theorem C03_bridge_serialize_partial (g : Serde.IRGraph) (ver : Option Int) (q : Proto.GraphP) (w : World)
    (hok : Bridge.GOK g = true) (hq : Serde.serGraph [] ver g = .ok q) (hw : Bridge.coreOf w = Bridge.absIR g) :
    ∃ w', serialize w = .ok (w', Bridge.absG q) := by
  obtain ⟨nps, h1, h2, h3⟩ := Bridge.serGraph_strip hq
  have hns := Bridge.noSubIR_stripG g
  rw [← h2, ← Bridge.absGFull_eq_absG _ h3]
  refine C03_bridge_serialize (Bridge.stripG g) ver _ w ?_ h1 ?_
  · rw [Bridge.GOKFull_eq_GOK _ hns, Bridge.GOK_stripG, hok]
  · rw [Bridge.absIRFull_eq_absIR _ hns, Bridge.absIR_stripG, hw]

/-- deserialization followed by serialization on the fragment: both deserializers succeed, and IF the IR satisfies
    `GOK` and C02's serializer returns `q`, the Scope serializer returns `absG q`; so what C02 proves about
    `serGraph (desGraph p)` (`C02_graph`: it is `normGraph p`) carries over, through `absG`, to the Scope model's
    `serialize (deserialize (absG p))`, which is what `C03_roundtrip` / `C17_idempotent` speak about.  Without the
    two conditions, on `sharedS`: `C03_bridge_serde_partial`. -/
theorem C03_bridge_roundtrip_partial (p : Proto.GraphP) (h : Bridge.shared p = true) :
    ∃ g w, Serde.desGraph [] p = .ok g ∧ deserialize (Bridge.absG p) = .ok w ∧
      (Bridge.GOK g = true → ∀ ver q, Serde.serGraph [] ver g = .ok q →
        ∃ w', serialize w = .ok (w', Bridge.absG q)) := by
  obtain ⟨g, w, h1, h2, h3⟩ := C03_bridge_deserialize_partial p h
  exact ⟨g, w, h1, h2, fun hok ver q hq => C03_bridge_serialize_partial g ver q w hok hq h3⟩

end IrVerif.Scope
