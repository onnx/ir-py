/-
Lemmas/SemLift.lean — LiftConstantsToInitializersPass model (`liftG`) preserves the denotation:
a Constant node's value is bound at graph entry instead of at the node.
-/
import IrVerif.Lemmas.PassFlagsOrderedDelete
namespace IrVerif.Passes
open IrVerif.Sem IrVerif.PassFlags
variable {Val : Type}

/-- old environment ρ vs new environment ρ': equal except on the constants that are still to come
    in the old node list (`L`), which the new environment already holds -/
def HRel (I : Interp Val) (L : List (VId × Tensor)) (ρ ρ' : Env Val) : Prop :=
  (∀ v, v ∉ L.map Prod.fst → ρ v = ρ' v) ∧ (∀ p ∈ L, ρ' p.1 = some (I.tv p.2))

theorem liftCandidate_some {liftAll : Bool} {limit : Nat} {gouts : List VId} {op : OpId}
    {attrs : List (String × AttrData)} {outs : List VId} {p : VId × Tensor}
    (h : liftCandidate liftAll limit gouts op attrs outs = some p) :
    outs = [p.1] ∧ constOf op attrs = some p.2 := by
  unfold liftCandidate at h
  split at h
  · rename_i y t ht
    split at h
    · simp at h
    · simp only [Option.some.injEq] at h
      subst h
      exact ⟨rfl, ht⟩
  · simp at h

theorem liftNodes_ids_sublist (liftAll : Bool) (limit : Nat) (gouts : List VId) :
    ∀ ns : List Node, List.Sublist (((liftNodes liftAll limit gouts ns).2).map Prod.fst) (outsTop ns)
  | [] => by simp [liftNodes, outsTop]
  | .mk op attrs ins outs bodies :: ns => by
    have ih := liftNodes_ids_sublist liftAll limit gouts ns
    simp only [liftNodes, outsTop, Node.outs]
    split
    · rename_i p hp
      obtain ⟨ho, _⟩ := liftCandidate_some hp
      rw [ho]
      simpa using ih
    · exact List.Sublist.trans ih (List.sublist_append_right _ _)

theorem constOf_not_identity {op : OpId} {attrs : List (String × AttrData)} {t : Tensor}
    (h : constOf op attrs = some t) : isIdentityOp op = false := by
  unfold constOf at h
  split at h
  · rename_i hc
    simp only [isConstantOp, Bool.and_eq_true, beq_iff_eq] at hc
    simp [isIdentityOp, hc.1]
  · simp at h

theorem liftNodes_ids_sub (liftAll : Bool) (limit : Nat) (gouts : List VId) (v : VId)
    (ns : List Node) (h : v ∈ ((liftNodes liftAll limit gouts ns).2).map Prod.fst) : v ∈ outsTop ns :=
  (liftNodes_ids_sublist liftAll limit gouts ns).subset h

theorem liftNodes_refs (liftAll : Bool) (limit : Nat) (v : VId) : ∀ (gouts : List VId) (ns : List Node),
    v ∈ refsNodes (liftNodes liftAll limit gouts ns).1 → v ∈ refsNodes ns :=
  fun gouts ns => (liftNodes_shrink liftAll limit gouts ns).1.refs v

theorem lift_sound (I : Interp Val) (liftAll : Bool) (limit : Nat) :
    let G := fun g g' => ssaG g = true → noFwdG g = true → ∀ ρ : Env Val, evalG I g' ρ = evalG I g ρ
    let Ns := fun (_ : List VId) ns (r : List Node × List (VId × Tensor)) => ∀ ρ ρ' : Env Val, ssaNodes ns = true →
      noFwdNodes ns = true → HRel I r.2 ρ ρ' → ∀ v, evalNodes I ns ρ v = evalNodes I r.1 ρ' v
    let Bs := fun bs bs' => ssaBodies bs = true → noFwdBodies bs = true →
      ∀ ρ : Env Val, evalBodies I bs' ρ = evalBodies I bs ρ
    (∀ g, G g (liftG liftAll limit g)) ∧ (∀ gouts ns, Ns gouts ns (liftNodes liftAll limit gouts ns)) ∧
      ∀ bs, Bs bs (liftBodies liftAll limit bs) := by
  intro G Ns Bs
  refine liftG.mutual_induct_unfolding liftAll limit G Ns Bs ?_ ?_ ?_ ?_ ?_ ?_
  · intro inputs outputs inits nodes ih hs hf ρ
    funext xs
    rw [ssaG_iff] at hs
    obtain ⟨⟨⟨_, hndt⟩, hdisj⟩, hsn⟩ := hs
    have hLsub : ∀ v ∈ ((liftNodes liftAll limit outputs nodes).2).map Prod.fst, v ∈ defsNodes nodes :=
      fun v hv => outsTop_sub_defsNodes nodes (liftNodes_ids_sub liftAll limit outputs v nodes hv)
    obtain ⟨e1, e2⟩ := entryEnv_append_inits I ρ xs (inputs := inputs) hndt
      ((liftNodes_ids_sublist liftAll limit outputs nodes).nodup (outsTop_nodup nodes hsn))
      (fun v hv => ⟨fun h => hdisj v (List.mem_append_left _ h) (hLsub v hv),
        fun h => hdisj v (List.mem_append_right _ h) (hLsub v hv)⟩)
    rw [evalG_mk, evalG_mk]
    exact List.map_congr_left (fun o _ => (ih _ _ hsn hf ⟨fun v hv => (e1 v hv).symm, e2⟩ o).symm)
  · intro gouts ρ ρ' _ _ h v
    exact h.1 v (by simp)
  · -- the Constant node is lifted
    intro gouts op attrs ins outs bodies ns p hp ih ρ ρ' hs hf h v
    rw [ssaNodes_cons_iff] at hs
    rw [noFwdNodes_cons_iff] at hf
    obtain ⟨⟨⟨⟨_, _⟩, hsb⟩, hdn⟩, hsn⟩ := hs
    obtain ⟨⟨⟨hfw, hfr⟩, hfb⟩, hfn⟩ := hf
    obtain ⟨ho, hconst⟩ := liftCandidate_some hp
    subst ho
    simp only [evalNodes]
    refine ih _ ρ' hsn hfn ⟨?_, ?_⟩ v
    · intro w hw
      simp only [evalN, nodeResults, constOf_not_identity hconst, hconst, Bool.false_and]
      by_cases hwp : w = p.1
      · subst hwp
        simp only [Bool.false_eq_true, if_false]
        rw [Env.bind_of_mem _ _ (by simp)]
        simpa using (h.2 p (by simp)).symm
      · simp only [Bool.false_eq_true, if_false]
        rw [Env.bind_of_not_mem _ _ (by simpa using hwp)]
        exact h.1 w (by simp only [List.map_cons, List.mem_cons, not_or]; exact ⟨hwp, hw⟩)
    · intro q hq
      exact h.2 q (List.mem_cons_of_mem _ hq)
  · intro gouts op attrs ins outs bodies ns hp ihb ih ρ ρ' hs hf h v
    rw [ssaNodes_cons_iff] at hs
    rw [noFwdNodes_cons_iff] at hf
    obtain ⟨⟨⟨⟨_, _⟩, hsb⟩, hdn⟩, hsn⟩ := hs
    obtain ⟨⟨⟨hfw, hfr⟩, hfb⟩, hfn⟩ := hf
    simp only [evalNodes]
    refine ih _ _ hsn hfn ⟨?_, ?_⟩ v
    · intro w hw
      simp only [evalN]
      have hLd : ∀ u ∈ ((liftNodes liftAll limit gouts ns).2).map Prod.fst, u ∈ defsNodes ns :=
        fun u hu => outsTop_sub_defsNodes ns (liftNodes_ids_sub liftAll limit gouts u ns hu)
      have hargs : evalArgs ρ (trimNone ins) = evalArgs ρ' (trimNone ins) := by
        refine evalArgs_congr (S := fun u => u ∉ ((liftNodes liftAll limit gouts ns).2).map Prod.fst)
          (fun u hu => h.1 u hu) _ (fun u hu hL => ?_)
        have : u ∈ ins.filterMap id := mem_filterMap_trimNone hu
        exact hfw u this (mem_defsNodes_cons.2 (Or.inr (hLd u hL)))
      have hb : evalBodies I bodies ρ = evalBodies I (liftBodies liftAll limit bodies) ρ' := by
        rw [← ihb hsb hfb ρ]
        refine evalBodies_congr I _ ρ ρ' (fun u hu => h.1 u (fun hL => ?_))
        exact hfr u ((liftBodies_shrink liftAll limit bodies).2.1 u hu)
          (by simp only [List.mem_append]; exact Or.inr (hLd u hL))
      rw [hargs, hb]
      by_cases hwo : w ∈ outs
      · simp [Env.bind, hwo]
      · rw [Env.bind_of_not_mem _ _ hwo, Env.bind_of_not_mem _ _ hwo]
        exact h.1 w hw
    · intro q hq
      simp only [evalN]
      have hqo : q.1 ∉ outs := fun hqo =>
        hdn q.1 (by simp [defsN, hqo])
          (outsTop_sub_defsNodes ns (liftNodes_ids_sub liftAll limit gouts q.1 ns (List.mem_map.2 ⟨q, hq, rfl⟩)))
      rw [Env.bind_of_not_mem _ _ hqo]
      exact h.2 q hq
  · intro _ _ _
    rfl
  · intro b bs ihg ihb hs hf ρ
    rw [ssaBodies_cons_iff] at hs
    rw [noFwdBodies_cons_iff] at hf
    simp only [evalBodies, ihg hs.1.1 hf.1 ρ, ihb hs.2 hf.2 ρ]

theorem liftG_sound (I : Interp Val) (liftAll : Bool) (limit : Nat) : ∀ (g : Graph),
    ssaG g = true → noFwdG g = true → ∀ ρ : Env Val, evalG I (liftG liftAll limit g) ρ = evalG I g ρ :=
  (lift_sound I liftAll limit).1

theorem liftNodes_sound (I : Interp Val) (liftAll : Bool) (limit : Nat) (gouts : List VId) :
    ∀ (ns : List Node) (ρ ρ' : Env Val), ssaNodes ns = true → noFwdNodes ns = true →
    HRel I (liftNodes liftAll limit gouts ns).2 ρ ρ' →
    ∀ v, evalNodes I ns ρ v = evalNodes I (liftNodes liftAll limit gouts ns).1 ρ' v :=
  (lift_sound I liftAll limit).2.1 gouts

theorem liftBodies_sound (I : Interp Val) (liftAll : Bool) (limit : Nat) : ∀ (bs : List Graph),
    ssaBodies bs = true → noFwdBodies bs = true →
    ∀ ρ : Env Val, evalBodies I (liftBodies liftAll limit bs) ρ = evalBodies I bs ρ :=
  (lift_sound I liftAll limit).2.2

end IrVerif.Passes
