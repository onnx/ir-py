/-
C12 — stability of `Graph.sort` on the graph tree: a graph that is already in order keeps its
order (under well-scopedness).
-/
import IrVerif.Lemmas.SortPos

namespace IrVerif.Sort
open List

theorem entsNs_append (k : Nat) (l1 l2 : List MNode) :
    entsNs k (l1 ++ l2) = entsNs k l1 ++ entsNs k l2 := by
  simp [entsNs_eq]

/-- order of entries in the universe is order of positions -/
theorem at_lt_of_before {U : List Ent} (hnd : (idsOf U).Nodup) {e1 e2 : Ent} (hb : Before U e1 e2)
    {i j : Nat} (hi : At U i e1) (hj : At U j e2) : i < j := by
  obtain ⟨A, B, rfl, h2⟩ := hb
  obtain ⟨k, hk, rfl⟩ := List.mem_iff_getElem.1 h2
  have h1 : At (A ++ e1 :: B) A.length e1 := by simp [At]
  have h2' : At (A ++ e1 :: B) (A.length + 1 + k) B[k] := by
    simp only [At]
    rw [List.getElem?_append_right (by omega)]
    have : A.length + 1 + k - A.length = k + 1 := by omega
    rw [this]; simp [hk]
  have := At.inj hnd hi h1 rfl
  have := At.inj hnd hj h2' rfl
  omega

/-- node ids inside one graph of the tree are distinct -/
theorem graph_ids_nodup {g h : MGraph} (hids : (idsOf (nodesOf g)).Nodup) (hh : h ∈ allGraphs g) :
    (h.2.map MNode.id).Nodup := by
  have hperm := ids_perm_Ns (ns := h.2) (fun m _ => ids_perm_N m) h.1
  have hsub : (idsOf (entsNs h.1 h.2)).Nodup :=
    List.Nodup.sublist ((graph_infix hh).sublist.map _) hids
  exact (List.nodup_append.1 (hperm.nodup_iff.1 hsub)).1

/-- **where the consumer of a dependency edge lies**: in the span of `m` too (leaving a nested graph goes through its
    owner); or it reads the node `m` itself, inside the span of `h` (well-scopedness); or it owns `h` and stands before
    the whole span of `h` -/
theorem edge_consumer {g : MGraph} (hids : (idsOf (nodesOf g)).Nodup) (hws : WellScoped g)
    {h : MGraph} (hh : h ∈ allGraphs g) {m : MNode} (hm : m ∈ h.2) {e ec : Ent} (he : e ∈ entsN h.1 m)
    (hec : ec ∈ nodesOf g) (hdep : some e.id ∈ ec.inputs ∨ e.id ∈ ec.subNodes) :
    (e ≠ entOf h.1 m ∧ ec ∈ entsN h.1 m) ∨
    (e = entOf h.1 m ∧ some m.id ∈ ec.inputs ∧ ec ∈ entsNs h.1 h.2) ∨
    (e = entOf h.1 m ∧ (∀ x ∈ h.2, x.id ∈ ec.subNodes) ∧ ∀ ea ∈ entsNs h.1 h.2, Before (nodesOf g) ec ea) := by
  by_cases hroot : e = entOf h.1 m
  · subst hroot
    refine Or.inr ?_
    rcases hdep with hin | hsub
    · exact Or.inl ⟨rfl, hin, hws h hh m hm ec hec hin⟩
    · refine Or.inr ?_
      rcases mem_allGraphs.1 hh with rfl | ⟨m0, hm0, hin0⟩
      · exact absurd hsub (root_not_owned hids hm hec)
      · obtain ⟨o, ho, hall, hbef⟩ := graph_owner_before m0 g.1 h hin0
        have hinf : entsN g.1 m0 <:+: nodesOf g := entsN_infix_entsNs hm0
        have : o = ec := owner_unique hids (hinf.subset ho) hec (hall m hm) hsub
        subst this
        exact ⟨rfl, hall, fun ea hea => (hbef ea hea).of_infix hinf⟩
  · refine Or.inl ⟨hroot, ?_⟩
    rcases hdep with hin | hsub
    · rcases ent_is_node m h.1 e he with heq | ⟨h', hh', x', hx', rfl⟩
      · exact absurd heq hroot
      · exact (subgraph_infix m h.1 h' hh').subset (hws h' (allGraphs_trans hh hm hh') x' hx' ec hec hin)
    · rcases owner_in_span m h.1 e he with heq | ⟨o, ho, hoe⟩
      · exact absurd heq hroot
      · have : o = ec := owner_unique hids ((node_infix hh hm).subset ho) hec hoe hsub
        rw [this] at ho
        exact ho

/-- **the stability core.**  In a well-scoped tree whose sort succeeds, if graph `h` is already in
    order then every node of `h` is re-linked before every later node of `h`. -/
theorem graph_stable {g : MGraph} (hids : (idsOf (nodesOf g)).Nodup) (hws : WellScoped g)
    (hlen : (kahn (nodesOf g).length (predsAt (nodesOf g))).length = (nodesOf g).length)
    {h : MGraph} (hh : h ∈ allGraphs g) (hord : OrderedG h)
    {L1 L2 : List MNode} {na : MNode} (hsplit : h.2 = L1 ++ na :: L2) {nb : MNode} (hnb : nb ∈ L2) :
    Before (kahn (nodesOf g).length (predsAt (nodesOf g)))
      (posOf (nodesOf g) na.id) (posOf (nodesOf g) nb.id) := by
  have hrun := kahn_run (predsAt_lt (nodesOf g))
  have hc := hrun.complete hlen
  have hna : na ∈ h.2 := by rw [hsplit]; simp
  have hL2 : ∀ m ∈ L2, m ∈ h.2 := fun m hm => by rw [hsplit]; simp [hm]
  have hgi : entsNs h.1 h.2 <:+: nodesOf g := graph_infix hh
  have hdecomp : entsNs h.1 h.2 =
      entsNs h.1 L1 ++ entOf h.1 na :: (entsGs na.subs ++ entsNs h.1 L2) := by
    rw [hsplit, entsNs_append]
    simp only [entsNs, entsN_cons, List.cons_append]
  have hspanL2 : entsNs h.1 L2 ⊆ nodesOf g := by
    intro e he
    apply hgi.subset
    rw [hdecomp]; simp [he]
  have heA : entOf h.1 na ∈ nodesOf g := (node_infix hh hna).subset (entOf_mem_entsN _ _)
  have hA : At (nodesOf g) (posOf (nodesOf g) na.id) (entOf h.1 na) := at_posOf hids heA
  have hcur := graph_ids_nodup hids hh
  -- the set S: positions of the entries in the spans of the nodes after `na`
  let S : Nat → Prop := fun x => ∃ e ∈ entsNs h.1 L2, At (nodesOf g) x e
  have hS : ∀ x, S x → posOf (nodesOf g) na.id < x ∧ x < (nodesOf g).length := by
    rintro x ⟨e, he, hx⟩
    refine ⟨?_, hx.lt⟩
    have hb : Before (entsNs h.1 h.2) (entOf h.1 na) e :=
      ⟨entsNs h.1 L1, entsGs na.subs ++ entsNs h.1 L2, hdecomp, by simp [he]⟩
    exact at_lt_of_before hids (hb.of_infix hgi) hA hx
  have hcl : ∀ x c, S x → c < (nodesOf g).length → x ∈ predsAt (nodesOf g) c →
      S c ∨ posOf (nodesOf g) na.id ∈ predsAt (nodesOf g) c := by
    rintro x c ⟨e, he, hx⟩ hcN hxc
    have hC := at_of_lt hcN
    set ec := (nodesOf g)[c] with hec
    have hedge : Edge (nodesOf g).length (predsAt (nodesOf g)) x c := ⟨hx.lt, hcN, hxc⟩
    obtain ⟨m, hm, hem⟩ := mem_entsNs.1 he
    have hmh : m ∈ h.2 := hL2 m hm
    have hspan_m : entsN h.1 m ⊆ entsNs h.1 L2 := (entsN_infix_entsNs hm).subset
    rcases edge_consumer hids hws hh hmh hem hC.mem ((edge_iff hids hx hC).1 hedge) with
      ⟨_, hin⟩ | ⟨rfl, hin, hec_in⟩ | ⟨rfl, hall, _⟩
    · exact Or.inl ⟨ec, hspan_m hin, hC⟩
    · -- `ec` reads the node `m` of `h`: it lies in the span of a node `c'` that `OrderedG` puts after `m`
      obtain ⟨c', hc', hecc'⟩ := mem_entsNs.1 hec_in
      have hb := hord m hmh c' hc' ⟨ec, hecc', hin⟩
      have hcur' : (L1.map MNode.id ++ na.id :: L2.map MNode.id).Nodup := by
        have := hcur; rw [hsplit] at this; simpa using this
      have hb' : Before (L1.map MNode.id ++ na.id :: L2.map MNode.id) m.id c'.id := by
        have := hb; rw [hsplit] at this; simpa using this
      have hc'2 := mem_tail_of_before hcur' hb' (List.mem_map.2 ⟨m, hm, rfl⟩)
      obtain ⟨m2, hm2, hid2⟩ := List.mem_map.1 hc'2
      have : m2 = c' := List.inj_on_of_nodup_map hcur (hL2 m2 hm2) hc' hid2
      subst this
      exact Or.inl ⟨ec, (entsN_infix_entsNs hm2).subset hecc', hC⟩
    · -- `ec` owns `h`, hence holds `na` too
      exact Or.inr ((edge_iff hids hA hC).2 (Or.inr (hall na hna))).2.2
  obtain ⟨l1, l2, hP⟩ := List.mem_iff_append.1 (hc _ hA.lt)
  have heB : entOf h.1 nb ∈ entsNs h.1 L2 :=
    (entsN_infix_entsNs hnb).subset (entOf_mem_entsN _ _)
  have hB : At (nodesOf g) (posOf (nodesOf g) nb.id) (entOf h.1 nb) :=
    at_posOf hids (hspanL2 heB)
  exact ⟨l1, l2, hP, hrun.stable hc _ S hS hcl hP _ ⟨_, heB, hB⟩⟩

/-- **per-graph fixpoint, on buckets**: in a well-scoped tree whose sort succeeds, the bucket of
    a graph that is already in order is its current node sequence. -/
theorem bucket_perm_graph {g : MGraph} (hgids : (gidsOf (allGraphs g)).Nodup)
    (hlen : (kahn (nodesOf g).length (predsAt (nodesOf g))).length = (nodesOf g).length)
    {h : MGraph} (hh : h ∈ allGraphs g) :
    (bucket (nodesOf g) (kahn (nodesOf g).length (predsAt (nodesOf g))) h.1).Perm (h.2.map MNode.id) := by
  have hperm := bucket_perm ((kahn_run (predsAt_lt (nodesOf g))).perm_range hlen) h.1
  rwa [filter_gid_root hgids hh] at hperm

theorem bucket_eq_of_ordered {g : MGraph} (hids : (idsOf (nodesOf g)).Nodup)
    (hgids : (gidsOf (allGraphs g)).Nodup) (hws : WellScoped g)
    (hlen : (kahn (nodesOf g).length (predsAt (nodesOf g))).length = (nodesOf g).length)
    {h : MGraph} (hh : h ∈ allGraphs g) (hord : OrderedG h) :
    bucket (nodesOf g) (kahn (nodesOf g).length (predsAt (nodesOf g))) h.1
      = h.2.map MNode.id := by
  have hperm := bucket_perm_graph hgids hlen hh
  have hcur := graph_ids_nodup hids hh
  have hnew : (bucket (nodesOf g) (kahn (nodesOf g).length (predsAt (nodesOf g))) h.1).Nodup :=
    hperm.nodup_iff.2 hcur
  let le : Nat → Nat → Prop := fun a b => (h.2.map MNode.id).idxOf a < (h.2.map MNode.id).idxOf b
  have hp1 : (h.2.map MNode.id).Pairwise le :=
    pairwise_of_before _ (fun a b hb => hb.idxOf_lt hcur)
  have hp2 : (bucket (nodesOf g) (kahn (nodesOf g).length (predsAt (nodesOf g))) h.1).Pairwise le := by
    apply pairwise_of_before
    intro a b hab
    have ha : a ∈ h.2.map MNode.id := hperm.mem_iff.1 hab.mem_left
    have hb : b ∈ h.2.map MNode.id := hperm.mem_iff.1 hab.mem_right
    show (h.2.map MNode.id).idxOf a < (h.2.map MNode.id).idxOf b
    by_contra hnlt
    rcases Nat.lt_or_ge ((h.2.map MNode.id).idxOf b) ((h.2.map MNode.id).idxOf a) with hlt | hge
    · -- b before a in the current order: then b is re-linked before a
      have hba := before_of_idxOf_lt hcur hb ha hlt
      obtain ⟨L1, nb, L2, na, hsplit, rfl, hna, rfl⟩ := before_map_split hba
      have hst := graph_stable hids hws hlen hh hord hsplit hna
      have hnb_mem : nb ∈ h.2 := by rw [hsplit]; simp
      have hna_mem : na ∈ h.2 := by rw [hsplit]; simp [hna]
      have hB : At (nodesOf g) (posOf (nodesOf g) nb.id) (entOf h.1 nb) :=
        at_posOf hids ((node_infix hh hnb_mem).subset (entOf_mem_entsN _ _))
      have hA : At (nodesOf g) (posOf (nodesOf g) na.id) (entOf h.1 na) :=
        at_posOf hids ((node_infix hh hna_mem).subset (entOf_mem_entsN _ _))
      have := bucket_before hst hB hA h.1 rfl rfl
      exact Before.asymm_of_nodup hnew hab this
    · -- same index: a = b, impossible in a duplicate-free list
      have heq : (h.2.map MNode.id).idxOf a = (h.2.map MNode.id).idxOf b := by omega
      have hab' : a = b := by
        have h1 := List.getElem_idxOf (List.idxOf_lt_length_of_mem ha)
        have h2 := List.getElem_idxOf (List.idxOf_lt_length_of_mem hb)
        rw [← h1, ← h2]; simp [heq]
      subst hab'
      exact Before.asymm_of_nodup hnew hab hab
  exact List.Perm.eq_of_pairwise (fun a b _ _ h1 h2 => by
    have h1' : (h.2.map MNode.id).idxOf a < (h.2.map MNode.id).idxOf b := h1
    have h2' : (h.2.map MNode.id).idxOf b < (h.2.map MNode.id).idxOf a := h2
    omega) hp2 hp1 hperm

end IrVerif.Sort
