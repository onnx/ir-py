/-
Facts about the abstract list-with-gaps machine `Spec` alone (pure list reasoning): these are the
English clauses of C11.  They transfer to the pointer structure through `C11_refine_*`.
-/
import IrVerif.Model.LinkedSet
namespace IrVerif.LinkedSet.Spec

/-- the index of an abstract cursor lies within the sequence -/
def ACur.InRange (L : List Nat) : ACur → Prop
  | .att k => k ≤ L.length
  | .gap k => k ≤ L.length
  | .done => True

/-! `rest`, `next` and `InRange` read the index only: a `gap` cursor behaves as the `att` cursor with its index
(the two differ under `curRemove` / `curInsert` only). -/
theorem rest_gap (L : List Nat) (d : Dir) (k : Nat) : rest L d (.gap k) = rest L d (.att k) := by cases d <;> rfl
theorem next_gap (L : List Nat) (d : Dir) (k : Nat) : next L d (.gap k) = next L d (.att k) := by cases d <;> rfl

theorem rest_length_le (L : List Nat) : ∀ (d : Dir) (c : ACur), (rest L d c).length ≤ L.length
  | _, .done => Nat.zero_le _
  | .fwd, .att k | .fwd, .gap k => by rw [rest, List.length_drop]; exact Nat.sub_le _ _
  | .rev, .att k | .rev, .gap k => by
      rw [rest, List.length_reverse, List.length_take]; exact Nat.min_le_right _ _

theorem next_fwd (L : List Nat) (k : Nat) :
    (k < L.length → ∃ v, L[k]? = some v ∧ L.drop k = v :: L.drop (k + 1)) ∧
    (¬ k < L.length → L[k]? = none ∧ L.drop k = []) := by
  constructor
  · intro hk
    exact ⟨L[k], List.getElem?_eq_getElem hk, List.drop_eq_getElem_cons hk⟩
  · intro hk
    exact ⟨List.getElem?_eq_none (Nat.le_of_not_lt hk), List.drop_of_length_le (Nat.le_of_not_lt hk)⟩

theorem next_rev (L : List Nat) (k : Nat) (hk : k ≤ L.length) (hk0 : k ≠ 0) :
    ∃ v, L[k - 1]? = some v ∧ (L.take k).reverse = v :: (L.take (k - 1)).reverse := by
  obtain ⟨j, rfl⟩ : ∃ j, k = j + 1 := ⟨k - 1, by omega⟩
  have hj : j < L.length := by omega
  have e : L[j]? = some L[j] := List.getElem?_eq_getElem hj
  refine ⟨L[j], by simp, ?_⟩
  rw [List.take_add_one, e]
  simp

/-- `next()` yields the head of `rest` and leaves its tail -/
theorem rest_next (L : List Nat) (d : Dir) (c : ACur) (hc : c.InRange L) :
    rest L d c = match (next L d c).2 with
      | some v => v :: rest L d (next L d c).1
      | none => [] := by
  cases d with
  | fwd =>
    cases c with
    | done => simp [rest, next]
    | att k | gap k =>
      simp only [rest, next]
      by_cases hk : k < L.length
      · obtain ⟨v, h1, h2⟩ := (next_fwd L k).1 hk
        rw [h1, h2]
      · obtain ⟨h1, h2⟩ := (next_fwd L k).2 hk
        rw [h1, h2]
  | rev =>
    cases c with
    | done => simp [rest, next]
    | att k | gap k =>
      simp only [rest, next]
      by_cases hk0 : k = 0
      · simp [hk0]
      · obtain ⟨v, h1, h2⟩ := next_rev L k hc hk0
        simp only [hk0, if_false, h1, h2]

theorem next_inRange (L : List Nat) (d : Dir) (c : ACur) (hc : c.InRange L) :
    (next L d c).1.InRange L := by
  have hf : ∀ k, (match L[k]? with
      | some v => (ACur.att (k + 1), some v)
      | none => (ACur.done, none)).1.InRange L := by
    intro k
    by_cases hk : k < L.length
    · obtain ⟨v, h1, _⟩ := (next_fwd L k).1 hk
      rw [h1]; simp only [ACur.InRange]; omega
    · rw [((next_fwd L k).2 hk).1]; trivial
  have hr : ∀ k, k ≤ L.length → (if k = 0 then (ACur.done, (none : Option Nat)) else
      match L[k - 1]? with
      | some v => (ACur.att (k - 1), some v)
      | none => (ACur.done, none)).1.InRange L := by
    intro k hk
    by_cases hk0 : k = 0
    · simp [hk0, ACur.InRange]
    · obtain ⟨v, h1, _⟩ := next_rev L k hk hk0
      simp only [hk0, if_false, h1, ACur.InRange]; omega
  cases d <;> cases c
  · exact hf _
  · exact hf _
  · trivial
  · exact hr _ hc
  · exact hr _ hc
  · trivial

theorem next_none (L : List Nat) (d : Dir) (c : ACur) (h : (next L d c).2 = none) :
    (next L d c).1 = .done := by
  have aux : ∀ (o : Option Nat) (k : Nat),
      (match o with
        | some v => (ACur.att k, some v)
        | none => (ACur.done, none)).2 = none →
      (match o with
        | some v => (ACur.att k, some v)
        | none => (ACur.done, none)).1 = ACur.done := by
    intro o k h; cases o <;> simp_all
  cases d <;> cases c <;> simp only [next] at h ⊢
  · exact aux _ _ h
  · exact aux _ _ h
  · split
    · rfl
    · rename_i hk; simp only [hk, if_false] at h; exact aux _ _ h
  · split
    · rfl
    · rename_i hk; simp only [hk, if_false] at h; exact aux _ _ h

/-! At or before the split point `A ++ x :: B` and `A ++ B` are cut inside `A` ("stay"); after it
the cut in `A ++ x :: B` is one further on ("shift"). -/

section
variable {A B : List Nat} {x : Nat}

theorem drop_stay (hxA : x ∉ A) {k : Nat} (hk : k ≤ A.length) :
    ((A ++ x :: B).drop k).erase x = (A ++ B).drop k ∧ x ∈ (A ++ x :: B).drop k := by
  have hn : x ∉ A.drop k := fun h => hxA (List.mem_of_mem_drop h)
  rw [List.drop_append, List.drop_append, Nat.sub_eq_zero_of_le hk, List.drop_zero, List.drop_zero,
    List.erase_append, if_neg hn, List.erase_cons_head]
  exact ⟨rfl, List.mem_append_right _ List.mem_cons_self⟩

theorem drop_shift (hxB : x ∉ B) {k : Nat} (hk : A.length ≤ k) :
    ((A ++ x :: B).drop (k + 1)).erase x = (A ++ B).drop k ∧ x ∉ (A ++ x :: B).drop (k + 1) := by
  have hn : x ∉ B.drop (k - A.length) := fun h => hxB (List.mem_of_mem_drop h)
  rw [List.drop_append, List.drop_append, List.drop_of_length_le (Nat.le_succ_of_le hk),
    List.drop_of_length_le hk, Nat.succ_sub hk, List.drop_succ_cons]
  exact ⟨List.erase_of_not_mem hn, hn⟩

theorem take_stay (hxA : x ∉ A) {k : Nat} (hk : k ≤ A.length) :
    ((A ++ x :: B).take k).reverse.erase x = ((A ++ B).take k).reverse ∧
      x ∉ ((A ++ x :: B).take k).reverse := by
  have hn : x ∉ (A.take k).reverse := fun h => hxA (List.mem_of_mem_take (List.mem_reverse.mp h))
  rw [List.take_append, List.take_append, Nat.sub_eq_zero_of_le hk, List.take_zero, List.take_zero,
    List.append_nil]
  exact ⟨List.erase_of_not_mem hn, hn⟩

theorem take_shift (hxB : x ∉ B) {k : Nat} (hk : A.length ≤ k) :
    ((A ++ x :: B).take (k + 1)).reverse.erase x = ((A ++ B).take k).reverse ∧
      x ∈ ((A ++ x :: B).take (k + 1)).reverse := by
  have hn : x ∉ (B.take (k - A.length)).reverse :=
    fun h => hxB (List.mem_of_mem_take (List.mem_reverse.mp h))
  rw [List.take_append, List.take_append, List.take_of_length_le (Nat.le_succ_of_le hk),
    List.take_of_length_le hk, Nat.succ_sub hk, List.take_succ_cons, List.reverse_append,
    List.reverse_append, List.reverse_cons, List.append_assoc, List.erase_append, if_neg hn]
  exact ⟨congrArg _ (List.erase_cons_head ..), List.mem_append_right _ List.mem_cons_self⟩

end

/-! ### removal -/

theorem rest_removeIdx (A B : List Nat) (x : Nat) (hnd : (A ++ x :: B).Nodup) (d : Dir) (c : ACur)
    (hc : c.InRange (A ++ x :: B)) :
    rest (A ++ B) d (curRemove d A.length c) = (rest (A ++ x :: B) d c).erase x ∧
    (curRemove d A.length c).InRange (A ++ B) := by
  have hx : x ∉ A ++ B := (List.nodup_cons.1 (List.perm_middle.nodup_iff.1 hnd)).1
  have hxA : x ∉ A := fun h => hx (List.mem_append_left _ h)
  have hxB : x ∉ B := fun h => hx (List.mem_append_right _ h)
  have hlen : (A ++ x :: B).length = (A ++ B).length + 1 := by
    rw [List.length_append, List.length_append, List.length_cons]; omega
  have hle : A.length ≤ (A ++ B).length := by rw [List.length_append]; omega
  -- in every case the cursor keeps its index up to the split point and moves down by one beyond it
  have hf : ∀ k, k ≤ (A ++ x :: B).length →
      (A ++ B).drop (if A.length < k then k - 1 else k) = ((A ++ x :: B).drop k).erase x ∧
      (if A.length < k then k - 1 else k) ≤ (A ++ B).length := by
    intro k hk
    split
    · rename_i h
      obtain ⟨j, rfl⟩ : ∃ j, k = j + 1 := ⟨k - 1, by omega⟩
      rw [Nat.add_sub_cancel]
      exact ⟨(drop_shift hxB (Nat.le_of_lt_succ h)).1.symm, by omega⟩
    · rename_i h
      exact ⟨(drop_stay hxA (Nat.le_of_not_lt h)).1.symm, by omega⟩
  have hr : ∀ k, k ≤ (A ++ x :: B).length →
      ((A ++ B).take (if A.length < k then k - 1 else k)).reverse =
        ((A ++ x :: B).take k).reverse.erase x ∧
      (if A.length < k then k - 1 else k) ≤ (A ++ B).length := by
    intro k hk
    split
    · rename_i h
      obtain ⟨j, rfl⟩ : ∃ j, k = j + 1 := ⟨k - 1, by omega⟩
      rw [Nat.add_sub_cancel]
      exact ⟨(take_shift hxB (Nat.le_of_lt_succ h)).1.symm, by omega⟩
    · rename_i h
      exact ⟨(take_stay hxA (Nat.le_of_not_lt h)).1.symm, by omega⟩
  cases d with
  | fwd =>
    cases c with
    | done => exact ⟨rfl, trivial⟩
    | att k =>
      have := hf k hc
      simp only [curRemove]
      by_cases h1 : A.length + 1 = k
      · subst h1
        rw [if_pos (Nat.lt_succ_self _), Nat.add_sub_cancel] at this
        rw [if_pos rfl]; exact this
      · rw [if_neg h1]
        rw [← apply_ite]; exact this
    | gap k =>
      have := hf k hc
      simp only [curRemove]
      rw [← apply_ite]; exact this
  | rev =>
    cases c with
    | done => exact ⟨rfl, trivial⟩
    | att k =>
      have := hr k hc
      simp only [curRemove]
      by_cases h1 : A.length = k
      · subst h1
        rw [if_neg (Nat.lt_irrefl _)] at this
        rw [if_pos rfl]; exact this
      · rw [if_neg h1]
        rw [← apply_ite]; exact this
    | gap k =>
      have := hr k hc
      simp only [curRemove]
      rw [← apply_ite]; exact this

/-! ### insertion -/

/-- does a cursor still come across an element inserted at index `p`?  Forward: the element must
    land after the current element (`att`: `k ≤ p`) resp. strictly after the gap (`gap`: `k < p`);
    reverse mirrored. -/
def seen : Dir → Nat → ACur → Prop
  | _, _, .done => False
  | .fwd, p, .att k => k ≤ p
  | .fwd, p, .gap k => k < p
  | .rev, p, .att k => p ≤ k
  | .rev, p, .gap k => p < k

theorem rest_insertIdx (A B : List Nat) (x : Nat) (hx : x ∉ A ++ B) (d : Dir) (c : ACur)
    (hc : c.InRange (A ++ B)) :
    (rest (A ++ x :: B) d (curInsert d A.length c)).erase x = rest (A ++ B) d c ∧
    (curInsert d A.length c).InRange (A ++ x :: B) ∧
    (x ∈ rest (A ++ x :: B) d (curInsert d A.length c) ↔ seen d A.length c) := by
  have hxA : x ∉ A := fun h => hx (List.mem_append_left _ h)
  have hxB : x ∉ B := fun h => hx (List.mem_append_right _ h)
  have hlen : (A ++ x :: B).length = (A ++ B).length + 1 := by simp; omega
  -- an index is shifted by one exactly when the cut lies beyond the split point; forward the new element is
  -- then behind the cursor, in reverse it is then still ahead
  have hf : ∀ (k : Nat) (sh : Prop) [Decidable sh], (sh → A.length ≤ k) → (¬ sh → k ≤ A.length) →
      k ≤ (A ++ B).length →
      ((A ++ x :: B).drop (if sh then k + 1 else k)).erase x = (A ++ B).drop k ∧
      (if sh then k + 1 else k) ≤ (A ++ x :: B).length ∧
      (x ∈ (A ++ x :: B).drop (if sh then k + 1 else k) ↔ ¬ sh) := by
    intro k sh _ h1 h2 hk
    by_cases h : sh
    · obtain ⟨a, b⟩ := drop_shift hxB (h1 h)
      simp only [h, if_true, not_true_eq_false, iff_false]
      exact ⟨a, by omega, b⟩
    · obtain ⟨a, b⟩ := drop_stay (B := B) hxA (h2 h)
      simp only [h, if_false, not_false_eq_true, iff_true]
      exact ⟨a, by omega, b⟩
  have hr : ∀ (k : Nat) (sh : Prop) [Decidable sh], (sh → A.length ≤ k) → (¬ sh → k ≤ A.length) →
      k ≤ (A ++ B).length →
      ((A ++ x :: B).take (if sh then k + 1 else k)).reverse.erase x = ((A ++ B).take k).reverse ∧
      (if sh then k + 1 else k) ≤ (A ++ x :: B).length ∧
      (x ∈ ((A ++ x :: B).take (if sh then k + 1 else k)).reverse ↔ sh) := by
    intro k sh _ h1 h2 hk
    by_cases h : sh
    · obtain ⟨a, b⟩ := take_shift hxB (h1 h)
      simp only [h, if_true, iff_true]
      exact ⟨a, by omega, b⟩
    · obtain ⟨a, b⟩ := take_stay (B := B) hxA (h2 h)
      simp only [h, if_false, iff_false]
      exact ⟨a, by omega, b⟩
  cases d with
  | fwd =>
    cases c with
    | done => simp [curInsert, rest, ACur.InRange, seen]
    | att k =>
      obtain ⟨h1, h2, h3⟩ := hf k (A.length < k) Nat.le_of_lt Nat.le_of_not_lt hc
      simp only [curInsert, seen, ← apply_ite]
      exact ⟨h1, h2, h3.trans Nat.not_lt⟩
    | gap k =>
      obtain ⟨h1, h2, h3⟩ := hf k (A.length ≤ k) id (fun h => Nat.le_of_lt (Nat.lt_of_not_le h)) hc
      simp only [curInsert, seen, ← apply_ite]
      exact ⟨h1, h2, h3.trans Nat.not_le⟩
  | rev =>
    cases c with
    | done => simp [curInsert, rest, ACur.InRange, seen]
    | att k =>
      obtain ⟨h1, h2, h3⟩ := hr k (A.length ≤ k) id (fun h => Nat.le_of_lt (Nat.lt_of_not_le h)) hc
      simp only [curInsert, seen, ← apply_ite]
      exact ⟨h1, h2, h3⟩
    | gap k =>
      obtain ⟨h1, h2, h3⟩ := hr k (A.length < k) Nat.le_of_lt Nat.le_of_not_lt hc
      simp only [curInsert, seen, ← apply_ite]
      exact ⟨h1, h2, h3⟩

/-! ### public operations: untouched elements keep their place in what a cursor still yields -/

structure St.OK (st : St) : Prop where
  nodup : st.L.Nodup
  inRange : st.c.InRange st.L

/-- what the state's cursor still yields -/
def St.rest (st : St) : List Nat := Spec.rest st.L st.d st.c

theorem filter_erase_of_false {p : Nat → Bool} : ∀ (l : List Nat) (x : Nat), p x = false →
    (l.erase x).filter p = l.filter p
  | [], _, _ => rfl
  | y :: l, x, hx => by
      by_cases hy : y = x
      · subst hy; simp [hx]
      · have : (y == x) = false := by simp [hy]
        rw [List.erase_cons, this]
        simp only [Bool.false_eq_true, if_false, List.filter_cons]
        rw [filter_erase_of_false l x hx]

theorem untouched_erase {T l : List Nat} {x : Nat} (hx : x ∈ T) :
    untouched T (l.erase x) = untouched T l :=
  filter_erase_of_false l x (by simp [hx])

theorem insertIdx_mid (l1 l2 : List Nat) (x : Nat) : (l1 ++ l2).insertIdx l1.length x = l1 ++ x :: l2 := by
  induction l1 with
  | nil => simp
  | cons a l1 ih => simp [ih]

theorem eraseIdx_mid (l1 l2 : List Nat) (x : Nat) : (l1 ++ x :: l2).eraseIdx l1.length = l1 ++ l2 := by
  rw [List.eraseIdx_append_of_length_le (Nat.le_refl _)]; simp

theorem removeIdx_spec {st : St} (h : st.OK) {x : Nat} (hx : x ∈ st.L) {T : List Nat} (hT : x ∈ T) :
    (removeIdx st (st.L.idxOf x)).OK ∧ (removeIdx st (st.L.idxOf x)).L = st.L.erase x ∧
    untouched T (removeIdx st (st.L.idxOf x)).rest = untouched T st.rest := by
  obtain ⟨A, B, hL⟩ := List.append_of_mem hx
  have hnd := h.nodup
  rw [hL] at hnd
  obtain ⟨hx', hnd'⟩ := List.nodup_cons.1 (List.perm_middle.nodup_iff.1 hnd)
  have hxA : x ∉ A := fun hm => hx' (List.mem_append_left _ hm)
  have hi : st.L.idxOf x = A.length := by
    rw [hL, List.idxOf_append]; simp [hxA]
  have he : st.L.eraseIdx A.length = A ++ B := by rw [hL, eraseIdx_mid]
  have hc := h.inRange
  rw [hL] at hc
  obtain ⟨r1, r2⟩ := rest_removeIdx A B x hnd st.d st.c hc
  have herase : st.L.erase x = A ++ B := by
    rw [hL, List.erase_append]; simp [hxA]
  refine ⟨⟨?_, ?_⟩, ?_, ?_⟩
  · simp only [removeIdx, hi, he]; exact hnd'
  · simp only [removeIdx, hi, he]; exact r2
  · simp only [removeIdx, hi, he, herase]
  · simp only [St.rest, removeIdx, hi, he, r1]
    rw [hL]; exact untouched_erase hT

theorem insertIdx_spec {st : St} (h : st.OK) {x p : Nat} (hx : x ∉ st.L) (hp : p ≤ st.L.length)
    {T : List Nat} (hT : x ∈ T) :
    (insertIdx st p x).OK ∧ (∀ y, y ∈ (insertIdx st p x).L ↔ y = x ∨ y ∈ st.L) ∧
    untouched T (insertIdx st p x).rest = untouched T st.rest := by
  have hL : st.L = st.L.take p ++ st.L.drop p := (List.take_append_drop p st.L).symm
  have hlen : (st.L.take p).length = p := by simp [Nat.min_eq_left hp]
  have hi : st.L.insertIdx p x = st.L.take p ++ x :: st.L.drop p := by
    have := insertIdx_mid (st.L.take p) (st.L.drop p) x
    rw [hlen, List.take_append_drop] at this
    exact this
  have hx' : x ∉ st.L.take p ++ st.L.drop p := by rw [← hL]; exact hx
  have hc := h.inRange
  rw [hL] at hc
  obtain ⟨r1, r2, _⟩ := rest_insertIdx _ _ x hx' st.d st.c hc
  rw [hlen] at r1 r2
  have hnd := h.nodup
  refine ⟨⟨?_, ?_⟩, ?_, ?_⟩
  · simp only [insertIdx, hi]
    exact List.perm_middle.nodup_iff.2 (List.nodup_cons.2 ⟨hx', hL ▸ hnd⟩)
  · simp only [insertIdx, hi]; exact r2
  · intro y
    simp only [insertIdx, hi]
    rw [List.perm_middle.mem_iff, List.mem_cons, List.take_append_drop]
  · simp only [St.rest, insertIdx, hi]
    rw [← untouched_erase (l := Spec.rest _ _ _) hT, r1, ← hL]

/-- an abstract anchor denotes a place of the sequence -/
def AnchorOK (L : List Nat) : Option Nat → Prop
  | none => True
  | some a => a ∈ L

theorem insertOneAfter_spec {st : St} (h : st.OK) {a : Option Nat} (ha : AnchorOK st.L a) (x : Nat)
    {T : List Nat} (hT : x ∈ T) :
    (insertOneAfter st a x).1.OK ∧ AnchorOK (insertOneAfter st a x).1.L (insertOneAfter st a x).2 ∧
    untouched T (insertOneAfter st a x).1.rest = untouched T st.rest := by
  unfold insertOneAfter
  by_cases h1 : a = some x
  · simp only [h1, if_true]
    subst h1
    exact ⟨h, ha, by trivial⟩
  · simp only [h1, if_false]
    -- after the optional removal
    have key : ∃ st1 : St, st1 = (if x ∈ st.L then removeIdx st (st.L.idxOf x) else st) ∧ st1.OK ∧
        x ∉ st1.L ∧ AnchorOK st1.L a ∧ untouched T st1.rest = untouched T st.rest := by
      by_cases hx : x ∈ st.L
      · obtain ⟨o, e, u⟩ := removeIdx_spec h hx hT
        refine ⟨_, rfl, ?_⟩
        rw [if_pos hx]
        refine ⟨o, ?_, ?_, u⟩
        · rw [e]; have := h.nodup; exact fun hm => (List.Nodup.mem_erase_iff this).1 hm |>.1 rfl
        · cases a with
          | none => trivial
          | some a' =>
            simp only [AnchorOK] at ha ⊢
            rw [e]
            exact (List.mem_erase_of_ne (fun e' => h1 (by rw [e']))).2 ha
      · exact ⟨_, rfl, by rw [if_neg hx]; exact ⟨h, hx, ha, rfl⟩⟩
    obtain ⟨st1, e1, o1, hx1, ha1, u1⟩ := key
    rw [← e1]
    cases a with
    | none =>
      obtain ⟨o2, m2, u2⟩ := insertIdx_spec o1 hx1 (Nat.zero_le _) hT
      refine ⟨o2, ?_, ?_⟩
      · simp only [AnchorOK]; exact (m2 x).2 (Or.inl rfl)
      · show untouched T (insertIdx st1 0 x).rest = _
        rw [u2, u1]
    | some a' =>
      simp only [AnchorOK] at ha1
      have hlt := List.idxOf_lt_length_of_mem ha1
      obtain ⟨o2, m2, u2⟩ := insertIdx_spec o1 hx1 (p := st1.L.idxOf a' + 1) (by omega) hT
      refine ⟨o2, ?_, ?_⟩
      · simp only [AnchorOK]; exact (m2 x).2 (Or.inl rfl)
      · show untouched T (insertIdx st1 (st1.L.idxOf a' + 1) x).rest = _
        rw [u2, u1]

theorem insertManyAfter_spec {T : List Nat} : ∀ (xs : List Nat) {st : St} (_ : st.OK) {a : Option Nat}
    (_ : AnchorOK st.L a) (_ : ∀ x ∈ xs, x ∈ T),
    (insertManyAfter st a xs).OK ∧ untouched T (insertManyAfter st a xs).rest = untouched T st.rest
  | [], _, h, _, _, _ => ⟨h, rfl⟩
  | x :: xs, st, h, a, ha, hT => by
      obtain ⟨o, a', u⟩ := insertOneAfter_spec h ha x (hT x (by simp))
      obtain ⟨o2, u2⟩ := insertManyAfter_spec xs o a' (fun y hy => hT y (by simp [hy]))
      simp only [insertManyAfter]
      exact ⟨o2, by rw [u2, u]⟩

theorem anchor_last (L : List Nat) : AnchorOK L L.getLast? := by
  rcases List.eq_nil_or_concat L with rfl | ⟨A, x, rfl⟩
  · trivial
  · simp [AnchorOK]

theorem anchor_pred (L : List Nat) (a : Nat) : AnchorOK L (predOf L a) := by
  unfold predOf
  simp only
  split
  · trivial
  · cases h : L[L.idxOf a - 1]? with
    | none => trivial
    | some y => exact List.mem_of_getElem? h

theorem append_spec {st : St} (h : st.OK) (x : Nat) {T : List Nat} (hT : x ∈ T) :
    (append st x).OK ∧ untouched T (append st x).rest = untouched T st.rest := by
  obtain ⟨o, _, u⟩ := insertOneAfter_spec h (anchor_last st.L) x hT
  exact ⟨o, u⟩

theorem extend_spec {T : List Nat} : ∀ (xs : List Nat) {st : St} (_ : st.OK) (_ : ∀ x ∈ xs, x ∈ T),
    (extend st xs).OK ∧ untouched T (extend st xs).rest = untouched T st.rest
  | [], _, h, _ => ⟨h, rfl⟩
  | x :: xs, st, h, hT => by
      obtain ⟨o, u⟩ := append_spec h x (hT x (by simp))
      obtain ⟨o2, u2⟩ := extend_spec xs o (fun y hy => hT y (by simp [hy]))
      simp only [extend]
      exact ⟨o2, by rw [u2, u]⟩

/-- **every public operation**: the abstract state stays well formed, and the elements the
operation does not touch keep their multiplicity and order in what the cursor still yields. -/
theorem apply_spec {st : St} (h : st.OK) (op : Op) :
    (apply st op).1.OK ∧
    untouched (touched op) (apply st op).1.rest = untouched (touched op) st.rest := by
  cases op with
  | append v => exact append_spec h v (by simp [touched])
  | extend vs => exact extend_spec vs h (fun _ hx => hx)
  | insertAfter a vs =>
    simp only [apply, insertAfter]
    by_cases ha : a ∈ st.L
    · simp only [ha, if_true]
      exact insertManyAfter_spec vs h (a := some a) ha (fun _ hx => hx)
    · simp only [ha, if_false]; exact ⟨h, by trivial⟩
  | insertBefore a vs =>
    simp only [apply, insertBefore]
    by_cases ha : a ∈ st.L
    · simp only [ha, if_true]
      exact insertManyAfter_spec vs h (anchor_pred st.L a) (fun _ hx => hx)
    · simp only [ha, if_false]; exact ⟨h, by trivial⟩
  | remove v =>
    simp only [apply, remove]
    by_cases hv : v ∈ st.L
    · simp only [hv, if_true]
      obtain ⟨o, _, u⟩ := removeIdx_spec h hv (T := touched (.remove v)) (by simp [touched])
      exact ⟨o, u⟩
    · simp only [hv, if_false]; exact ⟨h, by trivial⟩

end IrVerif.LinkedSet.Spec
