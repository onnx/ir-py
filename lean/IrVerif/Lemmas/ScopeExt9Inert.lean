/-
The IR version < 10 format in the EXTENDED model: the experimental `domain::function/value` entries (info AND
metadata) that `serializeME9` appends to the main graph's value_info are INERT for the main graph's extended run
`deserGraphE`: same store, same extension state (merged metadata, annotations, device configurations), same tree,
same error with or without them.  Extended analogue of `Lemmas/ScopeFunc9Inert.lean`.
-/
import IrVerif.Model.ScopeExt9
import IrVerif.Lemmas.ScopeExtSer
import IrVerif.Lemmas.ScopeExtModel
import IrVerif.Lemmas.ScopeFunc9Inert
namespace IrVerif.Scope

theorem newNamedX_congr {vt vt' : List (Name × Info × SS)} (n : Name) (h : vt.lookup n = vt'.lookup n)
    (qt : List (Name × SS)) (x : Ext) (v : Nat) : x.newNamed vt qt v n = x.newNamed vt' qt v n := by
  simp only [Ext.newNamed, h]

theorem newNamedE_congr {vt vt' : List (Name × Info × SS)} (n : Name) (h : vt.lookup n = vt'.lookup n) (st : Store) :
    newNamed st (eraseVT vt) n = newNamed st (eraseVT vt') n :=
  newNamed_congr n (by rw [eraseVT_lookup, eraseVT_lookup, h]) st

theorem newInitE_congr {vt vt' : List (Name × Info × SS)} (t : TensorP) (h : vt.lookup t.name = vt'.lookup t.name)
    (st : Store) (tid : Nat) : newInit st (eraseVT vt) t tid = newInit st (eraseVT vt') t tid :=
  newInit_congr t (by rw [eraseVT_lookup, eraseVT_lookup, h]) st tid

theorem deserInitsE_congr {vt vt' : List (Name × Info × SS)} (qt : List (Name × SS)) :
    ∀ (ts : List TensorP) (st : Store) (x : Ext) (tbl : Table),
      (∀ t ∈ ts, vt.lookup t.name = vt'.lookup t.name) → deserInitsE st x tbl vt qt ts = deserInitsE st x tbl vt' qt ts
  | [], _, _, _, _ => rfl
  | t :: ts, st, x, tbl, h => by
    have ih := fun st x tbl => deserInitsE_congr qt ts st x tbl (fun u hu => h u (List.mem_cons_of_mem _ hu))
    have hn1 := newInitE_congr t (h t List.mem_cons_self)
    have hn2 := newNamedX_congr t.name (h t List.mem_cons_self) qt
    simp only [deserInitsE, ih, hn1, hn2]

theorem declareOutputsE_congr {vt vt' : List (Name × Info × SS)} (qt : List (Name × SS)) :
    ∀ (xs : List Name) (st : Store) (x : Ext) (tbl : Table),
      (∀ n ∈ xs, vt.lookup n = vt'.lookup n) → declareOutputsE st x tbl vt qt xs = declareOutputsE st x tbl vt' qt xs
  | [], _, _, _, _ => rfl
  | n :: xs, st, x, tbl, h => by
    have ih := fun st x tbl => declareOutputsE_congr qt xs st x tbl (fun u hu => h u (List.mem_cons_of_mem _ hu))
    have hn1 := newNamedE_congr n (h n List.mem_cons_self)
    have hn2 := newNamedX_congr n (h n List.mem_cons_self) qt
    simp only [declareOutputsE, ih, hn1, hn2]

theorem declareNodesE_congr {vt vt' : List (Name × Info × SS)} (qt : List (Name × SS)) :
    ∀ (ns : List NodeE) (st : Store) (x : Ext) (tbl : Table),
      (∀ n ∈ ns, ∀ y ∈ n.outputs, vt.lookup y = vt'.lookup y) →
      declareNodesE st x tbl vt qt ns = declareNodesE st x tbl vt' qt ns
  | [], _, _, _, _ => rfl
  | n :: ns, st, x, tbl, h => by
    have ih := fun st x tbl => declareNodesE_congr qt ns st x tbl (fun m hm => h m (List.mem_cons_of_mem _ hm))
    have hn := fun st x tbl => declareOutputsE_congr qt n.outputs st x tbl (h n List.mem_cons_self)
    simp only [declareNodesE, ih, hn]

theorem resolveInputsE_congr {vt vt' : List (Name × Info × SS)} (outer : List Table) (qt : List (Name × SS)) :
    ∀ (xs : List Name) (st : Store) (x : Ext) (top : Table),
      (∀ n ∈ xs, vt.lookup n = vt'.lookup n) →
      resolveInputsE st x top outer vt qt xs = resolveInputsE st x top outer vt' qt xs
  | [], _, _, _, _ => rfl
  | n :: xs, st, x, top, h => by
    have ih := fun st x top => resolveInputsE_congr outer qt xs st x top (fun u hu => h u (List.mem_cons_of_mem _ hu))
    have hn1 := newNamedE_congr n (h n List.mem_cons_self)
    have hn2 := newNamedX_congr n (h n List.mem_cons_self) qt
    simp only [resolveInputsE, ih, hn1, hn2]

def NodeE.inputs : NodeE → List Name | .mk i _ _ _ => i

theorem deserNodeE_congr {vt vt' : List (Name × Info × SS)} (outer : List Table) (qt : List (Name × SS)) (n : NodeE)
    (st : Store) (x : Ext) (top : Table) (h : ∀ y ∈ n.inputs, vt.lookup y = vt'.lookup y) :
    deserNodeE st x top outer vt qt n = deserNodeE st x top outer vt' qt n := by
  obtain ⟨i, o, d, s⟩ := n
  simp only [deserNodeE, resolveInputsE_congr outer qt i st x top h]

theorem deserNodesE_congr {vt vt' : List (Name × Info × SS)} (outer : List Table) (qt : List (Name × SS)) :
    ∀ (ns : List NodeE) (st : Store) (x : Ext) (top : Table),
      (∀ n ∈ ns, ∀ y ∈ n.inputs, vt.lookup y = vt'.lookup y) →
      deserNodesE st x top outer vt qt ns = deserNodesE st x top outer vt' qt ns
  | [], _, _, _, _ => by simp only [deserNodesE]
  | n :: ns, st, x, top, h => by
    have ih := fun st x top => deserNodesE_congr outer qt ns st x top (fun m hm => h m (List.mem_cons_of_mem _ hm))
    have hn := fun st x top => deserNodeE_congr outer qt n st x top (h n List.mem_cons_self)
    simp only [deserNodesE, ih, hn]

/-- the names the value_info table of an extended graph is looked up with -/
def lookupNamesE (its : List TensorP) (nodes : List NodeE) : List Name :=
  its.map (·.name) ++ nodes.flatMap fun n => n.inputs ++ n.outputs

theorem deserGraphE_vinfo_congr (st : Store) (x : Ext) (outer : List Table) (ins : List VInfoE) (its : List TensorP)
    (vi vi' : List VInfoE) (nodes : List NodeE) (outs : List VInfoE) (quant : List QuantP)
    (h : ∀ n ∈ lookupNamesE its nodes, (vinfoTableE vi).lookup n = (vinfoTableE vi').lookup n) :
    deserGraphE st x outer (.mk ins its vi nodes outs quant) = deserGraphE st x outer (.mk ins its vi' nodes outs quant) := by
  have h1 := fun qt st x tbl => deserInitsE_congr (vt := vinfoTableE vi) (vt' := vinfoTableE vi') qt its st x tbl
    (fun t ht => h _ (by simp only [lookupNamesE, List.mem_append, List.mem_map]; exact .inl ⟨t, ht, rfl⟩))
  have h2 := fun qt st x tbl => declareNodesE_congr (vt := vinfoTableE vi) (vt' := vinfoTableE vi') qt nodes st x tbl
    (fun n hn y hy => h _ (by
      simp only [lookupNamesE, List.mem_append, List.mem_flatMap]
      exact .inr ⟨n, hn, .inr hy⟩))
  have h3 := fun qt st x top => deserNodesE_congr (vt := vinfoTableE vi) (vt' := vinfoTableE vi') outer qt nodes st x top
    (fun n hn y hy => h _ (by
      simp only [lookupNamesE, List.mem_append, List.mem_flatMap]
      exact .inr ⟨n, hn, .inl hy⟩))
  simp only [deserGraphE, h1, h2, h3]

/-- entries (with any info and metadata) appended to the value_info of a graph under names the graph is never
    looked up with change nothing: store, extension state and tree -/
theorem deserGraphE_vinfo_extra (st : Store) (x : Ext) (outer : List Table) (ins : List VInfoE) (its : List TensorP)
    (vi extra : List VInfoE) (nodes : List NodeE) (outs : List VInfoE) (quant : List QuantP)
    (h : ∀ e ∈ extra, e.name ∉ lookupNamesE its nodes) :
    deserGraphE st x outer (.mk ins its (vi ++ extra) nodes outs quant) =
      deserGraphE st x outer (.mk ins its vi nodes outs quant) := by
  apply deserGraphE_vinfo_congr
  intro n hn
  simp only [vinfoTableE, List.map_append, List.reverse_append]
  apply ListFacts.lookup_append_none
  rw [List.lookup_eq_none_iff]
  intro e he
  simp only [List.mem_reverse, List.mem_map] at he
  obtain ⟨y, hy, rfl⟩ := he
  simp only [bne_iff_ne, ne_eq]
  intro heq
  exact h y hy (by simpa [heq] using hn)

/-- the entry `expVInfoE` writes for one value -/
def expEntryE (V : Nat → ValueS) (x : Ext) (R : List Name) (k : FId) (v : Nat) : Option VInfoE :=
  if nameTruthy (V v).name && shouldCreateE (V v) (x.vmeta v) && canParseBack R k ((V v).name.getD "") then
    some ⟨formatExp k.domain k.name ((V v).name.getD ""), (V v).info.emit, ssSorted (x.vmeta v)⟩
  else none

theorem expVInfoE_eq (V : Nat → ValueS) (x : Ext) (R : List Name) (k : FId) : ∀ (l : List Nat),
    expVInfoE V x R k l = l.filterMap (expEntryE V x R k)
  | [] => rfl
  | v :: vs => by
    simp only [expVInfoE, List.filterMap_cons, expEntryE, expVInfoE_eq V x R k vs]
    split <;> rfl

theorem expEntryE_eq_some (V : Nat → ValueS) (x : Ext) (R : List Name) (k : FId) (u : Nat) (e : VInfoE) :
    expEntryE V x R k u = some e ↔ nameTruthy (V u).name = true ∧ shouldCreateE (V u) (x.vmeta u) = true ∧
      canParseBack R k (nm V u) = true ∧
      e = ⟨formatExp k.domain k.name (nm V u), (V u).info.emit, ssSorted (x.vmeta u)⟩ := by
  unfold expEntryE nm
  split
  · rename_i hc
    simp only [Bool.and_eq_true] at hc
    simp only [Option.some.injEq]
    exact ⟨fun h => ⟨hc.1.1, hc.1.2, hc.2, h.symm⟩, fun h => h.2.2.2.symm⟩
  · rename_i hc
    constructor
    · intro h
      cases h
    · intro h
      exact absurd (by simp only [Bool.and_eq_true]; exact ⟨⟨h.1, h.2.1⟩, h.2.2.1⟩) hc

theorem mem_expVInfoE (V : Nat → ValueS) (x : Ext) (R : List Name) (k : FId) (e : VInfoE) (l : List Nat) :
    e ∈ expVInfoE V x R k l ↔ ∃ u ∈ l, nameTruthy (V u).name = true ∧ shouldCreateE (V u) (x.vmeta u) = true ∧
      canParseBack R k (nm V u) = true ∧
      e = ⟨formatExp k.domain k.name (nm V u), (V u).info.emit, ssSorted (x.vmeta u)⟩ := by
  simp only [expVInfoE_eq, List.mem_filterMap, expEntryE_eq_some]

theorem mem_expOfFuncE (V : Nat → ValueS) (x : Ext) (R : List Name) (f : FId × GraphT) (e : VInfoE) :
    e ∈ expOfFuncE V x R f ↔ f.1.overload = "" ∧ ∃ u ∈ fvals f.2, nameTruthy (V u).name = true ∧
      shouldCreateE (V u) (x.vmeta u) = true ∧ canParseBack R f.1 (nm V u) = true ∧
      e = ⟨formatExp f.1.domain f.1.name (nm V u), (V u).info.emit, ssSorted (x.vmeta u)⟩ := by
  obtain ⟨k, g⟩ := f
  obtain ⟨gid, ins, inits, nodes, outs⟩ := g
  simp only [expOfFuncE]
  by_cases ho : k.overload = ""
  · simp only [ho, bne_self_eq_false, Bool.false_eq_true, if_false, List.mem_append, mem_expVInfoE, fvals, GraphT.inputs,
      GraphT.nodes, true_and, or_and_right, exists_or]
  · have : (k.overload != "") = true := by simpa using ho
    simp [this, ho]

theorem expOfFuncE_mem (vals : Nat → ValueS) (x : Ext) (reserved : List Name) (f : FId × GraphT) :
    ∀ e ∈ expOfFuncE vals x reserved f, reserved.contains e.name = false ∧ parseExp e.name ≠ none := by
  intro e he
  obtain ⟨_, u, _, _, _, hc, rfl⟩ := (mem_expOfFuncE vals x reserved f e).mp he
  exact canParseBack_name reserved f.1 _ hc

theorem xserNodes_names (V : Nat → ValueS) (x : Ext) (td : TData) (ver : Option Int) (annot : Bool) (go : List Nat) :
    ∀ (nodes : List NodeT) (nps : List NodeE) (qs : List QuantP) (vis : List VInfoE) (ws : Writes),
      serNodesE V x td ver annot go nodes = .ok (nps, qs, vis, ws) →
      ∀ np ∈ nps, ∃ n ∈ nodes, np.inputs = n.inputs.map (inName V) ∧ np.outputs = (stripTrailing V n.outputs).map (nm V)
  | [], nps, qs, vis, ws, h => by
    simp only [serNodesE, Except.ok.injEq, Prod.mk.injEq] at h
    obtain ⟨rfl, _⟩ := h
    intro np hnp
    simp at hnp
  | n :: ns, nps, qs, vis, ws, h => by
    obtain ⟨np0, q1, vi1, ws1, nps', qs', vis', ws2, h1, h2, rfl, _, _⟩ := xserNodes_inv h
    intro np hnp
    simp only [List.mem_cons] at hnp
    rcases hnp with rfl | hnp
    · obtain ⟨i, g, a, b, c⟩ := n
      obtain ⟨gps, ds, _, _, _, rfl, _, _⟩ := xserNode_inv h1
      exact ⟨.mk i g a b c, by simp, rfl, rfl⟩
    · obtain ⟨m, hm, e⟩ := xserNodes_names V x td ver annot go ns nps' qs' vis' ws2 h2 np hnp
      exact ⟨m, by simp [hm], e⟩

theorem lookupNamesE_reserved (V : Nat → ValueS) (x : Ext) (td : TData) (ver : Option Int) (gid : Nat) (ins : List Nat)
    (inits : List (Name × Nat)) (nodes : List NodeT) (outs : List Nat) (nps : List NodeE) (qs : List QuantP)
    (vis : List VInfoE) (ws : Writes)
    (hn : serNodesE V x td ver true outs nodes = .ok (nps, qs, vis, ws))
    (hkeys : ∀ kv ∈ inits, (V kv.2).name = some kv.1) :
    ∀ y ∈ lookupNamesE (serInitsE V x td (ins.map fun v => (V v).name) inits).2.1 nps, y ≠ "" →
      y ∈ reservedNames V (.mk gid ins inits nodes outs) := by
  intro y hy hne
  simp only [lookupNamesE, List.mem_append, List.mem_map, List.mem_flatMap] at hy
  apply mem_reservedNames V gid ins inits nodes outs hkeys y hne
  rcases hy with ⟨t, ht, rfl⟩ | ⟨np, hnp, hy⟩
  · rw [xserInits_tensors] at ht
    exact .inl (serInits_tensor_names V td _ inits t ht)
  · obtain ⟨n, hnm, e1, e2⟩ := xserNodes_names V x td ver true outs nodes nps qs vis ws hn np hnp
    rw [e1, e2] at hy
    exact .inr ⟨n, hnm, hy⟩

/-- **the experimental entries of `serializeME9` are inert for the main graph's extended run**: with or without them
    the main graph deserializes to the same store, the same extension state (merged metadata, annotations, device
    configurations) and the same tree, or the same error, in every store / extension state / scope stack -/
theorem ext9_entries_inert (ver : Option Int) (m w1 : MWorldE) (Q : ModelE) (h : serializeME9 ver m = .ok (w1, Q))
    (hkeys : ∀ kv ∈ m.root.inits, (m.st.vals kv.2).name = some kv.1) :
    ∃ q, serializeME ver m = .ok (w1, q) ∧
      ∀ (st : Store) (x : Ext) (outer : List Table), deserGraphE st x outer Q.graph = deserGraphE st x outer q.graph := by
  simp only [serializeME9] at h
  split at h
  · cases h
  · rename_i w1' q hq
    simp only [Except.ok.injEq, Prod.mk.injEq] at h
    obtain ⟨rfl, rfl⟩ := h
    refine ⟨q, hq, fun st x outer => ?_⟩
    obtain ⟨p, ws1, _, _, hp, _, rfl, _⟩ := serializeME_inv hq
    obtain ⟨st0, x0, root, funcs⟩ := m
    obtain ⟨gid, ins, inits, nodes, outs⟩ := root
    obtain ⟨qIn, seen1, qInit, seen2, nps, qNodes, vis2, ws2, qOut, seen3, _, _, _, _, hn, _, rfl⟩ := xserGraph_inv hp
    simp only [addVInfoE]
    apply deserGraphE_vinfo_extra
    intro e he hmem
    simp only [List.mem_flatMap] at he
    obtain ⟨f, _, hef⟩ := he
    obtain ⟨hres, hparse⟩ := expOfFuncE_mem _ _ _ f e hef
    have hne : e.name ≠ "" := fun h0 => hparse (by rw [h0]; exact parseExp_empty)
    have := lookupNamesE_reserved st0.vals x0 st0.tdata ver gid ins inits nodes outs nps qNodes vis2 ws2 hn hkeys
      e.name hmem hne
    simp only [List.contains_eq_mem, decide_eq_false_iff_not] at hres
    exact hres this

end IrVerif.Scope
