/-
Lemmas/SemDce.lean — RemoveUnusedNodesPass on a graph (`dceG`) preserves the denotation: what is removed is read by
nothing that stays (`dce_syn`), so the environments agree on every value that is still read (`dce_sound`).
-/
import IrVerif.Model.Passes
import IrVerif.Lemmas.SemSyntax
namespace IrVerif.Passes
open IrVerif.Sem
variable {Val : Type}

theorem dceRemovable_iff {used outs : List VId} :
    dceRemovable used outs = true ↔ ∀ o ∈ outs, o ∉ used := by
  simp [dceRemovable]

/-! ### what the walk leaves: only uses and nested output lists that were there; of the top-level outputs those that are
graph outputs or are used by a node in front (`pre`), by a kept node or by a ghost (`r.2`: uses held by nodes nested in removed nodes; the key property of the removal rule) -/

theorem dce_syn :
    let G := fun g (r : Graph × List VId) => (∀ v, (v ∈ usesG r.1 ∨ v ∈ r.2) → v ∈ usesG g) ∧
      ∀ v, v ∈ boutsG r.1 → v ∈ boutsG g
    let Ns := fun gouts pre ns (r : List Node × List VId) =>
      (∀ v, (v ∈ usesNodes r.1 ∨ v ∈ r.2) → v ∈ usesNodes ns) ∧ (∀ v, v ∈ boutsNodes r.1 → v ∈ boutsNodes ns) ∧
      (∀ v, v ∈ outsTop r.1 → v ∈ outsTop ns) ∧
      ∀ v, v ∈ outsTop ns → v ∈ gouts ++ pre ++ usesNodes r.1 ++ r.2 → v ∈ outsTop r.1
    let Bs := fun bs (r : List Graph × List VId) => (∀ v, (v ∈ usesBodies r.1 ∨ v ∈ r.2) → v ∈ usesBodies bs) ∧
      ∀ v, v ∈ boutsBodies r.1 → v ∈ boutsBodies bs
    (∀ g, G g (dceG g)) ∧ (∀ gouts pre ns, Ns gouts pre ns (dceNodes gouts pre ns)) ∧ ∀ bs, Bs bs (dceBodies bs) := by
  intro G Ns Bs
  refine dceG.mutual_induct_unfolding G Ns Bs ?_ ?_ ?_ ?_ ?_ ?_
  · intro inputs outputs inits nodes ih
    refine ⟨fun v h => ?_, fun v h => ?_⟩
    · simp only [usesG] at h ⊢
      exact ih.1 v h
    · simp only [boutsG, List.mem_append] at h ⊢
      exact h.imp id (ih.2.1 v)
  · intro gouts _
    exact ⟨fun v h => by simp [usesNodes] at h, fun _ h => h, fun _ h => h, fun _ h _ => h⟩
  · -- a node that goes
    intro gouts pre op attrs ins outs bodies ns r hrem ih
    rw [dceRemovable_iff] at hrem
    refine ⟨fun v h => ?_, fun v h => ?_, fun v h => ?_, fun v h hu => ?_⟩
    · simp only [usesNodes, usesN, List.mem_append] at h ⊢
      rcases h with h | h | h
      · exact Or.inr (ih.1 v (Or.inl h))
      · exact Or.inl (Or.inr h)
      · exact Or.inr (ih.1 v (Or.inr h))
    · exact List.mem_append_right _ (ih.2.1 v h)
    · exact List.mem_append_right _ (ih.2.2.1 v h)
    · simp only [outsTop, Node.outs, List.mem_append] at h
      have hu' : v ∈ gouts ++ (pre ++ usesN (.mk op attrs ins outs bodies)) ++ usesNodes r.1 ++ r.2 := by
        simp only [List.mem_append, usesN] at hu ⊢
        rcases hu with (((hu | hu) | hu) | (hu | hu))
        · exact Or.inl (Or.inl (Or.inl hu))
        · exact Or.inl (Or.inl (Or.inr (Or.inl hu)))
        · exact Or.inl (Or.inr hu)
        · exact Or.inl (Or.inl (Or.inr (Or.inr (Or.inr hu))))
        · exact Or.inr hu
      rcases h with h | h
      · exact absurd hu' (hrem v h)
      · exact ih.2.2.2 v h hu'
  · intro gouts pre op attrs ins outs bodies ns r _ ih ihb
    refine ⟨fun v h => ?_, fun v h => ?_, fun v h => ?_, fun v h hu => ?_⟩
    · simp only [usesNodes, usesN, List.mem_append] at h ⊢
      rcases h with (((h | h) | h) | (h | h))
      · exact Or.inl (Or.inl (mem_filterMap_trimNone h))
      · exact Or.inl (Or.inr (ihb.1 v (Or.inl h)))
      · exact Or.inr (ih.1 v (Or.inl h))
      · exact Or.inl (Or.inr (ihb.1 v (Or.inr h)))
      · exact Or.inr (ih.1 v (Or.inr h))
    · simp only [boutsNodes, boutsN, List.mem_append] at h ⊢
      exact h.imp (ihb.2 v) (ih.2.1 v)
    · simp only [outsTop, Node.outs, List.mem_append] at h ⊢
      exact h.imp id (ih.2.2.1 v)
    · simp only [outsTop, Node.outs, List.mem_append] at h ⊢
      rcases h with h | h
      · exact Or.inl h
      · refine Or.inr (ih.2.2.2 v h ?_)
        simp only [List.mem_append, usesNodes, usesN] at hu ⊢
        rcases hu with (((hu | hu) | ((hu | hu) | hu)) | (hu | hu))
        · exact Or.inl (Or.inl (Or.inl hu))
        · exact Or.inl (Or.inl (Or.inr (Or.inl hu)))
        · exact Or.inl (Or.inl (Or.inr (Or.inr (Or.inl (mem_filterMap_trimNone hu)))))
        · exact Or.inl (Or.inl (Or.inr (Or.inr (Or.inr (ihb.1 v (Or.inl hu))))))
        · exact Or.inl (Or.inr hu)
        · exact Or.inl (Or.inl (Or.inr (Or.inr (Or.inr (ihb.1 v (Or.inr hu))))))
        · exact Or.inr hu
  · exact ⟨fun v h => by simp [usesBodies] at h, fun _ h => h⟩
  · intro b bs ihg ihb
    refine ⟨fun v h => ?_, fun v h => ?_⟩
    · simp only [usesBodies, List.mem_append] at h ⊢
      rcases h with ((h | h) | (h | h))
      · exact Or.inl (ihg.1 v (Or.inl h))
      · exact Or.inr (ihb.1 v (Or.inl h))
      · exact Or.inl (ihg.1 v (Or.inr h))
      · exact Or.inr (ihb.1 v (Or.inr h))
    · simp only [boutsBodies, List.mem_append] at h ⊢
      exact h.imp (ihg.2 v) (ihb.2 v)

theorem dceG_uses (v : VId) : ∀ g : Graph, (v ∈ usesG (dceG g).1 ∨ v ∈ (dceG g).2) → v ∈ usesG g :=
  fun g => (dce_syn.1 g).1 v

theorem dceG_bouts (v : VId) : ∀ g : Graph, v ∈ boutsG (dceG g).1 → v ∈ boutsG g :=
  fun g => (dce_syn.1 g).2 v

theorem dceBodies_bouts (v : VId) : ∀ bs : List Graph, v ∈ boutsBodies (dceBodies bs).1 → v ∈ boutsBodies bs :=
  fun bs => (dce_syn.2.2 bs).2 v

theorem dce_sound (I : Interp Val) :
    let G := fun g (r : Graph × List VId) => ssaG g = true → closedG g = true →
      ∀ ρ : Env Val, evalG I r.1 ρ = evalG I g ρ
    let Ns := fun (_ _ : List VId) ns (r : List Node × List VId) => ∀ (T : VId → Prop) (ρ1 ρ2 : Env Val),
      ssaNodes ns = true → closedNodes ns = true → (∀ v ∈ refsNodes r.1, T v) →
      (∀ v, T v → v ∈ outsTop ns → v ∈ outsTop r.1) → EqOn T ρ1 ρ2 → EqOn T (evalNodes I ns ρ1) (evalNodes I r.1 ρ2)
    let Bs := fun bs (r : List Graph × List VId) => ssaBodies bs = true → closedBodies bs = true →
      ∀ ρ : Env Val, evalBodies I r.1 ρ = evalBodies I bs ρ
    (∀ g, G g (dceG g)) ∧ (∀ gouts pre ns, Ns gouts pre ns (dceNodes gouts pre ns)) ∧ ∀ bs, Bs bs (dceBodies bs) := by
  intro G Ns Bs
  refine dceG.mutual_induct_unfolding G Ns Bs ?_ ?_ ?_ ?_ ?_ ?_
  · intro inputs outputs inits nodes ih hs hc ρ
    funext xs
    simp only [ssaG, Bool.and_eq_true] at hs
    simp only [closedG, Bool.and_eq_true] at hc
    simp only [evalG]
    apply List.map_congr_left
    intro v hv
    symm
    refine ih
      (fun w => w ∈ outputs ∨ w ∈ refsNodes (dceNodes outputs [] nodes).1) _ _ hs.2 hc.2
      (fun w hw => Or.inr hw) ?_ (EqOn.refl _ _) v (Or.inl hv)
    intro w hT hw
    apply (dce_syn.2.1 outputs [] nodes).2.2.2 w hw
    simp only [List.mem_append]
    rcases hT with hT | hT
    · exact Or.inl (Or.inl (Or.inl hT))
    · rcases (mem_refsNodes w _).1 hT with hT | hT
      · exact Or.inl (Or.inr hT)
      · exact absurd ((dce_syn.2.1 _ _ _).2.1 w hT) (outsTop_not_bouts nodes hs.2 hc.2 hw)
  · intro _ _ _ _ _ _ _ _ _ h
    exact h
  · -- a node that goes: its outputs are not among the values the environments have to agree on
    intro gouts pre op attrs ins outs bodies ns r _ ih T ρ1 ρ2 hs hc hT hX h
    rw [ssaNodes_cons_iff] at hs
    rw [closedNodes_cons_iff] at hc
    obtain ⟨⟨⟨⟨_, _⟩, hsb⟩, hdn⟩, hsn⟩ := hs
    have hdis : ∀ v ∈ outs, v ∉ outsTop ns := fun v hv hv' =>
      hdn v (by simp [defsN, hv]) (outsTop_sub_defsNodes ns hv')
    simp only [evalNodes]
    refine ih T _ ρ2 hsn hc.2 hT (fun v hv hv' => hX v hv (by simp [outsTop, hv'])) ?_
    intro v hv
    have hvo : v ∉ outs := fun hvo =>
      hdis v hvo ((dce_syn.2.1 _ _ _).2.2.1 v (hX v hv (by simp [outsTop, Node.outs, hvo])))
    simp only [evalN]
    rw [Env.bind_of_not_mem _ _ hvo]
    exact h v hv
  · intro gouts pre op attrs ins outs bodies ns r _ ih ihb T ρ1 ρ2 hs hc hT hX h
    rw [ssaNodes_cons_iff] at hs
    rw [closedNodes_cons_iff] at hc
    obtain ⟨⟨⟨⟨_, _⟩, hsb⟩, hdn⟩, hsn⟩ := hs
    have hdis : ∀ v ∈ outs, v ∉ outsTop ns := fun v hv hv' =>
      hdn v (by simp [defsN, hv]) (outsTop_sub_defsNodes ns hv')
    simp only [evalNodes]
    refine ih T _ _ hsn hc.2 (fun v hv => hT v (mem_refsNodes_cons.2 (Or.inr hv))) ?_ ?_
    · intro v hv hv'
      have := hX v hv (by simp [outsTop, hv'])
      simp only [outsTop, Node.outs, List.mem_append] at this
      rcases this with this | this
      · exact absurd hv' (hdis v this)
      · exact this
    · simp only [evalN]
      have hargs : evalArgs ρ1 (trimNone ins) = evalArgs ρ2 (trimNone (trimNone ins)) := by
        rw [trimNone_idem]
        refine evalArgs_congr h _ (fun v hv => hT v ?_)
        simp only [refsNodes, refsN, List.mem_append]
        exact Or.inl (Or.inl hv)
      have hb : evalBodies I bodies ρ1 = evalBodies I (dceBodies bodies).1 ρ2 := by
        rw [← ihb hsb hc.1 ρ1]
        refine evalBodies_congr I _ ρ1 ρ2 (h.mono (fun v hv => hT v ?_))
        simp only [refsNodes, refsN, List.mem_append]
        exact Or.inl (Or.inr hv)
      rw [hargs, hb]
      exact h.bind _ _
  · intro _ _ _
    rfl
  · intro b bs ihg ihb hs hc ρ
    rw [ssaBodies_cons_iff] at hs
    rw [closedBodies_cons_iff] at hc
    simp only [evalBodies]
    rw [ihg hs.1.1 hc.1 ρ, ihb hs.2 hc.2 ρ]

theorem dceG_sound (I : Interp Val) : ∀ (g : Graph), ssaG g = true → closedG g = true →
    ∀ ρ : Env Val, evalG I (dceG g).1 ρ = evalG I g ρ :=
  (dce_sound I).1

theorem dceNodes_sound (I : Interp Val) : ∀ (gouts pre : List VId) (ns : List Node) (T : VId → Prop)
    (ρ1 ρ2 : Env Val), ssaNodes ns = true → closedNodes ns = true →
    (∀ v ∈ refsNodes (dceNodes gouts pre ns).1, T v) →
    (∀ v, T v → v ∈ outsTop ns → v ∈ outsTop (dceNodes gouts pre ns).1) →
    EqOn T ρ1 ρ2 → EqOn T (evalNodes I ns ρ1) (evalNodes I (dceNodes gouts pre ns).1 ρ2) :=
  (dce_sound I).2.1

theorem dceBodies_sound (I : Interp Val) : ∀ (bs : List Graph), ssaBodies bs = true →
    closedBodies bs = true → ∀ ρ : Env Val, evalBodies I (dceBodies bs).1 ρ = evalBodies I bs ρ :=
  (dce_sound I).2.2

theorem evalG_filter_inits (I : Interp Val) (inputs outputs : List VId) (inits : List (VId × Tensor))
    (nodes : List Node) (p : VId × Tensor → Bool) (hnd : (inits.map Prod.fst).Nodup)
    (hdrop : ∀ q ∈ inits, p q = false → q.1 ∉ inputs ∧ q.1 ∉ refsG (.mk inputs outputs inits nodes))
    (ρ : Env Val) :
    evalG I (.mk inputs outputs (inits.filter p) nodes) ρ = evalG I (.mk inputs outputs inits nodes) ρ := by
  funext xs
  rw [evalG_mk, evalG_mk]
  have hkeep : ∀ q ∈ inits, (q.1 ∈ inputs ∨ q.1 ∈ refsG (.mk inputs outputs inits nodes)) → q ∈ inits.filter p := by
    intro q hq h
    refine List.mem_filter.2 ⟨hq, ?_⟩
    cases hp : p q with
    | true => rfl
    | false => exact absurd h (not_or.2 (hdrop q hq hp))
  apply List.map_congr_left
  intro v hv
  refine evalNodes_congr I nodes (· ∈ refsG (.mk inputs outputs inits nodes)) _ _ ?_ ?_ v ?_
  · intro w hw; simp [refsG, hw]
  · intro w hw
    refine entryEnv_congr I ρ xs ((List.filter_sublist.map Prod.fst).nodup hnd) hnd (fun u hu => ?_) (fun t => ?_)
    · simp only [List.mem_map]
      exact ⟨fun ⟨q, hq, e⟩ => ⟨q, (List.mem_filter.1 hq).1, e⟩, fun ⟨q, hq, e⟩ => ⟨q, hkeep q hq (Or.inl (e ▸ hu)), e⟩⟩
    · exact ⟨fun h => (List.mem_filter.1 h).1, fun h => hkeep _ h (Or.inr hw)⟩
  · simp [refsG, hv]

end IrVerif.Passes
