/-
C15 part B: the induction over the traversal of the default model, **without the scoping rule** (ill-scoped models).  It
runs on the concrete lists of *recorded* values (`recVals` / `bodyVisR`), so that the order-aware `FirstB` comes out
for the very lists of `recScopes`; it also carries the invariant `TInv`, so "the call never raises"
(`Lemmas/NamesTotal.lean`) is read off it.
-/
import IrVerif.Lemmas.NamesScope
namespace IrVerif.Names

/-- a run of `_process_value` steps without the scoping rule, on the concrete recorded list: `A` = what this level
has processed so far (everything in `S ++ A` is seen), `vs` = what comes now -/
theorem processValues_rec {c : Cfg} (hc : c.OK) : ∀ (vs : List Nat) {st : FixSt} {V S A : List Nat},
    TInv c st → Good c st (recVals S V A) → (∀ x, x ∈ st.seen ↔ x ∈ S ++ A) → (∀ v ∈ vs, c.C v) →
    Lvl c st (processValues st vs) (recVals S V (A ++ vs)) (S ++ (A ++ vs))
      ∧ (processValues st vs).vstack.tail = st.vstack.tail
  | [], st, V, S, A, inv, good, hS, _ => by
    rw [List.append_nil]
    exact ⟨⟨inv, good, hS, Frame.refl st⟩, rfl⟩
  | v :: vs, st, V, S, A, inv, good, hS, hC => by
    have pv := processValue_PV hc inv (hC v List.mem_cons_self)
    rw [processValues_cons]
    have g1 : Good c (processValue st v) (recVals S V (A ++ [v])) := by
      by_cases hv : v ∈ st.seen
      · rw [pv.noop hv]
        by_cases hvS : v ∈ S
        · rw [recVals_snoc_in hvS]; exact good
        · have hvA : v ∈ A := (List.mem_append.mp ((hS v).mp hv)).resolve_left hvS
          have hvR : v ∈ recVals S V A := mem_recVals.mpr (Or.inr ⟨hvA, hvS⟩)
          rw [recVals_snoc_out hvS]
          refine good.congr ?_ ?_
          · intro x
            simp only [List.mem_append, List.mem_singleton]
            exact ⟨fun h => h.elim id (fun e => e ▸ hvR), Or.inl⟩
          · intro x hx u hu
            have hxR : x ∈ recVals S V A := by
              simp only [List.mem_append, List.mem_singleton] at hx
              exact hx.elim id (fun e => e ▸ hvR)
            rw [before_append_mem _ hxR]; exact Or.inl hu
      · have hvS : v ∉ S := fun h => hv ((hS v).mpr (List.mem_append_left _ h))
        rw [recVals_snoc_out hvS]
        exact processValue_Good hc inv good (hC v List.mem_cons_self) (fun h => absurd h hv)
    have hS1 : ∀ x, x ∈ (processValue st v).seen ↔ x ∈ S ++ (A ++ [v]) := by
      intro x; rw [pv.seen_iff x, hS x]; simp [or_assoc]
    obtain ⟨l, t⟩ := processValues_rec hc vs pv.inv g1 hS1 (fun u hu => hC u (List.mem_cons_of_mem _ hu))
    have e2 : A ++ [v] ++ vs = A ++ v :: vs := by simp
    rw [e2] at l
    exact ⟨⟨l.inv, l.good, l.seenEq, pv.frame.trans l.frame⟩, t.trans pv.tail⟩

theorem enterGraph_rec {c : Cfg} (hc : c.OK) (iv : Nat → List Nat) (hiv : ∀ g u, u ∈ iv g ↔ c.io u = some g)
    {st : FixSt} {V S : List Nat} (inv : TInv c st) (good : Good c st V) (hS : ∀ x, x ∈ st.seen ↔ x ∈ S)
    (g : Nat) (isG : Bool) (ins outs bouts : List Nat)
    (hC1 : ∀ v ∈ ins ++ outs ++ bouts, c.C v) (hC2 : isG = true → ∀ u, c.io u = some g → c.C u) :
    Lvl c st (enterGraph st g isG ins outs bouts) (recVals S V (gvals iv g isG ins outs bouts))
        (S ++ gvals iv g isG ins outs bouts)
      ∧ (enterGraph st g isG ins outs bouts).vstack.tail = st.vstack := by
  rw [enterGraph_eq inv.nr]
  generalize hst0 : pushScope st = st0
  have e0 : VEq st st0 := by subst hst0; exact VEq.of_nodeSide ..
  have etop : topOf st0.vstack = topOf st.vstack := by subst hst0; rfl
  have etail : st0.vstack.tail = st.vstack := by subst hst0; rfl
  have inv0 : TInv c st0 := inv.of_VEq e0
  have good0 : Good c st0 (recVals S V []) := by rw [recVals_nil]; exact good.of_VEq e0 etop
  have hS0 : ∀ x, x ∈ st0.seen ↔ x ∈ S ++ [] := by rw [e0.seen, List.append_nil]; exact hS
  have hg := mem_gvals iv g isG ins outs bouts
  obtain ⟨l1, t1⟩ := processValues_rec hc ins inv0 good0 hS0
    (fun v hv => hC1 v (List.mem_append_left _ (List.mem_append_left _ hv)))
  rw [List.nil_append] at l1
  obtain ⟨l2, t2⟩ := processValues_rec hc outs l1.inv l1.good l1.seenEq
    (fun v hv => hC1 v (List.mem_append_left _ (List.mem_append_right _ hv)))
  -- the initializers: a snapshot of the dictionary read now
  have hX : ∀ x, x ∈ (if isG = true then ((processValues (processValues st0 ins) outs).dicts g).map (·.2) else [])
      ↔ (isG = true ∧ x ∈ iv g) := by
    intro x
    cases isG with
    | false => simp
    | true => simp only [if_true, true_and]; rw [l2.inv.ok.mem_iff g x, hiv g x, l2.inv.io]
  generalize (if isG = true then ((processValues (processValues st0 ins) outs).dicts g).map (·.2) else []) = X at hX ⊢
  obtain ⟨l3, t3⟩ := processValues_rec hc X l2.inv l2.good l2.seenEq
    (fun v hv => hC2 ((hX v).mp hv).1 v ((hiv g v).mp ((hX v).mp hv).2))
  obtain ⟨l4, t4⟩ := processValues_rec hc bouts l3.inv l3.good l3.seenEq
    (fun v hv => hC1 v (List.mem_append_right _ hv))
  have hY : ∀ x, x ∈ X.filter (fun v => !S.contains v) ↔ x ∈ (if isG = true then iv g else []).filter (fun v => !S.contains v) := by
    intro x
    simp only [List.mem_filter, hX x]
    cases isG <;> simp
  have hlist : recVals S V (gvals iv g isG ins outs bouts)
      = (V ++ ins.filter (fun v => !S.contains v) ++ outs.filter (fun v => !S.contains v))
          ++ (if isG = true then iv g else []).filter (fun v => !S.contains v) ++ bouts.filter (fun v => !S.contains v) := by
    unfold gvals
    exact recVals_split4 S V ins outs _ bouts
  have hmemS : ∀ x, x ∈ S ++ (ins ++ outs ++ X ++ bouts) ↔ x ∈ S ++ gvals iv g isG ins outs bouts := by
    intro x; simp only [List.mem_append, hg x, hX x, or_assoc]
  refine ⟨⟨l4.inv, l4.good.congr ?_ ?_, fun x => (l4.seenEq x).trans (hmemS x),
    (Frame.of_VEq e0).trans (l1.frame.trans (l2.frame.trans (l3.frame.trans l4.frame)))⟩, ?_⟩
  · intro x
    rw [mem_recVals, mem_recVals]
    simp only [List.mem_append, hg x, hX x, or_assoc]
  · -- the initializers were visited in dictionary order at that moment; different initializers of one graph
    -- had different names, so their relative order does not matter
    intro x _ u hu
    rw [recVals_split4] at hu
    rw [hlist]
    rcases before_seg hY hu with h | ⟨h1, h2, h3⟩
    · exact Or.inl h
    · have h1' := (hX u).mp (List.mem_filter.mp h1).1
      have h2' := (hX x).mp (List.mem_filter.mp h2).1
      exact Or.inr (fun e => h3 (hc.inj g u x ((hiv g u).mp h1'.2) ((hiv g x).mp h2'.2) e))
  · rw [t4, t3, t2, t1, etail]

/-- **the induction over the traversal without the scoping rule, on the concrete recorded lists** -/
theorem runTr_rec {c : Cfg} (hc : c.OK) (iv : Nat → List Nat) (hiv : ∀ g u, u ∈ iv g ↔ c.io u = some g) :
    ∀ (t : Tr) {st : FixSt} {V S : List Nat}, TInv c st → Good c st V →
      (∀ x, x ∈ st.seen ↔ x ∈ S) → HC c t →
      Lvl c st (runTr t st) (bodyVisR iv t S V) (seenAfter iv t S)
        ∧ (runTr t st).vstack.tail = st.vstack.tail
        ∧ ∀ L ∈ recScopes iv t S V, ScopeOK c (runTr t st) L := by
  intro t
  induction t with
  | nil =>
    intro st V S inv good hS _
    exact ⟨⟨inv, good, hS, Frame.refl st⟩, rfl, fun L hL => by simp [recScopes] at hL⟩
  | node n ins outs subs rest ihs ihr =>
    intro st V S inv good hS hC
    obtain ⟨hC1, hCs, hCr⟩ := hC.node
    simp only [runTr, visitNode, bodyVisR, seenAfter, recScopes]
    obtain ⟨e1, ev1⟩ := fixNodeName_VEq (st := st) n
    have inv1 := inv.of_VEq e1
    have good1 : Good c (fixNodeName st n) (recVals S V []) := by
      rw [recVals_nil]; exact good.of_VEq e1 (by rw [ev1])
    have hS1 : ∀ x, x ∈ (fixNodeName st n).seen ↔ x ∈ S ++ [] := by
      rw [e1.seen, List.append_nil]; exact hS
    obtain ⟨l2, t2⟩ := processValues_rec hc (nodeVals ins outs) inv1 good1 hS1 hC1
    rw [List.nil_append] at l2
    obtain ⟨l3, t3, s3⟩ := ihs l2.inv l2.good l2.seenEq hCs
    obtain ⟨l4, t4, s4⟩ := ihr l3.inv l3.good l3.seenEq hCr
    refine ⟨⟨l4.inv, l4.good, l4.seenEq, (Frame.of_VEq e1).trans (l2.frame.trans (l3.frame.trans l4.frame))⟩, ?_, ?_⟩
    · rw [t4, t3, t2, ev1]
    · intro L hL
      rcases List.mem_append.mp hL with hL | hL
      · exact (s3 L hL).frame l4.frame
      · exact s4 L hL
  | graph g isG ins outs body rest ihb ihr =>
    intro st V S inv good hS hC
    obtain ⟨hC1, hC2, hCb, hCr⟩ := hC.graph
    simp only [runTr, bodyVisR, seenAfter, recScopes]
    obtain ⟨l1, t1⟩ := enterGraph_rec hc iv hiv inv good hS g isG ins outs (bodyOuts body) hC1 hC2
    -- entered again by the nested iterator: everything is seen already
    obtain ⟨l2, t2⟩ := enterGraph_rec hc iv hiv l1.inv l1.good l1.seenEq g isG ins outs (bodyOuts body) hC1 hC2
    have good2 : Good c (enterGraph (enterGraph st g isG ins outs (bodyOuts body)) g isG ins outs (bodyOuts body))
        (recVals S V (gvals iv g isG ins outs (bodyOuts body))) := by
      have := l2.good
      rw [recVals_all_seen (fun x hx => List.mem_append_right _ hx)] at this
      exact this
    have hS2 : ∀ x, x ∈ (enterGraph (enterGraph st g isG ins outs (bodyOuts body)) g isG ins outs (bodyOuts body)).seen ↔ x ∈ S ++ gvals iv g isG ins outs (bodyOuts body) := by
      intro x; rw [l2.seenEq x]; simp only [List.mem_append]; exact ⟨fun h => h.elim id Or.inr, Or.inl⟩
    obtain ⟨l3, t3, s3⟩ := ihb l2.inv good2 hS2 hCb
    obtain ⟨e4, ev4⟩ := exitGraph_VEq l3.inv.nr
    have inv4 := l3.inv.of_VEq e4
    obtain ⟨e5, ev5⟩ := exitGraph_VEq inv4.nr
    have inv5 := inv4.of_VEq e5
    have e35 := e4.trans e5
    have hstk : (exitGraph (exitGraph (runTr body (enterGraph (enterGraph st g isG ins outs (bodyOuts body)) g isG ins outs (bodyOuts body))))).vstack = st.vstack := by
      rw [ev5, ev4, t3, t2, t1]
    have fr05 : Frame st (exitGraph (exitGraph (runTr body (enterGraph (enterGraph st g isG ins outs (bodyOuts body)) g isG ins outs (bodyOuts body))))) :=
      l1.frame.trans (l2.frame.trans (l3.frame.trans (Frame.of_VEq e35)))
    have good5 : Good c (exitGraph (exitGraph (runTr body (enterGraph (enterGraph st g isG ins outs (bodyOuts body)) g isG ins outs (bodyOuts body))))) V :=
      good.restore fr05 hstk
    have hS5 : ∀ x, x ∈ (exitGraph (exitGraph (runTr body (enterGraph (enterGraph st g isG ins outs (bodyOuts body)) g isG ins outs (bodyOuts body))))).seen
        ↔ x ∈ seenAfter iv body (S ++ gvals iv g isG ins outs (bodyOuts body)) := by
      rw [e35.seen]; exact l3.seenEq
    obtain ⟨l6, t6, s6⟩ := ihr inv5 good5 hS5 hCr
    refine ⟨⟨l6.inv, l6.good, l6.seenEq, fr05.trans l6.frame⟩, ?_, ?_⟩
    · rw [t6, hstk]
    · intro L hL
      rcases List.mem_cons.mp hL with rfl | hL
      · exact ((l3.good.toScopeOK).of_VEq e35).frame l6.frame
      · rcases List.mem_append.mp hL with hL | hL
        · exact ((s3 L hL).of_VEq e35).frame l6.frame
        · exact s6 L hL

end IrVerif.Names
