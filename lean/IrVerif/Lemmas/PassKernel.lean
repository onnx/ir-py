/-
C14: the passes as kernel programs keep C01's invariant and are the replay of the calls they issued (`KInv`).  The five of
Model/PassKernel.lean directly; for the four of Model/PassKernel2.lean one step lemma (`*_elim`: the step leaves the state
alone, fails an assert, or issues THE rewrite) and one induction over the walk (`*_ind`) give `KInv` and `Quiet`.
-/
import IrVerif.Model.PassKernel
import IrVerif.Model.PassKernel2
import IrVerif.Lemmas.KernelReject
namespace IrVerif.PassKernel
open IrVerif.Kernel

/-- the state a kernel program starts in -/
abbrev KSt.init (w : World) : KSt := ⟨w, false, []⟩

theorem KSt.call_of_raised (s : KSt) (op : AnyOp) (h : s.raised = true) : s.call op = s := by
  unfold KSt.call; simp [h]

theorem KSt.call_w (s : KSt) (op : AnyOp) (h : s.raised = false) : (s.call op).w = (stepAny s.w op).1 := by
  unfold KSt.call; simp [h]

theorem KSt.call_ok {s : KSt} {op : AnyOp} (h : (s.call op).raised = false) :
    s.raised = false ∧ (stepAny s.w op).2 = .ok := by
  unfold KSt.call at h
  cases hr : s.raised with
  | true => simp [hr] at h
  | false =>
    simp only [hr, Bool.false_eq_true, if_false] at h
    refine ⟨rfl, ?_⟩
    cases ho : (stepAny s.w op).2 with
    | ok => rfl
    | raised k => rw [ho] at h; simp at h

theorem KSt.call_WF (s : KSt) (op : AnyOp) (h : WF s.w) : WF (s.call op).w := by
  unfold KSt.call; split
  · exact h
  · exact stepAny_WF s.w op h

theorem replay_eq_runFrom (w : World) (ops : List AnyOp) : replay w ops = runFrom w ops := rfl

/-- what every step of a kernel program keeps: the world is well formed and is the world the issued calls
    produce from the start world -/
structure KInv (w0 : World) (s : KSt) : Prop where
  wf : WF s.w
  rep : s.w = replay w0 s.trace.reverse

theorem KInv.call {w0 : World} {s : KSt} (h : KInv w0 s) (op : AnyOp) : KInv w0 (s.call op) := by
  unfold KSt.call
  split
  · exact h
  · refine ⟨stepAny_WF s.w op h.wf, ?_⟩
    rw [replay_eq_runFrom, List.reverse_cons, runFrom_append, ← replay_eq_runFrom w0, ← h.rep]; rfl

theorem KInv.fail {w0 : World} {s : KSt} (h : KInv w0 s) : KInv w0 s.fail := ⟨h.wf, h.rep⟩

theorem KInv.init {w : World} (h : WF w) : KInv w (KSt.init w) := ⟨h, rfl⟩

theorem KInv.and {w0 : World} {s : KSt} (h : KInv w0 s) : WF s.w ∧ s.w = replay w0 s.trace.reverse := ⟨h.wf, h.rep⟩

theorem dceGraphK_inv (w0 : World) : ∀ (fuel : Nat) (s : KSt) (g : Nat), KInv w0 s → KInv w0 (dceGraphK fuel s g)
  | 0, _, _, h => h
  | fuel + 1, s, g, h => by
    simp only [dceGraphK]
    refine foldl_inv (KInv w0) _ (fun s n hs => ?_) _ s h
    by_cases hr : s.raised = true
    · rw [if_pos hr]; exact hs
    rw [if_neg hr]
    split
    · exact hs.call _
    · refine foldl_inv (KInv w0) _ (fun s a hs => ?_) _ _ ?_
      · exact foldl_inv (KInv w0) _ (fun s sub hs => dceGraphK_inv w0 fuel s sub hs) _ s hs
      · split
        · exact hs
        · exact hs.call _

theorem dceModelK_inv (fuel : Nat) (w : World) (g : Nat) (funcs : List Nat) (h : WF w) :
    KInv w (dceModelK fuel w g funcs) := by
  have h0 := KInv.init h
  simp only [dceModelK]
  refine foldl_inv (KInv w) _ (fun s f hs => dceGraphK_inv w fuel s f hs) _ _ ?_
  refine foldl_inv (KInv w) _ (fun s p hs => ?_) _ _ (dceGraphK_inv w fuel _ g h0)
  by_cases hr : s.raised = true
  · rw [if_pos hr]; exact hs
  rw [if_neg hr]
  split
  · split
    · exact hs.call _
    · exact hs.fail
  · exact hs

/-- the rewrite of `_try_eliminate_identity_node`: the uses of `y` go to `x`, `x` takes over the name of a graph
    output `y`, the node is removed -/
def ieElim (exact : Bool) (s : KSt) (g n x y : Nat) : KSt :=
  let s1 := s.call (.conv (if exact then .rauwManyExact [y] [x] true else .rauwMany [y] [x] true))
  let s2 := if (s.w.val y).isOut then s1.call (.one (.setName x (s1.w.val y).name)) else s1
  s2.call (.one (.remove g [n] true))

theorem ieNodeK_elim {P : KSt → Prop} {exact : Bool} {s : KSt} {n : Nat} (same : P s) (fail : P s.fail)
    (elim : ∀ g x y, P (ieElim exact s g n x y)) : P (ieNodeK exact s n) := by
  unfold ieNodeK
  -- `rw [if_pos _]` / `rw [if_neg _]` for the two outer guards: `split` would simplify the whole body twice
  by_cases hr : s.raised = true
  · rw [if_pos hr]; exact same
  rw [if_neg hr]
  by_cases ho : ((s.w.node n).opType != "Identity") = true
  · rw [if_pos ho]; exact same
  rw [if_neg ho]
  split
  · split                       -- one input `x`, one output `y`
    · exact fail                -- the node is in no graph
    · split
      · exact same              -- `y` an output, `x` an input or initializer
      · split
        · exact same            -- `y` an output, `x` of another graph
        · split
          · exact same          -- both outputs
          · exact elim _ _ _
  · exact same                  -- other arities

theorem ieElim_inv {w0 : World} {s : KSt} (h : KInv w0 s) (exact : Bool) (g n x y : Nat) :
    KInv w0 (ieElim exact s g n x y) := by
  unfold ieElim
  refine KInv.call ?_ _
  split
  · exact (h.call _).call _
  · exact h.call _

theorem ieNodeK_inv (w0 : World) (exact : Bool) (s : KSt) (n : Nat) (h : KInv w0 s) : KInv w0 (ieNodeK exact s n) :=
  ieNodeK_elim h h.fail (fun g x y => ieElim_inv h exact g n x y)

theorem ieGraphK_inv (w0 : World) (exact : Bool) : ∀ (fuel : Nat) (s : KSt) (g : Nat), KInv w0 s →
    KInv w0 (ieGraphK exact fuel s g)
  | 0, _, _, h => h
  | fuel + 1, s, g, h => by
    simp only [ieGraphK]
    refine foldl_inv (KInv w0) _ (fun s n hs => ?_) _ s h
    refine foldl_inv (KInv w0) _ (fun s a hs => ?_) _ _ (ieNodeK_inv w0 exact s n hs)
    exact foldl_inv (KInv w0) _ (fun s sub hs => ieGraphK_inv w0 exact fuel s sub hs) _ s hs

theorem ieModelK_inv (exact : Bool) (fuel : Nat) (w : World) (g : Nat) (funcs : List Nat) (h : WF w) :
    KInv w (ieModelK exact fuel w g funcs) := by
  have h0 := KInv.init h
  simp only [ieModelK]
  exact foldl_inv (KInv w) _ (fun s f hs => ieGraphK_inv w exact fuel s f hs) _ _ (ieGraphK_inv w exact fuel _ g h0)

theorem rmInitInputsK_inv (w : World) (g : Nat) (h : WF w) : KInv w (rmInitInputsK w g) := by
  have h0 := KInv.init h
  simp only [rmInitInputsK]
  exact (h0.call _).call _

theorem addInitInputsK_inv (w : World) (g : Nat) (h : WF w) : KInv w (addInitInputsK w g) := by
  have h0 := KInv.init h
  simp only [addInitInputsK]
  refine foldl_inv (KInv w) _ (fun s v hs => ?_) _ _ h0
  split
  · exact hs
  · exact hs.call _

theorem newIdentity_inv {w0 : World} {s : KSt} (h : KInv w0 s) (o : Nat) : KInv w0 (newIdentity s o) := h.call _

def ofixMultiStep (g : Nat) (p : KSt × List Nat) (io : Nat × Nat) : KSt × List Nat :=
  if p.1.raised then p
  else if !p.2.contains io.2 then (p.1, io.2 :: p.2)
  else
    let n := p.1.w.nodes.length
    let v := p.1.w.vals.length
    let s1 := newIdentity p.1 io.2
    let s2 := s1.call (.one (.setName v (some (nameStr (s1.w.val io.2).name ++ "_alias_" ++ toString io.1))))
    let s3 := s2.call (.one (.append g n))
    (s3.call (.one (.io g .out (.setItem (Int.ofNat io.1) v))), p.2)

theorem ofixMultiK_eq (s : KSt) (g : Nat) :
    ofixMultiK s g = ((enumFrom 0 (s.w.gr g).outputs).foldl (ofixMultiStep g) (s, [])).1 := rfl

theorem ofixMultiK_inv (w0 : World) (s : KSt) (g : Nat) (h : KInv w0 s) : KInv w0 (ofixMultiK s g) := by
  rw [ofixMultiK_eq]
  refine foldl_inv (fun p : KSt × List Nat => KInv w0 p.1) _ (fun p io hp => ?_) _ _ h
  unfold ofixMultiStep
  by_cases hr : p.1.raised = true
  · rw [if_pos hr]; exact hp
  rw [if_neg hr]
  split
  · exact hp
  · exact (((newIdentity_inv hp _).call _).call _).call _

theorem ofixDirectK_inv (w0 : World) (s : KSt) (g : Nat) (h : KInv w0 s) : KInv w0 (ofixDirectK s g) := by
  unfold ofixDirectK
  refine foldl_inv (KInv w0) _ (fun s io hs => ?_) _ _ h
  by_cases hr : s.raised = true
  · rw [if_pos hr]; exact hs
  rw [if_neg hr]
  exact ((((newIdentity_inv hs _).call _).call _).call _).call _

theorem ofixGraphLikeK_inv (w0 : World) (fuel : Nat) (s : KSt) (g : Nat) (h : KInv w0 s) :
    KInv w0 (ofixGraphLikeK fuel s g) := by
  simp only [ofixGraphLikeK]
  exact foldl_inv (KInv w0) _ (fun s g hs => ofixDirectK_inv w0 s g hs) _ _
    (foldl_inv (KInv w0) _ (fun s g hs => ofixMultiK_inv w0 s g hs) _ _ h)

theorem ofixModelK_inv (fuel : Nat) (w : World) (g : Nat) (funcs : List Nat) (h : WF w) :
    KInv w (ofixModelK fuel w g funcs) := by
  have h0 := KInv.init h
  simp only [ofixModelK]
  exact foldl_inv (KInv w) _ (fun s f hs => ofixGraphLikeK_inv w fuel s f hs) _ _ (ofixGraphLikeK_inv w fuel _ g h0)

def cseOutStep (g n : Nat) (rvs nvs : List Nat) (p : KSt × List (Nat × Nat)) (io : Nat × Nat) : KSt × List (Nat × Nat) :=
  if p.1.raised then p
  else
    match p.2.find? (fun q => q.1 = io.2) with
    | some q => (p.1.call (.one (.io g .out (.setItem (Int.ofNat io.1) q.2))), p.2)
    | none =>
      match (rvs.zip nvs).reverse.find? (fun q => q.1 = io.2) with
      | none => p
      | some q =>
        if (p.1.w.val q.2).isOut || (p.1.w.val q.2).isIn then
          let v := p.1.w.vals.length
          let m := p.1.w.nodes.length
          let s1 := p.1.call (.one (.newValue (p.1.w.val io.2).name))
          let s2 := s1.call (.one (.newNode "Identity" none [some q.2] none (some [v]) none))
          let s3 := s2.call (.one (.io g .out (.setItem (Int.ofNat io.1) v)))
          (s3.call (.one (.insertBefore g n [m])), (io.2, v) :: p.2)
        else
          let s1 := p.1.call (.one (.setName q.2 (p.1.w.val io.2).name))
          (s1.call (.one (.io g .out (.setItem (Int.ofNat io.1) q.2))), (io.2, q.2) :: p.2)

theorem cseOutputsK_eq (s : KSt) (g n : Nat) (rvs nvs : List Nat) :
    cseOutputsK s g n rvs nvs = ((enumFrom 0 (s.w.gr g).outputs).foldl (cseOutStep g n rvs nvs) (s, [])).1 := rfl

theorem cseOutStep_elim {P : KSt × List (Nat × Nat) → Prop} {g n : Nat} {rvs nvs : List Nat}
    {p : KSt × List (Nat × Nat)} {io : Nat × Nat} (same : P p)
    (again : ∀ q, p.1.raised = false → p.2.find? (fun q => q.1 = io.2) = some q →
      P (p.1.call (.one (.io g .out (.setItem (Int.ofNat io.1) q.2))), p.2))
    (identity : ∀ q, p.1.raised = false → P
      ((((p.1.call (.one (.newValue (p.1.w.val io.2).name))).call
            (.one (.newNode "Identity" none [some q] none (some [p.1.w.vals.length]) none))).call
          (.one (.io g .out (.setItem (Int.ofNat io.1) p.1.w.vals.length)))).call
        (.one (.insertBefore g n [p.1.w.nodes.length])), (io.2, p.1.w.vals.length) :: p.2))
    (rename : ∀ q, p.1.raised = false → ((p.1.w.val q).isOut || (p.1.w.val q).isIn) = false →
      P ((p.1.call (.one (.setName q (p.1.w.val io.2).name))).call
        (.one (.io g .out (.setItem (Int.ofNat io.1) q))), (io.2, q) :: p.2)) :
    P (cseOutStep g n rvs nvs p io) := by
  unfold cseOutStep
  by_cases hr : p.1.raised = true
  · rw [if_pos hr]; exact same
  rw [if_neg hr]
  have hr' : p.1.raised = false := by simpa using hr
  split
  · next q hq => exact again q hr' hq
  · split
    · exact same
    · split
      · exact identity _ hr'
      · next hfl => exact rename _ hr' (by simpa using hfl)

theorem cseOutputsK_inv (w0 : World) (s : KSt) (g n : Nat) (rvs nvs : List Nat) (h : KInv w0 s) :
    KInv w0 (cseOutputsK s g n rvs nvs) := by
  rw [cseOutputsK_eq]
  refine foldl_inv (fun p : KSt × List (Nat × Nat) => KInv w0 p.1) _ (fun p io hp => ?_) _ _ h
  exact cseOutStep_elim (P := fun r => KInv w0 r.1) hp (fun _ _ _ => hp.call _)
    (fun _ _ => (((hp.call _).call _).call _).call _) (fun _ _ _ => (hp.call _).call _)

theorem cseReplaceK_inv (w0 : World) (exact : Bool) (s : KSt) (g n : Nat) (rvs nvs : List Nat) (h : KInv w0 s) :
    KInv w0 (cseReplaceK exact s g n rvs nvs) := by
  unfold cseReplaceK
  refine KInv.call (KInv.call ?_ _) _
  split
  · exact cseOutputsK_inv w0 s g n rvs nvs h
  · exact h

theorem cseStepK_elim {P : KSt × CseDict × Bool → Prop} {exact : Bool} {akey : Nat → Option Nat} {g : Nat}
    {p : KSt × CseDict × Bool} {n : Nat} (same : P p) (record : ∀ key, P (p.1, p.2.1 ++ [(key, n)], p.2.2))
    (replace : ∀ e, P (cseReplaceK exact p.1 g n (p.1.w.node n).outputs (p.1.w.node e).outputs, p.2.1, true)) :
    P (cseStepK exact akey g p n) := by
  unfold cseStepK
  by_cases hr : p.1.raised = true
  · rw [if_pos hr]; exact same
  rw [if_neg hr]
  split
  · exact same
  · split
    · exact same
    · dsimp only
      split
      · exact replace _
      · exact record _

theorem cseStepK_inv (w0 : World) (exact : Bool) (akey : Nat → Option Nat) (g : Nat) (p : KSt × CseDict × Bool) (n : Nat)
    (h : KInv w0 p.1) : KInv w0 (cseStepK exact akey g p n).1 :=
  cseStepK_elim (P := fun r => KInv w0 r.1) h (fun _ => h) (fun _ => cseReplaceK_inv w0 exact p.1 g n _ _ h)

theorem cseModelK_ind {P : KSt → Bool → Prop} {exact : Bool} {akey : Nat → Option Nat} {g : Nat}
    (step : ∀ (p : KSt × CseDict × Bool) n, P p.1 p.2.2 → P (cseStepK exact akey g p n).1 (cseStepK exact akey g p n).2.2)
    (w : World) (h : P (KSt.init w) false) : P (cseModelK exact akey w g).1 (cseModelK exact akey w g).2 := by
  simp only [cseModelK]
  exact foldl_inv (fun p : KSt × CseDict × Bool => P p.1 p.2.2) _ step _ _ h

theorem cseModelK_inv (exact : Bool) (akey : Nat → Option Nat) (w : World) (g : Nat) (h : WF w) :
    KInv w (cseModelK exact akey w g).1 :=
  cseModelK_ind (P := fun s _ => KInv w s) (fun p n hp => cseStepK_inv w exact akey g p n hp) w (KInv.init h)

/-- the rewrite of LiftConstants for the Constant node `n` of graph `g` with output `o` named `nm`: a new value
    (id `s.w.vals.length`) carrying the tensor and the name is registered as an initializer of `g`, takes over the uses
    of `o`, and the node is removed.  `tn`: the tensor already carries the name. -/
def lcLift (tn : Bool) (s : KSt) (g n o : Nat) (nm : String) : KSt :=
  let v := s.w.vals.length
  let s1 :=
    if tn then ((s.call (.one (.newValue none))).call (.one (.setConst v false))).call (.one (.setName v (some nm)))
    else (s.call (.one (.newValue (some nm)))).call (.one (.setConst v false))
  ((s1.call (.one (.init g (.register v)))).call (.one (.rauw o v false))).call (.one (.remove g [n] true))

theorem lcNodeK_elim {P : KSt × Nat → Prop} {liftAll : Bool} {big tnamed : Nat → Bool} {p : KSt × Nat} {n : Nat}
    (same : P p) (fail : P (p.1.fail, p.2)) (lift : ∀ g o nm, P (lcLift (tnamed n) p.1 g n o nm, p.2 + 1)) :
    P (lcNodeK liftAll big tnamed p n) := by
  unfold lcNodeK
  by_cases hr : p.1.raised = true
  · rw [if_pos hr]; exact same
  rw [if_neg hr]
  split
  · exact fail                  -- the node is in no graph
  · split
    · exact same                -- not a Constant
    · split
      · exact fail              -- no output
      · split
        · exact same            -- the output is a graph output
        · split
          · split               -- exactly one attribute
            · exact fail        -- the output has no name
            · split             -- `lcAttr`
              · exact fail      -- unsupported attribute
              · exact same      -- not `value` and not `lift_all_constants`
              · split
                · exact same    -- too small
                · exact lift _ _ _
          · exact same          -- another number of attributes

theorem lcLift_inv {w0 : World} {s : KSt} (h : KInv w0 s) (tn : Bool) (g n o : Nat) (nm : String) :
    KInv w0 (lcLift tn s g n o nm) := by
  unfold lcLift
  refine KInv.call (KInv.call (KInv.call ?_ _) _) _
  split
  · exact ((h.call _).call _).call _
  · exact (h.call _).call _

theorem lcGraphK_ind {P : KSt × Nat → Prop} {liftAll : Bool} {big tnamed : Nat → Bool}
    (step : ∀ p n, P p → P (lcNodeK liftAll big tnamed p n)) :
    ∀ (fuel : Nat) (p : KSt × Nat) (g : Nat), P p → P (lcGraphK liftAll big tnamed fuel p g)
  | 0, _, _, h => h
  | fuel + 1, p, g, h => by
    simp only [lcGraphK]
    refine foldl_inv P _ (fun p n hp => ?_) _ p h
    refine foldl_inv P _ (fun p a hp => ?_) _ _ (step p n hp)
    exact foldl_inv P _ (fun p sub hp => lcGraphK_ind step fuel p sub hp) _ p hp

theorem lcModelK_inv (liftAll : Bool) (big tnamed : Nat → Bool) (fuel : Nat) (w : World) (g : Nat) (h : WF w) :
    KInv w (lcModelK liftAll big tnamed fuel w g).1 :=
  lcGraphK_ind (P := fun p => KInv w p.1)
    (fun p n hp => lcNodeK_elim (P := fun r => KInv w r.1) hp hp.fail (fun g o nm => lcLift_inv hp _ g n o nm))
    fuel _ g (KInv.init h)

/-- the rewrite of LiftSubgraphInitializers: the initializer `v` of `g` under `key` is popped, renamed `nn` and
    registered in the main graph -/
def lsiLift (s : KSt) (main g v : Nat) (key nn : String) : KSt :=
  ((s.call (.one (.init g (.pop key)))).call (.one (.setName v (some nn)))).call (.one (.init main (.register v)))

theorem lsiInitK_elim {P : KSt × List (String × Nat) × Nat → Prop} {main g : Nat} {outN inN : List String}
    {p : KSt × List (String × Nat) × Nat} {key : String} (same : P p) (fail : P (p.1.fail, p.2))
    (popFail : P ((p.1.call (.one (.init g (.pop key)))).fail, p.2))
    (lift : ∀ v nn c, p.1.raised = false → lookupInit (p.1.w.gr g).inits key = some v →
      P (lsiLift p.1 main g v key nn, c, p.2.2 + 1)) :
    P (lsiInitK main g outN inN p key) := by
  unfold lsiInitK
  by_cases hr : p.1.raised = true
  · rw [if_pos hr]; exact same
  rw [if_neg hr]
  split
  · exact fail
  · next v hv =>
    split
    · exact same
    · split
      · exact same
      · dsimp only
        split
        · exact popFail
        · exact lift v _ _ (by simpa using hr) hv

theorem lsiModelK_ind {P : KSt → Nat → Prop} {g : Nat}
    (step : ∀ sub outN inN (p : KSt × List (String × Nat) × Nat) key, P p.1 p.2.2 →
      P (lsiInitK g sub outN inN p key).1 (lsiInitK g sub outN inN p key).2.2)
    (fuel : Nat) (w : World) (h : P (KSt.init w) 0) : P (lsiModelK fuel w g).1 (lsiModelK fuel w g).2 := by
  simp only [lsiModelK]
  refine foldl_inv (fun p : KSt × List (String × Nat) × Nat => P p.1 p.2.2) _ (fun p sub hp => ?_) _ _ h
  exact foldl_inv (fun p : KSt × List (String × Nat) × Nat => P p.1 p.2.2) _
    (fun p key hp => step sub _ _ p key hp) _ p hp

theorem lsiModelK_inv (fuel : Nat) (w : World) (g : Nat) (h : WF w) : KInv w (lsiModelK fuel w g).1 :=
  lsiModelK_ind (P := fun s _ => KInv w s)
    (fun _ _ _ _ _ hp => lsiInitK_elim (P := fun r => KInv w r.1) hp hp.fail (hp.call _).fail
      (fun _ _ _ _ _ => ((hp.call _).call _).call _))
    fuel w (KInv.init h)

theorem ddInitK_elim {P : KSt × List (Nat × Nat) × Bool → Prop} {hkey tkey : Nat → Option Nat} {g : Nat}
    {p : KSt × List (Nat × Nat) × Bool} {v : Nat} (same : P p) (record : ∀ h, P (p.1, p.2.1 ++ [(h, v)], p.2.2))
    (nameless : ∀ k, P ((p.1.call (.one (.rauw v k false))).fail, p.2.1, true))
    (merge : ∀ k nm, P ((p.1.call (.one (.rauw v k false))).call (.one (.init g (.pop nm))), p.2.1, true)) :
    P (ddInitK hkey tkey g p v) := by
  unfold ddInitK
  by_cases hr : p.1.raised = true
  · rw [if_pos hr]; exact same
  rw [if_neg hr]
  split
  · exact same                  -- a graph input or output
  · split
    · exact same                -- no constant value
    · split
      · exact same              -- no key (above the size limit)
      · split
        · exact record _        -- first value with this key
        · split
          · exact same          -- same key, different bytes
          · dsimp only
            split
            · exact nameless _
            · exact merge _ _

theorem ddModelK_ind {P : KSt → Bool → Prop} {hkey tkey : Nat → Option Nat}
    (step : ∀ g (p : KSt × List (Nat × Nat) × Bool) v, P p.1 p.2.2 →
      P (ddInitK hkey tkey g p v).1 (ddInitK hkey tkey g p v).2.2)
    (fuel : Nat) (w : World) (g : Nat) (h : P (KSt.init w) false) :
    P (ddModelK hkey tkey fuel w g).1 (ddModelK hkey tkey fuel w g).2 := by
  have graph : ∀ (p : KSt × Bool) g, P p.1 p.2 → P (ddGraphK hkey tkey p g).1 (ddGraphK hkey tkey p g).2 := by
    intro p g hp
    simp only [ddGraphK]
    exact foldl_inv (fun r : KSt × List (Nat × Nat) × Bool => P r.1 r.2.2) _ (step g) _ _ hp
  simp only [ddModelK]
  exact foldl_inv (fun p : KSt × Bool => P p.1 p.2) _ graph _ _ (graph _ g h)

theorem ddModelK_inv (hkey tkey : Nat → Option Nat) (fuel : Nat) (w : World) (g : Nat) (h : WF w) :
    KInv w (ddModelK hkey tkey fuel w g).1 :=
  ddModelK_ind (P := fun s _ => KInv w s)
    (fun _ _ _ hp => ddInitK_elim (P := fun r => KInv w r.1) hp (fun _ => hp) (fun _ => (hp.call _).fail)
      (fun _ _ => (hp.call _).call _)) fuel w g (KInv.init h)

/-- nothing has happened yet, or the pass has raised -/
def Quiet (w0 : World) (s : KSt) : Prop := (s.w = w0 ∧ s.trace = []) ∨ s.raised = true

theorem cseModelK_quiet (exact : Bool) (akey : Nat → Option Nat) (w : World) (g : Nat)
    (h : (cseModelK exact akey w g).2 = false) : Quiet w (cseModelK exact akey w g).1 :=
  cseModelK_ind (P := fun s b => b = false → Quiet w s)
    (fun _ _ hp => cseStepK_elim (P := fun r => r.2.2 = false → Quiet w r.1) hp (fun _ => hp) (fun _ hc => nomatch hc))
    w (fun _ => Or.inl ⟨rfl, rfl⟩) h

theorem lcModelK_quiet (liftAll : Bool) (big tnamed : Nat → Bool) (fuel : Nat) (w : World) (g : Nat)
    (h : (lcModelK liftAll big tnamed fuel w g).2 = 0) : Quiet w (lcModelK liftAll big tnamed fuel w g).1 :=
  lcGraphK_ind (P := fun p => (p.2 != 0) = false → Quiet w p.1)
    (fun _ _ hp => lcNodeK_elim (P := fun r => (r.2 != 0) = false → Quiet w r.1) hp (fun _ => Or.inr rfl)
      (fun _ _ _ hc => by simp at hc)) fuel _ g (fun _ => Or.inl ⟨rfl, rfl⟩)
    (by simp [lcModelK] at h ⊢; exact h)

theorem lsiModelK_quiet (fuel : Nat) (w : World) (g : Nat) (h : (lsiModelK fuel w g).2 = 0) :
    Quiet w (lsiModelK fuel w g).1 :=
  lsiModelK_ind (P := fun s c => (c != 0) = false → Quiet w s)
    (fun _ _ _ _ _ hp => lsiInitK_elim (P := fun r => (r.2.2 != 0) = false → Quiet w r.1) hp (fun _ => Or.inr rfl)
      (fun _ => Or.inr rfl) (fun _ _ _ _ _ hc => by simp at hc)) fuel w
    (fun _ => Or.inl ⟨rfl, rfl⟩) (by simpa using h)

theorem ddModelK_quiet (hkey tkey : Nat → Option Nat) (fuel : Nat) (w : World) (g : Nat)
    (h : (ddModelK hkey tkey fuel w g).2 = false) : Quiet w (ddModelK hkey tkey fuel w g).1 :=
  ddModelK_ind (P := fun s b => b = false → Quiet w s)
    (fun _ _ _ hp => ddInitK_elim (P := fun r => r.2.2 = false → Quiet w r.1) hp (fun _ => hp) (fun _ hc => nomatch hc)
      (fun _ _ hc => nomatch hc)) fuel w g
    (fun _ => Or.inl ⟨rfl, rfl⟩) h

end IrVerif.PassKernel
