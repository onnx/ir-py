/-
The device-configuration half of the joint induction of `Lemmas/ScopeExtDeser.lean`, level by level, and its top:
every model the extended deserializer returns satisfies `DevCertG`.
-/
import IrVerif.Lemmas.ScopeExtDeser
namespace IrVerif.Scope

theorem deser_dev_node :
    ∀ (n : NodeE) (st : Store) (x : Ext) (top : Table) (outer : List Table) (vt : List (Name × Info × SS))
      (qt : List (Name × SS)) (b : Nat) (st' : Store) (x' : Ext) (top' : Table) (nt : NodeT),
      Fresh st → TblOK st b top → TablesLt st outer → b ≤ st.nv → Named st top → (∀ T ∈ outer, Named st T) →
      deserNodeE st x top outer vt qt n = .ok (st', x', top', nt) →
      (∀ y ∈ (eraseN n).outputs, y ≠ "" → ∃ u, top.lookup y = some u) →
      ∀ (V : Nat → ValueS) (X : Ext), NamesAgree V st' →
        (∀ v, st.nv ≤ v → v < st'.nv → v ∉ top'.map (·.2) → CellAgree V st' v) →
        (∀ k, k < st'.nn → X.devs k = x'.devs k) → DevCertN V X outer top nt :=
  fun n _ _ _ _ _ _ b _ _ _ _ hf hok ho hb hn hon h _ V X hV hC hX =>
    (deserNodeE_ind deser_cert_cases n h b ⟨⟨hf, ho, hon⟩, hok, hb, hn⟩ V X hV hC).2 hX

theorem deser_dev_subs :
    ∀ (gps : List GraphE) (st : Store) (x : Ext) (scopes : List Table) (st' : Store) (x' : Ext) (gts : List GraphT),
      Fresh st → TablesLt st scopes → (∀ T ∈ scopes, Named st T) →
      deserSubsE st x scopes gps = .ok (st', x', gts) →
      ∀ (V : Nat → ValueS) (X : Ext), NamesAgree V st' → (∀ v, st.nv ≤ v → v < st'.nv → CellAgree V st' v) →
        (∀ k, k < st'.nn → X.devs k = x'.devs k) → DevCertGs V X scopes gts :=
  fun gps _ _ _ _ _ _ hf hs hon h V X hV hC hX =>
    (deserSubsE_ind deser_cert_cases gps h ⟨hf, hs, hon⟩ V X hV hC).2 hX

/-- **every model the extended deserializer returns satisfies the certificate of the device configurations** -/
theorem deserializeE_devCert (p : GraphE) (w : WorldE) (h : deserializeE p = .ok w) :
    DevCertG w.st.vals w.ext [] w.root := by
  obtain ⟨st, x, g⟩ := w
  exact (deserGraphE_cert_top (deserializeE_ok h) st.vals x (fun _ _ => rfl) (fun _ _ => ⟨rfl, rfl⟩)).2 (fun _ _ => rfl)

end IrVerif.Scope
