/-
C12 — the reverse Kahn loop of `Graph.sort` over an arbitrary finite predecessor relation.

Part 1 (refinement): the loop of `Model/Sort.lean` (depth counters + heap) pops, at every step,
the largest position that is *ready* (not popped, all its children popped), and stops only when
nothing is ready (`kahn_inv`: the invariant after the loop; `kahn_run`, `kahn_stuck`).
Part 2 (specification level): consequences of a `Run` after which no position is `Ready`.
-/
import IrVerif.Model.Sort
import Mathlib.Logic.Relation
import Mathlib.Data.List.Perm.Subperm
import IrVerif.Lemmas.ListFacts

namespace IrVerif.Sort
open List

/-! ## Specification-level vocabulary -/

/-- `x` can be popped when the positions in `P` have been popped: it is a position, it has not
    been popped, and every node it is a predecessor of (its children) has been popped. -/
def Ready (n : Nat) (preds : Nat → List Nat) (P : List Nat) (x : Nat) : Prop :=
  x < n ∧ x ∉ P ∧ ∀ c, c < n → x ∈ preds c → c ∈ P

/-- `P` (most recent first) is a pop history of the algorithm "pop the largest ready position". -/
inductive Run (n : Nat) (preds : Nat → List Nat) : List Nat → Prop
  | nil : Run n preds []
  | cons {P : List Nat} {x : Nat} : Run n preds P → Ready n preds P x →
      (∀ y, Ready n preds P y → y ≤ x) → Run n preds (x :: P)

/-- number of occurrences of `v` in the predecessor lists of the positions not in `P` -/
def deg (n : Nat) (preds : Nat → List Nat) (P : List Nat) (v : Nat) : Nat :=
  (((List.range n).filter (fun c => decide (c ∉ P))).map (fun c => (preds c).count v)).sum

/-! ## counters -/

attribute [-simp] List.getD_eq_getElem?_getD

theorem getD_pos_lt (d : List Nat) (v : Nat) (h : 0 < d.getD v 0) : v < d.length := by
  by_contra hc
  simp [List.getD_eq_getElem?_getD, List.getElem?_eq_none (Nat.le_of_not_lt hc)] at h

theorem bump_fold (ps : List Nat) (d : List Nat) :
    (ps.foldl bump d).length = d.length ∧
    ∀ v, v < d.length → (ps.foldl bump d).getD v 0 = d.getD v 0 + ps.count v := by
  induction ps generalizing d with
  | nil => simp
  | cons p ps ih =>
    simp only [List.foldl_cons]
    obtain ⟨hl, hv⟩ := ih (bump d p)
    have hbl : (bump d p).length = d.length := by simp [bump]
    refine ⟨by rw [hl, hbl], ?_⟩
    intro v hvlt
    rw [hv v (by rw [hbl]; exact hvlt)]
    simp only [bump, ListFacts.getD_set, List.count_cons]
    by_cases h : p = v
    · subst h; simp [hvlt]; omega
    · have : (p == v) = false := by simp [h]
      simp [h, this]

theorem initDepth_fold (preds : Nat → List Nat) (cs : List Nat) (d : List Nat) :
    let r := cs.foldl (fun d c => (preds c).foldl bump d) d
    r.length = d.length ∧
    ∀ v, v < d.length → r.getD v 0 = d.getD v 0 + (cs.map (fun c => (preds c).count v)).sum := by
  induction cs generalizing d with
  | nil => simp
  | cons c cs ih =>
    simp only [List.foldl_cons, List.map_cons, List.sum_cons]
    obtain ⟨hl, hv⟩ := ih ((preds c).foldl bump d)
    obtain ⟨hl1, hv1⟩ := bump_fold (preds c) d
    refine ⟨by rw [hl, hl1], ?_⟩
    intro v hvlt
    rw [hv v (by rw [hl1]; exact hvlt), hv1 v hvlt]
    omega

theorem initDepth_spec (n : Nat) (preds : Nat → List Nat) :
    (initDepth n preds).length = n ∧
    ∀ v, v < n → (initDepth n preds).getD v 0 = deg n preds [] v := by
  obtain ⟨hl, hv⟩ := initDepth_fold preds (List.range n) (List.replicate n 0)
  simp only [List.length_replicate] at hl hv
  refine ⟨hl, ?_⟩
  intro v hvlt
  have := hv v hvlt
  simp only [initDepth]
  rw [this]
  simp [deg, List.getD_eq_getElem?_getD, hvlt]

theorem relax1_eq (d h : List Nat) {p : Nat} (hp : p < d.length) :
    relax1 (d, h) p = (d.set p (d.getD p 0 - 1), if d.getD p 0 - 1 = 0 then p :: h else h) := by
  have hg : (d.set p (d.getD p 0 - 1)).getD p 0 = d.getD p 0 - 1 := by
    rw [ListFacts.getD_set, if_pos ⟨rfl, hp⟩]
  show (if ((d.set p (d.getD p 0 - 1)).getD p 0 == 0) = true then _ else _) = _
  rw [hg]
  by_cases hz : d.getD p 0 - 1 = 0
  · rw [if_pos hz, if_pos (by rw [hz]; rfl)]
  · rw [if_neg hz, if_neg (by simpa using hz)]

theorem count_cons_if (p : Nat) (ps : List Nat) (z : Nat) :
    (p :: ps).count z = ps.count z + if p = z then 1 else 0 := by
  simp [List.count_cons]

theorem relax1_step {p : Nat} {ps d : List Nat} (hle : ∀ v, (p :: ps).count v ≤ d.getD v 0) :
    ps.count p + 1 ≤ d.getD p 0 ∧ p < d.length ∧
    (∀ v, (d.set p (d.getD p 0 - 1)).getD v 0 = if p = v then d.getD p 0 - 1 else d.getD v 0) ∧
    (∀ v, ps.count v ≤ (d.set p (d.getD p 0 - 1)).getD v 0) := by
  have hp : ps.count p + 1 ≤ d.getD p 0 := by
    have := hle p; rwa [count_cons_if, if_pos rfl] at this
  have hplt : p < d.length := getD_pos_lt d p (by omega)
  have hd1 : ∀ v, (d.set p (d.getD p 0 - 1)).getD v 0 = if p = v then d.getD p 0 - 1 else d.getD v 0 := by
    intro v; rw [ListFacts.getD_set]; by_cases hv : p = v
    · rw [if_pos ⟨hv, hplt⟩, if_pos hv]
    · rw [if_neg (fun hh => hv hh.1), if_neg hv]
  refine ⟨hp, hplt, hd1, ?_⟩
  intro v; have := hle v; rw [count_cons_if] at this; rw [hd1]
  by_cases hv : p = v
  · rw [if_pos hv, ← hv]; omega
  · rw [if_neg hv] at this ⊢; exact this

/-- the inner `for predecessor_node in node_predecessors[current_node]` loop -/
theorem relax_fold (ps : List Nat) (d h : List Nat) (hle : ∀ v, ps.count v ≤ d.getD v 0) :
    (ps.foldl relax1 (d, h)).1.length = d.length ∧
    (∀ v, (ps.foldl relax1 (d, h)).1.getD v 0 = d.getD v 0 - ps.count v) ∧
    ∃ pushed, (ps.foldl relax1 (d, h)).2 = pushed ++ h ∧ pushed.Nodup ∧
      ∀ z, z ∈ pushed ↔ (0 < ps.count z ∧ d.getD z 0 = ps.count z) := by
  induction ps generalizing d h with
  | nil => exact ⟨rfl, by simp, [], by simp⟩
  | cons p ps ih =>
    have hcnt := count_cons_if p ps
    obtain ⟨hp, hplt, hd1, hle1⟩ := relax1_step hle
    rw [List.foldl_cons, relax1_eq d h hplt]
    have hlen : (d.set p (d.getD p 0 - 1)).length = d.length := List.length_set
    generalize d.set p (d.getD p 0 - 1) = d1 at hd1 hle1 hlen ⊢
    have hval : ∀ v, d1.getD v 0 - ps.count v = d.getD v 0 - (p :: ps).count v := by
      intro v; rw [hd1, hcnt]
      by_cases hh : p = v
      · rw [if_pos hh, if_pos hh, ← hh]; omega
      · rw [if_neg hh, if_neg hh]; rfl
    obtain ⟨hl, hv, pushed, hpush, hnd, hmem⟩ := ih d1 (if d.getD p 0 - 1 = 0 then p :: h else h) hle1
    refine ⟨hl.trans hlen, fun v => (hv v).trans (hval v), ?_⟩
    by_cases hz : d.getD p 0 - 1 = 0
    · -- the counter reaches 0: `p` is pushed now and does not occur in the rest
      rw [if_pos hz] at hpush ⊢
      have hpc : ps.count p = 0 := by omega
      refine ⟨pushed ++ [p], by rw [hpush, List.append_assoc]; rfl, ?_, ?_⟩
      · refine List.nodup_append.2 ⟨hnd, List.nodup_cons.2 ⟨List.not_mem_nil, List.nodup_nil⟩, ?_⟩
        intro a ha b hb hab
        rw [List.mem_singleton] at hb
        have := ((hmem a).1 ha).1
        rw [hab, hb, hpc] at this
        exact Nat.lt_irrefl 0 this
      · intro z
        rw [List.mem_append, List.mem_singleton, hmem, hd1, hcnt]
        by_cases hh : p = z
        · rw [if_pos hh, if_pos hh, ← hh]
          constructor
          · intro _; omega
          · intro _; exact Or.inr rfl
        · rw [if_neg hh, if_neg hh]
          constructor
          · rintro (h1 | h1)
            · exact h1
            · exact absurd h1.symm hh
          · exact Or.inl
    · rw [if_neg hz] at hpush ⊢
      refine ⟨pushed, hpush, hnd, ?_⟩
      intro z
      rw [hmem, hd1, hcnt]
      by_cases hh : p = z
      · rw [if_pos hh, if_pos hh, ← hh]
        constructor <;> intro h1 <;> omega
      · rw [if_neg hh, if_neg hh]; rfl

/-! ## `deg` -/

theorem sum_map_remove {l : List Nat} (f : Nat → Nat) (x : Nat) (hnd : l.Nodup) (hx : x ∈ l) :
    (l.map f).sum = f x + ((l.filter (fun c => !decide (c = x))).map f).sum := by
  induction l with
  | nil => simp at hx
  | cons a l ih =>
    rw [List.nodup_cons] at hnd
    by_cases h : a = x
    · subst h
      have : l.filter (fun c => !decide (c = a)) = l := by
        rw [List.filter_eq_self]; intro c hc; simp; intro hca; subst hca; exact hnd.1 hc
      simp [this]
    · have hx' : x ∈ l := by
        rcases List.mem_cons.1 hx with h1 | h1
        · exact absurd h1.symm h
        · exact h1
      have := ih hnd.2 hx'
      simp [h, this]; omega

theorem deg_eq_zero (n : Nat) (preds : Nat → List Nat) (P : List Nat) (v : Nat) :
    deg n preds P v = 0 ↔ ∀ c, c < n → c ∉ P → v ∉ preds c := by
  simp only [deg, ListFacts.sum_map_eq_zero_iff, List.mem_filter, List.mem_range, List.count_eq_zero,
    decide_eq_true_eq]
  constructor
  · intro h c hc hcP; exact h c ⟨hc, hcP⟩
  · intro h c hc; exact h c hc.1 hc.2

theorem deg_cons (n : Nat) (preds : Nat → List Nat) (P : List Nat) (x v : Nat)
    (hx : x < n) (hxP : x ∉ P) :
    deg n preds P v = (preds x).count v + deg n preds (x :: P) v := by
  have hmem : x ∈ (List.range n).filter (fun c => decide (c ∉ P)) := by
    simp [List.mem_filter, hx, hxP]
  have hnd : ((List.range n).filter (fun c => decide (c ∉ P))).Nodup :=
    List.Nodup.sublist List.filter_sublist List.nodup_range
  have := sum_map_remove (fun c => (preds c).count v) x hnd hmem
  simp only [deg]
  rw [this, List.filter_filter]
  congr 3
  apply List.filter_congr
  intro c _
  simp [List.mem_cons, not_or]

theorem ready_iff_deg (n : Nat) (preds : Nat → List Nat) (P : List Nat) (x : Nat) :
    Ready n preds P x ↔ x < n ∧ x ∉ P ∧ deg n preds P x = 0 := by
  simp only [Ready, deg_eq_zero]
  constructor
  · rintro ⟨h1, h2, h3⟩
    exact ⟨h1, h2, fun c hc hcP hxc => hcP (h3 c hc hxc)⟩
  · rintro ⟨h1, h2, h3⟩
    refine ⟨h1, h2, fun c hc hxc => ?_⟩
    by_contra hcP
    exact h3 c hc hcP hxc

/-! ## `Run` -/

theorem Run.lt {n : Nat} {preds : Nat → List Nat} {P : List Nat} (h : Run n preds P) :
    ∀ x ∈ P, x < n := by
  induction h with
  | nil => simp
  | cons _ hr _ ih =>
    intro y hy
    rcases List.mem_cons.1 hy with h1 | h1
    · subst h1; exact hr.1
    · exact ih y h1

theorem Run.nodup {n : Nat} {preds : Nat → List Nat} {P : List Nat} (h : Run n preds P) :
    P.Nodup := by
  induction h with
  | nil => simp
  | cons _ hr _ ih => exact List.nodup_cons.2 ⟨hr.2.1, ih⟩

/-- children of a popped position are popped -/
theorem Run.closed {n : Nat} {preds : Nat → List Nat} {P : List Nat} (h : Run n preds P) :
    ∀ x ∈ P, ∀ c, c < n → x ∈ preds c → c ∈ P := by
  induction h with
  | nil => simp
  | cons _ hr _ ih =>
    intro y hy c hc hyc
    rcases List.mem_cons.1 hy with h1 | h1
    · subst h1; exact List.mem_cons_of_mem _ (hr.2.2 c hc hyc)
    · exact List.mem_cons_of_mem _ (ih y h1 c hc hyc)

theorem Run.length_le {n : Nat} {preds : Nat → List Nat} {P : List Nat} (h : Run n preds P) :
    P.length ≤ n := by
  have hs : P ⊆ List.range n := fun x hx => List.mem_range.2 (h.lt x hx)
  have := (List.subperm_of_subset h.nodup hs).length_le
  simpa using this

theorem Run.perm_range {n : Nat} {preds : Nat → List Nat} {P : List Nat} (h : Run n preds P)
    (hl : P.length = n) : P.Perm (List.range n) := by
  have hs : P ⊆ List.range n := fun x hx => List.mem_range.2 (h.lt x hx)
  exact (List.subperm_of_subset h.nodup hs).perm_of_length_le (by simp [hl])

theorem Run.complete {n : Nat} {preds : Nat → List Nat} {P : List Nat} (h : Run n preds P)
    (hl : P.length = n) : ∀ y, y < n → y ∈ P :=
  fun _ hy => (h.perm_range hl).mem_iff.2 (List.mem_range.2 hy)

/-! ## the loop refines `Run` -/

theorem maxOf_none {l : List Nat} (h : maxOf l = none) : l = [] := by
  cases l with
  | nil => rfl
  | cons x xs => simp only [maxOf] at h; split at h <;> simp at h

theorem maxOf_some {l : List Nat} {x : Nat} (h : maxOf l = some x) :
    x ∈ l ∧ ∀ y ∈ l, y ≤ x := by
  induction l generalizing x with
  | nil => simp [maxOf] at h
  | cons a l ih =>
    simp only [maxOf] at h
    split at h
    · rename_i hm
      have := maxOf_none hm
      subst this
      simp at h; subst h; simp
    · rename_i m hm
      obtain ⟨h1, h2⟩ := ih hm
      simp at h
      by_cases hle : m ≤ a
      · simp [hle] at h; subst h
        refine ⟨by simp, ?_⟩
        intro y hy
        rcases List.mem_cons.1 hy with h3 | h3
        · omega
        · exact Nat.le_trans (h2 y h3) hle
      · simp [hle] at h; subst h
        refine ⟨List.mem_cons_of_mem _ h1, ?_⟩
        intro y hy
        rcases List.mem_cons.1 hy with h3 | h3
        · omega
        · exact h2 y h3

/-- loop invariant: the counters count the predecessor-list occurrences among the unpopped
    nodes, the heap holds exactly the ready positions, the popped list is a `Run`. -/
structure Inv (n : Nat) (preds : Nat → List Nat) (s : KState) : Prop where
  run : Run n preds s.out
  dlen : s.depth.length = n
  dval : ∀ v, v < n → s.depth.getD v 0 = deg n preds s.out v
  hnd : s.heap.Nodup
  hiff : ∀ x, x ∈ s.heap ↔ Ready n preds s.out x

theorem inv_init (n : Nat) (preds : Nat → List Nat) :
    Inv n preds ⟨initDepth n preds, initHeap n (initDepth n preds), []⟩ := by
  obtain ⟨hl, hv⟩ := initDepth_spec n preds
  refine ⟨Run.nil, hl, hv, List.Nodup.sublist List.filter_sublist List.nodup_range, ?_⟩
  intro x
  simp only [initHeap, List.mem_filter, List.mem_range, ready_iff_deg, beq_iff_eq]
  constructor
  · rintro ⟨h1, h2⟩; exact ⟨h1, by simp, by rw [← hv x h1]; exact h2⟩
  · rintro ⟨h1, _, h3⟩; exact ⟨h1, by rw [hv x h1]; exact h3⟩

theorem Inv.count_le {n : Nat} {preds : Nat → List Nat} (hp : ∀ c, c < n → ∀ p ∈ preds c, p < n)
    {s : KState} (hinv : Inv n preds s) {x : Nat} (hrdy : Ready n preds s.out x) :
    ∀ v, (preds x).count v ≤ s.depth.getD v 0 := by
  intro v
  by_cases hv : v < n
  · rw [hinv.dval v hv, deg_cons n preds s.out x v hrdy.1 hrdy.2.1]; omega
  · have : v ∉ preds x := fun hmem => hv (hp x hrdy.1 v hmem)
    rw [List.count_eq_zero.2 this]; omega

theorem inv_step {n : Nat} {preds : Nat → List Nat} (hp : ∀ c, c < n → ∀ p ∈ preds c, p < n)
    {s s' : KState} (hinv : Inv n preds s) (hs : step preds s = some s') :
    Inv n preds s' ∧ s'.out.length = s.out.length + 1 := by
  simp only [step] at hs
  split at hs
  · simp at hs
  · rename_i x hmax
    simp only [Option.some.injEq] at hs
    subst hs
    obtain ⟨hxh, hxmax⟩ := maxOf_some hmax
    have hrdy : Ready n preds s.out x := (hinv.hiff x).1 hxh
    have hxn := hrdy.1
    have hxP := hrdy.2.1
    have hdeg : ∀ v, deg n preds s.out v = (preds x).count v + deg n preds (x :: s.out) v :=
      fun v => deg_cons n preds s.out x v hxn hxP
    have hle := hinv.count_le hp hrdy
    obtain ⟨hl, hv, pushed, hpush, hpnd, hpmem⟩ := relax_fold (preds x) s.depth (s.heap.erase x) hle
    have hrun : Run n preds (x :: s.out) :=
      Run.cons hinv.run hrdy (fun y hy => hxmax y ((hinv.hiff y).2 hy))
    have hdval : ∀ v, v < n →
        ((preds x).foldl relax1 (s.depth, s.heap.erase x)).1.getD v 0
          = deg n preds (x :: s.out) v := by
      intro v hvn
      rw [hv v, hinv.dval v hvn, hdeg v]; omega
    -- pushed: the predecessors of `x` whose `deg` is 0 now; the old heap held positions whose `deg` was 0 already
    have hpm : ∀ z, z ∈ pushed ↔ (z ∈ preds x ∧ deg n preds (x :: s.out) z = 0) := by
      intro z
      rw [hpmem z, List.count_pos_iff]
      constructor
      · rintro ⟨h1, h2⟩
        have hzn := hp x hxn z h1
        rw [hinv.dval z hzn, hdeg z] at h2
        exact ⟨h1, by omega⟩
      · rintro ⟨h1, h2⟩
        have hzn := hp x hxn z h1
        refine ⟨h1, ?_⟩
        rw [hinv.dval z hzn, hdeg z]; omega
    have herase : ∀ z, z ∈ s.heap.erase x ↔ (z ≠ x ∧ Ready n preds s.out z) := by
      intro z; rw [hinv.hnd.mem_erase_iff, hinv.hiff]
    refine ⟨⟨hrun, by rw [hl]; exact hinv.dlen, hdval, ?_, ?_⟩, by simp⟩
    · show ((preds x).foldl relax1 (s.depth, s.heap.erase x)).2.Nodup
      rw [hpush, List.nodup_append]
      refine ⟨hpnd, hinv.hnd.erase x, ?_⟩
      intro a ha b hb hab
      subst hab
      have h1 := (hpm a).1 ha
      have h2 := ((herase a).1 hb).2
      have h3 := ((ready_iff_deg n preds s.out a).1 h2).2.2
      have h4 := hdeg a
      have : 0 < (preds x).count a := List.count_pos_iff.2 h1.1
      omega
    · intro z
      show z ∈ ((preds x).foldl relax1 (s.depth, s.heap.erase x)).2 ↔ Ready n preds (x :: s.out) z
      rw [hpush, List.mem_append, hpm, herase, ready_iff_deg, ready_iff_deg]
      constructor
      · rintro (⟨h1, h2⟩ | ⟨h1, h2, h3, h4⟩)
        · have hzn := hp x hxn z h1
          refine ⟨hzn, ?_, h2⟩
          intro hmem
          rcases List.mem_cons.1 hmem with h5 | h5
          · subst h5
            -- x ∈ preds x contradicts readiness of x
            exact hxP (hrdy.2.2 z hxn h1)
          · exact hxP (hinv.run.closed z h5 x hxn h1)
        · refine ⟨h2, ?_, ?_⟩
          · intro hmem
            rcases List.mem_cons.1 hmem with h5 | h5
            · exact h1 h5
            · exact h3 h5
          · have := hdeg z; omega
      · rintro ⟨h1, h2, h3⟩
        have hzx : z ≠ x := fun h => h2 (h ▸ List.mem_cons_self)
        have hzP : z ∉ s.out := fun h => h2 (List.mem_cons_of_mem _ h)
        by_cases h0 : deg n preds s.out z = 0
        · exact Or.inr ⟨hzx, h1, hzP, h0⟩
        · left
          refine ⟨?_, h3⟩
          have := hdeg z
          exact List.count_pos_iff.1 (by omega)

theorem inv_loop {n : Nat} {preds : Nat → List Nat} (hp : ∀ c, c < n → ∀ p ∈ preds c, p < n)
    (f : Nat) {s : KState} (hinv : Inv n preds s) (hfuel : n ≤ s.out.length + f) :
    Inv n preds (loop preds f s) ∧ (loop preds f s).heap = [] := by
  induction f generalizing s with
  | zero =>
    refine ⟨hinv, ?_⟩
    show s.heap = []
    have hl : s.out.length = n := Nat.le_antisymm hinv.run.length_le (by simpa using hfuel)
    cases hh : s.heap with
    | nil => rfl
    | cons y ys =>
      have hy : y ∈ s.heap := by rw [hh]; simp
      have hr := (hinv.hiff y).1 hy
      exact absurd (hinv.run.complete hl y hr.1) hr.2.1
  | succ f ih =>
    simp only [loop]
    cases hs : step preds s with
    | none =>
      refine ⟨hinv, ?_⟩
      simp only [step] at hs
      split at hs
      · rename_i hm; exact maxOf_none hm
      · simp at hs
    | some s' =>
      obtain ⟨hinv', hlen⟩ := inv_step hp hinv hs
      exact ih hinv' (by omega)

/-- **refinement**: the popped list of the model loop is a history of "pop the largest ready
    position", and the loop ends only when nothing is ready. -/
theorem kahn_inv {n : Nat} {preds : Nat → List Nat} (hp : ∀ c, c < n → ∀ p ∈ preds c, p < n) :
    Inv n preds (kahnState n preds) ∧ (kahnState n preds).heap = [] := by
  have := inv_loop hp n (inv_init n preds) (by simp)
  simpa [kahnState] using this

theorem kahn_run {n : Nat} {preds : Nat → List Nat} (hp : ∀ c, c < n → ∀ p ∈ preds c, p < n) :
    Run n preds (kahn n preds) := (kahn_inv hp).1.run

theorem kahn_stuck {n : Nat} {preds : Nat → List Nat} (hp : ∀ c, c < n → ∀ p ∈ preds c, p < n) :
    ∀ y, ¬ Ready n preds (kahn n preds) y := by
  intro y hy
  obtain ⟨hinv, hh⟩ := kahn_inv hp
  have := (hinv.hiff y).2 hy
  rw [hh] at this
  simp at this

/-! ## `Before` -/

theorem Before.idxOf_lt {l : List Nat} {a b : Nat} (h : Before l a b) (hnd : l.Nodup) :
    l.idxOf a < l.idxOf b := by
  obtain ⟨l1, l2, rfl, hb⟩ := h
  rw [List.nodup_append] at hnd
  obtain ⟨_, h2, h3⟩ := hnd
  rw [List.nodup_cons] at h2
  have ha1 : a ∉ l1 := fun hm => h3 a hm a (by simp) rfl
  have hb1 : b ∉ l1 := fun hm => h3 b hm b (by simp [hb]) rfl
  have hba : a ≠ b := fun h => h2.1 (h ▸ hb)
  rw [List.idxOf_append, List.idxOf_append, if_neg ha1, if_neg hb1, List.idxOf_cons_self,
    List.idxOf_cons]
  have : (a == b) = false := by simp [hba]
  simp [this]

theorem before_of_idxOf_lt {l : List Nat} (hnd : l.Nodup) {a b : Nat} (ha : a ∈ l) (hb : b ∈ l)
    (h : l.idxOf a < l.idxOf b) : Before l a b := by
  obtain ⟨l1, l2, rfl⟩ := List.mem_iff_append.1 ha
  refine ⟨l1, l2, rfl, ?_⟩
  have ha1 : a ∉ l1 := fun hm => (List.nodup_append.1 hnd).2.2 a hm a (by simp) rfl
  rw [List.idxOf_append, List.idxOf_append, if_neg ha1, List.idxOf_cons_self] at h
  simp only [List.mem_append, List.mem_cons] at hb
  rcases hb with hb | hb | hb
  · rw [if_pos hb] at h
    have := List.idxOf_lt_length_of_mem hb
    omega
  · subst hb; rw [if_neg ha1, List.idxOf_cons_self] at h; omega
  · exact hb

/-- a relation inside `Before` of a duplicate-free list: its chains go up in position (so it has no cycle) -/
theorem idxOf_lt_of_transGen {R : Nat → Nat → Prop} {l : List Nat} (hnd : l.Nodup)
    (hR : ∀ a b, R a b → Before l a b) {a b : Nat} (h : Relation.TransGen R a b) : l.idxOf a < l.idxOf b := by
  induction h with
  | single hd => exact (hR _ _ hd).idxOf_lt hnd
  | tail _ hd ih => exact Nat.lt_trans ih ((hR _ _ hd).idxOf_lt hnd)

theorem Before.mem_left {α : Type} {l : List α} {a b : α} (h : Before l a b) : a ∈ l := by
  obtain ⟨l1, l2, rfl, _⟩ := h; simp

theorem Before.mem_right {α : Type} {l : List α} {a b : α} (h : Before l a b) : b ∈ l := by
  obtain ⟨l1, l2, rfl, hb⟩ := h; simp [hb]

theorem Before.of_infix {α : Type} {l' l : List α} (hi : l' <:+: l) {a b : α}
    (h : Before l' a b) : Before l a b := by
  obtain ⟨s, t, rfl⟩ := hi
  obtain ⟨l1, l2, rfl, hb⟩ := h
  exact ⟨s ++ l1, l2 ++ t, by simp, by simp [hb]⟩

/-- in a duplicate-free list, whatever comes after an element of the tail `l2` is in `l2` -/
theorem mem_tail_of_before {l1 l2 : List Nat} {a x y : Nat} (hnd : (l1 ++ a :: l2).Nodup)
    (hb : Before (l1 ++ a :: l2) x y) (hx : x ∈ l2) : y ∈ l2 := by
  have hlt := hb.idxOf_lt hnd
  have hy := hb.mem_right
  have hx1 : x ∉ l1 := fun hm => (List.nodup_append.1 hnd).2.2 x hm x (by simp [hx]) rfl
  have hxa : a ≠ x := by
    intro h; subst h
    exact (List.nodup_cons.1 (List.nodup_append.1 hnd).2.1).1 hx
  have hbx : (a == x) = false := by simp [hxa]
  rw [List.idxOf_append, if_neg hx1, List.idxOf_cons, hbx] at hlt
  simp only [List.mem_append, List.mem_cons] at hy
  rcases hy with hy | hy | hy
  · rw [List.idxOf_append, if_pos hy] at hlt
    have := List.idxOf_lt_length_of_mem hy
    simp at hlt; omega
  · subst hy
    have ha1 : y ∉ l1 := fun hm => (List.nodup_append.1 hnd).2.2 y hm y (by simp) rfl
    rw [List.idxOf_append, if_neg ha1, List.idxOf_cons_self] at hlt
    simp at hlt; omega
  · exact hy

theorem pairwise_of_before {α : Type} {R : α → α → Prop} :
    ∀ l : List α, (∀ a b, Before l a b → R a b) → l.Pairwise R := by
  intro l
  induction l with
  | nil => simp
  | cons x t ih =>
    intro h
    rw [List.pairwise_cons]
    refine ⟨fun y hy => h x y ⟨[], t, rfl, hy⟩, ih ?_⟩
    rintro a b ⟨l1, l2, rfl, hb⟩
    exact h a b ⟨x :: l1, l2, rfl, hb⟩

theorem before_map_split {α β : Type} {f : α → β} {l : List α} {x y : β}
    (h : Before (l.map f) x y) :
    ∃ L1 n L2 m, l = L1 ++ n :: L2 ∧ f n = x ∧ m ∈ L2 ∧ f m = y := by
  obtain ⟨l1, l2, heq, hy⟩ := h
  obtain ⟨L1, R, rfl, rfl, hR⟩ := List.map_eq_append_iff.1 heq
  obtain ⟨n, L2, rfl, rfl, rfl⟩ := List.map_eq_cons_iff.1 hR
  obtain ⟨m, hm, rfl⟩ := List.mem_map.1 hy
  exact ⟨L1, n, L2, m, rfl, rfl, hm, rfl⟩

theorem Before.asymm_of_nodup {l : List Nat} (hnd : l.Nodup) {a b : Nat} (h1 : Before l a b)
    (h2 : Before l b a) : False := by
  have := h1.idxOf_lt hnd
  have := h2.idxOf_lt hnd
  omega

/-! ## Part 2: consequences of `Run` + "nothing is ready" -/

/-- the dependency relation of the sort: `p` is a predecessor of `c` (both positions) -/
def Edge (n : Nat) (preds : Nat → List Nat) (p c : Nat) : Prop := p < n ∧ c < n ∧ p ∈ preds c

section Spec
variable {n : Nat} {preds : Nat → List Nat}

theorem Run.suffix {l1 l2 : List Nat} (h : Run n preds (l1 ++ l2)) : Run n preds l2 := by
  induction l1 with
  | nil => simpa using h
  | cons a l1 ih =>
    cases h with
    | cons h' _ _ => exact ih h'

/-- what held when `x` was popped -/
theorem Run.at {l1 l2 : List Nat} {x : Nat} (h : Run n preds (l1 ++ x :: l2)) :
    Ready n preds l2 x ∧ ∀ y, Ready n preds l2 y → y ≤ x := by
  have := h.suffix
  cases this with
  | cons _ h1 h2 => exact ⟨h1, h2⟩

/-- in a pop history every node comes (most recent first) before its children: read as the final
    order, predecessors come before the nodes that depend on them -/
theorem Run.respects {P : List Nat} (h : Run n preds P) {p c : Nat} (hp : p ∈ P)
    (he : Edge n preds p c) : Before P p c := by
  obtain ⟨l1, l2, rfl⟩ := List.mem_iff_append.1 hp
  exact ⟨l1, l2, rfl, (h.at).1.2.2 c he.2.1 he.2.2⟩

theorem Run.transGen_before {P : List Nat} (h : Run n preds P) (hc : ∀ y, y < n → y ∈ P)
    {x y : Nat} (hxy : Relation.TransGen (Edge n preds) x y) : P.idxOf x < P.idxOf y :=
  idxOf_lt_of_transGen h.nodup (fun _ _ he => h.respects (hc _ he.1) he) hxy

theorem transGen_edge_lt {x y : Nat} (h : Relation.TransGen (Edge n preds) x y) : x < n ∧ y < n := by
  induction h with
  | single he => exact ⟨he.1, he.2.1⟩
  | tail _ he ih => exact ⟨ih.1, he.2.1⟩

theorem exists_maximal {R : Nat → Nat → Prop} (htrans : ∀ a b c, R a b → R b c → R a c)
    (hirr : ∀ a, ¬ R a a) : ∀ l : List Nat, l ≠ [] → ∃ m ∈ l, ∀ y ∈ l, ¬ R m y := by
  intro l
  induction l with
  | nil => intro h; exact absurd rfl h
  | cons a l ih =>
    intro _
    by_cases hl : l = []
    · subst hl; exact ⟨a, by simp, by simpa using hirr a⟩
    · obtain ⟨m, hm, hmax⟩ := ih hl
      by_cases hma : R m a
      · refine ⟨a, by simp, ?_⟩
        intro y hy
        rcases List.mem_cons.1 hy with h1 | h1
        · subst h1; exact hirr _
        · intro hay; exact hmax y h1 (htrans _ _ _ hma hay)
      · refine ⟨m, List.mem_cons_of_mem _ hm, ?_⟩
        intro y hy
        rcases List.mem_cons.1 hy with h1 | h1
        · subst h1; exact hma
        · exact hmax y h1

/-- a stuck history that misses a position exhibits a dependency cycle -/
theorem stuck_cycle {P : List Nat} (hstuck : ∀ y, ¬ Ready n preds P y)
    {z : Nat} (hz : z < n) (hzP : z ∉ P) : ∃ x, Relation.TransGen (Edge n preds) x x := by
  by_contra hno
  have hirr : ∀ a, ¬ Relation.TransGen (Edge n preds) a a := fun a h => hno ⟨a, h⟩
  let Z := (List.range n).filter (fun c => decide (c ∉ P))
  have hZ : Z ≠ [] := by
    intro h
    have : z ∈ Z := by simp [Z, hz, hzP]
    rw [h] at this; simp at this
  obtain ⟨m, hm, hmax⟩ := exists_maximal (fun _ _ _ => Relation.TransGen.trans) hirr Z hZ
  have hm' : m < n ∧ m ∉ P := by simpa [Z] using hm
  have hnr := hstuck m
  simp only [Ready, not_and, not_forall] at hnr
  obtain ⟨c, hc, hmc, hcP⟩ := hnr hm'.1 hm'.2
  have hcZ : c ∈ Z := by simp [Z, hc, hcP]
  exact hmax c hcZ (Relation.TransGen.single ⟨hm'.1, hc, hmc⟩)

theorem exists_last_sat (S : Nat → Prop) : ∀ l : List Nat, (∃ x ∈ l, S x) →
    ∃ l1 x l2, l = l1 ++ x :: l2 ∧ S x ∧ ∀ y ∈ l2, ¬ S y := by
  intro l
  induction l with
  | nil => simp
  | cons c t ih =>
    intro hex
    by_cases ht : ∃ x ∈ t, S x
    · obtain ⟨l1, x, l2, rfl, hx, hl⟩ := ih ht
      exact ⟨c :: l1, x, l2, by simp, hx, hl⟩
    · obtain ⟨x, hx, hSx⟩ := hex
      rcases List.mem_cons.1 hx with h1 | h1
      · subst h1
        exact ⟨[], x, t, by simp, hSx, fun y hy hSy => ht ⟨y, hy, hSy⟩⟩
      · exact absurd ⟨x, h1, hSx⟩ ht

/-- **stability, abstractly.**  If `S` is a set of positions larger than `a` that is closed under
    "child of", except for children that `a` has too, then a complete pop history pops all of `S`
    before `a`. -/
theorem Run.stable {P : List Nat} (h : Run n preds P) (hc : ∀ y, y < n → y ∈ P)
    (a : Nat) (S : Nat → Prop) (hS : ∀ x, S x → a < x ∧ x < n)
    (hcl : ∀ x c, S x → c < n → x ∈ preds c → S c ∨ a ∈ preds c)
    {l1 l2 : List Nat} (hP : P = l1 ++ a :: l2) : ∀ b, S b → b ∈ l2 := by
  subst hP
  -- the member `x` of `S` popped last before `a` was ready when `a` was popped (its children are in `S`, hence popped
  -- earlier by the choice of `x`, or children of `a`), and `x > a`: `a` was not the largest ready position
  have hnone : ∀ x ∈ l1, ¬ S x := by
    intro x0 hx0 hSx0
    obtain ⟨l1', x, l1'', rfl, hSx, hlast⟩ := exists_last_sat S l1 ⟨x0, hx0, hSx0⟩
    have hrun : Run n preds (l1' ++ x :: (l1'' ++ a :: l2)) := by simpa using h
    have hx := hrun.at.1
    have ha : Run n preds ((l1' ++ x :: l1'') ++ a :: l2) := by simpa using h
    obtain ⟨hra, hamax⟩ := ha.at
    have hnd := h.nodup
    have hxl2 : x ∉ l2 := by
      intro hm
      have : (l1' ++ x :: (l1'' ++ a :: l2)).Nodup := hrun.nodup
      rw [List.nodup_append, List.nodup_cons] at this
      exact this.2.1.1 (by simp [hm])
    have hready : Ready n preds l2 x := by
      refine ⟨hx.1, hxl2, ?_⟩
      intro c hc hxc
      have hcm := hx.2.2 c hc hxc
      rcases hcl x c hSx hc hxc with hSc | hac
      · simp only [List.mem_append, List.mem_cons] at hcm
        rcases hcm with h1 | h1 | h1
        · exact absurd hSc (hlast c h1)
        · subst h1; exact absurd (hS c hSc).1 (Nat.lt_irrefl _)
        · exact h1
      · exact hra.2.2 c hc hac
    have := hamax x hready
    have := (hS x hSx).1
    omega
  intro b hb
  have hbP := hc b (hS b hb).2
  simp only [List.mem_append, List.mem_cons] at hbP
  rcases hbP with h1 | h1 | h1
  · exact absurd hb (hnone b h1)
  · exact absurd (hS b hb).1 (by omega)
  · exact h1

end Spec

end IrVerif.Sort
