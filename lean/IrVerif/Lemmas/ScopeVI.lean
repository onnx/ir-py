/-
What the value_info list written by the serializer contains, and what the deserializer finds in it.
-/
import IrVerif.Lemmas.ScopeRTPhases
namespace IrVerif.Scope

theorem mem_serInits_vi (V : Nat → ValueS) (td : TData) (inames : List (Option Name)) (e : VInfoP) :
    ∀ (its : List (Name × Nat)), e ∈ (serInits V td inames its).1 ↔
      ∃ kv ∈ its, shouldCreate (V kv.2) = true ∧ (V kv.2).name ∉ inames ∧
        e = ⟨nm V kv.2, (V kv.2).info.emit⟩ := by
  intro its
  induction its with
  | nil => simp [serInits]
  | cons kv its ih =>
    obtain ⟨k, v⟩ := kv
    have key : (serInits V td inames ((k, v) :: its)).1 =
        (if shouldCreate (V v) && !(inames.contains (V v).name) then [⟨nm V v, (V v).info.emit⟩] else []) ++
          (serInits V td inames its).1 := by
      simp only [serInits]
      cases (V v).const <;> simp [nm]
    rw [key, List.mem_append, ih]
    constructor
    · rintro (h | ⟨kv', hkv', h⟩)
      · split at h
        · rename_i hc
          simp only [Bool.and_eq_true, Bool.not_eq_true', List.contains_eq_mem, decide_eq_false_iff_not] at hc
          simp only [List.mem_singleton] at h
          exact ⟨(k, v), by simp, hc.1, hc.2, h⟩
        · simp at h
      · exact ⟨kv', by simp [hkv'], h⟩
    · rintro ⟨kv', hkv', h1, h2, h3⟩
      simp only [List.mem_cons] at hkv'
      rcases hkv' with rfl | hkv'
      · left
        have : (shouldCreate (V v) && !(inames.contains (V v).name)) = true := by
          simp only [Bool.and_eq_true, Bool.not_eq_true', List.contains_eq_mem, decide_eq_false_iff_not]
          exact ⟨h1, h2⟩
        rw [if_pos this, h3]
        simp
      · exact .inr ⟨kv', hkv', h1, h2, h3⟩

theorem mem_outVInfo (V : Nat → ValueS) (gouts : List Nat) (e : VInfoP) :
    ∀ (outs : List Nat), e ∈ outVInfo V gouts outs ↔
      ∃ v ∈ outs, v ∉ gouts ∧ shouldCreate (V v) = true ∧ e = ⟨nm V v, (V v).info.emit⟩ := by
  intro outs
  induction outs with
  | nil => simp [outVInfo]
  | cons v outs ih =>
    simp only [outVInfo]
    split
    · rename_i hc
      simp only [Bool.and_eq_true, Bool.not_eq_true', List.contains_eq_mem, decide_eq_false_iff_not] at hc
      simp only [List.mem_cons, ih]
      constructor
      · rintro (h | ⟨w, hw, h⟩)
        · exact ⟨v, by simp, hc.1, hc.2, by simpa [nm] using h⟩
        · exact ⟨w, by simp [hw], h⟩
      · rintro ⟨w, hw, h1, h2, h3⟩
        rcases hw with rfl | hw
        · exact .inl (by simpa [nm] using h3)
        · exact .inr ⟨w, hw, h1, h2, h3⟩
    · rename_i hc
      rw [ih]
      constructor
      · rintro ⟨w, hw, h⟩
        exact ⟨w, by simp [hw], h⟩
      · rintro ⟨w, hw, h1, h2, h3⟩
        simp only [List.mem_cons] at hw
        rcases hw with rfl | hw
        · refine absurd ?_ hc
          simp only [Bool.and_eq_true, Bool.not_eq_true', List.contains_eq_mem, decide_eq_false_iff_not]
          exact ⟨h1, h2⟩
        · exact ⟨w, hw, h1, h2, h3⟩

theorem mem_serNodes_vi (V : Nat → ValueS) (td : TData) (gouts : List Nat) (e : VInfoP) :
    ∀ (nodes : List NodeT) (nps : List NodeP) (vis : List VInfoP) (ws : Writes),
      serNodes V td gouts nodes = .ok (nps, vis, ws) →
      (e ∈ vis ↔ ∃ n ∈ nodes, e ∈ outVInfo V gouts n.outputs)
  | [], nps, vis, ws, h => by
    simp only [serNodes, Except.ok.injEq, Prod.mk.injEq] at h
    obtain ⟨_, rfl, _⟩ := h
    simp
  | n :: ns, nps, vis, ws, h => by
    obtain ⟨np, vi1, ws1, nps', vis', ws2, h1, h2, _, rfl, _⟩ := serNodes_inv h
    obtain ⟨i, g, a, b, c⟩ := n
    obtain ⟨_, _, _, _, rfl, _⟩ := serNode_inv h1
    rw [List.mem_append, mem_serNodes_vi V td gouts e ns nps' vis' ws2 h2]
    simp [NodeT.outputs]

/-- what a lookup in `{info.name: info for info in value_info}` finds -/
theorem vinfoTable_lookup_some (L : List VInfoP) (x : Name) (i : Info)
    (hall : ∀ e ∈ L, e.name = x → e.info = i) (hex : ∃ e ∈ L, e.name = x) :
    (vinfoTable L).lookup x = some i :=
  ListFacts.lookup_reverse_map_some (fun e : VInfoP => e.name) (fun e => e.info) L x i hall hex

theorem vinfoTable_lookup_none (L : List VInfoP) (x : Name) (h : ∀ e ∈ L, e.name ≠ x) :
    (vinfoTable L).lookup x = none :=
  ListFacts.lookup_reverse_map_none (fun e : VInfoP => e.name) (fun e => e.info) L x h

end IrVerif.Scope
