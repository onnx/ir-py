/-
C14: InlinePass on C05's model of the pass (Model/Inline.lean): the walk, the loop over `model.functions`, the whole run.
-/
import IrVerif.Model.PassFlags3
import IrVerif.Lemmas.PassFlagsDeleting
import IrVerif.Lemmas.InlineSem
import IrVerif.Lemmas.ListFacts
namespace IrVerif.PassFlags
open IrVerif.Sem IrVerif.Passes IrVerif.Inline

/-! ## the order on pass states: `stuck` is sticky, `_inlined_functions` and the counter only grow -/

structure StLe (a b : ISt) : Prop where
  stuck : a.stuck = true → b.stuck = true
  inl : ∀ op, a.inlined.contains op = true → b.inlined.contains op = true
  count : a.count ≤ b.count

theorem StLe.refl (a : ISt) : StLe a a := ⟨id, fun _ h => h, Nat.le_refl _⟩

theorem StLe.trans {a b c : ISt} (h1 : StLe a b) (h2 : StLe b c) : StLe a c :=
  ⟨fun h => h2.stuck (h1.stuck h), fun op h => h2.inl op (h1.inl op h), Nat.le_trans h1.count h2.count⟩

theorem StLe.stuck_false {a b : ISt} (h : StLe a b) (hb : b.stuck = false) : a.stuck = false := by
  cases ha : a.stuck with
  | false => rfl
  | true => rw [h.stuck ha] at hb; exact absurd hb (by decide)

theorem addInlined_count (st : ISt) (op : OpId) (next : Nat) (bad : Bool) :
    (st.addInlined op next bad).count = st.count + 1 := rfl

theorem addInlined_le (st : ISt) (op : OpId) (next : Nat) (bad : Bool) : StLe st (st.addInlined op next bad) := by
  refine ⟨fun h => h, fun o h => ?_, by rw [addInlined_count]; omega⟩
  simp only [ISt.addInlined]
  split
  · exact h
  · simp only [List.contains_eq_mem, List.mem_append, decide_eq_true_eq] at h ⊢
    exact Or.inl h

def DeeperMono (deeper : Deeper) : Prop := ∀ st ns, StLe st (deeper st ns).1

mutual
theorem inlG_le (tbl : List Func) (crit : OpId → Bool) (deeper : Deeper) (hd : DeeperMono deeper) :
    ∀ (g : FGraph) (st : ISt) (σ : Subst), StLe st (inlG tbl crit deeper st σ g).1
  | .mk inputs outputs inits nodes, st, σ => by
    simp only [inlG]
    exact inlNodes_le tbl crit deeper hd nodes st σ outputs
theorem inlNodes_le (tbl : List Func) (crit : OpId → Bool) (deeper : Deeper) (hd : DeeperMono deeper) :
    ∀ (ns : List FNode) (st : ISt) (σ : Subst) (outs : List VId), StLe st (inlNodes tbl crit deeper st σ outs ns).st
  | [], st, σ, outs => by simp only [inlNodes]; exact StLe.refl _
  | .mk op attrs ins nouts bodies :: ns, st, σ, outs => by
    simp only [inlNodes]
    split
    · exact ((addInlined_le _ _ _ _).trans (hd _ _)).trans (inlNodes_le tbl crit deeper hd ns _ _ _)
    · exact (inlBodies_le tbl crit deeper hd bodies st σ).trans (inlNodes_le tbl crit deeper hd ns _ _ _)
theorem inlBodies_le (tbl : List Func) (crit : OpId → Bool) (deeper : Deeper) (hd : DeeperMono deeper) :
    ∀ (bs : List FGraph) (st : ISt) (σ : Subst), StLe st (inlBodies tbl crit deeper st σ bs).1
  | [], st, σ => by simp only [inlBodies]; exact StLe.refl _
  | b :: bs, st, σ => by
    simp only [inlBodies]
    exact (inlG_le tbl crit deeper hd b st σ).trans (inlBodies_le tbl crit deeper hd bs _ σ)
end

theorem inlAt_mono (tbl : List Func) (crit : OpId → Bool) : ∀ d, DeeperMono (inlAt tbl crit d)
  | 0 => fun st ns => by
    simp only [inlAt]
    exact ⟨fun h => by simp [h], fun _ h => h, Nat.le_refl _⟩
  | d + 1 => fun st ns => by
    simp only [inlAt]
    exact inlNodes_le tbl crit _ (inlAt_mono tbl crit d) ns st [] []

theorem opsAllN_mono {p q : OpId → Bool} (h : ∀ op, p op = true → q op = true) :
    ∀ n : FNode, opsAllN p n = true → opsAllN q n = true :=
  Inline.opsAllN_mono h
theorem opsAllBodies_mono {p q : OpId → Bool} (h : ∀ op, p op = true → q op = true) :
    ∀ bs : List FGraph, opsAllBodies p bs = true → opsAllBodies q bs = true :=
  Inline.opsAllBodies_mono h

mutual
theorem opCntG_zero (p : OpId → Bool) : ∀ g : FGraph, opCntG p g = 0 ↔ opsAllG (fun op => !p op) g = true
  | .mk _ _ _ nodes => by simp only [opCntG, opsAllG]; exact opCntNodes_zero p nodes
theorem opCntNodes_zero (p : OpId → Bool) : ∀ ns : List FNode,
    opCntNodes p ns = 0 ↔ opsAllNodes (fun op => !p op) ns = true
  | [] => by simp [opCntNodes, opsAllNodes]
  | n :: ns => by
    simp only [opCntNodes, opsAllNodes, Bool.and_eq_true, Nat.add_eq_zero_iff, opCntN_zero p n, opCntNodes_zero p ns]
theorem opCntN_zero (p : OpId → Bool) : ∀ n : FNode, opCntN p n = 0 ↔ opsAllN (fun op => !p op) n = true
  | .mk op _ _ _ bodies => by
    simp only [opCntN, opsAllN, Bool.and_eq_true, Nat.add_eq_zero_iff, opCntBodies_zero p bodies]
    cases p op <;> simp
theorem opCntBodies_zero (p : OpId → Bool) : ∀ bs : List FGraph,
    opCntBodies p bs = 0 ↔ opsAllBodies (fun op => !p op) bs = true
  | [] => by simp [opCntBodies, opsAllBodies]
  | b :: bs => by
    simp only [opCntBodies, opsAllBodies, Bool.and_eq_true, Nat.add_eq_zero_iff, opCntG_zero p b, opCntBodies_zero p bs]
end

/-! ## a run that is not stuck leaves no accepted call -/

def DeeperClean (P : OpId → Bool) (deeper : Deeper) : Prop :=
  ∀ st ns, (deeper st ns).1.stuck = false → opsAllNodes P (deeper st ns).2.1 = true

theorem clean_of_none {tbl : List Func} {crit : OpId → Bool} {op : OpId}
    (h : (if crit op then findFunc tbl op else none) = none) : inlClean tbl crit op = true := by
  cases hc : crit op with
  | false => simp [inlClean, hc]
  | true => simp only [hc, if_true] at h; simp [inlClean, h]

theorem none_of_clean {tbl : List Func} {crit : OpId → Bool} {op : OpId}
    (h : inlClean tbl crit op = true) : (if crit op then findFunc tbl op else none) = none := by
  cases hc : crit op with
  | false => simp
  | true =>
    simp only [inlClean, hc, Bool.true_and, Bool.not_eq_true', Option.isSome_eq_false_iff, Option.isNone_iff_eq_none] at h
    simp [h]

mutual
theorem inlG_clean (tbl : List Func) (crit : OpId → Bool) (deeper : Deeper) (hd : DeeperMono deeper)
    (hc : DeeperClean (inlClean tbl crit) deeper) :
    ∀ (g : FGraph) (st : ISt) (σ : Subst), (inlG tbl crit deeper st σ g).1.stuck = false →
      opsAllG (inlClean tbl crit) (inlG tbl crit deeper st σ g).2 = true
  | .mk inputs outputs inits nodes, st, σ, h => by
    simp only [inlG] at h ⊢
    simp only [opsAllG]
    exact inlNodes_clean tbl crit deeper hd hc nodes st σ outputs h
theorem inlNodes_clean (tbl : List Func) (crit : OpId → Bool) (deeper : Deeper) (hd : DeeperMono deeper)
    (hc : DeeperClean (inlClean tbl crit) deeper) :
    ∀ (ns : List FNode) (st : ISt) (σ : Subst) (outs : List VId),
      (inlNodes tbl crit deeper st σ outs ns).st.stuck = false →
      opsAllNodes (inlClean tbl crit) (inlNodes tbl crit deeper st σ outs ns).nodes = true
  | [], st, σ, outs, _ => by simp only [inlNodes, opsAllNodes]
  | .mk op attrs ins nouts bodies :: ns, st, σ, outs, h => by
    simp only [inlNodes] at h ⊢
    split at h
    · next f hf =>
      simp only []
      rw [opsAllNodes_append, Bool.and_eq_true]
      refine ⟨hc _ _ ((inlNodes_le tbl crit deeper hd ns _ _ _).stuck_false h), ?_⟩
      exact inlNodes_clean tbl crit deeper hd hc ns _ _ _ h
    · next hf =>
      simp only []
      simp only [opsAllNodes, opsAllN, Bool.and_eq_true]
      refine ⟨⟨clean_of_none hf, ?_⟩, inlNodes_clean tbl crit deeper hd hc ns _ _ _ h⟩
      exact inlBodies_clean tbl crit deeper hd hc bodies st σ
        ((inlNodes_le tbl crit deeper hd ns _ _ _).stuck_false h)
theorem inlBodies_clean (tbl : List Func) (crit : OpId → Bool) (deeper : Deeper) (hd : DeeperMono deeper)
    (hc : DeeperClean (inlClean tbl crit) deeper) :
    ∀ (bs : List FGraph) (st : ISt) (σ : Subst), (inlBodies tbl crit deeper st σ bs).1.stuck = false →
      opsAllBodies (inlClean tbl crit) (inlBodies tbl crit deeper st σ bs).2 = true
  | [], st, σ, _ => by simp only [inlBodies, opsAllBodies]
  | b :: bs, st, σ, h => by
    simp only [inlBodies] at h ⊢
    simp only [opsAllBodies, Bool.and_eq_true]
    exact ⟨inlG_clean tbl crit deeper hd hc b st σ ((inlBodies_le tbl crit deeper hd bs _ σ).stuck_false h),
      inlBodies_clean tbl crit deeper hd hc bs _ σ h⟩
end

theorem inlAt_clean (tbl : List Func) (crit : OpId → Bool) : ∀ d, DeeperClean (inlClean tbl crit) (inlAt tbl crit d)
  | 0 => fun st ns h => by
    simp only [inlAt, Bool.or_eq_false_iff, Bool.not_eq_false'] at h ⊢
    exact h.2
  | d + 1 => fun st ns h => by
    simp only [inlAt] at h ⊢
    exact inlNodes_clean tbl crit _ (inlAt_mono tbl crit d) (inlAt_clean tbl crit d) ns st [] [] h

/-! ## a node list without accepted calls is returned as it is -/

mutual
theorem inlG_id (tbl : List Func) (crit : OpId → Bool) (deeper : Deeper) :
    ∀ (g : FGraph) (st : ISt), opsAllG (inlClean tbl crit) g = true → inlG tbl crit deeper st [] g = (st, g)
  | .mk inputs outputs inits nodes, st, h => by
    simp only [opsAllG] at h
    simp only [inlG, inlNodes_id tbl crit deeper nodes st outputs h]
theorem inlNodes_id (tbl : List Func) (crit : OpId → Bool) (deeper : Deeper) :
    ∀ (ns : List FNode) (st : ISt) (outs : List VId), opsAllNodes (inlClean tbl crit) ns = true →
      inlNodes tbl crit deeper st [] outs ns = ⟨st, ns, outs, []⟩
  | [], st, outs, _ => by simp only [inlNodes]
  | .mk op attrs ins nouts bodies :: ns, st, outs, h => by
    simp only [opsAllNodes, opsAllN, Bool.and_eq_true] at h
    simp only [inlNodes, none_of_clean h.1.1, substIns_nil', inlBodies_id tbl crit deeper bodies st h.1.2,
      inlNodes_id tbl crit deeper ns st outs h.2]
theorem inlBodies_id (tbl : List Func) (crit : OpId → Bool) (deeper : Deeper) :
    ∀ (bs : List FGraph) (st : ISt), opsAllBodies (inlClean tbl crit) bs = true →
      inlBodies tbl crit deeper st [] bs = (st, bs)
  | [], st, _ => by simp only [inlBodies]
  | b :: bs, st, h => by
    simp only [opsAllBodies, Bool.and_eq_true] at h
    simp only [inlBodies, inlG_id tbl crit deeper b st h.1, inlBodies_id tbl crit deeper bs st h.2]
end

/-! ## a run that does not count met no accepted call -/

mutual
theorem inlG_cnt (tbl : List Func) (crit : OpId → Bool) (deeper : Deeper) (hd : DeeperMono deeper) :
    ∀ (g : FGraph) (st : ISt) (σ : Subst), (inlG tbl crit deeper st σ g).1.count = st.count →
      opsAllG (inlClean tbl crit) g = true
  | .mk inputs outputs inits nodes, st, σ, h => by
    simp only [inlG] at h
    simp only [opsAllG]
    exact inlNodes_cnt tbl crit deeper hd nodes st σ outputs h
theorem inlNodes_cnt (tbl : List Func) (crit : OpId → Bool) (deeper : Deeper) (hd : DeeperMono deeper) :
    ∀ (ns : List FNode) (st : ISt) (σ : Subst) (outs : List VId),
      (inlNodes tbl crit deeper st σ outs ns).st.count = st.count → opsAllNodes (inlClean tbl crit) ns = true
  | [], _, _, _, _ => rfl
  | .mk op attrs ins nouts bodies :: ns, st, σ, outs, h => by
    simp only [inlNodes] at h
    split at h
    · next f hf =>
      dsimp only at h
      generalize instantiate f attrs (substIns σ ins) st.next = I at h
      have h1 := (hd (st.addInlined op I.next (I.bad || nouts.length != f.outputs.length)) I.nodes).count
      have h2 := le_of_le_of_eq (inlNodes_le tbl crit deeper hd ns _ _ _).count h
      rw [addInlined_count] at h1
      omega
    · next hf =>
      dsimp only at h
      have h1 := (inlBodies_le tbl crit deeper hd bodies st σ).count
      have h2 := (inlNodes_le tbl crit deeper hd ns (inlBodies tbl crit deeper st σ bodies).1 σ outs).count
      simp only [opsAllNodes, opsAllN, Bool.and_eq_true]
      exact ⟨⟨clean_of_none hf, inlBodies_cnt tbl crit deeper hd bodies st σ (by omega)⟩,
        inlNodes_cnt tbl crit deeper hd ns (inlBodies tbl crit deeper st σ bodies).1 σ outs (by omega)⟩
theorem inlBodies_cnt (tbl : List Func) (crit : OpId → Bool) (deeper : Deeper) (hd : DeeperMono deeper) :
    ∀ (bs : List FGraph) (st : ISt) (σ : Subst), (inlBodies tbl crit deeper st σ bs).1.count = st.count →
      opsAllBodies (inlClean tbl crit) bs = true
  | [], _, _, _ => rfl
  | b :: bs, st, σ, h => by
    simp only [inlBodies] at h
    have h1 := (inlG_le tbl crit deeper hd b st σ).count
    have h2 := (inlBodies_le tbl crit deeper hd bs (inlG tbl crit deeper st σ b).1 σ).count
    simp only [opsAllBodies, Bool.and_eq_true]
    exact ⟨inlG_cnt tbl crit deeper hd b st σ (by omega), inlBodies_cnt tbl crit deeper hd bs (inlG tbl crit deeper st σ b).1 σ (by omega)⟩
end

theorem findFunc_isSome (tbl : List Func) (op : OpId) :
    (findFunc tbl op).isSome = true ↔ op ∈ tbl.map (·.id) := by
  simp only [findFunc, List.find?_isSome, List.mem_map, beq_iff_eq]

theorem inlClean_congr {tbl tbl' : List Func} (crit : OpId → Bool) (h : tbl.map (·.id) = tbl'.map (·.id)) :
    inlClean tbl crit = inlClean tbl' crit := by
  funext op
  have : (findFunc tbl op).isSome = (findFunc tbl' op).isSome := by
    rw [Bool.eq_iff_iff, findFunc_isSome, findFunc_isSome, h]
  simp only [inlClean, this]

theorem replaceFunc_self (tbl : List Func) (f : Func) (hn : (tbl.map (·.id)).Nodup) (hf : f ∈ tbl) :
    replaceFunc tbl f = tbl := by
  simp only [replaceFunc]
  conv => rhs; rw [← List.map_id tbl]
  apply List.map_congr_left
  intro g hg
  split
  · next h => exact (ListFacts.inj_of_nodup_map hn hg hf (eq_of_beq h)).symm
  · rfl

theorem inlFuncs_le (crit : OpId → Bool) (budget : Nat) : ∀ (ids : List OpId) (st : ISt) (tbl : List Func),
    StLe st (inlFuncs crit budget st tbl ids).1
  | [], st, tbl => by simp only [inlFuncs]; exact StLe.refl _
  | id :: rest, st, tbl => by
    simp only [inlFuncs]
    split
    · exact inlFuncs_le crit budget rest st tbl
    · split
      · exact inlFuncs_le crit budget rest st tbl
      · exact (inlNodes_le tbl crit _ (inlAt_mono tbl crit budget) _ st [] _).trans (inlFuncs_le crit budget rest _ _)


theorem inlFuncs_cons_inl (crit : OpId → Bool) (budget : Nat) (st : ISt) (tbl : List Func) (id : OpId)
    (rest : List OpId) (h : st.inlined.contains id = true) :
    inlFuncs crit budget st tbl (id :: rest) = inlFuncs crit budget st tbl rest := by
  rw [inlFuncs, if_pos h]

theorem inlFuncs_cons_none (crit : OpId → Bool) (budget : Nat) (st : ISt) (tbl : List Func) (id : OpId)
    (rest : List OpId) (h : st.inlined.contains id = false) (hf : findFunc tbl id = none) :
    inlFuncs crit budget st tbl (id :: rest) = inlFuncs crit budget st tbl rest := by
  rw [inlFuncs, if_neg (by rw [h]; decide), hf]

theorem inlFuncs_cons_some (crit : OpId → Bool) (budget : Nat) (st : ISt) (tbl : List Func) (id : OpId)
    (rest : List OpId) (f : Func) (h : st.inlined.contains id = false) (hf : findFunc tbl id = some f) :
    inlFuncs crit budget st tbl (id :: rest) =
      inlFuncs crit budget (inlNodes tbl crit (inlAt tbl crit budget) st [] f.outputs f.nodes).st
        (replaceFunc tbl { f with nodes := (inlNodes tbl crit (inlAt tbl crit budget) st [] f.outputs f.nodes).nodes,
                                  outputs := (inlNodes tbl crit (inlAt tbl crit budget) st [] f.outputs f.nodes).outs })
        rest := by
  rw [inlFuncs, if_neg (by rw [h]; decide), hf]

/-- every function whose turn has come is inlined (and will be deleted) or free of accepted calls.  The test `P` is a
    parameter equal to `inlClean tbl crit` so that it stays put while `replaceFunc` rewrites `tbl` (same identifiers). -/
theorem inlFuncs_clean (crit : OpId → Bool) (budget : Nat) (P : OpId → Bool) :
    ∀ (ids : List OpId) (st : ISt) (tbl : List Func), inlClean tbl crit = P →
      (∀ g ∈ tbl, g.id ∉ ids → opsAllNodes P g.nodes = true ∨ st.inlined.contains g.id = true) →
      (inlFuncs crit budget st tbl ids).1.stuck = false →
      ∀ f ∈ (inlFuncs crit budget st tbl ids).2,
        opsAllNodes P f.nodes = true ∨ (inlFuncs crit budget st tbl ids).1.inlined.contains f.id = true
  | [], st, tbl, _, hpre, _ => by
    simp only [inlFuncs]
    exact fun f hf => hpre f hf (by simp)
  | id :: rest, st, tbl, hP, hpre, hs => by
    cases hin : st.inlined.contains id with
    | true =>
      rw [inlFuncs_cons_inl crit budget st tbl id rest hin] at hs ⊢
      refine inlFuncs_clean crit budget P rest st tbl hP (fun g hg hr => ?_) hs
      by_cases hgi : g.id = id
      · exact Or.inr (hgi ▸ hin)
      · exact hpre g hg (by simp only [List.mem_cons, not_or]; exact ⟨hgi, hr⟩)
    | false =>
      cases hfind : findFunc tbl id with
      | none =>
        rw [inlFuncs_cons_none crit budget st tbl id rest hin hfind] at hs ⊢
        refine inlFuncs_clean crit budget P rest st tbl hP (fun g hg hr => ?_) hs
        have hgi : g.id ≠ id := by
          intro e
          have := List.find?_eq_none.1 hfind g hg
          simp [e] at this
        exact hpre g hg (by simp only [List.mem_cons, not_or]; exact ⟨hgi, hr⟩)
      | some f =>
        rw [inlFuncs_cons_some crit budget st tbl id rest f hin hfind] at hs ⊢
        have hfid : f.id = id := by
          have := List.find?_some (p := fun f : Func => f.id == id) hfind
          exact eq_of_beq this
        have hcl := inlNodes_clean tbl crit _ (inlAt_mono tbl crit budget) (inlAt_clean tbl crit budget)
          f.nodes st [] f.outputs ((inlFuncs_le crit budget rest _ _).stuck_false hs)
        rw [hP] at hcl
        have hmono := inlNodes_le tbl crit _ (inlAt_mono tbl crit budget) f.nodes st [] f.outputs
        refine inlFuncs_clean crit budget P rest _ _ ?_ (fun g' hg' hr => ?_) hs
        · rw [← hP]; exact (inlClean_congr crit (replaceFunc_ids tbl _))
        · simp only [replaceFunc, List.mem_map] at hg'
          obtain ⟨g, hg, rfl⟩ := hg'
          split
          · exact Or.inl hcl
          · next hne =>
            have hgi : g.id ≠ id := by
              intro e
              apply hne
              simp [e, hfid]
            have hr' : g.id ∉ rest := by
              intro hh
              apply hr
              simp only [hne, Bool.false_eq_true, if_false]
              exact hh
            rcases hpre g hg (by simp only [List.mem_cons, not_or]; exact ⟨hgi, hr'⟩) with h | h
            · exact Or.inl h
            · exact Or.inr (hmono.inl _ h)

theorem contains_nil_false (op : OpId) : ([] : List OpId).contains op = false := rfl

theorem inlFuncs_id (crit : OpId → Bool) (budget : Nat) : ∀ (ids : List OpId) (st : ISt) (tbl : List Func),
    st.inlined = [] → (tbl.map (·.id)).Nodup →
    (∀ f ∈ tbl, opsAllNodes (inlClean tbl crit) f.nodes = true) → inlFuncs crit budget st tbl ids = (st, tbl)
  | [], st, tbl, _, _, _ => by simp only [inlFuncs]
  | id :: rest, st, tbl, hi, hn, hc => by
    have hin : st.inlined.contains id = false := by rw [hi]; rfl
    cases hfind : findFunc tbl id with
    | none =>
      rw [inlFuncs_cons_none crit budget st tbl id rest hin hfind]
      exact inlFuncs_id crit budget rest st tbl hi hn hc
    | some f =>
      rw [inlFuncs_cons_some crit budget st tbl id rest f hin hfind]
      have hf : f ∈ tbl := List.mem_of_find?_eq_some hfind
      rw [inlNodes_id tbl crit _ f.nodes st f.outputs (hc f hf)]
      have : ({ f with nodes := f.nodes, outputs := f.outputs } : Func) = f := rfl
      simp only [replaceFunc_self tbl f hn hf]
      exact inlFuncs_id crit budget rest st tbl hi hn hc

theorem inlFuncs_cnt (crit : OpId → Bool) (budget : Nat) : ∀ (ids : List OpId) (st : ISt) (tbl : List Func),
    st.inlined = [] → (tbl.map (·.id)).Nodup →
    (inlFuncs crit budget st tbl ids).1.count = st.count → inlFuncs crit budget st tbl ids = (st, tbl)
  | [], st, tbl, _, _, _ => by simp only [inlFuncs]
  | id :: rest, st, tbl, hi, hn, h => by
    have hin : st.inlined.contains id = false := by rw [hi]; rfl
    cases hfind : findFunc tbl id with
    | none =>
      rw [inlFuncs_cons_none crit budget st tbl id rest hin hfind] at h ⊢
      exact inlFuncs_cnt crit budget rest st tbl hi hn h
    | some f =>
      rw [inlFuncs_cons_some crit budget st tbl id rest f hin hfind] at h ⊢
      have hf : f ∈ tbl := List.mem_of_find?_eq_some hfind
      have h1 := (inlNodes_le tbl crit _ (inlAt_mono tbl crit budget) f.nodes st [] f.outputs).count
      have h2 := le_of_le_of_eq (inlFuncs_le crit budget rest _ _).count h
      have hcl := inlNodes_cnt tbl crit _ (inlAt_mono tbl crit budget) f.nodes st [] f.outputs (by omega)
      rw [inlNodes_id tbl crit _ f.nodes st f.outputs hcl] at h ⊢
      have : ({ f with nodes := f.nodes, outputs := f.outputs } : Func) = f := rfl
      simp only [replaceFunc_self tbl f hn hf] at h ⊢
      exact inlFuncs_cnt crit budget rest st tbl hi hn h

/-- the state `InlinePass.call` starts in -/
abbrev initISt (m : FModel) : ISt := ⟨freshF m, [], 0, false, false⟩

def inlineMainStage (crit : OpId → Bool) (m : FModel) : ISt × FGraph :=
  inlG m.funcs crit (inlAt m.funcs crit m.funcs.length) (initISt m) [] m.graph
def inlineFuncStage (crit : OpId → Bool) (m : FModel) : ISt × List Func :=
  inlFuncs crit m.funcs.length (inlineMainStage crit m).1 m.funcs (m.funcs.map (·.id))

theorem inlineRun_eq (crit : OpId → Bool) (m : FModel) : inlineRun crit m =
    ⟨{ graph := (inlineMainStage crit m).2,
       funcs := (inlineFuncStage crit m).2.filter (fun f => !(inlineFuncStage crit m).1.inlined.contains f.id),
       domains := m.domains }, (inlineFuncStage crit m).1, (inlineFuncStage crit m).2⟩ := rfl

/-- a run that is not stuck leaves no accepted call: not in the main graph, not in a remaining function -/
theorem inlineRun_clean (crit : OpId → Bool) (m : FModel) (h : (inlineRun crit m).st.stuck = false) :
    opsAllG (inlClean m.funcs crit) (inlineRun crit m).model.graph = true ∧
    ∀ f ∈ (inlineRun crit m).model.funcs, opsAllNodes (inlClean m.funcs crit) f.nodes = true := by
  rw [inlineRun_eq] at h ⊢
  simp only at h ⊢
  have h1 : (inlineMainStage crit m).1.stuck = false := (inlFuncs_le crit _ _ _ _).stuck_false h
  refine ⟨inlG_clean m.funcs crit _ (inlAt_mono _ _ _) (inlAt_clean _ _ _) m.graph _ [] h1, fun f hf => ?_⟩
  simp only [List.mem_filter, Bool.not_eq_true'] at hf
  simp only [inlineFuncStage] at h hf
  rcases inlFuncs_clean crit m.funcs.length (inlClean m.funcs crit) (m.funcs.map (fun f : Func => f.id)) (inlineMainStage crit m).1 m.funcs rfl
    (fun g hg hn => absurd (List.mem_map_of_mem hg) hn) h f hf.1 with hc | hc
  · exact hc
  · have := hf.2
    rw [hc] at this
    exact absurd this (by decide)

theorem inlineRun_ids_sub (crit : OpId → Bool) (m : FModel) :
    ∀ op, op ∈ (inlineRun crit m).model.funcs.map (·.id) → op ∈ m.funcs.map (·.id) := by
  intro op hop
  rw [← Inline.inlineRun_ids crit m]
  exact (List.filter_sublist.map _).subset hop

theorem inlineRun_ids_nodup (crit : OpId → Bool) (m : FModel) (hn : (m.funcs.map (·.id)).Nodup) :
    ((inlineRun crit m).model.funcs.map (·.id)).Nodup := by
  rw [← Inline.inlineRun_ids crit m] at hn
  exact List.Pairwise.sublist (List.filter_sublist.map _) hn

theorem inlineRun_of_stages (crit : OpId → Bool) (m : FModel)
    (e1 : inlineMainStage crit m = ((initISt m), m.graph))
    (e2 : inlineFuncStage crit m = ((initISt m), m.funcs)) :
    (inlineRun crit m).model = m ∧ (inlineRun crit m).st.count = 0 ∧ (inlineRun crit m).st.stuck = false := by
  rw [inlineRun_eq]
  simp only [e1, e2, contains_nil_false, Bool.not_false, and_self, and_true]
  have : List.filter (fun _ => true) m.funcs = m.funcs := List.filter_eq_self.2 (fun _ _ => rfl)
  rw [this]

theorem inlineRun_id (crit : OpId → Bool) (m : FModel) (hn : (m.funcs.map (·.id)).Nodup)
    (hg : opsAllG (inlClean m.funcs crit) m.graph = true)
    (hf : ∀ f ∈ m.funcs, opsAllNodes (inlClean m.funcs crit) f.nodes = true) :
    (inlineRun crit m).model = m ∧ (inlineRun crit m).st.count = 0 ∧ (inlineRun crit m).st.stuck = false := by
  have e1 : inlineMainStage crit m = ((initISt m), m.graph) := inlG_id m.funcs crit _ m.graph _ hg
  refine inlineRun_of_stages crit m e1 ?_
  simp only [inlineFuncStage, e1]
  exact inlFuncs_id crit _ _ _ m.funcs rfl hn hf

theorem inlineRun_cnt0 (crit : OpId → Bool) (m : FModel) (hn : (m.funcs.map (·.id)).Nodup)
    (h : (inlineRun crit m).st.count = 0) : (inlineRun crit m).model = m := by
  rw [inlineRun_eq] at h ⊢
  simp only at h
  have h1 := (inlG_le m.funcs crit _ (inlAt_mono m.funcs crit m.funcs.length) m.graph
    (initISt m) []).count
  have h2 := (inlFuncs_le crit m.funcs.length (m.funcs.map (·.id)) (inlineMainStage crit m).1 m.funcs).count
  have hc : (inlineMainStage crit m).1.count = 0 := by
    simp only [inlineMainStage, inlineFuncStage] at h h2 ⊢
    omega
  have hg := inlG_cnt m.funcs crit _ (inlAt_mono m.funcs crit m.funcs.length) m.graph
    (initISt m) [] hc
  have e1 : inlineMainStage crit m = ((initISt m), m.graph) := inlG_id m.funcs crit _ m.graph _ hg
  have e2 : inlineFuncStage crit m = ((initISt m), m.funcs) := by
    simp only [inlineFuncStage, e1] at h ⊢
    exact inlFuncs_cnt crit _ _ _ m.funcs rfl hn h
  exact (inlineRun_of_stages crit m e1 e2).1

end IrVerif.PassFlags

namespace IrVerif.PassInfra
open IrVerif.Sem IrVerif.Passes IrVerif.Inline IrVerif.PassFlags

/-- the measure is 0 exactly when no accepted call is left anywhere -/
theorem inlCalls_zero_iff (crit : OpId → Bool) (m : FModel) :
    inlCalls crit m = 0 ↔ (opsAllG (inlClean m.funcs crit) m.graph = true ∧
      ∀ f ∈ m.funcs, opsAllNodes (inlClean m.funcs crit) f.nodes = true) := by
  simp only [inlCalls, Nat.add_eq_zero_iff]
  constructor
  · rintro ⟨h1, h2⟩
    exact ⟨(opCntG_zero _ _).1 h1, fun f hf => (opCntNodes_zero _ _).1 ((ListFacts.sum_map_eq_zero_iff _ _).1 h2 f hf)⟩
  · rintro ⟨h1, h2⟩
    exact ⟨(opCntG_zero _ _).2 h1, (ListFacts.sum_map_eq_zero_iff _ _).2 (fun f hf => (opCntNodes_zero _ _).2 (h2 f hf))⟩

theorem inlineModel_of_run {crit : OpId → Bool} {m : FModel} (e : (inlineRun crit m).model = m) : inlineModel crit m = m := by
  unfold inlineModel
  split
  · exact e
  · rfl

end IrVerif.PassInfra
