/-
The walker's verdict decides the outcome of `Model.clone` (`modelVerdict`, Model/Clone2.lean): the
main graph and every function are cloned one after the other, each on the heap the previous clones
left.  Those heaps extend the source heap (cloning with `allow_outer_scope_values=False` changes no
pre-existing cell), and the walker's verdict is stable under heap extension (Lemmas/CloneLocal.lean).
-/
import IrVerif.Lemmas.CloneLocal
import IrVerif.Lemmas.CloneTotal
namespace IrVerif.Clone
namespace Total
open Local

theorem prefix_of_old {w w' : World}
    (hold : ∀ (i : Nat) (c : Cell), w[i]? = some c → w'[i]? = some c) : ∃ ext, w' = w ++ ext :=
  ListFacts.prefix_of_getElem? fun i hi =>
    (hold i _ (List.getElem?_eq_getElem hi)).trans (List.getElem?_eq_getElem hi).symm

/-- a clone made with `allow_outer_scope_values=False` only appends to the heap -/
theorem run_prefix {w : World} {m : M Nat} (hm : ∀ s, Inv w false s → GoodAt w false m s (NewId w))
    {r : Except Err Nat} {w' : World} (h : run m w = (r, w')) : ∃ ext, w' = w ++ ext := by
  obtain ⟨hI, _, _⟩ := hm _ (Inv.init w false)
  unfold run at h
  rcases hms : m { w := w } with ⟨r1, s1⟩
  rw [hms] at hI h
  simp only [Prod.mk.injEq] at h
  obtain ⟨rfl, rfl⟩ := h
  exact prefix_of_old (hI.oldEq rfl)

theorem withFreshMap_run {α : Type} (m : M α) (s : St) :
    withFreshMap m s = ((run (withFreshMap m) s.w).1, { s with w := (run (withFreshMap m) s.w).2 }) := by
  unfold run withFreshMap
  have e0 : ({ w := s.w, vm := [], pend := [], created := [] } : St) = { s with vm := [], pend := [], created := [] } := rfl
  simp only []

theorem Sim.voidRes {α γ : Type} {m : M α} {s : St} {x : WRes γ} {Q : α → St → Prop}
    (h : Sim m s x (fun a s' _ => Q a s')) : Sim m s (x.bind fun _ => WRes.ok ()) (fun a s' _ => Q a s') := by
  cases x with
  | ok c => exact h
  | err e => exact h
  | irregular why => trivial

/-- an entry point with a fresh cloner, run inside `Model.clone`, against its verdict on the source heap -/
theorem sim_fresh {w : World} {m : M Nat} {γ : Type} {v : World → WRes γ}
    (hm : ∀ w1 s, Inv w1 false s → GoodAt w1 false (withFreshMap m) s (NewId w1))
    (hverdict : ∀ w1, match v w1 with
      | .ok _ => ∃ a w', run (withFreshMap m) w1 = (.ok a, w')
      | .err e => (run (withFreshMap m) w1).1 = .error e
      | .irregular _ => True)
    (hloc : ∀ ext, LocP (v w) (v (w ++ ext)) (fun _ => True))
    {s : St} {ext : World} (hs : s.w = w ++ ext) :
    Sim (withFreshMap m) s (v w) (fun _ s' _ => ∃ ext', s'.w = w ++ ext') := by
  have hv := hverdict s.w
  have hl := hloc ext
  rw [← hs] at hl
  cases hvw : v w with
  | irregular why => trivial
  | err e =>
    rw [hvw] at hl
    rw [hl.err_eq] at hv
    show (withFreshMap m s).1 = .error e
    rw [withFreshMap_run]
    exact hv
  | ok c =>
    rw [hvw] at hl
    rw [hl.ok_eq] at hv
    obtain ⟨a, w', hr⟩ := hv
    obtain ⟨ext2, he2⟩ := run_prefix (hm s.w) hr
    refine ⟨a, { s with w := w' }, by rw [withFreshMap_run, hr], ext ++ ext2, ?_⟩
    simp only [he2, hs, List.append_assoc]

theorem sim_graphClone {w : World} (fuel g : Nat) {s : St} {ext : World} (hs : s.w = w ++ ext) :
    Sim (graphClone fuel false g) s (cloneVerdict fuel false w g)
      (fun _ s' _ => ∃ ext', s'.w = w ++ ext') := by
  refine sim_fresh (m := cloneGraph false fuel g) (v := fun w1 => cloneVerdict fuel false w1 g)
    (fun w1 s hI => graphClone_good fuel g hI) (fun w1 => ?_) (fun ext => cloneVerdict_loc ext fuel false g) hs
  have := graphClone_verdict fuel false w1 g
  cases hv : cloneVerdict fuel false w1 g with
  | ok A =>
    rw [hv] at this
    obtain ⟨g', s', _, h2, _⟩ := this
    exact ⟨g', s'.w, h2⟩
  | err e => rw [hv] at this; exact this
  | irregular why => trivial

theorem funcClone_eq (fuel f : Nat) : funcClone fuel f = withFreshMap (do
    let fs ← readFunc f
    let g' ← cloneGraph false fuel fs.graph
    let attrs ← mapM' (fun ka => do
        let as ← readAttr ka.2
        cloneAttr (cloneGraph false fuel) as.name ka.2) fs.attrs
    alloc (.func { domain := fs.domain, name := fs.name, overload := fs.overload, graph := g',
                   attrs := dictOf attrs })) := rfl

theorem sim_funcClone {w : World} (fuel f : Nat) {s : St} {ext : World} (hs : s.w = w ++ ext) :
    Sim (funcClone fuel f) s ((funcVerdict fuel w f).bind fun _ => WRes.ok ())
      (fun _ s' _ => ∃ ext', s'.w = w ++ ext') := by
  rw [funcClone_eq]
  refine Sim.voidRes (sim_fresh (v := fun w1 => funcVerdict fuel w1 f)
    (fun w1 s hI => by rw [← funcClone_eq]; exact funcClone_good fuel f hI) (fun w1 => ?_)
    (fun ext => funcVerdict_loc ext fuel f) hs)
  rw [← funcClone_eq]
  have := funcClone_verdict fuel w1 f
  cases hv : funcVerdict fuel w1 f with
  | ok A => rw [hv] at this; exact this
  | err e => rw [hv] at this; exact this
  | irregular why => trivial

theorem sim_funcs {w : World} (fuel : Nat) : ∀ (fs : List Nat) (s : St) (ext : World), s.w = w ++ ext →
    Sim (mapM' (funcClone fuel) fs) s (wAll (fun f => (funcVerdict fuel w f).bind fun _ => WRes.ok ()) fs)
      (fun _ s' _ => ∃ ext', s'.w = w ++ ext')
  | [], s, ext, hs => Sim.pure ⟨ext, hs⟩
  | f :: fs, s, ext, hs => by
    unfold mapM' wAll
    refine Sim.bind (sim_funcClone fuel f hs) ?_
    rintro f' s1 _ ⟨ext1, hs1⟩
    refine Sim.bindLast (sim_funcs fuel fs s1 ext1 hs1) ?_
    intro rest s2 _ hq
    exact Sim.pure hq

theorem Agree.ofExt {w ext : World} {s : St} (hs : s.w = w ++ ext) : Agree w s :=
  fun _ c0 h => ⟨c0, by rw [hs]; exact get_ext ext h, rfl⟩

theorem sim_readModel {w : World} {s : St} (hT : Agree w s) (i : Nat) :
    Sim (readModel i) s (wModelCell w i) (fun x s' x0 => s' = s ∧ x = x0) := by
  unfold wModelCell wCell
  cases h : w[i]? with
  | none => trivial
  | some c0 =>
    cases c0 with
    | val x => obtain ⟨vs, h1, _⟩ := hT.srcVal h; simp [Sim, WRes.bind, readModel, h1]
    | model x => have := hT.src h (by intro v hv; cases hv); exact ⟨x, s, by simp [readModel, this], rfl, rfl⟩
    | _ => have := hT.src h (by intro v hv; cases hv); simp [Sim, WRes.bind, readModel, this]

theorem sim_copyPropsExt {w : World} (d : Nat) {s : St} (hT : Agree w s) :
    Sim (copyProps d) s (wDict w d) (fun _ _ _ => True) :=
  Sim.bindLast (sim_readDict hT d) fun _ _ _ _ => ⟨_, _, rfl, True.intro⟩

/-- the walker's verdict decides the outcome of `Model.clone` -/
theorem modelClone_verdict (fuel : Nat) (w : World) (m : Nat) :
    match modelVerdict fuel w m with
    | .ok _ => ∃ m' w', run (modelClone fuel m) w = (.ok m', w')
    | .err e => (run (modelClone fuel m) w).1 = .error e
    | .irregular _ => True := by
  have hsim : Sim (modelClone fuel m) { w := w } (modelVerdict fuel w m) (fun _ _ _ => True) := by
    unfold modelClone modelVerdict
    have hs0 : ({ w := w } : St).w = w ++ [] := by simp
    refine Sim.bind (sim_readModel (Agree.ofExt hs0) m) ?_
    rintro ms s1 ms0 ⟨rfl, rfl⟩
    refine Sim.bind (sim_graphClone fuel ms.graph hs0) ?_
    rintro g' s2 _ ⟨ext2, hs2⟩
    refine Sim.bind (sim_funcs fuel ms.funcs s2 ext2 hs2) ?_
    rintro fs s3 _ ⟨ext3, hs3⟩
    refine Sim.bindLast (sim_copyPropsExt ms.props (Agree.ofExt hs3)) ?_
    intro pr s4 _ _
    exact ⟨_, _, rfl, True.intro⟩
  cases hv : modelVerdict fuel w m with
  | ok u =>
    rw [hv] at hsim
    obtain ⟨m', s', h1, _⟩ := hsim
    exact ⟨m', s'.w, by simp only [run, h1]⟩
  | err e =>
    rw [hv] at hsim
    have h1 : (modelClone fuel m { w := w }).1 = .error e := hsim
    simp only [run]
    rcases hc : modelClone fuel m { w := w } with ⟨x, s'⟩
    rw [hc] at h1
    exact h1
  | irregular why => trivial

end Total
end IrVerif.Clone
