/-
Fuel-free runs of the recursive iterator with lazily read attributes (`tStep`, an instance of
StackRun): what each kind of step does to a frame (`t_progress`), hence frame completion; complete
visits of subgraphs, the innermost frames of a stack, whole stacks.
-/
import IrVerif.Lemmas.Traversal
namespace IrVerif.LinkedSet

/-- `TSteps w d st outs st'`: from `st` the generator stack runs (through any number of yields) to
    `st'`, producing `outs`, without finishing and without raising -/
inductive TSteps (w : TWorld) (d : Dir) : List TFrame → List Out → List TFrame → Prop
  | refl (st : List TFrame) : TSteps w d st [] st
  | step {st st1 st' : List TFrame} {o outs : List Out} {r : Option Res} :
      tStep w d st = (st1, o, r) → (r = none ∨ ∃ v, r = some (.yield v)) →
      TSteps w d st1 outs st' → TSteps w d st (o ++ outs) st'

theorem tSteps_iff {w : TWorld} {d : Dir} {a b : List TFrame} {o : List Out} :
    TSteps w d a o b ↔ Run (tStep w d) a o b := by
  constructor
  · intro h; induction h with
    | refl => exact .refl _
    | step e hr _ ih => exact .step e hr ih
  · intro h; induction h with
    | refl => exact .refl _
    | step e hr _ ih => exact .step e hr ih

theorem TSteps.trans {w : TWorld} {d : Dir} {a b c : List TFrame} {o1 o2 : List Out}
    (h1 : TSteps w d a o1 b) (h2 : TSteps w d b o2 c) : TSteps w d a (o1 ++ o2) c :=
  tSteps_iff.2 ((tSteps_iff.1 h1).trans (tSteps_iff.1 h2))

theorem TSteps.drain_all {w : TWorld} {d : Dir} {st : List TFrame} {outs : List Out}
    (h : TSteps w d st outs []) : ∃ n, ∀ f, n ≤ f → tDrain w d f st = (outs, .stop) := by
  rw [tDrain_eq]; exact (tSteps_iff.1 h).drain_stop rfl

/-- a run that ends in the dict iterator's RuntimeError -/
theorem TSteps.drain_raised {w : TWorld} {d : Dir} {st st' st2 : List TFrame} {outs o : List Out}
    (h : TSteps w d st outs st') (e : tStep w d st' = (st2, o, some .raised)) :
    ∃ n, ∀ f, n ≤ f → tDrain w d f st = (outs ++ o, .raised) := by
  rw [tDrain_eq]; exact (tSteps_iff.1 h).drain_end e (fun _ h => by cases h)

/-! ### frame completion -/

theorem tLoop_nil (V : Nat → List Out) (w : TWorld) (d : Dir) (g : Nat) :
    tLoop V w d g [] = [Out.exit g] := by simp [tLoop]

theorem tLoop_cons (V : Nat → List Out) (w : TWorld) (d : Dir) (g v : Nat) (l : List Nat) :
    tLoop V w d g (v :: l) = Out.yield g v :: (tAfter V w d v ++ tLoop V w d g l) := by
  simp [tLoop]

section
variable {w : TWorld} {d : Dir}

def tM (w : TWorld) (d : Dir) : Machine TFrame := ⟨tStep w d, TFrame.fresh, TFrame.g⟩

/-- the subgraphs a frame is still going to enter, in order (in-step dict iterator) -/
def TFrame.kids (w : TWorld) (d : Dir) (fr : TFrame) : List Nat :=
  (match fr.mode with
   | .last v => w.subD d v
   | .expand v it pend => pend ++ (itRest (w.dictOf v) it).flatMap (fun e => e.2.graphsOf d)
   | .loop => []) ++ (rest (w.setOf fr.g) d fr.c).flatMap (w.subD d)

/-- what decreases along the steps of one frame: the nodes left; then the mode (`last`, `expand`,
    `loop`); while expanding, the attributes left and the rest of the `GRAPHS` tuple -/
def TFrame.mu (w : TWorld) (d : Dir) (fr : TFrame) : Nat × Nat × Nat × Nat :=
  ((rest (w.setOf fr.g) d fr.c).length,
   match fr.mode with
   | .loop => (0, 0, 0)
   | .last _ => (2, 0, 0)
   | .expand v it pend => (1, (itRest (w.dictOf v) it).length, pend.length))

def TFrame.lt (w : TWorld) (d : Dir) : TFrame → TFrame → Prop :=
  InvImage (Prod.Lex (· < ·) (Prod.Lex (· < ·) (Prod.Lex (· < ·) (· < ·)))) (TFrame.mu w d)

theorem TFrame.lt_wf (w : TWorld) (d : Dir) : WellFounded (TFrame.lt w d) :=
  InvImage.wf _ (Prod.lex Nat.lt_wfRel (Prod.lex Nat.lt_wfRel (Prod.lex Nat.lt_wfRel Nat.lt_wfRel))).wf

def TFrame.Ready (w : TWorld) (fr : TFrame) : Prop := TFrameOK w fr ∧ fr.synced w = true

theorem t_progress (hw : TWorldWF w) (V : Nat → List Out) (fr : TFrame) (rest : List TFrame)
    (ok : fr.Ready w) :
    (tM w d).Progress (TFrame.Ready w) (tFrameSpec V w d) (TFrame.kids w d) V (TFrame.lt w d) fr rest := by
  obtain ⟨ok, hsync⟩ := ok
  cases hm : fr.mode with
  | last v =>
    have hs := ok.started (by rw [hm]; simp)
    by_cases hrec : w.recurse v = true
    · obtain ⟨so, sr⟩ := start_synced (w.dictOf v)
      refine .stay { fr with mode := .expand v (DictIter.start (w.dictOf v)) [] } _ _
        ((tStep_last w d fr rest v hm).trans (by rw [if_pos hrec])) (Or.inl rfl)
        ⟨ok.withMode _ hs, by simpa [TFrame.synced] using so⟩ rfl ?_ ?_ ?_
      · simp [tFrameSpec, hm, tAfter, hrec, sr, TWorld.visit, List.flatMap_assoc]
      · simp [TFrame.kids, hm, TWorld.subD, hrec, sr, TWorld.visit]
      · exact Prod.Lex.right _ (by simp only [hm]; exact Prod.Lex.left _ _ (by omega))
    · refine .stay { fr with mode := .loop } _ _
        ((tStep_last w d fr rest v hm).trans (by rw [if_neg hrec])) (Or.inl rfl)
        ⟨ok.toLoop, by simp [TFrame.synced]⟩ rfl ?_ ?_ ?_
      · simp [tFrameSpec, hm, tAfter, hrec]
      · simp [TFrame.kids, hm, TWorld.subD, hrec]
      · exact Prod.Lex.right _ (by simp only [hm]; exact Prod.Lex.left _ _ (by omega))
  | expand v it pend =>
    have hs := ok.started (by rw [hm]; simp)
    have hso : itOk (w.dictOf v) it = true := by simpa [TFrame.synced, hm] using hsync
    cases pend with
    | cons h ps =>
      -- next graph of the `GRAPHS` tuple that is being walked
      refine .call h _ (tStep_pend w d fr rest v it h ps hm)
        ⟨ok.withMode _ hs, by simpa [TFrame.synced] using hso⟩ rfl ?_ ?_ ?_
      · simp [tFrameSpec, hm]
      · simp [TFrame.kids, hm]
      · exact Prod.Lex.right _ (by
          simp only [hm]; exact Prod.Lex.right _ (Prod.Lex.right _ (by simp)))
    | nil =>
      -- the dict iterator is stepped
      have hn := next_synced hso
      cases hl : itRest (w.dictOf v) it with
      | nil =>
        rw [hl] at hn
        refine .stay _ _ _ (tStep_entries_end w d fr rest v it hm hn) (Or.inl rfl)
          ⟨ok.toLoop, by simp [TFrame.synced]⟩ rfl ?_ ?_ ?_
        · simp [tFrameSpec, hm, hl]
        · simp [TFrame.kids, hm, hl]
        · exact Prod.Lex.right _ (by simp only [hm]; exact Prod.Lex.left _ _ (by omega))
      | cons e tl =>
        rw [hl] at hn
        obtain ⟨it', hnx, hok', hl'⟩ := hn
        obtain ⟨k, a⟩ := e
        have e := tStep_entry w d fr rest v it it' k a hm hnx
        have hlt : ∀ ps, TFrame.lt w d { fr with mode := .expand v it' ps } fr :=
          fun ps => Prod.Lex.right _ (by
            simp only [hm, hl, hl']; exact Prod.Lex.right _ (Prod.Lex.left _ _ (by simp)))
        have hrd : ∀ ps, TFrame.Ready w { fr with mode := .expand v it' ps } :=
          fun ps => ⟨ok.withMode _ hs, by simpa [TFrame.synced] using hok'⟩
        cases a with
        | graph h =>
          refine .call h _ e (hrd []) rfl ?_ ?_ (hlt [])
          · simp [tFrameSpec, hm, hl, hl', AVal.graphsOf]
          · simp [TFrame.kids, hm, hl, hl', AVal.graphsOf]
        | graphs hs' =>
          refine .stay _ _ _ e (Or.inl rfl) (hrd _) rfl ?_ ?_ (hlt _)
          · simp [tFrameSpec, hm, hl, hl', AVal.graphsOf]
          · simp [TFrame.kids, hm, hl, hl', AVal.graphsOf]
        | other =>
          refine .stay _ _ _ e (Or.inl rfl) (hrd []) rfl ?_ ?_ (hlt [])
          · simp [tFrameSpec, hm, hl, hl', AVal.graphsOf]
          · simp [TFrame.kids, hm, hl, hl', AVal.graphsOf]
  | loop =>
    -- the container generator is resumed
    rcases (hw.setOf fr.g).iterNext_cases d ok.valid with
      ⟨hres, hnr⟩ | ⟨c', v, hres, hnr, -, hv', hns⟩
    · refine .ret ((tStep_stop w d fr rest .done hm hres).trans ?_)
      simp [tM, tFrameSpec, hm, hnr, tLoop_nil, popOut]
    · refine .stay _ _ _ (tStep_yield w d fr rest c' v hm hres) (Or.inr ⟨v, rfl⟩)
        ⟨⟨hv', fun _ => hns⟩, by simp [TFrame.synced]⟩ rfl ?_ ?_ ?_
      · simp [tFrameSpec, hm, hnr, tLoop_cons, hns]
      · simp [TFrame.kids, hm, hnr]
      · exact Prod.Lex.left _ _ (by simp [hnr])

/-- **frame completion**: given that every subgraph satisfying `P` completes with output `V`, a
    consistent frame whose dict iterator is in step and whose future subgraphs satisfy `P` runs to
    the end of its generator, producing exactly `tFrameSpec`, and control returns to the frames
    below it. -/
theorem tsteps_frame {P : Nat → Prop} {V body : Nat → List Out} (hw : TWorldWF w)
    (hV : ∀ h, P h → V h = Out.enter h :: body h)
    (hC : ∀ h fr' rest, P h → TSteps w d (TFrame.fresh h :: fr' :: rest) (body h) (fr' :: rest))
    (fr : TFrame) (rest : List TFrame) (ok : TFrameOK w fr) (hs : fr.synced w = true)
    (hf : ∀ h ∈ fr.kids w d, P h) :
    TSteps w d (fr :: rest) (tFrameSpec V w d fr ++ tPop rest fr.g) rest :=
  tSteps_iff.2 ((tM w d).complete _ _ _ _ _ (TFrame.lt_wf w d) (t_progress hw V) hV
    (fun h fr' rest hp => tSteps_iff.1 (hC h fr' rest hp)) fr rest ⟨ok, hs⟩ hf)

end

/-! ### complete visits of subgraphs, whole stacks -/

/-- a visit of subgraph `h` without the caller's first `enter_graph(h)` -/
def tBody (w : TWorld) (d : Dir) : Nat → Nat → List Out
  | 0, _ => []
  | k + 1, h => [Out.enter h] ++ tLoop (tVisit w d k) w d h (rest (w.setOf h) d .notStarted) ++ [Out.exit h]

theorem tVisit_eq (w : TWorld) (d : Dir) (k h : Nat) (hk : 0 < k) :
    tVisit w d k h = Out.enter h :: tBody w d k h := by
  obtain ⟨k, rfl⟩ : ∃ j, k = j + 1 := ⟨k - 1, by omega⟩
  simp [tVisit, tBody]

theorem tkids_covered (w : TWorld) (d : Dir) (g : Nat) (hne : w.kids d g ≠ []) :
    g ∈ List.range w.sets.length :=
  rkids_covered w.toR d g (by rwa [toR_kids])

theorem tranked_of_acyclic {w : TWorld} {d : Dir} (ha : w.acyclic d = true) (g v h : Nat)
    (hv : v ∈ toList (w.setOf g)) (hr : w.recurse v = true) (hh : h ∈ w.visit d v) :
    w.hgt d h < w.hgt d g := by
  have := ranked_of_acyclic (w := w.toR) (d := d) (by rw [toR_acyclic]; exact ha) g v hv hr h
    (by rw [toR_visit]; exact hh)
  rwa [toR_hgt, toR_hgt] at this

theorem tsteps_visit {w : TWorld} {d : Dir} (hw : TWorldWF w) (ha : w.acyclic d = true) :
    ∀ (k h : Nat) (fr' : TFrame) (rest : List TFrame), w.hgt d h < k →
      TSteps w d (TFrame.fresh h :: fr' :: rest) (tBody w d k h) (fr' :: rest)
  | 0, _, _, _, hk => by omega
  | k + 1, h, fr', rest, hk => by
      have fut : ∀ h' ∈ (TFrame.fresh h).kids w d, w.hgt d h' < k := by
        intro h' hh'
        simp only [TFrame.kids, TFrame.fresh, List.nil_append, List.mem_flatMap] at hh'
        obtain ⟨v, hv, hh'⟩ := hh'
        have hm := rest_subset_toList (hw.setOf h) d .notStarted (tframeOK_fresh hw h).valid v hv
        by_cases hrec : w.recurse v = true
        · have := tranked_of_acyclic ha h v h' hm hrec (by simpa [TWorld.subD, hrec] using hh')
          omega
        · simp [TWorld.subD, hrec] at hh'
      have := tsteps_frame (P := fun h' => w.hgt d h' < k) hw
        (fun h' hh => tVisit_eq w d k h' (by omega)) (tsteps_visit hw ha k) (TFrame.fresh h) (fr' :: rest)
        (tframeOK_fresh hw h) (by simp [TFrame.synced, TFrame.fresh]) fut
      simpa [tFrameSpec, TFrame.fresh, tPop, tBody, List.append_assoc] using this

theorem thgt_le (w : TWorld) (d : Dir) (g : Nat) : w.hgt d g ≤ w.sets.length := hgtG_le _ _ g

/-! ### the innermost frames of a stack -/

/-- what the frames `top` produce until control returns to the frames `below` -/
def tPrefixSpec (V : Nat → List Out) (w : TWorld) (d : Dir) (below : List TFrame) : List TFrame → List Out
  | [] => []
  | fr :: t => tFrameSpec V w d fr ++ tPop (t ++ below) fr.g ++ tPrefixSpec V w d below t

theorem tPrefixSpec_nil (V : Nat → List Out) (w : TWorld) (d : Dir) :
    ∀ st : List TFrame, tPrefixSpec V w d [] st = tStackSpec V w d st
  | [] => rfl
  | fr :: t => by rw [tPrefixSpec, tStackSpec, List.append_nil, tPrefixSpec_nil V w d t]

theorem tsteps_prefix {w : TWorld} {d : Dir} (hw : TWorldWF w) (ha : w.acyclic d = true) (below : List TFrame) :
    ∀ (top : List TFrame), TStackOK w top → (∀ fr ∈ top, fr.synced w = true) →
      TSteps w d (top ++ below) (tPrefixSpec (tVisit w d (w.sets.length + 1)) w d below top) below
  | [], _, _ => .refl _
  | fr :: t, ok, hs => by
      have s1 := tsteps_frame (P := fun h' => w.hgt d h' < w.sets.length + 1) hw
        (fun h' _ => tVisit_eq w d _ h' (by omega))
        (fun h fr' rest hh => tsteps_visit hw ha _ h fr' rest hh)
        fr (t ++ below) (ok fr (by simp)) (hs fr (by simp))
        (fun h' _ => Nat.lt_succ_of_le (thgt_le w d h'))
      have s2 := tsteps_prefix hw ha below t (fun x hx => ok x (by simp [hx])) (fun x hx => hs x (by simp [hx]))
      have := s1.trans s2
      simpa [tPrefixSpec, List.append_assoc] using this

theorem tsteps_stack {w : TWorld} {d : Dir} (hw : TWorldWF w) (ha : w.acyclic d = true)
    (st : List TFrame) (ok : TStackOK w st) (hs : ∀ fr ∈ st, fr.synced w = true) :
    TSteps w d st (tStackSpec (tVisit w d (w.sets.length + 1)) w d st) [] := by
  have := tsteps_prefix hw ha [] st ok hs
  rwa [tPrefixSpec_nil, List.append_nil] at this

end IrVerif.LinkedSet
