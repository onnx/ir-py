/-
Lemmas/InlineRun.lean — the run of the InlinePass model on a model with a non-recursive call graph: the unrolling
budget (number of functions) suffices (`stuck` stays false), no call that the criterion accepts is left, and only
functions that the criterion accepts are recorded as inlined.  Call depth is measured in the function table `T0`
of the model before the pass (`lvl T0`); the table `tbl` that is cloned from may already contain rewritten bodies.
-/
import IrVerif.Lemmas.InlineSyn
namespace IrVerif.Inline
open IrVerif.Sem IrVerif.Passes

def notAcc (tbl : List Func) (crit : OpId → Bool) (op : OpId) : Bool := !(crit op && (findFunc tbl op).isSome)

section
variable (T0 tbl : List Func) (crit : OpId → Bool)

def DeepL (j : Nat) (deeper : Deeper) : Prop :=
  ∀ (st : ISt) (ns : List FNode), opsAllNodes (lvl T0 j) ns = true →
    (deeper st ns).1.stuck = st.stuck ∧ opsAllNodes (notAcc tbl crit) (deeper st ns).2.1 = true ∧
    (∀ op ∈ (deeper st ns).1.inlined, op ∈ st.inlined ∨ crit op = true) ∧
    (∀ op ∈ st.inlined, op ∈ (deeper st ns).1.inlined)

theorem mem_addInlined {st : ISt} {op o : OpId} {next : Nat} {bad : Bool} :
    o ∈ (st.addInlined op next bad).inlined ↔ o ∈ st.inlined ∨ o = op := by
  simp only [ISt.addInlined]
  split
  · rename_i h
    constructor
    · exact Or.inl
    · rintro (h' | h')
      · exact h'
      · rw [h']; simpa using h
  · simp [List.mem_append]

/-- what a walk of `_inline_calls_in` over nodes of call depth at most `j + 1` leaves: the budget is not exhausted,
    no accepted call is left, the recorded functions are accepted ones, nothing is forgotten -/
def LvlOK (st st' : ISt) (left : Bool) : Prop :=
  st'.stuck = st.stuck ∧ left = true ∧ (∀ op ∈ st'.inlined, op ∈ st.inlined ∨ crit op = true) ∧
  (∀ op ∈ st.inlined, op ∈ st'.inlined)

theorem LvlOK.trans {st st1 st2 : ISt} {a b : Bool} (h1 : LvlOK crit st st1 a) (h2 : LvlOK crit st1 st2 b) :
    LvlOK crit st st2 (a && b) :=
  ⟨h2.1.trans h1.1, by rw [h1.2.1, h2.2.1]; rfl,
    fun o ho => (h2.2.2.1 o ho).elim (h1.2.2.1 o) Or.inr, fun o ho => h2.2.2.2 o (h1.2.2.2 o ho)⟩

theorem inl_lvl (deeper : Deeper) (j : Nat) (hid0 : findFunc T0 identityOp = none)
    (ht : ∀ op f, findFunc tbl op = some f → lvl T0 (j + 1) op = true → opsAllNodes (lvl T0 j) f.nodes = true)
    (hd : DeepL T0 tbl crit j deeper) :
    let G := fun st (_ : Subst) g (r : ISt × FGraph) => opsAllG (lvl T0 (j + 1)) g = true →
      LvlOK crit st r.1 (opsAllG (notAcc tbl crit) r.2)
    let Ns := fun st (_ : Subst) (_ : List VId) ns (r : IRes) => opsAllNodes (lvl T0 (j + 1)) ns = true →
      LvlOK crit st r.st (opsAllNodes (notAcc tbl crit) r.nodes)
    let Bs := fun st (_ : Subst) bs (r : ISt × List FGraph) => opsAllBodies (lvl T0 (j + 1)) bs = true →
      LvlOK crit st r.1 (opsAllBodies (notAcc tbl crit) r.2)
    (∀ st σ g, G st σ g (inlG tbl crit deeper st σ g)) ∧
    (∀ st σ outs ns, Ns st σ outs ns (inlNodes tbl crit deeper st σ outs ns)) ∧
    ∀ st σ bs, Bs st σ bs (inlBodies tbl crit deeper st σ bs) := by
  intro G Ns Bs
  refine inlG.mutual_induct_unfolding tbl crit deeper G Ns Bs ?_ ?_ ?_ ?_ ?_ ?_
  · intro st σ i outputs inits nodes ih h
    exact ih h
  · intro st _ _ _
    exact ⟨rfl, rfl, fun _ h => Or.inl h, fun _ h => h⟩
  · -- a call that is inlined: the inserted nodes have call depth at most `j`
    intro st σ outs op attrs ins nouts bodies ns f hsel inst d pairs r ih h
    simp only [opsAllNodes, opsAllN, Bool.and_eq_true] at h
    obtain ⟨hcrit, hff⟩ := of_accepted hsel
    have hidl : lvl T0 j identityOp = true := lvl_of_none hid0 j
    have hinst : opsAllNodes (lvl T0 j) inst.nodes = true := by
      simp only [inst, instantiate]
      rw [opsAllNodes_append, cloneNodes_ops, ht op f hff h.1.1, (fwdOuts_syn (lvl T0 j) hidl T0 hid0 _ _ _ _).1]; rfl
    obtain ⟨d1, d2, d3, d4⟩ := hd (st.addInlined op inst.next (inst.bad || nouts.length != f.outputs.length)) _ hinst
    have hdeep : LvlOK crit st d.1 (opsAllNodes (notAcc tbl crit) d.2.1) :=
      ⟨d1, d2, fun o ho => (d3 o ho).elim (fun h'' => (mem_addInlined.1 h'').imp id (fun h3 => by rw [h3]; exact hcrit)) Or.inr,
        fun o ho => d4 o (mem_addInlined.2 (Or.inl ho))⟩
    simpa only [opsAllNodes_append] using hdeep.trans crit (ih h.2)
  · -- a node that stays is not an accepted call
    intro st σ outs op attrs ins nouts bodies ns hsel rb r ihb ih h
    simp only [opsAllNodes, opsAllN, Bool.and_eq_true] at h
    have hna : notAcc tbl crit op = true := by
      simp only [notAcc, Bool.not_eq_true', Bool.and_eq_false_iff]
      by_cases hc : crit op = true
      · right
        simp only [hc, if_true] at hsel
        rw [hsel]; rfl
      · left; simpa using hc
    simpa only [opsAllNodes, opsAllN, hna, Bool.true_and] using (ihb h.1.2).trans crit (ih h.2)
  · intro st _ _
    exact ⟨rfl, rfl, fun _ h => Or.inl h, fun _ h => h⟩
  · intro st σ b bs ihg ihb h
    simp only [opsAllBodies, Bool.and_eq_true] at h
    exact (ihg h.1).trans crit (ihb h.2)

theorem inlBodies_lvl (deeper : Deeper) (j : Nat) (hid0 : findFunc T0 identityOp = none)
    (hsome : ∀ op, (findFunc tbl op).isSome = (findFunc T0 op).isSome)
    (ht : ∀ op f, findFunc tbl op = some f → lvl T0 (j + 1) op = true → opsAllNodes (lvl T0 j) f.nodes = true)
    (hd : DeepL T0 tbl crit j deeper) :
    ∀ (bs : List FGraph) (st : ISt) (σ : Subst), opsAllBodies (lvl T0 (j + 1)) bs = true →
    (inlBodies tbl crit deeper st σ bs).1.stuck = st.stuck ∧
    opsAllBodies (notAcc tbl crit) (inlBodies tbl crit deeper st σ bs).2 = true ∧
    (∀ op ∈ (inlBodies tbl crit deeper st σ bs).1.inlined, op ∈ st.inlined ∨ crit op = true) ∧
    (∀ op ∈ st.inlined, op ∈ (inlBodies tbl crit deeper st σ bs).1.inlined) :=
  fun bs st σ => (inl_lvl T0 tbl crit deeper j hid0 ht hd).2.2 st σ bs

/-- `inl_lvl` speaks about depth `j + 1`: depth 0 is lifted to depth 1 first -/
theorem deepL_inlAt (hid0 : findFunc T0 identityOp = none)
    (hsome : ∀ op, (findFunc tbl op).isSome = (findFunc T0 op).isSome)
    (ht : ∀ j op f, findFunc tbl op = some f → lvl T0 (j + 1) op = true → opsAllNodes (lvl T0 j) f.nodes = true) :
    ∀ (k j : Nat), j ≤ k → DeepL T0 tbl crit j (inlAt tbl crit k)
  | 0, j, hj => by
    have hj0 : j = 0 := Nat.le_zero.1 hj
    subst hj0
    intro st ns h
    have hna : opsAllNodes (fun op => !(crit op && (findFunc tbl op).isSome)) ns = true := by
      refine opsAllNodes_mono (fun op hop => ?_) ns h
      simp only [lvl, Option.isNone_iff_eq_none] at hop
      have := hsome op
      rw [hop] at this
      simp only [Option.isSome_none] at this
      simp [this]
    simp only [inlAt, hna, Bool.not_true, Bool.or_false]
    exact ⟨trivial, hna, fun op h => Or.inl h, fun op h => h⟩
  | k + 1, j, hj => by
    intro st ns h
    simp only [inlAt]
    cases j with
    | zero =>
      exact (inl_lvl T0 tbl crit (inlAt tbl crit k) 0 hid0 (ht 0) (deepL_inlAt hid0 hsome ht k 0 (Nat.zero_le _))).2.1
        st [] [] ns (opsAllNodes_mono (lvl_mono T0 0) ns h)
    | succ j' =>
      exact (inl_lvl T0 tbl crit (inlAt tbl crit k) j' hid0 (ht j')
        (deepL_inlAt hid0 hsome ht k j' (Nat.le_of_succ_le_succ hj))).2.1 st [] [] ns h

end

end IrVerif.Inline
