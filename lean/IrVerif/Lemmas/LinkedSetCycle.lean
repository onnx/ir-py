/-
Completeness of the decidable acyclicity predicates (`stableG` over `hgtG`, Model/LinkedSet.lean):
the predicate is false exactly when some graph is nested in itself.  Sufficiency (stable heights
are a rank) is Lemmas/LinkedSetTree.lean; here the converse, by a pigeonhole argument: an unstable
height means a nesting chain longer than the number of graphs that have subgraphs at all.
-/
import IrVerif.Lemmas.LinkedSetTree
import IrVerif.Lemmas.ListFacts
namespace IrVerif.LinkedSet

/-- `Nested kids g h`: `h` is entered - directly or through further subgraphs - from graph `g`
    (transitive closure of the nesting relation given by `kids`) -/
inductive Nested (kids : Nat → List Nat) : Nat → Nat → Prop
  | one {g h : Nat} : h ∈ kids g → Nested kids g h
  | cons {g h x : Nat} : h ∈ kids g → Nested kids h x → Nested kids g x

theorem Nested.snoc {kids : Nat → List Nat} {g h x : Nat} (h1 : Nested kids g h) (h2 : x ∈ kids h) :
    Nested kids g x := by
  induction h1 with
  | one hk => exact .cons hk (.one h2)
  | cons hk _ ih => exact .cons hk (ih h2)

/-- a quantity that drops on every nesting edge drops along a chain -/
theorem Nested.lt_of_edge {kids : Nat → List Nat} {r : Nat → Nat} (h : ∀ a b, b ∈ kids a → r b < r a)
    {g x : Nat} (hn : Nested kids g x) : r x < r g := by
  induction hn with
  | one hk => exact h _ _ hk
  | cons hk _ ih => exact Nat.lt_trans ih (h _ _ hk)

theorem Nested.trans {kids : Nat → List Nat} {g h x : Nat} (h1 : Nested kids g h) (h2 : Nested kids h x) :
    Nested kids g x := by
  induction h1 with
  | one hk => exact .cons hk h2
  | cons hk _ ih => exact .cons hk (ih h2)

theorem foldr_max_le (f : Nat → Nat) (k : Nat) : ∀ (l : List Nat), (∀ h ∈ l, f h + 1 ≤ k) →
    l.foldr (fun h m => max (f h + 1) m) 0 ≤ k
  | [], _ => Nat.zero_le _
  | x :: l, h => by
      simp only [List.foldr_cons]
      exact Nat.max_le.2 ⟨h x (by simp), foldr_max_le f k l (fun y hy => h y (by simp [hy]))⟩

theorem foldr_max_congr (f f' : Nat → Nat) : ∀ (l : List Nat), (∀ h ∈ l, f h = f' h) →
    l.foldr (fun h m => max (f h + 1) m) 0 = l.foldr (fun h m => max (f' h + 1) m) 0
  | [], _ => rfl
  | x :: l, h => by
      simp only [List.foldr_cons]
      rw [h x (by simp), foldr_max_congr f f' l (fun y hy => h y (by simp [hy]))]

/-- the maximum is attained -/
theorem foldr_max_attained (f : Nat → Nat) : ∀ (l : List Nat) (k : Nat),
    l.foldr (fun h m => max (f h + 1) m) 0 = k + 1 → ∃ h ∈ l, f h = k
  | [], _, e => by simp at e
  | x :: l, k, e => by
      simp only [List.foldr_cons] at e
      by_cases hx : f x + 1 ≥ l.foldr (fun h m => max (f h + 1) m) 0
      · rw [Nat.max_eq_left hx] at e
        exact ⟨x, by simp, by omega⟩
      · rw [Nat.max_eq_right (by omega)] at e
        obtain ⟨h, hm, hh⟩ := foldr_max_attained f l k e
        exact ⟨h, by simp [hm], hh⟩

/-- a height below the cap does not change with more fuel -/
theorem hgtG_stable_of_le (kids : Nat → List Nat) : ∀ (k g : Nat), hgtG kids (k + 1) g ≤ k →
    hgtG kids k g = hgtG kids (k + 1) g
  | 0, g, h => by
      cases hk : kids g with
      | nil => simp [hgtG, hk]
      | cons x l =>
        simp only [hgtG, hk, List.foldr_cons] at h
        have := Nat.le_max_left (0 + 1) (l.foldr (fun h m => max (hgtG kids 0 h + 1) m) 0)
        simp only [hgtG] at this
        omega
  | k + 1, g, h => by
      have hall : ∀ x ∈ kids g, hgtG kids (k + 1) x ≤ k := by
        intro x hx
        have := hgtG_succ_ge kids (k + 1) g x hx
        omega
      show (kids g).foldr _ 0 = (kids g).foldr _ 0
      exact foldr_max_congr _ _ _ (fun x hx => hgtG_stable_of_le kids k x (hall x hx))

/-- a chain as long as the fuel: some subgraph has full height for one unit less -/
theorem hgtG_full_kid (kids : Nat → List Nat) (k g : Nat) (h : hgtG kids (k + 1) g = k + 1) :
    ∃ x ∈ kids g, hgtG kids k x = k :=
  foldr_max_attained (hgtG kids k) (kids g) k h

/-- pigeonhole along a chain of full height: with `seen` distinct ancestors, all among `gs`, and
    `k` more levels to go where `k + seen.length > gs.length`, some graph is nested in itself -/
theorem cycle_of_full (kids : Nat → List Nat) (gs : List Nat) (hall : ∀ g, kids g ≠ [] → g ∈ gs) :
    ∀ (k : Nat) (seen : List Nat) (g : Nat), seen.Nodup → (∀ a ∈ seen, a ∈ gs ∧ Nested kids a g) →
      hgtG kids k g = k → gs.length < k + seen.length → ∃ c, Nested kids c c
  | 0, seen, g, hnd, hs, _, hlen => by
      have := hnd.length_le_of_subset (fun a ha => (hs a ha).1)
      omega
  | k + 1, seen, g, hnd, hs, hfull, hlen => by
      obtain ⟨x, hx, hxf⟩ := hgtG_full_kid kids k g hfull
      by_cases hg : g ∈ seen
      · exact ⟨g, (hs g hg).2⟩
      · have hgs : g ∈ gs := hall g (by intro e; rw [e] at hx; cases hx)
        refine cycle_of_full kids gs hall k (g :: seen) x (List.nodup_cons.2 ⟨hg, hnd⟩) ?_ hxf
          (by simp only [List.length_cons]; omega)
        intro a ha
        rcases List.mem_cons.1 ha with rfl | ha
        · exact ⟨hgs, .one hx⟩
        · exact ⟨(hs a ha).1, (hs a ha).2.snoc hx⟩

/-- **completeness of `stableG`**: when the list `gs` covers every graph that has subgraphs and is
    not longer than the fuel `n`, an unstable height exhibits a graph nested in itself -/
theorem cycle_of_unstable (kids : Nat → List Nat) (n : Nat) (gs : List Nat)
    (hall : ∀ g, kids g ≠ [] → g ∈ gs) (hlen : gs.length ≤ n) (hs : stableG kids n gs = false) :
    ∃ c, Nested kids c c := by
  have : ∃ g ∈ gs, hgtG kids n g ≠ hgtG kids (n + 1) g := by
    have h := hs
    simp only [stableG] at h
    have h2 : ¬ (gs.all fun g => hgtG kids n g == hgtG kids (n + 1) g) = true := by simp [h]
    rw [List.all_eq_true] at h2
    apply Classical.byContradiction
    intro hne
    apply h2
    intro g hg
    have : ¬ hgtG kids n g ≠ hgtG kids (n + 1) g := fun hh => hne ⟨g, hg, hh⟩
    simpa using this
  obtain ⟨g, _, hne⟩ := this
  have hfull : hgtG kids (n + 1) g = n + 1 := by
    have hle := hgtG_le kids (n + 1) g
    apply Classical.byContradiction
    intro hh
    exact hne (hgtG_stable_of_le kids n g (by omega))
  exact cycle_of_full kids gs hall (n + 1) [] g List.nodup_nil (by simp) hfull (by simp; omega)

/-- soundness, in the same vocabulary: stable heights strictly decrease along `Nested` -/
theorem hgt_lt_of_nested (kids : Nat → List Nat) (n : Nat) (gs : List Nat) (hs : stableG kids n gs = true)
    (hall : ∀ g, kids g ≠ [] → g ∈ gs) {g h : Nat} (hn : Nested kids g h) :
    hgtG kids n h < hgtG kids n g :=
  hn.lt_of_edge (hgtG_rank kids n gs hs hall)

theorem stable_iff_no_cycle (kids : Nat → List Nat) (n : Nat) (gs : List Nat)
    (hall : ∀ g, kids g ≠ [] → g ∈ gs) (hlen : gs.length ≤ n) :
    stableG kids n gs = false ↔ ∃ c, Nested kids c c := by
  constructor
  · exact cycle_of_unstable kids n gs hall hlen
  · rintro ⟨c, hc⟩
    cases hst : stableG kids n gs with
    | false => rfl
    | true => exact absurd (hgt_lt_of_nested kids n gs hst hall hc) (Nat.lt_irrefl _)

/-! ### the coarse world -/

theorem racyclic_complete (w : RWorld) (d : Dir) :
    w.acyclic d = false ↔ ∃ g, Nested (w.kids d) g g :=
  stable_iff_no_cycle (w.kids d) w.sets.length (List.range w.sets.length) (rkids_covered w d) (by simp)

theorem sstatic_complete (w : RWorld) (d : Dir) (home : Nat → Nat) :
    w.acyclicStatic d home = false ↔ ∃ g, Nested (w.skids d home) g g :=
  stable_iff_no_cycle (w.skids d home) w.attrs.length (w.attrs.map (fun (p : Nat × List Attr) => home p.1))
    (skids_covered w d home) (by simp)

theorem nested_rank_lt {w : RWorld} {d : Dir} {rk : Nat → Nat} (hr : Ranked w d rk) {g h : Nat}
    (hn : Nested (w.kids d) g h) : rk h < rk g := by
  refine hn.lt_of_edge fun a b hb => ?_
  simp only [RWorld.kids, RWorld.kidsOf, List.mem_flatMap, List.mem_filter] at hb
  obtain ⟨v, ⟨hv, hrec⟩, hb⟩ := hb
  exact hr a v hv hrec b hb

theorem acyclic_of_ranked {w : RWorld} {d : Dir} {rk : Nat → Nat} (hr : Ranked w d rk) : w.acyclic d = true := by
  cases e : w.acyclic d with
  | true => rfl
  | false =>
    obtain ⟨c, hc⟩ := (racyclic_complete w d).1 e
    exact absurd (nested_rank_lt hr hc) (Nat.lt_irrefl _)

end IrVerif.LinkedSet
