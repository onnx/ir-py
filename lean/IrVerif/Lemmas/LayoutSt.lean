/-
Helper lemmas for C07 (safetensors container): header entries, positional read-back, the writer's
order (insertion sort: permutation + sorted), re-pointing by name.  Core Lean only.
-/
import IrVerif.Model.LayoutSt
import IrVerif.Lemmas.Layout
import IrVerif.Lemmas.Pack
import IrVerif.Lemmas.ListFacts
namespace IrVerif.Layout

/-! ## entries -/

theorem entriesFrom_length (cur : Nat) (vs : List StView) : (entriesFrom cur vs).length = vs.length := by
  induction vs generalizing cur with
  | nil => rfl
  | cons v vs ih => simp [entriesFrom, ih]

theorem entriesFrom_names (cur : Nat) (vs : List StView) :
    (entriesFrom cur vs).map (·.name) = vs.map (·.name) := by
  induction vs generalizing cur with
  | nil => rfl
  | cons v vs ih => simp [entriesFrom, ih]

theorem entriesFrom_lens (cur : Nat) (vs : List StView) :
    (entriesFrom cur vs).map (fun e => e.stop - e.start) = vs.map (·.bytes.length) := by
  induction vs generalizing cur with
  | nil => rfl
  | cons v vs ih => simp [entriesFrom, ih]

theorem entriesFrom_ge (cur : Nat) (vs : List StView) :
    ∀ e ∈ entriesFrom cur vs, cur ≤ e.start ∧ e.start ≤ e.stop := by
  induction vs generalizing cur with
  | nil => intro e he; simp [entriesFrom] at he
  | cons v vs ih =>
    intro e he
    simp only [entriesFrom, List.mem_cons] at he
    rcases he with rfl | he
    · simp
    · have := ih _ e he; omega

theorem entriesFrom_zip (cur : Nat) (vs : List StView) :
    ∀ p ∈ (entriesFrom cur vs).zip vs,
      p.1 = ⟨p.2.name, p.2.sd, p.2.hshape, p.1.start, p.1.start + p.2.bytes.length⟩ := by
  induction vs generalizing cur with
  | nil => intro p hp; simp [entriesFrom] at hp
  | cons v vs ih =>
    intro p hp
    simp only [entriesFrom, List.zip_cons_cons, List.mem_cons] at hp
    rcases hp with rfl | hp
    · rfl
    · exact ih _ p hp

theorem stBuffer_cons (v : StView) (vs : List StView) : stBuffer (v :: vs) = v.bytes ++ stBuffer vs := by
  simp [stBuffer]

theorem entriesFrom_le_end (cur : Nat) (vs : List StView) :
    ∀ e ∈ entriesFrom cur vs, e.stop ≤ cur + (stBuffer vs).length := by
  induction vs generalizing cur with
  | nil => intro e he; simp [entriesFrom] at he
  | cons v vs ih =>
    intro e he
    simp only [entriesFrom, List.mem_cons] at he
    rw [stBuffer_cons, List.length_append]
    rcases he with rfl | he
    · simp <;> omega
    · have := ih _ e he; omega

theorem entriesFrom_disjoint (cur : Nat) (vs : List StView) :
    (entriesFrom cur vs).Pairwise (fun a b => a.stop ≤ b.start) := by
  induction vs generalizing cur with
  | nil => simp [entriesFrom]
  | cons v vs ih =>
    simp only [entriesFrom, List.pairwise_cons]
    exact ⟨fun b hb => (entriesFrom_ge _ _ b hb).1, ih _⟩

theorem entriesFrom_chain (cur : Nat) (vs : List StView) :
    ∀ p ∈ List.zip (cur :: (entriesFrom cur vs).map (·.stop)) (entriesFrom cur vs),
      p.2.start = p.1 := by
  induction vs generalizing cur with
  | nil => intro p hp; simp [entriesFrom] at hp
  | cons v vs ih =>
    intro p hp
    simp only [entriesFrom, List.map_cons, List.zip_cons_cons, List.mem_cons] at hp
    rcases hp with rfl | hp
    · rfl
    · exact ih _ p hp

theorem entriesFrom_last (cur : Nat) (vs : List StView) :
    (cur :: (entriesFrom cur vs).map (·.stop)).getLast (List.cons_ne_nil _ _) =
      cur + (stBuffer vs).length := by
  induction vs generalizing cur with
  | nil => simp [entriesFrom, stBuffer]
  | cons v vs ih =>
    simp only [entriesFrom, List.map_cons]
    rw [List.getLast_cons (List.cons_ne_nil _ _), ih, stBuffer_cons, List.length_append, Nat.add_assoc]

/-- positional read-back: in a file `front ++ buffer` whose front part is `base + cur` bytes long,
    entry `i` (offsets relative to the buffer, shifted by `base`) reads the bytes of view `i` -/
theorem entriesFrom_readback (base cur : Nat) (vs : List StView) (front : List Nat)
    (hfront : front.length = base + cur) :
    ∀ p ∈ (entriesFrom cur vs).zip vs,
      readAt (front ++ stBuffer vs) (p.1.start + base) (p.1.stop - p.1.start) = p.2.bytes := by
  induction vs generalizing cur front with
  | nil => intro p hp; simp [entriesFrom] at hp
  | cons v vs ih =>
    intro p hp
    simp only [entriesFrom, List.zip_cons_cons, List.mem_cons] at hp
    rcases hp with rfl | hp
    · simp only [readAt, stBuffer_cons]
      have h1 : cur + base = front.length := by omega
      rw [h1, List.drop_left']
      · simp
      · rfl
    · have := ih (cur + v.bytes.length) (front ++ v.bytes) (by simp [hfront]; omega) p hp
      simpa [stBuffer_cons, List.append_assoc] using this

theorem stFileOf_length (hdr buf : List Nat) : (stFileOf hdr buf).length = 8 + hdr.length + buf.length := by
  simp [stFileOf, IrVerif.Pack.leBytes_length]; omega

/-! ## the writer's order -/

theorem bytesLe_total (a b : List Nat) : bytesLe a b = true ∨ bytesLe b a = true := by
  induction a generalizing b with
  | nil => left; cases b <;> rfl
  | cons x xs ih =>
    cases b with
    | nil => right; rfl
    | cons y ys =>
      simp only [bytesLe, Bool.or_eq_true, Bool.and_eq_true, decide_eq_true_eq]
      rcases Nat.lt_trichotomy x y with h | h | h
      · left; left; exact h
      · subst h
        rcases ih ys with h | h
        · left; right; exact ⟨rfl, h⟩
        · right; right; exact ⟨rfl, h⟩
      · right; left; exact h

theorem bytesLe_trans (a b c : List Nat) (h1 : bytesLe a b = true) (h2 : bytesLe b c = true) :
    bytesLe a c = true := by
  induction a generalizing b c with
  | nil => cases c <;> rfl
  | cons x xs ih =>
    cases b with
    | nil => simp [bytesLe] at h1
    | cons y ys =>
      cases c with
      | nil => simp [bytesLe] at h2
      | cons z zs =>
        simp only [bytesLe, Bool.or_eq_true, Bool.and_eq_true, decide_eq_true_eq] at h1 h2 ⊢
        rcases h1 with h1 | ⟨rfl, h1⟩
        · rcases h2 with h2 | ⟨rfl, _⟩
          · left; omega
          · left; exact h1
        · rcases h2 with h2 | ⟨rfl, h2⟩
          · left; exact h2
          · right; exact ⟨rfl, ih ys zs h1 h2⟩

theorem viewLe_total (a b : StView) : viewLe a b = true ∨ viewLe b a = true := by
  simp only [viewLe, Bool.or_eq_true, Bool.and_eq_true, decide_eq_true_eq]
  rcases Nat.lt_trichotomy a.sd.rank b.sd.rank with h | h | h
  · right; left; exact h
  · rcases bytesLe_total a.name b.name with hb | hb
    · left; right; exact ⟨h, hb⟩
    · right; right; exact ⟨h.symm, hb⟩
  · left; left; exact h

theorem viewLe_trans (a b c : StView) (h1 : viewLe a b = true) (h2 : viewLe b c = true) :
    viewLe a c = true := by
  simp only [viewLe, Bool.or_eq_true, Bool.and_eq_true, decide_eq_true_eq] at h1 h2 ⊢
  rcases h1 with h1 | ⟨e1, h1⟩
  · rcases h2 with h2 | ⟨e2, _⟩
    · left; omega
    · left; omega
  · rcases h2 with h2 | ⟨e2, h2⟩
    · left; omega
    · right; exact ⟨by omega, bytesLe_trans _ _ _ h1 h2⟩

theorem insertView_perm (v : StView) (l : List StView) : (insertView v l).Perm (v :: l) := by
  induction l with
  | nil => exact List.Perm.refl _
  | cons w ws ih =>
    simp only [insertView]
    split
    · exact List.Perm.refl _
    · exact (List.Perm.cons w ih).trans (List.Perm.swap v w ws)

theorem sortViews_perm (l : List StView) : (sortViews l).Perm l := by
  induction l with
  | nil => exact List.Perm.refl _
  | cons v vs ih =>
    simp only [sortViews]
    exact (insertView_perm v _).trans (List.Perm.cons v ih)

theorem insertView_sorted (v : StView) (l : List StView)
    (h : l.Pairwise (fun a b => viewLe a b = true)) :
    (insertView v l).Pairwise (fun a b => viewLe a b = true) := by
  induction l with
  | nil => simp [insertView]
  | cons w ws ih =>
    simp only [insertView]
    rw [List.pairwise_cons] at h
    split
    · rename_i hvw
      rw [List.pairwise_cons]
      refine ⟨?_, List.pairwise_cons.mpr h⟩
      intro b hb
      rcases List.mem_cons.mp hb with rfl | hb
      · exact hvw
      · exact viewLe_trans _ _ _ hvw (h.1 b hb)
    · rename_i hvw
      have hwv : viewLe w v = true := by
        rcases viewLe_total v w with h' | h'
        · exact absurd h' hvw
        · exact h'
      rw [List.pairwise_cons]
      refine ⟨?_, ih h.2⟩
      intro b hb
      have := (insertView_perm v ws).mem_iff.mp hb
      rcases List.mem_cons.mp this with rfl | hb
      · exact hwv
      · exact h.1 b hb

theorem sortViews_sorted (l : List StView) :
    (sortViews l).Pairwise (fun a b => viewLe a b = true) := by
  induction l with
  | nil => simp [sortViews]
  | cons v vs ih => exact insertView_sorted v _ ih

/-! ## re-pointing by name -/

theorem lastIdxOf_not_mem (xs : List (List Nat)) (x : List Nat) (h : x ∉ xs) : lastIdxOf xs x = none := by
  induction xs with
  | nil => rfl
  | cons y ys ih =>
    rw [List.mem_cons, not_or] at h
    simp only [lastIdxOf, ih h.2]
    rw [if_neg (fun e => h.1 e.symm)]

theorem lastIdxOf_nodup (xs : List (List Nat)) (hd : xs.Nodup) (j : Nat) (hj : j < xs.length) :
    lastIdxOf xs xs[j] = some j := by
  induction xs generalizing j with
  | nil => simp at hj
  | cons y ys ih =>
    rw [List.nodup_cons] at hd
    cases j with
    | zero =>
      simp only [List.getElem_cons_zero, lastIdxOf, lastIdxOf_not_mem ys y hd.1]
      simp
    | succ k =>
      simp only [List.getElem_cons_succ, lastIdxOf]
      rw [ih hd.2 k (by simpa using hj)]

theorem lastIdxOf_some (xs : List (List Nat)) (x : List Nat) (j : Nat) (h : lastIdxOf xs x = some j) :
    ∃ hj : j < xs.length, xs[j] = x := by
  induction xs generalizing j with
  | nil => simp [lastIdxOf] at h
  | cons y ys ih =>
    simp only [lastIdxOf] at h
    cases hr : lastIdxOf ys x with
    | some k =>
      rw [hr] at h
      have : j = k + 1 := (Option.some.inj h).symm
      subst this
      obtain ⟨hk, hx⟩ := ih k hr
      exact ⟨by simp; omega, by simpa using hx⟩
    | none =>
      rw [hr] at h
      simp only at h
      split at h
      · rename_i hyx
        have : j = 0 := (Option.some.inj h).symm
        subst this
        exact ⟨by simp, by simpa using hyx⟩
      · cases h

/-- one step of `_replace_tensors` -/
def replaceStep (names : List (List Nat)) (st : List (Option Placement)) (a : List Nat × Placement) :
    List (Option Placement) :=
  match lastIdxOf names a.1 with
  | some j => st.set j (some a.2)
  | none => st

theorem stReplace_eq (names : List (List Nat)) (assigns : List (List Nat × Placement)) :
    stReplace names assigns = assigns.foldl (replaceStep names) (List.replicate names.length none) := rfl

theorem replaceStep_length (names) (st : List (Option Placement)) (a) :
    (replaceStep names st a).length = st.length := by
  unfold replaceStep; split <;> simp

theorem foldl_replace_untouched (names : List (List Nat)) (A : List (List Nat × Placement))
    (st : List (Option Placement)) (j : Nat) (h : ∀ a ∈ A, lastIdxOf names a.1 ≠ some j) :
    (A.foldl (replaceStep names) st)[j]? = st[j]? := by
  induction A generalizing st with
  | nil => rfl
  | cons a A ih =>
    rw [List.foldl_cons, ih _ (fun a' ha' => h a' (List.mem_cons_of_mem _ ha'))]
    have := h a (List.mem_cons_self ..)
    unfold replaceStep
    split
    · rename_i k hk
      have : k ≠ j := by intro e; subst e; exact this hk
      rw [List.getElem?_set_ne this]
    · rfl

theorem foldl_replace_get (names : List (List Nat)) (A : List (List Nat × Placement))
    (st : List (Option Placement)) (j : Nat) (hj : j < st.length) (v : Placement)
    (hex : ∃ c ∈ A, lastIdxOf names c.1 = some j)
    (hall : ∀ c ∈ A, lastIdxOf names c.1 = some j → c.2 = v) :
    (A.foldl (replaceStep names) st)[j]? = some (some v) := by
  induction A generalizing st with
  | nil => obtain ⟨c, hc, _⟩ := hex; simp at hc
  | cons c0 A ih =>
    rw [List.foldl_cons]
    by_cases hex2 : ∃ c ∈ A, lastIdxOf names c.1 = some j
    · exact ih _ (by rw [replaceStep_length]; exact hj) hex2
        (fun c hc hfc => hall c (List.mem_cons_of_mem _ hc) hfc)
    · have hnone : ∀ c ∈ A, lastIdxOf names c.1 ≠ some j :=
        fun c hc hfc => hex2 ⟨c, hc, hfc⟩
      rw [foldl_replace_untouched _ _ _ _ hnone]
      obtain ⟨c, hc, hfc⟩ := hex
      rcases List.mem_cons.mp hc with rfl | hc
      · have hv := hall c (List.mem_cons_self ..) hfc
        unfold replaceStep
        rw [hfc]
        simp [List.getElem?_set_self hj, hv]
      · exact absurd hfc (hnone c hc)

theorem stReplace_length (names : List (List Nat)) (assigns : List (List Nat × Placement)) :
    (stReplace names assigns).length = names.length := by
  rw [stReplace_eq]
  have : ∀ (A : List (List Nat × Placement)) (st : List (Option Placement)),
      (A.foldl (replaceStep names) st).length = st.length := by
    intro A
    induction A with
    | nil => intro st; rfl
    | cons a A ih => intro st; rw [List.foldl_cons, ih, replaceStep_length]
  rw [this]; simp

/-! ## the shards of a save -/

theorem stShardViewsD_eq (saved : List StTensor) (mx : Option Nat) :
    ∃ S : List (List StTensor), S.flatten = saved ∧ stShardViewsD saved mx = S.map shardViewsD := by
  unfold stShardViewsD
  split
  · rename_i h; exact ⟨[], h.symm, rfl⟩
  · exact ⟨_, shardSt_flatten (fun t : StTensor => t.bytes.length) mx saved, rfl⟩

theorem stAssignments_map_fst (shards : List (List StView)) :
    (stAssignments shards).map (·.1) = (shards.flatMap stEntries).map (·.name) := by
  rw [List.map_flatMap, ← zipIdx_flatMap_fst shards 0 fun vs => (stEntries vs).map (·.name)]
  unfold stAssignments
  rw [List.map_flatMap]
  simp only [List.map_map]
  rfl

theorem stAssignments_names (saved : List StTensor) (mx : Option Nat) :
    ((stAssignments (stShardViewsD saved mx)).map (·.1)).Perm (saved.map (·.name)) := by
  obtain ⟨S, hflat, hsh⟩ := stShardViewsD_eq saved mx
  rw [stAssignments_map_fst, hsh, ← hflat, List.map_flatMap, List.flatMap_map, List.map_flatten,
    ← List.flatMap_def]
  apply perm_flatMap_left
  intro sh _
  rw [stEntries, entriesFrom_names]
  have := (sortViews_perm (sh.map viewOfD)).map (·.name)
  simpa [shardViewsD, viewOfD, Function.comp_def] using this

theorem saved_entry (saved : List StTensor) (mx : Option Nat) (j : Nat) (hj : j < saved.length) :
    ∃ (i : Nat) (sh : List StTensor) (e : StEntry), (stShardViewsD saved mx)[i]? = some (shardViewsD sh) ∧
      (e, viewOfD saved[j]) ∈ (stEntries (shardViewsD sh)).zip (shardViewsD sh) := by
  obtain ⟨S, hflat, hsh⟩ := stShardViewsD_eq saved mx
  have hmem : saved[j] ∈ S.flatten := by rw [hflat]; exact List.getElem_mem hj
  obtain ⟨sh, hshS, htsh⟩ := List.mem_flatten.mp hmem
  obtain ⟨i, hi, hSi⟩ := List.getElem_of_mem hshS
  have hv : viewOfD saved[j] ∈ shardViewsD sh :=
    (sortViews_perm _).mem_iff.mpr (List.mem_map.mpr ⟨_, htsh, rfl⟩)
  obtain ⟨q, hq, hvq⟩ := List.getElem_of_mem hv
  have hqe : q < (stEntries (shardViewsD sh)).length := by
    simpa [stEntries, entriesFrom_length] using hq
  refine ⟨i, sh, (stEntries (shardViewsD sh))[q],
    by rw [hsh, List.getElem?_map, List.getElem?_eq_getElem hi, hSi]; rfl, ?_⟩
  rw [List.mem_iff_getElem]
  exact ⟨q, by simp [List.length_zip]; omega, by simp [List.getElem_zip, hvq]⟩

end IrVerif.Layout
