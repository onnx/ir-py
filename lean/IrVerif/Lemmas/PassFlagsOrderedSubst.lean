/-
C14: IdentityElimination and Deduplicate(Hashed)Initializers - passes that delete and SUBSTITUTE
values - leave a topologically ordered model (C05's `noFwdG`) ordered.
-/
import IrVerif.Lemmas.PassFlagsIdentity
import IrVerif.Lemmas.PassFlagsOrderedDelete
import IrVerif.Lemmas.SemIdentity
namespace IrVerif.PassFlags
open IrVerif.Sem IrVerif.Passes

/-! ## IdentityElimination -/

mutual
/-- nothing new is defined -/
theorem ieG_defs (ii : List VId) : ∀ (g : Graph) (σ : Subst) (v : VId), v ∈ defsG (ieG ii σ g) → v ∈ defsG g
  | .mk inputs outputs inits nodes, σ, v, h => by
    simp only [ieG, defsG, List.mem_append] at h ⊢
    exact h.imp id (ieNodes_defs ii _ nodes σ outputs v)
theorem ieNodes_defs (ii loc : List VId) : ∀ (ns : List Node) (σ : Subst) (outs : List VId) (v : VId),
    v ∈ defsNodes (ieNodes ii loc σ outs ns).nodes → v ∈ defsNodes ns
  | [], _, _, _, h => by simpa [ieNodes] using h
  | .mk op attrs ins nouts bodies :: ns, σ, outs, v, h => by
    revert h
    refine ieNodes_cons_elim (P := fun r => v ∈ defsNodes r.nodes → v ∈ defsNodes (.mk op attrs ins nouts bodies :: ns))
      (fun h => ?_) (fun x y _ _ h => ?_)
    · simp only [defsNodes, defsN, List.mem_append] at h ⊢
      rcases h with (h | h) | h
      · exact Or.inl (Or.inl h)
      · exact Or.inl (Or.inr (ieBodies_defs ii bodies σ v h))
      · exact Or.inr (ieNodes_defs ii loc ns σ outs v h)
    · exact mem_defsNodes_cons.2 (.inr (ieNodes_defs ii loc ns _ _ v h))
theorem ieBodies_defs (ii : List VId) : ∀ (bs : List Graph) (σ : Subst) (v : VId),
    v ∈ defsBodies (ieBodies ii σ bs) → v ∈ defsBodies bs
  | [], _, _, h => by simpa [ieBodies] using h
  | b :: bs, σ, v, h => by
    simp only [ieBodies, defsBodies, List.mem_append] at h ⊢
    exact h.elim (fun h => Or.inl (ieG_defs ii b σ v h)) (fun h => Or.inr (ieBodies_defs ii bs σ v h))
end

mutual
/-- every value the result reads is a value the input read or a value the substitution maps to -/
theorem ieG_refs (ii : List VId) (D : List VId) : ∀ (g : Graph) (σ : Subst), (∀ v ∈ refsG g, v ∉ D) →
    (∀ p ∈ σ, p.2 ∉ D) → ∀ v ∈ refsG (ieG ii σ g), v ∉ D
  | .mk inputs outputs inits nodes, σ, hr, hJ, v, hv => by
    have := ieNodes_refs ii (inputs ++ inits.map Prod.fst ++ outsTop nodes) D nodes σ outputs
      (fun v hv => hr v (by simp [refsG, hv]))
      (fun v hv => hr v (by simp [refsG, hv])) hJ
    simp only [ieG, refsG, List.mem_append] at hv
    exact hv.elim (this.1 v) (this.2.1 v)
theorem ieNodes_refs (ii loc : List VId) (D : List VId) : ∀ (ns : List Node) (σ : Subst) (outs : List VId),
    (∀ v ∈ outs, v ∉ D) → (∀ v ∈ refsNodes ns, v ∉ D) → (∀ p ∈ σ, p.2 ∉ D) →
    (∀ v ∈ (ieNodes ii loc σ outs ns).outs, v ∉ D) ∧ (∀ v ∈ refsNodes (ieNodes ii loc σ outs ns).nodes, v ∉ D) ∧
    (∀ p ∈ (ieNodes ii loc σ outs ns).σ, p.2 ∉ D)
  | [], _, _, ho, _, hJ => ⟨ho, fun _ h => by simp [ieNodes, refsNodes] at h, hJ⟩
  | .mk op attrs ins nouts bodies :: ns, σ, outs, ho, hr, hJ => by
    have hri : ∀ x0 ∈ ins.filterMap id, x0 ∉ D := fun x0 h => hr x0 (mem_refsNodes_cons.2 (.inl (mem_refsN_mk.2 (.inl h))))
    have hrb : ∀ v ∈ refsBodies bodies, v ∉ D := fun v h => hr v (mem_refsNodes_cons.2 (.inl (mem_refsN_mk.2 (.inr h))))
    have hrn : ∀ v ∈ refsNodes ns, v ∉ D := fun v h => hr v (mem_refsNodes_cons.2 (.inr h))
    have hins : ∀ x ∈ (substIns σ ins).filterMap id, x ∉ D := by
      intro x hx
      obtain ⟨x0, h0, e⟩ := mem_substIns' hx
      rw [e]; exact app_not_mem hJ (hri x0 h0)
    refine ieNodes_cons_elim (P := fun r => (∀ v ∈ r.outs, v ∉ D) ∧ (∀ v ∈ refsNodes r.nodes, v ∉ D) ∧ ∀ p ∈ r.σ, p.2 ∉ D)
      ?_ (fun x y hc _ => ?_)
    · obtain ⟨i1, i2, i3⟩ := ieNodes_refs ii loc D ns σ outs ho hrn hJ
      refine ⟨i1, fun v hv => ?_, i3⟩
      simp only [refsNodes, refsN, List.mem_append] at hv
      rcases hv with (hv | hv) | hv
      · exact hins v hv
      · exact ieBodies_refs ii D bodies σ hrb hJ v hv
      · exact i2 v hv
    · have hx : x ∉ D := hins x (by rw [(ieCandidate_some hc).2.1]; simp)
      apply ieNodes_refs ii loc D ns _ _ _ hrn
      · intro p hp
        rcases List.mem_cons.1 hp with hp | hp
        · rw [hp]; exact hx
        · exact hJ p hp
      · intro v hv
        obtain ⟨o, ho', e⟩ := List.mem_map.1 hv
        split at e
        · rw [← e]; exact hx
        · rw [← e]; exact ho o ho'
theorem ieBodies_refs (ii : List VId) (D : List VId) : ∀ (bs : List Graph) (σ : Subst),
    (∀ v ∈ refsBodies bs, v ∉ D) → (∀ p ∈ σ, p.2 ∉ D) → ∀ v ∈ refsBodies (ieBodies ii σ bs), v ∉ D
  | [], _, _, _, v, h => by simp [ieBodies, refsBodies] at h
  | b :: bs, σ, hr, hJ, v, hv => by
    simp only [ieBodies, refsBodies, List.mem_append] at hv
    rcases hv with hv | hv
    · exact ieG_refs ii D b σ (fun v h => hr v (by simp [refsBodies, h])) hJ v hv
    · exact ieBodies_refs ii D bs σ (fun v h => hr v (by simp [refsBodies, h])) hJ v hv
end

/-- "reads avoid every `D` that the old reads and the values of `σ` avoid" says that every read is an old read or a value
    of `σ` (take `D := [w]`) -/
theorem mem_or_range_of_avoid {A B : List VId} {σ : Subst}
    (h : ∀ D : List VId, (∀ v ∈ A, v ∉ D) → (∀ p ∈ σ, p.2 ∉ D) → ∀ v ∈ B, v ∉ D) :
    ∀ w ∈ B, w ∈ A ∨ ∃ p ∈ σ, p.2 = w := by
  intro w hw
  by_cases hA : w ∈ A
  · exact Or.inl hA
  · refine Or.inr (Classical.byContradiction fun hX => ?_)
    exact h [w] (fun v hv hm => hA (List.mem_singleton.1 hm ▸ hv)) (fun p hp hm => hX ⟨p, hp, List.mem_singleton.1 hm⟩) w hw
      (List.mem_singleton.2 rfl)

mutual
theorem ieG_noFwd (ii : List VId) : ∀ (g : Graph) (σ : Subst), noFwdG g = true →
    (∀ p ∈ σ, p.2 ∉ defsG g) → noFwdG (ieG ii σ g) = true
  | .mk inputs outputs inits nodes, σ, hf, hJ => by
    simp only [noFwdG] at hf
    simp only [ieG, noFwdG]
    exact ieNodes_noFwd ii _ nodes σ outputs hf (fun p hp hm => hJ p hp (by simp [defsG, hm]))
theorem ieNodes_noFwd (ii loc : List VId) : ∀ (ns : List Node) (σ : Subst) (outs : List VId),
    noFwdNodes ns = true → (∀ p ∈ σ, p.2 ∉ defsNodes ns) →
    noFwdNodes (ieNodes ii loc σ outs ns).nodes = true
  | [], _, _, _, _ => rfl
  | .mk op attrs ins nouts bodies :: ns, σ, outs, hf, hJ => by
    obtain ⟨⟨⟨hf1, _⟩, hfb⟩, hfn⟩ := noFwdNodes_cons_iff.1 hf
    obtain ⟨hJ', hJb, _⟩ := range_notin_defs_cons hJ
    have hins : ∀ x ∈ (substIns σ ins).filterMap id, x ∉ defsNodes (.mk op attrs ins nouts bodies :: ns) := by
      intro x hx
      obtain ⟨x0, h0, e⟩ := mem_substIns' hx
      rw [e]; exact app_not_mem hJ (hf1 x0 h0)
    refine ieNodes_cons_elim (P := fun r => noFwdNodes r.nodes = true) ?_ (fun x y hc _ => ?_)
    · exact noFwdNodes_keep (X := fun w => ∃ p ∈ σ, p.2 = w) hf (fun w ⟨p, hp, e⟩ => e ▸ hJ p hp)
        (fun w hw => mem_substIns_cases hw) (mem_or_range_of_avoid (fun D => ieBodies_refs ii D bodies σ))
        (ieBodies_defs ii bodies σ) (ieNodes_defs ii loc ns σ outs) (ieBodies_noFwd ii bodies σ hfb hJb)
        (ieNodes_noFwd ii loc ns σ outs hfn hJ')
    · apply ieNodes_noFwd ii loc ns _ _ hfn
      intro p hp
      rcases List.mem_cons.1 hp with hp | hp
      · rw [hp]
        intro hm
        exact hins x (by rw [(ieCandidate_some hc).2.1]; simp) (by simp [defsNodes, hm])
      · exact hJ' p hp
theorem ieBodies_noFwd (ii : List VId) : ∀ (bs : List Graph) (σ : Subst), noFwdBodies bs = true →
    (∀ p ∈ σ, p.2 ∉ defsBodies bs) → noFwdBodies (ieBodies ii σ bs) = true
  | [], _, _, _ => rfl
  | b :: bs, σ, hf, hJ => by
    simp only [noFwdBodies, Bool.and_eq_true] at hf
    simp only [ieBodies, noFwdBodies, Bool.and_eq_true]
    exact ⟨ieG_noFwd ii b σ hf.1 (fun p hp hm => hJ p hp (by simp [defsBodies, hm])),
      ieBodies_noFwd ii bs σ hf.2 (fun p hp hm => hJ p hp (by simp [defsBodies, hm]))⟩
end


/-! ## Deduplicate(Hashed)Initializers -/

theorem dedupInits_facts (lim : Nat) (io : List VId) : ∀ (l : List (VId × Tensor)) (seen : List (DedupKey × VId)),
    (∀ q ∈ (dedupInits lim io seen l).1, q ∈ l) ∧
    (∀ p ∈ (dedupInits lim io seen l).2, p.2 ∈ seen.map Prod.snd ∨ p.2 ∈ l.map Prod.fst)
  | [], _ => ⟨fun _ h => by simp [dedupInits] at h, fun _ h => by simp [dedupInits] at h⟩
  | (v, t) :: rest, seen => by
    simp only [dedupInits]
    split
    · obtain ⟨i1, i2⟩ := dedupInits_facts lim io rest seen
      refine ⟨fun q hq => ?_, fun p hp => ?_⟩
      · rcases List.mem_cons.1 hq with hq | hq
        · rw [hq]; exact List.mem_cons_self
        · exact List.mem_cons_of_mem _ (i1 q hq)
      · exact (i2 p hp).imp id (fun h => by simp only [List.map_cons, List.mem_cons]; exact Or.inr h)
    · cases hl : seen.lookup (dedupKey t) with
      | some k =>
        obtain ⟨i1, i2⟩ := dedupInits_facts lim io rest seen
        simp only
        refine ⟨fun q hq => List.mem_cons_of_mem _ (i1 q hq), fun p hp => ?_⟩
        rcases List.mem_cons.1 hp with hp | hp
        · rw [hp]
          left
          have : (dedupKey t, k) ∈ seen := ListFacts.mem_of_lookup hl
          exact List.mem_map.2 ⟨_, this, rfl⟩
        · exact (i2 p hp).imp id (fun h => by simp only [List.map_cons, List.mem_cons]; exact Or.inr h)
      | none =>
        obtain ⟨i1, i2⟩ := dedupInits_facts lim io rest ((dedupKey t, v) :: seen)
        simp only
        refine ⟨fun q hq => ?_, fun p hp => ?_⟩
        · rcases List.mem_cons.1 hq with hq | hq
          · rw [hq]; exact List.mem_cons_self
          · exact List.mem_cons_of_mem _ (i1 q hq)
        · rcases i2 p hp with h | h
          · simp only [List.map_cons, List.mem_cons] at h
            rcases h with h | h
            · right; rw [h]; simp
            · exact Or.inl h
          · right; simp only [List.map_cons, List.mem_cons]; exact Or.inr h

/-- the replacements of one graph map to initializers of that graph -/
theorem dedupInits_range (lim : Nat) (io : List VId) (inits : List (VId × Tensor)) :
    ∀ p ∈ (dedupInits lim io [] inits).2, p.2 ∈ inits.map Prod.fst := by
  intro p hp
  rcases (dedupInits_facts lim io inits []).2 p hp with h | h
  · simp at h
  · exact h

mutual
theorem dedupG_defs (lim : Nat) : ∀ (g : Graph) (σ : Subst) (v : VId), v ∈ defsG (dedupG lim σ g) → v ∈ defsG g
  | .mk inputs outputs inits nodes, σ, v, h => by
    simp only [dedupG, defsG, List.mem_append] at h ⊢
    rcases h with (h | h) | h
    · exact Or.inl (Or.inl h)
    · refine Or.inl (Or.inr ?_)
      obtain ⟨q, hq, e⟩ := List.mem_map.1 h
      exact List.mem_map.2 ⟨q, (dedupInits_facts lim _ inits []).1 q hq, e⟩
    · exact Or.inr (dedupNodes_defs lim nodes _ v h)
theorem dedupNodes_defs (lim : Nat) : ∀ (ns : List Node) (σ : Subst) (v : VId),
    v ∈ defsNodes (dedupNodes lim σ ns) → v ∈ defsNodes ns
  | [], _, _, h => by simpa [dedupNodes] using h
  | .mk op attrs ins outs bodies :: ns, σ, v, h => by
    simp only [dedupNodes, defsNodes, defsN, List.mem_append] at h ⊢
    rcases h with (h | h) | h
    · exact Or.inl (Or.inl h)
    · exact Or.inl (Or.inr (dedupBodies_defs lim bodies σ v h))
    · exact Or.inr (dedupNodes_defs lim ns σ v h)
theorem dedupBodies_defs (lim : Nat) : ∀ (bs : List Graph) (σ : Subst) (v : VId),
    v ∈ defsBodies (dedupBodies lim σ bs) → v ∈ defsBodies bs
  | [], _, _, h => by simpa [dedupBodies] using h
  | b :: bs, σ, v, h => by
    simp only [dedupBodies, defsBodies, List.mem_append] at h ⊢
    exact h.elim (fun h => Or.inl (dedupG_defs lim b σ v h)) (fun h => Or.inr (dedupBodies_defs lim bs σ v h))
end

mutual
theorem dedupG_refs (lim : Nat) (D : List VId) : ∀ (g : Graph) (σ : Subst), (∀ v ∈ refsG g, v ∉ D) →
    (∀ v ∈ defsG g, v ∉ D) → (∀ p ∈ σ, p.2 ∉ D) → ∀ v ∈ refsG (dedupG lim σ g), v ∉ D
  | .mk inputs outputs inits nodes, σ, hr, hd, hJ, v, hv => by
    simp only [dedupG, refsG, List.mem_append] at hv
    rcases hv with hv | hv
    · exact hr v (by simp [refsG, hv])
    · refine dedupNodes_refs lim D nodes _ (fun v h => hr v (by simp [refsG, h]))
        (fun v h => hd v (by simp [defsG, h])) (fun p hp => ?_) v hv
      rcases List.mem_append.1 hp with hp | hp
      · exact hd p.2 (by
          have := dedupInits_range lim (inputs ++ outputs) inits p hp
          simp only [defsG, List.mem_append]; exact Or.inl (Or.inr this))
      · exact hJ p hp
theorem dedupNodes_refs (lim : Nat) (D : List VId) : ∀ (ns : List Node) (σ : Subst), (∀ v ∈ refsNodes ns, v ∉ D) →
    (∀ v ∈ defsNodes ns, v ∉ D) → (∀ p ∈ σ, p.2 ∉ D) → ∀ v ∈ refsNodes (dedupNodes lim σ ns), v ∉ D
  | [], _, _, _, _, v, h => by simp [dedupNodes, refsNodes] at h
  | .mk op attrs ins outs bodies :: ns, σ, hr, hd, hJ, v, hv => by
    simp only [dedupNodes, refsNodes, refsN, List.mem_append] at hv
    rcases hv with (hv | hv) | hv
    · obtain ⟨x0, h0, e⟩ := mem_substIns' hv
      rw [e]
      exact app_not_mem hJ (hr x0 (mem_refsNodes_cons.2 (.inl (mem_refsN_mk.2 (.inl h0)))))
    · exact dedupBodies_refs lim D bodies σ
        (fun v h => hr v (mem_refsNodes_cons.2 (.inl (mem_refsN_mk.2 (.inr h)))))
        (fun v h => hd v (mem_defsNodes_cons.2 (.inl (mem_defsN.2 (.inr h))))) hJ v hv
    · exact dedupNodes_refs lim D ns σ
        (fun v h => hr v (mem_refsNodes_cons.2 (.inr h)))
        (fun v h => hd v (mem_defsNodes_cons.2 (.inr h))) hJ v hv
theorem dedupBodies_refs (lim : Nat) (D : List VId) : ∀ (bs : List Graph) (σ : Subst), (∀ v ∈ refsBodies bs, v ∉ D) →
    (∀ v ∈ defsBodies bs, v ∉ D) → (∀ p ∈ σ, p.2 ∉ D) → ∀ v ∈ refsBodies (dedupBodies lim σ bs), v ∉ D
  | [], _, _, _, _, v, h => by simp [dedupBodies, refsBodies] at h
  | b :: bs, σ, hr, hd, hJ, v, hv => by
    simp only [dedupBodies, refsBodies, List.mem_append] at hv
    rcases hv with hv | hv
    · exact dedupG_refs lim D b σ (fun v h => hr v (by simp [refsBodies, h]))
        (fun v h => hd v (by simp [defsBodies, h])) hJ v hv
    · exact dedupBodies_refs lim D bs σ (fun v h => hr v (by simp [refsBodies, h]))
        (fun v h => hd v (by simp [defsBodies, h])) hJ v hv
end

mutual
theorem dedupG_noFwd (lim : Nat) : ∀ (g : Graph) (σ : Subst), ssaG g = true → noFwdG g = true →
    (∀ p ∈ σ, p.2 ∉ defsG g) → noFwdG (dedupG lim σ g) = true
  | .mk inputs outputs inits nodes, σ, hs, hf, hJ => by
    simp only [ssaG, Bool.and_eq_true, disj_iff] at hs
    simp only [noFwdG] at hf
    simp only [dedupG, noFwdG]
    refine dedupNodes_noFwd lim nodes _ hs.2 hf (fun p hp => ?_)
    rcases List.mem_append.1 hp with hp | hp
    · have := dedupInits_range lim (inputs ++ outputs) inits p hp
      exact hs.1.2 p.2 (by simp only [List.mem_append]; exact Or.inr this)
    · exact fun hm => hJ p hp (by simp [defsG, hm])
theorem dedupNodes_noFwd (lim : Nat) : ∀ (ns : List Node) (σ : Subst), ssaNodes ns = true →
    noFwdNodes ns = true → (∀ p ∈ σ, p.2 ∉ defsNodes ns) → noFwdNodes (dedupNodes lim σ ns) = true
  | [], _, _, _, _ => rfl
  | .mk op attrs ins outs bodies :: ns, σ, hs, hf, hJ => by
    simp only [ssaNodes, ssaN, Bool.and_eq_true, disj_iff] at hs
    obtain ⟨⟨⟨hf1, hf2⟩, hfb⟩, hfn⟩ := noFwdNodes_cons_iff.1 hf
    obtain ⟨hJ', hJb, hJo⟩ := range_notin_defs_cons hJ
    have hdb : ∀ v ∈ defsBodies bodies, v ∉ outs ++ defsNodes ns := by
      intro v hv hm
      rcases List.mem_append.1 hm with hm | hm
      · exact hs.1.1.1.2 v hm hv
      · exact hs.1.2 v (by simp [defsN, hv]) hm
    simp only [dedupNodes, noFwdNodes, noFwdN, Bool.and_eq_true, disj_iff, Node.ins, Node.bodies, Node.outs]
    refine ⟨⟨⟨fun x hx hm => ?_, fun v hv hm => ?_⟩, dedupBodies_noFwd lim bodies σ hs.1.1.2 hfb hJb⟩,
      dedupNodes_noFwd lim ns σ hs.2 hfn hJ'⟩
    · obtain ⟨x0, h0, e⟩ := mem_substIns' hx
      refine app_not_mem hJ (hf1 x0 h0) ?_
      rw [← e]
      have : x ∈ defsNodes (dedupNodes lim σ (.mk op attrs ins outs bodies :: ns)) := by
        simpa only [dedupNodes] using hm
      exact dedupNodes_defs lim _ σ x this
    · refine dedupBodies_refs lim (outs ++ defsNodes ns) bodies σ hf2 hdb hJo v hv ?_
      simp only [List.mem_append] at hm ⊢
      exact hm.imp id (dedupNodes_defs lim ns σ v)
theorem dedupBodies_noFwd (lim : Nat) : ∀ (bs : List Graph) (σ : Subst), ssaBodies bs = true →
    noFwdBodies bs = true → (∀ p ∈ σ, p.2 ∉ defsBodies bs) → noFwdBodies (dedupBodies lim σ bs) = true
  | [], _, _, _, _ => rfl
  | b :: bs, σ, hs, hf, hJ => by
    simp only [ssaBodies, Bool.and_eq_true] at hs
    simp only [noFwdBodies, Bool.and_eq_true] at hf
    simp only [dedupBodies, noFwdBodies, Bool.and_eq_true]
    exact ⟨dedupG_noFwd lim b σ hs.1.1 hf.1 (fun p hp hm => hJ p hp (by simp [defsBodies, hm])),
      dedupBodies_noFwd lim bs σ hs.2 hf.2 (fun p hp hm => hJ p hp (by simp [defsBodies, hm]))⟩
end

end IrVerif.PassFlags

namespace IrVerif.PassInfra
open IrVerif.Sem IrVerif.Passes IrVerif.PassFlags

theorem sorted_of_valid (m : Model) (hv : validModel m = true) : sortedModel m = true := by
  obtain ⟨hg, hfs⟩ := (validModel_iff m).1 hv
  simp only [sortedModel, Bool.and_eq_true, List.all_eq_true]
  exact ⟨hg.2.2.1, fun f hf => (hfs f hf).2.2.1⟩

end IrVerif.PassInfra
