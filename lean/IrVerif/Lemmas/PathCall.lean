/-
C10 helper lemmas: what running the statement lists of the five entry points (`body`) amounts to.
`callSpec` is a closed form used only in proofs; `call_eq_spec` shows that executing the bodies
computes it: `tofile` (`tofileSpec`), a call served from the cached state (`quiet`, `cachedSpec`), or a call through
`_load` (`viaLoad`).
-/
import IrVerif.Model.Path
namespace IrVerif.Path

/-- the events of a check followed (when it does not reject) by an open of the tensor's path -/
def guardedEvents (fs : FS) (kfuel fuel : Nat) (cwdS : Str) (cwd : Loc) (base loc : Str) : List Ev :=
  let v := checkContainment fs kfuel fuel cwdS cwd base loc
  if rejecting v then [Ev.check v]
  else [Ev.check v, Ev.openEv (tensorPath base loc) ((openFile fs kfuel cwd (tensorPath base loc)).map Prod.fst)]

/-- the inode (and its regular flag) a check-then-open reaches -/
def guardedOpen (fs : FS) (kfuel fuel : Nat) (cwdS : Str) (cwd : Loc) (base loc : Str) : Option (Nat × Bool) :=
  if rejecting (checkContainment fs kfuel fuel cwdS cwd base loc) then none
  else openFile fs kfuel cwd (tensorPath base loc)

/-- closed form of `_load`: (completed?, state afterwards) -/
def loadSpec (fs : FS) (kfuel fuel : Nat) (cwdS : Str) (cwd : Loc) (base loc : Str) (offset length : Nat)
    (st : TState) : Bool × TState :=
  match guardedOpen fs kfuel fuel cwdS cwd base loc with
  | none => (false, st)
  | some (i, reg) =>
    if reg = false ∨ fs.data i = [] then (false, st)
    else if (fs.data i).length < offset + length then (false, { raw := some i, arr := false })
    else (true, { raw := some i, arr := true })

/-- a test on the entry point and the cached state, made before anything runs -/
def quiet (ep : EntryPoint) (st : TState) : Bool :=
  match ep with
  | EntryPoint.tofile => false
  | EntryPoint.tobytes => st.arr && st.raw.isSome
  | _ => st.arr

def tofileSpec (fs : FS) (kfuel fuel : Nat) (cwdS : Str) (cwd : Loc) (base loc : Str) (offset length : Nat)
    (st : TState) : ReadResult × List Ev × TState :=
  match guardedOpen fs kfuel fuel cwdS cwd base loc with
  | none => (ReadResult.raised, guardedEvents fs kfuel fuel cwdS cwd base loc, st)
  | some (i, _) =>
    if 0 < length ∧ (fs.data i).length < offset + length then
      (ReadResult.raised, guardedEvents fs kfuel fuel cwdS cwd base loc, st)
    else (ReadResult.ok (sliceOf (fs.data i) offset length), guardedEvents fs kfuel fuel cwdS cwd base loc, st)

def cachedSpec (fs : FS) (offset length : Nat) (ep : EntryPoint) (st : TState) : ReadResult × List Ev × TState :=
  match st.raw with
  | some j => (ReadResult.ok (sliceOf (fs.data j) offset length), [],
      if ep = EntryPoint.serializeRaw then TState.fresh else st)
  | none => (ReadResult.raised, [], st)

/-- `fin` = what the entry point does to the cached state after a completed `_load` -/
def viaLoad (fs : FS) (kfuel fuel : Nat) (cwdS : Str) (cwd : Loc) (base loc : Str) (offset length : Nat)
    (st : TState) (fin : TState → TState) : ReadResult × List Ev × TState :=
  match (loadSpec fs kfuel fuel cwdS cwd base loc offset length st).1,
      (loadSpec fs kfuel fuel cwdS cwd base loc offset length st).2.raw with
  | true, some i => (ReadResult.ok (sliceOf (fs.data i) offset length),
      guardedEvents fs kfuel fuel cwdS cwd base loc,
      fin (loadSpec fs kfuel fuel cwdS cwd base loc offset length st).2)
  | _, _ => (ReadResult.raised, guardedEvents fs kfuel fuel cwdS cwd base loc,
      (loadSpec fs kfuel fuel cwdS cwd base loc offset length st).2)

def callSpec (fs : FS) (kfuel fuel : Nat) (cwdS : Str) (cwd : Loc) (base loc : Str) (offset length : Nat)
    (ep : EntryPoint) (st : TState) : ReadResult × List Ev × TState :=
  if ep = EntryPoint.tofile then tofileSpec fs kfuel fuel cwdS cwd base loc offset length st
  else if quiet ep st then cachedSpec fs offset length ep st
  else viaLoad fs kfuel fuel cwdS cwd base loc offset length st
    (if ep = EntryPoint.serializeRaw then fun _ => TState.fresh else id)

theorem exec_loadBody (e : Env) (r : Run) (hr : r.raised = false) :
    execPrims e r loadBody =
      { st := (loadSpec e.fs e.kfuel e.fuel e.cwdS e.cwd e.base e.loc e.offset e.length r.st).2,
        events := r.events ++ guardedEvents e.fs e.kfuel e.fuel e.cwdS e.cwd e.base e.loc,
        pending := r.pending,
        raised := !(loadSpec e.fs e.kfuel e.fuel e.cwdS e.cwd e.base e.loc e.offset e.length r.st).1 } := by
  obtain ⟨st, events, pending, raised⟩ := r
  simp only at hr
  subst hr
  unfold loadBody loadSpec guardedOpen guardedEvents
  by_cases hv : rejecting (checkContainment e.fs e.kfuel e.fuel e.cwdS e.cwd e.base e.loc) = true
  · simp [execPrims, execPrim, hv]
  · have hv' : rejecting (checkContainment e.fs e.kfuel e.fuel e.cwdS e.cwd e.base e.loc) = false := by
      simpa using hv
    cases ho : openFile e.fs e.kfuel e.cwd (tensorPath e.base e.loc) with
    | none => simp [execPrims, execPrim, hv', ho]
    | some ir =>
      obtain ⟨i, reg⟩ := ir
      by_cases h1 : reg = false ∨ e.fs.data i = []
      · simp [execPrims, execPrim, hv', ho, h1]
      · by_cases h2 : (e.fs.data i).length < e.offset + e.length
        · simp [execPrims, execPrim, hv', ho, h1, h2]
        · simp [execPrims, execPrim, hv', ho, h1, h2]

/-- `_load` leaves the state alone (nothing opened, or not a regular file with data), or it opened a regular file `i`
and cached it: too short for the slice (not completed), or completed -/
theorem loadSpec_cases (fs : FS) (kfuel fuel : Nat) (cwdS : Str) (cwd : Loc) (base loc : Str)
    (offset length : Nat) (st : TState) :
    loadSpec fs kfuel fuel cwdS cwd base loc offset length st = (false, st) ∨
    ∃ i, guardedOpen fs kfuel fuel cwdS cwd base loc = some (i, true) ∧
      (loadSpec fs kfuel fuel cwdS cwd base loc offset length st = (false, { raw := some i, arr := false }) ∨
       loadSpec fs kfuel fuel cwdS cwd base loc offset length st = (true, { raw := some i, arr := true })) := by
  unfold loadSpec
  cases hg : guardedOpen fs kfuel fuel cwdS cwd base loc with
  | none => exact Or.inl rfl
  | some ir =>
    obtain ⟨i, reg⟩ := ir
    by_cases h1 : reg = false ∨ fs.data i = []
    · exact Or.inl (by simp [h1])
    · have hreg : reg = true := by cases reg <;> simp_all
      subst hreg
      have h1' : ¬ fs.data i = [] := fun e => h1 (Or.inr e)
      refine Or.inr ⟨i, rfl, ?_⟩
      by_cases h2 : (fs.data i).length < offset + length <;> simp [h1', h2]

theorem loadSpec_ok (fs : FS) (kfuel fuel : Nat) (cwdS : Str) (cwd : Loc) (base loc : Str)
    (offset length : Nat) (st : TState)
    (h : (loadSpec fs kfuel fuel cwdS cwd base loc offset length st).1 = true) :
    ∃ i, guardedOpen fs kfuel fuel cwdS cwd base loc = some (i, true) ∧
      (loadSpec fs kfuel fuel cwdS cwd base loc offset length st).2 = { raw := some i, arr := true } := by
  rcases loadSpec_cases fs kfuel fuel cwdS cwd base loc offset length st with e | ⟨i, g, e | e⟩ <;> rw [e] at h ⊢
  · cases h
  · cases h
  · exact ⟨i, g, rfl⟩

theorem execStmts_raised (e : Env) (r : Run) (h : r.raised = true) : ∀ ss, execStmts e r ss = r
  | [] => rfl
  | _ :: _ => by simp [execStmts, h]

theorem runBody_load (e : Env) (st0 : TState) (fin : TState → TState) (pre : Stmt) (tail : List Stmt)
    (hpre : execStmt e { st := st0, events := [], pending := none, raised := false } pre =
      execPrims e { st := st0, events := [], pending := none, raised := false } loadBody)
    (htail : ∀ i, execStmts e
        { st := { raw := some i, arr := true }, events := guardedEvents e.fs e.kfuel e.fuel e.cwdS e.cwd e.base e.loc,
          pending := none, raised := false } tail =
        { st := fin { raw := some i, arr := true },
          events := guardedEvents e.fs e.kfuel e.fuel e.cwdS e.cwd e.base e.loc,
          pending := some (sliceOf (e.fs.data i) e.offset e.length), raised := false }) :
    runBody e st0 (pre :: tail) =
      viaLoad e.fs e.kfuel e.fuel e.cwdS e.cwd e.base e.loc e.offset e.length st0 fin := by
  unfold runBody viaLoad
  simp only [execStmts, Bool.false_eq_true, if_false]
  rw [hpre, exec_loadBody _ _ rfl]
  simp only [List.nil_append]
  cases hl1 : (loadSpec e.fs e.kfuel e.fuel e.cwdS e.cwd e.base e.loc e.offset e.length st0).1 with
  | false => rw [execStmts_raised _ _ (by simp)]; simp
  | true =>
    obtain ⟨i, _, hst⟩ := loadSpec_ok _ _ _ _ _ _ _ _ _ _ hl1
    simp only [hst, Bool.not_true]
    rw [htail i]
    rfl

theorem call_eq_spec (fs : FS) (kfuel fuel : Nat) (cwdS : Str) (cwd : Loc) (base loc : Str)
    (offset length : Nat) (ep : EntryPoint) (st : TState) :
    call fs kfuel fuel cwdS cwd base loc offset length ep st =
      callSpec fs kfuel fuel cwdS cwd base loc offset length ep st := by
  obtain ⟨raw, arr⟩ := st
  unfold call callSpec
  cases ep with
  | tofile =>
    simp only [if_true, tofileSpec, runBody, body, execStmts, execStmt, execPrim, guardedOpen, guardedEvents]
    by_cases hv : rejecting (checkContainment fs kfuel fuel cwdS cwd base loc) = true
    · simp [hv]
    · have hv' : rejecting (checkContainment fs kfuel fuel cwdS cwd base loc) = false := by simpa using hv
      cases ho : openFile fs kfuel cwd (tensorPath base loc) with
      | none => simp [hv']
      | some ir =>
        obtain ⟨i, reg⟩ := ir
        by_cases h2 : 0 < length ∧ (fs.data i).length < offset + length
        · simp [hv', h2]
        · simp [hv', h2]
  | tobytes =>
    cases arr with
    | true =>
      cases raw with
      | some j => simp [runBody, body, execStmts, execStmt, execPrim, quiet, cachedSpec]
      | none =>
        simp only [quiet, reduceCtorEq, if_false, Bool.true_and, Option.isSome_none, Bool.false_eq_true, body]
        exact runBody_load _ _ id _ _ (by simp [execStmt]) (fun i => by simp [execStmts, execStmt, execPrim])
    | false =>
      simp only [quiet, reduceCtorEq, if_false, Bool.false_and, Bool.false_eq_true, body]
      exact runBody_load _ _ id _ _ (by simp [execStmt]) (fun i => by simp [execStmts, execStmt, execPrim])
  | numpy | array =>
    cases arr with
    | true => cases raw <;> simp [runBody, body, execStmts, execStmt, execPrim, quiet, cachedSpec]
    | false =>
      simp only [quiet, reduceCtorEq, if_false, Bool.false_eq_true, body]
      exact runBody_load _ _ id _ _ (by simp [execStmt]) (fun i => by simp [execStmts, execStmt, execPrim])
  | serializeRaw =>
    cases arr with
    | true => cases raw <;> simp [runBody, body, execStmts, execStmt, execPrim, quiet, cachedSpec]
    | false =>
      simp only [quiet, reduceCtorEq, if_false, if_true, Bool.false_eq_true, body]
      exact runBody_load _ _ (fun _ => TState.fresh) _ _ (by simp [execStmt])
        (fun i => by simp [execStmts, execStmt, execPrim])

/-- the check rejects and nothing is opened, or it does not and the open follows -/
theorem guarded_cases (fs : FS) (kfuel fuel : Nat) (cwdS : Str) (cwd : Loc) (base loc : Str) :
    (rejecting (checkContainment fs kfuel fuel cwdS cwd base loc) = true ∧
      guardedEvents fs kfuel fuel cwdS cwd base loc = [Ev.check (checkContainment fs kfuel fuel cwdS cwd base loc)] ∧
      guardedOpen fs kfuel fuel cwdS cwd base loc = none) ∨
    (rejecting (checkContainment fs kfuel fuel cwdS cwd base loc) = false ∧
      guardedEvents fs kfuel fuel cwdS cwd base loc = [Ev.check (checkContainment fs kfuel fuel cwdS cwd base loc),
        Ev.openEv (tensorPath base loc) ((openFile fs kfuel cwd (tensorPath base loc)).map Prod.fst)] ∧
      guardedOpen fs kfuel fuel cwdS cwd base loc = openFile fs kfuel cwd (tensorPath base loc)) := by
  unfold guardedEvents guardedOpen
  cases h : rejecting (checkContainment fs kfuel fuel cwdS cwd base loc) <;> simp [h]

theorem guardedEvents_ne_nil (fs : FS) (kfuel fuel : Nat) (cwdS : Str) (cwd : Loc) (base loc : Str) :
    guardedEvents fs kfuel fuel cwdS cwd base loc ≠ [] := by
  rcases guarded_cases fs kfuel fuel cwdS cwd base loc with ⟨_, e, _⟩ | ⟨_, e, _⟩ <;> rw [e] <;> simp

theorem guardedEvents_open (fs : FS) (kfuel fuel : Nat) (cwdS : Str) (cwd : Loc) (base loc : Str)
    (p : Str) (oi : Option Nat) (h : Ev.openEv p oi ∈ guardedEvents fs kfuel fuel cwdS cwd base loc) :
    p = tensorPath base loc ∧ rejecting (checkContainment fs kfuel fuel cwdS cwd base loc) = false ∧
      oi = (guardedOpen fs kfuel fuel cwdS cwd base loc).map Prod.fst := by
  rcases guarded_cases fs kfuel fuel cwdS cwd base loc with ⟨_, e, _⟩ | ⟨hv, e, g⟩ <;> rw [e] at h
  · simp at h
  · simp at h
    exact ⟨h.1, hv, by rw [g]; exact h.2⟩

theorem guardedOpen_event (fs : FS) (kfuel fuel : Nat) (cwdS : Str) (cwd : Loc) (base loc : Str)
    (i : Nat) (reg : Bool) (h : guardedOpen fs kfuel fuel cwdS cwd base loc = some (i, reg)) :
    Ev.openEv (tensorPath base loc) (some i) ∈ guardedEvents fs kfuel fuel cwdS cwd base loc ∧
      rejecting (checkContainment fs kfuel fuel cwdS cwd base loc) = false ∧
      openFile fs kfuel cwd (tensorPath base loc) = some (i, reg) := by
  rcases guarded_cases fs kfuel fuel cwdS cwd base loc with ⟨_, _, g⟩ | ⟨hv, e, g⟩ <;> rw [g] at h
  · cases h
  · exact ⟨by rw [e, h]; simp, hv, h⟩

theorem viaLoad_events (fs : FS) (kfuel fuel : Nat) (cwdS : Str) (cwd : Loc) (base loc : Str)
    (offset length : Nat) (st : TState) (fin : TState → TState) :
    (viaLoad fs kfuel fuel cwdS cwd base loc offset length st fin).2.1 =
      guardedEvents fs kfuel fuel cwdS cwd base loc := by
  unfold viaLoad
  split <;> rfl

theorem tofileSpec_events (fs : FS) (kfuel fuel : Nat) (cwdS : Str) (cwd : Loc) (base loc : Str)
    (offset length : Nat) (st : TState) :
    (tofileSpec fs kfuel fuel cwdS cwd base loc offset length st).2.1 =
      guardedEvents fs kfuel fuel cwdS cwd base loc := by
  unfold tofileSpec
  split
  · rfl
  · split <;> rfl

theorem quiet_ne (ep : EntryPoint) (st : TState) (h : quiet ep st = true) :
    ep ≠ EntryPoint.tofile ∧ st ≠ TState.fresh := by
  obtain ⟨raw, arr⟩ := st
  cases ep <;> cases arr <;> simp_all [quiet, TState.fresh]

theorem callSpec_of_quiet (fs : FS) (kfuel fuel : Nat) (cwdS : Str) (cwd : Loc) (base loc : Str)
    (offset length : Nat) (ep : EntryPoint) (st : TState) (h : quiet ep st = true) :
    callSpec fs kfuel fuel cwdS cwd base loc offset length ep st = cachedSpec fs offset length ep st := by
  unfold callSpec
  rw [if_neg (quiet_ne ep st h).1, if_pos h]

theorem callSpec_loud_events (fs : FS) (kfuel fuel : Nat) (cwdS : Str) (cwd : Loc) (base loc : Str)
    (offset length : Nat) (ep : EntryPoint) (st : TState) (h : quiet ep st = false) :
    (callSpec fs kfuel fuel cwdS cwd base loc offset length ep st).2.1 =
      guardedEvents fs kfuel fuel cwdS cwd base loc := by
  unfold callSpec
  split
  · exact tofileSpec_events _ _ _ _ _ _ _ _ _ _
  · rw [if_neg (by rw [h]; simp)]
    exact viaLoad_events _ _ _ _ _ _ _ _ _ _ _

theorem cachedSpec_events (fs : FS) (offset length : Nat) (ep : EntryPoint) (st : TState) :
    (cachedSpec fs offset length ep st).2.1 = [] := by
  unfold cachedSpec
  split <;> rfl

theorem callSpec_events (fs : FS) (kfuel fuel : Nat) (cwdS : Str) (cwd : Loc) (base loc : Str)
    (offset length : Nat) (ep : EntryPoint) (st : TState) :
    ((callSpec fs kfuel fuel cwdS cwd base loc offset length ep st).2.1 = [] ∧
        ep ≠ EntryPoint.tofile ∧ st ≠ TState.fresh) ∨
    (callSpec fs kfuel fuel cwdS cwd base loc offset length ep st).2.1 =
        guardedEvents fs kfuel fuel cwdS cwd base loc := by
  cases h : quiet ep st with
  | true =>
    rw [callSpec_of_quiet _ _ _ _ _ _ _ _ _ _ _ h]
    exact Or.inl ⟨cachedSpec_events _ _ _ _ _, quiet_ne ep st h⟩
  | false => exact Or.inr (callSpec_loud_events _ _ _ _ _ _ _ _ _ _ _ h)

theorem loadSpec_raw (fs : FS) (kfuel fuel : Nat) (cwdS : Str) (cwd : Loc) (base loc : Str)
    (offset length : Nat) (st : TState) (i : Nat)
    (h : (loadSpec fs kfuel fuel cwdS cwd base loc offset length st).2.raw = some i) :
    st.raw = some i ∨ guardedOpen fs kfuel fuel cwdS cwd base loc = some (i, true) := by
  rcases loadSpec_cases fs kfuel fuel cwdS cwd base loc offset length st with e | ⟨j, g, e | e⟩ <;> rw [e] at h
  · exact Or.inl h
  · cases h; exact Or.inr g
  · cases h; exact Or.inr g

theorem callSpec_result (fs : FS) (kfuel fuel : Nat) (cwdS : Str) (cwd : Loc) (base loc : Str)
    (offset length : Nat) (ep : EntryPoint) (st : TState) :
    (∀ bytes, (callSpec fs kfuel fuel cwdS cwd base loc offset length ep st).1 = ReadResult.ok bytes →
      ∃ i, bytes = sliceOf (fs.data i) offset length ∧
        ((∃ reg, guardedOpen fs kfuel fuel cwdS cwd base loc = some (i, reg) ∧
            (callSpec fs kfuel fuel cwdS cwd base loc offset length ep st).2.1 =
              guardedEvents fs kfuel fuel cwdS cwd base loc) ∨
          ((callSpec fs kfuel fuel cwdS cwd base loc offset length ep st).2.1 = [] ∧ st.raw = some i))) ∧
    (∀ i, (callSpec fs kfuel fuel cwdS cwd base loc offset length ep st).2.2.raw = some i →
      st.raw = some i ∨ (guardedOpen fs kfuel fuel cwdS cwd base loc = some (i, true) ∧
        (callSpec fs kfuel fuel cwdS cwd base loc offset length ep st).2.1 =
          guardedEvents fs kfuel fuel cwdS cwd base loc)) := by
  cases hq : quiet ep st with
  | true =>
    rw [callSpec_of_quiet _ _ _ _ _ _ _ _ _ _ _ hq]
    unfold cachedSpec
    cases hr : st.raw with
    | none => exact ⟨fun b h => by simp at h, fun i h => by simp [hr] at h⟩
    | some j =>
      refine ⟨fun b h => ?_, fun i h => ?_⟩
      · simp only [ReadResult.ok.injEq] at h
        exact ⟨j, h.symm, Or.inr ⟨rfl, rfl⟩⟩
      · dsimp only at h
        split at h
        · simp [TState.fresh] at h
        · exact Or.inl (hr ▸ h)
  | false =>
    have hev := callSpec_loud_events fs kfuel fuel cwdS cwd base loc offset length ep st hq
    rw [hev]
    unfold callSpec
    split
    · unfold tofileSpec
      cases hg : guardedOpen fs kfuel fuel cwdS cwd base loc with
      | none => exact ⟨fun b h => by simp at h, fun i h => Or.inl h⟩
      | some ir =>
        obtain ⟨j, reg⟩ := ir
        dsimp only
        split
        · exact ⟨fun b h => by simp at h, fun i h => Or.inl h⟩
        · refine ⟨fun b h => ?_, fun i h => Or.inl h⟩
          simp only [ReadResult.ok.injEq] at h
          exact ⟨j, h.symm, Or.inl ⟨reg, rfl, rfl⟩⟩
    · rw [if_neg (by rw [hq]; simp)]
      unfold viaLoad
      cases hl1 : (loadSpec fs kfuel fuel cwdS cwd base loc offset length st).1 with
      | false =>
        refine ⟨fun b h => by simp at h, fun i h => ?_⟩
        rcases loadSpec_raw _ _ _ _ _ _ _ _ _ _ i (by simpa using h) with h' | h'
        · exact Or.inl h'
        · exact Or.inr ⟨h', rfl⟩
      | true =>
        obtain ⟨j, hg, hst⟩ := loadSpec_ok _ _ _ _ _ _ _ _ _ _ hl1
        rw [hst]
        refine ⟨fun b h => ?_, fun i h => ?_⟩
        · simp only [ReadResult.ok.injEq] at h
          exact ⟨j, h.symm, Or.inl ⟨true, hg, rfl⟩⟩
        · dsimp only at h
          split at h
          · simp [TState.fresh] at h
          · simp only [id, Option.some.injEq] at h
            subst h
            exact Or.inr ⟨hg, rfl⟩

theorem callSpec_loud (fs : FS) (kfuel fuel : Nat) (cwdS : Str) (cwd : Loc) (base loc : Str)
    (offset length : Nat) (ep : EntryPoint) (st : TState) (h : quiet ep st = false) :
    (callSpec fs kfuel fuel cwdS cwd base loc offset length ep st).2.1 =
      guardedEvents fs kfuel fuel cwdS cwd base loc ∧
    (guardedOpen fs kfuel fuel cwdS cwd base loc = none →
      (callSpec fs kfuel fuel cwdS cwd base loc offset length ep st).1 = ReadResult.raised ∧
      (callSpec fs kfuel fuel cwdS cwd base loc offset length ep st).2.2 = st) := by
  refine ⟨callSpec_loud_events _ _ _ _ _ _ _ _ _ _ _ h, fun hg => ?_⟩
  unfold callSpec
  split
  · unfold tofileSpec; rw [hg]; exact ⟨rfl, rfl⟩
  · rw [if_neg (by rw [h]; simp)]
    have hl : loadSpec fs kfuel fuel cwdS cwd base loc offset length st = (false, st) := by
      unfold loadSpec; rw [hg]
    unfold viaLoad
    rw [hl]
    exact ⟨rfl, rfl⟩

theorem callSpec_congr (fs : FS) (kfuel fuel fuel' : Nat) (cwdS : Str) (cwd : Loc) (base loc : Str)
    (offset length : Nat) (ep : EntryPoint) (st : TState)
    (h : checkContainment fs kfuel fuel cwdS cwd base loc = checkContainment fs kfuel fuel' cwdS cwd base loc) :
    callSpec fs kfuel fuel cwdS cwd base loc offset length ep st =
      callSpec fs kfuel fuel' cwdS cwd base loc offset length ep st := by
  unfold callSpec tofileSpec viaLoad loadSpec guardedEvents guardedOpen
  rw [h]

theorem check2_true (fs : FS) (kfuel fuel : Nat) (cwdS : Str) (cwd : Loc) (base loc : Str)
    (h : check2 fs kfuel fuel cwdS cwd base loc = true) :
    (hasNul base || hasNul loc) = false ∧
      contained (realpath fs kfuel fuel cwdS cwd base)
        (realpath fs kfuel fuel cwdS cwd (tensorPath base loc)) = true := by
  unfold check2 at h
  cases hn : (hasNul base || hasNul loc) with
  | true => simp [hn] at h
  | false => simpa [hn] using h

theorem checkContainment_pass (fs : FS) (kfuel fuel : Nat) (cwdS : Str) (cwd : Loc) (base loc : Str)
    (h : checkContainment fs kfuel fuel cwdS cwd base loc = Verdict.pass) :
    base ≠ [] ∧ check1 cwdS base loc = true ∧ check2 fs kfuel fuel cwdS cwd base loc = true ∧
      check3 fs kfuel fuel cwdS cwd base loc = true := by
  unfold checkContainment at h
  split at h
  · exact absurd h (by simp)
  · rename_i hb
    split at h
    · exact absurd h (by simp)
    · rename_i h1
      split at h
      · exact absurd h (by simp)
      · rename_i h2
        split at h
        · exact absurd h (by simp)
        · rename_i h3
          exact ⟨hb, by simpa using h1, by simpa using h2, by simpa using h3⟩

theorem checkContainment_skipped (fs : FS) (kfuel fuel : Nat) (cwdS : Str) (cwd : Loc) (base loc : Str)
    (h : checkContainment fs kfuel fuel cwdS cwd base loc = Verdict.skipped) : base = [] := by
  unfold checkContainment at h
  split at h
  · assumption
  · split at h
    · exact absurd h (by simp)
    · split at h
      · exact absurd h (by simp)
      · split at h <;> exact absurd h (by simp)

theorem pass_of_not_rejecting (fs : FS) (kfuel fuel : Nat) (cwdS : Str) (cwd : Loc) (base loc : Str)
    (hb : base ≠ []) (h : rejecting (checkContainment fs kfuel fuel cwdS cwd base loc) = false) :
    checkContainment fs kfuel fuel cwdS cwd base loc = Verdict.pass := by
  cases hv : checkContainment fs kfuel fuel cwdS cwd base loc with
  | rej1 => rw [hv] at h; simp [rejecting] at h
  | rej2 => rw [hv] at h; simp [rejecting] at h
  | rej3 => rw [hv] at h; simp [rejecting] at h
  | skipped => exact absurd (checkContainment_skipped _ _ _ _ _ _ _ hv) hb
  | pass => rfl

theorem read_events (fs : FS) (kfuel fuel : Nat) (cwdS : Str) (cwd : Loc) (base loc : Str)
    (offset length : Nat) (ep : EntryPoint) :
    (read fs kfuel fuel cwdS cwd base loc offset length ep).2 =
      guardedEvents fs kfuel fuel cwdS cwd base loc := by
  unfold read
  simp only
  rw [call_eq_spec]
  rcases callSpec_events fs kfuel fuel cwdS cwd base loc offset length ep TState.fresh with ⟨_, _, h⟩ | h
  · exact absurd rfl h
  · exact h

end IrVerif.Path
