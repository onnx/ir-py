/-
C19 — the complete `InlinePass` (`Model/DeviceInl.lean`): every model of the world is still `ModelOK` after
the pass.

`inlineCall` appends the nodes it creates to the flat list of EVERY model that owns the graph being edited, not
only to model `m`; a created node carries configurations registered on `m`.  So the statement needs: what is
registered on `m` is registered on every model of the world (`RegShared`; trivial for a world with one model).
Without it the statement is false (two models sharing the main graph, the second without registrations).
-/
import IrVerif.Lemmas.DeviceInlAxes
namespace IrVerif.Device

/-- what is registered on model `m` is registered on every model of the world -/
def RegShared (w : World) (m : MId) : Prop :=
  ∀ ms ∈ w.models, ∀ c ∈ (w.model m).cfgs, c ∈ ms.cfgs

instance (w : World) (m : MId) : Decidable (RegShared w m) := by unfold RegShared; infer_instance

theorem RegShared_of_single (w : World) (m : MId) (h1 : w.models.length ≤ 1) : RegShared w m := by
  intro ms hms c hc
  rcases model_mem_or_default w m with h2 | h2
  · match hw : w.models, h1, hms, h2 with
    | [x], _, hms, h2 =>
      simp only [List.mem_singleton] at hms h2
      rw [hms, ← h2]; exact hc
    | [], _, hms, _ => simp at hms
  · rw [h2] at hc; simp at hc

/-- **after the pass every model of the world is still `ModelOK`**, provided the registrations of `m` are
    shared by every model (false without: `inlineCall` lists the created nodes on every model owning the graph) -/
theorem inlinePass_models {w : World} (h : DevOK w) (m : MId) (hreg : HeapReg w m) (hsub : RegShared w m)
    (t : ITab) (fuel : Nat) (r : IOut) (hr : inlinePass fuel w m t = some r) :
    ∀ ms ∈ r.w.models, ModelOK r.w ms := by
  have hj := inlinePass_WJ hr h hreg
  intro ms hms
  have hc : ms.cfgs ∈ r.w.models.map (·.cfgs) := List.mem_map.mpr ⟨ms, hms, rfl⟩
  rw [hj.hcf, List.mem_map] at hc
  obtain ⟨ms0, hms0, he⟩ := hc
  obtain ⟨_, b0, c0⟩ := h.2 ms0 hms0
  have hcfg : ∀ c, r.w.cfg c = w.cfg c := by intro c; simp only [World.cfg, hj.hcfgs]
  refine ⟨?_, ?_, ?_⟩
  · intro n hn
    refine ⟨hj.hin ms hms n hn, ?_⟩
    intro nc hnc
    rw [← he]
    exact hsub ms0 hms0 _ (getD_map_cfgs w.models m ▸ (hj.node n).2 nc hnc)
  · intro c hc
    rw [← he] at hc
    rw [hj.hcfgs, hcfg]
    exact b0 c hc
  · rw [← he]
    simp only [hcfg]
    exact c0

theorem inlinePass_models_single {w : World} (h : DevOK w) (m : MId) (hreg : HeapReg w m)
    (h1 : w.models.length ≤ 1) (t : ITab) (fuel : Nat) (r : IOut) (hr : inlinePass fuel w m t = some r) :
    ∀ ms ∈ r.w.models, ModelOK r.w ms :=
  inlinePass_models h m hreg (RegShared_of_single w m h1) t fuel r hr

end IrVerif.Device
