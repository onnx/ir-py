import IrVerif.Model.CloneMeta
import IrVerif.Lemmas.CloneMetaFaithful
import IrVerif.Lemmas.ListFacts
/-! # `deep_copy=True` of the objects stored in `meta`: freshness, frame; `deep_copy=False`: sharing

Theorems about `IrVerif.Clone.Meta` (Model/CloneMeta.lean), re-exported by Props/C13.lean as
`C13_deep_copy_meta_fresh`, `C13_deep_copy_meta_frame`, `C13_shallow_meta_shared`,
`C13_deep_copy_meta_faithful` (proof development in Lemmas/CloneMetaFaithful.lean). -/
namespace IrVerif.Clone.Meta

/-- element-wise relation of two lists of the same length -/
inductive All2 {α β : Type} (R : α → β → Prop) : List α → List β → Prop where
  | nil : All2 R [] []
  | cons {a : α} {b : β} {as : List α} {bs : List β} : R a b → All2 R as bs → All2 R (a :: as) (b :: bs)

theorem All2.imp {α β : Type} {R S : α → β → Prop} {xs : List α} {ys : List β}
    (h : All2 R xs ys) (f : ∀ a b, R a b → S a b) : All2 S xs ys := by
  induction h with
  | nil => exact .nil
  | cons r _ ih => exact .cons (f _ _ r) ih

/-! ## invariants -/

/-- every cell at or above `n` holds only references at or above `n` -/
def HFresh (n : Nat) (h : PyHeap) : Prop :=
  n ≤ h.length ∧ ∀ i o, n ≤ i → h[i]? = some o → ∀ j, PyVal.ref j ∈ o.vals → n ≤ j

def SFresh (n : Nat) (st : DSt) : Prop :=
  HFresh n st.h ∧ ∀ a b, (a, b) ∈ st.memo → n ≤ b

/-- the heap only grows and nothing below `n` changes -/
def Pre (n : Nat) (h h' : PyHeap) : Prop :=
  h.length ≤ h'.length ∧ ∀ i, i < n → h'[i]? = h[i]?

/-- a copied value: an atom stays the same atom, a reference becomes a reference at or above `n` -/
def GoodV (n : Nat) (v v' : PyVal) : Prop :=
  (∀ s, v = .atom s ↔ v' = .atom s) ∧ ∀ j, v' = .ref j → n ≤ j

def RecSpec (n : Nat) (rec : PyVal → DM PyVal) : Prop :=
  ∀ v st v' st', rec v st = .ok (v', st') → SFresh n st →
    SFresh n st' ∧ Pre n st.h st'.h ∧ GoodV n v v'

theorem Pre.refl (n : Nat) (h : PyHeap) : Pre n h h := ⟨Nat.le_refl _, fun _ _ => rfl⟩

theorem Pre.trans {n : Nat} {a b c : PyHeap} (h1 : Pre n a b) (h2 : Pre n b c) : Pre n a c :=
  ⟨Nat.le_trans h1.1 h2.1, fun i hi => by rw [h2.2 i hi, h1.2 i hi]⟩

theorem withVals_vals_sub (o : PyObj) (ys : List PyVal) :
    ∀ c, c ∈ (o.withVals ys).vals → c ∈ ys := by
  intro c hc
  cases o with
  | list xs => simpa [PyObj.withVals, PyObj.vals] using hc
  | dict kv =>
    simp only [PyObj.withVals, PyObj.vals, List.mem_map] at hc
    obtain ⟨p, hp, rfl⟩ := hc
    exact (List.of_mem_zip (a := p.1) (b := p.2) (by simpa using hp)).2

theorem empty_vals (o : PyObj) : o.empty.vals = [] := by cases o <;> rfl

/-! ## `deepcopy` -/

theorem dcList_spec {n : Nat} {rec : PyVal → DM PyVal} (hrec : RecSpec n rec) :
    ∀ xs st ys st', dcList rec xs st = .ok (ys, st') → SFresh n st →
      SFresh n st' ∧ Pre n st.h st'.h ∧ All2 (GoodV n) xs ys := by
  intro xs
  induction xs with
  | nil =>
    intro st ys st' h hs
    simp only [dcList, Except.ok.injEq, Prod.mk.injEq] at h
    obtain ⟨rfl, rfl⟩ := h
    exact ⟨hs, Pre.refl _ _, .nil⟩
  | cons a as ih =>
    intro st ys st' h hs
    simp only [dcList] at h
    split at h
    · cases h
    · rename_i a' s1 h1
      split at h
      · cases h
      · rename_i as' s2 h2
        simp only [Except.ok.injEq, Prod.mk.injEq] at h
        obtain ⟨rfl, rfl⟩ := h
        obtain ⟨f1, p1, g1⟩ := hrec _ _ _ _ h1 hs
        obtain ⟨f2, p2, g2⟩ := ih _ _ _ h2 f1
        exact ⟨f2, p1.trans p2, .cons g1 g2⟩

theorem forall2_refs {n : Nat} {xs ys : List PyVal} (h : All2 (GoodV n) xs ys) :
    ∀ j, PyVal.ref j ∈ ys → n ≤ j := by
  induction h with
  | nil => intro j hj; cases hj
  | cons g _ ih =>
    intro j hj
    rcases List.mem_cons.1 hj with rfl | hj
    · exact g.2 j rfl
    · exact ih j hj

theorem dcStep_spec {n : Nat} {rec : PyVal → DM PyVal} (hrec : RecSpec n rec) :
    RecSpec n (dcStep rec) := by
  intro v st v' st' h hs
  cases v with
  | atom s =>
    simp only [dcStep, Except.ok.injEq, Prod.mk.injEq] at h
    obtain ⟨rfl, rfl⟩ := h
    exact ⟨hs, Pre.refl _ _, by simp [GoodV]⟩
  | ref i =>
    simp only [dcStep] at h
    split at h
    · rename_i j hj
      simp only [Except.ok.injEq, Prod.mk.injEq] at h
      obtain ⟨rfl, rfl⟩ := h
      refine ⟨hs, Pre.refl _ _, by simp, ?_⟩
      intro j' hj'
      cases hj'
      exact hs.2 _ _ (ListFacts.mem_of_lookup hj)
    · split at h
      · cases h
      · rename_i o ho
        split at h
        · cases h
        · rename_i ys st2 h2
          simp only [Except.ok.injEq, Prod.mk.injEq] at h
          obtain ⟨rfl, rfl⟩ := h
          have hn : n ≤ st.h.length := hs.1.1
          have hs1 : SFresh n { h := st.h ++ [o.empty], memo := (i, st.h.length) :: st.memo } := by
            refine ⟨⟨by simp; omega, ?_⟩, ?_⟩
            · intro k o' hk ho' j hj
              by_cases hlt : k < st.h.length
              · rw [List.getElem?_append_left hlt] at ho'
                exact hs.1.2 k o' hk ho' j hj
              · have : k = st.h.length ∨ st.h.length < k := by omega
                rcases this with rfl | hgt
                · simp at ho'; subst ho'; simp [empty_vals] at hj
                · rw [List.getElem?_eq_none (by simp; omega)] at ho'; cases ho'
            · intro a b hab
              rcases List.mem_cons.1 hab with heq | hab
              · cases heq; exact hn
              · exact hs.2 a b hab
          obtain ⟨f2, p2, g2⟩ := dcList_spec hrec _ _ _ _ h2 hs1
          have hlen : st.h.length + 1 ≤ st2.h.length := by
            have := p2.1; simpa using this
          refine ⟨⟨⟨by simpa using f2.1.1, ?_⟩, f2.2⟩, ⟨by simp; omega, ?_⟩, by simp, ?_⟩
          · intro k o' hk ho' j hj
            by_cases hky : k = st.h.length
            · subst hky
              rw [List.getElem?_set_self (by omega)] at ho'
              cases ho'
              exact forall2_refs g2 j (withVals_vals_sub _ _ _ hj)
            · rw [List.getElem?_set_ne (by omega)] at ho'
              exact f2.1.2 k o' hk ho' j hj
          · intro k hk
            rw [List.getElem?_set_ne (by omega)]
            rw [p2.2 k hk]
            exact List.getElem?_append_left (by omega)
          · intro j hj; cases hj; exact hn

theorem dc_spec (n : Nat) (f : Nat) : RecSpec n (dc f) :=
  dc_ind (A := fun v st v' st' => SFresh n st → SFresh n st' ∧ Pre n st.h st'.h ∧ GoodV n v v')
    (fun _ hrec => dcStep_spec hrec) f

theorem deepcopy_spec {n fuel : Nat} {v v' : PyVal} {h h' : PyHeap}
    (hc : deepcopy fuel v h = .ok (v', h')) (hf : HFresh n h) :
    HFresh n h' ∧ Pre n h h' ∧ GoodV n v v' := by
  simp only [deepcopy] at hc
  split at hc
  · cases hc
  · rename_i w st hd
    simp only [Except.ok.injEq, Prod.mk.injEq] at hc
    obtain ⟨rfl, rfl⟩ := hc
    obtain ⟨f, p, g⟩ := dc_spec n fuel _ _ _ _ hd ⟨hf, by simp⟩
    exact ⟨f.1, p, g⟩

theorem HFresh.self (h : PyHeap) : HFresh h.length h :=
  ⟨Nat.le_refl _, fun i o hi ho => by rw [List.getElem?_eq_none hi] at ho; cases ho⟩

/-- `copy.deepcopy` changes no existing object (for every heap, also ill-formed ones) -/
theorem deepcopy_frame {fuel : Nat} {v v' : PyVal} {h h' : PyHeap}
    (hc : deepcopy fuel v h = .ok (v', h')) : Pre h.length h h' :=
  (deepcopy_spec hc (HFresh.self h)).2.1

theorem Pre.weaken {n m : Nat} {a b : PyHeap} (h : Pre m a b) (hnm : n ≤ m) : Pre n a b :=
  ⟨h.1, fun i hi => h.2 i (by omega)⟩

/-! ## `clone_meta` -/

/-- key-wise relation between a store's entries and their deep copies -/
def GoodE (n : Nat) (e e' : String × PyVal) : Prop := e'.1 = e.1 ∧ GoodV n e.2 e'.2

theorem cloneData_deep_spec {n fuel : Nat} :
    ∀ (d d' : List (String × PyVal)) (h h' : PyHeap),
      cloneData true fuel d h = .ok (d', h') → HFresh n h →
      HFresh n h' ∧ Pre n h h' ∧ All2 (GoodE n) d d' := by
  intro d
  induction d with
  | nil =>
    intro d' h h' hc hf
    simp only [cloneData, Except.ok.injEq, Prod.mk.injEq] at hc
    obtain ⟨rfl, rfl⟩ := hc
    exact ⟨hf, Pre.refl _ _, .nil⟩
  | cons e rest ih =>
    intro d' h h' hc hf
    obtain ⟨k, v⟩ := e
    simp only [cloneData, if_true] at hc
    split at hc
    · cases hc
    · rename_i v' h1 h1e
      split at hc
      · cases hc
      · rename_i rest' h2 h2e
        simp only [Except.ok.injEq, Prod.mk.injEq] at hc
        obtain ⟨rfl, rfl⟩ := hc
        obtain ⟨f1, p1, g1⟩ := deepcopy_spec h1e hf
        obtain ⟨f2, p2, g2⟩ := ih _ _ _ h2e f1
        exact ⟨f2, p1.trans p2, .cons ⟨rfl, g1⟩ g2⟩

theorem cloneData_shallow : ∀ (fuel : Nat) (d : List (String × PyVal)) (h : PyHeap),
    cloneData false fuel d h = .ok (d, h) := by
  intro fuel d
  induction d with
  | nil => intro h; rfl
  | cons e rest ih =>
    intro h
    obtain ⟨k, v⟩ := e
    simp [cloneData, ih]

theorem prefix_of_pre {h h' : PyHeap} (p : Pre h.length h h') : ∃ ext, h' = h ++ ext :=
  ListFacts.prefix_of_getElem? p.2

theorem reach_fresh {n : Nat} {h : PyHeap} {roots : List PyVal} (hf : HFresh n h)
    (hr : ∀ j, PyVal.ref j ∈ roots → n ≤ j) : ∀ i, Reach h roots i → n ≤ i := by
  intro i hi
  induction hi with
  | root hm => exact hr _ hm
  | step _ ho hj ih => exact hf.2 _ _ ih ho _ hj

theorem forall2E_refs {n : Nat} {d d' : List (String × PyVal)} (h : All2 (GoodE n) d d') :
    ∀ k j, (k, PyVal.ref j) ∈ d' → n ≤ j := by
  induction h with
  | nil => intro k j hj; cases hj
  | cons g _ ih =>
    intro k j hj
    rcases List.mem_cons.1 hj with heq | hj
    · exact g.2.2 j (by rw [← heq])
    · exact ih k j hj

theorem forall2E_keys {n : Nat} {d d' : List (String × PyVal)} (h : All2 (GoodE n) d d') :
    d'.map (·.1) = d.map (·.1) := by
  induction h with
  | nil => rfl
  | cons g _ ih => simp [g.1, ih]

/-- what the clone's store and the heap look like relative to a base `n` below the heap the
    clone started from (used with `n` = the length of the heap before the FIRST store) -/
theorem cloneMeta_deep_spec {n fuel : Nat} {st st' : Store} {h h' : PyHeap}
    (hc : cloneMeta true fuel st h = .ok (st', h')) (hf : HFresh n h) :
    HFresh n h' ∧ Pre n h h' ∧ All2 (GoodE n) st.data st'.data ∧ st'.invalid = st.invalid := by
  obtain ⟨d, hde, rfl⟩ := cloneMeta_ok hc
  obtain ⟨f, p, g⟩ := cloneData_deep_spec _ _ _ _ hde hf
  exact ⟨f, p, g, rfl⟩

/-- **C13_deep_copy_meta_fresh** (text in Props/C13.lean): for all heaps, also ill-formed ones, every object
    reachable from the clone's store is new and nothing pre-existing changed. -/
theorem deep_copy_meta_fresh (fuel : Nat) (st st' : Store) (h h' : PyHeap)
    (hc : cloneMeta true fuel st h = .ok (st', h')) :
    (∃ ext, h' = h ++ ext) ∧
    (∀ k i, (k, PyVal.ref i) ∈ st'.data → h.length ≤ i) ∧
    (∀ i o, h.length ≤ i → h'[i]? = some o → ∀ j, PyVal.ref j ∈ o.vals → h.length ≤ j) ∧
    (∀ i, Reach h' (st'.data.map (·.2)) i → h.length ≤ i) ∧
    st'.data.map (·.1) = st.data.map (·.1) ∧ st'.invalid = st.invalid ∧
    All2 (fun e e' => e'.1 = e.1 ∧ ∀ s, e.2 = .atom s ↔ e'.2 = .atom s) st.data st'.data := by
  obtain ⟨f, p, g, hi⟩ := cloneMeta_deep_spec hc (HFresh.self h)
  refine ⟨prefix_of_pre p, forall2E_refs g, f.2, ?_, forall2E_keys g, hi, ?_⟩
  · apply reach_fresh f
    intro j hj
    simp only [List.mem_map] at hj
    obtain ⟨e, he, hej⟩ := hj
    exact forall2E_refs g e.1 j (by rw [← hej]; exact he)
  · exact g.imp fun _ _ ge => ⟨ge.1, ge.2.1⟩

/-- all the stores of one cloned IR object -/
theorem cloneMetaAll_deep_spec {n fuel : Nat} :
    ∀ (ss ss' : List Store) (h h' : PyHeap),
      cloneMetaAll true fuel ss h = .ok (ss', h') → HFresh n h →
      HFresh n h' ∧ Pre n h h' ∧
      All2 (fun s s' => All2 (GoodE n) s.data s'.data ∧ s'.invalid = s.invalid) ss ss' := by
  intro ss
  induction ss with
  | nil =>
    intro ss' h h' hc hf
    simp only [cloneMetaAll, Except.ok.injEq, Prod.mk.injEq] at hc
    obtain ⟨rfl, rfl⟩ := hc
    exact ⟨hf, Pre.refl _ _, .nil⟩
  | cons s rest ih =>
    intro ss' h h' hc hf
    simp only [cloneMetaAll] at hc
    split at hc
    · cases hc
    · rename_i s' h1 h1e
      split at hc
      · cases hc
      · rename_i rest' h2 h2e
        simp only [Except.ok.injEq, Prod.mk.injEq] at hc
        obtain ⟨rfl, rfl⟩ := hc
        obtain ⟨f1, p1, g1, i1⟩ := cloneMeta_deep_spec h1e hf
        obtain ⟨f2, p2, g2⟩ := ih _ _ _ h2e f1
        exact ⟨f2, p1.trans p2, .cons ⟨g1, i1⟩ g2⟩

/-- the roots of a family of stores -/
def rootsOf (ss : List Store) : List PyVal := ss.flatMap fun s => s.data.map (·.2)

/-- **C13_deep_copy_meta_fresh**, all stores of a cloned IR object (`cloneMetaAll`): every object
    reachable from ANY store of the clone is new, whatever aliasing there was between keys and
    between stores in the source. -/
theorem deep_copy_meta_fresh_all (fuel : Nat) (ss ss' : List Store) (h h' : PyHeap)
    (hc : cloneMetaAll true fuel ss h = .ok (ss', h')) :
    (∃ ext, h' = h ++ ext) ∧
    (∀ i o, h.length ≤ i → h'[i]? = some o → ∀ j, PyVal.ref j ∈ o.vals → h.length ≤ j) ∧
    (∀ i, Reach h' (rootsOf ss') i → h.length ≤ i) ∧
    All2 (fun s s' => s'.data.map (·.1) = s.data.map (·.1) ∧ s'.invalid = s.invalid ∧
      All2 (fun e e' => e'.1 = e.1 ∧ ∀ a, e.2 = .atom a ↔ e'.2 = .atom a) s.data s'.data)
      ss ss' := by
  obtain ⟨f, p, g⟩ := cloneMetaAll_deep_spec _ _ _ _ hc (HFresh.self h)
  refine ⟨prefix_of_pre p, f.2, ?_, ?_⟩
  · apply reach_fresh f
    intro j hj
    simp only [rootsOf, List.mem_flatMap, List.mem_map] at hj
    obtain ⟨s', hs', e, he, hej⟩ := hj
    have : ∀ s' ∈ ss', ∀ k j, (k, PyVal.ref j) ∈ s'.data → h.length ≤ j := by
      clear hs' he hc
      induction g with
      | nil => intro s' hs'; cases hs'
      | cons g1 _ ih =>
        intro s' hs'
        rcases List.mem_cons.1 hs' with rfl | hs'
        · exact forall2E_refs g1.1
        · exact ih s' hs'
    exact this s' hs' e.1 j (by rw [← hej]; exact he)
  · exact g.imp fun _ _ gs => ⟨forall2E_keys gs.1, gs.2, gs.1.imp fun _ _ ge => ⟨ge.1, ge.2.1⟩⟩

/-! ## frame: in-place edits of the clone's objects -/

theorem stepPy_frame (h : PyHeap) (e : PyEdit) :
    (stepPy h e).length = h.length ∧ ∀ i, i ≠ e.target → (stepPy h e)[i]? = h[i]? := by
  simp only [stepPy, applyPyEdit]
  split
  · rename_i h' heq
    split at heq
    · cases heq
    · split at heq
      · cases heq
      · simp only [Except.ok.injEq] at heq
        subst heq
        exact ⟨by simp, fun i hi => List.getElem?_set_ne (by omega)⟩
  · exact ⟨rfl, fun _ _ => rfl⟩

/-- a history of in-place edits whose targets are all at or above `n` changes no cell below `n` -/
theorem runPyHistory_frame (n : Nat) : ∀ (es : List PyEdit) (h : PyHeap),
    (∀ e ∈ es, n ≤ e.target) →
    (runPyHistory es h).length = h.length ∧ ∀ i, i < n → (runPyHistory es h)[i]? = h[i]? := by
  intro es
  induction es with
  | nil => intro h _; exact ⟨rfl, fun _ _ => rfl⟩
  | cons e es ih =>
    intro h ht
    have h1 := stepPy_frame h e
    have h2 := ih (stepPy h e) (fun e' he' => ht e' (List.mem_cons_of_mem _ he'))
    have hte := ht e (List.mem_cons_self ..)
    simp only [runPyHistory, List.foldl_cons] at h2 ⊢
    exact ⟨by rw [h2.1, h1.1], fun i hi => by rw [h2.2 i hi, h1.2 i (by omega)]⟩

/-- **C13_deep_copy_meta_frame**, index form: edits of cells at or above the old heap length (by
    `deep_copy_meta_fresh` all the objects reachable from the clone's store) change nothing pre-existing. -/
theorem deep_copy_meta_frame (fuel : Nat) (st st' : Store) (h h' : PyHeap)
    (hc : cloneMeta true fuel st h = .ok (st', h')) (es : List PyEdit)
    (ht : ∀ e ∈ es, h.length ≤ e.target) :
    (∀ i, i < h.length → (runPyHistory es h')[i]? = h[i]?) ∧
    ∀ v, (∀ i, Reach h [v] i → i < h.length) → ∀ k, obs k (runPyHistory es h') v = obs k h v := by
  obtain ⟨_, p, _⟩ := cloneMeta_deep_spec hc (HFresh.self h)
  have key : ∀ i, i < h.length → (runPyHistory es h')[i]? = h[i]? := fun i hi => by
    rw [(runPyHistory_frame h.length es h' ht).2 i hi, p.2 i hi]
  exact ⟨key, fun v hv k => obs_congr h.length h _ key k v hv⟩

/-! ### the frame theorem with targets given by reachability from the clone's store -/

/-- a history of edits of objects reached from `roots` AT THE TIME OF THE EDIT; a value written is
    an atom or (a reference to) an object reached from `roots` at that time -/
def ReachHistory (roots : List PyVal) : List PyEdit → PyHeap → Prop
  | [], _ => True
  | e :: es, h => Reach h roots e.target ∧ (∀ j, e.written = some (.ref j) → Reach h roots j) ∧
      ReachHistory roots es (stepPy h e)

theorem dictSetKV_vals (k : String) (v : PyVal) : ∀ (kv : List (String × PyVal)) (c : PyVal),
    c ∈ (dictSetKV k v kv).map (·.2) → c ∈ kv.map (·.2) ∨ c = v := by
  intro kv
  induction kv with
  | nil => intro c hc; simp [dictSetKV] at hc; exact .inr hc
  | cons e rest ih =>
    intro c hc
    obtain ⟨k', v'⟩ := e
    simp only [dictSetKV] at hc
    split at hc
    · simp only [List.map_cons, List.mem_cons] at hc ⊢
      rcases hc with rfl | hc
      · exact .inr rfl
      · exact .inl (.inr hc)
    · simp only [List.map_cons, List.mem_cons] at hc ⊢
      rcases hc with rfl | hc
      · exact .inl (.inl rfl)
      · rcases ih c hc with h | h
        · exact .inl (.inr h)
        · exact .inr h

/-- an edit stores nothing but what the cell held and the value written -/
theorem editObj_vals : ∀ {e : PyEdit} {o o' : PyObj}, editObj e o = .ok o' →
    ∀ c, c ∈ o'.vals → c ∈ o.vals ∨ e.written = some c
  | .listAppend _ v, .list xs, _, h, c, hc => by
    cases h
    simp only [PyObj.vals, List.mem_append, List.mem_singleton] at hc ⊢
    exact hc.imp id (congrArg some ·.symm)
  | .listSet _ k v, .list xs, _, h, c, hc => by
    simp only [editObj] at h
    split at h
    · cases h
      exact (List.mem_or_eq_of_mem_set hc).imp id (congrArg some ·.symm)
    · cases h
  | .listPop _, .list xs, _, h, c, hc => by
    simp only [editObj] at h
    split at h
    · cases h
    · cases h
      exact .inl (List.dropLast_subset _ hc)
  | .dictSet _ k v, .dict kv, _, h, c, hc => by
    cases h
    exact (dictSetKV_vals _ _ _ _ hc).imp id (congrArg some ·.symm)
  | .dictDel _ k, .dict kv, _, h, c, hc => by
    simp only [editObj] at h
    split at h
    · cases h
      simp only [PyObj.vals, List.mem_map] at hc ⊢
      obtain ⟨p, hp, rfl⟩ := hc
      exact .inl ⟨p, (List.mem_filter.1 hp).1, rfl⟩
    · cases h
  | .listAppend .., .dict _, _, h, _, _ | .listSet .., .dict _, _, h, _, _ | .listPop _, .dict _, _, h, _, _
  | .dictSet .., .list _, _, h, _, _ | .dictDel .., .list _, _, h, _, _ => by cases h

theorem stepPy_fresh {n : Nat} {h : PyHeap} {e : PyEdit} (hf : HFresh n h)
    (hw : ∀ j, e.written = some (.ref j) → n ≤ j) : HFresh n (stepPy h e) := by
  refine ⟨by rw [(stepPy_frame h e).1]; exact hf.1, ?_⟩
  intro i o hi ho j hj
  by_cases hie : i = e.target
  · simp only [stepPy, applyPyEdit] at ho
    split at ho
    · rename_i h' heq
      split at heq
      · cases heq
      · rename_i o0 ho0
        split at heq
        · cases heq
        · rename_i o1 ho1
          simp only [Except.ok.injEq] at heq
          subst heq
          subst hie
          have hlt : e.target < h.length := by
            rcases Nat.lt_or_ge e.target h.length with hlt | hge
            · exact hlt
            · rw [List.getElem?_eq_none hge] at ho0; cases ho0
          rw [List.getElem?_set_self hlt] at ho
          cases ho
          rcases editObj_vals ho1 _ hj with hin | hwr
          · exact hf.2 _ _ hi ho0 j hin
          · exact hw j hwr
    · exact hf.2 _ _ hi ho j hj
  · rw [(stepPy_frame h e).2 i hie] at ho
    exact hf.2 _ _ hi ho j hj

theorem reachHistory_targets {n : Nat} {roots : List PyVal} (hr : ∀ j, PyVal.ref j ∈ roots → n ≤ j) :
    ∀ (es : List PyEdit) (h : PyHeap), HFresh n h → ReachHistory roots es h →
      ∀ i, i < n → (runPyHistory es h)[i]? = h[i]? := by
  intro es
  induction es with
  | nil => intro h _ _ i _; rfl
  | cons e es ih =>
    intro h hf hh i hi
    obtain ⟨h1, h2, h3⟩ := hh
    have ht : n ≤ e.target := reach_fresh hf hr _ h1
    have hf' : HFresh n (stepPy h e) :=
      stepPy_fresh hf fun j hj => reach_fresh hf hr _ (h2 j hj)
    simp only [runPyHistory, List.foldl_cons]
    have := ih (stepPy h e) hf' h3 i hi
    simp only [runPyHistory] at this
    rw [this, (stepPy_frame h e).2 i (by omega)]

/-- **C13_deep_copy_meta_frame** (reachability form): the edited objects are whatever is reachable
    from the clone's store at the time of each edit, the values written are atoms or objects
    reachable from the clone's store: no pre-existing object changes, and what the original's
    values observe is unchanged. -/
theorem deep_copy_meta_frame_reach (fuel : Nat) (st st' : Store) (h h' : PyHeap)
    (hc : cloneMeta true fuel st h = .ok (st', h')) (es : List PyEdit)
    (hh : ReachHistory (st'.data.map (·.2)) es h') :
    (∀ i, i < h.length → (runPyHistory es h')[i]? = h[i]?) ∧
    ∀ v, (∀ i, Reach h [v] i → i < h.length) → ∀ k, obs k (runPyHistory es h') v = obs k h v := by
  obtain ⟨f, p, g, _⟩ := cloneMeta_deep_spec hc (HFresh.self h)
  have hr : ∀ j, PyVal.ref j ∈ st'.data.map (·.2) → h.length ≤ j := by
    intro j hj
    simp only [List.mem_map] at hj
    obtain ⟨e, he, hej⟩ := hj
    exact forall2E_refs g e.1 j (by rw [← hej]; exact he)
  have key : ∀ i, i < h.length → (runPyHistory es h')[i]? = h[i]? := fun i hi => by
    rw [reachHistory_targets hr es h' f hh i hi, p.2 i hi]
  exact ⟨key, fun v hv k => obs_congr h.length h _ key k v hv⟩

/-- the same for all the stores of a cloned IR object -/
theorem deep_copy_meta_frame_all (fuel : Nat) (ss ss' : List Store) (h h' : PyHeap)
    (hc : cloneMetaAll true fuel ss h = .ok (ss', h')) (es : List PyEdit)
    (hh : ReachHistory (rootsOf ss') es h') :
    (∀ i, i < h.length → (runPyHistory es h')[i]? = h[i]?) ∧
    ∀ v, (∀ i, Reach h [v] i → i < h.length) → ∀ k, obs k (runPyHistory es h') v = obs k h v := by
  obtain ⟨f, p, _⟩ := cloneMetaAll_deep_spec _ _ _ _ hc (HFresh.self h)
  have hr : ∀ j, PyVal.ref j ∈ rootsOf ss' → h.length ≤ j := fun j hj =>
    (deep_copy_meta_fresh_all fuel ss ss' h h' hc).2.2.1 j (.root hj)
  have key : ∀ i, i < h.length → (runPyHistory es h')[i]? = h[i]? := fun i hi => by
    rw [reachHistory_targets hr es h' f hh i hi, p.2 i hi]
  exact ⟨key, fun v hv k => obs_congr h.length h _ key k v hv⟩

/-! ## `deep_copy=False` -/

/-- **C13_shallow_meta_shared** (text and the decision "observation, not violation" in Props/C13.lean): the store
    is a new container holding THE SAME objects. -/
theorem shallow_meta_shared (fuel : Nat) (st : Store) (h : PyHeap) :
    ∃ st', cloneMeta false fuel st h = .ok (st', h) ∧ st'.data = st.data ∧ st'.invalid = st.invalid := by
  refine ⟨{ data := st.data, invalid := st.invalid }, ?_, rfl, rfl⟩
  simp [cloneMeta, cloneData_shallow]

/-- the executable check the driver evaluates implies the hypothesis `hwf` -/
theorem heapClosed_of_B {h : PyHeap} (hb : heapClosedB h = true) : HeapClosed h := by
  intro i o ho j hj
  simp only [heapClosedB, List.all_eq_true] at hb
  have := hb o (List.mem_of_getElem? ho) (.ref j) hj
  simpa [PyVal.below] using this

/-! ## witnesses and non-vacuity -/

/-- cell 0 = `[cell 0, "a", cell 1]` (contains itself), cell 1 = `{"k": cell 0}` -/
def exHeap : PyHeap := [.list [.ref 0, .atom "a", .ref 1], .dict [("k", .ref 0)]]
/-- `meta["a"] is meta["b"]`, an atom, an invalid key -/
def exStore : Store := { data := [("a", .ref 0), ("b", .ref 0), ("c", .atom "z")], invalid := ["c"] }

/-- the hypothesis of `deep_copy_meta_fresh` / `_frame` is satisfiable on a cyclic heap with
    aliasing between keys; and deep_copy does NOT preserve the aliasing between two keys: the
    source has `meta["a"] is meta["b"]`, the clone two different lists (cells 2 and 4) -/
example : cloneMeta true 3 exStore exHeap = .ok
    ({ data := [("a", .ref 2), ("b", .ref 4), ("c", .atom "z")], invalid := ["c"] },
     exHeap ++ [.list [.ref 2, .atom "a", .ref 3], .dict [("k", .ref 2)],
                .list [.ref 4, .atom "a", .ref 5], .dict [("k", .ref 4)]]) := by rfl

/-- too little fuel, a dangling reference: the error outcomes exist -/
example : cloneMeta true 1 exStore exHeap = .error .fuel := by rfl
example : cloneMeta true 3 { data := [("a", .ref 7)], invalid := [] } exHeap =
    .error (.unsupported "dangling reference") := by rfl

/-- `ht` of `deep_copy_meta_frame`: a history on the clone's cells, and it does something -/
example : (∀ e ∈ [PyEdit.listAppend 2 (.atom "n"), .dictDel 3 "k"], exHeap.length ≤ e.target) ∧
    runPyHistory [PyEdit.listAppend 2 (.atom "n"), .dictDel 3 "k"]
      (exHeap ++ [.list [.ref 2, .atom "a", .ref 3], .dict [("k", .ref 2)]]) =
      exHeap ++ [.list [.ref 2, .atom "a", .ref 3, .atom "n"], .dict []] := by decide

/-- `ReachHistory` is satisfiable: append to the clone's list, then write into the dict reached
    through it -/
example : ReachHistory [.ref 2] [PyEdit.listAppend 2 (.atom "n"), .dictSet 3 "q" (.ref 2)]
    (exHeap ++ [.list [.ref 2, .atom "a", .ref 3], .dict [("k", .ref 2)]]) := by
  refine ⟨?_, by simp [PyEdit.written], ?_, ?_, trivial⟩
  · show Reach _ _ 2
    exact .root (by simp)
  · show Reach _ _ 3
    exact .step (i := 2) (.root (by simp)) (o := .list [.ref 2, .atom "a", .ref 3, .atom "n"])
      (by decide) (by simp [PyObj.vals])
  · intro j hj
    simp only [PyEdit.written, Option.some.injEq, PyVal.ref.injEq] at hj
    subst hj
    exact .root (by simp)

/-- the reach hypothesis on the original's values of `deep_copy_meta_frame` holds for the values
    of a store in a closed heap -/
example : HeapClosed exHeap ∧ ∀ i, Reach exHeap [.ref 0] i → i < exHeap.length := by
  have hw : HeapClosed exHeap := heapClosed_of_B (by decide)
  exact ⟨hw, reach_closed hw (by simp [exHeap])⟩

/-- `deep_copy=False`: an in-place edit through the CLONE's store (`clone.meta["a"].append("n")`)
    changes what the ORIGINAL's store observes; with `deep_copy=True` the same edit of the clone's
    object does not -/
example :
    (cloneMeta false 3 exStore exHeap).toOption.map (fun r =>
      (r.1.data.lookup "a",
       decide (obs 2 (runPyHistory [.listAppend 0 (.atom "n")] r.2) (.ref 0) = obs 2 exHeap (.ref 0))))
      = some (some (.ref 0), false) ∧
    (cloneMeta true 3 exStore exHeap).toOption.map (fun r =>
      (r.1.data.lookup "a",
       decide (obs 2 (runPyHistory [.listAppend 2 (.atom "n")] r.2) (.ref 0) = obs 2 exHeap (.ref 0))))
      = some (some (.ref 2), true) := by decide

/-! ## faithfulness -/

/-- `copy.deepcopy(value)` observes like its source, to every depth, in a well-formed heap.
    (`HeapClosed` is needed IN THE MODEL: a dangling slot `ref i`, `i` beyond the heap, would name
    a cell the copy itself has just allocated; no Python heap has dangling references.  Witnesses
    in Lemmas/CloneMetaFaithful.lean.) -/
theorem deepcopy_faithful (fuel : Nat) (v v' : PyVal) (h h' : PyHeap) (hwf : HeapClosed h)
    (hc : deepcopy fuel v h = .ok (v', h')) : ∀ k, obs k h' v' = obs k h v :=
  Faithful.deepcopy_faithful fuel v v' h h' hwf hc

/-- **C13_deep_copy_meta_faithful** (text in Props/C13.lean): in a heap without dangling references the clone's
    store observes like the source store to every depth. -/
theorem deep_copy_meta_faithful (fuel : Nat) (st st' : Store) (h h' : PyHeap) (hwf : HeapClosed h)
    (hst : ∀ k j, (k, PyVal.ref j) ∈ st.data → j < h.length)
    (hc : cloneMeta true fuel st h = .ok (st', h')) :
    ∀ k, obsStore k h' st' = obsStore k h st :=
  Faithful.deep_copy_meta_faithful fuel st st' h h' hwf
    (fun e he j hj => hst e.1 j (by rw [← hj]; exact he)) hc

/-- the executable check the driver evaluates implies the hypothesis `hst` -/
theorem storeOk_of_B {h : PyHeap} {st : Store} (hb : storeOkB h st = true) :
    ∀ k j, (k, PyVal.ref j) ∈ st.data → j < h.length := by
  intro k j hm
  simp only [storeOkB, List.all_eq_true] at hb
  simpa [PyVal.below] using hb _ hm

/-- non-vacuity of `hwf`, `hst`, `hc` together (cyclic heap, aliasing between keys) -/
example : HeapClosed exHeap ∧ (∀ k j, (k, PyVal.ref j) ∈ exStore.data → j < exHeap.length) ∧
    (cloneMeta true 3 exStore exHeap).toBool = true := by
  refine ⟨heapClosed_of_B (by decide), ?_, by decide⟩
  · intro k j hm
    simp [exStore] at hm
    rcases hm with ⟨_, rfl⟩ | ⟨_, rfl⟩ <;> simp [exHeap]

end IrVerif.Clone.Meta
