/-
The round trip and the fix-point of the extended model, assembled from the lock-step induction
(`Lemmas/ScopeExtRT.lean`), the congruence of the extended serializer (`Lemmas/ScopeExtIdem.lean`) and the
description of the stored device configurations (`Lemmas/ScopeExtDev.lean`, `Lemmas/ScopeExtDevIso.lean`).
-/
import IrVerif.Lemmas.ScopeExtRT
import IrVerif.Lemmas.ScopeExtIdem
import IrVerif.Lemmas.ScopeExtDev
import IrVerif.Lemmas.ScopeExtDevIso
namespace IrVerif.Scope

/-- the round trip of a reloadable extended model whose serialization does not raise, with the trace of the device
    configurations (in the final extension state and node counter) -/
theorem reloadableE_roundtrip_tr (ver : Option Int) (w : WorldE) (h : ReloadableE w) (q : GraphE) (ws : Writes)
    (hser : serGraphE w.st.vals w.ext w.st.tdata ver w.root = .ok (q, ws)) :
    ∃ (D : WorldE) (B : Assoc),
      deserializeE q = .ok D ∧ RS w.st.vals D.st B ∧ B.map (·.1) = (replG w.st.vals [] w.root).new ∧
      TreeRelG w.st.vals B w.root D.root ∧ InfoOK2 w.st.vals D.st B (emitG w.st.vals w.root) ∧
      ConstOK2 w.st.vals w.st.tdata D.st B (allInitsG w.root) ∧
      MetaOKk w.ext D.ext B (emitG w.st.vals w.root) ∧ QuantOKk w.ext D.ext B (emitQG w.st.vals w.root) ∧
      DevTrG w.st.vals D.ext D.st.nn B [] w.root q D.root := by
  obtain ⟨⟨hok, hnd⟩, hext, hwf⟩ := h
  obtain ⟨s', x', g', B, hd, P, hk, ht, htr⟩ := rtE_graph_top hwf hser hok hnd hext
  exact ⟨⟨s', x', g'⟩, B, by simp only [deserializeE, hd], P.rs, hk, ht, P.infoOK, P.constOK, P.metaOK, P.quantOK, htr⟩

theorem reloadableE_roundtrip (ver : Option Int) (w : WorldE) (h : ReloadableE w) (q : GraphE) (ws : Writes)
    (hser : serGraphE w.st.vals w.ext w.st.tdata ver w.root = .ok (q, ws)) :
    ∃ (D : WorldE) (B : Assoc),
      deserializeE q = .ok D ∧ RS w.st.vals D.st B ∧ B.map (·.1) = (replG w.st.vals [] w.root).new ∧
      TreeRelG w.st.vals B w.root D.root ∧ InfoOK2 w.st.vals D.st B (emitG w.st.vals w.root) ∧
      ConstOK2 w.st.vals w.st.tdata D.st B (allInitsG w.root) ∧
      MetaOKk w.ext D.ext B (emitG w.st.vals w.root) ∧ QuantOKk w.ext D.ext B (emitQG w.st.vals w.root) := by
  obtain ⟨D, B, hD, hrs, hk, ht, hio, hco, hm, hq, _⟩ := reloadableE_roundtrip_tr ver w h q ws hser
  exact ⟨D, B, hD, hrs, hk, ht, hio, hco, hm, hq⟩

/-- the round trip with the device configurations: when they are written (IR version gate open) and the source
    satisfies the certificate `DevCertG` (every sharding value is what its name resolves to at its node), the
    reloaded node carries the source configurations with the sharding values renamed BY IDENTITY -/
theorem reloadableE_roundtrip_devs (ver : Option Int) (hgate : GateOpen ver) (w : WorldE)
    (h : ReloadableE w) (hdc : DevCertG w.st.vals w.ext [] w.root) (q : GraphE) (ws : Writes)
    (hser : serGraphE w.st.vals w.ext w.st.tdata ver w.root = .ok (q, ws)) :
    ∃ (D : WorldE) (B : Assoc),
      deserializeE q = .ok D ∧ RS w.st.vals D.st B ∧ B.map (·.1) = (replG w.st.vals [] w.root).new ∧
      TreeRelG w.st.vals B w.root D.root ∧ InfoOK2 w.st.vals D.st B (emitG w.st.vals w.root) ∧
      ConstOK2 w.st.vals w.st.tdata D.st B (allInitsG w.root) ∧
      MetaOKk w.ext D.ext B (emitG w.st.vals w.root) ∧ QuantOKk w.ext D.ext B (emitQG w.st.vals w.root) ∧
      DevIsoG w.ext D.ext (sig B) w.root D.root := by
  obtain ⟨D, B, hD, hrs, hk, ht, hio, hco, hm, hq, htr⟩ := reloadableE_roundtrip_tr ver w h q ws hser
  exact ⟨D, B, hD, hrs, hk, ht, hio, hco, hm, hq,
    devIso_graph w.st.vals w.ext D.ext w.st.tdata ver hgate D.st.nn B w.root [] q D.root ws hser hdc htr⟩

/-- what the round trip shows of THE reloaded model `D` suffices: serializing `D` gives the proto it was read from -/
theorem reloadableE_reser (ver : Option Int) (w : WorldE) (h : ReloadableE w) (q : GraphE) (ws : Writes)
    (hser : serGraphE w.st.vals w.ext w.st.tdata ver w.root = .ok (q, ws)) (D : WorldE) (B : Assoc)
    (hD : deserializeE q = .ok D) (hrs : RS w.st.vals D.st B) (ht : TreeRelG w.st.vals B w.root D.root)
    (hio : InfoOK2 w.st.vals D.st B (emitG w.st.vals w.root))
    (hco : ConstOK2 w.st.vals w.st.tdata D.st B (allInitsG w.root))
    (hm : MetaOKk w.ext D.ext B (emitG w.st.vals w.root)) (hq : QuantOKk w.ext D.ext B (emitQG w.st.vals w.root)) :
    ∃ ws', serGraphE D.st.vals D.ext D.st.tdata ver D.root = .ok (q, ws') := by
  obtain ⟨_, hext, hwf⟩ := h
  have hn : ∀ v ∈ B.map (·.1), (D.st.vals (sig B v)).name = (w.st.vals v).name := fun v hv => hrs.sig_name hv
  exact img2E_serGraph (td := w.st.tdata) (td' := D.st.tdata) D.st ver rfl (Img.of_rt hrs hio) hn
    (fun a ha b hb he => hrs.sig_inj ha hb he) hm.ok2 hq.ok2 hwf
    w.root D.root q ws ht (fun _ hv => hv) (fun _ hv => hv) (extG_quiet _ _ _ _ hext) hco.constImg
    (deserializeE_devSpec q D hD) hser

/-- serializing the reloaded extended model gives the proto it was read from -/
theorem reloadableE_fixpoint (ver : Option Int) (w : WorldE) (h : ReloadableE w) (q : GraphE) (ws : Writes)
    (hser : serGraphE w.st.vals w.ext w.st.tdata ver w.root = .ok (q, ws)) :
    ∃ (D : WorldE) (ws' : Writes), deserializeE q = .ok D ∧
      serGraphE D.st.vals D.ext D.st.tdata ver D.root = .ok (q, ws') := by
  obtain ⟨D, B, hD, hrs, _, ht, hio, hco, hm, hq⟩ := reloadableE_roundtrip ver w h q ws hser
  obtain ⟨ws', hq'⟩ := reloadableE_reser ver w h q ws hser D B hD hrs ht hio hco hm hq
  exact ⟨D, ws', hD, hq'⟩

end IrVerif.Scope
