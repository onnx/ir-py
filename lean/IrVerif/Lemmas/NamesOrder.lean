/-
C15 part B: "the first holder keeps its name" — order vocabulary.  `before v L` = the elements of `L`
in front of the first occurrence of `v`; `FirstB orig fin L` = every element of `L` whose original
name is carried by no element in front of it has kept that name.  Core Lean only.
-/
import IrVerif.Model.Names
namespace IrVerif.Names

/-- the elements of `L` before the first occurrence of `v` -/
def before (v : Nat) : List Nat → List Nat
  | [] => []
  | x :: xs => if x = v then [] else x :: before v xs

theorem before_sub {v : Nat} : ∀ {L : List Nat} {u : Nat}, u ∈ before v L → u ∈ L
  | [], _, h => by simp [before] at h
  | x :: xs, u, h => by
    simp only [before] at h
    split at h
    · simp at h
    · rcases List.mem_cons.mp h with h | h
      · exact h ▸ List.mem_cons_self
      · exact List.mem_cons_of_mem _ (before_sub h)

theorem not_mem_before {v : Nat} : ∀ {L : List Nat}, v ∉ before v L
  | [] => by simp [before]
  | x :: xs => by
    simp only [before]
    split
    · simp
    · rename_i hx
      simp only [List.mem_cons, not_or]
      exact ⟨fun e => hx e.symm, not_mem_before⟩

theorem before_append_mem {v : Nat} : ∀ {L : List Nat} (E : List Nat), v ∈ L → before v (L ++ E) = before v L
  | [], _, h => by simp at h
  | x :: xs, E, h => by
    simp only [List.cons_append, before]
    split
    · rfl
    · rename_i hx
      rcases List.mem_cons.mp h with h | h
      · exact absurd h.symm hx
      · rw [before_append_mem E h]

theorem before_append_not_mem {v : Nat} : ∀ {L : List Nat} (E : List Nat), v ∉ L → before v (L ++ E) = L ++ before v E
  | [], _, _ => rfl
  | x :: xs, E, h => by
    simp only [List.mem_cons, not_or] at h
    simp only [List.cons_append, before]
    rw [if_neg (fun e => h.1 e.symm), before_append_not_mem E h.2]

theorem before_split {v : Nat} {A B : List Nat} (h : v ∉ A) : before v (A ++ v :: B) = A := by
  rw [before_append_not_mem _ h]
  simp [before]

/-- swapping a middle segment for one with the same members: an element in front of `x` stays in
front of `x`, unless both lie in the segment -/
theorem before_seg {P X Y Q : List Nat} (hXY : ∀ x, x ∈ X ↔ x ∈ Y) {x u : Nat}
    (hu : u ∈ before x (P ++ X ++ Q)) : u ∈ before x (P ++ Y ++ Q) ∨ (u ∈ X ∧ x ∈ X ∧ u ≠ x) := by
  by_cases hP : x ∈ P
  · rw [List.append_assoc, before_append_mem _ hP] at hu
    rw [List.append_assoc, before_append_mem _ hP]
    exact Or.inl hu
  · rw [List.append_assoc, before_append_not_mem _ hP] at hu
    rw [List.append_assoc, before_append_not_mem _ hP]
    by_cases hX : x ∈ X
    · rw [before_append_mem _ hX] at hu
      rcases List.mem_append.mp hu with hu | hu
      · exact Or.inl (List.mem_append_left _ hu)
      · exact Or.inr ⟨before_sub hu, hX, fun e => not_mem_before (e ▸ hu)⟩
    · have hY : x ∉ Y := fun h => hX ((hXY x).mpr h)
      rw [before_append_not_mem _ hX] at hu
      rw [before_append_not_mem _ hY]
      refine Or.inl ?_
      simp only [List.mem_append] at hu ⊢
      rcases hu with hu | hu | hu
      · exact Or.inl hu
      · exact Or.inr (Or.inl ((hXY u).mp hu))
      · exact Or.inr (Or.inr hu)

/-- **first holder keeps**: an element of `L` whose original (non-empty) name is carried by no element
in front of its first occurrence has that name in `fin` -/
def FirstB (orig fin : Nat → Option String) (L : List Nat) : Prop :=
  ∀ v ∈ L, truthy (orig v) = true → (∀ u ∈ before v L, orig u ≠ orig v) → fin v = orig v

theorem FirstB.nil (orig fin : Nat → Option String) : FirstB orig fin [] := fun _ h => by simp at h

theorem FirstB.transfer {orig fin : Nat → Option String} {L L' : List Nat} (h : FirstB orig fin L)
    (hm : ∀ v ∈ L', v ∈ L) (ho : ∀ v ∈ L', ∀ u ∈ before v L, u ∈ before v L' ∨ orig u ≠ orig v) :
    FirstB orig fin L' := by
  intro v hv ht hb
  refine h v (hm v hv) ht (fun u hu => ?_)
  rcases ho v hv u hu with h1 | h1
  · exact hb u h1
  · exact h1

theorem FirstB.fin_eq {orig fin fin' : Nat → Option String} {L : List Nat} (h : FirstB orig fin L)
    (e : ∀ x ∈ L, fin' x = fin x) : FirstB orig fin' L :=
  fun v hv ht hb => (e v hv).trans (h v hv ht hb)

theorem FirstB.orig_eq {orig orig' fin : Nat → Option String} {L : List Nat} (h : FirstB orig fin L)
    (e : ∀ x ∈ L, orig' x = orig x) : FirstB orig' fin L := by
  intro v hv ht hb
  rw [e v hv] at ht ⊢
  exact h v hv ht (fun u hu => by rw [← e u (before_sub hu), ← e v hv]; exact hb u hu)

/-- a list extended by elements it already contains -/
theorem FirstB.append_old {orig fin : Nat → Option String} {L E : List Nat} (h : FirstB orig fin L)
    (hE : ∀ x ∈ E, x ∈ L) : FirstB orig fin (L ++ E) :=
  h.transfer (fun v hv => (List.mem_append.mp hv).elim id (hE v))
    (fun v hv u hu => by
      have hvL : v ∈ L := (List.mem_append.mp hv).elim id (hE v)
      rw [before_append_mem _ hvL]; exact Or.inl hu)

theorem FirstB.prefix {orig fin : Nat → Option String} {L E : List Nat} (h : FirstB orig fin (L ++ E)) :
    FirstB orig fin L :=
  h.transfer (fun v hv => List.mem_append_left _ hv)
    (fun v hv u hu => by rw [before_append_mem _ hv] at hu; exact Or.inl hu)

/-- one new element at the end -/
theorem FirstB.snoc {orig fin : Nat → Option String} {V : List Nat} {v : Nat} (h : FirstB orig fin V) (hv : v ∉ V)
    (hnew : truthy (orig v) = true → (∀ u ∈ V, orig u ≠ orig v) → fin v = orig v) : FirstB orig fin (V ++ [v]) := by
  intro x hx ht hb
  rcases List.mem_append.mp hx with hx | hx
  · rw [before_append_mem _ hx] at hb
    exact h x hx ht hb
  · have : x = v := by simpa using hx
    subst this
    rw [before_append_not_mem _ hv] at hb
    exact hnew ht (fun u hu => hb u (List.mem_append_left _ hu))

/-- the readable form: split the list anywhere at `v` -/
theorem FirstB.split {orig fin : Nat → Option String} {L : List Nat} (h : FirstB orig fin L) (A : List Nat) (v : Nat)
    (B : List Nat) (e : L = A ++ v :: B) (ht : truthy (orig v) = true) (hA : ∀ u ∈ A, orig u ≠ orig v) :
    fin v = orig v := by
  have hvA : v ∉ A := fun hin => hA v hin rfl
  refine h v (by rw [e]; simp) ht (fun u hu => ?_)
  rw [e, before_split hvA] at hu
  exact hA u hu

theorem exists_first {α : Type} (p : α → Prop) : ∀ (A : List α), (∃ u ∈ A, p u) →
    ∃ A1 a A2, A = A1 ++ a :: A2 ∧ p a ∧ ∀ u ∈ A1, ¬ p u
  | [], h => by obtain ⟨u, hu, _⟩ := h; simp at hu
  | x :: xs, h => by
    by_cases hx : p x
    · exact ⟨[], x, xs, rfl, hx, fun u hu => by simp at hu⟩
    · obtain ⟨u, hu, hpu⟩ := h
      have : ∃ u ∈ xs, p u := by
        rcases List.mem_cons.mp hu with e | e
        · exact absurd (e ▸ hpu) hx
        · exact ⟨u, e, hpu⟩
      obtain ⟨A1, a, A2, e, ha, hn⟩ := exists_first p xs this
      refine ⟨x :: A1, a, A2, by rw [e]; rfl, ha, ?_⟩
      intro u hu
      rcases List.mem_cons.mp hu with e | e
      · exact e ▸ hx
      · exact hn u e

/-- from "injective on `L`" and "first holder keeps": exactly the later holders of a name lose it -/
theorem first_exact {orig fin : Nat → Option String} {L : List Nat} (hf : FirstB orig fin L)
    (hinj : ∀ a ∈ L, ∀ b ∈ L, a ≠ b → fin a ≠ fin b) (A : List Nat) (v : Nat) (B : List Nat) (e : L = A ++ v :: B)
    (ht : truthy (orig v) = true) :
    ((∀ u ∈ A, orig u ≠ orig v) → fin v = orig v)
    ∧ (v ∉ A → (∃ u ∈ A, orig u = orig v) → fin v ≠ orig v) := by
  refine ⟨hf.split A v B e ht, ?_⟩
  intro hv hex
  obtain ⟨A1, a, A2, eA, ha, hn⟩ := exists_first (fun u => orig u = orig v) A hex
  have hav : a ≠ v := fun h => hv (by rw [eA, ← h]; simp)
  have keep : fin a = orig a := by
    refine hf.split A1 a (A2 ++ v :: B) (by rw [e, eA]; simp) (by rw [ha]; exact ht) ?_
    intro u hu; rw [ha]; exact hn u hu
  intro hfv
  refine hinj a (by rw [e, eA]; simp) v (by rw [e]; simp) hav ?_
  rw [keep, ha, hfv]

end IrVerif.Names
