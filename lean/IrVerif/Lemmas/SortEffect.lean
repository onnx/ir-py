/-
C12 — the observable effects of steps 4-5 of `Graph.sort` (cycle test, then one re-link per graph
in an arbitrary iteration order) and of `TopologicalSortPass` (sequence of sorts, restore on failure).
-/
import IrVerif.Lemmas.SortPos
import IrVerif.Lemmas.ListFacts

namespace IrVerif.Sort
open List

def toEff (p : Nat × List Nat) : Eff := Eff.relink p.1 p.2

/-- re-links with distinct targets: every container is re-linked with the list addressed to it -/
theorem runEffs_relinks (rl : List (Nat × List Nat)) (hnd : (rl.map Prod.fst).Nodup) :
    ∀ st : List (Nat × List Nat), runEffs st (rl.map toEff) =
      (false, st.map (fun gc => match rl.lookup gc.1 with
        | some xs => (gc.1, relink gc.2 xs)
        | none => gc)) := by
  induction rl with
  | nil => intro st; simp [runEffs]
  | cons p rl ih =>
    intro st
    obtain ⟨k, xs⟩ := p
    simp only [List.map_cons, List.nodup_cons] at hnd
    simp only [List.map_cons, toEff, runEffs, applyEff]
    have := ih hnd.2 (st.map (fun gc => if gc.1 = k then (gc.1, relink gc.2 xs) else gc))
    rw [this, List.map_map]
    congr 1
    apply List.map_congr_left
    intro gc _
    simp only [Function.comp, List.lookup_cons]
    by_cases h : gc.1 = k
    · have hk : rl.lookup k = none := by
        rw [List.lookup_eq_none_iff]
        intro q hq
        simp only [bne_iff_ne, ne_eq]
        intro hc
        exact hnd.1 (List.mem_map.2 ⟨q, hq, hc.symm⟩)
      simp [h, hk]
    · have : (gc.1 == k) = false := by simp [h]
      simp [h, this]

/-- the result of a batch of re-links with distinct targets does not depend on their order -/
theorem runEffs_perm {rl rl' : List (Nat × List Nat)} (hp : rl'.Perm rl)
    (hnd : (rl.map Prod.fst).Nodup) (st : List (Nat × List Nat)) :
    runEffs st (rl'.map toEff) = runEffs st (rl.map toEff) := by
  have hnd' : (rl'.map Prod.fst).Nodup := (hp.map Prod.fst).nodup_iff.2 hnd
  rw [runEffs_relinks rl hnd, runEffs_relinks rl' hnd']
  congr 1
  apply List.map_congr_left
  intro gc _
  have : rl'.lookup gc.1 = rl.lookup gc.1 := by
    cases h : rl.lookup gc.1 with
    | none =>
      rw [List.lookup_eq_none_iff] at h ⊢
      intro q hq; exact h q (hp.mem_iff.1 hq)
    | some xs =>
      exact ListFacts.lookup_of_mem_nodup hnd' (hp.mem_iff.2 (ListFacts.mem_of_lookup h))
  rw [this]

theorem graphsOf_keys (g : MGraph) : (graphsOf g).map Prod.fst = gidsOf (allGraphs g) := by
  simp [graphsOf, gidsOf, List.map_map, Function.comp, orderOf]

/-- re-linking every graph with the list `B gid`, visiting the graphs in any order -/
theorem runEffs_order (g : MGraph) (hgids : (gidsOf (allGraphs g)).Nodup)
    (order : List (Nat × List Nat)) (hp : order.Perm (graphsOf g)) (B : Nat → List Nat) :
    runEffs (graphsOf g) (order.map (fun gc => Eff.relink gc.1 (B gc.1))) =
      (false, (graphsOf g).map (fun gc => (gc.1, relink gc.2 (B gc.1)))) := by
  have hkeys : ((order.map (fun gc => (gc.1, B gc.1))).map Prod.fst).Nodup := by
    rw [List.map_map]
    have : (order.map (Prod.fst ∘ fun gc : Nat × List Nat => (gc.1, B gc.1))) = order.map Prod.fst := by
      apply List.map_congr_left; intro a _; rfl
    rw [this, (hp.map Prod.fst).nodup_iff, graphsOf_keys]
    exact hgids
  have h := runEffs_relinks (order.map (fun gc => (gc.1, B gc.1))) hkeys (graphsOf g)
  rw [List.map_map] at h
  have hfun : (toEff ∘ fun gc : Nat × List Nat => (gc.1, B gc.1)) =
      (fun gc => Eff.relink gc.1 (B gc.1)) := by funext gc; rfl
  rw [hfun] at h
  rw [h]
  congr 1
  apply List.map_congr_left
  intro gc hgc
  have hmem : (gc.1, B gc.1) ∈ order.map (fun gc => (gc.1, B gc.1)) :=
    List.mem_map.2 ⟨gc, hp.mem_iff.2 hgc, rfl⟩
  rw [ListFacts.lookup_of_mem_nodup hkeys hmem]

/-- the raise, when there is one, is the only effect: no re-link precedes it -/
theorem sortTraceIn_cases (order : List (Nat × List Nat)) (g : MGraph) :
    (sortModel g = none ∧ sortTraceIn order g = [Eff.raise]) ∨
    (sortModel g ≠ none ∧ sortTraceIn order g = order.map (fun gc => Eff.relink gc.1
      (bucket (nodesOf g) (kahn (nodesOf g).length (predsAt (nodesOf g))) gc.1))) := by
  unfold sortTraceIn sortModel
  by_cases h1 : sharedGraph (nodesOf g) = true
  · left; simp [h1]
  · by_cases h2 : ((kahn (nodesOf g).length (predsAt (nodesOf g))).length != (nodesOf g).length) = true
    · left; simp [h1, h2]
    · right; simp [h1, h2]

theorem sortModel_some {g : MGraph} {r : List (Nat × List Nat)} (h : sortModel g = some r) :
    (kahn (nodesOf g).length (predsAt (nodesOf g))).length = (nodesOf g).length ∧
    r = (graphsOf g).map (fun gc => (gc.1, relink gc.2
      (bucket (nodesOf g) (kahn (nodesOf g).length (predsAt (nodesOf g))) gc.1))) := by
  simp only [sortModel] at h
  split at h
  · simp at h
  split at h
  · simp at h
  · rename_i _ hlen
    simp only [bne_iff_ne, ne_eq, Decidable.not_not] at hlen
    exact ⟨hlen, (Option.some.inj h).symm⟩

/-- with distinct graph ids, the observable effect is: raised and nothing changed, or the result
    of `sortModel` — whatever the iteration order over the graphs -/
theorem runEffs_sortTraceIn (g : MGraph) (hgids : (gidsOf (allGraphs g)).Nodup)
    (order : List (Nat × List Nat)) (hp : order.Perm (graphsOf g)) :
    runEffs (graphsOf g) (sortTraceIn order g) =
      match sortModel g with
      | none => (true, graphsOf g)
      | some r => (false, r) := by
  rcases sortTraceIn_cases order g with ⟨hn, ht⟩ | ⟨hs, ht⟩
  · rw [ht, hn]; simp [runEffs, applyEff]
  · rw [ht, runEffs_order g hgids order hp]
    cases hm : sortModel g with
    | none => exact absurd hm hs
    | some r => rw [(sortModel_some hm).2]

theorem sortEffect_eq (g : MGraph) (hgids : (gidsOf (allGraphs g)).Nodup) :
    sortEffect g = match sortModel g with
      | none => (true, graphsOf g)
      | some r => (false, r) :=
  runEffs_sortTraceIn g hgids (graphsOf g) (List.Perm.refl _)

theorem runEffs_no_raise (rl : List (Nat × List Nat)) (f : Nat × List Nat → Eff)
    (hf : ∀ p, ∃ k xs, f p = Eff.relink k xs) :
    ∀ st, (runEffs st (rl.map f)).1 = false := by
  induction rl with
  | nil => intro st; simp [runEffs]
  | cons p rl ih =>
    intro st
    obtain ⟨k, xs, hp⟩ := hf p
    simp only [List.map_cons, hp, runEffs, applyEff]
    exact ih _

theorem forall₂_and_left {α β : Type} {R : α → β → Prop} {P : α → Prop} {l1 : List α} {l2 : List β}
    (h : List.Forall₂ R l1 l2) (hP : ∀ a ∈ l1, P a) :
    List.Forall₂ (fun a b => R a b ∧ P a) l1 l2 := by
  induction h with
  | nil => exact List.Forall₂.nil
  | cons hab _ ih =>
    exact List.Forall₂.cons ⟨hab, hP _ (by simp)⟩ (ih (fun a ha => hP a (List.mem_cons_of_mem _ ha)))

/-- the containers of one graph-like `cur` hold, graph by graph, an arrangement of the recorded
    duplicate-free sequences `orig` -/
def Rearranged (orig cur : List (Nat × List Nat)) : Prop :=
  List.Forall₂ (fun og cg => (cg.1 = og.1 ∧ cg.2.Perm og.2) ∧ og.2.Nodup) orig cur

theorem Rearranged.refl {l : List (Nat × List Nat)} (hnd : ∀ gc ∈ l, gc.2.Nodup) : Rearranged l l := by
  apply forall₂_and_left _ hnd
  rw [List.forall₂_same]
  intro x _; exact ⟨rfl, List.Perm.refl _⟩

theorem restore_one {orig cur : List (Nat × List Nat)} (h : Rearranged orig cur) :
    List.zipWith (fun og cg => (cg.1, relink cg.2 og.2)) orig cur = orig := by
  induction h with
  | nil => rfl
  | cons hab _ ih =>
    obtain ⟨⟨h1, h2⟩, h3⟩ := hab
    simp only [List.zipWith_cons_cons, ih]
    congr 1
    rw [relink_perm (h2.nodup_iff.2 h3) h2.symm, h1]

theorem passRestore_eq {orig cur : List (List (Nat × List Nat))}
    (h : List.Forall₂ Rearranged orig cur) : passRestore orig cur = orig := by
  unfold passRestore
  induction h with
  | nil => rfl
  | cons hab _ ih => simp only [List.zipWith_cons_cons, ih, restore_one hab]

theorem sortModel_none {g : MGraph} (hids : ((nodesOf g).map Ent.id).Nodup) :
    sortModel g = none ↔
    (kahn (nodesOf g).length (predsAt (nodesOf g))).length ≠ (nodesOf g).length := by
  have hs : sharedGraph (nodesOf g) = false := by simp [sharedGraph, hids]
  simp [sortModel, hs, bne_iff_ne]

end IrVerif.Sort
