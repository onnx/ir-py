/-
The IR version < 10 format in the extended model: what is proved about `deserializeME9` / `serializeME9` beyond
erasure (`ScopeExt9Erase`) and inertness of the experimental entries for the main graph (`ScopeExt9Inert`): the
certificate of the core, the representation invariant of the extension state, what the written entries are
(`ExpEntryOK`) and the part of the round trip that is proved (`roundtrip_ext_ir9_partial`).
-/
import IrVerif.Lemmas.ScopeExt9Erase
import IrVerif.Lemmas.ScopeExt9Inert
import IrVerif.Lemmas.ScopeFunc9Idem
import IrVerif.Lemmas.ScopeExtFuncDeser
import IrVerif.Lemmas.ScopeExtModel
namespace IrVerif.Scope

theorem deserializeME9_core_reloadable (p : ModelE) (w : MWorldE) (hd : deserializeME9 p = .ok w) :
    ReloadableM w.core := by
  have he := deserializeME9_erase p
  rw [hd] at he
  exact deserializeM9_reloadable _ _ he

theorem deserializeME9_keys (p : ModelE) (w : MWorldE) (hd : deserializeME9 p = .ok w) :
    ∀ kv ∈ w.root.inits, (w.st.vals kv.2).name = some kv.1 :=
  inits_keyed_of_ok w.st.vals w.root [] (deserializeME9_core_reloadable p w hd).1

theorem deserializeME9_wf (p : ModelE) (w : MWorldE) (hd : deserializeME9 p = .ok w) : ExtWF w.ext := by
  simp only [deserializeME9] at hd
  split at hd
  · cases hd
  · rename_i m hm
    simp only [Except.ok.injEq] at hd
    rw [← hd]
    rw [foldE_eq]
    exact Ext.mergeAll_wf (deserializeME_wf p m hm) _

/-- what one experimental entry is: written for a truthy-named value `u` of a function without overload, under a
    name that parses back to that function and value name and is not looked up by the main graph; it carries the
    emitted info and the metadata sorted by key, which a read into an empty dict and a second write reproduce -/
def ExpEntryOK (w : MWorldE) (e : VInfoE) : Prop :=
  ∃ f ∈ w.funcs, f.1.overload = "" ∧ ∃ u ∈ fvals f.2, nameTruthy (w.st.vals u).name = true ∧
    shouldCreateE (w.st.vals u) (w.ext.vmeta u) = true ∧
    e = ⟨formatExp f.1.domain f.1.name (nm w.st.vals u), (w.st.vals u).info.emit, ssSorted (w.ext.vmeta u)⟩ ∧
    parseExp e.name = some (f.1.domain, f.1.name, nm w.st.vals u) ∧
    e.name ∉ reservedNames w.st.vals w.root ∧
    ssUpdate [] e.mprops = e.mprops ∧ ssSorted (ssUpdate [] e.mprops) = e.mprops ∧ e.info.emit = e.info

theorem expEntryOK_of_mem (w : MWorldE) (hwf : ExtWF w.ext) (e : VInfoE)
    (he : e ∈ w.funcs.flatMap (expOfFuncE w.st.vals w.ext (reservedNames w.st.vals w.root))) : ExpEntryOK w e := by
  rw [List.mem_flatMap] at he
  obtain ⟨f, hf, hef⟩ := he
  obtain ⟨hov, u, hu, ht, hsc, hcp, rfl⟩ := (mem_expOfFuncE _ _ _ f e).mp hef
  have hcp' := hcp
  simp only [canParseBack, Bool.and_eq_true, Bool.not_eq_true', beq_iff_eq] at hcp'
  obtain ⟨hres, hparse⟩ := hcp'
  have hpay := meta_payload_fix (w.ext.vmeta u) (hwf u).1
  refine ⟨f, hf, hov, u, hu, ht, hsc, rfl, hparse, ?_, hpay.1, ?_, emit_emit _⟩
  · simp only [List.contains_eq_mem, decide_eq_false_iff_not] at hres
    exact hres
  · show ssSorted (ssUpdate [] (ssSorted (w.ext.vmeta u))) = ssSorted (w.ext.vmeta u)
    exact hpay.2.2

theorem addVInfoE_vinfo (E : List VInfoE) (g : GraphE) : (addVInfoE E g).vinfo = g.vinfo ++ E := by
  cases g; rfl

/-- IR side: the part of the IR -> proto (IR < 10 format) -> IR round trip that is proved (see
    `C03_roundtrip_ext_ir9_partial` in Props/C03Ext9.lean) -/
theorem roundtrip_ext_ir9_partial (ver : Option Int) (w : MWorldE) (h : ReloadableME w) :
    (∃ e, serializeME9 ver w = .error (.dev e)) ∨
    ∃ (w1 : MWorldE) (Q q : ModelE) (E : List VInfoE) (D : MWorldE) (st : Store) (x : Ext),
      serializeME9 ver w = .ok (w1, Q) ∧ serializeME ver w = .ok (w1, q) ∧
      Q.funcs = (q.funcs.map fun f => { f with vinfo := [] }) ∧ Q.graph.vinfo = q.graph.vinfo ++ E ∧
      (∀ e ∈ E, ExpEntryOK w e) ∧
      (∀ (st : Store) (x : Ext) (outer : List Table), deserGraphE st x outer Q.graph = deserGraphE st x outer q.graph) ∧
      deserializeME q = .ok D ∧ deserGraphE {} {} [] Q.graph = .ok (st, x, D.root) ∧
      deserFuncsE st x [] q.funcs = .ok (D.st, D.ext, D.funcs) ∧ ∃ w2, serializeME ver D = .ok (w2, q) := by
  have hkeys : ∀ kv ∈ w.root.inits, (w.st.vals kv.2).name = some kv.1 := inits_keyed_of_ok w.st.vals w.root [] h.1.1
  rcases reloadableME_ser ver w h with ⟨w1, q, hs⟩ | ⟨e, he⟩
  · right
    have h9 : serializeME9 ver w = .ok (w1, ⟨addVInfoE (w.funcs.flatMap
        (expOfFuncE w.st.vals w.ext (reservedNames w.st.vals w.root))) q.graph,
        q.funcs.map fun f => { f with vinfo := [] }⟩) := by
      simp only [serializeME9, hs]
    obtain ⟨q', hq', hin⟩ := ext9_entries_inert ver w w1 _ h9 hkeys
    have hqq : q' = q := by
      rw [hs] at hq'
      simp only [Except.ok.injEq, Prod.mk.injEq] at hq'
      exact hq'.2.symm
    subst hqq
    obtain ⟨D, w2, hD, hfix⟩ := reloadableME_fixpoint ver w h w1 q' hs
    have hD' := hD
    simp only [deserializeME] at hD'
    split at hD'
    · cases hD'
    · rename_i st x g hg
      split at hD'
      · cases hD'
      · rename_i st1 x1 fs hfs
        simp only [Except.ok.injEq] at hD'
        subst hD'
        refine ⟨w1, _, q', _, _, st, x, h9, hs, rfl, addVInfoE_vinfo _ _, fun e he => expEntryOK_of_mem w h.2.2.2 e he, hin,
          hD, ?_, hfs, w2, hfix⟩
        rw [hin {} {} [], hg]
  · left
    exact ⟨e, by simp only [serializeME9, he]⟩

end IrVerif.Scope
