import IrVerif.Lemmas.SerdeMerge
/-! C02, `merge`: the mutual induction `wf* (merge* x) -> des* (merge* x) = des* x`
over attributes, nodes and graphs (arbitrary nesting). -/
namespace IrVerif.Serde
open IrVerif.Proto

theorem mergeApplies_of_ne {D I : List String} {vis : List ValueInfoP} {vo : ValueInfoP}
    (h : mergeOutVI D I vis vo ≠ vo) : mergeApplies D I vo = true := by
  cases ha : mergeApplies D I vo with
  | true => rfl
  | false => exact absurd (by simp [mergeOutVI, ha]) h

mutual
theorem desAttr_merge (scopes : Scopes) : ∀ a : AttrP, wfAttr scopes (mergeAttr a) = true →
    desAttr scopes (mergeAttr a) = desAttr scopes a
  | .ref .., _ => rfl
  | .int .., _ => rfl
  | .float .., _ => rfl
  | .string .., _ => rfl
  | .ints .., _ => rfl
  | .floats .., _ => rfl
  | .strings .., _ => rfl
  | .tensor .., _ => rfl
  | .tensors .., _ => rfl
  | .graph n d g, h => by
    simp only [mergeAttr, wfAttr] at h
    simp only [mergeAttr, desAttr, desGraph_merge scopes g h]
  | .graphs n d gs, h => by
    simp only [mergeAttr, wfAttr] at h
    simp only [mergeAttr, desAttr, desGraphs_merge scopes gs h]
  | .typeProto .., _ => rfl
  | .typeProtos .., _ => rfl
  | .undefined .., _ => rfl
  | .sparse .., _ => rfl
  | .unknown .., _ => rfl

theorem desGraphs_merge (scopes : Scopes) : ∀ gs : List GraphP, wfGraphs scopes (mergeGraphs gs) = true →
    desGraphs scopes (mergeGraphs gs) = desGraphs scopes gs
  | [], _ => rfl
  | g :: gs, h => by
    simp only [mergeGraphs, wfGraphs, Bool.and_eq_true] at h
    simp only [mergeGraphs, desGraphs, desGraph_merge scopes g h.1, desGraphs_merge scopes gs h.2]

theorem desAttrs_merge (scopes : Scopes) : ∀ as : List AttrP, wfAttrs scopes (mergeAttrs as) = true →
    desAttrs scopes (mergeAttrs as) = desAttrs scopes as
  | [], _ => rfl
  | a :: as, h => by
    simp only [mergeAttrs, wfAttrs, Bool.and_eq_true] at h
    simp only [mergeAttrs, desAttrs, desAttr_merge scopes a h.1, desAttrs_merge scopes as h.2]

theorem desAttrsLast_merge (scopes : Scopes) : ∀ as : List AttrP, wfAttrs scopes (mergeAttrs as) = true →
    desAttrsLast scopes (mergeAttrs as) = desAttrsLast scopes as
  | [], _ => rfl
  | a :: as, h => by
    simp only [mergeAttrs, wfAttrs, Bool.and_eq_true] at h
    simp only [mergeAttrs, desAttrsLast, mergeAttr_name, mergeAttrs_any, desAttr_merge scopes a h.1,
      desAttrsLast_merge scopes as h.2]

theorem desNode_merge (outer : Scopes) (vis : List ValueInfoP) (q : List AnnotP) (tbl : List IRValue) :
    ∀ n : NodeP, wfNode (tableNames tbl :: outer) (mergeNode n) = true →
    desNode outer vis q tbl (mergeNode n) = desNode outer vis q tbl n
  | .mk inputs outputs name opType domain overload doc attrs metadata devcfgs, h => by
    simp only [mergeNode, wfNode, Bool.and_eq_true] at h
    obtain ⟨⟨⟨⟨⟨hin, _⟩, _⟩, hattrs⟩, _⟩, _⟩ := h
    simp only [mergeNode, desNode, mergeAttrs_names, desNodeInputs_wf outer vis q tbl inputs hin, bind,
      Except.bind, desAttrsLast_merge (tableNames tbl :: outer) attrs hattrs]

theorem desNodes_merge (outer : Scopes) (vis : List ValueInfoP) (q : List AnnotP) :
    ∀ (nodes : List NodeP) (tbl : List IRValue),
    wfNodes (tableNames tbl :: outer) (mergeNodes nodes) = true →
    desNodes outer vis q (mergeNodes nodes) tbl = desNodes outer vis q nodes tbl
  | [], _, _ => rfl
  | n :: ns, tbl, h => by
    simp only [mergeNodes, wfNodes, Bool.and_eq_true] at h
    simp only [mergeNodes, desNodes, desNode_merge outer vis q tbl n h.1]
    cases hd : desNode outer vis q tbl n with
    | error e => rfl
    | ok r =>
      obtain ⟨x, t1⟩ := r
      have hin := wfNode_inputs h.1
      rw [mergeNode_inputs] at hin
      have ht : t1 = tbl := desNode_ok_tbl outer vis q tbl t1 n x hin hd
      simp only [bind, Except.bind, ht, desNodes_merge outer vis q ns tbl h.2]

theorem desGraph_merge (outer : Scopes) : ∀ g : GraphP, wfGraph outer (mergeGraph g) = true →
    desGraph outer (mergeGraph g) = desGraph outer g
  | .mk name doc nodes inits inputs outputs vis quant md, h => by
    simp only [mergeGraph] at h ⊢
    obtain ⟨hw', _, hw0, xs, n0, n3⟩ := merged_graph_nodes outer name doc nodes inits inputs outputs vis quant md h
      (fun V tbl hw => desNodes_merge outer V quant nodes tbl hw)
    refine desGraph_congr outer name doc inits inputs quant md (nodeOutNames_mergeNodes nodes) hw0 hw'.to0 xs n3 n0
      (by rw [tblFinalAll_of_cons hw'.consOut]; exact (tblFinal_merge hw').symm) ?_
    apply gOutT_merge
    intro vo _ hne
    have ha := mergeApplies_of_ne hne
    simp only [mergeApplies, Bool.and_eq_true, List.contains_eq_mem, decide_eq_true_eq,
      Bool.not_eq_true', decide_eq_false_iff_not] at ha
    exact lookupLast_isSome (mem_scopeNames_of_declared ha.1.1)
end

end IrVerif.Serde
