import IrVerif.Model.Pack
import IrVerif.Model.TensorRepr
import IrVerif.Model.ExtLife
import IrVerif.Model.Strided
import IrVerif.Model.StrTensor
import IrVerif.Model.PyTensor
import IrVerif.Model.Names
import IrVerif.Props.C15
import IrVerif.Props.C04
import IrVerif.Model.Device
import IrVerif.Props.C19
import IrVerif.Model.LinkedSet
import IrVerif.Model.Traversal
import IrVerif.Props.C11
import IrVerif.Model.Sort
import IrVerif.Model.SortState
import IrVerif.Model.SortIds
import IrVerif.Model.SortFull
import IrVerif.Model.Heap
import IrVerif.Model.SortHeap
import IrVerif.Props.C12
import IrVerif.Model.Extract
import IrVerif.Props.C18
import IrVerif.Model.AtomicSave
import IrVerif.Model.AtomicSaveLinks
import IrVerif.Model.AtomicSaveConc
import IrVerif.Model.AtomicSaveNest
import IrVerif.Props.C08
import IrVerif.Model.Path
import IrVerif.Props.C10
import IrVerif.Model.Layout
import IrVerif.Model.LayoutSt
import IrVerif.Model.LayoutSeq
import IrVerif.Model.LayoutStSave
import IrVerif.Props.C07
import IrVerif.Model.Kernel
import IrVerif.Model.KernelView
import IrVerif.Model.KernelFix
import IrVerif.Props.C01
import IrVerif.Props.C06
import IrVerif.Model.Journal
import IrVerif.Model.JournalKernel
import IrVerif.Props.C20
import IrVerif.Model.Writer
import IrVerif.Model.WriterN
import IrVerif.Model.WriterNC
import IrVerif.Model.WriterPlan
import IrVerif.Model.WriterFlatN
import IrVerif.Props.C09
import IrVerif.Model.PassInfra
import IrVerif.Model.PassFlags2
import IrVerif.Props.C14
import IrVerif.Model.Sem
import IrVerif.Model.Passes
import IrVerif.Props.C05
import IrVerif.Model.Clone
import IrVerif.Model.Clone2
import IrVerif.Model.Clone4
import IrVerif.Model.CloneMeta
import IrVerif.Props.C13
import IrVerif.Model.Proto
import IrVerif.Model.Serde
import IrVerif.Model.SerdeWide
import IrVerif.Model.SerdeScalar
import IrVerif.Props.C02
import IrVerif.Model.Scope
import IrVerif.Model.ScopeSer
import IrVerif.Model.ScopeFunc
import IrVerif.Model.ScopeMeta
import IrVerif.Model.ScopeAttr
import IrVerif.Lemmas.ListFacts
import IrVerif.Lemmas.ScopeDict
import IrVerif.Lemmas.ScopeAttr
import IrVerif.Lemmas.ScopeAttrProps
import IrVerif.Model.ScopeFunc9
import IrVerif.Model.ScopeExt
import IrVerif.Model.ScopeExt9
import IrVerif.Model.ScopeEff
import IrVerif.Model.ScopeCert
import IrVerif.Model.ScopeSerdeBridge
import IrVerif.Model.ScopeSerdeBridgeSub
import IrVerif.Model.ScopeSerdeBridgeModel
import IrVerif.Model.ScopeSerdeBridgeModel9
import IrVerif.Props.C03
import IrVerif.Props.C17
import IrVerif.Model.SymExpr
import IrVerif.Model.SymDim
import IrVerif.Model.SymLexU
import IrVerif.Model.SymExprSympy
import IrVerif.Props.C16
import IrVerif.Model.Inline
import IrVerif.Model.PassFlags3
import IrVerif.Model.PassKernel
import IrVerif.Lemmas.PassFlagsInline
import IrVerif.Lemmas.PassKernel
import IrVerif.Lemmas.PassFlagsCseDepth
import IrVerif.Model.AddDefaults
import IrVerif.Model.PassKernel2
import IrVerif.Model.PassFlags4
import IrVerif.Lemmas.PassKernelNames
import IrVerif.Lemmas.PassFlagsAddDefaults
import IrVerif.Lemmas.PassKernelOuts
import IrVerif.Lemmas.PassKernelLsi
